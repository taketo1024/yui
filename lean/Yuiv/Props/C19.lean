import Yuiv.Proofs.C19
/-
C19 — the involutive Khovanov complex is the mapping cone of 1 + τ.

Proved: (1) over a commutative ring of characteristic 2 the cone differential D = [[d,0],[1+τ,d]]
(D(Bx) = B dx + Qx + Qτx, D(Qx) = Q dx, exactly the formula of `khi/complex.rs:from_kh_complex`) squares to zero
IF AND ONLY IF τ is a chain map; in characteristic ≠ 2 it does not even for τ = 1 (why the code asserts 1+1 = 0);
(2) the edge involution of `sinv_knot_from_code` is an involution of 1..n whose fixed labels are exactly 1 and n/2+1;
(3) arithmetic of the pair of invariants: s0 ≤ s1 ⇔ d0 ≤ d1 and s0 ≡ s1 (mod 2).
NOT proved: that τ is a chain map on the symmetric tangle complex the engine builds, and invariance — explored:
the library's complex is checked for D∘D = 0 and its homology is compared with the Lean cone reference.
-/
namespace Yuiv.C19
open Matrix

/-- (1) cone of 1+τ: D² = 0 ⇔ τ commutes with d, in characteristic 2 -/
theorem cone_d_sq {n : Nat} {R : Type} [CommRing R] [CharP R 2]
    (d τ : Matrix (Fin n) (Fin n) R) (hd : d * d = 0) :
    (fromBlocks d 0 (1 + τ) d) * (fromBlocks d 0 (1 + τ) d) = (0 : Matrix (Fin n ⊕ Fin n) (Fin n ⊕ Fin n) R)
      ↔ τ * d = d * τ := by
  rw [Matrix.fromBlocks_multiply, ← Matrix.fromBlocks_zero, Matrix.fromBlocks_inj]
  have key : (1 + τ) * d + d * (1 + τ) = τ * d + d * τ := by
    rw [add_mul, mul_add, one_mul, mul_one]
    rw [add_add_add_comm, mat_add_self, zero_add]
  rw [key]
  simp only [hd, zero_mul, mul_zero, add_zero, true_and, and_true]
  exact mat_add_eq_zero _ _

/-- (1') in characteristic 0 the same formula is not a differential, already for τ = 1 -/
theorem cone_d_sq_fails_char0 :
    let d : Matrix (Fin 2) (Fin 2) Int := !![0, 1; 0, 0]
    d * d = 0 ∧ (1 : Matrix (Fin 2) (Fin 2) Int) * d = d * 1 ∧
    (fromBlocks d 0 (1 + 1) d) * (fromBlocks d 0 (1 + 1) d) ≠ (0 : Matrix (Fin 2 ⊕ Fin 2) (Fin 2 ⊕ Fin 2) Int) := by
  intro d
  refine ⟨by decide, by decide, ?_⟩
  intro h
  have := congrFun (congrFun h (Sum.inr 0)) (Sum.inl 1)
  revert this
  decide

/-- (2) the edge involution of `sinv_knot_from_code` -/
theorem sinvEMap_involutive (n e : Nat) (he1 : 1 ≤ e) (hen : e ≤ n) :
    1 ≤ sinvEMap n e ∧ sinvEMap n e ≤ n ∧ sinvEMap n (sinvEMap n e) = e := by
  rcases Nat.eq_or_lt_of_le he1 with h | h
  · subst h
    rw [sinvEMap_one]
    exact ⟨Nat.le_refl 1, hen, sinvEMap_one n⟩
  · rw [sinvEMap_of_lt n e h hen, sinvEMap_of_lt n (n + 2 - e) (by omega) (by omega)]
    omega

theorem sinvEMap_fixed (m e : Nat) (hm : 1 ≤ m) (he1 : 1 ≤ e) (hen : e ≤ 2 * m) :
    sinvEMap (2 * m) e = e ↔ (e = 1 ∨ e = m + 1) := by
  rcases Nat.eq_or_lt_of_le he1 with h | h
  · subst h
    rw [sinvEMap_one]
    exact ⟨fun _ => Or.inl rfl, fun _ => rfl⟩
  · rw [sinvEMap_of_lt (2 * m) e h hen]
    omega

/-- (3) arithmetic of the invariant pair -/
theorem ssi_arith (d0 d1 w r : Int) :
    ((ssi d0 d1 w r).1 ≤ (ssi d0 d1 w r).2 ↔ d0 ≤ d1) ∧
    ((ssi d0 d1 w r).2 - (ssi d0 d1 w r).1) % 2 = 0 := by
  unfold ssi
  constructor <;> simp only <;> omega

end Yuiv.C19
