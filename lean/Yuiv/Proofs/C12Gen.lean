import Yuiv.Gen.TriangFn
import Yuiv.Proofs.C12Buf
/-
`Yuiv.GenTriang.*` is GENERATED from `/repo/yui-matrix/src/sparse/triang.rs` by `tools/rs2lean_fn.py fn:triang`;
`Yuiv.C12.*` (`Yuiv/Model/C12.lean`) is the hand-written model, generic over `[Scal α]`.  Both use the same CSC
representation; the generated code keeps the index panics of `b[i]`, which the model totalises (`bget` / `bset`), so
the equalities hold for matrices whose stored row indices are in range (`RowsOk`, part of the CSC invariant).
-/
namespace Yuiv.C12Gen
open Yuiv Res Yuiv.Rust Yuiv.GenTriang Yuiv.C12

variable {α : Type} [Scal α]

def RowsOk (A : SpMat α) : Prop := ∀ j, ∀ e ∈ col A j, e.1 < A.nrows

def up (t : TriangularType) : Bool := TriangularType.is_upper t

def mapR {β γ} (f : β → γ) : Res β → Res γ
  | .ok a => .ok (f a)
  | .panic => .panic
  | .err => .err

theorem mapR_ok {β γ} (f : β → γ) (a : β) : mapR f (ok a) = ok (f a) := rfl
theorem mapR_panic {β γ} (f : β → γ) : mapR f (.panic : Res β) = .panic := rfl
theorem mapR_err {β γ} (f : β → γ) : mapR f (.err : Res β) = .err := rfl
theorem assert_true : Res.assert true = ok () := rfl
theorem assert_false : Res.assert false = (.panic : Res Unit) := rfl
theorem pure_eq_ok {β} (a : β) : (pure a : Res β) = ok a := rfl
theorem bind_mapR {β γ δ} (f : β → γ) (x : Res β) (g : γ → Res δ) : (mapR f x >>= g) = (x >>= fun a => g (f a)) := by
  cases x <;> rfl

theorem colVec_rows {A : SpMat α} (h : RowsOk A) (j : Nat) : ∀ e ∈ colVec A j, e.1 < A.nrows :=
  fun e he => h j e (List.mem_filter.mp he).1

omit [Scal α] in
theorem enumFrom_eq (l : List α) : ∀ k, Csc.enumFrom k l = C12.enumFrom k l := by
  induction l with
  | nil => intro k; rfl
  | cons a l ih => intro k; simp [Csc.enumFrom, C12.enumFrom, ih]

theorem inner_step (x : α) (e : Nat × α) (b : Array α) (he : e.1 < b.size) :
    triang._solve_triangular__for2 x e b =
      ok (Ctl.next (if isZero e.2 then b else bset b e.1 (sub (bget b e.1) (mul e.2 x)))) := by
  unfold triang._solve_triangular__for2
  cases hz : isZero e.2
  · simp [Buf.get, Buf.set, he, hz]
  · simp [hz]

/-- the inner loop `for (i, a_ij) in a.col_vec(j).iter()` is `colStep` -/
theorem inner_eq (x : α) : ∀ (l : List (Nat × α)) (b : Array α), (∀ e ∈ l, e.1 < b.size) →
    Loop.forList l (triang._solve_triangular__for2 x) b = ok (colStep x b l, true) := by
  intro l
  induction l with
  | nil => intro b _; rfl
  | cons e l ih =>
    intro b h
    have he : e.1 < b.size := h e (List.mem_cons_self)
    unfold Loop.forList colStep
    rw [inner_step x e b he]
    simp only [bind_ok]
    refine ih _ (fun e' he' => ?_)
    have := h e' (List.mem_cons_of_mem _ he')
    split
    · exact this
    · rw [size_bset]; exact this

theorem outer_step (A : SpMat α) (ju : Nat × α) (b : Array α) (es : List (Nat × α))
    (h : ∀ e ∈ colVec A ju.1, e.1 < b.size) :
    triang._solve_triangular__for1 A ju (b, es) =
      if b.size ≤ ju.1 then Res.panic
      else if isZero (bget b ju.1) then ok (Ctl.next (b, es))
      else match inv ju.2 with
        | none => Res.panic
        | some ui => ok (Ctl.next (colStep (mul (bget b ju.1) ui) b (colVec A ju.1), es ++ [(ju.1, mul (bget b ju.1) ui)])) := by
  unfold triang._solve_triangular__for1
  by_cases hj : b.size ≤ ju.1
  · have : ¬ ju.1 < b.size := by omega
    simp [Buf.get, this, hj]
  · have hj' : ju.1 < b.size := by omega
    simp only [Buf.get, hj', if_true, bind_ok, hj, if_false]
    cases hz : isZero (bget b ju.1)
    · simp only [Bool.false_eq_true, if_false]
      cases hi : inv ju.2 with
      | none => rfl
      | some ui =>
        simp only [Opt.unwrap, bind_ok, SVec.iter, SM.col_vec, inner_eq _ _ _ h]
    · simp only [if_true]

/-- the outer loop `for (j, u) in itr` is `outer` -/
theorem outer_eq (A : SpMat α) : ∀ (l : List (Nat × α)) (b : Array α) (es : List (Nat × α)),
    (∀ j, ∀ e ∈ colVec A j, e.1 < b.size) →
    Loop.forList l (triang._solve_triangular__for1 A) (b, es) = mapR (fun p => (p, true)) (outer A b es l) := by
  intro l
  induction l with
  | nil => intro b es _; rfl
  | cons ju l ih =>
    intro b es h
    unfold Loop.forList outer
    rw [outer_step A ju b es (h ju.1)]
    by_cases hj : b.size ≤ ju.1
    · simp only [hj, if_true]; rfl
    · simp only [hj, if_false]
      cases hz : isZero (bget b ju.1)
      · simp only [Bool.false_eq_true, if_false]
        cases hi : inv ju.2 with
        | none => rfl
        | some ui =>
          simp only [bind_ok]
          exact ih _ _ (fun j e he => by rw [size_colStep]; exact h j e he)
      · simp only [if_true, bind_ok]
        exact ih _ _ h

theorem solveBuf_size (upper : Bool) (A : SpMat α) (diag : List α) (b b' : Array α) (es : List (Nat × α))
    (h : solveBuf upper A diag b = ok (b', es)) : b'.size = b.size := by
  unfold solveBuf at h
  cases ho : outer A b [] (if upper then (C12.enumFrom 0 diag).reverse else C12.enumFrom 0 diag) with
  | ok p =>
    obtain ⟨b1, es1⟩ := p
    have hs := (outer_shape A _ _ _ _ _ ho).1
    simp only [ho] at h
    by_cases c1 : (!(b1.all isZero)) = true
    · simp [c1] at h
    · by_cases c2 : (!((if upper then es1.reverse else es1).all fun e => decide (e.1 < A.ncols))) = true
      · simp only [c1, c2, if_true] at h
        cases h
      · simp only [c1, c2] at h
        cases h
        exact hs
  | panic => simp [ho] at h
  | err => simp [ho] at h

theorem copy_loop_eq : ∀ (l : List (Nat × α)) (x : Array α), (∀ e ∈ l, e.1 < x.size) →
    triang.copy_into_loop1 l x = ok (copyInto x l) := by
  intro l
  induction l with
  | nil => intro x _; rfl
  | cons e l ih =>
    intro x h
    have he : e.1 < x.size := h e (List.mem_cons_self)
    unfold triang.copy_into_loop1 copyInto
    simp only [Buf.set, he, if_true, bind_ok]
    exact ih _ (fun e' he' => by rw [size_bset]; exact h e' (List.mem_cons_of_mem _ he'))

theorem isTriang_square {upper : Bool} {A : SpMat α} (h : isTriang upper A = true) : A.nrows = A.ncols := by
  unfold isTriang at h
  by_cases hs : A.nrows = A.ncols
  · exact hs
  · simp [hs] at h

theorem toDense_size (n : Nat) (v : List (Nat × α)) : (toDense n v).size = n := by
  unfold toDense
  rw [size_copyInto]
  simp [zeroBuf]

theorem idMat_rows (n : Nat) : RowsOk (idMat n : SpMat α) := by
  intro j e he
  obtain ⟨hj, he⟩ := mem_col_mk' he
  rw [List.mem_singleton.1 he]
  exact hj

omit [Scal α] in
theorem transpose_rows (M : SpMat α) : RowsOk (transpose M) := by
  intro i e he
  obtain ⟨_, he⟩ := mem_col_mk' he
  obtain ⟨j, hj, hej⟩ := List.mem_flatMap.1 he
  obtain ⟨x, _, hx⟩ := List.mem_filterMap.1 hej
  by_cases hxi : (x.1 == i) = true
  · rw [if_pos hxi, Option.some.injEq] at hx
    rw [← hx]
    exact List.mem_range.1 hj
  · rw [if_neg hxi] at hx
    cases hx

theorem solveCols_length (upper : Bool) (A : SpMat α) (diag : List α) (Y : SpMat α) :
    ∀ (js : List Nat) (b b' : Array α) (cs : List (List (Nat × α))),
      solveCols upper A diag Y b js = ok (b', cs) → cs.length = js.length := by
  intro js
  induction js with
  | nil => intro b b' cs h; unfold solveCols at h; cases h; rfl
  | cons j js ih =>
    intro b b' cs h
    unfold solveCols at h
    cases hs : solveBuf upper A diag (copyInto b (colVec Y j)) with
    | ok p =>
      obtain ⟨b2, es⟩ := p
      simp only [hs] at h
      cases hc : solveCols upper A diag Y b2 js with
      | ok q =>
        obtain ⟨b3, rest⟩ := q
        simp only [hc] at h
        cases h
        simp [ih _ _ _ hc]
      | panic => simp [hc] at h
      | err => simp [hc] at h
    | panic => simp [hs] at h
    | err => simp [hs] at h

end Yuiv.C12Gen
