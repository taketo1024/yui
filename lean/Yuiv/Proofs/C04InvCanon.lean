import Yuiv.Props.C04
import Mathlib.Algebra.Polynomial.Laurent
/-
C04Inv (helper, no property theorem here): the lists produced by the `LP` arithmetic (in particular `jones l signs` and
`chiChain l signs`, for ALL inputs) are canonical — exponents strictly increasing, no zero coefficient — and a canonical list is
determined by its value at `q = T ∈ ℤ[T;T⁻¹]` (Mathlib's Laurent polynomials): equal evaluation there ⇒ LITERALLY equal lists.
-/
open Yuiv.KhRef Yuiv.C04
namespace Yuiv.C04Inv
open LaurentPolynomial

/-- canonical coefficient list: exponents strictly increasing, no zero coefficient -/
def Canon : LP → Prop
  | [] => True
  | t :: a => t.2 ≠ 0 ∧ (∀ u ∈ a, t.1 < u.1) ∧ Canon a

theorem addTerm_fst (e c : Int) (a : LP) : ∀ t ∈ LP.addTerm e c a, t.1 = e ∨ ∃ u ∈ a, u.1 = t.1 := by
  induction a with
  | nil =>
    intro t ht
    unfold LP.addTerm at ht
    split at ht
    · simp at ht
    · simp at ht; subst ht; exact Or.inl rfl
  | cons t0 a ih =>
    obtain ⟨e', c'⟩ := t0
    intro t ht
    unfold LP.addTerm at ht
    split at ht
    · split at ht
      · exact Or.inr ⟨t, ht, rfl⟩
      · rcases List.mem_cons.mp ht with rfl | ht
        · exact Or.inl rfl
        · exact Or.inr ⟨t, ht, rfl⟩
    · split at ht
      · split at ht
        · exact Or.inr ⟨t, List.mem_cons_of_mem _ ht, rfl⟩
        · rcases List.mem_cons.mp ht with rfl | ht
          · exact Or.inl rfl
          · exact Or.inr ⟨t, List.mem_cons_of_mem _ ht, rfl⟩
      · rcases List.mem_cons.mp ht with rfl | ht
        · exact Or.inr ⟨_, List.mem_cons_self, rfl⟩
        · rcases ih t ht with h | ⟨u, hu, h⟩
          · exact Or.inl h
          · exact Or.inr ⟨u, List.mem_cons_of_mem _ hu, h⟩

theorem canon_addTerm (e c : Int) (a : LP) (h : Canon a) : Canon (LP.addTerm e c a) := by
  induction a with
  | nil =>
    unfold LP.addTerm
    split
    · trivial
    · rename_i hc; exact ⟨by simpa using hc, by simp, trivial⟩
  | cons t0 a ih =>
    obtain ⟨e', c'⟩ := t0
    obtain ⟨h1, h2, h3⟩ := h
    unfold LP.addTerm
    split
    · rename_i hlt
      split
      · exact ⟨h1, h2, h3⟩
      · rename_i hc
        refine ⟨by simpa using hc, ?_, h1, h2, h3⟩
        intro u hu
        rcases List.mem_cons.mp hu with rfl | hu
        · exact hlt
        · exact Int.lt_trans hlt (h2 u hu)
    · rename_i hnlt
      split
      · rename_i heq
        have heq' : e = e' := by simpa using heq
        split
        · exact h3
        · rename_i hc
          exact ⟨by simpa using hc, fun u hu => by simpa [heq'] using h2 u hu, h3⟩
      · rename_i hne
        have hne' : e ≠ e' := by simpa using hne
        refine ⟨h1, ?_, ih h3⟩
        intro u hu
        rcases addTerm_fst e c a u hu with h | ⟨v, hv, h⟩
        · rw [h]; simp only at hnlt ⊢; omega
        · rw [← h]; exact h2 v hv

theorem canon_add (a b : LP) (h : Canon a) : Canon (LP.add a b) := by
  unfold LP.add
  induction b generalizing a with
  | nil => exact h
  | cons t b ih => exact ih _ (canon_addTerm _ _ _ h)

theorem canon_mul (a b : LP) : Canon (LP.mul a b) := by
  unfold LP.mul
  suffices ∀ acc, Canon acc → Canon (a.foldl (fun acc t => LP.add acc (LP.scaleShift t.2 t.1 b)) acc) from
    this [] trivial
  induction a with
  | nil => intro acc h; exact h
  | cons t a ih => intro acc h; exact ih _ (canon_add _ _ h)

theorem canon_jones (l : Link) (signs : Array Int) : Canon (jones l signs) := by
  unfold jones; exact canon_mul _ _

theorem canon_foldl {β} (G : LP → β → LP) (hG : ∀ acc s, Canon acc → Canon (G acc s)) (xs : List β) (acc : LP)
    (h : Canon acc) : Canon (xs.foldl G acc) := by
  induction xs generalizing acc with
  | nil => exact h
  | cons x xs ih => exact ih _ (hG _ _ h)

theorem canon_chiChain (l : Link) (signs : Array Int) : Canon (chiChain l signs) := by
  unfold chiChain
  dsimp only
  refine canon_foldl _ ?_ _ [] trivial
  intro acc s h
  rw [← Array.foldl_toList]
  exact canon_foldl _ (fun acc g h => canon_addTerm _ _ _ h) _ _ h

def coeffAt : LP → Int → Int
  | [], _ => 0
  | t :: a, k => (if t.1 = k then t.2 else 0) + coeffAt a k

theorem coeffAt_lb (a : LP) (e k : Int) (h : ∀ u ∈ a, e < u.1) (hk : k ≤ e) : coeffAt a k = 0 := by
  induction a with
  | nil => rfl
  | cons t a ih =>
    unfold coeffAt
    have := h t List.mem_cons_self
    rw [if_neg (by omega), ih (fun u hu => h u (List.mem_cons_of_mem _ hu))]; rfl

theorem canon_ext (a b : LP) (ha : Canon a) (hb : Canon b) (h : ∀ k, coeffAt a k = coeffAt b k) : a = b := by
  induction a generalizing b with
  | nil =>
    cases b with
    | nil => rfl
    | cons t b =>
      exfalso
      have := h t.1
      simp only [coeffAt, if_true] at this
      rw [coeffAt_lb b t.1 t.1 hb.2.1 (Int.le_refl _)] at this
      exact hb.1 (by omega)
  | cons t a ih =>
    cases b with
    | nil =>
      exfalso
      have := h t.1
      simp only [coeffAt, if_true] at this
      rw [coeffAt_lb a t.1 t.1 ha.2.1 (Int.le_refl _)] at this
      exact ha.1 (by omega)
    | cons u b =>
      have h1 := h t.1
      have h2 := h u.1
      simp only [coeffAt, if_true] at h1 h2
      rcases Int.lt_trichotomy t.1 u.1 with hlt | heq | hgt
      · exfalso
        rw [coeffAt_lb a t.1 t.1 ha.2.1 (Int.le_refl _), if_neg (by omega),
          coeffAt_lb b u.1 t.1 hb.2.1 (by omega)] at h1
        exact ha.1 (by omega)
      · rw [coeffAt_lb a t.1 t.1 ha.2.1 (Int.le_refl _), if_pos heq.symm,
          coeffAt_lb b u.1 t.1 hb.2.1 (by omega)] at h1
        have htu : t = u := Prod.ext heq (by omega)
        subst htu
        rw [ih b ha.2.2 hb.2.2 (fun k => by have := h k; simp only [coeffAt] at this; omega)]
      · exfalso
        rw [coeffAt_lb b u.1 u.1 hb.2.1 (Int.le_refl _), if_neg (by omega),
          coeffAt_lb a t.1 u.1 ha.2.1 (by omega)] at h2
        exact hb.1 (by omega)

theorem T_unit : (T 1 : ℤ[T;T⁻¹]) * T (-1) = 1 := by rw [← T_add]; simp

theorem zpow_T (k : Int) : zpow (T 1 : ℤ[T;T⁻¹]) (T (-1)) k = T k := by
  cases k with
  | ofNat n => show npow _ n = _; rw [npow_eq, T_pow]; simp
  | negSucc n => show npow _ (n + 1) = _; rw [npow_eq, T_pow]; congr 1; rw [Int.negSucc_eq]; push_cast; ring

theorem ev_coeff (a : LP) (k : Int) : (ev (T 1 : ℤ[T;T⁻¹]) (T (-1)) a).coeff k = coeffAt a k := by
  induction a with
  | nil => simp [ev_nil, coeffAt]
  | cons t a ih =>
    rw [ev_cons, AddMonoidAlgebra.coeff_add, Finsupp.add_apply, ih, zpow_T]
    have : ((t.2 : ℤ) : ℤ[T;T⁻¹]) = C t.2 := by simp
    rw [this, ← single_eq_C_mul_T, AddMonoidAlgebra.coeff_single, Finsupp.single_apply]
    rfl

theorem canon_eq_of_eval (a b : LP) (ha : Canon a) (hb : Canon b)
    (h : ev (T 1 : ℤ[T;T⁻¹]) (T (-1)) a = ev (T 1 : ℤ[T;T⁻¹]) (T (-1)) b) : a = b :=
  canon_ext a b ha hb (fun k => by rw [← ev_coeff, ← ev_coeff, h])

theorem jones_eq_of_evalJones {l l' : Link} {signs signs' : Array Int}
    (h : evalJones (T 1 : ℤ[T;T⁻¹]) (T (-1)) (crossingNum l') (signs'.filter (· > 0)).size (signs'.filter (· < 0)).size
        (circleCount l') =
      evalJones (T 1 : ℤ[T;T⁻¹]) (T (-1)) (crossingNum l) (signs.filter (· > 0)).size (signs.filter (· < 0)).size
        (circleCount l)) :
    jones l' signs' = jones l signs := by
  refine canon_eq_of_eval _ _ (canon_jones _ _) (canon_jones _ _) ?_
  show LP.eval _ _ _ _ = LP.eval _ _ _ _
  rw [eval_jones _ _ T_unit, eval_jones _ _ T_unit, h]

end Yuiv.C04Inv
