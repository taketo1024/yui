import Yuiv.Proofs.KhSpecLoops
import Yuiv.Proofs.KhSpecGens
import Yuiv.Proofs.KhSpecRows
import Yuiv.Props.C01Sq
/-
KhSpec — the setting `Ctx` and the families `Fam` on which the end-to-end statements rest (property theorems in
`Props/KhSpec.lean`).  `Fam c p G`: lists of generators by weight, duplicate-free, closed under the targets of `d` (all
generators: `fam_all`; the `q`-slices: `KhSpecBigraded`; the reduced generators: `KhSpecRed`).  Under `Ctx`, `d` is defined
on every generator with targets of the next weight and `d ∘ d = 0` (`Props/C01Sq`), so `khHomology` never returns
`malformed` / `notComplex`; the matrix that `homologyOf` builds between the weights `i`, `i+1` is `dMat`.
-/
namespace Yuiv.KhSpec
open Yuiv.KhRef Yuiv.KhSnf Yuiv.C03Uct
open Yuiv.C02Mirror (cubeOK Pair dCoef coefT)

/-- the standing hypotheses on a cube: unreduced, every edge a merge or a split, circle lists duplicate-free of size ≤ 64,
faces commute -/
structure Ctx (c : Cube) (p : Params) : Prop where
  hb : c.base = none
  hok : cubeOK c
  hP : ∀ s s', s < 2 ^ c.n → s' < 2 ^ c.n → Pair c.circ[s]! c.circ[s']!
  hF : Yuiv.C01Sq.FaceComm c p

theorem ctx_mkCube (l : Link) (hv : C06Cycle.validK l = true) (hL : (edgeLabels l).size ≤ 64) (p : Params)
    (hr : p.reduced = false) (hok : cubeOK (mkCube l p)) : Ctx (mkCube l p) p :=
  ⟨KhRef.mkCube_base_of_unreduced l p hr, hok, fun s s' hs hs' => C02Mirror.cube_pair l p hL s s' hs hs',
    Yuiv.C01Sq.faceComm_mkCube l hv hL p hok⟩

section ctx
variable {c : Cube} {p : Params}

theorem gen_props (H : Ctx c p) {w : Nat} {g : Gen} (hg : g ∈ ((gensByWeight c)[w]!).toList) :
    w ≤ c.n ∧ g.s < 2 ^ c.n ∧ popcount g.s c.n = w ∧ g.mask < 2 ^ (c.circ[g.s]!).size := by
  obtain ⟨h1, h2, h3, h4⟩ := (mem_gensByWeight c w g).1 hg
  exact ⟨h1, h2, h3, ((mem_gensAt_unreduced c H.hb g.s g).1 h4).2⟩

theorem d_defined (H : Ctx c p) {g : Gen} (hs : g.s < 2 ^ c.n) : ∃ ts, c.d p g = some ts :=
  (C02Mirror.d_coef c p g H.hb hs H.hok).1

/-- `d ∘ d = 0` in coefficients (`Props/C01Sq`) -/
theorem d_dd (H : Ctx c p) {g : Gen} (hs : g.s < 2 ^ c.n) :
    ∃ ts, c.d p g = some ts ∧
      ∀ z, C06Cycle.chainSum (fun g' => ((c.d p g').getD #[]).toList) ts.toList z = 0 := by
  obtain ⟨ts, hd, h2⟩ := Yuiv.C01Sq.d_squared_zero_of_faces c p H.hb H.hok H.hF g hs
  exact ⟨ts, hd, ((C06Cycle.dOfChain_nil_iff c p ts.toList).1 h2).2⟩

theorem d_isSome (H : Ctx c p) {w : Nat} {g : Gen} (hg : g ∈ ((gensByWeight c)[w]!).toList) :
    (c.d p g).isSome = true := by
  obtain ⟨ts, hd⟩ := d_defined H (gen_props H hg).2.1
  rw [hd]
  rfl

theorem inGens_of_mem {w : Nat} {g : Gen} (hg : g ∈ ((gensByWeight c)[w]!).toList) :
    inGens (gensByWeight c) g = true := by
  obtain ⟨_, h2, _, h4⟩ := (mem_gensByWeight c w g).1 hg
  exact (inGens_iff c g).2 ⟨h2, h4⟩

theorem dTab_of_mem {w : Nat} {g : Gen} (hg : g ∈ ((gensByWeight c)[w]!).toList) :
    dTab c p (gensByWeight c) g = (c.d p g).getD #[] := by
  unfold dTab
  rw [inGens_of_mem hg]; rfl

theorem dTab_targets (H : Ctx c p) {w : Nat} {g : Gen} (hg : g ∈ ((gensByWeight c)[w]!).toList) :
    ∀ t ∈ (dTab c p (gensByWeight c) g).toList, t.1 ∈ ((gensByWeight c)[w + 1]!).toList := by
  obtain ⟨ts, hd⟩ := d_defined H (gen_props H hg).2.1
  rw [dTab_of_mem hg, hd]
  exact d_targets_mem c p H.hb H.hP w g hg ts hd

theorem dTab_dd (H : Ctx c p) {w : Nat} {g : Gen} (hg : g ∈ ((gensByWeight c)[w]!).toList) (z : Gen) :
    C06Cycle.chainSum (fun y => (dTab c p (gensByWeight c) y).toList) (dTab c p (gensByWeight c) g).toList z = 0 := by
  obtain ⟨ts, hd, h3⟩ := d_dd H (gen_props H hg).2.1
  have e : dTab c p (gensByWeight c) g = ts := by rw [dTab_of_mem hg, hd]; rfl
  rw [e, ← h3 z]
  apply C06Cycle.chainSum_congr
  intro ga hga
  have htm := d_targets_mem c p H.hb H.hP w g hg ts hd ga hga
  rw [dTab_of_mem htm]

theorem gens_cases {gs : Array Gen} (h : gs ∈ (gensByWeight c).toList) : ∃ w : Nat, gs = (gensByWeight c)[w]! := by
  obtain ⟨w, _, e⟩ := mem_get h
  exact ⟨w, e.symm⟩

theorem forall_gens {P : Gen → Prop} (h : ∀ (w : Nat) (g : Gen), g ∈ ((gensByWeight c)[w]!).toList → P g) :
    ∀ gs ∈ (gensByWeight c).toList, ∀ g ∈ gs.toList, P g := by
  intro gs hgs g hg
  obtain ⟨w, rfl⟩ := gens_cases hgs
  exact h w g hg

theorem khHomology_ok {l : Link} {p : Params} (H : Ctx (mkCube l p) p) (signs : Array Int) (k : Coeff) :
    khHomology l signs p k false =
      .ok ⟨(cellsUn (h0Of signs) none
        (homologyOf k (gensByWeight (mkCube l p)) (dTab (mkCube l p) p (gensByWeight (mkCube l p))))).toArray⟩ := by
  apply khHomology_unbigraded
  · exact forall_gens fun w g hg => d_isSome H hg
  · exact forall_gens fun w g hg z => dTab_dd H hg z

/-- a family of generator lists by weight: sub-lists of the generators, duplicate-free, closed under the targets of `d` -/
structure Fam (c : Cube) (p : Params) (G : Array (Array Gen)) : Prop where
  size : G.size = c.n + 1
  nd : ∀ i : Nat, ((G[i]!).toList).Nodup
  sub : ∀ (i : Nat) (g : Gen), g ∈ (G[i]!).toList → g ∈ ((gensByWeight c)[i]!).toList
  tgt : ∀ (i : Nat) (g : Gen), g ∈ (G[i]!).toList → ∀ t ∈ (dTab c p (gensByWeight c) g).toList, t.1 ∈ (G[i + 1]!).toList

theorem fam_all (H : Ctx c p) : Fam c p (gensByWeight c) :=
  ⟨gensByWeight_size c, gensByWeight_nodup c, fun _ _ h => h, fun _ _ hg t ht => dTab_targets H hg t ht⟩

variable {G : Array (Array Gen)}

theorem matOf_rowsAt_entry (H : Ctx c p) (F : Fam c p G) (i : Nat) (a b : Nat) (ha : a < (G[i]!).size)
    (hb : b < (G[i + 1]!).size) :
    rval (rowsAt G (dTab c p (gensByWeight c)) i)[a]! b = dCoef c p (G[i]!)[a]! (G[i + 1]!)[b]! := by
  rw [rowsAt_entry G (dTab c p (gensByWeight c)) i (F.nd (i + 1))
    (fun g hg t ht => F.tgt i g hg t ht) a b ha hb]
  have hmem : (G[i]!)[a]! ∈ (G[i]!).toList := get_mem ha
  have hmem' := F.sub i _ hmem
  obtain ⟨ts, hd⟩ := d_defined H (gen_props H hmem').2.1
  rw [dTab_of_mem hmem']
  unfold dCoef
  rw [hd]; rfl

theorem equivDiag_cast {m m' n : Nat} (h : m' = m) (A : Matrix (Fin m) (Fin n) ℤ) (d : List ℤ)
    (hA : EquivDiag A d) : EquivDiag (A.submatrix (Fin.cast h) id) d := by
  subst h
  exact hA

theorem equivDiag_dMat (H : Ctx c p) (F : Fam c p G) (i : Nat) (d : List ℤ)
    (h : EquivDiag (matOf (G[i + 1]!).size (rowsAt G (dTab c p (gensByWeight c)) i)) d) :
    EquivDiag (dMat c p G i) d := by
  have hsz := rowsAt_size G (dTab c p (gensByWeight c)) i
  have := equivDiag_cast hsz.symm _ d h
  have e : dMat c p G i =
      (matOf (G[i + 1]!).size (rowsAt G (dTab c p (gensByWeight c)) i)).submatrix (Fin.cast hsz.symm) id := by
    ext a b
    show dCoef c p _ _ = rval (rowsAt G (dTab c p (gensByWeight c)) i)[(Fin.cast hsz.symm a).val]! b.val
    rw [Fin.val_cast]
    exact (matOf_rowsAt_entry H F i a.val b.val a.isLt b.isLt).symm
  rw [e]; exact this

theorem dMat_mul (H : Ctx c p) (F : Fam c p G) (i : Nat) : dMat c p G i * dMat c p G (i + 1) = 0 := by
  ext a z
  rw [Matrix.mul_apply, Matrix.zero_apply]
  have hmem : (G[i]!)[a.val]! ∈ (G[i]!).toList := get_mem a.isLt
  have hmem' := F.sub i _ hmem
  have hs := (gen_props H hmem').2.1
  obtain ⟨ts, hd, h3⟩ := d_dd H hs
  have h3 := h3 ((G[i + 1 + 1]!)[z.val]!)
  have htm : ∀ t ∈ ts.toList, t.1 ∈ (G[i + 1]!).toList := by
    intro t ht
    apply F.tgt i _ hmem t
    rw [dTab_of_mem hmem', hd]; exact ht
  have hsum := sum_by_target ts (G[i + 1]!) (F.nd (i + 1)) htm (fun y => dCoef c p y ((G[i + 1 + 1]!)[z.val]!))
  have e1 : C06Cycle.chainSum (fun g => ((c.d p g).getD #[]).toList) ts.toList ((G[i + 1 + 1]!)[z.val]!) =
      (ts.toList.map (fun t => t.2 * dCoef c p t.1 ((G[i + 1 + 1]!)[z.val]!))).sum := by
    unfold C06Cycle.chainSum
    congr 1
    apply List.map_congr_left
    intro t _
    rw [← Yuiv.C01Sq.termSum_dList]
    rfl
  rw [e1, hsum, sum_map_range, Finset.sum_range] at h3
  rw [← h3]
  apply Finset.sum_congr rfl
  intro b _
  show dCoef c p _ _ * dCoef c p _ _ = coefT ts _ * dCoef c p _ _
  congr 1
  unfold dCoef
  rw [hd]

end ctx

theorem rowsOK_of_rowsOkB {gens : Array (Array Gen)} {d : Gen → Array Term} (h : rowsOkB gens d = true) :
    RowsOK gens d := by
  intro j hj r hr
  unfold rowsOkB at h
  rw [List.all_eq_true] at h
  have := h j (List.mem_range.2 (by omega))
  simp only [hj, decide_true, Bool.not_true, Bool.false_or, Array.all_eq_true_iff_forall_mem] at this
  have := this r (by simpa using hr)
  simpa using this

end Yuiv.KhSpec
