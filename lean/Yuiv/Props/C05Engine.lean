import Yuiv.Proofs.C05EngineScript
/-
C05 (the whole v2 engine) — property theorems about the executable model `Yuiv/Model/C05Engine.lean` of
`yui-khovanov/src/kh/internal/v2/tng_complex.rs` (the model the driver `yuivd_c05` runs for the `eg …` requests,
tied to the Rust code step by step by the engine stream of `harness/src/bin/c05.rs`).

All statements are about the GRAPH layer `Cx E` for an ARBITRARY record `ops : EdgeOps E` of edge operations — in
particular for the instance `lcOps h t` (linear combinations of cobordisms over any coefficient type, parameters
`(h, t)`) that the driver uses: nothing about `ops` is assumed unless stated.

 (a) `eliminate`  : edge `l0 → l1` ↦ `d − c·a⁻¹·b` exactly for the pairs with `b : l0 → k1`, `c : k0 → l1`; nothing
                    else is touched; exactly the two pivots disappear; in ring notation the step IS `elimEntry` of
                    `Model/C05Deloop`, whose algebra (`Props/C05Deloop.eliminate_step`) therefore applies.
 (b) `deloop`     : factors as rename → (duplicate) → `deloop_with` with the dots of `C05Deloop.copyX / copyI`;
                    `deloop_with` glues exactly the dotted cap on incoming and the dotted cup on outgoing edges
                    and touches nothing else; the new keys shift the quantum degree by `∓1`.
 (c) `WF`         : keys unique, at most one edge per pair, every edge joins existing vertices of consecutive
                    homological degree, no zero label stored — holds for `init` and is preserved by EVERY script of
                    `append / deloop / eliminate / connect` steps.  PARTIAL w.r.t. the intended invariant: the clause
                    "source / target tangle of every cobordism term = tangle of the end vertices" is NOT proved
                    (it needs `Tng::connect` = symmetric difference of end points and functoriality of the
                    structural cobordism operations); it is evaluated per instance on both sides (`wf=` in every
                    reply: `Cx.wfCheck` in the driver, `validate()` in the harness).
 (d) `d ∘ d = 0`  : NOT proved for the model's vertex lists.  What is proved: `eliminate_is_elimEntry` identifies the
                    model's step with `Deloop.elimEntry`, for which `Props/C05Deloop.eliminate_step` (1×1 blocks) and
                    `eliminate_step_blocks` (arbitrary finite blocks of neighbours, matrix form) show that the reduced
                    neighbours still compose to zero.  Missing: the transport of the block statement to sums over
                    the model's vertex list, and that `lcOps` is a lawful (associative, bilinear) edge algebra.
                    `d ∘ d = 0` of every final complex is evaluated per script (`check_complex` on the library side,
                    homology of the model's matrices = library = cube of resolutions in the driver).
-/
namespace Yuiv.C05.Engine
open Yuiv Yuiv.C05 Yuiv.C05.Tng

/-- `eliminate(k0, k1)` needs the edge `a : k0 → k1` and its inverse; then, between surviving vertices, the entry
`l0 → l1` is rewritten to `d − c·a⁻¹·b` (`−c·a⁻¹·b` when there was no edge; dropped when the result is zero)
exactly when both `b : l0 → k1` and `c : k0 → l1` exist and is left alone otherwise; no edge at a pivot survives. -/
theorem eliminate_rewrites_edges {E : Type} (ops : EdgeOps E) (cx cx' : Cx E) (k0 k1 : TKey) (hwf : WF ops cx)
    (h : cx.eliminate ops k0 k1 = .ok cx') :
    ∃ a ainv, cx.edge? k0 k1 = some a ∧ ops.inv a = .ok ainv ∧
      ∀ l0 l1 : TKey,
        ((isPivot k0 k1 l0 = true ∨ isPivot k0 k1 l1 = true) → cx'.edge? l0 l1 = none) ∧
        (isPivot k0 k1 l0 = false → isPivot k0 k1 l1 = false →
          (∀ b c, cx.edge? l0 k1 = some b → cx.edge? k0 l1 = some c →
            ∃ cab, ops.cab c ainv b = .ok cab ∧
              cx'.edge? l0 l1 =
                (let s := match cx.edge? l0 l1 with
                  | some d => ops.sub d cab
                  | none => ops.neg cab
                 if ops.isZero s then none else some s)) ∧
          ((cx.edge? l0 k1 = none ∨ cx.edge? k0 l1 = none) → cx'.edge? l0 l1 = cx.edge? l0 l1)) := by
  have hn := hwf.edges
  obtain ⟨a, ainv, vals, ha, hi, hm, rfl⟩ := eliminate_ok ops cx cx' k0 k1 h
  refine ⟨a, ainv, ha, hi, ?_⟩
  have hkeys := eliminate_vals_keys ops cx k0 k1 ainv vals hm
  have hvn : (vals.map (·.1)).Nodup := hkeys ▸ nodup_elimPairs cx hn k0 k1
  intro l0 l1
  refine ⟨?_, ?_⟩
  · intro hp
    rw [removePivots_edge?]
    rcases hp with hp | hp <;> simp [hp]
  · intro h0 h1
    have hl0 : l0 ≠ k0 := by intro e; simp [isPivot, e] at h0
    have hl1 : l1 ≠ k1 := by intro e; simp [isPivot, e] at h1
    rw [removePivots_edge?, lookup_foldl_setEdge ops vals hvn]
    simp only [h0, h1, Bool.not_false, Bool.and_self, if_true]
    refine ⟨?_, ?_⟩
    · intro b c hb hc
      have hmem : (l0, l1) ∈ elimPairs cx k0 k1 := by
        rw [mem_elimPairs]
        refine ⟨?_, hl0, ?_, hl1⟩
        · rw [← edge?_isSome_iff, hb]; rfl
        · rw [← edge?_isSome_iff, hc]; rfl
      obtain ⟨v, hv, hfv⟩ := mapMRes_ok_of_mem _ _ _ hm _ hmem
      have hv1 : v.1 = (l0, l1) := elimValue_key ops cx k0 k1 ainv _ v hfv
      have hlook : vals.lookup (l0, l1) = some v.2 := by
        apply lookup_of_mem_nodup vals hvn
        rw [← hv1]; exact hv
      unfold elimValue at hfv
      simp only [hb, hc] at hfv
      rcases hcab : ops.cab c ainv b with cab | _ | _
      · simp only [hcab] at hfv
        refine ⟨cab, rfl, ?_⟩
        rw [hlook]
        rcases hd : cx.edge? l0 l1 with _ | d
        · simp only [hd] at hfv; cases hfv; rfl
        · simp only [hd] at hfv; cases hfv; rfl
      · simp [hcab] at hfv
      · simp [hcab] at hfv
    · intro hnone
      have hnot : (l0, l1) ∉ vals.map (·.1) := by
        rw [hkeys, mem_elimPairs]
        rintro ⟨hb, _, hc, _⟩
        rw [← edge?_isSome_iff] at hb hc
        rcases hnone with hnone | hnone
        · simp [hnone] at hb
        · simp [hnone] at hc
      rw [lookup_none_of_not_mem vals _ hnot]
      rfl

/-- exactly the two pivot vertices are removed; tangles of the others, degree shift, base point and dimension stay -/
theorem eliminate_removes_exactly_pivots {E : Type} (ops : EdgeOps E) (cx cx' : Cx E) (k0 k1 : TKey)
    (h : cx.eliminate ops k0 k1 = .ok cx') :
    cx'.verts = cx.verts.filter (fun v => !(v.1 = k0 || v.1 = k1)) ∧
    cx'.dh = cx.dh ∧ cx'.dq = cx.dq ∧ cx'.base = cx.base ∧ cx'.dim = cx.dim := by
  have := eliminate_verts ops cx cx' k0 k1 h
  simpa [isPivot] using this

/-- the Rust panics of `eliminate`: no edge `k0 → k1` (indexing the hash map), or `a.inv()` is `None` -/
theorem eliminate_panics {E : Type} (ops : EdgeOps E) (cx : Cx E) (k0 k1 : TKey) :
    (cx.edge? k0 k1 = none → cx.eliminate ops k0 k1 = .panic) ∧
    (∀ a, cx.edge? k0 k1 = some a → ops.inv a = .panic → cx.eliminate ops k0 k1 = .panic) := by
  refine ⟨fun h => ?_, fun a h hi => ?_⟩
  · simp [Cx.eliminate, Cx.edgeR, h]
  · simp [Cx.eliminate, Cx.edgeR, h, hi]

/-- **connection with `Model/C05Deloop`**: when the edge operations are written in ring notation
(`cab c a⁻¹ b = c * a⁻¹ * b`, `sub = −`, `neg = −`), the model's step computes, for every pair of surviving vertices,
exactly `Deloop.elimEntry` — the function about which `Props/C05Deloop.eliminate_step` proves that the reduced
neighbours still square to zero. -/
theorem eliminate_is_elimEntry {E : Type} [Mul E] [Sub E] [Neg E] (ops : EdgeOps E) (cx cx' : Cx E) (k0 k1 : TKey)
    (hwf : WF ops cx)
    (hcab : ∀ c ainv b, ops.cab c ainv b = .ok (c * ainv * b))
    (hsub : ∀ d x, ops.sub d x = d - x) (hneg : ∀ x, ops.neg x = -x)
    (h : cx.eliminate ops k0 k1 = .ok cx') :
    ∃ a ainv, cx.edge? k0 k1 = some a ∧ ops.inv a = .ok ainv ∧
      ∀ l0 l1 : TKey, isPivot k0 k1 l0 = false → isPivot k0 k1 l1 = false →
        cx'.edge? l0 l1 = Deloop.elimEntry ops.isZero ainv (cx.edge? l0 k1) (cx.edge? k0 l1) (cx.edge? l0 l1) := by
  obtain ⟨a, ainv, ha, hi, hall⟩ := eliminate_rewrites_edges ops cx cx' k0 k1 hwf h
  refine ⟨a, ainv, ha, hi, ?_⟩
  intro l0 l1 h0 h1
  obtain ⟨hsome, hnone⟩ := (hall l0 l1).2 h0 h1
  rcases hb : cx.edge? l0 k1 with _ | b
  · rw [hnone (.inl hb)]; rfl
  · rcases hc : cx.edge? k0 l1 with _ | c
    · rw [hnone (.inr hc)]; rfl
    · obtain ⟨cab, hcab', he⟩ := hsome b c hb hc
      rw [hcab c ainv b] at hcab'
      cases hcab'
      rw [he]
      unfold Deloop.elimEntry
      rcases hd : cx.edge? l0 l1 with _ | d <;> simp [hsub, hneg]

/-- `deloop(k, r)` = `rename_vertex_key(k, k·X)`, then (for a circle without the base point) `duplicate_vertex(k·X, k·1)`,
then one `deloop_with` per copy with exactly the dots of `C05Deloop.copyX` (birth `X`, death none) and
`C05Deloop.copyI` (birth none, death `Y`); the returned keys are `k·label` for `C05Deloop.deloopCopies based`.
The Rust panics (missing vertex, index out of range, not a circle) are the only other outcomes of the first tests. -/
theorem deloop_factors {E : Type} (ops : EdgeOps E) (cx cx' : Cx E) (k : TKey) (r : Nat) (upd : List TKey)
    (h : cx.deloop ops k r = .ok (upd, cx')) :
    ∃ t c, cx.tng? k = some t ∧ t[r]? = some c ∧ c.closed = true ∧
      upd = (Deloop.deloopCopies (cx.containsBase c)).map (fun cp => k.push cp.label) ∧
      ∃ c1, cx.renameKey k (k.push .X) = .ok c1 ∧
        (cx.containsBase c = true →
          c1.deloopWith ops (k.push .X) r (dotOf Deloop.copyX.birthDot) (dotOf Deloop.copyX.deathDot) = .ok cx') ∧
        (cx.containsBase c = false → ∃ c2 c3,
          c1.duplicateKey (k.push .X) (k.push .I) = .ok c2 ∧
          c2.deloopWith ops (k.push .X) r (dotOf Deloop.copyX.birthDot) (dotOf Deloop.copyX.deathDot) = .ok c3 ∧
          c3.deloopWith ops (k.push .I) r (dotOf Deloop.copyI.birthDot) (dotOf Deloop.copyI.deathDot) = .ok cx') :=
  deloop_ok ops cx cx' k r upd h

/-- the vertices after `deloop(k, r)`: the old keys in their order with `k` renamed to `k·X`, followed by the extra
copy `k·1` for a circle without the base point (`upd.drop 1`); nothing else appears or disappears -/
theorem deloop_keys {E : Type} (ops : EdgeOps E) (cx cx' : Cx E) (k : TKey) (r : Nat) (upd : List TKey)
    (h : cx.deloop ops k r = .ok (upd, cx')) :
    cx'.verts.map (·.1) = (cx.verts.map (·.1)).map (renameFn k (k.push .X)) ++ upd.drop 1 := by
  obtain ⟨t, c, ht, hc, _, hupd, _⟩ := deloop_ok ops cx cx' k r upd h
  rw [(deloop_verts ops cx cx' k r upd t c ht hc h).keys, hupd]
  by_cases hbase : cx.containsBase c = true <;> simp [Deloop.deloopCopies, hbase, Deloop.copyI]

/-- what one `deloop_with(k, r, birth, death)` does: the circle `r` leaves the tangle of `k` (all other vertices
untouched); every edge INTO `k` is composed with the cap carrying `death`, every edge OUT OF `k` with the cup
carrying `birth` (`cap_off(…).part_eval(h, t)`; a zero result is dropped); every other edge is unchanged and no
edge is created. -/
theorem deloop_with_edges {E : Type} (ops : EdgeOps E) (cx cx' : Cx E) (k : TKey) (r : Nat) (birth death : Dot)
    (hwf : WF ops cx) (h : cx.deloopWith ops k r birth death = .ok cx') :
    ∃ t circ t', cx.tng? k = some t ∧ Tng.removeAt t r = .ok (circ, t') ∧
      cx'.verts = cx.verts.map (fun v => if v.1 = k then (v.1, t') else v) ∧
      ∀ a b : TKey,
        (cx.edge? a b = none → cx'.edge? a b = none) ∧
        (∀ f, cx.edge? a b = some f →
          (b = k → ∃ g, ops.capOff .tgt circ death f = .ok g ∧
            cx'.edge? a b = if ops.isZero g then none else some g) ∧
          (b ≠ k → a = k → ∃ g, ops.capOff .src circ birth f = .ok g ∧
            cx'.edge? a b = if ops.isZero g then none else some g) ∧
          (b ≠ k → a ≠ k → cx'.edge? a b = some f)) := by
  have hn := hwf.edges
  obtain ⟨t, circ, t', es, ht, hrm, hes, rfl⟩ := deloopWith_ok ops cx cx' k r birth death h
  refine ⟨t, circ, t', ht, hrm, rfl, ?_⟩
  intro a b
  have hF := mapMRes_ok_forall₂ _ _ _ hes
  have hl := lookup_filterMap_forall₂ (fun e oe => deloopEdge ops k circ birth death e = .ok oe)
    (fun e e' he => (deloopEdge_cases ops k circ birth death e _ he e' rfl).1) _ _ hF hn (a, b)
  refine ⟨hl.1, ?_⟩
  intro f hf
  obtain ⟨oe, hoe, hlook⟩ := hl.2 f hf
  have hkept : ∀ g, oe = (if ops.isZero g = true then none else some ((a, b), g)) →
      oe.map (·.2) = if ops.isZero g then none else some g := by
    rintro g rfl
    split <;> rfl
  rcases deloopEdge_ok ops k circ birth death _ oe hoe with ⟨hb, g, hg, h1⟩ | ⟨hb, ha, g, hg, h1⟩ | ⟨hb, ha, h1⟩
  · exact ⟨fun _ => ⟨g, hg, hlook.trans (hkept g h1)⟩, fun hb' => absurd hb hb', fun hb' => absurd hb hb'⟩
  · exact ⟨fun hb' => absurd hb' hb, fun _ _ => ⟨g, hg, hlook.trans (hkept g h1)⟩, fun _ ha' => absurd ha ha'⟩
  · exact ⟨fun hb' => absurd hb' hb, fun _ ha' => absurd ha' ha, fun _ _ => hlook.trans (by rw [h1]; rfl)⟩

/-- the two new keys sit in the same homological degree as `k`; their quantum degrees are `q(k) − 1` (copy `X`) and
`q(k) + 1` (copy `1`), the degree shifts for which `Props/C05Deloop.deloop_degrees` shows the four maps to have degree 0 -/
theorem deloop_key_degrees (k : TKey) :
    (k.push .X).weight = k.weight ∧ (k.push .I).weight = k.weight ∧
    (k.push .X).qRel = k.qRel - 1 ∧ (k.push .I).qRel = k.qRel + 1 := by
  refine ⟨rfl, rfl, ?_, ?_⟩
  · rw [qRel_push]; simp only [Deloop.AlgGen.qShift, Deloop.AlgGen.deg]; omega
  · rw [qRel_push]; simp only [Deloop.AlgGen.qShift, Deloop.AlgGen.deg]; omega

/-- `TngComplex::init` is well formed -/
theorem wf_of_init {E : Type} (ops : EdgeOps E) (dh dq : Int) (base : Option Nat) :
    WF ops (Cx.init dh dq base : Cx E) := wf_init ops dh dq base

/-- every single operation of the engine preserves `WF` (each for arbitrary arguments, whenever it does not panic) -/
theorem wf_preserved_by_each_operation_partial {E : Type} (ops : EdgeOps E) (mkSdl : CobComp → E) (cx cx' : Cx E)
    (hwf : WF ops cx) :
    (∀ ct e, cx.appendX ops mkSdl ct e = .ok cx' → WF ops cx') ∧
    (∀ other, WF ops other → cx.connect ops other = .ok cx' → WF ops cx') ∧
    (∀ k r upd, cx.deloop ops k r = .ok (upd, cx') → WF ops cx') ∧
    (∀ k0 k1, cx.eliminate ops k0 k1 = .ok cx' → WF ops cx') :=
  ⟨fun ct e h => wf_appendX ops mkSdl cx cx' ct e hwf h,
   fun o ho h => wf_connect ops cx o cx' hwf ho h,
   fun k r upd h => wf_deloop ops cx cx' k r upd hwf h,
   fun k0 k1 h => wf_eliminate ops cx cx' k0 k1 hwf h⟩

/-- **`WF` over ANY script** (induction over the step list): starting from a well-formed complex — e.g. `init` —
every script of `append` / `deloop` / `eliminate` / `connect` steps (connecting only with well-formed complexes,
e.g. ones produced by scripts themselves) that runs without panic ends in a well-formed complex.
`_partial`: `WF` lacks the clause about boundary tangles (see the header). -/
theorem wf_preserved_by_script_partial {E : Type} (ops : EdgeOps E) (mkSdl : CobComp → E) (steps : List (Step E))
    (cx cx' : Cx E) (hwf : WF ops cx) (hcon : ∀ o, Step.con o ∈ steps → WF ops o)
    (h : runScript ops mkSdl steps cx = .ok cx') : WF ops cx' := by
  unfold runScript at h
  refine foldRes_inv (WF ops) ?_ hwf h
  intro b st b' hst hb hstep
  exact wf_applyStep ops mkSdl b b' st hb (fun o ho => hcon o (ho ▸ hst)) hstep

/-- the same from `init`, for the real engine instance over ℤ with any parameters `(h, t)` -/
theorem wf_of_engine_script_partial (h t : Int) (dh dq : Int) (base : Option Nat) (steps : List (Step (LcCob Int)))
    (cx' : Cx (LcCob Int)) (hcon : ∀ o, Step.con o ∈ steps → WF (lcOps h t) o)
    (hrun : runScript (lcOps h t) mkSdlLc steps (Cx.init dh dq base) = .ok cx') : WF (lcOps h t) cx' :=
  wf_preserved_by_script_partial (lcOps h t) mkSdlLc steps _ cx' (wf_init _ dh dq base) hcon hrun

example : WF toyOps toySquare := ⟨by decide +kernel, by decide +kernel, by decide +kernel, by decide +kernel, by decide +kernel⟩

/-- eliminating `A → B` leaves `C → D` with `d − c·a⁻¹·b = −1 − 2·1·… ` … here: no edge `C → B`, so untouched -/
example : (toySquare.eliminate toyOps kA kB).isOk = true := by decide +kernel

example : ∃ cx', toySquare.eliminate toyOps kA kB = .ok cx' ∧ cx'.verts.map (·.1) = [kC, kD] ∧
    cx'.edge? kC kD = some (-1) := by
  refine ⟨_, rfl, by decide +kernel, by decide +kernel⟩

/-- `toyZ`: a pivot with neighbours on both sides: `u → k1` (b = 3), `k0 → w` (c = 5), `u → w` (d = 7), `a = −1`:
the new entry is `7 − 5·(−1)·3 = 22` -/
example : WF toyOps toyZ := ⟨by decide +kernel, by decide +kernel, by decide +kernel, by decide +kernel, by decide +kernel⟩

example : ∃ cx', toyZ.eliminate toyOps ⟨[false], [.X]⟩ ⟨[true], [.X]⟩ = .ok cx' ∧
    cx'.edge? ⟨[false], [.I]⟩ ⟨[true], [.I]⟩ = some 22 ∧ cx'.verts.length = 2 := by
  refine ⟨_, rfl, by decide +kernel, by decide +kernel⟩

/-- a script on the toy algebra that runs: eliminate, then connect with a one-vertex complex -/
example : (runScript toyOps (fun _ => 1) [.el ⟨[false], [.X]⟩ ⟨[true], [.X]⟩, .con (Cx.init 0 0 none)] toyZ).isOk = true := by
  decide +kernel

/-- the real engine instance: appending the crossing `X[0,1,2,3]` to `init` over ℤ with `(h, t) = (0, 0)` gives the
two-vertex complex with one (saddle) edge -/
example : (match (Cx.init 0 0 none : Cx (LcCob Int)).appendX (lcOps 0 0) mkSdlLc .X #[0, 1, 2, 3] with
    | .ok cx' => cx'.verts.length == 2 && cx'.edges.length == 1 && cx'.wfCheck
    | _ => false) = true := by
  decide +kernel

end Yuiv.C05.Engine
