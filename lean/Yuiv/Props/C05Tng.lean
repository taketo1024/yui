import Yuiv.Proofs.C05Tng
import Yuiv.Props.C05Deloop
/-
C05 (engine structure) — the structural operations on tangles and cobordisms
(`yui-link/src/link/path.rs`, `yui-khovanov/src/kh/internal/v2/{tng,cob}.rs`).
Code model: `Yuiv/Model/C05Tng.lean`.
Every statement is for ALL inputs of the model (arbitrary edge lists, genus, dots).

What is proved, and how the statements were adjusted to what the code really does:

 * `TngComp::connect` (= `Path::connect`) on PROPER arcs (the two ends of an arc differ; the code also accepts
   arcs like `[0, 0]` of a kink, for which "symmetric difference" is not the right description): never panics on
   connectable arcs, the result is a circle exactly when both ends are shared, otherwise an arc whose end points
   are the symmetric difference; the two argument orders give components that are equal for the Rust
   `PartialEq` (`unori_eq`) when one end is shared.  When BOTH ends are shared (the connect closes up) only
   "both orders give circles with the same number of edges" is proved (`…_circle_partial`): `unori_eq` of the
   two rotated edge lists is explored by the correspondence run, not proved.
 * genus bookkeeping of `CobComp::connect` / `Cob::stack_comps`: whenever the two `assert!`s pass, the stored
   genus is the unique natural number with `χ = 2 − 2g − b`, `χ = χ₁ + χ₂ − a`.  The hypothesis under which the
   asserts pass (orientable gluing) is NOT characterised: all statements assume the call returned.
 * `deg` additivity under horizontal (`CobComp::connect`) and vertical (`Cob::stack_comps`) composition is
   proved UNDER the end-point bookkeeping hypothesis (end points of the composite = symmetric difference, resp.
   the arcs in the lower targets are matched with the end points above).  That `Tng::connect` /`append_arc`
   produce exactly those end points on well-formed tangles is not proved (explored by the harness oracles).
 * `cap_off` changes `deg` by the degree of the disc (`Deloop.discDeg`, via `deloop_degrees`) — for every
   component, bottom, index and dot (`cap_off_deg`), and for `Cob::cap_off` on a whole cobordism including the
   removal of a unit sphere and the re-sorting (`cob_cap_off_deg`).
 * stacking with the identity and `inv` as two-sided inverse: proved for CYLINDER-type components (one source,
   one target component; arbitrary genus/dots for the identity statement) at the level of `Cob::stack_comps`;
   the bookkeeping of `take_stackable_comps` for several components is explored only.
-/
namespace Yuiv.C05.Tng
open Yuiv Yuiv.C05

/-- `TngComp::connect` on proper connectable arcs with ends `(e0,e1)`, `(f0,f1)`: it returns; the result is a
circle when both ends are shared; otherwise it is an arc with distinct ends `x, y` and
`{x, y} = {e0, e1} Δ {f0, f1}` (symmetric difference). -/
theorem tngcomp_connect_ends (p q : Path) (e0 e1 f0 f1 : Nat)
    (hp : p.ends = some (e0, e1)) (hq : q.ends = some (f0, f1)) (he : e0 ≠ e1) (hf : f0 ≠ f1)
    (hc : isConnectable p q = true) :
    ∃ r, p.connect q = .ok r ∧
      (((e0 = f0 ∧ e1 = f1) ∨ (e0 = f1 ∧ e1 = f0)) → r.closed = true ∧ r.ends = none) ∧
      (¬ ((e0 = f0 ∧ e1 = f1) ∨ (e0 = f1 ∧ e1 = f0)) →
        ∃ x y, r.ends = some (x, y) ∧ x ≠ y ∧
          ∀ e, (e = x ∨ e = y) ↔ (((e = e0 ∨ e = e1) ∧ ¬ (e = f0 ∨ e = f1)) ∨ (¬ (e = e0 ∨ e = e1) ∧ (e = f0 ∨ e = f1)))) := by
  have hd := (isConnectable_iff p q e0 e1 f0 f1 hp hq).1 hc
  obtain ⟨L, _, hx, hy, _, hr⟩ := path_connect_spec p q e0 e1 f0 f1 hp hq hc
  refine ⟨_, hr, ?_, ?_⟩
  · intro hb
    rw [if_pos ((glueEnds_eq_iff e0 e1 f0 f1 he).2 hb)]
    exact ⟨rfl, rfl⟩
  · intro hnb
    have hxy := mt (glueEnds_eq_iff e0 e1 f0 f1 he).1 hnb
    rw [if_neg hxy]
    exact ⟨_, _, (ends_some _ _ _).2 ⟨rfl, hx, hy⟩, hxy, glueEnds_symmDiff e0 e1 f0 f1 he hf hd hnb⟩

/-- a connect that closes up gives a circle: both ends shared ⇔ the result is closed -/
theorem tngcomp_connect_closes_circle (p q : Path) (e0 e1 f0 f1 : Nat)
    (hp : p.ends = some (e0, e1)) (hq : q.ends = some (f0, f1)) (he : e0 ≠ e1) (hf : f0 ≠ f1)
    (hc : isConnectable p q = true) (r : Path) (hr : p.connect q = .ok r) :
    r.closed = true ↔ ((e0 = f0 ∧ e1 = f1) ∨ (e0 = f1 ∧ e1 = f0)) := by
  obtain ⟨r', hr', h1, h2⟩ := tngcomp_connect_ends p q e0 e1 f0 f1 hp hq he hf hc
  rw [hr] at hr'
  injection hr' with hr'
  subst hr'
  constructor
  · intro hcl
    by_contra hnb
    obtain ⟨x, y, hxy, _, _⟩ := h2 hnb
    simp [Path.ends, hcl] at hxy
  · intro hb
    exact (h1 hb).1

/-- commutativity of `TngComp::connect` as the Rust `PartialEq` sees it: proper arcs sharing exactly one end give,
in either argument order, arcs that are `unori_eq` (the edge lists are equal or reversed). -/
theorem tngcomp_connect_comm (p q : Path) (e0 e1 f0 f1 : Nat)
    (hp : p.ends = some (e0, e1)) (hq : q.ends = some (f0, f1)) (he : e0 ≠ e1) (hf : f0 ≠ f1)
    (hc : isConnectable p q = true) (hnb : ¬ ((e0 = f0 ∧ e1 = f1) ∨ (e0 = f1 ∧ e1 = f0))) :
    ∃ r r', p.connect q = .ok r ∧ q.connect p = .ok r' ∧ unoriEq r r' = true ∧ unoriEq r' r = true := by
  obtain ⟨L, L', h1, h2, h3⟩ := path_connect_comm_edges p q e0 e1 f0 f1 hp hq he hf hc hnb
  refine ⟨_, _, h1, h2, ?_, ?_⟩
  · rcases h3 with rfl | rfl
    · exact unoriEq_arc_self _
    · exact unoriEq_arc_reverse _
  · rcases h3 with rfl | rfl
    · exact unoriEq_arc_self _
    · have := unoriEq_arc_reverse L.reverse
      simpa using this

/-- the closing case, PARTIAL: when both ends are shared, both argument orders return circles with the same number
of edges `|p| + |q| − 2`.  Missing: `unori_eq` of the two (rotated / reflected) edge lists. -/
theorem tngcomp_connect_comm_circle_partial (p q : Path) (e0 e1 f0 f1 : Nat)
    (hp : p.ends = some (e0, e1)) (hq : q.ends = some (f0, f1)) (he : e0 ≠ e1) (hf : f0 ≠ f1)
    (hb : (e0 = f0 ∧ e1 = f1) ∨ (e0 = f1 ∧ e1 = f0)) :
    ∃ r r', p.connect q = .ok r ∧ q.connect p = .ok r' ∧ r.closed = true ∧ r'.closed = true
      ∧ r.edges.length + 2 = p.edges.length + q.edges.length ∧ r'.edges.length = r.edges.length := by
  have hc : isConnectable p q = true :=
    (isConnectable_iff p q e0 e1 f0 f1 hp hq).2 (hb.elim (fun h => .inl h.1) (fun h => .inr (.inl h.1)))
  have hc' : isConnectable q p = true := isConnectable_symm p q ▸ hc
  have hb' : (f0 = e0 ∧ f1 = e1) ∨ (f0 = e1 ∧ f1 = e0) :=
    hb.imp (fun h => ⟨h.1.symm, h.2.symm⟩) (fun h => ⟨h.2.symm, h.1.symm⟩)
  obtain ⟨L, _, hx, _, hlen, hr⟩ := path_connect_spec p q e0 e1 f0 f1 hp hq hc
  obtain ⟨L', _, _, _, hlen', hr'⟩ := path_connect_spec q p f0 f1 e0 e1 hq hp hc'
  have hpos : 0 < L.length := List.length_pos_iff.2 (by rintro rfl; cases hx)
  rw [if_pos ((glueEnds_eq_iff e0 e1 f0 f1 he).2 hb)] at hr
  rw [if_pos ((glueEnds_eq_iff f0 f1 e0 e1 hf).2 hb')] at hr'
  have hLL : L'.length = L.length := Nat.add_right_cancel (hlen'.trans ((Nat.add_comm _ _).trans hlen.symm))
  refine ⟨_, _, hr, hr', rfl, rfl, ?_, ?_⟩
  · show L.dropLast.length + 1 + 1 = _
    rw [List.length_dropLast, Nat.sub_add_cancel hpos, hlen]
  · show L'.dropLast.length = L.dropLast.length
    rw [List.length_dropLast, List.length_dropLast, hLL]

/-- the hypotheses are satisfiable: `[0,1] + [1,2] = [0,1,2]`, and `[0,1,2] + [0,2]` closes up to `⚪(0,1,2)`
(the unit test `connect_comp` of `tng.rs`) -/
example : (Path.mk [0, 1] false).connect ⟨[1, 2], false⟩ = .ok ⟨[0, 1, 2], false⟩
    ∧ (Path.mk [0, 1, 2] false).connect ⟨[0, 2], false⟩ = .ok ⟨[0, 1, 2], true⟩
    ∧ unoriEq ⟨[0, 1, 2], true⟩ ⟨[2, 0, 1], true⟩ = true := by decide +kernel

/-- the genus computed by `connect` / `stack_comps` (`g2 = 2 − (x1 + x2 + b) + a`, `assert!(g2 >= 0)`,
`assert!(g2 % 2 == 0)`, `genus = g2 / 2`) is THE natural number `g` with `2 − 2g − b = x1 + x2 − a`: the call
returns `g` iff that equation holds (so the asserts pass iff such a natural number exists). -/
theorem genus_unique (x1 x2 : Int) (b a g : Nat) :
    genusFrom x1 x2 b a = .ok g ↔ 2 - 2 * (g : Int) - (b : Int) = x1 + x2 - (a : Int) :=
  ⟨genusFrom_ok x1 x2 b a g, genusFrom_of_eq x1 x2 b a g⟩

/-- `CobComp::connect`: if it returns (`debug_assert!(is_connectable)`, `assert!(a > 0)`, the two genus asserts
pass), then both inputs have an Euler number, `a = #shared end points > 0`, the source / target tangles are the
`Tng::connect` of the sources / targets, dots add, and
`euler_num(result) = χ₁ + χ₂ − a = 2 − 2·genus − #∂` with the stored genus. -/
theorem cobcomp_connect_euler (c d r : CobComp) (h : c.connect d = .ok r) :
    ∃ x1 x2 b, c.eulerNum = .ok x1 ∧ d.eulerNum = .ok x2 ∧ r.nbdr = .ok b
      ∧ r.eulerNum = .ok (x1 + x2 - (sharedEndpts c d : Int))
      ∧ x1 + x2 - (sharedEndpts c d : Int) = 2 - 2 * (r.genus : Int) - (b : Int)
      ∧ (∀ g' : Nat, 2 - 2 * (g' : Int) - (b : Int) = x1 + x2 - (sharedEndpts c d : Int) → g' = r.genus)
      ∧ 0 < sharedEndpts c d
      ∧ Tng.connect c.src d.src = .ok r.src ∧ Tng.connect c.tgt d.tgt = .ok r.tgt
      ∧ r.dots = (c.dots.1 + d.dots.1, c.dots.2 + d.dots.2) := by
  obtain ⟨x1, x2, b, hx1, hx2, hb, hs, ht, hg, hdots, ha⟩ := connect_spec c d r h
  have he := genusFrom_ok _ _ _ _ _ hg
  refine ⟨x1, x2, b, hx1, hx2, hb, ?_, he.symm, ?_, ha, hs, ht, hdots⟩
  · rw [(deg_of_nbdr r b hb).2]
    congr 1
  · intro g' hg'
    omega

/-- `Cob::stack_comps`: if it returns, `euler_num(result) = Σχ(bot) + Σχ(top) − a = 2 − 2·genus − #∂` where
`a` = number of arcs in the targets of `bot`; source / target are the connected sources of `bot` / targets of
`top`; dots add. -/
theorem stack_comps_euler (bot top : List CobComp) (r : CobComp) (h : stackComps bot top = .ok r) :
    ∃ x0 x1 b, Cob.eulerNum bot = .ok x0 ∧ Cob.eulerNum top = .ok x1 ∧ r.nbdr = .ok b
      ∧ r.eulerNum = .ok (x0 + x1 - (tgtArcs bot : Int))
      ∧ x0 + x1 - (tgtArcs bot : Int) = 2 - 2 * (r.genus : Int) - (b : Int)
      ∧ foldConnect (bot.map (·.src)) [] = .ok r.src ∧ foldConnect (top.map (·.tgt)) [] = .ok r.tgt
      ∧ r.dots = sumDots (bot ++ top) := by
  obtain ⟨x0, x1, b, hx0, hx1, hs, ht, hb, hg, hdots, _, _⟩ := stackComps_spec bot top r h
  have he := genusFrom_ok _ _ _ _ _ hg
  refine ⟨x0, x1, b, hx0, hx1, hb, ?_, he.symm, hs, ht, hdots⟩
  rw [(deg_of_nbdr r b hb).2]
  congr 1

/-- non-vacuous: the unit test `connect_incr_genus` of `cob.rs` (two strips + a band: genus 1, χ = −1) -/
example : (CobComp.mk [⟨[1, 2], false⟩, ⟨[3, 4], false⟩] [⟨[1, 2], false⟩, ⟨[3, 4], false⟩] 0 (0, 0)).connect
      (CobComp.id ⟨[1, 3], false⟩)
    = .ok ⟨[⟨[4, 3, 1, 2], false⟩], [⟨[4, 3, 1, 2], false⟩], 1, (0, 0)⟩ := by decide +kernel

/-- `deg` is additive under horizontal composition of components.  Hypotheses: the call returned; the end
points of the composite are the symmetric difference of the end points (`#E = #E₁ + #E₂ − 2a`) and every
component has an even number of end points — what `Tng::connect` produces on well-formed tangles (checked by the
harness oracle on every generated case, not proved). -/
theorem deg_connect_additive (c d r : CobComp) (h : c.connect d = .ok r)
    (hE : r.endpts.length + 2 * sharedEndpts c d = c.endpts.length + d.endpts.length)
    (hc : c.endpts.length % 2 = 0) (hd : d.endpts.length % 2 = 0) :
    ∃ x y, c.deg = .ok x ∧ d.deg = .ok y ∧ r.deg = .ok (x + y) := by
  obtain ⟨x1, x2, b, hx1, hx2, hb, _, _, hg, hdots, _⟩ := connect_spec c d r h
  obtain ⟨b1, hb1, rfl⟩ := eulerNum_ok c x1 hx1
  obtain ⟨b2, hb2, rfl⟩ := eulerNum_ok d x2 hx2
  refine ⟨_, _, (deg_of_nbdr c b1 hb1).1, (deg_of_nbdr d b2 hb2).1, ?_⟩
  rw [(deg_of_nbdr r b hb).1, hdots]
  exact congrArg Res.ok (deg_of_glue _ _ _ _ _ _ _ _ _ _ _ _ (genusFrom_ok _ _ _ _ _ hg) (by omega) (by omega))

/-- `deg` is additive under vertical composition (`Cob::stack_comps` on one group of lower and upper
components; `Cob::deg` = sum over components).  Hypothesis (end-point bookkeeping): `#E(result)/2 + a =
Σ_bot #E/2 + Σ_top #E/2`, i.e. the result keeps the end points of the lower components and every arc of the lower
targets accounts for two end points of the upper components. -/
theorem deg_stack_additive (bot top : List CobComp) (r : CobComp) (h : stackComps bot top = .ok r)
    (hE : r.endpts.length / 2 + tgtArcs bot = halfEnds bot + halfEnds top) :
    ∃ x y, Cob.deg bot = .ok x ∧ Cob.deg top = .ok y ∧ r.deg = .ok (x + y) := by
  obtain ⟨x0, x1, b, hx0, hx1, _, _, hb, hg, hdots, _, _⟩ := stackComps_spec bot top r h
  refine ⟨_, _, sumRes_deg bot x0 hx0, sumRes_deg top x1 hx1, ?_⟩
  rw [(deg_of_nbdr r b hb).1]
  have hd := sumDots_total (bot ++ top)
  rw [← hdots, totalDots_append] at hd
  exact congrArg Res.ok (deg_of_glue _ _ _ _ _ _ _ _ _ _ _ _ (genusFrom_ok _ _ _ _ _ hg) hE hd)

/-- the hypotheses hold on the unit-test example above (band glued on two strips): degrees `−2 + 0 = −2` -/
example :
    let c : CobComp := ⟨[⟨[1, 2], false⟩, ⟨[3, 4], false⟩], [⟨[1, 2], false⟩, ⟨[3, 4], false⟩], 0, (0, 0)⟩
    let d := CobComp.id ⟨[1, 3], false⟩
    let r : CobComp := ⟨[⟨[4, 3, 1, 2], false⟩], [⟨[4, 3, 1, 2], false⟩], 1, (0, 0)⟩
    r.endpts.length + 2 * sharedEndpts c d = c.endpts.length + d.endpts.length
      ∧ c.deg = .ok (-2) ∧ d.deg = .ok 0 ∧ r.deg = .ok (-2) := by decide +kernel

/-- `CobComp::cap_off(b, i)` followed by `add_dot(dot)` — what `Cob::cap_off` does to the component that
contains the circle: if the component had a degree, the result has degree `deg + discDeg dot`
(`discDeg` = degree of the dotted disc, `+1` plain, `−1` dotted: `deloop_degrees`). -/
theorem cap_off_deg (c c' : CobComp) (bt : Bottom) (i : Nat) (dot : Dot) (x : Int)
    (h : c.capOff bt i = .ok c') (hx : c.deg = .ok x) :
    (c'.addDot dot).deg = .ok (x + Deloop.discDeg dot.toDeloop) := by
  unfold CobComp.deg at hx
  split at hx
  · rename_i b hb
    injection hx with hx
    subst hx
    obtain ⟨b', hb', rfl, hE, hg, hdots⟩ := capOff_spec c c' bt i b h hb
    obtain ⟨hd, hs, ht, hgen⟩ := addDot_dots c' dot
    have hn : (c'.addDot dot).nbdr = .ok b' := by
      unfold CobComp.nbdr; rw [hs, ht]; exact hb'
    rw [(deg_of_nbdr _ b' hn).1]
    congr 1
    have hE' : (c'.addDot dot).endpts.length = c.endpts.length := by
      unfold CobComp.endpts; rw [hs]; exact hE
    rw [hE', hgen, hg, hd, hdots]
    exact Deloop.deloop_degrees.2.1 dot.toDeloop b' c.endpts.length c.genus c.dots.1 c.dots.2
  · cases hx
  · cases hx

/-- `Cob::cap_off(b, c, dot)` on a whole cobordism (find the component, cap, add the dot, drop a unit sphere,
re-sort): `Cob::deg` changes by the degree of the dotted disc. -/
theorem cob_cap_off_deg (k k' : Cob) (bt : Bottom) (c : Path) (dot : Dot) (D : Int)
    (h : Cob.capOff k bt c dot = .ok k') (hD : Cob.deg k = .ok D) :
    Cob.deg k' = .ok (D + Deloop.discDeg dot.toDeloop) := by
  unfold Cob.capOff at h
  split at h
  · cases h
  · split at h
    · cases h
    · rename_i i comp p hf
      have hi := findComp_some k bt c i p comp hf
      split at h
      · rename_i comp1 h1
        obtain ⟨x, hx⟩ := sumRes_get CobComp.deg k i comp D hD hi
        have h2 := cap_off_deg comp comp1 bt p dot x h1 hx
        simp only at h
        split at h
        · rename_i hu
          injection h with h; subst h
          have h0 := unit_deg _ hu
          rw [h0] at h2
          injection h2 with h2
          unfold Cob.deg Cob.new
          rw [sumRes_sortBy, sumRes_erase CobComp.deg k i comp D x hD hi hx]
          congr 1; omega
        · injection h with h; subst h
          unfold Cob.deg Cob.new
          rw [sumRes_sortBy, sumRes_set CobComp.deg k i comp _ D x _ hD hi hx h2]
          congr 1; omega
      · cases h
      · cases h

/-- non-vacuous: capping the source circle of a cylinder with an `X`-dotted disc: `0 ↦ −1` -/
example : (CobComp.mk [⟨[1], true⟩] [⟨[2], true⟩] 0 (0, 0)).capOff .src 0 = .ok ⟨[], [⟨[2], true⟩], 0, (0, 0)⟩
    ∧ (CobComp.mk [⟨[1], true⟩] [⟨[2], true⟩] 0 (0, 0)).deg = .ok 0
    ∧ ((CobComp.mk [] [⟨[2], true⟩] 0 (0, 0)).addDot .X).deg = .ok (-1) := by decide +kernel

/-- stacking a cylinder-type component `[s] → [t]` (any genus, any dots) with the identity component below
(`id(s)`) or above (`id(t)`) gives the component back.  "Valid" = both circles, or both arcs with common end
points (what `CobComp::new` and `nbdr_comps` need). -/
theorem stack_id_cyl (s t : Path) (g : Nat) (d : Nat × Nat)
    (h : (s.closed = true ∧ t.closed = true) ∨
      (s.closed = false ∧ t.closed = false ∧ isConnectable t s = true
        ∧ setEq (Tng.endpts [s]) (Tng.endpts [t]) = true)) :
    stackComps [CobComp.id s] [⟨[s], [t], g, d⟩] = .ok ⟨[s], [t], g, d⟩
    ∧ stackComps [⟨[s], [t], g, d⟩] [CobComp.id t] = .ok ⟨[s], [t], g, d⟩ := by
  rcases h with ⟨hs, ht⟩ | ⟨hs, ht, hts, hE⟩
  · have h1 := stackComps_cyl_circ s s t 0 g (0, 0) d hs hs ht
    have h2 := stackComps_cyl_circ s t t g 0 d (0, 0) hs ht ht
    simp only [Nat.zero_add, Nat.add_zero] at h1 h2
    exact ⟨h1, h2⟩
  · obtain ⟨htt, hss⟩ := isConnectable_self t s hts
    have h1 := stackComps_cyl_arc s s t 0 g (0, 0) d hs hs ht hss hts hts hE
    have h2 := stackComps_cyl_arc s t t g 0 d (0, 0) hs ht ht hts htt hts hE
    simp only [Nat.zero_add, Nat.add_zero] at h1 h2
    exact ⟨h1, h2⟩

/-- `inv` of an invertible (cylinder-type, genus 0, no dots) component is a two-sided inverse under stacking:
`c` then `inv c` is `id(s)`, `inv c` then `c` is `id(t)`; and `inv (inv c) = c`. -/
theorem inv_two_sided (s t : Path)
    (h : (s.closed = true ∧ t.closed = true) ∨
      (s.closed = false ∧ t.closed = false ∧ isConnectable t s = true
        ∧ setEq (Tng.endpts [t]) (Tng.endpts [s]) = true ∧ setEq (Tng.endpts [s]) (Tng.endpts [t]) = true)) :
    let c : CobComp := ⟨[s], [t], 0, (0, 0)⟩
    let i : CobComp := ⟨[t], [s], 0, (0, 0)⟩
    c.isInvertible = true ∧ c.inv = .ok (some i) ∧ i.inv = .ok (some c)
      ∧ stackComps [c] [i] = .ok (CobComp.id s) ∧ stackComps [i] [c] = .ok (CobComp.id t) := by
  intro c i
  have hinv : c.isInvertible = true ∧ i.isInvertible = true := by
    simp [c, i, CobComp.isInvertible, CobComp.isCyl]
  rcases h with ⟨hs, ht⟩ | ⟨hs, ht, hts, hE, hE'⟩
  · have e1 : setEq (Tng.endpts [t]) (Tng.endpts [s]) = true := by
      simp [Tng.endpts, endsMulti, ends_of_closed, hs, ht, dedup, setEq]
    have e2 : setEq (Tng.endpts [s]) (Tng.endpts [t]) = true := by
      simp [Tng.endpts, endsMulti, ends_of_closed, hs, ht, dedup, setEq]
    refine ⟨hinv.1, ?_, ?_, ?_, ?_⟩
    · simp [CobComp.inv, hinv.1, CobComp.plain, CobComp.new, c, i, e1]
    · simp [CobComp.inv, hinv.2, CobComp.plain, CobComp.new, c, i, e2]
    · exact stackComps_cyl_circ s t s 0 0 (0, 0) (0, 0) hs ht hs
    · exact stackComps_cyl_circ t s t 0 0 (0, 0) (0, 0) ht hs ht
  · obtain ⟨htt, hss⟩ := isConnectable_self t s hts
    have hst : isConnectable s t = true := by rw [isConnectable_symm]; exact hts
    refine ⟨hinv.1, ?_, ?_, ?_, ?_⟩
    · simp [CobComp.inv, hinv.1, CobComp.plain, CobComp.new, c, i, hE]
    · simp [CobComp.inv, hinv.2, CobComp.plain, CobComp.new, c, i, hE']
    · exact stackComps_cyl_arc s t s 0 0 (0, 0) (0, 0) hs ht hs hts hst hss (setEq_self _)
    · exact stackComps_cyl_arc t s t 0 0 (0, 0) (0, 0) ht hs ht hst hts htt (setEq_self _)

/-- the hypotheses are satisfiable (the unit test `inv` of `cob.rs`: a cylinder over arcs `[0,5,1] → [0,1]`) -/
example : (Path.mk [0, 5, 1] false).closed = false ∧ (Path.mk [0, 1] false).closed = false
    ∧ isConnectable ⟨[0, 1], false⟩ ⟨[0, 5, 1], false⟩ = true
    ∧ setEq (Tng.endpts [⟨[0, 1], false⟩]) (Tng.endpts [⟨[0, 5, 1], false⟩]) = true
    ∧ setEq (Tng.endpts [⟨[0, 5, 1], false⟩]) (Tng.endpts [⟨[0, 1], false⟩]) = true := by decide +kernel

end Yuiv.C05.Tng
