import Yuiv.Proofs.C18InvBraid
import Yuiv.Proofs.C18BridgeLink
import Yuiv.Proofs.C06CycleMain
import Mathlib.Data.Nat.Bits
/-
C06Closure — the hypothesis H of `canon_is_cycle` for BRAID CLOSURES.

For `closure n w = .ok l` every label `e` has a strand position `posLab n w e`; the crossing of the letter `σ_g^{±1}` has
two labels at position `g` and two at position `g+1`, and in the orientation preserving state `braidState w` (bit `j` =
"letter `j` is negative") both arcs of every crossing join labels of the SAME position.  Hence the position is constant on
every circle of that state, every crossing touches exactly two circles (positions `g`, `g+1`), and colouring a circle by
the parity of its position is a proper colouring: `bicoloured` holds.
-/
namespace Yuiv.C06Closure
open Yuiv Yuiv.KhRef Yuiv.C04Inv Yuiv.C06Cycle Yuiv.C06Canon
open Yuiv.C18 (BForm posLab bX)
open Yuiv.C18Bridge (toKh crossingKh toKh_getElem?)

/-- colour of a strand position -/
def par (n : Nat) : Colour := if n % 2 = 0 then .a else .b

/-- resolution bits of the orientation preserving state: `true` (1-resolution) for a negative letter -/
def braidBits (w : List Int) : List Bool := w.map (fun s => !(decide (s > 0)))

/-- the orientation preserving state of the closure of `w` (all strands downwards) -/
def braidState (w : List Int) : Nat := bitsToNat (braidBits w)

/-- the colours of the circles of `cs` by the parity of the strand position -/
def parityCols (n : Nat) (w : List Int) (cs : Array (Array Nat)) : List Colour :=
  cs.toList.map (fun c => par (posLab n w (c[0]!)))

theorem par_ne (g : Nat) : par g ≠ par (g + 1) := by
  unfold par
  simp only [Nat.succ_mod_two_eq_zero_iff]
  rcases Nat.mod_two_eq_zero_or_one g with h | h <;> simp only [h] <;> decide

theorem braidState_eq (w : List Int) :
    braidState w = oriPresState (w.map (fun s => if s > 0 then (1 : Int) else -1)) := by
  unfold braidState braidBits oriPresState oriPresBits
  rw [List.map_map]
  congr 1
  apply List.map_congr_left
  intro s _
  by_cases hs : s > 0 <;> simp only [Function.comp_apply, hs] <;> decide

theorem testBit_bitsToNat (bs : List Bool) (j : Nat) : (bitsToNat bs).testBit j = bs.getD j false := by
  induction bs generalizing j with
  | nil => simp [bitsToNat]
  | cons b bs ih =>
    have hbit : bitsToNat (b :: bs) = Nat.bit b (bitsToNat bs) := by
      cases b
      · exact Nat.zero_add _
      · exact Nat.add_comm _ _
    rw [hbit]
    cases j with
    | zero => rw [Nat.testBit_bit_zero]; rfl
    | succ j => rw [Nat.testBit_bit_succ, List.getD_cons_succ]; exact ih j

theorem braidState_lt (w : List Int) : braidState w < 2 ^ w.length := oriPresState_lt w

theorem arcs_bX (s : Int) (i0 i1 o0 o1 : Nat) :
    arcs (crossingKh (bX s i0 i1 o0 o1)) (CT.X.resolve (!(decide (s > 0)))) =
      if s > 0 then [(i0, o0), (o1, i1)] else [(i0, o1), (i1, o0)] := by
  by_cases hs : s > 0
  · rw [bX, if_pos hs, if_pos hs, decide_eq_true hs]; rfl
  · rw [bX, if_neg hs, if_neg hs, decide_eq_false hs]; rfl

theorem bX_labels (s : Int) (i0 i1 o0 o1 : Nat) :
    (crossingKh (bX s i0 i1 o0 o1)).e.toList = if s > 0 then [i0, o0, o1, i1] else [i0, i1, o0, o1] := by
  unfold bX
  split <;> rfl

theorem four_labels (f : Nat → Nat) (R : Nat → Nat → Prop) (hrefl : ∀ x, R x x) (hsymm : ∀ {x y}, R x y → R y x)
    (htrans : ∀ {x y z}, R x y → R y z → R x z)
    (a b c d g : Nat) (ha : f a = g) (hb : f b = g) (hc : f c = g + 1) (hd : f d = g + 1) (hab : R a b) (hcd : R c d)
    (L : List Nat) (hL : ∀ e, e ∈ L ↔ e = a ∨ e = b ∨ e = c ∨ e = d) :
    (∀ e ∈ L, f e = g ∨ f e = g + 1) ∧ (∀ e ∈ L, ∀ e' ∈ L, f e = f e' → R e e') ∧
      (∃ e ∈ L, ∃ e' ∈ L, f e = g ∧ f e' = g + 1) := by
  -- every label is joined to `a`, at position `g`, or to `c`, at position `g + 1`
  have key : ∀ e ∈ L, (f e = g ∧ R a e) ∨ (f e = g + 1 ∧ R c e) := by
    intro e he
    rcases (hL e).1 he with rfl | rfl | rfl | rfl
    · exact .inl ⟨ha, hrefl _⟩
    · exact .inl ⟨hb, hab⟩
    · exact .inr ⟨hc, hrefl _⟩
    · exact .inr ⟨hd, hcd⟩
  refine ⟨fun e he => (key e he).imp And.left And.left, fun e he e' he' hf => ?_,
    a, (hL a).2 (.inl rfl), c, (hL c).2 (.inr (.inr (.inl rfl))), ha, hc⟩
  rcases key e he with ⟨h1, r1⟩ | ⟨h1, r1⟩ <;> rcases key e' he' with ⟨h2, r2⟩ | ⟨h2, r2⟩
  · exact htrans (hsymm r1) r2
  · omega
  · omega
  · exact htrans (hsymm r1) r2

section closure
variable {n : Nat} {w : List Int} {l : C18.Link} {ins outs : List Nat}

theorem crossing_at (hB : BForm n w l ins outs) {j : Nat} {c : Crossing} (h : (toKh l).toList[j]? = some c) :
    j < w.length ∧ c = crossingKh (bX (w.getD j 0) (ins.getD (2 * j) 0) (ins.getD (2 * j + 1) 0)
      (outs.getD (2 * j) 0) (outs.getD (2 * j + 1) 0)) := by
  have hj : j < w.length := by
    have := (List.getElem?_eq_some_iff.1 h).1
    simpa [toKh, hB.len] using this
  rw [toKh_getElem?, (hB.cr j hj).2] at h
  exact ⟨hj, (Option.some.inj h).symm⟩

theorem toKh_allX (hB : BForm n w l ins outs) : ∀ c ∈ (toKh l).toList, c.ct = .X := by
  intro c hc
  obtain ⟨j, h⟩ := List.mem_iff_getElem?.1 hc
  obtain ⟨_, rfl⟩ := crossing_at hB h
  unfold bX crossingKh
  split <;> rfl

theorem crossingNum_toKh_closure (hB : BForm n w l ins outs) : crossingNum (toKh l) = w.length := by
  unfold crossingNum
  have : (toKh l).filter (fun c => !c.ct.isResolved) = toKh l := by
    apply Array.toList_inj.1
    rw [Array.toList_filter, List.filter_eq_self]
    intro c hc
    rw [toKh_allX hB c hc]; rfl
  rw [this]
  simp [toKh, hB.len]

theorem toKh_getElem_closure (hB : BForm n w l ins outs) (j : Nat) (hj : j < w.length) :
    (toKh l)[j]! = crossingKh (bX (w.getD j 0) (ins.getD (2 * j) 0) (ins.getD (2 * j + 1) 0)
      (outs.getD (2 * j) 0) (outs.getD (2 * j + 1) 0)) := by
  have hj' : j < l.length := hB.len ▸ hj
  have h := (hB.cr j hj).2
  rw [List.getElem?_eq_getElem hj'] at h
  rw [C18Bridge.getElem_toKh l j hj', Option.some.inj h]

theorem statePairs_closure (hB : BForm n w l ins outs) (p : Nat × Nat) :
    p ∈ statePairs (toKh l) (braidState w) ↔ ∃ j, j < w.length ∧
      (p = (if w.getD j 0 > 0 then (ins.getD (2 * j) 0, outs.getD (2 * j) 0)
            else (ins.getD (2 * j) 0, outs.getD (2 * j + 1) 0)) ∨
       p = (if w.getD j 0 > 0 then (outs.getD (2 * j + 1) 0, ins.getD (2 * j + 1) 0)
            else (ins.getD (2 * j + 1) 0, outs.getD (2 * j) 0))) := by
  rw [mem_statePairs_unres _ (fun c hc => by rw [toKh_allX hB c hc]; rfl), C18Bridge.size_toKh, hB.len]
  refine exists_congr fun j => and_congr_right fun hj => ?_
  have hbit : (braidState w).testBit j = !(decide (w.getD j 0 > 0)) := by
    unfold braidState
    rw [testBit_bitsToNat]
    unfold braidBits
    rw [List.getD_eq_getElem?_getD, List.getElem?_map, List.getD_eq_getElem?_getD, List.getElem?_eq_getElem hj]
    rfl
  have hct : (crossingKh (bX (w.getD j 0) (ins.getD (2 * j) 0) (ins.getD (2 * j + 1) 0)
      (outs.getD (2 * j) 0) (outs.getD (2 * j + 1) 0))).ct = .X := by
    unfold bX crossingKh
    split <;> rfl
  rw [toKh_getElem_closure hB j hj, hct, hbit, arcs_bX]
  split <;> exact List.mem_pair

theorem pos_of_pair (hB : BForm n w l ins outs) (p : Nat × Nat) (hp : p ∈ statePairs (toKh l) (braidState w)) :
    posLab n w p.1 = posLab n w p.2 := by
  obtain ⟨j, hj, h⟩ := (statePairs_closure hB p).1 hp
  obtain ⟨p1, p2, p3, p4⟩ := hB.pos j hj
  by_cases hs : w.getD j 0 > 0
  · simp only [hs, if_true] at h p1 p2
    rcases h with rfl | rfl
    · exact p1.trans p3.symm
    · exact p4.trans p2.symm
  · simp only [hs, if_false] at h p1 p2
    rcases h with rfl | rfl
    · exact p1.trans p4.symm
    · exact p2.trans p3.symm

theorem pos_of_conn (hB : BForm n w l ins outs) {x y : Nat} (h : Conn (statePairs (toKh l) (braidState w)) x y) :
    posLab n w x = posLab n w y :=
  conn_lift (R := fun x y => posLab n w x = posLab n w y) (fun _ => rfl) Eq.symm Eq.trans (pos_of_pair hB) h

theorem slotLabels_toKh (l : C18.Link) : slotLabels (toKh l) = C18.allEdges l := by
  unfold slotLabels C18.allEdges toKh
  rw [List.flatMap_map]
  rfl

theorem validK_toKh_iff (l : C18.Link) : validK (toKh l) = true ↔ C18.Valid l := by
  rw [validK_iff, slotLabels_toKh]
  exact and_iff_right fun _ => C18Bridge.e_size_toKh

theorem validK_toKh (l : C18.Link) (hv : C18.Valid l) : validK (toKh l) = true :=
  (validK_toKh_iff l).2 hv

theorem crossing_facts (hB : BForm n w l ins outs) (j : Nat) (hj : j < w.length) :
    let x := crossingKh (bX (w.getD j 0) (ins.getD (2 * j) 0) (ins.getD (2 * j + 1) 0) (outs.getD (2 * j) 0)
      (outs.getD (2 * j + 1) 0))
    let g := (w.getD j 0).natAbs - 1
    let P := statePairs (toKh l) (braidState w)
    (∀ e ∈ x.e, posLab n w e = g ∨ posLab n w e = g + 1) ∧
      (∀ e ∈ x.e, ∀ e' ∈ x.e, posLab n w e = posLab n w e' → Conn P e e') ∧
      (∃ e ∈ x.e, ∃ e' ∈ x.e, posLab n w e = g ∧ posLab n w e' = g + 1) := by
  intro x g P
  obtain ⟨p1, p2, p3, p4⟩ := hB.pos j hj
  have hpair : ∀ p : Nat × Nat, _ → Conn P p.1 p.2 := fun p hp =>
    Conn.of_mem ((statePairs_closure hB p).2 ⟨j, hj, hp⟩)
  simp only [← Array.mem_toList_iff, x, bX_labels]
  by_cases hs : w.getD j 0 > 0
  · simp only [hs, if_true] at hpair p1 p2 ⊢
    exact four_labels (posLab n w) (Conn P) Conn.refl Conn.symm Conn.trans _ _ _ _ g p1 p3 p4 p2
      (hpair (_, _) (Or.inl rfl)) (hpair (_, _) (Or.inr rfl)) _
      (by intro e; simp only [List.mem_cons, List.not_mem_nil, or_false])
  · simp only [hs, if_false] at hpair p1 p2 ⊢
    exact four_labels (posLab n w) (Conn P) Conn.refl Conn.symm Conn.trans _ _ _ _ g p2 p3 p1 p4
      (hpair (_, _) (Or.inr rfl)) (hpair (_, _) (Or.inl rfl)) _
      (by
        intro e
        simp only [List.mem_cons, List.not_mem_nil, or_false]
        exact or_left_comm.trans (or_congr_right or_left_comm))

theorem mem_toKh_closure (hB : BForm n w l ins outs) (x : Crossing) (hx : x ∈ toKh l) :
    ∃ j, j < w.length ∧ x = crossingKh (bX (w.getD j 0) (ins.getD (2 * j) 0) (ins.getD (2 * j + 1) 0)
      (outs.getD (2 * j) 0) (outs.getD (2 * j + 1) 0)) := by
  obtain ⟨j, h⟩ := List.mem_iff_getElem?.1 (Array.mem_toList_iff.2 hx)
  exact ⟨j, crossing_at hB h⟩

theorem crossing_of_letter (hB : BForm n w l ins outs) (j : Nat) (hj : j < w.length) :
    crossingKh (bX (w.getD j 0) (ins.getD (2 * j) 0) (ins.getD (2 * j + 1) 0) (outs.getD (2 * j) 0)
      (outs.getD (2 * j + 1) 0)) ∈ toKh l := by
  have hx := toKh_getElem? l j
  rw [(hB.cr j hj).2, Option.map_some] at hx
  exact Array.mem_toList_iff.1 (List.mem_of_getElem? hx)

theorem parityCols_getD (cs : Array (Array Nat)) (i : Nat) (hi : i < cs.size) :
    (parityCols n w cs).getD i .a = par (posLab n w ((cs[i]!)[0]!)) := by
  unfold parityCols
  rw [List.getD_eq_getElem?_getD, List.getElem?_map, Array.getElem?_toList, Array.getElem?_eq_getElem hi,
    getElem!_pos cs i hi]
  rfl

theorem bicoloured_closure (hB : BForm n w l ins outs) (hv : validK (toKh l) = true) :
    bicoloured (toKh l) (circles (toKh l) (edgeLabels (toKh l)) (braidState w))
      (parityCols n w (circles (toKh l) (edgeLabels (toKh l)) (braidState w))) = true := by
  have spec := circles_spec (toKh l) (wf_of_validK _ hv) (braidState w)
  generalize circles (toKh l) (edgeLabels (toKh l)) (braidState w) = cs at spec
  -- colour of the circle through `e`
  have hcol : ∀ i e, i < cs.size → e ∈ cs[i]! → (parityCols n w cs).getD i .a = par (posLab n w e) := by
    intro i e hi he
    rw [parityCols_getD cs i hi]
    rw [pos_of_conn hB (spec.conn_of_mem hi (spec.head_mem hi) he)]
  refine (bicoloured_iff _ _ _).2 fun x hx _ => ?_
  obtain ⟨j, hj, rfl⟩ := mem_toKh_closure hB x hx
  obtain ⟨f1, f2, e1, he1, e2, he2, q1, q2⟩ := crossing_facts hB j hj
  generalize crossingKh _ = x at hx f1 f2 he1 he2
  have hlab : ∀ e ∈ x.e, e ∈ edgeLabels (toKh l) := fun e he => (mem_edgeLabels _ e).2 ⟨_, hx, he⟩
  refine ⟨fun e he => (circleIdx_spec spec (hlab e he)).1, ⟨e1, he1, e2, he2, fun heq => ?_⟩,
    fun a ha b hb hne => ?_⟩
  · have := pos_of_conn hB ((circleIdx_eq_iff spec (hlab e1 he1) (hlab e2 he2)).1 heq)
    omega
  · obtain ⟨hi1, hm1⟩ := circleIdx_spec spec (hlab a ha)
    obtain ⟨hi2, hm2⟩ := circleIdx_spec spec (hlab b hb)
    rw [hcol _ a hi1 hm1, hcol _ b hi2 hm2]
    have hpne : posLab n w a ≠ posLab n w b := fun hp =>
      hne ((circleIdx_eq_iff spec (hlab a ha) (hlab b hb)).2 (f2 a ha b hb hp))
    rcases f1 a ha with pa | pa <;> rcases f1 b hb with pb | pb
    · exact absurd (pa.trans pb.symm) hpne
    · rw [pa, pb]; exact par_ne _
    · rw [pa, pb]; exact (par_ne _).symm
    · exact absurd (pa.trans pb.symm) hpne

end closure

end Yuiv.C06Closure
