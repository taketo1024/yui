import Yuiv.Proofs.C04LocalPiece
import Mathlib.Tactic.LinearCombination
/-
C04Reid (helper, no property theorem here): Reidemeister I on PD codes.
`addKink` mirrors `harness/src/links.rs::add_kink`: the slot `(i, j)` of the diagram (the head of the edge `e = l[i].e[j]`)
receives the fresh label `u`, and a kink crossing with a second fresh label `v` for the loop is inserted at position `pos` of
the crossing list.  `kink_stateSum`: the state sum is multiplied by `1 + x·y` resp. `y + x`.
-/
open Yuiv.KhRef Yuiv.C04
namespace Yuiv.C04Inv

/-- collapse the labels `u`, `v` onto `e` -/
def collapse (e u v : Nat) (z : Nat) : Nat := if z = u ∨ z = v then e else z

theorem collapse_e (e u v : Nat) : collapse e u v e = e := by unfold collapse; split <;> rfl
theorem collapse_u (e u v : Nat) : collapse e u v u = e := by simp [collapse]
theorem collapse_other (e u v z : Nat) (h1 : z ≠ u) (h2 : z ≠ v) : collapse e u v z = z := by simp [collapse, h1, h2]

variable {R : Type} [CommRing R]

/-- the kink crossing of `add_kink`, shape `k` (0: `[e,v,v,u]`, 1: `[e,u,v,v]`, 2: `[v,e,u,v]`, otherwise
`[v,v,u,e]`); `e` = the edge that is split, `u` = its new second half, `v` = the loop -/
def kinkCrossing (k e u v : Nat) : Crossing :=
  ⟨.X, match k with
    | 0 => #[e, v, v, u]
    | 1 => #[e, u, v, v]
    | 2 => #[v, e, u, v]
    | _ => #[v, v, u, e]⟩

/-- sign of the kink: in shapes 0, 2 the strand comes back into the crossing through slot 1 (`slotSign .X 1 = -1`), in
shapes 1, 3 through slot 3 (`slotSign .X 3 = 1`) -/
def kinkSign (k : Nat) : Int := if k = 0 ∨ k = 2 then -1 else 1

/-- `out[hi][hj] = x` : the slot `(i, j)` receives the label `u` -/
def splitSlot (l : Link) (i j u : Nat) : Link := l.setIfInBounds i ⟨l[i]!.ct, l[i]!.e.setIfInBounds j u⟩

/-- `add_kink`: split the edge `e = l[i].e[j]` at its end `(i, j)` (new label `u`), insert the kink crossing of shape
`k` (loop label `v`) at position `pos` of the crossing list -/
def addKink (l : Link) (i j u v k pos : Nat) : Link :=
  ((splitSlot l i j u).toList.insertIdx pos (kinkCrossing k l[i]!.e[j]! u v)).toArray

theorem WF_splitSlot {l : Link} (hwf : WF l) {i : Nat} (hi : i < l.size) (j u : Nat) : WF (splitSlot l i j u) := by
  intro c hc
  rcases Array.mem_or_eq_of_mem_setIfInBounds hc with h | rfl
  · exact hwf c h
  · rw [Array.size_setIfInBounds, getElem!_pos l i hi]; exact hwf _ (Array.getElem_mem hi)

theorem labelSet_splitSlot {l : Link} {i : Nat} (hi : i < l.size) (j u : Nat) {z : Nat}
    (hz : z ∈ labelSet (splitSlot l i j u)) : z ∈ labelSet l ∨ z = u := by
  obtain ⟨c, hc, hzc⟩ := hz
  rcases Array.mem_or_eq_of_mem_setIfInBounds hc with h | rfl
  · exact Or.inl ⟨c, h, hzc⟩
  · rcases Array.mem_or_eq_of_mem_setIfInBounds hzc with h | h
    · rw [getElem!_pos l i hi] at h; exact Or.inl ⟨_, Array.getElem_mem hi, h⟩
    · exact Or.inr h

theorem renumber_fix (F : Nat → Nat) (l : Link) (h : ∀ z ∈ labelSet l, F z = z) : renumber F l = l := by
  apply Array.ext (by simp [renumber])
  intro k h1 h2
  simp only [renumber, Array.getElem_map]
  have : l[k].e.map F = l[k].e := by
    apply Array.ext (by simp)
    intro m h3 h4
    rw [Array.getElem_map]
    exact h _ ⟨l[k], Array.getElem_mem h2, Array.getElem_mem _⟩
  rw [this]

theorem renumber_splitSlot_gen (F : Nat → Nat) (l : Link) (i j u : Nat) (hF : F u = F l[i]!.e[j]!) :
    renumber F (splitSlot l i j u) = renumber F l := by
  apply Array.ext (by simp [renumber, splitSlot])
  intro k h1 h2
  have h2' : k < l.size := by simpa [renumber] using h2
  simp only [renumber, splitSlot, Array.getElem_map, Array.getElem_setIfInBounds h2']
  split
  · rename_i hik
    subst hik
    rw [getElem!_pos l i h2'] at hF ⊢
    congr 1
    apply Array.ext (by simp)
    intro m h3 h4
    have h4' : m < l[i].e.size := by simpa using h4
    rw [Array.getElem_map, Array.getElem_map, Array.getElem_setIfInBounds h4']
    split
    · rename_i hjm; subst hjm; rw [hF, getElem!_pos l[i].e j h4']
    · rfl
  · rfl

theorem renumber_splitSlot (l : Link) {i j u v : Nat} (hu : u ∉ labelSet l) (hv : v ∉ labelSet l) :
    renumber (collapse l[i]!.e[j]! u v) (splitSlot l i j u) = l := by
  rw [renumber_splitSlot_gen _ l i j u (by rw [collapse_u, collapse_e])]
  exact renumber_fix _ l (fun z hz => collapse_other _ _ _ z (fun h => hu (h ▸ hz)) (fun h => hv (h ▸ hz)))

theorem kink_mem (k e u v z : Nat) : z ∈ (kinkCrossing k e u v).e ↔ z = e ∨ z = u ∨ z = v := by
  unfold kinkCrossing
  split <;> simp <;> grind

theorem kink_size (k e u v : Nat) : (kinkCrossing k e u v).e.size = 4 := by
  unfold kinkCrossing
  split <;> rfl

/-- the factor by which a kink of shape `k` multiplies the state sum -/
def kinkFactor (x y : R) (k : Nat) : R := if k = 0 ∨ k = 2 then 1 + x * y else y + x

/-! The kink on formal symbols: `0 = e`, `1 = u` (boundary), `2 = v` (the loop). -/

def kinkT (k : Nat) : F4 :=
  match k with
  | 0 => (0, 2, 2, 1)
  | 1 => (0, 1, 2, 2)
  | 2 => (2, 0, 1, 2)
  | _ => (2, 2, 1, 0)

def rho3 (e u v : Nat) (k : Nat) : Nat := [e, u, v].getD k 0

theorem kinkCrossing_eq (k e u v : Nat) : kinkCrossing k e u v = pdX (map4 (rho3 e u v) (kinkT k)) := by
  rcases k with _ | _ | _ | n
  all_goals rfl

/-- the two smoothings of a kink: `e – u` joined through `v`, and `e – u` with the circle `v`; in the shapes 0, 2 the
0-resolution joins, in the shapes 1, 3 the 1-resolution -/
def certsJL : List Cert := [⟨[0, 1, 0], [(0, 1)], []⟩, ⟨[0, 1, 2], [(0, 1)], [2]⟩]
def certsLJ : List Cert := [⟨[0, 1, 2], [(0, 1)], [2]⟩, ⟨[0, 1, 0], [(0, 1)], []⟩]

theorem kink_stateSum (x y : R) {lm l' : Link} {e u v : Nat} (k : Nat) (hwf : WF lm)
    (hp : l'.toList.Perm (kinkCrossing k e u v :: lm.toList))
    (he : e ∈ labelSet (renumber (collapse e u v) lm)) (hv : v ∉ labelSet lm) (hve : v ≠ e) (hvu : v ≠ u) :
    stateSum x y l' = kinkFactor x y k * stateSum x y (renumber (collapse e u v) lm) := by
  have hinj : ∀ a ∈ [0, 1, 2], ∀ b ∈ [2], rho3 e u v a = rho3 e u v b → a = b := by
    intro a ha b hb hab
    simp only [List.mem_cons, List.not_mem_nil, or_false] at ha hb
    subst hb
    rcases ha with rfl | rfl | rfl
    · exact absurd hab.symm hve
    · exact absurd hab.symm hvu
    · rfl
  have hfresh : ∀ b ∈ [2], rho3 e u v b ∉ labelSet lm := by
    intro b hb
    rw [List.mem_singleton.1 hb]
    exact hv
  -- closing `lm` by the arc `e – u` is the collapsed diagram
  have hid : partSum ({z | z ∈ [rho3 e u v 0, rho3 e u v 1]} ∪ labelSet lm) x y lm 0 [pmap (rho3 e u v) (0, 1)]
      = stateSum x y (renumber (collapse e u v) lm) := by
    rw [labelSet_renumber] at he
    refine partSum_collapse x y _ _ _ lm hwf ?_ ?_ ?_
    · intro p hp
      rw [List.mem_singleton.1 hp]
      exact (collapse_e e u v).trans (collapse_u e u v).symm
    · intro z hz
      by_cases hzu : z = u
      · subst hzu
        rw [collapse_u]
        exact Conn.of_mem_symm (by simp [pmap, rho3])
      · by_cases hzv : z = v
        · subst hzv
          rcases hz with hz | hz
          · simp only [rho3, Set.mem_ofPred_eq, List.mem_cons, List.not_mem_nil, or_false, List.getD_cons_zero,
              List.getD_cons_succ] at hz
            exact hz.elim (fun h => absurd h hve) (fun h => absurd h hvu)
          · exact absurd hz hv
        · rw [collapse_other e u v z hzu hzv]
          exact Conn.refl _
    · intro z hz
      simp only [rho3, Set.mem_ofPred_eq, List.mem_cons, List.not_mem_nil, or_false, List.getD_cons_zero,
        List.getD_cons_succ] at hz
      rcases hz with rfl | rfl
      · rw [collapse_e]; exact he
      · rw [collapse_u]; exact he
  rw [kinkCrossing_eq] at hp
  have key := fun cs hok => local_expand x y (ρ := rho3 e u v) [0, 1, 2] [2] [0, 1] [kinkT k] cs hok hwf hinj hfresh hp
  rcases k with _ | _ | _ | n
  · rw [key certsJL (by decide +kernel)]
    simp only [kinkT, smooth, certsJL, List.map, List.zip, List.zipWith, List.sum_cons, List.sum_nil, List.length,
      List.cons_append, List.nil_append, hid, kinkFactor, true_or, if_true]
    ring
  · rw [key certsLJ (by decide +kernel)]
    simp only [kinkT, smooth, certsLJ, List.map, List.zip, List.zipWith, List.sum_cons, List.sum_nil, List.length,
      List.cons_append, List.nil_append, hid, kinkFactor, Nat.reduceAdd, OfNat.one_ne_ofNat, one_ne_zero, or_self, if_false]
    ring
  · rw [key certsJL (by decide +kernel)]
    simp only [kinkT, smooth, certsJL, List.map, List.zip, List.zipWith, List.sum_cons, List.sum_nil, List.length,
      List.cons_append, List.nil_append, hid, kinkFactor, Nat.reduceAdd, or_true, if_true]
    ring
  · have hk : ¬ (n + 1 + 1 + 1 = 0 ∨ n + 1 + 1 + 1 = 2) := by omega
    rw [show kinkT (n + 1 + 1 + 1) = (2, 2, 1, 0) from rfl] at key
    rw [key certsLJ (by decide +kernel)]
    simp only [smooth, certsLJ, List.map, List.zip, List.zipWith, List.sum_cons, List.sum_nil, List.length,
      List.cons_append, List.nil_append, hid, kinkFactor, hk, if_false]
    ring

theorem addKink_perm (l : Link) (i j u v k pos : Nat) (hpos : pos ≤ l.size) :
    (addKink l i j u v k pos).toList.Perm (kinkCrossing k l[i]!.e[j]! u v :: (splitSlot l i j u).toList) := by
  unfold addKink
  exact List.perm_insertIdx _ _ (by simp [splitSlot, hpos])

theorem addKink_stateSum (x y : R) (l : Link) (hwf : WF l) {i j u v : Nat} (k : Nat) {pos : Nat}
    (hi : i < l.size) (hj : j < 4) (hu : u ∉ labelSet l) (hv : v ∉ labelSet l) (huv : u ≠ v) (hpos : pos ≤ l.size) :
    stateSum x y (addKink l i j u v k pos) = kinkFactor x y k * stateSum x y l := by
  have h4 : l[i].e.size = 4 := hwf _ (Array.getElem_mem hi)
  have hel : l[i]!.e[j]! ∈ labelSet l := by
    rw [getElem!_pos l i hi, getElem!_pos l[i].e j (by omega)]
    exact ⟨l[i], Array.getElem_mem hi, Array.getElem_mem _⟩
  have hren := renumber_splitSlot l (i := i) (j := j) hu hv
  have hvu : v ≠ u := fun h => huv h.symm
  have hve : v ≠ l[i]!.e[j]! := fun h => hv (h ▸ hel)
  have hvm : v ∉ labelSet (splitSlot l i j u) := fun h => (labelSet_splitSlot hi j u h).elim hv hvu
  have hp := addKink_perm l i j u v k pos hpos
  have he : l[i]!.e[j]! ∈ labelSet (renumber (collapse l[i]!.e[j]! u v) (splitSlot l i j u)) := by rw [hren]; exact hel
  rw [kink_stateSum x y k (WF_splitSlot hwf hi j u) hp he hvm hve hvu, hren]

set_option linter.unusedVariables false in -- `hwf`, `hi` are not needed
theorem crossingNum_addKink (l : Link) (hwf : WF l) {i j u v : Nat} (k : Nat) {pos : Nat}
    (hi : i < l.size) (hu : u ∉ labelSet l) (hv : v ∉ labelSet l) (hpos : pos ≤ l.size) :
    crossingNum (addKink l i j u v k pos) = crossingNum l + 1 := by
  have hren := renumber_splitSlot l (i := i) (j := j) hu hv
  rw [crossingNum_eq, nUnres_perm (addKink_perm l i j u v k pos hpos)]
  conv_rhs => rw [← hren, crossingNum_renumber, crossingNum_eq]
  rfl

theorem prefactor_neg (q qinv : R) (hq : q * qinv = 1) (nPos nNeg : Nat) :
    npow (-1 : R) (nNeg + 1) * zpow q qinv ((nPos : Int) - 2 * ((nNeg + 1 : Nat) : Int)) * (1 + (-q) * (q + qinv))
      = npow (-1 : R) nNeg * zpow q qinv ((nPos : Int) - 2 * nNeg) := by
  have e : ((nPos : Int) - 2 * ((nNeg + 1 : Nat) : Int)) = ((nPos : Int) - 2 * nNeg) + (-2) := by push_cast; ring
  have h2 : zpow q qinv (-2) = qinv ^ 2 := by show npow qinv 2 = _; exact npow_eq _ _
  rw [e, zpow_add' q qinv hq, h2, npow_eq, npow_eq, pow_succ]
  have key : qinv ^ 2 * (1 + -q * (q + qinv)) = -1 := by
    have : qinv ^ 2 * (1 + -q * (q + qinv)) = qinv ^ 2 - (q * qinv) ^ 2 - (q * qinv) * qinv ^ 2 := by ring
    rw [this, hq]; ring
  linear_combination (-((-1 : R) ^ nNeg) * zpow q qinv ((nPos : Int) - 2 * nNeg)) * key

theorem prefactor_pos (q qinv : R) (hq : q * qinv = 1) (nPos nNeg : Nat) :
    npow (-1 : R) nNeg * zpow q qinv (((nPos + 1 : Nat) : Int) - 2 * nNeg) * ((q + qinv) + (-q))
      = npow (-1 : R) nNeg * zpow q qinv ((nPos : Int) - 2 * nNeg) := by
  have e : (((nPos + 1 : Nat) : Int) - 2 * (nNeg : Int)) = ((nPos : Int) - 2 * nNeg) + 1 := by push_cast; ring
  rw [e, zpow_add' q qinv hq, zpow_one', npow_eq]
  linear_combination ((-1 : R) ^ nNeg * zpow q qinv ((nPos : Int) - 2 * nNeg)) * hq

/-- number of positive / negative crossings contributed by a kink of shape `k` -/
def kinkPos (k : Nat) : Nat := if k = 0 ∨ k = 2 then 0 else 1
def kinkNeg (k : Nat) : Nat := if k = 0 ∨ k = 2 then 1 else 0

theorem prefactor_kink (q qinv : R) (hq : q * qinv = 1) (nPos nNeg k : Nat) :
    npow (-1 : R) (nNeg + kinkNeg k) * zpow q qinv (((nPos + kinkPos k : Nat) : Int) - 2 * ((nNeg + kinkNeg k : Nat) : Int))
        * kinkFactor (-q) (q + qinv) k
      = npow (-1 : R) nNeg * zpow q qinv ((nPos : Int) - 2 * nNeg) := by
  unfold kinkFactor kinkPos kinkNeg
  split
  · exact prefactor_neg q qinv hq nPos nNeg
  · exact prefactor_pos q qinv hq nPos nNeg

end Yuiv.C04Inv
