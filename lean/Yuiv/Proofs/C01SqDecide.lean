import Yuiv.Proofs.C01SqFaceGeom
/-
A DECIDABLE per-face check.

`goodFace cs00 cs10 cs01 cs11 : Bool` reads the descriptors of the four edges of a face off the circle lists
(`descOf`, the same gone / born computation as `C02Mirror.edgeTerms`) and compares a handful of circle NAMES with the
commuting patterns of `C01SqFaceAlg` (disjoint, same intermediate circles, 3→1, 1→3, Frobenius, genus), up to the order of
the two gone (born) names of each edge and up to exchanging the two paths.

The check is SOUND for arbitrary duplicate-free circle lists (no geometry needed); it is not claimed complete here (that
every face of the cube of a valid diagram passes is `face_of_sq` on the level of `Face`; on the level of `goodFace` it is
what the driver observes per instance).
-/
namespace Yuiv.C01Sq
open Yuiv Yuiv.KhRef Yuiv.C02Mirror

/-- the descriptor of the edge `cs → cs'` read off the gone/born circles (`none`: not a merge/split) -/
def descOf (cs cs' : Circ) : Option Edge :=
  let gone := goneOf cs cs'
  let born := goneOf cs' cs
  if gone.size == 2 && born.size == 1 then
    some (.merge cs[gone[0]!]! cs[gone[1]!]! cs'[born[0]!]!)
  else if gone.size == 1 && born.size == 2 then
    some (.split cs[gone[0]!]! cs'[born[0]!]! cs'[born[1]!]!)
  else none

theorem isEdge_descOf {cs cs' : Circ} (hP : Pair cs cs') {e : Edge} (h : descOf cs cs' = some e) :
    IsEdge cs cs' e := by
  unfold descOf at h
  simp only at h
  split at h
  · rename_i hc
    rw [Bool.and_eq_true, beq_iff_eq, beq_iff_eq] at hc
    cases h
    exact isEdge_merge hP (KhRef.eq_of_size_two _ hc.1) (KhRef.eq_of_size_one _ hc.2)
  · split at h
    · rename_i hc
      rw [Bool.and_eq_true, beq_iff_eq, beq_iff_eq] at hc
      cases h
      exact isEdge_split hP (KhRef.eq_of_size_one _ hc.1) (KhRef.eq_of_size_two _ hc.2)
    · cases h

/-- the edge descriptor and the one with the two gone (born) names exchanged -/
def variants : Edge → List Edge
  | .merge g0 g1 b => [.merge g0 g1 b, .merge g1 g0 b]
  | .split g b0 b1 => [.split g b0 b1, .split g b1 b0]

theorem isEdge_variant {cs cs' : Circ} {e v : Edge} (he : IsEdge cs cs' e) (hv : v ∈ variants e) :
    IsEdge cs cs' v := by
  cases e with
  | merge g0 g1 b =>
    have R : MergeRel cs cs' g0 g1 b := he
    simp only [variants, List.mem_cons, List.not_mem_nil, or_false] at hv
    rcases hv with rfl | rfl
    · exact R
    · exact R.swap
  | split g b0 b1 =>
    have R : MergeRel cs' cs b0 b1 g := he
    simp only [variants, List.mem_cons, List.not_mem_nil, or_false] at hv
    rcases hv with rfl | rfl
    · exact R
    · exact R.swap

def eqE : Edge → Edge → Bool
  | .merge g0 g1 b, .merge g0' g1' b' => g0 == g0' && g1 == g1' && b == b'
  | .split g b0 b1, .split g' b0' b1' => g == g' && b0 == b0' && b1 == b1'
  | _, _ => false

theorem eq_of_eqE {e e' : Edge} (h : eqE e e' = true) : e = e' := by
  cases e <;> cases e' <;> simp only [eqE, Bool.and_eq_true, beq_iff_eq, Bool.false_eq_true] at h
  · obtain ⟨⟨rfl, rfl⟩, rfl⟩ := h; rfl
  · obtain ⟨⟨rfl, rfl⟩, rfl⟩ := h; rfl

/-! ### the patterns (argument order as in `Face`: `ea0 : 00 → 10`, `eb1 : 10 → 11`, `eb0 : 00 → 01`, `ea1 : 01 → 11`) -/

/-- the two crossings act on disjoint sets of circles: the same descriptor on parallel edges -/
def patDisj (ea0 eb1 eb0 ea1 : Edge) : Bool := eqE ea1 ea0 && eqE eb1 eb0

/-- same intermediate circle list: the same descriptors along both paths -/
def patSame (ea0 eb1 eb0 ea1 : Edge) : Bool := eqE eb0 ea0 && eqE ea1 eb1

/-- `A, B ↦ P`, `B, C ↦ Q`, then `P, C ↦ R` resp. `A, Q ↦ R` -/
def pat31 : Edge → Edge → Edge → Edge → Bool
  | .merge A B P, .merge P' C R, .merge B' C' Q, .merge A' Q' R' =>
    P' == P && B' == B && C' == C && A' == A && Q' == Q && R' == R
  | _, _, _, _ => false

/-- `R ↦ P, C`, `R ↦ A, Q`, then `P ↦ A, B` resp. `Q ↦ B, C` -/
def pat13 : Edge → Edge → Edge → Edge → Bool
  | .split R P C, .split P' A B, .split R' A' Q, .split Q' B' C' =>
    P' == P && R' == R && A' == A && Q' == Q && B' == B && C' == C
  | _, _, _, _ => false

/-- `C1, C2 ↦ P`, `C1 ↦ D1, D2`, then `P ↦ F, D2` resp. `D1, C2 ↦ F` -/
def patFrob : Edge → Edge → Edge → Edge → Bool
  | .merge C1 C2 P, .split P' F D2, .split C1' D1 D2', .merge D1' C2' F' =>
    P' == P && C1' == C1 && D2' == D2 && D1' == D1 && C2' == C2 && F' == F
  | _, _, _, _ => false

/-- `R ↦ P1, P2`, `R ↦ Q1, Q2`, then `P1, P2 ↦ R'` resp. `Q1, Q2 ↦ R'` -/
def pat11 : Edge → Edge → Edge → Edge → Bool
  | .split R P1 P2, .merge P1' P2' R', .split R2 Q1 Q2, .merge Q1' Q2' R2' =>
    P1' == P1 && P2' == P2 && R2 == R && Q1' == Q1 && Q2' == Q2 && R2' == R'
  | _, _, _, _ => false

def sameMem (cs cs' : Circ) : Bool := cs.all (fun c => cs'.contains c) && cs'.all (fun c => cs.contains c)

theorem sameMem_iff {cs cs' : Circ} (h : sameMem cs cs' = true) : ∀ c, c ∈ cs ↔ c ∈ cs' := by
  unfold sameMem at h
  rw [Bool.and_eq_true, Array.all_eq_true_iff_forall_mem, Array.all_eq_true_iff_forall_mem] at h
  intro c
  constructor
  · intro hc; simpa using h.1 c hc
  · intro hc; simpa using h.2 c hc

/-- one orientation of the check -/
def goodFace1 (cs00 cs10 cs01 cs11 : Circ) : Bool :=
  match descOf cs00 cs10, descOf cs10 cs11, descOf cs00 cs01, descOf cs01 cs11 with
  | some ea0, some eb1, some eb0, some ea1 =>
    (variants ea0).any fun v0 => (variants eb1).any fun v1 => (variants eb0).any fun v2 => (variants ea1).any fun v3 =>
      patDisj v0 v1 v2 v3 || pat31 v0 v1 v2 v3 || pat13 v0 v1 v2 v3 || patFrob v0 v1 v2 v3 || pat11 v0 v1 v2 v3 ||
        (sameMem cs10 cs01 && patSame v0 v1 v2 v3)
  | _, _, _, _ => false

/-- executable check: the face `cs00 → cs10 → cs11`, `cs00 → cs01 → cs11` matches one of the commuting patterns
(disjoint / same intermediate circles / 3→1 / 1→3 / Frobenius in both orientations / genus), up to the order of the
two gone resp. born names of each edge -/
def goodFace (cs00 cs10 cs01 cs11 : Circ) : Bool :=
  goodFace1 cs00 cs10 cs01 cs11 || goodFace1 cs00 cs01 cs10 cs11

section pats
variable {cs00 cs10 cs01 cs11 : Circ} {ea0 eb1 eb0 ea1 : Edge} (h0 : IsEdge cs00 cs10 ea0) (h1 : IsEdge cs10 cs11 eb1)
  (h2 : IsEdge cs00 cs01 eb0) (h3 : IsEdge cs01 cs11 ea1)
include h0 h1 h2 h3

theorem face_of_patDisj (h : patDisj ea0 eb1 eb0 ea1 = true) : Face cs00 cs10 cs01 cs11 := by
  unfold patDisj at h
  rw [Bool.and_eq_true] at h
  obtain ⟨e1, e2⟩ := h
  have e1 := eq_of_eqE e1
  have e2 := eq_of_eqE e2
  subst e1 e2
  exact Face.disjoint ea1 eb1 h0 h2 h1 h3

theorem face_of_patSame (hm : sameMem cs10 cs01 = true) (h : patSame ea0 eb1 eb0 ea1 = true) :
    Face cs00 cs10 cs01 cs11 := by
  unfold patSame at h
  rw [Bool.and_eq_true] at h
  obtain ⟨e1, e2⟩ := h
  have e1 := eq_of_eqE e1
  have e2 := eq_of_eqE e2
  subst e1 e2
  exact Face.same eb0 ea1 h0 h1 h2 h3 (sameMem_iff hm)

theorem face_of_pat31 (h : pat31 ea0 eb1 eb0 ea1 = true) : Face cs00 cs10 cs01 cs11 := by
  cases ea0 <;> cases eb1 <;> cases eb0 <;> cases ea1 <;>
    simp only [pat31, Bool.and_eq_true, beq_iff_eq, Bool.false_eq_true] at h
  obtain ⟨⟨⟨⟨⟨rfl, rfl⟩, rfl⟩, rfl⟩, rfl⟩, rfl⟩ := h
  exact Face.of_31 h0 h2 h1 h3

theorem face_of_pat13 (h : pat13 ea0 eb1 eb0 ea1 = true) : Face cs00 cs10 cs01 cs11 := by
  cases ea0 <;> cases eb1 <;> cases eb0 <;> cases ea1 <;>
    simp only [pat13, Bool.and_eq_true, beq_iff_eq, Bool.false_eq_true] at h
  obtain ⟨⟨⟨⟨⟨rfl, rfl⟩, rfl⟩, rfl⟩, rfl⟩, rfl⟩ := h
  exact Face.of_13 h0 h2 h1 h3

theorem face_of_patFrob (h : patFrob ea0 eb1 eb0 ea1 = true) : Face cs00 cs10 cs01 cs11 := by
  cases ea0 <;> cases eb1 <;> cases eb0 <;> cases ea1 <;>
    simp only [patFrob, Bool.and_eq_true, beq_iff_eq, Bool.false_eq_true] at h
  obtain ⟨⟨⟨⟨⟨rfl, rfl⟩, rfl⟩, rfl⟩, rfl⟩, rfl⟩ := h
  exact Face.frob h0 h2 h1 h3

theorem face_of_pat11 (h : pat11 ea0 eb1 eb0 ea1 = true) : Face cs00 cs10 cs01 cs11 := by
  cases ea0 <;> cases eb1 <;> cases eb0 <;> cases ea1 <;>
    simp only [pat11, Bool.and_eq_true, beq_iff_eq, Bool.false_eq_true] at h
  obtain ⟨⟨⟨⟨⟨rfl, rfl⟩, rfl⟩, rfl⟩, rfl⟩, rfl⟩ := h
  exact Face.of_11 h0 h2 h1 h3

end pats

theorem face_of_goodFace1 {cs00 cs10 cs01 cs11 : Circ} (p0010 : Pair cs00 cs10) (p1011 : Pair cs10 cs11)
    (p0001 : Pair cs00 cs01) (p0111 : Pair cs01 cs11) (h : goodFace1 cs00 cs10 cs01 cs11 = true) :
    Face cs00 cs10 cs01 cs11 := by
  unfold goodFace1 at h
  split at h
  · rename_i ea0 eb1 eb0 ea1 d0 d1 d2 d3
    rw [List.any_eq_true] at h
    obtain ⟨v0, m0, h⟩ := h
    rw [List.any_eq_true] at h
    obtain ⟨v1, m1, h⟩ := h
    rw [List.any_eq_true] at h
    obtain ⟨v2, m2, h⟩ := h
    rw [List.any_eq_true] at h
    obtain ⟨v3, m3, h⟩ := h
    have h0 := isEdge_variant (isEdge_descOf p0010 d0) m0
    have h1 := isEdge_variant (isEdge_descOf p1011 d1) m1
    have h2 := isEdge_variant (isEdge_descOf p0001 d2) m2
    have h3 := isEdge_variant (isEdge_descOf p0111 d3) m3
    simp only [Bool.or_eq_true, Bool.and_eq_true] at h
    rcases h with ((((h | h) | h) | h) | h) | ⟨hm, h⟩
    · exact face_of_patDisj h0 h1 h2 h3 h
    · exact face_of_pat31 h0 h1 h2 h3 h
    · exact face_of_pat13 h0 h1 h2 h3 h
    · exact face_of_patFrob h0 h1 h2 h3 h
    · exact face_of_pat11 h0 h1 h2 h3 h
    · exact face_of_patSame h0 h1 h2 h3 hm h
  · cases h

theorem face_of_goodFace {cs00 cs10 cs01 cs11 : Circ} (p0010 : Pair cs00 cs10) (p1011 : Pair cs10 cs11)
    (p0001 : Pair cs00 cs01) (p0111 : Pair cs01 cs11) (h : goodFace cs00 cs10 cs01 cs11 = true) :
    Face cs00 cs10 cs01 cs11 := by
  unfold goodFace at h
  rw [Bool.or_eq_true] at h
  rcases h with h | h
  · exact face_of_goodFace1 p0010 p1011 p0001 p0111 h
  · exact (face_of_goodFace1 p0001 p0111 p0010 p1011 h).symm

theorem square_commutes_decidable' {cs00 cs10 cs01 cs11 : Circ} (p0010 : Pair cs00 cs10) (p1011 : Pair cs10 cs11)
    (p0001 : Pair cs00 cs01) (p0111 : Pair cs01 cs11) (h : goodFace cs00 cs10 cs01 cs11 = true)
    (hh t : Int) (m m'' : Nat) :
    pathSum hh t cs00 cs10 cs11 m m'' = pathSum hh t cs00 cs01 cs11 m m'' :=
  pathSum_comm_of_face (face_of_goodFace p0010 p1011 p0001 p0111 h) p0010 p1011 p0001 p0111 hh t m m''

def goodCube (c : Cube) : Bool :=
  (List.range (2 ^ c.n)).all fun s => (List.range c.n).all fun a => (List.range c.n).all fun b =>
    (a == b || s.testBit a || s.testBit b) ||
      goodFace c.circ[s]! c.circ[s ||| 1 <<< a]! c.circ[s ||| 1 <<< b]! c.circ[(s ||| 1 <<< a) ||| 1 <<< b]!

theorem faceComm_of_goodCube (c : Cube) (p : Params)
    (hP : ∀ s s', s < 2 ^ c.n → s' < 2 ^ c.n → Pair c.circ[s]! c.circ[s']!)
    (h : goodCube c = true) : FaceComm c p := by
  intro s a b hs ha hb hab hba hbb m m''
  unfold goodCube at h
  rw [List.all_eq_true] at h
  have h := h s (List.mem_range.2 hs)
  rw [List.all_eq_true] at h
  have h := h a (List.mem_range.2 ha)
  rw [List.all_eq_true] at h
  have h := h b (List.mem_range.2 hb)
  have hne : (a == b) = false := by simpa using hab
  rw [hne, hba, hbb] at h
  simp only [Bool.or_self, Bool.false_or] at h
  have hs10 := KhRef.or_bit_lt hs ha
  have hs01 := KhRef.or_bit_lt hs hb
  have hs11 := KhRef.or_bit_lt hs10 hb
  exact square_commutes_decidable' (hP _ _ hs hs10) (hP _ _ hs10 hs11) (hP _ _ hs hs01) (hP _ _ hs01 hs11) h
    p.h p.t m m''

theorem goodFace_symm (cs00 cs10 cs01 cs11 : Circ) : goodFace cs00 cs10 cs01 cs11 = goodFace cs00 cs01 cs10 cs11 :=
  Bool.or_comm _ _

/-- `goodCube` with every face tested once (`a < b`) -/
def goodCubeHalf (c : Cube) : Bool :=
  (List.range (2 ^ c.n)).all fun s => (List.range c.n).all fun a => (List.range c.n).all fun b =>
    (!decide (a < b) || s.testBit a || s.testBit b) ||
      goodFace c.circ[s]! c.circ[s ||| 1 <<< a]! c.circ[s ||| 1 <<< b]! c.circ[(s ||| 1 <<< a) ||| 1 <<< b]!

theorem goodCube_of_half (c : Cube) (h : goodCubeHalf c = true) : goodCube c = true := by
  unfold goodCubeHalf at h
  unfold goodCube
  simp only [List.all_eq_true, List.mem_range, Bool.or_eq_true, Bool.not_eq_true', decide_eq_false_iff_not,
    beq_iff_eq] at h ⊢
  intro s hs a ha b hb
  rcases Nat.lt_trichotomy a b with hab | hab | hab
  · rcases h s hs a ha b hb with ((h1 | h1) | h1) | h1
    · exact absurd hab h1
    · exact Or.inl (Or.inl (Or.inr h1))
    · exact Or.inl (Or.inr h1)
    · exact Or.inr h1
  · exact Or.inl (Or.inl (Or.inl hab))
  · rcases h s hs b hb a ha with ((h1 | h1) | h1) | h1
    · exact absurd hab h1
    · exact Or.inl (Or.inr h1)
    · exact Or.inl (Or.inl (Or.inr h1))
    · rw [goodFace_symm, ← or_or_comm s a b]
      exact Or.inr h1

/-- three circles, two merges sharing the middle one (pattern 3→1) -/
example : goodFace #[#[1], #[2], #[3]] #[#[1, 2], #[3]] #[#[1], #[2, 3]] #[#[1, 2, 3]] = true := by decide +kernel

/-- a "face" that does NOT commute (merge `1,2` then split it again vs. merge `2,3` then split it again) is rejected -/
example : goodFace #[#[1], #[2], #[3]] #[#[1, 2], #[3]] #[#[1], #[2, 3]] #[#[1], #[2], #[3]] = false := by decide +kernel

/-- every pattern occurs: disjoint, same intermediate list, Frobenius (both orientations), genus, 1→3 -/
example :
    goodFace #[#[1], #[2], #[3], #[4]] #[#[1, 2], #[3], #[4]] #[#[1], #[2], #[3, 4]] #[#[1, 2], #[3, 4]] = true ∧
    goodFace #[#[1], #[2]] #[#[1, 2]] #[#[1, 2]] #[#[1], #[2]] = true ∧
    goodFace #[#[1, 2], #[3]] #[#[1, 2, 3]] #[#[1], #[2], #[3]] #[#[1, 3], #[2]] = true ∧
    goodFace #[#[1, 2], #[3]] #[#[1], #[2], #[3]] #[#[1, 2, 3]] #[#[1, 3], #[2]] = true ∧
    goodFace #[#[1, 2, 3, 4]] #[#[1, 2], #[3, 4]] #[#[1, 4], #[2, 3]] #[#[1, 2, 3, 4]] = true ∧
    goodFace #[#[1, 2, 3]] #[#[1, 2], #[3]] #[#[1], #[2, 3]] #[#[1], #[2], #[3]] = true := by decide +kernel

/-- a one-face cube (state `s = a + 2 b`) passes / fails the cube check -/
example : goodCube ⟨2, #[#[#[1], #[2], #[3]], #[#[1, 2], #[3]], #[#[1], #[2, 3]], #[#[1, 2, 3]]], none⟩ = true ∧
    goodCube ⟨2, #[#[#[1], #[2], #[3]], #[#[1, 2], #[3]], #[#[1], #[2, 3]], #[#[1], #[2], #[3]]], none⟩ = false := by
  decide +kernel

end Yuiv.C01Sq
