import Yuiv.Props.C09Euc
import Yuiv.Proofs.C09EucPoly
import Yuiv.Proofs.C09EucEis
/-
C09 — two more instances of the abstract Smith-normal-form theorems of `Props/C09Euc.lean`
(`snf_shape_euc`, `snf_terminates_euc`, `snf_never_panics_euc`, `snf_total_correct_euc`):

 * polynomials in one variable over ANY field `F` with decidable equality (`polyOps F`, coefficient lists,
   `Proofs/C09EucPoly.lean`, following `yui/src/types/poly/poly.rs`: long division `div_rem`, `normalizing_unit` =
   inverse of the leading coefficient, units = non-zero constants, `size = deg + 1`), specialised to `ℚ`, `ZMod p`;
 * the Eisenstein integers ℤ[ω] (`eisOps`, `Proofs/C09EucEis.lean`, following `yui/src/types/qint.rs`, `D = -3`:
   coordinatewise rounding division, the sextant `normalizing_unit` table, units = norm 1).
Both use the generic `EucRing::gcdx` (`genGcdx`, `generic_gcdx_lawful`).  Neither record is part of
`Model/C09.lean` / the driver.  Only property theorems here.
-/
namespace Yuiv.C09
open Yuiv Matrix Polynomial

variable {m n : Nat}

section poly
variable {F : Type} [Field F] [DecidableEq F]

/-- `Poly::div_rem` (the `for` loop of single leading-term eliminations) is a Euclidean division: for `g ≠ 0`,
`f = q·g + r` with `r = 0` or `deg r < deg g` (`size = deg + 1`, `size 0 = 0`) -/
theorem poly_div_rem_spec (f g : List F) (hg : pφ g ≠ 0) :
    pφ f = pφ (pDivRem f g).1 * pφ g + pφ (pDivRem f g).2 ∧ pSize (pDivRem f g).2 < pSize g :=
  pDivRem_spec f g hg

/-- the list functions compute degree and leading coefficient of the denoted polynomial -/
theorem poly_size_lead (l : List F) :
    pSize l = (if pφ l = 0 then 0 else (pφ l).natDegree + 1) ∧ pLead l = (pφ l).leadingCoeff :=
  ⟨pSize_eq l, pLead_eq l⟩

/-- polynomials over a field are a lawful Euclidean operation record -/
theorem poly_lawfulEuc : LawfulEuc (polyOps F) (pφ (F := F)) := lawfulEuc_poly

/-- … in particular over ℚ -/
theorem poly_rat_lawfulEuc : LawfulEuc (polyOps ℚ) (pφ (F := ℚ)) := lawfulEuc_poly

/-- … and over 𝔽_p -/
theorem poly_zmod_lawfulEuc (p : Nat) [Fact p.Prime] : LawfulEuc (polyOps (ZMod p)) (pφ (F := ZMod p)) :=
  lawfulEuc_poly

/-- "normalised" for polynomials means zero or monic -/
theorem poly_normalised_iff (a : List F) : pφ ((polyOps F).normUnit a) = 1 ↔ pφ a = 0 ∨ (pφ a).Monic :=
  poly_norm_iff a

/-- over `F[x]`: with enough fuel the model returns `D = P·A·Q`,
`P·P⁻¹ = Q·Q⁻¹ = 1`, `D` accepted by the checker (diagonal, non-zero entries first, each dividing the next), and
every diagonal entry is zero or monic -/
theorem snf_total_correct_poly (A : Mat (List F) m n) :
    ∃ N s, (∀ fuel, N ≤ fuel → snfCalc (polyOps F) true (fun s => .ok s) fuel A = .ok s) ∧
      (toM pφ s.p * toM pφ A * toM pφ s.q = toM pφ s.t ∧ toM pφ s.p * toM pφ s.pinv = 1 ∧
        toM pφ s.q * toM pφ s.qinv = 1) ∧
      isSnfShape (polyOps F) s.t = true ∧
      ∀ x ∈ diagL s.t, pφ x = 0 ∨ (pφ x).Monic := by
  obtain ⟨N, s, h1, h2, _⟩ := snf_total_correct_euc (lawfulEuc_poly (F := F)) A
  have hs := snf_shape_euc (lawfulEuc_poly (F := F)) true _ N A s (h1 N (Nat.le_refl _))
  refine ⟨N, s, h1, h2, hs, ?_⟩
  intro x hx
  rcases isSnfShape_mem (lawfulEuc_poly (F := F)).toLawfulEucBase _ hs x hx with h | h
  · exact Or.inl h
  · exact (poly_norm_iff x).1 h

/-- the full mathematical statement over `F[x]` -/
theorem snf_shape_spec_poly (dbg : Bool) (pre : St (List F) m n → Res (St (List F) m n)) (fuel : Nat)
    (A : Mat (List F) m n) (s : St (List F) m n) (h : snfCalc (polyOps F) dbg pre fuel A = .ok s) :
    (∀ (i : Fin m) (j : Fin n), i.1 ≠ j.1 → pφ (s.t.get i j) = 0) ∧
      ShapeSpec (fun x : F[X] => x.Monic) ((diagL s.t).map pφ) := by
  obtain ⟨h1, r, hr, k1, k2, k3⟩ := snf_shape_spec_euc (lawfulEuc_poly (F := F)) dbg pre fuel A s h
  refine ⟨h1, r, hr, ?_, k2, k3⟩
  intro i hi hir
  obtain ⟨a1, a, ha, hn⟩ := k1 i hi hir
  refine ⟨a1, ?_⟩
  rcases (poly_norm_iff a).1 hn with h0 | h0
  · exact absurd (ha ▸ h0) a1
  · exact ha ▸ h0

end poly

/-- the coordinatewise rounding division of `EisenInt` (`[(x+y)/N], [y/N]` in the basis `1, ω − 1`) IS Euclidean:
`N(z − w·[z/w]) ≤ (3/4)·N(w)` for `w ≠ 0` -/
theorem eisenstein_rem_bound (a b : Int × Int) (hb : 0 < eNorm b) :
    4 * eNorm (eisOps.rem a b) ≤ 3 * eNorm b := eis_rem_norm a b hb

/-- the Eisenstein integers are a lawful Euclidean operation record -/
theorem eisenstein_lawfulEuc : LawfulEuc eisOps eφ := lawfulEuc_eis

/-- "normalised" in ℤ[ω]: the sextant `re > 0, im ≥ 0` (coordinates w.r.t. `1, ω`), or zero -/
theorem eisenstein_normalised_iff (z : Int × Int) :
    eφ (eisOps.normUnit z) = 1 ↔ (0 < z.1 ∧ 0 ≤ z.2) ∨ (z.1 = 0 ∧ z.2 = 0) := eNormUnit_eq_one z

/-- over ℤ[ω]: with enough fuel the model returns `D = P·A·Q`,
`P·P⁻¹ = Q·Q⁻¹ = 1`, `D` accepted by the checker, with the non-zero diagonal entries in the sextant
`re > 0, im ≥ 0` -/
theorem snf_total_correct_eisenstein (A : Mat (Int × Int) m n) :
    ∃ N s, (∀ fuel, N ≤ fuel → snfCalc eisOps true (fun s => .ok s) fuel A = .ok s) ∧
      (toM eφ s.p * toM eφ A * toM eφ s.q = toM eφ s.t ∧ toM eφ s.p * toM eφ s.pinv = 1 ∧
        toM eφ s.q * toM eφ s.qinv = 1) ∧
      isSnfShape eisOps s.t = true ∧
      ∀ x ∈ diagL s.t, (0 < x.1 ∧ 0 ≤ x.2) ∨ x = (0, 0) := by
  obtain ⟨N, s, h1, h2, _⟩ := snf_total_correct_euc lawfulEuc_eis A
  have hs := snf_shape_euc lawfulEuc_eis true _ N A s (h1 N (Nat.le_refl _))
  refine ⟨N, s, h1, h2, hs, ?_⟩
  intro x hx
  rcases isSnfShape_mem lawfulEuc_eis.toLawfulEucBase _ hs x hx with h | h
  · exact Or.inr (eφ_inj h)
  · rcases (eNormUnit_eq_one x).1 h with h' | h'
    · exact Or.inl h'
    · exact Or.inr (Prod.ext h'.1 h'.2)

/-- over ℚ[x] the model returns on `[[x, 1], [0, x]]`, with diagonal `(1, x²)` -/
example : (match snfCalc (polyOps ℚ) true (fun s => .ok s) 50
      (⟨#v[#v[[0, 1], [1]], #v[[], [0, 1]]]⟩ : Mat (List ℚ) 2 2) with
    | .ok s => diagL s.t == [[1], [0, 0, 1]] && isSnfShape (polyOps ℚ) s.t
    | _ => false) = true := by decide +kernel

/-- a less trivial one: `[[2x, 3x²], [1 + x, x]] ↦ diag(1, x³ + x²/3)` -/
example : (match snfCalc (polyOps ℚ) true (fun s => .ok s) 50
      (⟨#v[#v[[0, 2], [0, 0, 3]], #v[[1, 1], [0, 1]]]⟩ : Mat (List ℚ) 2 2) with
    | .ok s => diagL s.t == [[1], [0, 0, 1 / 3, 1]] && isSnfShape (polyOps ℚ) s.t
    | _ => false) = true := by decide +kernel

/-- over ℤ[ω] the model returns on `[[2+ω, 3], [0, 1−2ω]]`, with diagonal `(1, 1+4ω)` (norm 21 = |det|²-norm) -/
example : (match snfCalc eisOps true (fun s => .ok s) 50
      (⟨#v[#v[(2, 1), (3, 0)], #v[(0, 0), (1, -2)]]⟩ : Mat (Int × Int) 2 2) with
    | .ok s => diagL s.t == [(1, 0), (1, 4)] && isSnfShape eisOps s.t
    | _ => false) = true := by decide +kernel

/-- the division bound is attained up to rounding: `3 / (2 + 0ω)`, remainder of norm `1 ≤ (3/4)·4` -/
example : eisOps.rem (3, 0) (2, 0) = (-1, 0) ∧ eNorm (2, 0) = 4 := by decide

end Yuiv.C09
