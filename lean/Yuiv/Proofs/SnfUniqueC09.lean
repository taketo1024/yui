import Yuiv.Proofs.SnfUniqueRank
import Yuiv.Props.C09Full
/-
Bridge between the uniqueness theorem of `Proofs/SnfUnique.lean` (Mathlib matrices over ℤ) and the objects of the C09
framework: the model's sized matrices `C09.Mat Int m n`, their Mathlib image `toM id`, the diagonal list `diagL` and the
shape predicate `ShapeSpec` in which `C09.snf_total_correct` / `C09.snf_correct` state the Smith shape.
-/
namespace Yuiv.C09
open Yuiv Matrix Yuiv.SnfUnique

variable {m n : Nat}

/-- `T` is a Smith normal form of `A` with normalised (non-negative) diagonal, witnessed by transforms
`P, P⁻¹, Q, Q⁻¹`: literally the conclusion of `snf_total_correct` / `snf_correct` about the final state
`(t, p, pinv, q, qinv)` of the code model -/
def SnfWitness (A T : Mat Int m n) (P Pi : Mat Int m m) (Q Qi : Mat Int n n) : Prop :=
  (toM id P * toM id A * toM id Q = toM id T ∧ toM id P * toM id Pi = 1 ∧ toM id Q * toM id Qi = 1) ∧
    (∀ (i : Fin m) (j : Fin n), i.1 ≠ j.1 → T.get i j = 0) ∧ ShapeSpec (fun x : Int => 0 ≤ x) (diagL T)

def IsSnfOf (A T : Mat Int m n) : Prop := ∃ P Pi Q Qi, SnfWitness A T P Pi Q Qi

/-- the diagonal of `toM id T` is the diagonal sequence of the C09 framework -/
theorem dgM_toM (T : Mat Int m n) (k : Nat) : dgM (toM id T) k = Euc.dgz intOps id T k := rfl

theorem diagL_eq_map_dgM (T : Mat Int m n) : diagL T = (List.range (min m n)).map (dgM (toM id T)) := by
  rw [← List.map_id (diagL T)]
  exact Euc.diagL_map_dgz (e := intOps) T

theorem diagL_eq_of_dgM_eq (T T' : Mat Int m n) (h : ∀ k, dgM (toM id T) k = dgM (toM id T') k) :
    diagL T = diagL T' := by
  rw [diagL_eq_map_dgM, diagL_eq_map_dgM]
  exact List.map_congr_left fun k _ => h k

/-- the framework's shape predicate gives the divisibility chain `d_k ∣ d_{k+1}` for ALL `k` and non-negativity -/
theorem shapeSpec_chain_nonneg (T : Mat Int m n) (h : ShapeSpec (fun x : Int => 0 ≤ x) (diagL T)) :
    (∀ k, dgM (toM id T) k ∣ dgM (toM id T) (k + 1)) ∧ ∀ k, 0 ≤ dgM (toM id T) k := by
  rw [← List.map_id (diagL T)] at h
  obtain ⟨r, _, hnz, hz, hch⟩ := Euc.shapeSpec_diag lawfulEuc_int _ T h
  simp only [← dgM_toM] at hnz hz hch
  constructor
  · intro k
    by_cases hk : k + 1 < r
    · exact hch k hk
    · rw [hz (k + 1) (by omega)]; exact dvd_zero _
  · intro k
    by_cases hk : k < r
    · exact (hnz k hk).2
    · rw [hz k (by omega)]

theorem SnfWitness.isSmith {A T : Mat Int m n} {P Pi : Mat Int m m} {Q Qi : Mat Int n n}
    (h : SnfWitness A T P Pi Q Qi) : IsSmith (toM id T) :=
  ⟨fun i j hij => h.2.1 i j hij, (shapeSpec_chain_nonneg T h.2.2).1⟩

theorem SnfWitness.uequiv {A T : Mat Int m n} {P Pi : Mat Int m m} {Q Qi : Mat Int n n}
    (h : SnfWitness A T P Pi Q Qi) : C03Uct.UEquiv (toM id A) (toM id T) :=
  C03Uct.UEquiv.of_inverses h.1.2.1 h.1.2.2 h.1.1

theorem dgM_eq_of_isSnfOf (A T T' : Mat Int m n) (h : IsSnfOf A T) (h' : IsSnfOf A T') (k : Nat) :
    dgM (toM id T) k = dgM (toM id T') k := by
  obtain ⟨P, Pi, Q, Qi, w⟩ := h
  obtain ⟨P', Pi', Q', Qi', w'⟩ := h'
  exact eq_of_natAbs_eq_of_nonneg
    (smith_natAbs_eq_of_uequiv w.isSmith w'.isSmith (w.uequiv.symm.trans w'.uequiv) k)
    ((shapeSpec_chain_nonneg T w.2.2).2 k) ((shapeSpec_chain_nonneg T' w'.2.2).2 k)

theorem spec_of_isSnfShape (T : Mat Int m n) (hs : isSnfShape intOps T = true) :
    (∀ (i : Fin m) (j : Fin n), i.1 ≠ j.1 → T.get i j = 0) ∧ ShapeSpec (fun x : Int => 0 ≤ x) (diagL T) :=
  isSnfShape_int T hs

theorem dgM_eq_of_isSnfOf_matrix (A T : Mat Int m n) (h : IsSnfOf A T) (D : Matrix (Fin m) (Fin n) ℤ)
    (U : Matrix (Fin m) (Fin m) ℤ) (V : Matrix (Fin n) (Fin n) ℤ) (hU : IsUnit U.det) (hV : IsUnit V.det)
    (hD : IsSmith D) (hn : ∀ k, 0 ≤ dgM D k) (hA : U * toM id A * V = D) (k : Nat) :
    dgM (toM id T) k = dgM D k := by
  obtain ⟨P, Pi, Q, Qi, w⟩ := h
  exact eq_of_natAbs_eq_of_nonneg
    (smith_natAbs_eq_of_uequiv w.isSmith hD (w.uequiv.symm.trans ⟨U, V, hU, hV, hA⟩) k)
    ((shapeSpec_chain_nonneg T w.2.2).2 k) (hn k)

end Yuiv.C09
