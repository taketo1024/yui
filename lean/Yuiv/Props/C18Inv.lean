import Yuiv.Proofs.C18InvOri
import Yuiv.Proofs.C18InvPerm
import Yuiv.Proofs.C18InvRev
import Yuiv.Proofs.C18InvBraid2
import Yuiv.Proofs.C18InvCycle
/-
C18Inv — orientation, reordering and reversal theorems for the model `Yuiv.C18` of
`Link::crossing_signs` / `writhe` / `signed_crossing_nums` (property theorems only).

Vocabulary (`Proofs/C18InvDefs.lean`).  Slots are pairs `(i, j)` (crossing `i`, position `j < 4`);
`thru l` = other end of the strand through the crossing, `partner l` = other end of the edge.
* `Orient l O`   : `O` = set of slots at which the oriented strands ENTER a crossing — of the two ends of a strand
                   through a crossing exactly one is an entrance, and of the two ends of an edge exactly one.
* `UnderIn l O`  : the orientation is consistent with the code: every strand through slot 0 enters there
                   (PD convention: the under-strand runs from slot 0 to slot 2).
* `sgnAt l O i`  : the Rust sign table (`signAt`) at the slot (1 or 3) where the over-strand of crossing `i` enters;
                   `signsOf l O` = these signs for the unresolved crossings, in crossing order.
* `Determined l` : every edge lies on a component containing slot 0 of some crossing (every component passes
                   under somewhere); then the orientation consistent with the code is unique.  `DeterminedB` is a
                   decidable sufficient criterion.  Without it the PD code does not determine the direction of a
                   component that only passes over, and `crossing_signs` picks the direction "from slot 1 of the
                   first crossing met" — which depends on the crossing order (see the `example` in the section on crossing reordering).
* `Valid l`      : every label occurs in exactly two slots (as everywhere in C18).
-/
namespace Yuiv.C18
open Yuiv

/-- THE ORIENTATION THEOREM.  For every valid code that admits an orientation consistent with its under-strands
(every PD code of an oriented diagram does), `crossing_signs` returns (no panic), and what it returns are the
signs of an orientation `O'` consistent with the under-strands: for every unresolved crossing the table entry
at the slot where the over-strand enters.  `O'` agrees with the given `O` on every component that passes under
somewhere (`orientation_unique_on_under_components`). -/
theorem crossingSigns_orient (l : Link) (hv : Valid l) (O : Nat × Nat → Bool) (hO : Orient l O)
    (hU : UnderIn l O) :
    ∃ O', Orient l O' ∧ UnderIn l O' ∧ crossingSigns l = .ok (signsOf l O') ∧
      signedCrossingNums l = .ok ((signsOf l O').count .pos, (signsOf l O').count .neg) ∧
      writhe l = .ok (writheOf (signsOf l O')) := by
  obtain ⟨O', h1, h2, h3⟩ := crossingSigns_orient' l hv O hO hU
  exact ⟨O', h1, h2, h3, (writhe_of_signs l _ h3).1, (writhe_of_signs l _ h3).2⟩

/-- two orientations consistent with the under-strands agree on every component that contains an
under-strand end (slot 0 of some crossing) -/
theorem orientation_unique_on_under_components (l : Link) (hv : Valid l) (O O' : Nat × Nat → Bool)
    (hO : Orient l O) (hU : UnderIn l O) (hO' : Orient l O') (hU' : UnderIn l O')
    (i : Nat) (hi : i < l.length) (h : Nat × Nat) (hc : SConn l (i, 0) h) : O' h = O h :=
  orient_agree_under hv hO hU hO' hU' i hi h hc

/-- if every component passes under somewhere, the signs are those of THE orientation consistent with the code -/
theorem crossingSigns_determined (l : Link) (hv : Valid l) (O : Nat × Nat → Bool) (hO : Orient l O)
    (hU : UnderIn l O) (hD : Determined l) : crossingSigns l = .ok (signsOf l O) :=
  crossingSigns_determined' l hv O hO hU hD

/-- the sign of a crossing depends only on the direction in which the over-strand is passed, exactly as in the
table of `Link::crossing_signs`: entering at slot 1 (1→3) gives `−` for `X` and `+` for `Xm`; entering at slot 3
(3→1) gives `+` for `X` and `−` for `Xm`; resolved crossings carry no sign -/
theorem sgnAt_table (l : Link) (O : Nat × Nat → Bool) (i : Nat) :
    sgnAt l O i =
      match ctypeAt l i, O (i, 1) with
      | .X, true => some .neg
      | .X, false => some .pos
      | .Xm, true => some .pos
      | .Xm, false => some .neg
      | _, _ => none := by
  unfold sgnAt
  cases ctypeAt l i <;> cases O (i, 1) <;> rfl

/-- the decidable criterion implies `Determined` -/
theorem determined_of_check (l : Link) (hv : Valid l) (h : DeterminedB l) : Determined l :=
  determined_of_B hv h

/-- the hypotheses are satisfiable: the trefoil and the Hopf link with the orientation "enter at slots 0, 1" -/
example : Valid (fromPD [[1,4,2,5],[3,6,4,1],[5,2,6,3]]) ∧ Orient (fromPD [[1,4,2,5],[3,6,4,1],[5,2,6,3]]) exOri ∧
    UnderIn (fromPD [[1,4,2,5],[3,6,4,1],[5,2,6,3]]) exOri ∧ DeterminedB (fromPD [[1,4,2,5],[3,6,4,1],[5,2,6,3]]) ∧
    crossingSigns (fromPD [[1,4,2,5],[3,6,4,1],[5,2,6,3]])
      = .ok (signsOf (fromPD [[1,4,2,5],[3,6,4,1],[5,2,6,3]]) exOri) :=
  ⟨trefoil_hyps.1, trefoil_hyps.2.1, trefoil_hyps.2.2.1, trefoil_hyps.2.2.2,
    crossingSigns_determined' _ trefoil_hyps.1 _ trefoil_hyps.2.1 trefoil_hyps.2.2.1
      (determined_of_B trefoil_hyps.1 trefoil_hyps.2.2.2)⟩
example : Valid (fromPD [[4,1,3,2],[2,3,1,4]]) ∧ Orient (fromPD [[4,1,3,2],[2,3,1,4]]) exOri ∧
    UnderIn (fromPD [[4,1,3,2],[2,3,1,4]]) exOri ∧ DeterminedB (fromPD [[4,1,3,2],[2,3,1,4]]) ∧
    crossingSigns (fromPD [[4,1,3,2],[2,3,1,4]]) = .ok (signsOf (fromPD [[4,1,3,2],[2,3,1,4]]) exOri) :=
  ⟨hopf_hyps.1, hopf_hyps.2.1, hopf_hyps.2.2.1, hopf_hyps.2.2.2,
    crossingSigns_determined' _ hopf_hyps.1 _ hopf_hyps.2.1 hopf_hyps.2.2.1
      (determined_of_B hopf_hyps.1 hopf_hyps.2.2.2)⟩

/-! ### crossing reordering

`permute p l`: position `k` of the new crossing list is crossing `p[k]` of `l`; `p` any permutation of
`0 .. n-1` (`p.Perm (List.range n)`). -/

/-- crossing signs are invariant under ANY reordering of the crossing list, as the correspondingly permuted
list of signs: there is one sign function `sg` on crossing indices with `crossing_signs l = sg` along `0..n-1`
and `crossing_signs (permute p l) = sg` along `p` -/
theorem crossingSigns_permute (l : Link) (hv : Valid l) (O : Nat × Nat → Bool) (hO : Orient l O)
    (hU : UnderIn l O) (hD : Determined l) (p : List Nat) (hp : p.Perm (List.range l.length)) :
    crossingSigns l = .ok ((List.range l.length).filterMap (sgnAt l O)) ∧
    crossingSigns (permute p l) = .ok (p.filterMap (sgnAt l O)) := by
  refine ⟨crossingSigns_determined' l hv O hO hU hD, ?_⟩
  rw [crossingSigns_determined' (permute p l) (valid_permute hp hv) _ (orient_permute hp hv hO)
    (underIn_permute hp hU) (determined_permute hp hv hD)]
  rw [signsOf_permute hp O]

/-- hence writhe and signed crossing numbers are invariant under crossing reordering -/
theorem writhe_permute (l : Link) (hv : Valid l) (O : Nat × Nat → Bool) (hO : Orient l O)
    (hU : UnderIn l O) (hD : Determined l) (p : List Nat) (hp : p.Perm (List.range l.length)) :
    signedCrossingNums (permute p l) = signedCrossingNums l ∧ writhe (permute p l) = writhe l ∧
    crossingNum (permute p l) = crossingNum l := by
  obtain ⟨h1, h2⟩ := crossingSigns_permute l hv O hO hU hD p hp
  have hperm : (p.filterMap (sgnAt l O)).Perm ((List.range l.length).filterMap (sgnAt l O)) :=
    List.Perm.filterMap _ hp
  obtain ⟨a1, a2⟩ := writhe_of_signs _ _ h1
  obtain ⟨b1, b2⟩ := writhe_of_signs _ _ h2
  refine ⟨?_, ?_, crossingNum_permute hp⟩
  · rw [a1, b1, hperm.count_eq, hperm.count_eq]
  · rw [a2, b2, writheOf_perm hperm]

example : permute [2, 0, 1] (fromPD [[1,4,2,5],[3,6,4,1],[5,2,6,3]]) = fromPD [[5,2,6,3],[1,4,2,5],[3,6,4,1]] := by
  decide +kernel
example : [2, 0, 1].Perm (List.range (fromPD [[1,4,2,5],[3,6,4,1],[5,2,6,3]]).length) := by decide +kernel

/-- `Determined` cannot be dropped for the individual signs: the closure of σ₁σ₁⁻¹ (a two-component unlink
diagram one of whose components only passes over) is valid and oriented consistently, but exchanging its two
crossings does not exchange the two signs (the writhe is 0 in both orders) -/
example :
    let l : Link := fromPD [[0,2,3,1],[3,2,0,1]]
    closure 2 [1, -1] = .ok l ∧ Valid l ∧ Orient l (fun h => h.2 == 0 || (h.1 == 0 && h.2 == 3) || (h.1 == 1 && h.2 == 1)) ∧
    UnderIn l (fun h => h.2 == 0 || (h.1 == 0 && h.2 == 3) || (h.1 == 1 && h.2 == 1)) ∧ ¬ DeterminedB l ∧
    crossingSigns l = .ok [.neg, .pos] ∧ crossingSigns (permute [1, 0] l) = .ok [.neg, .pos] ∧
    writhe l = .ok 0 ∧ writhe (permute [1, 0] l) = .ok 0 := by decide +kernel

/-! ### orientation reversal (PD codes: all crossings of type `X`/`Xm`, `AllX`) -/

/-- reversing ALL components (`[a,b,c,d] ↦ [c,d,a,b]` at every crossing) leaves every crossing sign unchanged —
for every valid PD code with an orientation consistent with its under-strands, also when some components never
pass under (the model walks such a component from slot 1 of its first crossing, in `l` and in `reverseAll l`) -/
theorem crossingSigns_reverseAll (l : Link) (hv : Valid l) (hx : AllX l) (O : Nat × Nat → Bool)
    (hO : Orient l O) (hU : UnderIn l O) :
    crossingSigns (reverseAll l) = crossingSigns l ∧ writhe (reverseAll l) = writhe l ∧
    signedCrossingNums (reverseAll l) = signedCrossingNums l := by
  have h := crossingSigns_reverseAll_all l hv hx O hO hU
  refine ⟨h, ?_, ?_⟩
  · unfold writhe signedCrossingNums; rw [h]
  · unfold signedCrossingNums; rw [h]

/-- the rule by which the direction of a component that never passes under is chosen (this is what makes the
individual signs depend on the crossing order in that case): the orientation `O'` whose signs `crossing_signs`
returns enters at slot 1 of the FIRST crossing `i0` whose over-strand lies on that component -/
theorem crossingSigns_orient_over_only (l : Link) (hv : Valid l) (O : Nat × Nat → Bool) (hO : Orient l O)
    (hU : UnderIn l O) :
    ∃ O', Orient l O' ∧ UnderIn l O' ∧ crossingSigns l = .ok (signsOf l O') ∧
      (∀ i0, i0 < l.length → (ctypeAt l i0).isResolved = false →
        (∀ i, i < l.length → ¬ SConn l (i, 0) (i0, 1)) → (∀ i, i < i0 → ¬ SConn l (i, 1) (i0, 1)) →
        O' (i0, 1) = true) :=
  crossingSigns_orient_first l hv O hO hU

/-- reversing ONE component (more generally a union `K` of components, given as a set of labels closed under
passing through crossings: `CompSet l K`; `revComp K l` rotates by two exactly the crossings whose under-strand
belongs to `K`) flips exactly the signs of the crossings between `K` and the other components, and leaves the
self-crossings of `K` and the crossings not involving `K` unchanged -/
theorem crossingSigns_revComp (l : Link) (hv : Valid l) (hx : AllX l) (K : Nat → Bool) (hK : CompSet l K)
    (O : Nat × Nat → Bool) (hO : Orient l O) (hU : UnderIn l O) (hD : Determined l) :
    crossingSigns l = .ok ((List.range l.length).filterMap (sgnAt l O)) ∧
    crossingSigns (revComp K l) = .ok ((List.range l.length).filterMap (fun i =>
      if (K (edgeAt l i 0) != K (edgeAt l i 1)) then (sgnAt l O i).map Sign.flip else sgnAt l O i)) := by
  refine ⟨crossingSigns_determined' l hv O hO hU hD, ?_⟩
  rw [crossingSigns_determined' (revComp K l) (valid_revComp K hv) _ (revOri_orient hv hK hO)
    (revOri_underIn hx hK hO hU) (determined_revComp hv hx hD)]
  rw [signsOf_revComp hx hK hO]

/-- Hopf link, components `{4,3}` and `{2,1}`: reversing the first flips both signs -/
example : CompSet (fromPD [[4,1,3,2],[2,3,1,4]]) exK ∧ AllX (fromPD [[4,1,3,2],[2,3,1,4]]) ∧
    revComp exK (fromPD [[4,1,3,2],[2,3,1,4]]) = fromPD [[3,2,4,1],[2,3,1,4]] ∧
    crossingSigns (fromPD [[4,1,3,2],[2,3,1,4]]) = .ok [.neg, .neg] ∧
    crossingSigns (revComp exK (fromPD [[4,1,3,2],[2,3,1,4]])) = .ok [.pos, .pos] := by decide +kernel
example : reverseAll (fromPD [[1,4,2,5],[3,6,4,1],[5,2,6,3]]) = fromPD [[2,5,1,4],[4,1,3,6],[6,3,5,2]] ∧
    crossingSigns (reverseAll (fromPD [[1,4,2,5],[3,6,4,1],[5,2,6,3]])) = .ok [.neg, .neg, .neg] := by decide +kernel

/-! ### braid closures (`Braid::closure`; every word for which `closure` returns, i.e. all letters in range and
no free loop)

`Obraid w`: all strands oriented downwards (entrances: slot 0 of every crossing, slot 3 of the crossing of a
positive letter, slot 1 of the crossing of a negative letter).  `expSum w` = Σ sign of the letters.
`braidPerm strands w` = the braid permutation as a list (`P[k]` = top position of the strand that ends at bottom
position `k`); `CycRel P` = the equivalence generated by `k ~ P[k]`, whose classes are the cycles;
`cycleCount σ n` = number of positions that are the least element of their `σ`-orbit = number of cycles. -/

/-- the downward orientation of the strands is an orientation of the closure consistent with its under-strands,
and for it the crossing of the letter `σᵢ^{±1}` has sign `±1` -/
theorem closure_braid_orientation (strands : Nat) (w : List Int) (l : Link) (h : closure strands w = .ok l) :
    Orient l (Obraid w) ∧ UnderIn l (Obraid w) ∧ signsOf l (Obraid w) = w.map braidSign ∧
    writheOf (signsOf l (Obraid w)) = expSum w :=
  ⟨(closure_orient strands w l h).1, (closure_orient strands w l h).2, closure_signs_braid strands w l h,
    closure_writhe_braid strands w l h⟩

/-- every orientation of a braid closure that is consistent with the under-strands has the same writhe as the
downward orientation (a component that only passes over can be reversed, but it moves one position to the left
at each positive and one to the right at each negative crossing, and closes up) -/
theorem closure_writhe_orientation_independent (strands : Nat) (w : List Int) (l : Link)
    (h : closure strands w = .ok l) (O' : Nat × Nat → Bool) (hO' : Orient l O') (hU' : UnderIn l O') :
    writheOf (signsOf l O') = expSum w := by
  rw [closure_writhe_any_orient strands w l h O' hO' hU', closure_writhe_braid strands w l h]

/-- WRITHE OF A BRAID CLOSURE = EXPONENT SUM, for the model's `writhe` (via `crossing_signs`), for every word -/
theorem closure_writhe (strands : Nat) (w : List Int) (l : Link) (h : closure strands w = .ok l) :
    writhe l = .ok (expSum w) ∧ expSum w = (w.map Int.sign).sum ∧
    ∃ p n, signedCrossingNums l = .ok (p, n) ∧ (p : Int) - (n : Int) = expSum w ∧ p + n = w.length :=
  ⟨closure_writhe' strands w l h, expSum_eq_sum w, closure_signedCrossingNums' strands w l h⟩

/-- two top positions lie on the same component of the closure iff they lie on the same cycle of the braid
permutation; every top position is a label of the closure and every label is connected to a top position -/
theorem closure_components_cycles (strands : Nat) (w : List Int) (l : Link) (h : closure strands w = .ok l) :
    (∀ a b, a < strands → b < strands → (Conn l a b ↔ CycRel (braidPerm strands w) a b)) ∧
    (∀ k, k < strands → k ∈ allEdges l) ∧ (∀ e ∈ allEdges l, ∃ k, k < strands ∧ Conn l k e) ∧
    (braidPerm strands w).Perm (List.range strands) :=
  ⟨fun a b ha hb => closure_conn_iff_cycle strands w l h a b ha hb, (closure_label_on_strand strands w l h).1,
    (closure_label_on_strand strands w l h).2, braidPerm_perm_of_closure strands w l h⟩

/-- NUMBER OF COMPONENTS OF A BRAID CLOSURE = NUMBER OF CYCLES OF THE BRAID PERMUTATION: `components` returns a
list whose length is the length of ANY transversal of the cycles, in particular `cycleCount` -/
theorem closure_components_count (strands : Nat) (w : List Int) (l : Link) (h : closure strands w = .ok l) :
    (∀ reps, CycTransversal (braidPerm strands w) reps → ∃ cs, components l = .ok cs ∧ cs.length = reps.length) ∧
    ∃ cs, components l = .ok cs ∧ cs.length = cycleCount (permFun (braidPerm strands w)) strands :=
  ⟨fun reps hr => closure_components_eq_cycles strands w l h reps hr, closure_components_count' strands w l h⟩

/-- `cycleCount` counts cycles: its representatives are one position from every cycle of a permutation list -/
theorem cycleCount_spec (P : List Nat) (n : Nat) (hp : P.Perm (List.range n)) :
    CycTransversal P (cycleReps (permFun P) n) ∧ cycleCount (permFun P) n = (cycleReps (permFun P) n).length :=
  ⟨cycTransversal_cycleReps hp, rfl⟩

example : closure 2 [1, 1, 1] = .ok (fromPD [[0,2,3,1],[2,4,5,3],[4,0,1,5]]) ∧ expSum [1, 1, 1] = 3 ∧
    braidPerm 2 [1, 1, 1] = [1, 0] ∧ cycleCount (permFun (braidPerm 2 [1, 1, 1])) 2 = 1 ∧
    writhe (fromPD [[0,2,3,1],[2,4,5,3],[4,0,1,5]]) = .ok 3 ∧
    (components (fromPD [[0,2,3,1],[2,4,5,3],[4,0,1,5]])).isOk = true := by decide +kernel
example : braidPerm 2 [1, 1] = [0, 1] ∧ cycleCount (permFun (braidPerm 2 [1, 1])) 2 = 2 ∧
    braidPerm 3 [1, -2] = [1, 2, 0] ∧ cycleCount (permFun (braidPerm 3 [1, -2])) 3 = 1 := by decide +kernel

end Yuiv.C18
