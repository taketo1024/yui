import Yuiv.Props.C04Inv
import Yuiv.Props.C18Bridge
/-
C04Markov (helper, no property theorem here): the relation in which the Markov moves on braid closures are stated.
`JInv n w n' w'`: whenever both closures exist, the reference's own sign computations succeed on both and the `jones` (and
`chiChain`) coefficient lists are literally equal — a symmetric relation, transitive through every word whose closure exists.
-/
open Yuiv.KhRef Yuiv.C04
namespace Yuiv.C04Inv
open Yuiv.C18 (closure)
open Yuiv.C18Bridge (toKh)

variable {R : Type} [CommRing R]

def JInv (n : Nat) (w : List Int) (n' : Nat) (w' : List Int) : Prop :=
  ∀ l l', closure n w = .ok l → closure n' w' = .ok l' →
    ∃ sg sg', KhRef.crossingSigns (toKh l) = some sg ∧ KhRef.crossingSigns (toKh l') = some sg' ∧
      jones (toKh l') sg' = jones (toKh l) sg ∧ chiChain (toKh l') sg' = chiChain (toKh l) sg

theorem JInv.refl (n : Nat) (w : List Int) : JInv n w n w := by
  intro l l' h h'
  rw [h] at h'; cases h'
  obtain ⟨sg, h1, _⟩ := C18Bridge.khref_writhe_closure n w l h
  exact ⟨sg, sg, h1, h1, rfl, rfl⟩

theorem JInv.symm {n n' : Nat} {w w' : List Int} (h : JInv n w n' w') : JInv n' w' n w := by
  intro l' l hl' hl
  obtain ⟨sg, sg', h1, h2, h3, h4⟩ := h l l' hl hl'
  exact ⟨sg', sg, h2, h1, h3.symm, h4.symm⟩

theorem JInv.trans {n n' n'' : Nat} {w w' w'' : List Int} (h1 : JInv n w n' w') (h2 : JInv n' w' n'' w'')
    (hex : ∃ l', closure n' w' = .ok l') : JInv n w n'' w'' := by
  intro l l'' hl hl''
  obtain ⟨l', hl'⟩ := hex
  obtain ⟨sg, sg', a1, a2, a3, a4⟩ := h1 l l' hl hl'
  obtain ⟨sg'2, sg'', b1, b2, b3, b4⟩ := h2 l' l'' hl' hl''
  rw [a2] at b1; cases b1
  exact ⟨sg, sg'', a1, b2, b3.trans a3, b4.trans a4⟩

open LaurentPolynomial in
/-- two closures whose words differ by `dp` positive and `dn` negative letters, and whose normalised state sums agree after
that shift of `(n₊, n₋)`: both sign computations of the reference succeed and the coefficient lists are equal -/
theorem jones_signs_of_evalJones {n n' : Nat} {w w' : List Int} {l l' : C18.Link} (dp dn : Nat)
    (h : closure n w = .ok l) (h' : closure n' w' = .ok l')
    (hexp : C18.expSum w' + dn = C18.expSum w + dp) (hlen : w'.length = w.length + dp + dn)
    (hev : ∀ nPos nNeg, evalJones (T 1 : ℤ[T;T⁻¹]) (T (-1)) (crossingNum (toKh l')) (nPos + dp) (nNeg + dn)
        (circleCount (toKh l')) = evalJones (T 1) (T (-1)) (crossingNum (toKh l)) nPos nNeg (circleCount (toKh l))) :
    ∃ sg sg', KhRef.crossingSigns (toKh l) = some sg ∧ KhRef.crossingSigns (toKh l') = some sg' ∧
      jones (toKh l') sg' = jones (toKh l) sg ∧ chiChain (toKh l') sg' = chiChain (toKh l) sg := by
  obtain ⟨sg, h1, h2, h3⟩ := C18Bridge.khref_writhe_closure n w l h
  obtain ⟨sg', h1', h2', h3'⟩ := C18Bridge.khref_writhe_closure n' w' l' h'
  unfold C18Bridge.nPosK C18Bridge.nNegK at h2 h3 h2' h3'
  have hj : jones (toKh l') sg' = jones (toKh l) sg := by
    apply jones_eq_of_evalJones
    rw [← hev, show (sg'.filter (· > 0)).size = (sg.filter (· > 0)).size + dp by omega,
      show (sg'.filter (· < 0)).size = (sg.filter (· < 0)).size + dn by omega]
  exact ⟨sg, sg', h1, h1', hj, by rw [chiChain_eq_jones_literal, chiChain_eq_jones_literal, hj]⟩

theorem jinv_of_stateSum (n : Nat) (w w' : List Int) (hexp : C18.expSum w' = C18.expSum w)
    (hlen : w'.length = w.length)
    (hS : ∀ l l', closure n w = .ok l → closure n w' = .ok l' →
      ∀ (q qinv : LaurentPolynomial Int), q * qinv = 1 →
        stateSum (-q) (q + qinv) (toKh l') = stateSum (-q) (q + qinv) (toKh l)) :
    JInv n w n w' := fun l l' h h' =>
  jones_signs_of_evalJones 0 0 h h' (by simp [hexp]) (by simp [hlen]) (fun nPos nNeg => by
    rw [evalJones_stateSum, evalJones_stateSum, hS l l' h h' _ _ T_unit]; rfl)

end Yuiv.C04Inv
