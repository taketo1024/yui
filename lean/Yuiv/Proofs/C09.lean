import Yuiv.Model.C09
import Mathlib.Data.Matrix.Basic
import Mathlib.Data.Matrix.Mul
import Mathlib.LinearAlgebra.Matrix.NonsingularInverse
import Mathlib.Tactic.Ring
import Mathlib.Data.ZMod.Basic
/-
`Lawful o φ`: the operations `o : ROps α` compute, through the interpretation `φ : α → R`, in the commutative
ring `R` (for ℤ and ℚ: `φ = id`; for 𝔽_p: `φ = Nat.cast : ℕ → ZMod p`).
`toM φ A` is the Mathlib matrix denoted by `A : Mat α m n`.  Then the two specifications `TransformSpec`, `ShapeSpec`,
the soundness of the checker, and the records of the driver (ℤ, ℚ, 𝔽_p).
-/
namespace Yuiv.C09
open Yuiv Matrix

variable {α : Type} {R : Type} [CommRing R]

structure Lawful (o : ROps α) (φ : α → R) : Prop where
  zero : φ o.zero = 0
  one : φ o.one = 1
  add : ∀ a b, φ (o.add a b) = φ a + φ b
  mul : ∀ a b, φ (o.mul a b) = φ a * φ b
  neg : ∀ a, φ (o.neg a) = - φ a
  beq : ∀ a b, o.beq a b = true ↔ φ a = φ b

def toM {m n : Nat} (φ : α → R) (A : Mat α m n) : Matrix (Fin m) (Fin n) R := fun i j => φ (A.get i j)

omit [CommRing R] in
@[simp] theorem toM_apply {m n : Nat} (φ : α → R) (A : Mat α m n) (i : Fin m) (j : Fin n) :
    toM φ A i j = φ (A.get i j) := rfl

@[simp] theorem get_ofFn {m n : Nat} (f : Fin m → Fin n → α) (i : Fin m) (j : Fin n) :
    (Mat.ofFn f).get i j = f i j := by
  simp [Mat.ofFn, Mat.get]

theorem allFin_iff {n : Nat} (p : Fin n → Bool) : allFin n p = true ↔ ∀ i, p i = true := by
  simp [allFin, List.all_eq_true]

def TransformSpec {m n : Nat} (A D : Matrix (Fin m) (Fin n) R) (P Pinv : Matrix (Fin m) (Fin m) R)
    (Q Qinv : Matrix (Fin n) (Fin n) R) : Prop :=
  P * A * Q = D ∧ P * Pinv = 1 ∧ Q * Qinv = 1

theorem TransformSpec.two_sided {m n : Nat} {A D : Matrix (Fin m) (Fin n) R} {P Pinv : Matrix (Fin m) (Fin m) R}
    {Q Qinv : Matrix (Fin n) (Fin n) R} (h : TransformSpec A D P Pinv Q Qinv) :
    Pinv * P = 1 ∧ Qinv * Q = 1 ∧ A = Pinv * D * Qinv := by
  obtain ⟨h1, h2, h3⟩ := h
  have h2' : Pinv * P = 1 := mul_eq_one_comm.mp h2
  have h3' : Qinv * Q = 1 := mul_eq_one_comm.mp h3
  refine ⟨h2', h3', ?_⟩
  rw [← h1]
  calc A = (Pinv * P) * A * (Q * Qinv) := by rw [h2', h3, Matrix.one_mul, Matrix.mul_one]
    _ = Pinv * (P * A * Q) * Qinv := by simp only [Matrix.mul_assoc]

section lawful
variable {o : ROps α} {φ : α → R} (L : Lawful o φ)
include L

theorem sumFin_eq : ∀ (n : Nat) (f : Fin n → α), φ (sumFin o n f) = ∑ k, φ (f k)
  | 0, _ => by simp [sumFin, L.zero]
  | n + 1, f => by
    rw [sumFin, L.add, sumFin_eq n, Fin.sum_univ_castSucc]

theorem isZero_iff (a : α) : o.isZero a = true ↔ φ a = 0 := by
  rw [ROps.isZero, L.beq, L.zero]

theorem isZero_false (a : α) : o.isZero a = false ↔ φ a ≠ 0 := by
  rw [← Bool.not_eq_true, isZero_iff L]

theorem isOne_iff (a : α) : o.isOne a = true ↔ φ a = 1 := by
  rw [ROps.isOne, L.beq, L.one]

theorem sub_eq (a b : α) : φ (o.sub a b) = φ a - φ b := by
  rw [ROps.sub, L.add, L.neg]; ring

theorem toM_matMul {m k n : Nat} (A : Mat α m k) (B : Mat α k n) :
    toM φ (matMul o A B) = toM φ A * toM φ B := by
  ext i j
  simp only [toM_apply, matMul, get_ofFn, Matrix.mul_apply]
  rw [sumFin_eq L]
  simp [L.mul]

theorem matEq_iff {m n : Nat} (A B : Mat α m n) : matEq o A B = true ↔ toM φ A = toM φ B := by
  simp only [matEq, allFin_iff, L.beq]
  constructor
  · intro h; ext i j; exact h i j
  · intro h i j; exact congrFun (congrFun h i) j

theorem toM_idMat (n : Nat) : toM φ (idMat o n) = (1 : Matrix (Fin n) (Fin n) R) := by
  ext i j
  simp only [toM_apply, idMat, get_ofFn, Matrix.one_apply, Fin.ext_iff]
  split <;> simp [L.one, L.zero]

theorem isIdentity_iff {n : Nat} (A : Mat α n n) : isIdentity o A = true ↔ toM φ A = 1 := by
  rw [← toM_idMat L, ← matEq_iff L]
  simp only [isIdentity, matEq, idMat, get_ofFn]

theorem isZeroMat_iff {m n : Nat} (A : Mat α m n) : isZeroMat o A = true ↔ toM φ A = 0 := by
  simp only [isZeroMat, allFin_iff, isZero_iff L]
  constructor
  · intro h; ext i j; exact h i j
  · intro h i j; exact congrFun (congrFun h i) j

theorem isDiag_iff {m n : Nat} (D : Mat α m n) :
    isDiag o D = true ↔ ∀ (i : Fin m) (j : Fin n), i.1 ≠ j.1 → φ (D.get i j) = 0 := by
  simp only [isDiag, allFin_iff, Bool.or_eq_true, beq_iff_eq, isZero_iff L]
  constructor
  · intro h i j hij; exact (h i j).resolve_left hij
  · intro h i j; by_cases hij : i.1 = j.1
    · exact Or.inl hij
    · exact Or.inr (h i j hij)

theorem snfTransformOk_iff {m n : Nat} (A D : Mat α m n) (P Pinv : Mat α m m) (Q Qinv : Mat α n n) :
    snfTransformOk o A D P Pinv Q Qinv = true ↔
      TransformSpec (toM φ A) (toM φ D) (toM φ P) (toM φ Pinv) (toM φ Q) (toM φ Qinv) := by
  simp only [snfTransformOk, Bool.and_eq_true, matEq_iff L, isIdentity_iff L, toM_matMul L, TransformSpec, and_assoc]

end lawful

/-- the mathematical shape of a Smith normal form diagonal `d_0, …, d_{k-1}`:
`r` non-zero entries first, each satisfying `N` ("normalised"), each dividing the next; zeros afterwards -/
def ShapeSpec (N : R → Prop) (d : List R) : Prop :=
  ∃ r, r ≤ d.length ∧ (∀ i (h : i < d.length), i < r → d[i] ≠ 0 ∧ N d[i]) ∧
    (∀ i (h : i < d.length), r ≤ i → d[i] = 0) ∧
    (∀ i (h : i + 1 < d.length), i + 1 < r → d[i] ∣ d[i + 1])

theorem shapeSpec_nil (N : R → Prop) : ShapeSpec N ([] : List R) :=
  ⟨0, Nat.le_refl _, by simp, by simp, by simp⟩

theorem shapeSpec_zeros (N : R → Prop) (l : List R) (h : ∀ x ∈ l, x = 0) : ShapeSpec N l :=
  ⟨0, Nat.zero_le _, by simp, fun i hi _ => h _ (List.getElem_mem hi), by simp⟩

theorem shapeSpec_cons (N : R → Prop) (a : R) (l : List R) (ha : a ≠ 0) (hN : N a)
    (hd : ∀ (h : 0 < l.length), l[0] ≠ 0 → a ∣ l[0]) (hl : ShapeSpec N l) : ShapeSpec N (a :: l) := by
  obtain ⟨r, hr, h1, h2, h3⟩ := hl
  refine ⟨r + 1, Nat.succ_le_succ hr, ?_, ?_, ?_⟩
  · intro i hi hir
    cases i with
    | zero => exact ⟨ha, hN⟩
    | succ i => exact h1 i (Nat.lt_of_succ_lt_succ hi) (Nat.lt_of_succ_lt_succ hir)
  · intro i hi hri
    cases i with
    | zero => omega
    | succ i => exact h2 i (Nat.lt_of_succ_lt_succ hi) (Nat.le_of_succ_le_succ hri)
  · intro i hi hir
    cases i with
    | zero =>
      have h0 : 0 < l.length := Nat.lt_of_succ_lt_succ hi
      exact hd h0 (h1 0 h0 (Nat.lt_of_succ_lt_succ hir)).1
    | succ i => exact h3 i (Nat.lt_of_succ_lt_succ hi) (Nat.lt_of_succ_lt_succ hir)

theorem shapeSpec_map_range (N : R → Prop) (d : Nat → R) (len : Nat) (hout : ∀ k, len ≤ k → d k = 0)
    (h : ShapeSpec N ((List.range len).map d)) :
    ∃ r, (∀ k, k < r → d k ≠ 0 ∧ N (d k)) ∧ (∀ k, r ≤ k → d k = 0) ∧ ∀ k, k + 1 < r → d k ∣ d (k + 1) := by
  obtain ⟨r, hr, hnz, hz, hch⟩ := h
  have hlen : ((List.range len).map d).length = len := by rw [List.length_map, List.length_range]
  refine ⟨r, fun k hk => ?_, fun k hk => ?_, fun k hk => ?_⟩
  · have := hnz k (by omega) hk
    rwa [List.getElem_map, List.getElem_range] at this
  · by_cases hkl : k < len
    · have := hz k (by omega) hk
      rwa [List.getElem_map, List.getElem_range] at this
    · exact hout k (by omega)
  · have := hch k (by omega) hk
    rwa [List.getElem_map, List.getElem_map, List.getElem_range, List.getElem_range] at this

theorem shapeL_sound {e : EOps α} {φ : α → R} (L : Lawful e.toROps φ) (N : R → Prop)
    (hN : ∀ a, e.isNorm a = true → N (φ a)) (hD : ∀ a b, e.dvd a b = true → φ a ∣ φ b) :
    ∀ l : List α, shapeL e l = true → ShapeSpec N (l.map φ)
  | [] => fun _ => shapeSpec_nil N
  | a :: rest => by
    intro h
    unfold shapeL at h
    split at h
    · rename_i hz
      have hz' := (isZero_iff L a).1 hz
      refine shapeSpec_zeros N _ ?_
      intro x hx
      rw [List.map_cons, List.mem_cons] at hx
      rcases hx with rfl | hx
      · exact hz'
      · obtain ⟨y, hy, rfl⟩ := List.mem_map.1 hx
        exact (isZero_iff L y).1 (List.all_eq_true.1 h y hy)
    · rename_i hz
      simp only [Bool.and_eq_true] at h
      obtain ⟨⟨hn, hdv⟩, hrest⟩ := h
      have ha : φ a ≠ 0 := fun h0 => hz ((isZero_iff L a).2 h0)
      rw [List.map_cons]
      refine shapeSpec_cons N _ _ ha (hN a hn) ?_ (shapeL_sound L N hN hD rest hrest)
      intro h0 hne
      cases rest with
      | nil => simp at h0
      | cons b rest' =>
        simp only [Bool.or_eq_true] at hdv
        rcases hdv with hb | hb
        · exact absurd ((isZero_iff L b).1 hb) (by simpa using hne)
        · simpa using hD a b hb

theorem lawful_int : Lawful intOps.toROps (id : Int → Int) where
  zero := rfl
  one := rfl
  add _ _ := rfl
  mul _ _ := rfl
  neg _ := rfl
  beq a b := by simp [intOps]

theorem isSnfShape_int {m n : Nat} (D : Mat Int m n) (h : isSnfShape intOps D = true) :
    (∀ (i : Fin m) (j : Fin n), i.1 ≠ j.1 → D.get i j = 0) ∧ ShapeSpec (fun x : Int => 0 ≤ x) (diagL D) := by
  simp only [isSnfShape, Bool.and_eq_true] at h
  refine ⟨(isDiag_iff lawful_int D).1 h.1, ?_⟩
  have := shapeL_sound lawful_int (fun x : Int => 0 ≤ x) ?_ ?_ _ h.2
  · rw [List.map_id] at this; exact this
  · intro a ha
    simp only [EOps.isNorm, ROps.isOne, intOps, beq_iff_eq] at ha
    show (0 : Int) ≤ a
    by_contra hlt
    rw [if_pos (by omega)] at ha
    omega
  · intro a b hab
    simp only [EOps.dvd, ROps.isZero, intOps, Bool.and_eq_true, Bool.not_eq_true', beq_iff_eq, beq_eq_false_iff_ne] at hab
    exact Int.dvd_of_tmod_eq_zero hab.2

theorem lawful_rat : Lawful ratOps.toROps (id : Rat → Rat) where
  zero := rfl
  one := rfl
  add _ _ := rfl
  mul _ _ := rfl
  neg _ := rfl
  beq a b := by simp [ratOps]

theorem lawful_fp (p : Nat) [NeZero p] : Lawful (fpOps p).toROps (fun a : Nat => (a : ZMod p)) where
  zero := Nat.cast_zero
  one := by
    show ((1 % p : Nat) : ZMod p) = 1
    rw [ZMod.natCast_mod, Nat.cast_one]
  add a b := by
    show (((a + b) % p : Nat) : ZMod p) = a + b
    rw [ZMod.natCast_mod, Nat.cast_add]
  mul a b := by
    show (((a * b) % p : Nat) : ZMod p) = a * b
    rw [ZMod.natCast_mod, Nat.cast_mul]
  neg a := by
    simp only [fpOps, fpROps, ZMod.natCast_mod]
    have hp : 0 < p := Nat.pos_of_ne_zero (NeZero.ne p)
    have : a % p ≤ p := (Nat.mod_lt a hp).le
    rw [Nat.cast_sub this]; simp
  beq a b := by
    simp only [fpOps, fpROps, beq_iff_eq]
    exact (ZMod.natCast_eq_natCast_iff' a b p).symm

end Yuiv.C09
