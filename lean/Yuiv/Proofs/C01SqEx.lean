import Yuiv.Proofs.C02MirrorEx
import Yuiv.Proofs.C06CycleDefs
/-
C01Sq — the figure-eight knot `X[4,2,5,1] X[8,6,1,5] X[6,3,7,4] X[2,7,3,8]` for the non-vacuity `example`s of
`Props/C01Sq.lean` (the circles of all its states by kernel evaluation, `mkCube_fig8`); trefoil, Hopf link, the kink
and the non-planar code `X[1,2,1,2]` are in `Proofs/C02MirrorEx.lean`.
-/
namespace Yuiv.C01Sq.Ex
open Yuiv Yuiv.KhRef Yuiv.C04Inv Yuiv.C02Mirror Yuiv.C02Mirror.Ex

def fig8 : Link := #[⟨.X, #[4, 2, 5, 1]⟩, ⟨.X, #[8, 6, 1, 5]⟩, ⟨.X, #[6, 3, 7, 4]⟩, ⟨.X, #[2, 7, 3, 8]⟩]

theorem edgeLabels_fig8 : edgeLabels fig8 = #[1, 2, 3, 4, 5, 6, 7, 8] :=
  C06Walk.edgeLabels_eq_of_perm fig8 [1, 2, 3, 4, 5, 6, 7, 8] (by decide) (by decide +kernel)

/-- the circles of the sixteen states of the figure-eight knot -/
theorem mkCube_fig8 : mkCube fig8 p0 =
    ⟨4, #[#[#[1, 5], #[2, 4, 7], #[3, 6, 8]], #[#[1, 2, 4, 5, 7], #[3, 6, 8]], #[#[1, 3, 5, 6, 8], #[2, 4, 7]],
      #[#[1, 2, 3, 4, 5, 6, 7, 8]], #[#[1, 5], #[2, 3, 4, 6, 7, 8]], #[#[1, 2, 3, 4, 5, 6, 7, 8]],
      #[#[1, 2, 3, 4, 5, 6, 7, 8]], #[#[1, 4, 6], #[2, 3, 5, 7, 8]], #[#[1, 5], #[2, 3, 4, 6, 7, 8]],
      #[#[1, 2, 3, 4, 5, 6, 7, 8]], #[#[1, 2, 3, 4, 5, 6, 7, 8]], #[#[1, 3, 4, 6, 7], #[2, 5, 8]],
      #[#[1, 5], #[2, 4, 6, 8], #[3, 7]], #[#[1, 2, 4, 5, 6, 8], #[3, 7]], #[#[1, 2, 4, 5, 6, 8], #[3, 7]],
      #[#[1, 4, 6], #[2, 5, 8], #[3, 7]]], none⟩ := by
  rw [mkCube_eq_cubeWith _ _ rfl, edgeLabels_fig8]
  exact cube_eq (by decide +kernel) (by decide +kernel) rfl

theorem fig8_ok : cubeOK (mkCube fig8 p0) ∧ (edgeLabels fig8).size ≤ 64 := by
  rw [mkCube_fig8, edgeLabels_fig8]
  decide +kernel

theorem valid_examples : C06Cycle.validK trefoil = true ∧ C06Cycle.validK hopf = true ∧
    C06Cycle.validK fig8 = true ∧ C06Cycle.validK kink = true ∧ C06Cycle.validK virt = true := by
  decide +kernel

/-- Bar-Natan-type parameters with `t = 1`, reduced theory -/
def pT1 : Params := ⟨0, 1, true⟩

/-- the reduced cube of the trefoil: the circles of `mkCube_trefoil`, base edge `1` -/
theorem mkCube_trefoil_reduced : mkCube trefoil pT1 = ⟨3, (mkCube trefoil p0).circ, some 1⟩ :=
  cube_eq rfl rfl (by decide +kernel)

/-- for `t ≠ 0` the reduced "complex" of the reference is not a complex: `d (d g) ≠ 0` for the generator `X⊗X⊗X` of the
state `0` of the trefoil with `(h, t) = (0, 1)` -/
theorem reduced_t1_not_complex : C06Cycle.baseKeep (mkCube trefoil pT1) ⟨0, 7⟩ = true ∧
    C06Cycle.chainSum (fun g' => (((mkCube trefoil pT1).d pT1 g').getD #[]).toList)
      (((mkCube trefoil pT1).d pT1 ⟨0, 7⟩).getD #[]).toList ⟨6, 1⟩ = 1 := by
  rw [mkCube_trefoil_reduced, mkCube_trefoil]
  decide +kernel

end Yuiv.C01Sq.Ex
