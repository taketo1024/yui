import Yuiv.Proofs.C04InvPerm
import Yuiv.Proofs.C04InvRen
import Yuiv.Proofs.C04InvExWf
import Yuiv.Proofs.C06CycleCirc
import Mathlib.Algebra.BigOperators.Group.Multiset.Basic
/-
C18 bridge (helper, no property theorem here): the RANKS OF THE CHAIN GROUPS of the reference cube
(`KhRef.mkCube` / `Cube.gensAt` / `Cube.qDeg`, grouped by `(h0 + popcount s, qDeg)` exactly as `khHomology` does)
in every bidegree are invariant under
  (i)  injective renumbering of the edge labels (`C04Inv.renumber f l`, `Set.InjOn f (labelSet l)`), and
  (ii) ANY permutation of the crossing list (`l'.toList.Perm l.toList`),
for every well-formed diagram (`C04Inv.WF l`).

Route: the skein recursion of `C04InvPerm.lean` is stated there for an arbitrary summand `F w c` in an additive
commutative monoid (`C04Inv.skeinG`, `C04Inv.stateSumG_perm`).  With
`M = Multiset (ℕ × ℕ)`, `F w c = {(w, c)}` this says that the multiset `weightCircle` of (state weight, circle count)
pairs of the cube is invariant.  The chain ranks are a function of that multiset and of one bit, whether the
vertices have a base circle (`chainRank_eq_sum_weightCircle`, `chainRank_congr`): a vertex of weight `w` with `r` circles
carries the masks `m < 2^r`, in the reduced theory those with the bit of the base circle set, and the number of
these with a given `popcount` does not depend on which bit that is (`cntBit_eq`).
In the unreduced theory no vertex has a base circle (here); in the reduced theory every vertex of a non-empty
well-formed diagram has one (last section, which has the statements for every `p`).
-/
open Yuiv Yuiv.KhRef Yuiv.C04 Yuiv.C04Inv
namespace Yuiv.C18Bridge

theorem double_testBit_zero (t : Nat) : (2 * t).testBit 0 = false := by
  rw [Nat.testBit_zero, Nat.mul_mod_right]
  rfl

theorem double_succ_testBit_zero (t : Nat) : (2 * t + 1).testBit 0 = true := by
  rw [Nat.testBit_zero, Nat.mul_add_mod]
  rfl

theorem double_div (t : Nat) : 2 * t / 2 = t := Nat.mul_div_cancel_left t (by decide)

theorem double_succ_div (t : Nat) : (2 * t + 1) / 2 = t := by
  rw [Nat.mul_add_div (by decide), Nat.add_zero]

theorem popcount_double (t n : Nat) : popcount (2 * t) (n + 1) = popcount t n := by
  rw [popcount_succ', double_div, double_testBit_zero]
  exact Nat.zero_add _

theorem popcount_double_succ (t n : Nat) : popcount (2 * t + 1) (n + 1) = popcount t n + 1 := by
  rw [popcount_succ', double_succ_div, double_succ_testBit_zero]
  exact Nat.add_comm _ _

section
variable {M : Type} [AddCommMonoid M]

theorem stateSumG_renumber (F : Nat → Nat → M) {f : Nat → Nat} (l : Link) (hf : Set.InjOn f (labelSet l))
    (hwf : WF l) :
    ∑ s ∈ Finset.range (2 ^ crossingNum (renumber f l)),
        F (popcount s (crossingNum (renumber f l))) (circleCount (renumber f l) s)
      = ∑ s ∈ Finset.range (2 ^ crossingNum l), F (popcount s (crossingNum l)) (circleCount l s) := by
  rw [crossingNum_renumber]
  apply Finset.sum_congr rfl
  intro s _
  rw [circleCount_renumber_on l hf hwf s]

end

/-- the multiset of (state weight, circle count) pairs over all `2^n` states of the cube -/
def weightCircle (l : Link) : Multiset (Nat × Nat) :=
  ∑ s ∈ Finset.range (2 ^ crossingNum l), {(popcount s (crossingNum l), circleCount l s)}

theorem weightCircle_multiset_perm {l l' : Link} (hwf : WF l) (hp : l'.toList.Perm l.toList) :
    weightCircle l' = weightCircle l :=
  stateSumG_perm (fun w c => ({(w, c)} : Multiset (Nat × Nat))) hwf hp

theorem weightCircle_multiset_renumber {f : Nat → Nat} (l : Link) (hf : Set.InjOn f (labelSet l)) (hwf : WF l) :
    weightCircle (renumber f l) = weightCircle l :=
  stateSumG_renumber (fun w c => ({(w, c)} : Multiset (Nat × Nat))) l hf hwf

theorem sum_weightCircle {M : Type} [AddCommMonoid M] (G : Nat × Nat → M) (l : Link) :
    ((weightCircle l).map G).sum
      = ∑ s ∈ Finset.range (2 ^ crossingNum l), G (popcount s (crossingNum l), circleCount l s) := by
  unfold weightCircle
  generalize 2 ^ crossingNum l = N
  induction N with
  | zero => rfl
  | succ N ih =>
    rw [Finset.sum_range_succ, Finset.sum_range_succ, Multiset.map_add, Multiset.sum_add, ih, Multiset.map_singleton,
      Multiset.sum_singleton]

/-- number of masks `m < 2^r` with `Q (popcount m r)` -/
def cntAll (r : Nat) (Q : Nat → Bool) : Nat :=
  ∑ m ∈ Finset.range (2 ^ r), if Q (popcount m r) then 1 else 0

/-- number of masks `m < 2^r` with bit `b` set and `Q (popcount m r)` -/
def cntBit (r b : Nat) (Q : Nat → Bool) : Nat :=
  ∑ m ∈ Finset.range (2 ^ r), if m.testBit b && Q (popcount m r) then 1 else 0

theorem cntAll_succ (r : Nat) (Q : Nat → Bool) :
    cntAll (r + 1) Q = cntAll r Q + cntAll r (fun k => Q (k + 1)) := by
  unfold cntAll
  rw [sum_range_pow_succ, ← Finset.sum_add_distrib]
  simp only [popcount_double, popcount_double_succ]

theorem cntBit_zero (r : Nat) (Q : Nat → Bool) : cntBit (r + 1) 0 Q = cntAll r (fun k => Q (k + 1)) := by
  unfold cntBit cntAll
  rw [sum_range_pow_succ]
  simp only [popcount_double, popcount_double_succ, double_testBit_zero, double_succ_testBit_zero, Bool.false_and,
    Bool.true_and, Bool.false_eq_true, if_false, Nat.zero_add]

theorem cntBit_succ (r b : Nat) (Q : Nat → Bool) :
    cntBit (r + 1) (b + 1) Q = cntBit r b Q + cntBit r b (fun k => Q (k + 1)) := by
  unfold cntBit
  rw [sum_range_pow_succ, ← Finset.sum_add_distrib]
  simp only [popcount_double, popcount_double_succ, Nat.testBit_succ, double_div, double_succ_div]

theorem cntBit_eq (r b : Nat) (hb : b < r) (Q : Nat → Bool) :
    cntBit r b Q = cntAll (r - 1) (fun k => Q (k + 1)) := by
  induction r generalizing b Q with
  | zero => exact absurd hb (Nat.not_lt_zero b)
  | succ r ih =>
    cases b with
    | zero => exact cntBit_zero r Q
    | succ b =>
      have hb' : b < r := Nat.lt_of_succ_lt_succ hb
      rw [cntBit_succ, ih b hb', ih b hb']
      cases r with
      | zero => exact absurd hb' (Nat.not_lt_zero b)
      | succ r' => exact (cntAll_succ r' _).symm

theorem filter_range_size (n : Nat) (p : Nat → Bool) :
    ((Array.range n).filter p).size = ∑ m ∈ Finset.range n, if p m then 1 else 0 := by
  rw [← Array.length_toList, Array.toList_filter, Array.toList_range]
  induction n with
  | zero => rfl
  | succ n ih =>
    rw [List.range_succ, List.filter_append, List.length_append, ih, Finset.sum_range_succ, List.filter_singleton]
    cases p n <;> rfl

/-- number of generators at a vertex with `r` circles whose number `k` of `X`-labelled circles has `Q k`: all masks
`m < 2^r`, or, when the vertex has a base circle (`based`), those with the bit of the base circle set -/
def maskCount (based : Bool) (r : Nat) (Q : Nat → Bool) : Nat :=
  bif based then cntAll (r - 1) (fun k => Q (k + 1)) else cntAll r Q

/-- rank of the chain group of the reference cube in bidegree `(i, j)`: the number of generators `g = (s, mask)`
(over all states `s < 2^n`) with `-nNeg + popcount s = i` and `qDeg q0 g = j`, `q0 = nPos − 2 nNeg (+1 if reduced)` —
exactly the grouping used by `KhRef.khHomology` (`h0 = -nNeg`, bigraded case) -/
def chainRank (l : Link) (p : Params) (nPos nNeg : Nat) (i j : Int) : Nat :=
  let c := mkCube l p
  let q0 : Int := (nPos : Int) - 2 * nNeg + (if p.reduced then 1 else 0)
  ∑ s ∈ Finset.range (2 ^ c.n),
    ((c.gensAt s).filter (fun g => decide (-(nNeg : Int) + popcount s c.n = i) && decide (c.qDeg q0 g = j))).size

/-- rank of the chain group in homological degree `i` alone (all `q`; the grouping of `khHomology` when not bigraded) -/
def chainRankH (l : Link) (p : Params) (nNeg : Nat) (i : Int) : Nat :=
  let c := mkCube l p
  ∑ s ∈ Finset.range (2 ^ c.n),
    ((c.gensAt s).filter (fun _ => decide (-(nNeg : Int) + popcount s c.n = i))).size

/-- the bidegree test of `chainRank` on a generator with `k` of the `r` circles of a vertex of weight `w` labelled `X` -/
def degQ (h0 q0 i j : Int) (w r k : Nat) : Bool :=
  decide (h0 + (w : Int) = i) && decide (q0 + (-2 : Int) * k + r + w = j)

/-- contribution of ONE vertex of weight `w` with `r` circles to bidegree `(i, j)`, unreduced theory: the number of
masks `m < 2^r` with `q0 − 2·popcount m + r + w = j`, if `h0 + w = i` -/
def rankAt (h0 q0 i j : Int) (w r : Nat) : Nat := maskCount false r (degQ h0 q0 i j w r)

/-- … and in the REDUCED theory (`r ≥ 1`): the number of masks `m' < 2^(r-1)` (labels of the circles other than the
base circle, which carries `X`) with `q0 − 2·(popcount m' + 1) + r + w = j`, if `h0 + w = i` -/
def rankAtRed (h0 q0 i j : Int) (w r : Nat) : Nat := maskCount true r (degQ h0 q0 i j w r)

theorem mkCube_n' (l : Link) (p : Params) : (mkCube l p).n = crossingNum l := rfl

theorem mkCube_qDeg' (l : Link) (p : Params) (q0 : Int) (s m : Nat) (hs : s < 2 ^ crossingNum l) :
    (mkCube l p).qDeg q0 ⟨s, m⟩ =
      q0 + (-2 : Int) * popcount m (circleCount l s) + circleCount l s + popcount s (crossingNum l) := by
  unfold Cube.qDeg
  simp only [mkCube_circ l p s hs, mkCube_n']
  rfl

theorem mkCube_gensAt' (l : Link) (p : Params) (s : Nat) (hs : s < 2 ^ crossingNum l) :
    (mkCube l p).gensAt s =
      match (mkCube l p).baseCircle s with
      | none => (Array.range (2 ^ circleCount l s)).map (fun m => Gen.mk s m)
      | some b => ((Array.range (2 ^ circleCount l s)).map (fun m => Gen.mk s m)).filter (fun g => g.mask.testBit b) := by
  unfold Cube.gensAt
  rw [mkCube_circ l p s hs]
  rfl

theorem gensAt_filter_size (l : Link) (p : Params) (s : Nat) (hs : s < 2 ^ crossingNum l) (P : Gen → Bool)
    (Q : Nat → Bool) (hPQ : ∀ m, P ⟨s, m⟩ = Q (popcount m (circleCount l s))) :
    (((mkCube l p).gensAt s).filter P).size
      = maskCount ((mkCube l p).baseCircle s).isSome (circleCount l s) Q := by
  have hall : ∀ T : Nat → Bool,
      (((Array.range (2 ^ circleCount l s)).map (fun m => Gen.mk s m)).filter (fun g => P g && T g.mask)).size
        = ∑ m ∈ Finset.range (2 ^ circleCount l s), if T m && Q (popcount m (circleCount l s)) then 1 else 0 := by
    intro T
    rw [Array.filter_map, Array.size_map, filter_range_size]
    refine Finset.sum_congr rfl fun m _ => ?_
    rw [Function.comp, hPQ, Bool.and_comm]
  rw [mkCube_gensAt' l p s hs]
  cases hb : (mkCube l p).baseCircle s with
  | none => simpa only [Bool.and_true, Bool.true_and, Option.isSome_none, maskCount, cond_false, cntAll]
      using hall (fun _ => true)
  | some b =>
    simp only [Option.isSome_some, maskCount, cond_true]
    rw [Array.filter_filter]
    exact (hall (fun m => m.testBit b)).trans (cntBit_eq _ b
      (Nat.lt_of_lt_of_eq (Cube.baseCircle_lt _ s b hb) (congrArg Array.size (mkCube_circ l p s hs))) Q)

/-- whether the vertices of the cube have a base circle -/
def BaseIs (l : Link) (p : Params) (based : Bool) : Prop :=
  ∀ s < 2 ^ crossingNum l, ((mkCube l p).baseCircle s).isSome = based

theorem baseIs_unreduced (l : Link) (p : Params) (hp : p.reduced = false) : BaseIs l p false := by
  intro s _
  simp [Cube.baseCircle, mkCube, hp]

theorem chainRank_eq_sum_weightCircle (l : Link) (p : Params) {based : Bool} (hB : BaseIs l p based)
    (nPos nNeg : Nat) (i j : Int) :
    chainRank l p nPos nNeg i j =
      ((weightCircle l).map fun wr => maskCount based wr.2
        (degQ (-(nNeg : Int)) ((nPos : Int) - 2 * nNeg + (if p.reduced then 1 else 0)) i j wr.1 wr.2)).sum := by
  rw [sum_weightCircle]
  refine Finset.sum_congr rfl fun s hs => ?_
  have hs' : s < 2 ^ crossingNum l := Finset.mem_range.mp hs
  rw [← hB s hs']
  refine gensAt_filter_size l p s hs' _ _ fun m => ?_
  simp only [mkCube_qDeg' l p _ s m hs']
  rfl

theorem chainRankH_eq_sum_weightCircle (l : Link) (p : Params) {based : Bool} (hB : BaseIs l p based) (nNeg : Nat)
    (i : Int) :
    chainRankH l p nNeg i =
      ((weightCircle l).map fun wr => maskCount based wr.2 (fun _ => decide (-(nNeg : Int) + (wr.1 : Int) = i))).sum := by
  rw [sum_weightCircle]
  refine Finset.sum_congr rfl fun s hs => ?_
  have hs' : s < 2 ^ crossingNum l := Finset.mem_range.mp hs
  rw [← hB s hs']
  exact gensAt_filter_size l p s hs' _ (fun _ => decide (-(nNeg : Int) + (popcount s (crossingNum l) : Int) = i))
    fun _ => rfl

theorem chainRank_congr {l l' : Link} (h : weightCircle l' = weightCircle l) (p : Params) {based : Bool}
    (hB : BaseIs l p based) (hB' : BaseIs l' p based) (nPos nNeg : Nat) (i j : Int) :
    chainRank l' p nPos nNeg i j = chainRank l p nPos nNeg i j := by
  rw [chainRank_eq_sum_weightCircle l p hB, chainRank_eq_sum_weightCircle l' p hB', h]

theorem chainRankH_congr {l l' : Link} (h : weightCircle l' = weightCircle l) (p : Params) {based : Bool}
    (hB : BaseIs l p based) (hB' : BaseIs l' p based) (nNeg : Nat) (i : Int) :
    chainRankH l' p nNeg i = chainRankH l p nNeg i := by
  rw [chainRankH_eq_sum_weightCircle l p hB, chainRankH_eq_sum_weightCircle l' p hB', h]

/-- (i)+(ii) in the unreduced theory (every bidegree, every `h`, `t`): the chain ranks are invariant under injective
renumbering of the edge labels followed by ANY permutation of the crossing list -/
theorem chainRank_renumber_perm {f : Nat → Nat} {l l' : Link} (hf : Set.InjOn f (labelSet l)) (hwf : WF l)
    (hperm : l'.toList.Perm (renumber f l).toList) (p : Params) (hp : p.reduced = false) (nPos nNeg : Nat) (i j : Int) :
    chainRank l' p nPos nNeg i j = chainRank l p nPos nNeg i j :=
  chainRank_congr
    ((weightCircle_multiset_perm (WF_renumber hwf) hperm).trans (weightCircle_multiset_renumber l hf hwf)) p
    (baseIs_unreduced l p hp) (baseIs_unreduced l' p hp) _ _ _ _

/-! ### non-vacuity: the hypotheses hold for the trefoil with a rotated crossing list and with `f x = 10 x + 3` -/

theorem trefoil_relabel_inj : Set.InjOn (fun x => 10 * x + 3) (labelSet trefoil) :=
  Function.Injective.injOn fun _ _ h => Nat.eq_of_mul_eq_mul_left (by decide : 0 < 10) (Nat.add_right_cancel h)

example : WF trefoil := wf_trefoil

/-- same multiset of (weight, circle count) pairs and same chain ranks in every bidegree, for every unreduced
Frobenius algebra `(h, t)` -/
example : weightCircle #[⟨.X, #[5, 2, 6, 3]⟩, ⟨.X, #[1, 4, 2, 5]⟩, ⟨.X, #[3, 6, 4, 1]⟩] = weightCircle trefoil :=
  weightCircle_multiset_perm wf_trefoil trefoil_rot_perm

example (h t i j : Int) :
    chainRank #[⟨.X, #[5, 2, 6, 3]⟩, ⟨.X, #[1, 4, 2, 5]⟩, ⟨.X, #[3, 6, 4, 1]⟩] ⟨h, t, false⟩ 0 3 i j
      = chainRank trefoil ⟨h, t, false⟩ 0 3 i j :=
  chainRank_congr (weightCircle_multiset_perm wf_trefoil trefoil_rot_perm) _ (baseIs_unreduced _ _ rfl)
    (baseIs_unreduced _ _ rfl) _ _ _ _

/-- the relabelled trefoil (`x ↦ 10 x + 3`) -/
example (h t i j : Int) :
    chainRank (renumber (fun x => 10 * x + 3) trefoil) ⟨h, t, false⟩ 0 3 i j = chainRank trefoil ⟨h, t, false⟩ 0 3 i j :=
  chainRank_congr (weightCircle_multiset_renumber trefoil trefoil_relabel_inj wf_trefoil) _ (baseIs_unreduced _ _ rfl)
    (baseIs_unreduced _ _ rfl) _ _ _ _

example : weightCircle (renumber (fun x => 10 * x + 3) trefoil) = weightCircle trefoil :=
  weightCircle_multiset_renumber trefoil trefoil_relabel_inj wf_trefoil

/-- the summand is not constant: one vertex of weight 3 with 3 circles contributes 3 generators to bidegree
`(0, -2)` of the left-handed trefoil (`nNeg = 3`) and none to `(0, -3)` -/
example : rankAt (-3) (-6) 0 (-2) 3 3 = 3 ∧ rankAt (-3) (-6) 0 (-3) 3 3 = 0 := by decide +kernel

/-! ### every parameter triple, the reduced theory included

In the reduced theory the generators at a vertex are the masks whose bit `b` = index of the circle through the base
edge is set.  That circle exists at every vertex as soon as there is a base edge at all, i.e. for every non-empty
well-formed diagram (`baseCircle_isSome`); this follows from a description of what `KhRef.circles` returns
(`C06Cycle.circles_spec`): every label lies on a circle. -/

theorem mem_circles (l : Link) (hwf : WF l) (s : Nat) (e : Nat) (he : e ∈ edgeLabels l) :
    ∃ cs ∈ circles l (edgeLabels l) s, e ∈ cs := by
  obtain ⟨i, hi, hei⟩ := (C06Cycle.circles_spec l hwf s).cover e he
  exact ⟨_, KhRef.getElem!_mem _ i hi, hei⟩

/-- the base edge of the reduced theory: least edge label of the FIRST crossing -/
def baseEdge (l : Link) : Option Nat :=
  if h : 0 < l.size then some ((l[0]).e.foldl min (l[0]).e[0]!) else none

theorem mkCube_base (l : Link) (p : Params) : (mkCube l p).base = if p.reduced then baseEdge l else none := rfl

theorem baseEdge_mem (l : Link) (hwf : WF l) (e : Nat) (h : baseEdge l = some e) : e ∈ edgeLabels l := by
  unfold baseEdge at h
  split at h
  · rename_i h0
    have h4 : (l[0]).e.size = 4 := hwf _ (Array.getElem_mem h0)
    have hm : (l[0]).e[0]! ∈ (l[0]).e := by
      rw [getElem!_pos _ 0 (by omega)]; exact Array.getElem_mem _
    have he : e ∈ (l[0]).e := by
      injection h with h
      rw [← h, ← Array.foldl_toList]
      rcases KhRef.foldl_min_mem (l[0]).e.toList (l[0]).e[0]! with h' | h'
      · rw [h']; exact hm
      · exact Array.mem_toList_iff.mp h' 
    exact (mem_edgeLabels l e).mpr ⟨l[0], Array.getElem_mem h0, he⟩
  · cases h

theorem baseCircle_isSome (l : Link) (hwf : WF l) (p : Params) : BaseIs l p (p.reduced && decide (0 < l.size)) := by
  intro s hs
  unfold Cube.baseCircle
  rw [mkCube_base, mkCube_circ l p s hs]
  cases p.reduced with
  | false => rfl
  | true =>
    by_cases h0 : 0 < l.size
    · obtain ⟨e, he⟩ : ∃ e, baseEdge l = some e := ⟨_, dif_pos h0⟩
      obtain ⟨cs, hcs, hecs⟩ := mem_circles l hwf s e (baseEdge_mem l hwf e he)
      simp only [if_true, he, h0, decide_true, Bool.and_true]
      rw [Array.findIdx?_isSome, Array.any_eq_true']
      exact ⟨cs, hcs, Array.contains_iff_mem.mpr hecs⟩
    · rw [if_pos rfl, show baseEdge l = none from dif_neg h0, decide_eq_false h0]
      rfl

theorem size_renumber (f : Nat → Nat) (l : Link) : (renumber f l).size = l.size := by simp [renumber]

theorem size_perm {l l' : Link} (hperm : l'.toList.Perm l.toList) : l'.size = l.size := by
  simpa using hperm.length_eq

/-- (ii) the ranks of the chain groups of the reference cube in every bidegree — for EVERY parameter triple
`(h, t, reduced)` — are invariant under any permutation of the crossing list of a well-formed diagram (in the reduced
theory the base edge, the least label of the FIRST crossing, changes) -/
theorem chainRank_perm_all {l l' : Link} (hwf : WF l) (hperm : l'.toList.Perm l.toList)
    (p : Params) (nPos nNeg : Nat) (i j : Int) :
    chainRank l' p nPos nNeg i j = chainRank l p nPos nNeg i j :=
  chainRank_congr (weightCircle_multiset_perm hwf hperm) p (baseCircle_isSome l hwf p)
    (size_perm hperm ▸ baseCircle_isSome l' (WF_perm hperm hwf) p) _ _ _ _

/-- (i) … and under injective renumbering of the edge labels (the base edge is renumbered along, but need not stay
the LEAST label of the first crossing) -/
theorem chainRank_renumber_all {f : Nat → Nat} (l : Link) (hf : Set.InjOn f (labelSet l)) (hwf : WF l)
    (p : Params) (nPos nNeg : Nat) (i j : Int) :
    chainRank (renumber f l) p nPos nNeg i j = chainRank l p nPos nNeg i j :=
  chainRank_congr (weightCircle_multiset_renumber l hf hwf) p (baseCircle_isSome l hwf p)
    (size_renumber f l ▸ baseCircle_isSome _ (WF_renumber hwf) p) _ _ _ _

theorem chainRank_renumber_perm_all {f : Nat → Nat} {l l' : Link} (hf : Set.InjOn f (labelSet l)) (hwf : WF l)
    (hperm : l'.toList.Perm (renumber f l).toList) (p : Params) (nPos nNeg : Nat) (i j : Int) :
    chainRank l' p nPos nNeg i j = chainRank l p nPos nNeg i j := by
  rw [chainRank_perm_all (WF_renumber hwf) hperm, chainRank_renumber_all l hf hwf]

theorem chainRankH_perm_all {l l' : Link} (hwf : WF l) (hperm : l'.toList.Perm l.toList)
    (p : Params) (nNeg : Nat) (i : Int) : chainRankH l' p nNeg i = chainRankH l p nNeg i :=
  chainRankH_congr (weightCircle_multiset_perm hwf hperm) p (baseCircle_isSome l hwf p)
    (size_perm hperm ▸ baseCircle_isSome l' (WF_perm hperm hwf) p) _ _

theorem chainRankH_renumber_all {f : Nat → Nat} (l : Link) (hf : Set.InjOn f (labelSet l)) (hwf : WF l)
    (p : Params) (nNeg : Nat) (i : Int) : chainRankH (renumber f l) p nNeg i = chainRankH l p nNeg i :=
  chainRankH_congr (weightCircle_multiset_renumber l hf hwf) p (baseCircle_isSome l hwf p)
    (size_renumber f l ▸ baseCircle_isSome _ (WF_renumber hwf) p) _ _

/-! ### non-vacuity -/

/-- the rotated trefoil, REDUCED theory: the base edge changes from `1` (first crossing `[1,4,2,5]`) to `2`
(first crossing `[5,2,6,3]`) -/
example : baseEdge trefoil = some 1 ∧
    baseEdge #[⟨.X, #[5, 2, 6, 3]⟩, ⟨.X, #[1, 4, 2, 5]⟩, ⟨.X, #[3, 6, 4, 1]⟩] = some 2 := by decide +kernel

example (h t i j : Int) (red : Bool) :
    chainRank #[⟨.X, #[5, 2, 6, 3]⟩, ⟨.X, #[1, 4, 2, 5]⟩, ⟨.X, #[3, 6, 4, 1]⟩] ⟨h, t, red⟩ 0 3 i j
      = chainRank trefoil ⟨h, t, red⟩ 0 3 i j :=
  chainRank_perm_all wf_trefoil trefoil_rot_perm _ _ _ _ _

/-- the relabelled trefoil (`x ↦ 10 x + 3`), both theories -/
example (h t i j : Int) (red : Bool) :
    chainRank (renumber (fun x => 10 * x + 3) trefoil) ⟨h, t, red⟩ 0 3 i j = chainRank trefoil ⟨h, t, red⟩ 0 3 i j :=
  chainRank_renumber_all trefoil trefoil_relabel_inj wf_trefoil _ _ _ _ _

/-- a renumbering that is injective on the labels but not monotone (`x ↦ 3x mod 7` : 1,2,3,4,5,6 ↦ 3,6,2,5,1,4):
the base edge of the renumbered diagram (`1 = f 5`) is NOT the image of the base edge (`f 1 = 3`) -/
example (h t i j : Int) :
    chainRank (renumber (fun x => (x * 3) % 7) trefoil) ⟨h, t, true⟩ 0 3 i j = chainRank trefoil ⟨h, t, true⟩ 0 3 i j :=
  chainRank_renumber_all trefoil
    (fun a ha b hb h =>
      (by decide : ∀ a < 7, ∀ b < 7, (a * 3) % 7 = (b * 3) % 7 → a = b)
        a (Nat.lt_succ_of_le (trefoil_label_bounds ha).2) b (Nat.lt_succ_of_le (trefoil_label_bounds hb).2) h)
    wf_trefoil _ _ _ _ _

example : baseEdge (renumber (fun x => (x * 3) % 7) trefoil) = some 1 := by decide +kernel

/-- the reduced summand is not constant -/
example : rankAtRed (-3) (-5) 0 (-3) 3 3 = 2 ∧ rankAtRed (-3) (-5) 0 (-2) 3 3 = 0 := by decide +kernel

end Yuiv.C18Bridge
