import Yuiv.Proofs.C10Term
import Yuiv.Proofs.ListAux
/-
C10 — PARTIAL CORRECTNESS of the Hermite variant `lll_hnf` (`LLLHNFCalc`): whenever the model returns, the result is in
Hermite normal form (`isHnf`).

The argument only looks at the rows of `target`; `det`/`lambda` (in Hermite mode the Gram–Schmidt data of the rows of the
transform `P`) only influence WHICH row operations are done.  The loop invariant `HInv n T step` speaks of the rows `< step` in
the orientation BEFORE the final row reversal: zero rows first, then strictly decreasing leading columns, entries under a pivot
smaller than it; the pivot of row `step-1` need not be positive yet (a row is normalised only when it is used as a reducer).
-/
namespace Yuiv.C10
open Yuiv Res

/-- leading column of row `i` of `T` (`n` for a zero row); `leadCol n H i = leadF n (ent H) i` -/
def leadF (n : Nat) (T : Nat → Nat → Int) (i : Nat) : Nat := ((List.range n).find? fun j => T i j != 0).getD n

theorem leadCol_eq (n : Nat) (H : Mat) (i : Nat) : leadCol n H i = leadF n (ent H) i := rfl

theorem leadF_spec (n : Nat) (T : Nat → Nat → Int) (i : Nat) :
    leadF n T i ≤ n ∧ (∀ j < leadF n T i, T i j = 0) ∧ (leadF n T i < n → T i (leadF n T i) ≠ 0) := by
  have h := ListAux.find_range_spec (fun j => T i j != 0) n
  simp only [bne_eq_false_iff_eq, bne_iff_ne] at h
  exact h

theorem leadF_unique (n : Nat) (T : Nat → Nat → Int) (i L : Nat) (h1 : L ≤ n) (h2 : ∀ j < L, T i j = 0)
    (h3 : L < n → T i L ≠ 0) : leadF n T i = L := by
  obtain ⟨s1, s2, s3⟩ := leadF_spec n T i
  rcases Nat.lt_trichotomy (leadF n T i) L with h | h | h
  · exact absurd (h2 _ h) (s3 (by omega))
  · exact h
  · exact absurd (s2 _ h) (h3 (by omega))

theorem leadF_congr (n : Nat) (T T' : Nat → Nat → Int) (i i' : Nat) (h : ∀ c < n, T' i' c = T i c) :
    leadF n T' i' = leadF n T i := by
  obtain ⟨s1, s2, s3⟩ := leadF_spec n T i
  refine leadF_unique n T' i' _ s1 (fun j hj => by rw [h j (by omega)]; exact s2 j hj) (fun hl => ?_)
  rw [h _ hl]; exact s3 hl

theorem leadF_congr_le (n : Nat) (T T' : Nat → Nat → Int) (i : Nat)
    (h : ∀ c < n, c ≤ leadF n T i → T' i c = T i c) : leadF n T' i = leadF n T i := by
  obtain ⟨s1, s2, s3⟩ := leadF_spec n T i
  refine leadF_unique n T' i _ s1 (fun j hj => by rw [h j (by omega) (by omega)]; exact s2 j hj) (fun hl => ?_)
  rw [h _ hl (le_refl _)]; exact s3 hl

theorem abs_mul_unit {u : Int} (hu : u = 1 ∨ u = -1) (a : Int) : |a * u| = |a| := by
  rcases hu with rfl | rfl
  · rw [mul_one]
  · rw [mul_neg, mul_one, abs_neg]

theorem leadF_mul_unit (n : Nat) (T T' : Nat → Nat → Int) (i i' : Nat) {u : Int} (hu : u = 1 ∨ u = -1)
    (h : ∀ c < n, T' i' c = T i c * u) : leadF n T' i' = leadF n T i := by
  obtain ⟨s1, s2, s3⟩ := leadF_spec n T i
  refine leadF_unique n T' i' _ s1 (fun j hj => ?_) (fun hlt => ?_)
  · rw [h j (by omega), s2 j hj, zero_mul]
  · rw [h _ hlt]
    rcases hu with rfl | rfl <;> simpa using s3 hlt

theorem nzColIn_some {d : Data} {i j : Nat} (h : d.nzColIn i = some j) :
    leadF d.tr.n (ent d.tr.target) i = j ∧ j < d.tr.n := by
  unfold Data.nzColIn at h
  have h' := h
  rw [List.find?_range_eq_some] at h'
  refine ⟨?_, List.mem_range.mp h'.2.1⟩
  unfold leadF
  rw [h]
  rfl

theorem nzColIn_none {d : Data} {i : Nat} (h : d.nzColIn i = none) :
    leadF d.tr.n (ent d.tr.target) i = d.tr.n := by
  unfold Data.nzColIn at h
  unfold leadF
  rw [h]
  rfl

structure HInv (n : Nat) (T : Nat → Nat → Int) (s : Nat) : Prop where
  ord : ∀ i k, i < k → k < s → leadF n T i = n ∨ leadF n T k < leadF n T i
  red : ∀ i k, i < k → k < s → leadF n T i < n → |T k (leadF n T i)| < |T i (leadF n T i)|
  pos : ∀ i, i + 1 < s → leadF n T i < n → 0 < T i (leadF n T i)

theorem HInv.of_le_one (n : Nat) (T : Nat → Nat → Int) (s : Nat) (hs : s ≤ 1) : HInv n T s :=
  ⟨fun _ _ _ _ => by omega, fun _ _ _ _ => by omega, fun _ _ => by omega⟩

theorem HInv.mono {n : Nat} {T : Nat → Nat → Int} {s s' : Nat} (h : HInv n T s) (hs : s' ≤ s) : HInv n T s' :=
  ⟨fun i k h1 h2 => h.ord i k h1 (by omega), fun i k h1 h2 => h.red i k h1 (by omega),
    fun i h1 => h.pos i (by omega)⟩

theorem HInv.flip_last {n : Nat} {T T' : Nat → Nat → Int} {s : Nat} (h : HInv n T s) (u : Int)
    (hu : u = 1 ∨ u = -1) (h1 : ∀ a, a + 1 < s → ∀ c < n, T' a c = T a c)
    (h2 : ∀ a, a + 1 = s → ∀ c < n, T' a c = T a c * u) : HInv n T' s := by
  have hL : ∀ a < s, leadF n T' a = leadF n T a := by
    intro a ha
    by_cases hl : a + 1 = s
    · exact leadF_mul_unit n T T' a a hu (h2 a hl)
    · exact leadF_congr n T T' a a (h1 a (by omega))
  have habs : ∀ a < s, ∀ c < n, |T' a c| = |T a c| := by
    intro a ha c hc
    by_cases hl : a + 1 = s
    · rw [h2 a hl c hc, abs_mul_unit hu]
    · rw [h1 a (by omega) c hc]
  constructor
  · intro i k hik hk
    rw [hL i (by omega), hL k hk]
    exact h.ord i k hik hk
  · intro i k hik hk hl
    rw [hL i (by omega)] at hl ⊢
    rw [habs k hk _ hl, habs i (by omega) _ hl]
    exact h.red i k hik hk hl
  · intro i hi hl
    rw [hL i (by omega)] at hl ⊢
    rw [h1 i hi _ hl]
    exact h.pos i hi hl

theorem HInv.congr {n : Nat} {T T' : Nat → Nat → Int} {s : Nat} (h : HInv n T s)
    (h1 : ∀ a < s, ∀ c < n, T' a c = T a c) : HInv n T' s :=
  h.flip_last 1 (Or.inl rfl) (fun a ha c hc => h1 a (by omega) c hc)
    (fun a ha c hc => by rw [h1 a (by omega) c hc, mul_one])

theorem HInv.normalize_last {n : Nat} {T T' : Nat → Nat → Int} {s : Nat} (h : HInv n T s) {u : Int}
    (hu : u = 1 ∨ u = -1) (h1 : ∀ a, a + 1 < s → ∀ c < n, T' a c = T a c)
    (h2 : ∀ a, a + 1 = s → ∀ c < n, T' a c = T a c * u)
    (hpos : ∀ a, a + 1 = s → leadF n T a < n → 0 < T a (leadF n T a) * u) :
    HInv n T' s ∧ ∀ i < s, leadF n T' i < n → 0 < T' i (leadF n T' i) := by
  have hI' := h.flip_last u hu h1 h2
  refine ⟨hI', fun i hi hl => ?_⟩
  rcases Nat.lt_or_ge (i + 1) s with hlt | hge
  · exact hI'.pos i hlt hl
  · have hi' : i + 1 = s := by omega
    rw [leadF_mul_unit n T T' i i hu (h2 i hi')] at hl ⊢
    rw [h2 i hi' _ hl]
    exact hpos i hi' hl

theorem HInv.reduce_last {n : Nat} {T T' : Nat → Nat → Int} {k : Nat} (hI : HInv n T k) (hk : 1 ≤ k) {u r : Int}
    (hu : u = 1 ∨ u = -1)
    (hT : ∀ a ≤ k, ∀ c < n, T' a c
      = if a = k - 1 then T (k - 1) c * u else if a = k then T k c + T (k - 1) c * u * r else T a c)
    (hb : leadF n T (k - 1) < n → 0 < T (k - 1) (leadF n T (k - 1)) * u ∧
      |T k (leadF n T (k - 1)) + T (k - 1) (leadF n T (k - 1)) * u * r| < |T (k - 1) (leadF n T (k - 1))|) :
    HInv n T' k ∧ (∀ i < k, leadF n T' i < n → 0 < T' i (leadF n T' i)) ∧
      (leadF n T' (k - 1) < n → |T' k (leadF n T' (k - 1))| < |T' (k - 1) (leadF n T' (k - 1))|) := by
  have hrow : ∀ c < n, T' (k - 1) c = T (k - 1) c * u := fun c hc => by rw [hT (k - 1) (by omega) c hc, if_pos rfl]
  obtain ⟨hI', hp⟩ := hI.normalize_last (T' := T') hu
    (fun a ha c hc => by rw [hT a (by omega) c hc, if_neg (by omega), if_neg (by omega)])
    (fun a ha c hc => by obtain rfl : a = k - 1 := by omega
                         exact hrow c hc)
    (fun a ha hl => by obtain rfl : a = k - 1 := by omega
                       exact (hb hl).1)
  refine ⟨hI', hp, fun hl => ?_⟩
  rw [leadF_mul_unit n T T' _ _ hu hrow] at hl ⊢
  rw [hrow _ hl, hT k (le_refl k) _ hl, if_neg (by omega), if_pos rfl, abs_mul_unit hu]
  exact (hb hl).2

/-- `m`, `n`, `step` are kept and `target` is mapped by `f`, entrywise on the index range -/
def TgtStep (d d' : Data) (f : (Nat → Nat → Int) → Nat → Nat → Int) : Prop :=
  d'.tr.m = d.tr.m ∧ d'.tr.n = d.tr.n ∧ d'.step = d.step ∧
    ∀ a < d.tr.m, ∀ c < d.tr.n, ent d'.tr.target a c = f (ent d.tr.target) a c

theorem TgtStep.refl (d : Data) : TgtStep d d (fun T a c => T a c) := ⟨rfl, rfl, rfl, fun _ _ _ _ => rfl⟩

theorem Data.swap_tgt (d d' : Data) (k : Nat) (h : d.swap k = ok d') :
    0 < k ∧ k < d.tr.m ∧
      TgtStep d d' (fun T a c => T (if a = k - 1 then k else if a = k then k - 1 else a) c) := by
  obtain ⟨hk0, hk, _, _, _, hS⟩ := Data.swap_spec h
  exact ⟨hk0, hk, hS.tr.m, hS.tr.n, hS.step, hS.tr.target⟩

theorem TgtStep.mul_add {d d1 d' : Data} {i k : Nat} {u r : Int} (h1 : d.RowMul d1 i u) (h2 : d1.RowAdd d' i k r)
    (hik : i < k) (hk : k < d.tr.m) :
    TgtStep d d' (fun T a c => if a = i then T i c * u else if a = k then T k c + T i c * u * r else T a c) := by
  refine ⟨h2.tr.m.trans h1.tr.m, h2.tr.n.trans h1.tr.n, h2.step.trans h1.step, fun a ha c hc => ?_⟩
  dsimp only
  rw [h2.tr.target a (by rw [h1.tr.m]; exact ha) c (by rw [h1.tr.n]; exact hc), h1.tr.target a ha c hc,
    h1.tr.target i (by omega) c hc, if_pos rfl]
  by_cases hai : a = i
  · rw [if_neg (show ¬ a = k by omega), if_pos hai, if_pos hai, hai]
  · rw [if_neg hai, if_neg hai]
    by_cases hak : a = k
    · rw [if_pos hak, if_pos hak, hak]
    · rw [if_neg hak, if_neg hak]

theorem sign_unit (a : Int) : (if a < 0 then (-1 : Int) else 1) = 1 ∨ (if a < 0 then (-1 : Int) else 1) = -1 := by
  split
  · exact Or.inr rfl
  · exact Or.inl rfl

/-- `if let Some(j) = nz_col_in(i) { let u = target[(i,j)].normalizing_unit(); if !u.is_one() { mul_row(i, u) } }` -/
theorem normalize_rowMul {d d' : Data} {i j : Nat} (hj : d.nzColIn i = some j)
    (h : d.mulRowIf i (if ent d.tr.target i j < 0 then -1 else 1) = ok d') :
    ∃ u : Int, (u = 1 ∨ u = -1) ∧ 0 < ent d.tr.target i j * u ∧ d.RowMul d' i u := by
  obtain ⟨hL, hjn⟩ := nzColIn_some hj
  have hne : ent d.tr.target i j ≠ 0 := by
    have := (leadF_spec d.tr.n (ent d.tr.target) i).2.2
    rw [hL] at this
    exact this hjn
  refine ⟨_, sign_unit _, ?_, Data.mulRowIf_rowMul h⟩
  split <;> omega

theorem abs_sub_mul_le (a b q : Int) (h : 2 * |a - q * b| ≤ |b|) : |a - q * b| ≤ |a| := by
  by_cases hq : q = 0
  · subst hq; simp
  · have h1 : |q * b| ≤ |a| + |a - q * b| := by
      have := abs_sub a (a - q * b)
      have e : a - (a - q * b) = q * b := by ring
      rw [e] at this
      exact this
    have h2 : |b| ≤ |q * b| := by
      rw [abs_mul]
      exact le_mul_of_one_le_left (abs_nonneg b) (Int.one_le_abs hq)
    linarith

theorem hnfReduce_steps {d d' : Data} {i k : Nat} (h : hnfReduce d i k = ok d') :
    i < k ∧ k < d.tr.m ∧ ∃ (u r : Int) (d1 : Data), (u = 1 ∨ u = -1) ∧ d.RowMul d1 i u ∧ d1.RowAdd d' i k r ∧
      (leadF d.tr.n (ent d.tr.target) i < d.tr.n →
        0 < ent d.tr.target i (leadF d.tr.n (ent d.tr.target) i) * u ∧
        |ent d.tr.target k (leadF d.tr.n (ent d.tr.target) i)
            + ent d.tr.target i (leadF d.tr.n (ent d.tr.target) i) * u * r|
          < |ent d.tr.target i (leadF d.tr.n (ent d.tr.target) i)| ∧
        |ent d.tr.target k (leadF d.tr.n (ent d.tr.target) i)
            + ent d.tr.target i (leadF d.tr.n (ent d.tr.target) i) * u * r|
          ≤ |ent d.tr.target k (leadF d.tr.n (ent d.tr.target) i)|) := by
  obtain ⟨hik, hk, ⟨j, d1, q, hj, h1, hq, h2⟩ | ⟨hnone, h⟩⟩ := hnfReduce_spec h
  · obtain ⟨hL, hjn⟩ := nzColIn_some hj
    obtain ⟨u, hu, hpos, hS1⟩ := normalize_rowMul hj h1
    have hS2 : d1.RowAdd d' i k (-q) := by
      rcases h2 with ⟨_, h2⟩ | ⟨rfl, rfl⟩
      · exact (Data.addRowTo_spec h2).2.2.2.2
      · rw [neg_zero]; exact Data.RowAdd.zero _ i k
    have hq' := divRound_abs hq
    rw [hS1.tr.target i (by omega) j hjn, hS1.tr.target k hk j hjn, if_pos rfl,
      if_neg (show ¬ k = i by omega)] at hq'
    refine ⟨hik, hk, u, -q, d1, hu, hS1, hS2, fun _ => ?_⟩
    rw [hL, show ent d.tr.target k j + ent d.tr.target i j * u * -q
      = ent d.tr.target k j - q * (ent d.tr.target i j * u) by ring]
    refine ⟨hpos, ?_, abs_sub_mul_le _ _ _ hq'⟩
    rw [abs_mul_unit hu] at hq'
    have : 0 < |ent d.tr.target i j| := abs_pos.mpr (fun e => by rw [e, zero_mul] at hpos; exact lt_irrefl 0 hpos)
    omega
  · obtain ⟨q, _, hS⟩ := Data.reduce_rowAdd h
    exact ⟨hik, hk, 1, -q, d, Or.inl rfl, Data.RowMul.one d i, hS,
      fun hlt => absurd hlt (by rw [nzColIn_none hnone]; exact lt_irrefl _)⟩

theorem hnfReduce_tgt (d d' : Data) (i k : Nat) (h : hnfReduce d i k = ok d') :
    i < k ∧ k < d.tr.m ∧ ∃ u r : Int, (u = 1 ∨ u = -1) ∧
      TgtStep d d' (fun T a c => if a = i then T i c * u else if a = k then T k c + T i c * u * r else T a c) ∧
      (leadF d.tr.n (ent d.tr.target) i < d.tr.n →
        0 < ent d.tr.target i (leadF d.tr.n (ent d.tr.target) i) * u ∧
        |ent d.tr.target k (leadF d.tr.n (ent d.tr.target) i)
            + ent d.tr.target i (leadF d.tr.n (ent d.tr.target) i) * u * r|
          < |ent d.tr.target i (leadF d.tr.n (ent d.tr.target) i)| ∧
        |ent d.tr.target k (leadF d.tr.n (ent d.tr.target) i)
            + ent d.tr.target i (leadF d.tr.n (ent d.tr.target) i) * u * r|
          ≤ |ent d.tr.target k (leadF d.tr.n (ent d.tr.target) i)|) ∧
      d'.det = d.det := by
  obtain ⟨hik, hk, u, r, d1, hu, hS1, hS2, hb⟩ := hnfReduce_steps h
  exact ⟨hik, hk, u, r, hu, TgtStep.mul_add hS1 hS2 hik hk, hb, hS2.det.trans hS1.det⟩

theorem hnfIsOk_true (d : Data) (k : Nat) (h : hnfIsOk d k = ok true) :
    0 < k ∧ (leadF d.tr.n (ent d.tr.target) (k - 1) = d.tr.n ∨
      leadF d.tr.n (ent d.tr.target) k < leadF d.tr.n (ent d.tr.target) (k - 1)) := by
  unfold hnfIsOk at h
  rw [assert_bind_eq_ok] at h
  obtain ⟨hk, h⟩ := h
  simp only [decide_eq_true_eq] at hk
  refine ⟨hk, ?_⟩
  split at h
  · rename_i j l hj hl
    simp only [pure_eq, Res.ok.injEq, decide_eq_true_eq] at h
    rw [(nzColIn_some hj).1, (nzColIn_some hl).1]
    exact Or.inr h
  · simp only [pure_eq, Res.ok.injEq] at h
    cases h
  · rename_i hnone _
    exact Or.inl (nzColIn_none hnone)
  · rename_i hnone _
    exact Or.inl (nzColIn_none hnone)

/-- state of the inner loop `for i in (0..k-1).rev() { reduce(i, k) }` when the rows `i ≥ cnt` have been used -/
structure HRow (n : Nat) (T : Nat → Nat → Int) (k cnt : Nat) : Prop where
  inv : HInv n T k
  posAll : ∀ i < k, leadF n T i < n → 0 < T i (leadF n T i)
  ordk : ∀ i < k, leadF n T i = n ∨ leadF n T k < leadF n T i
  redk : ∀ i, cnt ≤ i → i < k → leadF n T i < n → |T k (leadF n T i)| < |T i (leadF n T i)|

theorem HRow.start {n : Nat} {T : Nat → Nat → Int} {k : Nat} (hI : HInv n T k) (hk : 1 ≤ k)
    (hpos : ∀ i < k, leadF n T i < n → 0 < T i (leadF n T i))
    (hred : leadF n T (k - 1) < n → |T k (leadF n T (k - 1))| < |T (k - 1) (leadF n T (k - 1))|)
    (hrel : leadF n T (k - 1) = n ∨ leadF n T k < leadF n T (k - 1)) : HRow n T k (k - 1) := by
  refine ⟨hI, hpos, fun i hi => ?_, fun i hci hi hl => ?_⟩
  · rcases Nat.lt_or_ge (i + 1) k with hlt | hge
    · rcases hI.ord i (k - 1) (by omega) (by omega) with hz | hlt2
      · exact Or.inl hz
      · have hle := (leadF_spec n T i).1
        rcases hrel with hz | hlt3
        · omega
        · exact Or.inr (by omega)
    · obtain rfl : i = k - 1 := by omega
      exact hrel
  · obtain rfl : i = k - 1 := by omega
    exact hred hl

theorem HRow.step {n : Nat} {T T' : Nat → Nat → Int} {k cnt : Nat} (h : HRow n T k (cnt + 1)) (hc : cnt < k)
    (u r : Int) (hu : u = 1 ∨ u = -1)
    (hT : ∀ a ≤ k, ∀ c < n, T' a c
      = if a = cnt then T cnt c * u else if a = k then T k c + T cnt c * u * r else T a c)
    (hb : leadF n T cnt < n → 0 < T cnt (leadF n T cnt) * u ∧
      |T k (leadF n T cnt) + T cnt (leadF n T cnt) * u * r| < |T cnt (leadF n T cnt)|) :
    HRow n T' k cnt := by
  obtain ⟨s1, s2, s3⟩ := leadF_spec n T cnt
  -- the reducer row is already normalised (or zero): it does not change
  have hrow : ∀ c < n, T cnt c * u = T cnt c := by
    intro c hc'
    rcases Nat.lt_or_ge (leadF n T cnt) n with hl | hl
    · have p1 := h.posAll cnt hc hl
      have p2 := (hb hl).1
      rcases hu with rfl | rfl
      · rw [mul_one]
      · exfalso; linarith
    · rw [s2 c (by omega), zero_mul]
  have hsame : ∀ a < k, ∀ c < n, T' a c = T a c := by
    intro a ha c hc'
    rw [hT a (by omega) c hc']
    by_cases hac : a = cnt
    · rw [if_pos hac, hrow c hc', hac]
    · rw [if_neg hac, if_neg (by omega)]
  have hk : ∀ c < n, T' k c = T k c + T cnt c * (u * r) := by
    intro c hc'
    rw [hT k (le_refl k) c hc', if_neg (by omega), if_pos rfl, mul_assoc]
  have hL : ∀ a < k, leadF n T' a = leadF n T a := fun a ha => leadF_congr n T T' a a (hsame a ha)
  have hLk : leadF n T' k = leadF n T k := by
    apply leadF_congr_le
    intro c hc' hle
    rw [hk c hc']
    have := h.ordk cnt hc
    rw [s2 c (by omega), zero_mul, add_zero]
  constructor
  · exact h.inv.congr hsame
  · intro i hi hl
    rw [hL i hi] at hl ⊢
    rw [hsame i hi _ hl]
    exact h.posAll i hi hl
  · intro i hi
    rw [hL i hi, hLk]
    exact h.ordk i hi
  · intro i hci hi hl
    rw [hL i hi] at hl ⊢
    rw [hsame i hi _ hl, hk _ hl]
    rcases Nat.lt_or_ge cnt i with hgt | hle
    · -- the reducer vanishes at the pivot column of a later row
      have hz : T cnt (leadF n T i) = 0 := by
        rcases h.inv.ord cnt i hgt hi with hz | hlt
        · exact s2 _ (by omega)
        · exact s2 _ hlt
      rw [hz, zero_mul, add_zero]
      exact h.redk i (by omega) hi hl
    · have : i = cnt := by omega
      subst this
      rw [← mul_assoc]
      exact (hb hl).2

theorem HRow.finish {n : Nat} {T : Nat → Nat → Int} {k : Nat} (h : HRow n T k 0) : HInv n T (k + 1) := by
  constructor
  · intro i k' hik hk'
    rcases Nat.lt_or_ge k' k with hlt | hge
    · exact h.inv.ord i k' hik hlt
    · have : k' = k := by omega
      subst this
      exact h.ordk i hik
  · intro i k' hik hk' hl
    rcases Nat.lt_or_ge k' k with hlt | hge
    · exact h.inv.red i k' hik hlt hl
    · have : k' = k := by omega
      subst this
      exact h.redk i (Nat.zero_le _) hik hl
  · intro i hi hl
    exact h.posAll i (by omega) hl

theorem revLoop_hnf (k : Nat) : ∀ (cnt : Nat) (d d' : Data),
    revLoop (fun d i => hnfReduce d i k) d cnt = ok d' → cnt ≤ k →
    HRow d.tr.n (ent d.tr.target) k cnt →
    d'.tr.m = d.tr.m ∧ d'.tr.n = d.tr.n ∧ d'.step = d.step ∧ HRow d'.tr.n (ent d'.tr.target) k 0 := by
  intro cnt
  induction cnt with
  | zero =>
    intro d d' h _ hR
    simp only [revLoop, pure_eq, Res.ok.injEq] at h
    subst h
    exact ⟨rfl, rfl, rfl, hR⟩
  | succ cnt ih =>
    intro d d' h hc hR
    simp only [revLoop, bind_eq_ok_iff] at h
    obtain ⟨d1, h1, h2⟩ := h
    obtain ⟨_, hkm, u, r, hu, ⟨m1, n1, s1, t1⟩, hb, _⟩ := hnfReduce_tgt d d1 cnt k h1
    have hR1 : HRow d1.tr.n (ent d1.tr.target) k cnt := by
      rw [n1]
      exact hR.step (by omega) u r hu (fun a ha c hc' => t1 a (by omega) c hc')
        (fun hl => ⟨(hb hl).1, (hb hl).2.1⟩)
    obtain ⟨m2, n2, s2, hR2⟩ := ih d1 d' h2 (by omega) hR1
    exact ⟨m2.trans m1, n2.trans n1, s2.trans s1, hR2⟩

/-- the loop invariant of `LLLHNFCalc::process` -/
structure HState (m n : Nat) (d : Data) : Prop where
  hm : d.tr.m = m
  hn : d.tr.n = n
  step_pos : 1 ≤ d.step
  step_le : d.step ≤ max m 1
  inv : HInv n (ent d.tr.target) d.step

theorem HState.new (m n : Nat) (A : Mat) : HState m n (Data.new m n A) :=
  ⟨rfl, rfl, le_refl 1, le_max_right m 1, HInv.of_le_one _ _ _ (le_refl 1)⟩

theorem hnfIterate_inv (m n : Nat) (d d' : Data) (h : hnfIterate d = ok d') (hlt : d.step < d.tr.m)
    (hS : HState m n d) : HState m n d' := by
  obtain ⟨rfl, rfl, hs1, hs2, hI⟩ := hS
  -- (arithmetic on `step` first: `omega` is slow once the facts about the rows are in the context)
  have hback : 1 ≤ (if d.step > 1 then d.step - 1 else d.step) ∧
      (if d.step > 1 then d.step - 1 else d.step) ≤ max d.tr.m 1 := by split <;> omega
  have hk1 : d.step - 1 ≤ d.step := Nat.sub_le _ _
  have hk2 : d.step - 1 < d.step := by omega
  rw [hnfIterate_eq] at h
  obtain ⟨d1, h1, hcase⟩ := iterateWith_inv h
  obtain ⟨_, _, u, r, hu, ⟨m1, n1, s1, t1⟩, hbnd, _⟩ := hnfReduce_tgt d d1 (d.step - 1) d.step h1
  obtain ⟨hI1, hpos1, hred1⟩ := hI.reduce_last hs1 hu (fun a ha c hc => t1 a (by omega) c hc)
    (fun hl => ⟨(hbnd hl).1, (hbnd hl).2.1⟩)
  rcases hcase with ⟨hb, d2, h2, rfl⟩ | ⟨hb, d2, h2, rfl⟩
  · obtain ⟨_, hrel⟩ := hnfIsOk_true d1 d.step hb
    have hR1 : HRow d1.tr.n (ent d1.tr.target) d.step (d.step - 1) := by
      rw [n1] at hrel ⊢
      exact HRow.start hI1 hs1 hpos1 hred1 hrel
    obtain ⟨m2, n2, s2, hR2⟩ := revLoop_hnf d.step (d.step - 1) d1 d2 h2 hk1 hR1
    refine ⟨m2.trans m1, n2.trans n1, Nat.le_add_left 1 _, ?_, ?_⟩
    · show d2.step + 1 ≤ max d.tr.m 1
      rw [s2, s1]
      exact le_max_of_le_left hlt
    · show HInv d.tr.n (ent d2.tr.target) (d2.step + 1)
      rw [s2, s1, ← n1, ← n2]
      exact hR2.finish
  · obtain ⟨_, _, m2, n2, s2, t2⟩ := Data.swap_tgt d1 d2 d.step h2
    have hstep : d2.back.step = if d.step > 1 then d.step - 1 else d.step := by rw [Data.back_step, s2, s1]
    refine ⟨by rw [Data.back_tr]; exact m2.trans m1, by rw [Data.back_tr]; exact n2.trans n1, ?_, ?_, ?_⟩
    · rw [hstep]; exact hback.1
    · rw [hstep]; exact hback.2
    · rw [hstep, Data.back_tr]
      by_cases hgt : d.step > 1
      · rw [if_pos hgt]
        refine (hI.mono hk1).congr (fun a ha c hc => ?_)
        rw [t2 a (by omega) c (by omega)]
        show ent d1.tr.target (if a = d.step - 1 then d.step else if a = d.step then d.step - 1 else a) c = _
        rw [if_neg (by omega), if_neg (by omega), t1 a (by omega) c hc]
        show (if a = d.step - 1 then _ else if a = d.step then _ else _) = _
        rw [if_neg (by omega), if_neg (by omega)]
      · rw [if_neg hgt]
        exact HInv.of_le_one _ _ _ (by omega)

theorem loopWhile_hnf_inv (m n : Nat) : ∀ (fuel : Nat) (d d' : Data), loopWhile hnfIterate fuel d = ok d' →
    HState m n d → HState m n d' ∧ ¬ d'.step < d'.tr.m :=
  loopWhile_preserves hnfIterate (HState m n) (fun d d' hlt h hS => hnfIterate_inv m n d d' h hlt hS)

theorem hnfNormalizeLast_inv (m n : Nat) (d d' : Data) (h : hnfNormalizeLast d = ok d') (hm : d.tr.m = m)
    (hn : d.tr.n = n) (hI : HInv n (ent d.tr.target) m) :
    d'.tr.m = m ∧ d'.tr.n = n ∧ HInv n (ent d'.tr.target) m ∧
      ∀ i < m, leadF n (ent d'.tr.target) i < n → 0 < ent d'.tr.target i (leadF n (ent d'.tr.target) i) := by
  subst hm hn
  rcases hnfNormalizeLast_spec h with ⟨j, hm0, hj, h⟩ | ⟨hz, rfl⟩
  · obtain ⟨u, hu, hpos, hS⟩ := normalize_rowMul hj h
    obtain ⟨hL, hjn⟩ := nzColIn_some hj
    refine ⟨hS.tr.m, hS.tr.n, hI.normalize_last hu (fun a ha c hc => ?_) (fun a ha c hc => ?_) (fun a ha _ => ?_)⟩
    · rw [hS.tr.target a (by omega) c hc]
      exact if_neg (by omega)
    · rw [hS.tr.target a (by omega) c hc]
      exact if_pos (by omega)
    · obtain rfl : a = d.tr.m - 1 := by omega
      rw [hL]; exact hpos
  · refine ⟨rfl, rfl, hI, fun i hi hl => ?_⟩
    rcases Nat.lt_or_ge (i + 1) d'.tr.m with hlt | hge
    · exact hI.pos i hlt hl
    · obtain rfl : i = d'.tr.m - 1 := by omega
      rcases hz with hz | hz
      · omega
      · rw [nzColIn_none hz] at hl
        exact absurd hl (lt_irrefl _)

/-- the row that ends up in position `r` when the rows `i+x ↔ m-1-(i+x)`, `x < cnt`, are exchanged -/
def revIdx (m i cnt r : Nat) : Nat :=
  if (i ≤ r ∧ r < i + cnt) ∨ (i ≤ m - 1 - r ∧ m - 1 - r < i + cnt) then m - 1 - r else r

theorem revIdx_lt {m i cnt r : Nat} (hr : r < m) : revIdx m i cnt r < m := by
  unfold revIdx
  split <;> omega

theorem revIdx_succ {m i cnt r : Nat} (h : 2 * (i + cnt + 1) ≤ m) (hr : r < m) :
    sw i (m - i - 1) (revIdx m (i + 1) cnt r) = revIdx m i (cnt + 1) r := by
  by_cases hri : r = i
  · -- the new pair: position `i` receives row `m-1-i`
    subst hri
    rw [revIdx, if_neg (by omega), revIdx, if_pos (Or.inl (by omega)), sw, if_pos rfl]
    omega
  · by_cases hrj : r = m - i - 1
    · subst hrj
      rw [revIdx, if_neg (by omega), revIdx, if_pos (Or.inr (by omega)), sw, if_neg (by omega), if_pos rfl]
      omega
    · -- elsewhere the two index sets agree and the transposition does not act
      have e : ∀ x, x ≠ i → ((i + 1 ≤ x ∧ x < i + 1 + cnt) ↔ (i ≤ x ∧ x < i + (cnt + 1))) := fun x hx => by omega
      have h1 : m - 1 - r ≠ i := by omega
      have h2 : m - 1 - r ≠ m - i - 1 := by omega
      unfold revIdx
      rw [if_congr (or_congr (e r hri) (e (m - 1 - r) h1)) rfl rfl]
      split
      · rw [sw, if_neg h1, if_neg h2]
      · rw [sw, if_neg hri, if_neg hrj]

theorem reverseRows_tgt : ∀ (cnt i : Nat) (t t' : Tr), reverseRows t cnt i = ok t' → i + cnt ≤ t.m / 2 →
    t'.m = t.m ∧ t'.n = t.n ∧ ∀ r < t.m, ∀ c < t.n, ent t'.target r c = ent t.target (revIdx t.m i cnt r) c := by
  intro cnt
  induction cnt with
  | zero =>
    intro i t t' h _
    obtain rfl := ok.inj h
    exact ⟨rfl, rfl, fun r _ c _ => by rw [revIdx, if_neg (by omega)]⟩
  | succ cnt ih =>
    intro i t t' h hle
    simp only [reverseRows] at h
    rw [if_neg (by omega)] at h
    simp only [bind_eq_ok_iff] at h
    obtain ⟨t1, h1, h2⟩ := h
    obtain ⟨_, _, S⟩ := Tr.swapRows_spec h1
    obtain ⟨m2, n2, e2⟩ := ih (i + 1) t1 t' h2 (by rw [S.m]; omega)
    refine ⟨m2.trans S.m, n2.trans S.n, fun r hr c hc => ?_⟩
    rw [e2 r (by rw [S.m]; exact hr) c (by rw [S.n]; exact hc), S.m, S.target _ (revIdx_lt hr) c hc,
      revIdx_succ (by omega) hr]

theorem HInv.isHnf_rev {m n : Nat} {T T' : Nat → Nat → Int} (hI : HInv n T m)
    (hpos : ∀ i < m, leadF n T i < n → 0 < T i (leadF n T i))
    (hrev : ∀ r < m, ∀ c < n, T' r c = T (m - 1 - r) c) : IsHnf m n T' (leadF n T') := by
  have hL : ∀ r < m, leadF n T' r = leadF n T (m - 1 - r) := fun r hr => leadF_congr n T T' _ _ (hrev r hr)
  have hle : ∀ a, leadF n T a ≤ n := fun a => (leadF_spec n T a).1
  constructor
  · intro i _; exact (leadF_spec n T' i).1
  · intro i _ j hj; exact (leadF_spec n T' i).2.1 j hj
  · intro i hi hl
    rw [hL i hi] at hl ⊢
    rw [hrev i hi _ hl]
    exact hpos _ (by omega) hl
  · intro i hi i' hi' hlt hl
    rw [hL i hi] at hl ⊢
    rw [hL i' hi']
    rcases hI.ord (m - 1 - i') (m - 1 - i) (by omega) (by omega) with hz | h1
    · omega
    · exact h1
  · intro i hi i' hi' hlt hl
    rw [hL i hi] at hl
    rw [hL i' hi']
    rcases hI.ord (m - 1 - i') (m - 1 - i) (by omega) (by omega) with hz | h1
    · exact hz
    · have := hle (m - 1 - i'); omega
  · intro i hi i' hi' hlt hl
    rw [hL i hi] at hl ⊢
    rw [hrev i' hi' _ hl]
    rcases hI.ord (m - 1 - i') (m - 1 - i) (by omega) (by omega) with hz | h1
    · exact (leadF_spec n T (m - 1 - i')).2.1 _ (by omega)
    · exact (leadF_spec n T (m - 1 - i')).2.1 _ h1
  · intro i hi i' hlt hl
    rw [hL i hi] at hl ⊢
    rw [hrev i' (by omega) _ hl, hrev i hi _ hl]
    have := hI.red (m - 1 - i) (m - 1 - i') (by omega) (by omega) hl
    exact sq_lt_sq.mpr this

theorem lllHnf_isHnf (fuel m n : Nat) (A : Mat) (t : Tr) (h : lllHnf fuel m n A = ok t) :
    t.m = m ∧ t.n = n ∧ isHnf m n t.target = true := by
  unfold lllHnf at h
  simp only [bind_eq_ok_iff] at h
  obtain ⟨d1, h1, d2, h2, h3⟩ := h
  obtain ⟨⟨hm1, hn1, hs1, hs2, hI1⟩, hex⟩ := loopWhile_hnf_inv m n fuel _ d1 h1 (HState.new m n A)
  rw [hm1] at hex
  have hIm : HInv n (ent d1.tr.target) m := by
    rcases Nat.eq_zero_or_pos m with h0 | h0
    · subst h0; exact HInv.of_le_one _ _ _ (by omega)
    · have : d1.step = m := by omega
      rw [this] at hI1; exact hI1
  obtain ⟨hm2, hn2, hI2, hpos2⟩ := hnfNormalizeLast_inv m n d1 d2 h2 hm1 hn1 hIm
  obtain ⟨hm3, hn3, e3⟩ := reverseRows_tgt (d2.tr.m / 2) 0 d2.tr t h3 (by omega)
  rw [hm2] at hm3 e3
  rw [hn2] at hn3 e3
  refine ⟨hm3, hn3, ?_⟩
  refine isHnf_complete' m n t.target (hI2.isHnf_rev hpos2 (fun r hr c hc => ?_))
  rw [e3 r hr c hc, revIdx]
  split
  · rfl
  · rename_i hA
    congr 1; omega

end Yuiv.C10
