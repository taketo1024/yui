import Yuiv.Model.C20
/-
C20 — lemmas for `Yuiv/Props/C20.lean` (core Lean only): the dispatch table swept by evaluation of one Boolean test
per row; what a run that ends in a table has passed (`runParsed_table`, `appRun_table`); and, piece by piece, that
`readCell` reads back what `rmodStr` writes.
-/
namespace Yuiv.C20
open Yuiv

/-- For each command the option space is finite (4 feature sets × 6 base types × 4 variable sets), so a statement
about all of it is checked by evaluation, once it is phrased as a Boolean test of each table row. -/
theorem table_sweep (P : Feat → CType → PolyVars → Bool)
    (h : (allFeats.all fun f => allCTypes.all fun ct => allVars.all fun v => P f ct v) = true)
    (f : Feat) (ct : CType) (v : PolyVars) : P f ct v = true := by
  simp only [List.all_eq_true] at h
  refine h f ?_ ct ?_ v ?_
  · obtain ⟨p, q⟩ := f; cases p <;> cases q <;> decide
  · cases ct <;> decide
  · cases v <;> decide

def runAll (P : Ring → Bool) : Option Slot → Bool
  | some (.run r) => P r
  | _ => true

theorem runAll_iff (P : Ring → Bool) (x : Option Slot) : runAll P x = true ↔ ∀ r, x = some (.run r) → P r = true := by
  rcases x with _ | (r' | _ | _) <;> simp [runAll]

def isRun : Option Slot → Bool
  | some (.run _) => true
  | _ => false

theorem isRun_iff (x : Option Slot) : isRun x = true ↔ ∃ r, x = some (.run r) := by
  rcases x with _ | (r' | _ | _) <;> simp [isRun]

theorem dispatch_run (c : Cmd) (f : Feat) (ct : CType) (v : PolyVars) (r : Ring)
    (h : dispatch c f ct v = some (.run r)) : r.base = ct ∧ r.vars = v := by
  have := (runAll_iff _ _).mp
    (table_sweep (fun f ct v => runAll (fun r => r.base = ct && r.vars = v) (dispatch c f ct v))
      (by cases c <;> decide) f ct v) r h
  simpa using this

theorem loadAndCompute_table (lk : LinkClass) (b b' : Bool) (h : loadAndCompute lk b = .table b') :
    lk = .ok ∧ b' = b := by
  cases lk <;> simp [loadAndCompute] at h
  exact ⟨rfl, h.symm⟩

theorem of_ite_fail {c : Bool} {k : ErrKind} {x : RunRes} {b : Bool}
    (h : (if c = true then RunRes.fail k else x) = .table b) : c = false ∧ x = .table b := by
  cases c
  · exact ⟨rfl, h⟩
  · cases h

/-- `-r` and `-a` are checked first, and in the same way, by both commands -/
theorem of_prechecks {o : Opts} {t : Val} {x : RunRes} {b : Bool}
    (h : (if (o.reduced && !t.isZero) = true then RunRes.fail .precheck
      else if (o.alpha && !t.isZero) = true then RunRes.fail .precheck else x) = .table b) :
    (o.reduced = true → t.isZero = true) ∧ (o.alpha = true → t.isZero = true) ∧ x = .table b := by
  obtain ⟨h1, h⟩ := of_ite_fail h
  obtain ⟨h2, h⟩ := of_ite_fail h
  refine ⟨fun hr => ?_, fun ha => ?_, h⟩
  · rw [hr, Bool.true_and] at h1; simpa using h1
  · rw [ha, Bool.true_and] at h2; simpa using h2

theorem appRun_table (c : Cmd) (r : Ring) (o : Opts) (lk : LinkClass) (b : Bool) (h : appRun c r o lk = .table b) :
    ∃ hh tt, parsePair r o.cval.toList = .ok (hh, tt) ∧ (o.reduced = true → tt.isZero = true) ∧
      (o.alpha = true → tt.isZero = true) ∧ lk = .ok ∧
      (c = .kh → b = ((hh.isZero && tt.isZero) || o.cval == "H" || o.cval == "0,T")) := by
  unfold appRun khRun ckhRun at h
  cases hp : parsePair r o.cval.toList with
  | panic => rw [hp] at h; cases c <;> cases h
  | err => rw [hp] at h; cases c <;> cases h
  | ok ht =>
    obtain ⟨hh, tt⟩ := ht
    refine ⟨hh, tt, rfl, ?_⟩
    cases c <;> simp only [hp] at h
    · obtain ⟨h1, h2, h⟩ := of_prechecks h
      obtain ⟨_, h⟩ := of_ite_fail h
      obtain ⟨_, h⟩ := of_ite_fail h
      have := loadAndCompute_table _ _ _ h
      exact ⟨h1, h2, this.1, fun _ => this.2⟩
    · obtain ⟨h1, h2, h⟩ := of_prechecks h
      exact ⟨h1, h2, (loadAndCompute_table _ _ _ h).1, nofun⟩

theorem guardPanic_table (r r' : Ring) (x : RunRes) (b : Bool) (h : guardPanic r' x = .table r b) :
    r' = r ∧ x = .table b := by
  cases x <;> simp [guardPanic] at h
  exact ⟨h.1, by rw [h.2]⟩

theorem runParsed_table (f : Feat) (c : Cmd) (ct : CType) (o : Opts) (lk : LinkClass) (r : Ring) (b : Bool)
    (h : runParsed f c ct o lk = .table r b) :
    dispatch c f ct (polyVars o.cval) = some (.run r) ∧ appRun c r o lk = .table b := by
  unfold runParsed at h
  split at h
  · cases h
  · cases h
  · cases h
  · rename_i r' hd
    obtain ⟨rfl, h2⟩ := guardPanic_table _ _ _ _ h
    exact ⟨hd, h2⟩

-- What `readCell` needs of a ring symbol and of a torsion text: `⊕` separates the pieces, a leading `(` marks a
-- torsion piece, and the cell `0` is the zero group.
def SymOK (sym : List Char) : Prop :=
  (∃ c r, sym = c :: r ∧ c ≠ '(' ∧ c ≠ '0') ∧ '⊕' ∉ sym

def TorOK (t : List Char) : Prop := '⊕' ∉ t

theorem superDigit_ok : ∀ d, d < 10 → isSuper (superDigit d) = true ∧ unsuperDigit (superDigit d) = d := by decide

theorem natDigits_lt (n : Nat) : ∀ d ∈ natDigits n, d < 10 := by
  fun_induction natDigits n with
  | case1 n h => intro d hd; simp at hd; omega
  | case2 n h ih =>
    intro d hd
    simp at hd
    rcases hd with hd | hd
    · exact ih d hd
    · omega

theorem natDigits_ne_nil (n : Nat) : natDigits n ≠ [] := by
  rw [natDigits]; split <;> simp

theorem natDigits_fold (n : Nat) : (natDigits n).foldl (fun a d => 10 * a + d) 0 = n := by
  fun_induction natDigits n with
  | case1 n h => simp
  | case2 n h ih =>
    rw [List.foldl_append, ih]
    exact Nat.div_add_mod n 10

theorem decode_superscript (n : Nat) : decodeSuper (superscript n) = n := by
  rw [decodeSuper, superscript, List.foldl_map]
  refine (List.foldl_rel (r := Eq) rfl fun d hd c c' hc => ?_).trans (natDigits_fold n)
  rw [hc, (superDigit_ok d (natDigits_lt n d hd)).2]

theorem superscript_all (n : Nat) : ∀ c ∈ superscript n, isSuper c = true := by
  intro c hc
  simp [superscript] at hc
  obtain ⟨d, hd, rfl⟩ := hc
  exact (superDigit_ok d (natDigits_lt n d hd)).1

theorem superscript_isEmpty (n : Nat) : (superscript n).isEmpty = false := by
  simp [superscript, natDigits_ne_nil]

/-- What `rmod_str` writes behind a piece that occurs `k ≥ 1` times: the multiplicity, unless it is 1. -/
def optSuper (k : Nat) : List Char := if k > 1 then superscript k else []

theorem torPiece_eq (sym t : List Char) (k : Nat) : torPiece sym t k = '(' :: sym ++ '/' :: t ++ ')' :: optSuper k := by
  by_cases h : k > 1 <;> simp [torPiece, optSuper, h]

theorem freePiece_eq (sym : List Char) (k : Nat) (hk : 1 ≤ k) : freePiece sym k = [sym ++ optSuper k] := by
  by_cases h : k > 1
  · simp [freePiece, optSuper, h]
  · simp [freePiece, optSuper, show k = 1 from Nat.le_antisymm (Nat.le_of_not_lt h) hk]

theorem optSuper_all (k : Nat) : ∀ c ∈ optSuper k, isSuper c = true := by
  unfold optSuper
  split
  · exact superscript_all k
  · simp

theorem optSuper_noOplus (k : Nat) : '⊕' ∉ optSuper k :=
  fun h => absurd (optSuper_all k _ h) (by decide)

theorem torPiece_noOplus (sym t : List Char) (k : Nat) (hs : '⊕' ∉ sym) (ht : '⊕' ∉ t) : '⊕' ∉ torPiece sym t k := by
  simp [torPiece_eq, hs, ht, optSuper_noOplus]

theorem mult_optSuper (k : Nat) (hk : 1 ≤ k) :
    (if (optSuper k).isEmpty then 1 else decodeSuper (optSuper k)) = k := by
  by_cases h : k > 1
  · simp [optSuper, h, superscript_isEmpty, decode_superscript]
  · simp [optSuper, h]; omega

/-- No ` ⊕ ` begins inside `p`, not even at its last character, so `breakOplus` copies `p` and goes on with `s`. -/
theorem breakOplus_append (p s : List Char) (hp : '⊕' ∉ p) (hs : s.head? ≠ some '⊕') :
    breakOplus (p ++ s) = (p ++ (breakOplus s).1, (breakOplus s).2) := by
  induction p with
  | nil => rfl
  | cons c p ih =>
    have hne : ¬ (c = ' ' ∧ (p ++ s).take 2 = ['⊕', ' ']) := by
      intro ⟨_, h2⟩
      have hh : (p ++ s).head? = some '⊕' := by
        simpa [List.head?_take] using congrArg List.head? h2
      cases p with
      | nil => exact hs hh
      | cons d p => apply hp; simp at hh; simp [hh]
    simp only [List.cons_append, breakOplus, hne, if_false, ih (fun h => hp (by simp [h]))]

theorem breakOplus_none (p : List Char) (hp : '⊕' ∉ p) : breakOplus p = (p, none) := by
  simpa [breakOplus] using breakOplus_append p [] hp (by simp)

theorem breakOplus_oplus (p q : List Char) (hp : '⊕' ∉ p) : breakOplus (p ++ oplus ++ q) = (p, some q) := by
  simpa [breakOplus, oplus] using breakOplus_append p (oplus ++ q) hp (by simp [oplus])

theorem joinWith_head (c : Char) (r : List Char) (ps : List (List Char)) :
    ∃ r', joinWith oplus ((c :: r) :: ps) = c :: r' := by
  cases ps <;> simp [joinWith]

theorem joinWith_length (ps : List (List Char)) : ps.length ≤ (joinWith oplus ps).length + 1 := by
  fun_induction joinWith oplus ps with
  | case1 => simp
  | case2 p => simp
  | case3 p q rest ih =>
    have : oplus.length = 3 := rfl
    simp only [List.length_cons, List.length_append] at ih ⊢
    omega

theorem splitOplus_join (ps : List (List Char)) (hne : ps ≠ []) (h : ∀ p ∈ ps, '⊕' ∉ p) (fuel : Nat)
    (hf : ps.length ≤ fuel + 1) : splitOplus fuel (joinWith oplus ps) = ps := by
  fun_induction joinWith oplus ps generalizing fuel with
  | case1 => exact absurd rfl hne
  | case2 p => cases fuel <;> simp [splitOplus, breakOplus_none p (h p (by simp))]
  | case3 p q rest ih =>
    cases fuel with
    | zero => simp at hf
    | succ n =>
      simp only [splitOplus, breakOplus_oplus p _ (h p (by simp))]
      rw [ih (by simp) (fun x hx => h x (by simp [hx])) n (by simp at hf ⊢; omega)]

theorem stripPrefix_append (p r : List Char) : stripPrefix p (p ++ r) = some r := by
  induction p with
  | nil => cases r <;> rfl
  | cons c p ih => simp [stripPrefix, ih]

theorem readTor_torPiece (sym t : List Char) (k : Nat) (hk : 1 ≤ k) : readTor sym (torPiece sym t k) = some (t, k) := by
  have e : torPiece sym t k = ('(' :: sym ++ ['/']) ++ (t ++ [')'] ++ optSuper k) := by simp [torPiece_eq]
  have er : (t ++ [')'] ++ optSuper k).reverse = (optSuper k).reverse ++ ')' :: t.reverse := by simp
  have hs : ∀ x ∈ (optSuper k).reverse, isSuper x = true := fun x hx => optSuper_all k x (by simpa using hx)
  have hc : ¬ isSuper ')' = true := by decide
  unfold readTor
  rw [e, stripPrefix_append]
  simp only [er, List.takeWhile_append_of_pos hs, List.dropWhile_append_of_pos hs,
    List.takeWhile_cons_of_neg hc, List.dropWhile_cons_of_neg hc, List.append_nil, List.reverse_reverse,
    mult_optSuper k hk]

theorem readFree_freePiece (sym : List Char) (k : Nat) (hk : 1 ≤ k) : readFree sym (sym ++ optSuper k) = some k := by
  unfold readFree
  rw [stripPrefix_append]
  simp only [List.all_eq_true.mpr (optSuper_all k), if_true, mult_optSuper k hk]

theorem runs_spec (l : List (List Char)) : ∀ e ∈ runs l, 1 ≤ e.2 ∧ e.1 ∈ l := by
  fun_induction runs l with
  | case1 => simp
  | case2 ts u k rest hr ih =>
    intro e he
    rcases List.mem_cons.mp he with rfl | he
    · exact ⟨Nat.le_add_left 1 k, List.mem_cons_self⟩
    · have := ih e (hr ▸ List.mem_cons_of_mem _ he)
      exact ⟨this.1, List.mem_cons_of_mem _ this.2⟩
  | case3 t ts u k rest hr hne ih =>
    intro e he
    rcases List.mem_cons.mp he with rfl | he
    · exact ⟨Nat.le_refl 1, List.mem_cons_self⟩
    · have := ih e (hr ▸ he)
      exact ⟨this.1, List.mem_cons_of_mem _ this.2⟩
  | case4 t ts hr ih => simp

def expandRuns : List (List Char × Nat) → List (List Char)
  | [] => []
  | (t, k) :: rest => List.replicate k t ++ expandRuns rest

theorem expand_runs (l : List (List Char)) : expandRuns (runs l) = l := by
  fun_induction runs l with
  | case1 => rfl
  | case2 ts u k rest hr ih =>
    rw [← ih, hr]
    simp [expandRuns, List.replicate_succ]
  | case3 t ts u k rest hr hne ih =>
    rw [← ih, hr]
    simp [expandRuns]
  | case4 t ts hr ih =>
    rw [← ih, hr]
    rfl

theorem runs_injective (l1 l2 : List (List Char)) (h : runs l1 = runs l2) : l1 = l2 := by
  rw [← expand_runs l1, ← expand_runs l2, h]

theorem mapM_map_some {α β : Type} (f : α → β) (g : β → Option α) (l : List α) (h : ∀ x ∈ l, g (f x) = some x) :
    (l.map f).mapM g = some l := by
  induction l with
  | nil => rfl
  | cons x l ih =>
    simp [List.mapM_cons, h x (by simp), ih (fun y hy => h y (by simp [hy]))]

theorem readCell_of_pieces (sym p : List Char) (ps : List (List Char)) (h : ∀ x ∈ p :: ps, '⊕' ∉ x)
    (c : Char) (r : List Char) (hp : p = c :: r) (hc0 : c ≠ '0') :
    readCell sym (joinWith oplus (p :: ps)) =
      if startsParen p then
        match (p :: ps).mapM (readTor sym) with
        | some ts => some (0, ts)
        | none => none
      else
        match readFree sym p, ps.mapM (readTor sym) with
        | some r, some ts => some (r, ts)
        | _, _ => none := by
  have hs0 : joinWith oplus (p :: ps) ≠ ['0'] := by
    obtain ⟨r', hr'⟩ := joinWith_head c r ps
    rw [hp, hr']
    intro he
    injection he with he _
    exact hc0 he
  have hsplit := splitOplus_join (p :: ps) (by simp) h (joinWith oplus (p :: ps)).length (joinWith_length _)
  unfold readCell
  rw [if_neg hs0, hsplit]
  rfl

def torPieces (sym : List Char) (tors : List (List Char)) : List (List Char) :=
  (runs tors).map fun e => torPiece sym e.1 e.2

theorem rmodStr_eq (sym : List Char) (rank : Nat) (tors : List (List Char)) : rmodStr sym rank tors =
    if rank = 0 ∧ tors = [] then ['0'] else joinWith oplus (freePiece sym rank ++ torPieces sym tors) := rfl

theorem mapM_readTor_torPieces (sym : List Char) (tors : List (List Char)) :
    (torPieces sym tors).mapM (readTor sym) = some (runs tors) :=
  mapM_map_some _ _ _ fun e he => readTor_torPiece sym e.1 e.2 (runs_spec tors e he).1

theorem torPieces_noOplus (sym : List Char) (tors : List (List Char)) (hs : '⊕' ∉ sym) (ht : ∀ t ∈ tors, '⊕' ∉ t) :
    ∀ p ∈ torPieces sym tors, '⊕' ∉ p := by
  intro p hp
  obtain ⟨e, he, rfl⟩ := List.mem_map.mp hp
  exact torPiece_noOplus sym e.1 e.2 hs (ht e.1 (runs_spec tors e he).2)

end Yuiv.C20
