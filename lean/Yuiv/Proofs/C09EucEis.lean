import Yuiv.Proofs.C09EucGauss
import Mathlib.Algebra.QuadraticAlgebra.Basic
/-
The Eisenstein integers ℤ[ω] as an instance of `LawfulEuc`.
`eisOps : EOps (ℤ × ℤ)` follows `yui/src/types/qint.rs` (`QuadInt<I, -3>`, `ω = (1 + √−3)/2`, `ω² = ω − 1`):
 * product `(a + bω)(c + dω) = (ac − bd) + (ad + bc + bd)ω`, `conj(a + bω) = (a + b) − bω`, `N = a² + ab + b²`;
 * `/` = `div_round`: with `z·conj(w) = x + yω`, `(m, n) = ([(x + y)/N], [y/N])` (integer `div_round` of
   `int_ext.rs`, shared with the Gaussian file) and the result is `(m − n) + nω`;  `%` = `z − w·(z / w)`;
 * `normalizing_unit`: the sextant table (rotates `z` into `re > 0, im ≥ 0`);  `is_unit`/`inv` through the norm;
 * `gcdx`: the generic `EucRing::gcdx` (`genGcdx`);  `size` = norm.
`K = QuadraticAlgebra ℤ (-1) 1` (Mathlib; `ω² = -1 + 1·ω`), shown here to be a domain through its norm.
The Euclidean bound proved for the coordinatewise rounding of the code is `4·N(z % w) ≤ 3·N(w)`.
The record is not part of `Model/C09.lean` / the driver.
-/
namespace Yuiv.C09

/-- ℤ[ω], `ω² = ω − 1` (`ω = (1 + √−3)/2`) -/
abbrev EisK := QuadraticAlgebra ℤ (-1) 1

def eAdd (z w : Int × Int) : Int × Int := (z.1 + w.1, z.2 + w.2)
/-- `(a + bω)(c + dω) = (ac − bd) + (ad + bc + bd)ω` -/
def eMul (z w : Int × Int) : Int × Int := (z.1 * w.1 - z.2 * w.2, z.1 * w.2 + z.2 * w.1 + z.2 * w.2)
def eNeg (z : Int × Int) : Int × Int := (-z.1, -z.2)
def eNorm (z : Int × Int) : Int := z.1 * z.1 + z.1 * z.2 + z.2 * z.2
def eConj (z : Int × Int) : Int × Int := (z.1 + z.2, -z.2)
/-- the sextant table of `normalizing_unit` (`D = -3`) -/
def eNormUnit (z : Int × Int) : Int × Int :=
  if 0 < z.1 ∧ 0 ≤ z.2 then (1, 0)
  else if z.1 ≤ 0 ∧ 0 < z.1 + z.2 then (1, -1)
  else if z.1 + z.2 ≤ 0 ∧ 0 < z.2 then (0, -1)
  else if z.1 < 0 ∧ z.2 ≤ 0 then (-1, 0)
  else if 0 ≤ z.1 ∧ z.1 + z.2 < 0 then (-1, 1)
  else if 0 ≤ z.1 + z.2 ∧ z.2 < 0 then (0, 1)
  else (1, 0)
/-- `div_round` for `EisenInt`: `(m, n) = ([(x + y)/N], [y/N])`, result `(m − n) + nω` -/
def eQuo (z w : Int × Int) : Int × Int :=
  (divRound ((eMul z (eConj w)).1 + (eMul z (eConj w)).2) (eNorm w) - divRound (eMul z (eConj w)).2 (eNorm w),
   divRound (eMul z (eConj w)).2 (eNorm w))

def eisPre : EOps (Int × Int) where
  zero := (0, 0)
  one := (1, 0)
  add := eAdd
  mul := eMul
  neg := eNeg
  beq a b := a.1 == b.1 && a.2 == b.2
  normUnit := eNormUnit
  inv z := if eNorm z == 1 || eNorm z == -1 then some (eMul (eNorm z, 0) (eConj z)) else none
  isUnit z := eNorm z == 1 || eNorm z == -1
  quo := eQuo
  rem z w := eAdd z (eNeg (eMul w (eQuo z w)))
  gcdx _ _ := ((0, 0), (0, 0), (0, 0))
  size z := (eNorm z).natAbs

def eisOps : EOps (Int × Int) := { eisPre with gcdx := genGcdx eisPre }

theorem eis_gcdx (x y : Int × Int) : eisOps.gcdx x y = genGcdx eisOps x y :=
  (genGcdx_with eisPre _ x y).symm

def eφ (z : Int × Int) : EisK := ⟨z.1, z.2⟩

/-- `4·N(a + bω) = (2a + b)² + 3b²` -/
theorem eNorm_nonneg (z : Int × Int) : 0 ≤ eNorm z := by
  unfold eNorm; linarith [mul_self_nonneg (2 * z.1 + z.2), mul_self_nonneg z.2]

theorem eNorm_eq_zero (z : Int × Int) (h : eNorm z = 0) : z = (0, 0) := by
  unfold eNorm at h
  have h2 : z.2 = 0 :=
    mul_self_eq_zero.1 (le_antisymm (by linarith [mul_self_nonneg (2 * z.1 + z.2)]) (mul_self_nonneg _))
  rw [h2, mul_zero, mul_zero, add_zero, add_zero] at h
  exact Prod.ext (mul_self_eq_zero.1 h) h2

theorem eφ_inj {a b : Int × Int} (h : eφ a = eφ b) : a = b := by
  have := QuadraticAlgebra.ext_iff.1 h
  exact Prod.ext this.1 this.2

theorem eφ_norm (z : Int × Int) : (eφ z).norm = eNorm z := by
  simp only [QuadraticAlgebra.norm_def, eφ, eNorm]; ring

theorem eφ_eq_zero (z : Int × Int) : eφ z = 0 ↔ eNorm z = 0 := by
  constructor
  · intro h; rw [← eφ_norm, h]; simp
  · intro h; rw [eNorm_eq_zero z h]; rfl

instance : NoZeroDivisors EisK where
  eq_zero_or_eq_zero_of_mul_eq_zero {x y} h := by
    have hx : x = eφ (x.re, x.im) := rfl
    have hy : y = eφ (y.re, y.im) := rfl
    have hn : (x * y).norm = 0 := by rw [h]; simp
    rw [map_mul, hx, hy, eφ_norm, eφ_norm] at hn
    rcases mul_eq_zero.1 hn with h1 | h1
    · left; rw [hx]; exact (eφ_eq_zero _).2 h1
    · right; rw [hy]; exact (eφ_eq_zero _).2 h1

instance : IsDomain EisK := NoZeroDivisors.to_isDomain _

@[simp] theorem eis_add (a b : Int × Int) : eisOps.toROps.add a b = eAdd a b := rfl
@[simp] theorem eis_mul (a b : Int × Int) : eisOps.toROps.mul a b = eMul a b := rfl
@[simp] theorem eis_neg (a : Int × Int) : eisOps.toROps.neg a = eNeg a := rfl
@[simp] theorem eis_normUnit (a : Int × Int) : eisOps.normUnit a = eNormUnit a := rfl
@[simp] theorem eis_quo (a b : Int × Int) : eisOps.quo a b = eQuo a b := rfl
@[simp] theorem eis_rem (a b : Int × Int) : eisOps.rem a b = eAdd a (eNeg (eMul b (eQuo a b))) := rfl
@[simp] theorem eis_size (a : Int × Int) : eisOps.size a = (eNorm a).natAbs := rfl

theorem eφ_add (a b : Int × Int) : eφ (eAdd a b) = eφ a + eφ b := by
  ext <;> simp [eφ, eAdd]
theorem eφ_mul (a b : Int × Int) : eφ (eMul a b) = eφ a * eφ b := by
  ext <;> simp [eφ, eMul]
  ring
theorem eφ_neg (a : Int × Int) : eφ (eNeg a) = - eφ a := by
  ext <;> simp [eφ, eNeg]

theorem lawful_eis : Lawful eisOps.toROps eφ where
  zero := rfl
  one := rfl
  add := eφ_add
  mul := eφ_mul
  neg := eφ_neg
  beq a b := by
    show (a.1 == b.1 && a.2 == b.2) = true ↔ _
    rw [Bool.and_eq_true, beq_iff_eq, beq_iff_eq]
    constructor
    · rintro ⟨h1, h2⟩; ext <;> assumption
    · intro h; have := eφ_inj h; subst this; exact ⟨rfl, rfl⟩

theorem lawfulE_eis : LawfulE eisOps eφ where
  toLawful := lawful_eis
  inv_mul u v h := by
    have h' : (if (eNorm u == 1 || eNorm u == -1) = true then some (eMul (eNorm u, 0) (eConj u)) else none)
        = some v := h
    split at h'
    · rename_i hc
      cases h'
      have hN : eNorm u * eNorm u = 1 := by
        simp only [Bool.or_eq_true, beq_iff_eq] at hc
        rcases hc with hc | hc <;> rw [hc] <;> rfl
      rw [← eφ_mul]
      have : eMul u (eMul (eNorm u, 0) (eConj u)) = (1, 0) := by
        unfold eNorm at hN
        simp only [eMul, eConj, eNorm]
        ext
        · simp only; linear_combination hN
        · simp only; ring
      rw [this]; rfl
    · cases h'

theorem eNormUnit_spec (z : Int × Int) :
    eNorm (eNormUnit z) = 1 ∧
    ((0 < (eMul z (eNormUnit z)).1 ∧ 0 ≤ (eMul z (eNormUnit z)).2) ∨
      ((eMul z (eNormUnit z)).1 = 0 ∧ (eMul z (eNormUnit z)).2 = 0)) ∧
    (eNormUnit z = (1, 0) → (0 < z.1 ∧ 0 ≤ z.2) ∨ (z.1 = 0 ∧ z.2 = 0)) := by
  obtain ⟨u, hu⟩ : ∃ u, eNormUnit z = u := ⟨_, rfl⟩
  rw [hu]
  unfold eNormUnit at hu
  by_cases h1 : 0 < z.1 ∧ 0 ≤ z.2
  · rw [if_pos h1] at hu; subst hu
    exact ⟨by decide, by simp only [eMul]; omega, fun _ => Or.inl h1⟩
  rw [if_neg h1] at hu
  by_cases h2 : z.1 ≤ 0 ∧ 0 < z.1 + z.2
  · rw [if_pos h2] at hu; subst hu
    exact ⟨by decide, by simp only [eMul]; omega, fun h => absurd h (by decide)⟩
  rw [if_neg h2] at hu
  by_cases h3 : z.1 + z.2 ≤ 0 ∧ 0 < z.2
  · rw [if_pos h3] at hu; subst hu
    exact ⟨by decide, by simp only [eMul]; omega, fun h => absurd h (by decide)⟩
  rw [if_neg h3] at hu
  by_cases h4 : z.1 < 0 ∧ z.2 ≤ 0
  · rw [if_pos h4] at hu; subst hu
    exact ⟨by decide, by simp only [eMul]; omega, fun h => absurd h (by decide)⟩
  rw [if_neg h4] at hu
  by_cases h5 : 0 ≤ z.1 ∧ z.1 + z.2 < 0
  · rw [if_pos h5] at hu; subst hu
    exact ⟨by decide, by simp only [eMul]; omega, fun h => absurd h (by decide)⟩
  rw [if_neg h5] at hu
  by_cases h6 : 0 ≤ z.1 + z.2 ∧ z.2 < 0
  · rw [if_pos h6] at hu; subst hu
    exact ⟨by decide, by simp only [eMul]; omega, fun h => absurd h (by decide)⟩
  rw [if_neg h6] at hu; subst hu
  have hz : z.1 = 0 ∧ z.2 = 0 := by omega
  exact ⟨by decide, by simp only [eMul]; omega, fun _ => Or.inr hz⟩

theorem eNormUnit_eq_one (z : Int × Int) : eφ (eNormUnit z) = 1 ↔ (0 < z.1 ∧ 0 ≤ z.2) ∨ (z.1 = 0 ∧ z.2 = 0) := by
  have h1 : (1 : EisK) = eφ (1, 0) := rfl
  rw [h1]
  constructor
  · intro h
    exact (eNormUnit_spec z).2.2 (eφ_inj h)
  · intro h
    unfold eNormUnit
    rcases h with h | h
    · rw [if_pos h]
    · rw [if_neg (by omega), if_neg (by omega), if_neg (by omega), if_neg (by omega), if_neg (by omega),
        if_neg (by omega)]

/-- multiplying a point of the sextant `re > 0, im ≥ 0` (or zero) by a unit `p + qω` (one of the six with
`p, q ∈ {-1, 0, 1}`) leaves the sextant, unless the unit is `1` -/
theorem eis_sextant_unique (a1 a2 b1 b2 p q : Int) (ha : (0 < a1 ∧ 0 ≤ a2) ∨ (a1 = 0 ∧ a2 = 0))
    (hb : (0 < b1 ∧ 0 ≤ b2) ∨ (b1 = 0 ∧ b2 = 0)) (hre : b1 = a1 * p - a2 * q)
    (him : b2 = a1 * q + a2 * p + a2 * q) (hu : p * p + p * q + q * q = 1) : a1 = b1 ∧ a2 = b2 := by
  rcases C15.eisen_norm_one hu with ⟨rfl, rfl⟩ | ⟨rfl, rfl⟩ | ⟨rfl, rfl⟩ | ⟨rfl, rfl⟩ | ⟨rfl, rfl⟩ | ⟨rfl, rfl⟩ <;>
    omega

theorem eNorm_pos_of_ne (b : Int × Int) (hb : eφ b ≠ 0) : 0 < eNorm b := by
  have h1 := eNorm_nonneg b
  have h2 : eNorm b ≠ 0 := fun h => hb ((eφ_eq_zero b).2 h)
  omega

/-- `N(a − b·q)·N(b) = N(a·conj b − N(b)·q)` for `q = (m − n) + nω`, in the coordinates `(x + y, y)` that
`div_round` rounds: `N(x + yω) = (x + y)² − (x + y)·y + y²` -/
theorem eNorm_rem_mul (a b : Int × Int) (m n : Int) :
    eNorm (eAdd a (eNeg (eMul b (m - n, n)))) * eNorm b =
      ((eMul a (eConj b)).1 + (eMul a (eConj b)).2 - m * eNorm b) *
          ((eMul a (eConj b)).1 + (eMul a (eConj b)).2 - m * eNorm b) +
        -1 * (((eMul a (eConj b)).1 + (eMul a (eConj b)).2 - m * eNorm b) * ((eMul a (eConj b)).2 - n * eNorm b)) +
        ((eMul a (eConj b)).2 - n * eNorm b) * ((eMul a (eConj b)).2 - n * eNorm b) := by
  simp only [eMul, eConj, eNorm, eAdd, eNeg]
  ring

/-- the Euclidean property of coordinatewise rounding division in ℤ[ω]: `N(a - b·[a/b]) ≤ (3/4)·N(b)` -/
theorem eis_rem_norm (a b : Int × Int) (hN : 0 < eNorm b) :
    4 * eNorm (eAdd a (eNeg (eMul b (eQuo a b)))) ≤ 3 * eNorm b :=
  C15.QInt.round_norm_bound hN (divRound_spec ((eMul a (eConj b)).1 + (eMul a (eConj b)).2) (eNorm b) hN)
    (divRound_spec (eMul a (eConj b)).2 (eNorm b) hN) (eNorm_rem_mul a b _ _)

theorem lawfulEucBase_eis : LawfulEucBase eisOps eφ where
  toLawfulE := lawfulE_eis
  inv_normUnit a := ⟨_, if_pos (by rw [eis_normUnit, (eNormUnit_spec a).1]; rfl)⟩
  normUnit_congr a b h := by rw [eφ_inj h]
  norm_mul a := by
    rw [eis_normUnit, eis_normUnit, eis_mul, eNormUnit_eq_one]
    exact (eNormUnit_spec a).2.1
  norm_unique a b ha hb h1 h2 := by
    rw [eis_normUnit, eNormUnit_eq_one] at ha hb
    obtain ⟨u, hu⟩ := dvd_dvd_iff_associated.1 ⟨h1, h2⟩
    have hn : (u : EisK).norm = 1 := by
      have h3 := (QuadraticAlgebra.isUnit_iff_norm_isUnit (x := (u : EisK))).1 u.isUnit
      have h4 : (u : EisK) = eφ ((u : EisK).re, (u : EisK).im) := rfl
      rw [Int.isUnit_iff] at h3
      have h5 := eNorm_nonneg ((u : EisK).re, (u : EisK).im)
      rw [h4, eφ_norm] at h3 ⊢
      omega
    rw [QuadraticAlgebra.norm_def] at hn
    have hre := (QuadraticAlgebra.ext_iff.1 hu).1
    have him := (QuadraticAlgebra.ext_iff.1 hu).2
    simp only [eφ, QuadraticAlgebra.re_mul, QuadraticAlgebra.im_mul] at hre him
    generalize (u : EisK).re = p at *
    generalize (u : EisK).im = q at *
    obtain ⟨e1, e2⟩ := eis_sextant_unique a.1 a.2 b.1 b.2 p q ha hb (by linarith) (by linarith) (by linarith)
    rw [Prod.ext e1 e2]
  isUnit_iff a := by
    show (eNorm a == 1 || eNorm a == -1) = true ↔ _
    rw [QuadraticAlgebra.isUnit_iff_norm_isUnit, eφ_norm, Int.isUnit_iff, Bool.or_eq_true, beq_iff_eq, beq_iff_eq]
  div_rem a b _ := by
    rw [eis_quo, eis_rem, eφ_add, eφ_neg, eφ_mul]; ring
  size_rem a b hb := by
    rw [eis_rem, eis_size, eis_size]
    have hN := eNorm_pos_of_ne b hb
    have h1 := eis_rem_norm a b hN
    have h2 := eNorm_nonneg (eAdd a (eNeg (eMul b (eQuo a b))))
    omega
  size_dvd a b hb h := by
    rw [eis_size, eis_size]
    obtain ⟨c, hc⟩ := h
    have hc0 : c ≠ 0 := by
      rintro rfl; rw [mul_zero] at hc; exact hb hc
    have hcφ : c = eφ (c.re, c.im) := rfl
    have h1 : eNorm b = eNorm a * eNorm (c.re, c.im) := by
      rw [← eφ_norm, ← eφ_norm, ← eφ_norm, ← hcφ, hc, map_mul]
    have h2 : 0 < eNorm (c.re, c.im) := eNorm_pos_of_ne _ (by rw [← hcφ]; exact hc0)
    have h3 := eNorm_nonneg a
    have h4 : eNorm a ≤ eNorm b := h1 ▸ le_mul_of_one_le_right h3 h2
    omega

theorem lawfulEuc_eis : LawfulEuc eisOps eφ :=
  lawfulEuc_of_genGcdx eisOps eφ lawfulEucBase_eis eis_gcdx

end Yuiv.C09
