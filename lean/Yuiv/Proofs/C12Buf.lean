import Yuiv.Model.C12
/-
C12 — facts that need no law of the scalars (any scalar type, core Lean only): shared by the proofs about the model
and by the comparison with the translated code.
-/
namespace Yuiv.C12

/-- for a concrete matrix the second hypothesis is a finite check -/
theorem forall_col {α : Type} (A : SpMat α) (P : Nat → List (Nat × α) → Prop) (h0 : ∀ j, P j [])
    (h : ∀ j < A.cols.size, P j (col A j)) : ∀ j, P j (col A j) := by
  intro j
  by_cases hj : j < A.cols.size
  · exact h j hj
  · rw [col, Array.getD_eq_getD_getElem?, Array.getElem?_eq_none (Nat.le_of_not_lt hj)]
    exact h0 j

variable {α : Type} [Scal α]

omit [Scal α] in
theorem col_mk' (m k : Nat) (f : Nat → List (Nat × α)) (j : Nat) :
    col (⟨m, k, ((List.range k).map f).toArray⟩ : SpMat α) j = if j < k then f j else [] := by
  unfold col
  rw [Array.getD_eq_getD_getElem?, List.getElem?_toArray, List.getElem?_map]
  by_cases hj : j < k
  · rw [List.getElem?_range hj, if_pos hj]; rfl
  · rw [List.getElem?_eq_none (by rw [List.length_range]; exact Nat.le_of_not_gt hj), if_neg hj]; rfl

omit [Scal α] in
theorem col_mk (m k : Nat) (f : Nat → List (Nat × α)) (j : Nat) (hj : j < k) :
    col (⟨m, k, ((List.range k).map f).toArray⟩ : SpMat α) j = f j := by
  rw [col_mk', if_pos hj]

omit [Scal α] in
theorem mem_col_mk' {m k : Nat} {f : Nat → List (Nat × α)} {j : Nat} {e : Nat × α}
    (h : e ∈ col (⟨m, k, ((List.range k).map f).toArray⟩ : SpMat α) j) : j < k ∧ e ∈ f j := by
  rw [col_mk'] at h
  by_cases hj : j < k
  · exact ⟨hj, by rwa [if_pos hj] at h⟩
  · rw [if_neg hj] at h; cases h

theorem bget_bset (b : Array α) (i k : Nat) (v : α) :
    bget (bset b i v) k = if i = k ∧ i < b.size then v else bget b k := by
  unfold bget bset
  by_cases h : i = k
  · subst h
    by_cases hi : i < b.size <;> simp [hi, Array.getD_eq_getD_getElem?]
  · simp [h, Array.getD_eq_getD_getElem?, Array.getElem?_setIfInBounds_ne h]

theorem bget_eq_getElem (b : Array α) (i : Nat) (h : i < b.size) : bget b i = b[i] := by
  simp [bget, Array.getD_eq_getD_getElem?, h]

omit [Scal α] in
theorem enumFrom_range' (u : Nat → α) (k m : Nat) :
    enumFrom k ((List.range' k m).map u) = (List.range' k m).map (fun j => (j, u j)) := by
  induction m generalizing k with
  | zero => rfl
  | succ m ih => rw [List.range'_succ, List.map_cons, List.map_cons, enumFrom, ih]

omit [Scal α] in
theorem size_bset (b : Array α) (i : Nat) (v : α) : (bset b i v).size = b.size :=
  Array.size_setIfInBounds

theorem size_colStep (x : α) (b : Array α) (c : List (Nat × α)) : (colStep x b c).size = b.size := by
  induction c generalizing b with
  | nil => rfl
  | cons e c ih =>
    unfold colStep
    rw [ih]
    cases isZero e.2
    · exact size_bset _ _ _
    · rfl

omit [Scal α] in
theorem size_copyInto (b : Array α) (l : List (Nat × α)) : (copyInto b l).size = b.size := by
  induction l generalizing b with
  | nil => rfl
  | cons e l ih => unfold copyInto; rw [ih, size_bset]

theorem outer_shape (A : SpMat α) (js : List (Nat × α)) (b : Array α) (es : List (Nat × α)) (b' : Array α)
    (es' : List (Nat × α)) (h : outer A b es js = .ok (b', es')) :
    b'.size = b.size ∧ ∀ n, (∀ ju ∈ js, ju.1 < n) → (∀ e ∈ es, e.1 < n) → ∀ e ∈ es', e.1 < n := by
  induction js generalizing b es with
  | nil =>
    rw [outer, Res.ok.injEq, Prod.mk.injEq] at h
    exact ⟨h.1 ▸ rfl, fun n _ hes => h.2 ▸ hes⟩
  | cons ju js ih =>
    unfold outer at h
    split at h
    · cases h
    · split at h
      · exact (ih b es h).imp_right fun hi n hjs => hi n fun ju' h' => hjs ju' (List.mem_cons_of_mem _ h')
      · split at h
        · cases h
        · obtain ⟨hs, hi⟩ := ih _ _ h
          refine ⟨hs.trans (size_colStep _ _ _), fun n hjs hes => hi n (fun ju' h' => hjs ju' (List.mem_cons_of_mem _ h'))
            fun e he => ?_⟩
          rcases List.mem_append.1 he with he | he
          · exact hes e he
          · rw [List.mem_singleton.1 he]
            exact hjs ju List.mem_cons_self

theorem outer_index (A : SpMat α) (n : Nat) (js : List (Nat × α)) (hjs : ∀ ju ∈ js, ju.1 < n)
    (b : Array α) (es : List (Nat × α)) (hes : ∀ e ∈ es, e.1 < n) (b' : Array α) (es' : List (Nat × α))
    (h : outer A b es js = .ok (b', es')) : ∀ e ∈ es', e.1 < n :=
  (outer_shape A js b es b' es' h).2 n hjs hes

end Yuiv.C12
