import Yuiv.Proofs.C14GenQ
import Yuiv.Gen.IntExtFn
/-
C15 — the Gaussian (`D = -1`) and Eisenstein (`D = -3`) parts of the hand-written model `Yuiv.C15.QInt.*`
(`Yuiv/Model/C15.lean`: product, conjugate, norm, division = coordinatewise `div_round` of `a·conj(b)` by `N(b)`,
remainder, units, inverse, the quadrant / sextant tables of `normalizing_unit`) ARE the source text of
`/repo/yui/src/types/qint.rs` at those two values of the const generic.

`Yuiv.GenQInt.*` is regenerated by `tools/rs2lean_fn.py fn:qint` on every `./check` run.  The model's functions are the
TOTAL bodies (C15 puts the panic of a zero divisor into `EucOps.divR/remR`); the generated `div_round`/`div`/`rem`
panic exactly when `N(rhs) = 0` (the integer `div_round` by `N(rhs)` panics) — the theorems state both.
-/
namespace Yuiv.GenQ
open Yuiv Res Yuiv.Rust Yuiv.GenQInt

/-! ### the integer `div_round` used for the coordinates -/

/-- the copy of `DivRound::div_round` in the prelude is the definition generated from int_ext.rs (`fn:intext`) -/
theorem prelude_div_round_eq (a b : Int) : RInt.div_round a b = GenIntExt.DivRound.div_round a b := by
  unfold RInt.div_round GenIntExt.DivRound.div_round
  by_cases h : b = 0
  · simp [h, RInt.div]
  · simp [h, RInt.div, RInt.rem]

theorem int_div_round_eq (a b : Int) :
    RInt.div_round a b = if b = 0 then .panic else ok (C15.zDivRoundT a b) := by
  unfold RInt.div_round C15.zDivRoundT
  by_cases h : b = 0
  · simp [h, RInt.div]
  · simp [h, RInt.div, RInt.rem, C15.nabs, C15.zDivT, C15.zRemT, RInt.is_positive, RInt.is_negative]

theorem new_m1 (a b : Int) : QuadInt.new (-1) a b = ok ⟨a, b⟩ := by
  unfold QuadInt.new; simp [rem4, assert_true]
theorem new_m3 (a b : Int) : QuadInt.new (-3) a b = ok ⟨a, b⟩ := by
  unfold QuadInt.new; simp [rem4, assert_true]

theorem gen_gauss_conj_eq (s : QuadIntS) : mapR toQ' (QuadInt.conj (-1) s) = ok (C15.QInt.gConj (toQ' s)) := by
  unfold QuadInt.conj C15.QInt.gConj
  simp [gen_simp]
theorem gen_gauss_norm_eq (s : QuadIntS) : QuadInt.norm (-1) s = ok (C15.QInt.gNorm (toQ' s)) := by
  unfold QuadInt.norm C15.QInt.gNorm
  simp [gen_simp]
theorem gen_gauss_mul_eq (x y : QuadIntS) :
    mapR toQ' (QuadInt.Mul_QuadInt_I_D_ref.mul (-1) x y) = ok (C15.QInt.gMul (toQ' x) (toQ' y)) := by
  unfold QuadInt.Mul_QuadInt_I_D_ref.mul C15.QInt.gMul
  by_cases hb : x.f1 = 0
  · simp [gen_simp, hb]
  · by_cases hd : y.f1 = 0 <;> simp [gen_simp, hb, hd]

theorem gen_gauss_div_round_eq (x y : QuadIntS) :
    mapR toQ' (QuadInt.DivRound_m1.div_round x y) =
      if C15.QInt.gNorm (toQ' y) = 0 then .panic else ok (C15.QInt.gDivRound (toQ' x) (toQ' y)) := by
  unfold QuadInt.DivRound_m1.div_round C15.QInt.gDivRound
  obtain ⟨c, hcj, hc⟩ := mapR_eq_ok (gen_gauss_conj_eq y)
  obtain ⟨w, hml, hm⟩ := mapR_eq_ok (gen_gauss_mul_eq x c)
  rw [gen_gauss_norm_eq, hcj]
  simp only [bind_ok, hml]
  rw [← hc, ← hm]
  simp [gen_simp, int_div_round_eq]
  split <;> simp [*]

theorem gen_gauss_div_eq (x y : QuadIntS) :
    mapR toQ' (QuadInt.Div_GaussInt_I_ref_m1.div x y) =
      if C15.QInt.gNorm (toQ' y) = 0 then .panic else ok (C15.QInt.gDiv (toQ' x) (toQ' y)) :=
  gen_gauss_div_round_eq x y

theorem gen_gauss_rem_eq (x y : QuadIntS) :
    mapR toQ' (QuadInt.Rem_GaussInt_I_ref_m1.rem x y) =
      if C15.QInt.gNorm (toQ' y) = 0 then .panic else ok (C15.QInt.gRem (toQ' x) (toQ' y)) := by
  unfold QuadInt.Rem_GaussInt_I_ref_m1.rem C15.QInt.gRem
  have hd := gen_gauss_div_eq x y
  by_cases h0 : C15.QInt.gNorm (toQ' y) = 0
  · rw [if_pos h0] at hd ⊢
    cases hq : QuadInt.Div_GaussInt_I_ref_m1.div x y <;> rw [hq] at hd <;> first | rfl | cases hd
  · rw [if_neg h0] at hd ⊢
    obtain ⟨q, hq, hd⟩ := mapR_eq_ok hd
    obtain ⟨w, hml, hm⟩ := mapR_eq_ok (gen_gauss_mul_eq y q)
    simp only [hq, bind_ok, hml, mapR_ok, ← hd, ← hm]
    rfl

theorem gen_gauss_is_unit_eq (s : QuadIntS) : QuadInt.Ring.is_unit (-1) s = ok (C15.QInt.gIsUnit (toQ' s)) := by
  unfold QuadInt.Ring.is_unit C15.QInt.gIsUnit
  rw [gen_gauss_norm_eq]; rfl


theorem gen_gauss_inv_eq (s : QuadIntS) :
    mapR (Option.map toQ') (QuadInt.Ring.inv (-1) s) = ok (C15.QInt.gInv (toQ' s)) := by
  unfold QuadInt.Ring.inv C15.QInt.gInv
  rw [gen_gauss_norm_eq]
  simp only [bind_ok]
  generalize C15.QInt.gNorm (toQ' s) = n
  rcases int_inv_cases n with ⟨hi, _, hi'⟩ | ⟨hi, _, hi'⟩
  · obtain ⟨c, hcj, hc⟩ := mapR_eq_ok (gen_gauss_conj_eq s)
    obtain ⟨w, hml, hm⟩ := mapR_eq_ok (gen_gauss_mul_eq ⟨n, 0⟩ c)
    simp only [hi, hi', Option.isSome_some, if_true, Opt.unwrap, bind_ok, QuadInt.From_I.from_, new_m1, hcj, hml,
      mapR_ok, Option.map_some, hm, hc]
    rfl
  · simp [hi, hi', mapR_ok]

theorem gen_gauss_normalizing_unit_eq (s : QuadIntS) :
    mapR toQ' (QuadInt.Ring.normalizing_unit (-1) s) = ok (C15.QInt.gNormUnit (toQ' s)) := by
  unfold QuadInt.Ring.normalizing_unit C15.QInt.gNormUnit
  -- both sides are the same chain of tests on the same signs
  simp only [QuadInt.One.one, QuadInt.omega, new_m1, QuadInt.pair, QuadInt.Neg.neg, QuadInt.pair_into, bind_ok,
    RInt.is_positive, RInt.is_negative, RInt.neg, decide_true, if_true, ← apply_ite Res.ok, mapR_ok,
    apply_ite toQ']
  rfl

theorem gen_eisen_conj_eq (s : QuadIntS) : mapR toQ' (QuadInt.conj (-3) s) = ok (C15.QInt.eConj (toQ' s)) := by
  unfold QuadInt.conj C15.QInt.eConj
  simp [gen_simp]
theorem gen_eisen_norm_eq (s : QuadIntS) : QuadInt.norm (-3) s = ok (C15.QInt.eNorm (toQ' s)) := by
  unfold QuadInt.norm C15.QInt.eNorm
  simp [gen_simp]
theorem gen_eisen_mul_eq (x y : QuadIntS) :
    mapR toQ' (QuadInt.Mul_QuadInt_I_D_ref.mul (-3) x y) = ok (C15.QInt.eMul (toQ' x) (toQ' y)) := by
  unfold QuadInt.Mul_QuadInt_I_D_ref.mul C15.QInt.eMul
  by_cases hb : x.f1 = 0
  · simp [gen_simp, hb]
  · by_cases hd : y.f1 = 0 <;> simp [gen_simp, hb, hd]

theorem gen_eisen_div_round_eq (x y : QuadIntS) :
    mapR toQ' (QuadInt.DivRound_m3.div_round x y) =
      if C15.QInt.eNorm (toQ' y) = 0 then .panic else ok (C15.QInt.eDivRound (toQ' x) (toQ' y)) := by
  unfold QuadInt.DivRound_m3.div_round C15.QInt.eDivRound
  obtain ⟨c, hcj, hc⟩ := mapR_eq_ok (gen_eisen_conj_eq y)
  obtain ⟨w, hml, hm⟩ := mapR_eq_ok (gen_eisen_mul_eq x c)
  rw [gen_eisen_norm_eq, hcj]
  simp only [bind_ok, hml]
  rw [← hc, ← hm]
  simp [gen_simp, int_div_round_eq]
  split <;> simp [*]

theorem gen_eisen_div_eq (x y : QuadIntS) :
    mapR toQ' (QuadInt.Div_EisenInt_I_ref_m3.div x y) =
      if C15.QInt.eNorm (toQ' y) = 0 then .panic else ok (C15.QInt.eDiv (toQ' x) (toQ' y)) :=
  gen_eisen_div_round_eq x y

theorem gen_eisen_rem_eq (x y : QuadIntS) :
    mapR toQ' (QuadInt.Rem_EisenInt_I_ref_m3.rem x y) =
      if C15.QInt.eNorm (toQ' y) = 0 then .panic else ok (C15.QInt.eRem (toQ' x) (toQ' y)) := by
  unfold QuadInt.Rem_EisenInt_I_ref_m3.rem C15.QInt.eRem
  have hd := gen_eisen_div_eq x y
  by_cases h0 : C15.QInt.eNorm (toQ' y) = 0
  · rw [if_pos h0] at hd ⊢
    cases hq : QuadInt.Div_EisenInt_I_ref_m3.div x y <;> rw [hq] at hd <;> first | rfl | cases hd
  · rw [if_neg h0] at hd ⊢
    obtain ⟨q, hq, hd⟩ := mapR_eq_ok hd
    obtain ⟨w, hml, hm⟩ := mapR_eq_ok (gen_eisen_mul_eq y q)
    simp only [hq, bind_ok, hml, mapR_ok, ← hd, ← hm]
    rfl

theorem gen_eisen_is_unit_eq (s : QuadIntS) : QuadInt.Ring.is_unit (-3) s = ok (C15.QInt.eIsUnit (toQ' s)) := by
  unfold QuadInt.Ring.is_unit C15.QInt.eIsUnit
  rw [gen_eisen_norm_eq]; rfl


theorem gen_eisen_inv_eq (s : QuadIntS) :
    mapR (Option.map toQ') (QuadInt.Ring.inv (-3) s) = ok (C15.QInt.eInv (toQ' s)) := by
  unfold QuadInt.Ring.inv C15.QInt.eInv
  rw [gen_eisen_norm_eq]
  simp only [bind_ok]
  generalize C15.QInt.eNorm (toQ' s) = n
  rcases int_inv_cases n with ⟨hi, _, hi'⟩ | ⟨hi, _, hi'⟩
  · obtain ⟨c, hcj, hc⟩ := mapR_eq_ok (gen_eisen_conj_eq s)
    obtain ⟨w, hml, hm⟩ := mapR_eq_ok (gen_eisen_mul_eq ⟨n, 0⟩ c)
    simp only [hi, hi', Option.isSome_some, if_true, Opt.unwrap, bind_ok, QuadInt.From_I.from_, new_m3, hcj, hml,
      mapR_ok, Option.map_some, hm, hc]
    rfl
  · simp [hi, hi', mapR_ok]

theorem gen_eisen_normalizing_unit_eq (s : QuadIntS) :
    mapR toQ' (QuadInt.Ring.normalizing_unit (-3) s) = ok (C15.QInt.eNormUnit (toQ' s)) := by
  unfold QuadInt.Ring.normalizing_unit C15.QInt.eNormUnit
  -- both sides are the same chain of tests on the same signs
  simp only [QuadInt.One.one, QuadInt.omega, new_m3, QuadInt.pair, QuadInt.Neg.neg, QuadInt.pair_into, bind_ok,
    RInt.is_positive, RInt.is_negative, RInt.neg, show decide ((-3 : Int) = -1) = false from rfl,
    Bool.false_eq_true, if_false, decide_true, if_true, ← apply_ite Res.ok, mapR_ok,
    apply_ite toQ']
  rfl

/-! ### the remaining branch of `normalizing_unit` (no counterpart in the hand models): the sign of `a` -/

theorem gen_other_normalizing_unit_eq (D : Int) (s : QuadIntS) (h1 : D ≠ -1) (h3 : D ≠ -3) (h4 : D.tmod 4 ≠ 0) :
    QuadInt.Ring.normalizing_unit D s = ok (if s.f0 < 0 then ⟨-1, 0⟩ else ⟨1, 0⟩) := by
  have hnew : ∀ a b, QuadInt.new D a b = ok ⟨a, b⟩ := by
    intro a b; unfold QuadInt.new; simp [rem4, h4, assert_true]
  unfold QuadInt.Ring.normalizing_unit
  by_cases h : s.f0 < 0 <;>
    simp [h1, h3, h, QuadInt.One.one, hnew, QuadInt.pair, QuadInt.Neg.neg, QuadInt.pair_into, RInt.is_negative, RInt.neg]

/-! ### the statements are not vacuous -/

example : mapR toQ' (QuadInt.Div_GaussInt_I_ref_m1.div ⟨7, 3⟩ ⟨2, -1⟩) = ok ⟨2, 3⟩ := by
  rw [gen_gauss_div_eq]; decide
example : mapR toQ' (QuadInt.Rem_EisenInt_I_ref_m3.rem ⟨7, 3⟩ ⟨0, 0⟩) = .panic := by
  rw [gen_eisen_rem_eq]; decide
example : mapR toQ' (QuadInt.Ring.normalizing_unit (-3) ⟨-2, 3⟩) = ok ⟨1, -1⟩ := by
  rw [gen_eisen_normalizing_unit_eq]; decide

end Yuiv.GenQ
