import Yuiv.Proofs.C19CommEx
import Yuiv.Props.C19Inv
import Yuiv.Proofs.C19ConeEx
/-
C19 (extension) — τ IS A CHAIN MAP of the reference cube complex over 𝔽₂, hence the cone of `1 + τ` is a complex.

Setting: `ic : ICube` is the reference involutive cube (`Model/C19.mkICube`: the cube `ic.cube`, τ on states `ic.tst`, the
circle correspondences `ic.tlab`), `ic.tau` is τ on generators, `Cube.d` the reference differential (any parameters
`p = ⟨h, t, reduced⟩`; everything is read mod 2, so the signs of the cube edges play no role), and — exactly as in
`khiHomology` —
    `dK c p g`   = the targets of the terms of `c.d p g` with odd coefficient (a list; repeated targets cancel in pairs),
    `dI ic p x`  = the cone differential  `D(Bg) = B dg + Qg + Qτg`,  `D(Qg) = Q dg`   (`(false, g) = Bg`, `(true, g) = Qg`).

Hypothesis: the decidable per-instance check `icubeWf' F ic = true` (`Proofs/C19CommDefs.lean`: imports the models and core
Lean only, no Mathlib, so a driver can import and evaluate it).  It is `icubeWf ic` of `Props/C19Inv` PLUS, for every state `s` (`t = τ s`):
  (1) at most 64 circles (`setBit … false` of `KhRef` truncates the labelling to 64 bits);
  (2) the circles of `s` are pairwise different arrays;
  (3) CONTENT: circle `tlab[s][i]` of `t` equals `F (circle i of s)` for one fixed function `F` on circles — for an
      involutive link `l`: `F = circImg l.invE`, the sorted image under the label involution;
  (4) EDGES: for every `0`-bit `k` of `s` there is a `0`-bit `k'` of `t` with `τ(s + e_k) = τ s + e_k'`.
`icubeWf` alone is NOT enough: it only says that `tlab[s]` is a bijection of circle INDICES (with the inverse at `τ s`)
and that τ on states is a weight preserving involution — neither what the circles are nor that τ respects cube edges.
(3) is what makes "common / disappearing / new circle" along an edge a τ-invariant notion (`Cube.d` compares circles
of neighbouring states by their content), (4) re-indexes the sum over the edges.

Proved (for EVERY generator `g` with `g.s < 2^n`, every `p`, unreduced and reduced): τ commutes with every edge map and with
`Cube.d` over 𝔽₂ (lists of targets up to order, and coefficientwise), `Cube.d` is defined at `g` iff at `τ g`, and `D∘D = 0 (mod 2)`
at `Bg`, `Qg` follows from `d∘d = 0 (mod 2)` at `g` (count form = the driver's `reduce2 (… flatMap …) = ∅`; matrix form through
`Props/C19.cone_d_sq`).  For `ic = mkICube l p`: `ic.tst` IS `tState`, a bit permutation, and one check on the link (`piInvolB`)
yields the states part of `icubeWf` and clause (4) of `icubeWf'`.
NOT proved: that `icubeWf'` holds for every accepted diagram (it is a per-instance check, like `icubeWf`), and `d∘d = 0`
of the Khovanov cube itself (hypothesis of `icube_cone_is_complex`; `khiHomology` re-checks it as the `Q`-part of `D∘D`).
-/
namespace Yuiv.C19Comm
open Yuiv Yuiv.KhRef Yuiv.C19 Yuiv.C06Cycle Yuiv.C19Inv Matrix

/-- `tState` is the bit map `t_k = s_{π k}` (`k < n`), whenever every unresolved crossing has an image position `π k`
(otherwise `tState`, and with it `mkICube`, is undefined) -/
theorem tstate_bit_map (l : InvLink) (π : Nat → Nat) (hπ : ∀ k < (realIdx l.link).size, piOf l k = some (π k))
    (s : Nat) :
    ∃ t, tState l s = some t ∧ t < 2 ^ (realIdx l.link).size ∧
      ∀ j, t.testBit j = (decide (j < (realIdx l.link).size) && s.testBit (π j)) :=
  tState_bits l π hπ s

/-- if `π` is an involution of the positions: `tState` is an involution of the states below `2^n`, preserves the weight,
and maps the cube edge `s → s + e_k` to the edge `τ s → τ s + e_{π k}` (clause (4) of `icubeWf'`) -/
theorem tstate_involution_weight_edges (l : InvLink) (π : Nat → Nat)
    (hπ : ∀ k < (realIdx l.link).size, piOf l k = some (π k))
    (hinv : ∀ k < (realIdx l.link).size, π k < (realIdx l.link).size ∧ π (π k) = k)
    (s : Nat) (hs : s < 2 ^ (realIdx l.link).size) :
    ∃ t, tState l s = some t ∧ t < 2 ^ (realIdx l.link).size ∧ tState l t = some s ∧
      popcount t (realIdx l.link).size = popcount s (realIdx l.link).size ∧
      ∀ k < (realIdx l.link).size, s.testBit k = false →
        t.testBit (π k) = false ∧ tState l (s ||| 1 <<< k) = some (t ||| 1 <<< π k) :=
  tState_props l π hπ hinv s hs

/-- `mkICube` stores `tState`: its cube is the cube of the link (based at the on-axis base point in the reduced theory), of
dimension `n` = number of unresolved crossings, and `ic.tst[s] = tState l s` for every state `s < 2^n` -/
theorem mkicube_tst_is_tstate (l : InvLink) (p : Params) (ic : ICube) (h : mkICube l p = some ic) :
    ic.cube = ⟨(mkCube l.link p).n, (mkCube l.link p).circ, if p.reduced then l.base else none⟩ ∧
    ic.cube.n = (realIdx l.link).size ∧ (realIdx l.link).size = crossingNum l.link ∧
    ic.tst.size = 2 ^ ic.cube.n ∧ ∀ s < 2 ^ ic.cube.n, tState l s = some ic.tst[s]! := by
  obtain ⟨h1, h2, h3, h4⟩ := mkICube_tst l p ic h
  exact ⟨h1, h2, realIdx_size l.link, h3, h4⟩

/-- for the cube built by `mkICube`, ONE decidable check on the link (`piInvolB l`: the positions of the image crossings
form an involution) gives everything `icubeWf` / `icubeWf'` say about τ on STATES: an involution of the states below
`2^n`, weight preserving, and clause (4): the edge along `k` goes to the edge along `π k` -/
theorem mkicube_states_of_pi_involution (l : InvLink) (p : Params) (ic : ICube) (h : mkICube l p = some ic)
    (hpi : piInvolB l = true) (s : Nat) (hs : s < 2 ^ ic.cube.n) :
    ic.tst[s]! < 2 ^ ic.cube.n ∧ ic.tst[ic.tst[s]!]! = s ∧ popcount (ic.tst[s]!) ic.cube.n = popcount s ic.cube.n ∧
    ∀ k < ic.cube.n, s.testBit k = false →
      (ic.tst[s]!).testBit ((piOf l k).getD 0) = false ∧ (piOf l k).getD 0 < ic.cube.n ∧
      ic.tst[s ||| 1 <<< k]! = ic.tst[s]! ||| 1 <<< ((piOf l k).getD 0) := by
  obtain ⟨_, hn, _, htst⟩ := mkICube_tst l p ic h
  have hsome := tState_some_pi l s _ (htst s hs)
  have hπ : ∀ k < (realIdx l.link).size, piOf l k = some ((piOf l k).getD 0) := by
    intro k hk
    obtain ⟨v, hv⟩ := Option.isSome_iff_exists.1 (hsome k hk)
    rw [hv]; rfl
  have hinv : PiInvol (realIdx l.link).size (fun k => (piOf l k).getD 0) := by
    intro k hk
    unfold piInvolB at hpi
    have := (allBelow_spec _ _).1 hpi k hk
    simpa using this
  rw [hn] at hs ⊢
  obtain ⟨t, e, hlt, e2, hw, hedge⟩ := tState_props l _ hπ hinv s hs
  have et : ic.tst[s]! = t := by
    have := htst s (by rw [hn]; exact hs)
    rw [e] at this
    exact (Option.some.inj this).symm
  rw [et]
  refine ⟨hlt, ?_, hw, ?_⟩
  · have := htst t (by rw [hn]; exact hlt)
    rw [e2] at this
    exact (Option.some.inj this).symm
  · intro k hk hb
    obtain ⟨h1, h2⟩ := hedge k hk hb
    refine ⟨h1, (hinv k hk).1, ?_⟩
    have := htst _ (by rw [hn]; exact KhRef.or_bit_lt hs hk)
    rw [h2] at this
    exact (Option.some.inj this).symm

/-- the trefoil: `π` exchanges the first two crossings; without the involution hypothesis the statement fails
(`π = const 0` is a bit map that is no permutation) -/
example : (∀ k < (realIdx tref.link).size, piOf tref k = some (#[1, 0, 2][k]!)) ∧
    (∀ k < (realIdx tref.link).size, #[1, 0, 2][k]! < (realIdx tref.link).size ∧ #[1, 0, 2][#[1, 0, 2][k]!]! = k) ∧
    tState tref 5 = some 6 ∧ piInvolB tref = true := by
  refine ⟨by decide +kernel, by decide +kernel, by decide +kernel, by decide +kernel⟩

/-- the strengthened check contains `icubeWf`, so the theorems of `Props/C19Inv` (τ an involution on generators,
preserving both degrees and the reduced sub-complex) hold under it -/
theorem icubeWf'_implies_wf (F : Array Nat → Array Nat) (ic : ICube) (h : icubeWf' F ic = true) : icubeWf ic = true :=
  wf'_wf F ic h

/-- what the four extra clauses say -/
theorem icubeWf'_meaning (F : Array Nat → Array Nat) (ic : ICube) (h : icubeWf' F ic = true) (s : Nat)
    (hs : s < 2 ^ ic.cube.n) :
    (ic.cube.circ[s]!).size ≤ 64 ∧
    (∀ i j, i < (ic.cube.circ[s]!).size → j < (ic.cube.circ[s]!).size →
      (ic.cube.circ[s]!)[i]! = (ic.cube.circ[s]!)[j]! → i = j) ∧
    (∀ i < (ic.cube.circ[s]!).size, (ic.cube.circ[ic.tst[s]!]!)[(ic.tlab[s]!)[i]!]! = F (ic.cube.circ[s]!)[i]!) ∧
    (∀ k < ic.cube.n, s.testBit k = false → ∃ k', k' < ic.cube.n ∧ (ic.tst[s]!).testBit k' = false ∧
      ic.tst[s ||| 1 <<< k]! = ic.tst[s]! ||| 1 <<< k') :=
  ⟨(wf'_spec F ic h s hs).le64, (wf'_spec F ic h s hs).inj, (wf'_spec F ic h s hs).img, (wf'_spec F ic h s hs).edge⟩

/-- ONE EDGE: if τ maps the cube edge `s → s + e_k` to `τ s → τ s + e_k'`, then the edge map along `k'` applied to `τ g`
is the τ-image of the edge map along `k` applied to `g` — merge ↦ merge of the image circles, split ↦ split, and both
are undefined together.  (`edgeTerms` = the loop-free form of one pass of the loop of `Cube.d`, `Proofs/C06CycleDefs`;
`oddSupp` = targets of the terms with odd coefficient; `Perm`: the two new circles of a split may come in the other order) -/
theorem tau_edge_map_comm (F : Array Nat → Array Nat) (ic : ICube) (h : icubeWf' F ic = true) (p : Params) (g : Gen)
    (hs : g.s < 2 ^ ic.cube.n) (k : Nat) (hk : k < ic.cube.n) (k' : Nat)
    (hrel : ic.tst[g.s ||| 1 <<< k]! = ic.tst[g.s]! ||| 1 <<< k') :
    match edgeTerms ic.cube p g k with
    | none => edgeTerms ic.cube p (ic.tau g) k' = none
    | some ts => ∃ ts', edgeTerms ic.cube p (ic.tau g) k' = some ts' ∧ ((oddSupp ts).map ic.tau).Perm (oddSupp ts') := by
  have key := edge_comm F ic h p g hs k hk k' hrel
  generalize edgeTerms ic.cube p g k = a at key ⊢
  generalize edgeTerms ic.cube p (ic.tau g) k' = b at key ⊢
  cases key with
  | none => rfl
  | some hp => exact ⟨_, rfl, hp⟩

/-- the image edge exists (clause (4)) -/
theorem tau_edge_exists (F : Array Nat → Array Nat) (ic : ICube) (h : icubeWf' F ic = true) (g : Gen)
    (hs : g.s < 2 ^ ic.cube.n) (k : Nat) (hk : k < ic.cube.n) (hb : g.s.testBit k = false) :
    ∃ k', k' < ic.cube.n ∧ (ic.tau g).s.testBit k' = false ∧ ic.tst[g.s ||| 1 <<< k]! = ic.tst[g.s]! ||| 1 <<< k' :=
  (wf'_spec F ic h g.s hs).edge k hk hb

/-- `Cube.d` is undefined at `g` (some edge is neither a merge nor a split) iff it is undefined at `τ g` -/
theorem tau_d_defined_together (F : Array Nat → Array Nat) (ic : ICube) (h : icubeWf' F ic = true) (p : Params)
    (g : Gen) (hs : g.s < 2 ^ ic.cube.n) : ic.cube.d p g = none ↔ ic.cube.d p (ic.tau g) = none := by
  have key := dList_comm F ic h p g hs
  rw [cube_d_list, cube_d_list]
  generalize dList ic.cube p g = a at key ⊢
  generalize dList ic.cube p (ic.tau g) = b at key ⊢
  cases key <;> simp

/-- τ IS A CHAIN MAP over 𝔽₂: the list of targets of `d (τ g)` is the τ-image of the list of targets of `d g`, up to the
order of the terms -/
theorem tau_chain_map (F : Array Nat → Array Nat) (ic : ICube) (h : icubeWf' F ic = true) (p : Params) (g : Gen)
    (hs : g.s < 2 ^ ic.cube.n) : ((dK ic.cube p g).map ic.tau).Perm (dK ic.cube p (ic.tau g)) :=
  dK_comm F ic h p g hs

/-- the same, coefficient by coefficient: every generator `y` occurs in `τ (d g)` as often as in `d (τ g)` -/
theorem tau_chain_map_count (F : Array Nat → Array Nat) (ic : ICube) (h : icubeWf' F ic = true) (p : Params) (g : Gen)
    (hs : g.s < 2 ^ ic.cube.n) (y : Gen) :
    ((dK ic.cube p g).map ic.tau).count y = (dK ic.cube p (ic.tau g)).count y :=
  (dK_comm F ic h p g hs).count_eq y

/-- `D∘D = 0 (mod 2)` for the cone of `1 + τ` in the representation of `khiHomology`: if `d∘d = 0 (mod 2)` at `g`
(every generator occurs an even number of times in `d (d g)`), every cone generator `z` occurs an even number of times in
`D (D (Bg))` and in `D (D (Qg))`.  The driver's re-check `reduce2 ((reduce2 (dI x)).flatMap (reduce2 ∘ dI)) = ∅` says
exactly this (`reduce2` keeps the generators of odd multiplicity). -/
theorem icube_cone_is_complex (F : Array Nat → Array Nat) (ic : ICube) (h : icubeWf' F ic = true) (p : Params)
    (g : Gen) (hs : g.s < 2 ^ ic.cube.n)
    (hd : ∀ z, ((dK ic.cube p g).flatMap (dK ic.cube p)).count z % 2 = 0) (b : Bool) (z : IGen) :
    ((dI ic p (b, g)).flatMap (dI ic p)).count z % 2 = 0 :=
  cone_sq_even ic p g hd (dK_comm F ic h p g hs) b z

/-- without the chain-map property the cone is no complex: `D (D (Bg))` contains `Q y` exactly
`2·#(y in d g) + #(y in τ (d g)) + #(y in d (τ g))` times, whatever τ is -/
theorem cone_sq_Q_coefficient (ic : ICube) (p : Params) (g y : Gen) :
    ((dI ic p (false, g)).flatMap (dI ic p)).count (true, y) =
      2 * (dK ic.cube p g).count y + ((dK ic.cube p g).map ic.tau).count y + (dK ic.cube p (ic.tau g)).count y := by
  simp only [dI, List.flatMap_append, List.count_append, count_B_part, List.flatMap_cons, List.flatMap_nil,
    List.append_nil, count_map_pair]
  simp only [Bool.true_eq_false, if_false, if_true]
  omega

/-- THE SAME THROUGH `cone_d_sq`: for a duplicate-free list `gens` of generators closed under `d` and `τ`, over any
commutative ring of characteristic 2 (e.g. `ZMod 2`) the matrices `dMat`, `tauMat` of `d` and `τ` satisfy
`τ·d = d·τ`, and if `d·d = 0 (mod 2)` the cone matrix `[[d, 0], [1 + τ, d]]` squares to zero -/
theorem icube_cone_matrix_sq_zero {R : Type} [CommRing R] [CharP R 2] (F : Array Nat → Array Nat) (ic : ICube)
    (h : icubeWf' F ic = true) (p : Params) (gens : List Gen) (hnd : gens.Nodup)
    (hN : ∀ g ∈ gens, g.s < 2 ^ ic.cube.n)
    (hcl : ∀ g ∈ gens, ∀ y ∈ dK ic.cube p g, y ∈ gens) (htau : ∀ g ∈ gens, ic.tau g ∈ gens)
    (hd : ∀ g ∈ gens, ∀ z, ((dK ic.cube p g).flatMap (dK ic.cube p)).count z % 2 = 0) :
    tauMat R ic gens * dMat R ic.cube p gens = dMat R ic.cube p gens * tauMat R ic gens ∧
    (fromBlocks (dMat R ic.cube p gens) 0 (1 + tauMat R ic gens) (dMat R ic.cube p gens)) *
      (fromBlocks (dMat R ic.cube p gens) 0 (1 + tauMat R ic gens) (dMat R ic.cube p gens)) = 0 := by
  have hcomm : tauMat R ic gens * dMat R ic.cube p gens = dMat R ic.cube p gens * tauMat R ic gens := by
    ext i j
    rw [tauMat_mul_dMat ic p gens hnd hcl, dMat_mul_tauMat ic p gens hnd htau,
      (dK_comm F ic h p (gens.get j) (hN _ (List.get_mem _ _))).count_eq]
  have hdd : dMat R ic.cube p gens * dMat R ic.cube p gens = 0 := by
    ext i j
    rw [dMat_mul_dMat ic.cube p gens hnd hcl, Matrix.zero_apply, CharP.cast_eq_zero_iff R 2]
    exact Nat.dvd_of_mod_eq_zero (hd _ (List.get_mem _ _) _)
  exact ⟨hcomm, (Yuiv.C19.cone_d_sq _ _ hdd).2 hcomm⟩

/-- the reference cube of the trefoil (`tref` = PD `[[1,5,2,4],[3,1,4,6],[5,3,6,2]]` with `sinvEMap 6`, base point `1`) as
`mkICube` computes it, for all `h`, `t`, unreduced and reduced, passes the strengthened check with `F` = sorted image
under the label involution -/
example (h t : Int) (red : Bool) :
    mkICube tref ⟨h, t, red⟩ = some (trefIC red) ∧ icubeWf' (circImg tref.invE) (trefIC red) = true :=
  ⟨tref_icube h t red, tref_wf' red⟩

/-- both sides of `tau_chain_map` on the generator `1` at the state `001` (`h = t = 1`, unreduced): τ exchanges the states
`101` and `110`; four terms each -/
example :
    let ic := trefIC false
    let p : Params := ⟨1, 1, false⟩
    ic.tau ⟨1, 1⟩ = ⟨2, 1⟩ ∧
    (dK ic.cube p ⟨1, 1⟩).map ic.tau = [⟨3, 3⟩, ⟨3, 0⟩, ⟨6, 3⟩, ⟨6, 0⟩] ∧
    dK ic.cube p (ic.tau ⟨1, 1⟩) = [⟨3, 3⟩, ⟨3, 0⟩, ⟨6, 3⟩, ⟨6, 0⟩] := by
  decide +kernel

/-- reduced theory, `h = t = 0`, a split edge into the state `111` where τ exchanges the circles `{2,5}` and `{3,6}` -/
example :
    let ic := trefIC true
    let p : Params := ⟨0, 0, true⟩
    ic.tau ⟨5, 1⟩ = ⟨6, 1⟩ ∧
    dK ic.cube p ⟨5, 1⟩ = [⟨7, 5⟩] ∧ (dK ic.cube p ⟨5, 1⟩).map ic.tau = [⟨7, 3⟩] ∧
    dK ic.cube p (ic.tau ⟨5, 1⟩) = [⟨7, 3⟩] := by
  decide +kernel

/-- `icube_cone_is_complex` at a generator of the trefoil cube: its hypothesis `d∘d = 0 (mod 2)` holds there -/
example (b : Bool) (z : IGen) :
    ((dI (trefIC false) ⟨1, 1, false⟩ (b, ⟨0, 1⟩)).flatMap (dI (trefIC false) ⟨1, 1, false⟩)).count z % 2 = 0 := by
  apply icube_cone_is_complex (circImg tref.invE) (trefIC false) (tref_wf' false) ⟨1, 1, false⟩ ⟨0, 1⟩ (by decide)
  intro z
  by_cases hz : z ∈ (dK (trefIC false).cube ⟨1, 1, false⟩ ⟨0, 1⟩).flatMap (dK (trefIC false).cube ⟨1, 1, false⟩)
  · revert z
    decide +kernel
  · rw [List.count_eq_zero.2 hz]

/-- the hypotheses of `icube_cone_matrix_sq_zero` hold for the list of all 30 generators of the trefoil cube (`h = t = 1`),
so the cone matrix over any commutative ring of characteristic 2 squares to zero -/
example {R : Type} [CommRing R] [CharP R 2] :
    let ic := trefIC false
    let p : Params := ⟨1, 1, false⟩
    let gens := allGens ic.cube
    gens.length = 30 ∧
    (fromBlocks (dMat R ic.cube p gens) 0 (1 + tauMat R ic gens) (dMat R ic.cube p gens)) *
      (fromBlocks (dMat R ic.cube p gens) 0 (1 + tauMat R ic gens) (dMat R ic.cube p gens)) = 0 := by
  intro ic p gens
  refine ⟨by decide +kernel, ?_⟩
  exact (icube_cone_matrix_sq_zero (circImg tref.invE) ic (tref_wf' false) p gens (allGens_nodup _)
    (fun g hg => ((mem_allGens _ g).1 hg).1) (allGens_d_closed _ ic (tref_wf' false) p)
    (allGens_tau_closed ic (wf'_wf _ ic (tref_wf' false)))
    (fun g hg z => C19Cone.icube_dsq_even tref p ic (tref_icube 1 1 false) (by decide +kernel)
      (by rw [tref_labels]; decide) (C19Cone.cubeOKB_spec _ (by decide +kernel)) rfl g ((mem_allGens _ g).1 hg).1
      ((mem_allGens _ g).1 hg).2.2 z)).2

/-- `icubeWf` ALONE IS NOT ENOUGH: on `badIC` (one crossing; state `0` has the circles `{1},{2},{3}`, state `1` the circles
`{1,2},{3}`; τ fixes both states but exchanges the circles `{2}` and `{3}` of the state `0`) `icubeWf` holds, no `F` passes
`icubeWf'`, τ is NOT a chain map (`τ (d g) = [⟨1,1⟩]`, `d (τ g) = [⟨1,2⟩]` for `g = 1⊗X⊗1`), and the cone is no complex
(`Q⟨1,1⟩` occurs three times in `D (D (Bg))`) -/
example :
    icubeWf badIC = true ∧ (∀ F, icubeWf' F badIC = false) ∧
    (dK badIC.cube ⟨0, 0, false⟩ ⟨0, 2⟩).map badIC.tau = [⟨1, 1⟩] ∧
    dK badIC.cube ⟨0, 0, false⟩ (badIC.tau ⟨0, 2⟩) = [⟨1, 2⟩] ∧
    ((dI badIC ⟨0, 0, false⟩ (false, ⟨0, 2⟩)).flatMap (dI badIC ⟨0, 0, false⟩)).count (true, ⟨1, 1⟩) = 3 := by
  refine ⟨by decide +kernel, ?_, by decide +kernel, by decide +kernel, by decide +kernel⟩
  intro F
  cases hF : icubeWf' F badIC with
  | false => rfl
  | true =>
    have h0 := (wf'_spec F badIC hF 0 (by decide)).img 2 (by decide)
    have h1 := (wf'_spec F badIC hF 1 (by decide)).img 1 (by decide)
    have e0 : (badIC.cube.circ[badIC.tst[0]!]!)[(badIC.tlab[0]!)[2]!]! = #[2] := by decide +kernel
    have e1 : (badIC.cube.circ[badIC.tst[1]!]!)[(badIC.tlab[1]!)[1]!]! = #[3] := by decide +kernel
    have a0 : (badIC.cube.circ[0]!)[2]! = #[3] := by decide +kernel
    have a1 : (badIC.cube.circ[1]!)[1]! = #[3] := by decide +kernel
    rw [e0, a0] at h0
    rw [e1, a1, ← h0] at h1
    exact absurd h1 (by decide)

end Yuiv.C19Comm
