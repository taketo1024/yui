import Yuiv.Proofs.C13
import Yuiv.Proofs.ListAux
import Mathlib.Data.List.Perm.Basic
import Mathlib.Data.List.Nodup
/-
C13 — `util::perm_for_indices`.
-/
namespace Yuiv.C13
open Yuiv Res

/-- the slot of an index holds the position of its LAST occurrence -/
theorem fillInv_spec (l : List Nat) (inv : List Nat) (i : Nat) (hb : ∀ j ∈ l, j < inv.length) :
    ∃ inv', fillInv inv i l = ok inv' ∧ inv'.length = inv.length ∧
      (∀ pos (h : pos < l.length), l[pos] ∉ l.drop (pos + 1) → inv'[l[pos]]? = some (i + pos)) ∧
      (∀ j, j ∉ l → inv'[j]? = inv[j]?) := by
  induction l generalizing inv i with
  | nil => exact ⟨inv, rfl, rfl, fun pos h => absurd h (by simp), fun _ _ => rfl⟩
  | cons j rest ih =>
    have hj : j < inv.length := hb j (by simp)
    obtain ⟨inv', h1, h2, h3, h4⟩ := ih (inv.set j i) (i + 1)
      (fun k hk => by rw [List.length_set]; exact hb k (by simp [hk]))
    refine ⟨inv', ?_, by rw [h2, List.length_set], ?_, ?_⟩
    · rw [fillInv, setIdx, if_pos hj]; exact h1
    · intro pos hpos hlast
      cases pos with
      | zero =>
        simp only [List.getElem_cons_zero, Nat.add_zero]
        rw [h4 j hlast, List.getElem?_set_self hj]
      | succ pos =>
        simp only [List.getElem_cons_succ]
        rw [h3 pos (by simpa using hpos) hlast]
        congr 1; omega
    · intro k hk
      simp only [List.mem_cons, not_or] at hk
      rw [h4 k hk.2, List.getElem?_set_ne (fun e => hk.1 e.symm)]

theorem permForIndices_spec (n : Nat) (indices : List Nat) (hnd : indices.Nodup) (hb : ∀ i ∈ indices, i < n) :
    ∃ p, permForIndices n indices = ok p ∧ p.Valid ∧ p.dim = n ∧
      ∀ pos (h : pos < (indices ++ (List.range n).filter (fun i => !indices.contains i)).length),
        p.fn ((indices ++ (List.range n).filter (fun i => !indices.contains i))[pos]) = pos := by
  unfold permForIndices
  rw [assert_true (by rw [List.all_eq_true]; intro i hi; simpa using hb i hi)]
  simp only [bind_ok]
  generalize hvec : indices ++ (List.range n).filter (fun i => !indices.contains i) = vec
  have hperm : vec.Perm (List.range n) := hvec ▸ ListAux.append_filter_perm_range n indices hnd hb
  have hlen : vec.length = n := by rw [hperm.length_eq, List.length_range]
  have hvnd : vec.Nodup := hperm.nodup_iff.mpr List.nodup_range
  have hvb : ∀ j ∈ vec, j < n := fun j hj => List.mem_range.mp (hperm.mem_iff.mp hj)
  obtain ⟨inv, h1, h2, h3, _⟩ := fillInv_spec vec (List.replicate n 0) 0 (by simpa using hvb)
  rw [h1]
  simp only [bind_ok]
  rw [List.length_replicate] at h2
  have hpos : ∀ j, j < n → ∃ pos, ∃ h : pos < vec.length, vec[pos] = j ∧ inv[j]? = some pos := by
    intro j hj
    have : j ∈ vec := hperm.mem_iff.mpr (List.mem_range.mpr hj)
    obtain ⟨pos, hp, e⟩ := List.getElem_of_mem this
    refine ⟨pos, hp, e, ?_⟩
    have := h3 pos hp (fun hm => by
      obtain ⟨k, hk, ek⟩ := List.mem_drop_iff_getElem.mp hm
      have := (List.Nodup.getElem_inj_iff hvnd).mp ek
      omega)
    rw [e, Nat.zero_add] at this
    exact this
  have hvals : ∀ x ∈ inv, x < inv.length := by
    intro x hx
    obtain ⟨j, hj, e⟩ := List.getElem_of_mem hx
    obtain ⟨pos, hp, _, e2⟩ := hpos j (h2 ▸ hj)
    rw [List.getElem?_eq_getElem hj, e] at e2
    cases e2; omega
  have hinvnd : inv.Nodup := by
    rw [List.nodup_iff_getElem?_ne_getElem?]
    intro i j hij hj
    obtain ⟨p1, hp1, e1, g1⟩ := hpos i (h2 ▸ Nat.lt_trans hij hj)
    obtain ⟨p2, hp2, e2, g2⟩ := hpos j (h2 ▸ hj)
    rw [g1, g2]
    intro e
    cases e
    rw [e1] at e2
    omega
  obtain ⟨k1, k2⟩ := Perm.new_ok inv hvals hinvnd
  refine ⟨_, k1, k2, h2, ?_⟩
  intro pos hp
  obtain ⟨p', hp', e', g'⟩ := hpos vec[pos] (hvb _ (List.getElem_mem hp))
  have : p' = pos := (List.Nodup.getElem_inj_iff hvnd).mp e'
  subst this
  unfold Perm.fn
  simp only [List.getD_eq_getElem?_getD, g', Option.getD_some]

/-- `permForIndices_spec` together with its first consequence: the `k`-th listed index goes to position `k` -/
theorem permForIndices_listed (n : Nat) (indices : List Nat) (hnd : indices.Nodup) (hb : ∀ i ∈ indices, i < n) :
    ∃ p, permForIndices n indices = ok p ∧ p.Valid ∧ p.dim = n ∧
      (∀ pos (h : pos < (indices ++ (List.range n).filter (fun i => !indices.contains i)).length),
        p.fn ((indices ++ (List.range n).filter (fun i => !indices.contains i))[pos]) = pos) ∧
      ∀ k (h : k < indices.length), p.fn indices[k] = k := by
  obtain ⟨p, h1, h2, h3, h4⟩ := permForIndices_spec n indices hnd hb
  refine ⟨p, h1, h2, h3, h4, ?_⟩
  intro k hk
  have := h4 k (by rw [List.length_append]; exact Nat.lt_add_right _ hk)
  rw [List.getElem_append_left hk] at this
  exact this

theorem permForIndices_reject (n : Nat) (indices : List Nat) (h : ∃ i ∈ indices, ¬ i < n) :
    permForIndices n indices = panic := by
  unfold permForIndices
  rw [assert_false (by
    rw [List.all_eq_false]
    obtain ⟨i, hi, hlt⟩ := h
    exact ⟨i, hi, by simpa using hlt⟩)]
  rfl

end Yuiv.C13
