import Yuiv.Proofs.HomInv
/-
Rank and invariant factors are ISOMORPHISM INVARIANTS of a finitely generated abelian group (ℤ-module) — property theorems
only (definitions and lemmas: `Proofs/HomInv.lean`, arithmetic core `chain_unique`: `Proofs/SnfUnique.lean`).

This is the uniqueness half of the structure theorem over ℤ, which Mathlib does not have:  if
`M ≃ ℤ^r × ∏_{u<s} ℤ/t_u` and `M' ≃ ℤ^r' × ∏_{u<s'} ℤ/t'_u` with `2 ≤ t_0 ∣ t_1 ∣ …` and `M ≃ M'`, then `r = r'`,
`s = s'`, `t = t'`.  Proof by counting: `#Hom(M, ℤ/q) = q^r · ∏ gcd(t_u, q)` is an isomorphism invariant, and these numbers
(for all `q ≥ 1`) determine a divisibility chain.  Isomorphisms are taken as `≃+` (for abelian groups the same as `≃ₗ[ℤ]`:
use `LinearEquiv.toAddEquiv`), so that no choice of a `Module ℤ` instance enters the statements.
-/
namespace Yuiv.HomInv
open Yuiv.SnfUnique Finset

/-- `#Hom(M, ℤ/q)` is an isomorphism invariant -/
theorem homCount_iso_invariant {M M' : Type*} [AddCommGroup M] [AddCommGroup M'] (e : M ≃+ M') (q : ℕ) :
    homCount M q = homCount M' q := homCount_congr e q

/-- **the counting formula**: for `M ≃ ℤ^r × ∏_{u<s} ℤ/t_u` and `q ≥ 1`, `#Hom(M, ℤ/q) = q^r · ∏_u gcd(t_u, q)` -/
theorem homCount_of_presentation {M : Type*} [AddCommGroup M] (r s : ℕ) (t : Fin s → ℕ)
    (e : M ≃+ (Fin r → ℤ) × (∀ u : Fin s, ZMod (t u))) (q : ℕ) [NeZero q] :
    homCount M q = q ^ r * ∏ u, Nat.gcd (t u) q := by
  rw [homCount_congr e q, homCount_free_tors]
  congr 1
  exact Finset.prod_congr rfl fun u _ => by rw [cz_eq_gcd]; rfl

/-- the same for a product of cyclic groups `∏_{i<n} ZMod (c i)` (`c i = 0`: a free summand `ZMod 0 = ℤ`) -/
theorem homCount_of_cyclic_presentation {M : Type*} [AddCommGroup M] (n : ℕ) (c : Fin n → ℕ)
    (e : M ≃+ (∀ i : Fin n, ZMod (c i))) (q : ℕ) [NeZero q] :
    homCount M q = ∏ i, Nat.gcd (c i) q := by
  rw [homCount_congr e q, homCount_pi_zmod]
  exact Finset.prod_congr rfl fun u _ => by rw [cz_eq_gcd]; rfl

/-- **rank and invariant factors are isomorphism invariants** (ℤ).  If `M ≃ ℤ^r × ∏_{u<s} ℤ/t_u` and
`M' ≃ ℤ^r' × ∏_{u<s'} ℤ/t'_u`, the orders being non-zero non-units (`2 ≤ t_u`) each dividing the next, and `M ≃ M'`, then
the free ranks agree, the numbers of torsion summands agree and the orders agree. -/
theorem rank_and_invariant_factors_unique {M M' : Type*} [AddCommGroup M] [AddCommGroup M']
    (r s r' s' : ℕ) (t t' : ℕ → ℕ)
    (ht : ∀ u, u < s → 2 ≤ t u) (ht' : ∀ u, u < s' → 2 ≤ t' u)
    (hc : ∀ u, u + 1 < s → t u ∣ t (u + 1)) (hc' : ∀ u, u + 1 < s' → t' u ∣ t' (u + 1))
    (p : M ≃+ (Fin r → ℤ) × (∀ u : Fin s, ZMod (t u)))
    (p' : M' ≃+ (Fin r' → ℤ) × (∀ u : Fin s', ZMod (t' u)))
    (e : M ≃+ M') :
    r = r' ∧ s = s' ∧ ∀ u, u < s → t u = t' u := by
  have hcount : ∀ (r s : ℕ) (t : ℕ → ℕ) (q : ℕ) [NeZero q],
      homCount ((Fin r → ℤ) × (∀ u : Fin s, ZMod (t u))) q = q ^ r * ∏ u ∈ range s, cz ((t u : ℕ) : ℤ) q := by
    intro r s t q _
    rw [homCount_free_tors r s (fun u : Fin s => t u) q, ← Fin.prod_univ_eq_prod_range (fun u => cz ((t u : ℕ) : ℤ) q) s]
  have := rank_tors_unique_core r s r' s' (fun u => (t u : ℤ)) (fun u => (t' u : ℤ))
    (fun u hu => by have := ht u hu; simp only [Int.natAbs_natCast]; omega)
    (fun u hu => by have := ht' u hu; simp only [Int.natAbs_natCast]; omega)
    (fun u hu => Int.natCast_dvd_natCast.2 (hc u hu)) (fun u hu => Int.natCast_dvd_natCast.2 (hc' u hu)) (by
      intro q hq
      have : NeZero q := ⟨by omega⟩
      rw [← hcount r s t q, ← hcount r' s' t' q]
      exact homCount_congr ((p.symm.trans e).trans p') q)
  simpa using this

/-- the general form with units allowed and the free part written as zeros at the END of the chain: if
`M ≃ ∏_{i<n} ZMod (a i)`, `M' ≃ ∏_{i<n'} ZMod (b i)` for divisibility chains `a`, `b` and `n ≤ n'`, and `M ≃ M'`, then `b`
starts with `n' − n` ones (trivial summands) and continues with `a`. -/
theorem cyclic_decomposition_unique {M M' : Type*} [AddCommGroup M] [AddCommGroup M'] (n n' : ℕ) (hle : n ≤ n')
    (a b : ℕ → ℕ) (ha : ∀ i, a i ∣ a (i + 1)) (hb : ∀ i, b i ∣ b (i + 1))
    (p : M ≃+ (∀ i : Fin n, ZMod (a i))) (p' : M' ≃+ (∀ i : Fin n', ZMod (b i))) (e : M ≃+ M') :
    (∀ i, i < n' - n → b i = 1) ∧ ∀ i, i < n → a i = b (n' - n + i) := by
  have := chain_unique_shift n n' hle (fun i => (a i : ℤ)) (fun i => (b i : ℤ))
    (fun i => Int.natCast_dvd_natCast.2 (ha i)) (fun i => Int.natCast_dvd_natCast.2 (hb i)) (by
      intro q _
      rw [← Fin.prod_univ_eq_prod_range (fun i => cz ((a i : ℕ) : ℤ) q) n,
        ← Fin.prod_univ_eq_prod_range (fun i => cz ((b i : ℕ) : ℤ) q) n',
        ← homCount_pi_zmod (fun i : Fin n => a i), ← homCount_pi_zmod (fun i : Fin n' => b i)]
      exact homCount_congr ((p.symm.trans e).trans p') q)
  simpa using this

/-- `M = ℤ × ℤ/2 × ℤ/4` (`r = 1`, `t = (2, 4)`): `#Hom(M, ℤ/q) = q · gcd(2, q) · gcd(4, q)`, e.g. `6·2·2 = 24` for `q = 6` -/
example : homCount ((Fin 1 → ℤ) × (∀ u : Fin 2, ZMod (![2, 4] u))) 6 = 24 := by
  rw [homCount_of_presentation 1 2 ![2, 4] (AddEquiv.refl _) 6]
  decide

/-- … and `ℤ × ℤ/2 × ℤ/4` is NOT isomorphic to `ℤ × ℤ/8` or to `ℤ² × ℤ/2 × ℤ/4` -/
example : IsEmpty (((Fin 1 → ℤ) × (∀ u : Fin 2, ZMod ((fun u => if u = 0 then 2 else 4) u.1)))
    ≃+ ((Fin 1 → ℤ) × (∀ u : Fin 1, ZMod ((fun _ => 8) u.1)))) := by
  refine ⟨fun e => ?_⟩
  have := (rank_and_invariant_factors_unique 1 2 1 1 (fun u => if u = 0 then 2 else 4) (fun _ => 8)
    (by intro u _; show 2 ≤ if u = 0 then 2 else 4; split <;> omega) (by intro u _; omega)
    (by intro u hu; have : u = 0 := by omega
        subst this; decide) (by intro u hu; omega)
    (AddEquiv.refl _) (AddEquiv.refl _) e).2.1
  omega

end Yuiv.HomInv
