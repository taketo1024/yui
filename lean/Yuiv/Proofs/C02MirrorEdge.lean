import Yuiv.Proofs.C02MirrorCube
import Yuiv.Proofs.C02MirrorAlg
import Yuiv.Proofs.KhRefBits
/-
The EDGE-WISE TRANSPOSE.  For two circle lists `cs`, `cs'` without repeated circles and
with at most 64 circles each (the reference's `setBit` works on 64-bit masks), and `h = 0`:

    coefficient of the labelling `m'` of `cs'` in  edgeTerms 0 t cs cs' m
      = coefficient of the labelling `flip m` of `cs` in  edgeTerms 0 t cs' cs (flip m'),

where `flip` swaps the labels `1 ↔ X` on every circle (`flipMask r m = 2^r − 1 − m`); a merge read backwards is a
split and vice versa, and `edgeTerms … cs cs' = none ↔ edgeTerms … cs' cs = none`.
-/
namespace Yuiv.C02Mirror
open Yuiv Yuiv.KhRef

abbrev Circ := Array (Array Nat)

/-- position of the circle `x` in the list `cs` (as computed by `Cube.d`) -/
def ix (cs : Circ) (x : Array Nat) : Nat := (cs.findIdx? (fun y => y == x)).getD 0

theorem ix_spec (cs : Circ) (x : Array Nat) (hx : x ∈ cs) : ix cs x < cs.size ∧ cs[ix cs x]! = x := by
  unfold ix
  cases h : cs.findIdx? (fun y => y == x) with
  | none =>
    rw [Array.findIdx?_eq_none_iff] at h
    have := h x hx
    simp at this
  | some i =>
    rw [Array.findIdx?_eq_some_iff_getElem] at h
    obtain ⟨hi, hp, _⟩ := h
    simp only [Option.getD_some]
    refine ⟨hi, ?_⟩
    rw [getElem!_pos cs i hi]
    simpa using hp

theorem ix_getElem (cs : Circ) (hnd : cs.toList.Nodup) (i : Nat) (hi : i < cs.size) : ix cs cs[i]! = i := by
  obtain ⟨h1, h2⟩ := ix_spec cs cs[i]! (getElem!_mem cs i hi)
  generalize ix cs cs[i]! = j at h1 h2 ⊢
  rw [getElem!_pos cs j h1, getElem!_pos cs i hi] at h2
  exact (List.getElem_inj (xs := cs.toList) (h₀ := by simpa using h1) (h₁ := by simpa using hi) hnd).mp
    (by simpa using h2)

/-- swap the labels `1 ↔ X` on all `r` circles -/
def flipMask (r m : Nat) : Nat := 2 ^ r - 1 - m

theorem testBit_flipMask (r m i : Nat) (hm : m < 2 ^ r) :
    (flipMask r m).testBit i = (decide (i < r) && !m.testBit i) := by
  unfold flipMask
  have : 2 ^ r - 1 - m = 2 ^ r - (m + 1) := by omega
  rw [this, Nat.testBit_two_pow_sub_succ hm]

theorem flipMask_lt (r m : Nat) : flipMask r m < 2 ^ r := by
  unfold flipMask
  have : 0 < 2 ^ r := Nat.two_pow_pos r
  omega

theorem flipMask_flipMask (r m : Nat) (hm : m < 2 ^ r) : flipMask r (flipMask r m) = m := by
  unfold flipMask; omega

theorem ix_inj (cs : Circ) (x y : Array Nat) (hx : x ∈ cs) (hy : y ∈ cs) (h : ix cs x = ix cs y) : x = y := by
  rw [← (ix_spec cs x hx).2, ← (ix_spec cs y hy).2, h]

theorem idx_inj (cs : Circ) (hnd : cs.toList.Nodup) (i j : Nat) (hi : i < cs.size) (hj : j < cs.size)
    (h : cs[i]! = cs[j]!) : i = j := by
  rw [← ix_getElem cs hnd i hi, ← ix_getElem cs hnd j hj, h]

def carryStep (cs cs' : Circ) (m : Nat) (m0 i : Nat) : Nat :=
  if cs'.contains cs[i]! then setBit m0 (ix cs' cs[i]!) (m.testBit i) else m0

theorem carry_eq (cs cs' : Circ) (m : Nat) :
    carry cs cs' m = (List.range' 0 cs.size).foldl (carryStep cs cs' m) 0 := rfl

theorem carry_fold (cs cs' : Circ) (m : Nat) (hnd : cs.toList.Nodup) (h64 : cs'.size ≤ 64) :
    ∀ (is : List Nat) (acc : Nat), acc < 2 ^ 64 → (∀ i ∈ is, i < cs.size) → is.Nodup →
      (∀ i ∈ is, cs[i]! ∈ cs' → acc.testBit (ix cs' cs[i]!) = false) →
      (is.foldl (carryStep cs cs' m) acc) < 2 ^ 64 ∧
      ∀ j, (is.foldl (carryStep cs cs' m) acc).testBit j =
        (acc.testBit j || is.any (fun i => cs'.contains cs[i]! && (ix cs' cs[i]! == j) && m.testBit i)) := by
  intro is
  induction is with
  | nil => intro acc h _ _ _; exact ⟨h, fun j => by simp⟩
  | cons i is ih =>
    intro acc hacc hlt hnd' hfresh
    have hi : i < cs.size := hlt i (by simp)
    have hnd2 : is.Nodup := (List.nodup_cons.mp hnd').2
    have hni : i ∉ is := (List.nodup_cons.mp hnd').1
    rw [List.foldl_cons]
    by_cases hc : cs[i]! ∈ cs'
    · have hc' : cs'.contains cs[i]! = true := Array.contains_iff_mem.2 hc
      have hi' := (ix_spec cs' cs[i]! hc).1
      have e : carryStep cs cs' m acc i = setBit acc (ix cs' cs[i]!) (m.testBit i) := by
        unfold carryStep; rw [if_pos hc']
      rw [e]
      have hlt' := setBit_lt acc (ix cs' cs[i]!) (m.testBit i) hacc (by omega)
      have hfresh' : ∀ i2 ∈ is, cs[i2]! ∈ cs' →
          (setBit acc (ix cs' cs[i]!) (m.testBit i)).testBit (ix cs' cs[i2]!) = false := by
        intro i2 hi2 hc2
        rw [testBit_setBit _ _ _ _ hacc (by omega)]
        have hne : ix cs' cs[i2]! ≠ ix cs' cs[i]! := by
          intro heq
          have := ix_inj cs' _ _ hc2 hc heq
          have := idx_inj cs hnd i2 i (hlt i2 (by simp [hi2])) hi this
          subst this
          exact hni hi2
        rw [if_neg hne]
        exact hfresh i2 (by simp [hi2]) hc2
      obtain ⟨r1, r2⟩ := ih _ hlt' (fun x hx => hlt x (by simp [hx])) hnd2 hfresh'
      refine ⟨r1, fun j => ?_⟩
      rw [r2 j, testBit_setBit _ _ _ _ hacc (by omega), List.any_cons, hc']
      by_cases hj : j = ix cs' cs[i]!
      · subst hj
        rw [hfresh i (by simp) hc]
        simp
      · have hb : (ix cs' cs[i]! == j) = false := beq_false_of_ne (fun e => hj e.symm)
        simp [hj, hb]
    · have hc' : cs'.contains cs[i]! = false := by
        cases h : cs'.contains cs[i]!
        · rfl
        · exact absurd (Array.contains_iff_mem.1 h) hc
      have e : carryStep cs cs' m acc i = acc := by unfold carryStep; rw [hc']; rfl
      rw [e]
      obtain ⟨r1, r2⟩ := ih acc hacc (fun x hx => hlt x (by simp [hx])) hnd2
        (fun x hx => hfresh x (by simp [hx]))
      refine ⟨r1, fun j => ?_⟩
      rw [r2 j, List.any_cons, hc']
      simp

theorem carry_spec (cs cs' : Circ) (m : Nat) (hnd : cs.toList.Nodup) (h64 : cs'.size ≤ 64) :
    carry cs cs' m < 2 ^ 64 ∧ ∀ j, (carry cs cs' m).testBit j = true ↔
      ∃ i, i < cs.size ∧ cs[i]! ∈ cs' ∧ ix cs' cs[i]! = j ∧ m.testBit i = true := by
  obtain ⟨r1, r2⟩ := carry_fold cs cs' m hnd h64 (List.range' 0 cs.size) 0 (by omega)
    (by intro i hi; simp [List.mem_range'] at hi; omega) (List.nodup_range' (step := 1) (by omega))
    (by intro i _ _; simp)
  rw [← carry_eq] at r1 r2
  refine ⟨r1, fun j => ?_⟩
  rw [r2 j]
  simp only [Nat.zero_testBit, Bool.false_or, List.any_eq_true, List.mem_range', Bool.and_eq_true, beq_iff_eq,
    Array.contains_iff_mem]
  constructor
  · rintro ⟨i, ⟨k, hk, rfl⟩, ⟨h1, h2⟩, h3⟩
    exact ⟨_, by omega, h1, h2, h3⟩
  · rintro ⟨i, hi, h1, h2, h3⟩
    exact ⟨i, ⟨i, hi, by omega⟩, ⟨h1, h2⟩, h3⟩

structure Pair (cs cs' : Circ) : Prop where
  nd : cs.toList.Nodup
  nd' : cs'.toList.Nodup
  le : cs.size ≤ 64
  le' : cs'.size ≤ 64

theorem Pair.symm {cs cs' : Circ} (h : Pair cs cs') : Pair cs' cs := ⟨h.nd', h.nd, h.le', h.le⟩

/-- the labelling `m'` of `cs'` agrees with the labelling `m` of `cs` on the circles common to both lists -/
def Compat (cs cs' : Circ) (m m' : Nat) : Prop :=
  ∀ i, i < cs.size → cs[i]! ∈ cs' → m'.testBit (ix cs' cs[i]!) = m.testBit i

theorem mem_goneOf (cs cs' : Circ) (i : Nat) : i ∈ goneOf cs cs' ↔ i < cs.size ∧ cs[i]! ∉ cs' := by
  unfold goneOf
  rw [Array.mem_filter, Array.mem_range]
  simp

theorem goneOf_nodup (cs cs' : Circ) : (goneOf cs cs').toList.Nodup := by
  unfold goneOf
  rw [Array.toList_filter]
  apply List.Nodup.filter
  simp [Array.toList_range, List.nodup_range]

theorem carry_at {cs cs' : Circ} (hP : Pair cs cs') (m i : Nat) (hi : i < cs.size) (hc : cs[i]! ∈ cs') :
    (carry cs cs' m).testBit (ix cs' cs[i]!) = m.testBit i := by
  have h := (carry_spec cs cs' m hP.nd hP.le').2 (ix cs' cs[i]!)
  cases hm : m.testBit i
  · cases hb : (carry cs cs' m).testBit (ix cs' cs[i]!)
    · rfl
    · obtain ⟨i2, hi2, hc2, he, hm2⟩ := h.1 hb
      have := idx_inj cs hP.nd i2 i hi2 hi (ix_inj cs' _ _ hc2 hc he)
      subst this
      rw [hm] at hm2; cases hm2
  · exact h.2 ⟨i, hi, hc, rfl, hm⟩

theorem carry_off {cs cs' : Circ} (hP : Pair cs cs') (m j : Nat)
    (hj : ∀ i, i < cs.size → cs[i]! ∈ cs' → ix cs' cs[i]! ≠ j) : (carry cs cs' m).testBit j = false := by
  have h := (carry_spec cs cs' m hP.nd hP.le').2 j
  cases hb : (carry cs cs' m).testBit j
  · rfl
  · obtain ⟨i, hi, hc, he, _⟩ := h.1 hb
    exact absurd he (hj i hi hc)

theorem carry_hi {cs cs' : Circ} (hP : Pair cs cs') (m j : Nat) (hj : cs'.size ≤ j) :
    (carry cs cs' m).testBit j = false :=
  carry_off hP m j (fun i _ hc => by have := (ix_spec cs' cs[i]! hc).1; omega)

theorem pos_cases {cs cs' : Circ} (hP : Pair cs cs') (j : Nat) (hj : j < cs'.size) :
    (∃ i, i < cs.size ∧ cs[i]! ∈ cs' ∧ ix cs' cs[i]! = j) ∨ j ∈ goneOf cs' cs := by
  by_cases h : cs'[j]! ∈ cs
  · left
    obtain ⟨h1, h2⟩ := ix_spec cs cs'[j]! h
    refine ⟨ix cs cs'[j]!, h1, ?_, ?_⟩
    · rw [h2]; exact getElem!_mem cs' j hj
    · rw [h2]; exact ix_getElem cs' hP.nd' j hj
  · right
    exact (mem_goneOf cs' cs j).2 ⟨hj, h⟩

theorem common_not_born {cs cs' : Circ} (i b : Nat) (hc : cs[i]! ∈ cs') (hi : i < cs.size)
    (hb : b ∈ goneOf cs' cs) : ix cs' cs[i]! ≠ b := by
  intro e
  have := ((mem_goneOf cs' cs b).1 hb).2
  rw [← e, (ix_spec cs' cs[i]! hc).2] at this
  exact this (getElem!_mem cs i hi)

theorem eq_iff_of_compat {cs cs' : Circ} (hP : Pair cs cs') {m m' X : Nat} (hm' : m' < 2 ^ cs'.size)
    (hX : X < 2 ^ cs'.size) (hc : Compat cs cs' m X) :
    X = m' ↔ Compat cs cs' m m' ∧ ∀ j ∈ goneOf cs' cs, m'.testBit j = X.testBit j := by
  constructor
  · rintro rfl
    exact ⟨hc, fun _ _ => rfl⟩
  · rintro ⟨h1, h2⟩
    apply Nat.eq_of_testBit_eq
    intro j
    by_cases hj : j < cs'.size
    · rcases pos_cases hP j hj with ⟨i, hi, hci, rfl⟩ | hb
      · rw [hc i hi hci, h1 i hi hci]
      · exact (h2 j hb).symm
    · rw [testBit_of_lt hX (by omega), testBit_of_lt hm' (by omega)]

theorem carry_compat {cs cs' : Circ} (hP : Pair cs cs') (m : Nat) :
    carry cs cs' m < 2 ^ cs'.size ∧ Compat cs cs' m (carry cs cs' m) :=
  ⟨Nat.lt_pow_two_of_testBit _ (carry_hi hP m), fun i hi hc => carry_at hP m i hi hc⟩

/-- writing a label at a born position keeps a labelling of `cs'` in range and compatible with `m`; the targets of the edge map
are `carry` with one (merge) or two (split) such writes -/
theorem setBit_born {cs cs' : Circ} (hP : Pair cs cs') {b : Nat} (hb : b ∈ goneOf cs' cs) {m X : Nat}
    (hX : X < 2 ^ cs'.size) (hC : Compat cs cs' m X) (y : Bool) :
    setBit X b y < 2 ^ cs'.size ∧ Compat cs cs' m (setBit X b y) ∧
      ∀ j, (setBit X b y).testBit j = if j = b then y else X.testBit j := by
  have hbs := ((mem_goneOf cs' cs b).1 hb).1
  have tb := fun j => testBit_setBit X b j y (Nat.lt_of_lt_of_le hX (Nat.pow_le_pow_right (by decide) hP.le'))
    (Nat.lt_of_lt_of_le hbs hP.le')
  refine ⟨Nat.lt_pow_two_of_testBit _ fun j hj => ?_, fun i hi hc => ?_, tb⟩
  · rw [tb, if_neg (by omega), testBit_of_lt hX hj]
  · rw [tb, if_neg (common_not_born i b hc hi hb)]
    exact hC i hi hc

theorem target1 {cs cs' : Circ} (hP : Pair cs cs') {b : Nat} (hb : b ∈ goneOf cs' cs) (m : Nat) (y : Bool) :
    setBit (carry cs cs' m) b y < 2 ^ cs'.size ∧ Compat cs cs' m (setBit (carry cs cs' m) b y) ∧
      (setBit (carry cs cs' m) b y).testBit b = y := by
  obtain ⟨t1, t2, t3⟩ := setBit_born hP hb (carry_compat hP m).1 (carry_compat hP m).2 y
  exact ⟨t1, t2, by rw [t3, if_pos rfl]⟩

theorem target2 {cs cs' : Circ} (hP : Pair cs cs') {b0 b1 : Nat} (hb0 : b0 ∈ goneOf cs' cs)
    (hb1 : b1 ∈ goneOf cs' cs) (hne : b0 ≠ b1) (m : Nat) (y1 y2 : Bool) :
    setBit (setBit (carry cs cs' m) b0 y1) b1 y2 < 2 ^ cs'.size ∧
      Compat cs cs' m (setBit (setBit (carry cs cs' m) b0 y1) b1 y2) ∧
      (setBit (setBit (carry cs cs' m) b0 y1) b1 y2).testBit b0 = y1 ∧
      (setBit (setBit (carry cs cs' m) b0 y1) b1 y2).testBit b1 = y2 := by
  obtain ⟨u1, u2, u3⟩ := setBit_born hP hb0 (carry_compat hP m).1 (carry_compat hP m).2 y1
  obtain ⟨t1, t2, t3⟩ := setBit_born hP hb1 u1 u2 y2
  exact ⟨t1, t2, by rw [t3, if_neg hne, u3, if_pos rfl], by rw [t3, if_pos rfl]⟩

theorem compat_flip {cs cs' : Circ} (hP : Pair cs cs') (m m' : Nat) (hm : m < 2 ^ cs.size) (hm' : m' < 2 ^ cs'.size)
    (h : Compat cs cs' m m') : Compat cs' cs (flipMask cs'.size m') (flipMask cs.size m) := by
  intro j hj hc
  obtain ⟨h1, h2⟩ := ix_spec cs cs'[j]! hc
  rw [testBit_flipMask _ _ _ hm, testBit_flipMask _ _ _ hm']
  have hmem : cs[ix cs cs'[j]!]! ∈ cs' := by rw [h2]; exact getElem!_mem cs' j hj
  have := h (ix cs cs'[j]!) h1 hmem
  rw [h2, ix_getElem cs' hP.nd' j hj] at this
  rw [this]
  simp only [h1, hj, decide_true]

theorem compat_unflip {cs cs' : Circ} (hP : Pair cs cs') (m m' : Nat) (hm : m < 2 ^ cs.size) (hm' : m' < 2 ^ cs'.size)
    (h : Compat cs' cs (flipMask cs'.size m') (flipMask cs.size m)) : Compat cs cs' m m' := by
  have := compat_flip hP.symm _ _ (flipMask_lt _ _) (flipMask_lt _ _) h
  rwa [flipMask_flipMask _ _ hm, flipMask_flipMask _ _ hm'] at this

/-- coefficient of the labelling `m'` in a list of (labelling, coefficient) terms -/
def coefOf (ts : List (Nat × Int)) (m' : Nat) : Int := ((ts.filter (fun x => x.1 == m')).map (fun x => x.2)).sum

theorem coefOf_filterMap {α : Type} (L : List α) (f : α → Nat) (a : α → Int) (m' : Nat) :
    coefOf (L.filterMap (fun x => if a x != 0 then some (f x, a x) else none)) m'
      = ((L.filter (fun x => f x == m')).map a).sum := by
  unfold coefOf
  induction L with
  | nil => rfl
  | cons x L ih =>
    rw [List.filterMap_cons, List.filter_cons]
    by_cases ha : a x = 0
    · have : (a x != 0) = false := by simp [ha]
      simp only [this, Bool.false_eq_true, if_false]
      rw [ih]
      split
      · simp [ha]
      · rfl
    · have : (a x != 0) = true := by simp [ha]
      simp only [this, if_true, List.filter_cons]
      split
      · simp only [List.map_cons, List.sum_cons]; rw [ih]
      · exact ih

theorem mem_table {α : Type} {L : List α} {f : α → Nat} {a : α → Int} {x : Nat × Int}
    (hx : x ∈ L.filterMap (fun y => if a y != 0 then some (f y, a y) else none)) :
    ∃ y ∈ L, a y ≠ 0 ∧ x = (f y, a y) := by
  obtain ⟨y, hy, hxe⟩ := List.mem_filterMap.1 hx
  split at hxe
  · next hne => exact ⟨y, hy, by simpa using hne, (Option.some.inj hxe).symm⟩
  · cases hxe

/-- the coefficient of `m'` in a term list read off a table: if the target of the row `x` is `m'` exactly when `C` holds
and the row is selected by `sel`, the coefficient is the sum over the selected rows, or `0` if `C` fails -/
theorem coefOf_table {α : Type} (L : List α) (f : α → Nat) (a : α → Int) (m' : Nat) (C : Prop) (sel : α → Bool)
    (key : ∀ x, f x = m' ↔ C ∧ sel x = true) :
    (C → coefOf (L.filterMap (fun x => if a x != 0 then some (f x, a x) else none)) m' = ((L.filter sel).map a).sum) ∧
    (¬ C → coefOf (L.filterMap (fun x => if a x != 0 then some (f x, a x) else none)) m' = 0) := by
  rw [coefOf_filterMap]
  constructor
  · intro hC
    refine congrArg (fun l => (l.map a).sum) (List.filter_congr fun x _ => ?_)
    rw [Bool.eq_iff_iff, beq_iff_eq, key x]
    exact and_iff_right hC
  · intro hC
    rw [List.filter_eq_nil_iff.2 (fun x _ e => hC ((key x).1 (beq_iff_eq.1 e)).1)]
    rfl

theorem edgeTerms_of_merge (h t : Int) {cs cs' : Circ} (m : Nat) {g0 g1 b : Nat}
    (hG : goneOf cs cs' = #[g0, g1]) (hB : goneOf cs' cs = #[b]) :
    edgeTerms h t cs cs' m = some ((prod h t (m.testBit g0) (m.testBit g1)).filterMap
      (fun (ya : Bool × Int) => if ya.2 != 0 then some (setBit (carry cs cs' m) b ya.1, ya.2) else none)) := by
  rw [edgeTerms, hG, hB]
  rfl

theorem edgeTerms_of_split (h t : Int) {cs cs' : Circ} (m : Nat) {g b0 b1 : Nat}
    (hG : goneOf cs cs' = #[g]) (hB : goneOf cs' cs = #[b0, b1]) :
    edgeTerms h t cs cs' m = some ((coprod h t (m.testBit g)).filterMap
      (fun (ya : Bool × Bool × Int) => if ya.2.2 != 0 then
        some (setBit (setBit (carry cs cs' m) b0 ya.1) b1 ya.2.1, ya.2.2) else none)) := by
  rw [edgeTerms, hG, hB]
  rfl

theorem coef_merge {cs cs' : Circ} (hP : Pair cs cs') (h t : Int) (m m' g0 g1 b : Nat) (hm' : m' < 2 ^ cs'.size)
    (hG : goneOf cs cs' = #[g0, g1]) (hB : goneOf cs' cs = #[b]) :
    ∃ ts, edgeTerms h t cs cs' m = some ts ∧
      (Compat cs cs' m m' → coefOf ts m' = prodCoef h t (m.testBit g0) (m.testBit g1) (m'.testBit b)) ∧
      (¬ Compat cs cs' m m' → coefOf ts m' = 0) := by
  refine ⟨_, edgeTerms_of_merge h t m hG hB, ?_⟩
  have key : ∀ y : Bool, setBit (carry cs cs' m) b y = m' ↔ Compat cs cs' m m' ∧ m'.testBit b = y := by
    intro y
    obtain ⟨t1, t2, t3⟩ := target1 hP (b := b) (by rw [hB]; simp) m y
    rw [eq_iff_of_compat hP hm' t1 t2, hB]
    simp only [List.mem_toArray, List.mem_singleton, forall_eq, t3]
  exact coefOf_table (prod h t (m.testBit g0) (m.testBit g1)) (fun ya => setBit (carry cs cs' m) b ya.1)
    (fun ya => ya.2) m' _ (fun ya => ya.1 == m'.testBit b) (fun x => by rw [key x.1, beq_iff_eq, eq_comm])

theorem coef_split {cs cs' : Circ} (hP : Pair cs cs') (h t : Int) (m m' g b0 b1 : Nat) (hm' : m' < 2 ^ cs'.size)
    (hG : goneOf cs cs' = #[g]) (hB : goneOf cs' cs = #[b0, b1]) :
    ∃ ts, edgeTerms h t cs cs' m = some ts ∧
      (Compat cs cs' m m' → coefOf ts m' = coprodCoef h t (m.testBit g) (m'.testBit b0) (m'.testBit b1)) ∧
      (¬ Compat cs cs' m m' → coefOf ts m' = 0) := by
  have hnd := goneOf_nodup cs' cs
  rw [hB] at hnd
  refine ⟨_, edgeTerms_of_split h t m hG hB, ?_⟩
  have key : ∀ y1 y2 : Bool, setBit (setBit (carry cs cs' m) b0 y1) b1 y2 = m' ↔
      Compat cs cs' m m' ∧ m'.testBit b0 = y1 ∧ m'.testBit b1 = y2 := by
    intro y1 y2
    obtain ⟨t1, t2, t3, t4⟩ := target2 hP (b0 := b0) (b1 := b1) (by rw [hB]; simp) (by rw [hB]; simp)
      (by simpa using hnd) m y1 y2
    rw [eq_iff_of_compat hP hm' t1 t2, hB]
    simp only [List.mem_toArray, List.mem_cons, List.not_mem_nil, or_false, forall_eq_or_imp, forall_eq, t3, t4]
  exact coefOf_table (coprod h t (m.testBit g)) (fun ya => setBit (setBit (carry cs cs' m) b0 ya.1) b1 ya.2.1)
    (fun ya => ya.2.2) m' _
    (fun ya => ya.1 == m'.testBit b0 && ya.2.1 == m'.testBit b1)
    (fun x => by rw [key x.1 x.2.1, Bool.and_eq_true, beq_iff_eq, beq_iff_eq, eq_comm, eq_comm (a := x.2.1)])

/-- the two circle lists differ by one merge or one split -/
def edgeOK (cs cs' : Circ) : Bool :=
  ((goneOf cs cs').size == 2 && (goneOf cs' cs).size == 1) || ((goneOf cs cs').size == 1 && (goneOf cs' cs).size == 2)

theorem edgeOK_cases {cs cs' : Circ} (hok : edgeOK cs cs' = true) :
    (∃ g0 g1 b, goneOf cs cs' = #[g0, g1] ∧ goneOf cs' cs = #[b]) ∨
      (∃ g b0 b1, goneOf cs cs' = #[g] ∧ goneOf cs' cs = #[b0, b1]) := by
  unfold edgeOK at hok
  rw [Bool.or_eq_true, Bool.and_eq_true, Bool.and_eq_true, beq_iff_eq, beq_iff_eq, beq_iff_eq, beq_iff_eq] at hok
  rcases hok with ⟨sG, sB⟩ | ⟨sG, sB⟩
  · exact Or.inl ⟨_, _, _, KhRef.eq_of_size_two _ sG, KhRef.eq_of_size_one _ sB⟩
  · exact Or.inr ⟨_, _, _, KhRef.eq_of_size_one _ sG, KhRef.eq_of_size_two _ sB⟩

theorem edgeOK_symm (cs cs' : Circ) : edgeOK cs cs' = edgeOK cs' cs :=
  (Bool.or_comm _ _).trans (congrArg₂ or (Bool.and_comm _ _) (Bool.and_comm _ _))

theorem edgeTerms_isSome (h t : Int) (cs cs' : Circ) (m : Nat) : (edgeTerms h t cs cs' m).isSome = edgeOK cs cs' := by
  unfold edgeTerms edgeOK
  by_cases h1 : ((goneOf cs cs').size == 2 && (goneOf cs' cs).size == 1) = true
  · simp only [h1, if_true, Option.isSome_some, Bool.true_or]
  · by_cases h2 : ((goneOf cs cs').size == 1 && (goneOf cs' cs).size == 2) = true
    · simp only [h1, h2, if_true, Bool.or_true]
      rfl
    · simp only [h1, h2]
      rfl

/-- every term of the edge map is a non-zero row of the table at the labels of the gone circles; its target carries `m` on
the common circles and the labels of the row on the born circles -/
theorem mem_edgeTerms {cs cs' : Circ} (hP : Pair cs cs') (h t : Int) (m : Nat) (ts : List (Nat × Int))
    (he : edgeTerms h t cs cs' m = some ts) (x : Nat × Int) (hx : x ∈ ts) :
    x.1 < 2 ^ cs'.size ∧ Compat cs cs' m x.1 ∧ x.2 ≠ 0 ∧
      ((∃ g0 g1 b, goneOf cs cs' = #[g0, g1] ∧ goneOf cs' cs = #[b] ∧
          (x.1.testBit b, x.2) ∈ prod h t (m.testBit g0) (m.testBit g1)) ∨
        (∃ g b0 b1, goneOf cs cs' = #[g] ∧ goneOf cs' cs = #[b0, b1] ∧
          (x.1.testBit b0, x.1.testBit b1, x.2) ∈ coprod h t (m.testBit g))) := by
  have hok : edgeOK cs cs' = true := by rw [← edgeTerms_isSome h t cs cs' m, he]; rfl
  rcases edgeOK_cases hok with ⟨g0, g1, b, hG, hB⟩ | ⟨g, b0, b1, hG, hB⟩
  · rw [edgeTerms_of_merge h t m hG hB] at he
    cases he
    obtain ⟨ya, hya, hne, rfl⟩ := mem_table hx
    obtain ⟨t1, t2, t3⟩ := target1 hP (b := b) (by rw [hB]; simp) m ya.1
    exact ⟨t1, t2, hne, Or.inl ⟨g0, g1, b, hG, hB, by rw [t3]; exact hya⟩⟩
  · have hnd := goneOf_nodup cs' cs
    rw [hB] at hnd
    rw [edgeTerms_of_split h t m hG hB] at he
    cases he
    obtain ⟨ya, hya, hne, rfl⟩ := mem_table hx
    obtain ⟨t1, t2, t3, t4⟩ := target2 hP (b0 := b0) (b1 := b1) (by rw [hB]; simp) (by rw [hB]; simp)
      (by simpa using hnd) m ya.1 ya.2.1
    exact ⟨t1, t2, hne, Or.inr ⟨g, b0, b1, hG, hB, by rw [t3, t4]; exact hya⟩⟩

theorem transpose_merge {cs cs' : Circ} (hP : Pair cs cs') (t : Int) (m m' : Nat) (hm : m < 2 ^ cs.size)
    (hm' : m' < 2 ^ cs'.size) {g0 g1 b : Nat} (hG : goneOf cs cs' = #[g0, g1]) (hB : goneOf cs' cs = #[b]) :
    ∃ ts ts', edgeTerms 0 t cs cs' m = some ts ∧ edgeTerms 0 t cs' cs (flipMask cs'.size m') = some ts' ∧
      coefOf ts m' = coefOf ts' (flipMask cs.size m) := by
  obtain ⟨ts, e1, c1, c1'⟩ := coef_merge hP 0 t m m' _ _ _ hm' hG hB
  obtain ⟨ts', e2, c2, c2'⟩ := coef_split hP.symm 0 t (flipMask cs'.size m') (flipMask cs.size m) _ _ _
    (flipMask_lt _ _) hB hG
  refine ⟨ts, ts', e1, e2, ?_⟩
  have hg0 : g0 < cs.size := ((mem_goneOf cs cs' _).1 (by rw [hG]; simp)).1
  have hg1 : g1 < cs.size := ((mem_goneOf cs cs' _).1 (by rw [hG]; simp)).1
  have hb : b < cs'.size := ((mem_goneOf cs' cs _).1 (by rw [hB]; simp)).1
  by_cases hC : Compat cs cs' m m'
  · rw [c1 hC, c2 (compat_flip hP m m' hm hm' hC), testBit_flipMask _ _ _ hm', testBit_flipMask _ _ _ hm,
      testBit_flipMask _ _ _ hm, prod_coprod_adjoint']
    simp only [hg0, hg1, hb, decide_true, Bool.true_and]
  · rw [c1' hC, c2' (fun h => hC (compat_unflip hP m m' hm hm' h))]

theorem edge_transpose {cs cs' : Circ} (hP : Pair cs cs') (t : Int) (m m' : Nat) (hm : m < 2 ^ cs.size)
    (hm' : m' < 2 ^ cs'.size) :
    (edgeOK cs cs' = false ∧ edgeTerms 0 t cs cs' m = none ∧ edgeTerms 0 t cs' cs (flipMask cs'.size m') = none) ∨
    ∃ ts ts', edgeTerms 0 t cs cs' m = some ts ∧ edgeTerms 0 t cs' cs (flipMask cs'.size m') = some ts' ∧
      coefOf ts m' = coefOf ts' (flipMask cs.size m) := by
  by_cases hok : edgeOK cs cs' = true
  · right
    rcases edgeOK_cases hok with ⟨g0, g1, b, hG, hB⟩ | ⟨g, b0, b1, hG, hB⟩
    · exact transpose_merge hP t m m' hm hm' hG hB
    · obtain ⟨ts', ts, e2, e1, hc⟩ := transpose_merge hP.symm t (flipMask cs'.size m') (flipMask cs.size m)
        (flipMask_lt _ _) (flipMask_lt _ _) hB hG
      rw [flipMask_flipMask _ _ hm] at e1
      rw [flipMask_flipMask _ _ hm'] at hc
      exact ⟨ts, ts', e1, e2, hc.symm⟩
  · left
    have hok' : edgeOK cs cs' = false := by simpa using hok
    refine ⟨hok', Option.not_isSome_iff_eq_none.1 ?_, Option.not_isSome_iff_eq_none.1 ?_⟩
    · rw [edgeTerms_isSome, hok']; exact Bool.false_ne_true
    · rw [edgeTerms_isSome, ← edgeOK_symm, hok']; exact Bool.false_ne_true

end Yuiv.C02Mirror
