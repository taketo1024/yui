import Yuiv.Model.C10Q
import Yuiv.Proofs.C10
import Mathlib.Algebra.QuadraticAlgebra.Basic
namespace Yuiv.C10.Q
open Yuiv Yuiv.C10 Finset

/-- the ring ℤ[θ], θ² = u + vθ, as Mathlib's `QuadraticAlgebra` -/
abbrev ZK (k : QK) := QuadraticAlgebra ℤ k.u k.v
/-- its fraction field ℚ(θ) (as a ring; no field structure is needed for the statements) -/
abbrev FK (k : QK) := QuadraticAlgebra ℚ (k.u : ℚ) (k.v : ℚ)

def toZ (k : QK) (x : QI) : ZK k := ⟨x.1, x.2⟩
def toF (k : QK) (x : QF) : FK k := ⟨x.1, x.2⟩
def castK (k : QK) (z : ZK k) : FK k := ⟨(z.re : ℚ), (z.im : ℚ)⟩

theorem toZ_inj (k : QK) (x y : QI) : toZ k x = toZ k y ↔ x = y :=
  ⟨fun h => Prod.ext (congrArg QuadraticAlgebra.re h) (congrArg QuadraticAlgebra.im h), fun h => by rw [h]⟩

theorem toF_inj (k : QK) (x y : QF) : toF k x = toF k y ↔ x = y :=
  ⟨fun h => Prod.ext (congrArg QuadraticAlgebra.re h) (congrArg QuadraticAlgebra.im h), fun h => by rw [h]⟩

theorem toZ_add (k : QK) (x y : QI) : toZ k (qadd x y) = toZ k x + toZ k y := by
  ext <;> simp [toZ, qadd]
theorem toZ_mul (k : QK) (x y : QI) : toZ k (qmul k x y) = toZ k x * toZ k y := by
  ext <;> simp [toZ, qmul]
theorem toZ_zero (k : QK) : toZ k (0, 0) = 0 := by ext <;> simp [toZ]
theorem toZ_one (k : QK) : toZ k (1, 0) = 1 := rfl
theorem toZ_norm (k : QK) (x : QI) : QuadraticAlgebra.norm (toZ k x) = qnorm k x := by
  simp [QuadraticAlgebra.norm_def, toZ, qnorm]

theorem toF_add (k : QK) (x y : QF) : toF k (fadd x y) = toF k x + toF k y := by
  ext <;> simp [toF, fadd]
theorem toF_mul (k : QK) (x y : QF) : toF k (fmul k x y) = toF k x * toF k y := by
  ext <;> simp [toF, fmul]
theorem toF_zero (k : QK) : toF k (0, 0) = 0 := by ext <;> simp [toF]
theorem toF_conj (k : QK) (x : QF) : toF k (fconj k x) = star (toF k x) := by
  ext <;> simp [toF, fconj]
theorem toF_norm (k : QK) (x : QF) : QuadraticAlgebra.norm (toF k x) = fnorm k x := by
  simp [QuadraticAlgebra.norm_def, toF, fnorm]
theorem toF_ofQI (k : QK) (x : QI) : toF k (ofQI x) = castK k (toZ k x) := by
  ext <;> simp [toF, ofQI, castK, toZ]

theorem sumLtP_eq (k : QK) (n : Nat) (f : Nat → QI) : toZ k (sumLtP n f) = ∑ i ∈ range n, toZ k (f i) :=
  foldr_range_eq_sum (toZ k) (toZ_zero k) (toZ_add k) n f

theorem sumLtF_eq (k : QK) (n : Nat) (f : Nat → QF) : toF k (sumLtF n f) = ∑ i ∈ range n, toF k (f i) :=
  foldr_range_eq_sum (toF k) (toF_zero k) (toF_add k) n f

theorem hdot_eq (k : QK) (n : Nat) (x y : Nat → QF) :
    toF k (hdot k n x y) = ∑ c ∈ range n, toF k (x c) * star (toF k (y c)) := by
  unfold hdot
  rw [sumLtF_eq]
  exact Finset.sum_congr rfl (fun c _ => by rw [toF_mul, toF_conj])

def toMatrixQ (k : QK) (m n : Nat) (A : MatQ) : Matrix (Fin m) (Fin n) (ZK k) := fun i j => toZ k (entq A i.val j.val)

theorem mulEqQ_iff (k : QK) (m l n : Nat) (P A : MatQ) (B : Nat → Nat → QI) :
    mulEqQ k m l n P A B = true ↔
      toMatrixQ k m l P * toMatrixQ k l n A = (fun i j => toZ k (B i.val j.val) : Matrix (Fin m) (Fin n) (ZK k)) := by
  simp only [mulEqQ, allLt_iff, beq_iff_eq, mulEntQ]
  constructor
  · intro h
    apply Matrix.ext
    intro i j
    rw [Matrix.mul_apply]
    have := congrArg (toZ k) (h i.val i.isLt j.val j.isLt)
    rw [sumLtP_eq] at this
    rw [← this, ← Fin.sum_univ_eq_sum_range (fun t => toZ k (qmul k (entq P i.val t) (entq A t j.val)))]
    exact Finset.sum_congr rfl (fun t _ => by rw [toZ_mul]; rfl)
  · intro h i hi j hj
    have := congrFun (congrFun h ⟨i, hi⟩) ⟨j, hj⟩
    rw [Matrix.mul_apply] at this
    rw [← toZ_inj k, sumLtP_eq, ← this,
      ← Fin.sum_univ_eq_sum_range (fun t => toZ k (qmul k (entq P i t) (entq A t j)))]
    exact Finset.sum_congr rfl (fun t _ => by rw [toZ_mul]; rfl)

/-- `IsHnf` over ℤ[θ]: pivots in the normalised sector, the norm in place of the absolute value -/
structure IsHnfQ (k : QK) (m n : Nat) (H : Nat → Nat → ZK k) (lead : Nat → Nat) : Prop where
  le : ∀ i < m, lead i ≤ n
  zero_left : ∀ i < m, ∀ j < lead i, H i j = 0
  /-- pivots are non-zero and normalised: first sector `re > 0`, `im ≥ 0` -/
  pivot_norm : ∀ i < m, lead i < n → 0 < (H i (lead i)).re ∧ 0 ≤ (H i (lead i)).im
  strict : ∀ i < m, ∀ i' < m, i < i' → lead i < n → lead i < lead i'
  zero_last : ∀ i < m, ∀ i' < m, i < i' → lead i = n → lead i' = n
  below : ∀ i < m, ∀ i' < m, i < i' → lead i < n → H i' (lead i) = 0
  above : ∀ i < m, ∀ i' < i, lead i < n →
    QuadraticAlgebra.norm (H i' (lead i)) < QuadraticAlgebra.norm (H i (lead i))

/-- Gram–Schmidt decomposition over ℚ(θ) w.r.t. the Hermitian form `⟨x, y⟩ = Σ x_c · star y_c` -/
structure IsGSQ (k : QK) (m n : Nat) (B : Nat → Nat → ZK k) (bs mu : Nat → Nat → FK k) : Prop where
  decomp : ∀ i < m, ∀ c < n, castK k (B i c) = bs i c + ∑ j ∈ range i, mu i j * bs j c
  orth : ∀ i < m, ∀ j < i, ∑ c ∈ range n, bs i c * star (bs j c) = 0
  pos : ∀ i < m, 0 < (∑ c ∈ range n, bs i c * star (bs i c)).re ∧ (∑ c ∈ range n, bs i c * star (bs i c)).im = 0

/-- `N(μ_ij) ≤ ρ` and the Lovász condition with constant `α` -/
def IsLLLReducedQ (k : QK) (m n : Nat) (B : Nat → Nat → ZK k) (α ρ : ℚ) : Prop :=
  ∃ bs mu : Nat → Nat → FK k, IsGSQ k m n B bs mu ∧
    (∀ i < m, ∀ j < i, QuadraticAlgebra.norm (mu i j) ≤ ρ) ∧
    (∀ t, 0 < t → t < m →
      (α - QuadraticAlgebra.norm (mu t (t - 1))) * (∑ c ∈ range n, bs (t - 1) c * star (bs (t - 1) c)).re
        ≤ (∑ c ∈ range n, bs t c * star (bs t c)).re)

theorem reducedWithQ_sound (k : QK) (m n : Nat) (B : MatQ) (p q rp rq : Int) (bs mu : MatF)
    (h : reducedWithQ k m n B p q rp rq bs mu = true) :
    IsGSQ k m n (fun i c => toZ k (entq B i c)) (fun i c => toF k (entf bs i c)) (fun i j => toF k (entf mu i j)) ∧
    (∀ i < m, ∀ j < i, QuadraticAlgebra.norm (toF k (entf mu i j)) ≤ (rp : ℚ) / (rq : ℚ)) ∧
    (∀ t, 0 < t → t < m →
      ((p : ℚ) / (q : ℚ) - QuadraticAlgebra.norm (toF k (entf mu t (t - 1))))
        * (∑ c ∈ range n, toF k (entf bs (t - 1) c) * star (toF k (entf bs (t - 1) c))).re
        ≤ (∑ c ∈ range n, toF k (entf bs t c) * star (toF k (entf bs t c))).re) := by
  simp only [reducedWithQ, allLt_iff, Bool.and_eq_true, Bool.or_eq_true, decide_eq_true_eq, beq_iff_eq] at h
  obtain ⟨⟨⟨⟨h1, h2⟩, h3⟩, h4⟩, h5⟩ := h
  have hn : ∀ i, (∑ c ∈ range n, toF k (entf bs i c) * star (toF k (entf bs i c)))
      = toF k (hdot k n (entf bs i) (entf bs i)) := fun i => (hdot_eq k n _ _).symm
  refine ⟨⟨?_, ?_, ?_⟩, ?_, ?_⟩
  · intro i hi c hc
    have := congrArg (toF k) (h1 i hi c hc)
    rw [toF_ofQI, toF_add, sumLtF_eq] at this
    simp only [toF_mul] at this
    exact this
  · intro i hi j hj
    have := congrArg (toF k) (h2 i hi j hj)
    rw [hdot_eq, toF_zero] at this
    exact this
  · intro i hi
    rw [hn i]
    exact ⟨(h3 i hi).1, (h3 i hi).2⟩
  · intro i hi j hj
    rw [toF_norm]
    exact h4 i hi j hj
  · intro t ht0 ht
    rcases h5 t ht with h | h
    · omega
    · rw [hn, hn, toF_norm]
      exact h

end Yuiv.C10.Q
