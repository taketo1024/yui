import Yuiv.Proofs.C11
/-
C11 — the `RowWorker`: primitive specs, the worker invariant `WInv`, and its preservation by
`init`, `traverse` (the BFS on the snapshot) and `update_diff`.  What holds no fuel is specified totally
(`Sat _ False False`); only `travLoop` / `traverse` are `Good` (their fuel is the business of `C11Fuel`).
-/
namespace Yuiv.C11
open Yuiv Res Std

/-- the marks after `status.insert(j, v)`, whatever else of the worker changed -/
theorem mark_insert {w w' : Worker} {j : Nat} {v : Mark} (h : w'.marks = w.marks.insert j v) (j' : Nat) :
    w'.mark j' = if j = j' then v else w.mark j' := by
  simp only [Worker.mark, h, HashMap.getD_insert, beq_iff_eq]

theorem mark_new (i k j : Nat) : (Worker.new i k).mark j = Mark.none := by
  simp [Worker.mark, Worker.new]

/-- `ncand` counts the columns marked `Candidate` -/
def CountInv (w : Worker) : Prop :=
  ∃ C : List Nat, C.Nodup ∧ (∀ j, j ∈ C ↔ w.mark j = Mark.cand) ∧ w.ncand = C.length

theorem CountInv.pos {w : Worker} (h : CountInv w) {j : Nat} (hj : w.mark j = Mark.cand) : w.ncand ≠ 0 := by
  obtain ⟨C, _, hm, hl⟩ := h
  rw [hl]
  exact Nat.ne_of_gt (List.length_pos_of_mem ((hm j).2 hj))

theorem CountInv.none_of_zero {w : Worker} (h : CountInv w) (h0 : w.ncand = 0) (j : Nat) : w.mark j ≠ Mark.cand :=
  fun hj => h.pos hj h0

/-- marks only move towards `Occupied`; nothing else of the worker changes -/
structure Mono (w w' : Worker) : Prop where
  occ : ∀ j, w.mark j = Mark.occ → w'.mark j = Mark.occ
  marked : ∀ j, w.mark j ≠ Mark.none → w'.mark j ≠ Mark.none
  cand : ∀ j, w'.mark j = Mark.cand → w.mark j = Mark.cand
  unmarked : ∀ j, w'.mark j = Mark.none → w.mark j = Mark.none
  row : w'.row = w.row
  k : w'.k = w.k
  chosen : w'.chosen = w.chosen
  ncand0 : w.ncand = 0 → w'.ncand = 0

theorem Mono.refl (w : Worker) : Mono w w :=
  ⟨fun _ h => h, fun _ h => h, fun _ h => h, fun _ h => h, rfl, rfl, rfl, fun h => h⟩

theorem Mono.trans {a b c : Worker} (h1 : Mono a b) (h2 : Mono b c) : Mono a c :=
  ⟨fun j h => h2.occ j (h1.occ j h), fun j h => h2.marked j (h1.marked j h),
   fun j h => h1.cand j (h2.cand j h), fun j h => h1.unmarked j (h2.unmarked j h),
   h2.row.trans h1.row, h2.k.trans h1.k, h2.chosen.trans h1.chosen,
   fun h => h2.ncand0 (h1.ncand0 h)⟩

/-- the effect of `set_occupied(j)` -/
structure OccStep (w w' : Worker) (j : Nat) : Prop where
  mark : ∀ j', w'.mark j' = if j = j' then Mark.occ else w.mark j'
  queue : w'.queue = w.queue
  queued : w'.queued = w.queued
  row : w'.row = w.row
  k : w'.k = w.k
  chosen : w'.chosen = w.chosen
  count : CountInv w'
  ncand0 : w.ncand = 0 → w'.ncand = 0

theorem OccStep.mono {w w' : Worker} {j : Nat} (h : OccStep w w' j) : Mono w w' := by
  refine ⟨?_, ?_, ?_, ?_, h.row, h.k, h.chosen, h.ncand0⟩
  · intro j' hj; rw [h.mark]; split <;> simp [*]
  · intro j' hj; rw [h.mark]; split <;> simp [*]
  · intro j' hj; rw [h.mark] at hj; split at hj <;> simp_all
  · intro j' hj; rw [h.mark] at hj; split at hj <;> simp_all

theorem setOccupied_total (w : Worker) (j : Nat) (hc : CountInv w) :
    Sat (fun w' => OccStep w w' j) False False (w.setOccupied j) := by
  unfold Worker.setOccupied
  by_cases hj : w.mark j = Mark.cand
  · have hpos : w.ncand ≠ 0 := hc.pos hj
    obtain ⟨C, hnd, hm, hl⟩ := hc
    simp only [hj, if_true, hpos, if_false]
    refine ⟨mark_insert rfl, rfl, rfl, rfl, rfl, rfl, ?_, fun h => absurd h hpos⟩
    refine ⟨C.erase j, hnd.erase j, fun j' => ?_, ?_⟩
    · rw [mark_insert rfl, hnd.mem_erase_iff, hm]
      by_cases hjj : j = j'
      · subst hjj; simp
      · simp [hjj, Ne.symm hjj]
    · show w.ncand - 1 = _
      rw [List.length_erase_of_mem ((hm j).2 hj), hl]
  · obtain ⟨C, hnd, hm, hl⟩ := hc
    simp only [hj, if_false]
    refine ⟨mark_insert rfl, rfl, rfl, rfl, rfl, rfl, ⟨C, hnd, fun j' => ?_, hl⟩, fun h => h⟩
    rw [mark_insert rfl, hm]
    by_cases hjj : j = j'
    · subst hjj; simp [hj]
    · simp [hjj]

theorem setCandidate_total (w : Worker) (j : Nat) (hc : CountInv w) (hn : w.mark j = Mark.none) :
    Sat (fun w' =>
      (∀ j', w'.mark j' = if j = j' then Mark.cand else w.mark j') ∧ w'.queue = w.queue ∧ w'.queued = w.queued ∧
      w'.row = w.row ∧ w'.k = w.k ∧ w'.chosen = w.chosen ∧ CountInv w') False False (w.setCandidate j) := by
  obtain ⟨C, hnd, hm, hl⟩ := hc
  unfold Worker.setCandidate
  simp only [hn, if_true]
  refine ⟨mark_insert rfl, rfl, rfl, rfl, rfl, rfl, ?_⟩
  have hjC : j ∉ C := fun h => by simpa [hn] using (hm j).1 h
  refine ⟨j :: C, List.nodup_cons.2 ⟨hjC, hnd⟩, fun j' => ?_, ?_⟩
  · rw [mark_insert rfl, List.mem_cons, hm]
    by_cases hjj : j = j'
    · subst hjj; simp
    · simp [hjj, Ne.symm hjj]
  · show w.ncand + 1 = _
    rw [hl]; rfl

/-- the pivot row of column `j` (in the snapshot) has been traversed completely -/
def Done (s : Str) (P : Pivs) (w : Worker) (j : Nat) : Prop :=
  ∀ i, rowFor P j = some i → ∀ j2 ∈ colsIn s i, w.mark j2 = Mark.occ

/-- the worker invariant relative to the snapshot `P`, as far as the inner loops (`rowLoop`, `initLoop`, `updateDiff`)
keep it; `WInv` adds `Q2` -/
structure WCore (s : Str) (P : Pivs) (w : Worker) : Prop where
  count : CountInv w
  /-- a column still marked `Candidate` is free in the snapshot and a candidate entry of the row -/
  candOk : ∀ j, w.mark j = Mark.cand → hasCol P j = false ∧ isCand s w.row j = true
  /-- every marked pivot column has been queued -/
  q1 : ∀ j, w.mark j ≠ Mark.none → hasCol P j = true → j ∈ w.queued
  q3 : ∀ j ∈ w.queued, hasCol P j = true
  qsub : ∀ j ∈ w.queue, j ∈ w.queued

/-- unless no candidate is left, every queued pivot column is still in the queue or its row is done -/
def Q2 (s : Str) (P : Pivs) (w : Worker) : Prop :=
  w.ncand = 0 ∨ ∀ j ∈ w.queued, j ∈ w.queue ∨ Done s P w j

/-- the worker invariant between two dequeues of `traverse` -/
structure WInv (s : Str) (P : Pivs) (w : Worker) : Prop extends WCore s P w where
  q2 : Q2 s P w

theorem Done.mono {s : Str} {P : Pivs} {w w' : Worker} {j : Nat} (h : Done s P w j) (hm : Mono w w') :
    Done s P w' j := fun i hi j2 hj2 => hm.occ j2 (h i hi j2 hj2)

/-- after a completed traversal that leaves a candidate, the marked set is closed under the pivot rows of the
snapshot: a marked pivot column has been queued, has left the queue, so its row is done -/
theorem WInv.closed {s : Str} {P : Pivs} {w : Worker} (h : WInv s P w) (hP : (P.map (·.2)).Nodup)
    (hn : w.ncand ≠ 0) (hq : w.queue = []) :
    ∀ p ∈ P, w.mark p.2 ≠ Mark.none → ∀ j2 ∈ colsIn s p.1, w.mark j2 = Mark.occ := by
  intro p hp hm
  have hrf : rowFor P p.2 = some p.1 := rowFor_of_mem hP hp
  rcases h.q2 with h0 | hall
  · exact absurd h0 hn
  · rcases hall p.2 (h.q1 p.2 hm (hasCol_of_rowFor hrf)) with hin | hd
    · rw [hq] at hin; cases hin
    · exact hd p.1 hrf

theorem occ_core {s : Str} {P : Pivs} {w w' : Worker} {j : Nat} (h : WCore s P w) (ho : OccStep w w' j)
    (hq : hasCol P j = true → j ∈ w.queued) : WCore s P w' := by
  refine ⟨ho.count, ?_, ?_, ?_, ?_⟩
  · intro j' hj'
    have := h.candOk j' (ho.mono.cand j' hj')
    rw [ho.row]; exact this
  · intro j' h1 h2
    rw [ho.queued]
    by_cases hjj : j = j'
    · subst hjj; exact hq h2
    · apply h.q1 j' _ h2
      rw [ho.mark] at h1; simpa [hjj] using h1
  · intro j' h1; rw [ho.queued] at h1; exact h.q3 j' h1
  · intro j' h1; rw [ho.queue] at h1; rw [ho.queued]; exact h.qsub j' h1

/-- `enqueue(j)` then `set_occupied(j)` for a pivot column `j`, which may be the one column by which the snapshot
`P'` exceeds `P` (`update_diff`; in `init` and `traverse` the snapshot stays) -/
theorem enqueue_occ_core {s : Str} {P P' : Pivs} {w w' : Worker} {j : Nat} (h : WCore s P w)
    (ho : OccStep (w.enqueue j) w' j) (hj : hasCol P' j = true) (hP : ∀ j', j' ≠ j → hasCol P' j' = hasCol P j') :
    WCore s P' w' := by
  have hmk : ∀ j', j' ≠ j → w'.mark j' = w.mark j' := fun j' e => by rw [ho.mark, if_neg (Ne.symm e)]; rfl
  have hocc : w'.mark j = Mark.occ := by rw [ho.mark, if_pos rfl]
  have hqd : w'.queued = j :: w.queued := ho.queued
  refine ⟨ho.count, ?_, ?_, ?_, ?_⟩
  · intro j' hj'
    have e : j' ≠ j := fun e => by rw [e, hocc] at hj'; cases hj'
    rw [hmk j' e] at hj'
    rw [hP j' e, ho.row]
    exact h.candOk j' hj'
  · intro j' h1 h2
    rw [hqd]
    by_cases e : j' = j
    · rw [e]; exact List.mem_cons_self
    · rw [hmk j' e] at h1; rw [hP j' e] at h2
      exact List.mem_cons_of_mem _ (h.q1 j' h1 h2)
  · intro j' h1
    by_cases e : j' = j
    · rw [e]; exact hj
    · rw [hqd] at h1
      rw [hP j' e]
      exact h.q3 j' ((List.mem_cons.1 h1).resolve_left e)
  · intro j' h1
    rw [ho.queue] at h1; rw [hqd]
    rcases List.mem_append.1 h1 with h1 | h1
    · exact List.mem_cons_of_mem _ (h.qsub j' h1)
    · rw [List.mem_singleton.1 h1]; exact List.mem_cons_self

/-- `set_candidate(j)` for a candidate entry of the row in a column free in the snapshot -/
theorem cand_core {s : Str} {P : Pivs} {w w' : Worker} {j : Nat} (h : WCore s P w)
    (hmk : ∀ j', w'.mark j' = if j = j' then Mark.cand else w.mark j') (hqu : w'.queue = w.queue)
    (hqd : w'.queued = w.queued) (hrow : w'.row = w.row) (hcnt : CountInv w')
    (hp : hasCol P j = false) (hcd : isCand s w.row j = true) : WCore s P w' := by
  refine ⟨hcnt, ?_, ?_, ?_, ?_⟩
  · intro j' hj'
    rw [hmk] at hj'
    rw [hrow]
    by_cases e : j = j'
    · rw [← e]; exact ⟨hp, hcd⟩
    · rw [if_neg e] at hj'; exact h.candOk j' hj'
  · intro j' h1 h2
    rw [hqd]
    by_cases e : j = j'
    · rw [← e, hp] at h2; cases h2
    · rw [hmk, if_neg e] at h1; exact h.q1 j' h1 h2
  · intro j' h1; rw [hqd] at h1; exact h.q3 j' h1
  · intro j' h1; rw [hqu] at h1; rw [hqd]; exact h.qsub j' h1

/-- a pivot added to the snapshot in a column the worker has not marked does not concern it -/
theorem WCore.snoc {s : Str} {P : Pivs} {w : Worker} (h : WCore s P w) {p : Nat × Nat} (hp : w.mark p.2 = Mark.none) :
    WCore s (P ++ [p]) w := by
  have hne : ∀ j, w.mark j ≠ Mark.none → j ≠ p.2 := fun j hj e => hj (e ▸ hp)
  refine ⟨h.count, ?_, ?_, ?_, h.qsub⟩
  · intro j hj
    rw [hasCol_snoc_of_ne (hne j (by rw [hj]; simp))]
    exact h.candOk j hj
  · intro j h1 h2
    exact h.q1 j h1 (hasCol_snoc_of_ne (p := p) (hne j h1) ▸ h2)
  · intro j h1; simp [hasCol_snoc, h.q3 j h1]

/-- `D` holds the columns that may be queued without being in the queue; the caller (`travLoop_good`) puts there the
column just taken from the queue and those whose rows are done -/
theorem rowLoop_total (s : Str) (P : Pivs) (D : Nat → Prop) (js : List Nat) : ∀ (w : Worker), WCore s P w →
    (w.ncand = 0 ∨ ∀ j ∈ w.queued, j ∈ w.queue ∨ D j) →
    Sat (fun w' => WCore s P w' ∧ Mono w w' ∧ (w'.ncand = 0 ∨ ∀ j ∈ w'.queued, j ∈ w'.queue ∨ D j) ∧
      (w'.ncand = 0 ∨ ∀ j2 ∈ js, w'.mark j2 = Mark.occ)) False False (rowLoop P js w) := by
  induction js with
  | nil =>
    intro w h hq
    exact ⟨h, Mono.refl w, hq, Or.inr (by simp)⟩
  | cons j2 js ih =>
    intro w h hq
    rw [rowLoop]
    -- the conditional enqueue
    generalize hw1 : (if (hasCol P j2 && !w.isQueued j2) = true then w.enqueue j2 else w) = w1
    have h1 : CountInv w1 ∧ Mono w w1 ∧ (w1.ncand = 0 ∨ ∀ j ∈ w1.queued, j ∈ w1.queue ∨ D j) ∧
        (∀ w2, OccStep w1 w2 j2 → WCore s P w2) := by
      by_cases hc : (hasCol P j2 && !w.isQueued j2) = true
      · rw [if_pos hc] at hw1; subst hw1
        have hc' : hasCol P j2 = true := by simp at hc; exact hc.1
        refine ⟨h.count, ⟨fun _ h => h, fun _ h => h, fun _ h => h, fun _ h => h, rfl, rfl, rfl, fun h => h⟩,
          hq.imp id fun hq j hj => ?_, fun w2 ho => enqueue_occ_core h ho hc' (fun _ _ => rfl)⟩
        rcases List.mem_cons.1 hj with e | hj
        · exact Or.inl (List.mem_append_right _ (List.mem_singleton.2 e))
        · exact (hq j hj).imp (List.mem_append_left _) id
      · rw [if_neg hc] at hw1; subst hw1
        refine ⟨h.count, Mono.refl w, hq, fun w2 ho => occ_core h ho fun hp => ?_⟩
        simp only [Bool.and_eq_true, hp, true_and, Bool.not_eq_true', Bool.not_eq_false] at hc
        simp only [Worker.isQueued] at hc
        simpa using hc
    obtain ⟨hcnt1, hm1, hq1, hcore1⟩ := h1
    apply Sat.bind (setOccupied_total w1 j2 hcnt1)
    intro w2 ho
    have hc2 : WCore s P w2 := hcore1 w2 ho
    have hm2 : Mono w w2 := hm1.trans ho.mono
    have hq2 : w2.ncand = 0 ∨ ∀ j ∈ w2.queued, j ∈ w2.queue ∨ D j := by
      rw [ho.queue, ho.queued]; exact hq1.imp ho.ncand0 id
    by_cases hcand : w2.hasCandidate = true
    · simp only [hcand, Bool.not_true]
      refine (ih w2 hc2 hq2).mono ?_ id id
      rintro w' ⟨hc', hm', hq', hocc'⟩
      refine ⟨hc', hm2.trans hm', hq', hocc'.imp id fun hocc' j hj => ?_⟩
      rcases List.mem_cons.1 hj with e | hj
      · rw [e]; exact hm'.occ _ (by rw [ho.mark, if_pos rfl])
      · exact hocc' j hj
    · have hcand' : w2.hasCandidate = false := by simpa using hcand
      simp only [hcand', Bool.not_false, if_true]
      exact ⟨hc2, hm2, hq2, Or.inl (by simpa [Worker.hasCandidate] using hcand')⟩

theorem travLoop_good (s : Str) (P : Pivs) (fuel : Nat) : ∀ (w : Worker), WInv s P w →
    Good (travLoop s P fuel w) (fun w' => WInv s P w' ∧ Mono w w' ∧ (w'.ncand = 0 ∨ w'.queue = [])) := by
  induction fuel with
  | zero => intro w _; simp [travLoop, Good]
  | succ fuel ih =>
    intro w h
    rw [travLoop]
    cases hq : w.queue with
    | nil => exact ⟨h, Mono.refl w, Or.inr hq⟩
    | cons j q =>
      simp only
      have hjq : j ∈ w.queue := by rw [hq]; exact List.mem_cons_self
      have hcol := h.q3 j (h.qsub j hjq)
      obtain ⟨i2, hi2⟩ := rowFor_of_hasCol hcol
      rw [hi2]
      simp only
      -- the worker after `dequeue`: `j` is queued and no longer in the queue
      have hc0 : WCore s P { w with queue := q } :=
        ⟨h.count, h.candOk, h.q1, h.q3, fun j' hj' => h.qsub j' (by rw [hq]; exact List.mem_cons_of_mem _ hj')⟩
      have hq0 : w.ncand = 0 ∨ ∀ j' ∈ w.queued, j' ∈ q ∨ (j' = j ∨ Done s P w j') :=
        h.q2.imp id fun hall j' hj' => by
          rcases hall j' hj' with hin | hd
          · rw [hq] at hin
            exact (List.mem_cons.1 hin).elim (fun e => Or.inr (Or.inl e)) Or.inl
          · exact Or.inr (Or.inr hd)
      apply Good.bind (.of_total (rowLoop_total s P _ (colsIn s i2) _ hc0 hq0))
      rintro w1 ⟨hc1, hm1, hq1, hocc1⟩
      have hm1' : Mono w w1 :=
        ⟨hm1.occ, hm1.marked, hm1.cand, hm1.unmarked, hm1.row, hm1.k, hm1.chosen, hm1.ncand0⟩
      have hinv1 : WInv s P w1 := by
        refine ⟨hc1, hq1.elim Or.inl fun hq1 => hocc1.imp id fun hocc1 j' hj' => (hq1 j' hj').imp id ?_⟩
        rintro (e | hd)
        · intro i hi j2 hj2
          rw [e, hi2] at hi
          cases hi
          exact hocc1 j2 hj2
        · exact hd.mono hm1'
      refine Good.mono (ih w1 hinv1) ?_
      rintro w' ⟨hinv', hm', hend⟩
      exact ⟨hinv', hm1'.trans hm', hend⟩

theorem traverse_good (s : Str) (P : Pivs) (w : Worker) (h : WInv s P w) :
    Good (traverse s P w) (fun w' => WInv s P w' ∧ Mono w w' ∧ (w'.ncand = 0 ∨ w'.queue = [])) := by
  unfold traverse
  by_cases hc : w.hasCandidate = true
  · simp only [hc, Bool.not_true]
    exact travLoop_good s P _ w h
  · have hc' : w.hasCandidate = false := by simpa using hc
    simp only [hc', Bool.not_false, if_true]
    exact ⟨h, Mono.refl w, Or.inl (by simpa [Worker.hasCandidate] using hc')⟩

theorem minCol_mem (s : Str) : ∀ (l : List Nat) (j : Nat), minCol s l = some j → j ∈ l := by
  intro l
  induction l with
  | nil => intro j h; simp [minCol] at h
  | cons a l ih =>
    intro j h
    rw [minCol] at h
    cases hm : minCol s l with
    | none => rw [hm] at h; simp at h; subst h; exact List.mem_cons_self
    | some j' =>
      rw [hm] at h
      simp only at h
      split at h
      · simp at h; subst h; exact List.mem_cons_of_mem _ (ih j' hm)
      · simp at h; subst h; exact List.mem_cons_self

theorem minCol_none (s : Str) : ∀ (l : List Nat), minCol s l = none → l = [] := by
  intro l h
  cases l with
  | nil => rfl
  | cons a l =>
    rw [minCol] at h
    cases hm : minCol s l with
    | none => rw [hm] at h; simp at h
    | some j' => rw [hm] at h; simp only at h; split at h <;> simp at h

theorem chooseCandidate_cand {s : Str} {w : Worker} {j : Nat} (h : chooseCandidate s w = some j) :
    w.mark j = Mark.cand := by
  have := minCol_mem s _ j h
  simp only [List.mem_filter, Worker.isCandidate, beq_iff_eq] at this
  exact this.2

theorem initLoop_total (s : Str) (P : Pivs) (i : Nat) (js : List Nat) : ∀ (w : Worker), js.Nodup →
    WCore s P w → w.row = i → (∀ j ∈ w.queued, j ∈ w.queue) → (∀ j ∈ js, w.mark j = Mark.none) →
    Sat (fun w' => WCore s P w' ∧ (∀ j ∈ w'.queued, j ∈ w'.queue) ∧
      (∀ j, w.mark j ≠ Mark.none → w'.mark j ≠ Mark.none) ∧ (∀ j ∈ js, w'.mark j ≠ Mark.none) ∧
      w'.row = i ∧ w'.k = w.k ∧ w'.chosen = w.chosen) False False (initLoop s P i js w) := by
  induction js with
  | nil =>
    intro w _ h hr hq _
    exact ⟨h, hq, fun _ h => h, by simp, hr, rfl, rfl⟩
  | cons j js ih =>
    intro w hnd h hr hq hnone
    have hnd' := (List.nodup_cons.1 hnd)
    have hjn : w.mark j = Mark.none := hnone j List.mem_cons_self
    rw [initLoop]
    -- common continuation
    have cont : ∀ w2 : Worker, WCore s P w2 → w2.row = i → (∀ j' ∈ w2.queued, j' ∈ w2.queue) →
        (∀ j', j ≠ j' → w2.mark j' = w.mark j') → w2.mark j ≠ Mark.none →
        w2.k = w.k → w2.chosen = w.chosen →
        Sat (fun w' => WCore s P w' ∧ (∀ j ∈ w'.queued, j ∈ w'.queue) ∧
          (∀ j, w.mark j ≠ Mark.none → w'.mark j ≠ Mark.none) ∧ (∀ j' ∈ j :: js, w'.mark j' ≠ Mark.none) ∧
          w'.row = i ∧ w'.k = w.k ∧ w'.chosen = w.chosen) False False (initLoop s P i js w2) := by
      intro w2 hc2 hr2 hq2 hmk2 hj2 hk2 hch2
      have hnone2 : ∀ j' ∈ js, w2.mark j' = Mark.none := by
        intro j' hj'
        rw [hmk2 j' (fun e => hnd'.1 (e ▸ hj'))]
        exact hnone j' (List.mem_cons_of_mem _ hj')
      refine (ih w2 hnd'.2 hc2 hr2 hq2 hnone2).mono ?_ id id
      rintro w' ⟨hc', hq', hmk', hall', hr', hk', hch'⟩
      refine ⟨hc', hq', ?_, ?_, hr', hk'.trans hk2, hch'.trans hch2⟩
      · intro j' hj'
        apply hmk'
        by_cases e : j = j'
        · subst e; exact hj2
        · rw [hmk2 j' e]; exact hj'
      · intro j' hj'
        rcases List.mem_cons.1 hj' with e | hj'
        · subst e; exact hmk' _ hj2
        · exact hall' j' hj'
    by_cases hp : hasCol P j = true
    · simp only [hp, if_true]
      apply Sat.bind (setOccupied_total (w.enqueue j) j h.count)
      intro w2 ho
      have hc2 : WCore s P w2 := enqueue_occ_core h ho hp (fun _ _ => rfl)
      apply cont w2 hc2 (by rw [ho.row]; exact hr)
      · intro j' hj'
        rw [ho.queued] at hj'; rw [ho.queue]
        rcases List.mem_cons.1 hj' with e | hj'
        · subst e; exact List.mem_append_right _ (by simp)
        · exact List.mem_append_left _ (hq j' hj')
      · intro j' e; rw [ho.mark, if_neg e]; rfl
      · rw [ho.mark]; simp
      · rw [ho.k]; rfl
      · rw [ho.chosen]; rfl
    · have hp' : hasCol P j = false := by simpa using hp
      simp only [hp', Bool.false_eq_true, if_false]
      by_cases hcd : isCand s i j = true
      · simp only [hcd, if_true]
        apply Sat.bind (setCandidate_total w j h.count hjn)
        rintro w2 ⟨hmk, hqu, hqd, hrow, hk, hch, hcnt⟩
        have hc2 : WCore s P w2 := cand_core h hmk hqu hqd hrow hcnt hp' (hr ▸ hcd)
        apply cont w2 hc2 (by rw [hrow]; exact hr)
        · intro j' hj'; rw [hqd] at hj'; rw [hqu]; exact hq j' hj'
        · intro j' e; rw [hmk, if_neg e]
        · rw [hmk]; simp
        · exact hk
        · exact hch
      · simp only [hcd, Bool.false_eq_true, if_false]
        apply Sat.bind (setOccupied_total w j h.count)
        intro w2 ho
        have hc2 : WCore s P w2 := occ_core h ho (fun hh => by rw [hp'] at hh; simp at hh)
        apply cont w2 hc2 (by rw [ho.row]; exact hr)
        · intro j' hj'; rw [ho.queued] at hj'; rw [ho.queue]; exact hq j' hj'
        · intro j' e; rw [ho.mark, if_neg e]
        · rw [ho.mark]; simp
        · exact ho.k
        · exact ho.chosen

/-- every column of the worker's row is marked -/
def RowMarked (s : Str) (w : Worker) : Prop := ∀ j ∈ colsIn s w.row, w.mark j ≠ Mark.none

theorem new_core (s : Str) (P : Pivs) (i k : Nat) : WCore s P (Worker.new i k) := by
  refine ⟨⟨[], List.nodup_nil, ?_, rfl⟩, ?_, ?_, ?_, ?_⟩
  · intro j; simp [mark_new]
  · intro j h; rw [mark_new] at h; simp at h
  · intro j h; rw [mark_new] at h; simp at h
  · intro j h; simp [Worker.new] at h
  · intro j h; simp [Worker.new] at h

theorem init_total (s : Str) (hwf : s.WF) (P : Pivs) (i : Nat) :
    Sat (fun w => WInv s P w ∧ RowMarked s w ∧ w.row = i ∧ w.k = P.length ∧ w.chosen = none) False False
      (Worker.init s P i) := by
  unfold Worker.init
  refine (initLoop_total s P i (colsIn s i) (Worker.new i P.length) (hwf.nodup i) (new_core s P i _) rfl
    (by intro j h; simp [Worker.new] at h) (fun j _ => mark_new _ _ _)).mono ?_ id id
  rintro w ⟨hc, hq, _, hall, hr, hk, hch⟩
  refine ⟨⟨hc, Or.inr (fun j hj => Or.inl (hq j hj))⟩, ?_, hr, hk, hch⟩
  intro j hj
  rw [hr] at hj
  exact hall j hj

theorem rowFor_snoc_of_hasCol {P : Pivs} {p : Nat × Nat} {j : Nat} (h : hasCol P j = true) :
    rowFor (P ++ [p]) j = rowFor P j := by
  obtain ⟨i, hi⟩ := rowFor_of_hasCol h
  rw [hi]; exact rowFor_append_left hi


theorem Done.snoc {s : Str} {P : Pivs} {w w' : Worker} {p : Nat × Nat} {j : Nat} (h : Done s P w j)
    (hm : Mono w w') (hc : hasCol P j = true) : Done s (P ++ [p]) w' j := by
  intro i hi j2 hj2
  rw [rowFor_snoc_of_hasCol hc] at hi
  exact hm.occ j2 (h i hi j2 hj2)

/-- either no new pivot touches a marked column and nothing happens (the commit may go ahead), or the queue has grown
(`should_retry`) -/
theorem updateDiff_total (s : Str) (N : List (Nat × Nat)) : ∀ (P : Pivs) (w : Worker), WCore s P w →
    (∀ j ∈ w.queued, j ∈ w.queue ∨ Done s P w j) →
    Sat (fun w' => WCore s (P ++ N) w' ∧
      (∀ j ∈ w'.queued, j ∈ w'.queue ∨ Done s (P ++ N) w' j) ∧ Mono w w' ∧
      ((w' = w ∧ ∀ p ∈ N, w.mark p.2 = Mark.none) ∨ (N ≠ [] ∧ w.queue.length < w'.queue.length)))
      False False (updateDiff N w) := by
  induction N with
  | nil =>
    intro P w h hq
    simp only [updateDiff, List.append_nil]
    exact ⟨h, hq, Mono.refl w, Or.inl ⟨rfl, by simp⟩⟩
  | cons p N ih =>
    intro P w h hq
    obtain ⟨i', j'⟩ := p
    rw [updateDiff]
    have happ : P ++ (i', j') :: N = (P ++ [(i', j')]) ++ N := by simp
    rw [happ]
    by_cases hmk : (w.isCandidate j' || w.isOccupied j') = true
    · simp only [hmk, if_true]
      apply Sat.bind (setOccupied_total (w.enqueue j') j' h.count)
      intro w2 ho
      have hm2 : Mono w w2 :=
        ⟨ho.mono.occ, ho.mono.marked, ho.mono.cand, ho.mono.unmarked, ho.mono.row, ho.mono.k, ho.mono.chosen,
         ho.mono.ncand0⟩
      have hqd2 : w2.queued = j' :: w.queued := ho.queued
      have hqu2 : w2.queue = w.queue ++ [j'] := ho.queue
      have hc2 : WCore s (P ++ [(i', j')]) w2 :=
        enqueue_occ_core h ho (by simp [hasCol_snoc]) (fun j e => hasCol_snoc_of_ne e)
      have hq2 : ∀ j ∈ w2.queued, j ∈ w2.queue ∨ Done s (P ++ [(i', j')]) w2 j := by
        intro j hj
        rw [hqd2] at hj; rw [hqu2]
        rcases List.mem_cons.1 hj with e | hj
        · subst e; exact Or.inl (List.mem_append_right _ (by simp))
        · rcases hq j hj with hin | hd
          · exact Or.inl (List.mem_append_left _ hin)
          · exact Or.inr (hd.snoc hm2 (h.q3 j hj))
      refine (ih (P ++ [(i', j')]) w2 hc2 hq2).mono ?_ id id
      rintro w' ⟨hc', hq', hm', hd'⟩
      have hl2 : w.queue.length < w2.queue.length := by rw [hqu2, List.length_append]; exact Nat.lt_succ_self _
      refine ⟨hc', hq', hm2.trans hm', Or.inr ⟨List.cons_ne_nil _ _, ?_⟩⟩
      rcases hd' with ⟨e, _⟩ | ⟨_, hlt⟩
      · rw [e]; exact hl2
      · exact Nat.lt_trans hl2 hlt
    · simp only [hmk, Bool.false_eq_true, if_false]
      have hnone : w.mark j' = Mark.none := by
        simp only [Worker.isCandidate, Worker.isOccupied, Bool.or_eq_true, beq_iff_eq, not_or] at hmk
        cases hh : w.mark j' with
        | none => rfl
        | cand => exact absurd hh hmk.1
        | occ => exact absurd hh hmk.2
      have hc2 : WCore s (P ++ [(i', j')]) w := h.snoc hnone
      have hq2 : ∀ j ∈ w.queued, j ∈ w.queue ∨ Done s (P ++ [(i', j')]) w j := by
        intro j hj
        rcases hq j hj with hin | hd
        · exact Or.inl hin
        · exact Or.inr (hd.snoc (Mono.refl w) (h.q3 j hj))
      refine (ih (P ++ [(i', j')]) w hc2 hq2).mono ?_ id id
      rintro w' ⟨hc', hq', hm', hd'⟩
      refine ⟨hc', hq', hm', hd'.imp (fun ⟨e, hall⟩ => ⟨e, ?_⟩) (fun ⟨_, hlt⟩ => ⟨List.cons_ne_nil _ _, hlt⟩)⟩
      intro p hp
      rcases List.mem_cons.1 hp with hp | hp
      · subst hp; exact hnone
      · exact hall p hp

end Yuiv.C11
