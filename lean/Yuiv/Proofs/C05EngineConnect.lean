import Yuiv.Proofs.C05EngineGraph
/-
C05 (engine) — `TngComplex::connect` of the MODEL (hence `make_x`, `append`), in ONE pass over its nested loops: each
loop has one specification that carries vertices, edges, `WF`, `dim` and `base` together (`addProductEdges_spec`: the edges
of one product vertex; `connectEdges_spec`, `connectVertices_spec`: one round; `ConnInv`: the invariant of the outer loop
over the rounds).  Read off `ConnInv`: `WF` of the product, its vertex list, soundness (every edge is one of the product
edges `D(f, 1)`, `±D(1, g)`) and completeness (every non-zero product edge is there).  Model-level facts, no algebra.
-/
namespace Yuiv.C05.Engine
open Yuiv.C05.Tng

variable {E : Type}

theorem addVertex_ok (cx cx' : Cx E) (k : TKey) (t : Tng) (h : cx.addVertex k t = .ok cx') :
    k ∉ cx.verts.map (·.1) ∧ cx' = { cx with verts := cx.verts ++ [(k, t)] } := by
  unfold Cx.addVertex at h
  split at h
  · cases h
  · rename_i hk
    cases h
    exact ⟨(hasKey_false_iff cx k).1 (by simpa using hk), rfl⟩

theorem addEdge_ok (ops : EdgeOps E) (cx cx' : Cx E) (k l : TKey) (f : E) (h : cx.addEdge ops k l f = .ok cx') :
    k ∈ cx.verts.map (·.1) ∧ l ∈ cx.verts.map (·.1) ∧ (k, l) ∉ cx.edges.map (·.1) ∧ ops.isZero f = false ∧
      cx' = { cx with edges := cx.edges ++ [((k, l), f)] } := by
  unfold Cx.addEdge at h
  split at h
  · cases h
  · rename_i hkl
    split at h
    · cases h
    · rename_i hnew
      split at h
      · cases h
      · rename_i hz
        cases h
        simp only [Bool.or_eq_true, Bool.not_eq_eq_eq_not, Bool.not_true, not_or, Bool.not_eq_false] at hkl
        refine ⟨(hasKey_iff cx k).1 hkl.1, (hasKey_iff cx l).1 hkl.2, ?_, by simpa using hz, rfl⟩
        rw [← edge?_isSome_iff]
        simpa using hnew

theorem wf_addVertex (ops : EdgeOps E) (cx cx' : Cx E) (k : TKey) (t : Tng) (hwf : WF ops cx)
    (h : cx.addVertex k t = .ok cx') : WF ops cx' := by
  obtain ⟨hk', rfl⟩ := addVertex_ok cx cx' k t h
  refine ⟨?_, hwf.edges, ?_, hwf.deg, hwf.nonzero⟩
  · rw [List.map_append, List.map_cons, List.map_nil, ← List.concat_eq_append]
    exact hwf.keys.concat hk'
  · intro e he
    obtain ⟨h1, h2⟩ := hwf.ends e he
    simp only [List.map_append, List.mem_append]
    exact ⟨.inl h1, .inl h2⟩

theorem wf_addEdge (ops : EdgeOps E) (cx cx' : Cx E) (k l : TKey) (f : E) (hwf : WF ops cx)
    (hdeg : l.weight = k.weight + 1) (h : cx.addEdge ops k l f = .ok cx') : WF ops cx' := by
  obtain ⟨hk, hl, hnew', hz, rfl⟩ := addEdge_ok ops cx cx' k l f h
  refine ⟨hwf.keys, ?_, ?_, ?_, ?_⟩
  · rw [List.map_append, List.map_cons, List.map_nil, ← List.concat_eq_append]
    exact hwf.edges.concat hnew'
  · intro e he
    rcases List.mem_append.1 he with he | he
    · exact hwf.ends e he
    · simp at he; subst he; exact ⟨hk, hl⟩
  · intro e he
    rcases List.mem_append.1 he with he | he
    · exact hwf.deg e he
    · simp at he; subst he; exact hdeg
  · intro e he
    rcases List.mem_append.1 he with he | he
    · exact hwf.nonzero e he
    · simp at he; subst he; exact hz

theorem connectVertexStep_ok (left right cx cx' : Cx E) (kl : TKey × TKey)
    (h : connectVertexStep left right cx kl = .ok cx') : ∃ vw, cx.addVertex (kl.1.append kl.2) vw = .ok cx' := by
  unfold connectVertexStep at h
  split at h
  · split at h
    · exact ⟨_, h⟩
    · cases h
    · cases h
  · cases h

theorem connectEdgeStep_ok (ops : EdgeOps E) (left right cx cx' : Cx E) (kl : TKey × TKey)
    (h : connectEdgeStep ops left right cx kl = .ok cx') :
    ∃ v0 w0 es, left.tng? kl.1 = some v0 ∧ right.tng? kl.2 = some w0 ∧
      productEdges ops left right kl.1 kl.2 v0 w0 = .ok es ∧ foldRes (addProductEdge ops) es cx = .ok cx' := by
  unfold connectEdgeStep at h
  split at h
  · rename_i v0 w0 hv hw
    split at h
    · rename_i es hes
      exact ⟨v0, w0, es, hv, hw, hes, h⟩
    · cases h
    · cases h
  · cases h

/-- the sign rule of `connect_edges`: `(−1)^{weight(k0) − left.deg_shift.0}` is `−1` -/
def signNeg (left : Cx E) (k0 : TKey) : Bool := ((k0.weight : Int) - left.dh) % 2 != 0

theorem productEdges_ok (ops : EdgeOps E) (left right : Cx E) (k0 l0 : TKey) (v0 w0 : Tng)
    (es : List ((TKey × TKey) × E)) (h : productEdges ops left right k0 l0 v0 w0 = .ok es) :
    ∃ e1 e2,
      mapMRes (fun (e : (TKey × TKey) × E) =>
        match ops.hcompL e.2 w0 with
        | .ok g => .ok ((k0.append l0, e.1.2.append l0), g)
        | .panic => .panic
        | .err => .err) (left.edges.filter (fun e => e.1.1 = k0)) = .ok e1 ∧
      mapMRes (fun (e : (TKey × TKey) × E) =>
        match ops.hcompR (signNeg left k0) e.2 v0 with
        | .ok g => .ok ((k0.append l0, k0.append e.1.2), g)
        | .panic => .panic
        | .err => .err) (right.edges.filter (fun e => e.1.1 = l0)) = .ok e2 ∧
      es = e1 ++ e2 := by
  unfold productEdges at h
  simp only at h
  split at h
  · rename_i e1 e2 h1 h2
    cases h
    exact ⟨e1, e2, h1, h2, rfl⟩
  · cases h
  · cases h
  · cases h

theorem productEdges_mem (ops : EdgeOps E) (left right : Cx E) (k0 l0 : TKey) (v0 w0 : Tng)
    (es : List ((TKey × TKey) × E)) (h : productEdges ops left right k0 l0 v0 w0 = .ok es)
    (e : (TKey × TKey) × E) (he : e ∈ es) :
    (∃ a ∈ left.edges, a.1.1 = k0 ∧ ∃ g, ops.hcompL a.2 w0 = .ok g ∧ e = ((k0.append l0, a.1.2.append l0), g)) ∨
    (∃ a ∈ right.edges, a.1.1 = l0 ∧ ∃ g, ops.hcompR (signNeg left k0) a.2 v0 = .ok g ∧
      e = ((k0.append l0, k0.append a.1.2), g)) := by
  obtain ⟨e1, e2, h1, h2, rfl⟩ := productEdges_ok ops left right k0 l0 v0 w0 es h
  rcases List.mem_append.1 he with he | he
  · obtain ⟨a, ha, hfa⟩ := mapMRes_ok_mem _ _ _ h1 e he
    obtain ⟨ha1, ha2⟩ := List.mem_filter.1 ha
    rcases hg : ops.hcompL a.2 w0 with g | _ | _
    · simp only [hg, Res.ok.injEq] at hfa
      exact .inl ⟨a, ha1, by simpa using ha2, g, hg, hfa.symm⟩
    · simp [hg] at hfa
    · simp [hg] at hfa
  · obtain ⟨a, ha, hfa⟩ := mapMRes_ok_mem _ _ _ h2 e he
    obtain ⟨ha1, ha2⟩ := List.mem_filter.1 ha
    rcases hg : ops.hcompR (signNeg left k0) a.2 v0 with g | _ | _
    · simp only [hg, Res.ok.injEq] at hfa
      exact .inr ⟨a, ha1, by simpa using ha2, g, hg, hfa.symm⟩
    · simp [hg] at hfa
    · simp [hg] at hfa

theorem productEdges_deg (ops : EdgeOps E) (left right : Cx E) (hl : WF ops left) (hr : WF ops right)
    (k0 l0 : TKey) (v0 w0 : Tng) (es : List ((TKey × TKey) × E))
    (h : productEdges ops left right k0 l0 v0 w0 = .ok es) : ∀ e ∈ es, e.1.2.weight = e.1.1.weight + 1 := by
  intro e he
  rcases productEdges_mem ops left right k0 l0 v0 w0 es h e he with ⟨a, ha, hk, g, _, rfl⟩ | ⟨a, ha, hk, g, _, rfl⟩
  · have := hl.deg a ha
    rw [hk] at this
    simp only [weight_append]
    omega
  · have := hr.deg a ha
    rw [hk] at this
    simp only [weight_append]
    omega

/-- the key `k + l` of the product vertex of the pair `(k, l)` -/
def pkey (p : TKey × TKey) : TKey := p.1.append p.2

/-- `b'` has the `dim` and `base` of `b` (what the loops of `connect` never touch) -/
def SameMeta (b b' : Cx E) : Prop := b'.dim = b.dim ∧ b'.base = b.base

theorem SameMeta.trans {a b c : Cx E} (h1 : SameMeta a b) (h2 : SameMeta b c) : SameMeta a c :=
  ⟨h2.1.trans h1.1, h2.2.trans h1.2⟩

theorem addProductEdges_spec (ops : EdgeOps E) : ∀ (es : List ((TKey × TKey) × E)) (b b' : Cx E),
    foldRes (addProductEdge ops) es b = .ok b' →
      SameMeta b b' ∧ b'.verts = b.verts ∧ (∀ e ∈ b.edges, e ∈ b'.edges) ∧ (∀ e ∈ b'.edges, e ∈ b.edges ∨ e ∈ es) ∧
      (∀ e ∈ es, b.hasKey e.1.2 = true → ops.isZero e.2 = false → e ∈ b'.edges) ∧
      (WF ops b → (∀ e ∈ es, e.1.2.weight = e.1.1.weight + 1) → WF ops b')
  | [], b, b', h => by
    simp [foldRes] at h; subst h
    exact ⟨⟨rfl, rfl⟩, rfl, fun e he => he, fun e he => .inl he, by simp, fun w _ => w⟩
  | e :: es, b, b', h => by
    unfold foldRes at h
    rcases hf : addProductEdge ops b e with b1 | _ | _
    · simp only [hf] at h
      obtain ⟨hmeta, hv, hm, hs, hc, hw⟩ := addProductEdges_spec ops es b1 b' h
      have hw' : WF ops b1 → (∀ x ∈ e :: es, x.1.2.weight = x.1.1.weight + 1) → WF ops b' :=
        fun w hd => hw w (fun x hx => hd x (List.mem_cons_of_mem _ hx))
      unfold addProductEdge at hf
      split at hf
      · rename_i hcond
        have hw1 : WF ops b → e.1.2.weight = e.1.1.weight + 1 → WF ops b1 := fun w hd => wf_addEdge ops b b1 _ _ _ w hd hf
        obtain ⟨_, _, _, _, rfl⟩ := addEdge_ok ops b b1 _ _ _ hf
        refine ⟨hmeta, hv, fun x hx => hm x (List.mem_append_left _ hx), ?_, ?_,
          fun w hd => hw' (hw1 w (hd e List.mem_cons_self)) hd⟩
        · intro x hx
          rcases hs x hx with h1 | h1
          · rcases List.mem_append.1 h1 with h2 | h2
            · exact .inl h2
            · simp only [List.mem_singleton] at h2
              exact .inr (h2 ▸ List.mem_cons_self)
          · exact .inr (List.mem_cons_of_mem _ h1)
        · intro x hx hk hz
          rcases List.mem_cons.1 hx with rfl | hx
          · exact hm _ (List.mem_append_right _ (by simp))
          · exact hc x hx hk hz
      · rename_i hcond
        cases hf
        refine ⟨hmeta, hv, hm, fun x hx => (hs x hx).imp id (List.mem_cons_of_mem _), ?_, hw'⟩
        intro x hx hk hz
        rcases List.mem_cons.1 hx with rfl | hx
        · exfalso; apply hcond; simp [hk, hz]
        · exact hc x hx hk hz
    · simp [hf] at h
    · simp [hf] at h

/-- `e` is a product edge: one of the edges `productEdges` computes for some pair of vertices -/
def PE (ops : EdgeOps E) (left right : Cx E) (e : (TKey × TKey) × E) : Prop :=
  ∃ k0 l0 v0 w0 es, left.tng? k0 = some v0 ∧ right.tng? l0 = some w0 ∧
    productEdges ops left right k0 l0 v0 w0 = .ok es ∧ e ∈ es

/-- the pair has been handled as a source: all its product edges with an existing target (w.r.t. `keys`) and a
non-zero label are in `b` -/
def Done (ops : EdgeOps E) (left right : Cx E) (keys : TKey → Bool) (b : Cx E) (pr : TKey × TKey) : Prop :=
  ∃ v0 w0 es, left.tng? pr.1 = some v0 ∧ right.tng? pr.2 = some w0 ∧
    productEdges ops left right pr.1 pr.2 v0 w0 = .ok es ∧
    ∀ e ∈ es, keys e.1.2 = true → ops.isZero e.2 = false → e ∈ b.edges

theorem connectEdgeStep_spec (ops : EdgeOps E) (left right b b' : Cx E) (pr : TKey × TKey)
    (h : connectEdgeStep ops left right b pr = .ok b') :
    SameMeta b b' ∧ b'.verts = b.verts ∧ (∀ e ∈ b.edges, e ∈ b'.edges) ∧ (∀ e ∈ b'.edges, e ∈ b.edges ∨ PE ops left right e) ∧
    Done ops left right b.hasKey b' pr ∧ (WF ops left → WF ops right → WF ops b → WF ops b') := by
  obtain ⟨v0, w0, es, hv, hw, hes, hfold⟩ := connectEdgeStep_ok ops left right b b' pr h
  obtain ⟨h0, h1, h2, h3, h4, h5⟩ := addProductEdges_spec ops es b b' hfold
  exact ⟨h0, h1, h2, fun e he => (h3 e he).imp id (fun hm => ⟨_, _, v0, w0, es, hv, hw, hes, hm⟩),
    ⟨v0, w0, es, hv, hw, hes, h4⟩, fun wl wr w => h5 w (productEdges_deg ops left right wl wr _ _ _ _ es hes)⟩

theorem hasKey_congr (a b : Cx E) (h : a.verts = b.verts) : a.hasKey = b.hasKey := by
  funext k; unfold Cx.hasKey Cx.tng?; rw [h]

theorem connectEdges_spec (ops : EdgeOps E) (left right cx cx' : Cx E) (j : Int)
    (h : connectEdges ops left right j cx = .ok cx') :
    SameMeta cx cx' ∧ cx'.verts = cx.verts ∧ (∀ e ∈ cx.edges, e ∈ cx'.edges) ∧
    (∀ e ∈ cx'.edges, e ∈ cx.edges ∨ PE ops left right e) ∧
    (∀ pr ∈ collectKeys left right j, cx.hasKey (pkey pr) = true → Done ops left right cx.hasKey cx' pr) ∧
    (WF ops left → WF ops right → WF ops cx → WF ops cx') := by
  unfold connectEdges at h
  have key := foldRes_prefix
    (fun (b : Cx E) (pre : List (TKey × TKey)) => SameMeta cx b ∧ b.verts = cx.verts ∧ (∀ e ∈ cx.edges, e ∈ b.edges) ∧
      (∀ e ∈ b.edges, e ∈ cx.edges ∨ PE ops left right e) ∧ (∀ pr ∈ pre, Done ops left right cx.hasKey b pr) ∧
      (WF ops left → WF ops right → WF ops cx → WF ops b))
    (by
      intro b pre a _ b' _ ⟨h0', hv, hm, hs, hd, hw⟩ hstep
      obtain ⟨h0, h1, h2, h3, h4, h5⟩ := connectEdgeStep_spec ops left right b b' a hstep
      refine ⟨h0'.trans h0, h1.trans hv, fun e he => h2 e (hm e he), ?_, ?_, fun wl wr w => h5 wl wr (hw wl wr w)⟩
      · intro e he
        rcases h3 e he with h5 | h5
        · exact hs e h5
        · exact .inr h5
      · intro pr hpr
        rcases List.mem_append.1 hpr with hp | hp
        · obtain ⟨v0, w0, es, a1, a2, a3, a4⟩ := hd pr hp
          exact ⟨v0, w0, es, a1, a2, a3, fun e he hk hz => h2 e (a4 e he hk hz)⟩
        · simp only [List.mem_singleton] at hp
          subst hp
          rw [hasKey_congr b cx hv] at h4
          exact h4)
    ⟨⟨rfl, rfl⟩, rfl, fun e he => he, fun e he => .inl he, by simp, fun _ _ w => w⟩ h
  obtain ⟨h0, hv, hm, hs, hd, hw⟩ := key
  exact ⟨h0, hv, hm, hs, fun pr hpr hk => hd pr (List.mem_filter.2 ⟨hpr, hk⟩), hw⟩

theorem connectVertices_spec (ops : EdgeOps E) (left right cx cx' : Cx E) (i : Int)
    (h : connectVertices left right i cx = .ok cx') :
    SameMeta cx cx' ∧ cx'.edges = cx.edges ∧
      cx'.verts.map (·.1) = cx.verts.map (·.1) ++ (collectKeys left right i).map pkey ∧ (WF ops cx → WF ops cx') := by
  unfold connectVertices at h
  exact foldRes_prefix
    (fun (b : Cx E) (pre : List (TKey × TKey)) => SameMeta cx b ∧ b.edges = cx.edges ∧
      b.verts.map (·.1) = cx.verts.map (·.1) ++ pre.map pkey ∧ (WF ops cx → WF ops b))
    (by
      intro b pre a _ b' _ ⟨h0, he, hv, hw⟩ hstep
      obtain ⟨vw, hadd⟩ := connectVertexStep_ok left right b b' a hstep
      have hw' : WF ops cx → WF ops b' := fun w => wf_addVertex ops b b' _ vw (hw w) hadd
      obtain ⟨_, rfl⟩ := addVertex_ok b b' _ vw hadd
      exact ⟨h0, he, by simp [hv, pkey], hw'⟩)
    ⟨⟨rfl, rfl⟩, rfl, by simp, fun w => w⟩ h

theorem mem_hRange (cx : Cx E) (i : Int) : i ∈ cx.hRange ↔ cx.dh ≤ i ∧ i ≤ cx.dh + cx.dim := by
  unfold Cx.hRange
  simp only [List.mem_map, List.mem_range]
  constructor
  · rintro ⟨j, hj, rfl⟩; omega
  · rintro ⟨h1, h2⟩
    exact ⟨(i - cx.dh).toNat, by omega, by omega⟩

theorem mem_keysOf (cx : Cx E) (i : Int) (k : TKey) :
    k ∈ cx.keysOf i ↔ k ∈ cx.verts.map (·.1) ∧ (k.weight : Int) + cx.dh = i := by
  unfold Cx.keysOf
  simp only [List.mem_map, List.mem_filter, beq_iff_eq]
  constructor
  · rintro ⟨v, ⟨hv, hw⟩, rfl⟩; exact ⟨⟨v, hv, rfl⟩, hw⟩
  · rintro ⟨⟨v, hv, rfl⟩, hw⟩; exact ⟨v, ⟨hv, hw⟩, rfl⟩

theorem mem_collectKeys (left right : Cx E) (i : Int) (k l : TKey) :
    (k, l) ∈ collectKeys left right i ↔
      k ∈ left.verts.map (·.1) ∧ l ∈ right.verts.map (·.1) ∧ k.weight ≤ left.dim ∧
        (k.weight : Int) + left.dh + ((l.weight : Int) + right.dh) = i := by
  unfold collectKeys
  simp only [List.mem_flatMap, List.mem_map, mem_hRange, mem_keysOf, Prod.mk.injEq]
  constructor
  · rintro ⟨i1, ⟨h1, h2⟩, k', ⟨hk, hw⟩, l', ⟨hl, hw'⟩, rfl, rfl⟩
    exact ⟨hk, hl, by omega, by omega⟩
  · rintro ⟨hk, hl, hb, hd⟩
    exact ⟨(k.weight : Int) + left.dh, ⟨by omega, by omega⟩, k, ⟨hk, rfl⟩, l, ⟨hl, by omega⟩, rfl, rfl⟩

/-- all weights are at most `dim` (true for everything the engine builds; `collect_keys` only looks at these) -/
def Bounded (cx : Cx E) : Prop := ∀ k ∈ cx.verts.map (·.1), k.weight ≤ cx.dim

/-- all product vertices in the order `connect` creates them -/
def allPairs (left right : Cx E) : List (TKey × TKey) :=
  ((List.range (left.dim + right.dim + 1)).map (fun (j : Nat) => left.dh + right.dh + (j : Int))).flatMap
    (collectKeys left right)

theorem connectInit_ok (left right new0 : Cx E) (h : connectInit left right = .ok new0) :
    new0 = ⟨left.dh + right.dh, left.dq + right.dq, left.base.or right.base, left.dim + right.dim, [], []⟩ := by
  unfold connectInit at h
  split at h
  · cases h; rfl
  · cases h

/-- the keys of round `i` of the product; a `Bool` predicate because it stands for `hasKey` in `Done` -/
def tgtPred (left right : Cx E) (i : Int) : TKey → Bool :=
  fun x => decide (∃ q ∈ collectKeys left right i, x = pkey q)

structure ConnInv (ops : EdgeOps E) (left right : Cx E) (b : Cx E) (pre : List Int) : Prop where
  dim : b.dim = left.dim + right.dim
  base : b.base = left.base.or right.base
  wf : WF ops left → WF ops right → WF ops b
  verts : b.verts.map (·.1) = (pre.flatMap (collectKeys left right)).map pkey
  sound : ∀ e ∈ b.edges, PE ops left right e
  /-- `connect_edges(i − 1)` runs right after `connect_vertices(i)` and adds an edge only if its target exists AT THAT
  TIME; an edge raises the degree by one, so the targets of the pairs of round `i − 1` are the keys of round `i`
  (`tgtPred`), and a pair counts as handled once both rounds are done -/
  done : ∀ i ∈ pre, (i - 1) ∈ pre → ∀ pr ∈ collectKeys left right (i - 1),
    Done ops left right (tgtPred left right i) b pr

theorem consecutive_split (c : Int) (n : Nat) (pre rest : List Int) (i : Int)
    (h : (List.range n).map (fun (j : Nat) => c + (j : Int)) = pre ++ i :: rest) :
    ∀ x ∈ pre, x < i := by
  have hlen : pre.length < n := by
    have := congrArg List.length h
    simp at this
    omega
  have hi : i = c + (pre.length : Int) := by
    have := congrArg (fun l => l[pre.length]?) h
    simp [hlen] at this
    exact this.symm
  have hpre : pre = (List.range pre.length).map (fun (j : Nat) => c + (j : Int)) := by
    have := congrArg (List.take pre.length) h
    simp only [List.take_left', ← List.map_take, List.take_range] at this
    rw [Nat.min_eq_left (Nat.le_of_lt hlen)] at this
    exact this.symm
  intro x hx
  rw [hpre] at hx
  simp only [List.mem_map, List.mem_range] at hx
  obtain ⟨j, hj, rfl⟩ := hx
  omega

theorem Done.mono (ops : EdgeOps E) (left right : Cx E) (keys keys' : TKey → Bool) (b b' : Cx E) (pr : TKey × TKey)
    (hk : ∀ x, keys' x = true → keys x = true) (hb : ∀ e ∈ b.edges, e ∈ b'.edges)
    (h : Done ops left right keys b pr) : Done ops left right keys' b' pr := by
  obtain ⟨v0, w0, es, a1, a2, a3, a4⟩ := h
  exact ⟨v0, w0, es, a1, a2, a3, fun e he hk' hz => hb e (a4 e he (hk _ hk') hz)⟩

theorem connectDegStep_inv (ops : EdgeOps E) (left right b b' : Cx E) (pre : List Int) (i : Int)
    (hlt : ∀ x ∈ pre, x < i)
    (hinv : ConnInv ops left right b pre) (h : connectDegStep ops left right b i = .ok b') :
    ConnInv ops left right b' (pre ++ [i]) := by
  unfold connectDegStep at h
  rcases hv : connectVertices left right i b with b1 | _ | _
  · simp only [hv] at h
    obtain ⟨m1, he1, hv1, w1⟩ := connectVertices_spec ops left right b b1 i hv
    obtain ⟨m2, hv2, hm, hs, hd, w2⟩ := connectEdges_spec ops left right b1 b' (i - 1) h
    have hkeys1 : b1.verts.map (·.1) = ((pre ++ [i]).flatMap (collectKeys left right)).map pkey := by
      rw [hv1, hinv.verts]; simp
    refine ⟨(m1.trans m2).1.trans hinv.dim, (m1.trans m2).2.trans hinv.base,
      fun wl wr => w2 wl wr (w1 (hinv.wf wl wr)), by rw [hv2]; exact hkeys1, ?_, ?_⟩
    · intro e he
      rcases hs e he with h1 | h1
      · exact hinv.sound e (he1 ▸ h1)
      · exact h1
    · intro i' hi' hi1 pr hpr
      rcases List.mem_append.1 hi' with hp | hp
      · have hlt' := hlt i' hp
        have hi1' : (i' - 1) ∈ pre := by
          rcases List.mem_append.1 hi1 with h' | h'
          · exact h'
          · simp only [List.mem_singleton] at h'; omega
        exact Done.mono ops left right _ _ b b' pr (fun _ hx => hx) (fun e he => hm e (he1 ▸ he))
          (hinv.done i' hp hi1' pr hpr)
      · simp only [List.mem_singleton] at hp
        subst hp
        have hi1' : (i' - 1) ∈ pre := by
          rcases List.mem_append.1 hi1 with h' | h'
          · exact h'
          · simp only [List.mem_singleton] at h'; omega
        have hk1 : b1.hasKey (pkey pr) = true := by
          rw [hasKey_iff, hkeys1]
          refine List.mem_map.2 ⟨pr, ?_, rfl⟩
          simp only [List.flatMap_append, List.mem_append, List.mem_flatMap]
          exact .inl ⟨i' - 1, hi1', hpr⟩
        refine Done.mono ops left right _ _ b' b' pr ?_ (fun e he => he) (hd pr hpr hk1)
        intro x hx
        simp only [tgtPred, decide_eq_true_eq] at hx
        obtain ⟨q, hq, rfl⟩ := hx
        rw [hasKey_iff, hkeys1]
        refine List.mem_map.2 ⟨q, ?_, rfl⟩
        simp only [List.flatMap_append, List.mem_append, List.mem_flatMap]
        exact .inr ⟨i', by simp, hq⟩
  · simp [hv] at h
  · simp [hv] at h

theorem connect_inv (ops : EdgeOps E) (left right cx' : Cx E) (h : left.connect ops right = .ok cx') :
    ConnInv ops left right cx'
      ((List.range (left.dim + right.dim + 1)).map (fun (j : Nat) => left.dh + right.dh + (j : Int))) := by
  unfold Cx.connect at h
  rcases h0 : connectInit left right with new0 | _ | _
  · simp only [h0] at h
    have hnew := connectInit_ok left right new0 h0
    have hr : new0.hRange =
        (List.range (left.dim + right.dim + 1)).map (fun (j : Nat) => left.dh + right.dh + (j : Int)) := by
      rw [hnew]; rfl
    rw [hr] at h
    refine foldRes_prefix (ConnInv ops left right) ?_ ?_ h
    · intro b pre a rest b' hfull hP hstep
      exact connectDegStep_inv ops left right b b' pre a (consecutive_split _ _ pre rest a hfull) hP hstep
    · rw [hnew]
      exact ⟨rfl, rfl, fun _ _ => ⟨by simp, by simp, by simp, by simp, by simp⟩, by simp, by simp, by simp⟩
  · simp [h0] at h
  · simp [h0] at h

theorem wf_connect (ops : EdgeOps E) (left right cx' : Cx E) (hl : WF ops left) (hr : WF ops right)
    (h : left.connect ops right = .ok cx') : WF ops cx' :=
  (connect_inv ops left right cx' h).wf hl hr

theorem makeX_cases (ops : EdgeOps E) (mkSdl : CobComp → E) (ct : KhRef.CT) (e : Array Nat) (x : Cx E)
    (h : makeX ops mkSdl ct e = .ok x) :
    (∃ t, x = ⟨0, 0, none, 0, [(TKey.init, t)], []⟩) ∨
    (∃ t0 t1 f, ops.isZero f = false ∧
      x = ⟨0, 0, none, 1, [(⟨[false], []⟩, t0), (⟨[true], []⟩, t1)], [((⟨[false], []⟩, ⟨[true], []⟩), f)]⟩) := by
  unfold makeX at h
  simp only at h
  split at h
  · split at h
    · obtain ⟨_, rfl⟩ := addVertex_ok _ x _ _ h
      exact .inl ⟨_, rfl⟩
    · cases h
    · cases h
  · split at h
    · split at h
      · rename_i c1 hc1
        split at h
        · rename_i c2 hc2
          split at h
          · split at h
            · rename_i c3 hc3
              cases h
              obtain ⟨_, rfl⟩ := addVertex_ok _ c1 _ _ hc1
              obtain ⟨_, rfl⟩ := addVertex_ok _ c2 _ _ hc2
              obtain ⟨_, _, _, hz, rfl⟩ := addEdge_ok ops _ c3 _ _ _ hc3
              exact .inr ⟨_, _, _, hz, rfl⟩
            · cases h
            · cases h
          · cases h
          · cases h
        · cases h
        · cases h
      · cases h
      · cases h
    · cases h
    · cases h
    · cases h

theorem wf_makeX (ops : EdgeOps E) (mkSdl : CobComp → E) (ct : KhRef.CT) (e : Array Nat) (x : Cx E)
    (h : makeX ops mkSdl ct e = .ok x) : WF ops x := by
  rcases makeX_cases ops mkSdl ct e x h with ⟨t, rfl⟩ | ⟨t0, t1, f, hz, rfl⟩
  · exact ⟨by simp, by simp, by simp, by simp, by simp⟩
  · refine ⟨by simp, by simp, by simp, ?_, by simpa using hz⟩
    intro e he
    simp only [List.mem_singleton] at he
    subst he
    rfl

theorem appendX_ok (ops : EdgeOps E) (mkSdl : CobComp → E) (cx cx' : Cx E) (ct : KhRef.CT) (e : Array Nat)
    (h : cx.appendX ops mkSdl ct e = .ok cx') : ∃ x, makeX ops mkSdl ct e = .ok x ∧ cx.connect ops x = .ok cx' := by
  unfold Cx.appendX at h
  split at h
  · rename_i x hx
    exact ⟨x, hx, h⟩
  · cases h
  · cases h

theorem wf_appendX (ops : EdgeOps E) (mkSdl : CobComp → E) (cx cx' : Cx E) (ct : KhRef.CT) (e : Array Nat)
    (hwf : WF ops cx) (h : cx.appendX ops mkSdl ct e = .ok cx') : WF ops cx' := by
  obtain ⟨x, hx, hc⟩ := appendX_ok ops mkSdl cx cx' ct e h
  exact wf_connect ops cx x cx' hwf (wf_makeX ops mkSdl ct e x hx) hc

theorem productEdges_mem_left (ops : EdgeOps E) (left right : Cx E) (k0 l0 : TKey) (v0 w0 : Tng)
    (es : List ((TKey × TKey) × E)) (h : productEdges ops left right k0 l0 v0 w0 = .ok es)
    (a : (TKey × TKey) × E) (ha : a ∈ left.edges) (hk : a.1.1 = k0) :
    ∃ g, ops.hcompL a.2 w0 = .ok g ∧ ((k0.append l0, a.1.2.append l0), g) ∈ es := by
  obtain ⟨e1, e2, h1, _, rfl⟩ := productEdges_ok ops left right k0 l0 v0 w0 es h
  obtain ⟨e, he, hfe⟩ := mapMRes_ok_of_mem _ _ _ h1 a (List.mem_filter.2 ⟨ha, by simpa using hk⟩)
  rcases hg : ops.hcompL a.2 w0 with g | _ | _
  · simp only [hg, Res.ok.injEq] at hfe
    exact ⟨g, rfl, List.mem_append_left _ (hfe ▸ he)⟩
  · simp [hg] at hfe
  · simp [hg] at hfe

theorem productEdges_mem_right (ops : EdgeOps E) (left right : Cx E) (k0 l0 : TKey) (v0 w0 : Tng)
    (es : List ((TKey × TKey) × E)) (h : productEdges ops left right k0 l0 v0 w0 = .ok es)
    (a : (TKey × TKey) × E) (ha : a ∈ right.edges) (hk : a.1.1 = l0) :
    ∃ g, ops.hcompR (signNeg left k0) a.2 v0 = .ok g ∧ ((k0.append l0, k0.append a.1.2), g) ∈ es := by
  obtain ⟨e1, e2, _, h2, rfl⟩ := productEdges_ok ops left right k0 l0 v0 w0 es h
  obtain ⟨e, he, hfe⟩ := mapMRes_ok_of_mem _ _ _ h2 a (List.mem_filter.2 ⟨ha, by simpa using hk⟩)
  rcases hg : ops.hcompR (signNeg left k0) a.2 v0 with g | _ | _
  · simp only [hg, Res.ok.injEq] at hfe
    exact ⟨g, rfl, List.mem_append_right _ (hfe ▸ he)⟩
  · simp [hg] at hfe
  · simp [hg] at hfe

theorem tng?_some_mem (cx : Cx E) (k : TKey) (t : Tng) (h : cx.tng? k = some t) : k ∈ cx.verts.map (·.1) := by
  rw [← hasKey_iff]; unfold Cx.hasKey; rw [h]; rfl

theorem mem_tng?_some (cx : Cx E) (k : TKey) (h : k ∈ cx.verts.map (·.1)) : ∃ t, cx.tng? k = some t := by
  have := (hasKey_iff cx k).2 h
  unfold Cx.hasKey at this
  exact Option.isSome_iff_exists.1 this

theorem weight_pkey (p : TKey × TKey) : (pkey p).weight = p.1.weight + p.2.weight := weight_append _ _

theorem connect_verts (ops : EdgeOps E) (left right cx' : Cx E) (hl : WF ops left) (hr : WF ops right)
    (h : left.connect ops right = .ok cx') :
    cx'.verts.map (·.1) = (allPairs left right).map pkey ∧
    (∀ p ∈ allPairs left right, ∀ q ∈ allPairs left right, pkey p = pkey q → p = q) := by
  have hinv := connect_inv ops left right cx' h
  have hw := wf_connect ops left right cx' hl hr h
  refine ⟨hinv.verts, ?_⟩
  have hn : ((allPairs left right).map pkey).Nodup := by
    have := hw.keys
    rw [hinv.verts] at this
    exact this
  exact fun p hp q hq => List.inj_on_of_nodup_map hn hp hq

theorem mem_allPairs (left right : Cx E) (hbl : Bounded left) (hbr : Bounded right) (k l : TKey) :
    (k, l) ∈ allPairs left right ↔ k ∈ left.verts.map (·.1) ∧ l ∈ right.verts.map (·.1) := by
  unfold allPairs
  constructor
  · intro h
    obtain ⟨i, _, hi⟩ := List.mem_flatMap.1 h
    obtain ⟨hk, hl, _⟩ := (mem_collectKeys left right i k l).1 hi
    exact ⟨hk, hl⟩
  · rintro ⟨hk, hl⟩
    have h1 := hbl k hk
    have h2 := hbr l hl
    refine List.mem_flatMap.2 ⟨left.dh + right.dh + ((k.weight + l.weight : Nat) : Int),
      List.mem_map.2 ⟨k.weight + l.weight, List.mem_range.2 (by omega), rfl⟩, ?_⟩
    rw [mem_collectKeys]
    exact ⟨hk, hl, h1, by push_cast; omega⟩

/-- two pairs of vertices with the same product key are the same pair (`add_vertex` panics on a key it has already) -/
theorem connect_key_inj (ops : EdgeOps E) (left right cx' : Cx E) (hl : WF ops left) (hr : WF ops right)
    (hbl : Bounded left) (hbr : Bounded right) (h : left.connect ops right = .ok cx') (a b a' b' : TKey)
    (ha : a ∈ left.verts.map (·.1)) (hb : b ∈ right.verts.map (·.1)) (ha' : a' ∈ left.verts.map (·.1))
    (hb' : b' ∈ right.verts.map (·.1)) (he : a.append b = a'.append b') : a = a' ∧ b = b' :=
  Prod.ext_iff.1 ((connect_verts ops left right cx' hl hr h).2 (a, b) ((mem_allPairs left right hbl hbr a b).2 ⟨ha, hb⟩)
    (a', b') ((mem_allPairs left right hbl hbr a' b').2 ⟨ha', hb'⟩) he)

theorem connect_sound (ops : EdgeOps E) (left right cx' : Cx E) (h : left.connect ops right = .ok cx')
    (e : (TKey × TKey) × E) (he : e ∈ cx'.edges) :
    ∃ k0 l0 v0 w0, left.tng? k0 = some v0 ∧ right.tng? l0 = some w0 ∧
      ((∃ a ∈ left.edges, a.1.1 = k0 ∧ ∃ g, ops.hcompL a.2 w0 = .ok g ∧
          e = ((k0.append l0, a.1.2.append l0), g)) ∨
       (∃ a ∈ right.edges, a.1.1 = l0 ∧ ∃ g, ops.hcompR (signNeg left k0) a.2 v0 = .ok g ∧
          e = ((k0.append l0, k0.append a.1.2), g))) := by
  obtain ⟨k0, l0, v0, w0, es, h1, h2, h3, h4⟩ := (connect_inv ops left right cx' h).sound e he
  exact ⟨k0, l0, v0, w0, h1, h2, productEdges_mem ops left right k0 l0 v0 w0 es h3 e h4⟩

/-- the pair `(k0, l0)` was handled as a source provided it is not in the top degree -/
theorem connect_done (ops : EdgeOps E) (left right cx' : Cx E) (hbl : Bounded left) (hbr : Bounded right)
    (h : left.connect ops right = .ok cx') (k0 l0 : TKey)
    (hk : k0 ∈ left.verts.map (·.1)) (hl : l0 ∈ right.verts.map (·.1))
    (hnt : k0.weight + l0.weight < left.dim + right.dim) :
    Done ops left right (tgtPred left right
      (left.dh + right.dh + ((k0.weight + l0.weight : Nat) : Int) + 1)) cx' (k0, l0) := by
  have hinv := connect_inv ops left right cx' h
  have h1 := hbl k0 hk
  have h2 := hbr l0 hl
  have := hinv.done (left.dh + right.dh + ((k0.weight + l0.weight : Nat) : Int) + 1)
    (by simp only [List.mem_map, List.mem_range]; exact ⟨k0.weight + l0.weight + 1, by omega, by push_cast; omega⟩)
    (by simp only [List.mem_map, List.mem_range]; exact ⟨k0.weight + l0.weight, by omega, by push_cast; omega⟩)
    (k0, l0) (by rw [mem_collectKeys]; exact ⟨hk, hl, h1, by push_cast; omega⟩)
  exact this

theorem connect_complete_left (ops : EdgeOps E) (left right cx' : Cx E) (hl : WF ops left)
    (hbl : Bounded left) (hbr : Bounded right) (h : left.connect ops right = .ok cx')
    (a : (TKey × TKey) × E) (ha : a ∈ left.edges) (l0 : TKey) (w0 : Tng) (hw : right.tng? l0 = some w0) :
    ∃ g, ops.hcompL a.2 w0 = .ok g ∧
      (ops.isZero g = false → ((a.1.1.append l0, a.1.2.append l0), g) ∈ cx'.edges) := by
  obtain ⟨hk0, hk1⟩ := hl.ends a ha
  have hdeg := hl.deg a ha
  have hl0 := tng?_some_mem right l0 w0 hw
  have b1 := hbl _ hk1
  have b2 := hbr _ hl0
  obtain ⟨v0, w0', es, a1, a2, a3, a4⟩ := connect_done ops left right cx' hbl hbr h a.1.1 l0 hk0 hl0 (by omega)
  simp only at a1 a2 a3
  rw [hw] at a2; cases a2
  obtain ⟨g, hg, hmem⟩ := productEdges_mem_left ops left right a.1.1 l0 v0 w0 es a3 a ha rfl
  refine ⟨g, hg, fun hz => a4 _ hmem ?_ hz⟩
  simp only [tgtPred, decide_eq_true_eq]
  refine ⟨(a.1.2, l0), ?_, rfl⟩
  rw [mem_collectKeys]
  exact ⟨hk1, hl0, b1, by push_cast; omega⟩

theorem connect_complete_right (ops : EdgeOps E) (left right cx' : Cx E) (hr : WF ops right)
    (hbl : Bounded left) (hbr : Bounded right) (h : left.connect ops right = .ok cx')
    (a : (TKey × TKey) × E) (ha : a ∈ right.edges) (k0 : TKey) (v0 : Tng) (hv : left.tng? k0 = some v0) :
    ∃ g, ops.hcompR (signNeg left k0) a.2 v0 = .ok g ∧
      (ops.isZero g = false → ((k0.append a.1.1, k0.append a.1.2), g) ∈ cx'.edges) := by
  obtain ⟨hl0, hl1⟩ := hr.ends a ha
  have hdeg := hr.deg a ha
  have hk0 := tng?_some_mem left k0 v0 hv
  have b1 := hbl _ hk0
  have b2 := hbr _ hl1
  obtain ⟨v0', w0, es, a1, a2, a3, a4⟩ := connect_done ops left right cx' hbl hbr h k0 a.1.1 hk0 hl0 (by omega)
  simp only at a1 a2 a3
  rw [hv] at a1; cases a1
  obtain ⟨g, hg, hmem⟩ := productEdges_mem_right ops left right k0 a.1.1 v0 w0 es a3 a ha rfl
  refine ⟨g, hg, fun hz => a4 _ hmem ?_ hz⟩
  simp only [tgtPred, decide_eq_true_eq]
  refine ⟨(k0, a.1.2), ?_, rfl⟩
  rw [mem_collectKeys]
  exact ⟨hk0, hl1, b1, by push_cast; omega⟩

end Yuiv.C05.Engine
