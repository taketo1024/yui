import Yuiv.Proofs.C09
import Yuiv.Proofs.C09Le
/-
What holds of the code model for ANY operations: a pass of the `'outer` loop of `diag_normalize` either goes through
unchanged, with the pairs it looked at in `divides` relation, or stops right after the first step that answered
`false` (`diagPass_spec`); and list lemmas for the non-zero counts.
-/
namespace Yuiv.C09
open Yuiv
variable {α : Type} {e : EOps α} {m n : Nat}

theorem diagNormalizeStep_true (dbg : Bool) (s : St α m n) (i : Nat) (hm : i + 1 < m) (hn : i + 1 < n)
    (s' : St α m n) (h : diagNormalizeStep e dbg s i hm hn = .ok (s', true)) :
    s' = s ∧ e.dvd (s.t.get ⟨i, Nat.lt_of_succ_lt hm⟩ ⟨i, Nat.lt_of_succ_lt hn⟩) (s.t.get ⟨i + 1, hm⟩ ⟨i + 1, hn⟩) = true := by
  rw [diagNormalizeStep_eq] at h
  simp only at h
  split at h
  · cases h
  · split at h
    · rename_i hd
      cases h
      exact ⟨rfl, hd⟩
    · split at h
      · cases h
      · obtain ⟨s1, _, h⟩ := Res.bind_eq_ok h
        obtain ⟨s2, _, h⟩ := Res.bind_eq_ok h
        cases h

theorem diagPass_spec (dbg : Bool) (r : Nat) : ∀ (cnt i : Nat) (s : St α m n)
    (r' : St α m n × Bool), diagPass e dbg r cnt i s = .ok r' →
    (r' = (s, true) ∧ ∀ k, i ≤ k → k < i + cnt → ∀ (hk : k + 1 < r ∧ k + 1 < m ∧ k + 1 < n),
      e.dvd (s.t.get ⟨k, Nat.lt_of_succ_lt hk.2.1⟩ ⟨k, Nat.lt_of_succ_lt hk.2.2⟩)
        (s.t.get ⟨k + 1, hk.2.1⟩ ⟨k + 1, hk.2.2⟩) = true) ∨
    ∃ i0, ∃ (hm : i0 + 1 < m) (hn : i0 + 1 < n), i0 + 1 < r ∧ r'.2 = false ∧
      diagNormalizeStep e dbg s i0 hm hn = .ok r' := by
  intro cnt
  induction cnt with
  | zero => intro i s r' h; cases h; exact Or.inl ⟨rfl, fun k h1 h2 => by omega⟩
  | succ cnt ih =>
    intro i s r' h
    rw [diagPass_succ] at h
    split at h
    · rename_i hc
      obtain ⟨⟨s1, b1⟩, h1, h2⟩ := Res.bind_eq_ok h
      cases b1 with
      | true =>
        obtain ⟨e1, d1⟩ := diagNormalizeStep_true dbg s i hc.2.1 hc.2.2 s1 h1
        subst e1
        rcases ih (i + 1) s1 r' h2 with ⟨e2, d2⟩ | h3
        · refine Or.inl ⟨e2, fun k hik hk hk' => ?_⟩
          by_cases hki : k = i
          · subst hki; exact d1
          · exact d2 k (by omega) (by omega) hk'
        · exact Or.inr h3
      | false =>
        cases h2
        exact Or.inr ⟨i, hc.2.1, hc.2.2, hc.1, rfl, h1⟩
    · rename_i hc
      cases h
      -- the guard failed at `i`, so it fails at every `k ≥ i`
      exact Or.inl ⟨rfl, fun k hik hk hk' => absurd ⟨by omega, by omega, by omega⟩ hc⟩

theorem val_of_finRange_eq_append {pre post : List (Fin n)} {x : Fin n} (h : List.finRange n = pre ++ x :: post) :
    x.1 = pre.length := by
  have h1 : pre.length < (List.finRange n).length := by rw [h]; simp
  have h2 : (List.finRange n)[pre.length]'h1 = x := by simp [h]
  rw [← h2]; simp

theorem foldl_prefix {σ β : Type} (f : σ → β → σ) (P : List β → σ → Prop)
    (hstep : ∀ pre x s, P pre s → P (pre ++ [x]) (f s x)) :
    ∀ (l pre : List β) (s : σ), P pre s → P (pre ++ l) (l.foldl f s)
  | [], pre, s, hp => by simpa using hp
  | x :: l, pre, s, hp => by
    have := foldl_prefix f P hstep l (pre ++ [x]) (f s x) (hstep pre x s hp)
    simpa using this

theorem foldl_count {β : Type} (z : β → Bool) : ∀ (l : List β) (k : Nat),
    l.foldl (fun c x => if z x then c else c + 1) k = k + l.countP (fun x => !z x)
  | [], k => by simp
  | x :: l, k => by
    rw [List.foldl_cons, foldl_count z l, List.countP_cons]
    cases z x <;> simp; omega

theorem countP_le_one_iff {β : Type} [DecidableEq β] (p : β → Bool) : ∀ (l : List β), l.Nodup → ∀ a ∈ l,
    p a = true → (l.countP p ≤ 1 ↔ ∀ b ∈ l, b ≠ a → p b = false)
  | [], _, a, ha, _ => by simp at ha
  | x :: l, hn, a, ha, hpa => by
    rw [List.nodup_cons] at hn
    rw [List.countP_cons]
    by_cases hax : a = x
    · subst hax
      rw [if_pos hpa]
      constructor
      · intro h b hb hba
        rw [List.mem_cons] at hb
        rcases hb with rfl | hb
        · exact absurd rfl hba
        · have h0 : l.countP p = 0 := by omega
          rw [List.countP_eq_zero] at h0
          simpa using h0 b hb
      · intro h
        have h0 : l.countP p = 0 := by
          rw [List.countP_eq_zero]
          intro b hb
          have : b ≠ a := fun hh => hn.1 (hh ▸ hb)
          simp [h b (List.mem_cons_of_mem _ hb) this]
        omega
    · have ha' : a ∈ l := by
        rw [List.mem_cons] at ha
        rcases ha with h | h
        · exact absurd h hax
        · exact h
      have ih := countP_le_one_iff p l hn.2 a ha' hpa
      have hpos : 0 < l.countP p := List.countP_pos_iff.2 ⟨a, ha', hpa⟩
      constructor
      · intro h b hb hba
        rw [List.mem_cons] at hb
        rcases hb with rfl | hb
        · by_contra hpb
          rw [if_pos (by simpa using hpb)] at h
          omega
        · refine ih.1 ?_ b hb hba
          split at h <;> omega
      · intro h
        have h1 := ih.2 (fun b hb hba => h b (List.mem_cons_of_mem _ hb) hba)
        have h2 := h x (List.mem_cons_self) (fun hh => hax hh.symm)
        rw [if_neg (by simp [h2])]
        omega

theorem swapRows_get {α : Type} (T : Mat α m n) (i j r : Fin m) (c : Fin n) :
    (swapRows T i j).get r c = T.get (if r = i then j else if r = j then i else r) c := by
  simp [swapRows]

theorem swapCols_get {α : Type} (T : Mat α m n) (i j c : Fin n) (r : Fin m) :
    (swapCols T i j).get r c = T.get r (if c = i then j else if c = j then i else c) := by
  simp [swapCols]

theorem dg_eq {α : Type} (o : ROps α) (T : Mat α m n) (k : Nat) (hm : k < m) (hn : k < n) :
    dg o T k = T.get ⟨k, hm⟩ ⟨k, hn⟩ := by
  unfold dg; rw [dif_pos ⟨hm, hn⟩]

end Yuiv.C09
