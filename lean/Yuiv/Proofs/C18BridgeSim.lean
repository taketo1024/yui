import Yuiv.Proofs.C18BridgeLink
import Yuiv.Proofs.C18InvOri
/-
C18Bridge — on every valid link the functional form `signsF` of the reference's `KhRef.crossingSigns`, run on
the translated link `toKh l`, returns the encoding of what the code model's `C18.crossingSigns l` returns.

Simulation: the reference's state `(sg : Array Int, passed : Array Nat)` and the code model's state
`(signs : List (Option Sign), passed : List Nat)` are related by `RR` (same signs through the encoding, same
SET of passed labels).  The two programs differ in three places, all harmless on valid codes:
  * the code model reports the start slot of a walk a second time (sign and label written twice);
  * on a free end the code model also reads a sign at the exit slot (never happens on valid codes);
  * the reference skips pass 2 if pass 1 has signed every crossing (then pass 2 cannot write a sign).
-/
namespace Yuiv.C18Bridge
open Yuiv Yuiv.KhRef
open Yuiv.C18 (Valid HE step lab thru partner iter RChain J sgnV)

/-- encoding of an optional sign: `none ↦ 0` -/
def encO : Option C18.Sign → Int
  | none => 0
  | some s => encSign s

theorem encSign_ne (s : C18.Sign) : encSign s ≠ 0 := by cases s <;> decide

theorem slotSign_ctKh : ∀ t : C18.CType, ∀ j, j < 4 → slotSign (ctKh t) j = encO (C18.signAt t j) := by decide

theorem encO_eq_zero (o : Option C18.Sign) : (encO o == 0) = o.isNone := by
  cases o with
  | none => rfl
  | some s => simp [encO, encSign_ne]

theorem slots_eq (l : C18.Link) :
    C18.slots l = (allSlots l.length).map (fun p => (p, C18.edgeAt l p.1 p.2)) :=
  C18.slots_closed l

theorem mem_allSlots (n : Nat) (p : Nat × Nat) : p ∈ allSlots n ↔ p.1 < n ∧ p.2 < 4 := by
  unfold allSlots
  simp only [List.mem_flatMap, List.mem_range, List.mem_map]
  constructor
  · rintro ⟨i, hi, j, hj, rfl⟩; exact ⟨hi, hj⟩
  · rintro ⟨h1, h2⟩; exact ⟨p.1, h1, p.2, h2, rfl⟩

theorem find?_congr_mem {α} (p q : α → Bool) (xs : List α) (h : ∀ x ∈ xs, p x = q x) : xs.find? p = xs.find? q := by
  induction xs with
  | nil => rfl
  | cons a r ih =>
    rw [List.find?_cons, List.find?_cons, h a List.mem_cons_self, ih (fun x hx => h x (List.mem_cons_of_mem _ hx))]

theorem partnerF_of_edges {L : Link} {l : C18.Link} (hlen : L.size = l.length)
    (hedge : ∀ i j, i < l.length → j < 4 → L[i]!.e[j]! = C18.edgeAt l i j) (i k : Nat) (hi : i < l.length)
    (hk : k < 4) : partnerF L i k = C18.passEdge l i k := by
  unfold partnerF C18.passEdge
  dsimp only
  rw [slots_eq, List.find?_map, Option.map_map, hlen, hedge i k hi hk]
  have hcongr : ∀ p ∈ allSlots l.length,
      (L[p.1]!.e[p.2]! == C18.edgeAt l i k && !(p.1 == i && p.2 == k)) =
      ((fun (s : (Nat × Nat) × Nat) => s.2 == C18.edgeAt l i k && s.1 != (i, k)) ∘
        fun p => (p, C18.edgeAt l p.1 p.2)) p := by
    intro p hp
    obtain ⟨h1, h2⟩ := (mem_allSlots _ p).1 hp
    show _ = (C18.edgeAt l p.1 p.2 == C18.edgeAt l i k && p != (i, k))
    rw [hedge p.1 p.2 h1 h2]
    congr 1
  rw [find?_congr_mem _ _ _ hcongr]
  cases List.find? _ (allSlots l.length) <;> rfl

theorem partnerF_toKh (l : C18.Link) (i k : Nat) (hi : i < l.length) (hk : k < 4) :
    partnerF (toKh l) i k = C18.passEdge l i k :=
  partnerF_of_edges (size_toKh l) (edge_toKh l) i k hi hk

/-- what one iteration of the reference's `while` loop does to `(sg, passed)` at the slot `p` -/
def khVisit (L : Link) (sk : Array Int × Array Nat) (p : Nat × Nat) : Array Int × Array Nat :=
  (if slotSign L[p.1]!.ct p.2 != 0 then sk.1.set! p.1 (slotSign L[p.1]!.ct p.2) else sk.1,
    sk.2.push (L[p.1]!.e[p.2]!))

theorem walkF_succ (L : Link) (i0 j0 fuel i j : Nat) (st : Array Int × Array Nat) :
    walkF L i0 j0 (fuel + 1) i j st =
      match partnerF L i (L[i]!.ct.pass j) with
      | none => (((khVisit L st (i, j)).1, (khVisit L st (i, j)).2.push (L[i]!.e[L[i]!.ct.pass j]!)), false)
      | some (i', j') =>
        if i' == i0 && j' == j0 then (khVisit L st (i, j), false)
        else walkF L i0 j0 fuel i' j' (khVisit L st (i, j)) := by
  rw [walkF]
  rfl

structure RR (l : C18.Link) (sk : Array Int × Array Nat) (sc : List (Option C18.Sign) × List Nat) : Prop where
  sg : sk.1.toList = sc.1.map encO
  len : sc.1.length = l.length
  passed : ∀ e, e ∈ sk.2 ↔ e ∈ sc.2

theorem sg_getElem {sg : Array Int} {xs : List (Option C18.Sign)} (h : sg.toList = xs.map encO) (i : Nat)
    (hi : i < xs.length) : sg[i]! = encO (xs.getD i none) := by
  have hs : i < sg.size := by rw [← Array.length_toList, h, List.length_map]; exact hi
  rw [getElem!_pos sg i hs, ← Array.getElem_toList]
  simp only [h, List.getElem_map, List.getD_eq_getElem?_getD, List.getElem?_eq_getElem hi, Option.getD_some]

theorem RR_visit (l : C18.Link) {sk sc} (h : RR l sk sc) (p : Nat × Nat) (hp : HE l p) :
    RR l (khVisit (toKh l) sk p) (C18.signsVisit l sc p) := by
  unfold khVisit C18.signsVisit
  rw [ct_toKh l p.1 hp.1, edge_toKh l p.1 p.2 hp.1 hp.2, slotSign_ctKh _ _ hp.2]
  cases hs : C18.signAt (C18.ctypeAt l p.1) p.2 with
  | none =>
    refine ⟨by simpa [encO] using h.sg, h.len, ?_⟩
    intro e
    simp only [Array.mem_push, List.mem_cons, h.passed]
    exact Or.comm
  | some s =>
    have hne : (encO (some s) != 0) = true := by simp [encO, encSign_ne]
    refine ⟨?_, by simpa using h.len, ?_⟩
    · simp only [hne, if_true]
      show (sk.1.setIfInBounds p.1 (encO (some s))).toList = _
      rw [Array.toList_setIfInBounds, h.sg, List.map_set]
    · intro e
      simp only [Array.mem_push, List.mem_cons, h.passed]
      exact Or.comm

theorem RR_fold (l : C18.Link) (ps : List (Nat × Nat)) {sk sc} (h : RR l sk sc) (hp : ∀ p ∈ ps, HE l p) :
    RR l (ps.foldl (khVisit (toKh l)) sk) (ps.foldl (C18.signsVisit l) sc) := by
  induction ps generalizing sk sc with
  | nil => exact h
  | cons p ps ih =>
    exact ih (RR_visit l h p (hp p List.mem_cons_self)) (fun q hq => hp q (List.mem_cons_of_mem _ hq))

theorem walk_sim (l : C18.Link) (hv : Valid l) (s : Nat × Nat) :
    ∀ (fuel : Nat) (cur : Nat × Nat) (acc path : List (Nat × Nat)) (sk : Array Int × Array Nat), HE l cur →
      C18.traverseLoop l s fuel cur acc = .ok path →
      ∃ w, path = acc.reverse ++ w ++ [s] ∧ (∀ p ∈ w, HE l p) ∧
        walkF (toKh l) s.1 s.2 fuel cur.1 cur.2 sk = (w.foldl (khVisit (toKh l)) sk, false) := by
  intro fuel
  induction fuel with
  | zero => intro cur acc path sk _ h; cases h
  | succ fuel ih =>
    intro cur acc path sk hc h
    have hk : HE l (cur.1, (C18.ctypeAt l cur.1).pass cur.2) := C18.ctypeAt_pass_lt l cur hc
    obtain ⟨next, hn, hnHE, _⟩ := C18.passEdge_valid' l hv _ hk
    unfold C18.traverseLoop at h
    simp only [hn] at h
    rw [walkF_succ, ct_toKh l cur.1 hc.1, pass_ctKh, partnerF_toKh l cur.1 _ hc.1 hk.2, hn]
    obtain ⟨n1, n2⟩ := next
    by_cases hret : (n1, n2) = s
    · rw [if_pos hret] at h
      cases h
      subst hret
      refine ⟨[cur], by simp, ?_, if_pos (by simp)⟩
      intro p hp
      rw [List.mem_singleton.1 hp]
      exact hc
    · rw [if_neg hret] at h
      obtain ⟨w, hw, hwHE, hwalk⟩ := ih (n1, n2) (cur :: acc) path (khVisit (toKh l) sk cur) hnHE h
      have hne : ¬ (n1 == s.1 && n2 == s.2) = true := by
        rw [Bool.and_eq_true, beq_iff_eq, beq_iff_eq]
        exact fun h1 => hret (Prod.ext h1.1 h1.2)
      refine ⟨cur :: w, by rw [hw]; simp, ?_, (if_neg hne).trans hwalk⟩
      intro p hp
      rcases List.mem_cons.1 hp with rfl | hp
      · exact hc
      · exact hwHE p hp

theorem set_same (xs : List (Option C18.Sign)) (i : Nat) (a : Option C18.Sign) (hi : i < xs.length)
    (h : xs.getD i none = a) : xs.set i a = xs := by
  rw [List.getD_eq_getElem?_getD, List.getElem?_eq_getElem hi] at h
  simp only [Option.getD_some] at h
  rw [← h]; exact List.set_getElem_self hi

theorem RR_revisit (l : C18.Link) {sk sc} (h : RR l sk sc) (p : Nat × Nat) (hp : p.1 < l.length)
    (hsg : ∀ a, C18.signAt (C18.ctypeAt l p.1) p.2 = some a → sc.1.getD p.1 none = some a)
    (hlab : C18.edgeAt l p.1 p.2 ∈ sc.2) : RR l sk (C18.signsVisit l sc p) := by
  have hpassed : ∀ e, e ∈ sk.2 ↔ e ∈ C18.edgeAt l p.1 p.2 :: sc.2 := by
    intro e
    rw [List.mem_cons, h.passed]
    exact ⟨Or.inr, fun he => he.elim (fun he => he ▸ hlab) id⟩
  unfold C18.signsVisit
  cases hs : C18.signAt (C18.ctypeAt l p.1) p.2 with
  | none => exact ⟨h.sg, h.len, hpassed⟩
  | some a =>
    have hset : sc.1.set p.1 (some a) = sc.1 := set_same _ _ _ (by rw [h.len]; exact hp) (hsg a hs)
    exact ⟨h.sg.trans (congrArg (List.map encO) hset.symm), (congrArg List.length hset).trans h.len, hpassed⟩

theorem orbit_writes (l : C18.Link) (hv : Valid l) (s : Nat × Nat) (hs : HE l s) (v : List (Nat × Nat))
    (hc : RChain (step l) s v) (hret : step l (v.headD s) = s) (hall : ∀ h ∈ v, HE l h) :
    ∀ p ∈ v, ∀ a, C18.signAt (C18.ctypeAt l p.1) p.2 = some a → sgnV l v p.1 = some a := by
  have vfwd := (hc.closed hret).1
  have nothru : ∀ h ∈ v, thru l h ∉ v := by
    intro h hh hth
    have := C18.orbit_no_partner l hv s hs v hc (step l h) (thru l h) (vfwd h hh) hth
    exact this (C18.thru_partner_step l hv h (hall h hh)).symm
  exact fun p hp a hsg => C18.sgnV_of_mem l v nothru p hp (hall p hp).2 a hsg

theorem step_sim (l : C18.Link) (hv : Valid l) (j0 i0 : Nat) (hs : HE l (i0, j0)) {sk sc} (h : RR l sk sc)
    (bad : Bool) :
    ∃ sc' sk', C18.signsStep l j0 sc i0 = .ok sc' ∧ stepF (toKh l) j0 (sk, bad) i0 = (sk', bad) ∧ RR l sk' sc' := by
  unfold C18.signsStep stepF
  rw [edge_toKh l i0 j0 hs.1 hs.2]
  -- both programs test the same label for having been passed
  have hc : (sk, bad).1.2.contains (C18.edgeAt l i0 j0) = sc.2.contains (C18.edgeAt l i0 j0) := by
    rw [Bool.eq_iff_iff, Array.contains_iff_mem, List.contains_iff_mem]
    exact h.passed _
  rw [hc]
  cases sc.2.contains (C18.edgeAt l i0 j0) with
  | true => exact ⟨sc, sk, rfl, rfl, h⟩
  | false =>
    rw [if_neg Bool.false_ne_true, if_pos Bool.not_false]
    obtain ⟨v, htr, t2, _, t4, hall⟩ := C18.traverse_valid l hv (i0, j0) hs
    obtain ⟨w, hw, hwHE, hwalk⟩ := walk_sim l hv (i0, j0) (4 * l.length) (i0, j0) [] _ sk hs htr
    have hwv : w = v.reverse := by
      have : v.reverse ++ [(i0, j0)] = w ++ [(i0, j0)] := by simpa using hw
      exact (List.append_cancel_right this).symm
    rw [htr, size_toKh, hwalk]
    simp only [Bool.or_false]
    refine ⟨_, _, rfl, rfl, ?_⟩
    rw [List.foldl_append, List.foldl_cons, List.foldl_nil, hwv]
    have hR := RR_fold l v.reverse h (fun p hp => hall p (List.mem_reverse.1 hp))
    -- the second report of the start slot
    have hg := orbit_writes l hv (i0, j0) hs v t2 t4 hall
    obtain ⟨_, _, f4⟩ := C18.foldVisit l (sgnV l v) v.reverse sc (fun p hp => hg p (List.mem_reverse.1 hp))
    have hsv : (i0, j0) ∈ v := t2.start_mem
    refine RR_revisit l hR (i0, j0) hs.1 (fun a hsg => ?_) ?_
    · rw [← hg (i0, j0) hsv a hsg]
      exact f4 (i0, j0) (List.mem_reverse.2 hsv) (by rw [h.len]; exact hs.1) (by rw [hsg]; rfl)
    · rw [C18.foldVisit_passed]
      exact List.mem_append_left _ (List.mem_reverse.2 (List.mem_map.2 ⟨(i0, j0), List.mem_reverse.2 hsv, rfl⟩))

theorem fold_sim (l : C18.Link) (hv : Valid l) (j0 : Nat) (hj : j0 < 4) (is : List Nat) {sk sc} (h : RR l sk sc)
    (hlt : ∀ i ∈ is, i < l.length) (bad : Bool) :
    ∃ sc' sk', is.foldlM (C18.signsStep l j0) sc = .ok sc' ∧
      is.foldl (stepF (toKh l) j0) (sk, bad) = (sk', bad) ∧ RR l sk' sc' := by
  induction is generalizing sk sc with
  | nil => exact ⟨sc, sk, rfl, rfl, h⟩
  | cons i is ih =>
    obtain ⟨sc1, sk1, e1, e2, h1⟩ := step_sim l hv j0 i ⟨hlt i List.mem_cons_self, hj⟩ h bad
    obtain ⟨sc2, sk2, e3, e4, h2⟩ := ih h1 (fun k hk => hlt k (List.mem_cons_of_mem _ hk))
    exact ⟨sc2, sk2, by rw [List.foldlM_cons, e1]; exact e3, by rw [List.foldl_cons, e2]; exact e4, h2⟩

theorem pass_sim (l : C18.Link) (hv : Valid l) (j0 : Nat) (hj : j0 < 4) {sk sc} (h : RR l sk sc) :
    ∃ sc' sk', C18.signsPass l j0 sc = .ok sc' ∧
      (List.range (toKh l).size).foldl (stepF (toKh l) j0) (sk, false) = (sk', false) ∧ RR l sk' sc' := by
  rw [size_toKh]
  exact fold_sim l hv j0 hj (List.range l.length) h (fun i hi => List.mem_range.1 hi) false

theorem any_congr_mem {α} (p q : α → Bool) (xs : List α) (h : ∀ x ∈ xs, p x = q x) : xs.any p = xs.any q := by
  induction xs with
  | nil => rfl
  | cons a r ih =>
    rw [List.any_cons, List.any_cons, h a List.mem_cons_self, ih (fun x hx => h x (List.mem_cons_of_mem _ hx))]

theorem need_sim (l : C18.Link) {sk sc} (h : RR l sk sc) :
    needF (toKh l) sk.1 = C18.signsIncomplete l sc.1 := by
  unfold needF C18.signsIncomplete
  rw [← Array.any_toList, Array.toList_range, size_toKh]
  apply any_congr_mem
  intro i hi
  have hi' := List.mem_range.1 hi
  rw [ct_toKh l i hi', isResolved_ctKh]
  congr 1
  rw [sg_getElem h.sg i (by rw [h.len]; exact hi'), encO_eq_zero]

/-- the reference's final loop over any index list, its array reads described by a function `f` of optional signs -/
theorem outF_gen (L : Link) (sg : Array Int) (f : Nat → Option C18.Sign) (is : List Nat) (out : Array Int)
    (h : ∀ i ∈ is, sg[i]! = encO (f i) ∧ (f i).isSome = !L[i]!.ct.isResolved) :
    is.foldlM (fun out i =>
        if L[i]!.ct.isResolved then some out else if sg[i]! == 0 then none else some (out.push sg[i]!)) out
      = some (out ++ ((is.filterMap f).map encSign).toArray) := by
  induction is generalizing out with
  | nil => exact congrArg some (Array.append_empty ..).symm
  | cons i is ih =>
    obtain ⟨h1, h2⟩ := h i List.mem_cons_self
    have ih := fun out => ih out (fun k hk => h k (List.mem_cons_of_mem _ hk))
    rw [List.foldlM_cons, List.filterMap_cons, h1]
    cases hf : f i <;> cases hr : L[i]!.ct.isResolved <;> rw [hf, hr] at h2
    · cases h2
    · exact ih out
    · rename_i a
      have hne : ¬ (encO (some a) == 0) = true := by rw [beq_iff_eq]; exact encSign_ne a
      rw [if_neg Bool.false_ne_true, if_neg hne, List.map_cons, List.toArray_cons, ← Array.append_assoc,
        ← Array.push_eq_append]
      exact ih _
    · cases h2

theorem finish_sim (l : C18.Link) (sg : Array Int) (sc : List (Option C18.Sign) × List Nat)
    (V : List (Nat × Nat)) (hJ : J l sc V) (hsg : sg.toList = sc.1.map encO)
    (h1 : ∀ i, i < l.length → (C18.ctypeAt l i).isResolved = false → (i, 1) ∈ V ∨ (i, 3) ∈ V) :
    outF (toKh l) sg = some (((sc.1.filterMap id).map encSign).toArray) := by
  unfold outF
  rw [size_toKh, outF_gen (toKh l) sg (fun i => sc.1.getD i none) _ _ ?_, hJ.filterMap_eq, Array.empty_append]
  intro i hi
  have hi' := List.mem_range.1 hi
  refine ⟨sg_getElem hsg i (by rw [hJ.len]; exact hi'), ?_⟩
  rw [ct_toKh l i hi', isResolved_ctKh]
  exact hJ.sg_isSome h1 i hi'

theorem passF_run (L : Link) (st : (Array Int × Array Nat) × Bool) (j0 : Nat)
    (h : (j0 == 0 || needF L st.1.1) = true) : passF L st j0 = (List.range L.size).foldl (stepF L j0) st :=
  if_pos h

theorem passF_skip (L : Link) (st : (Array Int × Array Nat) × Bool) (j0 : Nat)
    (h : (j0 == 0 || needF L st.1.1) = false) : passF L st j0 = st :=
  if_neg (h ▸ Bool.false_ne_true)

theorem runF_eq (L : Link) :
    runF L = passF L (passF L (passF L ((Array.replicate L.size 0, #[]), false) 0) 1) 2 := by
  rw [runF, List.foldl_cons, List.foldl_cons, List.foldl_cons, List.foldl_nil]

theorem signsF_of_runF {L : Link} {sk : Array Int × Array Nat} (h : runF L = (sk, false)) :
    signsF L = outF L sk.1 := by
  unfold signsF
  rw [h]
  rfl

theorem RR_init (l : C18.Link) :
    RR l (Array.replicate (toKh l).size 0, #[]) (List.replicate l.length none, []) where
  sg := by simp [size_toKh, encO]
  len := List.length_replicate
  passed := by intro e; simp

theorem signs_stable (l : C18.Link) (hv : Valid l) {sc1 sc2 : List (Option C18.Sign) × List Nat}
    {V1 V2 : List (Nat × Nat)} (J1 : J l sc1 V1) (J2 : J l sc2 V2) (m : ∀ h ∈ V1, h ∈ V2)
    (hinc : C18.signsIncomplete l sc1.1 = false) : sc2.1 = sc1.1 := by
  refine List.ext_getElem (J2.len.trans J1.len.symm) fun i h2 h1 => ?_
  have hi : i < l.length := J1.len ▸ h1
  have a1 := J1.sg i hi
  have a2 := J2.sg i hi
  rw [List.getD_eq_getElem?_getD, List.getElem?_eq_getElem h1, Option.getD_some] at a1
  rw [List.getD_eq_getElem?_getD, List.getElem?_eq_getElem h2, Option.getD_some] at a2
  rw [a1, a2]
  cases hr : (C18.ctypeAt l i).isResolved with
  | true =>
    unfold sgnV
    rw [C18.signAt_resolved _ hr 1 (by decide), C18.signAt_resolved _ hr 3 (by decide), ite_self, ite_self, ite_self,
      ite_self]
  | false =>
    have hne := C18.signsIncomplete_false l sc1.1 hinc i hi hr
    rw [List.getD_eq_getElem?_getD, List.getElem?_eq_getElem h1, Option.getD_some, a1] at hne
    by_cases b1 : (i, 1) ∈ V1
    · rw [sgnV, sgnV, if_pos b1, if_pos (m _ b1)]
    · have b3 := (C18.sgnV_ne_none hne).resolve_left b1
      have c1 : (i, 1) ∉ V2 := (C18.thru_over l i hr).2 ▸ J2.swept.nothru hv _ (m _ b3)
      rw [sgnV, sgnV, if_neg b1, if_pos b3, if_neg c1, if_pos (m _ b3)]

/-- THE BRIDGE for `crossing_signs`: on every valid link both programs return, and the reference's functional
form returns the encoding of the code model's result -/
theorem signsF_toKh (l : C18.Link) (hv : Valid l) :
    ∃ s, C18.crossingSigns l = .ok s ∧ signsF (toKh l) = some (s.map encSign).toArray := by
  obtain ⟨sc0, V0, sc, V, e0, _, _, _, hJ, _, h1, hres, hcase⟩ := C18.crossingSigns_run l hv
  obtain ⟨sc0', sk0, e0', k0, R0⟩ := pass_sim l hv 0 (by decide) (RR_init l)
  rw [e0] at e0'; cases e0'
  have hn0 := need_sim l R0
  have p0 : passF (toKh l) ((Array.replicate (toKh l).size 0, #[]), false) 0 = (sk0, false) :=
    (passF_run _ _ 0 rfl).trans k0
  refine ⟨_, hres, ?_⟩
  -- the reference's run (its passes 1, 2 run or skipped) ends in a state that carries the signs of `sc`
  suffices h : ∃ skF, runF (toKh l) = (skF, false) ∧ skF.1.toList = sc.1.map encO by
    obtain ⟨skF, hrun, hsg⟩ := h
    rw [signsF_of_runF hrun]
    exact finish_sim l skF.1 sc V hJ hsg h1
  rcases hcase with ⟨hinc, rfl, rfl⟩ | ⟨hinc, sc1, V1, e1, e2, J1, m2, _⟩
  · have q : ∀ j0, (j0 == 0) = false → passF (toKh l) (sk0, false) j0 = (sk0, false) := fun j0 hj =>
      passF_skip _ _ j0 (by rw [hj, hn0, hinc]; rfl)
    exact ⟨sk0, by rw [runF_eq, p0, q 1 rfl, q 2 rfl], R0.sg⟩
  · obtain ⟨sc1', sk1, e1', k1, R1⟩ := pass_sim l hv 1 (by decide) R0
    rw [e1] at e1'; cases e1'
    obtain ⟨sc2', sk2, e2', k2, R2⟩ := pass_sim l hv 2 (by decide) R1
    rw [e2] at e2'; cases e2'
    have p1 : passF (toKh l) (sk0, false) 1 = (sk1, false) :=
      (passF_run _ _ 1 (by rw [hn0, hinc]; rfl)).trans k1
    have hn1 := need_sim l R1
    cases hinc1 : C18.signsIncomplete l sc1.1 with
    | true =>
      exact ⟨sk2, by rw [runF_eq, p0, p1, (passF_run _ _ 2 (by rw [hn1, hinc1]; rfl)).trans k2], R2.sg⟩
    | false =>
      refine ⟨sk1, by rw [runF_eq, p0, p1, passF_skip _ _ 2 (by rw [hn1, hinc1]; rfl)], ?_⟩
      rw [signs_stable l hv J1 hJ m2 hinc1]
      exact R1.sg

end Yuiv.C18Bridge
