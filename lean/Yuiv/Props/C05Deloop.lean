import Yuiv.Proofs.C05Deloop
/-
C05 (engine kernel) — delooping and Gaussian elimination of `TngComplex`
(`yui-khovanov/src/kh/internal/v2/tng_complex.rs`: `deloop` l.485, `deloop_with` l.515, `eliminate` l.548).
Model: `Yuiv/Model/C05Deloop.lean`.

`A = R[X]/(X² − hX − t)` is Mathlib's `QuadraticAlgebra R t h`; `ε = counit` (`ε 1 = 0`, `ε X = 1`);
`dotA : None ↦ 1, X ↦ X, Y ↦ Y = X − h`; closed surfaces are evaluated with the code model `evalClosed`
of `CobComp::eval` (`pairing`, `coord`).  Every statement is for EVERY commutative ring `R` with lawful `Coef`
operations and ALL `h, t` (the purely algebraic ones for every commutative ring).

What the code builds (the convention that is verified here):

    copy  label  q-shift   cap glued on incoming edges   cup glued under outgoing edges
     X     X      −1        plain   (Dot::None)            X-dotted (Dot::X)
     1     I      +1        Y-dotted (Dot::Y)              plain   (Dot::None)
    based circle: only the X copy.

NOT covered: that `deloop`/`eliminate` apply these maps to every incident edge of the graph (hash-map
bookkeeping of `rename_vertex_key`, `duplicate_vertex`, `modify_edge`, `remove_vertex`), functoriality of
`cap_off` for components with further boundary, and the tracked `elements` of the builder.
-/
namespace Yuiv.C05.Deloop
open Yuiv Yuiv.C05 Matrix

/-- Unreduced case, `A ≅ R·X ⊕ R·1`.
(1) `R ⊕ R → A → R ⊕ R` is the identity: the 2×2 matrix of the spheres "cup of copy `i`, then cap of copy `j`",
evaluated by `CobComp::eval`, is the identity matrix (`ε(X) = 1, ε(XY) = 0, ε(1) = 0, ε(Y) = 1`).
(2) `A → R ⊕ R → A` is the identity: `a = ε(a·1)·X + ε(a·Y)·1` for every `a ∈ A`.
(3) the same with the code's evaluation: a cup with `g` handles and dots `(x, y)` (the general connected
cobordism bounding the circle) is the combination of the two dotted cups with the coefficients obtained by
capping it off with the dots of the two copies (`CobComp::eval` succeeds on both). -/
theorem deloop_iso {R : Type} [CommRing R] [Coef R] [LawfulCoef R] (h t : R) :
    (∀ ci ∈ deloopCopies false, ∀ cj ∈ deloopCopies false,
        pairing h t ci cj = .ok (if ci.label = cj.label then 1 else 0))
    ∧ (∀ a : A h t, a = counit (a * dotA h t copyX.deathDot) • dotA h t copyX.birthDot
          + counit (a * dotA h t copyI.deathDot) • dotA h t copyI.birthDot)
    ∧ (∀ g x y : Nat, ∃ rX rI : R, coord h t copyX g x y = .ok rX ∧ coord h t copyI g x y = .ok rI
          ∧ cupA h t g x y = rX • dotA h t copyX.birthDot + rI • dotA h t copyI.birthDot) := by
  refine ⟨?_, reconstruct h t, fun g x y => ⟨_, _, coord_eq h t copyX g x y, coord_eq h t copyI g x y,
    reconstruct h t _⟩⟩
  intro ci hi cj hj
  simp only [deloopCopies, Bool.false_eq_true, if_false, List.mem_cons, List.not_mem_nil, or_false] at hi hj
  rw [pairing_eq]
  rcases hi with rfl | rfl <;> rcases hj with rfl | rfl <;>
    simp [copyX, copyI, dotA, counit, Xd, Yd, QuadraticAlgebra.im_one]

/-- the four entries, spelled out -/
theorem deloop_iso_entries {R : Type} [CommRing R] [Coef R] [LawfulCoef R] (h t : R) :
    pairing h t copyX copyX = .ok 1 ∧ pairing h t copyX copyI = .ok 0
    ∧ pairing h t copyI copyX = .ok 0 ∧ pairing h t copyI copyI = .ok 1 := by
  have := (deloop_iso h t).1
  refine ⟨?_, ?_, ?_, ?_⟩
  · simpa using this copyX (by simp [deloopCopies]) copyX (by simp [deloopCopies])
  · simpa [copyX, copyI] using this copyX (by simp [deloopCopies]) copyI (by simp [deloopCopies])
  · simpa [copyX, copyI] using this copyI (by simp [deloopCopies]) copyX (by simp [deloopCopies])
  · simpa using this copyI (by simp [deloopCopies]) copyI (by simp [deloopCopies])

/-- Based (reduced) case: only the `X` copy is kept (`deloop`, `if based` branch).  The pair
`R --X-dotted cup--> A --plain cap--> R` is the identity for all `h, t` (`ε(X) = 1`); the other composite is the
identity ON THE IDEAL `X·A` (the reduced complex: the based circle carries `X`) exactly up to the error term
`t·ε(b)`, so it is the identity when `t = 0` — the condition `KhComplex::new` asserts for `reduced`
(`ctorGuard` of `Model/C05`).  `TngComplex::init` itself does not check it. -/
theorem deloop_iso_based {R : Type} [CommRing R] [Coef R] [LawfulCoef R] (h t : R) :
    deloopCopies true = [copyX]
    ∧ pairing h t copyX copyX = .ok 1
    ∧ (∀ b : A h t, Xd h t * b
        = counit (Xd h t * b * dotA h t copyX.deathDot) • dotA h t copyX.birthDot + Cc h t (t * counit b))
    ∧ (t = 0 → ∀ b : A h t, Xd h t * b
        = counit (Xd h t * b * dotA h t copyX.deathDot) • dotA h t copyX.birthDot)
    ∧ (t = 0 → ∀ g x y : Nat, ∃ r : R, coord h t copyX g (x + 1) y = .ok r
        ∧ cupA h t g (x + 1) y = r • dotA h t copyX.birthDot) := by
  refine ⟨rfl, (deloop_iso_entries h t).1, reconstruct_based h t, ?_, ?_⟩
  · intro ht b
    subst ht
    exact reconstruct_based_zero h b
  · intro ht g x y
    subst ht
    refine ⟨_, coord_eq h 0 copyX g (x + 1) y, ?_⟩
    have hx : cupA h 0 g (x + 1) y = Xd h 0 * cupA h 0 g x y := by unfold cupA; ring
    rw [hx]
    exact reconstruct_based_zero h (cupA h 0 g x y)

/-- the error term of the based case is really there when `t ≠ 0` (so `t = 0` cannot be dropped):
over `ℤ` with `h = 0, t = 1`, `X·X = 1` is not a multiple of `X`. -/
example : Xd (0 : Int) 1 * Xd 0 1
    ≠ counit (Xd (0 : Int) 1 * Xd 0 1 * dotA 0 1 copyX.deathDot) • dotA 0 1 copyX.birthDot := by
  intro h
  have := congrArg QuadraticAlgebra.re h
  simp [Xd, dotA, copyX, counit] at this

/-- Gradings.  Convention of the engine (Bar-Natan): an edge `f : v → w` has total degree
`deg f + q(w) − q(v)`, it must be `0`; `deg` = `CobComp::deg` = `χ − #endpts/2 − 2·#dots`, coefficients count
with `deg h = −2`, `deg t = −4`; a label entry `I` / `X` shifts `q` by `+1` / `−1` (`KhGen::q_deg`).
(1) for every copy of either branch, the cap into it and the cup out of it have total degree 0;
(2) capping any component (any boundary data, genus, dots) with a dotted disc adds exactly the degree of that
disc, so an incoming/outgoing edge of total degree 0 stays of total degree 0 after `deloop_with`;
(3) the shifts are `−1` (copy `X`) and `+1` (copy `1`). -/
theorem deloop_degrees :
    (∀ based : Bool, ∀ c ∈ deloopCopies based,
        discDeg c.deathDot + c.label.qShift = 0 ∧ discDeg c.birthDot - c.label.qShift = 0)
    ∧ (∀ (d : Dot) (nbdr endpts g x y : Nat),
        C05.deg nbdr endpts g (addDot d (x, y)).1 (addDot d (x, y)).2
          = C05.deg (nbdr + 1) endpts g x y + discDeg d)
    ∧ copyX.label.qShift = -1 ∧ copyI.label.qShift = 1 := by
  refine ⟨by decide, ?_, by decide, by decide⟩
  intro d nbdr endpts g x y
  cases d <;> simp only [discDeg, C05.deg, eulerNum, addDot] <;> omega

/-- The scalars of the 2×2 matrix of `deloop_iso` are homogeneous for the shifts: with polynomial parameters
`h = H`, `t = T` (`deg H = −2`, `deg T = −4`), every monomial `H^a T^b` occurring in the value of the sphere
"cup of copy `i`, cap of copy `j`" satisfies `deg(H^a T^b) + q-shift(j) − q-shift(i) = 0`. -/
theorem deloop_degrees_pairing :
    ∀ ci ∈ deloopCopies false, ∀ cj ∈ deloopCopies false,
      ∀ p ∈ partEval HT.H HT.T true 0 (addDot cj.deathDot (cupDots ci)).1 (addDot cj.deathDot (cupDots ci)).2,
        ∀ q ∈ p.2, monoDeg q.1 + cj.label.qShift - ci.label.qShift = 0 := by
  intro ci hi cj hj p hp q hq
  have hw := partEval_HT_homog true 0 _ _ p hp q hq
  have hk : p.1 = Key.empty := by
    rcases partEval_closed_scalar HT.H HT.T 0 (addDot cj.deathDot (cupDots ci)).1
      (addDot cj.deathDot (cupDots ci)).2 with h0 | ⟨r, h1⟩
    · rw [h0] at hp; cases hp
    · rw [h1, List.mem_singleton] at hp
      rw [hp]
  rw [hk, Nat.zero_add] at hw
  have hc := addDot_count cj.deathDot (cupDots ci)
  have h1 := (copy_dots_shift ci hi).1
  have h2 := (copy_dots_shift cj hj).2
  rw [monoDeg_eq]
  unfold capDots at h2
  simp only [Key.dots] at hw
  omega

/-- non-vacuity: the diagonal entries do have a term (the constant monomial) -/
example : partEval HT.H HT.T true 0 (addDot copyX.deathDot (cupDots copyX)).1
    (addDot copyX.deathDot (cupDots copyX)).2 = [(Key.empty, [((0, 0), 1)])] := by
  simp [partEval, addDot, cupDots, copyX]; decide

/-- One elimination step, every block 1×1, entries in ANY ring `R` (not necessarily commutative — composition
of cobordisms is not), edges stored as `Option` (absent = 0).
`u --[x; y]--> k0 ⊕ l0 --[[a, b], [c, d]]--> k1 ⊕ l1 --[z w]--> u'` with `M·in = 0`, `out·M = 0`, the pivot `a`
present and inverted by `LcCob::inv` (any `inv` that returns two-sided inverses).  Then `eliminate` does not
panic, the entry `l0 → l1` becomes `d − c·a⁻¹·b` (whether or not the edge `d`, `b` or `c` existed), the
neighbours become `in' = y`, `out' = w`, and `d'·in' = 0`, `out'·d' = 0`.
This is the case `r = m = n = k = l = Unit` of `C08.schur_step_in_sq_zero` / `schur_step_out_sq_zero`
(see `eliminate_step_blocks` for arbitrarily many neighbours), proved here directly for the code model. -/
theorem eliminate_step {R : Type} [Ring R] (isZero : R → Bool) (hz : ∀ r, isZero r = true → r = 0)
    (inv : R → Option R) (hinv : ∀ a ai, inv a = some ai → a * ai = 1 ∧ ai * a = 1)
    (m : Blk R) (a ainv : R) (ha : m.a = some a) (hai : inv a = some ainv)
    (hMN1 : a * val m.x + val m.b * val m.y = 0) (hMN2 : val m.c * val m.x + val m.d * val m.y = 0)
    (hLM1 : val m.z * a + val m.w * val m.c = 0) (hLM2 : val m.z * val m.b + val m.w * val m.d = 0) :
    ∃ red, eliminate isZero inv m = .ok red
      ∧ val red.d' = val m.d - val m.c * ainv * val m.b
      ∧ red.in' = m.y ∧ red.out' = m.w
      ∧ val red.d' * val red.in' = 0 ∧ val red.out' * val red.d' = 0 := by
  obtain ⟨h1, h2⟩ := hinv a ainv hai
  refine ⟨⟨m.y, elimEntry isZero ainv m.b m.c m.d, m.w⟩, ?_, elimEntry_val isZero hz ainv _ _ _, rfl, rfl, ?_, ?_⟩
  · simp only [eliminate, ha, hai]
  · show val (elimEntry isZero ainv m.b m.c m.d) * val m.y = 0
    rw [elimEntry_val isZero hz]
    have hby : val m.b * val m.y = -(a * val m.x) := eq_neg_of_add_eq_zero_right hMN1
    rw [sub_mul, mul_assoc _ (val m.b), hby, mul_neg, mul_assoc (val m.c), ← mul_assoc ainv, h2, one_mul,
      sub_neg_eq_add, add_comm]
    exact hMN2
  · show val m.w * val (elimEntry isZero ainv m.b m.c m.d) = 0
    rw [elimEntry_val isZero hz]
    have hwc : val m.w * val m.c = -(val m.z * a) := eq_neg_of_add_eq_zero_right hLM1
    rw [mul_sub, ← mul_assoc, ← mul_assoc, hwc, neg_mul, neg_mul, mul_assoc (val m.z), h1, mul_one,
      sub_neg_eq_add, add_comm]
    exact hLM2

/-- `a.inv()` failing or a missing pivot edge is a panic, never a silent wrong answer -/
theorem eliminate_panics {R : Type} [Ring R] (isZero : R → Bool) (inv : R → Option R) (m : Blk R)
    (h : m.a = none ∨ ∃ a, m.a = some a ∧ inv a = none) : eliminate isZero inv m = .panic := by
  rcases h with h | ⟨a, h1, h2⟩
  · simp only [eliminate, h]
  · simp only [eliminate, h1, h2]

/-- non-vacuity of `eliminate_step` over `ℤ`: pivot `−1`, `b = 2`, `c = 3`, `d = −6`, neighbours `x = 2, y = 1`,
`z = 3, w = 1` satisfy all four hypotheses; the new entry `−6 − 3·(−1)·2 = 0` is not stored.  Second example:
the edge `d` is absent and the new entry is `0 − 3·(−1)·2 = 6`. -/
example : let m : Blk Int := ⟨some 2, some 1, some (-1), some 2, some 3, some (-6), some 3, some 1⟩
    ((-1 : Int) * val m.x + val m.b * val m.y = 0 ∧ val m.c * val m.x + val m.d * val m.y = 0
      ∧ val m.z * (-1) + val m.w * val m.c = 0 ∧ val m.z * val m.b + val m.w * val m.d = 0)
    ∧ eliminate (fun r => r == 0) (fun r => if r = 1 ∨ r = -1 then some r else none) m
        = .ok ⟨some 1, none, some 1⟩ := by decide +kernel

example : eliminate (fun r : Int => r == 0) (fun r => if r = 1 ∨ r = -1 then some r else none)
    ⟨none, none, some (-1), some 2, some 3, none, none, none⟩ = .ok ⟨none, some 6, none⟩ := by decide +kernel

/-- The same step with arbitrarily many other vertices (`l0ⱼ`, `j : n`; `l1ᵢ`, `i : m`; predecessors `k`,
successors `l`) around the single pivot edge — the shape `TngComplex::eliminate` really handles.  The matrix of
the entries the code writes (`elimFn`) is the Schur complement `d − c·a⁻¹·b`, and the untouched neighbours `y`,
`w` compose to zero with it.  Corollary of `C08.schur_step_in_sq_zero`, `C08.schur_step_out_sq_zero`
specialised to a 1×1 pivot block. -/
theorem eliminate_step_blocks {R : Type} [Ring R] {m n k l : Type} [Fintype m] [Fintype n]
    (isZero : R → Bool) (hz : ∀ r, isZero r = true → r = 0)
    (a ainv : R) (hai : a * ainv = 1) (hia : ainv * a = 1)
    (b : n → Option R) (c : m → Option R) (d : m → n → Option R)
    (x : Matrix Unit k R) (y : Matrix n k R) (z : Matrix l Unit R) (w : Matrix l m R)
    (hMN : fromBlocks (pivM a) (rowM b) (colM c) (matM d) * fromRows x y = 0)
    (hLM : fromCols z w * fromBlocks (pivM a) (rowM b) (colM c) (matM d) = 0) :
    matM (elimFn isZero ainv b c d) = matM d - colM c * pivM ainv * rowM b
    ∧ matM (elimFn isZero ainv b c d) * y = 0
    ∧ w * matM (elimFn isZero ainv b c d) = 0 := by
  have e := elimFn_matM isZero hz ainv b c d
  have h1 : pivM ainv * pivM a = 1 := by rw [pivM_mul, hia, pivM_one]
  have h2 : pivM a * pivM ainv = 1 := by rw [pivM_mul, hai, pivM_one]
  refine ⟨e, ?_, ?_⟩
  · rw [e]; exact C08.schur_step_in_sq_zero (pivM a) _ _ _ _ x y h1 hMN
  · rw [e]; exact C08.schur_step_out_sq_zero (pivM a) _ _ _ _ z w h2 hLM

/-- non-vacuity of `eliminate_step_blocks` (two vertices `l0`, two vertices `l1`, over `ℤ`, pivot `1`) -/
example :
    let b : Fin 2 → Option Int := ![some 2, none]
    let c : Fin 2 → Option Int := ![some 3, none]
    let d : Fin 2 → Fin 2 → Option Int := ![![some 6, none], ![none, some 5]]
    let x : Matrix Unit (Fin 1) Int := Matrix.of fun _ _ => -2
    let y : Matrix (Fin 2) (Fin 1) Int := !![1; 0]
    fromBlocks (pivM 1) (rowM b) (colM c) (matM d) * fromRows x y = 0
      ∧ matM (elimFn (fun r => r == 0) 1 b c d) = !![0, 0; 0, 5] := by
  decide +kernel

end Yuiv.C05.Deloop
