import Yuiv.Proofs.C13Gen
/-
C13 — the hand-written model of the index-remapping functions of `SpMat` (`Yuiv/Model/C13.lean`), about which
`Props/C13.lean` proves the entry lemmas (`permute_entries`, `submat_entries`, `divide4_entries`, `combine_blocks_entries`,
`extend_cols_columns`, …), IS the source text of `/repo/yui-matrix/src/sparse/sp_mat.rs`.

`Yuiv.GenSpMat.*` (file `Yuiv/Gen/SpMatFn.lean`) is regenerated from the Rust source by `tools/rs2lean_fn.py fn:spmat` on
every `./check` run, over the same representation and the same scalar classes.  Every theorem is an unconditional
equality generated = model, including all panics (`assert!`, `assert_eq!`, `CooMatrix::push` outside the shape,
`PermView::at` out of range, checked `usize` subtraction, `pop().unwrap()`, `try_from_csc_data(..).unwrap()`).
-/
namespace Yuiv.C13Gen
open Yuiv Res Yuiv.Rust Yuiv.C13

variable {R : Type} [Zero R] [One R] [Add R] [DecidableEq R]

theorem gen_from_entries_eq (m n : Nat) (es : List (Trip R)) :
    GenSpMat.SpMat.from_entries (m, n) es = fromEntries m n es := by
  unfold GenSpMat.SpMat.from_entries
  show (Sp.forList es GenSpMat.SpMat.from_entries_for1 (⟨m, n, []⟩ : Sp.Coo R) >>= _) = cooFrom m n (nz es)
  rw [from_entries_loop, cooFrom_def]
  show ((if inR m n (nz es) = true then _ else _) >>= _) = _
  cases inR m n (nz es) <;> rfl

theorem gen_extract_eq (A : SpMat R) (m n : Nat) (f : Nat → Nat → Res (Option (Nat × Nat))) :
    GenSpMat.SpMat.extract A (m, n) f = A.extract m n f := by
  unfold GenSpMat.SpMat.extract C13.SpMat.extract Sp.iter
  rw [extract_map]
  refine bind_congr (fun es => ?_)
  exact gen_from_entries_eq m n es

theorem gen_permute_eq (A : SpMat R) (p q : Perm) : GenSpMat.SpMat.permute A p q = A.permute p q := by
  unfold GenSpMat.SpMat.permute C13.SpMat.permute
  rw [show Sp.shape A = (A.nrows, A.ncols) from rfl, gen_extract_eq]
  rfl

theorem gen_permute_rows_eq (A : SpMat R) (p : Perm) : GenSpMat.SpMat.permute_rows A p = A.permuteRows p := by
  unfold GenSpMat.SpMat.permute_rows C13.SpMat.permuteRows
  exact gen_permute_eq A p _

theorem gen_permute_cols_eq (A : SpMat R) (q : Perm) : GenSpMat.SpMat.permute_cols A q = A.permuteCols q := by
  unfold GenSpMat.SpMat.permute_cols C13.SpMat.permuteCols
  exact gen_permute_eq A _ q

theorem gen_submat_eq (A : SpMat R) (i0 i1 j0 j1 : Nat) :
    GenSpMat.SpMat.submat A (i0, i1) (j0, j1) = A.submat i0 i1 j0 j1 := by
  unfold GenSpMat.SpMat.submat C13.SpMat.submat
  simp only []
  by_cases h1 : i0 ≤ i1 ∧ i1 ≤ A.nrows
  · by_cases h2 : j0 ≤ j1 ∧ j1 ≤ A.ncols
    · simp only [h1.1, h1.2, h2.1, h2.2, decide_true, Bool.and_self, assert_true, bind_ok, U64.sub, if_true, gen_extract_eq]
      congr 1
      funext i j
      unfold GenSpMat.SpMat.submat_closure1 Sp.range_contains
      by_cases hc : ((decide (i0 ≤ i) && decide (i < i1)) && (decide (j0 ≤ j) && decide (j < j1))) = true
      · obtain ⟨⟨hi, _⟩, hj, _⟩ : (i0 ≤ i ∧ i < i1) ∧ j0 ≤ j ∧ j < j1 := by simpa using hc
        simp only [hc, if_true]
        simp only [U64.sub, hi, hj, if_true, bind_ok]
      · simp only [hc]; rfl
    · simp only [h1.1, h1.2, decide_true, Bool.and_self, assert_true, bind_ok, decide_and_false h2, assert_false]; rfl
  · simp only [decide_and_false h1, assert_false]; rfl

theorem gen_submat_rows_eq (A : SpMat R) (i0 i1 : Nat) : GenSpMat.SpMat.submat_rows A (i0, i1) = A.submatRows i0 i1 := by
  unfold GenSpMat.SpMat.submat_rows C13.SpMat.submatRows
  exact gen_submat_eq A i0 i1 0 A.ncols

theorem gen_submat_cols_eq (A : SpMat R) (j0 j1 : Nat) : GenSpMat.SpMat.submat_cols A (j0, j1) = A.submatCols j0 j1 := by
  unfold GenSpMat.SpMat.submat_cols C13.SpMat.submatCols
  exact gen_submat_eq A 0 A.nrows j0 j1

theorem gen_combine_blocks_eq (a b c d : SpMat R) :
    GenSpMat.SpMat.combine_blocks (a, b, c, d) = combineBlocks a b c d := by
  unfold GenSpMat.SpMat.combine_blocks combineBlocks
  simp only []
  refine bind_congr (fun _ => ?_)
  refine bind_congr (fun _ => ?_)
  refine bind_congr (fun _ => ?_)
  refine bind_congr (fun _ => ?_)
  rw [gen_from_entries_eq]
  congr 1
  have hc : ∀ di dj : Nat, GenSpMat.SpMat.combine_blocks_closure2 (R := R) di dj = fun t => (t.1 + di, t.2.1 + dj, t.2.2) := by
    intro di dj; funext t; obtain ⟨i, j, r⟩ := t; rfl
  simp only [List.flatMap_cons, List.flatMap_nil, List.append_nil, GenSpMat.SpMat.combine_blocks_closure1, Sp.iter,
    shiftTrips, hc, List.append_assoc]

theorem gen_concat_eq (A B : SpMat R) : GenSpMat.SpMat.concat A B = A.concat B := by
  unfold GenSpMat.SpMat.concat C13.SpMat.concat
  exact gen_combine_blocks_eq _ _ _ _

theorem gen_stack_eq (A B : SpMat R) : GenSpMat.SpMat.stack A B = A.stack B := by
  unfold GenSpMat.SpMat.stack C13.SpMat.stack
  exact gen_combine_blocks_eq _ _ _ _

/-! ### `extend_cols` (raw CSC arrays) -/

theorem gen_extend_cols_eq (A B : SpMat R) : GenSpMat.SpMat.extend_cols A B = A.extendCols B := by
  unfold GenSpMat.SpMat.extend_cols C13.SpMat.extendCols
  refine bind_congr (fun _ => ?_)
  by_cases h0 : B.ncols = 0
  · simp only [h0, decide_true, if_true]
  · simp only [h0, decide_false, Bool.false_eq_true, if_false, Sp.disassemble, try_unwrap]
    cases (A.disassemble).1.getLast? with
    | none => simp [Opt.unwrap]
    | some offset =>
      simp only [Opt.unwrap, bind_ok]
      have hc : GenSpMat.SpMat.extend_cols_closure1 (R := R) offset = fun i => offset + i := rfl
      rw [hc]
      generalize tryFromCsc A.nrows (A.ncols + B.ncols) _ _ _ = x
      cases x <;> rfl

/-! ### `from_col_vecs` (raw CSC arrays) -/

theorem gen_from_col_vecs_eq (n : Nat) (vs : List (SpVec R)) :
    GenSpMat.SpMat.from_col_vecs n vs = fromColVecs n vs := by
  unfold GenSpMat.SpMat.from_col_vecs fromColVecs
  show (GenSpMat.SpMat.from_col_vecs_loop1 vs n [0] [] [] >>= _) = (_ >>= fun _ => match List.foldl fcvStep ([0], [], []) vs with
      | (offs, rows, vals) => tryFromCsc n (offs.length - 1) offs rows vals)
  rw [fcv_loop]
  cases vs.all (fun v => decide (n = v.dim))
  · simp [assert_false]
  · have hlen := fcv_offs_len vs (([0], [], []) : List Nat × List Nat × List R)
    have h1 : 1 ≤ (List.foldl fcvStep (([0], [], []) : List Nat × List Nat × List R) vs).1.length := by
      rw [hlen]; simp
    simp only [if_true, bind_ok, assert_true, U64.sub, h1, try_unwrap]

theorem gen_from_row_perm_eq (p : Perm) : GenSpMat.SpMat.from_row_perm (R := R) p = fromRowPerm p := by
  unfold GenSpMat.SpMat.from_row_perm fromRowPerm
  simp only [Nat.sub_zero, perm_map p (fun i r => (r, i, (1 : R))) (GenSpMat.SpMat.from_row_perm_closure1 p) (fun _ => rfl),
    List.range_eq_range', bind_mapR, gen_from_entries_eq]

theorem gen_from_col_perm_eq (p : Perm) : GenSpMat.SpMat.from_col_perm (R := R) p = fromColPerm p := by
  unfold GenSpMat.SpMat.from_col_perm fromColPerm
  simp only [Nat.sub_zero, perm_map p (fun i r => (i, r, (1 : R))) (GenSpMat.SpMat.from_col_perm_closure1 p) (fun _ => rfl),
    List.range_eq_range', bind_mapR, gen_from_entries_eq]

theorem gen_divide4_eq (A : SpMat R) (k l : Nat) : GenSpMat.SpMat.divide4 A (k, l) = A.divide4 k l := by
  unfold GenSpMat.SpMat.divide4 C13.SpMat.divide4
  simp only []
  by_cases hk : k ≤ A.nrows
  · by_cases hl : l ≤ A.ncols
    · simp only [hk, hl, decide_true, assert_true, bind_ok, U64.sub, if_true, Sp.Coo.new, Sp.iter]
      rw [divide4_loop k l A.triplets ⟨k, l, []⟩ ⟨k, A.ncols - l, []⟩ ⟨A.nrows - k, l, []⟩ ⟨A.nrows - k, A.ncols - l, []⟩]
      -- each `cooFrom` of the model is, by definition, the test `inR` of its block in front of `cooToCsc`
      exact guard4 _ _ _ _ _ _ _ _ _ _ rfl
    · simp only [hk, hl, decide_true, decide_false, assert_true, assert_false, bind_ok]; rfl
  · simp only [hk, decide_false, assert_false]; rfl

end Yuiv.C13Gen
