import Yuiv.Proofs.C03Uct
import Yuiv.Props.C07Full
/-
C03Bridge — helper lemmas connecting the abstract diagonal forms of `Proofs/C03Uct.lean` (`EquivDiag`, `cellOf`,
`torsOf`) with the CODE MODELS of the library's Smith normal form (`C09.snfCalc intOps`, Model/C09.lean) and of
`HomologyCalc::calculate` running on it (`C07.calculate (C07.snfC09 fuel)`, Model/C07Calc.lean + Proofs/C07Full.lean).
-/
namespace Yuiv.C03Bridge
open Matrix Yuiv Yuiv.C03 Yuiv.C03Uct

theorem diagL_length {m n : ℕ} (T : C09.Mat Int m n) : (C09.diagL T).length = min m n := by
  simp [C09.diagL]

theorem diagL_getD {m n : ℕ} (T : C09.Mat Int m n) (k : ℕ) :
    (C09.diagL T).getD k 0 = C09.Euc.dgz C09.intOps id T k := by
  rw [← List.map_id (C09.diagL T), C09.Euc.diagL_map_dgz (e := C09.intOps), List.getD_eq_getElem?_getD,
    List.getElem?_map]
  by_cases hk : k < min m n
  · rw [List.getElem?_range hk]; rfl
  · rw [List.getElem?_eq_none (by rw [List.length_range]; omega), C09.Euc.dgz_out C09.lawfulEuc_int T k (by omega)]; rfl

theorem toM_eq_rectDiag {m n : ℕ} (T : C09.Mat Int m n)
    (hD : ∀ (i : Fin m) (j : Fin n), i.1 ≠ j.1 → T.get i j = 0) :
    C09.toM id T = rectDiag m n (fun k => (C09.diagL T).getD k 0) := by
  ext i j
  rw [C09.toM_apply, rectDiag_apply, C09.Euc.DiagZ.get_eq (e := C09.intOps) (φ := id) hD i j, diagL_getD]

/-- `ShapeSpec (0 ≤ ·)` unfolded: all entries `≥ 0`, and EVERY entry divides the next one (the zeros at the end
included, everything divides `0`) -/
theorem shapeSpec_nonneg_chain (d : List Int) (h : C09.ShapeSpec (fun x : Int => 0 ≤ x) d) :
    (∀ x ∈ d, 0 ≤ x) ∧ (∀ i (hi : i + 1 < d.length), d[i] ∣ d[i + 1]) := by
  obtain ⟨r, _, hnz, hz, hch⟩ := h
  constructor
  · intro x hx
    obtain ⟨i, hi, rfl⟩ := List.getElem_of_mem hx
    by_cases hir : i < r
    · exact (hnz i hi hir).2
    · rw [hz i hi (by omega)]
  · intro i hi
    by_cases hir : i + 1 < r
    · exact hch i hi hir
    · rw [hz (i + 1) hi (by omega)]; exact Int.dvd_zero _

theorem nzCount_eq_nz {m n : ℕ} (st : C09.St Int m n) : C07.nzCount st = nz (C09.diagL st.t) := rfl

/-- on a non-negative diagonal the library's `≠ 0, ≠ 1` filter is `torsOf` (`|x| ≠ 1`) -/
theorem nonUnitFactors_eq_torsOf {m n : ℕ} (st : C09.St Int m n) (hnn : ∀ x ∈ C09.diagL st.t, 0 ≤ x) :
    C07.nonUnitFactors st = torsOf (C09.diagL st.t) := by
  unfold C07.nonUnitFactors torsOf
  apply List.filter_congr
  intro x hx
  have h0 := hnn x hx
  by_cases hx0 : x = 0
  · simp [hx0]
  · by_cases hx1 : x = 1
    · simp [hx1]
    · have : x.natAbs ≠ 1 := by omega
      simp [hx0, hx1, this]

theorem equivDiag_cast {r c c' : ℕ} (M : C07.Mat) (d : List ℤ) (hc : c = c')
    (h : EquivDiag (M.toM r c) d) : EquivDiag (M.toM r c') d := by
  subst hc; exact h

end Yuiv.C03Bridge
