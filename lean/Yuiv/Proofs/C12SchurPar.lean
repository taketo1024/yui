import Yuiv.Model.C12SchurPar
import Yuiv.Gen.SchurFn
/-
C12 — helper lemmas for the schedule independence of rayon's indexed collect (`Model/C12SchurPar.lean`) and its
instance for `compute_schur`.  Core Lean only.
-/
namespace Yuiv.C12Par
open Yuiv Res

/-- every index of `0..n` is handed to exactly one task (any worker, any order) -/
def ValidSched (n : Nat) (sched : List (Nat × Nat)) : Prop := (sched.map (·.2)).Perm (List.range n)

instance (n : Nat) (sched : List (Nat × Nat)) : Decidable (ValidSched n sched) := by
  unfold ValidSched; exact inferInstance

theorem readSlots_map_some {β : Type} (l : List β) : readSlots (l.map some) = ok l := by
  induction l with
  | nil => rfl
  | cons v l ih => simp [readSlots, ih]

theorem readSlots_none {β : Type} (l : List (Option β)) (h : none ∈ l) : readSlots l = panic := by
  induction l with
  | nil => simp at h
  | cons o l ih =>
    cases o with
    | none => rfl
    | some v =>
      have : none ∈ l := by simpa using h
      simp [readSlots, ih this]

/-- the slots after the tasks of `evs` have written `f j` into slot `j` -/
def written {β : Type} (f : Nat → β) (slots : Array (Option β)) (evs : List (Nat × Nat)) : Array (Option β) :=
  evs.foldl (fun s e => s.setIfInBounds e.2 (some (f e.2))) slots

theorem written_cons {β : Type} (f : Nat → β) (slots : Array (Option β)) (e : Nat × Nat) (evs : List (Nat × Nat)) :
    written f slots (e :: evs) = written f (slots.setIfInBounds e.2 (some (f e.2))) evs := rfl

theorem getElem?_written {β : Type} (f : Nat → β) (evs : List (Nat × Nat)) (slots : Array (Option β)) (k : Nat) :
    (written f slots evs)[k]? =
      if k ∈ evs.map (·.2) ∧ k < slots.size then some (some (f k)) else slots[k]? := by
  induction evs generalizing slots with
  | nil => exact (if_neg fun h => nomatch h.1).symm
  | cons e evs ih =>
    rw [written_cons, ih, Array.size_setIfInBounds, Array.getElem?_setIfInBounds]
    simp only [List.map_cons, List.mem_cons]
    by_cases h1 : k ∈ evs.map (·.2) ∧ k < slots.size
    · rw [if_pos h1, if_pos ⟨Or.inr h1.1, h1.2⟩]
    · rw [if_neg h1]
      by_cases h2 : e.2 = k
      · subst h2
        rw [if_pos rfl]
        by_cases h3 : e.2 < slots.size
        · rw [if_pos h3, if_pos ⟨Or.inl rfl, h3⟩]
        · rw [if_neg h3, if_neg fun h => h3 h.2, Array.getElem?_eq_none (Nat.le_of_not_lt h3)]
      · rw [if_neg h2, if_neg fun h => h1 ⟨h.1.resolve_left (Ne.symm h2), h.2⟩]

/-- under an invariant `I` of the private states that makes the output of the column function independent of the state,
the events just write `f j` into slot `j` -/
theorem runEvents_eq {σ β : Type} (g : σ → Nat → σ × β) (f : Nat → β) (I : σ → Prop)
    (hI : ∀ s j, I s → I (g s j).1 ∧ (g s j).2 = f j) (evs : List (Nat × Nat)) (st : Nat → σ)
    (slots : Array (Option β)) (hst : ∀ w, I (st w)) (hnd : (evs.map (·.2)).Nodup)
    (hfree : ∀ e ∈ evs, slots[e.2]? = some none) :
    runEvents g st slots evs = ok (written f slots evs) := by
  induction evs generalizing st slots with
  | nil => rfl
  | cons e evs ih =>
    obtain ⟨w, j⟩ := e
    rw [List.map_cons, List.nodup_cons] at hnd
    rw [runEvents, hfree (w, j) List.mem_cons_self]
    simp only
    rw [(hI _ j (hst w)).2]
    refine ih _ _ (fun w' => ?_) hnd.2 fun e he => ?_
    · by_cases h : w' = w
      · rw [if_pos h]; exact (hI _ j (hst w)).1
      · rw [if_neg h]; exact hst w'
    · rw [Array.getElem?_setIfInBounds_ne fun h : j = e.2 => hnd.1 (h ▸ List.mem_map.2 ⟨e, he, rfl⟩)]
      exact hfree e (List.mem_cons_of_mem _ he)

theorem getElem?_replicate_none {β : Type} (n k : Nat) :
    (Array.replicate n (none : Option β))[k]? = if k < n then some none else none :=
  Array.getElem?_replicate

theorem schedOfParts_cols (parts : List (List Nat)) : ∀ w, (schedOfParts w parts).map (·.2) = parts.flatten := by
  induction parts with
  | nil => intro w; rfl
  | cons js rest ih => intro w; simp [schedOfParts, ih, List.map_map, Function.comp_def]

open Yuiv.Rust in
/-- `compute_schur`, `multithread` branch: the closure is the one `tools/rs2lean_fn.py` translates from schur.rs
(`GenSchur.Schur.compute_schur_closure1`, regenerated on every run), the iterator is rayon's indexed collect under the
schedule `sched`, the rest (`from_col_vecs`) is as in the generated sequential function -/
def computeSchurPar {α : Type} [C12.Scal α] (ainvb c d : C12.SpMat α) (sched : List (Nat × Nat)) :
    Res (C12.SpMat α) :=
  match parCollect (GenSchur.Schur.compute_schur_closure1 ainvb c d) (SM.shape d).2 sched with
  | .ok vecs => SM.from_col_vecs (SM.shape d).1 vecs
  | .panic => .panic
  | .err => .err

end Yuiv.C12Par
