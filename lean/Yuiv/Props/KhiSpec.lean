import Yuiv.Proofs.KhiSpecMain
import Yuiv.Proofs.KhiSpecGens
import Yuiv.Proofs.KhiSpecClosed
/-
KhiSpec — END-TO-END STATEMENT ABOUT `C19.khiHomology` (singly graded case): what the reference returns is the table of
the dimensions over 𝔽₂ of `ker / im` of the mapping cone of `1 + τ` on the cube complex.

Hypothesis: ONE decidable check `khiSpecOk l p` (`Proofs/KhiSpecDefs.lean`, Mathlib-free) =
  `khiInstanceOk l p` (`Props/C19Cone`: valid code, ≤ 64 labels, every cube edge a merge/split, the τ-checks, reduced ⇒ `t = 0`)
  ∧ `khiGensOk ic p`: (a) every enumerated cube generator is a generator (state `< 2^n`, labelling of its circles, base
  circle `X`), (b) every degree of the cone enumeration is duplicate-free, (c) every target of `dI` on a cone generator of
  degree `i` is a cone generator of degree `i + 1`.  (c) is what the bit rows need: `homo` looks the target up in a hash map
  and uses column `0` when it is missing.

Then (`khi_homology_graded`): `khiHomology l signs p false = .ok ⟨cells⟩` — never `malformed`, never `notComplex` — and
`cells` is exactly the list, for `i = 0..n+1` in this order, of `(h0 + i, none, dim_i)` with `dim_i ≠ 0`, where `h0 = −n₋`,
    `dim_i = #gens_i − rank D_i − rank D_{i−1}`   (`rank D_{−1} := 0`),
`gens_i` = the cone generators `B g` (weight `i`) and `Q g` (weight `i − 1`) in the order of the model's enumeration, and
`D_i = Dm ic p i` the matrix over `ZMod 2` of the cone differential `dI` (`D(Bg) = B dg + Qg + Qτg`, `D(Qg) = Q dg`, entries =
multiplicities mod 2).  `khi_cone_matrices_complex`: `D_i · D_{i+1} = 0`; `khi_dim_is_homology`: `dim_{j+1}` is the dimension
of `ker D_{j+1}ᵀ / im D_jᵀ` (`Proofs/C03UctHom.finrank_homology`); at `i = 0` it is `dim ker D_0ᵀ`.

This covers the whole body of `khiHomology`: the early-exit loops (differential table, `D∘D` check — shown not to
exit), `reduce2` (hash-map parity reduction: `mem_reduce2`, `reduce2_nodup`), the index map `idx` (`idxOf_spec`), the bit
rows (`row_testBit`), `homo` (`homoA_eq`), `rankF2` (`Props/KhSnf.rankF2_correct`), the cell list and the degree shift.
`khiHomology = khiM` (`Proofs/KhiSpecModel.khiHomology_eq`) holds by unfolding.
`khiGensOk` IS NOT AN EXTRA ASSUMPTION: `kgens_enumeration` (the enumeration is sound, complete and duplicate-free, for every
cube) gives (a), (b); `khi_closure_of_instanceOk` gives (c) for every instance passing `khiInstanceOk`; so
`khi_homology_graded_of_instanceOk` states everything under `khiInstanceOk l p` ALONE.
The bigraded branch (`bigraded = true`, `h = t = 0`: the `q`-splitting, `Array.qsort` of the `q`-degrees) is the subject of
`Props/KhiSpecQ.lean` (`khi_homology_bigraded_of_instanceOk`).  The signs `signs` are an input (`h0 = −#negative signs`).
-/
namespace Yuiv.KhiSpec
open Yuiv Yuiv.KhRef Yuiv.C19 Yuiv.C06Cycle Yuiv.C19Inv Yuiv.C19Comm Yuiv.C19Cone Matrix

/-- `reduce2` keeps exactly the elements of odd multiplicity, each once -/
theorem reduce2_spec (xs : Array IGen) :
    (reduce2 xs).toList.Nodup ∧ ∀ y, y ∈ reduce2 xs ↔ xs.toList.count y % 2 = 1 :=
  ⟨reduce2_nodup xs, mem_reduce2 xs⟩

/-- the model with named pieces IS `khiHomology` -/
theorem khiHomology_is_model (l : InvLink) (signs : Array Int) (p : Params) (b : Bool) :
    khiHomology l signs p b = khiM l signs p b :=
  khiHomology_eq l signs p b

/-- THE END-TO-END STATEMENT (singly graded): under the decidable per-instance check, `khiHomology` succeeds and reports
exactly the non-zero dimensions `#gens_i − rank D_i − rank D_{i−1}` of the cone of `1 + τ`, in degrees `h0 + i` -/
theorem khi_homology_graded (l : InvLink) (signs : Array Int) (p : Params) (h : khiSpecOk l p = true) :
    ∃ ic, mkICube l p = some ic ∧
      khiHomology l signs p false = Except.ok { cells :=
        ((List.range (ic.cube.n + 2)).filterMap (fun (i : Nat) =>
          if coneDim ic p i ≠ 0 then
            some (-((signs.filter (· < 0)).size : Int) + (i : Int), (none : Option Int), coneDim ic p i)
          else none)).toArray } := by
  obtain ⟨ic, hic, hok, G⟩ := khiSpecOk_spec l p h
  exact ⟨ic, hic, khi_graded_eq l signs p ic hic hok G⟩

/-- in particular: never `malformed`, never `notComplex`, and every reported cell `(i, j, d)` has `j = none`,
`i = h0 + k` for a position `k ≤ n + 1` and `d = dim_k ≠ 0`; every position of non-zero dimension is reported -/
theorem khi_homology_graded_cells (l : InvLink) (signs : Array Int) (p : Params) (h : khiSpecOk l p = true) :
    ∃ ic res, mkICube l p = some ic ∧ khiHomology l signs p false = Except.ok res ∧
      ∀ cell, cell ∈ res.cells ↔ ∃ k, k < ic.cube.n + 2 ∧ coneDim ic p k ≠ 0 ∧
        cell = (-((signs.filter (· < 0)).size : Int) + (k : Int), none, coneDim ic p k) := by
  obtain ⟨ic, hic, he⟩ := khi_homology_graded l signs p h
  refine ⟨ic, _, hic, he, ?_⟩
  intro cell
  simp only [List.mem_toArray, List.mem_filterMap, List.mem_range]
  constructor
  · rintro ⟨k, hk, e⟩
    split at e
    · rename_i hne
      exact ⟨k, hk, hne, (Option.some.inj e).symm⟩
    · cases e
  · rintro ⟨k, hk, hne, rfl⟩
    exact ⟨k, hk, by rw [if_pos hne]⟩

/-- the matrices of the cone differential form a complex over `𝔽₂` -/
theorem khi_cone_matrices_complex (l : InvLink) (p : Params) (h : khiSpecOk l p = true) :
    ∃ ic, mkICube l p = some ic ∧ ∀ i, i < ic.cube.n + 2 → Dm ic p i * Dm ic p (i + 1) = 0 := by
  obtain ⟨ic, hic, hok, G⟩ := khiSpecOk_spec l p h
  refine ⟨ic, hic, fun i hi => ?_⟩
  exact Dm_mul ic p G (enumerated_ok l p ic hic hok G).2 i (by rw [coneGens_size]; exact hi)

/-- THE REPORTED DIMENSION IS THE DIMENSION OF `ker / im`: at every position `j + 1`, `coneDim` is the dimension over `𝔽₂` of
the homology of `𝔽₂^{gens_j} → 𝔽₂^{gens_{j+1}} → 𝔽₂^{gens_{j+2}}` (matrices `D_jᵀ`, `D_{j+1}ᵀ`, acting on column vectors) -/
theorem khi_dim_is_homology (l : InvLink) (p : Params) (h : khiSpecOk l p = true) :
    ∃ ic, mkICube l p = some ic ∧ ∀ j, j < ic.cube.n + 2 →
      Module.finrank (ZMod 2) (C03Uct.Homology (Dm ic p j)ᵀ (Dm ic p (j + 1))ᵀ) = coneDim ic p (j + 1) := by
  obtain ⟨ic, hic, hok, G⟩ := khiSpecOk_spec l p h
  refine ⟨ic, hic, fun j hj => ?_⟩
  exact homology_dim ic p G (enumerated_ok l p ic hic hok G).2 j (by rw [coneGens_size]; exact hj)

/-- at position `0` nothing comes in: `coneDim 0 = #gens_0 − rank D_0 = dim ker D_0ᵀ` -/
theorem khi_dim_zero (ic : ICube) (p : Params) :
    coneDim ic p 0 = (cgens ic 0).size - (Dm ic p 0).rank ∧
    Module.finrank (ZMod 2) (LinearMap.ker (Dm ic p 0)ᵀ.mulVecLin) = (cgens ic 0).size - (Dm ic p 0).rank := by
  have : Fact (Nat.Prime 2) := ⟨Nat.prime_two⟩
  refine ⟨by simp [coneDim], ?_⟩
  rw [C03Uct.finrank_ker_mulVecLin, Matrix.rank_transpose]

/-- THE ENUMERATION IS SOUND AND COMPLETE: the list of cube generators at weight `w` built by the `kgens` loop consists
exactly of the generators of weight `w` (state below `2^n` of weight `w`, a labelling of the circles of that state, base
circle labelled `X` in the reduced theory), each once; functionally it is the concatenation of `Cube.gensAt s` over the
states of weight `w` in increasing order -/
theorem kgens_enumeration (c : Cube) (w : Nat) :
    ((kgensOf c)[w]!).toList =
      ((List.range (2 ^ c.n)).filter (fun s => popcount s c.n == w)).flatMap (fun s => (c.gensAt s).toList) ∧
    ((kgensOf c)[w]!).toList.Nodup ∧
    ∀ g, g ∈ (kgensOf c)[w]! ↔ g.s < 2 ^ c.n ∧ popcount g.s c.n = w ∧ g.mask < 2 ^ (c.circ[g.s]!).size ∧
      baseKeep c g = true :=
  ⟨kgensOf_toList c w, kgensOf_nodup c w, mem_kgensOf c w⟩

/-- hence parts (a), (b) of `khiGensOk` hold for EVERY cube; the only instance property in it is (c), the closure of the
degree-wise enumeration under `dI` -/
theorem khiGensOk_only_closure (ic : ICube) (p : Params)
    (hcl : ∀ i : Nat, i < ic.cube.n + 2 → ∀ x ∈ cgens ic i, ∀ y ∈ dI ic p x, y ∈ cgens ic (i + 1)) :
    (∀ i : Nat, (cgens ic i).toList.Nodup) ∧
    (∀ gs ∈ kgensOf ic.cube, ∀ g ∈ gs,
      g.s < 2 ^ ic.cube.n ∧ g.mask < 2 ^ (ic.cube.circ[g.s]!).size ∧ baseKeep ic.cube g = true) := by
  have G := gensOk_of_closed ic p (fun i hi => hcl i (by rw [coneGens_size] at hi; exact hi))
  exact ⟨G.nodup, G.valid⟩

/-- THE CLOSURE (c) HOLDS FOR EVERY INSTANCE PASSING `khiInstanceOk`: the targets of `dI` on a cone generator of degree `i`
are cone generators of degree `i + 1` (targets of `Cube.d`: one more crossing resolved, labelling of the new circles, base
circle kept; `τ g`: same weight, again a generator) -/
theorem khi_closure_of_instanceOk (l : InvLink) (p : Params) (ic : ICube) (hic : mkICube l p = some ic)
    (hok : khiInstanceOk l p = true) :
    ∀ i : Nat, i < ic.cube.n + 2 → ∀ x ∈ cgens ic i, ∀ y ∈ dI ic p x, y ∈ cgens ic (i + 1) :=
  closed_of_instanceOk l p ic hic hok

/-- THE END-TO-END STATEMENT UNDER `khiInstanceOk` ALONE (singly graded): `khiHomology` succeeds, its cells are exactly the
non-zero `coneDim`s in the degrees `h0 + i`, the cone matrices form a complex, and `coneDim (j+1)` is the dimension of
`ker D_{j+1}ᵀ / im D_jᵀ` -/
theorem khi_homology_graded_of_instanceOk (l : InvLink) (signs : Array Int) (p : Params)
    (h : khiInstanceOk l p = true) :
    ∃ ic, mkICube l p = some ic ∧
      khiHomology l signs p false = Except.ok { cells :=
        ((List.range (ic.cube.n + 2)).filterMap (fun (i : Nat) =>
          if coneDim ic p i ≠ 0 then
            some (-((signs.filter (· < 0)).size : Int) + (i : Int), (none : Option Int), coneDim ic p i)
          else none)).toArray } ∧
      (∀ i, i < ic.cube.n + 2 → Dm ic p i * Dm ic p (i + 1) = 0) ∧
      (∀ j, j < ic.cube.n + 2 →
        Module.finrank (ZMod 2) (C03Uct.Homology (Dm ic p j)ᵀ (Dm ic p (j + 1))ᵀ) = coneDim ic p (j + 1)) := by
  obtain ⟨_, _, _, _, ic, hic, _, _⟩ := khi_instance_ok_meaning l p h
  have G : GensOk ic p := gensOk_of_instanceOk l p ic hic h
  have hcone := (enumerated_ok l p ic hic h G).2
  refine ⟨ic, hic, khi_graded_eq l signs p ic hic h G, ?_, ?_⟩
  · intro i hi
    exact Dm_mul ic p G hcone i (by rw [coneGens_size]; exact hi)
  · intro j hj
    exact homology_dim ic p G hcone j (by rw [coneGens_size]; exact hj)

/-- under `khiInstanceOk` alone, on the trefoil for all `(h, t)` unreduced and all `h` reduced (`t = 0`) -/
example (signs : Array Int) (h t : Int) :
    (∃ res, khiHomology tref signs ⟨h, t, false⟩ false = Except.ok res) ∧
    (∃ res, khiHomology tref signs ⟨h, 0, true⟩ false = Except.ok res) := by
  obtain ⟨_, _, e1, _⟩ := khi_homology_graded_of_instanceOk tref signs ⟨h, t, false⟩ (tref_ok_unreduced h t)
  obtain ⟨_, _, e2, _⟩ := khi_homology_graded_of_instanceOk tref signs ⟨h, 0, true⟩ (tref_ok_reduced h)
  exact ⟨⟨_, e1⟩, ⟨_, e2⟩⟩

/-- the check holds on the trefoil (unreduced `(h,t) = (0,0), (1,1)`; reduced `(1,0)`), so `khiHomology` returns the
table of `coneDim`; evaluated (`#eval`, signs `−,−,−`): dimensions `2,2,2,4,2` in degrees `−3..1` unreduced, `1,1,1,2,1` reduced -/
example (signs : Array Int) :
    (∃ ic, mkICube tref ⟨0, 0, false⟩ = some ic ∧ ∃ res, khiHomology tref signs ⟨0, 0, false⟩ false = Except.ok res) ∧
    (∃ ic, mkICube tref ⟨1, 0, true⟩ = some ic ∧ ∃ res, khiHomology tref signs ⟨1, 0, true⟩ false = Except.ok res) := by
  obtain ⟨ic1, h1, e1⟩ := khi_homology_graded tref signs ⟨0, 0, false⟩ tref_spec_ok.1
  obtain ⟨ic2, h2, e2⟩ := khi_homology_graded tref signs ⟨1, 0, true⟩ tref_spec_ok.2.2
  exact ⟨⟨ic1, h1, _, e1⟩, ⟨ic2, h2, _, e2⟩⟩

/-- the sizes of the cone enumeration of the trefoil (`B`-generators of weight `i`, `Q`-generators of weight `i − 1`):
`4, 6+4, 12+6, 8+12, 8` in the positions `0..4` -/
example : (List.range 5).map (fun i => (cgens (trefIC false) i).size) = [4, 10, 18, 20, 8] := by
  decide +kernel

end Yuiv.KhiSpec
