import Yuiv.Proofs.C06CycleDefs
import Std.Data.HashMap.Lemmas
import Yuiv.Proofs.Loop
import Yuiv.Drv.C06
/-
C06CycleHash — the meaning of the driver's `Drv.C06.dOfChain` (Option monad, `Std.HashMap Gen Int` accumulator
`acc.insert y ((acc.get? y).getD 0 + a * b)`, finally `acc.toList.filter (v != 0)`), for ALL inputs (`dOfChain_nil_iff`).
`Gen` gets `LawfulBEq` (derived `beq` unfolded) and hence `LawfulHashable`.  Loop invariant (`HModel.outer_loop`):
`acc.getD y 0` = start value + the partial `chainSum`; a failing `Cube.d` makes the whole loop `none`.
-/
namespace Yuiv.C06Cycle
open Yuiv Yuiv.KhRef Yuiv.C06Canon

theorem gen_beq_iff (a b : Gen) : (a == b) = true ↔ a = b := by
  cases a with | mk s m => cases b with | mk s' m' =>
  show (instBEqGen.beq _ _ = true) ↔ _
  simp [instBEqGen.beq]

instance : LawfulBEq Gen where
  eq_of_beq h := (gen_beq_iff _ _).mp h
  rfl := (gen_beq_iff _ _).mpr rfl

instance : LawfulHashable Gen := inferInstance

namespace HModel

abbrev Acc := Std.HashMap Gen Int

/-- one update of the accumulator -/
def ins (a : Int) (acc : Acc) (yb : Term) : Acc := acc.insert yb.1 (acc.getD yb.1 0 + a * yb.2)

def innerBody (a : Int) (x : Term) (acc : Acc) : Option (ForInStep Acc) :=
  match x with
  | (y, b) => pure (ForInStep.yield (acc.insert y ((acc.get? y).getD 0 + a * b)))

def outerBody (c : Cube) (p : Params) (x : Gen × Int) (acc : Acc) : Option (ForInStep Acc) :=
  match x with
  | (g, a) => do
    let ts ← c.d p g
    let r ← forIn ts acc (innerBody a)
    pure (ForInStep.yield r)

def finish (acc : Acc) : List (Gen × Int) := acc.toList.filter (fun (_, v) => v != 0)

theorem dOfChain_eqM (c : Cube) (p : Params) (z : Chain) :
    Yuiv.Drv.C06.dOfChain c p z = (forIn z (∅ : Acc) (outerBody c p)).map finish := by
  unfold Yuiv.Drv.C06.dOfChain
  show (forIn z (∅ : Acc) (outerBody c p) >>= fun r => pure (finish r)) = _
  cases forIn z (∅ : Acc) (outerBody c p) <;> rfl

theorem inner_loop (a : Int) (ts : List Term) (acc : Acc) :
    forIn (m := Option) ts acc (innerBody a) = some (ts.foldl (ins a) acc) := by
  rw [Loop.forIn_eq_foldlM (g := fun acc t => pure (ins a acc t))]
  · exact List.foldlM_pure
  · intro t _ acc
    obtain ⟨y, b⟩ := t
    show some (ForInStep.yield (acc.insert y ((acc.get? y).getD 0 + a * b))) =
      some (ForInStep.yield (acc.insert y (acc.getD y 0 + a * b)))
    rw [Std.HashMap.get?_eq_getElem?, Std.HashMap.getD_eq_getD_getElem?]

theorem termSum_cons (y : Gen) (t : Term) (ts : List Term) :
    termSum y (t :: ts) = (if t.1 == y then t.2 else 0) + termSum y ts := by
  unfold termSum
  rw [List.filter_cons]
  split <;> simp

theorem ins_fold (a : Int) (ts : List Term) (acc : Acc) (y : Gen) :
    (ts.foldl (ins a) acc).getD y 0 = acc.getD y 0 + a * termSum y ts := by
  induction ts generalizing acc with
  | nil => simp [termSum]
  | cons t ts ih =>
    rw [List.foldl_cons, ih, termSum_cons]
    unfold ins
    rw [Std.HashMap.getD_insert]
    by_cases h : (t.1 == y) = true
    · have e : t.1 = y := eq_of_beq h
      subst e
      simp only [h, if_true]
      rw [Int.mul_add, Int.add_assoc]
    · simp only [h, if_false, Bool.false_eq_true]
      rw [Int.zero_add]

/-- `d` as a list of terms, empty where `Cube.d` fails -/
def dList (c : Cube) (p : Params) (g : Gen) : List Term := ((c.d p g).getD #[]).toList

theorem chainSum_cons (D : Gen → List Term) (ga : Gen × Int) (z : Chain) (y : Gen) :
    chainSum D (ga :: z) y = ga.2 * termSum y (D ga.1) + chainSum D z y := by
  unfold chainSum
  rw [List.map_cons, List.sum_cons]

theorem outer_loop (c : Cube) (p : Params) (z : Chain) (acc : Acc) :
    match forIn (m := Option) z acc (outerBody c p) with
    | some acc' => (∀ ga ∈ z, ∃ ts, c.d p ga.1 = some ts) ∧
        ∀ y, acc'.getD y 0 = acc.getD y 0 + chainSum (dList c p) z y
    | none => ∃ ga ∈ z, c.d p ga.1 = none := by
  induction z generalizing acc with
  | nil => exact ⟨by simp, fun y => by simp [chainSum]⟩
  | cons ga z ih =>
    rw [List.forIn_cons]
    obtain ⟨g, a⟩ := ga
    cases hd : c.d p g with
    | none =>
      have : outerBody c p (g, a) acc = none := by
        unfold outerBody
        simp only [hd]
        rfl
      rw [this]
      exact ⟨(g, a), List.mem_cons_self, hd⟩
    | some ts =>
      have : outerBody c p (g, a) acc = some (ForInStep.yield (ts.toList.foldl (ins a) acc)) := by
        unfold outerBody
        simp only [hd]
        show (forIn ts acc (innerBody a) >>= _) = _
        rw [← Array.forIn_toList, inner_loop]
        rfl
      rw [this]
      show match forIn (m := Option) z (ts.toList.foldl (ins a) acc) (outerBody c p) with
        | some acc' => _ | none => _
      have h := ih (ts.toList.foldl (ins a) acc)
      cases hf : forIn (m := Option) z (ts.toList.foldl (ins a) acc) (outerBody c p) with
      | none =>
        rw [hf] at h
        obtain ⟨ga, hm, hn⟩ := h
        exact ⟨ga, List.mem_cons_of_mem _ hm, hn⟩
      | some acc' =>
        rw [hf] at h
        obtain ⟨h1, h2⟩ := h
        refine ⟨?_, fun y => ?_⟩
        · intro ga hm
          rcases List.mem_cons.mp hm with rfl | hm
          · exact ⟨ts, hd⟩
          · exact h1 ga hm
        · rw [h2, ins_fold, chainSum_cons, Int.add_assoc]
          simp only [dList, hd, Option.getD_some]

theorem finish_nil_iff (acc : Acc) : finish acc = [] ↔ ∀ y, acc.getD y 0 = 0 := by
  unfold finish
  rw [List.filter_eq_nil_iff]
  constructor
  · intro h y
    rw [Std.HashMap.getD_eq_getD_getElem?]
    cases hy : acc[y]? with
    | none => rfl
    | some v =>
      have := h (y, v) (Std.HashMap.mem_toList_iff_getElem?_eq_some.mpr hy)
      simpa using this
  · intro h kv hm
    obtain ⟨k, v⟩ := kv
    have hk := Std.HashMap.mem_toList_iff_getElem?_eq_some.mp hm
    have := h k
    rw [Std.HashMap.getD_eq_getD_getElem?, hk] at this
    simpa using this

end HModel

theorem dOfChain_nil_iff (c : Cube) (p : Params) (z : Chain) :
    Yuiv.Drv.C06.dOfChain c p z = some [] ↔
      (∀ ga ∈ z, ∃ ts, c.d p ga.1 = some ts) ∧
      ∀ y, chainSum (fun g => ((c.d p g).getD #[]).toList) z y = 0 := by
  rw [HModel.dOfChain_eqM]
  have h := HModel.outer_loop c p z ∅
  cases hf : forIn (m := Option) z (∅ : HModel.Acc) (HModel.outerBody c p) with
  | none =>
    rw [hf] at h
    obtain ⟨ga, hm, hn⟩ := h
    constructor
    · intro h; cases h
    · rintro ⟨h1, _⟩
      obtain ⟨ts, hts⟩ := h1 ga hm
      rw [hn] at hts
      cases hts
  | some acc =>
    rw [hf] at h
    obtain ⟨h1, h2⟩ := h
    simp only [Option.map_some, Option.some.injEq, HModel.finish_nil_iff]
    constructor
    · intro h
      refine ⟨h1, fun y => ?_⟩
      have := h2 y
      rw [h y, Std.HashMap.getD_empty, Int.zero_add] at this
      exact this.symm
    · rintro ⟨_, h⟩ y
      rw [h2 y, Std.HashMap.getD_empty, Int.zero_add]
      exact h y

theorem chainSum_congr (D D' : Gen → List Term) (z : Chain) (y : Gen) (h : ∀ ga ∈ z, D ga.1 = D' ga.1) :
    chainSum D z y = chainSum D' z y := by
  unfold chainSum
  congr 1
  apply List.map_congr_left
  intro ga hm
  rw [h ga hm]

theorem dOfChain_zero (c : Cube) (p : Params) (z : Chain) (D : Gen → List Term)
    (hD : ∀ ga ∈ z, c.d p ga.1 = some (D ga.1).toArray)
    (hz : ∀ y, chainSum D z y = 0) :
    Yuiv.Drv.C06.dOfChain c p z = some [] := by
  rw [dOfChain_nil_iff]
  refine ⟨fun ga hm => ⟨_, hD ga hm⟩, fun y => ?_⟩
  rw [← hz y]
  apply chainSum_congr
  intro ga hm
  simp only [hD ga hm, Option.getD_some]

theorem dOfChain_zero_conv (c : Cube) (p : Params) (z : Chain)
    (h : Yuiv.Drv.C06.dOfChain c p z = some []) :
    (∀ ga ∈ z, ∃ ts, c.d p ga.1 = some ts) ∧
      ∀ y, chainSum (fun g => ((c.d p g).getD #[]).toList) z y = 0 :=
  (dOfChain_nil_iff c p z).mp h

end Yuiv.C06Cycle
