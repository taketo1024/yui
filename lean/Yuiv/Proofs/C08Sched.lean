import Yuiv.Proofs.C08SchedBlocks
import Yuiv.Proofs.C08Hom
import Yuiv.Props.C08
import Mathlib.LinearAlgebra.Matrix.NonsingularInverse
/-
C08 — composing the schedule-quantified pieces (C11 pivot search, C12 parallel Schur) with the Schur-step algebra and
"homotopy equivalence ⇒ isomorphic homology" (C08Hom): homotopy equivalence of bundled complexes as a reflexive
transitive relation (`HEquiv`), one step inside a whole complex (`StepShape`), and one step of the reducer with SOME
schedule of the pivot search as a relation between complexes (`ReducerStep`).  The matrix-level pieces are in
`Proofs/C08SchedBlocks.lean`.
-/
namespace Yuiv.C08
open Matrix

section cpx
variable {R : Type} [CommRing R]

/-- `C'` is a reduction of `C` with a chain homotopy: some `F`, `B`, `h` form an `IsHomotopyEquiv` -/
def HEquiv (C C' : Cpx R) : Prop := ∃ F B h, IsHomotopyEquiv C.d C'.d F B h

theorem HEquiv.refl (C : Cpx R) : HEquiv C C := ⟨_, _, _, IsHomotopyEquiv.refl C.d⟩

theorem HEquiv.trans {C C' C'' : Cpx R} (h₁ : HEquiv C C') (h₂ : HEquiv C' C'') : HEquiv C C'' := by
  obtain ⟨F₁, B₁, k₁, e₁⟩ := h₁
  obtain ⟨F₂, B₂, k₂, e₂⟩ := h₂
  exact ⟨_, _, _, e₁.comp e₂⟩

theorem HEquiv.homology {C C' : Cpx R} (h : HEquiv C C') (n : ℕ) : Nonempty (Hn C.d n ≃ₗ[R] Hn C'.d n) := by
  obtain ⟨F, B, k, e⟩ := h
  exact ⟨e.homologyIso n⟩

theorem HEquiv.homology_of_common_source {C C₁ C₂ : Cpx R} (h₁ : HEquiv C C₁) (h₂ : HEquiv C C₂) (n : ℕ) :
    Nonempty (Hn C₁.d n ≃ₗ[R] Hn C₂.d n) := by
  obtain ⟨e₁⟩ := h₁.homology n
  obtain ⟨e₂⟩ := h₂.homology n
  exact ⟨e₁.symm.trans e₂⟩

theorem HEquiv.homology_addEquiv {C C' : Cpx R} (h : HEquiv C C') (n : ℕ) : Nonempty (Hn C.d n ≃+ Hn C'.d n) := by
  obtain ⟨E⟩ := h.homology n
  exact ⟨E.toAddEquiv⟩

/-- the shape of a reduction step of `C` at degree `k` (on `d k : C_{k+1} → C_k`): every chain module is split by a
bijection `e i : ρ i ⊕ κ i ≃ ι i` into a removed part `ρ i` and a kept part `κ i`; nothing is removed outside the
degrees `k`, `k+1`.  In the reducer `e k`, `e (k+1)` are the permutations of `perms_by_pivots` (pivot rows / columns
first) and `e i` is the identity elsewhere. -/
structure StepShape (C : Cpx R) (k : ℕ) where
  ρ : ℕ → Type
  κ : ℕ → Type
  [finρ : ∀ i, Fintype (ρ i)]
  [decρ : ∀ i, DecidableEq (ρ i)]
  [finκ : ∀ i, Fintype (κ i)]
  [decκ : ∀ i, DecidableEq (κ i)]
  e : ∀ i, ρ i ⊕ κ i ≃ C.ι i
  empty : ∀ i, i ≠ k → i ≠ k + 1 → IsEmpty (ρ i)

attribute [instance] StepShape.finρ StepShape.decρ StepShape.finκ StepShape.decκ

namespace StepShape
variable {C : Cpx R} {k : ℕ} (S : StepShape C k)

def blk (i : ℕ) : Matrix (S.ρ i ⊕ S.κ i) (S.ρ (i + 1) ⊕ S.κ (i + 1)) R := (C.d i).submatrix (S.e i) (S.e (i + 1))
/-- its four blocks; `a k` is the pivot block -/
def a (i : ℕ) : Matrix (S.ρ i) (S.ρ (i + 1)) R := (S.blk i).toBlocks₁₁
def b (i : ℕ) : Matrix (S.ρ i) (S.κ (i + 1)) R := (S.blk i).toBlocks₁₂
def c (i : ℕ) : Matrix (S.κ i) (S.ρ (i + 1)) R := (S.blk i).toBlocks₂₁
def dd (i : ℕ) : Matrix (S.κ i) (S.κ (i + 1)) R := (S.blk i).toBlocks₂₂

theorem blk_eq (i : ℕ) : S.blk i = stepM S.a S.b S.c S.dd i := (fromBlocks_toBlocks _).symm

theorem blk_sq (i : ℕ) : stepM S.a S.b S.c S.dd i * stepM S.a S.b S.c S.dd (i + 1) = 0 := by
  rw [← blk_eq, ← blk_eq, blk, blk, Matrix.submatrix_mul_equiv, C.sq, Matrix.submatrix_zero]
  rfl

theorem isHomotopyEquiv (ainv : ∀ i, Matrix (S.ρ (i + 1)) (S.ρ i) R)
    (hia : ainv k * S.a k = 1) (hai : S.a k * ainv k = 1) :
    ∃ F B h, IsHomotopyEquiv C.d (stepS ainv S.b S.c S.dd) F B h := by
  have e1 := IsHomotopyEquiv.of_reindex C.d S.e
  have hfun : (fun i => (C.d i).submatrix (S.e i) (S.e (i + 1))) = stepM S.a S.b S.c S.dd :=
    funext fun i => S.blk_eq i
  rw [hfun] at e1
  have e2 := (stepIds_of_step k S.empty hia hai S.blk_sq).isHomotopyEquiv
  exact ⟨_, _, _, e1.comp e2⟩

/-- the reduced complex: kept parts `κ i`, differential `dd k − c k · a k⁻¹ · b k` at degree `k` and the kept block
`dd i` elsewhere (`reduced_d_of_ne`) -/
def reduced (ainv : ∀ i, Matrix (S.ρ (i + 1)) (S.ρ i) R)
    (hia : ainv k * S.a k = 1) (hai : S.a k * ainv k = 1) : Cpx R where
  ι := S.κ
  d := stepS ainv S.b S.c S.dd
  sq := by
    obtain ⟨F, B, h, e⟩ := S.isHomotopyEquiv ainv hia hai
    exact e.toIsReduction.sq_zero C.sq

theorem hEquiv (ainv : ∀ i, Matrix (S.ρ (i + 1)) (S.ρ i) R)
    (hia : ainv k * S.a k = 1) (hai : S.a k * ainv k = 1) : HEquiv C (S.reduced ainv hia hai) :=
  S.isHomotopyEquiv ainv hia hai

theorem reduced_d_of_ne (ainv : ∀ i, Matrix (S.ρ (i + 1)) (S.ρ i) R)
    (hia : ainv k * S.a k = 1) (hai : S.a k * ainv k = 1) (i : ℕ) (hi : i ≠ k) :
    (S.reduced ainv hia hai).d i = S.dd i := by
  show stepS ainv S.b S.c S.dd i = S.dd i
  by_cases h1 : i = k + 1
  · subst h1
    have : IsEmpty (S.ρ (k + 1 + 1)) := S.empty _ (by omega) (by omega)
    exact stepS_of_isEmpty_right _ _ _ _ _
  · have : IsEmpty (S.ρ i) := S.empty _ hi h1
    exact stepS_of_isEmpty_left _ _ _ _ _

/-- (S1) at the level of the step: if the removed rows / columns at degree `k` are the pivots of a `TriPivots` list, in
list order (what `perms_by_pivots` does), the pivot block `a k` is the triangular block `pivBlock` and has a two-sided
inverse -/
theorem exists_inv_of_pivots {m n : ℕ} (eT : Fin m ≃ C.ι k) (eS : Fin n ≃ C.ι (k + 1))
    {upper : Bool} {P : List (ℕ × ℕ)} (hP : TriPivots ((C.d k).submatrix eT eS) upper P)
    (er : Fin P.length ≃ S.ρ k) (es : Fin P.length ≃ S.ρ (k + 1))
    (hr : ∀ x, S.e k (Sum.inl (er x)) = eT (pivRow P hP.bound x))
    (hc : ∀ x, S.e (k + 1) (Sum.inl (es x)) = eS (pivCol P hP.bound x)) :
    S.a k = (pivBlock ((C.d k).submatrix eT eS) P hP.bound).submatrix er.symm es.symm ∧
    ∃ X : Matrix (S.ρ (k + 1)) (S.ρ k) R, X * S.a k = 1 ∧ S.a k * X = 1 := by
  have ha : S.a k = (pivBlock ((C.d k).submatrix eT eS) P hP.bound).submatrix er.symm es.symm := by
    ext x y
    have h1 := hr (er.symm x)
    have h2 := hc (es.symm y)
    rw [Equiv.apply_symm_apply] at h1 h2
    show C.d k (S.e k (Sum.inl x)) (S.e (k + 1) (Sum.inl y)) = _
    rw [h1, h2]
    rfl
  refine ⟨ha, ((pivBlock ((C.d k).submatrix eT eS) P hP.bound)⁻¹).submatrix es.symm er.symm, ?_, ?_⟩
  · rw [ha, Matrix.submatrix_mul_equiv, Matrix.nonsing_inv_mul _ hP.det_isUnit, Matrix.submatrix_one_equiv]
  · rw [ha, Matrix.submatrix_mul_equiv, Matrix.mul_nonsing_inv _ hP.det_isUnit, Matrix.submatrix_one_equiv]

end StepShape

end cpx

section relation
open Yuiv.C11 Yuiv.Res
variable {R : Type} [CommRing R]

/-- `C'` is obtained from `C` by ONE `reduce_at_spec(k, t, c)` with SOME schedule of the parallel pivot search:
`a` is the CSC storage of `d k` (row / column numbering `eT`, `eS`), `acts` any interleaving of the workers, `keys` any
hash-map iteration order in `result()`, `L` the pivots returned; the step removes the pivot rows / columns in list order
(`perms_by_pivots`: `S.e k`, `S.e (k+1)` restricted to the removed part enumerate the pivots; the order of the rest is
free) and `C'` is the Schur complement complex for the inverse `ainv k` of the pivot block. -/
def ReducerStep (C C' : Cpx R) : Prop :=
  ∃ (k : ℕ) (a : Csc) (_ : a.Valid) (t : PivType) (c : Cond)
    (eT : Fin a.nrows ≃ C.ι k) (eS : Fin a.ncols ≃ C.ι (k + 1)) (_ : Represents a ((C.d k).submatrix eT eS))
    (s : Str) (_ : matrixStrNew a t c = ok s) (st0 : State) (_ : initState s = ok st0)
    (acts : List Act) (st : State) (os : List Outcome) (_ : run s st0 acts = ok (st, os))
    (keys : List ℕ) (_ : keys.Perm (st.S.map (·.2))) (L : List (ℕ × ℕ)) (_ : result s st.S keys = ok L)
    (hP : TriPivots ((C.d k).submatrix eT eS) (isUpper t) (matPivots t L))
    (S : StepShape C k) (er : Fin (matPivots t L).length ≃ S.ρ k) (es : Fin (matPivots t L).length ≃ S.ρ (k + 1))
    (_ : ∀ x, S.e k (Sum.inl (er x)) = eT (pivRow _ hP.bound x))
    (_ : ∀ x, S.e (k + 1) (Sum.inl (es x)) = eS (pivCol _ hP.bound x))
    (ainv : ∀ i, Matrix (S.ρ (i + 1)) (S.ρ i) R) (hia : ainv k * S.a k = 1) (hai : S.a k * ainv k = 1),
    C' = S.reduced ainv hia hai

theorem ReducerStep.hEquiv {C C' : Cpx R} (h : ReducerStep C C') : HEquiv C C' := by
  obtain ⟨k, a, _, t, c, eT, eS, _, s, _, st0, _, acts, st, os, _, keys, _, L, _, hP, S, er, es, _, _, ainv, hia,
    hai, rfl⟩ := h
  exact S.hEquiv ainv hia hai

theorem reflTransGen_hEquiv {C C' : Cpx R} (h : Relation.ReflTransGen ReducerStep C C') : HEquiv C C' := by
  induction h with
  | refl => exact HEquiv.refl C
  | tail _ hstep ih => exact ih.trans hstep.hEquiv

end relation

end Yuiv.C08
