import Yuiv.Proofs.C16HPoly
/-
C16 — `HPoly<X,R>` (yui/src/types/poly/h_poly.rs): addition, subtraction, negation, equality, and their interplay
with the multiplication already covered in `Props/C16.lean` §7.

What the code does (model `Model/C16.lean`, proved equal to the translated source in `Props/C16Gen`):
a value is one term `coeff·X^deg`; EVERY value with `coeff = 0` is the zero polynomial, whatever its stored degree
(`zero()` stores 0, `x² − x²` stores 2) and `==` identifies them all; `+=`/`-=` first test `self.is_zero()`
(result: `rhs` / `−rhs`), then `rhs.is_zero()` (result: `self`), and only then `assert_eq!(self.deg, rhs.deg)`.

So `+`/`−` are defined exactly on pairs that lie in a common homogeneous part
`HPoly.InDeg d a := a.coeff = 0 ∨ a.deg = d`, each part is closed under `+ − neg` and is an abelian group up to
`==`, `==` is an equivalence and a congruence for all operations, products of parts land in the part of the summed
degree, and `*` distributes over `+` wherever the sum is defined.  Outcomes of two computations are compared by
`HPoly.reqv` (both panic, or both `ok` with `==` results).

NOT a theorem, and false in the code as well: unrestricted associativity of `+` at the level of panics — a
cancellation can make one bracketing defined and the other panic (`hpoly_add_assoc_panic_asymmetry`).
`R` is any commutative ring with decidable equality (the driver runs ℤ, ℚ, F₃, ℤ[i]).
-/
namespace Yuiv.C16
open Yuiv

section HPolyAdd
variable {R : Type} [DecidableEq R] [CommRing R]

/-! ## `==` -/

/-- `==` is reflexive -/
theorem hpoly_eqv_refl (a : HPoly R) : a.eqv a = true := hp_eqv_refl a
/-- `==` is symmetric -/
theorem hpoly_eqv_symm (a b : HPoly R) (h : a.eqv b = true) : b.eqv a = true :=
  (hpoly_eqv_iff_val b a).2 (fun n => ((hpoly_eqv_iff_val a b).1 h n).symm)
/-- `==` is transitive -/
theorem hpoly_eqv_trans (a b c : HPoly R) (h1 : a.eqv b = true) (h2 : b.eqv c = true) : a.eqv c = true :=
  (hpoly_eqv_iff_val a c).2 (fun n => ((hpoly_eqv_iff_val a b).1 h1 n).trans ((hpoly_eqv_iff_val b c).1 h2 n))
example : (HPoly.eqv (⟨0, 0⟩ : HPoly Int) ⟨7, 0⟩) = true ∧ (HPoly.eqv (⟨7, 0⟩ : HPoly Int) ⟨3, 0⟩) = true :=
  ⟨rfl, rfl⟩

/-- `==` is structural equality except that the stored degree of a zero polynomial is ignored -/
theorem hpoly_eqv_iff_struct (a b : HPoly R) :
    a.eqv b = true ↔ (a.coeff = 0 ∧ b.coeff = 0) ∨ (a.deg = b.deg ∧ a.coeff = b.coeff) :=
  hp_eqv_iff_struct a b

/-- `is_zero` is `== zero()`, and equally `==` any zero of any stored degree -/
theorem hpoly_isZero_iff (a : HPoly R) (d : Nat) : a.isZero = true ↔ a.eqv ⟨d, 0⟩ = true := by
  rw [hp_eqv_iff_struct]
  simp only [HPoly.isZero, decide_eq_true_eq, and_true]
  constructor
  · intro h; exact Or.inl h
  · rintro (h | h)
    · exact h
    · exact h.2

/-- `is_one` is `== one()` — in a non-trivial ring (in the zero ring `1 = 0`, every value `==` `one()`, but
`is_one` still looks at the stored degree) -/
theorem hpoly_isOne_iff (h10 : (1 : R) ≠ 0) (a : HPoly R) : a.isOne = true ↔ a.eqv ⟨0, 1⟩ = true := by
  rw [hp_eqv_iff_struct]
  simp only [HPoly.isOne, Bool.and_eq_true, beq_iff_eq, decide_eq_true_eq]
  constructor
  · intro h; exact Or.inr h
  · rintro (h | h)
    · exact absurd h.2 h10
    · exact h
example : (1 : Int) ≠ 0 := by decide

/-! ## `+` and `−`: where they are defined, and what they return -/

/-- `+` returns normally exactly when one summand is zero or the degrees agree (the complement of
`hpoly_add_panics_iff`), and there is no third outcome -/
theorem hpoly_add_ok_iff (a b : HPoly R) :
    ((∃ c, a.add b = .ok c) ↔ a.coeff = 0 ∨ b.coeff = 0 ∨ a.deg = b.deg) ∧ a.add b ≠ .err :=
  ⟨hp_add_ok_iff a b, hp_add_ne_err a b⟩

/-- `a − b` is `a + (−b)`, literally: same branch taken, same stored pair, same panic -/
theorem hpoly_sub_eq_add_neg (a b : HPoly R) : a.sub b = a.add b.neg := hp_sub_eq_add_neg a b

/-- `−` panics exactly for two non-zero operands of different degrees -/
theorem hpoly_sub_panics_iff (a b : HPoly R) :
    a.sub b = .panic ↔ a.coeff ≠ 0 ∧ b.coeff ≠ 0 ∧ a.deg ≠ b.deg := by
  rw [hp_sub_eq_add_neg, hpoly_add_panic_iff]
  simp [HPoly.neg]

/-- when `−` returns, the result denotes the difference -/
theorem hpoly_sub_spec (a b c : HPoly R) (h : a.sub b = .ok c) (n : Nat) :
    hval c n = hval a n - hval b n := hpoly_sub_val h n
example : (HPoly.sub (⟨2, 3⟩ : HPoly Int) ⟨2, 5⟩) = .ok ⟨2, -2⟩ ∧ (HPoly.sub (⟨0, 0⟩ : HPoly Int) ⟨2, 5⟩) = .ok ⟨2, -5⟩
    ∧ (HPoly.sub (⟨2, 3⟩ : HPoly Int) ⟨1, 5⟩) = .panic :=
  ⟨rfl, rfl, rfl⟩

set_option linter.unusedSectionVars false in
/-- negation denotes the negative -/
theorem hpoly_neg_spec (a : HPoly R) (n : Nat) : hval a.neg n = - hval a n := hval_neg a n
set_option linter.unusedSectionVars false in
/-- negation is an involution on the stored pair -/
theorem hpoly_neg_neg (a : HPoly R) : a.neg.neg = a := by
  cases a; simp [HPoly.neg]

/-! ## each homogeneous part is an abelian group (up to `==`) -/

/-- closure: on the degree-`d` part `+`, `−`, `neg` never panic, stay in the part, and denote sum / difference -/
theorem hpoly_add_closed (d : Nat) (a b : HPoly R) (ha : a.InDeg d) (hb : b.InDeg d) :
    ∃ c, a.add b = .ok c ∧ c.InDeg d ∧ ∀ n, hval c n = hval a n + hval b n := hp_add_inDeg ha hb
/-- closure of the degree-`d` part under `−` (defined, stays in the part, denotes the difference) -/
theorem hpoly_sub_closed (d : Nat) (a b : HPoly R) (ha : a.InDeg d) (hb : b.InDeg d) :
    ∃ c, a.sub b = .ok c ∧ c.InDeg d ∧ ∀ n, hval c n = hval a n - hval b n := by
  obtain ⟨c, h1, h2, _⟩ := hp_add_inDeg ha (hp_neg_inDeg hb)
  rw [← hp_sub_eq_add_neg] at h1
  exact ⟨c, h1, h2, hpoly_sub_val h1⟩
set_option linter.unusedSectionVars false in
/-- closure of the degree-`d` part under `neg` -/
theorem hpoly_neg_closed (d : Nat) (a : HPoly R) (ha : a.InDeg d) : a.neg.InDeg d := hp_neg_inDeg ha
example : HPoly.InDeg 2 (⟨2, 3⟩ : HPoly Int) ∧ HPoly.InDeg 2 (⟨2, -3⟩ : HPoly Int) ∧ HPoly.InDeg 2 (⟨9, 0⟩ : HPoly Int) :=
  ⟨Or.inr rfl, Or.inr rfl, Or.inl rfl⟩

/-- commutativity, for ALL operands: same outcome (both panic, or `==` results) -/
theorem hpoly_add_comm (a b : HPoly R) : HPoly.reqv (a.add b) (b.add a) := by
  rcases hp_add_cases a b with ⟨ha, e⟩ | ⟨ha, hb, e⟩ | ⟨ha, hb, hd, e⟩ | ⟨ha, hb, hd, e⟩ <;> rw [e]
  · by_cases hb : b.coeff = 0
    · rw [hp_add_left_zero hb]
      exact (hp_eqv_iff_struct b a).2 (Or.inl ⟨hb, ha⟩)
    · rw [hp_add_right_zero hb ha]
      exact hp_eqv_refl b
  · rw [hp_add_left_zero hb]
    exact hp_eqv_refl a
  · rw [hp_add_same_deg hb ha hd.symm]
    exact (hp_eqv_iff_struct _ _).2 (Or.inr ⟨hd, add_comm _ _⟩)
  · rw [hp_add_diff_deg hb ha (fun e => hd e.symm)]
    trivial

/-- associativity on a homogeneous part: both bracketings are defined and `==` -/
theorem hpoly_add_assoc (d : Nat) (a b c : HPoly R) (ha : a.InDeg d) (hb : b.InDeg d) (hc : c.InDeg d) :
    ∃ s t u v, a.add b = .ok s ∧ s.add c = .ok t ∧ b.add c = .ok u ∧ a.add u = .ok v ∧ t.eqv v = true := by
  obtain ⟨s, e1, hs, v1⟩ := hp_add_inDeg ha hb
  obtain ⟨t, e2, _, v2⟩ := hp_add_inDeg hs hc
  obtain ⟨u, e3, hu, v3⟩ := hp_add_inDeg hb hc
  obtain ⟨v, e4, _, v4⟩ := hp_add_inDeg ha hu
  refine ⟨s, t, u, v, e1, e2, e3, e4, ?_⟩
  rw [hpoly_eqv_iff_val]
  intro n; rw [v2, v1, v4, v3, add_assoc]

/-- associativity for arbitrary operands whenever all four sums are defined -/
theorem hpoly_add_assoc_of_ok (a b c s t u v : HPoly R) (e1 : a.add b = .ok s) (e2 : s.add c = .ok t)
    (e3 : b.add c = .ok u) (e4 : a.add u = .ok v) : t.eqv v = true := by
  rw [hpoly_eqv_iff_val]
  intro n
  rw [hpoly_add_val e2, hpoly_add_val e1, hpoly_add_val e4, hpoly_add_val e3, add_assoc]

/-- … but definedness itself is not associative (in the code as in the model): `(x − x) + x²` is `x²`, while
`x + (−x + x²)` hits `assert_eq!(self.deg, rhs.deg)` -/
theorem hpoly_add_assoc_panic_asymmetry :
    ((HPoly.add (⟨1, 1⟩ : HPoly Int) ⟨1, -1⟩) >>= fun s => s.add ⟨2, 1⟩) = .ok ⟨2, 1⟩ ∧
    ((HPoly.add (⟨1, -1⟩ : HPoly Int) ⟨2, 1⟩) >>= fun u => HPoly.add ⟨1, 1⟩ u) = .panic := by
  exact ⟨rfl, rfl⟩

/-- zero is neutral from both sides, whatever degree it stores: `0 + a` is `a` itself, `a + 0` is `== a`
(it is `a` itself unless `a` is zero too, in which case the right operand is returned) -/
theorem hpoly_add_zero (a z : HPoly R) (hz : z.coeff = 0) :
    z.add a = .ok a ∧ ∃ c, a.add z = .ok c ∧ c.eqv a = true := by
  refine ⟨hp_add_left_zero hz a, ?_⟩
  by_cases ha : a.coeff = 0
  · exact ⟨z, hp_add_left_zero ha z, (hp_eqv_iff_struct z a).2 (Or.inl ⟨hz, ha⟩)⟩
  · exact ⟨a, hp_add_right_zero ha hz, hp_eqv_refl a⟩

/-- `a + (−a)` and `a − a` are defined and zero (stored with the degree of `a`) -/
theorem hpoly_add_neg_self (a : HPoly R) :
    ∃ z, a.add a.neg = .ok z ∧ a.sub a = .ok z ∧ z.isZero = true ∧ z.deg = a.deg := by
  rw [hp_sub_eq_add_neg]
  by_cases ha : a.coeff = 0
  · have e := hp_add_left_zero ha a.neg
    exact ⟨a.neg, e, e, decide_eq_true ((hp_neg_coeff_eq_zero a).2 ha), rfl⟩
  · have e := hp_add_same_deg (b := a.neg) ha (fun h => ha ((hp_neg_coeff_eq_zero a).1 h)) rfl
    exact ⟨_, e, e, decide_eq_true (add_neg_cancel a.coeff), rfl⟩

/-! ## `==` is a congruence -/

/-- replacing operands by `==` ones gives the same outcome of `+` and `−` (same panic, `==` results), and `==`
results of `neg` and `*`.  (Two zeros of different stored degrees are interchangeable everywhere.) -/
theorem hpoly_add_congr (a a' b b' : HPoly R) (ha : a.eqv a' = true) (hb : b.eqv b' = true) :
    HPoly.reqv (a.add b) (a'.add b') := hp_add_congr ha hb
/-- `−` respects `==` in both operands (same panic, `==` results) -/
theorem hpoly_sub_congr (a a' b b' : HPoly R) (ha : a.eqv a' = true) (hb : b.eqv b' = true) :
    HPoly.reqv (a.sub b) (a'.sub b') := by
  rw [hp_sub_eq_add_neg, hp_sub_eq_add_neg]
  exact hp_add_congr ha (hp_neg_congr hb)
/-- `neg` respects `==` -/
theorem hpoly_neg_congr (a a' : HPoly R) (ha : a.eqv a' = true) : a.neg.eqv a'.neg = true := hp_neg_congr ha
/-- `*` respects `==` in both operands -/
theorem hpoly_mul_congr (a a' b b' : HPoly R) (ha : a.eqv a' = true) (hb : b.eqv b' = true) :
    (a.mul b).eqv (a'.mul b') = true := by
  rw [hpoly_eqv_iff_val]
  intro n
  by_cases h1 : a.coeff = 0
  · have h1' : a'.coeff = 0 := (hp_coeff_zero_of_eqv ha).1 h1
    rw [hval_mul, hval_mul, h1, h1']; simp
  · have e := hp_eq_of_eqv_of_ne_zero ha h1
    subst e
    rw [hval_mul_left, hval_mul_left, (hpoly_eqv_iff_val b b').1 hb]
example : (HPoly.eqv (⟨4, 0⟩ : HPoly Int) ⟨1, 0⟩) = true ∧
    HPoly.reqv (HPoly.add (⟨4, 0⟩ : HPoly Int) ⟨2, 3⟩) (HPoly.add (⟨1, 0⟩ : HPoly Int) ⟨2, 3⟩) :=
  ⟨rfl, (rfl : HPoly.eqv (⟨2, 3⟩ : HPoly Int) ⟨2, 3⟩ = true)⟩

/-! ## multiplication: grading, monoid laws, distributivity -/

/-- the product of the degree-`d` and the degree-`e` part lies in the degree-`d+e` part (incl. the `is_one`
shortcut, which returns `self` unchanged) -/
theorem hpoly_mul_graded (d e : Nat) (a b : HPoly R) (ha : a.InDeg d) (hb : b.InDeg e) :
    (a.mul b).InDeg (d + e) := hp_mul_inDeg ha hb

/-- associativity of `*` up to `==` -/
theorem hpoly_mul_assoc (a b c : HPoly R) : ((a.mul b).mul c).eqv (a.mul (b.mul c)) = true := by
  simp only [hp_mul_eq, Nat.add_assoc, mul_assoc]
  exact hp_eqv_refl _

/-- `one()` is neutral: `a · 1` is `a` itself (shortcut), `1 · a` is `== a` -/
theorem hpoly_mul_one (a : HPoly R) : a.mul ⟨0, 1⟩ = a ∧ (HPoly.mul ⟨0, 1⟩ a).eqv a = true := by
  simp only [hp_mul_eq, Nat.add_zero, Nat.zero_add, mul_one, one_mul, hp_eqv_refl, and_self]

/-- left distributivity: wherever `b + c` is defined, `a·b + a·c` is defined too and `a·(b + c) == a·b + a·c` -/
theorem hpoly_mul_add (a b c s : HPoly R) (h : b.add c = .ok s) :
    ∃ t, (a.mul b).add (a.mul c) = .ok t ∧ (a.mul s).eqv t = true := by
  obtain ⟨e, hb, hc⟩ := hp_common_deg_of_ok ⟨s, h⟩
  have ha : a.InDeg a.deg := Or.inr rfl
  obtain ⟨t, ht, _, vt⟩ := hp_add_inDeg (hp_mul_inDeg ha hb) (hp_mul_inDeg ha hc)
  refine ⟨t, ht, ?_⟩
  rw [hpoly_eqv_iff_val]
  intro n
  simp only [vt, hval_mul_left, hpoly_add_val h]
  by_cases h1 : a.deg ≤ n <;> simp [h1, mul_add]

/-- right distributivity, same shape: `(b + c)·a == b·a + c·a` -/
theorem hpoly_add_mul (a b c s : HPoly R) (h : b.add c = .ok s) :
    ∃ t, (b.mul a).add (c.mul a) = .ok t ∧ (s.mul a).eqv t = true := by
  obtain ⟨e, hb, hc⟩ := hp_common_deg_of_ok ⟨s, h⟩
  have ha : a.InDeg a.deg := Or.inr rfl
  obtain ⟨t, ht, _, vt⟩ := hp_add_inDeg (hp_mul_inDeg hb ha) (hp_mul_inDeg hc ha)
  refine ⟨t, ht, ?_⟩
  rw [hpoly_eqv_iff_val]
  intro n
  simp only [vt, hval_mul_right, hpoly_add_val h]
  by_cases h1 : a.deg ≤ n <;> simp [h1, add_mul]
example : (HPoly.add (⟨2, 3⟩ : HPoly Int) ⟨2, 4⟩) = .ok ⟨2, 7⟩ ∧
    (HPoly.add (HPoly.mul (⟨1, 5⟩ : HPoly Int) ⟨2, 3⟩) (HPoly.mul ⟨1, 5⟩ ⟨2, 4⟩)) = .ok ⟨3, 35⟩ :=
  ⟨rfl, rfl⟩

/-- the converse direction fails only through zero divisors/zero factors: if `b + c` panics, `a·b + a·c` may still be
defined (e.g. `a = 0`); the precise statement is `hpoly_add_panics_iff` applied to the products. -/
theorem hpoly_mul_add_undefined_side :
    (HPoly.add (⟨1, 1⟩ : HPoly Int) ⟨2, 1⟩) = .panic ∧
    (HPoly.add (HPoly.mul (⟨0, 0⟩ : HPoly Int) ⟨1, 1⟩) (HPoly.mul ⟨0, 0⟩ ⟨2, 1⟩)) = .ok ⟨2, 0⟩ :=
  ⟨rfl, rfl⟩

/-- scalar multiplication `*= &r` (with its `is_one` shortcut) scales the denoted polynomial -/
theorem hpoly_smul_spec (a : HPoly R) (r : R) (n : Nat) : hval (a.smul r) n = hval a n * r := by
  unfold HPoly.smul hval
  by_cases hr : r = 1
  · simp [hr]
  · by_cases h : a.deg = n <;> simp [hr, h]

end HPolyAdd

end Yuiv.C16
