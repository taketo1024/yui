import Yuiv.Proofs.C12

/-
C12 — `inv_triangular` (solve against the identity), the CSC transpose, and `solve_triangular_left`, which the code
reduces to the right solve of the transposed system.
-/
namespace Yuiv.C12
open Yuiv

section
variable {R : Type} [CommRing R] [Scal R] [LawfulScal R]
open LawfulScal
variable {upper : Bool} {A : SpMat R} {n : Nat} {u v : Nat → R}

omit [CommRing R] [LawfulScal R] in
theorem col_idMat (n j : Nat) (hj : j < n) : col (idMat n : SpMat R) j = [(j, one)] := by
  unfold idMat; rw [col_mk', if_pos hj]

omit [CommRing R] [LawfulScal R] in
theorem col_idMat_ge (n j : Nat) (hj : ¬ j < n) : col (idMat n : SpMat R) j = [] := by
  unfold idMat; rw [col_mk', if_neg hj]

omit [CommRing R] [LawfulScal R] in
theorem wfy_idMat (n : Nat) : WFY (idMat n : SpMat R) n := by
  refine ⟨rfl, by simp [idMat], fun j e he => ?_, fun j => ?_⟩
  · obtain ⟨hj, he⟩ := mem_col_mk' he
    rw [List.mem_singleton.1 he]; exact hj
  · by_cases hj : j < n
    · rw [col_idMat n j hj]; simp
    · rw [col_idMat_ge n j hj]; simp

theorem toMatrix_idMat (n : Nat) : toMatrix (idMat n : SpMat R) n n = 1 := by
  ext i j
  simp only [toMatrix, entry]
  rw [col_idMat n j j.2, colSum_cons, colSum_nil, Matrix.one_apply]
  by_cases h : i = j
  · subst h; simp [one_eq]
  · have : ¬ (j : Nat) = (i : Nat) := fun hh => h (Fin.ext hh.symm)
    simp [h, this]

theorem invTriangular_correct (hA : UnitTriang upper A n u v) :
    ∃ Z, invTriangular upper A = .ok Z ∧ Z.nrows = n ∧ Z.ncols = n ∧ toMatrix A n n * toMatrix Z n n = 1 := by
  obtain ⟨Z, h1, h2, h3, _, h5⟩ := solve_correct hA (wfy_idMat n)
  refine ⟨Z, by unfold invTriangular; rw [hA.nrows]; exact h1, h2, h3, ?_⟩
  have : (idMat n : SpMat R).ncols = n := rfl
  rw [this] at h5
  rw [h5, toMatrix_idMat]

/-- the entries of a column `c` (column `j`) in row `i`, re-tagged with `j` -/
def tag (i j : Nat) (c : List (Nat × R)) : List (Nat × R) :=
  c.filterMap fun e => if e.1 == i then some (j, e.2) else none

/-- column `i` of the transpose -/
def tcol (A : SpMat R) (i : Nat) : List (Nat × R) := (List.range A.ncols).flatMap fun j => tag i j (col A j)

omit [CommRing R] [Scal R] [LawfulScal R] in
theorem col_transpose (A : SpMat R) (i : Nat) (hi : i < A.nrows) : col (transpose A) i = tcol A i := by
  unfold transpose; rw [col_mk', if_pos hi]; rfl

omit [CommRing R] [Scal R] [LawfulScal R] in
theorem col_transpose_ge (A : SpMat R) (i : Nat) (hi : ¬ i < A.nrows) : col (transpose A) i = [] := by
  unfold transpose; rw [col_mk', if_neg hi]

omit [CommRing R] [Scal R] [LawfulScal R] in
theorem tag_eq (i j : Nat) (c : List (Nat × R)) : tag i j c = (c.filter fun e => e.1 == i).map fun e => (j, e.2) :=
  ListAux.filterMap_ite (fun e : Nat × R => e.1 == i) (fun e => (j, e.2)) c

omit [CommRing R] [Scal R] [LawfulScal R] in
theorem mem_tag {i j : Nat} {c : List (Nat × R)} {e : Nat × R} (h : e ∈ tag i j c) : e.1 = j ∧ (i, e.2) ∈ c := by
  rw [tag_eq] at h
  obtain ⟨e', he', rfl⟩ := List.mem_map.1 h
  have := List.mem_filter.1 he'
  have h1 : e'.1 = i := by simpa using this.2
  exact ⟨rfl, by rw [← h1]; exact this.1⟩

theorem colSum_tag (i j k : Nat) (c : List (Nat × R)) : colSum (tag i j c) k = if j = k then colSum c i else 0 := by
  rw [tag_eq]
  induction c with
  | nil => simp [colSum_nil]
  | cons e c ih =>
    by_cases h : e.1 = i
    · have : (e.1 == i) = true := by simpa using h
      rw [List.filter_cons_of_pos (p := fun e : Nat × R => e.1 == i) this, List.map_cons, colSum_cons, ih, colSum_cons]
      by_cases hjk : j = k <;> simp [hjk, h]
    · have : ¬ (e.1 == i) = true := by simpa using h
      rw [List.filter_cons_of_neg (p := fun e : Nat × R => e.1 == i) this, ih, colSum_cons]
      simp [h]

theorem entry_transpose (A : SpMat R) (k i : Nat) (hi : i < A.nrows) :
    entry (transpose A) k i = if k < A.ncols then entry A i k else 0 := by
  unfold entry
  rw [col_transpose A i hi, tcol, colSum_flatMap]
  simp only [colSum_tag]
  rw [sum_range_single _ A.ncols k fun j hj => if_neg hj, if_pos rfl]

omit [CommRing R] [Scal R] [LawfulScal R] in
theorem filter_tag (i j k : Nat) (c : List (Nat × R)) :
    (tag i j c).filter (fun e => e.1 == k) = if j = k then tag i j c else [] := by
  by_cases h : j = k
  · rw [if_pos h, List.filter_eq_self]
    intro e he; simpa [h] using (mem_tag he).1
  · rw [if_neg h, List.filter_eq_nil_iff]
    intro e he; rw [(mem_tag he).1]; simpa using h

set_option linter.unusedSectionVars false in
theorem UnitTriang.transpose (hA : UnitTriang upper A n u v) : UnitTriang (!upper) (transpose A) n u v := by
  have hnr : (C12.transpose A).nrows = n := hA.ncols
  have hnc : (C12.transpose A).ncols = n := hA.nrows
  refine ⟨⟨by simp [C12.transpose], fun i e he => ?_⟩, hnr, hnc, fun i hi e he hz => ?_, fun i hi => ?_, hA.unit⟩
  · obtain ⟨j, hj, hej⟩ := List.mem_flatMap.1 (mem_col_mk' he).2
    rw [hnr, (mem_tag hej).1, ← hA.ncols]; exact List.mem_range.1 hj
  · rw [col_transpose A i (by rw [hA.nrows]; exact hi), tcol] at he
    obtain ⟨j, hj, hej⟩ := List.mem_flatMap.1 he
    have hjn : j < n := by rw [← hA.ncols]; exact List.mem_range.1 hj
    obtain ⟨h1, h2⟩ := mem_tag hej
    have := hA.tri j hjn (i, e.2) h2 hz
    rw [h1]
    cases upper <;> simpa using this
  · rw [col_transpose A i (by rw [hA.nrows]; exact hi), tcol, List.filter_flatMap]
    simp only [filter_tag]
    have : ∀ j, (if j = i then tag i j (col A j) else []) = if j = i then [(i, u i)] else [] := by
      intro j
      by_cases h : j = i
      · subst h; simp [tag_eq, hA.diag j hi]
      · simp [h]
    simp only [this]
    rw [flatMap_range_single _ A.ncols i fun j hj => if_neg hj, if_pos rfl, hA.ncols, if_pos hi]

/-- CSC well-formedness of a right-hand side of the LEFT solve (`k × n`) -/
structure WFYL (Y : SpMat R) (n : Nat) : Prop where
  ncols : Y.ncols = n
  rows : ∀ j, ∀ e ∈ col Y j, e.1 < Y.nrows
  nodup : ∀ j, ((col Y j).map (·.1)).Nodup

omit [CommRing R] [Scal R] [LawfulScal R] in
theorem length_filter_le_one (c : List (Nat × R)) (i : Nat) (h : (c.map (·.1)).Nodup) :
    (c.filter fun e => e.1 == i).length ≤ 1 := by
  induction c with
  | nil => simp
  | cons e c ih =>
    rw [List.map_cons, List.nodup_cons] at h
    by_cases he : e.1 = i
    · have h0 : c.filter (fun e => e.1 == i) = [] := by
        rw [List.filter_eq_nil_iff]
        intro e' he' hh
        have : e'.1 = i := by simpa using hh
        exact h.1 (List.mem_map.2 ⟨e', he', by rw [this, he]⟩)
      have : (e.1 == i) = true := by simpa using he
      rw [List.filter_cons_of_pos (p := fun e : Nat × R => e.1 == i) this, h0]; simp
    · have : ¬ (e.1 == i) = true := by simpa using he
      rw [List.filter_cons_of_neg (p := fun e : Nat × R => e.1 == i) this]; exact ih h.2

omit [CommRing R] [Scal R] [LawfulScal R] in
theorem nodup_tags (f : Nat → List (Nat × R)) (hf : ∀ j, ∀ e ∈ f j, e.1 = j) (hl : ∀ j, (f j).length ≤ 1)
    (l : List Nat) (hnd : l.Nodup) : ((l.flatMap f).map (·.1)).Nodup := by
  induction l with
  | nil => simp
  | cons x l ih =>
    rw [List.nodup_cons] at hnd
    rw [List.flatMap_cons, List.map_append, List.nodup_append]
    refine ⟨?_, ih hnd.2, ?_⟩
    · have := hl x
      match hfx : f x with
      | [] => simp
      | [a] => simp
      | a :: b :: t => rw [hfx] at this; simp at this
    · intro a ha b hb hab
      obtain ⟨e, he, rfl⟩ := List.mem_map.1 ha
      obtain ⟨e', he', rfl⟩ := List.mem_map.1 hb
      obtain ⟨j, hj, hej⟩ := List.mem_flatMap.1 he'
      rw [hf x e he, hf j e' hej] at hab
      exact hnd.1 (hab ▸ hj)

set_option linter.unusedSectionVars false in
theorem WFYL.transpose {Y : SpMat R} (hY : WFYL Y n) : WFY (transpose Y) n := by
  refine ⟨hY.ncols, by simp [C12.transpose], fun i e he => ?_, fun i => ?_⟩
  · obtain ⟨j, hj, hej⟩ := List.mem_flatMap.1 (mem_col_mk' he).2
    rw [(mem_tag hej).1, ← hY.ncols]; exact List.mem_range.1 hj
  · by_cases hi : i < Y.nrows
    · rw [col_transpose Y i hi, tcol]
      apply nodup_tags
      · intro j e he; exact (mem_tag he).1
      · intro j; rw [tag_eq, List.length_map]; exact length_filter_le_one _ _ (hY.nodup j)
      · exact List.nodup_range
    · rw [col_transpose_ge Y i hi]; simp

theorem toMatrix_transpose (A : SpMat R) (m k : Nat) (hm : A.nrows = m) (hk : A.ncols = k) :
    toMatrix (transpose A) k m = (toMatrix A m k).transpose := by
  ext c i
  rw [Matrix.transpose_apply]
  unfold toMatrix
  rw [entry_transpose A c i (hm ▸ i.2), hk, if_pos c.2]

theorem solveLeft_correct (hA : UnitTriang upper A n u v) {Y : SpMat R} (hY : WFYL Y n) :
    ∃ X, solveLeft upper A Y = .ok X ∧ X.nrows = Y.nrows ∧ X.ncols = n ∧
      toMatrix X Y.nrows n * toMatrix A n n = toMatrix Y Y.nrows n := by
  obtain ⟨X', h1, h2, h3, _, h5⟩ := solve_correct hA.transpose hY.transpose
  have h3' : X'.ncols = Y.nrows := h3
  rw [toMatrix_transpose A n n hA.nrows hA.ncols, show (transpose Y).ncols = Y.nrows from rfl,
    toMatrix_transpose Y _ n rfl hY.ncols] at h5
  refine ⟨transpose X', by unfold solveLeft; rw [h1], h3, h2, ?_⟩
  rw [toMatrix_transpose X' n _ h2 h3', ← Matrix.transpose_inj, Matrix.transpose_mul, Matrix.transpose_transpose]
  exact h5

end
end Yuiv.C12
