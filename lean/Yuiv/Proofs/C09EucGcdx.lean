import Yuiv.Proofs.C09Euc
/-
The generic `EucRing::gcdx` of `yui/src/abst/euc_ring.rs` (early returns on `x | y`, `y | x`, the extended
Euclidean `while` loop, final multiplication by the normalising unit), written over an operation record, and the
proof that for lawful base operations (`LawfulEucBase`) it is an extended gcd with a normalised result.  Hence a
record whose `gcdx` is this function is `LawfulEuc` (used for ℤ[i], ℤ[ω] and `F[x]`; ℤ has its own `gcdx`).
-/
namespace Yuiv.C09
open Yuiv

variable {α K : Type} [CommRing K] [IsDomain K]

/-- the `while !y.is_zero()` loop of `EucRing::gcdx`; fuel `size y + 1` suffices -/
def genGcdxLoop (e : EOps α) : Nat → (x y s0 s1 t0 t1 : α) → α × α × α
  | 0, x, _, s0, _, t0, _ => (x, s0, t0)
  | f + 1, x, y, s0, s1, t0, t1 =>
    if e.isZero y then (x, s0, t0)
    else
      let q := e.quo x y
      let r := e.rem x y
      genGcdxLoop e f y r s1 (e.sub s0 (e.mul q s1)) t1 (e.sub t0 (e.mul q t1))

/-- generic `EucRing::gcdx` -/
def genGcdx (e : EOps α) (x y : α) : α × α × α :=
  if e.isZero x && e.isZero y then (e.zero, e.zero, e.zero)
  else if e.dvd x y then (e.mul x (e.normUnit x), e.normUnit x, e.zero)
  else if e.dvd y x then (e.mul y (e.normUnit y), e.zero, e.normUnit y)
  else
    let g := genGcdxLoop e (e.size y + 1) x y e.one e.zero e.zero e.one
    let u := e.normUnit g.1
    if e.isOne u then g else (e.mul g.1 u, e.mul g.2.1 u, e.mul g.2.2 u)

theorem genGcdxLoop_with {α : Type} (e : EOps α) (g : α → α → α × α × α) : ∀ (f : Nat) (x y s0 s1 t0 t1 : α),
    genGcdxLoop { e with gcdx := g } f x y s0 s1 t0 t1 = genGcdxLoop e f x y s0 s1 t0 t1
  | 0, _, _, _, _, _, _ => rfl
  | f + 1, x, y, s0, s1, t0, t1 => by
    rw [genGcdxLoop, genGcdxLoop]
    split
    · rfl
    · exact genGcdxLoop_with e g f _ _ _ _ _ _

/-- `genGcdx` never calls the record's own `gcdx`; so a record can be closed as `{ pre with gcdx := genGcdx pre }` -/
theorem genGcdx_with {α : Type} (e : EOps α) (g : α → α → α × α × α) (x y : α) :
    genGcdx { e with gcdx := g } x y = genGcdx e x y := by
  unfold genGcdx
  simp only [genGcdxLoop_with]
  rfl

section
variable {e : EOps α} {φ : α → K} (L : LawfulEucBase e φ)
include L

theorem normUnit_of_zero (a : α) (h : φ a = 0) : φ (e.normUnit a) = 1 := by
  have h1 := L.norm_mul a
  rw [L.normUnit_congr (e.mul a (e.normUnit a)) a (by rw [L.phi_mul, h, zero_mul])] at h1
  exact h1

theorem genGcdxLoop_spec (X Y : K) : ∀ (fuel : Nat) (x y s0 s1 t0 t1 : α),
    (φ y ≠ 0 → e.size y < fuel) → φ x = φ s0 * X + φ t0 * Y → φ y = φ s1 * X + φ t1 * Y →
    (∀ z : K, z ∣ φ x → z ∣ φ y → z ∣ X ∧ z ∣ Y) →
    φ (genGcdxLoop e fuel x y s0 s1 t0 t1).1 =
      φ (genGcdxLoop e fuel x y s0 s1 t0 t1).2.1 * X + φ (genGcdxLoop e fuel x y s0 s1 t0 t1).2.2 * Y ∧
    φ (genGcdxLoop e fuel x y s0 s1 t0 t1).1 ∣ X ∧ φ (genGcdxLoop e fuel x y s0 s1 t0 t1).1 ∣ Y := by
  intro fuel
  induction fuel with
  | zero =>
    intro x y s0 s1 t0 t1 hf h0 h1 hd
    have hy : φ y = 0 := by
      by_contra hy; exact absurd (hf hy) (Nat.not_lt_zero _)
    rw [genGcdxLoop]
    exact ⟨h0, hd (φ x) (dvd_refl _) (by rw [hy]; exact dvd_zero _)⟩
  | succ fuel ih =>
    intro x y s0 s1 t0 t1 hf h0 h1 hd
    rw [genGcdxLoop]
    split
    · rename_i hz
      have hy : φ y = 0 := (L.isZero_iff y).1 hz
      exact ⟨h0, hd (φ x) (dvd_refl _) (by rw [hy]; exact dvd_zero _)⟩
    · rename_i hz
      have hy : φ y ≠ 0 := fun h => hz ((L.isZero_iff y).2 h)
      have hdr := L.div_rem x y hy
      have hsz := L.size_rem x y hy
      have hfy := hf hy
      apply ih
      · intro _; omega
      · exact h1
      · rw [sub_eq L.lawful, sub_eq L.lawful, L.phi_mul, L.phi_mul]
        linear_combination h0 - hdr - φ (e.quo x y) * h1
      · intro z ha hb
        apply hd z _ ha
        rw [hdr]
        exact dvd_add (Dvd.dvd.mul_left ha _) hb

theorem genGcdx_spec (x y : α) :
    φ (genGcdx e x y).1 = φ (genGcdx e x y).2.1 * φ x + φ (genGcdx e x y).2.2 * φ y ∧
    (φ (genGcdx e x y).1 ∣ φ x ∧ φ (genGcdx e x y).1 ∣ φ y) ∧ φ (e.normUnit (genGcdx e x y).1) = 1 := by
  unfold genGcdx
  split
  · rename_i h
    simp only [Bool.and_eq_true, L.isZero_iff] at h
    refine ⟨?_, ?_, normUnit_of_zero L _ L.phi_zero⟩
    · simp only [L.phi_zero]; ring
    · simp only [L.phi_zero, h.1, h.2]
      exact ⟨dvd_refl _, dvd_refl _⟩
  · split
    · rename_i hxy
      rw [L.dvd_iff] at hxy
      have hu := L.normUnit_isUnit x
      refine ⟨?_, ⟨?_, ?_⟩, L.norm_mul x⟩
      · simp only [L.phi_mul, L.phi_zero]; ring
      · simp only [L.phi_mul]; rw [hu.mul_right_dvd]
      · simp only [L.phi_mul]; rw [hu.mul_right_dvd]; exact hxy.2
    · split
      · rename_i hyx
        rw [L.dvd_iff] at hyx
        have hu := L.normUnit_isUnit y
        refine ⟨?_, ⟨?_, ?_⟩, L.norm_mul y⟩
        · simp only [L.phi_mul, L.phi_zero]; ring
        · simp only [L.phi_mul]; rw [hu.mul_right_dvd]; exact hyx.2
        · simp only [L.phi_mul]; rw [hu.mul_right_dvd]
      · obtain ⟨g1, g2, g3⟩ := genGcdxLoop_spec L (φ x) (φ y) (e.size y + 1) x y e.one e.zero e.zero e.one
          (fun _ => Nat.lt_succ_self _) (by rw [L.phi_one, L.phi_zero]; ring) (by rw [L.phi_one, L.phi_zero]; ring)
          (fun z h1 h2 => ⟨h1, h2⟩)
        generalize genGcdxLoop e (e.size y + 1) x y e.one e.zero e.zero e.one = g at g1 g2 g3
        simp only
        split
        · rename_i hone
          exact ⟨g1, ⟨g2, g3⟩, (L.isOne_iff _).1 hone⟩
        · have hu := L.normUnit_isUnit g.1
          refine ⟨?_, ⟨?_, ?_⟩, L.norm_mul g.1⟩
          · simp only [L.phi_mul]; rw [g1]; ring
          · simp only [L.phi_mul]; rw [hu.mul_right_dvd]; exact g2
          · simp only [L.phi_mul]; rw [hu.mul_right_dvd]; exact g3

end

theorem lawfulEuc_of_genGcdx (e : EOps α) (φ : α → K) (L : LawfulEucBase e φ)
    (hg : ∀ x y, e.gcdx x y = genGcdx e x y) : LawfulEuc e φ where
  toLawfulEucBase := L
  gcdx_bezout x y := by rw [hg]; exact (genGcdx_spec L x y).1
  gcdx_dvd x y := by rw [hg]; exact (genGcdx_spec L x y).2.1
  gcdx_norm x y := by rw [hg]; exact (genGcdx_spec L x y).2.2

end Yuiv.C09
