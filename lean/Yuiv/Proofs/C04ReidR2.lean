import Yuiv.Proofs.C04LocalPiece
import Mathlib.Tactic.LinearCombination
/-
C04Reid (helper, no property theorem here): Reidemeister II on PD codes — the bigon between two strands.
Labels: the two strands enter the bigon on `a`, `b`, run through the bigon on `c`, `d` and leave on `a2`, `b2`.
Two concrete forms (those produced by inserting `σᵢ σᵢ⁻¹` resp. `σᵢ⁻¹ σᵢ` into a braid word, `Braid::closure`):
  PN :  X[a, c, d, b],  X[d, c, a2, b2]        NP :  X[b, a, c, d],  X[c, a2, b2, d]
Of the four resolutions of the two crossings one is the identity tangle (`a–c–a2`, `b–d–b2`), two are the turn-back
(`a–b`, `a2–b2`) and one is the turn-back with an extra circle `c–d`: state sum of the new diagram = `x ·` (collapsed
diagram) `+ (1 + x·y + x²) ·` (turn-back diagram).
-/
open Yuiv.KhRef Yuiv.C04
namespace Yuiv.C04Inv

/-- collapse `c`, `a2` onto `a` and `d`, `b2` onto `b` -/
def collapse2 (a b c d a2 b2 : Nat) (z : Nat) : Nat :=
  if z = c ∨ z = a2 then a else if z = d ∨ z = b2 then b else z

def quadSet (a b a2 b2 : Nat) : Set Nat := {z | z = a ∨ z = b ∨ z = a2 ∨ z = b2}

def turnArcs (a b a2 b2 : Nat) : List (Nat × Nat) := [(a, b), (a2, b2)]

/-- freshness / distinctness of the six labels of a bigon relative to the rest `lm` of the diagram -/
structure BigonLabels (lm : Link) (a b c d a2 b2 : Nat) : Prop where
  hc : c ∉ labelSet lm
  hd : d ∉ labelSet lm
  ca : c ≠ a
  cb : c ≠ b
  ca2 : c ≠ a2
  cb2 : c ≠ b2
  da : d ≠ a
  db : d ≠ b
  da2 : d ≠ a2
  db2 : d ≠ b2
  cd : c ≠ d
  ab2 : a ≠ b2
  ba2 : b ≠ a2
  a2b2 : a2 ≠ b2

section
variable {lm : Link} {a b c d a2 b2 : Nat}

theorem collapse2_vals (h : BigonLabels lm a b c d a2 b2) :
    collapse2 a b c d a2 b2 a = a ∧ collapse2 a b c d a2 b2 b = b ∧ collapse2 a b c d a2 b2 c = a ∧
    collapse2 a b c d a2 b2 d = b ∧ collapse2 a b c d a2 b2 a2 = a ∧ collapse2 a b c d a2 b2 b2 = b := by
  obtain ⟨_, _, ca, cb, ca2, cb2, da, db, da2, db2, cd, ab2, ba2, a2b2⟩ := h
  unfold collapse2
  refine ⟨?_, ?_, ?_, ?_, ?_, ?_⟩
  · split
    · rfl
    · split
      · rename_i h; rcases h with h | h
        · exact absurd h.symm da
        · exact absurd h ab2
      · rfl
  · split
    · rename_i h; rcases h with h | h
      · exact absurd h.symm cb
      · exact absurd h ba2
    · split <;> rfl
  · simp
  · rw [if_neg (by rintro (h | h); exact cd h.symm; exact da2 h)]; simp
  · simp
  · rw [if_neg (by rintro (h | h); exact cb2 h.symm; exact a2b2 h.symm)]; simp

/-! The bigon on formal symbols: `0,1,2,3` = `a, b, a2, b2` (boundary), `4,5` = `c, d` (inside). -/

def rho6 (a b c d a2 b2 : Nat) (k : Nat) : Nat := [a, b, a2, b2, c, d].getD k 0

def all6 : List Nat := [0, 1, 2, 3, 4, 5]
def ends4 : List Nat := [0, 1, 2, 3]
def inn2 : List Nat := [4, 5]

theorem rho6_inner_inj (h : BigonLabels lm a b c d a2 b2) :
    ∀ u ∈ all6, ∀ v ∈ inn2, rho6 a b c d a2 b2 u = rho6 a b c d a2 b2 v → u = v := by
  obtain ⟨_, _, ca, cb, ca2, cb2, da, db, da2, db2, cd, _, _, _⟩ := h
  intro u hu v hv e
  simp only [all6, inn2, List.mem_cons, List.not_mem_nil, or_false] at hu hv
  refine getD_append_inj [a, b, a2, b2] [c, d] ?_ (by simp [cd]) u v ?_ ?_ ?_ e
  · simp only [List.mem_cons, List.not_mem_nil, or_false]
    rintro x (rfl | rfl | rfl | rfl) (h | h)
    exacts [ca h.symm, da h.symm, cb h.symm, db h.symm, ca2 h.symm, da2 h.symm, cb2 h.symm, db2 h.symm]
  all_goals
    simp only [List.length_cons, List.length_nil]
    omega

theorem rho6_fresh (h : BigonLabels lm a b c d a2 b2) : ∀ v ∈ inn2, rho6 a b c d a2 b2 v ∉ labelSet lm := by
  intro v hv
  simp only [inn2, List.mem_cons, List.not_mem_nil, or_false] at hv
  rcases hv with rfl | rfl
  · exact h.hc
  · exact h.hd

theorem quadSet_eq : quadSet a b a2 b2 = {z | z ∈ ends4.map (rho6 a b c d a2 b2)} := by
  ext z
  simp only [quadSet, ends4, rho6, List.map_cons, List.map_nil, List.mem_cons, List.not_mem_nil, or_false,
    Set.mem_ofPred_eq, List.getD_cons_zero, List.getD_cons_succ]

end

section
variable {R : Type} [CommRing R] {lm : Link} {a b c d a2 b2 : Nat}

/-- the turn-back state sum (the two strands of the bigon replaced by `a–b`, `a2–b2`) -/
noncomputable def turnSum (x y : R) (lm : Link) (a b a2 b2 : Nat) : R :=
  partSum (quadSet a b a2 b2 ∪ labelSet lm) x y lm 0 (turnArcs a b a2 b2)

theorem bigon_ident (x y : R) (hwf : WF lm) (h : BigonLabels lm a b c d a2 b2)
    (ha : a ∈ labelSet (renumber (collapse2 a b c d a2 b2) lm)) (hb : b ∈ labelSet (renumber (collapse2 a b c d a2 b2) lm)) :
    partSum ({z | z ∈ ends4.map (rho6 a b c d a2 b2)} ∪ labelSet lm) x y lm 0
        [pmap (rho6 a b c d a2 b2) (0, 2), pmap (rho6 a b c d a2 b2) (1, 3)]
      = stateSum x y (renumber (collapse2 a b c d a2 b2) lm) := by
  obtain ⟨va, vb, vc, vd, va2, vb2⟩ := collapse2_vals h
  rw [labelSet_renumber] at ha hb
  have hE : ∀ z, z ∈ ({z | z ∈ ends4.map (rho6 a b c d a2 b2)} : Set Nat) → z = a ∨ z = b ∨ z = a2 ∨ z = b2 := by
    intro z hz
    simpa [ends4, rho6] using hz
  refine partSum_collapse x y _ _ _ lm hwf ?_ ?_ ?_
  · intro p hp
    simp only [List.mem_cons, List.not_mem_nil, or_false] at hp
    rcases hp with rfl | rfl
    · exact va.trans va2.symm
    · exact vb.trans vb2.symm
  · intro z hz
    -- `c`, `d` are neither on the boundary nor in `lm`
    have hzc : z ≠ c := by
      rintro rfl
      rcases hz with hz | hz
      · rcases hE _ hz with e | e | e | e
        exacts [h.ca e, h.cb e, h.ca2 e, h.cb2 e]
      · exact h.hc hz
    have hzd : z ≠ d := by
      rintro rfl
      rcases hz with hz | hz
      · rcases hE _ hz with e | e | e | e
        exacts [h.da e, h.db e, h.da2 e, h.db2 e]
      · exact h.hd hz
    unfold collapse2
    split
    · rename_i hz'
      rw [hz'.resolve_left hzc]
      exact Conn.of_mem_symm (by simp [pmap, rho6])
    · split
      · rename_i hz'
        rw [hz'.resolve_left hzd]
        exact Conn.of_mem_symm (by simp [pmap, rho6])
      · exact Conn.refl _
  · intro z hz
    rcases hE z hz with rfl | rfl | rfl | rfl
    · rw [va]; exact ha
    · rw [vb]; exact hb
    · rw [va2]; exact ha
    · rw [vb2]; exact hb

theorem bigon_turn (x y : R) :
    partSum ({z | z ∈ ends4.map (rho6 a b c d a2 b2)} ∪ labelSet lm) x y lm 0
        [pmap (rho6 a b c d a2 b2) (0, 1), pmap (rho6 a b c d a2 b2) (2, 3)] = turnSum x y lm a b a2 b2 := by
  unfold turnSum
  rw [quadSet_eq (c := c) (d := d)]
  rfl

/-- the smoothings (0,0), (0,1), (1,0), (1,1) of `X[a,c,d,b] X[d,c,a2,b2]`: turn-back, identity, turn-back with the
circle `c–d`, turn-back -/
def certsPN : List Cert :=
  [⟨[0, 1, 2, 3, 0, 0], [(0, 1), (2, 3)], []⟩, ⟨[0, 1, 2, 3, 0, 1], [(0, 2), (1, 3)], []⟩,
   ⟨[0, 1, 2, 3, 4, 4], [(0, 1), (2, 3)], [4]⟩, ⟨[0, 1, 2, 3, 2, 2], [(0, 1), (2, 3)], []⟩]

/-- the same for `X[c,a2,b2,d] X[b,a,c,d]` -/
def certsNP : List Cert :=
  [⟨[0, 1, 2, 3, 2, 2], [(0, 1), (2, 3)], []⟩, ⟨[0, 1, 2, 3, 0, 1], [(0, 2), (1, 3)], []⟩,
   ⟨[0, 1, 2, 3, 4, 4], [(0, 1), (2, 3)], [4]⟩, ⟨[0, 1, 2, 3, 0, 0], [(0, 1), (2, 3)], []⟩]

/-- the bigon `X[a,c,d,b] X[d,c,a2,b2]` (from `σᵢ σᵢ⁻¹`) -/
theorem bigon_stateSum_PN (x y : R) {l' : Link} (hwf : WF lm) (h : BigonLabels lm a b c d a2 b2)
    (ha : a ∈ labelSet (renumber (collapse2 a b c d a2 b2) lm)) (hb : b ∈ labelSet (renumber (collapse2 a b c d a2 b2) lm))
    (hp : l'.toList.Perm (⟨.X, #[a, c, d, b]⟩ :: ⟨.X, #[d, c, a2, b2]⟩ :: lm.toList)) :
    stateSum x y l' = x * stateSum x y (renumber (collapse2 a b c d a2 b2) lm)
      + (1 + x * y + x ^ 2) * turnSum x y lm a b a2 b2 := by
  have hp' : l'.toList.Perm ([(0, 4, 5, 1), (5, 4, 2, 3)].map (fun t => pdX (map4 (rho6 a b c d a2 b2) t)) ++ lm.toList) := hp
  rw [local_expand x y all6 inn2 ends4 _ certsPN (by decide +kernel) hwf (rho6_inner_inj h) (rho6_fresh h) hp']
  simp only [smooth, certsPN, List.map, List.zip, List.zipWith, List.sum_cons, List.sum_nil, List.length, List.cons_append,
    List.nil_append, bigon_ident x y hwf h ha hb, bigon_turn]
  ring

/-- the bigon `X[b,a,c,d] X[c,a2,b2,d]` (from `σᵢ⁻¹ σᵢ`), its two crossings taken in the other order -/
theorem bigon_stateSum_NP (x y : R) {l' : Link} (hwf : WF lm) (h : BigonLabels lm a b c d a2 b2)
    (ha : a ∈ labelSet (renumber (collapse2 a b c d a2 b2) lm)) (hb : b ∈ labelSet (renumber (collapse2 a b c d a2 b2) lm))
    (hp : l'.toList.Perm (⟨.X, #[b, a, c, d]⟩ :: ⟨.X, #[c, a2, b2, d]⟩ :: lm.toList)) :
    stateSum x y l' = x * stateSum x y (renumber (collapse2 a b c d a2 b2) lm)
      + (1 + x * y + x ^ 2) * turnSum x y lm a b a2 b2 := by
  have hp' : l'.toList.Perm ([(4, 2, 3, 5), (1, 0, 4, 5)].map (fun t => pdX (map4 (rho6 a b c d a2 b2) t)) ++ lm.toList) :=
    hp.trans (List.Perm.swap _ _ _)
  rw [local_expand x y all6 inn2 ends4 _ certsNP (by decide +kernel) hwf (rho6_inner_inj h) (rho6_fresh h) hp']
  simp only [smooth, certsNP, List.map, List.zip, List.zipWith, List.sum_cons, List.sum_nil, List.length, List.cons_append,
    List.nil_append, bigon_ident x y hwf h ha hb, bigon_turn]
  ring

theorem bigon_cancel (q qinv : R) (hq : q * qinv = 1) : 1 + (-q) * (q + qinv) + (-q) ^ 2 = 0 := by
  linear_combination (-1 : R) * hq

theorem prefactor_bigon (q qinv : R) (hq : q * qinv = 1) (nPos nNeg : Nat) :
    npow (-1 : R) (nNeg + 1) * zpow q qinv (((nPos + 1 : Nat) : Int) - 2 * ((nNeg + 1 : Nat) : Int)) * (-q)
      = npow (-1 : R) nNeg * zpow q qinv ((nPos : Int) - 2 * nNeg) := by
  have e : (((nPos + 1 : Nat) : Int) - 2 * ((nNeg + 1 : Nat) : Int)) = ((nPos : Int) - 2 * nNeg) + (-1) := by
    push_cast; ring
  rw [e, zpow_add' q qinv hq, zpow_neg_one', npow_eq, npow_eq, pow_succ]
  linear_combination ((-1 : R) ^ nNeg * zpow q qinv ((nPos : Int) - 2 * nNeg)) * hq

end

end Yuiv.C04Inv
