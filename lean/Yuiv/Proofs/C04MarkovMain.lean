import Yuiv.Proofs.C04MarkovFar
import Yuiv.Proofs.C04MarkovR3
import Yuiv.Proofs.C04MarkovConj
import Yuiv.Proofs.C04MarkovJInv
import Yuiv.Props.C04Reid
/-
C04Markov (helper, no property theorem here): the elementary moves as instances of `JInv`, the signed variants of the
braid relation derived from the all-positive one and Reidemeister II, the inductive relations `MarkovMove` /
`MarkovEq`.
-/
open Yuiv.KhRef Yuiv.C04
namespace Yuiv.C04Inv
open Yuiv.C18 (closure)

def ClosureOk (n : Nat) (w : List Int) : Prop := ∃ l, closure n w = .ok l

theorem jinv_r2 (n : Nat) (u1 u2 : List Int) (s : Int) : JInv n (u1 ++ u2) n (u1 ++ [s, -s] ++ u2) :=
  fun l l' h h' => r2_braid_jones_signs n u1 u2 s l l' h h'

theorem jinv_far (n : Nat) (w1 w2 : List Int) (s t : Int)
    (hfar : s.natAbs + 2 ≤ t.natAbs ∨ t.natAbs + 2 ≤ s.natAbs) :
    JInv n (w1 ++ [s, t] ++ w2) n (w1 ++ [t, s] ++ w2) := by
  refine jinv_of_stateSum n _ _ ?_ (by simp) ?_
  · simp [C18.expSum_eq_sum]; omega
  · intro l l' h h' q qinv _
    exact far_stateSum _ _ n w1 w2 s t l l' hfar h h'

theorem jinv_conj (n : Nat) (w : List Int) (s : Int) : JInv n (w ++ [s]) n ([s] ++ w) := by
  refine jinv_of_stateSum n _ _ ?_ (by simp) ?_
  · simp [C18.expSum_eq_sum]; omega
  · intro l l' h h' q qinv _
    exact conj_stateSum _ _ n w s l l' h h'

theorem jinv_r3_pos (n p : Nat) (w1 w2 : List Int) :
    JInv n (w1 ++ [((p + 1 : Nat) : Int), ((p + 2 : Nat) : Int), ((p + 1 : Nat) : Int)] ++ w2)
      n (w1 ++ [((p + 2 : Nat) : Int), ((p + 1 : Nat) : Int), ((p + 2 : Nat) : Int)] ++ w2) := by
  refine jinv_of_stateSum n _ _ ?_ (by simp) ?_
  · have e1 : Int.sign ((p : Int) + 1) = 1 := Int.sign_eq_one_of_pos (by omega)
    have e2 : Int.sign ((p : Int) + 2) = 1 := Int.sign_eq_one_of_pos (by omega)
    simp [C18.expSum_eq_sum, e1, e2]
  · intro l l' h h' q qinv hq
    exact r3_pos_stateSum _ _ (bigon_cancel q qinv hq) n p w1 w2 l l' h h'

theorem jinv_stab (n : Nat) (w : List Int) (s : Int) (hs : s.natAbs = n) (hn : 0 < n) :
    JInv n w (n + 1) (w ++ [s]) := by
  intro l l' h h'
  obtain ⟨l'', sg, sg', h1, h2, h3, h4, h5⟩ := r1_markov_jones_signs n w s l h hs hn
  rw [h1] at h'; cases h'
  exact ⟨sg, sg', h2, h3, h4, h5⟩

theorem letter_range (n : Nat) (w1 : List Int) (s : Int) (w2 : List Int) (h : ClosureOk n (w1 ++ s :: w2)) :
    s ≠ 0 ∧ s.natAbs < n := by
  obtain ⟨l, hl⟩ := h
  obtain ⟨st, hf, _⟩ := closure_stateSum (R := Int) 0 0 n _ l hl
  obtain ⟨st1, hf1, hr⟩ := foldlM_append_ok.1 hf
  have hI := C18.cinv_foldl n w1 _ st1 (C18.cinv_init n) hf1
  obtain ⟨q, hq, _⟩ := foldlM_cons_ok.1 hr
  obtain ⟨c, bot, pd⟩ := st1
  obtain ⟨_, _, hs0, _, hb, _⟩ := step_explicit hq
  have := hI.len
  simp only at this
  exact ⟨hs0, by omega⟩

theorem ok_r2 (n : Nat) (u1 u2 : List Int) (s : Int) (h : ClosureOk n (u1 ++ u2)) (hs0 : s ≠ 0) (hsn : s.natAbs < n) :
    ClosureOk n (u1 ++ [s, -s] ++ u2) := by
  obtain ⟨l, hl⟩ := h
  exact braid_r2_exists n u1 u2 s l hl hs0 hsn

theorem jinv_ins (n : Nat) (w1 w2 u v : List Int) (s : Int) :
    JInv n (w1 ++ ((u ++ v) ++ w2)) n (w1 ++ ((u ++ [s, -s] ++ v) ++ w2)) := by
  have := jinv_r2 n (w1 ++ u) (v ++ w2) s
  simpa [List.append_assoc] using this

theorem ok_ins (n : Nat) (w1 w2 u v : List Int) (s : Int) (h : ClosureOk n (w1 ++ ((u ++ v) ++ w2))) (hs0 : s ≠ 0)
    (hsn : s.natAbs < n) : ClosureOk n (w1 ++ ((u ++ [s, -s] ++ v) ++ w2)) := by
  have := ok_r2 n (w1 ++ u) (v ++ w2) s (by simpa [List.append_assoc] using h) hs0 hsn
  simpa [List.append_assoc] using this

theorem range_xy (n : Nat) (w1 w2 : List Int) {x' y' z : Int} (h : ClosureOk n (w1 ++ ([x', y', z] ++ w2))) :
    (x' ≠ 0 ∧ x'.natAbs < n) ∧ y' ≠ 0 ∧ y'.natAbs < n :=
  ⟨letter_range n w1 x' (y' :: z :: w2) (by simpa using h),
    letter_range n (w1 ++ [x']) y' (z :: w2) (by simpa [List.append_assoc] using h)⟩

section
variable (n : Nat) {x y : Int} (H : ∀ u v : List Int, JInv n (u ++ [x, y, x] ++ v) n (u ++ [y, x, y] ++ v))
  (w1 w2 : List Int)
include H

/-- `x y x⁻¹ = y⁻¹ x y`: insert `y⁻¹ y` in front, apply the relation, cancel `x x⁻¹` at the end -/
theorem jinv_r3_left : JInv n (w1 ++ [x, y, -x] ++ w2) n (w1 ++ [-y, x, y] ++ w2) := by
  intro l l' h h'
  have exS : ClosureOk n (w1 ++ ([x, y, -x] ++ w2)) := ⟨l, by simpa [List.append_assoc] using h⟩
  have exT : ClosureOk n (w1 ++ ([-y, x, y] ++ w2)) := ⟨l', by simpa [List.append_assoc] using h'⟩
  obtain ⟨⟨hx0, hxn⟩, hy0, hyn⟩ := range_xy n w1 w2 exS
  have exS1 : ClosureOk n (w1 ++ ([-y, y, x, y, -x] ++ w2)) := by
    simpa using ok_ins n w1 w2 [] [x, y, -x] (-y) (by simpa using exS) (by omega) (by omega)
  have exS2 : ClosureOk n (w1 ++ ([-y, x, y, x, -x] ++ w2)) := by
    simpa using ok_ins n w1 w2 [-y, x, y] [] x (by simpa using exT) hx0 hxn
  have j1 : JInv n (w1 ++ ([x, y, -x] ++ w2)) n (w1 ++ ([-y, y, x, y, -x] ++ w2)) := by
    simpa using jinv_ins n w1 w2 [] [x, y, -x] (-y)
  have j2 : JInv n (w1 ++ ([-y, x, y, x, -x] ++ w2)) n (w1 ++ ([-y, y, x, y, -x] ++ w2)) := by
    simpa [List.append_assoc] using H (w1 ++ [-y]) ([-x] ++ w2)
  have j3 : JInv n (w1 ++ ([-y, x, y] ++ w2)) n (w1 ++ ([-y, x, y, x, -x] ++ w2)) := by
    simpa using jinv_ins n w1 w2 [-y, x, y] [] x
  exact ((j1.trans j2.symm exS1).trans j3.symm exS2) l l' (by simpa [List.append_assoc] using h)
    (by simpa [List.append_assoc] using h')

/-- `x⁻¹ y x = y x y⁻¹`: append `y y⁻¹`, apply the relation, cancel `x⁻¹ x` in front -/
theorem jinv_r3_right : JInv n (w1 ++ [-x, y, x] ++ w2) n (w1 ++ [y, x, -y] ++ w2) := by
  intro l l' h h'
  have exS : ClosureOk n (w1 ++ ([-x, y, x] ++ w2)) := ⟨l, by simpa [List.append_assoc] using h⟩
  have exT : ClosureOk n (w1 ++ ([y, x, -y] ++ w2)) := ⟨l', by simpa [List.append_assoc] using h'⟩
  obtain ⟨⟨hx0, hxn⟩, hy0, hyn⟩ := range_xy n w1 w2 exS
  have exS1 : ClosureOk n (w1 ++ ([-x, y, x, y, -y] ++ w2)) := by
    simpa using ok_ins n w1 w2 [-x, y, x] [] y (by simpa using exS) hy0 hyn
  have exS2 : ClosureOk n (w1 ++ ([-x, x, y, x, -y] ++ w2)) := by
    simpa using ok_ins n w1 w2 [] [y, x, -y] (-x) (by simpa using exT) hx0 hxn
  have j1 : JInv n (w1 ++ ([-x, y, x] ++ w2)) n (w1 ++ ([-x, y, x, y, -y] ++ w2)) := by
    simpa using jinv_ins n w1 w2 [-x, y, x] [] y
  have j2 : JInv n (w1 ++ ([-x, x, y, x, -y] ++ w2)) n (w1 ++ ([-x, y, x, y, -y] ++ w2)) := by
    simpa [List.append_assoc] using H (w1 ++ [-x]) ([-y] ++ w2)
  have j3 : JInv n (w1 ++ ([y, x, -y] ++ w2)) n (w1 ++ ([-x, x, y, x, -y] ++ w2)) := by
    simpa using jinv_ins n w1 w2 [] [y, x, -y] (-x)
  exact ((j1.trans j2.symm exS1).trans j3.symm exS2) l l' (by simpa [List.append_assoc] using h)
    (by simpa [List.append_assoc] using h')

/-- `x⁻¹ y⁻¹ x⁻¹ = y⁻¹ x⁻¹ y⁻¹`: both sides are brought, by insertions of cancelling pairs, to the two sides of the
relation between `x⁻¹ y⁻¹ x⁻¹` and `y⁻¹ x⁻¹ y⁻¹` -/
theorem jinv_r3_inv : JInv n (w1 ++ [-x, -y, -x] ++ w2) n (w1 ++ [-y, -x, -y] ++ w2) := by
  intro l l' h h'
  have exS : ClosureOk n (w1 ++ ([-x, -y, -x] ++ w2)) := ⟨l, by simpa [List.append_assoc] using h⟩
  have exT : ClosureOk n (w1 ++ ([-y, -x, -y] ++ w2)) := ⟨l', by simpa [List.append_assoc] using h'⟩
  obtain ⟨⟨hX0, hXn⟩, hY0, hYn⟩ := range_xy n w1 w2 exS
  have hx0 : x ≠ 0 := by omega
  have hy0 : y ≠ 0 := by omega
  have hxn : x.natAbs < n := by omega
  have hyn : y.natAbs < n := by omega
  have exS1 : ClosureOk n (w1 ++ ([-x, -y, -x, y, -y] ++ w2)) := by
    simpa using ok_ins n w1 w2 [-x, -y, -x] [] y (by simpa using exS) hy0 hyn
  have exS2 : ClosureOk n (w1 ++ ([-x, -y, -x, y, x, -x, -y] ++ w2)) := by
    simpa using ok_ins n w1 w2 [-x, -y, -x, y] [-y] x (by simpa using exS1) hx0 hxn
  have exS3 : ClosureOk n (w1 ++ ([-x, -y, -x, y, x, y, -y, -x, -y] ++ w2)) := by
    simpa using ok_ins n w1 w2 [-x, -y, -x, y, x] [-x, -y] y (by simpa using exS2) hy0 hyn
  have exT1 : ClosureOk n (w1 ++ ([-x, x, -y, -x, -y] ++ w2)) := by
    simpa using ok_ins n w1 w2 [] [-y, -x, -y] (-x) (by simpa using exT) hX0 hXn
  have exT2 : ClosureOk n (w1 ++ ([-x, -y, y, x, -y, -x, -y] ++ w2)) := by
    simpa using ok_ins n w1 w2 [-x] [x, -y, -x, -y] (-y) (by simpa using exT1) hY0 hYn
  have exS4 : ClosureOk n (w1 ++ ([-x, -y, -x, x, y, x, -y, -x, -y] ++ w2)) := by
    simpa using ok_ins n w1 w2 [-x, -y] [y, x, -y, -x, -y] (-x) (by simpa using exT2) hX0 hXn
  have j1 : JInv n (w1 ++ ([-x, -y, -x] ++ w2)) n (w1 ++ ([-x, -y, -x, y, -y] ++ w2)) := by
    simpa using jinv_ins n w1 w2 [-x, -y, -x] [] y
  have j2 : JInv n (w1 ++ ([-x, -y, -x, y, -y] ++ w2)) n (w1 ++ ([-x, -y, -x, y, x, -x, -y] ++ w2)) := by
    simpa using jinv_ins n w1 w2 [-x, -y, -x, y] [-y] x
  have j3 : JInv n (w1 ++ ([-x, -y, -x, y, x, -x, -y] ++ w2))
      n (w1 ++ ([-x, -y, -x, y, x, y, -y, -x, -y] ++ w2)) := by
    simpa using jinv_ins n w1 w2 [-x, -y, -x, y, x] [-x, -y] y
  have j4 : JInv n (w1 ++ ([-x, -y, -x, y, x, y, -y, -x, -y] ++ w2))
      n (w1 ++ ([-x, -y, -x, x, y, x, -y, -x, -y] ++ w2)) := by
    simpa [List.append_assoc] using (H (w1 ++ [-x, -y, -x]) ([-y, -x, -y] ++ w2)).symm
  have j5 : JInv n (w1 ++ ([-x, -y, y, x, -y, -x, -y] ++ w2))
      n (w1 ++ ([-x, -y, -x, x, y, x, -y, -x, -y] ++ w2)) := by
    simpa using jinv_ins n w1 w2 [-x, -y] [y, x, -y, -x, -y] (-x)
  have j6 : JInv n (w1 ++ ([-x, x, -y, -x, -y] ++ w2)) n (w1 ++ ([-x, -y, y, x, -y, -x, -y] ++ w2)) := by
    simpa using jinv_ins n w1 w2 [-x] [x, -y, -x, -y] (-y)
  have j7 : JInv n (w1 ++ ([-y, -x, -y] ++ w2)) n (w1 ++ ([-x, x, -y, -x, -y] ++ w2)) := by
    simpa using jinv_ins n w1 w2 [] [-y, -x, -y] (-x)
  exact ((((((j1.trans j2 exS1).trans j3 exS2).trans j4 exS3).trans j5.symm exS4).trans j6.symm exT2).trans
    j7.symm exT1) l l' (by simpa [List.append_assoc] using h) (by simpa [List.append_assoc] using h')

end

theorem jinv_r3_neg (n p : Nat) (w1 w2 : List Int) :
    JInv n (w1 ++ [-((p + 1 : Nat) : Int), -((p + 2 : Nat) : Int), -((p + 1 : Nat) : Int)] ++ w2)
      n (w1 ++ [-((p + 2 : Nat) : Int), -((p + 1 : Nat) : Int), -((p + 2 : Nat) : Int)] ++ w2) :=
  jinv_r3_inv n (jinv_r3_pos n p) w1 w2

/-- the elementary moves on (number of strands, braid word).  `braid` : the braid relation with signs
`(e₁,e₂,e₃) ∈ {±1}³`, `e₁ = e₂ ∨ e₂ = e₃` (the six signed forms of `σᵢσᵢ₊₁σᵢ = σᵢ₊₁σᵢσᵢ₊₁`), `i = p + 1` -/
inductive MarkovMove : Nat → List Int → Nat → List Int → Prop
  | r2 (n : Nat) (w1 w2 : List Int) (s : Int) : MarkovMove n (w1 ++ w2) n (w1 ++ [s, -s] ++ w2)
  | far (n : Nat) (w1 w2 : List Int) (s t : Int) (h : s.natAbs + 2 ≤ t.natAbs ∨ t.natAbs + 2 ≤ s.natAbs) :
      MarkovMove n (w1 ++ [s, t] ++ w2) n (w1 ++ [t, s] ++ w2)
  | braid (n p : Nat) (w1 w2 : List Int) (e1 e2 e3 : Int) (h1 : e1 = 1 ∨ e1 = -1) (h2 : e2 = 1 ∨ e2 = -1)
      (h3 : e3 = 1 ∨ e3 = -1) (hv : e1 = e2 ∨ e2 = e3) :
      MarkovMove n (w1 ++ [e1 * ((p + 1 : Nat) : Int), e2 * ((p + 2 : Nat) : Int), e3 * ((p + 1 : Nat) : Int)] ++ w2)
        n (w1 ++ [e3 * ((p + 2 : Nat) : Int), e2 * ((p + 1 : Nat) : Int), e1 * ((p + 2 : Nat) : Int)] ++ w2)
  | conj (n : Nat) (w : List Int) (s : Int) : MarkovMove n (w ++ [s]) n ([s] ++ w)
  | stab (n : Nat) (w : List Int) (s : Int) (hs : s.natAbs = n) (hn : 0 < n) : MarkovMove n w (n + 1) (w ++ [s])

theorem jinv_of_move {n n' : Nat} {w w' : List Int} (h : MarkovMove n w n' w') : JInv n w n' w' := by
  cases h with
  | r2 w1 w2 s => exact jinv_r2 n w1 w2 s
  | far w1 w2 s t h => exact jinv_far n w1 w2 s t h
  | braid p w1 w2 e1 e2 e3 h1 h2 h3 hv =>
    rcases h1 with rfl | rfl <;> rcases h2 with rfl | rfl <;> rcases h3 with rfl | rfl <;>
      simp only [Int.one_mul, Int.neg_mul] at hv ⊢
    · exact jinv_r3_pos n p w1 w2
    · exact jinv_r3_left n (jinv_r3_pos n p) w1 w2
    · exact absurd hv (by decide)
    · simpa only [neg_neg] using jinv_r3_right n (jinv_r3_neg n p) w1 w2
    · exact jinv_r3_right n (jinv_r3_pos n p) w1 w2
    · exact absurd hv (by decide)
    · simpa only [neg_neg] using jinv_r3_left n (jinv_r3_neg n p) w1 w2
    · exact jinv_r3_neg n p w1 w2
  | conj w s => exact jinv_conj n w s
  | stab w s hs hn => exact jinv_stab n w s hs hn

/-- the equivalence generated by the elementary moves, passing only through words whose closure exists -/
inductive MarkovEq : Nat → List Int → Nat → List Int → Prop
  | move {n n' : Nat} {w w' : List Int} : MarkovMove n w n' w' → MarkovEq n w n' w'
  | refl (n : Nat) (w : List Int) : MarkovEq n w n w
  | symm {n n' : Nat} {w w' : List Int} : MarkovEq n w n' w' → MarkovEq n' w' n w
  | trans {n n' n'' : Nat} {w w' w'' : List Int} : MarkovEq n w n' w' → ClosureOk n' w' → MarkovEq n' w' n'' w'' →
      MarkovEq n w n'' w''

theorem jinv_of_eq {n n' : Nat} {w w' : List Int} (h : MarkovEq n w n' w') : JInv n w n' w' := by
  induction h with
  | move h => exact jinv_of_move h
  | refl n w => exact JInv.refl n w
  | symm _ ih => exact ih.symm
  | trans _ hex _ ih1 ih2 => exact ih1.trans ih2 hex

/-- conjugation by a letter: `w ↦ [s] ++ w ++ [−s]` (Reidemeister II + cyclic rotation) -/
theorem markovEq_conj_letter (n : Nat) (w : List Int) (s : Int) (hw : ClosureOk n w) (hs0 : s ≠ 0) (hsn : s.natAbs < n) :
    MarkovEq n w n ([s] ++ w ++ [-s]) ∧ ClosureOk n (w ++ [-s, s]) := by
  have ex1 : ClosureOk n (w ++ [-s, s]) := by
    have := ok_r2 n w [] (-s) (by simpa using hw) (by omega) (by simpa using hsn)
    simpa using this
  have m1 : MarkovEq n w n (w ++ [-s, s]) := by
    have := MarkovEq.move (MarkovMove.r2 n w [] (-s)); simpa using this
  have m2 : MarkovEq n (w ++ [-s, s]) n ([s] ++ w ++ [-s]) := by
    have := MarkovEq.move (MarkovMove.conj n (w ++ [-s]) s); simpa [List.append_assoc] using this
  exact ⟨m1.trans ex1 m2, ex1⟩

theorem isOk_ok {r : Res C18.Link} (hr : r.isOk = true) : ∃ a, r = .ok a := by
  cases r <;> simp [Res.isOk] at hr ⊢

end Yuiv.C04Inv
