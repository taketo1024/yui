import Yuiv.Proofs.KhiSpecCone
/-
KhiSpec — the generator enumeration `kgensOf` (the loop filling `kgens` by weight) in functional form: the list at weight `w`
is the concatenation of `Cube.gensAt s` over the states `s < 2^n` of weight `w` in increasing order; hence it consists
exactly of the generators of weight `w` and is duplicate-free.
-/
namespace Yuiv.KhiSpec
open Yuiv.KhRef Yuiv.C19 Yuiv.C19Comm

theorem kgensOf_eq (c : Cube) :
    kgensOf c = (List.range (2 ^ c.n)).foldl (fun kg s => kg.set! (popcount s c.n) (kg[popcount s c.n]! ++ c.gensAt s))
      (Array.replicate (c.n + 1) (#[] : Array Gen)) := by
  unfold kgensOf
  rw [Std.Legacy.Range.forIn_eq_forIn_range']
  simp only [Std.Legacy.Range.size, Nat.sub_zero, Nat.add_sub_cancel, Nat.div_one]
  rw [← List.range_eq_range', List.forIn_pure_yield_eq_foldl]
  rfl

theorem kgensOf_toList (c : Cube) (w : Nat) :
    ((kgensOf c)[w]!).toList =
      ((List.range (2 ^ c.n)).filter (fun s => popcount s c.n == w)).flatMap (fun s => (c.gensAt s).toList) := by
  rw [kgensOf_eq]
  exact (KhRefLoops.buckets_toList (fun s => popcount s c.n) c.gensAt c.n (fun s => popcount_le s c.n) w (2 ^ c.n)).2

theorem kgensOf_size (c : Cube) : (kgensOf c).size = c.n + 1 := by
  rw [kgensOf_eq]
  exact (KhRefLoops.buckets_toList (fun s => popcount s c.n) c.gensAt c.n (fun s => popcount_le s c.n) 0 (2 ^ c.n)).1

theorem mem_kgensOf (c : Cube) (w : Nat) (g : Gen) :
    g ∈ (kgensOf c)[w]! ↔ g.s < 2 ^ c.n ∧ popcount g.s c.n = w ∧ g.mask < 2 ^ (c.circ[g.s]!).size ∧
      baseKeepB c g = true := by
  rw [← Array.mem_toList_iff, kgensOf_toList, List.mem_flatMap]
  constructor
  · rintro ⟨s, hs, hg⟩
    rw [List.mem_filter, List.mem_range] at hs
    obtain ⟨h1, h2, h3⟩ := (mem_gensAt c s g).1 (Array.mem_toList_iff.1 hg)
    subst h1
    exact ⟨hs.1, by simpa using hs.2, h2, h3⟩
  · rintro ⟨h1, h2, h3, h4⟩
    refine ⟨g.s, ?_, Array.mem_toList_iff.2 ((mem_gensAt c g.s g).2 ⟨rfl, h3, h4⟩)⟩
    rw [List.mem_filter, List.mem_range]
    exact ⟨h1, by simpa using h2⟩

theorem kgensOf_nodup (c : Cube) (w : Nat) : ((kgensOf c)[w]!).toList.Nodup := by
  rw [kgensOf_toList, List.nodup_flatMap]
  refine ⟨fun s _ => c.gensAt_nodup s, ?_⟩
  have hnd : ((List.range (2 ^ c.n)).filter (fun s => popcount s c.n == w)).Nodup := List.nodup_range.filter _
  apply List.Pairwise.imp _ hnd
  intro s s' hne
  show List.Disjoint _ _
  intro g h1 h2
  have e1 := ((mem_gensAt c s g).1 (Array.mem_toList_iff.1 h1)).1
  have e2 := ((mem_gensAt c s' g).1 (Array.mem_toList_iff.1 h2)).1
  exact hne (e1.symm.trans e2)

theorem coneGens_nodup (c : Cube) (i : Nat) : (Array.toList ((coneGens c (kgensOf c))[i]!)).Nodup := by
  by_cases hi : i < (coneGens c (kgensOf c)).size
  · rw [getElem!_pos _ i hi]
    simp only [coneGens, Array.getElem_map, Array.getElem_range, Array.toList_append]
    have hP : ∀ (b : Bool) (j : Nat), (Array.toList (Array.map (fun g => ((b, g) : IGen)) (kgensOf c)[j]!)).Nodup := by
      intro b j
      rw [Array.toList_map]
      exact List.Nodup.map (fun _ _ e => (Prod.mk.inj e).2) (kgensOf_nodup c j)
    apply List.Nodup.append
    · split
      · exact hP false _
      · exact List.nodup_nil
    · split
      · exact hP true _
      · exact List.nodup_nil
    · intro x h1 h2
      split at h1
      · split at h2
        · rw [Array.toList_map, List.mem_map] at h1 h2
          obtain ⟨_, _, rfl⟩ := h1
          obtain ⟨_, _, e⟩ := h2
          cases e
        · cases h2
      · cases h1
  · rw [getElem!_neg _ i hi]
    exact List.nodup_nil

theorem gensOk_of_closed (ic : ICube) (p : Params)
    (hcl : ∀ i : Nat, i < (coneGens ic.cube (kgensOf ic.cube)).size → ∀ x ∈ (coneGens ic.cube (kgensOf ic.cube))[i]!,
      ∀ y ∈ dI ic p x, y ∈ (coneGens ic.cube (kgensOf ic.cube))[i + 1]!) : GensOk ic p := by
  refine ⟨?_, coneGens_nodup ic.cube, hcl⟩
  intro gs hgs g hg
  obtain ⟨w, hw, rfl⟩ := Array.mem_iff_getElem.1 hgs
  have := (mem_kgensOf ic.cube w g).1 (by rw [getElem!_pos _ w hw]; exact hg)
  exact ⟨this.1, this.2.2.1, this.2.2.2⟩

end Yuiv.KhiSpec
