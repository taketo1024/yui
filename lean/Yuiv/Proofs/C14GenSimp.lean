import Lean.Meta.Tactic.Simp.RegisterCommand
/-
The simp set for comparing the definitions generated from the Rust sources (`Yuiv/Gen/*Fn.lean`) with the hand
models.  Each of `Proofs/C14Gen`, `C14GenF`, `C14GenQ` puts into it the lemmas that push `mapR` through the control
flow, the identifications of the `RustRing`/`RustI32` primitives with the model's, and the small accessor
definitions of both sides; a `Props` file sees the entries of the one it imports.
-/

/-- normal form of generated code against the hand model -/
register_simp_attr gen_simp
