import Yuiv.Proofs.C10
import Yuiv.Proofs.C10Q
import Mathlib.LinearAlgebra.Matrix.NonsingularInverse
/-
C10 — LLL and LLL-based Hermite normal form return unimodular, reduced results.

(a) Soundness of the executable CHECKERS of `Yuiv/Model/C10.lean`.  The driver applies exactly these functions to
    the `(A, H, P, P⁻¹)` resp. `(A, B, P)` returned by the real Rust code (`chkhnf` / `chklll` requests), so a reply
    `t=1 h=1` / `t=1 r=1` carries the mathematical statements below for that concrete output.
(b) `lll_transform_inv*`: the row primitives of `LLLData` (`swap_rows`, `mul_row` by a unit, `add_row_to`) keep
    `target = P·A` and `P·P⁻¹ = I`; hence so does every sequence of primitives, i.e. every control path of the
    reduce/swap loops of `LLLCalc` / `LLLHNFCalc` that returns.
(c) Every returning run of the literal model (the one the driver runs against the real code) is such a sequence.
(d) The exact nearest-integer quotient `div_round` behind size reduction.
(e) The checkers of (a) over ℤ[i] and ℤ[ω].
-/
namespace Yuiv.C10
open Yuiv Res Finset

/-- `transformOk` decides `P·A = B ∧ P·P⁻¹ = I` (Mathlib matrices over ℤ). -/
theorem transformOk_iff (m n : Nat) (A B P Pinv : Mat) :
    transformOk m n A B P Pinv = true ↔
      toMatrix m m P * toMatrix m n A = toMatrix m n B ∧ toMatrix m m P * toMatrix m m Pinv = 1 := by
  rw [transformOk, Bool.and_eq_true, mulEq_iff, mulEq_iff, PAeq_iff_matrix, PAeq_iff_matrix, toMatrix_idMat]

theorem transformOk_sound (m n : Nat) (A B P Pinv : Mat) (h : transformOk m n A B P Pinv = true) :
    toMatrix m m P * toMatrix m n A = toMatrix m n B ∧ toMatrix m m P * toMatrix m m Pinv = 1 :=
  (transformOk_iff m n A B P Pinv).mp h

/-- an accepted transform is unimodular -/
theorem transformOk_unimodular (m n : Nat) (A B P Pinv : Mat) (h : transformOk m n A B P Pinv = true) :
    IsUnit (toMatrix m m P).det :=
  Matrix.isUnit_det_of_right_inverse (transformOk_sound m n A B P Pinv h).2

example : transformOk 2 2 #[#[0, 1], #[-1, 0]] #[#[1, 0], #[0, 1]] #[#[0, -1], #[1, 0]] #[#[0, 1], #[-1, 0]] = true := by
  decide

/-- `isHnf` accepts only row echelon forms with positive pivots, zeros below each pivot and entries of strictly
smaller norm above each pivot (zero rows last); `leadCol n H i` is the pivot column of row `i`. -/
theorem isHnf_sound (m n : Nat) (H : Mat) (h : isHnf m n H = true) : IsHnf m n (ent H) (leadCol n H) := by
  simp only [isHnf, allLt_iff, Bool.and_eq_true, Bool.or_eq_true, Bool.not_eq_true', decide_eq_true_eq,
    decide_eq_false_iff_not, beq_iff_eq] at h
  -- what the checker has verified about a row with a pivot
  have hp := fun i (hi : i < m) (hl : leadCol n H i < n) => ((h i hi).1.2).resolve_left (fun h1 => h1 hl)
  refine ⟨fun i hi => (h i hi).1.1.1, ?_, fun i hi hl => (hp i hi hl).1, ?_, ?_, ?_, ?_⟩
  · intro i hi j hj
    exact ((h i hi).1.1.2 j (lt_of_lt_of_le hj (h i hi).1.1.1)).resolve_left (fun h1 => h1 hj)
  · intro i hi i' hi' hlt hl
    have := (hp i hi hl).2 i' hi'
    rw [if_pos hlt] at this
    simp only [Bool.and_eq_true, decide_eq_true_eq, beq_iff_eq] at this
    exact this.1
  · intro i hi i' hi' hlt hl
    rcases (h i hi).2 with h1 | h1
    · simp [hl] at h1
    · exact (h1 i' hi').resolve_left (fun h2 => h2 hlt)
  · intro i hi i' hi' hlt hl
    have := (hp i hi hl).2 i' hi'
    rw [if_pos hlt] at this
    simp only [Bool.and_eq_true, decide_eq_true_eq, beq_iff_eq] at this
    exact this.2
  · intro i hi i' hlt hl
    have := (hp i hi hl).2 i' (lt_trans hlt hi)
    rw [if_neg (by omega), if_pos hlt] at this
    simp only [decide_eq_true_eq] at this
    rw [pow_two, pow_two]
    exact this

/-- … and rejects nothing else: `isHnf` DECIDES the Hermite shape (with `leadCol` as the pivot-column function) -/
theorem isHnf_iff (m n : Nat) (H : Mat) : isHnf m n H = true ↔ IsHnf m n (ent H) (leadCol n H) :=
  ⟨isHnf_sound m n H, isHnf_complete' m n H⟩

example : isHnf 3 3 #[#[2, 1, 0], #[0, 3, -1], #[0, 0, 0]] = true := by decide
example : isHnf 2 2 #[#[-1, 0], #[0, 1]] = false := by decide

/-- `isLLLReduced` accepts only bases that are size-reduced (`|μ_ij| ≤ 1/2`) and satisfy the Lovász condition
`|b*_k|² ≥ (p/q − μ_{k,k-1}²)|b*_{k-1}|²`, w.r.t. a Gram–Schmidt decomposition over ℚ (orthogonal, non-zero `b*_i`,
unitriangular `μ`) whose defining equations are themselves re-checked by the checker. -/
theorem isLLLReduced_sound (m n : Nat) (B : Mat) (p q : Int) (h : isLLLReduced m n B p q = true) :
    IsLLLReduced m n (ent B) ((p : ℚ) / (q : ℚ)) := by
  unfold isLLLReduced at h
  exact ⟨_, _, reducedWith_sound m n B p q _ _ h⟩

/-- the Gram–Schmidt data the reducedness statement refers to are uniquely determined by `B`
(so `IsLLLReduced` is a statement about THE Gram–Schmidt orthogonalisation of the rows) -/
theorem gs_unique (m n : Nat) (B : Nat → Nat → Int) (bs mu bs' mu' : Nat → Nat → ℚ)
    (h : IsGS m n B bs mu) (h' : IsGS m n B bs' mu') :
    ∀ i < m, (∀ c < n, bs i c = bs' i c) ∧ (∀ j < i, mu i j = mu' i j) := IsGS.unique h h'

example : isLLLReduced 3 3 #[#[0, 1, -1], #[1, 0, -1], #[1, 1, 1]] 3 4 = true := by decide +kernel
example : isLLLReduced 2 2 #[#[1, 0], #[1, 1]] 3 4 = false := by decide +kernel

/-- one primitive keeps the invariant -/
theorem lll_transform_inv_step (A : Mat) (t t' : Tr) (op : Prim) (h : t.apply op = ok t') (hI : t.Inv A) :
    t'.Inv A ∧ t'.m = t.m ∧ t'.n = t.n := by
  cases op with
  | swap i j => exact Tr.swapRows_inv A t t' i j h hI
  | mul i u => exact Tr.mulRow_inv A t t' i u h hI
  | add i k r => exact Tr.addRowTo_inv A t t' i k r h hI

/-- the initial state `(A, I, I)` satisfies the invariant -/
theorem lll_transform_inv_init (m n : Nat) (A : Mat) : (Tr.init m n A).Inv A := by
  constructor
  · intro r (hr : r < m) c (hc : c < n)
    show ∑ k ∈ range m, ent (idMat m) r k * ent A k c = ent (mkMat m n (ent A)) r c
    rw [ent_mkMat _ hr hc, Finset.sum_congr rfl (fun k hk => by rw [ent_idMat hr (mem_range.mp hk)])]
    simp [hr]
  · intro r (hr : r < m) c (hc : c < m)
    show ∑ k ∈ range m, ent (idMat m) r k * ent (idMat m) k c = _
    rw [Finset.sum_congr rfl (fun k hk => by rw [ent_idMat hr (mem_range.mp hk), ent_idMat (mem_range.mp hk) hc])]
    simp [kron]; omega

/-- ANY sequence of primitives that returns keeps `target = P·A ∧ P·P⁻¹ = I` -/
theorem lll_transform_inv (A : Mat) (ops : List Prim) (t t' : Tr) (h : t.run ops = ok t') (hI : t.Inv A) :
    t'.Inv A ∧ t'.m = t.m ∧ t'.n = t.n := by
  induction ops generalizing t t' with
  | nil => simp only [Tr.run, pure_eq, Res.ok.injEq] at h; subst h; exact ⟨hI, rfl, rfl⟩
  | cons op ops ih =>
    simp only [Tr.run] at h
    rw [bind_eq_ok_iff] at h
    obtain ⟨t1, h1, h2⟩ := h
    obtain ⟨hI1, hm1, hn1⟩ := lll_transform_inv_step A t t1 op h1 hI
    obtain ⟨hI2, hm2, hn2⟩ := ih t1 t' h2 hI1
    exact ⟨hI2, hm2.trans hm1, hn2.trans hn1⟩

/-- … in Mathlib terms, from the initial state: the result is `P·A` with `P` unimodular and `pinv` its inverse -/
theorem lll_transform_inv_matrix (m n : Nat) (A : Mat) (ops : List Prim) (t : Tr)
    (h : (Tr.init m n A).run ops = ok t) :
    toMatrix m m t.p * toMatrix m n A = toMatrix m n t.target ∧
    toMatrix m m t.p * toMatrix m m t.pinv = 1 ∧ IsUnit (toMatrix m m t.p).det := by
  obtain ⟨hI, hm, hn⟩ := lll_transform_inv A ops _ t h (lll_transform_inv_init m n A)
  have hm' : t.m = m := hm
  have hn' : t.n = n := hn
  have h1 := hI.pa
  have h2 := hI.pp
  rw [hm', hn'] at h1
  rw [hm'] at h2
  have e1 := (PAeq_iff_matrix m m n t.p A t.target).mp h1
  have e2 : toMatrix m m t.p * toMatrix m m t.pinv = 1 := by
    have := (PAeq_iff_matrix m m m t.p t.pinv (idMat m)).mp (by
      intro r hr c hc
      rw [h2 r hr c hc, ent_idMat hr hc]; rfl)
    rw [this, toMatrix_idMat]
  exact ⟨e1, e2, Matrix.isUnit_det_of_right_inverse e2⟩

example : ((Tr.init 2 2 #[#[0, 1], #[-1, 0]]).run [.swap 0 1, .mul 0 (-1), .add 0 1 5]).isOk = true := by decide

/-- whatever `lll_hnf` (model, any fuel) returns was produced from `(A, I, I)` by row primitives only -/
theorem lllHnf_model_trace (fuel m n : Nat) (A : Mat) (t : Tr) (h : lllHnf fuel m n A = ok t) :
    ∃ ops : List Prim, (Tr.init m n A).run ops = ok t := by
  unfold lllHnf at h
  simp only [bind_eq_ok_iff] at h
  obtain ⟨d0, h0, d1, h1, h⟩ := h
  have r0 := loopWhile_reach hnfIterate hnfIterate_reach fuel _ d0 h0
  exact (r0.trans (hnfNormalizeLast_reach d0 d1 h1)).trans (reverseRows_reach _ _ _ _ h)

theorem lll_model_trace (fuel m n : Nat) (A : Mat) (d : Data) (h : lll fuel m n A = ok d) :
    ∃ ops : List Prim, (Tr.init m n A).run ops = ok d.tr := by
  unfold lll at h
  simp only [bind_eq_ok_iff] at h
  obtain ⟨d0, h0, h⟩ := h
  have := Data.setup_tr _ d0 h0
  have r := loopWhile_reach lllIterate lllIterate_reach fuel d0 d h
  rw [this] at r
  exact r

/-- on every control path of the Hermite routine that returns: `H = P·A`, `P·P⁻¹ = I`, `P` unimodular -/
theorem lllHnf_model_transform (fuel m n : Nat) (A : Mat) (t : Tr) (h : lllHnf fuel m n A = ok t) :
    toMatrix m m t.p * toMatrix m n A = toMatrix m n t.target ∧
    toMatrix m m t.p * toMatrix m m t.pinv = 1 ∧ IsUnit (toMatrix m m t.p).det := by
  obtain ⟨ops, hops⟩ := lllHnf_model_trace fuel m n A t h
  exact lll_transform_inv_matrix m n A ops t hops

/-- on every control path of the LLL routine that returns: `B = P·A`, `P` unimodular -/
theorem lll_model_transform (fuel m n : Nat) (A : Mat) (d : Data) (h : lll fuel m n A = ok d) :
    toMatrix m m d.tr.p * toMatrix m n A = toMatrix m n d.tr.target ∧
    toMatrix m m d.tr.p * toMatrix m m d.tr.pinv = 1 ∧ IsUnit (toMatrix m m d.tr.p).det := by
  obtain ⟨ops, hops⟩ := lll_model_trace fuel m n A d h
  exact lll_transform_inv_matrix m n A ops d.tr hops

example : (lllHnf 100 2 2 #[#[0, 1], #[-1, 0]]).isOk = true := by decide
example : (lll 100 2 2 #[#[2, 0], #[1, 1]]).isOk = true := by decide

/-- `div_round` (model of the exact integer version in `int_ext.rs`) panics only on a zero divisor and otherwise
returns a nearest integer: `2·|a − q·b| ≤ |b|`.  Hence `reduce(i,k)` leaves `|μ_ki| ≤ 1/2` and the Hermite `reduce`
leaves an entry of absolute value `≤ |pivot|/2 < |pivot|` above the pivot. -/
theorem divRound_spec (a b q : Int) (h : divRound a b = ok q) : b ≠ 0 ∧ 2 * (a - q * b).natAbs ≤ b.natAbs :=
  divRound_spec' a b q h

theorem divRound_total (a b : Int) (hb : b ≠ 0) : ∃ q, divRound a b = ok q := divRound_total' a b hb

example : divRound (3 * (2 ^ 53 + 1)) 3 = ok (2 ^ 53 + 1) := by decide
example : divRound (-13) 5 = ok (-3) := by decide

/- Over ℤ[i] and ℤ[ω] the ring `ZK k` is Mathlib's `QuadraticAlgebra ℤ u v`, θ² = u + vθ (`Q.gauss = ⟨-1, 0⟩`, `Q.eisen = ⟨-1, 1⟩`). -/

open Q in
/-- `transformOkQ` decides `P·A = B ∧ P·P⁻¹ = I` over ℤ[θ] -/
theorem transformOkQ_iff (k : QK) (m n : Nat) (A B P Pinv : MatQ) :
    transformOkQ k m n A B P Pinv = true ↔
      toMatrixQ k m m P * toMatrixQ k m n A = toMatrixQ k m n B ∧ toMatrixQ k m m P * toMatrixQ k m m Pinv = 1 := by
  rw [transformOkQ, Bool.and_eq_true, mulEqQ_iff, mulEqQ_iff]
  have e : (fun i j => toZ k (if i.val = j.val then ((1 : Int), (0 : Int)) else (0, 0)) : Matrix (Fin m) (Fin m) (ZK k))
      = (1 : Matrix (Fin m) (Fin m) (ZK k)) := by
    apply Matrix.ext
    intro i j
    rw [Matrix.one_apply]
    by_cases h : i = j
    · subst h; simp [toZ_one]
    · have : i.val ≠ j.val := fun h' => h (Fin.ext h')
      simp [this, h, toZ_zero]
  rw [e]
  rfl

open Q in
theorem transformOkQ_unimodular (k : QK) (m n : Nat) (A B P Pinv : MatQ) (h : transformOkQ k m n A B P Pinv = true) :
    IsUnit (toMatrixQ k m m P).det :=
  Matrix.isUnit_det_of_right_inverse ((transformOkQ_iff k m n A B P Pinv).mp h).2

open Q in
/-- `isHnfQ` accepts only echelon forms with pivots in the normalised sector (`re > 0`, `im ≥ 0`), zeros below each
pivot and entries of strictly smaller norm above -/
theorem isHnfQ_sound (k : QK) (m n : Nat) (H : MatQ) (h : isHnfQ k m n H = true) :
    IsHnfQ k m n (fun i j => toZ k (entq H i j)) (leadColQ n H) := by
  simp only [isHnfQ, allLt_iff, Bool.and_eq_true, Bool.or_eq_true, Bool.not_eq_true', decide_eq_true_eq,
    decide_eq_false_iff_not, beq_iff_eq, qnormalised] at h
  -- what the checker has verified about a row with a pivot
  have hp := fun i (hi : i < m) (hl : leadColQ n H i < n) => ((h i hi).1.2).resolve_left (fun h1 => h1 hl)
  refine ⟨fun i hi => (h i hi).1.1.1, ?_, fun i hi hl => (hp i hi hl).1, ?_, ?_, ?_, ?_⟩
  · intro i hi j hj
    show toZ k (entq H i j) = 0
    rw [((h i hi).1.1.2 j (lt_of_lt_of_le hj (h i hi).1.1.1)).resolve_left (fun h1 => h1 hj), toZ_zero]
  · intro i hi i' hi' hlt hl
    have := (hp i hi hl).2 i' hi'
    rw [if_pos hlt] at this
    simp only [Bool.and_eq_true, decide_eq_true_eq, beq_iff_eq] at this
    exact this.1
  · intro i hi i' hi' hlt hl
    rcases (h i hi).2 with h1 | h1
    · simp [hl] at h1
    · exact (h1 i' hi').resolve_left (fun h2 => h2 hlt)
  · intro i hi i' hi' hlt hl
    have := (hp i hi hl).2 i' hi'
    rw [if_pos hlt] at this
    simp only [Bool.and_eq_true, decide_eq_true_eq, beq_iff_eq] at this
    show toZ k (entq H i' _) = 0
    rw [this.2, toZ_zero]
  · intro i hi i' hlt hl
    have := (hp i hi hl).2 i' (lt_trans hlt hi)
    rw [if_neg (by omega), if_pos hlt] at this
    simp only [decide_eq_true_eq] at this
    show QuadraticAlgebra.norm (toZ k _) < QuadraticAlgebra.norm (toZ k _)
    rw [toZ_norm, toZ_norm]
    exact this

open Q in
/-- `isLLLReducedQ` accepts only bases with `N(μ_ij) ≤ rp/rq` and the Lovász condition for `p/q` w.r.t. a
Hermitian Gram–Schmidt decomposition over ℚ(θ) whose defining equations are re-checked -/
theorem isLLLReducedQ_sound (k : QK) (m n : Nat) (B : MatQ) (p q rp rq : Int)
    (h : isLLLReducedQ k m n B p q rp rq = true) :
    IsLLLReducedQ k m n (fun i c => toZ k (entq B i c)) ((p : ℚ) / (q : ℚ)) ((rp : ℚ) / (rq : ℚ)) := by
  unfold isLLLReducedQ at h
  exact ⟨_, _, reducedWithQ_sound k m n B p q rp rq _ _ h⟩

example : Q.transformOkQ Q.gauss 1 1 #[#[(0, -1)]] #[#[(1, 0)]] #[#[(0, 1)]] #[#[(0, -1)]] = true := by decide
example : Q.isHnfQ Q.eisen 2 2 #[#[(2, 1), (1, 0)], #[(0, 0), (3, 0)]] = true := by decide
example : Q.isHnfQ Q.gauss 1 1 #[#[(0, 1)]] = false := by decide
example : Q.isLLLReducedQ Q.gauss 2 2 #[#[(1, 0), (0, 0)], #[(0, 0), (0, 1)]] 3 4 1 2 = true := by decide +kernel

end Yuiv.C10
