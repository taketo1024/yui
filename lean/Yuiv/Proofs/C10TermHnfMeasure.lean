import Yuiv.Proofs.C10TermHnfReturns
import Mathlib.Data.Prod.Lex
/-
C10 — TERMINATION of the Hermite variant `lll_hnf`.

Every iteration of `LLLHNFCalc::iterate` strictly decreases the lexicographic measure (all components in ℕ)
    ( C1 = Σ_i (n − L_i),  C2 = Σ_i V_i,  C3 = Σ_i i·L_i,  C4 = Σ_i (m − i)·V_i,  pot = ∏_i det[i],  m − step )
with `L_i` the leading column of row `i` of `target` (`n` for a zero row) and `V_i = |target[i][L_i]|` (0 for a zero row):
`reduce(i, k)` moves `L_k` to the right (C1 ↓) or keeps it with `V_k` not larger (C2 ↓ or nothing changes) and never touches
`det`; a swap of rows `k-1, k` is done because `L_{k-1} < L_k` (C3 ↓), or `L_{k-1} = L_k < n` and the Euclidean step
`reduce(k-1, k)` made `V_k < V_{k-1}` (C4 ↓), or both rows are zero and the Lovász test on the Gram–Schmidt data of `P` failed
(`pot` ↓); otherwise `step` advances.  No explicit fuel bound comes out of this: after a swap of the first two kinds `pot` may grow.
-/
namespace Yuiv.C10
open Yuiv Res Finset

theorem sum_change_one (m k : Nat) (hk : k < m) (g g' : Nat → Nat) (h : ∀ i < m, i ≠ k → g' i = g i) :
    ∑ i ∈ range m, g' i + g k = ∑ i ∈ range m, g i + g' k := by
  have hmem : k ∈ range m := mem_range.mpr hk
  rw [← Finset.add_sum_erase _ g hmem, ← Finset.add_sum_erase _ g' hmem]
  have : ∑ x ∈ (range m).erase k, g' x = ∑ x ∈ (range m).erase k, g x :=
    Finset.sum_congr rfl (fun i hi => h i (mem_range.mp (Finset.mem_of_mem_erase hi)) (Finset.ne_of_mem_erase hi))
  rw [this]
  omega

theorem sum_change_two (m a b : Nat) (ha : a < m) (hb : b < m) (hab : a ≠ b) (g g' : Nat → Nat)
    (h : ∀ i < m, i ≠ a → i ≠ b → g' i = g i) :
    ∑ i ∈ range m, g' i + g a + g b = ∑ i ∈ range m, g i + g' a + g' b := by
  let g1 : Nat → Nat := fun i => if i = a then g' a else g i
  have e1 := sum_change_one m a ha g g1 (fun i _ hi => by simp [g1, hi])
  have e2 := sum_change_one m b hb g1 g' (fun i hi hib => by
    by_cases hia : i = a
    · simp [g1, hia]
    · simp only [g1, if_neg hia]; exact h i hi hia hib)
  have e3 : g1 a = g' a := by simp [g1]
  have e4 : g1 b = g b := by simp only [g1, if_neg (Ne.symm hab)]
  omega

theorem sum_swap_keys (m q : Nat) (hq : q + 1 < m) (w K K' : Nat → Nat) (h1 : K' q = K (q + 1))
    (h2 : K' (q + 1) = K q) (h3 : ∀ a < m, a ≠ q → a ≠ q + 1 → K' a = K a) :
    ∑ i ∈ range m, w i * K' i + w q * K q + w (q + 1) * K (q + 1)
      = ∑ i ∈ range m, w i * K i + w q * K (q + 1) + w (q + 1) * K q := by
  have e := sum_change_two m q (q + 1) (by omega) hq (by omega) (fun i => w i * K i) (fun i => w i * K' i)
    (fun i hi a1 a2 => by show w i * K' i = w i * K i; rw [h3 i hi a1 a2])
  rw [h1, h2] at e
  exact e

/-- `|pivot|` of row `i` (0 for a zero row) -/
def hV (n : Nat) (T : Nat → Nat → Int) (i : Nat) : Nat :=
  if leadF n T i < n then (T i (leadF n T i)).natAbs else 0

/-- `hC1 … hC4`: the sums `C1 … C4` of the head comment -/
def hC1 (m n : Nat) (T : Nat → Nat → Int) : Nat := ∑ i ∈ range m, (n - leadF n T i)
def hC2 (m n : Nat) (T : Nat → Nat → Int) : Nat := ∑ i ∈ range m, hV n T i
def hC3 (m n : Nat) (T : Nat → Nat → Int) : Nat := ∑ i ∈ range m, i * leadF n T i
def hC4 (m n : Nat) (T : Nat → Nat → Int) : Nat := ∑ i ∈ range m, (m - i) * hV n T i

abbrev HM := ℕ ×ₗ ℕ ×ₗ ℕ ×ₗ ℕ ×ₗ ℕ

/-- a point of the lexicographic order `HM` -/
def hmk (a b c e f : Nat) : HM := toLex (a, toLex (b, toLex (c, toLex (e, f))))

/-- the first five components of the measure -/
def hnfM (d : Data) : HM :=
  hmk (hC1 d.tr.m d.tr.n (ent d.tr.target)) (hC2 d.tr.m d.tr.n (ent d.tr.target))
    (hC3 d.tr.m d.tr.n (ent d.tr.target)) (hC4 d.tr.m d.tr.n (ent d.tr.target)) d.pot

theorem hmk_le {a b c e f a' b' c' e' f' : ℕ}
    (h : a' < a ∨ (a' = a ∧ (b' < b ∨ (b' = b ∧ (c' < c ∨ (c' = c ∧ (e' < e ∨ (e' = e ∧ f' ≤ f)))))))) :
    hmk a' b' c' e' f' ≤ hmk a b c e f := by
  unfold hmk
  simp only [Prod.Lex.toLex_le_toLex]
  exact h

theorem hmk_lt {a b c e f a' b' c' e' f' : ℕ}
    (h : a' < a ∨ (a' = a ∧ (b' < b ∨ (b' = b ∧ (c' < c ∨ (c' = c ∧ (e' < e ∨ (e' = e ∧ f' < f)))))))) :
    hmk a' b' c' e' f' < hmk a b c e f := by
  unfold hmk
  simp only [Prod.Lex.toLex_lt_toLex]
  exact h

theorem hV_congr (n : Nat) (T T' : Nat → Nat → Int) (i i' : Nat) (h : ∀ c < n, T' i' c = T i c) :
    hV n T' i' = hV n T i := by
  unfold hV
  rw [leadF_congr n T T' i i' h]
  split
  · rename_i hl; rw [h _ hl]
  · rfl

theorem hV_sign (n : Nat) (T T' : Nat → Nat → Int) (i : Nat) (u : Int) (hu : u = 1 ∨ u = -1)
    (h : ∀ c < n, T' i c = T i c * u) : leadF n T' i = leadF n T i ∧ hV n T' i = hV n T i := by
  have hL := leadF_mul_unit n T T' i i hu h
  refine ⟨hL, ?_⟩
  unfold hV
  rw [hL]
  split
  · rename_i hl
    rw [h _ hl]
    rcases hu with rfl | rfl
    · rw [mul_one]
    · rw [mul_neg, mul_one, Int.natAbs_neg]
  · rfl

theorem row_reduce_keys (n : Nat) (T T' : Nat → Nat → Int) (i k : Nat) (u r : Int)
    (hTk : ∀ c < n, T' k c = T k c + T i c * u * r)
    (hb : leadF n T i < n → 0 < T i (leadF n T i) * u ∧
      |T k (leadF n T i) + T i (leadF n T i) * u * r| ≤ |T k (leadF n T i)|) :
    leadF n T k < leadF n T' k ∨ (leadF n T' k = leadF n T k ∧ hV n T' k ≤ hV n T k) := by
  obtain ⟨i1, i2, i3⟩ := leadF_spec n T i
  obtain ⟨k1, k2, k3⟩ := leadF_spec n T k
  obtain ⟨k1', k2', k3'⟩ := leadF_spec n T' k
  have hsame : (∀ c < n, T' k c = T k c) → leadF n T' k = leadF n T k ∧ hV n T' k ≤ hV n T k :=
    fun h => ⟨leadF_congr n T T' k k h, le_of_eq (hV_congr n T T' k k h)⟩
  rcases Nat.lt_or_ge (leadF n T i) n with hl | hl
  · obtain ⟨p1, p2⟩ := hb hl
    have hne : T i (leadF n T i) * u ≠ 0 := ne_of_gt p1
    rcases Nat.lt_trichotomy (leadF n T k) (leadF n T i) with hlt | heq | hgt
    · -- row `i` vanishes on the columns `≤ L_k`
      right
      have hc : ∀ c < n, c ≤ leadF n T k → T' k c = T k c := by
        intro c hc hle
        rw [hTk c hc, i2 c (by omega), zero_mul, zero_mul, add_zero]
      have hL := leadF_congr_le n T T' k hc
      refine ⟨hL, ?_⟩
      unfold hV
      rw [hL, if_pos (by omega), if_pos (by omega), hc _ (by omega) (le_refl _)]
    · rw [← heq] at p2 hne i2
      have hz : ∀ c < leadF n T k, T' k c = 0 := by
        intro c hc
        rw [hTk c (by omega), k2 c hc, i2 c hc, zero_mul, zero_mul, add_zero]
      have hkn : leadF n T k < n := by omega
      by_cases hzero : T' k (leadF n T k) = 0
      · left
        by_contra hcon
        have hle : leadF n T' k ≤ leadF n T k := by omega
        have := k3' (by omega)
        rcases Nat.lt_or_ge (leadF n T' k) (leadF n T k) with h1 | h1
        · exact this (hz _ h1)
        · have : leadF n T' k = leadF n T k := by omega
          rw [this] at k3'
          exact k3' hkn hzero
      · right
        have hL : leadF n T' k = leadF n T k := leadF_unique n T' k _ k1 hz (fun _ => hzero)
        refine ⟨hL, ?_⟩
        unfold hV
        rw [hL, if_pos hkn, if_pos hkn, hTk _ hkn]
        have := p2
        rw [Int.abs_eq_natAbs, Int.abs_eq_natAbs] at this
        exact_mod_cast this
    · -- `T k (L_i) = 0`, so nothing is added
      right
      have hz : T k (leadF n T i) = 0 := k2 _ hgt
      rw [hz, zero_add, abs_zero] at p2
      have hr : r = 0 := by
        have h0 : T i (leadF n T i) * u * r = 0 := abs_nonpos_iff.mp p2
        rcases mul_eq_zero.mp h0 with h | h
        · exact absurd h hne
        · exact h
      exact hsame (fun c hc => by rw [hTk c hc, hr, mul_zero, add_zero])
  · right
    exact hsame (fun c hc => by rw [hTk c hc, i2 c (by omega), zero_mul, zero_mul, add_zero])

theorem hmk_le_of_row_change (m n : Nat) (T T' : Nat → Nat → Int) (k : Nat) (hk : k < m) (p : Nat)
    (hoth : ∀ i < m, i ≠ k → leadF n T' i = leadF n T i ∧ hV n T' i = hV n T i)
    (hrow : leadF n T k < leadF n T' k ∨ (leadF n T' k = leadF n T k ∧ hV n T' k ≤ hV n T k)) :
    hmk (hC1 m n T') (hC2 m n T') (hC3 m n T') (hC4 m n T') p
      ≤ hmk (hC1 m n T) (hC2 m n T) (hC3 m n T) (hC4 m n T) p := by
  apply hmk_le
  rcases hrow with hlt | ⟨hL, hV'⟩
  · left
    have e : ∑ i ∈ range m, (n - leadF n T' i) + (n - leadF n T k)
        = ∑ i ∈ range m, (n - leadF n T i) + (n - leadF n T' k) :=
      sum_change_one m k hk (fun i => n - leadF n T i) (fun i => n - leadF n T' i)
        (fun i hi hik => by show n - leadF n T' i = n - leadF n T i; rw [(hoth i hi hik).1])
    have := (leadF_spec n T' k).1
    unfold hC1
    omega
  · right
    have hLall : ∀ i < m, leadF n T' i = leadF n T i := by
      intro i hi
      by_cases hik : i = k
      · rw [hik]; exact hL
      · exact (hoth i hi hik).1
    refine ⟨Finset.sum_congr rfl (fun i hi => by rw [hLall i (mem_range.mp hi)]), ?_⟩
    rcases Nat.lt_or_ge (hV n T' k) (hV n T k) with hlt | hge
    · left
      have e : ∑ i ∈ range m, hV n T' i + hV n T k = ∑ i ∈ range m, hV n T i + hV n T' k :=
        sum_change_one m k hk (fun i => hV n T i) (fun i => hV n T' i) (fun i hi hik => (hoth i hi hik).2)
      unfold hC2
      omega
    · right
      have hVall : ∀ i < m, hV n T' i = hV n T i := by
        intro i hi
        by_cases hik : i = k
        · rw [hik]; omega
        · exact (hoth i hi hik).2
      refine ⟨Finset.sum_congr rfl (fun i hi => hVall i (mem_range.mp hi)), Or.inr ⟨?_, Or.inr ⟨?_, le_refl p⟩⟩⟩
      · exact Finset.sum_congr rfl (fun i hi => by rw [hLall i (mem_range.mp hi)])
      · exact Finset.sum_congr rfl (fun i hi => by rw [hVall i (mem_range.mp hi)])

theorem hnfReduce_M_le (d d' : Data) (i k : Nat) (h : hnfReduce d i k = ok d') : hnfM d' ≤ hnfM d := by
  obtain ⟨hik, hk, u, r, hu, ⟨m1, n1, _, t1⟩, hb, hdet⟩ := hnfReduce_tgt d d' i k h
  unfold hnfM
  rw [Data.pot_congr d d' m1 hdet, m1, n1]
  apply hmk_le_of_row_change _ _ _ _ k hk
  · intro a ha hak
    by_cases hai : a = i
    · subst hai
      exact hV_sign _ _ _ a u hu (fun c hc => by
        rw [t1 a ha c hc]
        show (if a = a then _ else _) = _
        rw [if_pos rfl])
    · have e : ∀ c < d.tr.n, ent d'.tr.target a c = ent d.tr.target a c := by
        intro c hc
        rw [t1 a ha c hc]
        show (if a = i then _ else if a = k then _ else _) = _
        rw [if_neg hai, if_neg hak]
      exact ⟨leadF_congr _ _ _ a a e, hV_congr _ _ _ a a e⟩
  · refine row_reduce_keys _ _ _ i k u r (fun c hc => ?_) (fun hl => ⟨(hb hl).1, (hb hl).2.2⟩)
    rw [t1 k hk c hc]
    show (if k = i then _ else if k = k then _ else _) = _
    rw [if_neg (by omega), if_pos rfl]

theorem revLoop_hnf_M_le (k : Nat) : ∀ (cnt : Nat) (d d' : Data),
    revLoop (fun d i => hnfReduce d i k) d cnt = ok d' → hnfM d' ≤ hnfM d := by
  intro cnt
  induction cnt with
  | zero =>
    intro d d' h
    simp only [revLoop, pure_eq, Res.ok.injEq] at h
    subst h
    exact le_refl _
  | succ cnt ih =>
    intro d d' h
    simp only [revLoop, bind_eq_ok_iff] at h
    obtain ⟨d1, h1, h2⟩ := h
    exact le_trans (ih d1 d' h2) (hnfReduce_M_le d d1 cnt k h1)

theorem hmk_swap (m n : Nat) (T T' : Nat → Nat → Int) (k : Nat) (hk0 : 1 ≤ k) (hk : k < m)
    (hsw : ∀ a < m, ∀ c < n, T' a c = T (if a = k - 1 then k else if a = k then k - 1 else a) c) (p p' : Nat)
    (hcase : leadF n T (k - 1) < leadF n T k ∨
      (leadF n T (k - 1) = leadF n T k ∧ hV n T k < hV n T (k - 1)) ∨
      (leadF n T (k - 1) = leadF n T k ∧ hV n T k = hV n T (k - 1) ∧ p' < p)) :
    hmk (hC1 m n T') (hC2 m n T') (hC3 m n T') (hC4 m n T') p'
      < hmk (hC1 m n T) (hC2 m n T) (hC3 m n T) (hC4 m n T) p := by
  obtain ⟨q, rfl⟩ : ∃ q, k = q + 1 := ⟨k - 1, by omega⟩
  simp only [Nat.add_sub_cancel] at hsw hcase
  have hq : q < m := by omega
  have hne : q ≠ q + 1 := by omega
  have r1 : ∀ c < n, T' q c = T (q + 1) c := fun c hc => by rw [hsw q hq c hc, if_pos rfl]
  have r2 : ∀ c < n, T' (q + 1) c = T q c := fun c hc => by
    rw [hsw (q + 1) hk c hc, if_neg (by omega), if_pos rfl]
  have r3 : ∀ a < m, a ≠ q → a ≠ q + 1 → ∀ c < n, T' a c = T a c := fun a ha h1 h2 c hc => by
    rw [hsw a ha c hc, if_neg h1, if_neg h2]
  have L1 := leadF_congr n T T' (q + 1) q r1
  have L2 := leadF_congr n T T' q (q + 1) r2
  have L3 : ∀ a < m, a ≠ q → a ≠ q + 1 → leadF n T' a = leadF n T a :=
    fun a ha h1 h2 => leadF_congr n T T' a a (r3 a ha h1 h2)
  have V1 := hV_congr n T T' (q + 1) q r1
  have V2 := hV_congr n T T' q (q + 1) r2
  have V3 : ∀ a < m, a ≠ q → a ≠ q + 1 → hV n T' a = hV n T a :=
    fun a ha h1 h2 => hV_congr n T T' a a (r3 a ha h1 h2)
  -- the symmetric sums do not change
  have e1 : hC1 m n T' = hC1 m n T := by
    have e := sum_swap_keys m q hk (fun _ => 1) (fun i => n - leadF n T i) (fun i => n - leadF n T' i)
      (by show n - _ = n - _; rw [L1]) (by show n - _ = n - _; rw [L2])
      (fun a ha a1 a2 => by show n - _ = n - _; rw [L3 a ha a1 a2])
    simp only [one_mul] at e
    unfold hC1
    omega
  have e2 : hC2 m n T' = hC2 m n T := by
    have e := sum_swap_keys m q hk (fun _ => 1) (hV n T) (hV n T') V1 V2 V3
    simp only [one_mul] at e
    unfold hC2
    omega
  have e3 := sum_swap_keys m q hk (fun i => i) (leadF n T) (leadF n T') L1 L2 L3
  have e4 := sum_swap_keys m q hk (fun i => m - i) (hV n T) (hV n T') V1 V2 V3
  apply hmk_lt
  refine Or.inr ⟨e1, Or.inr ⟨e2, ?_⟩⟩
  rcases hcase with hlt | ⟨hL, hV'⟩ | ⟨hL, hV', hp⟩
  · left
    unfold hC3
    rw [Nat.add_mul, Nat.add_mul, Nat.one_mul, Nat.one_mul] at e3
    have := Nat.mul_le_mul_left q (le_of_lt hlt)
    omega
  · right
    rw [hL] at e3
    refine ⟨by unfold hC3; omega, Or.inl ?_⟩
    unfold hC4
    obtain ⟨w, hw⟩ : ∃ w, m - q = w + 1 := ⟨m - q - 1, by omega⟩
    have hw' : m - (q + 1) = w := by omega
    rw [hw, hw', Nat.add_mul, Nat.add_mul, Nat.one_mul, Nat.one_mul] at e4
    have := Nat.mul_le_mul_left w (le_of_lt hV')
    omega
  · right
    rw [hL] at e3
    rw [hV'] at e4
    exact ⟨by unfold hC3; omega, Or.inr ⟨by unfold hC4; omega, hp⟩⟩

theorem hnfIsOk_false (d : Data) (k : Nat) (h : hnfIsOk d k = ok false) :
    (leadF d.tr.n (ent d.tr.target) (k - 1) < d.tr.n ∧
      leadF d.tr.n (ent d.tr.target) (k - 1) ≤ leadF d.tr.n (ent d.tr.target) k) ∨
    (leadF d.tr.n (ent d.tr.target) (k - 1) = d.tr.n ∧ leadF d.tr.n (ent d.tr.target) k = d.tr.n ∧
      d.lovaszOk k = ok false) := by
  unfold hnfIsOk at h
  rw [assert_bind_eq_ok] at h
  obtain ⟨_, h⟩ := h
  split at h
  · rename_i j l hj hl
    simp only [pure_eq, Res.ok.injEq, decide_eq_false_iff_not] at h
    rw [(nzColIn_some hj).1, (nzColIn_some hl).1]
    exact Or.inl ⟨(nzColIn_some hj).2, by omega⟩
  · rename_i j hj hl
    rw [(nzColIn_some hj).1, nzColIn_none hl]
    exact Or.inl ⟨(nzColIn_some hj).2, le_of_lt (nzColIn_some hj).2⟩
  · simp only [pure_eq, Res.ok.injEq] at h
    cases h
  · rename_i h1 h2
    exact Or.inr ⟨nzColIn_none h1, nzColIn_none h2, h⟩

theorem hV_zero_row (n : Nat) (T : Nat → Nat → Int) (i : Nat) (h : leadF n T i = n) : hV n T i = 0 := by
  unfold hV; rw [h, if_neg (lt_irrefl n)]

theorem hnfIterate_decreases (m n : Nat) (d d' : Data) (h : hnfIterate d = ok d') (hB : d.BookP)
    (hS : HState m n d) (hlt : d.step < d.tr.m) :
    (toLex (hnfM d', m - d'.step) : HM ×ₗ ℕ) < toLex (hnfM d, m - d.step) := by
  obtain ⟨rfl, rfl, hs1, _, _⟩ := hS
  have hk2 : d.step - 1 < d.step := by omega
  rw [hnfIterate_eq] at h
  obtain ⟨d1, h1, hcase⟩ := iterateWith_inv h
  have hM1 := hnfReduce_M_le d d1 (d.step - 1) d.step h1
  have hB1 := hnfReduce_bookP d d1 _ _ h1 hB
  obtain ⟨_, _, u, r, hu, ⟨m1, n1, s1, t1⟩, hbnd, _⟩ := hnfReduce_tgt d d1 (d.step - 1) d.step h1
  rw [Prod.Lex.toLex_lt_toLex]
  rcases hcase with ⟨hb, d2, h2, rfl⟩ | ⟨hb, d2, h2, rfl⟩
  · have hM2 := revLoop_hnf_M_le d.step (d.step - 1) d1 d2 h2
    have s2 : d2.step = d1.step := by
      obtain ⟨d2', r2', _, s2'⟩ := revLoop_hnf_ok d.step (d.step - 1) d1 hB1 (le_of_lt hk2) (m1 ▸ hlt)
      obtain rfl : d2' = d2 := ok.inj (r2'.symm.trans h2)
      exact s2'
    have hle : hnfM d2.next ≤ hnfM d := le_trans hM2 hM1
    rcases lt_or_eq_of_le hle with hlt' | heq
    · exact Or.inl hlt'
    · refine Or.inr ⟨heq, ?_⟩
      show d.tr.m - (d2.step + 1) < d.tr.m - d.step
      rw [s2, s1]
      omega
  · left
    obtain ⟨_, _, m2, n2, _, t2⟩ := Data.swap_tgt d1 d2 d.step h2
    have hMb : hnfM d2.back = hnfM d2 := by
      unfold hnfM
      rw [Data.back_tr, Data.pot_congr d2 d2.back (by rw [Data.back_tr]) (Data.back_det d2)]
    rw [hMb]
    refine lt_of_lt_of_le ?_ hM1
    unfold hnfM
    rw [m2, n2]
    apply hmk_swap _ _ _ _ d.step hs1 (m1 ▸ hlt) t2
    rcases hnfIsOk_false d1 d.step hb with ⟨hjn, hle⟩ | ⟨hz1, hz2, hlov⟩
    · rcases lt_or_eq_of_le hle with hlt' | heq
      · exact Or.inl hlt'
      · -- equal leading columns: the Euclidean step made the pivot of row `k` smaller
        refine Or.inr (Or.inl ⟨heq, ?_⟩)
        rw [n1] at hjn heq ⊢
        have hrow : ∀ c < d.tr.n, ent d1.tr.target (d.step - 1) c = ent d.tr.target (d.step - 1) c * u :=
          fun c hc => by rw [t1 (d.step - 1) (lt_trans hk2 hlt) c hc]; exact if_pos rfl
        have hLk1 := leadF_mul_unit d.tr.n _ _ _ _ hu hrow
        have hl : leadF d.tr.n (ent d.tr.target) (d.step - 1) < d.tr.n := by rw [← hLk1]; exact hjn
        unfold hV
        rw [← heq, if_pos hjn, if_pos hjn, hLk1, hrow _ hl, t1 d.step hlt _ hl]
        dsimp only
        rw [if_neg (ne_of_gt hk2), if_pos rfl]
        have hb2 := (hbnd hl).2.1
        rw [← abs_mul_unit hu (ent d.tr.target (d.step - 1) _), Int.abs_eq_natAbs, Int.abs_eq_natAbs] at hb2
        exact_mod_cast hb2
    · refine Or.inr (Or.inr ⟨by rw [hz1, hz2], ?_, ?_⟩)
      · rw [hV_zero_row _ _ _ hz1, hV_zero_row _ _ _ hz2]
      · have hk1 : d.step < d1.tr.m := by rw [m1]; exact hlt
        obtain ⟨b, hlov', hb'⟩ := Data.lovaszOk_eq d1 d.step hs1 hk1 hB1.1
        obtain rfl : b = false := ok.inj (hlov'.symm.trans hlov)
        have := swap_pot_lt d1 d2 d.step hs1 hk1 (fun i hi => Data.BookOf.dv_pos hB1 hi) h2
          (fun hcon => Bool.false_ne_true (hb'.mpr hcon))
        omega

theorem loopWhile_hnf_conv (m n : Nat) (d : Data) (hB : d.BookP) (hS : HState m n d) :
    ∃ B, Conv (fun fuel => loopWhile hnfIterate fuel d) B
      (fun d' => (d'.BookP ∧ HState m n d') ∧ ¬ d'.step < d'.tr.m) :=
  loopWhile_conv_wf (I := fun x => x.BookP ∧ HState m n x) (fun x => (toLex (hnfM x, m - x.step) : HM ×ₗ ℕ))
    (fun x hI hlt => by
      obtain ⟨x', r, hB', _, _⟩ := hnfIterate_ok x hI.1 hI.2.step_pos hlt
      exact ⟨x', r, ⟨hB', hnfIterate_inv m n x x' r hlt hI.2⟩, hnfIterate_decreases m n x x' r hI.1 hI.2 hlt⟩)
    d ⟨hB, hS⟩

theorem lllHnf_conv (m n : Nat) (A : Mat) : ∃ B, Conv (fun fuel => lllHnf fuel m n A) B (fun _ => True) := by
  obtain ⟨B, hc⟩ := loopWhile_hnf_conv m n _ (Data.new_bookP m n A) (HState.new m n A)
  refine ⟨max B 0, hc.bind (g := fun _ d => hnfNormalizeLast d >>= fun d => reverseRows d.tr (d.tr.m / 2) 0)
    (fun d1 _ => ?_)⟩
  obtain ⟨d2, r2, _⟩ := hnfNormalizeLast_ok d1
  obtain ⟨t, r3⟩ := reverseRows_ok (d2.tr.m / 2) 0 d2.tr (by omega)
  exact Conv.const (v := t) (by rw [r2]; exact r3) trivial

end Yuiv.C10
