import Yuiv.Proofs.C01SqDefs
/-
COEFFICIENTS: the reference's mask-level edge maps are the name-indexed functionals of `C01SqDefs`.
The reference reads an edge off the gone / born INDEX arrays; any descriptor of the edge by NAMES determines these arrays
up to the order of the two gone (born) circles (`gone_of_rel`), so the coefficient of the reference is `ecoef` for ANY
descriptor (`edgeCoef_eq_ecoef`), and likewise for a path of two edges (`pathSum_eq_pathF`).
-/
namespace Yuiv.C01Sq
open Yuiv Yuiv.KhRef Yuiv.C02Mirror

theorem prodCoef_comm (h t : Int) (x1 x2 y : Bool) : prodCoef h t x1 x2 y = prodCoef h t x2 x1 y := by
  rw [prodCoef_eq, prodCoef_eq, Bool.and_comm, Bool.or_comm]

theorem coprodCoef_comm (h t : Int) (x y1 y2 : Bool) : coprodCoef h t x y1 y2 = coprodCoef h t x y2 y1 := by
  rw [coprodCoef_eq, coprodCoef_eq, Bool.and_comm, Bool.or_comm]

theorem ov_self (f : Name → Bool) (b : Name) (y : Bool) : ov f b y b = y := if_pos rfl

theorem ov_ne (f : Name → Bool) {b c : Name} (y : Bool) (h : c ≠ b) : ov f b y c = f c := if_neg h

theorem ov_congr {f g : Name → Bool} {b c : Name} (y : Bool) (h : c ≠ b → f c = g c) : ov f b y c = ov g b y c := by
  by_cases e : c = b
  · rw [e, ov_self, ov_self]
  · rw [ov_ne _ _ e, ov_ne _ _ e, h e]

theorem ov_comm (f : Name → Bool) (b0 b1 : Name) (hne : b0 ≠ b1) (y1 y2 : Bool) :
    ov (ov f b0 y1) b1 y2 = ov (ov f b1 y2) b0 y1 := by
  funext c
  by_cases h1 : c = b1
  · subst h1
    rw [ov_self, ov_ne _ _ hne.symm, ov_self]
  · rw [ov_ne _ _ h1]
    by_cases h0 : c = b0
    · subst h0
      rw [ov_self, ov_self]
    · rw [ov_ne _ _ h0, ov_ne _ _ h0, ov_ne _ _ h1]

theorem ecoef_merge_swap (h t) (cs cs' : Circ) (g0 g1 b : Name) (f f' : Name → Bool) :
    ecoef h t cs cs' (.merge g0 g1 b) f f' = ecoef h t cs cs' (.merge g1 g0 b) f f' := by
  unfold ecoef loc
  simp only [prodCoef_comm h t (f g0) (f g1)]

theorem ecoef_split_swap (h t) (cs cs' : Circ) (g b0 b1 : Name) (f f' : Name → Bool) :
    ecoef h t cs cs' (.split g b0 b1) f f' = ecoef h t cs cs' (.split g b1 b0) f f' := by
  unfold ecoef loc
  simp only [coprodCoef_comm h t (f g) (f' b0) (f' b1)]

theorem pathF_swap2_merge (h t) (cs1 cs2 : Circ) (e1 : Edge) (g0 g1 b : Name) (f f'' : Name → Bool) :
    pathF h t cs1 cs2 e1 (.merge g0 g1 b) f f'' = pathF h t cs1 cs2 e1 (.merge g1 g0 b) f f'' := by
  have e : ∀ f, ecoef h t cs1 cs2 (.merge g0 g1 b) f f'' = ecoef h t cs1 cs2 (.merge g1 g0 b) f f'' :=
    fun f => ecoef_merge_swap h t cs1 cs2 g0 g1 b f f''
  cases e1 <;> simp only [pathF, e]

theorem pathF_swap2_split (h t) (cs1 cs2 : Circ) (e1 : Edge) (g b0 b1 : Name) (f f'' : Name → Bool) :
    pathF h t cs1 cs2 e1 (.split g b0 b1) f f'' = pathF h t cs1 cs2 e1 (.split g b1 b0) f f'' := by
  have e : ∀ f, ecoef h t cs1 cs2 (.split g b0 b1) f f'' = ecoef h t cs1 cs2 (.split g b1 b0) f f'' :=
    fun f => ecoef_split_swap h t cs1 cs2 g b0 b1 f f''
  cases e1 <;> simp only [pathF, e]

theorem pathF_swap1_merge (h t) (cs1 cs2 : Circ) (e2 : Edge) (g0 g1 b : Name) (f f'' : Name → Bool) :
    pathF h t cs1 cs2 (.merge g0 g1 b) e2 f f'' = pathF h t cs1 cs2 (.merge g1 g0 b) e2 f f'' := by
  simp only [pathF, prodCoef_comm h t (f g0) (f g1)]

theorem pathF_swap1_split (h t) (cs1 cs2 : Circ) (e2 : Edge) (g b0 b1 : Name) (hne : b0 ≠ b1) (f f'' : Name → Bool) :
    pathF h t cs1 cs2 (.split g b0 b1) e2 f f'' = pathF h t cs1 cs2 (.split g b1 b0) e2 f f'' := by
  simp only [pathF, List.flatMap_cons, List.flatMap_nil, List.map_cons, List.map_nil, List.append_nil,
    List.cons_append, List.nil_append, List.sum_cons, List.sum_nil]
  rw [ov_comm f b1 b0 (fun e => hne e.symm) true true, ov_comm f b1 b0 (fun e => hne e.symm) true false,
    ov_comm f b1 b0 (fun e => hne e.symm) false true, ov_comm f b1 b0 (fun e => hne e.symm) false false,
    coprodCoef_comm h t (f g) true false]
  omega

def AgreeOn (S : Name → Prop) (f f' : Name → Bool) : Prop := ∀ c, S c → f' c = f c

theorem agreeOn_congr {S T : Name → Prop} (h : ∀ c, S c ↔ T c) (f f' : Name → Bool) :
    AgreeOn S f f' ↔ AgreeOn T f f' :=
  ⟨fun H c hc => H c ((h c).2 hc), fun H c hc => H c ((h c).1 hc)⟩

theorem compatB_iff (cs cs' : Circ) (f f' : Name → Bool) :
    compatB cs cs' f f' = true ↔ AgreeOn (fun c => c ∈ cs ∧ c ∈ cs') f f' := by
  unfold compatB AgreeOn
  rw [Array.all_eq_true_iff_forall_mem]
  constructor
  · intro H c hc
    have := H c hc.1
    simpa [hc.2] using this
  · intro H c hc
    by_cases hc' : c ∈ cs'
    · simp [H c ⟨hc, hc'⟩]
    · simp [hc']

theorem ecoef_eq (h t : Int) (cs cs' : Circ) (e : Edge) (f f' : Name → Bool)
    [Decidable (AgreeOn (fun c => c ∈ cs ∧ c ∈ cs') f f')] :
    ecoef h t cs cs' e f f' = if AgreeOn (fun c => c ∈ cs ∧ c ∈ cs') f f' then loc h t e f f' else 0 := by
  unfold ecoef
  simp only [compatB_iff]

theorem compatB_congr (cs cs' : Circ) (f g f' : Name → Bool) (hfg : ∀ c, c ∈ cs → f c = g c) :
    compatB cs cs' f f' = compatB cs cs' g f' := by
  rw [Bool.eq_iff_iff, compatB_iff, compatB_iff]
  constructor
  · intro H c hc; rw [← hfg c hc.1]; exact H c hc
  · intro H c hc; rw [hfg c hc.1]; exact H c hc

theorem ecoef_congr (h t) (cs cs' : Circ) (e : Edge) (he : IsEdge cs cs' e) (f g f' : Name → Bool)
    (hfg : ∀ c, c ∈ cs → f c = g c) : ecoef h t cs cs' e f f' = ecoef h t cs cs' e g f' := by
  unfold ecoef
  rw [compatB_congr cs cs' f g f' hfg]
  cases e with
  | merge g0 g1 b =>
    have R : MergeRel cs cs' g0 g1 b := he
    simp only [loc, hfg g0 R.m0, hfg g1 R.m1]
  | split g0 b0 b1 =>
    have R : MergeRel cs' cs b0 b1 g0 := he
    have hg : g0 ∈ cs := (R.mem g0).2 (Or.inl rfl)
    simp only [loc, hfg g0 hg]

theorem MergeRel.swap {cs cs' : Circ} {g0 g1 b : Name} (R : MergeRel cs cs' g0 g1 b) : MergeRel cs cs' g1 g0 b :=
  ⟨R.m1, R.m0, fun e => R.ne e.symm, R.nb, fun c =>
    (R.mem c).trans (or_congr Iff.rfl (and_congr_right fun _ => and_comm))⟩

theorem MergeRel.of_pair {cs cs' : Circ} {g0 g1 x y b : Name} (R : MergeRel cs cs' g0 g1 b)
    (h : (g0 = x ∧ g1 = y) ∨ (g0 = y ∧ g1 = x)) : MergeRel cs cs' x y b := by
  rcases h with ⟨rfl, rfl⟩ | ⟨rfl, rfl⟩
  · exact R
  · exact R.swap

theorem MergeRel.b_mem {cs cs' : Circ} {g0 g1 b : Name} (R : MergeRel cs cs' g0 g1 b) : b ∈ cs' :=
  (R.mem b).2 (Or.inl rfl)

theorem MergeRel.g0_not {cs cs' : Circ} {g0 g1 b : Name} (R : MergeRel cs cs' g0 g1 b) : g0 ∉ cs' := by
  intro hc
  rcases (R.mem g0).1 hc with h | ⟨_, h, _⟩
  · exact R.nb (h ▸ R.m0)
  · exact h rfl

theorem MergeRel.g1_not {cs cs' : Circ} {g0 g1 b : Name} (R : MergeRel cs cs' g0 g1 b) : g1 ∉ cs' :=
  R.swap.g0_not

theorem mergeRel_of_gone {cs cs' : Circ} (hP : Pair cs cs') {g0 g1 b : Nat}
    (hG : goneOf cs cs' = #[g0, g1]) (hB : goneOf cs' cs = #[b]) : MergeRel cs cs' cs[g0]! cs[g1]! cs'[b]! := by
  have hg0 : g0 ∈ goneOf cs cs' := by rw [hG]; simp
  have hg1 : g1 ∈ goneOf cs cs' := by rw [hG]; simp
  have hb : b ∈ goneOf cs' cs := by rw [hB]; simp
  obtain ⟨l0, n0⟩ := (mem_goneOf cs cs' g0).1 hg0
  obtain ⟨l1, n1⟩ := (mem_goneOf cs cs' g1).1 hg1
  obtain ⟨lb, nb⟩ := (mem_goneOf cs' cs b).1 hb
  have hne : g0 ≠ g1 := by
    have := goneOf_nodup cs cs'
    rw [hG] at this
    simpa using this
  refine ⟨getElem!_mem cs g0 l0, getElem!_mem cs g1 l1, fun e => hne (idx_inj cs hP.nd g0 g1 l0 l1 e), nb, fun c => ?_⟩
  constructor
  · intro hc
    by_cases hcs : c ∈ cs
    · right
      refine ⟨hcs, ?_, ?_⟩
      · rintro rfl; exact n0 hc
      · rintro rfl; exact n1 hc
    · left
      obtain ⟨h1, h2⟩ := ix_spec cs' c hc
      have : ix cs' c ∈ goneOf cs' cs := (mem_goneOf cs' cs _).2 ⟨h1, by rw [h2]; exact hcs⟩
      rw [hB] at this
      have : ix cs' c = b := by simpa using this
      rw [← this, h2]
  · rintro (rfl | ⟨hcs, h0, h1⟩)
    · exact getElem!_mem cs' b lb
    · by_cases hc : c ∈ cs'
      · exact hc
      · exfalso
        obtain ⟨k1, k2⟩ := ix_spec cs c hcs
        have : ix cs c ∈ goneOf cs cs' := (mem_goneOf cs cs' _).2 ⟨k1, by rw [k2]; exact hc⟩
        rw [hG] at this
        have : ix cs c = g0 ∨ ix cs c = g1 := by simpa using this
        rcases this with e | e
        · exact h0 (by rw [← e, k2])
        · exact h1 (by rw [← e, k2])

theorem isEdge_merge {cs cs' : Circ} (hP : Pair cs cs') {g0 g1 b : Nat}
    (hG : goneOf cs cs' = #[g0, g1]) (hB : goneOf cs' cs = #[b]) :
    IsEdge cs cs' (.merge cs[g0]! cs[g1]! cs'[b]!) := mergeRel_of_gone hP hG hB

theorem isEdge_split {cs cs' : Circ} (hP : Pair cs cs') {g b0 b1 : Nat}
    (hG : goneOf cs cs' = #[g]) (hB : goneOf cs' cs = #[b0, b1]) :
    IsEdge cs cs' (.split cs[g]! cs'[b0]! cs'[b1]!) := mergeRel_of_gone hP.symm hB hG

theorem exists_edge {cs cs' : Circ} (hP : Pair cs cs') (hok : edgeOK cs cs' = true) : ∃ e, IsEdge cs cs' e := by
  rcases edgeOK_cases hok with ⟨g0, g1, b, hG, hB⟩ | ⟨g, b0, b1, hG, hB⟩
  · exact ⟨_, isEdge_merge hP hG hB⟩
  · exact ⟨_, isEdge_split hP hG hB⟩

theorem list_two (l : List Nat) (a b : Nat) (hnd : l.Nodup) (hab : a ≠ b) (h : ∀ x, x ∈ l ↔ x = a ∨ x = b) :
    l = [a, b] ∨ l = [b, a] := by
  have hp : l.Perm [a, b] := (List.perm_ext_iff_of_nodup hnd (by simp [hab])).2 (by simpa using h)
  obtain ⟨x, y, rfl⟩ := List.length_eq_two.1 hp.length_eq
  have hxy : x ≠ y := fun e => (List.nodup_cons.1 hnd).1 (e ▸ List.mem_cons_self)
  have hx := (h x).1 List.mem_cons_self
  have hy := (h y).1 (List.mem_cons_of_mem _ List.mem_cons_self)
  rcases hx with rfl | rfl <;> rcases hy with rfl | rfl
  · exact absurd rfl hxy
  · exact Or.inl rfl
  · exact Or.inr rfl
  · exact absurd rfl hxy

theorem list_one (l : List Nat) (a : Nat) (hnd : l.Nodup) (h : ∀ x, x ∈ l ↔ x = a) : l = [a] :=
  List.perm_singleton.1 ((List.perm_ext_iff_of_nodup hnd (List.nodup_singleton a)).2 (by simpa using h))

theorem gone_of_rel {cs cs' : Circ} (hP : Pair cs cs') {g0 g1 b : Name} (R : MergeRel cs cs' g0 g1 b) :
    (goneOf cs cs' = #[ix cs g0, ix cs g1] ∨ goneOf cs cs' = #[ix cs g1, ix cs g0]) ∧
      goneOf cs' cs = #[ix cs' b] := by
  obtain ⟨l0, e0⟩ := ix_spec cs g0 R.m0
  obtain ⟨l1, e1⟩ := ix_spec cs g1 R.m1
  obtain ⟨lb, eb⟩ := ix_spec cs' b R.b_mem
  have hne : ix cs g0 ≠ ix cs g1 := fun e => R.ne (ix_inj cs g0 g1 R.m0 R.m1 e)
  have hgone : ∀ i, i ∈ (goneOf cs cs').toList ↔ i = ix cs g0 ∨ i = ix cs g1 := by
    intro i
    rw [Array.mem_toList_iff, mem_goneOf]
    constructor
    · rintro ⟨hi, hn⟩
      have hmem := getElem!_mem cs i hi
      by_cases h0 : cs[i]! = g0
      · left; rw [← h0, ix_getElem cs hP.nd i hi]
      · by_cases h1 : cs[i]! = g1
        · right; rw [← h1, ix_getElem cs hP.nd i hi]
        · exact absurd ((R.mem _).2 (Or.inr ⟨hmem, h0, h1⟩)) hn
    · rintro (rfl | rfl)
      · exact ⟨l0, by rw [e0]; exact R.g0_not⟩
      · exact ⟨l1, by rw [e1]; exact R.g1_not⟩
  have hborn : ∀ j, j ∈ (goneOf cs' cs).toList ↔ j = ix cs' b := by
    intro j
    rw [Array.mem_toList_iff, mem_goneOf]
    constructor
    · rintro ⟨hj, hn⟩
      rcases (R.mem _).1 (getElem!_mem cs' j hj) with h | ⟨h, _, _⟩
      · rw [← h, ix_getElem cs' hP.nd' j hj]
      · exact absurd h hn
    · rintro rfl
      exact ⟨lb, by rw [eb]; exact R.nb⟩
  refine ⟨?_, ?_⟩
  · rcases list_two _ _ _ (goneOf_nodup cs cs') hne hgone with h | h
    · left; exact Array.toList_inj.mp (by rw [h])
    · right; exact Array.toList_inj.mp (by rw [h])
  · exact Array.toList_inj.mp (by rw [list_one _ _ (goneOf_nodup cs' cs) hborn])

theorem compat_iff {cs cs' : Circ} (hP : Pair cs cs') (m m' : Nat) :
    Compat cs cs' m m' ↔ compatB cs cs' (val cs m) (val cs' m') = true := by
  rw [compatB_iff]
  unfold Compat AgreeOn val
  constructor
  · intro H c hc
    obtain ⟨k1, k2⟩ := ix_spec cs c hc.1
    have := H (ix cs c) k1 (by rw [k2]; exact hc.2)
    rwa [k2] at this
  · intro H i hi hc
    have := H cs[i]! ⟨getElem!_mem cs i hi, hc⟩
    rwa [ix_getElem cs hP.nd i hi] at this

/-- the reference's coefficient is `ecoef`, given the coefficient statement of `coef_merge` / `coef_split` -/
theorem edgeCoef_of_coef {cs cs' : Circ} (hP : Pair cs cs') (h t : Int) (e : Edge) (m m' : Nat)
    (H : ∃ ts, edgeTerms h t cs cs' m = some ts ∧
      (Compat cs cs' m m' → coefOf ts m' = loc h t e (val cs m) (val cs' m')) ∧
      (¬ Compat cs cs' m m' → coefOf ts m' = 0)) :
    edgeCoef h t cs cs' m m' = ecoef h t cs cs' e (val cs m) (val cs' m') := by
  obtain ⟨ts, e1, c1, c2⟩ := H
  unfold edgeCoef ecoef
  rw [e1]
  show coefOf ts m' = _
  by_cases hC : Compat cs cs' m m'
  · rw [if_pos ((compat_iff hP m m').1 hC)]; exact c1 hC
  · rw [if_neg (fun h => hC ((compat_iff hP m m').2 h))]; exact c2 hC

theorem edgeCoef_eq_ecoef {cs cs' : Circ} (hP : Pair cs cs') (h t : Int) (e : Edge) (he : IsEdge cs cs' e)
    (m m' : Nat) (hm' : m' < 2 ^ cs'.size) :
    edgeCoef h t cs cs' m m' = ecoef h t cs cs' e (val cs m) (val cs' m') := by
  cases e with
  | merge g0 g1 b =>
    have R : MergeRel cs cs' g0 g1 b := he
    obtain ⟨hG | hG, hB⟩ := gone_of_rel hP R
    · exact edgeCoef_of_coef hP h t _ m m' (coef_merge hP h t m m' _ _ _ hm' hG hB)
    · rw [ecoef_merge_swap]; exact edgeCoef_of_coef hP h t _ m m' (coef_merge hP h t m m' _ _ _ hm' hG hB)
  | split g b0 b1 =>
    have R : MergeRel cs' cs b0 b1 g := he
    obtain ⟨hB | hB, hG⟩ := gone_of_rel hP.symm R
    · exact edgeCoef_of_coef hP h t _ m m' (coef_split hP h t m m' _ _ _ hm' hG hB)
    · rw [ecoef_split_swap]; exact edgeCoef_of_coef hP h t _ m m' (coef_split hP h t m m' _ _ _ hm' hG hB)

theorem terms_lt {cs cs' : Circ} (hP : Pair cs cs') (h t : Int) (m : Nat) (ts : List (Nat × Int))
    (he : edgeTerms h t cs cs' m = some ts) : ∀ x ∈ ts, x.1 < 2 ^ cs'.size :=
  fun x hx => (mem_edgeTerms hP h t m ts he x hx).1

theorem coefOf_zero (ts : List (Nat × Int)) (m' : Nat) (h : ∀ x ∈ ts, x.1 ≠ m') : coefOf ts m' = 0 := by
  unfold coefOf
  have : ts.filter (fun x => x.1 == m') = [] := by
    rw [List.filter_eq_nil_iff]
    intro x hx e
    rw [beq_iff_eq] at e
    exact h x hx e
  rw [this]; rfl

theorem edgeCoef_big {cs cs' : Circ} (hP : Pair cs cs') (h t : Int) (m m' : Nat) (hm' : 2 ^ cs'.size ≤ m') :
    edgeCoef h t cs cs' m m' = 0 := by
  unfold edgeCoef
  cases he : edgeTerms h t cs cs' m with
  | none => rfl
  | some ts =>
    show coefOf ts m' = 0
    apply coefOf_zero
    intro x hx e
    have := terms_lt hP h t m ts he x hx
    omega

theorem pathSum_big {cs0 cs1 cs2 : Circ} (hP12 : Pair cs1 cs2) (h t : Int) (m m'' : Nat)
    (hm'' : 2 ^ cs2.size ≤ m'') : pathSum h t cs0 cs1 cs2 m m'' = 0 := by
  unfold pathSum
  generalize (edgeTerms h t cs0 cs1 m).getD [] = L
  induction L with
  | nil => rfl
  | cons x L ih =>
    rw [List.map_cons, List.sum_cons, ih, edgeCoef_big hP12 h t x.1 m'' hm'']
    simp

theorem sum_filterMap {α : Type} (L : List α) (f : α → Nat) (a : α → Int) (G : Nat → Int) :
    ((L.filterMap (fun x => if a x != 0 then some (f x, a x) else none)).map (fun mc => mc.2 * G mc.1)).sum
      = (L.map (fun x => a x * G (f x))).sum := by
  induction L with
  | nil => rfl
  | cons x L ih =>
    rw [List.filterMap_cons, List.map_cons, List.sum_cons]
    by_cases ha : a x = 0
    · have : (a x != 0) = false := by simp [ha]
      simp only [this, Bool.false_eq_true, if_false]
      rw [ih, ha]
      simp
    · have : (a x != 0) = true := by simp [ha]
      simp only [this, if_true, List.map_cons, List.sum_cons]
      rw [ih]

theorem prod_sum (h t : Int) (x0 x1 : Bool) (F : Bool → Int) :
    ((prod h t x0 x1).map (fun r => r.2 * F r.1)).sum
      = ([true, false].map (fun y => prodCoef h t x0 x1 y * F y)).sum := by
  cases x0 <;> cases x1 <;> simp [prod, prodCoef_eq]

theorem coprod_sum (h t : Int) (x : Bool) (F : Bool → Bool → Int) :
    ((coprod h t x).map (fun r => r.2.2 * F r.1 r.2.1)).sum
      = ([true, false].flatMap (fun y1 => [true, false].map (fun y2 => coprodCoef h t x y1 y2 * F y1 y2))).sum := by
  cases x <;> simp [coprod, coprodCoef_eq]

theorem val_target1 {cs0 cs1 : Circ} (hP : Pair cs0 cs1) {g0 g1 b : Name} (R : MergeRel cs0 cs1 g0 g1 b) (m X : Nat)
    (y : Bool) (hC : Compat cs0 cs1 m X) (hb : X.testBit (ix cs1 b) = y) (c : Name) (hc : c ∈ cs1) :
    val cs1 X c = ov (val cs0 m) b y c := by
  by_cases e : c = b
  · subst e
    rw [ov_self]
    exact hb
  · rw [ov_ne _ _ e]
    exact ((compatB_iff cs0 cs1 _ _).1 ((compat_iff hP m X).1 hC)) c ⟨(((R.mem c).1 hc).resolve_left e).1, hc⟩

theorem val_target2 {cs0 cs1 : Circ} (hP : Pair cs0 cs1) {g b0 b1 : Name} (R : MergeRel cs1 cs0 b0 b1 g) (m X : Nat)
    (y1 y2 : Bool) (hC : Compat cs0 cs1 m X) (h0 : X.testBit (ix cs1 b0) = y1) (h1 : X.testBit (ix cs1 b1) = y2)
    (c : Name) (hc : c ∈ cs1) : val cs1 X c = ov (ov (val cs0 m) b0 y1) b1 y2 c := by
  by_cases e1 : c = b1
  · subst e1
    rw [ov_self]
    exact h1
  · rw [ov_ne _ _ e1]
    by_cases e0 : c = b0
    · subst e0
      rw [ov_self]
      exact h0
    · rw [ov_ne _ _ e0]
      exact ((compatB_iff cs0 cs1 _ _).1 ((compat_iff hP m X).1 hC)) c ⟨(R.mem c).2 (Or.inr ⟨hc, e0, e1⟩), hc⟩

theorem pathSum_merge_aux {cs0 cs1 cs2 : Circ} (hP01 : Pair cs0 cs1) (hP12 : Pair cs1 cs2) (h t : Int)
    {g0 g1 b : Name} (R : MergeRel cs0 cs1 g0 g1 b)
    (hG : goneOf cs0 cs1 = #[ix cs0 g0, ix cs0 g1]) (hB : goneOf cs1 cs0 = #[ix cs1 b])
    (e2 : Edge) (h2 : IsEdge cs1 cs2 e2) (m m'' : Nat) (hm'' : m'' < 2 ^ cs2.size) :
    pathSum h t cs0 cs1 cs2 m m'' = pathF h t cs1 cs2 (.merge g0 g1 b) e2 (val cs0 m) (val cs2 m'') := by
  have key : ∀ y, edgeCoef h t cs1 cs2 (setBit (carry cs0 cs1 m) (ix cs1 b) y) m''
      = ecoef h t cs1 cs2 e2 (ov (val cs0 m) b y) (val cs2 m'') := by
    intro y
    obtain ⟨_, t2, t3⟩ := target1 hP01 (b := ix cs1 b) (by rw [hB]; simp) m y
    rw [edgeCoef_eq_ecoef hP12 h t e2 h2 _ _ hm'']
    exact ecoef_congr _ _ _ _ _ h2 _ _ _ (val_target1 hP01 R m _ y t2 t3)
  unfold pathSum
  rw [edgeTerms_of_merge h t m hG hB, Option.getD_some]
  rw [sum_filterMap (prod h t (m.testBit (ix cs0 g0)) (m.testBit (ix cs0 g1)))
    (fun ya => setBit (carry cs0 cs1 m) (ix cs1 b) ya.1) (fun ya => ya.2)
    (fun m' => edgeCoef h t cs1 cs2 m' m'')]
  simp only [key]
  exact prod_sum h t _ _ (fun y => ecoef h t cs1 cs2 e2 (ov (val cs0 m) b y) (val cs2 m''))

theorem pathSum_split_aux {cs0 cs1 cs2 : Circ} (hP01 : Pair cs0 cs1) (hP12 : Pair cs1 cs2) (h t : Int)
    {g b0 b1 : Name} (R : MergeRel cs1 cs0 b0 b1 g)
    (hG : goneOf cs0 cs1 = #[ix cs0 g]) (hB : goneOf cs1 cs0 = #[ix cs1 b0, ix cs1 b1])
    (e2 : Edge) (h2 : IsEdge cs1 cs2 e2) (m m'' : Nat) (hm'' : m'' < 2 ^ cs2.size) :
    pathSum h t cs0 cs1 cs2 m m'' = pathF h t cs1 cs2 (.split g b0 b1) e2 (val cs0 m) (val cs2 m'') := by
  have hne : ix cs1 b0 ≠ ix cs1 b1 := fun e => R.ne (ix_inj cs1 b0 b1 R.m0 R.m1 e)
  have key : ∀ y1 y2, edgeCoef h t cs1 cs2 (setBit (setBit (carry cs0 cs1 m) (ix cs1 b0) y1) (ix cs1 b1) y2) m''
      = ecoef h t cs1 cs2 e2 (ov (ov (val cs0 m) b0 y1) b1 y2) (val cs2 m'') := by
    intro y1 y2
    obtain ⟨_, t2, t3, t4⟩ := target2 hP01 (b0 := ix cs1 b0) (b1 := ix cs1 b1) (by rw [hB]; simp) (by rw [hB]; simp)
      hne m y1 y2
    rw [edgeCoef_eq_ecoef hP12 h t e2 h2 _ _ hm'']
    exact ecoef_congr _ _ _ _ _ h2 _ _ _ (val_target2 hP01 R m _ y1 y2 t2 t3 t4)
  unfold pathSum
  rw [edgeTerms_of_split h t m hG hB, Option.getD_some]
  rw [sum_filterMap (coprod h t (m.testBit (ix cs0 g)))
    (fun ya => setBit (setBit (carry cs0 cs1 m) (ix cs1 b0) ya.1) (ix cs1 b1) ya.2.1) (fun ya => ya.2.2)
    (fun m' => edgeCoef h t cs1 cs2 m' m'')]
  simp only [key]
  exact coprod_sum h t _ (fun y1 y2 => ecoef h t cs1 cs2 e2 (ov (ov (val cs0 m) b0 y1) b1 y2) (val cs2 m''))

theorem pathSum_eq_pathF {cs0 cs1 cs2 : Circ} (hP01 : Pair cs0 cs1) (hP12 : Pair cs1 cs2) (h t : Int)
    (e1 e2 : Edge) (h1 : IsEdge cs0 cs1 e1) (h2 : IsEdge cs1 cs2 e2) (m m'' : Nat) (hm'' : m'' < 2 ^ cs2.size) :
    pathSum h t cs0 cs1 cs2 m m'' = pathF h t cs1 cs2 e1 e2 (val cs0 m) (val cs2 m'') := by
  cases e1 with
  | merge g0 g1 b =>
    have R : MergeRel cs0 cs1 g0 g1 b := h1
    obtain ⟨hG | hG, hB⟩ := gone_of_rel hP01 R
    · exact pathSum_merge_aux hP01 hP12 h t R hG hB e2 h2 m m'' hm''
    · rw [pathF_swap1_merge]; exact pathSum_merge_aux hP01 hP12 h t R.swap hG hB e2 h2 m m'' hm''
  | split g b0 b1 =>
    have R : MergeRel cs1 cs0 b0 b1 g := h1
    obtain ⟨hB | hB, hG⟩ := gone_of_rel hP01.symm R
    · exact pathSum_split_aux hP01 hP12 h t R hG hB e2 h2 m m'' hm''
    · rw [pathF_swap1_split h t cs1 cs2 e2 g b0 b1 R.ne]
      exact pathSum_split_aux hP01 hP12 h t R.swap hG hB e2 h2 m m'' hm''

end Yuiv.C01Sq
