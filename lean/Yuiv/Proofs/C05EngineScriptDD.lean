import Yuiv.Proofs.C05EngineConnectDD
/-
C05 (engine) — every script of the model preserves `d ∘ d = 0`: boundedness of the weights, the crossing complex
`make_x`, and the induction over the steps, in values (`script_ddV`); `Good.toV` and `valLaws_id` make labels in a ring
the case `val = id` (`Props/C05EngineScript.lean`).
-/
namespace Yuiv.C05.Engine
open Yuiv.C05.Tng

variable {E : Type}

theorem bounded_connect (ops : EdgeOps E) (left right cx' : Cx E) (hbl : Bounded left) (hbr : Bounded right)
    (h : left.connect ops right = .ok cx') : Bounded cx' := by
  have hv := (connect_inv ops left right cx' h).verts
  have hd := (connect_inv ops left right cx' h).dim
  intro k hk
  rw [hv] at hk
  obtain ⟨p, hp, rfl⟩ := List.mem_map.1 hk
  obtain ⟨m1, m2⟩ := (mem_allPairs left right hbl hbr p.1 p.2).1 hp
  rw [weight_pkey, hd]
  have b1 := hbl _ m1
  have b2 := hbr _ m2
  omega

theorem bounded_eliminate (ops : EdgeOps E) (cx cx' : Cx E) (k0 k1 : TKey) (hb : Bounded cx)
    (h : cx.eliminate ops k0 k1 = .ok cx') : Bounded cx' := by
  obtain ⟨hv, _, _, _, hd⟩ := eliminate_verts ops cx cx' k0 k1 h
  intro k hk
  rw [hv] at hk
  obtain ⟨v, hv', rfl⟩ := List.mem_map.1 hk
  rw [hd]
  exact hb _ (List.mem_map.2 ⟨v, (List.mem_filter.1 hv').1, rfl⟩)

theorem bounded_deloop (ops : EdgeOps E) (cx cx' : Cx E) (k : TKey) (r : Nat) (upd : List TKey) (hb : Bounded cx)
    (h : cx.deloop ops k r = .ok (upd, cx')) : Bounded cx' := by
  obtain ⟨t, c, ht, hc, _⟩ := deloop_ok ops cx cx' k r upd h
  obtain ⟨hk, _, _, _, hd, hkeys⟩ := deloop_verts ops cx cx' k r upd t c ht hc h
  intro x hx
  rw [hkeys] at hx
  rw [hd]
  rcases List.mem_append.1 hx with hx | hx
  · obtain ⟨y, hy, rfl⟩ := List.mem_map.1 hx
    rw [renameFn_weight k _ y (weight_push k .X)]
    exact hb y hy
  · split at hx
    · cases hx
    · rw [List.mem_singleton.1 hx]
      exact hb k hk

theorem bounded_makeX (ops : EdgeOps E) (mkSdl : CobComp → E) (ct : KhRef.CT) (e : Array Nat) (x : Cx E)
    (h : makeX ops mkSdl ct e = .ok x) : Bounded x ∧ x.base = none := by
  rcases makeX_cases ops mkSdl ct e x h with ⟨t, rfl⟩ | ⟨t0, t1, f, _, rfl⟩
  · refine ⟨?_, rfl⟩
    intro k hk
    simp at hk
    subst hk
    show TKey.init.weight ≤ 0
    decide
  · refine ⟨?_, rfl⟩
    intro k hk
    simp at hk
    rcases hk with rfl | rfl
    · show (⟨[false], []⟩ : TKey).weight ≤ 1
      decide
    · show (⟨[true], []⟩ : TKey).weight ≤ 1
      decide

section values
variable {A : Type} [Ring A]

theorem ddV_makeX (val : E → A) (ops : EdgeOps E) (mkSdl : CobComp → E) (ct : KhRef.CT) (e : Array Nat) (x : Cx E)
    (h : makeX ops mkSdl ct e = .ok x) : DDV val x := by
  rcases makeX_cases ops mkSdl ct e x h with ⟨t, rfl⟩ | ⟨t0, t1, f, _, rfl⟩
  · intro k m
    unfold ddAtV entV Cx.edge?
    simp
  · intro k m
    unfold ddAtV
    apply Finset.sum_eq_zero
    intro l _
    unfold entV Cx.edge?
    simp only [List.lookup_cons, List.lookup_nil]
    by_cases h1 : ((l, m) == ((⟨[false], []⟩ : TKey), (⟨[true], []⟩ : TKey))) = true
    · have hl : l = ⟨[false], []⟩ := by simp at h1; exact h1.1
      have h2 : ((k, l) == ((⟨[false], []⟩ : TKey), (⟨[true], []⟩ : TKey))) = false := by
        rw [hl]; simp
      simp [h2]
    · have h1' : ((l, m) == ((⟨[false], []⟩ : TKey), (⟨[true], []⟩ : TKey))) = false := by simpa using h1
      simp [h1']

theorem goodV_connect (val : E → A) (ops : EdgeOps E) (base obase : Option Nat) (tl tr : A → Tng → A)
    (hL : ValLaws val ops base tl tr) (cx o cx' : Cx E)
    (hg : GoodV val ops base cx) (ho : GoodV val ops obase o) (hb : base.or obase = base)
    (h : cx.connect ops o = .ok cx') : GoodV val ops base cx' := by
  refine ⟨?_, wf_connect ops cx o cx' hg.wf ho.wf h, bounded_connect ops cx o cx' hg.bd ho.bd h,
    connect_ddV val ops tl tr hL.tensor cx o cx' hg.wf ho.wf hg.bd ho.bd
      (fun k k' l l' f g _ _ => hL.inter f g _ _ _ _) hg.dd ho.dd h⟩
  rw [(connect_inv ops cx o cx' h).base, hg.base, ho.base, hb]

theorem goodV_step (val : E → A) (ops : EdgeOps E) (mkSdl : CobComp → E) (base : Option Nat) (tl tr : A → Tng → A)
    (hL : ValLaws val ops base tl tr) (cx cx' : Cx E) (st : Step E) (hg : GoodV val ops base cx)
    (hcon : ∀ o, st = .con o → ∃ obase, GoodV val ops obase o ∧ base.or obase = base)
    (h : applyStep ops mkSdl cx st = .ok cx') : GoodV val ops base cx' := by
  cases st with
  | app ct e =>
    obtain ⟨x, hx, hc⟩ := appendX_ok ops mkSdl cx cx' ct e h
    obtain ⟨bx, bbase⟩ := bounded_makeX ops mkSdl ct e x hx
    exact goodV_connect val ops base none tl tr hL cx x cx' hg
      ⟨bbase, wf_makeX ops mkSdl ct e x hx, bx, ddV_makeX val ops mkSdl ct e x hx⟩ (by cases base <;> rfl) hc
  | dl k r =>
    obtain ⟨upd, hd⟩ := deloop_discard_ok ops cx cx' k r h
    obtain ⟨t, c, ht, hc, _, _⟩ := deloop_factors ops cx _ k r upd hd
    have hct : c ∈ t := List.mem_of_getElem? hc
    obtain ⟨cap, cup, ho, hi⟩ := hL.deloop cx k t c hg.wf hg.base ht hct
    exact ⟨(deloop_verts ops cx _ k r upd t c ht hc hd).base.trans hg.base, wf_deloop ops cx _ k r upd hg.wf hd,
      bounded_deloop ops cx _ k r upd hg.bd hd,
      deloop_ddV val ops cx _ k r upd t c cap cup hg.wf ht hc ho hi hg.dd hd⟩
  | el k0 k1 =>
    simp only [applyStep] at h
    exact ⟨((eliminate_verts ops cx cx' k0 k1 h).2.2.2.1).trans hg.base, wf_eliminate ops cx cx' k0 k1 hg.wf h,
      bounded_eliminate ops cx cx' k0 k1 hg.bd h,
      eliminate_ddV val ops hL.edge cx cx' k0 k1 hg.wf (fun a ainv ha hi => hL.unit cx k0 k1 a ainv hg.wf ha hi) hg.dd h⟩
  | con o =>
    simp only [applyStep] at h
    obtain ⟨obase, ho, hb⟩ := hcon o rfl
    exact goodV_connect val ops base obase tl tr hL cx o cx' hg ho hb h

theorem goodV_init (val : E → A) (ops : EdgeOps E) (dh dq : Int) (base : Option Nat) :
    GoodV val ops base (Cx.init dh dq base : Cx E) := by
  refine ⟨rfl, wf_init ops dh dq base, ?_, ?_⟩
  · intro k hk
    simp [Cx.init] at hk
    subst hk
    show TKey.init.weight ≤ 0
    decide
  · intro k m
    unfold ddAtV entV Cx.edge?
    simp [Cx.init]

theorem script_ddV (val : E → A) (ops : EdgeOps E) (mkSdl : CobComp → E) (base : Option Nat) (tl tr : A → Tng → A)
    (hL : ValLaws val ops base tl tr) (steps : List (Step E)) (cx cx' : Cx E) (hg : GoodV val ops base cx)
    (hcon : ∀ o, Step.con o ∈ steps → ∃ obase, GoodV val ops obase o ∧ base.or obase = base)
    (h : runScript ops mkSdl steps cx = .ok cx') : GoodV val ops base cx' := by
  unfold runScript at h
  refine foldRes_inv (GoodV val ops base) ?_ hg h
  intro b st b' hst hb hstep
  exact goodV_step val ops mkSdl base tl tr hL b b' st hb (fun o ho => hcon o (ho ▸ hst)) hstep

end values

structure Good [Ring E] (ops : EdgeOps E) (base : Option Nat) (cx : Cx E) : Prop where
  base : cx.base = base
  wf : WF ops cx
  bd : Bounded cx
  dd : DD cx

theorem Good.toV [Ring E] {ops : EdgeOps E} {base : Option Nat} {cx : Cx E} :
    Good ops base cx ↔ GoodV id ops base cx :=
  ⟨fun h => ⟨h.base, h.wf, h.bd, (DDV_id cx).2 h.dd⟩, fun h => ⟨h.base, h.wf, h.bd, (DDV_id cx).1 h.dd⟩⟩

theorem valLaws_id [Ring E] (ops : EdgeOps E) (tl tr : E → Tng → E) (hE : RingEdgeOps ops)
    (hT : RingTensorOps ops tl tr) (hX : ∀ f g v v' w w', tr g v' * tl f w = tl f w' * tr g v) (base : Option Nat)
    (hdl : ∀ c : Path, ∃ cap cup : Dot → E, RingDeloopOps ops c cap cup ∧
      (if (match base with | some e => c.contains e | none => false) = true then cup .X * cap .none = 1
       else cup .X * cap .none + cup .none * cap .Y = 1)) : ValLaws id ops base tl tr where
  edge := hE.toVal
  tensor := hT.toVal
  inter f g := hX f g
  unit cx k0 k1 a ainv _ _ hi := by
    obtain ⟨h1, h2⟩ := hE.inv a ainv hi
    simp only [id, h1, h2, mul_one, one_mul, implies_true, and_self]
  deloop cx k t c _ hb _ _ := by
    obtain ⟨cap, cup, ho, hi⟩ := hdl c
    exact ⟨cap, cup, ho.toVal, deloop_iso_local cx k c cap cup (ite_containsBase_of_base cx base c hb hi)⟩

end Yuiv.C05.Engine
