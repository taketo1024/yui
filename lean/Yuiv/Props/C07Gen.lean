import Yuiv.Proofs.C07Gen
/-
C07 — the hand-written code model of `HomologyCalc::{calculate, trivial_result, process_snf, result, trans}`
(`Yuiv/Model/C07Calc.lean`, which the C07 driver runs against the real code and whose outputs `Props/C07*.lean` speak
about) IS the source text of `/repo/yui-homology/src/utils/homology_calc.rs`.

`Yuiv.GenHomCalc.*` (file `Yuiv/Gen/HomCalcFn.lean`) is regenerated from the Rust source by
`tools/rs2lean_fn.py fn:homcalc` on every `./check` run (`R := Int`, the SNF routine an argument `snf : SnfFn`, exactly
as in the model).  Each theorem states, for EVERY `snf` and all inputs, that a generated definition equals the model's
function — including every panic (`assert!`, `assert_eq!`, `unwrap()`, the range checks of `submat_*`, the shape checks
of `*`, `stack`, `concat`, `Trans::new`, and `usize` underflow) and an `err` of the SNF routine.
-/
namespace Yuiv.C07Gen
open Yuiv Res Yuiv.Rust Yuiv.GenHomCalc Yuiv.C07

/-- `trivial_result(rank, with_trans)` is the first branch of the model's `calculate` -/
theorem gen_trivial_result_eq (rank : Nat) (withTrans : Bool) :
    HomologyCalc.trivial_result rank withTrans = (rank, [], if withTrans then some (Trans.id rank) else none) := rfl

theorem gen_process_snf_eq (snf : SnfFn) (d1 d2 : Mat) (withTrans : Bool) :
    HomologyCalc.process_snf snf d1 d2 withTrans = processSnf snf d1 d2 withTrans := by
  unfold HomologyCalc.process_snf processSnf
  simp only [HMat.nrows, HMat.into_dense, HMat.into_sparse, HSnf.rank, HSnf.pinv, HMat.submat_cols, HMat.mul,
    unwrap_eq, pure_eq_ok]
  refine bind_congr (fun s1 => ?_)
  by_cases h : s1.rank > 0
  · simp only [h, decide_true, if_true, bind_assoc, bind_ok]
  · simp only [h, decide_false, if_false, Bool.false_eq_true, bind_ok]

theorem gen_result_eq (s1 s2 : Snf) : HomologyCalc.result s1 s2 = calcResult s1 s2 := by
  unfold HomologyCalc.result calcResult
  simp only [HMat.nrows, HSnf.result, HSnf.rank, HSnf.factors, tors_eq, pure_eq_ok]
  by_cases h : s1.result.r ≥ s1.rank + s2.rank
  · have h1 : s1.rank ≤ s1.result.r := by omega
    have h2 : s2.rank ≤ s1.result.r - s1.rank := by omega
    simp [h, assert_true, U64.sub, h1, h2]
  · simp [h, assert_false]

theorem gen_trans_eq (s1 s2 : Snf) : HomologyCalc.trans s1 s2 = calcTrans s1 s2 := by
  unfold HomologyCalc.trans calcTrans
  simp only [HMat.nrows, HMat.into_sparse, HMat.shape, HSnf.result, HSnf.rank, HSnf.factors, HSnf.p, HSnf.pinv, HSnf.q,
    HSnf.qinv, HMat.submat_rows, HMat.submat_cols, HMat.mul, HMat.stack, HMat.concat, HTrans.new, unwrap_eq, sub_eq,
    tcount_eq, bind_assoc]
  refine bind_congr (fun a => ?_)
  refine bind_congr (fun r => ?_)
  refine bind_congr (fun p1 => ?_)
  refine bind_congr (fun p11 => ?_)
  refine bind_congr (fun p2 => ?_)
  refine bind_congr_eq _ (fun nr1 hnr1 => ?_)
  refine bind_congr (fun p22 => ?_)
  refine bind_congr (fun pFree => ?_)
  refine bind_congr_eq _ (fun lo hlo => ?_)
  refine bind_congr (fun pTor => ?_)
  refine bind_congr (fun p => ?_)
  rw [pair_beq]
  refine bind_congr (fun _ => ?_)
  refine bind_congr (fun q1 => ?_)
  refine bind_congr (fun q12 => ?_)
  refine bind_congr (fun q2 => ?_)
  rw [hnr1, hlo]
  simp only [bind_ok, pair_beq]

theorem gen_calculate_eq (snf : SnfFn) (d1 d2 : Mat) (withTrans : Bool) :
    HomologyCalc.calculate snf d1 d2 withTrans = calculate snf d1 d2 withTrans := by
  unfold HomologyCalc.calculate calculate
  simp only [HMat.nrows, HMat.ncols, HMat.is_zero, gen_process_snf_eq, gen_result_eq, gen_trans_eq,
    gen_trivial_result_eq, pure_eq_ok]
  refine bind_congr (fun _ => ?_)
  by_cases hz : (d1.isZero && d2.isZero) = true
  · simp only [hz, if_true]
  · simp only [hz]
    refine bind_congr (fun s => ?_)
    refine bind_congr (fun rt => ?_)
    cases withTrans
    · rfl
    · simp only [if_true, bind_assoc, bind_ok]

end Yuiv.C07Gen
