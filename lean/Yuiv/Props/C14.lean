import Yuiv.Proofs.C14Q
/-
C14 — scalar types are exact commutative rings with canonical representatives.

* `Ratio` (model of `Ratio<T>` over unbounded integers, `gcd`/`lcm` = `Int.gcd`/`Int.lcm`):
  `Canon r := 0 < r.den ∧ gcd r.num r.den = 1` is established by `new` and preserved by every
  branch of `+= -= *= /= neg inv`; the value of each result is the rational result (stated as a
  cross-multiplication identity over ℤ, no division involved); canonical values are structurally
  equal iff they denote the same rational; the Euclid-style `Ord::cmp` loop terminates within
  `|den| + 1` rounds and is `compare (a.num * b.den) (b.num * a.den)`, a total order consistent with `=`.
* `FF<p>`: representatives in `[0, p)`, operations are arithmetic mod `p`, no `i32` overflow for `p ≤ 46340`.
* `FF2`: ring homomorphism from ℤ (parity).
* `QuadInt<I, D>`: the product (all three branches) is the product of ℤ[ω]/(ω² = e + fω); the pair
  arithmetic satisfies the commutative-ring identities; the norm is multiplicative; `conj` is an involution.
-/
namespace Yuiv.C14
open Yuiv Res

/-! ## Ratio: canonical form is established and preserved; values are exact -/

/-- `Ratio::new(n, d)` for `d ≠ 0` returns the canonical representative of `n/d` -/
theorem ratio_new_spec (n d : Int) (hd : d ≠ 0) :
    ∃ c, Ratio.new n d = ok c ∧ Canon c ∧ c.num * d = n * c.den := new_spec n d hd
example : d = (-8 : Int) → d ≠ 0 := by intro h; omega

/-- `Ratio::new(n, 0)` panics (`assert!(!denom.is_zero())`) -/
theorem ratio_new_reject (n : Int) : Ratio.new n 0 = panic := by simp [Ratio.new, Res.assert]

/-- `Ratio::from(a)`, `zero()`, `one()` are canonical -/
theorem ratio_fromInt_canon (a : Int) : Canon (Ratio.fromInt a) := by
  simp [Canon, Ratio.fromInt]

/-- `a += b` (all four branches): canonical, and `= a + b` in ℚ -/
theorem ratio_add_spec (a b : Ratio) (ha : Canon a) (hb : Canon b) :
    ∃ c, Ratio.add a b = ok c ∧ Canon c ∧
      c.num * (a.den * b.den) = (a.num * b.den + b.num * a.den) * c.den :=
  addSub_spec false a b ha hb
example : Canon ⟨-3, 4⟩ ∧ Canon ⟨5, 6⟩ := by unfold Canon; decide

/-- `a -= b` (all four branches): canonical, and `= a − b` in ℚ -/
theorem ratio_sub_spec (a b : Ratio) (ha : Canon a) (hb : Canon b) :
    ∃ c, Ratio.sub a b = ok c ∧ Canon c ∧
      c.num * (a.den * b.den) = (a.num * b.den - b.num * a.den) * c.den :=
  addSub_spec true a b ha hb

/-- `-a`: canonical, and `= −a` in ℚ -/
theorem ratio_neg_spec (a : Ratio) (ha : Canon a) :
    ∃ c, Ratio.neg a = ok c ∧ Canon c ∧ c.num * a.den = -a.num * c.den := neg_spec a ha

/-- `a *= b` (all five branches): canonical, and `= a · b` in ℚ -/
theorem ratio_mul_spec (a b : Ratio) (ha : Canon a) (hb : Canon b) :
    ∃ c, Ratio.mul a b = ok c ∧ Canon c ∧ c.num * (a.den * b.den) = (a.num * b.num) * c.den :=
  mul_spec a b ha hb

/-- `a.inv()` for `a ≠ 0`: canonical, and `= 1/a` in ℚ (needs no hypothesis on the form of `a`) -/
theorem ratio_inv_spec (a : Ratio) (hn : a.num ≠ 0) :
    ∃ c, Ratio.inv a = ok (some c) ∧ Canon c ∧ c.num * a.num = a.den * c.den := inv_spec a hn
example : (⟨-3, 4⟩ : Ratio).num ≠ 0 := by decide

theorem ratio_inv_zero (a : Ratio) (hn : a.num = 0) : Ratio.inv a = ok none := inv_zero a hn

/-- `a /= b` for `b ≠ 0`: canonical, and `= a / b` in ℚ -/
theorem ratio_div_spec (a b : Ratio) (ha : Canon a) (hn : b.num ≠ 0) :
    ∃ c, Ratio.div a b = ok c ∧ Canon c ∧ c.num * (a.den * b.num) = (a.num * b.den) * c.den :=
  div_spec a b ha hn

/-- `a /= 0` panics -/
theorem ratio_div_reject (a b : Ratio) (hn : b.num = 0) : Ratio.div a b = panic := div_zero a b hn

/-- derived structural `==` on canonical values is equality in ℚ -/
theorem ratio_eq_iff_same_value (a b : Ratio) (ha : Canon a) (hb : Canon b) :
    a = b ↔ a.num * b.den = b.num * a.den := canon_eq_iff a b ha hb

/-- `is_zero` (`numer == 0`) and `is_one` (`numer == denom`) are right on canonical values -/
theorem ratio_isZero_iff (a : Ratio) (ha : Canon a) : a.isZero = true ↔ a = Ratio.zero := by
  show a.isZero = true ↔ a = Ratio.fromInt 0
  rw [canon_eq_iff a _ ha (ratio_fromInt_canon 0)]
  simp [Ratio.isZero, Ratio.fromInt]
theorem ratio_isOne_iff (a : Ratio) (ha : Canon a) : a.isOne = true ↔ a = Ratio.one := by
  show a.isOne = true ↔ a = Ratio.fromInt 1
  rw [canon_eq_iff a _ ha (ratio_fromInt_canon 1)]
  simp [Ratio.isOne, Ratio.fromInt]

/-- the loop of `Ord::cmp` terminates (fuel `|b.den| + 1` is never exhausted) and returns the comparison of
the cross products, i.e. the order of ℚ, for ALL values with positive denominators -/
theorem ratio_cmp_spec (a b : Ratio) (ha : 0 < a.den) (hb : 0 < b.den) :
    Ratio.cmp a b = ok (compare (a.num * b.den) (b.num * a.den)) := by
  unfold Ratio.cmp
  rw [cmpLoop_spec _ _ _ _ _ _ ha hb (by omega)]
  rfl

/-- more fuel never changes the answer: the loop needs at most `den` rounds -/
theorem ratio_cmpLoop_fuel_irrelevant (fuel : Nat) (a b : Ratio) (ha : 0 < a.den) (hb : 0 < b.den)
    (hf : a.den.toNat < fuel) :
    Ratio.cmpLoop fuel a.num a.den b.num b.den false = Ratio.cmp a b := by
  rw [ratio_cmp_spec a b ha hb, cmpLoop_spec _ _ _ _ _ _ ha hb hf]
  rfl

/-- `cmp == Equal` exactly when `==` -/
theorem ratio_cmp_eq_iff_eq (a b : Ratio) (ha : Canon a) (hb : Canon b) :
    Ratio.cmp a b = ok .eq ↔ a = b := by
  rw [ratio_cmp_spec a b ha.1 hb.1, canon_eq_iff a b ha hb]
  simp

/-- `cmp b a` is the reverse of `cmp a b` -/
theorem ratio_cmp_antisymm (a b : Ratio) (ha : 0 < a.den) (hb : 0 < b.den) :
    ∃ o, Ratio.cmp a b = ok o ∧ Ratio.cmp b a = ok o.swap := by
  refine ⟨_, ratio_cmp_spec a b ha hb, ?_⟩
  rw [ratio_cmp_spec b a hb ha, ← icmp_eq_compare, ← icmp_eq_compare, icmp_swap]

/-- `<` is transitive -/
theorem ratio_cmp_lt_trans (a b c : Ratio) (ha : 0 < a.den) (hb : 0 < b.den) (hc : 0 < c.den)
    (h1 : Ratio.cmp a b = ok .lt) (h2 : Ratio.cmp b c = ok .lt) : Ratio.cmp a c = ok .lt := by
  rw [ratio_cmp_spec _ _ ha hb] at h1
  rw [ratio_cmp_spec _ _ hb hc] at h2
  rw [ratio_cmp_spec _ _ ha hc]
  simp only [ok.injEq, Int.compare_eq_lt] at h1 h2 ⊢
  -- the cross-product test is the order of ℚ
  exact (toRat_lt_iff a c ha hc).1
    (lt_trans ((toRat_lt_iff a b ha hb).2 h1) ((toRat_lt_iff b c hb hc).2 h2))
example : Ratio.cmp ⟨1, 3⟩ ⟨1, 2⟩ = ok .lt ∧ Ratio.cmp ⟨1, 2⟩ ⟨9007199254740993, 9007199254740992⟩ = ok .lt := by
  decide

/-- the order is total and decided by `cmp`: exactly one of `<`, `=`, `>` -/
theorem ratio_cmp_total (a b : Ratio) (ha : Canon a) (hb : Canon b) :
    (Ratio.cmp a b = ok .lt ∧ a ≠ b) ∨ (Ratio.cmp a b = ok .eq ∧ a = b) ∨ (Ratio.cmp a b = ok .gt ∧ a ≠ b) := by
  have he := ratio_cmp_eq_iff_eq a b ha hb
  rw [ratio_cmp_spec a b ha.1 hb.1] at he ⊢
  cases h : compare (a.num * b.den) (b.num * a.den) with
  | lt => left; exact ⟨rfl, fun e => by have := he.2 e; rw [h] at this; cases this⟩
  | eq => right; left; exact ⟨rfl, he.1 (by rw [h])⟩
  | gt => right; right; exact ⟨rfl, fun e => by have := he.2 e; rw [h] at this; cases this⟩

/-- the defect fixed by F3 (comparison through `f64`) is absent: beyond 2^53 the order is still exact -/
theorem ratio_cmp_beyond_f64 :
    Ratio.cmp ⟨9007199254740993, 1⟩ ⟨9007199254740992, 1⟩ = ok .gt := by decide

/-! ## Ratio: the same statements in Mathlib's ℚ (`toRat r = r.num / r.den`) -/

/-- `toRat` is injective on canonical values: `==` (structural) iff same rational number -/
theorem ratio_eq_iff_toRat (a b : Ratio) (ha : Canon a) (hb : Canon b) : a = b ↔ toRat a = toRat b := by
  rw [canon_eq_iff a b ha hb, toRat_eq_iff a b ha.1 hb.1]

theorem ratio_new_toRat (n d : Int) (hd : d ≠ 0) :
    ∃ c, Ratio.new n d = ok c ∧ Canon c ∧ toRat c = (n : ℚ) / (d : ℚ) := by
  obtain ⟨c, h1, h2, h3⟩ := new_spec n d hd
  exact ⟨c, h1, h2, toRat_eq_of_cross h2.1.ne' hd h3⟩

theorem ratio_fromInt_toRat (a : Int) : toRat (Ratio.fromInt a) = (a : ℚ) := by
  simp [toRat, Ratio.fromInt]

theorem ratio_add_toRat (a b : Ratio) (ha : Canon a) (hb : Canon b) :
    ∃ c, Ratio.add a b = ok c ∧ Canon c ∧ toRat c = toRat a + toRat b := add_q a b ha hb

theorem ratio_sub_toRat (a b : Ratio) (ha : Canon a) (hb : Canon b) :
    ∃ c, Ratio.sub a b = ok c ∧ Canon c ∧ toRat c = toRat a - toRat b := sub_q a b ha hb

theorem ratio_mul_toRat (a b : Ratio) (ha : Canon a) (hb : Canon b) :
    ∃ c, Ratio.mul a b = ok c ∧ Canon c ∧ toRat c = toRat a * toRat b := mul_q a b ha hb

theorem ratio_neg_toRat (a : Ratio) (ha : Canon a) :
    ∃ c, Ratio.neg a = ok c ∧ Canon c ∧ toRat c = -toRat a := neg_q a ha

theorem ratio_inv_toRat (a : Ratio) (hn : a.num ≠ 0) :
    ∃ c, Ratio.inv a = ok (some c) ∧ Canon c ∧ toRat c = (toRat a)⁻¹ := inv_q a hn

theorem ratio_div_toRat (a b : Ratio) (ha : Canon a) (hn : b.num ≠ 0) :
    ∃ c, Ratio.div a b = ok c ∧ Canon c ∧ toRat c = toRat a / toRat b := div_q a b ha hn

/-- `Ord::cmp` is the order of ℚ -/
theorem ratio_cmp_toRat (a b : Ratio) (ha : 0 < a.den) (hb : 0 < b.den) :
    Ratio.cmp a b = ok (compare (toRat a) (toRat b)) := by
  rw [ratio_cmp_spec a b ha hb, compare_toRat a b ha hb]

/-- every value reachable from canonical inputs by a finite sequence of `+ − · / neg inv` steps is canonical and
denotes the rational number obtained by evaluating the same steps in ℚ (induction over the history) -/
theorem ratio_history (steps : List HStep) (a : Ratio) (ha : Canon a) (c : Ratio)
    (h : runHistory a steps = ok c) : Canon c ∧ toRat c = evalHistory (toRat a) steps := by
  induction steps generalizing a with
  | nil => simp only [runHistory, ok.injEq] at h; subst h; exact ⟨ha, rfl⟩
  | cons s ss ih =>
    rw [runHistory] at h
    cases hs : runStep a s with
    | ok b =>
      rw [hs] at h
      obtain ⟨hb2, hb3⟩ := step_spec s a b ha hs
      obtain ⟨k1, k2⟩ := ih b hb2 h
      exact ⟨k1, by rw [k2, evalHistory, hb3]⟩
    | panic => rw [hs] at h; cases h
    | err => rw [hs] at h; cases h
example : runHistory ⟨1, 2⟩ [.add ⟨3, 5⟩ (by unfold Canon; decide), .neg, .inv, .rdiv ⟨5, 1⟩ (by unfold Canon; decide)]
    = ok ⟨-11, 2⟩ := by decide

/-- consequently two histories end in `==` values exactly when they evaluate to the same rational number -/
theorem ratio_history_eq_iff (s1 s2 : List HStep) (a1 a2 c1 c2 : Ratio) (h1 : Canon a1) (h2 : Canon a2)
    (r1 : runHistory a1 s1 = ok c1) (r2 : runHistory a2 s2 = ok c2) :
    c1 = c2 ↔ evalHistory (toRat a1) s1 = evalHistory (toRat a2) s2 := by
  obtain ⟨k1, e1⟩ := ratio_history s1 a1 h1 c1 r1
  obtain ⟨k2, e2⟩ := ratio_history s2 a2 h2 c2 r2
  rw [← e1, ← e2, canon_eq_iff c1 c2 k1 k2, toRat_eq_iff c1 c2 k1.1 k2.1]

/-- `FF::new` stores `a mod p`, always in `[0, p)` -/
theorem ff_new_spec (p a : Int) (hp : 0 < p) :
    FF.new p a = ok (a % p) ∧ 0 ≤ a % p ∧ a % p < p :=
  ⟨ff_new_ok p a hp, (emod_range p a hp).1, (emod_range p a hp).2⟩

/-- `+ − · neg` on representatives are arithmetic mod `p`: `ℤ → FF<p>` is a ring homomorphism, and no
`i32` overflow occurs for `p ≤ 46340` -/
theorem ff_add_hom (p x y : Int) (hp0 : 0 < p) (hp : p ≤ 46340) :
    FF.add p (x % p) (y % p) = ok ((x + y) % p) := by
  rw [ff_add_ok hp0 hp (emod_range p x hp0) (emod_range p y hp0), Int.add_emod x y p]
example : (0 : Int) < 7 ∧ (7 : Int) ≤ 46340 := by decide
theorem ff_sub_hom (p x y : Int) (hp0 : 0 < p) (hp : p ≤ 46340) :
    FF.sub p (x % p) (y % p) = ok ((x - y) % p) := by
  rw [ff_sub_ok hp0 hp (emod_range p x hp0) (emod_range p y hp0), Int.sub_emod x y p]
theorem ff_mul_hom (p x y : Int) (hp0 : 0 < p) (hp : p ≤ 46340) :
    FF.mul p (x % p) (y % p) = ok ((x * y) % p) := by
  rw [ff_mul_ok hp0 hp (emod_range p x hp0) (emod_range p y hp0), Int.mul_emod x y p]
theorem ff_neg_hom (p x : Int) (hp0 : 0 < p) (hp : p ≤ 46340) :
    FF.neg p (x % p) = ok ((-x) % p) := by
  rw [ff_neg_ok hp0 hp (emod_range p x hp0)]
  have h := Int.sub_emod 0 x p
  simp only [Int.zero_emod, Int.zero_sub] at h
  rw [h]

/-- the results stay in `[0, p)` (closure of the representation invariant) -/
theorem ff_ops_range (p a b : Int) (hp0 : 0 < p) (hp : p ≤ 46340) (ha : 0 ≤ a ∧ a < p) (hb : 0 ≤ b ∧ b < p) :
    (∃ c, FF.add p a b = ok c ∧ 0 ≤ c ∧ c < p) ∧ (∃ c, FF.sub p a b = ok c ∧ 0 ≤ c ∧ c < p) ∧
    (∃ c, FF.mul p a b = ok c ∧ 0 ≤ c ∧ c < p) ∧ (∃ c, FF.neg p a = ok c ∧ 0 ≤ c ∧ c < p) :=
  ⟨⟨_, ff_add_ok hp0 hp ha hb, emod_range p _ hp0⟩, ⟨_, ff_sub_ok hp0 hp ha hb, emod_range p _ hp0⟩,
   ⟨_, ff_mul_ok hp0 hp ha hb, emod_range p _ hp0⟩, ⟨_, ff_neg_ok hp0 hp ha, emod_range p _ hp0⟩⟩

/-- derived `==` on representatives is congruence mod `p` -/
theorem ff_eq_iff_congr (p x y : Int) : x % p = y % p ↔ p ∣ (x - y) := by
  rw [Int.emod_eq_emod_iff_emod_sub_eq_zero]
  exact ⟨Int.dvd_of_emod_eq_zero, Int.emod_eq_zero_of_dvd⟩

/-- whatever `inv` returns is the inverse mod `p`, in range (Bezout invariant of num-integer's `extended_gcd`) -/
theorem ff_inv_sound (p a x : Int) (h : FF.inv p a = ok (some x)) :
    0 ≤ x ∧ x < p ∧ (a * x) % p = 1 % p := ff_inv_spec p a x h
example : FF.inv 7 3 = ok (some 5) := by decide

/-- for the field sizes the repository instantiates in its tests every non-zero representative is inverted -/
theorem ff_inv_total_small : ∀ p ∈ [2, 3, 5, 7], ∀ a ∈ List.range (p - 1),
    invDefined (p : Nat) ((a : Nat) + 1) = true := by decide

theorem ff2_add_hom (a b : Int) : FF2.ofInt (a + b) = FF2.add (FF2.ofInt a) (FF2.ofInt b) := by
  unfold FF2.ofInt FF2.add
  rcases Int.emod_two_eq_zero_or_one a with h1 | h1 <;> rcases Int.emod_two_eq_zero_or_one b with h2 | h2 <;>
    simp [h1, h2, Int.add_emod]
theorem ff2_sub_hom (a b : Int) : FF2.ofInt (a - b) = FF2.sub (FF2.ofInt a) (FF2.ofInt b) := by
  have : (a - b) % 2 = (a + b) % 2 := by omega
  unfold FF2.sub; rw [← ff2_add_hom]; unfold FF2.ofInt; rw [this]
theorem ff2_mul_hom (a b : Int) : FF2.ofInt (a * b) = FF2.mul (FF2.ofInt a) (FF2.ofInt b) := by
  unfold FF2.ofInt FF2.mul
  rcases Int.emod_two_eq_zero_or_one a with h1 | h1 <;> rcases Int.emod_two_eq_zero_or_one b with h2 | h2 <;>
    simp [h1, h2, Int.mul_emod]
theorem ff2_neg_hom (a : Int) : FF2.ofInt (-a) = FF2.neg (FF2.ofInt a) := by
  unfold FF2.ofInt FF2.neg
  have : (-a) % 2 = a % 2 := by omega
  rw [this]
theorem ff2_eq_iff_congr (a b : Int) : FF2.ofInt a = FF2.ofInt b ↔ a % 2 = b % 2 := by
  unfold FF2.ofInt
  rcases Int.emod_two_eq_zero_or_one a with h1 | h1 <;> rcases Int.emod_two_eq_zero_or_one b with h2 | h2 <;>
    simp [h1, h2]
theorem ff2_zero_one : FF2.isZero (FF2.ofInt 0) = true ∧ FF2.isOne (FF2.ofInt 1) = true := by decide
/-- the commutative-ring identities on the representation itself -/
theorem ff2_ring_axioms : ∀ a b c : Bool,
    FF2.add a b = FF2.add b a ∧ FF2.mul a b = FF2.mul b a ∧
    FF2.add (FF2.add a b) c = FF2.add a (FF2.add b c) ∧ FF2.mul (FF2.mul a b) c = FF2.mul a (FF2.mul b c) ∧
    FF2.mul a (FF2.add b c) = FF2.add (FF2.mul a b) (FF2.mul a c) ∧
    FF2.add a (FF2.neg a) = false ∧ FF2.mul a true = a ∧ FF2.add a false = a ∧ FF2.sub a b = FF2.add a (FF2.neg b) := by
  decide

/-- `GaussInt` product (incl. both shortcut branches) is the product of ℤ[i], `i² = −1` -/
theorem quad_mul_gauss (x y : QI) : QI.mul (-1) x y = ok (mulF (-1) 0 x y) :=
  qi_mul_D23 (-1) (Or.inr (by decide)) x y
/-- `EisenInt` product (incl. both shortcut branches) is the product of ℤ[ω], `ω² = −1 + ω` -/
theorem quad_mul_eisen (x y : QI) : QI.mul (-3) x y = ok (mulF (-1) 1 x y) := by
  have h := qi_mul_D1 (-1) x y
  simpa using h
/-- general `D = 4k + 1`: `ω² = k + ω` -/
theorem quad_mul_D1 (k : Int) (x y : QI) : QI.mul (4 * k + 1) x y = ok (mulF k 1 x y) := qi_mul_D1 k x y
/-- general `D ≡ 2, 3 (mod 4)`: `ω² = D` -/
theorem quad_mul_D23 (D : Int) (hD : D % 4 = 2 ∨ D % 4 = 3) (x y : QI) :
    QI.mul D x y = ok (mulF D 0 x y) := qi_mul_D23 D hD x y
example : (-1 : Int) % 4 = 2 ∨ (-1 : Int) % 4 = 3 := by decide
/-- `D ≡ 0 (mod 4)` cannot be constructed; any other `D` stores the pair as given -/
theorem quad_new_spec (D a b : Int) :
    (D % 4 = 0 → QI.new D a b = panic) ∧ (D % 4 ≠ 0 → QI.new D a b = ok ⟨a, b⟩) :=
  ⟨fun hD => by
    have : D.tmod 4 = 0 := Int.tmod_eq_zero_of_dvd (Int.dvd_of_emod_eq_zero hD)
    simp [QI.new, Res.assert, this],
   fun hD => by
    have : D.tmod 4 ≠ 0 := fun h => hD (Int.emod_eq_zero_of_dvd (Int.dvd_of_tmod_eq_zero h))
    simp [QI.new, Res.assert, this]⟩

/-- norm and conjugate of the code are those of ℤ[ω] -/
theorem quad_norm_conj_gauss (x : QI) :
    QI.norm (-1) x = ok (normF (-1) 0 x) ∧ QI.conj (-1) x = ok (conjF 0 x) :=
  ⟨qi_norm_D23 (-1) (Or.inr (by decide)) x, qi_conj_D23 (-1) (Or.inr (by decide)) x⟩
theorem quad_norm_conj_eisen (x : QI) :
    QI.norm (-3) x = ok (normF (-1) 1 x) ∧ QI.conj (-3) x = ok (conjF 1 x) := by
  have h1 := qi_norm_D1 (-1) x
  have h2 := qi_conj_D1 (-1) x
  exact ⟨by simpa using h1, by simpa using h2⟩
theorem quad_norm_conj_D1 (k : Int) (x : QI) :
    QI.norm (4 * k + 1) x = ok (normF k 1 x) ∧ QI.conj (4 * k + 1) x = ok (conjF 1 x) :=
  ⟨qi_norm_D1 k x, qi_conj_D1 k x⟩
theorem quad_norm_conj_D23 (D : Int) (hD : D % 4 = 2 ∨ D % 4 = 3) (x : QI) :
    QI.norm D x = ok (normF D 0 x) ∧ QI.conj D x = ok (conjF 0 x) :=
  ⟨qi_norm_D23 D hD x, qi_conj_D23 D hD x⟩

/-- the pair arithmetic is a commutative ring for every `ω² = e + fω` -/
theorem quad_ring_axioms (e f : Int) (x y z : QI) :
    QI.add x y = QI.add y x ∧ QI.add (QI.add x y) z = QI.add x (QI.add y z) ∧
    QI.add x QI.zero = x ∧ QI.add x (QI.neg x) = QI.zero ∧ QI.sub x y = QI.add x (QI.neg y) ∧
    mulF e f x y = mulF e f y x ∧ mulF e f (mulF e f x y) z = mulF e f x (mulF e f y z) ∧
    mulF e f x QI.one = x ∧ mulF e f x QI.zero = QI.zero ∧
    mulF e f x (QI.add y z) = QI.add (mulF e f x y) (mulF e f x z) ∧
    mulF e f (QI.add x y) z = QI.add (mulF e f x z) (mulF e f y z) ∧
    mulF e f QI.omega QI.omega = ⟨e, f⟩ :=
  ⟨qi_ext (by simp only [QI.add]; ring) (by simp only [QI.add]; ring),
   qi_ext (by simp only [QI.add]; ring) (by simp only [QI.add]; ring),
   qi_ext (by simp only [QI.add, QI.zero]; ring) (by simp only [QI.add, QI.zero]; ring),
   qi_ext (by simp only [QI.add, QI.neg, QI.zero]; ring) (by simp only [QI.add, QI.neg, QI.zero]; ring),
   qi_ext (by simp only [QI.add, QI.neg, QI.sub]; ring) (by simp only [QI.add, QI.neg, QI.sub]; ring),
   qi_ext (by simp only [mulF]; ring) (by simp only [mulF]; ring),
   qi_ext (by simp only [mulF]; ring) (by simp only [mulF]; ring),
   qi_ext (by simp only [mulF, QI.one]; ring) (by simp only [mulF, QI.one]; ring),
   qi_ext (by simp only [mulF, QI.zero]; ring) (by simp only [mulF, QI.zero]; ring),
   qi_ext (by simp only [mulF, QI.add]; ring) (by simp only [mulF, QI.add]; ring),
   qi_ext (by simp only [mulF, QI.add]; ring) (by simp only [mulF, QI.add]; ring),
   qi_ext (by simp only [mulF, QI.omega]; ring) (by simp only [mulF, QI.omega]; ring)⟩

/-- the norm is multiplicative; `conj` is a ring involution with `x · conj x = norm x` -/
theorem quad_norm_mul (e f : Int) (x y : QI) : normF e f (mulF e f x y) = normF e f x * normF e f y := by
  simp only [normF, mulF]; ring
theorem quad_conj_involutive (f : Int) (x : QI) : conjF f (conjF f x) = x :=
  qi_ext (by simp only [conjF]; ring) (by simp only [conjF]; ring)
theorem quad_mul_conj (e f : Int) (x : QI) : mulF e f x (conjF f x) = ⟨normF e f x, 0⟩ :=
  qi_ext (by simp only [mulF, conjF, normF]; ring) (by simp only [mulF, conjF]; ring)
theorem quad_conj_mul (e f : Int) (x y : QI) :
    conjF f (mulF e f x y) = mulF e f (conjF f x) (conjF f y) :=
  qi_ext (by simp only [mulF, conjF]; ring) (by simp only [mulF, conjF]; ring)

/-- zero / one tests and `==` are exact on pairs (the representation is unique) -/
theorem quad_zero_one_tests (x : QI) :
    (x.isZero = true ↔ x = QI.zero) ∧ (x.isOne = true ↔ x = QI.one) := by
  obtain ⟨a, b⟩ := x
  simp [QI.isZero, QI.isOne, QI.zero, QI.one]

end Yuiv.C14
