import Yuiv.Model.KhRef
import Yuiv.Proofs.C03Uct
/-
The Frobenius tables and the linear algebra behind the mirror rule.

(a) TABLE ADJOINTNESS.  `prodCoef h t x₁ x₂ y` / `coprodCoef h t x y₁ y₂` are the coefficients the tables
    `KhRef.prod` / `KhRef.coprod` assign (sum over the table rows with that target).  Under the pairing
    ⟨1, X⟩ = ⟨X, 1⟩ = 1, ⟨1, 1⟩ = ⟨X, X⟩ = 0 — i.e. "swap the labels" `y ↦ !y` — multiplication and
    comultiplication are adjoint when `h = 0` (any `t`):
        prodCoef 0 t x₁ x₂ y = coprodCoef 0 t (!y) (!x₁) (!x₂).
    For `h ≠ 0` this fails (`prodCoef h t X X X = h`, `coprodCoef h t 1 1 1 = −h`).

(b) LINEAR ALGEBRA of the dual complex: diagonal forms (`EquivDiag`) of transposes, of unimodular multiples and of
    re-enumerated bases.
-/
namespace Yuiv.C02Mirror
open Yuiv Yuiv.KhRef

/-- coefficient of the basis element `y` in `x₁ · x₂` according to the table `KhRef.prod` -/
def prodCoef (h t : Int) (x1 x2 y : Bool) : Int :=
  (((prod h t x1 x2).filter (fun r => r.1 == y)).map (fun r => r.2)).sum

/-- coefficient of `y₁ ⊗ y₂` in `Δ x` according to the table `KhRef.coprod` -/
def coprodCoef (h t : Int) (x y1 y2 : Bool) : Int :=
  (((coprod h t x).filter (fun r => r.1 == y1 && r.2.1 == y2)).map (fun r => r.2.2)).sum

/-- `1·1 = 1`, `1·X = X·1 = X`, `X·X = hX + t` -/
theorem prodCoef_eq (h t : Int) (x1 x2 y : Bool) :
    prodCoef h t x1 x2 y = if x1 && x2 then (if y then h else t) else if (x1 || x2) = y then 1 else 0 := by
  cases x1 <;> cases x2 <;> cases y <;> simp [prodCoef, prod]

/-- `Δ1 = X⊗1 + 1⊗X − h·1⊗1`, `ΔX = X⊗X + t·1⊗1` -/
theorem coprodCoef_eq (h t : Int) (x y1 y2 : Bool) :
    coprodCoef h t x y1 y2 =
      if x then (if y1 && y2 then 1 else if y1 || y2 then 0 else t)
      else (if y1 && y2 then 0 else if y1 || y2 then 1 else -h) := by
  cases x <;> cases y1 <;> cases y2 <;> simp [coprodCoef, coprod]

theorem prod_coprod_adjoint' (t : Int) (x1 x2 y : Bool) :
    prodCoef 0 t x1 x2 y = coprodCoef 0 t (!y) (!x1) (!x2) := by
  rw [prodCoef_eq, coprodCoef_eq]
  cases x1 <;> cases x2 <;> cases y <;> rfl

open Matrix Yuiv.C03 Yuiv.C03Uct

theorem rectDiag_transpose (m n : ℕ) (d : ℕ → ℤ) : (rectDiag m n d)ᵀ = rectDiag n m d := by
  ext i j
  simp only [transpose_apply, rectDiag_apply]
  by_cases h : j.val = i.val
  · simp [h]
  · have h' : ¬ i.val = j.val := fun e => h e.symm
    simp [h, h']

theorem equivDiag_transpose {m n : ℕ} (A : Matrix (Fin m) (Fin n) ℤ) (d : List ℤ) (h : EquivDiag A d) :
    EquivDiag Aᵀ d :=
  ⟨by rw [Nat.min_comm]; exact h.1, by rw [← rectDiag_transpose]; exact UEquiv.transpose h.2⟩

theorem equivDiag_mul_unimodular {m n : ℕ} (A : Matrix (Fin m) (Fin n) ℤ) (d : List ℤ)
    (U : Matrix (Fin m) (Fin m) ℤ) (V : Matrix (Fin n) (Fin n) ℤ) (hU : IsUnit U.det) (hV : IsUnit V.det)
    (h : EquivDiag A d) : EquivDiag (U * A * V) d :=
  EquivDiag.of_uequiv (UEquiv.mul A hU hV).symm h

theorem isUnit_det_diagonal_sign {n : ℕ} (σ : Fin n → ℤ) (hσ : ∀ i, σ i = 1 ∨ σ i = -1) :
    IsUnit (Matrix.diagonal σ).det := by
  rw [det_diagonal]
  apply IsUnit.prod_univ_iff.mpr
  intro i
  rcases hσ i with h | h <;> rw [h]
  · exact isUnit_one
  · exact isUnit_one.neg

theorem equivDiag_reindex {m n : ℕ} (A : Matrix (Fin m) (Fin n) ℤ) (d : List ℤ)
    (σ : Fin m ≃ Fin m) (τ : Fin n ≃ Fin n) (h : EquivDiag A d) : EquivDiag (A.submatrix σ τ) d :=
  EquivDiag.of_uequiv (UEquiv.submatrix A σ τ).symm h

theorem cellOf_rank_symm (n : ℕ) (dA dB : List ℤ) : (cellOf n dB dA).rank = (cellOf n dA dB).rank := by
  simp only [cellOf]
  omega

end Yuiv.C02Mirror
