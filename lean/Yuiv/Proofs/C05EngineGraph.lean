import Yuiv.Model.C05Engine
import Yuiv.Proofs.Res
import Mathlib.Data.List.Nodup
import Mathlib.Data.List.ProdSigma
/-
C05 (engine) — the graph layer of `Yuiv/Model/C05Engine.lean` (`Cx E` over an arbitrary record `EdgeOps E`): `mapMRes`
and `foldRes`, association lists (lookups and `Nodup` of the keys under filtering, key maps and `filterMap`), the invariant
`WF`, and `eliminate` (what it does to the stored lists and lookups, `WF` kept).
-/
namespace Yuiv.C05.Engine
open Yuiv.C05.Tng

theorem mapMRes_cons_ok {α β} (f : α → Res β) (a : α) (l : List α) (r : List β) :
    mapMRes f (a :: l) = .ok r ↔ ∃ b bs, f a = .ok b ∧ mapMRes f l = .ok bs ∧ r = b :: bs := by
  cases hfa : f a <;> cases hl : mapMRes f l <;> simp [mapMRes, hfa, hl, eq_comm]

theorem mapMRes_ok_forall₂ {α β} (f : α → Res β) : ∀ (l : List α) (r : List β), mapMRes f l = .ok r →
    List.Forall₂ (fun a b => f a = .ok b) l r
  | [], r, h => by simp [mapMRes] at h; subst h; exact .nil
  | a :: l, r, h => by
    obtain ⟨b, bs, hb, hbs, rfl⟩ := (mapMRes_cons_ok f a l r).1 h
    exact .cons hb (mapMRes_ok_forall₂ f l bs hbs)

theorem mapMRes_eq_map {α β} (f : α → Res β) (g : α → β) : ∀ (l : List α) (r : List β),
    (∀ a ∈ l, f a = .ok (g a)) → mapMRes f l = .ok r → r = l.map g
  | [], r, _, h => by simp only [mapMRes, Res.ok.injEq] at h; exact h.symm
  | a :: l, r, hg, h => by
    obtain ⟨b, bs, hb, hbs, rfl⟩ := (mapMRes_cons_ok f a l r).1 h
    rw [hg a List.mem_cons_self] at hb
    injection hb with hb
    rw [List.map_cons, hb, mapMRes_eq_map f g l bs (fun x hx => hg x (List.mem_cons_of_mem _ hx)) hbs]

theorem forall₂_exists_left {α β} {R : α → β → Prop} {l : List α} {r : List β} (h : List.Forall₂ R l r) :
    ∀ b ∈ r, ∃ a ∈ l, R a b := by
  induction h with
  | nil => simp
  | cons hab _ ih =>
    intro b hb
    rcases List.mem_cons.1 hb with rfl | hb
    · exact ⟨_, List.mem_cons_self, hab⟩
    · obtain ⟨a, ha, hf⟩ := ih _ hb
      exact ⟨a, List.mem_cons_of_mem _ ha, hf⟩

theorem mapMRes_ok_mem {α β} (f : α → Res β) (l : List α) (r : List β) (h : mapMRes f l = .ok r) :
    ∀ b ∈ r, ∃ a ∈ l, f a = .ok b :=
  forall₂_exists_left (mapMRes_ok_forall₂ f l r h)

theorem mapMRes_ok_of_mem {α β} (f : α → Res β) (l : List α) (r : List β) (h : mapMRes f l = .ok r) :
    ∀ a ∈ l, ∃ b ∈ r, f a = .ok b :=
  forall₂_exists_left (R := fun b a => f a = .ok b) (mapMRes_ok_forall₂ f l r h).flip

theorem mapMRes_ok_map {α β γ} (f : α → Res β) (g : β → γ) (k : α → γ)
    (hk : ∀ a b, f a = .ok b → g b = k a) (l : List α) (r : List β) (h : mapMRes f l = .ok r) :
    r.map g = l.map k := by
  have := mapMRes_ok_forall₂ f l r h
  clear h
  induction this with
  | nil => rfl
  | cons hab _ ih => simp [hk _ _ hab, ih]

section assoc
variable {α β : Type} [BEq α] [LawfulBEq α]

theorem lookup_filter_key (P : α → Bool) (l : List (α × β)) (a : α) :
    (l.filter (fun e => P e.1)).lookup a = if P a then l.lookup a else none := by
  induction l with
  | nil => simp
  | cons e l ih =>
    obtain ⟨k, v⟩ := e
    by_cases hk : a = k
    · subst hk
      by_cases hp : P a <;> simp [hp, ih]
    · have : (a == k) = false := by simpa using hk
      by_cases hp : P k <;> simp [hp, List.lookup_cons, this, ih]

theorem lookup_isSome_iff_mem (l : List (α × β)) (a : α) : (l.lookup a).isSome ↔ a ∈ l.map (·.1) := by
  simp only [List.lookup_isSome_iff, beq_iff_eq, List.mem_map]
  constructor
  · rintro ⟨p, hp, rfl⟩; exact ⟨p, hp, rfl⟩
  · rintro ⟨p, hp, rfl⟩; exact ⟨p, hp, rfl⟩

theorem mem_of_lookup (l : List (α × β)) (a : α) (b : β) (h : l.lookup a = some b) : (a, b) ∈ l := by
  induction l with
  | nil => simp at h
  | cons e l ih =>
    obtain ⟨k, v⟩ := e
    by_cases hk : a = k
    · subst hk; simp at h; subst h; exact List.mem_cons_self
    · have : (a == k) = false := by simpa using hk
      simp [List.lookup_cons, this] at h
      exact List.mem_cons_of_mem _ (ih h)

theorem lookup_of_mem_nodup (l : List (α × β)) (hn : (l.map (·.1)).Nodup) (a : α) (b : β) (h : (a, b) ∈ l) :
    l.lookup a = some b := by
  induction l with
  | nil => simp at h
  | cons e l ih =>
    obtain ⟨k, v⟩ := e
    simp only [List.map_cons, List.nodup_cons] at hn
    rcases List.mem_cons.1 h with h1 | h1
    · cases h1; simp
    · have hne : a ≠ k := by
        rintro rfl
        exact hn.1 (List.mem_map.2 ⟨(a, b), h1, rfl⟩)
      have : (a == k) = false := by simpa using hne
      simp [List.lookup_cons, this, ih hn.2 h1]

theorem lookup_none_of_not_mem (l : List (α × β)) (a : α) (h : a ∉ l.map (·.1)) : l.lookup a = none := by
  rcases hl : l.lookup a with _ | b
  · rfl
  · exact absurd (List.mem_map.2 ⟨(a, b), mem_of_lookup l a b hl, rfl⟩) h

/-- without duplicate keys `lookup` finds exactly what is stored, so two lookups agree as soon as membership does -/
theorem lookup_eq_of_mem_iff (l l' : List (α × β)) (hn : (l.map (·.1)).Nodup) (hn' : (l'.map (·.1)).Nodup)
    (a a' : α) (h : ∀ b, (a', b) ∈ l' ↔ (a, b) ∈ l) : l'.lookup a' = l.lookup a := by
  rcases hl : l.lookup a with _ | b
  · rcases hl' : l'.lookup a' with _ | b
    · rfl
    · have := lookup_of_mem_nodup l hn a b ((h b).1 (mem_of_lookup l' a' b hl'))
      rw [hl] at this
      cases this
  · exact lookup_of_mem_nodup l' hn' a' b ((h b).2 (mem_of_lookup l a b hl))

end assoc

/-- the graph-level invariant of a tangle complex (the clause "the boundary tangles of every cobordism are the
tangles of its end vertices" is not part of it: it is evaluated per instance by `Cx.wfCheck`) -/
structure WF {E : Type} (ops : EdgeOps E) (cx : Cx E) : Prop where
  keys : (cx.verts.map (·.1)).Nodup
  edges : (cx.edges.map (·.1)).Nodup
  ends : ∀ e ∈ cx.edges, e.1.1 ∈ cx.verts.map (·.1) ∧ e.1.2 ∈ cx.verts.map (·.1)
  /-- consecutive homological degree (`weight` + `deg_shift.0`) -/
  deg : ∀ e ∈ cx.edges, e.1.2.weight = e.1.1.weight + 1
  nonzero : ∀ e ∈ cx.edges, ops.isZero e.2 = false

section graph
variable {E : Type}

theorem hasKey_iff (cx : Cx E) (k : TKey) : cx.hasKey k = true ↔ k ∈ cx.verts.map (·.1) := by
  unfold Cx.hasKey Cx.tng?
  exact lookup_isSome_iff_mem cx.verts k

theorem hasKey_false_iff (cx : Cx E) (k : TKey) : cx.hasKey k = false ↔ k ∉ cx.verts.map (·.1) := by
  rw [← hasKey_iff]; simp

theorem edge?_isSome_iff (cx : Cx E) (k l : TKey) : (cx.edge? k l).isSome ↔ (k, l) ∈ cx.edges.map (·.1) := by
  unfold Cx.edge?
  exact lookup_isSome_iff_mem cx.edges (k, l)

theorem mem_filterMap_ite {α β : Type} (P : α → Prop) [DecidablePred P] (g : α → β) (l : List α) (b : β) :
    b ∈ l.filterMap (fun a => if P a then some (g a) else none) ↔ ∃ a ∈ l, P a ∧ g a = b := by
  simp only [List.mem_filterMap, Option.ite_none_right_eq_some, Option.some.injEq]

theorem mem_keysInto (cx : Cx E) (k l : TKey) : l ∈ cx.keysInto k ↔ (l, k) ∈ cx.edges.map (·.1) := by
  unfold Cx.keysInto
  rw [mem_filterMap_ite, List.mem_map]
  constructor
  · rintro ⟨e, he, hk, rfl⟩; exact ⟨e, he, Prod.ext rfl hk⟩
  · rintro ⟨e, he, h⟩; exact ⟨e, he, congrArg Prod.snd h, congrArg Prod.fst h⟩

theorem mem_keysOutFrom (cx : Cx E) (k l : TKey) : l ∈ cx.keysOutFrom k ↔ (k, l) ∈ cx.edges.map (·.1) := by
  unfold Cx.keysOutFrom
  rw [mem_filterMap_ite, List.mem_map]
  constructor
  · rintro ⟨e, he, hk, rfl⟩; exact ⟨e, he, Prod.ext hk rfl⟩
  · rintro ⟨e, he, h⟩; exact ⟨e, he, congrArg Prod.fst h, congrArg Prod.snd h⟩

theorem nodup_filterMap_ite {α β : Type} (P : α → Prop) [DecidablePred P] (g : α → β) (l : List α) (hn : l.Nodup)
    (hinj : ∀ a a', P a → P a' → g a = g a' → a = a') :
    (l.filterMap (fun a => if P a then some (g a) else none)).Nodup := by
  refine hn.filterMap (fun a a' b h1 h2 => ?_)
  rw [Option.mem_def, Option.ite_none_right_eq_some] at h1 h2
  exact hinj a a' h1.1 h2.1 (Option.some.inj (h1.2.trans h2.2.symm))

theorem nodup_keys_filterMap_ite {K V : Type} (P : K → Prop) [DecidablePred P] (g : K → K) (l : List (K × V))
    (hn : (l.map (·.1)).Nodup) (hinj : ∀ a a', P a → P a' → g a = g a' → a = a') :
    ((l.filterMap (fun e => if P e.1 then some (g e.1, e.2) else none)).map (·.1)).Nodup := by
  have e : (l.filterMap (fun e => if P e.1 then some (g e.1, e.2) else none)).map (·.1) =
      (l.map (·.1)).filterMap (fun a => if P a then some (g a) else none) := by
    rw [List.map_filterMap, List.filterMap_map]
    apply List.filterMap_congr
    intro e _
    simp only [Function.comp]
    split <;> rfl
  exact e ▸ nodup_filterMap_ite P g _ hn hinj

theorem forall₂_filterMap_keys_sublist {K V : Type} (R : K × V → Option (K × V) → Prop)
    (hkey : ∀ e e', R e (some e') → e'.1 = e.1) :
    ∀ (l : List (K × V)) (es : List (Option (K × V))), List.Forall₂ R l es →
      ((es.filterMap (fun x => x)).map (·.1)).Sublist (l.map (·.1)) := by
  intro l es h
  induction h with
  | nil => simp
  | @cons a b l' es' hab _ ih =>
    cases b with
    | none => simpa using ih.cons _
    | some e' =>
      have := hkey a e' hab
      simp only [List.filterMap_cons, List.map_cons]
      rw [this]
      exact ih.cons_cons _

theorem lookup_filterMap_forall₂ {K V : Type} [BEq K] [LawfulBEq K] (R : K × V → Option (K × V) → Prop)
    (hkey : ∀ e e', R e (some e') → e'.1 = e.1) :
    ∀ (l : List (K × V)) (es : List (Option (K × V))), List.Forall₂ R l es → (l.map (·.1)).Nodup → ∀ q : K,
      (l.lookup q = none → (es.filterMap (fun x => x)).lookup q = none) ∧
      (∀ f, l.lookup q = some f → ∃ oe, R (q, f) oe ∧ (es.filterMap (fun x => x)).lookup q = oe.map (·.2)) := by
  intro l es h
  induction h with
  | nil => intro _ q; simp
  | @cons a b l' es' hab hrest ih =>
    intro hn q
    simp only [List.map_cons, List.nodup_cons] at hn
    have ih' := ih hn.2 q
    have hsub := forall₂_filterMap_keys_sublist R hkey l' es' hrest
    obtain ⟨ka, va⟩ := a
    by_cases hq : q = ka
    · subst hq
      have hnot : q ∉ (es'.filterMap (fun x => x)).map (·.1) := fun hm => hn.1 (hsub.subset hm)
      refine ⟨by simp, ?_⟩
      intro f hf
      simp at hf
      subst hf
      refine ⟨b, hab, ?_⟩
      cases b with
      | none => exact lookup_none_of_not_mem _ q hnot
      | some e' =>
        have := hkey _ e' hab
        obtain ⟨k', v'⟩ := e'
        simp only at this
        subst this
        simp
    · have hbq : (q == ka) = false := by simpa using hq
      have hl : ((ka, va) :: l').lookup q = l'.lookup q := by simp [List.lookup_cons, hbq]
      have hr : ((b :: es').filterMap (fun x => x)).lookup q = (es'.filterMap (fun x => x)).lookup q := by
        cases b with
        | none => simp
        | some e' =>
          have := hkey _ e' hab
          obtain ⟨k', v'⟩ := e'
          simp only at this
          subst this
          simp [List.lookup_cons, hbq]
      rw [hl, hr]
      exact ih'

theorem lookup_map_key {K V : Type} [BEq K] [LawfulBEq K] (g : K → K) (l : List (K × V)) (q : K)
    (hinj : ∀ p ∈ l.map (·.1), g p = g q → p = q) :
    (l.map (fun e => (g e.1, e.2))).lookup (g q) = l.lookup q := by
  induction l with
  | nil => rfl
  | cons e l ih =>
    have ih' := ih (fun p' hp' => hinj p' (List.mem_cons_of_mem _ hp'))
    rw [List.map_cons, List.lookup_cons, List.lookup_cons]
    by_cases hq : q = e.1
    · rw [hq, beq_self_eq_true, beq_self_eq_true]
    · have h2 : g q ≠ g e.1 := fun e' => hq (hinj e.1 List.mem_cons_self e'.symm).symm
      rw [beq_false_of_ne hq, beq_false_of_ne h2, ih']

theorem lookup_map_replace {K V : Type} [DecidableEq K] (l : List (K × V)) (k q : K) (v' : V) (hq : q ≠ k) :
    (l.map (fun v => if v.1 = k then (v.1, v') else v)).lookup q = l.lookup q := by
  induction l with
  | nil => rfl
  | cons e l ih =>
    obtain ⟨x, v⟩ := e
    by_cases hx : x = k
    · subst hx
      have h1 : (q == x) = false := by simpa using hq
      simp [List.lookup_cons, h1, ih]
    · by_cases hqx : q = x
      · simp [hx, hqx]
      · have h1 : (q == x) = false := by simpa using hqx
        simp [List.lookup_cons, hx, h1, ih]

theorem nodup_keysInto (cx : Cx E) (hn : (cx.edges.map (·.1)).Nodup) (k : TKey) : (cx.keysInto k).Nodup := by
  unfold Cx.keysInto
  have h := nodup_filterMap_ite (fun p : TKey × TKey => p.2 = k) (·.1) _ hn
    (fun a a' ha ha' e => Prod.ext e (ha.trans ha'.symm))
  rw [List.filterMap_map] at h
  exact h

theorem nodup_keysOutFrom (cx : Cx E) (hn : (cx.edges.map (·.1)).Nodup) (k : TKey) : (cx.keysOutFrom k).Nodup := by
  unfold Cx.keysOutFrom
  have h := nodup_filterMap_ite (fun p : TKey × TKey => p.1 = k) (·.2) _ hn
    (fun a a' ha ha' e => Prod.ext (ha.trans ha'.symm) e)
  rw [List.filterMap_map] at h
  exact h

theorem elimPairs_eq_product (cx : Cx E) (k0 k1 : TKey) :
    elimPairs cx k0 k1 = ((cx.keysInto k1).filter (fun l0 => !(l0 = k0))) ×ˢ
      ((cx.keysOutFrom k0).filter (fun l1 => !(l1 = k1))) := rfl

theorem mem_elimPairs (cx : Cx E) (k0 k1 l0 l1 : TKey) :
    (l0, l1) ∈ elimPairs cx k0 k1 ↔
      (l0, k1) ∈ cx.edges.map (·.1) ∧ l0 ≠ k0 ∧ (k0, l1) ∈ cx.edges.map (·.1) ∧ l1 ≠ k1 := by
  rw [elimPairs_eq_product, List.mem_product]
  simp [mem_keysInto, mem_keysOutFrom, and_assoc]

theorem nodup_elimPairs (cx : Cx E) (hn : (cx.edges.map (·.1)).Nodup) (k0 k1 : TKey) : (elimPairs cx k0 k1).Nodup := by
  rw [elimPairs_eq_product]
  exact List.Nodup.product ((nodup_keysInto cx hn k1).filter _) ((nodup_keysOutFrom cx hn k0).filter _)

theorem lookup_setEdge (ops : EdgeOps E) (es : List ((TKey × TKey) × E)) (p q : TKey × TKey) (s : E) :
    (setEdge ops es p s).lookup q =
      if q = p then (if ops.isZero s then none else some s) else es.lookup q := by
  unfold setEdge
  have hf := lookup_filter_key (fun (x : TKey × TKey) => !(x = p)) es q
  by_cases hq : q = p
  · subst hq
    by_cases hz : ops.isZero s
    · simp [hz, hf]
    · simp [hz, List.lookup_append, hf]
  · have hbq : (q == p) = false := by simpa using hq
    by_cases hz : ops.isZero s
    · simp [hz, hf, hq]
    · simp [hz, List.lookup_append, hf, hq, List.lookup_cons, hbq]

theorem keys_setEdge_subset (ops : EdgeOps E) (es : List ((TKey × TKey) × E)) (p : TKey × TKey) (s : E) :
    ∀ e ∈ setEdge ops es p s, e ∈ es ∨ (e = (p, s) ∧ ops.isZero s = false) := by
  intro e he
  unfold setEdge at he
  split at he
  · exact .inl (List.mem_filter.1 he).1
  · rename_i hz
    rcases List.mem_append.1 he with h | h
    · exact .inl (List.mem_filter.1 h).1
    · exact .inr ⟨by simpa using h, by simpa using hz⟩

theorem nodup_setEdge (ops : EdgeOps E) (es : List ((TKey × TKey) × E)) (hn : (es.map (·.1)).Nodup)
    (p : TKey × TKey) (s : E) : ((setEdge ops es p s).map (·.1)).Nodup := by
  unfold setEdge
  have h1 : ((es.filter (fun e => !(e.1 = p))).map (·.1)).Nodup :=
    hn.sublist (List.Sublist.map _ List.filter_sublist)
  split
  · exact h1
  · rw [List.map_append, List.nodup_append]
    refine ⟨h1, by simp, ?_⟩
    intro a ha b hb
    simp only [List.map_cons, List.map_nil, List.mem_singleton] at hb
    subst hb
    obtain ⟨e, he, rfl⟩ := List.mem_map.1 ha
    have := (List.mem_filter.1 he).2
    simpa using this

theorem lookup_foldl_setEdge (ops : EdgeOps E) (vals : List ((TKey × TKey) × E)) (hn : (vals.map (·.1)).Nodup) :
    ∀ (es : List ((TKey × TKey) × E)) (q : TKey × TKey),
      (vals.foldl (fun es v => setEdge ops es v.1 v.2) es).lookup q =
        match vals.lookup q with
        | some s => if ops.isZero s then none else some s
        | none => es.lookup q := by
  induction vals with
  | nil => intro es q; simp
  | cons v vals ih =>
    intro es q
    obtain ⟨p, s⟩ := v
    simp only [List.map_cons, List.nodup_cons] at hn
    rw [List.foldl_cons, ih hn.2]
    by_cases hq : q = p
    · subst hq
      have : vals.lookup q = none := lookup_none_of_not_mem vals q hn.1
      simp [this, lookup_setEdge]
    · have hbq : (q == p) = false := by simpa using hq
      simp only [List.lookup_cons, hbq]
      rcases hv : vals.lookup q with _ | s'
      · simp [lookup_setEdge, hq]
      · simp

theorem foldl_setEdge_mem (ops : EdgeOps E) (vals : List ((TKey × TKey) × E)) :
    ∀ (es : List ((TKey × TKey) × E)), ∀ e ∈ vals.foldl (fun es v => setEdge ops es v.1 v.2) es,
      e ∈ es ∨ (e ∈ vals ∧ ops.isZero e.2 = false) := by
  induction vals with
  | nil => intro es e he; exact .inl he
  | cons v vals ih =>
    intro es e he
    rw [List.foldl_cons] at he
    rcases ih _ e he with h | h
    · rcases keys_setEdge_subset ops es v.1 v.2 e h with h | ⟨h, hz⟩
      · exact .inl h
      · refine .inr ⟨?_, by rw [h]; exact hz⟩
        rw [h]; exact List.mem_cons_self
    · exact .inr ⟨List.mem_cons_of_mem _ h.1, h.2⟩

theorem foldl_setEdge_nodup (ops : EdgeOps E) (vals : List ((TKey × TKey) × E)) :
    ∀ (es : List ((TKey × TKey) × E)), (es.map (·.1)).Nodup →
      ((vals.foldl (fun es v => setEdge ops es v.1 v.2) es).map (·.1)).Nodup := by
  induction vals with
  | nil => intro es h; exact h
  | cons v vals ih =>
    intro es h
    rw [List.foldl_cons]
    exact ih _ (nodup_setEdge ops es h v.1 v.2)

theorem elimValue_key (ops : EdgeOps E) (cx : Cx E) (k0 k1 : TKey) (ainv : E) (p : TKey × TKey)
    (v : (TKey × TKey) × E) (h : elimValue ops cx k0 k1 ainv p = .ok v) : v.1 = p := by
  unfold elimValue at h
  split at h
  · split at h
    · split at h <;> cases h <;> rfl
    · cases h
    · cases h
  · cases h

theorem eliminate_ok (ops : EdgeOps E) (cx cx' : Cx E) (k0 k1 : TKey) (h : cx.eliminate ops k0 k1 = .ok cx') :
    ∃ a ainv vals, cx.edge? k0 k1 = some a ∧ ops.inv a = .ok ainv ∧
      mapMRes (elimValue ops cx k0 k1 ainv) (elimPairs cx k0 k1) = .ok vals ∧
      cx' = removePivots cx k0 k1 (vals.foldl (fun es v => setEdge ops es v.1 v.2) cx.edges) := by
  unfold Cx.eliminate Cx.edgeR at h
  rcases he : cx.edge? k0 k1 with _ | a
  · simp [he] at h
  · simp only [he] at h
    rcases hi : ops.inv a with ainv | _ | _
    · simp only [hi] at h
      rcases hm : mapMRes (elimValue ops cx k0 k1 ainv) (elimPairs cx k0 k1) with vals | _ | _
      · simp only [hm] at h
        cases h
        exact ⟨a, ainv, vals, rfl, hi, hm, rfl⟩
      · simp [hm] at h
      · simp [hm] at h
    · simp [hi] at h
    · simp [hi] at h

theorem eliminate_vals_keys (ops : EdgeOps E) (cx : Cx E) (k0 k1 : TKey) (ainv : E) (vals : List ((TKey × TKey) × E))
    (hm : mapMRes (elimValue ops cx k0 k1 ainv) (elimPairs cx k0 k1) = .ok vals) :
    vals.map (·.1) = elimPairs cx k0 k1 := by
  have := mapMRes_ok_map (elimValue ops cx k0 k1 ainv) (·.1) id
    (fun p v hv => elimValue_key ops cx k0 k1 ainv p v hv) _ _ hm
  simpa using this

theorem removePivots_edge? (cx : Cx E) (k0 k1 : TKey) (es : List ((TKey × TKey) × E)) (l0 l1 : TKey) :
    (removePivots cx k0 k1 es).edge? l0 l1 =
      if !isPivot k0 k1 l0 && !isPivot k0 k1 l1 then es.lookup (l0, l1) else none := by
  unfold Cx.edge? removePivots
  exact lookup_filter_key (fun (p : TKey × TKey) => !isPivot k0 k1 p.1 && !isPivot k0 k1 p.2) es (l0, l1)

theorem eliminate_verts (ops : EdgeOps E) (cx cx' : Cx E) (k0 k1 : TKey) (h : cx.eliminate ops k0 k1 = .ok cx') :
    cx'.verts = cx.verts.filter (fun v => !isPivot k0 k1 v.1) ∧
    cx'.dh = cx.dh ∧ cx'.dq = cx.dq ∧ cx'.base = cx.base ∧ cx'.dim = cx.dim := by
  obtain ⟨a, ainv, vals, _, _, _, rfl⟩ := eliminate_ok ops cx cx' k0 k1 h
  exact ⟨rfl, rfl, rfl, rfl, rfl⟩

theorem mem_of_edge? {cx : Cx E} {k l : TKey} {f : E} (h : cx.edge? k l = some f) : ((k, l), f) ∈ cx.edges :=
  mem_of_lookup cx.edges (k, l) f h

theorem WF.ends_ne {ops : EdgeOps E} {cx : Cx E} (hwf : WF ops cx) (k : TKey) (hk : k ∉ cx.verts.map (·.1)) :
    ∀ e ∈ cx.edges, e.1.1 ≠ k ∧ e.1.2 ≠ k := by
  intro e he
  obtain ⟨h1, h2⟩ := hwf.ends e he
  exact ⟨fun h => hk (h ▸ h1), fun h => hk (h ▸ h2)⟩

theorem edge?_none_of_not_key (ops : EdgeOps E) (cx : Cx E) (hwf : WF ops cx) (a b : TKey)
    (h : a ∉ cx.verts.map (·.1) ∨ b ∉ cx.verts.map (·.1)) : cx.edge? a b = none := by
  rcases he : cx.edge? a b with _ | f
  · rfl
  · obtain ⟨h1, h2⟩ := hwf.ends _ (mem_of_edge? he)
    exact h.elim (absurd h1) (absurd h2)

/-- an edge raises the weight, so there are no loops -/
theorem edge?_self (ops : EdgeOps E) (cx : Cx E) (hwf : WF ops cx) (x : TKey) : cx.edge? x x = none := by
  rcases hx : cx.edge? x x with _ | f
  · rfl
  · have := hwf.deg _ (mem_of_edge? hx)
    simp only at this
    omega

/-- `cx'` is `cx` read through a substitution `p` of keys (the edges of `cx'` are the pairs that `p` sends to edges of
`cx`): the lookups are those of `cx` at the substituted keys … -/
theorem edge?_of_reindex (ops : EdgeOps E) (cx cx' : Cx E) (p : TKey → TKey) (hwf : WF ops cx)
    (hn' : (cx'.edges.map (·.1)).Nodup) (h : ∀ a b f, ((a, b), f) ∈ cx'.edges ↔ ((p a, p b), f) ∈ cx.edges)
    (a b : TKey) : cx'.edge? a b = cx.edge? (p a) (p b) :=
  lookup_eq_of_mem_iff cx.edges cx'.edges hwf.edges hn' (p a, p b) (a, b) (h a b)

/-- … and what `WF` asks of each edge is inherited, when `p` keeps the weight and reaches old vertices only from new ones -/
theorem wf_of_reindex (ops : EdgeOps E) (cx cx' : Cx E) (p : TKey → TKey) (hwf : WF ops cx)
    (hk : (cx'.verts.map (·.1)).Nodup) (hn' : (cx'.edges.map (·.1)).Nodup)
    (h : ∀ a b f, ((a, b), f) ∈ cx'.edges → ((p a, p b), f) ∈ cx.edges)
    (hkey : ∀ x, p x ∈ cx.verts.map (·.1) → x ∈ cx'.verts.map (·.1)) (hw : ∀ x, (p x).weight = x.weight) :
    WF ops cx' := by
  refine ⟨hk, hn', fun e he => ?_, fun e he => ?_, fun e he => hwf.nonzero ((p e.1.1, p e.1.2), e.2) (h _ _ _ he)⟩
  · obtain ⟨h1, h2⟩ := hwf.ends _ (h _ _ _ he)
    exact ⟨hkey _ h1, hkey _ h2⟩
  · have := hwf.deg _ (h _ _ _ he)
    rwa [hw, hw] at this

theorem wf_eliminate (ops : EdgeOps E) (cx cx' : Cx E) (k0 k1 : TKey) (hwf : WF ops cx)
    (h : cx.eliminate ops k0 k1 = .ok cx') : WF ops cx' := by
  obtain ⟨a, ainv, vals, ha, _, hm, rfl⟩ := eliminate_ok ops cx cx' k0 k1 h
  have hkeys := eliminate_vals_keys ops cx k0 k1 ainv vals hm
  have hpiv := mem_of_edge? ha
  have hes : ∀ e ∈ vals.foldl (fun es v => setEdge ops es v.1 v.2) cx.edges,
      (e.1.1 ∈ cx.verts.map (·.1) ∧ e.1.2 ∈ cx.verts.map (·.1)) ∧ e.1.2.weight = e.1.1.weight + 1 ∧
        ops.isZero e.2 = false := by
    intro e he
    rcases foldl_setEdge_mem ops vals cx.edges e he with he | ⟨he, hz⟩
    · exact ⟨hwf.ends e he, hwf.deg e he, hwf.nonzero e he⟩
    · have hk : e.1 ∈ elimPairs cx k0 k1 := hkeys ▸ List.mem_map.2 ⟨e, he, rfl⟩
      obtain ⟨⟨l0, l1⟩, f⟩ := e
      rw [mem_elimPairs] at hk
      obtain ⟨hb, _, hc, _⟩ := hk
      obtain ⟨eb, heb, hkb⟩ := List.mem_map.1 hb
      obtain ⟨ec, hec, hkc⟩ := List.mem_map.1 hc
      have e1 := hwf.ends eb heb
      have e2 := hwf.ends ec hec
      have d1 := hwf.deg eb heb
      have d2 := hwf.deg ec hec
      have d3 := hwf.deg _ hpiv
      rw [hkb] at e1 d1
      rw [hkc] at e2 d2
      simp only at e1 e2 d1 d2 d3 ⊢
      exact ⟨⟨e1.1, e2.2⟩, by omega, hz⟩
  refine ⟨?_, ?_, ?_, ?_, ?_⟩
  · exact hwf.keys.sublist (List.Sublist.map _ List.filter_sublist)
  · exact (foldl_setEdge_nodup ops vals cx.edges hwf.edges).sublist (List.Sublist.map _ List.filter_sublist)
  · intro e he
    simp only [removePivots, List.mem_filter, Bool.and_eq_true, Bool.not_eq_eq_eq_not, Bool.not_true] at he
    obtain ⟨he, hp1, hp2⟩ := he
    have := (hes e he).1
    simp only [removePivots, List.mem_map, List.mem_filter] at this ⊢
    obtain ⟨⟨v1, hv1, h1⟩, ⟨v2, hv2, h2⟩⟩ := this
    exact ⟨⟨v1, ⟨hv1, by simp [h1, hp1]⟩, h1⟩, ⟨v2, ⟨hv2, by simp [h2, hp2]⟩, h2⟩⟩
  · intro e he
    simp only [removePivots, List.mem_filter] at he
    exact (hes e he.1).2.1
  · intro e he
    simp only [removePivots, List.mem_filter] at he
    exact (hes e he.1).2.2

theorem weight_append (k l : TKey) : (k.append l).weight = k.weight + l.weight := by
  simp [TKey.append, TKey.weight, List.filter_append]

theorem weight_push (k : TKey) (g : Deloop.AlgGen) : (k.push g).weight = k.weight := rfl

theorem push_ne (k : TKey) (g : Deloop.AlgGen) : k.push g ≠ k := by
  intro h
  have := congrArg (fun x => x.label.length) h
  simp [TKey.push] at this

theorem foldRes_eq_foldlM {α β : Type} (f : β → α → Res β) (l : List α) (b : β) : foldRes f l b = l.foldlM f b := by
  induction l generalizing b with
  | nil => rfl
  | cons a l ih =>
    rw [foldRes, List.foldlM_cons]
    cases f b a with
    | ok b' => exact ih b'
    | panic => rfl
    | err => rfl

/-- `foldRes` with an invariant that knows the processed prefix and, at each step, the rest of the list -/
theorem foldRes_prefix {α β : Type} (P : β → List α → Prop) {f : β → α → Res β} {l : List α}
    (hstep : ∀ b pre a rest b', l = pre ++ a :: rest → P b pre → f b a = .ok b' → P b' (pre ++ [a]))
    {b r : β} (hb : P b []) (h : foldRes f l b = .ok r) : P r l :=
  (Res.foldlM_sat (pn := True) (er := True) (fun pre b => P b pre)
    (fun pre a post b e hp => Res.sat_partial.2 fun b' hb' => hstep b pre a post b' e hp hb') hb).of_ok
    (foldRes_eq_foldlM f l b ▸ h)

theorem foldRes_inv {α β : Type} (P : β → Prop) {f : β → α → Res β} {l : List α}
    (hstep : ∀ b a b', a ∈ l → P b → f b a = .ok b' → P b') {b r : β} (hb : P b) (h : foldRes f l b = .ok r) : P r :=
  Res.foldlM_inv P hstep hb (foldRes_eq_foldlM f l b ▸ h)

theorem wf_init (ops : EdgeOps E) (dh dq : Int) (base : Option Nat) : WF ops (Cx.init dh dq base : Cx E) :=
  ⟨by simp [Cx.init], by simp [Cx.init], by simp [Cx.init], by simp [Cx.init], by simp [Cx.init]⟩

end graph
end Yuiv.C05.Engine
