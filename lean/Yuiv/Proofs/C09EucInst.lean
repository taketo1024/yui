import Yuiv.Proofs.C09Euc
import Mathlib.Algebra.Field.ZMod
/-
Instances of `LawfulEuc` for the field operation records of the driver: `ratOps` (ℚ) and `fpOps p` (𝔽_p,
`p` prime; residues are natural numbers, `φ = Nat.cast : ℕ → ZMod p`).  Both go through `lawfulEuc_field`: a
record whose `normUnit` is the inverse, `/` is the field division, `%` is zero, `size` is `0/1` and `gcdx` is
the generic `EucRing::gcdx` specialised to a field (`fieldGcdx`) is lawful.
-/
namespace Yuiv.C09
open Yuiv

variable {α F : Type} [Field F]

theorem lawfulEuc_field (e : EOps α) (φ : α → F) (LE : LawfulE e φ)
    (hnu0 : ∀ a, φ a = 0 → φ (e.normUnit a) = 1)
    (hnu : ∀ a, φ a ≠ 0 → φ (e.normUnit a) = (φ a)⁻¹)
    (hinv : ∀ a, φ a ≠ 0 → ∃ v, e.inv a = some v)
    (hunit : ∀ a, e.isUnit a = true ↔ φ a ≠ 0)
    (hquo : ∀ a b, φ b ≠ 0 → φ (e.quo a b) = φ a / φ b)
    (hrem : ∀ a b, φ (e.rem a b) = 0)
    (hsize0 : ∀ a, φ a = 0 → e.size a = 0) (hsize1 : ∀ a, φ a ≠ 0 → e.size a = 1)
    (hgcdx : ∀ x y, e.gcdx x y = fieldGcdx e.toROps e.normUnit x y) : LawfulEuc e φ := by
  have L := LE.toLawful
  have hnune : ∀ a, φ (e.normUnit a) ≠ 0 := by
    intro a
    by_cases h : φ a = 0
    · rw [hnu0 a h]; exact one_ne_zero
    · rw [hnu a h]; exact inv_ne_zero h
  have hnmul : ∀ a, φ (e.normUnit (e.mul a (e.normUnit a))) = 1 := by
    intro a
    by_cases h : φ a = 0
    · apply hnu0; rw [L.mul, h, zero_mul]
    · have h1 : φ (e.mul a (e.normUnit a)) = 1 := by rw [L.mul, hnu a h, mul_inv_cancel₀ h]
      rw [hnu _ (by rw [h1]; exact one_ne_zero), h1, inv_one]
  have hnorm01 : ∀ a, φ (e.normUnit a) = 1 → φ a = 0 ∨ φ a = 1 := by
    intro a ha
    by_cases h : φ a = 0
    · exact Or.inl h
    · right
      rw [hnu a h] at ha
      exact inv_eq_one.1 ha
  have hsz_le : ∀ a, e.size a ≤ 1 := by
    intro a
    by_cases h : φ a = 0
    · rw [hsize0 a h]; exact Nat.zero_le _
    · rw [hsize1 a h]
  have hz : ∀ a, e.isZero a = true ↔ φ a = 0 := isZero_iff L
  refine { toLawfulE := LE, inv_normUnit := fun a => hinv _ (hnune a), normUnit_congr := ?_, norm_mul := hnmul,
           norm_unique := ?_, isUnit_iff := ?_, div_rem := ?_, size_rem := ?_, size_dvd := ?_,
           gcdx_bezout := ?_, gcdx_dvd := ?_, gcdx_norm := ?_ }
  · intro a b h
    by_cases h0 : φ a = 0
    · rw [hnu0 a h0, hnu0 b (by rw [← h]; exact h0)]
    · rw [hnu a h0, hnu b (by rw [← h]; exact h0), h]
  · intro a b ha hb h1 h2
    rcases hnorm01 a ha with ha | ha <;> rcases hnorm01 b hb with hb | hb
    · rw [ha, hb]
    · rw [ha, hb] at h1; exact absurd (zero_dvd_iff.1 h1) one_ne_zero
    · rw [ha, hb] at h2; exact absurd (zero_dvd_iff.1 h2) one_ne_zero
    · rw [ha, hb]
  · intro a
    rw [hunit, isUnit_iff_ne_zero]
  · intro a b hb
    rw [hquo a b hb, hrem, add_zero, div_mul_cancel₀ _ hb]
  · intro a b hb
    rw [hsize0 _ (hrem a b), hsize1 b hb]; exact Nat.one_pos
  · intro a b hb _
    rw [hsize1 b hb]; exact hsz_le a
  · intro x y
    rw [hgcdx]; unfold fieldGcdx
    split
    · simp [L.zero]
    · split
      · simp only [L.mul, L.zero]; ring
      · simp only [L.mul, L.zero]; ring
  · intro x y
    rw [hgcdx]; unfold fieldGcdx
    split
    · rename_i h
      simp only [Bool.and_eq_true, hz] at h
      simp only [L.zero, h.1, h.2]
      exact ⟨dvd_refl _, dvd_refl _⟩
    · split
      · rename_i hx
        simp only [Bool.not_eq_true', ← Bool.not_eq_true, hz] at hx
        have : IsUnit (φ (e.mul x (e.normUnit x))) := by
          rw [L.mul]; exact (isUnit_iff_ne_zero.2 (mul_ne_zero hx (hnune x)))
        exact ⟨this.dvd, this.dvd⟩
      · rename_i h hx
        simp only [Bool.not_eq_true', ← Bool.not_eq_true, hz, not_not] at hx
        have hy : φ y ≠ 0 := by
          intro hy; apply h; simp only [Bool.and_eq_true, hz]; exact ⟨hx, hy⟩
        have : IsUnit (φ (e.mul y (e.normUnit y))) := by
          rw [L.mul]; exact (isUnit_iff_ne_zero.2 (mul_ne_zero hy (hnune y)))
        exact ⟨this.dvd, this.dvd⟩
  · intro x y
    rw [hgcdx]; unfold fieldGcdx
    split
    · exact hnu0 _ L.zero
    · split
      · exact hnmul x
      · exact hnmul y

theorem lawfulEuc_rat : LawfulEuc ratOps (id : Rat → Rat) := by
  refine lawfulEuc_field ratOps id lawfulE_rat ?_ ?_ ?_ ?_ ?_ ?_ ?_ ?_ ?_
  · intro a h; simp only [id] at h; subst h; rfl
  · intro a h
    simp only [id] at h ⊢
    simp [ratOps, h]
  · intro a h
    simp only [id] at h
    simp [ratOps, h]
  · intro a
    simp [ratOps]
  · intro a b _; rfl
  · intro a b; rfl
  · intro a h; simp only [id] at h; subst h; rfl
  · intro a h
    simp only [id] at h
    simp [ratOps, h]
  · intro x y; rfl

section fp
variable (p : Nat) [Fact p.Prime]

local instance : NeZero p := ⟨(Fact.out : p.Prime).ne_zero⟩

theorem fp_cast_eq_zero (a : Nat) : ((a : ZMod p) = 0) ↔ a % p = 0 := by
  rw [ZMod.natCast_eq_zero_iff, Nat.dvd_iff_mod_eq_zero]

theorem fpInv_spec (a : Nat) (h : (a : ZMod p) ≠ 0) : (a : ZMod p) * (fpInv p a : ZMod p) = 1 := by
  have hp1 : 1 < p := (Fact.out : p.Prime).one_lt
  have hmod : ∀ b : Nat, (a * b % p == 1) = true ↔ (a : ZMod p) * (b : ZMod p) = 1 := by
    intro b
    rw [beq_iff_eq, ← Nat.cast_mul, ← Nat.cast_one (R := ZMod p), ZMod.natCast_eq_natCast_iff',
      Nat.mod_eq_of_lt hp1]
  unfold fpInv
  cases hf : (List.range p).find? (fun b => a * b % p == 1) with
  | none =>
    exfalso
    rw [List.find?_eq_none] at hf
    have := hf ((a : ZMod p)⁻¹).val (List.mem_range.2 (ZMod.val_lt _))
    apply this
    rw [hmod, ZMod.natCast_zmod_val]
    exact mul_inv_cancel₀ h
  | some b =>
    have := List.find?_some hf
    simp only [Option.getD_some]
    exact (hmod b).1 this

omit [Fact (Nat.Prime p)] in
theorem fp_normUnit (a : Nat) : (fpOps p).normUnit a = if a % p == 0 then 1 % p else fpInv p (a % p) := rfl

theorem fpInv_cast (a : Nat) (h : (a : ZMod p) ≠ 0) : ((fpInv p (a % p) : Nat) : ZMod p) = (a : ZMod p)⁻¹ := by
  have h' : ((a % p : Nat) : ZMod p) ≠ 0 := by rw [ZMod.natCast_mod]; exact h
  have := fpInv_spec p (a % p) h'
  rw [ZMod.natCast_mod] at this
  exact eq_inv_of_mul_eq_one_right this

theorem lawfulEuc_fp : LawfulEuc (fpOps p) (fun a : Nat => (a : ZMod p)) := by
  have hp1 : 1 < p := (Fact.out : p.Prime).one_lt
  refine lawfulEuc_field (fpOps p) _ (lawfulE_fp p) ?_ ?_ ?_ ?_ ?_ ?_ ?_ ?_ ?_
  · intro a h
    beta_reduce at h ⊢
    rw [fp_normUnit, if_pos (by rw [beq_iff_eq]; exact (fp_cast_eq_zero p a).1 h), ZMod.natCast_mod]
    exact Nat.cast_one
  · intro a h
    beta_reduce at h ⊢
    rw [fp_normUnit, if_neg (by rw [beq_iff_eq]; exact fun h0 => h ((fp_cast_eq_zero p a).2 h0))]
    exact fpInv_cast p a h
  · intro a h
    beta_reduce at h
    have h0 : ¬ (a % p == 0) = true := by rw [beq_iff_eq]; exact fun h0 => h ((fp_cast_eq_zero p a).2 h0)
    have h1 : (a * fpInv p (a % p) % p == 1) = true := by
      rw [beq_iff_eq]
      have := fpInv_cast p a h
      have h2 : ((a * fpInv p (a % p) : Nat) : ZMod p) = ((1 : Nat) : ZMod p) := by
        rw [Nat.cast_mul, this, Nat.cast_one]; exact mul_inv_cancel₀ h
      rw [ZMod.natCast_eq_natCast_iff', Nat.mod_eq_of_lt hp1] at h2
      exact h2
    refine ⟨fpInv p (a % p), ?_⟩
    show (if (a % p == 0) = true then none else
      if (a * fpInv p (a % p) % p == 1) = true then some (fpInv p (a % p)) else none) = _
    rw [if_neg h0, if_pos h1]
  · intro a
    show (!(a % p == 0)) = true ↔ _
    rw [Bool.not_eq_true', ← Bool.not_eq_true, beq_iff_eq, ne_eq, fp_cast_eq_zero]
  · intro a b hb
    beta_reduce at hb ⊢
    show (((a * fpInv p (b % p)) % p : Nat) : ZMod p) = _
    rw [ZMod.natCast_mod, Nat.cast_mul, fpInv_cast p b hb, div_eq_mul_inv]
  · intro a b; exact Nat.cast_zero
  · intro a h
    show (if (a % p == 0) = true then 0 else 1) = 0
    rw [if_pos (by rw [beq_iff_eq]; exact (fp_cast_eq_zero p a).1 h)]
  · intro a h
    show (if (a % p == 0) = true then 0 else 1) = 1
    rw [if_neg (by rw [beq_iff_eq]; exact fun h0 => h ((fp_cast_eq_zero p a).2 h0))]
  · intro x y; rfl

end fp

end Yuiv.C09
