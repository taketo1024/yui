import Yuiv.Proofs.C06WalkDefs
import Yuiv.Proofs.C18BridgeModel
import Yuiv.Proofs.C18BridgeSim
/-
C06WalkSim — the walk model `C06Canon.componentsOf L ts` (labels of the reference link `L`, crossing types `ts`)
computes the same result as the C18 code model `C18.components` on the link `toC18 L ts` (`componentsOf_sim`).  The
simulation reads of `toC18 L ts` only its length, labels and types, so it is stated for any C18 link `l` with
`Agree L ts l`; `(toKh l, its own types, l)` is another instance (`agree_toKh`).  Bridged: `KhRef.partner`
(imperative) vs `C18.passEdge` (`find?` over `slots`); `walk` accumulates labels reversed, `traverseLoop` slots;
`passed ++ edges` vs `edges.reverse ++ passed` (only membership is ever read: relation `SR`); the inline Boolean circle
test vs `C18.mkPath`.  No hypothesis on the input is needed (`toC18` reads `e[j]!` and `ts[i]!` like the walk model).
-/
namespace Yuiv.C06Walk
open Yuiv Yuiv.KhRef Yuiv.C06Canon Yuiv.C18Bridge
open Yuiv.C04Inv (pass_lt4)

theorem length_toC18 (L : Link) (ts : Array CT) : (toC18 L ts).length = L.size := by simp [toC18]

/-- the `i`-th crossing of `toC18 L ts` -/
def cr (L : Link) (ts : Array CT) (i : Nat) : C18.Crossing :=
  ⟨ctC18 ts[i]!, L[i]!.e[0]!, L[i]!.e[1]!, L[i]!.e[2]!, L[i]!.e[3]!⟩

theorem toC18_eq (L : Link) (ts : Array CT) : toC18 L ts = (List.range L.size).map (cr L ts) := rfl

theorem getElem?_toC18 (L : Link) (ts : Array CT) (i : Nat) (hi : i < L.size) :
    (toC18 L ts)[i]? = some (cr L ts i) := by
  rw [toC18_eq, List.getElem?_map, List.getElem?_range hi]
  rfl

theorem cr_edge (L : Link) (ts : Array CT) (i j : Nat) (hj : j < 4) : (cr L ts i).edge j = L[i]!.e[j]! := by
  have : j = 0 ∨ j = 1 ∨ j = 2 ∨ j = 3 := by omega
  rcases this with rfl | rfl | rfl | rfl <;> rfl

theorem edgeAt_toC18 (L : Link) (ts : Array CT) (i j : Nat) (hi : i < L.size) (hj : j < 4) :
    C18.edgeAt (toC18 L ts) i j = L[i]!.e[j]! := by
  unfold C18.edgeAt
  rw [getElem?_toC18 L ts i hi]
  exact cr_edge L ts i j hj

theorem ctypeAt_toC18 (L : Link) (ts : Array CT) (i : Nat) (hi : i < L.size) :
    C18.ctypeAt (toC18 L ts) i = ctC18 ts[i]! := by
  unfold C18.ctypeAt
  rw [getElem?_toC18 L ts i hi]
  rfl

theorem ctC18_pass (t : CT) (j : Nat) : (ctC18 t).pass j = t.pass j := by cases t <;> rfl

/-- the C18 link `l` carries the labels of `L` and the types `ts`: all the simulation uses of `toC18 L ts` -/
structure Agree (L : Link) (ts : Array CT) (l : C18.Link) : Prop where
  len : l.length = L.size
  edge : ∀ i j, i < L.size → j < 4 → C18.edgeAt l i j = L[i]!.e[j]!
  ct : ∀ i, i < L.size → C18.ctypeAt l i = ctC18 ts[i]!

theorem agree_toC18 (L : Link) (ts : Array CT) : Agree L ts (toC18 L ts) :=
  ⟨length_toC18 L ts, edgeAt_toC18 L ts, ctypeAt_toC18 L ts⟩

theorem ctC18_ctKh (t : C18.CType) : ctC18 (ctKh t) = t := by cases t <;> rfl

theorem agree_toKh (l : C18.Link) : Agree (toKh l) ((toKh l).map (·.ct)) l where
  len := (size_toKh l).symm
  edge := fun i j hi hj => (edge_toKh l i j (size_toKh l ▸ hi) hj).symm
  ct := fun i hi => by
    have : ((toKh l).map (·.ct))[i]! = (toKh l)[i]!.ct := by
      rw [getElem!_pos _ i (by simpa using hi), getElem!_pos _ i hi]; simp
    rw [this, ct_toKh l i (size_toKh l ▸ hi), ctC18_ctKh]

section agree
variable {L : Link} {ts : Array CT} {l : C18.Link}

theorem partner_agree (hA : Agree L ts l) (i k : Nat) (hi : i < L.size) (hk : k < 4) :
    KhRef.partner L i k = C18.passEdge l i k := by
  rw [partner_eq]
  exact partnerF_of_edges hA.len.symm (fun i j hi hj => (hA.edge i j (hA.len ▸ hi) hj).symm) i k (hA.len ▸ hi) hk

end agree

theorem passEdge_lt (l : C18.Link) (i k : Nat) (nxt : Nat × Nat) (h : C18.passEdge l i k = some nxt) :
    nxt.1 < l.length ∧ nxt.2 < 4 := by
  unfold C18.passEdge at h
  dsimp only at h
  rw [slots_eq, List.find?_map, Option.map_map] at h
  obtain ⟨p, hp, rfl⟩ := Option.map_eq_some_iff.1 h
  exact (mem_allSlots _ p).1 (List.mem_of_find?_eq_some hp)

/-- the label at a slot of the C18 link -/
def lab (l : C18.Link) (p : Nat × Nat) : Nat := C18.edgeAt l p.1 p.2

theorem walk_agree {L : Link} {ts : Array CT} {l : C18.Link} (hA : Agree L ts l) (start : Nat × Nat) (hs1 : start.1 < L.size) (hs2 : start.2 < 4) :
    ∀ (fuel i j : Nat) (acc : List (Nat × Nat)), i < L.size → j < 4 →
      walk L ts start fuel i j (acc.map (lab l)) =
        C18.resMap (fun path => (path.map (lab l)).reverse) (C18.traverseLoop l start fuel (i, j) acc) := by
  intro fuel
  induction fuel with
  | zero => intro i j acc _ _; rfl
  | succ fuel ih =>
    intro i j acc hi hj
    unfold walk C18.traverseLoop
    have hk : ts[i]!.pass j < 4 := pass_lt4 _ _ hj
    simp only [hA.ct i hi, ctC18_pass]
    rw [partner_agree hA i _ hi hk]
    cases hp : C18.passEdge l i (ts[i]!.pass j) with
    | none =>
      simp only [C18.resMap, List.map_reverse, List.reverse_reverse, List.map_cons, lab,
        hA.edge i j hi hj, hA.edge i _ hi hk]
    | some nxt =>
      obtain ⟨hn1, hn2⟩ := passEdge_lt _ _ _ _ hp
      rw [hA.len] at hn1
      simp only
      by_cases hret : nxt = start
      · have hb : (nxt == start) = true := by simp [hret]
        rw [if_pos hb, if_pos hret]
        simp only [C18.resMap, List.map_reverse, List.reverse_reverse, List.map_cons, lab,
          hA.edge i j hi hj, hA.edge start.1 start.2 hs1 hs2]
      · have hb : ¬ (nxt == start) = true := by simp [hret]
        rw [if_neg hb, if_neg hret]
        have := ih nxt.1 nxt.2 ((i, j) :: acc) hn1 hn2
        simp only [List.map_cons, lab, hA.edge i j hi hj] at this
        exact this

theorem mkPath_conv (edges : List Nat) :
    (if (decide (edges.length > 1) && edges.head? == edges.getLast?) = true
      then (⟨edges.dropLast, true⟩ : Path) else ⟨edges, false⟩) = convPath (C18.mkPath edges) := by
  unfold C18.mkPath
  by_cases h : edges.length > 1 ∧ edges.head? = edges.getLast?
  · have hb : (decide (edges.length > 1) && edges.head? == edges.getLast?) = true := by
      simp [h.1, h.2]
    rw [if_pos hb, if_pos h]; rfl
  · have hb : ¬ (decide (edges.length > 1) && edges.head? == edges.getLast?) = true := by
      simpa using h
    rw [if_neg hb, if_neg h]; rfl

/-- simulation relation of the loop states: same components, same SET of passed labels -/
def SR (a : List Path × List Nat) (b : List C18.Path × List Nat) : Prop :=
  a.1 = b.1.map convPath ∧ ∀ e, e ∈ a.2 ↔ e ∈ b.2

/-- both results of the same kind, `ok` states related by `SR` -/
def ResRel : Res (List Path × List Nat) → Res (List C18.Path × List Nat) → Prop
  | .ok a, .ok b => SR a b
  | .panic, .panic => True
  | .err, .err => True
  | _, _ => False

theorem contains_congr {xs ys : List Nat} (h : ∀ e, e ∈ xs ↔ e ∈ ys) (e : Nat) : xs.contains e = ys.contains e := by
  cases h1 : ys.contains e with
  | true => simpa using (h e).2 (by simpa using h1)
  | false =>
    have : e ∉ ys := by simpa using h1
    simpa using fun hc => this ((h e).1 hc)

theorem componentsPass_agree {L : Link} {ts : Array CT} {l : C18.Link} (hA : Agree L ts l) (j0 : Nat) (hj0 : j0 < 4) :
    ∀ (is : List Nat), (∀ i ∈ is, i < L.size) → ∀ a b, SR a b →
      ResRel (componentsPass L ts j0 is a) (is.foldlM (C18.compsStep l j0) b)
  | [], _, a, b, h => h
  | i0 :: rest, hlt, (comps, passed), b, h => by
    have hi0 : i0 < L.size := hlt i0 List.mem_cons_self
    have hrest : ∀ i ∈ rest, i < L.size := fun i hi => hlt i (List.mem_cons_of_mem _ hi)
    rw [List.foldlM_cons]
    unfold componentsPass
    rw [C18.compsStep, hA.edge i0 j0 hi0 hj0, contains_congr h.2]
    by_cases hc : b.2.contains (L[i0]!.e[j0]!) = true
    · rw [if_pos hc, if_pos hc]
      exact componentsPass_agree hA j0 hj0 rest hrest _ _ h
    · rw [if_neg hc, if_neg hc]
      unfold C18.traverse
      have hw := walk_agree hA (i0, j0) hi0 hj0 (4 * L.size) i0 j0 [] hi0 hj0
      rw [List.map_nil] at hw
      rw [hw, hA.len]
      cases ht : C18.traverseLoop l (i0, j0) (4 * L.size) (i0, j0) [] with
      | panic => trivial
      | err => trivial
      | ok path =>
        simp only [C18.resMap, List.reverse_reverse, Res.bind_ok]
        have hR := componentsPass_agree hA j0 hj0 rest hrest
          (comps ++ [convPath (C18.mkPath (path.map (lab l)))], passed ++ path.map (lab l))
          (b.1 ++ [C18.mkPath (path.map (lab l))], (path.map (lab l)).reverse ++ b.2)
          ⟨by
            show comps ++ _ = List.map convPath (b.1 ++ _)
            rw [List.map_append, ← h.1]; rfl,
           by
            intro e
            show e ∈ passed ++ _ ↔ e ∈ _ ++ b.2
            rw [List.mem_append, List.mem_append, List.mem_reverse, h.2 e]
            exact Or.comm⟩
        rw [← mkPath_conv] at hR
        exact hR

theorem pass_agree {L : Link} {ts : Array CT} {l : C18.Link} (hA : Agree L ts l) (j0 : Nat) (hj0 : j0 < 4) (a b) (h : SR a b)
    (k6 : List Path × List Nat → Res (List Path)) (k18 : List C18.Path × List Nat → Res (List C18.Path))
    (hk : ∀ a b, SR a b → k6 a = C18.resMap (List.map convPath) (k18 b)) :
    (match componentsPass L ts j0 (List.range L.size) a with
      | .ok st => k6 st
      | .panic => .panic
      | .err => .err) = C18.resMap (List.map convPath) (C18.compsPass l j0 b >>= k18) := by
  have h0 := componentsPass_agree hA j0 hj0 (List.range L.size) (fun i hi => List.mem_range.1 hi) a b h
  unfold C18.compsPass
  rw [hA.len]
  cases e6 : componentsPass L ts j0 (List.range L.size) a <;>
    cases e18 : List.foldlM (C18.compsStep l j0) b (List.range L.size) <;>
    simp only [e6, e18, ResRel] at h0
  · exact hk _ _ h0
  · rfl
  · rfl

theorem componentsOf_agree {L : KhRef.Link} {ts : Array KhRef.CT} {l : C18.Link} (hA : Agree L ts l) :
    C06Canon.componentsOf L ts = C18.resMap (List.map convPath) (C18.components l) := by
  unfold componentsOf C18.components
  exact pass_agree hA 0 (by omega) _ _ ⟨rfl, fun _ => Iff.rfl⟩ _ _ fun a0 b0 h0 =>
    pass_agree hA 1 (by omega) a0 b0 h0 _ _ fun a1 b1 h1 =>
    pass_agree hA 2 (by omega) a1 b1 h1 _ _ fun a2 b2 h2 => by rw [h2.1]; rfl

theorem componentsOf_sim (L : KhRef.Link) (ts : Array KhRef.CT) :
    C06Canon.componentsOf L ts =
      match C18.components (toC18 L ts) with
      | .ok cs => .ok (cs.map convPath)
      | .panic => .panic
      | .err => .err := by
  rw [componentsOf_agree (agree_toC18 L ts)]
  cases C18.components (toC18 L ts) <;> rfl

end Yuiv.C06Walk
