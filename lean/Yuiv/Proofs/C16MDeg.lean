import Yuiv.Proofs.C16Ord
import Yuiv.Proofs.Res
/-
`MultiDeg` (C16): the invariant "keys strictly increasing, no zero exponent", its preservation, the denotation
`mdGet : ℕ → I`, and the monomial orders as comparisons in `Pi.Lex`.
-/

namespace Yuiv.C16

section MD
variable {I : Type} [AddCommMonoid I] [LinearOrder I] [IsOrderedCancelAddMonoid I]

/-- invariant of `MultiDeg`: sorted and no stored zero exponent -/
def MDWF (l : List (Nat × I)) : Prop := MDSorted l ∧ ∀ p ∈ l, p.2 ≠ 0

set_option linter.unusedSectionVars false in
theorem mdSorted_nil : MDSorted ([] : List (Nat × I)) := by simp [MDSorted, mdKeys]

omit [LinearOrder I] [IsOrderedCancelAddMonoid I] in
theorem mdGet_of_not_mem {l : List (Nat × I)} {i : Nat} (h : i ∉ mdKeys l) : mdGet l i = 0 := by
  rw [mdGet_eq_coeff]; exact coeff_eq_zero h

set_option linter.unusedSectionVars false in
theorem mdGet_of_mem {l : List (Nat × I)} (h : (mdKeys l).Nodup) {p : Nat × I} (hp : p ∈ l) : mdGet l p.1 = p.2 := by
  rw [mdGet_eq_coeff]; exact coeff_of_mem h hp

omit [IsOrderedCancelAddMonoid I] in
theorem mdGet_filter {l : List (Nat × I)} (h : (mdKeys l).Nodup) (j : Nat) :
    mdGet (mdReduce l) j = mdGet l j := by
  rw [mdGet_eq_coeff, mdGet_eq_coeff]; exact coeff_clean h j

omit [IsOrderedCancelAddMonoid I] in
theorem mdSorted_reduce {l : List (Nat × I)} (h : MDSorted l) : MDSorted (mdReduce l) := by
  unfold MDSorted mdKeys mdReduce
  exact List.Pairwise.sublist (List.Sublist.map _ List.filter_sublist) h

omit [IsOrderedCancelAddMonoid I] in
theorem mdWF_reduce {l : List (Nat × I)} (h : MDSorted l) : MDWF (mdReduce l) :=
  ⟨mdSorted_reduce h, fun _ hp => (mem_clean.mp hp).2⟩

omit [LinearOrder I] [IsOrderedCancelAddMonoid I] in
theorem mdSorted_foldl_upd (op : I → I → I) (b : List (Nat × I)) {a : List (Nat × I)} (h : MDSorted a) :
    MDSorted (b.foldl (fun acc p => mdUpd op acc p.1 p.2) a) :=
  ListAux.foldl_inv MDSorted h (fun _ _ _ hb => mdSorted_mdUpd op hb _ _)

omit [IsOrderedCancelAddMonoid I] in
theorem mdWF_mdAdd {a : List (Nat × I)} (ha : MDSorted a) (b : List (Nat × I)) : MDWF (mdAdd a b) :=
  mdWF_reduce (mdSorted_foldl_upd _ b ha)

omit [LinearOrder I] [IsOrderedCancelAddMonoid I] in
/-- `op e 0 = e` covers the exponents absent from `b` -/
theorem mdGet_foldl_upd (op : I → I → I) (hop : ∀ e, op e 0 = e) {a : List (Nat × I)} (ha : MDSorted a)
    {b : List (Nat × I)} (hb : (mdKeys b).Nodup) (j : Nat) :
    mdGet (b.foldl (fun acc p => mdUpd op acc p.1 p.2) a) j = op (mdGet a j) (mdGet b j) := by
  induction b generalizing a with
  | nil => exact (hop _).symm
  | cons p t ih =>
    have hb' := List.nodup_cons.mp hb
    rw [List.foldl_cons, ih (mdSorted_mdUpd op ha _ _) hb'.2, mdGet_mdUpd op ha, mdGet_cons]
    by_cases hkj : p.1 = j
    · subst hkj; rw [if_pos rfl, if_pos rfl, mdGet_of_not_mem hb'.1, hop]
    · rw [if_neg hkj, if_neg hkj]

omit [IsOrderedCancelAddMonoid I] in
theorem mdGet_mdAdd {a b : List (Nat × I)} (ha : MDSorted a) (hb : MDSorted b) (j : Nat) :
    mdGet (mdAdd a b) j = mdGet a j + mdGet b j := by
  unfold mdAdd
  rw [mdGet_filter (mdSorted_nodup (mdSorted_foldl_upd _ b ha)),
    mdGet_foldl_upd (· + ·) add_zero ha (mdSorted_nodup hb)]

omit [LinearOrder I] [IsOrderedCancelAddMonoid I] in
/-- a well-formed multi-degree is determined by its exponent function: the entries are those of the function's
support (as for `Lc`), and a sorted list is determined by its entries -/
theorem md_ext {a b : List (Nat × I)} (ha : MDWF a) (hb : MDWF b) (h : ∀ i, mdGet a i = mdGet b i) : a = b := by
  have hp : a.Perm b := perm_of_coeff_eq_of_nodup (mdSorted_nodup ha.1) ha.2 (mdSorted_nodup hb.1) hb.2
    (fun i => by rw [← mdGet_eq_coeff, ← mdGet_eq_coeff, h])
  exact hp.eq_of_pairwise (le := fun p q => p.1 < q.1) (fun _ _ _ _ h1 h2 => absurd h1 (lt_asymm h2))
    (List.pairwise_map.mp ha.1) (List.pairwise_map.mp hb.1)

omit [LinearOrder I] [IsOrderedCancelAddMonoid I] in
theorem foldl_total_acc (l : List (Nat × I)) (acc : I) :
    l.foldl (fun res p => res + p.2) acc = acc + mdTotal l := by
  unfold mdTotal
  induction l generalizing acc with
  | nil => simp
  | cons p t ih => simp only [List.foldl_cons]; rw [ih (acc + p.2), ih (0 + p.2)]; simp [add_assoc]

omit [LinearOrder I] [IsOrderedCancelAddMonoid I] in
theorem mdTotal_cons (p : Nat × I) (t : List (Nat × I)) : mdTotal (p :: t) = p.2 + mdTotal t := by
  conv_lhs => unfold mdTotal
  simp only [List.foldl_cons]; rw [foldl_total_acc]; simp

omit [LinearOrder I] [IsOrderedCancelAddMonoid I] in
theorem mdTotal_mdUpd (l : List (Nat × I)) (i : Nat) (d : I) :
    mdTotal (mdUpd (· + ·) l i d) = mdTotal l + d := by
  induction l with
  | nil => simp [mdUpd, mdTotal]
  | cons p t ih =>
    rcases lt_trichotomy i p.1 with h | h | h
    · rw [mdUpd_cons_lt _ h, mdTotal_cons, zero_add, add_comm]
    · subst h; rw [mdUpd_cons_self, mdTotal_cons, mdTotal_cons, add_right_comm]
    · rw [mdUpd_cons_gt _ h, mdTotal_cons, mdTotal_cons, ih, add_assoc]

omit [IsOrderedCancelAddMonoid I] in
theorem mdTotal_reduce (l : List (Nat × I)) : mdTotal (mdReduce l) = mdTotal l := by
  induction l with
  | nil => rfl
  | cons p t ih =>
    unfold mdReduce at *
    by_cases h : p.2 = 0 <;> simp [h, ih, mdTotal_cons]

omit [IsOrderedCancelAddMonoid I] in
theorem mdTotal_mdAdd (a b : List (Nat × I)) : mdTotal (mdAdd a b) = mdTotal a + mdTotal b := by
  unfold mdAdd
  rw [mdTotal_reduce]
  induction b generalizing a with
  | nil => simp [mdTotal]
  | cons p t ih => simp only [List.foldl_cons, ih, mdTotal_mdUpd, mdTotal_cons]; abel

omit [AddCommMonoid I] [LinearOrder I] [IsOrderedCancelAddMonoid I] in
/-- a fold with an operation whose result is `r`-below both arguments (`min` with `≤`, `max` with `≥`) ends
`r`-below its start value and every key it met -/
theorem foldl_bound (r : Nat → Nat → Prop) (hr : ∀ a b c, r a b → r b c → r a c) (hrefl : ∀ a, r a a)
    (op : Nat → Nat → Nat) (h1 : ∀ m x, r (op m x) m) (h2 : ∀ m x, r (op m x) x) (t : List (Nat × I)) (m : Nat) :
    r (t.foldl (fun m q => op m q.1) m) m ∧ ∀ q ∈ t, r (t.foldl (fun m q => op m q.1) m) q.1 := by
  induction t generalizing m with
  | nil => exact ⟨hrefl m, fun _ h => nomatch h⟩
  | cons p t ih =>
    obtain ⟨h, h'⟩ := ih (op m p.1)
    refine ⟨hr _ _ _ h (h1 m p.1), fun q hq => ?_⟩
    rcases List.mem_cons.mp hq with e | hm
    · rw [e]; exact hr _ _ _ h (h2 m p.1)
    · exact h' q hm

omit [AddCommMonoid I] [LinearOrder I] [IsOrderedCancelAddMonoid I] in
theorem mdIndex_bounds (a : List (Nat × I)) :
    ∀ q ∈ a, (mdMinIndex a).getD 0 ≤ q.1 ∧ q.1 ≤ (mdMaxIndex a).getD 0 := by
  cases a with
  | nil => exact fun _ h => nomatch h
  | cons p t =>
    have hmin := foldl_bound (· ≤ ·) (fun _ _ _ => Nat.le_trans) Nat.le_refl Nat.min Nat.min_le_left
      Nat.min_le_right t p.1
    have hmax := foldl_bound (· ≥ ·) (fun _ _ _ h1 h2 => Nat.le_trans h2 h1) Nat.le_refl Nat.max Nat.le_max_left
      Nat.le_max_right t p.1
    intro q hq
    rcases List.mem_cons.mp hq with e | hm
    · rw [e]; exact ⟨hmin.1, hmax.1⟩
    · exact ⟨hmin.2 q hm, hmax.2 q hm⟩

omit [LinearOrder I] [IsOrderedCancelAddMonoid I] in
theorem mdGet_eq_zero_of_outside (a : List (Nat × I)) {i : Nat}
    (h : i < (mdMinIndex a).getD 0 ∨ (mdMaxIndex a).getD 0 < i) : mdGet a i = 0 := by
  refine mdGet_of_not_mem (fun hm => ?_)
  obtain ⟨q, hq, rfl⟩ := List.mem_map.mp hm
  have := mdIndex_bounds a q hq
  omega

/-- the fold of `cmp_lex` over a list of indices -/
def lexFold (f g : Nat → I) (l : List Nat) : Ordering :=
  l.foldl (fun res i => res.then (cmpI (f i) (g i))) .eq

omit [AddCommMonoid I] [IsOrderedCancelAddMonoid I] in
theorem foldl_then_init (f g : Nat → I) (l : List Nat) (c : Ordering) :
    l.foldl (fun res i => res.then (cmpI (f i) (g i))) c = c.then (lexFold f g l) := by
  unfold lexFold
  induction l generalizing c with
  | nil => cases c <;> rfl
  | cons i t ih =>
    simp only [List.foldl_cons]
    rw [ih, ih (Ordering.eq.then _)]
    cases c <;> simp [Ordering.then]

omit [AddCommMonoid I] [IsOrderedCancelAddMonoid I] in
theorem lexFold_cons (f g : Nat → I) (i : Nat) (l : List Nat) :
    lexFold f g (i :: l) = (cmpI (f i) (g i)).then (lexFold f g l) := by
  conv_lhs => unfold lexFold
  simp only [List.foldl_cons]
  rw [foldl_then_init]; simp [Ordering.then]

omit [AddCommMonoid I] [IsOrderedCancelAddMonoid I] in
/-- over an index range outside of which `f` and `g` agree, the fold is the comparison in `Pi.Lex`: the first
index where they differ decides -/
theorem lexFold_range (f g : Nat → I) (n i0 : Nat) (hout : ∀ j, j < i0 ∨ i0 + n ≤ j → f j = g j) :
    lexFold f g (List.range' i0 n) = cmpK (toLex f) (toLex g) := by
  induction n generalizing i0 with
  | zero =>
    have e : f = g := funext fun j => hout j (Nat.lt_or_ge j i0)
    rw [e]
    exact (cmpK_eq.mpr rfl).symm
  | succ n ih =>
    rw [List.range'_succ, lexFold_cons]
    rcases lt_trichotomy (f i0) (g i0) with h | h | h
    · rw [cmpI_lt.mpr h]
      exact (cmpK_lt.mpr (show toLex f < toLex g from ⟨i0, fun j hj => hout j (Or.inl hj), h⟩)).symm
    · rw [cmpI_eq.mpr h]
      refine ih (i0 + 1) (fun j hj => ?_)
      by_cases e : j = i0
      · rw [e]; exact h
      · exact hout j (by omega)
    · rw [cmpI_gt.mpr h]
      exact (cmpK_gt.mpr (show toLex g < toLex f from ⟨i0, fun j hj => (hout j (Or.inl hj)).symm, h⟩)).symm

omit [IsOrderedCancelAddMonoid I] in
/-- `cmp_lex` compares the exponent functions in the lexicographic order of `ℕ → I` (index 0 most significant) -/
theorem mdCmpLex_eq (a b : List (Nat × I)) :
    mdCmpLex a b = cmpK (toLex (mdGet a)) (toLex (mdGet b)) := by
  refine lexFold_range (mdGet a) (mdGet b) _ _ (fun j hj => ?_)
  rcases Nat.lt_or_ge j (Nat.min ((mdMinIndex a).getD 0) ((mdMinIndex b).getD 0)) with hlt | hge
  · rw [mdGet_eq_zero_of_outside a (Or.inl (Nat.lt_of_lt_of_le hlt (Nat.min_le_left _ _))),
      mdGet_eq_zero_of_outside b (Or.inl (Nat.lt_of_lt_of_le hlt (Nat.min_le_right _ _)))]
  · have hgt : Nat.max ((mdMaxIndex a).getD 0) ((mdMaxIndex b).getD 0) < j := by omega
    rw [mdGet_eq_zero_of_outside a (Or.inr (Nat.lt_of_le_of_lt (Nat.le_max_left _ _) hgt)),
      mdGet_eq_zero_of_outside b (Or.inr (Nat.lt_of_le_of_lt (Nat.le_max_right _ _) hgt))]

omit [LinearOrder I] [IsOrderedCancelAddMonoid I] in
theorem md_lexKey_inj (x y : List (Nat × I)) (hx : MDWF x) (hy : MDWF y)
    (h : toLex (mdGet x) = toLex (mdGet y)) : x = y :=
  md_ext hx hy (congrFun (toLex_inj.mp h))

theorem cmpK_toLex_add_right (f g h : Nat → I) :
    cmpK (toLex (fun i => f i + h i)) (toLex (fun i => g i + h i)) = cmpK (toLex f) (toLex g) := by
  apply ordering_ext
  · rw [cmpK_lt, cmpK_lt]
    exact exists_congr fun i =>
      and_congr (forall₂_congr fun j _ => add_left_inj (h j)) (add_lt_add_iff_right (h i))
  · rw [cmpK_eq, cmpK_eq, toLex_inj, toLex_inj, funext_iff, funext_iff]
    exact forall_congr' fun i => add_left_inj (h i)

theorem mdCmpLex_mdAdd {a b c : List (Nat × I)} (ha : MDSorted a) (hb : MDSorted b) (hc : MDSorted c) :
    mdCmpLex (mdAdd a c) (mdAdd b c) = mdCmpLex a b := by
  rw [mdCmpLex_eq, mdCmpLex_eq]
  have e1 : mdGet (mdAdd a c) = fun i => mdGet a i + mdGet c i := funext (mdGet_mdAdd ha hc)
  have e2 : mdGet (mdAdd b c) = fun i => mdGet b i + mdGet c i := funext (mdGet_mdAdd hb hc)
  rw [e1, e2, cmpK_toLex_add_right]

theorem mdCmpGrlex_mdAdd {a b c : List (Nat × I)} (ha : MDSorted a) (hb : MDSorted b) (hc : MDSorted c) :
    mdCmpGrlex (mdAdd a c) (mdAdd b c) = mdCmpGrlex a b := by
  unfold mdCmpGrlex
  rw [mdCmpLex_mdAdd ha hb hc, mdTotal_mdAdd, mdTotal_mdAdd, cmpI_add_right]

omit [LinearOrder I] [IsOrderedCancelAddMonoid I] in
theorem mdInsert_eq_mdUpd (l : List (Nat × I)) (i : Nat) (v : I) :
    mdInsert l i v = mdUpd (fun _ d => d) l i v := by
  induction l with
  | nil => rfl
  | cons p t ih => exact congrArg (fun z => if i < p.1 then (i, v) :: p :: t else if i = p.1 then (p.1, v) :: t else p :: z) ih

omit [LinearOrder I] [IsOrderedCancelAddMonoid I] in
theorem mdUpd_ne_zero (op : I → I → I) {l : List (Nat × I)} (hs : MDSorted l) (h : ∀ p ∈ l, p.2 ≠ 0) (i : Nat) (d : I)
    (hop : ∀ e, op e d ≠ 0) : ∀ p ∈ mdUpd op l i d, p.2 ≠ 0 := by
  intro p hp
  -- a stored value is `mdGet` at its key
  rw [← coeff_of_mem (mdSorted_nodup (mdSorted_mdUpd op hs i d)) hp, ← mdGet_eq_coeff, mdGet_mdUpd op hs]
  split
  · exact hop _
  · rename_i hne
    obtain ⟨q, hq, e⟩ := List.mem_map.mp
      (((mem_keys_mdUpd op l i d p.1).mp (mem_keys_of_mem hp)).resolve_left (fun e => hne e.symm))
    rw [← e, mdGet_eq_coeff, coeff_of_mem (mdSorted_nodup hs) hq]
    exact h q hq

/-- `MultiVar` values satisfying the invariant of `MultiDeg` -/
def WMVar (I : Type) [AddCommMonoid I] [LinearOrder I] [IsOrderedCancelAddMonoid I] :=
  { m : MVar I // MDWF m.d }

instance : DecidableEq (WMVar I) := fun a b => decidable_of_iff (a.1 = b.1) Subtype.ext_iff.symm

theorem WMVar.ext' {a b : WMVar I} (h : ∀ i, mdGet a.1.d i = mdGet b.1.d i) : a = b := by
  apply Subtype.ext
  have := md_ext a.2 b.2 h
  cases ha : a.1; cases hb : b.1; simp_all

instance : Mul (WMVar I) := ⟨fun a b => ⟨a.1 * b.1, mdWF_mdAdd a.2.1 b.1.d⟩⟩
instance : One (WMVar I) := ⟨⟨1, ⟨mdSorted_nil, by intro p hp; cases hp⟩⟩⟩

theorem WMVar.get_mul (a b : WMVar I) (i : Nat) :
    mdGet (a * b).1.d i = mdGet a.1.d i + mdGet b.1.d i := mdGet_mdAdd a.2.1 b.2.1 i

theorem WMVar.get_one (i : Nat) : mdGet (1 : WMVar I).1.d i = 0 := rfl

def WMVar.val (a : WMVar I) : MVar I := a.1
theorem WMVar.val_injective : Function.Injective (WMVar.val (I := I)) := fun _ _ h => Subtype.ext h
theorem WMVar.val_mul (a b : WMVar I) : (a * b).val = a.val * b.val := rfl
theorem WMVar.val_one : (1 : WMVar I).val = 1 := rfl
theorem WMVar.val_wf (a : WMVar I) : MDWF a.val.d := a.2

instance : CommMonoid (WMVar I) where
  mul_assoc a b c := WMVar.ext' (fun i => by simp only [WMVar.get_mul, add_assoc])
  one_mul a := WMVar.ext' (fun i => by simp only [WMVar.get_mul, WMVar.get_one, zero_add])
  mul_one a := WMVar.ext' (fun i => by simp only [WMVar.get_mul, WMVar.get_one, add_zero])
  mul_comm a b := WMVar.ext' (fun i => by simp only [WMVar.get_mul, add_comm])

end MD

theorem mdWF_mdSubInt {a : List (Nat × Int)} (ha : MDSorted a) (b : List (Nat × Int)) : MDWF (mdSubInt a b) :=
  mdWF_reduce (mdSorted_foldl_upd _ b ha)

theorem mdGet_mdSubInt {a b : List (Nat × Int)} (ha : MDSorted a) (hb : MDSorted b) (j : Nat) :
    mdGet (mdSubInt a b) j = mdGet a j - mdGet b j := by
  unfold mdSubInt
  rw [mdGet_filter (mdSorted_nodup (mdSorted_foldl_upd _ b ha)),
    mdGet_foldl_upd (· - ·) sub_zero ha (mdSorted_nodup hb)]

theorem mdUpdSubNat_eq {l : List (Nat × Nat)} (h : MDSorted l) (i d : Nat) :
    mdUpdSubNat l i d =
      if d ≤ mdGet l i then Res.ok (mdUpd (fun e d => e - d) l i d) else Res.panic := by
  induction l with
  | nil => rfl
  | cons p t ih =>
    have ⟨hp, ht⟩ := mdSorted_cons.mp h
    rw [mdGet_cons]
    rcases lt_trichotomy i p.1 with hi | hi | hi
    · have hnot : i ∉ mdKeys t := fun hm => lt_irrefl _ (lt_trans hi (hp i hm))
      rw [mdUpd_cons_lt _ hi, if_neg (ne_of_gt hi), mdGet_of_not_mem hnot]
      exact if_pos hi
    · subst hi
      rw [mdUpd_cons_self, if_pos rfl]
      exact (if_neg (lt_irrefl _)).trans (if_pos rfl)
    · rw [mdUpd_cons_gt _ hi, if_neg (ne_of_lt hi)]
      refine ((if_neg (lt_asymm hi)).trans (if_neg (ne_of_gt hi))).trans ?_
      rw [ih ht]
      split <;> rfl

/-- one step of the checked fold of `sub_assign` on `usize` exponents -/
def subStep (acc : Res (List (Nat × Nat))) (p : Nat × Nat) : Res (List (Nat × Nat)) :=
  Res.bind acc (fun l => mdUpdSubNat l p.1 p.2)

theorem foldl_subStep_panic (b : List (Nat × Nat)) : b.foldl subStep Res.panic = Res.panic := by
  induction b with
  | nil => rfl
  | cons p t ih => simpa [List.foldl_cons, subStep, Res.bind] using ih

theorem foldl_subStep_sat {a : List (Nat × Nat)} (ha : MDSorted a) {b : List (Nat × Nat)} (hb : (mdKeys b).Nodup) :
    Res.Sat (fun l => (∀ j, mdGet b j ≤ mdGet a j) ∧ l = b.foldl (fun acc p => mdUpd (fun e d => e - d) acc p.1 p.2) a)
      (∃ j, mdGet a j < mdGet b j) False (b.foldl subStep (Res.ok a)) := by
  induction b generalizing a with
  | nil => exact ⟨fun j => Nat.zero_le _, rfl⟩
  | cons p t ih =>
    have hb' := List.nodup_cons.mp hb
    rw [List.foldl_cons]
    show Res.Sat _ _ _ (t.foldl subStep (mdUpdSubNat a p.1 p.2))
    rw [mdUpdSubNat_eq ha]
    have hget : ∀ j, mdGet (mdUpd (fun e d => e - d) a p.1 p.2) j = if p.1 = j then mdGet a p.1 - p.2 else mdGet a j :=
      fun j => mdGet_mdUpd _ ha _ _ j
    by_cases hk : p.2 ≤ mdGet a p.1
    · rw [if_pos hk]
      refine (ih (mdSorted_mdUpd _ ha _ _) hb'.2).mono (fun l ⟨hle, e⟩ => ⟨fun j => ?_, e⟩) (fun ⟨j, hj⟩ => ⟨j, ?_⟩) id
      · have := hle j
        rw [hget] at this
        rw [mdGet_cons]
        by_cases hkj : p.1 = j
        · subst hkj; rw [if_pos rfl]; exact hk
        · rwa [if_neg hkj] at this ⊢
      · rw [hget] at hj
        rw [mdGet_cons]
        by_cases hkj : p.1 = j
        · subst hkj; rw [mdGet_of_not_mem hb'.1] at hj; exact absurd hj (Nat.not_lt_zero _)
        · rwa [if_neg hkj] at hj ⊢
    · rw [if_neg hk, foldl_subStep_panic]
      exact ⟨p.1, by rw [mdGet_cons, if_pos rfl]; exact Nat.lt_of_not_le hk⟩

theorem mdSubNat_eq (a b : List (Nat × Nat)) :
    mdSubNat a b = Res.bind (b.foldl subStep (Res.ok a)) (fun l => Res.ok (mdReduce l)) := rfl

/-- `MultiDeg<usize>` subtraction returns iff no exponent underflows, and panics otherwise -/
theorem mdSubNat_sat {a b : List (Nat × Nat)} (ha : MDSorted a) (hb : MDSorted b) :
    Res.Sat (fun c => (∀ j, mdGet b j ≤ mdGet a j) ∧ MDWF c ∧ ∀ j, mdGet c j = mdGet a j - mdGet b j)
      (∃ j, mdGet a j < mdGet b j) False (mdSubNat a b) := by
  have hs := mdSorted_foldl_upd (fun e d => e - d) b ha
  rw [mdSubNat_eq]
  refine (foldl_subStep_sat ha (mdSorted_nodup hb)).bind fun l ⟨hle, e⟩ => ⟨hle, ?_⟩
  subst e
  exact ⟨mdWF_reduce hs, fun j => by
    rw [mdGet_filter (mdSorted_nodup hs), mdGet_foldl_upd _ Nat.sub_zero ha (mdSorted_nodup hb)]⟩

end Yuiv.C16
