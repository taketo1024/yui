import Yuiv.Proofs.C13Kernel
import Yuiv.Proofs.Res
/-
C13 — `Trans`.  A transform is a chain of sparse factors; its meaning is the composite of their linear
maps (`fwdSem` / `bwdSem`), which `forward`, `forward_mat`, `reduce` and every history of the public API preserve.
-/
namespace Yuiv.C13
open Yuiv Res

variable {R : Type} [CommRing R]

/-- the forward factors compose: each is well formed and as wide as its predecessor is high, from `s` up to `t` -/
def ChainF : Nat → List (SpMat R) → Nat → Prop
  | s, [], t => s = t
  | s, f :: fs, t => f.WF ∧ f.ncols = s ∧ ChainF f.nrows fs t

/-- the backward factors compose the other way round: `b_0` has `s` rows, the last factor `t` columns -/
def ChainB : Nat → List (SpMat R) → Nat → Prop
  | s, [], t => s = t
  | s, b :: bs, t => b.WF ∧ b.nrows = s ∧ ChainB b.ncols bs t

/-- invariant of a `Trans`: the factors compose, from `src_dim` to `tgt_dim` -/
structure Trans.Inv (t : Trans R) : Prop where
  f : ChainF t.srcDim t.fMats t.tgtDim
  b : ChainB t.srcDim t.bMats t.tgtDim

/-- `f_n ∘ ⋯ ∘ f_0` -/
def fwdSem (fs : List (SpMat R)) (x : Nat → R) : Nat → R := fs.foldl (fun x f => f.apply x) x
/-- `b_0 ∘ ⋯ ∘ b_n` -/
def bwdSem (bs : List (SpMat R)) (y : Nat → R) : Nat → R := bs.foldr (fun b y => b.apply y) y

theorem fwdSem_append (fs gs : List (SpMat R)) (x : Nat → R) : fwdSem (fs ++ gs) x = fwdSem gs (fwdSem fs x) := by
  simp [fwdSem, List.foldl_append]

theorem bwdSem_append (bs cs : List (SpMat R)) (y : Nat → R) : bwdSem (bs ++ cs) y = bwdSem bs (bwdSem cs y) := by
  simp [bwdSem, List.foldr_append]

omit [CommRing R] in
theorem ChainF_append (s m t : Nat) (fs gs : List (SpMat R)) (h1 : ChainF s fs m) (h2 : ChainF m gs t) :
    ChainF s (fs ++ gs) t := by
  induction fs generalizing s with
  | nil => simp only [ChainF] at h1; subst h1; simpa using h2
  | cons f fs ih => exact ⟨h1.1, h1.2.1, ih _ h1.2.2⟩

omit [CommRing R] in
theorem ChainB_append (s m t : Nat) (bs cs : List (SpMat R)) (h1 : ChainB s bs m) (h2 : ChainB m cs t) :
    ChainB s (bs ++ cs) t := by
  induction bs generalizing s with
  | nil => simp only [ChainB] at h1; subst h1; simpa using h2
  | cons b bs ih => exact ⟨h1.1, h1.2.1, ih _ h1.2.2⟩

omit [CommRing R] in
/-- read from its far end, a backward chain is a forward chain, and `b_0 ∘ ⋯ ∘ b_n` is the forward composite of
`b_n, …, b_0` -/
theorem ChainB.reverse {s t : Nat} {bs : List (SpMat R)} (h : ChainB s bs t) : ChainF t bs.reverse s := by
  induction bs generalizing s with
  | nil => exact h.symm
  | cons b bs ih => rw [List.reverse_cons]; exact ChainF_append _ _ _ _ _ (ih h.2.2) ⟨h.1, rfl, h.2.1⟩

theorem bwdSem_eq_fwdSem (bs : List (SpMat R)) (y : Nat → R) : bwdSem bs y = fwdSem bs.reverse y := by
  rw [fwdSem, List.foldl_reverse]; rfl

theorem fwdSem_oob (s t : Nat) (fs : List (SpMat R)) (h : ChainF s fs t) (hne : fs ≠ []) (x : Nat → R) (i : Nat)
    (hi : ¬ i < t) : fwdSem fs x i = 0 := by
  induction fs generalizing s x with
  | nil => exact absurd rfl hne
  | cons f fs ih =>
    cases fs with
    | nil =>
      have : f.nrows = t := h.2.2
      simp only [fwdSem, List.foldl_cons, List.foldl_nil]
      exact apply_oob f h.1 x i (this ▸ hi)
    | cons g gs => exact ih _ h.2.2 (by simp) (f.apply x)

/-- a non-empty composite vanishes from `t` on, so cutting it off at `t` changes nothing -/
theorem id_fwdSem (s t : Nat) (fs : List (SpMat R)) (h : ChainF s fs t) (hne : fs ≠ []) (x : Nat → R) :
    (SpMat.id t : SpMat R).apply (fwdSem fs x) = fwdSem fs x := by
  funext i
  rw [id_apply]
  split
  · rfl
  · rename_i hi; exact (fwdSem_oob s t fs h hne x i hi).symm

/-- the identity in front of a non-empty chain is absorbed: the first factor reads only the coordinates below
its column count -/
theorem fwdSem_id (s t : Nat) (fs : List (SpMat R)) (h : ChainF s fs t) (hne : fs ≠ []) (x : Nat → R) :
    fwdSem fs ((SpMat.id s : SpMat R).apply x) = fwdSem fs x := by
  cases fs with
  | nil => exact absurd rfl hne
  | cons f fs =>
    have hf : f.ncols = s := h.2.1
    rw [fwdSem, List.foldl_cons, apply_congr f _ x (fun j hj => by rw [id_apply, if_pos (hf ▸ hj)])]
    rfl

theorem forward_fold (s t : Nat) (fs : List (SpMat R)) (h : ChainF s fs t) (v : SpVec R) (hv : v.WF) (hd : v.dim = s) :
    ∃ w, fs.foldlM (fun v f => f.mulVec v) v = ok w ∧ w.WF ∧ w.dim = t ∧ w.entry = fwdSem fs v.entry := by
  induction fs generalizing s v with
  | nil => exact ⟨v, rfl, hv, hd.trans h, rfl⟩
  | cons f fs ih =>
    obtain ⟨w1, h1, h2, h3, h4⟩ := mulVec_spec f v h.1 hv (by rw [h.2.1, hd])
    obtain ⟨w, hw1, hw2, hw3, hw4⟩ := ih _ h.2.2 w1 h3 h2
    refine ⟨w, by rw [List.foldlM_cons, h1]; exact hw1, hw2, hw3, ?_⟩
    rw [hw4, h4]; rfl

theorem backward_fold (s t : Nat) (bs : List (SpMat R)) (h : ChainB s bs t) (v : SpVec R) (hv : v.WF) (hd : v.dim = t) :
    ∃ w, bs.reverse.foldlM (fun v b => b.mulVec v) v = ok w ∧ w.WF ∧ w.dim = s ∧ w.entry = bwdSem bs v.entry := by
  rw [bwdSem_eq_fwdSem]
  exact forward_fold t s bs.reverse h.reverse v hv hd

theorem forwardMat_fold (s t : Nat) (fs : List (SpMat R)) (h : ChainF s fs t) (M0 : SpMat R) (h0 : M0.WF)
    (hd : M0.ncols = t) :
    ∃ M, fs.reverse.foldlM (fun res f => res.mul f) M0 = ok M ∧ M.WF ∧ M.nrows = M0.nrows ∧ M.ncols = s ∧
      ∀ x, M.apply x = M0.apply (fwdSem fs x) := by
  induction fs generalizing s with
  | nil => exact ⟨M0, rfl, h0, rfl, hd.trans (Eq.symm h), fun x => rfl⟩
  | cons f fs ih =>
    obtain ⟨M1, h1, h2, h3, h4, h5⟩ := ih _ h.2.2
    obtain ⟨M, hM, hM1, hM2, hM3, _⟩ := mul_spec M1 f h2 h.1 h4
    refine ⟨M, ?_, hM3, by rw [hM1, h3], by rw [hM2, h.2.1], ?_⟩
    · rw [List.reverse_cons, List.foldlM_append, h1]
      simp [hM]
    · intro x
      rw [mul_apply M1 f M h2 h.1 hM, h5]; rfl

theorem backwardMat_fold (s t : Nat) (bs : List (SpMat R)) (h : ChainB s bs t) (M0 : SpMat R) (h0 : M0.WF)
    (hd : M0.nrows = t) :
    ∃ M, bs.reverse.foldlM (fun res b => b.mul res) M0 = ok M ∧ M.WF ∧ M.nrows = s ∧ M.ncols = M0.ncols ∧
      ∀ y, M.apply y = bwdSem bs (M0.apply y) := by
  induction bs generalizing s with
  | nil => exact ⟨M0, rfl, h0, hd.trans (Eq.symm h), rfl, fun y => rfl⟩
  | cons b bs ih =>
    obtain ⟨M1, h1, h2, h3, h4, h5⟩ := ih _ h.2.2
    obtain ⟨M, hM, hM1, hM2, hM3, _⟩ := mul_spec b M1 h.1 h2 (by rw [h3])
    refine ⟨M, ?_, hM3, by rw [hM1, h.2.1], by rw [hM2, h4], ?_⟩
    · rw [List.reverse_cons, List.foldlM_append, h1]
      simp [hM]
    · intro y
      rw [mul_apply b M1 M h.1 h2 hM, h5]; rfl

/-- the guard is needed for the empty chain only: there `forward_mat` is the identity cut off at `tgt_dim` -/
theorem forwardMat_spec (t : Trans R) (h : t.Inv) :
    ∃ M, t.forwardMat = ok M ∧ M.WF ∧ M.nrows = t.tgtDim ∧ M.ncols = t.srcDim ∧
      (∀ x i, i < t.tgtDim → M.apply x i = fwdSem t.fMats x i) ∧ (t.fMats ≠ [] → ∀ x, M.apply x = fwdSem t.fMats x) := by
  have hf := h.f
  unfold Trans.forwardMat
  cases hfs : t.fMats with
  | nil =>
    rw [hfs] at hf
    simp only [ChainF] at hf
    refine ⟨SpMat.id t.tgtDim, rfl, id_wf _, rfl, by simp [SpMat.id, hf], ?_, fun e => absurd rfl e⟩
    intro x i hi
    rw [id_apply, if_pos hi]; rfl
  | cons f fs =>
    rw [hfs] at hf
    cases fs with
    | nil => exact ⟨f, rfl, hf.1, hf.2.2, hf.2.1, fun x i _ => rfl, fun _ x => rfl⟩
    | cons g gs =>
      obtain ⟨M, h1, h2, h3, h4, h5⟩ := forwardMat_fold _ _ _ hf (SpMat.id t.tgtDim) (id_wf _) rfl
      have h6 : ∀ x, M.apply x = fwdSem (f :: g :: gs) x := fun x => by rw [h5, id_fwdSem _ _ _ hf (by simp)]
      exact ⟨M, h1, h2, h3, h4, fun x i _ => by rw [h6], fun _ => h6⟩

theorem backwardMat_spec (t : Trans R) (h : t.Inv) :
    ∃ M, t.backwardMat = ok M ∧ M.WF ∧ M.nrows = t.srcDim ∧ M.ncols = t.tgtDim ∧
      (∀ y i, i < t.srcDim → M.apply y i = bwdSem t.bMats y i) ∧ (t.bMats ≠ [] → ∀ y, M.apply y = bwdSem t.bMats y) := by
  have hb := h.b
  unfold Trans.backwardMat
  cases hbs : t.bMats with
  | nil =>
    rw [hbs] at hb
    simp only [ChainB] at hb
    refine ⟨SpMat.id t.tgtDim, rfl, id_wf _, by simp [SpMat.id, hb], rfl, ?_, fun e => absurd rfl e⟩
    intro y i hi
    rw [id_apply, if_pos (hb ▸ hi)]; rfl
  | cons b bs =>
    rw [hbs] at hb
    cases bs with
    | nil => exact ⟨b, rfl, hb.1, hb.2.1, hb.2.2, fun y i _ => rfl, fun _ y => rfl⟩
    | cons c cs =>
      obtain ⟨M, h1, h2, h3, h4, h5⟩ := backwardMat_fold _ _ _ hb (SpMat.id t.tgtDim) (id_wf _) rfl
      have h6 : ∀ y, M.apply y = bwdSem (b :: c :: cs) y := fun y => by
        rw [h5, bwdSem_eq_fwdSem, fwdSem_id _ _ _ hb.reverse (by simp), ← bwdSem_eq_fwdSem]
      exact ⟨M, h1, h2, h3, h4, fun y i _ => by rw [h6], fun _ => h6⟩

omit [CommRing R] in
theorem id_inv (n : Nat) : (Trans.id n : Trans R).Inv := ⟨rfl, rfl⟩

omit [CommRing R] in
theorem append_eq (t : Trans R) (f b : SpMat R) :
    t.append f b = if f.ncols = b.nrows ∧ f.nrows = b.ncols ∧ f.ncols = t.tgtDim then
        ok { t with tgtDim := f.nrows, fMats := t.fMats ++ [f], bMats := t.bMats ++ [b] } else panic := by
  unfold Trans.append
  simp only [assert_bind, ite_and]

omit [CommRing R] in
theorem append_spec (t : Trans R) (ht : t.Inv) (f b : SpMat R) (hf : f.WF) (hb : b.WF)
    (h1 : f.ncols = b.nrows) (h2 : f.nrows = b.ncols) (h3 : f.ncols = t.tgtDim) :
    t.append f b = ok { t with tgtDim := f.nrows, fMats := t.fMats ++ [f], bMats := t.bMats ++ [b] } ∧
    ({ t with tgtDim := f.nrows, fMats := t.fMats ++ [f], bMats := t.bMats ++ [b] } : Trans R).Inv :=
  ⟨by rw [append_eq, if_pos ⟨h1, h2, h3⟩], ChainF_append _ _ _ _ _ ht.f ⟨hf, h3, rfl⟩,
    ChainB_append _ _ _ _ _ ht.b ⟨hb, by rw [← h1, h3], h2.symm⟩⟩

theorem forward_spec (t : Trans R) (ht : t.Inv) (v : SpVec R) (hv : v.WF) (hd : v.dim = t.srcDim) :
    ∃ w, t.forward v = ok w ∧ w.WF ∧ w.dim = t.tgtDim ∧ w.entry = fwdSem t.fMats v.entry := by
  obtain ⟨w, h1, h2, h3, h4⟩ := forward_fold _ _ _ ht.f v hv hd
  exact ⟨w, by simp [Trans.forward, Res.assert, hd, h1], h2, h3, h4⟩

theorem backward_spec (t : Trans R) (ht : t.Inv) (v : SpVec R) (hv : v.WF) (hd : v.dim = t.tgtDim) :
    ∃ w, t.backward v = ok w ∧ w.WF ∧ w.dim = t.srcDim ∧ w.entry = bwdSem t.bMats v.entry := by
  obtain ⟨w, h1, h2, h3, h4⟩ := backward_fold _ _ _ ht.b v hv hd
  exact ⟨w, by simp [Trans.backward, Res.assert, hd, h1], h2, h3, h4⟩

theorem entryT_selT (k : Nat) (l : List Nat) (a b : Nat) :
    entryT ((enumFrom' k l).map (fun x => match x with | (i, v) => (i, v, (1 : R)))) a b
      = if k ≤ a ∧ l[a - k]? = some b then 1 else 0 := by
  induction l generalizing k with
  | nil => simp [enumFrom']
  | cons v l ih =>
    rw [enumFrom', List.map_cons, entryT_cons, ih]
    dsimp only
    by_cases h1 : k = a
    · subst h1
      rw [if_neg (show ¬ (k + 1 ≤ k ∧ l[k - (k + 1)]? = some b) from fun h => Nat.not_succ_le_self k h.1), add_zero,
        Nat.sub_self, List.getElem?_cons_zero]
      exact if_congr (by simp) rfl rfl
    · rw [if_neg (show ¬ (k = a ∧ v = b) from fun h => h1 h.1), zero_add]
      by_cases h2 : k + 1 ≤ a
      · rw [show a - k = (a - (k + 1)) + 1 by omega, List.getElem?_cons_succ]
        exact if_congr (and_congr_left' ⟨fun _ => Nat.le_of_succ_le h2, fun _ => h2⟩) rfl rfl
      · rw [if_neg (show ¬ (k + 1 ≤ a ∧ _) from fun h => h2 h.1),
          if_neg (show ¬ (k ≤ a ∧ _) from fun h => h2 (Nat.lt_of_le_of_ne h.1 h1))]

theorem entryT_sel (k : Nat) (l : List Nat) (a b : Nat) :
    entryT ((enumFrom' k l).map (fun x => match x with | (i, v) => (v, i, (1 : R)))) a b
      = if k ≤ b ∧ l[b - k]? = some a then 1 else 0 := by
  rw [← entryT_selT (R := R), ← entryT_map_swap, List.map_map]
  rfl

theorem mem_enumFrom' {α : Type} (k : Nat) (l : List α) (x : Nat × α) (h : x ∈ enumFrom' k l) :
    ∃ i, ∃ hi : i < l.length, x.1 = k + i ∧ x.2 = l[i] := by
  induction l generalizing k with
  | nil => cases h
  | cons v l ih =>
    rcases List.mem_cons.mp h with rfl | h
    · exact ⟨0, Nat.zero_lt_succ _, rfl, rfl⟩
    · obtain ⟨i, hi, h1, h2⟩ := ih _ h
      exact ⟨i + 1, Nat.succ_lt_succ hi, by omega, h2⟩

theorem enumFrom'_inShape (m n : Nat) (l : List Nat) (hm : l.length ≤ m) (hn : ∀ j ∈ l, j < n) :
    ∀ x ∈ enumFrom' 0 l, x.1 < m ∧ x.2 < n := by
  intro x hx
  obtain ⟨i, hi, e1, e2⟩ := mem_enumFrom' _ _ _ hx
  exact ⟨by omega, e2 ▸ hn _ (List.getElem_mem hi)⟩

theorem permImages_ok (p : Perm) (hp : p.Valid) (l : List Nat) (hl : ∀ i ∈ l, i < p.dim) :
    permImages p l = ok (l.map p.fn) := by
  induction l with
  | nil => rfl
  | cons i l ih =>
    rw [permImages, p.at_ok hp i (hl i (by simp)), ih (fun j hj => hl j (by simp [hj]))]; rfl

theorem selT_spec [DecidableEq R] (m n : Nat) (l : List Nat) (hm : l.length ≤ m) (hn : ∀ j ∈ l, j < n) :
    ∃ F : SpMat R,
      fromEntries m n ((enumFrom' 0 l).map (fun x => match x with | (i, j) => (i, j, (1 : R)))) = ok F ∧
      F.WF ∧ F.nrows = m ∧ F.ncols = n ∧ ∀ i j, F.entry i j = if l[i]? = some j then 1 else 0 := by
  obtain ⟨F, h0, h1, h2, h3, h4⟩ := fromEntries_inShape m n
    ((enumFrom' 0 l).map (fun x => match x with | (i, j) => (i, j, (1 : R)))) (by
      intro t ht
      obtain ⟨⟨i, j⟩, hx, rfl⟩ := List.mem_map.mp ht
      exact enumFrom'_inShape m n l hm hn (i, j) hx)
  exact ⟨F, h0, h3, h1, h2, fun i j => by rw [h4, entryT_selT]; simp⟩

theorem sel_spec [DecidableEq R] (m n : Nat) (l : List Nat) (hm : l.length ≤ m) (hn : ∀ j ∈ l, j < n) :
    ∃ B : SpMat R,
      fromEntries n m ((enumFrom' 0 l).map (fun x => match x with | (i, j) => (j, i, (1 : R)))) = ok B ∧
      B.WF ∧ B.nrows = n ∧ B.ncols = m ∧ ∀ i j, B.entry i j = if l[j]? = some i then 1 else 0 := by
  obtain ⟨B, h0, h1, h2, h3, h4⟩ := fromEntries_inShape n m
    ((enumFrom' 0 l).map (fun x => match x with | (i, j) => (j, i, (1 : R)))) (by
      intro t ht
      obtain ⟨⟨i, j⟩, hx, rfl⟩ := List.mem_map.mp ht
      exact (enumFrom'_inShape m n l hm hn (i, j) hx).symm)
  exact ⟨B, h0, h3, h1, h2, fun i j => by rw [h4, entryT_sel]; simp⟩

theorem getElem?_map_range (n : Nat) (f : Nat → Nat) (i j : Nat) :
    ((List.range n).map f)[i]? = some j ↔ i < n ∧ f i = j := by
  by_cases hi : i < n
  · simp [hi]
  · simp [hi]

theorem permList_lt (p : Perm) (hp : p.Valid) : ∀ j ∈ (List.range p.dim).map p.fn, j < p.dim := by
  intro j hj
  obtain ⟨i, hi, rfl⟩ := List.mem_map.mp hj
  exact p.fn_lt hp i (List.mem_range.mp hi)

/-- any way of building a `Trans` with the public API -/
inductive Hist (R : Type) where
  | id (n : Nat)
  | new (f b : SpMat R)
  | append (h : Hist R) (f b : SpMat R)
  | appendPerm (h : Hist R) (p : Perm)
  | merge (h o : Hist R)
  | sub (h : Hist R) (indices : List Nat)
  | reduce (h : Hist R)

variable [DecidableEq R] in
def Hist.run : Hist R → Res (Trans R)
  | .id n => ok (Trans.id n)
  | .new f b => Trans.new f b
  | .append h f b => h.run >>= fun t => t.append f b
  | .appendPerm h p => h.run >>= fun t => t.appendPerm p
  | .merge h o => h.run >>= fun t => o.run >>= fun u => t.merge u
  | .sub h idx => h.run >>= fun t => t.sub idx
  | .reduce h => h.run >>= fun t => t.reduce

/-- the matrices handed to `new` / `append` are well-formed CSC data (every `SpMat` value is) -/
def Hist.Good : Hist R → Prop
  | .id _ => True
  | .new f b => f.WF ∧ b.WF
  | .append h f b => h.Good ∧ f.WF ∧ b.WF
  | .appendPerm h _ => h.Good
  | .merge h o => h.Good ∧ o.Good
  | .sub h _ => h.Good
  | .reduce h => h.Good

def resToList {α : Type} : Res α → List α
  | .ok a => [a]
  | _ => []

variable [DecidableEq R] in
/-- the forward factors `f_0, …, f_n` that the history appended, in order (`reduce` adds none) -/
def Hist.fFactors : Hist R → List (SpMat R)
  | .id _ => []
  | .new f _ => [f]
  | .append h f _ => h.fFactors ++ [f]
  | .appendPerm h p => h.fFactors ++ resToList (fromRowPerm p)
  | .merge h o => h.fFactors ++ o.fFactors
  | .sub h idx => h.fFactors ++ (match h.run with
      | .ok t => resToList (fromEntries idx.length t.tgtDim
          ((enumFrom' 0 idx).map (fun x => match x with | (i, j) => (i, j, (1 : R)))))
      | _ => [])
  | .reduce h => h.fFactors

variable [DecidableEq R] in
def Hist.bFactors : Hist R → List (SpMat R)
  | .id _ => []
  | .new _ b => [b]
  | .append h _ b => h.bFactors ++ [b]
  | .appendPerm h p => h.bFactors ++ resToList (fromColPerm p)
  | .merge h o => h.bFactors ++ o.bFactors
  | .sub h idx => h.bFactors ++ (match h.run with
      | .ok t => resToList (fromEntries t.tgtDim idx.length
          ((enumFrom' 0 idx).map (fun x => match x with | (i, j) => (j, i, (1 : R)))))
      | _ => [])
  | .reduce h => h.bFactors

omit [CommRing R] in
theorem append_of_ok (t : Trans R) (ht : t.Inv) (f b : SpMat R) (hf : f.WF) (hb : b.WF) (t' : Trans R)
    (h : t.append f b = ok t') :
    t' = { t with tgtDim := f.nrows, fMats := t.fMats ++ [f], bMats := t.bMats ++ [b] } ∧ t'.Inv := by
  by_cases hc : f.ncols = b.nrows ∧ f.nrows = b.ncols ∧ f.ncols = t.tgtDim
  · rw [append_eq, if_pos hc] at h; cases h
    exact ⟨rfl, (append_spec t ht f b hf hb hc.1 hc.2.1 hc.2.2).2⟩
  · rw [append_eq, if_neg hc] at h; cases h

theorem fromEntries_wf_of_ok [DecidableEq R] (m n : Nat) (es : List (Trip R)) (A : SpMat R) (h : fromEntries m n es = ok A) : A.WF :=
  (fromEntries_spec m n es A h).2.2.1

theorem fromRowPerm_wf_of_ok [DecidableEq R] (p : Perm) (F : SpMat R) (h : fromRowPerm p = ok F) : F.WF := by
  unfold fromRowPerm at h
  obtain ⟨im, _, h2⟩ := bind_eq_ok h
  exact fromEntries_wf_of_ok _ _ _ _ h2

theorem fromColPerm_wf_of_ok [DecidableEq R] (p : Perm) (F : SpMat R) (h : fromColPerm p = ok F) : F.WF := by
  unfold fromColPerm at h
  obtain ⟨im, _, h2⟩ := bind_eq_ok h
  exact fromEntries_wf_of_ok _ _ _ _ h2

end Yuiv.C13
