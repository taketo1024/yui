import Yuiv.Proofs.KhSnfDefs
import Yuiv.Proofs.KhSnfChain
/-
KhSnf — the dense integer elimination of the reference (`KhRef.findPivot`, `KhRef.pivotStep`) as pure folds with
entrywise specifications.  Row phase and column phase are one statement about "lines" (`phaseBody`, `LineOp`, `PhaseInv`).
-/
namespace Yuiv.KhSnf
open Yuiv.KhRef

/-- body of the inner loop of `findPivot` -/
def pivBody (a : Array (Array Int)) (i j : Nat) (best : Option (Nat × Nat × Nat)) : Option (Nat × Nat × Nat) :=
  if (afn a i j).natAbs = 0 then best
  else
    match best with
    | some (b, _, _) => if (afn a i j).natAbs < b then some ((afn a i j).natAbs, i, j) else best
    | none => some ((afn a i j).natAbs, i, j)

theorem findPivot_eq (a : Array (Array Int)) (t m n : Nat) :
    findPivot a t m n =
      (List.range' t (m - t)).foldl (fun best i => (List.range' t (n - t)).foldl (fun best j => pivBody a i j best) best) none := by
  unfold findPivot
  simp only [Std.Legacy.Range.forIn_eq_forIn_range', Std.Legacy.Range.size, Nat.add_sub_cancel, Nat.div_one]
  rw [Chain.forIn_yield (g := fun best i => (List.range' t (n - t)).foldl (fun best j => pivBody a i j best) best)]
  · rfl
  · intro i best
    rw [Chain.forIn_yield (g := fun best j => pivBody a i j best)]
    · rfl
    · intro j best
      unfold pivBody afn
      by_cases h : ((a[i]!)[j]!).natAbs = 0
      · simp [h]
      · simp only [bne_iff_ne, ne_eq, h, not_false_eq_true, if_true, if_false]
        rcases best with _ | ⟨b, x, y⟩
        · rfl
        · show (if _ then _ else _) = pure (ForInStep.yield (if _ then _ else _))
          split <;> rfl

/-- `best` is a correct answer of the pivot search over the positions `P` -/
def Good (a : Array (Array Int)) (t m n : Nat) (P : Nat → Nat → Prop) : Option (Nat × Nat × Nat) → Prop
  | none => ∀ i j, P i j → afn a i j = 0
  | some (v, pi, pj) => t ≤ pi ∧ pi < m ∧ t ≤ pj ∧ pj < n ∧ v = (afn a pi pj).natAbs ∧ v ≠ 0 ∧
      ∀ i j, P i j → afn a i j ≠ 0 → v ≤ (afn a i j).natAbs

theorem good_step {a : Array (Array Int)} {t m n : Nat} {P Q : Nat → Nat → Prop} {best : Option (Nat × Nat × Nat)} {i j : Nat}
    (hi : t ≤ i) (hi' : i < m) (hj : t ≤ j) (hj' : j < n) (hQ : ∀ i' j', Q i' j' → P i' j' ∨ (i' = i ∧ j' = j))
    (h : Good a t m n P best) : Good a t m n Q (pivBody a i j best) := by
  -- a bound for the non-zero entries at `P` that also holds at `(i, j)` is one for those at `Q`
  have ext : ∀ v : Nat, (∀ i' j', P i' j' → afn a i' j' ≠ 0 → v ≤ (afn a i' j').natAbs) →
      (afn a i j ≠ 0 → v ≤ (afn a i j).natAbs) → ∀ i' j', Q i' j' → afn a i' j' ≠ 0 → v ≤ (afn a i' j').natAbs := by
    intro v hP hij i' j' hq hne
    rcases hQ i' j' hq with hp | ⟨rfl, rfl⟩
    · exact hP i' j' hp hne
    · exact hij hne
  unfold pivBody
  by_cases h0 : (afn a i j).natAbs = 0
  · rw [if_pos h0]
    have h0' : afn a i j = 0 := Int.natAbs_eq_zero.mp h0
    match best, h with
    | none, h =>
      intro i' j' hq
      rcases hQ i' j' hq with hp | ⟨rfl, rfl⟩
      · exact h i' j' hp
      · exact h0'
    | some (v, pi, pj), ⟨h1, h2, h3, h4, h5, h6, h7⟩ =>
      exact ⟨h1, h2, h3, h4, h5, h6, ext v h7 (fun hne => absurd h0' hne)⟩
  · rw [if_neg h0]
    match best, h with
    | none, h =>
      exact ⟨hi, hi', hj, hj', rfl, h0, ext _ (fun i' j' hp hne => absurd (h i' j' hp) hne) (fun _ => Nat.le_refl _)⟩
    | some (v, pi, pj), ⟨h1, h2, h3, h4, h5, h6, h7⟩ =>
      show Good a t m n Q (if (afn a i j).natAbs < v then _ else _)
      by_cases hlt : (afn a i j).natAbs < v
      · rw [if_pos hlt]
        exact ⟨hi, hi', hj, hj', rfl, h0,
          ext _ (fun i' j' hp hne => Nat.le_trans (Nat.le_of_lt hlt) (h7 i' j' hp hne)) (fun _ => Nat.le_refl _)⟩
      · rw [if_neg hlt]
        exact ⟨h1, h2, h3, h4, h5, h6, ext v h7 (fun _ => Nat.le_of_not_lt hlt)⟩

theorem good_mono {a : Array (Array Int)} {t m n : Nat} {P Q : Nat → Nat → Prop} {best : Option (Nat × Nat × Nat)}
    (hQ : ∀ i j, Q i j → P i j) (h : Good a t m n P best) : Good a t m n Q best := by
  match best, h with
  | none, h => exact fun i j hq => h i j (hQ i j hq)
  | some (v, pi, pj), ⟨h1, h2, h3, h4, h5, h6, h7⟩ =>
    exact ⟨h1, h2, h3, h4, h5, h6, fun i j hq => h7 i j (hQ i j hq)⟩

theorem good_fold {a : Array (Array Int)} {t m n : Nat} (L : List (Nat × Nat))
    (hL : ∀ p ∈ L, t ≤ p.1 ∧ p.1 < m ∧ t ≤ p.2 ∧ p.2 < n) :
    ∀ (P : Nat → Nat → Prop) (best : Option (Nat × Nat × Nat)), Good a t m n P best →
      Good a t m n (fun i j => P i j ∨ (i, j) ∈ L) (L.foldl (fun best p => pivBody a p.1 p.2 best) best) := by
  induction L with
  | nil => exact fun P best h => good_mono (fun i j hq => hq.resolve_right (by simp)) h
  | cons p L ih =>
    intro P best h
    obtain ⟨h1, h2, h3, h4⟩ := hL p List.mem_cons_self
    refine good_mono ?_ (ih (fun q hq => hL q (List.mem_cons_of_mem _ hq)) _ _
      (good_step (Q := fun i j => P i j ∨ (i = p.1 ∧ j = p.2)) h1 h2 h3 h4 (fun _ _ hq => hq) h))
    rintro i j (hp | hm)
    · exact Or.inl (Or.inl hp)
    · rcases List.mem_cons.1 hm with e | hm
      · exact Or.inl (Or.inr ⟨congrArg Prod.fst e, congrArg Prod.snd e⟩)
      · exact Or.inr hm

theorem findPivot_good (a : Array (Array Int)) (t m n : Nat) :
    Good a t m n (fun i j => t ≤ i ∧ i < m ∧ t ≤ j ∧ j < n) (findPivot a t m n) := by
  rw [findPivot_eq]
  -- the nested fold is the fold over the list of positions of the block
  have e : ∀ best, (List.range' t (m - t)).foldl
        (fun best i => (List.range' t (n - t)).foldl (fun best j => pivBody a i j best) best) best =
      ((List.range' t (m - t)).flatMap (fun i => (List.range' t (n - t)).map (fun j => (i, j)))).foldl
        (fun best p => pivBody a p.1 p.2 best) best := by
    intro best
    rw [List.foldl_flatMap]
    simp only [List.foldl_map]
  rw [e]
  refine good_mono ?_ (good_fold _ ?_ (fun _ _ => False) none (fun _ _ h => h.elim))
  · rintro i j ⟨h1, h2, h3, h4⟩
    refine Or.inr ?_
    simp only [List.mem_flatMap, List.mem_map, List.mem_range'_1, Prod.mk.injEq]
    exact ⟨i, ⟨h1, by omega⟩, j, ⟨h3, by omega⟩, rfl, rfl⟩
  · intro p hp
    simp only [List.mem_flatMap, List.mem_map, List.mem_range'_1] at hp
    obtain ⟨i, ⟨h1, h2⟩, j, ⟨h3, h4⟩, rfl⟩ := hp
    exact ⟨h1, by omega, h3, by omega⟩

theorem findPivot_none {a : Array (Array Int)} {t m n : Nat} (h : findPivot a t m n = none) :
    ∀ i j, t ≤ i → i < m → t ≤ j → j < n → afn a i j = 0 := by
  have hg := findPivot_good a t m n
  rw [h] at hg
  exact fun i j h1 h2 h3 h4 => hg i j ⟨h1, h2, h3, h4⟩

theorem findPivot_some {a : Array (Array Int)} {t m n v pi pj : Nat} (h : findPivot a t m n = some (v, pi, pj)) :
    t ≤ pi ∧ pi < m ∧ t ≤ pj ∧ pj < n ∧ v = (afn a pi pj).natAbs ∧ v ≠ 0 ∧
    ∀ i j, t ≤ i → i < m → t ≤ j → j < n → afn a i j ≠ 0 → v ≤ (afn a i j).natAbs := by
  have hg := findPivot_good a t m n
  rw [h] at hg
  obtain ⟨h1, h2, h3, h4, h5, h6, h7⟩ := hg
  exact ⟨h1, h2, h3, h4, h5, h6, fun i j a1 a2 a3 a4 => h7 i j ⟨a1, a2, a3, a4⟩⟩

theorem findPivot_isSome_of_ne {a : Array (Array Int)} {t m n i j : Nat} (hi : t ≤ i) (hi' : i < m) (hj : t ≤ j) (hj' : j < n)
    (h : afn a i j ≠ 0) : ∃ p, findPivot a t m n = some p := by
  cases hf : findPivot a t m n with
  | none => exact absurd (findPivot_none hf i j hi hi' hj hj') h
  | some p => exact ⟨p, rfl⟩

theorem get_set {α} [Inhabited α] (a : Array α) (k i : Nat) (r : α) (hk : k < a.size) :
    (a.set! k r)[i]! = if i = k then r else a[i]! := by
  simp only [Array.set!_eq_setIfInBounds, getElem!_def, Array.getElem?_setIfInBounds]
  by_cases h : i = k
  · subst h; simp [hk]
  · have : ¬ k = i := fun e => h e.symm
    simp [h, this]

theorem get_map {α β} [Inhabited α] [Inhabited β] (a : Array α) (f : α → β) (i : Nat) (hi : i < a.size) :
    (a.map f)[i]! = f a[i]! := by
  simp [hi]

theorem get_mapIdx {α β} [Inhabited α] [Inhabited β] (a : Array α) (f : Nat → α → β) (i : Nat) (hi : i < a.size) :
    (a.mapIdx f)[i]! = f i a[i]! := by
  simp [hi]

def swapRows (a : Array (Array Int)) (pi t : Nat) : Array (Array Int) :=
  if (pi != t) = true then (a.set! pi a[t]!).set! t a[pi]! else a

def swapCols (a : Array (Array Int)) (pj t : Nat) : Array (Array Int) :=
  if (pj != t) = true then a.map (fun r => (r.set! pj r[t]!).set! t r[pj]!) else a

def rowOp (a : Array (Array Int)) (t i : Nat) (q : Int) : Array (Array Int) :=
  a.set! i (Array.mapIdx (fun j x => x - q * (a[t]!)[j]!) a[i]!)

def colOp (a : Array (Array Int)) (t j : Nat) (q : Int) : Array (Array Int) :=
  a.map (fun r => r.set! j (r[j]! - q * r[t]!))

/-- the transposition of `x` and `y` -/
def sw (x y i : Nat) : Nat := if i = x then y else if i = y then x else i

theorem sw_left (x y : Nat) : sw x y x = y := if_pos rfl

theorem sw_self (x y : Nat) : sw x y y = x := by
  unfold sw
  split
  · assumption
  · exact if_pos rfl

theorem sw_fix {x y i : Nat} (h1 : i ≠ x) (h2 : i ≠ y) : sw x y i = i := by
  rw [sw, if_neg h1, if_neg h2]

theorem sw_same (x i : Nat) : sw x x i = i := by
  by_cases h : i = x
  · rw [h, sw_left]
  · exact sw_fix h h

theorem sw_sw (x y i : Nat) : sw x y (sw x y i) = i := by
  by_cases h1 : i = x
  · rw [h1, sw_left, sw_self]
  · by_cases h2 : i = y
    · rw [h2, sw_self, sw_left]
    · rw [sw_fix h1 h2, sw_fix h1 h2]

theorem sw_mem {P : Nat → Prop} {x y i : Nat} (hx : P x) (hy : P y) (hi : P i) : P (sw x y i) := by
  unfold sw
  split
  · exact hy
  · split
    · exact hx
    · exact hi

theorem sw_lt {x y i b : Nat} (hx : x < b) (hy : y < b) (hi : i < b) : sw x y i < b := sw_mem (P := (· < b)) hx hy hi

theorem sw_ge {x y i t : Nat} (hx : t ≤ x) (hy : t ≤ y) (hi : t ≤ i) : t ≤ sw x y i := sw_mem (P := (t ≤ ·)) hx hy hi

theorem get_swap {α} [Inhabited α] (x : Array α) (p t i : Nat) (hp : p < x.size) (ht : t < x.size) :
    ((x.set! p x[t]!).set! t x[p]!)[i]! = x[sw p t i]! := by
  rw [get_set _ _ _ _ (by simpa using ht), get_set _ _ _ _ hp]
  by_cases h1 : i = t
  · rw [if_pos h1, h1, sw_self]
  · rw [if_neg h1]
    by_cases h2 : i = p
    · rw [if_pos h2, h2, sw_left]
    · rw [if_neg h2, sw_fix h2 h1]

theorem swapRows_spec {a : Array (Array Int)} {m n pi t : Nat} (hS : Shape a m n) (hpi : pi < m) (ht : t < m) :
    Shape (swapRows a pi t) m n ∧ ∀ i j, afn (swapRows a pi t) i j = afn a (sw pi t i) j := by
  obtain ⟨hm, hn⟩ := hS
  by_cases h : pi = t
  · subst h
    rw [swapRows, if_neg (by simp)]
    exact ⟨⟨hm, hn⟩, fun i j => by rw [sw_same]⟩
  · rw [swapRows, if_pos (by simpa using h)]
    have key : ∀ i, ((a.set! pi a[t]!).set! t a[pi]!)[i]! = a[sw pi t i]! :=
      fun i => get_swap a pi t i (hm ▸ hpi) (hm ▸ ht)
    refine ⟨⟨by simp [hm], fun i hi => ?_⟩, fun i j => ?_⟩
    · rw [key]
      exact hn _ (sw_lt hpi ht hi)
    · unfold afn; rw [key]

theorem swapCols_spec {a : Array (Array Int)} {m n pj t : Nat} (hS : Shape a m n) (hpj : pj < n) (ht : t < n) :
    Shape (swapCols a pj t) m n ∧ ∀ i j, i < m → j < n → afn (swapCols a pj t) i j = afn a i (sw pj t j) := by
  obtain ⟨hm, hn⟩ := hS
  by_cases h : pj = t
  · subst h
    rw [swapCols, if_neg (by simp)]
    exact ⟨⟨hm, hn⟩, fun i j _ _ => by rw [sw_same]⟩
  · rw [swapCols, if_pos (by simpa using h)]
    refine ⟨⟨by simp [hm], fun i hi => ?_⟩, fun i j hi hj => ?_⟩
    · rw [get_map _ _ _ (by omega)]
      simp [hn i hi]
    · unfold afn
      rw [get_map _ _ _ (by omega), get_swap _ pj t j (by rw [hn i hi]; exact hpj) (by rw [hn i hi]; exact ht)]

theorem rowOp_spec {a : Array (Array Int)} {m n t i : Nat} (q : Int) (hS : Shape a m n) (hi : i < m) :
    Shape (rowOp a t i q) m n ∧ ∀ i' j, i' < m → j < n →
      afn (rowOp a t i q) i' j = if i' = i then afn a i j - q * afn a t j else afn a i' j := by
  obtain ⟨hm, hn⟩ := hS
  unfold rowOp
  refine ⟨⟨by simp [hm], fun i' hi' => ?_⟩, fun i' j hi' hj => ?_⟩
  · rw [get_set _ _ _ _ (by omega)]
    split
    · simp [hn i hi]
    · exact hn i' hi'
  · unfold afn
    rw [get_set _ _ _ _ (by omega)]
    split
    · rw [get_mapIdx _ _ _ (by rw [hn i hi]; exact hj)]
    · rfl

theorem colOp_spec {a : Array (Array Int)} {m n t j : Nat} (q : Int) (hS : Shape a m n) (hj : j < n) :
    Shape (colOp a t j q) m n ∧ ∀ i j', i < m → j' < n →
      afn (colOp a t j q) i j' = if j' = j then afn a i j - q * afn a i t else afn a i j' := by
  obtain ⟨hm, hn⟩ := hS
  unfold colOp
  refine ⟨⟨by simp [hm], fun i hi => ?_⟩, fun i j' hi hj' => ?_⟩
  · rw [get_map _ _ _ (by omega)]
    simp [hn i hi]
  · unfold afn
    rw [get_map _ _ _ (by omega), get_set _ _ _ _ (by rw [hn i hi]; exact hj)]

theorem rem_lt (v pv : Int) (h : pv ≠ 0) : (v - v / pv * pv).natAbs < pv.natAbs := by
  have e : v - v / pv * pv = v % pv := by rw [Int.emod_def, Int.mul_comm]
  rw [e]
  have h1 := Int.emod_nonneg v h
  rcases Int.lt_or_gt_of_ne h with hneg | hpos
  · have h2 := Int.emod_lt_of_pos v (show 0 < -pv by omega)
    rw [Int.emod_neg] at h2
    omega
  · have h2 := Int.emod_lt_of_pos v hpos
    omega

/-- one step of a phase on the state (matrix, clean flag). A "line" is a row in the row phase and a column in the column
phase; `E x k j` reads position `j` of line `k`, `op x k q` subtracts `q` times line `t` from line `k`. If the entry of
line `k` in the pivot position is non-zero, it is reduced by the pivot; the flag is cleared if a remainder is left. -/
def phaseBody (E : Array (Array Int) → Nat → Nat → Int) (op : Array (Array Int) → Nat → Int → Array (Array Int))
    (t : Nat) (pv : Int) (k : Nat) (s : Array (Array Int) × Bool) : Array (Array Int) × Bool :=
  if E s.1 k t = 0 then s
  else (op s.1 k (E s.1 k t / pv), if E (op s.1 k (E s.1 k t / pv)) k t = 0 then s.2 else false)

def rowBody (t : Nat) (pv : Int) : Nat → Array (Array Int) × Bool → Array (Array Int) × Bool :=
  phaseBody afn (fun x k q => rowOp x t k q) t pv

def colBody (t : Nat) (pv : Int) : Nat → Array (Array Int) × Bool → Array (Array Int) × Bool :=
  phaseBody (fun x j i => afn x i j) (fun x k q => colOp x t k q) t pv

def rowPhase (a : Array (Array Int)) (t m : Nat) : Array (Array Int) × Bool :=
  (List.range' (t + 1) (m - (t + 1))).foldl (fun s i => rowBody t (a[t]!)[t]! i s) (a, true)

def colPhase (s : Array (Array Int) × Bool) (pv : Int) (t n : Nat) : Array (Array Int) × Bool :=
  if s.2 = true then (List.range' (t + 1) (n - (t + 1))).foldl (fun s j => colBody t pv j s) s else s

/-- the closing test of `pivotStep`: clean only if column `t` below and row `t` right of the pivot are zero -/
def finalFlag (s : Array (Array Int) × Bool) (t m n : Nat) : Bool :=
  if s.2 = true then
    ((List.range (m - t - 1)).all fun d => (s.1[t + 1 + d]!)[t]! == 0) &&
      (List.range (n - t - 1)).all fun d => (s.1[t]!)[t + 1 + d]! == 0
  else false

/-- `pivotStep` with the pivot already at `(t, t)` -/
def phases (a : Array (Array Int)) (t m n : Nat) : Array (Array Int) × Int × Bool :=
  ((colPhase (rowPhase a t m) (a[t]!)[t]! t n).1, (a[t]!)[t]!, finalFlag (colPhase (rowPhase a t m) (a[t]!)[t]! t n) t m n)

/-- the two branches that differ only in the `clean` flag, as one `yield` -/
theorem yield_flag {σ : Type} (c : Prop) [Decidable c] (x : σ) (b : Bool) :
    (if ¬ c then (pure (ForInStep.yield (x, false)) : Id _) else pure (ForInStep.yield (x, b))) =
      pure (ForInStep.yield (x, if c then b else false)) := by
  by_cases h : c
  · rw [if_neg (not_not_intro h), if_pos h]
  · rw [if_pos h, if_neg h]

/-- the swaps of `pivotStep` first: the rest is `pivotStep` with the pivot already at `(t, t)`. The `if`s of the model
select a continuation, not a value, so the four cases are taken one by one. -/
theorem pivotStep_swap (a : Array (Array Int)) (t m n pi pj : Nat) :
    pivotStep a t m n pi pj = pivotStep (swapCols (swapRows a pi t) pj t) t m n t t := by
  unfold pivotStep swapRows swapCols
  by_cases h1 : (pi != t) = true <;> by_cases h2 : (pj != t) = true
  · simp -zeta only [h1, h2, bne_self_eq_false, Bool.false_eq_true, if_true, if_false]
    rfl
  · simp -zeta only [h1, h2, bne_self_eq_false, Bool.false_eq_true, if_true, if_false]
    rfl
  · simp -zeta only [h1, h2, bne_self_eq_false, Bool.false_eq_true, if_true, if_false]
    rfl
  · simp -zeta only [h1, h2, bne_self_eq_false, Bool.false_eq_true, if_false]

theorem pivotStep_at (a1 : Array (Array Int)) (t m n : Nat) : pivotStep a1 t m n t t = phases a1 t m n := by
  unfold pivotStep
  simp -zeta only [bne_self_eq_false, Bool.false_eq_true, if_false]
  show Id.run _ = _
  simp only [Std.Legacy.Range.forIn_eq_forIn_range', Std.Legacy.Range.size, Nat.add_sub_cancel, Nat.div_one]
  rw [Loop.forIn_eq_foldl (g := fun s i => rowBody t (a1[t]!)[t]! i s)]
  · simp only [pure_bind]
    rw [Loop.forIn_eq_foldl (g := fun s j => colBody t (a1[t]!)[t]! j s)]
    · simp only [pure_bind]
      unfold phases colPhase finalFlag rowPhase
      generalize List.foldl (fun b a => rowBody t (a1[t]!)[t]! a b) (a1, true) (List.range' (t + 1) (m - (t + 1))) = s1
      obtain ⟨a2, c⟩ := s1
      cases c
      · simp only [Bool.false_eq_true, if_false]; rfl
      · simp only [if_true]
        generalize List.foldl (fun b a => colBody t (a1[t]!)[t]! a b) (a2, true) (List.range' (t + 1) (n - (t + 1))) = s2
        obtain ⟨a3, c⟩ := s2
        cases c
        · simp only [Bool.false_eq_true, if_false]; rfl
        · simp only [if_true]; rfl
    · intro j _ s
      show _ = pure (ForInStep.yield (if (s.1[t]!)[j]! = 0 then s else
        (colOp s.1 t j _, if ((colOp s.1 t j _)[t]!)[j]! = 0 then s.2 else false)))
      unfold colOp
      by_cases h : (s.1[t]!)[j]! = 0
      · simp [h]
      · simp only [bne_iff_ne, ne_eq, h, not_false_eq_true, if_true, if_false]
        exact yield_flag ..
  · intro i _ s
    show _ = pure (ForInStep.yield (if (s.1[i]!)[t]! = 0 then s else
      (rowOp s.1 t i _, if ((rowOp s.1 t i _)[i]!)[t]! = 0 then s.2 else false)))
    unfold rowOp
    by_cases h : (s.1[i]!)[t]! = 0
    · simp [h]
    · simp only [bne_iff_ne, ne_eq, h, not_false_eq_true, if_true, if_false]
      exact yield_flag ..

theorem pivotStep_eq (a : Array (Array Int)) (t m n pi pj : Nat) :
    pivotStep a t m n pi pj = phases (swapCols (swapRows a pi t) pj t) t m n := by
  rw [pivotStep_swap, pivotStep_at]

theorem flag_true {c : Prop} [Decidable c] {b : Bool} (h : (if c then b else false) = true) : c ∧ b = true := by
  by_cases hc : c
  · exact ⟨hc, (if_pos hc).symm.trans h⟩
  · exact absurd ((if_neg hc).symm.trans h) Bool.false_ne_true

theorem flag_false {c : Prop} [Decidable c] {b : Bool} (h : (if c then b else false) = false) (hc : c) : b = false :=
  (if_pos hc).symm.trans h

section Phase
variable {E : Array (Array Int) → Nat → Nat → Int} {op : Array (Array Int) → Nat → Int → Array (Array Int)}
  {OK : Array (Array Int) → Prop} {M N t : Nat}

/-- invariant of a phase after the lines `t < i < k`; `S` is the matrix before the phase, line `i` has been replaced by
itself minus `q i` times line `t`, and lines whose pivot position was zero are untouched -/
def PhaseInv (E : Array (Array Int) → Nat → Nat → Int) (OK : Array (Array Int) → Prop) (M N : Nat)
    (S : Nat → Nat → Int) (pv : Int) (t k : Nat) (s : Array (Array Int) × Bool) : Prop :=
  OK s.1 ∧
  (∃ q : Nat → Int, (∀ i, i ≤ t ∨ k ≤ i → q i = 0) ∧ (∀ i, S i t = 0 → q i = 0) ∧
    ∀ i j, i < M → j < N → E s.1 i j = S i j - q i * S t j) ∧
  (s.2 = true → ∀ i, t < i → i < k → E s.1 i t = 0) ∧
  (s.2 = false → ∃ i, t < i ∧ i < k ∧ E s.1 i t ≠ 0 ∧ (E s.1 i t).natAbs < pv.natAbs)

/-- what the phases need to know about `op`: it keeps the shape and acts on the entries as a line operation -/
def LineOp (E : Array (Array Int) → Nat → Nat → Int) (op : Array (Array Int) → Nat → Int → Array (Array Int))
    (OK : Array (Array Int) → Prop) (M N t : Nat) : Prop :=
  ∀ x k q, OK x → k < M → OK (op x k q) ∧
    ∀ i j, i < M → j < N → E (op x k q) i j = if i = k then E x k j - q * E x t j else E x i j

theorem phaseInv_init {x : Array (Array Int)} (hx : OK x) :
    PhaseInv E OK M N (E x) (E x t t) t (t + 1) (x, true) := by
  refine ⟨hx, ⟨fun _ => 0, fun _ _ => rfl, fun _ _ => rfl, fun i j _ _ => ?_⟩, fun _ i h1 h2 => ?_, fun hc => ?_⟩
  · show E x i j = E x i j - 0 * E x t j
    rw [Int.zero_mul, Int.sub_zero]
  · omega
  · exact Bool.noConfusion hc

theorem phaseInv_step {S : Nat → Nat → Int} {pv : Int} {k : Nat} {s : Array (Array Int) × Bool}
    (hop : LineOp E op OK M N t) (hpv : pv ≠ 0) (hS : S t t = pv) (ht : t < N) (htk : t < k) (hk : k < M)
    (h : PhaseInv E OK M N S pv t k s) : PhaseInv E OK M N S pv t (k + 1) (phaseBody E op t pv k s) := by
  obtain ⟨hsh, ⟨q, hq0, hqz, hq⟩, hT, hF⟩ := h
  unfold phaseBody
  by_cases h0 : E s.1 k t = 0
  · rw [if_pos h0]
    refine ⟨hsh, ⟨q, fun i hi => hq0 i (by omega), hqz, hq⟩, fun hc i h1 h2 => ?_, fun hc => ?_⟩
    · by_cases e : i = k
      · subst e; exact h0
      · exact hT hc i h1 (by omega)
    · obtain ⟨i, h1, h2, h3, h4⟩ := hF hc
      exact ⟨i, h1, by omega, h3, h4⟩
  · rw [if_neg h0]
    have tm : t < M := by omega
    -- lines `t` and `k` are still those of `S`
    have htj : ∀ j, j < N → E s.1 t j = S t j := by
      intro j hj
      rw [hq t j tm hj, hq0 t (Or.inl (Nat.le_refl _)), Int.zero_mul, Int.sub_zero]
    have hkj : ∀ j, j < N → E s.1 k j = S k j := by
      intro j hj
      rw [hq k j hk hj, hq0 k (Or.inr (Nat.le_refl _)), Int.zero_mul, Int.sub_zero]
    obtain ⟨hsh', hent⟩ := hop s.1 k (E s.1 k t / pv) hsh hk
    have hnew : E (op s.1 k (E s.1 k t / pv)) k t = E s.1 k t - E s.1 k t / pv * pv := by
      rw [hent k t hk ht, if_pos rfl, htj t ht, hS]
    have hlt := rem_lt (E s.1 k t) pv hpv
    refine ⟨hsh', ⟨fun i => if i = k then E s.1 k t / pv else q i, fun i hi => ?_, fun i hi => ?_,
      fun i j hi hj => ?_⟩, fun hc i h1 h2 => ?_, fun hc => ?_⟩
    · show (if i = k then _ else _) = _
      rw [if_neg (by omega)]
      exact hq0 i (by omega)
    · show (if i = k then _ else _) = _
      by_cases e : i = k
      · exfalso; apply h0; rw [hkj t ht, ← e]; exact hi
      · rw [if_neg e]; exact hqz i hi
    · show _ = S i j - (if i = k then _ else _) * S t j
      rw [hent i j hi hj]
      by_cases e : i = k
      · rw [if_pos e, if_pos e, hkj j hj, htj j hj, e]
      · rw [if_neg e, if_neg e, hq i j hi hj]
    · dsimp only at hc
      obtain ⟨e0, hc⟩ := flag_true hc
      by_cases e : i = k
      · rw [e]; exact e0
      · show E (op s.1 k (E s.1 k t / pv)) i t = 0
        rw [hent i t (by omega) ht, if_neg e]
        exact hT hc i h1 (by omega)
    · dsimp only at hc
      show ∃ i, t < i ∧ i < k + 1 ∧ E (op s.1 k (E s.1 k t / pv)) i t ≠ 0 ∧
        (E (op s.1 k (E s.1 k t / pv)) i t).natAbs < pv.natAbs
      by_cases e0 : E (op s.1 k (E s.1 k t / pv)) k t = 0
      · obtain ⟨i, h1, h2, h3, h4⟩ := hF (flag_false hc e0)
        refine ⟨i, h1, by omega, ?_⟩
        rw [hent i t (by omega) ht, if_neg (by omega)]
        exact ⟨h3, h4⟩
      · refine ⟨k, htk, by omega, e0, ?_⟩
        rw [hnew]; exact hlt

theorem phaseInv_fold {S : Nat → Nat → Int} {pv : Int} (hop : LineOp E op OK M N t)
    (hpv : pv ≠ 0) (hS : S t t = pv) (ht : t < N) (len : Nat) :
    ∀ (k : Nat) (s : Array (Array Int) × Bool), t < k → k + len ≤ M → PhaseInv E OK M N S pv t k s →
      PhaseInv E OK M N S pv t (k + len) ((List.range' k len).foldl (fun s i => phaseBody E op t pv i s) s) := by
  induction len with
  | zero => intro k s _ _ h; exact h
  | succ len ih =>
    intro k s htk hkm h
    rw [List.range'_succ, List.foldl_cons, show k + (len + 1) = (k + 1) + len by omega]
    exact ih (k + 1) _ (by omega) (by omega) (phaseInv_step hop hpv hS ht htk (by omega) h)

theorem phaseInv_all {x : Array (Array Int)} (hop : LineOp E op OK M N t) (hx : OK x) (htM : t < M) (htN : t < N)
    (hpv : E x t t ≠ 0) :
    PhaseInv E OK M N (E x) (E x t t) t M
      ((List.range' (t + 1) (M - (t + 1))).foldl (fun s i => phaseBody E op t (E x t t) i s) (x, true)) := by
  have := phaseInv_fold hop hpv rfl htN (M - (t + 1)) (t + 1) (x, true) (by omega) (by omega) (phaseInv_init hx)
  rw [show t + 1 + (M - (t + 1)) = M by omega] at this
  exact this

end Phase

theorem lineOp_row (m n t : Nat) : LineOp afn (fun x k q => rowOp x t k q) (fun x => Shape x m n) m n t :=
  fun _ _ q hx hk => rowOp_spec q hx hk

theorem lineOp_col (m n t : Nat) :
    LineOp (fun x j i => afn x i j) (fun x k q => colOp x t k q) (fun x => Shape x m n) n m t :=
  fun _ _ q hx hk => ⟨(colOp_spec q hx hk).1, fun j i hj hi => (colOp_spec q hx hk).2 i j hi hj⟩

theorem rowPhase_spec {a : Array (Array Int)} {t m n : Nat} (hS : Shape a m n) (htm : t < m) (htn : t < n)
    (hpv : afn a t t ≠ 0) :
    PhaseInv afn (fun x => Shape x m n) m n (afn a) (afn a t t) t m (rowPhase a t m) :=
  phaseInv_all (lineOp_row m n t) hS htm htn hpv

theorem colPhase_spec {b : Array (Array Int)} {t m n : Nat} (hS : Shape b m n) (htm : t < m) (htn : t < n)
    (hpv : afn b t t ≠ 0) :
    PhaseInv (fun x j i => afn x i j) (fun x => Shape x m n) n m (fun j i => afn b i j) (afn b t t) t n
      (colPhase (b, true) (afn b t t) t n) := by
  unfold colPhase
  rw [if_pos rfl]
  exact phaseInv_all (lineOp_col m n t) hS htn htm hpv

theorem finalFlag_true {s : Array (Array Int) × Bool} {t m n : Nat} (h : finalFlag s t m n = true) :
    s.2 = true ∧ (∀ i, t < i → i < m → afn s.1 i t = 0) ∧ (∀ j, t < j → j < n → afn s.1 t j = 0) := by
  unfold finalFlag at h
  by_cases h2 : s.2 = true
  · rw [if_pos h2, Bool.and_eq_true, List.all_eq_true, List.all_eq_true] at h
    refine ⟨h2, fun i h1 h3 => ?_, fun j h1 h3 => ?_⟩
    · have := h.1 (i - t - 1) (List.mem_range.mpr (by omega))
      rw [show t + 1 + (i - t - 1) = i by omega] at this
      exact eq_of_beq this
    · have := h.2 (j - t - 1) (List.mem_range.mpr (by omega))
      rw [show t + 1 + (j - t - 1) = j by omega] at this
      exact eq_of_beq this
  · rw [if_neg h2] at h
    exact Bool.noConfusion h

theorem finalFlag_of {s : Array (Array Int) × Bool} {t m n : Nat} (h2 : s.2 = true)
    (hc : ∀ i, t < i → i < m → afn s.1 i t = 0) (hr : ∀ j, t < j → j < n → afn s.1 t j = 0) :
    finalFlag s t m n = true := by
  unfold finalFlag
  rw [if_pos h2, Bool.and_eq_true, List.all_eq_true, List.all_eq_true]
  refine ⟨fun d hd => ?_, fun d hd => ?_⟩
  · have hd' := List.mem_range.mp hd
    exact beq_iff_eq.mpr (hc (t + 1 + d) (by omega) (by omega))
  · have hd' := List.mem_range.mp hd
    exact beq_iff_eq.mpr (hr (t + 1 + d) (by omega) (by omega))

/-- one round of the dense elimination: with `S i j = a (sw pi t i) (sw pj t j)` (rows `pi ↔ t`, columns `pj ↔ t`
swapped), `B i j = S i j - qr i * S t j` (row phase), the result is `B i j - qc j * B i t` (column phase; a column whose
entry in the swapped pivot row is zero gets no column operation); the flag is `true` only if column `t` below and row `t`
right of the pivot are zero, and if it is `false` a non-zero remainder of smaller absolute value than the pivot is left
in the block -/
theorem pivotStep_spec {a : Array (Array Int)} {t m n pi pj : Nat} (hS : Shape a m n)
    (hpi : t ≤ pi) (hpi' : pi < m) (hpj : t ≤ pj) (hpj' : pj < n) (hpv : afn a pi pj ≠ 0) :
    let r := pivotStep a t m n pi pj
    Shape r.1 m n ∧ r.2.1 = afn a pi pj ∧
    ∃ qr qc : Nat → Int, (∀ i, i ≤ t → qr i = 0) ∧ (∀ j, j ≤ t → qc j = 0) ∧
      (∀ j, afn a pi (sw pj t j) = 0 → qc j = 0) ∧
      (∀ i j, i < m → j < n →
        afn r.1 i j =
          (afn a (sw pi t i) (sw pj t j) - qr i * afn a (sw pi t t) (sw pj t j)) -
            qc j * (afn a (sw pi t i) (sw pj t t) - qr i * afn a (sw pi t t) (sw pj t t))) ∧
      (r.2.2 = true → (∀ i, t < i → i < m → afn r.1 i t = 0) ∧ (∀ j, t < j → j < n → afn r.1 t j = 0)) ∧
      (r.2.2 = false → ∃ i j, t ≤ i ∧ i < m ∧ t ≤ j ∧ j < n ∧ afn r.1 i j ≠ 0 ∧
        (afn r.1 i j).natAbs < (afn a pi pj).natAbs) := by
  intro r
  have htm : t < m := by omega
  have htn : t < n := by omega
  obtain ⟨hS1, hE1⟩ := swapRows_spec hS hpi' htm
  obtain ⟨hS2, hE2⟩ := swapCols_spec hS1 hpj' htn
  have hr : r = phases (swapCols (swapRows a pi t) pj t) t m n := pivotStep_eq a t m n pi pj
  generalize swapCols (swapRows a pi t) pj t = a2 at hS2 hE2 hr
  have hA : ∀ i j, i < m → j < n → afn a2 i j = afn a (sw pi t i) (sw pj t j) := by
    intro i j hi hj; rw [hE2 i j hi hj, hE1]
  have hpv2 : afn a2 t t = afn a pi pj := by rw [hA t t htm htn, sw_self, sw_self]
  have hRow := rowPhase_spec hS2 htm htn (by rw [hpv2]; exact hpv)
  have hr' : r = ((colPhase (rowPhase a2 t m) (afn a2 t t) t n).1, afn a2 t t,
      finalFlag (colPhase (rowPhase a2 t m) (afn a2 t t) t n) t m n) := hr
  generalize rowPhase a2 t m = sR at hRow hr'
  obtain ⟨b, c⟩ := sR
  obtain ⟨hshR, ⟨qr, hqr0, -, hqr⟩, hRT, hRF⟩ := hRow
  have hform : ∀ (qc : Nat → Int) (x : Array (Array Int)),
      (∀ i j, i < m → j < n → afn x i j = afn b i j - qc j * afn b i t) →
      ∀ i j, i < m → j < n → afn x i j =
          (afn a (sw pi t i) (sw pj t j) - qr i * afn a (sw pi t t) (sw pj t j)) -
            qc j * (afn a (sw pi t i) (sw pj t t) - qr i * afn a (sw pi t t) (sw pj t t)) := by
    intro qc x hx i j hi hj
    rw [hx i j hi hj, hqr i j hi hj, hqr i t hi htn, hA i j hi hj, hA t j htm hj, hA i t hi htn, hA t t htm htn]
  cases c with
  | false =>
    have e : colPhase (b, false) (afn a2 t t) t n = (b, false) := by
      unfold colPhase; rw [if_neg (fun h => Bool.noConfusion h)]
    rw [e] at hr'
    have hflag : r.2.2 = false := by rw [hr']; rfl
    have h1 : r.1 = b := by rw [hr']
    have h2 : r.2.1 = afn a2 t t := by rw [hr']
    rw [h1, h2, hflag]
    refine ⟨hshR, hpv2, qr, fun _ => 0, fun i hi => hqr0 i (Or.inl hi), fun _ _ => rfl, fun _ _ => rfl, ?_, ?_, ?_⟩
    · exact hform (fun _ => 0) b (fun i j _ _ => by rw [Int.zero_mul, Int.sub_zero])
    · intro h; exact Bool.noConfusion h
    · intro _
      obtain ⟨i, h1, h2, h3, h4⟩ := hRF rfl
      exact ⟨i, t, by omega, h2, Nat.le_refl _, htn, h3, by rw [← hpv2]; exact h4⟩
  | true =>
    have hbt : afn b t t = afn a2 t t := by
      rw [hqr t t htm htn, hqr0 t (Or.inl (Nat.le_refl _)), Int.zero_mul, Int.sub_zero]
    have hCol := colPhase_spec hshR htm htn (by rw [hbt, hpv2]; exact hpv)
    rw [hbt] at hCol
    generalize colPhase (b, true) (afn a2 t t) t n = sC at hCol hr'
    obtain ⟨hshC, ⟨qc, hqc0, hqcz, hqc'⟩, hCT, hCF⟩ := hCol
    -- the column phase is stated for columns as lines: back to (row, column) order
    have hqc : ∀ i j, i < m → j < n → afn sC.1 i j = afn b i j - qc j * afn b i t :=
      fun i j hi hj => hqc' j i hj hi
    have h1 : r.1 = sC.1 := by rw [hr']
    have h2 : r.2.1 = afn a2 t t := by rw [hr']
    have h3 : r.2.2 = finalFlag sC t m n := by rw [hr']
    rw [h1, h2, h3]
    refine ⟨hshC, hpv2, qr, qc, fun i hi => hqr0 i (Or.inl hi), fun j hj => hqc0 j (Or.inl hj), fun j hj => ?_,
      hform qc sC.1 hqc, fun h => (finalFlag_true h).2, fun h => ?_⟩
    · by_cases hjn : j < n
      · apply hqcz
        show afn b t j = 0
        rw [hqr t j htm hjn, hqr0 t (Or.inl (Nat.le_refl _)), Int.zero_mul, Int.sub_zero, hA t j htm hjn, sw_self]
        exact hj
      · exact hqc0 j (Or.inr (by omega))
    have hc2 : sC.2 = false := by
      cases hc : sC.2 with
      | false => rfl
      | true =>
        have : finalFlag sC t m n = true := by
          refine finalFlag_of hc (fun i hi hi' => ?_) (fun j hj hj' => hCT hc j hj hj')
          rw [hqc i t (by omega) htn, hqc0 t (Or.inl (Nat.le_refl _)), Int.zero_mul, Int.sub_zero]
          exact hRT rfl i hi hi'
        rw [this] at h
        exact Bool.noConfusion h
    obtain ⟨j, h1, h2, h3, h4⟩ := hCF hc2
    exact ⟨t, j, Nat.le_refl _, htm, by omega, h2, h3, by rw [← hpv2]; exact h4⟩

theorem pivotStep_spec_weak {a : Array (Array Int)} {t m n pi pj : Nat} (hS : Shape a m n)
    (hpi : t ≤ pi) (hpi' : pi < m) (hpj : t ≤ pj) (hpj' : pj < n) (hpv : afn a pi pj ≠ 0) :
    let r := pivotStep a t m n pi pj
    Shape r.1 m n ∧ r.2.1 = afn a pi pj ∧
    ∃ qr qc : Nat → Int, (∀ i, i ≤ t → qr i = 0) ∧ (∀ j, j ≤ t → qc j = 0) ∧
      (∀ i j, i < m → j < n →
        afn r.1 i j =
          (afn a (sw pi t i) (sw pj t j) - qr i * afn a (sw pi t t) (sw pj t j)) -
            qc j * (afn a (sw pi t i) (sw pj t t) - qr i * afn a (sw pi t t) (sw pj t t))) ∧
      (r.2.2 = true → (∀ i, t < i → i < m → afn r.1 i t = 0) ∧ (∀ j, t < j → j < n → afn r.1 t j = 0)) ∧
      (r.2.2 = false → ∃ i j, t ≤ i ∧ i < m ∧ t ≤ j ∧ j < n ∧ afn r.1 i j ≠ 0 ∧
        (afn r.1 i j).natAbs < (afn a pi pj).natAbs) := by
  obtain ⟨h1, h2, qr, qc, h3, h4, _, h5, h6, h7⟩ := pivotStep_spec hS hpi hpi' hpj hpj' hpv
  exact ⟨h1, h2, qr, qc, h3, h4, h5, h6, h7⟩

end Yuiv.KhSnf
