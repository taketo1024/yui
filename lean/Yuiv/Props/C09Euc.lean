import Yuiv.Proofs.C09Int
import Yuiv.Proofs.C09EucInst
import Yuiv.Proofs.C09EucGauss
/-
C09 — Smith normal form, clauses (S) shape and (T) termination/totality of the code model of `SnfCalc::process`
(`Model/C09.lean`) for ANY lawful Euclidean operation record `e : EOps α` (`LawfulEuc e φ`, `φ : α → K` an
interpretation in a commutative domain `K`; see `Proofs/C09Euc.lean` for the fields).  ANY preprocessing, any fuel,
debug or release build; the termination measures are the Euclidean size of the pivot in `eliminate_at` and the tuple
of sizes of the diagonal in the lexicographic order in `diag_normalize`.

Instances proved: ℤ (`intOps`), ℚ (`ratOps`), 𝔽_p (`fpOps p`,
`p` prime) — these are all the operation records of `Model/C09.lean` / `Drv/C09.lean` — and the Gaussian integers
(`gaussOps`, `Proofs/C09EucGauss.lean`, following `qint.rs`; with the generic `EucRing::gcdx` of `euc_ring.rs`).
Not done: Eisenstein integers, polynomials over a field (no operation record in the model; see the report).
-/
namespace Yuiv.C09
open Yuiv Matrix

variable {α K : Type} [CommRing K] [IsDomain K] {e : EOps α} {φ : α → K} {m n : Nat}

/-- `EucRing::divides` decides divisibility by a non-zero element (from `a = (a/b)·b + a%b`, `size(a%b) < size b`,
`size a ≤ size b` for `a ∣ b ≠ 0`) -/
theorem euc_divides_iff (L : LawfulEuc e φ) (a b : α) : e.dvd a b = true ↔ φ a ≠ 0 ∧ φ a ∣ φ b := L.dvd_iff a b

/-- the local wrapper `SnfCalc::gcdx` on a non-zero pivot `x` that is normalised (inside `eliminate_at`) or does
not divide `y` (in `diag_normalize_step`): `d ≠ 0` normalised, `x = a·d`, `y = b·d` for the quotients the code
computes, `s·a + t·b = 1` (so the `debug_assert!` on the determinant holds), and either the second coefficient is
`0` (the opposite line is not re-filled) or `d` is strictly smaller than `x` -/
theorem gcdx_wrapper_euc (L : LawfulEuc e φ) (x y : α) (hx : φ x ≠ 0)
    (hn : φ (e.normUnit x) = 1 ∨ ¬ φ x ∣ φ y) :
    φ (gcdxW e x y).1 ≠ 0 ∧ φ (e.normUnit (gcdxW e x y).1) = 1 ∧
    φ x = φ (e.quo x (gcdxW e x y).1) * φ (gcdxW e x y).1 ∧
    φ y = φ (e.quo y (gcdxW e x y).1) * φ (gcdxW e x y).1 ∧
    φ (gcdxW e x y).2.1 * φ (e.quo x (gcdxW e x y).1) + φ (gcdxW e x y).2.2 * φ (e.quo y (gcdxW e x y).1) = 1 ∧
    (φ (gcdxW e x y).2.2 = 0 ∨ e.size (gcdxW e x y).1 < e.size x) := L.gcdxW_data x y hx (hn.imp_left Or.inl)

/-- `eliminate_at(i, j)` on a non-zero normalised pivot, whenever it returns: the pivot is non-zero, normalised,
divides the old pivot, and is the only non-zero entry of its row and of its column -/
theorem eliminateAt_isolates_pivot_euc (L : LawfulEuc e φ) (dbg : Bool) (i : Fin m) (j : Fin n) (fuel : Nat)
    (s s' : St α m n) (h : eliminateAt e dbg i j fuel s = .ok s') (hp : φ (s.t.get i j) ≠ 0)
    (hn : φ (e.normUnit (s.t.get i j)) = 1) :
    φ (s'.t.get i j) ≠ 0 ∧ φ (e.normUnit (s'.t.get i j)) = 1 ∧ φ (s'.t.get i j) ∣ φ (s.t.get i j) ∧
      (∀ c, c ≠ j → φ (s'.t.get i c) = 0) ∧ (∀ r, r ≠ i → φ (s'.t.get r j) = 0) :=
  ((Euc.eliminateAt_conv L L.pivotInv_norm (Euc.frameOK_true i j) dbg _ s rfl trivial hp hn).post h).2

/-- the loop invariant of `eliminate_all` is kept by `eliminate_at(i, i)`: clearing pivot `i` does not re-fill the
rows/columns of the isolated pivots `< i` nor the zero columns `i < c ≤ j` -/
theorem eliminateAt_keeps_processed_pivots_euc (L : LawfulEuc e φ) (dbg : Bool) (i : Fin m) (hi : i.1 < n)
    (j fuel : Nat) (s s' : St α m n) (h : eliminateAt e dbg i ⟨i.1, hi⟩ fuel s = .ok s')
    (hp : φ (s.t.get i ⟨i.1, hi⟩) ≠ 0) (hn : φ (e.normUnit (s.t.get i ⟨i.1, hi⟩)) = 1)
    (hinv : Euc.EAinv φ i.1 (i.1 + 1) (j + 1) s.t) : Euc.EAinv φ i.1 (i.1 + 1) (j + 1) s'.t :=
  ((Euc.eliminateAt_conv L L.pivotInv_norm (Euc.frameOK_EAinv L i ⟨i.1, hi⟩ rfl j) dbg _ s rfl hinv hp hn).post h).1

/-- `eliminate_all`, from ANY start state, whenever it returns: the target is diagonal and its non-zero diagonal
entries come first -/
theorem eliminateAll_diagonal_euc (L : LawfulEuc e φ) (dbg : Bool) (fuel : Nat) (s s' : St α m n)
    (h : eliminateAll e dbg fuel s = .ok s') :
    (∀ (r : Fin m) (c : Fin n), r.1 ≠ c.1 → φ (s'.t.get r c) = 0) ∧
      (∀ k l, k ≤ l → φ (dg e.toROps s'.t k) = 0 → φ (dg e.toROps s'.t l) = 0) :=
  (Euc.eliminateAll_conv L dbg s).elim fun _ hB => hB.post h

/-- one step of `diag_normalize` on a diagonal matrix, whenever it returns: the matrix stays diagonal, only
`d_i, d_{i+1}` change, both stay non-zero, and when the step answers `false` (the pass restarts) the Euclidean
size of `d_i` strictly decreases — `(x, y) ↦ (gcd, lcm)` up to units -/
theorem diagNormalizeStep_gcd_lcm_euc (L : LawfulEuc e φ) (dbg : Bool) (s : St α m n) (i : Nat) (hm : i + 1 < m)
    (hn : i + 1 < n) (r : St α m n × Bool) (h : diagNormalizeStep e dbg s i hm hn = .ok r)
    (hD : ∀ (r : Fin m) (c : Fin n), r.1 ≠ c.1 → φ (s.t.get r c) = 0) :
    (∀ (R : Fin m) (C : Fin n), R.1 ≠ C.1 → φ (r.1.t.get R C) = 0) ∧
    (∀ k, k ≠ i → k ≠ i + 1 → φ (dg e.toROps r.1.t k) = φ (dg e.toROps s.t k)) ∧
    φ (dg e.toROps s.t i) ≠ 0 ∧ φ (dg e.toROps s.t (i + 1)) ≠ 0 ∧
    φ (dg e.toROps r.1.t i) ≠ 0 ∧ φ (dg e.toROps r.1.t (i + 1)) ≠ 0 ∧
    (r.2 = false → e.size (dg e.toROps r.1.t i) < e.size (dg e.toROps s.t i)) :=
  let ⟨h1, h2, h3, h4, h5, h6, h7, _⟩ := Euc.diagStep_dg L dbg s i hm hn r h hD
  ⟨h1, h2, h3, h4, h5, h6, h7⟩

/-- `diag_normalize` on a diagonal matrix whose non-zero diagonal entries come first, whenever it returns: the
checker accepts the result -/
theorem diagNormalize_shape_euc (L : LawfulEuc e φ) (dbg : Bool) (fuel : Nat) (s s' : St α m n)
    (h : diagNormalize e dbg fuel s = .ok s')
    (hD : ∀ (r : Fin m) (c : Fin n), r.1 ≠ c.1 → φ (s.t.get r c) = 0)
    (hN : ∀ k l, k ≤ l → φ (dg e.toROps s.t k) = 0 → φ (dg e.toROps s.t l) = 0) :
    isSnfShape e s'.t = true := (Euc.diagNormalize_conv L dbg s hD).elim fun _ hB => hB.post h hN

/-- for every lawful Euclidean operation record, every matrix, every preprocessing `pre`,
every fuel, debug or release build: whenever the code model of `SnfCalc::process` returns, the verified checker
accepts its target -/
theorem snf_shape_euc (L : LawfulEuc e φ) (dbg : Bool) (pre : St α m n → Res (St α m n)) (fuel : Nat)
    (A : Mat α m n) (s : St α m n) (h : snfCalc e dbg pre fuel A = .ok s) : isSnfShape e s.t = true :=
  Euc.snfCalc_shape L dbg pre fuel A s h

/-- `snf_shape_euc`, the mathematical statement: the result is diagonal and its diagonal consists of `r`
non-zero normalised entries, each dividing the next, followed by zeros -/
theorem snf_shape_spec_euc (L : LawfulEuc e φ) (dbg : Bool) (pre : St α m n → Res (St α m n)) (fuel : Nat)
    (A : Mat α m n) (s : St α m n) (h : snfCalc e dbg pre fuel A = .ok s) :
    (∀ (i : Fin m) (j : Fin n), i.1 ≠ j.1 → φ (s.t.get i j) = 0) ∧
      ShapeSpec (NormalisedIn e φ) ((diagL s.t).map φ) := by
  have hs := Euc.snfCalc_shape L dbg pre fuel A s h
  simp only [isSnfShape, Bool.and_eq_true] at hs
  refine ⟨(isDiag_iff L.lawful s.t).1 hs.1, ?_⟩
  exact shapeL_sound L.lawful (NormalisedIn e φ) (fun a ha => ⟨a, rfl, (L.isNorm_iff a).1 ha⟩)
    (fun a b hab => ((L.dvd_iff a b).1 hab).2) _ hs.2

/-- shape and transform together (debug build, identity preprocessing): `D = P·A·Q` with `P·P⁻¹ = Q·Q⁻¹ = 1` and
`D` in Smith normal form -/
theorem snf_correct_euc (L : LawfulEuc e φ) (fuel : Nat) (A : Mat α m n) (s : St α m n)
    (h : snfCalc e true (fun s => .ok s) fuel A = .ok s) :
    (toM φ s.p * toM φ A * toM φ s.q = toM φ s.t ∧ toM φ s.p * toM φ s.pinv = 1 ∧
      toM φ s.q * toM φ s.qinv = 1) ∧
    (∀ (i : Fin m) (j : Fin n), i.1 ≠ j.1 → φ (s.t.get i j) = 0) ∧
      ShapeSpec (NormalisedIn e φ) ((diagL s.t).map φ) :=
  ⟨inv_snfCalc L.toLawfulE _ (fun s s' h hi => by cases h; exact hi) fuel s h,
    snf_shape_spec_euc L true _ fuel A s h⟩

/-- the `while` loop of `eliminate_at(i, j)` on a non-zero normalised pivot never
runs out of fuel when `fuel ≥ size(pivot) + 2`: an iteration either leaves the pivot isolated, so that the next
test exits, or strictly decreases `size(pivot)` -/
theorem eliminateAt_terminates_euc (L : LawfulEuc e φ) (dbg : Bool) (i : Fin m) (j : Fin n) (fuel : Nat)
    (s : St α m n) (hp : φ (s.t.get i j) ≠ 0) (hn : φ (e.normUnit (s.t.get i j)) = 1)
    (hf : e.size (s.t.get i j) + 2 ≤ fuel) : eliminateAt e dbg i j fuel s ≠ .err :=
  (Euc.eliminateAt_conv L L.pivotInv_norm (Euc.frameOK_true i j) dbg _ s rfl trivial hp hn).ne_err hf

/-- `eliminate_all` is a `for` loop; the fuel is handed to `eliminate_at`, whose
pivot `eliminate_step` has normalised and asserted to be non-zero -/
theorem eliminateAll_terminates_euc (L : LawfulEuc e φ) (dbg : Bool) (s : St α m n) :
    ∃ N, ∀ fuel, N ≤ fuel → eliminateAll e dbg fuel s ≠ .err :=
  (Euc.eliminateAll_conv L dbg s).imp fun _ hB _ hf => hB.ne_err hf

/-- on a diagonal matrix `diag_normalize` has a fuel bound: every pass of the
`'outer` loop that does not go through strictly decreases `(size d_0, …, size d_{r-1})` lexicographically -/
theorem diagNormalize_terminates_euc (L : LawfulEuc e φ) (dbg : Bool) (s : St α m n)
    (hD : ∀ (r : Fin m) (c : Fin n), r.1 ≠ c.1 → φ (s.t.get r c) = 0) :
    ∃ N, ∀ fuel, N ≤ fuel → diagNormalize e dbg fuel s ≠ .err :=
  (Euc.diagNormalize_conv L dbg s hD).imp fun _ hB _ hf => hB.ne_err hf

/-- for every matrix and every preprocessing that does not itself report an error there
is a fuel bound from which on the code model of `SnfCalc::process` never reports fuel exhaustion -/
theorem snf_terminates_euc (L : LawfulEuc e φ) (dbg : Bool) (pre : St α m n → Res (St α m n)) (A : Mat α m n)
    (hpre : pre (St.init e.toROps A) ≠ .err) :
    ∃ N, ∀ fuel, N ≤ fuel → snfCalc e dbg pre fuel A ≠ .err := Euc.snfCalc_exists_fuel L dbg pre A hpre

/-- `eliminate_at` on a non-zero normalised pivot never panics -/
theorem eliminateAt_never_panics_euc (L : LawfulEuc e φ) (dbg : Bool) (i : Fin m) (j : Fin n) (fuel : Nat)
    (s : St α m n) (hp : φ (s.t.get i j) ≠ 0) (hn : φ (e.normUnit (s.t.get i j)) = 1) :
    eliminateAt e dbg i j fuel s ≠ .panic :=
  (Euc.eliminateAt_conv L L.pivotInv_norm (Euc.frameOK_true i j) dbg _ s rfl trivial hp hn).ne_panic fuel

/-- the code model of `SnfCalc::process` never panics unless the preprocessing does -/
theorem snf_never_panics_euc (L : LawfulEuc e φ) (dbg : Bool) (pre : St α m n → Res (St α m n)) (fuel : Nat)
    (A : Mat α m n) (hpre : pre (St.init e.toROps A) ≠ .panic) : snfCalc e dbg pre fuel A ≠ .panic :=
  Euc.snfCalc_ne_panic L dbg pre fuel A hpre

/-- if the preprocessing returns, there are a fuel bound `N` and a state `s` such that the code
model returns exactly `s` for every `fuel ≥ N` -/
theorem snf_total_euc (L : LawfulEuc e φ) (dbg : Bool) (pre : St α m n → Res (St α m n)) (A : Mat α m n)
    (s1 : St α m n) (hpre : pre (St.init e.toROps A) = .ok s1) :
    ∃ N s, ∀ fuel, N ≤ fuel → snfCalc e dbg pre fuel A = .ok s := Euc.snfCalc_total L dbg pre A s1 hpre

/-- everything together for the model the driver runs (identity preprocessing, debug
build): with enough fuel it returns a state with `D = P·A·Q`, `P·P⁻¹ = Q·Q⁻¹ = 1`, and `D` in Smith normal form -/
theorem snf_total_correct_euc (L : LawfulEuc e φ) (A : Mat α m n) :
    ∃ N s, (∀ fuel, N ≤ fuel → snfCalc e true (fun s => .ok s) fuel A = .ok s) ∧
      (toM φ s.p * toM φ A * toM φ s.q = toM φ s.t ∧ toM φ s.p * toM φ s.pinv = 1 ∧
        toM φ s.q * toM φ s.qinv = 1) ∧
      (∀ (i : Fin m) (j : Fin n), i.1 ≠ j.1 → φ (s.t.get i j) = 0) ∧
      ShapeSpec (NormalisedIn e φ) ((diagL s.t).map φ) := by
  obtain ⟨N, s, h⟩ := Euc.snfCalc_total L true (fun s => .ok s) A _ rfl
  exact ⟨N, s, h, snf_correct_euc L N A s (h N (Nat.le_refl _))⟩

/-- ℤ (`intOps`: truncated `/ %`, `normalizing_unit = sign`, `gcdx = extended_gcd` normalised) is lawful -/
theorem int_lawfulEuc : LawfulEuc intOps (id : Int → Int) := lawfulEuc_int

/-- ℚ (`ratOps`) is lawful -/
theorem rat_lawfulEuc : LawfulEuc ratOps (id : Rat → Rat) := lawfulEuc_rat

/-- 𝔽_p (`fpOps p`, residues as natural numbers) is lawful for every prime `p` -/
theorem fp_lawfulEuc (p : Nat) [Fact p.Prime] : LawfulEuc (fpOps p) (fun a : Nat => (a : ZMod p)) := lawfulEuc_fp p

/-- the ℤ instance of `snf_shape_euc` -/
theorem snf_shape_int_of_euc (dbg : Bool) (pre : St Int m n → Res (St Int m n)) (fuel : Nat) (A : Mat Int m n)
    (s : St Int m n) (h : snfCalc intOps dbg pre fuel A = .ok s) : isSnfShape intOps s.t = true :=
  snf_shape_euc lawfulEuc_int dbg pre fuel A s h

/-- the ℤ instance of `snf_total_euc` -/
theorem snf_total_int_of_euc (dbg : Bool) (pre : St Int m n → Res (St Int m n)) (A : Mat Int m n)
    (s1 : St Int m n) (hpre : pre (St.init intOps.toROps A) = .ok s1) :
    ∃ N s, ∀ fuel, N ≤ fuel → snfCalc intOps dbg pre fuel A = .ok s := snf_total_euc lawfulEuc_int dbg pre A s1 hpre

/-- over ℚ: with enough fuel the model returns a correct Smith normal form (entries `0` or `1`: over a field
"normalised and non-zero" means `= 1`) -/
theorem snf_total_correct_rat (A : Mat Rat m n) :
    ∃ N s, (∀ fuel, N ≤ fuel → snfCalc ratOps true (fun s => .ok s) fuel A = .ok s) ∧
      (toM id s.p * toM id A * toM id s.q = toM id s.t ∧ toM id s.p * toM id s.pinv = 1 ∧
        toM id s.q * toM id s.qinv = 1) ∧
      (∀ (i : Fin m) (j : Fin n), i.1 ≠ j.1 → s.t.get i j = 0) ∧
      ShapeSpec (fun x : Rat => x = 1) (diagL s.t) := by
  obtain ⟨N, s, h1, h2, h3, r, hr, k1, k2, k3⟩ := snf_total_correct_euc lawfulEuc_rat A
  refine ⟨N, s, h1, h2, h3, r, by simpa using hr, ?_, ?_, ?_⟩
  · intro i hi hir
    obtain ⟨a1, a, ha, hn⟩ := k1 i (by simpa using hi) hir
    simp only [List.getElem_map, id] at a1 ha hn
    refine ⟨a1, ?_⟩
    subst ha
    simp only [ratOps] at hn
    split at hn
    · rename_i h0; exact absurd (by simpa using h0) a1
    · exact inv_eq_one.1 hn
  · intro i hi hri
    simpa using k2 i (by simpa using hi) hri
  · intro i hi hir
    simpa using k3 i (by simpa using hi) hir

/-- over 𝔽_p (`p` prime): with enough fuel the model returns a correct Smith normal form -/
theorem snf_total_correct_fp (p : Nat) [Fact p.Prime] (A : Mat Nat m n) :
    ∃ N s, (∀ fuel, N ≤ fuel → snfCalc (fpOps p) true (fun s => .ok s) fuel A = .ok s) ∧
      (toM (fun a : Nat => (a : ZMod p)) s.p * toM (fun a : Nat => (a : ZMod p)) A *
          toM (fun a : Nat => (a : ZMod p)) s.q = toM (fun a : Nat => (a : ZMod p)) s.t ∧
        toM (fun a : Nat => (a : ZMod p)) s.p * toM (fun a : Nat => (a : ZMod p)) s.pinv = 1 ∧
        toM (fun a : Nat => (a : ZMod p)) s.q * toM (fun a : Nat => (a : ZMod p)) s.qinv = 1) ∧
      isSnfShape (fpOps p) s.t = true := by
  obtain ⟨N, s, h1, h2, _⟩ := snf_total_correct_euc (lawfulEuc_fp p) A
  exact ⟨N, s, h1, h2, snf_shape_euc (lawfulEuc_fp p) true _ N A s (h1 N (Nat.le_refl _))⟩

/-- the generic `EucRing::gcdx` (`euc_ring.rs`: early returns, extended Euclidean loop, final normalisation) over
lawful base operations is an extended gcd with a normalised result — so every ring that uses the default `gcdx`
only has to establish the base laws -/
theorem generic_gcdx_lawful (L : LawfulEucBase e φ) (x y : α) :
    φ (genGcdx e x y).1 = φ (genGcdx e x y).2.1 * φ x + φ (genGcdx e x y).2.2 * φ y ∧
    (φ (genGcdx e x y).1 ∣ φ x ∧ φ (genGcdx e x y).1 ∣ φ y) ∧ φ (e.normUnit (genGcdx e x y).1) = 1 :=
  genGcdx_spec L x y

/-- the Gaussian integers (`gaussOps`: rounding division, quadrant normalisation, generic `gcdx`) are lawful -/
theorem gauss_lawfulEuc : LawfulEuc gaussOps gφ := lawfulEuc_gauss

/-- over ℤ[i]: with enough fuel the model returns `D = P·A·Q`, `P·P⁻¹ = Q·Q⁻¹ = 1`, `D` in Smith normal form with
the non-zero diagonal entries in the quadrant `re > 0, im ≥ 0` -/
theorem snf_total_correct_gauss (A : Mat (Int × Int) m n) :
    ∃ N s, (∀ fuel, N ≤ fuel → snfCalc gaussOps true (fun s => .ok s) fuel A = .ok s) ∧
      (toM gφ s.p * toM gφ A * toM gφ s.q = toM gφ s.t ∧ toM gφ s.p * toM gφ s.pinv = 1 ∧
        toM gφ s.q * toM gφ s.qinv = 1) ∧
      isSnfShape gaussOps s.t = true ∧
      ∀ x ∈ diagL s.t, (0 < x.1 ∧ 0 ≤ x.2) ∨ x = (0, 0) := by
  obtain ⟨N, s, h1, h2, _⟩ := snf_total_correct_euc lawfulEuc_gauss A
  have hs := snf_shape_euc lawfulEuc_gauss true _ N A s (h1 N (Nat.le_refl _))
  refine ⟨N, s, h1, h2, hs, ?_⟩
  intro x hx
  rcases isSnfShape_mem lawfulEuc_gauss.toLawfulEucBase _ hs x hx with h | h
  · exact Or.inr (gφ_inj h)
  · rcases (gNormUnit_eq_one x).1 h with h' | h'
    · exact Or.inl h'
    · exact Or.inr (Prod.ext h'.1 h'.2)

/-- the hypotheses are satisfiable: over 𝔽_5 the model returns on a rank-2 matrix, with diagonal `(1, 1)` -/
example : (match snfCalc (fpOps 5) true (fun s => .ok s) 50 (⟨#v[#v[2, 3, 0], #v[1, 4, 2]]⟩ : Mat Nat 2 3) with
    | .ok s => diagL s.t == [1, 1]
    | _ => false) = true := by decide +kernel

/-- … and over ℤ through the abstract theorem: the result of the model on a concrete matrix is accepted -/
example : ∀ s, snfCalc intOps true (fun s => .ok s) 50 (⟨#v[#v[4, 6, 0], #v[6, 10, 2]]⟩ : Mat Int 2 3) = .ok s →
    isSnfShape intOps s.t = true := fun s h => snf_shape_euc lawfulEuc_int true _ 50 _ s h

/-- the pivot hypotheses of `eliminateAt_isolates_pivot_euc` are satisfiable non-trivially: pivot `2 > 0` over ℤ -/
example : ∃ s : St Int 2 2, id (s.t.get 0 0) ≠ 0 ∧ id (intOps.normUnit (s.t.get 0 0)) = 1 ∧
    (eliminateAt intOps true 0 0 10 s matches .ok _) :=
  ⟨St.init intOps.toROps ⟨#v[#v[2, 3], #v[4, 5]]⟩, by decide, by decide, by decide +kernel⟩

/-- over ℤ[i] the model returns on a concrete matrix: `[[1+i, 2], [0, 3+i]] ↦ diag(1+i, 3+i)` -/
example : (match snfCalc gaussOps true (fun s => .ok s) 50
      (⟨#v[#v[(1, 1), (2, 0)], #v[(0, 0), (3, 1)]]⟩ : Mat (Int × Int) 2 2) with
    | .ok s => diagL s.t == [(1, 1), (3, 1)] && isSnfShape gaussOps s.t
    | _ => false) = true := by decide +kernel

/-- the hypothesis "pivot normalised" of `eliminateAt_never_panics_euc` is NOT an artefact: over ℤ[i],
`eliminate_at` on the non-normalised pivot `i` (column `(i, 1)ᵀ`) trips the `debug_assert!` on the determinant —
the wrapper `SnfCalc::gcdx` hands out `(d, s, t) = (1, i, 0)` with `s·x + t·y = -1 ≠ d`.  (`eliminate_step`
always normalises the pivot before calling `eliminate_at`, so `SnfCalc::process` never gets there.) -/
example : (match eliminateAt gaussOps true (0 : Fin 2) (0 : Fin 1) 10
      (St.init gaussOps.toROps ⟨#v[#v[(0, 1)], #v[(1, 0)]]⟩) with
    | .panic => true
    | _ => false) = true := by decide +kernel

/-- … and in a release build (no `debug_assert!`) the same call returns with `P·P⁻¹ ≠ 1` -/
example : (match eliminateAt gaussOps false (0 : Fin 2) (0 : Fin 1) 10
      (St.init gaussOps.toROps ⟨#v[#v[(0, 1)], #v[(1, 0)]]⟩) with
    | .ok s => !isIdentity gaussOps.toROps (matMul gaussOps.toROps s.p s.pinv)
    | _ => false) = true := by decide +kernel

local instance : Fact (Nat.Prime 5) := ⟨Nat.prime_five⟩

/-- `LawfulEuc` is inhabited by four different rings -/
example : LawfulEuc intOps (id : Int → Int) ∧ LawfulEuc ratOps (id : Rat → Rat) ∧
    LawfulEuc (fpOps 5) (fun a : Nat => (a : ZMod 5)) ∧ LawfulEuc gaussOps gφ :=
  ⟨lawfulEuc_int, lawfulEuc_rat, lawfulEuc_fp 5, lawfulEuc_gauss⟩

end Yuiv.C09
