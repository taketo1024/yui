import Yuiv.Model.C08
import Mathlib.Data.Matrix.Mul
import Mathlib.Algebra.BigOperators.Fin
import Mathlib.Algebra.BigOperators.Ring.Finset
/-
C08 — the checker.  `toM φ A r c` is the Mathlib matrix (over `β`, through a ring homomorphism `φ : α →+* β`) denoted
by a stored matrix `A` on the declared shape `r × c`; `Spec φ x` lists the identities the checker decides.
-/
namespace Yuiv.C08
open Matrix

theorem allN_iff (n : Nat) (p : Nat → Bool) : allN n p = true ↔ ∀ i, i < n → p i = true := by
  induction n with
  | zero => simp [allN]
  | succ n ih =>
    simp only [allN, Bool.and_eq_true, ih]
    constructor
    · rintro ⟨h1, h2⟩ i hi
      rcases Nat.lt_succ_iff_lt_or_eq.1 hi with h | h
      · exact h1 i h
      · exact h ▸ h2
    · intro h
      exact ⟨fun i hi => h i (Nat.lt_succ_of_lt hi), h n (Nat.lt_succ_self n)⟩

section
variable {α β : Type} [Semiring α] [Semiring β] (φ : α →+* β)

def toM (A : Mat α) (r c : Nat) : Matrix (Fin r) (Fin c) β := Matrix.of fun i j => φ (A.get i.val j.val)

theorem dotN_eq_sum (f g : Nat → α) (n : Nat) : dotN f g n = ∑ k ∈ Finset.range n, f k * g k := by
  induction n with
  | zero => simp [dotN]
  | succ n ih => simp [dotN, ih, Finset.sum_range_succ]

theorem map_dotN (f g : Nat → α) (n : Nat) :
    φ (dotN f g n) = ∑ k : Fin n, φ (f k.val) * φ (g k.val) := by
  rw [dotN_eq_sum, map_sum, Fin.sum_univ_eq_sum_range (fun k => φ (f k) * φ (g k)) n]
  simp [map_mul]

theorem toM_mul_apply (A B : Mat α) (m n p : Nat) (i : Fin m) (j : Fin p) :
    (toM φ A m n * toM φ B n p) i j
      = φ (dotN (fun k => A.get i.val k) (fun k => B.get k j.val) n) := by
  rw [map_dotN]; simp [Matrix.mul_apply, toM]

variable (eq : α → α → Bool) (heq : ∀ a b, eq a b = true ↔ φ a = φ b)
include heq

theorem allN_eq_iff (m p : Nat) (f g : Nat → Nat → α) (X Y : Matrix (Fin m) (Fin p) β)
    (hX : ∀ i j, X i j = φ (f i.val j.val)) (hY : ∀ i j, Y i j = φ (g i.val j.val)) :
    (allN m fun i => allN p fun j => eq (f i j) (g i j)) = true ↔ X = Y := by
  simp only [allN_iff, heq]
  constructor
  · intro h; ext i j
    rw [hX, hY]; exact h i.val i.isLt j.val j.isLt
  · intro h i hi j hj
    have := congrFun (congrFun h ⟨i, hi⟩) ⟨j, hj⟩
    rwa [hX, hY] at this

theorem mulEq2_iff (m n q p : Nat) (A B C D : Mat α) :
    mulEq2 eq m n q p A B C D = true ↔ toM φ A m n * toM φ B n p = toM φ C m q * toM φ D q p :=
  allN_eq_iff φ eq heq m p _ _ _ _ (toM_mul_apply φ A B m n p) (toM_mul_apply φ C D m q p)

theorem mulEq1_iff (m n p : Nat) (A B C : Mat α) :
    mulEq1 eq m n p A B C = true ↔ toM φ A m n * toM φ B n p = toM φ C m p :=
  allN_eq_iff φ eq heq m p _ _ _ _ (toM_mul_apply φ A B m n p) (fun _ _ => rfl)

theorem mulEq0_iff (m n p : Nat) (A B : Mat α) :
    mulEq0 eq m n p A B = true ↔ toM φ A m n * toM φ B n p = 0 :=
  allN_eq_iff φ eq heq m p _ _ _ _ (toM_mul_apply φ A B m n p) (fun _ _ => (map_zero φ).symm)

theorem mulEqI_iff (m n : Nat) (A B : Mat α) :
    mulEqI eq m n A B = true ↔ toM φ A m n * toM φ B n m = 1 :=
  allN_eq_iff φ eq heq m m _ _ _ _ (toM_mul_apply φ A B m n m) fun i j => by
    rw [Matrix.one_apply, apply_ite φ, map_one, map_zero]
    exact if_congr Fin.ext_iff rfl rfl

omit heq

structure Spec (x : RedData α) : Prop where
  /-- the given differentials form a complex -/
  in_sq : ∀ i, 1 ≤ i → i < x.k →
    toM φ (x.dd i) (x.nn (i - 1)) (x.nn i) * toM φ (x.dd (i + 1)) (x.nn i) (x.nn (i + 1)) = 0
  /-- the reduced differentials form a complex -/
  red_sq : ∀ i, 1 ≤ i → i < x.k →
    toM φ (x.dr i) (x.mm (i - 1)) (x.mm i) * toM φ (x.dr (i + 1)) (x.mm i) (x.mm (i + 1)) = 0
  F_comm : ∀ i, 1 ≤ i → i ≤ x.k →
    toM φ (x.FF (i - 1)) (x.mm (i - 1)) (x.nn (i - 1)) * toM φ (x.dd i) (x.nn (i - 1)) (x.nn i)
      = toM φ (x.dr i) (x.mm (i - 1)) (x.mm i) * toM φ (x.FF i) (x.mm i) (x.nn i)
  B_comm : ∀ i, 1 ≤ i → i ≤ x.k →
    toM φ (x.dd i) (x.nn (i - 1)) (x.nn i) * toM φ (x.BB i) (x.nn i) (x.mm i)
      = toM φ (x.BB (i - 1)) (x.nn (i - 1)) (x.mm (i - 1)) * toM φ (x.dr i) (x.mm (i - 1)) (x.mm i)
  FB : ∀ i, i ≤ x.k → toM φ (x.FF i) (x.mm i) (x.nn i) * toM φ (x.BB i) (x.nn i) (x.mm i) = 1
  /-- tracked vectors are transported by the forward map -/
  Fv : ∀ i, i ≤ x.k →
    toM φ (x.FF i) (x.mm i) (x.nn i) * toM φ (x.VV i) (x.nn i) (x.tt i) = toM φ (x.VR i) (x.mm i) (x.tt i)

theorem shift_iff (k : Nat) (P : Nat → Prop) :
    (∀ i, i < k → P (i + 1)) ↔ (∀ i, 1 ≤ i → i ≤ k → P i) := by
  constructor
  · intro h i h1 hk
    obtain ⟨j, rfl⟩ : ∃ j, i = j + 1 := ⟨i - 1, by omega⟩
    exact h j (by omega)
  · intro h i hi; exact h (i + 1) (by omega) (by omega)

theorem shift_iff' (k : Nat) (P : Nat → Prop) :
    (∀ i, i < k - 1 → P (i + 1)) ↔ (∀ i, 1 ≤ i → i < k → P i) := by
  constructor
  · intro h i h1 hk
    obtain ⟨j, rfl⟩ : ∃ j, i = j + 1 := ⟨i - 1, by omega⟩
    exact h j (by omega)
  · intro h i hi; exact h (i + 1) (by omega) (by omega)

end

theorem eqMod_iff (p : Nat) (a b : Int) : eqMod p a b = true ↔ (p : Int) ∣ a - b := by
  simp [eqMod, Int.dvd_iff_emod_eq_zero]

theorem eqMod_zero_iff (a b : Int) : eqMod 0 a b = true ↔ a = b := by
  rw [eqMod_iff]; simp [sub_eq_zero]

end Yuiv.C08
