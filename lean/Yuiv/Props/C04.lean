import Yuiv.Proofs.C04
/-
C04 — graded Euler characteristic of Kh is the Jones polynomial.

Proved for EVERY diagram (any number of crossings `n`, any circle-count function `r` on states, any
signs) and every commutative ring `R` with an invertible `q` (in particular `R = ℤ[q,q⁻¹]`, i.e. as an
identity of Laurent polynomials):
  * `chi_chain_eq_jones`: Σ_generators (−1)^{h-degree} q^{q-degree} of the cube-of-resolutions chain groups equals the
    state sum computed by `jones_polynomial`;
  * `jones_mirror`: mirroring (states complemented, n₊ ↔ n₋) turns the state sum into its value at q⁻¹;
  * the executable coefficient-list models `jones` / `chiChain` evaluate to these ring elements.
Not proved in this file: χ(homology) = χ(chain complex) (for the reference: `Props/C04Euler`); isotopy invariance
(Reidemeister I, II and the Markov moves for the model: `Props/C04Reid`, `Props/C04Markov`; otherwise explored by the harness).
-/
namespace Yuiv.C04
open Yuiv.KhRef

variable {R : Type} [CommRing R]

/-- binomial core: Σ over labellings `m` of `r` circles of q^{r − 2·#X(m)} equals (q + q⁻¹)^r -/
theorem sum_labels (q qinv : R) (hq : q * qinv = 1) (r : Nat) :
    sumRange (2 ^ r) (fun m => zpow q qinv ((-2 : Int) * popcount m r + r)) = npow (q + qinv) r := by
  rw [sumRange_eq, npow_eq]
  induction r with
  | zero => simp [popcount_zero_bits, zpow_zero']
  | succ r ih =>
    have h2 : 2 ^ (r + 1) = 2 ^ r + 2 ^ r := by omega
    rw [h2, Finset.sum_range_add, pow_succ, ← ih, Finset.sum_mul, ← Finset.sum_add_distrib]
    apply Finset.sum_congr rfl
    intro m hm
    have hm' : m < 2 ^ r := Finset.mem_range.mp hm
    rw [popcount_lt m r hm', popcount_add m r hm']
    have e1 : (-2 : Int) * (popcount m r : Nat) + ((r + 1 : Nat) : Int) = ((-2 : Int) * popcount m r + r) + 1 := by
      push_cast; ring
    have e2 : (-2 : Int) * ((popcount m r + 1 : Nat) : Int) + ((r + 1 : Nat) : Int) = ((-2 : Int) * popcount m r + r) + (-1) := by
      push_cast; ring
    rw [e1, e2, zpow_add' q qinv hq _ 1, zpow_add' q qinv hq _ (-1), zpow_one', zpow_neg_one', mul_add]

/-- Euler characteristic of the chain groups = Jones state sum, for every diagram shape -/
theorem chi_chain_eq_jones (q qinv : R) (hq : q * qinv = 1) (n nPos nNeg : Nat) (r : Nat → Nat) :
    evalChi q qinv n nPos nNeg r = evalJones q qinv n nPos nNeg r := by
  unfold evalChi evalJones
  rw [sumRange_eq, sumRange_eq, Finset.mul_sum]
  apply Finset.sum_congr rfl
  intro s _
  rw [← sum_labels q qinv hq (r s), sumRange_eq, sumRange_eq, Finset.mul_sum, Finset.mul_sum]
  apply Finset.sum_congr rfl
  intro m _
  have e : ((nPos : Int) - 2 * nNeg) + (-2 : Int) * popcount m (r s) + r s + popcount s n
      = ((nPos : Int) - 2 * nNeg) + (((-2 : Int) * popcount m (r s) + r s) + (popcount s n : Nat)) := by ring
  rw [e, zpow_add' q qinv hq, zpow_add' q qinv hq, zpow_natCast']
  simp only [npow_eq]
  rw [neg_pow q, pow_add]
  ring

/-- mirror: complementing every state and exchanging n₊, n₋ gives the state sum at q⁻¹ -/
theorem jones_mirror (q qinv : R) (hq : q * qinv = 1) (n nPos nNeg : Nat) (hn : nPos + nNeg = n) (r : Nat → Nat) :
    evalJones q qinv n nNeg nPos (fun s => r (2 ^ n - 1 - s)) = evalJones qinv q n nPos nNeg r := by
  unfold evalJones
  simp only [npow_eq, sumRange_eq]
  have hsum : ∑ s ∈ Finset.range (2 ^ n), (-q) ^ popcount s n * (q + qinv) ^ r (2 ^ n - 1 - s)
      = (-q) ^ n * ∑ s ∈ Finset.range (2 ^ n), (-qinv) ^ popcount s n * (qinv + q) ^ r s := by
    rw [← Finset.sum_range_reflect (fun s => (-qinv) ^ popcount s n * (qinv + q) ^ r s), Finset.mul_sum]
    apply Finset.sum_congr rfl
    intro s hs
    have hs' : s < 2 ^ n := Finset.mem_range.mp hs
    have hp := popcount_compl s n hs'
    have h1 : (-q) * (-qinv) = 1 := by rw [neg_mul_neg]; exact hq
    have h2 : (-q) ^ n = (-q) ^ popcount s n * (-q) ^ popcount (2 ^ n - 1 - s) n := by
      rw [← pow_add, Nat.add_comm, hp]
    rw [h2, add_comm q qinv]
    have h3 : (-q) ^ popcount (2 ^ n - 1 - s) n * (-qinv) ^ popcount (2 ^ n - 1 - s) n = 1 := by
      rw [← mul_pow, h1, one_pow]
    calc (-q) ^ popcount s n * (qinv + q) ^ r (2 ^ n - 1 - s)
        = (-q) ^ popcount s n * ((-q) ^ popcount (2 ^ n - 1 - s) n * (-qinv) ^ popcount (2 ^ n - 1 - s) n) * (qinv + q) ^ r (2 ^ n - 1 - s) := by
          rw [h3, mul_one]
      _ = _ := by ring
  rw [hsum, zpow_swap q qinv hq]
  subst hn
  have e : -(((nPos : Nat) : Int) - 2 * (nNeg : Nat)) = ((nNeg : Int) - 2 * nPos) + ((nPos + nNeg : Nat) : Int) := by
    push_cast; ring
  rw [e, zpow_add' q qinv hq, zpow_natCast', neg_pow q, pow_add]
  have h4 : ((-1 : R)) ^ nPos * (-1) ^ nPos = 1 := by rw [← mul_pow]; simp
  calc (-1 : R) ^ nPos * zpow q qinv (↑nNeg - 2 * ↑nPos) * ((-1) ^ nPos * (-1) ^ nNeg * q ^ (nPos + nNeg) * ∑ s ∈ Finset.range (2 ^ (nPos + nNeg)), (-qinv) ^ popcount s (nPos + nNeg) * (qinv + q) ^ r s)
      = ((-1 : R) ^ nPos * (-1) ^ nPos) * ((-1) ^ nNeg * (zpow q qinv (↑nNeg - 2 * ↑nPos) * q ^ (nPos + nNeg)) * ∑ s ∈ Finset.range (2 ^ (nPos + nNeg)), (-qinv) ^ popcount s (nPos + nNeg) * (qinv + q) ^ r s) := by ring
    _ = _ := by rw [h4, one_mul]

set_option linter.unusedVariables false in -- `hq` is not needed for this one
theorem eval_addTerm (q qinv : R) (hq : q * qinv = 1) (e c : Int) (a : LP) :
    LP.eval q qinv (fun k => (k : R)) (LP.addTerm e c a) =
      LP.eval q qinv (fun k => (k : R)) a + (c : R) * zpow q qinv e := by
  exact ev_addTerm q qinv e c a

set_option linter.unusedVariables false in -- `hq` is not needed for this one
theorem eval_add (q qinv : R) (hq : q * qinv = 1) (a b : LP) :
    LP.eval q qinv (fun k => (k : R)) (LP.add a b) =
      LP.eval q qinv (fun k => (k : R)) a + LP.eval q qinv (fun k => (k : R)) b := by
  exact ev_add q qinv a b

theorem eval_mul (q qinv : R) (hq : q * qinv = 1) (a b : LP) :
    LP.eval q qinv (fun k => (k : R)) (LP.mul a b) =
      LP.eval q qinv (fun k => (k : R)) a * LP.eval q qinv (fun k => (k : R)) b := by
  exact ev_mul q qinv hq a b

theorem eval_pow (q qinv : R) (hq : q * qinv = 1) (a : LP) (n : Nat) :
    LP.eval q qinv (fun k => (k : R)) (LP.pow a n) = npow (LP.eval q qinv (fun k => (k : R)) a) n := by
  rw [npow_eq]; exact ev_pow q qinv hq a n

/-- the code model of `jones_polynomial` evaluates to the state sum -/
theorem eval_jones (q qinv : R) (hq : q * qinv = 1) (l : Link) (signs : Array Int) :
    LP.eval q qinv (fun k => (k : R)) (jones l signs) =
      evalJones q qinv (crossingNum l) (signs.filter (· > 0)).size (signs.filter (· < 0)).size (circleCount l) := by
  show ev q qinv (jones l signs) = _
  unfold jones evalJones sumRange
  simp only
  rw [ev_mul q qinv hq, ev_mono, cast_sign, npow_eq, ev_foldl_add, ev_nil]
  refine congrArg _ ?_
  apply congrArg (fun f => List.foldl f 0 (List.range (2 ^ crossingNum l)))
  funext acc s
  rw [ev_mul q qinv hq, ev_pow q qinv hq, ev_pow q qinv hq, npow_eq, npow_eq]
  congr 2
  · rw [ev_cons, ev_nil, zpow_one']; simp
  · rw [ev_cons, ev_cons, ev_nil, zpow_one', zpow_neg_one']; simp [add_comm]

/-- non-vacuity: q = 2 is invertible in ℚ-like rings; here the trivial ring-free instance q = 1 -/
example : (1 : Int) * 1 = 1 := by decide

end Yuiv.C04

namespace Yuiv.C04
open Yuiv.KhRef
variable {R : Type} [CommRing R]

set_option linter.unusedVariables false in -- `hq` is not needed for this one
/-- the executable Euler characteristic of the chain groups of the cube reference (`chiChain`, built from
`KhRef.mkCube`, `Cube.gensAt`, `Cube.qDeg`) evaluates to `evalChi` for the diagram's own circle-count function —
so, with `chi_chain_eq_jones` and `eval_jones`, the two executable coefficient lists have the same value at every
invertible `q` of every commutative ring. -/
theorem eval_chiChain (q qinv : R) (hq : q * qinv = 1) (l : Link) (signs : Array Int) :
    LP.eval q qinv (fun k => (k : R)) (chiChain l signs) =
      evalChi q qinv (crossingNum l) (signs.filter (· > 0)).size (signs.filter (· < 0)).size (circleCount l) := by
  show ev q qinv (chiChain l signs) = _
  unfold chiChain evalChi
  dsimp only
  rw [mkCube_n]
  rw [ev_foldl_step q qinv _ (fun s => sumRange (2 ^ circleCount l s) (fun m =>
      npow (-1 : R) ((signs.filter (· < 0)).size + popcount s (crossingNum l)) *
        zpow q qinv ((((signs.filter (· > 0)).size : Int) - 2 * (signs.filter (· < 0)).size) + (-2 : Int) * popcount m (circleCount l s) + circleCount l s + popcount s (crossingNum l))))]
  · rw [ev_nil]; rfl
  · intro s hs acc
    have hs' : s < 2 ^ crossingNum l := List.mem_range.mp hs
    rw [mkCube_gensAt l s hs', ← Array.foldl_toList, Array.toList_map, Array.toList_range, List.foldl_map]
    simp only [mkCube_qDeg l _ s _ hs']
    rw [ev_foldl_addTerm, foldl_add_acc]
    unfold sumRange
    refine congrArg _ ?_
    apply congrArg (fun f => List.foldl f 0 (List.range (2 ^ circleCount l s)))
    funext a m
    rw [cast_sign_neg, npow_eq]

theorem eval_chiChain_eq_eval_jones (q qinv : R) (hq : q * qinv = 1) (l : Link) (signs : Array Int) :
    LP.eval q qinv (fun k => (k : R)) (chiChain l signs) = LP.eval q qinv (fun k => (k : R)) (jones l signs) := by
  rw [eval_chiChain q qinv hq, eval_jones q qinv hq, chi_chain_eq_jones q qinv hq]

end Yuiv.C04
