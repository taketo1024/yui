import Yuiv.Proofs.C18InvPerm
import Yuiv.Proofs.C18InvOri
/-
C18Inv — orientation reversal.

`revComp K l` reverses the components whose labels lie in `K` (a union of components): crossings whose under-strand
belongs to `K` are rotated by two, `[a,b,c,d] ↦ [c,d,a,b]`; exactly the crossings between `K` and the rest flip their
sign.  `reverseAll l` is the case `K = everything`: on an `AllX` code the SAME entrance set `O` is an orientation of
`reverseAll l` (the new entrance set `fun h => !O (rslot h)` equals `O` on slots), and the signs are literally the same.
Both rest on the slot isomorphisms of `C18InvPerm`.

Last section: reversing ALL components leaves `crossing_signs` unchanged for every valid oriented PD code, also when
some components never pass under (no `Determined` hypothesis): the rule by which the model chooses the direction of
such a component (`FirstRule`, from `crossingSigns_orient_first`) determines the orientation of a PD code
(`crossingSigns_char`) and is the same for `l` and `reverseAll l`.
-/
namespace Yuiv.C18
open Yuiv

theorem pass_rot : ∀ t : CType, ∀ j, j < 4 → (t.pass j + 2) % 4 = t.pass ((j + 2) % 4) := by decide +kernel

theorem pass_allX : ∀ t : CType, t.isResolved = false → ∀ j, j < 4 → t.pass j = (j + 2) % 4 := by decide +kernel

theorem rot2_rot2 (j : Nat) (hj : j < 4) : ((j + 2) % 4 + 2) % 4 = j := by
  rcases lt_four hj with rfl | rfl | rfl | rfl <;> rfl

theorem rot2_lt (j : Nat) : (j + 2) % 4 < 4 := Nat.mod_lt _ (by decide)

theorem signAt_flip (t : CType) (o : Bool) :
    signAt t (if !o then 1 else 3) = (signAt t (if o then 1 else 3)).map Sign.flip := by
  cases t <;> cases o <;> rfl

def Crossing.rot (c : Crossing) : Crossing := ⟨c.ctype, c.e2, c.e3, c.e0, c.e1⟩

theorem Crossing.rot_edge (c : Crossing) (j : Nat) (hj : j < 4) : c.rot.edge j = c.edge ((j + 2) % 4) := by
  rcases lt_four hj with rfl | rfl | rfl | rfl <;> rfl

theorem Crossing.rot_edges_perm (c : Crossing) : c.rot.edges.Perm c.edges :=
  show ([c.e2, c.e3] ++ [c.e0, c.e1]).Perm ([c.e0, c.e1] ++ [c.e2, c.e3]) from List.perm_append_comm

theorem allEdges_map_perm (f : Crossing → Crossing) (hf : ∀ c, (f c).edges.Perm c.edges) :
    ∀ l : Link, (allEdges (l.map f)).Perm (allEdges l)
  | [] => List.Perm.refl _
  | c :: r => by
    show ((f c).edges ++ allEdges (r.map f)).Perm (c.edges ++ allEdges r)
    exact (hf c).append (allEdges_map_perm f hf r)

def rslot (h : Nat × Nat) : Nat × Nat := (h.1, (h.2 + 2) % 4)

theorem thru_allX {l : Link} (hx : AllX l) (h : Nat × Nat) (hh : HE l h) : thru l h = rslot h := by
  unfold thru rslot
  rw [ctypeAt_eq l _ hh.1, pass_allX _ (hx _ (List.getElem_mem hh.1)) _ hh.2]

theorem rslot_rslot (h : Nat × Nat) (hj : h.2 < 4) : rslot (rslot h) = h := by
  show (h.1, ((h.2 + 2) % 4 + 2) % 4) = h
  rw [rot2_rot2 _ hj]

/-- `K` (a set of labels) is a union of components: closed under passing through a crossing -/
def CompSet (l : Link) (K : Nat → Bool) : Prop :=
  ∀ i, i < l.length → ∀ j, j < 4 → K (lab l (thru l (i, j))) = K (lab l (i, j))

instance (l : Link) (K : Nat → Bool) : Decidable (CompSet l K) := by unfold CompSet; infer_instance

/-- crossings whose under-strand belongs to `K` are rotated by two; the others are unchanged (a PD code does
not record the direction of the over-strand) -/
def revComp (K : Nat → Bool) (l : Link) : Link := l.map (fun c => if K c.e0 then c.rot else c)

/-- slot of `revComp K l` ↦ slot of `l` (its own inverse) -/
def cslot (K : Nat → Bool) (l : Link) (h : Nat × Nat) : Nat × Nat :=
  if K (edgeAt l h.1 0) then (h.1, (h.2 + 2) % 4) else h

def revOri (K : Nat → Bool) (l : Link) (O : Nat × Nat → Bool) (h : Nat × Nat) : Bool :=
  if K (lab l (cslot K l h)) then !O (cslot K l h) else O (cslot K l h)

section RevComp
variable {K : Nat → Bool} {l : Link}

theorem revComp_length (K : Nat → Bool) (l : Link) : (revComp K l).length = l.length := List.length_map _

theorem revComp_getElem? (K : Nat → Bool) (l : Link) (i : Nat) :
    (revComp K l)[i]? = (l[i]?).map (fun c => if K c.e0 then c.rot else c) := by
  unfold revComp; rw [List.getElem?_map]

theorem ctypeAt_revComp (K : Nat → Bool) (l : Link) (i : Nat) : ctypeAt (revComp K l) i = ctypeAt l i := by
  unfold ctypeAt
  rw [revComp_getElem?]
  cases l[i]? with
  | none => rfl
  | some c =>
    show (if K c.e0 then c.rot else c).ctype = c.ctype
    cases K c.e0 <;> rfl

theorem edgeAt_revComp (K : Nat → Bool) (l : Link) (h : Nat × Nat) (hh : HE l h) :
    edgeAt (revComp K l) h.1 h.2 = lab l (cslot K l h) := by
  obtain ⟨i, j⟩ := h
  have hi : i < l.length := hh.1
  have hj : j < 4 := hh.2
  have hR : lab l (cslot K l (i, j)) = edgeAt l i (if K (edgeAt l i 0) then (j + 2) % 4 else j) := by
    unfold lab cslot
    cases K (edgeAt l i 0) <;> rfl
  have hL : edgeAt (revComp K l) i j = (if K (l[i]'hi).e0 then (l[i]'hi).rot else l[i]'hi).edge j := by
    unfold edgeAt
    rw [revComp_getElem?, List.getElem?_eq_getElem hi]
    rfl
  show edgeAt (revComp K l) i j = _
  rw [hR, hL, edgeAt_eq l i _ hi, edgeAt_eq l i 0 hi]
  generalize l[i]'hi = c
  show _ = c.edge (if K c.e0 then (j + 2) % 4 else j)
  cases K c.e0
  · rfl
  · exact Crossing.rot_edge _ _ hj

theorem cslot_he (K : Nat → Bool) (l : Link) (h : Nat × Nat) (hh : HE l h) : HE l (cslot K l h) := by
  unfold cslot
  cases K (edgeAt l h.1 0)
  · exact hh
  · exact ⟨hh.1, rot2_lt _⟩

theorem cslot_cslot (K : Nat → Bool) (l : Link) (h : Nat × Nat) (hh : HE l h) : cslot K l (cslot K l h) = h := by
  unfold cslot
  cases hk : K (edgeAt l h.1 0)
  · simp only [Bool.false_eq_true, if_false, hk]
  · simp only [if_true, hk]
    rw [rot2_rot2 _ hh.2]

theorem cslot_fst (K : Nat → Bool) (l : Link) (h : Nat × Nat) : (cslot K l h).1 = h.1 := by
  unfold cslot
  cases K (edgeAt l h.1 0) <;> rfl

theorem slotIso_revComp (K : Nat → Bool) (l : Link) : SlotIso (revComp K l) l (cslot K l) (cslot K l) where
  he := by
    intro h hh
    rw [HE, revComp_length] at hh
    exact cslot_he K l h hh
  he_inv := by
    intro h hh
    rw [HE, revComp_length]
    exact cslot_he K l h hh
  left := by
    intro h hh
    rw [HE, revComp_length] at hh
    exact cslot_cslot K l h hh
  right := fun h hh => cslot_cslot K l h hh
  lab_eq := by
    intro h hh
    rw [HE, revComp_length] at hh
    exact (edgeAt_revComp K l h hh).symm
  thru_eq := by
    intro h hh
    rw [HE, revComp_length] at hh
    unfold C18.thru
    rw [ctypeAt_revComp, cslot_fst]
    unfold cslot
    cases K (edgeAt l h.1 0)
    · rfl
    · show (h.1, ((ctypeAt l h.1).pass h.2 + 2) % 4) = (h.1, (ctypeAt l h.1).pass ((h.2 + 2) % 4))
      rw [pass_rot _ _ hh.2]

theorem thru_revComp (K : Nat → Bool) (l : Link) (h : Nat × Nat) (hh : HE (revComp K l) h) :
    cslot K l (thru (revComp K l) h) = thru l (cslot K l h) := (slotIso_revComp K l).thru_eq h hh

theorem valid_revComp (K : Nat → Bool) (hv : Valid l) : Valid (revComp K l) := by
  refine valid_of_perm (allEdges_map_perm _ ?_ l) hv
  intro c
  cases K c.e0
  · exact List.Perm.refl _
  · exact Crossing.rot_edges_perm c

theorem partner_revComp (K : Nat → Bool) (hv : Valid l) (h : Nat × Nat) (hh : HE (revComp K l) h) :
    cslot K l (partner (revComp K l) h) = partner l (cslot K l h) :=
  (slotIso_revComp K l).partner_eq hv (valid_revComp K hv) h hh

theorem allX_revComp (K : Nat → Bool) (hx : AllX l) : AllX (revComp K l) := by
  intro c hc
  unfold revComp at hc
  rw [List.mem_map] at hc
  obtain ⟨c0, hc0, rfl⟩ := hc
  have := hx c0 hc0
  cases K c0.e0
  · exact this
  · exact this

theorem crossingNum_revComp (K : Nat → Bool) (l : Link) : crossingNum (revComp K l) = crossingNum l := by
  unfold crossingNum revComp
  rw [List.filter_map, List.length_map]
  congr 1
  apply List.filter_congr
  intro c _
  show (!(if K c.e0 then c.rot else c).isResolved) = !c.isResolved
  cases K c.e0 <;> rfl

/-- the orientation reversed on `K` is an orientation of `revComp K l` (`ε h = K (label of h)` is constant
along `thru` by `CompSet` and along `partner` because partners carry the same label) -/
theorem revOri_orient (hv : Valid l) (hK : CompSet l K) {O : Nat × Nat → Bool} (hO : Orient l O) :
    Orient (revComp K l) (revOri K l O) := by
  have s := slotIso_revComp K l
  have hv' := valid_revComp K hv
  refine s.orient hv hv' (fun h => K (lab l (cslot K l h))) ?_ ?_ hO
  · intro h hh
    have h1 := s.he h hh
    show K (lab l (cslot K l (thru (revComp K l) h))) = K (lab l (cslot K l h))
    rw [s.thru_eq h hh]
    exact hK _ h1.1 _ h1.2
  · intro h hh
    have h1 := s.he h hh
    show K (lab l (cslot K l (partner (revComp K l) h))) = K (lab l (cslot K l h))
    rw [s.partner_eq hv hv' h hh, (partner_spec l hv _ h1).2.2.1]

theorem revOri_underIn (hx : AllX l) (hK : CompSet l K) {O : Nat × Nat → Bool} (hO : Orient l O)
    (hU : UnderIn l O) : UnderIn (revComp K l) (revOri K l O) := by
  intro i hi
  rw [revComp_length] at hi
  have hh : HE l (i, 0) := ⟨hi, (by decide : 0 < 4)⟩
  have ht : thru l (i, 0) = (i, 2) := thru_allX hx _ hh
  unfold revOri cslot
  cases hk : K (edgeAt l i 0)
  · simp only [Bool.false_eq_true, if_false]
    have : K (lab l (i, 0)) = false := hk
    rw [this]
    exact hU i hi
  · simp only [if_true]
    show (if K (lab l (i, 2)) then !O (i, 2) else O (i, 2)) = true
    have h1 : K (lab l (i, 2)) = true := by
      rw [← ht, hK i hi 0 (by decide)]; exact hk
    rw [h1, ← ht, hO.thru_eq _ hh, hU i hi]
    rfl

theorem determined_revComp (hv : Valid l) (hx : AllX l) (hD : Determined l) : Determined (revComp K l) := by
  refine (slotIso_revComp K l).determined hv (valid_revComp K hv) ?_ hD
  intro i hi
  refine ⟨i, by rw [revComp_length]; exact hi, ?_⟩
  have hh : HE (revComp K l) (i, 0) := ⟨by rw [revComp_length]; exact hi, (by decide : 0 < 4)⟩
  unfold cslot
  cases K (edgeAt l i 0)
  · exact SConn.refl _
  · show SConn (revComp K l) (i, 0) (i, 2)
    have := thru_allX (allX_revComp K hx) (i, 0) hh
    rw [show (i, 2) = rslot (i, 0) from rfl, ← this]
    exact SConn.thru (SConn.refl _)

theorem sgnAt_revComp (hx : AllX l) (hK : CompSet l K) {O : Nat × Nat → Bool} (hO : Orient l O)
    (i : Nat) (hi : i < l.length) :
    sgnAt (revComp K l) (revOri K l O) i =
      if (K (edgeAt l i 0) != K (edgeAt l i 1)) then (sgnAt l O i).map Sign.flip else sgnAt l O i := by
  have hh : HE l (i, 1) := ⟨hi, (by decide : 1 < 4)⟩
  have ht : thru l (i, 1) = (i, 3) := thru_allX hx _ hh
  have h3 : K (lab l (i, 3)) = K (edgeAt l i 1) := by rw [← ht]; exact hK i hi 1 (by decide)
  have o3 : O (i, 3) = !O (i, 1) := by rw [← ht]; exact hO.thru_eq _ hh
  unfold sgnAt
  rw [ctypeAt_revComp]
  have key : revOri K l O (i, 1) = if (K (edgeAt l i 0) != K (edgeAt l i 1)) then !O (i, 1) else O (i, 1) := by
    unfold revOri cslot
    cases hk0 : K (edgeAt l i 0)
    · simp only [Bool.false_eq_true, if_false]
      show (if K (edgeAt l i 1) then !O (i, 1) else O (i, 1)) = _
      cases K (edgeAt l i 1) <;> rfl
    · simp only [if_true]
      show (if K (lab l (i, 3)) then !O (i, 3) else O (i, 3)) = _
      rw [h3, o3]
      cases K (edgeAt l i 1) <;> cases O (i, 1) <;> rfl
  rw [key]
  cases (K (edgeAt l i 0) != K (edgeAt l i 1))
  · rfl
  · simp only [if_true]
    exact signAt_flip _ _

theorem signsOf_revComp (hx : AllX l) (hK : CompSet l K) {O : Nat × Nat → Bool} (hO : Orient l O) :
    signsOf (revComp K l) (revOri K l O) = (List.range l.length).filterMap (fun i =>
      if (K (edgeAt l i 0) != K (edgeAt l i 1)) then (sgnAt l O i).map Sign.flip else sgnAt l O i) := by
  unfold signsOf
  rw [revComp_length]
  exact filterMap_congr_mem _ _ _ (fun i hi => sgnAt_revComp hx hK hO i (List.mem_range.1 hi))

theorem revComp_transport (hv : Valid l) (hx : AllX l) (hK : CompSet l K) {O : Nat × Nat → Bool}
    (hO : Orient l O) (hU : UnderIn l O) :
    Valid (revComp K l) ∧ AllX (revComp K l) ∧ Orient (revComp K l) (revOri K l O) ∧
      UnderIn (revComp K l) (revOri K l O) ∧ crossingNum (revComp K l) = crossingNum l ∧
      ∀ i, i < l.length → sgnAt (revComp K l) (revOri K l O) i =
        if (K (edgeAt l i 0) != K (edgeAt l i 1)) then (sgnAt l O i).map Sign.flip else sgnAt l O i :=
  ⟨valid_revComp K hv, allX_revComp K hx, revOri_orient hv hK hO, revOri_underIn hx hK hO hU,
    crossingNum_revComp K l, sgnAt_revComp hx hK hO⟩

end RevComp

theorem reverseAll_length (l : Link) : (reverseAll l).length = l.length := revComp_length (fun _ => true) l

theorem ctypeAt_reverseAll (l : Link) (i : Nat) : ctypeAt (reverseAll l) i = ctypeAt l i :=
  ctypeAt_revComp (fun _ => true) l i

theorem valid_reverseAll {l : Link} (hv : Valid l) : Valid (reverseAll l) := valid_revComp (fun _ => true) hv

theorem allX_reverseAll {l : Link} (hx : AllX l) : AllX (reverseAll l) := allX_revComp (fun _ => true) hx

theorem crossingNum_reverseAll (l : Link) : crossingNum (reverseAll l) = crossingNum l :=
  crossingNum_revComp (fun _ => true) l

theorem slotIso_reverseAll (l : Link) : SlotIso (reverseAll l) l rslot rslot := slotIso_revComp (fun _ => true) l

theorem partner_reverseAll {l : Link} (hv : Valid l) (h : Nat × Nat) (hh : HE (reverseAll l) h) :
    partner (reverseAll l) h = rslot (partner l (rslot h)) := by
  have h1 := (slotIso_reverseAll l).partner_eq hv (valid_reverseAll hv) h hh
  rw [← h1, rslot_rslot _ (partner_spec _ (valid_reverseAll hv) h hh).1.2]

theorem orient_reverseAll {l : Link} (hv : Valid l) (hx : AllX l) {O : Nat × Nat → Bool} (hO : Orient l O) :
    Orient (reverseAll l) O := by
  have h1 := (slotIso_reverseAll l).orient hv (valid_reverseAll hv) (fun _ => true) (fun _ _ => rfl)
    (fun _ _ => rfl) hO
  refine Orient.congr (valid_reverseAll hv) ?_ h1
  intro s hs
  have hs' : HE l s := by rw [HE, reverseAll_length] at hs; exact hs
  show O s = !O (rslot s)
  rw [← thru_allX hx s hs', hO.thru_eq s hs', Bool.not_not]

theorem underIn_reverseAll {l : Link} {O : Nat × Nat → Bool} (hU : UnderIn l O) : UnderIn (reverseAll l) O := by
  intro i hi
  rw [reverseAll_length] at hi
  exact hU i hi

theorem determined_reverseAll {l : Link} (hv : Valid l) (hx : AllX l) (hD : Determined l) :
    Determined (reverseAll l) := determined_revComp (K := fun _ => true) hv hx hD

theorem sgnAt_reverseAll (l : Link) (O : Nat × Nat → Bool) (i : Nat) :
    sgnAt (reverseAll l) O i = sgnAt l O i := by
  unfold sgnAt; rw [ctypeAt_reverseAll]

theorem signsOf_reverseAll (l : Link) (O : Nat × Nat → Bool) : signsOf (reverseAll l) O = signsOf l O := by
  unfold signsOf
  rw [reverseAll_length]
  exact filterMap_congr_mem _ _ _ (fun i _ => sgnAt_reverseAll l O i)

theorem reverseAll_transport {l : Link} (hv : Valid l) (hx : AllX l) {O : Nat × Nat → Bool}
    (hO : Orient l O) (hU : UnderIn l O) :
    Valid (reverseAll l) ∧ AllX (reverseAll l) ∧ Orient (reverseAll l) O ∧ UnderIn (reverseAll l) O ∧
      signsOf (reverseAll l) O = signsOf l O ∧ crossingNum (reverseAll l) = crossingNum l :=
  ⟨valid_reverseAll hv, allX_reverseAll hx, orient_reverseAll hv hx hO, underIn_reverseAll hU,
    signsOf_reverseAll l O, crossingNum_reverseAll l⟩

/-! ### non-vacuity -/

/-- Hopf link, components (by labels) `{4,3}` and `{2,1}`; `K = {4,3}` -/
def exK : Nat → Bool := fun e => e == 4 || e == 3

example : Valid (fromPD [[4,1,3,2],[2,3,1,4]]) ∧ AllX (fromPD [[4,1,3,2],[2,3,1,4]]) ∧
    CompSet (fromPD [[4,1,3,2],[2,3,1,4]]) exK ∧ Orient (fromPD [[4,1,3,2],[2,3,1,4]]) exOri ∧
    UnderIn (fromPD [[4,1,3,2],[2,3,1,4]]) exOri ∧ DeterminedB (fromPD [[4,1,3,2],[2,3,1,4]]) :=
  ⟨hopf_hyps.1, by decide +kernel, by decide +kernel, hopf_hyps.2⟩

example : revComp exK (fromPD [[4,1,3,2],[2,3,1,4]]) = fromPD [[3,2,4,1],[2,3,1,4]] := by decide +kernel

/-- both crossings of the Hopf link are between the two components: both signs flip -/
example : signsOf (fromPD [[4,1,3,2],[2,3,1,4]]) exOri = [.neg, .neg] ∧
    signsOf (revComp exK (fromPD [[4,1,3,2],[2,3,1,4]])) (revOri exK (fromPD [[4,1,3,2],[2,3,1,4]]) exOri)
      = [.pos, .pos] ∧
    crossingSigns (revComp exK (fromPD [[4,1,3,2],[2,3,1,4]])) = .ok [.pos, .pos] := by decide +kernel

example : reverseAll (fromPD [[1,4,2,5],[3,6,4,1],[5,2,6,3]]) = fromPD [[2,5,1,4],[4,1,3,6],[6,3,5,2]] := by decide +kernel

example : Valid (fromPD [[1,4,2,5],[3,6,4,1],[5,2,6,3]]) ∧ AllX (fromPD [[1,4,2,5],[3,6,4,1],[5,2,6,3]]) ∧
    Orient (fromPD [[1,4,2,5],[3,6,4,1],[5,2,6,3]]) exOri ∧ UnderIn (fromPD [[1,4,2,5],[3,6,4,1],[5,2,6,3]]) exOri ∧
    Orient (reverseAll (fromPD [[1,4,2,5],[3,6,4,1],[5,2,6,3]])) exOri :=
  ⟨trefoil_hyps.1, by decide +kernel, trefoil_hyps.2.1, trefoil_hyps.2.2.1, by decide +kernel⟩

theorem sconn_rslot {l : Link} (hx : AllX l) (a : Nat × Nat) (ha : HE l a) : SConn l a (rslot a) := by
  have := SConn.thru (SConn.refl (l := l) a)
  rw [thru_allX hx a ha] at this
  exact this

/-- a slot isomorphism that rotates every slot by two relates diagrams with the same components, as sets of slot
indices: `a ~ rslot a ~ rslot b ~ b` -/
theorem sconn_of_slotIso_rslot {l' l : Link} (S : SlotIso l' l rslot rslot) (hv' : Valid l') (hv : Valid l)
    (hx : AllX l) {a b : Nat × Nat} (hc : SConn l' a b) (ha : HE l' a) : SConn l a b := by
  have h1 := S.sconn hv hv' hc ha
  have hal : HE l a := ⟨(S.he a ha).1, ha.2⟩
  have hb' : HE l (rslot b) := h1.he hv (S.he a ha)
  have h3 := ((sconn_rslot hx a hal).trans h1).trans (sconn_rslot hx (rslot b) hb')
  rw [rslot_rslot b (hc.he hv' ha).2] at h3
  exact h3

theorem sconn_to_reverseAll {l : Link} (hv : Valid l) (hx : AllX l) {a b : Nat × Nat}
    (hc : SConn l a b) (ha : HE l a) : SConn (reverseAll l) a b :=
  sconn_of_slotIso_rslot (slotIso_reverseAll l).symm hv (valid_reverseAll hv) (allX_reverseAll hx) hc ha

/-- the rule by which `crossing_signs` directs a component that never passes under (`crossingSigns_orient_first`): it
is entered at slot 1 of the first crossing, in crossing order, whose over-strand lies on it -/
def FirstRule (l : Link) (O : Nat × Nat → Bool) : Prop :=
  ∀ i0, i0 < l.length → (ctypeAt l i0).isResolved = false →
    (∀ i, i < l.length → ¬ SConn l (i, 0) (i0, 1)) → (∀ i, i < i0 → ¬ SConn l (i, 1) (i0, 1)) → O (i0, 1) = true

theorem orient_first_unique {l : Link} (hv : Valid l) (hx : AllX l) {O1 O2 : Nat × Nat → Bool}
    (h1 : Orient l O1) (u1 : UnderIn l O1) (f1 : FirstRule l O1)
    (h2 : Orient l O2) (u2 : UnderIn l O2) (f2 : FirstRule l O2) (i : Nat) (hi : i < l.length) :
    O2 (i, 1) = O1 (i, 1) := by
  by_cases hc : ∃ i', i' < l.length ∧ SConn l (i', 0) (i, 1)
  · -- the component passes under somewhere: both orientations are the one determined by the code
    obtain ⟨i', hi', hc⟩ := hc
    exact orient_agree_under hv h1 u1 h2 u2 i' hi' _ hc
  · -- the component never passes under: both enter at slot 1 of its first crossing `i0`
    obtain ⟨i0, ⟨hi0, hc0⟩, hmin⟩ :=
      exists_least (fun k => k < l.length ∧ SConn l (k, 1) (i, 1)) ⟨i, hi, SConn.refl _⟩
    have hres : (ctypeAt l i0).isResolved = false := by
      rw [ctypeAt_eq l i0 hi0]; exact hx _ (List.getElem_mem hi0)
    have p1 : ∀ k, k < l.length → ¬ SConn l (k, 0) (i0, 1) := fun k hk h => hc ⟨k, hk, h.trans hc0⟩
    have p2 : ∀ k, k < i0 → ¬ SConn l (k, 1) (i0, 1) := fun k hk h => hmin k hk ⟨by omega, h.trans hc0⟩
    exact orient_agree hv h1 h2 hc0 ⟨hi0, (by decide : 1 < 4)⟩
      (by rw [f1 i0 hi0 hres p1 p2, f2 i0 hi0 hres p1 p2])

/-- `AllX` is needed: pass 1 may start at slot 1 of a resolved crossing, and `FirstRule` says nothing about those -/
theorem crossingSigns_char (l : Link) (hv : Valid l) (hx : AllX l) (O : Nat × Nat → Bool) (hO : Orient l O)
    (hU : UnderIn l O) (hF : FirstRule l O) : crossingSigns l = .ok (signsOf l O) := by
  obtain ⟨O', hO', hU', hs, hF'⟩ := crossingSigns_orient_first l hv O hO hU
  rw [hs]
  exact congrArg Res.ok (signsOf_congr l O O' fun i hi => orient_first_unique hv hx hO hU hF hO' hU' hF' i hi)

theorem firstRule_of_determined {l : Link} (hD : Determined l) (O : Nat × Nat → Bool) : FirstRule l O := by
  intro i0 hi0 _ p1 _
  obtain ⟨i', hi', hc⟩ := hD i0 hi0 1 (by decide)
  exact absurd hc (p1 i' hi')

theorem firstRule_reverseAll {l : Link} (hv : Valid l) (hx : AllX l) {O : Nat × Nat → Bool} (hF : FirstRule l O) :
    FirstRule (reverseAll l) O := by
  intro i0 hi0 hr p1 p2
  rw [reverseAll_length] at hi0
  rw [ctypeAt_reverseAll] at hr
  refine hF i0 hi0 hr (fun k hk h => ?_) (fun k hk h => ?_)
  · exact p1 k (by rw [reverseAll_length]; exact hk) (sconn_to_reverseAll hv hx h ⟨hk, by omega⟩)
  · exact p2 k hk (sconn_to_reverseAll hv hx h ⟨by omega, by omega⟩)

theorem crossingSigns_reverseAll_all (l : Link) (hv : Valid l) (hx : AllX l) (O : Nat × Nat → Bool)
    (hO : Orient l O) (hU : UnderIn l O) : crossingSigns (reverseAll l) = crossingSigns l := by
  obtain ⟨O1, hO1, hU1, hs1, hf1⟩ := crossingSigns_orient_first l hv O hO hU
  rw [hs1, crossingSigns_char (reverseAll l) (valid_reverseAll hv) (allX_reverseAll hx) O1
    (orient_reverseAll hv hx hO1) (underIn_reverseAll hU1) (firstRule_reverseAll hv hx hf1), signsOf_reverseAll]

end Yuiv.C18
