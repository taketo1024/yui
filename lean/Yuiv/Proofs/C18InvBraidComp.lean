import Yuiv.Proofs.C18Closure
import Yuiv.Proofs.C18Part
import Yuiv.Proofs.C18Relabel
/-
C18 — braid closure: the number of components of the closure of a braid word equals the number of cycles of the
braid permutation.

Ghost-state argument.  The loop invariant `CInv` of `Proofs/C18Closure.lean` is strengthened by the current
permutation list `P` (`P[k]` = top position of the strand that currently ends at bottom position `k`) and a
ghost function `sid` (label ↦ top position of the strand the label lies on):
  * top labels `t < strands` have `sid t = t`; `sid (bottom[p]) = P[p]`;
  * the two labels joined through a crossing have the same `sid`;
  * every label is `Conn`-connected (in the raw, not yet renamed diagram) to the top label `sid x`.
After the final renaming `f = connRename bottom` (`bottom[k] ↦ k`) the top label `k` gets glued to the strand
`P[k]`, so two top labels are connected in the closure iff they lie in one cycle of `P`.
-/
namespace Yuiv.C18
open Yuiv

def swapAt (P : List Nat) (g : Nat) : List Nat := (P.set g (P.getD (g + 1) 0)).set (g + 1) (P.getD g 0)

/-- the braid permutation as a list: `P[k]` = top position of the strand that ends at bottom position `k` -/
def braidPerm (strands : Nat) (w : List Int) : List Nat :=
  w.foldl (fun P s => swapAt P (s.natAbs - 1)) (List.range strands)

/-- the equivalence on positions generated by `k ~ P[k]`; for a permutation its classes are the cycles -/
inductive CycRel (P : List Nat) : Nat → Nat → Prop
  | refl (a : Nat) : CycRel P a a
  | fwd {a b : Nat} : CycRel P a b → b < P.length → CycRel P a (P.getD b 0)
  | bwd {a b : Nat} : CycRel P a (P.getD b 0) → b < P.length → CycRel P a b

/-- `reps` contains exactly one position of every cycle -/
def CycTransversal (P : List Nat) (reps : List Nat) : Prop :=
  (∀ r ∈ reps, r < P.length) ∧ reps.Pairwise (fun a b => ¬ CycRel P a b) ∧
    ∀ k, k < P.length → ∃ r ∈ reps, CycRel P r k

theorem CycRel.trans {P : List Nat} {a b c : Nat} (h1 : CycRel P a b) (h2 : CycRel P b c) : CycRel P a c := by
  induction h2 with
  | refl => exact h1
  | fwd _ hb ih => exact CycRel.fwd ih hb
  | bwd _ hb ih => exact CycRel.bwd ih hb

theorem CycRel.step {P : List Nat} {b : Nat} (hb : b < P.length) : CycRel P b (P.getD b 0) :=
  CycRel.fwd (CycRel.refl b) hb

theorem CycRel.step' {P : List Nat} {b : Nat} (hb : b < P.length) : CycRel P (P.getD b 0) b :=
  CycRel.bwd (CycRel.refl _) hb

theorem CycRel.symm {P : List Nat} {a b : Nat} (h : CycRel P a b) : CycRel P b a := by
  induction h with
  | refl => exact CycRel.refl _
  | fwd _ hb ih => exact (CycRel.step' hb).trans ih
  | bwd _ hb ih => exact (CycRel.step hb).trans ih

theorem swapAt_length (P : List Nat) (g : Nat) : (swapAt P g).length = P.length := by
  unfold swapAt; simp only [List.length_set]

theorem braidPerm_foldl_length (w : List Int) (P : List Nat) :
    (w.foldl (fun P s => swapAt P (s.natAbs - 1)) P).length = P.length := by
  induction w generalizing P with
  | nil => rfl
  | cons s w ih => rw [List.foldl_cons, ih, swapAt_length]

theorem braidPerm_length (strands : Nat) (w : List Int) : (braidPerm strands w).length = strands := by
  unfold braidPerm; rw [braidPerm_foldl_length, List.length_range]

theorem bc_getD_set2 (L : List Nat) (i x y p : Nat) (hi1 : i + 1 < L.length) :
    ((L.set i x).set (i + 1) y).getD p 0 = if p = i + 1 then y else if p = i then x else L.getD p 0 := by
  simp only [List.getD_eq_getElem?_getD, List.getElem?_set, List.length_set]
  by_cases h1 : p = i + 1
  · subst h1; simp [hi1]
  · by_cases h2 : p = i
    · subst h2
      have : p < L.length := by omega
      simp [this]
    · rw [if_neg (Ne.symm h1), if_neg (Ne.symm h2), if_neg h1, if_neg h2]

theorem swapAt_getD (P : List Nat) (g p : Nat) (hg : g + 1 < P.length) :
    (swapAt P g).getD p 0 = if p = g + 1 then P.getD g 0 else if p = g then P.getD (g + 1) 0 else P.getD p 0 := by
  unfold swapAt; exact bc_getD_set2 P g _ _ p hg

theorem swapAt_perm (P : List Nat) (g : Nat) (hg : g + 1 < P.length) : (swapAt P g).Perm P := by
  unfold swapAt
  rw [ListAux.getD_of_lt (Nat.lt_of_succ_lt hg), ListAux.getD_of_lt hg]
  obtain ⟨R, h1, h2⟩ := set_set_perm P[g + 1] P[g] P g hg
  exact h2.trans ((List.Perm.swap _ _ _).trans h1.symm)

theorem braidPerm_foldl_perm (w : List Int) (P : List Nat)
    (hw : ∀ s ∈ w, 1 ≤ s.natAbs ∧ s.natAbs < P.length) :
    (w.foldl (fun P s => swapAt P (s.natAbs - 1)) P).Perm P := by
  induction w generalizing P with
  | nil => exact List.Perm.refl _
  | cons s w ih =>
    rw [List.foldl_cons]
    have hs := hw s List.mem_cons_self
    have h1 : (swapAt P (s.natAbs - 1)).Perm P := swapAt_perm P _ (by omega)
    refine (ih _ ?_).trans h1
    intro t ht
    rw [swapAt_length]
    exact hw t (List.mem_cons_of_mem _ ht)

theorem braidPerm_perm (strands : Nat) (w : List Int) (hw : ∀ s ∈ w, 1 ≤ s.natAbs ∧ s.natAbs < strands) :
    (braidPerm strands w).Perm (List.range strands) := by
  unfold braidPerm
  exact braidPerm_foldl_perm w _ (by simpa using hw)

theorem bc_joined_append (l l' : Link) (a b : Nat) :
    joined (l ++ l') a b = (joined l a b || joined l' a b) := by
  unfold joined; rw [List.any_append]

theorem bc_conn_mono (l l' : Link) {a b : Nat} (h : Conn l a b) : Conn (l ++ l') a b := by
  induction h with
  | refl => exact Conn.refl _
  | tail _ hj ih => exact Conn.tail ih (by rw [bc_joined_append, hj]; rfl)

theorem bc_edge_mem (c : Crossing) (j : Nat) : c.edge j ∈ c.edges := by
  match j with
  | 0 => simp [Crossing.edge, Crossing.edges]
  | 1 => simp [Crossing.edge, Crossing.edges]
  | 2 => simp [Crossing.edge, Crossing.edges]
  | _ + 3 => simp [Crossing.edge, Crossing.edges]

theorem bc_joined_mem (l : Link) (u v : Nat) (h : joined l u v = true) : u ∈ allEdges l ∧ v ∈ allEdges l := by
  rw [joined_iff] at h
  obtain ⟨c, hc, j, _, h1, h2⟩ := h
  constructor
  · rw [← h1]; exact List.mem_flatMap.2 ⟨c, hc, bc_edge_mem c j⟩
  · rw [← h2]; exact List.mem_flatMap.2 ⟨c, hc, bc_edge_mem c _⟩

theorem bc_joined_single (x : Nat × Nat × Nat × Nat) (u v : Nat) :
    joined [Crossing.ofPD x.1 x.2.1 x.2.2.1 x.2.2.2] u v = true ↔
      (x.1 = u ∧ x.2.2.1 = v) ∨ (x.2.1 = u ∧ x.2.2.2 = v) ∨ (x.2.2.1 = u ∧ x.1 = v) ∨ (x.2.2.2 = u ∧ x.2.1 = v) := by
  have hr : List.range 4 = [0, 1, 2, 3] := by decide
  unfold joined
  simp only [hr, List.any_cons, List.any_nil, Bool.or_false, Bool.or_eq_true, Bool.and_eq_true, beq_iff_eq]
  -- `edge` and `pass` at the literals 0..3 evaluate
  exact Iff.rfl

theorem bc_fromPD4_snoc (pd : PD) (x : Nat × Nat × Nat × Nat) :
    fromPD4 (pd ++ [x]) = fromPD4 pd ++ [Crossing.ofPD x.1 x.2.1 x.2.2.1 x.2.2.2] := by
  unfold fromPD4; rw [List.map_append]; rfl

theorem bc_fromPD4_map (f : Nat → Nat) (pd : PD) :
    fromPD4 (pd.map (fun x => (f x.1, f x.2.1, f x.2.2.1, f x.2.2.2))) = renumber f (fromPD4 pd) := by
  unfold fromPD4 renumber
  rw [List.map_map, List.map_map]
  rfl

theorem bc_joined_renumber (f : Nat → Nat) (l : Link) (u v : Nat) (h : joined l u v = true) :
    joined (renumber f l) (f u) (f v) = true := by
  rw [joined_iff] at h ⊢
  obtain ⟨c, hc, j, hj, h1, h2⟩ := h
  refine ⟨c.convertEdges f, List.mem_map.2 ⟨c, hc, rfl⟩, j, hj, ?_, ?_⟩
  · rw [convertEdges_edge, h1]
  · rw [convertEdges_edge]; show f (c.edge (c.ctype.pass j)) = f v; rw [h2]

theorem bc_conn_renumber (f : Nat → Nat) (l : Link) {u v : Nat} (h : Conn l u v) :
    Conn (renumber f l) (f u) (f v) := by
  induction h with
  | refl => exact Conn.refl _
  | tail _ hj ih => exact Conn.tail ih (bc_joined_renumber f l _ _ hj)

theorem bc_joined_renumber_inv (f : Nat → Nat) (l : Link) (e1 e2 : Nat)
    (h : joined (renumber f l) e1 e2 = true) : ∃ u v, joined l u v = true ∧ f u = e1 ∧ f v = e2 := by
  rw [joined_iff] at h
  obtain ⟨c', hc', j, hj, h1, h2⟩ := h
  obtain ⟨c, hc, rfl⟩ := List.mem_map.1 hc'
  refine ⟨c.edge j, c.edge (c.ctype.pass j), (joined_iff _ _ _).2 ⟨c, hc, j, hj, rfl, rfl⟩, ?_, ?_⟩
  · rw [← h1, convertEdges_edge]
  · rw [← h2, convertEdges_edge]; rfl

/-- ghost invariant: `P` is the current permutation list, `sid` maps a label to the top position of its strand -/
structure KInv (strands : Nat) (st : Nat × List Nat × PD) (P : List Nat) (sid : Nat → Nat) : Prop where
  plen : P.length = strands
  top : ∀ t, t < strands → sid t = t
  bot : ∀ p, p < strands → sid (st.2.1.getD p 0) = P.getD p 0
  tup : ∀ u v, joined (fromPD4 st.2.2) u v = true → sid u = sid v
  conn : ∀ x, x ∈ flatPD st.2.2 ∨ x ∈ st.2.1 → Conn (fromPD4 st.2.2) x (sid x) ∧ sid x < strands

theorem kinv_init (strands : Nat) :
    KInv strands (strands, List.range strands, []) (List.range strands) id where
  plen := List.length_range
  top := fun _ _ => rfl
  bot := fun _ _ => rfl
  tup := by
    intro u v h
    simp [joined, fromPD4] at h
  conn := by
    intro x hx
    rcases hx with hx | hx
    · simp [flatPD] at hx
    · exact ⟨Conn.refl _, List.mem_range.1 hx⟩

theorem bc_getD_of_getElem? (L : List Nat) (i a : Nat) (h : L[i]? = some a) : L.getD i 0 = a := by
  rw [List.getD_eq_getElem?_getD, h]; rfl

theorem bc_getD_mem (L : List Nat) (p : Nat) (hp : p < L.length) : L.getD p 0 ∈ L := by
  rw [List.getD_eq_getElem?_getD, List.getElem?_eq_getElem hp]
  exact List.getElem_mem hp

/-- the strands through the crossing written for the letter `s` over the bottom labels `a`, `b`: both sides list
the same four alternatives, in an order that depends on the sign of `s` -/
theorem bc_joined_letter (s : Int) (a b c u v : Nat) (t : Nat × Nat × Nat × Nat)
    (ht : (if s > 0 then (a, c, c + 1, b) else (b, a, c, c + 1)) = t) :
    joined [Crossing.ofPD t.1 t.2.1 t.2.2.1 t.2.2.2] u v = true ↔
      (u = a ∧ v = c + 1) ∨ (u = c + 1 ∧ v = a) ∨ (u = b ∧ v = c) ∨ (u = c ∧ v = b) := by
  rw [bc_joined_single]
  subst ht
  split <;> simp only <;> constructor <;> rintro (h | h | h | h) <;>
    simp only [h, and_self, true_or, or_true]

theorem bc_mem_letter (s : Int) (a b c x : Nat) (t : Nat × Nat × Nat × Nat)
    (ht : (if s > 0 then (a, c, c + 1, b) else (b, a, c, c + 1)) = t) :
    x ∈ flatPD [t] ↔ x = a ∨ x = b ∨ x = c ∨ x = c + 1 := by
  subst ht
  simp only [flatPD, List.flatMap_cons, List.flatMap_nil, List.append_nil, List.mem_cons, List.not_mem_nil,
    or_false]
  split <;> simp only <;> constructor <;> rintro (h | h | h | h) <;>
    simp only [h, true_or, or_true]

theorem kinv_step (strands : Nat) (st st' : Nat × List Nat × PD) (s : Int) (P : List Nat) (sid : Nat → Nat)
    (hI : CInv strands st) (hK : KInv strands st P sid) (h : closureStep st s = .ok st') :
    ∃ sid', KInv strands st' (swapAt P (s.natAbs - 1)) sid' := by
  obtain ⟨a, b, _, ha, hb, rfl⟩ := closureStep_ok h
  have hfresh := cinv_lt_count hI
  obtain ⟨count, bottom, pd⟩ := st
  obtain ⟨hlen, hle, -, -, -⟩ := hI
  obtain ⟨plen, top, bot, tup, conn⟩ := hK
  simp only at ha hb hfresh hlen hle bot tup conn ⊢
  generalize s.natAbs - 1 = i at *
  have hi1 : i + 1 < bottom.length := (List.getElem?_eq_some_iff.1 hb).1
  have hi : i < bottom.length := Nat.lt_of_succ_lt hi1
  have ha' : bottom.getD i 0 = a := bc_getD_of_getElem? _ _ _ ha
  have hb' : bottom.getD (i + 1) 0 = b := bc_getD_of_getElem? _ _ _ hb
  have ham : a ∈ bottom := ha' ▸ bc_getD_mem bottom i hi
  have hbm : b ∈ bottom := hb' ▸ bc_getD_mem bottom (i + 1) hi1
  have hac : a < count := hfresh a (Or.inr (Or.inl ham))
  have hbc : b < count := hfresh b (Or.inr (Or.inl hbm))
  -- the new ghost function: the fresh labels continue the strands of `b` and `a`
  obtain ⟨sid', hs1, hs2, hs3⟩ : ∃ sid' : Nat → Nat, sid' count = sid b ∧ sid' (count + 1) = sid a ∧
      ∀ x, x < count → sid' x = sid x := by
    refine ⟨fun x => if x = count then sid b else if x = count + 1 then sid a else sid x, if_pos rfl, ?_, ?_⟩
    · show (if count + 1 = count then _ else _) = _
      rw [if_neg (Nat.succ_ne_self count), if_pos rfl]
    · intro x hx
      show (if x = count then _ else _) = _
      rw [if_neg (Nat.ne_of_lt hx), if_neg (Nat.ne_of_lt (Nat.lt_succ_of_lt hx))]
  have hsa := hs3 a hac
  have hsb := hs3 b hbc
  refine ⟨sid', ?_⟩
  generalize ht : (if s > 0 then (a, count, count + 1, b) else (b, a, count, count + 1)) = t
  have hnew := fun u v => bc_joined_letter s a b count u v t ht
  have hflat := fun x => bc_mem_letter s a b count x t ht
  -- both invariants about old labels survive, since `sid'` agrees with `sid` below `count`
  have hold : ∀ x, x ∈ flatPD pd ∨ x ∈ bottom →
      Conn (fromPD4 pd ++ [Crossing.ofPD t.1 t.2.1 t.2.2.1 t.2.2.2]) x (sid' x) ∧ sid' x < strands := by
    intro x hx
    have hc := conn x hx
    rw [hs3 x (hfresh x (hx.elim Or.inl (fun h => Or.inr (Or.inl h))))]
    exact ⟨bc_conn_mono _ _ hc.1, hc.2⟩
  have hcc : Conn (fromPD4 pd ++ [Crossing.ofPD t.1 t.2.1 t.2.2.1 t.2.2.2]) count (sid' count)
      ∧ sid' count < strands := by
    have hb2 := hold b (Or.inr hbm)
    rw [hsb] at hb2
    rw [hs1]
    refine ⟨(Conn.single ?_).trans hb2.1, hb2.2⟩
    rw [bc_joined_append, (hnew count b).2 (Or.inr (Or.inr (Or.inr ⟨rfl, rfl⟩))), Bool.or_true]
  have hdd : Conn (fromPD4 pd ++ [Crossing.ofPD t.1 t.2.1 t.2.2.1 t.2.2.2]) (count + 1) (sid' (count + 1))
      ∧ sid' (count + 1) < strands := by
    have ha2 := hold a (Or.inr ham)
    rw [hsa] at ha2
    rw [hs2]
    refine ⟨(Conn.single ?_).trans ha2.1, ha2.2⟩
    rw [bc_joined_append, (hnew (count + 1) a).2 (Or.inr (Or.inl ⟨rfl, rfl⟩)), Bool.or_true]
  refine ⟨?_, ?_, ?_, ?_, ?_⟩
  · rw [swapAt_length]; exact plen
  · intro t ht
    rw [hs3 t (Nat.lt_of_lt_of_le ht hle)]; exact top t ht
  · intro p hp
    simp only
    rw [bc_getD_set2 bottom i _ _ p hi1, swapAt_getD P i p (by rw [plen, ← hlen]; exact hi1)]
    by_cases h1 : p = i + 1
    · rw [if_pos h1, if_pos h1, hs2, ← ha']; exact bot i (hlen ▸ hi)
    · rw [if_neg h1, if_neg h1]
      by_cases h2 : p = i
      · rw [if_pos h2, if_pos h2, hs1, ← hb']; exact bot (i + 1) (hlen ▸ hi1)
      · rw [if_neg h2, if_neg h2]
        have hm : bottom.getD p 0 ∈ bottom := bc_getD_mem bottom p (hlen.symm ▸ hp)
        rw [hs3 _ (hfresh _ (Or.inr (Or.inl hm)))]
        exact bot p hp
  · intro u v huv
    simp only at huv
    rw [bc_fromPD4_snoc, bc_joined_append, Bool.or_eq_true] at huv
    rcases huv with huv | huv
    · have hm := bc_joined_mem _ _ _ huv
      rw [allEdges_fromPD4] at hm
      rw [hs3 u (hfresh u (Or.inl hm.1)), hs3 v (hfresh v (Or.inl hm.2))]
      exact tup u v huv
    · rcases (hnew u v).1 huv with ⟨rfl, rfl⟩ | ⟨rfl, rfl⟩ | ⟨rfl, rfl⟩ | ⟨rfl, rfl⟩
      · rw [hsa, hs2]
      · rw [hsa, hs2]
      · rw [hsb, hs1]
      · rw [hsb, hs1]
  · simp only
    rw [bc_fromPD4_snoc]
    intro x hx
    rcases hx with hx | hx
    · rw [flatPD_append, List.mem_append] at hx
      rcases hx with hx | hx
      · exact hold x (Or.inl hx)
      · rcases (hflat x).1 hx with rfl | rfl | rfl | rfl
        · exact hold _ (Or.inr ham)
        · exact hold _ (Or.inr hbm)
        · exact hcc
        · exact hdd
    · rcases List.mem_or_eq_of_mem_set hx with hx | rfl
      · rcases List.mem_or_eq_of_mem_set hx with hx | rfl
        · exact hold x (Or.inr hx)
        · exact hcc
      · exact hdd

theorem kinv_foldl (strands : Nat) (w : List Int) (st st' : Nat × List Nat × PD) (P : List Nat)
    (sid : Nat → Nat) (hI : CInv strands st) (hK : KInv strands st P sid)
    (h : w.foldlM closureStep st = .ok st') :
    ∃ sid', KInv strands st' (w.foldl (fun P s => swapAt P (s.natAbs - 1)) P) sid' := by
  refine (Res.foldlM_inv_prefix
    (fun u q => CInv strands q ∧ ∃ sid', KInv strands q (u.foldl (fun P s => swapAt P (s.natAbs - 1)) P) sid')
    ?_ ⟨hI, sid, hK⟩ h).2
  intro u q s q' ⟨hq, sid1, hk⟩ hs
  rw [List.foldl_append]
  exact ⟨cinv_step strands q q' s hq hs, kinv_step strands q q' s _ sid1 hq hk hs⟩

structure FinalCtx (strands : Nat) (bottom : List Nat) (pd : PD) (P : List Nat) (sid : Nat → Nat) : Prop where
  plen : P.length = strands
  blen : bottom.length = strands
  top : ∀ t, t < strands → sid t = t
  bot : ∀ p, p < strands → sid (bottom.getD p 0) = P.getD p 0
  tup : ∀ u v, joined (fromPD4 pd) u v = true → sid u = sid v
  conn : ∀ x, x ∈ flatPD pd ∨ x ∈ bottom → Conn (fromPD4 pd) x (sid x) ∧ sid x < strands
  bge : ∀ x ∈ bottom, strands ≤ x
  nodup : bottom.Nodup
  inflat : ∀ x ∈ bottom, x ∈ flatPD pd

theorem bc_final_ctx (strands : Nat) (st : Nat × List Nat × PD) (P : List Nat) (sid : Nat → Nat)
    (hI : CInv strands st) (hK : KInv strands st P sid) (hfree : hasFreeLoop st.2.1 = false) :
    FinalCtx strands st.2.1 st.2.2 P sid :=
  have hge := cinv_bottom_ge hI hfree
  ⟨hK.plen, hI.len, hK.top, hK.bot, hK.tup, hK.conn, hge, br_cinv_bottom_nodup hI,
    fun x hx => cinv_mem_code hI (br_cinv_bottom_lt hI x hx) (Or.inr (hge x hx))⟩

section final
variable {strands : Nat} {bottom : List Nat} {pd : PD} {P : List Nat} {sid : Nat → Nat}

theorem FinalCtx.ftop (C : FinalCtx strands bottom pd P sid) (t : Nat) (ht : t < strands) :
    connRename bottom t = t :=
  connRename_of_lt C.bge t ht

theorem bc_getD_idxOf (L : List Nat) (x : Nat) (hx : x ∈ L) : L.getD (L.idxOf x) 0 = x := by
  have hl : L.idxOf x < L.length := List.idxOf_lt_length_iff.2 hx
  rw [List.getD_eq_getElem?_getD, List.getElem?_eq_getElem hl, List.getElem_idxOf]; rfl

theorem FinalCtx.fbot (C : FinalCtx strands bottom pd P sid) (k : Nat) (hk : k < strands) :
    bottom.getD k 0 ∈ bottom ∧ connRename bottom (bottom.getD k 0) = k := by
  have hk' : k < bottom.length := by rw [C.blen]; exact hk
  rw [List.getD_eq_getElem?_getD, List.getElem?_eq_getElem hk']
  exact ⟨List.getElem_mem hk', connRename_getElem C.nodup k hk'⟩

/-- after the renaming the top label `k` lies on the strand that started at top position `P[k]` -/
theorem FinalCtx.conn_perm (C : FinalCtx strands bottom pd P sid) (k : Nat) (hk : k < strands) :
    Conn (renumber (connRename bottom) (fromPD4 pd)) k (P.getD k 0) := by
  obtain ⟨hm, hf⟩ := C.fbot k hk
  have hc := C.conn _ (Or.inr hm)
  rw [C.bot k hk] at hc
  have h := bc_conn_renumber (connRename bottom) _ hc.1
  rw [hf, C.ftop _ hc.2] at h
  exact h

theorem FinalCtx.conn_of_cyc (C : FinalCtx strands bottom pd P sid) {a b : Nat} (h : CycRel P a b) :
    Conn (renumber (connRename bottom) (fromPD4 pd)) a b := by
  induction h with
  | refl => exact Conn.refl _
  | fwd _ hb ih => exact ih.trans (C.conn_perm _ (by rw [← C.plen]; exact hb))
  | bwd _ hb ih => exact ih.trans (C.conn_perm _ (by rw [← C.plen]; exact hb)).symm

theorem FinalCtx.cyc_of_feq (C : FinalCtx strands bottom pd P sid) (x y : Nat)
    (h : connRename bottom x = connRename bottom y) : CycRel P (sid x) (sid y) := by
  by_cases hx : x ∈ bottom
  · obtain ⟨fx, lx⟩ := br_connRename_mem _ _ hx
    have ex := bc_getD_idxOf bottom x hx
    by_cases hy : y ∈ bottom
    · obtain ⟨fy, ly⟩ := br_connRename_mem _ _ hy
      have ey := bc_getD_idxOf bottom y hy
      rw [fx, fy] at h
      rw [h, ey] at ex
      subst ex
      exact CycRel.refl _
    · rw [fx, br_connRename_nmem _ _ hy] at h
      rw [h] at ex lx
      rw [C.blen] at lx
      rw [← ex, C.bot y lx, C.top y lx]
      exact CycRel.step' (by rw [C.plen]; exact lx)
  · by_cases hy : y ∈ bottom
    · obtain ⟨fy, ly⟩ := br_connRename_mem _ _ hy
      have ey := bc_getD_idxOf bottom y hy
      rw [fy, br_connRename_nmem _ _ hx] at h
      rw [← h] at ey ly
      rw [C.blen] at ly
      rw [← ey, C.bot x ly, C.top x ly]
      exact CycRel.step (by rw [C.plen]; exact ly)
    · rw [br_connRename_nmem _ _ hx, br_connRename_nmem _ _ hy] at h
      subst h
      exact CycRel.refl _

theorem FinalCtx.cyc_of_conn (C : FinalCtx strands bottom pd P sid) {e e' : Nat}
    (h : Conn (renumber (connRename bottom) (fromPD4 pd)) e e') :
    ∀ x, connRename bottom x = e → ∃ y, connRename bottom y = e' ∧ CycRel P (sid x) (sid y) := by
  induction h with
  | refl => intro x hx; exact ⟨x, hx, CycRel.refl _⟩
  | tail _ hj ih =>
    intro x hx
    obtain ⟨y, hy, hc⟩ := ih x hx
    obtain ⟨u, v, huv, hu, hv⟩ := bc_joined_renumber_inv _ _ _ _ hj
    refine ⟨v, hv, ?_⟩
    have h1 := C.cyc_of_feq y u (hy.trans hu.symm)
    rw [C.tup u v huv] at h1
    exact hc.trans h1

theorem FinalCtx.conn_iff (C : FinalCtx strands bottom pd P sid) (a b : Nat) (ha : a < strands)
    (hb : b < strands) : Conn (renumber (connRename bottom) (fromPD4 pd)) a b ↔ CycRel P a b := by
  constructor
  · intro h
    obtain ⟨y, hy, hc⟩ := C.cyc_of_conn h a (C.ftop a ha)
    have h2 := C.cyc_of_feq y b (hy.trans (C.ftop b hb).symm)
    rw [C.top a ha] at hc
    rw [C.top b hb] at h2
    exact hc.trans h2
  · exact C.conn_of_cyc

theorem FinalCtx.top_mem (C : FinalCtx strands bottom pd P sid) (k : Nat) (hk : k < strands) :
    k ∈ allEdges (renumber (connRename bottom) (fromPD4 pd)) := by
  obtain ⟨hm, hf⟩ := C.fbot k hk
  rw [← bc_fromPD4_map, allEdges_fromPD4, flatPD_map]
  exact List.mem_map.2 ⟨_, C.inflat _ hm, hf⟩

theorem FinalCtx.on_strand (C : FinalCtx strands bottom pd P sid) (e : Nat)
    (he : e ∈ allEdges (renumber (connRename bottom) (fromPD4 pd))) :
    ∃ k, k < strands ∧ Conn (renumber (connRename bottom) (fromPD4 pd)) k e := by
  rw [← bc_fromPD4_map, allEdges_fromPD4, flatPD_map] at he
  obtain ⟨x, hx, rfl⟩ := List.mem_map.1 he
  have hc := C.conn x (Or.inl hx)
  have h := bc_conn_renumber (connRename bottom) _ hc.1
  rw [C.ftop _ hc.2] at h
  exact ⟨sid x, hc.2, h.symm⟩

end final

theorem bc_closure_inv (strands : Nat) (w : List Int) (l : Link) (h : closure strands w = .ok l) :
    ∃ st, w.foldlM closureStep (strands, List.range strands, []) = .ok st ∧ hasFreeLoop st.2.1 = false ∧
      l = renumber (connRename st.2.1) (fromPD4 st.2.2) := by
  obtain ⟨st, hf, hfl, rfl⟩ := closure_inv h
  exact ⟨st, hf, hfl, bc_fromPD4_map _ _⟩

theorem bc_closure_ctx (strands : Nat) (w : List Int) (l : Link) (h : closure strands w = .ok l) :
    ∃ bottom pd sid, FinalCtx strands bottom pd (braidPerm strands w) sid ∧
      l = renumber (connRename bottom) (fromPD4 pd) := by
  obtain ⟨st, hf, hfl, hl⟩ := bc_closure_inv strands w l h
  have hI := cinv_foldl strands w _ st (cinv_init strands) hf
  obtain ⟨sid, hK⟩ := kinv_foldl strands w _ st _ _ (cinv_init strands) (kinv_init strands) hf
  exact ⟨st.2.1, st.2.2, sid, bc_final_ctx strands st _ sid hI hK hfl, hl⟩

theorem bc_letters_of_foldl (w : List Int) (st st' : Nat × List Nat × PD)
    (h : w.foldlM closureStep st = .ok st') : ∀ s ∈ w, 1 ≤ s.natAbs ∧ s.natAbs < st.2.1.length := by
  refine (Res.foldlM_inv_prefix
    (fun u q => q.2.1.length = st.2.1.length ∧ ∀ s ∈ u, 1 ≤ s.natAbs ∧ s.natAbs < st.2.1.length)
    ?_ ⟨rfl, fun _ hs => nomatch hs⟩ h).2
  intro u q t q' ⟨hlen, hu⟩ ht
  refine ⟨(closureStep_len ht).2.trans hlen, fun s hs => ?_⟩
  rcases List.mem_append.1 hs with hs | hs
  · exact hu s hs
  · obtain ⟨a, b, h0, _, hb, _⟩ := closureStep_ok ht
    have := (List.getElem?_eq_some_iff.1 hb).1
    cases List.mem_singleton.1 hs
    omega

theorem braidPerm_perm_of_closure (strands : Nat) (w : List Int) (l : Link) (h : closure strands w = .ok l) :
    (braidPerm strands w).Perm (List.range strands) := by
  obtain ⟨st, hf, _, _⟩ := bc_closure_inv strands w l h
  have := bc_letters_of_foldl w _ st hf
  simp only [List.length_range] at this
  exact braidPerm_perm strands w this

/-- two top labels of the closure lie on the same component iff their positions lie in the same cycle of the
braid permutation -/
theorem closure_conn_iff_cycle (strands : Nat) (w : List Int) (l : Link) (h : closure strands w = .ok l)
    (a b : Nat) (ha : a < strands) (hb : b < strands) :
    Conn l a b ↔ CycRel (braidPerm strands w) a b := by
  obtain ⟨bottom, pd, sid, C, rfl⟩ := bc_closure_ctx strands w l h
  exact C.conn_iff a b ha hb

theorem closure_label_on_strand (strands : Nat) (w : List Int) (l : Link) (h : closure strands w = .ok l) :
    (∀ k, k < strands → k ∈ allEdges l) ∧ ∀ e ∈ allEdges l, ∃ k, k < strands ∧ Conn l k e := by
  obtain ⟨bottom, pd, sid, C, rfl⟩ := bc_closure_ctx strands w l h
  exact ⟨C.top_mem, C.on_strand⟩

theorem closure_transversal (strands : Nat) (w : List Int) (l : Link) (h : closure strands w = .ok l)
    (reps : List Nat) (hr : CycTransversal (braidPerm strands w) reps) : Transversal l reps := by
  obtain ⟨h1, h2, h3⟩ := hr
  rw [braidPerm_length] at h1 h3
  obtain ⟨c1, c2⟩ := closure_label_on_strand strands w l h
  refine ⟨fun r hr => c1 r (h1 r hr), ?_, ?_⟩
  · refine List.Pairwise.imp_of_mem ?_ h2
    intro a b ha hb hn hc
    exact hn ((closure_conn_iff_cycle strands w l h a b (h1 a ha) (h1 b hb)).1 hc)
  · intro e he
    obtain ⟨k, hk, hke⟩ := c2 e he
    obtain ⟨r, hr, hrk⟩ := h3 k hk
    exact ⟨r, hr, ((closure_conn_iff_cycle strands w l h r k (h1 r hr) hk).2 hrk).trans hke⟩

/-- `Link::components` of the closure of a braid word returns as many components as the braid permutation
has cycles (`reps` = any list containing exactly one position of every cycle) -/
theorem closure_components_eq_cycles (strands : Nat) (w : List Int) (l : Link) (h : closure strands w = .ok l)
    (reps : List Nat) (hr : CycTransversal (braidPerm strands w) reps) :
    ∃ cs, components l = .ok cs ∧ cs.length = reps.length := by
  obtain ⟨cs, hc, hk⟩ := components_check' l (closure_valid' strands w l h)
  refine ⟨cs, hc, ?_⟩
  have := transversal_length l _ _ (check_transversal l cs hk) (closure_transversal strands w l h reps hr)
  rw [List.length_map] at this
  exact this

end Yuiv.C18
