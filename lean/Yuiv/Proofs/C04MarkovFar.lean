import Yuiv.Proofs.C04Closure
/-
C04Markov (helper, no property theorem here): far commutation `w₁ ++ [s, t] ++ w₂` versus `w₁ ++ [t, s] ++ w₂` for
letters on disjoint pairs of strands.  The two un-renamed codes differ by the label swap `c ↔ c+2`, `c+1 ↔ c+3` and the
order of two crossings.
-/
open Yuiv.KhRef Yuiv.C04
namespace Yuiv.C04Inv
open Yuiv.C18 (closureStep closure PD)
open Yuiv.C18Bridge (toKh)

variable {R : Type} [CommRing R]

/-- the swap `c ↔ c+2`, `c+1 ↔ c+3` -/
def swap2 (c : Nat) : Nat → Nat := winMap c [2, 3, 0, 1]

theorem swap2_inj (c : Nat) : Function.Injective (swap2 c) := winMap_inj c _ (by decide) (by decide)

theorem swap2_lt (c z : Nat) (h : z < c) : swap2 c z = z := winMap_lt c _ z h

theorem swap2_ge (c z : Nat) (h : c + 4 ≤ z) : swap2 c z = z + 0 := winMap_ge c _ z h

theorem swap2_vals (c : Nat) :
    swap2 c c = c + 2 ∧ swap2 c (c + 1) = c + 2 + 1 ∧ swap2 c (c + 2) = c ∧ swap2 c (c + 2 + 1) = c + 1 :=
  ⟨winMap_add c _ 0, winMap_add c _ 1, winMap_add c _ 2, winMap_add c _ 3⟩

theorem set_swap2 (bot : List Nat) (i j c : Nat) (hij : i + 2 ≤ j ∨ j + 2 ≤ i) (hlt : ∀ z ∈ bot, z < c) :
    (((bot.set j c).set (j + 1) (c + 1)).set i (c + 2)).set (i + 1) (c + 2 + 1)
      = ((((bot.set i c).set (i + 1) (c + 1)).set j (c + 2)).set (j + 1) (c + 2 + 1)).map (swap2 c) := by
  obtain ⟨v1, v2, v3, v4⟩ := swap2_vals c
  apply List.ext_getElem (by simp)
  intro k hk1 hk2
  have hk : k < bot.length := by simpa using hk1
  simp only [List.getElem_set, List.getElem_map]
  by_cases k1 : i + 1 = k
  · rw [if_pos k1, if_neg (by omega), if_neg (by omega), if_pos k1, v2]
  · by_cases k2 : i = k
    · rw [if_neg k1, if_pos k2, if_neg (by omega), if_neg (by omega), if_neg k1, if_pos k2, v1]
    · by_cases k3 : j + 1 = k
      · rw [if_neg k1, if_neg k2, if_pos k3, if_pos k3, v4]
      · by_cases k4 : j = k
        · rw [if_neg k1, if_neg k2, if_neg k3, if_pos k4, if_neg k3, if_pos k4, v3]
        · rw [if_neg k1, if_neg k2, if_neg k3, if_neg k4, if_neg k3, if_neg k4, if_neg k1, if_neg k2,
            swap2_lt c _ (hlt _ (List.getElem_mem hk))]

theorem far_steps {c : Nat} {bot : List Nat} {pd1 : PD} {s t : Int} {mO mN : Nat × List Nat × PD}
    (hfar : s.natAbs + 2 ≤ t.natAbs ∨ t.natAbs + 2 ≤ s.natAbs)
    (hO : [s, t].foldlM closureStep (c, bot, pd1) = .ok mO) (hN : [t, s].foldlM closureStep (c, bot, pd1) = .ok mN) :
    ∃ i j a b a' b', (i + 2 ≤ j ∨ j + 2 ≤ i) ∧ a ∈ bot ∧ b ∈ bot ∧ a' ∈ bot ∧ b' ∈ bot ∧
      mO = (c + 2 + 2, (((bot.set i c).set (i + 1) (c + 1)).set j (c + 2)).set (j + 1) (c + 2 + 1),
        pd1 ++ [stepX s a b c] ++ [stepX t a' b' (c + 2)]) ∧
      mN = (c + 2 + 2, (((bot.set j c).set (j + 1) (c + 1)).set i (c + 2)).set (i + 1) (c + 2 + 1),
        pd1 ++ [stepX t a' b' c] ++ [stepX s a b (c + 2)]) := by
  obtain ⟨q, hq, hO⟩ := foldlM_cons_ok.1 hO
  obtain ⟨q', hq', hN⟩ := foldlM_cons_ok.1 hN
  simp only [List.foldlM_cons, List.foldlM_nil] at hO hN
  obtain ⟨a, b, hs0, hi, hi1, ea, eb, rfl⟩ := step_explicit hq
  obtain ⟨a', b', ht0, hj, hj1, ea', eb', rfl⟩ := step_explicit hq'
  have hij : s.natAbs - 1 + 2 ≤ t.natAbs - 1 ∨ t.natAbs - 1 + 2 ≤ s.natAbs - 1 := by
    clear * - hfar hs0 ht0
    omega
  generalize hi_def : s.natAbs - 1 = i at *
  generalize hj_def : t.natAbs - 1 = j at *
  -- the second letter of each order finds the bottom labels of the first step untouched
  have s2 := step_at (c := c + 2) (bot := (bot.set i c).set (i + 1) (c + 1)) (pd := pd1 ++ [stepX s a b c]) t j a' b'
    ht0 hj_def
    (by rw [List.getElem?_set_ne (by omega), List.getElem?_set_ne (by omega), List.getElem?_eq_getElem hj, ea'])
    (by rw [List.getElem?_set_ne (by omega), List.getElem?_set_ne (by omega), List.getElem?_eq_getElem hj1, eb'])
  have s2' := step_at (c := c + 2) (bot := (bot.set j c).set (j + 1) (c + 1)) (pd := pd1 ++ [stepX t a' b' c]) s i a b
    hs0 hi_def
    (by rw [List.getElem?_set_ne (by omega), List.getElem?_set_ne (by omega), List.getElem?_eq_getElem hi, ea])
    (by rw [List.getElem?_set_ne (by omega), List.getElem?_set_ne (by omega), List.getElem?_eq_getElem hi1, eb])
  simp only [s2, s2', bind, Res.bind, pure] at hO hN
  cases hO; cases hN
  exact ⟨i, j, a, b, a', b', hij, ea ▸ List.getElem_mem hi, eb ▸ List.getElem_mem hi1, ea' ▸ List.getElem_mem hj,
    eb' ▸ List.getElem_mem hj1, rfl, rfl⟩

theorem far_stateSum (x y : R) (n : Nat) (w1 w2 : List Int) (s t : Int) (l l' : C18.Link)
    (hfar : s.natAbs + 2 ≤ t.natAbs ∨ t.natAbs + 2 ≤ s.natAbs)
    (h : closure n (w1 ++ [s, t] ++ w2) = .ok l) (h' : closure n (w1 ++ [t, s] ++ w2) = .ok l') :
    stateSum x y (toKh l') = stateSum x y (toKh l) := by
  obtain ⟨⟨c, bot, pd1⟩, mO, mN, ⟨cE, botE, pdE⟩, hI1, hmO, hmN, _, hIE, hsO, hN⟩ :=
    closure_mid_pair x y n w1 [s, t] [t, s] w2 l l' h h'
  obtain ⟨_, hlt, hpdlt, _⟩ := cinv_facts hI1
  obtain ⟨i, j, a, b, a', b', hij, ha, hb, ha', hb', rfl, rfl⟩ := far_steps hfar hmO hmN
  obtain ⟨pd2, hpd, hsN⟩ := hN (swap2 c) 0 (swap2_ge c) rfl (set_swap2 bot i j c hij hlt)
  simp only at hlt hpdlt hpd hsO hsN
  subst hpd
  obtain ⟨v1, v2, v3, v4⟩ := swap2_vals c
  have hX1 : map4 (swap2 c) (stepX s a b c) = stepX s a b (c + 2) := by
    unfold stepX; split <;> simp only [map4, swap2_lt c _ (hlt a ha), swap2_lt c _ (hlt b hb), v1, v2]
  have hX2 : map4 (swap2 c) (stepX t a' b' (c + 2)) = stepX t a' b' c := by
    unfold stepX; split <;> simp only [map4, swap2_lt c _ (hlt a' ha'), swap2_lt c _ (hlt b' hb'), v3, v4]
  rw [hsN, hsO, stateSum_relabel x y (swap2_inj c) _ botE
    (fun k hk => swap2_lt c k (by have := hIE.len; have := hI1.le; simp only at *; omega))]
  simp only [List.map_append, List.map_cons, List.map_nil, hX1, hX2,
    map4_fix _ pd1 (fun z hz => swap2_lt c z (hpdlt z hz))]
  exact stateSum_perm x y (WF_rawLinkP _ _) (by
    simpa [List.append_assoc] using rawLinkP_perm_pd ((List.Perm.swap (stepX t a' b' c) (stepX s a b (c + 2))
      (pd2.map (map4 (swap2 c)))).append_left pd1) ((botE.map (swap2 c)).zipIdx))

end Yuiv.C04Inv
