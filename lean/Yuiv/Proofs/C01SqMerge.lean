import Yuiv.Proofs.C01SqEdgeGeom
import Yuiv.Proofs.C06CycleEdge
import Yuiv.Proofs.C01SqDefs
/-
From the arc relations to circle NAMES.

`Mrg L Pf Pc csf csc p r`: the relation `Conn Pc` is the relation `Conn Pf` with the (different) classes of `p` and `r`
merged; then the circle lists differ by the merge `N csf p, N csf r ↦ N csc p` (`MergeRel`), and every circle through a
label unrelated to `p`, `r` is literally the same array in both lists (`persist`).  A cube edge `t → t'` of type merge
is `Mrg` from `t` to `t'`, one of type split is `Mrg` from `t'` to `t` (`edge_cases`).
-/
namespace Yuiv.C01Sq
open Yuiv Yuiv.KhRef Yuiv.C04Inv Yuiv.C06Cycle
open Yuiv.C02Mirror (Circ edgeOK)

variable {L : Array Nat}

/-- the circle of `cs` through the label `e` -/
def N (cs : Circ) (e : Nat) : Name := cs[circleIdx cs e]!

section names
variable {P P' : List (Nat × Nat)} {cs cs' : Circ}

theorem N_mem (h : CirclesSpec L P cs) {e : Nat} (he : e ∈ L) : N cs e ∈ cs := by
  obtain ⟨h1, _⟩ := circleIdx_spec h he
  unfold N
  rw [getElem!_pos cs _ h1]
  exact Array.getElem_mem h1

theorem mem_N_iff (h : CirclesSpec L P cs) {e : Nat} (he : e ∈ L) (y : Nat) :
    y ∈ N cs e ↔ y ∈ L ∧ Conn P e y := by
  obtain ⟨h1, h2⟩ := circleIdx_spec h he
  exact h.mem_iff h1 h2 y

theorem N_eq_iff (h : CirclesSpec L P cs) {e e' : Nat} (he : e ∈ L) (he' : e' ∈ L) :
    N cs e = N cs e' ↔ Conn P e e' := by
  constructor
  · intro hh
    have : e' ∈ N cs e' := (circleIdx_spec h he').2
    rw [← hh] at this
    exact ((mem_N_iff h he e').1 this).2
  · intro hc
    unfold N
    rw [(circleIdx_eq_iff h he he').2 hc]

/-- circles of two states with the same members are the same array -/
theorem N_cross (h : CirclesSpec L P cs) (h' : CirclesSpec L P' cs') {e e' : Nat} (he : e ∈ L) (he' : e' ∈ L)
    (hm : ∀ y, y ∈ L → (Conn P e y ↔ Conn P' e' y)) : N cs e = N cs' e' := by
  obtain ⟨h1, _⟩ := circleIdx_spec h he
  obtain ⟨h1', _⟩ := circleIdx_spec h' he'
  apply circle_ext h h' h1 h1'
  intro y
  show y ∈ N cs e ↔ y ∈ N cs' e'
  rw [mem_N_iff h he, mem_N_iff h' he']
  constructor
  · rintro ⟨a, b⟩; exact ⟨a, (hm y a).1 b⟩
  · rintro ⟨a, b⟩; exact ⟨a, (hm y a).2 b⟩

theorem exists_N (h : CirclesSpec L P cs) {c : Name} (hc : c ∈ cs) : ∃ e, e ∈ L ∧ c = N cs e := by
  obtain ⟨i, hi, rfl⟩ := Array.mem_iff_getElem.1 hc
  obtain ⟨x, hx⟩ := h.nonempty hi
  have hxL := h.mem_labels hi hx
  refine ⟨x, hxL, ?_⟩
  unfold N
  rw [circleIdx_of_mem h hi hx, getElem!_pos cs i hi]

end names

/-- `Conn Pc` = `Conn Pf` with the classes of `p` and `r` merged -/
def Coarsens (Pf Pc : List (Nat × Nat)) (p r : Nat) : Prop :=
  ∀ x y, Conn Pc x y ↔ Conn Pf x y ∨ ((Conn Pf x p ∨ Conn Pf x r) ∧ (Conn Pf y p ∨ Conn Pf y r))

section coarse
variable {Pf Pc : List (Nat × Nat)} {p r : Nat}

theorem Coarsens.le (h : Coarsens Pf Pc p r) {x y : Nat} (hc : Conn Pf x y) : Conn Pc x y := (h x y).2 (Or.inl hc)

theorem Coarsens.pr (h : Coarsens Pf Pc p r) : Conn Pc p r :=
  (h p r).2 (Or.inr ⟨Or.inl (Conn.refl p), Or.inr (Conn.refl r)⟩)

theorem Coarsens.touched (h : Coarsens Pf Pc p r) {x : Nat} (hx : Conn Pf x p ∨ Conn Pf x r) : Conn Pc x p := by
  rcases hx with hx | hx
  · exact h.le hx
  · exact (h.le hx).trans h.pr.symm

theorem Coarsens.cases (h : Coarsens Pf Pc p r) {x : Nat} (hx : Conn Pc x p) : Conn Pf x p ∨ Conn Pf x r := by
  rcases (h x p).1 hx with h1 | ⟨h1, _⟩
  · exact Or.inl h1
  · exact h1

theorem Coarsens.iff_off (h : Coarsens Pf Pc p r) {x : Nat} (h1 : ¬ Conn Pf x p) (h2 : ¬ Conn Pf x r) (y : Nat) :
    Conn Pc x y ↔ Conn Pf x y := by
  rw [h x y]
  constructor
  · rintro (hc | ⟨hc | hc, _⟩)
    · exact hc
    · exact absurd hc h1
    · exact absurd hc h2
  · exact Or.inl

theorem Coarsens.off_coarse (h : Coarsens Pf Pc p r) {x : Nat} (h1 : ¬ Conn Pc x p) :
    ¬ Conn Pf x p ∧ ¬ Conn Pf x r :=
  ⟨fun hc => h1 (h.le hc), fun hc => h1 ((h.le hc).trans h.pr.symm)⟩

end coarse

structure Mrg (L : Array Nat) (Pf Pc : List (Nat × Nat)) (csf csc : Circ) (p r : Nat) : Prop where
  ne : ¬ Conn Pf p r
  co : Coarsens Pf Pc p r
  rel : MergeRel csf csc (N csf p) (N csf r) (N csc p)

section merge
variable {Pf Pc : List (Nat × Nat)} {csf csc : Circ} {p r : Nat}

theorem persist (hf : CirclesSpec L Pf csf) (hc : CirclesSpec L Pc csc) (h : Coarsens Pf Pc p r) {e : Nat}
    (he : e ∈ L) (h1 : ¬ Conn Pf e p) (h2 : ¬ Conn Pf e r) : N csc e = N csf e :=
  N_cross hc hf he he (fun y _ => h.iff_off h1 h2 y)

theorem mrg_of_coarsens (hf : CirclesSpec L Pf csf) (hc : CirclesSpec L Pc csc) (hp : p ∈ L) (hr : r ∈ L)
    (hn : ¬ Conn Pf p r) (h : Coarsens Pf Pc p r) : Mrg L Pf Pc csf csc p r := by
  refine ⟨hn, h, ⟨N_mem hf hp, N_mem hf hr, ?_, ?_, ?_⟩⟩
  · intro e; exact hn ((N_eq_iff hf hp hr).1 e)
  · intro hm
    obtain ⟨e, he, hce⟩ := exists_N hf hm
    have h1 : p ∈ N csc p := (circleIdx_spec hc hp).2
    have h2 : r ∈ N csc p := (mem_N_iff hc hp r).2 ⟨hr, h.pr⟩
    rw [hce] at h1 h2
    have c1 := ((mem_N_iff hf he p).1 h1).2
    have c2 := ((mem_N_iff hf he r).1 h2).2
    exact hn (c1.symm.trans c2)
  · intro c
    constructor
    · intro hcm
      obtain ⟨e, he, rfl⟩ := exists_N hc hcm
      by_cases hA : Conn Pf e p ∨ Conn Pf e r
      · left
        exact (N_eq_iff hc he hp).2 (h.touched hA)
      · right
        have h1 : ¬ Conn Pf e p := fun x => hA (Or.inl x)
        have h2 : ¬ Conn Pf e r := fun x => hA (Or.inr x)
        rw [persist hf hc h he h1 h2]
        exact ⟨N_mem hf he, fun e1 => h1 ((N_eq_iff hf he hp).1 e1), fun e1 => h2 ((N_eq_iff hf he hr).1 e1)⟩
    · rintro (rfl | ⟨hcm, n1, n2⟩)
      · exact N_mem hc hp
      · obtain ⟨e, he, rfl⟩ := exists_N hf hcm
        have h1 : ¬ Conn Pf e p := fun x => n1 ((N_eq_iff hf he hp).2 x)
        have h2 : ¬ Conn Pf e r := fun x => n2 ((N_eq_iff hf he hr).2 x)
        rw [← persist hf hc h he h1 h2]
        exact N_mem hc he

end merge

theorem not_edgeOK_of_same (cs cs' : Circ) (h : ∀ c, c ∈ cs → c ∈ cs') : edgeOK cs cs' = false := by
  have : C02Mirror.goneOf cs cs' = #[] := by
    unfold C02Mirror.goneOf
    apply Array.toList_inj.1
    rw [Array.toList_filter]
    simp only [Array.toList_range, List.filter_eq_nil_iff, List.mem_range]
    intro i hi
    have : cs[i]! ∈ cs' := h _ (by rw [getElem!_pos cs i hi]; exact Array.getElem_mem hi)
    simpa using this
  unfold edgeOK
  rw [this]
  rfl

theorem edge_cases {P P' : List (Nat × Nat)} {cs cs' : Circ} {p q r u : Nat} (g : EG L P P' p q r u)
    (h : CirclesSpec L P cs) (h' : CirclesSpec L P' cs') (hok : edgeOK cs cs' = true) :
    Mrg L P P' cs cs' p r ∨ Mrg L P' P cs' cs p r := by
  by_cases h1 : Conn P p r
  · by_cases h2 : Conn P' p r
    · exfalso
      have hE := g.E h1 h2
      have : edgeOK cs cs' = false := by
        apply not_edgeOK_of_same
        intro c hc
        obtain ⟨e, he, rfl⟩ := exists_N h hc
        rw [N_cross h h' he he (fun y _ => hE e y)]
        exact N_mem h' he
      rw [this] at hok
      cases hok
    · right
      exact mrg_of_coarsens h' h g.lp g.lr h2 (g.S h2)
  · left
    exact mrg_of_coarsens h h' g.lp g.lr h1 (g.M h1)

end Yuiv.C01Sq
