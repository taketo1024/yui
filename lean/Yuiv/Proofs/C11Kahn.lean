import Yuiv.Proofs.C11
/-
C11 — Kahn's algorithm (`top_sort`) on an acyclic graph returns every vertex, in a topological order,
for every iteration order of the hash map (`topSort_spec`); `attachRows_spec` and `depGraph_gwf` are the other two
pieces from which `kahn_complete` (Props/C11) concludes that `result()` never panics on an invariant table and
that its order is triangular.
-/
namespace Yuiv.C11
open Yuiv Res Std

abbrev Graph := List (Nat × List Nat)

def verts (g : Graph) : List Nat := g.map (·.1)

/-- predicate counted by `cnt`: `e` is an edge into `v` whose source is not in `res` -/
def pr (res : List Nat) (v : Nat) (e : Nat × List Nat) : Bool := e.2.contains v && !res.contains e.1

/-- number of predecessors of `v` that are not in `res` -/
def cnt (g : Graph) (res : List Nat) (v : Nat) : Nat := g.countP (pr res v)

/-- the hypotheses of `topSort_spec` on the graph: distinct keys, duplicate-free successor lists inside the keys, acyclic -/
structure GWF (g : Graph) : Prop where
  keys : (verts g).Nodup
  succNodup : ∀ e ∈ g, e.2.Nodup
  succMem : ∀ e ∈ g, ∀ v ∈ e.2, v ∈ verts g
  acyc : ∃ rk : Nat → Nat, ∀ e ∈ g, ∀ v ∈ e.2, rk v < rk e.1

theorem succs_of_mem {g : Graph} (hk : (verts g).Nodup) {u : Nat} {l : List Nat} (h : (u, l) ∈ g) :
    succs g u = l := by
  unfold succs
  cases hf : g.find? (fun e => e.1 == u) with
  | none => simpa using List.find?_eq_none.1 hf (u, l) h
  | some e =>
    cases eq_of_nodup_map hk (List.mem_of_find?_eq_some hf) h (by simpa using List.find?_some hf)
    rfl

theorem mem_verts {g : Graph} {u : Nat} (h : u ∈ verts g) : ∃ l, (u, l) ∈ g := by
  obtain ⟨e, he, rfl⟩ := List.mem_map.1 h
  exact ⟨e.2, he⟩

theorem cnt_snoc_notin (g : Graph) (res : List Nat) (v i : Nat) (h : i ∉ verts g) :
    cnt g (res ++ [i]) v = cnt g res v :=
  List.countP_congr fun e he => by
    have : e.1 ≠ i := fun x => h (x ▸ List.mem_map.2 ⟨e, he, rfl⟩)
    simp [pr, this]

theorem cnt_snoc (g : Graph) (hk : (verts g).Nodup) (res : List Nat) (v i : Nat) (l : List Nat)
    (hi : (i, l) ∈ g) (hr : i ∉ res) :
    cnt g (res ++ [i]) v + (if v ∈ l then 1 else 0) = cnt g res v := by
  have hp := List.perm_cons_erase hi
  have hk' : i ∉ verts (g.erase (i, l)) := (List.nodup_cons.1 ((hp.map Prod.fst).nodup_iff.1 hk)).1
  have := cnt_snoc_notin (g.erase (i, l)) res v i hk'
  unfold cnt at *
  rw [hp.countP_eq, hp.countP_eq (pr res v), List.countP_cons, List.countP_cons, this]
  simp [pr, hr]

theorem indeg_eq_cnt (g : Graph) (hn : ∀ e ∈ g, e.2.Nodup) (v : Nat) : indeg g v = cnt g [] v := by
  unfold indeg cnt
  induction g with
  | nil => rfl
  | cons e g ih =>
    rw [List.flatMap_cons, List.count_append, List.countP_cons,
      ih (fun e' he' => hn e' (List.mem_cons_of_mem _ he')),
      (hn e List.mem_cons_self).count]
    have : pr [] v e = decide (v ∈ e.2) := by simp [pr]
    rw [this]
    by_cases hv : v ∈ e.2 <;> simp [hv] <;> omega

/-- number of vertices not yet output -/
def unproc (g : Graph) (res : List Nat) : Nat := (verts g).countP (fun v => !res.contains v)

theorem relax_spec : ∀ (js : List Nat) (wt : HashMap Nat Nat) (q : List Nat), js.Nodup →
    (∀ v ∈ js, ∃ c, wt.get? v = some (c + 1)) →
    ∃ wt', relax js wt q = ok (wt', q ++ js.filter (fun v => wt.get? v == some 1)) ∧
      (∀ v, wt'.get? v = if v ∈ js then (wt.get? v).map (· - 1) else wt.get? v) := by
  intro js
  induction js with
  | nil => intro wt q _ _; exact ⟨wt, by simp [relax], by simp⟩
  | cons j js ih =>
    intro wt q hnd hpos
    have hnd' := List.nodup_cons.1 hnd
    obtain ⟨c, hc⟩ := hpos j List.mem_cons_self
    rw [relax, hc]
    simp only
    have hsame : ∀ v ∈ js, (wt.insert j c).get? v = wt.get? v := by
      intro v hv
      have : ¬ j = v := fun x => hnd'.1 (x ▸ hv)
      rw [HashMap.get?_insert]; simp [this]
    obtain ⟨wt', hrel, hwt'⟩ := ih (wt.insert j c) (if c = 0 then q ++ [j] else q) hnd'.2
      (fun v hv => by rw [hsame v hv]; exact hpos v (List.mem_cons_of_mem _ hv))
    refine ⟨wt', ?_, ?_⟩
    · rw [hrel]
      congr 2
      rw [List.filter_cons]
      have hfil : js.filter (fun v => (wt.insert j c).get? v == some 1) = js.filter (fun v => wt.get? v == some 1) :=
        List.filter_congr (fun v hv => by rw [hsame v hv])
      rw [hfil, hc]
      by_cases h0 : c = 0
      · subst h0; simp
      · have : (some (c + 1) == some 1) = false := by simp [h0]
        simp [h0]
    · intro v
      rw [hwt']
      by_cases hvj : v = j
      · subst hvj
        simp only [hnd'.1, if_false, List.mem_cons, true_or, if_true]
        rw [HashMap.get?_insert, hc]; simp
      · by_cases hv : v ∈ js
        · simp only [hv, if_true, List.mem_cons, or_true]
          rw [hsame v hv]
        · simp only [hv, if_false, List.mem_cons, hvj, or_self]
          have : ¬ j = v := fun x => hvj x.symm
          rw [HashMap.get?_insert]; simp [this]

/-- invariant of Kahn's main loop: `wt` counts the predecessors not yet output, and exactly the vertices with none are
output or queued -/
structure KInv (g : Graph) (wt : HashMap Nat Nat) (q res : List Nat) : Prop where
  nodup : (res ++ q).Nodup
  sub : ∀ v ∈ res ++ q, v ∈ verts g
  wt : ∀ v ∈ verts g, wt.get? v = some (cnt g res v)
  zero : ∀ v ∈ verts g, v ∈ res ++ q ↔ cnt g res v = 0
  ord : res.Pairwise (fun a b => a ∉ succs g b)

/-- when the queue is empty every vertex has been output: a vertex left over would have a predecessor
left over, of strictly larger rank -/
theorem all_output {g : Graph} (hg : GWF g) {res : List Nat}
    (hz : ∀ v ∈ verts g, v ∈ res ↔ cnt g res v = 0) : ∀ v ∈ verts g, v ∈ res := by
  obtain ⟨rk, hrk⟩ := hg.acyc
  obtain ⟨B, hB⟩ := exists_bound rk (verts g)
  have key : ∀ d v, v ∈ verts g → B - rk v ≤ d → v ∈ res := by
    intro d
    induction d with
    | zero => intro v hv hd; have := hB v hv; omega
    | succ d ih =>
      intro v hv hd
      apply Classical.byContradiction
      intro hnot
      have hc : cnt g res v ≠ 0 := fun h0 => hnot ((hz v hv).2 h0)
      have hpos : 0 < g.countP (pr res v) := Nat.pos_of_ne_zero hc
      obtain ⟨e, he, hp⟩ := List.countP_pos_iff.1 hpos
      simp only [pr, Bool.and_eq_true, List.contains_eq_mem, decide_eq_true_eq, Bool.not_eq_true',
        decide_eq_false_iff_not] at hp
      have hev : e.1 ∈ verts g := List.mem_map.2 ⟨e, he, rfl⟩
      have h1 := hrk e he v hp.1
      have h2 := hB e.1 hev
      exact hp.2 (ih e.1 hev (by omega))
  intro v hv
  exact key (B - rk v) v hv (Nat.le_refl _)

theorem kahn_step {g : Graph} (hg : GWF g) {wt : HashMap Nat Nat} {i : Nat} {q res : List Nat}
    (hinv : KInv g wt (i :: q) res) :
    i ∈ verts g ∧ i ∉ res ∧ ∃ wt' q', relax (succs g i) wt q = ok (wt', q') ∧ KInv g wt' q' (res ++ [i]) := by
  have hiV : i ∈ verts g := hinv.sub i (by simp)
  have hir : i ∉ res := fun h => (List.nodup_append.1 hinv.nodup).2.2 i h i List.mem_cons_self rfl
  obtain ⟨l, hil⟩ := mem_verts hiV
  have hsl : succs g i = l := succs_of_mem hg.keys hil
  rw [hsl]
  have hlV : ∀ v ∈ l, v ∈ verts g := hg.succMem (i, l) hil
  have hlpos : ∀ v ∈ l, 0 < cnt g res v := fun v hv =>
    List.countP_pos_iff.2 ⟨(i, l), hil, by simp [pr, hv, hir]⟩
  have hlold : ∀ v ∈ l, v ∉ res ++ i :: q := by
    intro v hv hmem
    have := (hinv.zero v (hlV v hv)).1 hmem
    have := hlpos v hv
    omega
  obtain ⟨wt', hrel, hwt'⟩ := relax_spec l wt q (hg.succNodup (i, l) hil) (by
    intro v hv
    have := hlpos v hv
    refine ⟨cnt g res v - 1, ?_⟩
    rw [hinv.wt v (hlV v hv)]
    congr 1; omega)
  have hcs := fun v => cnt_snoc g hg.keys res v i l hil hir
  have hfilt : ∀ v, v ∈ l.filter (fun v => wt.get? v == some 1) ↔ v ∈ l ∧ cnt g res v = 1 := by
    intro v
    rw [List.mem_filter, and_congr_right_iff]
    intro hv
    rw [hinv.wt v (hlV v hv)]
    simp
  -- the vertices output or queued are the old ones and the newly queued
  have happ : (res ++ [i]) ++ (q ++ l.filter (fun v => wt.get? v == some 1))
      = (res ++ i :: q) ++ l.filter (fun v => wt.get? v == some 1) := by simp
  refine ⟨hiV, hir, wt', _, hrel, ?_, ?_, ?_, ?_, ?_⟩
  · rw [happ, List.nodup_append]
    exact ⟨hinv.nodup, (hg.succNodup (i, l) hil).sublist List.filter_sublist,
      fun a ha b hb e => hlold b ((hfilt b).1 hb).1 (e ▸ ha)⟩
  · rw [happ]
    exact List.forall_mem_append.2 ⟨hinv.sub, fun v hv => hlV v ((hfilt v).1 hv).1⟩
  · intro v hv
    rw [hwt', hinv.wt v hv]
    have := hcs v
    by_cases hvl : v ∈ l
    · simp only [hvl, if_true] at this ⊢
      simp only [Option.map_some]
      congr 1; omega
    · simp only [hvl, if_false] at this ⊢
      congr 1; omega
  · intro v hv
    rw [happ, List.mem_append, hfilt, hinv.zero v hv]
    have hc := hcs v
    have hpos := hlpos v
    by_cases hvl : v ∈ l
    · simp only [hvl, if_true, true_and] at hc hpos ⊢
      omega
    · simp only [hvl, if_false, false_and, or_false] at hc ⊢
      omega
  · rw [List.pairwise_append]
    refine ⟨hinv.ord, by simp, ?_⟩
    intro a ha b hb
    rw [List.mem_singleton.1 hb, hsl]
    exact fun hal => hlold a hal (List.mem_append_left _ ha)

theorem kahnLoop_spec (g : Graph) (hg : GWF g) : ∀ (fuel : Nat) (wt : HashMap Nat Nat) (q res : List Nat),
    KInv g wt q res → unproc g res + 1 ≤ fuel →
    ∃ L, kahnLoop g fuel wt q res = ok L ∧ L.Perm (verts g) ∧ L.Pairwise (fun a b => a ∉ succs g b) := by
  intro fuel
  induction fuel with
  | zero => intro _ _ _ _ h; omega
  | succ fuel ih =>
    intro wt q res hinv hfuel
    rw [kahnLoop.eq_def]
    cases q with
    | nil =>
      refine ⟨res, rfl, ?_, hinv.ord⟩
      have hnd : res.Nodup := by simpa using hinv.nodup
      rw [List.perm_ext_iff_of_nodup hnd hg.keys]
      exact fun v => ⟨fun hv => hinv.sub v (by simpa using hv),
        all_output hg (fun v hv => by simpa using hinv.zero v hv) v⟩
    | cons i q =>
      obtain ⟨hiV, hir, wt', q', hrel, hinv'⟩ := kahn_step hg hinv
      simp only [hrel]
      show ∃ L, kahnLoop g fuel wt' q' (res ++ [i]) = ok L ∧ _
      apply ih _ _ _ hinv'
      have : unproc g (res ++ [i]) < unproc g res :=
        countP_lt_countP (fun x _ hx => by simp at hx ⊢; exact hx.1) hiV (by simpa using hir) (by simp)
      omega

theorem fold_wt (f : Nat → Nat) : ∀ (keys : List Nat) (m : HashMap Nat Nat) (v : Nat),
    (keys.foldl (fun m v => m.insert v (f v)) m).get? v = if v ∈ keys then some (f v) else m.get? v := by
  intro keys
  induction keys with
  | nil => intro m v; simp
  | cons k keys ih =>
    intro m v
    rw [List.foldl_cons, ih]
    by_cases hv : v ∈ keys
    · simp [hv]
    · simp only [hv, if_false, List.mem_cons, or_false]
      rw [HashMap.get?_insert]
      by_cases hk : k = v
      · subst hk; simp
      · have : ¬ v = k := fun x => hk x.symm
        simp [hk, this]

theorem topSort_spec (g : Graph) (hg : GWF g) (keys : List Nat) (hperm : keys.Perm (verts g)) :
    ∃ L, topSort g keys = ok L ∧ L.Perm (verts g) ∧ L.Pairwise (fun a b => a ∉ succs g b) := by
  unfold topSort
  by_cases hempty : g.isEmpty = true
  · simp only [hempty, if_true]
    have : g = [] := by simpa using hempty
    subst this
    exact ⟨[], rfl, by simp [verts], List.Pairwise.nil⟩
  · simp only [hempty, Bool.false_eq_true, if_false]
    have hkeysmem : ∀ v, v ∈ keys ↔ v ∈ verts g := fun v => hperm.mem_iff
    have hany : (g.flatMap (fun e => e.2)).any (fun v => !keys.contains v) = false := by
      rw [List.any_eq_false]
      intro v hv
      obtain ⟨e, he, hve⟩ := List.mem_flatMap.1 hv
      have := (hkeysmem v).2 (hg.succMem e he v hve)
      simp [this]
    simp only [hany, Bool.false_eq_true, if_false]
    have hknd : keys.Nodup := hperm.nodup_iff.2 hg.keys
    -- the initial invariant
    have hinv : KInv g (keys.foldl (fun m v => m.insert v (indeg g v)) {}) (keys.filter (fun v => indeg g v == 0)) [] := by
      refine ⟨?_, ?_, ?_, ?_, List.Pairwise.nil⟩
      · simpa using hknd.sublist List.filter_sublist
      · intro v hv
        simp only [List.nil_append, List.mem_filter] at hv
        exact (hkeysmem v).1 hv.1
      · intro v hv
        rw [fold_wt, if_pos ((hkeysmem v).2 hv), indeg_eq_cnt g hg.succNodup]
      · intro v hv
        simp only [List.nil_append, List.mem_filter, beq_iff_eq]
        rw [indeg_eq_cnt g hg.succNodup]
        constructor
        · exact fun h => h.2
        · exact fun h => ⟨(hkeysmem v).2 hv, h⟩
    have hq : (keys.filter (fun v => indeg g v == 0)).isEmpty = false := by
      cases hqe : (keys.filter (fun v => indeg g v == 0)).isEmpty with
      | false => rfl
      | true =>
        exfalso
        have hnil : keys.filter (fun v => indeg g v == 0) = [] := by simpa using hqe
        have hall := all_output hg (res := []) (fun v hv => by
          have := hinv.zero v hv
          rw [hnil] at this
          simpa using this)
        cases g with
        | nil => simp at hempty
        | cons e g => exact absurd (hall e.1 (by simp [verts])) (by simp)
    simp only [hq, Bool.false_eq_true, if_false]
    have hfuel : unproc g [] + 1 ≤ g.length + 1 := by
      have : unproc g [] ≤ (verts g).length := List.countP_le_length
      simp only [verts, List.length_map] at this
      omega
    obtain ⟨L, hL, hp, hord⟩ := kahnLoop_spec g hg (g.length + 1) _ _ [] hinv hfuel
    rw [hL]
    have hlen : L.length = g.length := by rw [hp.length_eq]; simp [verts]
    simp only [hlen, Nat.lt_irrefl, if_false]
    exact ⟨L, rfl, hp, hord⟩

theorem attachRows_spec (S : Pivs) : ∀ (L : List Nat), (∀ j ∈ L, hasCol S j = true) →
    ∃ R, attachRows S L = ok R ∧ R.map (·.2) = L ∧ ∀ p ∈ R, rowFor S p.2 = some p.1 := by
  intro L
  induction L with
  | nil => intro _; exact ⟨[], rfl, rfl, by simp⟩
  | cons j L ih =>
    intro h
    obtain ⟨i, hi⟩ := rowFor_of_hasCol (h j List.mem_cons_self)
    obtain ⟨R, hR, hmap, hrow⟩ := ih (fun j' hj' => h j' (List.mem_cons_of_mem _ hj'))
    refine ⟨(i, j) :: R, ?_, by simp [hmap], ?_⟩
    · rw [attachRows, hi]; simp only; rw [hR]; rfl
    · intro p hp
      rcases List.mem_cons.1 hp with hp | hp
      · subst hp; exact hi
      · exact hrow p hp

theorem nodup_of_map {α β} (f : α → β) {l : List α} (h : (l.map f).Nodup) : l.Nodup :=
  (List.pairwise_map.1 h).imp (fun hne e => hne (congrArg f e))

theorem depGraph_verts (s : Str) (S : Pivs) : verts (depGraph s S) = S.map (·.2) := by
  simp [verts, depGraph, List.map_map, Function.comp_def]

theorem depGraph_gwf (s : Str) (hwf : s.WF) (S : Pivs) (h : PInv s S) : GWF (depGraph s S) := by
  refine ⟨by rw [depGraph_verts]; exact h.cols, ?_, ?_, ?_⟩
  · intro e he
    obtain ⟨p, _, rfl⟩ := List.mem_map.1 he
    exact (hwf.nodup p.1).sublist List.filter_sublist
  · intro e he v hv
    obtain ⟨p, _, rfl⟩ := List.mem_map.1 he
    rw [depGraph_verts]
    simp only [List.mem_filter, Bool.and_eq_true] at hv
    exact hasCol_iff.1 hv.2.2
  · obtain ⟨rk, hrk⟩ := h.acyc
    refine ⟨rk, ?_⟩
    intro e he v hv
    obtain ⟨p, hp, rfl⟩ := List.mem_map.1 he
    simp only [List.mem_filter, Bool.and_eq_true, bne_iff_ne, ne_eq] at hv
    obtain ⟨q, hq, hqv⟩ := List.mem_map.1 (hasCol_iff.1 hv.2.2)
    have hqv' : q.2 = v := hqv
    rw [← hqv']
    exact hrk p hp q hq (by rw [hqv']; exact hv.2.1) (by rw [hqv']; exact hv.1)

end Yuiv.C11
