import Yuiv.Proofs.C18GenB
/-
TIE BY TRANSLATION (`fn:braid`): `Yuiv.GenBraid.*` (Yuiv/Gen/BraidFn.lean) is regenerated from the CURRENT source text of
yui-link/src/braid.rs by tools/rs2lean_fn.py (renderer tools/rs2lean_link.py, prelude Yuiv/Model/RustBraid.lean) on every run.
Lemmas in Yuiv/Proofs/C18GenB.lean (namespace `GenFn`).  `word b` = the list of the signed generator indices of `b`,
`toL` = the conversion of the generated `Link` to the hand model's (Proofs/C18Gen), `rmap f` = map under `Res`.

* `gen_braid_closure_eq`: generated `Braid::closure` = hand model `C18.closure` for EVERY braid (any strand number, any word,
  zero / out-of-range generators included): same link, same panics (`index() - 1` underflow, the two index panics, the
  free-loop assertion).  `conn` is a `HashMap` built by inserting `zip(bottom_edges, 0..strands)` in order (overwriting);
  it is the model's first-index renaming because the bottom labels are pairwise distinct (loop invariant `CInv`).
  The theorems of Props/C18Inv (writhe = exponent sum, components = cycles of the permutation, validity) are about
  `C18.closure`, hence about the generated function.
* `Generator::{new, index, sign, inv}`, `Braid::{new, strands, elements, inv}`, `MulAssign::mul_assign` in closed form.
-/
namespace Yuiv.C18
open Yuiv Yuiv.Rust Yuiv.GenLink Yuiv.GenBraid Yuiv.C18.GenFn

theorem gen_braid_closure_eq (b : Braid) : rmap toL b.closure = C18.closure b.strands_ (word b) := by
  have hloop := forIn_sim convB b.elements_ (fun s st => closureBody s st) (fun t s => closureStep t s.v0_)
    (fun a _ s => closureBody_eq a s) (b.strands_, List.range b.strands_, [])
  have hfold : b.elements_.foldlM (fun t s => closureStep t s.v0_) (b.strands_, List.range b.strands_, [])
      = (word b).foldlM closureStep (b.strands_, List.range b.strands_, []) := by
    rw [word, List.foldlM_map]
  rw [show convB (b.strands_, List.range b.strands_, []) = (b.strands_, List.range b.strands_, []) from rfl, hfold] at hloop
  have hgen : b.closure = (do
      let st ← forIn b.elements_ ((b.strands_, List.range b.strands_, []) : BSt) (fun s st => closureBody s st)
      Res.assert ((Lk.enumerate (Lk.iter st.2.1)).all fun x => match x with | (i, j) => i != j)
      let conn := Lk.HashMap.from_iter ((Lk.iter st.2.1).zip (List.range b.strands_))
      pure (GenLink.Link.from_pd_code ((fun x => (fun a => (AMap.get conn a).getD a) <$> x) <$> Lk.iter st.2.2))) := rfl
  rw [hgen, C18.closure, closurePD, ← hloop]
  cases hf : forIn b.elements_ ((b.strands_, List.range b.strands_, []) : BSt) (fun s st => closureBody s st) with
  | panic => rfl
  | err => rfl
  | ok st =>
    rw [hf] at hloop
    have hI := cinv_foldl b.strands_ (word b) _ _ (cinv_init b.strands_) hloop.symm
    obtain ⟨count, bottom, pd⟩ := st
    simp only [convB, rmap] at hI ⊢
    have hnd : bottom.Nodup := br_cinv_bottom_nodup hI
    have hlen : bottom.length = b.strands_ := hI.len
    simp only [Res.bind_ok, assert_free, Res.assert]
    cases hfl : hasFreeLoop bottom with
    | true => rfl
    | false =>
      simp only [Bool.not_false, if_true, Res.bind_ok, Bool.false_eq_true, if_false, Res.pure_eq, Res.ok.injEq]
      rw [← hlen]
      have : ((fun x => (fun a => (AMap.get (Lk.HashMap.from_iter ((Lk.iter bottom).zip (List.range bottom.length))) a).getD a) <$> x) <$> Lk.iter pd)
          = ((pd.map to4).map (fun x => (connRename bottom x.1, connRename bottom x.2.1, connRename bottom x.2.2.1, connRename bottom x.2.2.2))).map
              (fun x => (⟨x.1, x.2.1, x.2.2.1, x.2.2.2⟩ : Lk.Arr4 Nat)) := by
        simp only [Functor.map, Lk.iter, Lk.Iter.toList, id, List.map_map]
        apply List.map_congr_left
        intro x _
        simp only [Function.comp, Lk.Arr4.map, to4]
        have := conn_get bottom hnd
        simp only [Lk.iter, Lk.Iter.toList, id] at this
        simp only [this]
      rw [this, g_link_from_pd_code_eq]

/-- the same, starting from the model's arguments -/
theorem gen_braid_closure_eq' (n : Nat) (w : List Int) :
    rmap toL (Braid.new n (w.map Generator.mk)).closure = C18.closure n w := by
  rw [gen_braid_closure_eq]
  simp [Braid.new, word, Function.comp_def]

theorem gen_generator_index_eq (g : Generator) : g.index = g.v0_.natAbs := GenFn.g_gen_index_eq g

theorem gen_generator_sign_eq (g : Generator) : g.sign.is_positive = decide (g.v0_ > 0) := GenFn.g_gen_sign_eq g

theorem gen_generator_new_eq (i : Nat) (s : Lk.Sign) :
    Generator.new i s = if i = 0 then .panic else .ok ⟨if s = .Pos then (i : Int) else -(i : Int)⟩ := by
  unfold Generator.new
  by_cases h : i = 0
  · subst h; rfl
  · cases s <;> simp [Res.assert, h, Lk.Sign.is_positive]

theorem gen_generator_inv_eq (g : Generator) : g.inv.v0_ = -g.v0_ := rfl

theorem gen_braid_new_eq (n : Nat) (els : List Generator) :
    (Braid.new n els).strands = n ∧ (Braid.new n els).elements = els := ⟨rfl, rfl⟩

theorem gen_braid_inv_eq (b : Braid) :
    word b.inv = (word b).reverse.map (fun x => -x) ∧ b.inv.strands_ = b.strands_ := by
  simp [Braid.inv, Braid.new, word, Lk.iter, Lk.Iter.toList, Functor.map, List.map_reverse, Function.comp_def, Generator.inv]

theorem gen_braid_mul_assign_eq (a b : Braid) :
    a.mul_assign b = if a.strands_ = b.strands_ then .ok ⟨a.strands_, a.elements_ ++ b.elements_⟩ else .panic := by
  unfold Braid.mul_assign
  by_cases h : a.strands_ = b.strands_ <;> simp [Res.assert, h, Lk.iter, Lk.Iter.toList]

/-- regression net: the generated closure evaluated by the kernel (trefoil, figure-eight word, a free loop, a zero generator,
an out-of-range generator) -/
theorem gen_braid_closure_samples :
    (Braid.new 2 [⟨1⟩, ⟨1⟩, ⟨1⟩]).closure = .ok ⟨[⟨.X, ⟨0, 2, 3, 1⟩⟩, ⟨.X, ⟨2, 4, 5, 3⟩⟩, ⟨.X, ⟨4, 0, 1, 5⟩⟩]⟩ ∧
    (Braid.new 3 [⟨1⟩, ⟨-2⟩, ⟨1⟩, ⟨-2⟩]).closure =
      .ok ⟨[⟨.X, ⟨0, 3, 4, 1⟩⟩, ⟨.X, ⟨2, 4, 5, 6⟩⟩, ⟨.X, ⟨3, 0, 8, 5⟩⟩, ⟨.X, ⟨6, 8, 1, 2⟩⟩]⟩ := by decide +kernel

theorem gen_braid_closure_panics :
    (Braid.new 3 [⟨1⟩]).closure = .panic ∧ (Braid.new 2 [⟨0⟩]).closure = .panic ∧ (Braid.new 2 [⟨2⟩]).closure = .panic ∧
    (Braid.new 2 [⟨-1⟩, ⟨1⟩]).closure ≠ .panic := by decide +kernel

end Yuiv.C18
