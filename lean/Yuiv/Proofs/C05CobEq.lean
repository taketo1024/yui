import Yuiv.Model.C05Tng
import Yuiv.Proofs.ListAux
import Mathlib.Data.List.Rotate
import Mathlib.Data.List.Nodup
import Mathlib.Algebra.BigOperators.Group.List.Basic
/-
C05 (cobordisms) — the Rust equality of tangle components (`Path::unori_eq` = `PartialEq for TngComp`), tangles,
cobordism components and cobordisms in the model.

 * arcs: `unoriEq a b` ⇔ same edge list or the reversed one — unconditionally an equivalence relation;
 * circles: `unoriEq a b` ⇒ the edge lists are rotations of each other, possibly after reversal (always), and the
   converse holds when no edge label occurs twice.  With a repeated label the code's test (it looks at the FIRST
   occurrence of `a[0]` in `b`) is not symmetric — counterexample in `Props/C05Cob.lean`.
-/
namespace Yuiv.C05.Tng

theorem zip_all_beq_iff : ∀ (l1 l2 : List Nat), l1.length = l2.length →
    ((List.zip l1 l2).all (fun ef => ef.1 == ef.2) = true ↔ l1 = l2)
  | [], [], _ => by simp
  | [], _ :: _, h => by simp at h
  | _ :: _, [], h => by simp at h
  | a :: l1, b :: l2, h => by
    have ih := zip_all_beq_iff l1 l2 (by simpa using h)
    simp only [List.zip_cons_cons, List.all_cons, Bool.and_eq_true, beq_iff_eq, ih, List.cons.injEq]

theorem sumL_reverse (l : List Nat) : sumL l.reverse = sumL l := by
  unfold sumL; exact List.sum_reverse l

theorem unoriEq_arc (a b : Path) (ha : a.closed = false) :
    unoriEq a b = true ↔ b.closed = false ∧ (a.edges = b.edges ∨ a.edges = b.edges.reverse) := by
  unfold unoriEq
  constructor
  · intro h
    split at h
    · cases h
    · rename_i hc
      simp only [Bool.or_eq_true, bne_iff_ne, ne_eq, not_or, Decidable.not_not] at hc
      obtain ⟨⟨hcl, hlen⟩, _⟩ := hc
      refine ⟨by rw [← hcl, ha], ?_⟩
      split at h
      · rename_i he; exact .inl (by simpa using he)
      · simp only [ha, Bool.false_eq_true, if_false] at h
        exact .inr ((zip_all_beq_iff _ _ (by simpa using hlen)).1 h)
  · rintro ⟨hb, h | h⟩
    · simp [ha, hb, h]
    · have hlen : a.edges.length = b.edges.length := by rw [h]; simp
      have hsum : sumL a.edges = sumL b.edges := by rw [h, sumL_reverse]
      simp only [ha, hb, hlen, hsum, bne_self_eq_false, Bool.or_self, Bool.false_eq_true, if_false]
      split
      · rfl
      · exact (zip_all_beq_iff _ _ (by simpa using hlen)).2 h

theorem fwd_iff (a b : List Nat) (hlen : a.length = b.length) (p : Nat) :
    ((List.range a.length).all (fun i => a.getD i 0 == b.getD ((p + i) % a.length) 0) = true) ↔ a = b.rotate p := by
  simp only [List.all_eq_true, List.mem_range, beq_iff_eq]
  constructor
  · intro h
    apply List.ext_getElem (by rw [List.length_rotate, hlen])
    intro i h1 h2
    have := h i h1
    rw [List.getElem_rotate]
    have hi : (p + i) % a.length < b.length := by rw [← hlen]; exact Nat.mod_lt _ (by omega)
    rw [ListAux.getD_of_lt h1, ListAux.getD_of_lt hi] at this
    rw [this]
    congr 1
    rw [hlen, Nat.add_comm]
  · intro h i hi
    have hi' : (p + i) % a.length < b.length := by rw [← hlen]; exact Nat.mod_lt _ (by omega)
    rw [ListAux.getD_of_lt hi, ListAux.getD_of_lt hi']
    have h2 : i < (b.rotate p).length := by rw [List.length_rotate, ← hlen]; exact hi
    have := List.getElem_rotate b p i h2
    simp only [← h] at this
    rw [this]
    congr 1
    rw [hlen, Nat.add_comm]

/-- index arithmetic of the backward test: position `i` of `a` is position `n − 1 − i` of `a.reverse` -/
theorem bwd_index (n p i : Nat) (hi : i < n) :
    n - 1 - i < n ∧ n - 1 - (n - 1 - i) = i ∧ n - 1 - i + (p + 1) = p + n - i := by omega

theorem bwd_iff (a b : List Nat) (hlen : a.length = b.length) (p : Nat) (hp : p < a.length) :
    ((List.range a.length).all (fun i => a.getD i 0 == b.getD ((p + a.length - i) % a.length) 0) = true) ↔
      a.reverse = b.rotate (p + 1) := by
  simp only [List.all_eq_true, List.mem_range, beq_iff_eq]
  have hmod : ∀ i, (p + a.length - i) % a.length < b.length := fun i => hlen ▸ Nat.mod_lt _ (by omega)
  constructor
  · intro h
    apply List.ext_getElem (by rw [List.length_rotate, List.length_reverse, hlen])
    intro j h1 h2
    have hj : j < a.length := by rw [List.length_reverse] at h1; exact h1
    obtain ⟨hi, e4, e5⟩ := bwd_index a.length p j hj
    obtain ⟨_, _, e6⟩ := bwd_index a.length p (a.length - 1 - j) hi
    have := h (a.length - 1 - j) hi
    rw [ListAux.getD_of_lt hi, ListAux.getD_of_lt (hmod _)] at this
    rw [List.getElem_reverse, List.getElem_rotate, this]
    congr 1
    rw [← hlen, ← e6, e4]
  · intro h i hi
    obtain ⟨hj, e4, e5⟩ := bwd_index a.length p i hi
    rw [ListAux.getD_of_lt hi, ListAux.getD_of_lt (hmod i)]
    have hj1 : a.length - 1 - i < a.reverse.length := by rw [List.length_reverse]; exact hj
    have hj2 : a.length - 1 - i < (b.rotate (p + 1)).length := by rw [List.length_rotate, ← hlen]; exact hj
    have e1 := List.getElem_reverse (l := a) hj1
    have e2 := List.getElem_rotate b (p + 1) (a.length - 1 - i) hj2
    have e3 : a.reverse[a.length - 1 - i] = (b.rotate (p + 1))[a.length - 1 - i] := by simp only [h]
    rw [e1, e2] at e3
    simp only [e4] at e3
    rw [e3]
    congr 1
    rw [← hlen, e5]

theorem unoriEq_circle_sound (a b : Path) (ha : a.closed = true) (h : unoriEq a b = true) :
    b.closed = true ∧ a.edges.length = b.edges.length ∧
      (b.edges ~r a.edges ∨ b.edges ~r a.edges.reverse) := by
  unfold unoriEq at h
  split at h
  · cases h
  · rename_i hc
    simp only [Bool.or_eq_true, bne_iff_ne, ne_eq, not_or, Decidable.not_not] at hc
    obtain ⟨⟨hcl, hlen⟩, _⟩ := hc
    refine ⟨by rw [← hcl, ha], hlen, ?_⟩
    split at h
    · rename_i he
      have : a.edges = b.edges := by simpa using he
      exact .inl (this ▸ List.IsRotated.refl _)
    · split at h
      · cases h
      · rename_i a0 _
        split at h
        · cases h
        · rename_i p hp
          have hpl : p < b.edges.length := by
            obtain ⟨hlt, _⟩ := List.findIdx?_eq_some_iff_getElem.1 hp
            exact hlt
          simp only [Bool.or_eq_true] at h
          rcases h with h | h
          · exact .inl ⟨p, ((fwd_iff a.edges b.edges hlen p).1 h).symm⟩
          · exact .inr ⟨p + 1, ((bwd_iff a.edges b.edges hlen p (hlen ▸ hpl)).1 h).symm⟩

theorem findIdx?_of_nodup (b : List Nat) (hn : b.Nodup) (q : Nat) (hq : q < b.length) :
    b.findIdx? (· == b[q]) = some q := by
  rw [List.findIdx?_eq_some_iff_getElem]
  refine ⟨hq, by simp, ?_⟩
  intro j hj
  simp only [beq_iff_eq]
  intro e
  have := (hn.getElem_inj_iff (hi := Nat.lt_trans hj hq) (hj := hq)).1 e
  omega

theorem unoriEq_circle_complete (a b : Path) (ha : a.closed = true) (hb : b.closed = true) (hn : b.edges.Nodup)
    (hne : a.edges ≠ []) (h : b.edges ~r a.edges ∨ b.edges ~r a.edges.reverse) : unoriEq a b = true := by
  have hperm : b.edges.Perm a.edges := by
    rcases h with h | h
    · exact h.perm
    · exact h.perm.trans (List.reverse_perm _)
  have hlen : a.edges.length = b.edges.length := hperm.length_eq.symm
  have hsum : sumL a.edges = sumL b.edges := by unfold sumL; exact hperm.sum_eq.symm
  have hpos : 0 < a.edges.length := List.length_pos_iff.2 hne
  have hcond : (a.closed != b.closed || a.edges.length != b.edges.length || sumL a.edges != sumL b.edges) = false := by
    simp [ha, hb, hlen, hsum]
  unfold unoriEq
  rw [if_neg (by rw [hcond]; decide)]
  by_cases he : (a.edges == b.edges) = true
  · rw [if_pos he]
  · rw [if_neg he, if_pos ha]
    obtain ⟨a0, as, hcons⟩ := List.exists_cons_of_ne_nil hne
    have hhead : a.edges.head? = some a0 := by rw [hcons]; rfl
    have ha0 : a.edges[0] = a0 := by simp [hcons]
    rw [hhead]
    simp only
    rcases h with ⟨k, hk⟩ | ⟨k, hk⟩
    · -- a = b.rotate k
      have hq : k % b.edges.length < b.edges.length := Nat.mod_lt _ (by omega)
      have hbq : b.edges[k % b.edges.length] = a0 := by
        have h0 : 0 < (b.edges.rotate k).length := by rw [List.length_rotate]; omega
        have := List.getElem_rotate b.edges k 0 h0
        simp only [hk, Nat.zero_add] at this
        rw [← this, ha0]
      have hfind := findIdx?_of_nodup b.edges hn _ hq
      rw [hbq] at hfind
      rw [hfind]
      simp only [Bool.or_eq_true]
      left
      exact (fwd_iff a.edges b.edges hlen (k % b.edges.length)).2 (by rw [List.rotate_mod]; exact hk.symm)
    · -- a.reverse = b.rotate k
      have hq : (a.edges.length - 1 + k) % b.edges.length < b.edges.length := Nat.mod_lt _ (by omega)
      have hbq : b.edges[(a.edges.length - 1 + k) % b.edges.length] = a0 := by
        have h0 : a.edges.length - 1 < (b.edges.rotate k).length := by rw [List.length_rotate]; omega
        have e2 := List.getElem_rotate b.edges k (a.edges.length - 1) h0
        have h1 : a.edges.length - 1 < a.edges.reverse.length := by rw [List.length_reverse]; omega
        have e1 := List.getElem_reverse (l := a.edges) h1
        have e3 : (b.edges.rotate k)[a.edges.length - 1] = a.edges.reverse[a.edges.length - 1] := by simp only [hk]
        rw [e2, e1] at e3
        have e4 : a.edges.length - 1 - (a.edges.length - 1) = 0 := Nat.sub_self _
        simp only [e4] at e3
        rw [e3, ha0]
      have hfind := findIdx?_of_nodup b.edges hn _ hq
      rw [hbq] at hfind
      rw [hfind]
      simp only [Bool.or_eq_true]
      right
      have hp : (a.edges.length - 1 + k) % b.edges.length < a.edges.length := lt_of_lt_of_eq hq hlen.symm
      have hrot : b.edges.rotate ((a.edges.length - 1 + k) % b.edges.length + 1) = b.edges.rotate k := by
        rw [← List.rotate_mod b.edges ((a.edges.length - 1 + k) % b.edges.length + 1), ← List.rotate_mod b.edges k]
        congr 1
        rw [Nat.add_mod, Nat.mod_mod, ← Nat.add_mod]
        have : a.edges.length - 1 + k + 1 = k + b.edges.length := by omega
        rw [this, Nat.add_mod_right]
      exact (bwd_iff a.edges b.edges hlen _ hp).2 (by rw [hrot]; exact hk.symm)

def Path.WFP (p : Path) : Prop := p.edges.Nodup ∧ p.edges ≠ []

/-- the specification of `unori_eq` -/
def Path.Same (a b : Path) : Prop :=
  a.closed = b.closed ∧
    (if a.closed then (b.edges ~r a.edges ∨ b.edges ~r a.edges.reverse)
     else (a.edges = b.edges ∨ a.edges = b.edges.reverse))

theorem unoriEq_iff_same (a b : Path) (hb : b.WFP) (ha : a.WFP) : unoriEq a b = true ↔ Path.Same a b := by
  unfold Path.Same
  by_cases hc : a.closed = true
  · simp only [hc, if_true]
    constructor
    · intro h
      obtain ⟨h1, _, h3⟩ := unoriEq_circle_sound a b hc h
      exact ⟨h1.symm, h3⟩
    · rintro ⟨h1, h3⟩
      exact unoriEq_circle_complete a b hc h1.symm hb.1 ha.2 h3
  · have hc' : a.closed = false := by simpa using hc
    simp only [hc', Bool.false_eq_true, if_false]
    rw [unoriEq_arc a b hc']
    exact and_congr_left' eq_comm

theorem Path.Same.refl (a : Path) : Path.Same a a := by
  unfold Path.Same
  refine ⟨rfl, ?_⟩
  split
  · exact .inl (List.IsRotated.refl _)
  · exact .inl rfl

theorem Path.Same.symm {a b : Path} (h : Path.Same a b) : Path.Same b a := by
  unfold Path.Same at *
  obtain ⟨hc, h⟩ := h
  refine ⟨hc.symm, ?_⟩
  rw [← hc]
  split
  · rename_i hcl
    simp only [hcl, if_true] at h
    rcases h with h | h
    · exact .inl h.symm
    · exact .inr (List.isRotated_reverse_comm_iff.1 h.symm)
  · rename_i hcl
    simp only [hcl] at h
    rcases h with h | h
    · exact .inl h.symm
    · exact .inr (by rw [h, List.reverse_reverse])

theorem Path.Same.trans {a b c : Path} (h1 : Path.Same a b) (h2 : Path.Same b c) : Path.Same a c := by
  unfold Path.Same at *
  obtain ⟨hc1, h1⟩ := h1
  obtain ⟨hc2, h2⟩ := h2
  refine ⟨hc1.trans hc2, ?_⟩
  rw [← hc1] at h2
  split
  · rename_i hcl
    simp only [hcl, if_true] at h1 h2
    rcases h1 with h1 | h1 <;> rcases h2 with h2 | h2
    · exact .inl (h2.trans h1)
    · exact .inr (h2.trans h1.reverse)
    · exact .inr (h2.trans h1)
    · refine .inl (h2.trans ?_)
      have := h1.reverse
      rwa [List.reverse_reverse] at this
  · rename_i hcl
    simp only [hcl] at h1 h2
    rcases h1 with h1 | h1 <;> rcases h2 with h2 | h2
    · exact .inl (h1.trans h2)
    · exact .inr (h1.trans h2)
    · exact .inr (by rw [h1, h2])
    · exact .inl (by rw [h1, h2, List.reverse_reverse])

theorem unoriEq_refl (a : Path) : unoriEq a a = true := by
  unfold unoriEq; simp

theorem unoriEq_symm (a b : Path) (ha : a.WFP) (hb : b.WFP) (h : unoriEq a b = true) : unoriEq b a = true :=
  (unoriEq_iff_same b a ha hb).2 ((unoriEq_iff_same a b hb ha).1 h).symm

theorem unoriEq_trans (a b c : Path) (ha : a.WFP) (hb : b.WFP) (hc : c.WFP)
    (h1 : unoriEq a b = true) (h2 : unoriEq b c = true) : unoriEq a c = true :=
  (unoriEq_iff_same a c hc ha).2 (((unoriEq_iff_same a b hb ha).1 h1).trans ((unoriEq_iff_same b c hc hb).1 h2))

/-- `a.len() == b.len() && zip(a, b).all(r)` — the derived `PartialEq` of a `Vec` -/
def listRel {α : Type} (r : α → α → Bool) (a b : List α) : Bool :=
  a.length == b.length && (List.zip a b).all (fun xy => r xy.1 xy.2)

theorem listRel_iff {α : Type} (r : α → α → Bool) : ∀ (a b : List α),
    listRel r a b = true ↔ List.Forall₂ (fun x y => r x y = true) a b
  | [], [] => by simp [listRel]
  | [], _ :: _ => by simp [listRel]
  | _ :: _, [] => by simp [listRel]
  | x :: a, y :: b => by
    have ih := listRel_iff r a b
    simp only [listRel, List.length_cons, Nat.add_right_cancel_iff, beq_iff_eq, List.zip_cons_cons, List.all_cons,
      Bool.and_eq_true, List.forall₂_cons] at ih ⊢
    rw [← ih]; tauto

theorem forall₂_symm_on {α : Type} (P : α → Prop) (R : α → α → Prop)
    (hs : ∀ x y, P x → P y → R x y → R y x) :
    ∀ (a b : List α), (∀ x ∈ a, P x) → (∀ y ∈ b, P y) → List.Forall₂ R a b → List.Forall₂ R b a := by
  intro a b ha hb h
  induction h with
  | nil => exact .nil
  | cons hxy _ ih =>
    exact .cons (hs _ _ (ha _ List.mem_cons_self) (hb _ List.mem_cons_self) hxy)
      (ih (fun x hx => ha x (List.mem_cons_of_mem _ hx)) (fun y hy => hb y (List.mem_cons_of_mem _ hy)))

theorem forall₂_trans_on {α : Type} (P : α → Prop) (R : α → α → Prop)
    (ht : ∀ x y z, P x → P y → P z → R x y → R y z → R x z) :
    ∀ (a b c : List α), (∀ x ∈ a, P x) → (∀ y ∈ b, P y) → (∀ z ∈ c, P z) →
      List.Forall₂ R a b → List.Forall₂ R b c → List.Forall₂ R a c := by
  intro a b c ha hb hc h1
  induction h1 generalizing c with
  | nil => intro h2; cases h2; exact .nil
  | cons hxy _ ih =>
    intro h2
    cases h2 with
    | cons hyz h2' =>
      exact .cons (ht _ _ _ (ha _ List.mem_cons_self) (hb _ List.mem_cons_self) (hc _ List.mem_cons_self) hxy hyz)
        (ih _ (fun x hx => ha x (List.mem_cons_of_mem _ hx)) (fun y hy => hb y (List.mem_cons_of_mem _ hy))
          (fun z hz => hc z (List.mem_cons_of_mem _ hz)) h2')

def WFT (t : Tng) : Prop := ∀ p ∈ t, p.WFP
def CobComp.WFC (c : CobComp) : Prop := WFT c.src ∧ WFT c.tgt
def WFK (k : Cob) : Prop := ∀ c ∈ k, c.WFC

theorem tngEq_eq_listRel (a b : Tng) : tngEq a b = listRel unoriEq a b := rfl
theorem cobEq_eq_listRel (a b : Cob) : cobEq a b = listRel cobCompEq a b := rfl

theorem tngEq_refl (a : Tng) : tngEq a a = true := by
  rw [tngEq_eq_listRel, listRel_iff]
  exact List.forall₂_same.2 fun x _ => unoriEq_refl x

theorem tngEq_symm (a b : Tng) (ha : WFT a) (hb : WFT b) (h : tngEq a b = true) : tngEq b a = true := by
  rw [tngEq_eq_listRel, listRel_iff] at *
  exact forall₂_symm_on Path.WFP _ (fun x y hx hy => unoriEq_symm x y hx hy) a b ha hb h

theorem tngEq_trans (a b c : Tng) (ha : WFT a) (hb : WFT b) (hc : WFT c)
    (h1 : tngEq a b = true) (h2 : tngEq b c = true) : tngEq a c = true := by
  rw [tngEq_eq_listRel, listRel_iff] at *
  exact forall₂_trans_on Path.WFP _ (fun x y z hx hy hz => unoriEq_trans x y z hx hy hz) a b c ha hb hc h1 h2

theorem cobCompEq_refl (a : CobComp) : cobCompEq a a = true := by
  unfold cobCompEq; simp [tngEq_refl]

theorem cobCompEq_symm (a b : CobComp) (ha : a.WFC) (hb : b.WFC) (h : cobCompEq a b = true) :
    cobCompEq b a = true := by
  unfold cobCompEq at *
  simp only [Bool.and_eq_true, beq_iff_eq] at h ⊢
  obtain ⟨⟨⟨h1, h2⟩, h3⟩, h4⟩ := h
  exact ⟨⟨⟨tngEq_symm _ _ ha.1 hb.1 h1, tngEq_symm _ _ ha.2 hb.2 h2⟩, h3.symm⟩, h4.symm⟩

theorem cobCompEq_trans (a b c : CobComp) (ha : a.WFC) (hb : b.WFC) (hc : c.WFC)
    (h1 : cobCompEq a b = true) (h2 : cobCompEq b c = true) : cobCompEq a c = true := by
  unfold cobCompEq at *
  simp only [Bool.and_eq_true, beq_iff_eq] at h1 h2 ⊢
  obtain ⟨⟨⟨a1, a2⟩, a3⟩, a4⟩ := h1
  obtain ⟨⟨⟨b1, b2⟩, b3⟩, b4⟩ := h2
  exact ⟨⟨⟨tngEq_trans _ _ _ ha.1 hb.1 hc.1 a1 b1, tngEq_trans _ _ _ ha.2 hb.2 hc.2 a2 b2⟩, a3.trans b3⟩, a4.trans b4⟩

theorem cobEq_refl (a : Cob) : cobEq a a = true := by
  rw [cobEq_eq_listRel, listRel_iff]
  exact List.forall₂_same.2 fun x _ => cobCompEq_refl x

theorem cobEq_symm (a b : Cob) (ha : WFK a) (hb : WFK b) (h : cobEq a b = true) : cobEq b a = true := by
  rw [cobEq_eq_listRel, listRel_iff] at *
  exact forall₂_symm_on CobComp.WFC _ (fun x y hx hy => cobCompEq_symm x y hx hy) a b ha hb h

theorem cobEq_trans (a b c : Cob) (ha : WFK a) (hb : WFK b) (hc : WFK c)
    (h1 : cobEq a b = true) (h2 : cobEq b c = true) : cobEq a c = true := by
  rw [cobEq_eq_listRel, listRel_iff] at *
  exact forall₂_trans_on CobComp.WFC _ (fun x y z hx hy hz => cobCompEq_trans x y z hx hy hz) a b c ha hb hc h1 h2

end Yuiv.C05.Tng
