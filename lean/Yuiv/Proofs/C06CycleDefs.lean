import Yuiv.Proofs.KhRefCircles
import Yuiv.Model.C06Canon
import Mathlib.Algebra.Ring.Int.Defs
/-
C06Cycle — shared definitions for the lift of the local cycle lemma (`Props/C06Canon.canon_is_cycle_local`) to the
cube reference: `KhRef.Cube.d` applied to the canonical chain is zero (`Props/C06Cycle.lean`).

  * `CirclesSpec`   : what `KhRef.circles` returns, in terms of the arc relation `C04Inv.Conn (statePairs l s)`;
  * `goneOf`, `bornOf`, `carry`, `edgeTerms`, `dRaw`, `baseKeep` : loop-free functional form of `KhRef.Cube.d`;
  * `termSum`, `chainSum` : coefficient of a target generator in `d z`, the meaning of the driver's `dOfChain`;
  * `validK`        : every crossing has four slots and every edge label occurs in exactly two slots;
  * `circleIdx`, `bicoloured` : the per-instance hypothesis H — every unresolved crossing touches exactly two circles
    of the state and these carry different colours.
-/
namespace Yuiv.C06Cycle
open Yuiv Yuiv.KhRef Yuiv.C06Canon

/-! ### circles -/

/-- what `KhRef.circles l labels s` returns for a well-formed link: every circle is the sub-list of `labels`
(in the order of `labels`) cut out by the class of one of its labels under the arc relation `P`; different circles
are different classes; every label lies on a circle. -/
structure CirclesSpec (labels : Array Nat) (P : List (Nat × Nat)) (cs : Array (Array Nat)) : Prop where
  rep : ∀ i, i < cs.size → ∃ x, x ∈ labels ∧ ∃ p : Nat → Bool,
    (cs[i]!).toList = labels.toList.filter p ∧ ∀ y, y ∈ labels → (p y = true ↔ C04Inv.Conn P x y)
  sep : ∀ i j, i < cs.size → j < cs.size → ∀ x y, x ∈ cs[i]! → y ∈ cs[j]! → C04Inv.Conn P x y → i = j
  cover : ∀ x, x ∈ labels → ∃ i, i < cs.size ∧ x ∈ cs[i]!

/-! ### functional form of `Cube.d` -/

/-- indices of the circles of `cs` that are not circles of `cs'` -/
def goneOf (cs cs' : Array (Array Nat)) : Array Nat :=
  (Array.range cs.size).filter (fun i => !cs'.contains cs[i]!)

/-- indices of the circles of `cs'` that are not circles of `cs` -/
def bornOf (cs cs' : Array (Array Nat)) : Array Nat :=
  (Array.range cs'.size).filter (fun i => !cs.contains cs'[i]!)

/-- the labels carried over on the common circles (`m0` of `Cube.d`) -/
def carry (cs cs' : Array (Array Nat)) (mask : Nat) : Nat :=
  (List.range cs.size).foldl (fun m0 i =>
    if cs'.contains cs[i]! then setBit m0 ((cs'.findIdx? (· == cs[i]!)).getD 0) (mask.testBit i) else m0) 0

/-- the terms contributed by the cube edge that flips bit `k` (`none`: neither a merge nor a split) -/
def edgeTerms (c : Cube) (p : Params) (g : Gen) (k : Nat) : Option (List Term) :=
  let cs := c.circ[g.s]!
  let s' := g.s ||| (1 <<< k)
  let cs' := c.circ[s']!
  let sign : Int := edgeSign g.s k
  let gone := goneOf cs cs'
  let born := bornOf cs cs'
  let m0 := carry cs cs' g.mask
  if gone.size == 2 && born.size == 1 then
    some ((prod p.h p.t (g.mask.testBit gone[0]!) (g.mask.testBit gone[1]!)).filterMap (fun (ya : Bool × Int) =>
      if ya.2 != 0 then some ((⟨s', setBit m0 born[0]! ya.1⟩ : Gen), sign * ya.2) else none))
  else if gone.size == 1 && born.size == 2 then
    some ((coprod p.h p.t (g.mask.testBit gone[0]!)).filterMap (fun (yya : Bool × Bool × Int) =>
      if yya.2.2 != 0 then
        some ((⟨s', setBit (setBit m0 born[0]! yya.1) born[1]! yya.2.1⟩ : Gen), sign * yya.2.2) else none))
  else none

/-- `Cube.d` before the base-point filter -/
def dRaw (c : Cube) (p : Params) (g : Gen) : Option (List Term) :=
  (List.range c.n).foldlM (fun out k =>
    if g.s.testBit k then some out else (edgeTerms c p g k).map (fun ts => out ++ ts)) []

/-- the filter of the reduced theory (always `true` for `c.base = none`, since then `baseCircle = none`) -/
def baseKeep (c : Cube) (y : Gen) : Bool :=
  match c.baseCircle y.s with
  | some b => y.mask.testBit b
  | none => true

/-! ### coefficients of `d z` -/

/-- coefficient of the target generator `y` in a list of terms -/
def termSum (y : Gen) (ts : List Term) : Int := ((ts.filter (fun t => t.1 == y)).map (fun t => t.2)).sum

/-- coefficient of `y` in `d z` when `d g = D g` -/
def chainSum (D : Gen → List Term) (z : Chain) (y : Gen) : Int :=
  (z.map (fun ga => ga.2 * termSum y (D ga.1))).sum

/-! ### validity and the hypothesis H -/

/-- all slot labels, crossing by crossing -/
def slotLabels (l : Link) : List Nat := l.toList.flatMap (fun c => c.e.toList)

/-- every crossing has four slots and every edge label occurs in exactly two slots (planar-diagram code of a link
diagram without free ends) -/
def validK (l : Link) : Bool :=
  l.all (fun c => c.e.size == 4) && (slotLabels l).all (fun x => (slotLabels l).count x == 2)

/-- index of the first circle containing the label `e` (`cs.size` if there is none) -/
def circleIdx (cs : Array (Array Nat)) (e : Nat) : Nat := (cs.findIdx? (fun c => c.contains e)).getD cs.size

/-- H: every unresolved crossing touches (with its four labels) circles of `cs` only, at least two different ones,
and any two different circles it touches have different colours (with two colours: it touches exactly two circles and
they are coloured differently).  `cols` = colours in the order of `cs`. -/
def bicoloured (l : Link) (cs : Array (Array Nat)) (cols : List Colour) : Bool :=
  l.all (fun x => x.ct.isResolved ||
    (let idx := x.e.toList.map (circleIdx cs)
     idx.all (fun i => i < cs.size) &&
     idx.any (fun i => idx.any (fun j => i != j)) &&
     idx.all (fun i => idx.all (fun j => i == j || cols.getD i .a != cols.getD j .a))))

end Yuiv.C06Cycle
