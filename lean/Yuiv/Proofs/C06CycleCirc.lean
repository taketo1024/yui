import Yuiv.Proofs.C06CycleDefs
import Mathlib.Data.List.Nodup
/-
C06Cycle — `KhRef.circles` returns the classes of the arc relation (`CirclesSpec`): this holds of its output phase for
ANY component array satisfying the union-find invariant `C04Inv.Inv` over duplicate-free labels (`spec_of_inv`), hence
for every well-formed link and every state (`circles_spec`).
-/
namespace Yuiv.C06Cycle
open Yuiv Yuiv.KhRef Yuiv.C04Inv

/-- the circle of the root `r` as a list -/
def circL (labels comp : Array Nat) (r : Nat) : List Nat :=
  ((List.range' 0 labels.size).filter (fun x => decide (comp[x]! = r))).map (fun x => labels[x]!)

theorem toList_eq_range_map {α : Type} [Inhabited α] (a : Array α) :
    a.toList = (List.range a.size).map (fun i => a[i]!) := by
  apply List.ext_getElem
  · simp
  · intro i h1 h2
    simp at h1
    simp [getElem!_pos, h1]

theorem circL_eq_filter {labels comp : Array Nat} (hnd : labels.toList.Nodup) (r : Nat) :
    circL labels comp r = labels.toList.filter (fun y => decide (comp[indexOf labels y]! = r)) := by
  unfold circL
  conv => rhs; rw [toList_eq_range_map labels, List.range_eq_range', List.filter_map]
  congr 1
  apply List.filter_congr
  intro x hx
  have hx' : x < labels.size := by simpa [List.mem_range'] using hx
  simp [Function.comp, indexOf_getElem labels hnd x hx']

theorem mem_circL {labels comp : Array Nat} (hnd : labels.toList.Nodup) (r y : Nat) :
    y ∈ circL labels comp r ↔ y ∈ labels ∧ comp[indexOf labels y]! = r := by
  rw [circL_eq_filter hnd]; simp

theorem inv_conn_iff {labels comp : Array Nat} {P : List (Nat × Nat)} (h : Inv labels comp P)
    (hnd : labels.toList.Nodup) {x y : Nat} (hx : x < labels.size) (hy : y < labels.size) :
    comp[x]! = comp[y]! ↔ Conn P labels[x]! labels[y]! := by
  constructor
  · intro e
    have h1 := h.conn x hx
    have h2 := h.conn y hy
    rw [e] at h1
    exact h1.symm.trans h2
  · intro c
    have := h.eq_of_conn c
    rwa [indexOf_getElem labels hnd x hx, indexOf_getElem labels hnd y hy] at this

theorem roots_nodup (comp : Array Nat) (m : Nat) : (roots comp m).Nodup :=
  (List.nodup_range' (step := 1) (by omega)).filter _

theorem spec_of_inv {labels comp : Array Nat} {P : List (Nat × Nat)} (h : Inv labels comp P)
    (hnd : labels.toList.Nodup) :
    CirclesSpec labels P ((roots comp labels.size).map (fun r => (circL labels comp r).toArray)).toArray := by
  have hsz : (((roots comp labels.size).map (fun r => (circL labels comp r).toArray)).toArray).size
      = (roots comp labels.size).length := by simp
  have hget : ∀ i (hi : i < (roots comp labels.size).length),
      (((roots comp labels.size).map (fun r => (circL labels comp r).toArray)).toArray)[i]!
        = (circL labels comp (roots comp labels.size)[i]).toArray := by
    intro i hi
    rw [getElem!_pos _ i (by simpa using hi)]
    simp
  have hmem : ∀ r < labels.size, labels[r]! ∈ labels := by
    intro r hr; rw [getElem!_pos labels r hr]; exact Array.getElem_mem hr
  refine ⟨?_, ?_, ?_⟩
  · intro i hi
    rw [hsz] at hi
    obtain ⟨hr, hcr⟩ := (mem_roots _ _ _).mp (List.getElem_mem hi)
    refine ⟨labels[(roots comp labels.size)[i]]!, hmem _ hr,
      fun y => decide (comp[indexOf labels y]! = (roots comp labels.size)[i]), ?_, ?_⟩
    · rw [hget i hi]; exact circL_eq_filter hnd _
    · intro y hy
      obtain ⟨hj, hjy⟩ := indexOf_spec labels y hy
      rw [decide_eq_true_iff]
      conv => lhs; rhs; rw [← hcr]
      rw [inv_conn_iff h hnd hj hr, hjy]
      exact ⟨Conn.symm, Conn.symm⟩
  · intro i j hi hj x y hx hy c
    rw [hsz] at hi hj
    rw [hget i hi] at hx
    rw [hget j hj] at hy
    have hx' := ((mem_circL hnd _ _).mp (by simpa using hx)).2
    have hy' := ((mem_circL hnd _ _).mp (by simpa using hy)).2
    have := h.eq_of_conn c
    rw [hx', hy'] at this
    exact ((roots_nodup comp labels.size).getElem_inj_iff).mp this
  · intro x hx
    obtain ⟨hi, hxi⟩ := indexOf_spec labels x hx
    have hlt := h.lt _ hi
    have hr := h.eq_of_conn (h.conn _ hi)
    rw [indexOf_getElem labels hnd _ hlt, indexOf_getElem labels hnd _ hi] at hr
    obtain ⟨k, hk, hkr⟩ := List.getElem_of_mem ((mem_roots comp labels.size _).mpr ⟨hlt, hr⟩)
    refine ⟨k, by rw [hsz]; exact hk, ?_⟩
    rw [hget k hk, hkr]
    simpa using (mem_circL hnd _ _).mpr ⟨hx, rfl⟩

theorem circles_spec (l : Link) (hwf : C04Inv.WF l) (s : Nat) :
    CirclesSpec (edgeLabels l) (C04Inv.statePairs l s) (circles l (edgeLabels l) s) := by
  rw [C04Inv.circles_eq]
  exact spec_of_inv (inv_unionAll l hwf s) (edgeLabels_nodup l)

section
variable {labels : Array Nat} {P : List (Nat × Nat)} {cs : Array (Array Nat)}

theorem CirclesSpec.rep_mem (h : CirclesSpec labels P cs) {i : Nat} (hi : i < cs.size) :
    ∃ x0, x0 ∈ labels ∧ ∀ y, y ∈ cs[i]! ↔ y ∈ labels ∧ C04Inv.Conn P x0 y := by
  obtain ⟨x0, hx0, p, hp, hc⟩ := h.rep i hi
  refine ⟨x0, hx0, fun y => ?_⟩
  rw [← Array.mem_toList_iff, hp, List.mem_filter, Array.mem_toList_iff]
  exact and_congr_right fun hy => hc y hy

theorem CirclesSpec.mem_labels (h : CirclesSpec labels P cs) {i x : Nat} (hi : i < cs.size) (hx : x ∈ cs[i]!) :
    x ∈ labels := by
  obtain ⟨x0, _, hm⟩ := h.rep_mem hi
  exact ((hm x).1 hx).1

theorem CirclesSpec.conn_of_mem (h : CirclesSpec labels P cs) {i x y : Nat} (hi : i < cs.size) (hx : x ∈ cs[i]!)
    (hy : y ∈ cs[i]!) : C04Inv.Conn P x y := by
  obtain ⟨x0, _, hm⟩ := h.rep_mem hi
  exact ((hm x).1 hx).2.symm.trans ((hm y).1 hy).2

theorem CirclesSpec.mem_of_conn (h : CirclesSpec labels P cs) {i x y : Nat} (hi : i < cs.size) (hx : x ∈ cs[i]!)
    (hy : y ∈ labels) (hc : C04Inv.Conn P x y) : y ∈ cs[i]! := by
  obtain ⟨x0, _, hm⟩ := h.rep_mem hi
  exact (hm y).2 ⟨hy, ((hm x).1 hx).2.trans hc⟩

theorem CirclesSpec.mem_iff (h : CirclesSpec labels P cs) {i x : Nat} (hi : i < cs.size) (hx : x ∈ cs[i]!) (y : Nat) :
    y ∈ cs[i]! ↔ y ∈ labels ∧ Conn P x y :=
  ⟨fun hy => ⟨h.mem_labels hi hy, h.conn_of_mem hi hx hy⟩, fun hy => h.mem_of_conn hi hx hy.1 hy.2⟩

theorem CirclesSpec.nonempty (h : CirclesSpec labels P cs) {i : Nat} (hi : i < cs.size) : ∃ x, x ∈ cs[i]! := by
  obtain ⟨x0, hx0, hm⟩ := h.rep_mem hi
  exact ⟨x0, (hm x0).2 ⟨hx0, Conn.refl x0⟩⟩

/-- the label by which the driver and `parityCols` pick the colour of a circle -/
theorem CirclesSpec.head_mem (h : CirclesSpec labels P cs) {i : Nat} (hi : i < cs.size) : (cs[i]!)[0]! ∈ cs[i]! := by
  obtain ⟨x, hx⟩ := h.nonempty hi
  have hpos : 0 < (cs[i]!).size := Array.size_pos_of_mem hx
  rw [getElem!_pos (cs[i]!) 0 hpos]
  exact Array.getElem_mem hpos

end

end Yuiv.C06Cycle
