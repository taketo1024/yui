import Yuiv.Proofs.C13GenV
/-
C13 — the hand-written model of `SpVec` (`C13.SpVec.*` in `Yuiv/Model/C13.lean`; `Props/C13.lean` has its entry lemmas:
`from_sorted_entries_ok`, subvec / stack / split / permute entries, `mul_vec_entries`, …) IS the source text of
`/repo/yui-matrix/src/sparse/sp_vec.rs`.

`Yuiv.GenSpVec.*` (file `Yuiv/Gen/SpVecFn.lean`) is regenerated from the Rust source by `tools/rs2lean_fn.py fn:spvec` on
every `./check` run.  Every theorem is an unconditional equality generated = model, including all panics
(`assert_eq!(inner.ncols(), 1)`, `assert!(i < dim)`, `try_from_csc_data(..).unwrap()`, the push of `from_entries` outside
the shape, `PermView::at`, checked `usize` subtraction, `vec[i] = a` out of range).
-/
namespace Yuiv.C13GenV
open Yuiv Res Yuiv.Rust Yuiv.C13

variable {R : Type} [Zero R] [One R] [Add R] [Mul R] [Neg R] [DecidableEq R]

theorem gen_new_eq (A : SpMat R) : GenSpVec.SpVec.new A = A.intoSpVec := by
  unfold GenSpVec.SpVec.new C13.SpMat.intoSpVec
  by_cases h : A.ncols = 1
  · simp [h, assert_true]; rfl
  · simp [h, assert_false]

theorem gen_into_spvec_eq (A : SpMat R) : GenSpVec.SpMat.into_spvec A = A.intoSpVec := by
  unfold GenSpVec.SpMat.into_spvec
  rw [gen_new_eq]
  unfold C13.SpMat.intoSpVec
  by_cases h : A.ncols = 1
  · simp [h, assert_true]
  · simp [h, assert_false]

theorem gen_dim_eq (v : SpVec R) : GenSpVec.SpVec.dim v = v.dim := rfl
theorem gen_iter_eq (v : SpVec R) : GenSpVec.SpVec.iter v = v.ents := by
  unfold GenSpVec.SpVec.iter Sp.iter Sp.vec_inner C13.SpVec.toMat C13.SpMat.triplets
  simp only [tripsFrom, List.append_nil, List.map_map]
  have : (GenSpVec.SpVec.iter_closure1 (R := R) ∘ fun p : Nat × R => (p.1, 0, p.2)) = id := by funext p; rfl
  rw [this, List.map_id]

theorem gen_iter_nz_eq (v : SpVec R) : GenSpVec.SpVec.iter_nz v = v.ents.filter (fun p => p.2 ≠ 0) := by
  unfold GenSpVec.SpVec.iter_nz
  rw [gen_iter_eq]
  congr 1
  funext p
  simp [GenSpVec.SpVec.iter_nz_closure1]

theorem gen_zero_eq (d : Nat) : GenSpVec.SpVec.zero (R := R) d = ok (SpVec.zero d) := by
  unfold GenSpVec.SpVec.zero
  rw [gen_new_eq]
  rfl

theorem gen_unit_eq (n i : Nat) : GenSpVec.SpVec.unit (R := R) n i = SpVec.unit n i := by
  unfold GenSpVec.SpVec.unit C13.SpVec.unit
  rw [C13Gen.try_unwrap]
  refine bind_congr (fun A => ?_)
  exact gen_new_eq A

theorem gen_from_entries_eq (d : Nat) (es : List (Nat × R)) :
    GenSpVec.SpVec.from_entries d es = SpVec.fromEntries d es := by
  unfold GenSpVec.SpVec.from_entries C13.SpVec.fromEntries
  have hc : GenSpVec.SpVec.from_entries_closure1 (R := R) = fun p => (p.1, 0, p.2) := by funext p; rfl
  rw [hc]
  refine bind_congr (fun A => ?_)
  exact gen_into_spvec_eq A

theorem gen_from_raw_data_eq (d : Nat) (rows : List Nat) (vals : List R) :
    GenSpVec.SpVec.from_raw_data d rows vals = SpVec.fromRawData d rows vals := by
  unfold GenSpVec.SpVec.from_raw_data C13.SpVec.fromRawData
  simp only [C13Gen.try_unwrap]
  refine bind_congr (fun A => ?_)
  exact gen_into_spvec_eq A

theorem gen_from_sorted_entries_eq (d : Nat) (es : List (Nat × R)) :
    GenSpVec.SpVec.from_sorted_entries d es = SpVec.fromSortedEntries d es := by
  unfold GenSpVec.SpVec.from_sorted_entries C13.SpVec.fromSortedEntries
  show (List.foldlM (GenSpVec.SpVec.from_sorted_entries_closure1 (R := R) d) ([], []) es >>= _) = _
  rw [sorted_fold]
  cases es.all (fun p => decide (p.1 < d))
  · simp [assert_false]
  · simp only [if_true, bind_ok, assert_true, List.nil_append]
    exact gen_from_raw_data_eq d _ _

theorem gen_stack_vecs_eq (vs : List (SpVec R)) : GenSpVec.SpVec.stack_vecs vs = SpVec.stackVecs vs := by
  unfold GenSpVec.SpVec.stack_vecs C13.SpVec.stackVecs
  have hc : GenSpVec.SpVec.stack_vecs_closure1 (R := R) = fun (acc : Nat × List Nat × List R) v =>
      (acc.1 + v.dim, acc.2.1 ++ v.ents.map (fun p => p.1 + acc.1), acc.2.2 ++ v.ents.map (·.2)) := by
    funext acc v
    simp [GenSpVec.SpVec.stack_vecs_closure1, GenSpVec.SpVec.stack_vecs_closure2, Sp.disassemble, Sp.vec_inner,
      C13.SpVec.toMat, C13.SpMat.disassemble, GenSpVec.SpVec.dim]
  simp only [hc]
  exact gen_from_raw_data_eq _ _ _

theorem gen_from_vec_eq (l : List R) : GenSpVec.SpVec.From_Vec_R.from_ l = SpVec.ofDense l := by
  unfold GenSpVec.SpVec.From_Vec_R.from_ C13.SpVec.ofDense
  rw [gen_from_entries_eq, Sp.enumerate, enum_zip]

theorem gen_extract_eq (v : SpVec R) (d : Nat) (f : Nat → Res (Option Nat)) :
    GenSpVec.SpVec.extract v d f = v.extract d f := by
  unfold GenSpVec.SpVec.extract C13.SpVec.extract
  rw [gen_iter_eq, extract_map]
  refine bind_congr (fun es => ?_)
  exact gen_from_entries_eq d es

theorem gen_permute_eq (v : SpVec R) (p : Perm) : GenSpVec.SpVec.permute v p = v.permute p := by
  unfold GenSpVec.SpVec.permute C13.SpVec.permute
  rw [gen_extract_eq]
  rfl

theorem gen_subvec_eq (v : SpVec R) (a b : Nat) : GenSpVec.SpVec.subvec v (a, b) = v.subvec a b := by
  unfold GenSpVec.SpVec.subvec C13.SpVec.subvec
  by_cases h : a ≤ b
  · simp only [U64.sub, h, if_true, bind_ok, decide_true, assert_true, gen_extract_eq]
    congr 1
    funext i
    unfold GenSpVec.SpVec.subvec_closure1 Sp.range_contains
    by_cases hc : (decide (a ≤ i) && decide (i < b)) = true
    · have hi : a ≤ i := by simp at hc; exact hc.1
      simp only [hc, if_true]
      simp only [U64.sub, hi, if_true, bind_ok]
    · simp only [hc]; rfl
  · simp [U64.sub, h, assert_false]

theorem gen_stack_eq (v w : SpVec R) : GenSpVec.SpVec.stack v w = v.stack w := by
  unfold GenSpVec.SpVec.stack C13.SpVec.stack
  rw [gen_from_entries_eq, gen_iter_nz_eq, gen_iter_nz_eq]
  have h1 : GenSpVec.SpVec.stack_closure1 (R := R) = id := by funext p; rfl
  have h2 : GenSpVec.SpVec.stack_closure2 (R := R) (GenSpVec.SpVec.dim v) = fun p => (v.dim + p.1, p.2) := by funext p; rfl
  rw [h1, h2, List.map_id]
  rfl

theorem gen_split_eq (v : SpVec R) (k : Nat) : GenSpVec.SpVec.split v k = v.split k := by
  unfold GenSpVec.SpVec.split C13.SpVec.split
  by_cases h : k ≤ v.dim
  · simp only [h, decide_true, assert_true, bind_ok, gen_iter_eq, split_loop, List.nil_append, gen_from_entries_eq,
      U64.sub, if_true, gen_dim_eq]
  · have h' : ¬ k ≤ GenSpVec.SpVec.dim v := h
    simp [h, h', assert_false]

theorem gen_to_dense_eq (v : SpVec R) : GenSpVec.SpVec.to_dense v = v.toDense := by
  unfold GenSpVec.SpVec.to_dense C13.SpVec.toDense
  rw [gen_iter_nz_eq, to_dense_loop]
  rfl

/-- `&SpMat * &SpVec` -/
theorem gen_mul_vec_eq (A : SpMat R) (v : SpVec R) : GenSpVec.SpMat.Mul_SpVec_R_ref.mul A v = A.mulVec v := by
  unfold GenSpVec.SpMat.Mul_SpVec_R_ref.mul C13.SpMat.mulVec
  refine bind_congr (fun C => ?_)
  exact gen_new_eq C

end Yuiv.C13GenV
