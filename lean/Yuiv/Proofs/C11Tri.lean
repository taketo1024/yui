import Yuiv.Proofs.C11Seq
/-
C11 — well-formedness checker, triangular orders, soundness of the output checkers, the position lookup of
`perm_for_indices`.
-/
namespace Yuiv.C11
open Yuiv Res

theorem incrB_sound : ∀ (l : List Nat), incrB l = true → l.Pairwise (· < ·) := by
  intro l
  induction l with
  | nil => intro _; exact List.Pairwise.nil
  | cons a l ih =>
    intro h
    simp only [incrB, Bool.and_eq_true, List.all_eq_true, decide_eq_true_eq] at h
    exact List.pairwise_cons.2 ⟨h.1, ih h.2⟩

/-- `L` lists the pivots so that the row of a later pivot has no entry in the column of an earlier one:
after moving the rows/columns of `L` to the front in this order, the leading block is upper triangular
(internal orientation; for `PivotType::Cols` the matrix is transposed, giving lower triangular) -/
def Triangular (s : Str) (L : List (Nat × Nat)) : Prop :=
  L.Pairwise (fun p q => p.2 ∉ colsIn s q.1)

theorem checkTri_sound (s : Str) : ∀ L, checkTri s L = true → Triangular s L := by
  intro L
  induction L with
  | nil => intro _; exact List.Pairwise.nil
  | cons p L ih =>
    intro h
    simp only [checkTri, Bool.and_eq_true, List.all_eq_true, Bool.not_eq_true', List.contains_eq_mem,
      decide_eq_false_iff_not] at h
    exact List.pairwise_cons.2 ⟨h.1, ih h.2⟩

theorem nodupB_sound : ∀ (l : List Nat), nodupB l = true → l.Nodup := by
  intro l
  induction l with
  | nil => intro _; exact List.nodup_nil
  | cons a l ih =>
    intro h
    simp only [nodupB, Bool.and_eq_true, Bool.not_eq_true', List.contains_eq_mem,
      decide_eq_false_iff_not] at h
    exact List.nodup_cons.2 ⟨h.1, ih h.2⟩

/-- an order is triangular ⇒ the set is acyclic: going through the list from its end, every pivot is new on top -/
theorem triangular_acyclic (s : Str) : ∀ (L : List (Nat × Nat)), (L.map (·.2)).Nodup → Triangular s L →
    Acyclic s L := by
  intro L
  induction L with
  | nil => intro _ _; exact (PInv.nil s).acyc
  | cons a L ih =>
    intro hnd ht
    obtain ⟨i, j⟩ := a
    have hnd' := List.nodup_cons.1 hnd
    have ht' := List.pairwise_cons.1 ht
    exact (snoc_top_acyclic s L i j (ih hnd'.2 ht'.2) hnd'.1 ht'.1).of_subset
      (fun p hp => by simpa [or_comm] using hp)

theorem acyclic_triangular_core (s : Str) (S : Pivs) (hc : (S.map (·.2)).Nodup) (hA : Acyclic s S) :
    ∃ L, L.Perm S ∧ Triangular s L := by
  obtain ⟨rk, hrk⟩ := hA
  let le : (Nat × Nat) → (Nat × Nat) → Bool := fun p q => decide (rk q.2 ≤ rk p.2)
  refine ⟨S.mergeSort le, List.mergeSort_perm S le, ?_⟩
  have hperm := List.mergeSort_perm S le
  have hsorted : (S.mergeSort le).Pairwise (fun p q => le p q = true) :=
    List.pairwise_mergeSort (fun a b c h1 h2 => by simp only [le, decide_eq_true_eq] at *; omega)
      (fun a b => by simp only [le, Bool.or_eq_true, decide_eq_true_eq]; omega) S
  have hnd : ((S.mergeSort le).map (·.2)).Nodup := (hperm.map _).nodup_iff.2 hc
  have hne : (S.mergeSort le).Pairwise (fun p q => p.2 ≠ q.2) := List.pairwise_map.1 hnd
  refine (hsorted.and hne).imp_of_mem ?_
  intro p q hp hq h
  obtain ⟨h1, h2⟩ := h
  simp only [le, decide_eq_true_eq] at h1
  intro hE
  have := hrk q (hperm.mem_iff.1 hq) p (hperm.mem_iff.1 hp) (fun e => h2 e.symm) hE
  omega

theorem checkPivots_sound (s : Str) (L : List (Nat × Nat)) (h : checkPivots s L = true) :
    PInv s L ∧ Triangular s L := by
  simp only [checkPivots, Bool.and_eq_true, List.all_eq_true] at h
  obtain ⟨⟨⟨h1, h2⟩, h3⟩, h4⟩ := h
  have ht := checkTri_sound s L h4
  have hc := nodupB_sound _ h2
  exact ⟨⟨nodupB_sound _ h1, hc, h3, triangular_acyclic s L hc ht⟩, ht⟩

theorem PInv.perm {s : Str} {L S : Pivs} (h : PInv s L) (hp : L.Perm S) : PInv s S := by
  refine ⟨(hp.map _).nodup_iff.1 h.rows, (hp.map _).nodup_iff.1 h.cols, ?_, ?_⟩
  · intro p hpS; exact h.cand p (hp.mem_iff.2 hpS)
  · exact h.acyc.of_subset (fun p => hp.mem_iff.2)

theorem checkInit_sound (s : Str) (S : Pivs) (h : checkInit s S = true) : PInv s S := by
  unfold checkInit at h
  split at h
  · rename_i L _
    simp only [Bool.and_eq_true] at h
    exact (checkPivots_sound s L h.1).1.perm (List.isPerm_iff.1 h.2)
  · simp at h

/-- a table that passes the checker, together with the rows that remain, is a state satisfying the global
invariant: the parallel phase may be started from it -/
theorem checkInit_ginv (s : Str) (S : Pivs) (h : checkInit s S = true) : GInv s ⟨S, remainRows s S, []⟩ :=
  GInv.init (checkInit_sound s S h)

/-! ### `perm_for_indices` -/

theorem invFrom_notin : ∀ (l : List Nat) (pos j acc : Nat), j ∉ l → invFrom l pos j acc = acc := by
  intro l
  induction l with
  | nil => intro _ _ _ _; rfl
  | cons x xs ih =>
    intro pos j acc h
    simp only [List.mem_cons, not_or] at h
    rw [invFrom, ih _ _ _ h.2]
    have : ¬ x = j := fun e => h.1 e.symm
    simp [this]

theorem invFrom_getElem : ∀ (l : List Nat) (pos acc k : Nat) (hk : k < l.length), l.Nodup →
    invFrom l pos l[k] acc = pos + k := by
  intro l
  induction l with
  | nil => intro _ _ k hk; simp at hk
  | cons x xs ih =>
    intro pos acc k hk hnd
    have hnd' := List.nodup_cons.1 hnd
    cases k with
    | zero =>
      simp only [List.getElem_cons_zero, invFrom, beq_self_eq_true, if_true]
      rw [invFrom_notin _ _ _ _ hnd'.1]; rfl
    | succ k =>
      simp only [List.getElem_cons_succ, invFrom]
      have hk' : k < xs.length := by simpa using hk
      rw [ih (pos + 1) _ k hk' hnd'.2]
      omega

end Yuiv.C11
