import Yuiv.Proofs.C09Inv
import Yuiv.Proofs.C09Shape
import Mathlib.Tactic.LinearCombination
/-
`LawfulEuc e φ`: the operations `e : EOps α` compute, through the interpretation `φ : α → K`, in a commutative
domain `K`, and satisfy what the proofs about `snf.rs` need of `/ %`, of a Euclidean size, of `normalizing_unit`
and of `gcdx` (for ℤ: `Int.tdiv/tmod/natAbs`, `sign`, `extended_gcd`); and what follows for the local wrapper
`SnfCalc::gcdx`.
-/
namespace Yuiv.C09
open Yuiv

variable {α K : Type} [CommRing K] [IsDomain K]

/-- `LawfulEuc` without the facts about `gcdx`: what the generic `EucRing::gcdx` (`genGcdx`) needs -/
structure LawfulEucBase (e : EOps α) (φ : α → K) : Prop extends LawfulE e φ where
  /-- `mul_row/mul_col` are only ever called with a `normalizing_unit`: `inv` must succeed on it -/
  inv_normUnit : ∀ a, ∃ v, e.inv (e.normUnit a) = some v
  normUnit_congr : ∀ a b, φ a = φ b → φ (e.normUnit a) = φ (e.normUnit b)
  norm_mul : ∀ a, φ (e.normUnit (e.mul a (e.normUnit a))) = 1
  norm_unique : ∀ a b, φ (e.normUnit a) = 1 → φ (e.normUnit b) = 1 → φ a ∣ φ b → φ b ∣ φ a → φ a = φ b
  isUnit_iff : ∀ a, e.isUnit a = true ↔ IsUnit (φ a)
  div_rem : ∀ a b, φ b ≠ 0 → φ a = φ (e.quo a b) * φ b + φ (e.rem a b)
  size_rem : ∀ a b, φ b ≠ 0 → e.size (e.rem a b) < e.size b
  size_dvd : ∀ a b, φ b ≠ 0 → φ a ∣ φ b → e.size a ≤ e.size b

structure LawfulEuc (e : EOps α) (φ : α → K) : Prop extends LawfulEucBase e φ where
  gcdx_bezout : ∀ x y, φ (e.gcdx x y).1 = φ (e.gcdx x y).2.1 * φ x + φ (e.gcdx x y).2.2 * φ y
  gcdx_dvd : ∀ x y, φ (e.gcdx x y).1 ∣ φ x ∧ φ (e.gcdx x y).1 ∣ φ y
  gcdx_norm : ∀ x y, φ (e.normUnit (e.gcdx x y).1) = 1

namespace LawfulEucBase
variable {e : EOps α} {φ : α → K} (L : LawfulEucBase e φ)
include L

set_option linter.unusedSectionVars false in
theorem lawful : Lawful e.toROps φ := L.toLawfulE.toLawful

theorem isZero_iff (a : α) : e.isZero a = true ↔ φ a = 0 := C09.isZero_iff L.lawful a

theorem isZero_false (a : α) : e.isZero a = false ↔ φ a ≠ 0 := C09.isZero_false L.lawful a

theorem isOne_iff (a : α) : e.isOne a = true ↔ φ a = 1 := C09.isOne_iff L.lawful a

theorem phi_zero : φ e.zero = 0 := L.lawful.zero
theorem phi_one : φ e.one = 1 := L.lawful.one
theorem phi_mul (a b : α) : φ (e.mul a b) = φ a * φ b := L.lawful.mul a b
theorem phi_neg (a : α) : φ (e.neg a) = - φ a := L.lawful.neg a

omit [IsDomain K] in
theorem normUnit_isUnit (a : α) : IsUnit (φ (e.normUnit a)) := by
  obtain ⟨v, hv⟩ := L.inv_normUnit a
  exact IsUnit.of_mul_eq_one _ (L.inv_mul _ _ hv)

theorem normUnit_ne_zero (a : α) : φ (e.normUnit a) ≠ 0 := (L.normUnit_isUnit a).ne_zero

omit [IsDomain K] in
theorem rem_eq_zero_iff (a b : α) (hb : φ b ≠ 0) : φ (e.rem a b) = 0 ↔ φ b ∣ φ a := by
  have h := L.div_rem a b hb
  constructor
  · intro hr
    rw [h, hr, add_zero]
    exact dvd_mul_left _ _
  · intro hd
    by_contra hr
    have hdr : φ b ∣ φ (e.rem a b) := by
      have : φ (e.rem a b) = φ a - φ (e.quo a b) * φ b := by linear_combination -h
      rw [this]
      exact dvd_sub hd (dvd_mul_left _ _)
    have h1 := L.size_dvd b (e.rem a b) hr hdr
    have h2 := L.size_rem a b hb
    omega

theorem dvd_iff (a b : α) : e.dvd a b = true ↔ φ a ≠ 0 ∧ φ a ∣ φ b := by
  unfold EOps.dvd
  rw [Bool.and_eq_true, Bool.not_eq_true', L.isZero_false, L.isZero_iff]
  constructor
  · rintro ⟨h1, h2⟩; exact ⟨h1, (L.rem_eq_zero_iff b a h1).1 h2⟩
  · rintro ⟨h1, h2⟩; exact ⟨h1, (L.rem_eq_zero_iff b a h1).2 h2⟩

omit [IsDomain K] in
theorem quo_mul (x d : α) (hd : φ d ≠ 0) (h : φ d ∣ φ x) : φ x = φ (e.quo x d) * φ d := by
  have h1 := L.div_rem x d hd
  rw [(L.rem_eq_zero_iff x d hd).2 h, add_zero] at h1
  exact h1

theorem size_lt_of_nonunit (x a d : α) (hx : φ x = φ a * φ d) (hx0 : φ x ≠ 0) (hu : ¬ IsUnit (φ a)) :
    e.size d < e.size x := by
  have hd0 : φ d ≠ 0 := by
    intro h; rw [h, mul_zero] at hx; exact hx0 hx
  have h := L.div_rem d x hx0
  have hs := L.size_rem d x hx0
  rw [hx] at h
  by_cases hr : φ (e.rem d x) = 0
  · exfalso; apply hu
    rw [hr, add_zero] at h
    have h1 : φ d * (φ a * φ (e.quo d x)) = φ d * 1 := by linear_combination -h
    exact IsUnit.of_mul_eq_one _ (mul_left_cancel₀ hd0 h1)
  · have hdr : φ d ∣ φ (e.rem d x) := ⟨1 - φ (e.quo d x) * φ a, by linear_combination -h⟩
    have := L.size_dvd d (e.rem d x) hr hdr
    omega

theorem size_lt_of_dvd_not_dvd (x d : α) (hx0 : φ x ≠ 0) (h : φ d ∣ φ x) (hn : ¬ φ x ∣ φ d) :
    e.size d < e.size x := by
  have hd0 : φ d ≠ 0 := by
    intro h0; rw [h0] at h; exact hx0 (zero_dvd_iff.1 h)
  have hq := L.quo_mul x d hd0 h
  refine L.size_lt_of_nonunit x _ d hq hx0 ?_
  intro hu
  apply hn
  rw [hq, hu.mul_left_dvd]

omit [IsDomain K] in
theorem size_congr (a b : α) (h : φ a = φ b) (hb : φ b ≠ 0) : e.size a = e.size b := by
  have h1 := L.size_dvd a b hb (by rw [h])
  have h2 := L.size_dvd b a (by rw [h]; exact hb) (by rw [h])
  omega

theorem isNorm_iff (a : α) : e.isNorm a = true ↔ φ (e.normUnit a) = 1 := by
  unfold EOps.isNorm; exact L.isOne_iff _

end LawfulEucBase

theorem shapeL_mem {e : EOps α} {φ : α → K} (L : LawfulEucBase e φ) :
    ∀ l : List α, shapeL e l = true → ∀ x ∈ l, φ x = 0 ∨ φ (e.normUnit x) = 1 := by
  intro l
  induction l with
  | nil => intro _ x hx; cases hx
  | cons a rest ih =>
    intro h x hx
    unfold shapeL at h
    split at h
    · rename_i hz
      left
      rcases List.mem_cons.1 hx with rfl | hx
      · exact (L.isZero_iff _).1 hz
      · exact (L.isZero_iff _).1 (List.all_eq_true.1 h x hx)
    · simp only [Bool.and_eq_true] at h
      rcases List.mem_cons.1 hx with rfl | hx
      · exact Or.inr ((L.isNorm_iff _).1 h.1.1)
      · exact ih h.2 x hx

theorem isSnfShape_mem {e : EOps α} {φ : α → K} (L : LawfulEucBase e φ) {m n : Nat} (T : Mat α m n)
    (hs : isSnfShape e T = true) (x : α) (hx : x ∈ diagL T) : φ x = 0 ∨ φ (e.normUnit x) = 1 := by
  simp only [isSnfShape, Bool.and_eq_true] at hs
  exact shapeL_mem L _ hs.2 x hx

/-- what the unit branch of the wrapper `SnfCalc::gcdx` needs of a pivot `x`: there the wrapper answers
`(d, x/d, 0)` with `x/d` a unit, and these are Bézout coefficients iff `x/d` is its own inverse.  That holds when
`x` is normalised (`x/d = 1`), and for every `x` in a ring whose units all square to `1` (ℤ). -/
def PivotOK (e : EOps α) (φ : α → K) (x : α) : Prop :=
  φ (e.normUnit x) = 1 ∨ ∀ u : K, IsUnit u → u * u = 1

/-- a property `N` of the pivot that `eliminate_at` maintains: it makes the pivot fit for the wrapper, holds for
the normalised gcds that replace the pivot, and only depends on the value in `K` -/
structure PivotInv (e : EOps α) (φ : α → K) (N : α → Prop) : Prop where
  ok : ∀ x, N x → PivotOK e φ x
  of_norm : ∀ d, φ (e.normUnit d) = 1 → N d
  congr : ∀ a b, φ a = φ b → N b → N a

omit [IsDomain K] in
theorem LawfulEucBase.pivotInv_norm {e : EOps α} {φ : α → K} (L : LawfulEucBase e φ) :
    PivotInv e φ (fun x => φ (e.normUnit x) = 1) :=
  ⟨fun _ h => Or.inl h, fun _ h => h, fun a b h hb => by rw [L.normUnit_congr a b h]; exact hb⟩

omit [IsDomain K] in
theorem pivotInv_units {e : EOps α} {φ : α → K} (hU : ∀ u : K, IsUnit u → u * u = 1) :
    PivotInv e φ (fun _ => True) :=
  ⟨fun _ _ => Or.inr hU, fun _ _ => trivial, fun _ _ _ _ => trivial⟩

namespace LawfulEuc
variable {e : EOps α} {φ : α → K} (L : LawfulEuc e φ)
include L

omit L in
theorem gcdxW_eq (e : EOps α) (x y : α) : gcdxW e x y =
    if e.isUnit (e.quo x (e.gcdx x y).1) = true then ((e.gcdx x y).1, e.quo x (e.gcdx x y).1, e.zero)
    else e.gcdx x y := rfl

/-- the wrapper is asked in two situations: on a pivot fit for the unit branch (inside `eliminate_at`), or when
`x ∤ y` (in `diag_normalize_step`); `t = 0` means that the step does not re-fill the line cleared before -/
theorem gcdxW_data (x y : α) (hx : φ x ≠ 0) (hn : PivotOK e φ x ∨ ¬ φ x ∣ φ y) :
    φ (gcdxW e x y).1 ≠ 0 ∧ φ (e.normUnit (gcdxW e x y).1) = 1 ∧
    φ x = φ (e.quo x (gcdxW e x y).1) * φ (gcdxW e x y).1 ∧
    φ y = φ (e.quo y (gcdxW e x y).1) * φ (gcdxW e x y).1 ∧
    φ (gcdxW e x y).2.1 * φ (e.quo x (gcdxW e x y).1) + φ (gcdxW e x y).2.2 * φ (e.quo y (gcdxW e x y).1) = 1 ∧
    (φ (gcdxW e x y).2.2 = 0 ∨ e.size (gcdxW e x y).1 < e.size x) := by
  have hb := L.gcdx_bezout x y
  obtain ⟨hdx, hdy⟩ := L.gcdx_dvd x y
  have hN := L.gcdx_norm x y
  have hd0 : φ (e.gcdx x y).1 ≠ 0 := by
    intro h; rw [h] at hdx; exact hx (zero_dvd_iff.1 hdx)
  have hqa := L.quo_mul x _ hd0 hdx
  have hqb := L.quo_mul y _ hd0 hdy
  rw [gcdxW_eq]
  split
  · rename_i hu
    rw [L.isUnit_iff] at hu
    simp only
    -- the wrapper answers `(d, a, 0)` with `a = x / d` a unit: Bézout for it reads `a·a = 1`
    have hxd : φ x ∣ φ (e.gcdx x y).1 := by rw [hqa, hu.mul_left_dvd]
    have haa : φ (e.quo x (e.gcdx x y).1) * φ (e.quo x (e.gcdx x y).1) = 1 := by
      rcases hn with (hn | hU) | hn
      · have heq := L.norm_unique _ _ hn hN hxd hdx
        have : φ (e.gcdx x y).1 * φ (e.quo x (e.gcdx x y).1) = φ (e.gcdx x y).1 * 1 := by
          linear_combination heq - hqa
        rw [mul_left_cancel₀ hd0 this, mul_one]
      · exact hU _ hu
      · exact absurd (dvd_trans hxd hdy) hn
    refine ⟨hd0, hN, hqa, hqb, ?_, Or.inl L.phi_zero⟩
    rw [L.phi_zero, zero_mul, add_zero]
    exact haa
  · rename_i hu
    rw [L.isUnit_iff] at hu
    refine ⟨hd0, hN, hqa, hqb, ?_, Or.inr (L.size_lt_of_nonunit x _ _ hqa hx hu)⟩
    have : φ (e.gcdx x y).1 * (φ (e.gcdx x y).2.1 * φ (e.quo x (e.gcdx x y).1)
        + φ (e.gcdx x y).2.2 * φ (e.quo y (e.gcdx x y).1)) = φ (e.gcdx x y).1 * 1 := by
      linear_combination (-(φ (e.gcdx x y).2.1)) * hqa + (-(φ (e.gcdx x y).2.2)) * hqb - hb
    exact mul_left_cancel₀ hd0 this

/-- the `debug_assert!((a*d - b*c).is_one())` of `left/right_elementary` holds for `[s, t; -b, a]` -/
theorem det_ok (x y : α) (hx : φ x ≠ 0) (hn : PivotOK e φ x ∨ ¬ φ x ∣ φ y) :
    detIsOne e.toROps (gcdxW e x y).2.1 (gcdxW e x y).2.2
      (e.neg (e.quo y (gcdxW e x y).1)) (e.quo x (gcdxW e x y).1) = true := by
  obtain ⟨_, _, _, _, g4, _⟩ := L.gcdxW_data x y hx hn
  rw [detIsOne_iff L.lawful, L.phi_neg]
  linear_combination g4

end LawfulEuc

/-- `x ∈ K` is the value of a normalised element (`normalizing_unit = 1`) -/
def NormalisedIn (e : EOps α) (φ : α → K) (x : K) : Prop := ∃ a, φ a = x ∧ φ (e.normUnit a) = 1

end Yuiv.C09
