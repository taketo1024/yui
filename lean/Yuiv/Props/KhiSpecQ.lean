import Yuiv.Proofs.KhiSpecQ
import Yuiv.Props.KhiSpec
/-
KhiSpecQ — END-TO-END STATEMENT ABOUT `C19.khiHomology`, BIGRADED CASE (`bigraded = true`, `h = t = 0`).

Under `khiInstanceOk l p` with `p.h = 0`, `p.t = 0` (unreduced or reduced):
`khiHomology l signs p true = .ok ⟨cells⟩` — never `malformed`, never `notComplex` — and `cells` is exactly, for the quantum
degrees `q` in the order `qList` (the model's `Array.qsort` of the distinct quantum degrees of the cone generators) and the
positions `i = 0..n+1`, the list of `(−n₋ + i, some q, dim_{i,q})` with `dim_{i,q} ≠ 0`, where
    `dim_{i,q} = #gens_{i,q} − rank D_{i,q} − rank D_{i−1,q}`   (`coneDimQ`),
`gens_{i,q}` = the cone generators `B g` (weight `i`) and `Q g` (weight `i − 1`) whose cube generator `g` has quantum degree
`Cube.qDeg q0 g = q` — the model grades `B g` and `Q g` BOTH by the quantum degree of `g`, with ONE shift
`q0 = n₊ − 2n₋ (+1 if reduced)`, there is no extra shift between the two summands — and `D_{i,q} = DmG ic p (sliceQ …) i` the
matrix over `ZMod 2` of the cone differential between these slices.  For every `q`: `D_{i,q} · D_{i+1,q} = 0` and
`dim_{j+1,q} = dim ker D_{j+1,q}ᵀ / im D_{j,q}ᵀ`.
Ingredients: `khi_dI_preserves_qdeg` (`Cube.d` preserves the quantum degree for `h = t = 0`: `Proofs/KhSpecQDeg.qDeg_preserved`
on the cube without base point, of which the reduced differential is a sub-list; τ: `Props/C19Inv.icube_tau_qdeg`), so the
`notComplex` exit of the `q`-loop never fires and every slice is closed under `dI`; the machinery of `Props/KhiSpec` for an
arbitrary closed family (`Proofs/KhiSpecFam`).
`qList` consists exactly of the quantum degrees of the generators, in STRICTLY INCREASING order (`khi_qList_spec`,
`khi_qList_sorted`: core `Array.qsort` sorts for integer keys — `Proofs/KhSpecSort`).
-/
namespace Yuiv.KhiSpec
open Yuiv Yuiv.KhRef Yuiv.C19 Yuiv.C06Cycle Yuiv.C19Inv Yuiv.C19Comm Yuiv.C19Cone Matrix

/-- for `h = t = 0` the cone differential preserves the quantum degree of the underlying cube generator
(`D(Bg) = B dg + Qg + Qτg`, `D(Qg) = Q dg`: `d` and `τ` preserve `qDeg`) -/
theorem khi_dI_preserves_qdeg (l : InvLink) (p : Params) (hh : p.h = 0) (ht : p.t = 0) (ic : ICube)
    (hic : mkICube l p = some ic) (hok : khiInstanceOk l p = true) (q0 : Int) (i : Nat) (hi : i < ic.cube.n + 2)
    (x : IGen) (hx : x ∈ cgens ic i) (y : IGen) (hy : y ∈ dI ic p x) :
    ic.cube.qDeg q0 y.2 = ic.cube.qDeg q0 x.2 ∧ y ∈ cgens ic (i + 1) := by
  have G : GensOk ic p := gensOk_of_instanceOk l p ic hic hok
  exact ⟨dI_qdeg l p hh ht ic hic hok G q0 i x hx y hy, closed_of_instanceOk l p ic hic hok i hi x hx y hy⟩

/-- the quantum degrees of the output: each quantum degree of a cone generator, once -/
theorem khi_qList_spec (ic : ICube) (q0 : Int) :
    (qList ic q0).Nodup ∧ ∀ q, q ∈ qList ic q0 ↔ ∃ i x, x ∈ cgens ic i ∧ ic.cube.qDeg q0 x.2 = q := by
  obtain ⟨h1, h2⟩ := qsSorted_spec ic.cube q0 (coneGens ic.cube (kgensOf ic.cube))
  refine ⟨h1, fun q => ?_⟩
  unfold qList
  rw [Array.mem_toList_iff, h2 q]
  constructor
  · rintro ⟨gs, hgs, x, hx, e⟩
    obtain ⟨i, hi, rfl⟩ := Array.mem_iff_getElem.1 hgs
    exact ⟨i, x, by unfold cgens; rw [getElem!_pos _ i hi]; exact hx, e⟩
  · rintro ⟨i, x, hx, e⟩
    unfold cgens at hx
    by_cases hi : i < (coneGens ic.cube (kgensOf ic.cube)).size
    · rw [getElem!_pos _ i hi] at hx
      exact ⟨_, Array.getElem_mem hi, x, hx, e⟩
    · rw [getElem!_neg _ i hi] at hx
      exact absurd hx (Array.not_mem_empty x)

/-- the quantum degrees are listed in strictly increasing order (`Array.qsort` sorts) -/
theorem khi_qList_sorted (ic : ICube) (q0 : Int) : (qList ic q0).Pairwise (fun a b => a < b) :=
  qsSorted_sorted ic.cube q0 (coneGens ic.cube (kgensOf ic.cube))

/-- THE END-TO-END STATEMENT, BIGRADED (`h = t = 0`), under `khiInstanceOk` alone -/
theorem khi_homology_bigraded_of_instanceOk (l : InvLink) (signs : Array Int) (p : Params) (hh : p.h = 0)
    (ht : p.t = 0) (h : khiInstanceOk l p = true) :
    ∃ ic, mkICube l p = some ic ∧
      khiHomology l signs p true = Except.ok { cells :=
        ((qList ic (q0Of signs p)).flatMap (fun q => (List.range (ic.cube.n + 2)).filterMap (fun (i : Nat) =>
          if coneDimQ ic p (q0Of signs p) q i ≠ 0 then
            some (-((signs.filter (· < 0)).size : Int) + (i : Int), some q, coneDimQ ic p (q0Of signs p) q i)
          else none))).toArray } ∧
      ∀ q : Int,
        (∀ (i : Nat) (x : IGen), x ∈ (sliceQ ic (q0Of signs p) q)[i]! ↔
          x ∈ cgens ic i ∧ ic.cube.qDeg (q0Of signs p) x.2 = q) ∧
        (∀ i, i < ic.cube.n + 2 →
          DmG ic p (sliceQ ic (q0Of signs p) q) i * DmG ic p (sliceQ ic (q0Of signs p) q) (i + 1) = 0) ∧
        (∀ j, j < ic.cube.n + 2 →
          Module.finrank (ZMod 2) (C03Uct.Homology (DmG ic p (sliceQ ic (q0Of signs p) q) j)ᵀ
            (DmG ic p (sliceQ ic (q0Of signs p) q) (j + 1))ᵀ) = coneDimQ ic p (q0Of signs p) q (j + 1)) := by
  obtain ⟨_, _, _, _, ic, hic, _, _⟩ := khi_instance_ok_meaning l p h
  have G : GensOk ic p := gensOk_of_instanceOk l p ic hic h
  refine ⟨ic, hic, khi_bigraded_eq l signs p hh ht ic hic h G, fun q => ?_⟩
  have F := fam_sliceQ l p hh ht ic hic h G (q0Of signs p) q
  refine ⟨fun i x => mem_sliceQ ic _ q i x, ?_, ?_⟩
  · intro i hi
    exact DmG_mul ic p _ F i (by rw [sliceQ_size]; exact hi)
  · intro j hj
    exact homology_dimG ic p _ F j (by rw [sliceQ_size]; exact hj)

/-- in membership form: a cell is reported iff it is `(−n₋ + k, some q, dim_{k,q})` for a quantum degree `q` of some
generator and a position `k ≤ n + 1` with `dim_{k,q} ≠ 0` -/
theorem khi_homology_bigraded_cells (l : InvLink) (signs : Array Int) (p : Params) (hh : p.h = 0) (ht : p.t = 0)
    (h : khiInstanceOk l p = true) :
    ∃ ic res, mkICube l p = some ic ∧ khiHomology l signs p true = Except.ok res ∧
      ∀ cell, cell ∈ res.cells ↔ ∃ q ∈ qList ic (q0Of signs p), ∃ k, k < ic.cube.n + 2 ∧
        coneDimQ ic p (q0Of signs p) q k ≠ 0 ∧
        cell = (-((signs.filter (· < 0)).size : Int) + (k : Int), some q, coneDimQ ic p (q0Of signs p) q k) := by
  obtain ⟨ic, hic, he, _⟩ := khi_homology_bigraded_of_instanceOk l signs p hh ht h
  refine ⟨ic, _, hic, he, ?_⟩
  intro cell
  simp only [List.mem_toArray, List.mem_flatMap, List.mem_filterMap, List.mem_range]
  constructor
  · rintro ⟨q, hq, k, hk, e⟩
    split at e
    · rename_i hne
      exact ⟨q, hq, k, hk, hne, (Option.some.inj e).symm⟩
    · cases e
  · rintro ⟨q, hq, k, hk, hne, rfl⟩
    exact ⟨q, hq, k, hk, by rw [if_pos hne]⟩

/-- unreduced and reduced: the hypotheses hold and `khiHomology … true` succeeds.  Evaluated (`#eval`, signs `−,−,−`):
unreduced `(i,q):dim` = `(-3,-8):1 (-2,-8):1 (-3,-6):1 (-2,-6):1 (-1,-4):1 (0,-4):1 (-1,-2):1 (0,-2):2 (1,-2):1 (0,0):1 (1,0):1`,
reduced `(-3,-7):1 (-2,-7):1 (-1,-3):1 (0,-3):1 (0,-1):1 (1,-1):1` -/
example (signs : Array Int) :
    (∃ res, khiHomology tref signs ⟨0, 0, false⟩ true = Except.ok res) ∧
    (∃ res, khiHomology tref signs ⟨0, 0, true⟩ true = Except.ok res) := by
  obtain ⟨_, _, e1, _⟩ := khi_homology_bigraded_of_instanceOk tref signs ⟨0, 0, false⟩ rfl rfl (tref_ok_unreduced 0 0)
  obtain ⟨_, _, e2, _⟩ := khi_homology_bigraded_of_instanceOk tref signs ⟨0, 0, true⟩ rfl rfl (tref_ok_reduced 0)
  exact ⟨⟨_, e1⟩, ⟨_, e2⟩⟩

end Yuiv.KhiSpec
