import Yuiv.Gen.IntExtFn
import Yuiv.Model.C15
import Yuiv.Proofs.Res
/-
`Yuiv.GenIntExt.*` is GENERATED from `/repo/yui/src/misc/int_ext.rs` and `/repo/yui/src/abst/euc_ring.rs` by
`tools/rs2lean_fn.py fn:intext` (`Self := Int`); `Yuiv.C15.*` is the hand-written model, whose generic Euclidean
functions are instantiated at `C15.intOps`.
-/
namespace Yuiv.C15Gen
open Yuiv Res Yuiv.Rust Yuiv.GenIntExt

theorem bind_assoc' {α β γ} (x : Res α) (f : α → Res β) (g : β → Res γ) :
    ((x >>= f) >>= g) = (x >>= fun a => f a >>= g) := bind_assoc x f g
theorem ite_bind {α β} (c : Prop) [Decidable c] (x y : Res α) (f : α → Res β) :
    ((if c then x else y) >>= f) = if c then x >>= f else y >>= f := apply_ite (· >>= f) c x y

/-- `Option` results of the model's loops as `Res` (fuel exhaustion = `err`) -/
def ofOpt {α} : Option α → Res α
  | some a => ok a
  | none => .err

theorem rem_ne (a b : Int) (h : b ≠ 0) : RInt.rem a b = ok (C15.zRemT a b) := by simp [RInt.rem, C15.zRemT, h]
theorem div_ne (a b : Int) (h : b ≠ 0) : RInt.div a b = ok (C15.zDivT a b) := by simp [RInt.div, C15.zDivT, h]
theorem rem_zero (a : Int) : RInt.rem a 0 = .panic := by simp [RInt.rem]
theorem div_zero (a : Int) : RInt.div a 0 = .panic := by simp [RInt.div]

theorem normalized_eq (a : Int) : RInt.normalized a = C15.intOps.normalized a := by
  unfold RInt.normalized C15.EucOps.normalized
  by_cases h : a < 0 <;> simp [C15.intOps, C15.zNormUnit, RInt.normalizing_unit, RInt.is_negative, h]

/-- the generated `while` loop of `gcd` with `n+1` units of fuel is the model's `gcdLoop` with `n` (the generated
loop pays one unit for the final test as well) -/
theorem gcd_loop_eq (n : Nat) (x y : Int) :
    EucRing.gcd_loop1 (n + 1) x y = ofOpt ((C15.intOps.gcdLoop n x y).map fun d => (d, 0)) := by
  induction n generalizing x y with
  | zero =>
    unfold EucRing.gcd_loop1 C15.EucOps.gcdLoop
    by_cases h : y = 0
    · simp [h, RInt.is_zero, C15.intOps, ofOpt]
    · simp [h, RInt.is_zero, C15.intOps, ofOpt, rem_ne x y h, EucRing.gcd_loop1]
  | succ n ih =>
    unfold EucRing.gcd_loop1 C15.EucOps.gcdLoop
    by_cases h : y = 0
    · simp [h, RInt.is_zero, C15.intOps, ofOpt]
    · simp [h, RInt.is_zero, rem_ne x y h, ih]
      simp [C15.intOps, h]

theorem gcdx_loop_eq (n : Nat) (x y s0 s1 t0 t1 : Int) :
    (EucRing.gcdx_loop1 (n + 1) x y s0 s1 t0 t1 >>= fun r => ok (r.1, r.2.2.1, r.2.2.2.2.1)) =
      ofOpt (C15.intOps.gcdxLoop n x y s0 s1 t0 t1) := by
  induction n generalizing x y s0 s1 t0 t1 with
  | zero =>
    unfold EucRing.gcdx_loop1 C15.EucOps.gcdxLoop
    by_cases h : y = 0
    · simp [h, RInt.is_zero, C15.intOps, ofOpt]
    · simp [h, RInt.is_zero, C15.intOps, ofOpt, rem_ne x y h, div_ne x y h, EucRing.gcdx_loop1]
  | succ n ih =>
    unfold EucRing.gcdx_loop1 C15.EucOps.gcdxLoop
    by_cases h : y = 0
    · simp [h, RInt.is_zero, C15.intOps, ofOpt]
    · simp [h, RInt.is_zero, rem_ne x y h, div_ne x y h, ih]
      simp [C15.intOps, h]

end Yuiv.C15Gen
