import Yuiv.Proofs.C05EngineDD
/-
C05 (engine) — delooping of the MODEL preserves `d ∘ d = 0` when `cap_off` on the target / source side multiplies the
value of a label by a cap / cup element, and the copies decompose the identity of the delooped vertex
(`Σ cup·cap = 1`, statement (2) of `Props/C05Deloop.deloop_iso`), in values; `RingDeloopOps.toVal` makes labels in a
ring the case `val = id` (`Props/C05EngineDD.lean`).  First the vertex set after `deloop` as a `Finset` and the entries
after `deloop_with` and after the whole `deloop` (`deloop_entV`: `L(b) · d(π a → π b) · R(a)`).
-/
namespace Yuiv.C05.Engine
open Yuiv.C05.Tng

variable {E : Type}

theorem toFinset_map_renameFn (L : List TKey) (k kN : TKey) (hk : k ∈ L) :
    (L.map (renameFn k kN)).toFinset = insert kN (L.toFinset.erase k) := by
  ext x
  simp only [List.mem_toFinset, List.mem_map, Finset.mem_insert, Finset.mem_erase]
  constructor
  · rintro ⟨y, hy, rfl⟩
    unfold renameFn
    by_cases hyk : y = k
    · rw [if_pos hyk]; exact .inl rfl
    · rw [if_neg hyk]; exact .inr ⟨hyk, hy⟩
  · rintro (rfl | ⟨hxk, hx⟩)
    · exact ⟨k, hk, by rw [renameFn, if_pos rfl]⟩
    · exact ⟨x, hx, by rw [renameFn, if_neg hxk]⟩

theorem deloop_vertex_set (ops : EdgeOps E) (cx cx' : Cx E) (k : TKey) (r : Nat) (upd : List TKey) (t : Tng) (c : Path)
    (ht : cx.tng? k = some t) (hc : t[r]? = some c) (h : cx.deloop ops k r = .ok (upd, cx')) :
    (cx'.verts.map (·.1)).toFinset =
      if cx.containsBase c = true then insert (k.push .X) ((cx.verts.map (·.1)).toFinset.erase k)
      else insert (k.push .I) (insert (k.push .X) ((cx.verts.map (·.1)).toFinset.erase k)) := by
  rw [(deloop_verts ops cx cx' k r upd t c ht hc h).keys, List.toFinset_append,
    toFinset_map_renameFn _ k _ (tng?_some_mem cx k t ht)]
  by_cases hbase : cx.containsBase c = true
  · rw [if_pos hbase, if_pos hbase]
    exact Finset.union_empty _
  · rw [if_neg hbase, if_neg hbase, Finset.union_comm]
    rfl

section
variable [Ring E]

/-- `cap_off` on the target side is left multiplication by a cap, on the source side right multiplication by a cup
(both for the circle `c` that is delooped); labels that are dropped as zero are zero -/
structure RingDeloopOps (ops : EdgeOps E) (c : Path) (cap cup : Dot → E) : Prop where
  tgt : ∀ d f, ops.capOff .tgt c d f = .ok (cap d * f)
  src : ∀ d f, ops.capOff .src c d f = .ok (f * cup d)
  zero : ∀ x, ops.isZero x = true → x = 0

/-- the vertex of the old complex a new vertex stands for (`u`: the circle does not carry the base point) -/
def dlPi (k : TKey) (u : Bool) (x : TKey) : TKey := if x = k.push .X ∨ (u = true ∧ x = k.push .I) then k else x
/-- the cap glued on edges into a new vertex -/
def dlL (cap : Dot → E) (k : TKey) (u : Bool) (x : TKey) : E :=
  if x = k.push .X then cap .none else if u = true ∧ x = k.push .I then cap .Y else 1
/-- the cup glued under edges out of a new vertex -/
def dlR (cup : Dot → E) (k : TKey) (u : Bool) (x : TKey) : E :=
  if x = k.push .X then cup .X else if u = true ∧ x = k.push .I then cup .none else 1

theorem dlPi_X (k : TKey) (u : Bool) : dlPi k u (k.push .X) = k := by
  simp [dlPi]

theorem dlPi_I (k : TKey) : dlPi k true (k.push .I) = k := by
  simp [dlPi]

theorem dlL_X (cap : Dot → E) (k : TKey) (u : Bool) : dlL cap k u (k.push .X) = cap .none := by
  simp [dlL]

theorem dlL_I (cap : Dot → E) (k : TKey) : dlL cap k true (k.push .I) = cap .Y := by
  simp [dlL, (pushX_ne_pushI k).symm]

theorem dlR_X (cup : Dot → E) (k : TKey) (u : Bool) : dlR cup k u (k.push .X) = cup .X := by
  simp [dlR]

theorem dlR_I (cup : Dot → E) (k : TKey) : dlR cup k true (k.push .I) = cup .none := by
  simp [dlR, (pushX_ne_pushI k).symm]

theorem dl_other (cap cup : Dot → E) (k : TKey) (u : Bool) (x : TKey) (hX : x ≠ k.push .X)
    (hI : ¬ (u = true ∧ x = k.push .I)) : dlPi k u x = x ∧ dlL cap k u x = 1 ∧ dlR cup k u x = 1 := by
  simp [dlPi, dlL, dlR, hX, hI]

end

section values
variable {A : Type} [Ring A]

theorem deloopWith_entV (val : E → A) (ops : EdgeOps E) (cx cx' : Cx E) (k : TKey) (r : Nat) (birth death : Dot)
    (t : Tng) (c : Path) (cap cup : Dot → A) (hwf : WF ops cx) (ht : cx.tng? k = some t) (hc : t[r]? = some c)
    (hops : ValDeloopOps ops val c cap cup) (h : cx.deloopWith ops k r birth death = .ok cx') (a b : TKey) :
    entV val cx' a b =
      (if b = k then cap death else 1) * entV val cx a b * (if a = k then cup birth else 1) := by
  obtain ⟨t0, circ, t', ht0, hrm, _, hall⟩ := deloop_with_edges ops cx cx' k r birth death hwf h
  rw [ht] at ht0
  cases ht0
  have hcirc : circ = c := by
    unfold Tng.removeAt at hrm
    rw [hc] at hrm
    simp only [Res.ok.injEq, Prod.mk.injEq] at hrm
    exact hrm.1.symm
  subst hcirc
  obtain ⟨hnone, hsome⟩ := hall a b
  rcases he : cx.edge? a b with _ | f
  · rw [entV_of_none val cx' a b (hnone he), entV_of_none val cx a b he, mul_zero, zero_mul]
  · obtain ⟨h1, h2, h3⟩ := hsome f he
    rw [entV_of_edge val cx a b f he]
    by_cases hb : b = k
    · obtain ⟨g, hg, hr⟩ := h1 hb
      have ha : a ≠ k := by
        rintro rfl
        rw [hb, edge?_self ops cx hwf] at he
        cases he
      rw [if_pos hb, if_neg ha, mul_one, entV_of_kept val ops hops.zero cx' a b g hr, hops.tgt _ _ _ hg]
    · rw [if_neg hb, one_mul]
      by_cases ha : a = k
      · obtain ⟨g, hg, hr⟩ := h2 hb ha
        rw [if_pos ha, entV_of_kept val ops hops.zero cx' a b g hr, hops.src _ _ _ hg]
      · rw [if_neg ha, mul_one]
        exact entV_of_edge val cx' a b f (h3 hb ha)

theorem dlPi_eq (k x : TKey) (u : Bool) (hx : x ≠ k) :
    swapFn k (k.push .X) (if u = true then backFn (k.push .X) (k.push .I) x else x) = dlPi k u x := by
  unfold swapFn backFn dlPi
  cases u
  · simp only [Bool.false_eq_true, if_false, false_and, or_false, if_neg hx]
  · simp only [if_true, true_and]
    by_cases h1 : x = k.push .I
    · simp [h1, push_ne]
    · simp [h1, hx]

theorem deloop_entV (val : E → A) (ops : EdgeOps E) (cx cx' : Cx E) (k : TKey) (r : Nat) (upd : List TKey) (t : Tng) (c : Path)
    (cap cup : Dot → A) (hwf : WF ops cx) (ht : cx.tng? k = some t) (hc : t[r]? = some c)
    (hops : ValDeloopOps ops val c cap cup) (h : cx.deloop ops k r = .ok (upd, cx')) (a b : TKey) :
    entV val cx' a b =
      if a = k ∨ b = k then 0
      else dlL cap k (!cx.containsBase c) b * entV val cx (dlPi k (!cx.containsBase c) a) (dlPi k (!cx.containsBase c) b)
            * dlR cup k (!cx.containsBase c) a := by
  obtain ⟨t0, c0, ht0, hc0, _, _, c1, h1, hb, hu⟩ := deloop_factors ops cx cx' k r upd h
  rw [ht] at ht0; cases ht0
  rw [hc] at hc0; cases hc0
  have hXI := pushX_ne_pushI k
  have w1 := wf_renameKey ops cx c1 _ _ hwf (weight_push k .X) h1
  obtain ⟨_, _, hXS, _⟩ := renameKey_ok cx c1 k (k.push .X) h1
  have t1 : c1.tng? (k.push .X) = some t := by rw [renameKey_tng? cx c1 k _ h1, ht]
  -- the entries of `cx'` in terms of those of `cx`: `l b · d(p a → p b) · r a`
  have key : ∃ (l r : TKey → A) (p : TKey → TKey),
      (∀ a b, entV val cx' a b = l b * entV val cx (p a) (p b) * r a) ∧ p k = k.push .X ∧
      ∀ x, x ≠ k → l x = dlL cap k (!cx.containsBase c) x ∧ p x = dlPi k (!cx.containsBase c) x ∧
        r x = dlR cup k (!cx.containsBase c) x := by
    by_cases hbase : cx.containsBase c = true
    · refine ⟨fun b => if b = k.push .X then cap .none else 1, fun a => if a = k.push .X then cup .X else 1,
        swapFn k (k.push .X), ?_, ?_, ?_⟩
      · intro a b
        rw [deloopWith_entV val ops c1 cx' (k.push .X) r _ _ t c cap cup w1 t1 hc hops (hb hbase) a b,
          entV_congr val cx c1 _ _ a b (renameKey_edge? ops cx c1 k _ hwf h1 a b)]
        rfl
      · rw [swapFn, if_pos rfl]
      · intro x hx
        have := dlPi_eq k x false hx
        simp only [Bool.false_eq_true, if_false] at this
        rw [hbase]
        exact ⟨by simp [dlL], this, by simp [dlR]⟩
    · have hbase' : cx.containsBase c = false := by simpa using hbase
      obtain ⟨c2, c3, h2, h3, h4⟩ := hu hbase'
      have w2 := wf_duplicateKey ops c1 c2 _ _ w1 (by rfl) h2
      have w3 := wf_deloopWith ops c2 c3 _ _ _ _ w2 h3
      obtain ⟨t2X, t2I⟩ := duplicateKey_tng? c1 c2 _ _ t t1 h2
      have t3I : c3.tng? (k.push .I) = some t := by
        rw [deloopWith_tng? ops c2 c3 _ _ r _ _ (Ne.symm hXI) h3, t2I]
      refine ⟨fun b => (if b = k.push .I then cap .Y else 1) * (if b = k.push .X then cap .none else 1),
        fun a => (if a = k.push .X then cup .X else 1) * (if a = k.push .I then cup .none else 1),
        fun x => swapFn k (k.push .X) (backFn (k.push .X) (k.push .I) x), ?_, ?_, ?_⟩
      · intro a b
        rw [deloopWith_entV val ops c3 cx' (k.push .I) r _ _ t c cap cup w3 t3I hc hops h4 a b,
          deloopWith_entV val ops c2 c3 (k.push .X) r _ _ t c cap cup w2 t2X hc hops h3 a b,
          entV_congr val c1 c2 _ _ a b (duplicateKey_edge? ops c1 c2 _ _ w1 h2 a b),
          entV_congr val cx c1 _ _ _ _ (renameKey_edge? ops cx c1 k _ hwf h1 _ _)]
        simp only [mul_assoc]
        rfl
      · show swapFn k (k.push .X) (backFn (k.push .X) (k.push .I) k) = k.push .X
        rw [backFn, if_neg (push_ne k .I).symm, swapFn, if_pos rfl]
      · intro x hx
        have := dlPi_eq k x true hx
        simp only [if_true] at this
        rw [hbase']
        refine ⟨?_, this, ?_⟩
        · unfold dlL
          by_cases h1 : x = k.push .X <;> by_cases h2 : x = k.push .I <;> simp [h1, h2, hXI, hXI.symm]
        · unfold dlR
          by_cases h1 : x = k.push .X <;> by_cases h2 : x = k.push .I <;> simp [h1, h2, hXI, hXI.symm]
  obtain ⟨l, r', p, hent, hpk, hlpr⟩ := key
  have hX0 : ∀ x y, x = k.push .X ∨ y = k.push .X → entV val cx x y = 0 := by
    rintro x y (rfl | rfl)
    · exact entV_zero_of_not_key val ops cx hwf _ _ (.inl hXS)
    · exact entV_zero_of_not_key val ops cx hwf _ _ (.inr hXS)
  rw [hent a b]
  by_cases hk : a = k ∨ b = k
  · rw [if_pos hk, hX0 (p a) (p b) (hk.imp (fun e => by rw [e, hpk]) (fun e => by rw [e, hpk])), mul_zero, zero_mul]
  · rw [if_neg hk, (hlpr b (fun e => hk (.inr e))).1, (hlpr a (fun e => hk (.inl e))).2.1,
      (hlpr b (fun e => hk (.inr e))).2.1, (hlpr a (fun e => hk (.inl e))).2.2]

theorem deloop_ddV (val : E → A) (ops : EdgeOps E) (cx cx' : Cx E) (k : TKey) (r : Nat) (upd : List TKey) (t : Tng) (c : Path)
    (cap cup : Dot → A) (hwf : WF ops cx) (ht : cx.tng? k = some t) (hc : t[r]? = some c)
    (hops : ValDeloopOps ops val c cap cup)
    (hiso : if cx.containsBase c = true then
              ∀ x y, entV val cx k y * (cup .X * cap .none) * entV val cx x k = entV val cx k y * entV val cx x k
            else ∀ x y, entV val cx k y * (cup .X * cap .none + cup .none * cap .Y) * entV val cx x k
              = entV val cx k y * entV val cx x k)
    (hdd : DDV val cx) (h : cx.deloop ops k r = .ok (upd, cx')) : DDV val cx' := by
  have hent := deloop_entV val ops cx cx' k r upd t c cap cup hwf ht hc hops h
  have hS := deloop_vertex_set ops cx cx' k r upd t c ht hc h
  obtain ⟨hkS, hXS, hIS, _, _, _⟩ := deloop_verts ops cx cx' k r upd t c ht hc h
  have hkX := push_ne k .X
  have hkI := push_ne k .I
  have hXI := pushX_ne_pushI k
  intro j m
  unfold ddAtV
  by_cases hjm : j = k ∨ m = k
  · apply Finset.sum_eq_zero
    intro l _
    rcases hjm with hj | hm
    · rw [hent j l, if_pos (.inl hj), mul_zero]
    · rw [hent l m, if_pos (.inr hm), zero_mul]
  have hj : j ≠ k := fun e => hjm (.inl e)
  have hm : m ≠ k := fun e => hjm (.inr e)
  generalize hu_def : (!cx.containsBase c) = u at hent
  have hlk : ∀ l ∈ (cx'.verts.map (·.1)).toFinset, l ≠ k := by
    intro l hl
    rw [hS] at hl
    split at hl
    · simp only [Finset.mem_insert, Finset.mem_erase] at hl
      rcases hl with rfl | ⟨h', _⟩
      · exact hkX
      · exact h'
    · simp only [Finset.mem_insert, Finset.mem_erase] at hl
      rcases hl with rfl | rfl | ⟨h', _⟩
      · exact hkI
      · exact hkX
      · exact h'
  have hterm : ∀ l ∈ (cx'.verts.map (·.1)).toFinset, entV val cx' l m * entV val cx' j l =
      dlL cap k u m * (entV val cx (dlPi k u l) (dlPi k u m) * (dlR cup k u l * dlL cap k u l) * entV val cx (dlPi k u j) (dlPi k u l))
        * dlR cup k u j := by
    intro l hl
    rw [hent l m, hent j l, if_neg (not_or.2 ⟨hlk l hl, hm⟩), if_neg (not_or.2 ⟨hj, hlk l hl⟩)]
    simp only [mul_assoc]
  rw [Finset.sum_congr rfl hterm, ← Finset.sum_mul, ← Finset.mul_sum]
  -- the middle sum is the old `d ∘ d` at the old vertices `y`, `x` that `m`, `j` stand for
  generalize dlPi k u m = y
  generalize dlPi k u j = x
  have hmid : ∑ l ∈ (cx'.verts.map (·.1)).toFinset,
      entV val cx (dlPi k u l) y * (dlR cup k u l * dlL cap k u l) * entV val cx x (dlPi k u l)
      = ddAtV val cx x y := by
    unfold ddAtV
    rw [← Finset.add_sum_erase _ _ (List.mem_toFinset.2 hkS)]
    have hX_not : k.push .X ∉ (cx.verts.map (·.1)).toFinset.erase k :=
      fun hm' => hXS (List.mem_toFinset.1 (Finset.mem_of_mem_erase hm'))
    -- on the old vertices other than `k` nothing changes
    have hrest : ∀ l ∈ (cx.verts.map (·.1)).toFinset.erase k,
        entV val cx (dlPi k u l) y * (dlR cup k u l * dlL cap k u l) * entV val cx x (dlPi k u l)
          = entV val cx l y * entV val cx x l := by
      intro l hl
      have hlS : l ∈ cx.verts.map (·.1) := List.mem_toFinset.1 (Finset.mem_of_mem_erase hl)
      obtain ⟨e1, e2, e3⟩ := dl_other cap cup k u l (fun e => hXS (e ▸ hlS))
        (fun e => hIS (by rw [← hu_def] at e; simpa using e.1) (e.2 ▸ hlS))
      rw [e1, e2, e3, mul_one, mul_one]
    rw [hS]
    by_cases hbase : cx.containsBase c = true
    · rw [if_pos hbase] at hiso ⊢
      rw [Finset.sum_insert hX_not, Finset.sum_congr rfl hrest, dlPi_X, dlL_X, dlR_X, hiso]
    · rw [if_neg hbase] at hiso ⊢
      have hu' : u = true := by rw [← hu_def, Bool.eq_false_iff.2 hbase]; rfl
      have hI_not : k.push .I ∉ insert (k.push .X) ((cx.verts.map (·.1)).toFinset.erase k) := by
        intro hm'
        rcases Finset.mem_insert.1 hm' with e | e
        · exact hXI e.symm
        · exact hIS (Bool.eq_false_iff.2 hbase) (List.mem_toFinset.1 (Finset.mem_of_mem_erase e))
      rw [Finset.sum_insert hI_not, Finset.sum_insert hX_not, Finset.sum_congr rfl hrest, hu', dlPi_X, dlL_X, dlR_X,
        dlPi_I, dlL_I, dlR_I, ← add_assoc, ← add_mul, ← mul_add, add_comm (cup .none * cap .Y), hiso]
  rw [hmid, hdd, mul_zero, zero_mul]

end values

theorem ite_containsBase_of_base {P Q : Prop} (cx : Cx E) (base : Option Nat) (c : Path) :
    cx.base = base → (if (match base with | some e => c.contains e | none => false) = true then P else Q) →
    if cx.containsBase c = true then P else Q := by
  rintro rfl hi
  exact hi

section ring
variable [Ring E]

/-- a decomposition of the identity of `E` is in particular one between the labels into and out of `k` -/
theorem deloop_iso_local (cx : Cx E) (k : TKey) (c : Path) (cap cup : Dot → E)
    (hiso : if cx.containsBase c = true then cup .X * cap .none = 1
            else cup .X * cap .none + cup .none * cap .Y = 1) :
    if cx.containsBase c = true then
      ∀ x y, entV id cx k y * (cup .X * cap .none) * entV id cx x k = entV id cx k y * entV id cx x k
    else ∀ x y, entV id cx k y * (cup .X * cap .none + cup .none * cap .Y) * entV id cx x k
      = entV id cx k y * entV id cx x k := by
  by_cases hb : cx.containsBase c = true
  · rw [if_pos hb] at hiso ⊢
    intro x y
    rw [hiso, mul_one]
  · rw [if_neg hb] at hiso ⊢
    intro x y
    rw [hiso, mul_one]

theorem RingDeloopOps.toVal {ops : EdgeOps E} {c : Path} {cap cup : Dot → E} (hops : RingDeloopOps ops c cap cup) :
    ValDeloopOps ops id c cap cup where
  tgt d f g h := by rw [hops.tgt] at h; cases h; rfl
  src d f g h := by rw [hops.src] at h; cases h; rfl
  zero := hops.zero

/-- a toy algebra over ℤ in which delooping is lawful: cap(none) = cup(X) = 1, cap(Y) = cup(none) = 0
(`1·1 + 0·0 = 1`; the `1` copy is a zero summand — degenerate but it satisfies the hypotheses) -/
def toyDlOps : EdgeOps Int :=
  { toyOps with
    capOff := fun b _ d f =>
      match b, d with
      | .tgt, .Y => .ok 0
      | .src, .none => .ok 0
      | _, _ => .ok f }

/-- a vertex `k` carrying a circle, with one edge `u → k : 3` into it and none out of it (a zero label cannot be
stored, so there is no second edge that would have to compose to zero) -/
def toyLoop : Cx Int :=
  ⟨0, 0, none, 1, [(⟨[false], []⟩, []), (⟨[true], []⟩, [⟨[7], true⟩])],
   [((⟨[false], []⟩, ⟨[true], []⟩), 3)]⟩

end ring

end Yuiv.C05.Engine
