import Yuiv.Model.C18
import Yuiv.Proofs.Res
import Yuiv.Proofs.ListAux
/-
C18 — folds over `Res`, `getD` on lists, the finite tables of `crossing.rs`, the mirror image of a crossing, and the
component relation `Conn` on edge labels.
-/
namespace Yuiv.C18
open Yuiv

instance decForallCType {p : CType → Prop} [DecidablePred p] : Decidable (∀ t, p t) :=
  decidable_of_iff (p .X ∧ p .Xm ∧ p .V ∧ p .H)
    ⟨fun ⟨a, b, c, d⟩ t => by cases t <;> assumption, fun h => ⟨h _, h _, h _, h _⟩⟩

instance decForallSign {p : Sign → Prop} [DecidablePred p] : Decidable (∀ t, p t) :=
  decidable_of_iff (p .pos ∧ p .neg)
    ⟨fun ⟨a, b⟩ t => by cases t <;> assumption, fun h => ⟨h _, h _⟩⟩

def resMap {α β} (f : α → β) : Res α → Res β
  | .ok a => .ok (f a)
  | .panic => .panic
  | .err => .err

theorem bind_resMap {α β γ} (φ : α → β) (x : Res α) (g : β → Res γ) :
    (resMap φ x >>= g) = x >>= fun a => g (φ a) := by
  cases x <;> rfl

theorem resMap_bind {α β γ} (ψ : β → γ) (x : Res α) (g : α → Res β) :
    resMap ψ (x >>= g) = x >>= fun a => resMap ψ (g a) := by
  cases x <;> rfl

theorem foldlM_resMap {σ τ ι : Type} (φ : σ → τ) (f : σ → ι → Res σ) (g : τ → ι → Res τ) (l : List ι)
    (h : ∀ x ∈ l, ∀ s, g (φ s) x = resMap φ (f s x)) (s : σ) :
    l.foldlM g (φ s) = resMap φ (l.foldlM f s) := by
  induction l generalizing s with
  | nil => rfl
  | cons x l ih =>
    rw [List.foldlM_cons, List.foldlM_cons, h x (List.mem_cons_self ..)]
    cases f s x with
    | ok s' => exact ih (fun y hy => h y (List.mem_cons_of_mem _ hy)) s'
    | panic => rfl
    | err => rfl

/-- the prefix `br_` (braid) marks list and table helpers of the analysis of `Braid::closure` (`C18Closure`,
`C18InvBraid*`, `C04Closure`, `C06ClosureStrand`) -/
theorem br_getD_app_left {α} (u v : List α) (i : Nat) (d : α) (h : i < u.length) :
    (u ++ v).getD i d = u.getD i d := by
  simp only [List.getD_eq_getElem?_getD, List.getElem?_append_left h]

theorem br_getD_app_right {α} (u v : List α) (i : Nat) (d : α) (h : u.length ≤ i) :
    (u ++ v).getD i d = v.getD (i - u.length) d := by
  simp only [List.getD_eq_getElem?_getD, List.getElem?_append_right h]

theorem pass_lt' : ∀ t : CType, ∀ j, j < 4 → t.pass j < 4 := by decide
theorem pass_pass' : ∀ t : CType, ∀ j, j < 4 → t.pass (t.pass j) = j := by decide
theorem pass_ne' : ∀ t : CType, ∀ j, j < 4 → t.pass j ≠ j := by decide
theorem flip_flip (s : Sign) : s.flip.flip = s := by cases s <;> rfl

theorem pass_mirror_all (t : CType) (j : Nat) : t.mirror.pass j = t.pass j := by
  cases t <;> rfl

theorem pass_mirror' : ∀ t : CType, ∀ j, j < 4 → t.mirror.pass j = t.pass j :=
  fun t j _ => pass_mirror_all t j

theorem signAt_mirror_all (t : CType) (j : Nat) : signAt t.mirror j = (signAt t j).map Sign.flip := by
  rcases j with _ | _ | _ | _ | _ <;> cases t <;> rfl

theorem Crossing.mirror_mirror (c : Crossing) : c.mirror.mirror = c := by
  cases c with
  | mk t a b c d => cases t <;> rfl

theorem isResolved_mirror (c : Crossing) : c.mirror.isResolved = c.isResolved := by
  cases c with
  | mk t a b c d => cases t <;> rfl

theorem filterMap_id_map {α β} (g : α → β) (xs : List (Option α)) :
    (xs.map (Option.map g)).filterMap id = (xs.filterMap id).map g := by
  rw [List.filterMap_map, List.map_filterMap]
  rfl

theorem count_flip (s : List Sign) :
    (s.map Sign.flip).count .pos = s.count .neg ∧ (s.map Sign.flip).count .neg = s.count .pos := by
  induction s with
  | nil => exact ⟨rfl, rfl⟩
  | cons a as ih =>
    cases a <;> simp [Sign.flip, ih.1, ih.2]

theorem resolve_mirror' : ∀ t : CType, ∀ b : Bool, t.mirror.resolve (!b) = t.resolve b := by decide

/-- two labels lie on the same component: the equivalence generated by "the two labels of a strand through a
crossing" (reflexive–transitive closure of `joined`, which is symmetric: `Conn.symm`) -/
inductive Conn (l : Link) : Nat → Nat → Prop
  | refl (a : Nat) : Conn l a a
  | tail {a b c : Nat} : Conn l a b → joined l b c = true → Conn l a c

theorem Conn.trans {l : Link} {a b c : Nat} (h1 : Conn l a b) (h2 : Conn l b c) : Conn l a c := by
  induction h2 with
  | refl => exact h1
  | tail _ hj ih => exact Conn.tail ih hj

theorem Conn.single {l : Link} {a b : Nat} (h : joined l a b = true) : Conn l a b :=
  Conn.tail (Conn.refl a) h

theorem joined_iff (l : Link) (e e' : Nat) :
    joined l e e' = true ↔ ∃ c ∈ l, ∃ j, j < 4 ∧ c.edge j = e ∧ c.edge (c.ctype.pass j) = e' := by
  unfold joined
  simp only [List.any_eq_true, List.mem_range, Bool.and_eq_true, beq_iff_eq]

theorem joined_symm (l : Link) (a b : Nat) (h : joined l a b = true) : joined l b a = true := by
  rw [joined_iff] at h ⊢
  obtain ⟨c, hc, j, hj, h1, h2⟩ := h
  exact ⟨c, hc, c.ctype.pass j, pass_lt' _ _ hj, h2, by rw [pass_pass' _ _ hj]; exact h1⟩

theorem Conn.symm {l : Link} {a b : Nat} (h : Conn l a b) : Conn l b a := by
  induction h with
  | refl => exact Conn.refl _
  | tail _ hj ih => exact (Conn.single (joined_symm l _ _ hj)).trans ih

end Yuiv.C18
