/-
Facts about `List` and `Array` that several properties need and core Lean does not state in this form.  Core Lean only.
-/
namespace Yuiv.ListAux

theorem getD_of_lt {α} {l : List α} {i : Nat} {d : α} (h : i < l.length) : l.getD i d = l[i] :=
  (List.getElem_eq_getD d).symm

theorem getD_oob {α} (a : Array α) (i : Nat) (d : α) (h : a.size ≤ i) : a.getD i d = d := by
  rw [Array.getD_eq_getD_getElem?, Array.getElem?_eq_none h, Option.getD_none]

theorem filterMap_ite {α β : Type} (p : α → Bool) (f : α → β) (l : List α) :
    l.filterMap (fun a => if p a then some (f a) else none) = (l.filter p).map f := by
  rw [← List.filterMap_eq_map', List.filterMap_filter]

theorem foldl_inv {α β : Type} (I : β → Prop) {f : β → α → β} {l : List α} {b : β} (hb : I b)
    (hf : ∀ b a, a ∈ l → I b → I (f b a)) : I (l.foldl f b) := by
  induction l generalizing b with
  | nil => exact hb
  | cons a l ih =>
    exact ih (hf b a (List.mem_cons_self ..) hb) (fun b a' ha' => hf b a' (List.mem_cons_of_mem _ ha'))

theorem append_filter_perm_range (n : Nat) (idx : List Nat) (hnd : idx.Nodup) (hlt : ∀ i ∈ idx, i < n) :
    (idx ++ (List.range n).filter fun i => !idx.contains i).Perm (List.range n) := by
  have h1 : idx.Perm ((List.range n).filter fun i => idx.contains i) := by
    rw [List.perm_ext_iff_of_nodup hnd (List.nodup_range.filter _)]
    intro a
    simp only [List.mem_filter, List.mem_range, List.contains_iff_mem]
    exact ⟨fun h => ⟨hlt a h, h⟩, fun h => h.2⟩
  exact (List.Perm.append_right _ h1).trans (List.filter_append_perm _ _)

/-- `((List.range K).find? p).getD K` is the least `i < K` with `p i`, and `K` if there is none -/
theorem find_range_spec (p : Nat → Bool) (K : Nat) :
    ((List.range K).find? p).getD K ≤ K ∧ (∀ i, i < ((List.range K).find? p).getD K → p i = false) ∧
      (((List.range K).find? p).getD K < K → p (((List.range K).find? p).getD K) = true) := by
  cases h : (List.range K).find? p with
  | none =>
    rw [List.find?_range_eq_none] at h
    exact ⟨Nat.le_refl K, fun i hi => by simpa using h i hi, fun hlt => absurd hlt (Nat.lt_irrefl K)⟩
  | some l =>
    rw [List.find?_range_eq_some] at h
    exact ⟨Nat.le_of_lt (List.mem_range.mp h.2.1), fun i hi => by simpa using h.2.2 i hi, fun _ => h.1⟩

end Yuiv.ListAux
