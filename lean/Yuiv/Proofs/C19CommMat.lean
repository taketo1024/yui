import Yuiv.Proofs.C19CommCone
/-
C19Comm — the matrices of `d` and `τ` over a commutative ring of characteristic 2 with respect to a duplicate-free list
of generators closed under `d` and `τ`, so that `Props/C19.cone_d_sq` applies: `τ·d = d·τ` and `d·d = 0` as matrices.
-/
namespace Yuiv.C19Comm
open Yuiv.KhRef Yuiv.C19

variable {R : Type} [CommRing R]

/-- matrix of the differential over 𝔽₂ (column `j` = `d` of the `j`-th generator) -/
def dMat (R : Type) [CommRing R] (c : Cube) (p : Params) (gens : List Gen) :
    Matrix (Fin gens.length) (Fin gens.length) R :=
  fun i j => (((dK c p (gens.get j)).count (gens.get i) : Nat) : R)

/-- matrix of τ (column `j` = `τ` of the `j`-th generator) -/
def tauMat (R : Type) [CommRing R] (ic : ICube) (gens : List Gen) : Matrix (Fin gens.length) (Fin gens.length) R :=
  fun i j => ((([ic.tau (gens.get j)] : List Gen).count (gens.get i) : Nat) : R)

theorem sum_count_fin {α : Type} [BEq α] [LawfulBEq α] {n : Nat} (t : Fin n → α) (ht : Function.Injective t)
    (L : List α) (hL : ∀ y ∈ L, ∃ k, t k = y) (w : α → R) :
    ∑ k, ((L.count (t k) : Nat) : R) * w (t k) = (L.map w).sum := by
  induction L with
  | nil => simp only [List.count_nil, Nat.cast_zero, zero_mul, Finset.sum_const_zero, List.map_nil, List.sum_nil]
  | cons a L ih =>
    obtain ⟨k0, rfl⟩ := hL _ List.mem_cons_self
    simp only [List.count_cons, Nat.cast_add, add_mul, Finset.sum_add_distrib,
      ih (fun y hy => hL y (List.mem_cons_of_mem _ hy)), List.map_cons, List.sum_cons]
    rw [add_comm]
    congr 1
    rw [Finset.sum_eq_single k0]
    · rw [if_pos (beq_self_eq_true _), Nat.cast_one, one_mul]
    · intro b _ hb
      rw [if_neg (fun e => hb (ht (eq_of_beq e)).symm), Nat.cast_zero, zero_mul]
    · intro h
      exact absurd (Finset.mem_univ _) h

theorem sum_count (gens : List Gen) (hnd : gens.Nodup) (L : List Gen) (hL : ∀ y ∈ L, y ∈ gens) (w : Gen → R) :
    ∑ k : Fin gens.length, ((L.count (gens.get k) : Nat) : R) * w (gens.get k) = (L.map w).sum :=
  sum_count_fin gens.get (List.nodup_iff_injective_get.1 hnd) L (fun y hy => List.mem_iff_get.1 (hL y hy)) w

theorem sum_count_map (z : Gen) (f : Gen → Gen) (L : List Gen) :
    (L.map (fun y => ((([f y] : List Gen).count z : Nat) : R))).sum = (((L.map f).count z : Nat) : R) := by
  induction L with
  | nil => simp
  | cons a L ih =>
    rw [List.map_cons, List.sum_cons, ih, List.map_cons, List.count_singleton, List.count_cons, Nat.cast_add, add_comm]

theorem sum_count_flatMap {α : Type} [BEq α] (z : α) (f : α → List α) (L : List α) :
    (L.map (fun y => (((f y).count z : Nat) : R))).sum = (((L.flatMap f).count z : Nat) : R) := by
  rw [List.count_flatMap, Nat.cast_list_sum, List.map_map]
  rfl

theorem tauMat_mul_dMat (ic : ICube) (p : Params) (gens : List Gen) (hnd : gens.Nodup)
    (hd : ∀ g ∈ gens, ∀ y ∈ dK ic.cube p g, y ∈ gens) (i j : Fin gens.length) :
    (tauMat R ic gens * dMat R ic.cube p gens) i j =
      ((((dK ic.cube p (gens.get j)).map ic.tau).count (gens.get i) : Nat) : R) := by
  rw [Matrix.mul_apply]
  have := sum_count (R := R) gens hnd (dK ic.cube p (gens.get j)) (hd _ (List.get_mem _ _))
    (fun y => ((([ic.tau y] : List Gen).count (gens.get i) : Nat) : R))
  rw [sum_count_map] at this
  rw [← this]
  apply Finset.sum_congr rfl
  intro k _
  unfold tauMat dMat
  exact mul_comm _ _

theorem dMat_mul_tauMat (ic : ICube) (p : Params) (gens : List Gen) (hnd : gens.Nodup)
    (ht : ∀ g ∈ gens, ic.tau g ∈ gens) (i j : Fin gens.length) :
    (dMat R ic.cube p gens * tauMat R ic gens) i j =
      (((dK ic.cube p (ic.tau (gens.get j))).count (gens.get i) : Nat) : R) := by
  rw [Matrix.mul_apply]
  have := sum_count (R := R) gens hnd [ic.tau (gens.get j)]
    (by intro y hy; rw [List.mem_singleton.1 hy]; exact ht _ (List.get_mem _ _))
    (fun y => (((dK ic.cube p y).count (gens.get i) : Nat) : R))
  simp only [List.map_cons, List.map_nil, List.sum_cons, List.sum_nil, add_zero] at this
  rw [← this]
  apply Finset.sum_congr rfl
  intro k _
  unfold tauMat dMat
  exact mul_comm _ _

theorem dMat_mul_dMat (c : Cube) (p : Params) (gens : List Gen) (hnd : gens.Nodup)
    (hd : ∀ g ∈ gens, ∀ y ∈ dK c p g, y ∈ gens) (i j : Fin gens.length) :
    (dMat R c p gens * dMat R c p gens) i j =
      ((((dK c p (gens.get j)).flatMap (dK c p)).count (gens.get i) : Nat) : R) := by
  rw [Matrix.mul_apply]
  have := sum_count (R := R) gens hnd (dK c p (gens.get j)) (hd _ (List.get_mem _ _))
    (fun y => (((dK c p y).count (gens.get i) : Nat) : R))
  rw [sum_count_flatMap] at this
  rw [← this]
  apply Finset.sum_congr rfl
  intro k _
  unfold dMat
  exact mul_comm _ _

end Yuiv.C19Comm
