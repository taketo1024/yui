import Yuiv.Proofs.C04ReidUF
/-
C04Reid / C04Markov (helper, no property theorem here): local pieces of a diagram on formal symbols.
A piece is a list `ts` of crossings `X[ρ t]` whose formal symbols are labelled by `ρ : ℕ → ℕ`; the symbols inside the piece get
labels that occur nowhere else.  Every smoothing of the piece is a pairing of its boundary symbols and some circles: a finite
fact, checked on the NUMERALS (`okPiece`, against a table of claims `Cert`) and carried to the class counts of any diagram that
contains the piece.  `local_expand`: the state sum of such a diagram is the sum over the smoothings of
`x^weight · y^circles ·` (state sum of the rest closed by the pairing).
-/
open Yuiv.KhRef Yuiv.C04
namespace Yuiv.C04Inv

def reachStep (A : List (Nat × Nat)) (cur : List Nat) : List Nat :=
  cur ++ A.filterMap (fun p => if cur.contains p.1 then some p.2 else if cur.contains p.2 then some p.1 else none)

def reach (A : List (Nat × Nat)) : Nat → List Nat → List Nat
  | 0, cur => cur
  | k + 1, cur => reach A k (reachStep A cur)

/-- Boolean test that `u`, `v` are joined by the pairs `A` (sound: `connB_sound`) -/
def connB (A : List (Nat × Nat)) (u v : Nat) : Bool := (reach A A.length [u]).contains v

theorem reachStep_sound (A : List (Nat × Nat)) (cur : List Nat) (w : Nat) (hw : w ∈ reachStep A cur) :
    ∃ u ∈ cur, Conn A u w := by
  unfold reachStep at hw
  rcases List.mem_append.1 hw with h | h
  · exact ⟨w, h, Conn.refl _⟩
  · rw [List.mem_filterMap] at h
    obtain ⟨p, hp, hq⟩ := h
    split at hq
    · rename_i h1
      cases hq
      exact ⟨p.1, by simpa using h1, Conn.of_mem hp⟩
    · split at hq
      · rename_i h2
        cases hq
        exact ⟨p.2, by simpa using h2, Conn.of_mem_symm hp⟩
      · cases hq

theorem reach_sound (A : List (Nat × Nat)) (k : Nat) (cur : List Nat) (w : Nat) (hw : w ∈ reach A k cur) :
    ∃ u ∈ cur, Conn A u w := by
  induction k generalizing cur with
  | zero => exact ⟨w, hw, Conn.refl _⟩
  | succ k ih =>
    obtain ⟨u, hu, c⟩ := ih _ hw
    obtain ⟨u0, hu0, c0⟩ := reachStep_sound A cur u hu
    exact ⟨u0, hu0, c0.trans c⟩

theorem connB_sound {A : List (Nat × Nat)} {u v : Nat} (h : connB A u v = true) : Conn A u v := by
  unfold connB at h
  obtain ⟨u0, hu0, c⟩ := reach_sound A _ _ v (by simpa using h)
  simp only [List.mem_cons, List.mem_nil_iff, or_false] at hu0
  subst hu0
  exact c

/-- the collapse map induced on actual labels by a map `g0` of formal symbols: the labels `ρ v`, `v ∈ inn0`, go to
`ρ (g0 v)`, everything else stays -/
def liftG (ρ : Nat → Nat) (inn0 : List Nat) (g0 : Nat → Nat) (z : Nat) : Nat :=
  match inn0.find? (fun v => ρ v == z) with
  | some v => ρ (g0 v)
  | none => z

theorem liftG_rho (ρ : Nat → Nat) (inn0 all0 : List Nat) (g0 : Nat → Nat)
    (hinj : ∀ u ∈ all0, ∀ v ∈ inn0, ρ u = ρ v → u = v) (hfix : ∀ u ∈ all0, u ∉ inn0 → g0 u = u)
    (u : Nat) (hu : u ∈ all0) : liftG ρ inn0 g0 (ρ u) = ρ (g0 u) := by
  unfold liftG
  cases hf : inn0.find? (fun v => ρ v == ρ u) with
  | some v =>
    have h1 := List.find?_some hf
    have h2 := List.mem_of_find?_eq_some hf
    simp only [beq_iff_eq] at h1
    rw [hinj u hu v h2 h1.symm]
  | none =>
    rw [List.find?_eq_none] at hf
    have : u ∉ inn0 := fun h => by have := hf u h; simp at this
    simp only
    rw [hfix u hu this]

theorem liftG_other (ρ : Nat → Nat) (inn0 : List Nat) (g0 : Nat → Nat) (z : Nat) (hz : ∀ v ∈ inn0, ρ v ≠ z) :
    liftG ρ inn0 g0 z = z := by
  unfold liftG
  have : inn0.find? (fun v => ρ v == z) = none := by
    rw [List.find?_eq_none]; intro v hv; simpa using hz v hv
  rw [this]

/-- `g0` collapses the inner symbols `inn0` into the targets `tgt0`; the three connectivity checks are on the NUMERALS, the
conclusion is about every diagram `lm` in which the labels `ρ v` of the inner symbols do not occur -/
theorem count_transfer (ρ : Nat → Nat) (A0 B0 : List (Nat × Nat)) (g0 : Nat → Nat) (inn0 tgt0 all0 : List Nat)
    (lm : Link) (hwf : WF lm)
    (hinj : ∀ u ∈ all0, ∀ v ∈ inn0, ρ u = ρ v → u = v)
    (hfresh : ∀ v ∈ inn0, ρ v ∉ labelSet lm)
    (hfix : ∀ u ∈ all0, u ∉ inn0 → g0 u = u)
    (htgt_fix : ∀ u ∈ tgt0, g0 u = u)
    (hall : ∀ u ∈ all0, g0 u ∈ tgt0)
    (htgt_sub : ∀ u ∈ tgt0, u ∈ all0)
    (hA0 : ∀ p ∈ A0, p.1 ∈ all0 ∧ p.2 ∈ all0)
    (chkA : ∀ p ∈ A0, connB B0 (g0 p.1) (g0 p.2) = true)
    (chkB : ∀ p ∈ B0, connB A0 p.1 p.2 = true)
    (chk3 : ∀ u ∈ all0, connB A0 u (g0 u) = true) (s : Nat) :
    classCount ({z | z ∈ all0.map ρ} ∪ labelSet lm) (A0.map (pmap ρ) ++ statePairs lm s)
      = classCount ({z | z ∈ tgt0.map ρ} ∪ labelSet lm) (B0.map (pmap ρ) ++ statePairs lm s) := by
  have hG := liftG_rho ρ inn0 all0 g0 hinj hfix
  have hGlm : ∀ z ∈ labelSet lm, liftG ρ inn0 g0 z = z := by
    intro z hz
    exact liftG_other ρ inn0 g0 z (fun v hv h => hfresh v hv (h ▸ hz))
  refine classCount_collapse_append (liftG ρ inn0 g0) ?_ ?_ ?_ ?_ ?_
  · intro p hp
    obtain ⟨m1, m2⟩ := statePairs_sub lm hwf s p hp
    exact ⟨hGlm _ m1, hGlm _ m2⟩
  · intro p hp
    obtain ⟨p0, hp0, rfl⟩ := List.mem_map.1 hp
    simp only [pmap]
    rw [hG _ (hA0 p0 hp0).1, hG _ (hA0 p0 hp0).2]
    exact (connB_sound (chkA p0 hp0)).map ρ
  · intro p hp
    obtain ⟨p0, hp0, rfl⟩ := List.mem_map.1 hp
    exact (connB_sound (chkB p0 hp0)).map ρ
  · intro z hz
    rcases hz with hz | hz
    · obtain ⟨u, hu, rfl⟩ := List.mem_map.1 hz
      rw [hG u hu]
      exact (connB_sound (chk3 u hu)).map ρ
    · rw [hGlm z hz]; exact Conn.refl _
  · ext z; constructor
    · rintro ⟨w, hw, rfl⟩
      rcases hw with hw | hw
      · obtain ⟨u, hu, rfl⟩ := List.mem_map.1 hw
        rw [hG u hu]
        exact Or.inl (List.mem_map.2 ⟨g0 u, hall u hu, rfl⟩)
      · rw [hGlm w hw]; exact Or.inr hw
    · rintro (hz | hz)
      · obtain ⟨u, hu, rfl⟩ := List.mem_map.1 hz
        refine ⟨ρ u, Or.inl (List.mem_map.2 ⟨u, htgt_sub u hu, rfl⟩), ?_⟩
        rw [hG u (htgt_sub u hu), htgt_fix u hu]
      · exact ⟨z, Or.inr hz, hGlm z hz⟩

theorem count_isolated (ρ : Nat → Nat) (B0 : List (Nat × Nat)) (k : Nat) (tgt0 : List Nat) (lm : Link) (hwf : WF lm)
    (hk : ρ k ∉ labelSet lm) (hkt : ∀ u ∈ tgt0, ρ u ≠ ρ k) (hB : ∀ p ∈ B0, p.1 ∈ tgt0 ∧ p.2 ∈ tgt0) (s : Nat) :
    classCount ({z | z ∈ (k :: tgt0).map ρ} ∪ labelSet lm) (B0.map (pmap ρ) ++ statePairs lm s)
      = classCount ({z | z ∈ tgt0.map ρ} ∪ labelSet lm) (B0.map (pmap ρ) ++ statePairs lm s) + 1 := by
  have hset : ({z | z ∈ (k :: tgt0).map ρ} ∪ labelSet lm : Set Nat) = insert (ρ k) ({z | z ∈ tgt0.map ρ} ∪ labelSet lm) := by
    ext z; simp only [List.map_cons, List.mem_cons, Set.mem_union, Set.mem_ofPred_eq, Set.mem_insert_iff]; grind
  rw [hset]
  apply classCount_insert_isolated
  · exact Set.Finite.union (List.finite_toSet _) (labelSet_finite lm)
  · rintro (h | h)
    · obtain ⟨u, hu, e⟩ := List.mem_map.1 h
      exact hkt u hu e
    · exact hk h
  · intro p hp
    rcases List.mem_append.1 hp with hp | hp
    · obtain ⟨p0, hp0, rfl⟩ := List.mem_map.1 hp
      simp only [pmap]
      constructor
      · intro h; exact absurd h (hkt _ (hB p0 hp0).1)
      · intro h; exact absurd h (hkt _ (hB p0 hp0).2)
    · obtain ⟨n1, n2⟩ := statePairs_ne hwf hk s p hp
      constructor
      · intro h; exact absurd h n1
      · intro h; exact absurd h n2

theorem getD_append_inj (front inner : List Nat) (hd : ∀ x ∈ front, x ∉ inner) (hn : inner.Nodup) (u v : Nat)
    (hu : u < front.length + inner.length) (hv : front.length ≤ v) (hv' : v < front.length + inner.length)
    (e : (front ++ inner).getD u 0 = (front ++ inner).getD v 0) : u = v := by
  rw [List.getD_eq_getElem?_getD, List.getD_eq_getElem?_getD, List.getElem?_eq_getElem (by simpa using hu),
    List.getElem?_eq_getElem (by simpa using hv'), Option.getD_some, Option.getD_some,
    List.getElem_append_right hv] at e
  rcases Nat.lt_or_ge u front.length with h | h
  · rw [List.getElem_append_left h] at e
    exact absurd (e ▸ List.getElem_mem _) (hd _ (List.getElem_mem h))
  · rw [List.getElem_append_right h] at e
    have := (hn.getElem_inj_iff).1 e
    omega

/- `all0` : the formal symbols of the piece, `inn0` : those inside it (their labels occur nowhere else), `ends0` : those on
its boundary.  A smoothing `A0` of the piece is compared with a pairing `B0` of the boundary symbols. -/

/-- all decidable side conditions of `count_transfer` -/
def okLocal (all0 inn0 tgt0 ends0 : List Nat) (A0 B0 : List (Nat × Nat)) (g0 : Nat → Nat) : Bool :=
  decide ((∀ u ∈ all0, u ∉ inn0 → g0 u = u) ∧ (∀ u ∈ tgt0, g0 u = u) ∧
    (∀ u ∈ all0, g0 u ∈ tgt0) ∧ (∀ u ∈ tgt0, u ∈ all0) ∧ (∀ p ∈ A0, p.1 ∈ all0 ∧ p.2 ∈ all0) ∧
    (∀ p ∈ A0, connB B0 (g0 p.1) (g0 p.2) = true) ∧ (∀ p ∈ B0, connB A0 p.1 p.2 = true) ∧
    (∀ u ∈ all0, connB A0 u (g0 u) = true) ∧ (∀ p ∈ B0, p.1 ∈ ends0 ∧ p.2 ∈ ends0))

section
variable {all0 inn0 ends0 : List Nat} {A0 B0 : List (Nat × Nat)} {g0 : Nat → Nat} {ρ : Nat → Nat} {lm : Link}

theorem count_loops (loops : List Nat) (hwf : WF lm) (hnd : loops.Nodup)
    (hk : ∀ k ∈ loops, ρ k ∉ labelSet lm) (hne : ∀ k ∈ loops, ∀ u ∈ loops ++ ends0, u ≠ k → ρ u ≠ ρ k)
    (hke : ∀ k ∈ loops, k ∉ ends0) (hB : ∀ p ∈ B0, p.1 ∈ ends0 ∧ p.2 ∈ ends0) (s : Nat) :
    classCount ({z | z ∈ (loops ++ ends0).map ρ} ∪ labelSet lm) (B0.map (pmap ρ) ++ statePairs lm s)
      = classCount ({z | z ∈ ends0.map ρ} ∪ labelSet lm) (B0.map (pmap ρ) ++ statePairs lm s) + loops.length := by
  induction loops with
  | nil => rfl
  | cons k ks ih =>
    have hnd' := List.nodup_cons.1 hnd
    rw [List.cons_append, count_isolated ρ B0 k (ks ++ ends0) lm hwf (hk k List.mem_cons_self)
      (fun u hu => hne k List.mem_cons_self u (List.mem_cons_of_mem _ hu) (by
        rintro rfl
        rcases List.mem_append.1 hu with h | h
        · exact hnd'.1 h
        · exact hke _ List.mem_cons_self h))
      (fun p hp => ⟨List.mem_append_right _ (hB p hp).1, List.mem_append_right _ (hB p hp).2⟩) s,
      ih hnd'.2 (fun k hk' => hk k (List.mem_cons_of_mem _ hk'))
        (fun k hk' u hu => hne k (List.mem_cons_of_mem _ hk') u (List.mem_cons_of_mem _ hu))
        (fun k hk' => hke k (List.mem_cons_of_mem _ hk'))]
    simp only [List.length_cons, Nat.add_assoc]

/-- the smoothing `A0` is the pairing `B0` of the boundary and one circle through each of the inner symbols `loops` -/
theorem local_count {loops : List Nat} (hnd : loops.Nodup) (hl : ∀ k ∈ loops, k ∈ inn0 ∧ k ∉ ends0)
    (h : okLocal all0 inn0 (loops ++ ends0) ends0 A0 B0 g0 = true) (hwf : WF lm)
    (hinj : ∀ u ∈ all0, ∀ v ∈ inn0, ρ u = ρ v → u = v) (hfresh : ∀ v ∈ inn0, ρ v ∉ labelSet lm) (s : Nat) :
    classCount ({z | z ∈ all0.map ρ} ∪ labelSet lm) (A0.map (pmap ρ) ++ statePairs lm s)
      = classCount ({z | z ∈ ends0.map ρ} ∪ labelSet lm) (B0.map (pmap ρ) ++ statePairs lm s) + loops.length := by
  obtain ⟨c1, c2, c3, c4, c5, c6, c7, c8, c9⟩ := of_decide_eq_true h
  rw [count_transfer ρ A0 B0 g0 inn0 (loops ++ ends0) all0 lm hwf hinj hfresh c1 c2 c3 c4 c5 c6 c7 c8 s]
  exact count_loops loops hwf hnd (fun k hk => hfresh k (hl k hk).1)
    (fun k hk u hu hne e => hne (hinj u (c4 u hu) k (hl k hk).1 e)) (fun k hk => (hl k hk).2) c9 s

end

abbrev F4 := Nat × Nat × Nat × Nat

def pdX (x : Nat × Nat × Nat × Nat) : Crossing := ⟨.X, #[x.1, x.2.1, x.2.2.1, x.2.2.2]⟩
def map4 (f : Nat → Nat) (x : Nat × Nat × Nat × Nat) : Nat × Nat × Nat × Nat := (f x.1, f x.2.1, f x.2.2.1, f x.2.2.2)

theorem pdX_ct (t : F4) : (pdX t).ct = .X := rfl

/-- arcs of a formal `X` crossing: `false` = 0-resolution (`H`: 0–1, 2–3), `true` = 1-resolution (`V`: 0–3, 1–2) -/
def arcs0 (t : F4) (b : Bool) : List (Nat × Nat) :=
  if b then [(t.1, t.2.2.2), (t.2.1, t.2.2.1)] else [(t.1, t.2.1), (t.2.2.1, t.2.2.2)]

theorem arcs_pdX (ρ : Nat → Nat) (t : F4) (b : Bool) :
    arcs (pdX (map4 ρ t)) (CT.X.resolve b) = (arcs0 t b).map (pmap ρ) := by
  cases b <;> rfl

theorem labelSet_perm_pdX {l' lm : Link} (ρ : Nat → Nat) (ts : List F4) (all0 : List Nat)
    (h1 : ∀ t ∈ ts, t.1 ∈ all0 ∧ t.2.1 ∈ all0 ∧ t.2.2.1 ∈ all0 ∧ t.2.2.2 ∈ all0)
    (h2 : ∀ k ∈ all0, ∃ t ∈ ts, k = t.1 ∨ k = t.2.1 ∨ k = t.2.2.1 ∨ k = t.2.2.2)
    (hp : l'.toList.Perm (ts.map (fun t => pdX (map4 ρ t)) ++ lm.toList)) :
    labelSet l' = {z | z ∈ all0.map ρ} ∪ labelSet lm := by
  rw [labelSet_perm_append _ hp]
  congr 1
  ext z
  simp only [Set.mem_ofPred_eq, List.mem_map]
  constructor
  · rintro ⟨_, ⟨t, ht, rfl⟩, hz⟩
    obtain ⟨m1, m2, m3, m4⟩ := h1 t ht
    simp only [pdX, map4, List.mem_toArray, List.mem_cons, List.not_mem_nil, or_false] at hz
    rcases hz with rfl | rfl | rfl | rfl
    exacts [⟨_, m1, rfl⟩, ⟨_, m2, rfl⟩, ⟨_, m3, rfl⟩, ⟨_, m4, rfl⟩]
  · rintro ⟨k, hk, rfl⟩
    obtain ⟨t, ht, h⟩ := h2 k hk
    refine ⟨_, ⟨t, ht, rfl⟩, ?_⟩
    simp only [pdX, map4, List.mem_toArray, List.mem_cons, List.not_mem_nil, or_false]
    rcases h with rfl | rfl | rfl | rfl <;> simp

/-- all smoothings of the formal crossings `ts` as (number of 1-resolutions, arcs), in the order of the skein expansion -/
def smooth : List F4 → List (Nat × List (Nat × Nat))
  | [] => [(0, [])]
  | t :: ts => (smooth ts).map (fun s => (s.1, arcs0 t false ++ s.2)) ++
      (smooth ts).map (fun s => (s.1 + 1, arcs0 t true ++ s.2))

variable {R : Type} [CommRing R]

theorem skein_pdX (L : Set Nat) (x y : R) (ρ : Nat → Nat) (ts : List F4) (rest : List Crossing) (w : Nat)
    (P : List (Nat × Nat)) :
    skein L x y (ts.map (fun t => pdX (map4 ρ t)) ++ rest) w P
      = ((smooth ts).map (fun s => skein L x y rest (w + s.1) (P ++ s.2.map (pmap ρ)))).sum := by
  induction ts generalizing w P with
  | nil => simp [smooth]
  | cons t ts ih =>
    rw [List.map_cons, List.cons_append, skein_cons_unres _ _ _ (pdX (map4 ρ t)) _ _ _ rfl, pdX_ct, arcs_pdX, arcs_pdX,
      ih, ih]
    simp only [smooth, List.map_append, List.map_map, List.sum_append, Function.comp_def, List.append_assoc,
      Nat.add_assoc, Nat.add_comm 1]

/-- what a smoothing is claimed to be: the pairing `B` of the boundary symbols and one circle through each symbol of
`loops`; the table `g` sends every symbol to the boundary symbol or circle representative it is joined to -/
structure Cert where
  g : List Nat
  B : List (Nat × Nat)
  loops : List Nat

def Cert.ok (all0 inn0 ends0 : List Nat) (A0 : List (Nat × Nat)) (c : Cert) : Bool :=
  okLocal all0 inn0 (c.loops ++ ends0) ends0 A0 c.B (fun z => c.g.getD z z) &&
    decide (c.loops.Nodup ∧ ∀ k ∈ c.loops, k ∈ inn0 ∧ k ∉ ends0)

/-- the crossings `ts` use exactly the symbols `all0`, and the `i`-th smoothing is what the `i`-th entry of `cs` claims -/
def okPiece (all0 inn0 ends0 : List Nat) (ts : List F4) (cs : List Cert) : Bool :=
  (smooth ts).length == cs.length && ((smooth ts).zip cs).all (fun sc => Cert.ok all0 inn0 ends0 sc.1.2 sc.2) &&
  decide ((∀ t ∈ ts, t.1 ∈ all0 ∧ t.2.1 ∈ all0 ∧ t.2.2.1 ∈ all0 ∧ t.2.2.2 ∈ all0) ∧
    ∀ k ∈ all0, ∃ t ∈ ts, k = t.1 ∨ k = t.2.1 ∨ k = t.2.2.1 ∨ k = t.2.2.2)

theorem local_expand (x y : R) {ρ : Nat → Nat} {lm l' : Link} (all0 inn0 ends0 : List Nat) (ts : List F4) (cs : List Cert)
    (hok : okPiece all0 inn0 ends0 ts cs = true) (hwf : WF lm)
    (hinj : ∀ u ∈ all0, ∀ v ∈ inn0, ρ u = ρ v → u = v) (hfresh : ∀ v ∈ inn0, ρ v ∉ labelSet lm)
    (hp : l'.toList.Perm (ts.map (fun t => pdX (map4 ρ t)) ++ lm.toList)) :
    stateSum x y l' = (((smooth ts).zip cs).map (fun sc => x ^ sc.1.1 * y ^ sc.2.loops.length *
        partSum ({z | z ∈ ends0.map ρ} ∪ labelSet lm) x y lm 0 (sc.2.B.map (pmap ρ)))).sum := by
  simp only [okPiece, Bool.and_eq_true, beq_iff_eq, List.all_eq_true, decide_eq_true_eq] at hok
  obtain ⟨⟨hlen, hall⟩, h1, h2⟩ := hok
  have hwf' : WF l' := WF_of_perm_append _ hp (by
    intro c hc
    obtain ⟨t, _, rfl⟩ := List.mem_map.1 hc
    rfl) hwf
  rw [stateSum_perm_skein x y hwf' hp, labelSet_perm_pdX ρ ts all0 h1 h2 hp, skein_pdX]
  conv_lhs => rw [← List.map_fst_zip (l₁ := smooth ts) (l₂ := cs) (by omega), List.map_map]
  congr 1
  apply List.map_congr_left
  intro sc hsc
  have hc := hall sc hsc
  simp only [Cert.ok, Bool.and_eq_true, decide_eq_true_eq] at hc
  simp only [Function.comp, List.nil_append, Nat.zero_add, ← partSum_eq_skein]
  exact partSum_shift _ _ x y lm lm sc.1.1 sc.2.loops.length _ _ rfl
    (local_count hc.2.1 hc.2.2 hc.1 hwf hinj hfresh)

end Yuiv.C04Inv
