import Yuiv.Proofs.C06WalkSets
import Yuiv.Proofs.C06ClosureStrand
import Yuiv.Proofs.C06CycleHyp
/-
C06Walk — braid closures: the walk-model Seifert circles are the strands, the Seifert graph is the path
`0 — 1 — … — n−1` (connected when every generator occurs in the word), and the driver's `hyp` flag
(`crossingsBicoloured`) holds for every colouring that alternates along the path.
-/
namespace Yuiv.C06Walk
open Yuiv Yuiv.KhRef Yuiv.C06Canon Yuiv.C04Inv Yuiv.C06Cycle Yuiv.Drv.C06 Yuiv.C06Closure
open Yuiv.C18 (closure BForm closure_bform posLab bX)
open Yuiv.C18Bridge (toKh crossingKh)

/-- position of the `k`-th walked circle -/
def posW (n : Nat) (w : List Int) (paths : List Path) (k : Nat) : Nat := posLab n w ((paths[k]!).edges.headD 0)

/-- what the walk returns on the orientation preserving state of a closure: every path is the set of all labels of one
strand position -/
structure StrandPaths (n : Nat) (w : List Int) (K : Link) (paths : List Path) : Prop where
  ne : ∀ k, k < paths.length → (paths[k]!).edges ≠ []
  mem : ∀ k, k < paths.length → ∀ e, e ∈ (paths[k]!).edges ↔ e ∈ edgeLabels K ∧ posLab n w e = posW n w paths k
  inj : ∀ u v, u < paths.length → v < paths.length → posW n w paths u = posW n w paths v → u = v
  lt : ∀ u, u < paths.length → posW n w paths u < n
  surj : ∀ k, k < n → ∃ u, u < paths.length ∧ posW n w paths u = k

theorem strandPaths (n : Nat) (w : List Int) (l : C18.Link) (hcl : closure n w = .ok l) (paths : List Path)
    (hp : componentsOf (toKh l) (resolvedTypes (toKh l) (braidState w)) = .ok paths) :
    StrandPaths n w (toKh l) paths := by
  have hv := validK_toKh l (C18.closure_valid' n w l hcl)
  obtain ⟨paths', h1, W, hcls⟩ := stateCircles_spec (toKh l) hv (braidState w)
  rw [hp] at h1
  cases h1
  obtain ⟨hc, hlt, hk⟩ := conn_iff_pos n w l hcl
  have hget : ∀ k, k < paths.length → paths[k]! ∈ paths := by
    intro k hk'; rw [getElem!_pos paths k hk']; exact List.getElem_mem _
  have hne : ∀ k, k < paths.length → (paths[k]!).edges ≠ [] := fun k hk' => (W.closed _ (hget k hk')).2
  have hlab : ∀ k, k < paths.length → ∀ e ∈ (paths[k]!).edges, e ∈ edgeLabels (toKh l) :=
    fun k hk' e he => (W.cover e).2 ⟨_, hget k hk', he⟩
  have hmem : ∀ k, k < paths.length → ∀ e, e ∈ (paths[k]!).edges ↔
      e ∈ edgeLabels (toKh l) ∧ posLab n w e = posW n w paths k := by
    intro k hk' e
    have h0 := C18.headD_mem _ (hne k hk')
    constructor
    · intro he
      refine ⟨hlab k hk' e he, ?_⟩
      have c := (hcls _ (hget k hk') _ h0 e).2 he
      exact ((hc _ (hlab k hk' _ h0) _ (hlab k hk' e he)).1 c).symm
    · rintro ⟨he, hpe⟩
      exact (hcls _ (hget k hk') _ h0 e).1 ((hc _ (hlab k hk' _ h0) _ he).2 hpe.symm)
  refine ⟨hne, hmem, ?_, ?_, ?_⟩
  · intro u v hu hv' e
    have hu0 := C18.headD_mem _ (hne u hu)
    have : (paths[u]!).edges.headD 0 ∈ (paths[v]!).edges :=
      (hmem v hv' _).2 ⟨hlab u hu _ hu0, e⟩
    -- the same label on two paths
    by_contra hne'
    have hpw := (List.pairwise_flatMap (R := (· ≠ ·))).1 W.nodup
    have hpw' := List.pairwise_iff_getElem.1 hpw.2
    rw [getElem!_pos paths u hu] at hu0 this
    rw [getElem!_pos paths v hv'] at this
    rcases Nat.lt_or_gt_of_ne hne' with h | h
    · exact hpw' u v hu hv' h _ hu0 _ this rfl
    · exact hpw' v u hv' hu h _ this _ hu0 rfl
  · intro u hu
    exact hlt _ (hlab u hu _ (C18.headD_mem _ (hne u hu)))
  · intro k hk'
    obtain ⟨p, hp', hkp⟩ := (W.cover k).1 (hk k hk').1
    obtain ⟨u, hu, rfl⟩ := List.getElem_of_mem hp'
    refine ⟨u, hu, ?_⟩
    have : k ∈ (paths[u]!).edges := by rw [getElem!_pos paths u hu]; exact hkp
    rw [← ((hmem u hu k).1 this).2]
    exact (hk k hk').2

theorem isAdj_elim {l : Link} {c1 c2 : List Nat} (h : isAdj l c1 c2 = true) :
    ∃ x ∈ l, ∃ e ∈ x.e, e ∈ c1 ∧ ∃ e' ∈ x.e, e' ∉ c1 ∧ e' ∈ c2 := by
  unfold isAdj at h
  rw [Array.any_eq_true'] at h
  obtain ⟨x, hx, hh⟩ := h
  rw [Bool.and_eq_true, Array.any_eq_true'] at hh
  obtain ⟨⟨e, he, hec⟩, h2⟩ := hh
  refine ⟨x, hx, e, he, List.contains_iff_mem.1 hec, ?_⟩
  cases hf : x.e.find? (fun e => !c1.contains e) with
  | none => rw [hf] at h2; cases h2
  | some e' =>
    rw [hf] at h2
    exact ⟨e', Array.mem_of_find?_eq_some hf, by simpa using Array.find?_some hf, List.contains_iff_mem.1 h2⟩

theorem isAdj_intro {l : Link} {c1 c2 : List Nat} {x : Crossing} (hx : x ∈ l) {e e0 : Nat} (he : e ∈ x.e)
    (hec : e ∈ c1) (he0 : e0 ∈ x.e) (hn0 : e0 ∉ c1) (hall : ∀ e' ∈ x.e, e' ∉ c1 → e' ∈ c2) :
    isAdj l c1 c2 = true := by
  unfold isAdj
  rw [Array.any_eq_true']
  refine ⟨x, hx, ?_⟩
  rw [Bool.and_eq_true, Array.any_eq_true']
  refine ⟨⟨e, he, List.contains_iff_mem.2 hec⟩, ?_⟩
  cases hf : x.e.find? (fun e => !c1.contains e) with
  | none =>
    rw [Array.find?_eq_none] at hf
    exact absurd (by simpa using hf e0 he0) hn0
  | some e' =>
    exact List.contains_iff_mem.2
      (hall e' (Array.mem_of_find?_eq_some hf) (by simpa using Array.find?_some hf))

theorem lt_of_mem_getElem! {paths : List Path} {u e : Nat} (he : e ∈ (paths[u]!).edges) : u < paths.length := by
  by_contra hu
  rw [getElem!_neg paths u hu] at he
  cases he

theorem isAdj_pos (n : Nat) (w : List Int) (l : C18.Link) (hcl : closure n w = .ok l) (paths : List Path)
    (S : StrandPaths n w (toKh l) paths) (u v : Nat)
    (h : isAdj (toKh l) (paths[u]!).edges (paths[v]!).edges = true) :
    u < paths.length ∧ v < paths.length ∧
      (posW n w paths u = posW n w paths v + 1 ∨ posW n w paths v = posW n w paths u + 1) := by
  obtain ⟨ins, outs, hB⟩ := closure_bform n w l hcl
  obtain ⟨x, hx, e, he, hec, e', he', hn, he'c⟩ := isAdj_elim h
  have hu := lt_of_mem_getElem! hec
  have hv := lt_of_mem_getElem! he'c
  obtain ⟨j, hj, rfl⟩ := mem_toKh_closure hB x hx
  obtain ⟨f1, _, _⟩ := crossing_facts hB j hj
  have p := f1 e he
  have p' := f1 e' he'
  have hpe := ((S.mem u hu e).1 hec).2
  have hpe' := ((S.mem v hv e').1 he'c)
  have hne : posLab n w e' ≠ posLab n w e :=
    fun e0 => hn ((S.mem u hu e').2 ⟨hpe'.1, e0.trans hpe⟩)
  refine ⟨hu, hv, ?_⟩
  rw [← hpe, ← hpe'.2]
  rcases p with p | p <;> rcases p' with p' | p'
  · exact absurd (p'.trans p.symm) hne
  · exact Or.inr (p'.trans (congrArg (· + 1) p.symm))
  · exact Or.inl (p.trans (congrArg (· + 1) p'.symm))
  · exact absurd (p'.trans p.symm) hne

theorem isAdj_of_pos (n : Nat) (w : List Int) (l : C18.Link) (hcl : closure n w = .ok l) (paths : List Path)
    (S : StrandPaths n w (toKh l) paths)
    (hgen : ∀ g, g + 1 < n → ∃ j, j < w.length ∧ (w.getD j 0).natAbs - 1 = g)
    (u v : Nat) (hu : u < paths.length) (hv : v < paths.length)
    (h : posW n w paths u + 1 = posW n w paths v) :
    isAdj (toKh l) (paths[u]!).edges (paths[v]!).edges = true ∧
    isAdj (toKh l) (paths[v]!).edges (paths[u]!).edges = true := by
  obtain ⟨ins, outs, hB⟩ := closure_bform n w l hcl
  have hne : posW n w paths u ≠ posW n w paths v := by omega
  obtain ⟨j, hj, hg⟩ := hgen (posW n w paths u) (h ▸ S.lt v hv)
  have hx := crossing_of_letter hB j hj
  obtain ⟨f1, _, ea, hea, eb, heb, qa, qb⟩ := crossing_facts hB j hj
  rw [hg] at f1 qa qb
  generalize crossingKh _ = x at hx f1 hea heb
  have hlab : ∀ e ∈ x.e, e ∈ edgeLabels (toKh l) := fun e he => (mem_edgeLabels _ e).2 ⟨x, hx, he⟩
  -- the crossing of the generator between the strands `a` and `b` joins the circle `a` to the circle `b`
  have key : ∀ a b, a < paths.length → b < paths.length →
      (∀ e ∈ x.e, posLab n w e = posW n w paths a ∨ posLab n w e = posW n w paths b) →
      (∃ e ∈ x.e, posLab n w e = posW n w paths a) → (∃ e ∈ x.e, posLab n w e = posW n w paths b) →
      posW n w paths a ≠ posW n w paths b →
      isAdj (toKh l) (paths[a]!).edges (paths[b]!).edges = true := by
    intro a b ha hb hall ⟨e, he, hpe⟩ ⟨e0, he0, hpe0⟩ hab
    refine isAdj_intro hx he ((S.mem a ha e).2 ⟨hlab e he, hpe⟩) he0
      (fun hin => hab (((S.mem a ha e0).1 hin).2.symm.trans hpe0)) (fun e' he' hn => ?_)
    refine (S.mem b hb e').2 ⟨hlab e' he', (hall e' he').resolve_left fun h0 => hn ?_⟩
    exact (S.mem a ha e').2 ⟨hlab e' he', h0⟩
  have hall : ∀ e ∈ x.e, posLab n w e = posW n w paths u ∨ posLab n w e = posW n w paths v :=
    fun e he => h ▸ f1 e he
  have hea' : ∃ e ∈ x.e, posLab n w e = posW n w paths u := ⟨ea, hea, qa⟩
  have heb' : ∃ e ∈ x.e, posLab n w e = posW n w paths v := ⟨eb, heb, h ▸ qb⟩
  exact ⟨key u v hu hv hall hea' heb' hne, key v u hv hu (fun e he => (hall e he).symm) heb' hea' hne.symm⟩

theorem findIdx_label (n : Nat) (w : List Int) (K : Link) (paths : List Path) (S : StrandPaths n w K paths)
    (col : Nat → Colour) (e : Nat) (he : e ∈ edgeLabels K) (hpe : posLab n w e < n) :
    ∃ k, k < paths.length ∧ posW n w paths k = posLab n w e ∧
      (((List.range paths.length).map (fun k => (paths[k]!, col k))).findIdx?
        (fun pc => pc.1.edges.contains e)) = some k := by
  obtain ⟨k, hk, hpk⟩ := S.surj _ hpe
  refine ⟨k, hk, hpk, ?_⟩
  rw [List.findIdx?_eq_some_iff_getElem]
  refine ⟨by rw [List.length_map, List.length_range]; exact hk, ?_, ?_⟩
  · simp only [List.getElem_map, List.getElem_range]
    exact List.contains_iff_mem.2 ((S.mem k hk e).2 ⟨he, hpk.symm⟩)
  · intro j hjk
    simp only [List.getElem_map, List.getElem_range]
    intro hc
    have hj : j < paths.length := Nat.lt_trans hjk hk
    have := ((S.mem j hj e).1 (List.contains_iff_mem.1 hc)).2
    exact Nat.ne_of_lt hjk (S.inj j k hj hk (this.symm.trans hpk.symm))

theorem crossingsBicoloured_closure (n : Nat) (w : List Int) (l : C18.Link) (hcl : closure n w = .ok l)
    (paths : List Path) (S : StrandPaths n w (toKh l) paths) (col : Nat → Colour)
    (hcol : ∀ u v, u < paths.length → v < paths.length → posW n w paths u + 1 = posW n w paths v → col u ≠ col v) :
    crossingsBicoloured (toKh l) ((List.range paths.length).map (fun k => (paths[k]!, col k))) = true := by
  obtain ⟨ins, outs, hB⟩ := closure_bform n w l hcl
  obtain ⟨_, hlt, _⟩ := conn_iff_pos n w l hcl
  unfold crossingsBicoloured
  rw [Array.all_eq_true_iff_forall_mem]
  intro x hx
  have hres : x.ct.isResolved = false := by rw [toKh_allX hB x (Array.mem_toList_iff.2 hx)]; rfl
  rw [hres, Bool.false_or]
  obtain ⟨j, hj, rfl⟩ := mem_toKh_closure hB x hx
  obtain ⟨f1, _, ea, hea, eb, heb, qa, qb⟩ := crossing_facts hB j hj
  generalize (w.getD j 0).natAbs - 1 = g at f1 qa qb
  generalize crossingKh _ = x at hx f1 hea heb
  generalize hcc : (List.range paths.length).map (fun k => (paths[k]!, col k)) = cc
  have hlen : cc.length = paths.length := by rw [← hcc, List.length_map, List.length_range]
  have hget : ∀ k, k < paths.length → (cc[k]!).2 = col k := by
    intro k hk
    rw [getElem!_pos _ k (hlen ▸ hk)]
    simp only [← hcc, List.getElem_map, List.getElem_range]
  -- the index the driver computes for a label is the walked circle at the label's position
  have hidx : ∀ e ∈ x.e, ∃ k, k < paths.length ∧ posW n w paths k = posLab n w e ∧
      (cc.findIdx? (fun pc => pc.1.edges.contains e)).getD cc.length = k := by
    intro e he
    have hl := (mem_edgeLabels _ e).2 ⟨x, hx, he⟩
    obtain ⟨k, hk, pk, fk⟩ := findIdx_label n w _ paths S col e hl (hlt e hl)
    exact ⟨k, hk, pk, by rw [← hcc, fk]; rfl⟩
  obtain ⟨ka, hka, pa, ia⟩ := hidx ea hea
  obtain ⟨kb, hkb, pb, ib⟩ := hidx eb heb
  have hab : ka ≠ kb := fun e => by rw [e] at pa; omega
  have hcab := hcol ka kb hka hkb (by rw [pa, qa, pb, qb])
  generalize hL : x.e.toList.map (fun e => (cc.findIdx? (fun pc => pc.1.edges.contains e)).getD cc.length) = L
  have hall : ∀ i ∈ L, i = ka ∨ i = kb := by
    intro i hi
    rw [← hL] at hi
    obtain ⟨e, he, rfl⟩ := List.mem_map.1 hi
    rw [Array.mem_toList_iff] at he
    obtain ⟨k, hk, pk, ik⟩ := hidx e he
    rw [ik]
    rcases f1 e he with h | h
    · exact Or.inl (S.inj k ka hk hka (pk.trans (h.trans (pa.trans qa).symm)))
    · exact Or.inr (S.inj k kb hk hkb (pk.trans (h.trans (pb.trans qb).symm)))
  have hma : ka ∈ L := hL ▸ List.mem_map.2 ⟨ea, Array.mem_toList_iff.2 hea, ia⟩
  have hmb : kb ∈ L := hL ▸ List.mem_map.2 ⟨eb, Array.mem_toList_iff.2 heb, ib⟩
  -- the first label decides which of the two circles is listed first
  cases L with
  | nil => cases hma
  | cons i0 is =>
    rcases hall i0 List.mem_cons_self with rfl | rfl
    · have hd := eraseDups_eq_pair hab hall ((List.mem_cons.1 hmb).resolve_left (Ne.symm hab))
      simp only [hd, hlen, hka, hkb, decide_true, Bool.true_and, hget _ hka, hget _ hkb, bne_iff_ne, ne_eq]
      exact hcab
    · have hd := eraseDups_eq_pair (Ne.symm hab) (fun i hi => (hall i hi).symm)
        ((List.mem_cons.1 hma).resolve_left hab)
      simp only [hd, hlen, hka, hkb, decide_true, Bool.true_and, hget _ hka, hget _ hkb, bne_iff_ne, ne_eq]
      exact hcab.symm

end Yuiv.C06Walk
