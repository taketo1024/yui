import Yuiv.Model.C05Deloop
import Yuiv.Proofs.C05
import Yuiv.Props.C05
import Yuiv.Props.C08
/-
C05 (engine kernel) — delooping and Gaussian elimination in `A = R[X]/(X² − hX − t)`: a dot stands for `dotA d`
(`None ↦ 1`, `X ↦ X`, `Y ↦ X − h`), an optional edge for `val e` (`none ↦ 0`); `rowM`, `colM`, `matM` are the matrices of optional
edges around a 1×1 pivot (pivot index type `Unit`), the shape to which the block statements of `Props/C08` apply.
-/
namespace Yuiv.C05.Deloop

section alg
variable {R : Type} [CommRing R]

def dotA (h t : R) : Dot → A h t
  | .none => 1
  | .X => Xd h t
  | .Y => Yd h t

/-- the element a cup with `g` handles and dots `(x, y)` stands for (neck cutting: handle = `X + Y`) -/
def cupA (h t : R) (g x y : Nat) : A h t := Xd h t ^ x * Yd h t ^ y * (Xd h t + Yd h t) ^ g

theorem addDot_A (h t : R) (d : Dot) (p : Nat × Nat) :
    Xd h t ^ (addDot d p).1 * Yd h t ^ (addDot d p).2 = Xd h t ^ p.1 * Yd h t ^ p.2 * dotA h t d := by
  obtain ⟨x, y⟩ := p
  cases d <;> simp only [addDot, dotA, mul_one, pow_succ] <;> ring

theorem addDot_count (d : Dot) (p : Nat × Nat) :
    (addDot d p).1 + (addDot d p).2 = p.1 + p.2 + (addDot d (0, 0)).1 + (addDot d (0, 0)).2 := by
  obtain ⟨x, y⟩ := p
  cases d <;> simp only [addDot] <;> omega

theorem counit_smul (h t r : R) (z : A h t) : counit (r • z) = r * counit z := by
  simp [counit]

theorem counit_add (h t : R) (z w : A h t) : counit (z + w) = counit z + counit w := by
  simp [counit]

/-- every element is `ε(a)·X + ε(aY)·1` -/
theorem reconstruct (h t : R) (a : A h t) :
    a = counit (a * dotA h t copyX.deathDot) • dotA h t copyX.birthDot
      + counit (a * dotA h t copyI.deathDot) • dotA h t copyI.birthDot := by
  ext
  · simp only [counit, dotA, copyX, copyI, Xd, Yd, mul_one, QuadraticAlgebra.re_add, QuadraticAlgebra.re_smul,
      QuadraticAlgebra.im_mul, QuadraticAlgebra.re_one, smul_eq_mul]
    ring
  · simp only [counit, dotA, copyX, copyI, Xd, Yd, mul_one, QuadraticAlgebra.im_add, QuadraticAlgebra.im_smul,
      QuadraticAlgebra.im_mul, QuadraticAlgebra.im_one, smul_eq_mul]
    ring

/-- on the ideal `X·A` the `X` copy alone reconstructs up to the error term `t·ε(b)` -/
theorem reconstruct_based (h t : R) (b : A h t) :
    Xd h t * b = counit (Xd h t * b * dotA h t copyX.deathDot) • dotA h t copyX.birthDot
      + Cc h t (t * counit b) := by
  ext
  · simp only [counit, dotA, copyX, Xd, Cc, mul_one, QuadraticAlgebra.re_add, QuadraticAlgebra.re_smul,
      QuadraticAlgebra.re_mul, QuadraticAlgebra.im_mul, QuadraticAlgebra.re_C, smul_eq_mul]
    ring
  · simp only [counit, dotA, copyX, Xd, Cc, mul_one, QuadraticAlgebra.im_add, QuadraticAlgebra.im_smul,
      QuadraticAlgebra.im_mul, QuadraticAlgebra.im_C, smul_eq_mul]
    ring

theorem reconstruct_based_zero (h : R) (b : A h 0) :
    Xd h 0 * b = counit (Xd h 0 * b * dotA h 0 copyX.deathDot) • dotA h 0 copyX.birthDot := by
  have := reconstruct_based h 0 b
  rwa [zero_mul, Cc, QuadraticAlgebra.C_zero, add_zero] at this

variable [Coef R] [LawfulCoef R]

theorem coord_eq (h t : R) (c : Copy) (g x y : Nat) :
    coord h t c g x y = .ok (counit (cupA h t g x y * dotA h t c.deathDot)) := by
  unfold coord cupA
  simp only []
  rw [evalClosed_spec, addDot_A]
  congr 2; ring

theorem pairing_eq (h t : R) (ci cj : Copy) :
    pairing h t ci cj = .ok (counit (dotA h t ci.birthDot * dotA h t cj.deathDot)) := by
  unfold pairing cupDots
  simp only []
  rw [evalClosed_spec, addDot_A, addDot_A]
  simp

end alg

theorem copy_dots_shift : ∀ c ∈ deloopCopies false,
    2 * (((cupDots c).1 + (cupDots c).2 : Nat) : Int) = 1 - c.label.qShift ∧
    2 * (((capDots c).1 + (capDots c).2 : Nat) : Int) = 1 + c.label.qShift := by
  decide

section elim
variable {R : Type} [Ring R]

def val : Option R → R
  | none => 0
  | some r => r

theorem elimEntry_val (isZero : R → Bool) (hz : ∀ r, isZero r = true → r = 0) (ainv : R) (b c d : Option R) :
    val (elimEntry isZero ainv b c d) = val d - val c * ainv * val b := by
  have key : ∀ s : R, val (if isZero s then none else some s) = s := by
    intro s
    by_cases h0 : isZero s = true
    · rw [if_pos h0]; exact (hz s h0).symm
    · rw [if_neg h0]; rfl
  cases b <;> cases c <;> cases d <;> simp only [elimEntry] <;>
    first
      | exact (key _).trans (by simp only [val, zero_sub])
      | simp only [val, mul_zero, zero_mul, sub_zero]

/-- a stored edge is never zero (`add_edge`: `assert!(!f.is_zero())`) -/
def Stored (isZero : R → Bool) : Option R → Prop
  | none => True
  | some r => isZero r = false

theorem elimEntry_stored (isZero : R → Bool) (ainv : R) (b c d : Option R) (hd : Stored isZero d) :
    Stored isZero (elimEntry isZero ainv b c d) := by
  have key : ∀ s : R, Stored isZero (if isZero s then none else some s) := by
    intro s
    by_cases h0 : isZero s = true
    · rw [if_pos h0]; trivial
    · rw [if_neg h0]; simpa [Stored] using h0
  cases b <;> cases c <;> first | exact hd | exact key _

open Matrix in
def pivM (a : R) : Matrix Unit Unit R := Matrix.of fun _ _ => a
/-- `b j : l0ⱼ → k1` as a row -/
def rowM {J : Type} (b : J → Option R) : Matrix Unit J R := Matrix.of fun _ j => val (b j)
/-- `c i : k0 → l1ᵢ` as a column -/
def colM {I : Type} (c : I → Option R) : Matrix I Unit R := Matrix.of fun i _ => val (c i)
/-- `d i j : l0ⱼ → l1ᵢ` -/
def matM {I J : Type} (d : I → J → Option R) : Matrix I J R := Matrix.of fun i j => val (d i j)

theorem pivM_mul (a b : R) : pivM a * pivM b = pivM (a * b) := by
  ext i j; simp [pivM, Matrix.mul_apply]

theorem pivM_one : pivM (1 : R) = 1 := by
  ext i j; simp [pivM]

theorem elimFn_matM {I J : Type} (isZero : R → Bool) (hz : ∀ r, isZero r = true → r = 0) (ainv : R)
    (b : J → Option R) (c : I → Option R) (d : I → J → Option R) :
    matM (elimFn isZero ainv b c d) = C08.schurS (pivM ainv) (rowM b) (colM c) (matM d) := by
  ext i j
  simp [matM, elimFn, elimEntry_val isZero hz, C08.schurS, Matrix.mul_apply, pivM, rowM, colM]

end elim

end Yuiv.C05.Deloop
