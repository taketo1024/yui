import Yuiv.Proofs.C08Gen
import Yuiv.Model.C12Rings
/-
C08 — the hand-written sparse code model of `Schur::from_partial_triangular` (`C12.schur`, `C12.computeSchur` in
`Yuiv/Model/C12.lean`; `Props/C12.lean` proves `schur_complement_correct` and `schur_transfer_maps_correct` about it, and
`Props/C08*` use the resulting block identities) IS the source text of `/repo/yui-matrix/src/sparse/schur.rs`.

`Yuiv.GenSchur.*` (file `Yuiv/Gen/SchurFn.lean`) is regenerated from the Rust source by `tools/rs2lean_fn.py fn:schur` on
every `./check` run.  The functions of other files that schur.rs calls are the model's (through `Yuiv/Model/RustCsc.lean`);
what these theorems pin down is schur.rs's own text: the two range asserts, which block goes where, the order of the two
triangular solves and their arguments, the signs, `[-a⁻¹b; 1]` stacked vs `[-ca⁻¹, 1]` extended, the `incl` / `proj`
index arithmetic, which factor is forward / backward in each `Trans::new`, and the `with_trans` flag.
The only hypothesis is `isZero one = false` (`from_entries` drops zero values; `incl` / `proj` store `one`).
-/
namespace Yuiv.C08Gen
open Yuiv Res Yuiv.Rust Yuiv.C12

variable {α : Type} [Scal α]

theorem gen_accessors_eq (o : SchurOut α) :
    GenSchur.Schur.complement (toS o) = o.s ∧ GenSchur.Schur.trans_src (toS o) = o.src ∧
    GenSchur.Schur.trans_tgt (toS o) = o.tgt ∧ GenSchur.Schur.disassemble (toS o) = (o.s, o.src, o.tgt) :=
  ⟨rfl, rfl, rfl, rfl⟩

/-- `compute_schur`: column `j` is `d.col_vec(j) - c * ainvb.col_vec(j)` -/
theorem gen_compute_schur_eq (X C D : SpMat α) (h : D.nrows ≤ C.nrows) :
    GenSchur.Schur.compute_schur X C D = ok (computeSchur X C D) :=
  compute_schur_eq X C D h

/-- `from_partial_triangular(t, abcd, r, with_trans)`; `t` is `is_upper` -/
theorem gen_from_partial_triangular_eq (hone : isZero (one : α) = false) (upper : Bool) (M : SpMat α) (r : Nat)
    (withTrans : Bool) :
    GenSchur.Schur.from_partial_triangular upper M r withTrans = mapR toS (schur upper M r withTrans) := by
  unfold GenSchur.Schur.from_partial_triangular schur
  by_cases hm : r ≤ M.nrows
  · by_cases hn : r ≤ M.ncols
    · have hm' : ¬ M.nrows < r := by omega
      have hn' : ¬ M.ncols < r := by omega
      simp only [hm, hn, hm', hn', decide_true, assert_true, bind_ok, if_false, SM.divide4, and_self, if_true,
        SM.solve_triangular]
      have sa : (divide4 M r r).1.nrows = r ∧ (divide4 M r r).1.ncols = r := ⟨rfl, rfl⟩
      have sb : (divide4 M r r).2.1.nrows = r ∧ (divide4 M r r).2.1.ncols = M.ncols - r := ⟨rfl, rfl⟩
      have sc : (divide4 M r r).2.2.1.nrows = M.nrows - r ∧ (divide4 M r r).2.2.1.ncols = r := ⟨rfl, rfl⟩
      have sd : (divide4 M r r).2.2.2.nrows = M.nrows - r ∧ (divide4 M r r).2.2.2.ncols = M.ncols - r := ⟨rfl, rfl⟩
      generalize divide4 M r r = D at *
      obtain ⟨a, b, c, d⟩ := D
      simp only at sa sb sc sd ⊢
      cases hs : solve upper a b with
      | panic => rfl
      | err => rfl
      | ok X =>
        have hX := solve_shape hs
        have hcs := gen_compute_schur_eq X c d (by rw [sd.1, sc.1]; exact Nat.le_refl _)
        simp only [bind_ok, hcs]
        cases withTrans with
        | false => rfl
        | true =>
          have hsubn : U64.sub M.ncols r = ok (M.ncols - r) := by simp [U64.sub, hn]
          have hsubm : U64.sub M.nrows r = ok (M.nrows - r) := by simp [U64.sub, hm]
          have hmap1 := mapM_range (GenSchur.Schur.from_partial_triangular_closure1 (α := α) M.ncols (M.ncols - r))
            (fun i => (i, M.ncols - (M.ncols - r) + i, (one : α))) (M.ncols - r) 0 (fun i _ _ => by
              unfold GenSchur.Schur.from_partial_triangular_closure1
              simp [U64.sub])
          have hmap2 := mapM_range (GenSchur.Schur.from_partial_triangular_closure2 (α := α) M.nrows (M.nrows - r))
            (fun i => (M.nrows - (M.nrows - r) + i, i, (one : α))) (M.nrows - r) 0 (fun i _ _ => by
              unfold GenSchur.Schur.from_partial_triangular_closure2
              simp [U64.sub])
          have hproj := proj_eq hone M.ncols (M.ncols - r) (Nat.sub_le _ _)
          have hincl := incl_eq hone M.nrows (M.nrows - r) (Nat.sub_le _ _)
          have hstack : SM.stack (SM.neg X) (SM.id (M.ncols - r) : SpMat α) = ok (stack (negMat X) (idMat (M.ncols - r))) := by
            unfold SM.stack
            rw [if_pos]; rfl
            show X.ncols = M.ncols - r
            rw [hX.2, sb.2]
          have hnew1 := trnew_ok (proj M.ncols (M.ncols - r) : SpMat α) (stack (negMat X) (idMat (M.ncols - r)))
            (by show M.ncols = X.nrows + (M.ncols - r); rw [hX.1, sa.1]; exact (Nat.add_sub_of_le hn).symm)
            (by show M.ncols - r = X.ncols; rw [hX.2, sb.2])
          simp only [if_true, hsubn, hsubm, bind_ok, Nat.sub_zero, hmap1, hproj, hstack, hnew1, SM.solve_triangular_left,
            Bool.not_true, Bool.false_eq_true, if_false]
          cases hw : solveLeft upper a c with
          | panic => rfl
          | err => rfl
          | ok w =>
            have hW := solveLeft_shape hw
            simp only [bind_ok, SM.extend_cols, SM.neg, SM.id]
            cases hf : extendCols (negMat w) (idMat (M.nrows - r)) with
            | panic => rfl
            | err => rfl
            | ok ft =>
              have hF := extendCols_shape hf
              have hnew2 := trnew_ok ft (incl M.nrows (M.nrows - r) : SpMat α)
                (by rw [hF.2]; show w.ncols + (M.nrows - r) = M.nrows; rw [hW.2, sa.2]; exact Nat.add_sub_of_le hm)
                (by rw [hF.1]; show w.nrows = M.nrows - r; rw [hW.1, sc.1])
              simp only [bind_ok, hmap2, hincl, hnew2]
              rfl
    · have hn' : M.ncols < r := by omega
      have hm' : ¬ M.nrows < r := by omega
      simp [hm, hn, hm', hn', assert_true, assert_false, mapR]
  · have hm' : M.nrows < r := by omega
    simp [hm, hm', assert_false, mapR]

/-! ### the hypothesis is satisfiable: the scalar models of the harness have `1 ≠ 0` -/

example : isZero (one : Int) = false := by decide
example : isZero (one : Fin 5) = false := by decide

end Yuiv.C08Gen
