import Yuiv.Proofs.C04LocalPiece
import Yuiv.Proofs.C04Closure
/-
C04Markov (helper, no property theorem here): the braid relation (Reidemeister III), all letters positive:
`closure n (w₁ ++ [i, i+1, i] ++ w₂)` versus `closure n (w₁ ++ [i+1, i, i+1] ++ w₂)`.

First the two triples of crossings on explicit labels.  Formal symbols: `0,1,2` = incoming labels `a0,a1,a2`, `3,4,5` =
outgoing labels `o0,o1,o2`, `6,7,8` = inner labels `p,q,r`; `ρ = rho9 …` assigns the actual labels.  Left triple
`X[a0,p,q,a1] X[q,r,o2,a2] X[p,o0,o1,r]` (= σᵢσᵢ₊₁σᵢ), right triple `X[a1,p,q,a2] X[a0,o0,r,p] X[r,o1,o2,q]`
(= σᵢ₊₁σᵢσᵢ₊₁).  Each of the 8 + 8 smoothings is one of the five Temperley–Lieb pairings of the six outer labels (possibly with
one extra circle); the two state sums agree as soon as `1 + x·y + x² = 0`.

Then the closure loop: both sides are images of formal runs on three strands, the bottom rows differ by the relabelling `tau`,
and the rest of the two un-renamed codes is the same.
-/
open Yuiv.KhRef Yuiv.C04
namespace Yuiv.C04Inv
open Yuiv.C18 (closureStep closure CInv PD flatPD)
open Yuiv.C18Bridge (toKh)

variable {R : Type} [CommRing R]

def rho9 (a0 a1 a2 o0 o1 o2 p q r : Nat) (k : Nat) : Nat := [a0, a1, a2, o0, o1, o2, p, q, r].getD k 0

def all9 : List Nat := [0, 1, 2, 3, 4, 5, 6, 7, 8]
def ends6 : List Nat := [0, 1, 2, 3, 4, 5]
def inn3 : List Nat := [6, 7, 8]

/-- the inner labels are different from all other labels of the nine and do not occur in the rest of the diagram -/
structure TripLabels (ρ : Nat → Nat) (lm : Link) : Prop where
  hinj : ∀ u ∈ all9, ∀ v ∈ inn3, ρ u = ρ v → u = v
  hfresh : ∀ v ∈ inn3, ρ v ∉ labelSet lm

/-- the five Temperley–Lieb pairings of the six outer symbols -/
def Bid : List (Nat × Nat) := [(0, 3), (1, 4), (2, 5)]
def BE1 : List (Nat × Nat) := [(0, 1), (3, 4), (2, 5)]
def BE2 : List (Nat × Nat) := [(0, 3), (1, 2), (4, 5)]
def BE21 : List (Nat × Nat) := [(0, 5), (1, 2), (3, 4)]
def BE12 : List (Nat × Nat) := [(0, 1), (2, 3), (4, 5)]

/-- state sum of the rest of the diagram closed up by a pairing of the six outer labels -/
noncomputable def tlSum (x y : R) (ρ : Nat → Nat) (lm : Link) (B0 : List (Nat × Nat)) : R :=
  partSum ({z | z ∈ ends6.map ρ} ∪ labelSet lm) x y lm 0 (B0.map (pmap ρ))

/-- the smoothings of the left triple in the order 000, 001, …, 111 (first crossing = first digit) -/
def certsL : List Cert :=
  [⟨[0, 1, 2, 3, 4, 5, 0, 1, 1], Bid, []⟩, ⟨[0, 1, 2, 3, 4, 5, 0, 1, 0], BE1, []⟩,
   ⟨[0, 1, 2, 3, 4, 5, 0, 1, 4], BE2, []⟩, ⟨[0, 1, 2, 3, 4, 5, 0, 1, 0], BE21, []⟩,
   ⟨[0, 1, 2, 3, 4, 5, 3, 3, 3], BE1, []⟩, ⟨[0, 1, 2, 3, 4, 5, 6, 6, 6], BE1, [6]⟩,
   ⟨[0, 1, 2, 3, 4, 5, 3, 3, 4], BE12, []⟩, ⟨[0, 1, 2, 3, 4, 5, 2, 2, 2], BE1, []⟩]

def certsR : List Cert :=
  [⟨[0, 1, 2, 3, 4, 5, 1, 2, 1], Bid, []⟩, ⟨[0, 1, 2, 3, 4, 5, 1, 1, 1], BE2, []⟩,
   ⟨[0, 1, 2, 3, 4, 5, 0, 2, 3], BE1, []⟩, ⟨[0, 1, 2, 3, 4, 5, 0, 3, 3], BE12, []⟩,
   ⟨[0, 1, 2, 3, 4, 5, 4, 4, 4], BE2, []⟩, ⟨[0, 1, 2, 3, 4, 5, 6, 6, 6], BE2, [6]⟩,
   ⟨[0, 1, 2, 3, 4, 5, 0, 0, 3], BE21, []⟩, ⟨[0, 1, 2, 3, 4, 5, 0, 0, 0], BE2, []⟩]

theorem trip_L (x y : R) {ρ : Nat → Nat} {lm l' : Link} (hwf : WF lm) (hl : TripLabels ρ lm)
    (hp : l'.toList.Perm (pdX (map4 ρ (0, 6, 7, 1)) :: pdX (map4 ρ (7, 8, 5, 2)) :: pdX (map4 ρ (6, 3, 4, 8)) :: lm.toList)) :
    stateSum x y l' = tlSum x y ρ lm Bid + (x + x + x ^ 2 * y + x ^ 3) * tlSum x y ρ lm BE1 + (x) * tlSum x y ρ lm BE2
      + x ^ 2 * tlSum x y ρ lm BE21 + x ^ 2 * tlSum x y ρ lm BE12 := by
  rw [local_expand x y all9 inn3 ends6 [(0, 6, 7, 1), (7, 8, 5, 2), (6, 3, 4, 8)] certsL (by decide +kernel) hwf hl.hinj
    hl.hfresh hp]
  simp only [smooth, certsL, List.map, List.zip, List.zipWith, List.sum_cons, List.sum_nil, tlSum, List.length,
    List.cons_append, List.nil_append]
  ring

theorem trip_R (x y : R) {ρ : Nat → Nat} {lm l' : Link} (hwf : WF lm) (hl : TripLabels ρ lm)
    (hp : l'.toList.Perm (pdX (map4 ρ (1, 6, 7, 2)) :: pdX (map4 ρ (0, 3, 8, 6)) :: pdX (map4 ρ (8, 4, 5, 7)) :: lm.toList)) :
    stateSum x y l' = tlSum x y ρ lm Bid + (x) * tlSum x y ρ lm BE1 + (x + x + x ^ 2 * y + x ^ 3) * tlSum x y ρ lm BE2
      + x ^ 2 * tlSum x y ρ lm BE21 + x ^ 2 * tlSum x y ρ lm BE12 := by
  rw [local_expand x y all9 inn3 ends6 [(1, 6, 7, 2), (0, 3, 8, 6), (8, 4, 5, 7)] certsR (by decide +kernel) hwf hl.hinj
    hl.hfresh hp]
  simp only [smooth, certsR, List.map, List.zip, List.zipWith, List.sum_cons, List.sum_nil, tlSum, List.length,
    List.cons_append, List.nil_append]
  ring

theorem trip_eq (x y : R) (hxy : 1 + x * y + x ^ 2 = 0) {ρ : Nat → Nat} {lm l₁ l₂ : Link} (hwf : WF lm)
    (hl : TripLabels ρ lm)
    (hp₁ : l₁.toList.Perm (pdX (map4 ρ (0, 6, 7, 1)) :: pdX (map4 ρ (7, 8, 5, 2)) :: pdX (map4 ρ (6, 3, 4, 8)) :: lm.toList))
    (hp₂ : l₂.toList.Perm (pdX (map4 ρ (1, 6, 7, 2)) :: pdX (map4 ρ (0, 3, 8, 6)) :: pdX (map4 ρ (8, 4, 5, 7)) :: lm.toList)) :
    stateSum x y l₁ = stateSum x y l₂ := by
  rw [trip_L x y hwf hl hp₁, trip_R x y hwf hl hp₂]
  have e : x + x + x ^ 2 * y + x ^ 3 = x + x * (1 + x * y + x ^ 2) := by ring
  rw [e, hxy]
  ring

/-- the relabelling between the two sides of the braid relation: `c+2 ↦ c+3`, `c+3 ↦ c+5`, `c+4 ↦ c+2`, `c+5 ↦ c+4` -/
def tau (c : Nat) : Nat → Nat := winMap (c + 2) [1, 3, 0, 2]

theorem tau_inj (c : Nat) : Function.Injective (tau c) := winMap_inj (c + 2) _ (by decide) (by decide)

theorem tau_lt (c z : Nat) (h : z < c + 2) : tau c z = z := winMap_lt (c + 2) _ z h

theorem tau_ge (c z : Nat) (h : c + 6 ≤ z) : tau c z = z + 0 := winMap_ge (c + 2) _ z (by simpa [Nat.add_assoc] using h)

theorem tau_vals (c : Nat) : tau c (c + 2) = c + 3 ∧ tau c (c + 3) = c + 5 ∧ tau c (c + 4) = c + 2 ∧ tau c (c + 5) = c + 4 :=
  ⟨winMap_add (c + 2) _ 0, winMap_add (c + 2) _ 1, winMap_add (c + 2) _ 2, winMap_add (c + 2) _ 3⟩

theorem tau_inner (c z : Nat) (h : tau c z = c ∨ tau c z = c + 1 ∨ tau c z = c + 3) : z = c ∨ z = c + 1 ∨ z = c + 2 := by
  rcases Nat.lt_or_ge z (c + 2) with hz | hz
  · rw [tau_lt c z hz] at h
    omega
  · have := le_winMap (c + 2) [1, 3, 0, 2] z hz
    have e : tau c z = tau c (c + 2) := by
      rw [(tau_vals c).1]
      exact h.resolve_left (by unfold tau; omega) |>.resolve_left (by unfold tau; omega)
    exact Or.inr (Or.inr (tau_inj c e))

theorem shiftLetter_one (p : Nat) : shiftLetter p 1 = ((p + 1 : Nat) : Int) := by
  unfold shiftLetter
  rw [if_pos (by decide)]
  omega

theorem shiftLetter_two (p : Nat) : shiftLetter p 2 = ((p + 2 : Nat) : Int) := by
  unfold shiftLetter
  rw [if_pos (by decide)]
  omega

theorem triple_steps {c : Nat} (Pre E : List Nat) (a0 a1 a2 : Nat) (pd1 : PD) (hc : 3 ≤ c) :
    [((Pre.length + 1 : Nat) : Int), ((Pre.length + 2 : Nat) : Int), ((Pre.length + 1 : Nat) : Int)].foldlM closureStep
        (c, Pre ++ [a0, a1, a2] ++ E, pd1)
      = .ok (c + 6, Pre ++ [c + 4, c + 5, c + 3] ++ E,
          pd1 ++ [(a0, c, c + 1, a1), (c + 1, c + 2, c + 3, a2), (c, c + 4, c + 5, c + 2)]) ∧
    [((Pre.length + 2 : Nat) : Int), ((Pre.length + 1 : Nat) : Int), ((Pre.length + 2 : Nat) : Int)].foldlM closureStep
        (c, Pre ++ [a0, a1, a2] ++ E, pd1)
      = .ok (c + 6, Pre ++ [c + 2, c + 4, c + 5] ++ E,
          pd1 ++ [(a1, c, c + 1, a2), (a0, c + 2, c + 3, c), (c + 3, c + 4, c + 5, c + 1)]) := by
  have hL := win_run [1, 2, 1] 3 (9, [7, 8, 6], [(0, 3, 4, 1), (4, 5, 6, 2), (3, 7, 8, 5)]) rfl Pre [a0, a1, a2] E rfl c hc pd1
  have hR := win_run [2, 1, 2] 3 (9, [5, 7, 8], [(1, 3, 4, 2), (0, 5, 6, 3), (6, 7, 8, 4)]) rfl Pre [a0, a1, a2] E rfl c hc pd1
  simp only [List.map_cons, List.map_nil, shiftLetter_one, shiftLetter_two, map4, rhoW, List.length_cons, List.length_nil,
    Nat.reduceAdd, Nat.reduceLT, Nat.reduceSub, if_true, if_false, List.getD_cons_zero, List.getD_cons_succ,
    Nat.add_zero] at hL hR
  exact ⟨hL, hR⟩

theorem map_tau_lt (c : Nat) (l : List Nat) (h : ∀ z ∈ l, z < c) : l.map (tau c) = l := by
  rw [List.map_congr_left (fun z hz => tau_lt c z (by have := h z hz; omega)), List.map_id']

theorem triple_window {c : Nat} {bot : List Nat} {pd1 : PD} (p : Nat) (rest : List Int) (m : Nat × List Nat × PD)
    (h : (((p + 1 : Nat) : Int) :: ((p + 2 : Nat) : Int) :: rest).foldlM closureStep (c, bot, pd1) = .ok m) :
    ∃ Pre a0 a1 a2 E, bot = Pre ++ [a0, a1, a2] ++ E ∧ Pre.length = p := by
  obtain ⟨q, hq, h⟩ := foldlM_cons_ok.1 h
  obtain ⟨q2, hq2, _⟩ := foldlM_cons_ok.1 h
  obtain ⟨_, _, _, _, _, _, _, rfl⟩ := step_explicit hq
  obtain ⟨_, _, _, _, hb, _⟩ := step_explicit hq2
  have hb' : p + 2 < bot.length := by
    have : ((p + 2 : Nat) : Int).natAbs - 1 + 1 = p + 2 := by omega
    rw [this] at hb
    simpa using hb
  obtain ⟨Pre, win, E, rfl, hPre, hwin⟩ := exists_window bot p 3 (by omega)
  match win, hwin with
  | [a0, a1, a2], _ => exact ⟨Pre, a0, a1, a2, E, rfl, hPre⟩

theorem two_le_count {l : List Nat} {z : Nat} (i j : Nat) (hij : i < j) (hi : l[i]? = some z) (hj : l[j]? = some z) :
    2 ≤ l.count z := by
  obtain ⟨hi', ei⟩ := List.getElem?_eq_some_iff.1 hi
  obtain ⟨hj', ej⟩ := List.getElem?_eq_some_iff.1 hj
  rw [← List.duplicate_iff_two_le_count, List.duplicate_iff_exists_distinct_get]
  exact ⟨⟨i, hi'⟩, ⟨j, hj'⟩, hij, ei.symm, ej.symm⟩

theorem rho9_inner_inj (a0 a1 a2 c : Nat) (h0 : a0 < c) (h1 : a1 < c) (h2 : a2 < c) :
    ∀ u ∈ all9, ∀ v ∈ inn3, rho9 a0 a1 a2 (c + 2) (c + 4) (c + 5) c (c + 1) (c + 3) u
      = rho9 a0 a1 a2 (c + 2) (c + 4) (c + 5) c (c + 1) (c + 3) v → u = v := by
  intro u hu v hv e
  simp only [all9, inn3, List.mem_cons, List.not_mem_nil, or_false] at hu hv
  refine getD_append_inj [a0, a1, a2, c + 2, c + 4, c + 5] [c, c + 1, c + 3] ?_ (by simp) u v ?_ ?_ ?_ e
  · simp only [List.mem_cons, List.not_mem_nil, or_false]
    omega
  all_goals
    simp only [List.length_cons, List.length_nil]
    omega

/-- the labels `c, c+1, c+2` occur twice in the left triple, hence nowhere else in a state of the closure loop -/
theorem triple_used {n c cO : Nat} {botO : List Nat} {pd1 pd2 : PD} {a0 a1 a2 : Nat} (hnc : n ≤ c)
    (hIO : CInv n (cO, botO, pd1 ++ [(a0, c, c + 1, a1), (c + 1, c + 2, c + 3, a2), (c, c + 4, c + 5, c + 2)] ++ pd2)) :
    ∀ z, z = c ∨ z = c + 1 ∨ z = c + 2 → z ∉ flatPD pd2 ∧ z ∉ botO := by
  intro z hz
  have hcnt := hIO.cnt z
  simp only at hcnt
  rw [C18.flatPD_append, C18.flatPD_append, List.count_append, List.count_append,
    if_neg (by omega : ¬ z < n)] at hcnt
  have h3 : 2 ≤ List.count z (flatPD [(a0, c, c + 1, a1), (c + 1, c + 2, c + 3, a2), (c, c + 4, c + 5, c + 2)]) := by
    rcases hz with rfl | rfl | rfl
    · exact two_le_count 1 8 (by decide) rfl rfl
    · exact two_le_count 2 4 (by decide) rfl rfl
    · exact two_le_count 5 11 (by decide) rfl rfl
  have : List.count z (flatPD pd2) = 0 ∧ List.count z botO = 0 := by
    split at hcnt <;> omega
  exact ⟨List.count_eq_zero.1 this.1, List.count_eq_zero.1 this.2⟩

theorem r3_pos_stateSum (x y : R) (hxy : 1 + x * y + x ^ 2 = 0) (n p : Nat) (w1 w2 : List Int) (l l' : C18.Link)
    (h : closure n (w1 ++ [((p + 1 : Nat) : Int), ((p + 2 : Nat) : Int), ((p + 1 : Nat) : Int)] ++ w2) = .ok l)
    (h' : closure n (w1 ++ [((p + 2 : Nat) : Int), ((p + 1 : Nat) : Int), ((p + 2 : Nat) : Int)] ++ w2) = .ok l') :
    stateSum x y (toKh l') = stateSum x y (toKh l) := by
  obtain ⟨⟨c, bot, pd1⟩, mO, mN, ⟨cO, botO, pdO⟩, hI1, hmO, hmN, hf2O, hIO, hsO, hN⟩ :=
    closure_mid_pair x y n w1 [((p + 1 : Nat) : Int), ((p + 2 : Nat) : Int), ((p + 1 : Nat) : Int)]
      [((p + 2 : Nat) : Int), ((p + 1 : Nat) : Int), ((p + 2 : Nat) : Int)] w2 l l' h h'
  obtain ⟨hnd, hlt, hpdlt, _⟩ := cinv_facts hI1
  simp only at hlt hpdlt
  have hnc : n ≤ c := hI1.le
  obtain ⟨Pre, a0, a1, a2, E, hbot, rfl⟩ := triple_window _ _ mO hmO
  have hc3 : 3 ≤ c := by
    have := hI1.len
    simp only [hbot, List.length_append, List.length_cons, List.length_nil] at this
    omega
  rw [hbot] at hmO hmN
  obtain ⟨tL, tR⟩ := triple_steps (c := c) Pre E a0 a1 a2 pd1 hc3
  rw [tL] at hmO; rw [tR] at hmN
  cases hmO; cases hmN
  have h0c : a0 < c := hlt _ (by simp [hbot])
  have h1c : a1 < c := hlt _ (by simp [hbot])
  have h2c : a2 < c := hlt _ (by simp [hbot])
  obtain ⟨v1, v2, v3, v4⟩ := tau_vals c
  obtain ⟨pd2, hpd, hsN⟩ := hN (tau c) 0 (tau_ge c) rfl (by
    simp only [List.map_append, List.map_cons, List.map_nil, v2, v3, v4,
      map_tau_lt c Pre (fun z hz => hlt z (by simp [hbot, hz])), map_tau_lt c E (fun z hz => hlt z (by simp [hbot, hz]))])
  simp only at hpd hsO hsN hIO ⊢
  subst hpd
  have hused := triple_used hnc hIO
  have hlenO : botO.length = n := hIO.len
  have hρ : ∀ k, rho9 a0 a1 a2 (c + 2) (c + 4) (c + 5) c (c + 1) (c + 3) k
      = [a0, a1, a2, c + 2, c + 4, c + 5, c, c + 1, c + 3].getD k 0 := fun _ => rfl
  have hl : TripLabels (rho9 a0 a1 a2 (c + 2) (c + 4) (c + 5) c (c + 1) (c + 3))
      (rawLinkP (pd1 ++ pd2.map (map4 (tau c))) (botO.map (tau c)).zipIdx) := by
    constructor
    · exact rho9_inner_inj a0 a1 a2 c h0c h1c h2c
    · intro v hv
      -- a label of the rest of the right-hand diagram that is `c`, `c+1` or `c+3` would be `tau c z'` for a used-up `z'`
      have key : ∀ z, z ∈ labelSet (rawLinkP (pd1 ++ pd2.map (map4 (tau c))) (botO.map (tau c)).zipIdx) →
          ¬ (z = c ∨ z = c + 1 ∨ z = c + 3) := by
        intro z hz
        rw [mem_labelSet_rawLinkP, C18.flatPD_append, List.mem_append, flatPD_map4] at hz
        rcases hz with (hz | hz) | ⟨q, hq, hz⟩
        · have := hpdlt z hz; omega
        · obtain ⟨z', hz', rfl⟩ := List.mem_map.1 hz
          exact fun e => (hused z' (tau_inner c z' e)).1 hz'
        · rw [List.zipIdx_map, List.mem_map] at hq
          obtain ⟨q', hq', rfl⟩ := hq
          obtain ⟨_, hq2, hq1⟩ := List.mem_zipIdx (x := q'.1) (i := q'.2) (k := 0) hq'
          rcases hz with rfl | rfl
          · exact fun e => (hused _ (tau_inner c _ e)).2 (hq1 ▸ List.getElem_mem _)
          · simp only [Prod.map, id]; omega
      simp only [inn3, List.mem_cons, List.mem_nil_iff, or_false] at hv
      intro hmem
      have := key _ hmem
      rcases hv with rfl | rfl | rfl <;> simp [rho9] at this
  rw [hsN, hsO, stateSum_relabel x y (tau_inj c) _ botO (fun k hk => tau_lt c k (by omega))]
  have hpdm : (pd1 ++ [(a0, c, c + 1, a1), (c + 1, c + 2, c + 3, a2), (c, c + 4, c + 5, c + 2)] ++ pd2).map (map4 (tau c))
      = pd1 ++ [map4 (rho9 a0 a1 a2 (c + 2) (c + 4) (c + 5) c (c + 1) (c + 3)) (0, 6, 7, 1),
          map4 (rho9 a0 a1 a2 (c + 2) (c + 4) (c + 5) c (c + 1) (c + 3)) (7, 8, 5, 2),
          map4 (rho9 a0 a1 a2 (c + 2) (c + 4) (c + 5) c (c + 1) (c + 3)) (6, 3, 4, 8)] ++ pd2.map (map4 (tau c)) := by
    simp only [List.map_append, List.map_cons, List.map_nil]
    rw [map4_fix _ pd1 (fun z hz => tau_lt c z (by have := hpdlt z hz; omega))]
    simp only [map4, hρ, tau_lt c a0 (by omega), tau_lt c a1 (by omega), tau_lt c a2 (by omega), tau_lt c c (by omega),
      tau_lt c (c + 1) (by omega), v1, v2, v3, v4]
    rfl
  rw [hpdm]
  refine (trip_eq x y hxy (WF_rawLinkP _ _) hl (rawLinkP_perm_mid _ [_, _, _] _ _) ?_).symm
  exact rawLinkP_perm_mid pd1 [_, _, _] (pd2.map (map4 (tau c))) _

end Yuiv.C04Inv
