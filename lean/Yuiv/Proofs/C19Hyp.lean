import Yuiv.Proofs.C19Inv
import Yuiv.Proofs.C19ConeDefs
import Yuiv.Proofs.C06CycleCirc
/-
C19Hyp — (G1) for a valid planar-diagram code (`ValidPD`) the matching relation of `InvLink::new` is symmetric, and for a
connected one (`ConnectedPD`) with at least three crossings a crossing is determined by its label set; (G2) the circles of
a state go bijectively to the circles of another state, from a condition on the arcs only (`ArcCompat`).
-/
namespace Yuiv.C19Hyp
open Yuiv.KhRef Yuiv.C19Inv

def ValidPD (xs : List Crossing) : Prop :=
  (∀ x ∈ xs, x.e.toList.length = 4) ∧ ∀ e ∈ edgesOf xs, (edgesOf xs).count e = 2

theorem validPD_of_validKB (l : Link) (h : C19Cone.validKB l = true) : ValidPD l.toList := by
  unfold C19Cone.validKB at h
  simp only [Bool.and_eq_true, List.all_eq_true, beq_iff_eq] at h
  obtain ⟨h1, h2⟩ := h
  refine ⟨?_, fun e he => h2 e he⟩
  intro x hx
  have := (Array.all_eq_true_iff_forall_mem.1 h1) x (by simpa using hx)
  simpa using this

theorem edgesOf_cons (x : Crossing) (r : List Crossing) : edgesOf (x :: r) = x.e.toList ++ edgesOf r := by
  simp [edgesOf]

theorem count_split (xs : List Crossing) (x : Crossing) (hx : x ∈ xs) (e : Nat) :
    (edgesOf xs).count e = x.e.toList.count e + (edgesOf (xs.erase x)).count e := by
  have hp : (edgesOf xs).Perm (edgesOf (x :: xs.erase x)) := by
    unfold edgesOf
    exact (List.perm_cons_erase hx).flatMap_right _
  rw [hp.count_eq, edgesOf_cons, List.count_append]

theorem count_le_of_mem (xs : List Crossing) (x : Crossing) (hx : x ∈ xs) (e : Nat) :
    x.e.toList.count e ≤ (edgesOf xs).count e := by
  rw [count_split xs x hx e]; omega

theorem not_mem_of_twice (xs : List Crossing) (hv : ValidPD xs) (x y : Crossing) (hx : x ∈ xs) (hy : y ∈ xs)
    (hne : y ≠ x) (e : Nat) (h2 : 2 ≤ x.e.toList.count e) : e ∉ y.e.toList := by
  intro hey
  have hmem : e ∈ edgesOf xs := (mem_edgesOf xs e).2 ⟨y, hy, hey⟩
  have h := hv.2 e hmem
  rw [count_split xs x hx e] at h
  have hy' : y ∈ xs.erase x := (List.mem_erase_of_ne hne).2 hy
  have := count_le_of_mem (xs.erase x) y hy' e
  have : 1 ≤ y.e.toList.count e := List.count_pos_iff.2 hey
  omega

theorem not_mem_third (xs : List Crossing) (hv : ValidPD xs) (x y z : Crossing) (hx : x ∈ xs) (hy : y ∈ xs) (hz : z ∈ xs)
    (hxy : y ≠ x) (hzx : z ≠ x) (hzy : z ≠ y) (e : Nat) (hex : e ∈ x.e.toList) (hey : e ∈ y.e.toList) :
    e ∉ z.e.toList := by
  intro hez
  have hmem : e ∈ edgesOf xs := (mem_edgesOf xs e).2 ⟨y, hy, hey⟩
  have h := hv.2 e hmem
  rw [count_split xs x hx e] at h
  have hy' : y ∈ xs.erase x := (List.mem_erase_of_ne hxy).2 hy
  have hz' : z ∈ xs.erase x := (List.mem_erase_of_ne hzx).2 hz
  rw [count_split (xs.erase x) y hy' e] at h
  have hz'' : z ∈ (xs.erase x).erase y := (List.mem_erase_of_ne hzy).2 hz'
  have := count_le_of_mem _ z hz'' e
  have : 1 ≤ x.e.toList.count e := List.count_pos_iff.2 hex
  have : 1 ≤ y.e.toList.count e := List.count_pos_iff.2 hey
  have : 1 ≤ z.e.toList.count e := List.count_pos_iff.2 hez
  omega

theorem mt_symm_of_valid (xs : List Crossing) (f : Nat → Nat) (hv : ValidPD xs)
    (hinv : ∀ e ∈ edgesOf xs, f (f e) = e)
    (hm : ∀ x ∈ xs, ∃ y ∈ xs, Mt f x y) :
    ∀ x ∈ xs, ∀ y ∈ xs, Mt f x y → Mt f y x := by
  intro x hx y hy hxy
  have hE : ∀ a ∈ x.e.toList, a ∈ edgesOf xs := fun a ha => (mem_edgesOf _ a).2 ⟨x, hx, ha⟩
  by_cases hnd : x.e.toList.Nodup
  · -- four distinct labels: cardinalities
    apply Mt_symm_of_card f x y _ (fun a ha => hinv a (hE a ha)) _ hxy
    · intro a ha b hb hab
      rw [← hinv a (hE a ha), ← hinv b (hE b hb), hab]
    · rw [List.toFinset_card_of_nodup hnd, hv.1 x hx]
      calc y.e.toList.toFinset.card ≤ y.e.toList.length := List.toFinset_card_le _
        _ = 4 := hv.1 y hy
  · -- a repeated label `e`: the match of `y` contains `e`, hence is `x`
    rw [List.nodup_iff_count_le_one] at hnd
    simp only [not_forall, not_le] at hnd
    obtain ⟨e, he2⟩ := hnd
    have hex : e ∈ x.e.toList := List.count_pos_iff.1 (by omega)
    obtain ⟨y', hy', hyy'⟩ := hm y hy
    have : e ∈ y'.e.toList := by
      have := hyy' (f e) (hxy e hex)
      rwa [hinv e (hE e hex)] at this
    have hy'x : y' = x := by
      by_contra hne
      exact not_mem_of_twice xs hv x y' hx hy' hne e he2 this
    rw [← hy'x]; exact hyy'

/-- the diagram is connected: a non-empty set of crossings closed under "shares a label with" is everything -/
def ConnectedPD (xs : List Crossing) : Prop :=
  ∀ S : Crossing → Prop, (∃ x ∈ xs, S x) →
    (∀ x ∈ xs, ∀ y ∈ xs, S x → (∃ e ∈ x.e.toList, e ∈ y.e.toList) → S y) → ∀ x ∈ xs, S x

theorem twins_closed (xs : List Crossing) (hv : ValidPD xs) (x y : Crossing) (hx : x ∈ xs) (hy : y ∈ xs) (hne : y ≠ x)
    (hsame : ∀ e, e ∈ x.e.toList ↔ e ∈ y.e.toList) :
    ∀ z ∈ xs, (∃ e ∈ x.e.toList, e ∈ z.e.toList) → z = x ∨ z = y := by
  intro z hz ⟨e, hex, hez⟩
  by_contra hcon
  rw [not_or] at hcon
  exact not_mem_third xs hv x y z hx hy hz hne hcon.1 hcon.2 e hex ((hsame e).1 hex) hez

theorem distinct_of_connected (xs : List Crossing) (hv : ValidPD xs) (hc : ConnectedPD xs) (hnd : xs.Nodup)
    (h3 : 3 ≤ xs.length) :
    ∀ x ∈ xs, ∀ y ∈ xs, (∀ e, e ∈ x.e.toList ↔ e ∈ y.e.toList) → x = y := by
  intro x hx y hy hsame
  by_contra hne
  have hne' : y ≠ x := fun h => hne h.symm
  have hall := hc (fun z => z = x ∨ z = y) ⟨x, hx, Or.inl rfl⟩ (by
    intro a ha b hb hS hshare
    rcases hS with rfl | rfl
    · exact twins_closed xs hv a y ha hy hne' hsame b hb hshare
    · obtain ⟨e, hea, heb⟩ := hshare
      exact twins_closed xs hv x a hx ha hne' hsame b hb ⟨e, (hsame e).2 hea, heb⟩)
  have hsub : xs ⊆ [x, y] := by
    intro z hz
    rcases hall z hz with rfl | rfl <;> simp
  have := (List.subperm_of_subset hnd hsub).length_le
  simp at this
  omega

open Yuiv.C04Inv Yuiv.C06Cycle

theorem circle_nonempty {labels : Array Nat} {P : List (Nat × Nat)} {cs : Array (Array Nat)}
    (h : CirclesSpec labels P cs) (i : Nat) (hi : i < cs.size) : ∃ x, x ∈ cs[i]! ∧ x ∈ labels := by
  obtain ⟨x, hx, p, hp, hq⟩ := h.rep i hi
  refine ⟨x, ?_, hx⟩
  have : x ∈ (cs[i]!).toList := by
    rw [hp]; exact List.mem_filter.2 ⟨by simpa using hx, (hq x hx).2 (Conn.refl x)⟩
  simpa using this

theorem circle_image {labels : Array Nat} {P Q : List (Nat × Nat)} {cs ct : Array (Array Nat)}
    (hs : CirclesSpec labels P cs) (ht : CirclesSpec labels Q ct) (f : Nat → Nat)
    (hlab : ∀ x, x ∈ labels → f x ∈ labels) (hinv : ∀ x, x ∈ labels → f (f x) = x)
    (hPQ : ∀ p ∈ P, Conn Q (f p.1) (f p.2)) (hQP : ∀ p ∈ Q, Conn P (f p.1) (f p.2))
    (i : Nat) (hi : i < cs.size) :
    ∃ j, j < ct.size ∧ ∀ y, y ∈ ct[j]! ↔ ∃ x, x ∈ cs[i]! ∧ f x = y := by
  obtain ⟨x, hx, hxl⟩ := circle_nonempty hs i hi
  obtain ⟨j, hj, hfx⟩ := ht.cover (f x) (hlab x hxl)
  refine ⟨j, hj, fun y => ⟨fun hy => ?_, ?_⟩⟩
  · have hyl := ht.mem_labels hj hy
    have hc := Conn.lift f hQP (ht.conn_of_mem hj hfx hy)
    rw [hinv x hxl] at hc
    exact ⟨f y, hs.mem_of_conn hi hx (hlab y hyl) hc, hinv y hyl⟩
  · rintro ⟨x', hx', rfl⟩
    have hx'l := hs.mem_labels hi hx'
    exact ht.mem_of_conn hj hfx (hlab x' hx'l) (Conn.lift f hPQ (hs.conn_of_mem hi hx hx'))

theorem circle_bij {labels : Array Nat} {P Q : List (Nat × Nat)} {cs ct : Array (Array Nat)}
    (hs : CirclesSpec labels P cs) (ht : CirclesSpec labels Q ct) (f : Nat → Nat)
    (hlab : ∀ x, x ∈ labels → f x ∈ labels) (hinv : ∀ x, x ∈ labels → f (f x) = x)
    (hPQ : ∀ p ∈ P, Conn Q (f p.1) (f p.2)) (hQP : ∀ p ∈ Q, Conn P (f p.1) (f p.2)) :
    ∃ σ : Nat → Nat,
      (∀ i, i < cs.size → σ i < ct.size ∧ ∀ y, y ∈ ct[σ i]! ↔ ∃ x, x ∈ cs[i]! ∧ f x = y) ∧
      (∀ i j, i < cs.size → j < cs.size → σ i = σ j → i = j) ∧
      (∀ j, j < ct.size → ∃ i, i < cs.size ∧ σ i = j) := by
  have h1 := circle_image hs ht f hlab hinv hPQ hQP
  have h2 := circle_image ht hs f hlab hinv hQP hPQ
  choose! σ hσ using h1
  refine ⟨σ, hσ, ?_, ?_⟩
  · intro i j hi hj hij
    obtain ⟨x, hx, _⟩ := circle_nonempty hs i hi
    obtain ⟨x', hx', _⟩ := circle_nonempty hs j hj
    have a : f x ∈ ct[σ i]! := ((hσ i hi).2 _).2 ⟨x, hx, rfl⟩
    have b : f x' ∈ ct[σ j]! := ((hσ j hj).2 _).2 ⟨x', hx', rfl⟩
    rw [← hij] at b
    have hc := Conn.lift f hQP (ht.conn_of_mem (hσ i hi).1 a b)
    rw [hinv x (hs.mem_labels hi hx), hinv x' (hs.mem_labels hj hx')] at hc
    exact hs.sep i j hi hj x x' hx hx' hc
  · intro j hj
    obtain ⟨i, hi, hc⟩ := h2 j hj
    obtain ⟨y, hy, hyl⟩ := circle_nonempty ht j hj
    refine ⟨i, hi, ?_⟩
    have hfy : f y ∈ cs[i]! := (hc _).2 ⟨y, hy, rfl⟩
    have : y ∈ ct[σ i]! := ((hσ i hi).2 y).2 ⟨f y, hfy, hinv y hyl⟩
    exact ht.sep (σ i) j (hσ i hi).1 hj y y this hy (Conn.refl y)

theorem size_eq_of_bij (n m : Nat) (σ : Nat → Nat) (h1 : ∀ i, i < n → σ i < m)
    (h2 : ∀ i j, i < n → j < n → σ i = σ j → i = j) (h3 : ∀ j, j < m → ∃ i, i < n ∧ σ i = j) : n = m := by
  have hle : n ≤ m := by
    have := Finset.card_le_card_of_injOn σ (s := Finset.range n) (t := Finset.range m)
      (fun i hi => by simpa using h1 i (by simpa using hi))
      (fun i hi j hj hij => h2 i j (by simpa using hi) (by simpa using hj) hij)
    simpa using this
  have hge : m ≤ n := by
    have : Finset.range m ⊆ (Finset.range n).image σ := by
      intro j hj
      obtain ⟨i, hi, rfl⟩ := h3 j (by simpa using hj)
      exact Finset.mem_image.2 ⟨i, by simpa using hi, rfl⟩
    have := (Finset.card_le_card this).trans Finset.card_image_le
    simpa using this
  omega

/-- LOCAL compatibility of the label map `f` with the crossing permutation `π` (positions in the data array): for every
crossing `i` and both smoothings `b`, the two arcs of the `b`-smoothing of crossing `i` go to arcs (either direction) of the
`b`-smoothing of crossing `π i`.  One condition per crossing; decidable. -/
def ArcCompat (l : Link) (f : Nat → Nat) (π : Nat → Nat) : Prop :=
  ∀ i, i < l.size → ∀ b : Bool, ∀ p ∈ arcs l[i]! ((l[i]!).ct.resolve b),
    (f p.1, f p.2) ∈ arcs l[π i]! ((l[π i]!).ct.resolve b) ∨ (f p.2, f p.1) ∈ arcs l[π i]! ((l[π i]!).ct.resolve b)

def arcCompatB (l : Link) (f : Nat → Nat) (π : Nat → Nat) : Bool :=
  (List.range l.size).all (fun i => [false, true].all (fun b =>
    (arcs l[i]! ((l[i]!).ct.resolve b)).all (fun p =>
      (arcs l[π i]! ((l[π i]!).ct.resolve b)).contains (f p.1, f p.2) ||
      (arcs l[π i]! ((l[π i]!).ct.resolve b)).contains (f p.2, f p.1))))

theorem arcs_into (l : Link) (hun : ∀ c ∈ l.toList, c.ct.isResolved = false) (f π : Nat → Nat)
    (hπ : ∀ i, i < l.size → π i < l.size) (hc : ArcCompat l f π) (s t : Nat)
    (hbits : ∀ i, i < l.size → t.testBit (π i) = s.testBit i) :
    ∀ p ∈ statePairs l s, Conn (statePairs l t) (f p.1) (f p.2) := by
  intro p hp
  obtain ⟨i, hi, h3⟩ := (mem_statePairs_unres l hun s p).1 hp
  have hmem : ∀ q, q ∈ arcs l[π i]! ((l[π i]!).ct.resolve (s.testBit i)) → q ∈ statePairs l t := fun q hq =>
    (mem_statePairs_unres l hun t q).2 ⟨π i, hπ i hi, by rw [hbits i hi]; exact hq⟩
  rcases hc i hi (s.testBit i) p h3 with h | h
  · exact Conn.of_mem (hmem _ h)
  · exact (Conn.of_mem (hmem _ h)).symm

/-- the state `τ s` of a crossing permutation `π` of `0..n`: bit `π i` of it is bit `i` of `s` (the shape of `C19.tState`) -/
def permState (n : Nat) (π : Nat → Nat) (s : Nat) : Nat := tauMask ((Array.range n).map π) s

theorem permState_bits (n : Nat) (π : Nat → Nat) (s : Nat) (hπ : ∀ i, i < n → π i < n ∧ π (π i) = i) :
    BitsVia n π s (permState n π s) := by
  have hget : ∀ i, i < n → ((Array.range n).map π)[i]! = π i := by
    intro i hi
    rw [getElem!_pos _ i (by simpa using hi)]
    simp
  have hh : ∀ i < n, ((Array.range n).map π)[i]! < n ∧ ((Array.range n).map π)[((Array.range n).map π)[i]!]! = i := by
    intro i hi
    rw [hget i hi, hget _ (hπ i hi).1]
    exact hπ i hi
  intro j
  rw [permState, tauMask_bit_of_inverse _ ((Array.range n).map π) n s j (by simp) hh hh]
  by_cases hj : j < n
  · rw [hget j hj]
  · simp [hj]

theorem permState_spec (n : Nat) (π : Nat → Nat) (s : Nat) (hπ : ∀ i, i < n → π i < n) (hππ : ∀ i, i < n → π (π i) = i) :
    permState n π s < 2 ^ n ∧ ∀ i, i < n → (permState n π s).testBit (π i) = s.testBit i := by
  have B := permState_bits n π s (fun i hi => ⟨hπ i hi, hππ i hi⟩)
  exact ⟨B.lt, fun i hi => by rw [B (π i)]; simp [hπ i hi, hππ i hi]⟩

theorem crossingNum_eq_size (l : Link) (hun : ∀ c ∈ l.toList, c.ct.isResolved = false) : crossingNum l = l.size := by
  unfold crossingNum
  rw [← Array.length_toList, Array.toList_filter, List.filter_eq_self.2]
  · simp
  · intro c hc
    simp [hun c hc]

end Yuiv.C19Hyp
