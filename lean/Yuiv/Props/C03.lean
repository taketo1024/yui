import Yuiv.Model.C03
/-
C03 — tables over ℤ, ℚ, 𝔽₂, 𝔽₃ are mutually consistent.

Proved here (about the code model of `collect_gen_info` / `into_bigraded` and the universal-coefficient
formula): (1) when every reported generator is q-homogeneous the derived bigraded table is exactly the table
that places each generator in its own bidegree; (2) without homogeneity the statement is FALSE: the concrete
complex ℤ² → ℤ², d = diag(2,3), q-degrees (0,2) — total homology merges to ℤ/6 with a non-homogeneous
generator and the code places ℤ/6 in one bidegree where the truth is ℤ/2 ⊕ ℤ/3 in two (this is finding F5,
realised by the torus knot T(6,7) in the real code); (3) for diagonal(ised) complexes the 𝔽_p dimensions
are given by the universal-coefficient count the property states.
The universal-coefficient count for arbitrary integer complexes is in `Props/C03Uct.lean`; "SNF generators are
homogeneous" is NOT proved; the identities are explored on every generated link by the harness.
-/
namespace Yuiv.C03

/-- a generator is q-homogeneous when all terms of its representative have the same quantum degree -/
def Homogeneous (g : GenInfo) : Prop := ∀ q ∈ g.qs, ∀ q' ∈ g.qs, q = q'

theorem qDeg_mem (qs : List Int) (h : qs ≠ []) : qDeg qs ∈ qs := by
  cases qs with
  | nil => exact absurd rfl h
  | cons q rest =>
    simp only [qDeg]
    suffices ∀ (l : List Int) (a : Int), l.foldl min a = a ∨ l.foldl min a ∈ l by
      rcases this rest q with h | h
      · simp [h]
      · simp [h]
    intro l
    induction l with
    | nil => intro a; simp
    | cons b l ih =>
      intro a
      simp only [List.foldl_cons, List.mem_cons]
      rcases ih (min a b) with h | h
      · rw [h]
        rcases Int.le_total a b with hab | hab
        · left; omega
        · right; left; omega
      · right; right; exact h

/-- for a homogeneous generator the code's `q_deg` (minimum) is the common degree of all its terms -/
theorem qDeg_of_homogeneous (g : GenInfo) (hg : Homogeneous g) (q : Int) (hq : q ∈ g.qs) :
    qDeg g.qs = q := by
  have hne : g.qs ≠ [] := by intro h; simp [h] at hq
  exact hg _ (qDeg_mem g.qs hne) _ hq

/-- (1) if every generator is q-homogeneous, the bigraded table derived from the total homology is the
table that places each generator at the degree of (any of) its terms -/
theorem collect_correct_of_homogeneous (h : List (Int × List GenInfo)) (deg : GenInfo → Int)
    (hh : ∀ ig ∈ h, ∀ g ∈ ig.2, Homogeneous g ∧ (∀ q ∈ g.qs, deg g = q) ∧ (g.qs = [] → deg g = 0)) :
    collect h = placeAll h deg := by
  unfold collect placeAll
  suffices ∀ (t : Table), h.foldl (fun t ig => collectAt ig.1 ig.2 t) t =
      h.foldl (fun t ig => ig.2.foldl (fun t g =>
        t.bump (ig.1, deg g) (fun c => match g.order with
          | none => ⟨c.rank + 1, c.tors⟩
          | some a => ⟨c.rank, c.tors ++ [a]⟩)) t) t from this []
  induction h with
  | nil => intro t; rfl
  | cons ig rest ih =>
    intro t
    simp only [List.foldl_cons]
    have hrest : ∀ ig' ∈ rest, ∀ g ∈ ig'.2, Homogeneous g ∧ (∀ q ∈ g.qs, deg g = q) ∧ (g.qs = [] → deg g = 0) :=
      fun ig' hi => hh ig' (List.mem_cons_of_mem _ hi)
    have hig := hh ig (List.mem_cons_self)
    have : collectAt ig.1 ig.2 t = ig.2.foldl (fun t g =>
        t.bump (ig.1, deg g) (fun c => match g.order with
          | none => ⟨c.rank + 1, c.tors⟩
          | some a => ⟨c.rank, c.tors ++ [a]⟩)) t := by
      unfold collectAt
      generalize ig.2 = gs at hig
      induction gs generalizing t with
      | nil => rfl
      | cons g gs ihg =>
        simp only [List.foldl_cons]
        have hg := hig g (List.mem_cons_self)
        have hq : qDeg g.qs = deg g := by
          cases hqs : g.qs with
          | nil => simp [qDeg, hg.2.2 hqs]
          | cons q r =>
            have hm : q ∈ g.qs := by simp [hqs]
            rw [← hqs, qDeg_of_homogeneous g hg.1 q hm, hg.2.1 q hm]
        rw [hq]
        exact ihg _ (fun g' hg' => hig g' (List.mem_cons_of_mem _ hg'))
    rw [this]
    exact ih hrest _

/-- (2) the unrestricted statement is false: d = diag(2,3) with q-degrees (0,2).
Total homology: one torsion generator of order 6 represented by e₁+e₂ (terms in q = 0 and q = 2);
the code puts ℤ/6 at (1,0); the homology of the q-pieces is ℤ/2 at (1,0) and ℤ/3 at (1,2). -/
theorem collect_counterexample :
    let total : List (Int × List GenInfo) := [(1, [⟨some 6, [0, 2]⟩])]
    let pieces : List (Int × List GenInfo) := [(1, [⟨some 2, [0]⟩, ⟨some 3, [2]⟩])]
    collect total = [((1, 0), ⟨0, [6]⟩)] ∧
    collect pieces = [((1, 0), ⟨0, [2]⟩), ((1, 2), ⟨0, [3]⟩)] ∧
    collect total ≠ collect pieces := by
  decide

/-- (3) universal coefficients on diagonal complexes ℤⁿ --diag(a)--> ℤⁿ (degrees 0 → 1): the count the property
states, `rank + #{p | torsion in this degree} + #{p | torsion in the next degree}`, gives
dim H⁰ = dim H¹ = #{k : p ∣ aₖ} = corank of `diag(a)` over 𝔽_p, for every modulus `p ≥ 2` and every `a`. -/
theorem dimFp_diag (p : Int) (hp : 2 ≤ p) (a : List Int) :
    let hz := diagHomologyZ a
    let cnt : List Int → Nat := fun ts => (ts.filter (fun x => x % p == 0)).length
    hz.1.rank + cnt hz.1.tors + cnt hz.2.tors = diagDimFp p a ∧
    hz.2.rank + cnt hz.2.tors + cnt [] = diagDimFp p a := by
  simp only [diagHomologyZ, diagDimFp]
  have key : ∀ l : List Int,
      (l.filter (· == 0)).length + ((l.filter (fun x => x != 0 ∧ x.natAbs != 1)).filter (fun a => a % p == 0)).length
        = (l.filter (fun x => x % p == 0)).length := by
    intro l
    rw [List.filter_filter]
    induction l with
    | nil => rfl
    | cons x l ih =>
      by_cases hx0 : x = 0
      · subst hx0; simp at ih ⊢; omega
      · by_cases hm : x % p = 0
        · have hx1 : x.natAbs ≠ 1 := by
            intro h1
            have h2 : p.natAbs ∣ x.natAbs := Int.natAbs_dvd_natAbs.mpr (Int.dvd_of_emod_eq_zero hm)
            rw [h1, Nat.dvd_one] at h2
            omega
          simp [hx0, hx1, hm] at ih ⊢; omega
        · simp [hx0, hm] at ih ⊢; omega
  have := key a
  constructor
  · simp at this ⊢; omega
  · simp at this ⊢; omega

/-- non-vacuity of (1): a table with two homogeneous generators in different bidegrees -/
example : collect [(0, [⟨none, [1, 1]⟩, ⟨some 2, [3]⟩])] = [((0, 1), ⟨1, []⟩), ((0, 3), ⟨0, [2]⟩)] := by decide

end Yuiv.C03
