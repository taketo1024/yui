import Yuiv.Proofs.C18
/-
C18 — soundness of the component checker `checkComps`.
-/
namespace Yuiv.C18
open Yuiv

theorem chain_conn_head (l : Link) : ∀ (r : List Nat) (a : Nat), chainOk l (a :: r) = true →
    ∀ x ∈ a :: r, Conn l a x := by
  intro r
  induction r with
  | nil => intro a _ x hx; simp at hx; subst hx; exact Conn.refl _
  | cons b r ih =>
    intro a h x hx
    simp only [chainOk, Bool.and_eq_true] at h
    rcases List.mem_cons.1 hx with rfl | hx'
    · exact Conn.refl _
    · exact (Conn.single h.1).trans (ih b h.2 x hx')

theorem cycle_conn (l : Link) (es : List Nat) (h : cycleOk l es = true) :
    es ≠ [] ∧ ∀ x ∈ es, ∀ y ∈ es, Conn l x y := by
  cases es with
  | nil => simp [cycleOk] at h
  | cons a r =>
    unfold cycleOk at h
    rw [List.head?_cons, List.getLast?_eq_some_getLast (by simp)] at h
    simp only [Bool.and_eq_true] at h
    -- every entry is connected to the first one along the chain, and `Conn` is symmetric
    exact ⟨by simp, fun x hx y hy => (chain_conn_head l r a h.1 x hx).symm.trans (chain_conn_head l r a h.1 y hy)⟩

theorem closed_joined (l : Link) (es : List Nat) (h : closedUnder l es = true) (e e' : Nat)
    (he : e ∈ es) (hj : joined l e e' = true) : e' ∈ es := by
  rw [joined_iff] at hj
  obtain ⟨c, hc, j, hj4, h1, h2⟩ := hj
  unfold closedUnder at h
  rw [List.all_eq_true] at h
  have := h c hc
  rw [List.all_eq_true] at this
  have := this j (List.mem_range.2 hj4)
  rw [h1, h2] at this
  simp only [Bool.or_eq_true, Bool.not_eq_true', List.contains_eq_mem, decide_eq_false_iff_not, decide_eq_true_eq] at this
  rcases this with h3 | h3
  · exact absurd he h3
  · exact h3

theorem closed_conn (l : Link) (es : List Nat) (h : closedUnder l es = true) (e e' : Nat)
    (he : e ∈ es) (hc : Conn l e e') : e' ∈ es := by
  induction hc with
  | refl => exact he
  | tail _ hj ih => exact closed_joined l es h _ _ ih hj

theorem nodupB_iff (xs : List Nat) : nodupB xs = true ↔ xs.Nodup := by
  induction xs with
  | nil => simp [nodupB]
  | cons a r ih => simp [nodupB, ih]

/-- what the checker tests -/
theorem checkComps_iff (l : Link) (comps : List Path) :
    checkComps l comps = true ↔
      (∀ p ∈ comps, p.closed = true ∧ cycleOk l p.edges = true ∧ closedUnder l p.edges = true) ∧
      (comps.flatMap (·.edges)).Nodup ∧ ∀ e, e ∈ allEdges l ↔ e ∈ comps.flatMap (·.edges) := by
  unfold checkComps
  simp only [Bool.and_eq_true, List.all_eq_true, List.contains_eq_mem, decide_eq_true_eq, nodupB_iff, and_assoc]
  exact and_congr_right fun _ => and_congr_right fun _ =>
    ⟨fun h e => ⟨h.1 e, h.2 e⟩, fun h => ⟨fun e => (h e).1, fun e => (h e).2⟩⟩

theorem checkComps_sound' (l : Link) (comps : List Path) (h : checkComps l comps = true) :
    (∀ e, e ∈ allEdges l ↔ ∃ p ∈ comps, e ∈ p.edges) ∧
    (comps.flatMap (·.edges)).Nodup ∧
    (∀ p ∈ comps, p.closed = true ∧ p.edges ≠ [] ∧ ∀ e ∈ p.edges, ∀ e', Conn l e e' ↔ e' ∈ p.edges) := by
  obtain ⟨h1, h2, h3⟩ := (checkComps_iff l comps).1 h
  refine ⟨fun e => (h3 e).trans List.mem_flatMap, h2, fun p hp => ?_⟩
  obtain ⟨hc, hcy, hcl⟩ := h1 p hp
  obtain ⟨hne, hconn⟩ := cycle_conn l p.edges hcy
  exact ⟨hc, hne, fun e he e' => ⟨closed_conn l p.edges hcl e e' he, hconn e he e'⟩⟩

end Yuiv.C18
