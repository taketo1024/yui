import Yuiv.Proofs.C09EucDiag
import Yuiv.Proofs.NumInteger
import Mathlib.Tactic.Linarith
import Mathlib.Tactic.Ring
import Mathlib.Tactic.LinearCombination
/-
ℤ (`intOps`) as an instance of the development for lawful Euclidean operation records, and what is special to ℤ:
 * `intGcdx` (`num_integer::extended_gcd`, normalised) is an extended gcd, so `intOps` is a `LawfulEuc` record;
 * the units `±1` square to `1`, so `eliminate_at` works on ANY non-zero pivot, normalised or not
   (`pivotInv_int`; compare the counterexample over ℤ[i] in `Props/C09Euc.lean`);
 * `diag_normalize` has an explicit fuel bound: `(x, y) ↦ (gcd, lcm)` keeps `|x·y|` and decreases `|x|`, so the sum
   of the prefix products `Σ_k Π_{l<k} |d_l|` strictly decreases with every pass that does not go through.
-/
namespace Yuiv.C09
open Yuiv
variable {m n : Nat}

@[simp] theorem int_add (a b : Int) : intOps.toROps.add a b = a + b := rfl
@[simp] theorem int_mul (a b : Int) : intOps.toROps.mul a b = a * b := rfl
@[simp] theorem int_neg (a : Int) : intOps.toROps.neg a = -a := rfl
@[simp] theorem int_zero : intOps.toROps.zero = 0 := rfl
@[simp] theorem int_one : intOps.toROps.one = 1 := rfl
@[simp] theorem int_quo (a b : Int) : intOps.quo a b = a.tdiv b := rfl
@[simp] theorem int_rem (a b : Int) : intOps.rem a b = a.tmod b := rfl
@[simp] theorem int_isZero (a : Int) : intOps.toROps.isZero a = true ↔ a = 0 := by
  simp [ROps.isZero, intOps]
@[simp] theorem int_isOne (a : Int) : intOps.toROps.isOne a = true ↔ a = 1 := by
  simp [ROps.isOne, intOps]
@[simp] theorem int_isUnit (a : Int) : intOps.isUnit a = true ↔ (a = 1 ∨ a = -1) := by
  simp [intOps]
theorem int_normUnit (a : Int) : intOps.normUnit a = if a < 0 then -1 else 1 := rfl
theorem int_inv (a : Int) : intOps.inv a = if a == 1 || a == -1 then some a else none := rfl
theorem int_dvd (a b : Int) : intOps.dvd a b = true ↔ a ≠ 0 ∧ a ∣ b := by
  simp only [EOps.dvd, Bool.and_eq_true, Bool.not_eq_true', ← Bool.not_eq_true, int_isZero, int_rem]
  exact and_congr_right' Int.dvd_iff_tmod_eq_zero.symm

theorem intGcdx_spec (x y : Int) :
    (intGcdx x y).1 = (intGcdx x y).2.1 * x + (intGcdx x y).2.2 * y ∧ 0 ≤ (intGcdx x y).1 ∧
      (intGcdx x y).1 ∣ x ∧ (intGcdx x y).1 ∣ y := by
  obtain ⟨s, t, e, hb⟩ := NumInteger.c09_gcdx_spec x y
  rw [e]
  exact ⟨by simp only; rw [← hb]; ring, Int.natCast_nonneg _, Int.gcd_dvd_left x y, Int.gcd_dvd_right x y⟩

theorem lawfulEuc_int : LawfulEuc intOps (id : Int → Int) where
  toLawfulE := lawfulE_int
  inv_normUnit a := by
    rw [int_normUnit, int_inv]
    split <;> exact ⟨_, rfl⟩
  normUnit_congr a b h := by
    simp only [id] at h; subst h; rfl
  norm_mul a := by
    simp only [id, int_normUnit, int_mul]
    split <;> split <;> omega
  norm_unique a b ha hb h1 h2 := by
    simp only [id, int_normUnit] at ha hb h1 h2 ⊢
    have ha' : 0 ≤ a := by
      by_contra hlt; rw [if_pos (by omega)] at ha; omega
    have hb' : 0 ≤ b := by
      by_contra hlt; rw [if_pos (by omega)] at hb; omega
    exact Int.dvd_antisymm ha' hb' h1 h2
  isUnit_iff a := by
    rw [int_isUnit, id, Int.isUnit_iff]
  div_rem a b _ := by
    simp only [id, int_quo, int_rem]
    have := Int.tmod_add_mul_tdiv a b
    linarith
  size_rem a b hb := by
    show (a.tmod b).natAbs < b.natAbs
    rw [Int.natAbs_tmod]
    exact Nat.mod_lt _ (Int.natAbs_pos.2 hb)
  size_dvd a b hb h := by
    show a.natAbs ≤ b.natAbs
    exact Nat.le_of_dvd (Int.natAbs_pos.2 hb) (Int.natAbs_dvd_natAbs.2 h)
  gcdx_bezout x y := (intGcdx_spec x y).1
  gcdx_dvd x y := (intGcdx_spec x y).2.2
  gcdx_norm x y := by
    have h := (intGcdx_spec x y).2.1
    show intOps.normUnit (intGcdx x y).1 = 1
    rw [int_normUnit, if_neg (by omega)]

theorem pivotInv_int : PivotInv intOps (id : Int → Int) (fun _ => True) := pivotInv_units fun _ => Int.isUnit_mul_self

theorem gcdxW_int_spec (x y : Int) (hx : x ≠ 0) :
    0 < (gcdxW intOps x y).1 ∧ (gcdxW intOps x y).1 ∣ x ∧ (gcdxW intOps x y).1 ∣ y ∧
      (gcdxW intOps x y).2.1 * x + (gcdxW intOps x y).2.2 * y = (gcdxW intOps x y).1 ∧
      ((gcdxW intOps x y).2.2 = 0 ∨ (gcdxW intOps x y).1 < |x|) := by
  obtain ⟨g1, g2, g3, g4, g5, g6⟩ := lawfulEuc_int.gcdxW_data x y hx (Or.inl (Or.inr fun _ => Int.isUnit_mul_self))
  generalize gcdxW intOps x y = g at g1 g2 g3 g4 g5 g6 ⊢
  obtain ⟨d, s, t⟩ := g
  simp only [id, int_quo, int_normUnit] at g1 g2 g3 g4 g5 g6 ⊢
  have hd : 0 < d := by
    split at g2 <;> omega
  refine ⟨hd, Dvd.intro_left _ g3.symm, Dvd.intro_left _ g4.symm, ?_, ?_⟩
  · linear_combination d * g5 + s * g3 + t * g4
  · rcases g6 with g6 | g6
    · exact Or.inl g6
    · right
      have : d.natAbs < x.natAbs := g6
      rw [Int.abs_eq_natAbs]
      omega

/-- invariant of `eliminate_all`: the pivots `< i` are isolated and non-zero, the columns `lo ≤ c < hi` are zero -/
structure EAinv (i lo hi : Nat) (T : Mat Int m n) : Prop where
  off : ∀ (r : Fin m) (c : Fin n), r.1 ≠ c.1 → (r.1 < i ∨ c.1 < i) → T.get r c = 0
  dia : ∀ (r : Fin m) (c : Fin n), r.1 = c.1 → r.1 < i → T.get r c ≠ 0
  zc : ∀ (r : Fin m) (c : Fin n), lo ≤ c.1 → c.1 < hi → T.get r c = 0

theorem EAinv_iff (i lo hi : Nat) (T : Mat Int m n) : EAinv i lo hi T ↔ Euc.EAinv (id : Int → Int) i lo hi T :=
  ⟨fun h => ⟨h.off, h.dia, h.zc⟩, fun h => ⟨h.off, h.dia, h.zc⟩⟩

abbrev dgz (T : Mat Int m n) (k : Nat) : Int := dg intOps.toROps T k

theorem diagStep_dg_int (dbg : Bool) (s : St Int m n) (i : Nat) (hm : i + 1 < m) (hn : i + 1 < n)
    (r : St Int m n × Bool) (h : diagNormalizeStep intOps dbg s i hm hn = .ok r)
    (hD : ∀ (r : Fin m) (c : Fin n), r.1 ≠ c.1 → s.t.get r c = 0) :
    (∀ (R : Fin m) (C : Fin n), R.1 ≠ C.1 → r.1.t.get R C = 0) ∧
    (∀ k, k ≠ i → k ≠ i + 1 → dgz r.1.t k = dgz s.t k) ∧
    dgz s.t i ≠ 0 ∧ dgz s.t (i + 1) ≠ 0 ∧ dgz r.1.t i ≠ 0 ∧ dgz r.1.t (i + 1) ≠ 0 ∧
    (r.2 = false → |dgz r.1.t i| < |dgz s.t i| ∧
      |dgz r.1.t i| * |dgz r.1.t (i + 1)| = |dgz s.t i| * |dgz s.t (i + 1)|) := by
  obtain ⟨h1, h2, h3, h4, h5, h6, h7, h8⟩ := Euc.diagStep_dg lawfulEuc_int dbg s i hm hn r h hD
  refine ⟨h1, h2, h3, h4, h5, h6, fun hb => ⟨?_, ?_⟩⟩
  · have : (dgz r.1.t i).natAbs < (dgz s.t i).natAbs := h7 hb
    rw [Int.abs_eq_natAbs, Int.abs_eq_natAbs]
    omega
  · rw [← abs_mul, ← abs_mul]
    exact congrArg abs h8

/-- `Π_{l<k} f l` -/
def prefProd (f : Nat → Nat) : Nat → Nat
  | 0 => 1
  | k + 1 => prefProd f k * f k

/-- `Σ_{j<k} Π_{l<j} f l` -/
def sumPref (f : Nat → Nat) : Nat → Nat
  | 0 => 0
  | k + 1 => sumPref f k + prefProd f k

theorem prefProd_congr (f g : Nat → Nat) : ∀ k, (∀ l, l < k → f l = g l) → prefProd f k = prefProd g k
  | 0, _ => rfl
  | k + 1, h => by
    rw [prefProd, prefProd, prefProd_congr f g k (fun l hl => h l (by omega)), h k (by omega)]

theorem prefProd_pos (f : Nat → Nat) : ∀ k, (∀ l, l < k → 0 < f l) → 0 < prefProd f k
  | 0, _ => Nat.one_pos
  | k + 1, h => by
    rw [prefProd]
    exact Nat.mul_pos (prefProd_pos f k (fun l hl => h l (by omega))) (h k (by omega))

theorem sumPref_mono (f g : Nat → Nat) : ∀ K, (∀ k, k < K → prefProd f k ≤ prefProd g k) →
    sumPref f K ≤ sumPref g K ∧ (∀ k0, k0 < K → prefProd f k0 < prefProd g k0 → sumPref f K < sumPref g K)
  | 0, _ => ⟨Nat.le_refl _, fun k0 h => absurd h (Nat.not_lt_zero _)⟩
  | K + 1, h => by
    obtain ⟨h1, h2⟩ := sumPref_mono f g K (fun k hk => h k (by omega))
    have hK := h K (by omega)
    refine ⟨by rw [sumPref, sumPref]; omega, ?_⟩
    intro k0 hk0 hlt
    rw [sumPref, sumPref]
    by_cases e : k0 = K
    · subst e; omega
    · have := h2 k0 (by omega) hlt
      omega

/-- replacing `(f i, f (i+1))` by a pair with the same product and a strictly smaller first component strictly
decreases the sum of the prefix products (all `f l`, `l < i`, positive) -/
theorem sumPref_step (f g : Nat → Nat) (i K : Nat) (hK : i + 2 ≤ K) (hother : ∀ l, l ≠ i → l ≠ i + 1 → g l = f l)
    (hlt : g i < f i) (hprod : g i * g (i + 1) = f i * f (i + 1)) (hpos : ∀ l, l < i → 0 < f l) :
    sumPref g K < sumPref f K := by
  have e1 : ∀ k, k ≤ i → prefProd g k = prefProd f k := fun k hk =>
    prefProd_congr g f k (fun l hl => hother l (by omega) (by omega))
  have e2 : prefProd g (i + 1) < prefProd f (i + 1) := by
    rw [prefProd, prefProd, e1 i (Nat.le_refl _)]
    exact Nat.mul_lt_mul_of_pos_left hlt (prefProd_pos f i hpos)
  have e3 : ∀ k, i + 2 ≤ k → prefProd g k = prefProd f k := by
    intro k hk
    induction k with
    | zero => omega
    | succ k ih =>
      by_cases e : k = i + 1
      · subst e
        rw [prefProd, prefProd, prefProd, prefProd, e1 i (Nat.le_refl _), Nat.mul_assoc, Nat.mul_assoc, hprod]
      · rw [prefProd, prefProd, ih (by omega), hother k (by omega) (by omega)]
  refine (sumPref_mono g f K ?_).2 (i + 1) (by omega) e2
  intro k _
  by_cases h1 : k ≤ i
  · exact Nat.le_of_eq (e1 k h1)
  · by_cases h2 : k = i + 1
    · rw [h2]; exact Nat.le_of_lt e2
    · exact Nat.le_of_eq (e3 k (by omega))

/-- the measure of `diag_normalize`'s `'outer` loop -/
def diagMeasure (r : Nat) (T : Mat Int m n) : Nat := sumPref (fun l => (dgz T l).natAbs) r

theorem diagOuter_fuel_ok (dbg : Bool) (r : Nat) : ∀ (fuel : Nat) (s : St Int m n), Euc.DiagZ id s.t →
    (∀ k, k < r → dgz s.t k ≠ 0) → diagMeasure r s.t + 1 ≤ fuel → diagOuter intOps dbg r fuel s ≠ .err := by
  intro fuel
  induction fuel with
  | zero => intro s _ _ h; omega
  | succ fuel ih =>
    intro s hD hnz hf h
    obtain ⟨r1, h1, ⟨rfl, _⟩ | ⟨hb, d1, hnz1, i0, hir, d2, d7, d8⟩⟩ :=
      Euc.diagPass_outcome lawfulEuc_int dbg r s hD hnz
    · rw [diagOuter_succ, h1] at h; cases h
    · rw [diagOuter_succ, h1, Res.bind_ok, hb, if_neg Bool.false_ne_true] at h
      refine ih r1.1 d1 hnz1 ?_ h
      have hlt : diagMeasure r r1.1.t < diagMeasure r s.t := by
        refine sumPref_step _ _ i0 r (by omega) (fun l h1 h2 => by rw [show dgz r1.1.t l = dgz s.t l from d2 l h1 h2])
          d7 ?_ (fun l hl => Int.natAbs_pos.2 (hnz l (by omega)))
        rw [← Int.natAbs_mul, ← Int.natAbs_mul]
        exact congrArg Int.natAbs d8
      omega

theorem diagNormalize_fuel_ok (dbg : Bool) (fuel : Nat) (s : St Int m n) (hD : Euc.DiagZ id s.t)
    (hf : diagMeasure (firstZeroDiag intOps s.t) s.t + 1 ≤ fuel) : diagNormalize intOps dbg fuel s ≠ .err := by
  obtain ⟨_, z2, _⟩ := Euc.firstZeroDiag_spec lawful_int s.t
  have hO := diagOuter_fuel_ok dbg _ fuel s hD z2 hf
  rw [diagNormalize_eq]
  split
  · nofun
  · split
    · nofun
    · cases h1 : diagOuter intOps dbg (firstZeroDiag intOps s.t) fuel s with
      | ok s1 =>
        obtain ⟨s', hs', _⟩ := Euc.normalizeFold_returns lawfulEuc_int (firstZeroDiag intOps s.t) s1
        rw [Res.bind_ok, hs']
        nofun
      | panic => nofun
      | err => exact absurd h1 hO

end Yuiv.C09
