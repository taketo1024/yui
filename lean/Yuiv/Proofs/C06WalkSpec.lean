import Yuiv.Proofs.C06WalkSim
import Yuiv.Proofs.C18BridgeCirc
import Yuiv.Proofs.C18Part
import Yuiv.Proofs.C06CycleConn
import Yuiv.Proofs.C06CycleCirc
/-
C06Walk — the proved specification of the C18 code model's `components` (`Proofs/C18Part.components_check'` +
`Proofs/C18Check.checkComps_sound'`) transported to the cube reference's links (`KhRef.Link`) and relations
(`C04Inv.Conn`): `C18.Conn (toC18 L ts)` is `C04Inv.Conn (passPairs L ts)`, and for the resolved types of a state the
strand pairs are the arcs of the state in both directions, so `WalkSpec` can be read in terms of `C04Inv.statePairs`.
Through `componentsOf_sim` the walk model returns on every valid diagram, and what it returns satisfies `WalkSpec`.
-/
namespace Yuiv.C06Walk
open Yuiv Yuiv.KhRef Yuiv.C06Canon
open Yuiv.C04Inv (pass_lt4 pass_pass)

theorem mem_toC18 (L : Link) (ts : Array CT) (c : C18.Crossing) :
    c ∈ toC18 L ts ↔ ∃ i, i < L.size ∧ c = cr L ts i := by
  rw [toC18_eq, List.mem_map]
  constructor
  · rintro ⟨i, hi, rfl⟩; exact ⟨i, List.mem_range.1 hi, rfl⟩
  · rintro ⟨i, hi, rfl⟩; exact ⟨i, List.mem_range.2 hi, rfl⟩

theorem cr_pass (L : Link) (ts : Array CT) (i j : Nat) : (cr L ts i).ctype.pass j = ts[i]!.pass j :=
  ctC18_pass _ _

theorem allEdges_toC18 (L : Link) (hwf : ∀ c ∈ L, c.e.size = 4) (ts : Array CT) :
    C18.allEdges (toC18 L ts) = C06Cycle.slotLabels L := by
  unfold C18.allEdges C06Cycle.slotLabels
  rw [toC18_eq, C06Cycle.toList_eq_range_map L, List.flatMap_map, List.flatMap_map]
  apply List.flatMap_congr
  intro i hi
  have hi' := List.mem_range.1 hi
  rw [KhRef.toList_of_size_four _ (hwf _ (getElem!_mem L i hi'))]
  rfl

theorem valid_toC18 (L : Link) (hv : C06Cycle.validK L = true) (ts : Array CT) : C18.Valid (toC18 L ts) := by
  obtain ⟨hwf, hc⟩ := C06Cycle.validK_spec L hv
  unfold C18.Valid
  rw [allEdges_toC18 L hwf ts]
  exact hc

theorem mem_slotLabels (L : Link) (x : Nat) : x ∈ C06Cycle.slotLabels L ↔ x ∈ edgeLabels L := by
  rw [C04Inv.mem_edgeLabels]
  unfold C06Cycle.slotLabels
  simp [List.mem_flatMap]

theorem mem_passPairs (L : Link) (ts : Array CT) (p : Nat × Nat) :
    p ∈ passPairs L ts ↔ ∃ i j, i < L.size ∧ j < 4 ∧ p = (L[i]!.e[j]!, L[i]!.e[ts[i]!.pass j]!) := by
  unfold passPairs
  simp only [List.mem_flatMap, List.mem_map, List.mem_range]
  constructor
  · rintro ⟨i, hi, j, hj, rfl⟩; exact ⟨i, j, hi, hj, rfl⟩
  · rintro ⟨i, j, hi, hj, rfl⟩; exact ⟨i, hi, j, hj, rfl⟩

theorem joined_toC18 (L : Link) (ts : Array CT) (a b : Nat) :
    C18.joined (toC18 L ts) a b = true ↔ (a, b) ∈ passPairs L ts := by
  rw [C18.joined_iff, mem_passPairs]
  constructor
  · rintro ⟨c, hc, j, hj, h1, h2⟩
    obtain ⟨i, hi, rfl⟩ := (mem_toC18 L ts c).1 hc
    rw [cr_pass, cr_edge _ _ _ _ (pass_lt4 _ _ hj)] at h2
    rw [cr_edge _ _ _ _ hj] at h1
    exact ⟨i, j, hi, hj, by rw [h1, h2]⟩
  · rintro ⟨i, j, hi, hj, h⟩
    obtain ⟨h1, h2⟩ := Prod.mk.inj h
    refine ⟨cr L ts i, (mem_toC18 L ts _).2 ⟨i, hi, rfl⟩, j, hj, ?_, ?_⟩
    · rw [cr_edge _ _ _ _ hj, h1]
    · rw [cr_pass, cr_edge _ _ _ _ (pass_lt4 _ _ hj), h2]

theorem passPairs_symm (L : Link) (ts : Array CT) (a b : Nat) (h : (a, b) ∈ passPairs L ts) :
    (b, a) ∈ passPairs L ts := by
  rw [mem_passPairs] at h ⊢
  obtain ⟨i, j, hi, hj, h⟩ := h
  refine ⟨i, ts[i]!.pass j, hi, pass_lt4 _ _ hj, ?_⟩
  obtain ⟨h1, h2⟩ := Prod.mk.inj h
  rw [pass_pass _ _ hj, h1, h2]

theorem conn_toC18 (L : Link) (ts : Array CT) (a b : Nat) :
    C18.Conn (toC18 L ts) a b ↔ C04Inv.Conn (passPairs L ts) a b :=
  C18Bridge.conn_of_joined (fun x y => by
    rw [joined_toC18]
    exact ⟨Or.inl, fun h => h.elim id (passPairs_symm L ts y x)⟩) a b

theorem chainOk_getD (l : C18.Link) : ∀ (es : List Nat), C18.chainOk l es = true →
    ∀ k, k + 1 < es.length → C18.joined l (es.getD k 0) (es.getD (k + 1) 0) = true
  | [], _, k, hk => absurd hk (Nat.not_lt_zero _)
  | [_], _, k, hk => absurd (Nat.lt_of_succ_lt_succ hk) (Nat.not_lt_zero _)
  | a :: b :: r, h, k, hk => by
    rw [C18.chainOk, Bool.and_eq_true] at h
    cases k with
    | zero => exact h.1
    | succ k => exact chainOk_getD l (b :: r) h.2 k (Nat.lt_of_succ_lt_succ hk)

theorem cycleOk_chain (l : C18.Link) (es : List Nat) (h : C18.cycleOk l es = true) :
    CyclicChain (fun a b => C18.joined l a b = true) es := by
  cases es with
  | nil => simp [C18.cycleOk] at h
  | cons a r =>
    unfold C18.cycleOk at h
    rw [List.head?_cons, List.getLast?_eq_some_getLast (by simp)] at h
    simp only [Bool.and_eq_true] at h
    intro k hk
    by_cases hk1 : k + 1 < (a :: r).length
    · rw [Nat.mod_eq_of_lt hk1]
      exact chainOk_getD l _ h.1 k hk1
    · have hk2 : k + 1 = (a :: r).length := by omega
      rw [hk2, Nat.mod_self]
      have hl : (a :: r).getD k 0 = (a :: r).getLast (by simp) := by
        have hk3 : k = r.length := by simpa using hk2
        subst hk3
        rw [List.getLast_eq_getElem, List.getD_eq_getElem?_getD, List.getElem?_eq_getElem (by simp)]
        simp
      rw [hl]
      simpa using h.2

theorem checkComps_cycleOk (l : C18.Link) (cs : List C18.Path) (h : C18.checkComps l cs = true) :
    ∀ p ∈ cs, C18.cycleOk l p.edges = true := by
  unfold C18.checkComps at h
  simp only [Bool.and_eq_true] at h
  obtain ⟨⟨⟨h1, _⟩, _⟩, _⟩ := h
  rw [List.all_eq_true] at h1
  intro p hp
  have := h1 p hp
  simp only [Bool.and_eq_true] at this
  exact this.1.2

theorem walkSpec_of_check (L : Link) (hv : C06Cycle.validK L = true) (ts : Array CT) (cs : List C18.Path)
    (h : C18.checkComps (toC18 L ts) cs = true) : WalkSpec L (passPairs L ts) (cs.map convPath) := by
  obtain ⟨hwf, _⟩ := C06Cycle.validK_spec L hv
  obtain ⟨hcov, hnd, hcl⟩ := C18.checkComps_sound' _ _ h
  have hcy := checkComps_cycleOk _ _ h
  have hmem : ∀ q ∈ cs.map convPath, ∃ p ∈ cs, q.edges = p.edges ∧ q.closed = p.closed := by
    intro q hq
    obtain ⟨p, hp, rfl⟩ := List.mem_map.1 hq
    exact ⟨p, hp, rfl, rfl⟩
  refine ⟨?_, ?_, ?_, ?_, ?_⟩
  · intro e
    rw [← mem_slotLabels, ← allEdges_toC18 L hwf ts, hcov]
    constructor
    · rintro ⟨p, hp, he⟩; exact ⟨convPath p, List.mem_map_of_mem hp, he⟩
    · rintro ⟨q, hq, he⟩
      obtain ⟨p, hp, h1, _⟩ := hmem q hq
      exact ⟨p, hp, h1 ▸ he⟩
  · rw [List.flatMap_map]
    exact hnd
  · intro q hq
    obtain ⟨p, hp, h1, h2⟩ := hmem q hq
    rw [h1, h2]
    exact ⟨(hcl p hp).1, (hcl p hp).2.1⟩
  · intro q hq e he e'
    obtain ⟨p, hp, h1, _⟩ := hmem q hq
    rw [h1] at he ⊢
    rw [← conn_toC18]
    exact (hcl p hp).2.2 e he e'
  · intro q hq
    obtain ⟨p, hp, h1, _⟩ := hmem q hq
    rw [h1]
    intro k hk
    exact (joined_toC18 L ts _ _).1 (cycleOk_chain _ _ (hcy p hp) k hk)

theorem c18_components_spec (L : Link) (hv : C06Cycle.validK L = true) (ts : Array CT) :
    ∃ cs, C18.components (toC18 L ts) = .ok cs ∧ WalkSpec L (passPairs L ts) (cs.map convPath) := by
  obtain ⟨cs, hc, hk⟩ := C18.components_check' (toC18 L ts) (valid_toC18 L hv ts)
  exact ⟨cs, hc, walkSpec_of_check L hv ts cs hk⟩

theorem isResolved_cases (t : CT) (h : t.isResolved = true) : t = .V ∨ t = .H := by
  cases t <;> simp_all [CT.isResolved]

theorem resolvedTypes_resolved (L : Link) (s : Nat) (i : Nat) (hi : i < L.size) :
    (resolvedTypes L s)[i]! = .V ∨ (resolvedTypes L s)[i]! = .H := by
  apply isResolved_cases
  apply C04Inv.resTypes_resolved L.toList s
  exact List.mem_of_getElem? (C04Inv.resolvedTypes_getElem! L s i hi)

theorem range4 : List.range 4 = [0, 1, 2, 3] := by decide

theorem passPairs_resolved (L : Link) (s : Nat) (a b : Nat) :
    (a, b) ∈ passPairs L (resolvedTypes L s) ↔
      (a, b) ∈ C04Inv.statePairs L s ∨ (b, a) ∈ C04Inv.statePairs L s := by
  rw [mem_passPairs, C04Inv.mem_statePairs, C04Inv.mem_statePairs, ← exists_or]
  refine exists_congr fun i => ?_
  rw [exists_and_left, ← and_or_left]
  exact and_congr_right fun hi => C04Inv.pass_arcs L[i]! _ (resolvedTypes_resolved L s i hi) a b

theorem conn_passPairs_resolved (L : Link) (s : Nat) (x y : Nat) :
    C04Inv.Conn (passPairs L (resolvedTypes L s)) x y ↔ C04Inv.Conn (C04Inv.statePairs L s) x y := by
  constructor
  · refine C04Inv.conn_lift C04Inv.Conn.refl C04Inv.Conn.symm C04Inv.Conn.trans fun p hp => ?_
    rcases (passPairs_resolved L s p.1 p.2).1 hp with h | h
    · exact C04Inv.Conn.of_mem h
    · exact (C04Inv.Conn.of_mem h).symm
  · intro h
    exact C04Inv.Conn.mono (fun p hp => (passPairs_resolved L s p.1 p.2).2 (Or.inl hp)) h

theorem mem_symPairs (L : Link) (s : Nat) (p : Nat × Nat) :
    p ∈ C04Inv.statePairs L s ++ (C04Inv.statePairs L s).map (fun p => (p.2, p.1)) ↔
      p ∈ passPairs L (resolvedTypes L s) := by
  obtain ⟨a, b⟩ := p
  rw [passPairs_resolved L s a b, List.mem_append, List.mem_map]
  refine or_congr Iff.rfl ⟨?_, fun h => ⟨(b, a), h, rfl⟩⟩
  rintro ⟨⟨q1, q2⟩, hq, he⟩
  obtain ⟨rfl, rfl⟩ := Prod.mk.inj he
  exact hq

theorem WalkSpec.resolved {L : Link} (hwf : ∀ c ∈ L, c.e.size = 4) {s : Nat} {paths : List Path}
    (h : WalkSpec L (passPairs L (resolvedTypes L s)) paths) :
    WalkSpec L (C04Inv.statePairs L s ++ (C04Inv.statePairs L s).map (fun p => (p.2, p.1))) paths := by
  have _ := hwf
  have hm := mem_symPairs L s
  have hconn : ∀ x y, C04Inv.Conn (passPairs L (resolvedTypes L s)) x y ↔
      C04Inv.Conn (C04Inv.statePairs L s ++ (C04Inv.statePairs L s).map (fun p => (p.2, p.1))) x y :=
    fun x y => ⟨C04Inv.Conn.mono (fun p hp => (hm p).2 hp), C04Inv.Conn.mono (fun p hp => (hm p).1 hp)⟩
  refine ⟨h.cover, h.nodup, h.closed, ?_, ?_⟩
  · intro p hp e he e'
    rw [← hconn]
    exact h.cls p hp e he e'
  · intro p hp k hk
    exact (hm _).2 (h.cyc p hp k hk)

section
open Yuiv.C04Inv Yuiv.C06Cycle

theorem componentsOf_spec (L : Link) (hv : validK L = true) (ts : Array CT) :
    ∃ paths, componentsOf L ts = .ok paths ∧ WalkSpec L (passPairs L ts) paths := by
  obtain ⟨cs, h1, h2⟩ := c18_components_spec L hv ts
  refine ⟨cs.map convPath, ?_, h2⟩
  rw [componentsOf_sim L ts, h1]

theorem components_spec (L : Link) (hv : validK L = true) :
    ∃ paths, components L = .ok paths ∧ WalkSpec L (passPairs L (L.map (·.ct))) paths :=
  componentsOf_spec L hv _

/-- Seifert circles / circles of any state -/
theorem stateCircles_spec (L : Link) (hv : validK L = true) (s : Nat) :
    ∃ paths, componentsOf L (resolvedTypes L s) = .ok paths ∧
      WalkSpec L (statePairs L s ++ (statePairs L s).map (fun p => (p.2, p.1))) paths ∧
      (∀ p ∈ paths, ∀ e ∈ p.edges, ∀ e', Conn (statePairs L s) e e' ↔ e' ∈ p.edges) := by
  obtain ⟨paths, h1, h2⟩ := componentsOf_spec L hv (resolvedTypes L s)
  refine ⟨paths, h1, h2.resolved (wf_of_validK L hv), ?_⟩
  intro p hp e he e'
  rw [← conn_passPairs_resolved L s]
  exact h2.cls p hp e he e'

end

end Yuiv.C06Walk
