import Yuiv.Model.KhRef
import Mathlib.Tactic.Ring
/-
Spec-level algebra for C01: the Frobenius algebra  A = ℤ[X]/(X² − hX − t)  read off from the tables
`KhRef.prod` / `KhRef.coprod` that the reference cube (and `KhAlgStr` in the Rust) uses.
An element `a₀·1 + a₁·X` is the pair `(a₀, a₁)`; an element of `A ⊗ A` is
`(c₁₁, c₁ₓ, cₓ₁, cₓₓ)` for the basis `1⊗1, 1⊗X, X⊗1, X⊗X`.
-/
namespace Yuiv.KhRef

abbrev A := Int × Int
abbrev AA := Int × Int × Int × Int

/-- coefficient vector of a table row `[(label, coeff)]` -/
def vecOf (l : List (Bool × Int)) : A :=
  l.foldl (fun acc ya => if ya.1 then (acc.1, acc.2 + ya.2) else (acc.1 + ya.2, acc.2)) (0, 0)

/-- coefficient tensor of a comultiplication table row -/
def tenOf (l : List (Bool × Bool × Int)) : AA :=
  l.foldl (fun acc yza =>
    match yza.1, yza.2.1 with
    | false, false => (acc.1 + yza.2.2, acc.2.1, acc.2.2.1, acc.2.2.2)
    | false, true => (acc.1, acc.2.1 + yza.2.2, acc.2.2.1, acc.2.2.2)
    | true, false => (acc.1, acc.2.1, acc.2.2.1 + yza.2.2, acc.2.2.2)
    | true, true => (acc.1, acc.2.1, acc.2.2.1, acc.2.2.2 + yza.2.2)) (0, 0, 0, 0)

def smul (k : Int) (a : A) : A := (k * a.1, k * a.2)
def add (a b : A) : A := (a.1 + b.1, a.2 + b.2)

/-- multiplication of `A`, extended bilinearly from the `prod` table -/
def mul (h t : Int) (a b : A) : A :=
  add (add (smul (a.1 * b.1) (vecOf (prod h t false false))) (smul (a.1 * b.2) (vecOf (prod h t false true))))
      (add (smul (a.2 * b.1) (vecOf (prod h t true false))) (smul (a.2 * b.2) (vecOf (prod h t true true))))

def smul4 (k : Int) (c : AA) : AA := (k * c.1, k * c.2.1, k * c.2.2.1, k * c.2.2.2)
def add4 (c d : AA) : AA := (c.1 + d.1, c.2.1 + d.2.1, c.2.2.1 + d.2.2.1, c.2.2.2 + d.2.2.2)

/-- comultiplication, extended linearly from the `coprod` table -/
def comul (h t : Int) (a : A) : AA :=
  add4 (smul4 a.1 (tenOf (coprod h t false))) (smul4 a.2 (tenOf (coprod h t true)))

/-- counit: ε(1) = 0, ε(X) = 1 -/
def counit (a : A) : Int := a.2

def one : A := (1, 0)
def X : A := (0, 1)

/-- `(m ⊗ id)(a ⊗ c)` for `c ∈ A ⊗ A` : multiply `a` into the first tensor factor -/
def mulLeft (h t : Int) (a : A) (c : AA) : AA :=
  -- c = c11 1⊗1 + c1X 1⊗X + cX1 X⊗1 + cXX X⊗X ;  (a·1)⊗1 etc.
  let a1 := mul h t a one
  let aX := mul h t a X
  ( c.1 * a1.1 + c.2.2.1 * aX.1,        -- coefficient of 1⊗1
    c.2.1 * a1.1 + c.2.2.2 * aX.1,      -- 1⊗X
    c.1 * a1.2 + c.2.2.1 * aX.2,        -- X⊗1
    c.2.1 * a1.2 + c.2.2.2 * aX.2 )     -- X⊗X

/-- `(id ⊗ Δ)` and `(Δ ⊗ id)` applied to `c ∈ A⊗A`, as 8 coefficients in the basis
`1⊗1⊗1, 1⊗1⊗X, 1⊗X⊗1, 1⊗X⊗X, X⊗1⊗1, X⊗1⊗X, X⊗X⊗1, X⊗X⊗X` -/
def idComul (h t : Int) (c : AA) : List Int :=
  let d1 := comul h t one
  let dX := comul h t X
  -- first factor 1: c11 · 1⊗Δ1 + c1X · 1⊗ΔX ; first factor X: cX1 · X⊗Δ1 + cXX · X⊗ΔX
  [ c.1 * d1.1 + c.2.1 * dX.1, c.1 * d1.2.1 + c.2.1 * dX.2.1, c.1 * d1.2.2.1 + c.2.1 * dX.2.2.1, c.1 * d1.2.2.2 + c.2.1 * dX.2.2.2,
    c.2.2.1 * d1.1 + c.2.2.2 * dX.1, c.2.2.1 * d1.2.1 + c.2.2.2 * dX.2.1, c.2.2.1 * d1.2.2.1 + c.2.2.2 * dX.2.2.1, c.2.2.1 * d1.2.2.2 + c.2.2.2 * dX.2.2.2 ]

def comulId (h t : Int) (c : AA) : List Int :=
  let d1 := comul h t one
  let dX := comul h t X
  -- last factor 1: c11 · Δ1⊗1 + cX1 · ΔX⊗1 ; last factor X: c1X · Δ1⊗X + cXX · ΔX⊗X
  [ c.1 * d1.1 + c.2.2.1 * dX.1,          -- 1⊗1⊗1
    c.2.1 * d1.1 + c.2.2.2 * dX.1,        -- 1⊗1⊗X
    c.1 * d1.2.1 + c.2.2.1 * dX.2.1,      -- 1⊗X⊗1
    c.2.1 * d1.2.1 + c.2.2.2 * dX.2.1,    -- 1⊗X⊗X
    c.1 * d1.2.2.1 + c.2.2.1 * dX.2.2.1,  -- X⊗1⊗1
    c.2.1 * d1.2.2.1 + c.2.2.2 * dX.2.2.1,-- X⊗1⊗X
    c.1 * d1.2.2.2 + c.2.2.1 * dX.2.2.2,  -- X⊗X⊗1
    c.2.1 * d1.2.2.2 + c.2.2.2 * dX.2.2.2 ] -- X⊗X⊗X

theorem mul_eq (h t : Int) (a b : A) :
    mul h t a b = (a.1 * b.1 + t * (a.2 * b.2), a.1 * b.2 + a.2 * b.1 + h * (a.2 * b.2)) := by
  simp only [mul, add, smul, vecOf, prod, List.foldl]
  refine Prod.ext ?_ ?_ <;> simp <;> ring

theorem comul_eq (h t : Int) (a : A) : comul h t a = (t * a.2 - h * a.1, a.1, a.1, a.2) := by
  simp only [comul, add4, smul4, tenOf, coprod, List.foldl]
  simp
  ring

end Yuiv.KhRef
