import Yuiv.Proofs.C07
import Yuiv.Proofs.C07Alg
import Yuiv.Proofs.C07EucTie
import Mathlib.Data.Matrix.Block
/-
C07 — homology of a chain complex over a Euclidean domain is computed correctly.

The definitions and shared lemmas of (A) are in `Proofs/C07Alg.lean`.

(A) `homcalc_*`: the algebraic core of `HomologyCalc::{process_snf, trans}` over ANY commutative ring / domain and
    ALL sizes, from the specification of the two Smith normal forms as hypotheses
    (`S1 = P1·d1·Q1`, `S2 = P2·d2'·Q2`, the transformation matrices invertible, `S1`, `S2` diagonal):
    the coordinate maps `p` (chain → homology coordinates, `vectorize`) and `q` (coordinates → chain,
    `devectorize`/`gen`) which the code assembles satisfy  p·q = I,  d2·q = 0,  (p·d1) = [0 ; diag(a)·rows of Q1⁻¹].
    The block ranges of the code are arbitrary injective index maps here; `homcalc_fin` instantiates them with
    the literal ranges `r1..n`, `r1-t..r1`, `r2..n-r1`.

(A') `calcTrans_correct`: the executable code model of `HomologyCalc::trans` (Model/C07Calc.lean) returns, without
    panicking, exactly these matrices for the literal ranges, hence inherits the three statements.

(B) `check_*`: soundness of the executable checker `Yuiv.C07.check` (the SAME function the driver `yuivd_c07`
    runs on every answer of the real code): verdict `ok` ⇒ the answer `(rank, tors, P, Q)` of the implementation
    satisfies the generator clauses of the property for the input `(d1, d2)`, as matrix equations over `ZMod p`.

Not proved in this file: uniqueness of invariant factors, i.e. that "rank and torsion up to units" have one right
answer — over ℤ and over fields it is `Props/SnfUnique`, `Props/SnfUniqueC07` (`homology_invariants_unique`) and
`Props/SnfUniqueField`; the correspondence run compares with planted values and with an independent Lean computation.
-/
namespace Yuiv.C07
open Matrix

section algebra
set_option linter.unusedSectionVars false
variable {R : Type*} [CommRing R]
variable {M N K B F T : Type*}
variable [Fintype M] [Fintype N] [Fintype K] [Fintype B] [Fintype F] [Fintype T]
variable [DecidableEq M] [DecidableEq N] [DecidableEq K] [DecidableEq B] [DecidableEq F] [DecidableEq T]

/-- **p·q = I**: the coordinates of the reported generators are the standard basis
(`vectorize ∘ devectorize = id`), for any invertible `P1`, `Q2`. -/
theorem homcalc_pq (P1 P1i : Matrix N N R) (Q2 Q2i : Matrix B B R) (iB : B → N) (iT : T → N) (iF : F → B)
    (h1 : P1 * P1i = 1) (h2 : Q2i * Q2 = 1)
    (hB : Function.Injective iB) (hT : Function.Injective iT) (hF : Function.Injective iF)
    (hBT : ∀ b t, iB b ≠ iT t) :
    pMat P1 Q2i iB iT iF * qMat P1i Q2 iB iT iF = 1 := by
  unfold pMat qMat pFree qFree pTor qTor
  rw [fromRows_mul_fromCols, ← fromBlocks_one]
  -- each block contains `P1[rows f]·P1⁻¹[cols g]`, a submatrix of the identity
  congr 1
  · rw [Matrix.mul_assoc, ← Matrix.mul_assoc (P1.submatrix iB id), sub_rows_mul_sub_cols P1 P1i, h1,
      submatrix_one _ hB, Matrix.one_mul, sub_rows_mul_sub_cols, h2, submatrix_one _ hF]
  · rw [Matrix.mul_assoc, sub_rows_mul_sub_cols P1 P1i, h1, one_submatrix_disjoint _ _ hBT, Matrix.mul_zero]
  · rw [← Matrix.mul_assoc, sub_rows_mul_sub_cols P1 P1i, h1,
      one_submatrix_disjoint _ _ (fun t b => (hBT b t).symm), Matrix.zero_mul]
  · rw [sub_rows_mul_sub_cols P1 P1i, h1, submatrix_one _ hT]

/-- `vectorize(gen k) = e_k` -/
theorem vectorize_gen (P1 P1i : Matrix N N R) (Q2 Q2i : Matrix B B R) (iB : B → N) (iT : T → N) (iF : F → B)
    (h1 : P1 * P1i = 1) (h2 : Q2i * Q2 = 1)
    (hB : Function.Injective iB) (hT : Function.Injective iT) (hF : Function.Injective iF)
    (hBT : ∀ b t, iB b ≠ iT t) (k : F ⊕ T) :
    pMat P1 Q2i iB iT iF *ᵥ (qMat P1i Q2 iB iT iF *ᵥ Pi.single k 1) = Pi.single k 1 := by
  rw [Matrix.mulVec_mulVec, homcalc_pq P1 P1i Q2 Q2i iB iT iF h1 h2 hB hT hF hBT, Matrix.one_mulVec]

/-- **generators are cycles**: `d2·q = 0` given `d2·d1 = 0`, over a domain.
`S1` has, in column `cT t`, the non-zero entry `a t` at row `iT t` and zeros elsewhere;
`S2` has zero columns at the positions `iF f` (beyond its rank). -/
theorem homcalc_cycles [NoZeroDivisors R] (d1 : Matrix N M R) (d2 : Matrix K N R)
    (P1 P1i : Matrix N N R) (Q1 : Matrix M M R) (S1 : Matrix N M R)
    (P2 P2i : Matrix K K R) (Q2 : Matrix B B R) (S2 : Matrix K B R)
    (iB : B → N) (iT : T → N) (iF : F → B) (cT : T → M) (a : T → R)
    (hdd : d2 * d1 = 0)
    (hS1 : S1 = P1 * d1 * Q1) (h1 : P1i * P1 = 1)
    (hcol1 : ∀ t i, S1 i (cT t) = if i = iT t then a t else 0) (ha : ∀ t, a t ≠ 0)
    (hS2 : S2 = P2 * d2' d2 P1i iB * Q2) (h2 : P2i * P2 = 1) (hcol2 : ∀ i f, S2 i (iF f) = 0) :
    d2 * qMat P1i Q2 iB iT iF = 0 := by
  -- free part: `d2·q_free = (d2'·Q2)[:, iF] = (P2⁻¹·S2)[:, iF] = 0`
  have hfree : d2 * qFree P1i Q2 iB iF = 0 := by
    have hX : d2' d2 P1i iB * Q2 = P2i * S2 := by
      rw [hS2, ← Matrix.mul_assoc P2i, ← Matrix.mul_assoc P2i, h2, Matrix.one_mul]
    unfold qFree
    rw [← Matrix.mul_assoc]
    change d2' d2 P1i iB * Q2.submatrix id iF = 0
    rw [mul_sub_cols, hX]
    ext i f
    exact Finset.sum_eq_zero fun k _ => mul_eq_zero_of_right _ (hcol2 k f)
  unfold qMat
  rw [Matrix.mul_fromCols, hfree, d2_mul_qTor d1 d2 P1 P1i Q1 S1 iT cT a hdd hS1 h1 hcol1 ha, Matrix.fromCols_zero]

/-- **boundaries**: `p_free·d1 = 0` and row `t` of `p_tor·d1` is `a t` times row `cT t` of `Q1⁻¹`.
`S1` has zero rows at the positions `iB b` (beyond its rank) and row `iT t` is `a t` at column `cT t`. -/
theorem homcalc_boundaries (d1 : Matrix N M R) (P1 : Matrix N N R) (Q1 Q1i : Matrix M M R) (S1 : Matrix N M R)
    (Q2i : Matrix B B R) (iB : B → N) (iT : T → N) (iF : F → B) (cT : T → M) (a : T → R)
    (hS1 : S1 = P1 * d1 * Q1) (hq : Q1 * Q1i = 1)
    (hrowB : ∀ b j, S1 (iB b) j = 0)
    (hrowT : ∀ t j, S1 (iT t) j = if j = cT t then a t else 0) :
    pMat P1 Q2i iB iT iF * d1 = fromRows 0 (Matrix.of fun t j => a t * Q1i (cT t) j) := by
  have hPd : P1 * d1 = S1 * Q1i := by rw [hS1, Matrix.mul_assoc (P1 * d1), hq, Matrix.mul_one]
  have hB : (S1 * Q1i).submatrix iB id = 0 := by
    ext b j
    exact mulVec_of_row_zero S1 (iB b) (hrowB b) (fun l => Q1i l j)
  have hT : (S1 * Q1i).submatrix iT id = Matrix.of fun t j => a t * Q1i (cT t) j := by
    ext t j
    exact mulVec_of_row_single S1 (iT t) (cT t) (a t) (hrowT t) (fun l => Q1i l j)
  unfold pMat pFree pTor
  rw [Matrix.fromRows_mul, Matrix.mul_assoc, sub_rows_mul P1 d1 iB, sub_rows_mul P1 d1 iT, hPd, hB, hT,
    Matrix.mul_zero]

/-- every boundary `d1·x` has zero free coordinates and torsion coordinates divisible by the orders -/
theorem homcalc_boundary_coords (d1 : Matrix N M R) (P1 : Matrix N N R) (Q1 Q1i : Matrix M M R)
    (S1 : Matrix N M R) (Q2i : Matrix B B R) (iB : B → N) (iT : T → N) (iF : F → B) (cT : T → M) (a : T → R)
    (hS1 : S1 = P1 * d1 * Q1) (hq : Q1 * Q1i = 1)
    (hrowB : ∀ b j, S1 (iB b) j = 0)
    (hrowT : ∀ t j, S1 (iT t) j = if j = cT t then a t else 0) (x : M → R) :
    (∀ f, (pMat P1 Q2i iB iT iF *ᵥ (d1 *ᵥ x)) (Sum.inl f) = 0) ∧
    (∀ t, a t ∣ (pMat P1 Q2i iB iT iF *ᵥ (d1 *ᵥ x)) (Sum.inr t)) := by
  rw [Matrix.mulVec_mulVec, homcalc_boundaries d1 P1 Q1 Q1i S1 Q2i iB iT iF cT a hS1 hq hrowB hrowT]
  rw [Matrix.fromRows_mulVec]
  constructor
  · intro f
    rw [Sum.elim_inl, Matrix.zero_mulVec]
    rfl
  · intro t
    exact Finset.dvd_sum fun j _ => (dvd_mul_right (a t) _).mul_right _

/-- **completeness**: a cycle whose free coordinates vanish and whose torsion coordinates are divisible by the orders
is a boundary — together with `homcalc_pq`, `homcalc_cycles`, `homcalc_boundary_coords` this says that `z ↦ p·z`
induces an isomorphism `ker d2 / im d1 ≅ R^F ⊕ ⊕_t R/(a_t)`.  Hypotheses: the full SNF specification
(`eN : A ⊕ B ≃ N`: non-zero / zero rows of `S1`; `eB : B2 ⊕ F ≃ B`: non-zero / zero columns of `S2`;
the diagonal entries of `S1` outside the torsion block `jT` are units). -/
theorem homcalc_complete [NoZeroDivisors R] {A B2 : Type*} [Fintype A] [Fintype B2] [DecidableEq A] [DecidableEq B2]
    (d1 : Matrix N M R) (d2 : Matrix K N R) (P1 P1i : Matrix N N R) (Q1 : Matrix M M R) (S1 : Matrix N M R)
    (P2 : Matrix K K R) (Q2 Q2i : Matrix B B R) (S2 : Matrix K B R)
    (eN : A ⊕ B ≃ N) (eB : B2 ⊕ F ≃ B) (jT : T → A) (cA : A → M) (rB : B2 → K) (α : A → R) (β : B2 → R)
    (hdd : d2 * d1 = 0)
    (hS1 : S1 = P1 * d1 * Q1) (hP1 : P1i * P1 = 1)
    (hrowA : ∀ a j, S1 (eN (Sum.inl a)) j = if j = cA a then α a else 0)
    (hcolA : ∀ a i, S1 i (cA a) = if i = eN (Sum.inl a) then α a else 0)
    (hrowB : ∀ b j, S1 (eN (Sum.inr b)) j = 0)
    (hα : ∀ a, α a ≠ 0) (hunit : ∀ a, (∃ t, a = jT t) ∨ IsUnit (α a))
    (hS2 : S2 = P2 * d2' d2 P1i (fun b => eN (Sum.inr b)) * Q2) (hQ2 : Q2 * Q2i = 1)
    (hrow2 : ∀ b j, S2 (rB b) j = if j = eB (Sum.inl b) then β b else 0) (hβ : ∀ b, β b ≠ 0)
    (z : N → R) (hz : d2 *ᵥ z = 0)
    (hfree : ∀ f, (pMat P1 Q2i (fun b => eN (Sum.inr b)) (fun t => eN (Sum.inl (jT t))) (fun f => eB (Sum.inr f)) *ᵥ z)
      (Sum.inl f) = 0)
    (htor : ∀ t, α (jT t) ∣ (pMat P1 Q2i (fun b => eN (Sum.inr b)) (fun t => eN (Sum.inl (jT t)))
      (fun f => eB (Sum.inr f)) *ᵥ z) (Sum.inr t)) :
    ∃ x : M → R, d1 *ᵥ x = z := by
  -- in terms of `y = P1·z`, the coordinates of `z` in the basis adapted to `d1`, the hypotheses on the coordinates
  -- speak of `Q2⁻¹·(y on the rows outside the image)` (free) and of `y` on the torsion rows
  have hfree' : ∀ f, (Q2i *ᵥ fun b => (P1 *ᵥ z) (eN (Sum.inr b))) (eB (Sum.inr f)) = 0 := fun f => by
    have h : ((Q2i.submatrix (fun f => eB (Sum.inr f)) id * P1.submatrix (fun b => eN (Sum.inr b)) id) *ᵥ z) f = 0 :=
      hfree f
    rwa [← Matrix.mulVec_mulVec] at h
  have htor' : ∀ t, α (jT t) ∣ (P1 *ᵥ z) (eN (Sum.inl (jT t))) := htor
  have hzy : P1i *ᵥ (P1 *ᵥ z) = z := by rw [Matrix.mulVec_mulVec, hP1, Matrix.one_mulVec]
  clear hfree htor
  generalize P1 *ᵥ z = y at hfree' htor' hzy
  subst hzy
  -- `d2·z = 0` only involves `y` outside the image rows, because the image columns of `d2·P1⁻¹` vanish
  have h1 : d2' d2 P1i (fun b => eN (Sum.inr b)) *ᵥ (fun b => y (eN (Sum.inr b))) = 0 := by
    rw [Matrix.mulVec_mulVec, mulVec_of_cols_zero (d2 * P1i) eN
      (fun k a => congrFun (congrFun (d2_mul_qTor d1 d2 P1 P1i Q1 S1 _ cA α hdd hS1 hP1 hcolA hα) k) a) y] at hz
    exact hz
  -- so `w = Q2⁻¹·y|B` is killed by `S2`, and its free coordinates vanish by hypothesis: `w = 0`
  have hw : Q2i *ᵥ (fun b => y (eN (Sum.inr b))) = 0 := by
    generalize (fun b => y (eN (Sum.inr b))) = yB at h1 hfree'
    have hS2w : S2 *ᵥ (Q2i *ᵥ yB) = 0 := by
      rw [hS2, ← Matrix.mulVec_mulVec, ← Matrix.mulVec_mulVec, Matrix.mulVec_mulVec yB Q2 Q2i, hQ2, Matrix.one_mulVec, h1,
        Matrix.mulVec_zero]
    ext b
    obtain ⟨s, rfl⟩ := eB.surjective b
    cases s with
    | inl b2 =>
      have := congrFun hS2w (rB b2)
      rw [mulVec_of_row_single S2 _ _ _ (hrow2 b2)] at this
      exact (mul_eq_zero.mp this).resolve_left (hβ b2)
    | inr f => exact hfree' f
  have hyB : ∀ b, y (eN (Sum.inr b)) = 0 := by
    have : (fun b => y (eN (Sum.inr b))) = 0 := by
      rw [← Matrix.one_mulVec (fun b => y (eN (Sum.inr b))), ← hQ2, ← Matrix.mulVec_mulVec, hw, Matrix.mulVec_zero]
    exact congrFun this
  have hdiv : ∀ a, α a ∣ y (eN (Sum.inl a)) := fun a => by
    rcases hunit a with ⟨t, rfl⟩ | hu
    · exact htor' t
    · exact hu.dvd
  obtain ⟨x, hx⟩ := smith_solve S1 eN cA α hrowA hcolA hrowB hα y hyB hdiv
  refine ⟨Q1 *ᵥ x, ?_⟩
  rw [← hx, hS1, Matrix.mulVec_mulVec, Matrix.mulVec_mulVec]
  congr 1
  rw [← Matrix.mul_assoc P1i, ← Matrix.mul_assoc P1i, hP1, Matrix.one_mul]

/-- the non-unit entries of a divisibility chain are a suffix, so the code's torsion list
(`factors().filter(!is_unit)`, length `t`) is `a[r1-t..r1]`, aligned with the rows `r1-t..r1` of `P1`. -/
theorem torsion_block_position (unit : R → Bool) (hunit : ∀ x y, x ∣ y → unit y = true → unit x = true)
    (l : List R) (hchain : l.Pairwise (· ∣ ·)) :
    l.filter (fun x => !unit x) = l.drop (l.length - (l.filter (fun x => !unit x)).length) :=
  (torsion_block_split unit (· ∣ ·) hunit l hchain).1

end algebra

section fin
variable {R : Type*} [CommRing R] [NoZeroDivisors R]

/-- **`HomologyCalc::trans` with the literal ranges.**  `n, m, k` the dimensions, `r1, r2` the ranks of the two Smith
forms, `t ≤ r1` the number of torsion factors, `S1 = diag(a_0, …, a_{r1-1}, 0, …)` with `a_i ≠ 0`,
`S2` with zero columns from `r2` on. Then for
  `p = [Q2⁻¹[r2..n-r1] · P1[r1..n] ; P1[r1-t..r1]]`,  `q = [P1⁻¹[:, r1..n] · Q2[:, r2..n-r1] | P1⁻¹[:, r1-t..r1]]`:
  `p·q = I`,  `d2·q = 0`,  `p·d1 = [0 ; a_{r1-t+s} · (row r1-t+s of Q1⁻¹)]`. -/
theorem homcalc_fin (n m k r1 r2 t : Nat) (ht : t ≤ r1) (hr1n : r1 ≤ n) (hr1m : r1 ≤ m) (hr2 : r2 ≤ n - r1)
    (d1 : Matrix (Fin n) (Fin m) R) (d2 : Matrix (Fin k) (Fin n) R)
    (P1 P1i : Matrix (Fin n) (Fin n) R) (Q1 Q1i : Matrix (Fin m) (Fin m) R) (S1 : Matrix (Fin n) (Fin m) R)
    (P2 P2i : Matrix (Fin k) (Fin k) R) (Q2 Q2i : Matrix (Fin (n - r1)) (Fin (n - r1)) R)
    (S2 : Matrix (Fin k) (Fin (n - r1)) R) (a : Nat → R)
    (hdd : d2 * d1 = 0)
    (hP1 : P1 * P1i = 1) (hP1' : P1i * P1 = 1) (hQ1 : Q1 * Q1i = 1) (hP2 : P2i * P2 = 1) (hQ2 : Q2i * Q2 = 1)
    (hS1 : S1 = P1 * d1 * Q1)
    (hdiag1 : ∀ i j, S1 i j = if i.val = j.val ∧ i.val < r1 then a i.val else 0)
    (ha : ∀ i, i < r1 → a i ≠ 0) :
    let iB := rangeMap r1 (n - r1) n (by omega)
    let iT := rangeMap (r1 - t) t n (by omega)
    let iF := rangeMap r2 (n - r1 - r2) (n - r1) (by omega)
    ∀ (_hS2 : S2 = P2 * d2' d2 P1i iB * Q2) (_hcol2 : ∀ i (j : Fin (n - r1)), r2 ≤ j.val → S2 i j = 0),
      pMat P1 Q2i iB iT iF * qMat P1i Q2 iB iT iF = 1 ∧
      d2 * qMat P1i Q2 iB iT iF = 0 ∧
      pMat P1 Q2i iB iT iF * d1 =
        fromRows 0 (Matrix.of fun (s : Fin t) j => a (r1 - t + s.val) * Q1i ⟨r1 - t + s.val, by omega⟩ j) := by
  intro iB iT iF hS2 hcol2
  have hT : ∀ s : Fin t, r1 - t + s.val < r1 := fun s => by have := s.isLt; omega
  refine ⟨?_, ?_, ?_⟩
  · refine homcalc_pq P1 P1i Q2 Q2i _ _ _ hP1 hQ2 (rangeMap_injective _ _ _ _) (rangeMap_injective _ _ _ _)
      (rangeMap_injective _ _ _ _) ?_
    intro b s h
    have := congrArg Fin.val h
    simp only [iB, iT, rangeMap] at this
    have := hT s
    omega
  · exact homcalc_cycles d1 d2 P1 P1i Q1 S1 P2 P2i Q2 S2 _ _ _ (rangeMap (r1 - t) t m (by omega))
      (fun s => a (r1 - t + s.val)) hdd hS1 hP1'
      (fun s i => smith_col hdiag1 (rangeMap (r1 - t) t n (by omega) s) _ rfl (hT s) i) (fun s => ha _ (hT s)) hS2 hP2
      (fun i f => hcol2 i _ (Nat.le_add_right _ _))
  · exact homcalc_boundaries d1 P1 Q1 Q1i S1 Q2i _ _ _ (rangeMap (r1 - t) t m (by omega))
      (fun s => a (r1 - t + s.val)) hS1 hQ1
      (fun b j => smith_row_zero hdiag1 _ (Nat.le_add_right _ _) j)
      (fun s j => smith_row hdiag1 (rangeMap (r1 - t) t n (by omega) s) _ rfl (hT s) j)

end fin

/-- **the code model is correct given the SNF specification.**  If the two SNF results carry transformation
matrices of the right shapes which satisfy the SNF specification for `d1` resp. `d2' = d2·P1⁻¹[:, r1..n]`
(over `ℤ`; `Q1`, `P2` are not computed by the code and only need to exist), then the model
`calcTrans` (Model/C07Calc.lean — `HomologyCalc::trans` branch by branch, with every `unwrap`, range assertion and
`usize` subtraction as a possible panic) does not panic and returns `Trans::new(p, q)` with
`p·q = I`, `d2·q = 0` and `p·d1 = [0 ; diag(a_{r1-t..r1}) · rows of Q1⁻¹]`. -/
theorem calcTrans_correct (d1 d2 : Mat) (s1 s2 : Snf) (P1 P1i Q2 Q2i : Mat) (n m k r1 r2 t : Nat)
    (hp : s1.p = some P1) (hpi : s1.pinv = some P1i) (hq : s2.q = some Q2) (hqi : s2.qinv = some Q2i)
    (hn : s1.result.r = n) (hr1 : s1.rank = r1) (hr2 : s2.rank = r2)
    (ht : (s1.factors.filter fun a => !isUnitZ a).length = t)
    (h12 : r1 + r2 ≤ n) (htr : t ≤ r1) (hr1m : r1 ≤ m)
    (sP1 : P1.r = n ∧ P1.c = n) (sP1i : P1i.r = n ∧ P1i.c = n)
    (sQ2 : Q2.r = n - r1 ∧ Q2.c = n - r1) (sQ2i : Q2i.r = n - r1 ∧ Q2i.c = n - r1)
    (Q1 Q1i : Matrix (Fin m) (Fin m) ℤ) (P2 P2i : Matrix (Fin k) (Fin k) ℤ) (a : Nat → ℤ)
    (hdd : d2.toM k n * d1.toM n m = 0)
    (hP1 : P1.toM n n * P1i.toM n n = 1) (hP1' : P1i.toM n n * P1.toM n n = 1) (hQ1 : Q1 * Q1i = 1)
    (hP2 : P2i * P2 = 1) (hQ2 : Q2i.toM (n - r1) (n - r1) * Q2.toM (n - r1) (n - r1) = 1)
    (hS1 : s1.result.toM n m = P1.toM n n * d1.toM n m * Q1)
    (hdiag1 : ∀ i j, s1.result.toM n m i j = if i.val = j.val ∧ i.val < r1 then a i.val else 0)
    (ha : ∀ i, i < r1 → a i ≠ 0)
    (hS2 : s2.result.toM k (n - r1) =
      P2 * d2' (d2.toM k n) (P1i.toM n n) (rangeMap r1 (n - r1) n (by omega)) * Q2.toM (n - r1) (n - r1))
    (hcol2 : ∀ i (j : Fin (n - r1)), r2 ≤ j.val → s2.result.toM k (n - r1) i j = 0) :
    ∃ p q : Mat, calcTrans s1 s2 = .ok ⟨n, n - r1 - r2 + t, [p], [q]⟩ ∧
      p.toM (n - r1 - r2 + t) n * q.toM n (n - r1 - r2 + t) = 1 ∧
      d2.toM k n * q.toM n (n - r1 - r2 + t) = 0 ∧
      p.toM (n - r1 - r2 + t) n * d1.toM n m =
        (fromRows (0 : Matrix (Fin (n - r1 - r2)) (Fin m) ℤ)
          (Matrix.of fun (u : Fin t) j => a (r1 - t + u.val) * Q1i ⟨r1 - t + u.val, by omega⟩ j)).submatrix
          finSumFinEquiv.symm id := by
  -- the `Int` model is the generic code at `intOps` (`calcTransG_int`); what that returns is `calcTransG_eq`
  have h := calcTransG_eq C09.intOps s1.toG s2.toG P1.toG P1i.toG Q2.toG Q2i.toG n r1 r2 t
    (congrArg (Option.map Mat.toG) hp) (congrArg (Option.map Mat.toG) hpi) (congrArg (Option.map Mat.toG) hq)
    (congrArg (Option.map Mat.toG) hqi) hn hr1 hr2 (by rw [toG_factors, filter_isUnit_int]; exact ht) h12 htr
    sP1 sP1i sQ2 sQ2i
  rw [calcTransG_int] at h
  refine ⟨(pModelG C09.intOps.toROps P1.toG Q2i.toG n r1 r2 t).toZ, (qModelG C09.intOps.toROps P1i.toG Q2.toG n r1 r2 t).toZ,
    Res.mapR_eq_ok Trans.toG_injective h, ?_⟩
  have hp' := pModelG_toM C09.lawful_int P1.toG Q2i.toG n r1 r2 t h12 htr sP1 sQ2i
  have hq' := qModelG_toM C09.lawful_int P1i.toG Q2.toG n r1 r2 t h12 htr sP1i
  simp only [toG_toM] at hp' hq'
  obtain ⟨e1, e2, e3⟩ := homcalc_fin n m k r1 r2 t htr (Nat.le_trans (Nat.le_add_right r1 r2) h12) hr1m
    (Nat.le_sub_of_add_le' h12) (d1.toM n m) (d2.toM k n)
    (P1.toM n n) (P1i.toM n n) Q1 Q1i (s1.result.toM n m) P2 P2i (Q2.toM (n - r1) (n - r1))
    (Q2i.toM (n - r1) (n - r1)) (s2.result.toM k (n - r1)) a hdd hP1 hP1' hQ1 hP2 hQ2 hS1 hdiag1 ha hS2 hcol2
  refine ⟨?_, ?_, ?_⟩
  · refine (congrArg₂ (· * ·) hp' hq').trans ?_
    unfold pFin qFin pSum qSum
    rw [sub_rows_mul_sub_cols, e1, Matrix.submatrix_one_equiv]
  · refine (congrArg (_ * ·) hq').trans ?_
    unfold qFin qSum
    rw [mul_sub_cols, e2]
    rfl
  · refine (congrArg (· * _) hp').trans ?_
    unfold pFin pSum
    rw [sub_rows_mul, e3]

/-- the code model runs: `calculate` with the self-contained SNF on `d1 = [[2,4,4],[-6,6,12],[10,-4,-16]]`, `d2 = 0`
returns `Z/2 ⊕ Z/6 ⊕ Z/12` with coordinate maps which the checker accepts (so the hypotheses of
`calcTrans_correct` are satisfiable by a non-trivial value: this SNF result) -/
example :
    (match calculate snfOwn ⟨3, 3, #[2, 4, 4, -6, 6, 12, 10, -4, -16]⟩ ⟨1, 3, #[0, 0, 0]⟩ true with
     | .ok (rank, tors, some t) =>
        match t.forwardMat, t.backwardMat with
        | .ok P, .ok Q => rank == 0 && tors == [2, 6, 12] &&
            check ⟨0, ⟨3, 3, #[2, 4, 4, -6, 6, 12, 10, -4, -16]⟩, ⟨1, 3, #[0, 0, 0]⟩, rank, tors.toArray, P, Q⟩ == .ok
        | _, _ => false
     | _ => false) = true := by decide +kernel

/-- **soundness of the checker**: verdict `ok` on `(p, d1, d2, rank, tors, P, Q)` means that over `ZMod p`
(`= ℤ` for `p = 0`): `d2·d1 = 0`, the torsion orders are non-zero non-units, `P·Q = I`, `d2·Q = 0`,
the free rows of `P·d1` vanish and torsion row `k` of `P·d1` is divisible by `tors[k]`. -/
theorem check_sound (a : Answer) (h : check a = .ok) : Certified a := by
  obtain ⟨hs, hdd, ht, hpq, hcyc, hb⟩ := (check_ok_iff_parts a).mp h
  obtain ⟨s1, s2, s3, s4⟩ := shapesOk_spec a hs
  refine ⟨s1, s2, s3, s4, (prodZero_iff _ _ _).mp hdd, torsOk_spec a ht, ?_, (prodZero_iff _ _ _).mp hcyc,
    (bdryOk_iff _ _ _ _ _).mp hb⟩
  exact (prodId_iff _ _ _ (by rw [s2.1, s3.2])).mp hpq

/-- over `ℤ` the certificate is literally `P·Q = I` and `d2·Q = 0` -/
theorem check_sound_int (a : Answer) (hp : a.p = 0) (h : check a = .ok) :
    a.P.toM a.P.r a.P.c * a.Q.toM a.P.c a.P.r = 1 ∧
    a.d2.toM a.d2.r a.d2.c * a.Q.toM a.d2.c a.Q.c = 0 ∧
    a.d2.toM a.d2.r a.d2.c * a.d1.toM a.d2.c a.d1.c = 0 := by
  have c := check_sound a h
  have key : ∀ {r c : Nat} (X Y : Matrix (Fin r) (Fin c) ℤ), modP 0 X = modP 0 Y → X = Y := by
    intro r c X Y hXY
    ext i j
    have := congrFun (congrFun hXY i) j
    simpa [modP] using this
  have one : ∀ r : Nat, modP 0 (1 : Matrix (Fin r) (Fin r) ℤ) = 1 := fun r =>
    Matrix.map_one _ Int.cast_zero Int.cast_one
  have zero : ∀ r c : Nat, modP 0 (0 : Matrix (Fin r) (Fin c) ℤ) = 0 := fun r c =>
    Matrix.map_zero _ Int.cast_zero
  refine ⟨key _ _ ?_, key _ _ ?_, key _ _ ?_⟩
  · rw [one]; have := c.pq; rwa [hp] at this
  · rw [zero]; have := c.cycles; rwa [hp] at this
  · rw [zero]; have := c.dd; rwa [hp] at this

/-- the hypotheses of `check_sound` are satisfiable by a non-trivial answer:
`d1 = (2)`, `d2 = 0 : Z¹ → Z⁰`, `H = Z/2` with `P = Q = (1)` -/
example : check ⟨0, ⟨1, 1, #[2]⟩, ⟨0, 1, #[]⟩, 0, #[2], ⟨1, 1, #[1]⟩, ⟨1, 1, #[1]⟩⟩ = .ok := by decide +kernel

/-- … and the checker rejects a wrong torsion order, a non-cycle and a wrong coordinate map -/
example : check ⟨0, ⟨1, 1, #[2]⟩, ⟨0, 1, #[]⟩, 0, #[3], ⟨1, 1, #[1]⟩, ⟨1, 1, #[1]⟩⟩ = .bdry := by decide +kernel
example : check ⟨0, ⟨2, 1, #[1, 1]⟩, ⟨1, 2, #[1, -1]⟩, 1, #[], ⟨1, 2, #[1, 0]⟩, ⟨2, 1, #[1, 0]⟩⟩ = .cycle := by
  decide +kernel
example : check ⟨0, ⟨1, 1, #[2]⟩, ⟨0, 1, #[]⟩, 0, #[2], ⟨1, 1, #[1]⟩, ⟨1, 1, #[2]⟩⟩ = .pq := by decide +kernel

/-- the hypotheses of `homcalc_fin` are satisfiable: `d1 = (2) : ℤ¹ → ℤ¹`, `d2 = 0 : ℤ¹ → ℤ⁰`, all
transformation matrices the identity, `r1 = t = 1`, `r2 = 0`, `S1 = (2)` -/
example :
    let d1 : Matrix (Fin 1) (Fin 1) ℤ := Matrix.of fun _ _ => 2
    let d2 : Matrix (Fin 0) (Fin 1) ℤ := 0
    d2 * d1 = 0 ∧ (1 : Matrix (Fin 1) (Fin 1) ℤ) * d1 * 1 = d1 ∧
      (∀ i j : Fin 1, d1 i j = if i.val = j.val ∧ i.val < 1 then (fun _ => (2 : ℤ)) i.val else 0) := by
  refine ⟨by ext i; exact i.elim0, by simp, ?_⟩
  intro i j; fin_cases i; fin_cases j; simp

end Yuiv.C07
