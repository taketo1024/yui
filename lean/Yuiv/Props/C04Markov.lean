import Yuiv.Proofs.C04MarkovMain
/-
C04-c — the MODEL's Jones polynomial of a braid closure, computed with the reference's OWN crossing signs
(`C04.jones (toKh l) sg` with `KhRef.crossingSigns (toKh l) = some sg`, `l` the code model `C18.closure n w` of
`Braid::closure`), is invariant under EVERY elementary Markov move:
  * Reidemeister II     `w₁ ++ w₂  ↔  w₁ ++ [s, −s] ++ w₂`                                   (`Props/C04Reid`)
  * far commutation     `w₁ ++ [s, t] ++ w₂  ↔  w₁ ++ [t, s] ++ w₂`,  `||s| − |t|| ≥ 2`        (`markov_far`)
  * braid relation      `w₁ ++ [i, i+1, i] ++ w₂  ↔  w₁ ++ [i+1, i, i+1] ++ w₂`, all six signed forms
                        (`markov_r3_pos` proved directly — 8 + 8 smoothings, Temperley–Lieb pairings, connectivity
                        checked by `decide` on formal symbols and transferred; `markov_r3_neg`, `markov_r3_signed` DERIVED
                        from it and Reidemeister II)
  * conjugation         `w ++ [s]  ↔  [s] ++ w`  (cyclic rotation; `markov_conj`), hence `w ↔ [s] ++ w ++ [−s]`
  * stabilisation       `(n, w)  ↔  (n+1, w ++ [±n])`                                        (`Props/C04Reid`)
and `jones_markov_invariant` : under the equivalence `MarkovEq` generated by these moves (passing only through words
whose closure exists — `Braid::closure` panics on out-of-range letters and on free strands).  By Markov's theorem (NOT
formalised) this is isotopy invariance of the model's Jones polynomial for links presented as braid closures.

Every statement has the form: if BOTH closures exist, then both sign computations of the reference succeed and the
`jones` coefficient lists — and the graded Euler characteristics `chiChain` of the cube's chain groups — are LITERALLY
equal.  State-sum level statements (`…_stateSum`) hold for arbitrary ring elements `x`, `y` (far commutation,
conjugation) resp. for `1 + x·y + x² = 0` (braid relation).
-/
namespace Yuiv.C04Inv
open Yuiv.KhRef Yuiv.C04
open Yuiv.C18Bridge (toKh)

variable {R : Type} [CommRing R]

/-- far commutation, state-sum level: every commutative ring, all `x`, `y` -/
theorem markov_far_stateSum (x y : R) (n : Nat) (w₁ w₂ : List Int) (s t : Int) (l l' : C18.Link)
    (hfar : s.natAbs + 2 ≤ t.natAbs ∨ t.natAbs + 2 ≤ s.natAbs)
    (h : C18.closure n (w₁ ++ [s, t] ++ w₂) = .ok l) (h' : C18.closure n (w₁ ++ [t, s] ++ w₂) = .ok l') :
    stateSum x y (toKh l') = stateSum x y (toKh l) :=
  far_stateSum x y n w₁ w₂ s t l l' hfar h h'

/-- far commutation: literal equality of the Jones lists with the reference's own signs -/
theorem markov_far (n : Nat) (w₁ w₂ : List Int) (s t : Int) (l l' : C18.Link)
    (hfar : s.natAbs + 2 ≤ t.natAbs ∨ t.natAbs + 2 ≤ s.natAbs)
    (h : C18.closure n (w₁ ++ [s, t] ++ w₂) = .ok l) (h' : C18.closure n (w₁ ++ [t, s] ++ w₂) = .ok l') :
    ∃ sg sg', KhRef.crossingSigns (toKh l) = some sg ∧ KhRef.crossingSigns (toKh l') = some sg' ∧
      jones (toKh l') sg' = jones (toKh l) sg ∧ chiChain (toKh l') sg' = chiChain (toKh l) sg :=
  jinv_far n w₁ w₂ s t hfar l l' h h'

/-- cyclic rotation, state-sum level: every commutative ring, all `x`, `y` -/
theorem markov_conj_stateSum (x y : R) (n : Nat) (w : List Int) (s : Int) (l l' : C18.Link)
    (h : C18.closure n (w ++ [s]) = .ok l) (h' : C18.closure n ([s] ++ w) = .ok l') :
    stateSum x y (toKh l') = stateSum x y (toKh l) :=
  conj_stateSum x y n w s l l' h h'

/-- cyclic rotation `w ++ [s] ↔ [s] ++ w` -/
theorem markov_conj (n : Nat) (w : List Int) (s : Int) (l l' : C18.Link)
    (h : C18.closure n (w ++ [s]) = .ok l) (h' : C18.closure n ([s] ++ w) = .ok l') :
    ∃ sg sg', KhRef.crossingSigns (toKh l) = some sg ∧ KhRef.crossingSigns (toKh l') = some sg' ∧
      jones (toKh l') sg' = jones (toKh l) sg ∧ chiChain (toKh l') sg' = chiChain (toKh l) sg :=
  jinv_conj n w s l l' h h'

/-- conjugation by a letter `w ↦ [s] ++ w ++ [−s]` (`1 ≤ |s| < n`): the intermediate word `w ++ [−s, s]` has a closure,
so Reidemeister II and a cyclic rotation apply -/
theorem markov_conj_letter (n : Nat) (w : List Int) (s : Int) (l l' : C18.Link) (hs0 : s ≠ 0) (hsn : s.natAbs < n)
    (h : C18.closure n w = .ok l) (h' : C18.closure n ([s] ++ w ++ [-s]) = .ok l') :
    ∃ sg sg', KhRef.crossingSigns (toKh l) = some sg ∧ KhRef.crossingSigns (toKh l') = some sg' ∧
      jones (toKh l') sg' = jones (toKh l) sg ∧ chiChain (toKh l') sg' = chiChain (toKh l) sg :=
  jinv_of_eq (markovEq_conj_letter n w s ⟨l, h⟩ hs0 hsn).1 l l' h h'

/-- braid relation, all letters positive, state-sum level: every commutative ring, all `x`, `y` with
`1 + x·y + x² = 0` (in particular `x = −q`, `y = q + q⁻¹`) -/
theorem markov_r3_pos_stateSum (x y : R) (hxy : 1 + x * y + x ^ 2 = 0) (n p : Nat) (w₁ w₂ : List Int)
    (l l' : C18.Link)
    (h : C18.closure n (w₁ ++ [((p + 1 : Nat) : Int), ((p + 2 : Nat) : Int), ((p + 1 : Nat) : Int)] ++ w₂) = .ok l)
    (h' : C18.closure n (w₁ ++ [((p + 2 : Nat) : Int), ((p + 1 : Nat) : Int), ((p + 2 : Nat) : Int)] ++ w₂) = .ok l') :
    stateSum x y (toKh l') = stateSum x y (toKh l) :=
  r3_pos_stateSum x y hxy n p w₁ w₂ l l' h h'

/-- `σᵢσᵢ₊₁σᵢ = σᵢ₊₁σᵢσᵢ₊₁` (`i = p + 1`) -/
theorem markov_r3_pos (n p : Nat) (w₁ w₂ : List Int) (l l' : C18.Link)
    (h : C18.closure n (w₁ ++ [((p + 1 : Nat) : Int), ((p + 2 : Nat) : Int), ((p + 1 : Nat) : Int)] ++ w₂) = .ok l)
    (h' : C18.closure n (w₁ ++ [((p + 2 : Nat) : Int), ((p + 1 : Nat) : Int), ((p + 2 : Nat) : Int)] ++ w₂) = .ok l') :
    ∃ sg sg', KhRef.crossingSigns (toKh l) = some sg ∧ KhRef.crossingSigns (toKh l') = some sg' ∧
      jones (toKh l') sg' = jones (toKh l) sg ∧ chiChain (toKh l') sg' = chiChain (toKh l) sg :=
  jinv_r3_pos n p w₁ w₂ l l' h h'

/-- `σᵢ⁻¹σᵢ₊₁⁻¹σᵢ⁻¹ = σᵢ₊₁⁻¹σᵢ⁻¹σᵢ₊₁⁻¹` — derived from the positive relation and Reidemeister II -/
theorem markov_r3_neg (n p : Nat) (w₁ w₂ : List Int) (l l' : C18.Link)
    (h : C18.closure n (w₁ ++ [-((p + 1 : Nat) : Int), -((p + 2 : Nat) : Int), -((p + 1 : Nat) : Int)] ++ w₂) = .ok l)
    (h' : C18.closure n (w₁ ++ [-((p + 2 : Nat) : Int), -((p + 1 : Nat) : Int), -((p + 2 : Nat) : Int)] ++ w₂) = .ok l') :
    ∃ sg sg', KhRef.crossingSigns (toKh l) = some sg ∧ KhRef.crossingSigns (toKh l') = some sg' ∧
      jones (toKh l') sg' = jones (toKh l) sg ∧ chiChain (toKh l') sg' = chiChain (toKh l) sg :=
  jinv_r3_neg n p w₁ w₂ l l' h h'

/-- all six signed forms of the braid relation: signs `(e₁,e₂,e₃) ∈ {±1}³` with `e₁ = e₂ ∨ e₂ = e₃`,
`σᵢ^{e₁} σᵢ₊₁^{e₂} σᵢ^{e₃} = σᵢ₊₁^{e₃} σᵢ^{e₂} σᵢ₊₁^{e₁}` — the mixed ones derived from the two pure ones and
Reidemeister II -/
theorem markov_r3_signed (n p : Nat) (w₁ w₂ : List Int) (e₁ e₂ e₃ : Int) (h₁ : e₁ = 1 ∨ e₁ = -1)
    (h₂ : e₂ = 1 ∨ e₂ = -1) (h₃ : e₃ = 1 ∨ e₃ = -1) (hv : e₁ = e₂ ∨ e₂ = e₃) (l l' : C18.Link)
    (h : C18.closure n (w₁ ++ [e₁ * ((p + 1 : Nat) : Int), e₂ * ((p + 2 : Nat) : Int), e₃ * ((p + 1 : Nat) : Int)] ++ w₂)
      = .ok l)
    (h' : C18.closure n (w₁ ++ [e₃ * ((p + 2 : Nat) : Int), e₂ * ((p + 1 : Nat) : Int), e₁ * ((p + 2 : Nat) : Int)] ++ w₂)
      = .ok l') :
    ∃ sg sg', KhRef.crossingSigns (toKh l) = some sg ∧ KhRef.crossingSigns (toKh l') = some sg' ∧
      jones (toKh l') sg' = jones (toKh l) sg ∧ chiChain (toKh l') sg' = chiChain (toKh l) sg :=
  jinv_of_move (MarkovMove.braid n p w₁ w₂ e₁ e₂ e₃ h₁ h₂ h₃ hv) l l' h h'

/-- every elementary Markov move (`MarkovMove`: Reidemeister II insertion, far commutation, the six signed braid
relations, cyclic rotation, stabilisation `±`; deletions / destabilisation are the same statements read backwards) -/
theorem jones_markov_move {n n' : Nat} {w w' : List Int} (hm : MarkovMove n w n' w') (l l' : C18.Link)
    (h : C18.closure n w = .ok l) (h' : C18.closure n' w' = .ok l') :
    ∃ sg sg', KhRef.crossingSigns (toKh l) = some sg ∧ KhRef.crossingSigns (toKh l') = some sg' ∧
      jones (toKh l') sg' = jones (toKh l) sg ∧ chiChain (toKh l') sg' = chiChain (toKh l) sg :=
  jinv_of_move hm l l' h h'

/-- MARKOV INVARIANCE.  If `(n, w)` and `(n', w')` are related by a finite sequence of elementary Markov moves and
their inverses, every intermediate word having a closure (`MarkovEq`), and both closures exist, then the model's Jones
polynomials with the reference's own crossing signs — and the graded Euler characteristics of the chain groups of the
cube reference — are LITERALLY equal -/
theorem jones_markov_invariant {n n' : Nat} {w w' : List Int} (he : MarkovEq n w n' w') (l l' : C18.Link)
    (h : C18.closure n w = .ok l) (h' : C18.closure n' w' = .ok l') :
    ∃ sg sg', KhRef.crossingSigns (toKh l) = some sg ∧ KhRef.crossingSigns (toKh l') = some sg' ∧
      jones (toKh l') sg' = jones (toKh l) sg ∧ chiChain (toKh l') sg' = chiChain (toKh l) sg :=
  jinv_of_eq he l l' h h'

/-- braid relation on 3 strands: `σ₁σ₂σ₁` and `σ₂σ₁σ₂` (`p = 0`, empty context) — both closures exist -/
example : ∃ l l' sg sg', C18.closure 3 ([] ++ [((0 + 1 : Nat) : Int), ((0 + 2 : Nat) : Int), ((0 + 1 : Nat) : Int)] ++ []) = .ok l ∧
    C18.closure 3 ([] ++ [((0 + 2 : Nat) : Int), ((0 + 1 : Nat) : Int), ((0 + 2 : Nat) : Int)] ++ []) = .ok l' ∧
    KhRef.crossingSigns (toKh l) = some sg ∧ KhRef.crossingSigns (toKh l') = some sg' ∧
    jones (toKh l') sg' = jones (toKh l) sg := by
  obtain ⟨l, h⟩ := isOk_ok (r := C18.closure 3 ([] ++ [((0 + 1 : Nat) : Int), ((0 + 2 : Nat) : Int), ((0 + 1 : Nat) : Int)] ++ [])) (by decide)
  obtain ⟨l', h'⟩ := isOk_ok (r := C18.closure 3 ([] ++ [((0 + 2 : Nat) : Int), ((0 + 1 : Nat) : Int), ((0 + 2 : Nat) : Int)] ++ [])) (by decide)
  obtain ⟨sg, sg', h1, h2, h3, _⟩ := markov_r3_pos 3 0 [] [] l l' h h'
  exact ⟨l, l', sg, sg', h, h', h1, h2, h3⟩

/-- a mixed braid relation inside a longer word on 4 strands: `σ₃ · σ₁σ₂σ₁⁻¹ · σ₃⁻¹σ₂` vs `σ₃ · σ₂⁻¹σ₁σ₂ · σ₃⁻¹σ₂` -/
example : (C18.closure 4 ([3] ++ [1 * ((0 + 1 : Nat) : Int), 1 * ((0 + 2 : Nat) : Int), -1 * ((0 + 1 : Nat) : Int)] ++ [-3, 2])).isOk = true ∧
    (C18.closure 4 ([3] ++ [-1 * ((0 + 2 : Nat) : Int), 1 * ((0 + 1 : Nat) : Int), 1 * ((0 + 2 : Nat) : Int)] ++ [-3, 2])).isOk = true := by
  decide

/-- far commutation `σ₁σ₃ ↔ σ₃σ₁` on 4 strands inside `σ₂ · _ · σ₂` -/
example : ∃ l l' sg sg', C18.closure 4 ([2] ++ [1, 3] ++ [2]) = .ok l ∧ C18.closure 4 ([2] ++ [3, 1] ++ [2]) = .ok l' ∧
    KhRef.crossingSigns (toKh l) = some sg ∧ KhRef.crossingSigns (toKh l') = some sg' ∧
    jones (toKh l') sg' = jones (toKh l) sg := by
  obtain ⟨l, h⟩ := isOk_ok (r := C18.closure 4 ([2] ++ [1, 3] ++ [2])) (by decide)
  obtain ⟨l', h'⟩ := isOk_ok (r := C18.closure 4 ([2] ++ [3, 1] ++ [2])) (by decide)
  obtain ⟨sg, sg', h1, h2, h3, _⟩ := markov_far 4 [2] [2] 1 3 l l' (by decide) h h'
  exact ⟨l, l', sg, sg', h, h', h1, h2, h3⟩

/-- cyclic rotation of `σ₁σ₂⁻¹σ₁σ₂⁻¹` (figure-eight braid) -/
example : ∃ l l' sg sg', C18.closure 3 ([1, -2, 1] ++ [-2]) = .ok l ∧ C18.closure 3 ([-2] ++ [1, -2, 1]) = .ok l' ∧
    KhRef.crossingSigns (toKh l) = some sg ∧ KhRef.crossingSigns (toKh l') = some sg' ∧
    jones (toKh l') sg' = jones (toKh l) sg := by
  obtain ⟨l, h⟩ := isOk_ok (r := C18.closure 3 ([1, -2, 1] ++ [-2])) (by decide)
  obtain ⟨l', h'⟩ := isOk_ok (r := C18.closure 3 ([-2] ++ [1, -2, 1])) (by decide)
  obtain ⟨sg, sg', h1, h2, h3, _⟩ := markov_conj 3 [1, -2, 1] (-2) l l' h h'
  exact ⟨l, l', sg, sg', h, h', h1, h2, h3⟩

/-- a two-step Markov equivalence: stabilise the trefoil braid `σ₁³` to `σ₁³σ₂` on 3 strands, then rotate -/
example : MarkovEq 2 [1, 1, 1] 3 ([2] ++ [1, 1, 1]) :=
  (MarkovEq.move (MarkovMove.stab 2 [1, 1, 1] 2 (by decide) (by decide))).trans
    (isOk_ok (r := C18.closure 3 ([1, 1, 1] ++ [2])) (by decide))
    (MarkovEq.move (MarkovMove.conj 3 [1, 1, 1] 2))

end Yuiv.C04Inv
