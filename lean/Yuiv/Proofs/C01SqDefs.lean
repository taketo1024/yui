import Yuiv.Proofs.C02MirrorDual
/-
C01Sq — shared definitions for `d ∘ d = 0` of the reference cube (`Props/C01Sq.lean`).

Vocabulary.  A circle list `cs : Circ` is a list of circle NAMES (`Name = Array Nat`, the sorted label list of the
circle); the unsigned edge map `C02Mirror.edgeTerms h t cs cs' m` depends on the two lists only (which names are
common, which are gone, which are born).  Labellings are masks (`m.testBit i` = label of circle `i`); `val cs m c`
reads the label of the circle NAMED `c`, so labellings of different states can be compared by name.

  * `Edge`, `MergeRel`, `IsEdge` : an edge is a merge `g0, g1 ↦ b` or a split `g ↦ b0, b1` of names;
  * `ecoef`, `pathF`  : coefficient of one edge / of a path of two edges, on name-indexed labellings;
  * `pathSum`         : the same path coefficient computed from the reference's term lists (masks);
  * `FaceComm`        : all faces of the cube commute (unsigned).
-/
namespace Yuiv.C01Sq
open Yuiv Yuiv.KhRef
open Yuiv.C02Mirror (Circ ix Pair prodCoef coprodCoef edgeCoef)

abbrev Name := Array Nat

/-- label (`true` = X) of the circle named `c` in the labelling `m` of `cs` -/
def val (cs : Circ) (m : Nat) (c : Name) : Bool := m.testBit (ix cs c)

/-- override one value -/
def ov (f : Name → Bool) (b : Name) (y : Bool) : Name → Bool := fun c => if c = b then y else f c

inductive Edge where
  | merge (g0 g1 b : Name)
  | split (g b0 b1 : Name)

/-- `cs'` = `cs` without `g0`, `g1`, plus the new name `b` -/
structure MergeRel (cs cs' : Circ) (g0 g1 b : Name) : Prop where
  m0 : g0 ∈ cs
  m1 : g1 ∈ cs
  ne : g0 ≠ g1
  nb : b ∉ cs
  mem : ∀ c, c ∈ cs' ↔ (c = b ∨ (c ∈ cs ∧ c ≠ g0 ∧ c ≠ g1))

/-- the edge `cs → cs'` is the merge / split `e` (a split is a merge read backwards) -/
def IsEdge (cs cs' : Circ) : Edge → Prop
  | .merge g0 g1 b => MergeRel cs cs' g0 g1 b
  | .split g b0 b1 => MergeRel cs' cs b0 b1 g

/-- `f'` agrees with `f` on the names common to `cs` and `cs'` -/
def compatB (cs cs' : Circ) (f f' : Name → Bool) : Bool := cs.all (fun c => !cs'.contains c || f' c == f c)

/-- the structure constant of the edge -/
def loc (h t : Int) (e : Edge) (f f' : Name → Bool) : Int :=
  match e with
  | .merge g0 g1 b => prodCoef h t (f g0) (f g1) (f' b)
  | .split g b0 b1 => coprodCoef h t (f g) (f' b0) (f' b1)

/-- coefficient of the labelling `f'` of `cs'` in the image of the labelling `f` of `cs` under the edge `e` -/
def ecoef (h t : Int) (cs cs' : Circ) (e : Edge) (f f' : Name → Bool) : Int :=
  if compatB cs cs' f f' then loc h t e f f' else 0

/-- coefficient of `f''` (labelling of `cs2`) in the image of `f` under the edge `e1` (into `cs1`) followed by the
edge `e2 : cs1 → cs2`: sum over the labels of the circles born at `e1` -/
def pathF (h t : Int) (cs1 cs2 : Circ) (e1 e2 : Edge) (f f'' : Name → Bool) : Int :=
  match e1 with
  | .merge g0 g1 b =>
    ([true, false].map (fun y => prodCoef h t (f g0) (f g1) y * ecoef h t cs1 cs2 e2 (ov f b y) f'')).sum
  | .split g b0 b1 =>
    ([true, false].flatMap (fun y1 => [true, false].map (fun y2 =>
      coprodCoef h t (f g) y1 y2 * ecoef h t cs1 cs2 e2 (ov (ov f b0 y1) b1 y2) f''))).sum

/-- the path coefficient computed from the reference's term lists: `Σ over the terms (m', a) of the first edge map of
a · (coefficient of m'' in the second edge map of m')` -/
def pathSum (h t : Int) (cs0 cs1 cs2 : Circ) (m m'' : Nat) : Int :=
  (((C02Mirror.edgeTerms h t cs0 cs1 m).getD []).map (fun mc => mc.2 * edgeCoef h t cs1 cs2 mc.1 m'')).sum

/-- every face of the cube commutes (unsigned edge maps) -/
def FaceComm (c : Cube) (p : Params) : Prop :=
  ∀ s a b, s < 2 ^ c.n → a < c.n → b < c.n → a ≠ b → s.testBit a = false → s.testBit b = false →
    ∀ m m'', pathSum p.h p.t c.circ[s]! c.circ[s ||| 1 <<< a]! c.circ[(s ||| 1 <<< a) ||| 1 <<< b]! m m'' =
             pathSum p.h p.t c.circ[s]! c.circ[s ||| 1 <<< b]! c.circ[(s ||| 1 <<< a) ||| 1 <<< b]! m m''

end Yuiv.C01Sq
