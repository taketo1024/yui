import Yuiv.Proofs.C06CycleEdge
import Yuiv.Proofs.C06CycleHash
import Yuiv.Props.C06Canon
import Mathlib.Algebra.BigOperators.Ring.Finset
import Mathlib.Algebra.BigOperators.Group.Finset.Piecewise
import Mathlib.Tactic.Ring
import Mathlib.Tactic.LinearCombination
/-
C06Cycle — the algebra of one merge edge (helper, no property theorem here): the canonical chain ⊗(X or X − h),
summed over all labellings, is killed by the multiplication of two differently coloured factors, whatever the
bookkeeping of the other factors (`W`) is — as long as it does not look at the two merged factors.
-/
namespace Yuiv.C06Cycle
open Yuiv Yuiv.KhRef Yuiv.C06Canon
open Finset

theorem sum_terms_eq (ts : List (Nat × Int)) (N : Nat) (hN : ∀ t ∈ ts, t.1 < N) (F : Nat → Int) :
    (ts.map (fun t => t.2 * F t.1)).sum = ∑ m ∈ range N, sumAt m ts * F m := by
  induction ts with
  | nil => simp [sumAt]
  | cons t ts ih =>
    simp only [List.map_cons, List.sum_cons, sumAt]
    rw [ih (fun t' ht' => hN t' (List.mem_cons_of_mem _ ht'))]
    simp only [add_mul, Finset.sum_add_distrib]
    congr 1
    rw [Finset.sum_eq_single t.1]
    · simp
    · intro b _ hb
      have : ¬ t.1 = b := fun e => hb e.symm
      simp [this]
    · intro hn
      exact absurd (Finset.mem_range.2 (hN t (by simp))) hn

theorem sum_expand (h : Int) (cols : List Colour) (F : Nat → Int) :
    ((expand h cols).map (fun t => t.2 * F t.1)).sum = ∑ m ∈ range (2 ^ cols.length), coefSpec h cols m * F m := by
  rw [sum_terms_eq _ (2 ^ cols.length) (fun t ht => ((canon_expand_canonical h cols).2 t ht).2)]
  apply Finset.sum_congr rfl
  intro m _
  rw [sumAt_expand]

theorem tb_flip_same (m i : Nat) : (m ^^^ 1 <<< i).testBit i = !m.testBit i := by
  rw [Nat.testBit_xor, Nat.one_shiftLeft, Nat.testBit_two_pow_self, Bool.xor_true]

theorem tb_flip_ne (m i j : Nat) (h : i ≠ j) : (m ^^^ 1 <<< i).testBit j = m.testBit j := by
  simp [Nat.testBit_xor, Nat.one_shiftLeft, h]

theorem sum_flip (r i : Nat) (hi : i < r) (Φ : Nat → Int) :
    ∑ m ∈ range (2 ^ r), Φ (m ^^^ 1 <<< i) = ∑ m ∈ range (2 ^ r), Φ m := by
  have lt : ∀ m ∈ range (2 ^ r), m ^^^ 1 <<< i ∈ range (2 ^ r) := by
    intro m hm
    rw [Finset.mem_range, Nat.one_shiftLeft] at *
    exact Nat.xor_lt_two_pow hm (Nat.pow_lt_pow_right (by omega) hi)
  have inv : ∀ m, (m ^^^ 1 <<< i) ^^^ 1 <<< i = m := by
    intro m
    rw [Nat.xor_assoc, Nat.xor_self, Nat.xor_zero]
  exact Finset.sum_nbij' (fun m => m ^^^ 1 <<< i) (fun m => m ^^^ 1 <<< i) lt lt (fun m _ => inv m)
    (fun m _ => inv m) (fun m _ => rfl)

theorem or_flip_same (m b : Nat) : (m ^^^ b) ||| b = m ||| b := by
  apply Nat.eq_of_testBit_eq
  intro j
  rw [Nat.testBit_or, Nat.testBit_xor, Nat.testBit_or]
  cases m.testBit j <;> cases b.testBit j <;> rfl

theorem or_or_flip (m b c : Nat) : ((m ^^^ c) ||| b) ||| c = (m ||| b) ||| c := by
  rw [Nat.or_assoc, Nat.or_comm b, ← Nat.or_assoc, or_flip_same, Nat.or_assoc, Nat.or_comm c, ← Nat.or_assoc]

theorem coefSpec_cons (h : Int) (c : Colour) (cs : List Colour) (m : Nat) :
    coefSpec h (c :: cs) m = colourCoef h c (m.testBit 0) * coefSpec h cs (m / 2) := by
  rw [coefSpec, Nat.testBit_zero, beq_eq_decide]

theorem coefSpec_split (h : Int) : ∀ (cols : List Colour) (m i : Nat), i < cols.length →
    coefSpec h cols m = colourCoef h (cols.getD i .a) (m.testBit i) * coefSpec h cols (m ||| 1 <<< i) := by
  intro cols
  induction cols with
  | nil => intro m i hi; simp at hi
  | cons c cs ih =>
    intro m i hi
    rw [coefSpec_cons, coefSpec_cons h c cs (m ||| 1 <<< i)]
    cases i with
    | zero =>
      have e1 : (m ||| 1 <<< 0).testBit 0 = true := by simp
      have e2 : (m ||| 1 <<< 0) / 2 = m / 2 := by rw [Nat.or_div_two]; simp
      have e3 : colourCoef h c true = 1 := rfl
      rw [e1, e2, e3, one_mul, List.getD_cons_zero]
    | succ i =>
      rw [or_shift_succ_bit0, or_shift_succ, List.getD_cons_succ, Nat.testBit_succ,
        ih (m / 2) i (Nat.lt_of_succ_lt_succ hi)]
      ring

/-- both factors split off; what remains does not depend on the bits `i1`, `i2` of `m` -/
theorem coefSpec_split2 (h : Int) (cols : List Colour) (m i1 i2 : Nat) (h12 : i1 ≠ i2) (h1 : i1 < cols.length)
    (h2 : i2 < cols.length) :
    coefSpec h cols m = colourCoef h (cols.getD i1 .a) (m.testBit i1) * colourCoef h (cols.getD i2 .a) (m.testBit i2) *
      coefSpec h cols ((m ||| 1 <<< i1) ||| 1 <<< i2) := by
  rw [coefSpec_split h cols m i1 h1, coefSpec_split h cols (m ||| 1 <<< i1) i2 h2, testBit_or_bit_ne m i1 i2 h12]
  ring

theorem four_eq (h : Int) (c1 c2 : Colour) (b1 b2 : Bool) (It If : Int) :
    colourCoef h c1 b1 * colourCoef h c2 b2 * (prodCoef h b1 b2 true * It + prodCoef h b1 b2 false * If) +
    colourCoef h c1 (!b1) * colourCoef h c2 b2 * (prodCoef h (!b1) b2 true * It + prodCoef h (!b1) b2 false * If) +
    colourCoef h c1 b1 * colourCoef h c2 (!b2) * (prodCoef h b1 (!b2) true * It + prodCoef h b1 (!b2) false * If) +
    colourCoef h c1 (!b1) * colourCoef h c2 (!b2) *
      (prodCoef h (!b1) (!b2) true * It + prodCoef h (!b1) (!b2) false * If)
    = It * mergeColours h c1 c2 true + If * mergeColours h c1 c2 false := by
  cases b1 <;> cases b2 <;> simp only [mergeColours, List.foldl, Bool.not_true, Bool.not_false] <;> ring

/-- the algebra of a merge: `W m b` is any weight of the target (label `b` on the merged circle) that does not depend
on the labels `m` carries at the two merged positions -/
theorem merge_sum_zero (h : Int) (cols : List Colour) (i1 i2 : Nat) (h12 : i1 ≠ i2) (h1 : i1 < cols.length)
    (h2 : i2 < cols.length) (hne : cols.getD i1 .a ≠ cols.getD i2 .a) (W : Nat → Bool → Int)
    (hW1 : ∀ m b, W (m ^^^ 1 <<< i1) b = W m b) (hW2 : ∀ m b, W (m ^^^ 1 <<< i2) b = W m b) :
    ∑ m ∈ range (2 ^ cols.length), coefSpec h cols m *
      (prodCoef h (m.testBit i1) (m.testBit i2) true * W m true +
       prodCoef h (m.testBit i1) (m.testBit i2) false * W m false) = 0 := by
  set Φ : Nat → Int := fun m => coefSpec h cols m *
      (prodCoef h (m.testBit i1) (m.testBit i2) true * W m true +
       prodCoef h (m.testBit i1) (m.testBit i2) false * W m false) with hΦ
  set S := ∑ m ∈ range (2 ^ cols.length), Φ m with hS
  have e1 : ∑ m ∈ range (2 ^ cols.length), Φ (m ^^^ 1 <<< i1) = S := sum_flip _ i1 h1 Φ
  have e2 : ∑ m ∈ range (2 ^ cols.length), Φ (m ^^^ 1 <<< i2) = S := sum_flip _ i2 h2 Φ
  have e3 : ∑ m ∈ range (2 ^ cols.length), Φ ((m ^^^ 1 <<< i2) ^^^ 1 <<< i1) = S :=
    (sum_flip _ i2 h2 (fun m => Φ (m ^^^ 1 <<< i1))).trans e1
  have pw : ∀ m, Φ m + Φ (m ^^^ 1 <<< i1) + Φ (m ^^^ 1 <<< i2) + Φ ((m ^^^ 1 <<< i2) ^^^ 1 <<< i1) = 0 := by
    intro m
    have h21 : i2 ≠ i1 := fun e => h12 e.symm
    simp only [hΦ]
    rw [coefSpec_split2 h cols m i1 i2 h12 h1 h2, coefSpec_split2 h cols (m ^^^ 1 <<< i1) i1 i2 h12 h1 h2,
      coefSpec_split2 h cols (m ^^^ 1 <<< i2) i1 i2 h12 h1 h2,
      coefSpec_split2 h cols ((m ^^^ 1 <<< i2) ^^^ 1 <<< i1) i1 i2 h12 h1 h2]
    simp only [or_flip_same, or_or_flip, tb_flip_same, tb_flip_ne _ _ _ h12, tb_flip_ne _ _ _ h21, hW1, hW2]
    have key := four_eq h (cols.getD i1 .a) (cols.getD i2 .a) (m.testBit i1) (m.testBit i2) (W m true) (W m false)
    rw [mergeColours_zero h _ _ hne true, mergeColours_zero h _ _ hne false] at key
    linear_combination (coefSpec h cols ((m ||| 1 <<< i1) ||| 1 <<< i2)) * key
  have tot : ∑ m ∈ range (2 ^ cols.length),
      (Φ m + Φ (m ^^^ 1 <<< i1) + Φ (m ^^^ 1 <<< i2) + Φ ((m ^^^ 1 <<< i2) ^^^ 1 <<< i1)) = 0 :=
    Finset.sum_eq_zero (fun m _ => pw m)
  rw [Finset.sum_add_distrib, Finset.sum_add_distrib, Finset.sum_add_distrib, e1, e2, e3] at tot
  omega

theorem termSum_append (y : Gen) (xs ys : List Term) : termSum y (xs ++ ys) = termSum y xs + termSum y ys := by
  simp [termSum, List.filter_append, List.map_append, List.sum_append]

theorem termSum_nil (y : Gen) : termSum y [] = 0 := rfl

theorem termSum_filterMap (y : Gen) (g : Bool → Gen) (sign : Int) (ps : List (Bool × Int)) :
    termSum y (ps.filterMap fun ya => if ya.2 != 0 then some (g ya.1, sign * ya.2) else none)
      = (ps.map fun ya => ya.2 * (if g ya.1 == y then sign else 0)).sum := by
  induction ps with
  | nil => rfl
  | cons p ps ih =>
    rw [List.filterMap_cons, List.map_cons, List.sum_cons, ← ih]
    by_cases hp : p.2 = 0
    · simp [hp]
    · simp [hp, HModel.termSum_cons, mul_comm]

theorem termSum_merge (h : Int) (x1 x2 : Bool) (y : Gen) (s' m0 j0 : Nat) (sign : Int) :
    termSum y ((prod h 0 x1 x2).filterMap (fun (ya : Bool × Int) =>
      if ya.2 != 0 then some ((⟨s', setBit m0 j0 ya.1⟩ : Gen), sign * ya.2) else none))
    = prodCoef h x1 x2 true * (if (⟨s', setBit m0 j0 true⟩ : Gen) == y then sign else 0) +
      prodCoef h x1 x2 false * (if (⟨s', setBit m0 j0 false⟩ : Gen) == y then sign else 0) := by
  rw [termSum_filterMap y (fun b => ⟨s', setBit m0 j0 b⟩)]
  cases x1 <;> cases x2 <;> simp [prod, prodCoef]

end Yuiv.C06Cycle
