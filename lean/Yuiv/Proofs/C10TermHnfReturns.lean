import Yuiv.Proofs.C10TermHnfShape
/-
C10 — every step of the Hermite variant RETURNS (no panic) under the bookkeeping invariant of this mode.

In Hermite mode (`LLLData::new` without `setup()`) `det`/`lambda` are the integral Gram–Schmidt data of the rows of the
TRANSFORM `P` (Havas–Majewski–Matthews), which is unimodular, so `det[i] > 0` always: no division by zero in
`reduce`/`swap`.  `Data.BookP` is `Data.Book` with `p` (m×m) in place of `target`: both unfold to `Data.BookOf`
(`Proofs/C10GS.lean`), which every primitive keeps for any matrix that undergoes the same row operation.
-/
namespace Yuiv.C10
open Yuiv Res Finset

/-- bookkeeping invariant of Hermite mode: `det`/`lambda` are the integral Gram–Schmidt data of the rows of `p` -/
def Data.BookP (d : Data) : Prop :=
  d.det.size = d.tr.m ∧
  ∃ bs mu : Nat → Nat → ℚ,
    IsGSData d.tr.m d.tr.m (ent d.tr.p) bs mu (fun i => d.det.getD i 0) (ent d.lam)

theorem isGSData_id (m : Nat) :
    IsGSData m m (ent (idMat m)) (fun i c => if i = c then 1 else 0) (fun _ _ => 0)
      (fun i => (Array.replicate m (1 : Int)).getD i 0) (ent (zeroMat m m)) := by
  have hn1 : ∀ j < m, nrm m (fun i c => if i = c then (1 : ℚ) else 0) j = 1 := by
    intro j hj
    unfold nrm
    rw [Finset.sum_eq_single j]
    · simp
    · intro b _ hb; simp [Ne.symm hb]
    · intro h; exact absurd (mem_range.mpr hj) h
  refine ⟨⟨?_, ?_, ?_⟩, ?_, ?_⟩
  · intro i hi c hc
    rw [ent_idMat hi hc]
    simp
  · intro i hi j hj
    apply Finset.sum_eq_zero
    intro c _
    by_cases h1 : i = c
    · have : ¬ j = c := by omega
      simp [this]
    · simp [h1]
  · intro i hi
    have := hn1 i hi
    unfold nrm at this
    rw [this]
    exact one_pos
  · intro i hi
    have e : (Array.replicate m (1 : Int)).getD i 0 = 1 := by simp [Array.getD_eq_getD_getElem?, hi]
    rw [e]
    unfold gsP
    rw [Finset.prod_eq_one]
    · simp
    · intro j hj; exact hn1 j (by have := mem_range.mp hj; omega)
  · intro i hi j hj
    rw [zeroMat, ent_mkMat _ hi (by omega)]
    simp

theorem Data.new_bookP (m n : Nat) (A : Mat) : (Data.new m n A).BookP :=
  ⟨by show (Array.replicate m (1 : Int)).size = m; simp, _, _, isGSData_id m⟩

theorem Data.RowAdd.bookP {d d' : Data} {i k : Nat} {r : Int} (hS : d.RowAdd d' i k r) (hik : i < k)
    (hk : k < d.tr.m) (hB : d.BookP) : d'.BookP := by
  have := hS.bookOf hik hk hS.tr.p hB
  rw [← hS.tr.m] at this
  exact this

theorem Data.RowMul.bookP {d d' : Data} {i : Nat} {u : Int} (hS : d.RowMul d' i u) (hu : u = 1 ∨ u = -1)
    (hB : d.BookP) : d'.BookP := by
  have := hS.bookOf hu hS.tr.p hB
  rw [← hS.tr.m] at this
  exact this

theorem Data.swap_bookP (d d' : Data) (k : Nat) (h : d.swap k = ok d') (hB : d.BookP) : d'.BookP := by
  obtain ⟨hk0, hk, _, _, _, hS⟩ := Data.swap_spec h
  have := hS.bookOf hk0 hk hS.tr.p hB
  rw [← hS.tr.m] at this
  exact this

theorem hnfReduce_bookP (d d' : Data) (i k : Nat) (h : hnfReduce d i k = ok d') (hB : d.BookP) : d'.BookP := by
  obtain ⟨hik, hk, u, r, d1, hu, hS1, hS2, _⟩ := hnfReduce_steps h
  exact hS2.bookP hik (by rw [hS1.tr.m]; exact hk) (hS1.bookP hu hB)

theorem Data.back_bookP (d : Data) (hB : d.BookP) : d.back.BookP := by
  unfold Data.back; split
  · exact hB
  · exact hB

theorem hnfReduce_ok (d : Data) (hB : d.BookP) (i k : Nat) (hik : i < k) (hk : k < d.tr.m) :
    ∃ d', hnfReduce d i k = ok d' := by
  have him : i < d.tr.m := by omega
  cases hj : d.nzColIn i with
  | none =>
    rw [hnfReduce_none d hik hk hj]
    exact Data.reduce_isOk d hik hk (by rw [hB.1]; exact him) (ne_of_gt (Data.BookOf.dv_pos hB him))
  | some j =>
    obtain ⟨d1, h1⟩ := Data.mulRowIf_isOk d (i := i) (sign_unit (ent d.tr.target i j)) him
    obtain ⟨u, hu, hpos, hS1⟩ := normalize_rowMul hj h1
    obtain ⟨_, hjn⟩ := nzColIn_some hj
    have hne : ent d1.tr.target i j ≠ 0 := by
      rw [hS1.tr.target i him j hjn, if_pos rfl]; exact ne_of_gt hpos
    obtain ⟨q, hq⟩ := divRound_total' (ent d1.tr.target k j) (ent d1.tr.target i j) hne
    rw [hnfReduce_some d hik hk hj, h1, bind_ok, hq, bind_ok]
    split
    · exact Data.addRowTo_isOk d1 (-q) hik (by rw [hS1.tr.m]; exact hk)
        (by rw [hS1.det, hB.1]; exact him)
    · exact ⟨d1, rfl⟩

theorem hnfIsOk_ok (d : Data) (k : Nat) (hk0 : 0 < k) (hk : k < d.tr.m) (hsz : d.det.size = d.tr.m) :
    ∃ b, hnfIsOk d k = ok b := by
  unfold hnfIsOk
  simp only [Res.assert, hk0, decide_true, if_true, bind_ok]
  split
  · exact ⟨_, rfl⟩
  · exact ⟨_, rfl⟩
  · exact ⟨_, rfl⟩
  · obtain ⟨b, h, _⟩ := Data.lovaszOk_eq d k hk0 hk hsz
    exact ⟨b, h⟩

theorem revLoop_hnf_ok (k : Nat) : ∀ (cnt : Nat) (d : Data), d.BookP → cnt ≤ k → k < d.tr.m →
    ∃ d', revLoop (fun d i => hnfReduce d i k) d cnt = ok d' ∧ d'.tr.m = d.tr.m ∧ d'.step = d.step := by
  intro cnt
  induction cnt with
  | zero => intro d _ _ _; exact ⟨d, rfl, rfl, rfl⟩
  | succ cnt ih =>
    intro d hB hc hk
    obtain ⟨d1, h1⟩ := hnfReduce_ok d hB cnt k (by omega) hk
    obtain ⟨_, _, _, _, _, ⟨m1, _, s1, _⟩, _, _⟩ := hnfReduce_tgt d d1 cnt k h1
    obtain ⟨d2, h2, m2, s2⟩ := ih d1 (hnfReduce_bookP d d1 cnt k h1 hB) (by omega) (by omega)
    refine ⟨d2, ?_, m2.trans m1, s2.trans s1⟩
    show (hnfReduce d cnt k >>= fun d' => revLoop (fun d i => hnfReduce d i k) d' cnt) = ok d2
    rw [h1]; exact h2

theorem hnfIterate_ok (d : Data) (hB : d.BookP) (h1 : 1 ≤ d.step) (h2 : d.step < d.tr.m) :
    ∃ d', hnfIterate d = ok d' ∧ d'.BookP ∧ d'.tr.m = d.tr.m ∧ 1 ≤ d'.step := by
  obtain ⟨d1, r1⟩ := hnfReduce_ok d hB (d.step - 1) d.step (by omega) h2
  have hB1 := hnfReduce_bookP d d1 _ _ r1 hB
  obtain ⟨_, _, _, _, _, ⟨m1, _, s1, _⟩, _, _⟩ := hnfReduce_tgt d d1 _ _ r1
  obtain ⟨b, rb⟩ := hnfIsOk_ok d1 d.step h1 (by omega) hB1.1
  rw [hnfIterate_eq]
  cases b with
  | true =>
    obtain ⟨d2, r2, m2, _⟩ := revLoop_hnf_ok d.step (d.step - 1) d1 hB1 (by omega) (by omega)
    exact ⟨d2.next, iterateWith_advance r1 rb r2,
      revLoop_preserves _ Data.BookP (fun a a' i h => hnfReduce_bookP a a' i _ h) _ d1 d2 r2 hB1, m2.trans m1,
      Nat.le_add_left 1 _⟩
  | false =>
    obtain ⟨d2, r2⟩ := Data.swap_isOk d1 h1 (by omega) (by rw [hB1.1]; omega)
      (ne_of_gt (Data.BookOf.dv_pos hB1 (by omega)))
    obtain ⟨_, _, _, _, _, S⟩ := Data.swap_spec r2
    refine ⟨d2.back, iterateWith_swap r1 rb r2, Data.back_bookP d2 (Data.swap_bookP d1 d2 _ r2 hB1), ?_, ?_⟩
    · rw [Data.back_tr]; exact S.tr.m.trans m1
    · rw [Data.back_step, S.step, s1]; split <;> omega

theorem hnfNormalizeLast_ok (d : Data) : ∃ d', hnfNormalizeLast d = ok d' ∧ d'.tr.m = d.tr.m := by
  unfold hnfNormalizeLast
  by_cases hm0 : 0 < d.tr.m
  · rw [if_pos hm0]
    dsimp only
    cases hj : d.nzColIn (d.tr.m - 1) with
    | none => exact ⟨d, rfl, rfl⟩
    | some j =>
      obtain ⟨d', h⟩ := Data.mulRowIf_isOk d (i := d.tr.m - 1) (sign_unit (ent d.tr.target (d.tr.m - 1) j)) (by omega)
      exact ⟨d', h, (Data.mulRowIf_rowMul h).tr.m⟩
  · rw [if_neg hm0]
    exact ⟨d, rfl, rfl⟩

theorem reverseRows_ok : ∀ (cnt i : Nat) (t : Tr), i + cnt ≤ t.m / 2 → ∃ t', reverseRows t cnt i = ok t' := by
  intro cnt
  induction cnt with
  | zero => intro i t _; exact ⟨t, rfl⟩
  | succ cnt ih =>
    intro i t hle
    have hi : i < t.m := by omega
    have hj : t.m - i - 1 < t.m := by omega
    simp only [reverseRows]
    rw [if_neg (by omega)]
    unfold Tr.swapRows
    simp only [Res.assert, hi, hj, decide_true, Bool.and_self, if_true, bind_ok, pure_eq]
    exact ih (i + 1) _ (by show i + 1 + cnt ≤ t.m / 2; omega)

end Yuiv.C10
