import Yuiv.Proofs.C09Inv
import Yuiv.Proofs.C09Le
import Yuiv.Proofs.C09Shape
import Yuiv.Proofs.C09EucInst
import Mathlib.Algebra.Field.ZMod
/-
C09 — Smith normal form: `D = P·A·Q`, diagonal divisibility chain, true inverses.

Four groups:

 (K) the CHECKER that the harness applies (through the driver) to the OUTPUT OF THE REAL CODE:
     `snfTransformOk … = true → P·A·Q = D ∧ P·P⁻¹ = 1 ∧ Q·Q⁻¹ = 1` (and the two-sided consequences) and
     `isSnfShape D = true → D diagonal ∧ non-zero entries first, normalised, each divides the next`,
     for every ring given by operations that are `Lawful` w.r.t. an interpretation into a commutative ring
     (instances: ℤ, ℚ, 𝔽_p), with `matMul` tied to Mathlib's matrix product;
 (T) `snf_transform_inv` / `ref_transform_inv`: every primitive of `SnfCalc` preserves
     `target = P·A·Q ∧ P·P⁻¹ = 1 ∧ Q·Q⁻¹ = 1`, hence so does every control path of the code model `snfCalc`
     and of the reference `refSnf`, whenever they return;
 (S) `snf_shape_partial_*`: the exit conditions of the loops of `eliminate_at` and `diag_normalize`, for any operations;
 (W) the local `gcdx` wrapper: its 2×2 matrix has determinant 1 exactly under "pivot is normalised".
-/
namespace Yuiv.C09
open Yuiv Matrix

variable {α : Type} {R : Type} [CommRing R]

theorem matMul_eq_matrix_mul {o : ROps α} {φ : α → R} (L : Lawful o φ) {m k n : Nat}
    (A : Mat α m k) (B : Mat α k n) : toM φ (matMul o A B) = toM φ A * toM φ B := toM_matMul L A B

theorem isIdentity_sound {o : ROps α} {φ : α → R} (L : Lawful o φ) {n : Nat} (A : Mat α n n)
    (h : isIdentity o A = true) : toM φ A = 1 := (isIdentity_iff L A).1 h

/-- checker ⇒ `D = P·A·Q`, `P·P⁻¹ = I`, `Q·Q⁻¹ = I`; the inverses are two-sided and `A = P⁻¹·D·Q⁻¹` -/
theorem snfTransformOk_sound {o : ROps α} {φ : α → R} (L : Lawful o φ) {m n : Nat}
    (A D : Mat α m n) (P Pinv : Mat α m m) (Q Qinv : Mat α n n)
    (h : snfTransformOk o A D P Pinv Q Qinv = true) :
    toM φ P * toM φ A * toM φ Q = toM φ D ∧ toM φ P * toM φ Pinv = 1 ∧ toM φ Q * toM φ Qinv = 1 ∧
    toM φ Pinv * toM φ P = 1 ∧ toM φ Qinv * toM φ Q = 1 ∧
    toM φ A = toM φ Pinv * toM φ D * toM φ Qinv := by
  have hs := (snfTransformOk_iff L A D P Pinv Q Qinv).1 h
  obtain ⟨h1, h2, h3⟩ := hs
  obtain ⟨h4, h5, h6⟩ := TransformSpec.two_sided ⟨h1, h2, h3⟩
  exact ⟨h1, h2, h3, h4, h5, h6⟩

/-- the checker is also complete: it accepts every correct answer (so a rejection is a real defect) -/
theorem snfTransformOk_complete {o : ROps α} {φ : α → R} (L : Lawful o φ) {m n : Nat}
    (A D : Mat α m n) (P Pinv : Mat α m m) (Q Qinv : Mat α n n)
    (h1 : toM φ P * toM φ A * toM φ Q = toM φ D) (h2 : toM φ P * toM φ Pinv = 1)
    (h3 : toM φ Q * toM φ Qinv = 1) : snfTransformOk o A D P Pinv Q Qinv = true :=
  (snfTransformOk_iff L A D P Pinv Q Qinv).2 ⟨h1, h2, h3⟩

/-- checker ⇒ `D` is diagonal and its diagonal is `r` non-zero normalised entries, each dividing the next,
followed by zeros (`N` = "normalised", `hN`/`hD` = what the ring's `normalizing_unit`/`%` decide) -/
theorem isSnfShape_sound {e : EOps α} {φ : α → R} (L : Lawful e.toROps φ) (N : R → Prop)
    (hN : ∀ a, e.isNorm a = true → N (φ a)) (hD : ∀ a b, e.dvd a b = true → φ a ∣ φ b)
    {m n : Nat} (D : Mat α m n) (h : isSnfShape e D = true) :
    (∀ (i : Fin m) (j : Fin n), i.1 ≠ j.1 → toM φ D i j = 0) ∧ ShapeSpec N ((diagL D).map φ) := by
  simp only [isSnfShape, Bool.and_eq_true] at h
  exact ⟨(isDiag_iff L D).1 h.1, shapeL_sound L N hN hD _ h.2⟩

theorem snfTransformOk_sound_int {m n : Nat} (A D : Mat Int m n) (P Pinv : Mat Int m m) (Q Qinv : Mat Int n n)
    (h : snfTransformOk intOps.toROps A D P Pinv Q Qinv = true) :
    toM id P * toM id A * toM id Q = toM id D ∧ toM id P * toM id Pinv = 1 ∧ toM id Q * toM id Qinv = 1 ∧
    toM id Pinv * toM id P = 1 ∧ toM id Qinv * toM id Q = 1 ∧
    toM id A = toM id Pinv * toM id D * toM id Qinv :=
  snfTransformOk_sound lawful_int A D P Pinv Q Qinv h

/-- over ℤ: diagonal, `r` positive entries each dividing the next, then zeros -/
theorem isSnfShape_sound_int {m n : Nat} (D : Mat Int m n) (h : isSnfShape intOps D = true) :
    (∀ (i : Fin m) (j : Fin n), i.1 ≠ j.1 → D.get i j = 0) ∧ ShapeSpec (fun x : Int => 0 ≤ x) (diagL D) :=
  isSnfShape_int D h

example : snfTransformOk intOps.toROps (m := 2) (n := 2)
    ⟨#v[#v[2, 0], #v[0, 3]]⟩ ⟨#v[#v[1, 0], #v[0, 6]]⟩
    ⟨#v[#v[-1, 1], #v[3, -2]]⟩ ⟨#v[#v[2, 1], #v[3, 1]]⟩
    ⟨#v[#v[1, 3], #v[1, 2]]⟩ ⟨#v[#v[-2, 3], #v[1, -1]]⟩ = true := by decide

example : isSnfShape intOps (m := 2) (n := 3) ⟨#v[#v[1, 0, 0], #v[0, 6, 0]]⟩ = true := by decide

theorem snfTransformOk_sound_rat {m n : Nat} (A D : Mat Rat m n) (P Pinv : Mat Rat m m) (Q Qinv : Mat Rat n n)
    (h : snfTransformOk ratOps.toROps A D P Pinv Q Qinv = true) :
    toM id P * toM id A * toM id Q = toM id D ∧ toM id P * toM id Pinv = 1 ∧ toM id Q * toM id Qinv = 1 ∧
    toM id Pinv * toM id P = 1 ∧ toM id Qinv * toM id Q = 1 ∧
    toM id A = toM id Pinv * toM id D * toM id Qinv :=
  snfTransformOk_sound lawful_rat A D P Pinv Q Qinv h

/-- over ℚ: diagonal `1, …, 1, 0, …, 0` -/
theorem isSnfShape_sound_rat {m n : Nat} (D : Mat Rat m n) (h : isSnfShape ratOps D = true) :
    (∀ (i : Fin m) (j : Fin n), i.1 ≠ j.1 → D.get i j = 0) ∧
      ShapeSpec (fun x : Rat => x = 0 ∨ x = 1) (diagL D) := by
  have := isSnfShape_sound lawful_rat (fun x : Rat => x = 0 ∨ x = 1) ?_ ?_ D h
  · rw [List.map_id] at this; exact this
  · intro a ha
    simp only [EOps.isNorm, ROps.isOne, ratOps, beq_iff_eq] at ha
    show a = 0 ∨ a = 1
    by_cases h0 : a = 0
    · exact Or.inl h0
    · rw [if_neg h0] at ha
      exact Or.inr (inv_eq_one.1 ha)
  · intro a b hab
    simp only [EOps.dvd, ROps.isZero, ratOps, Bool.and_eq_true, Bool.not_eq_true', beq_eq_false_iff_ne] at hab
    exact ⟨a⁻¹ * b, (mul_inv_cancel_left₀ hab.1 b).symm⟩

theorem snfTransformOk_sound_fp (p : Nat) [NeZero p] {m n : Nat} (A D : Mat Nat m n) (P Pinv : Mat Nat m m)
    (Q Qinv : Mat Nat n n) (h : snfTransformOk (fpOps p).toROps A D P Pinv Q Qinv = true) :
    let φ := fun a : Nat => (a : ZMod p)
    toM φ P * toM φ A * toM φ Q = toM φ D ∧ toM φ P * toM φ Pinv = 1 ∧ toM φ Q * toM φ Qinv = 1 ∧
    toM φ Pinv * toM φ P = 1 ∧ toM φ Qinv * toM φ Q = 1 ∧
    toM φ A = toM φ Pinv * toM φ D * toM φ Qinv :=
  snfTransformOk_sound (lawful_fp p) A D P Pinv Q Qinv h

/-- over 𝔽_p (p prime): diagonal `1, …, 1, 0, …, 0` -/
theorem isSnfShape_sound_fp (p : Nat) [Fact p.Prime] {m n : Nat} (D : Mat Nat m n)
    (h : isSnfShape (fpOps p) D = true) :
    (∀ (i : Fin m) (j : Fin n), i.1 ≠ j.1 → ((D.get i j : Nat) : ZMod p) = 0) ∧
      ShapeSpec (fun x : ZMod p => x = 0 ∨ x = 1) ((diagL D).map (fun a : Nat => (a : ZMod p))) := by
  have L := lawfulEuc_fp p
  refine isSnfShape_sound L.lawful (fun x : ZMod p => x = 0 ∨ x = 1) (fun a ha => ?_)
    (fun a b hab => ((L.dvd_iff a b).1 hab).2) D h
  -- over a field the normalising unit of `a ≠ 0` is `a⁻¹`
  by_cases h0 : (a : ZMod p) = 0
  · exact Or.inl h0
  · have h1 := (L.isNorm_iff a).1 ha
    rw [fp_normUnit, if_neg (by rw [beq_iff_eq]; exact fun hh => h0 ((fp_cast_eq_zero p a).2 hh)),
      fpInv_cast p a h0] at h1
    exact Or.inr (inv_eq_one.1 h1)

/-! `Inv φ A s` : `s.p · A · s.q = s.t ∧ s.p · s.pinv = 1 ∧ s.q · s.qinv = 1` (as Mathlib matrices).
Each mirrored primitive of `snf.rs` preserves it; hence every control path of the code model does. -/

theorem prim_swap_rows {φ : α → R} {m n : Nat} {A : Mat α m n} (s : St α m n) (i j : Fin m) (hij : i ≠ j)
    (h : Inv φ A s) : Inv φ A (sSwapRows s i j) := inv_sSwapRows s i j hij h

theorem prim_swap_cols {φ : α → R} {m n : Nat} {A : Mat α m n} (s : St α m n) (i j : Fin n) (hij : i ≠ j)
    (h : Inv φ A s) : Inv φ A (sSwapCols s i j) := inv_sSwapCols s i j hij h

/-- `mul_row(i, u)`: whenever it does not panic (`u.inv()` is `Some`) -/
theorem prim_mul_row {e : EOps α} {φ : α → R} (L : LawfulE e φ) {m n : Nat} {A : Mat α m n}
    (s s' : St α m n) (i : Fin m) (u : α) (hs : sMulRow e s i u = .ok s') (h : Inv φ A s) : Inv φ A s' :=
  inv_sMulRow L s s' i u hs h

theorem prim_mul_col {e : EOps α} {φ : α → R} (L : LawfulE e φ) {m n : Nat} {A : Mat α m n}
    (s s' : St α m n) (j : Fin n) (u : α) (hs : sMulCol e s j u = .ok s') (h : Inv φ A s) : Inv φ A s' :=
  inv_sMulCol L s s' j u hs h

/-- `left_elementary([a,b,c,d], i, j)` (release build, no assertion): needs exactly `a·d − b·c = 1` and `i ≠ j` -/
theorem prim_left_elementary {e : EOps α} {φ : α → R} (L : LawfulE e φ) {m n : Nat} {A : Mat α m n}
    (s : St α m n) (a b c d : α) (i j : Fin m) (hij : i ≠ j) (hdet : φ a * φ d - φ b * φ c = 1)
    (h : Inv φ A s) : Inv φ A (sLeftRaw e.toROps s a b c d i j) :=
  inv_sLeftRaw L.toLawful s a b c d i j hij hdet h

theorem prim_right_elementary {e : EOps α} {φ : α → R} (L : LawfulE e φ) {m n : Nat} {A : Mat α m n}
    (s : St α m n) (a b c d : α) (i j : Fin n) (hij : i ≠ j) (hdet : φ a * φ d - φ b * φ c = 1)
    (h : Inv φ A s) : Inv φ A (sRightRaw e.toROps s a b c d i j) :=
  inv_sRightRaw L.toLawful s a b c d i j hij hdet h

/-- the determinant condition is necessary: with `det ≠ 1` the mirrored `P⁻¹` update is wrong -/
example : ¬ Inv (id : Int → Int) (⟨#v[#v[1, 0], #v[0, 1]]⟩ : Mat Int 2 2)
    (sLeftRaw intOps.toROps (St.init intOps.toROps ⟨#v[#v[1, 0], #v[0, 1]]⟩) 2 0 0 1 0 1) := by
  intro h
  have := (snfTransformOk_iff lawful_int _ _ _ _ _ _).2 h
  revert this; decide

/-- for every input matrix, every fuel and every control path of the code model of
`SnfCalc::process` (debug build, i.e. with the `debug_assert!`s of `left/right_elementary` compiled in):
whenever it returns, `result = P·A·Q`, `P·P⁻¹ = I`, `Q·Q⁻¹ = I`.  `pre` is the LLL–HNF preprocessing,
assumed to preserve the invariant (that is C10's `lll_transform_inv`); the ring operations are arbitrary
`LawfulE` operations — in particular NOTHING is assumed about `gcdx`, `/`, `%`, `normalizing_unit`. -/
theorem snf_transform_inv {e : EOps α} {φ : α → R} (L : LawfulE e φ) {m n : Nat} (A : Mat α m n)
    (pre : St α m n → Res (St α m n)) (hpre : ∀ s s', pre s = .ok s' → Inv φ A s → Inv φ A s')
    (fuel : Nat) (s : St α m n) (hs : snfCalc e true pre fuel A = .ok s) :
    toM φ s.p * toM φ A * toM φ s.q = toM φ s.t ∧ toM φ s.p * toM φ s.pinv = 1 ∧
      toM φ s.q * toM φ s.qinv = 1 :=
  inv_snfCalc L pre hpre fuel s hs

/-- the release build (no `debug_assert!`) returns exactly what the debug build returns, whenever the debug
build returns; so `snf_transform_inv` also covers the release build on every input on which the debug build —
the one the harness runs — does not trip an assertion -/
theorem snf_release_eq_debug {e : EOps α} {m n : Nat} (A : Mat α m n) (pre : St α m n → Res (St α m n))
    (fuel : Nat) (s : St α m n) (hs : snfCalc e true pre fuel A = .ok s) :
    snfCalc e false pre fuel A = .ok s :=
  (snfCalc_le (dbg := true) (fun _ => rfl) (Nat.le_refl fuel) pre A).eq_of_ok hs

/-- the same for the reference SNF of the driver (no assumption at all) -/
theorem ref_transform_inv {e : EOps α} {φ : α → R} (L : LawfulE e φ) {m n : Nat} (A : Mat α m n)
    (fuel : Nat) (s : St α m n) (hs : refSnf e fuel A = .ok s) :
    toM φ s.p * toM φ A * toM φ s.q = toM φ s.t ∧ toM φ s.p * toM φ s.pinv = 1 ∧
      toM φ s.q * toM φ s.qinv = 1 :=
  inv_refLoop L fuel 0 _ s hs (inv_init L.toLawful)

theorem snf_transform_inv_int {m n : Nat} (A : Mat Int m n) (fuel : Nat) (s : St Int m n)
    (hs : snfCalc intOps true (fun s => .ok s) fuel A = .ok s) :
    toM id s.p * toM id A * toM id s.q = toM id s.t ∧ toM id s.p * toM id s.pinv = 1 ∧
      toM id s.q * toM id s.qinv = 1 :=
  snf_transform_inv lawfulE_int A _ (fun s s' h hi => by cases h; exact hi) fuel s hs

/-- the hypothesis "`snfCalc` returns" is satisfiable non-trivially (and the diagonal is the expected one) -/
example : (match snfCalc intOps true (fun s => .ok s) 50 (⟨#v[#v[2, 4], #v[6, 8]]⟩ : Mat Int 2 2) with
    | .ok s => diagL s.t == [2, 4]
    | _ => false) = true := by decide +kernel

/-! The loop exit conditions, for any operations.  That they add up to the Smith shape needs lawful Euclidean
operations: `snf_shape_euc` (`Props/C09Euc.lean`), for ℤ `snf_shape` (`Props/C09Full.lean`). -/

/-- `eliminate_at(i, j)` returns only when row `i` and column `j` have at most one non-zero entry -/
theorem snf_shape_partial_pivot_isolated {e : EOps α} {m n : Nat} (dbg : Bool) (i : Fin m) (j : Fin n)
    (fuel : Nat) (s s' : St α m n) (h : eliminateAt e dbg i j fuel s = .ok s') :
    rowNz e s'.t i ≤ 1 ∧ colNz e s'.t j ≤ 1 := by
  revert s s'
  induction fuel with
  | zero => intro s s' h; cases h
  | succ fuel ih =>
    intro s s' h
    rw [eliminateAt_succ] at h
    split at h
    · obtain ⟨r1, _, h⟩ := Res.bind_eq_ok h
      obtain ⟨r2, _, h⟩ := Res.bind_eq_ok h
      split at h
      · cases h
      · exact ih _ _ h
    · rename_i hc
      cases h
      simpa only [Bool.or_eq_true, decide_eq_true_eq, not_or, Nat.not_lt] using hc

/-- the `'outer` loop of `diag_normalize` returns only when `d_k.divides(d_{k+1})` for all adjacent pairs among the
first `r` diagonal entries -/
theorem snf_shape_partial_chain {e : EOps α} {m n : Nat} (dbg : Bool) (r fuel : Nat) (s s' : St α m n)
    (h : diagOuter e dbg r fuel s = .ok s') (k : Nat) (hk : k + 1 < r ∧ k + 1 < m ∧ k + 1 < n) :
    e.dvd (s'.t.get ⟨k, Nat.lt_of_succ_lt hk.2.1⟩ ⟨k, Nat.lt_of_succ_lt hk.2.2⟩)
      (s'.t.get ⟨k + 1, hk.2.1⟩ ⟨k + 1, hk.2.2⟩) = true := by
  revert s s' k
  induction fuel with
  | zero => intro s s' h; cases h
  | succ fuel ih =>
    intro s s' h
    rw [diagOuter_succ] at h
    obtain ⟨⟨s1, b1⟩, h1, h2⟩ := Res.bind_eq_ok h
    cases b1 with
    | true =>
      cases h2
      rcases diagPass_spec dbg r r 0 s _ h1 with ⟨e1, d1⟩ | ⟨_, _, _, _, hb, _⟩
      · cases e1
        exact fun k hk => d1 k (Nat.zero_le _) (by omega) hk
      · cases hb
    | false => exact ih _ _ h2

/-! The local `gcdx` wrapper (`snf.rs:437-446`).
`gcdxW x y` returns `(d, a, 0)` with `a = x/d` whenever `a` is a unit.  The 2×2 matrix `[s, t; −b, a]` built from it
has determinant `a²` on that path, so the hypothesis the proof needs is exactly `a² = 1`:
 * over ℤ it always holds (`±1`);
 * in ℤ[i], ℤ[ω], fields, k[x] it holds when the pivot `x` is normalised (then `x` and the normalised gcd `d` are
   associates that are both normalised, so `a = 1`) — which `eliminate_step` establishes (`mul_col` by the
   normalising unit) and `eliminate_row/col` maintain (the new pivot is `d`);
 * it FAILS for an un-normalised pivot, e.g. `x = 2i, y = 4` in ℤ[i]: `d = 2, a = i`, determinant `−1`.
On the regular path the determinant is 1 by Bézout and exact division. -/
theorem gcdxW_det_one [IsDomain R] {e : EOps α} {φ : α → R} (L : Lawful e.toROps φ) (x y : α)
    (hbez : φ (e.gcdx x y).2.1 * φ x + φ (e.gcdx x y).2.2 * φ y = φ (e.gcdx x y).1)
    (hd : φ (e.gcdx x y).1 ≠ 0)
    (hx : φ (e.quo x (e.gcdx x y).1) * φ (e.gcdx x y).1 = φ x)
    (hy : φ (e.quo y (e.gcdx x y).1) * φ (e.gcdx x y).1 = φ y)
    (hunit : e.isUnit (e.quo x (e.gcdx x y).1) = true →
      φ (e.quo x (e.gcdx x y).1) * φ (e.quo x (e.gcdx x y).1) = 1) :
    φ (gcdxW e x y).2.1 * φ (e.quo x (gcdxW e x y).1)
      - φ (gcdxW e x y).2.2 * φ (e.neg (e.quo y (gcdxW e x y).1)) = 1 := by
  unfold gcdxW
  simp only
  split
  · rename_i hu
    simp only [L.zero, L.neg]
    rw [zero_mul, sub_zero]
    exact hunit hu
  · simp only [L.neg]
    apply mul_right_cancel₀ hd
    rw [one_mul]
    calc _ = φ (e.gcdx x y).2.1 * (φ (e.quo x (e.gcdx x y).1) * φ (e.gcdx x y).1)
            + φ (e.gcdx x y).2.2 * (φ (e.quo y (e.gcdx x y).1) * φ (e.gcdx x y).1) := by ring
      _ = _ := by rw [hx, hy, hbez]

/-- over ℤ the extra hypothesis of `gcdxW_det_one` is vacuous: a unit quotient squares to 1 -/
theorem int_unit_sq (a : Int) (h : intOps.isUnit a = true) : a * a = 1 := by
  simp only [intOps, Bool.or_eq_true, beq_iff_eq] at h
  rcases h with rfl | rfl <;> rfl

/-- "pivot is normalised" ⇒ the hypothesis: if `x = a·d` with `a` a unit and both `x`, `d` normalised, and the
normalised representative of an associate class is unique, then `a = 1` -/
theorem unit_quot_one_of_normalised (N : R → Prop)
    (huniq : ∀ u z : R, IsUnit u → z ≠ 0 → N z → N (u * z) → u = 1)
    (a d x : R) (ha : IsUnit a) (hx : a * d = x) (hd0 : d ≠ 0) (hNd : N d) (hNx : N x) : a * a = 1 := by
  have : a = 1 := huniq a d ha hd0 hNd (hx ▸ hNx)
  rw [this, one_mul]

end Yuiv.C09
