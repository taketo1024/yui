import Yuiv.Props.HomInv
import Yuiv.Props.C07Full
import Yuiv.Proofs.ListAux
/-
C07 / C08 — the REPORTED homology invariants are isomorphism invariants of the homology module.

`Props/C07Full.lean` proves that the code model of `HomologyCalc::calculate` (on the code model of the library's SNF)
returns `(rank, tors, P, Q)` satisfying `HomologySpec`.  Here:

* `homologySpec_presents`: every answer satisfying `HomologySpec` PRESENTS the homology module
  `HZ d1 d2 = ker d2 / im d1` (a Mathlib quotient of submodules of `Fin n → ℤ`; definitionally the `HMat` / `Hn` of
  `Props/C08Hom.lean`) as `ℤ^rank × ∏_u ℤ/tors[u]`, written `∏_{i < rank + s} ZMod (c i)` with `c i = 0` on the free
  coordinates — the iso is induced by `z ↦ P·z`;
* `reported_invariants_iso_invariant`: if the homology modules of `(d1, d2)` and `(d1', d2')` are isomorphic (as abelian
  groups), the code model reports THE SAME `(rank, tors)` for both (`Proofs/HomInv.lean`: `#Hom(H, ℤ/q)` is an
  isomorphism invariant and determines rank and torsion orders).
-/
namespace Yuiv.C07
open Matrix Yuiv Yuiv.SnfUnique Yuiv.HomInv Finset

/-- **an answer satisfying `HomologySpec` presents the homology module**: `ker d2 / im d1 ≃ₗ[ℤ] ∏_i ZMod (c i)`,
`c = (0, …, 0, tors[0], tors[1], …)` (`rank` zeros), i.e. `ℤ^rank × ∏_u ℤ/tors[u]` -/
theorem homologySpec_presents (d1 d2 : Mat) (n m k rank : Nat) (tors : List Int) (P Q : Mat)
    (h : HomologySpec d1 d2 n m k rank tors P Q) :
    Nonempty (HZ (d1.toM n m) (d2.toM k n) ≃ₗ[ℤ]
      (∀ i : Fin (rank + tors.length), ZMod (coordOrder rank tors i.val))) := by
  refine HZ_present (d1.toM n m) (d2.toM k n) (fun i => coordOrder rank tors i.val)
    (P.toM (rank + tors.length) n) (Q.toM n (rank + tors.length)) h.pq h.cycles ?_ ?_
  · intro x i
    exact (coordOrder_dvd rank tors i.val _).2 (h.bdry x i)
  · intro z hz hdiv
    exact h.complete z hz (fun i => (coordOrder_dvd rank tors i.val _).1 (hdiv i))

/-- the counting function of the homology module in terms of the reported invariants:
`#Hom(H, ℤ/q) = q^rank · ∏_u #{y ∈ ℤ/q | tors[u]·y = 0}` (`= q^rank · ∏ gcd(tors[u], q)`) -/
theorem homCount_of_homologySpec (d1 d2 : Mat) (n m k rank : Nat) (tors : List Int) (P Q : Mat)
    (h : HomologySpec d1 d2 n m k rank tors P Q) (q : ℕ) [NeZero q] :
    homCount (HZ (d1.toM n m) (d2.toM k n)) q = q ^ rank * ∏ u ∈ range tors.length, cz (tors.getD u 0) q := by
  obtain ⟨e⟩ := homologySpec_presents d1 d2 n m k rank tors P Q h
  rw [homCount_congr e.toAddEquiv q, homCount_pi_zmod,
    Fin.prod_univ_eq_prod_range (fun i => cz ((coordOrder rank tors i : ℕ) : ℤ) q), Finset.prod_range_add]
  congr 1
  · rw [Finset.prod_congr rfl (g := fun _ => q) (fun i hi => by
      unfold coordOrder; rw [if_pos (Finset.mem_range.1 hi), Nat.cast_zero, cz_zero]),
      Finset.prod_const, Finset.card_range]
  · apply Finset.prod_congr rfl
    intro u _
    unfold coordOrder
    rw [if_neg (by omega), show rank + u - rank = u by omega]
    exact cz_natAbs _ _ q (Int.natAbs_natCast _)

/-- `(rank, tors)` of a `HomologySpec` answer are determined by the isomorphism type of the homology module -/
theorem homologySpec_invariants_unique (d1 d2 d1' d2' : Mat) (n m k n' m' k' rank rank' : Nat) (tors tors' : List Int)
    (P Q P' Q' : Mat) (h : HomologySpec d1 d2 n m k rank tors P Q)
    (h' : HomologySpec d1' d2' n' m' k' rank' tors' P' Q')
    (e : HZ (d1.toM n m) (d2.toM k n) ≃+ HZ (d1'.toM n' m') (d2'.toM k' n')) :
    rank = rank' ∧ tors = tors' := by
  have hgt : ∀ (tors : List Int), (∀ x ∈ tors, 1 < x) → ∀ u, u < tors.length → 1 < (tors.getD u 0).natAbs := by
    intro tors ht u hu
    rw [ListAux.getD_of_lt hu]
    have := ht _ (List.getElem_mem hu)
    omega
  have hch : ∀ (tors : List Int), tors.Pairwise (· ∣ ·) → ∀ u, u + 1 < tors.length →
      tors.getD u 0 ∣ tors.getD (u + 1) 0 := by
    intro tors ht u hu
    rw [ListAux.getD_of_lt hu, ListAux.getD_of_lt (by omega)]
    exact List.pairwise_iff_getElem.1 ht u (u + 1) (by omega) hu (by omega)
  obtain ⟨hr, hs, ht⟩ := rank_tors_unique_core rank tors.length rank' tors'.length (fun u => tors.getD u 0)
    (fun u => tors'.getD u 0) (hgt tors h.tors_gt) (hgt tors' h'.tors_gt) (hch tors h.tors_chain)
    (hch tors' h'.tors_chain) (by
      intro q hq
      have : NeZero q := ⟨by omega⟩
      rw [← homCount_of_homologySpec d1 d2 n m k rank tors P Q h q,
        ← homCount_of_homologySpec d1' d2' n' m' k' rank' tors' P' Q' h' q]
      exact homCount_congr e q)
  refine ⟨hr, List.ext_getElem hs (fun i hi hi' => ?_)⟩
  have h1 := ht i hi
  simp only [ListAux.getD_of_lt hi, ListAux.getD_of_lt hi'] at h1
  have h2 := h.tors_gt _ (List.getElem_mem hi)
  have h3 := h'.tors_gt _ (List.getElem_mem hi')
  omega

/-- **reported_invariants_iso_invariant** (ℤ).  Let `d2·d1 = 0`, `d2'·d1' = 0`.  If the homology modules
`ker d2 / im d1` and `ker d2' / im d1'` are isomorphic as abelian groups (`≃+`; a `≃ₗ[ℤ]` gives one by `.toAddEquiv`), then
there are a fuel bound `N` and ONE pair `(rank, tors)` such that for every `fuel ≥ N` the code model of
`HomologyCalc::calculate` on the code model of the library's SNF returns `(rank, tors, _)` for `(d1, d2)` AND for
`(d1', d2')` — no panic, no fuel exhaustion.  So the printed rank and torsion list are isomorphism invariants of the
homology module; with `Props/C08Hom` (chain homotopy equivalences induce such isomorphisms) they are invariants of chain
reduction. -/
theorem reported_invariants_iso_invariant (d1 d2 d1' d2' : Mat) (hsh : d2.c = d1.r) (hsh' : d2'.c = d1'.r)
    (hdd : d2.toM d2.r d1.r * d1.toM d1.r d1.c = 0) (hdd' : d2'.toM d2'.r d1'.r * d1'.toM d1'.r d1'.c = 0)
    (e : HZ (d1.toM d1.r d1.c) (d2.toM d2.r d1.r) ≃+ HZ (d1'.toM d1'.r d1'.c) (d2'.toM d2'.r d1'.r)) :
    ∃ (N rank : Nat) (tors : List Int),
      (∀ fuel, N ≤ fuel → ∃ T, calculate (snfC09 fuel) d1 d2 true = .ok (rank, tors, some T)) ∧
      (∀ fuel, N ≤ fuel → ∃ T', calculate (snfC09 fuel) d1' d2' true = .ok (rank, tors, some T')) := by
  obtain ⟨N, _, _, rank, tors, T, P, Q, _, _, hc, _, _, _, _, _, _, hspec⟩ := calculate_end_to_end d1 d2 hsh hdd
  obtain ⟨N', _, _, rank', tors', T', P', Q', _, _, hc', _, _, _, _, _, _, hspec'⟩ :=
    calculate_end_to_end d1' d2' hsh' hdd'
  obtain ⟨hr, ht⟩ := homologySpec_invariants_unique d1 d2 d1' d2' _ _ _ _ _ _ rank rank' tors tors' P Q P' Q'
    hspec hspec' e
  subst hr; subst ht
  exact ⟨max N N', rank, tors, fun fuel hf => ⟨T, hc fuel (by omega)⟩, fun fuel hf => ⟨T', hc' fuel (by omega)⟩⟩

/-- non-vacuity: `d1 = [[2,0,0],[2,6,0],[0,0,0],[0,0,0]]`, `d2 = (0,0,0,1)` has `d2·d1 = 0` and the model reports
`(1, [2, 6])` (`H = ℤ ⊕ ℤ/2 ⊕ ℤ/6`, Props/C07Full.lean); the identity is an isomorphism of its homology module -/
example : Nonempty (HZ ((⟨4, 3, #[2, 0, 0, 2, 6, 0, 0, 0, 0, 0, 0, 0]⟩ : Mat).toM 4 3) ((⟨1, 4, #[0, 0, 0, 1]⟩ : Mat).toM 1 4)
    ≃+ HZ ((⟨4, 3, #[2, 0, 0, 2, 6, 0, 0, 0, 0, 0, 0, 0]⟩ : Mat).toM 4 3) ((⟨1, 4, #[0, 0, 0, 1]⟩ : Mat).toM 1 4)) :=
  ⟨AddEquiv.refl _⟩

end Yuiv.C07
