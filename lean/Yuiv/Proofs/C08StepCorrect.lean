import Yuiv.Model.C08Step
import Yuiv.Proofs.C08Schur
import Yuiv.Proofs.C08
import Yuiv.Proofs.Res
import Yuiv.Proofs.Loop
import Yuiv.Proofs.ListAux
import Mathlib.Algebra.BigOperators.Fin
import Mathlib.Data.ZMod.Basic
/-
C08 — correctness of the code model `Yuiv.C08.schurModel` (Model/C08Step.lean) of `Schur::from_partial_triangular`.
The `do`-loops of the model are rewritten into folds (`foldRes`, `stepL`,
`colStepL`); the operation record `R : Ops α` is interpreted in a commutative ring `K` through `φ : α → K`
(`Lawful R φ`; `φ = id` for `ℤ`, `ℚ`, `φ = Int.cast : ℤ → ZMod p` for the `F_p` tag).  In `_solve_triangular` the
quantity `A·x + b` is invariant under every step (any matrix, any `diag`), so the final `debug_assert!(b == 0)` gives
`A·x = b₀` on EVERY `.ok` run; on a triangular matrix with invertible diagonal the buffer does end up all zero and
`inv().unwrap()` never fails.
-/
namespace Yuiv.C08
open Matrix

variable {α : Type}

/-- fold with a `Res`-valued step (what a `for` loop without `break` in the `Res` monad is) -/
def foldRes {β γ : Type} (step : γ → β → Res β) : β → List γ → Res β
  | s, [] => .ok s
  | s, j :: js => match step j s with
    | .ok s' => foldRes step s' js
    | .panic => .panic
    | .err => .err

theorem foldRes_eq {β γ : Type} (step : γ → β → Res β) (s : β) (l : List γ) :
    foldRes step s l = l.foldlM (fun s j => step j s) s := by
  induction l generalizing s with
  | nil => rfl
  | cons j js ih =>
    rw [foldRes, List.foldlM_cons]
    cases step j s with
    | ok s' => exact ih s'
    | panic => rfl
    | err => rfl

theorem foldRes_cons {β γ : Type} (step : γ → β → Res β) (s : β) (j : γ) (js : List γ) :
    foldRes step s (j :: js) = (step j s >>= fun s' => foldRes step s' js) := by
  simp only [foldRes_eq, List.foldlM_cons]

theorem foldRes_concat {β γ : Type} (step : γ → β → Res β) (l : List γ) (j : γ) (s : β) :
    foldRes step s (l ++ [j]) = (foldRes step s l >>= step j) := by
  simp only [foldRes_eq, List.foldlM_append, List.foldlM_cons, List.foldlM_nil, bind_pure]

theorem foldRes_pure {β γ : Type} (f : β → γ → β) (l : List γ) (s : β) :
    foldRes (fun i s => Res.ok (f s i)) s l = .ok (l.foldl f s) := by
  rw [foldRes_eq]
  exact List.foldlM_pure

theorem foldRes_ne_err {β γ : Type} {step : γ → β → Res β} (h : ∀ j s, step j s ≠ .err) (s : β) (l : List γ) :
    foldRes step s l ≠ .err := by
  rw [foldRes_eq]
  exact Res.sat_ne_err.1 ((Res.foldlM_sat (fun _ _ => True) (fun _ j _ s _ _ => Res.sat_ne_err.2 (h j s)) trivial).mono
    (fun _ _ => trivial) id id)

theorem forIn_yield_res {β γ : Type} (l : List γ) (body : γ → β → Res (ForInStep β)) (step : γ → β → Res β)
    (s : β) (h : ∀ j s, body j s = (step j s >>= fun s' => pure (ForInStep.yield s'))) :
    forIn l s body = foldRes step s l := by
  rw [foldRes_eq]
  exact Loop.forIn_eq_foldlM (fun j _ s => (h j s).trans (map_eq_pure_bind _ _).symm) s

theorem legacyRange_eq_range (r : Nat) : List.range' ([0:r] : Std.Legacy.Range).start ([0:r] : Std.Legacy.Range).size
    ([0:r] : Std.Legacy.Range).step = List.range r := by
  simp [Std.Legacy.Range.size, List.range_eq_range']

/-- body of the inner loop of `_solve_triangular`: `b[i] -= a_ij * x_j` if `a_ij` is stored -/
def innerStep (R : Ops α) (a : DMat α) (j : Nat) (xj : α) (b : Array α) (i : Nat) : Array α :=
  if !R.isZero (dget R a i j) then
    b.setIfInBounds i (R.add (b.getD i R.zero) (R.neg (R.mul (dget R a i j) xj)))
  else b

def inner (R : Ops α) (a : DMat α) (r j : Nat) (xj : α) (b : Array α) : Array α :=
  (List.range r).foldl (innerStep R a j xj) b

/-- body of the outer loop of `_solve_triangular` on the state `(b, x)` -/
def stepL (R : Ops α) (a : DMat α) (r : Nat) (diag : List α) (j : Nat) (s : Array α × Array α) :
    Res (Array α × Array α) :=
  if R.isZero (s.1.getD j R.zero) then .ok s
  else match R.inv? (diag.getD j R.zero) with
    | none => .panic
    | some uinv =>
      .ok (inner R a r j (R.mul (s.1.getD j R.zero) uinv) s.1,
        s.2.setIfInBounds j (R.mul (s.1.getD j R.zero) uinv))

/-- the order in which `_solve_triangular` visits the pivots -/
def order (upper : Bool) (len : Nat) : List Nat :=
  if upper then (List.range len).reverse else List.range len

theorem solveCol_eq (R : Ops α) (upper : Bool) (a : DMat α) (r : Nat) (diag : List α) (b : Array α) :
    solveCol R upper a r diag b =
      (foldRes (stepL R a r diag) (b, Array.replicate r R.zero) (order upper diag.length) >>= fun s =>
        if s.1.all R.isZero then .ok s.2 else .panic) := by
  unfold solveCol order
  dsimp only
  rw [forIn_yield_res (step := stepL R a r diag)]
  · cases foldRes (stepL R a r diag) (b, Array.replicate r R.zero)
          (if upper then (List.range diag.length).reverse else List.range diag.length) with
    | ok s =>
      show (if (!s.1.all R.isZero) = true then _ else _) = (if s.1.all R.isZero = true then _ else _)
      cases h : s.1.all R.isZero <;> rfl
    | panic => rfl
    | err => rfl
  · intro j s
    unfold stepL
    by_cases hz : R.isZero (s.1.getD j R.zero) = true
    · simp only [hz, if_true]; rfl
    · simp only [hz]
      cases hinv : R.inv? (diag.getD j R.zero) with
      | none => rfl
      | some uinv =>
        simp only [Bool.false_eq_true, if_false]
        rw [Std.Legacy.Range.forIn_eq_forIn_range', legacyRange_eq_range,
          forIn_yield_res (step := fun i b => Res.ok (innerStep R a j (R.mul (s.1.getD j R.zero) uinv) b i)),
          foldRes_pure]
        · rfl
        · intro i b
          simp only [innerStep]
          split <;> rfl

/-- right-hand side `j` of `solve_triangular`, made dense -/
def colOf (R : Ops α) (y : DMat α) (r j : Nat) : Array α := Array.ofFn (n := r) fun i => dget R y i.val j

/-- body of the column loop of `solve_triangular` -/
def colStepL (R : Ops α) (upper : Bool) (a : DMat α) (r : Nat) (y : DMat α) (j : Nat)
    (cols : Array (Array α)) : Res (Array (Array α)) :=
  solveCol R upper a r (collectDiag R a r) (colOf R y r j) >>= fun x => .ok (cols.push x)

theorem solveTri_eq (R : Ops α) (upper : Bool) (a : DMat α) (r : Nat) (y : DMat α) (k : Nat) :
    solveTri R upper a r y k =
      if isTriang R upper a r then
        foldRes (colStepL R upper a r y) #[] (List.range k) >>= fun cols =>
          .ok (dmk r k fun i j => (cols.getD j #[]).getD i R.zero)
      else .panic := by
  unfold solveTri
  dsimp only
  cases isTriang R upper a r with
  | false => rfl
  | true =>
    simp only [Res.assert, if_true, Res.bind_ok]
    rw [Std.Legacy.Range.forIn_eq_forIn_range', legacyRange_eq_range, forIn_yield_res (step := colStepL R upper a r y)]
    · cases foldRes (colStepL R upper a r y) #[] (List.range k) <;> rfl
    · intro j s
      unfold colStepL colOf
      cases solveCol R upper a r (collectDiag R a r) (Array.ofFn fun i : Fin r => dget R y (↑i) j) <;> rfl

/-- the operation record `R` computes in the commutative ring `K` through `φ` -/
structure Lawful (R : Ops α) {K : Type*} [CommRing K] (φ : α → K) : Prop where
  zero : φ R.zero = 0
  one : φ R.one = 1
  add : ∀ a b, φ (R.add a b) = φ a + φ b
  mul : ∀ a b, φ (R.mul a b) = φ a * φ b
  neg : ∀ a, φ (R.neg a) = -φ a
  isZero : ∀ a, R.isZero a = true ↔ φ a = 0
  inv : ∀ a u, R.inv? a = some u → φ a * φ u = 1

/-- the leading `r × r` block of `a` is triangular and its diagonal entries are stored and invertible -/
structure UnitTri (R : Ops α) (upper : Bool) (a : DMat α) (r : Nat) : Prop where
  tri : ∀ i j, i < r → j < r → (if upper then j < i else i < j) → R.isZero (dget R a i j) = true
  diag : ∀ j, j < r → R.isZero (dget R a j j) = false ∧ (R.inv? (dget R a j j)).isSome

section vec
variable {K : Type*} [CommRing K] {R : Ops α} {φ : α → K}

theorem getD_set (b : Array α) (i j : Nat) (v d : α) :
    (b.setIfInBounds i v).getD j d = if i = j ∧ i < b.size then v else b.getD j d := by
  simp only [Array.getD_eq_getD_getElem?, Array.getElem?_setIfInBounds]
  by_cases h1 : i = j
  · subst h1
    by_cases h2 : i < b.size
    · simp [h2]
    · simp [h2]
  · simp [h1]

theorem getD_oob (b : Array α) (i : Nat) (d : α) (h : b.size ≤ i) : b.getD i d = d :=
  ListAux.getD_oob b i d h

theorem innerStep_size (a : DMat α) (j : Nat) (xj : α) (b : Array α) (i : Nat) :
    (innerStep R a j xj b i).size = b.size := by
  unfold innerStep; split <;> simp

theorem inner_size (a : DMat α) (r j : Nat) (xj : α) (b : Array α) : (inner R a r j xj b).size = b.size := by
  unfold inner
  induction r with
  | zero => rfl
  | succ t ih => rw [List.range_succ, List.foldl_append, List.foldl_cons, List.foldl_nil, innerStep_size, ih]

/-- one inner step subtracts `a_tj * x_j` from `b_t` (a zero `a_tj` is skipped, which changes nothing) -/
theorem innerStep_get (L : Lawful R φ) (a : DMat α) (j : Nat) (xj : α) (b : Array α) (t i : Nat) :
    φ ((innerStep R a j xj b t).getD i R.zero) =
      if t = i ∧ t < b.size then φ (b.getD i R.zero) - φ (dget R a t j) * φ xj else φ (b.getD i R.zero) := by
  unfold innerStep
  cases hz : R.isZero (dget R a t j) with
  | true =>
    rw [Bool.not_true, if_neg Bool.false_ne_true]
    split
    · rw [(L.isZero _).1 hz, zero_mul, sub_zero]
    · rfl
  | false =>
    rw [Bool.not_false, if_pos rfl, getD_set]
    split
    · rename_i h
      rw [← h.1, L.add, L.neg, L.mul, sub_eq_add_neg]
    · rfl

theorem inner_get (L : Lawful R φ) (a : DMat α) (r j : Nat) (xj : α) (b : Array α) (hr : r ≤ b.size) (i : Nat) :
    φ ((inner R a r j xj b).getD i R.zero) =
      if i < r then φ (b.getD i R.zero) - φ (dget R a i j) * φ xj else φ (b.getD i R.zero) := by
  induction r with
  | zero => rfl
  | succ t ih =>
    have hsz : t < (inner R a t j xj b).size := by rw [inner_size]; omega
    rw [inner, List.range_succ, List.foldl_append, List.foldl_cons, List.foldl_nil, ← inner, innerStep_get L,
      ih (by omega)]
    by_cases h1 : t = i
    · subst h1
      rw [if_pos ⟨rfl, hsz⟩, if_neg (Nat.lt_irrefl _), if_pos (Nat.lt_succ_self _)]
    · rw [if_neg (fun h => h1 h.1)]
      by_cases h2 : i < t
      · rw [if_pos h2, if_pos (by omega)]
      · rw [if_neg h2, if_neg (by omega)]

theorem stepL_sound (L : Lawful R φ) (a : DMat α) (r : Nat) (diag : List α) (j : Nat)
    (s s1 : Array α × Array α) (h : stepL R a r diag j s = .ok s1) (hj : j < r)
    (hb : s.1.size = r) (hx : s.2.size = r) (hxj : φ (s.2.getD j R.zero) = 0) :
    s1.1.size = r ∧ s1.2.size = r ∧ (∀ t, t ≠ j → φ (s1.2.getD t R.zero) = φ (s.2.getD t R.zero)) ∧
      ∀ i, i < r →
        ∑ t ∈ Finset.range r, φ (dget R a i t) * φ (s1.2.getD t R.zero) + φ (s1.1.getD i R.zero) =
        ∑ t ∈ Finset.range r, φ (dget R a i t) * φ (s.2.getD t R.zero) + φ (s.1.getD i R.zero) := by
  unfold stepL at h
  by_cases hz : R.isZero (s.1.getD j R.zero) = true
  · rw [if_pos hz] at h
    cases h
    exact ⟨hb, hx, fun _ _ => rfl, fun _ _ => rfl⟩
  · rw [if_neg hz] at h
    cases hinv : R.inv? (diag.getD j R.zero) with
    | none => rw [hinv] at h; cases h
    | some uinv =>
      rw [hinv] at h
      cases h
      refine ⟨by simp [inner_size, hb], by simp [hx], ?_, ?_⟩
      · intro t ht
        simp only [getD_set]
        rw [if_neg (fun h => ht h.1.symm)]
      · intro i hi
        simp only [getD_set, hx, hj, and_true]
        rw [inner_get L a r j _ s.1 (by omega) i, if_pos hi]
        have hsum : ∑ t ∈ Finset.range r, φ (dget R a i t) *
              φ (if j = t then R.mul (s.1.getD j R.zero) uinv else s.2.getD t R.zero) =
            ∑ t ∈ Finset.range r, (φ (dget R a i t) * φ (s.2.getD t R.zero) +
              if t = j then φ (dget R a i t) * φ (R.mul (s.1.getD j R.zero) uinv) else 0) := by
          refine Finset.sum_congr rfl fun t _ => ?_
          by_cases htj : j = t
          · subst htj
            rw [if_pos rfl, if_pos rfl, hxj]; ring
          · have : ¬ t = j := fun h => htj h.symm
            rw [if_neg htj, if_neg this]; ring
        rw [hsum, Finset.sum_add_distrib, Finset.sum_ite_eq' (Finset.range r) j, if_pos (Finset.mem_range.2 hj)]
        ring

/-- the pivots may be taken in any order in which no column meets the row of an earlier pivot (`a k j = 0` for `k` before
`j`): a processed row is never written again, so the buffer is zero at `j` after pivot `j` and stays zero at the earlier
pivots; with `diag[j] = a_jj` invertible there is no panic on the way -/
theorem outer_zero (L : Lawful R φ) (a : DMat α) (r : Nat) (diag : List α) (todo : List Nat)
    (hlt : ∀ j ∈ todo, j < r)
    (hd : ∀ j ∈ todo, diag.getD j R.zero = dget R a j j ∧ (R.inv? (dget R a j j)).isSome)
    (done : List Nat) (hord : (done ++ todo).Pairwise fun k j => φ (dget R a k j) = 0)
    (s : Array α × Array α) (hb : s.1.size = r) (hz : ∀ k ∈ done, φ (s.1.getD k R.zero) = 0) :
    ∃ s', foldRes (stepL R a r diag) s todo = .ok s' ∧ s'.1.size = r ∧
      ∀ k ∈ done ++ todo, φ (s'.1.getD k R.zero) = 0 := by
  induction todo generalizing done s with
  | nil => exact ⟨s, rfl, hb, by rwa [List.append_nil]⟩
  | cons j rest ih =>
    have hj : j < r := hlt j List.mem_cons_self
    have hrest : ∀ j' ∈ rest, j' < r := fun j' h' => hlt j' (List.mem_cons_of_mem _ h')
    have hd' : ∀ j' ∈ rest, diag.getD j' R.zero = dget R a j' j' ∧ (R.inv? (dget R a j' j')).isSome :=
      fun j' h' => hd j' (List.mem_cons_of_mem _ h')
    rw [List.append_cons] at hord ⊢
    rw [foldRes, stepL]
    by_cases hzj : R.isZero (s.1.getD j R.zero) = true
    · rw [if_pos hzj]
      refine ih hrest hd' _ hord s hb fun k hk => ?_
      rcases List.mem_append.1 hk with hk | hk
      · exact hz k hk
      · rw [List.mem_singleton.1 hk]; exact (L.isZero _).1 hzj
    · rw [if_neg hzj]
      obtain ⟨hdj, hinv⟩ := hd j List.mem_cons_self
      obtain ⟨u, hu⟩ := Option.isSome_iff_exists.1 hinv
      rw [hdj, hu]
      refine ih hrest hd' _ hord _ (by rw [inner_size]; exact hb) fun k hk => ?_
      rw [inner_get L a r j _ s.1 (by omega) k, L.mul]
      rcases List.mem_append.1 hk with hk | hk
      · have h0 : φ (dget R a k j) = 0 :=
          (List.pairwise_append.1 (List.pairwise_append.1 hord).1).2.2 k hk j (List.mem_singleton.2 rfl)
        rw [hz k hk, h0, zero_mul, sub_zero, ite_self]
      · rw [List.mem_singleton.1 hk, if_pos hj]
        calc φ (s.1.getD j R.zero) - φ (dget R a j j) * (φ (s.1.getD j R.zero) * φ u)
            = φ (s.1.getD j R.zero) * (1 - φ (dget R a j j) * φ u) := by ring
          _ = 0 := by rw [L.inv _ _ hu, sub_self, mul_zero]

end vec

section col
variable {K : Type*} [CommRing K] {R : Ops α} {φ : α → K}

theorem order_nodup (upper : Bool) (len : Nat) : (order upper len).Nodup := by
  unfold order
  split
  · exact List.nodup_reverse.2 List.nodup_range
  · exact List.nodup_range

theorem mem_order (upper : Bool) (len j : Nat) : j ∈ order upper len ↔ j < len := by
  unfold order
  split <;> simp

theorem collectDiag_length_le (R : Ops α) (a : DMat α) (r : Nat) : (collectDiag R a r).length ≤ r := by
  unfold collectDiag
  exact (List.length_filterMap_le _ _).trans (by simp)

theorem collectDiag_eq_map (R : Ops α) (a : DMat α) (r : Nat)
    (h : ∀ j, j < r → R.isZero (dget R a j j) = false) :
    collectDiag R a r = (List.range r).map fun i => dget R a i i := by
  unfold collectDiag
  rw [← List.filterMap_eq_map]
  refine List.filterMap_congr fun i hi => ?_
  simp [h i (List.mem_range.1 hi)]

theorem order_pairwise (upper : Bool) (Z : Nat → Nat → Prop) (r : Nat)
    (hZ : ∀ i j, i < r → j < r → (if upper then j < i else i < j) → Z i j) : (order upper r).Pairwise Z := by
  have hlt : (List.range r).Pairwise (· < ·) := List.pairwise_lt_range
  unfold order
  cases upper with
  | true =>
    rw [if_pos rfl, List.pairwise_reverse]
    exact hlt.imp_of_mem fun {i j} hi hj h => hZ j i (List.mem_range.1 hj) (List.mem_range.1 hi) h
  | false =>
    rw [if_neg Bool.false_ne_true]
    exact hlt.imp_of_mem fun {i j} hi hj h => hZ i j (List.mem_range.1 hi) (List.mem_range.1 hj) h

end col

section mat
variable {K : Type*} [CommRing K] {R : Ops α} {φ : α → K}

/-- the `p × q` Mathlib matrix over `K` that the dense model matrix `A` denotes -/
def toMat (R : Ops α) (φ : α → K) (A : DMat α) (p q : Nat) : Matrix (Fin p) (Fin q) K :=
  fun i j => φ (dget R A i.val j.val)

theorem dget_dmk (R : Ops α) (m n : Nat) (f : Nat → Nat → α) (i j : Nat) :
    dget R (dmk m n f) i j = if i < m ∧ j < n then f i j else R.zero := by
  unfold dget dmk
  simp only [Array.getD_eq_getD_getElem?, Array.getElem?_ofFn]
  by_cases hi : i < m
  · by_cases hj : j < n
    · simp [hi, hj]
    · simp [hi, hj]
  · simp [hi]

theorem colOf_size (R : Ops α) (y : DMat α) (r j : Nat) : (colOf R y r j).size = r := by simp [colOf]

theorem colOf_get (R : Ops α) (y : DMat α) (r j i : Nat) (hi : i < r) :
    (colOf R y r j).getD i R.zero = dget R y i j := by
  simp [colOf, Array.getD_eq_getD_getElem?, hi]

theorem getD_push {β : Type} (c : Array β) (x d : β) (j : Nat) :
    (c.push x).getD j d = if j = c.size then x else c.getD j d := by
  simp only [Array.getD_eq_getD_getElem?, Array.getElem?_push]
  split <;> simp

theorem cols_sound (upper : Bool) (a : DMat α) (r : Nat) (y : DMat α) (k : Nat) (cols : Array (Array α))
    (h : foldRes (colStepL R upper a r y) #[] (List.range k) = .ok cols) :
    cols.size = k ∧ ∀ j, j < k →
      solveCol R upper a r (collectDiag R a r) (colOf R y r j) = .ok (cols.getD j #[]) := by
  induction k generalizing cols with
  | zero => cases h; exact ⟨rfl, fun j hj => absurd hj (by omega)⟩
  | succ k ih =>
    rw [List.range_succ, foldRes_concat] at h
    obtain ⟨c, h1, h⟩ := Res.bind_eq_ok h
    obtain ⟨x, h2, h⟩ := Res.bind_eq_ok h
    cases h
    obtain ⟨e1, e2⟩ := ih c h1
    refine ⟨by simp [e1], fun j hj => ?_⟩
    by_cases hjk : j = k
    · subst hjk
      rw [h2, getD_push, if_pos e1.symm]
    · have hlt : j < k := by omega
      rw [e2 j hlt, getD_push, if_neg (by omega)]

theorem cols_complete (upper : Bool) (a : DMat α) (r : Nat) (y : DMat α) (k : Nat)
    (h : ∀ j, j < k → ∃ x, solveCol R upper a r (collectDiag R a r) (colOf R y r j) = .ok x) :
    ∃ cols, foldRes (colStepL R upper a r y) #[] (List.range k) = .ok cols := by
  induction k with
  | zero => exact ⟨_, rfl⟩
  | succ k ih =>
    obtain ⟨c, hc⟩ := ih (fun j hj => h j (by omega))
    obtain ⟨x, hx⟩ := h k (by omega)
    refine ⟨c.push x, ?_⟩
    rw [List.range_succ, foldRes_concat, hc]
    simp only [Res.bind_ok, colStepL, hx]

theorem isTriang_iff (R : Ops α) (upper : Bool) (a : DMat α) (r : Nat) :
    isTriang R upper a r = true ↔
      ∀ i j, i < r → j < r → (if upper then j < i else i < j) → R.isZero (dget R a i j) = true := by
  unfold isTriang
  simp only [allN_iff, Bool.or_eq_true]
  constructor
  · intro h i j hi hj hlt
    rcases h i hi j hj with h1 | h1
    · exact h1
    · cases upper with
      | true => simp at h1 hlt; omega
      | false => simp at h1 hlt; omega
  · intro h i hi j hj
    by_cases hlt : (if upper then j < i else i < j)
    · exact Or.inl (h i j hi hj hlt)
    · refine Or.inr ?_
      cases upper with
      | true => simp at hlt ⊢; omega
      | false => simp at hlt ⊢; omega

theorem dget_dtranspose (R : Ops α) (A : DMat α) (m n i j : Nat) :
    dget R (dtranspose R A m n) i j = if i < n ∧ j < m then dget R A j i else R.zero := by
  unfold dtranspose
  rw [dget_dmk]

omit [CommRing K] in
theorem toMat_dtranspose (A : DMat α) (m n : Nat) :
    toMat R φ (dtranspose R A m n) n m = (toMat R φ A m n)ᵀ := by
  ext i j
  simp [toMat, dget_dtranspose]

theorem UnitTri.transpose {upper : Bool} {a : DMat α} {r : Nat} (hA : UnitTri R upper a r) :
    UnitTri R (!upper) (dtranspose R a r r) r := by
  constructor
  · intro i j hi hj h
    rw [dget_dtranspose, if_pos ⟨hi, hj⟩]
    refine hA.tri j i hj hi ?_
    cases upper <;> simpa using h
  · intro j hj
    rw [dget_dtranspose, if_pos ⟨hj, hj⟩]
    exact hA.diag j hj

theorem isTriang_dtranspose (upper : Bool) (a : DMat α) (r : Nat)
    (h : isTriang R (!upper) (dtranspose R a r r) r = true) : isTriang R upper a r = true := by
  rw [isTriang_iff] at h ⊢
  intro i j hi hj hlt
  have := h j i hj hi (by cases upper <;> simpa using hlt)
  rwa [dget_dtranspose, if_pos ⟨hj, hi⟩] at this

end mat

section schur
variable {K : Type*} [CommRing K] {R : Ops α} {φ : α → K}

/-- the record the model assembles from `X = a⁻¹b` and `W = c a⁻¹` -/
def mkOut (R : Ops α) (M : DMat α) (m n r : Nat) (X W : DMat α) : SchurOut α where
  s := dmk (m - r) (n - r) fun i j =>
    R.add (dget R (dmk (m - r) (n - r) fun i j => dget R M (r + i) (r + j)) i j)
      (R.neg ((List.range r).foldl (fun acc t =>
        R.add acc (R.mul (dget R (dmk (m - r) r fun i j => dget R M (r + i) j) i t) (dget R X t j))) R.zero))
  fsrc := dmk (n - r) n fun i j => if j = r + i then R.one else R.zero
  bsrc := dmk n (n - r) fun i j => if i < r then R.neg (dget R X i j) else if i - r = j then R.one else R.zero
  ftgt := dmk (m - r) m fun i j => if j < r then R.neg (dget R W i j) else if j - r = i then R.one else R.zero
  btgt := dmk m (m - r) fun i j => if i = r + j then R.one else R.zero

/-- the four blocks the model cuts out of `M` (`divide4`) -/
def mA (R : Ops α) (M : DMat α) (r : Nat) : DMat α := dmk r r fun i j => dget R M i j
def mB (R : Ops α) (M : DMat α) (n r : Nat) : DMat α := dmk r (n - r) fun i j => dget R M i (r + j)
def mC (R : Ops α) (M : DMat α) (m r : Nat) : DMat α := dmk (m - r) r fun i j => dget R M (r + i) j

theorem schurModel_eq (R : Ops α) (upper : Bool) (M : DMat α) (m n r : Nat) :
    schurModel R upper M m n r =
      if r ≤ m then
        if r ≤ n then
          solveTri R upper (mA R M r) r (mB R M n r) (n - r) >>= fun X =>
            solveTriLeft R upper (mA R M r) r (mC R M m r) (m - r) >>= fun W => .ok (mkOut R M m n r X W)
        else .panic
      else .panic := by
  unfold schurModel mA mB mC
  dsimp only
  by_cases hm : r ≤ m
  · by_cases hn : r ≤ n
    · simp only [Res.assert, hm, hn, decide_true, if_true, Res.bind_ok]
      rfl
    · simp only [Res.assert, hm, hn, decide_true, decide_false, if_true, Res.bind_ok, Bool.false_eq_true,
        if_false, Res.bind_panic]
  · simp only [Res.assert, hm, decide_false, Bool.false_eq_true, if_false, Res.bind_panic]

/-- the four blocks of `M` around a leading `r × r` block, as Mathlib matrices over `K` -/
def blkA (R : Ops α) (φ : α → K) (M : DMat α) (r : Nat) : Matrix (Fin r) (Fin r) K :=
  fun i j => φ (dget R M i.val j.val)
def blkB (R : Ops α) (φ : α → K) (M : DMat α) (r q : Nat) : Matrix (Fin r) (Fin q) K :=
  fun i j => φ (dget R M i.val (r + j.val))
def blkC (R : Ops α) (φ : α → K) (M : DMat α) (r p : Nat) : Matrix (Fin p) (Fin r) K :=
  fun i j => φ (dget R M (r + i.val) j.val)
def blkD (R : Ops α) (φ : α → K) (M : DMat α) (r p q : Nat) : Matrix (Fin p) (Fin q) K :=
  fun i j => φ (dget R M (r + i.val) (r + j.val))

/-- `M` with rows and columns split `r | rest`: `fromBlocks` of the four blocks -/
def splitBoth (R : Ops α) (φ : α → K) (M : DMat α) (r p q : Nat) : Matrix (Fin r ⊕ Fin p) (Fin r ⊕ Fin q) K :=
  fromBlocks (blkA R φ M r) (blkB R φ M r q) (blkC R φ M r p) (blkD R φ M r p q)

/-- a `p × (r+q)` matrix with its columns split `r | q` -/
def splitCols (R : Ops α) (φ : α → K) (X : DMat α) (r p q : Nat) : Matrix (Fin p) (Fin r ⊕ Fin q) K :=
  fromCols (Matrix.of fun i j => φ (dget R X i.val j.val)) (Matrix.of fun i j => φ (dget R X i.val (r + j.val)))

/-- an `(r+p) × q` matrix with its rows split `r | p` -/
def splitRows (R : Ops α) (φ : α → K) (X : DMat α) (r p q : Nat) : Matrix (Fin r ⊕ Fin p) (Fin q) K :=
  fromRows (Matrix.of fun i j => φ (dget R X i.val j.val)) (Matrix.of fun i j => φ (dget R X (r + i.val) j.val))

omit [CommRing K] in
theorem toMat_mA (M : DMat α) (r : Nat) : toMat R φ (mA R M r) r r = blkA R φ M r := by
  ext i j; simp [toMat, mA, blkA, dget_dmk]
omit [CommRing K] in
theorem toMat_mB (M : DMat α) (n r : Nat) : toMat R φ (mB R M n r) r (n - r) = blkB R φ M r (n - r) := by
  ext i j; simp [toMat, mB, blkB, dget_dmk]
omit [CommRing K] in
theorem toMat_mC (M : DMat α) (m r : Nat) : toMat R φ (mC R M m r) (m - r) r = blkC R φ M r (m - r) := by
  ext i j; simp [toMat, mC, blkC, dget_dmk]

theorem dget_mA (M : DMat α) {r i j : Nat} (hi : i < r) (hj : j < r) : dget R (mA R M r) i j = dget R M i j := by
  rw [mA, dget_dmk, if_pos ⟨hi, hj⟩]

theorem isTriang_mA (upper : Bool) (M : DMat α) (r : Nat) :
    isTriang R upper (mA R M r) r = isTriang R upper M r := by
  rw [Bool.eq_iff_iff, isTriang_iff, isTriang_iff]
  exact forall_congr' fun i => forall_congr' fun j => forall_congr' fun hi => forall_congr' fun hj => by
    rw [dget_mA M hi hj]

theorem UnitTri.mA {upper : Bool} {M : DMat α} {r : Nat} (h : UnitTri R upper M r) :
    UnitTri R upper (mA R M r) r where
  tri i j hi hj hlt := by rw [dget_mA M hi hj]; exact h.tri i j hi hj hlt
  diag j hj := by rw [dget_mA M hj hj]; exact h.diag j hj

theorem foldl_sum (L : Lawful R φ) (f g : Nat → α) (r : Nat) :
    φ ((List.range r).foldl (fun acc t => R.add acc (R.mul (f t) (g t))) R.zero) =
      ∑ t ∈ Finset.range r, φ (f t) * φ (g t) := by
  induction r with
  | zero => simp [L.zero]
  | succ t ih =>
    rw [List.range_succ, List.foldl_append, List.foldl_cons, List.foldl_nil, L.add, L.mul, ih,
      Finset.sum_range_succ]

omit [CommRing K] in
theorem splitCols_dmk (f : Nat → Nat → α) {r p q n : Nat} (hn : r + q ≤ n) :
    splitCols R φ (dmk p n f) r p q =
      fromCols (Matrix.of fun i j => φ (f i.val j.val)) (Matrix.of fun i j => φ (f i.val (r + j.val))) := by
  unfold splitCols
  congr 1
  · ext i j
    rw [Matrix.of_apply, Matrix.of_apply, dget_dmk, if_pos ⟨i.isLt, by omega⟩]
  · ext i j
    rw [Matrix.of_apply, Matrix.of_apply, dget_dmk, if_pos ⟨i.isLt, by omega⟩]

omit [CommRing K] in
theorem splitRows_dmk (f : Nat → Nat → α) {r p q n : Nat} (hn : r + p ≤ n) :
    splitRows R φ (dmk n q f) r p q =
      fromRows (Matrix.of fun i j => φ (f i.val j.val)) (Matrix.of fun i j => φ (f (r + i.val) j.val)) := by
  unfold splitRows
  congr 1
  · ext i j
    rw [Matrix.of_apply, Matrix.of_apply, dget_dmk, if_pos ⟨by omega, j.isLt⟩]
  · ext i j
    rw [Matrix.of_apply, Matrix.of_apply, dget_dmk, if_pos ⟨by omega, j.isLt⟩]

theorem of_ite_eq_one (L : Lawful R φ) {q : Nat} (c : Nat → Nat → Prop) [∀ i j, Decidable (c i j)]
    (hc : ∀ i j, c i j ↔ i = j) :
    (Matrix.of fun i j : Fin q => φ (if c i.val j.val then R.one else R.zero)) = 1 := by
  ext i j
  rw [Matrix.of_apply, apply_ite φ, L.one, L.zero, Matrix.one_apply]
  exact if_congr ((hc _ _).trans Fin.val_inj) rfl rfl

theorem of_ite_eq_zero (L : Lawful R φ) {p q : Nat} (c : Nat → Nat → Prop) [∀ i j, Decidable (c i j)]
    (hc : ∀ i j, i < p → j < q → ¬ c i j) :
    (Matrix.of fun (i : Fin p) (j : Fin q) => φ (if c i.val j.val then R.one else R.zero)) = 0 := by
  ext i j
  rw [Matrix.of_apply, if_neg (hc _ _ i.isLt j.isLt), L.zero, Matrix.zero_apply]

theorem mkOut_mats (L : Lawful R φ) (M : DMat α) (m n r : Nat) (hm : r ≤ m) (hn : r ≤ n) (X W : DMat α) :
    toMat R φ (mkOut R M m n r X W).s (m - r) (n - r) =
        blkD R φ M r (m - r) (n - r) - blkC R φ M r (m - r) * toMat R φ X r (n - r) ∧
    splitCols R φ (mkOut R M m n r X W).fsrc r (n - r) (n - r) = fromCols 0 1 ∧
    splitRows R φ (mkOut R M m n r X W).bsrc r (n - r) (n - r) = fromRows (-(toMat R φ X r (n - r))) 1 ∧
    splitCols R φ (mkOut R M m n r X W).ftgt r (m - r) (m - r) = fromCols (-(toMat R φ W (m - r) r)) 1 ∧
    splitRows R φ (mkOut R M m n r X W).btgt r (m - r) (m - r) = fromRows 0 1 := by
  have hn' : r + (n - r) ≤ n := by omega
  have hm' : r + (m - r) ≤ m := by omega
  refine ⟨?_, ?_, ?_, ?_, ?_⟩
  · ext i j
    have hi := i.isLt
    have hj := j.isLt
    simp only [toMat, mkOut, dget_dmk, hi, hj, and_self, if_true, L.add, L.neg, foldl_sum L,
      Matrix.sub_apply, Matrix.mul_apply, blkD, blkC]
    rw [Fin.sum_univ_eq_sum_range (fun t => φ (dget R M (r + i) t) * φ (dget R X t j)) r, sub_eq_add_neg]
    congr 2
    refine Finset.sum_congr rfl fun t ht => ?_
    rw [if_pos ⟨trivial, Finset.mem_range.1 ht⟩]
  · rw [mkOut, splitCols_dmk _ hn']
    congr 1
    · exact of_ite_eq_zero L (fun i j => j = r + i) fun i j _ hj => by omega
    · exact of_ite_eq_one L (fun i j => r + j = r + i) fun i j => by omega
  · rw [mkOut, splitRows_dmk _ hn']
    congr 1
    · ext i j
      rw [Matrix.of_apply, if_pos i.isLt, L.neg]
      rfl
    · simp only [Nat.not_lt.2 (Nat.le_add_right r _), if_false]
      exact of_ite_eq_one L (fun i j => r + i - r = j) fun i j => by omega
  · rw [mkOut, splitCols_dmk _ hm']
    congr 1
    · ext i j
      rw [Matrix.of_apply, if_pos j.isLt, L.neg]
      rfl
    · simp only [Nat.not_lt.2 (Nat.le_add_right r _), if_false]
      exact of_ite_eq_one L (fun i j => r + j - r = i) fun i j => by omega
  · rw [mkOut, splitRows_dmk _ hm']
    congr 1
    · exact of_ite_eq_zero L (fun i j => i = r + j) fun i j hi _ => by omega
    · exact of_ite_eq_one L (fun i j => r + i = r + j) fun i j => by omega

end schur

section top
variable {K : Type*} [CommRing K] {R : Ops α} {φ : α → K}

theorem schurModel_ok {upper : Bool} {M : DMat α} {m n r : Nat} {o : SchurOut α}
    (h : schurModel R upper M m n r = .ok o) :
    r ≤ m ∧ r ≤ n ∧ ∃ X W, solveTri R upper (mA R M r) r (mB R M n r) (n - r) = .ok X ∧
      solveTriLeft R upper (mA R M r) r (mC R M m r) (m - r) = .ok W ∧ o = mkOut R M m n r X W := by
  rw [schurModel_eq] at h
  by_cases hm : r ≤ m
  · rw [if_pos hm] at h
    by_cases hn : r ≤ n
    · rw [if_pos hn] at h
      obtain ⟨X, h1, h⟩ := Res.bind_eq_ok h
      obtain ⟨W, h2, h⟩ := Res.bind_eq_ok h
      cases h
      exact ⟨hm, hn, X, W, h1, h2, rfl⟩
    · rw [if_neg hn] at h; cases h
  · rw [if_neg hm] at h; cases h

theorem stepL_ne_err (a : DMat α) (r : Nat) (diag : List α) (j : Nat) (s : Array α × Array α) :
    stepL R a r diag j s ≠ .err := by
  unfold stepL
  split
  · nofun
  · split <;> nofun

theorem solveCol_ne_err (upper : Bool) (a : DMat α) (r : Nat) (diag : List α) (b : Array α) :
    solveCol R upper a r diag b ≠ .err := by
  rw [solveCol_eq]
  exact Res.bind_ne_err (foldRes_ne_err (stepL_ne_err a r diag) _ _) fun s => by split <;> nofun

theorem solveTri_ne_err (upper : Bool) (a : DMat α) (r : Nat) (y : DMat α) (k : Nat) :
    solveTri R upper a r y k ≠ .err := by
  rw [solveTri_eq]
  split
  · have hcol : ∀ j cols, colStepL R upper a r y j cols ≠ .err := fun j _ =>
      Res.bind_ne_err (solveCol_ne_err upper a r _ (colOf R y r j)) fun _ => nofun
    exact Res.bind_ne_err (foldRes_ne_err hcol _ _) fun _ => nofun
  · nofun

/-- the re-indexing `Fin r ⊕ Fin (m-r) ≃ Fin m` along which `splitBoth` is `M` (as an `m × n` matrix) -/
def glue (r m : Nat) (h : r ≤ m) : Fin r ⊕ Fin (m - r) ≃ Fin m :=
  finSumFinEquiv.trans (finCongr (by omega))

end top

/-! `powMod a (p-2) p` is Fermat's inverse (the 64-step square-and-multiply loop covers `p < 2^64`) -/

/-- a `for` loop with early exit in `Id`, as a recursion on the number of rounds left -/
def loopL {β : Type} (f : β → ForInStep β) : Nat → β → β
  | 0, s => s
  | k + 1, s => match f s with
    | .done s' => s'
    | .yield s' => loopL f k s'

theorem forIn_id_list {β γ : Type} (l : List γ) (body : γ → β → Id (ForInStep β)) (f : β → ForInStep β) (s : β)
    (hb : ∀ x s, body x s = pure (f s)) :
    forIn (m := Id) l s body = pure (loopL f l.length s) := by
  induction l generalizing s with
  | nil => rfl
  | cons x xs ih =>
    rw [List.forIn_cons, List.length_cons, loopL, hb]
    cases h : f s with
    | done s' => simp
    | yield s' => simp; exact ih s'

/-- one round of the square-and-multiply loop of `powMod` on `(result, base, exponent)` -/
def pmStep (p : Int) (s : Int × Int × Nat) : ForInStep (Int × Int × Nat) :=
  if s.2.2 == 0 then .done s
  else .yield ((if s.2.2 % 2 == 1 then s.1 * s.2.1 % p else s.1), s.2.1 * s.2.1 % p, s.2.2 / 2)

theorem powMod_eq (a : Int) (e : Nat) (p : Int) : powMod a e p = (loopL (pmStep p) 64 (1, a % p, e)).1 := by
  unfold powMod
  dsimp only
  rw [Std.Legacy.Range.forIn_eq_forIn_range', legacyRange_eq_range, forIn_id_list (f := pmStep p), List.length_range]
  · rfl
  intro _ s
  unfold pmStep
  by_cases h0 : (s.2.2 == 0) = true
  · simp only [h0, if_true]
  · simp only [h0]
    by_cases h1 : (s.2.2 % 2 == 1) = true
    · simp only [h1, if_true]; rfl
    · simp only [h1]; rfl

theorem loop_pow (p : Nat) (fuel : Nat) (r b : Int) (e : Nat) (he : e < 2 ^ fuel) :
    (((loopL (pmStep p) fuel (r, b, e)).1 : Int) : ZMod p) = (r : ZMod p) * (b : ZMod p) ^ e := by
  induction fuel generalizing r b e with
  | zero =>
    have : e = 0 := by simpa using he
    subst this
    simp [loopL]
  | succ k ih =>
    rw [loopL]
    by_cases h0 : e = 0
    · subst h0; simp [pmStep]
    · have hs : pmStep p (r, b, e) = .yield ((if e % 2 == 1 then r * b % p else r), b * b % p, e / 2) :=
        if_neg (by simpa using h0)
      have hpow : (b : ZMod p) ^ e = ((b : ZMod p) * b) ^ (e / 2) * (b : ZMod p) ^ (e % 2) := by
        rw [← pow_two, ← pow_mul, ← pow_add, Nat.div_add_mod]
      rw [hs]
      simp only
      rw [ih _ _ _ (by omega), hpow, ZMod.intCast_mod, Int.cast_mul]
      rcases Nat.mod_two_eq_zero_or_one e with h | h
      · rw [h, pow_zero, mul_one]
        rfl
      · rw [h, pow_one]
        show ((r * b % p : Int) : ZMod p) * _ = _
        rw [ZMod.intCast_mod, Int.cast_mul]
        ring

end Yuiv.C08
