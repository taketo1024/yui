import Yuiv.Proofs.C19CommMat
import Yuiv.Proofs.C19CommState
import Yuiv.Proofs.C06WalkOrder
/-
C19Comm — the example: the strongly invertible trefoil of the table (`3_1`, PD code `[[1,5,2,4],[3,1,4,6],[5,3,6,2]]`,
label involution `e ↦ (7 − e) % 6 + 1`, base point `1`), its involutive cube as `Model/C19.mkICube` computes it
(`Array.qsort` inside `edgeLabels` does not reduce in the kernel; its value is determined as THE sorted permutation of
its input).
-/

deriving instance DecidableEq for Yuiv.KhRef.Gen
deriving instance DecidableEq for Yuiv.KhRef.Cube
deriving instance DecidableEq for Yuiv.C19.ICube

namespace Yuiv.C19Comm
open Yuiv Yuiv.KhRef Yuiv.C19 Yuiv.C06Cycle Yuiv.C19Inv Yuiv.C04Inv

/-- the strongly invertible trefoil: the label map is `sinvEMap 6` on `1..6` -/
def tref : InvLink := ⟨#[⟨.X, #[1,5,2,4]⟩, ⟨.X, #[3,1,4,6]⟩, ⟨.X, #[5,3,6,2]⟩],
  #[(1,1),(2,6),(3,5),(4,4),(5,3),(6,2)], some 1⟩

theorem tref_emap : tref.emap = (Array.range 6).map (fun i => (i + 1, sinvEMap 6 (i + 1))) := by decide +kernel

def trefCirc : Array (Array (Array Nat)) :=
 #[#[#[1, 3, 5], #[2, 4, 6]], #[#[1, 2, 3, 4, 5, 6]], #[#[1, 2, 3, 4, 5, 6]], #[#[1, 4], #[2, 3, 5, 6]],
   #[#[1, 2, 3, 4, 5, 6]], #[#[1, 3, 4, 6], #[2, 5]], #[#[1, 2, 4, 5], #[3, 6]], #[#[1, 4], #[2, 5], #[3, 6]]]

/-- the involutive cube of the trefoil: τ exchanges the first two crossings -/
def trefIC (red : Bool) : ICube :=
  ⟨⟨3, trefCirc, if red then some 1 else none⟩, #[0, 2, 1, 3, 4, 6, 5, 7],
   #[#[0, 1], #[0], #[0], #[0, 1], #[0], #[0, 1], #[0, 1], #[0, 2, 1]]⟩

theorem tref_labels : edgeLabels tref.link = #[1, 2, 3, 4, 5, 6] :=
  C06Walk.edgeLabels_eq_of_perm tref.link [1, 2, 3, 4, 5, 6] (by decide) (by decide +kernel)

theorem tref_cube (h t : Int) (red : Bool) :
    mkCube tref.link ⟨h, t, red⟩ = ⟨3, trefCirc, if red then some 1 else none⟩ := by
  have hc : (Array.range (2 ^ crossingNum tref.link)).map (fun s => circles tref.link #[1, 2, 3, 4, 5, 6] s) =
      trefCirc := by decide +kernel
  unfold mkCube
  rw [tref_labels]
  simp only
  rw [hc]
  cases red <;> rfl

/-- `mkICube` on the trefoil (any `h`, `t`; unreduced and reduced) -/
theorem tref_icube (h t : Int) (red : Bool) : mkICube tref ⟨h, t, red⟩ = some (trefIC red) := by
  have hc : icCube tref ⟨h, t, red⟩ = ⟨3, trefCirc, if red then some 1 else none⟩ := by
    unfold icCube
    rw [tref_cube]
    cases red <;> rfl
  -- the loop of `mkICube` does not look at the base point, so one evaluation serves both theories
  have e : icStep tref ⟨3, trefCirc, if red then some 1 else none⟩ = icStep tref ⟨3, trefCirc, none⟩ := rfl
  have hf : (List.range (2 ^ 3)).foldlM (icStep tref ⟨3, trefCirc, none⟩) (#[], #[]) =
      some ((trefIC false).tst, (trefIC false).tlab) := by decide +kernel
  rw [mkICube_eq, hc]
  show Option.map _ ((List.range (2 ^ 3)).foldlM (icStep tref ⟨3, trefCirc, if red then some 1 else none⟩) (#[], #[])) = _
  rw [e, hf]
  rfl

/-- the involutive cube of the trefoil passes the strengthened check with `F` = sorted image under the label involution -/
theorem tref_wf' (red : Bool) : icubeWf' (circImg tref.invE) (trefIC red) = true := by
  cases red <;> decide +kernel

/-- an involutive cube on which `icubeWf` holds although the circle correspondence at the state `0` exchanges the circles
`{2}` and `{3}`, of which only `{2}` takes part in the merge `{1},{2} → {1,2}` -/
def badIC : ICube := ⟨⟨1, #[#[#[1], #[2], #[3]], #[#[1, 2], #[3]]], none⟩, #[0, 1], #[#[0, 2, 1], #[0, 1]]⟩

end Yuiv.C19Comm
