import Yuiv.Proofs.C15FieldModel
/-
C15 — the clause "a = (a/b)·b + (a%b) with the remainder zero or of strictly smaller Euclidean norm" for
univariate polynomials over a field (`Poly<'x', R>::div_rem`, poly.rs) and for homogeneous polynomials
(`HPoly::div_rem`, h_poly.rs): property theorems about the code model `Poly.divRem`, `HP.divRem`,
`polyOps`, `hpolyOps` of `Yuiv/Model/C15.lean`.

Coefficients: any `EucOps F` with `FieldRep E V φ` (the operations of `E` compute a field `K` on the valid
representatives `V` via `φ : F → K`, see `Proofs/C15Poly.lean`); this holds for the models of `Ratio`
(`rat_fieldRep`) and of `FF<p>` for every prime `p` (`ff_fieldRep`).  Polynomials are canonical coefficient
lists (`Poly.Canon`: valid coefficients, no trailing zero — what `Poly`'s term map holds and what the driver
parses); `Poly.toPoly φ f ∈ K[X]` is the polynomial a list denotes.
-/
namespace Yuiv.C15
open Yuiv Polynomial

/-- the coefficient model of `Ratio` (canonical fractions) is a field representation of ℚ -/
theorem rat_fieldRep : FieldRep ratOps Q.WF Q.toRat := Q.fieldRep

/-- the coefficient model of `FF<p>` (residues `< p`) is a field representation of `ZMod p`, any prime `p` -/
theorem ff_fieldRep (p : Nat) [Fact p.Prime] : FieldRep (ffOps p) (fun a => a < p) (fun a => (a : ZMod p)) :=
  FF.fieldRep p

section poly
variable {F K : Type} [Field K] {E : EucOps F} {V : F → Prop} {φ : F → K} (H : FieldRep E V φ)
include H

/-- `Poly::div_rem`, `/`, `%` on `F[x]`.
* `g = 0`: the Rust operators panic (division of the leading coefficients by `0`);
* `g ≠ 0`: no panic; quotient and remainder are canonical; `f = q·g + r` — both in `K[X]` and literally in
  the model's arithmetic (`f = add (mul q g) r`, the identity the harness oracle evaluates with the real
  `*`, `+`); `r = 0` or `deg r < deg g` (model's `lead_deg`), i.e. the Euclidean size used as loop fuel
  strictly decreases, i.e. `degree r < degree g` in `K[X]` (`degree 0 = ⊥`). -/
theorem poly_divRem_spec (f g : List F) (hf : Poly.Canon E V f) (hg : Poly.Canon E V g) :
    (g = [] → (polyOps E).divR f g = .panic ∧ (polyOps E).remR f g = .panic) ∧
    (g ≠ [] → ∃ q r, Poly.divRem E f g = (q, r) ∧
      (polyOps E).divR f g = .ok q ∧ (polyOps E).remR f g = .ok r ∧
      Poly.Canon E V q ∧ Poly.Canon E V r ∧
      Poly.toPoly φ f = Poly.toPoly φ q * Poly.toPoly φ g + Poly.toPoly φ r ∧
      f = Poly.add E (Poly.mul E q g) r ∧
      (r = [] ∨ Poly.deg r < Poly.deg g) ∧
      (polyOps E).norm r < (polyOps E).norm g ∧
      (Poly.toPoly φ r).degree < (Poly.toPoly φ g).degree) := by
  refine ⟨fun h => ?_, fun h => ?_⟩
  · subst h; exact ⟨rfl, rfl⟩
  · have hz : (polyOps E).isZero g = false := by
      cases g with
      | nil => exact absurd rfl h
      | cons a t => rfl
    obtain ⟨hq, hr, e, hl⟩ := Poly.divRem_spec H f g hf hg h
    refine ⟨(Poly.divRem E f g).1, (Poly.divRem E f g).2, rfl, ((polyOps E).div_ok f g hz).1,
      ((polyOps E).div_ok f g hz).2, hq, hr, e, ?_, ?_, hl, Poly.degree_lt_of_length_lt H _ g hg hl⟩
    · have hm := Poly.mul_spec H _ g hq.1 hg.1
      have ha := Poly.add_spec H _ _ hm.1.1 hr.1
      exact Poly.canon_inj H _ _ hf ha.1 (by rw [ha.2, hm.2, e])
    · by_cases h0 : (Poly.divRem E f g).2 = []
      · exact Or.inl h0
      · right
        have := List.length_pos_of_ne_nil h0
        unfold Poly.deg; omega

/-- quotient and remainder are unique: any canonical `q', r'` with `f = q'·g + r'` and `r'` shorter than `g`
(i.e. `r' = 0 ∨ deg r' < deg g`) are the ones `div_rem` returns -/
theorem poly_divRem_unique (f g q' r' : List F) (hf : Poly.Canon E V f) (hg : Poly.Canon E V g)
    (hq' : Poly.Canon E V q') (hr' : Poly.Canon E V r')
    (e' : Poly.toPoly φ f = Poly.toPoly φ q' * Poly.toPoly φ g + Poly.toPoly φ r')
    (hl' : r'.length < g.length) : Poly.divRem E f g = (q', r') := by
  have hg0 : g ≠ [] := by rintro rfl; simp at hl'
  obtain ⟨hq, hr, e, hl⟩ := Poly.divRem_spec H f g hf hg hg0
  have := Poly.divRem_unique H f g _ _ q' r' hg hq hr hq' hr' e hl e' hl'
  exact Prod.ext this.1 this.2

/-- … in particular `div_rem` computes the Euclidean division of `K[X]` in the model's own arithmetic:
if `f = add (mul q' g) r'` with `r'` shorter than `g` then `(q', r')` is the result -/
theorem poly_divRem_unique_model (f g q' r' : List F) (hf : Poly.Canon E V f) (hg : Poly.Canon E V g)
    (hq' : Poly.Canon E V q') (hr' : Poly.Canon E V r')
    (e' : f = Poly.add E (Poly.mul E q' g) r') (hl' : r'.length < g.length) :
    Poly.divRem E f g = (q', r') := by
  refine poly_divRem_unique H f g q' r' hf hg hq' hr' ?_ hl'
  have hm := Poly.mul_spec H _ g hq'.1 hg.1
  have ha := Poly.add_spec H _ _ hm.1.1 hr'.1
  rw [← hm.2, ← ha.2, ← e']

end poly

/-- `Poly<'x', Ratio<_>>::div_rem` (canonical fractions as coefficients) -/
theorem poly_divRem_spec_rat (f g : List Q) (hf : Poly.Canon ratOps Q.WF f) (hg : Poly.Canon ratOps Q.WF g)
    (hg0 : g ≠ []) :
    ∃ q r, Poly.divRem ratOps f g = (q, r) ∧ (polyOps ratOps).divR f g = .ok q ∧ (polyOps ratOps).remR f g = .ok r ∧
      Poly.Canon ratOps Q.WF q ∧ Poly.Canon ratOps Q.WF r ∧
      f = Poly.add ratOps (Poly.mul ratOps q g) r ∧ (r = [] ∨ Poly.deg r < Poly.deg g) := by
  obtain ⟨q, r, h1, h2, h3, h4, h5, _, h7, h8, _⟩ := (poly_divRem_spec rat_fieldRep f g hf hg).2 hg0
  exact ⟨q, r, h1, h2, h3, h4, h5, h7, h8⟩

/-- `Poly<'x', FF<p>>::div_rem`, any prime `p` -/
theorem poly_divRem_spec_ff (p : Nat) [Fact p.Prime] (f g : List Nat)
    (hf : Poly.Canon (ffOps p) (fun a => a < p) f) (hg : Poly.Canon (ffOps p) (fun a => a < p) g) (hg0 : g ≠ []) :
    ∃ q r, Poly.divRem (ffOps p) f g = (q, r) ∧ (polyOps (ffOps p)).divR f g = .ok q ∧
      (polyOps (ffOps p)).remR f g = .ok r ∧
      Poly.Canon (ffOps p) (fun a => a < p) q ∧ Poly.Canon (ffOps p) (fun a => a < p) r ∧
      f = Poly.add (ffOps p) (Poly.mul (ffOps p) q g) r ∧ (r = [] ∨ Poly.deg r < Poly.deg g) := by
  obtain ⟨q, r, h1, h2, h3, h4, h5, _, h7, h8, _⟩ := (poly_divRem_spec (ff_fieldRep p) f g hf hg).2 hg0
  exact ⟨q, r, h1, h2, h3, h4, h5, h7, h8⟩

/-- the hypotheses are satisfiable; the unit test of poly.rs: `(x² + 2x + 1) = (x/2 + 1/4)(2x + 3) + 1/4` over Q,
and `x³ + 2 = (3x² + 6x + 5)(5x + 4) + 3` over F_7; division by `0` panics -/
example :
    Poly.divRem ratOps [⟨1, 1⟩, ⟨2, 1⟩, ⟨1, 1⟩] [⟨3, 1⟩, ⟨2, 1⟩] = ([⟨1, 4⟩, ⟨1, 2⟩], [⟨1, 4⟩]) ∧
    Poly.divRem (ffOps 7) [2, 0, 0, 1] [4, 5] = ([5, 6, 3], [3]) ∧
    (polyOps ratOps).divR [⟨1, 1⟩] [] = .panic := by
  decide +kernel

section hpoly
variable {F K : Type} [Field K] {E : EucOps F} {V : F → Prop} {φ : F → K} (H : FieldRep E V φ)
include H

/-- `HPoly::div_rem`, `/`, `%` on homogeneous polynomials `c·x^d`.
* `y = 0` (zero coefficient): `assert!(!rhs.is_zero())` panics;
* `y ≠ 0`: no panic; `x = q·y + r` — in `K[X]` (`HP.toPoly ⟨d, c⟩ = φ(c)·X^d`) and in the model's arithmetic up
  to `HPoly`'s `PartialEq` (`HP.Equiv`: all zeros are equal); the remainder is zero or of smaller degree, and
  the Euclidean size of `hpolyOps` (`0` for zero, `deg + 1` otherwise) strictly decreases. -/
theorem hpoly_divRem_spec (x y : HP F) (hx : V x.coeff) (hy : V y.coeff) :
    (HP.isZero E y = true → (hpolyOps E).divR x y = .panic ∧ (hpolyOps E).remR x y = .panic) ∧
    (HP.isZero E y = false → ∃ q r, HP.divRem E x y = (q, r) ∧
      (hpolyOps E).divR x y = .ok q ∧ (hpolyOps E).remR x y = .ok r ∧
      V q.coeff ∧ V r.coeff ∧
      HP.toPoly φ x = HP.toPoly φ q * HP.toPoly φ y + HP.toPoly φ r ∧
      HP.Equiv E x (HP.add E (HP.mul E q y) r) ∧
      (HP.isZero E r = true ∨ r.deg < y.deg) ∧
      (hpolyOps E).norm r < (hpolyOps E).norm y) := by
  refine ⟨fun h => ?_, fun h => ?_⟩
  · exact (hpolyOps E).div_zero_panics x y h
  · have hz : (hpolyOps E).isZero y = false := h
    obtain ⟨hq, hr, e, hl, he⟩ := HP.divRem_spec H x y hx hy h
    refine ⟨(HP.divRem E x y).1, (HP.divRem E x y).2, rfl, ((hpolyOps E).div_ok x y hz).1,
      ((hpolyOps E).div_ok x y hz).2, hq, hr, e, he, hl, ?_⟩
    show (if HP.isZero E _ then 0 else _ + 1) < (if HP.isZero E y then 0 else y.deg + 1)
    rw [h]
    rcases hl with h0 | hlt
    · rw [h0]; simp
    · split
      · simp
      · simp; omega

end hpoly

/-- `3x⁵ / 2x² = (3/2)x³` rem `0`; `3x / 2x² = 0` rem `3x`; division by zero panics -/
example :
    (HP.divRem ratOps ⟨5, ⟨3, 1⟩⟩ ⟨2, ⟨2, 1⟩⟩).1.deg = 3 ∧ (HP.divRem ratOps ⟨5, ⟨3, 1⟩⟩ ⟨2, ⟨2, 1⟩⟩).1.coeff = ⟨3, 2⟩ ∧
    (HP.divRem ratOps ⟨1, ⟨3, 1⟩⟩ ⟨2, ⟨2, 1⟩⟩).2.deg = 1 ∧
    (match (hpolyOps ratOps).divR ⟨1, ⟨3, 1⟩⟩ ⟨2, ⟨0, 1⟩⟩ with | .panic => true | _ => false) = true := by
  decide +kernel

/-! ### the generic `EucRing::{gcd, gcdx, lcm}` at `F[x]`

`LawfulEuc` of `Props/C15.lean` asks for a `CommRing` on the carrier whose operations are *literally* those of
`E`; the carrier `List F` of `polyOps` contains non-canonical lists (and invalid coefficients), so it is not a
ring and `LawfulEuc (polyOps E)` cannot even be stated.  `EucRep E V ψ` (Proofs/C15.lean) is the same set of
hypotheses through an interpretation `ψ` that is injective on valid representatives; the generic theorems
hold over it (`rep_gcd_total`, `rep_gcdx_bezout`, `rep_lcm_gcd_assoc`, `rep_lcm_zero_zero_panics`) and
`poly_gcd_lawful` shows that `F[x]` satisfies it. -/

section rep
variable {α R : Type} [CommRing R] {E : EucOps α} {V : α → Prop} {ψ : α → R} (L : EucRep E V ψ)
include L

/-- `gcd` terminates (fuel `norm y + 1` is never exhausted) and never panics; the result is valid, divides both
arguments and is divisible by every common divisor — on all paths incl. the early returns -/
theorem rep_gcd_total (x y : α) (hx : V x) (hy : V y) :
    ∃ d, E.gcd x y = .ok d ∧ V d ∧ ψ d ∣ ψ x ∧ ψ d ∣ ψ y ∧ (∀ c, c ∣ ψ x → c ∣ ψ y → c ∣ ψ d) := by
  obtain ⟨d, h, hv, hc⟩ := L.gcd_spec x y hx hy
  exact ⟨d, h, hv, ((hc _).1 dvd_rfl).1, ((hc _).1 dvd_rfl).2, fun c h1 h2 => (hc c).2 ⟨h1, h2⟩⟩

/-- `gcdx` returns valid `(d, s, t)` with `s·x + t·y = d`, and `d` is what `gcd` returns -/
theorem rep_gcdx_bezout (x y : α) (hx : V x) (hy : V y) :
    ∃ d s t, E.gcdx x y = .ok (d, s, t) ∧ V d ∧ V s ∧ V t ∧ ψ s * ψ x + ψ t * ψ y = ψ d ∧ E.gcd x y = .ok d :=
  L.gcdx_spec x y hx hy

/-- `lcm·gcd` is an associate of `x·y` (`x`, `y` not both zero) -/
theorem rep_lcm_gcd_assoc (x y : α) (hx : V x) (hy : V y) (hxy : ¬(ψ x = 0 ∧ ψ y = 0)) :
    ∃ l g, E.lcm x y = .ok l ∧ E.gcd x y = .ok g ∧ V l ∧ V g ∧ Associated (ψ l * ψ g) (ψ x * ψ y) :=
  L.lcm_spec x y hx hy hxy

/-- `lcm(0,0)` panics (division by the gcd `0`) -/
theorem rep_lcm_zero_zero_panics (x y : α) (hx : V x) (hy : V y) (hx0 : ψ x = 0) (hy0 : ψ y = 0) :
    E.lcm x y = .panic := L.lcm_zero_zero x y hx hy hx0 hy0

end rep

section polygcd
variable {F K : Type} [Field K] {E : EucOps F} {V : F → Prop} {φ : F → K} (H : FieldRep E V φ)
include H

/-- `F[x]` — canonical coefficient lists with the operations `polyOps E` (`Poly`'s `+ - * / %`, `is_zero`,
`is_one`, `normalizing_unit`, Euclidean size `length`) — satisfies the hypotheses of the generic Euclidean
theorems: ring operations of `K[X]`, Euclidean division with strictly decreasing size, `%` vanishes on
multiples, the normalising unit is a unit -/
theorem poly_gcd_lawful : EucRep (polyOps E) (Poly.Canon E V) (Poly.toPoly φ) := Poly.eucRep H

/-- `gcd` on `F[x]`: terminates, no panic, canonical result, a greatest common divisor in `K[X]` -/
theorem poly_gcd_total (f g : List F) (hf : Poly.Canon E V f) (hg : Poly.Canon E V g) :
    ∃ d, (polyOps E).gcd f g = .ok d ∧ Poly.Canon E V d ∧ Poly.toPoly φ d ∣ Poly.toPoly φ f ∧
      Poly.toPoly φ d ∣ Poly.toPoly φ g ∧
      (∀ c, c ∣ Poly.toPoly φ f → c ∣ Poly.toPoly φ g → c ∣ Poly.toPoly φ d) :=
  rep_gcd_total (Poly.eucRep H) f g hf hg

/-- `gcdx` on `F[x]`: Bezout identity with the returned `s, t` — in `K[X]` and literally in the model's
arithmetic (`d = s·f + t·g` evaluated with `Poly`'s `*`, `+`) -/
theorem poly_gcdx_bezout (f g : List F) (hf : Poly.Canon E V f) (hg : Poly.Canon E V g) :
    ∃ d s t, (polyOps E).gcdx f g = .ok (d, s, t) ∧ Poly.Canon E V d ∧ Poly.Canon E V s ∧ Poly.Canon E V t ∧
      Poly.toPoly φ s * Poly.toPoly φ f + Poly.toPoly φ t * Poly.toPoly φ g = Poly.toPoly φ d ∧
      d = Poly.add E (Poly.mul E s f) (Poly.mul E t g) ∧
      (polyOps E).gcd f g = .ok d := by
  obtain ⟨d, s, t, h, hd, hs, ht, hb, hgc⟩ := rep_gcdx_bezout (Poly.eucRep H) f g hf hg
  refine ⟨d, s, t, h, hd, hs, ht, hb, ?_, hgc⟩
  have m1 := Poly.mul_spec H s f hs.1 hf.1
  have m2 := Poly.mul_spec H t g ht.1 hg.1
  have ha := Poly.add_spec H _ _ m1.1.1 m2.1.1
  exact Poly.canon_inj H _ _ hd ha.1 (by rw [ha.2, m1.2, m2.2, hb])

/-- `lcm` on `F[x]`: `lcm·gcd ~ f·g` unless both vanish; `lcm(0,0)` panics -/
theorem poly_lcm_gcd_assoc (f g : List F) (hf : Poly.Canon E V f) (hg : Poly.Canon E V g) :
    (¬(f = [] ∧ g = []) → ∃ l d, (polyOps E).lcm f g = .ok l ∧ (polyOps E).gcd f g = .ok d ∧
      Poly.Canon E V l ∧ Poly.Canon E V d ∧
      Associated (Poly.toPoly φ l * Poly.toPoly φ d) (Poly.toPoly φ f * Poly.toPoly φ g)) ∧
    ((f = [] ∧ g = []) → (polyOps E).lcm f g = .panic) := by
  refine ⟨fun h => ?_, fun h => ?_⟩
  · refine rep_lcm_gcd_assoc (Poly.eucRep H) f g hf hg ?_
    rw [Poly.toPoly_eq_zero_iff H f hf, Poly.toPoly_eq_zero_iff H g hg]; exact h
  · exact rep_lcm_zero_zero_panics (Poly.eucRep H) f g hf hg (by rw [h.1]; rfl) (by rw [h.2]; rfl)

end polygcd

/-- over Q: `gcd(x² − 1, x² + 2x + 1) = x + 1`; over F_7: `gcdx(x² − 1, x² + 3x + 5) = (1, 4x + 4, 3x + 1)`;
`lcm(0, 0)` panics -/
example :
    (polyOps ratOps).gcd [⟨-1, 1⟩, ⟨0, 1⟩, ⟨1, 1⟩] [⟨1, 1⟩, ⟨2, 1⟩, ⟨1, 1⟩] = .ok [⟨1, 1⟩, ⟨1, 1⟩] ∧
    (polyOps (ffOps 7)).gcdx [6, 0, 1] [5, 3, 1] = .ok ([1], [4, 4], [1, 3]) ∧
    (polyOps ratOps).lcm [] [] = .panic := by
  decide +kernel

end Yuiv.C15
