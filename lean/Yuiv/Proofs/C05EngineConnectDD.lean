import Yuiv.Proofs.C05EngineDeloopDD
import Mathlib.Algebra.BigOperators.Group.Finset.Sigma
/-
C05 (engine) — the product complex `TngComplex::connect` of the MODEL has `d ∘ d = 0` when both factors have:
entries of the product (`connect_entV`) and the tensor-sign computation (`connect_ddV`), in values; `RingTensorOps.toVal`
makes labels in a ring the case `val = id` (`Props/C05EngineScript.lean`).
-/
namespace Yuiv.C05.Engine
open Yuiv.C05.Tng

variable {E : Type}

def tngOf (cx : Cx E) (k : TKey) : Tng := (cx.tng? k).getD []

theorem tng?_tngOf (cx : Cx E) (k : TKey) (h : k ∈ cx.verts.map (·.1)) : cx.tng? k = some (tngOf cx k) := by
  obtain ⟨t, ht⟩ := mem_tng?_some cx k h
  unfold tngOf; rw [ht]; rfl

section
variable [Ring E]

/-- the horizontal composition with an identity, in ring notation: `tl f w = f ⊗ 1_w` (`D(f, 1)`), `tr g v = 1_v ⊗ g`
(`D(1, g)`); both are additive and multiplicative (functoriality of `⊗` in one argument), and `connect_edges`
multiplies `D(1, g)` by the sign -/
structure RingTensorOps (ops : EdgeOps E) (tl tr : E → Tng → E) : Prop where
  hL : ∀ f w, ops.hcompL f w = .ok (tl f w)
  hR : ∀ neg g v, ops.hcompR neg g v = .ok (if neg = true then -(tr g v) else tr g v)
  zero : ∀ x, ops.isZero x = true → x = 0
  tl_zero : ∀ w, tl 0 w = 0
  tr_zero : ∀ v, tr 0 v = 0
  tl_add : ∀ f g w, tl (f + g) w = tl f w + tl g w
  tr_add : ∀ f g v, tr (f + g) v = tr f v + tr g v
  tl_mul : ∀ f g w, tl (f * g) w = tl f w * tl g w
  tr_mul : ∀ f g v, tr (f * g) v = tr f v * tr g v

def sg (left : Cx E) (k : TKey) (z : E) : E := if signNeg left k = true then -z else z

end

section values
variable {A : Type} [Ring A]

theorem connect_entV (val : E → A) (ops : EdgeOps E) (tl tr : A → Tng → A) (hops : ValTensorOps ops val tl tr)
    (left right cx' : Cx E) (hl : WF ops left) (hr : WF ops right) (hbl : Bounded left) (hbr : Bounded right)
    (h : left.connect ops right = .ok cx') (k x l y : TKey) (v w : Tng)
    (hx : x ∈ left.verts.map (·.1)) (hy : y ∈ right.verts.map (·.1))
    (hv : left.tng? k = some v) (hw : right.tng? l = some w) :
    entV val cx' (k.append l) (x.append y) =
      (if y = l then tl (entV val left k x) w else 0) + (if x = k then sgV left k (tr (entV val right l y) v) else 0) := by
  have hk := tng?_some_mem left k v hv
  have hl' := tng?_some_mem right l w hw
  have hw' := wf_connect ops left right cx' hl hr h
  have hpair := connect_key_inj ops left right cx' hl hr hbl hbr h
  rcases he : cx'.edge? (k.append l) (x.append y) with _ | f
  · have hnone : ∀ g, ((k.append l, x.append y), g) ∉ cx'.edges := by
      intro g hg
      have := lookup_of_mem_nodup cx'.edges hw'.edges _ g hg
      unfold Cx.edge? at he
      rw [he] at this
      cases this
    have hA : (if y = l then tl (entV val left k x) w else 0) = 0 := by
      split
      · rename_i hyl
        subst hyl
        rcases hf : left.edge? k x with _ | f1
        · rw [entV_of_none val left k x hf]; exact hops.tl_zero w
        · have ha := mem_of_edge? hf
          obtain ⟨g, hg, hmem⟩ := connect_complete_left ops left right cx' hl hbl hbr h _ ha y w hw
          rw [entV_of_edge val left k x f1 hf, ← hops.hL _ _ _ hg]
          by_cases hz : ops.isZero g = true
          · exact hops.zero _ hz
          · exact absurd (hmem (by simpa using hz)) (hnone _)
      · rfl
    have hB : (if x = k then sgV left k (tr (entV val right l y) v) else 0) = 0 := by
      split
      · rename_i hxk
        subst hxk
        rcases hf : right.edge? l y with _ | g1
        · rw [entV_of_none val right l y hf]; unfold sgV; simp [hops.tr_zero]
        · have ha := mem_of_edge? hf
          obtain ⟨g, hg, hmem⟩ := connect_complete_right ops left right cx' hr hbl hbr h _ ha x v hv
          have hvg := hops.hR _ _ _ _ hg
          rw [entV_of_edge val right l y g1 hf]
          unfold sgV
          rw [← hvg]
          by_cases hz : ops.isZero g = true
          · exact hops.zero _ hz
          · exact absurd (hmem (by simpa using hz)) (hnone _)
      · rfl
    rw [entV_of_none val cx' _ _ he, hA, hB]
    simp
  · have hmem := mem_of_lookup cx'.edges _ f he
    obtain ⟨k0, l0, v0, w0, hv0, hw0, hcase⟩ := connect_sound ops left right cx' h _ hmem
    have hk0 := tng?_some_mem left k0 v0 hv0
    have hl0 := tng?_some_mem right l0 w0 hw0
    rw [entV_of_edge val cx' _ _ f he]
    rcases hcase with ⟨a, ha, hak, g, hg, heq⟩ | ⟨a, ha, hak, g, hg, heq⟩
    · obtain ⟨_, ha2⟩ := hl.ends a ha
      have e1 : k.append l = k0.append l0 := congrArg (fun z => z.1.1) heq
      have e2 : x.append y = a.1.2.append l0 := congrArg (fun z => z.1.2) heq
      have e3 : f = g := congrArg (fun z => z.2) heq
      obtain ⟨rfl, rfl⟩ := hpair k l k0 l0 hk hl' hk0 hl0 e1
      obtain ⟨rfl, rfl⟩ := hpair x y a.1.2 l hx hy ha2 hl' e2
      rw [hw] at hw0; cases hw0
      have hvg := hops.hL _ _ _ hg
      have hdeg := hl.deg a ha
      have hne : a.1.2 ≠ k := by intro e; rw [e, hak] at hdeg; omega
      have hent : entV val left k a.1.2 = val a.2 := by rw [← hak]; exact entV_of_mem val ops left hl a ha
      rw [if_pos rfl, if_neg hne, hent, add_zero, e3, hvg]
    · obtain ⟨_, ha2⟩ := hr.ends a ha
      have e1 : k.append l = k0.append l0 := congrArg (fun z => z.1.1) heq
      have e2 : x.append y = k0.append a.1.2 := congrArg (fun z => z.1.2) heq
      have e3 : f = g := congrArg (fun z => z.2) heq
      obtain ⟨rfl, rfl⟩ := hpair k l k0 l0 hk hl' hk0 hl0 e1
      obtain ⟨rfl, rfl⟩ := hpair x y k a.1.2 hx hy hk ha2 e2
      rw [hv] at hv0; cases hv0
      have hvg := hops.hR _ _ _ _ hg
      have hdeg := hr.deg a ha
      have hne : a.1.2 ≠ l := by intro e; rw [e, hak] at hdeg; omega
      have hent : entV val right l a.1.2 = val a.2 := by rw [← hak]; exact entV_of_mem val ops right hr a ha
      rw [if_neg hne, if_pos rfl, hent, zero_add, e3, hvg]
      rfl

theorem signNeg_succ (left : Cx E) (k k' : TKey) (h : k'.weight = k.weight + 1) :
    signNeg left k' = !signNeg left k := by
  unfold signNeg
  rw [h]
  push_cast
  rcases Int.emod_two_eq_zero_or_one ((k.weight : Int) - left.dh) with h0 | h0
  · have : ((k.weight : Int) + 1 - left.dh) % 2 = 1 := by omega
    simp [h0, this]
  · have : ((k.weight : Int) + 1 - left.dh) % 2 = 0 := by omega
    simp [h0, this]

theorem additive_sum {ι : Type} (T : A → A) (h0 : T 0 = 0) (hadd : ∀ x y, T (x + y) = T x + T y) (S : Finset ι)
    (f : ι → A) : T (∑ x ∈ S, f x) = ∑ x ∈ S, T (f x) := by
  classical
  induction S using Finset.induction_on with
  | empty => rw [Finset.sum_empty, Finset.sum_empty, h0]
  | insert a S ha ih => rw [Finset.sum_insert ha, Finset.sum_insert ha, hadd, ih]

/-- a double sum of products of two δ-functions in DIFFERENT variables has one term -/
theorem sum_sum_delta (S T : Finset TKey) (p q : TKey) (hp : p ∈ T) (hq : q ∈ S) (F G : TKey → TKey → A) :
    ∑ x ∈ S, ∑ y ∈ T, (if p = y then F x y else 0) * (if x = q then G x y else 0) = F q p * G q p := by
  classical
  have inner : ∀ x ∈ S, ∑ y ∈ T, (if p = y then F x y else 0) * (if x = q then G x y else 0)
      = if x = q then F x p * G x p else 0 := by
    intro x _
    by_cases hx : x = q
    · simp only [hx, if_true, ite_mul, zero_mul, Finset.sum_ite_eq, hp]
    · simp [hx]
  rw [Finset.sum_congr rfl inner, Finset.sum_ite_eq' S q, if_pos hq]

/-- … in the SAME variable: a single sum is left, and only when the two δ-functions agree -/
theorem sum_sum_delta_same (S T : Finset TKey) (p q : TKey) (hq : q ∈ T) (F : TKey → TKey → A) (G : TKey → A) :
    ∑ x ∈ S, ∑ y ∈ T, (if p = y then F x y else 0) * (if y = q then G x else 0)
      = if p = q then ∑ x ∈ S, F x q * G x else 0 := by
  classical
  have inner : ∀ x ∈ S, ∑ y ∈ T, (if p = y then F x y else 0) * (if y = q then G x else 0)
      = if p = q then F x q * G x else 0 := by
    intro x _
    simp only [mul_ite, mul_zero, Finset.sum_ite_eq', hq, if_true]
    split
    · rfl
    · exact zero_mul _
  rw [Finset.sum_congr rfl inner]
  split
  · rfl
  · exact Finset.sum_const_zero

theorem sum_connect_keys {M : Type} [AddCommMonoid M] (ops : EdgeOps E) (left right cx' : Cx E) (hl : WF ops left)
    (hr : WF ops right) (hbl : Bounded left) (hbr : Bounded right) (h : left.connect ops right = .ok cx')
    (F : TKey → M) :
    ∑ z ∈ (cx'.verts.map (·.1)).toFinset, F z =
      ∑ x ∈ (left.verts.map (·.1)).toFinset, ∑ y ∈ (right.verts.map (·.1)).toFinset, F (x.append y) := by
  classical
  have hS' : (cx'.verts.map (·.1)).toFinset =
      ((left.verts.map (·.1)).toFinset ×ˢ (right.verts.map (·.1)).toFinset).image pkey := by
    rw [(connect_verts ops left right cx' hl hr h).1]
    ext z
    rw [List.mem_toFinset, Finset.mem_image]
    simp only [Finset.mem_product, List.mem_toFinset, ← mem_allPairs left right hbl hbr]
    exact List.mem_map
  rw [hS', Finset.sum_image, Finset.sum_product]
  · rfl
  · intro p hp q hq hpq
    simp only [Finset.mem_coe, Finset.mem_product, List.mem_toFinset] at hp hq
    exact Prod.ext_iff.2 (connect_key_inj ops left right cx' hl hr hbl hbr h _ _ _ _ hp.1 hp.2 hq.1 hq.2 hpq)

theorem connect_ddV (val : E → A) (ops : EdgeOps E) (tl tr : A → Tng → A) (hops : ValTensorOps ops val tl tr)
    (left right cx' : Cx E) (hl : WF ops left) (hr : WF ops right) (hbl : Bounded left) (hbr : Bounded right)
    (hX : ∀ k k' l l' f g, left.edge? k k' = some f → right.edge? l l' = some g →
      tr (val g) (tngOf left k') * tl (val f) (tngOf right l) = tl (val f) (tngOf right l') * tr (val g) (tngOf left k))
    (hd1 : DDV val left) (hd2 : DDV val right) (h : left.connect ops right = .ok cx') : DDV val cx' := by
  classical
  have hw' := wf_connect ops left right cx' hl hr h
  have hverts := (connect_verts ops left right cx' hl hr h).1
  intro a c
  unfold ddAtV
  -- outside the product vertices everything vanishes
  by_cases ha : a ∈ cx'.verts.map (·.1)
  swap
  · apply Finset.sum_eq_zero
    intro b _
    rw [entV_zero_of_not_key val ops cx' hw' a b (.inl ha), mul_zero]
  by_cases hc : c ∈ cx'.verts.map (·.1)
  swap
  · apply Finset.sum_eq_zero
    intro b _
    rw [entV_zero_of_not_key val ops cx' hw' b c (.inr hc), zero_mul]
  rw [hverts] at ha hc
  obtain ⟨⟨k, l⟩, hkl, rfl⟩ := List.mem_map.1 ha
  obtain ⟨⟨k'', l''⟩, hkl'', rfl⟩ := List.mem_map.1 hc
  obtain ⟨hk, hl0⟩ := (mem_allPairs left right hbl hbr k l).1 hkl
  obtain ⟨hk'', hl''⟩ := (mem_allPairs left right hbl hbr k'' l'').1 hkl''
  rw [sum_connect_keys ops left right cx' hl hr hbl hbr h]
  set S1 := (left.verts.map (·.1)).toFinset with hS1
  set S2 := (right.verts.map (·.1)).toFinset with hS2
  have hterm : ∀ x ∈ S1, ∀ y ∈ S2,
      entV val cx' (x.append y) (pkey (k'', l'')) * entV val cx' (pkey (k, l)) (x.append y) =
        ((if l'' = y then tl (entV val left x k'') (tngOf right y) else 0)
          + (if k'' = x then sgV left x (tr (entV val right y l'') (tngOf left x)) else 0))
        * ((if y = l then tl (entV val left k x) (tngOf right l) else 0)
          + (if x = k then sgV left k (tr (entV val right l y) (tngOf left k)) else 0)) := by
    intro x hx y hy
    simp only [hS1, hS2, List.mem_toFinset] at hx hy
    unfold pkey
    simp only
    rw [connect_entV val ops tl tr hops left right cx' hl hr hbl hbr h x k'' y l'' _ _ hk'' hl''
        (tng?_tngOf left x hx) (tng?_tngOf right y hy),
      connect_entV val ops tl tr hops left right cx' hl hr hbl hbr h k x l y _ _ hx hy
        (tng?_tngOf left k hk) (tng?_tngOf right l hl0)]
  rw [Finset.sum_congr rfl (fun x hx => Finset.sum_congr rfl (fun y hy => hterm x hx y hy))]
  have hkS : k ∈ S1 := by simp [hS1, hk]
  have hlS : l ∈ S2 := by simp [hS2, hl0]
  have hk''S : k'' ∈ S1 := by simp [hS1, hk'']
  have hl''S : l'' ∈ S2 := by simp [hS2, hl'']
  simp only [add_mul, mul_add, Finset.sum_add_distrib]
  -- the four groups of paths of length two
  have hAA : ∑ x ∈ S1, ∑ y ∈ S2, (if l'' = y then tl (entV val left x k'') (tngOf right y) else 0)
      * (if y = l then tl (entV val left k x) (tngOf right l) else 0) = 0 := by
    rw [sum_sum_delta_same S1 S2 l'' l hlS (fun x y => tl (entV val left x k'') (tngOf right y))]
    split
    · simp only [← hops.tl_mul]
      rw [← additive_sum (fun x => tl x (tngOf right l)) (hops.tl_zero _) (fun x y => hops.tl_add x y _)]
      have := hd1 k k''
      unfold ddAtV at this
      rw [this, hops.tl_zero]
    · rfl
  have hBB : ∑ x ∈ S1, ∑ y ∈ S2, (if k'' = x then sgV left x (tr (entV val right y l'') (tngOf left x)) else 0)
      * (if x = k then sgV left k (tr (entV val right l y) (tngOf left k)) else 0) = 0 := by
    rw [Finset.sum_comm,
      sum_sum_delta_same S2 S1 k'' k hkS (fun y x => sgV left x (tr (entV val right y l'') (tngOf left x)))]
    split
    · have : ∀ y, sgV left k (tr (entV val right y l'') (tngOf left k)) * sgV left k (tr (entV val right l y) (tngOf left k))
          = tr (entV val right y l'' * entV val right l y) (tngOf left k) := by
        intro y
        rw [hops.tr_mul]
        unfold sgV
        split <;> simp
      simp only [this]
      rw [← additive_sum (fun x => tr x (tngOf left k)) (hops.tr_zero _) (fun x y => hops.tr_add x y _)]
      have := hd2 l l''
      unfold ddAtV at this
      rw [this, hops.tr_zero]
    · rfl
  have hBA : ∑ x ∈ S1, ∑ y ∈ S2, (if k'' = x then sgV left x (tr (entV val right y l'') (tngOf left x)) else 0)
      * (if y = l then tl (entV val left k x) (tngOf right l) else 0)
      = sgV left k'' (tr (entV val right l l'') (tngOf left k'')) * tl (entV val left k k'') (tngOf right l) := by
    rw [Finset.sum_comm]
    exact sum_sum_delta S2 S1 k'' l hk''S hlS (fun y x => sgV left x (tr (entV val right y l'') (tngOf left x)))
      (fun _ x => tl (entV val left k x) (tngOf right l))
  rw [hAA, hBA, hBB, sum_sum_delta S1 S2 l'' k hl''S hkS (fun x y => tl (entV val left x k'') (tngOf right y))
    (fun _ y => sgV left k (tr (entV val right l y) (tngOf left k)))]
  -- the two mixed paths cancel: interchange law and opposite signs
  rcases hf : left.edge? k k'' with _ | f
  · have : entV val left k k'' = 0 := entV_of_none val left k k'' hf
    simp [this, hops.tl_zero]
  · rcases hg : right.edge? l l'' with _ | g
    · have : entV val right l l'' = 0 := entV_of_none val right l l'' hg
      simp [this, hops.tr_zero, sgV]
    · have e1 := entV_of_edge val left k k'' f hf
      have e2 := entV_of_edge val right l l'' g hg
      have hdeg := hl.deg _ (mem_of_edge? hf)
      simp only at hdeg
      have hsign := signNeg_succ left k k'' hdeg
      have hx := hX k k'' l l'' f g hf hg
      rw [e1, e2]
      unfold sgV
      rw [hsign]
      by_cases hs : signNeg left k = true
      · simp [hs, hx]
      · simp [hs, hx]

end values

section ring
variable [Ring E]

theorem RingTensorOps.toVal {ops : EdgeOps E} {tl tr : E → Tng → E} (hops : RingTensorOps ops tl tr) :
    ValTensorOps ops id tl tr where
  hL f w g h := by rw [hops.hL] at h; cases h; rfl
  hR neg f v g h := by rw [hops.hR] at h; cases h; rfl
  zero := hops.zero
  tl_zero := hops.tl_zero
  tr_zero := hops.tr_zero
  tl_add := hops.tl_add
  tr_add := hops.tr_add
  tl_mul := hops.tl_mul
  tr_mul := hops.tr_mul

theorem sgV_eq_sg (left : Cx E) (k : TKey) (z : E) : sgV left k z = sg left k z := rfl

end ring

end Yuiv.C05.Engine
