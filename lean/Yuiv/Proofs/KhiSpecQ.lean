import Yuiv.Proofs.KhiSpecBigr
import Yuiv.Proofs.KhiSpecClosed
import Yuiv.Proofs.KhSpecQDeg
/-
KhiSpec — quantum degree: for `h = t = 0` the cone differential `dI` preserves the quantum degree of the underlying cube
generator (`Cube.d`: `Proofs/KhSpecQDeg.qDeg_preserved`, applied to the cube without base point, of which the reduced
differential is a sub-list; `τ`: `Props/C19Inv.icube_tau_qdeg`); the slices of constant quantum degree are families `Fam`.
-/
namespace Yuiv.KhiSpec
open Yuiv.KhRef Yuiv.C19 Yuiv.C06Cycle Yuiv.C19Inv Yuiv.C19Comm Yuiv.C19Cone

theorem dK_qdeg (l : InvLink) (p : Params) (hh : p.h = 0) (ht : p.t = 0) (ic : ICube) (hic : mkICube l p = some ic)
    (hok : khiInstanceOk l p = true) (g : Gen) (hs : g.s < 2 ^ ic.cube.n)
    (q0 : Int) (y : Gen) (hy : y ∈ dK ic.cube p g) : ic.cube.qDeg q0 y = ic.cube.qDeg q0 g := by
  obtain ⟨_, hL, _, _, ic', hic', hcube, _⟩ := khi_instance_ok_meaning l p hok
  rw [hic] at hic'
  cases hic'
  obtain ⟨hc, _⟩ := mkICube_tst l p ic hic
  rw [dK_eq] at hy
  unfold dList at hy
  cases hr : dRaw ic.cube p g with
  | none => rw [hr] at hy; simp [oddSupp] at hy
  | some raw =>
    rw [hr] at hy
    simp only [Option.map_some, Option.getD_some] at hy
    unfold oddSupp at hy
    obtain ⟨t, ht', rfl⟩ := List.mem_map.1 hy
    have htr : t ∈ raw := (List.mem_filter.1 (List.mem_filter.1 ht').1).1
    have hd0 : ({ ic.cube with base := none } : Cube).d p g = some raw.toArray := by
      rw [C06Cycle.d_of_base_none _ rfl]
      show (dRaw ic.cube p g).map List.toArray = _
      rw [hr]; rfl
    have hP : ∀ s s', s < 2 ^ ic.cube.n → s' < 2 ^ ic.cube.n →
        C02Mirror.Pair (ic.cube.circ[s]!) (ic.cube.circ[s']!) := by
      intro s s' h1 h2
      rw [hc] at h1 h2 ⊢
      exact C02Mirror.cube_pair l.link p hL s s' h1 h2
    exact KhSpec.qDeg_preserved ({ ic.cube with base := none } : Cube) p hh ht hP g hs raw.toArray hd0 q0 t
      (by simpa using htr)

theorem dI_qdeg (l : InvLink) (p : Params) (hh : p.h = 0) (ht : p.t = 0) (ic : ICube) (hic : mkICube l p = some ic)
    (hok : khiInstanceOk l p = true) (G : GensOk ic p) (q0 : Int) (i : Nat) (x : IGen) (hx : x ∈ cgens ic i)
    (y : IGen) (hy : y ∈ dI ic p x) : ic.cube.qDeg q0 y.2 = ic.cube.qDeg q0 x.2 := by
  obtain ⟨gs, hgs, hg⟩ := coneGens_mem _ _ i x hx
  obtain ⟨h1, _, _⟩ := G.valid gs hgs x.2 hg
  have hwf : icubeWf ic = true := by
    obtain ⟨ic', hic', hwf, _⟩ := khi_instance_ok_sound l p hok
    rw [hic] at hic'; cases hic'; exact hwf
  obtain ⟨b, g⟩ := x
  cases b
  · simp only [dI, List.mem_append, List.mem_map, List.mem_cons, List.not_mem_nil, or_false] at hy
    rcases hy with ⟨y', hy', rfl⟩ | rfl | rfl
    · exact dK_qdeg l p hh ht ic hic hok g h1 q0 y' hy'
    · rfl
    · exact icube_tau_qdeg ic hwf q0 g h1
  · simp only [dI, List.mem_map] at hy
    obtain ⟨y', hy', rfl⟩ := hy
    exact dK_qdeg l p hh ht ic hic hok g h1 q0 y' hy'

/-- the cone generators of degree `i` and quantum degree `q` -/
def sliceQ (ic : ICube) (q0 q : Int) : Array (Array IGen) :=
  gqOf ic.cube q0 q (coneGens ic.cube (kgensOf ic.cube))

theorem sliceQ_size (ic : ICube) (q0 q : Int) : (sliceQ ic q0 q).size = ic.cube.n + 2 := by
  simp [sliceQ, gqOf, coneGens_size]

theorem sliceQ_get (ic : ICube) (q0 q : Int) (i : Nat) :
    (sliceQ ic q0 q)[i]! = (cgens ic i).filter (fun x => ic.cube.qDeg q0 x.2 == q) := by
  unfold sliceQ gqOf cgens
  by_cases hi : i < (coneGens ic.cube (kgensOf ic.cube)).size
  · rw [getElem!_pos _ i (by simpa using hi), getElem!_pos _ i hi]
    simp
  · rw [getElem!_neg _ i (by simpa using hi), getElem!_neg _ i hi]
    rfl

theorem mem_sliceQ (ic : ICube) (q0 q : Int) (i : Nat) (x : IGen) :
    x ∈ (sliceQ ic q0 q)[i]! ↔ x ∈ cgens ic i ∧ ic.cube.qDeg q0 x.2 = q := by
  rw [sliceQ_get, Array.mem_filter]
  simp

theorem fam_sliceQ (l : InvLink) (p : Params) (hh : p.h = 0) (ht : p.t = 0) (ic : ICube) (hic : mkICube l p = some ic)
    (hok : khiInstanceOk l p = true) (G : GensOk ic p) (q0 q : Int) : Fam ic p (sliceQ ic q0 q) := by
  have hcone := (enumerated_ok l p ic hic hok G).2
  refine ⟨?_, ?_, ?_, ?_⟩
  · intro i
    rw [sliceQ_get, Array.toList_filter]
    exact (G.nodup i).filter _
  · intro i hi x hx y hy
    rw [sliceQ_size] at hi
    obtain ⟨hx1, hx2⟩ := (mem_sliceQ ic q0 q i x).1 hx
    refine (mem_sliceQ ic q0 q (i + 1) y).2 ⟨G.closed i (by rw [coneGens_size]; exact hi) x hx1 y hy, ?_⟩
    rw [dI_qdeg l p hh ht ic hic hok G q0 i x hx1 y hy, hx2]
  · intro i x hx
    exact coneGens_mem _ _ i x ((mem_sliceQ ic q0 q i x).1 hx).1
  · intro i x hx
    exact hcone i x ((mem_sliceQ ic q0 q i x).1 hx).1

theorem qcheck_passes (l : InvLink) (p : Params) (hh : p.h = 0) (ht : p.t = 0) (ic : ICube) (hic : mkICube l p = some ic)
    (hok : khiInstanceOk l p = true) (G : GensOk ic p) (q0 q : Int) :
    ∀ gs ∈ sliceQ ic q0 q, ∀ x ∈ gs,
      ((reduce2 (dIm ic p x)).any fun y => ic.cube.qDeg q0 y.snd != q) = false := by
  intro gs hgs x hx
  obtain ⟨i, hi, rfl⟩ := Array.mem_iff_getElem.1 hgs
  have hx' : x ∈ (sliceQ ic q0 q)[i]! := by rw [getElem!_pos _ i hi]; exact hx
  obtain ⟨hx1, hx2⟩ := (mem_sliceQ ic q0 q i x).1 hx'
  cases hany : (reduce2 (dIm ic p x)).any fun y => ic.cube.qDeg q0 y.snd != q with
  | false => rfl
  | true =>
    exfalso
    obtain ⟨y, hy, hne⟩ := Array.any_eq_true'.1 hany
    rw [mem_reduce2, dIm_eq ic p i x hx1, dIA_toList] at hy
    have hy' : y ∈ dI ic p x := by
      apply List.count_pos_iff.1
      omega
    have := dI_qdeg l p hh ht ic hic hok G q0 i x hx1 y hy'
    rw [this, hx2] at hne
    simp at hne

/-- the dimension of the homology of the cone in degree position `i` and quantum degree `q` -/
noncomputable def coneDimQ (ic : ICube) (p : Params) (q0 q : Int) (i : Nat) : Nat :=
  ((sliceQ ic q0 q)[i]!).size - (DmG ic p (sliceQ ic q0 q) i).rank -
    (if i = 0 then 0 else (DmG ic p (sliceQ ic q0 q) (i - 1)).rank)

/-- the quantum degrees in the order of the output -/
def qList (ic : ICube) (q0 : Int) : List Int := (qsSorted ic.cube q0 (coneGens ic.cube (kgensOf ic.cube))).toList

theorem khi_bigraded_eq (l : InvLink) (signs : Array Int) (p : Params) (hh : p.h = 0) (ht : p.t = 0) (ic : ICube)
    (hic : mkICube l p = some ic) (hok : khiInstanceOk l p = true) (G : GensOk ic p) :
    khiHomology l signs p true = Except.ok { cells :=
      ((qList ic (q0Of signs p)).flatMap (fun q => (List.range (ic.cube.n + 2)).filterMap (fun (i : Nat) =>
        if coneDimQ ic p (q0Of signs p) q i ≠ 0 then
          some (-((signs.filter (· < 0)).size : Int) + (i : Int), some q, coneDimQ ic p (q0Of signs p) q i)
        else none))).toArray } := by
  rw [khiHomology_eq_tail l signs p true ic hic hok G,
    khiTail2_bigr _ _ _ _ _ (fun q _ => qcheck_passes l p hh ht ic hic hok G (q0Of signs p) q)]
  simp only [Id.run, pure]
  have hfun : (fun cells q => cellsOf (-↑(Array.filter (fun x => decide (x < 0)) signs).size) (some q)
        (homoA (dIm ic p) (gqOf ic.cube (q0Of signs p) q (coneGens ic.cube (kgensOf ic.cube)))) cells) =
      fun cells q => cellsOf (-↑(Array.filter (fun x => decide (x < 0)) signs).size) (some q)
        ((List.range (ic.cube.n + 2)).map (famDim ic p (sliceQ ic (q0Of signs p) q))).toArray cells := by
    funext cells q
    have F := fam_sliceQ l p hh ht ic hic hok G (q0Of signs p) q
    rw [show gqOf ic.cube (q0Of signs p) q (coneGens ic.cube (kgensOf ic.cube)) = sliceQ ic (q0Of signs p) q from rfl,
      homoA_fam ic p _ F.nodup F.closed F.base, sliceQ_size]
  rw [hfun, ← Array.foldl_toList, bigr_cells, Array.empty_append]
  rfl

end Yuiv.KhiSpec
