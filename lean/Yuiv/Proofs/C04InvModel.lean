import Yuiv.Model.KhRef
import Yuiv.Proofs.KhRefBits
import Yuiv.Proofs.C04InvSort
import Yuiv.Proofs.Loop
import Yuiv.Proofs.KhRefLoops
/-
`KhRef.edgeLabels` and `KhRef.resolvedTypes` as pure folds (`resTypes`: recursion over the crossing list, bit 0 of the state
belongs to the first unresolved crossing), and `KhRef.indexOf` on a duplicate-free array.
-/
open Yuiv.KhRef
namespace Yuiv.C04Inv


theorem id_forIn_yield {α β} (l : List α) (b : β) (g : α → β → β) (f : α → β → Id (ForInStep β))
    (h : ∀ a b, f a b = pure (ForInStep.yield (g a b))) :
    (forIn l b f).run = l.foldl (fun b a => g a b) b :=
  congrArg Id.run (Loop.forIn_eq_foldl (fun a _ b => h a b) b)

def addNew (xs : Array Nat) (x : Nat) : Array Nat := if x ∈ xs then xs else xs.push x

theorem addNew_eq : addNew = fun (xs : Array Nat) y => if xs.contains y then xs else xs.push y := by
  funext xs y
  unfold addNew
  by_cases h : y ∈ xs <;> simp [h]

def preLabels (l : Link) : Array Nat := l.toList.foldl (fun xs c => c.e.toList.foldl addNew xs) #[]

theorem preLabels_aux (cs : List Crossing) (xs : Array Nat) (h : xs.toList.Nodup) :
    (cs.foldl (fun xs c => c.e.toList.foldl addNew xs) xs).toList.Nodup ∧
      ∀ z, z ∈ cs.foldl (fun xs c => c.e.toList.foldl addNew xs) xs ↔ z ∈ xs ∨ ∃ c ∈ cs, z ∈ c.e := by
  rw [addNew_eq]
  simpa using KhRefLoops.collect_keys (fun x : Nat => x) (fun c : Crossing => c.e.toList) cs xs h

theorem edgeLabels_eq (l : Link) : edgeLabels l = (preLabels l).qsort (· < ·) := by
  have : (Array.foldl
          (fun x1 (x2 : Crossing) =>
            (forIn x2.e x1 fun x (s : Array Nat) =>
                if x ∈ s then (pure (ForInStep.yield s) : Id _) else pure (ForInStep.yield (s.push x))).run)
          #[] l) = preLabels l := by
    unfold preLabels
    rw [← Array.foldl_toList]
    congr 1
    funext xs c
    rw [← Array.forIn_toList, id_forIn_yield (g := fun x s => addNew s x)]
    intro a b; unfold addNew; split <;> rfl
  unfold edgeLabels
  simp
  rw [this]

theorem edgeLabels_nodup (l : Link) : (edgeLabels l).toList.Nodup := by
  rw [edgeLabels_eq]
  have := (qsort_perm (preLabels l) (· < ·)).toList
  rw [this.nodup_iff]
  exact (preLabels_aux l.toList #[] (by simp)).1

theorem mem_edgeLabels (l : Link) (x : Nat) : x ∈ edgeLabels l ↔ ∃ c ∈ l, x ∈ c.e := by
  rw [edgeLabels_eq, (qsort_perm (preLabels l) (· < ·)).mem_iff]
  have := (preLabels_aux l.toList #[] (by simp)).2 x
  unfold preLabels
  rw [this]; simp



def resTypes : List Crossing → Nat → List CT
  | [], _ => []
  | c :: cs, s =>
    if c.ct.isResolved then c.ct :: resTypes cs s
    else c.ct.resolve (s.testBit 0) :: resTypes cs (s / 2)

def resStep (s : Nat) (st : Array CT × Nat) (c : Crossing) : Array CT × Nat :=
  if c.ct.isResolved then (st.1.push c.ct, st.2) else (st.1.push (c.ct.resolve (s.testBit st.2)), st.2 + 1)

theorem resStep_fold (s : Nat) (cs : List Crossing) (out : Array CT) (k : Nat) :
    (cs.foldl (resStep s) (out, k)).1.toList = out.toList ++ resTypes cs (s >>> k) := by
  induction cs generalizing out k with
  | nil => simp [resTypes]
  | cons c cs ih =>
    rw [List.foldl_cons]
    by_cases h : c.ct.isResolved
    · have e : resStep s (out, k) c = (out.push c.ct, k) := by simp [resStep, h]
      rw [e, ih]; simp [resTypes, h]
    · have e : resStep s (out, k) c = (out.push (c.ct.resolve (s.testBit k)), k + 1) := by simp [resStep, h]
      rw [e, ih]; simp [resTypes, h, Nat.shiftRight_succ]

theorem resolvedTypes_toList (l : Link) (s : Nat) : (resolvedTypes l s).toList = resTypes l.toList s := by
  unfold resolvedTypes
  simp
  rw [← Array.forIn_toList, id_forIn_yield (g := fun c st => resStep s st c)]
  · rw [resStep_fold]; simp
  · intro a b; unfold resStep; split <;> rfl

theorem resTypes_length (cs : List Crossing) (s : Nat) : (resTypes cs s).length = cs.length := by
  induction cs generalizing s with
  | nil => rfl
  | cons c cs ih => unfold resTypes; split <;> simp [ih]

def nUnres : List Crossing → Nat
  | [] => 0
  | c :: cs => if c.ct.isResolved then nUnres cs else nUnres cs + 1

theorem crossingNum_eq (l : Link) : crossingNum l = nUnres l.toList := by
  unfold crossingNum
  rw [← Array.length_toList, Array.toList_filter]
  induction l.toList with
  | nil => rfl
  | cons c cs ih =>
    unfold nUnres
    by_cases h : c.ct.isResolved <;> simp [h, ih]

theorem resTypes_get (cs : List Crossing) (hun : ∀ c ∈ cs, c.ct.isResolved = false) (s i : Nat) :
    (resTypes cs s)[i]? = cs[i]?.map (fun c => c.ct.resolve (s.testBit i)) := by
  induction cs generalizing s i with
  | nil => simp [resTypes]
  | cons c cs ih =>
    have hc : c.ct.isResolved = false := hun c (by simp)
    have ih' := ih (fun c hc => hun c (by simp [hc]))
    unfold resTypes
    simp only [hc, Bool.false_eq_true, if_false]
    cases i with
    | zero => simp
    | succ i =>
      simp only [List.getElem?_cons_succ, ih' (s / 2) i, Nat.testBit_succ]

theorem resTypes_cons_resolved {c : Crossing} (hc : c.ct.isResolved = true) (cs : List Crossing) (s : Nat) :
    resTypes (c :: cs) s = c.ct :: resTypes cs s := by
  rw [resTypes, if_pos hc]

theorem resTypes_cons_unresolved {c : Crossing} (hc : c.ct.isResolved = false) (cs : List Crossing) (s : Nat) :
    resTypes (c :: cs) s = c.ct.resolve (s.testBit 0) :: resTypes cs (s / 2) := by
  rw [resTypes, if_neg (by rw [hc]; exact Bool.false_ne_true)]

theorem resTypes_resolved (cs : List Crossing) (s : Nat) : ∀ t ∈ resTypes cs s, t.isResolved = true := by
  induction cs generalizing s with
  | nil => intro t ht; cases ht
  | cons c cs ih =>
    intro t ht
    cases hc : c.ct.isResolved
    · rw [resTypes_cons_unresolved hc] at ht
      rcases List.mem_cons.1 ht with rfl | h
      · cases c.ct <;> cases s.testBit 0 <;> rfl
      · exact ih _ _ h
    · rw [resTypes_cons_resolved hc] at ht
      rcases List.mem_cons.1 ht with rfl | h
      · exact hc
      · exact ih _ _ h

theorem resolvedTypes_size (l : Link) (s : Nat) : (resolvedTypes l s).size = l.size := by
  rw [← Array.length_toList, resolvedTypes_toList, resTypes_length]; simp



theorem indexOf_spec (xs : Array Nat) (x : Nat) (hx : x ∈ xs) :
    indexOf xs x < xs.size ∧ xs[indexOf xs x]! = x := by
  unfold indexOf
  cases h : xs.findIdx? (· == x) with
  | none =>
    rw [Array.findIdx?_eq_none_iff] at h
    have := h x hx
    simp at this
  | some i =>
    rw [Array.findIdx?_eq_some_iff_getElem] at h
    obtain ⟨hi, hp, _⟩ := h
    simp only [Option.getD_some]
    refine ⟨hi, ?_⟩
    rw [getElem!_pos xs i hi]
    simpa using hp

theorem indexOf_getElem (xs : Array Nat) (hnd : xs.toList.Nodup) (i : Nat) (hi : i < xs.size) :
    indexOf xs xs[i]! = i := by
  have hm := getElem!_mem xs i hi
  obtain ⟨h1, h2⟩ := indexOf_spec xs xs[i]! hm
  generalize indexOf xs xs[i]! = j at h1 h2 ⊢
  rw [getElem!_pos xs j h1, getElem!_pos xs i hi] at h2
  exact (List.getElem_inj (xs := xs.toList) (h₀ := by simpa using h1) (h₁ := by simpa using hi) hnd).mp
    (by simpa using h2)

end Yuiv.C04Inv
