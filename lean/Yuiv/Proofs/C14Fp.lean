import Yuiv.Proofs.C14
import Yuiv.Proofs.C15
/-
C14 — `FF<p>::inv` for EVERY modulus: from `ff_inv_eq` (Proofs/C14), `FF.inv p a = ok (some u)` with `a·u ≡ 1 (mod p)`
when `gcd(a, p) = 1` and a panic otherwise; inverses are unique among the residues, so the search-based `inv` of the
C15 model finds the same one.
-/
namespace Yuiv.C14
open Res

theorem xgcdLoop_total : ∀ (fuel m n : Nat) (s t : Int × Int), m + 1 ≤ fuel →
    ∃ s' t', FF.xgcdLoop fuel ((m : Int), (n : Int)) s t = ok ((0, ((Nat.gcd m n : Nat) : Int)), s', t') := by
  intro fuel m n s t hf
  obtain ⟨⟨⟨r1, r2⟩, s', t'⟩, ⟨hz, hg, hn, -⟩, he⟩ := (NumInteger.xgcdLoop_conv ((m : Int), (n : Int)) s t).total
  simp only at hz hg hn
  subst hz
  have h2 := hn (Int.natCast_nonneg m) (Int.natCast_nonneg n)
  rw [Int.gcd_zero_left, Int.gcd_natCast_natCast] at hg
  refine ⟨s', t', ?_⟩
  rw [NumInteger.c14_xgcdLoop_eq, he fuel (by simpa using hf), ← hg]
  congr 3; omega

theorem ff_isZero_iff (a : Int) : FF.isZero a = true ↔ a = 0 := by simp [FF.isZero]

theorem ff_inv_of_coprime (p k : Nat) (hp : 0 < p) (hk : 0 < k) (hc : Nat.gcd k p = 1) :
    ∃ u : Int, FF.inv (p : Int) (k : Int) = ok (some u) ∧ 0 ≤ u ∧ u < (p : Int) ∧
      ((k : Int) * u) % (p : Int) = 1 % (p : Int) := by
  obtain ⟨s, t, _, e⟩ := ff_inv_eq (p : Int) (k : Int) (by omega)
  rw [Int.gcd_natCast_natCast, if_pos hc, ff_new_ok _ s (by omega)] at e
  exact ⟨_, e, ff_inv_spec _ _ _ e⟩

/-- a non-zero non-unit of `ℤ/p` makes `assert!(d.is_one())` fail -/
theorem ff_inv_of_not_coprime (p k : Nat) (hk : 0 < k) (hc : Nat.gcd k p ≠ 1) :
    FF.inv (p : Int) (k : Int) = panic := by
  obtain ⟨s, t, _, e⟩ := ff_inv_eq (p : Int) (k : Int) (by omega)
  rwa [Int.gcd_natCast_natCast, if_neg hc] at e

theorem inv_unique (p a u v : Int) (hu : 0 ≤ u ∧ u < p) (hv : 0 ≤ v ∧ v < p)
    (h1 : (a * u) % p = 1 % p) (h2 : (a * v) % p = 1 % p) : u = v := by
  have hp : 0 < p := by omega
  -- u ≡ u·(a·v) = (a·u)·v ≡ v
  have e1 : (u * (a * v)) % p = u % p := by
    rw [Int.mul_emod, h2, ← Int.mul_emod, Int.mul_one]
  have e2 : (v * (a * u)) % p = v % p := by
    rw [Int.mul_emod, h1, ← Int.mul_emod, Int.mul_one]
  have e3 : u * (a * v) = v * (a * u) := by ring
  rw [e3, e2] at e1
  rw [Int.emod_eq_of_lt hv.1 hv.2, Int.emod_eq_of_lt hu.1 hu.2] at e1
  exact e1.symm

theorem emod_mul_emod' (x y p : Int) : ((x % p) * y) % p = (x * y) % p := by
  rw [Int.mul_emod, Int.emod_emod, ← Int.mul_emod]
theorem mul_emod_emod' (x y p : Int) : (x * (y % p)) % p = (x * y) % p := by
  rw [Int.mul_emod, Int.emod_emod, ← Int.mul_emod]

theorem c15_inv_of_unique (p k w : Nat) (hk0 : k ≠ 0) (hw : w < p) (hp2 : 2 ≤ p)
    (hkw : (k * w) % p = 1) : Yuiv.C15.FF.inv p k = some w := by
  have h1p : 1 % p = 1 := Nat.mod_eq_of_lt (by omega)
  obtain ⟨i, hi, hip, hpi⟩ := Yuiv.C15.FF.inv_of_witness p k w hk0 hw (by rw [hkw, h1p])
  have cast : ∀ j : Nat, (k * j) % p = 1 % p → ((k : Int) * (j : Int)) % (p : Int) = 1 % (p : Int) := by
    intro j hj
    exact_mod_cast congrArg Nat.cast hj
  have e : (i : Int) = (w : Int) :=
    inv_unique (p : Int) (k : Int) i w ⟨by omega, by omega⟩ ⟨by omega, by omega⟩ (cast i hpi)
      (cast w (by rw [hkw, h1p]))
  rw [hi, Int.ofNat_inj.1 e]

end Yuiv.C14
