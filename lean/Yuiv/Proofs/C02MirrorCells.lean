import Yuiv.Proofs.C02MirrorDual
import Yuiv.Proofs.C18BridgeMain
/-
Degrees of the dual generators (with `n₊ + n₋ = n` for the signs `KhRef.crossingSigns` returns, on any link),
the matrices of the differentials, and the cell rule.
-/
namespace Yuiv.C02Mirror
open Yuiv Yuiv.KhRef Yuiv.C04Inv Matrix Yuiv.C03 Yuiv.C03Uct

theorem popcount_compl (n s : Nat) (hs : s < 2 ^ n) : popcount (compl n s) n + popcount s n = n :=
  popcount_compl_le n s n hs (Nat.le_refl n)

/-- homological degree: `i ↦ −i` (with `n₊ ↔ n₋`, `n₊ + n₋ = n`) -/
theorem hDeg_dual (n s nPos nNeg : Nat) (hs : s < 2 ^ n) (hn : nPos + nNeg = n) :
    -(nPos : Int) + (popcount (compl n s) n : Int) = -(-(nNeg : Int) + (popcount s n : Int)) := by
  have := popcount_compl n s hs
  omega

theorem dualGen_s (c : Cube) (g : Gen) : (dualGen c g).s = compl c.n g.s := rfl
theorem dualGen_mask (c : Cube) (g : Gen) : (dualGen c g).mask = flipMask (c.circ[g.s]!).size g.mask := rfl

/-- quantum degree: `j ↦ −j` when the two shifts satisfy `q0 + q0' + n = 0` (e.g. `q0 = n₊ − 2n₋`, `q0' = n₋ − 2n₊`) -/
theorem qDeg_dual (l : Link) (p : Params) (g : Gen) (hg : IsGen (mkCube l p) g) (q0 q0' : Int)
    (hq : q0 + q0' + (crossingNum l : Int) = 0) :
    (mkCube (mirror l) p).qDeg q0' (dualGen (mkCube l p) g) = -((mkCube l p).qDeg q0 g) := by
  obtain ⟨hs, hm⟩ := hg
  unfold Cube.qDeg
  simp only [dualGen_s, dualGen_mask, mkCube_n] at hs hm ⊢
  rw [crossingNum_mirror, cube_mirror_circ l p _ hs]
  have h1 := popcount_compl (crossingNum l) g.s hs
  have h2 := popcount_compl ((mkCube l p).circ[g.s]!).size g.mask hm
  unfold compl at h2
  unfold flipMask
  omega

theorem dualGen_dualGen (l : Link) (p : Params) (g : Gen) (hg : IsGen (mkCube l p) g) :
    dualGen (mkCube (mirror l) p) (dualGen (mkCube l p) g) = g := by
  obtain ⟨hs, hm⟩ := hg
  obtain ⟨s, m⟩ := g
  simp only [mkCube_n] at hs hm
  unfold dualGen
  simp only [mkCube_n, crossingNum_mirror, cube_mirror_circ l p _ hs]
  rw [compl_compl _ _ hs, flipMask_flipMask _ _ hm]

/-- the matrix of `Cube.d` from the generators `src` to the generators `tgt` (rows = targets) -/
def dMatrix (c : Cube) (p : Params) {a b : ℕ} (src : Fin a → Gen) (tgt : Fin b → Gen) : Matrix (Fin b) (Fin a) ℤ :=
  Matrix.of fun j i => dCoef c p (src i) (tgt j)

theorem dMatrix_dual (l : Link) (p : Params) (hh : p.h = 0) (hr : p.reduced = false) (hL : (edgeLabels l).size ≤ 64)
    (hok : cubeOK (mkCube l p)) {a b : ℕ} (src : Fin a → Gen) (tgt : Fin b → Gen)
    (hsrc : ∀ i, IsGen (mkCube l p) (src i)) (htgt : ∀ j, IsGen (mkCube l p) (tgt j)) :
    dMatrix (mkCube (mirror l) p) p (fun j => dualGen (mkCube l p) (tgt j)) (fun i => dualGen (mkCube l p) (src i))
      = Matrix.diagonal (fun i => sigma (crossingNum l) (src i).s) * (dMatrix (mkCube l p) p src tgt)ᵀ
          * Matrix.diagonal (fun j => sigma (crossingNum l) (tgt j).s) := by
  ext i j
  rw [Matrix.mul_diagonal, Matrix.diagonal_mul]
  simp only [dMatrix, Matrix.of_apply, Matrix.transpose_apply]
  rw [dCoef_dual l p hh hr hL hok (src i) (tgt j) (hsrc i) (htgt j)]
  ring

theorem sigma_unit (n s : Nat) : sigma n s = 1 ∨ sigma n s = -1 := negPow_unit _

theorem equivDiag_mirror (l : Link) (p : Params) (hh : p.h = 0) (hr : p.reduced = false)
    (hL : (edgeLabels l).size ≤ 64) (hok : cubeOK (mkCube l p)) {a b : ℕ} (src : Fin a → Gen) (tgt : Fin b → Gen)
    (hsrc : ∀ i, IsGen (mkCube l p) (src i)) (htgt : ∀ j, IsGen (mkCube l p) (tgt j)) (d : List ℤ)
    (hd : EquivDiag (dMatrix (mkCube l p) p src tgt) d) :
    EquivDiag (dMatrix (mkCube (mirror l) p) p (fun j => dualGen (mkCube l p) (tgt j))
      (fun i => dualGen (mkCube l p) (src i))) d := by
  rw [dMatrix_dual l p hh hr hL hok src tgt hsrc htgt]
  exact equivDiag_mul_unimodular _ d _ _ (isUnit_det_diagonal_sign _ (fun i => sigma_unit _ _))
    (isUnit_det_diagonal_sign _ (fun j => sigma_unit _ _)) (equivDiag_transpose _ d hd)

open Yuiv.C18Bridge (nPosK nNegK filter_size crossingSigns_out)

theorem pos_add_neg (a : Array Int) (h : ∀ x ∈ a, x ≠ 0) : nPosK a + nNegK a = a.size := by
  unfold nPosK nNegK
  rw [filter_size, filter_size, ← Array.length_toList]
  have h' : ∀ x ∈ a.toList, x ≠ 0 := fun x hx => h x (by simpa using hx)
  generalize a.toList = xs at h'
  induction xs with
  | nil => rfl
  | cons x xs ih =>
    have hx := h' x (by simp)
    have := ih (fun y hy => h' y (by simp [hy]))
    simp only [gt_iff_lt] at this
    rcases Int.lt_trichotomy x 0 with hlt | heq | hgt
    · have h1 : ¬ x > 0 := by omega
      simp [hlt, h1]; omega
    · exact absurd heq hx
    · have h1 : ¬ x < 0 := by omega
      simp [hgt, h1]; omega

theorem signs_count (l : Link) (sg : Array Int) (h : KhRef.crossingSigns l = some sg) :
    nPosK sg + nNegK sg = crossingNum l := by
  obtain ⟨h1, h2⟩ := crossingSigns_out l sg h
  rw [pos_add_neg sg h2, h1]

end Yuiv.C02Mirror
