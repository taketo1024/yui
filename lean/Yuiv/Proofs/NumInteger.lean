import Yuiv.Model.NumInteger
import Yuiv.Model.RustRing
import Yuiv.Model.RustI32
import Yuiv.Model.C14
import Yuiv.Model.C15
import Yuiv.Model.C09
import Yuiv.Proofs.ResSpec
import Mathlib.Tactic.Ring
import Mathlib.Data.Nat.GCD.Basic
import Mathlib.Data.Int.GCD

/-
Correctness of the hand model `Yuiv/Model/NumInteger.lean` of num-integer 0.1.47's `gcd` (Stein), `lcm` / `gcd_lcm`,
`extended_gcd`, `extended_gcd_lcm` for the signed machine integers, and the bridge to the primitives the C14 / C15 code models and the translator prelude use for them
(`RInt.gcd`, `RInt.lcm`, `C14.intGcd`, `C14.intLcm`, `C15.zGcd`, `C15.zLcm`, `I32.gcdx`, `C14.FF.gcdx`).
-/
namespace Yuiv.NumInteger
open Res

theorem tzNat_spec : ∀ (f n : Nat), n ≠ 0 → n ≤ f → ∃ o, n = 2 ^ tzNat f n * o ∧ o % 2 = 1
  | 0, n, h0, hf => by omega
  | f + 1, n, h0, hf => by
    unfold tzNat
    by_cases h : n ≠ 0 ∧ n % 2 = 0
    · rw [if_pos h]
      obtain ⟨o, ho, hodd⟩ := tzNat_spec f (n / 2) (by omega) (by omega)
      refine ⟨o, ?_, hodd⟩
      rw [Nat.pow_succ, Nat.mul_assoc, Nat.mul_comm 2 o, ← Nat.mul_assoc, ← ho]
      omega
    · rw [if_neg h]
      exact ⟨n, by simp, by omega⟩

theorem tzNat_pow : ∀ (k f : Nat), 2 ^ k ≤ f → tzNat f (2 ^ k) = k
  | 0, f, hf => by
    cases f with
    | zero => simp at hf
    | succ f => simp [tzNat]
  | k + 1, f, hf => by
    cases f with
    | zero => have := Nat.two_pow_pos (k+1); omega
    | succ f =>
      unfold tzNat
      have hp : 0 < 2 ^ k := Nat.two_pow_pos k
      have h2 : 2 ^ (k + 1) = 2 * 2 ^ k := by rw [Nat.pow_succ, Nat.mul_comm]
      rw [if_pos ⟨by omega, by omega⟩]
      have : 2 ^ (k + 1) / 2 = 2 ^ k := by omega
      rw [this, tzNat_pow k f (by omega)]

theorem coprime_pow_two_odd (k o : Nat) (ho : o % 2 = 1) : Nat.Coprime (2 ^ k) o := by
  apply Nat.Coprime.pow_left
  show Nat.gcd 2 o = 1
  rw [Nat.gcd_rec, ho]; rfl

theorem gcd_strip (t o b : Nat) (hb : b % 2 = 1) : Nat.gcd (2 ^ t * o) b = Nat.gcd o b :=
  Nat.Coprime.gcd_mul_left_cancel o (coprime_pow_two_odd t b hb)

theorem trailingZeros_cast (w d : Nat) (hd : d ≠ 0) : trailingZeros w (d : Int) = tzNat d d := by
  unfold trailingZeros
  rw [if_neg (by omega), Int.natAbs_natCast]

theorem shiftRight_cast (t o : Nat) : ((2 ^ t * o : Nat) : Int) >>> t = (o : Int) := by
  rw [Int.shiftRight_eq_div_pow]
  have : (2 ^ t * o : Nat) / 2 ^ t = o := Nat.mul_div_cancel_left o (Nat.two_pow_pos t)
  rw [← Int.natCast_ediv, this]

theorem exp_pos_of_odd_lt {x a : Nat} (hx : x % 2 = 1) (h : x < 2 ^ a) : 1 ≤ a := by
  rcases a with _ | a
  · rw [Nat.pow_zero] at h; omega
  · omega

/-- one subtract-and-shift step preserves the gcd and halves the bound -/
theorem step_lemma (w a x y : Nat) (hx : x % 2 = 1) (hy : y % 2 = 1) (hlt : y < x) (hxa : x < 2 ^ a) :
    ∃ o : Nat, (((x : Int) - (y : Int)) >>> trailingZeros w ((x : Int) - (y : Int))) = (o : Int) ∧
      o % 2 = 1 ∧ o < 2 ^ (a - 1) ∧ Nat.gcd o y = Nat.gcd x y := by
  have hc : (x : Int) - (y : Int) = ((x - y : Nat) : Int) := (Int.ofNat_sub hlt.le).symm
  have hd : x - y ≠ 0 := Nat.sub_ne_zero_of_lt hlt
  rw [hc, trailingZeros_cast w _ hd]
  obtain ⟨o, ho, hodd⟩ := tzNat_spec (x - y) (x - y) hd (Nat.le_refl _)
  generalize tzNat (x - y) (x - y) = t at ho
  refine ⟨o, ?_, hodd, ?_, ?_⟩
  · rw [ho, shiftRight_cast]
  · cases t with
    | zero => simp at ho; omega
    | succ t =>
      have h2 : 2 ^ (t + 1) * o = 2 * (2 ^ t * o) := by rw [Nat.pow_succ]; ring
      have hp : 0 < 2 ^ t := Nat.two_pow_pos t
      have : o ≤ 2 ^ t * o := Nat.le_mul_of_pos_left o hp
      cases a with
      | zero => simp at hxa; omega
      | succ a =>
        rw [Nat.pow_succ] at hxa
        simp only [Nat.add_sub_cancel]
        omega
  · rw [← gcd_strip t o y hy, ← ho, Nat.gcd_sub_self_left (Nat.le_of_lt hlt)]

theorem steinLoop_nat (w : Nat) : ∀ (fuel a b x y : Nat), x % 2 = 1 → y % 2 = 1 → x < 2 ^ a → y < 2 ^ b →
    a + b ≤ fuel → steinLoop w fuel (x : Int) (y : Int) = ok ((Nat.gcd x y : Nat) : Int)
  | 0, a, b, x, y, hx, hy, hxa, hyb, hf => by
    have := exp_pos_of_odd_lt hx hxa
    omega
  | fuel + 1, a, b, x, y, hx, hy, hxa, hyb, hf => by
    have ha := exp_pos_of_odd_lt hx hxa
    have hb := exp_pos_of_odd_lt hy hyb
    unfold steinLoop
    by_cases hxy : (x : Int) = (y : Int)
    · rw [if_pos hxy]
      obtain rfl : x = y := Int.ofNat_inj.1 hxy
      rw [Nat.gcd_self]
    · rw [if_neg hxy]
      by_cases hgt : (x : Int) > (y : Int)
      · rw [if_pos hgt]
        obtain ⟨o, ho, hodd, hlt, hg⟩ := step_lemma w a x y hx hy (by omega) hxa
        simp only [ho]
        rw [steinLoop_nat w fuel (a - 1) b o y hodd hy hlt hyb (by omega), hg]
      · rw [if_neg hgt]
        obtain ⟨o, ho, hodd, hlt, hg⟩ := step_lemma w b y x hy hx (by omega) hyb
        simp only [ho]
        rw [steinLoop_nat w fuel a (b - 1) x o hx hodd hxa hlt (by omega), Nat.gcd_comm x o, hg, Nat.gcd_comm]

theorem gcd_two_parts (ta tb oa ob : Nat) (ha : oa % 2 = 1) (hb : ob % 2 = 1) :
    Nat.gcd (2 ^ ta * oa) (2 ^ tb * ob) = 2 ^ (min ta tb) * Nat.gcd oa ob := by
  rcases Nat.le_total ta tb with h | h
  · obtain ⟨d, rfl⟩ := Nat.exists_eq_add_of_le h
    rw [Nat.min_eq_left h, Nat.pow_add, Nat.mul_assoc, Nat.gcd_mul_left, Nat.gcd_comm oa, gcd_strip d ob oa ha, Nat.gcd_comm]
  · obtain ⟨d, rfl⟩ := Nat.exists_eq_add_of_le h
    rw [Nat.min_eq_right h, Nat.pow_add, Nat.mul_assoc, Nat.gcd_mul_left, gcd_strip d oa ob hb]

theorem natAbs_decomp (w : Nat) (m : Int) (h0 : m ≠ 0) :
    ∃ o, m.natAbs = 2 ^ trailingZeros w m * o ∧ o % 2 = 1 := by
  unfold trailingZeros
  rw [if_neg h0]
  exact tzNat_spec _ _ (by omega) (Nat.le_refl _)

theorem gcd_decomp (w : Nat) (m n : Int) (hm : m ≠ 0) (hn : n ≠ 0) :
    ∃ om on, om % 2 = 1 ∧ on % 2 = 1 ∧ m.natAbs = 2 ^ trailingZeros w m * om ∧
      n.natAbs = 2 ^ trailingZeros w n * on ∧ Int.gcd m n = 2 ^ shiftOf w m n * Nat.gcd om on := by
  obtain ⟨om, h1, h2⟩ := natAbs_decomp w m hm
  obtain ⟨on, h3, h4⟩ := natAbs_decomp w n hn
  refine ⟨om, on, h2, h4, h1, h3, ?_⟩
  show Nat.gcd m.natAbs n.natAbs = _
  rw [h1, h3, gcd_two_parts _ _ _ _ h2 h4]; rfl

theorem abs_shift (w : Nat) (m : Int) (h0 : m ≠ 0) (o : Nat) (ho : m.natAbs = 2 ^ trailingZeros w m * o) :
    ((m.natAbs : Nat) : Int) >>> trailingZeros w ((m.natAbs : Nat) : Int) = (o : Int) := by
  have : trailingZeros w ((m.natAbs : Nat) : Int) = trailingZeros w m := by
    unfold trailingZeros
    rw [if_neg (by omega), if_neg h0, Int.natAbs_natCast]
  rw [this, ho, shiftRight_cast]

theorem two_pow_width (w : Nat) (hw : 1 ≤ w) : (2 : Int) ^ w = 2 * 2 ^ (w - 1) := by
  obtain ⟨k, rfl⟩ := Nat.exists_eq_add_of_le hw
  rw [Nat.add_sub_cancel_left, Int.pow_add]; norm_num

theorem wrap_id (w : Nat) (hw : 1 ≤ w) (x : Int) (h0 : 0 ≤ x) (h1 : x < 2 ^ (w - 1)) : wrap w x = x := by
  unfold wrap
  rw [two_pow_width w hw, Int.emod_eq_of_lt (by omega) (by omega)]; omega

theorem wrap_min (w : Nat) (hw : 1 ≤ w) : wrap w (2 ^ (w - 1)) = minValue w := by
  unfold wrap minValue
  rw [two_pow_width w hw, show (2:Int) ^ (w - 1) + 2 ^ (w - 1) = 2 * 2 ^ (w - 1) by ring, Int.emod_self]; omega

theorem absChk_ok (w : Nat) (x : Int) (h : x ≠ minValue w) : absChk w x = ok ((x.natAbs : Nat) : Int) := by
  unfold absChk
  rw [if_neg h]
  congr 1
  split <;> omega

theorem pow_cast (k : Nat) : ((2 : Int) ^ k) = ((2 ^ k : Nat) : Int) := by push_cast; rfl

theorem minValue_eq (w : Nat) : minValue w = -((2 ^ (w - 1) : Nat) : Int) := by
  unfold minValue; rw [pow_cast]

theorem inRange_iff (w : Nat) (z : Int) :
    inRange w z ↔ (-((2 ^ (w - 1) : Nat) : Int) ≤ z ∧ z < ((2 ^ (w - 1) : Nat) : Int)) := by
  unfold inRange; rw [pow_cast]

theorem natAbs_lt (w : Nat) (z : Int) (hz : inRange w z) (h : z ≠ minValue w) : z.natAbs < 2 ^ (w - 1) := by
  rw [inRange_iff] at hz; rw [minValue_eq] at h; omega

theorem wrap_id' (w : Nat) (hw : 1 ≤ w) (x : Nat) (h1 : x < 2 ^ (w - 1)) : wrap w (x : Int) = (x : Int) :=
  wrap_id w hw _ (by omega) (by rw [pow_cast]; omega)

theorem absChk_spec (w : Nat) (z : Int) (hz : inRange w z) :
    absChk w z = if z.natAbs = 2 ^ (w - 1) then panic else ok ((z.natAbs : Nat) : Int) := by
  rw [inRange_iff] at hz
  by_cases h : z = minValue w
  · unfold absChk
    rw [if_pos h, if_pos]
    rw [minValue_eq] at h; omega
  · rw [absChk_ok w z h, if_neg]
    rw [minValue_eq] at h
    generalize 2 ^ (w - 1) = P at *
    omega

theorem orZero_spec (w : Nat) (m n : Int) (hm : inRange w m) (hn : inRange w n) (hz : m = 0 ∨ n = 0) :
    inRange w (orZero m n) ∧ (orZero m n).natAbs = Int.gcd m n := by
  unfold orZero
  by_cases h : m = 0
  · subst h; simp [hn]
  · have : n = 0 := by tauto
    subst this; simp [h, hm]

theorem min_tz (w : Nat) (m : Int) (h : m = minValue w) (o : Nat)
    (ho : m.natAbs = 2 ^ trailingZeros w m * o) : trailingZeros w m = w - 1 ∧ o = 1 := by
  have hP := Nat.two_pow_pos (w - 1)
  have hn : m.natAbs = 2 ^ (w - 1) := by
    rw [minValue_eq] at h; omega
  have ht : trailingZeros w m = w - 1 := by
    unfold trailingZeros
    rw [if_neg (by omega), hn, tzNat_pow _ _ (Nat.le_refl _)]
  refine ⟨ht, ?_⟩
  rw [ht, hn] at ho
  have h1 : 2 ^ (w - 1) * 1 = 2 ^ (w - 1) * o := by rw [Nat.mul_one]; exact ho
  have := Nat.eq_of_mul_eq_mul_left hP h1
  omega

/-- an operand is `min_value()`: the code returns `|1 << shift|`; the gcd is that power of two, and the
`.abs()` overflows exactly when it is `2^(w-1)` -/
theorem gcd_min (w : Nat) (m n : Int) (hw : 1 ≤ w) (hm0 : m ≠ 0) (hn0 : n ≠ 0)
    (hmin : m = minValue w ∨ n = minValue w) :
    absChk w (wrap w ((1 : Int) <<< shiftOf w m n))
      = if Int.gcd m n = 2 ^ (w - 1) then panic else ok ((Int.gcd m n : Nat) : Int) := by
  obtain ⟨om, on, hom, hon, hma, hna, hg⟩ := gcd_decomp w m n hm0 hn0
  have hs : shiftOf w m n ≤ w - 1 ∧ Nat.gcd om on = 1 := by
    rcases hmin with h | h
    · obtain ⟨h1, rfl⟩ := min_tz w m h om hma
      exact ⟨by unfold shiftOf; omega, Nat.gcd_one_left _⟩
    · obtain ⟨h1, rfl⟩ := min_tz w n h on hna
      exact ⟨by unfold shiftOf; omega, Nat.gcd_one_right _⟩
  rw [hs.2, Nat.mul_one] at hg
  rw [hg, Int.shiftLeft_eq, Int.one_mul]
  generalize shiftOf w m n = s at hs ⊢
  by_cases hsw : s = w - 1
  · subst hsw
    rw [wrap_min w hw, if_pos rfl]
    unfold absChk; rw [if_pos rfl]
  · have hlt : 2 ^ s < 2 ^ (w - 1) := Nat.pow_lt_pow_right (by decide) (by omega)
    have hne : ((2 ^ s : Nat) : Int) ≠ minValue w := by
      rw [minValue_eq]
      generalize 2 ^ s = S at *
      generalize 2 ^ (w - 1) = P at *
      omega
    rw [pow_cast s, wrap_id' w hw _ hlt, if_neg (by omega), absChk_ok w _ hne, Int.natAbs_natCast]

/-- no operand is `0` or `min_value()`: Stein's algorithm on the odd parts, shifted back -/
theorem gcd_main (w fuel : Nat) (m n : Int) (hw : 1 ≤ w) (hm : inRange w m) (hn : inRange w n)
    (hf : 2 * w ≤ fuel) (hm0 : m ≠ 0) (hn0 : n ≠ 0) (hmm : m ≠ minValue w) (hnm : n ≠ minValue w) :
    (do
      let m' ← absChk w m
      let n' ← absChk w n
      let g ← steinLoop w fuel (m' >>> trailingZeros w m') (n' >>> trailingZeros w n')
      ok (wrap w (g <<< shiftOf w m n)))
      = if Int.gcd m n = 2 ^ (w - 1) then panic else ok ((Int.gcd m n : Nat) : Int) := by
  obtain ⟨om, on, hom, hon, hma, hna, hg⟩ := gcd_decomp w m n hm0 hn0
  have hmb := natAbs_lt w m hm hmm
  have hnb := natAbs_lt w n hn hnm
  have hob : om < 2 ^ (w - 1) := by
    have := Nat.le_mul_of_pos_left om (Nat.two_pow_pos (trailingZeros w m)); omega
  have hnb' : on < 2 ^ (w - 1) := by
    have := Nat.le_mul_of_pos_left on (Nat.two_pow_pos (trailingZeros w n)); omega
  have hle : Int.gcd m n ≤ m.natAbs := Nat.gcd_le_left _ (Int.natAbs_pos.2 hm0)
  have e : ((Nat.gcd om on : Nat) : Int) * 2 ^ shiftOf w m n = ((Int.gcd m n : Nat) : Int) := by
    rw [hg]; push_cast; ring
  rw [absChk_ok w m hmm, absChk_ok w n hnm, Res.bind_ok, Res.bind_ok, abs_shift w m hm0 om hma,
    abs_shift w n hn0 on hna, steinLoop_nat w fuel (w - 1) (w - 1) om on hom hon hob hnb' (by omega),
    Res.bind_ok, if_neg (by omega), Int.shiftLeft_eq, e, wrap_id' w hw _ (by omega)]

theorem gcd_spec (w fuel : Nat) (m n : Int) (hw : 1 ≤ w) (hm : inRange w m) (hn : inRange w n)
    (hf : 2 * w ≤ fuel) :
    gcd w fuel m n = if Int.gcd m n = 2 ^ (w - 1) then panic else ok ((Int.gcd m n : Nat) : Int) := by
  unfold gcd
  by_cases hz : m = 0 ∨ n = 0
  · rw [if_pos hz]
    obtain ⟨h1, h2⟩ := orZero_spec w m n hm hn hz
    rw [absChk_spec w _ h1, h2]
  · rw [if_neg hz]
    have hm0 : m ≠ 0 := fun h => hz (Or.inl h)
    have hn0 : n ≠ 0 := fun h => hz (Or.inr h)
    by_cases hmin : m = minValue w ∨ n = minValue w
    · rw [if_pos hmin]
      exact gcd_min w m n hw hm0 hn0 hmin
    · rw [if_neg hmin]
      exact gcd_main w fuel m n hw hm hn hf hm0 hn0 (fun h => hmin (Or.inl h)) (fun h => hmin (Or.inr h))

theorem xgcd_step (a b : Int) (h : b ≠ 0) : (a - a.tdiv b * b).natAbs < b.natAbs := by
  have h2 : a - a.tdiv b * b = a.tmod b := by rw [Int.tmod_def, Int.mul_comm]
  rw [h2, Int.natAbs_tmod]; exact Nat.mod_lt _ (by omega)

theorem xgcdLoop_conv (r s t : Int × Int) :
    Res.Conv (fun fuel => xgcdLoop fuel r s t) (r.1.natAbs + 1) (fun x =>
      x.1.1 = 0 ∧ Int.gcd x.1.1 x.1.2 = Int.gcd r.1 r.2 ∧ (0 ≤ r.1 → 0 ≤ r.2 → 0 ≤ x.1.2) ∧
      ∀ m n : Int, r.1 = s.1 * m + t.1 * n → r.2 = s.2 * m + t.2 * n → x.1.2 = x.2.1.2 * m + x.2.2.2 * n) := by
  generalize hk : r.1.natAbs = k
  induction k using Nat.strong_induction_on generalizing r s t with
  | _ k ih =>
    refine Res.Conv.succ (G := fun fuel => if r.1 = 0 then ok (r, s, t) else
      xgcdLoop fuel (r.2 - r.2.tdiv r.1 * r.1, r.1) (s.2 - r.2.tdiv r.1 * s.1, s.1) (t.2 - r.2.tdiv r.1 * t.1, t.1))
      rfl (fun fuel => by rw [xgcdLoop]) ?_
    by_cases h0 : r.1 = 0
    · exact Res.Conv.of_eq (fun _ => if_pos h0)
        ((Res.Conv.const rfl ⟨h0, rfl, fun _ h => h, fun m n _ h => h⟩).imp (Nat.zero_le _) fun _ => id)
    · have hlt := xgcd_step r.2 r.1 h0
      refine Res.Conv.of_eq (fun _ => if_neg h0) ((ih _ (by omega) _ _ _ rfl).imp (by omega) ?_)
      rintro x ⟨hz, hg, hn, hb⟩
      refine ⟨hz, ?_, fun h1 h2 => hn ?_ h1, fun m n e1 e2 => hb m n ?_ e1⟩
      · rw [hg]; simp only
        rw [Int.gcd_sub_mul_right_left, Int.gcd_comm]
      · simp only
        have : r.2 - r.2.tdiv r.1 * r.1 = r.2.tmod r.1 := by rw [Int.tmod_def, Int.mul_comm]
        rw [this]; exact Int.tmod_nonneg _ h2
      · simp only; rw [e2, e1]; ring

theorem extendedGcd_spec (fuel : Nat) (m n : Int) (hf : n.natAbs + 1 ≤ fuel) :
    ∃ g x y, extendedGcd fuel m n = ok (g, x, y) ∧ m * x + n * y = g ∧ g = ((Int.gcd m n : Nat) : Int) := by
  obtain ⟨⟨r', s', t'⟩, ⟨hz, hg, -, hb⟩, he⟩ := (xgcdLoop_conv (n, m) (0, 1) (1, 0)).total
  replace he := he fuel hf
  replace hb := hb m n (by simp) (by simp)
  unfold extendedGcd
  rw [he]
  simp only [Res.bind_ok]
  rw [hz, Int.gcd_zero_left] at hg
  simp only at hg
  rw [Int.gcd_comm n m] at hg
  by_cases h : r'.2 ≥ 0
  · rw [if_pos h]
    exact ⟨_, _, _, rfl, by rw [hb]; ring, by omega⟩
  · rw [if_neg h]
    exact ⟨_, _, _, rfl, by rw [hb]; ring, by omega⟩

theorem lcm_value (m n : Int) : (m * n.tdiv ((Int.gcd m n : Nat) : Int)).natAbs = Int.lcm m n := by
  rw [Int.natAbs_mul, Int.natAbs_tdiv, Int.natAbs_natCast]
  show _ = Nat.lcm m.natAbs n.natAbs
  unfold Nat.lcm
  rw [Nat.mul_div_assoc _ (Nat.gcd_dvd_right _ _)]; rfl

/-- the tail of `gcd_lcm` and `extended_gcd_lcm`: the checked product, then `.abs()`, go through exactly when the
magnitude is representable -/
theorem chk_abs_bind {β : Type} (w : Nat) (p : Int) (k : Int → Res β) :
    (chk w p >>= fun p => absChk w p >>= k)
      = if p.natAbs < 2 ^ (w - 1) then k ((p.natAbs : Nat) : Int) else panic := by
  unfold chk
  rw [pow_cast]
  have hP := Nat.two_pow_pos (w - 1)
  by_cases h : p.natAbs < 2 ^ (w - 1)
  · rw [if_pos h, if_pos (by omega), Res.bind_ok, absChk_ok w p (by rw [minValue_eq]; omega), Res.bind_ok]
  · rw [if_neg h]
    by_cases h2 : -((2 ^ (w - 1) : Nat) : Int) ≤ p ∧ p < ((2 ^ (w - 1) : Nat) : Int)
    · rw [if_pos h2, Res.bind_ok]
      unfold absChk
      rw [if_pos (by rw [minValue_eq]; omega)]; rfl
    · rw [if_neg h2]; rfl

theorem gcdLcm_spec (w fuel : Nat) (m n : Int) (hw : 1 ≤ w) (hm : inRange w m) (hn : inRange w n)
    (hf : 2 * w ≤ fuel) :
    gcdLcm w fuel m n = if Int.gcd m n = 2 ^ (w - 1) ∨ 2 ^ (w - 1) ≤ Int.lcm m n then panic
      else ok (((Int.gcd m n : Nat) : Int), ((Int.lcm m n : Nat) : Int)) := by
  unfold gcdLcm
  have hP := Nat.two_pow_pos (w - 1)
  by_cases h0 : m = 0 ∧ n = 0
  · rw [if_pos h0]
    obtain ⟨rfl, rfl⟩ := h0
    rw [if_neg (by simp; omega)]; simp
  · rw [if_neg h0, gcd_spec w fuel m n hw hm hn hf]
    by_cases hg : Int.gcd m n = 2 ^ (w - 1)
    · rw [if_pos hg, if_pos (Or.inl hg)]; rfl
    · rw [if_neg hg, Res.bind_ok, chk_abs_bind, lcm_value]
      by_cases hl : Int.lcm m n < 2 ^ (w - 1)
      · rw [if_pos hl, if_neg (by omega)]
      · rw [if_neg hl, if_pos (Or.inr (by omega))]

theorem lcm_spec (w fuel : Nat) (m n : Int) (hw : 1 ≤ w) (hm : inRange w m) (hn : inRange w n)
    (hf : 2 * w ≤ fuel) :
    lcm w fuel m n = if Int.gcd m n = 2 ^ (w - 1) ∨ 2 ^ (w - 1) ≤ Int.lcm m n then panic
      else ok ((Int.lcm m n : Nat) : Int) := by
  unfold lcm
  rw [gcdLcm_spec w fuel m n hw hm hn hf]
  split <;> rfl

/-- `Model/RustI32` and `Model/C14` carry their own copies of the loop; any function with the loop's two equations is
`xgcdLoop` -/
theorem xgcdLoop_unique (f : Nat → Int × Int → Int × Int → Int × Int → Res ((Int × Int) × (Int × Int) × (Int × Int)))
    (h0 : ∀ r s t, f 0 r s t = err)
    (hs : ∀ fuel r s t, f (fuel + 1) r s t = if r.1 == 0 then ok (r, s, t) else
      f fuel (r.2 - r.2.tdiv r.1 * r.1, r.1) (s.2 - r.2.tdiv r.1 * s.1, s.1) (t.2 - r.2.tdiv r.1 * t.1, t.1)) :
    ∀ (fuel : Nat) (r s t : Int × Int), f fuel r s t = xgcdLoop fuel r s t
  | 0, r, s, t => h0 r s t
  | fuel + 1, r, s, t => by
    rw [hs, xgcdLoop, xgcdLoop_unique f h0 hs fuel]
    simp only [beq_iff_eq]

theorem i32_xgcdLoop_eq (fuel : Nat) (r s t : Int × Int) :
    Yuiv.Rust.I32.xgcdLoop fuel r s t = xgcdLoop fuel r s t :=
  xgcdLoop_unique _ (fun _ _ _ => rfl) (fun _ _ _ _ => rfl) fuel r s t

theorem c14_xgcdLoop_eq (fuel : Nat) (r s t : Int × Int) :
    Yuiv.C14.FF.xgcdLoop fuel r s t = xgcdLoop fuel r s t :=
  xgcdLoop_unique _ (fun _ _ _ => rfl) (fun _ _ _ _ => rfl) fuel r s t

theorem i32_gcdx_eq (x y : Int) : Yuiv.Rust.I32.gcdx x y = extendedGcd (y.natAbs + 2) x y := by
  unfold Yuiv.Rust.I32.gcdx extendedGcd
  rw [i32_xgcdLoop_eq]

theorem c14_gcdx_eq (x y : Int) : Yuiv.C14.FF.gcdx x y = extendedGcd (y.natAbs + 2) x y := by
  unfold Yuiv.C14.FF.gcdx extendedGcd
  rw [c14_xgcdLoop_eq]

theorem c14_gcdx_spec (x y : Int) :
    ∃ s t, Yuiv.C14.FF.gcdx x y = ok (((Int.gcd x y : Nat) : Int), s, t) ∧
      x * s + y * t = ((Int.gcd x y : Nat) : Int) := by
  obtain ⟨g, s, t, he, hb, rfl⟩ := extendedGcd_spec (y.natAbs + 2) x y (by omega)
  exact ⟨s, t, by rw [c14_gcdx_eq, he], hb⟩

/-- the copy of the loop in `Model/C09` is total (on exhausted fuel it returns the current state); where the fuelled
loop returns, it returns the same -/
theorem c09_xgcdLoop_eq : ∀ (fuel : Nat) (r s t : Int × Int) (x : (Int × Int) × (Int × Int) × (Int × Int)),
    xgcdLoop fuel r s t = ok x →
    Yuiv.C09.intXgcdLoop fuel r.1 r.2 s.1 s.2 t.1 t.2 = (x.1.2, x.2.1.2, x.2.2.2)
  | 0, _, _, _, _, h => by cases h
  | fuel + 1, r, s, t, x, h => by
    unfold xgcdLoop at h
    unfold Yuiv.C09.intXgcdLoop
    split at h
    · rename_i h0
      injection h with h; subst h
      rw [if_pos h0]
    · rename_i h0
      rw [if_neg h0]
      exact c09_xgcdLoop_eq fuel _ _ _ x h

theorem c09_gcdx_spec (x y : Int) :
    ∃ s t, Yuiv.C09.intGcdx x y = (((Int.gcd x y : Nat) : Int), s, t) ∧
      x * s + y * t = ((Int.gcd x y : Nat) : Int) := by
  obtain ⟨g, s, t, he, hb, rfl⟩ := extendedGcd_spec (y.natAbs + 1) x y (le_refl _)
  refine ⟨s, t, ?_, hb⟩
  unfold extendedGcd at he
  unfold Yuiv.C09.intGcdx
  cases hl : xgcdLoop (y.natAbs + 1) (y, x) (0, 1) (1, 0) with
  | ok v =>
    rw [hl] at he
    rw [c09_xgcdLoop_eq _ _ _ _ v hl]
    obtain ⟨r, s', t'⟩ := v
    simp only [Res.bind_ok] at he ⊢
    split at he <;> rename_i hs <;> simp only [hs, if_true, if_false] <;> injection he
  | panic => rw [hl] at he; cases he
  | err => rw [hl] at he; cases he

end Yuiv.NumInteger
