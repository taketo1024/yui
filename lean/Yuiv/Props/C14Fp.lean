import Yuiv.Proofs.C14Fp
import Mathlib.Data.Nat.Prime.Basic
import Mathlib.Tactic.NormNum.Prime
/-
C14 — `FF<p>` is a field for EVERY prime `p`.

The model `FF.inv` (Model/C14.lean) follows `ff.rs`: `None` for zero, otherwise the integers' extended gcd
`gcdx(a, p)` (the `num_integer::Integer::extended_gcd` iteration with fuel `|p| + 2`), `assert!(d.is_one())`,
`Self::new(x)`.  `Props/C14.lean` has the partial-correctness half (`ff_inv_sound`) and totality for p ∈ {2,3,5,7}
by evaluation.  Here: for every prime `p` and every canonical representative `0 ≤ a < p` the call never panics,
never runs out of fuel, returns `None` exactly for `a = 0` and otherwise THE inverse `u ∈ [0, p)`, `a·u ≡ 1`;
`a · a⁻¹ = 1` and `a / b = a · b⁻¹` in the model's own `mul`/`div` (which carry the `i32` overflow check, hence
`p ≤ 46340` there); `div` panics exactly at `b = 0`.  For a composite modulus the exact behaviour is stated too
(`assert!` fails exactly on the non-zero non-units).  The commutative-ring identities are stated on the model's
operations themselves for every modulus `1 ≤ p ≤ 46340` (prime or not).
-/
namespace Yuiv.C14
open Yuiv Res

/-- `inv(0) = None` for every modulus (no panic, even for `p ≤ 0`, because `FF::new` is not reached) -/
theorem ff_inv_zero (p : Int) : FF.inv p 0 = ok none := by simp [FF.inv, FF.isZero]

/-- every prime `p`, every non-zero canonical `a`: `inv` returns `Some(u)`, `u` canonical, `a·u ≡ 1 (mod p)` -/
theorem ff_inv_prime (p : Nat) (hp : p.Prime) (a : Int) (ha : 0 < a ∧ a < (p : Int)) :
    ∃ u : Int, FF.inv (p : Int) a = ok (some u) ∧ 0 ≤ u ∧ u < (p : Int) ∧ (a * u) % (p : Int) = 1 := by
  obtain ⟨k, rfl⟩ := Int.eq_ofNat_of_zero_le (Int.le_of_lt ha.1)
  have hk : 0 < k := by omega
  have hkp : k < p := by omega
  obtain ⟨u, e, h0, h1, h2⟩ := ff_inv_of_coprime p k hp.pos hk (Nat.coprime_of_lt_prime hk.ne' hkp hp).symm
  have h1p : (1 : Int) % (p : Int) = 1 := Int.emod_eq_of_lt (by omega) (by have := hp.one_lt; omega)
  exact ⟨u, e, h0, h1, by rw [h2, h1p]⟩
example : Nat.Prime 46337 ∧ (0 : Int) < 12345 ∧ (12345 : Int) < (46337 : Nat) := by
  refine ⟨by norm_num, by decide, by decide⟩

/-- totality and correctness in one statement, as the code reads: for every prime `p` and every canonical `a`
`inv p a = ok (if a = 0 then None else Some u)` with `0 ≤ u < p` and `a·u ≡ 1 (mod p)` -/
theorem ff_inv_total (p : Nat) (hp : p.Prime) (a : Int) (ha : 0 ≤ a ∧ a < (p : Int)) :
    ∃ u : Int, FF.inv (p : Int) a = ok (if a = 0 then none else some u) ∧ 0 ≤ u ∧ u < (p : Int) ∧
      (a ≠ 0 → (a * u) % (p : Int) = 1) := by
  by_cases h0 : a = 0
  · subst h0
    exact ⟨0, by simp [ff_inv_zero], Int.le_refl 0, by have := hp.pos; omega, fun h => absurd rfl h⟩
  · obtain ⟨u, e, h1, h2, h3⟩ := ff_inv_prime p hp a ⟨by omega, ha.2⟩
    exact ⟨u, by rw [if_neg h0]; exact e, h1, h2, fun _ => h3⟩

/-- in particular: on canonical representatives of a prime field `inv` neither panics nor exhausts the loop fuel -/
theorem ff_inv_never_fails (p : Nat) (hp : p.Prime) (a : Int) (ha : 0 ≤ a ∧ a < (p : Int)) :
    FF.inv (p : Int) a ≠ panic ∧ FF.inv (p : Int) a ≠ err := by
  obtain ⟨u, e, _⟩ := ff_inv_total p hp a ha
  rw [e]
  exact ⟨fun h => (by cases h), fun h => (by cases h)⟩

/-- the returned value is determined by the field law: `inv p a = Some(u)` iff `u` is THE canonical solution of
`a·u ≡ 1 (mod p)`.  (So any other algorithm for the inverse — e.g. the search of the C15 model — agrees.) -/
theorem ff_inv_eq_iff (p : Nat) (hp : p.Prime) (a u : Int) (ha : 0 < a ∧ a < (p : Int)) :
    FF.inv (p : Int) a = ok (some u) ↔ (0 ≤ u ∧ u < (p : Int) ∧ (a * u) % (p : Int) = 1) := by
  have h1p : (1 : Int) % (p : Int) = 1 := Int.emod_eq_of_lt (by omega) (by have := hp.one_lt; omega)
  constructor
  · intro h
    obtain ⟨h0, h1, h2⟩ := ff_inv_spec _ _ _ h
    exact ⟨h0, h1, by rw [h2, h1p]⟩
  · rintro ⟨h0, h1, h2⟩
    obtain ⟨v, e, g0, g1, g2⟩ := ff_inv_prime p hp a ha
    have : u = v := inv_unique (p : Int) a u v ⟨h0, h1⟩ ⟨g0, g1⟩ (by rw [h2, h1p]) (by rw [g2, h1p])
    rw [this]; exact e

/-- `is_unit` (`!is_zero`) is exactly invertibility, for every prime -/
theorem ff_isUnit_iff_inv (p : Nat) (hp : p.Prime) (a : Int) (ha : 0 ≤ a ∧ a < (p : Int)) :
    FF.isUnit a = true ↔ ∃ u, FF.inv (p : Int) a = ok (some u) := by
  obtain ⟨u, e, _⟩ := ff_inv_total p hp a ha
  by_cases h0 : a = 0
  · subst h0
    simp [FF.isUnit, FF.isZero, ff_inv_zero]
  · rw [e, if_neg h0]
    simp [FF.isUnit, FF.isZero, h0]

/-- ANY modulus `p ≥ 1` (prime or not), non-zero canonical `a`: `inv` returns the inverse when `gcd(a, p) = 1`
and panics (`assert!(d.is_one())`) otherwise — never `None`, never out of fuel.  For a composite `p` the
`Field` claim of `ff.rs` is false and this is how the code reacts. -/
theorem ff_inv_any_modulus (p k : Nat) (hk : 0 < k) (hkp : k < p) :
    (Nat.gcd k p = 1 → ∃ u : Int, FF.inv (p : Int) (k : Int) = ok (some u) ∧ 0 ≤ u ∧ u < (p : Int) ∧
        ((k : Int) * u) % (p : Int) = 1 % (p : Int)) ∧
    (Nat.gcd k p ≠ 1 → FF.inv (p : Int) (k : Int) = panic) :=
  ⟨fun hc => ff_inv_of_coprime p k (by omega) hk hc, fun hc => ff_inv_of_not_coprime p k hk hc⟩
example : FF.inv 6 5 = ok (some 5) ∧ FF.inv 6 4 = panic := by decide

/-! ## the field law and division (model `mul`/`div` with the `i32` overflow check: `p ≤ 46340`) -/

/-- `a · a⁻¹ = a⁻¹ · a = 1` for every prime `p ≤ 46340` and every non-zero canonical `a` -/
theorem ff_mul_inv_cancel (p : Nat) (hp : p.Prime) (hp32 : p ≤ 46340) (a : Int) (ha : 0 < a ∧ a < (p : Int)) :
    ∃ u : Int, FF.inv (p : Int) a = ok (some u) ∧ FF.mul (p : Int) a u = ok 1 ∧ FF.mul (p : Int) u a = ok 1 := by
  obtain ⟨u, e, h0, h1, h2⟩ := ff_inv_prime p hp a ha
  have hp0 : (0 : Int) < (p : Int) := by have := hp.pos; omega
  have hpb : (p : Int) ≤ 46340 := by omega
  refine ⟨u, e, ?_, ?_⟩
  · rw [ff_mul_ok hp0 hpb ⟨by omega, ha.2⟩ ⟨h0, h1⟩, h2]
  · rw [ff_mul_ok hp0 hpb ⟨h0, h1⟩ ⟨by omega, ha.2⟩, Int.mul_comm, h2]
example : Nat.Prime 46337 ∧ 46337 ≤ 46340 := ⟨by norm_num, by decide⟩

/-- `a / b = a · b⁻¹`: for every prime `p ≤ 46340`, canonical `a` and non-zero canonical `b` the quotient is
`ok c` with `c = a · inv(b)` (the model's `mul`), `c` canonical, and `c · b = a` -/
theorem ff_div_spec (p : Nat) (hp : p.Prime) (hp32 : p ≤ 46340) (a b : Int)
    (ha : 0 ≤ a ∧ a < (p : Int)) (hb : 0 < b ∧ b < (p : Int)) :
    ∃ u c : Int, FF.inv (p : Int) b = ok (some u) ∧ FF.mul (p : Int) a u = ok c ∧ FF.div (p : Int) a b = ok c ∧
      0 ≤ c ∧ c < (p : Int) ∧ FF.mul (p : Int) c b = ok a := by
  obtain ⟨u, e, h0, h1, h2⟩ := ff_inv_prime p hp b hb
  have hp0 : (0 : Int) < (p : Int) := by have := hp.pos; omega
  have hpb : (p : Int) ≤ 46340 := by omega
  have hm := ff_mul_ok hp0 hpb ha ⟨h0, h1⟩
  have hr := emod_range (p : Int) (a * u) hp0
  have hz : FF.isZero b = false := by simp only [FF.isZero, beq_eq_false_iff_ne, ne_eq]; omega
  refine ⟨u, (a * u) % (p : Int), e, hm, ?_, hr.1, hr.2, ?_⟩
  · unfold FF.div
    rw [hz, e]
    simpa [Res.assert] using hm
  · rw [ff_mul_ok hp0 hpb hr ⟨by omega, hb.2⟩, Int.mul_emod, Int.emod_emod, ← Int.mul_emod,
      Int.mul_assoc, Int.mul_comm u b, Int.mul_emod, h2, Int.mul_one, Int.emod_emod,
      Int.emod_eq_of_lt ha.1 ha.2]

/-- division by zero panics (`assert!(!rhs.is_zero())`), for every modulus and every dividend -/
theorem ff_div_zero (p a : Int) : FF.div p a 0 = panic := by
  simp [FF.div, FF.isZero, Res.assert]

/-- `div` panics EXACTLY at `b = 0` (prime `p ≤ 46340`, canonical operands), and never runs out of fuel -/
theorem ff_div_panic_iff (p : Nat) (hp : p.Prime) (hp32 : p ≤ 46340) (a b : Int)
    (ha : 0 ≤ a ∧ a < (p : Int)) (hb : 0 ≤ b ∧ b < (p : Int)) :
    (FF.div (p : Int) a b = panic ↔ b = 0) ∧ FF.div (p : Int) a b ≠ err := by
  by_cases h0 : b = 0
  · subst h0
    rw [ff_div_zero]
    exact ⟨⟨fun _ => rfl, fun _ => rfl⟩, fun h => (by cases h)⟩
  · obtain ⟨u, c, _, _, e, _⟩ := ff_div_spec p hp hp32 a b ha ⟨by omega, hb.2⟩
    rw [e]
    exact ⟨⟨fun h => (by cases h), fun h => absurd h h0⟩, fun h => (by cases h)⟩

/-- the bound on `p` in the `mul`/`div` theorems is about the `i32` representative, not about the proofs: for the
prime `p = 46349` (the smallest prime above √(2³¹)) the product of two canonical representatives overflows
`i32` before the reduction and the operator panics under overflow checks, while `inv` is still fine -/
theorem ff_mul_overflow_beyond_bound :
    Nat.Prime 46349 ∧ FF.mul 46349 46348 46348 = panic ∧ FF.inv 46349 46348 = ok (some 46348) := by
  refine ⟨by norm_num, by decide, by decide⟩

/-- the Euclidean-ring model of C15 (`Model/C15.lean`, `FF.inv p a` = first `x < p` with `a·x ≡ 1`, found by
search) returns the same residue as this extended-gcd model of `ff.rs`, for every prime `p` and every canonical
`a` — the field-level theorems of `Props/C15Fields` are therefore about the value the code computes -/
theorem ff_inv_eq_c15_model (p : Nat) (hp : p.Prime) (k : Nat) (hk : k < p) :
    FF.inv (p : Int) (k : Int) = ok ((Yuiv.C15.FF.inv p k).map (fun u : Nat => (u : Int))) := by
  by_cases h0 : k = 0
  · subst h0
    rw [Yuiv.C15.FF.inv_zero]; exact ff_inv_zero _
  · obtain ⟨u, e, u0, u1, u2⟩ := ff_inv_prime p hp (k : Int) ⟨by omega, by omega⟩
    obtain ⟨w, rfl⟩ := Int.eq_ofNat_of_zero_le u0
    have hkw : (k * w) % p = 1 := by
      have : (((k * w) % p : Nat) : Int) = ((1 : Nat) : Int) := by push_cast; exact u2
      exact_mod_cast this
    rw [c15_inv_of_unique p k w h0 (by omega) hp.two_le hkw, e]
    rfl
example : Yuiv.C15.FF.inv 7 3 = some 5 ∧ FF.inv 7 3 = ok (some 5) := by decide

/-! ## the commutative-ring identities on the model's own operations, every modulus `1 ≤ p ≤ 46340` -/

/-- for canonical `a b c` and ANY modulus `1 ≤ p ≤ 46340` (prime or not) all operations return `ok` and satisfy
the commutative-ring axioms identically (sequenced with the `Res` bind, i.e. including "no panic").
`One::one()` is the raw `FF(1)`, canonical only for `p ≥ 2`, hence the hypothesis of the unit law. -/
theorem ff_ring_axioms (p a b c : Int) (hp0 : 0 < p) (hp : p ≤ 46340)
    (ha : 0 ≤ a ∧ a < p) (hb : 0 ≤ b ∧ b < p) (hc : 0 ≤ c ∧ c < p) :
    FF.add p a b = FF.add p b a ∧
    (FF.add p a b >>= fun s => FF.add p s c) = (FF.add p b c >>= fun s => FF.add p a s) ∧
    FF.add p a 0 = ok a ∧
    (FF.neg p a >>= fun n => FF.add p a n) = ok 0 ∧
    FF.sub p a b = (FF.neg p b >>= fun n => FF.add p a n) ∧
    FF.mul p a b = FF.mul p b a ∧
    (FF.mul p a b >>= fun s => FF.mul p s c) = (FF.mul p b c >>= fun s => FF.mul p a s) ∧
    (2 ≤ p → FF.mul p a 1 = ok a) ∧
    (FF.add p b c >>= fun s => FF.mul p a s) =
      (FF.mul p a b >>= fun x => FF.mul p a c >>= fun y => FF.add p x y) := by
  have er := fun x => emod_range p x hp0
  have h0 : (0 : Int) ≤ 0 ∧ (0 : Int) < p := ⟨Int.le_refl 0, hp0⟩
  refine ⟨?_, ?_, ?_, ?_, ?_, ?_, ?_, ?_, ?_⟩
  · rw [ff_add_ok hp0 hp ha hb, ff_add_ok hp0 hp hb ha, Int.add_comm]
  · rw [ff_add_ok hp0 hp ha hb, ff_add_ok hp0 hp hb hc]
    simp only [Res.bind_ok]
    rw [ff_add_ok hp0 hp (er _) hc, ff_add_ok hp0 hp ha (er _), Int.emod_add_emod, Int.add_emod_emod,
      Int.add_assoc]
  · rw [ff_add_ok hp0 hp ha h0, Int.add_zero, Int.emod_eq_of_lt ha.1 ha.2]
  · rw [ff_neg_ok hp0 hp ha]
    simp only [Res.bind_ok]
    rw [ff_add_ok hp0 hp ha (er _), Int.add_emod_emod, Int.add_right_neg, Int.zero_emod]
  · rw [ff_sub_ok hp0 hp ha hb, ff_neg_ok hp0 hp hb]
    simp only [Res.bind_ok]
    rw [ff_add_ok hp0 hp ha (er _), Int.add_emod_emod, Int.sub_eq_add_neg]
  · rw [ff_mul_ok hp0 hp ha hb, ff_mul_ok hp0 hp hb ha, Int.mul_comm]
  · rw [ff_mul_ok hp0 hp ha hb, ff_mul_ok hp0 hp hb hc]
    simp only [Res.bind_ok]
    rw [ff_mul_ok hp0 hp (er _) hc, ff_mul_ok hp0 hp ha (er _), emod_mul_emod', mul_emod_emod', Int.mul_assoc]
  · intro h2
    rw [ff_mul_ok hp0 hp ha ⟨by omega, by omega⟩, Int.mul_one, Int.emod_eq_of_lt ha.1 ha.2]
  · rw [ff_add_ok hp0 hp hb hc, ff_mul_ok hp0 hp ha hb, ff_mul_ok hp0 hp ha hc]
    simp only [Res.bind_ok]
    rw [ff_mul_ok hp0 hp ha (er _), ff_add_ok hp0 hp (er _) (er _), ← Int.add_emod,
      mul_emod_emod', Int.mul_add]
example : FF.add 46340 46339 46339 = ok 46338 ∧ FF.mul 46340 46339 46339 = ok 1 := by decide

end Yuiv.C14
