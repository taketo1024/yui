import Yuiv.Proofs.C10GSData
/-
C10 — `gs_bookkeeping`: the fields `det` / `lambda` of the model state against the integral Gram–Schmidt data of
`Proofs/C10GSData.lean`.  Model indexing (`LLLData`): `det[i] = d_{i+1}`, `lambda[i][j] = det[j]·μ_{i,j}`.
The invariant is stated for the rows of ANY matrix `R` that undergoes the same row operations (`Data.BookOf`), so that LLL
mode (`R = target`) and Hermite mode (`R = p`) share it.
-/
namespace Yuiv.C10
open Yuiv Res Finset

/-- the bookkeeping invariant of `LLLData` in LLL mode: `det`/`lambda` are the integral Gram–Schmidt data of the
current rows of `target` -/
def Data.Book (d : Data) : Prop :=
  d.det.size = d.tr.m ∧
  ∃ bs mu : Nat → Nat → ℚ,
    IsGSData d.tr.m d.tr.n (ent d.tr.target) bs mu (fun i => d.det.getD i 0) (ent d.lam)

/-- `det`/`lambda` are the integral Gram–Schmidt data of the rows of the `m × n` matrix `R`.  `Data.Book` is the case
`R = target`; Hermite mode keeps the case `R = p` (`Data.BookP`). -/
def Data.BookOf (d : Data) (n : Nat) (R : Mat) : Prop :=
  d.det.size = d.tr.m ∧
  ∃ bs mu : Nat → Nat → ℚ, IsGSData d.tr.m n (ent R) bs mu (fun i => d.det.getD i 0) (ent d.lam)

theorem Data.BookOf.dv_pos {d : Data} {n : Nat} {R : Mat} (hB : d.BookOf n R) {i : Nat} (hi : i < d.tr.m) :
    0 < d.dv i := by
  obtain ⟨_, bs, mu, hD⟩ := hB
  have h2 := hD.gs.gsP_pos (i + 1) (by omega)
  rw [← hD.det_eq i hi] at h2
  exact_mod_cast h2

theorem Data.RowAdd.bookOf {d d' : Data} {i k : Nat} {r : Int} (hS : d.RowAdd d' i k r) (hik : i < k)
    (hk : k < d.tr.m) {n : Nat} {R R' : Mat}
    (hR : ∀ a < d.tr.m, ∀ c < n, ent R' a c = if a = k then ent R a c + ent R i c * r else ent R a c)
    (hB : d.BookOf n R) : d'.BookOf n R' := by
  obtain ⟨hsz, bs, mu, hD⟩ := hB
  refine ⟨by rw [hS.det, hS.tr.m]; exact hsz, bs, addMu mu i k r, ?_⟩
  rw [hS.tr.m, hS.det]
  exact addgs_data d.tr.m n (ent R) (ent R') bs mu _ (ent d.lam) (ent d'.lam) i k r hik hk hD hR
    (fun a ha b hb => hS.lam a ha b (lt_trans hb ha))

theorem Data.RowAdd.book {d d' : Data} {i k : Nat} {r : Int} (hS : d.RowAdd d' i k r) (hik : i < k)
    (hk : k < d.tr.m) (hB : d.Book) : d'.Book := by
  have := hS.bookOf hik hk hS.tr.target hB
  rw [← hS.tr.n] at this
  exact this

theorem Data.addRowTo_book (d d' : Data) (i k : Nat) (r : Int) (h : d.addRowTo i k r = ok d') (hB : d.Book) :
    d'.Book := by
  obtain ⟨hik, hk, _, _, hS⟩ := Data.addRowTo_spec h
  exact hS.book hik hk hB

theorem Data.RowMul.bookOf {d d' : Data} {i : Nat} {u : Int} (hS : d.RowMul d' i u) (hu : u = 1 ∨ u = -1)
    {n : Nat} {R R' : Mat} (hR : ∀ a < d.tr.m, ∀ c < n, ent R' a c = if a = i then ent R a c * u else ent R a c)
    (hB : d.BookOf n R) : d'.BookOf n R' := by
  obtain ⟨hsz, bs, mu, hD⟩ := hB
  have huu : u * u = 1 := by rcases hu with rfl | rfl <;> rfl
  refine ⟨by rw [hS.det, hS.tr.m]; exact hsz, mulBs bs i u, mulMu mu i u, ?_⟩
  rw [hS.tr.m, hS.det]
  exact mulgs_data d.tr.m n (ent R) (ent R') bs mu _ (ent d.lam) (ent d'.lam) i u huu hD hR
    (fun a ha b hb => hS.lam a ha b (lt_trans hb ha))

theorem Data.mulRow_book (d d' : Data) (i : Nat) (u : Int) (h : d.mulRow i u = ok d') (hB : d.Book) :
    d'.Book := by
  obtain ⟨hu, _, _, hS⟩ := Data.mulRow_spec h
  have := hS.bookOf hu hS.tr.target hB
  rw [← hS.tr.n] at this
  exact this

/-! ### `orthogonalize` (Cohen, Algorithm 2.6.7 style: all divisions are exact) -/

theorem orth_foldl_range_inv {σ : Type} (f : Res σ → Nat → Res σ) (Inv : Nat → σ → Prop) :
    ∀ (N : Nat) (s0 : σ), Inv 0 s0 → (∀ j < N, ∀ s, Inv j s → ∃ s', f (ok s) j = ok s' ∧ Inv (j+1) s') →
      ∃ s, (List.range N).foldl f (ok s0) = ok s ∧ Inv N s := by
  intro N
  induction N with
  | zero => intro s0 h0 _; exact ⟨s0, rfl, h0⟩
  | succ N ih =>
    intro s0 h0 hstep
    obtain ⟨s, hs, hI⟩ := ih s0 h0 (fun j hj s hs => hstep j (by omega) s hs)
    obtain ⟨s', hs', hI'⟩ := hstep N (by omega) s hI
    refine ⟨s', ?_, hI'⟩
    rw [List.range_succ, List.foldl_append, hs]
    exact hs'

def orth_innerStep (m n : Nat) (b : Mat) (d : Array Int) (i : Nat) (acc2 : Res (Mat × Mat)) (j : Nat) :
    Res (Mat × Mat) := do
  let (c, l) ← acc2
  let l0 := dotRow n (ent b i) (ent c j)
  let dd0 := if j > 0 then d.getD (j - 1) 0 else 1
  let dd1 := d.getD j 0
  Res.assert (dd0 != 0)   -- division by zero below
  let c' := mkMat m n fun r col =>
    if r = i then (ent c i col * dd1 - ent c j col * l0).tdiv dd0 else ent c r col
  let l' := mkMat m m fun r col => if r = i ∧ col = j then l0 else ent l r col
  pure (c', l')

def orth_outerStep (m n : Nat) (b : Mat) (acc : Res (Mat × Mat × Array Int)) (i' : Nat) :
    Res (Mat × Mat × Array Int) := do
  let (c, l, d) ← acc
  let i := i' + 1
  let inner : Res (Mat × Mat) := (List.range i).foldl (init := pure (c, l)) (orth_innerStep m n b d i)
  let (c, l) ← inner
  let di ← idiv (dotRow n (ent c i) (ent c i)) (d.getD (i - 1) 0)
  pure (c, l, d.set! i di)

theorem orth_unfold (m n : Nat) (b : Mat) :
    orthogonalize m n b =
      (Res.assert (m != 0) >>= fun _ =>
        (List.range (m - 1)).foldl (orth_outerStep m n b)
          (ok (mkMat m n (ent b), zeroMat m m,
            (Array.replicate m 1).set! 0 (dotRow n (ent b 0) (ent b 0)))) >>= fun r =>
        ok (r.2.1, r.2.2)) := rfl

theorem orth_innerStep_ok (m n : Nat) (b : Mat) (d : Array Int) (i : Nat) (c l : Mat) (j : Nat)
    (hdd : (if j > 0 then d.getD (j - 1) 0 else 1) ≠ 0) :
    orth_innerStep m n b d i (ok (c, l)) j =
      ok (mkMat m n fun r col =>
            if r = i then (ent c i col * d.getD j 0 - ent c j col * dotRow n (ent b i) (ent c j)).tdiv
              (if j > 0 then d.getD (j - 1) 0 else 1) else ent c r col,
          mkMat m m fun r col => if r = i ∧ col = j then dotRow n (ent b i) (ent c j) else ent l r col) := by
  show (Res.assert ((if j > 0 then d.getD (j - 1) 0 else 1) != 0) >>= fun _ => _) = _
  have : ((if j > 0 then d.getD (j - 1) 0 else 1) != 0) = true := by simpa using hdd
  rw [this]
  rfl

theorem orth_outerStep_ok (m n : Nat) (b : Mat) (c l : Mat) (d : Array Int) (i' : Nat) (c' l' : Mat)
    (hin : (List.range (i' + 1)).foldl (orth_innerStep m n b d (i' + 1)) (ok (c, l)) = ok (c', l'))
    (hd : d.getD i' 0 ≠ 0) :
    orth_outerStep m n b (ok (c, l, d)) i' =
      ok (c', l', d.set! (i' + 1) ((dotRow n (ent c' (i' + 1)) (ent c' (i' + 1))).tdiv (d.getD i' 0))) := by
  show ((List.range (i' + 1)).foldl (orth_innerStep m n b d (i' + 1)) (ok (c, l)) >>= fun x => _) = _
  rw [hin]
  show (idiv _ (d.getD (i' + 1 - 1) 0) >>= fun di => _) = _
  rw [Nat.add_sub_cancel]
  unfold idiv
  rw [if_neg hd]
  rfl

/-- invariant of the inner loop (row `i`, before step `j`); `(c0, l0)` is the state at loop entry -/
structure orth_InnerInv (m n : Nat) (b : Mat) (bs mu : Nat → Nat → ℚ) (i : Nat) (c0 l0 : Mat) (j : Nat)
    (s : Mat × Mat) : Prop where
  cother : ∀ r < m, r ≠ i → ∀ col < n, ent s.1 r col = ent c0 r col
  crow : ∀ col < n, (ent s.1 i col : ℚ) = gsP n bs j * ((ent b i col : ℚ) - ∑ t ∈ range j, mu i t * bs t col)
  lrow : ∀ t < j, (ent s.2 i t : ℚ) = gsP n bs (t + 1) * mu i t
  lother : ∀ r < m, r ≠ i → ∀ t < m, ent s.2 r t = ent l0 r t

structure orth_OuterInv (m n : Nat) (b : Mat) (bs mu : Nat → Nat → ℚ) (i : Nat)
    (s : Mat × Mat × Array Int) : Prop where
  size : s.2.2.size = m
  dval : ∀ r < i, (s.2.2.getD r 0 : ℚ) = gsP n bs (r + 1)
  clow : ∀ r < i, ∀ col < n, (ent s.1 r col : ℚ) = gsP n bs r * bs r col
  chigh : ∀ r, i ≤ r → r < m → ∀ col < n, ent s.1 r col = ent b r col
  lval : ∀ r < i, ∀ t < r, (ent s.2.1 r t : ℚ) = gsP n bs (t + 1) * mu r t

/-- `l0 = dot(b_i, c_j) = D_{j+1}·μ_ij` -/
theorem orth_l0 {m n : Nat} {b : Mat} {bs mu : Nat → Nat → ℚ} (h : IsGS m n (ent b) bs mu) {i j : Nat}
    (hi : i < m) (hj : j < i) (c : Mat) (hc : ∀ col < n, (ent c j col : ℚ) = gsP n bs j * bs j col) :
    ((dotRow n (ent b i) (ent c j) : ℤ) : ℚ) = gsP n bs (j + 1) * mu i j := by
  unfold dotRow
  rw [sumLt_eq, Int.cast_sum]
  have e : ∀ col ∈ range n, ((ent b i col * ent c j col : ℤ) : ℚ) = gsP n bs j * ((ent b i col : ℚ) * bs j col) := by
    intro col hcol
    rw [Int.cast_mul, hc col (mem_range.mp hcol)]
    ring
  rw [Finset.sum_congr rfl e, ← Finset.mul_sum, h.inner_eq hi hj, gsP_succ]
  unfold nrm
  ring

/-- `dd0 = D_j` -/
theorem orth_dd0 {n : Nat} {bs : Nat → Nat → ℚ} (d : Array Int) (i j : Nat) (hj : j < i)
    (hd : ∀ r < i, (d.getD r 0 : ℚ) = gsP n bs (r + 1)) :
    (((if j > 0 then d.getD (j - 1) 0 else 1 : ℤ)) : ℚ) = gsP n bs j := by
  by_cases h0 : j > 0
  · rw [if_pos h0, hd (j - 1) (by omega)]
    congr 1
    omega
  · have : j = 0 := by omega
    subst this
    simp [gsP_zero]

theorem orth_inner_tdiv {m n : Nat} {b : Mat} {bs mu : Nat → Nat → ℚ} (h : IsGS m n (ent b) bs mu) {i j : Nat}
    (hi : i < m) (hj : j < i) {col : Nat} (hcol : col < n) (ci cj l0 dd0 dd1 : ℤ)
    (hci : (ci : ℚ) = gsP n bs j * ((ent b i col : ℚ) - ∑ t ∈ range j, mu i t * bs t col))
    (hcj : (cj : ℚ) = gsP n bs j * bs j col)
    (hl0 : (l0 : ℚ) = gsP n bs (j + 1) * mu i j)
    (hdd0 : (dd0 : ℚ) = gsP n bs j) (hdd1 : (dd1 : ℚ) = gsP n bs (j + 1)) :
    (((ci * dd1 - cj * l0).tdiv dd0 : ℤ) : ℚ)
      = gsP n bs (j + 1) * ((ent b i col : ℚ) - ∑ t ∈ range (j + 1), mu i t * bs t col) := by
  refine tdiv_cast_eq (ne_zero_of_cast_pos hdd0 (h.gsP_pos j (by omega))) (h.int_V i hi (j + 1) (by omega) col hcol) ?_
  rw [Int.cast_sub, Int.cast_mul, Int.cast_mul, hci, hcj, hl0, hdd0, hdd1, Finset.sum_range_succ]
  ring

theorem orth_inner_step {m n : Nat} {b : Mat} {bs mu : Nat → Nat → ℚ} (h : IsGS m n (ent b) bs mu)
    {i : Nat} (hi : i < m) (c0 l0 : Mat) (d : Array Int)
    (hd : ∀ r < i, (d.getD r 0 : ℚ) = gsP n bs (r + 1))
    (hc0 : ∀ r < i, ∀ col < n, (ent c0 r col : ℚ) = gsP n bs r * bs r col)
    (j : Nat) (hj : j < i) (s : Mat × Mat) (hs : orth_InnerInv m n b bs mu i c0 l0 j s) :
    ∃ s', orth_innerStep m n b d i (ok s) j = ok s' ∧ orth_InnerInv m n b bs mu i c0 l0 (j + 1) s' := by
  obtain ⟨c, l⟩ := s
  have hdd0 := orth_dd0 (n := n) (bs := bs) d i j hj hd
  have hpos : 0 < gsP n bs j := h.gsP_pos j (by omega)
  have hne : (if j > 0 then d.getD (j - 1) 0 else 1 : ℤ) ≠ 0 := ne_zero_of_cast_pos hdd0 hpos
  have hji : j ≠ i := by omega
  have hjm : j < m := by omega
  have hcj : ∀ col < n, (ent c j col : ℚ) = gsP n bs j * bs j col := by
    intro col hcol
    have := hs.cother j hjm hji col hcol
    simp only at this
    rw [this, hc0 j hj col hcol]
  have hl0 := orth_l0 h hi hj c hcj
  refine ⟨_, orth_innerStep_ok m n b d i c l j hne, ?_, ?_, ?_, ?_⟩
  · intro r hr hri col hcol
    dsimp only
    rw [ent_mkMat _ hr hcol, if_neg hri]
    exact hs.cother r hr hri col hcol
  · intro col hcol
    dsimp only
    rw [ent_mkMat _ hi hcol, if_pos rfl]
    exact orth_inner_tdiv h hi hj hcol _ _ _ _ _ (hs.crow col hcol) (hcj col hcol) hl0 hdd0 (hd j hj)
  · intro t ht
    dsimp only
    rw [ent_mkMat _ hi (by omega)]
    by_cases htj : t = j
    · rw [if_pos ⟨rfl, htj⟩, hl0, htj]
    · rw [if_neg (fun e => htj e.2)]
      exact hs.lrow t (by omega)
  · intro r hr hri t ht
    dsimp only
    rw [ent_mkMat _ hr ht, if_neg (fun e => hri e.1)]
    exact hs.lother r hr hri t ht

theorem orth_inner_loop {m n : Nat} {b : Mat} {bs mu : Nat → Nat → ℚ} (h : IsGS m n (ent b) bs mu)
    {i : Nat} (hi : i < m) (c0 l0 : Mat) (d : Array Int)
    (hd : ∀ r < i, (d.getD r 0 : ℚ) = gsP n bs (r + 1))
    (hc0 : ∀ r < i, ∀ col < n, (ent c0 r col : ℚ) = gsP n bs r * bs r col)
    (hci : ∀ col < n, ent c0 i col = ent b i col) :
    ∃ s, (List.range i).foldl (orth_innerStep m n b d i) (ok (c0, l0)) = ok s ∧
      orth_InnerInv m n b bs mu i c0 l0 i s := by
  refine orth_foldl_range_inv (orth_innerStep m n b d i) (orth_InnerInv m n b bs mu i c0 l0) i (c0, l0) ?_ ?_
  · refine ⟨fun _ _ _ _ _ => rfl, ?_, fun t ht => absurd ht (Nat.not_lt_zero t), fun _ _ _ _ _ => rfl⟩
    intro col hcol
    show ((ent c0 i col : ℤ) : ℚ) = _
    rw [hci col hcol, gsP_zero]
    simp
  · intro j hj s hs
    exact orth_inner_step h hi c0 l0 d hd hc0 j hj s hs

/-- `dot(c_i, c_i) / d[i-1] = D_{i+1}` -/
theorem orth_di {m n : Nat} {b : Mat} {bs mu : Nat → Nat → ℚ} (h : IsGS m n (ent b) bs mu)
    {i : Nat} (hi : i < m) (c : Mat) (dprev : ℤ)
    (hc : ∀ col < n, (ent c i col : ℚ) = gsP n bs i * bs i col)
    (hdp : (dprev : ℚ) = gsP n bs i) :
    (((dotRow n (ent c i) (ent c i)).tdiv dprev : ℤ) : ℚ) = gsP n bs (i + 1) := by
  refine tdiv_cast_eq (ne_zero_of_cast_pos hdp (h.gsP_pos i (by omega))) (h.int_D (i + 1) (by omega)) ?_
  unfold dotRow
  rw [sumLt_eq, Int.cast_sum]
  have e : ∀ col ∈ range n, ((ent c i col * ent c i col : ℤ) : ℚ)
      = gsP n bs i * gsP n bs i * (bs i col * bs i col) := by
    intro col hcol
    rw [Int.cast_mul, hc col (mem_range.mp hcol)]
    ring
  rw [Finset.sum_congr rfl e, ← Finset.mul_sum, hdp, gsP_succ]
  unfold nrm
  ring

theorem orth_outer_step {m n : Nat} {b : Mat} {bs mu : Nat → Nat → ℚ} (h : IsGS m n (ent b) bs mu)
    (i' : Nat) (hi : i' + 1 < m) (s : Mat × Mat × Array Int) (hs : orth_OuterInv m n b bs mu (i' + 1) s) :
    ∃ s', orth_outerStep m n b (ok s) i' = ok s' ∧ orth_OuterInv m n b bs mu (i' + 1 + 1) s' := by
  obtain ⟨c, l, d⟩ := s
  have hsize : d.size = m := hs.size
  have hd : ∀ r < i' + 1, (d.getD r 0 : ℚ) = gsP n bs (r + 1) := hs.dval
  obtain ⟨⟨c', l'⟩, hin, hI⟩ := orth_inner_loop h hi c l d hd hs.clow
    (fun col hcol => hs.chigh (i' + 1) (le_refl _) hi col hcol)
  have hdp : (d.getD i' 0 : ℚ) = gsP n bs (i' + 1) := hd i' (by omega)
  have hpos : 0 < gsP n bs (i' + 1) := h.gsP_pos (i' + 1) (by omega)
  have hne : d.getD i' 0 ≠ 0 := ne_zero_of_cast_pos hdp hpos
  have hrow : ∀ col < n, (ent c' (i' + 1) col : ℚ) = gsP n bs (i' + 1) * bs (i' + 1) col := by
    intro col hcol
    have e1 := hI.crow col hcol
    simp only at e1
    rw [e1, h.decomp (i' + 1) hi col hcol]
    ring
  refine ⟨_, orth_outerStep_ok m n b c l d i' c' l' hin hne, ?_, ?_, ?_, ?_, ?_⟩
  · show (d.set! (i' + 1) _).size = m
    rw [Array.size_set!, hsize]
  · intro r hr
    show (((d.set! (i' + 1) _).getD r 0 : ℤ) : ℚ) = _
    rw [getD_set! d (i' + 1) r _ (by omega)]
    by_cases hri : r = i' + 1
    · rw [if_pos hri, hri]
      exact orth_di h hi c' _ hrow hdp
    · rw [if_neg hri]
      exact hd r (by omega)
  · intro r hr col hcol
    show ((ent c' r col : ℤ) : ℚ) = _
    by_cases hri : r = i' + 1
    · rw [hri]; exact hrow col hcol
    · have := hI.cother r (by omega) hri col hcol
      simp only at this
      rw [this]
      exact hs.clow r (by omega) col hcol
  · intro r hr hrm col hcol
    show ent c' r col = _
    have := hI.cother r hrm (by omega) col hcol
    simp only at this
    rw [this]
    exact hs.chigh r (by omega) hrm col hcol
  · intro r hr t ht
    show ((ent l' r t : ℤ) : ℚ) = _
    by_cases hri : r = i' + 1
    · rw [hri]
      exact hI.lrow t (by omega)
    · have := hI.lother r (by omega) hri t (by omega)
      simp only at this
      rw [this]
      exact hs.lval r (by omega) t ht

theorem orth_init {m n : Nat} {b : Mat} {bs mu : Nat → Nat → ℚ} (h : IsGS m n (ent b) bs mu) (hm : 0 < m) :
    orth_OuterInv m n b bs mu (0 + 1)
      (mkMat m n (ent b), zeroMat m m, (Array.replicate m 1).set! 0 (dotRow n (ent b 0) (ent b 0))) := by
  have hb0 : ∀ col < n, (ent b 0 col : ℚ) = bs 0 col := by
    intro col hcol
    have := h.decomp 0 hm col hcol
    simpa using this
  refine ⟨?_, ?_, ?_, ?_, ?_⟩
  · show ((Array.replicate m (1 : ℤ)).set! 0 _).size = m
    rw [Array.size_set!, Array.size_replicate]
  · intro r hr
    have hr0 : r = 0 := by omega
    subst hr0
    show ((((Array.replicate m (1 : ℤ)).set! 0 _).getD 0 0 : ℤ) : ℚ) = _
    rw [getD_set! _ 0 0 _ (by rw [Array.size_replicate]; exact hm), if_pos rfl]
    unfold dotRow
    rw [sumLt_eq, Int.cast_sum, gsP_succ, gsP_zero, one_mul]
    unfold nrm
    refine Finset.sum_congr rfl (fun col hcol => ?_)
    rw [Int.cast_mul, hb0 col (mem_range.mp hcol)]
  · intro r hr col hcol
    have hr0 : r = 0 := by omega
    subst hr0
    show ((ent (mkMat m n (ent b)) 0 col : ℤ) : ℚ) = _
    rw [ent_mkMat _ hm hcol, hb0 col hcol, gsP_zero, one_mul]
  · intro r _ hrm col hcol
    show ent (mkMat m n (ent b)) r col = _
    rw [ent_mkMat _ hrm hcol]
  · intro r hr t ht
    omega

theorem orthogonalize_spec' (m n : Nat) (b : Mat) (bs mu : Nat → Nat → ℚ) (hm : 0 < m)
    (h : IsGS m n (ent b) bs mu) :
    ∃ (l : Mat) (dd : Array Int), orthogonalize m n b = ok (l, dd) ∧ dd.size = m ∧
      IsGSData m n (ent b) bs mu (fun i => dd.getD i 0) (ent l) := by
  obtain ⟨s, hs, hI⟩ := orth_foldl_range_inv (orth_outerStep m n b)
    (fun k s => orth_OuterInv m n b bs mu (k + 1) s) (m - 1) _ (orth_init h hm)
    (fun j hj s hs => orth_outer_step h j (by omega) s hs)
  have hm1 : m - 1 + 1 = m := by omega
  simp only [hm1] at hI
  refine ⟨s.2.1, s.2.2, ?_, hI.size, h, hI.dval, hI.lval⟩
  rw [orth_unfold]
  have hm0 : (m != 0) = true := by simp; omega
  rw [hm0]
  show ((List.range (m - 1)).foldl (orth_outerStep m n b) _ >>= fun r => ok (r.2.1, r.2.2)) = _
  rw [hs]
  rfl

theorem Data.Swapped.bookOf {d d' : Data} {k : Nat} (hS : d.Swapped d' k) (hk0 : 0 < k) (hk : k < d.tr.m)
    {n : Nat} {R R' : Mat} (hR : ∀ a < d.tr.m, ∀ c < n, ent R' a c = ent R (sw (k - 1) k a) c)
    (hB : d.BookOf n R) : d'.BookOf n R' := by
  obtain ⟨p, rfl⟩ : ∃ p, k = p + 1 := ⟨k - 1, by omega⟩
  obtain ⟨hsz, bs, mu, hD⟩ := hB
  have hd0 : (d.dprev (p + 1) : ℚ) = gsP n bs p := hD.detPrev_eq hk0 hk
  refine ⟨by rw [hS.size, hS.tr.m]; exact hsz, swapgs_bs n bs mu p, swapgs_mu n bs mu p, ?_⟩
  rw [hS.tr.m]
  refine (swapgs_data hD hk (d.dprev (p + 1)) hd0 _ _ (fun i _ => ?_) (fun i hi j hj => ?_)).congr hR
  · have := hS.dv i
    rw [Nat.add_sub_cancel] at this
    exact this
  · have := hS.lam i hi j (by omega)
    rw [Nat.add_sub_cancel] at this
    exact this

theorem Data.swap_book (d d' : Data) (k : Nat) (h : d.swap k = ok d') (hB : d.Book) : d'.Book := by
  obtain ⟨hk0, hk, _, _, _, hS⟩ := Data.swap_spec h
  have := hS.bookOf hk0 hk hS.tr.target hB
  rw [← hS.tr.n] at this
  exact this

theorem Data.reduce_book (d d' : Data) (i k : Nat) (h : d.reduce i k = ok d') (hB : d.Book) : d'.Book := by
  obtain ⟨hik, hk, _⟩ := Data.reduce_spec h
  obtain ⟨q, _, hS⟩ := Data.reduce_rowAdd h
  exact hS.book hik hk hB

theorem Data.next_book (d : Data) (hB : d.Book) : d.next.Book := hB
theorem Data.back_book (d : Data) (hB : d.Book) : d.back.Book := by
  unfold Data.back; split
  · exact hB
  · exact hB

/-- the rows are linearly independent: they have a Gram–Schmidt decomposition with non-zero `b*_i` -/
def RowsIndep (m n : Nat) (B : Nat → Nat → Int) : Prop := ∃ bs mu : Nat → Nat → ℚ, IsGS m n B bs mu

theorem Data.setup_book (d : Data) (hm : 0 < d.tr.m) (hI : RowsIndep d.tr.m d.tr.n (ent d.tr.target)) :
    ∃ d', d.setup = ok d' ∧ d'.tr = d.tr ∧ d'.step = d.step ∧ d'.Book := by
  obtain ⟨bs, mu, hGS⟩ := hI
  obtain ⟨l, dd, h1, h2, h3⟩ := orthogonalize_spec' d.tr.m d.tr.n d.tr.target bs mu hm hGS
  refine ⟨{ d with lam := l, det := dd }, ?_, rfl, rfl, h2, bs, mu, h3⟩
  unfold Data.setup
  rw [h1]
  rfl

theorem Data.setup_book' (d d' : Data) (h : d.setup = ok d') (hI : RowsIndep d.tr.m d.tr.n (ent d.tr.target)) :
    d'.Book := by
  have hm : 0 < d.tr.m := by
    rcases Nat.eq_zero_or_pos d.tr.m with h0 | h0
    · exfalso
      have : d.setup = panic := by unfold Data.setup; rw [h0]; rfl
      rw [this] at h
      cases h
    · exact h0
  obtain ⟨d1, h1, _, _, hB⟩ := Data.setup_book d hm hI
  rw [h1] at h
  injection h with h
  subst h
  exact hB

theorem RowsIndep.init {m n : Nat} {A : Mat} (h : RowsIndep m n (ent A)) :
    RowsIndep (Data.new m n A).tr.m (Data.new m n A).tr.n (ent (Data.new m n A).tr.target) := by
  obtain ⟨bs, mu, hGS⟩ := h
  refine ⟨bs, mu, hGS.congr ?_⟩
  intro a ha c hc
  show ent (mkMat m n (ent A)) a c = _
  rw [ent_mkMat _ ha hc]

/-- the state-changing methods of `LLLData` -/
inductive DOp where
  | reduce (i k : Nat)
  | add (i k : Nat) (r : Int)
  | swap (k : Nat)
  | mul (i : Nat) (u : Int)
  | next
  | back

def Data.applyOp (d : Data) : DOp → Res Data
  | .reduce i k => d.reduce i k
  | .add i k r => d.addRowTo i k r
  | .swap k => d.swap k
  | .mul i u => d.mulRow i u
  | .next => pure d.next
  | .back => pure d.back

def Data.runOps (d : Data) : List DOp → Res Data
  | [] => pure d
  | op :: ops => do let d' ← d.applyOp op; d'.runOps ops

theorem Data.applyOp_book (d d' : Data) (op : DOp) (h : d.applyOp op = ok d') (hB : d.Book) : d'.Book := by
  cases op with
  | reduce i k => exact Data.reduce_book d d' i k h hB
  | add i k r => exact Data.addRowTo_book d d' i k r h hB
  | swap k => exact Data.swap_book d d' k h hB
  | mul i u => exact Data.mulRow_book d d' i u h hB
  | next => simp only [Data.applyOp, pure_eq, Res.ok.injEq] at h; subst h; exact Data.next_book d hB
  | back => simp only [Data.applyOp, pure_eq, Res.ok.injEq] at h; subst h; exact Data.back_book d hB

end Yuiv.C10
