import Yuiv.Proofs.KhiSpecMain
import Yuiv.Proofs.KhiSpecGens
/-
KhiSpec — the closure (c) of `khiGensOk` holds whenever `khiInstanceOk` does: the targets of `Cube.d` on a generator of
weight `w` are generators of weight `w + 1`, and τ maps generators of weight `w` to generators of weight `w`.
-/
namespace Yuiv.KhiSpec
open Yuiv.KhRef Yuiv.C19 Yuiv.C19Inv Yuiv.C19Comm Yuiv.C19Cone

theorem mem_cgens (ic : ICube) (i : Nat) (hi : i < ic.cube.n + 2) (b : Bool) (g : Gen) :
    (b, g) ∈ cgens ic i ↔ (b = false ∧ i ≤ ic.cube.n ∧ g ∈ (kgensOf ic.cube)[i]!) ∨
      (b = true ∧ 1 ≤ i ∧ g ∈ (kgensOf ic.cube)[i - 1]!) := by
  unfold cgens
  rw [getElem!_pos _ i (by rw [coneGens_size]; exact hi)]
  simp only [coneGens, Array.getElem_map, Array.getElem_range, Array.mem_append]
  constructor
  · rintro (h | h)
    · split at h
      · rename_i hle
        obtain ⟨g', hg', e⟩ := Array.mem_map.1 h
        cases e
        exact Or.inl ⟨rfl, hle, hg'⟩
      · exact absurd h (Array.not_mem_empty _)
    · split at h
      · rename_i hge
        obtain ⟨g', hg', e⟩ := Array.mem_map.1 h
        cases e
        exact Or.inr ⟨rfl, hge, hg'⟩
      · exact absurd h (Array.not_mem_empty _)
  · rintro (⟨rfl, hle, hg⟩ | ⟨rfl, hge, hg⟩)
    · left
      rw [if_pos hle]
      exact Array.mem_map.2 ⟨g, hg, rfl⟩
    · right
      rw [if_pos hge]
      exact Array.mem_map.2 ⟨g, hg, rfl⟩

theorem closed_of_instanceOk (l : InvLink) (p : Params) (ic : ICube) (hic : mkICube l p = some ic)
    (hok : khiInstanceOk l p = true) :
    ∀ i : Nat, i < ic.cube.n + 2 → ∀ x ∈ cgens ic i, ∀ y ∈ dI ic p x, y ∈ cgens ic (i + 1) := by
  obtain ⟨_, _, _, _, ic', hic', _, hwf'⟩ := khi_instance_ok_meaning l p hok
  rw [hic] at hic'
  cases hic'
  have hwf := wf'_wf _ ic hwf'
  intro i hi x hx y hy
  obtain ⟨b, g⟩ := x
  obtain ⟨by', y⟩ := y
  have key : ∀ (w : Nat) (g y : Gen), g ∈ (kgensOf ic.cube)[w]! → y ∈ dK ic.cube p g →
      w + 1 ≤ ic.cube.n ∧ y ∈ (kgensOf ic.cube)[w + 1]! := by
    intro w g y hg hy
    obtain ⟨h1, h2, _, _⟩ := (mem_kgensOf ic.cube w g).1 hg
    obtain ⟨a1, a2, a3, a4⟩ := dK_target _ ic hwf' p g h1 y hy
    have := popcount_le y.s ic.cube.n
    exact ⟨by omega, (mem_kgensOf ic.cube (w + 1) y).2 ⟨a1, by rw [a2, h2], a3, a4⟩⟩
  rcases (mem_cgens ic i hi b g).1 hx with ⟨rfl, hin, hg⟩ | ⟨rfl, hi1, hg⟩
  · simp only [dI, List.mem_append, List.mem_map, List.mem_cons, List.not_mem_nil, or_false] at hy
    rcases hy with ⟨y', hy', e⟩ | e | e
    · cases e
      exact (mem_cgens ic (i + 1) (by omega) false y).2 (Or.inl ⟨rfl, key i g y hg hy'⟩)
    · cases e
      exact (mem_cgens ic (i + 1) (by omega) true g).2 (Or.inr ⟨rfl, by omega, by simpa using hg⟩)
    · cases e
      obtain ⟨h1, h2, _, h4⟩ := (mem_kgensOf ic.cube i g).1 hg
      have ws := wf_spec ic hwf g.s h1
      refine (mem_cgens ic (i + 1) (by omega) true _).2 (Or.inr ⟨rfl, by omega, ?_⟩)
      simp only [Nat.add_sub_cancel]
      exact (mem_kgensOf ic.cube i _).2
        ⟨ws.lt, ws.wt.trans h2, tau_mask_lt ic hwf g h1, (baseKeep_tau ic hwf g h1).trans h4⟩
  · simp only [dI, List.mem_map] at hy
    obtain ⟨y', hy', e⟩ := hy
    cases e
    obtain ⟨hw, this⟩ := key (i - 1) g y hg hy'
    refine (mem_cgens ic (i + 1) (by omega) true y).2 (Or.inr ⟨rfl, by omega, ?_⟩)
    rw [show i - 1 + 1 = i by omega] at this
    simpa using this

theorem gensOk_of_instanceOk (l : InvLink) (p : Params) (ic : ICube) (hic : mkICube l p = some ic)
    (hok : khiInstanceOk l p = true) : GensOk ic p :=
  gensOk_of_closed ic p (fun i hi =>
    closed_of_instanceOk l p ic hic hok i (by rw [coneGens_size] at hi; exact hi))

theorem khiSpecOk_of_instanceOk (l : InvLink) (p : Params) (h : khiInstanceOk l p = true) : khiSpecOk l p = true := by
  obtain ⟨_, _, _, _, ic, hic, _, _⟩ := khi_instance_ok_meaning l p h
  exact (khiSpecOk_iff l p).2 ⟨h, ic, hic, (khiGensOk_iff ic p).2 (gensOk_of_instanceOk l p ic hic h)⟩

theorem tref_spec_ok : khiSpecOk tref ⟨0, 0, false⟩ = true ∧ khiSpecOk tref ⟨1, 1, false⟩ = true ∧
    khiSpecOk tref ⟨1, 0, true⟩ = true :=
  ⟨khiSpecOk_of_instanceOk _ _ (tref_ok_unreduced 0 0), khiSpecOk_of_instanceOk _ _ (tref_ok_unreduced 1 1),
    khiSpecOk_of_instanceOk _ _ (tref_ok_reduced 1)⟩

end Yuiv.KhiSpec
