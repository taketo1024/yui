import Yuiv.Proofs.C07Euc
import Yuiv.Proofs.C07EucTie
/-
C07 end-to-end over ℤ: the code model of `HomologyCalc::calculate` (Model/C07Calc.lean, which takes the SNF routine
as a parameter) with the code model of the library's own SNF (`C09.snfCalc intOps`, Model/C09.lean) plugged in:
`snfC09 fuel : SnfFn` is a literal composition of executable functions through the adapter between the two matrix
representations (`C07.Mat`: shape + row-major `Array Int`;  `C09.Mat Int m n`: `Vector (Vector Int n) m`).
The composite is the generic composite of `Proofs/C07EucModel.lean` at `C09.intOps` (through `Proofs/C07EucTie.lean`), and
the ℤ end-to-end theorem is the generic one of `Proofs/C07Euc.lean` at `C09.int_lawfulEuc`, read back in the vocabulary
`HomologySpec`, `nzCount`, `nonUnitFactors` defined here.
-/
namespace Yuiv.C07
open Matrix Yuiv

def toC09 (A : Mat) : C09.Mat Int A.r A.c := C09.Mat.ofFn fun i j => A.get i.val j.val

def ofC09 {m n : Nat} (B : C09.Mat Int m n) : Mat :=
  Mat.ofFn m n fun i j => if h : i < m ∧ j < n then B.get ⟨i, h.1⟩ ⟨j, h.2⟩ else 0

/-- `SnfResult` from the final state of `SnfCalc`: the flags `[p, pinv, q, qinv]` select what is handed out -/
def ofSt {m n : Nat} (s : C09.St Int m n) (fl : SnfFlags) : Snf :=
  ⟨ofC09 s.t,
   if fl.1 then some (ofC09 s.p) else none,
   if fl.2.1 then some (ofC09 s.pinv) else none,
   if fl.2.2.1 then some (ofC09 s.q) else none,
   if fl.2.2.2 then some (ofC09 s.qinv) else none⟩

/-- the library's SNF over ℤ (code model of C09: debug build, identity preprocessing) as the SNF routine of C07 -/
def snfC09 (fuel : Nat) : SnfFn := fun A fl =>
  match C09.snfCalc C09.intOps true (fun s => .ok s) fuel (toC09 A) with
  | .ok s => .ok (ofSt s fl)
  | .panic => .panic
  | .err => .err

@[simp] theorem ofC09_r {m n : Nat} (B : C09.Mat Int m n) : (ofC09 B).r = m := rfl
@[simp] theorem ofC09_c {m n : Nat} (B : C09.Mat Int m n) : (ofC09 B).c = n := rfl

theorem ofC09_get {m n : Nat} (B : C09.Mat Int m n) (i j : Nat) :
    (ofC09 B).get i j = if h : i < m ∧ j < n then B.get ⟨i, h.1⟩ ⟨j, h.2⟩ else 0 := by
  unfold ofC09
  rw [Mat.get_ofFn]
  by_cases h : i < m ∧ j < n
  · simp [h]
  · simp [h]

theorem ofC09_toM {m n : Nat} (B : C09.Mat Int m n) : (ofC09 B).toM m n = C09.toM id B := by
  ext i j
  simp only [Mat.toM, ofC09_get, C09.toM_apply, id]
  rw [dif_pos ⟨i.isLt, j.isLt⟩]

theorem toC09_toM (A : Mat) : C09.toM id (toC09 A) = A.toM A.r A.c := by
  ext i j
  simp [toC09, Mat.toM]

/-- ALL clauses of property C07 for an answer `(rank, tors, P, Q)` to the complex `d1 : n×m`, `d2 : k×n` over ℤ
(`P` = `vectorize` = chain ↦ homology coordinates, `Q` = `gen` = homology coordinates ↦ chain; the first `rank`
coordinates are free, coordinate `rank + u` lives in `ℤ/tors[u]`) — except the values of `rank` and `tors`
themselves, which the theorems state separately -/
structure HomologySpec (d1 d2 : Mat) (n m k : Nat) (rank : Nat) (tors : List Int) (P Q : Mat) : Prop where
  shP : P.r = rank + tors.length ∧ P.c = n
  shQ : Q.r = n ∧ Q.c = rank + tors.length
  /-- torsion orders are non-zero non-units, normalised (positive) -/
  tors_gt : ∀ x ∈ tors, 1 < x
  /-- … in divisibility order -/
  tors_chain : tors.Pairwise (· ∣ ·)
  /-- `P·Q = I` -/
  pq : P.toM (rank + tors.length) n * Q.toM n (rank + tors.length) = 1
  /-- generators are cycles: `d2·Q = 0` -/
  cycles : d2.toM k n * Q.toM n (rank + tors.length) = 0
  /-- every boundary `d1·x` has zero free coordinates and torsion coordinates divisible by the orders -/
  bdry : ∀ (x : Fin m → ℤ) (i : Fin (rank + tors.length)),
      (i.val < rank → (P.toM (rank + tors.length) n *ᵥ (d1.toM n m *ᵥ x)) i = 0) ∧
      (rank ≤ i.val → tors.getD (i.val - rank) 0 ∣ (P.toM (rank + tors.length) n *ᵥ (d1.toM n m *ᵥ x)) i)
  /-- `vectorize(gen i) = e_i` -/
  gens : ∀ i : Fin (rank + tors.length),
      P.toM (rank + tors.length) n *ᵥ (Q.toM n (rank + tors.length) *ᵥ Pi.single i 1) = Pi.single i 1
  /-- completeness: a cycle whose coordinates vanish modulo the orders is a boundary -/
  complete : ∀ z : Fin n → ℤ, d2.toM k n *ᵥ z = 0 →
      (∀ i : Fin (rank + tors.length),
        (i.val < rank → (P.toM (rank + tors.length) n *ᵥ z) i = 0) ∧
        (rank ≤ i.val → tors.getD (i.val - rank) 0 ∣ (P.toM (rank + tors.length) n *ᵥ z) i)) →
      ∃ x : Fin m → ℤ, d1.toM n m *ᵥ x = z

/-- number of non-zero entries on the diagonal of the final target of the C09 model -/
def nzCount {m n : Nat} (st : C09.St Int m n) : Nat := ((C09.diagL st.t).filter (fun a => a != 0)).length

/-- the non-zero non-unit (`≠ 1`; they are `≥ 0`) entries on that diagonal, in order -/
def nonUnitFactors {m n : Nat} (st : C09.St Int m n) : List Int :=
  (C09.diagL st.t).filter (fun a => a != 0 && a != 1)

theorem isUnitZ_of_pos (x : Int) (hx : 0 < x) : isUnitZ x = true ↔ x = 1 := by
  unfold isUnitZ
  rw [beq_iff_eq]
  omega

theorem processSnf_eq (snf : SnfFn) (d1 d2 D2 : Mat) (s1 s2 : Snf) (P1i : Mat) (r1 : Nat)
    (h1 : snf d1 (true, true, false, false) = .ok s1) (hr : s1.rank = r1) (hpi : s1.pinv = some P1i)
    (hsh : d2.c = d1.r) (hP1i : P1i.r = d1.r ∧ P1i.c = d1.r) (hr1 : r1 ≤ d1.r)
    (hD2 : D2 = if 0 < r1 then d2.mul (P1i.cols r1 d1.r) else d2)
    (h2 : snf D2 (false, false, true, true) = .ok s2) :
    processSnf snf d1 d2 true = .ok (s1, s2) := by
  unfold processSnf
  rw [h1]
  simp only [Res.bind_ok, hr]
  by_cases h : 0 < r1
  · rw [if_pos h] at hD2
    simp [h, hpi, unwrap, colsR, Trans.mulMat, Res.assert, hP1i.1, hP1i.2, hr1, hsh, ← hD2, h2]
  · rw [if_neg h] at hD2
    simp only [gt_iff_lt, h, if_false, Res.pure_eq, Res.bind_ok, ← hD2, h2]

/-- `d1`, `d2`, expected `(rank, tors)`: run `calculate` on the C09 SNF with fuel 50, and let the verified checker
`check` (Model/C07.lean) confirm `P·Q = I`, `d2·Q = 0` and the boundary clause on the returned coordinate maps -/
def runsTo (d1 d2 : Mat) (rank : Nat) (tors : List Int) : Bool :=
  match calculate (snfC09 50) d1 d2 true with
  | .ok (rk, ts, some t) =>
    match t.forwardMat, t.backwardMat with
    | .ok P, .ok Q => rk == rank && ts == tors && check ⟨0, d1, d2, rk, ts.toArray, P, Q⟩ == .ok
    | _, _ => false
  | _ => false

theorem runsTo_free_tors :
    runsTo ⟨4, 3, #[2, 0, 0, 2, 6, 0, 0, 0, 0, 0, 0, 0]⟩ ⟨1, 4, #[0, 0, 0, 1]⟩ 1 [2, 6] = true := by
  decide +kernel

local notation "oZ" => C09.intOps.toROps

theorem toC09G_int (A : Mat) : toC09G oZ A.toG = toC09 A := rfl
theorem ofC09G_int {m n : Nat} (B : C09.Mat Int m n) : ofC09G oZ B = (ofC09 B).toG := rfl
theorem ofStG_int {m n : Nat} (s : C09.St Int m n) (fl : SnfFlags) : ofStG oZ s fl = (ofSt s fl).toG := by
  obtain ⟨f1, f2, f3, f4⟩ := fl
  cases f1 <;> cases f2 <;> cases f3 <;> cases f4 <;> rfl

theorem snfC09G_int (fuel : Nat) (A : Mat) (fl : SnfFlags) :
    snfC09G C09.intOps fuel A.toG fl = Res.mapR Snf.toG (snfC09 fuel A fl) := by
  unfold snfC09G snfC09
  split
  · rename_i s1 h1
    split
    · rename_i s2 h2
      have := h1.symm.trans h2
      injection this with this
      subst this
      simp only [Res.mapR_ok, ofStG_int]
      rfl
    · rename_i h2; exact absurd (h1.symm.trans h2) (by simp)
    · rename_i h2; exact absurd (h1.symm.trans h2) (by simp)
  · rename_i h1
    split
    · rename_i s2 h2; exact absurd (h1.symm.trans h2) (by simp)
    · rfl
    · rename_i h2; exact absurd (h1.symm.trans h2) (by simp)
  · rename_i h1
    split
    · rename_i s2 h2; exact absurd (h1.symm.trans h2) (by simp)
    · rename_i h2; exact absurd (h1.symm.trans h2) (by simp)
    · rfl

theorem calculateG_snfC09_int (fuel : Nat) (d1 d2 : Mat) (wt : Bool) :
    calculateG C09.intOps (snfC09G C09.intOps fuel) d1.toG d2.toG wt =
      Res.mapR ansToG (calculate (snfC09 fuel) d1 d2 wt) :=
  calculateG_int (snfC09 fuel) (snfC09G C09.intOps fuel) (snfC09G_int fuel) d1 d2 wt

theorem nzCountG_int {m n : Nat} (st : C09.St Int m n) : nzCountG C09.intOps st = nzCount st := rfl

theorem shapeL_int_nonneg : ∀ l : List Int, C09.shapeL C09.intOps l = true → ∀ x ∈ l, 0 ≤ x := by
  intro l
  induction l with
  | nil => intro _ x hx; cases hx
  | cons a rest ih =>
    intro h x hx
    unfold C09.shapeL at h
    split at h
    · rename_i hz
      have hx0 : C09.intOps.isZero x = true := by
        rcases List.mem_cons.1 hx with rfl | hx
        · exact hz
        · exact List.all_eq_true.1 h x hx
      have : x = 0 := (C09.int_isZero x).1 hx0
      omega
    · simp only [Bool.and_eq_true] at h
      rcases List.mem_cons.1 hx with rfl | hx
      · have h1 : C09.intOps.isNorm x = true := h.1.1
        have : (if x < 0 then (-1 : Int) else 1) = 1 := (C09.int_isOne _).1 h1
        by_contra hlt
        rw [if_pos (by omega)] at this
        omega
      · exact ih h.2 x hx

theorem nonUnitFactorsG_int {m n : Nat} (st : C09.St Int m n) (h : C09.isSnfShape C09.intOps st.t = true) :
    nonUnitFactorsG C09.intOps st = nonUnitFactors st := by
  unfold nonUnitFactorsG nonUnitFactors
  simp only [C09.isSnfShape, Bool.and_eq_true] at h
  apply List.filter_congr
  intro x hx
  have h0 := shapeL_int_nonneg _ h.2 x hx
  show (!(x == 0) && !(x == 1 || x == -1)) = (x != 0 && x != 1)
  have : (x == -1) = false := by
    rw [beq_eq_false_iff_ne]; omega
  rw [this, Bool.or_false]
  rfl

theorem HomologySpecG.to_int {d1 d2 : Mat} {n m k rank : Nat} {tors : List Int} {P Q : Mat}
    (h : HomologySpecG C09.intOps (id : Int → Int) d1.toG d2.toG n m k rank tors P.toG Q.toG) :
    HomologySpec d1 d2 n m k rank tors P Q := by
  refine ⟨h.shP, h.shQ, ?_, h.tors_chain, h.pq, h.cycles, h.bdry, h.gens, h.complete⟩
  intro x hx
  obtain ⟨h1, h2, h3⟩ := h.tors_nonunit x hx
  simp only [id] at h1 h2 h3
  have h3' : (if x < 0 then (-1 : Int) else 1) = 1 := h3
  have hx0 : ¬ x < 0 := by
    intro hlt; rw [if_pos hlt] at h3'; omega
  have hx1 : x ≠ 1 := by
    intro h'; exact h2 (h' ▸ isUnit_one)
  omega

theorem calculate_of_calculateG_int {fuel : Nat} {d1 d2 : Mat} {rank : Nat} {tors : List Int} {T : GTrans Int}
    (h : calculateG C09.intOps (snfC09G C09.intOps fuel) d1.toG d2.toG true = .ok (rank, tors, some T)) :
    ∃ T' : Trans, T'.toG = T ∧ calculate (snfC09 fuel) d1 d2 true = .ok (rank, tors, some T') := by
  rw [calculateG_snfC09_int] at h
  cases hc : calculate (snfC09 fuel) d1 d2 true with
  | panic => rw [hc] at h; cases h
  | err => rw [hc] at h; cases h
  | ok x =>
    rw [hc] at h
    obtain ⟨r, t, oT⟩ := x
    simp only [Res.mapR_ok, ansToG, Res.ok.injEq, Prod.mk.injEq] at h
    obtain ⟨rfl, rfl, h3⟩ := h
    cases oT with
    | none => cases h3
    | some T' =>
      simp only [Option.map_some, Option.some.injEq] at h3
      exact ⟨T', h3, rfl⟩

theorem mapR_toG_ok {x : Res Mat} {P : GMat Int} (h : Res.mapR Mat.toG x = .ok P) : x = .ok P.toZ :=
  Res.mapR_eq_ok Mat.toG_injective (a := P.toZ) h

theorem snf_rank_of_diag (s : Snf) (r c r1 : Nat) (shS : s.result.r = r ∧ s.result.c = c) (r1r : r1 ≤ r)
    (r1c : r1 ≤ c) (diag : ∀ i j, s.result.get i j = if i = j ∧ i < r1 then s.result.get i i else 0)
    (pos : ∀ i, i < r1 → 0 < s.result.get i i) : s.rank = r1 :=
  snf_rank_of_diagG C09.int_lawfulEuc s.toG r c r1 shS r1r r1c diag (fun i hi => (pos i hi).ne')

theorem snf_factors_of_diag (s : Snf) (r c r1 : Nat) (shS : s.result.r = r ∧ s.result.c = c) (r1r : r1 ≤ r)
    (r1c : r1 ≤ c) (diag : ∀ i j, s.result.get i j = if i = j ∧ i < r1 then s.result.get i i else 0)
    (pos : ∀ i, i < r1 → 0 < s.result.get i i) :
    s.factors = (List.range r1).map fun i => s.result.get i i :=
  snf_factors_of_diagG C09.int_lawfulEuc s.toG r c r1 shS r1r r1c diag (fun i hi => (pos i hi).ne')

theorem isZero_get (A : Mat) (h : A.isZero = true) (i j : Nat) : A.get i j = 0 :=
  isZero_getG C09.lawful_int A.toG h i j

theorem id_toM (n : Nat) : (Mat.id n).toM n n = 1 :=
  toMG_id C09.lawful_int n

end Yuiv.C07
