import Yuiv.Proofs.C15
import Mathlib.Algebra.Ring.MinimalAxioms
/-
C15 — Z[i] and Z[ω] as lawful instances of the generic Euclidean structure:
commutative-ring structure on the model type, multiplicativity of the norm, the unit groups
(4 resp. 6 units), the quadrant / sextant tables of `normalizing_unit`; `is_unit` / `inv` of Z.
-/
namespace Yuiv.C15

namespace QInt

theorem isZero_iff (x : QInt) : isZero x = true ↔ x = zero := by
  cases x; simp only [isZero, zero, Bool.and_eq_true, beq_iff_eq, mk.injEq]

theorem isOne_iff (x : QInt) : isOne x = true ↔ x = one := by
  cases x; simp only [isOne, one, Bool.and_eq_true, beq_iff_eq, mk.injEq]

/-- The half-open cone between `1` and the next unit (`i` resp. `ω`), in coordinates w.r.t. `1, i` resp.
`1, ω`: a quadrant of Z[i], a sextant of Z[ω].  It is a fundamental domain of the unit group acting on the
non-zero elements, and the tables of `normalizing_unit` pick the unit that leads into it. -/
def Sector (x : QInt) : Prop := 0 < x.a ∧ 0 ≤ x.b

theorem gNormUnit_eq (x : QInt) : gNormUnit x =
    if 0 < x.a ∧ 0 ≤ x.b then one else if x.a ≤ 0 ∧ 0 < x.b then neg omega
    else if x.a < 0 ∧ x.b ≤ 0 then neg one else if 0 ≤ x.a ∧ x.b < 0 then omega else one := by
  unfold gNormUnit
  simp only [gt_iff_lt, Bool.and_eq_true, decide_eq_true_eq, Bool.not_eq_true', decide_eq_false_iff_not, not_lt]

theorem gNormUnit_cases (x : QInt) :
    ((0 < x.a ∧ 0 ≤ x.b) ∧ gNormUnit x = one) ∨ ((x.a ≤ 0 ∧ 0 < x.b) ∧ gNormUnit x = neg omega) ∨
    ((x.a < 0 ∧ x.b ≤ 0) ∧ gNormUnit x = neg one) ∨ ((0 ≤ x.a ∧ x.b < 0) ∧ gNormUnit x = omega) ∨
    ((x.a = 0 ∧ x.b = 0) ∧ gNormUnit x = one) := by
  rcases eq_ite_iff.1 (gNormUnit_eq x) with h | ⟨n1, e⟩
  · exact .inl h
  rcases eq_ite_iff.1 e with h | ⟨n2, e⟩
  · exact .inr (.inl h)
  rcases eq_ite_iff.1 e with h | ⟨n3, e⟩
  · exact .inr (.inr (.inl h))
  rcases eq_ite_iff.1 e with h | ⟨n4, e⟩
  · exact .inr (.inr (.inr (.inl h)))
  · exact .inr (.inr (.inr (.inr ⟨by omega, e⟩)))

theorem gNormUnit_norm (x : QInt) : gNorm (gNormUnit x) = 1 := by
  rcases gNormUnit_cases x with ⟨_, e⟩ | ⟨_, e⟩ | ⟨_, e⟩ | ⟨_, e⟩ | ⟨_, e⟩ <;> rw [e] <;> rfl

theorem gNormUnit_sector (x : QInt) (hx : x ≠ zero) : Sector (gMul x (gNormUnit x)) := by
  have := (ne_zero_iff x).1 hx
  unfold Sector
  rcases gNormUnit_cases x with ⟨h, e⟩ | ⟨h, e⟩ | ⟨h, e⟩ | ⟨h, e⟩ | ⟨h, e⟩ <;> rw [e] <;>
    simp only [gMul, one, omega, neg] <;> omega

theorem eNormUnit_eq (x : QInt) : eNormUnit x =
    if 0 < x.a ∧ 0 ≤ x.b then one else if x.a ≤ 0 ∧ 0 < x.a + x.b then ⟨1, -1⟩
    else if x.a + x.b ≤ 0 ∧ 0 < x.b then neg omega else if x.a < 0 ∧ x.b ≤ 0 then neg one
    else if 0 ≤ x.a ∧ x.a + x.b < 0 then ⟨-1, 1⟩ else if 0 ≤ x.a + x.b ∧ x.b < 0 then omega else one := by
  unfold eNormUnit
  simp only [gt_iff_lt, Bool.and_eq_true, decide_eq_true_eq, Bool.not_eq_true', decide_eq_false_iff_not, not_lt]

theorem eNormUnit_cases (x : QInt) :
    ((0 < x.a ∧ 0 ≤ x.b) ∧ eNormUnit x = one) ∨ ((x.a ≤ 0 ∧ 0 < x.a + x.b) ∧ eNormUnit x = ⟨1, -1⟩) ∨
    ((x.a + x.b ≤ 0 ∧ 0 < x.b) ∧ eNormUnit x = neg omega) ∨ ((x.a < 0 ∧ x.b ≤ 0) ∧ eNormUnit x = neg one) ∨
    ((0 ≤ x.a ∧ x.a + x.b < 0) ∧ eNormUnit x = ⟨-1, 1⟩) ∨ ((0 ≤ x.a + x.b ∧ x.b < 0) ∧ eNormUnit x = omega) ∨
    ((x.a = 0 ∧ x.b = 0) ∧ eNormUnit x = one) := by
  rcases eq_ite_iff.1 (eNormUnit_eq x) with h | ⟨n1, e⟩
  · exact .inl h
  rcases eq_ite_iff.1 e with h | ⟨n2, e⟩
  · exact .inr (.inl h)
  rcases eq_ite_iff.1 e with h | ⟨n3, e⟩
  · exact .inr (.inr (.inl h))
  rcases eq_ite_iff.1 e with h | ⟨n4, e⟩
  · exact .inr (.inr (.inr (.inl h)))
  rcases eq_ite_iff.1 e with h | ⟨n5, e⟩
  · exact .inr (.inr (.inr (.inr (.inl h))))
  rcases eq_ite_iff.1 e with h | ⟨n6, e⟩
  · exact .inr (.inr (.inr (.inr (.inr (.inl h)))))
  · exact .inr (.inr (.inr (.inr (.inr (.inr ⟨by omega, e⟩)))))

theorem eNormUnit_norm (x : QInt) : eNorm (eNormUnit x) = 1 := by
  rcases eNormUnit_cases x with ⟨_, e⟩ | ⟨_, e⟩ | ⟨_, e⟩ | ⟨_, e⟩ | ⟨_, e⟩ | ⟨_, e⟩ | ⟨_, e⟩ <;> rw [e] <;> rfl

theorem eNormUnit_sector (x : QInt) (hx : x ≠ zero) : Sector (eMul x (eNormUnit x)) := by
  have := (ne_zero_iff x).1 hx
  unfold Sector
  rcases eNormUnit_cases x with ⟨h, e⟩ | ⟨h, e⟩ | ⟨h, e⟩ | ⟨h, e⟩ | ⟨h, e⟩ | ⟨h, e⟩ | ⟨h, e⟩ <;> rw [e] <;>
    simp only [eMul, one, omega, neg] <;> omega

end QInt

/-- `QInt` with the Gaussian multiplication -/
def GInt := QInt

namespace GInt
open QInt
instance : Add GInt := ⟨QInt.add⟩
instance : Mul GInt := ⟨QInt.gMul⟩
instance : Neg GInt := ⟨QInt.neg⟩
instance : Zero GInt := ⟨QInt.zero⟩
instance : One GInt := ⟨QInt.one⟩

@[simp] theorem add_a (x y : GInt) : QInt.a (x + y) = QInt.a x + QInt.a y := rfl
@[simp] theorem add_b (x y : GInt) : QInt.b (x + y) = QInt.b x + QInt.b y := rfl
@[simp] theorem mul_a (x y : GInt) : QInt.a (x * y) = QInt.a x * QInt.a y + QInt.b x * QInt.b y * (-1) := rfl
@[simp] theorem mul_b (x y : GInt) : QInt.b (x * y) = QInt.a x * QInt.b y + QInt.b x * QInt.a y := rfl
@[simp] theorem neg_a (x : GInt) : QInt.a (-x) = -QInt.a x := rfl
@[simp] theorem neg_b (x : GInt) : QInt.b (-x) = -QInt.b x := rfl
@[simp] theorem zero_a : QInt.a (0 : GInt) = 0 := rfl
@[simp] theorem zero_b : QInt.b (0 : GInt) = 0 := rfl
@[simp] theorem one_a : QInt.a (1 : GInt) = 1 := rfl
@[simp] theorem one_b : QInt.b (1 : GInt) = 0 := rfl

theorem ext {x y : GInt} (h1 : QInt.a x = QInt.a y) (h2 : QInt.b x = QInt.b y) : x = y := QInt.ext' h1 h2

instance : CommRing GInt := CommRing.ofMinimalAxioms
  (by intros; apply ext <;> simp <;> ring)
  (by intros; apply ext <;> simp)
  (by intros; apply ext <;> simp)
  (by intros; apply ext <;> simp <;> ring)
  (by intros; apply ext <;> simp <;> ring)
  (by intros; apply ext <;> simp)
  (by intros; apply ext <;> simp <;> ring)

@[simp] theorem sub_a (x y : GInt) : QInt.a (x - y) = QInt.a x - QInt.a y := by
  rw [sub_eq_add_neg, add_a, neg_a, Int.sub_eq_add_neg]
@[simp] theorem sub_b (x y : GInt) : QInt.b (x - y) = QInt.b x - QInt.b y := by
  rw [sub_eq_add_neg, add_b, neg_b, Int.sub_eq_add_neg]

theorem norm_mul (x y : GInt) : gNorm (x * y) = gNorm x * gNorm y := by
  simp only [gNorm, mul_a, mul_b]; ring

theorem norm_eq_zero (x : GInt) (h : gNorm x = 0) : x = 0 := by
  by_contra hx
  have := gNorm_pos x hx
  omega

theorem isUnit_of_norm_one (u : GInt) (h : gNorm u = 1) : IsUnit u := by
  refine isUnit_iff_exists_inv.2 ⟨(QInt.gConj u : GInt), ?_⟩
  change QInt.gMul u (QInt.gConj u) = QInt.one
  simp only [gNorm] at h
  apply QInt.ext' <;> simp only [gMul, gConj, QInt.one] <;> linarith

theorem norm_one_of_isUnit (u : GInt) (h : IsUnit u) : gNorm u = 1 :=
  norm_eq_one_of_isUnit (α := GInt) gNorm norm_mul gNorm_nonneg rfl h

theorem units_cases (u : GInt) (h : IsUnit u) :
    (QInt.a u = 1 ∧ QInt.b u = 0) ∨ (QInt.a u = 0 ∧ QInt.b u = 1) ∨
    (QInt.a u = -1 ∧ QInt.b u = 0) ∨ (QInt.a u = 0 ∧ QInt.b u = -1) := by
  have h1 := norm_one_of_isUnit u h
  simp only [gNorm] at h1
  exact gauss_norm_one (by linarith)

/-- multiplication by a unit other than `1` turns by at least a quarter and leaves the quadrant -/
theorem sector_unique (y u : GInt) (hy : Sector y) (hu : IsUnit u) (h : Sector (y * u)) : u = 1 := by
  unfold Sector at hy h
  rw [mul_a, mul_b] at h
  rcases units_cases u hu with e | e | e | e
  · exact ext e.1 e.2
  all_goals rw [e.1, e.2] at h; omega

theorem lawful : LawfulEuc (α := GInt) gaussOps where
  zero_eq := rfl
  one_eq := rfl
  isZero_iff := QInt.isZero_iff
  isOne_iff := QInt.isOne_iff
  sub_eq a b := ext (sub_a a b).symm (sub_b a b).symm
  mul_eq _ _ := rfl
  div_rem a b _ := g_div_rem a b
  norm_rem a b hb := by
    have := g_rem_lt a b hb
    have := gNorm_nonneg (gRem a b)
    simp only [gaussOps]
    omega
  rem_of_dvd a b hb hd :=
    rem_eq_zero_of_norm (α := GInt) gNorm norm_mul gNorm_nonneg norm_eq_zero (g_div_rem a b) (g_rem_lt a b hb) hd
  normUnit_isUnit a := isUnit_of_norm_one _ (gNormUnit_norm a)
  normUnit_assoc :=
    normUnit_assoc_of_sector (α := GInt) Sector gNormUnit (fun a => isUnit_of_norm_one _ (gNormUnit_norm a))
      gNormUnit_sector sector_unique

instance : IsDomain GInt := by
  have : Nontrivial GInt := ⟨⟨0, 1, by intro h; have := congrArg QInt.a h; simp at this⟩⟩
  have : NoZeroDivisors GInt := ⟨fun {x y} h => by
    have := congrArg gNorm h
    rw [norm_mul] at this
    have h0 : gNorm (0 : GInt) = 0 := by decide
    rw [h0] at this
    rcases mul_eq_zero.1 this with h | h
    · left; exact norm_eq_zero _ h
    · right; exact norm_eq_zero _ h⟩
  exact NoZeroDivisors.to_isDomain _

end GInt
/-- `QInt` with the Eisenstein multiplication -/
def EInt := QInt

namespace EInt
open QInt
instance : Add EInt := ⟨QInt.add⟩
instance : Mul EInt := ⟨QInt.eMul⟩
instance : Neg EInt := ⟨QInt.neg⟩
instance : Zero EInt := ⟨QInt.zero⟩
instance : One EInt := ⟨QInt.one⟩

@[simp] theorem add_a (x y : EInt) : QInt.a (x + y) = QInt.a x + QInt.a y := rfl
@[simp] theorem add_b (x y : EInt) : QInt.b (x + y) = QInt.b x + QInt.b y := rfl
@[simp] theorem mul_a (x y : EInt) : QInt.a (x * y) = QInt.a x * QInt.a y + QInt.b x * QInt.b y * (-1) := rfl
@[simp] theorem mul_b (x y : EInt) : QInt.b (x * y) = QInt.a x * QInt.b y + QInt.b x * QInt.a y + QInt.b x * QInt.b y := rfl
@[simp] theorem neg_a (x : EInt) : QInt.a (-x) = -QInt.a x := rfl
@[simp] theorem neg_b (x : EInt) : QInt.b (-x) = -QInt.b x := rfl
@[simp] theorem zero_a : QInt.a (0 : EInt) = 0 := rfl
@[simp] theorem zero_b : QInt.b (0 : EInt) = 0 := rfl
@[simp] theorem one_a : QInt.a (1 : EInt) = 1 := rfl
@[simp] theorem one_b : QInt.b (1 : EInt) = 0 := rfl

theorem ext {x y : EInt} (h1 : QInt.a x = QInt.a y) (h2 : QInt.b x = QInt.b y) : x = y := QInt.ext' h1 h2

instance : CommRing EInt := CommRing.ofMinimalAxioms
  (by intros; apply ext <;> simp <;> ring)
  (by intros; apply ext <;> simp)
  (by intros; apply ext <;> simp)
  (by intros; apply ext <;> simp <;> ring)
  (by intros; apply ext <;> simp <;> ring)
  (by intros; apply ext <;> simp)
  (by intros; apply ext <;> simp <;> ring)

@[simp] theorem sub_a (x y : EInt) : QInt.a (x - y) = QInt.a x - QInt.a y := by
  rw [sub_eq_add_neg, add_a, neg_a, Int.sub_eq_add_neg]
@[simp] theorem sub_b (x y : EInt) : QInt.b (x - y) = QInt.b x - QInt.b y := by
  rw [sub_eq_add_neg, add_b, neg_b, Int.sub_eq_add_neg]

theorem norm_mul (x y : EInt) : eNorm (x * y) = eNorm x * eNorm y := by
  simp only [eNorm, mul_a, mul_b]; ring

theorem norm_eq_zero (x : EInt) (h : eNorm x = 0) : x = 0 := by
  by_contra hx
  have := eNorm_pos x hx
  omega

theorem isUnit_of_norm_one (u : EInt) (h : eNorm u = 1) : IsUnit u := by
  refine isUnit_iff_exists_inv.2 ⟨(QInt.eConj u : EInt), ?_⟩
  change QInt.eMul u (QInt.eConj u) = QInt.one
  simp only [eNorm] at h
  apply QInt.ext' <;> simp only [eMul, eConj, QInt.one] <;> linarith

theorem norm_one_of_isUnit (u : EInt) (h : IsUnit u) : eNorm u = 1 :=
  norm_eq_one_of_isUnit (α := EInt) eNorm norm_mul eNorm_nonneg rfl h

theorem units_cases (u : EInt) (h : IsUnit u) :
    (QInt.a u = 1 ∧ QInt.b u = 0) ∨ (QInt.a u = 0 ∧ QInt.b u = 1) ∨ (QInt.a u = -1 ∧ QInt.b u = 1) ∨
    (QInt.a u = -1 ∧ QInt.b u = 0) ∨ (QInt.a u = 0 ∧ QInt.b u = -1) ∨ (QInt.a u = 1 ∧ QInt.b u = -1) := by
  have h1 := norm_one_of_isUnit u h
  simp only [eNorm] at h1
  exact eisen_norm_one (by linarith)

/-- multiplication by a unit other than `1` turns by at least a sixth and leaves the sextant -/
theorem sector_unique (y u : EInt) (hy : Sector y) (hu : IsUnit u) (h : Sector (y * u)) : u = 1 := by
  unfold Sector at hy h
  rw [mul_a, mul_b] at h
  rcases units_cases u hu with e | e | e | e | e | e
  · exact ext e.1 e.2
  all_goals rw [e.1, e.2] at h; omega

theorem lawful : LawfulEuc (α := EInt) eisenOps where
  zero_eq := rfl
  one_eq := rfl
  isZero_iff := QInt.isZero_iff
  isOne_iff := QInt.isOne_iff
  sub_eq a b := ext (sub_a a b).symm (sub_b a b).symm
  mul_eq _ _ := rfl
  div_rem a b _ := e_div_rem a b
  norm_rem a b hb := by
    have := e_rem_lt a b hb
    have := eNorm_nonneg (eRem a b)
    simp only [eisenOps]
    omega
  rem_of_dvd a b hb hd :=
    rem_eq_zero_of_norm (α := EInt) eNorm norm_mul eNorm_nonneg norm_eq_zero (e_div_rem a b) (e_rem_lt a b hb) hd
  normUnit_isUnit a := isUnit_of_norm_one _ (eNormUnit_norm a)
  normUnit_assoc :=
    normUnit_assoc_of_sector (α := EInt) Sector eNormUnit (fun a => isUnit_of_norm_one _ (eNormUnit_norm a))
      eNormUnit_sector sector_unique

instance : IsDomain EInt := by
  have : Nontrivial EInt := ⟨⟨0, 1, by intro h; have := congrArg QInt.a h; simp at this⟩⟩
  have : NoZeroDivisors EInt := ⟨fun {x y} h => by
    have := congrArg eNorm h
    rw [norm_mul] at this
    have h0 : eNorm (0 : EInt) = 0 := by decide
    rw [h0] at this
    rcases mul_eq_zero.1 this with h | h
    · left; exact norm_eq_zero _ h
    · right; exact norm_eq_zero _ h⟩
  exact NoZeroDivisors.to_isDomain _

end EInt
theorem zIsUnit_iff_eq_one {n : Int} (hn : 0 ≤ n) : zIsUnit n = true ↔ n = 1 := by
  simp only [zIsUnit, Bool.or_eq_true, beq_iff_eq]; omega

theorem int_units' (a : Int) :
    (zIsUnit a = true ↔ zInv a ≠ none) ∧ (∀ u, zInv a = some u → a * u = 1) ∧ (zIsUnit a = true ↔ IsUnit a) := by
  refine ⟨?_, ?_, ?_⟩
  · unfold zInv; split <;> simp_all
  · intro u h
    unfold zInv at h
    split at h
    · rename_i hu
      injection h with h; subst h
      simp only [zIsUnit, Bool.or_eq_true, beq_iff_eq] at hu
      rcases hu with h | h
      · rw [h]; rfl
      · have : a = -1 := by omega
        rw [this]; rfl
    · cases h
  · rw [Int.isUnit_iff]
    simp only [zIsUnit, Bool.or_eq_true, beq_iff_eq]
    omega

/-- `is_unit` / `inv` of `qint.rs` go through the norm (`self.norm().is_unit()`, `norm().inv().map(|u| u * conj)`);
all they need of the ring is `x · (v · conj x) = 1` when `N(x) · v = 1` -/
theorem QInt.units_of_norm (mul : QInt → QInt → QInt) (conj : QInt → QInt) (norm : QInt → Int)
    (h : ∀ x (v : Int), norm x * v = 1 → mul x (mul ⟨v, 0⟩ (conj x)) = QInt.one) (x : QInt) :
    (zIsUnit (norm x) = true ↔
      (match zInv (norm x) with | some u => some (mul ⟨u, 0⟩ (conj x)) | none => none) ≠ none) ∧
    (∀ u, (match zInv (norm x) with | some u => some (mul ⟨u, 0⟩ (conj x)) | none => none) = some u →
      mul x u = QInt.one) := by
  obtain ⟨h1, h2, -⟩ := int_units' (norm x)
  cases hz : zInv (norm x) with
  | none => exact ⟨by rw [h1, hz]; simp, fun u hu => by cases hu⟩
  | some v =>
    refine ⟨by rw [h1, hz]; simp, fun u hu => ?_⟩
    injection hu with hu; subst hu
    exact h x v (h2 v hz)

end Yuiv.C15
