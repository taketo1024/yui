import Yuiv.Proofs.C06WalkReply
import Yuiv.Proofs.C06ClosureEx
/-
C06Walk — SPECIFICATION OF THE WALK MODEL `C06Canon.componentsOf` (`Link::components`, `Link::seifert_circles` on the
links of the cube reference), the driver's `sets` flag as a theorem, and the UNCONDITIONAL reply `chk=ok` of the C06
driver on braid closures.  Property theorems only.

PART 1 — the walk model, every valid diagram (`validK L`), every choice of crossing types `ts` (`components`: the
diagram's own types; `seifert_circles` / circles of a state `s`: `resolvedTypes L s`):
  * `walk_model_is_c18_model` — `C06Canon.componentsOf L ts` IS the code model `C18.components` of the Rust routine run on
    the same labels and types (`toC18 L ts`), path by path;
  * `walk_model_spec` — it returns (never panics, never runs out of its `4·n` budget) closed non-empty paths; every label
    of the diagram lies on exactly one path exactly once; every path is exactly one class of the equivalence generated
    by "the two ends of a strand through a crossing" (`passPairs`), and runs cyclically along such pairs (`WalkSpec`);
  * `seifert_circles_spec` — for the types of a state these pairs are the arcs of the state: the paths are exactly the
    classes of the arc relation `Conn (statePairs L s)` of `Proofs/KhRefCircles`, each label once, each path a cyclic walk
    along arcs;
  * `c18_components_spec_arcs` — the same for the C18 code model itself (ties `Link::components` / `seifert_circles`
    of C18 to the arc relation of the reference).
PART 2 — the reference's circle list and the `sets` flag:
  * `circles_by_least_label` — `KhRef.circles` lists every circle increasingly and the circles by their least label
    (`edgeLabels` is strictly increasing);
  * `driver_sets_flag` — for every valid diagram and state: the walk-model circles, each sorted, sorted by heads, ARE
    the reference's circle list: the `sets` flag of `Drv/C06.canonReply` is a theorem.
PART 3 — braid closures (`C18.closure n w = .ok l`, `K = toKh l`):
  * `closure_walk_circles_are_strands` — the walked Seifert circles are the strands (one per position `0..n−1`);
  * `closure_seifert_graph_is_path` — `Path::is_adj` on them relates only neighbouring strands, and relates them (both
    ways) when the generator between them occurs;
  * `knot_closure_uses_every_generator`, `knot_closure_determined` — a closure that the walk model finds to be a knot
    uses every `σ_g`, and its orientation is determined (so `KhRef.crossingSigns` = letter signs);
  * `closure_driver_checks` — the flags `hyp` and `sets` for whatever `coloredSeifertCircles` returns (BFS colouring =
    parity of the distance to the start strand);
  * `canon_reply_flags_closure` — ALL flags `dz`, `hyp`, `sets` of the reply are `true`, for every braid closure (links:
    no cycles are built), every `h`, reduced or not: NO per-instance hypothesis;
  * `canon_reply_string_closure` — `canonReply K h base` is `"panic"` (e.g. base edge not on the diagram) or ends with
    `chk=ok`; it is never `"hang"` (`canon_cycles_never_hang`, every valid diagram) and never `err signs`.
-/
namespace Yuiv.C06Walk
open Yuiv Yuiv.KhRef Yuiv.C06Canon Yuiv.C04Inv Yuiv.C06Cycle Yuiv.Drv.C06 Yuiv.C06Closure
open Yuiv.C18 (closure posLab)
open Yuiv.C18Bridge (toKh)

/-- the walk model of the reference level IS the C18 code model of `Link::components` on the same data -/
theorem walk_model_is_c18_model (L : Link) (hwf : ∀ c ∈ L, c.e.size = 4) (ts : Array CT) (hts : ts.size = L.size) :
    componentsOf L ts =
      match C18.components (toC18 L ts) with
      | .ok cs => .ok (cs.map convPath)
      | .panic => .panic
      | .err => .err := by
  have _ := hwf
  have _ := hts
  exact componentsOf_sim L ts

/-- SPECIFICATION of the walk model on a valid diagram, for any crossing types: it returns, and the paths are closed,
non-empty, partition the labels (each label on one path, once), each is one class of `Conn (passPairs L ts)` and runs
cyclically along `passPairs`.  `components L` is the instance `ts = L.map (·.ct)` -/
theorem walk_model_spec (L : Link) (hv : validK L = true) (ts : Array CT) (hts : ts.size = L.size) :
    (∃ paths, componentsOf L ts = .ok paths ∧ WalkSpec L (passPairs L ts) paths) ∧
    (∃ paths, components L = .ok paths ∧ WalkSpec L (passPairs L (L.map (·.ct))) paths) := by
  have _ := hts
  exact ⟨componentsOf_spec L hv ts, components_spec L hv⟩

/-- membership in `passPairs`: the labels at the two ends `j`, `ts[i].pass j` of a strand through crossing `i` -/
theorem passPairs_mem (L : Link) (ts : Array CT) (p : Nat × Nat) :
    p ∈ passPairs L ts ↔ ∃ i j, i < L.size ∧ j < 4 ∧ p = (L[i]!.e[j]!, L[i]!.e[ts[i]!.pass j]!) :=
  mem_passPairs L ts p

/-- SPECIFICATION of `Link::seifert_circles` (any signs) and of the circles of ANY state `s` of a valid diagram: the walk
returns paths that are exactly the classes of the arc relation `Conn (statePairs L s)`, each label of the diagram
exactly once, each path closed, non-empty and a cyclic walk along arcs (in one of the two directions) -/
theorem seifert_circles_spec (L : Link) (hv : validK L = true) (s : Nat) :
    (∃ paths, componentsOf L (resolvedTypes L s) = .ok paths ∧
      (∀ e, e ∈ edgeLabels L ↔ ∃ p ∈ paths, e ∈ p.edges) ∧
      (paths.flatMap (·.edges)).Nodup ∧
      (∀ p ∈ paths, p.closed = true ∧ p.edges ≠ []) ∧
      (∀ p ∈ paths, ∀ e ∈ p.edges, ∀ e', Conn (statePairs L s) e e' ↔ e' ∈ p.edges) ∧
      (∀ p ∈ paths, CyclicChain (fun a b => (a, b) ∈ statePairs L s ∨ (b, a) ∈ statePairs L s) p.edges)) ∧
    ∀ signs, seifertCircles L signs = componentsOf L (resolvedTypes L (oriPresState signs)) := by
  refine ⟨?_, fun _ => rfl⟩
  obtain ⟨paths, h1, W, hcls⟩ := stateCircles_spec L hv s
  refine ⟨paths, h1, W.cover, W.nodup, W.closed, hcls, ?_⟩
  intro p hp k hk
  have := W.cyc p hp k hk
  simp only [List.mem_append, List.mem_map, Prod.mk.injEq, Prod.exists] at this
  rcases this with h | ⟨a, b, hab, rfl, rfl⟩
  · exact Or.inl h
  · exact Or.inr hab

/-- the same for the C18 code model of the Rust routine: on the labels of a valid diagram with the types of a state,
`C18.components` returns the classes of the arc relation of the reference -/
theorem c18_components_spec_arcs (L : Link) (hv : validK L = true) (s : Nat) :
    ∃ cs, C18.components (toC18 L (resolvedTypes L s)) = .ok cs ∧
      WalkSpec L (statePairs L s ++ (statePairs L s).map (fun p => (p.2, p.1))) (cs.map convPath) ∧
      ∀ p ∈ cs, ∀ e ∈ p.edges, ∀ e', Conn (statePairs L s) e e' ↔ e' ∈ p.edges := by
  obtain ⟨cs, h1, W⟩ := c18_components_spec L hv (resolvedTypes L s)
  refine ⟨cs, h1, W.resolved (wf_of_validK L hv), ?_⟩
  intro p hp e he e'
  rw [← conn_passPairs_resolved L s]
  exact W.cls (convPath p) (List.mem_map_of_mem hp) e he e'

/-- `KhRef.circles` lists every circle increasingly and the circles by increasing least label; `edgeLabels` is strictly
increasing -/
theorem circles_by_least_label (l : Link) (s : Nat) :
    (edgeLabels l).toList.Pairwise (· < ·) ∧
    (∀ i, i < (circles l (edgeLabels l) s).size →
      ((circles l (edgeLabels l) s)[i]!).toList.Pairwise (· < ·)) ∧
    (∀ i j, i < j → j < (circles l (edgeLabels l) s).size →
      ((circles l (edgeLabels l) s)[i]!)[0]! < ((circles l (edgeLabels l) s)[j]!)[0]!) :=
  ⟨edgeLabels_sorted l, (circles_sorted l s).1, (circles_sorted l s).2⟩

/-- THE `sets` FLAG IS A THEOREM: for every valid diagram and every state, the walk-model circles — every path sorted,
the paths sorted by their heads, exactly the expression of `Drv/C06.canonReply` — are the circle list of the cube
reference at that state (as the cube stores it, for `s < 2^n`) -/
theorem driver_sets_flag (L : Link) (hv : validK L = true) (s : Nat) (paths : List Path)
    (hp : componentsOf L (resolvedTypes L s) = .ok paths) :
    ((paths.map (fun p => sortNat p.edges)).toArray.qsort (fun x y => x.headD 0 < y.headD 0)).toList =
      (circles L (edgeLabels L) s).toList.map (·.toList) ∧
    ∀ (p : Params) (base : Option Nat), s < 2 ^ crossingNum L →
      (((paths.map (fun p => sortNat p.edges)).toArray.qsort (fun x y => x.headD 0 < y.headD 0)).toList ==
        ((({ mkCube L p with base := base } : Cube).circ[s]!).toList.map (·.toList))) = true := by
  have h := sets_flag L hv s paths hp
  refine ⟨h, fun p base hs => ?_⟩
  rw [KhRef.mkCube_circ L p s hs, h]
  exact beq_self_eq_true _

/-- on a valid diagram the construction of the canonical cycles never runs out of budget -/
theorem canon_cycles_never_hang (L : Link) (hv : validK L = true) (signs : List Int) (h : Int) (base : Option Nat) :
    canonCyclesAt L signs h base ≠ .err := by
  obtain ⟨comps, hc, _⟩ := components_spec L hv
  obtain ⟨paths, hp, _⟩ := stateCircles_spec L hv (oriPresState signs)
  have hcs : ∀ e, coloredSeifertCircles L signs e ≠ .err := by
    intro e
    unfold coloredSeifertCircles
    rw [hc]
    dsimp only
    split
    · exact fun h => by cases h
    · have : seifertCircles L signs = .ok paths := hp
      rw [this]
      dsimp only
      split
      · exact fun h => by cases h
      · rename_i i _
        obtain ⟨r, hr⟩ := colouring_returns (fun i1 i2 => isAdj L (paths[i1]!).edges (paths[i2]!).edges) ascending
          (fun _ _ => List.Perm.refl _) paths.length i
        rw [hr]
        exact fun h => by cases h
  unfold canonCyclesAt
  rw [hc]
  dsimp only
  split
  · exact fun h => by cases h
  · split
    · exact fun h => by cases h
    · rename_i start _
      have := hcs start
      cases hcc : coloredSeifertCircles L signs start with
      | err => exact absurd hcc this
      | panic => dsimp only; exact fun h => by cases h
      | ok cc => dsimp only; split <;> exact fun h => by cases h

/-- the walk-model Seifert circles of a braid closure are its strands: path `k` is the set of ALL labels of one strand
position `posW k`, and `k ↦ posW k` is a bijection onto `0..n−1` -/
theorem closure_walk_circles_are_strands (n : Nat) (w : List Int) (l : C18.Link) (hcl : closure n w = .ok l) :
    ∃ paths, componentsOf (toKh l) (resolvedTypes (toKh l) (braidState w)) = .ok paths ∧
      StrandPaths n w (toKh l) paths := by
  obtain ⟨paths, hp, _⟩ := stateCircles_spec (toKh l) (validK_toKh l (C18.closure_valid' n w l hcl)) (braidState w)
  exact ⟨paths, hp, strandPaths n w l hcl paths hp⟩

/-- the Seifert graph of a braid closure (adjacency `Path::is_adj` of `colored_seifert_circles`) is a sub-graph of the
path `0 — 1 — … — n−1` on the strands, and contains the edge `g — (g+1)` (both ways) whenever `σ_g` occurs -/
theorem closure_seifert_graph_is_path (n : Nat) (w : List Int) (l : C18.Link) (hcl : closure n w = .ok l)
    (paths : List Path) (hp : componentsOf (toKh l) (resolvedTypes (toKh l) (braidState w)) = .ok paths) :
    (∀ u v, isAdj (toKh l) (paths[u]!).edges (paths[v]!).edges = true →
      u < paths.length ∧ v < paths.length ∧
        (posW n w paths u = posW n w paths v + 1 ∨ posW n w paths v = posW n w paths u + 1)) ∧
    ((∀ g, g + 1 < n → ∃ j, j < w.length ∧ (w.getD j 0).natAbs - 1 = g) →
      ∀ u v, u < paths.length → v < paths.length → posW n w paths u + 1 = posW n w paths v →
        isAdj (toKh l) (paths[u]!).edges (paths[v]!).edges = true ∧
        isAdj (toKh l) (paths[v]!).edges (paths[u]!).edges = true) :=
  ⟨isAdj_pos n w l hcl paths (strandPaths n w l hcl paths hp),
    fun hgen => isAdj_of_pos n w l hcl paths (strandPaths n w l hcl paths hp) hgen⟩

/-- BFS 2-colouring of a path graph: the colour is the parity of the distance to the start vertex -/
theorem bfs_colours_path (adj : Nat → Nat → Bool) (m n i : Nat) (posW : Nat → Nat) (hi : i < m)
    (hadj : ∀ u v, adj u v = true → u < m ∧ v < m ∧ (posW u = posW v + 1 ∨ posW v = posW u + 1))
    (hnb : ∀ u v, u < m → v < m → posW u + 1 = posW v → adj u v = true ∧ adj v u = true)
    (hinj : ∀ u v, u < m → v < m → posW u = posW v → u = v)
    (hlt : ∀ u, u < m → posW u < n)
    (hsurj : ∀ k, k < n → ∃ u, u < m ∧ posW u = k)
    (col : Nat → Colour) (rem : List Nat) (hres : colouring adj ascending m i = some (col, rem)) :
    ∀ u, u < m → col u = if (posW u + posW i) % 2 = 0 then Colour.a else Colour.b := by
  intro u hu
  have hspec := colouring_spec adj ascending (fun _ _ => List.Perm.refl _) m i hi
    (fun k => if (posW k + posW i) % 2 = 0 then Colour.a else Colour.b) (fun u v huv => parity_proper i posW u v (hadj u v huv).2.2)
    (if_pos (by omega)) col rem hres u
  exact hspec.1 hu (path_reach adj m n i posW hi hnb hinj hlt hsurj u hu)

/-- a braid closure that is a KNOT (the walk model finds one component) uses every generator -/
theorem knot_closure_uses_every_generator (n : Nat) (w : List Int) (l : C18.Link) (hcl : closure n w = .ok l)
    (comps : List Path) (hc : components (toKh l) = .ok comps) (h1 : comps.length = 1) :
    ∀ g, g + 1 < n → ∃ j, j < w.length ∧ (w.getD j 0).natAbs - 1 = g :=
  every_generator_of_knot n w l hcl comps hc h1

/-- a valid diagram that is a knot is `Determined` (every slot is connected to an under-strand entrance); for a knot
closure the reference's orientation preserving state is therefore `braidState w` -/
theorem knot_closure_determined (n : Nat) (w : List Int) (l : C18.Link) (hcl : closure n w = .ok l)
    (comps : List Path) (hc : components (toKh l) = .ok comps) (h1 : comps.length = 1) :
    C18.Determined l ∧
    ∀ sg, KhRef.crossingSigns (toKh l) = some sg → oriPresState sg.toList = braidState w :=
  ⟨determined_of_knot l (C18.closure_valid' n w l hcl) comps hc h1,
    fun sg hsg => (knot_closure_facts n w l hcl comps hc h1 sg hsg).2⟩

/-- THE DRIVER'S CHECKS on a braid closure whose word uses every generator, at the orientation preserving state: for
whatever `coloredSeifertCircles` returns, `hyp` (`crossingsBicoloured`) holds and `sets` holds -/
theorem closure_driver_checks (n : Nat) (w : List Int) (l : C18.Link) (hcl : closure n w = .ok l)
    (hgen : ∀ g, g + 1 < n → ∃ j, j < w.length ∧ (w.getD j 0).natAbs - 1 = g)
    (signs : List Int) (hso : oriPresState signs = braidState w) (start : Nat) (cc : List (Path × Colour))
    (hcc : coloredSeifertCircles (toKh l) signs start = .ok cc) :
    crossingsBicoloured (toKh l) cc = true ∧
    ((cc.map (fun pc => sortNat pc.1.edges)).toArray.qsort (fun x y => x.headD 0 < y.headD 0)).toList =
      (circles (toKh l) (edgeLabels (toKh l)) (braidState w)).toList.map (·.toList) := by
  obtain ⟨paths, i, col, rem, hs, hi, hc, rfl⟩ := coloredSeifertCircles_ok _ _ _ _ hcc
  have hp : componentsOf (toKh l) (resolvedTypes (toKh l) (braidState w)) = .ok paths := by
    rw [← hso]; exact hs
  have hv := validK_toKh l (C18.closure_valid' n w l hcl)
  have S := strandPaths n w l hcl paths hp
  have him : i < paths.length := by
    rw [List.findIdx?_eq_some_iff_getElem] at hi
    exact hi.1
  have hcol := path_colouring_ne (fun i1 i2 => isAdj (toKh l) (paths[i1]!).edges (paths[i2]!).edges)
    paths.length n i (posW n w paths) him
    (fun u v h => isAdj_pos n w l hcl paths S u v h)
    (fun u v hu hv' h => isAdj_of_pos n w l hcl paths S hgen u v hu hv' h)
    S.inj S.lt S.surj col rem hc
  refine ⟨crossingsBicoloured_closure n w l hcl paths S col hcol, ?_⟩
  have := sets_flag (toKh l) hv (braidState w) paths hp
  rw [← this, List.map_map]
  have e : (List.range paths.length).map ((fun pc : Path × Colour => sortNat pc.1.edges) ∘ fun k => (paths[k]!, col k)) =
      paths.map (fun p => sortNat p.edges) := range_map_getElem! paths (fun p => sortNat p.edges)
  rw [e]

/-- **UNCONDITIONAL.**  For EVERY braid closure the code builds (`closure n w = .ok l`; knot or link, any `h`, reduced
or not), with the reference's own signs `sg` and whatever cycles `canonCyclesAt` returns: the three flags of
`Drv/C06.canonReply` — `dz` (`replyDz`), `hyp` and `sets` (`replyFlags`, the driver's expressions verbatim) — are
`true`.  No per-instance hypothesis, no check evaluated -/
theorem canon_reply_flags_closure (n : Nat) (w : List Int) (l : C18.Link) (hcl : closure n w = .ok l)
    (sg : Array Int) (hsg : KhRef.crossingSigns (toKh l) = some sg) (h : Int) (base : Option Nat) (zs : List Chain)
    (hz : canonCyclesAt (toKh l) sg.toList h base = .ok zs) :
    replyDz (toKh l) h base zs = true ∧ replyFlags (toKh l) sg.toList h base zs = (true, true) := by
  have hv := validK_toKh l (C18.closure_valid' n w l hcl)
  rcases canonCyclesAt_cc _ _ _ _ _ hz with rfl | ⟨comps, start, cc, hc, h1, hstart, hcc, _⟩
  · refine ⟨rfl, ?_⟩
    unfold replyFlags
    dsimp only
    split <;> rfl
  · obtain ⟨hgen, hso⟩ := knot_closure_facts n w l hcl comps hc h1 sg hsg
    have hs : braidState w < 2 ^ crossingNum (toKh l) := by
      obtain ⟨ins, outs, hB⟩ := C18.closure_bform n w l hcl
      rw [crossingNum_toKh_closure hB]; exact braidState_lt w
    have hchk : ∀ start cc, (match base with | some e => some e | none => firstEdge (toKh l)) = some start →
        coloredSeifertCircles (toKh l) sg.toList start = .ok cc →
        crossingsBicoloured (toKh l) cc = true ∧
        (((cc.map (fun pc => sortNat pc.1.edges)).toArray.qsort (fun x y => x.headD 0 < y.headD 0)).toList
          == ((({ mkCube (toKh l) ⟨h, 0, false⟩ with base := base } : Cube).circ[oriPresState sg.toList]!).toList.map
                (·.toList))) = true := by
      intro start cc _ hcc
      obtain ⟨c1, c2⟩ := closure_driver_checks n w l hcl hgen sg.toList hso start cc hcc
      refine ⟨c1, ?_⟩
      rw [hso, KhRef.mkCube_circ _ _ _ hs, c2]
      exact beq_self_eq_true _
    refine ⟨canon_reply_dz (toKh l) hv sg hsg h base zs hz hchk, ?_⟩
    unfold replyFlags
    dsimp only
    obtain ⟨c1, c2⟩ := hchk start cc hstart hcc
    cases base with
    | some e =>
      simp only [Option.some.injEq] at hstart
      subst hstart
      dsimp only
      split
      · rfl
      · rw [hcc]
        exact Prod.ext c1 c2
    | none =>
      simp only at hstart
      dsimp only
      rw [hstart]
      dsimp only
      split
      · rfl
      · rw [hcc]
        exact Prod.ext c1 c2

/-- the reply string itself: on every braid closure `canonReply` answers `panic` (the library's `unwrap`/`assert`: e.g.
the base edge is not an edge of the diagram) or a line ending in `chk=ok` — never `err signs`, never `hang`, never
`chk=fail(…)` -/
theorem canon_reply_string_closure (n : Nat) (w : List Int) (l : C18.Link) (hcl : closure n w = .ok l) (h : Int)
    (base : Option Nat) :
    canonReply (toKh l) h base = "panic" ∨ ∃ pre, canonReply (toKh l) h base = pre ++ " chk=ok" := by
  obtain ⟨s, _, hsg⟩ := C18Bridge.khSigns_eq l (C18.closure_valid' n w l hcl)
  cases hz : canonCyclesAt (toKh l) ((s.map C18Bridge.encSign).toArray).toList h base with
  | panic => exact Or.inl (canonReply_panic _ h base _ hsg hz)
  | err => exact absurd hz (canon_cycles_never_hang _ (validK_toKh l (C18.closure_valid' n w l hcl)) _ h base)
  | ok zs =>
    obtain ⟨k1, k2⟩ := canon_reply_flags_closure n w l hcl _ hsg h base zs hz
    exact Or.inr (canonReply_ok _ h base _ zs hsg hz k1 k2)

/-- instances: the figure eight closure `σ₁σ₂⁻¹σ₁σ₂⁻¹` (a knot), Lee theory `h = 2` unreduced, and the Hopf link closure
reduced at edge `0` -/
example : (canonReply (toKh fig8B) 2 none = "panic" ∨ ∃ pre, canonReply (toKh fig8B) 2 none = pre ++ " chk=ok") ∧
    (canonReply (toKh hopfB) 3 (some 0) = "panic" ∨ ∃ pre, canonReply (toKh hopfB) 3 (some 0) = pre ++ " chk=ok") :=
  ⟨canon_reply_string_closure 3 [1, -2, 1, -2] fig8B closure_fig8B 2 none,
    canon_reply_string_closure 2 [-1, -1] hopfB closure_hopfB 3 (some 0)⟩

/-- the walk specification at the trefoil closure: it returns, and the paths partition the six labels -/
example : ∃ paths, componentsOf (toKh trefoilB) (resolvedTypes (toKh trefoilB) 0) = .ok paths ∧
    (paths.flatMap (·.edges)).Nodup ∧ ∀ e, e ∈ edgeLabels (toKh trefoilB) ↔ ∃ p ∈ paths, e ∈ p.edges := by
  obtain ⟨⟨paths, h1, h2, h3, _⟩, _⟩ := seifert_circles_spec (toKh trefoilB) (by decide +kernel) 0
  exact ⟨paths, h1, h3, h2⟩

/-- the walk on the trefoil closure, evaluated: state `0` (all crossings positive) gives the two strands, the diagram
itself one component -/
example : (match componentsOf (toKh trefoilB) (resolvedTypes (toKh trefoilB) 0) with
      | .ok ps => ps.map (fun p => (p.edges, p.closed)) | _ => []) = [([0, 2, 4], true), ([3, 1, 5], true)] ∧
    (match components (toKh trefoilB) with
      | .ok ps => ps.map (fun p => (p.edges, p.closed)) | _ => []) = [([0, 3, 4, 1, 2, 5], true)] := by
  decide +kernel

end Yuiv.C06Walk
