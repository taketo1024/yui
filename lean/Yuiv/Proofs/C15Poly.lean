import Yuiv.Proofs.C15
import Mathlib.Algebra.Polynomial.Degree.Operations
import Mathlib.Algebra.Polynomial.Degree.SmallDegree
import Mathlib.Algebra.Polynomial.Degree.Domain
import Mathlib.Algebra.Polynomial.Coeff
import Mathlib.Algebra.Field.Basic
import Mathlib.Tactic.Ring
import Mathlib.Tactic.LinearCombination
/-
C15 — `Poly<'x', R>::div_rem` (poly.rs) and `HPoly::div_rem` (h_poly.rs) over a field given through `FieldRep`
(shown in Proofs/C15FieldModel for `ratOps`, `K = ℚ`, and `ffOps p`, `K = ZMod p`, any prime `p`).  A coefficient
list denotes `toPoly φ f = Σ φ(fᵢ) Xⁱ ∈ K[X]`; canonical lists (valid coefficients, no trailing zero) are determined
by their polynomials (`canon_inj`), and `polyOps E` on them is an `EucRep` (`Poly.eucRep`).
-/
namespace Yuiv.C15
open Polynomial

/-- what `Poly::div_rem` / `HPoly::div_rem` assume of the coefficient type (`R: Field`): the operations of
`E` compute, on the valid representatives `V` (e.g. canonical fractions, residues `< p`), the operations
of a field `K` through an interpretation `φ` that is injective on valid representatives. -/
structure FieldRep {F K : Type} [Field K] (E : EucOps F) (V : F → Prop) (φ : F → K) : Prop where
  inj : ∀ a b, V a → V b → φ a = φ b → a = b
  v_zero : V E.zero
  phi_zero : φ E.zero = 0
  v_one : V E.one
  phi_one : φ E.one = 1
  isZero_iff : ∀ a, V a → (E.isZero a = true ↔ φ a = 0)
  isOne_iff : ∀ a, V a → (E.isOne a = true ↔ φ a = 1)
  add : ∀ a b, V a → V b → V (E.add a b) ∧ φ (E.add a b) = φ a + φ b
  sub : ∀ a b, V a → V b → V (E.sub a b) ∧ φ (E.sub a b) = φ a - φ b
  mul : ∀ a b, V a → V b → V (E.mul a b) ∧ φ (E.mul a b) = φ a * φ b
  div : ∀ a b, V a → V b → φ b ≠ 0 → V (E.div a b) ∧ φ (E.div a b) = φ a / φ b
  normUnit : ∀ a, V a → V (E.normUnit a) ∧ φ (E.normUnit a) ≠ 0

theorem FieldRep.of_field {F : Type} [Field F] (E : EucOps F)
    (h0 : E.zero = 0) (h1 : E.one = 1) (hz : ∀ a, E.isZero a = true ↔ a = 0) (ho : ∀ a, E.isOne a = true ↔ a = 1)
    (ha : ∀ a b, E.add a b = a + b) (hs : ∀ a b, E.sub a b = a - b) (hm : ∀ a b, E.mul a b = a * b)
    (hd : ∀ a b, b ≠ 0 → E.div a b = a / b) (hu : ∀ a, E.normUnit a ≠ 0) : FieldRep E (fun _ => True) id where
  inj := fun _ _ _ _ h => h
  v_zero := trivial
  phi_zero := h0
  v_one := trivial
  phi_one := h1
  isZero_iff := fun a _ => hz a
  isOne_iff := fun a _ => ho a
  add := fun a b _ _ => ⟨trivial, ha a b⟩
  sub := fun a b _ _ => ⟨trivial, hs a b⟩
  mul := fun a b _ _ => ⟨trivial, hm a b⟩
  div := fun a b _ _ hb => ⟨trivial, hd a b hb⟩
  normUnit := fun a _ => ⟨trivial, hu a⟩

namespace Poly
variable {F K : Type} [Field K] {E : EucOps F} {V : F → Prop} {φ : F → K}

/-- all coefficients are valid representatives -/
def PV (V : F → Prop) (f : List F) : Prop := ∀ x ∈ f, V x

/-- canonical coefficient list: valid coefficients, no trailing zero (the form of `Poly`'s term map) -/
def Canon (E : EucOps F) (V : F → Prop) (f : List F) : Prop :=
  PV V f ∧ ∀ c, f.getLast? = some c → E.isZero c = false

/-- the polynomial `Σ φ(fᵢ) Xⁱ` of `K[X]` denoted by a coefficient list -/
noncomputable def toPoly (φ : F → K) : List F → K[X]
  | [] => 0
  | x :: f => C (φ x) + X * toPoly φ f

@[simp] theorem toPoly_nil : toPoly φ ([] : List F) = 0 := rfl
@[simp] theorem toPoly_cons (x : F) (f : List F) : toPoly φ (x :: f) = C (φ x) + X * toPoly φ f := rfl

theorem pv_nil : PV V ([] : List F) := fun _ h => by cases h
theorem pv_cons {x : F} {f : List F} : PV V (x :: f) ↔ V x ∧ PV V f := by
  simp [PV]
theorem pv_append {f g : List F} : PV V (f ++ g) ↔ PV V f ∧ PV V g := by
  simp only [PV, List.mem_append]
  exact ⟨fun h => ⟨fun x hx => h x (Or.inl hx), fun x hx => h x (Or.inr hx)⟩,
    fun h x hx => hx.elim (h.1 x) (h.2 x)⟩

theorem toPoly_append (f g : List F) :
    toPoly φ (f ++ g) = toPoly φ f + X ^ f.length * toPoly φ g := by
  induction f with
  | nil => simp
  | cons x f ih => simp only [List.cons_append, toPoly_cons, ih, List.length_cons]; ring

theorem coeff_toPoly (f : List F) (i : Nat) :
    (toPoly φ f).coeff i = ((f[i]?).map φ).getD 0 := by
  induction f generalizing i with
  | nil => simp
  | cons x f ih =>
    cases i with
    | zero => simp
    | succ i => simp [coeff_X_mul, ih, coeff_C_succ]

theorem trim_append_one (f : List F) (c : F) :
    trim E (f ++ [c]) = if E.isZero c then trim E f else f ++ [c] := by
  unfold trim
  rw [List.reverse_append, List.reverse_singleton, List.singleton_append, List.dropWhile_cons]
  split <;> simp

theorem trim_nil : trim E ([] : List F) = [] := rfl

variable (H : FieldRep E V φ)
include H

theorem toPoly_trim (f : List F) (hf : PV V f) : toPoly φ (trim E f) = toPoly φ f := by
  induction f using List.reverseRecOn with
  | nil => rfl
  | append_singleton f c ih =>
    rw [trim_append_one]
    have hv := pv_append.1 hf
    split
    · rename_i hz
      have : φ c = 0 := (H.isZero_iff c (hv.2 c (by simp))).1 hz
      rw [ih hv.1, toPoly_append]; simp [this]
    · rfl

omit [Field K] H in
theorem canon_trim (f : List F) (hf : PV V f) : Canon E V (trim E f) := by
  induction f using List.reverseRecOn with
  | nil => exact ⟨pv_nil, by simp [trim_nil]⟩
  | append_singleton f c ih =>
    rw [trim_append_one]
    have hv := pv_append.1 hf
    split
    · exact ih hv.1
    · rename_i hz
      refine ⟨hf, fun d hd => ?_⟩
      rw [List.getLast?_append_of_ne_nil _ (by simp)] at hd
      simp at hd; subst hd; simpa using hz

omit H in
theorem trim_of_canon (f : List F) (hf : Canon E V f) : trim E f = f := by
  induction f using List.reverseRecOn with
  | nil => rfl
  | append_singleton f c _ =>
    rw [trim_append_one]
    have := hf.2 c (by simp)
    simp [this]

omit H in
theorem length_le_of_degree_lt (f : List F) (n : Nat) (h : f.length ≤ n) :
    (toPoly φ f).degree < n := by
  rw [degree_lt_iff_coeff_zero]
  intro m hm
  rw [coeff_toPoly, List.getElem?_eq_none (by omega)]; rfl

theorem canon_last_ne (f : List F) (hf : Canon E V f) (hne : f ≠ []) :
    (toPoly φ f).coeff (f.length - 1) ≠ 0 := by
  rw [coeff_toPoly]
  have hl : f.length - 1 < f.length := by
    have := List.length_pos_of_ne_nil hne; omega
  rw [List.getElem?_eq_getElem hl]
  simp only [Option.map_some, Option.getD_some]
  have hlast : f.getLast? = some f[f.length - 1] := by
    rw [List.getLast?_eq_getElem?, List.getElem?_eq_getElem hl]
  have hz := hf.2 _ hlast
  have hv : V f[f.length - 1] := hf.1 _ (List.getElem_mem hl)
  intro h0
  have := (H.isZero_iff _ hv).2 h0
  rw [hz] at this; cases this

theorem length_le_iff (f : List F) (hf : Canon E V f) (n : Nat) :
    f.length ≤ n ↔ (toPoly φ f).degree < n := by
  refine ⟨length_le_of_degree_lt f n, fun h => ?_⟩
  by_contra hlt
  have hne : f ≠ [] := by rintro rfl; simp at hlt
  rw [degree_lt_iff_coeff_zero] at h
  exact canon_last_ne H f hf hne (h _ (by omega))

theorem toPoly_eq_zero_iff (f : List F) (hf : Canon E V f) : toPoly φ f = 0 ↔ f = [] := by
  refine ⟨fun h => ?_, fun h => by rw [h]; rfl⟩
  have := (length_le_iff H f hf 0).2 (by rw [h]; simp)
  exact List.length_eq_zero_iff.1 (by omega)

theorem canon_inj (f g : List F) (hf : Canon E V f) (hg : Canon E V g)
    (h : toPoly φ f = toPoly φ g) : f = g := by
  have hl : f.length = g.length := by
    have h1 := (length_le_iff H f hf g.length).2 (by rw [h]; exact length_le_of_degree_lt g _ le_rfl)
    have h2 := (length_le_iff H g hg f.length).2 (by rw [← h]; exact length_le_of_degree_lt f _ le_rfl)
    omega
  apply List.ext_getElem hl
  intro i h1 h2
  have := congrArg (fun p => p.coeff i) h
  simp only [coeff_toPoly, List.getElem?_eq_getElem h1, List.getElem?_eq_getElem h2,
    Option.map_some, Option.getD_some] at this
  exact H.inj _ _ (hf.1 _ (List.getElem_mem h1)) (hg.1 _ (List.getElem_mem h2)) this

omit H in
theorem map_lin (h : F → F) (t : K) (hh : ∀ y, V y → V (h y) ∧ φ (h y) = t * φ y) (g : List F)
    (hg : PV V g) : PV V (g.map h) ∧ toPoly φ (g.map h) = C t * toPoly φ g := by
  induction g with
  | nil => exact ⟨pv_nil, by simp⟩
  | cons y g ih =>
    have hv := pv_cons.1 hg
    have := ih hv.2
    refine ⟨?_, ?_⟩
    · rw [List.map_cons]; exact pv_cons.2 ⟨(hh y hv.1).1, this.1⟩
    · rw [List.map_cons, toPoly_cons, toPoly_cons, this.2, (hh y hv.1).2, C_mul]; ring

theorem zipLong_lin (op : F → F → F) (s : K)
    (hop : ∀ a b, V a → V b → V (op a b) ∧ φ (op a b) = φ a + s * φ b)
    (f g : List F) (hf : PV V f) (hg : PV V g) :
    PV V (zipLong E op f g) ∧ toPoly φ (zipLong E op f g) = toPoly φ f + C s * toPoly φ g := by
  induction f generalizing g with
  | nil =>
    rw [zipLong]
    have := map_lin (V := V) (φ := φ) (fun y => op E.zero y) s
      (fun y hy => ⟨(hop _ _ H.v_zero hy).1, by rw [(hop _ _ H.v_zero hy).2, H.phi_zero, zero_add]⟩) g hg
    exact ⟨this.1, by rw [this.2]; simp⟩
  | cons x f ih =>
    cases g with
    | nil =>
      rw [zipLong]
      · have := map_lin (V := V) (φ := φ) (fun y => op y E.zero) 1
          (fun y hy => ⟨(hop _ _ hy H.v_zero).1, by rw [(hop _ _ hy H.v_zero).2, H.phi_zero]; ring⟩) (x :: f) hf
        exact ⟨this.1, by rw [this.2]; simp⟩
      · simp
    | cons y g =>
      rw [zipLong]
      have hv := pv_cons.1 hf
      have hw := pv_cons.1 hg
      have := ih g hv.2 hw.2
      refine ⟨pv_cons.2 ⟨(hop x y hv.1 hw.1).1, this.1⟩, ?_⟩
      rw [toPoly_cons, toPoly_cons, toPoly_cons, this.2, (hop x y hv.1 hw.1).2, C_add, C_mul]; ring

theorem add_spec (f g : List F) (hf : PV V f) (hg : PV V g) :
    Canon E V (add E f g) ∧ toPoly φ (add E f g) = toPoly φ f + toPoly φ g := by
  have := zipLong_lin H E.add 1 (fun a b ha hb => by rw [one_mul]; exact H.add a b ha hb) f g hf hg
  unfold add
  exact ⟨canon_trim _ this.1, by rw [toPoly_trim H _ this.1, this.2]; simp⟩

theorem sub_spec (f g : List F) (hf : PV V f) (hg : PV V g) :
    Canon E V (sub E f g) ∧ toPoly φ (sub E f g) = toPoly φ f - toPoly φ g := by
  have := zipLong_lin H E.sub (-1) (fun a b ha hb => by rw [neg_one_mul, ← sub_eq_add_neg]; exact H.sub a b ha hb) f g hf hg
  unfold sub
  exact ⟨canon_trim _ this.1, by rw [toPoly_trim H _ this.1, this.2]; simp [sub_eq_add_neg]⟩

theorem scale_spec (c : F) (hc : V c) (f : List F) (hf : PV V f) :
    Canon E V (scale E c f) ∧ toPoly φ (scale E c f) = C (φ c) * toPoly φ f := by
  have := map_lin (V := V) (φ := φ) (fun x => E.mul c x) (φ c) (fun y hy => H.mul c y hc hy) f hf
  unfold scale
  exact ⟨canon_trim _ this.1, by rw [toPoly_trim H _ this.1, this.2]⟩

theorem mul_spec (f g : List F) (hf : PV V f) (hg : PV V g) :
    Canon E V (mul E f g) ∧ toPoly φ (mul E f g) = toPoly φ f * toPoly φ g := by
  induction f with
  | nil => rw [mul]; exact ⟨⟨pv_nil, by simp⟩, by simp⟩
  | cons x f ih =>
    have hv := pv_cons.1 hf
    have ih := ih hv.2
    rw [mul]
    have hs := scale_spec H x hv.1 g hg
    generalize mul E f g = m at ih ⊢
    cases m with
    | nil =>
      have ha := add_spec H (scale E x g) [] hs.1.1 pv_nil
      refine ⟨ha.1, Eq.trans ha.2 ?_⟩
      have h0 := ih.2
      rw [toPoly_nil] at h0
      rw [hs.2, toPoly_cons, toPoly_nil, add_mul, mul_assoc, ← h0]; simp
    | cons a t =>
      have ha := add_spec H (scale E x g) (E.zero :: a :: t) hs.1.1 (pv_cons.2 ⟨H.v_zero, ih.1.1⟩)
      refine ⟨ha.1, Eq.trans ha.2 ?_⟩
      rw [hs.2, toPoly_cons E.zero, H.phi_zero, ih.2, toPoly_cons]; simp; ring

theorem toPoly_replicate_zero (k : Nat) : toPoly φ (List.replicate k E.zero) = 0 := by
  induction k with
  | zero => rfl
  | succ k ih => rw [List.replicate_succ, toPoly_cons, ih, H.phi_zero]; simp

theorem mono_spec (k : Nat) (c : F) (hc : V c) :
    PV V (mono E k c) ∧ toPoly φ (mono E k c) = C (φ c) * X ^ k := by
  unfold mono
  split
  · rename_i hz
    rw [(H.isZero_iff c hc).1 hz]; exact ⟨pv_nil, by simp⟩
  · refine ⟨pv_append.2 ⟨fun x hx => ?_, fun x hx => ?_⟩, ?_⟩
    · rw [List.eq_of_mem_replicate hx]; exact H.v_zero
    · simp at hx; subst hx; exact hc
    · rw [toPoly_append, toPoly_replicate_zero H, List.length_replicate]; simp

theorem lead_spec (f : List F) (hf : PV V f) :
    V (lead E f) ∧ φ (lead E f) = (toPoly φ f).coeff (f.length - 1) := by
  unfold lead
  by_cases hne : f = []
  · subst hne; exact ⟨H.v_zero, by simp [H.phi_zero]⟩
  · have hl : f.length - 1 < f.length := by
      have := List.length_pos_of_ne_nil hne; omega
    rw [List.getLast?_eq_getElem?, List.getElem?_eq_getElem hl, coeff_toPoly, List.getElem?_eq_getElem hl]
    exact ⟨hf _ (List.getElem_mem hl), rfl⟩

/-- one round of the closure `iter`: the division identity is kept, the remainder loses its leading term -/
theorem divIter_spec (r g : List F) (hr : Canon E V r) (hg : Canon E V g) (hg0 : g ≠ []) :
    PV V (divIter E r g).1 ∧ Canon E V (divIter E r g).2 ∧
    toPoly φ r = toPoly φ (divIter E r g).1 * toPoly φ g + toPoly φ (divIter E r g).2 ∧
    (divIter E r g).2.length ≤ max (r.length - 1) (g.length - 1) := by
  unfold divIter deg
  split
  · refine ⟨pv_nil, hr, by simp, ?_⟩
    show r.length ≤ _
    omega
  · rename_i hdeg
    simp only
    have hlr := lead_spec H r hr.1
    have hlg := lead_spec H g hg.1
    have hgne : φ (lead E g) ≠ 0 := by rw [hlg.2]; exact canon_last_ne H g hg hg0
    have hc := H.div _ _ hlr.1 hlg.1 hgne
    have hm := mono_spec H (r.length - 1 - (g.length - 1)) _ hc.1
    have hmul := mul_spec H _ g hm.1 hg.1
    have hs := sub_spec H r _ hr.1 hmul.1.1
    refine ⟨hm.1, hs.1, by rw [hs.2, hmul.2]; ring, ?_⟩
    refine le_trans ?_ (le_max_left _ _)
    rw [length_le_iff H _ hs.1, degree_lt_iff_coeff_zero]
    intro m hm'
    rw [hs.2, hmul.2, hm.2, hc.2, coeff_sub, mul_assoc, coeff_C_mul, coeff_X_pow_mul', if_pos (by omega)]
    rcases Nat.lt_or_ge (r.length - 1) m with hlt | hle
    · rw [coeff_toPoly, coeff_toPoly, List.getElem?_eq_none (by omega), List.getElem?_eq_none (by omega)]
      simp
    · have hm1 : m = r.length - 1 := by omega
      subst hm1
      have : r.length - 1 - (r.length - 1 - (g.length - 1)) = g.length - 1 := by omega
      rw [this, ← hlr.2, ← hlg.2, div_mul_cancel₀ _ hgne, sub_self]

omit H [Field K] in
theorem divLoop_succ (g : List F) (n : Nat) (q r : List F) :
    divLoop E g (n + 1) q r = divLoop E g n (add E q (divIter E r g).1) (divIter E r g).2 := rfl

theorem divLoop_spec (f g : List F) (hg : Canon E V g) (hg0 : g ≠ []) (n : Nat) (q r : List F)
    (hq : Canon E V q) (hr : Canon E V r)
    (he : toPoly φ f = toPoly φ q * toPoly φ g + toPoly φ r)
    (hl : r.length ≤ g.length - 1 + n) :
    Canon E V (divLoop E g n q r).1 ∧ Canon E V (divLoop E g n q r).2 ∧
    toPoly φ f = toPoly φ (divLoop E g n q r).1 * toPoly φ g + toPoly φ (divLoop E g n q r).2 ∧
    (divLoop E g n q r).2.length < g.length := by
  induction n generalizing q r with
  | zero =>
    rw [divLoop]
    have := List.length_pos_of_ne_nil hg0
    exact ⟨hq, hr, he, by show r.length < _; omega⟩
  | succ n ih =>
    rw [divLoop_succ]
    have hi := divIter_spec H r g hr hg hg0
    have ha := add_spec H q _ hq.1 hi.1
    refine ih _ _ ha.1 hi.2.1 ?_ ?_
    · rw [ha.2, he, hi.2.2.1]; ring
    · have := hi.2.2.2
      omega

theorem divRem_spec (f g : List F) (hf : Canon E V f) (hg : Canon E V g) (hg0 : g ≠ []) :
    Canon E V (divRem E f g).1 ∧ Canon E V (divRem E f g).2 ∧
    toPoly φ f = toPoly φ (divRem E f g).1 * toPoly φ g + toPoly φ (divRem E f g).2 ∧
    (divRem E f g).2.length < g.length := by
  unfold divRem deg
  refine divLoop_spec H f g hg hg0 _ [] f ⟨pv_nil, by simp⟩ hf (by simp) ?_
  split <;> omega

theorem pred_length_le_degree (g : List F) (hg : Canon E V g) (hg0 : 0 < g.length) :
    ((g.length - 1 : ℕ) : WithBot ℕ) ≤ (toPoly φ g).degree := by
  by_contra hlt
  have := (length_le_iff H g hg (g.length - 1)).2 (not_le.1 hlt)
  omega

theorem degree_lt_of_length_lt (r g : List F) (hg : Canon E V g) (hl : r.length < g.length) :
    (toPoly φ r).degree < (toPoly φ g).degree :=
  lt_of_lt_of_le (length_le_of_degree_lt (φ := φ) r (g.length - 1) (by omega)) (pred_length_le_degree H g hg (by omega))

theorem divRem_unique (f g q r q' r' : List F) (hg : Canon E V g)
    (hq : Canon E V q) (hr : Canon E V r) (hq' : Canon E V q') (hr' : Canon E V r')
    (e : toPoly φ f = toPoly φ q * toPoly φ g + toPoly φ r) (hl : r.length < g.length)
    (e' : toPoly φ f = toPoly φ q' * toPoly φ g + toPoly φ r') (hl' : r'.length < g.length) :
    q = q' ∧ r = r' := by
  have key : (toPoly φ q - toPoly φ q') * toPoly φ g = toPoly φ r' - toPoly φ r := by
    have : toPoly φ q * toPoly φ g + toPoly φ r = toPoly φ q' * toPoly φ g + toPoly φ r' := by rw [← e, ← e']
    linear_combination this
  have hQ : toPoly φ q - toPoly φ q' = 0 := by
    -- otherwise the left side of `key` has degree `≥ deg g`, the right side `< deg g`
    by_contra hne
    have hd : (toPoly φ r' - toPoly φ r).degree < (toPoly φ g).degree :=
      lt_of_le_of_lt (degree_sub_le _ _)
        (max_lt (degree_lt_of_length_lt H r' g hg hl') (degree_lt_of_length_lt H r g hg hl))
    rw [← key, degree_mul] at hd
    have h0 : (0 : WithBot ℕ) ≤ (toPoly φ q - toPoly φ q').degree := zero_le_degree_iff.2 hne
    have : (toPoly φ g).degree ≤ (toPoly φ q - toPoly φ q').degree + (toPoly φ g).degree := by
      calc (toPoly φ g).degree = 0 + (toPoly φ g).degree := (zero_add _).symm
        _ ≤ _ := add_le_add_left h0 _
    exact absurd (lt_of_le_of_lt this hd) (lt_irrefl _)
  rw [hQ, zero_mul] at key
  exact ⟨canon_inj H q q' hq hq' (sub_eq_zero.1 hQ), canon_inj H r r' hr hr' (sub_eq_zero.1 key.symm).symm⟩

end Poly
namespace HP
variable {F K : Type} [Field K] {E : EucOps F} {V : F → Prop} {φ : F → K}

noncomputable def toPoly (φ : F → K) (x : HP F) : K[X] := C (φ x.coeff) * X ^ x.deg

/-- `PartialEq for HPoly`: all zeros are equal, otherwise degree and coefficient agree -/
def Equiv (E : EucOps F) (x y : HP F) : Prop :=
  (isZero E x = true ∧ isZero E y = true) ∨ (x.deg = y.deg ∧ x.coeff = y.coeff)

variable (H : FieldRep E V φ)
include H

/-- `*` through `φ`: degrees add and coefficients multiply, also on the `is_one` shortcut (which returns `x` as stored) -/
theorem mul_spec (x y : HP F) (hx : V x.coeff) (hy : V y.coeff) :
    V (mul E x y).coeff ∧ (mul E x y).deg = x.deg + y.deg ∧ φ (mul E x y).coeff = φ x.coeff * φ y.coeff := by
  unfold mul
  split
  · rename_i h1
    unfold isOne at h1
    rw [Bool.and_eq_true, beq_iff_eq] at h1
    exact ⟨hx, by rw [h1.1]; rfl, by rw [(H.isOne_iff _ hy).1 h1.2, mul_one]⟩
  · exact ⟨(H.mul _ _ hx hy).1, rfl, (H.mul _ _ hx hy).2⟩

theorem divRem_spec (x y : HP F) (hx : V x.coeff) (hy : V y.coeff) (hy0 : isZero E y = false) :
    V (divRem E x y).1.coeff ∧ V (divRem E x y).2.coeff ∧
    toPoly φ x = toPoly φ (divRem E x y).1 * toPoly φ y + toPoly φ (divRem E x y).2 ∧
    (isZero E (divRem E x y).2 = true ∨ (divRem E x y).2.deg < y.deg) ∧
    Equiv E x (add E (mul E (divRem E x y).1 y) (divRem E x y).2) := by
  have hyne : φ y.coeff ≠ 0 := by
    intro h0; have := (H.isZero_iff _ hy).2 h0
    unfold isZero at hy0; rw [hy0] at this; cases this
  have hz : E.isZero E.zero = true := (H.isZero_iff _ H.v_zero).2 H.phi_zero
  unfold divRem
  split
  · rename_i hlt
    refine ⟨H.v_zero, hx, ?_, Or.inr hlt, ?_⟩
    · simp [toPoly, H.phi_zero]
    · simp only
      have hm := mul_spec H ⟨0, E.zero⟩ y H.v_zero hy
      have hm0 : isZero E (mul E ⟨0, E.zero⟩ y) = true :=
        (H.isZero_iff _ hm.1).2 (by rw [hm.2.2, H.phi_zero, zero_mul])
      unfold add; rw [if_pos hm0]; exact Or.inr ⟨rfl, rfl⟩
  · rename_i hge
    have hd := H.div _ _ hx hy hyne
    refine ⟨hd.1, H.v_zero, ?_, Or.inl hz, ?_⟩
    · simp only [toPoly, H.phi_zero, hd.2]
      rw [map_zero, zero_mul, add_zero, mul_mul_mul_comm, ← C_mul, ← pow_add, div_mul_cancel₀ _ hyne,
        Nat.sub_add_cancel (Nat.le_of_not_lt hge)]
    · simp only
      have hr0 : isZero E (⟨0, E.zero⟩ : HP F) = true := hz
      -- the product `(x / y) · y` has the degree of `x` and, through `φ`, its coefficient
      obtain ⟨hv, hdeg, hφ⟩ := mul_spec H ⟨x.deg - y.deg, E.div x.coeff y.coeff⟩ y hd.1 hy
      rw [hd.2, div_mul_cancel₀ _ hyne] at hφ
      have hdeg' : (mul E ⟨x.deg - y.deg, E.div x.coeff y.coeff⟩ y).deg = x.deg :=
        hdeg.trans (Nat.sub_add_cancel (Nat.le_of_not_lt hge))
      unfold add
      split
      · rename_i h0
        left
        refine ⟨?_, hr0⟩
        unfold isZero at h0 ⊢
        rw [H.isZero_iff _ hv, hφ] at h0
        exact (H.isZero_iff _ hx).2 h0
      · exact Or.inr ⟨hdeg'.symm, H.inj _ _ hx hv hφ.symm⟩

end HP

namespace Poly
variable {F K : Type} [Field K] {E : EucOps F} {V : F → Prop} {φ : F → K}

theorem eucRep (H : FieldRep E V φ) :
    EucRep (polyOps E) (Canon E V) (toPoly φ) where
  inj := fun a b ha hb h => canon_inj H a b ha hb h
  v_zero := ⟨pv_nil, by simp [polyOps]⟩
  psi_zero := rfl
  v_one := canon_trim _ (pv_cons.2 ⟨H.v_one, pv_nil⟩)
  psi_one := by
    show toPoly φ (trim E [E.one]) = 1
    rw [toPoly_trim H _ (pv_cons.2 ⟨H.v_one, pv_nil⟩)]; simp [H.phi_one]
  isZero_iff := by
    intro a ha
    rw [toPoly_eq_zero_iff H a ha]
    show a.isEmpty = true ↔ _
    exact List.isEmpty_iff
  isOne_imp := by
    intro a ha h
    change Poly.isOne E a = true at h
    unfold Poly.isOne at h
    split at h
    · rename_i c
      have hv : V c := ha.1 c (by simp)
      simp [(H.isOne_iff c hv).1 h]
    · cases h
  sub := fun a b ha hb => sub_spec H a b ha.1 hb.1
  mul := fun a b ha hb => mul_spec H a b ha.1 hb.1
  div_rem := by
    intro a b ha hb hb0
    have hne : b ≠ [] := fun h => hb0 ((toPoly_eq_zero_iff H b hb).2 h)
    obtain ⟨hq, hr, e, hl⟩ := divRem_spec H a b ha hb hne
    exact ⟨hq, hr, e, hl⟩
  rem_of_dvd := by
    intro a b ha hb hb0 hd
    have hne : b ≠ [] := fun h => hb0 ((toPoly_eq_zero_iff H b hb).2 h)
    obtain ⟨hq, hr, e, hl⟩ := divRem_spec H a b ha hb hne
    have hlt := degree_lt_of_length_lt H _ b hb hl
    refine eq_zero_of_dvd_of_degree_lt ?_ hlt
    have : toPoly φ (divRem E a b).2 = toPoly φ a - toPoly φ (divRem E a b).1 * toPoly φ b :=
      (sub_eq_of_eq_add' e).symm
    show toPoly φ b ∣ toPoly φ (divRem E a b).2
    rw [this]; exact dvd_sub hd (Dvd.intro_left _ rfl)
  normUnit := by
    intro a ha
    have hl := lead_spec H a ha.1
    have hu := H.normUnit _ hl.1
    have hp : PV V [E.normUnit (lead E a)] := pv_cons.2 ⟨hu.1, pv_nil⟩
    refine ⟨canon_trim _ hp, ?_⟩
    show IsUnit (toPoly φ (trim E [E.normUnit (lead E a)]))
    rw [toPoly_trim H _ hp]
    simp only [toPoly_cons, toPoly_nil, mul_zero, add_zero]
    exact isUnit_C.2 (isUnit_iff_ne_zero.2 hu.2)

end Poly
end Yuiv.C15
