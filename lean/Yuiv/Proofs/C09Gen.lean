import Yuiv.Gen.SnfFn
import Yuiv.Proofs.C09Le
/-
`Yuiv.GenSnf.*` is GENERATED from `/repo/yui-matrix/src/dense/snf.rs` by `tools/rs2lean_fn.py fn:snf`; `Yuiv.C09.*` is the
hand-written model of `SnfCalc` (all four transforms always tracked, `Fin` indices).  `ofSt` embeds a model state into
the generated struct (all four `Option` fields `some`); `mapR` lifts it to results.
-/
namespace Yuiv.C09Gen
open Yuiv Res Yuiv.Rust Yuiv.GenSnf Yuiv.C09

variable {α : Type} {m n : Nat}

def ofSt (s : St α m n) : SnfCalcS α m n := ⟨s.t, some s.p, some s.pinv, some s.q, some s.qinv⟩

def mapR {β γ} (f : β → γ) : Res β → Res γ
  | .ok a => .ok (f a)
  | .panic => .panic
  | .err => .err

theorem mapR_ok {β γ} (f : β → γ) (a : β) : mapR f (ok a) = ok (f a) := rfl
theorem mapR_panic {β γ} (f : β → γ) : mapR f (.panic : Res β) = .panic := rfl
theorem mapR_err {β γ} (f : β → γ) : mapR f (.err : Res β) = .err := rfl
theorem mapR_eq_bind {β γ} (f : β → γ) (x : Res β) : mapR f x = x >>= fun a => ok (f a) := by cases x <;> rfl
theorem ite_bind {β γ} (c : Prop) [Decidable c] (x y : Res β) (f : β → Res γ) :
    ((if c then x else y) >>= f) = if c then x >>= f else y >>= f := apply_ite (· >>= f) c x y
theorem bind_congr' {β γ} (x : Res β) {f g : β → Res γ} (h : ∀ a, f a = g a) : (x >>= f) = (x >>= g) :=
  bind_congr h
theorem assert_true : Res.assert true = ok () := rfl
theorem assert_false : Res.assert false = (.panic : Res Unit) := rfl

instance : LawfulMonad Res := LawfulMonad.mk'
  (id_map := fun x => by cases x <;> rfl)
  (pure_bind := fun _ _ => rfl)
  (bind_assoc := fun x _ _ => by cases x <;> rfl)

theorem get_in (A : Mat α m n) (i : Fin m) (j : Fin n) : Dense.get A i.1 j.1 = ok (A.get i j) := by
  simp [Dense.get, i.2, j.2]
theorem swap_rows_in {k l : Nat} (A : Mat α k l) (i j : Fin k) : Dense.swap_rows A i.1 j.1 = ok (swapRows A i j) := by
  simp [Dense.swap_rows, i.2, j.2]
theorem swap_cols_in {k l : Nat} (A : Mat α k l) (i j : Fin l) : Dense.swap_cols A i.1 j.1 = ok (swapCols A i j) := by
  simp [Dense.swap_cols, i.2, j.2]
theorem mul_row_in {k l : Nat} (e : EOps α) (A : Mat α k l) (i : Fin k) (u : α) :
    Dense.mul_row e A i.1 u = ok (mulRow e.toROps A i u) := by simp [Dense.mul_row, i.2]
theorem mul_col_in {k l : Nat} (e : EOps α) (A : Mat α k l) (j : Fin l) (u : α) :
    Dense.mul_col e A j.1 u = ok (mulCol e.toROps A j u) := by simp [Dense.mul_col, j.2]
theorem left_in {k l : Nat} (e : EOps α) (A : Mat α k l) (a b c d : α) (i j : Fin k) :
    Dense.left_elementary e A (a, b, c, d) i.1 j.1 = ok (leftElem e.toROps A a b c d i j) := by
  simp [Dense.left_elementary, i.2, j.2]
theorem right_in {k l : Nat} (e : EOps α) (A : Mat α k l) (a b c d : α) (i j : Fin l) :
    Dense.right_elementary e A (a, b, c, d) i.1 j.1 = ok (rightElem e.toROps A a b c d i j) := by
  simp [Dense.right_elementary, i.2, j.2]

theorem count_foldl {ι : Type} (z : ι → Bool) (l : List ι) (c : Nat) :
    l.foldl (fun c j => if z j then c else c + 1) c = c + (l.filter fun j => !z j).length := by
  induction l generalizing c with
  | nil => simp
  | cons x xs ih =>
    simp only [List.foldl_cons, List.filter_cons]
    cases hz : z x <;> simp [ih] <;> omega

/-- a `for` body that never breaks, on states related by an embedding `φ` of the model's state: `Loop.forGo` is the
monadic fold of the per-index step -/
theorem forGo_eq_foldlM {σ τ : Type} (φ : τ → σ) : ∀ (k : Nat) (g : τ → Fin k → Res τ) (f : Nat → σ → Res (Ctl σ))
    (k0 : Nat) (s : τ),
    (∀ (i : Nat) (h : i < k) (s : τ), f (k0 + i) (φ s) = (g s ⟨i, h⟩ >>= fun s' => ok (Ctl.next (φ s')))) →
    Loop.forGo f k k0 (φ s) = ((List.finRange k).foldlM g s >>= fun s' => ok (φ s', true)) := by
  intro k
  induction k with
  | zero => intro g f k0 s _; simp [Loop.forGo]
  | succ k ih =>
    intro g f k0 s hf
    have h0 := hf 0 (Nat.succ_pos k) s
    simp only [Nat.add_zero] at h0
    rw [List.finRange_succ, List.foldlM_cons]
    simp only [List.foldlM_map]
    unfold Loop.forGo
    rw [h0, show g s (0 : Fin (k + 1)) = g s ⟨0, Nat.succ_pos k⟩ from rfl]
    cases hg : g s ⟨0, Nat.succ_pos k⟩ with
    | ok s1 =>
      simp only [bind_ok]
      exact ih (fun s i => g s i.succ) f (k0 + 1) s1 (by
        intro i h s'
        have := hf (i + 1) (Nat.succ_lt_succ h) s'
        rw [show k0 + 1 + i = k0 + (i + 1) by omega]
        exact this)
    | panic => rfl
    | err => rfl

theorem forRange_eq_foldlM {σ τ : Type} (φ : τ → σ) (k : Nat) (g : τ → Fin k → Res τ) (f : Nat → σ → Res (Ctl σ)) (s : τ)
    (hf : ∀ (i : Nat) (h : i < k) (s : τ), f i (φ s) = (g s ⟨i, h⟩ >>= fun s' => ok (Ctl.next (φ s')))) :
    Loop.forRange 0 k f (φ s) = ((List.finRange k).foldlM g s >>= fun s' => ok (φ s', true)) := by
  unfold Loop.forRange
  exact forGo_eq_foldlM φ k g f 0 s (by intro i h s'; simpa using hf i h s')

theorem row_nz_eq' (e : EOps α) (dbg : Bool) (s : St α m n) (i : Fin m) :
    SnfCalc.row_nz e dbg (ofSt s) i.1 = ok (rowNz e s.t i) := by
  unfold SnfCalc.row_nz rowNz
  simp only [ofSt, Dense.row, i.2, dite_true, bind_ok, count_foldl, Nat.zero_add, List.filter_map, List.length_map]
  rfl

theorem forGo_pure {σ : Type} (st : σ → Nat → σ) (d b : Nat) (a : σ) :
    Loop.forGo (fun k acc => ok (Ctl.next (st acc k))) d b a = ok ((List.range' b d).foldl st a, true) := by
  induction d generalizing b a with
  | zero => rfl
  | succ d ih => simp [Loop.forGo, List.range', ih]

theorem filterM_ok {ι : Type} (p : ι → Res Bool) (q : ι → Bool) (l : List ι) (h : ∀ x ∈ l, p x = ok (q x)) :
    Iter.filterM p l = ok (l.filter q) := by
  induction l with
  | nil => rfl
  | cons x xs ih =>
    have hx := h x (by simp)
    have hxs := ih (fun y hy => h y (by simp [hy]))
    simp only [Iter.filterM, hx, hxs, bind_ok, List.filter_cons]

theorem mapM_ok {ι κ : Type} (f : ι → Res κ) (g : ι → κ) (l : List ι) (h : ∀ x ∈ l, f x = ok (g x)) :
    Iter.mapM f l = ok (l.map g) := by
  induction l with
  | nil => rfl
  | cons x xs ih =>
    have hx := h x (by simp)
    have hxs := ih (fun y hy => h y (by simp [hy]))
    simp only [Iter.mapM, hx, hxs, bind_ok, List.map_cons]

theorem minBy_fold {κ : Type} (key : κ → Nat) (l : List κ) :
    l.foldl (fun (acc : Option κ) y => match acc with
        | none => some y
        | some b => if key y < key b then some y else acc) none =
      Iter.minBy (fun a b => compare (key a) (key b)) l := by
  cases l with
  | nil => rfl
  | cons x xs =>
    simp only [List.foldl_cons, Iter.minBy]
    generalize x = b
    induction xs generalizing b with
    | nil => rfl
    | cons y ys ih =>
      simp only [List.foldl_cons]
      by_cases h : key y < key b
      · have hc : compare (key b) (key y) = .gt := Nat.compare_eq_gt.2 h
        simp [h, hc, ih]
      · have hc : ¬ compare (key b) (key y) = .gt := fun hh => h (Nat.compare_eq_gt.1 hh)
        have : (compare (key b) (key y) == Ordering.gt) = false := by simpa using hc
        simp [h, this, ih]

section pivot
variable (e : EOps α) (T : Mat α m n) (j : Fin n) (below : Nat)

def qN (k : Nat) : Bool := if h : k < m then !e.isZero (T.get ⟨k, h⟩ j) else false
def rN (k : Nat) : Nat := if h : k < m then rowNz e T ⟨k, h⟩ else 0
def keyStep (acc : Option (Nat × Nat)) (y : Nat × Nat) : Option (Nat × Nat) :=
  match acc with
  | none => some y
  | some b => if y.2 < b.2 then some y else acc
def stepN (acc : Option (Nat × Nat)) (k : Nat) : Option (Nat × Nat) :=
  if below ≤ k && qN e T j k then keyStep acc (k, rN e T k) else acc
/-- the step function of the model's `selectPivot` -/
def stepF (acc : Option (Fin m × Nat)) (i : Fin m) : Option (Fin m × Nat) :=
  if below ≤ i.1 && !e.isZero (T.get i j) then
    let k := rowNz e T i
    match acc with
    | none => some (i, k)
    | some (_, k0) => if k < k0 then some (i, k) else acc
  else acc
def phi (acc : Option (Fin m × Nat)) : Option (Nat × Nat) := acc.map fun p => (p.1.1, p.2)

theorem selectPivot_def : selectPivot e T below j = ((List.finRange m).foldl (stepF e T j below) none).map (·.1) := rfl

theorem phi_step (acc : Option (Fin m × Nat)) (k : Nat) (h : k < m) :
    phi (stepF e T j below acc ⟨k, h⟩) = stepN e T j below (phi acc) k := by
  unfold stepF stepN qN rN keyStep phi
  by_cases hb : below ≤ k
  · cases hz : e.isZero (T.get ⟨k, h⟩ j)
    · cases acc with
      | none => simp [hb, hz, h]
      | some p =>
        obtain ⟨i0, k0⟩ := p
        by_cases hlt : rowNz e T ⟨k, h⟩ < k0 <;> simp [hb, hz, h, hlt]
    · simp [hb, hz, h]
  · simp [hb]

theorem hand_nat :
    phi ((List.finRange m).foldl (stepF e T j below) none) = (List.range' 0 m).foldl (stepN e T j below) none := by
  have h1 := forGo_eq_foldlM (phi (m := m)) m (fun acc i => pure (stepF e T j below acc i))
    (fun k a => ok (Ctl.next (stepN e T j below a k))) 0 none (by
      intro i h s
      simp only [Nat.zero_add, pure_bind, phi_step])
  rw [forGo_pure, List.foldlM_pure] at h1
  simp only [pure_bind, Res.ok.injEq, Prod.mk.injEq, and_true] at h1
  exact h1.symm

theorem stepN_noop (l : List Nat) (a : Option (Nat × Nat)) (h : ∀ k ∈ l, k < below) :
    l.foldl (stepN e T j below) a = a := by
  induction l generalizing a with
  | nil => rfl
  | cons x xs ih =>
    have hx : ¬ below ≤ x := Nat.not_le.2 (h x (by simp))
    simp only [List.foldl_cons]
    rw [show stepN e T j below a x = a by simp [stepN, hx]]
    exact ih a (fun k hk => h k (by simp [hk]))

theorem stepN_above (l : List Nat) (a : Option (Nat × Nat)) (h : ∀ k ∈ l, below ≤ k) :
    l.foldl (stepN e T j below) a =
      ((l.filter (qN e T j)).map fun k => (k, rN e T k)).foldl keyStep a := by
  rw [List.foldl_map, List.foldl_filter]
  induction l generalizing a with
  | nil => rfl
  | cons x xs ih =>
    have hx : below ≤ x := h x (by simp)
    simp only [List.foldl_cons]
    rw [show stepN e T j below a x = (if qN e T j x then keyStep a (x, rN e T x) else a) by simp [stepN, hx]]
    exact ih _ (fun k hk => h k (by simp [hk]))

theorem keyStep_minBy (l : List (Nat × Nat)) :
    l.foldl keyStep none = Iter.minBy (fun a b => compare a.2 b.2) l := by
  have := minBy_fold (fun p : Nat × Nat => p.2) l
  rw [← this]
  congr 1
  funext acc y
  cases acc <;> rfl

theorem nat_fold_eq :
    (List.range' 0 m).foldl (stepN e T j below) none =
      Iter.minBy (fun a b => compare a.2 b.2)
        (((List.range' below (m - below)).filter (qN e T j)).map fun k => (k, rN e T k)) := by
  rw [← keyStep_minBy]
  by_cases hb : below ≤ m
  · have hsplit := (List.range'_append_1 (s := 0) (m := below) (n := m - below)).symm
    rw [show below + (m - below) = m by omega, Nat.zero_add] at hsplit
    rw [hsplit, List.foldl_append, stepN_noop e T j below _ none (by
      intro k hk; have := List.mem_range'_1.1 hk; omega)]
    exact stepN_above e T j below _ none (by intro k hk; have := List.mem_range'_1.1 hk; omega)
  · rw [show m - below = 0 by omega]
    simp only [List.range'_zero, List.filter_nil, List.map_nil, List.foldl_nil]
    exact stepN_noop e T j below _ none (by intro k hk; have := List.mem_range'_1.1 hk; omega)

end pivot

theorem select_pivot_eq' (e : EOps α) (dbg : Bool) (s : St α m n) (below : Nat) (j : Fin n) :
    SnfCalc.select_pivot e dbg (ofSt s) below j.1 = ok ((selectPivot e s.t below j).map Fin.val) := by
  unfold SnfCalc.select_pivot
  have hf : Iter.filterM (SnfCalc.select_pivot_closure1 (m := m) (n := n) e dbg (ofSt s) j.1)
      (List.range' below (m - below)) = ok ((List.range' below (m - below)).filter (qN e s.t j)) := by
    apply filterM_ok
    intro k hk
    have hk' : k < m := by have := List.mem_range'_1.1 hk; omega
    have := get_in s.t ⟨k, hk'⟩ j
    simp only [] at this
    simp [SnfCalc.select_pivot_closure1, ofSt, this, qN, hk']
  have hm : Iter.mapM (SnfCalc.select_pivot_closure2 (m := m) (n := n) e dbg (ofSt s))
      ((List.range' below (m - below)).filter (qN e s.t j)) =
      ok (((List.range' below (m - below)).filter (qN e s.t j)).map fun k => (k, rN e s.t k)) := by
    apply mapM_ok
    intro k hk
    have hk1 := (List.mem_filter.1 hk).1
    have hk' : k < m := by have := List.mem_range'_1.1 hk1; omega
    have := row_nz_eq' e dbg s ⟨k, hk'⟩
    simp only [] at this
    simp [SnfCalc.select_pivot_closure2, this, rN, hk']
  simp only [hf, hm, bind_ok]
  rw [selectPivot_def, Option.map_map]
  have h4 : (SnfCalc.select_pivot_closure4 (m := m) (n := n) e dbg) = fun p : Nat × Nat => p.1 := by
    funext p; cases p; rfl
  have h3 : (SnfCalc.select_pivot_closure3 (m := m) (n := n) e dbg) = fun a b : Nat × Nat => compare a.2 b.2 := rfl
  rw [h4, h3, ← nat_fold_eq e s.t j below, ← hand_nat e s.t j below]
  simp [phi, Option.map_map, Function.comp_def]

theorem forGo_eq_foldlM_range {σ τ : Type} (φ : τ → σ) (g : τ → Nat → Res τ) (f : Nat → σ → Res (Ctl σ)) :
    ∀ (d b : Nat) (s : τ),
      (∀ (k : Nat) (s : τ), b ≤ k → k < b + d → f k (φ s) = (g s k >>= fun s' => ok (Ctl.next (φ s')))) →
      Loop.forGo f d b (φ s) = ((List.range' b d).foldlM g s >>= fun s' => ok (φ s', true)) := by
  intro d
  induction d with
  | zero => intro b s _; simp [Loop.forGo]
  | succ d ih =>
    intro b s hf
    have h0 := hf b s (Nat.le_refl b) (by omega)
    unfold Loop.forGo
    rw [h0, List.range'_succ, List.foldlM_cons]
    cases hg : g s b with
    | ok s1 =>
      simp only [bind_ok]
      exact ih (b + 1) s1 (fun k s' h1 h2 => hf k s' (by omega) (by omega))
    | panic => rfl
    | err => rfl

end Yuiv.C09Gen
