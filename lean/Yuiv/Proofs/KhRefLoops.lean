import Yuiv.Proofs.Loop
import Std.Data.HashMap.Lemmas
/-
The loop shapes of the Khovanov references (`KhRef.khHomology`, `C19.khiHomology`, `KhRef.smithInvariants`) in
functional form, for any element type.  A `for` with a `return` inside is a loop on
`Option ρ × σ`: the value to return, if any, and the loop variables.
-/
namespace Yuiv.KhRefLoops

theorem forIn_none_fold {α ρ σ : Type} (l : List α) (g : σ → α → σ)
    (body : α → Option ρ × σ → Id (ForInStep (Option ρ × σ)))
    (h : ∀ a ∈ l, ∀ st, body a st = pure (ForInStep.yield (none, g st.2 a))) (s : σ) :
    forIn (m := Id) l (none, s) body = pure (none, l.foldl g s) := by
  rw [Loop.forIn_eq_foldl (g := fun st a => (none, g st.2 a)) h]
  congr 1
  induction l generalizing s with
  | nil => rfl
  | cons a l ih => exact ih (fun b hb => h b (List.mem_cons_of_mem _ hb)) _

theorem forIn_exit_dich {α ρ σ : Type} (l : List α) (r : ρ)
    (body : α → Option ρ × σ → Id (ForInStep (Option ρ × σ)))
    (hy : ∀ a ∈ l, ∀ st, (∃ s', body a st = pure (ForInStep.yield (none, s'))) ∨
      (∃ s', body a st = pure (ForInStep.done (some r, s')))) (s : σ) :
    (∃ s', forIn (m := Id) l (none, s) body = pure (none, s')) ∨
      (∃ s', forIn (m := Id) l (none, s) body = pure (some r, s')) := by
  induction l generalizing s with
  | nil => exact Or.inl ⟨s, rfl⟩
  | cons a l ih =>
    rw [List.forIn_cons]
    rcases hy a List.mem_cons_self (none, s) with ⟨s', e⟩ | ⟨s', e⟩
    · rw [e]
      simp only [pure_bind]
      exact ih (fun b hb => hy b (List.mem_cons_of_mem _ hb)) s'
    · rw [e]
      exact Or.inr ⟨s', rfl⟩

theorem forIn_exit {α ρ σ : Type} (l : List α) (r : ρ)
    (body : α → Option ρ × σ → Id (ForInStep (Option ρ × σ)))
    (hy : ∀ a ∈ l, ∀ st, (∃ s', body a st = pure (ForInStep.yield (none, s'))) ∨
      (∃ s', body a st = pure (ForInStep.done (some r, s'))))
    (hx : ∃ a ∈ l, ∀ st, ∃ s', body a st = pure (ForInStep.done (some r, s'))) (s : σ) :
    ∃ s', forIn (m := Id) l (none, s) body = pure (some r, s') := by
  induction l generalizing s with
  | nil => obtain ⟨a, ha, _⟩ := hx; cases ha
  | cons a l ih =>
    rw [List.forIn_cons]
    rcases hy a List.mem_cons_self (none, s) with ⟨s', e⟩ | ⟨s', e⟩
    · rw [e]
      simp only [pure_bind]
      refine ih (fun b hb => hy b (List.mem_cons_of_mem _ hb)) ?_ s'
      obtain ⟨b, hb, hbx⟩ := hx
      rcases List.mem_cons.mp hb with rfl | hb
      · obtain ⟨s'', e'⟩ := hbx (none, s)
        rw [e] at e'
        cases e'
      · exact ⟨b, hb, hbx⟩
    · rw [e]
      exact ⟨s', rfl⟩

/-- the outer round of `for gs in gens do for g in gs do …` with a `return` inside: run the inner loop on `gs`, pass its
exit on -/
def exitOuter {α ρ σ : Type} (inner : α → Option ρ × σ → Id (ForInStep (Option ρ × σ))) (gs : Array α)
    (st : Option ρ × σ) : Id (ForInStep (Option ρ × σ)) := do
  let s ← forIn gs (none, st.2) inner
  match s.1 with
  | some r => pure (ForInStep.done (some r, s.2))
  | none => pure (ForInStep.yield (none, s.2))

theorem exitOuter_fold {α ρ σ : Type} (inner : α → Option ρ × σ → Id (ForInStep (Option ρ × σ))) (g : σ → α → σ)
    (ls : List (Array α)) (h : ∀ gs ∈ ls, ∀ a ∈ gs.toList, ∀ st, inner a st = pure (ForInStep.yield (none, g st.2 a)))
    (s : σ) :
    forIn (m := Id) ls (none, s) (exitOuter inner) = pure (none, ls.foldl (fun s gs => gs.toList.foldl g s) s) := by
  refine forIn_none_fold ls (fun s gs => gs.toList.foldl g s) _ (fun gs hgs st => ?_) s
  unfold exitOuter
  rw [← Array.forIn_toList, forIn_none_fold gs.toList g _ (h gs hgs)]
  rfl

theorem exitOuter_exit {α ρ σ : Type} (inner : α → Option ρ × σ → Id (ForInStep (Option ρ × σ))) (r : ρ)
    (ls : List (Array α))
    (hy : ∀ gs ∈ ls, ∀ a ∈ gs.toList, ∀ st, (∃ s', inner a st = pure (ForInStep.yield (none, s'))) ∨
      (∃ s', inner a st = pure (ForInStep.done (some r, s'))))
    (hx : ∃ gs ∈ ls, ∃ a ∈ gs.toList, ∀ st, ∃ s', inner a st = pure (ForInStep.done (some r, s'))) (s : σ) :
    ∃ s', forIn (m := Id) ls (none, s) (exitOuter inner) = pure (some r, s') := by
  obtain ⟨gs0, hgs0, a0, ha0, hbad⟩ := hx
  refine forIn_exit ls r _ (fun gs hgs st => ?_) ⟨gs0, hgs0, fun st => ?_⟩ s
  · unfold exitOuter
    rw [← Array.forIn_toList]
    rcases forIn_exit_dich gs.toList r inner (hy gs hgs) st.2 with ⟨s', e⟩ | ⟨s', e⟩
    · rw [e]; exact Or.inl ⟨s', rfl⟩
    · rw [e]; exact Or.inr ⟨s', rfl⟩
  · unfold exitOuter
    rw [← Array.forIn_toList]
    obtain ⟨s', e⟩ := forIn_exit gs0.toList r inner (hy gs0 hgs0) ⟨a0, ha0, hbad⟩ st.2
    rw [e]; exact ⟨s', rfl⟩

theorem forIn_filterPush {α β : Type} (g : α → Option β) (f : α → Array β → Id (ForInStep (Array β))) (xs : List α)
    (h : ∀ i ∈ xs, ∀ a, f i a = pure (ForInStep.yield (match g i with | some v => a.push v | none => a)))
    (init : Array β) : forIn (m := Id) xs init f = pure (init ++ (xs.filterMap g).toArray) := by
  rw [Loop.forIn_eq_foldl (g := fun a i => match g i with | some v => a.push v | none => a) h]
  congr 1
  clear h
  induction xs generalizing init with
  | nil => simp
  | cons x xs ih =>
    rw [List.foldl_cons, ih, List.filterMap_cons]
    cases g x with
    | none => rfl
    | some v => simp

theorem flat_fold {α β : Type} (F : α → List β) (qs : List α) (acc : Array β) :
    qs.foldl (fun cells q => cells ++ (F q).toArray) acc = acc ++ (qs.flatMap F).toArray := by
  induction qs generalizing acc with
  | nil => simp
  | cons q qs ih => rw [List.foldl_cons, ih]; simp

theorem pushNew_list {α : Type} [BEq α] [LawfulBEq α] (ys : List α) (xs : Array α) (h : xs.toList.Nodup) :
    (ys.foldl (fun xs y => if xs.contains y then xs else xs.push y) xs).toList.Nodup ∧
    ∀ z, z ∈ ys.foldl (fun xs y => if xs.contains y then xs else xs.push y) xs ↔ z ∈ xs ∨ z ∈ ys := by
  induction ys generalizing xs with
  | nil => simp [h]
  | cons y ys ih =>
    rw [List.foldl_cons]
    by_cases hy : xs.contains y = true
    · rw [if_pos hy]
      obtain ⟨i1, i2⟩ := ih xs h
      refine ⟨i1, fun z => ?_⟩
      have hy' : y ∈ xs := by simpa using hy
      rw [i2, List.mem_cons]
      constructor
      · rintro (h | h)
        · exact Or.inl h
        · exact Or.inr (Or.inr h)
      · rintro (h | rfl | h)
        · exact Or.inl h
        · exact Or.inl hy'
        · exact Or.inr h
    · rw [if_neg hy]
      have hy' : y ∉ xs := by simpa using hy
      obtain ⟨i1, i2⟩ := ih (xs.push y) (by
        rw [Array.toList_push, List.nodup_append]
        exact ⟨h, by simp, fun a ha b hb => by
          rw [List.mem_singleton] at hb; subst hb; exact fun e => hy' (e ▸ Array.mem_toList_iff.1 ha)⟩)
      refine ⟨i1, fun z => ?_⟩
      rw [i2, Array.mem_push, List.mem_cons, or_assoc]

theorem collect_keys {α β γ : Type} [BEq α] [LawfulBEq α] (key : γ → α) (inner : β → List γ) (ls : List β)
    (xs : Array α) (h : xs.toList.Nodup) :
    (ls.foldl (fun xs b => (inner b).foldl (fun xs g => if xs.contains (key g) then xs else xs.push (key g)) xs)
      xs).toList.Nodup ∧
    ∀ z, z ∈ ls.foldl (fun xs b => (inner b).foldl (fun xs g =>
        if xs.contains (key g) then xs else xs.push (key g)) xs) xs ↔ z ∈ xs ∨ ∃ b ∈ ls, ∃ g ∈ inner b, key g = z := by
  have e : ls.foldl (fun xs b => (inner b).foldl (fun xs g =>
        if xs.contains (key g) then xs else xs.push (key g)) xs) xs =
      (ls.flatMap (fun b => (inner b).map key)).foldl (fun xs y => if xs.contains y then xs else xs.push y) xs := by
    rw [List.foldl_flatMap]
    simp only [List.foldl_map]
  rw [e]
  obtain ⟨a1, a2⟩ := pushNew_list (ls.flatMap (fun b => (inner b).map key)) xs h
  refine ⟨a1, fun z => ?_⟩
  rw [a2]
  simp only [List.mem_flatMap, List.mem_map]

theorem buckets_toList {α : Type} (key : Nat → Nat) (f : Nat → Array α) (n : Nat) (hk : ∀ s, key s ≤ n) (w m : Nat) :
    (((List.range m).foldl (fun (a : Array (Array α)) s => a.set! (key s) (a[key s]! ++ f s))
        (Array.replicate (n + 1) #[])).size = n + 1) ∧
    (((List.range m).foldl (fun (a : Array (Array α)) s => a.set! (key s) (a[key s]! ++ f s))
        (Array.replicate (n + 1) #[]))[w]!).toList =
      ((List.range m).filter (fun s => key s == w)).flatMap (fun s => (f s).toList) := by
  induction m with
  | zero =>
    refine ⟨by simp, ?_⟩
    by_cases hw : w < n + 1
    · rw [List.range_zero, List.foldl_nil, getElem!_pos _ w (by simpa using hw)]; simp
    · rw [List.range_zero, List.foldl_nil, getElem!_neg _ w (by simpa using hw)]; rfl
  | succ m ih =>
    obtain ⟨ih1, ih2⟩ := ih
    rw [List.range_succ, List.foldl_append, List.foldl_cons, List.foldl_nil, List.filter_append, List.flatMap_append]
    generalize (List.range m).foldl (fun (a : Array (Array α)) s => a.set! (key s) (a[key s]! ++ f s))
      (Array.replicate (n + 1) #[]) = A at ih1 ih2
    have hp : key m < A.size := by rw [ih1]; have := hk m; omega
    refine ⟨by rw [Array.size_set!]; exact ih1, ?_⟩
    have hget : (A.set! (key m) (A[key m]! ++ f m))[w]! = if w = key m then A[key m]! ++ f m else A[w]! := by
      simp only [Array.set!_eq_setIfInBounds, getElem!_def, Array.getElem?_setIfInBounds]
      by_cases h : w = key m
      · subst h; simp [hp]
      · have : ¬ key m = w := fun e => h e.symm
        simp [h, this]
    rw [hget]
    by_cases h : w = key m
    · subst h
      rw [if_pos rfl, Array.toList_append, ih2]
      simp
    · have h' : ¬ key m = w := fun e => h e.symm
      rw [if_neg h, ih2]
      simp [h']

section hashmap
variable {κ β : Type} [BEq κ] [Hashable κ] [LawfulBEq κ] [LawfulHashable κ]

theorem fold_insert_get? (f : κ → β) (l : List κ) (m : Std.HashMap κ β) (x : κ) :
    (l.foldl (fun m g => m.insert g (f g)) m).get? x = if l.contains x then some (f x) else m.get? x := by
  induction l generalizing m with
  | nil => rfl
  | cons a l ih =>
    rw [List.foldl_cons, ih, Std.HashMap.get?_insert, List.contains_cons]
    cases h1 : l.contains x
    · by_cases h2 : (a == x) = true
      · have e : a = x := eq_of_beq h2
        subst e
        simp only [beq_self_eq_true, Bool.or_false, if_true, Bool.false_eq_true, if_false]
      · have h3 : (x == a) = false := by
          rw [Bool.eq_false_iff]; intro h; exact h2 (by rw [beq_iff_eq] at h ⊢; exact h.symm)
        simp only [h2, h3, Bool.or_false, Bool.false_eq_true, if_false]
    · simp only [Bool.or_true, if_true]

theorem fold2_insert_get? (f : κ → β) (ls : List (Array κ)) (m : Std.HashMap κ β) (x : κ) :
    (ls.foldl (fun m gs => gs.toList.foldl (fun m g => m.insert g (f g)) m) m).get? x =
      if ls.any (fun gs => gs.contains x) then some (f x) else m.get? x := by
  -- the nested fold is the fold over `ls.flatMap (·.toList)`
  have e : (ls.flatMap (·.toList)).contains x = ls.any (fun gs => gs.contains x) := by
    induction ls with
    | nil => rfl
    | cons gs ls ih => rw [List.flatMap_cons, List.contains_append, ih, List.any_cons, Array.contains_toList]
  rw [← List.foldl_flatMap, fold_insert_get?, e]

theorem indexMap_getElem? [Inhabited κ] (tgt : Array κ) (hnd : tgt.toList.Nodup) (k : Nat) (hk : k ≤ tgt.size) (y : κ) (j : Nat) :
    ((List.range k).foldl (fun idx j => idx.insert tgt[j]! j) (∅ : Std.HashMap κ Nat))[y]? = some j ↔
      j < k ∧ tgt[j]! = y := by
  have inj : ∀ a b, a < tgt.size → b < tgt.size → tgt[a]! = tgt[b]! → a = b := by
    intro a b ha hb h
    rw [getElem!_pos tgt a ha, getElem!_pos tgt b hb, ← Array.getElem_toList, ← Array.getElem_toList] at h
    exact (List.getElem_inj hnd).mp h
  induction k generalizing j with
  | zero => simp
  | succ k ih =>
    rw [List.range_succ, List.foldl_append, List.foldl_cons, List.foldl_nil, Std.HashMap.getElem?_insert]
    by_cases e : (tgt[k]! == y) = true
    · have e' : tgt[k]! = y := eq_of_beq e
      rw [if_pos e]
      constructor
      · intro h; cases h; exact ⟨by omega, e'⟩
      · rintro ⟨hj, hy⟩
        rw [inj j k (by omega) (by omega) (hy.trans e'.symm)]
    · rw [if_neg e]
      refine (ih (by omega) j).trans ⟨fun ⟨hj, hy⟩ => ⟨by omega, hy⟩, fun ⟨hj, hy⟩ => ⟨?_, hy⟩⟩
      rcases Nat.lt_succ_iff_lt_or_eq.1 hj with h | h
      · exact h
      · subst h; rw [hy] at e; simp at e

end hashmap

end Yuiv.KhRefLoops
