import Yuiv.Model.C05
import Yuiv.Proofs.ListAux
import Mathlib.Algebra.QuadraticAlgebra.Defs
import Mathlib.Tactic.Ring
import Mathlib.Tactic.LinearCombination
/-
C05 — the kernel of the Khovanov differential (`part_eval`).  A linear combination `l` represents `sem μ l = Σ rₖ • μ(k)`;
the Frobenius algebra `A = R[X]/(X² − hX − t)` is Mathlib's `QuadraticAlgebra R t h` (pairs `⟨a₀, a₁⟩ = a₀ + a₁X`) with
`Xd = ⟨0,1⟩`, `Yd = X − h = ⟨−h,1⟩` and counit `ε = im`.  `LawfulCoef R`: the `Coef` operations of the code model are the
operations of the commutative ring `R`, and `is_zero` / `is_one` only answer `true` on `0` / `1`.
-/
namespace Yuiv.C05

section inv
variable {K R : Type} [DecidableEq K] [Coef R]

theorem addPair_forall (P : K → R → Prop) (hadd : ∀ k r r', P k r → P k r' → P k (Coef.add r r'))
    (l : Lc K R) (hl : ∀ p ∈ l, P p.1 p.2) (k : K) (r : R) (hk : P k r) :
    ∀ p ∈ addPair l k r, P p.1 p.2 := by
  induction l with
  | nil => intro p hp; simp [addPair] at hp; subst hp; exact hk
  | cons a l ih =>
    intro p hp
    unfold addPair at hp
    split at hp
    · rename_i heq
      rcases List.mem_cons.1 hp with h | h
      · subst h; simp only
        have := hl a (List.mem_cons_self ..)
        exact hadd _ _ _ this (heq ▸ hk)
      · exact hl p (List.mem_cons_of_mem _ h)
    · rcases List.mem_cons.1 hp with h | h
      · subst h; exact hl _ (List.mem_cons_self ..)
      · exact ih (fun q hq => hl q (List.mem_cons_of_mem _ hq)) p h

theorem addPairZ_forall (P : K → R → Prop) (hadd : ∀ k r r', P k r → P k r' → P k (Coef.add r r'))
    (l : Lc K R) (hl : ∀ p ∈ l, P p.1 p.2) (k : K) (r : R) (hk : P k r) :
    ∀ p ∈ addPairZ l k r, P p.1 p.2 := by
  unfold addPairZ; split
  · exact hl
  · exact addPair_forall P hadd l hl k r hk

omit [DecidableEq K] in
theorem clean_forall (P : K → R → Prop) (l : Lc K R) (hl : ∀ p ∈ l, P p.1 p.2) :
    ∀ p ∈ clean l, P p.1 p.2 := fun p hp => hl p (List.mem_filter.1 hp).1

theorem foldl_addPairZ_forall (P : K → R → Prop) (hadd : ∀ k r r', P k r → P k r' → P k (Coef.add r r'))
    (b a : Lc K R) (ha : ∀ p ∈ a, P p.1 p.2) (hb : ∀ p ∈ b, P p.1 p.2) :
    ∀ p ∈ b.foldl (fun acc p => addPairZ acc p.1 p.2) a, P p.1 p.2 := by
  induction b generalizing a with
  | nil => exact ha
  | cons q b ih =>
    simp only [List.foldl_cons]
    exact ih _ (addPairZ_forall P hadd a ha q.1 q.2 (hb q (List.mem_cons_self ..)))
      (fun p hp => hb p (List.mem_cons_of_mem _ hp))

theorem add_forall (P : K → R → Prop) (hadd : ∀ k r r', P k r → P k r' → P k (Coef.add r r'))
    (a b : Lc K R) (ha : ∀ p ∈ a, P p.1 p.2) (hb : ∀ p ∈ b, P p.1 p.2) :
    ∀ p ∈ add a b, P p.1 p.2 :=
  clean_forall P _ (foldl_addPairZ_forall P hadd b a ha hb)

omit [DecidableEq K] in
theorem smul_forall (P Q : K → R → Prop) (a : Lc K R) (r : R) (ha : ∀ p ∈ a, P p.1 p.2)
    (hone : Coef.isOne r = true → ∀ k c, P k c → Q k c) (hmul : ∀ k c, P k c → Q k (Coef.mul c r)) :
    ∀ p ∈ smul a r, Q p.1 p.2 := by
  unfold smul; split
  · rename_i h1; exact fun p hp => hone h1 _ _ (ha p hp)
  · apply clean_forall
    intro p hp
    rcases List.mem_map.1 hp with ⟨q, hq, rfl⟩
    exact hmul _ _ (ha q hq)

theorem single_forall (P : K → R → Prop) (k : K) (hk : P k Coef.one) :
    ∀ p ∈ (single k : Lc K R), P p.1 p.2 := by
  unfold single fromPair
  apply clean_forall
  intro p hp
  unfold addPairZ at hp
  split at hp
  · simp at hp
  · simp [addPair] at hp; subst hp; exact hk

end inv

class LawfulCoef (R : Type) [CommRing R] [Coef R] : Prop where
  zero_eq : (Coef.zero : R) = 0
  one_eq : (Coef.one : R) = 1
  add_eq : ∀ a b : R, Coef.add a b = a + b
  mul_eq : ∀ a b : R, Coef.mul a b = a * b
  neg_eq : ∀ a : R, Coef.neg a = -a
  isZero_sound : ∀ a : R, Coef.isZero a = true → a = 0
  isOne_sound : ∀ a : R, Coef.isOne a = true → a = 1

instance : LawfulCoef Int where
  zero_eq := rfl
  one_eq := rfl
  add_eq _ _ := rfl
  mul_eq _ _ := rfl
  neg_eq _ := rfl
  isZero_sound a h := by simpa [Coef.isZero] using h
  isOne_sound a h := by simpa [Coef.isOne] using h

section sem
variable {K R S : Type} [DecidableEq K] [CommRing R] [Coef R] [LawfulCoef R] [AddCommGroup S] [Module R S]

def sem (μ : K → S) (l : Lc K R) : S := (l.map (fun p => p.2 • μ p.1)).sum

omit [DecidableEq K] [Coef R] [LawfulCoef R] in
@[simp] theorem sem_nil (μ : K → S) : sem μ ([] : Lc K R) = 0 := rfl
omit [DecidableEq K] [Coef R] [LawfulCoef R] in
@[simp] theorem sem_cons (μ : K → S) (p : K × R) (l : Lc K R) : sem μ (p :: l) = p.2 • μ p.1 + sem μ l := by
  simp [sem]

theorem sem_addPair (μ : K → S) (l : Lc K R) (k : K) (r : R) : sem μ (addPair l k r) = sem μ l + r • μ k := by
  induction l with
  | nil => simp [addPair]
  | cons a l ih =>
    unfold addPair; split
    · rename_i h; subst h
      simp only [sem_cons, LawfulCoef.add_eq, add_smul]; abel
    · simp only [sem_cons, ih]; abel

theorem sem_addPairZ (μ : K → S) (l : Lc K R) (k : K) (r : R) : sem μ (addPairZ l k r) = sem μ l + r • μ k := by
  unfold addPairZ; split
  · rename_i h; rw [LawfulCoef.isZero_sound r h]; simp
  · exact sem_addPair μ l k r

omit [DecidableEq K] in
theorem sem_clean (μ : K → S) (l : Lc K R) : sem μ (clean l) = sem μ l := by
  induction l with
  | nil => rfl
  | cons a l ih =>
    unfold clean at *
    rw [List.filter_cons]; split
    · simp only [sem_cons, ih]
    · rename_i h
      have h0 : a.2 = 0 := LawfulCoef.isZero_sound a.2 (by simpa using h)
      simp only [sem_cons, ih, h0, zero_smul, zero_add]

theorem sem_foldl (μ : K → S) (b a : Lc K R) :
    sem μ (b.foldl (fun acc p => addPairZ acc p.1 p.2) a) = sem μ a + sem μ b := by
  induction b generalizing a with
  | nil => simp
  | cons q b ih => simp only [List.foldl_cons, ih, sem_addPairZ, sem_cons]; abel

theorem sem_add (μ : K → S) (a b : Lc K R) : sem μ (add a b) = sem μ a + sem μ b := by
  unfold add; rw [sem_clean, sem_foldl]

omit [DecidableEq K] [Coef R] [LawfulCoef R] in
theorem sem_map_coef (μ : K → S) (g : R → R) (c : R) (hg : ∀ r, g r = c * r) (a : Lc K R) :
    sem μ (a.map (fun p => (p.1, g p.2))) = c • sem μ a := by
  induction a with
  | nil => simp
  | cons q a ih => rw [List.map_cons, sem_cons, sem_cons, ih]; simp only [hg, smul_add, mul_smul]

omit [DecidableEq K] in
theorem sem_smul (μ : K → S) (a : Lc K R) (r : R) : sem μ (smul a r) = r • sem μ a := by
  unfold smul; split
  · rename_i h; rw [LawfulCoef.isOne_sound r h, one_smul]
  · rw [sem_clean, sem_map_coef μ (Coef.mul · r) r (fun c => by rw [LawfulCoef.mul_eq, mul_comm])]

theorem sem_single (μ : K → S) (k : K) : sem μ (single k : Lc K R) = μ k := by
  unfold single fromPair
  rw [sem_clean, sem_addPairZ, LawfulCoef.one_eq]; simp

end sem

section alg
variable {R : Type} [CommRing R]

abbrev A (h t : R) := QuadraticAlgebra R t h

def Xd (h t : R) : A h t := ⟨0, 1⟩
/-- `Y = X − h` -/
def Yd (h t : R) : A h t := ⟨-h, 1⟩
def Cc (h t : R) (r : R) : A h t := QuadraticAlgebra.C r

theorem Yd_eq (h t : R) : Yd h t = Xd h t - Cc h t h := by
  ext <;> simp [Yd, Xd, Cc]

theorem smul_eq_Cc (h t r : R) (z : A h t) : r • z = Cc h t r * z := by
  ext <;> simp [Cc]

theorem XX (h t : R) : Xd h t * Xd h t = Cc h t h * Xd h t + Cc h t t := by
  ext
  · simp only [Xd, Cc, QuadraticAlgebra.re_mul, QuadraticAlgebra.re_add, QuadraticAlgebra.re_C, QuadraticAlgebra.im_C]
    ring
  · simp only [Xd, Cc, QuadraticAlgebra.im_mul, QuadraticAlgebra.im_add, QuadraticAlgebra.re_C, QuadraticAlgebra.im_C]
    ring

theorem XY (h t : R) : Xd h t * Yd h t = Cc h t t := by
  ext
  · simp only [Xd, Yd, Cc, QuadraticAlgebra.re_mul, QuadraticAlgebra.re_C]
    ring
  · simp only [Xd, Yd, Cc, QuadraticAlgebra.im_mul, QuadraticAlgebra.im_C]
    ring

theorem YY (h t : R) : Yd h t * Yd h t = Cc h t (-h) * Yd h t + Cc h t t := by
  ext
  · simp only [Yd, Cc, QuadraticAlgebra.re_mul, QuadraticAlgebra.re_add, QuadraticAlgebra.re_C, QuadraticAlgebra.im_C]
    ring
  · simp only [Yd, Cc, QuadraticAlgebra.im_mul, QuadraticAlgebra.im_add, QuadraticAlgebra.re_C, QuadraticAlgebra.im_C]
    ring

theorem im_Cc_mul (h t r : R) (z : A h t) : (Cc h t r * z).im = r * z.im := by
  simp [Cc]

def counit {h t : R} (z : A h t) : R := z.im

theorem counit_one (h t : R) : counit (1 : A h t) = 0 := rfl
theorem counit_X (h t : R) : counit (Xd h t) = 1 := rfl
theorem counit_Y (h t : R) : counit (Yd h t) = 1 := rfl

/-- the element of `A` a dotted genus-0 term stands for -/
def muA (h t : R) : Key → A h t
  | .empty => 0
  | .comp x y => Xd h t ^ x * Yd h t ^ y

/-- the scalar a closed term stands for -/
def muC : Key → R
  | .empty => 1
  | .comp _ _ => 0

variable [Coef R] [LawfulCoef R]

/-- both modes of `part_eval` at once: `φ` is additive, turns multiplication by a scalar into `•`, and agrees with
`μ` on the three terminal arms (`φ = id`, `μ = muA` for an open component; `φ = ε`, `μ = muC` for a closed one) -/
theorem partEval_sem {S : Type} [AddCommGroup S] [Module R S] (h t : R) (closed : Bool) (μ : Key → S) (φ : A h t → S)
    (hadd : ∀ a b, φ (a + b) = φ a + φ b) (hsmul : ∀ (r : R) a, φ (Cc h t r * a) = r • φ a)
    (hX : sem μ (if closed then single .empty else single (.comp 1 0) : Lc Key R) = φ (Xd h t))
    (hY : sem μ (if closed then single .empty else single (.comp 0 1) : Lc Key R) = φ (Yd h t))
    (h1 : sem μ (if closed then [] else single (.comp 0 0) : Lc Key R) = φ 1) (g x y : Nat) :
    sem μ (partEval h t closed g x y) = φ (Xd h t ^ x * Yd h t ^ y * (Xd h t + Yd h t) ^ g) := by
  fun_induction partEval h t closed g x y <;> (try simp only [Nat.succ_eq_add_one])
  case case1 g x y ih1 ih2 => rw [sem_add, ih1, ih2, ← hadd]; congr 1; ring
  case case2 x y ih =>
    rw [sem_smul, ih, ← hsmul]; congr 1
    linear_combination (-(Xd h t ^ x * Yd h t ^ y)) * XY h t
  case case3 x ih1 ih2 =>
    rw [sem_add, sem_smul, sem_smul, ih1, ih2, ← hsmul, ← hsmul, ← hadd]; congr 1
    linear_combination (-(Xd h t ^ x)) * XX h t
  case case4 y ih1 ih2 =>
    rw [sem_add, sem_smul, sem_smul, ih1, ih2, ← hsmul, ← hsmul, ← hadd, LawfulCoef.neg_eq]; congr 1
    linear_combination (-(Yd h t ^ y)) * YY h t
  all_goals
    rename_i hc
    simp only [hc, ↓reduceIte] at hX hY h1
    simp only [pow_zero, pow_one, mul_one, one_mul]
    assumption

theorem partEval_open_sem (h t : R) (g x y : Nat) :
    sem (muA h t) (partEval h t false g x y) = Xd h t ^ x * Yd h t ^ y * (Xd h t + Yd h t) ^ g :=
  partEval_sem h t false (muA h t) id (fun _ _ => rfl) (fun r a => (smul_eq_Cc h t r a).symm)
    (by simp [sem_single, muA]) (by simp [sem_single, muA]) (by simp [sem_single, muA]) g x y

theorem partEval_closed_sem (h t : R) (g x y : Nat) :
    sem (S := R) muC (partEval h t true g x y) = (Xd h t ^ x * Yd h t ^ y * (Xd h t + Yd h t) ^ g).im :=
  partEval_sem h t true muC QuadraticAlgebra.im (fun _ _ => rfl) (im_Cc_mul h t)
    (by simp [sem_single, muC, Xd]) (by simp [sem_single, muC, Yd]) (by simp [QuadraticAlgebra.im_one]) g x y

end alg

section shape
variable {R : Type} [Coef R]

def Scalar (l : Lc Key R) : Prop := l = [] ∨ ∃ r, l = [(Key.empty, r)]

theorem scalar_clean (l : Lc Key R) (hl : Scalar l) : Scalar (clean l) := by
  rcases hl with rfl | ⟨r, rfl⟩
  · left; rfl
  · unfold clean; rw [List.filter_cons]; split
    · right; exact ⟨r, rfl⟩
    · left; rfl

theorem scalar_add (a b : Lc Key R) (ha : Scalar a) (hb : Scalar b) : Scalar (add a b) := by
  unfold add; apply scalar_clean
  rcases hb with rfl | ⟨r, rfl⟩
  · exact ha
  · simp only [List.foldl_cons, List.foldl_nil]
    unfold addPairZ; split
    · exact ha
    · rcases ha with rfl | ⟨r', rfl⟩
      · right; exact ⟨r, rfl⟩
      · right; exact ⟨Coef.add r' r, by simp [addPair]⟩

theorem scalar_smul (a : Lc Key R) (r : R) (ha : Scalar a) : Scalar (smul a r) := by
  unfold smul; split
  · exact ha
  · apply scalar_clean
    rcases ha with rfl | ⟨r', rfl⟩
    · left; rfl
    · right; exact ⟨Coef.mul r' r, rfl⟩

theorem scalar_single : Scalar (single Key.empty : Lc Key R) := by
  unfold single fromPair; apply scalar_clean
  unfold addPairZ; split
  · left; rfl
  · right; exact ⟨Coef.one, rfl⟩

theorem partEval_closed_scalar (h t : R) (g x y : Nat) : Scalar (partEval h t true g x y) := by
  fun_induction partEval h t true g x y
  case case1 ih1 ih2 => exact scalar_add _ _ ih1 ih2
  case case2 ih => exact scalar_smul _ _ ih
  case case3 ih1 ih2 => exact scalar_add _ _ (scalar_smul _ _ ih1) (scalar_smul _ _ ih2)
  case case4 ih1 ih2 => exact scalar_add _ _ (scalar_smul _ _ ih1) (scalar_smul _ _ ih2)
  all_goals first | exact scalar_single | (left; rfl) | simp_all

def OpenKey : Key → Prop
  | .empty => False
  | .comp x y => x + y ≤ 1

theorem partEval_open_keys (h t : R) (g x y : Nat) :
    ∀ p ∈ partEval h t false g x y, OpenKey p.1 := by
  fun_induction partEval h t false g x y
  case case1 ih1 ih2 => exact add_forall (fun k _ => OpenKey k) (fun _ _ _ a _ => a) _ _ ih1 ih2
  case case2 ih => exact smul_forall (fun k _ => OpenKey k) _ _ _ ih (fun _ _ _ a => a) (fun _ _ a => a)
  case case3 ih1 ih2 =>
    exact add_forall (fun k _ => OpenKey k) (fun _ _ _ a _ => a) _ _
      (smul_forall (fun k _ => OpenKey k) _ _ _ ih1 (fun _ _ _ a => a) (fun _ _ a => a))
      (smul_forall (fun k _ => OpenKey k) _ _ _ ih2 (fun _ _ _ a => a) (fun _ _ a => a))
  case case4 ih1 ih2 =>
    exact add_forall (fun k _ => OpenKey k) (fun _ _ _ a _ => a) _ _
      (smul_forall (fun k _ => OpenKey k) _ _ _ ih1 (fun _ _ _ a => a) (fun _ _ a => a))
      (smul_forall (fun k _ => OpenKey k) _ _ _ ih2 (fun _ _ _ a => a) (fun _ _ a => a))
  all_goals first
    | (exfalso; simp_all; done)
    | (refine single_forall (fun k _ => OpenKey k) _ ?_; simp [OpenKey])

end shape

section closed
variable {R : Type} [CommRing R] [Coef R] [LawfulCoef R]

omit [Coef R] [LawfulCoef R] in
theorem XpY_sq (h t : R) : (Xd h t + Yd h t) ^ 2 = Cc h t (h ^ 2 + 4 * t) := by
  rw [pow_two]
  ext
  · simp only [Xd, Yd, Cc, QuadraticAlgebra.re_mul, QuadraticAlgebra.re_add, QuadraticAlgebra.im_add, QuadraticAlgebra.re_C]
    ring
  · simp only [Xd, Yd, Cc, QuadraticAlgebra.im_mul, QuadraticAlgebra.re_add, QuadraticAlgebra.im_add, QuadraticAlgebra.im_C]
    ring

omit [Coef R] [LawfulCoef R] in
theorem im_Cc (h t r : R) : (Cc h t r).im = 0 := rfl

omit [Coef R] [LawfulCoef R] in
theorem zero_cob_value (h t : R) (k x : Nat) :
    counit (Xd h t ^ x * Yd h t ^ x * (Xd h t + Yd h t) ^ (2 * k)) = 0 := by
  have e : Xd h t ^ x * Yd h t ^ x * (Xd h t + Yd h t) ^ (2 * k) = Cc h t (t ^ x * (h ^ 2 + 4 * t) ^ k) := by
    rw [← mul_pow, XY, pow_mul, XpY_sq]
    simp only [Cc, QuadraticAlgebra.C_mul, QuadraticAlgebra.C_pow]
  rw [e]; rfl

end closed

section homog

/-- weight of `H^a T^b` (half of minus its degree): `a + 2b` -/
def wt (m : Mono) : Nat := m.1 + 2 * m.2

theorem monoDeg_eq (m : Mono) : monoDeg m = -2 * (wt m : Int) := by
  simp only [monoDeg, wt]; push_cast; ring

theorem HT_add_keys (Q : Mono → Prop) (p q : HT) (hp : ∀ x ∈ p, Q x.1) (hq : ∀ x ∈ q, Q x.1) :
    ∀ x ∈ (Coef.add p q : HT), Q x.1 :=
  add_forall (fun k _ => Q k) (fun _ _ _ a _ => a) p q hp hq

theorem HT_neg_keys (Q : Mono → Prop) (p : HT) (hp : ∀ x ∈ p, Q x.1) : ∀ x ∈ (Coef.neg p : HT), Q x.1 := by
  intro x hx
  rcases List.mem_map.1 hx with ⟨y, hy, rfl⟩
  exact hp y hy

theorem HT_mul_keys (Q1 Q2 Q : Mono → Prop) (hQ : ∀ a b, Q1 a → Q2 b → Q (a.1 + b.1, a.2 + b.2))
    (p q : HT) (hp : ∀ x ∈ p, Q1 x.1) (hq : ∀ x ∈ q, Q2 x.1) : ∀ x ∈ (Coef.mul p q : HT), Q x.1 := by
  show ∀ x ∈ HT.mul p q, Q x.1
  unfold HT.mul
  apply clean_forall (fun k _ => Q k)
  apply ListAux.foldl_inv (fun acc : HT => ∀ x ∈ acc, Q x.1)
  · simp
  · intro acc a ha hacc
    apply ListAux.foldl_inv (fun acc : HT => ∀ x ∈ acc, Q x.1)
    · exact hacc
    · intro acc' b hb hacc'
      exact addPairZ_forall (fun k _ => Q k) (fun _ _ _ a _ => a) acc' hacc' _ _ (hQ _ _ (hp a ha) (hq b hb))

def HomogAt (n : Nat) (k : Key) (c : HT) : Prop := ∀ q ∈ c, k.dots + wt q.1 = n

theorem homogAt_add (n : Nat) (k : Key) (r r' : HT) (h1 : HomogAt n k r) (h2 : HomogAt n k r') :
    HomogAt n k (Coef.add r r') :=
  HT_add_keys (fun m => k.dots + wt m = n) r r' h1 h2

theorem homogAt_mul (n w : Nat) (k : Key) (c r : HT) (hc : HomogAt n k c) (hr : ∀ q ∈ r, wt q.1 = w) :
    HomogAt (n + w) k (Coef.mul c r) :=
  HT_mul_keys (fun m => k.dots + wt m = n) (fun m => wt m = w) (fun m => k.dots + wt m = n + w)
    (fun a b ha hb => by simp only [wt] at *; omega) c r hc hr

theorem lc_add_homog (n : Nat) (a b : Lc Key HT) (ha : ∀ p ∈ a, HomogAt n p.1 p.2) (hb : ∀ p ∈ b, HomogAt n p.1 p.2) :
    ∀ p ∈ add a b, HomogAt n p.1 p.2 :=
  add_forall (HomogAt n) (homogAt_add n) a b ha hb

theorem lc_smul_homog (n w : Nat) (a : Lc Key HT) (r : HT) (ha : ∀ p ∈ a, HomogAt n p.1 p.2)
    (hr : ∀ q ∈ r, wt q.1 = w) (h1 : Coef.isOne r = false) :
    ∀ p ∈ smul a r, HomogAt (n + w) p.1 p.2 :=
  smul_forall (HomogAt n) (HomogAt (n + w)) a r ha (fun h => by simp [h1] at h)
    (fun k c hc => homogAt_mul n w k c r hc hr)

theorem lc_single_homog (k : Key) : ∀ p ∈ (single k : Lc Key HT), HomogAt k.dots p.1 p.2 := by
  apply single_forall (HomogAt k.dots)
  intro q hq
  have : q = ((0, 0), 1) := by simpa [Coef.one] using hq
  subst this; simp [wt]

theorem wt_H : ∀ q ∈ HT.H, wt q.1 = 1 := by simp [HT.H, wt]
theorem wt_T : ∀ q ∈ HT.T, wt q.1 = 2 := by simp [HT.T, wt]
theorem wt_negH : ∀ q ∈ (Coef.neg HT.H : HT), wt q.1 = 1 := by simp [Coef.neg, HT.neg, HT.H, wt]

theorem partEval_HT_homog (closed : Bool) (g x y : Nat) :
    ∀ p ∈ partEval HT.H HT.T closed g x y, HomogAt (g + x + y) p.1 p.2 := by
  fun_induction partEval HT.H HT.T closed g x y <;> (try simp only [Nat.succ_eq_add_one] at *)
  case case1 g x y ih1 ih2 =>
    have e1 : g + (x + 1) + y = g + 1 + x + y := by omega
    have e2 : g + x + (y + 1) = g + 1 + x + y := by omega
    rw [e1] at ih1; rw [e2] at ih2
    exact lc_add_homog _ _ _ ih1 ih2
  case case2 x y ih =>
    have := lc_smul_homog _ 2 _ HT.T ih wt_T rfl
    have e : 0 + x + y + 2 = 0 + (x + 1) + (y + 1) := by omega
    rw [e] at this; exact this
  case case3 x ih1 ih2 =>
    have h1 := lc_smul_homog _ 1 _ HT.H ih1 wt_H rfl
    have h2 := lc_smul_homog _ 2 _ HT.T ih2 wt_T rfl
    have e1 : 0 + (x + 1) + 0 + 1 = 0 + (x + 2) + 0 := by omega
    have e2 : 0 + x + 0 + 2 = 0 + (x + 2) + 0 := by omega
    rw [e1] at h1; rw [e2] at h2
    exact lc_add_homog _ _ _ h1 h2
  case case4 y ih1 ih2 =>
    have h1 := lc_smul_homog _ 1 _ (Coef.neg HT.H) ih1 wt_negH rfl
    have h2 := lc_smul_homog _ 2 _ HT.T ih2 wt_T rfl
    have e1 : 0 + 0 + (y + 1) + 1 = 0 + 0 + (y + 2) := by omega
    have e2 : 0 + 0 + y + 2 = 0 + 0 + (y + 2) := by omega
    rw [e1] at h1; rw [e2] at h2
    exact lc_add_homog _ _ _ h1 h2
  all_goals first
    | exact lc_single_homog _
    | simp

/-- the degree bookkeeping behind homogeneity: a term with `d` dots (genus 0, same boundary; the empty cobordism
counts as one dot and only occurs for a component without boundary) and a coefficient of weight `w` has the degree
of the component as soon as `d + w = g + x + y` -/
theorem deg_of_dots (nbdr endpts g x y w : Nat) (k : Key) (hk : k = .empty → nbdr = 0 ∧ endpts = 0)
    (h : k.dots + w = g + x + y) : Key.deg nbdr endpts k + -2 * (w : Int) = deg nbdr endpts g x y := by
  cases k with
  | empty =>
    obtain ⟨rfl, rfl⟩ := hk rfl
    simp only [Key.deg, Key.dots, deg, eulerNum] at *
    omega
  | comp x' y' =>
    simp only [Key.deg, Key.dots, deg, eulerNum] at *
    omega

end homog

section mat

def sumTo : Nat → (Nat → Int) → Int
  | 0, _ => 0
  | n + 1, f => sumTo n f + f n

theorem sumTo_shift (n : Nat) (f : Nat → Int) : sumTo (n + 1) f = f 0 + sumTo n (fun k => f (k + 1)) := by
  induction n with
  | zero => simp [sumTo]
  | succ n ih => rw [sumTo, ih, sumTo]; ring

theorem sumTo_congr (n : Nat) (f g : Nat → Int) (h : ∀ k < n, f k = g k) : sumTo n f = sumTo n g := by
  induction n with
  | zero => rfl
  | succ n ih => rw [sumTo, sumTo, ih (fun k hk => h k (by omega)), h n (by omega)]

theorem dot_eq_sumTo (r c : List Int) :
    dot r c = sumTo (min r.length c.length) (fun k => r.getD k 0 * c.getD k 0) := by
  induction r generalizing c with
  | nil => rw [List.length_nil, Nat.zero_min]; rfl
  | cons a r ih =>
    cases c with
    | nil => rw [List.length_nil, Nat.min_zero]; rfl
    | cons b c =>
      rw [dot, ih c, List.length_cons, List.length_cons, Nat.succ_min_succ, sumTo_shift]
      rfl

/-- entry `(i, j)` of the product `A · B` (rows as lists, missing entries read as 0) -/
def mulEntry (A B : List (List Int)) (i j : Nat) : Int :=
  sumTo B.length (fun k => (A.getD i []).getD k 0 * (B.getD k []).getD j 0)

theorem col_getD (B : List (List Int)) (j k : Nat) (hk : k < B.length) :
    (col B j).getD k 0 = (B.getD k []).getD j 0 := by
  simp [col, List.getD_eq_getElem?_getD, hk]

theorem matMulZero_entry (A B : List (List Int)) (n : Nat) (hz : matMulZero A B n = true)
    (hs : shapeOk A B n = true) (i j : Nat) (hi : i < A.length) (hj : j < n) : mulEntry A B i j = 0 := by
  unfold matMulZero at hz
  unfold shapeOk at hs
  simp only [List.all_eq_true, Bool.and_eq_true, beq_iff_eq, List.mem_range] at hz hs
  have hr : A.getD i [] ∈ A := by
    rw [List.getD_eq_getElem?_getD, List.getElem?_eq_getElem hi]; simp
  have h1 := hz _ hr j hj
  have hl := hs.1 _ hr
  rw [dot_eq_sumTo] at h1
  have hc : (col B j).length = B.length := by simp [col]
  rw [hl, hc, Nat.min_self] at h1
  unfold mulEntry
  exact (sumTo_congr _ _ _ (fun k hk => by rw [col_getD B j k hk])).trans h1

end mat

end Yuiv.C05
