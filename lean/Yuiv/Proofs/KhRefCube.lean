import Yuiv.Proofs.KhRefBits
/-
Of `mkCube l p`: the circles at a vertex (`mkCube_circ`) and the absent base edge of the unreduced theory; of any cube: the
generators at a vertex (`Cube.mem_gensAt`).  Core Lean only.
-/
namespace Yuiv.KhRef

theorem mkCube_circ (l : Link) (p : Params) (s : Nat) (hs : s < 2 ^ crossingNum l) :
    (mkCube l p).circ[s]! = circles l (edgeLabels l) s := by
  show ((Array.range (2 ^ crossingNum l)).map (fun s => circles l (edgeLabels l) s))[s]! = _
  rw [getElem!_pos _ _ (by simpa using hs)]
  simp [Array.getElem_range]

theorem mkCube_base_of_unreduced (l : Link) (p : Params) (hp : p.reduced = false) : (mkCube l p).base = none := by
  simp [mkCube, hp]

theorem Cube.baseCircle_of_base_none (c : Cube) (hb : c.base = none) (s : Nat) : c.baseCircle s = none := by
  unfold Cube.baseCircle
  rw [hb]

theorem Cube.baseCircle_lt (c : Cube) (s b : Nat) (hb : c.baseCircle s = some b) : b < (c.circ[s]!).size := by
  unfold Cube.baseCircle at hb
  split at hb
  · cases hb
  · exact (Array.findIdx?_eq_some_iff_getElem.mp hb).1

theorem Cube.mem_gensAt (c : Cube) (s : Nat) (g : Gen) :
    g ∈ c.gensAt s ↔ g.s = s ∧ g.mask < 2 ^ (c.circ[s]!).size ∧ ∀ b, c.baseCircle s = some b → g.mask.testBit b = true := by
  unfold Cube.gensAt
  have hall : ∀ g : Gen, g ∈ (Array.range (2 ^ (c.circ[s]!).size)).map (fun m => Gen.mk s m) ↔
      g.s = s ∧ g.mask < 2 ^ (c.circ[s]!).size := by
    intro g
    rw [Array.mem_map]
    constructor
    · rintro ⟨m, hm, rfl⟩
      exact ⟨rfl, by simpa using hm⟩
    · rintro ⟨h1, h2⟩
      exact ⟨g.mask, by simpa using h2, by cases g; simp at h1; subst h1; rfl⟩
  cases hb : c.baseCircle s with
  | none =>
    simp only
    rw [hall]
    exact ⟨fun ⟨h1, h2⟩ => ⟨h1, h2, fun b hb => by cases hb⟩, fun ⟨h1, h2, _⟩ => ⟨h1, h2⟩⟩
  | some b =>
    simp only
    rw [Array.mem_filter, hall]
    exact ⟨fun ⟨⟨h1, h2⟩, h3⟩ => ⟨h1, h2, fun b' hb' => by cases hb'; exact h3⟩,
      fun ⟨h1, h2, h3⟩ => ⟨⟨h1, h2⟩, h3 b rfl⟩⟩

theorem Cube.gensAt_nodup (c : Cube) (s : Nat) : (c.gensAt s).toList.Nodup := by
  have hall : ((Array.range (2 ^ (c.circ[s]!).size)).map (fun m => Gen.mk s m)).toList.Nodup := by
    rw [Array.toList_map, Array.toList_range, List.Nodup, List.pairwise_map]
    exact List.nodup_range.imp fun h e => h (Gen.mk.inj e).2
  unfold Cube.gensAt
  cases c.baseCircle s with
  | none => exact hall
  | some b =>
    simp only
    rw [Array.toList_filter]
    exact hall.filter _

end Yuiv.KhRef
