import Yuiv.Gen.BitSeqFn
import Yuiv.Proofs.C17
import Yuiv.Proofs.C17GenSimp
import Yuiv.Proofs.Res
/-
Helper definitions and lemmas for `Yuiv/Props/C17Gen.lean`.

`Yuiv.GenBitSeq.*` is GENERATED from the source text of `/repo/yui/src/misc/bitseq.rs` by `tools/rs2lean_fn.py`;
`Yuiv.C17.*` is the hand-written code model the C17 refinement theorems are about.  The two use different
carrier types (`BitSeqS`/`Bit` are generated from the Rust `struct`/`enum`, the model uses `BS`/`Bool`); the
abstraction maps are `toBS` and `toBool`, lifted to results by `mapR`.
-/
namespace Yuiv.C17Gen
open Yuiv Res Yuiv.Rust Yuiv.GenBitSeq

def toBS (s : BitSeqS) : C17.BS := ⟨s.val, s.len⟩
def toBool : Bit → Bool
  | .Bit0 => false
  | .Bit1 => true
def mapR {α β} (f : α → β) : Res α → Res β
  | .ok a => .ok (f a)
  | .panic => .panic
  | .err => .err

/-- the values a Rust `BitSeq` can hold at all: both fields are 64-bit words (NOT the representation invariant) -/
def InRange (s : BitSeqS) : Prop := s.val < 2 ^ 64 ∧ s.len < 2 ^ 64

theorem mapR_ok {α β} (f : α → β) (a : α) : mapR f (ok a) = ok (f a) := rfl
theorem mapR_panic {α β} (f : α → β) : mapR f (.panic : Res α) = .panic := rfl
theorem mapR_err {α β} (f : α → β) : mapR f (.err : Res α) = .err := rfl
theorem mapR_bind {α β γ} (f : β → γ) (x : Res α) (g : α → Res β) :
    mapR f (x >>= g) = x >>= fun a => mapR f (g a) := by cases x <;> rfl
theorem mapR_ite {α β} (f : α → β) (c : Prop) [Decidable c] (x y : Res α) :
    mapR f (if c then x else y) = if c then mapR f x else mapR f y := by split <;> rfl
theorem mapR_id {α} (x : Res α) : mapR (fun a => a) x = x := by cases x <;> rfl

theorem ite_bind {α β} (c : Prop) [Decidable c] (x y : Res α) (f : α → Res β) :
    ((if c then x else y) >>= f) = if c then x >>= f else y >>= f := apply_ite (· >>= f) c x y
theorem assert_true : Res.assert true = ok () := rfl
theorem assert_false : Res.assert false = (.panic : Res Unit) := rfl

theorem then_of_ne {o : Ordering} (h : o ≠ .eq) (x : Ordering) : o.then x = o := by cases o <;> simp_all [Ordering.then]

theorem shl_eq : U64.shl = C17.shl := rfl
theorem shr_eq : U64.shr = C17.shr := rfl
theorem sub_eq : U64.sub = C17.usub := rfl
theorem not_eq : U64.not = C17.not64 := rfl
theorem max_eq : U64.MAX = C17.u64Max := rfl

theorem add_ok {a b : Nat} (h : a + b < 2 ^ 64) : U64.add a b = ok (a + b) := by
  have : a + b ≤ U64.MAX := by unfold U64.MAX; omega
  simp [U64.add, this]
theorem add_panic {a b : Nat} (h : 2 ^ 64 ≤ a + b) : U64.add a b = .panic := by
  have : ¬ a + b ≤ U64.MAX := by unfold U64.MAX; omega
  simp [U64.add, this]

theorem mask_total (l : Nat) : C17.mask l = ok (if 64 ≤ l then 2 ^ 64 - 1 else 2 ^ l - 1) := by
  by_cases h : 64 ≤ l
  · rw [C17.mask_of_ge l h, if_pos h]
  · rw [C17.mask_of_le l (Nat.le_of_lt (Nat.lt_of_not_le h)), if_neg h]

theorem shl_lit1 (x : Nat) : C17.shl x 1 = ok ((x <<< 1) % 2 ^ 64) := C17.shl_eq x 1 (by decide)
theorem shr_lit1 (x : Nat) : C17.shr x 1 = ok (x >>> 1) := C17.shr_eq x 1 (by decide)
theorem usub_pow_one (n : Nat) : C17.usub (2 ^ n) 1 = ok (2 ^ n - 1) := by
  have : 1 ≤ 2 ^ n := Nat.one_le_two_pow
  simp [C17.usub, this]

theorem revBits_eq (n v : Nat) : U64.revBits n v = C17.revBits n v := by
  induction n generalizing v with
  | zero => rfl
  | succ n ih => simp only [U64.revBits, C17.revBits, ih]

theorem reverse_bits_eq (v : Nat) : U64.reverse_bits v = C17.revBits 64 v := revBits_eq 64 v

attribute [bitseq_gen] mapR_bind mapR_ite mapR_ok mapR_panic bind_assoc ite_bind assert_true assert_false toBS toBool
  BitSeq.MAX_LEN C17.maxLen Bit.is_zero Bit.is_one Bit.as_u64 shl_eq shr_eq sub_eq not_eq mask_total shl_lit1 shr_lit1
  usub_pow_one Nat.or_assoc

theorem mask_eq (len : Nat) : BitSeq.mask len = C17.mask len := by
  unfold BitSeq.mask C17.mask
  simp only [decide_eq_true_eq]
  rfl

theorem new_eq (val len : Nat) : mapR toBS (BitSeq.new val len) = C17.new val len := by
  unfold BitSeq.new C17.new
  simp only [mask_eq, mapR_bind, mapR_ok]
  rfl

theorem weight_loop1_eq (fuel v c : Nat) (hf : C17.popc v < fuel) (hc : c + C17.popc v < 2 ^ 64) :
    BitSeq.weight_loop1 fuel v c = ok (0, c + C17.popc v) := by
  induction fuel generalizing v c with
  | zero => omega
  | succ fuel ih =>
    unfold BitSeq.weight_loop1
    by_cases hv : v > 0
    · have hp := C17.popc_and_pred v hv
      have h1 : U64.sub v 1 = ok (v - 1) := by simp [U64.sub]; omega
      have h2 : U64.add c 1 = ok (c + 1) := add_ok (by omega)
      have h3 := ih (v &&& (v - 1)) (c + 1) (by omega) (by omega)
      have h4 : c + 1 + C17.popc (v &&& (v - 1)) = c + C17.popc v := by omega
      simp [hv, h1, h2, h3, h4]
    · have : v = 0 := Nat.eq_zero_of_not_pos hv
      subst this
      simp [C17.popc_zero]

/-- the generated loop over the items is the model's `fromIterLoop` over their bits, as long as the length counter
cannot overflow (`len + #items < 2^64`, which holds for every iterator that terminates in practice) -/
theorem from_iter_loop1_eq {T : Type} (f : T → Bit) (l : List T) (v n : Nat) (h : n + l.length < 2 ^ 64) :
    BitSeq.FromIterator_T.from_iter_loop1 f l v n = C17.fromIterLoop (l.map (fun x => toBool (f x))) v n := by
  induction l generalizing v n with
  | nil => rfl
  | cons x xs ih =>
    have h1 : U64.add n 1 = ok (n + 1) := add_ok (by simp at h; omega)
    have h2 := fun v' => ih v' (n + 1) (by simp at h; omega)
    unfold BitSeq.FromIterator_T.from_iter_loop1
    simp only [List.map_cons, C17.fromIterLoop]
    cases f x <;> simp [toBool, Bit.is_one, h1, h2, bind_assoc, shl_eq]

/-! ### the operators of `RustArith` against Lean core's `UInt64` (supports the trusted-base statement) -/

theorem u64_add_sound (a b : UInt64) :
    U64.add a.toNat b.toNat = if a.toNat + b.toNat < 2 ^ 64 then ok (a + b).toNat else .panic := by
  by_cases h : a.toNat + b.toNat < 2 ^ 64
  · rw [add_ok h, if_pos h, UInt64.toNat_add, Nat.mod_eq_of_lt h]
  · rw [add_panic (Nat.le_of_not_lt h), if_neg h]

theorem u64_sub_sound (a b : UInt64) :
    U64.sub a.toNat b.toNat = if b ≤ a then ok (a - b).toNat else .panic := by
  by_cases h : b ≤ a
  · have h' : b.toNat ≤ a.toNat := UInt64.le_iff_toNat_le.1 h
    simp [U64.sub, h, h', UInt64.toNat_sub_of_le]
  · have h' : ¬ b.toNat ≤ a.toNat := fun x => h (UInt64.le_iff_toNat_le.2 x)
    simp [U64.sub, h, h']

theorem u64_shl_sound (a n : UInt64) :
    U64.shl a.toNat n.toNat = if n.toNat < 64 then ok (a <<< n).toNat else .panic := by
  by_cases h : n.toNat < 64
  · simp [U64.shl, h, UInt64.toNat_shiftLeft, Nat.mod_eq_of_lt h]
  · simp [U64.shl, h]

theorem u64_shr_sound (a n : UInt64) :
    U64.shr a.toNat n.toNat = if n.toNat < 64 then ok (a >>> n).toNat else .panic := by
  by_cases h : n.toNat < 64
  · simp [U64.shr, h, UInt64.toNat_shiftRight, Nat.mod_eq_of_lt h]
  · simp [U64.shr, h]

theorem u64_not_sound (a : UInt64) : U64.not a.toNat = (~~~a).toNat := by
  simp [U64.not, U64.MAX, UInt64.toNat_not]

theorem u64_mul_sound (a b : UInt64) :
    U64.mul a.toNat b.toNat = if a.toNat * b.toNat < 2 ^ 64 then ok (a * b).toNat else .panic := by
  by_cases h : a.toNat * b.toNat < 2 ^ 64
  · have : a.toNat * b.toNat ≤ U64.MAX := by unfold U64.MAX; omega
    simp [U64.mul, this, h, UInt64.toNat_mul, Nat.mod_eq_of_lt h]
  · have : ¬ a.toNat * b.toNat ≤ U64.MAX := by unfold U64.MAX; omega
    simp [U64.mul, this, h]

theorem u64_div_sound (a b : UInt64) :
    U64.div a.toNat b.toNat = if b = 0 then .panic else ok (a / b).toNat := by
  by_cases h : b = 0
  · subst h; simp [U64.div]
  · have : b.toNat ≠ 0 := fun x => h (UInt64.toNat_inj.1 (by simpa using x))
    simp [U64.div, h, this]

theorem u64_rem_sound (a b : UInt64) :
    U64.rem a.toNat b.toNat = if b = 0 then .panic else ok (a % b).toNat := by
  by_cases h : b = 0
  · subst h; simp [U64.rem]
  · have : b.toNat ≠ 0 := fun x => h (UInt64.toNat_inj.1 (by simpa using x))
    simp [U64.rem, h, this]

theorem reverse_bits_testBit (v j : Nat) :
    (U64.reverse_bits v).testBit j = (decide (j < 64) && v.testBit (63 - j)) := by
  rw [reverse_bits_eq, C17.testBit_revBits]
theorem reverse_bits_lt (v : Nat) : U64.reverse_bits v < 2 ^ 64 := by
  rw [reverse_bits_eq]; exact C17.revBits_lt 64 v

theorem u64_and_sound (a b : UInt64) : a.toNat &&& b.toNat = (a &&& b).toNat := by simp
theorem u64_or_sound (a b : UInt64) : a.toNat ||| b.toNat = (a ||| b).toNat := by simp
theorem u64_xor_sound (a b : UInt64) : a.toNat ^^^ b.toNat = (a ^^^ b).toNat := by simp
theorem u64_max_sound : U64.MAX = (UInt64.ofNat (2 ^ 64 - 1)).toNat := by decide

theorem bind_ok_right {α} (x : Res α) : (x >>= fun a => ok a) = x := bind_pure x

theorem bind_const_mapR {α β γ} (f : α → β) (x : Res α) (y : Res γ) :
    (x >>= fun _ => y) = (mapR f x >>= fun _ => y) := by cases x <;> rfl

/-- continuation of the hand model's `fromStr` after its loop -/
def strK (x : Nat × Nat × Bool) : Res C17.BS :=
  C17.new x.1 x.2.1 >>= fun b => if x.2.2 then ok b else .err

/-- continuation of the generated `from_iter` after its loop -/
def iterK (x : Nat × Nat) : Res BitSeqS := BitSeq.new x.1 x.2

theorem from_iter_unfold {T : Type} (f : T → Bit) (l : List T) :
    BitSeq.FromIterator_T.from_iter f l = (BitSeq.FromIterator_T.from_iter_loop1 f l 0 0 >>= iterK) := rfl

theorem fromStrLoop_big (s : List Char) (v n : Nat) (h : 64 < n) : (C17.fromStrLoop s v n >>= strK) = .panic := by
  induction s generalizing v n with
  | nil => simp [C17.fromStrLoop, strK, C17.new_panic v n (.inl h)]
  | cons c cs ih =>
    unfold C17.fromStrLoop
    by_cases h0 : c = '0'
    · simp only [h0, if_true]; exact ih v (n + 1) (Nat.lt_succ_of_lt h)
    · by_cases h1 : c = '1'
      · simp [h1, C17.shl_panic 1 n (Nat.le_of_lt h)]
      · simp [h0, h1, strK, C17.new_panic v n (.inl h)]

theorem from_iter_loop1_big {T : Type} (f : T → Bit) (l : List T) (v n : Nat) (h : 64 < n) :
    (BitSeq.FromIterator_T.from_iter_loop1 f l v n >>= iterK) = .panic := by
  induction l generalizing v n with
  | nil =>
    have : ¬ n ≤ 64 := Nat.not_le.mpr h
    simp [BitSeq.FromIterator_T.from_iter_loop1, iterK, BitSeq.new, BitSeq.MAX_LEN, this, assert_false]
  | cons x xs ih =>
    unfold BitSeq.FromIterator_T.from_iter_loop1
    cases f x
    · by_cases ha : n + 1 < 2 ^ 64
      · simp [Bit.is_one, add_ok ha, ih v (n + 1) (Nat.lt_succ_of_lt h)]
      · simp [Bit.is_one, add_panic (Nat.le_of_not_lt ha)]
    · simp [Bit.is_one, shl_eq, C17.shl_panic 1 n (Nat.le_of_lt h)]

/-- the generated `from_str` pipeline from any loop state.  With the length counter above 64 both sides are a panic
whatever follows, so the counter's own overflow check plays no part where the two loops are compared step by step. -/
theorem from_str_loop_eq (s : List Char) (v n : Nat) :
    mapR toBS ((BitSeq.FromIterator_T.from_iter_loop1 (fun (b : Bit) => b)
        (Iter.okPrefix (s.map BitSeq.FromStr.from_str_closure1)).1 v n >>= iterK) >>= fun r =>
        if (Iter.okPrefix (s.map BitSeq.FromStr.from_str_closure1)).2 then ok r else .err)
      = (C17.fromStrLoop s v n >>= strK) := by
  induction s generalizing v n with
  | nil =>
    simp [Iter.okPrefix, BitSeq.FromIterator_T.from_iter_loop1, C17.fromStrLoop, iterK, strK, new_eq, bind_ok_right]
  | cons c cs ih =>
    by_cases h : 64 < n
    · rw [from_iter_loop1_big _ _ v n h, fromStrLoop_big _ v n h]
      rfl
    · have ha : U64.add n 1 = ok (n + 1) := add_ok (by omega)
      by_cases h0 : c = '0'
      · subst h0
        simpa [Iter.okPrefix, BitSeq.FromStr.from_str_closure1, BitSeq.FromIterator_T.from_iter_loop1,
          C17.fromStrLoop, Bit.is_one, ha] using ih v (n + 1)
      · by_cases h1 : c = '1'
        · subst h1
          by_cases hn : n < 64
          · have hs : C17.shl 1 n = ok (2 ^ n) := C17.shl_one n hn
            simpa [Iter.okPrefix, BitSeq.FromStr.from_str_closure1, BitSeq.FromIterator_T.from_iter_loop1,
              C17.fromStrLoop, Bit.is_one, ha, bind_assoc, shl_eq, hs] using ih (v ||| 2 ^ n) (n + 1)
          · have hs : C17.shl 1 n = .panic := C17.shl_panic 1 n (Nat.le_of_not_lt hn)
            simp [Iter.okPrefix, BitSeq.FromStr.from_str_closure1, BitSeq.FromIterator_T.from_iter_loop1,
              C17.fromStrLoop, Bit.is_one, shl_eq, hs, mapR_panic]
        · simp [Iter.okPrefix, BitSeq.FromStr.from_str_closure1, BitSeq.FromIterator_T.from_iter_loop1,
            C17.fromStrLoop, h0, h1, iterK, strK, mapR_bind, mapR_err]
          rw [bind_const_mapR toBS, new_eq]

/-- `impl From<bool> for Bit` as the section of `toBool` -/
def ofBool (x : Bool) : Bit := Bit.From_bool.from_ x

theorem iter_closure1_eq (v k : Nat) :
    BitSeq.iter_closure1 v k = ok (v >>> 1, ofBool (v &&& 1 == 1)) := by
  unfold BitSeq.iter_closure1
  have h2 : v &&& 1 = v % 2 := Nat.and_one_is_mod v
  rcases Nat.mod_two_eq_zero_or_one v with h | h <;>
    simp [h2, h, shr_eq, shr_lit1, Bit.From_u64.from_, ofBool, Bit.From_bool.from_]

theorem iter_items_eq (n k v : Nat) :
    BitSeq.iter_items n k v = ok ((C17.iterLoop n v).map ofBool) := by
  induction n generalizing k v with
  | zero => rfl
  | succ n ih =>
    unfold BitSeq.iter_items
    simp [iter_closure1_eq, ih, C17.iterLoop]

theorem display_fold_eq (l : List Bool) (acc : List Char) :
    (l.map ofBool).foldl (fun f b => f ++ Bit.Display.fmt b) acc
      = acc ++ l.map (fun x => if x then '1' else '0') := by
  induction l generalizing acc with
  | nil => simp
  | cons x xs ih =>
    rw [List.map_cons, List.foldl_cons, ih]
    cases x <;> simp [ofBool, Bit.From_bool.from_, Bit.Display.fmt]

end Yuiv.C17Gen
