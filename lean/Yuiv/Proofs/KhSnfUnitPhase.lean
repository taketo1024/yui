import Yuiv.Proofs.KhSnfGInv
import Yuiv.Proofs.KhSnfUnit
import Mathlib.Tactic.Ring
import Mathlib.Tactic.LinearCombination
/-
KhSnf — the unit-pivot phase `unitLoop` preserves the elimination invariant `GInv` (helper): every round is a family
of row operations with the pivot row as source, then `ginv_peel`: the removal of the pivot row (cleared inside the move by
column operations with the pivot column as source; the code simply drops it) and of the rows that became empty.
-/
namespace Yuiv.KhSnf
open Yuiv.KhRef

theorem unit_sq {u : Int} (hu : u = 1 ∨ u = -1) : u * u = 1 := by
  rcases hu with rfl | rfl <;> rfl

theorem unitStep_ginv {m n : Nat} {A : Matrix (Fin m) (Fin n) ℤ}
    (rows next : Array Row) (units : Nat) (hok : ∀ r ∈ rows.toList, RowOK n r)
    (hG : GInv m n A rows.size n (rowsFn rows) units) (h : unitStep rows = some next) :
    (∀ r ∈ next.toList, RowOK n r) ∧ GInv m n A next.size n (rowsFn next) (units + 1) := by
  obtain ⟨i, j, u, idx, hi, hj, hu, hij, hnext, hpw, hidx, hsz, hval, hzero⟩ := unitStep_spec n rows next hok h
  refine ⟨fun r hr => (hnext r hr).1, ?_⟩
  have uu := unit_sq hu
  have hiju : rowsFn rows i j = u := hij
  have hnd : idx.Nodup := hpw.imp (fun h => Nat.ne_of_lt h)
  -- clear column `j` by row operations with source row `i`, then peel `(i, j)`
  have G1 := ginv_rowOps i hi (fun k => if k = i then 0 else -(rowsFn rows k j * u)) (if_pos rfl) hG
  have hnew : ∀ k, k ≠ i → ∀ c,
      rowsFn rows k c + (if k = i then 0 else -(rowsFn rows k j * u)) * rowsFn rows i c =
        rval rows[k]! c - rval rows[k]! j * u * rval rows[i]! c := fun k hk c => by
    rw [if_neg hk]
    unfold rowsFn
    ring
  rw [hsz]
  refine ginv_congr ?_ (ginv_peel i j hi hj
    (by show rowsFn rows i j + (if i = i then 0 else _) * rowsFn rows i j = 1 ∨ _ = -1
        rw [if_pos rfl, zero_mul, add_zero, hiju]; exact hu)
    (fun k _ hki => by
      show rowsFn rows k j + (if k = i then 0 else -(rowsFn rows k j * u)) * rowsFn rows i j = 0
      rw [if_neg hki, hiju]
      linear_combination (-(rowsFn rows k j)) * uu)
    idx hnd hidx
    (fun k hk hki hk' c _ => by
      show rowsFn rows k c + (if k = i then 0 else -(rowsFn rows k j * u)) * rowsFn rows i c = 0
      rw [hnew k hki c]
      exact hzero k hk hki hk' c) G1)
  intro p c hp _
  show rowsFn rows (idx.getD p 0) c + _ * rowsFn rows i c = rowsFn next p c
  rw [hnew _ (hidx _ ((getD_nodup hnd).1 p hp)).2 c]
  exact (hval p hp c).symm

theorem unitLoop_ginv {m n : Nat} {A : Matrix (Fin m) (Fin n) ℤ} :
    ∀ (fuel : Nat) (rows : Array Row) (units : Nat), (∀ r ∈ rows.toList, RowOK n r) →
      GInv m n A rows.size n (rowsFn rows) units →
      (∀ r ∈ (unitLoop fuel rows units).1.toList, RowOK n r) ∧
      GInv m n A (unitLoop fuel rows units).1.size n (rowsFn (unitLoop fuel rows units).1) (unitLoop fuel rows units).2 := by
  intro fuel
  induction fuel with
  | zero => intro rows units hok hG; exact ⟨hok, hG⟩
  | succ fuel ih =>
    intro rows units hok hG
    unfold unitLoop
    cases h : unitStep rows with
    | none => exact ⟨hok, hG⟩
    | some next =>
      obtain ⟨h1, h2⟩ := unitStep_ginv rows next units hok hG h
      exact ih next (units + 1) h1 h2

end Yuiv.KhSnf
