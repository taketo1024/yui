import Yuiv.Proofs.KhiSpecFam
import Yuiv.Props.C19Cone
/-
KhiSpec — assembly: under `khiSpecOk`, `khiHomology … false` returns the list of the non-zero dimensions
`#gens − rank D_out − rank D_in` of the cone of `1 + τ`.
-/
namespace Yuiv.KhiSpec
open Yuiv.KhRef Yuiv.C19 Yuiv.C19Comm Yuiv.C19Cone

theorem khiSpecOk_iff (l : InvLink) (p : Params) :
    khiSpecOk l p = true ↔ khiInstanceOk l p = true ∧ ∃ ic, mkICube l p = some ic ∧ khiGensOk ic p = true := by
  unfold khiSpecOk
  rw [Bool.and_eq_true]
  refine and_congr_right fun _ => ?_
  cases mkICube l p with
  | none => exact ⟨fun h => Bool.noConfusion h, fun ⟨_, h, _⟩ => nomatch h⟩
  | some ic =>
    refine ⟨fun h => ⟨ic, rfl, h⟩, ?_⟩
    rintro ⟨_, ⟨rfl⟩, hg⟩
    exact hg

theorem khiSpecOk_spec (l : InvLink) (p : Params) (h : khiSpecOk l p = true) :
    ∃ ic, mkICube l p = some ic ∧ khiInstanceOk l p = true ∧ GensOk ic p := by
  obtain ⟨hok, ic, hic, hg⟩ := (khiSpecOk_iff l p).1 h
  exact ⟨ic, hic, hok, (khiGensOk_iff ic p).1 hg⟩

theorem enumerated_ok (l : InvLink) (p : Params) (ic : ICube) (hic : mkICube l p = some ic)
    (hok : khiInstanceOk l p = true) (G : GensOk ic p) :
    (∀ gs ∈ kgensOf ic.cube, ∀ g ∈ gs, (ic.cube.d p g).isSome = true) ∧
    (∀ (i : Nat) (x : IGen), x ∈ cgens ic i → ∀ z, ((dI ic p x).flatMap (dI ic p)).count z % 2 = 0) := by
  obtain ⟨hv, hL, _, hred, ic', hic', hcube, _⟩ := khi_instance_ok_meaning l p hok
  rw [hic] at hic'
  cases hic'
  obtain ⟨ic', hic', _, _, H⟩ := khi_instance_ok_sound l p hok
  rw [hic] at hic'
  cases hic'
  obtain ⟨hc, _⟩ := mkICube_tst l p ic hic
  refine ⟨?_, ?_⟩
  · intro gs hgs g hg
    obtain ⟨h1, _, h3⟩ := G.valid gs hgs g hg
    rw [hc] at hcube h1 h3 ⊢
    obtain ⟨ts, hts, _⟩ := icCube_dsq l p hv hL hcube hred g h1 h3
    rw [hts]; rfl
  · intro i x hx z
    obtain ⟨gs, hgs, hg⟩ := coneGens_mem _ _ i x hx
    obtain ⟨h1, h2, h3⟩ := G.valid gs hgs x.2 hg
    obtain ⟨b, g⟩ := x
    exact (H g h1 h2 h3).2.2.2.2.2 b z

/-- the quantum shift of `khiHomology` -/
def q0Of (signs : Array Int) (p : Params) : Int :=
  ↑(Array.filter (fun x => decide (x > 0)) signs).size -
    2 * ↑(Array.filter (fun x => decide (x < 0)) signs).size + if p.reduced = true then 1 else 0

theorem khiHomology_eq_tail (l : InvLink) (signs : Array Int) (p : Params) (b : Bool) (ic : ICube)
    (hic : mkICube l p = some ic) (hok : khiInstanceOk l p = true) (G : GensOk ic p) :
    khiHomology l signs p b = Id.run (khiTail2 ic.cube (q0Of signs p) (-↑(signs.filter (· < 0)).size) b
      (dIm ic p) (coneGens ic.cube (kgensOf ic.cube))) := by
  obtain ⟨hd, hcone⟩ := enumerated_ok l p ic hic hok G
  rw [khiHomology_eq]
  unfold khiM
  rw [hic]
  simp only
  rw [dmapK_noexit _ _ _ _ hd]
  show Id.run (ddK (dIm ic p) (coneGens ic.cube (kgensOf ic.cube)) _) = _
  rw [ddK_noexit _ _ _ (dd_check_passes ic p G hcone)]
  rfl

theorem khi_graded_eq (l : InvLink) (signs : Array Int) (p : Params) (ic : ICube) (hic : mkICube l p = some ic)
    (hok : khiInstanceOk l p = true) (G : GensOk ic p) :
    khiHomology l signs p false = Except.ok { cells :=
      ((List.range (ic.cube.n + 2)).filterMap (fun (i : Nat) =>
        if coneDim ic p i ≠ 0 then
          some (-((signs.filter (· < 0)).size : Int) + (i : Int), (none : Option Int), coneDim ic p i) else none)).toArray } := by
  rw [khiHomology_eq_tail l signs p false ic hic hok G, khiTail2_graded]
  simp only [Id.run, pure]
  rw [homoA_fam ic p _ G.nodup G.closed (fun i x hx => coneGens_mem _ _ i x hx), cellsOf_map, coneGens_size, Array.empty_append]
  rfl

end Yuiv.KhiSpec
