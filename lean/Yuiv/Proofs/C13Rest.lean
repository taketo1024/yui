import Yuiv.Proofs.C13
import Yuiv.Proofs.C13Raw
import Yuiv.Proofs.C13Vec
import Mathlib.Data.List.Perm.Subperm
/-
C13 — the remaining small routines of the code model: the dense predicates and
`diag`, `is_zero` of the sparse containers (stored zeros do not matter), `SpVec::unit`, `perm_for_indices` on repeated
indices (`PermOwned::new` rejects the result), the ad-hoc closures which the driver hands to `extract`.
-/
namespace Yuiv.C13
open Yuiv Res

variable {R : Type} [CommRing R]

theorem disDiag_iff [DecidableEq R] (A : DMat R) :
    A.isDiag = true ↔ ∀ i j, i < A.nrows → j < A.ncols → i ≠ j → A.get i j = 0 := by
  unfold DMat.isDiag
  simp only [List.all_eq_true, List.mem_range, Bool.or_eq_true, decide_eq_true_eq]
  constructor
  · intro h i j hi hj hij
    rcases h i hi j hj with e | e
    · exact absurd e hij
    · exact e
  · intro h i hi j hj
    by_cases e : i = j
    · exact Or.inl e
    · exact Or.inr (h i j hi hj e)

theorem ddiag_panic (m n : Nat) (es : List R) (h : ¬ (es.length ≤ m ∧ es.length ≤ n)) :
    DMat.diag m n es = panic := by
  unfold DMat.diag; rw [if_neg h]

theorem sumAt_of_mem_sorted (c : List (Nat × R)) (hs : (c.map (·.1)).Pairwise (· < ·)) (p : Nat × R)
    (hp : p ∈ c) : sumAt c p.1 = p.2 := by
  induction c with
  | nil => cases hp
  | cons q c ih =>
    obtain ⟨k, a⟩ := q
    rw [List.map_cons, List.pairwise_cons] at hs
    rw [sumAt_cons]
    rcases List.mem_cons.mp hp with e | hp'
    · subst e
      rw [if_pos rfl, sumAt_eq_zero c k (fun q hq e => by
        have := hs.1 q.1 (List.mem_map_of_mem hq); omega)]
      simp
    · have hlt := hs.1 p.1 (List.mem_map_of_mem hp')
      rw [if_neg (Nat.ne_of_lt hlt), ih hs.2 hp']; simp

theorem sumAt_all_zero (c : List (Nat × R)) (h : ∀ p ∈ c, p.2 = 0) (i : Nat) : sumAt c i = 0 := by
  induction c with
  | nil => rfl
  | cons q c ih =>
    obtain ⟨k, a⟩ := q
    have ha : a = 0 := h (k, a) (by simp)
    rw [sumAt_cons, ih (fun p hp => h p (by simp [hp])), ha]; simp

theorem col_all_zero_iff [DecidableEq R] (c : List (Nat × R)) (hs : (c.map (·.1)).Pairwise (· < ·)) :
    c.all (fun p => decide (p.2 = 0)) = true ↔ ∀ i, sumAt c i = 0 := by
  simp only [List.all_eq_true, decide_eq_true_eq]
  constructor
  · intro h i; exact sumAt_all_zero c h i
  · intro h p hp
    rw [← sumAt_of_mem_sorted c hs p hp]; exact h p.1

theorem isZero_entries [DecidableEq R] (A : SpMat R) (h : A.isZero = true) (i j : Nat) : A.entry i j = 0 := by
  unfold SpMat.isZero at h
  simp only [List.all_eq_true, decide_eq_true_eq] at h
  unfold SpMat.entry
  rw [List.getD_eq_getElem?_getD]
  cases hc : A.cols[j]? with
  | none => simp
  | some c =>
    simp only [Option.getD_some]
    exact sumAt_all_zero c (h c (List.mem_of_getElem? hc)) i

theorem vneg_toMat (v : SpVec R) : v.neg.toMat = v.toMat.neg := rfl

theorem vunit_ok (n i : Nat) (hi : i < n) :
    (SpVec.unit n i : Res (SpVec R)) = ok ⟨n, [(i, 1)]⟩ := by
  unfold SpVec.unit tryFromCsc
  rw [if_pos ⟨rfl, rfl, rfl, rfl, rfl, by simp [splitLanes, strictInc, hi]⟩]
  rfl

theorem vunit_wf (n i : Nat) (hi : i < n) : (⟨n, [(i, 1)]⟩ : SpVec R).WF :=
  (fromSortedEntries_spec n [(i, 1)] (fun _ hp => List.mem_singleton.mp hp ▸ hi) (List.pairwise_singleton _ _)).2

theorem vunit_entry (n i k : Nat) : (⟨n, [(i, 1)]⟩ : SpVec R).entry k = if k = i then 1 else 0 := by
  unfold SpVec.entry
  rw [sumAt_cons, sumAt_nil, add_zero]
  by_cases e : i = k
  · subst e; simp
  · rw [if_neg e, if_neg (fun h => e h.symm)]

theorem vec_length_gt (n : Nat) (indices : List Nat) (hnd : ¬ indices.Nodup) :
    n < (indices ++ (List.range n).filter (fun i => !indices.contains i)).length := by
  have hpart := List.length_eq_length_filter_add (l := List.range n) (fun i => indices.contains i)
  rw [List.length_range] at hpart
  set s := (List.range n).filter (fun i => indices.contains i) with hs
  have hsnd : s.Nodup := (List.nodup_range).filter _
  have hsub : s ⊆ indices := by
    intro a ha
    simp only [hs, List.mem_filter, List.contains_iff_mem] at ha
    exact ha.2
  have hsp : s.Subperm indices := List.subperm_of_subset hsnd hsub
  have hlt : s.length < indices.length := by
    by_contra hge
    have hperm := hsp.perm_of_length_le (by omega)
    exact hnd (hperm.nodup_iff.mp hsnd)
  rw [List.length_append]
  have : ((List.range n).filter (fun i => !indices.contains i)).length
      = ((List.range n).filter (fun x => !(fun i => indices.contains i) x)).length := rfl
  omega

theorem filter_range_split (n i : Nat) (q : Nat → Bool) (hi : i < n) (hq : q i = true) :
    ∃ tail, (List.range n).filter q = (List.range i).filter q ++ i :: tail := by
  obtain ⟨k, rfl⟩ : ∃ k, n = i + (k + 1) := ⟨n - i - 1, by omega⟩
  rw [List.range_add, List.filter_append, List.range_succ_eq_map, List.map_cons, List.filter_cons, Nat.add_zero,
    if_pos hq]
  exact ⟨_, rfl⟩

theorem filter_range_length_lt (i j : Nat) (q : Nat → Bool) (hij : i < j) (hq : q i = true) :
    ((List.range i).filter q).length < ((List.range j).filter q).length := by
  obtain ⟨tail, ht⟩ := filter_range_split j i q hij hq
  rw [ht, List.length_append, List.length_cons]; omega

theorem sum_vals_eq_double (ts : List (Trip R)) (m n : Nat) (hb : ∀ t ∈ ts, t.1 < m ∧ t.2.1 < n) :
    (ts.map (·.2.2)).sum = ∑ i ∈ Finset.range m, ∑ j ∈ Finset.range n, entryT ts i j := by
  induction ts with
  | nil => simp
  | cons t ts ih =>
    have hbt := hb t List.mem_cons_self
    simp only [entryT_cons, Finset.sum_add_distrib, ← ih (fun u hu => hb u (List.mem_cons_of_mem _ hu)),
      List.map_cons, List.sum_cons]
    congr 1
    rw [Finset.sum_eq_single_of_mem t.1 (Finset.mem_range.mpr hbt.1),
      Finset.sum_eq_single_of_mem t.2.1 (Finset.mem_range.mpr hbt.2), if_pos ⟨rfl, rfl⟩]
    · intro j _ hj; rw [if_neg (fun e => hj e.2.symm)]
    · intro i _ hi
      exact Finset.sum_eq_zero (fun j _ => if_neg (fun e => hi e.1.symm))

theorem filter_sum_eq_double (ts : List (Trip R)) (m n : Nat) (P : Nat → Nat → Prop) [∀ i j, Decidable (P i j)]
    (hb : ∀ t ∈ ts, t.1 < m ∧ t.2.1 < n) :
    ((ts.filter (fun t => decide (P t.1 t.2.1))).map (·.2.2)).sum
      = ∑ i ∈ Finset.range m, ∑ j ∈ Finset.range n, if P i j then entryT ts i j else 0 := by
  rw [sum_vals_eq_double _ m n (fun t ht => hb t (List.mem_of_mem_filter ht))]
  simp only [entryT_filter_pos (fun i j => decide (P i j)), decide_eq_true_eq]

theorem vfilter_sum_eq_sum (es : List (Nat × R)) (d : Nat) (P : Nat → Prop) [DecidablePred P]
    (hb : ∀ p ∈ es, p.1 < d) :
    ((es.filter (fun p => decide (P p.1))).map (·.2)).sum
      = ∑ i ∈ Finset.range d, if P i then sumAt es i else 0 := by
  have := filter_sum_eq_double (es.map (fun p => (p.1, 0, p.2))) d 1 (fun i _ => P i) (fun t ht => by
    obtain ⟨p, hp, rfl⟩ := List.mem_map.mp ht
    exact ⟨hb p hp, Nat.zero_lt_one⟩)
  simp only [List.filter_map, List.map_map, Finset.sum_range_one, entryT_col, if_true] at this
  exact this

theorem half_lt {a n : Nat} (h : a < n) : a / 2 < (n + 1) / 2 := by omega

theorem evenReloc_iff (a i : Nat) : (if a % 2 = 0 then some (a / 2) else none) = some i ↔ a = 2 * i := by
  constructor
  · intro h
    split at h
    · cases h; omega
    · cases h
  · rintro rfl
    rw [if_pos (Nat.mul_mod_right 2 i), Nat.mul_div_cancel_left i Nat.two_pos]

/-- `x1`: the folding closure `(i, j) ↦ (i % m', j % n')` for positive `m'`, `n'` -/
theorem extract_fold_spec [DecidableEq R] (A : SpMat R) (m' n' : Nat) (hm : 0 < m') (hn : 0 < n') :
    ∃ B, A.extract m' n' (fun i j => if m' = 0 ∨ n' = 0 then panic else ok (some (i % m', j % n'))) = ok B ∧
      B.nrows = m' ∧ B.ncols = n' ∧ B.WF ∧ ∀ i' j', i' < m' → j' < n' →
        B.entry i' j' = ((A.triplets.filter (fun t => t.1 % m' = i' ∧ t.2.1 % n' = j')).map (·.2.2)).sum := by
  obtain ⟨B, h1, h2, h3, h4, h5⟩ := extract_spec A m' n'
    (fun i j => if m' = 0 ∨ n' = 0 then panic else ok (some (i % m', j % n')))
    (fun i j => some (i % m', j % n')) (fun t ht => by rw [if_neg (not_or.mpr ⟨Nat.ne_of_gt hm, Nat.ne_of_gt hn⟩)])
    (fun t ht x hx => by cases hx; exact ⟨Nat.mod_lt _ hm, Nat.mod_lt _ hn⟩)
  refine ⟨B, h1, h2, h3, h4, ?_⟩
  intro i' j' hi hj
  rw [h5 i' j' hi hj]
  congr 2
  apply List.filter_congr
  intro t ht
  simp only [Option.some.injEq, Prod.mk.injEq]

theorem extract_fold_panic [DecidableEq R] (A : SpMat R) (m' n' : Nat) (h0 : m' = 0 ∨ n' = 0) (hne : A.triplets ≠ []) :
    A.extract m' n' (fun i j => if m' = 0 ∨ n' = 0 then panic else ok (some (i % m', j % n'))) = panic := by
  unfold SpMat.extract
  rw [mapTrips_panic _ _ (fun t ht => by rw [if_pos h0]; exact fun e => by cases e)
    (by obtain ⟨t, ht⟩ := List.exists_mem_of_ne_nil _ hne; exact ⟨t, ht, by rw [if_pos h0]⟩)]
  rfl

theorem extract_fold_empty [DecidableEq R] (A : SpMat R) (m' n' : Nat) (hne : A.triplets = []) :
    A.extract m' n' (fun i j => if m' = 0 ∨ n' = 0 then panic else ok (some (i % m', j % n')))
      = ok (cooToCsc m' n' []) := by
  unfold SpMat.extract
  rw [hne]; rfl

/-- `vx1`: the folding closure `i ↦ i % d'` for positive `d'` -/
theorem vextract_fold_spec [DecidableEq R] (v : SpVec R) (d' : Nat) (hd : 0 < d') :
    ∃ w, v.extract d' (fun i => if d' = 0 then panic else ok (some (i % d'))) = ok w ∧
      w.dim = d' ∧ w.WF ∧ ∀ i', i' < d' →
        w.entry i' = ((v.ents.filter (fun p => p.1 % d' = i')).map (·.2)).sum := by
  obtain ⟨w, h1, h2, h3, h4⟩ := vextract_spec v d'
    (fun i => if d' = 0 then panic else ok (some (i % d'))) (fun i => some (i % d'))
    (fun p hp => by rw [if_neg (Nat.ne_of_gt hd)])
    (fun p hp x hx => by cases hx; exact Nat.mod_lt _ hd)
  refine ⟨w, h1, h2, h3, ?_⟩
  intro i' hi
  rw [h4 i' hi]
  congr 2
  apply List.filter_congr
  intro p hp
  simp only [Option.some.injEq]

theorem vextract_fold_panic [DecidableEq R] (v : SpVec R) (hne : v.ents ≠ []) :
    v.extract 0 (fun i => if (0 : Nat) = 0 then panic else ok (some (i % 0))) = panic := by
  unfold SpVec.extract
  obtain ⟨p, es, he⟩ := List.exists_cons_of_ne_nil hne
  obtain ⟨i, a⟩ := p
  rw [he, mapEnts]
  rfl

end Yuiv.C13
