import Yuiv.Proofs.C18
import Yuiv.Proofs.C18Orbit
import Yuiv.Proofs.C18Check
import Yuiv.Proofs.C18Closure
import Yuiv.Proofs.C18Resolve
import Yuiv.Proofs.C18Relabel
/-
C18 — link diagrams: components, signs, resolutions and braid closures.

Property theorems only: the finite tables of `crossing.rs` / `link.rs` (by `decide`); mirror image and edge renumbering,
for ALL links (valid or not); valid PD codes (the walk, the verified checker for component lists); resolution states;
braid closures.
-/
namespace Yuiv.C18
open Yuiv

theorem pass_lt : ∀ t : CType, ∀ j, j < 4 → t.pass j < 4 := pass_lt'
/-- `pass` is an involution on `{0,1,2,3}` for each crossing type … -/
theorem pass_pass : ∀ t : CType, ∀ j, j < 4 → t.pass (t.pass j) = j := pass_pass'
/-- … without fixed points -/
theorem pass_ne : ∀ t : CType, ∀ j, j < 4 → t.pass j ≠ j := pass_ne'

/-- `arcs` pairs exactly `{j, pass j}`: the two index pairs are `pass`-partners and cover the four slots -/
theorem arcs_pass : ∀ t : CType,
    t.pass t.arcs.1.1 = t.arcs.1.2 ∧ t.pass t.arcs.2.1 = t.arcs.2.2 ∧
    [t.arcs.1.1, t.arcs.1.2, t.arcs.2.1, t.arcs.2.2].Perm [0, 1, 2, 3] := by decide

/-- resolution table: `X`/`Xm` resolve to `H`/`V` as in Bar-Natan's convention, resolved types panic -/
theorem resolve_table :
    CType.X.resolve false = some .H ∧ CType.X.resolve true = some .V ∧
    CType.Xm.resolve false = some .V ∧ CType.Xm.resolve true = some .H ∧
    (∀ b, CType.V.resolve b = none) ∧ (∀ b, CType.H.resolve b = none) := by decide

theorem resolve_isResolved : ∀ t : CType, ∀ b : Bool,
    (t.isResolved = true ↔ t.resolve b = none) ∧ (∀ t', t.resolve b = some t' → t'.isResolved = true) := by decide

theorem resolve_ne : ∀ t : CType, t.isResolved = false → t.resolve false ≠ t.resolve true := by decide

/-- the strand through a resolved crossing joins the slots that `arcs` joins: `V` = {0,3},{1,2}; `H` = {0,1},{2,3} -/
theorem pass_resolved :
    (List.range 4).map CType.V.pass = [3, 2, 1, 0] ∧ (List.range 4).map CType.H.pass = [1, 0, 3, 2] ∧
    (List.range 4).map CType.X.pass = [2, 3, 0, 1] ∧ (List.range 4).map CType.Xm.pass = [2, 3, 0, 1] := by decide

theorem ctype_mirror_mirror : ∀ t : CType, t.mirror.mirror = t := by decide
theorem ctype_mirror_pass : ∀ t : CType, ∀ j, j < 4 → t.mirror.pass j = t.pass j := pass_mirror'
theorem ctype_mirror_isResolved : ∀ t : CType, t.mirror.isResolved = t.isResolved := by decide

/-- mirroring negates the sign table -/
theorem signAt_mirror : ∀ t : CType, ∀ j, j < 4 → signAt t.mirror j = (signAt t j).map Sign.flip :=
  fun t j _ => signAt_mirror_all t j

/-- reversing the strand on which a sign is read (entering at the other end `pass j`) negates it;
signs exist exactly at the slots 1, 3 of unresolved crossings -/
theorem signAt_reverse : ∀ t : CType, ∀ j, j < 4 → signAt t (t.pass j) = (signAt t j).map Sign.flip := by decide
theorem signAt_isSome : ∀ t : CType, ∀ j, j < 4 →
    ((signAt t j).isSome = true ↔ (t.isResolved = false ∧ (j = 1 ∨ j = 3))) := by decide

/-- the `b`-smoothing of a crossing is the `(!b)`-smoothing of its mirror image -/
theorem resolve_mirror : ∀ t : CType, ∀ b : Bool, t.mirror.resolve (!b) = t.resolve b := resolve_mirror'

theorem mirror_mirror (l : Link) : mirror (mirror l) = l := by
  unfold mirror
  rw [List.map_map]
  have : (Crossing.mirror ∘ Crossing.mirror) = id := by
    funext c; exact Crossing.mirror_mirror c
  rw [this, List.map_id]

/-- the walk, hence the components, ignore over/under information -/
theorem components_mirror (l : Link) : components (mirror l) = components l :=
  (relabel_mirror.components_eq l).trans
    (resMap_eq_self _ (fun cs => (List.map_congr_left fun p _ => Path.ren_id p).trans (List.map_id cs)) _)

/-- `crossing_signs` of the mirror image are the negated signs (and it panics iff the original does) -/
theorem crossingSigns_mirror (l : Link) :
    crossingSigns (mirror l) = resMap (List.map Sign.flip) (crossingSigns l) := crossingSigns_mirror' l

/-- signed crossing numbers swap and the writhe negates under mirroring -/
theorem writhe_mirror (l : Link) (s : List Sign) (h : crossingSigns l = .ok s) :
    signedCrossingNums (mirror l) = .ok (s.count .neg, s.count .pos) ∧
    signedCrossingNums l = .ok (s.count .pos, s.count .neg) ∧
    writhe (mirror l) = .ok (-((s.count .pos : Int) - (s.count .neg : Int))) ∧
    writhe l = .ok ((s.count .pos : Int) - (s.count .neg : Int)) := by
  have hm : crossingSigns (mirror l) = .ok (s.map Sign.flip) := by
    rw [crossingSigns_mirror', h]; rfl
  have hc := count_flip s
  refine ⟨?_, ?_, ?_, ?_⟩
  · simp only [signedCrossingNums, hm, Res.bind_ok, Res.pure_eq, hc.1, hc.2]
  · simp only [signedCrossingNums, h, Res.bind_ok, Res.pure_eq]
  · simp only [writhe, signedCrossingNums, hm, Res.bind_ok, Res.pure_eq, hc.1, hc.2]
    congr 1; omega
  · simp only [writhe, signedCrossingNums, h, Res.bind_ok, Res.pure_eq]

example : crossingSigns (fromPD [[1,4,2,5],[3,6,4,1],[5,2,6,3]]) = .ok [.neg, .neg, .neg] := by decide +kernel

/-- a crossing and its mirror image have the same smoothings, with the roles of 0 and 1 exchanged -/
theorem crossing_resolve_mirror (c : Crossing) (b : Bool) : c.mirror.resolve (!b) = c.resolve b := by
  cases c with
  | mk t e0 e1 e2 e3 =>
    cases t <;> cases b <;> rfl

/-! ### valid PD codes: the walk enumerates an orbit and returns (no panic)

`Valid l`: every label occurs in exactly two slots.  `HE l h`: `h = (i, j)` is a slot (`i < n`, `j < 4`).
`step l h`: through the crossing (`pass`), then to the other end of the edge (`pass_edge`). -/

/-- on a valid code `pass_edge` is a fixed-point-free, label-preserving involution of the slots -/
theorem passEdge_valid (l : Link) (hv : Valid l) (h : Nat × Nat) (hh : HE l h) :
    ∃ h', passEdge l h.1 h.2 = some h' ∧ HE l h' ∧ h' ≠ h ∧
      edgeAt l h'.1 h'.2 = edgeAt l h.1 h.2 ∧ passEdge l h'.1 h'.2 = some h :=
  passEdge_valid' l hv h hh

/-- the half-edge map sends slots to slots and is injective on them (so it permutes the `4n` slots) -/
theorem step_injective (l : Link) (hv : Valid l) (a b : Nat × Nat) (ha : HE l a) (hb : HE l b) :
    HE l (step l a) ∧ (step l a = step l b → a = b) :=
  ⟨(step_spec l hv a ha).2.1, step_inj l hv a b ha hb⟩

/-- `traverse_edges` on a valid code never reaches the `4·n` bound: it reports the slots
`s, step s, step² s, …` (here `v`, most recent first) without repetition, all of them slots of `l`,
closes up (`step` of the last one is `s`) after at most `4·n` steps and reports `s` once more. -/
theorem traverse_orbit (l : Link) (hv : Valid l) (s : Nat × Nat) (hs : HE l s) :
    ∃ v, traverse l s = .ok (v.reverse ++ [s]) ∧ RChain (step l) s v ∧ v.Nodup ∧
      step l (v.headD s) = s ∧ 0 < v.length ∧ v.length ≤ 4 * l.length ∧ (∀ h ∈ v, HE l h) := by
  obtain ⟨v, h1, hw⟩ := traverse_valid l hv s hs
  exact ⟨v, h1, hw.chain, hw.nodup, hw.ret, List.length_pos_iff.2 hw.chain.ne_nil,
    hw.chain.length_le hv hs hw.nodup, hw.he⟩

example : Valid (fromPD [[4,2,5,1],[8,6,1,5],[6,3,7,4],[2,7,3,8]]) := by decide +kernel
example : traverse (fromPD [[0,0,1,1]]) (0, 0) = .ok [(0,0),(0,3),(0,0)] := by decide +kernel
/-- the bound is sharp for malformed codes: a label occurring three times makes the walk panic -/
example : traverse (fromPD [[1,2,1,1]]) (0, 1) = .panic := by decide +kernel

/-! ### edge renumbering (all links, valid or not)

`renumber f l` renames every label by `f`; `Inj f`: `f` is injective. -/

/-- the walks of a renumbered diagram are literally the same slot sequences -/
theorem traverse_renumber_eq (f : Nat → Nat) (hf : Inj f) (l : Link) (s : Nat × Nat) (hs : s.1 < l.length) :
    traverse (renumber f l) s = traverse l s := (relabel_renumber f hf).traverse_eq l s hs

/-- components commute with renumbering (same order, same direction, labels renamed; same panics) -/
theorem components_renumber (f : Nat → Nat) (hf : Inj f) (l : Link) :
    components (renumber f l) = resMap (List.map (Path.ren f)) (components l) :=
  (relabel_renumber f hf).components_eq l

/-- crossing signs — hence writhe and signed crossing numbers — are invariant under renumbering -/
theorem crossingSigns_renumber (f : Nat → Nat) (hf : Inj f) (l : Link) :
    crossingSigns (renumber f l) = crossingSigns l ∧
    signedCrossingNums (renumber f l) = signedCrossingNums l ∧
    writhe (renumber f l) = writhe l := by
  have h := crossingSigns_renumber' f hf l
  refine ⟨h, ?_, ?_⟩
  · unfold signedCrossingNums; rw [h]
  · unfold writhe signedCrossingNums; rw [h]

example : Inj (fun x => 3 * x + 7) := by intro a b h; simp only at h; omega

/-! ### resolution states

`smoothAll l s` (spec): go along the crossings and smooth the `k`-th unresolved one by the `k`-th bit
(`X`,0 ↦ `H`; `X`,1 ↦ `V`; `Xm`,0 ↦ `V`; `Xm`,1 ↦ `H`), resolved crossings are skipped. -/

/-- `resolved_by` with a state of the right length never panics, equals the spec, leaves no crossing and
keeps every edge array; with a state of the wrong length it panics (debug assertion) -/
theorem resolvedBy_spec (l : Link) (s : List Bool) :
    (s.length = crossingNum l →
      resolvedBy l s = .ok (smoothAll l s) ∧ crossingNum (smoothAll l s) = 0 ∧
      (smoothAll l s).map Crossing.edges = l.map Crossing.edges) ∧
    (s.length ≠ crossingNum l → resolvedBy l s = .panic) := by
  constructor
  · intro h
    obtain ⟨h1, h2⟩ := foldlM_resolveFirst s l h
    exact ⟨by unfold resolvedBy; rw [if_pos h]; exact h1, h2, smoothAll_edges l s⟩
  · intro h
    unfold resolvedBy; rw [if_neg h]

example : resolvedBy (fromPD [[1,4,2,5],[3,6,4,1],[5,2,6,3]]) [false, true, false]
    = .ok [⟨.H,1,4,2,5⟩, ⟨.V,3,6,4,1⟩, ⟨.H,5,2,6,3⟩] := by decide +kernel

/-! ### verified checker for component lists

`checkComps l comps` is evaluated by the driver on the component list of every compared case (`L`, `C` lines,
every resolution state of the `R` lines, the Seifert resolution), and the component lists of the real code
are compared with the model's; so the statement below applies to the outputs of the real code on all
generated inputs.  `Conn l` is the equivalence generated by `joined l e e'` = "e and e' are the labels at
the two ends of a strand through some crossing" (`joined_spec`); for a fully resolved diagram this is the
edge-identification relation, so the number of circles is the number of its classes. -/

theorem joined_spec (l : Link) (e e' : Nat) :
    joined l e e' = true ↔ ∃ c ∈ l, ∃ j, j < 4 ∧ c.edge j = e ∧ c.edge (c.ctype.pass j) = e' :=
  joined_iff l e e'

/-- an accepted component list is a partition of the edge set into the classes of `Conn`:
every label lies in exactly one component and is listed once; every component is closed, non-empty and
is exactly the `Conn`-class of each of its labels -/
theorem checkComps_sound (l : Link) (comps : List Path) (h : checkComps l comps = true) :
    (∀ e, e ∈ allEdges l ↔ ∃ p ∈ comps, e ∈ p.edges) ∧
    (comps.flatMap (·.edges)).Nodup ∧
    (∀ p ∈ comps, p.closed = true ∧ p.edges ≠ [] ∧ ∀ e ∈ p.edges, ∀ e', Conn l e e' ↔ e' ∈ p.edges) :=
  checkComps_sound' l comps h

example : (components (fromPD [[4,1,3,2],[2,3,1,4]])).isOk = true ∧
    (match components (fromPD [[4,1,3,2],[2,3,1,4]]) with | .ok cs => checkComps (fromPD [[4,1,3,2],[2,3,1,4]]) cs | _ => false) = true := by
  decide +kernel

/-- the closure of a word of length `n` has `n` crossings (all of type `X`) and `4n` slots -/
theorem closure_counts (strands : Nat) (w : List Int) (l : Link) (h : closure strands w = .ok l) :
    l.length = w.length ∧ crossingNum l = w.length ∧ (allEdges l).length = 4 * w.length := by
  obtain ⟨pd, hp, h⟩ := Res.bind_eq_ok h
  cases h
  have hl := closurePD_length hp
  refine ⟨by simp [fromPD4, hl], ?_, by rw [allEdges_fromPD4_length, hl]⟩
  unfold crossingNum fromPD4
  rw [List.filter_map, List.length_map]
  have : pd.filter ((fun c => !Crossing.isResolved c) ∘ fun x => Crossing.ofPD x.1 x.2.1 x.2.2.1 x.2.2.2) = pd :=
    List.filter_eq_self.2 (fun _ _ => rfl)
  rw [this, hl]

/-- the closure of a braid word (whenever `closure` returns, i.e. every strand is used and every letter is in
range) is a valid PD code: every label occurs in exactly two slots.  Together with `closure_counts` (4n slots)
the closure uses 2n labels. -/
theorem closure_valid (strands : Nat) (w : List Int) (l : Link) (h : closure strands w = .ok l) : Valid l :=
  closure_valid' strands w l h

/-- the closure of a word of length `n` uses exactly `2n` distinct edge labels -/
theorem closure_labels (strands : Nat) (w : List Int) (l : Link) (h : closure strands w = .ok l) :
    (allEdges l).eraseDups.length = 2 * w.length := by
  have h1 := twice_labels _ (allEdges l) rfl (closure_valid strands w l h)
  have h2 := (closure_counts strands w l h).2.2
  omega

/-- hence no walk on a braid closure can hit the `4·n` bound -/
theorem closure_traverse (strands : Nat) (w : List Int) (l : Link) (h : closure strands w = .ok l)
    (s : Nat × Nat) (hs : HE l s) : ∃ path, traverse l s = .ok path :=
  let ⟨_, hv, _⟩ := traverse_orbit l (closure_valid strands w l h) s hs
  ⟨_, hv⟩

example : closure 2 [1, 1, 1] = .ok (fromPD [[0,2,3,1],[2,4,5,3],[4,0,1,5]]) := by decide +kernel

end Yuiv.C18
