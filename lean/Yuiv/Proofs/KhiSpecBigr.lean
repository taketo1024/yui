import Yuiv.Proofs.KhiSpecLoops
import Yuiv.Proofs.C04InvSort
import Yuiv.Proofs.KhSpecSort
/-
KhiSpec — the bigraded branch of `khiHomology` (`khiTail2 … true …`) in functional form: it does not exit when `dI` preserves the
quantum degree; the collected degrees are pairwise distinct and come out of `Array.qsort` in strictly increasing order.
-/
namespace Yuiv.KhiSpec
open Yuiv.KhRef Yuiv.C19

def qsSorted (c : Cube) (q0 : Int) (gens : Array (Array IGen)) : Array Int :=
  (qsOf c q0 gens).qsort (fun x1 x2 => decide (x1 < x2))

theorem khiTail2_bigr (c : Cube) (q0 h0 : Int) (dI : IGen → Array IGen) (gens : Array (Array IGen))
    (hq : ∀ q ∈ qsSorted c q0 gens, ∀ gs ∈ gqOf c q0 q gens, ∀ x ∈ gs,
      ((reduce2 (dI x)).any fun y => c.qDeg q0 y.snd != q) = false) :
    khiTail2 c q0 h0 true dI gens = pure (Except.ok (IResult.mk
      ((qsSorted c q0 gens).foldl
        (fun cells q => cellsOf h0 (some q) (homoA dI (gqOf c q0 q gens)) cells) #[]))) := by
  unfold khiTail2 qsSorted
  simp only [Bool.not_true, Bool.false_eq_true, if_false]
  show ((pure (qsOf c q0 gens) : Id (Array Int)) >>= fun qs =>
    (forIn (m := Id) (qs.qsort fun x1 x2 => decide (x1 < x2)) ((none : Option Res), (#[] : Array (Int × Option Int × Nat))) _ >>=
      fun __s => _)) = _
  rw [pure_bind]
  rw [forIn_array_noexit (ρ := Res) _ _
    (fun cells q => cellsOf h0 (some q) (homoA dI (gqOf c q0 q gens)) cells) ?h]
  case h =>
    intro q hqm s
    show (forIn (m := Id) (gqOf c q0 q gens) ((none : Option Res), ()) _ >>= fun __s => _) = _
    rw [forIn_array_noexit (ρ := Res) (gqOf c q0 q gens) _ (fun u _ => u) ?h2]
    case h2 =>
      intro gs hgs s'
      rw [forIn_array_noexit (ρ := Res) gs _ (fun u _ => u) ?h3]
      case h3 =>
        intro x hx s''
        simp only [hq q hqm gs hgs x hx]
        rfl
      rfl
    rfl
  rfl

theorem bigr_cells (h0 : Int) (qs : List Int) (n : Nat) (f : Int → Nat → Nat) (cells : Array (Int × Option Int × Nat)) :
    qs.foldl (fun cells q => cellsOf h0 (some q) ((List.range n).map (f q)).toArray cells) cells =
      cells ++ (qs.flatMap (fun q => (List.range n).filterMap (fun (i : Nat) =>
        if f q i ≠ 0 then some (h0 + (i : Int), some q, f q i) else none))).toArray := by
  induction qs generalizing cells with
  | nil => simp
  | cons q qs ih =>
    rw [List.foldl_cons, ih, cellsOf_map, List.flatMap_cons]
    simp

theorem qsOf_eq (c : Cube) (q0 : Int) (gens : Array (Array IGen)) :
    qsOf c q0 gens = gens.toList.foldl (fun qs gs => gs.toList.foldl (fun qs x =>
      if qs.contains (c.qDeg q0 x.2) then qs else qs.push (c.qDeg q0 x.2)) qs) #[] := by
  have hin : ∀ (gs : Array IGen) (qs : Array Int), qsInner c q0 gs qs = gs.toList.foldl (fun qs x =>
      if qs.contains (c.qDeg q0 x.2) then qs else qs.push (c.qDeg q0 x.2)) qs := by
    intro gs qs
    unfold qsInner
    have hb : (fun (x : IGen) (qs : Array Int) =>
        (if (!qs.contains (c.qDeg q0 x.2)) = true then pure (ForInStep.yield (qs.push (c.qDeg q0 x.2)))
          else pure (ForInStep.yield qs) : Id (ForInStep (Array Int)))) =
        fun x qs => pure (ForInStep.yield (if qs.contains (c.qDeg q0 x.2) then qs else qs.push (c.qDeg q0 x.2))) := by
      funext x qs
      cases qs.contains (c.qDeg q0 x.2) <;> rfl
    rw [hb, Array.forIn_pure_yield_eq_foldl]
    simp only [Id.run, pure, ← Array.foldl_toList]
  unfold qsOf
  rw [Array.forIn_pure_yield_eq_foldl]
  simp only [Id.run, pure, ← Array.foldl_toList, hin]

theorem qsSorted_spec (c : Cube) (q0 : Int) (gens : Array (Array IGen)) :
    (qsSorted c q0 gens).toList.Nodup ∧
    ∀ q, q ∈ qsSorted c q0 gens ↔ ∃ gs ∈ gens, ∃ x ∈ gs, c.qDeg q0 x.2 = q := by
  have hp : (qsSorted c q0 gens).toList.Perm (qsOf c q0 gens).toList :=
    (C04Inv.qsort_perm _ _).toList
  obtain ⟨h1, h2⟩ := KhRefLoops.collect_keys (fun x : IGen => c.qDeg q0 x.2) Array.toList gens.toList #[] (by simp)
  rw [← qsOf_eq] at h1 h2
  refine ⟨hp.nodup_iff.2 h1, fun q => ?_⟩
  rw [← Array.mem_toList_iff, hp.mem_iff, Array.mem_toList_iff, h2 q]
  simp only [Array.not_mem_empty, false_or, Array.mem_toList_iff]

theorem qsSorted_sorted (c : Cube) (q0 : Int) (gens : Array (Array IGen)) :
    (qsSorted c q0 gens).toList.Pairwise (fun a b => a < b) := by
  have hle : (qsSorted c q0 gens).toList.Pairwise (fun a b => a ≤ b) :=
    KhSpec.qsort_sorted_intKey (fun x : Int => x) (qsOf c q0 gens)
  have hne : (qsSorted c q0 gens).toList.Pairwise (fun a b => a ≠ b) := (qsSorted_spec c q0 gens).1
  exact (hle.and hne).imp (fun {a b} h => by omega)

end Yuiv.KhiSpec
