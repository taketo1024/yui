import Yuiv.Proofs.C11Prog
import Yuiv.Proofs.C11Kahn
import Yuiv.Proofs.ListAux
/-
C11 — the parallel pivot search returns an acyclic (triangular) pivot set under every interleaving.

Objects (all in `Yuiv/Model/C11.lean`, the same definitions the driver executes when it
replays the traces recorded from the real code):
  `Str`      the matrix structure (`MatrixStr`), `Str.WF`: rows strictly increasing, candidates are entries
  `Pivs`     the shared pivot table, list of `(row, col)` in insertion order
  `PInv s S` distinct rows ∧ distinct columns ∧ every pivot is a candidate entry ∧ `Acyclic s S`
  `State`, `Act`, `step`, `run`   the parallel phase as a transition system: `start` / `search` / `validate` steps
             of any number of workers, in any order (the list of actions IS the schedule, stale snapshots
             included: `start row k` may copy any prefix of the shared table)
  `GInv`     `PInv` of the shared table + bookkeeping of rows + the local invariant of every worker in flight
-/
namespace Yuiv.C11
open Yuiv Res

/-! ### the two graph lemmas every interleaving argument rests on -/

/-- a mark set closed under the pivot rows of the snapshot `P` stays closed when the table grows by pivots
none of whose columns is marked (exactly the `update_diff` / `should_retry` test) -/
theorem closed_stable (s : Str) (P N : Pivs) (M : Nat → Prop)
    (hM : ∀ p ∈ P, M p.2 → ∀ j2 ∈ colsIn s p.1, M j2) (hval : ∀ p ∈ N, ¬ M p.2) :
    ∀ p ∈ P ++ N, M p.2 → ∀ j2 ∈ colsIn s p.1, M j2 := by
  intro p hp hm
  rcases List.mem_append.1 hp with h | h
  · exact hM p h hm
  · exact absurd hm (hval p h)

/-- committing `(i, js)`: if the mark set `M` contains the columns of row `i`, is closed under the pivot rows
and no reached pivot row contains `js`, the enlarged table is acyclic (explicit re-ranking) -/
theorem commit_acyclic (s : Str) (S : Pivs) (i js : Nat) (M : Nat → Prop) [DecidablePred M]
    (hA : Acyclic s S) (hfree : js ∉ S.map (·.2)) (hrow : ∀ j ∈ colsIn s i, M j)
    (hM : ∀ p ∈ S, M p.2 → ∀ j2 ∈ colsIn s p.1, M j2) (hcand : ∀ p ∈ S, M p.2 → js ∉ colsIn s p.1) :
    Acyclic s (S ++ [(i, js)]) :=
  commit_acyclic_core s S i js M hA hfree hrow hM hcand

/-- `find_fl_pivots` then `find_fl_col_pivots` never panic and leave a table satisfying the invariant,
with the remaining rows pairwise distinct and not yet pivot rows -/
theorem seq_invariant (s : Str) (hwf : s.WF) :
    initState s ≠ panic ∧ ∀ st, initState s = ok st → GInv s st ∧ PInv s st.S := by
  have h := initState_good s hwf
  refine ⟨h.ne_panic, fun st e => ?_⟩
  have := h.of_ok e
  exact ⟨this, this.pinv⟩

/-- `init` + `traverse` on a snapshot `P` (distinct columns): no panic, every column of the row is marked,
and — unless no candidate is left — the marked set is closed: every marked pivot column's row has been
traversed completely, all its columns being `Occupied`.  Hence a column still marked `Candidate` lies in no
reached pivot row, is free in the snapshot and is a candidate entry of the row. -/
theorem bfs_closed (s : Str) (hwf : s.WF) (P : Pivs) (hP : (P.map (·.2)).Nodup) (i : Nat) :
    Worker.init s P i ≠ panic ∧ ∀ w, Worker.init s P i = ok w →
      traverse s P w ≠ panic ∧ ∀ w', traverse s P w = ok w' →
        (∀ j ∈ colsIn s i, w'.mark j ≠ Mark.none) ∧
        (∀ j, w'.mark j = Mark.cand → j ∉ P.map (·.2) ∧ isCand s i j = true) ∧
        (w'.ncand = 0 → ∀ j, w'.mark j ≠ Mark.cand) ∧
        (w'.ncand ≠ 0 → w'.queue = [] ∧
          ∀ p ∈ P, w'.mark p.2 ≠ Mark.none → ∀ j2 ∈ colsIn s p.1, w'.mark j2 = Mark.occ) := by
  have h0 := Good.of_total (init_total s hwf P i)
  refine ⟨h0.ne_panic, fun w e => ?_⟩
  obtain ⟨hinv, hrm, hr, _, _⟩ := h0.of_ok e
  have h1 := traverse_good s P w hinv
  refine ⟨h1.ne_panic, fun w' e' => ?_⟩
  obtain ⟨hinv', hm, hend⟩ := h1.of_ok e'
  refine ⟨?_, ?_, ?_, ?_⟩
  · intro j hj; exact hm.marked j (hrm j (hr ▸ hj))
  · intro j hj
    have := hinv'.candOk j hj
    rw [hm.row, hr] at this
    exact ⟨hasCol_false_iff.1 this.1, this.2⟩
  · intro h0' j; exact hinv'.count.none_of_zero h0' j
  · intro hn
    have hq : w'.queue = [] := by
      rcases hend with h | h
      · exact absurd h hn
      · exact h
    exact ⟨hq, hinv'.closed hP hn hq⟩

/-- every step of every worker (task start with an arbitrary — possibly stale — snapshot, lock-free search,
critical section with retry or commit) neither panics nor breaks the invariant -/
theorem step_preserves (s : Str) (hwf : s.WF) (st : State) (h : GInv s st) (a : Act) :
    step s st a ≠ panic ∧ ∀ st' o, step s st a = ok (st', o) → GInv s st' := by
  have hg := step_good s hwf st h a
  exact ⟨hg.ne_panic, fun st' o e => hg.of_ok e⟩

/-- MAIN THEOREM.  From the state left by the sequential phases, for every schedule `acts` (any number of
workers, any interleaving, no bound on the number of steps): no step panics (so neither `assert!(!has_col(j))`
in `PivotData::set`, nor `row_for(j).unwrap()`, nor the checked `ncand -= 1` can fire), and in the state
reached the shared table has pairwise distinct rows, pairwise distinct columns, only candidate entries as
pivots, and is acyclic. -/
theorem par_invariant (s : Str) (hwf : s.WF) (st0 : State) (h0 : initState s = ok st0) (acts : List Act) :
    run s st0 acts ≠ panic ∧ ∀ st os, run s st0 acts = ok (st, os) → PInv s st.S ∧ GInv s st := by
  have hg0 : GInv s st0 := (initState_good s hwf).of_ok h0
  have hg := run_good s hwf acts st0 hg0
  refine ⟨hg.ne_panic, fun st os e => ?_⟩
  have := hg.of_ok e
  exact ⟨this.pinv, this⟩

/-- the same from any state satisfying the invariant (e.g. an intermediate state of a run) -/
theorem par_invariant_from (s : Str) (hwf : s.WF) (st0 : State) (h0 : GInv s st0) (acts : List Act) :
    run s st0 acts ≠ panic ∧ ∀ st os, run s st0 acts = ok (st, os) → GInv s st := by
  have hg := run_good s hwf acts st0 h0
  exact ⟨hg.ne_panic, fun st os e => hg.of_ok e⟩

/-- the fuel of the model's `traverse` loop always suffices, so a `search` step can only be refused because it
is not enabled (no such task / already chosen / the chosen column is not a candidate) -/
theorem traverse_terminates (s : Str) (P : Pivs) (w : Worker) : traverse s P w ≠ err :=
  traverse_ne_err s P w

/-- NO LIVELOCK.  Every step strictly decreases the natural number `measure` (a retry is always caused by
another worker's commit), hence every schedule accepted by the model from a state satisfying the invariant
has at most `measure st` steps: the retry loops cannot spin forever. -/
theorem par_terminates (s : Str) (hwf : s.WF) (st : State) (h : GInv s st) :
    (∀ a st' o, step s st a = ok (st', o) → measure st' < measure st) ∧
    (∀ acts st' os, run s st acts = ok (st', os) → acts.length ≤ measure st) :=
  ⟨fun a st' o hs => step_decreases s hwf st h a st' o hs,
   fun acts st' os hr => run_length_le s hwf acts st st' os h hr⟩

/-- NO DEADLOCK (model).  In every state satisfying the invariant that still has a row to start or a task in
flight, some step is enabled and succeeds.  Together with `par_terminates`: every maximal schedule reaches,
after finitely many steps, a state with no row left and no task in flight (all workers done). -/
theorem par_progress (s : Str) (hwf : s.WF) (st : State) (h : GInv s st) (hwork : st.todo ≠ [] ∨ st.ws ≠ []) :
    ∃ a st' o, step s st a = ok (st', o) :=
  progress s hwf st h hwork

/-- the code's own choice policy (`choose_candidate`: lightest column by `cmp_cols`) is admissible: the column
it returns is still marked `Candidate` — so the deterministic code is one of the schedules covered above -/
theorem policy_admissible (s : Str) (w : Worker) (j : Nat) (h : chooseCandidate s w = some j) :
    w.isCandidate j = true := by
  have := chooseCandidate_cand h
  simp [Worker.isCandidate, this]

/-- an acyclic pivot set with distinct columns admits an order in which the leading block of the permuted
matrix is triangular: the row of a later pivot has no entry in the column of an earlier pivot (and the
pivots themselves sit on the diagonal since `isCand` entries are entries) -/
theorem acyclic_triangular (s : Str) (S : Pivs) (h : PInv s S) :
    ∃ L, L.Perm S ∧ Triangular s L ∧ ∀ p ∈ L, isCand s p.1 p.2 = true := by
  obtain ⟨L, hp, ht⟩ := acyclic_triangular_core s S h.cols h.acyc
  exact ⟨L, hp, ht, fun p hpL => h.cand p (hp.mem_iff.1 hpL)⟩

/-- conversely a triangular order witnesses acyclicity -/
theorem triangular_is_acyclic (s : Str) (L : Pivs) (hc : (L.map (·.2)).Nodup) (ht : Triangular s L) :
    Acyclic s L := triangular_acyclic s L hc ht

/-- Kahn's algorithm (`yui::algo::top_sort`) on the dependency graph of an invariant table, for EVERY
iteration order `keys` of the hash map: `top_sort(..).unwrap()` and `row_for(j).unwrap()` in `result()` do not
panic, and the returned list is a permutation of the table in a triangular order -/
theorem kahn_complete (s : Str) (hwf : s.WF) (S : Pivs) (h : PInv s S) (keys : List Nat)
    (hk : keys.Perm (S.map (·.2))) :
    ∃ L, result s S keys = ok L ∧ L.Perm S ∧ Triangular s L := by
  have hg := depGraph_gwf s hwf S h
  obtain ⟨T, hT, hperm, hord⟩ := topSort_spec (depGraph s S) hg keys (by rw [depGraph_verts]; exact hk)
  rw [depGraph_verts] at hperm
  have hTcol : ∀ j ∈ T, hasCol S j = true := fun j hj => hasCol_iff.2 (hperm.mem_iff.1 hj)
  obtain ⟨R, hR, hmap, hrow⟩ := attachRows_spec S T hTcol
  refine ⟨R, by unfold result; rw [hT]; exact hR, ?_, ?_⟩
  · -- R is a permutation of S: both have distinct columns and the same members
    have hRmem : ∀ p, p ∈ R → p ∈ S := fun p hp => rowFor_some_mem (hrow p hp)
    have hRnd : R.Nodup := nodup_of_map (·.2) (by rw [hmap]; exact hperm.nodup_iff.2 h.cols)
    have hSnd : S.Nodup := nodup_of_map _ h.cols
    rw [List.perm_ext_iff_of_nodup hRnd hSnd]
    intro p
    constructor
    · exact hRmem p
    · intro hp
      have hpT : p.2 ∈ T := hperm.mem_iff.2 (List.mem_map.2 ⟨p, hp, rfl⟩)
      rw [← hmap] at hpT
      obtain ⟨r, hr, hr2⟩ := List.mem_map.1 hpT
      exact eq_of_nodup_map h.cols (hRmem r hr) hp hr2 ▸ hr
  · -- triangular
    unfold Triangular
    have hTnd : T.Nodup := hperm.nodup_iff.2 h.cols
    have hpw : (R.map (·.2)).Pairwise (fun a b => a ∉ succs (depGraph s S) b ∧ a ≠ b) := by
      rw [hmap]; exact hord.and hTnd
    rw [List.pairwise_map] at hpw
    refine hpw.imp_of_mem ?_
    intro p q hp hq hpq hin
    apply hpq.1
    have hqS : q ∈ S := rowFor_some_mem (hrow q hq)
    have hmemg : (q.2, (colsIn s q.1).filter (fun j2 => q.2 != j2 && hasCol S j2)) ∈ depGraph s S :=
      List.mem_map.2 ⟨q, hqS, rfl⟩
    rw [succs_of_mem hg.keys hmemg]
    simp only [List.mem_filter, Bool.and_eq_true, bne_iff_ne, ne_eq]
    refine ⟨hin, fun e => hpq.2 e.symm, ?_⟩
    exact hasCol_of_rowFor (hrow p hp)

/-- END TO END (model): sequential phases, then ANY schedule of the parallel phase that ends with no task in
flight, then `result()` with any hash order: no panic anywhere, and the returned list has distinct rows,
distinct columns, candidate entries only, and is a triangular order. -/
theorem find_pivots_correct (s : Str) (hwf : s.WF) (st0 : State) (h0 : initState s = ok st0)
    (acts : List Act) (st : State) (os : List Outcome) (hr : run s st0 acts = ok (st, os))
    (keys : List Nat) (hk : keys.Perm (st.S.map (·.2))) :
    ∃ L, result s st.S keys = ok L ∧ PInv s L ∧ Triangular s L := by
  have hg0 : GInv s st0 := (initState_good s hwf).of_ok h0
  have hg : GInv s st := (run_good s hwf acts st0 hg0).of_ok hr
  obtain ⟨L, hL, hp, ht⟩ := kahn_complete s hwf st.S hg.pinv keys hk
  refine ⟨L, hL, ?_, ht⟩
  have hp' : st.S.Perm L := hp.symm
  exact hg.pinv.perm hp'

/-- `perm_for_indices(n, rows of the pivots)` (resp. columns): for distinct in-range indices it does not panic
(`assert!(i < n)`) and sends the `k`-th pivot's index to position `k` — so after `permute` the pivots of a
list `L` sit at `(0,0), (1,1), …` and entry `(a, b)` of the leading block is the entry `(L[a].1, L[b].2)` of
the matrix, which `Triangular s L` says is absent for `a > b` -/
theorem perm_for_indices_places (n : Nat) (idx : List Nat) (hlt : ∀ i ∈ idx, i < n) (hnd : idx.Nodup) :
    ∃ vec, permVec n idx = ok vec ∧ vec.Nodup ∧ ∀ k (hk : k < idx.length), invAt vec idx[k] = k := by
  have hall : idx.all (· < n) = true := by simpa using hlt
  have hnd2 : (idx ++ (List.range n).filter (fun i => !idx.contains i)).Nodup := by
    rw [List.nodup_append]
    refine ⟨hnd, List.nodup_range.sublist List.filter_sublist, ?_⟩
    intro a ha b hb e
    simp only [List.mem_filter, Bool.not_eq_true', List.contains_eq_mem, decide_eq_false_iff_not] at hb
    exact hb.2 (e ▸ ha)
  refine ⟨_, by simp [permVec, hall], hnd2, fun k hk => ?_⟩
  have hk2 : k < (idx ++ (List.range n).filter (fun i => !idx.contains i)).length := by
    rw [List.length_append]; omega
  have hget : (idx ++ (List.range n).filter (fun i => !idx.contains i))[k] = idx[k] :=
    List.getElem_append_left hk
  unfold invAt
  rw [← hget, invFrom_getElem _ 0 0 k hk2 hnd2]
  omega

/-- `Triangular` spelled out with positions: for `b < a` the row of the `a`-th pivot has no entry in the column
of the `b`-th pivot -/
theorem triangular_positions (s : Str) (L : List (Nat × Nat)) (h : Triangular s L)
    (a b : Nat) (ha : a < L.length) (hb : b < L.length) (hlt : b < a) : L[b].2 ∉ colsIn s L[a].1 :=
  List.pairwise_iff_getElem.1 h b a hb ha hlt

/-- soundness of the decidable checker the driver applies to the list returned by the REAL `find_pivots`
(and to the model's own `result`): distinct rows/columns, candidate entries, triangular, hence acyclic -/
theorem checkPivots_correct (s : Str) (L : List (Nat × Nat)) (h : checkPivots s L = true) :
    PInv s L ∧ Triangular s L := checkPivots_sound s L h

/-- soundness of the checker the driver applies to the table the REAL code reports after its sequential
phases: it satisfies the global invariant, so `par_invariant_from` covers every replayed trace from there -/
theorem checkInit_correct (s : Str) (S : Pivs) (h : checkInit s S = true) :
    GInv s ⟨S, remainRows s S, []⟩ := checkInit_ginv s S h

/-- soundness of the well-formedness check the driver applies to every structure it receives -/
theorem wfB_correct (s : Str) (h : s.wfB = true) : s.WF := by
  unfold Str.wfB at h
  rw [List.all_eq_true] at h
  constructor
  · intro i
    by_cases hi : i < max s.ent.size s.cnd.size
    · have := h i (List.mem_range.2 hi)
      simp only [Bool.and_eq_true] at this
      exact incrB_sound _ this.1
    · have : colsIn s i = [] := ListAux.getD_oob _ _ _ (by omega)
      rw [this]; exact List.Pairwise.nil
  · intro i j hc
    unfold isCand at hc
    by_cases hi : i < max s.ent.size s.cnd.size
    · have := h i (List.mem_range.2 hi)
      simp only [Bool.and_eq_true, List.all_eq_true] at this
      have h2 := this.2 j (by simpa using hc)
      simpa [colsIn] using h2
    · have : s.cnd.getD i [] = [] := ListAux.getD_oob _ _ _ (by omega)
      rw [this] at hc; simp at hc

/-- rows `[0] [1,2] [0,2] [0,2]` over 3 columns, all entries candidates of weight 1.  The sequential phases
take `(0,0)` and `(1,1)`; rows 2 and 3 go to the parallel phase and both head for column 2: whoever validates
second must retry (trace `started 2, started 2, candidate 2, candidate 2, commit, retry, candidate none`).
The same matrix is in the hand-written corpus of the harness (`c11.rs`, "two rows racing for one column"). -/
def exStr : Str :=
  match Str.build 4 3 [(0,0,1,true), (2,0,1,true), (3,0,1,true), (1,1,1,true), (1,2,1,true), (2,2,1,true),
    (3,2,1,true)] with
  | ok s => s
  | _ => default

/-- the hypothesis `s.WF` of the theorems above is satisfiable by a structure with racing rows -/
example : exStr.WF := wfB_correct exStr (by decide)

/-- … and so is `initState s = ok st0` (the sequential phases never panic on a well-formed structure and
contain no fuel), after which `GInv` holds and `par_invariant` applies to every schedule -/
example : ∃ st0, initState exStr = ok st0 ∧ GInv exStr st0 :=
  sat_total.1 (initState_total exStr (wfB_correct exStr (by decide)))

/-- the hypotheses of `commit_acyclic` are satisfiable: table `[(0,0)]` on `exStr`, committing `(1,1)` with
mark set `{1, 2}` (the columns of row 1; column 0 is not reached) -/
example : Acyclic exStr ([(0, 0)] ++ [(1, 1)]) :=
  commit_acyclic exStr [(0, 0)] 1 1 (fun j => j = 1 ∨ j = 2)
    ⟨fun _ => 0, by simp⟩ (by decide) (by decide) (by decide) (by decide)

end Yuiv.C11
