import Yuiv.Proofs.KhSpecCells
import Yuiv.Proofs.KhSpecBigraded
import Yuiv.Proofs.C01SqReduced
/-
KhSpec — the REDUCED theory with `t = 0`, unbigraded and (for `h = t = 0`) bigraded.

The reduced cube `mkCube l p` (`base = some e`) has as generators exactly the generators of the unreduced cube
`cube0 l p := { mkCube l p with base := none }` whose base circle is labelled `X` (`mem_gensByWeight_red`).  For `t = 0` this family
is closed under the unreduced differential (`C01Sq.dRaw_keep`), and on it the reduced differential IS the unreduced one
(`C01Sq.d_reduced_eq`): it is a `Fam` of `cube0 l p`, and so are its `q`-slices (`Cube.qDeg` does not look at `base`).
If `p.reduced = false` (or the diagram has no crossing) `mkCube l p` has `base = none` and all this is the unreduced
statement; the proofs treat both cases at once through `RedOr`.
-/
namespace Yuiv.KhSpec
open Yuiv.KhRef Yuiv.KhSnf
open Yuiv.C06Cycle (baseKeep dRaw)
open Yuiv.C02Mirror (cubeOK)

/-- the unreduced cube underlying `mkCube l p` -/
def cube0 (l : Link) (p : Params) : Cube := { mkCube l p with base := none }

theorem ctx_cube0 (l : Link) (hv : C06Cycle.validK l = true) (hL : (edgeLabels l).size ≤ 64) (p : Params)
    (hok : C02Mirror.cubeOK (mkCube l p)) : Ctx (cube0 l p) p :=
  ⟨rfl, hok, fun s s' hs hs' => C02Mirror.cube_pair l p hL s s' hs hs', Yuiv.C01Sq.faceComm_mkCube l hv hL p hok⟩

section cube
variable {c : Cube} {labels : Array Nat} {p : Params}

/-- the two cases treated at once: no base point, or a base point with the hypotheses of `C01SqReduced` -/
def RedOr (c : Cube) (labels : Array Nat) : Prop := c.base = none ∨ ∃ e, Yuiv.C01Sq.RedHyp c labels e

theorem mem_gensByWeight_red (c : Cube) (w : Nat) (g : Gen) :
    g ∈ ((gensByWeight c)[w]!).toList ↔
      g ∈ ((gensByWeight ({ c with base := none } : Cube))[w]!).toList ∧ baseKeep c g = true := by
  rw [mem_gensByWeight, mem_gensByWeight, mem_gensAt_iff,
    mem_gensAt_unreduced ({ c with base := none } : Cube) rfl]
  constructor
  · rintro ⟨h1, h2, h3, h4, h5⟩
    exact ⟨⟨h1, h2, h3, h4⟩, h5⟩
  · rintro ⟨⟨h1, h2, h3, h4⟩, h5⟩
    exact ⟨h1, h2, h3, h4, h5⟩

theorem d_red_eq (hR : RedOr c labels) (ht : p.t = 0) (g : Gen) (hs : g.s < 2 ^ c.n) (hg : baseKeep c g = true) :
    c.d p g = ({ c with base := none } : Cube).d p g := by
  rcases hR with hb | ⟨e, H⟩
  · rw [Yuiv.C06Cycle.d_of_base_none { c with base := none } rfl, Yuiv.C06Cycle.d_of_base_none c hb]
    rfl
  · exact Yuiv.C01Sq.d_reduced_eq H p ht g hs hg

theorem keep_closed (hR : RedOr c labels) (ht : p.t = 0) (g : Gen) (hs : g.s < 2 ^ c.n) (hg : baseKeep c g = true)
    (ts : Array Term) (hd : ({ c with base := none } : Cube).d p g = some ts) :
    ∀ t ∈ ts.toList, baseKeep c t.1 = true := by
  rcases hR with hb | ⟨e, H⟩
  · intro t _
    exact C06Cycle.baseKeep_of_unreduced c hb t.1
  · rw [Yuiv.C06Cycle.d_of_base_none { c with base := none } rfl] at hd
    change (dRaw c p g).map List.toArray = some ts at hd
    cases hr : dRaw c p g with
    | none => rw [hr] at hd; cases hd
    | some out =>
      rw [hr, Option.map_some] at hd
      injection hd with hd
      subst hd
      intro t hm
      exact (Yuiv.C01Sq.dRaw_keep H p ht g hs hg out hr t (by simpa using hm)).2

theorem fam_red (H0 : Ctx ({ c with base := none } : Cube) p) (hR : RedOr c labels) (ht : p.t = 0) :
    Fam ({ c with base := none } : Cube) p (gensByWeight c) := by
  refine ⟨gensByWeight_size c, gensByWeight_nodup c, fun i g hg => ((mem_gensByWeight_red c i g).1 hg).1, ?_⟩
  intro i g hg t hm
  obtain ⟨hg0, hk⟩ := (mem_gensByWeight_red c i g).1 hg
  have hs := (gen_props H0 hg0).2.1
  obtain ⟨ts, hd⟩ := d_defined H0 hs
  rw [dTab_of_mem hg0, hd] at hm
  change t ∈ ts.toList at hm
  have h1 := d_targets_mem _ p H0.hb H0.hP i g hg0 ts hd t hm
  exact (mem_gensByWeight_red c (i + 1) t.1).2 ⟨h1, keep_closed hR ht g hs hk ts hd t hm⟩

theorem dTab_red (H0 : Ctx ({ c with base := none } : Cube) p) (hR : RedOr c labels) (ht : p.t = 0) (w : Nat) (g : Gen)
    (hg : g ∈ ((gensByWeight c)[w]!).toList) :
    dTab c p (gensByWeight c) g =
      dTab ({ c with base := none } : Cube) p (gensByWeight ({ c with base := none } : Cube)) g := by
  obtain ⟨hg0, hk⟩ := (mem_gensByWeight_red c w g).1 hg
  rw [dTab_of_mem hg, dTab_of_mem hg0, d_red_eq hR ht g (gen_props H0 hg0).2.1 hk]

theorem d_defined_red (H0 : Ctx ({ c with base := none } : Cube) p) (hR : RedOr c labels) (ht : p.t = 0) (w : Nat)
    (g : Gen) (hg : g ∈ ((gensByWeight c)[w]!).toList) : (c.d p g).isSome = true := by
  obtain ⟨hg0, hk⟩ := (mem_gensByWeight_red c w g).1 hg
  rw [d_red_eq hR ht g (gen_props H0 hg0).2.1 hk]
  exact d_isSome H0 hg0

theorem dTab_dd_red (H0 : Ctx ({ c with base := none } : Cube) p) (hR : RedOr c labels) (ht : p.t = 0) (w : Nat)
    (g : Gen) (hg : g ∈ ((gensByWeight c)[w]!).toList) (z : Gen) :
    C06Cycle.chainSum (fun y => (dTab c p (gensByWeight c) y).toList) (dTab c p (gensByWeight c) g).toList z = 0 := by
  have F := fam_red H0 hR ht
  have hg0 := F.sub w g hg
  rw [dTab_red H0 hR ht w g hg, ← dTab_dd H0 hg0 z]
  apply C06Cycle.chainSum_congr
  intro ga hga
  exact congrArg Array.toList (dTab_red H0 hR ht (w + 1) ga.1 (F.tgt w g hg ga hga))

end cube

theorem redOr_mkCube (l : Link) (hv : C06Cycle.validK l = true) (hL : (edgeLabels l).size ≤ 64) (p : Params) :
    RedOr (mkCube l p) (edgeLabels l) := by
  cases hb : (mkCube l p).base with
  | none => exact Or.inl hb
  | some e => exact Or.inr ⟨e, Yuiv.C01Sq.redHyp_mkCube l hv hL p e hb⟩

theorem fam_reduced (l : Link) (hv : C06Cycle.validK l = true) (hL : (edgeLabels l).size ≤ 64) (p : Params)
    (ht : p.t = 0) (hok : C02Mirror.cubeOK (mkCube l p)) : Fam (cube0 l p) p (gensByWeight (mkCube l p)) :=
  fam_red (ctx_cube0 l hv hL p hok) (redOr_mkCube l hv hL p) ht

theorem dTab_reduced (l : Link) (hv : C06Cycle.validK l = true) (hL : (edgeLabels l).size ≤ 64) (p : Params)
    (ht : p.t = 0) (hok : C02Mirror.cubeOK (mkCube l p)) (w : Nat) (g : Gen)
    (hg : g ∈ ((gensByWeight (mkCube l p))[w]!).toList) :
    dTab (mkCube l p) p (gensByWeight (mkCube l p)) g = dTab (cube0 l p) p (gensByWeight (cube0 l p)) g :=
  dTab_red (ctx_cube0 l hv hL p hok) (redOr_mkCube l hv hL p) ht w g hg

theorem khHomology_ok_reduced (l : Link) (hv : C06Cycle.validK l = true) (hL : (edgeLabels l).size ≤ 64) (p : Params)
    (ht : p.t = 0) (hok : C02Mirror.cubeOK (mkCube l p)) (signs : Array Int) (k : Coeff) :
    khHomology l signs p k false =
      .ok ⟨(cellsUn (h0Of signs) none
        (homologyOf k (gensByWeight (mkCube l p)) (dTab (cube0 l p) p (gensByWeight (cube0 l p))))).toArray⟩ := by
  have H0 := ctx_cube0 l hv hL p hok
  have hR := redOr_mkCube l hv hL p
  rw [khHomology_unbigraded l signs p k (forall_gens fun w g hg => d_defined_red H0 hR ht w g hg)
    (forall_gens fun w g hg z => dTab_dd_red H0 hR ht w g hg z)]
  rw [homologyOf_congr k _ _ _ (fun i g hg => dTab_reduced l hv hL p ht hok i g hg)]

/-- `qDeg` does not look at `base` -/
theorem qDeg_cube0 (l : Link) (p : Params) (q0 : Int) (g : Gen) :
    (cube0 l p).qDeg q0 g = (mkCube l p).qDeg q0 g := rfl

theorem gensQ_cube0 (l : Link) (p : Params) (q0 : Int) (gens : Array (Array Gen)) (q : Int) :
    gensQ (cube0 l p) q0 gens q = gensQ (mkCube l p) q0 gens q := rfl

theorem qDeg_reduced (l : Link) (hv : C06Cycle.validK l = true) (hL : (edgeLabels l).size ≤ 64) (p : Params)
    (hh : p.h = 0) (ht : p.t = 0) (hok : C02Mirror.cubeOK (mkCube l p)) (q0 : Int) (w : Nat) (g : Gen)
    (hg : g ∈ ((gensByWeight (mkCube l p))[w]!).toList) :
    ∀ t ∈ (dTab (cube0 l p) p (gensByWeight (cube0 l p)) g).toList,
      (mkCube l p).qDeg q0 t.1 = (mkCube l p).qDeg q0 g :=
  dTab_qDeg (ctx_cube0 l hv hL p hok) hh ht ((fam_reduced l hv hL p ht hok).sub w g hg) q0

theorem fam_reduced_gensQ (l : Link) (hv : C06Cycle.validK l = true) (hL : (edgeLabels l).size ≤ 64) (p : Params)
    (hh : p.h = 0) (ht : p.t = 0) (hok : C02Mirror.cubeOK (mkCube l p)) (q0 q : Int) :
    Fam (cube0 l p) p (gensQ (mkCube l p) q0 (gensByWeight (mkCube l p)) q) :=
  (fam_reduced l hv hL p ht hok).slice (mkCube l p) q0 q (qDeg_reduced l hv hL p hh ht hok q0)

theorem khHomology_ok_reduced_bigraded (l : Link) (hv : C06Cycle.validK l = true) (hL : (edgeLabels l).size ≤ 64)
    (p : Params) (hh : p.h = 0) (ht : p.t = 0) (hok : C02Mirror.cubeOK (mkCube l p)) (signs : Array Int) (k : Coeff) :
    khHomology l signs p k true =
      .ok ⟨((qsOf (mkCube l p) (q0Of signs p) (gensByWeight (mkCube l p))).toList.flatMap (fun q =>
        cellsUn (h0Of signs) (some q)
          (homologyOf k (gensQ (mkCube l p) (q0Of signs p) (gensByWeight (mkCube l p)) q)
            (dTab (cube0 l p) p (gensByWeight (cube0 l p)))))).toArray⟩ := by
  have H0 := ctx_cube0 l hv hL p hok
  have hR := redOr_mkCube l hv hL p
  rw [khHomology_bigraded l signs p k (forall_gens fun w g hg => d_defined_red H0 hR ht w g hg)
    (forall_gens fun w g hg z => dTab_dd_red H0 hR ht w g hg z)
    (forall_gens fun w g hg t htm => by
      rw [dTab_reduced l hv hL p ht hok w g hg] at htm
      exact qDeg_reduced l hv hL p hh ht hok _ w g hg t htm)]
  have e : ∀ q : Int,
      homologyOf k (gensQ (mkCube l p) (q0Of signs p) (gensByWeight (mkCube l p)) q)
          (dTab (mkCube l p) p (gensByWeight (mkCube l p))) =
        homologyOf k (gensQ (mkCube l p) (q0Of signs p) (gensByWeight (mkCube l p)) q)
          (dTab (cube0 l p) p (gensByWeight (cube0 l p))) := fun q =>
    homologyOf_congr k _ _ _ (fun i g hg =>
      dTab_reduced l hv hL p ht hok i g ((mem_gensQ (q0Of signs p) _ q i g).1 hg).1)
  simp only [e]

end Yuiv.KhSpec
