import Yuiv.Proofs.C04LocalPiece
import Yuiv.Proofs.C18Closure
import Yuiv.Proofs.C18BridgeLink
import Yuiv.Proofs.Res
/-
C04Reid / C04Markov (helper, no property theorem here): the loop of `Braid::closure` (model `C18.closure`), as far as the
moves on braid words need it.  `rawLinkP pd ps` is the PD code BEFORE the final renaming of `Braid::closure`, the closing-up of
the braid being expressed by resolved `H` "crossings" `H[u,k,k,u]` (one arc joining the bottom label `u` to the top label `k`)
instead of by renaming; it has the state sum of the model's closure.  The loop is seen through a window: strands to the left
and to the right that the letters do not touch, and a relabelling of the window that shifts the labels still to be created;
what a word does on `k` adjacent strands of any state is the image of its run on the formal state `(k, [0, …, k-1], [])`,
which is a closed term.
`collapse_closing`: closing arcs of the un-renamed code are removed by collapsing the labels along them.
-/
open Yuiv.KhRef Yuiv.C04
namespace Yuiv.C04Inv

variable {R : Type} [CommRing R]

def extraArcs (ex : List Crossing) : List (Nat × Nat) := ex.flatMap (fun c => arcs c c.ct)

theorem skein_resolved_prefix (L : Set Nat) (x y : R) (ex cs : List Crossing)
    (hex : ∀ c ∈ ex, c.ct.isResolved = true) (w : Nat) (P : List (Nat × Nat)) :
    skein L x y (ex ++ cs) w P = skein L x y cs w (P ++ extraArcs ex) := by
  induction ex generalizing P with
  | nil => simp [extraArcs]
  | cons c ex ih =>
    simp only [List.cons_append, skein_cons, hex c (by simp), if_true]
    rw [ih (fun c hc => hex c (List.mem_cons_of_mem _ hc))]
    simp [extraArcs, List.append_assoc]

theorem nUnres_append_resolved (cs ex : List Crossing) (hexr : ∀ c ∈ ex, c.ct.isResolved = true) :
    nUnres (cs ++ ex) = nUnres cs := by
  induction cs with
  | nil =>
    induction ex with
    | nil => rfl
    | cons c ex ih =>
      simp only [List.nil_append, nUnres, hexr c (by simp), if_true] at ih ⊢
      exact ih (fun c hc => hexr c (List.mem_cons_of_mem _ hc))
  | cons c cs ih => simp only [List.cons_append, nUnres, ih]

theorem extra_stateSum (x y : R) (lm : Link) (ex : List Crossing) (F : Nat → Nat) (hwf : WF lm)
    (hex4 : ∀ c ∈ ex, c.e.size = 4) (hexr : ∀ c ∈ ex, c.ct.isResolved = true)
    (hA : ∀ p ∈ extraArcs ex, F p.1 = F p.2)
    (h3 : ∀ z ∈ {z | ∃ c ∈ ex, z ∈ c.e} ∪ labelSet lm, Conn (extraArcs ex) z (F z))
    (hMF : ∀ z ∈ {z | ∃ c ∈ ex, z ∈ c.e}, F z ∈ F '' labelSet lm) :
    stateSum x y (lm.toList ++ ex).toArray = stateSum x y (renumber F lm) ∧
      crossingNum (lm.toList ++ ex).toArray = crossingNum (renumber F lm) := by
  have hp : (lm.toList ++ ex).toArray.toList.Perm (ex ++ lm.toList) := by
    simpa using List.perm_append_comm
  have hwf' : WF (lm.toList ++ ex).toArray := WF_of_perm_append ex hp hex4 hwf
  constructor
  · rw [stateSum_perm_skein x y hwf' hp, stateSum_partSum x y _ (WF_renumber hwf), labelSet_perm_append ex hp,
      skein_resolved_prefix _ x y ex _ hexr, ← partSum_eq_skein,
      partSum_shift _ _ x y lm _ 0 0 _ [] (crossingNum_renumber _ lm) (fun s => by
        show _ = classCount _ (statePairs (renumber F lm) s) + 0
        rw [Nat.add_zero]
        exact classCount_collapse_renumber F _ _ lm hwf (by simpa using hA) (by simpa using h3) hMF s)]
    simp
  · rw [crossingNum_renumber, crossingNum_eq, crossingNum_eq]
    simpa using nUnres_append_resolved lm.toList ex hexr

open Yuiv.C18 (closureStep closurePD closure connRename hasFreeLoop CInv PD flatPD fromPD4)
open Yuiv.C18Bridge (toKh)

/-- closing arcs as resolved `H` crossings: `H[u,k,k,u]` joins `u` with `k` -/
def closeX (ps : List (Nat × Nat)) : List Crossing := ps.map (fun p => ⟨.H, #[p.1, p.2, p.2, p.1]⟩)
def pdLink (pd : PD) : Link := (pd.map pdX).toArray
def rawLinkP (pd : PD) (ps : List (Nat × Nat)) : Link := ((pdLink pd).toList ++ closeX ps).toArray

theorem toKh_fromPD4 (pd : PD) : toKh (fromPD4 pd) = pdLink pd := by
  simp only [toKh, fromPD4, pdLink, List.map_map]
  rfl

theorem renumber_pdLink (f : Nat → Nat) (pd : PD) : renumber f (pdLink pd) = pdLink (pd.map (map4 f)) := by
  simp [renumber, pdLink, pdX, map4, Function.comp_def]

theorem WF_pdLink (pd : PD) : WF (pdLink pd) :=
  fun _ hc => C18Bridge.e_size_toKh (toKh_fromPD4 pd ▸ hc)

theorem mem_labelSet_pdLink (pd : PD) (z : Nat) : z ∈ labelSet (pdLink pd) ↔ z ∈ flatPD pd := by
  rw [← toKh_fromPD4, ← C18.allEdges_fromPD4]
  exact C18Bridge.mem_labels_toKh _ z

theorem extraArcs_closeX (ps : List (Nat × Nat)) :
    extraArcs (closeX ps) = ps.flatMap (fun p => [(p.1, p.2), (p.2, p.1)]) := by
  induction ps with
  | nil => rfl
  | cons p ps ih =>
    simp only [closeX, extraArcs, List.map_cons, List.flatMap_cons] at ih ⊢
    rw [ih]
    simp [arcs, arcIdx]

theorem closure_stateSum (x y : R) (n : Nat) (w : List Int) (l : C18.Link) (h : closure n w = .ok l) :
    ∃ st, w.foldlM closureStep (n, List.range n, []) = .ok st ∧ hasFreeLoop st.2.1 = false ∧
      stateSum x y (toKh l) = stateSum x y (rawLinkP st.2.2 st.2.1.zipIdx) ∧
      crossingNum (toKh l) = crossingNum (rawLinkP st.2.2 st.2.1.zipIdx) := by
  obtain ⟨st, hf, hfl, rfl⟩ := C18.closure_inv h
  refine ⟨st, hf, hfl, ?_⟩
  have hI := C18.cinv_foldl n w _ st (C18.cinv_init n) hf
  have hge := C18.cinv_bottom_ge hI hfl
  have f_get := C18.connRename_getElem (C18.br_cinv_bottom_nodup hI)
  have f_top := C18.connRename_of_lt hge
  have top_mem : ∀ k, k < n → k ∈ flatPD st.2.2 := fun k hk =>
    C18.cinv_mem_code hI (Nat.lt_of_lt_of_le hk hI.le) (Or.inl fun hm => Nat.lt_irrefl _ (Nat.lt_of_lt_of_le hk (hge k hm)))
  have hlen : st.2.1.length = n := hI.len
  obtain ⟨count, bottom, pd⟩ := st
  simp only at hge f_get f_top top_mem hlen ⊢
  have hmz : ∀ u k, (u, k) ∈ bottom.zipIdx ↔ ∃ hk : k < bottom.length, bottom[k] = u := by
    intro u k
    rw [List.mem_zipIdx_iff_getElem?]
    simp only [List.getElem?_eq_some_iff]
  have key := extra_stateSum x y (pdLink pd) (closeX bottom.zipIdx) (connRename bottom) (WF_pdLink pd)
    (by intro c hc; simp only [closeX, List.mem_map] at hc; obtain ⟨p, _, rfl⟩ := hc; rfl)
    (by intro c hc; simp only [closeX, List.mem_map] at hc; obtain ⟨p, _, rfl⟩ := hc; rfl)
    (by
      intro p hp
      rw [extraArcs_closeX, List.mem_flatMap] at hp
      obtain ⟨⟨u, k⟩, huk, hp⟩ := hp
      obtain ⟨hk, rfl⟩ := (hmz u k).1 huk
      simp only [List.mem_cons, List.mem_nil_iff, or_false] at hp
      rcases hp with rfl | rfl
      · rw [f_get k hk, f_top k (by omega)]
      · rw [f_get k hk, f_top k (by omega)])
    (by
      intro z _
      by_cases hz : z ∈ bottom
      · obtain ⟨k, hk, rfl⟩ := List.getElem_of_mem hz
        rw [f_get k hk]
        refine Conn.of_mem ?_
        rw [extraArcs_closeX, List.mem_flatMap]
        exact ⟨(bottom[k], k), (hmz _ _).2 ⟨hk, rfl⟩, by simp⟩
      · rw [C18.br_connRename_nmem bottom z hz]; exact Conn.refl _)
    (by
      rintro z ⟨c, hc, hz⟩
      simp only [closeX, List.mem_map] at hc
      obtain ⟨⟨u, k⟩, huk, rfl⟩ := hc
      obtain ⟨hk, rfl⟩ := (hmz u k).1 huk
      have hkn : k < n := by omega
      have : connRename bottom z = k := by
        simp only [List.mem_toArray, List.mem_cons, List.mem_nil_iff, or_false] at hz
        rcases hz with rfl | rfl | rfl | rfl
        · exact f_get k hk
        · exact f_top _ hkn
        · exact f_top _ hkn
        · exact f_get k hk
      rw [this]
      exact ⟨k, (mem_labelSet_pdLink pd k).2 (top_mem k hkn), f_top k hkn⟩)
  rw [toKh_fromPD4]
  have e : pdLink (pd.map fun x => (connRename bottom x.1, connRename bottom x.2.1, connRename bottom x.2.2.1,
      connRename bottom x.2.2.2)) = renumber (connRename bottom) (pdLink pd) := (renumber_pdLink _ pd).symm
  rw [e]
  exact ⟨key.1.symm, key.2.symm⟩

theorem cinv_facts {n : Nat} {st : Nat × List Nat × PD} (hI : CInv n st) :
    st.2.1.Nodup ∧ (∀ z ∈ st.2.1, z < st.1) ∧ (∀ z ∈ flatPD st.2.2, z < st.1) ∧
      (∀ z ∈ st.2.1, z < n ∨ z ∈ flatPD st.2.2) :=
  ⟨C18.br_cinv_bottom_nodup hI, C18.br_cinv_bottom_lt hI, fun z hz => C18.cinv_lt_count hI z (Or.inl hz),
    fun z hz => (Nat.lt_or_ge z n).imp_right fun h => C18.cinv_mem_code hI (C18.br_cinv_bottom_lt hI z hz) (Or.inr h)⟩

/-- the crossing written by the letter `s` on the bottom labels `a`, `b` at count `c` -/
def stepX (s : Int) (a b c : Nat) : Nat × Nat × Nat × Nat := if s > 0 then (a, c, c + 1, b) else (b, a, c, c + 1)

theorem step_explicit {c : Nat} {bot : List Nat} {pd : PD} {s : Int} {q : Nat × List Nat × PD}
    (h : closureStep (c, bot, pd) s = .ok q) :
    ∃ a b, s ≠ 0 ∧ ∃ (h1 : s.natAbs - 1 < bot.length) (h2 : s.natAbs - 1 + 1 < bot.length),
      bot[s.natAbs - 1] = a ∧ bot[s.natAbs - 1 + 1] = b ∧
      q = (c + 2, (bot.set (s.natAbs - 1) c).set (s.natAbs - 1 + 1) (c + 1), pd ++ [stepX s a b c]) := by
  obtain ⟨a, b, hs0, ha, hb, rfl⟩ := C18.closureStep_ok h
  simp only at ha hb
  obtain ⟨h1, ea⟩ := List.getElem?_eq_some_iff.1 ha
  obtain ⟨h2, eb⟩ := List.getElem?_eq_some_iff.1 hb
  exact ⟨a, b, by intro h; subst h; simp at hs0, h1, h2, ea, eb, rfl⟩

theorem step_at {c : Nat} {bot : List Nat} {pd : PD} (s : Int) (i u v : Nat) (hs0 : s ≠ 0) (hs : s.natAbs - 1 = i)
    (hu : bot[i]? = some u) (hv : bot[i + 1]? = some v) :
    closureStep (c, bot, pd) s = .ok (c + 2, (bot.set i c).set (i + 1) (c + 1), pd ++ [stepX s u v c]) := by
  have h0 : s.natAbs ≠ 0 := by omega
  unfold closureStep stepX
  simp only [if_neg h0, hs, hu, hv]

theorem mem_labelSet_rawLinkP (pd : PD) (ps : List (Nat × Nat)) (z : Nat) :
    z ∈ labelSet (rawLinkP pd ps) ↔ z ∈ flatPD pd ∨ ∃ p ∈ ps, z = p.1 ∨ z = p.2 := by
  simp only [labelSet, rawLinkP, Set.mem_ofPred_eq, List.mem_toArray, List.mem_append, Array.mem_toList_iff]
  constructor
  · rintro ⟨c, hc | hc, hz⟩
    · exact Or.inl ((mem_labelSet_pdLink pd z).1 ⟨c, hc, hz⟩)
    · simp only [closeX, List.mem_map] at hc
      obtain ⟨p, hp, rfl⟩ := hc
      right; refine ⟨p, hp, ?_⟩
      simp at hz; grind
  · rintro (h | ⟨p, hp, h⟩)
    · obtain ⟨c, hc, hz⟩ := (mem_labelSet_pdLink pd z).2 h
      exact ⟨c, Or.inl hc, hz⟩
    · exact ⟨_, Or.inr (List.mem_map.2 ⟨p, hp, rfl⟩), by simp; grind⟩

theorem WF_rawLinkP (pd : PD) (ps : List (Nat × Nat)) : WF (rawLinkP pd ps) := by
  intro c hc
  simp only [rawLinkP, List.mem_toArray, List.mem_append, Array.mem_toList_iff] at hc
  rcases hc with hc | hc
  · exact WF_pdLink pd c hc
  · simp only [closeX, List.mem_map] at hc
    obtain ⟨p, _, rfl⟩ := hc
    rfl

theorem renumber_rawLinkP (f : Nat → Nat) (pd : PD) (ps : List (Nat × Nat)) :
    renumber f (rawLinkP pd ps) = rawLinkP (pd.map (map4 f)) (ps.map (pmap f)) := by
  simp [renumber, rawLinkP, pdLink, closeX, pdX, map4, pmap, Function.comp_def]

theorem flatPD_map4 (f : Nat → Nat) (pd : PD) : flatPD (pd.map (map4 f)) = (flatPD pd).map f :=
  C18.flatPD_map f pd

theorem map4_fix (f : Nat → Nat) (pd : PD) (h : ∀ z ∈ flatPD pd, f z = z) : pd.map (map4 f) = pd := by
  have : ∀ t ∈ pd, map4 f t = t := by
    intro t ht
    have m4 : ∀ z ∈ [t.1, t.2.1, t.2.2.1, t.2.2.2], f z = z := by
      intro z hz
      apply h
      simp only [flatPD, List.mem_flatMap]
      exact ⟨t, ht, hz⟩
    simp only [map4]
    rw [m4 _ (by simp), m4 _ (by simp), m4 _ (by simp), m4 _ (by simp)]
  rw [List.map_congr_left this, List.map_id']

theorem rawLinkP_congr (pd pd' : PD) (ps ps' : List (Nat × Nat)) (h1 : pd = pd') (h2 : ps = ps') :
    rawLinkP pd ps = rawLinkP pd' ps' := by rw [h1, h2]

theorem stateSum_relabel (x y : R) {g : Nat → Nat} (hg : Function.Injective g) (pd : PD) (bot : List Nat)
    (hfix : ∀ k < bot.length, g k = k) :
    stateSum x y (rawLinkP pd bot.zipIdx) = stateSum x y (rawLinkP (pd.map (map4 g)) (bot.map g).zipIdx) := by
  rw [← stateSum_renumber x y (rawLinkP pd bot.zipIdx) hg.injOn (WF_rawLinkP _ _), renumber_rawLinkP, List.zipIdx_map]
  congr 2
  apply List.map_congr_left
  intro p hp
  have := (List.mem_zipIdx (x := p.1) (i := p.2) (k := 0) hp).2.1
  simp only [pmap, Prod.map, id, hfix p.2 (by omega)]

theorem rawLinkP_perm_filter (pd : PD) (ps : List (Nat × Nat)) (f : Nat × Nat → Bool) :
    (rawLinkP pd ps).toList.Perm ((rawLinkP pd (ps.filter (fun p => !f p))).toList ++ closeX (ps.filter f)) := by
  simp only [rawLinkP, List.append_assoc]
  refine List.Perm.append_left _ ?_
  unfold closeX
  rw [← List.map_append]
  exact (List.Perm.map _ (List.perm_append_comm.trans (List.filter_append_perm f ps))).symm

theorem rawLinkP_perm_pd {pd pd' : PD} (hp : pd.Perm pd') (ps : List (Nat × Nat)) :
    (rawLinkP pd' ps).toList.Perm (rawLinkP pd ps).toList := by
  simp only [rawLinkP, pdLink]
  exact List.Perm.append_right _ (hp.symm.map _)

theorem rawLinkP_perm_mid (A M B : PD) (ps : List (Nat × Nat)) :
    (rawLinkP (A ++ M ++ B) ps).toList.Perm (M.map pdX ++ (rawLinkP (A ++ B) ps).toList) := by
  simp only [rawLinkP, pdLink, List.map_append, List.append_assoc]
  exact List.perm_append_comm_assoc _ _ _

/-- remove the closing arcs selected by `f`, collapsing the labels along them by `F` -/
theorem collapse_closing (x y : R) (pd : PD) (ps : List (Nat × Nat)) (f : Nat × Nat → Bool) (F : Nat → Nat)
    (b1 : ∀ p ∈ ps, f p = true → F p.1 = F p.2)
    (b2 : ∀ z, F z = z ∨ ∃ p ∈ ps, f p = true ∧ ((p.1 = z ∧ p.2 = F z) ∨ (p.2 = z ∧ p.1 = F z)))
    (b3 : ∀ p ∈ ps, f p = true → F p.1 ∈ F '' labelSet (rawLinkP pd (ps.filter (fun p => !f p)))) :
    stateSum x y (rawLinkP pd ps)
      = stateSum x y (rawLinkP (pd.map (map4 F)) ((ps.filter (fun p => !f p)).map (pmap F))) := by
  rw [stateSum_perm x y (l := ((rawLinkP pd (ps.filter (fun p => !f p))).toList ++ closeX (ps.filter f)).toArray)
    (l' := rawLinkP pd ps) ?_ (by simpa using rawLinkP_perm_filter pd ps f)]
  · have key := extra_stateSum x y (rawLinkP pd (ps.filter (fun p => !f p))) (closeX (ps.filter f)) F (WF_rawLinkP _ _)
      (by intro c hc; simp only [closeX, List.mem_map] at hc; obtain ⟨p, _, rfl⟩ := hc; rfl)
      (by intro c hc; simp only [closeX, List.mem_map] at hc; obtain ⟨p, _, rfl⟩ := hc; rfl)
      (by
        intro p hp
        rw [extraArcs_closeX, List.mem_flatMap] at hp
        obtain ⟨p0, hp0, hp⟩ := hp
        rw [List.mem_filter] at hp0
        simp only [List.mem_cons, List.mem_nil_iff, or_false] at hp
        rcases hp with rfl | rfl
        · exact b1 p0 hp0.1 hp0.2
        · exact (b1 p0 hp0.1 hp0.2).symm)
      (by
        intro z _
        rcases b2 z with h | ⟨p, hp, hfp, h⟩
        · rw [h]; exact Conn.refl _
        · refine Conn.of_mem ?_
          rw [extraArcs_closeX, List.mem_flatMap]
          refine ⟨p, List.mem_filter.2 ⟨hp, hfp⟩, ?_⟩
          rcases h with ⟨h1, h2⟩ | ⟨h1, h2⟩
          · subst h1; rw [← h2]; simp
          · subst h1; rw [← h2]; simp)
      (by
        rintro z ⟨c, hc, hz⟩
        simp only [closeX, List.mem_map] at hc
        obtain ⟨p, hp, rfl⟩ := hc
        rw [List.mem_filter] at hp
        simp only [List.mem_toArray, List.mem_cons, List.mem_nil_iff, or_false] at hz
        have e := b1 p hp.1 hp.2
        rcases hz with rfl | rfl | rfl | rfl
        · exact b3 p hp.1 hp.2
        · rw [← e]; exact b3 p hp.1 hp.2
        · rw [← e]; exact b3 p hp.1 hp.2
        · exact b3 p hp.1 hp.2)
    rw [key.1, renumber_rawLinkP]
  · intro c hc
    simp only [List.mem_toArray, List.mem_append, Array.mem_toList_iff] at hc
    rcases hc with hc | hc
    · exact WF_rawLinkP _ _ c hc
    · simp only [closeX, List.mem_map] at hc
      obtain ⟨p, _, rfl⟩ := hc
      rfl

theorem closure_of_state (n : Nat) (w : List Int) (st : Nat × List Nat × PD)
    (hf : w.foldlM closureStep (n, List.range n, []) = .ok st) (hfl : hasFreeLoop st.2.1 = false) :
    ∃ l, closure n w = .ok l := by
  unfold closure closurePD
  rw [hf]
  simp only [bind, Res.bind, hfl, Bool.false_eq_true, if_false, pure]
  exact ⟨_, rfl⟩

theorem foldlM_append_ok {α β : Type} {f : β → α → Res β} {l l' : List α} {b r : β} :
    (l ++ l').foldlM f b = .ok r ↔ ∃ m, l.foldlM f b = .ok m ∧ l'.foldlM f m = .ok r := by
  rw [List.foldlM_append, Res.bind_eq_ok_iff]

theorem foldlM_cons_ok {α β : Type} {f : β → α → Res β} {a : α} {l : List α} {b r : β} :
    (a :: l).foldlM f b = .ok r ↔ ∃ m, f b a = .ok m ∧ l.foldlM f m = .ok r := by
  rw [List.foldlM_cons, Res.bind_eq_ok_iff]

/-- the relabelling that permutes the window `c, …, c + σ.length − 1` by `c + i ↦ c + σ[i]` and fixes every other label -/
def winMap (c : Nat) (σ : List Nat) (z : Nat) : Nat := if c ≤ z then c + σ[z - c]?.getD (z - c) else z

theorem winMap_lt (c : Nat) (σ : List Nat) (z : Nat) (h : z < c) : winMap c σ z = z :=
  if_neg (by omega)

/-- stated in the form `gsim_fold` asks for -/
theorem winMap_ge (c : Nat) (σ : List Nat) (z : Nat) (h : c + σ.length ≤ z) : winMap c σ z = z + 0 := by
  unfold winMap
  rw [if_pos (by omega), List.getElem?_eq_none (by omega)]
  exact Nat.add_sub_cancel' (by omega)

theorem winMap_add (c : Nat) (σ : List Nat) (i : Nat) : winMap c σ (c + i) = c + σ[i]?.getD i := by
  unfold winMap
  rw [if_pos (by omega), Nat.add_sub_cancel_left]

theorem le_winMap (c : Nat) (σ : List Nat) (z : Nat) (h : c ≤ z) : c ≤ winMap c σ z := by
  unfold winMap
  rw [if_pos h]
  omega

theorem winMap_inj (c : Nat) (σ : List Nat) (hnd : σ.Nodup) (hlt : ∀ x ∈ σ, x < σ.length) :
    Function.Injective (winMap c σ) := by
  have key : ∀ i j : Nat, σ[i]?.getD i = σ[j]?.getD j → i = j := by
    intro i j h
    rcases Nat.lt_or_ge i σ.length with hi | hi <;> rcases Nat.lt_or_ge j σ.length with hj | hj
    · rw [List.getElem?_eq_getElem hi, List.getElem?_eq_getElem hj] at h
      exact (hnd.getElem_inj_iff).1 h
    · rw [List.getElem?_eq_getElem hi, List.getElem?_eq_none hj] at h
      have := hlt _ (List.getElem_mem hi)
      exact absurd h (by simp only [Option.getD]; omega)
    · rw [List.getElem?_eq_none hi, List.getElem?_eq_getElem hj] at h
      have := hlt _ (List.getElem_mem hj)
      exact absurd h (by simp only [Option.getD]; omega)
    · rwa [List.getElem?_eq_none hi, List.getElem?_eq_none hj] at h
  intro u v h
  unfold winMap at h
  split at h <;> split at h
  · have := key _ _ (Nat.add_left_cancel h)
    omega
  · omega
  · omega
  · exact h

def shiftLetter (p : Nat) (s : Int) : Int := if s > 0 then s + p else s - p

theorem shiftLetter_spec (p : Nat) (s : Int) (hs : s ≠ 0) :
    (shiftLetter p s).natAbs ≠ 0 ∧ (shiftLetter p s).natAbs - 1 = p + (s.natAbs - 1) ∧ (shiftLetter p s > 0 ↔ s > 0) := by
  unfold shiftLetter
  split <;> omega

theorem win_step (φ : Nat → Nat) (δ c : Nat) (hφ : ∀ z, c ≤ z → φ z = z + δ) (Pre E : List Nat)
    (st st' : Nat × List Nat × PD) (s : Int) (hn : c ≤ st.1) (h : closureStep st s = .ok st') :
    c ≤ st'.1 ∧ ∃ xnew, st'.2.2 = st.2.2 ++ [xnew] ∧
      ∀ P, closureStep (st.1 + δ, Pre ++ st.2.1.map φ ++ E, P) (shiftLetter Pre.length s)
        = .ok (st'.1 + δ, Pre ++ st'.2.1.map φ ++ E, P ++ [map4 φ xnew]) := by
  obtain ⟨a', b', hs0, ha', hb', rfl⟩ := C18.closureStep_ok h
  refine ⟨by simp only; omega, _, rfl, ?_⟩
  intro P
  have i1 : s.natAbs - 1 < (st.2.1.map φ).length := by
    rw [List.length_map]
    exact (List.getElem?_eq_some_iff.1 ha').1
  have i2 : s.natAbs - 1 + 1 < (st.2.1.map φ).length := by
    rw [List.length_map]
    exact (List.getElem?_eq_some_iff.1 hb').1
  have g1 := hφ st.1 hn
  have g2 := hφ (st.1 + 1) (by omega)
  obtain ⟨k0, k1, k2⟩ := shiftLetter_spec Pre.length s (by intro h; subst h; simp at hs0)
  simp only [closureStep, k0, k1, k2, if_false, List.append_assoc, Nat.add_assoc,
    List.getElem?_append_right (Nat.le_add_right _ _), Nat.add_sub_cancel_left, List.getElem?_append_left i1,
    List.getElem?_append_left i2, List.getElem?_map, ha', hb', Option.map, List.map_set, g1, g2]
  rw [List.set_append_right _ _ (Nat.le_add_right _ _), Nat.add_sub_cancel_left,
    List.set_append_right _ _ (by simp), Nat.add_sub_cancel_left, List.set_append_left _ _ i1,
    List.set_append_left _ _ (by simpa using i2)]
  refine congrArg Res.ok (Prod.ext (by simp only; omega) (Prod.ext ?_ ?_))
  · simp only [Nat.add_comm 1 δ]
  · simp only
    congr 1
    split <;> simp [map4, g1, g2, Nat.add_assoc, Nat.add_comm 1 δ]

theorem win_fold (φ : Nat → Nat) (δ c : Nat) (hφ : ∀ z, c ≤ z → φ z = z + δ) (Pre E : List Nat) (w : List Int)
    (st st' : Nat × List Nat × PD) (hn : c ≤ st.1) (h : w.foldlM closureStep st = .ok st') :
    c ≤ st'.1 ∧ ∃ pd2, st'.2.2 = st.2.2 ++ pd2 ∧
      ∀ P, (w.map (shiftLetter Pre.length)).foldlM closureStep (st.1 + δ, Pre ++ st.2.1.map φ ++ E, P)
        = .ok (st'.1 + δ, Pre ++ st'.2.1.map φ ++ E, P ++ pd2.map (map4 φ)) := by
  induction w generalizing st with
  | nil =>
    simp only [List.foldlM_nil, pure] at h; cases h
    exact ⟨hn, [], by simp, fun P => by simp [List.foldlM_nil, pure]⟩
  | cons s w ih =>
    obtain ⟨st1, hs, h⟩ := foldlM_cons_ok.1 h
    obtain ⟨hn1, xnew, hx, hstep⟩ := win_step φ δ c hφ Pre E st st1 s hn hs
    obtain ⟨hn', pd2, hpd, hfold⟩ := ih st1 hn1 h
    refine ⟨hn', xnew :: pd2, by rw [hpd, hx]; simp, fun P => ?_⟩
    simp only [List.map_cons, List.foldlM_cons, hstep P, bind, Res.bind]
    rw [hfold]
    simp

theorem shiftLetter_zero (s : Int) : shiftLetter 0 s = s := by
  unfold shiftLetter
  split <;> simp

theorem gsim_fold_right (φ : Nat → Nat) (δ c : Nat) (hφ : ∀ z, c ≤ z → φ z = z + δ) (E : List Nat) (w : List Int)
    (st st' : Nat × List Nat × PD) (hn : c ≤ st.1) (h : w.foldlM closureStep st = .ok st') :
    ∃ pd2, st'.2.2 = st.2.2 ++ pd2 ∧ ∀ P, w.foldlM closureStep (st.1 + δ, st.2.1.map φ ++ E, P)
      = .ok (st'.1 + δ, st'.2.1.map φ ++ E, P ++ pd2.map (map4 φ)) := by
  obtain ⟨_, pd2, hpd, hrun⟩ := win_fold φ δ c hφ [] E w st st' hn h
  refine ⟨pd2, hpd, fun P => ?_⟩
  have := hrun P
  rwa [List.length_nil, List.map_congr_left (fun s _ => shiftLetter_zero s), List.map_id', List.nil_append,
    List.nil_append] at this

theorem gsim_fold (φ : Nat → Nat) (δ c : Nat) (hφ : ∀ z, c ≤ z → φ z = z + δ) (w : List Int)
    (st st' : Nat × List Nat × PD) (hn : c ≤ st.1) (h : w.foldlM closureStep st = .ok st') :
    ∃ pd2, st'.2.2 = st.2.2 ++ pd2 ∧ ∀ P, w.foldlM closureStep (st.1 + δ, st.2.1.map φ, P)
      = .ok (st'.1 + δ, st'.2.1.map φ, P ++ pd2.map (map4 φ)) := by
  simpa only [List.append_nil] using gsim_fold_right φ δ c hφ [] w st st' hn h

/-- the labelling of the formal run of a word on the strands `win` at count `c`: the symbols `< k` are the bottom labels,
the symbol `k + j` is the fresh label `c + j` -/
def rhoW (win : List Nat) (c : Nat) (z : Nat) : Nat := if z < win.length then win.getD z 0 else c + (z - win.length)

theorem win_run (u : List Int) (k : Nat) (stF : Nat × List Nat × PD)
    (hF : u.foldlM closureStep (k, List.range k, []) = .ok stF) (Pre win E : List Nat) (hk : win.length = k) (c : Nat)
    (hc : k ≤ c) (pd1 : PD) :
    (u.map (shiftLetter Pre.length)).foldlM closureStep (c, Pre ++ win ++ E, pd1)
      = .ok (c + (stF.1 - k), Pre ++ stF.2.1.map (rhoW win c) ++ E, pd1 ++ stF.2.2.map (map4 (rhoW win c))) := by
  subst hk
  obtain ⟨hle, pd2, hpd, hrun⟩ := win_fold (rhoW win c) (c - win.length) win.length
    (fun z hz => by unfold rhoW; rw [if_neg (by omega)]; omega) Pre E u _ stF (Nat.le_refl _) hF
  have hmap : (List.range win.length).map (rhoW win c) = win := by
    apply List.ext_getElem (by simp)
    intro i h1 h2
    simp only [List.getElem_map, List.getElem_range, rhoW]
    rw [if_pos (by simpa using h1), List.getD_eq_getElem?_getD, List.getElem?_eq_getElem h2, Option.getD_some]
  have := hrun pd1
  simp only [hmap, List.nil_append] at this hpd
  rw [show win.length + (c - win.length) = c by omega] at this
  rw [this, hpd, show stF.1 + (c - win.length) = c + (stF.1 - win.length) by omega]

theorem exists_window (bot : List Nat) (p k : Nat) (h : p + k ≤ bot.length) :
    ∃ Pre win E, bot = Pre ++ win ++ E ∧ Pre.length = p ∧ win.length = k :=
  ⟨bot.take p, (bot.drop p).take k, (bot.drop p).drop k,
    by rw [List.append_assoc, List.take_append_drop, List.take_append_drop],
    by rw [List.length_take]; omega, by rw [List.length_take, List.length_drop]; omega⟩

theorem hasFreeLoop_of_ne (bot : List Nat) (h : ∀ k (hk : k < bot.length), bot[k] ≠ k) : hasFreeLoop bot = false := by
  unfold hasFreeLoop
  rw [Bool.eq_false_iff]
  intro hany
  obtain ⟨i, hi, hb⟩ := List.any_eq_true.1 hany
  have hi' := List.mem_range.1 hi
  rw [List.getD_eq_getElem?_getD, List.getElem?_eq_getElem hi'] at hb
  exact h i hi' (by simpa using hb)

/-- two closures that differ in a middle part of the word: the common state after `w₁`, the states `mO`, `mN` after the two
middle parts, the old final state, and — as soon as `mN` is `mO` relabelled by a `φ` that shifts the labels still to be
created by `δ` — the new state sum in terms of the un-renamed code -/
theorem closure_mid_pair (x y : R) (n : Nat) (w1 midO midN w2 : List Int) (l l' : C18.Link)
    (h : closure n (w1 ++ midO ++ w2) = .ok l) (h' : closure n (w1 ++ midN ++ w2) = .ok l') :
    ∃ st1 mO mN stE, CInv n st1 ∧ midO.foldlM closureStep st1 = .ok mO ∧ midN.foldlM closureStep st1 = .ok mN ∧
      w2.foldlM closureStep mO = .ok stE ∧ CInv n stE ∧
      stateSum x y (toKh l) = stateSum x y (rawLinkP stE.2.2 stE.2.1.zipIdx) ∧
      ∀ (φ : Nat → Nat) (δ : Nat), (∀ z, mO.1 ≤ z → φ z = z + δ) → mN.1 = mO.1 + δ → mN.2.1 = mO.2.1.map φ →
        ∃ pd2, stE.2.2 = mO.2.2 ++ pd2 ∧
          stateSum x y (toKh l') = stateSum x y (rawLinkP (mN.2.2 ++ pd2.map (map4 φ)) (stE.2.1.map φ).zipIdx) := by
  obtain ⟨stO, hfO, _, hsO, _⟩ := closure_stateSum x y n _ l h
  obtain ⟨stN, hfN, _, hsN, _⟩ := closure_stateSum x y n _ l' h'
  have hIO := C18.cinv_foldl n _ _ stO (C18.cinv_init n) hfO
  rw [List.append_assoc] at hfO hfN
  obtain ⟨st1, hf1, hrO⟩ := foldlM_append_ok.1 hfO
  obtain ⟨st1', hf1', hrN⟩ := foldlM_append_ok.1 hfN
  obtain rfl : st1' = st1 := by rw [hf1] at hf1'; exact (Res.ok.inj hf1').symm
  obtain ⟨mO, hmO, hf2O⟩ := foldlM_append_ok.1 hrO
  obtain ⟨mN, hmN, hf2N⟩ := foldlM_append_ok.1 hrN
  refine ⟨st1', mO, mN, stO, C18.cinv_foldl n w1 _ st1' (C18.cinv_init n) hf1, hmO, hmN, hf2O, hIO, hsO, ?_⟩
  intro φ δ hφ h1 h2
  obtain ⟨pd2, hpd, hsim⟩ := gsim_fold φ δ mO.1 hφ w2 mO stO (Nat.le_refl _) hf2O
  have hN := hsim mN.2.2
  rw [← h1, ← h2, hf2N] at hN
  cases hN
  exact ⟨pd2, hpd, hsN⟩

end Yuiv.C04Inv
