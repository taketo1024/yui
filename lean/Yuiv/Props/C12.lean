import Yuiv.Proofs.C12
import Yuiv.Proofs.C12Rings
import Yuiv.Proofs.C12Left
import Yuiv.Proofs.C12SchurModel
import Yuiv.Proofs.C12UF
import Yuiv.Proofs.C12Group
import Yuiv.Proofs.C12Check
/-
C12 — sparse kernels (triangular solve, Schur complement, block splitting) are exact.

The code model is `Yuiv/Model/C12.lean` (the driver `yuivd_c12` runs exactly these definitions against the Rust code).

Scalars: any commutative ring `R` whose model operations (`Scal R`: what the Rust code calls `+ - * neg
is_zero inv`) are lawful (`LawfulScal R`); lawful instances are proved for `Int` (i64), core `Rat`
(`Ratio<i64>`), `Fin 5` (`FF<5>`) and `GI` (`GaussInt<i64>`) in `Proofs/C12Rings.lean`.

`UnitTriang upper A n u v` : `A` is n×n, every stored NON-ZERO entry lies on the right side (stored zeros
anywhere), every column stores exactly one diagonal entry `u j`, and `inv (u j) = some (v j)`.
`WFY Y n` : CSC well-formedness of a right-hand side (rows `< n`, no row stored twice in a column).
-/
namespace Yuiv.C12
open Yuiv Matrix

section solve
variable {R : Type} [CommRing R] [Scal R] [LawfulScal R]
variable {upper : Bool} {A : SpMat R} {n : Nat} {u v : Nat → R}

/-- Every run of the outer loop of `_solve_triangular` (any order `js` of pivots, any
diagonal values, any buffer, no triangularity needed) preserves the quantity `A·x_partial + b`. -/
theorem solve_invariant (A : SpMat R) (hA : WF A) (n : Nat) (hn : A.nrows = n)
    (js : List (Nat × R)) (hjs : ∀ ju ∈ js, ju.1 < n) (b : Array R) (hb : b.size = n)
    (es : List (Nat × R)) (b' : Array R) (es' : List (Nat × R))
    (h : outer A b es js = .ok (b', es')) :
    b'.size = n ∧ ∀ i, axAt A n es' i + bget b' i = axAt A n es i + bget b i :=
  let ⟨h1, h2, _⟩ := (outer_spec A hA n hn js hjs [] b hb es).of_ok h
  ⟨h1, h2⟩

/-- On a unit-triangular matrix `_solve_triangular` does not panic (`inv().unwrap()`,
the `debug_assert!`, `from_sorted_entries`), leaves the scratch buffer ALL ZERO whatever it contained at
entry, and returns `x` with `A·x = b` (`b` = buffer content at entry). -/
theorem solve_buffer_zero (hA : UnitTriang upper A n u v) (b : Array R) (hb : b.size = n) :
    ∃ es, solveBuf upper A (collectDiag A) b = .ok (zeroBuf n, es) ∧ (∀ e ∈ es, e.1 < n) ∧
      ∀ i, axAt A n es i = bget b i :=
  solveBuf_spec hA b hb

/-- **parallel = sequential (history independence).** For ANY assignment of columns to worker buffers
(`evs` = list of `(worker, column)` events, every worker owning one buffer that starts all-zero and is
reused for all its columns) every column gets exactly the result a fresh zero buffer gives. -/
theorem solve_schedule_independent (hA : UnitTriang upper A n u v) {Y : SpMat R} (hY : WFY Y n)
    (evs : List (Nat × Nat)) :
    runSched upper A (collectDiag A) Y (fun _ => zeroBuf n) evs =
      .ok (evs.map fun wj => (wj.2, freshCol upper A Y n wj.2)) :=
  runSched_spec hA hY evs _ (fun _ => rfl)

/-- the sequential column loop (one buffer, any list of columns) is the special case of one worker, and it
hands back a zero buffer -/
theorem solve_cols_reused_buffer (hA : UnitTriang upper A n u v) {Y : SpMat R} (hY : WFY Y n) (js : List Nat) :
    solveCols upper A (collectDiag A) Y (zeroBuf n) js = .ok (zeroBuf n, js.map (freshCol upper A Y n)) :=
  solveCols_spec hA hY js

/-- **A·X = Y.** `solve_triangular(t, a, y)` returns (no panic) the `n × k` matrix `X` whose `j`-th column is
the fresh-buffer result, and `A·X = Y` as matrices over `R`. -/
theorem solve_correct' (hA : UnitTriang upper A n u v) {Y : SpMat R} (hY : WFY Y n) :
    ∃ X, solve upper A Y = .ok X ∧ X.nrows = n ∧ X.ncols = Y.ncols ∧ (∀ j, ∀ e ∈ col X j, e.1 < n) ∧
      (∀ j, j < Y.ncols → col X j = freshCol upper A Y n j) ∧
      toMatrix A n n * toMatrix X n Y.ncols = toMatrix Y n Y.ncols := by
  obtain ⟨X, h1, h2, h3, h4, h5⟩ := solve_correct hA hY
  refine ⟨X, h1, h2, h3, h4, fun j hj => ?_, h5⟩
  rw [solve_eq hA hY] at h1
  cases h1
  exact col_mk _ _ _ _ hj

/-- the hypotheses are satisfiable by a non-trivial value: an upper triangular 2×2 integer matrix with
diagonal `1, -1`, a stored zero BELOW the diagonal, and a right-hand side with a stored zero -/
example : ∃ (A Y : SpMat Int) (u v : Nat → Int), UnitTriang true A 2 u v ∧ WFY Y 2 := by
  refine ⟨⟨2, 2, #[[(0, 1), (1, 0)], [(0, 2), (1, -1)]]⟩, ⟨2, 1, #[[(0, 1), (1, 3)]]⟩,
    fun j => if j = 0 then 1 else -1, fun j => if j = 0 then 1 else -1,
    ⟨⟨rfl, forall_col _ (fun _ c => ∀ e ∈ c, e.1 < 2) (fun _ _ h => nomatch h) (by decide)⟩, rfl, rfl,
      by decide, by decide, by decide⟩,
    ⟨rfl, rfl, forall_col _ (fun _ c => ∀ e ∈ c, e.1 < 2) (fun _ _ h => nomatch h) (by decide),
      forall_col _ (fun _ c => (c.map (·.1)).Nodup) (fun _ => List.nodup_nil) (by decide)⟩⟩

/-- **`solve_triangular_vec`**: `A·x = b` for a sparse right-hand side vector given by its stored entries -/
theorem solve_vec_correct (hA : UnitTriang upper A n u v) (vec : List (Nat × R))
    (hrows : ∀ e ∈ vec, e.1 < n) (hnd : (vec.map (·.1)).Nodup) :
    ∃ es, solveVec upper A n vec = .ok es ∧ (∀ e ∈ es, e.1 < n) ∧ ∀ i, axAt A n es i = colSum vec i := by
  have hb : (toDense n vec).size = n := by simp [toDense, size_copyInto, zeroBuf]
  obtain ⟨es, h1, h2, h3⟩ := solveBuf_spec hA (toDense n vec) hb
  refine ⟨es, ?_, h2, fun i => ?_⟩
  · unfold solveVec
    rw [hA.nrows, hA.isTriang, h1]; simp
  · rw [h3 i]
    unfold toDense
    rw [bget_copyInto _ _ (fun e he => by simp only [zeroBuf, Array.size_replicate]; exact hrows e (List.mem_of_mem_filter he))
      (hnd.sublist ((List.filter_sublist).map _)), colSum_filter_nz]
    split
    · rfl
    · rename_i h
      rw [bget_zeroBuf, ← colSum_filter_nz, colSum_not_mem _ _ h]

/-- **`inv_triangular`** returns a right inverse `A·Z = 1` (hence `A` is invertible and `Z = A⁻¹`) -/
theorem inv_triangular_correct (hA : UnitTriang upper A n u v) :
    ∃ Z, invTriangular upper A = .ok Z ∧ Z.nrows = n ∧ Z.ncols = n ∧ toMatrix A n n * toMatrix Z n n = 1 ∧
      IsUnit (toMatrix A n n).det ∧ (toMatrix A n n)⁻¹ = toMatrix Z n n := by
  obtain ⟨Z, h1, h2, h3, h4⟩ := invTriangular_correct hA
  exact ⟨Z, h1, h2, h3, h4, Matrix.isUnit_det_of_right_inverse h4, Matrix.inv_eq_right_inv h4⟩

/-- **X·A = Y.** `solve_triangular_left` (solve with the transposed matrices, transpose back) -/
theorem solve_left_correct (hA : UnitTriang upper A n u v) {Y : SpMat R} (hY : WFYL Y n) :
    ∃ X, solveLeft upper A Y = .ok X ∧ X.nrows = Y.nrows ∧ X.ncols = n ∧
      toMatrix X Y.nrows n * toMatrix A n n = toMatrix Y Y.nrows n :=
  solveLeft_correct hA hY

/-- transposition of the CSC model transposes entries and keeps unit-triangularity (other side) -/
theorem transpose_entry (A : SpMat R) (k i : Nat) (hi : i < A.nrows) :
    entry (transpose A) k i = if k < A.ncols then entry A i k else 0 := entry_transpose A k i hi
theorem transpose_unit_triang (hA : UnitTriang upper A n u v) : UnitTriang (!upper) (transpose A) n u v :=
  hA.transpose

end solve

/-! ### Schur complement: block-matrix identities (any commutative ring, any finite block sizes) -/

section schur
variable {R : Type} [CommRing R]
variable {r p q : Type} [Fintype r] [Fintype p] [Fintype q] [DecidableEq r] [DecidableEq p] [DecidableEq q]

set_option linter.unusedSectionVars false in
/-- **F_tgt · M · B_src = S** with `S = D − C·X`, for the maps the code assembles from `X` (`A·X = B`, by
`solve_triangular`) and `W` (`W·A = C`, by `solve_triangular_left`). -/
theorem schur_transfer_identity (A : Matrix r r R) (B : Matrix r q R) (C : Matrix p r R) (D : Matrix p q R)
    (X : Matrix r q R) (W : Matrix p r R) (hX : A * X = B) (hW : W * A = C) :
    fromCols (-W) (1 : Matrix p p R) * fromBlocks A B C D * fromRows (-X) (1 : Matrix q q R) = D - C * X := by
  rw [fromCols_mul_fromBlocks, fromCols_mul_fromRows]
  have h1 : -W * A + (1 : Matrix p p R) * C = 0 := by rw [Matrix.neg_mul, hW, Matrix.one_mul, neg_add_cancel]
  have h2 : -W * B = -(C * X) := by rw [← hX, Matrix.neg_mul, ← Matrix.mul_assoc, hW]
  rw [h1, h2, Matrix.zero_mul, Matrix.one_mul, Matrix.mul_one, zero_add, neg_add_eq_sub]

set_option linter.unusedSectionVars false in
/-- **F·B = I** for both transfer maps -/
theorem schur_transfer_FB_src (X : Matrix r q R) :
    fromCols (0 : Matrix q r R) (1 : Matrix q q R) * fromRows (-X) (1 : Matrix q q R) = 1 := by
  rw [fromCols_mul_fromRows, Matrix.zero_mul, Matrix.one_mul, zero_add]
set_option linter.unusedSectionVars false in
theorem schur_transfer_FB_tgt (W : Matrix p r R) :
    fromCols (-W) (1 : Matrix p p R) * fromRows (0 : Matrix r p R) (1 : Matrix p p R) = 1 := by
  rw [fromCols_mul_fromRows, Matrix.mul_zero, Matrix.one_mul, zero_add]

set_option linter.unusedSectionVars false in
/-- **S = D − C·A⁻¹·B** when `A` is invertible (`X` the solution of `A·X = B`) -/
theorem schur_complement_inv (A : Matrix r r R) (B : Matrix r q R) (C : Matrix p r R) (D : Matrix p q R)
    (X : Matrix r q R) (hA : IsUnit A.det) (hX : A * X = B) :
    X = A⁻¹ * B ∧ D - C * X = D - C * A⁻¹ * B := by
  have : X = A⁻¹ * B := by rw [← hX, ← Matrix.mul_assoc, Matrix.nonsing_inv_mul A hA, Matrix.one_mul]
  exact ⟨this, by rw [this, Matrix.mul_assoc]⟩

/-- a matrix with a right inverse (what `inv_triangular` returns) is invertible and that is its inverse -/
theorem right_inverse_is_inverse (A Z : Matrix r r R) (h : A * Z = 1) : IsUnit A.det ∧ A⁻¹ = Z :=
  ⟨Matrix.isUnit_det_of_right_inverse h, Matrix.inv_eq_right_inv h⟩

example : ∃ (A : Matrix (Fin 1) (Fin 1) ℤ) (X : Matrix (Fin 1) (Fin 2) ℤ), A * X = !![2, -3] ∧ IsUnit A.det :=
  ⟨!![1], !![2, -3], by decide, by simp⟩

end schur

/-! ### `Schur::from_partial_triangular` (code model) -/

section schurModel
variable {R : Type} [CommRing R] [Scal R] [LawfulScal R] [Nontrivial R]
variable {upper : Bool} {M : SpMat R} {r : Nat} {u v : Nat → R}

/-- **S = D − C·A⁻¹·B** for the blocks `A = M[..r, ..r]`, `B = M[..r, r..]`, `C = M[r.., ..r]`, `D = M[r.., r..]`
of any CSC matrix `M` (stored zeros allowed) whose leading block is unit triangular; no panic; transfer maps
present iff requested.  Includes `r = 0` and `r = min(m,n)`. -/
theorem schur_complement_correct (h : SchurInput upper M r u v) (wt : Bool) :
    ∃ o, schur upper M r wt = .ok o ∧ IsUnit (blkA M r).det ∧
      toMatrix o.s (M.nrows - r) (M.ncols - r) =
        blkD M r (M.nrows - r) (M.ncols - r) - blkC M r (M.nrows - r) * (blkA M r)⁻¹ * blkB M r (M.ncols - r) ∧
      o.src.isSome = wt ∧ o.tgt.isSome = wt := by
  obtain ⟨X, W, _, _, _, _, hunit, hX, _, hS, hrun⟩ := schur_run h
  refine ⟨_, hrun wt, hunit, ?_, by cases wt <;> rfl, by cases wt <;> rfl⟩
  rw [hS, (schur_complement_inv _ _ _ _ _ hunit hX).2]

set_option linter.unusedSectionVars false in
theorem schur_blocks_of_model (M : SpMat R) (r p q : Nat) :
    bothSplit M r p q = fromBlocks (blkA M r) (blkB M r q) (blkC M r p) (blkD M r p q) := by
  ext (i | i) (j | j) <;> rfl

/-- **F_tgt·M·B_src = S, F_src·B_src = 1, F_tgt·B_tgt = 1** for the four matrices the code assembles
(`proj`, `(-a⁻¹b).stack(id)`, `(-c·a⁻¹).extend_cols(id)`, `incl`), read as block matrices over
`Fin r ⊕ Fin (m-r)` / `Fin r ⊕ Fin (n-r)` (`bothSplit M = fromBlocks A B C D`). -/
theorem schur_transfer_maps_correct (h : SchurInput upper M r u v) :
    ∃ S fs bs ft bt, schur upper M r true = .ok ⟨S, some (fs, bs), some (ft, bt)⟩ ∧
      colsSplit ft (M.nrows - r) r (M.nrows - r) * bothSplit M r (M.nrows - r) (M.ncols - r) *
          rowsSplit bs r (M.ncols - r) (M.ncols - r) = toMatrix S (M.nrows - r) (M.ncols - r) ∧
      colsSplit fs (M.ncols - r) r (M.ncols - r) * rowsSplit bs r (M.ncols - r) (M.ncols - r) = 1 ∧
      colsSplit ft (M.nrows - r) r (M.nrows - r) * rowsSplit bt r (M.nrows - r) (M.nrows - r) = 1 ∧
      toMatrix S (M.nrows - r) (M.ncols - r) =
        blkD M r (M.nrows - r) (M.ncols - r) - blkC M r (M.nrows - r) * (blkA M r)⁻¹ * blkB M r (M.ncols - r) := by
  obtain ⟨X, W, hX1, hX2, hXr, hW, hunit, hX, hWA, hS, hrun⟩ := schur_run h
  refine ⟨_, _, _, _, _, hrun true, ?_, ?_, ?_, ?_⟩
  · rw [colsSplit_extend W _ r hW, schur_blocks_of_model, rowsSplit_stack X r _ hX1 hX2 hXr, hS]
    exact schur_transfer_identity _ _ _ _ _ _ hX hWA
  · rw [colsSplit_proj M.ncols r h.hr2, rowsSplit_stack X r _ hX1 hX2 hXr]
    exact schur_transfer_FB_src _
  · rw [colsSplit_extend W _ r hW, rowsSplit_incl M.nrows r h.hr1]
    exact schur_transfer_FB_tgt _
  · rw [hS, (schur_complement_inv _ _ _ _ _ hunit hX).2]

/-- the hypotheses are satisfiable: a 2×3 integer matrix with leading 1×1 block `[-1]` and a stored zero -/
example : SchurInput (R := Int) true ⟨2, 3, #[[(0, -1), (1, 2)], [(0, 0), (1, 3)], [(1, 5)]]⟩ 1
    (fun _ => -1) (fun _ => -1) := by
  exact ⟨by decide, by decide, forall_col _ (fun _ c => ∀ e ∈ c, e.1 < 2) (fun _ _ h => nomatch h) (by decide),
    forall_col _ (fun _ c => (c.map (·.1)).Nodup) (fun _ => List.nodup_nil) (by decide),
    by decide, by decide, by decide⟩

end schurModel

/-! ### lawful scalar instances (the rings the harness exercises) -/

theorem lawful_int : LawfulScal Int := inferInstance
theorem lawful_rat : LawfulScal Rat := inferInstance
theorem lawful_gauss : LawfulScal GI := inferInstance
open Fin.CommRing in
theorem lawful_f5 : LawfulScal (Fin 5) := inferInstance

section uf
open UF Relation

/-- `p[i] ≤ i` holds initially and is preserved by `union`; `union` never panics on indices in range -/
theorem uf_inv_new (n : Nat) : Good (UF.new n) n := new_good n
theorem uf_inv_union {u : UF} {n : Nat} (hG : Good u n) (i j : Nat) (hi : i < n) (hj : j < n) :
    ∃ u', UF.union u i j = .ok u' ∧ Good u' n := by
  obtain ⟨u', _, _, h, hG', _⟩ := union_spec hG i j hi hj
  exact ⟨u', h, hG'⟩

/-- `root` terminates (the fuel of the model is never exhausted, i.e. the Rust recursion returns) and yields a
fixed point not above `i` -/
theorem uf_root_terminates {u : UF} {n : Nat} (hG : Good u n) (i : Nat) (hi : i < n) :
    ∃ r, UF.root u i = .ok r ∧ IsRoot u.p i r ∧ r ≤ i := by
  obtain ⟨r, h, hr⟩ := root_ok hG.inv i (by rw [hG.size]; exact hi)
  exact ⟨r, h, hr, hr.le hG.inv⟩

/-- **after any sequence of unions `is_same i j ↔` the equivalence closure of the united pairs** -/
theorem uf_same_iff_closure (n : Nat) (es : List (Nat × Nat)) (hes : ∀ e ∈ es, e.1 < n ∧ e.2 < n)
    (i j : Nat) (hi : i < n) (hj : j < n) :
    ∃ u b, unions (UF.new n) es = .ok u ∧ UF.isSame u i j = .ok b ∧
      (b = true ↔ EqvGen (fun a b => (a, b) ∈ es) i j) := by
  obtain ⟨u, hu, hrep'⟩ := unions_new_rep n es hes
  obtain ⟨b, hb, hiff⟩ := hrep'.isSame_iff i j hi hj
  exact ⟨u, b, hu, hb, hiff⟩

/-- every root is the MINIMUM of its class -/
theorem uf_root_is_class_min (n : Nat) (es : List (Nat × Nat)) (hes : ∀ e ∈ es, e.1 < n ∧ e.2 < n)
    (x : Nat) (hx : x < n) :
    ∃ u r, unions (UF.new n) es = .ok u ∧ UF.root u x = .ok r ∧ r < n ∧
      EqvGen (fun a b => (a, b) ∈ es) x r ∧ ∀ y, y < n → EqvGen (fun a b => (a, b) ∈ es) x y → r ≤ y := by
  obtain ⟨u, hu, hrep'⟩ := unions_new_rep n es hes
  obtain ⟨r, h, hr⟩ := root_ok hrep'.good.inv x (by rw [hrep'.good.size]; exact hx)
  obtain ⟨a1, a2, a3⟩ := hrep'.root_min x hx r hr
  exact ⟨u, r, hu, h, a1, a2, a3⟩

/-- **the grouping is independent of the order (and multiplicity) in which the unions happen**: two union
sequences generating the same equivalence give the same `root`, `is_same` and `group()` -/
theorem uf_order_independent (n : Nat) (es es' : List (Nat × Nat))
    (hes : ∀ e ∈ es, e.1 < n ∧ e.2 < n) (hes' : ∀ e ∈ es', e.1 < n ∧ e.2 < n)
    (hsame : ∀ a b, EqvGen (fun a b => (a, b) ∈ es) a b ↔ EqvGen (fun a b => (a, b) ∈ es') a b) :
    ∃ u u', unions (UF.new n) es = .ok u ∧ unions (UF.new n) es' = .ok u' ∧
      UF.group u = UF.group u' ∧ (∀ x, x < n → UF.root u x = UF.root u' x) ∧
      ∀ x y, x < n → y < n → UF.isSame u x y = UF.isSame u' x y := by
  obtain ⟨u, hu, h1⟩ := unions_new_rep n es hes
  obtain ⟨u', hu', h2⟩ := unions_new_rep n es' hes'
  exact ⟨u, u', hu, hu', group_determined h1 h2 hsame, fun x hx => root_determined h1 h2 hsame x hx,
    fun x y hx hy => isSame_determined h1 h2 hsame x y hx hy⟩

/-- in particular for a permutation of the union list (the mutex-protected unions of `group_cols` happen in
an arbitrary order) -/
theorem uf_perm_independent (n : Nat) (es es' : List (Nat × Nat)) (hp : es.Perm es')
    (hes : ∀ e ∈ es, e.1 < n ∧ e.2 < n) :
    ∃ u u', unions (UF.new n) es = .ok u ∧ unions (UF.new n) es' = .ok u' ∧ UF.group u = UF.group u' := by
  obtain ⟨u, u', h1, h2, h3, _⟩ := uf_order_independent n es es' hes (fun e he => hes e (hp.mem_iff.2 he))
    (fun a b => eqvGen_congr (fun a b => hp.mem_iff) a b)
  exact ⟨u, u', h1, h2, h3⟩

/-- `group()` lists the classes keyed by root (= class minimum) in ascending order, members ascending -/
theorem uf_group_classes (n : Nat) (es : List (Nat × Nat)) (hes : ∀ e ∈ es, e.1 < n ∧ e.2 < n) :
    ∃ u rt, unions (UF.new n) es = .ok u ∧ (∀ x, x < n → UF.root u x = .ok (rt x)) ∧
      UF.group u = .ok (classesOf n rt) := by
  obtain ⟨u, hu, hrep⟩ := unions_new_rep n es hes
  obtain ⟨rt, h1, h2⟩ := hrep.group_eq
  exact ⟨u, rt, hu, fun x hx => (h1 x hx).1, h2⟩

example : unions (UF.new 4) [(0, 1), (2, 3), (1, 3)] = .ok ⟨#[0, 0, 0, 2]⟩ ∧
    UF.group ⟨#[0, 0, 0, 2]⟩ = .ok [[0, 1, 2, 3]] := by decide +kernel

end uf

/-! ### `group_cols` (decomp.rs) -/

section group
variable {α : Type} [Scal α]
open UF Relation

/-- `col_intersects` (merge walk over two strictly increasing row-index lists) decides "share a row index" -/
theorem col_intersects_correct (l1 l2 : List Nat) (h1 : l1.Pairwise (· < ·)) (h2 : l2.Pairwise (· < ·)) :
    intersects l1 l2 = true ↔ ∃ x, x ∈ l1 ∧ x ∈ l2 := intersects_iff l1 l2 h1 h2

set_option linter.unusedSectionVars false in
/-- the double loop of `group_cols` never panics; its final union-find state represents exactly the
equivalence closure of "columns `cols[a]`, `cols[b]` store a common row" (pairs skipped because
`is_same` already held do not change the closure) -/
theorem group_cols_closure (A : SpMat α) :
    ∃ u, unionLoop A ((List.range A.ncols).filter fun j => !(col A j).isEmpty).toArray
        (UF.new ((List.range A.ncols).filter fun j => !(col A j).isEmpty).length)
        (allPairs ((List.range A.ncols).filter fun j => !(col A j).isEmpty).length) = .ok u ∧
      Rep u ((List.range A.ncols).filter fun j => !(col A j).isEmpty).length
        (fun a b => (a, b) ∈ allPairs ((List.range A.ncols).filter fun j => !(col A j).isEmpty).length ∧
          intersects (rowIdx A (((List.range A.ncols).filter fun j => !(col A j).isEmpty).toArray.getD a 0))
            (rowIdx A (((List.range A.ncols).filter fun j => !(col A j).isEmpty).toArray.getD b 0)) = true) :=
  groupCols_closure A

set_option linter.unusedSectionVars false in
/-- **the grouping of `group_cols` is independent of the order in which the (mutex-protected, parallel) loop
bodies run**: any two orders/multiplicities of the same set of `(i,j)` bodies give the same groups -/
theorem group_cols_order_independent (A : SpMat α) (pairs pairs' : List (Nat × Nat))
    (hmem : ∀ e, e ∈ pairs ↔ e ∈ pairs')
    (hp : ∀ e ∈ pairs, e.1 < ((List.range A.ncols).filter fun j => !(col A j).isEmpty).length ∧
      e.2 < ((List.range A.ncols).filter fun j => !(col A j).isEmpty).length) :
    groupColsWith A pairs = groupColsWith A pairs' := by
  unfold groupColsWith
  simp only
  split
  · rfl
  · obtain ⟨u, h1, hr⟩ := unionLoop_rep A (nzCols A).toArray (new_rep _) pairs hp
    obtain ⟨u', h1', hr'⟩ := unionLoop_rep A (nzCols A).toArray (new_rep _) pairs'
      (fun e he => hp e ((hmem e).2 he))
    rw [h1, h1']
    simp only
    rw [group_determined hr hr' (fun a b => eqvGen_congr (fun a b => by rw [hmem]) a b)]

end group

/-! ### block decomposition: verified checker applied to every real output -/

section decomp
variable {R : Type} [CommRing R] [Scal R] [LawfulScal R]

/-- `checkDecomp` is the executable check the driver runs on the REAL output
`(p, q, blocks)` of `dir_sum_decomp` for every explored input (request `chkdecomp`) and on the model's own
output (request `decompchk`).  If it accepts, `p` and `q` are permutations, the blocks fit, and the permuted
matrix is entrywise the block-diagonal sum of the blocks, zero outside (= zero rows/columns).
NOT proved: that the code model `dirSumDecomp` always produces an accepted output, and that blocks do not
split further (both explored by the harness only). -/
theorem decomp_checker_sound (A : SpMat R) (p q : Array Nat) (blocks : List (SpMat R))
    (h : checkDecomp A p q blocks = true) :
    ∃ (σ : Equiv.Perm (Fin A.nrows)) (τ : Equiv.Perm (Fin A.ncols)),
      (∀ i, (σ i : Nat) = p.getD i 0) ∧ (∀ j, (τ j : Nat) = q.getD j 0) ∧
      (blocks.map (·.nrows)).sum ≤ A.nrows ∧ (blocks.map (·.ncols)).sum ≤ A.ncols ∧
      ∀ (i : Fin A.nrows) (j : Fin A.ncols), entry A i j = bdEntry blocks (σ i) (τ j) := by
  unfold checkDecomp at h
  simp only [Bool.and_eq_true, List.all_eq_true, List.mem_range, decide_eq_true_eq] at h
  obtain ⟨⟨⟨⟨hp, hq⟩, hr⟩, hc⟩, he⟩ := h
  obtain ⟨σ, hσ⟩ := permOk_equiv p _ hp
  obtain ⟨τ, hτ⟩ := permOk_equiv q _ hq
  refine ⟨σ, τ, hσ, hτ, by rw [List.sum_eq_foldl]; exact hr, by rw [List.sum_eq_foldl]; exact hc, fun i j => ?_⟩
  have := he i i.2 j j.2
  rw [LawfulScal.isZero_iff, LawfulScal.sub_eq, sub_eq_zero] at this
  rw [this, hσ i, hτ j]

/-- **no block splits further (checker form).** `connectedBlk` is run by the driver on every REAL block returned
for an input without stored zeros (request `chkconn`).  If it accepts, there is no set `S` of rows/columns of
the block, non-empty with non-empty complement, such that no stored non-zero entry joins `S` with its
complement — i.e. the block is not a direct sum of two smaller blocks (nor has a zero row/column). -/
theorem block_connected_checker_sound {α : Type} [Scal α] (B : SpMat α) (hc : connectedBlk B = true)
    (S : Nat → Prop) : ¬ Splits B S :=
  (connectedBlk_sound B hc).not_splits S

example : checkDecomp (α := Int) ⟨2, 2, #[[(1, 5)], [(0, 7)]]⟩ #[1, 0] #[0, 1] [⟨1, 1, #[[(0, 5)]]⟩, ⟨1, 1, #[[(0, 7)]]⟩] = true := by
  decide +kernel

end decomp
end Yuiv.C12
