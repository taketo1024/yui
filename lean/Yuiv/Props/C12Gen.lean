import Yuiv.Proofs.C12Gen
/-
C12 — the hand-written model of the triangular solver (`Yuiv/Model/C12.lean`: `collectDiag`, `copyInto`, `colStep`, `outer`,
`solveBuf`, `solveCols`, `solve`, `solveVec`, `invTriangular`, `solveLeft`), about which `Props/C12.lean` proves
correctness and schedule independence, IS the source text of the sequential core of
`/repo/yui-matrix/src/sparse/triang.rs`.

`Yuiv.GenTriang.*` (file `Yuiv/Gen/TriangFn.lean`) is regenerated from the Rust source by `tools/rs2lean_fn.py fn:triang`
on every `./check` run, generic over the same scalar class `[Scal α]`.  The generated code keeps the index panics of
`b[i]` / `x[i]`; the model totalises them, so the equalities are stated for matrices / vectors whose stored row indices
are in range (`RowsOk`, part of the CSC invariant of nalgebra-sparse) and buffers of the right length.  Everything else —
`assert_eq!`, `debug_assert!` (debug build), `u.inv().unwrap()`, `b[j]` of the outer loop, `assert!(i < dim)` of
`from_sorted_entries` — is compared including the panics.
-/
namespace Yuiv.C12Gen
open Yuiv Res Yuiv.Rust Yuiv.GenTriang Yuiv.C12

variable {α : Type} [Scal α]

theorem gen_is_upper_eq : TriangularType.is_upper .Upper = true ∧ TriangularType.is_upper .Lower = false := ⟨rfl, rfl⟩

theorem gen_tranpose_eq (t : TriangularType) : up (TriangularType.tranpose t) = !up t := by cases t <;> rfl

theorem gen_collect_diag_eq (A : SpMat α) : triang.collect_diag A = (collectDiag A).toArray := by
  unfold triang.collect_diag collectDiag SM.iter
  congr 1
  rw [List.filterMap_flatMap]
  congr 1
  funext j
  rw [List.filterMap_map]
  rfl

theorem gen_copy_into_eq (v : SVec α) (x : Array α) (h : ∀ e ∈ v.ents, e.1 < x.size) :
    triang.copy_into v x = ok (copyInto x v.ents) := by
  unfold triang.copy_into SVec.iter
  exact copy_loop_eq _ _ h

theorem gen_solve_buf_eq (t : TriangularType) (A : SpMat α) (diag b : Array α)
    (h : ∀ j, ∀ e ∈ colVec A j, e.1 < b.size) :
    triang._solve_triangular_ t A diag b =
      mapR (fun p => (p.1, (⟨A.ncols, p.2⟩ : SVec α))) (solveBuf (up t) A diag.toList b) := by
  unfold triang._solve_triangular_ solveBuf
  simp only [Csc.enumerate, enumFrom_eq, SVec.from_sorted_entries]
  have e1 : (if TriangularType.is_upper t = true then (C12.enumFrom 0 diag.toList).reverse else C12.enumFrom 0 diag.toList) =
      (if up t = true then (C12.enumFrom 0 diag.toList).reverse else C12.enumFrom 0 diag.toList) := rfl
  rw [e1, outer_eq A _ b [] h, bind_mapR]
  cases ho : outer A b [] (if up t = true then (C12.enumFrom 0 diag.toList).reverse else C12.enumFrom 0 diag.toList) with
  | ok p =>
    obtain ⟨b', es⟩ := p
    have ha : List.all b'.toList triang._solve_triangular__closure3 = b'.all isZero := by
      rw [Array.all_toList]; rfl
    simp only [bind_ok, ha]
    cases hz : b'.all isZero
    · simp [assert_false, mapR_panic]
    · simp only [assert_true, bind_ok, Bool.not_true, Bool.false_eq_true, if_false]
      have e2 : (if TriangularType.is_upper t = true then es.reverse else es) = (if up t = true then es.reverse else es) := rfl
      rw [e2]
      cases hall : (if up t = true then es.reverse else es).all fun e => decide (e.1 < A.ncols)
      · simp only [Bool.false_eq_true, if_false]; rfl
      · simp only [if_true, bind_ok]
        rfl
  | panic => rfl
  | err => rfl

/-! ### the column loop of `solve_triangular_s` (one scratch buffer handed from column to column) -/

/-- one column: `copy_into(y.col_vec(j), &mut b); _solve_triangular(t, a, &diag, &mut b)` -/
theorem gen_solve_col_eq (t : TriangularType) (A Y : SpMat α) (diag : Array α) (hA : RowsOk A)
    (hY : ∀ j, ∀ e ∈ col Y j, e.1 < A.nrows) (j : Nat) (b : Array α) (hb : b.size = A.nrows) :
    triang.solve_triangular_s_closure1 t A Y diag j b =
      mapR (fun p => (p.1, (⟨A.ncols, p.2⟩ : SVec α))) (solveBuf (up t) A diag.toList (copyInto b (colVec Y j))) := by
  have h1 : ∀ e ∈ (SM.col_vec Y j).ents, e.1 < b.size := fun e he => by
    rw [hb]; exact hY j e (List.mem_filter.mp he).1
  have h2 : ∀ j', ∀ e ∈ colVec A j', e.1 < (copyInto b (colVec Y j)).size := fun j' e he => by
    rw [size_copyInto, hb]; exact colVec_rows hA j' e he
  unfold triang.solve_triangular_s_closure1
  show (triang.copy_into (SM.col_vec Y j) b >>= _) = _
  rw [gen_copy_into_eq _ _ h1]
  simp only [bind_ok, SM.col_vec]
  rw [gen_solve_buf_eq t A diag _ h2]
  cases solveBuf (up t) A diag.toList (copyInto b (colVec Y j)) <;> rfl

theorem gen_solve_cols_eq (t : TriangularType) (A Y : SpMat α) (diag : Array α) (hA : RowsOk A)
    (hY : ∀ j, ∀ e ∈ col Y j, e.1 < A.nrows) : ∀ (c j : Nat) (b : Array α), b.size = A.nrows →
    Loop.mapGo (triang.solve_triangular_s_closure1 t A Y diag) c j b =
      mapR (fun p => (p.1, p.2.map fun es => (⟨A.ncols, es⟩ : SVec α)))
        (solveCols (up t) A diag.toList Y b (List.range' j c)) := by
  intro c
  induction c with
  | zero => intro j b _; rfl
  | succ c ih =>
    intro j b hb
    unfold Loop.mapGo
    rw [List.range'_succ]
    unfold solveCols
    rw [gen_solve_col_eq t A Y diag hA hY j b hb]
    cases hs : solveBuf (up t) A diag.toList (copyInto b (colVec Y j)) with
    | ok p =>
      obtain ⟨b2, es⟩ := p
      have hb2 : b2.size = A.nrows := by rw [solveBuf_size _ _ _ _ _ _ hs, size_copyInto, hb]
      simp only [mapR_ok, bind_ok]
      rw [ih (j + 1) b2 hb2]
      cases solveCols (up t) A diag.toList Y b2 (List.range' (j + 1) c) with
      | ok q => rfl
      | panic => rfl
      | err => rfl
    | panic => rfl
    | err => rfl

theorem gen_solve_triangular_eq (t : TriangularType) (A Y : SpMat α) (hA : RowsOk A) (hY : RowsOk Y) :
    triang.solve_triangular t A Y = solve (up t) A Y := by
  unfold triang.solve_triangular solve triang.solve_triangular_s
  by_cases hn : A.nrows = Y.nrows
  · have hne : (A.nrows != Y.nrows) = false := by simp [hn]
    have hd : decide (SM.nrows A = SM.nrows Y) = true := by simp [hn]
    simp only [hd, hne, assert_true, bind_ok, SM.is_triang, Bool.false_eq_true, if_false]
    show (Res.assert (isTriang (up t) A) >>= _) = _
    cases htr : isTriang (up t) A
    · simp [assert_false]
    · have hsq := isTriang_square htr
      simp only [assert_true, bind_ok, Bool.not_true, Bool.false_eq_true, if_false, Loop.mapRange, Nat.sub_zero,
        gen_collect_diag_eq, List.range_eq_range']
      rw [gen_solve_cols_eq t A Y _ hA (fun j e he => by rw [hn]; exact hY j e he) Y.ncols 0 _ (by simp)]
      show (mapR _ (solveCols (up t) A (collectDiag A) Y (zeroBuf A.nrows) (List.range' 0 Y.ncols)) >>= _) = _
      cases hc : solveCols (up t) A (collectDiag A) Y (zeroBuf A.nrows) (List.range' 0 Y.ncols) with
      | ok p =>
        obtain ⟨b', cs⟩ := p
        have hl := solveCols_length _ _ _ _ _ _ _ _ hc
        have hm : List.map ((fun x : SVec α => x.ents) ∘ fun es => { dim := A.ncols, ents := es }) cs = cs := by
          have : ((fun x : SVec α => x.ents) ∘ fun es => ({ dim := A.ncols, ents := es } : SVec α)) = id := rfl
          rw [this, List.map_id]
        simp [mapR_ok, SM.from_col_vecs, hsq, hl]
        exact hm
      | panic => rfl
      | err => rfl
  · have hne : (A.nrows != Y.nrows) = true := by simp [hn]
    simp [hn, hne, assert_false]

theorem gen_inv_triangular_eq (t : TriangularType) (A : SpMat α) (hA : RowsOk A) :
    triang.inv_triangular t A = invTriangular (up t) A := by
  unfold triang.inv_triangular invTriangular
  exact gen_solve_triangular_eq t A _ hA (idMat_rows _)

/-- no hypothesis: the row indices of a transpose are column indices, in range by construction -/
theorem gen_solve_triangular_left_eq (t : TriangularType) (A Y : SpMat α) :
    triang.solve_triangular_left t A Y = solveLeft (up t) A Y := by
  unfold triang.solve_triangular_left solveLeft
  simp only [SM.transpose]
  rw [gen_solve_triangular_eq _ _ _ (transpose_rows A) (transpose_rows Y), gen_tranpose_eq]
  cases solve (!up t) (transpose A) (transpose Y) <;> rfl

theorem gen_solve_triangular_vec_eq (t : TriangularType) (A : SpMat α) (v : SVec α) (hA : RowsOk A) :
    triang.solve_triangular_vec t A v =
      mapR (fun es => (⟨A.ncols, es⟩ : SVec α)) (solveVec (up t) A v.dim v.ents) := by
  unfold triang.solve_triangular_vec solveVec
  by_cases hn : A.nrows = v.dim
  · have hne : (A.nrows != v.dim) = false := by simp [hn]
    have hd : decide (SM.nrows A = SVec.dim v) = true := by simp [hn]
    simp only [hd, hne, assert_true, bind_ok, SM.is_triang, Bool.false_eq_true, if_false]
    show (Res.assert (isTriang (up t) A) >>= _) = _
    cases htr : isTriang (up t) A
    · simp [assert_false, mapR_panic]
    · simp only [assert_true, bind_ok, Bool.not_true, Bool.false_eq_true, if_false, gen_collect_diag_eq, SVec.to_dense]
      rw [gen_solve_buf_eq t A _ _ (fun j e he => by rw [toDense_size, ← hn]; exact colVec_rows hA j e he)]
      show (mapR _ (solveBuf (up t) A (collectDiag A) (toDense v.dim v.ents)) >>= _) = _
      cases solveBuf (up t) A (collectDiag A) (toDense v.dim v.ents) <;> rfl
  · have hne : (A.nrows != v.dim) = true := by simp [hn]
    have hd : decide (SM.nrows A = SVec.dim v) = false := by simp [hn]
    simp [hd, hne, assert_false, mapR_panic]

example : RowsOk (idMat 3 : SpMat α) := idMat_rows 3
example (M : SpMat α) : RowsOk (transpose M) := transpose_rows M

end Yuiv.C12Gen
