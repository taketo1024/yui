/-
`for` loops whose body always continues are folds.
-/
namespace Yuiv.Loop
universe u v w

/-- A `for` over a list whose body never breaks is the monadic fold of its steps (the library's
`List.forIn_yield_eq_foldlM` asks for a body that is syntactically `.yield <$> _`; translated code is not, and often
the step is only known for the elements of the list). -/
theorem forIn_eq_foldlM {m : Type u → Type v} [Monad m] [LawfulMonad m] {α : Type w} {β : Type u} {l : List α}
    {f : α → β → m (ForInStep β)} {g : β → α → m β}
    (h : ∀ a ∈ l, ∀ b, f a b = ForInStep.yield <$> g b a) (b : β) : forIn l b f = l.foldlM g b := by
  induction l generalizing b with
  | nil => rfl
  | cons a l ih =>
    rw [List.forIn_cons, List.foldlM_cons, h a List.mem_cons_self, bind_map_left]
    exact bind_congr fun b' => ih (fun a ha => h a (List.mem_cons_of_mem _ ha)) b'

theorem forIn_eq_foldl {α : Type w} {β : Type u} {l : List α} {f : α → β → Id (ForInStep β)} {g : β → α → β}
    (h : ∀ a ∈ l, ∀ b, f a b = pure (ForInStep.yield (g b a))) (b : β) : forIn l b f = pure (l.foldl g b) :=
  (forIn_eq_foldlM (g := fun b a => pure (g b a)) h b).trans List.foldlM_pure

end Yuiv.Loop
