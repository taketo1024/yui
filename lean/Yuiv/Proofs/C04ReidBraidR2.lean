import Yuiv.Proofs.C04Closure
import Yuiv.Proofs.C04ReidR2
/-
C04Reid (helper, no property theorem here): Reidemeister II in braid form,
`closure n (w₁ ++ [s, −s] ++ w₂)` versus `closure n (w₁ ++ w₂)`.
State sum of the new closure = `x ·` state sum of the old closure `+ (1+x·y+x²) · …`.
-/
open Yuiv.KhRef Yuiv.C04
namespace Yuiv.C04Inv
open Yuiv.C18 (closureStep closurePD closure hasFreeLoop CInv PD flatPD)
open Yuiv.C18Bridge (toKh)

variable {R : Type} [CommRing R]

/-- the label shift caused by the four labels `c … c+3` of an inserted pair on the strands `a`, `b` -/
def gShift (a b c : Nat) (z : Nat) : Nat :=
  if z = a then c + 2 else if z = b then c + 3 else if c ≤ z then z + 4 else z

theorem gShift_ge (a b c z : Nat) (ha : a < c) (hb : b < c) (hz : c ≤ z) : gShift a b c z = z + 4 := by
  unfold gShift
  rw [if_neg (by omega), if_neg (by omega), if_pos hz]

/-- the two crossings written by the letters `s`, `−s` on the strands with current bottom labels `a`, `b`, count `c` -/
def pairX (s : Int) (a b c : Nat) : (Nat × Nat × Nat × Nat) × (Nat × Nat × Nat × Nat) :=
  if s > 0 then ((a, c, c + 1, b), (c + 1, c, c + 2, c + 3)) else ((b, a, c, c + 1), (c, c + 2, c + 3, c + 1))

theorem pair_steps {n : Nat} {st q m : Nat × List Nat × PD} {s : Int} (hI : CInv n st)
    (h1 : closureStep st s = .ok q) (h2 : closureStep q (-s) = .ok m) :
    ∃ a b, a < st.1 ∧ b < st.1 ∧ a ∈ st.2.1 ∧ b ∈ st.2.1 ∧ s ≠ 0 ∧
      m = (st.1 + 4, st.2.1.map (gShift a b st.1), st.2.2 ++ [(pairX s a b st.1).1, (pairX s a b st.1).2]) := by
  obtain ⟨hnd, hlt, _, _⟩ := cinv_facts hI
  obtain ⟨a, b, hs0, ha, hb, rfl⟩ := C18.closureStep_ok h1
  obtain ⟨a', b', _, ha', hb', rfl⟩ := C18.closureStep_ok h2
  obtain ⟨c, bot, pd⟩ := st
  simp only at ha hb ha' hb' hnd hlt ⊢
  rw [Int.natAbs_neg] at ha' hb' ⊢
  generalize hi : s.natAbs - 1 = i at *
  obtain ⟨hil, ea⟩ := List.getElem?_eq_some_iff.1 ha
  obtain ⟨hil1, eb⟩ := List.getElem?_eq_some_iff.1 hb
  have ea' : c = a' := by
    rw [List.getElem?_set_ne (by omega), List.getElem?_set_self hil] at ha'; exact Option.some.inj ha'
  have eb' : c + 1 = b' := by
    rw [List.getElem?_set_self (by simpa using hil1)] at hb'; exact Option.some.inj hb'
  have ham : a ∈ bot := ea ▸ List.getElem_mem hil
  have hbm : b ∈ bot := eb ▸ List.getElem_mem hil1
  have hab : a ≠ b := by
    intro h
    have := (List.Nodup.getElem_inj_iff hnd (hi := hil) (hj := hil1)).1 (by rw [ea, eb, h])
    omega
  have hs : s ≠ 0 := by intro h; subst h; simp at hs0
  refine ⟨a, b, hlt a ham, hlt b hbm, ham, hbm, hs, ?_⟩
  subst ea' eb'
  refine Prod.ext (by simp only) (Prod.ext ?_ ?_)
  · simp only
    apply List.ext_getElem (by simp)
    intro k hk1 hk2
    simp only [List.getElem_set, List.getElem_map]
    have hk : k < bot.length := by simpa using hk2
    by_cases hki1 : i + 1 = k
    · subst hki1
      rw [if_pos rfl, eb]
      unfold gShift
      rw [if_neg (fun h => hab h.symm), if_pos rfl]
    · rw [if_neg hki1]
      by_cases hki : i = k
      · subst hki
        rw [if_pos rfl, ea]
        unfold gShift
        rw [if_pos rfl]
      · rw [if_neg hki, if_neg hki1, if_neg hki]
        have n1 : bot[k] ≠ a := by
          intro h
          exact hki ((List.Nodup.getElem_inj_iff hnd (hi := hil) (hj := hk)).1 (by rw [ea, h]))
        have n2 : bot[k] ≠ b := by
          intro h
          exact hki1 ((List.Nodup.getElem_inj_iff hnd (hi := hil1) (hj := hk)).1 (by rw [eb, h]))
        have n3 : bot[k] < c := hlt _ (List.getElem_mem hk)
        unfold gShift
        rw [if_neg n1, if_neg n2, if_neg (by omega)]
  · simp only [pairX, List.append_assoc, List.cons_append, List.nil_append]
    by_cases hpos : s > 0
    · have h' : 0 ≤ s := by omega
      simp [hpos, h']
    · have h' : s < 0 := by omega
      simp [hpos, h']

def shift4 (c : Nat) (z : Nat) : Nat := if c ≤ z then z + 4 else z

theorem shift4_inj (c : Nat) : Function.Injective (shift4 c) := by
  intro u v h
  unfold shift4 at h
  split at h <;> split at h <;> omega

theorem collapse2_gShift (a b c : Nat) (ha : a < c) (hb : b < c) (z : Nat) :
    collapse2 a b c (c + 1) (c + 2) (c + 3) (gShift a b c z) = shift4 c z := by
  unfold collapse2 gShift shift4
  by_cases h1 : z = a
  · subst h1; simp; omega
  · by_cases h2 : z = b
    · subst h2
      rw [if_neg h1, if_pos rfl, if_neg (by omega), if_pos (by omega), if_neg (by omega)]
    · rw [if_neg h1, if_neg h2]
      by_cases h3 : c ≤ z
      · rw [if_pos h3, if_neg (by omega), if_neg (by omega)]
      · rw [if_neg h3, if_neg (by omega), if_neg (by omega)]

theorem collapse2_lt (a b c : Nat) (z : Nat) (hz : z < c) :
    collapse2 a b c (c + 1) (c + 2) (c + 3) z = shift4 c z := by
  unfold collapse2 shift4
  rw [if_neg (by omega), if_neg (by omega), if_neg (by omega)]

theorem gShift_ne (a b c z : Nat) : gShift a b c z ≠ c ∧ gShift a b c z ≠ c + 1 := by
  unfold gShift
  split
  · omega
  · split
    · omega
    · split <;> omega

theorem braid_r2_stateSum (x y : R) (n : Nat) (w1 w2 : List Int) (s : Int) (l l' : C18.Link)
    (h : closure n (w1 ++ w2) = .ok l) (h' : closure n (w1 ++ [s, -s] ++ w2) = .ok l') :
    ∃ T : R, stateSum x y (toKh l') = x * stateSum x y (toKh l) + (1 + x * y + x ^ 2) * T := by
  obtain ⟨st1', mO, mN, stO, hI1, hmO, hpair, hf2, hIO, hsO, hN⟩ :=
    closure_mid_pair x y n w1 [] [s, -s] w2 l l' (by simpa using h) h'
  simp only [List.foldlM_nil, pure] at hmO
  cases hmO
  obtain ⟨q, hq, hpair⟩ := foldlM_cons_ok.1 hpair
  obtain ⟨m', hq2, hpair⟩ := foldlM_cons_ok.1 hpair
  cases hpair
  obtain ⟨a, b, ha, hb, ham, hbm, hs, rfl⟩ := pair_steps hI1 hq hq2
  obtain ⟨hnd, hlt, hpdlt, hlab⟩ := cinv_facts hI1
  obtain ⟨pd2, hpd, hsN⟩ := hN (gShift a b st1'.1) 4 (fun z hz => gShift_ge a b st1'.1 z ha hb hz) rfl rfl
  obtain ⟨c, bot, pd1⟩ := st1'
  obtain ⟨cO, botO, pdO⟩ := stO
  simp only at ha hb ham hbm hlt hpdlt hlab hpd hsO hsN ⊢
  subst hpd
  have hnc : n ≤ c := hI1.le
  have hlenO : botO.length = n := hIO.len
  -- the rest of the new diagram and the collapse map
  have hperm := rawLinkP_perm_mid pd1 [(pairX s a b c).1, (pairX s a b c).2] (pd2.map (map4 (gShift a b c)))
    ((botO.map (gShift a b c)).zipIdx)
  have hwf := WF_rawLinkP (pd1 ++ pd2.map (map4 (gShift a b c))) ((botO.map (gShift a b c)).zipIdx)
  have hzip : ∀ p ∈ botO.zipIdx, p.2 < c := by
    intro p hp
    have := (List.mem_zipIdx (x := p.1) (i := p.2) (k := 0) hp).2.1
    omega
  -- collapsed rest = shifted old diagram
  have hren : renumber (collapse2 a b c (c + 1) (c + 2) (c + 3))
        (rawLinkP (pd1 ++ pd2.map (map4 (gShift a b c))) ((botO.map (gShift a b c)).zipIdx))
      = renumber (shift4 c) (rawLinkP (pd1 ++ pd2) botO.zipIdx) := by
    rw [renumber_rawLinkP, renumber_rawLinkP]
    congr 1
    · rw [List.map_append, List.map_append, List.map_map]
      congr 1
      · apply List.map_congr_left
        intro t ht
        have m4 : ∀ z ∈ [t.1, t.2.1, t.2.2.1, t.2.2.2], z < c := by
          intro z hz
          apply hpdlt
          simp only [flatPD, List.mem_flatMap]
          exact ⟨t, ht, hz⟩
        simp only [map4]
        rw [collapse2_lt _ _ _ _ (m4 _ (by simp)), collapse2_lt _ _ _ _ (m4 _ (by simp)),
          collapse2_lt _ _ _ _ (m4 _ (by simp)), collapse2_lt _ _ _ _ (m4 _ (by simp))]
      · apply List.map_congr_left
        intro t _
        simp only [Function.comp, map4, collapse2_gShift a b c ha hb]
    · rw [List.zipIdx_map, List.map_map]
      apply List.map_congr_left
      intro p hp
      simp only [Function.comp, pmap, Prod.map, id]
      rw [collapse2_gShift a b c ha hb, collapse2_lt _ _ _ _ (hzip p hp)]
  have hlabOld : ∀ z ∈ bot, z ∈ labelSet (rawLinkP (pd1 ++ pd2) botO.zipIdx) := by
    intro z hz
    rw [mem_labelSet_rawLinkP]
    rcases hlab z hz with h | h
    · right
      exact ⟨(botO[z]'(by omega), z), List.mem_zipIdx_iff_getElem?.2 (by simp [hlenO, h]),
        Or.inr rfl⟩
    · left; rw [C18.flatPD_append]; exact List.mem_append_left _ h
  have hmemC : ∀ z ∈ bot, z ∈ labelSet (renumber (collapse2 a b c (c + 1) (c + 2) (c + 3))
        (rawLinkP (pd1 ++ pd2.map (map4 (gShift a b c))) ((botO.map (gShift a b c)).zipIdx))) := by
    intro z hz
    rw [hren, labelSet_renumber]
    refine ⟨z, hlabOld z hz, ?_⟩
    unfold shift4; rw [if_neg (by have := hlt z hz; omega)]
  have hBL : BigonLabels (rawLinkP (pd1 ++ pd2.map (map4 (gShift a b c))) ((botO.map (gShift a b c)).zipIdx))
      a b c (c + 1) (c + 2) (c + 3) := by
    have key : ∀ z, z ∈ labelSet (rawLinkP (pd1 ++ pd2.map (map4 (gShift a b c)))
        ((botO.map (gShift a b c)).zipIdx)) → z ≠ c ∧ z ≠ c + 1 := by
      intro z hz
      rw [mem_labelSet_rawLinkP, C18.flatPD_append, List.mem_append, flatPD_map4] at hz
      rcases hz with (hz | hz) | ⟨p, hp, hz⟩
      · have := hpdlt z hz; omega
      · obtain ⟨z', _, rfl⟩ := List.mem_map.1 hz
        exact gShift_ne a b c z'
      · rw [List.zipIdx_map, List.mem_map] at hp
        obtain ⟨p', hp', rfl⟩ := hp
        rcases hz with rfl | rfl
        · exact gShift_ne a b c _
        · have := hzip p' hp'
          simp only [Prod.map, id]; omega
    refine ⟨fun hc => (key c hc).1 rfl, fun hd => (key (c + 1) hd).2 rfl, ?_, ?_, ?_, ?_, ?_, ?_, ?_, ?_, ?_, ?_, ?_, ?_⟩ <;> omega
  have hold : stateSum x y (rawLinkP (pd1 ++ pd2) botO.zipIdx) =
      stateSum x y (renumber (collapse2 a b c (c + 1) (c + 2) (c + 3))
        (rawLinkP (pd1 ++ pd2.map (map4 (gShift a b c))) ((botO.map (gShift a b c)).zipIdx))) := by
    rw [hren, stateSum_renumber x y _ (shift4_inj c).injOn (WF_rawLinkP _ _)]
  rw [hsN, hsO, hold]
  by_cases hpos : s > 0
  · have hX : pairX s a b c = ((a, c, c + 1, b), (c + 1, c, c + 2, c + 3)) := by simp [pairX, hpos]
    rw [hX] at hperm ⊢
    exact ⟨_, bigon_stateSum_PN x y hwf hBL (hmemC a ham) (hmemC b hbm) hperm⟩
  · have hX : pairX s a b c = ((b, a, c, c + 1), (c, c + 2, c + 3, c + 1)) := by simp [pairX, hpos]
    rw [hX] at hperm ⊢
    exact ⟨_, bigon_stateSum_NP x y hwf hBL (hmemC a ham) (hmemC b hbm) hperm⟩

theorem closureStep_isOk {n : Nat} {st : Nat × List Nat × PD} (hI : CInv n st) (s : Int) (h1 : s ≠ 0)
    (h2 : s.natAbs < n) : ∃ q, closureStep st s = .ok q := by
  have hlen := hI.len
  have i1 : s.natAbs - 1 < st.2.1.length := by omega
  have i2 : s.natAbs - 1 + 1 < st.2.1.length := by omega
  have h0 : s.natAbs ≠ 0 := by omega
  unfold closureStep
  simp only [if_neg h0, List.getElem?_eq_getElem i1, List.getElem?_eq_getElem i2]
  exact ⟨_, rfl⟩

theorem hasFreeLoop_map_gShift (a b c n : Nat) (hnc : n ≤ c) (bot : List Nat) (hlen : bot.length = n)
    (h : hasFreeLoop bot = false) : hasFreeLoop (bot.map (gShift a b c)) = false := by
  apply hasFreeLoop_of_ne
  intro k hk
  rw [List.length_map] at hk
  have := C18.hasFreeLoop_false bot h k hk
  rw [List.getElem_map]
  unfold gShift
  split
  · omega
  · split
    · omega
    · split <;> omega

theorem braid_r2_exists (n : Nat) (w1 w2 : List Int) (s : Int) (l : C18.Link) (h : closure n (w1 ++ w2) = .ok l)
    (hs0 : s ≠ 0) (hsn : s.natAbs < n) : ∃ l', closure n (w1 ++ [s, -s] ++ w2) = .ok l' := by
  obtain ⟨stO, hfO, hflO, _, _⟩ := closure_stateSum (R := Int) 0 0 n _ l h
  obtain ⟨st1, hf1, hf2⟩ := foldlM_append_ok.1 hfO
  have hI1 := C18.cinv_foldl n w1 _ st1 (C18.cinv_init n) hf1
  have hIO := C18.cinv_foldl n _ _ stO (C18.cinv_init n) hfO
  obtain ⟨q, hq⟩ := closureStep_isOk hI1 s hs0 hsn
  have hIq := C18.cinv_step n st1 q s hI1 hq
  obtain ⟨m, hm⟩ := closureStep_isOk hIq (-s) (by omega) (by rw [Int.natAbs_neg]; exact hsn)
  obtain ⟨a, b, ha, hb, _, _, _, rfl⟩ := pair_steps hI1 hq hm
  obtain ⟨pd2, _, hsim⟩ := gsim_fold (gShift a b st1.1) 4 st1.1 (fun z hz => gShift_ge a b st1.1 z ha hb hz) w2 st1 stO
    (Nat.le_refl _) hf2
  refine closure_of_state n _ (stO.1 + 4, stO.2.1.map (gShift a b st1.1),
    (st1.2.2 ++ [(pairX s a b st1.1).1, (pairX s a b st1.1).2]) ++ pd2.map (map4 (gShift a b st1.1))) ?_
    (hasFreeLoop_map_gShift a b st1.1 n hI1.le stO.2.1 hIO.len hflO)
  · rw [List.append_assoc]
    refine foldlM_append_ok.2 ⟨st1, hf1, (foldlM_append_ok (l := [s, -s])).2 ⟨_, ?_, hsim _⟩⟩
    simp only [List.foldlM_cons, List.foldlM_nil, hq, bind, Res.bind, hm, pure]

end Yuiv.C04Inv
