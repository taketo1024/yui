import Yuiv.Proofs.C10Gen
/-
C10 — the hand-written model of `LLLData` / `LLLCalc` / `LLLHNFCalc` over ℤ (`Yuiv/Model/C10.lean`, about which
Props/C10GS + C10Term prove bookkeeping, termination and reducedness) IS the source text of
`/repo/yui-matrix/src/dense/lll.rs`.

`Yuiv.GenLll.*` (file `Yuiv/Gen/LllFn.lean`) is regenerated from the Rust source by `tools/rs2lean_fn.py fn:lll` on every
`./check` run (`R := Int`).  Each theorem states, for every model state `d` with `WF d` (`det` has one entry per row) —
embedded by `ofData`, both transforms tracked — that a generated definition equals the model's function, including the
panics (`assert!`s, nalgebra / `Vec` index checks, division by zero, a non-unit in `mul_row`) and fuel exhaustion.
-/
namespace Yuiv.C10Gen
open Yuiv Res Yuiv.Rust Yuiv.GenLll Yuiv.C10

theorem gen_int_lllring_eq (a : Int) :
    i32.LLLRing.alpha = RInt.alpha ∧ i64.LLLRing.alpha = RInt.alpha ∧ i128.LLLRing.alpha = RInt.alpha ∧
    BigInt.LLLRing.alpha = RInt.alpha ∧ RInt.alpha = C10.alphaZ ∧
    i64.LLLRing.as_int a = RInt.as_int a ∧ i64.LLLRing.conj a = RInt.conj a ∧ LLLRing.norm a = a * a :=
  ⟨rfl, rfl, rfl, rfl, rfl, rfl, rfl, rfl⟩

theorem gen_next_eq (d : Data) : LLLData.next (ofData d) = ofData d.next := rfl
theorem gen_nrows_eq (d : Data) : LLLData.nrows (ofData d) = d.tr.m := rfl
theorem gen_back_eq (d : Data) : LLLData.back (ofData d) = ok (ofData d.back) := by
  unfold LLLData.back Data.back
  by_cases h : d.step > 1
  · have : 1 ≤ d.step := by omega
    simp only [ofData, lm, gt_iff_lt, h, decide_true, ↓reduceIte, U64.sub, this, bind_ok]
  · simp only [ofData, lm, gt_iff_lt, h, decide_false, Bool.false_eq_true, ↓reduceIte]

theorem gen_lovasz_ok_eq (d : Data) (hw : WF d) (k : Nat) :
    LLLData.lovasz_ok (ofData d) k = d.lovaszOk k := by
  unfold LLLData.lovasz_ok Data.lovaszOk
  by_cases hk : 0 < k
  · have h1k : 1 ≤ k := hk
    simp only [gt_iff_lt, hk, decide_true, assert_true, bind_ok, get_detPrev, sub_ok h1k, get_det]
    refine bind_congr (fun d0 => bind_congr (fun d1 => ?_))
    cases h2 : detAt d k with
    | ok d2 =>
      -- `det[k]` was read, so `k < m` and `lambda[(k, k-1)]` is in range
      have hkm : k < d.tr.m := by
        unfold detAt at h2
        split at h2
        · rename_i h; rw [← hw]; exact h
        · cases h2
      simp only [bind_ok, get_lam d (i := k) (j := k - 1) hkm (by omega), Opt.unwrap, RInt.as_int, RInt.alpha, alphaZ,
        LLLRing.norm, RInt.conj, pure_eq_ok, ge_iff_le]
      rfl
    | panic => rfl
    | err => rfl
  · simp [hk, assert_false]

theorem gen_mul_row_eq (d : Data) (i : Nat) (r : Int) :
    LLLData.mul_row (ofData d) i r = mapR ofData (d.mulRow i r) := by
  unfold LLLData.mul_row Data.mulRow Tr.mulRow
  have hu : RInt.is_unit r = isUnitZ r := rfl
  cases hr : isUnitZ r
  · simp only [hu, hr, assert_false, LMat.mul_row, ofData, lm, Option.isSome_some, ↓reduceIte, Opt.unwrap,
      bind_ok, LMat.mul_col, bind_assoc, bind_panic, pure_eq, mapR_panic]
  · have hinv : RInt.inv r = some r := by simp [RInt.inv, hu, hr]
    by_cases hi : i < d.tr.m
    · simp only [hu, hr, assert_true, LMat.mul_row, ofData, lm, hi, ↓reduceIte, Option.isSome_some, Opt.unwrap,
        bind_ok, hinv, LMat.mul_col, RInt.conj, decide_true, pure_eq, mapR_ok]
    · simp only [hu, hr, assert_true, LMat.mul_row, ofData, lm, hi, ↓reduceIte, Option.isSome_some, Opt.unwrap,
        bind_ok, bind_panic, LMat.mul_col, decide_false, assert_false, pure_eq, mapR_panic]

theorem gen_nz_col_in_eq (d : Data) (i : Nat) (hi : i < d.tr.m) :
    LLLData.nz_col_in (ofData d) i = ok (d.nzColIn i) := by
  unfold LLLData.nz_col_in Data.nzColIn
  simp only [ofData, lm, LMat.row, hi, if_true, bind_ok, Iter.enumerate, List.range_eq_range']
  rw [nz_list (fun j => ent d.tr.target i j) d.tr.n 0]

theorem gen_add_row_to_eq (d : Data) (hw : WF d) (i k : Nat) (r : Int) :
    LLLData.add_row_to (ofData d) i k r = mapR ofData (d.addRowTo i k r) := by
  unfold LLLData.add_row_to Data.addRowTo Tr.addRowTo detAt
  unfold WF at hw
  by_cases hik : i < k
  · by_cases hk : k < d.tr.m
    · have him : i < d.tr.m := by omega
      have hid : i < d.det.size := by omega
      have h0 : (mkMat d.tr.m d.tr.m fun a b => if a = k ∧ b = i then ent d.lam k i + r * d.det[i] else ent d.lam a b) =
          addLam d.tr.m d.lam i k r d.det[i] 0 := by
        unfold addLam
        apply mkMat_ext
        intro a b _ _
        by_cases ha : a = k <;> by_cases hb : b = i <;> simp [ha, hb]
      simp only [hik, decide_true, assert_true, LMat.add_row_to, ofData, lm, him, hk, and_self, ↓reduceIte,
        Option.isSome_some, Opt.unwrap, bind_ok, LMat.add_col_to, LVec.get, Array.getD_eq_getD_getElem?, LMat.get, LMat.set,
        Loop.forRange, Nat.sub_zero, hid, getElem?_pos, Option.getD_some, pure_eq, mapR_ok]
      rw [h0]
      have := add_loop d.tr.m d.lam i k r d.det[i] hik hk ⟨d.tr.m, d.tr.n, mAddRowTo d.tr.m d.tr.n d.tr.target i k r⟩
        (some ⟨d.tr.m, d.tr.m, mAddRowTo d.tr.m d.tr.m d.tr.p i k r⟩)
        (some ⟨d.tr.m, d.tr.m, mAddColTo d.tr.m d.tr.m d.tr.pinv k i (-r)⟩) d.det d.step i 0 (by omega)
      simp only [lm] at this
      rw [this]
      simp [addLam]
    · simp only [hik, decide_true, assert_true, LMat.add_row_to, ofData, lm, hk, and_false, ↓reduceIte,
        Option.isSome_some, Opt.unwrap, bind_ok, bind_panic, LMat.add_col_to, LVec.get, Array.getD_eq_getD_getElem?,
        LMat.get, LMat.set, decide_false, assert_false, pure_eq, mapR_panic]
  · simp only [hik, decide_false, assert_false, LMat.add_row_to, ofData, lm, Option.isSome_some, ↓reduceIte,
      Opt.unwrap, bind_ok, LMat.add_col_to, LVec.get, Array.getD_eq_getD_getElem?, LMat.get, LMat.set, bind_assoc,
      bind_panic, pure_eq, mapR_panic]

theorem gen_reduce_eq (d : Data) (hw : WF d) (i k : Nat) :
    LLLData.reduce (ofData d) i k = mapR ofData (d.reduce i k) := by
  unfold LLLData.reduce Data.reduce detAt
  have hw' : d.det.size = d.tr.m := hw
  by_cases hik : i < k
  · by_cases hk : k < d.tr.m
    · have him : i < d.tr.m := by omega
      have hid : i < d.det.size := by omega
      have hl : LMat.get (ofData d).lambda k i = ok (ent d.lam k i) := by simp [ofData, lm, LMat.get, hk, him]
      have hd : LVec.get (ofData d).det i = ok (d.det.getD i 0) := by simp [ofData, LVec.get, hid]
      simp only [hik, hk, hid, decide_true, assert_true, bind_ok, hl, hd, if_true, div_round_eq, pure_eq_ok]
      cases hq : divRound (ent d.lam k i) (d.det.getD i 0) with
      | ok q =>
        by_cases hq0 : q = 0
        · simp [RInt.is_zero, hq0, mapR_ok]
        · simp [RInt.is_zero, hq0, gen_add_row_to_eq d hw]
      | panic => rfl
      | err => rfl
    · simp only [hik, decide_true, assert_true, LMat.get, ofData, lm, hk, false_and, ↓reduceIte, LVec.get,
        Array.getD_eq_getD_getElem?, Bool.not_eq_eq_eq_not, Bool.not_true, bind_panic, bind_ok, decide_false, assert_false,
        pure_eq, ne_eq, ite_not, mapR_panic]
  · simp only [hik, decide_false, assert_false, LMat.get, ofData, lm, LVec.get, Array.getD_eq_getD_getElem?,
      Bool.not_eq_eq_eq_not, Bool.not_true, bind_panic, pure_eq, ne_eq, ite_not, mapR_panic]

theorem gen_swap_eq (d : Data) (hw : WF d) (k : Nat) :
    LLLData.swap (ofData d) k = mapR ofData (d.swap k) := by
  unfold LLLData.swap Data.swap Tr.swapRows detPrev detAt
  have hw' : d.det.size = d.tr.m := hw
  by_cases hk0 : 0 < k
  · by_cases hk : k < d.tr.m
    · have hk1 : k - 1 < d.tr.m := by omega
      have h1k : 1 ≤ k := hk0
      have hkd : k < d.det.size := by omega
      have hk1d : k - 1 < d.det.size := by omega
      have hk2d : k - 2 < d.det.size := by omega
      obtain ⟨L1, h1, hL1⟩ := swap_loop1 d.tr.m d.lam k hk0 hk ⟨d.tr.m, d.tr.n, mSwapRows d.tr.m d.tr.n d.tr.target (k - 1) k⟩
        (some ⟨d.tr.m, d.tr.m, mSwapRows d.tr.m d.tr.m d.tr.p (k - 1) k⟩)
        (some ⟨d.tr.m, d.tr.m, mSwapCols d.tr.m d.tr.m d.tr.pinv (k - 1) k⟩) d.det d.step (k - 1) 0 d.lam (by omega)
        (by intro a b _ _; simp [swapLam1])
      have key : ∀ D0 : Int, _ = _ := fun D0 => swap_tail d.tr.m (swapLam1 d.lam k (k - 1)) k D0 (d.det.getD (k - 1) 0) (d.det.getD k 0) hk0 hk
        ⟨d.tr.m, d.tr.n, mSwapRows d.tr.m d.tr.n d.tr.target (k - 1) k⟩
        (some ⟨d.tr.m, d.tr.m, mSwapRows d.tr.m d.tr.m d.tr.p (k - 1) k⟩)
        (some ⟨d.tr.m, d.tr.m, mSwapCols d.tr.m d.tr.m d.tr.pinv (k - 1) k⟩) d.det hw' d.step L1 hL1
      have fin : ∀ D0 : Int,
          mkMat d.tr.m d.tr.m (swapLamFin (swapLam1 d.lam k (k - 1)) k D0 (d.det.getD (k - 1) 0) (d.det.getD k 0)) =
          mkMat d.tr.m d.tr.m (swapLamFin (ent (mkMat d.tr.m d.tr.m (swapLam1 d.lam k (k - 1)))) k D0
            (d.det.getD (k - 1) 0) (d.det.getD k 0)) := by
        intro D0
        apply mkMat_ext
        intro a b ha hb
        unfold swapLamFin
        rw [ent_mkMat _ hk hk1, ent_mkMat _ ha hk1, ent_mkMat _ ha hk, ent_mkMat _ ha hb]
      simp only [gt_iff_lt, hk0, hk, hk1, decide_true, assert_true, bind_ok, U64.sub, h1k, if_true, ofData, lm,
        LMat.swap_rows, LMat.swap_cols, and_self, Option.isSome_some, Opt.unwrap, Loop.forRange, Nat.sub_zero, h1,
        LVec.get, hkd, hk1d, hk2d, Bool.and_self, pure_eq_ok]
      have e0 : ent (mkMat d.tr.m d.tr.m (swapLam1 d.lam k (k - 1))) k (k - 1) = swapLam1 d.lam k (k - 1) k (k - 1) :=
        ent_mkMat _ hk hk1
      -- the value `d0` read by both sides
      obtain ⟨D0, hg, hm⟩ : ∃ D0 : Int,
          (if decide (k ≥ 2) = true then
              ((if 2 ≤ k then ok (k - 2) else Res.panic) >>= fun rr11 =>
                if rr11 < d.det.size then ok (d.det.getD rr11 0) else Res.panic)
            else ok 1) = ok D0 ∧
          (if k ≥ 2 then ok (d.det.getD (k - 2) 0) else ok 1 : Res Int) = ok D0 := by
        by_cases hk2 : k ≥ 2
        · exact ⟨d.det.getD (k - 2) 0, by simp only [hk2, decide_true, if_true, bind_ok, hk2d],
            by simp only [hk2, if_true]⟩
        · exact ⟨1, by simp only [hk2, decide_false, Bool.false_eq_true, if_false], by simp only [hk2, if_false]⟩
      simp only [hg, hm, bind_ok]
      rw [key, fin, ← e0]
      by_cases hd : d.det.getD (k - 1) 0 = 0
      · have hb : (d.det.getD (k - 1) 0 != 0) = false := by rw [hd]; rfl
        rw [if_pos hd, hb]
        rfl
      · have hb : (d.det.getD (k - 1) 0 != 0) = true := bne_iff_ne.mpr hd
        rw [if_neg hd, hb]
        simp only [mapR_ok, assert_true, bind_ok, ofData, lm]
        rfl
    · simp [hk0, hk, assert_true, assert_false, U64.sub, ofData, lm, LMat.swap_rows, mapR_panic, Nat.one_le_iff_ne_zero, Nat.pos_iff_ne_zero.mp hk0]
  · simp [hk0, assert_false, mapR_panic]

theorem gen_lll_iterate_eq (d : Data) (hw : WF d) :
    LLLCalc.iterate (calcOf d) = mapR calcOf (lllIterate d) := by
  unfold LLLCalc.iterate lllIterate
  by_cases hs : 1 ≤ d.step
  · have e2 : (calcOf d).data = ofData d := rfl
    have e3 : (ofData d).step = d.step := rfl
    simp only [e2, e3, U64.sub, hs, if_true, bind_ok, gen_reduce_eq d hw]
    rw [bind_mapR, mapR_bind]
    refine bind_congr_ok (fun d1 h1 => ?_)
    have hw1 := (reduce_same d d1 _ _ h1).wf hw
    simp only [gen_lovasz_ok_eq d1 hw1]
    rw [mapR_bind]
    refine bind_congr (fun b => ?_)
    cases b
    · simp only [Bool.false_eq_true, if_false, gen_swap_eq d1 hw1]
      rw [bind_mapR, mapR_bind]
      refine bind_congr (fun d2 => ?_)
      simp only [gen_back_eq, bind_ok]
      rfl
    · simp only [if_true, Loop.forRangeRev, Nat.sub_zero]
      generalize d.step = k
      have := revLoop_eq calcOf (LLLCalc.iterate_rfor1 k) (fun d i => d.reduce i k)
        (fun i d hw => by
          unfold LLLCalc.iterate_rfor1
          show (LLLData.reduce (ofData d) i _ >>= _) = _
          rw [gen_reduce_eq d hw, bind_mapR]
          generalize d.reduce i k = x
          cases x <;> rfl)
        (fun d i d' h => reduce_same d d' i _ h) (k - 1) d1 hw1
      show (Loop.forRangeRev.go 0 _ _ (calcOf d1) >>= _) = _
      rw [this, bind_mapR, mapR_bind]
      refine bind_congr (fun d2 => ?_)
      rfl
  · have : d.step = 0 := by omega
    have e1 : (calcOf d).data.step = 0 := this
    simp [e1, this, U64.sub, Data.reduce, assert_false, mapR_panic]

/-- generated fuel `fuel + 1` = model fuel `fuel` (the generated loop tests the fuel before the loop condition) -/
theorem gen_lll_process_eq (fuel : Nat) (d : Data) (hw : WF d) (h : loopWhile lllIterate fuel d ≠ err) :
    LLLCalc.process (fuel + 1) (calcOf d) =
      if d.step = 1 then mapR calcOf (loopWhile lllIterate fuel d) else Res.panic := by
  unfold LLLCalc.process
  have e1 : (calcOf d).data.step = d.step := rfl
  by_cases hs : d.step = 1
  · simp only [e1, hs, decide_true, assert_true, bind_ok, if_true]
    exact loopWhile_eq calcOf (fun s => s.data.step) (fun _ => rfl) LLLCalc.process_loop1 LLLCalc.iterate lllIterate
      (fun f m s => by rw [LLLCalc.process_loop1]; simp) gen_lll_iterate_eq lllIterate_same fuel d hw h
  · simp [e1, hs, assert_false]

/-- conversely, whenever the generated `process` does not run out of fuel -/
theorem gen_lll_process_eq' (fuel : Nat) (d : Data) (hw : WF d) (hs : d.step = 1)
    (h : LLLCalc.process fuel (calcOf d) ≠ err) :
    LLLCalc.process fuel (calcOf d) = mapR calcOf (loopWhile lllIterate fuel d) := by
  unfold LLLCalc.process at h ⊢
  have e1 : (calcOf d).data.step = d.step := rfl
  simp only [e1, hs, decide_true, assert_true, bind_ok] at h ⊢
  exact loopWhile_eq' calcOf (fun s => s.data.step) (fun _ => rfl) LLLCalc.process_loop1 LLLCalc.iterate lllIterate
    (fun m s => by rw [LLLCalc.process_loop1]) (fun f m s => by rw [LLLCalc.process_loop1]; simp)
    gen_lll_iterate_eq lllIterate_same fuel d hw h

theorem gen_lll_result_eq (d : Data) :
    LLLCalc.result (calcOf d) = (lm d.tr.m d.tr.n d.tr.target, some (lm d.tr.m d.tr.m d.tr.p)) := rfl

/-- `if !u.is_one() { self.data.mul_row(i, &u) }` (in `reduce` and at the end of `process`) -/
theorem gen_mul_row_if_eq (d : Data) (i : Nat) (u : Int) :
    (if (!(RInt.is_one u)) = true then (LLLData.mul_row (ofData d) i u >>= fun r => ok (⟨r⟩ : LLLHNFCalcS)) else ok (hnfOf d)) =
      mapR hnfOf (d.mulRowIf i u) := by
  unfold Data.mulRowIf
  by_cases hu : u = 1
  · simp [RInt.is_one, hu]; rfl
  · simp only [RInt.is_one, hu, decide_false, Bool.not_false, if_true, ne_eq, not_false_eq_true, gen_mul_row_eq, bind_mapR]
    generalize d.mulRow i u = x
    cases x <;> rfl

theorem gen_hnf_reduce_eq (d : Data) (hw : WF d) (i k : Nat) :
    LLLHNFCalc.reduce (hnfOf d) i k = mapR hnfOf (hnfReduce d i k) := by
  unfold LLLHNFCalc.reduce hnfReduce
  have e2 : (hnfOf d).data = ofData d := rfl
  by_cases hik : i < k
  · by_cases him : i < d.tr.m
    · simp only [hik, decide_true, assert_true, bind_ok, e2, gen_nz_col_in_eq d i him]
      cases hj : d.nzColIn i with
      | none =>
        simp only [Option.isSome_none, Bool.false_eq_true, if_false, gen_reduce_eq d hw, bind_mapR]
        by_cases hk : k < d.tr.m
        · simp only [hk, decide_true, assert_true, bind_ok]
          generalize d.reduce i k = x
          cases x <;> rfl
        · simp [hk, assert_false, Data.reduce, hik, mapR_panic]
          rfl
      | some j =>
        have hjn := nzColIn_lt hj
        simp only [Option.isSome_some, if_true, Opt.unwrap, bind_ok, get_target d him hjn]
        by_cases hk : k < d.tr.m
        · simp only [hk, decide_true, assert_true, bind_ok]
          rw [gen_mul_row_if_eq, norm_unit_eq, bind_mapR, mapR_bind]
          refine bind_congr_ok (fun d1 h1 => ?_)
          have h1 := mulRowIf_same h1
          have hw1 := h1.wf hw
          have e3 : (hnfOf d1).data = ofData d1 := rfl
          have g1 := get_target d1 (i := i) (j := j) (by rw [h1.1]; exact him) (by rw [h1.2.1]; exact hjn)
          have g2 := get_target d1 (i := k) (j := j) (by rw [h1.1]; exact hk) (by rw [h1.2.1]; exact hjn)
          simp only [e3, g1, g2, bind_ok, div_round_eq]
          rw [mapR_bind]
          refine bind_congr (fun q => ?_)
          by_cases hq : q = 0
          · simp [RInt.is_zero, hq, mapR_ok]
          · simp only [RInt.is_zero, hq, decide_false, Bool.not_false, if_true, ne_eq, not_false_eq_true,
              gen_add_row_to_eq d1 hw1, bind_mapR]
            generalize d1.addRowTo i k (-q) = x
            cases x <;> rfl
        · simp only [hk, decide_false, assert_false]
          rw [norm_unit_eq]
          by_cases ha : ent d.tr.target i j < 0
          · obtain ⟨d1, hd1⟩ := Data.mulRow_isOk d (u := -1) (Or.inr rfl) him
            have hm1 : d1.tr.m = d.tr.m := (Data.mulRow_spec hd1).2.2.2.tr.m
            have hk1 : ¬ k < d1.tr.m := by rw [hm1]; exact hk
            have : (!RInt.is_one (-1 : Int)) = true := by decide
            simp only [ha, if_true, this, gen_mul_row_eq, hd1, mapR_ok, bind_ok]
            simp only [ofData, lm, LMat.get, hk1, false_and, if_false]
            by_cases hc : i < d1.tr.m ∧ j < d1.tr.n
            · simp only [hc, and_self, if_true]; rfl
            · simp only [hc, if_false]; rfl
          · simp [ha, RInt.is_one, hnfOf, ofData, lm, LMat.get, hk, hjn, him]
            rfl
    · have hk : ¬ k < d.tr.m := by omega
      simp [hik, him, hk, assert_true, assert_false, e2, LLLData.nz_col_in, ofData, lm, LMat.row, mapR_panic]
  · simp [hik, assert_false, mapR_panic]

/-- the model's `hnfIsOk` does not panic on a row index `k ≥ m` (`nz_col_in(k)` does); inside `iterate` this is
unreachable: `reduce(k-1, k)` has panicked before -/
theorem gen_hnf_is_ok_eq (d : Data) (hw : WF d) (k : Nat) (hk : k < d.tr.m) :
    LLLHNFCalc.is_ok (hnfOf d) k = hnfIsOk d k := by
  unfold LLLHNFCalc.is_ok hnfIsOk
  have e2 : (hnfOf d).data = ofData d := rfl
  by_cases hk0 : 0 < k
  · have h1k : 1 ≤ k := hk0
    have hk1 : k - 1 < d.tr.m := by omega
    simp only [gt_iff_lt, hk0, decide_true, assert_true, bind_ok, U64.sub, h1k, if_true, e2,
      gen_nz_col_in_eq d _ hk1, gen_nz_col_in_eq d _ hk, gen_lovasz_ok_eq d hw]
    cases d.nzColIn (k - 1) <;> cases d.nzColIn k <;> simp
    all_goals rfl
  · simp [hk0, assert_false]

theorem gen_hnf_iterate_eq (d : Data) (hw : WF d) :
    LLLHNFCalc.iterate (hnfOf d) = mapR hnfOf (hnfIterate d) := by
  unfold LLLHNFCalc.iterate hnfIterate
  by_cases hs : 1 ≤ d.step
  · have e1 : (hnfOf d).data.step = d.step := rfl
    simp only [e1, U64.sub, hs, if_true, bind_ok, gen_hnf_reduce_eq d hw]
    rw [bind_mapR, mapR_bind]
    refine bind_congr_ok (fun d1 h1 => ?_)
    have h1 := hnfReduce_same d d1 _ _ h1
    have hw1 := h1.1.wf hw
    have e3 : (hnfOf d1).data = ofData d1 := rfl
    rw [gen_hnf_is_ok_eq d1 hw1 d.step (by rw [h1.1.1]; exact h1.2), mapR_bind]
    refine bind_congr (fun b => ?_)
    cases b
    · simp only [Bool.false_eq_true, if_false, e3, gen_swap_eq d1 hw1]
      rw [bind_mapR, mapR_bind]
      refine bind_congr (fun d2 => ?_)
      simp only [gen_back_eq, bind_ok]
      rfl
    · simp only [if_true, Loop.forRangeRev, Nat.sub_zero]
      generalize d.step = k
      have := revLoop_eq hnfOf (LLLHNFCalc.iterate_rfor1 k) (fun d i => hnfReduce d i k)
        (fun i d hw => by
          unfold LLLHNFCalc.iterate_rfor1
          exact gen_hnf_reduce_eq d hw i k)
        (fun d i d' h => (hnfReduce_same d d' i _ h).1) (k - 1) d1 hw1
      show (Loop.forRangeRev.go 0 _ _ (hnfOf d1) >>= _) = _
      rw [this, bind_mapR, mapR_bind]
      refine bind_congr (fun d2 => ?_)
      rfl
  · have : d.step = 0 := by omega
    have e1 : (hnfOf d).data.step = 0 := this
    simp [e1, this, U64.sub, hnfReduce, assert_false, mapR_panic]

theorem gen_hnf_process_eq (fuel : Nat) (d : Data) (hw : WF d) (h : loopWhile hnfIterate fuel d ≠ err) :
    LLLHNFCalc.process (fuel + 1) (hnfOf d) =
      if 0 < d.step then mapR hnfOf (loopWhile hnfIterate fuel d >>= hnfNormalizeLast) else Res.panic := by
  unfold LLLHNFCalc.process
  have e1 : (hnfOf d).data.step = d.step := rfl
  have e2 : LLLData.nrows (hnfOf d).data = d.tr.m := rfl
  by_cases hs : 0 < d.step
  · have := loopWhile_eq hnfOf (fun s => s.data.step) (fun _ => rfl) LLLHNFCalc.process_loop1 LLLHNFCalc.iterate hnfIterate
      (fun f m s => by rw [LLLHNFCalc.process_loop1]; simp) gen_hnf_iterate_eq hnfIterate_same fuel d hw h
    simp only [gt_iff_lt, e1, e2, hs, decide_true, assert_true, bind_ok, if_true, this]
    rw [bind_mapR, mapR_bind]
    refine bind_congr_ok (fun d1 h1 => ?_)
    have h1 := loopWhile_same _ hnfIterate_same fuel d d1 h1
    have hw1 := h1.wf hw
    rw [← h1.1]
    unfold hnfNormalizeLast
    have e3 : (hnfOf d1).data = ofData d1 := rfl
    by_cases hm : 0 < d1.tr.m
    · have h1m : 1 ≤ d1.tr.m := hm
      have hi : d1.tr.m - 1 < d1.tr.m := by omega
      simp only [hm, decide_true, if_true, U64.sub, h1m, bind_ok, e3, gen_nz_col_in_eq d1 _ hi]
      cases hj : d1.nzColIn (d1.tr.m - 1) with
      | none => rfl
      | some j =>
        have hjn := nzColIn_lt hj
        simp only [Option.isSome_some, if_true, Opt.unwrap, bind_ok, get_target d1 hi hjn]
        rw [gen_mul_row_if_eq, norm_unit_eq]
    · simp [hm]; rfl
  · simp [e1, hs, assert_false]

theorem gen_hnf_result_eq (d : Data) :
    LLLHNFCalc.result (hnfOf d) = mapR trOut (reverseRows d.tr (d.tr.m / 2) 0) := by
  unfold LLLHNFCalc.result
  have e2 : LLLData.nrows (hnfOf d).data = d.tr.m := rfl
  have e3 : LLLData.result (hnfOf d).data = trOut d.tr := rfl
  simp only [e2, e3, Loop.forRange, Nat.sub_zero]
  have := reverse_loop (d.tr.m / 2) 0 d.tr (by omega)
  simp only [trOut] at this ⊢
  rw [this, bind_mapR]
  generalize reverseRows d.tr (d.tr.m / 2) 0 = x
  cases x <;> rfl

set_option linter.unusedVariables false in
/-- conversely, whenever the generated `process` does not run out of fuel -/
theorem gen_hnf_process_eq' (fuel : Nat) (d : Data) (hw : WF d) (hs : 0 < d.step)
    (h : LLLHNFCalc.process_loop1 fuel d.tr.m (hnfOf d) ≠ err) :
    LLLHNFCalc.process_loop1 fuel d.tr.m (hnfOf d) = mapR hnfOf (loopWhile hnfIterate fuel d) :=
  loopWhile_eq' hnfOf (fun s => s.data.step) (fun _ => rfl) LLLHNFCalc.process_loop1 LLLHNFCalc.iterate hnfIterate
    (fun m s => by rw [LLLHNFCalc.process_loop1]) (fun f m s => by rw [LLLHNFCalc.process_loop1]; simp)
    gen_hnf_iterate_eq hnfIterate_same fuel d hw h

example : WF (Data.new 2 2 #[#[1, 2], #[3, 4]]) := by show Array.size _ = _; decide
example : (Data.new 2 2 #[#[1, 2], #[3, 4]]).step = 1 := rfl
def notErr {α : Type} : Res α → Bool
  | .err => false
  | _ => true
example : loopWhile hnfIterate 20 (Data.new 2 2 #[#[1, 2], #[3, 4]]) ≠ err := by
  intro h
  have : notErr (loopWhile hnfIterate 20 (Data.new 2 2 #[#[1, 2], #[3, 4]])) = true := by decide +kernel
  rw [h] at this
  cases this
example : ((Data.new 2 2 #[#[1, 2], #[3, 4]]).setup >>= loopWhile lllIterate 20) ≠ err := by
  intro h
  have : notErr ((Data.new 2 2 #[#[1, 2], #[3, 4]]).setup >>= loopWhile lllIterate 20) = true := by decide +kernel
  rw [h] at this
  cases this

end Yuiv.C10Gen
