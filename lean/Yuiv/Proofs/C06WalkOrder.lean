import Yuiv.Proofs.C06CycleCirc
import Yuiv.Proofs.KhSpecSort
/-
C06Walk — the ORDER in which `KhRef.circles` lists its output.  `edgeLabels l` is strictly increasing (core `Array.qsort`
sorts + no duplicates), so it is determined by the set of labels (`edgeLabels_eq_of_perm`); the component array of
`unionAll` never points upwards (`C04Inv.LeInv`, `Proofs/KhRefCircles.lean`), so a root is the LEAST index of its class;
hence every circle is strictly increasing and the circles are listed by strictly increasing first (= least) label
(`circles_sorted`).  Well-formedness of `l` is not needed.
-/
namespace Yuiv.C06Walk
open Yuiv Yuiv.KhRef Yuiv.C04Inv Yuiv.C06Cycle

theorem edgeLabels_sorted (l : Link) : (edgeLabels l).toList.Pairwise (· < ·) := by
  have hle : (edgeLabels l).toList.Pairwise (fun a b => a ≤ b) := by
    rw [edgeLabels_eq]
    exact KhSpec.qsort_sorted_key (fun a : Nat => a) (preLabels l)
  have hnd : (edgeLabels l).toList.Pairwise (· ≠ ·) := edgeLabels_nodup l
  exact (hle.and hnd).imp (fun h => Nat.lt_of_le_of_ne h.1 h.2)

/-- sorting by a key returns THE listing of the elements that is strictly increasing in the key -/
theorem qsort_eq_of_perm {α : Type} (key : α → Nat) {as : Array α} {B : List α} (hp : as.toList.Perm B)
    (hB : B.Pairwise (fun x y => key x < key y)) : (as.qsort (fun x y => key x < key y)).toList = B := by
  have hq : (as.qsort (fun x y => key x < key y)).toList.Perm B := (qsort_perm as _).toList.trans hp
  refine hq.eq_of_pairwise (le := fun x y => key x ≤ key y) ?_ (KhSpec.qsort_sorted_key key as)
    (hB.imp Nat.le_of_lt)
  -- the key is injective on `B`
  intro a b ha hb h1 h2
  exact List.inj_on_of_nodup_map (List.pairwise_map.2 (hB.imp Nat.ne_of_lt)) (hq.mem_iff.1 ha) hb
    (Nat.le_antisymm h1 h2)

theorem edgeLabels_eq_of_perm (l : Link) (xs : List Nat) (hs : xs.Pairwise (· < ·))
    (hp : (preLabels l).toList.Perm xs) : edgeLabels l = xs.toArray := by
  apply Array.toList_inj.1
  rw [edgeLabels_eq]
  exact qsort_eq_of_perm (fun a => a) hp hs

theorem getElem!_lt_of_sorted {labels : Array Nat} (hs : labels.toList.Pairwise (· < ·)) {x y : Nat}
    (hxy : x < y) (hy : y < labels.size) : labels[x]! < labels[y]! := by
  have hx : x < labels.size := by omega
  rw [getElem!_pos labels x hx, getElem!_pos labels y hy]
  have := (List.pairwise_iff_getElem.mp hs) x y (by simpa using hx) (by simpa using hy) hxy
  simpa using this

theorem range'_sorted (n : Nat) : (List.range' 0 n).Pairwise (· < ·) :=
  List.pairwise_lt_range' (s := 0) (n := n) (step := 1) (by omega)

theorem circL_sorted {labels : Array Nat} (hs : labels.toList.Pairwise (· < ·)) (comp : Array Nat) (r : Nat) :
    (circL labels comp r).Pairwise (· < ·) := by
  unfold circL
  rw [List.pairwise_map]
  have h1 : ((List.range' 0 labels.size).filter (fun x => decide (comp[x]! = r))).Pairwise
      (fun a b => a < b ∧ b < labels.size) := by
    apply List.Pairwise.filter
    have h2 := range'_sorted labels.size
    have h3 : (List.range' 0 labels.size).Pairwise (fun _ b => b < labels.size) := by
      rw [List.pairwise_iff_forall_sublist]
      intro a b hab
      have : b ∈ List.range' 0 labels.size := hab.subset (by simp)
      simpa [List.mem_range'] using this
    exact h2.and h3
  exact h1.imp (fun h => getElem!_lt_of_sorted hs h.1 h.2)

theorem head_of_least {l : List Nat} {a : Nat} (hs : l.Pairwise (· < ·)) (ha : a ∈ l) (hle : ∀ x ∈ l, a ≤ x) :
    ∃ t, l = a :: t := by
  cases l with
  | nil => cases ha
  | cons b t =>
    rcases List.mem_cons.1 ha with rfl | h
    · exact ⟨t, rfl⟩
    · have h1 := (List.pairwise_cons.1 hs).1 a h
      have h2 := hle b List.mem_cons_self
      omega

/-- a root is the least index of its class (`LeInv`), so its label heads the circle -/
theorem circL_head {labels comp : Array Nat} {r : Nat} (hle : LeInv comp labels.size) (hr : r < labels.size)
    (hcr : comp[r]! = r) : ∃ t, circL labels comp r = labels[r]! :: t := by
  obtain ⟨t, ht⟩ := head_of_least ((range'_sorted labels.size).filter (fun x => decide (comp[x]! = r)))
    (List.mem_filter.2 ⟨List.mem_range'_1.2 ⟨Nat.zero_le r, by omega⟩, decide_eq_true hcr⟩)
    (fun x hx => by
      obtain ⟨h1, h2⟩ := List.mem_filter.1 hx
      have h3 := hle x (by have := (List.mem_range'_1.1 h1).2; omega)
      rw [of_decide_eq_true h2] at h3
      exact h3)
  exact ⟨t.map (fun x => labels[x]!), by rw [circL, ht, List.map_cons]⟩

theorem roots_sorted (comp : Array Nat) (m : Nat) : (roots comp m).Pairwise (· < ·) :=
  (range'_sorted m).filter _

theorem out_sorted {labels comp : Array Nat} (hs : labels.toList.Pairwise (· < ·)) (hle : LeInv comp labels.size)
    (cs : Array (Array Nat))
    (hcs : cs = ((roots comp labels.size).map (fun r => (circL labels comp r).toArray)).toArray) :
    (∀ i, i < cs.size → (cs[i]!).toList.Pairwise (· < ·)) ∧
    (∀ i j, i < j → j < cs.size → (cs[i]!)[0]! < (cs[j]!)[0]!) := by
  have hsz : cs.size = (roots comp labels.size).length := by rw [hcs]; simp
  have hget : ∀ i (hi : i < (roots comp labels.size).length),
      cs[i]! = (circL labels comp (roots comp labels.size)[i]).toArray := by
    intro i hi
    rw [getElem!_pos cs i (by omega)]
    subst hcs
    simp
  have hhead : ∀ i (hi : i < (roots comp labels.size).length),
      (cs[i]!)[0]! = labels[(roots comp labels.size)[i]]! := by
    intro i hi
    obtain ⟨hr, hcr⟩ := (mem_roots _ _ _).mp (List.getElem_mem hi)
    obtain ⟨t, ht⟩ := circL_head hle hr hcr
    rw [hget i hi, ht]
    simp
  refine ⟨?_, ?_⟩
  · intro i hi
    rw [hsz] at hi
    rw [hget i hi]
    exact circL_sorted hs comp _
  · intro i j hij hj
    rw [hsz] at hj
    have hi : i < (roots comp labels.size).length := by omega
    rw [hhead i hi, hhead j hj]
    have hlt : (roots comp labels.size)[i] < (roots comp labels.size)[j] :=
      (List.pairwise_iff_getElem.mp (roots_sorted comp labels.size)) i j hi hj hij
    exact getElem!_lt_of_sorted hs hlt ((mem_roots _ _ _).mp (List.getElem_mem hj)).1

theorem circles_sorted (l : Link) (s : Nat) :
    (∀ i, i < (circles l (edgeLabels l) s).size →
      ((circles l (edgeLabels l) s)[i]!).toList.Pairwise (· < ·)) ∧
    (∀ i j, i < j → j < (circles l (edgeLabels l) s).size →
      ((circles l (edgeLabels l) s)[i]!)[0]! < ((circles l (edgeLabels l) s)[j]!)[0]!) :=
  out_sorted (edgeLabels_sorted l) (leInv_unionAll l (edgeLabels l) s) _ (C04Inv.circles_eq l (edgeLabels l) s)

end Yuiv.C06Walk
