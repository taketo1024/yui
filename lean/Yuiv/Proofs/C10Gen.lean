import Yuiv.Gen.LllFn
import Yuiv.Proofs.C10Spec
/-
`Yuiv.GenLll.*` is GENERATED from `/repo/yui-matrix/src/dense/lll.rs` by `tools/rs2lean_fn.py fn:lll`; `Yuiv.C10.*` is the
hand-written model over ℤ (`Data` = `Tr` (sizes, target, p, pinv) + `det` + `lam` + `step`; `p`/`pinv` always tracked).
`ofData` embeds a model state into the generated struct; the invariant `WF` says that `det` has one entry per row
(what `LLLData::new` establishes) — it is what makes the `Vec` index panics of the source agree with the model's.
-/
namespace Yuiv.C10Gen
open Yuiv Res Yuiv.Rust Yuiv.GenLll Yuiv.C10

def lm (r c : Nat) (a : C10.Mat) : LMat := ⟨r, c, a⟩

def ofData (d : Data) : LLLDataS :=
  ⟨lm d.tr.m d.tr.n d.tr.target, some (lm d.tr.m d.tr.m d.tr.p), some (lm d.tr.m d.tr.m d.tr.pinv), d.det,
   lm d.tr.m d.tr.m d.lam, d.step⟩

def WF (d : Data) : Prop := d.det.size = d.tr.m

def mapR {β γ} (f : β → γ) : Res β → Res γ
  | .ok a => .ok (f a)
  | .panic => .panic
  | .err => .err

theorem mapR_ok {β γ} (f : β → γ) (a : β) : mapR f (ok a) = ok (f a) := rfl
theorem mapR_panic {β γ} (f : β → γ) : mapR f (.panic : Res β) = .panic := rfl
theorem mapR_err {β γ} (f : β → γ) : mapR f (.err : Res β) = .err := rfl
theorem assert_true : Res.assert true = ok () := rfl
theorem assert_false : Res.assert false = (.panic : Res Unit) := rfl
theorem pure_eq_ok {β} (a : β) : (pure a : Res β) = ok a := rfl

theorem mkMat_ext {m n : Nat} (f g : Nat → Nat → Int) (h : ∀ i j, i < m → j < n → f i j = g i j) :
    mkMat m n f = mkMat m n g := by
  unfold mkMat
  congr 1
  funext i
  congr 1
  funext j
  exact h i.1 j.1 i.2 j.2

theorem sub_ok {a b : Nat} (h : b ≤ a) : U64.sub a b = ok (a - b) := by simp [U64.sub, h]

theorem get_det (d : Data) (i : Nat) : LVec.get (ofData d).det i = detAt d i := rfl

/-- `if k >= 2 { &d[k - 2] } else { &one }` -/
theorem get_detPrev (d : Data) (k : Nat) :
    (if decide (k ≥ 2) = true then (U64.sub k 2 >>= fun r => detAt d r) else Res.ok 1) = detPrev d k := by
  unfold detPrev
  by_cases h : k ≥ 2
  · simp only [h, decide_true, if_true, sub_ok h, bind_ok]
  · simp only [h, decide_false, Bool.false_eq_true, if_false, pure_eq_ok]

theorem get_lam (d : Data) {i j : Nat} (hi : i < d.tr.m) (hj : j < d.tr.m) :
    LMat.get (ofData d).lambda i j = ok (ent d.lam i j) := by
  simp [ofData, lm, LMat.get, hi, hj]

/-! ### `nz_col_in`: `enumerate().filter_map(..).next()` is `find?` over the column indices -/

theorem nz_list (g : Nat → Int) : ∀ (len b : Nat),
    List.head? (List.filterMap LLLData.nz_col_in_closure1 (Iter.enumerateFrom b ((List.range' b len).map g))) =
      (List.range' b len).find? (fun j => g j != 0) := by
  intro len
  induction len with
  | zero => intro b; rfl
  | succ len ih =>
    intro b
    simp only [List.range'_succ, List.map_cons, Iter.enumerateFrom, List.filterMap_cons, List.find?_cons]
    by_cases h : g b = 0
    · simp [LLLData.nz_col_in_closure1, RInt.is_zero, h, ih]
    · have hb : (g b != 0) = true := by simp [h]
      simp [LLLData.nz_col_in_closure1, RInt.is_zero, h, hb]

theorem div_round_eq (a b : Int) : RInt.div_round a b = C10.divRound a b := by
  unfold RInt.div_round C10.divRound RInt.div RInt.rem
  by_cases hb : b = 0
  · simp [hb]
  · simp only [hb, if_false, bind_ok, RInt.is_positive, RInt.is_negative, decide_eq_true_eq, pure_eq_ok]
    by_cases h1 : (if 0 < a.tmod b then -a.tmod b else a.tmod b) ≤ (if 0 < b then -b else b) - (if 0 < a.tmod b then -a.tmod b else a.tmod b)
    · by_cases h2 : decide (a < 0) = decide (b < 0) <;> simp [h1, h2]
    · simp [h1]

theorem div_eq (a b : Int) : RInt.div a b = C10.idiv a b := rfl

/-- `lambda` after the update of `(k, i)` and `j` iterations of the loop -/
def addLam (m : Nat) (lam : Mat) (i k : Nat) (r di : Int) (j : Nat) : Mat :=
  mkMat m m fun a b =>
    if a = k then
      if b = i then ent lam k i + r * di
      else if b < j then ent lam k b + r * ent lam i b
      else ent lam a b
    else ent lam a b

theorem add_step (m : Nat) (lam : Mat) (i k : Nat) (r di : Int) (j : Nat) (hik : i < k) (hk : k < m) (hj : j < i)
    (T : LMat) (P Pi : Option LMat) (det : Array Int) (st : Nat) :
    LLLData.add_row_to_for1 i k r j ⟨T, P, Pi, det, lm m m (addLam m lam i k r di j), st⟩ =
      ok (Ctl.next ⟨T, P, Pi, det, lm m m (addLam m lam i k r di (j + 1)), st⟩) := by
  have him : i < m := by omega
  have hjm : j < m := by omega
  have hne : i ≠ k := by omega
  have hji : j ≠ i := by omega
  unfold LLLData.add_row_to_for1
  simp only [lm, LMat.get, LMat.set, him, hjm, hk, and_self, if_true, bind_ok, ok.injEq, Ctl.next.injEq,
    LLLDataS.mk.injEq, LMat.mk.injEq, true_and]
  refine ⟨?_, trivial⟩
  unfold addLam
  apply mkMat_ext
  intro a b ha hb
  rw [ent_mkMat _ ha hb, ent_mkMat _ him hjm, ent_mkMat _ hk hjm]
  by_cases hak : a = k
  · subst hak
    by_cases hbj : b = j
    · subst hbj
      simp [hne, hji]
    · by_cases hbi : b = i
      · subst hbi
        have : ¬ b = j := hbj
        simp [hbj]
      · have : (b < j + 1) = (b < j) := by apply propext; omega
        simp [hbj, hbi, this]
  · simp [hak]

theorem add_loop (m : Nat) (lam : Mat) (i k : Nat) (r di : Int) (hik : i < k) (hk : k < m)
    (T : LMat) (P Pi : Option LMat) (det : Array Int) (st : Nat) : ∀ (c j : Nat), j + c = i →
    Loop.forGo (LLLData.add_row_to_for1 i k r) c j ⟨T, P, Pi, det, lm m m (addLam m lam i k r di j), st⟩ =
      ok (⟨T, P, Pi, det, lm m m (addLam m lam i k r di i), st⟩, true) := by
  intro c
  induction c with
  | zero => intro j h; have : j = i := by omega
            subst this; rfl
  | succ c ih =>
    intro j h
    unfold Loop.forGo
    rw [add_step m lam i k r di j hik hk (by omega)]
    exact ih (j + 1) (by omega)

def entEq (m : Nat) (L : Mat) (f : Nat → Nat → Int) : Prop := ∀ a b, a < m → b < m → ent L a b = f a b

/-- `lambda` after `j` iterations of the first loop (columns `< j` of the rows `k-1`, `k` exchanged) -/
def swapLam1 (lam : Mat) (k j : Nat) : Nat → Nat → Int := fun a b =>
  if b < j then ent lam (if a = k - 1 then k else if a = k then k - 1 else a) b else ent lam a b

/-- `lambda` after the rows `k < a < i` were updated by the second loop -/
def swapLam2 (f1 : Nat → Nat → Int) (k : Nat) (d0 d1 d2 : Int) (i : Nat) : Nat → Nat → Int := fun a b =>
  if k < a ∧ a < i then
    if b = k - 1 then (f1 k (k - 1) * f1 a (k - 1) + f1 a k * d0).tdiv d1
    else if b = k then (f1 a (k - 1) * d2 - f1 a k * f1 k (k - 1)).tdiv d1
    else f1 a b
  else f1 a b

theorem swap_step1 (m : Nat) (lam : Mat) (k j : Nat) (hk0 : 0 < k) (hk : k < m) (hj : j < k - 1)
    (T : LMat) (P Pi : Option LMat) (det : Array Int) (st : Nat) (L : Mat) (hL : entEq m L (swapLam1 lam k j)) :
    ∃ L', LLLData.swap_for1 k j ⟨T, P, Pi, det, ⟨m, m, L⟩, st⟩ = ok (Ctl.next ⟨T, P, Pi, det, ⟨m, m, L'⟩, st⟩) ∧
      entEq m L' (swapLam1 lam k (j + 1)) := by
  have hjm : j < m := by omega
  have hk1 : k - 1 < m := by omega
  have h1k : 1 ≤ k := hk0
  refine ⟨mkMat m m fun x y => if y = j then ent L (if x = k - 1 then k else if x = k then k - 1 else x) y else ent L x y,
    ?_, ?_⟩
  · unfold LLLData.swap_for1
    simp only [U64.sub, h1k, if_true, bind_ok, LMat.col_swap_rows, hjm, hk, hk1, and_self]
  · intro a b ha hb
    rw [ent_mkMat _ ha hb]
    by_cases hbj : b = j
    · subst hbj
      have hx : (if a = k - 1 then k else if a = k then k - 1 else a) < m := by
        split
        · exact hk
        · split
          · exact hk1
          · exact ha
      rw [if_pos rfl, hL _ _ hx hb]
      simp [swapLam1]
    · rw [if_neg hbj, hL _ _ ha hb]
      have : (b < j + 1) = (b < j) := by apply propext; omega
      simp [swapLam1, this]

theorem swap_loop1 (m : Nat) (lam : Mat) (k : Nat) (hk0 : 0 < k) (hk : k < m)
    (T : LMat) (P Pi : Option LMat) (det : Array Int) (st : Nat) : ∀ (c j : Nat) (L : Mat), j + c = k - 1 →
    entEq m L (swapLam1 lam k j) →
    ∃ L', Loop.forGo (LLLData.swap_for1 k) c j ⟨T, P, Pi, det, ⟨m, m, L⟩, st⟩ = ok (⟨T, P, Pi, det, ⟨m, m, L'⟩, st⟩, true) ∧
      entEq m L' (swapLam1 lam k (k - 1)) := by
  intro c
  induction c with
  | zero =>
    intro j L h hL
    have : j = k - 1 := by omega
    subst this
    exact ⟨L, rfl, hL⟩
  | succ c ih =>
    intro j L h hL
    obtain ⟨L1, h1, hL1⟩ := swap_step1 m lam k j hk0 hk (by omega) T P Pi det st L hL
    obtain ⟨L2, h2, hL2⟩ := ih (j + 1) L1 (by omega) hL1
    refine ⟨L2, ?_, hL2⟩
    unfold Loop.forGo
    rw [h1]
    exact h2

theorem swap_step2 (m : Nat) (f1 : Nat → Nat → Int) (k i : Nat) (d0 d1 d2 : Int) (hk0 : 0 < k) (hki : k < i) (him : i < m)
    (hd : d1 ≠ 0) (T : LMat) (P Pi : Option LMat) (det : Array Int) (st : Nat) (L : Mat)
    (hL : entEq m L (swapLam2 f1 k d0 d1 d2 i)) :
    ∃ L', LLLData.swap_for2 k d0 d1 d2 i ⟨T, P, Pi, det, ⟨m, m, L⟩, st⟩ = ok (Ctl.next ⟨T, P, Pi, det, ⟨m, m, L'⟩, st⟩) ∧
      entEq m L' (swapLam2 f1 k d0 d1 d2 (i + 1)) := by
  have hk : k < m := by omega
  have hk1 : k - 1 < m := by omega
  have h1k : 1 ≤ k := hk0
  have e0 : ent L k (k - 1) = f1 k (k - 1) := by rw [hL _ _ hk hk1]; simp [swapLam2]
  have e1 : ent L i (k - 1) = f1 i (k - 1) := by rw [hL _ _ him hk1]; simp [swapLam2]
  have e2 : ent L i k = f1 i k := by rw [hL _ _ him hk]; simp [swapLam2]
  refine ⟨mkMat m m fun a b =>
      if a = i ∧ b = k then (ent L i (k - 1) * d2 - ent L i k * ent L k (k - 1)).tdiv d1
      else ent (mkMat m m fun a b =>
        if a = i ∧ b = k - 1 then (RInt.conj (ent L k (k - 1)) * ent L i (k - 1) + ent L i k * d0).tdiv d1 else ent L a b) a b,
    ?_, ?_⟩
  · unfold LLLData.swap_for2
    simp only [U64.sub, h1k, if_true, bind_ok, LMat.get, LMat.set, hk, hk1, him, and_self, RInt.div, hd, if_false]
  · intro a b ha hb
    rw [ent_mkMat _ ha hb]
    by_cases hai : a = i
    · subst hai
      have hka : k < a ∧ a < a + 1 := ⟨hki, by omega⟩
      by_cases hbk : b = k
      · subst hbk
        have : ¬ b = b - 1 := by omega
        simp [swapLam2, hka, this, e0, e1, e2]
      · by_cases hbk1 : b = k - 1
        · subst hbk1
          rw [if_neg (by simp [hbk]), ent_mkMat _ ha hb]
          simp [swapLam2, hka, e0, e1, e2, RInt.conj]
        · rw [if_neg (by simp [hbk]), ent_mkMat _ ha hb, if_neg (by simp [hbk1]), hL _ _ ha hb]
          simp [swapLam2, hka, hbk, hbk1]
    · rw [if_neg (by simp [hai]), ent_mkMat _ ha hb, if_neg (by simp [hai]), hL _ _ ha hb]
      have : (a < i + 1) = (a < i) := by apply propext; omega
      simp [swapLam2, this]

theorem swap_step2_zero (m : Nat) (k i : Nat) (d0 d2 : Int) (hk0 : 0 < k) (hki : k < i) (him : i < m)
    (T : LMat) (P Pi : Option LMat) (det : Array Int) (st : Nat) (L : Mat) :
    LLLData.swap_for2 k d0 0 d2 i ⟨T, P, Pi, det, ⟨m, m, L⟩, st⟩ = panic := by
  have hk : k < m := by omega
  have hk1 : k - 1 < m := by omega
  have h1k : 1 ≤ k := hk0
  unfold LLLData.swap_for2
  simp [U64.sub, h1k, LMat.get, hk, hk1, him, RInt.div]

theorem swap_loop2 (m : Nat) (f1 : Nat → Nat → Int) (k : Nat) (d0 d1 d2 : Int) (hk0 : 0 < k) (hd : d1 ≠ 0)
    (T : LMat) (P Pi : Option LMat) (det : Array Int) (st : Nat) : ∀ (c i : Nat) (L : Mat), i + c = m → k < i →
    entEq m L (swapLam2 f1 k d0 d1 d2 i) →
    ∃ L', Loop.forGo (LLLData.swap_for2 k d0 d1 d2) c i ⟨T, P, Pi, det, ⟨m, m, L⟩, st⟩ =
        ok (⟨T, P, Pi, det, ⟨m, m, L'⟩, st⟩, true) ∧ entEq m L' (swapLam2 f1 k d0 d1 d2 m) := by
  intro c
  induction c with
  | zero =>
    intro i L h _ hL
    have : i = m := by omega
    subst this
    exact ⟨L, rfl, hL⟩
  | succ c ih =>
    intro i L h hki hL
    obtain ⟨L1, h1, hL1⟩ := swap_step2 m f1 k i d0 d1 d2 hk0 hki (by omega) hd T P Pi det st L hL
    obtain ⟨L2, h2, hL2⟩ := ih (i + 1) L1 (by omega) (by omega) hL1
    refine ⟨L2, ?_, hL2⟩
    unfold Loop.forGo
    rw [h1]
    exact h2

/-- `lambda` after `swap` in terms of the entries `f1` after the first loop -/
def swapLamFin (f1 : Nat → Nat → Int) (k : Nat) (d0 d1 d2 : Int) : Nat → Nat → Int := fun a b =>
  if k < a then
    if b = k - 1 then (f1 k (k - 1) * f1 a (k - 1) + f1 a k * d0).tdiv d1
    else if b = k then (f1 a (k - 1) * d2 - f1 a k * f1 k (k - 1)).tdiv d1
    else f1 a b
  else f1 a b

theorem swap_tail (m : Nat) (f1 : Nat → Nat → Int) (k : Nat) (D0 D1 D2 : Int) (hk0 : 0 < k) (hk : k < m)
    (T : LMat) (P Pi : Option LMat) (det : Array Int) (hdet : det.size = m) (st : Nat) (L1 : Mat) (hL1 : entEq m L1 f1) :
    (do
      let x ← Loop.forGo (LLLData.swap_for2 k D0 D1 D2) (m - (k + 1)) (k + 1) ⟨T, P, Pi, det, ⟨m, m, L1⟩, st⟩
      let l0 ← x.fst.lambda.get k (k - 1)
      let rr30 ← RInt.div (D0 * D2 + LLLRing.norm l0) D1
      let rr32 ← LVec.set x.fst.det (k - 1) rr30
      let rr34 ← x.fst.lambda.set k (k - 1) (RInt.conj l0)
      ok ({ target := x.fst.target, p := x.fst.p, pinv := x.fst.pinv, det := rr32, lambda := rr34, step := x.fst.step } : LLLDataS)) =
    if D1 = 0 then panic else
      ok ⟨T, P, Pi, det.set! (k - 1) ((D0 * D2 + f1 k (k - 1) * f1 k (k - 1)).tdiv D1),
        ⟨m, m, mkMat m m (swapLamFin f1 k D0 D1 D2)⟩, st⟩ := by
  have hk1 : k - 1 < m := by omega
  by_cases hd : D1 = 0
  · subst hd
    by_cases hkm : k + 1 < m
    · obtain ⟨c, hc⟩ : ∃ c, m - (k + 1) = c + 1 := ⟨m - (k + 1) - 1, by omega⟩
      rw [hc]
      unfold Loop.forGo
      rw [swap_step2_zero m k (k + 1) D0 D2 hk0 (by omega) hkm]
      rfl
    · have : m - (k + 1) = 0 := by omega
      rw [this]
      simp [Loop.forGo, LMat.get, hk, hk1, RInt.div]
  · obtain ⟨L2, h2, hL2⟩ := swap_loop2 m f1 k D0 D1 D2 hk0 hd T P Pi det st (m - (k + 1)) (k + 1) L1 (by omega) (by omega)
      (by intro a b ha hb
          rw [hL1 a b ha hb]
          have : ¬ (k < a ∧ a < k + 1) := by omega
          simp [swapLam2, this])
    have e0 : ent L2 k (k - 1) = f1 k (k - 1) := by rw [hL2 _ _ hk hk1]; simp [swapLam2]
    have hk1d : k - 1 < det.size := by omega
    rw [h2]
    simp only [bind_ok, LMat.get, LMat.set, hk, hk1, and_self, if_true, RInt.div, hd, if_false, LVec.set, hk1d, e0,
      LLLRing.norm, RInt.conj, ok.injEq, LLLDataS.mk.injEq, LMat.mk.injEq, true_and, and_true]
    apply mkMat_ext
    intro a b ha hb
    rw [hL2 a b ha hb]
    by_cases h : a = k ∧ b = k - 1
    · obtain ⟨rfl, rfl⟩ := h
      simp [swapLamFin]
    · have : (k < a ∧ a < m) = (k < a) := by apply propext; constructor; exact fun h => h.1; exact fun h => ⟨h, ha⟩
      simp only [if_neg h, swapLam2, swapLamFin, this]

/-- same shape and the same number of `det` entries -/
def Same (d d' : Data) : Prop := d'.tr.m = d.tr.m ∧ d'.tr.n = d.tr.n ∧ d'.det.size = d.det.size

theorem Same.refl (d : Data) : Same d d := ⟨rfl, rfl, rfl⟩
theorem Same.trans {a b c : Data} (h1 : Same a b) (h2 : Same b c) : Same a c :=
  ⟨h2.1.trans h1.1, h2.2.1.trans h1.2.1, h2.2.2.trans h1.2.2⟩
theorem Same.wf {d d' : Data} (h : Same d d') (hw : WF d) : WF d' := by
  unfold WF at *; rw [h.1, h.2.2]; exact hw

theorem Same.of_rowAdd {d d' : Data} {i k : Nat} {r : Int} (h : d.RowAdd d' i k r) : Same d d' :=
  ⟨h.tr.m, h.tr.n, by rw [h.det]⟩

theorem Same.of_rowMul {d d' : Data} {i : Nat} {u : Int} (h : d.RowMul d' i u) : Same d d' :=
  ⟨h.tr.m, h.tr.n, by rw [h.det]⟩

theorem addRowTo_same {d d' : Data} {i k : Nat} {r : Int} (h : d.addRowTo i k r = ok d') : Same d d' :=
  Same.of_rowAdd (Data.addRowTo_spec h).2.2.2.2

theorem mulRowIf_same {d d' : Data} {i : Nat} {u : Int} (h : d.mulRowIf i u = ok d') : Same d d' :=
  Same.of_rowMul (Data.mulRowIf_rowMul h)

theorem reduce_same (d d' : Data) (i k : Nat) (h : d.reduce i k = ok d') : Same d d' :=
  let ⟨_, _, hS⟩ := Data.reduce_rowAdd h
  Same.of_rowAdd hS

theorem swap_same (d d' : Data) (k : Nat) (h : d.swap k = ok d') : Same d d' :=
  let hS := (Data.swap_spec h).2.2.2.2.2
  ⟨hS.tr.m, hS.tr.n, hS.size⟩

theorem hnfReduce_same (d d' : Data) (i k : Nat) (h : hnfReduce d i k = ok d') : Same d d' ∧ k < d.tr.m := by
  obtain ⟨_, hk, ⟨j, d1, q, _, h1, _, h2⟩ | ⟨_, h⟩⟩ := hnfReduce_spec h
  · refine ⟨(mulRowIf_same h1).trans ?_, hk⟩
    rcases h2 with ⟨_, h2⟩ | ⟨_, rfl⟩
    · exact addRowTo_same h2
    · exact Same.refl _
  · exact ⟨reduce_same d d' i k h, hk⟩

theorem next_same (d : Data) : Same d d.next := ⟨rfl, rfl, rfl⟩
theorem back_same (d : Data) : Same d d.back := by unfold Data.back; split <;> exact ⟨rfl, rfl, rfl⟩

theorem lllIterate_same (d d' : Data) (h : lllIterate d = ok d') : Same d d' :=
  iterateWith_preserves (Same d) (fun a a' i k ha hS => hS.trans (reduce_same a a' i k ha))
    (fun a a' k ha hS => hS.trans (swap_same a a' k ha)) (fun a hS => hS.trans (next_same a))
    (fun a hS => hS.trans (back_same a)) h (Same.refl d)

theorem hnfIterate_same (d d' : Data) (h : hnfIterate d = ok d') : Same d d' :=
  iterateWith_preserves (Same d) (fun a a' i k ha hS => hS.trans (hnfReduce_same a a' i k ha).1)
    (fun a a' k ha hS => hS.trans (swap_same a a' k ha)) (fun a hS => hS.trans (next_same a))
    (fun a hS => hS.trans (back_same a)) h (Same.refl d)

theorem loopWhile_same (it : Data → Res Data) (hsame : ∀ d d', it d = ok d' → Same d d')
    (fuel : Nat) (d d' : Data) (h : loopWhile it fuel d = ok d') : Same d d' :=
  (loopWhile_preserves it (Same d) (fun a a' _ ha hS => hS.trans (hsame a a' ha)) fuel d d' h (Same.refl d)).1

def calcOf (d : Data) : LLLCalcS := ⟨ofData d⟩
def hnfOf (d : Data) : LLLHNFCalcS := ⟨ofData d⟩

theorem bind_mapR {α β γ} (f : α → β) (x : Res α) (g : β → Res γ) : (mapR f x >>= g) = (x >>= fun a => g (f a)) := by
  cases x <;> rfl
theorem mapR_bind {α β γ} (f : β → γ) (x : Res α) (g : α → Res β) : mapR f (x >>= g) = (x >>= fun a => mapR f (g a)) := by
  cases x <;> rfl
theorem bind_congr_ok {α β} {x : Res α} {f g : α → Res β} (h : ∀ a, x = ok a → f a = g a) :
    (x >>= f) = (x >>= g) := by
  cases x with
  | ok a => exact h a rfl
  | panic => rfl
  | err => rfl

theorem revLoop_eq {σ : Type} (wrap : Data → σ) (g : Nat → σ → Res σ) (f : Data → Nat → Res Data)
    (hg : ∀ i d, WF d → g i (wrap d) = mapR wrap (f d i)) (hf : ∀ d i d', f d i = ok d' → Same d d') :
    ∀ (c : Nat) (d : Data), WF d → Loop.forRangeRev.go 0 g c (wrap d) = mapR wrap (revLoop f d c) := by
  intro c
  induction c with
  | zero => intro d _; rfl
  | succ c ih =>
    intro d hw
    unfold Loop.forRangeRev.go revLoop
    rw [Nat.zero_add, hg c d hw, bind_mapR, mapR_bind]
    exact bind_congr_ok (fun d1 h1 => ih d1 ((hf d c d1 h1).wf hw))

/-- `while step < m { iterate }`: the generated loop with `fuel + 1` is the model's `loopWhile` with `fuel` whenever the
latter does not run out of fuel (the generated loop checks the fuel before the loop condition, the model after it) -/
theorem loopWhile_eq {σ : Type} (wrap : Data → σ) (stepOf : σ → Nat) (hstep : ∀ d, stepOf (wrap d) = d.step)
    (loop : Nat → Nat → σ → Res σ) (itG : σ → Res σ) (it : Data → Res Data)
    (hloopS : ∀ f m s, loop (f + 1) m s = if stepOf s < m then itG s >>= loop f m else ok s)
    (hit : ∀ d, WF d → itG (wrap d) = mapR wrap (it d)) (hsame : ∀ d d', it d = ok d' → Same d d') :
    ∀ (fuel : Nat) (d : Data), WF d → loopWhile it fuel d ≠ err →
      loop (fuel + 1) d.tr.m (wrap d) = mapR wrap (loopWhile it fuel d) := by
  intro fuel
  induction fuel with
  | zero =>
    intro d hw h
    unfold loopWhile at h ⊢
    rw [hloopS, hstep]
    by_cases hs : d.step < d.tr.m
    · simp [hs] at h
    · simp [hs]; rfl
  | succ f ih =>
    intro d hw h
    unfold loopWhile at h ⊢
    rw [hloopS, hstep]
    by_cases hs : d.step < d.tr.m
    · simp only [hs, if_true] at h ⊢
      rw [hit d hw, bind_mapR, mapR_bind]
      cases hd : it d with
      | ok d1 =>
        have h1 := hsame d d1 hd
        rw [hd] at h
        have := ih d1 (h1.wf hw) h
        rw [h1.1] at this
        exact this
      | panic => rfl
      | err => rfl
    · simp [hs]; rfl

theorem loopWhile_eq' {σ : Type} (wrap : Data → σ) (stepOf : σ → Nat) (hstep : ∀ d, stepOf (wrap d) = d.step)
    (loop : Nat → Nat → σ → Res σ) (itG : σ → Res σ) (it : Data → Res Data)
    (hloop0 : ∀ m s, loop 0 m s = err)
    (hloopS : ∀ f m s, loop (f + 1) m s = if stepOf s < m then itG s >>= loop f m else ok s)
    (hit : ∀ d, WF d → itG (wrap d) = mapR wrap (it d)) (hsame : ∀ d d', it d = ok d' → Same d d') :
    ∀ (fuel : Nat) (d : Data), WF d → loop fuel d.tr.m (wrap d) ≠ err →
      loop fuel d.tr.m (wrap d) = mapR wrap (loopWhile it fuel d) := by
  intro fuel
  induction fuel with
  | zero => intro d hw h; exact absurd (hloop0 _ _) h
  | succ f ih =>
    intro d hw h
    unfold loopWhile
    rw [hloopS, hstep] at h ⊢
    by_cases hs : d.step < d.tr.m
    · simp only [hs, if_true] at h ⊢
      rw [hit d hw, bind_mapR] at h ⊢
      rw [mapR_bind]
      cases hd : it d with
      | ok d1 =>
        have h1 := hsame d d1 hd
        rw [hd] at h
        have := ih d1 (h1.wf hw) (by rw [h1.1]; exact h)
        rw [h1.1] at this
        exact this
      | panic => rfl
      | err => rfl
    · simp [hs]; rfl

theorem nzColIn_lt {d : Data} {i j : Nat} (h : d.nzColIn i = some j) : j < d.tr.n := by
  unfold Data.nzColIn at h
  have := List.mem_of_find?_eq_some h
  simpa using this

theorem get_target (d : Data) {i j : Nat} (hi : i < d.tr.m) (hj : j < d.tr.n) :
    LMat.get (ofData d).target i j = ok (ent d.tr.target i j) := by
  simp [ofData, lm, LMat.get, hi, hj]

theorem norm_unit_eq (a : Int) : RInt.normalizing_unit a = if a < 0 then -1 else 1 := by
  unfold RInt.normalizing_unit RInt.is_negative
  by_cases h : a < 0 <;> simp [h]

def trOut (t : Tr) : LMat × Option LMat × Option LMat :=
  (lm t.m t.n t.target, some (lm t.m t.m t.p), some (lm t.m t.m t.pinv))

theorem reverse_step (i : Nat) (t : Tr) (hi : i < t.m / 2) :
    LLLHNFCalc.result_for1 t.m i (trOut t) =
      if i = t.m - i - 1 then ok (Ctl.stop (trOut t)) else
        ok (Ctl.next (trOut { t with target := mSwapRows t.m t.n t.target i (t.m - i - 1),
                                     p := mSwapRows t.m t.m t.p i (t.m - i - 1),
                                     pinv := mSwapCols t.m t.m t.pinv i (t.m - i - 1) })) := by
  have h1 : i ≤ t.m := by omega
  have h2 : 1 ≤ t.m - i := by omega
  have h3 : i < t.m := by omega
  have h4 : t.m - i - 1 < t.m := by omega
  unfold LLLHNFCalc.result_for1
  simp only [trOut, lm, U64.sub, h1, h2, if_true, bind_ok]
  by_cases hij : i = t.m - i - 1
  · simp [← hij]
  · simp only [hij, decide_false, Bool.false_eq_true, if_false, LMat.swap_rows, LMat.swap_cols, h3, h4, and_self, if_true,
      bind_ok, Option.isSome_some, Opt.unwrap]

theorem reverse_loop : ∀ (c i : Nat) (t : Tr), i + c = t.m / 2 →
    Loop.forGo (LLLHNFCalc.result_for1 t.m) c i (trOut t) = mapR (fun t' => (trOut t', true)) (reverseRows t c i) := by
  intro c
  induction c with
  | zero => intro i t _; rfl
  | succ c ih =>
    intro i t hc
    have h3 : i < t.m := by omega
    have h4 : t.m - i - 1 < t.m := by omega
    unfold Loop.forGo reverseRows
    rw [reverse_step i t (by omega)]
    by_cases hij : i = t.m - i - 1
    · simp only [← hij, if_true, bind_ok]; rfl
    · simp only [hij, if_false, bind_ok, Tr.swapRows, h3, h4, decide_true, Bool.and_self, assert_true, pure_eq_ok]
      exact ih (i + 1) { t with target := mSwapRows t.m t.n t.target i (t.m - i - 1),
                                     p := mSwapRows t.m t.m t.p i (t.m - i - 1),
                                     pinv := mSwapCols t.m t.m t.pinv i (t.m - i - 1) } (by show i + 1 + c = t.m / 2; omega)

end Yuiv.C10Gen
