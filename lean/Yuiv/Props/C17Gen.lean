import Yuiv.Proofs.C17Gen
/-
C17 — the hand-written code model `Yuiv/Model/C17.lean` IS the source text of `/repo/yui/src/misc/bitseq.rs`.

`Yuiv.GenBitSeq.*` (file `Yuiv/Gen/BitSeqFn.lean`) is regenerated from the Rust source by `tools/rs2lean_fn.py` on
every `./check` run.  Each theorem below states, for ALL arguments, that a generated definition equals the
corresponding function of the hand model through the abstraction maps `toBS : BitSeqS → BS`, `toBool : Bit → Bool`
(`mapR` lifts them to results), INCLUDING when they panic.  Hypotheses, where present, only say that a field or a
counter is a 64-bit word (`val < 2^64`, `len < 2^64`, an iterator of fewer than `2^64` items), never the
representation invariant.  With the refinement theorems of `Yuiv/Props/C17.lean` this gives:
source text ⇒ generated definition = hand model ⇒ refines `List Bool`.
A semantic edit of a translated Rust function changes the generated file and the theorem about it stops checking.
-/
namespace Yuiv.C17Gen
open Yuiv Res Yuiv.Rust Yuiv.GenBitSeq

/-! ### the abstraction maps lose nothing -/

theorem toBS_inj (a b : BitSeqS) : toBS a = toBS b ↔ a = b := by
  cases a; cases b; simp [toBS]
theorem toBool_inj (a b : Bit) : toBool a = toBool b ↔ a = b := by
  cases a <;> cases b <;> simp [toBool]

theorem gen_MAX_LEN_eq : BitSeq.MAX_LEN = C17.maxLen := rfl

/-- the discriminants `Bit0 = 0`, `Bit1 = 1` -/
theorem gen_Bit_discr_eq (b : Bit) : Bit.discr b = if toBool b then 1 else 0 := by cases b <;> rfl

theorem gen_Bit_is_zero_eq (b : Bit) : Bit.is_zero b = !toBool b := by cases b <;> rfl
theorem gen_Bit_is_one_eq (b : Bit) : Bit.is_one b = toBool b := by cases b <;> rfl
theorem gen_Bit_as_u64_eq (b : Bit) : Bit.as_u64 b = if toBool b then 1 else 0 := by cases b <;> rfl
/-- `impl From<bool> for Bit` is the inverse of the abstraction map -/
theorem gen_Bit_from_bool_eq (x : Bool) : toBool (Bit.From_bool.from_ x) = x := by cases x <;> rfl

theorem gen_mask_eq (len : Nat) : BitSeq.mask len = C17.mask len := mask_eq len

theorem gen_new_eq (val len : Nat) : mapR toBS (BitSeq.new val len) = C17.new val len := new_eq val len

theorem gen_new_rev_eq (val len : Nat) : mapR toBS (BitSeq.new_rev val len) = C17.newRev val len := by
  unfold BitSeq.new_rev C17.newRev
  by_cases h : len ≤ 64
  · by_cases h0 : len = 0
    · simp [bitseq_gen, h0, ← gen_new_eq]
    · simp [bitseq_gen, h, h0, ← gen_new_eq, reverse_bits_eq]
  · simp only [h, decide_false, assert_false, Res.bind_panic, mapR_panic, BitSeq.MAX_LEN, C17.maxLen]

theorem gen_empty_eq : mapR toBS BitSeq.empty = C17.empty := gen_new_eq 0 0
theorem gen_zeros_eq (len : Nat) : mapR toBS (BitSeq.zeros len) = C17.zeros len := gen_new_eq 0 len

theorem gen_ones_eq (len : Nat) : mapR toBS (BitSeq.ones len) = C17.ones len := by
  unfold BitSeq.ones C17.ones
  simp only [gen_mask_eq, mapR_bind, gen_new_eq]

theorem gen_len_eq (s : BitSeqS) : BitSeq.len s = (toBS s).len := rfl
theorem gen_as_u64_eq (s : BitSeqS) : BitSeq.as_u64 s = (toBS s).val := rfl
/-- the hand model has no `is_empty`; it is the test `len = 0` (⇔ `toList = []`) -/
theorem gen_is_empty_eq (s : BitSeqS) : BitSeq.is_empty s = decide ((toBS s).len = 0) := rfl

/-- the `while` loop terminates within the fuel, its two checked operations never overflow, and it computes the
model's `weight` (a pure function there) -/
theorem gen_weight_eq (s : BitSeqS) (h : s.val < 2 ^ 64) : BitSeq.weight s = ok (C17.weight (toBS s)) := by
  have hp := C17.popc_le 64 s.val h
  have hl := weight_loop1_eq loopFuel s.val 0 (by unfold loopFuel; omega) (by omega)
  simp only [BitSeq.weight, C17.weight, hl, C17.weightLoop_eq 64 (toBS s).val 0 hp, bind_ok]
  rfl

theorem gen_index_eq (s : BitSeqS) (i : Nat) :
    mapR toBool (BitSeq.Index_usize.index s i) = C17.index (toBS s) i := by
  unfold BitSeq.Index_usize.index C17.index
  by_cases h : i < s.len
  · simp [bitseq_gen, h]
    refine bind_congr (fun a => ?_)
    rcases Nat.mod_two_eq_zero_or_one a with h2 | h2 <;> simp [h2]
  · simp only [toBS, h, decide_false, assert_false, Res.bind_panic, mapR_panic]

theorem gen_is_sub_eq (a b : BitSeqS) : BitSeq.is_sub a b = C17.isSub (toBS a) (toBS b) := by
  unfold BitSeq.is_sub C17.isSub
  simp only [gen_mask_eq, decide_eq_true_eq]
  by_cases h : a.len ≤ b.len
  · simp [bitseq_gen, h, ← Bool.beq_eq_decide_eq]
  · rw [if_neg h, if_neg (show ¬ (toBS a).len ≤ (toBS b).len from h)]

theorem gen_cmp_eq (a b : BitSeqS) (ha : a.val < 2 ^ 64) (hb : b.val < 2 ^ 64) :
    BitSeq.Ord.cmp a b = ok (C17.cmp (toBS a) (toBS b)) := by
  unfold BitSeq.Ord.cmp C17.cmp
  simp only [gen_weight_eq a ha, gen_weight_eq b hb, BitSeq.len, BitSeq.as_u64, toBS]
  by_cases h1 : compare a.len b.len = Ordering.eq
  · simp [bitseq_gen, h1]
  · simp [bitseq_gen, h1, then_of_ne h1]

theorem gen_partial_cmp_eq (a b : BitSeqS) (ha : a.val < 2 ^ 64) (hb : b.val < 2 ^ 64) :
    BitSeq.PartialOrd.partial_cmp a b = ok (some (C17.cmp (toBS a) (toBS b))) := by
  unfold BitSeq.PartialOrd.partial_cmp
  rw [gen_cmp_eq a b ha hb]; rfl

/-! ### mutators (`&mut self` methods return the new struct) -/

theorem gen_set_eq (s : BitSeqS) (i : Nat) (b : Bit) :
    mapR toBS (BitSeq.set s i b) = C17.set (toBS s) i (toBool b) := by
  unfold BitSeq.set C17.set
  by_cases h : i < s.len
  · cases b <;> simp [bitseq_gen, h]
  · simp only [toBS, h, decide_false, assert_false, Res.bind_panic, mapR_panic]

theorem gen_set_0_eq (s : BitSeqS) (i : Nat) : mapR toBS (BitSeq.set_0 s i) = C17.set (toBS s) i false :=
  gen_set_eq s i .Bit0
theorem gen_set_1_eq (s : BitSeqS) (i : Nat) : mapR toBS (BitSeq.set_1 s i) = C17.set (toBS s) i true :=
  gen_set_eq s i .Bit1

theorem gen_push_eq (s : BitSeqS) (b : Bit) :
    mapR toBS (BitSeq.push s b) = C17.push (toBS s) (toBool b) := by
  unfold BitSeq.push C17.push
  by_cases h : s.len < 64
  · have h1 : U64.add s.len 1 = ok (s.len + 1) := add_ok (by omega)
    have h2 := C17.shl_one _ h
    cases b <;> simp [bitseq_gen, h, h1, h2]
  · simp only [toBS, h, decide_false, assert_false, Res.bind_panic, mapR_panic, BitSeq.MAX_LEN, C17.maxLen]

theorem gen_push_0_eq (s : BitSeqS) : mapR toBS (BitSeq.push_0 s) = C17.push (toBS s) false := gen_push_eq s .Bit0
theorem gen_push_1_eq (s : BitSeqS) : mapR toBS (BitSeq.push_1 s) = C17.push (toBS s) true := gen_push_eq s .Bit1

theorem gen_append_eq (a b : BitSeqS) :
    mapR toBS (BitSeq.append a b) = C17.append (toBS a) (toBS b) := by
  unfold BitSeq.append C17.append
  by_cases h : a.len + b.len ≤ 64
  · have h1 : U64.add a.len b.len = ok (a.len + b.len) := add_ok (by omega)
    by_cases h0 : b.len > 0
    · simp [bitseq_gen, h, h0, h1]
    · simp [bitseq_gen, h, h0, h1]
  · by_cases h2 : a.len + b.len < 2 ^ 64
    · simp [bitseq_gen, h, add_ok h2]
    · simp [bitseq_gen, h, add_panic (Nat.le_of_not_lt h2)]

theorem gen_remove_eq (s : BitSeqS) (i : Nat) (hr : s.len < 2 ^ 64) :
    mapR toBS (BitSeq.remove s i) = C17.remove (toBS s) i := by
  unfold BitSeq.remove C17.remove
  by_cases h : i < s.len
  · have h1 : U64.add i 1 = ok (i + 1) := add_ok (by omega)
    simp [bitseq_gen, h, h1, gen_mask_eq]
  · simp only [toBS, h, decide_false, assert_false, Res.bind_panic, mapR_panic]

theorem gen_insert_eq (s : BitSeqS) (i : Nat) (b : Bit) :
    mapR toBS (BitSeq.insert s i b) = C17.insert (toBS s) i (toBool b) := by
  unfold BitSeq.insert C17.insert
  by_cases h : i ≤ s.len
  · by_cases h2 : s.len < 64
    · have h1 : U64.add s.len 1 = ok (s.len + 1) := add_ok (by omega)
      have hi : i < 64 := Nat.lt_of_le_of_lt h h2
      have h3 := C17.shl_one i hi
      cases b <;> simp [bitseq_gen, h, h2, h1, h3, C17.shl_eq _ i hi]
    · simp only [toBS, h, h2, decide_true, decide_false, assert_true, assert_false, Res.bind_ok, Res.bind_panic,
        mapR_panic, BitSeq.MAX_LEN, C17.maxLen]
  · simp only [toBS, h, decide_false, assert_false, Res.bind_panic, mapR_panic, BitSeq.MAX_LEN, C17.maxLen]

theorem gen_insert_0_eq (s : BitSeqS) (i : Nat) : mapR toBS (BitSeq.insert_0 s i) = C17.insert (toBS s) i false :=
  gen_insert_eq s i .Bit0
theorem gen_insert_1_eq (s : BitSeqS) (i : Nat) : mapR toBS (BitSeq.insert_1 s i) = C17.insert (toBS s) i true :=
  gen_insert_eq s i .Bit1

theorem gen_sub_eq (s : BitSeqS) (l : Nat) : mapR toBS (BitSeq.sub s l) = C17.sub (toBS s) l := by
  unfold BitSeq.sub C17.sub
  by_cases h : l ≤ s.len
  · simp [bitseq_gen, h, gen_mask_eq, ← gen_new_eq]
  · simp only [toBS, h, decide_false, assert_false, Res.bind_panic, mapR_panic]

/-- `impl AddAssign<Bit>` (`b += bit`) is `push` -/
theorem gen_add_assign_bit_eq (s : BitSeqS) (b : Bit) :
    mapR toBS (BitSeq.AddAssign_Bit.add_assign s b) = C17.push (toBS s) (toBool b) := gen_push_eq s b
/-- `impl AddAssign<&BitSeq>` (`a += &b`) is `append` -/
theorem gen_add_assign_bitseq_eq (a b : BitSeqS) :
    mapR toBS (BitSeq.AddAssign_BitSeq.add_assign a b) = C17.append (toBS a) (toBS b) := gen_append_eq a b

/-! ### generic constructors (`T` is any type with `Bit: From<T>`; the conversion is the explicit argument `f`) -/

/-- `impl<T> FromIterator<T> for BitSeq`: the iterator is modelled by the list of its items -/
theorem gen_from_iter_eq {T : Type} (f : T → Bit) (l : List T) (h : l.length < 2 ^ 64) :
    mapR toBS (BitSeq.FromIterator_T.from_iter f l) = C17.fromIter (l.map (fun x => toBool (f x))) := by
  unfold BitSeq.FromIterator_T.from_iter C17.fromIter
  simp only [from_iter_loop1_eq f l 0 0 (by rw [Nat.zero_add]; exact h), mapR_bind, gen_new_eq]

/-- `impl<T> From<T> for BitSeq`: the one-bit sequence (the hand model has no such function; it is `new bit 1`) -/
theorem gen_from_eq {T : Type} (f : T → Bit) (b : T) :
    mapR toBS (BitSeq.From_T.from_ f b) = C17.new (if toBool (f b) then 1 else 0) 1 := by
  unfold BitSeq.From_T.from_
  cases f b <;> simp [bitseq_gen, gen_new_eq]

/-! ### parsing and printing (`&str` / `String` are the lists of their chars) -/

/-- `impl_bit_from_int!(u64)`: `0 ↦ Bit0`, `1 ↦ Bit1`, anything else panics (used by `BitSeq::iter`) -/
theorem gen_Bit_from_u64_eq (v : Nat) :
    Bit.From_u64.from_ v = if v = 0 then ok .Bit0 else if v = 1 then ok .Bit1 else .panic := by
  unfold Bit.From_u64.from_
  simp only [decide_eq_true_eq]

/-- `impl_bit_from_int!(usize)` (the same macro body at 64-bit `usize`) -/
theorem gen_Bit_from_usize_eq (v : Nat) : Bit.From_usize.from_ v = Bit.From_u64.from_ v := rfl

/-- the derived `Display` of `Bit` (`#[display("0")]`, `#[display("1")]`) -/
theorem gen_Bit_display_eq (b : Bit) : Bit.Display.fmt b = [if toBool b then '1' else '0'] := by cases b <;> rfl

/-- the closure of `from_str`: `'0' ↦ Ok(Bit0)`, `'1' ↦ Ok(Bit1)`, every other char `Err` -/
theorem gen_from_str_closure_eq (c : Char) :
    (BitSeq.FromStr.from_str_closure1 c).map toBool
      = if c = '0' then some false else if c = '1' then some true else none := by
  unfold BitSeq.FromStr.from_str_closure1
  by_cases h0 : c = '0'
  · simp [h0, toBool]
  · by_cases h1 : c = '1' <;> simp [h0, h1, toBool]

/-- `BitSeq::iter`: never panics; its items are exactly the model's bits (`len` times `(val & 1, val >>= 1)`) -/
theorem gen_bitseq_iter_eq (b : BitSeqS) :
    mapR (List.map toBool) (BitSeq.iter b) = ok (C17.iter (toBS b)) := by
  unfold BitSeq.iter C17.iter
  simp only [Nat.sub_zero, iter_items_eq, mapR_ok, toBS, List.map_map]
  congr 1
  rw [List.map_congr_left (g := id) (fun x _ => by cases x <;> rfl)]
  simp

/-- `impl FromStr for BitSeq`, for EVERY string: the same value, the same `Err` (an invalid character, reported after
`from_iter` has consumed the valid prefix) and the same panic (more than 64 valid characters before the first invalid
one — also when the string then contains an invalid character) -/
theorem gen_bitseq_from_str_eq (s : List Char) :
    mapR toBS (BitSeq.FromStr.from_str s) = C17.fromStr s := from_str_loop_eq s 0 0

/-- `impl Display for BitSeq`: never fails, and the text written is the hand model's `toStr` -/
theorem gen_bitseq_display_eq (b : BitSeqS) :
    BitSeq.Display.fmt b = ok (C17.toStr (toBS b)) := by
  unfold BitSeq.Display.fmt BitSeq.iter C17.toStr C17.iter
  simp only [Nat.sub_zero, iter_items_eq, Res.bind_ok, display_fold_eq, List.nil_append, toBS]

example : InRange ⟨0b10110, 5⟩ := by unfold InRange; decide
example : BitSeq.weight ⟨0b10110, 5⟩ = ok 3 := by
  rw [gen_weight_eq _ (by decide)]; decide
example : mapR toBS (BitSeq.remove ⟨0b100101, 6⟩ 2) = ok ⟨0b10001, 5⟩ := by
  rw [gen_remove_eq _ _ (by decide)]; decide
example : mapR toBS (BitSeq.FromIterator_T.from_iter Bit.From_bool.from_ [true, false, true, true, false])
    = ok ⟨0b01101, 5⟩ := by
  rw [gen_from_iter_eq _ _ (by decide)]; decide
example : mapR toBS (BitSeq.push ⟨0, 64⟩ .Bit1) = .panic := by rw [gen_push_eq]; decide
example : mapR toBS (BitSeq.FromStr.from_str "01101".toList) = ok ⟨0b10110, 5⟩ := by
  rw [gen_bitseq_from_str_eq]; decide
example : mapR toBS (BitSeq.FromStr.from_str "+101".toList) = .err := by rw [gen_bitseq_from_str_eq]; decide
example : mapR toBS (BitSeq.FromStr.from_str (List.replicate 65 '0' ++ ['x'])) = .panic := by
  rw [gen_bitseq_from_str_eq]; decide
example : BitSeq.Display.fmt ⟨0b10110, 5⟩ = ok "01101".toList := by rw [gen_bitseq_display_eq]; decide

end Yuiv.C17Gen
