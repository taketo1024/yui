import Yuiv.Proofs.C19Inv
import Yuiv.Proofs.C19CommDefs
import Yuiv.Proofs.Loop
/-
C19Comm — τ on the states of the cube (`Model/C19.tState`) is the bit map `t_k = s_{π k}` for the positions `π k` of the image
crossings (`piOf`); when `π` is an involution, a weight-preserving involution of the states that maps cube edges to cube edges.
-/
namespace Yuiv.C19Comm
open Yuiv.KhRef Yuiv.C19 Yuiv.C19Inv

theorem forIn_option_yield {α β : Type} (F : β → α → Option β) (body : α → β → Option (ForInStep β))
    (hb : ∀ k t, body k t = (F t k).map ForInStep.yield) (l : List α) (init : β) :
    forIn l init body = l.foldlM F init :=
  Loop.forIn_eq_foldlM (fun a _ b => hb a b) init

theorem foldlM_none_of_mem {α β : Type} (F : β → α → Option β) (l : List α) (k : α) (hk : k ∈ l)
    (hbad : ∀ t, F t k = none) (init : β) : l.foldlM F init = none := by
  induction l generalizing init with
  | nil => cases hk
  | cons a l ih =>
    rw [List.foldlM_cons]
    cases hstep : F init a with
    | none => rfl
    | some b =>
      rcases List.mem_cons.1 hk with rfl | hk
      · rw [hbad] at hstep; cases hstep
      · exact ih hk b

theorem tState_eq (l : InvLink) (s : Nat) :
    tState l s = (List.range (realIdx l.link).size).foldlM (fun t k =>
      (piOf l k).map (fun kj => if s.testBit kj then t ||| 1 <<< k else t)) 0 := by
  unfold tState
  simp only [Std.Legacy.Range.forIn_eq_forIn_range', Std.Legacy.Range.size, Nat.sub_zero, Nat.add_sub_cancel, Nat.div_one]
  rw [forIn_option_yield (fun t k => (piOf l k).map (fun kj => if s.testBit kj then t ||| 1 <<< k else t))]
  · rw [List.range_eq_range']
    cases List.foldlM (m := Option) _ 0 (List.range' 0 (realIdx l.link).size) <;> rfl
  · intro k t
    unfold piOf
    cases l.invX (realIdx l.link)[k]! with
    | none => rfl
    | some j =>
      show (Array.findIdx? (fun x => x == j) (realIdx l.link)).bind _ =
        Option.map _ (Option.map _ (Array.findIdx? (fun x => x == j) (realIdx l.link)))
      cases Array.findIdx? (fun x => x == j) (realIdx l.link) with
      | none => rfl
      | some kj =>
        simp only [Option.bind_some, Option.map_some]
        split <;> rfl

theorem tState_fold (l : InvLink) (π : Nat → Nat) (s : Nat) (ks : List Nat) (hπ : ∀ k ∈ ks, piOf l k = some (π k))
    (acc : Nat) :
    ∃ t, ks.foldlM (fun t k => (piOf l k).map (fun kj => if s.testBit kj then t ||| 1 <<< k else t)) acc = some t ∧
      ∀ j, t.testBit j = (acc.testBit j || ks.any (fun k => k == j && s.testBit (π k))) := by
  induction ks generalizing acc with
  | nil => exact ⟨acc, rfl, by simp⟩
  | cons k ks ih =>
    rw [List.foldlM_cons, hπ k (by simp)]
    obtain ⟨t, e, hb⟩ := ih (fun k' hk' => hπ k' (List.mem_cons_of_mem _ hk'))
      (if s.testBit (π k) then acc ||| 1 <<< k else acc)
    refine ⟨t, e, fun j => ?_⟩
    rw [hb j, List.any_cons]
    by_cases hs : s.testBit (π k) = true
    · simp only [hs, if_true, Nat.testBit_or, Nat.one_shiftLeft, Nat.testBit_two_pow, Bool.and_true, Bool.or_assoc]
      congr 2
    · simp [hs]

theorem tState_bits (l : InvLink) (π : Nat → Nat) (hπ : ∀ k < (realIdx l.link).size, piOf l k = some (π k)) (s : Nat) :
    ∃ t, tState l s = some t ∧ t < 2 ^ (realIdx l.link).size ∧
      ∀ j, t.testBit j = (decide (j < (realIdx l.link).size) && s.testBit (π j)) := by
  obtain ⟨t, e, hb⟩ := tState_fold l π s (List.range (realIdx l.link).size)
    (fun k hk => hπ k (List.mem_range.1 hk)) 0
  have hb' : ∀ j, t.testBit j = (decide (j < (realIdx l.link).size) && s.testBit (π j)) := by
    intro j
    rw [hb j, Nat.zero_testBit, Bool.false_or, Bool.eq_iff_iff]
    simp only [List.any_eq_true, List.mem_range, Bool.and_eq_true, beq_iff_eq, decide_eq_true_eq]
    constructor
    · rintro ⟨k, hk, rfl, hs⟩; exact ⟨hk, hs⟩
    · rintro ⟨hj, hs⟩; exact ⟨j, hj, rfl, hs⟩
  exact ⟨t, by rw [tState_eq]; exact e, BitsVia.lt hb', hb'⟩

def PiInvol (n : Nat) (π : Nat → Nat) : Prop := ∀ k < n, π k < n ∧ π (π k) = k

theorem tState_props (l : InvLink) (π : Nat → Nat) (hπ : ∀ k < (realIdx l.link).size, piOf l k = some (π k))
    (hinv : PiInvol (realIdx l.link).size π) (s : Nat) (hs : s < 2 ^ (realIdx l.link).size) :
    ∃ t, tState l s = some t ∧ t < 2 ^ (realIdx l.link).size ∧ tState l t = some s ∧
      popcount t (realIdx l.link).size = popcount s (realIdx l.link).size ∧
      ∀ k < (realIdx l.link).size, s.testBit k = false →
        t.testBit (π k) = false ∧ tState l (s ||| 1 <<< k) = some (t ||| 1 <<< π k) := by
  obtain ⟨t, e, hlt, hb⟩ := tState_bits l π hπ s
  have B : BitsVia _ π s t := hb
  refine ⟨t, e, hlt, ?_, B.popcount_eq hinv hinv, fun k hk hsk => ⟨by rw [hb]; simp [(hinv k hk).2, hsk], ?_⟩⟩
  · obtain ⟨t2, e2, _, hb2⟩ := tState_bits l π hπ t
    rw [e2, B.back hinv hs hb2]
  · obtain ⟨t2, e2, _, hb2⟩ := tState_bits l π hπ (s ||| 1 <<< k)
    rw [e2, BitsVia.unique hb2 (B.or_bit hinv hinv hk)]

theorem toList_eq_map_range (l : Link) : l.toList = (List.range l.size).map (fun i => l[i]!) := by
  apply List.ext_getElem
  · simp
  · intro i h1 h2
    simp only [List.getElem_map, List.getElem_range, Array.getElem_toList]
    rw [getElem!_pos l i (by simpa using h1)]

theorem realIdx_size (l : Link) : (realIdx l).size = crossingNum l := by
  unfold realIdx crossingNum
  have h1 : ((Array.range l.size).filter (fun i => !(l[i]!).ct.isResolved)).size =
      ((List.range l.size).filter (fun i => !(l[i]!).ct.isResolved)).length := by
    rw [← Array.length_toList (xs := (Array.range l.size).filter _), Array.toList_filter, Array.toList_range]
  have h2 : (l.filter (fun c => !c.ct.isResolved)).size = (l.toList.filter (fun c => !c.ct.isResolved)).length := by
    rw [← Array.length_toList (xs := l.filter _), Array.toList_filter]
  rw [h1, h2, toList_eq_map_range l, List.filter_map, List.length_map]
  simp only [Function.comp_def]

/-- the inner loop of `mkICube` (circle correspondence at one state) -/
def tlabAt (l : InvLink) (c : Cube) (s t : Nat) : Option (Array Nat) :=
  forIn (c.circ[s]!) #[] (fun ci m => do
    let j ← (c.circ[t]!).findIdx? (fun cj => cj.contains (l.invE (ci.foldl min ci[0]!)))
    pure (ForInStep.yield (m.push j)))

/-- one round of the loop of `mkICube`, on the pair `(tst, tlab)` -/
def icStep (l : InvLink) (c : Cube) (st : Array Nat × Array (Array Nat)) (s : Nat) :
    Option (Array Nat × Array (Array Nat)) :=
  (tState l s).bind (fun t => (tlabAt l c s t).map (fun m => (st.1.push t, st.2.push m)))

/-- the cube of `mkICube`: the cube of the link, based at the on-axis base point in the reduced theory -/
def icCube (l : InvLink) (p : Params) : Cube :=
  ⟨(mkCube l.link p).n, (mkCube l.link p).circ, if p.reduced then l.base else none⟩

theorem mkICube_eq (l : InvLink) (p : Params) :
    mkICube l p =
      ((List.range (2 ^ (icCube l p).n)).foldlM (icStep l (icCube l p)) (#[], #[])).map
        (fun st => ⟨icCube l p, st.1, st.2⟩) := by
  unfold mkICube
  simp only [Std.Legacy.Range.forIn_eq_forIn_range', Std.Legacy.Range.size, Nat.sub_zero, Nat.add_sub_cancel, Nat.div_one]
  rw [forIn_option_yield (icStep l (icCube l p))]
  · rw [List.range_eq_range']
    show Option.bind (List.foldlM (icStep l (icCube l p)) (#[], #[]) (List.range' 0 (2 ^ (icCube l p).n))) _ = _
    cases List.foldlM (icStep l (icCube l p)) (#[], #[]) (List.range' 0 (2 ^ (icCube l p).n)) <;> rfl
  · intro s st
    unfold icStep
    cases tState l s with
    | none => rfl
    | some t =>
      show (tlabAt l (icCube l p) s t).bind _ = Option.map _ (Option.map _ (tlabAt l (icCube l p) s t))
      cases tlabAt l (icCube l p) s t <;> rfl

theorem icStep_fold (l : InvLink) (c : Cube) : ∀ (len a : Nat) (st st' : Array Nat × Array (Array Nat)),
    (List.range' a len).foldlM (icStep l c) st = some st' → st.1.size = a →
    (∀ s < a, tState l s = some st.1[s]!) →
    st'.1.size = a + len ∧ ∀ s < a + len, tState l s = some st'.1[s]! := by
  intro len
  induction len with
  | zero =>
    intro a st st' h hsz hall
    simp only [List.range'_zero, List.foldlM_nil] at h
    cases h
    exact ⟨hsz, hall⟩
  | succ len ih =>
    intro a st st' h hsz hall
    rw [List.range'_succ, List.foldlM_cons] at h
    cases h1 : icStep l c st a with
    | none => rw [h1] at h; cases h
    | some st1 =>
      rw [h1] at h
      unfold icStep at h1
      cases ht : tState l a with
      | none => rw [ht] at h1; cases h1
      | some t =>
        rw [ht] at h1
        simp only [Option.bind_some] at h1
        cases hm : tlabAt l c a t with
        | none => rw [hm] at h1; cases h1
        | some m =>
          rw [hm] at h1
          simp only [Option.map_some, Option.some.injEq] at h1
          subst h1
          have h' : List.foldlM (icStep l c) (st.1.push t, st.2.push m) (List.range' (a + 1) len) = some st' := h
          have := ih (a + 1) _ st' h' (by simp [hsz]) (by
            intro s hs
            simp only
            by_cases e : s = a
            · subst e
              rw [ht, getElem!_pos _ _ (by simp [hsz])]
              simp [← hsz]
            · have hs' : s < a := by omega
              have hp : (st.1.push t).size = a + 1 := by simp [hsz]
              rw [hall s hs', getElem!_pos (st.1.push t) s (by omega), getElem!_pos st.1 s (by omega),
                Array.getElem_push_lt (by omega)])
          rw [show a + (len + 1) = a + 1 + len by omega]
          exact this

theorem mkICube_tst (l : InvLink) (p : Params) (ic : ICube) (h : mkICube l p = some ic) :
    ic.cube = icCube l p ∧ ic.cube.n = (realIdx l.link).size ∧ ic.tst.size = 2 ^ ic.cube.n ∧
    ∀ s < 2 ^ ic.cube.n, tState l s = some ic.tst[s]! := by
  rw [mkICube_eq] at h
  cases hf : (List.range (2 ^ (icCube l p).n)).foldlM (icStep l (icCube l p)) (#[], #[]) with
  | none => rw [hf] at h; cases h
  | some st =>
    rw [hf] at h
    simp only [Option.map_some, Option.some.injEq] at h
    subst h
    rw [List.range_eq_range'] at hf
    have := icStep_fold l (icCube l p) _ 0 _ st hf rfl (fun s hs => absurd hs (by omega))
    simp only [Nat.zero_add] at this
    exact ⟨rfl, (realIdx_size l.link).symm, this.1, this.2⟩

theorem tState_some_pi (l : InvLink) (s t : Nat) (h : tState l s = some t) :
    ∀ k < (realIdx l.link).size, (piOf l k).isSome = true := by
  rw [tState_eq] at h
  intro k hk
  cases hp : piOf l k with
  | some _ => rfl
  | none =>
    rw [foldlM_none_of_mem _ _ k (List.mem_range.2 hk) (fun t => by rw [hp]; rfl)] at h
    cases h

end Yuiv.C19Comm
