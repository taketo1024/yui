import Yuiv.Proofs.C18Orbit
import Yuiv.Proofs.Res
/-
C18 — the schedule shared by `Link::components` and `Link::crossing_signs`: for `j0` in `0..3`, for `i0` in `0..n`,
unless the label of slot `(i0, j0)` has been passed, walk (`traverse_edges`) from `(i0, j0)` and hand the path to a
callback.  `sweepStep` is that loop body for an arbitrary state and callback; `compsStep` and `signsStep` are
instances by `rfl`.

On a valid code every walk is a complete `step`-orbit.  `Swept` is the ghost invariant of the schedule (the set `V` of
visited slots); `sweepStep_inv` / `sweepPass_inv` say what a step / a pass does to `V`, for any
client invariant `Q` that the visit of one fresh orbit keeps.
-/
namespace Yuiv.C18
open Yuiv

def sweepStep {σ : Type} (l : Link) (passed : σ → List Nat) (visit : σ → List (Nat × Nat) → σ)
    (j0 : Nat) (st : σ) (i0 : Nat) : Res σ :=
  if (passed st).contains (edgeAt l i0 j0) then .ok st
  else
    match traverse l (i0, j0) with
    | .ok path => .ok (visit st path)
    | .panic => .panic
    | .err => .err

theorem signsStep_eq_sweep (l : Link) (j0 : Nat) :
    signsStep l j0 = sweepStep l (·.2) (fun st path => path.foldl (signsVisit l) st) j0 := rfl

theorem compsStep_eq_sweep (l : Link) (j0 : Nat) :
    compsStep l j0 = sweepStep l (·.2) (fun st path =>
      (st.1 ++ [mkPath (path.map (fun p => edgeAt l p.1 p.2))],
        (path.map (fun p => edgeAt l p.1 p.2)).reverse ++ st.2)) j0 := rfl

/-- `V` (the slots visited so far) is a union of complete `step`-orbits (closed under `step` and under
`step`-preimages) that never contains both ends of an edge, and `passed` is the set of labels of `V` -/
structure Swept (l : Link) (passed : List Nat) (V : List (Nat × Nat)) : Prop where
  he : ∀ h ∈ V, HE l h
  fwd : ∀ h ∈ V, step l h ∈ V
  bwd : ∀ h ∈ V, ∃ y ∈ V, step l y = h
  labels : ∀ e, e ∈ passed ↔ ∃ h ∈ V, lab l h = e
  nopart : ∀ h ∈ V, partner l h ∉ V

theorem swept_init (l : Link) : Swept l [] [] where
  he := fun _ hh => nomatch hh
  fwd := fun _ hh => nomatch hh
  bwd := fun _ hh => nomatch hh
  labels := fun _ => ⟨fun he => (nomatch he), fun ⟨_, hh, _⟩ => (nomatch hh)⟩
  nopart := fun _ hh => nomatch hh

namespace Swept
variable {l : Link} {ps : List Nat} {V : List (Nat × Nat)}

theorem nothru (hG : Swept l ps V) (hv : Valid l) (h : Nat × Nat) (hh : h ∈ V) : thru l h ∉ V := by
  have h2 := hG.nopart _ (hG.fwd h hh)
  rwa [thru_partner_step l hv h (hG.he h hh)] at h2

theorem thru_of_partner (hG : Swept l ps V) (hv : Valid l) (h : Nat × Nat) (hh : HE l h)
    (hp : partner l h ∈ V) : thru l h ∈ V := by
  obtain ⟨y, hy, hyp⟩ := hG.bwd _ hp
  have hyHE := hG.he y hy
  rw [eq_thru_of_partner_eq_step l hv h y hh hyHE hyp.symm, thru_thru l y hyHE]
  exact hy

theorem of_label (hG : Swept l ps V) (hv : Valid l) (h : Nat × Nat) (hh : HE l h) (hp : lab l h ∈ ps) :
    h ∈ V ∨ partner l h ∈ V := by
  obtain ⟨h', hm, hl⟩ := (hG.labels _).1 hp
  rcases same_label l hv h' h (hG.he h' hm) hh hl.symm with e | e
  · left; rw [e]; exact hm
  · right
    rw [e, (partner_spec l hv h' (hG.he h' hm)).2.2.2]; exact hm

theorem label_thru (hG : Swept l ps V) (hv : Valid l) (h : Nat × Nat) (hh : HE l h) (hp : lab l h ∈ ps) :
    lab l (thru l h) ∈ ps := by
  rcases hG.of_label hv h hh hp with h1 | h1
  · exact (hG.labels _).2 ⟨step l h, hG.fwd h h1, lab_step l hv h hh⟩
  · exact (hG.labels _).2 ⟨thru l h, hG.thru_of_partner hv h hh h1, rfl⟩

theorem iter_in (hG : Swept l ps V) (hv : Valid l) (s : Nat × Nat) (hs : HE l s) (a : Nat)
    (h : iter (step l) a s ∈ V) : s ∈ V := by
  induction a with
  | zero => exact h
  | succ a ih =>
    obtain ⟨y, hy, hyp⟩ := hG.bwd _ h
    exact ih (step_inj l hv y _ (hG.he y hy) (iter_HE l hv s hs a) hyp ▸ hy)

theorem iter_partner_in (hG : Swept l ps V) (hv : Valid l) (s : Nat × Nat) (hs : HE l s) (a : Nat)
    (h : partner l (iter (step l) a s) ∈ V) : partner l s ∈ V := by
  induction a with
  | zero => exact h
  | succ a ih =>
    have hz := iter_HE l hv s hs a
    rw [show partner l (iter (step l) (a + 1) s) = thru l (iter (step l) a s) from thru_partner_step l hv _ hz] at h
    have h2 := hG.fwd _ h
    rw [step_thru l hv _ hz] at h2
    exact ih h2

theorem walk (hG : Swept l ps V) (hv : Valid l) {s : Nat × Nat} (hs : HE l s) (hnew : lab l s ∉ ps)
    {v : List (Nat × Nat)} (hw : Walk l s v) :
    (∀ x ∈ v, x ∉ V ∧ partner l x ∉ V) ∧ Swept l (((v.reverse ++ [s]).map (lab l)).reverse ++ ps) (V ++ v) := by
  obtain ⟨h2, _, h4, hall⟩ := hw
  have hsv : s ∈ v := h2.start_mem
  obtain ⟨vfwd, vbwd⟩ := h2.closed h4
  have hfresh : ∀ x ∈ v, x ∉ V ∧ partner l x ∉ V := by
    intro x hx
    obtain ⟨a, rfl⟩ := h2.mem_iter x hx
    exact ⟨fun h => hnew ((hG.labels _).2 ⟨_, hG.iter_in hv _ hs a h, rfl⟩),
      fun h => hnew ((hG.labels _).2 ⟨_, hG.iter_partner_in hv _ hs a h, (partner_spec l hv _ hs).2.2.1⟩)⟩
  refine ⟨hfresh, ?_, ?_, ?_, ?_, ?_⟩
  · intro h hh
    rcases List.mem_append.1 hh with a | a
    · exact hG.he h a
    · exact hall h a
  · intro h hh
    rcases List.mem_append.1 hh with a | a
    · exact List.mem_append_left _ (hG.fwd h a)
    · exact List.mem_append_right _ (vfwd h a)
  · intro h hh
    rcases List.mem_append.1 hh with a | a
    · obtain ⟨y, hy, e⟩ := hG.bwd h a
      exact ⟨y, List.mem_append_left _ hy, e⟩
    · obtain ⟨y, hy, e⟩ := vbwd h a
      exact ⟨y, List.mem_append_right _ hy, e⟩
  · intro e
    rw [List.mem_append, List.mem_reverse, List.mem_map, hG.labels]
    constructor
    · rintro (⟨h, hh, rfl⟩ | ⟨h, hh, rfl⟩)
      · rcases List.mem_append.1 hh with a | a
        · exact ⟨h, List.mem_append_right _ (List.mem_reverse.1 a), rfl⟩
        · exact ⟨h, List.mem_append_right _ (List.mem_singleton.1 a ▸ hsv), rfl⟩
      · exact ⟨h, List.mem_append_left _ hh, rfl⟩
    · rintro ⟨h, hh, rfl⟩
      rcases List.mem_append.1 hh with a | a
      · exact Or.inr ⟨h, a, rfl⟩
      · exact Or.inl ⟨h, List.mem_append_left _ (List.mem_reverse.2 a), rfl⟩
  · intro h hh hp
    rcases List.mem_append.1 hh with a | a <;> rcases List.mem_append.1 hp with b | b
    · exact hG.nopart h a b
    · exact (partner_partner l hv h (hG.he h a) ▸ (hfresh _ b).2) a
    · exact (hfresh h a).2 b
    · exact orbit_no_partner l hv s hs v h2 h _ a b rfl

end Swept

/-- one complete walk is a sweep that starts from nothing -/
theorem Walk.swept {l : Link} (hv : Valid l) {s : Nat × Nat} (hs : HE l s) {v : List (Nat × Nat)}
    (hw : Walk l s v) : ∃ ps, Swept l ps v ∧ ∀ e, e ∈ ps ↔ e ∈ v.reverse.map (lab l) := by
  obtain ⟨_, hG⟩ := (swept_init l).walk hv hs (fun h => nomatch h) hw
  rw [List.nil_append] at hG
  refine ⟨_, hG, fun e => ?_⟩
  rw [hG.labels, List.map_reverse, List.mem_reverse, List.mem_map]

section schedule
variable {σ : Type} (l : Link) (hv : Valid l) (passed : σ → List Nat) (visit : σ → List (Nat × Nat) → σ)
  (hpv : ∀ st path, passed (visit st path) = (path.map (lab l)).reverse ++ passed st)
  (j0 : Nat) (Q : σ → List (Nat × Nat) → Prop)
  (hQ : ∀ st V s v, Q st V → Swept l (passed st) V → HE l s → lab l s ∉ passed st → Walk l s v →
    (∀ x ∈ v, x ∉ V ∧ partner l x ∉ V) → Swept l (passed (visit st (v.reverse ++ [s]))) (V ++ v) →
    Q (visit st (v.reverse ++ [s])) (V ++ v))
include hv hpv hQ

theorem sweepStep_inv (i0 : Nat) (st : σ) (V : List (Nat × Nat)) (hq : Q st V) (hG : Swept l (passed st) V)
    (hs : HE l (i0, j0)) :
    ∃ st' V', sweepStep l passed visit j0 st i0 = .ok st' ∧ Q st' V' ∧ Swept l (passed st') V' ∧
      (∀ h ∈ V, h ∈ V') ∧ lab l (i0, j0) ∈ passed st' ∧
      (∀ h ∈ V', h ∈ V ∨ ∃ k, h = iter (step l) k (i0, j0)) := by
  unfold sweepStep
  by_cases hcon : (passed st).contains (edgeAt l i0 j0) = true
  · rw [if_pos hcon]
    exact ⟨st, V, rfl, hq, hG, fun _ h => h, List.contains_iff_mem.1 hcon, fun _ h => Or.inl h⟩
  · rw [if_neg hcon]
    have hnew : lab l (i0, j0) ∉ passed st := fun hm => hcon (List.contains_iff_mem.2 hm)
    obtain ⟨v, htr, hw⟩ := traverse_valid l hv (i0, j0) hs
    rw [htr]
    obtain ⟨hfresh, hG'⟩ := hG.walk hv hs hnew hw
    rw [← hpv] at hG'
    refine ⟨_, V ++ v, rfl, hQ st V _ v hq hG hs hnew hw hfresh hG', hG', fun h hh => List.mem_append_left _ hh,
      (hG'.labels _).2 ⟨_, List.mem_append_right _ hw.chain.start_mem, rfl⟩, fun h hh => ?_⟩
    rcases List.mem_append.1 hh with a | a
    · exact Or.inl a
    · exact Or.inr (hw.chain.mem_iter h a)

/-- one pass `for i0 in 0..n`; the last clause records the order in which the walks are started: slot `(i0, j0)`
is visited unless the other end of its edge was visited before, from an earlier index -/
theorem sweepPass_inv (hj : j0 < 4) (st : σ) (V : List (Nat × Nat)) (hq : Q st V) (hG : Swept l (passed st) V) :
    ∃ st' V', (List.range l.length).foldlM (sweepStep l passed visit j0) st = .ok st' ∧ Q st' V' ∧
      Swept l (passed st') V' ∧ (∀ h ∈ V, h ∈ V') ∧ (∀ i, i < l.length → lab l (i, j0) ∈ passed st') ∧
      (∀ h ∈ V', h ∈ V ∨ ∃ i, i < l.length ∧ ∃ k, h = iter (step l) k (i, j0)) ∧
      (∀ i0, i0 < l.length →
        (i0, j0) ∈ V' ∨ partner l (i0, j0) ∈ V ∨
          ∃ i, i < i0 ∧ ∃ k, partner l (i0, j0) = iter (step l) k (i, j0)) := by
  have key := Res.foldlM_sat (pn := False) (er := False) (f := sweepStep l passed visit j0)
    (l := List.range l.length)
    (fun pre st' => ∃ V', Q st' V' ∧ Swept l (passed st') V' ∧ (∀ h ∈ V, h ∈ V') ∧
      (∀ i ∈ pre, lab l (i, j0) ∈ passed st') ∧
      (∀ h ∈ V', h ∈ V ∨ ∃ i ∈ pre, ∃ k, h = iter (step l) k (i, j0)) ∧
      (∀ i0 ∈ pre, (i0, j0) ∈ V' ∨ partner l (i0, j0) ∈ V ∨
        ∃ i ∈ pre, i < i0 ∧ ∃ k, partner l (i0, j0) = iter (step l) k (i, j0)))
    ?_ (s := st) ⟨V, hq, hG, fun _ h => h, fun _ h => (nomatch h), fun _ h => Or.inl h, fun _ h => (nomatch h)⟩
  · obtain ⟨st', h1, V', h2, h3, h4, h5, h6, h7⟩ := Res.sat_total.1 key
    refine ⟨st', V', h1, h2, h3, h4, fun i hi => h5 i (List.mem_range.2 hi), fun h hh => ?_, fun i0 hi0 => ?_⟩
    · exact (h6 h hh).imp_right fun ⟨i, hi, a⟩ => ⟨i, List.mem_range.1 hi, a⟩
    · exact (h7 i0 (List.mem_range.2 hi0)).imp_right (Or.imp_right fun ⟨i, _, a⟩ => ⟨i, a⟩)
  · intro pre x post s e ⟨Vs, qs, Gs, ms, cs, os, fs⟩
    have hxs : HE l (x, j0) :=
      ⟨List.mem_range.1 (e ▸ List.mem_append_right _ List.mem_cons_self), hj⟩
    -- the indices are visited in increasing order
    have hlt : ∀ i ∈ pre, i < x := fun i hi =>
      (List.pairwise_append.1 (e ▸ List.pairwise_lt_range)).2.2 i hi x List.mem_cons_self
    obtain ⟨s1, V1, e1, q1, G1, m1, c1, o1⟩ := sweepStep_inv l hv passed visit hpv j0 Q hQ x s Vs qs Gs hxs
    rw [e1]
    have hpre : ∀ {i}, i ∈ pre → i ∈ pre ++ [x] := fun hi => List.mem_append_left _ hi
    refine ⟨V1, q1, G1, fun h hh => m1 h (ms h hh), fun i hi => ?_, fun h hh => ?_, fun i0 hi0 => ?_⟩
    · rcases List.mem_append.1 hi with hi | hi
      · obtain ⟨h, hh, hl⟩ := (Gs.labels _).1 (cs i hi)
        exact (G1.labels _).2 ⟨h, m1 h hh, hl⟩
      · rw [List.mem_singleton.1 hi]; exact c1
    · rcases o1 h hh with a | a
      · exact (os h a).imp_right fun ⟨i, hi, b⟩ => ⟨i, hpre hi, b⟩
      · exact Or.inr ⟨x, List.mem_append_right _ List.mem_cons_self, a⟩
    · rcases List.mem_append.1 hi0 with hi0 | hi0
      · rcases fs i0 hi0 with a | a | ⟨i, hi, b⟩
        · exact Or.inl (m1 _ a)
        · exact Or.inr (Or.inl a)
        · exact Or.inr (Or.inr ⟨i, hpre hi, b⟩)
      · rw [List.mem_singleton.1 hi0]
        rcases G1.of_label hv _ hxs c1 with a | a
        · exact Or.inl a
        · rcases o1 _ a with b | ⟨k, b⟩
          · rcases os _ b with c | ⟨i, hi, c⟩
            · exact Or.inr (Or.inl c)
            · exact Or.inr (Or.inr ⟨i, hpre hi, hlt i hi, c⟩)
          · exact absurd (b.trans (congrArg (iter (step l) · (x, j0)) (Nat.zero_add k).symm))
              ((no_flip l hv (x, j0) hxs k).1 0)

end schedule

end Yuiv.C18
