import Yuiv.Model.C05Engine
import Yuiv.Proofs.C05
import Yuiv.Proofs.C05EngineGraph
/-
C05 (engine) — what the REAL edge algebra `lcOps h t` (linear combinations of cobordisms, `Lc<Cob, R>`) provably
satisfies of the ring-like hypotheses used by the `d ∘ d = 0` theorems.

`LcCob R` is not a ring (composition is partial, results are `Res`, lists are order-dependent), so the hypotheses are
checked through an arbitrary SEMANTICS: an additive invariant `φ : Cob → S` into an `R`-module that respects the Rust
equality of `Cob` (`cobEq`); `lcVal φ f = Σ r • φ(cob)` is the value of a linear combination.  Every `Lc` combinator is
linear for every such `φ`, and the operations on linear combinations are the (bi)linear extensions of the cobordism-level
ones; what remains are identities about single cobordisms, listed in `Props/C05EngineLc.lean`.
-/
namespace Yuiv.C05.Engine
open Yuiv.C05.Tng

section
variable {R S : Type} [CommRing R] [CoefU R] [LawfulCoef R] [AddCommGroup S] [Module R S]

/-- the value of a linear combination under an additive invariant of cobordisms: `sem` of `Proofs/C05` on the
key type `Cob` (`lcClean`, `lcSmul` are `clean`, `smul` there; the insertions differ: keys are compared with `cobEq`) -/
def lcVal (φ : Cob → S) (f : LcCob R) : S := (f.map (fun p => p.2 • φ p.1)).sum

def Respects (φ : Cob → S) : Prop := ∀ k k' : Cob, cobEq k' k = true → φ k' = φ k

omit [CoefU R] [LawfulCoef R] in
@[simp] theorem lcVal_nil (φ : Cob → S) : lcVal φ ([] : LcCob R) = 0 := rfl
omit [CoefU R] [LawfulCoef R] in
@[simp] theorem lcVal_cons (φ : Cob → S) (p : Cob × R) (l : LcCob R) :
    lcVal φ (p :: l) = p.2 • φ p.1 + lcVal φ l := sem_cons φ p l
omit [CoefU R] [LawfulCoef R] in
theorem lcVal_append (φ : Cob → S) (a b : LcCob R) : lcVal φ (a ++ b) = lcVal φ a + lcVal φ b := by
  simp [lcVal]

theorem lcVal_insert (φ : Cob → S) (hφ : Respects φ) (l : LcCob R) (k : Cob) (r : R) :
    lcVal φ (lcInsert l k r) = lcVal φ l + r • φ k := by
  induction l with
  | nil => simp [lcInsert]
  | cons a l ih =>
    unfold lcInsert; split
    · rename_i h
      simp only [lcVal_cons, LawfulCoef.add_eq, add_smul, hφ k a.1 h]; abel
    · simp only [lcVal_cons, ih]; abel

theorem lcVal_addPair (φ : Cob → S) (hφ : Respects φ) (l : LcCob R) (k : Cob) (r : R) :
    lcVal φ (lcAddPair l k r) = lcVal φ l + r • φ k := by
  unfold lcAddPair; split
  · rename_i h; rw [LawfulCoef.isZero_sound r h]; simp
  · exact lcVal_insert φ hφ l k r

theorem lcVal_clean (φ : Cob → S) (l : LcCob R) : lcVal φ (lcClean l) = lcVal φ l := sem_clean φ l

theorem lcVal_foldl (φ : Cob → S) (hφ : Respects φ) (b a : LcCob R) :
    lcVal φ (b.foldl (fun acc p => lcAddPair acc p.1 p.2) a) = lcVal φ a + lcVal φ b := by
  induction b generalizing a with
  | nil => simp
  | cons q b ih => simp only [List.foldl_cons, ih, lcVal_addPair φ hφ, lcVal_cons]; abel

/-- `collect()` keeps the value: merging `Eq`-equal keys and dropping zeros is invisible to `φ` -/
theorem lcVal_collect (φ : Cob → S) (hφ : Respects φ) (ps : List (Cob × R)) :
    lcVal φ (lcCollect ps) = lcVal φ ps := by
  unfold lcCollect; rw [lcVal_clean, lcVal_foldl φ hφ]; simp

theorem lcVal_add (φ : Cob → S) (hφ : Respects φ) (a b : LcCob R) :
    lcVal φ (lcAdd a b) = lcVal φ a + lcVal φ b := by
  unfold lcAdd; rw [lcVal_clean, lcVal_foldl φ hφ]

omit [CoefU R] [LawfulCoef R] in
theorem lcVal_map_coef (φ : Cob → S) (g : R → R) (c : R) (hg : ∀ r, g r = c * r) (a : LcCob R) :
    lcVal φ (a.map (fun p => (p.1, g p.2))) = c • lcVal φ a := sem_map_coef φ g c hg a

theorem lcVal_neg (φ : Cob → S) (hφ : Respects φ) (a : LcCob R) : lcVal φ (lcNeg a) = - lcVal φ a := by
  unfold lcNeg
  rw [lcVal_collect φ hφ, lcVal_map_coef φ (fun r => Coef.neg r) (-1) (by intro r; simp [LawfulCoef.neg_eq])]
  simp

theorem lcVal_sub (φ : Cob → S) (hφ : Respects φ) (a b : LcCob R) :
    lcVal φ (lcSub a b) = lcVal φ a - lcVal φ b := by
  unfold lcSub
  rw [lcVal_clean]
  have : ∀ (b a : LcCob R), lcVal φ (b.foldl (fun acc p => lcAddPair acc p.1 (Coef.neg p.2)) a)
      = lcVal φ a - lcVal φ b := by
    intro b
    induction b with
    | nil => intro a; simp
    | cons q b ih =>
      intro a
      rw [List.foldl_cons, ih, lcVal_addPair φ hφ, lcVal_cons, LawfulCoef.neg_eq, neg_smul]
      abel
  exact this b a

theorem lcVal_smul (φ : Cob → S) (a : LcCob R) (r : R) : lcVal φ (lcSmul a r) = r • lcVal φ a := sem_smul φ a r

theorem lcVal_sum (φ : Cob → S) (hφ : Respects φ) (ls : List (LcCob R)) :
    lcVal φ (lcSum ls) = (ls.map (lcVal φ)).sum := by
  unfold lcSum
  have : ∀ (ls : List (LcCob R)) (acc : LcCob R), lcVal φ (ls.foldl lcAdd acc) = lcVal φ acc + (ls.map (lcVal φ)).sum := by
    intro ls
    induction ls with
    | nil => intro acc; simp
    | cons l ls ih => intro acc; simp only [List.foldl_cons, ih, lcVal_add φ hφ, List.map_cons, List.sum_cons]; abel
  simpa using this ls []

theorem lcVal_fromPair (φ : Cob → S) (hφ : Respects φ) (k : Cob) (r : R) :
    lcVal φ (lcFromPair k r : LcCob R) = r • φ k := by
  unfold lcFromPair; rw [lcVal_collect φ hφ]; simp

theorem lcVal_single (φ : Cob → S) (hφ : Respects φ) (k : Cob) : lcVal φ (lcSingle k : LcCob R) = φ k := by
  unfold lcSingle; rw [lcVal_fromPair φ hφ, LawfulCoef.one_eq, one_smul]

/-- `map` / `modify` followed by `collect()`: the linear extension of the map on cobordisms (`G` = the map where it
does not panic; with `zeroOut`, `φ` must vanish on cobordisms with `is_zero_cob`) -/
theorem lcVal_mapGens (φ : Cob → S) (hφ : Respects φ) (zeroOut : Bool) (f : Cob → Res Cob) (G : Cob → Cob)
    (a c : LcCob R) (hG : ∀ p ∈ a, f p.1 = .ok (G p.1))
    (hz : zeroOut = true → ∀ k, Cob.isZeroCob k = true → φ k = 0)
    (h : lcMapGens zeroOut f a = .ok c) : lcVal φ c = lcVal (fun k => φ (G k)) a := by
  unfold lcMapGens at h
  split at h
  · rename_i ps hps
    cases h
    rw [lcVal_collect φ hφ, mapMRes_eq_map _ (fun p => (G p.1, if zeroOut && Cob.isZeroCob (G p.1) then Coef.zero else p.2))
      a ps (fun p hp => by simp only [hG p hp]) hps]
    clear hps hG
    induction a with
    | nil => rfl
    | cons p a ih =>
      rw [List.map_cons, lcVal_cons, lcVal_cons, ih]
      congr 1
      simp only
      split
      · rename_i hc
        simp only [Bool.and_eq_true] at hc
        rw [LawfulCoef.zero_eq, zero_smul, hz hc.1 _ hc.2, smul_zero]
      · rfl
  · cases h
  · cases h

def bilVal (φ : Cob → S) (G : Cob → Cob → Cob) (a b : LcCob R) : S :=
  lcVal (fun x => lcVal (fun y => φ (G x y)) b) a

omit [CoefU R] [LawfulCoef R] in
theorem lcVal_smul_fun (ψ : Cob → S) (r : R) (b : LcCob R) :
    lcVal (fun y => r • ψ y) b = r • lcVal ψ b := by
  induction b with
  | nil => simp
  | cons q b ih => simp only [lcVal_cons, ih, smul_add, smul_comm q.2 r]

theorem lcVal_row (φ : Cob → S) (G : Cob → Cob → Cob) (x : Cob × R) (b : LcCob R) :
    lcVal φ (b.map (fun y => (G x.1 y.1, Coef.mul x.2 y.2))) = x.2 • lcVal (fun y => φ (G x.1 y)) b := by
  induction b with
  | nil => simp
  | cons y b ih =>
    rw [List.map_cons, lcVal_cons, lcVal_cons, ih]
    simp only [LawfulCoef.mul_eq, smul_add, mul_smul]

theorem lcVal_pairs (φ : Cob → S) (G : Cob → Cob → Cob) (a b : LcCob R) :
    lcVal φ ((a.flatMap (fun x => b.map (fun y => (x, y)))).map
      (fun xy => (G xy.1.1 xy.2.1, Coef.mul xy.1.2 xy.2.2))) = bilVal φ G a b := by
  unfold bilVal
  induction a with
  | nil => rfl
  | cons x a ih =>
    rw [List.flatMap_cons, List.map_append, lcVal_append, ih, lcVal_cons, List.map_map]
    exact congrArg (· + _) (lcVal_row φ G x b)

theorem lcVal_combine (φ : Cob → S) (hφ : Respects φ) (F : Cob → Cob → Res Cob) (G : Cob → Cob → Cob)
    (a b c : LcCob R) (hG : ∀ x ∈ a, ∀ y ∈ b, F x.1 y.1 = .ok (G x.1 y.1))
    (h : lcCombine F a b = .ok c) : lcVal φ c = bilVal φ G a b := by
  unfold lcCombine at h
  simp only at h
  split at h
  · rename_i ps hps
    cases h
    rw [lcVal_collect φ hφ, mapMRes_eq_map _ (fun xy => (G xy.1.1 xy.2.1, Coef.mul xy.1.2 xy.2.2)) _ ps ?_ hps]
    · exact lcVal_pairs φ G a b
    · intro xy hxy
      obtain ⟨x, hx, hxy⟩ := List.mem_flatMap.1 hxy
      obtain ⟨y, hy, rfl⟩ := List.mem_map.1 hxy
      simp only [hG x hx y hy]
  · cases h
  · cases h

end
end Yuiv.C05.Engine
