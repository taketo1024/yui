import Yuiv.Proofs.C10Spec
import Yuiv.Proofs.C15
import Mathlib.Data.Matrix.Mul
import Mathlib.Algebra.BigOperators.Fin
import Mathlib.Tactic.Ring
import Mathlib.Tactic.Linarith
/-
Spec definitions and helper lemmas for C10: the specs of the checkers, the transform invariant
`Tr.Inv` and its preservation by the row primitives, `Reach` (every returning run is a sequence of primitives), the rounding
quotient.  What the primitives and the control flow of the model do when they return is said in `Proofs/C10Spec.lean`.
-/
namespace Yuiv.C10
open Yuiv Res Finset

theorem allLt_iff (n : Nat) (p : Nat → Bool) : allLt n p = true ↔ ∀ i < n, p i = true := by
  simp [allLt, List.all_eq_true]

theorem foldr_range_eq_sum {α M : Type} [AddCommMonoid M] (g : α → M) {add : α → α → α} {z : α} (hz : g z = 0)
    (hadd : ∀ x y, g (add x y) = g x + g y) (n : Nat) (f : Nat → α) :
    g (((List.range n).map f).foldr add z) = ∑ i ∈ range n, g (f i) := by
  have h : ∀ l : List α, g (l.foldr add z) = (l.map g).sum := by
    intro l
    induction l with
    | nil => exact hz
    | cons a t ih => rw [List.foldr_cons, hadd, ih, List.map_cons, List.sum_cons]
  rw [h, List.map_map]
  -- `∑ i ∈ range n` unfolds to the sum of the list `List.range n`
  rfl

theorem sumLt_eq (n : Nat) (f : Nat → Int) : sumLt n f = ∑ i ∈ range n, f i :=
  foldr_range_eq_sum id rfl (fun _ _ => rfl) n f

theorem sumLtQ_eq (n : Nat) (f : Nat → ℚ) : sumLtQ n f = ∑ i ∈ range n, f i :=
  foldr_range_eq_sum id rfl (fun _ _ => rfl) n f

theorem ent_idMat {m i j : Nat} (hi : i < m) (hj : j < m) : ent (idMat m) i j = if i = j then 1 else 0 := by
  simp [idMat, ent_mkMat _ hi hj]

def toMatrix (m n : Nat) (A : Mat) : Matrix (Fin m) (Fin n) ℤ := fun i j => ent A i.val j.val

/-- `P·A = T` entrywise on the index range: `∑_{k<l} P r k · A k c = T r c` for `r < m`, `c < n` -/
def PAeq (m l n : Nat) (P A T : Nat → Nat → Int) : Prop :=
  ∀ r < m, ∀ c < n, ∑ k ∈ range l, P r k * A k c = T r c

theorem PAeq_iff_matrix (m l n : Nat) (P A T : Mat) :
    PAeq m l n (ent P) (ent A) (ent T) ↔ toMatrix m l P * toMatrix l n A = toMatrix m n T := by
  constructor
  · intro h
    ext i j
    rw [Matrix.mul_apply]
    have := h i.val i.isLt j.val j.isLt
    rw [← Fin.sum_univ_eq_sum_range (fun k => ent P i.val k * ent A k j.val)] at this
    exact this
  · intro h r hr c hc
    have := congrFun (congrFun h ⟨r, hr⟩) ⟨c, hc⟩
    rw [Matrix.mul_apply] at this
    rw [← Fin.sum_univ_eq_sum_range (fun k => ent P r k * ent A k c)]
    exact this

theorem toMatrix_idMat (m : Nat) : toMatrix m m (idMat m) = 1 := by
  ext i j
  simp [toMatrix, ent_idMat i.isLt j.isLt, Matrix.one_apply, Fin.ext_iff]

theorem mulEq_iff (m l n : Nat) (P A B : Mat) :
    mulEq m l n P A B = true ↔ PAeq m l n (ent P) (ent A) (ent B) := by
  simp [mulEq, allLt_iff, mulEnt, sumLt_eq, PAeq]

/-- Row echelon form with positive pivots, zeros below and reduced entries above the pivots.
`lead i` is the leading column of row `i` (`n` for a zero row). -/
structure IsHnf (m n : Nat) (H : Nat → Nat → Int) (lead : Nat → Nat) : Prop where
  le : ∀ i < m, lead i ≤ n
  zero_left : ∀ i < m, ∀ j < lead i, H i j = 0
  pivot_pos : ∀ i < m, lead i < n → 0 < H i (lead i)
  strict : ∀ i < m, ∀ i' < m, i < i' → lead i < n → lead i < lead i'
  zero_last : ∀ i < m, ∀ i' < m, i < i' → lead i = n → lead i' = n
  below : ∀ i < m, ∀ i' < m, i < i' → lead i < n → H i' (lead i) = 0
  above : ∀ i < m, ∀ i' < i, lead i < n → (H i' (lead i)) ^ 2 < (H i (lead i)) ^ 2

theorem isHnf_complete' (m n : Nat) (H : Mat) (h : IsHnf m n (ent H) (leadCol n H)) : isHnf m n H = true := by
  simp only [isHnf, allLt_iff, Bool.and_eq_true, Bool.or_eq_true, Bool.not_eq_true', decide_eq_true_eq,
    decide_eq_false_iff_not, beq_iff_eq]
  intro i hi
  refine ⟨⟨⟨h.le i hi, ?_⟩, ?_⟩, ?_⟩
  · intro j _
    by_cases hj : j < leadCol n H i
    · exact Or.inr (h.zero_left i hi j hj)
    · exact Or.inl hj
  · by_cases hl : leadCol n H i < n
    · refine Or.inr ⟨h.pivot_pos i hi hl, ?_⟩
      intro i' hi'
      by_cases h1 : i < i'
      · rw [if_pos h1]
        simp only [Bool.and_eq_true, decide_eq_true_eq, beq_iff_eq]
        exact ⟨h.strict i hi i' hi' h1 hl, h.below i hi i' hi' h1 hl⟩
      · rw [if_neg h1]
        by_cases h2 : i' < i
        · rw [if_pos h2]
          simp only [decide_eq_true_eq]
          have := h.above i hi i' h2 hl
          rw [pow_two, pow_two] at this
          exact this
        · rw [if_neg h2]
    · exact Or.inl hl
  · by_cases hl : leadCol n H i = n
    · refine Or.inr ?_
      intro i' hi'
      by_cases h1 : i < i'
      · exact Or.inr (h.zero_last i hi i' hi' h1 hl)
      · exact Or.inl h1
    · exact Or.inl (by simp [hl])

/-- `(bs, mu)` is the Gram–Schmidt decomposition of the (independent) rows of `B`:
`b_i = b*_i + Σ_{j<i} μ_ij b*_j`, the `b*_i` pairwise orthogonal and non-zero. -/
structure IsGS (m n : Nat) (B : Nat → Nat → Int) (bs mu : Nat → Nat → ℚ) : Prop where
  decomp : ∀ i < m, ∀ c < n, (B i c : ℚ) = bs i c + ∑ j ∈ range i, mu i j * bs j c
  orth : ∀ i < m, ∀ j < i, ∑ c ∈ range n, bs i c * bs j c = 0
  pos : ∀ i < m, 0 < ∑ c ∈ range n, bs i c * bs i c

/-- size-reduced and Lovász with constant `α` -/
def IsLLLReduced (m n : Nat) (B : Nat → Nat → Int) (α : ℚ) : Prop :=
  ∃ bs mu : Nat → Nat → ℚ, IsGS m n B bs mu ∧
    (∀ i < m, ∀ j < i, |mu i j| ≤ 1 / 2) ∧
    (∀ k, 0 < k → k < m →
      (α - mu k (k - 1) ^ 2) * (∑ c ∈ range n, bs (k - 1) c * bs (k - 1) c) ≤ ∑ c ∈ range n, bs k c * bs k c)

theorem reducedWith_sound (m n : Nat) (B : Mat) (p q : Int) (bs mu : QMat)
    (h : reducedWith m n B p q bs mu = true) :
    IsGS m n (ent B) (entQ bs) (entQ mu) ∧
    (∀ i < m, ∀ j < i, |entQ mu i j| ≤ 1 / 2) ∧
    (∀ k, 0 < k → k < m →
      ((p : ℚ) / (q : ℚ) - entQ mu k (k - 1) ^ 2) * (∑ c ∈ range n, entQ bs (k - 1) c * entQ bs (k - 1) c)
        ≤ ∑ c ∈ range n, entQ bs k c * entQ bs k c) := by
  simp only [reducedWith, allLt_iff, Bool.and_eq_true, Bool.or_eq_true, decide_eq_true_eq, beq_iff_eq,
    sumLtQ_eq] at h
  obtain ⟨⟨⟨⟨h1, h2⟩, h3⟩, h4⟩, h5⟩ := h
  refine ⟨⟨h1, h2, h3⟩, ?_, ?_⟩
  · intro i hi j hj
    rw [abs_le]
    exact h4 i hi j hj
  · intro k hk0 hk
    rcases h5 k hk with h | h
    · omega
    · rw [pow_two]; exact h

theorem IsGS.orth_ne {m n : Nat} {B : Nat → Nat → Int} {bs mu : Nat → Nat → ℚ} (h : IsGS m n B bs mu)
    {j k : Nat} (hj : j < m) (hk : k < m) (hjk : j ≠ k) : ∑ c ∈ range n, bs j c * bs k c = 0 := by
  rcases Nat.lt_or_gt_of_ne hjk with h1 | h1
  · rw [Finset.sum_congr rfl (fun c _ => mul_comm (bs j c) (bs k c))]
    exact h.orth k hk j h1
  · exact h.orth j hj k h1

theorem IsGS.inner_eq {m n : Nat} {B : Nat → Nat → Int} {bs mu : Nat → Nat → ℚ} (h : IsGS m n B bs mu)
    {i k : Nat} (hi : i < m) (hk : k < i) :
    ∑ c ∈ range n, (B i c : ℚ) * bs k c = mu i k * ∑ c ∈ range n, bs k c * bs k c := by
  have hkm : k < m := lt_trans hk hi
  calc ∑ c ∈ range n, (B i c : ℚ) * bs k c
      = ∑ c ∈ range n, (bs i c * bs k c + ∑ j ∈ range i, mu i j * (bs j c * bs k c)) := by
        refine Finset.sum_congr rfl (fun c hc => ?_)
        rw [h.decomp i hi c (mem_range.mp hc), add_mul, Finset.sum_mul]
        congr 1
        exact Finset.sum_congr rfl (fun j _ => by ring)
    _ = ∑ c ∈ range n, bs i c * bs k c + ∑ j ∈ range i, mu i j * ∑ c ∈ range n, bs j c * bs k c := by
        rw [Finset.sum_add_distrib, Finset.sum_comm]
        congr 1
        exact Finset.sum_congr rfl (fun j _ => by rw [Finset.mul_sum])
    _ = ∑ j ∈ range i, (if j = k then mu i k * ∑ c ∈ range n, bs k c * bs k c else 0) := by
        rw [h.orth i hi k hk, zero_add]
        refine Finset.sum_congr rfl (fun j hj => ?_)
        by_cases hjk : j = k
        · rw [if_pos hjk, hjk]
        · rw [if_neg hjk, h.orth_ne (lt_trans (mem_range.mp hj) hi) hkm hjk, mul_zero]
    _ = mu i k * ∑ c ∈ range n, bs k c * bs k c := by
        rw [Finset.sum_ite_eq' (range i) k]
        simp [hk]

theorem IsGS.unique {m n : Nat} {B : Nat → Nat → Int} {bs mu bs' mu' : Nat → Nat → ℚ}
    (h : IsGS m n B bs mu) (h' : IsGS m n B bs' mu') :
    ∀ i < m, (∀ c < n, bs i c = bs' i c) ∧ (∀ j < i, mu i j = mu' i j) := by
  intro i
  induction i using Nat.strong_induction_on with
  | _ i ih =>
    intro hi
    have hmu : ∀ k < i, mu i k = mu' i k := by
      intro k hk
      have hkm : k < m := lt_trans hk hi
      have e1 := h.inner_eq hi hk
      have e2 := h'.inner_eq hi hk
      have hbk : ∀ c ∈ range n, bs' k c = bs k c := fun c hc => ((ih k hk hkm).1 c (mem_range.mp hc)).symm
      have s1 : ∑ c ∈ range n, (B i c : ℚ) * bs' k c = ∑ c ∈ range n, (B i c : ℚ) * bs k c :=
        Finset.sum_congr rfl (fun c hc => by rw [hbk c hc])
      have s2 : ∑ c ∈ range n, bs' k c * bs' k c = ∑ c ∈ range n, bs k c * bs k c :=
        Finset.sum_congr rfl (fun c hc => by rw [hbk c hc])
      rw [s1, s2] at e2
      have hpos := h.pos k hkm
      have := e1.symm.trans e2
      exact mul_right_cancel₀ (ne_of_gt hpos) this
    refine ⟨?_, hmu⟩
    intro c hc
    have d1 := h.decomp i hi c hc
    have d2 := h'.decomp i hi c hc
    have : ∑ j ∈ range i, mu i j * bs j c = ∑ j ∈ range i, mu' i j * bs' j c := by
      refine Finset.sum_congr rfl (fun j hj => ?_)
      have hj' := mem_range.mp hj
      rw [hmu j hj', (ih j hj' (lt_trans hj' hi)).1 c hc]
    rw [this] at d1
    linarith

theorem sw_lt {m i j r : Nat} (hi : i < m) (hj : j < m) (hr : r < m) : sw i j r < m := by
  unfold sw; split_ifs <;> omega

theorem sw_sw (i j r : Nat) : sw i j (sw i j r) = r := by
  have e : sw i j r = if r = i then j else if r = j then i else r := rfl
  by_cases h1 : r = i
  · rw [e, if_pos h1, sw]
    by_cases h2 : j = i
    · rw [if_pos h2, h2, h1]
    · rw [if_neg h2, if_pos rfl, h1]
  · by_cases h2 : r = j
    · rw [e, if_neg h1, if_pos h2, sw, if_pos rfl, h2]
    · rw [e, if_neg h1, if_neg h2, e, if_neg h1, if_neg h2]

theorem sw_inj (i j r c : Nat) : sw i j r = sw i j c ↔ r = c :=
  ⟨fun h => by have := congrArg (sw i j) h; rwa [sw_sw, sw_sw] at this, fun h => by rw [h]⟩

def kron (r c : Nat) : Int := if r = c then 1 else 0

/-- the transform invariant w.r.t. the input `A`: `target = p·A` and `p·pinv = I`, entrywise -/
structure Tr.Inv (A : Mat) (t : Tr) : Prop where
  pa : PAeq t.m t.m t.n (ent t.p) (ent A) (ent t.target)
  pp : PAeq t.m t.m t.m (ent t.p) (ent t.pinv) kron

theorem Tr.swapRows_inv (A : Mat) (t t' : Tr) (i j : Nat) (h : t.swapRows i j = ok t') (hI : t.Inv A) :
    t'.Inv A ∧ t'.m = t.m ∧ t'.n = t.n := by
  obtain ⟨hi, hj, S⟩ := Tr.swapRows_spec h
  refine ⟨⟨?_, ?_⟩, S.m, S.n⟩
  · unfold PAeq
    rw [S.m, S.n]
    intro r hr c hc
    rw [S.target r hr c hc, Finset.sum_congr rfl (fun k hk => by rw [S.p r hr k (mem_range.mp hk)])]
    exact hI.pa (sw i j r) (sw_lt hi hj hr) c hc
  · unfold PAeq
    rw [S.m]
    intro r hr c hc
    rw [Finset.sum_congr rfl (fun k hk => by rw [S.p r hr k (mem_range.mp hk), S.pinv k (mem_range.mp hk) c hc])]
    have := hI.pp (sw i j r) (sw_lt hi hj hr) (sw i j c) (sw_lt hi hj hc)
    simp only [kron, sw_inj] at this
    exact this

theorem Tr.mulRow_inv (A : Mat) (t t' : Tr) (i : Nat) (u : Int) (h : t.mulRow i u = ok t') (hI : t.Inv A) :
    t'.Inv A ∧ t'.m = t.m ∧ t'.n = t.n := by
  obtain ⟨hu, _, S⟩ := Tr.mulRow_spec h
  have huu : u * u = 1 := by rcases hu with rfl | rfl <;> rfl
  refine ⟨⟨?_, ?_⟩, S.m, S.n⟩
  · unfold PAeq
    rw [S.m, S.n]
    intro r hr c hc
    rw [S.target r hr c hc, Finset.sum_congr rfl (fun k hk => by rw [S.p r hr k (mem_range.mp hk)])]
    have e := hI.pa r hr c hc
    by_cases hri : r = i
    · rw [if_pos hri, ← e, Finset.sum_mul]
      exact Finset.sum_congr rfl (fun k _ => by rw [if_pos hri]; ring)
    · rw [if_neg hri, ← e]
      exact Finset.sum_congr rfl (fun k _ => by rw [if_neg hri])
  · unfold PAeq
    rw [S.m]
    intro r hr c hc
    -- row `r` of `p` is scaled by `a`, column `c` of `pinv` by `b`, where `a·b·δ_rc = δ_rc`
    have key : ∀ k ∈ range t.m, ent t'.p r k * ent t'.pinv k c
        = ((if r = i then u else 1) * (if c = i then u else 1)) * (ent t.p r k * ent t.pinv k c) := by
      intro k hk
      rw [S.p r hr k (mem_range.mp hk), S.pinv k (mem_range.mp hk) c hc]
      split_ifs <;> ring
    rw [Finset.sum_congr rfl key, ← Finset.mul_sum, hI.pp r hr c hc, kron]
    by_cases hrc : r = c
    · subst hrc
      rw [if_pos rfl, mul_one]
      split_ifs
      · exact huu
      · rfl
    · rw [if_neg hrc, mul_zero]

theorem Tr.addRowTo_inv (A : Mat) (t t' : Tr) (i k : Nat) (r0 : Int) (h : t.addRowTo i k r0 = ok t')
    (hI : t.Inv A) : t'.Inv A ∧ t'.m = t.m ∧ t'.n = t.n := by
  obtain ⟨hik, hk, S⟩ := Tr.addRowTo_spec h
  have him : i < t.m := lt_trans hik hk
  refine ⟨⟨?_, ?_⟩, S.m, S.n⟩
  · unfold PAeq
    rw [S.m, S.n]
    intro r hr c hc
    rw [S.target r hr c hc, Finset.sum_congr rfl (fun l hl => by rw [S.p r hr l (mem_range.mp hl)])]
    by_cases hrk : r = k
    · rw [if_pos hrk, ← hI.pa r hr c hc, ← hI.pa i him c hc, Finset.sum_mul, ← Finset.sum_add_distrib]
      exact Finset.sum_congr rfl (fun l _ => by rw [if_pos hrk]; ring)
    · rw [if_neg hrk, ← hI.pa r hr c hc]
      exact Finset.sum_congr rfl (fun l _ => by rw [if_neg hrk])
  · unfold PAeq
    rw [S.m]
    intro r hr c hc
    -- with `a = [r = k]·r0`, `b = [c = i]·r0`: `p'·pinv' = δ_rc + a·δ_ic − b·δ_rk − a·b·δ_ik`
    have key : ∀ l ∈ range t.m, ent t'.p r l * ent t'.pinv l c
        = ent t.p r l * ent t.pinv l c + (if r = k then r0 else 0) * (ent t.p i l * ent t.pinv l c)
          - (if c = i then r0 else 0) * (ent t.p r l * ent t.pinv l k)
          - (if r = k then r0 else 0) * (if c = i then r0 else 0) * (ent t.p i l * ent t.pinv l k) := by
      intro l hl
      rw [S.p r hr l (mem_range.mp hl), S.pinv l (mem_range.mp hl) c hc]
      split_ifs <;> ring
    rw [Finset.sum_congr rfl key, Finset.sum_sub_distrib, Finset.sum_sub_distrib, Finset.sum_add_distrib,
      ← Finset.mul_sum, ← Finset.mul_sum, ← Finset.mul_sum, hI.pp r hr c hc, hI.pp i him c hc, hI.pp r hr k hk,
      hI.pp i him k hk]
    rw [show kron i k = 0 from if_neg (by omega), mul_zero, sub_zero]
    by_cases hrk : r = k
    · by_cases hci : c = i
      · rw [if_pos hrk, if_pos hci, hrk, hci, show kron i i = 1 from if_pos rfl, show kron k k = 1 from if_pos rfl]
        ring
      · rw [if_neg hci, zero_mul, sub_zero, show kron i c = 0 from if_neg (Ne.symm hci), mul_zero, add_zero]
    · rw [if_neg hrk, zero_mul, add_zero, show kron r k = 0 from if_neg hrk, mul_zero, sub_zero]
/-- `t'` is obtained from `t` by a sequence of row primitives -/
def Reach (t t' : Tr) : Prop := ∃ ops : List Prim, t.run ops = ok t'

theorem Tr.run_append (a b : List Prim) : ∀ t : Tr, t.run (a ++ b) = (t.run a >>= fun t1 => t1.run b) := by
  induction a with
  | nil => intro t; simp [Tr.run]
  | cons op a ih =>
    intro t
    simp only [List.cons_append, Tr.run]
    cases h : t.apply op with
    | ok t1 => simp [ih t1]
    | panic => simp
    | err => simp

theorem Reach.refl (t : Tr) : Reach t t := ⟨[], rfl⟩
theorem Reach.trans {a b c : Tr} (h1 : Reach a b) (h2 : Reach b c) : Reach a c := by
  obtain ⟨o1, h1⟩ := h1
  obtain ⟨o2, h2⟩ := h2
  exact ⟨o1 ++ o2, by rw [Tr.run_append, h1]; exact h2⟩

theorem Reach.step {t t' : Tr} (op : Prim) (h : t.apply op = ok t') : Reach t t' :=
  ⟨[op], by simp [Tr.run, h]⟩

theorem Data.addRowTo_reach (d d' : Data) (i k : Nat) (r : Int) (h : d.addRowTo i k r = ok d') :
    Reach d.tr d'.tr := Reach.step (.add i k r) (Data.addRowTo_spec h).2.2.2.1

theorem Data.mulRow_reach (d d' : Data) (i : Nat) (r : Int) (h : d.mulRow i r = ok d') :
    Reach d.tr d'.tr := Reach.step (.mul i r) (Data.mulRow_spec h).2.2.1

theorem Data.swap_reach (d d' : Data) (k : Nat) (h : d.swap k = ok d') : Reach d.tr d'.tr :=
  Reach.step (.swap (k - 1) k) (Data.swap_spec h).2.2.2.2.1

theorem Data.reduce_reach (d d' : Data) (i k : Nat) (h : d.reduce i k = ok d') : Reach d.tr d'.tr := by
  obtain ⟨_, _, _, q, _, ⟨_, h⟩ | ⟨_, rfl⟩⟩ := Data.reduce_spec h
  · exact Data.addRowTo_reach d d' i k _ h
  · exact Reach.refl _

theorem Data.mulRowIf_reach (d d' : Data) (i : Nat) (u : Int) (h : d.mulRowIf i u = ok d') : Reach d.tr d'.tr := by
  rcases Data.mulRowIf_spec h with ⟨_, h⟩ | ⟨_, rfl⟩
  · exact Data.mulRow_reach d d' i u h
  · exact Reach.refl _

theorem hnfReduce_reach (d d' : Data) (i k : Nat) (h : hnfReduce d i k = ok d') : Reach d.tr d'.tr := by
  obtain ⟨_, _, ⟨j, d1, q, _, h1, _, h2⟩ | ⟨_, h⟩⟩ := hnfReduce_spec h
  · have r1 := Data.mulRowIf_reach d d1 i _ h1
    rcases h2 with ⟨_, h2⟩ | ⟨_, rfl⟩
    · exact r1.trans (Data.addRowTo_reach d1 d' i k _ h2)
    · exact r1
  · exact Data.reduce_reach d d' i k h

theorem lllIterate_reach (d d' : Data) (h : lllIterate d = ok d') : Reach d.tr d'.tr :=
  iterateWith_preserves (fun x => Reach d.tr x.tr) (fun a a' i k ha hR => hR.trans (Data.reduce_reach a a' i k ha))
    (fun a a' k ha hR => hR.trans (Data.swap_reach a a' k ha)) (fun _ hR => hR)
    (fun a hR => by rw [Data.back_tr]; exact hR) h (Reach.refl _)

theorem hnfIterate_reach (d d' : Data) (h : hnfIterate d = ok d') : Reach d.tr d'.tr :=
  iterateWith_preserves (fun x => Reach d.tr x.tr) (fun a a' i k ha hR => hR.trans (hnfReduce_reach a a' i k ha))
    (fun a a' k ha hR => hR.trans (Data.swap_reach a a' k ha)) (fun _ hR => hR)
    (fun a hR => by rw [Data.back_tr]; exact hR) h (Reach.refl _)

theorem loopWhile_reach (it : Data → Res Data) (hit : ∀ d d', it d = ok d' → Reach d.tr d'.tr)
    (fuel : Nat) (d d' : Data) (h : loopWhile it fuel d = ok d') : Reach d.tr d'.tr :=
  (loopWhile_preserves it (fun x => Reach d.tr x.tr) (fun a a' _ ha hR => hR.trans (hit a a' ha)) fuel d d' h
    (Reach.refl _)).1

theorem Data.setup_tr (d d' : Data) (h : d.setup = ok d') : d'.tr = d.tr := by
  unfold Data.setup at h
  simp only [bind_eq_ok_iff] at h
  obtain ⟨⟨l, dd⟩, _, h⟩ := h
  simp only [pure_eq, Res.ok.injEq] at h
  subst h
  rfl

theorem hnfNormalizeLast_reach (d d' : Data) (h : hnfNormalizeLast d = ok d') : Reach d.tr d'.tr := by
  rcases hnfNormalizeLast_spec h with ⟨j, _, _, h⟩ | ⟨_, rfl⟩
  · exact Data.mulRowIf_reach d d' _ _ h
  · exact Reach.refl _

theorem reverseRows_reach : ∀ (cnt i : Nat) (t t' : Tr), reverseRows t cnt i = ok t' → Reach t t' := by
  intro cnt
  induction cnt with
  | zero => intro i t t' h; simp only [reverseRows, pure_eq, Res.ok.injEq] at h; subst h; exact Reach.refl _
  | succ c ih =>
    intro i t t' h
    simp only [reverseRows] at h
    split at h
    · simp only [pure_eq, Res.ok.injEq] at h; subst h; exact Reach.refl _
    · simp only [bind_eq_ok_iff] at h
      obtain ⟨t1, h1, h2⟩ := h
      exact (Reach.step (.swap _ _) h1).trans (ih _ t1 t' h2)

theorem divRound_eq (a b : Int) : divRound a b = if b = 0 then panic else ok (C15.zDivRoundT a b) := by
  unfold divRound C15.zDivRoundT C15.zDivT C15.zRemT C15.nabs
  by_cases hb : b = 0
  · rw [if_pos hb, if_pos hb]
  · rw [if_neg hb, if_neg hb]
    simp only [gt_iff_lt, pure_eq, apply_ite (ok : Int → Res Int)]

theorem divRound_ne_zero {a b q : Int} (h : divRound a b = ok q) : b ≠ 0 := fun hb => by
  rw [divRound_eq, if_pos hb] at h
  cases h

theorem divRound_abs {a b q : Int} (h : divRound a b = ok q) : 2 * |a - q * b| ≤ |b| := by
  have hb := divRound_ne_zero h
  rw [divRound_eq, if_neg hb] at h
  obtain rfl := ok.inj h
  have := (C15.zdivround_exact a b hb).1
  rwa [C15.iabs_eq_abs, C15.iabs_eq_abs] at this

theorem divRound_spec' (a b q : Int) (h : divRound a b = ok q) :
    b ≠ 0 ∧ 2 * (a - q * b).natAbs ≤ b.natAbs := by
  have := divRound_abs h
  rw [Int.abs_eq_natAbs, Int.abs_eq_natAbs] at this
  exact ⟨divRound_ne_zero h, by exact_mod_cast this⟩

theorem divRound_total' (a b : Int) (hb : b ≠ 0) : ∃ q, divRound a b = ok q :=
  ⟨_, by rw [divRound_eq, if_neg hb]⟩

theorem Data.reduce_lam_le {d d' : Data} {i k : Nat} (h : d.reduce i k = ok d') (hpos : 0 < d.dv i) :
    2 * |ent d'.lam k i| ≤ d.dv i := by
  obtain ⟨hik, hk, _⟩ := Data.reduce_spec h
  obtain ⟨q, hq, hS⟩ := Data.reduce_rowAdd h
  have := divRound_abs hq
  rw [abs_of_pos hpos] at this
  rw [hS.lam k hk i (by omega), if_pos rfl, if_pos rfl, neg_mul, ← sub_eq_add_neg]
  exact this

end Yuiv.C10
