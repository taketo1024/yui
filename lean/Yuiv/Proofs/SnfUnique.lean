import Mathlib.Data.ZMod.Basic
import Mathlib.SetTheory.Cardinal.Finite
import Mathlib.Data.Matrix.Mul
import Mathlib.Algebra.Order.BigOperators.GroupWithZero.Finset
import Mathlib.Algebra.BigOperators.Fin
import Mathlib.LinearAlgebra.Matrix.NonsingularInverse
import Mathlib.GroupTheory.Index
import Mathlib.GroupTheory.OrderOfElement
import Mathlib.Data.ZMod.QuotientGroup
/-
Uniqueness of the Smith normal form over ℤ.  Mathlib has neither this statement nor Cauchy–Binet; the proof is by
COUNTING:

* `nsol q A` = number of solutions `x ∈ (ℤ/q)ⁿ` of `A·x = 0` is invariant under `A ↦ U·A·V` with `U`, `V` invertible
  over ℤ (`nsol_mul`: `x ↦ V·x` is a bijection of the solution sets);
* for a diagonal matrix it is `∏_{i<n} cz (d_i) q`, `cz d q = #{y ∈ ℤ/q | d·y = 0}` (`nsol_diag`; `d_i = 0` for `i ≥ m`);
* `cz d q = gcd(|d|, q)` (`cz_eq_gcd`), of which only `0 < cz d q ≤ q` and `cz d q = q ↔ q ∣ d` are needed:
  if `q ∣ a_0` for a chain `a_0 ∣ a_1 ∣ …` then the product is `qⁿ`, which forces `q ∣ b_i` for all `i` (`head_dvd_of_prod`);
  so `a_0` and `b_0` divide each other, the first factors cancel, induction on `n` (`chain_unique`).
-/
namespace Yuiv.SnfUnique
open Matrix Finset

/-- number of solutions `y ∈ ℤ/q` of `d·y = 0` -/
noncomputable def cz (d : ℤ) (q : ℕ) : ℕ := Nat.card {y : ZMod q // (d : ZMod q) * y = 0}

theorem cz_neg (d : ℤ) (q : ℕ) : cz (-d) q = cz d q := by
  unfold cz
  apply Nat.card_congr
  apply Equiv.subtypeEquivRight
  intro y
  rw [Int.cast_neg, neg_mul, neg_eq_zero]

theorem cz_natAbs (d d' : ℤ) (q : ℕ) (h : d.natAbs = d'.natAbs) : cz d q = cz d' q := by
  rcases Int.natAbs_eq_natAbs_iff.1 h with h | h
  · rw [h]
  · rw [h, cz_neg]

theorem range_mulLeft (q : ℕ) (x : ZMod q) :
    (AddMonoidHom.mulLeft x).range = AddSubgroup.zmultiples x := by
  ext z
  simp only [AddMonoidHom.mem_range, AddMonoidHom.coe_mulLeft, AddSubgroup.mem_zmultiples_iff]
  constructor
  · rintro ⟨y, rfl⟩
    refine ⟨(y.cast : ℤ), ?_⟩
    rw [zsmul_eq_mul, ZMod.intCast_cast, ZMod.cast_id', id, mul_comm]
  · rintro ⟨k, rfl⟩
    exact ⟨(k : ZMod q), by rw [zsmul_eq_mul, mul_comm]⟩

/-- `#{y ∈ ℤ/q | d·y = 0} = gcd(|d|, q)`: the solutions are the kernel of `y ↦ d·y`, whose image is generated by `d`
and has `q / gcd(q, |d|)` elements -/
theorem cz_eq_gcd (d : ℤ) (q : ℕ) [NeZero q] : cz d q = Nat.gcd d.natAbs q := by
  have hq : 0 < q := Nat.pos_of_ne_zero (NeZero.ne q)
  rw [cz_natAbs d (d.natAbs : ℤ) q (Int.natAbs_natCast _).symm]
  generalize d.natAbs = a
  have hk : cz (a : ℤ) q = Nat.card (AddMonoidHom.mulLeft (a : ZMod q)).ker :=
    Nat.card_congr (Equiv.subtypeEquivRight fun y => by
      rw [AddMonoidHom.mem_ker, AddMonoidHom.coe_mulLeft, Int.cast_natCast])
  have h1 := AddSubgroup.card_mul_index (AddMonoidHom.mulLeft (a : ZMod q)).ker
  rw [AddSubgroup.index_ker, range_mulLeft, Nat.card_zmultiples, ZMod.addOrderOf_coe a (NeZero.ne q), Nat.card_zmod,
    ← hk] at h1
  have hg : Nat.gcd q a ∣ q := Nat.gcd_dvd_left q a
  rw [Nat.gcd_comm a q]
  exact Nat.eq_of_mul_eq_mul_right (Nat.div_pos (Nat.le_of_dvd hq hg) (Nat.pos_of_dvd_of_pos hg hq))
    (h1.trans (Nat.mul_div_cancel' hg).symm)

theorem cz_pos (d : ℤ) (q : ℕ) [NeZero q] : 0 < cz d q := by
  rw [cz_eq_gcd]
  exact Nat.gcd_pos_of_pos_right _ (Nat.pos_of_ne_zero (NeZero.ne q))

theorem cz_le (d : ℤ) (q : ℕ) [NeZero q] : cz d q ≤ q := by
  rw [cz_eq_gcd]
  exact Nat.gcd_le_right _ (Nat.pos_of_ne_zero (NeZero.ne q))

theorem cz_eq_iff (d : ℤ) (q : ℕ) [NeZero q] : cz d q = q ↔ (q : ℤ) ∣ d := by
  rw [cz_eq_gcd, Nat.gcd_eq_right_iff_dvd, Int.natCast_dvd]

theorem chain_dvd (a : ℕ → ℤ) (h : ∀ i, a i ∣ a (i + 1)) (i : ℕ) : a 0 ∣ a i := by
  induction i with
  | zero => exact dvd_refl _
  | succ k ih => exact dvd_trans ih (h k)

theorem head_dvd_of_prod (n : ℕ) (a b : ℕ → ℤ) (ha : ∀ i, a i ∣ a (i + 1))
    (hprod : ∀ q : ℕ, 0 < q → ∏ i ∈ range (n + 1), cz (a i) q = ∏ i ∈ range (n + 1), cz (b i) q)
    (q : ℕ) (hq : 0 < q) (hqa : (q : ℤ) ∣ a 0) : (q : ℤ) ∣ b 0 := by
  have : NeZero q := ⟨by omega⟩
  have hall : ∀ i, cz (a i) q = q := fun i => (cz_eq_iff _ q).2 (dvd_trans hqa (chain_dvd a ha i))
  have h1 := hprod q hq
  rw [Finset.prod_congr rfl (fun i _ => hall i)] at h1
  by_contra hnd
  have hlt : cz (b 0) q < q := lt_of_le_of_ne (cz_le _ q) (fun h => hnd ((cz_eq_iff _ q).1 h))
  have := Finset.prod_lt_prod (s := range (n + 1)) (f := fun i => cz (b i) q) (g := fun _ => q)
    (fun i _ => cz_pos _ q) (fun i _ => cz_le _ q) ⟨0, by simp, hlt⟩
  omega

theorem head_dvd (n : ℕ) (a b : ℕ → ℤ) (ha : ∀ i, a i ∣ a (i + 1))
    (hprod : ∀ q : ℕ, 0 < q → ∏ i ∈ range (n + 1), cz (a i) q = ∏ i ∈ range (n + 1), cz (b i) q) :
    a 0 ∣ b 0 := by
  by_cases h0 : a 0 = 0
  · have hb : b 0 = 0 := by
      by_contra hb
      have := head_dvd_of_prod n a b ha hprod ((b 0).natAbs + 1) (by omega) (by rw [h0]; exact dvd_zero _)
      have h2 : ((b 0).natAbs + 1) ∣ (b 0).natAbs := Int.natCast_dvd.1 this
      have := Nat.le_of_dvd (Int.natAbs_pos.2 hb) h2
      omega
    rw [h0, hb]
  · have := head_dvd_of_prod n a b ha hprod (a 0).natAbs (Int.natAbs_pos.2 h0) (Int.natAbs_dvd.2 (dvd_refl _))
    exact Int.natAbs_dvd.1 this

theorem chain_unique (n : ℕ) : ∀ (a b : ℕ → ℤ), (∀ i, a i ∣ a (i + 1)) → (∀ i, b i ∣ b (i + 1)) →
    (∀ q : ℕ, 0 < q → ∏ i ∈ range n, cz (a i) q = ∏ i ∈ range n, cz (b i) q) →
    ∀ i, i < n → (a i).natAbs = (b i).natAbs := by
  induction n with
  | zero => intro a b _ _ _ i hi; omega
  | succ n ih =>
    intro a b ha hb hprod i hi
    have h0 : (a 0).natAbs = (b 0).natAbs :=
      Int.natAbs_eq_of_dvd_dvd (head_dvd n a b ha hprod) (head_dvd n b a hb (fun q hq => (hprod q hq).symm))
    cases i with
    | zero => exact h0
    | succ i =>
      refine ih (fun k => a (k + 1)) (fun k => b (k + 1)) (fun k => ha (k + 1)) (fun k => hb (k + 1)) ?_ i
        (by omega)
      intro q hq
      have : NeZero q := ⟨by omega⟩
      have := hprod q hq
      rw [Finset.prod_range_succ', Finset.prod_range_succ', cz_natAbs _ _ q h0] at this
      exact Nat.eq_of_mul_eq_mul_right (cz_pos _ q) this

variable {m n k : ℕ}

noncomputable def red (q : ℕ) (A : Matrix (Fin m) (Fin n) ℤ) : Matrix (Fin m) (Fin n) (ZMod q) :=
  A.map (Int.castRingHom (ZMod q))

/-- `N_q(A)`: number of `x ∈ (ℤ/q)ⁿ` with `A·x = 0` -/
noncomputable def nsol (q : ℕ) (A : Matrix (Fin m) (Fin n) ℤ) : ℕ :=
  Nat.card {x : Fin n → ZMod q // red q A *ᵥ x = 0}

theorem red_mul (q : ℕ) (A : Matrix (Fin m) (Fin n) ℤ) (B : Matrix (Fin n) (Fin k) ℤ) :
    red q (A * B) = red q A * red q B := Matrix.map_mul

theorem red_one (q : ℕ) : red q (1 : Matrix (Fin n) (Fin n) ℤ) = 1 :=
  Matrix.map_one _ (map_zero _) (map_one _)

theorem nsol_mul (q : ℕ) (U Ui : Matrix (Fin m) (Fin m) ℤ) (V Vi : Matrix (Fin n) (Fin n) ℤ)
    (hU : U * Ui = 1) (hV : V * Vi = 1) (A : Matrix (Fin m) (Fin n) ℤ) :
    nsol q (U * A * V) = nsol q A := by
  have hU1 : red q Ui * red q U = 1 := by rw [← red_mul, mul_eq_one_comm.mp hU, red_one]
  have hV1 : red q V * red q Vi = 1 := by rw [← red_mul, hV, red_one]
  have hV2 : red q Vi * red q V = 1 := by rw [← red_mul, mul_eq_one_comm.mp hV, red_one]
  have hiff : ∀ x : Fin n → ZMod q, red q (U * A * V) *ᵥ x = 0 ↔ red q A *ᵥ (red q V *ᵥ x) = 0 := by
    intro x
    rw [red_mul, red_mul, ← Matrix.mulVec_mulVec, ← Matrix.mulVec_mulVec]
    constructor
    · intro h
      have h2 : red q Ui *ᵥ (red q U *ᵥ (red q A *ᵥ (red q V *ᵥ x))) = red q Ui *ᵥ 0 := congrArg _ h
      rwa [Matrix.mulVec_mulVec, hU1, Matrix.one_mulVec, Matrix.mulVec_zero] at h2
    · intro h
      rw [h, Matrix.mulVec_zero]
  exact Nat.card_congr (Equiv.subtypeEquiv
    { toFun := fun x => red q V *ᵥ x
      invFun := fun y => red q Vi *ᵥ y
      left_inv := fun x => by simp only [Matrix.mulVec_mulVec, hV2, Matrix.one_mulVec]
      right_inv := fun y => by simp only [Matrix.mulVec_mulVec, hV1, Matrix.one_mulVec] } hiff)

/-- the `k`-th diagonal entry, `0` outside the matrix -/
def dgM (D : Matrix (Fin m) (Fin n) ℤ) (k : ℕ) : ℤ :=
  if h : k < m ∧ k < n then D ⟨k, h.1⟩ ⟨k, h.2⟩ else 0

def IsDiagM (D : Matrix (Fin m) (Fin n) ℤ) : Prop := ∀ (i : Fin m) (j : Fin n), i.1 ≠ j.1 → D i j = 0

theorem dgM_out (D : Matrix (Fin m) (Fin n) ℤ) (k : ℕ) (h : min m n ≤ k) : dgM D k = 0 := by
  unfold dgM
  rw [dif_neg (by omega)]

theorem dgM_apply (D : Matrix (Fin m) (Fin n) ℤ) (i : Fin m) (j : Fin n) (hij : i.1 = j.1) : D i j = dgM D i.1 := by
  unfold dgM
  rw [dif_pos ⟨i.2, hij ▸ j.2⟩]
  congr 1
  exact Fin.ext hij.symm

theorem eq_of_dgM_eq (D D' : Matrix (Fin m) (Fin n) ℤ) (hD : IsDiagM D) (hD' : IsDiagM D')
    (h : ∀ k, dgM D k = dgM D' k) : D = D' := by
  ext i j
  by_cases hij : i.1 = j.1
  · rw [dgM_apply D i j hij, dgM_apply D' i j hij, h]
  · rw [hD i j hij, hD' i j hij]

theorem red_mulVec_diag (q : ℕ) (D : Matrix (Fin m) (Fin n) ℤ) (hD : IsDiagM D) (x : Fin n → ZMod q)
    (i : Fin m) :
    (red q D *ᵥ x) i = (dgM D i.1 : ZMod q) * (if h : i.1 < n then x ⟨i.1, h⟩ else 0) := by
  simp only [Matrix.mulVec, dotProduct, red, Matrix.map_apply, Int.coe_castRingHom]
  by_cases h : i.1 < n
  · rw [dif_pos h, Finset.sum_eq_single (⟨i.1, h⟩ : Fin n)]
    · rw [dgM_apply D i ⟨i.1, h⟩ rfl]
    · intro j _ hj
      rw [hD i j (fun e => hj (Fin.ext e.symm))]
      simp
    · intro hni; exact absurd (Finset.mem_univ _) hni
  · rw [dif_neg h, mul_zero]
    apply Finset.sum_eq_zero
    intro j _
    rw [hD i j (fun e => h (e ▸ j.2))]
    simp

theorem red_mulVec_eq_zero_iff (q : ℕ) (D : Matrix (Fin m) (Fin n) ℤ) (hD : IsDiagM D) (x : Fin n → ZMod q) :
    red q D *ᵥ x = 0 ↔ ∀ j : Fin n, (dgM D j.1 : ZMod q) * x j = 0 := by
  constructor
  · intro h j
    by_cases hj : j.1 < m
    · have := congrFun h ⟨j.1, hj⟩
      rw [red_mulVec_diag q D hD, dif_pos j.2] at this
      exact this
    · rw [dgM_out D j.1 (by omega), Int.cast_zero, zero_mul]
  · intro h
    funext i
    rw [red_mulVec_diag q D hD]
    by_cases hi : i.1 < n
    · rw [dif_pos hi]
      exact h ⟨i.1, hi⟩
    · rw [dif_neg hi, mul_zero]; rfl

theorem nsol_diag (q : ℕ) (D : Matrix (Fin m) (Fin n) ℤ) (hD : IsDiagM D) :
    nsol q D = ∏ i ∈ range n, cz (dgM D i) q := by
  unfold nsol
  rw [Nat.card_congr (Equiv.subtypeEquivRight (red_mulVec_eq_zero_iff q D hD)),
    Nat.card_congr (Equiv.subtypePiEquivPi (β := fun _ : Fin n => ZMod q)
      (p := fun j y => (dgM D j.1 : ZMod q) * y = 0)), Nat.card_pi,
    ← Fin.prod_univ_eq_prod_range (fun i => cz (dgM D i) q) n]
  rfl

/-- a Smith diagonal: off-diagonal entries vanish and `d_0 ∣ d_1 ∣ d_2 ∣ …` (`d_k = 0` outside the matrix, so zeros
can only stand at the end of the diagonal) -/
structure IsSmith (D : Matrix (Fin m) (Fin n) ℤ) : Prop where
  diag : IsDiagM D
  chain : ∀ k, dgM D k ∣ dgM D (k + 1)

theorem smith_natAbs_eq_of_nsol (D D' : Matrix (Fin m) (Fin n) ℤ) (hD : IsSmith D) (hD' : IsSmith D')
    (h : ∀ q : ℕ, 0 < q → nsol q D = nsol q D') (k : ℕ) : (dgM D k).natAbs = (dgM D' k).natAbs := by
  by_cases hk : k < n
  · refine chain_unique n (dgM D) (dgM D') hD.chain hD'.chain (fun q hq => ?_) k hk
    rw [← nsol_diag q D hD.diag, ← nsol_diag q D' hD'.diag, h q hq]
  · rw [dgM_out D k (by omega), dgM_out D' k (by omega)]

theorem eq_of_natAbs_eq_of_nonneg {a b : ℤ} (h : a.natAbs = b.natAbs) (ha : 0 ≤ a) (hb : 0 ≤ b) : a = b := by
  omega

theorem nsol_diag_gcd (q : ℕ) [NeZero q] (D : Matrix (Fin m) (Fin n) ℤ) (hD : IsDiagM D) :
    nsol q D = ∏ i ∈ range n, Nat.gcd (dgM D i).natAbs q := by
  rw [nsol_diag q D hD]
  exact Finset.prod_congr rfl fun i _ => cz_eq_gcd _ q

end Yuiv.SnfUnique
