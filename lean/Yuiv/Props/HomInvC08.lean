import Yuiv.Props.HomInvC07
import Yuiv.Props.C08Sched
import Yuiv.Proofs.HomInvC08
/-
C08 ∘ C07 over ℤ — chain reduction does not change the REPORTED homology.

`Props/C08Hom` + `Props/C08Sched`: every run of the reducer (any number of steps, any pivot type / condition, any thread
schedule at every step) is a chain homotopy equivalence and induces linear isomorphisms `H_n(C) ≃ H_n(C')`.
`Props/HomInvC07`: the `(rank, tors)` which the code model of `HomologyCalc::calculate` (on the code model of the library's
SNF) reports are isomorphism invariants of the homology module.  Composed here: for a complex over ℤ, the reported rank and
torsion list of EVERY degree are the same before and after reduction — for every schedule.

The complexes of C08 (`Cpx`: arbitrary finite index types) and the matrices of the C07 code model (`C07.Mat`: row-major
arrays indexed by `Fin r × Fin c`) are tied by numberings `e_j : Fin _ ≃ C.ι j` of the bases:
`d1.toM = (C.d (i+1)).submatrix e_{i+1} e_{i+2}` (the differential INTO degree `i+1`) and
`d2.toM = (C.d i).submatrix e_i e_{i+1}` (the differential OUT of it); in degree `0` the outgoing matrix is any zero matrix
(the library passes a `0 × n` one).
-/
namespace Yuiv.C08
open Matrix Yuiv Yuiv.HomInv Yuiv.C07 Yuiv.C11

/-- **chain homotopy equivalent complexes report the same homology** (degree `i+1`, ℤ).  Let `C'` be a reduction of `C`
with chain homotopy (`HEquiv`, e.g. any run of the reducer).  Let `d1, d2` be C07 matrices of the differentials of `C` into
and out of degree `i+1` (w.r.t. any numberings of the bases), `d1', d2'` the same for `C'`.  Then the code model of
`HomologyCalc::calculate` (on the code model of the library's SNF, enough fuel) returns the same `(rank, tors)` for both. -/
theorem hEquiv_reports_same_invariants {C C' : Cpx ℤ} (h : HEquiv C C') (i : ℕ) (d1 d2 d1' d2' : C07.Mat)
    (hsh : d2.c = d1.r) (hsh' : d2'.c = d1'.r)
    (e0 : Fin d2.r ≃ C.ι i) (e1 : Fin d1.r ≃ C.ι (i + 1)) (e2 : Fin d1.c ≃ C.ι (i + 2))
    (h1 : d1.toM d1.r d1.c = (C.d (i + 1)).submatrix e1 e2) (h2 : d2.toM d2.r d1.r = (C.d i).submatrix e0 e1)
    (e0' : Fin d2'.r ≃ C'.ι i) (e1' : Fin d1'.r ≃ C'.ι (i + 1)) (e2' : Fin d1'.c ≃ C'.ι (i + 2))
    (h1' : d1'.toM d1'.r d1'.c = (C'.d (i + 1)).submatrix e1' e2')
    (h2' : d2'.toM d2'.r d1'.r = (C'.d i).submatrix e0' e1') :
    ∃ (N rank : Nat) (tors : List Int),
      (∀ fuel, N ≤ fuel → ∃ T, calculate (snfC09 fuel) d1 d2 true = .ok (rank, tors, some T)) ∧
      (∀ fuel, N ≤ fuel → ∃ T', calculate (snfC09 fuel) d1' d2' true = .ok (rank, tors, some T')) :=
  (Numbered.succ e0 e1 e2 h1 h2).same_report (Numbered.succ e0' e1' e2' h1' h2') hsh hsh' (h.homology_addEquiv (i + 1))

/-- … and in degree `0` (`H_0 = C_0 / im d_0`; the outgoing matrix `d2` is a zero matrix of any height) -/
theorem hEquiv_reports_same_invariants_zero {C C' : Cpx ℤ} (h : HEquiv C C') (d1 d2 d1' d2' : C07.Mat)
    (hsh : d2.c = d1.r) (hsh' : d2'.c = d1'.r)
    (e0 : Fin d1.r ≃ C.ι 0) (e1 : Fin d1.c ≃ C.ι 1)
    (h1 : d1.toM d1.r d1.c = (C.d 0).submatrix e0 e1) (h2 : d2.toM d2.r d1.r = 0)
    (e0' : Fin d1'.r ≃ C'.ι 0) (e1' : Fin d1'.c ≃ C'.ι 1)
    (h1' : d1'.toM d1'.r d1'.c = (C'.d 0).submatrix e0' e1') (h2' : d2'.toM d2'.r d1'.r = 0) :
    ∃ (N rank : Nat) (tors : List Int),
      (∀ fuel, N ≤ fuel → ∃ T, calculate (snfC09 fuel) d1 d2 true = .ok (rank, tors, some T)) ∧
      (∀ fuel, N ≤ fuel → ∃ T', calculate (snfC09 fuel) d1' d2' true = .ok (rank, tors, some T')) :=
  (Numbered.zero e0 e1 h1 h2).same_report (Numbered.zero e0' e1' h1' h2') hsh hsh' (h.homology_addEquiv 0)

/-- **reducer_run_reports_same_homology** (C08 ∘ C07, every schedule).  For a complex over ℤ and ANY finite sequence of
reducer steps (`ReducerStep`: each at any degree, with any pivot type / condition, any interleaving of the parallel pivot
search and any hash-map order), the reported rank and torsion list in degree `i+1` of the reduced complex equal those of
the original complex. -/
theorem reducer_run_reports_same_homology {C C' : Cpx ℤ} (h : Relation.ReflTransGen ReducerStep C C') (i : ℕ)
    (d1 d2 d1' d2' : C07.Mat) (hsh : d2.c = d1.r) (hsh' : d2'.c = d1'.r)
    (e0 : Fin d2.r ≃ C.ι i) (e1 : Fin d1.r ≃ C.ι (i + 1)) (e2 : Fin d1.c ≃ C.ι (i + 2))
    (h1 : d1.toM d1.r d1.c = (C.d (i + 1)).submatrix e1 e2) (h2 : d2.toM d2.r d1.r = (C.d i).submatrix e0 e1)
    (e0' : Fin d2'.r ≃ C'.ι i) (e1' : Fin d1'.r ≃ C'.ι (i + 1)) (e2' : Fin d1'.c ≃ C'.ι (i + 2))
    (h1' : d1'.toM d1'.r d1'.c = (C'.d (i + 1)).submatrix e1' e2')
    (h2' : d2'.toM d2'.r d1'.r = (C'.d i).submatrix e0' e1') :
    ∃ (N rank : Nat) (tors : List Int),
      (∀ fuel, N ≤ fuel → ∃ T, calculate (snfC09 fuel) d1 d2 true = .ok (rank, tors, some T)) ∧
      (∀ fuel, N ≤ fuel → ∃ T', calculate (snfC09 fuel) d1' d2' true = .ok (rank, tors, some T')) :=
  hEquiv_reports_same_invariants (reflTransGen_hEquiv h) i d1 d2 d1' d2' hsh hsh' e0 e1 e2 h1 h2 e0' e1' e2' h1' h2'

/-- … in degree `0` -/
theorem reducer_run_reports_same_homology_zero {C C' : Cpx ℤ} (h : Relation.ReflTransGen ReducerStep C C')
    (d1 d2 d1' d2' : C07.Mat) (hsh : d2.c = d1.r) (hsh' : d2'.c = d1'.r)
    (e0 : Fin d1.r ≃ C.ι 0) (e1 : Fin d1.c ≃ C.ι 1)
    (h1 : d1.toM d1.r d1.c = (C.d 0).submatrix e0 e1) (h2 : d2.toM d2.r d1.r = 0)
    (e0' : Fin d1'.r ≃ C'.ι 0) (e1' : Fin d1'.c ≃ C'.ι 1)
    (h1' : d1'.toM d1'.r d1'.c = (C'.d 0).submatrix e0' e1') (h2' : d2'.toM d2'.r d1'.r = 0) :
    ∃ (N rank : Nat) (tors : List Int),
      (∀ fuel, N ≤ fuel → ∃ T, calculate (snfC09 fuel) d1 d2 true = .ok (rank, tors, some T)) ∧
      (∀ fuel, N ≤ fuel → ∃ T', calculate (snfC09 fuel) d1' d2' true = .ok (rank, tors, some T')) :=
  hEquiv_reports_same_invariants_zero (reflTransGen_hEquiv h) d1 d2 d1' d2' hsh hsh' e0 e1 h1 h2 e0' e1' h1' h2'

/-- two complete runs from the same complex (different schedules, different numbers of steps, different reduced matrices)
report the same rank and torsion list in degree `i+1` -/
theorem two_runs_report_same_homology {C C₁ C₂ : Cpx ℤ} (r₁ : Relation.ReflTransGen ReducerStep C C₁)
    (r₂ : Relation.ReflTransGen ReducerStep C C₂) (i : ℕ)
    (d1 d2 d1' d2' : C07.Mat) (hsh : d2.c = d1.r) (hsh' : d2'.c = d1'.r)
    (e0 : Fin d2.r ≃ C₁.ι i) (e1 : Fin d1.r ≃ C₁.ι (i + 1)) (e2 : Fin d1.c ≃ C₁.ι (i + 2))
    (h1 : d1.toM d1.r d1.c = (C₁.d (i + 1)).submatrix e1 e2) (h2 : d2.toM d2.r d1.r = (C₁.d i).submatrix e0 e1)
    (e0' : Fin d2'.r ≃ C₂.ι i) (e1' : Fin d1'.r ≃ C₂.ι (i + 1)) (e2' : Fin d1'.c ≃ C₂.ι (i + 2))
    (h1' : d1'.toM d1'.r d1'.c = (C₂.d (i + 1)).submatrix e1' e2')
    (h2' : d2'.toM d2'.r d1'.r = (C₂.d i).submatrix e0' e1') :
    ∃ (N rank : Nat) (tors : List Int),
      (∀ fuel, N ≤ fuel → ∃ T, calculate (snfC09 fuel) d1 d2 true = .ok (rank, tors, some T)) ∧
      (∀ fuel, N ≤ fuel → ∃ T', calculate (snfC09 fuel) d1' d2' true = .ok (rank, tors, some T')) := by
  obtain ⟨E₁⟩ := (reflTransGen_hEquiv r₁).homology_addEquiv (i + 1)
  obtain ⟨E₂⟩ := (reflTransGen_hEquiv r₂).homology_addEquiv (i + 1)
  exact (Numbered.succ e0 e1 e2 h1 h2).same_report (Numbered.succ e0' e1' e2' h1' h2') hsh hsh' ⟨E₁.symm.trans E₂⟩

/-- the complex `… → 0 → ℤ --2--> ℤ` (`H_0 = ℤ/2`) -/
def exCpx : Cpx ℤ where
  ι := fun _ => Fin 1
  d := fun i => if i = 0 then !![2] else 0
  sq := fun i => by rw [if_neg (Nat.succ_ne_zero i), Matrix.mul_zero]

/-- … with the C07 matrices `d1 = (2)`, `d2 : ℤ¹ → 0` satisfies every hypothesis of
`reducer_run_reports_same_homology_zero` (empty run; a non-empty run needs a schedule of the pivot search — those hypotheses
are shown satisfiable in `Props/C08Sched.lean`), and the model reports `rank 0`, `tors [2]` for it -/
example : ∃ (e0 : Fin (⟨1, 1, #[2]⟩ : C07.Mat).r ≃ exCpx.ι 0) (e1 : Fin (⟨1, 1, #[2]⟩ : C07.Mat).c ≃ exCpx.ι 1),
    (⟨1, 1, #[2]⟩ : C07.Mat).toM 1 1 = (exCpx.d 0).submatrix e0 e1 ∧ (⟨0, 1, #[]⟩ : C07.Mat).toM 0 1 = 0 ∧
    Relation.ReflTransGen ReducerStep exCpx exCpx :=
  ⟨Equiv.refl _, Equiv.refl _, by ext i j; fin_cases i; fin_cases j; rfl, by ext i j; exact i.elim0,
    Relation.ReflTransGen.refl⟩
example : runsTo ⟨1, 1, #[2]⟩ ⟨0, 1, #[]⟩ 0 [2] = true := by decide +kernel

end Yuiv.C08
