import Yuiv.Gen.SpMatFn
import Yuiv.Proofs.Res
/-
Helper lemmas for `Yuiv/Props/C13Gen.lean`.

`Yuiv.GenSpMat.*` is GENERATED from `/repo/yui-matrix/src/sparse/sp_mat.rs` by `tools/rs2lean_fn.py fn:spmat`;
`Yuiv.C13.*` (`Yuiv/Model/C13.lean`) is the hand-written model.  Both use the same representation (`C13.SpMat R`,
`C13.SpVec R`, `C13.Perm`), so no abstraction map is needed.
-/
namespace Yuiv.C13Gen
open Yuiv Res Yuiv.Rust Yuiv.C13

variable {R : Type}

def mapR {β γ} (f : β → γ) : Res β → Res γ
  | .ok a => .ok (f a)
  | .panic => .panic
  | .err => .err

theorem mapR_ok {β γ} (f : β → γ) (a : β) : mapR f (ok a) = ok (f a) := rfl
theorem assert_true : Res.assert true = ok () := rfl
theorem assert_false : Res.assert false = (.panic : Res Unit) := rfl
theorem pure_eq_ok {β} (a : β) : (pure a : Res β) = ok a := rfl
theorem bind_mapR {β γ δ} (f : β → γ) (x : Res β) (g : γ → Res δ) : (mapR f x >>= g) = (x >>= fun a => g (f a)) := by
  cases x <;> rfl

theorem decide_and_false {p q : Prop} [Decidable p] [Decidable q] (h : ¬ (p ∧ q)) : (decide p && decide q) = false := by
  rw [← Bool.decide_and]
  exact decide_eq_false h

/-- every triplet lies inside the shape `m × n` (what the push of `from_entries` checks) -/
def inR (m n : Nat) (es : List (Trip R)) : Bool := es.all (fun t => t.1 < m && t.2.1 < n)

theorem inR_nil (m n : Nat) : inR m n ([] : List (Trip R)) = true := rfl
theorem inR_append (m n : Nat) (xs ys : List (Trip R)) : inR m n (xs ++ ys) = (inR m n xs && inR m n ys) :=
  List.all_append
theorem inR_cons (m n : Nat) (t : Trip R) (es : List (Trip R)) : inR m n (t :: es) = (inR m n [t] && inR m n es) :=
  inR_append m n [t] es

/-- `xs` pushed onto a triplet buffer -/
def app (c : Sp.Coo R) (xs : List (Trip R)) : Sp.Coo R := ⟨c.m, c.n, c.es ++ xs⟩

theorem app_nil (c : Sp.Coo R) : app c [] = c := by rw [app, List.append_nil]
theorem app_app (c : Sp.Coo R) (xs ys : List (Trip R)) : app (app c xs) ys = app c (xs ++ ys) := by
  simp only [app, List.append_assoc]

theorem push_eq (c : Sp.Coo R) (i j : Nat) (a : R) :
    Sp.Coo.push c i j a = if inR c.m c.n [(i, j, a)] = true then ok (app c [(i, j, a)]) else Res.panic := by
  unfold Sp.Coo.push
  by_cases h : i < c.m ∧ j < c.n
  · simp [h, inR, app]
  · rw [if_neg h, if_neg]
    simpa [inR] using h

theorem try_unwrap (m n : Nat) (offs rows : List Nat) (vals : List R) :
    Opt.unwrap (Sp.try_from_csc_data m n offs rows vals) = tryFromCsc m n offs rows vals := by
  unfold Sp.try_from_csc_data tryFromCsc
  by_cases h : offs.length = n + 1 ∧ offs.head? = some 0 ∧ offs.getLast? = some rows.length
      ∧ monotone offs = true ∧ vals.length = rows.length
      ∧ (splitLanes rows offs).all (fun l => l.all (· < m) && strictInc l) = true
  · rw [if_pos h]; rfl
  · rw [if_neg h]; rfl

/-- one column of `from_col_vecs`: its rows and values appended, the new end offset recorded -/
def fcvStep (acc : List Nat × List Nat × List R) (v : SpVec R) : List Nat × List Nat × List R :=
  let rows := acc.2.1 ++ v.ents.map (·.1)
  (acc.1 ++ [rows.length], rows, acc.2.2 ++ v.ents.map (·.2))

theorem fcv_offs_len : ∀ (vs : List (SpVec R)) (acc : List Nat × List Nat × List R),
    (vs.foldl fcvStep acc).1.length = acc.1.length + vs.length := by
  intro vs
  induction vs with
  | nil => intro acc; rfl
  | cons v vs ih =>
    intro acc
    rw [List.foldl_cons, ih]
    simp [fcvStep]
    omega

/-! ### `from_row_perm` / `from_col_perm`: `(0..n).map(|i| (p.at(i), i, 1))` and `(0..n).map(|i| (i, p.at(i), 1))` -/

theorem perm_map (p : Perm) (g : Nat → Nat → Trip R) (cl : Nat → Res (Trip R))
    (hcl : ∀ i, cl i = p.at i >>= fun r => ok (g i r)) : ∀ (c s : Nat),
    Iter.mapM cl (List.range' s c) =
      mapR (fun im => (enumFrom' s im).map (fun (x : Nat × Nat) => g x.1 x.2)) (permImages p (List.range' s c)) := by
  intro c
  induction c with
  | zero => intro s; rfl
  | succ c ih =>
    intro s
    rw [List.range'_succ, Iter.mapM, permImages, ih, hcl]
    cases p.at s with
    | ok x =>
      simp only [bind_ok]
      cases permImages p (List.range' (s + 1) c) <;> rfl
    | panic => rfl
    | err => rfl

/-! ### the four blocks of `divide4`: the triplets of each quadrant, shifted to its origin -/

section d4
variable (k l : Nat)
def qa (xs : List (Trip R)) : List (Trip R) := xs.filter (fun t => t.1 < k && t.2.1 < l)
def qb (xs : List (Trip R)) : List (Trip R) :=
  (xs.filter (fun t => t.1 < k && !(t.2.1 < l))).map (fun t => (t.1, t.2.1 - l, t.2.2))
def qc (xs : List (Trip R)) : List (Trip R) :=
  (xs.filter (fun t => !(t.1 < k) && t.2.1 < l)).map (fun t => (t.1 - k, t.2.1, t.2.2))
def qd (xs : List (Trip R)) : List (Trip R) :=
  (xs.filter (fun t => !(t.1 < k) && !(t.2.1 < l))).map (fun t => (t.1 - k, t.2.1 - l, t.2.2))

/-- every quadrant of `divide4` fits the buffer it is pushed to -/
def ok4 (a b c d : Sp.Coo R) (xs : List (Trip R)) : Bool :=
  inR a.m a.n (qa k l xs) && inR b.m b.n (qb k l xs) && inR c.m c.n (qc k l xs) && inR d.m d.n (qd k l xs)

theorem filter_map_cons {α β} (p : α → Bool) (s : α → β) (t : α) (xs : List α) :
    ((t :: xs).filter p).map s = ([t].filter p).map s ++ (xs.filter p).map s := by
  rw [← List.map_append, ← List.filter_append]; rfl

theorem q_cons (t : Trip R) (xs : List (Trip R)) :
    qa k l (t :: xs) = qa k l [t] ++ qa k l xs ∧ qb k l (t :: xs) = qb k l [t] ++ qb k l xs ∧
    qc k l (t :: xs) = qc k l [t] ++ qc k l xs ∧ qd k l (t :: xs) = qd k l [t] ++ qd k l xs :=
  ⟨List.filter_append [t] xs, filter_map_cons _ _ t xs, filter_map_cons _ _ t xs, filter_map_cons _ _ t xs⟩

/-- for `ok4_cons`; over variables, since reordering conjunctions of the `inR` terms themselves is slow to check -/
theorem and4_and4 (x1 x2 x3 x4 y1 y2 y3 y4 : Bool) :
    ((x1 && y1) && (x2 && y2) && (x3 && y3) && (x4 && y4)) = ((x1 && x2 && x3 && x4) && (y1 && y2 && y3 && y4)) := by
  simp only [Bool.and_assoc, Bool.and_left_comm]

theorem ok4_cons (a b c d : Sp.Coo R) (t : Trip R) (xs : List (Trip R)) :
    ok4 k l a b c d (t :: xs) = (ok4 k l a b c d [t] && ok4 k l a b c d xs) := by
  obtain ⟨e1, e2, e3, e4⟩ := q_cons k l t xs
  rw [ok4, e1, e2, e3, e4]
  simp only [inR_append]
  exact and4_and4 _ _ _ _ _ _ _ _
end d4

/-! ### the non-zero triplets (`if a.is_zero() { continue }`) -/

section
variable [Zero R] [DecidableEq R]
def nz (es : List (Trip R)) : List (Trip R) := es.filter (fun t => t.2.2 ≠ 0)

theorem nz_cons_zero {t : Trip R} (es : List (Trip R)) (h : t.2.2 = 0) : nz (t :: es) = nz es :=
  List.filter_cons_of_neg (by simp [h])
theorem nz_cons_nz {t : Trip R} (es : List (Trip R)) (h : ¬ t.2.2 = 0) : nz (t :: es) = t :: nz es :=
  List.filter_cons_of_pos (by simp [h])
end

variable [Zero R] [One R] [Add R] [DecidableEq R]

set_option linter.unusedSectionVars false in
theorem cooFrom_def (m n : Nat) (es : List (Trip R)) :
    cooFrom m n es = if inR m n es = true then ok (cooToCsc m n es) else Res.panic := rfl

theorem from_entries_step (t : Trip R) (c : Sp.Coo R) :
    GenSpMat.SpMat.from_entries_for1 t c =
      if t.2.2 = 0 then ok (Ctl.next c) else Sp.Coo.push c t.1 t.2.1 t.2.2 >>= fun c' => ok (Ctl.next c') := by
  obtain ⟨i, j, a⟩ := t
  unfold GenSpMat.SpMat.from_entries_for1
  by_cases ha : a = 0 <;> simp [ha]

theorem from_entries_loop : ∀ (es : List (Trip R)) (c : Sp.Coo R),
    Sp.forList es (GenSpMat.SpMat.from_entries_for1 (R := R)) c =
      if inR c.m c.n (nz es) = true then ok (app c (nz es), true) else Res.panic := by
  intro es
  induction es with
  | nil => intro c; rw [Sp.forList, nz, List.filter_nil, inR_nil, app_nil, if_pos rfl]
  | cons t es ih =>
    intro c
    unfold Sp.forList
    rw [from_entries_step]
    by_cases ha : t.2.2 = 0
    · rw [if_pos ha, nz_cons_zero es ha]
      exact ih c
    · rw [if_neg ha, nz_cons_nz es ha, inR_cons, push_eq]
      cases inR c.m c.n [t]
      · rfl
      · simp only [if_true, bind_ok, Bool.true_and]
        rw [ih, app_app]
        rfl

theorem extract_map (f : Nat → Nat → Res (Option (Nat × Nat))) : ∀ ts : List (Trip R),
    Iter.filterMapM (GenSpMat.SpMat.extract_closure1 (R := R) f) ts = mapTrips f ts := by
  intro ts
  induction ts with
  | nil => rfl
  | cons t ts ih =>
    obtain ⟨i, j, a⟩ := t
    rw [Iter.filterMapM, mapTrips, ih]
    have hs : GenSpMat.SpMat.extract_closure1 f (i, j, a) = (f i j >>= fun r => ok (r.map fun ij => (ij.1, ij.2, a))) := by
      unfold GenSpMat.SpMat.extract_closure1
      refine bind_congr (fun r => ?_)
      cases r <;> rfl
    rw [hs]
    cases f i j with
    | ok r =>
      simp only [bind_ok]
      refine bind_congr (fun rest => ?_)
      cases r <;> rfl
    | panic => rfl
    | err => rfl

theorem fcv_loop (n : Nat) : ∀ (vs : List (SpVec R)) (offs rows : List Nat) (vals : List R),
    GenSpMat.SpMat.from_col_vecs_loop1 vs n offs rows vals =
      if vs.all (fun v => decide (n = v.dim)) = true then ok (vs.foldl fcvStep (offs, rows, vals)) else Res.panic := by
  intro vs
  induction vs with
  | nil => intro offs rows vals; rfl
  | cons v vs ih =>
    intro offs rows vals
    rw [GenSpMat.SpMat.from_col_vecs_loop1, List.all_cons, List.foldl_cons]
    cases decide (n = v.dim)
    · rfl
    · simp only [assert_true, bind_ok, Bool.true_and, Sp.disassemble, Sp.vec_inner, C13.SpVec.toMat, C13.SpMat.disassemble,
        List.flatten_cons, List.flatten_nil, List.append_nil]
      rw [ih]
      rfl

theorem range_contains_zero (k i : Nat) : Sp.range_contains (0, k) i = decide (i < k) := by simp [Sp.range_contains]

/-- one iteration of the loop of `divide4`: a non-zero triplet is pushed, shifted, to the block of its quadrant
(of `qa … qd` on `[t]`, three are empty) -/
theorem divide4_step (k l : Nat) (t : Trip R) (a b c d : Sp.Coo R) :
    GenSpMat.SpMat.divide4_for1 k l t (a, b, c, d) =
      if t.2.2 = 0 then ok (Ctl.next (a, b, c, d))
      else if ok4 k l a b c d [t] = true then
        ok (Ctl.next (app a (qa k l [t]), app b (qb k l [t]), app c (qc k l [t]), app d (qd k l [t])))
      else Res.panic := by
  obtain ⟨i, j, r⟩ := t
  unfold GenSpMat.SpMat.divide4_for1
  simp only [range_contains_zero]
  by_cases hr : r = 0
  · simp only [hr, decide_true, ↓reduceIte]
  · by_cases hi : i < k <;> by_cases hj : j < l
    · simp only [hr, decide_false, Bool.false_eq_true, ↓reduceIte, hi, decide_true, hj, and_self, push_eq,
        ok4, qa, qb, qc, qd, List.filter_cons, List.filter_nil, List.map_nil, Bool.and_self, Bool.not_true, Bool.and_false,
        inR_nil, Bool.and_true, app_nil]
      cases inR a.m a.n [(i, j, r)] <;> rfl
    · have : l ≤ j := Nat.le_of_not_lt hj
      simp only [hr, decide_false, Bool.false_eq_true, ↓reduceIte, hi, decide_true, hj, and_false, and_self,
        U64.sub, this, bind_ok, push_eq,
        ok4, qa, qb, qc, qd, List.filter_cons, List.filter_nil, List.map_nil, List.map_cons, Bool.and_self, Bool.not_true,
        Bool.not_false, Bool.and_false, inR_nil, Bool.and_true, Bool.true_and, app_nil]
      cases inR b.m b.n [(i, j - l, r)] <;> rfl
    · have : k ≤ i := Nat.le_of_not_lt hi
      simp only [hr, decide_false, Bool.false_eq_true, ↓reduceIte, hi, decide_true, hj, and_true, and_self,
        U64.sub, this, bind_ok, push_eq,
        ok4, qa, qb, qc, qd, List.filter_cons, List.filter_nil, List.map_nil, List.map_cons, Bool.and_self, Bool.not_true,
        Bool.not_false, Bool.and_false, inR_nil, Bool.and_true, Bool.true_and, app_nil]
      cases inR c.m c.n [(i - k, j, r)] <;> rfl
    · have h1 : k ≤ i := Nat.le_of_not_lt hi
      have h2 : l ≤ j := Nat.le_of_not_lt hj
      simp only [hr, decide_false, Bool.false_eq_true, ↓reduceIte, hi, hj, and_self, and_true, and_false, U64.sub,
        h1, h2, bind_ok, push_eq,
        ok4, qa, qb, qc, qd, List.filter_cons, List.filter_nil, List.map_nil, List.map_cons, Bool.and_self,
        Bool.not_false, Bool.and_false, inR_nil, Bool.and_true, Bool.true_and, app_nil]
      cases inR d.m d.n [(i - k, j - l, r)] <;> rfl

theorem divide4_loop (k l : Nat) : ∀ (ts : List (Trip R)) (a b c d : Sp.Coo R),
    Sp.forList ts (GenSpMat.SpMat.divide4_for1 (R := R) k l) (a, b, c, d) =
      if ok4 k l a b c d (nz ts) = true then
        ok ((app a (qa k l (nz ts)), app b (qb k l (nz ts)), app c (qc k l (nz ts)), app d (qd k l (nz ts))), true)
      else Res.panic := by
  intro ts
  induction ts with
  | nil =>
    intro a b c d
    simp only [nz, List.filter_nil, ok4, qa, qb, qc, qd, List.map_nil, inR_nil, app_nil, Bool.and_self, if_true]
    rfl
  | cons t ts ih =>
    intro a b c d
    unfold Sp.forList
    rw [divide4_step]
    by_cases hz : t.2.2 = 0
    · rw [if_pos hz, nz_cons_zero ts hz]
      exact ih a b c d
    · obtain ⟨e1, e2, e3, e4⟩ := q_cons k l t (nz ts)
      rw [if_neg hz, nz_cons_nz ts hz, ok4_cons k l a b c d t (nz ts), e1, e2, e3, e4]
      cases ok4 k l a b c d [t]
      · rfl
      · simp only [if_true, bind_ok, Bool.true_and]
        rw [ih]
        simp only [app_app]
        rfl

/-- four guarded values: one test of the conjunction is the chain of the four tests -/
theorem guard4 {β α₁ α₂ α₃ α₄ : Type} (x1 x2 x3 x4 : Bool) (v : β) (g : β → Res (α₁ × α₂ × α₃ × α₄))
    (a : α₁) (b : α₂) (c : α₃) (d : α₄) (hg : g v = ok (a, b, c, d)) :
    ((if (x1 && x2 && x3 && x4) = true then ok v else Res.panic) >>= g)
      = ((if x1 = true then ok a else Res.panic) >>= fun a => (if x2 = true then ok b else Res.panic) >>= fun b =>
         (if x3 = true then ok c else Res.panic) >>= fun c => (if x4 = true then ok d else Res.panic) >>= fun d =>
         ok (a, b, c, d)) := by
  cases x1 <;> cases x2 <;> cases x3 <;> cases x4 <;> first | rfl | exact hg

end Yuiv.C13Gen
