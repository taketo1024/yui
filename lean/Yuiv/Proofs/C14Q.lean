import Yuiv.Proofs.C14
import Mathlib.Algebra.Order.Field.Rat
/-
C14: bridge from the cross-multiplication identities of `Proofs/C14.lean` to Mathlib's ℚ.
-/
namespace Yuiv.C14
open Res

def toRat (r : Ratio) : ℚ := (r.num : ℚ) / (r.den : ℚ)

theorem cast_ne {x : Int} (h : x ≠ 0) : (x : ℚ) ≠ 0 := by exact_mod_cast h

/-- a cross-multiplication identity over ℤ, read in ℚ: all the `…_toRat` lemmas below are instances -/
theorem toRat_eq_of_cross {c : Ratio} {n d : Int} (hc : c.den ≠ 0) (hd : d ≠ 0) (h : c.num * d = n * c.den) :
    toRat c = (n : ℚ) / (d : ℚ) := by
  unfold toRat
  rw [div_eq_div_iff (cast_ne hc) (cast_ne hd)]
  exact_mod_cast h

theorem toRat_lt_iff (a b : Ratio) (ha : 0 < a.den) (hb : 0 < b.den) :
    toRat a < toRat b ↔ a.num * b.den < b.num * a.den := by
  unfold toRat
  have ha' : (0 : ℚ) < a.den := by exact_mod_cast ha
  have hb' : (0 : ℚ) < b.den := by exact_mod_cast hb
  rw [div_lt_div_iff₀ ha' hb']
  exact_mod_cast Iff.rfl

theorem toRat_eq_iff (a b : Ratio) (ha : 0 < a.den) (hb : 0 < b.den) :
    toRat a = toRat b ↔ a.num * b.den = b.num * a.den := by
  unfold toRat
  rw [div_eq_div_iff (cast_ne ha.ne') (cast_ne hb.ne')]
  exact_mod_cast Iff.rfl

theorem compare_toRat (a b : Ratio) (ha : 0 < a.den) (hb : 0 < b.den) :
    compare (toRat a) (toRat b) = compare (a.num * b.den) (b.num * a.den) := by
  rcases lt_trichotomy (a.num * b.den) (b.num * a.den) with h | h | h
  · rw [compare_lt_iff_lt.2 h, compare_lt_iff_lt.2 ((toRat_lt_iff a b ha hb).2 h)]
  · rw [compare_eq_iff_eq.2 h, compare_eq_iff_eq.2 ((toRat_eq_iff a b ha hb).2 h)]
  · rw [compare_gt_iff_gt.2 h, compare_gt_iff_gt.2 ((toRat_lt_iff b a hb ha).2 h)]

theorem add_toRat (a b c : Ratio) (ha : 0 < a.den) (hb : 0 < b.den) (hc : 0 < c.den)
    (h : c.num * (a.den * b.den) = (a.num * b.den + b.num * a.den) * c.den) :
    toRat c = toRat a + toRat b := by
  rw [toRat_eq_of_cross hc.ne' (Int.mul_ne_zero ha.ne' hb.ne') h]
  unfold toRat; push_cast
  rw [div_add_div _ _ (cast_ne ha.ne') (cast_ne hb.ne'), mul_comm (b.num : ℚ)]

theorem sub_toRat (a b c : Ratio) (ha : 0 < a.den) (hb : 0 < b.den) (hc : 0 < c.den)
    (h : c.num * (a.den * b.den) = (a.num * b.den - b.num * a.den) * c.den) :
    toRat c = toRat a - toRat b := by
  rw [toRat_eq_of_cross hc.ne' (Int.mul_ne_zero ha.ne' hb.ne') h]
  unfold toRat; push_cast
  rw [div_sub_div _ _ (cast_ne ha.ne') (cast_ne hb.ne'), mul_comm (b.num : ℚ)]

theorem mul_toRat (a b c : Ratio) (ha : 0 < a.den) (hb : 0 < b.den) (hc : 0 < c.den)
    (h : c.num * (a.den * b.den) = (a.num * b.num) * c.den) :
    toRat c = toRat a * toRat b := by
  rw [toRat_eq_of_cross hc.ne' (Int.mul_ne_zero ha.ne' hb.ne') h]
  unfold toRat; push_cast
  rw [div_mul_div_comm]

theorem neg_toRat (a c : Ratio) (ha : 0 < a.den) (hc : 0 < c.den)
    (h : c.num * a.den = -a.num * c.den) : toRat c = -toRat a := by
  rw [toRat_eq_of_cross hc.ne' ha.ne' h]
  unfold toRat; push_cast
  rw [neg_div]

theorem inv_toRat (a c : Ratio) (ha : a.num ≠ 0) (hc : 0 < c.den)
    (h : c.num * a.num = a.den * c.den) : toRat c = (toRat a)⁻¹ := by
  rw [toRat_eq_of_cross hc.ne' ha h]
  unfold toRat
  rw [inv_div]

theorem div_toRat (a b c : Ratio) (ha : 0 < a.den) (hb : b.num ≠ 0) (hc : 0 < c.den)
    (h : c.num * (a.den * b.num) = (a.num * b.den) * c.den) :
    toRat c = toRat a / toRat b := by
  rw [toRat_eq_of_cross hc.ne' (Int.mul_ne_zero ha.ne' hb) h]
  unfold toRat; push_cast
  rw [div_div_div_eq]

theorem add_q (a b : Ratio) (ha : Canon a) (hb : Canon b) :
    ∃ c, Ratio.add a b = ok c ∧ Canon c ∧ toRat c = toRat a + toRat b := by
  obtain ⟨c, h1, h2, h3⟩ := addSub_spec false a b ha hb
  exact ⟨c, h1, h2, add_toRat a b c ha.1 hb.1 h2.1 h3⟩
theorem sub_q (a b : Ratio) (ha : Canon a) (hb : Canon b) :
    ∃ c, Ratio.sub a b = ok c ∧ Canon c ∧ toRat c = toRat a - toRat b := by
  obtain ⟨c, h1, h2, h3⟩ := addSub_spec true a b ha hb
  exact ⟨c, h1, h2, sub_toRat a b c ha.1 hb.1 h2.1 h3⟩
theorem mul_q (a b : Ratio) (ha : Canon a) (hb : Canon b) :
    ∃ c, Ratio.mul a b = ok c ∧ Canon c ∧ toRat c = toRat a * toRat b := by
  obtain ⟨c, h1, h2, h3⟩ := mul_spec a b ha hb
  exact ⟨c, h1, h2, mul_toRat a b c ha.1 hb.1 h2.1 h3⟩
theorem neg_q (a : Ratio) (ha : Canon a) :
    ∃ c, Ratio.neg a = ok c ∧ Canon c ∧ toRat c = -toRat a := by
  obtain ⟨c, h1, h2, h3⟩ := neg_spec a ha
  exact ⟨c, h1, h2, neg_toRat a c ha.1 h2.1 h3⟩
theorem inv_q (a : Ratio) (hn : a.num ≠ 0) :
    ∃ c, Ratio.inv a = ok (some c) ∧ Canon c ∧ toRat c = (toRat a)⁻¹ := by
  obtain ⟨c, h1, h2, h3⟩ := inv_spec a hn
  exact ⟨c, h1, h2, inv_toRat a c hn h2.1 h3⟩
theorem div_q (a b : Ratio) (ha : Canon a) (hn : b.num ≠ 0) :
    ∃ c, Ratio.div a b = ok c ∧ Canon c ∧ toRat c = toRat a / toRat b := by
  obtain ⟨c, h1, h2, h3⟩ := div_spec a b ha hn
  exact ⟨c, h1, h2, div_toRat a b c ha.1 hn h2.1 h3⟩

/-- one step of an operation history: the operand is itself canonical (it comes from `new`/`from`) -/
inductive HStep where
  | add (b : Ratio) (hb : Canon b)
  | sub (b : Ratio) (hb : Canon b)
  | mul (b : Ratio) (hb : Canon b)
  | div (b : Ratio) (hb : Canon b)
  | radd (b : Ratio) (hb : Canon b)
  | rsub (b : Ratio) (hb : Canon b)
  | rmul (b : Ratio) (hb : Canon b)
  | rdiv (b : Ratio) (hb : Canon b)
  | neg
  | inv

def runStep (a : Ratio) : HStep → Res Ratio
  | .add b _ => Ratio.add a b
  | .sub b _ => Ratio.sub a b
  | .mul b _ => Ratio.mul a b
  | .div b _ => Ratio.div a b
  | .radd b _ => Ratio.add b a
  | .rsub b _ => Ratio.sub b a
  | .rmul b _ => Ratio.mul b a
  | .rdiv b _ => Ratio.div b a
  | .neg => Ratio.neg a
  | .inv => do
    match (← Ratio.inv a) with
    | some i => ok i
    | none => err

/-- the same step in ℚ (division by zero does not occur on runs that return `ok`) -/
noncomputable def evalStep (x : ℚ) : HStep → ℚ
  | .add b _ => x + toRat b
  | .sub b _ => x - toRat b
  | .mul b _ => x * toRat b
  | .div b _ => x / toRat b
  | .radd b _ => toRat b + x
  | .rsub b _ => toRat b - x
  | .rmul b _ => toRat b * x
  | .rdiv b _ => toRat b / x
  | .neg => -x
  | .inv => x⁻¹

def runHistory (a : Ratio) : List HStep → Res Ratio
  | [] => ok a
  | s :: ss =>
    match runStep a s with
    | .ok b => runHistory b ss
    | .panic => .panic
    | .err => .err

noncomputable def evalHistory (x : ℚ) : List HStep → ℚ
  | [] => x
  | s :: ss => evalHistory (evalStep x s) ss

theorem canon_toRat_of_ok {r : Res Ratio} {q : ℚ} {b : Ratio} (hs : ∃ c, r = ok c ∧ Canon c ∧ toRat c = q) (h : r = ok b) :
    Canon b ∧ toRat b = q := by
  obtain ⟨c, h1, h2, h3⟩ := hs
  rw [h1] at h; cases h; exact ⟨h2, h3⟩

theorem step_spec (s : HStep) (a b : Ratio) (ha : Canon a) (h : runStep a s = ok b) :
    Canon b ∧ toRat b = evalStep (toRat a) s := by
  cases s with
  | add x hx => exact canon_toRat_of_ok (add_q a x ha hx) h
  | sub x hx => exact canon_toRat_of_ok (sub_q a x ha hx) h
  | mul x hx => exact canon_toRat_of_ok (mul_q a x ha hx) h
  | div x hx =>
    by_cases hn : x.num = 0
    · simp [runStep, div_zero a x hn] at h
    · exact canon_toRat_of_ok (div_q a x ha hn) h
  | radd x hx => exact canon_toRat_of_ok (add_q x a hx ha) h
  | rsub x hx => exact canon_toRat_of_ok (sub_q x a hx ha) h
  | rmul x hx => exact canon_toRat_of_ok (mul_q x a hx ha) h
  | rdiv x hx =>
    by_cases hn : a.num = 0
    · simp [runStep, div_zero x a hn] at h
    · exact canon_toRat_of_ok (div_q x a hx hn) h
  | neg => exact canon_toRat_of_ok (neg_q a ha) h
  | inv =>
    by_cases hn : a.num = 0
    · simp [runStep, inv_zero a hn] at h
    · obtain ⟨c, h1, h2, h3⟩ := inv_q a hn
      simp only [runStep, h1, Res.bind_ok, ok.injEq] at h; subst h; exact ⟨h2, h3⟩

end Yuiv.C14
