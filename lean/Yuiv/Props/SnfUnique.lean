import Yuiv.Proofs.SnfUniqueC09
import Yuiv.Proofs.SnfUniqueRank
import Mathlib.Algebra.Field.ZMod
import Mathlib.Data.Int.Associated
/-
UNIQUENESS OF THE SMITH NORMAL FORM over ℤ.

Properties C09 (Smith normal form) and C07 (homology rank/torsion) prove that the code returns `D = P·A·Q` with `P`, `Q`
invertible and `D` a normalised Smith diagonal.  What was trusted mathematics is that `D` is DETERMINED by `A`.
Here this is proved, over ℤ, for Mathlib matrices `Matrix (Fin m) (Fin n) ℤ` and then for the framework's own objects.

Vocabulary: `dgM D k` is the `k`-th diagonal entry (`0` outside the matrix); `IsSmith D` says: off-diagonal entries
vanish and `dgM D k ∣ dgM D (k+1)` for all `k` (hence zeros only at the end); `nsol q A` is the number of solutions of
`A·x = 0` in `(ℤ/q)ⁿ`; `cz d q = #{y ∈ ℤ/q | d·y = 0}`.

Proof by counting (Mathlib has neither the statement nor Cauchy–Binet): `nsol q` is invariant under `A ↦ U·A·V`
(`nsol_invariant`), it is `∏ cz (d_i) q` on a diagonal matrix (`nsol_smith`), and a divisibility chain is determined up
to sign by these products for all `q ≥ 1` (`Proofs: chain_unique`).

What is determined by `A`, in increasing strength: (M1) the number of non-zero diagonal entries (the rank);
(M2) the number of unit entries and, for every `p`, of entries not divisible by `p` (the rank modulo `p`);
(M3) every diagonal entry up to sign.
-/
namespace Yuiv.SnfUnique
open Matrix Finset

variable {m n : ℕ}

/-- the number of solutions of `A·x = 0` over `ℤ/q` does not change under `A ↦ U·A·V`, `U`, `V` invertible over ℤ -/
theorem nsol_invariant (q : ℕ) (A : Matrix (Fin m) (Fin n) ℤ) (U : Matrix (Fin m) (Fin m) ℤ)
    (V : Matrix (Fin n) (Fin n) ℤ) (hU : IsUnit U.det) (hV : IsUnit V.det) : nsol q (U * A * V) = nsol q A :=
  nsol_mul q U U⁻¹ V V⁻¹ (Matrix.mul_nonsing_inv U hU) (Matrix.mul_nonsing_inv V hV) A

/-- for a diagonal matrix the number of solutions of `D·x = 0` over `ℤ/q` is `∏_{i<n} #{y ∈ ℤ/q | d_i·y = 0}` -/
theorem nsol_smith (q : ℕ) (D : Matrix (Fin m) (Fin n) ℤ) (hD : IsDiagM D) :
    nsol q D = ∏ i ∈ range n, cz (dgM D i) q := nsol_diag q D hD

/-- the counting function is explicit: the number of `y ∈ ℤ/q` with `d·y = 0` is `gcd(|d|, q)` (`q ≥ 1`) -/
theorem solutions_mod_q_eq_gcd (d : ℤ) (q : ℕ) (hq : 0 < q) : cz d q = Nat.gcd d.natAbs q := by
  have : NeZero q := ⟨by omega⟩
  exact cz_eq_gcd d q

/-- hence for a diagonal matrix the number of solutions of `D·x = 0` over `ℤ/q` is `∏_{i<n} gcd(|d_i|, q)`
(`d_i = 0`, factor `q`, for `i ≥ m`) — the complete system of invariants used in the proof -/
theorem nsol_smith_gcd (q : ℕ) (hq : 0 < q) (D : Matrix (Fin m) (Fin n) ℤ) (hD : IsDiagM D) :
    nsol q D = ∏ i ∈ range n, Nat.gcd (dgM D i).natAbs q := by
  have : NeZero q := ⟨by omega⟩
  exact nsol_diag_gcd q D hD

/-- **uniqueness of the Smith normal form over ℤ.**  If `D` and `D'` are Smith diagonals (diagonal, `d_0 ∣ d_1 ∣ …`) and
`D' = U·D·V` with `U`, `V` invertible over ℤ, then `|d_k| = |d'_k|` for every `k`. -/
theorem smith_diag_unique (D D' : Matrix (Fin m) (Fin n) ℤ) (hD : IsSmith D) (hD' : IsSmith D')
    (U : Matrix (Fin m) (Fin m) ℤ) (V : Matrix (Fin n) (Fin n) ℤ) (hU : IsUnit U.det) (hV : IsUnit V.det)
    (h : D' = U * D * V) (k : ℕ) : (dgM D k).natAbs = (dgM D' k).natAbs :=
  smith_natAbs_eq_of_uequiv hD hD' ⟨U, V, hU, hV, h.symm⟩ k

/-- … equivalently the diagonal entries are associated (equal up to a unit `±1`) -/
theorem smith_diag_associated (D D' : Matrix (Fin m) (Fin n) ℤ) (hD : IsSmith D) (hD' : IsSmith D')
    (U : Matrix (Fin m) (Fin m) ℤ) (V : Matrix (Fin n) (Fin n) ℤ) (hU : IsUnit U.det) (hV : IsUnit V.det)
    (h : D' = U * D * V) (k : ℕ) : Associated (dgM D k) (dgM D' k) :=
  Int.natAbs_eq_iff_associated.1 (smith_diag_unique D D' hD hD' U V hU hV h k)

/-- two Smith forms `U·A·V = D`, `U'·A·V' = D'` of the SAME matrix `A` (transforms with explicit right inverses, as the
code hands them out) have the same diagonal up to sign -/
theorem smith_of_same_matrix_unique (A D D' : Matrix (Fin m) (Fin n) ℤ) (hD : IsSmith D) (hD' : IsSmith D')
    (U Ui U' Ui' : Matrix (Fin m) (Fin m) ℤ) (V Vi V' Vi' : Matrix (Fin n) (Fin n) ℤ)
    (hU : U * Ui = 1) (hV : V * Vi = 1) (hU' : U' * Ui' = 1) (hV' : V' * Vi' = 1)
    (h : U * A * V = D) (h' : U' * A * V' = D') (k : ℕ) : (dgM D k).natAbs = (dgM D' k).natAbs :=
  smith_natAbs_eq_of_uequiv hD hD' ((C03Uct.UEquiv.of_inverses hU hV h).symm.trans (C03Uct.UEquiv.of_inverses hU' hV' h')) k

/-- **normalised Smith forms are equal.**  If moreover both diagonals are non-negative then `D = D'` -/
theorem smith_unique_normalised (D D' : Matrix (Fin m) (Fin n) ℤ) (hD : IsSmith D) (hD' : IsSmith D')
    (hn : ∀ k, 0 ≤ dgM D k) (hn' : ∀ k, 0 ≤ dgM D' k)
    (U : Matrix (Fin m) (Fin m) ℤ) (V : Matrix (Fin n) (Fin n) ℤ) (hU : IsUnit U.det) (hV : IsUnit V.det)
    (h : D' = U * D * V) : D = D' :=
  eq_of_dgM_eq D D' hD.diag hD'.diag fun k =>
    eq_of_natAbs_eq_of_nonneg (smith_diag_unique D D' hD hD' U V hU hV h k) (hn k) (hn' k)

/-! ### (M1), (M2) as corollaries: the counts of zero / unit / `p`-divisible entries are invariants -/

/-- every integer divides `d_k` iff it divides `d'_k`; with `q = 0`: `d_k = 0 ↔ d'_k = 0` (M1: the rank, i.e. the
number of non-zero entries, agrees), with `q = p` prime: (M2) -/
theorem smith_diag_dvd_iff (D D' : Matrix (Fin m) (Fin n) ℤ) (hD : IsSmith D) (hD' : IsSmith D')
    (U : Matrix (Fin m) (Fin m) ℤ) (V : Matrix (Fin n) (Fin n) ℤ) (hU : IsUnit U.det) (hV : IsUnit V.det)
    (h : D' = U * D * V) (k : ℕ) (q : ℤ) : q ∣ dgM D k ↔ q ∣ dgM D' k :=
  (smith_diag_associated D D' hD hD' U V hU hV h k).dvd_iff_dvd_right

/-- (M1) the number of non-zero diagonal entries (the rank), (M2) the number of unit entries (trivial summands of the
cokernel) and, for every `p`, the number of entries not divisible by `p` (the rank modulo `p`) are determined -/
theorem smith_counts_unique (D D' : Matrix (Fin m) (Fin n) ℤ) (hD : IsSmith D) (hD' : IsSmith D')
    (U : Matrix (Fin m) (Fin m) ℤ) (V : Matrix (Fin n) (Fin n) ℤ) (hU : IsUnit U.det) (hV : IsUnit V.det)
    (h : D' = U * D * V) :
    #{k ∈ range (min m n) | dgM D k ≠ 0} = #{k ∈ range (min m n) | dgM D' k ≠ 0} ∧
    #{k ∈ range (min m n) | IsUnit (dgM D k)} = #{k ∈ range (min m n) | IsUnit (dgM D' k)} ∧
    ∀ p : ℤ, #{k ∈ range (min m n) | ¬ p ∣ dgM D k} = #{k ∈ range (min m n) | ¬ p ∣ dgM D' k} := by
  have ha := smith_diag_associated D D' hD hD' U V hU hV h
  exact ⟨congrArg card (filter_congr fun k _ => (ha k).ne_zero_iff),
    congrArg card (filter_congr fun k _ => (ha k).isUnit_iff),
    fun p => congrArg card (filter_congr fun k _ => not_congr (ha k).dvd_iff_dvd_right)⟩

/-- (M1, rank form) if `D = U·A·V` is a Smith form of `A` then the rank of `A` over ℚ is the number of non-zero diagonal
entries of `D` -/
theorem smith_rank_rat (A D : Matrix (Fin m) (Fin n) ℤ) (hD : IsSmith D)
    (U : Matrix (Fin m) (Fin m) ℤ) (V : Matrix (Fin n) (Fin n) ℤ) (hU : IsUnit U.det) (hV : IsUnit V.det)
    (h : D = U * A * V) :
    (A.map (Int.castRingHom ℚ)).rank = #{k ∈ range (min m n) | dgM D k ≠ 0} := by
  classical
  rw [((C03Uct.UEquiv.mul A hU hV).map (Int.castRingHom ℚ)).rank_eq, ← h, rank_map_diag (Int.castRingHom ℚ) D hD.diag]
  exact congrArg card (filter_congr fun k _ => by rw [eq_intCast, Int.cast_ne_zero])

/-- (M2, rank form) … and for every prime `p` the rank of `A` over `𝔽_p` is the number of diagonal entries of `D` not
divisible by `p` -/
theorem smith_rank_mod_p (p : ℕ) [Fact p.Prime] (A D : Matrix (Fin m) (Fin n) ℤ) (hD : IsSmith D)
    (U : Matrix (Fin m) (Fin m) ℤ) (V : Matrix (Fin n) (Fin n) ℤ) (hU : IsUnit U.det) (hV : IsUnit V.det)
    (h : D = U * A * V) :
    (A.map (Int.castRingHom (ZMod p))).rank = #{k ∈ range (min m n) | ¬ (p : ℤ) ∣ dgM D k} := by
  classical
  rw [((C03Uct.UEquiv.mul A hU hV).map (Int.castRingHom (ZMod p))).rank_eq, ← h,
    rank_map_diag (Int.castRingHom (ZMod p)) D hD.diag]
  exact congrArg card (filter_congr fun k _ => by rw [eq_intCast, ne_eq, ZMod.intCast_zmod_eq_zero_iff_dvd])

/-- (M3′) the product of the non-zero diagonal entries — the order of the torsion subgroup of the cokernel — is determined -/
theorem smith_torsion_order_unique (D D' : Matrix (Fin m) (Fin n) ℤ) (hD : IsSmith D) (hD' : IsSmith D')
    (U : Matrix (Fin m) (Fin m) ℤ) (V : Matrix (Fin n) (Fin n) ℤ) (hU : IsUnit U.det) (hV : IsUnit V.det)
    (h : D' = U * D * V) :
    ∏ k ∈ range (min m n) with dgM D k ≠ 0, (dgM D k).natAbs =
      ∏ k ∈ range (min m n) with dgM D' k ≠ 0, (dgM D' k).natAbs := by
  have hk := smith_diag_unique D D' hD hD' U V hU hV h
  have hf : ∀ k, dgM D k ≠ 0 ↔ dgM D' k ≠ 0 := fun k => by
    rw [← Int.natAbs_ne_zero, ← Int.natAbs_ne_zero, hk k]
  rw [Finset.filter_congr (fun k _ => hf k)]
  exact Finset.prod_congr rfl fun k _ => hk k

/-! ### non-vacuity: `A = [[2,4],[6,8]]` has the Smith form `diag(2, 4)`, reached by two different transform pairs -/

example : IsSmith !![(2 : ℤ), 0; 0, 4] := by
  refine ⟨?_, ?_⟩
  · intro i j hij
    fin_cases i <;> fin_cases j <;> first | rfl | exact absurd rfl hij
  · intro k
    rcases k with _ | k
    · exact ⟨2, rfl⟩
    · rw [dgM_out _ (k + 1 + 1) (by omega)]; exact dvd_zero _

example : !![(1 : ℤ), 0; 3, -1] * !![2, 4; 6, 8] * !![1, -2; 0, 1] = !![2, 0; 0, 4] ∧
    !![(1 : ℤ), 0; -3, 1] * !![2, 4; 6, 8] * !![1, 2; 0, -1] = !![2, 0; 0, 4] ∧
    IsUnit (!![(1 : ℤ), 0; 3, -1]).det ∧ IsUnit (!![(1 : ℤ), -2; 0, 1]).det ∧
    IsUnit (!![(1 : ℤ), 0; -3, 1]).det ∧ IsUnit (!![(1 : ℤ), 2; 0, -1]).det := by
  refine ⟨?_, ?_, ?_, ?_, ?_, ?_⟩
  · rw [Matrix.mul_fin_two, Matrix.mul_fin_two]; norm_num
  · rw [Matrix.mul_fin_two, Matrix.mul_fin_two]; norm_num
  all_goals (rw [Matrix.det_fin_two_of]; decide)

end Yuiv.SnfUnique

namespace Yuiv.C09
open Yuiv Matrix Yuiv.SnfUnique

variable {m n : Nat}

/-- `IsSnfOf A T` is literally the conclusion of `snf_total_correct` about the final target `T`
(there are `P, P⁻¹, Q, Q⁻¹` with `P·A·Q = T`, `P·P⁻¹ = Q·Q⁻¹ = I`, `T` diagonal, `ShapeSpec (0 ≤ ·) (diagL T)`).  Any two
matrices satisfying it for the same `A` have the same diagonal list — and are equal entry by entry. -/
theorem snf_diag_unique (A T T' : Mat Int m n) (h : IsSnfOf A T) (h' : IsSnfOf A T') :
    diagL T = diagL T' ∧ ∀ i j, T.get i j = T'.get i j := by
  have hd := dgM_eq_of_isSnfOf A T T' h h'
  refine ⟨diagL_eq_of_dgM_eq T T' hd, fun i j => ?_⟩
  obtain ⟨P, Pi, Q, Qi, w⟩ := h
  obtain ⟨P', Pi', Q', Qi', w'⟩ := h'
  have := eq_of_dgM_eq (toM id T) (toM id T') w.isSmith.diag w'.isSmith.diag hd
  exact congrFun (congrFun this i) j

/-- **the code model's diagonal IS the invariant-factor list of `A`.**  For every integer matrix the code model of
`SnfCalc::process` returns (for all `fuel ≥ N`) one state `s` whose target is a normalised Smith form of `A`, and
EVERY normalised Smith form `T` of `A` — however obtained — has the same diagonal `diagL T = diagL s.t`. -/
theorem snf_model_diag_is_the_invariant (A : Mat Int m n) :
    ∃ N s, (∀ fuel, N ≤ fuel → snfCalc intOps true (fun s => .ok s) fuel A = .ok s) ∧ IsSnfOf A s.t ∧
      ∀ T, IsSnfOf A T → diagL T = diagL s.t := by
  obtain ⟨N, s, hN, hs⟩ := snf_total_correct A
  have hsn : IsSnfOf A s.t := ⟨s.p, s.pinv, s.q, s.qinv, hs⟩
  exact ⟨N, s, hN, hsn, fun T hT => (snf_diag_unique A T s.t hT hsn).1⟩

/-- whenever the code model returns (any fuel), its diagonal equals the diagonal of any normalised Smith form of `A` -/
theorem snf_result_diag_unique (fuel : Nat) (A : Mat Int m n) (s : St Int m n)
    (h : snfCalc intOps true (fun s => .ok s) fuel A = .ok s) (T : Mat Int m n) (hT : IsSnfOf A T) :
    diagL s.t = diagL T :=
  (snf_diag_unique A s.t T ⟨s.p, s.pinv, s.q, s.qinv, snf_correct fuel A s h⟩ hT).1

/-- **the diagonal is an invariant of the equivalence class.**  If `A' = U·A·V` with `U`, `V` invertible over ℤ then the
code model computes the same diagonal for `A` and `A'` -/
theorem snf_diag_equiv_invariant (fuel fuel' : Nat) (A A' : Mat Int m n) (s s' : St Int m n)
    (h : snfCalc intOps true (fun s => .ok s) fuel A = .ok s)
    (h' : snfCalc intOps true (fun s => .ok s) fuel' A' = .ok s')
    (U : Matrix (Fin m) (Fin m) ℤ) (V : Matrix (Fin n) (Fin n) ℤ) (hU : IsUnit U.det) (hV : IsUnit V.det)
    (hA : toM id A' = U * toM id A * V) : diagL s.t = diagL s'.t := by
  have w : SnfWitness A s.t s.p s.pinv s.q s.qinv := snf_correct fuel A s h
  have w' : SnfWitness A' s'.t s'.p s'.pinv s'.q s'.qinv := snf_correct fuel' A' s' h'
  apply diagL_eq_of_dgM_eq
  intro k
  have hn := smith_natAbs_eq_of_uequiv w.isSmith w'.isSmith
    ((w.uequiv.symm.trans ⟨U, V, hU, hV, hA.symm⟩).trans w'.uequiv) k
  exact eq_of_natAbs_eq_of_nonneg hn ((shapeSpec_chain_nonneg s.t w.2.2).2 k)
    ((shapeSpec_chain_nonneg s'.t w'.2.2).2 k)

/-- the same against an arbitrary Smith form given as Mathlib matrices: if `D = U·A·V` (`U`, `V` with unit determinant) is a
Smith diagonal with non-negative entries, then the Mathlib image of every framework Smith form `T` of `A` IS `D` -/
theorem snf_eq_any_smith_form (A T : Mat Int m n) (h : IsSnfOf A T) (D : Matrix (Fin m) (Fin n) ℤ)
    (U : Matrix (Fin m) (Fin m) ℤ) (V : Matrix (Fin n) (Fin n) ℤ) (hU : IsUnit U.det) (hV : IsUnit V.det)
    (hD : IsSmith D) (hn : ∀ k, 0 ≤ dgM D k) (hA : U * toM id A * V = D) :
    toM id T = D ∧ diagL T = (List.range (min m n)).map (dgM D) := by
  have hd := dgM_eq_of_isSnfOf_matrix A T h D U V hU hV hD hn hA
  obtain ⟨P, Pi, Q, Qi, w⟩ := h
  refine ⟨eq_of_dgM_eq (toM id T) D w.isSmith.diag hD.diag hd, ?_⟩
  rw [diagL_eq_map_dgM]
  exact List.map_congr_left fun k _ => hd k

/-! ### non-vacuity in the framework: `A = [[2,4],[6,8]]` -/

/-- the code model returns `diag(2, 4)` … -/
example : (match snfCalc intOps true (fun s => .ok s) 50 (⟨#v[#v[2, 4], #v[6, 8]]⟩ : Mat Int 2 2) with
    | .ok s => diagL s.t == [2, 4]
    | _ => false) = true := by decide +kernel

/-- … and `diag(2, 4)` is a normalised Smith form of `A` through a hand-made pair `(P, Q) = ([[1,0],[-3,1]], [[1,2],[0,-1]])`
(column operations first), different from the transforms the code finds -/
example : IsSnfOf (⟨#v[#v[2, 4], #v[6, 8]]⟩ : Mat Int 2 2) ⟨#v[#v[2, 0], #v[0, 4]]⟩ := by
  refine ⟨⟨#v[#v[1, 0], #v[-3, 1]]⟩, ⟨#v[#v[1, 0], #v[3, 1]]⟩, ⟨#v[#v[1, 2], #v[0, -1]]⟩, ⟨#v[#v[1, 2], #v[0, -1]]⟩,
    ⟨by decide, by decide, by decide⟩, spec_of_isSnfShape _ (by decide)⟩

end Yuiv.C09
