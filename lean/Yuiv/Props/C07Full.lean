import Yuiv.Proofs.C07Full
/-
C07 END-TO-END over ℤ.

`Props/C07.lean` proves the code model of `HomologyCalc::{calculate, trans}` correct *under the SNF specification*
(the SNF routine is a parameter of the model); `Props/C09Full.lean` proves that the code model of the library's own
SNF over ℤ (`SnfCalc::process`, `C09.snfCalc intOps`) always returns (given enough fuel) and meets that specification.
Here the two executable models are LITERALLY COMPOSED — `calculate (snfC09 fuel) d1 d2 true`, where
`snfC09 fuel : SnfFn` (Proofs/C07Full.lean) converts the `C07.Mat` to a `C09.Mat`, runs `C09.snfCalc intOps true id fuel`
and converts the final state `St = (t, p, pinv, q, qinv)` back into the `Snf` record, handing out the matrices the
flags ask for — and ALL clauses of property C07 are proved for the composite, with no hypothesis besides
`d2·d1 = 0` and the shape condition `d2.ncols = d1.nrows` (which `calculate` asserts).

Not covered (same as in C09Full): the LLL–HNF preprocessing of `snf_in_place` for integer types is the identity in the
C09 model (`pre = fun s => .ok s`); the fuel is existential (`∃ N, ∀ fuel ≥ N`).
-/
namespace Yuiv.C07
open Matrix Yuiv

/-- **the number of non-zero diagonal entries of the library's SNF is the rank.**  For every integer matrix the C09
code model returns (for all `fuel ≥ N`) one final state `st`, and the number of non-zero entries on the diagonal of
its target equals `Matrix.rank` of the input over ℤ (= rank of the free abelian group `im A`). -/
theorem snf_nzCount_eq_rank (A : Mat) :
    ∃ (N : Nat) (st : C09.St Int A.r A.c),
      (∀ fuel, N ≤ fuel → C09.snfCalc C09.intOps true (fun s => .ok s) fuel (toC09 A) = .ok st) ∧
      nzCount st = (A.toM A.r A.c).rank := by
  obtain ⟨N, st, hN, _, hrk⟩ := nzCountG_eq_rank C09.int_lawfulEuc A.toG
  exact ⟨N, st, hN, hrk⟩

/-- **C07 end-to-end (ℤ).**  For every pair of integer matrices `d1 : n×m`, `d2 : k×n` (`n = d1.r`, `m = d1.c`,
`k = d2.r`) with `d2·d1 = 0` there is a fuel bound `N` such that for every `fuel ≥ N` the code model of
`HomologyCalc::calculate(d1, d2, with_trans = true)` running on the code model of the library's SNF returns — no
panic, no fuel exhaustion — one answer `(rank, tors, T)` with `P = T.forward_mat()`, `Q = T.backward_mat()` and

* `rank + r(d1) + r(d2) = n`, where `r(·)` = number of non-zero diagonal entries of the SNF which the library
  computes for `d1` resp. `d2` (`st1`, `st2`), and `r(·)` = `Matrix.rank` over ℤ;
* `tors` = the non-zero entries `≠ 1` on the Smith diagonal of `d1` (`st1`), in order (they are positive and each
  divides the next by `C09.snf_total_correct`);
* `HomologySpec`: `P·Q = I`; `d2·Q = 0`; every boundary `d1·x` has zero free coordinates and torsion coordinate `u`
  divisible by `tors[u]`; `P·(Q·e_i) = e_i`; torsion orders `> 1`; and completeness — every cycle whose free
  coordinates vanish and whose torsion coordinates are divisible by the orders is a boundary.
  (So `z ↦ P·z` induces `ker d2 / im d1 ≅ ℤ^rank ⊕ ⊕_u ℤ/tors[u]`.) -/
theorem calculate_end_to_end (d1 d2 : Mat) (hsh : d2.c = d1.r)
    (hdd : d2.toM d2.r d1.r * d1.toM d1.r d1.c = 0) :
    ∃ (N : Nat) (st1 : C09.St Int d1.r d1.c) (st2 : C09.St Int d2.r d2.c)
      (rank : Nat) (tors : List Int) (T : Trans) (P Q : Mat),
      (∀ fuel, N ≤ fuel → C09.snfCalc C09.intOps true (fun s => .ok s) fuel (toC09 d1) = .ok st1) ∧
      (∀ fuel, N ≤ fuel → C09.snfCalc C09.intOps true (fun s => .ok s) fuel (toC09 d2) = .ok st2) ∧
      (∀ fuel, N ≤ fuel → calculate (snfC09 fuel) d1 d2 true = .ok (rank, tors, some T)) ∧
      T.forwardMat = .ok P ∧ T.backwardMat = .ok Q ∧
      rank + nzCount st1 + nzCount st2 = d1.r ∧
      nzCount st1 = (d1.toM d1.r d1.c).rank ∧ nzCount st2 = (d2.toM d2.r d1.r).rank ∧
      tors = nonUnitFactors st1 ∧
      HomologySpec d1 d2 d1.r d1.c d2.r rank tors P Q := by
  obtain ⟨N, st1, st2, rank, tors, T, P, Q, h1, h2, h3, h4, h5, hs1, _, h6, h7, h8, h9, h10⟩ :=
    calculateG_end_to_end C09.int_lawfulEuc d1.toG d2.toG hsh hdd
  obtain ⟨T', hT', hc⟩ := calculate_of_calculateG_int (h3 N (Nat.le_refl _))
  subst hT'
  rw [forwardMatG_int] at h4
  rw [backwardMatG_int] at h5
  have h4' := mapR_toG_ok h4
  have h5' := mapR_toG_ok h5
  refine ⟨N, st1, st2, rank, tors, T', P.toZ, Q.toZ, h1, h2, ?_, h4', h5', h6, h7, h8, ?_, ?_⟩
  · intro fuel hf
    obtain ⟨T'', hT'', hc'⟩ := calculate_of_calculateG_int (h3 fuel hf)
    have : T'' = T' := Trans.toG_injective hT''
    rw [hc', this]
  · rw [h9]; exact nonUnitFactorsG_int st1 hs1
  · exact HomologySpecG.to_int (P := P.toZ) (Q := Q.toZ) h10

/- `runsTo d1 d2 rank tors` (Proofs/C07Full.lean): run `calculate (snfC09 50) d1 d2 true`, compare `(rank, tors)` and let the
verified checker `check` (Model/C07.lean) confirm `P·Q = I`, `d2·Q = 0` and the boundary clause on the returned maps -/

/-- the cellular chain complex of `RP²` (`rp2` in yui-homology/src/generic/complex.rs), `C₂ → C₁ → C₀` with
`d₂ = (2)`, `d₁ = (0)`:  `H₁ = ℤ/2` — `d1 = (2) : ℤ¹ → ℤ¹`, `d2 = (0) : ℤ¹ → ℤ¹` -/
example : runsTo ⟨1, 1, #[2]⟩ ⟨1, 1, #[0]⟩ 0 [2] = true := by decide +kernel

/-- … `H₀(RP²) = ℤ` (`d1 = (0)`, `d2 : ℤ¹ → 0`) and `H₂(RP²) = 0` (`d1 : 0 → ℤ¹`, `d2 = (2)`) -/
example : runsTo ⟨1, 1, #[0]⟩ ⟨0, 1, #[]⟩ 1 [] = true := by decide +kernel
example : runsTo ⟨1, 0, #[]⟩ ⟨1, 1, #[2]⟩ 0 [] = true := by decide +kernel

/-- a complex with a free part and two torsion orders: `d1 = [[2,0,0],[2,6,0],[0,0,0],[0,0,0]] : ℤ³ → ℤ⁴`,
`d2 = (0,0,0,1) : ℤ⁴ → ℤ¹`;  `H = ℤ³/⟨(2,2,0),(0,6,0)⟩ = ℤ ⊕ ℤ/2 ⊕ ℤ/6` -/
example : runsTo ⟨4, 3, #[2, 0, 0, 2, 6, 0, 0, 0, 0, 0, 0, 0]⟩ ⟨1, 4, #[0, 0, 0, 1]⟩ 1 [2, 6] = true :=
  runsTo_free_tors

/-- the hypotheses of `calculate_end_to_end` are satisfiable non-trivially (the complex above: `d2·d1 = 0`) -/
example : prodZero 0 ⟨1, 4, #[0, 0, 0, 1]⟩ ⟨4, 3, #[2, 0, 0, 2, 6, 0, 0, 0, 0, 0, 0, 0]⟩ = true := by decide +kernel

end Yuiv.C07
