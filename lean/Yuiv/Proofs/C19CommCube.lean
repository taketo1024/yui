import Yuiv.Proofs.C19CommEdge
import Yuiv.Proofs.C19CommDefs
/-
C19Comm — the strengthened per-instance check `icubeWf'`, its meaning, and the passage from the involutive cube to the
abstract edge situation `Sit` of `Proofs/C19CommEdge.lean`.
-/
namespace Yuiv.C19Comm
open Yuiv.KhRef Yuiv.C19 Yuiv.C06Cycle Yuiv.C19Inv

theorem arrNodupB_spec (cs : Array (Array Nat)) (h : arrNodupB cs = true) : ArrInj cs := by
  intro i j hi hj e
  unfold arrNodupB at h
  rw [allBelow_spec] at h
  have := (allBelow_spec _ _).1 (h i hi) j hj
  simpa [e] using this

/-- what `icubeWf'` says about one state beyond `WFs` -/
structure WFs' (F : Array Nat → Array Nat) (ic : ICube) (s : Nat) : Prop where
  le64 : (ic.cube.circ[s]!).size ≤ 64
  inj : ArrInj (ic.cube.circ[s]!)
  img : ∀ i < (ic.cube.circ[s]!).size,
    (ic.cube.circ[ic.tst[s]!]!)[(ic.tlab[s]!)[i]!]! = F (ic.cube.circ[s]!)[i]!
  edge : ∀ k < ic.cube.n, s.testBit k = false →
    ∃ k', k' < ic.cube.n ∧ (ic.tst[s]!).testBit k' = false ∧ ic.tst[s ||| 1 <<< k]! = ic.tst[s]! ||| 1 <<< k'

theorem wf'_wf (F : Array Nat → Array Nat) (ic : ICube) (h : icubeWf' F ic = true) : icubeWf ic = true := by
  unfold icubeWf' at h
  simp only [Bool.and_eq_true] at h
  exact h.1

theorem wf'_spec (F : Array Nat → Array Nat) (ic : ICube) (h : icubeWf' F ic = true) :
    ∀ s < 2 ^ ic.cube.n, WFs' F ic s := by
  intro s hs
  unfold icubeWf' at h
  simp only [Bool.and_eq_true, allBelow_spec, beq_iff_eq, decide_eq_true_eq] at h
  obtain ⟨⟨⟨h1, h2⟩, h3⟩, h4⟩ := h.2 s hs
  refine ⟨h1, arrNodupB_spec _ h2, h3, ?_⟩
  intro k hk hb
  have := h4 k hk
  simp only [hb, Bool.false_or, List.any_eq_true, List.mem_range, Bool.and_eq_true, Bool.not_eq_true', beq_iff_eq] at this
  obtain ⟨k', hk', hb', e⟩ := this
  exact ⟨k', hk', hb', e⟩

theorem sit_of_wf (F : Array Nat → Array Nat) (ic : ICube) (h : icubeWf' F ic = true) (s s' : Nat)
    (hs : s < 2 ^ ic.cube.n) (hs' : s' < 2 ^ ic.cube.n) :
    Sit (ic.cube.circ[s]!) (ic.cube.circ[s']!) (ic.cube.circ[ic.tst[s]!]!) (ic.cube.circ[ic.tst[s']!]!)
      (ic.tlab[s]!) (ic.tlab[s']!) (ic.tlab[ic.tst[s]!]!) (ic.tlab[ic.tst[s']!]!) := by
  have h0 := wf'_wf F ic h
  have ws := wf_spec ic h0 s hs
  have ws' := wf_spec ic h0 s' hs'
  have vs := wf'_spec F ic h s hs
  have vs' := wf'_spec F ic h s' hs'
  have vt := wf'_spec F ic h _ ws.lt
  have vt' := wf'_spec F ic h _ ws'.lt
  refine ⟨ws.circ, ws'.circ, ws.lab, ws'.lab, ws.bij, wf_bijInv ic h0 s hs, ws'.bij, wf_bijInv ic h0 s' hs',
    vs.inj, vs'.inj, vt.inj, vt'.inj, vs'.le64, ?_⟩
  intro i hi j hj
  constructor
  · intro e
    rw [vs.img i hi, vs'.img j hj, e]
  · intro e
    have e1 := vt.img _ (by rw [ws.circ]; exact (ws.bij i hi).1)
    have e2 := vt'.img _ (by rw [ws'.circ]; exact (ws'.bij j hj).1)
    rw [ws.inv, (ws.bij i hi).2] at e1
    rw [ws'.inv, (ws'.bij j hj).2] at e2
    rw [e1, e2, e]

/-- the chain mod 2 of a list of terms, as the driver forms it: the targets of the terms with odd coefficient
(a generator occurring an even number of times cancels) -/
def oddSupp (ts : List Term) : List Gen := (ts.filter (fun t => t.2 % 2 != 0)).map (·.1)

theorem oddSupp_cons (t : Term) (ts : List Term) :
    oddSupp (t :: ts) = if t.2 % 2 = 0 then oddSupp ts else t.1 :: oddSupp ts := by
  unfold oddSupp
  rw [List.filter_cons]
  by_cases h : t.2 % 2 = 0 <;> simp [h]

theorem oddSupp_perm {ts ts' : List Term} (h : ts.Perm ts') : (oddSupp ts).Perm (oddSupp ts') :=
  (h.filter _).map _

theorem oddSupp_append (a b : List Term) : oddSupp (a ++ b) = oddSupp a ++ oddSupp b := by
  simp [oddSupp]

theorem oddSupp_scale (sign : Int) (hs : sign = 1 ∨ sign = -1) (ts : List Term) :
    oddSupp (ts.map (fun t => (t.1, sign * t.2))) = oddSupp ts := by
  unfold oddSupp
  rw [List.filter_map, List.map_map]
  have : ((fun t : Term => t.2 % 2 != 0) ∘ fun t : Term => (t.1, sign * t.2)) = (fun t : Term => t.2 % 2 != 0) := by
    funext t
    simp only [Function.comp]
    rcases hs with rfl | rfl
    · simp
    · congr 1
      omega
  rw [this]
  rfl

theorem edgeSign_pm (s k : Nat) : edgeSign s k = 1 ∨ edgeSign s k = -1 := by
  unfold edgeSign
  split
  · exact Or.inl rfl
  · exact Or.inr rfl

/-- `oddSupp` of the terms of one cube edge: the state `s'` and the sign `±1` go on the terms of the mask-level edge map -/
theorem oddSupp_tag (s' : Nat) (sign : Int) (hs : sign = 1 ∨ sign = -1) (ts : List (Nat × Int)) :
    oddSupp (ts.map (fun mt => ((⟨s', mt.1⟩ : Gen), sign * mt.2))) =
      (ts.filter (fun mt => mt.2 % 2 != 0)).map (fun mt => (⟨s', mt.1⟩ : Gen)) := by
  have := oddSupp_scale sign hs (ts.map (fun mt => ((⟨s', mt.1⟩ : Gen), mt.2)))
  rw [List.map_map] at this
  rw [show (fun mt : Nat × Int => ((⟨s', mt.1⟩ : Gen), sign * mt.2)) =
    ((fun t : Term => (t.1, sign * t.2)) ∘ fun mt : Nat × Int => ((⟨s', mt.1⟩ : Gen), mt.2)) from rfl, this]
  unfold oddSupp
  rw [List.filter_map, List.map_map]
  rfl

theorem edge_comm (F : Array Nat → Array Nat) (ic : ICube) (h : icubeWf' F ic = true) (p : Params) (g : Gen)
    (hs : g.s < 2 ^ ic.cube.n) (k : Nat) (hk : k < ic.cube.n) (k' : Nat)
    (hrel : ic.tst[g.s ||| 1 <<< k]! = ic.tst[g.s]! ||| 1 <<< k') :
    Option.Rel (fun ts ts' => ((oddSupp ts).map ic.tau).Perm (oddSupp ts'))
      (edgeTerms ic.cube p g k) (edgeTerms ic.cube p (ic.tau g) k') := by
  have S := sit_of_wf F ic h g.s (g.s ||| 1 <<< k) hs (KhRef.or_bit_lt hs hk)
  have key := edgeCore_tau S p g.mask
  rw [C02Mirror.edgeTerms_bridge, C02Mirror.edgeTerms_bridge]
  rw [show (ic.tau g).s = ic.tst[g.s]! from rfl, show (ic.tau g).mask = tauMask (ic.tlab[g.s]!) g.mask from rfl, ← hrel]
  generalize C02Mirror.edgeTerms p.h p.t (ic.cube.circ[g.s]!) (ic.cube.circ[g.s ||| 1 <<< k]!) g.mask = a at key ⊢
  generalize C02Mirror.edgeTerms p.h p.t (ic.cube.circ[ic.tst[g.s]!]!) (ic.cube.circ[ic.tst[g.s ||| 1 <<< k]!]!)
    (tauMask (ic.tlab[g.s]!) g.mask) = b at key ⊢
  cases key with
  | none => exact Option.Rel.none
  | @some ts ts' hp =>
    refine Option.Rel.some ?_
    -- τ of a term at `s'` is the term at `τ s'` with the mask moved by `tlab[s']`
    rw [oddSupp_tag _ _ (edgeSign_pm _ _), oddSupp_tag _ _ (edgeSign_pm _ _), List.map_map]
    have := (hp.filter (fun mt => mt.2 % 2 != 0)).map (fun mt => (⟨ic.tst[g.s ||| 1 <<< k]!, mt.1⟩ : Gen))
    rw [List.filter_map, List.map_map] at this
    exact this

end Yuiv.C19Comm
