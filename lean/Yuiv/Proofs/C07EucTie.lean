import Yuiv.Proofs.C07EucBridge
import Yuiv.Proofs.C07
/-
C07 — the generic code (`Proofs/C07EucModel.lean`) instantiated at `C09.intOps` IS the `Int` model that the driver
runs (`Model/C07Calc.lean`, `Model/C07Trans.lean`) and that `Props/C07.lean`, `Props/C07Full.lean` are about:
under the bijection `Mat.toG : Mat → GMat Int` (same shape, same array) every function of the generic code
computes the image of what the `Int` function computes.  Most primitives agree by `rfl`; so the entry lemmas of
`Proofs/C07EucBridge.lean` hold for the `Int` matrices (last section), and `toG_toM`: an `Int` matrix read through `id` is `Mat.toM`.
-/
namespace Yuiv.C07
open Yuiv

def Res.mapR {α β : Type} (f : α → β) : Res α → Res β
  | .ok a => .ok (f a)
  | .panic => .panic
  | .err => .err

@[simp] theorem Res.mapR_ok {α β : Type} (f : α → β) (a : α) : Res.mapR f (.ok a) = .ok (f a) := rfl
@[simp] theorem Res.mapR_panic {α β : Type} (f : α → β) : Res.mapR f (.panic : Res α) = .panic := rfl
@[simp] theorem Res.mapR_err {α β : Type} (f : α → β) : Res.mapR f (.err : Res α) = .err := rfl

theorem Res.mapR_eq_ok {α β : Type} {f : α → β} (hf : Function.Injective f) {x : Res α} {a : α}
    (h : Res.mapR f x = .ok (f a)) : x = .ok a := by
  cases x with
  | ok b => exact congrArg Res.ok (hf (Res.ok.inj h))
  | panic => cases h
  | err => cases h

theorem Res.mapR_bind {α β γ : Type} (f : β → γ) (x : Res α) (g : α → Res β) :
    Res.mapR f (x >>= g) = x >>= fun a => Res.mapR f (g a) := by
  cases x <;> rfl

@[simp] theorem GMat.toZ_toG (A : GMat Int) : A.toZ.toG = A := rfl
@[simp] theorem Mat.toG_toZ (A : Mat) : A.toG.toZ = A := rfl
theorem Mat.toG_injective : Function.Injective Mat.toG := fun A B h => by
  have := congrArg GMat.toZ h; simpa using this

theorem Trans.toG_injective : Function.Injective Trans.toG := by
  rintro ⟨a1, a2, a3, a4⟩ ⟨b1, b2, b3, b4⟩ h
  simp only [Trans.toG, GTrans.mk.injEq] at h
  obtain ⟨rfl, rfl, e3, e4⟩ := h
  rw [List.map_injective_iff.2 Mat.toG_injective e3, List.map_injective_iff.2 Mat.toG_injective e4]

local notation "oZ" => C09.intOps.toROps

@[simp] theorem toG_r (A : Mat) : A.toG.r = A.r := rfl
@[simp] theorem toG_c (A : Mat) : A.toG.c = A.c := rfl
@[simp] theorem toG_get (A : Mat) (i j : Nat) : A.toG.get oZ i j = A.get i j := rfl
theorem toG_ofFn (r c : Nat) (f : Nat → Nat → Int) : GMat.ofFn r c f = (Mat.ofFn r c f).toG := rfl
@[simp] theorem toG_id (n : Nat) : GMat.id oZ n = (Mat.id n).toG := rfl
@[simp] theorem toG_dot (A B : Mat) (i j : Nat) : GMat.dot oZ A.toG B.toG i j = Mat.dot A B i j := rfl
@[simp] theorem toG_mul (A B : Mat) : GMat.mul oZ A.toG B.toG = (A.mul B).toG := rfl
@[simp] theorem toG_isZero (A : Mat) : A.toG.isZero oZ = A.isZero := rfl
@[simp] theorem toG_rows (A : Mat) (lo hi : Nat) : A.toG.rows oZ lo hi = (A.rows lo hi).toG := rfl
@[simp] theorem toG_cols (A : Mat) (lo hi : Nat) : A.toG.cols oZ lo hi = (A.cols lo hi).toG := rfl
@[simp] theorem toG_stack (A B : Mat) : A.toG.stack oZ B.toG = (A.stack B).toG := rfl
@[simp] theorem toG_concat (A B : Mat) : A.toG.concat oZ B.toG = (A.concat B).toG := rfl

@[simp] theorem toG_rank (s : Snf) : s.toG.rank oZ = s.rank := rfl
@[simp] theorem toG_factors (s : Snf) : s.toG.factors oZ = s.factors := rfl

/-- `is_unit` of `i64`/`BigInt` (`±1`) is `isUnitZ` -/
theorem int_isUnit_eq (a : Int) : C09.intOps.isUnit a = isUnitZ a := by
  show (a == 1 || a == -1) = (a.natAbs == 1)
  rw [Bool.eq_iff_iff]
  simp only [Bool.or_eq_true, beq_iff_eq]
  omega

theorem Res.bind_mapR {α β γ : Type} (f : α → β) (x : Res α) (g : β → Res γ) :
    (Res.mapR f x >>= g) = x >>= fun a => g (f a) := by
  cases x <;> rfl

theorem assert_mapR {α β : Type} (f : α → β) (c : Bool) (x : α) :
    (Res.assert c >>= fun _ => (pure (f x) : Res β)) = Res.mapR f (Res.assert c >>= fun _ => pure x) := by
  cases c <;> rfl

@[simp] theorem toG_rowsR (A : Mat) (lo hi : Nat) : rowsRG oZ A.toG lo hi = Res.mapR Mat.toG (rowsR A lo hi) := by
  unfold rowsRG rowsR; exact assert_mapR Mat.toG _ (A.rows lo hi)

@[simp] theorem toG_colsR (A : Mat) (lo hi : Nat) : colsRG oZ A.toG lo hi = Res.mapR Mat.toG (colsR A lo hi) := by
  unfold colsRG colsR; exact assert_mapR Mat.toG _ (A.cols lo hi)

@[simp] theorem toG_stackR (A B : Mat) : stackRG oZ A.toG B.toG = Res.mapR Mat.toG (stackR A B) := by
  unfold stackRG stackR; exact assert_mapR Mat.toG _ (A.stack B)

@[simp] theorem toG_concatR (A B : Mat) : concatRG oZ A.toG B.toG = Res.mapR Mat.toG (concatR A B) := by
  unfold concatRG concatR; exact assert_mapR Mat.toG _ (A.concat B)

@[simp] theorem toG_mulMat (A B : Mat) : GTrans.mulMat oZ A.toG B.toG = Res.mapR Mat.toG (Trans.mulMat A B) := by
  unfold GTrans.mulMat Trans.mulMat; exact assert_mapR Mat.toG _ (A.mul B)

@[simp] theorem toG_unwrap (x : Option Mat) : unwrap (x.map Mat.toG) = Res.mapR Mat.toG (unwrap x) := by
  cases x <;> rfl

@[simp] theorem toG_p (s : Snf) : s.toG.p = s.p.map Mat.toG := rfl
@[simp] theorem toG_pinv (s : Snf) : s.toG.pinv = s.pinv.map Mat.toG := rfl
@[simp] theorem toG_q (s : Snf) : s.toG.q = s.q.map Mat.toG := rfl
@[simp] theorem toG_qinv (s : Snf) : s.toG.qinv = s.qinv.map Mat.toG := rfl
@[simp] theorem toG_result (s : Snf) : s.toG.result = s.result.toG := rfl

@[simp] theorem toG_transNew (f b : Mat) : GTrans.new f.toG b.toG = Res.mapR Trans.toG (Trans.new f b) := by
  show (Res.assert (f.c == b.r) >>= fun _ => Res.assert (f.r == b.c) >>= fun _ =>
      Res.assert (f.c == f.c) >>= fun _ => (pure ⟨f.c, f.r, [] ++ [f.toG], [] ++ [b.toG]⟩ : Res (GTrans Int))) =
    Res.mapR Trans.toG (Res.assert (f.c == b.r) >>= fun _ => Res.assert (f.r == b.c) >>= fun _ =>
      Res.assert (f.c == f.c) >>= fun _ => (pure ⟨f.c, f.r, [] ++ [f], [] ++ [b]⟩ : Res Trans))
  generalize (f.c == b.r) = c1
  generalize (f.r == b.c) = c2
  generalize (f.c == f.c) = c3
  cases c1 <;> cases c2 <;> cases c3 <;> rfl

theorem processSnfG_int (snf : SnfFn) (snfG : GSnfFn Int)
    (hsnf : ∀ A fl, snfG (Mat.toG A) fl = Res.mapR Snf.toG (snf A fl)) (d1 d2 : Mat) (wt : Bool) :
    processSnfG oZ snfG d1.toG d2.toG wt =
      Res.mapR (fun x : Snf × Snf => (x.1.toG, x.2.toG)) (processSnf snf d1 d2 wt) := by
  unfold processSnfG processSnf
  rw [hsnf, Res.bind_mapR, Res.mapR_bind]
  congr 1
  funext s1
  simp only [toG_rank, toG_r]
  by_cases h : s1.rank > 0
  · simp only [h, if_true, toG_pinv, toG_unwrap, toG_colsR, toG_mulMat, hsnf, Res.bind_mapR, Res.mapR_bind,
      Res.pure_eq, Res.mapR_ok]
  · simp only [h, if_false, hsnf, Res.bind_mapR, Res.mapR_bind, Res.pure_eq, Res.mapR_ok, Res.bind_ok]

theorem filter_isUnit_int (l : List Int) :
    l.filter (fun a => !C09.intOps.isUnit a) = l.filter (fun a => !isUnitZ a) := by
  apply List.filter_congr
  intro x _
  rw [int_isUnit_eq]

theorem calcResultG_int (s1 s2 : Snf) : calcResultG C09.intOps s1.toG s2.toG = calcResult s1 s2 := by
  unfold calcResultG calcResult
  simp only [toG_rank, toG_factors, filter_isUnit_int]
  rfl

theorem calcTransG_int (s1 s2 : Snf) :
    calcTransG C09.intOps s1.toG s2.toG = Res.mapR Trans.toG (calcTrans s1 s2) := by
  unfold calcTransG calcTrans
  simp only [toG_rank, toG_factors, filter_isUnit_int, toG_p, toG_pinv, toG_q, toG_qinv, toG_result, toG_r, toG_c,
    toG_unwrap, toG_rowsR, toG_colsR, toG_mulMat, toG_stackR, toG_concatR, toG_transNew,
    Res.bind_mapR, Res.mapR_bind]

def ansToG (x : Nat × List Int × Option Trans) : Nat × List Int × Option (GTrans Int) :=
  (x.1, x.2.1, x.2.2.map Trans.toG)

/-- **the generic code at `intOps` is the `Int` model**: for SNF routines that correspond under `toG`,
`calculateG intOps` returns the image of what `calculate` returns (same panics, same fuel exhaustion) -/
theorem calculateG_int (snf : SnfFn) (snfG : GSnfFn Int)
    (hsnf : ∀ A fl, snfG (Mat.toG A) fl = Res.mapR Snf.toG (snf A fl)) (d1 d2 : Mat) (wt : Bool) :
    calculateG C09.intOps snfG d1.toG d2.toG wt = Res.mapR ansToG (calculate snf d1 d2 wt) := by
  unfold calculateG calculate
  simp only [toG_r, toG_c, toG_isZero]
  cases Res.assert (d1.r == d2.c) with
  | panic => rfl
  | err => rfl
  | ok _ =>
  simp only [Res.bind_ok]
  by_cases hz : (d1.isZero && d2.isZero) = true
  · simp only [hz, if_true]
    cases wt <;> rfl
  · simp only [hz, Bool.false_eq_true, if_false]
    rw [processSnfG_int snf snfG hsnf, Res.bind_mapR, Res.mapR_bind]
    congr 1; funext s12
    obtain ⟨s1, s2⟩ := s12
    simp only [calcResultG_int]
    rw [Res.mapR_bind]
    congr 1; funext rt
    obtain ⟨rank, tors⟩ := rt
    cases wt
    · rfl
    · simp only [if_true, calcTransG_int, Res.bind_mapR, Res.mapR_bind]
      rfl

theorem foldlM_toG (g : Mat → Mat → Res Mat) (gG : GMat Int → GMat Int → Res (GMat Int))
    (h : ∀ a b, gG a.toG b.toG = Res.mapR Mat.toG (g a b)) :
    ∀ (l : List Mat) (a : Mat), (l.map Mat.toG).foldlM gG a.toG = Res.mapR Mat.toG (l.foldlM g a)
  | [], a => rfl
  | x :: l, a => by
    rw [List.map_cons, List.foldlM_cons, List.foldlM_cons, h, Res.bind_mapR, Res.mapR_bind]
    congr 1; funext y
    exact foldlM_toG g gG h l y

theorem forwardMatG_int (t : Trans) : t.toG.forwardMat oZ = Res.mapR Mat.toG t.forwardMat := by
  obtain ⟨src, tgt, f, b⟩ := t
  unfold GTrans.forwardMat Trans.forwardMat Trans.toG
  match f with
  | [] => rfl
  | [x] => rfl
  | x :: y :: l =>
    show (List.foldlM (fun res f => GTrans.mulMat oZ res f) (Mat.id tgt).toG ((x :: y :: l).map Mat.toG).reverse) = _
    rw [← List.map_reverse]
    exact foldlM_toG _ _ (fun a b => toG_mulMat a b) _ _

theorem backwardMatG_int (t : Trans) : t.toG.backwardMat oZ = Res.mapR Mat.toG t.backwardMat := by
  obtain ⟨src, tgt, f, b⟩ := t
  unfold GTrans.backwardMat Trans.backwardMat Trans.toG
  match b with
  | [] => rfl
  | [x] => rfl
  | x :: y :: l =>
    show (List.foldlM (fun res b => GTrans.mulMat oZ b res) (Mat.id tgt).toG ((x :: y :: l).map Mat.toG).reverse) = _
    rw [← List.map_reverse]
    exact foldlM_toG (fun res b => Trans.mulMat b res) _ (fun a b => toG_mulMat b a) _ _

theorem Mat.get_ofFn (r c : Nat) (f : Nat → Nat → Int) (i j : Nat) :
    (Mat.ofFn r c f).get i j = if i < r ∧ j < c then f i j else 0 :=
  GMat.get_ofFn C09.intOps.toROps r c f i j

@[simp] theorem Mat.ofFn_r (r c : Nat) (f : Nat → Nat → Int) : (Mat.ofFn r c f).r = r := rfl
@[simp] theorem Mat.ofFn_c (r c : Nat) (f : Nat → Nat → Int) : (Mat.ofFn r c f).c = c := rfl

theorem Mat.get_oob (A : Mat) (i j : Nat) (h : ¬ (i < A.r ∧ j < A.c)) : A.get i j = 0 :=
  GMat.get_oob C09.intOps.toROps A.toG i j h

theorem Mat.rows_get (A : Mat) (lo hi i j : Nat) :
    (A.rows lo hi).get i j = if i < hi - lo then A.get (lo + i) j else 0 :=
  GMat.rows_get C09.intOps.toROps A.toG lo hi i j

theorem Mat.cols_get (A : Mat) (lo hi i j : Nat) :
    (A.cols lo hi).get i j = if j < hi - lo then A.get i (lo + j) else 0 :=
  GMat.cols_get C09.intOps.toROps A.toG lo hi i j

theorem Mat.mul_get (A B : Mat) (i j : Nat) :
    (A.mul B).get i j = if i < A.r ∧ j < B.c then Mat.dot A B i j else 0 :=
  GMat.mul_get C09.intOps.toROps A.toG B.toG i j

theorem Mat.stack_get (A B : Mat) (i j : Nat) :
    (A.stack B).get i j =
      if i < A.r + B.r ∧ j < A.c then (if i < A.r then A.get i j else B.get (i - A.r) j) else 0 :=
  GMat.stack_get C09.intOps.toROps A.toG B.toG i j

theorem Mat.concat_get (A B : Mat) (i j : Nat) :
    (A.concat B).get i j =
      if i < A.r ∧ j < A.c + B.c then (if j < A.c then A.get i j else B.get i (j - A.c)) else 0 :=
  GMat.concat_get C09.intOps.toROps A.toG B.toG i j

@[simp] theorem Mat.rows_r (A : Mat) (lo hi : Nat) : (A.rows lo hi).r = hi - lo := rfl
@[simp] theorem Mat.rows_c (A : Mat) (lo hi : Nat) : (A.rows lo hi).c = A.c := rfl
@[simp] theorem Mat.cols_r (A : Mat) (lo hi : Nat) : (A.cols lo hi).r = A.r := rfl
@[simp] theorem Mat.cols_c (A : Mat) (lo hi : Nat) : (A.cols lo hi).c = hi - lo := rfl
@[simp] theorem Mat.mul_r (A B : Mat) : (A.mul B).r = A.r := rfl
@[simp] theorem Mat.mul_c (A B : Mat) : (A.mul B).c = B.c := rfl
@[simp] theorem Mat.stack_r (A B : Mat) : (A.stack B).r = A.r + B.r := rfl
@[simp] theorem Mat.stack_c (A B : Mat) : (A.stack B).c = A.c := rfl
@[simp] theorem Mat.concat_r (A B : Mat) : (A.concat B).r = A.r := rfl
@[simp] theorem Mat.concat_c (A B : Mat) : (A.concat B).c = A.c + B.c := rfl

theorem toG_toM (A : Mat) (r c : Nat) : A.toG.toM (id : Int → Int) C09.intOps.toROps r c = A.toM r c := rfl

end Yuiv.C07
