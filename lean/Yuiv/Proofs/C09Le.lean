import Yuiv.Model.C09
import Yuiv.Proofs.ResSpec
/-
The code model of `SnfCalc` under different resources, for ANY operations: a run with fewer assertions
(`dbg' → dbg`) and more fuel (`fuel ≤ fuel'`) agrees with the other run unless that one tripped an assertion the
new run does not compile in, or ran out of fuel (`snfCalc_le`).  "The release build returns what the debug build
returns" and "fuel is monotone" are its two instances.
First the functions of the model with their `match … | .panic => .panic | .err => .err` written as `>>=`.
-/
namespace Yuiv.C09
open Yuiv Res
variable {α : Type} {e : EOps α} {m n : Nat}

theorem eliminateColStep_eq (dbg : Bool) (i : Fin m) (j : Fin n) (sm : St α m n × Bool) (i1 : Fin m) :
    eliminateColStep e dbg i j sm i1 =
      if (i = i1 || e.isZero (sm.1.t.get i1 j)) = true then .ok sm
      else
        let g := gcdxW e (sm.1.t.get i j) (sm.1.t.get i1 j)
        sLeft e.toROps dbg sm.1 g.2.1 g.2.2 (e.neg (e.quo (sm.1.t.get i1 j) g.1)) (e.quo (sm.1.t.get i j) g.1) i i1 >>=
          fun s' => .ok (s', true) := by
  unfold eliminateColStep
  simp only
  congr 1
  cases sLeft e.toROps dbg sm.1 _ _ _ _ i i1 <;> rfl

theorem eliminateRowStep_eq (dbg : Bool) (i : Fin m) (j : Fin n) (sm : St α m n × Bool) (j1 : Fin n) :
    eliminateRowStep e dbg i j sm j1 =
      if (j = j1 || e.isZero (sm.1.t.get i j1)) = true then .ok sm
      else
        let g := gcdxW e (sm.1.t.get i j) (sm.1.t.get i j1)
        sRight e.toROps dbg sm.1 g.2.1 g.2.2 (e.neg (e.quo (sm.1.t.get i j1) g.1)) (e.quo (sm.1.t.get i j) g.1) j j1 >>=
          fun s' => .ok (s', true) := by
  unfold eliminateRowStep
  simp only
  congr 1
  cases sRight e.toROps dbg sm.1 _ _ _ _ j j1 <;> rfl

theorem eliminateAt_succ (dbg : Bool) (i : Fin m) (j : Fin n) (fuel : Nat) (s : St α m n) :
    eliminateAt e dbg i j (fuel + 1) s =
      if (rowNz e s.t i > 1 || colNz e s.t j > 1) = true then
        eliminateCol e dbg s i j >>= fun r1 => eliminateRow e dbg r1.1 i j >>= fun r2 =>
          if (!(r1.2 || r2.2)) = true then .panic else eliminateAt e dbg i j fuel r2.1
      else .ok s := by
  rw [eliminateAt]
  congr 1
  cases eliminateCol e dbg s i j with
  | ok r1 =>
    simp only [bind_ok]
    cases eliminateRow e dbg r1.1 i j <;> rfl
  | panic => rfl
  | err => rfl

theorem eliminateStep_eq (dbg : Bool) (fuel : Nat) (s : St α m n) (i : Fin m) (j : Fin n) (hi : i.1 < n) :
    eliminateStep e dbg fuel s i j hi =
      match selectPivot e s.t i.1 j with
      | none => .ok none
      | some ip =>
        let s1 := stepPrep s i ip ⟨i.1, hi⟩ j
        (if (!e.isOne (e.normUnit (s1.t.get i ⟨i.1, hi⟩))) = true
          then sMulCol e s1 ⟨i.1, hi⟩ (e.normUnit (s1.t.get i ⟨i.1, hi⟩)) else .ok s1) >>= fun s2 =>
        if e.isZero (s2.t.get i ⟨i.1, hi⟩) = true then .panic
        else eliminateAt e dbg i ⟨i.1, hi⟩ fuel s2 >>= fun s3 => .ok (some s3) := by
  unfold eliminateStep
  generalize selectPivot e s.t i.1 j = o
  cases o with
  | none => rfl
  | some ip =>
    simp only
    generalize (if (!e.isOne _) = true then sMulCol e _ _ _ else Res.ok _) = x
    cases x with
    | ok s2 =>
      simp only [bind_ok]
      congr 1
      cases eliminateAt e dbg i ⟨i.1, hi⟩ fuel s2 <;> rfl
    | panic => rfl
    | err => rfl

theorem eliminateAllStep_eq (dbg : Bool) (fuel : Nat) (si : St α m n × Nat) (j : Fin n) :
    eliminateAllStep e dbg fuel si j =
      if h : si.2 < m ∧ si.2 ≤ j.1 then
        eliminateStep e dbg fuel si.1 ⟨si.2, h.1⟩ j (Nat.lt_of_le_of_lt h.2 j.2) >>= fun r =>
          match r with
          | none => .ok si
          | some s' => .ok (s', si.2 + 1)
      else .ok si := by
  unfold eliminateAllStep
  congr 1
  funext h
  cases eliminateStep e dbg fuel si.1 ⟨si.2, h.1⟩ j (Nat.lt_of_le_of_lt h.2 j.2) with
  | ok r => cases r <;> rfl
  | panic => rfl
  | err => rfl

theorem eliminateAll_eq (dbg : Bool) (fuel : Nat) (s : St α m n) :
    eliminateAll e dbg fuel s =
      (List.finRange n).foldlM (eliminateAllStep e dbg fuel) (s, 0) >>= fun si => .ok si.1 := by
  unfold eliminateAll
  cases (List.finRange n).foldlM (eliminateAllStep e dbg fuel) (s, 0) <;> rfl

theorem diagNormalizeStep_eq (dbg : Bool) (s : St α m n) (i : Nat) (hm : i + 1 < m) (hn : i + 1 < n) :
    diagNormalizeStep e dbg s i hm hn =
      let x := s.t.get ⟨i, Nat.lt_of_succ_lt hm⟩ ⟨i, Nat.lt_of_succ_lt hn⟩
      let y := s.t.get ⟨i + 1, hm⟩ ⟨i + 1, hn⟩
      if (e.isZero x || e.isZero y) = true then .panic
      else if e.dvd x y = true then .ok (s, true)
      else if e.dvd y x = true then
        .ok (sSwapCols (sSwapRows s ⟨i, Nat.lt_of_succ_lt hm⟩ ⟨i + 1, hm⟩) ⟨i, Nat.lt_of_succ_lt hn⟩ ⟨i + 1, hn⟩, false)
      else
        let g := gcdxW e x y
        sLeft e.toROps dbg s e.one e.one (e.neg (e.mul g.2.2 (e.quo y g.1))) (e.mul g.2.1 (e.quo x g.1))
            ⟨i, Nat.lt_of_succ_lt hm⟩ ⟨i + 1, hm⟩ >>= fun s1 =>
          sRight e.toROps dbg s1 g.2.1 g.2.2 (e.neg (e.quo y g.1)) (e.quo x g.1) ⟨i, Nat.lt_of_succ_lt hn⟩ ⟨i + 1, hn⟩ >>=
            fun s2 => .ok (s2, false) := by
  unfold diagNormalizeStep
  simp only
  congr 3
  cases sLeft e.toROps dbg s _ _ _ _ ⟨i, Nat.lt_of_succ_lt hm⟩ ⟨i + 1, hm⟩ with
  | ok s1 =>
    simp only [bind_ok]
    cases sRight e.toROps dbg s1 _ _ _ _ ⟨i, Nat.lt_of_succ_lt hn⟩ ⟨i + 1, hn⟩ <;> rfl
  | panic => rfl
  | err => rfl

theorem diagPass_succ (dbg : Bool) (r cnt i : Nat) (s : St α m n) :
    diagPass e dbg r (cnt + 1) i s =
      if h : i + 1 < r ∧ i + 1 < m ∧ i + 1 < n then
        diagNormalizeStep e dbg s i h.2.1 h.2.2 >>= fun r1 =>
          if r1.2 = true then diagPass e dbg r cnt (i + 1) r1.1 else .ok (r1.1, false)
      else .ok (s, true) := by
  rw [diagPass]
  congr 1
  funext h
  cases diagNormalizeStep e dbg s i h.2.1 h.2.2 <;> rfl

theorem diagOuter_succ (dbg : Bool) (r fuel : Nat) (s : St α m n) :
    diagOuter e dbg r (fuel + 1) s =
      diagPass e dbg r r 0 s >>= fun r1 => if r1.2 = true then .ok r1.1 else diagOuter e dbg r fuel r1.1 := by
  rw [diagOuter]
  cases diagPass e dbg r r 0 s <;> rfl

theorem diagNormalize_eq (dbg : Bool) (fuel : Nat) (s : St α m n) :
    diagNormalize e dbg fuel s =
      if (dbg && !isDiag e.toROps s.t) = true then .panic
      else if firstZeroDiag e s.t = 0 then .ok s
      else diagOuter e dbg (firstZeroDiag e s.t) fuel s >>= fun s1 =>
        (List.range (firstZeroDiag e s.t)).foldlM (normalizeStep e) s1 := by
  unfold diagNormalize
  congr 2
  cases diagOuter e dbg (firstZeroDiag e s.t) fuel s <;> rfl

theorem snfCalc_eq (dbg : Bool) (pre : St α m n → Res (St α m n)) (fuel : Nat) (A : Mat α m n) :
    snfCalc e dbg pre fuel A =
      if isZeroMat e.toROps A = true then .ok (St.init e.toROps A)
      else pre (St.init e.toROps A) >>= fun s1 => eliminateAll e dbg fuel s1 >>= fun s2 =>
        diagNormalize e dbg fuel s2 := by
  unfold snfCalc
  congr 1
  cases pre (St.init e.toROps A) with
  | ok s1 =>
    simp only [bind_ok]
    cases eliminateAll e dbg fuel s1 <;> rfl
  | panic => rfl
  | err => rfl

section le
variable {dbg dbg' : Bool} (hd : dbg' = true → dbg = true)
include hd

theorem sLeft_le (q : Prop) (o : ROps α) (s : St α m n) (a b c d : α) (i j : Fin m) :
    Le (dbg ≠ dbg') q (sLeft o dbg s a b c d i j) (sLeft o dbg' s a b c d i j) := by
  unfold sLeft
  cases dbg' with
  | true => rw [hd rfl]; exact .rfl
  | false =>
    cases dbg with
    | false => exact .rfl
    | true =>
      split
      · exact .panic (by decide)
      · exact .rfl

theorem sRight_le (q : Prop) (o : ROps α) (s : St α m n) (a b c d : α) (i j : Fin n) :
    Le (dbg ≠ dbg') q (sRight o dbg s a b c d i j) (sRight o dbg' s a b c d i j) := by
  unfold sRight
  cases dbg' with
  | true => rw [hd rfl]; exact .rfl
  | false =>
    cases dbg with
    | false => exact .rfl
    | true =>
      split
      · exact .panic (by decide)
      · exact .rfl

theorem eliminateCol_le (q : Prop) (s : St α m n) (i : Fin m) (j : Fin n) :
    Le (dbg ≠ dbg') q (eliminateCol e dbg s i j) (eliminateCol e dbg' s i j) := by
  refine Le.foldlM fun sm i1 => ?_
  rw [eliminateColStep_eq, eliminateColStep_eq]
  exact .ite .rfl (.bind (sLeft_le hd q _ _ _ _ _ _ _ _) fun _ => .rfl)

theorem eliminateRow_le (q : Prop) (s : St α m n) (i : Fin m) (j : Fin n) :
    Le (dbg ≠ dbg') q (eliminateRow e dbg s i j) (eliminateRow e dbg' s i j) := by
  refine Le.foldlM fun sm j1 => ?_
  rw [eliminateRowStep_eq, eliminateRowStep_eq]
  exact .ite .rfl (.bind (sRight_le hd q _ _ _ _ _ _ _ _) fun _ => .rfl)

theorem eliminateAt_le (i : Fin m) (j : Fin n) : ∀ (fuel fuel' : Nat) (s : St α m n), fuel ≤ fuel' →
    Le (dbg ≠ dbg') (fuel < fuel') (eliminateAt e dbg i j fuel s) (eliminateAt e dbg' i j fuel' s)
  | 0, 0, _, _ => .rfl
  | 0, _ + 1, _, _ => .err (Nat.succ_pos _)
  | fuel + 1, 0, _, h => absurd h (Nat.not_succ_le_zero _)
  | fuel + 1, f' + 1, s, h => by
    rw [eliminateAt_succ, eliminateAt_succ]
    exact .ite (.bind (eliminateCol_le hd _ s i j) fun r1 => .bind (eliminateRow_le hd _ r1.1 i j) fun r2 =>
      .ite .rfl ((eliminateAt_le i j fuel f' r2.1 (Nat.le_of_succ_le_succ h)).imp id Nat.succ_lt_succ)) .rfl

variable {fuel fuel' : Nat} (hf : fuel ≤ fuel')
include hf

theorem eliminateStep_le (s : St α m n) (i : Fin m) (j : Fin n) (hi : i.1 < n) :
    Le (dbg ≠ dbg') (fuel < fuel') (eliminateStep e dbg fuel s i j hi) (eliminateStep e dbg' fuel' s i j hi) := by
  rw [eliminateStep_eq, eliminateStep_eq]
  cases selectPivot e s.t i.1 j with
  | none => exact .rfl
  | some ip => exact .bind .rfl fun s2 => .ite .rfl (.bind (eliminateAt_le hd i _ fuel fuel' s2 hf) fun _ => .rfl)

theorem eliminateAllStep_le (si : St α m n × Nat) (j : Fin n) :
    Le (dbg ≠ dbg') (fuel < fuel') (eliminateAllStep e dbg fuel si j) (eliminateAllStep e dbg' fuel' si j) := by
  rw [eliminateAllStep_eq, eliminateAllStep_eq]
  exact .dite (fun h => .bind (eliminateStep_le hd hf si.1 ⟨si.2, h.1⟩ j _) fun _ => .rfl) fun _ => .rfl

theorem eliminateAll_le (s : St α m n) :
    Le (dbg ≠ dbg') (fuel < fuel') (eliminateAll e dbg fuel s) (eliminateAll e dbg' fuel' s) := by
  rw [eliminateAll_eq, eliminateAll_eq]
  exact .bind (Le.foldlM (eliminateAllStep_le hd hf)) fun _ => .rfl

omit hf in
theorem diagPass_le (q : Prop) (r : Nat) : ∀ (cnt i : Nat) (s : St α m n),
    Le (dbg ≠ dbg') q (diagPass e dbg r cnt i s) (diagPass e dbg' r cnt i s)
  | 0, _, _ => .rfl
  | cnt + 1, i, s => by
    rw [diagPass_succ, diagPass_succ]
    refine .dite (fun h => .bind ?_ fun r1 => .ite (diagPass_le q r cnt (i + 1) r1.1) .rfl) fun _ => .rfl
    rw [diagNormalizeStep_eq, diagNormalizeStep_eq]
    exact .ite .rfl (.ite .rfl (.ite .rfl (.bind (sLeft_le hd q _ _ _ _ _ _ _ _) fun s1 =>
      .bind (sRight_le hd q _ s1 _ _ _ _ _ _) fun _ => .rfl)))

omit hf in
theorem diagOuter_le (r : Nat) : ∀ (fuel fuel' : Nat) (s : St α m n), fuel ≤ fuel' →
    Le (dbg ≠ dbg') (fuel < fuel') (diagOuter e dbg r fuel s) (diagOuter e dbg' r fuel' s)
  | 0, 0, _, _ => .rfl
  | 0, _ + 1, _, _ => .err (Nat.succ_pos _)
  | fuel + 1, 0, _, h => absurd h (Nat.not_succ_le_zero _)
  | fuel + 1, f' + 1, s, h => by
    rw [diagOuter_succ, diagOuter_succ]
    exact .bind (diagPass_le hd _ r r 0 s) fun r1 =>
      .ite .rfl ((diagOuter_le r fuel f' r1.1 (Nat.le_of_succ_le_succ h)).imp id Nat.succ_lt_succ)

theorem diagNormalize_le (s : St α m n) :
    Le (dbg ≠ dbg') (fuel < fuel') (diagNormalize e dbg fuel s) (diagNormalize e dbg' fuel' s) := by
  rw [diagNormalize_eq, diagNormalize_eq]
  have rest : Le (dbg ≠ dbg') (fuel < fuel')
      (if firstZeroDiag e s.t = 0 then .ok s
        else diagOuter e dbg (firstZeroDiag e s.t) fuel s >>= fun s1 =>
          (List.range (firstZeroDiag e s.t)).foldlM (normalizeStep e) s1)
      (if firstZeroDiag e s.t = 0 then .ok s
        else diagOuter e dbg' (firstZeroDiag e s.t) fuel' s >>= fun s1 =>
          (List.range (firstZeroDiag e s.t)).foldlM (normalizeStep e) s1) :=
    .ite .rfl (.bind (diagOuter_le hd _ fuel fuel' s hf) fun _ => .rfl)
  cases dbg' with
  | true => rw [hd rfl] at rest ⊢; exact .ite .rfl rest
  | false =>
    cases dbg with
    | false => exact .ite .rfl rest
    | true =>
      rw [Bool.false_and, if_neg Bool.false_ne_true]
      split
      · exact .panic (by decide)
      · exact rest

theorem snfCalc_le (pre : St α m n → Res (St α m n)) (A : Mat α m n) :
    Le (dbg ≠ dbg') (fuel < fuel') (snfCalc e dbg pre fuel A) (snfCalc e dbg' pre fuel' A) := by
  rw [snfCalc_eq, snfCalc_eq]
  exact .ite .rfl (.bind .rfl fun s1 => .bind (eliminateAll_le hd hf s1) fun s2 => diagNormalize_le hd hf s2)

end le

end Yuiv.C09
