import Yuiv.Proofs.C13GenT
/-
C13 — the hand-written model of `Trans` (`C13.Trans.*` in `Yuiv/Model/C13.lean`), about which `Props/C13.lean` proves the
composition laws over any history (`trans_forward_eq_forward_mat`, `trans_forward_mat_is_product`, `trans_reduce_preserves`,
`trans_append_dims`, `trans_merge_dims`, …), IS the source text of `/repo/yui-matrix/src/sparse/trans.rs`.

`Yuiv.GenTrans.*` (file `Yuiv/Gen/TransFn.lean`) is regenerated from the Rust source by `tools/rs2lean_fn.py fn:trans` on
every `./check` run.  `ofT` embeds a model transform into the generated structure; every theorem is an unconditional
equality generated = model — in particular the composition ORDER (`forward` folds `f_mats` front to back, `backward`
folds `b_mats` back to front, `forward_mat = id·f_k·…·f_0` built as `res * f` over the reversed list, `backward_mat` as
`b * res`), the single-factor shortcut, and every `assert_eq!` / product-shape panic.
-/
namespace Yuiv.C13GenT
open Yuiv Res Yuiv.Rust Yuiv.C13

variable {R : Type} [Zero R] [One R] [Add R] [Mul R] [Neg R] [DecidableEq R]

theorem gen_id_eq (n : Nat) : GenTrans.Trans.id (R := R) n = ofT (Trans.id n) := rfl
theorem gen_zero_eq : GenTrans.Trans.zero (R := R) = ofT (Trans.id 0) := rfl
theorem gen_default_eq : GenTrans.Trans.Default.default (R := R) = ofT (Trans.id 0) := rfl
theorem gen_dims_eq (t : Trans R) :
    GenTrans.Trans.src_dim (ofT t) = t.srcDim ∧ GenTrans.Trans.tgt_dim (ofT t) = t.tgtDim := ⟨rfl, rfl⟩
theorem gen_is_id_eq (t : Trans R) : GenTrans.Trans.is_id (ofT t) = t.isId := rfl

theorem gen_append_eq (t : Trans R) (f b : SpMat R) :
    GenTrans.Trans.append (ofT t) f b = mapR ofT (t.append f b) := by
  unfold GenTrans.Trans.append C13.Trans.append
  rw [mapR_bind]
  refine bind_congr (fun _ => ?_)
  rw [mapR_bind]
  refine bind_congr (fun _ => ?_)
  rw [mapR_bind]
  refine bind_congr (fun _ => ?_)
  rfl

theorem gen_new_eq (f b : SpMat R) : GenTrans.Trans.new f b = mapR ofT (Trans.new f b) := by
  unfold GenTrans.Trans.new C13.Trans.new
  exact gen_append_eq (Trans.id f.ncols) f b

theorem gen_append_perm_eq (t : Trans R) (p : Perm) :
    GenTrans.Trans.append_perm (ofT t) p = mapR ofT (t.appendPerm p) := by
  unfold GenTrans.Trans.append_perm C13.Trans.appendPerm
  rw [mapR_bind]
  refine bind_congr (fun _ => ?_)
  rw [mapR_bind]
  refine bind_congr (fun f => ?_)
  rw [mapR_bind]
  refine bind_congr (fun b => ?_)
  exact gen_append_eq t f b

theorem gen_merge_eq (t o : Trans R) : GenTrans.Trans.merge (ofT t) (ofT o) = mapR ofT (t.merge o) := by
  unfold GenTrans.Trans.merge C13.Trans.merge
  rw [mapR_bind]
  refine bind_congr (fun _ => ?_)
  rfl

theorem gen_merged_eq (t o : Trans R) : GenTrans.Trans.merged (ofT t) (ofT o) = mapR ofT (t.merge o) := by
  unfold GenTrans.Trans.merged
  exact gen_merge_eq t o

/-- `forward`: `f_mats` folded front to back, `v ↦ f * v` -/
theorem gen_forward_eq (t : Trans R) (v : SpVec R) : GenTrans.Trans.forward (ofT t) v = t.forward v := rfl

/-- `backward`: `b_mats` folded back to front -/
theorem gen_backward_eq (t : Trans R) (v : SpVec R) : GenTrans.Trans.backward (ofT t) v = t.backward v := rfl

theorem gen_forward_mat_eq (t : Trans R) : GenTrans.Trans.forward_mat (ofT t) = t.forwardMat := by
  unfold GenTrans.Trans.forward_mat C13.Trans.forwardMat
  exact single_or t.fMats (fun fs => List.foldlM (fun res f => res.mul f) (SpMat.id t.tgtDim) fs.reverse)

theorem gen_backward_mat_eq (t : Trans R) : GenTrans.Trans.backward_mat (ofT t) = t.backwardMat := by
  unfold GenTrans.Trans.backward_mat C13.Trans.backwardMat
  exact single_or t.bMats (fun bs => List.foldlM (fun res b => b.mul res) (SpMat.id t.tgtDim) bs.reverse)

theorem gen_reduce_eq (t : Trans R) : GenTrans.Trans.reduce (ofT t) = mapR ofT t.reduce := by
  unfold GenTrans.Trans.reduce C13.Trans.reduce C13.Trans.reduceF
  have hb : ∀ t1 : Trans R, (if decide ((ofT t1).b_mats.length > 1) = true then
        (GenTrans.Trans.backward_mat (ofT t1) >>= fun b => ok { ofT t1 with b_mats := [b] }) else ok (ofT t1)) =
      mapR ofT t1.reduceB := by
    intro t1
    unfold C13.Trans.reduceB
    rw [gen_backward_mat_eq]
    by_cases h : t1.bMats.length > 1
    · have h' : (ofT t1).b_mats.length > 1 := h
      simp only [h, h', decide_true, if_true, mapR_bind]
      refine bind_congr (fun b => ?_)
      rfl
    · have h' : ¬ (ofT t1).b_mats.length > 1 := h
      simp only [h, h', decide_false, if_false, Bool.false_eq_true]
      rfl
  rw [gen_forward_mat_eq]
  by_cases h : t.fMats.length > 1
  · have h' : (ofT t).f_mats.length > 1 := h
    simp only [h, h', decide_true, if_true, bind_assoc, mapR_bind]
    refine bind_congr (fun f => ?_)
    simp only [bind_ok]
    exact hb { t with fMats := [f] }
  · have h' : ¬ (ofT t).f_mats.length > 1 := h
    simp only [h, h', decide_false, if_false, Bool.false_eq_true, bind_ok]
    exact hb t

theorem gen_sub_eq (t : Trans R) (indices : List Nat) :
    GenTrans.Trans.sub (ofT t) indices = mapR ofT (t.sub indices) := by
  unfold GenTrans.Trans.sub C13.Trans.sub
  simp only [Sp.enumerate, enum_eq]
  have h1 : GenTrans.Trans.sub_closure1 (R := R) = fun (x : Nat × Nat) => (x.1, x.2, (1 : R)) := by funext x; rfl
  have h2 : GenTrans.Trans.sub_closure2 (R := R) = fun (x : Nat × Nat) => (x.2, x.1, (1 : R)) := by funext x; rfl
  rw [h1, h2, mapR_bind]
  refine bind_congr (fun f => ?_)
  rw [mapR_bind]
  refine bind_congr (fun b => ?_)
  exact gen_append_eq t f b

end Yuiv.C13GenT
