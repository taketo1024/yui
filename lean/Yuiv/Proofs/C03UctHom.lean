import Mathlib.LinearAlgebra.Matrix.Rank
import Mathlib.LinearAlgebra.Dimension.RankNullity
/-
C03Uct, part 2 — over a field the homology of `K^l --A--> K^n --B--> K^k` (`B * A = 0`), i.e. the quotient
`ker B / im A`, has dimension `n - rank A - rank B`.  This justifies calling `n - rk A - rk B` "the dimension of
the homology" in the counting statements.
-/
namespace Yuiv.C03Uct
open Matrix Module

abbrev Homology {K : Type*} [Field K] {l n k : ℕ} (A : Matrix (Fin n) (Fin l) K) (B : Matrix (Fin k) (Fin n) K) :=
  (LinearMap.ker B.mulVecLin) ⧸ (LinearMap.range A.mulVecLin).comap (LinearMap.ker B.mulVecLin).subtype

theorem range_le_ker_of_mul_eq_zero {K : Type*} [Field K] {l n k : ℕ} (A : Matrix (Fin n) (Fin l) K)
    (B : Matrix (Fin k) (Fin n) K) (h : B * A = 0) :
    LinearMap.range A.mulVecLin ≤ LinearMap.ker B.mulVecLin := by
  rw [LinearMap.range_le_ker_iff, ← Matrix.mulVecLin_mul, h]
  ext v : 1
  simp

theorem finrank_ker_mulVecLin {K : Type*} [Field K] {n k : ℕ} (B : Matrix (Fin k) (Fin n) K) :
    finrank K (LinearMap.ker B.mulVecLin) = n - B.rank := by
  have h := LinearMap.finrank_range_add_finrank_ker B.mulVecLin
  rw [Module.finrank_fintype_fun_eq_card, Fintype.card_fin] at h
  exact Nat.eq_sub_of_add_eq' h

theorem finrank_homology {K : Type*} [Field K] {l n k : ℕ} (A : Matrix (Fin n) (Fin l) K)
    (B : Matrix (Fin k) (Fin n) K) (h : B * A = 0) :
    finrank K (Homology A B) = n - A.rank - B.rank := by
  have hle := range_le_ker_of_mul_eq_zero A B h
  have h1 := Submodule.finrank_quotient_add_finrank
    ((LinearMap.range A.mulVecLin).comap (LinearMap.ker B.mulVecLin).subtype)
  have h2 : finrank K ((LinearMap.range A.mulVecLin).comap (LinearMap.ker B.mulVecLin).subtype) = A.rank :=
    (Submodule.comapSubtypeEquivOfLe hle).finrank_eq
  rw [h2, finrank_ker_mulVecLin B] at h1
  rw [Nat.sub_right_comm]
  exact Nat.eq_sub_of_add_eq h1

end Yuiv.C03Uct
