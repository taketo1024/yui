import Yuiv.Proofs.C19ConeSq
import Yuiv.Proofs.C19CommEx
/-
C19Cone — the per-instance check on the strongly invertible trefoil (`Proofs/C19CommEx.tref`).
-/
namespace Yuiv.C19Cone
open Yuiv Yuiv.KhRef Yuiv.C19 Yuiv.C06Cycle Yuiv.C19Inv Yuiv.C19Comm

/-- on the trefoil everything in the check except `redOk` holds for all `h`, `t`, unreduced and reduced -/
theorem tref_ok_of_redOk (h t : Int) (red : Bool) (e1 : redOk tref ⟨h, t, red⟩ = true) :
    khiInstanceOk tref ⟨h, t, red⟩ = true := by
  unfold khiInstanceOk
  rw [tref_icube, e1, tref_labels]
  simp only [tref_wf']
  -- `cubeOKB` does not look at the base point
  have e2 : cubeOKB (trefIC red).cube = cubeOKB (trefIC false).cube := rfl
  rw [e2]
  decide +kernel

/-- unreduced theory, all `h`, `t` -/
theorem tref_ok_unreduced (h t : Int) : khiInstanceOk tref ⟨h, t, false⟩ = true :=
  tref_ok_of_redOk h t false rfl

/-- reduced theory, `t = 0`, all `h` -/
theorem tref_ok_reduced (h : Int) : khiInstanceOk tref ⟨h, 0, true⟩ = true := by
  apply tref_ok_of_redOk
  show redOk tref ⟨0, 0, true⟩ = true
  unfold redOk
  rw [tref_labels]
  decide +kernel

/-- reduced theory, `t = 1`: rejected -/
theorem tref_not_ok_reduced_t1 : khiInstanceOk tref ⟨0, 1, true⟩ = false := by
  have e1 : redOk tref ⟨0, 1, true⟩ = false := by
    unfold redOk
    rw [tref_labels]
    decide +kernel
  unfold khiInstanceOk
  rw [e1]
  simp

end Yuiv.C19Cone
