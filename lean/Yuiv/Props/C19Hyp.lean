import Yuiv.Proofs.C19Hyp
import Yuiv.Props.C19Inv
import Yuiv.Proofs.KhRefCube
/-
C19 (extension) — the two per-instance hypotheses of the `InvLink` / involutive-cube theorems, derived.

(G1) `Props/C19Inv.inv_x_involutive_of_checks` needs `sameCardB` (all crossings have equally many distinct labels) and
     `distinctSetsB` (a crossing is determined by its label set), evaluated per instance.  Here, on the same code model
     (`Model/C19Inv.lean` of `yui-link/src/inv_link.rs`):
  * `match_symm_of_valid`: for a VALID planar-diagram code (`C19Cone.validKB`: four slots per crossing, every label in exactly
    two slots), an edge map that is an involution of the labels, and the acceptance condition of `InvLink::new` (every
    crossing has a crossing containing the images of its labels), the matching relation is symmetric — `sameCardB` is not
    needed (it is FALSE for accepted diagrams with a kink, see `same_card_not_needed`);
  * `distinct_label_sets_of_connected`: valid + connected + at least three (pairwise different) crossings ⇒ a crossing is
    determined by its label set.  For TWO crossings it is false for every kink-free connected code
    (`two_crossing_counterexample`: both crossings carry all four labels; the real loop of `InvLink::new`,
    inv_link.rs:23-39, then finds `data[0]` for both (`find_position`, lines 25-27), stores `data[0] ↦ data[0]` (line 34),
    and the second iteration overwrites it by `data[0] ↦ data[1]` (lines 36-38, `x_map.insert(y, x)`): `inv_x` is the swap — an involution, but NOT the loop's first
    match, so the conclusion `firstMatch` of `inv_x_involutive_of_checks` fails there);
  * `inv_x_exact_of_valid`, `inv_x_involutive_of_valid`, `sinv_inv_x_involutive_of_valid`: the conclusions of
    `inv_x_spec` / `inv_x_involutive_of_checks` / `sinv_inv_x_involutive` from validity (+ connectedness, ≥ 3 crossings).
(G2) `icubeWf` asks, for all `2^n` states, that the circles of `s` correspond bijectively to the circles of `τ s`.  Here:
  * `ArcCompat l f π` — ONE local condition per crossing: the two arcs of the `b`-smoothing of crossing `i` are carried by the
    label map `f` to the arcs of the SAME smoothing `b` of crossing `π i` (this is where "the involution is a symmetry of the
    diagram preserving the crossing type" enters; `InvLink::new` does not check it: `// TODO? check resolution`, inv_link.rs:22);
  * `circles_tau_bijection`, `icube_circles_tau_bijection`: under `ArcCompat`, with `f` an involution of the labels and `π`
    an involution of the crossing positions, for EVERY pair of states `s, t` with `t_{π i} = s_i` the circles of `s` (as
    computed by `KhRef.circles`, stored in `mkCube`) are carried by `f` bijectively onto the circles of `t`: an index
    bijection `σ` with `members(circle_t (σ i)) = f(members(circle_s i))`, in particular equally many circles.
  Still per instance: `ArcCompat` itself (`arcCompatB`, `3·…` list look-ups per crossing instead of `2^n` states), and that
  the arrays `tst`/`tlab` built by `mkICube` are this `t` and this `σ`.
-/
namespace Yuiv.C19Hyp
open Yuiv Yuiv.KhRef Yuiv.C19 Yuiv.C19Inv Yuiv.C04Inv

/-- valid code + involutive edge map + every crossing has a match ⇒ the matching relation is symmetric -/
theorem match_symm_of_valid (link : Link) (f : Nat → Nat) (hv : C19Cone.validKB link = true)
    (hinv : ∀ e ∈ edgesOf link.toList, f (f e) = e)
    (hm : ∀ x ∈ link.toList, ∃ y ∈ link.toList, Mt f x y) :
    ∀ x ∈ link.toList, ∀ y ∈ link.toList, Mt f x y → Mt f y x :=
  mt_symm_of_valid link.toList f (validPD_of_validKB link hv) hinv hm

/-- valid + connected + at least three pairwise different crossings ⇒ crossings with the same label set are equal -/
theorem distinct_label_sets_of_connected (link : Link) (hv : C19Cone.validKB link = true)
    (hc : ConnectedPD link.toList) (hnd : link.toList.Nodup) (h3 : 3 ≤ link.size) :
    ∀ x ∈ link.toList, ∀ y ∈ link.toList, (∀ e, e ∈ x.e.toList ↔ e ∈ y.e.toList) → x = y :=
  distinct_of_connected link.toList (validPD_of_validKB link hv) hc hnd (by simpa using h3)

/-- accepted valid code, involutive edge map (no further hypothesis): `inv_x(x)` is a crossing of the link whose labels are
EXACTLY the images of the labels of `x` -/
theorem inv_x_exact_of_valid (link : Link) (f : Nat → Nat) (base : Option Nat) (d : InvData)
    (h : new link f base = .ok d) (hv : C19Cone.validKB link = true) (h1 : involB f (edgesOf link.toList) = true) :
    ∀ x ∈ link.toList, ∃ y ∈ link.toList, d.invX x = .ok y ∧
      ∀ e, e ∈ y.e.toList ↔ ∃ e' ∈ x.e.toList, f e' = e := by
  have hinv := involB_spec f _ h1
  obtain ⟨hm, _, _⟩ := (invlink_new_ok_iff link f base).1 ⟨d, h⟩
  have hsym := match_symm_of_valid link f hv hinv hm
  intro x hx
  obtain ⟨y, hy, b1, b2, b3⟩ := inv_x_spec link f base d h hsym x hx
  exact ⟨y, hy, b1, match_exact f x y (fun e he => hinv e ((mem_edgesOf _ e).2 ⟨y, hy, he⟩)) b2 b3⟩

/-- the conclusion of `inv_x_involutive_of_checks` with `sameCardB`, `distinctSetsB` replaced by: valid code, connected,
at least three crossings -/
theorem inv_x_involutive_of_valid (link : Link) (f : Nat → Nat) (base : Option Nat) (d : InvData)
    (h : new link f base = .ok d) (hv : C19Cone.validKB link = true) (h1 : involB f (edgesOf link.toList) = true)
    (hc : ConnectedPD link.toList) (h3 : 3 ≤ link.size) :
    ∀ x ∈ link.toList, ∃ y ∈ link.toList, d.invX x = .ok y ∧ d.invX y = .ok x ∧ firstMatch f link.toList x = some y ∧
      ∀ e, e ∈ y.e.toList ↔ ∃ e' ∈ x.e.toList, f e' = e := by
  have hinv := involB_spec f _ h1
  obtain ⟨hm, hnd, _⟩ := (invlink_new_ok_iff link f base).1 ⟨d, h⟩
  have hsym := match_symm_of_valid link f hv hinv hm
  have hfun := match_unique_of_distinct_label_sets link f hinv hsym
    (distinct_label_sets_of_connected link hv hc hnd h3)
  intro x hx
  obtain ⟨y, hy, a1, a2, a3⟩ := inv_x_involutive link f base d h hsym hfun x hx
  exact ⟨y, hy, a1, a2, a3, firstMatch_exact f link.toList x y hx hinv hsym a3⟩

/-- `sinv_knot_from_code`: for an accepted valid connected code with at least three crossings `inv_x` is an involution on
crossings, carries exactly the image labels and is the first match of the reference model (the edge map is an involution
by `sinv_emap_involutive`, so nothing about it is assumed) -/
theorem sinv_inv_x_involutive_of_valid (code : List (Array Nat)) (d : InvData) (h : sinvFromCode code = .ok d)
    (hv : C19Cone.validKB (linkOfCode code) = true) (hc : ConnectedPD (linkOfCode code).toList) (h3 : 3 ≤ code.length) :
    let l := linkOfCode code
    let n := (labelsOf l).length
    ∀ x ∈ l.toList, ∃ y ∈ l.toList, d.invX x = .ok y ∧ d.invX y = .ok x ∧ firstMatch (sinvEMap n) l.toList x = some y ∧
      ∀ e, e ∈ y.e.toList ↔ ∃ e' ∈ x.e.toList, sinvEMap n e' = e := by
  intro l n
  have hinv : ∀ e ∈ edgesOf l.toList, sinvEMap n (sinvEMap n e) = e :=
    fun e he => (sinv_emap_involutive code d h e he).2.1
  obtain ⟨_, _, _, hm, hnd⟩ := (sinv_ok_iff code).1 ⟨d, h⟩
  have hsym := match_symm_of_valid l (sinvEMap n) hv hinv hm
  have hsize : 3 ≤ l.size := by simpa [l, linkOfCode] using h3
  have hfun := match_unique_of_distinct_label_sets l (sinvEMap n) hinv hsym
    (distinct_label_sets_of_connected l hv hc hnd hsize)
  have hnew : new l (sinvEMap n) (some 1) = .ok d := ((sinvFromCode_ok_iff code d).1 h).2.2.2
  intro x hx
  obtain ⟨y, hy, a1, a2, a3⟩ := inv_x_involutive l (sinvEMap n) (some 1) d hnew hsym hfun x hx
  exact ⟨y, hy, a1, a2, a3, firstMatch_exact (sinvEMap n) l.toList x y hx hinv hsym a3⟩

/-- COUNTEREXAMPLE to "valid ⇒ distinct label sets": a valid two-crossing code of a one-component diagram
(`1→2→3→4→1`), accepted by `sinv_knot_from_code`; both crossings carry all four labels (`distinctSetsB = false`); the
`HashMap` loop ends with `inv_x` = the swap (an involution) although the first match of BOTH crossings is `data[0]` -/
theorem two_crossing_counterexample :
    let code : List (Array Nat) := [#[1,3,2,4], #[2,4,3,1]]
    let l := linkOfCode code
    C19Cone.validKB l = true ∧ distinctSetsB l.toList = false ∧ sameCardB l.toList = true ∧
    firstMatch (sinvEMap 4) l.toList l[0]! = some l[0]! ∧ firstMatch (sinvEMap 4) l.toList l[1]! = some l[0]! ∧
    ∃ d, sinvFromCode code = .ok d ∧ d.invX l[0]! = .ok l[1]! ∧ d.invX l[1]! = .ok l[0]! := by
  intro code l
  refine ⟨by decide +kernel, by decide +kernel, by decide +kernel, by decide +kernel, by decide +kernel, ?_⟩
  have h : okAnd (sinvFromCode code) (fun d => decide (d.invX l[0]! = .ok l[1]!) && decide (d.invX l[1]! = .ok l[0]!)) = true := by
    decide +kernel
  obtain ⟨d, hd, hp⟩ := okAnd_elim _ _ h
  simp only [Bool.and_eq_true, decide_eq_true_eq] at hp
  exact ⟨d, hd, hp.1, hp.2⟩

/-- `sameCardB` is not needed and can fail on accepted valid codes: a three-crossing diagram with a kink on the axis
(crossing `[3,4,4,5]` has three distinct labels, the other two have four); `inv_x` exchanges the first two crossings and
fixes the kink, as `inv_x_exact_of_valid` predicts -/
theorem same_card_not_needed :
    let code : List (Array Nat) := [#[1,5,2,6], #[2,6,3,1], #[3,4,4,5]]
    let l := linkOfCode code
    C19Cone.validKB l = true ∧ sameCardB l.toList = false ∧
    ∃ d, sinvFromCode code = .ok d ∧ d.invX l[0]! = .ok l[1]! ∧ d.invX l[1]! = .ok l[0]! ∧ d.invX l[2]! = .ok l[2]! := by
  intro code l
  refine ⟨by decide +kernel, by decide +kernel, ?_⟩
  have h : okAnd (sinvFromCode code) (fun d => decide (d.invX l[0]! = .ok l[1]!) && decide (d.invX l[1]! = .ok l[0]!) &&
      decide (d.invX l[2]! = .ok l[2]!)) = true := by
    decide +kernel
  obtain ⟨d, hd, hp⟩ := okAnd_elim _ _ h
  simp only [Bool.and_eq_true, decide_eq_true_eq] at hp
  exact ⟨d, hd, hp.1.1, hp.1.2, hp.2⟩

/-- the trefoil of the table is connected (any crossing shares a label with any other) -/
theorem trefoil_connected : ConnectedPD (linkOfCode [#[1,5,2,4], #[3,1,4,6], #[5,3,6,2]]).toList := by
  intro S ⟨x, hx, hS⟩ hcl y hy
  refine hcl x hx y hy hS ?_
  simp only [linkOfCode, List.map_cons, List.map_nil, List.mem_cons, List.not_mem_nil, or_false] at hx hy
  rcases hx with rfl | rfl | rfl <;> rcases hy with rfl | rfl | rfl <;> decide

/-- the hypotheses of `sinv_inv_x_involutive_of_valid` hold for the table's trefoil -/
example :
    let code : List (Array Nat) := [#[1,5,2,4], #[3,1,4,6], #[5,3,6,2]]
    (∃ d, sinvFromCode code = .ok d) ∧ C19Cone.validKB (linkOfCode code) = true ∧
      ConnectedPD (linkOfCode code).toList ∧ 3 ≤ code.length := by
  intro code
  refine ⟨?_, by decide +kernel, trefoil_connected, by decide⟩
  have h : okAnd (sinvFromCode code) (fun _ => true) = true := by decide +kernel
  obtain ⟨d, hd, _⟩ := okAnd_elim _ _ h
  exact ⟨d, hd⟩

/-- under the LOCAL condition `ArcCompat` (arcs of the `b`-smoothing of crossing `i` ↦ arcs of the `b`-smoothing of crossing
`π i`), for every pair of states with `t_{π i} = s_i`: the circles of `s` are carried by the label involution `f`
bijectively onto the circles of `t` (index bijection `σ`, contents `circle_t(σ i) = f(circle_s i)`, equally many) -/
theorem circles_tau_bijection (l : Link) (hwf : C04Inv.WF l) (hun : ∀ c ∈ l.toList, c.ct.isResolved = false)
    (f π : Nat → Nat)
    (hlab : ∀ x, x ∈ edgeLabels l → f x ∈ edgeLabels l) (hinv : ∀ x, x ∈ edgeLabels l → f (f x) = x)
    (hπ : ∀ i, i < l.size → π i < l.size) (hππ : ∀ i, i < l.size → π (π i) = i)
    (hc : ArcCompat l f π) (s t : Nat) (hbits : ∀ i, i < l.size → t.testBit (π i) = s.testBit i) :
    let cs := circles l (edgeLabels l) s
    let ct := circles l (edgeLabels l) t
    cs.size = ct.size ∧
    ∃ σ : Nat → Nat,
      (∀ i, i < cs.size → σ i < ct.size ∧ ∀ y, y ∈ ct[σ i]! ↔ ∃ x, x ∈ cs[i]! ∧ f x = y) ∧
      (∀ i j, i < cs.size → j < cs.size → σ i = σ j → i = j) ∧
      (∀ j, j < ct.size → ∃ i, i < cs.size ∧ σ i = j) := by
  intro cs ct
  have hbits' : ∀ i, i < l.size → s.testBit (π i) = t.testBit i := by
    intro i hi
    have := hbits (π i) (hπ i hi)
    rw [hππ i hi] at this
    exact this.symm
  have hPQ := arcs_into l hun f π hπ hc s t hbits
  have hQP := arcs_into l hun f π hπ hc t s hbits'
  obtain ⟨σ, h1, h2, h3⟩ := circle_bij (C06Cycle.circles_spec l hwf s) (C06Cycle.circles_spec l hwf t) f hlab hinv hPQ hQP
  exact ⟨size_eq_of_bij _ _ σ (fun i hi => (h1 i hi).1) h2 h3, σ, h1, h2, h3⟩

/-- the same for the circle lists stored in the reference cube `mkCube` (the `cube` of `mkICube`), all `2^n` vertices at once -/
theorem icube_circles_tau_bijection (l : Link) (p : Params) (hwf : C04Inv.WF l)
    (hun : ∀ c ∈ l.toList, c.ct.isResolved = false) (f π : Nat → Nat)
    (hlab : ∀ x, x ∈ edgeLabels l → f x ∈ edgeLabels l) (hinv : ∀ x, x ∈ edgeLabels l → f (f x) = x)
    (hπ : ∀ i, i < l.size → π i < l.size) (hππ : ∀ i, i < l.size → π (π i) = i)
    (hc : ArcCompat l f π) (s t : Nat) (hs : s < 2 ^ crossingNum l) (ht : t < 2 ^ crossingNum l)
    (hbits : ∀ i, i < l.size → t.testBit (π i) = s.testBit i) :
    let cs := (mkCube l p).circ[s]!
    let ct := (mkCube l p).circ[t]!
    cs.size = ct.size ∧
    ∃ σ : Nat → Nat,
      (∀ i, i < cs.size → σ i < ct.size ∧ ∀ y, y ∈ ct[σ i]! ↔ ∃ x, x ∈ cs[i]! ∧ f x = y) ∧
      (∀ i j, i < cs.size → j < cs.size → σ i = σ j → i = j) ∧
      (∀ j, j < ct.size → ∃ i, i < cs.size ∧ σ i = j) := by
  intro cs ct
  have e1 : cs = circles l (edgeLabels l) s := mkCube_circ l p s hs
  have e2 : ct = circles l (edgeLabels l) t := mkCube_circ l p t ht
  rw [e1, e2]
  exact circles_tau_bijection l hwf hun f π hlab hinv hπ hππ hc s t hbits

/-- ALL `2^n` vertices at once, with `τ s` given explicitly: `permState n π s` (bit `π i` of it is bit `i` of `s`) is again a
vertex of the cube, and the circles stored at `s` go bijectively (via `f`) to the circles stored at `τ s` — the circle-level
clauses of `icubeWf` for the pair `(s, τ s)` from one local condition per crossing -/
theorem icube_circles_tau_all_states (l : Link) (p : Params) (hwf : C04Inv.WF l)
    (hun : ∀ c ∈ l.toList, c.ct.isResolved = false) (f π : Nat → Nat)
    (hlab : ∀ x, x ∈ edgeLabels l → f x ∈ edgeLabels l) (hinv : ∀ x, x ∈ edgeLabels l → f (f x) = x)
    (hπ : ∀ i, i < l.size → π i < l.size) (hππ : ∀ i, i < l.size → π (π i) = i)
    (hc : ArcCompat l f π) :
    ∀ s, s < 2 ^ (mkCube l p).n →
      let t := permState l.size π s
      let cs := (mkCube l p).circ[s]!
      let ct := (mkCube l p).circ[t]!
      t < 2 ^ (mkCube l p).n ∧ permState l.size π t % 2 ^ l.size = s ∧ cs.size = ct.size ∧
      ∃ σ : Nat → Nat,
        (∀ i, i < cs.size → σ i < ct.size ∧ ∀ y, y ∈ ct[σ i]! ↔ ∃ x, x ∈ cs[i]! ∧ f x = y) ∧
        (∀ i j, i < cs.size → j < cs.size → σ i = σ j → i = j) ∧
        (∀ j, j < ct.size → ∃ i, i < cs.size ∧ σ i = j) := by
  intro s hs t cs ct
  have hn : (mkCube l p).n = l.size := crossingNum_eq_size l hun
  have hn' : crossingNum l = l.size := crossingNum_eq_size l hun
  obtain ⟨ht, hbits⟩ := permState_spec l.size π s hπ hππ
  rw [hn] at hs ⊢
  have hπ' : ∀ i, i < l.size → π i < l.size ∧ π (π i) = i := fun i hi => ⟨hπ i hi, hππ i hi⟩
  have hback : permState l.size π t % 2 ^ l.size = s := by
    rw [Nat.mod_eq_of_lt (permState_bits l.size π t hπ').lt]
    exact (permState_bits l.size π s hπ').back hπ' hs (permState_bits l.size π t hπ')
  refine ⟨ht, hback, ?_⟩
  exact icube_circles_tau_bijection l p hwf hun f π hlab hinv hπ hππ hc s t (by rw [hn']; exact hs) (by rw [hn']; exact ht) hbits

/-- the executable form `arcCompatB` implies `ArcCompat` -/
theorem arcCompat_of_check (l : Link) (f π : Nat → Nat) (h : arcCompatB l f π = true) : ArcCompat l f π := by
  intro i hi b p hp
  unfold arcCompatB at h
  simp only [List.all_eq_true, List.mem_range, Bool.or_eq_true, List.contains_iff_mem] at h
  exact h i hi b (by cases b <;> simp) p hp

/-- non-vacuity: the table's trefoil with its involution `e ↦ (7 − e) % 6 + 1` and the crossing permutation `(0 1)(2)`
satisfies `ArcCompat` and the other hypotheses; e.g. the states `s = 0b001`, `t = 0b010` are related -/
example :
    let l := linkOfCode [#[1,5,2,4], #[3,1,4,6], #[5,3,6,2]]
    let π : Nat → Nat := fun i => if i = 0 then 1 else if i = 1 then 0 else i
    arcCompatB l (sinvEMap 6) π = true ∧ (∀ i, i < l.size → π i < l.size ∧ π (π i) = i) ∧
    (∀ i, i < l.size → (2 : Nat).testBit (π i) = (1 : Nat).testBit i) ∧
    (∀ c ∈ l.toList, c.ct.isResolved = false) ∧ (∀ c ∈ l.toList, c.e.size = 4) := by
  intro l π
  refine ⟨by decide +kernel, ?_, ?_, by decide, by decide⟩
  · intro i hi
    have : i < 3 := hi
    obtain rfl | rfl | rfl : i = 0 ∨ i = 1 ∨ i = 2 := by omega
    all_goals decide
  · intro i hi
    have : i < 3 := hi
    obtain rfl | rfl | rfl : i = 0 ∨ i = 1 ∨ i = 2 := by omega
    all_goals decide

/-- `ArcCompat` is a real restriction: with the trefoil's crossing permutation but the IDENTITY on labels it fails -/
example :
    let l := linkOfCode [#[1,5,2,4], #[3,1,4,6], #[5,3,6,2]]
    arcCompatB l id (fun i => if i = 0 then 1 else if i = 1 then 0 else i) = false := by
  decide +kernel

end Yuiv.C19Hyp
