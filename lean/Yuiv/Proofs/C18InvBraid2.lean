import Mathlib.Algebra.BigOperators.Group.Finset.Sigma
import Mathlib.Algebra.BigOperators.Group.Finset.Basic
import Yuiv.Proofs.C18InvBraid
import Yuiv.Proofs.C18InvOri
/-
C18Inv — braid closures, part 2 (T3): on the closure of a braid word EVERY orientation consistent with the
under-strand directions of the code has the same writhe as the braid orientation, namely the exponent sum.

Two such orientations differ by reversing some components that never pass under.  Let `D` be the set of slots
where they differ: `D` is closed under `thru` and `partner`, contains no slot 0 or 2, and contains slot 1 of a
crossing iff it contains slot 3.  With the strand position `slotPos` (a function of the LABEL, so both ends of an
edge have the same position) the sum over `D` of `± slotPos` (`+` at entrances, `-` at exits of the braid
orientation) vanishes because `partner` is an involution of `D` exchanging entrances and exits
(`Finset.sum_nbij'`); crossing by crossing the same sum is `Σ_{i : D(i,1)} sign(w[i])`.  Hence the crossings whose
sign is flipped have total sign 0 (`closure_flip_sum`), and the writhe is unchanged (`closure_writhe_any_orient`).

With the orientation theorem `crossingSigns_orient'` (`Proofs/C18InvOri.lean`) this gives `closure_writhe'`:
the MODEL's `writhe` of a braid closure is the exponent sum of the word.
-/
namespace Yuiv.C18
open Yuiv Finset

theorem br_writheOf_append (a b : List Sign) : writheOf (a ++ b) = writheOf a + writheOf b := by
  unfold writheOf
  simp only [List.count_append]
  omega

theorem br_writheOf_map_range (g : Nat → Sign) (n : Nat) :
    writheOf ((List.range n).map g) = ∑ i ∈ range n, (g i).toInt := by
  induction n with
  | zero => rfl
  | succ n ih =>
    rw [List.range_succ, List.map_append, br_writheOf_append, ih, Finset.sum_range_succ]
    simp only [List.map_cons, List.map_nil]
    cases g n <;> rfl

theorem BForm.signsOf_eq {strands : Nat} {w : List Int} {l : Link} {ins outs : List Nat}
    (hB : BForm strands w l ins outs) (O' : Nat × Nat → Bool) :
    signsOf l O' = (List.range w.length).map (fun i => if O' (i, 1) then Sign.neg else Sign.pos) := by
  unfold signsOf
  rw [hB.len, ← List.filterMap_eq_map]
  apply filterMap_congr_mem
  intro i hi
  unfold C18.sgnAt
  rw [(hB.at i (List.mem_range.1 hi)).1]
  show _ = some (if O' (i, 1) = true then Sign.neg else Sign.pos)
  cases O' (i, 1) <;> rfl

theorem br_bne_not_not (a b : Bool) : ((!a) != (!b)) = (a != b) := by cases a <;> cases b <;> rfl

theorem Obraid_1 (w : List Int) (i : Nat) : Obraid w (i, 1) = decide (w.getD i 0 < 0) := by
  rw [Obraid_eq]; unfold ob2; simp

theorem Obraid_3 (w : List Int) (i : Nat) : Obraid w (i, 3) = decide (w.getD i 0 > 0) := by
  rw [Obraid_eq]; unfold ob2; simp

/-- the over-strands whose direction is flipped (`D`: a set of slots closed under `partner`, avoiding the
under-strand slots 0, 2 and containing both or none of the slots 1, 3 of each crossing) contribute signed
crossing number 0: along them the strand position changes by `-sign` at every crossing and every edge keeps the
position (`slotPos_partner`), so the total change `-Σ sign` over the closed-up strands vanishes. -/
theorem closure_flip_sum {strands : Nat} {w : List Int} {l : Link} {ins outs : List Nat}
    (hB : BForm strands w l ins outs) (hv : Valid l) (hO : Orient l (Obraid w))
    (D : Nat × Nat → Bool) (hDp : ∀ h, HE l h → D (partner l h) = D h)
    (hD0 : ∀ i, i < w.length → D (i, 0) = false) (hD2 : ∀ i, i < w.length → D (i, 2) = false)
    (hD3 : ∀ i, i < w.length → D (i, 3) = D (i, 1)) :
    ∑ i ∈ range w.length, (if D (i, 1) then (braidSign (w.getD i 0)).toInt else 0) = 0 := by
  let F : Nat × Nat → Int := fun h =>
    if Obraid w h then (slotPos strands w l h : Int) else - (slotPos strands w l h : Int)
  let T : Finset (Nat × Nat) := ((range w.length) ×ˢ (range 4)).filter (fun h => D h = true)
  have hmem : ∀ h, h ∈ T ↔ HE l h ∧ D h = true := by
    intro h
    simp only [T, mem_filter, mem_product, mem_range, HE, hB.len]
  have hmap : ∀ a ∈ T, partner l a ∈ T := by
    intro a ha
    rw [hmem] at ha ⊢
    exact ⟨(partner_spec l hv a ha.1).1, by rw [hDp a ha.1]; exact ha.2⟩
  have hinv : ∀ a ∈ T, partner l (partner l a) = a := by
    intro a ha
    exact (partner_spec l hv a ((hmem a).1 ha).1).2.2.2
  have h1 : ∑ h ∈ T, F h = ∑ h ∈ T, - F h := by
    apply Finset.sum_nbij' (partner l) (partner l) hmap hmap hinv hinv
    intro a ha
    have hh := ((hmem a).1 ha).1
    simp only [F]
    rw [hO.partner_eq a hh, slotPos_partner strands w l hv a hh]
    cases Obraid w a <;> simp
  have h2 : ∑ h ∈ T, F h = 0 := by
    rw [Finset.sum_neg_distrib] at h1; omega
  have h3 : ∑ h ∈ T, F h
      = ∑ i ∈ range w.length, (if D (i, 1) then (braidSign (w.getD i 0)).toInt else 0) := by
    simp only [T]
    rw [Finset.sum_filter, Finset.sum_product]
    apply Finset.sum_congr rfl
    intro i hi
    rw [mem_range] at hi
    simp only [Finset.sum_range_succ, Finset.sum_range_zero, hD0 i hi, hD2 i hi, hD3 i hi]
    obtain ⟨_, p1, _, p3⟩ := hB.pos_slot i hi
    have hnz := (hB.cr i hi).1
    cases hd : D (i, 1)
    · simp
    · simp only [F, Obraid_1, Obraid_3, p1, p3]
      unfold braidSign
      generalize w.getD i 0 = s at hnz ⊢
      by_cases hs : s > 0
      · have hs' : ¬ s < 0 := by omega
        simp only [hs, hs', decide_true, decide_false, if_true, if_false, Bool.false_eq_true, Sign.toInt]
        omega
      · have hs' : s < 0 := by omega
        simp only [hs, hs', decide_true, decide_false, if_true, if_false, Bool.false_eq_true, Sign.toInt]
        omega
  rw [← h3, h2]

theorem closure_writhe_any_orient (strands : Nat) (w : List Int) (l : Link) (h : closure strands w = .ok l)
    (O' : Nat × Nat → Bool) (hO' : Orient l O') (hU' : UnderIn l O') :
    writheOf (signsOf l O') = writheOf (signsOf l (Obraid w)) := by
  obtain ⟨ins, outs, hB⟩ := closure_bform strands w l h
  have hv := closure_valid' strands w l h
  obtain ⟨hO, hU⟩ := closure_orient strands w l h
  let D : Nat × Nat → Bool := fun h => O' h != Obraid w h
  have hDt : ∀ h, HE l h → D (thru l h) = D h := by
    intro h hh
    simp only [D]
    rw [hO.thru_eq h hh, hO'.thru_eq h hh, br_bne_not_not]
  have hDp : ∀ h, HE l h → D (partner l h) = D h := by
    intro h hh
    simp only [D]
    rw [hO.partner_eq h hh, hO'.partner_eq h hh, br_bne_not_not]
  have hD0 : ∀ i, i < w.length → D (i, 0) = false := by
    intro i hi
    simp only [D]
    rw [hU i (hB.len ▸ hi), hU' i (hB.len ▸ hi)]; rfl
  have hD2 : ∀ i, i < w.length → D (i, 2) = false := by
    intro i hi
    have e : thru l (i, 0) = (i, 2) := br_thru_X l i 0 (hB.at i hi).1
    have := hDt (i, 0) ⟨hB.len ▸ hi, by omega⟩
    rw [e, hD0 i hi] at this
    exact this
  have hD3 : ∀ i, i < w.length → D (i, 3) = D (i, 1) := by
    intro i hi
    have e : thru l (i, 1) = (i, 3) := br_thru_X l i 1 (hB.at i hi).1
    have := hDt (i, 1) ⟨hB.len ▸ hi, by omega⟩
    rw [e] at this
    exact this
  have hz := closure_flip_sum hB hv hO D hDp hD0 hD2 hD3
  rw [hB.signsOf_eq O', hB.signsOf_eq (Obraid w), br_writheOf_map_range, br_writheOf_map_range]
  have key : ∀ i ∈ range w.length, (if O' (i, 1) then Sign.neg else Sign.pos).toInt
      = (if Obraid w (i, 1) then Sign.neg else Sign.pos).toInt
        + (-(if D (i, 1) then (braidSign (w.getD i 0)).toInt else 0)
            + -(if D (i, 1) then (braidSign (w.getD i 0)).toInt else 0)) := by
    intro i hi
    rw [mem_range] at hi
    have hnz := (hB.cr i hi).1
    simp only [D, Obraid_1]
    unfold braidSign
    generalize w.getD i 0 = s at hnz ⊢
    by_cases hs : s > 0
    · have hs' : ¬ s < 0 := by omega
      cases O' (i, 1) <;> simp [hs, hs', Sign.toInt]
    · have hs' : s < 0 := by omega
      cases O' (i, 1) <;> simp [hs, hs', Sign.toInt]
  rw [Finset.sum_congr rfl key, Finset.sum_add_distrib, Finset.sum_add_distrib, Finset.sum_neg_distrib, hz]
  simp

/-- the writhe computed by the model of `Link::writhe` on a braid closure is the exponent sum of the word (the
walk of `crossing_signs` may orient a component that never passes under against the braid direction; this does
not change the writhe) -/
theorem closure_writhe' (strands : Nat) (w : List Int) (l : Link) (h : closure strands w = .ok l) :
    writhe l = .ok (expSum w) := by
  have hv := closure_valid' strands w l h
  obtain ⟨hO, hU⟩ := closure_orient strands w l h
  obtain ⟨O', hO', hU', hs⟩ := crossingSigns_orient' l hv _ hO hU
  rw [(writhe_of_signs l _ hs).2, closure_writhe_any_orient strands w l h O' hO' hU',
    closure_writhe_braid strands w l h]

theorem closure_signedCrossingNums' (strands : Nat) (w : List Int) (l : Link) (h : closure strands w = .ok l) :
    ∃ p n, signedCrossingNums l = .ok (p, n) ∧ (p : Int) - (n : Int) = expSum w ∧ p + n = w.length := by
  have hv := closure_valid' strands w l h
  obtain ⟨ins, outs, hB⟩ := closure_bform strands w l h
  obtain ⟨hO, hU⟩ := closure_orient strands w l h
  obtain ⟨O', hO', hU', hs⟩ := crossingSigns_orient' l hv _ hO hU
  refine ⟨_, _, (writhe_of_signs l _ hs).1, ?_, ?_⟩
  · have := closure_writhe_any_orient strands w l h O' hO' hU'
    rw [closure_writhe_braid strands w l h] at this
    exact this
  · rw [hB.signsOf_eq O']
    have : ∀ (L : List Sign), L.count .pos + L.count .neg = L.length := by
      intro L
      induction L with
      | nil => rfl
      | cons a r ih => cases a <;> simp <;> omega
    rw [this]; simp

/-! non-vacuity: `closure 2 [1,-1]` has a component that only passes over; the model walks it against the braid
direction (signs `[neg, pos]` instead of `[pos, neg]`), same writhe -/
example : closure 2 [1, -1] = .ok (fromPD [[0, 2, 3, 1], [3, 2, 0, 1]]) := by decide +kernel
example : crossingSigns (fromPD [[0, 2, 3, 1], [3, 2, 0, 1]]) = .ok [.neg, .pos] := by decide +kernel
example : signsOf (fromPD [[0, 2, 3, 1], [3, 2, 0, 1]]) (Obraid [1, -1]) = [.pos, .neg] := by decide +kernel
example : writhe (fromPD [[0, 2, 3, 1], [3, 2, 0, 1]]) = .ok (expSum [1, -1]) := by decide +kernel

end Yuiv.C18
