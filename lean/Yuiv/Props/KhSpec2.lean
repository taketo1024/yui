import Yuiv.Proofs.KhSpecRed
import Yuiv.Proofs.KhSpecSort
import Yuiv.Proofs.C01SqEx
/-
KhSpec2 — what `Props/KhSpec` does not cover of `KhRef.khHomology`: the order of the cells, and the reduced bigraded
computation.

 (A) THE ORDER OF THE CELLS IS DETERMINED.  `Array.qsort` sorts for an INTEGER key too (`qsort_sorts_int`), so the
     quantum degrees `qsOf` are listed strictly increasingly (`qsOf_strictly_increasing`) and `qsOf` is THE increasing
     enumeration of the set of quantum degrees of the generators (`qsOf_determined`).  Hence the cell list of the
     bigraded computation is strictly increasing in `(q, h)` lexicographically, every cell is a non-zero group, no
     bidegree occurs twice (`bigraded_cells_ordered`); the unbigraded list is strictly increasing in `h`
     (`unbigraded_cells_ordered`).  So two implementations computing the same groups produce the same LIST, not merely
     the same set.
 (B) THE REDUCED BIGRADED COMPUTATION (`h = t = 0`, `bigraded = true`, any `p.reduced`): `khHomology_spec_reduced_bigraded`
     — success, the cells are slice by slice the cells of the sub-complex of the UNREDUCED cube `cube0 l p` spanned by the
     generators of the reduced cube of quantum degree `q`; unimodular diagonal forms, `d ∘ d = 0`, `cellOf` over ℤ, and
     `dim ker/im` over ℚ and `𝔽_q` exactly as in `khHomology_spec_bigraded`.

With this, of `KhRef.khHomology` only the reduced theory with `t ≠ 0` is not specified (it is not a complex, see
`Props/C01Sq`).
-/
namespace Yuiv.KhSpec
open Yuiv Yuiv.KhRef Matrix Yuiv.KhSnf Yuiv.C03Uct Yuiv.C03 Module
open Yuiv.C02Mirror (cubeOK)

/-- core Lean's `Array.qsort` sorts for comparisons by an INTEGER key -/
theorem qsort_sorts_int {α : Type} (key : α → Int) (as : Array α) :
    ((as.qsort (fun a b => decide (key a < key b))).toList).Pairwise (fun a b => key a ≤ key b) :=
  qsort_sorted_intKey key as

/-- the quantum degrees are listed in strictly increasing order -/
theorem qsOf_strictly_increasing (c : Cube) (q0 : Int) (gens : Array (Array Gen)) :
    (qsOf c q0 gens).toList.Pairwise (· < ·) :=
  qsOf_sorted c q0 gens

/-- `qsOf` is determined by its specification: it is THE strictly increasing list of the quantum degrees of the
generators -/
theorem qsOf_determined (c : Cube) (q0 : Int) (gens : Array (Array Gen)) (L : List Int)
    (hs : L.Pairwise (· < ·))
    (hm : ∀ q, q ∈ L ↔ ∃ gs ∈ gens.toList, ∃ g ∈ gs.toList, c.qDeg q0 g = q) :
    (qsOf c q0 gens).toList = L := by
  have h1 := qsOf_sorted c q0 gens
  have hnd : ∀ {M : List Int}, M.Pairwise (· < ·) → M.Nodup := fun h => h.imp (fun h => by omega)
  refine List.Perm.eq_of_pairwise (le := (· ≤ ·)) (fun a b _ _ h1 h2 => by omega)
    (h1.imp (fun h => by omega)) (hs.imp (fun h => by omega)) ?_
  rw [List.perm_ext_iff_of_nodup (hnd h1) (hnd hs)]
  intro q
  rw [mem_qsOf, hm]

/-- the cells of one table: strictly increasing homological degree, non-zero groups only, each the group at its
position -/
theorem cellsUn_ordered (h0 : Int) (j : Option Int) (hs : Array Group) :
    (cellsUn h0 j hs).Pairwise (fun a b => a.1 < b.1) ∧
    ∀ a ∈ cellsUn h0 j hs, a.2.1 = j ∧ (a.2.2.rank ≠ 0 ∨ a.2.2.tors.size ≠ 0) ∧
      ∃ i : Nat, i < hs.size ∧ a.1 = h0 + i ∧ a.2.2 = hs[i]! := by
  constructor
  · unfold cellsUn
    rw [List.pairwise_filterMap]
    refine (List.pairwise_lt_range (n := hs.size)).imp ?_
    intro a b hab x hx y hy
    split at hx
    · split at hy
      · simp only [Option.some.injEq] at hx hy
        subst hx hy
        show h0 + (a : Int) < h0 + (b : Int)
        omega
      · simp at hy
    · simp at hx
  · exact fun a ha => mem_cellsUn h0 j hs a ha

/-- THE ORDER OF THE BIGRADED OUTPUT: the list `qs.flatMap (fun q => cellsUn h0 (some q) (T q))` that `khHomology … true`
returns (`qs = qsOf …`, see `khHomology_spec_bigraded` / `khHomology_spec_reduced_bigraded`) is strictly increasing in
`(q, h)` lexicographically; in particular no bidegree occurs twice -/
theorem bigraded_cells_ordered (c : Cube) (q0 : Int) (gens : Array (Array Gen)) (h0 : Int) (T : Int → Array Group) :
    ((qsOf c q0 gens).toList.flatMap (fun q => cellsUn h0 (some q) (T q))).Pairwise
      (fun a b => ∃ qa qb, a.2.1 = some qa ∧ b.2.1 = some qb ∧ (qa < qb ∨ (qa = qb ∧ a.1 < b.1))) := by
  rw [List.pairwise_flatMap]
  constructor
  · intro q _
    have h := cellsUn_ordered h0 (some q) (T q)
    have h2 : (cellsUn h0 (some q) (T q)).Pairwise (fun a b => a.2.1 = some q ∧ b.2.1 = some q) := by
      rw [List.pairwise_iff_forall_sublist]
      intro a b hab
      exact ⟨(h.2 a (hab.subset (by simp))).1, (h.2 b (hab.subset (by simp))).1⟩
    exact (h.1.and h2).imp (fun ⟨h1, h2, h3⟩ => ⟨q, q, h2, h3, Or.inr ⟨rfl, h1⟩⟩)
  · refine (qsOf_sorted c q0 gens).imp ?_
    intro q1 q2 hq a ha b hb
    exact ⟨q1, q2, ((cellsUn_ordered h0 (some q1) (T q1)).2 a ha).1, ((cellsUn_ordered h0 (some q2) (T q2)).2 b hb).1,
      Or.inl hq⟩

/-- the unbigraded output `cellsUn h0 none groups` is strictly increasing in the homological degree -/
theorem unbigraded_cells_ordered (h0 : Int) (hs : Array Group) :
    (cellsUn h0 none hs).Pairwise (fun a b => a.1 < b.1) :=
  (cellsUn_ordered h0 none hs).1

/-- END TO END, `bigraded = true`, `h = t = 0`, reduced or not (for `p.reduced = false` this is
`khHomology_spec_bigraded`): the computation succeeds; the cells are, for every quantum degree `q` of a generator of
`mkCube l p` (each once, increasing), the non-zero groups of the slice `G_q`; every slice is a family of generators of
the unreduced cube `cube0 l p` closed under its `Cube.d`, and satisfies the statements of `khHomology_spec` there -/
theorem khHomology_spec_reduced_bigraded (l : Link) (hv : C06Cycle.validK l = true) (hL : (edgeLabels l).size ≤ 64)
    (p : Params) (hh : p.h = 0) (ht : p.t = 0) (hok : cubeOK (mkCube l p)) (signs : Array Int) :
    (∀ k, khHomology l signs p k true =
      .ok ⟨((qsOf (mkCube l p) (q0Of signs p) (gensByWeight (mkCube l p))).toList.flatMap (fun q =>
        cellsUn (h0Of signs) (some q)
          (homologyOf k (gensQ (mkCube l p) (q0Of signs p) (gensByWeight (mkCube l p)) q)
            (dTab (cube0 l p) p (gensByWeight (cube0 l p)))))).toArray⟩) ∧
    (qsOf (mkCube l p) (q0Of signs p) (gensByWeight (mkCube l p))).toList.Pairwise (· < ·) ∧
    (∀ q, q ∈ (qsOf (mkCube l p) (q0Of signs p) (gensByWeight (mkCube l p))).toList ↔
      ∃ gs ∈ (gensByWeight (mkCube l p)).toList, ∃ g ∈ gs.toList, (mkCube l p).qDeg (q0Of signs p) g = q) ∧
    ∀ q : Int,
      let c0 := cube0 l p
      let G := gensQ (mkCube l p) (q0Of signs p) (gensByWeight (mkCube l p)) q
      let dT := dTab c0 p (gensByWeight c0)
      (∀ (i : Nat) (g : Gen), g ∈ (G[i]!).toList ↔
        g ∈ ((gensByWeight (mkCube l p))[i]!).toList ∧ (mkCube l p).qDeg (q0Of signs p) g = q) ∧
      (∀ (i : Nat) (g : Gen), g ∈ (G[i]!).toList → g ∈ ((gensByWeight c0)[i]!).toList) ∧
      (∀ i, i < crossingNum l → EquivDiag (dMat c0 p G i) (diagAt c0 p G i)) ∧
      (∀ i, crossingNum l ≤ i → diagAt c0 p G i = []) ∧
      (∀ i, dMat c0 p G i * dMat c0 p G (i + 1) = 0) ∧
      (∀ i, i ≤ crossingNum l →
        ((homologyOf .Z G dT)[i]!).rank = (cellOf (G[i]!).size (diagIn c0 p G i) (diagAt c0 p G i)).rank ∧
        ((homologyOf .Z G dT)[i]!).tors.toList = (cellOf (G[i]!).size (diagIn c0 p G i) (diagAt c0 p G i)).tors ∧
        ((homologyOf .Q G dT)[i]!).rank = (G[i]!).size - nz (diagIn c0 p G i) - nz (diagAt c0 p G i) ∧
        ((homologyOf .Q G dT)[i]!).tors = #[] ∧
        ∀ q', 2 ≤ q' → ((homologyOf (.Fp q') G dT)[i]!).rank =
            (G[i]!).size - ndiv (q' : ℤ) (diagIn c0 p G i) - ndiv (q' : ℤ) (diagAt c0 p G i) ∧
          ((homologyOf (.Fp q') G dT)[i]!).tors = #[]) ∧
      (∀ j, j < crossingNum l →
        ((homologyOf .Q G dT)[j + 1]!).rank =
          finrank ℚ (Homology (toRat (dMat c0 p G j)ᵀ) (toRat (dMat c0 p G (j + 1))ᵀ)) ∧
        ∀ (q' : ℕ) [Fact q'.Prime], ((homologyOf (.Fp q') G dT)[j + 1]!).rank =
          finrank (ZMod q') (Homology (redMod q' (dMat c0 p G j)ᵀ) (redMod q' (dMat c0 p G (j + 1))ᵀ))) := by
  have H := ctx_cube0 l hv hL p hok
  refine ⟨fun k => khHomology_ok_reduced_bigraded l hv hL p hh ht hok signs k, qsOf_sorted _ _ _,
    fun q => mem_qsOf _ _ _ q, ?_⟩
  intro q
  have F := fam_reduced_gensQ l hv hL p hh ht hok (q0Of signs p) q
  exact ⟨fun i g => mem_gensQ _ _ q i g, F.sub, fun i hi => diagAt_equivDiag H F i hi, fun i hi => diagAt_nil F i hi,
    fun i => dMat_mul H F i, fun i hi => groups_spec F i hi, fun j hj => rank_is_homology H F j hj⟩

open Yuiv.C02Mirror.Ex Yuiv.C01Sq.Ex Yuiv.C04Inv in
/-- the reduced bigraded instance at the trefoil (based at edge `1`, signs `− − −`, ℤ): the hypotheses hold and the
computation succeeds -/
example : cubeOK (mkCube trefoil ⟨0, 0, true⟩) ∧ ∃ res, khHomology trefoil #[-1, -1, -1] ⟨0, 0, true⟩ .Z true = .ok res := by
  have hok : cubeOK (mkCube trefoil ⟨0, 0, true⟩) := trefoil_ok
  exact ⟨hok, _, (khHomology_spec_reduced_bigraded trefoil valid_examples.1 trefoil_labels ⟨0, 0, true⟩ rfl rfl hok
    #[-1, -1, -1]).1 .Z⟩

/-- `cellsUn` keeps exactly the non-zero groups, in position order -/
example : (cellsUn (-3) (some 5) #[⟨1, #[]⟩, ⟨0, #[]⟩, ⟨0, #[2]⟩]).map (fun a => (a.1, a.2.1, a.2.2.rank, a.2.2.tors.toList)) =
    [(-3, some 5, 1, []), (-1, some 5, 0, [2])] := by decide +kernel

end Yuiv.KhSpec
