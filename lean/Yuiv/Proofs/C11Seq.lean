import Yuiv.Proofs.Res
import Yuiv.Proofs.C11Par
/-
C11 — the two sequential phases (`find_fl_pivots`, `find_fl_col_pivots`) establish the invariant in which
the parallel phase starts.  There is no fuel in them, so they are specified totally (`Sat _ False False`).
-/
namespace Yuiv.C11
open Yuiv Res

theorem remainRows_nodup (s : Str) (S : Pivs) : (remainRows s S).Nodup := by
  unfold remainRows
  rw [(List.mergeSort_perm _ _).nodup_iff]
  exact List.nodup_range.sublist List.filter_sublist

theorem remainRows_not_pivot (s : Str) (S : Pivs) : ∀ i ∈ remainRows s S, i ∉ S.map (·.1) := by
  intro i hi
  unfold remainRows at hi
  rw [(List.mergeSort_perm _ _).mem_iff, List.mem_filter] at hi
  have := hi.2
  simp only [Bool.and_eq_true, Bool.not_eq_true'] at this
  intro hmem
  rw [← hasRow_iff] at hmem
  rw [hmem] at this
  simp at this

theorem GInv.init {s : Str} {S : Pivs} (h : PInv s S) : GInv s ⟨S, remainRows s S, []⟩ :=
  ⟨h, by simp, remainRows_nodup s S, by simp, remainRows_not_pivot s S, by simp⟩

/-! ### phase 1: pivots at the head (minimal column) of their row -/

/-- pivots at the head of their rows form an acyclic set: a dependency goes to a strictly larger column -/
theorem acyclic_of_head {s : Str} {S : Pivs} (h : ∀ p ∈ S, ∀ j2 ∈ colsIn s p.1, p.2 ≤ j2) : Acyclic s S := by
  obtain ⟨B, hB⟩ : ∃ B, ∀ p ∈ S, p.2 < B := exists_bound _ S
  refine ⟨fun j => B - j, fun p hp q hq hne hE => ?_⟩
  have h1 := h p hp q.2 hE
  have h2 := hB q hq
  show B - q.2 < B - p.2
  omega

theorem head_le {s : Str} (hwf : s.WF) {i j : Nat} (h : headColIn s i = some j) :
    ∀ j2 ∈ colsIn s i, j ≤ j2 := by
  unfold headColIn at h
  have hp := hwf.1 i
  cases hc : colsIn s i with
  | nil => rw [hc] at h; simp at h
  | cons a l =>
    rw [hc] at h hp
    cases h
    intro j2 hj2
    rcases List.mem_cons.1 hj2 with e | hj2
    · omega
    · exact Nat.le_of_lt ((List.pairwise_cons.1 hp).1 j2 hj2)

theorem rows_snoc {is : List Nat} {i : Nat} {S : Pivs} (j : Nat) (hnd : (i :: is).Nodup)
    (hrows : ∀ i' ∈ i :: is, i' ∉ S.map (·.1)) : ∀ i' ∈ is, i' ∉ (S ++ [(i, j)]).map (·.1) :=
  fun i' hi' => not_mem_rows_snoc j (hrows i' (List.mem_cons_of_mem _ hi')) fun e => (List.nodup_cons.1 hnd).1 (e ▸ hi')

theorem flLoop_total (s : Str) (hwf : s.WF) (is : List Nat) : ∀ (S : Pivs), is.Nodup →
    (∀ i ∈ is, i ∉ S.map (·.1)) → PInv s S → (∀ p ∈ S, ∀ j2 ∈ colsIn s p.1, p.2 ≤ j2) →
    Sat (PInv s) False False (flLoop s is S) := by
  induction is with
  | nil => intro S _ _ h _; exact h
  | cons i is ih =>
    intro S hnd hrows h hhead
    have hnd' := (List.nodup_cons.1 hnd).2
    have hrows' : ∀ i' ∈ is, i' ∉ S.map (·.1) := fun i' hi' => hrows i' (List.mem_cons_of_mem _ hi')
    rw [flLoop]
    cases hh : headColIn s i with
    | none => exact ih S hnd' hrows' h hhead
    | some j =>
      simp only
      by_cases hc : (!hasCol S j && isCand s i j) = true
      · simp only [hc, if_true]
        simp only [Bool.and_eq_true, Bool.not_eq_true'] at hc
        rw [Pivs.set_of_free hc.1]
        have hhead' : ∀ p ∈ S ++ [(i, j)], ∀ j2 ∈ colsIn s p.1, p.2 ≤ j2 :=
          List.forall_mem_append.2 ⟨hhead, fun _ hp => List.mem_singleton.1 hp ▸ head_le hwf hh⟩
        exact ih _ hnd' (rows_snoc j hnd hrows)
          (h.snoc (hrows i List.mem_cons_self) (hasCol_false_iff.1 hc.1) hc.2 (acyclic_of_head hhead')) hhead'
      · simp only [hc, Bool.false_eq_true, if_false]
        exact ih S hnd' hrows' h hhead

theorem findFlPivots_total (s : Str) (hwf : s.WF) : Sat (PInv s) False False (findFlPivots s []) :=
  flLoop_total s hwf _ [] (remainRows_nodup s []) (remainRows_not_pivot s []) (PInv.nil s) (by simp)

/-! ### phase 2: pivots in columns that no pivot row occupies -/

theorem flColLoop_total (s : Str) (hwf : s.WF) (is : List Nat) : ∀ (occ : List Nat) (S : Pivs), is.Nodup →
    (∀ i ∈ is, i ∉ S.map (·.1)) → PInv s S → (∀ p ∈ S, ∀ j ∈ colsIn s p.1, j ∈ occ) →
    Sat (PInv s) False False (flColLoop s is occ S) := by
  induction is with
  | nil => intro _ S _ _ h _; exact h
  | cons i is ih =>
    intro occ S hnd hrows h hocc
    have hnd' := (List.nodup_cons.1 hnd).2
    rw [flColLoop]
    cases hm : minCol s ((colsIn s i).filter (fun j => !occ.contains j && isCand s i j)) with
    | none => exact ih occ S hnd' (fun i' hi' => hrows i' (List.mem_cons_of_mem _ hi')) h hocc
    | some j =>
      simp only
      have hj := minCol_mem s _ j hm
      simp only [List.mem_filter, Bool.and_eq_true, Bool.not_eq_true', List.contains_eq_mem,
        decide_eq_false_iff_not] at hj
      obtain ⟨hjrow, hjocc, hjc⟩ := hj
      have hnorow : ∀ p ∈ S, j ∉ colsIn s p.1 := fun p hp hin => hjocc (hocc p hp j hin)
      -- a pivot column is an entry of its own row, hence occupied
      have hfree : j ∉ S.map (·.2) := by
        intro hmem
        obtain ⟨p, hp, rfl⟩ := List.mem_map.1 hmem
        exact hnorow p hp (hwf.2 p.1 p.2 (h.cand p hp))
      rw [Pivs.set_of_free (hasCol_false_iff.2 hfree)]
      refine ih _ _ hnd' (rows_snoc j hnd hrows)
        (h.snoc (hrows i List.mem_cons_self) hfree hjc (snoc_top_acyclic s S i j h.acyc hfree hnorow)) ?_
      refine List.forall_mem_append.2 ⟨fun p hp j' hj' => List.mem_append_right _ (hocc p hp j' hj'), fun p hp j' hj' => ?_⟩
      rw [List.mem_singleton.1 hp] at hj'
      exact List.mem_append_left _ hj'

theorem findFlColPivots_total (s : Str) (hwf : s.WF) (S : Pivs) (h : PInv s S) :
    Sat (PInv s) False False (findFlColPivots s S) := by
  unfold findFlColPivots
  apply flColLoop_total s hwf _ _ S (remainRows_nodup s S) (remainRows_not_pivot s S) h
  intro p hp j hj
  unfold occupiedCols
  exact List.mem_flatMap.2 ⟨p, hp, hj⟩

theorem seqPhases_total (s : Str) (hwf : s.WF) : Sat (PInv s) False False (seqPhases s) := by
  unfold seqPhases
  apply Sat.bind (findFlPivots_total s hwf)
  intro S h
  exact findFlColPivots_total s hwf S h

theorem initState_total (s : Str) (hwf : s.WF) : Sat (GInv s) False False (initState s) := by
  unfold initState
  apply Sat.bind (seqPhases_total s hwf)
  intro S h
  exact GInv.init h

theorem initState_good (s : Str) (hwf : s.WF) : Good (initState s) (GInv s) := .of_total (initState_total s hwf)

theorem set_ne_err (S : Pivs) (i j : Nat) : S.set i j ≠ .err := by
  unfold Pivs.set; split <;> intro h <;> cases h

end Yuiv.C11
