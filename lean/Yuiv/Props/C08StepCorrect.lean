import Yuiv.Proofs.C08StepCorrect
import Yuiv.Proofs.C08Tri
import Yuiv.Props.C08
import Mathlib.LinearAlgebra.Matrix.NonsingularInverse
import Mathlib.FieldTheory.Finite.Basic
/-
C08 — the code model of `Schur::from_partial_triangular` (`Yuiv.C08.schurModel`, Model/C08Step.lean, the function
the driver `yuivd_c08` runs against the Rust code) is CORRECT, and its outputs are exactly the block matrices of
the algebraic Schur step `schur_step_*` / `schur_homotopy_*` (Props/C08.lean).

 * scalars: `Lawful R φ` — the operation record `R : Ops α` of the model computes in a commutative ring `K`
   through `φ : α → K` (`+ * neg 0 1` commute with `φ`, `isZero a ↔ φ a = 0`, `inv? a = some u → φ a · φ u = 1`).
   Proved for the driver's tags `Z` (`opsZ`, `K = ℤ`), `Q` (`opsQ`, `K = ℚ`), `F_p` (`opsP p`, `K = ZMod p`,
   `p` prime `< 2^64`, including correctness of the model's `powMod`).  NOT proved: `opsZH` (`ℤ[H]` on coefficient
   lists; it would need a ring isomorphism of `Poly` with `Polynomial ℤ`).
 * matrices: `M : DMat α` dense `m × n`, `r` = size of the pivot block.  `blkA/blkB/blkC/blkD R φ M r …` are the four
   blocks as Mathlib matrices over `K`, `splitBoth … = fromBlocks A B C D` is `M` itself re-indexed
   (`schur_model_blocks`), `splitCols` / `splitRows` read an output matrix with its columns / rows split `r | rest`,
   `toMat` reads a matrix as it is.
 * `UnitTri R upper M r`: every entry of the leading `r × r` block on the wrong side of the diagonal is zero
   (`isZero`), every diagonal entry is stored (`isZero = false`) and `inv?` succeeds on it.  For `Z` this is
   "diagonal entries are ±1", for `Q` / `F_p` "diagonal entries are non-zero" (`unit_tri_int/rat/fp`).
 * panics: the model has three guards (`r ≤ m`, `r ≤ n`, `is_triang`); a run that returns `.ok` passed all three
   (`schur_model_ok_guards`), a run violating one panics (`schur_model_guard_panics`), `.err` never occurs.  The
   fourth panic source, `u.inv().unwrap()` / `debug_assert!(b == 0)` inside the substitution, is NOT equivalent to
   "some diagonal entry is not invertible": the code (and the model) skips a pivot whose right-hand side entry is
   zero, so e.g. `[[2,0],[0,5]]`, `r = 1` returns `.ok` (see the `example` at the end).  What holds on EVERY `.ok`
   run, triangular/invertible or not, is `A·X = B`, `W·A = C` and the Schur data built from `X`, `W`
   (`schur_model_ok_sound`); with `det A` a unit these are `A⁻¹B`, `C A⁻¹` (`schur_model_ok_inv`).
-/
namespace Yuiv.C08
open Yuiv Matrix

section solve
variable {α : Type} {K : Type*} [CommRing K] {R : Ops α} {φ : α → K}

/-- **invariant.** Any run of the outer loop (any matrix `a`, any `diag`, any duplicate-free list `js` of pivots
`< r`, `x` still zero at the pivots to come) preserves `A·x + b`. -/
theorem solve_col_invariant (L : Lawful R φ) (a : DMat α) (r : Nat) (diag : List α) (js : List Nat)
    (s s' : Array α × Array α) (h : foldRes (stepL R a r diag) s js = .ok s') (hnd : js.Nodup)
    (hjs : ∀ j ∈ js, j < r) (hb : s.1.size = r) (hx : s.2.size = r)
    (hxj : ∀ j ∈ js, φ (s.2.getD j R.zero) = 0) :
    s'.1.size = r ∧ s'.2.size = r ∧
      ∀ i, i < r →
        ∑ t ∈ Finset.range r, φ (dget R a i t) * φ (s'.2.getD t R.zero) + φ (s'.1.getD i R.zero) =
        ∑ t ∈ Finset.range r, φ (dget R a i t) * φ (s.2.getD t R.zero) + φ (s.1.getD i R.zero) := by
  induction js generalizing s with
  | nil => cases h; exact ⟨hb, hx, fun _ _ => rfl⟩
  | cons j rest ih =>
    rw [foldRes_cons] at h
    obtain ⟨s1, h1, h⟩ := Res.bind_eq_ok h
    obtain ⟨e1, e2, e3, e4⟩ := stepL_sound L a r diag j s s1 h1 (hjs j (by simp)) hb hx (hxj j (by simp))
    have hnd' := List.nodup_cons.1 hnd
    obtain ⟨f1, f2, f3⟩ := ih s1 h hnd'.2 (fun j' hj' => hjs j' (by simp [hj'])) e1 e2
      (fun j' hj' => by
        rw [e3 j' (fun hh => hnd'.1 (hh ▸ hj'))]
        exact hxj j' (by simp [hj']))
    exact ⟨f1, f2, fun i hi => (f3 i hi).trans (e4 i hi)⟩

/-- the `do`-block of the model IS that loop followed by the `debug_assert!` -/
theorem solve_col_unfold (R : Ops α) (upper : Bool) (a : DMat α) (r : Nat) (diag : List α) (b : Array α) :
    solveCol R upper a r diag b =
      match foldRes (stepL R a r diag) (b, Array.replicate r R.zero) (order upper diag.length) with
      | .ok s => if s.1.all R.isZero then .ok s.2 else .panic
      | .panic => .panic
      | .err => .err := by
  rw [solveCol_eq]
  cases foldRes (stepL R a r diag) (b, Array.replicate r R.zero) (order upper diag.length) <;> rfl

/-- **`A·x = b` whenever `_solve_triangular` returns** — for ANY matrix and ANY `diag` of length `≤ r`. -/
theorem solve_col_correct (L : Lawful R φ) (upper : Bool) (a : DMat α) (r : Nat) (diag : List α)
    (b x : Array α) (h : solveCol R upper a r diag b = .ok x) (hb : b.size = r) (hd : diag.length ≤ r) :
    x.size = r ∧ ∀ i, i < r →
      ∑ t ∈ Finset.range r, φ (dget R a i t) * φ (x.getD t R.zero) = φ (b.getD i R.zero) := by
  have hx0 : ∀ t, φ ((Array.replicate r R.zero).getD t R.zero) = 0 := by
    intro t
    simp only [Array.getD_eq_getD_getElem?, Array.getElem?_replicate]
    split <;> simp [L.zero]
  rw [solveCol_eq] at h
  obtain ⟨s, h1, h⟩ := Res.bind_eq_ok h
  by_cases hall : s.1.all R.isZero = true
  · rw [if_pos hall] at h
    cases h
    obtain ⟨e1, e2, e3⟩ := solve_col_invariant L a r diag _ _ _ h1 (order_nodup _ _)
      (fun j hj => lt_of_lt_of_le ((mem_order _ _ _).1 hj) hd) hb (by simp) (fun j _ => hx0 j)
    refine ⟨e2, fun i hi => ?_⟩
    have hi' : i < s.1.size := by omega
    have h0 : φ (s.1.getD i R.zero) = 0 := by
      rw [← Array.getElem_eq_getD (h := hi')]
      exact (L.isZero _).1 (Array.all_eq_true.1 hall i hi')
    have h3 := e3 i hi
    rw [h0, add_zero] at h3
    rw [h3]
    show ∑ t ∈ Finset.range r, φ (dget R a i t) * φ ((Array.replicate r R.zero).getD t R.zero) +
      φ (b.getD i R.zero) = φ (b.getD i R.zero)
    simp only [hx0, mul_zero, Finset.sum_const_zero, zero_add]
  · rw [if_neg hall] at h; cases h

/-- **no panic** on a triangular matrix with stored, invertible diagonal (`collect_diag` is then the diagonal). -/
theorem solve_col_no_panic (L : Lawful R φ) (upper : Bool) (a : DMat α) (r : Nat) (b : Array α) (hb : b.size = r)
    (hA : UnitTri R upper a r) : ∃ x, solveCol R upper a r (collectDiag R a r) b = .ok x := by
  have hcd := collectDiag_eq_map R a r (fun j hj => (hA.diag j hj).1)
  have hlen : (collectDiag R a r).length = r := by rw [hcd]; simp
  rw [solveCol_eq, hlen]
  obtain ⟨s', h1, h2, h3⟩ := outer_zero L a r (collectDiag R a r) (order upper r)
    (fun j hj => (mem_order _ _ _).1 hj)
    (fun j hj => by
      have hj' := (mem_order _ _ _).1 hj
      refine ⟨?_, (hA.diag j hj').2⟩
      rw [hcd]
      simp [List.getD_eq_getElem?_getD, hj'])
    [] (order_pairwise upper _ r fun i j hi hj h => (L.isZero _).1 (hA.tri i j hi hj h))
    (b, Array.replicate r R.zero) hb nofun
  rw [h1]
  have hall : s'.1.all R.isZero = true := by
    rw [Array.all_eq_true]
    intro i hi
    have := h3 i ((mem_order _ _ _).2 (by omega))
    rw [← Array.getElem_eq_getD (h := hi)] at this
    exact (L.isZero _).2 this
  exact ⟨s'.2, if_pos hall⟩

/-- **`solve_triangular`: `A·X = Y`** on every `.ok` run, and the `debug_assert!(is_triang)` held. -/
theorem solve_tri_correct (L : Lawful R φ) (upper : Bool) (a : DMat α) (r : Nat) (y : DMat α) (k : Nat)
    (X : DMat α) (h : solveTri R upper a r y k = .ok X) :
    isTriang R upper a r = true ∧ toMat R φ a r r * toMat R φ X r k = toMat R φ y r k := by
  rw [solveTri_eq] at h
  by_cases ht : isTriang R upper a r = true
  · rw [if_pos ht] at h
    refine ⟨ht, ?_⟩
    obtain ⟨cols, h1, h⟩ := Res.bind_eq_ok h
    cases h
    obtain ⟨e1, e2⟩ := cols_sound upper a r y k cols h1
    ext i j
    obtain ⟨_, e3⟩ := solve_col_correct L upper a r _ _ _ (e2 j j.isLt) (colOf_size R y r j)
      (collectDiag_length_le R a r)
    have := e3 i i.isLt
    rw [colOf_get R y r j i i.isLt] at this
    simp only [Matrix.mul_apply, toMat]
    rw [← this, Fin.sum_univ_eq_sum_range
      (fun t => φ (dget R a i t) * φ (dget R (dmk r k fun i j => (cols.getD j #[]).getD i R.zero) t j)) r]
    refine Finset.sum_congr rfl fun t ht => ?_
    rw [dget_dmk, if_pos ⟨Finset.mem_range.1 ht, j.isLt⟩]
  · rw [if_neg ht] at h; cases h

/-- **`solve_triangular_left`: `W·A = Y`** on every `.ok` run. -/
theorem solve_tri_left_correct (L : Lawful R φ) (upper : Bool) (a : DMat α) (r : Nat) (y : DMat α) (k : Nat)
    (W : DMat α) (h : solveTriLeft R upper a r y k = .ok W) :
    isTriang R upper a r = true ∧ toMat R φ W k r * toMat R φ a r r = toMat R φ y k r := by
  obtain ⟨xt, h1, h⟩ := Res.bind_eq_ok h
  cases h
  obtain ⟨e1, e2⟩ := solve_tri_correct L _ _ _ _ _ _ h1
  refine ⟨isTriang_dtranspose upper a r e1, ?_⟩
  rw [toMat_dtranspose, toMat_dtranspose] at e2
  rw [toMat_dtranspose]
  have := congrArg Matrix.transpose e2
  rwa [Matrix.transpose_mul, Matrix.transpose_transpose, Matrix.transpose_transpose] at this

theorem solve_tri_no_panic (L : Lawful R φ) (upper : Bool) (a : DMat α) (r : Nat) (y : DMat α) (k : Nat)
    (hA : UnitTri R upper a r) : ∃ X, solveTri R upper a r y k = .ok X := by
  rw [solveTri_eq, if_pos ((isTriang_iff R upper a r).2 hA.tri)]
  obtain ⟨cols, hc⟩ := cols_complete (R := R) upper a r y k fun j _ =>
    solve_col_no_panic L upper a r _ (colOf_size R y r j) hA
  rw [hc]
  exact ⟨_, rfl⟩

theorem solve_tri_left_no_panic (L : Lawful R φ) (upper : Bool) (a : DMat α) (r : Nat) (y : DMat α) (k : Nat)
    (hA : UnitTri R upper a r) : ∃ W, solveTriLeft R upper a r y k = .ok W := by
  obtain ⟨xt, hx⟩ := solve_tri_no_panic L (!upper) _ r (dtranspose R y k r) k hA.transpose
  unfold solveTriLeft
  rw [hx]
  exact ⟨_, rfl⟩

end solve

section schur
variable {α : Type} {K : Type*} [CommRing K] {R : Ops α} {φ : α → K}

/-- **no panic** under the preconditions. -/
theorem schur_model_no_panic (L : Lawful R φ) (upper : Bool) (M : DMat α) (m n r : Nat) (hm : r ≤ m) (hn : r ≤ n)
    (hA : UnitTri R upper M r) : ∃ o, schurModel R upper M m n r = .ok o := by
  rw [schurModel_eq, if_pos hm, if_pos hn]
  obtain ⟨X, hX⟩ := solve_tri_no_panic L upper (mA R M r) r (mB R M n r) (n - r) hA.mA
  obtain ⟨W, hW⟩ := solve_tri_left_no_panic L upper (mA R M r) r (mC R M m r) (m - r) hA.mA
  rw [hX, hW]
  exact ⟨_, rfl⟩

/-- a non-trivial `K` turns "`inv?` succeeds on the diagonal" into `UnitTri` (stored-ness is automatic). -/
theorem unit_tri_of_inv [Nontrivial K] (L : Lawful R φ) {upper : Bool} {M : DMat α} {r : Nat}
    (tri : ∀ i j, i < r → j < r → (if upper then j < i else i < j) → R.isZero (dget R M i j) = true)
    (diag : ∀ j, j < r → (R.inv? (dget R M j j)).isSome) : UnitTri R upper M r := by
  refine ⟨tri, fun j hj => ⟨?_, diag j hj⟩⟩
  obtain ⟨u, hu⟩ := Option.isSome_iff_exists.1 (diag j hj)
  have h1 := L.inv _ _ hu
  cases hz : R.isZero (dget R M j j) with
  | false => rfl
  | true =>
    rw [(L.isZero _).1 hz, zero_mul] at h1
    exact absurd h1 zero_ne_one

/-- **every `.ok` run, no hypothesis on `M`**: the guards held and the outputs are the Schur data of solutions
`X`, `W` of `A·X = B`, `W·A = C`. -/
theorem schur_model_ok_sound (L : Lawful R φ) (upper : Bool) (M : DMat α) (m n r : Nat) (o : SchurOut α)
    (h : schurModel R upper M m n r = .ok o) :
    r ≤ m ∧ r ≤ n ∧ isTriang R upper M r = true ∧
    ∃ (X : Matrix (Fin r) (Fin (n - r)) K) (W : Matrix (Fin (m - r)) (Fin r) K),
      blkA R φ M r * X = blkB R φ M r (n - r) ∧ W * blkA R φ M r = blkC R φ M r (m - r) ∧
      toMat R φ o.s (m - r) (n - r) = blkD R φ M r (m - r) (n - r) - blkC R φ M r (m - r) * X ∧
      splitCols R φ o.fsrc r (n - r) (n - r) = fromCols 0 1 ∧
      splitRows R φ o.bsrc r (n - r) (n - r) = fromRows (-X) 1 ∧
      splitCols R φ o.ftgt r (m - r) (m - r) = fromCols (-W) 1 ∧
      splitRows R φ o.btgt r (m - r) (m - r) = fromRows 0 1 := by
  obtain ⟨hm, hn, X, W, h1, h2, rfl⟩ := schurModel_ok h
  obtain ⟨e1, e2⟩ := solve_tri_correct L _ _ _ _ _ _ h1
  obtain ⟨_, e3⟩ := solve_tri_left_correct L _ _ _ _ _ _ h2
  rw [toMat_mA, toMat_mB] at e2
  rw [toMat_mA, toMat_mC] at e3
  rw [isTriang_mA] at e1
  exact ⟨hm, hn, e1, _, _, e2, e3, mkOut_mats L M m n r hm hn X W⟩

/-- every `.ok` run with `det A` a unit (however `.ok` came about) yields exactly the `schur_step_*` matrices. -/
theorem schur_model_ok_inv (L : Lawful R φ) (upper : Bool) (M : DMat α) (m n r : Nat) (o : SchurOut α)
    (h : schurModel R upper M m n r = .ok o) (hdet : IsUnit (blkA R φ M r).det) :
    toMat R φ o.s (m - r) (n - r) =
        schurS (blkA R φ M r)⁻¹ (blkB R φ M r (n - r)) (blkC R φ M r (m - r)) (blkD R φ M r (m - r) (n - r)) ∧
      splitCols R φ o.fsrc r (n - r) (n - r) = Fsrc K (Fin r) (Fin (n - r)) ∧
      splitRows R φ o.bsrc r (n - r) (n - r) = Bsrc (blkA R φ M r)⁻¹ (blkB R φ M r (n - r)) ∧
      splitCols R φ o.ftgt r (m - r) (m - r) = Ftgt (blkA R φ M r)⁻¹ (blkC R φ M r (m - r)) ∧
      splitRows R φ o.btgt r (m - r) (m - r) = Btgt K (Fin r) (Fin (m - r)) := by
  obtain ⟨_, _, _, X, W, hX, hW, e1, e2, e3, e4, e5⟩ := schur_model_ok_sound L upper M m n r o h
  have hXe : X = (blkA R φ M r)⁻¹ * blkB R φ M r (n - r) := by
    rw [← hX, ← Matrix.mul_assoc, Matrix.nonsing_inv_mul _ hdet, Matrix.one_mul]
  have hWe : W = blkC R φ M r (m - r) * (blkA R φ M r)⁻¹ := by
    rw [← hW, Matrix.mul_assoc, Matrix.mul_nonsing_inv _ hdet, Matrix.mul_one]
  refine ⟨?_, e2, ?_, ?_, e5⟩
  · rw [e1, hXe, schurS, Matrix.mul_assoc]
  · rw [e3, hXe, Bsrc]
  · rw [e4, hWe, Ftgt]

/-- the pivot block of a `UnitTri` matrix is invertible. -/
theorem schur_model_pivot_invertible (L : Lawful R φ) {upper : Bool} {M : DMat α} {r : Nat}
    (hA : UnitTri R upper M r) : IsUnit (blkA R φ M r).det :=
  det_isUnit_of_tri upper _
    (fun i j hij => (L.isZero _).1 (hA.tri i j i.isLt j.isLt (by cases upper <;> simpa using hij)))
    fun i => by
      obtain ⟨u, hu⟩ := Option.isSome_iff_exists.1 (hA.diag i i.isLt).2
      exact IsUnit.of_mul_eq_one _ (L.inv _ _ hu)

/-- **main theorem.** For `r ≤ m`, `r ≤ n` and a (lower or upper) triangular pivot block with invertible diagonal
the model does not panic, the pivot block `A` is invertible over `K`, `S = D − C·A⁻¹·B`, and the four transfer
matrices are EXACTLY `F_src = [0 1]`, `B_src = [−A⁻¹B; 1]`, `F_tgt = [−C·A⁻¹ 1]`, `B_tgt = [0; 1]` — the
definitions `schurS/Fsrc/Bsrc/Ftgt/Btgt` that `schur_step_*` and `schur_homotopy_*` are stated for. -/
theorem schur_model_correct (L : Lawful R φ) (upper : Bool) (M : DMat α) (m n r : Nat) (hm : r ≤ m) (hn : r ≤ n)
    (hA : UnitTri R upper M r) :
    ∃ o, schurModel R upper M m n r = .ok o ∧ IsUnit (blkA R φ M r).det ∧
      toMat R φ o.s (m - r) (n - r) =
        schurS (blkA R φ M r)⁻¹ (blkB R φ M r (n - r)) (blkC R φ M r (m - r)) (blkD R φ M r (m - r) (n - r)) ∧
      splitCols R φ o.fsrc r (n - r) (n - r) = Fsrc K (Fin r) (Fin (n - r)) ∧
      splitRows R φ o.bsrc r (n - r) (n - r) = Bsrc (blkA R φ M r)⁻¹ (blkB R φ M r (n - r)) ∧
      splitCols R φ o.ftgt r (m - r) (m - r) = Ftgt (blkA R φ M r)⁻¹ (blkC R φ M r (m - r)) ∧
      splitRows R φ o.btgt r (m - r) (m - r) = Btgt K (Fin r) (Fin (m - r)) := by
  obtain ⟨o, ho⟩ := schur_model_no_panic L upper M m n r hm hn hA
  have hdet := schur_model_pivot_invertible (φ := φ) L hA
  exact ⟨o, ho, hdet, schur_model_ok_inv L upper M m n r o ho hdet⟩

/-- the model never reports `.err`. -/
theorem schur_model_never_err (R : Ops α) (upper : Bool) (M : DMat α) (m n r : Nat) :
    schurModel R upper M m n r ≠ .err := by
  rw [schurModel_eq]
  split
  · split
    · exact Res.bind_ne_err (solveTri_ne_err _ _ _ _ _) fun X =>
        Res.bind_ne_err (Res.bind_ne_err (solveTri_ne_err _ _ _ _ _) fun _ => nofun) fun _ => nofun
    · nofun
  · nofun

/-- the guards: `.ok` ⇒ all three assertions held (no lawfulness needed) … -/
theorem schur_model_ok_guards (R : Ops α) (upper : Bool) (M : DMat α) (m n r : Nat) (o : SchurOut α)
    (h : schurModel R upper M m n r = .ok o) : r ≤ m ∧ r ≤ n ∧ isTriang R upper M r = true := by
  obtain ⟨hm, hn, X, _, h1, _⟩ := schurModel_ok h
  refine ⟨hm, hn, ?_⟩
  rw [solveTri_eq, isTriang_mA] at h1
  cases ht : isTriang R upper M r with
  | true => rfl
  | false => rw [ht] at h1; cases h1

/-- … and conversely a violated guard is a panic (never `.err`, never `.ok`). -/
theorem schur_model_guard_panics (R : Ops α) (upper : Bool) (M : DMat α) (m n r : Nat)
    (h : ¬ (r ≤ m ∧ r ≤ n ∧ isTriang R upper M r = true)) : schurModel R upper M m n r = .panic := by
  cases h1 : schurModel R upper M m n r with
  | ok o => exact absurd (schur_model_ok_guards R upper M m n r o h1) h
  | panic => rfl
  | err => exact absurd h1 (schur_model_never_err R upper M m n r)

omit [CommRing K] in
/-- the four blocks are the blocks of `M`: `fromBlocks A B C D` is `M` re-indexed along
`Fin r ⊕ Fin (m−r) ≃ Fin m`, `Fin r ⊕ Fin (n−r) ≃ Fin n`. -/
theorem schur_model_blocks (R : Ops α) (φ : α → K) (M : DMat α) (m n r : Nat) (hm : r ≤ m) (hn : r ≤ n) :
    fromBlocks (blkA R φ M r) (blkB R φ M r (n - r)) (blkC R φ M r (m - r)) (blkD R φ M r (m - r) (n - r)) =
      (toMat R φ M m n).submatrix (glue r m hm) (glue r n hn) := by
  ext i j
  rcases i with i | i <;> rcases j with j | j <;>
    simp [blkA, blkB, blkC, blkD, toMat, glue]

/-! ### the `schur_step_*` / `schur_homotopy_*` identities for what the model returns

Hypotheses: the run returned `o` and `det A` is a unit (both follow from `r ≤ m`, `r ≤ n`, `UnitTri`, see
`schur_model_correct`).  `Mb` abbreviates `fromBlocks A B C D`. -/

/-- (a) `F_tgt · M · B_src = S`. -/
theorem schur_model_FMB (L : Lawful R φ) (upper : Bool) (M : DMat α) (m n r : Nat) (o : SchurOut α)
    (h : schurModel R upper M m n r = .ok o) (hdet : IsUnit (blkA R φ M r).det) :
    splitCols R φ o.ftgt r (m - r) (m - r) * splitBoth R φ M r (m - r) (n - r) *
      splitRows R φ o.bsrc r (n - r) (n - r) = toMat R φ o.s (m - r) (n - r) := by
  obtain ⟨e1, _, e3, e4, _⟩ := schur_model_ok_inv L upper M m n r o h hdet
  rw [e1, e3, e4, splitBoth]
  exact schur_step_FMB _ _ _ _ _ (Matrix.nonsing_inv_mul _ hdet)

/-- (b) `F_src · B_src = 1`. -/
theorem schur_model_FB_src (L : Lawful R φ) (upper : Bool) (M : DMat α) (m n r : Nat) (o : SchurOut α)
    (h : schurModel R upper M m n r = .ok o) (hdet : IsUnit (blkA R φ M r).det) :
    splitCols R φ o.fsrc r (n - r) (n - r) * splitRows R φ o.bsrc r (n - r) (n - r) = 1 := by
  obtain ⟨_, e2, e3, _, _⟩ := schur_model_ok_inv L upper M m n r o h hdet
  rw [e2, e3]
  exact schur_step_FB_src _ _

/-- (b) `F_tgt · B_tgt = 1`. -/
theorem schur_model_FB_tgt (L : Lawful R φ) (upper : Bool) (M : DMat α) (m n r : Nat) (o : SchurOut α)
    (h : schurModel R upper M m n r = .ok o) (hdet : IsUnit (blkA R φ M r).det) :
    splitCols R φ o.ftgt r (m - r) (m - r) * splitRows R φ o.btgt r (m - r) (m - r) = 1 := by
  obtain ⟨_, _, _, e4, e5⟩ := schur_model_ok_inv L upper M m n r o h hdet
  rw [e4, e5]
  exact schur_step_FB_tgt _ _

/-- (c) `F_tgt · M = S · F_src`. -/
theorem schur_model_F_comm (L : Lawful R φ) (upper : Bool) (M : DMat α) (m n r : Nat) (o : SchurOut α)
    (h : schurModel R upper M m n r = .ok o) (hdet : IsUnit (blkA R φ M r).det) :
    splitCols R φ o.ftgt r (m - r) (m - r) * splitBoth R φ M r (m - r) (n - r) =
      toMat R φ o.s (m - r) (n - r) * splitCols R φ o.fsrc r (n - r) (n - r) := by
  obtain ⟨e1, e2, _, e4, _⟩ := schur_model_ok_inv L upper M m n r o h hdet
  rw [e1, e2, e4, splitBoth]
  exact schur_step_F_comm _ _ _ _ _ (Matrix.nonsing_inv_mul _ hdet)

/-- (d) `M · B_src = B_tgt · S`. -/
theorem schur_model_B_comm (L : Lawful R φ) (upper : Bool) (M : DMat α) (m n r : Nat) (o : SchurOut α)
    (h : schurModel R upper M m n r = .ok o) (hdet : IsUnit (blkA R φ M r).det) :
    splitBoth R φ M r (m - r) (n - r) * splitRows R φ o.bsrc r (n - r) (n - r) =
      splitRows R φ o.btgt r (m - r) (m - r) * toMat R φ o.s (m - r) (n - r) := by
  obtain ⟨e1, _, e3, _, e5⟩ := schur_model_ok_inv L upper M m n r o h hdet
  rw [e1, e3, e5, splitBoth]
  exact schur_step_B_comm _ _ _ _ _ (Matrix.mul_nonsing_inv _ hdet)

/-- homotopy at the source: `B_src · F_src − 1 = h · M`, `h = [[−A⁻¹, 0], [0, 0]]`. -/
theorem schur_model_homotopy_src (L : Lawful R φ) (upper : Bool) (M : DMat α) (m n r : Nat) (o : SchurOut α)
    (h : schurModel R upper M m n r = .ok o) (hdet : IsUnit (blkA R φ M r).det) :
    splitRows R φ o.bsrc r (n - r) (n - r) * splitCols R φ o.fsrc r (n - r) (n - r) - 1 =
      hmt (Fin (n - r)) (Fin (m - r)) (blkA R φ M r)⁻¹ * splitBoth R φ M r (m - r) (n - r) := by
  obtain ⟨_, e2, e3, _, _⟩ := schur_model_ok_inv L upper M m n r o h hdet
  rw [e2, e3, splitBoth]
  exact schur_homotopy_src _ _ _ _ _ (Matrix.nonsing_inv_mul _ hdet)

/-- homotopy at the target: `B_tgt · F_tgt − 1 = M · h`. -/
theorem schur_model_homotopy_tgt (L : Lawful R φ) (upper : Bool) (M : DMat α) (m n r : Nat) (o : SchurOut α)
    (h : schurModel R upper M m n r = .ok o) (hdet : IsUnit (blkA R φ M r).det) :
    splitRows R φ o.btgt r (m - r) (m - r) * splitCols R φ o.ftgt r (m - r) (m - r) - 1 =
      splitBoth R φ M r (m - r) (n - r) * hmt (Fin (n - r)) (Fin (m - r)) (blkA R φ M r)⁻¹ := by
  obtain ⟨_, _, _, e4, e5⟩ := schur_model_ok_inv L upper M m n r o h hdet
  rw [e4, e5, splitBoth]
  exact schur_homotopy_tgt _ _ _ _ _ (Matrix.mul_nonsing_inv _ hdet)

/-- neighbours: an incoming differential `N = [x; y]` with `M·N = 0` is `B_src · y`, and `S · y = 0`. -/
theorem schur_model_in (L : Lawful R φ) (upper : Bool) (M : DMat α) (m n r : Nat) (o : SchurOut α)
    (h : schurModel R upper M m n r = .ok o) (hdet : IsUnit (blkA R φ M r).det) {k : Type*}
    (x : Matrix (Fin r) k K) (y : Matrix (Fin (n - r)) k K)
    (hMN : splitBoth R φ M r (m - r) (n - r) * fromRows x y = 0) :
    fromRows x y = splitRows R φ o.bsrc r (n - r) (n - r) * y ∧ toMat R φ o.s (m - r) (n - r) * y = 0 := by
  obtain ⟨e1, _, e3, _, _⟩ := schur_model_ok_inv L upper M m n r o h hdet
  rw [e1, e3]
  exact ⟨schur_step_in_B _ _ _ _ _ x y (Matrix.nonsing_inv_mul _ hdet) hMN,
    schur_step_in_sq_zero _ _ _ _ _ x y (Matrix.nonsing_inv_mul _ hdet) hMN⟩

/-- neighbours: an outgoing differential `L = [z w]` with `L·M = 0` is `w · F_tgt`, and `w · S = 0`. -/
theorem schur_model_out (L : Lawful R φ) (upper : Bool) (M : DMat α) (m n r : Nat) (o : SchurOut α)
    (h : schurModel R upper M m n r = .ok o) (hdet : IsUnit (blkA R φ M r).det) {l : Type*}
    (z : Matrix l (Fin r) K) (w : Matrix l (Fin (m - r)) K)
    (hLM : fromCols z w * splitBoth R φ M r (m - r) (n - r) = 0) :
    fromCols z w = w * splitCols R φ o.ftgt r (m - r) (m - r) ∧ w * toMat R φ o.s (m - r) (n - r) = 0 := by
  obtain ⟨e1, _, _, e4, _⟩ := schur_model_ok_inv L upper M m n r o h hdet
  rw [e1, e4]
  exact ⟨schur_step_out_F _ _ _ _ _ z w (Matrix.mul_nonsing_inv _ hdet) hLM,
    schur_step_out_sq_zero _ _ _ _ _ z w (Matrix.mul_nonsing_inv _ hdet) hLM⟩

end schur

/-- tag `Z`: `opsZ` computes in `ℤ` (`inv?` succeeds exactly on `±1`). -/
theorem lawful_Z : Lawful opsZ (fun a : Int => a) where
  zero := rfl
  one := rfl
  add _ _ := rfl
  mul _ _ := rfl
  neg _ := rfl
  isZero a := by simp [opsZ]
  inv a u h := by
    simp only [opsZ] at h
    split at h
    · cases h
      rename_i h1
      simp at h1
      rcases h1 with rfl | rfl <;> rfl
    · cases h
/-- tag `Q`: `opsQ` computes in `ℚ`. -/
theorem lawful_Q : Lawful opsQ (fun a : Rat => a) where
  zero := rfl
  one := rfl
  add _ _ := rfl
  mul _ _ := rfl
  neg _ := rfl
  isZero a := by simp [opsQ]
  inv a u h := by
    simp only [opsQ] at h
    split at h
    · cases h
    · cases h
      rename_i h1
      exact Rat.mul_inv_cancel a (by simpa using h1)

/-- the model's `powMod` is modular exponentiation for exponents `< 2^64`. -/
theorem powMod_correct (p : Nat) (a : Int) (e : Nat) (he : e < 2 ^ 64) :
    ((powMod a e p : Int) : ZMod p) = (a : ZMod p) ^ e := by
  rw [powMod_eq, loop_pow p 64 1 (a % p) e he, ZMod.intCast_mod, Int.cast_one, one_mul]

/-- tags `F2, F3, …`: `opsP p` computes in `ZMod p` on integer representatives, for a prime `p < 2^64`
(`inv?` is Fermat's `a^(p-2)` through the model's 64-step `powMod`). -/
theorem lawful_Fp (p : Nat) [Fact p.Prime] (hp : p < 2 ^ 64) : Lawful (opsP p) (fun a : Int => (a : ZMod p))  where
  zero := Int.cast_zero
  one := (ZMod.intCast_mod 1 p).trans Int.cast_one
  add a b := (ZMod.intCast_mod (a + b) p).trans (Int.cast_add a b)
  mul a b := (ZMod.intCast_mod (a * b) p).trans (Int.cast_mul a b)
  neg a := (ZMod.intCast_mod (-a) p).trans (Int.cast_neg a)
  isZero a := by
    simp only [opsP, beq_iff_eq]
    rw [ZMod.intCast_zmod_eq_zero_iff_dvd, Int.dvd_iff_emod_eq_zero]
  inv a u h := by
    simp only [opsP] at h
    split at h
    · cases h
    · rename_i h1
      cases h
      have ha : (a : ZMod p) ≠ 0 := by
        rw [Ne, ZMod.intCast_zmod_eq_zero_iff_dvd, Int.dvd_iff_emod_eq_zero]
        simpa using h1
      have h2 := (Fact.out : p.Prime).two_le
      rw [powMod_correct p a (p - 2) (by omega), ← pow_succ', show p - 2 + 1 = p - 1 by omega]
      exact ZMod.pow_card_sub_one_eq_one ha

/-- over `ℤ`: triangular with diagonal entries `±1`. -/
theorem unit_tri_int (upper : Bool) (M : DMat Int) (r : Nat)
    (tri : ∀ i j, i < r → j < r → (if upper then j < i else i < j) → dget opsZ M i j = 0)
    (diag : ∀ j, j < r → dget opsZ M j j = 1 ∨ dget opsZ M j j = -1) : UnitTri opsZ upper M r := by
  refine ⟨fun i j hi hj h => by rw [tri i j hi hj h]; rfl, fun j hj => ?_⟩
  rcases diag j hj with h | h <;> rw [h] <;> exact ⟨by decide, by decide⟩
/-- over `ℚ`: triangular with non-zero diagonal. -/
theorem unit_tri_rat (upper : Bool) (M : DMat Rat) (r : Nat)
    (tri : ∀ i j, i < r → j < r → (if upper then j < i else i < j) → dget opsQ M i j = 0)
    (diag : ∀ j, j < r → dget opsQ M j j ≠ 0) : UnitTri opsQ upper M r := by
  refine ⟨fun i j hi hj h => by rw [tri i j hi hj h]; simp [opsQ], fun j hj => ?_⟩
  have := diag j hj
  generalize dget opsQ M j j = x at this
  simp [opsQ, this]
/-- over `F_p`: triangular mod `p` with diagonal non-zero mod `p`. -/
theorem unit_tri_fp (p : Nat) (upper : Bool) (M : DMat Int) (r : Nat)
    (tri : ∀ i j, i < r → j < r → (if upper then j < i else i < j) → dget (opsP p) M i j % (p : Int) = 0)
    (diag : ∀ j, j < r → dget (opsP p) M j j % (p : Int) ≠ 0) : UnitTri (opsP p) upper M r := by
  refine ⟨fun i j hi hj h => ?_, fun j hj => ?_⟩
  · exact beq_iff_eq.2 (tri i j hi hj h)
  · have hne : (dget (opsP p) M j j % (p : Int) == 0) = false := beq_false_of_ne (diag j hj)
    refine ⟨hne, ?_⟩
    show (if (dget (opsP p) M j j % (p : Int) == 0) = true then none else some _ : Option Int).isSome = true
    rw [hne]
    rfl

/-- **over `ℤ`, diagonal `±1`** — `schur_model_correct` spelled out for the tag `Z` (`φ = id`). -/
theorem schur_model_correct_int (upper : Bool) (M : DMat Int) (m n r : Nat) (hm : r ≤ m) (hn : r ≤ n)
    (tri : ∀ i j, i < r → j < r → (if upper then j < i else i < j) → dget opsZ M i j = 0)
    (diag : ∀ j, j < r → dget opsZ M j j = 1 ∨ dget opsZ M j j = -1) :
    ∃ o, schurModel opsZ upper M m n r = .ok o ∧ IsUnit (blkA opsZ (fun a : Int => a) M r).det ∧
      toMat opsZ (fun a : Int => a) o.s (m - r) (n - r) =
        blkD opsZ (fun a : Int => a) M r (m - r) (n - r) -
          blkC opsZ (fun a : Int => a) M r (m - r) * (blkA opsZ (fun a : Int => a) M r)⁻¹ *
            blkB opsZ (fun a : Int => a) M r (n - r) ∧
      splitCols opsZ (fun a : Int => a) o.fsrc r (n - r) (n - r) = fromCols 0 1 ∧
      splitRows opsZ (fun a : Int => a) o.bsrc r (n - r) (n - r) =
        fromRows (-((blkA opsZ (fun a : Int => a) M r)⁻¹ * blkB opsZ (fun a : Int => a) M r (n - r))) 1 ∧
      splitCols opsZ (fun a : Int => a) o.ftgt r (m - r) (m - r) =
        fromCols (-(blkC opsZ (fun a : Int => a) M r (m - r) * (blkA opsZ (fun a : Int => a) M r)⁻¹)) 1 ∧
      splitRows opsZ (fun a : Int => a) o.btgt r (m - r) (m - r) = fromRows 0 1 :=
  schur_model_correct lawful_Z upper M m n r hm hn (unit_tri_int upper M r tri diag)

/-- over `ℚ`, non-zero diagonal. -/
theorem schur_model_correct_rat (upper : Bool) (M : DMat Rat) (m n r : Nat) (hm : r ≤ m) (hn : r ≤ n)
    (tri : ∀ i j, i < r → j < r → (if upper then j < i else i < j) → dget opsQ M i j = 0)
    (diag : ∀ j, j < r → dget opsQ M j j ≠ 0) :
    ∃ o, schurModel opsQ upper M m n r = .ok o ∧ IsUnit (blkA opsQ (fun a : Rat => a) M r).det ∧
      toMat opsQ (fun a : Rat => a) o.s (m - r) (n - r) =
        schurS (blkA opsQ (fun a : Rat => a) M r)⁻¹ (blkB opsQ (fun a : Rat => a) M r (n - r))
          (blkC opsQ (fun a : Rat => a) M r (m - r)) (blkD opsQ (fun a : Rat => a) M r (m - r) (n - r)) ∧
      splitCols opsQ (fun a : Rat => a) o.fsrc r (n - r) (n - r) = Fsrc ℚ (Fin r) (Fin (n - r)) ∧
      splitRows opsQ (fun a : Rat => a) o.bsrc r (n - r) (n - r) =
        Bsrc (blkA opsQ (fun a : Rat => a) M r)⁻¹ (blkB opsQ (fun a : Rat => a) M r (n - r)) ∧
      splitCols opsQ (fun a : Rat => a) o.ftgt r (m - r) (m - r) =
        Ftgt (blkA opsQ (fun a : Rat => a) M r)⁻¹ (blkC opsQ (fun a : Rat => a) M r (m - r)) ∧
      splitRows opsQ (fun a : Rat => a) o.btgt r (m - r) (m - r) = Btgt ℚ (Fin r) (Fin (m - r)) :=
  schur_model_correct lawful_Q upper M m n r hm hn (unit_tri_rat upper M r tri diag)

/-- over `F_p` (prime `p < 2^64`), diagonal non-zero mod `p`; the statement is about the images in `ZMod p`. -/
theorem schur_model_correct_fp (p : Nat) [Fact p.Prime] (hp : p < 2 ^ 64) (upper : Bool) (M : DMat Int)
    (m n r : Nat) (hm : r ≤ m) (hn : r ≤ n)
    (tri : ∀ i j, i < r → j < r → (if upper then j < i else i < j) → dget (opsP p) M i j % (p : Int) = 0)
    (diag : ∀ j, j < r → dget (opsP p) M j j % (p : Int) ≠ 0) :
    ∃ o, schurModel (opsP p) upper M m n r = .ok o ∧
      IsUnit (blkA (opsP p) (fun a : Int => (a : ZMod p)) M r).det ∧
      toMat (opsP p) (fun a : Int => (a : ZMod p)) o.s (m - r) (n - r) =
        schurS (blkA (opsP p) (fun a : Int => (a : ZMod p)) M r)⁻¹
          (blkB (opsP p) (fun a : Int => (a : ZMod p)) M r (n - r))
          (blkC (opsP p) (fun a : Int => (a : ZMod p)) M r (m - r))
          (blkD (opsP p) (fun a : Int => (a : ZMod p)) M r (m - r) (n - r)) ∧
      splitCols (opsP p) (fun a : Int => (a : ZMod p)) o.fsrc r (n - r) (n - r) =
        Fsrc (ZMod p) (Fin r) (Fin (n - r)) ∧
      splitRows (opsP p) (fun a : Int => (a : ZMod p)) o.bsrc r (n - r) (n - r) =
        Bsrc (blkA (opsP p) (fun a : Int => (a : ZMod p)) M r)⁻¹
          (blkB (opsP p) (fun a : Int => (a : ZMod p)) M r (n - r)) ∧
      splitCols (opsP p) (fun a : Int => (a : ZMod p)) o.ftgt r (m - r) (m - r) =
        Ftgt (blkA (opsP p) (fun a : Int => (a : ZMod p)) M r)⁻¹
          (blkC (opsP p) (fun a : Int => (a : ZMod p)) M r (m - r)) ∧
      splitRows (opsP p) (fun a : Int => (a : ZMod p)) o.btgt r (m - r) (m - r) =
        Btgt (ZMod p) (Fin r) (Fin (m - r)) :=
  schur_model_correct (lawful_Fp p hp) upper M m n r hm hn (unit_tri_fp p upper M r tri diag)

/-- a `3 × 3` integer matrix, `r = 2`, lower triangular pivot block with diagonal `1, -1`, all blocks non-zero -/
def exM : DMat Int := #[#[1, 0, 2], #[3, -1, 4], #[5, 6, 7]]

example : UnitTri opsZ false exM 2 := by
  refine unit_tri_int false exM 2 ?_ ?_
  · intro i j hi hj h
    have : i = 0 ∧ j = 1 := by simp at h; omega
    obtain ⟨rfl, rfl⟩ := this
    decide
  · intro j hj
    have : j = 0 ∨ j = 1 := by omega
    rcases this with rfl | rfl <;> decide

/-- … on which the model returns `S = [7 − (5·2 + 6·2)] = [-15]` (`A⁻¹B = [2; 2]`) -/
example : (schurModel opsZ false exM 3 3 2).isOk = true ∧
    showSchur opsZ 3 3 2 (schurModel opsZ false exM 3 3 2) =
      "1 1 -15 | 1 3 0 0 1 | 3 1 -2 -2 1 | 1 3 -23 6 1 | 3 1 0 0 1" := by
  constructor <;> decide +kernel

/-- hypotheses of the `schur_model_*` corollaries (`.ok` and `det A` a unit) for that matrix -/
example : ∃ o, schurModel opsZ false exM 3 3 2 = .ok o ∧ IsUnit (blkA opsZ (fun a : Int => a) exM 2).det := by
  have hA : UnitTri opsZ false exM 2 := by
    refine unit_tri_int false exM 2 ?_ ?_
    · intro i j hi hj h
      have : i = 0 ∧ j = 1 := by simp at h; omega
      obtain ⟨rfl, rfl⟩ := this
      decide
    · intro j hj
      have : j = 0 ∨ j = 1 := by omega
      rcases this with rfl | rfl <;> decide
  obtain ⟨o, ho, hdet, _⟩ := schur_model_correct lawful_Z false exM 3 3 2 (by decide) (by decide) hA
  exact ⟨o, ho, hdet⟩

/-- a non-unit diagonal entry need NOT panic: its right-hand sides are zero, the pivot is skipped -/
example : (schurModel opsZ false #[#[2, 0], #[0, 5]] 2 2 1).isOk = true := by decide +kernel

/-- … it does as soon as the inverse is needed -/
example : schurModel opsZ false #[#[2, 1], #[0, 5]] 2 2 1 = .panic := by
  have hk : (schurModel opsZ false #[#[2, 1], #[0, 5]] 2 2 1).isOk = false := by decide +kernel
  cases h : schurModel opsZ false #[#[2, 1], #[0, 5]] 2 2 1 with
  | panic => rfl
  | ok o => rw [h] at hk; cases hk
  | err => exact absurd h (schur_model_never_err _ _ _ _ _ _)

/-- a violated guard (`is_triang`) panics -/
example : schurModel opsZ false #[#[1, 7], #[0, 1]] 2 2 2 = .panic :=
  schur_model_guard_panics _ _ _ _ _ _ (by decide +kernel)

end Yuiv.C08
