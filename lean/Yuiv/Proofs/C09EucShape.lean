import Yuiv.Proofs.C09Euc
import Yuiv.Proofs.C09Le
/-
The code model of `SnfCalc` for ANY lawful Euclidean operation record (`LawfulEuc e φ`), part 1: `eliminate_at`,
`eliminate_all`.  One theorem per function: a function without fuel returns a value with the stated property
(`∃ v, f = .ok v ∧ …`, so no assertion fires); a function with fuel satisfies `Res.Conv`, from which the shape of
every result, the absence of panics and the fuel bounds are read off.
The pivot handed to `eliminate_at` is normalised (`eliminate_step` multiplies by the normalising unit first); that
is what makes the unit branch of the wrapper `SnfCalc::gcdx` hand out valid Bézout coefficients.  The lemmas about
`eliminate_at` take this invariant as a parameter `N` (`PivotInv`), so that they also cover ℤ, where every pivot
will do.
-/
namespace Yuiv.C09.Euc
open Yuiv Yuiv.C09 Yuiv.Res

variable {α K : Type} [CommRing K] [IsDomain K] {e : EOps α} {φ : α → K} {m n : Nat}

section entries
variable (L : LawfulEuc e φ)
include L

theorem colStep_returns (dbg : Bool) (i : Fin m) (jc : Fin n) (sm : St α m n × Bool) (i1 : Fin m)
    (hp : φ (sm.1.t.get i jc) ≠ 0) (hn : PivotOK e φ (sm.1.t.get i jc)) :
    ∃ sm', eliminateColStep e dbg i jc sm i1 = .ok sm' ∧
    ((sm' = sm ∧ (i = i1 ∨ φ (sm.1.t.get i1 jc) = 0)) ∨
    (i ≠ i1 ∧ φ (sm.1.t.get i1 jc) ≠ 0 ∧ sm'.2 = true ∧ ∃ s t a b d : α, φ d ≠ 0 ∧ φ (e.normUnit d) = 1 ∧
      φ (sm.1.t.get i jc) = φ a * φ d ∧ φ (sm.1.t.get i1 jc) = φ b * φ d ∧ φ s * φ a + φ t * φ b = 1 ∧
      (φ t = 0 ∨ e.size d < e.size (sm.1.t.get i jc)) ∧
      sm'.1.t = leftElem e.toROps sm.1.t s t (e.neg b) a i i1 ∧
      φ (sm'.1.t.get i jc) = φ d ∧ φ (sm'.1.t.get i1 jc) = 0)) := by
  unfold eliminateColStep
  simp only
  split
  · rename_i hc
    exact ⟨sm, rfl, Or.inl ⟨rfl, by simpa [L.isZero_iff] using hc⟩⟩
  · rename_i hc
    simp only [Bool.or_eq_true, decide_eq_true_eq, L.isZero_iff, not_or] at hc
    obtain ⟨g1, g2, g3, g4, g5, g6⟩ := L.gcdxW_data (sm.1.t.get i jc) (sm.1.t.get i1 jc) hp (Or.inl hn)
    have hdet := L.det_ok (sm.1.t.get i jc) (sm.1.t.get i1 jc) hp (Or.inl hn)
    unfold sLeft
    rw [hdet, Bool.not_true, Bool.and_false, if_neg Bool.false_ne_true]
    refine ⟨_, rfl, Or.inr ⟨hc.1, hc.2, rfl, _, _, _, _, _, g1, g2, g3, g4, g5, g6, rfl, ?_, ?_⟩⟩
    · show φ ((leftElem e.toROps sm.1.t _ _ _ _ i i1).get i jc) = _
      rw [leftElem_get L.lawful, if_neg hc.1, if_pos rfl, g3, g4]
      linear_combination φ (gcdxW e (sm.1.t.get i jc) (sm.1.t.get i1 jc)).1 * g5
    · show φ ((leftElem e.toROps sm.1.t _ _ _ _ i i1).get i1 jc) = _
      rw [leftElem_get L.lawful, if_pos rfl, g3, g4, L.phi_neg]; ring

theorem rowStep_returns (dbg : Bool) (i : Fin m) (jc : Fin n) (sm : St α m n × Bool) (j1 : Fin n)
    (hp : φ (sm.1.t.get i jc) ≠ 0) (hn : PivotOK e φ (sm.1.t.get i jc)) :
    ∃ sm', eliminateRowStep e dbg i jc sm j1 = .ok sm' ∧
    ((sm' = sm ∧ (jc = j1 ∨ φ (sm.1.t.get i j1) = 0)) ∨
    (jc ≠ j1 ∧ φ (sm.1.t.get i j1) ≠ 0 ∧ sm'.2 = true ∧ ∃ s t a b d : α, φ d ≠ 0 ∧ φ (e.normUnit d) = 1 ∧
      φ (sm.1.t.get i jc) = φ a * φ d ∧ φ (sm.1.t.get i j1) = φ b * φ d ∧ φ s * φ a + φ t * φ b = 1 ∧
      (φ t = 0 ∨ e.size d < e.size (sm.1.t.get i jc)) ∧
      sm'.1.t = rightElem e.toROps sm.1.t s t (e.neg b) a jc j1 ∧
      φ (sm'.1.t.get i jc) = φ d ∧ φ (sm'.1.t.get i j1) = 0)) := by
  unfold eliminateRowStep
  simp only
  split
  · rename_i hc
    exact ⟨sm, rfl, Or.inl ⟨rfl, by simpa [L.isZero_iff] using hc⟩⟩
  · rename_i hc
    simp only [Bool.or_eq_true, decide_eq_true_eq, L.isZero_iff, not_or] at hc
    obtain ⟨g1, g2, g3, g4, g5, g6⟩ := L.gcdxW_data (sm.1.t.get i jc) (sm.1.t.get i j1) hp (Or.inl hn)
    have hdet := L.det_ok (sm.1.t.get i jc) (sm.1.t.get i j1) hp (Or.inl hn)
    unfold sRight
    rw [hdet, Bool.not_true, Bool.and_false, if_neg Bool.false_ne_true]
    refine ⟨_, rfl, Or.inr ⟨hc.1, hc.2, rfl, _, _, _, _, _, g1, g2, g3, g4, g5, g6, rfl, ?_, ?_⟩⟩
    · show φ ((rightElem e.toROps sm.1.t _ _ _ _ jc j1).get i jc) = _
      rw [rightElem_get L.lawful, if_neg hc.1, if_pos rfl, g3, g4]
      linear_combination φ (gcdxW e (sm.1.t.get i jc) (sm.1.t.get i j1)).1 * g5
    · show φ ((rightElem e.toROps sm.1.t _ _ _ _ jc j1).get i j1) = _
      rw [rightElem_get L.lawful, if_pos rfl, g3, g4, L.phi_neg]; ring

theorem rowNz_le_one_iff (T : Mat α m n) (i : Fin m) (jc : Fin n) (hp : φ (T.get i jc) ≠ 0) :
    rowNz e T i ≤ 1 ↔ ∀ c, c ≠ jc → φ (T.get i c) = 0 := by
  unfold rowNz
  rw [foldl_count (fun j => e.isZero (T.get i j)), Nat.zero_add,
    countP_le_one_iff _ _ (List.nodup_finRange n) jc (List.mem_finRange jc)]
  · simp only [List.mem_finRange, true_implies, Bool.not_eq_false', L.isZero_iff]
  · simpa [L.isZero_false] using hp

theorem colNz_le_one_iff (T : Mat α m n) (i : Fin m) (jc : Fin n) (hp : φ (T.get i jc) ≠ 0) :
    colNz e T jc ≤ 1 ↔ ∀ r, r ≠ i → φ (T.get r jc) = 0 := by
  unfold colNz
  rw [foldl_count (fun r => e.isZero (T.get r jc)), Nat.zero_add,
    countP_le_one_iff _ _ (List.nodup_finRange m) i (List.mem_finRange i)]
  · simp only [List.mem_finRange, true_implies, Bool.not_eq_false', L.isZero_iff]
  · simpa [L.isZero_false] using hp

end entries

/-- a "frame": a predicate on the target that the elementary operations of `eliminate_at(i, jc)` preserve -/
structure FrameOK (e : EOps α) (φ : α → K) (i : Fin m) (jc : Fin n) (F : Mat α m n → Prop) : Prop where
  left : ∀ (T : Mat α m n) (s t b a : α) (i1 : Fin m), F T → i ≠ i1 → φ (T.get i1 jc) ≠ 0 →
    F (leftElem e.toROps T s t b a i i1)
  right : ∀ (T : Mat α m n) (s t b a : α) (j1 : Fin n), F T → jc ≠ j1 → φ (T.get i j1) ≠ 0 →
    F (rightElem e.toROps T s t b a jc j1)

omit [IsDomain K] in
theorem frameOK_true (i : Fin m) (jc : Fin n) : FrameOK e φ i jc (fun _ => True) :=
  ⟨fun _ _ _ _ _ _ _ _ _ => trivial, fun _ _ _ _ _ _ _ _ _ => trivial⟩

section elimAt
variable (L : LawfulEuc e φ)
include L

theorem eliminateCol_returns {N : α → Prop} (hN : PivotInv e φ N) {i : Fin m} {jc : Fin n} {F : Mat α m n → Prop}
    (hF : FrameOK e φ i jc F) (dbg : Bool) (s : St α m n)
    (hF0 : F s.t) (hp : φ (s.t.get i jc) ≠ 0) (hn : N (s.t.get i jc)) :
    ∃ r, eliminateCol e dbg s i jc = .ok r ∧ F r.1.t ∧ φ (r.1.t.get i jc) ≠ 0 ∧ N (r.1.t.get i jc) ∧
      φ (r.1.t.get i jc) ∣ φ (s.t.get i jc) ∧ (∀ r', r' ≠ i → φ (r.1.t.get r' jc) = 0) ∧
      (r.2 = false → r.1 = s) := by
  have key := foldlM_returns (eliminateColStep e dbg i jc)
    (fun pre sm => F sm.1.t ∧ φ (sm.1.t.get i jc) ≠ 0 ∧ N (sm.1.t.get i jc) ∧
      φ (sm.1.t.get i jc) ∣ φ (s.t.get i jc) ∧
      (∀ r' ∈ pre, r' ≠ i → φ (sm.1.t.get r' jc) = 0) ∧ (sm.2 = false → sm.1 = s)) ?_ (List.finRange m) (s, false)
      ⟨hF0, hp, hn, dvd_refl _, by simp, fun _ => rfl⟩
  · obtain ⟨r, hr, k1, k2, k3, k4, k5, k6⟩ := key
    exact ⟨r, hr, k1, k2, k3, k4, fun r' hr' => k5 r' (by simp) hr', k6⟩
  · intro pre i1 sm ⟨p1, p2, pn, p3, p4, p5⟩
    obtain ⟨sm', hsm', hcase⟩ := colStep_returns L dbg i jc sm i1 p2 (hN.ok _ pn)
    refine ⟨sm', hsm', ?_⟩
    rcases hcase with ⟨rfl, hc⟩ | ⟨hne, hy, hfl, s', t', a, b, d, hd, hdn, hx, hy', hbez, _, hT, hpiv, hz⟩
    · refine ⟨p1, p2, pn, p3, ?_, p5⟩
      intro r' hr' hri
      rw [List.mem_append, List.mem_singleton] at hr'
      rcases hr' with hr' | rfl
      · exact p4 r' hr' hri
      · rcases hc with hc | hc
        · exact absurd hc.symm hri
        · exact hc
    · refine ⟨?_, ?_, ?_, ?_, ?_, fun h => by rw [hfl] at h; cases h⟩
      · rw [hT]; exact hF.left _ _ _ _ _ _ p1 hne hy
      · rw [hpiv]; exact hd
      · exact hN.congr _ _ hpiv (hN.of_norm d hdn)
      · rw [hpiv]; exact dvd_trans ⟨φ a, by rw [hx]; ring⟩ p3
      · intro r' hr' hri
        by_cases h1 : r' = i1
        · rw [h1]; exact hz
        · rw [List.mem_append, List.mem_singleton] at hr'
          rcases hr' with hr' | hr'
          · rw [hT, leftElem_get L.lawful, if_neg h1, if_neg hri]; exact p4 r' hr' hri
          · exact absurd hr' h1

theorem eliminateRow_returns {N : α → Prop} (hN : PivotInv e φ N) {i : Fin m} {jc : Fin n} {F : Mat α m n → Prop}
    (hF : FrameOK e φ i jc F) (dbg : Bool) (s : St α m n)
    (hF0 : F s.t) (hp : φ (s.t.get i jc) ≠ 0) (hn : N (s.t.get i jc))
    (hcol : ∀ r', r' ≠ i → φ (s.t.get r' jc) = 0) :
    ∃ r, eliminateRow e dbg s i jc = .ok r ∧ F r.1.t ∧ φ (r.1.t.get i jc) ≠ 0 ∧ N (r.1.t.get i jc) ∧
      φ (r.1.t.get i jc) ∣ φ (s.t.get i jc) ∧ (∀ c, c ≠ jc → φ (r.1.t.get i c) = 0) ∧
      ((∀ r', r' ≠ i → φ (r.1.t.get r' jc) = 0) ∨ e.size (r.1.t.get i jc) < e.size (s.t.get i jc)) ∧
      (r.2 = false → r.1 = s) := by
  have key := foldlM_returns (eliminateRowStep e dbg i jc)
    (fun pre sm => F sm.1.t ∧ φ (sm.1.t.get i jc) ≠ 0 ∧ N (sm.1.t.get i jc) ∧
      φ (sm.1.t.get i jc) ∣ φ (s.t.get i jc) ∧
      (∀ c ∈ pre, c ≠ jc → φ (sm.1.t.get i c) = 0) ∧
      ((∀ r', r' ≠ i → φ (sm.1.t.get r' jc) = 0) ∨ e.size (sm.1.t.get i jc) < e.size (s.t.get i jc)) ∧
      (sm.2 = false → sm.1 = s)) ?_ (List.finRange n) (s, false)
      ⟨hF0, hp, hn, dvd_refl _, by simp, Or.inl hcol, fun _ => rfl⟩
  · obtain ⟨r, hr, k1, k2, k3, k4, k5, k6, k7⟩ := key
    exact ⟨r, hr, k1, k2, k3, k4, fun c hc => k5 c (by simp) hc, k6, k7⟩
  · intro pre j1 sm ⟨p1, p2, pn, p3, p4, p5, p6⟩
    obtain ⟨sm', hsm', hcase⟩ := rowStep_returns L dbg i jc sm j1 p2 (hN.ok _ pn)
    refine ⟨sm', hsm', ?_⟩
    rcases hcase with ⟨rfl, hc⟩ | ⟨hne, hy, hfl, s', t', a, b, d, hd, hdn, hx, hy', hbez, hlt, hT, hpiv, hz⟩
    · refine ⟨p1, p2, pn, p3, ?_, p5, p6⟩
      intro c hc' hcj
      rw [List.mem_append, List.mem_singleton] at hc'
      rcases hc' with hc' | rfl
      · exact p4 c hc' hcj
      · rcases hc with hc | hc
        · exact absurd hc.symm hcj
        · exact hc
    · have hsz : e.size (sm'.1.t.get i jc) = e.size d := L.size_congr _ _ hpiv hd
      have hle : e.size d ≤ e.size (sm.1.t.get i jc) :=
        L.size_dvd _ _ p2 ⟨φ a, by rw [hx]; ring⟩
      have hles : e.size (sm.1.t.get i jc) ≤ e.size (s.t.get i jc) := L.size_dvd _ _ hp p3
      refine ⟨?_, ?_, ?_, ?_, ?_, ?_, fun h => by rw [hfl] at h; cases h⟩
      · rw [hT]; exact hF.right _ _ _ _ _ _ p1 hne hy
      · rw [hpiv]; exact hd
      · exact hN.congr _ _ hpiv (hN.of_norm d hdn)
      · rw [hpiv]; exact dvd_trans ⟨φ a, by rw [hx]; ring⟩ p3
      · intro c hc' hcj
        by_cases h1 : c = j1
        · rw [h1]; exact hz
        · rw [List.mem_append, List.mem_singleton] at hc'
          rcases hc' with hc' | hc'
          · rw [hT, rightElem_get L.lawful, if_neg h1, if_neg hcj]; exact p4 c hc' hcj
          · exact absurd hc' h1
      · rcases p5 with p5 | p5
        · rcases hlt with ht0 | hlt
          · left
            intro r' hr'
            rw [hT, rightElem_get L.lawful, if_neg hne, if_pos rfl, p5 r' hr', ht0]; ring
          · right
            omega
        · right
          omega

theorem eliminateAt_conv_clean (dbg : Bool) (i : Fin m) (jc : Fin n) (s : St α m n)
    (hp : φ (s.t.get i jc) ≠ 0) (hrow : ∀ c, c ≠ jc → φ (s.t.get i c) = 0)
    (hcol : ∀ r, r ≠ i → φ (s.t.get r jc) = 0) :
    Conv (fun fuel => eliminateAt e dbg i jc fuel s) 1 (· = s) := by
  refine Conv.succ (G := fun _ => .ok s) rfl (fun fuel => ?_) (Conv.const rfl rfl)
  have h1 := (rowNz_le_one_iff L s.t i jc hp).2 hrow
  have h2 := (colNz_le_one_iff L s.t i jc hp).2 hcol
  rw [eliminateAt, if_neg]
  simp only [Bool.or_eq_true, decide_eq_true_eq, not_or, Nat.not_lt]
  exact ⟨h1, h2⟩

/-- induction on `size(pivot)`: an iteration either isolates the pivot (one more test exits) or makes it strictly
smaller; hence the bound `size(pivot) + 2` -/
theorem eliminateAt_conv {N : α → Prop} (hN : PivotInv e φ N) {i : Fin m} {jc : Fin n} {F : Mat α m n → Prop}
    (hF : FrameOK e φ i jc F) (dbg : Bool) : ∀ (k : Nat) (s : St α m n), e.size (s.t.get i jc) = k → F s.t →
    φ (s.t.get i jc) ≠ 0 → N (s.t.get i jc) →
    Conv (fun fuel => eliminateAt e dbg i jc fuel s) (k + 2) (fun s' =>
      F s'.t ∧ φ (s'.t.get i jc) ≠ 0 ∧ N (s'.t.get i jc) ∧ φ (s'.t.get i jc) ∣ φ (s.t.get i jc) ∧
        (∀ c, c ≠ jc → φ (s'.t.get i c) = 0) ∧ (∀ r, r ≠ i → φ (s'.t.get r jc) = 0)) := by
  intro k
  induction k using Nat.strong_induction_on with
  | _ k ih =>
    intro s hk hF0 hp hn
    by_cases hc : (rowNz e s.t i > 1 || colNz e s.t jc > 1) = true
    · obtain ⟨r1, h1, c1, c2, cn, c3, c4, c5⟩ := eliminateCol_returns L hN hF dbg s hF0 hp hn
      obtain ⟨r2, h2, d1, d2, dn, d3, d4, d5, d6⟩ := eliminateRow_returns L hN hF dbg r1.1 c1 c2 cn c4
      -- `assert!(modified)`: with both flags unset nothing was done, and both lines of `s` are clear
      have hfl : (!(r1.2 || r2.2)) = false := by
        by_contra hfl
        simp only [Bool.not_eq_false, Bool.not_eq_true', Bool.or_eq_false_iff] at hfl
        have e1 := c5 hfl.1
        have e2 := d6 hfl.2
        rw [e1] at e2 c4; rw [e2] at d4
        have := (rowNz_le_one_iff L s.t i jc hp).2 d4
        have := (colNz_le_one_iff L s.t i jc hp).2 c4
        simp only [Bool.or_eq_true, decide_eq_true_eq] at hc
        omega
      have hs : ∀ fuel, eliminateAt e dbg i jc (fuel + 1) s = eliminateAt e dbg i jc fuel r2.1 := by
        intro fuel
        rw [eliminateAt, if_pos hc, h1]
        simp only [h2, hfl, Bool.false_eq_true, if_false]
      have key : Conv (fun fuel => eliminateAt e dbg i jc fuel r2.1) (k + 1) (fun s' =>
          F s'.t ∧ φ (s'.t.get i jc) ≠ 0 ∧ N (s'.t.get i jc) ∧ φ (s'.t.get i jc) ∣ φ (r2.1.t.get i jc) ∧
          (∀ c, c ≠ jc → φ (s'.t.get i c) = 0) ∧ (∀ r, r ≠ i → φ (s'.t.get r jc) = 0)) := by
        rcases d5 with d5 | d5
        · refine (eliminateAt_conv_clean L dbg i jc r2.1 d2 d4 d5).imp (by omega) ?_
          rintro _ rfl
          exact ⟨d1, d2, dn, dvd_refl _, d4, d5⟩
        · have hle : e.size (r1.1.t.get i jc) ≤ e.size (s.t.get i jc) := L.size_dvd _ _ hp c3
          exact (ih _ (by omega) r2.1 rfl d1 d2 dn).imp (by omega) (fun _ h => h)
      refine Conv.succ rfl hs (key.imp (Nat.le_refl _) ?_)
      rintro s' ⟨e1, e2, en, e3, e4, e5⟩
      exact ⟨e1, e2, en, dvd_trans e3 (dvd_trans d3 c3), e4, e5⟩
    · refine Conv.imp (B := 1) (Conv.succ (G := fun _ => .ok s) rfl (fun fuel => by rw [eliminateAt, if_neg hc])
        (Conv.const rfl ?_)) (by omega) (fun _ h => h)
      simp only [Bool.or_eq_true, decide_eq_true_eq, not_or, Nat.not_lt] at hc
      exact ⟨hF0, hp, hn, dvd_refl _, (rowNz_le_one_iff L s.t i jc hp).1 hc.1,
        (colNz_le_one_iff L s.t i jc hp).1 hc.2⟩

end elimAt

section elimAll
variable (L : Lawful e.toROps φ)
include L

omit [IsDomain K] in
theorem selectPivot_spec (T : Mat α m n) (below : Nat) (j : Fin n) :
    (∀ ip, selectPivot e T below j = some ip → below ≤ ip.1 ∧ φ (T.get ip j) ≠ 0) ∧
    (selectPivot e T below j = none → ∀ r : Fin m, below ≤ r.1 → φ (T.get r j) = 0) := by
  unfold selectPivot
  have key := foldl_prefix (σ := Option (Fin m × Nat)) (β := Fin m)
    (fun (acc : Option (Fin m × Nat)) i =>
      if below ≤ i.1 && !e.isZero (T.get i j) then
        let k := rowNz e T i
        match acc with
        | none => some (i, k)
        | some (_, k0) => if k < k0 then some (i, k) else acc
      else acc)
    (fun pre acc => (∀ p, acc = some p → below ≤ p.1.1 ∧ φ (T.get p.1 j) ≠ 0) ∧
      (acc = none → ∀ r ∈ pre, below ≤ r.1 → φ (T.get r j) = 0)) ?_ (List.finRange m) [] none
      ⟨by simp, by simp⟩
  · generalize List.foldl _ none (List.finRange m) = acc at key
    obtain ⟨k1, k2⟩ := key
    constructor
    · intro ip h
      cases acc with
      | none => simp at h
      | some p =>
        simp only [Option.map_some, Option.some.injEq] at h
        rw [← h]; exact k1 p rfl
    · intro h r hr
      cases acc with
      | none => exact k2 rfl r (by simp) hr
      | some p => simp at h
  · intro pre x acc ⟨p1, p2⟩
    split
    · rename_i hc
      simp only [Bool.and_eq_true, decide_eq_true_eq, Bool.not_eq_true', isZero_false L] at hc
      cases acc with
      | none =>
        refine ⟨?_, by simp⟩
        intro p hp; simp only [Option.some.injEq] at hp; rw [← hp]; exact hc
      | some p0 =>
        obtain ⟨i0, k0⟩ := p0
        simp only
        split
        · refine ⟨?_, by simp⟩
          intro p hp; simp only [Option.some.injEq] at hp; rw [← hp]; exact hc
        · exact ⟨p1, by simp⟩
    · rename_i hc
      refine ⟨p1, ?_⟩
      intro hn r hr hb
      rw [List.mem_append, List.mem_singleton] at hr
      rcases hr with hr | rfl
      · exact p2 hn r hr hb
      · simp only [Bool.and_eq_true, decide_eq_true_eq, Bool.not_eq_true', isZero_false L, not_and] at hc
        exact not_not.1 (hc hb)

end elimAll

/-- invariant of `eliminate_all`: the pivots `< i` are isolated and non-zero, the columns `lo ≤ c < hi` are zero -/
structure EAinv (φ : α → K) (i lo hi : Nat) (T : Mat α m n) : Prop where
  off : ∀ (r : Fin m) (c : Fin n), r.1 ≠ c.1 → (r.1 < i ∨ c.1 < i) → φ (T.get r c) = 0
  dia : ∀ (r : Fin m) (c : Fin n), r.1 = c.1 → r.1 < i → φ (T.get r c) ≠ 0
  zc : ∀ (r : Fin m) (c : Fin n), lo ≤ c.1 → c.1 < hi → φ (T.get r c) = 0

theorem stepPrep_get (s : St α m n) (i ip : Fin m) (ic j : Fin n) (h1 : i.1 ≤ ip.1) (h2 : ic.1 ≤ j.1)
    (r : Fin m) (c : Fin n) :
    (stepPrep s i ip ic j).t.get r c =
      s.t.get (if r = i then ip else if r = ip then i else r) (if c = ic then j else if c = j then ic else c) := by
  unfold stepPrep
  simp only
  have e1 : ∀ r c, (if ip.1 > i.1 then sSwapRows s i ip else s).t.get r c =
      s.t.get (if r = i then ip else if r = ip then i else r) c := by
    intro r c
    split
    · simp only [sSwapRows]; rw [swapRows_get]
    · rename_i hgt
      have : ip = i := Fin.ext (by omega)
      subst this
      split <;> simp_all
  split
  · simp only [sSwapCols]; rw [swapCols_get, e1]
  · rename_i hgt
    have : j = ic := Fin.ext (by omega)
    subst this
    rw [e1]
    congr 1
    by_cases hcj : c = j <;> simp [hcj]

theorem transp_val {m : Nat} (I I1 R : Fin m) :
    (if R = I then I1 else if R = I1 then I else R).1 =
      if R.1 = I.1 then I1.1 else if R.1 = I1.1 then I.1 else R.1 := by
  simp only [apply_ite Fin.val, Fin.ext_iff]

theorem transp_keeps_processed (i ip : Fin m) (ic j : Fin n) (hic : ic.1 = i.1) (h1 : i.1 ≤ ip.1) (h2 : ic.1 ≤ j.1)
    (r : Fin m) (c : Fin n) (hrc : r.1 ≠ c.1) (hlt : r.1 < i.1 ∨ c.1 < i.1) :
    (if r = i then ip else if r = ip then i else r).1 ≠ (if c = ic then j else if c = j then ic else c).1 ∧
    ((if r = i then ip else if r = ip then i else r).1 < i.1 ∨
      (if c = ic then j else if c = j then ic else c).1 < i.1) := by
  -- a transposition of two positions `≥ i` fixes the positions `< i` and keeps the others `≥ i`
  have key : ∀ a b x : Nat, i.1 ≤ a → i.1 ≤ b →
      (x < i.1 → (if x = a then b else if x = b then a else x) = x) ∧
      (i.1 ≤ x → i.1 ≤ (if x = a then b else if x = b then a else x)) := by
    intro a b x ha hb
    split_ifs <;> omega
  rw [transp_val, transp_val]
  obtain ⟨r1, r2⟩ := key i.1 ip.1 r.1 (Nat.le_refl _) h1
  obtain ⟨c1, c2⟩ := key ic.1 j.1 c.1 (by omega) (by omega)
  generalize (if r.1 = i.1 then ip.1 else if r.1 = ip.1 then i.1 else r.1) = r' at *
  generalize (if c.1 = ic.1 then j.1 else if c.1 = j.1 then ic.1 else c.1) = c' at *
  omega

omit [IsDomain K] in
/-- the swaps move the (zero) column `i` to position `j` and keep the isolated pivots -/
theorem EAinv_stepPrep (s : St α m n) (i ip : Fin m) (ic j : Fin n) (hic : ic.1 = i.1) (h1 : i.1 ≤ ip.1)
    (h2 : ic.1 ≤ j.1) (hT : EAinv φ i.1 i.1 j.1 s.t) :
    EAinv φ i.1 (i.1 + 1) (j.1 + 1) (stepPrep s i ip ic j).t := by
  constructor
  · intro r c hrc hlt
    rw [stepPrep_get s i ip ic j h1 h2]
    exact hT.off _ _ (transp_keeps_processed i ip ic j hic h1 h2 r c hrc hlt).1 (transp_keeps_processed i ip ic j hic h1 h2 r c hrc hlt).2
  · intro r c hrc hlt
    rw [stepPrep_get s i ip ic j h1 h2]
    have e1 : r ≠ i := fun h => by subst h; omega
    have e2 : r ≠ ip := fun h => by subst h; omega
    have e3 : c ≠ ic := fun h => by subst h; omega
    have e4 : c ≠ j := fun h => by subst h; omega
    rw [if_neg e1, if_neg e2, if_neg e3, if_neg e4]
    exact hT.dia r c hrc hlt
  · intro r c hlo hhi
    rw [stepPrep_get s i ip ic j h1 h2]
    have e3 : c ≠ ic := fun h => by subst h; omega
    rw [if_neg e3]
    generalize (if r = i then ip else if r = ip then i else r) = r'
    by_cases h : c = j
    · subst h
      rw [if_pos rfl]
      exact hT.zc _ ic (by omega) (by omega)
    · rw [if_neg h]
      have : c.1 ≠ j.1 := fun h' => h (Fin.ext h')
      exact hT.zc _ c (by omega) (by omega)

section elimAll2
variable (L : LawfulEuc e φ)
include L

theorem frameOK_EAinv (I : Fin m) (jc : Fin n) (hI : jc.1 = I.1) (j : Nat) :
    FrameOK e φ I jc (EAinv (m := m) (n := n) φ I.1 (I.1 + 1) (j + 1)) := by
  constructor
  · intro T s t b a i1 hT hne hy
    have hi1 : I.1 < i1.1 := by
      by_contra hlt
      have hne' : I.1 ≠ i1.1 := fun h => hne (Fin.ext h)
      exact hy (hT.off i1 jc (by omega) (Or.inl (by omega)))
    constructor
    · intro r c hrc hlt
      rw [leftElem_get L.lawful]
      split
      · rename_i h; subst h
        have hc : c.1 < I.1 := by omega
        rw [hT.off I c (by omega) (Or.inr hc), hT.off r c hrc (Or.inr hc)]; ring
      · split
        · rename_i _ h; subst h
          have hc : c.1 < r.1 := by omega
          rw [hT.off r c hrc (Or.inr hc), hT.off i1 c (by omega) (Or.inr hc)]; ring
        · exact hT.off r c hrc hlt
    · intro r c hrc hlt
      rw [leftElem_get L.lawful, if_neg (fun h => by subst h; omega), if_neg (fun h => by subst h; omega)]
      exact hT.dia r c hrc hlt
    · intro r c h1 h2
      rw [leftElem_get L.lawful, hT.zc I c h1 h2, hT.zc i1 c h1 h2, hT.zc r c h1 h2]
      simp
  · intro T s t b a j1 hT hne hy
    have hne' : jc.1 ≠ j1.1 := fun h => hne (Fin.ext h)
    have hj1 : j < j1.1 := by
      by_contra hlt
      by_cases h : j1.1 < I.1
      · exact hy (hT.off I j1 (by omega) (Or.inr h))
      · exact hy (hT.zc I j1 (by omega) (by omega))
    have hj1' : I.1 < j1.1 := by
      by_contra hlt
      exact hy (hT.off I j1 (by omega) (Or.inr (by omega)))
    constructor
    · intro r c hrc hlt
      rw [rightElem_get L.lawful]
      split
      · rename_i h; subst h
        have hr : r.1 < I.1 := by omega
        rw [hT.off r jc (by omega) (Or.inl hr), hT.off r c hrc (Or.inl hr)]; ring
      · split
        · rename_i _ h; subst h
          have hr : r.1 < I.1 := by omega
          rw [hT.off r c hrc (Or.inl hr), hT.off r j1 (by omega) (Or.inl hr)]; ring
        · exact hT.off r c hrc hlt
    · intro r c hrc hlt
      rw [rightElem_get L.lawful, if_neg (fun h => by subst h; omega), if_neg (fun h => by subst h; omega)]
      exact hT.dia r c hrc hlt
    · intro r c h1 h2
      rw [rightElem_get L.lawful, if_neg (fun h => by subst h; omega), if_neg (fun h => by subst h; omega)]
      exact hT.zc r c h1 h2

theorem EAinv_mulCol (T : Mat α m n) (jc : Fin n) (u : α) (i lo hi : Nat) (hjc : i ≤ jc.1)
    (hT : EAinv φ i lo hi T) : EAinv φ i lo hi (mulCol e.toROps T jc u) := by
  constructor
  · intro r c hrc hlt
    rw [mulCol_get L.lawful, hT.off r c hrc hlt]; simp
  · intro r c hrc hlt
    rw [mulCol_get L.lawful, if_neg (fun h => by subst h; omega)]
    exact hT.dia r c hrc hlt
  · intro r c h1 h2
    rw [mulCol_get L.lawful, hT.zc r c h1 h2]; simp

theorem normCol_returns (s1 : St α m n) (i : Fin m) (jc : Fin n) :
    ∃ s2, (if (!e.isOne (e.normUnit (s1.t.get i jc))) = true then sMulCol e s1 jc (e.normUnit (s1.t.get i jc))
      else Res.ok s1) = .ok s2 ∧
    φ (e.normUnit (s2.t.get i jc)) = 1 ∧ (φ (s1.t.get i jc) ≠ 0 → φ (s2.t.get i jc) ≠ 0) ∧
      (∀ k lo hi, k ≤ jc.1 → EAinv φ k lo hi s1.t → EAinv φ k lo hi s2.t) := by
  split
  · unfold sMulCol
    obtain ⟨v, hv⟩ := L.inv_normUnit (s1.t.get i jc)
    rw [hv]
    refine ⟨_, rfl, ?_, ?_, ?_⟩
    · simp only [mulCol, get_ofFn, if_pos]
      exact L.norm_mul _
    · intro hp
      rw [mulCol_get L.lawful, if_pos rfl]
      exact mul_ne_zero hp (L.normUnit_ne_zero _)
    · intro k lo hi hk hT
      exact EAinv_mulCol L _ _ _ _ _ _ hk hT
  · rename_i hc
    simp only [Bool.not_eq_true', Bool.not_eq_false] at hc
    exact ⟨s1, rfl, (L.isOne_iff _).1 hc, fun h => h, fun _ _ _ _ h => h⟩

theorem eliminateStep_conv (dbg : Bool) (s : St α m n) (i : Fin m) (j : Fin n) (hi : i.1 < n)
    (hij : i.1 ≤ j.1) (hT : EAinv φ i.1 i.1 j.1 s.t) :
    ∃ B, Conv (fun fuel => eliminateStep e dbg fuel s i j hi) B (fun r =>
      (r = none → EAinv φ i.1 i.1 (j.1 + 1) s.t) ∧
      (∀ s', r = some s' → EAinv φ (i.1 + 1) (i.1 + 1) (j.1 + 1) s'.t)) := by
  have hsel := selectPivot_spec L.lawful s.t i.1 j
  cases hp : selectPivot e s.t i.1 j with
  | none =>
    have heq : ∀ fuel, eliminateStep e dbg fuel s i j hi = .ok none := fun fuel => by
      rw [eliminateStep_eq, hp]
    refine ⟨0, Conv.of_eq heq (Conv.const rfl ⟨fun _ => ⟨hT.off, hT.dia, ?_⟩, nofun⟩)⟩
    intro r c h1 h2
    by_cases hc : c.1 < j.1
    · exact hT.zc r c h1 hc
    · have : c = j := Fin.ext (by omega)
      subst this
      by_cases hr : i.1 ≤ r.1
      · exact hsel.2 hp r hr
      · exact hT.off r c (by omega) (Or.inl (by omega))
  | some ip =>
    obtain ⟨hip, hnz⟩ := hsel.1 ip hp
    have hP := EAinv_stepPrep s i ip ⟨i.1, hi⟩ j rfl hip hij hT
    have hx : φ ((stepPrep s i ip ⟨i.1, hi⟩ j).t.get i ⟨i.1, hi⟩) ≠ 0 := by
      rw [stepPrep_get s i ip ⟨i.1, hi⟩ j hip hij, if_pos rfl, if_pos rfl]; exact hnz
    obtain ⟨s2, h2, hn2, hp2, hkeep⟩ := normCol_returns L (stepPrep s i ip ⟨i.1, hi⟩ j) i ⟨i.1, hi⟩
    have hP2 : EAinv φ i.1 (i.1 + 1) (j.1 + 1) s2.t := hkeep _ _ _ (Nat.le_refl _) hP
    have hAt := eliminateAt_conv L L.pivotInv_norm (frameOK_EAinv L i ⟨i.1, hi⟩ rfl j.1) dbg _ s2 rfl hP2
      (hp2 hx) hn2
    refine ⟨_, Conv.of_eq (fun fuel => ?_) (hAt.map some ?_)⟩
    · rw [eliminateStep_eq, hp]
      simp only [h2, bind_ok]
      rw [if_neg (by rw [L.isZero_iff]; exact hp2 hx)]
    · rintro s3 ⟨f1, f2, _, _, f4, f5⟩
      refine ⟨nofun, fun s' h => ?_⟩
      cases h
      refine ⟨?_, ?_, f1.zc⟩
      · intro r c hrc hlt
        by_cases hr : r = i
        · subst hr
          exact f4 c (fun h => by subst h; exact hrc rfl)
        · by_cases hc : c = ⟨i.1, hi⟩
          · subst hc; exact f5 r hr
          · have h1 : r.1 ≠ i.1 := fun h => hr (Fin.ext h)
            have h2 : c.1 ≠ i.1 := fun h => hc (Fin.ext h)
            exact f1.off r c hrc (by omega)
      · intro r c hrc hlt
        by_cases hr : r = i
        · subst hr
          have : c = ⟨r.1, hi⟩ := Fin.ext hrc.symm
          subst this; exact f2
        · have h1 : r.1 ≠ i.1 := fun h => hr (Fin.ext h)
          exact f1.dia r c hrc (by omega)

end elimAll2

/-- the target is diagonal (through `φ`): what `isDiag` decides -/
def DiagZ (φ : α → K) (T : Mat α m n) : Prop := ∀ (r : Fin m) (c : Fin n), r.1 ≠ c.1 → φ (T.get r c) = 0

def dgz (e : EOps α) (φ : α → K) (T : Mat α m n) (k : Nat) : K := φ (dg e.toROps T k)

/-- the non-zero diagonal entries come first -/
def NzFirst (e : EOps α) (φ : α → K) (T : Mat α m n) : Prop :=
  ∀ k l, k ≤ l → dgz e φ T k = 0 → dgz e φ T l = 0

/-- the state of the `for j` loop of `eliminate_all` before iteration `j` -/
structure AllInv (φ : α → K) (j : Nat) (si : St α m n × Nat) : Prop where
  le_j : si.2 ≤ j
  le_m : si.2 ≤ m
  off : ∀ (r : Fin m) (c : Fin n), r.1 ≠ c.1 → (r.1 < si.2 ∨ c.1 < si.2) → φ (si.1.t.get r c) = 0
  dia : ∀ (r : Fin m) (c : Fin n), r.1 = c.1 → r.1 < si.2 → φ (si.1.t.get r c) ≠ 0
  zc : si.2 < m → ∀ (r : Fin m) (c : Fin n), si.2 ≤ c.1 → c.1 < j → φ (si.1.t.get r c) = 0

section elimAll3
variable (L : LawfulEuc e φ)
include L

theorem allInv_step_conv (dbg : Bool) (j : Fin n) (si : St α m n × Nat) (hinv : AllInv φ j.1 si) :
    ∃ B, Conv (fun fuel => eliminateAllStep e dbg fuel si j) B (AllInv φ (j.1 + 1)) := by
  have h1 := hinv.le_j
  have h2 := hinv.le_m
  by_cases hc : si.2 < m ∧ si.2 ≤ j.1
  · have hT : EAinv φ si.2 si.2 j.1 si.1.t := ⟨hinv.off, hinv.dia, hinv.zc hc.1⟩
    obtain ⟨B, hB⟩ := eliminateStep_conv L dbg si.1 ⟨si.2, hc.1⟩ j (Nat.lt_of_le_of_lt hc.2 j.2) hc.2 hT
    refine ⟨_, Conv.of_eq (fun fuel => by rw [eliminateAllStep_eq, dif_pos hc]) (hB.bind (B' := 0) fun r hr => ?_)⟩
    cases r with
    | none =>
      have := hr.1 rfl
      exact Conv.const rfl ⟨by omega, h2, this.off, this.dia, fun _ => this.zc⟩
    | some s' =>
      have := hr.2 s' rfl
      exact Conv.const rfl ⟨by simp only; omega, by simp only; omega, this.off, this.dia, fun _ => this.zc⟩
  · exact ⟨0, Conv.of_eq (fun fuel => by rw [eliminateAllStep_eq, dif_neg hc])
      (Conv.const rfl ⟨by omega, h2, hinv.off, hinv.dia, fun hlt => absurd ⟨hlt, h1⟩ hc⟩)⟩

theorem eliminateAll_conv (dbg : Bool) (s : St α m n) :
    ∃ B, Conv (fun fuel => eliminateAll e dbg fuel s) B (fun s' => DiagZ φ s'.t ∧ NzFirst e φ s'.t) := by
  obtain ⟨B, hB⟩ := Conv.foldlM (f := fun fuel => eliminateAllStep e dbg fuel) (l := List.finRange n)
    (fun pre si => AllInv (m := m) (n := n) φ pre.length si)
    (fun pre x post si hl hp => by
      have hx := val_of_finRange_eq_append hl
      rw [List.length_append, List.length_singleton, ← hx]
      exact allInv_step_conv L dbg x si (hx ▸ hp))
    (s := (s, 0)) ⟨Nat.le_refl _, Nat.zero_le _, fun r c _ h => by simp at h, fun r c _ h => by simp at h,
      fun _ r c _ h => by simp at h⟩
  refine ⟨B, Conv.of_eq (fun fuel => eliminateAll_eq dbg fuel s) (hB.map Prod.fst fun si key => ?_)⟩
  rw [List.length_finRange] at key
  constructor
  · intro r c hrc
    by_cases hlt : r.1 < si.2 ∨ c.1 < si.2
    · exact key.off r c hrc hlt
    · exact key.zc (by omega) r c (by omega) c.2
  · intro k l hkl hk
    unfold dgz dg at hk ⊢
    split
    · rename_i hl
      rw [dif_pos ⟨by omega, by omega⟩] at hk
      have hki : ¬ k < si.2 := fun hlt => key.dia ⟨k, by omega⟩ ⟨k, by omega⟩ rfl hlt hk
      exact key.zc (by omega) _ _ (by simp only; omega) hl.2
    · exact L.phi_zero

end elimAll3

end Yuiv.C09.Euc
