import Yuiv.Proofs.C05EngineScriptDD
/-
C05 (engine) — the product complex of the MODEL (`TngComplex::connect`, hence `append`) and: EVERY engine script
preserves `d ∘ d = 0`.

Edge labels live in a (not necessarily commutative) ring `E`; `ops : EdgeOps E` is lawful in ring notation:
 * `RingEdgeOps`    — `eliminate` uses `c·a⁻¹·b`, `−`, two-sided inverses (Props/C05EngineDD);
 * `RingDeloopOps`  — `cap_off` is multiplication by a cap / cup, and the copies decompose the identity;
 * `RingTensorOps`  — `D(f, 1) = tl f w` and `D(1, g) = tr g v` are additive and multiplicative in `f` resp. `g`
                      (functoriality of `⊗` with an identity), `connect_edges` multiplies `D(1, g)` by
                      `(−1)^{weight(k) − deg_shift.0}`;
 * the interchange law `(1 ⊗ g)·(f ⊗ 1) = (f ⊗ 1)·(1 ⊗ g)` (both are `f ⊗ g`), for the edges `f`, `g` of the two
   factors (`connect_preserves_dd`) resp. for all labels (the script theorem, where the factors are not known in
   advance; in the single untyped ring `E` this is the only way to say it).
`Bounded`: every vertex has weight ≤ `dim` (what `collect_keys` looks at; true for `init`, crossings and everything
built from them — proved as part of the invariant).
NOT proved: that the real instance `lcOps h t` satisfies these hypotheses — see `Props/C05EngineLc.lean` for what is.
-/
namespace Yuiv.C05.Engine
open Yuiv Yuiv.C05

/-- the vertices of `connect`: one per pair of vertices, keyed by `k + l`, in the order of the degree rounds; no two
pairs get the same key (otherwise `add_vertex` panics) -/
theorem connect_vertices {E : Type} (ops : EdgeOps E) (left right cx' : Cx E) (hl : WF ops left) (hr : WF ops right)
    (h : left.connect ops right = .ok cx') :
    cx'.verts.map (·.1) = (allPairs left right).map pkey ∧
    (∀ p ∈ allPairs left right, ∀ q ∈ allPairs left right, pkey p = pkey q → p = q) :=
  connect_verts ops left right cx' hl hr h

/-- the edges of `connect`, soundness and completeness: every edge is `D(f, 1) : (k0,l0) → (k1,l0)` or
`±D(1, g) : (k0,l0) → (k0,l1)`, and every such edge with a non-zero label is there -/
theorem connect_edges_sound_complete {E : Type} (ops : EdgeOps E) (left right cx' : Cx E) (hl : WF ops left)
    (hr : WF ops right) (hbl : Bounded left) (hbr : Bounded right) (h : left.connect ops right = .ok cx') :
    (∀ e ∈ cx'.edges, ∃ k0 l0 v0 w0, left.tng? k0 = some v0 ∧ right.tng? l0 = some w0 ∧
      ((∃ a ∈ left.edges, a.1.1 = k0 ∧ ∃ g, ops.hcompL a.2 w0 = .ok g ∧
          e = ((k0.append l0, a.1.2.append l0), g)) ∨
       (∃ a ∈ right.edges, a.1.1 = l0 ∧ ∃ g, ops.hcompR (signNeg left k0) a.2 v0 = .ok g ∧
          e = ((k0.append l0, k0.append a.1.2), g)))) ∧
    (∀ a ∈ left.edges, ∀ l0 w0, right.tng? l0 = some w0 → ∃ g, ops.hcompL a.2 w0 = .ok g ∧
      (ops.isZero g = false → ((a.1.1.append l0, a.1.2.append l0), g) ∈ cx'.edges)) ∧
    (∀ a ∈ right.edges, ∀ k0 v0, left.tng? k0 = some v0 → ∃ g, ops.hcompR (signNeg left k0) a.2 v0 = .ok g ∧
      (ops.isZero g = false → ((k0.append a.1.1, k0.append a.1.2), g) ∈ cx'.edges)) :=
  ⟨fun e he => connect_sound ops left right cx' h e he,
   fun a ha l0 w0 hw => connect_complete_left ops left right cx' hl hbl hbr h a ha l0 w0 hw,
   fun a ha k0 v0 hv => connect_complete_right ops left right cx' hr hbl hbr h a ha k0 v0 hv⟩

/-- the entries of the product complex: `D((k,l) → (x,y)) = [y = l]·(d₁(k→x) ⊗ 1_l) + [x = k]·(−1)^{w(k)}·(1_k ⊗ d₂(l→y))` -/
theorem connect_entries {E : Type} [Ring E] (ops : EdgeOps E) (tl tr : E → Tng.Tng → E)
    (hops : RingTensorOps ops tl tr) (left right cx' : Cx E) (hl : WF ops left) (hr : WF ops right)
    (hbl : Bounded left) (hbr : Bounded right) (h : left.connect ops right = .ok cx') (k x l y : TKey)
    (v w : Tng.Tng) (hx : x ∈ left.verts.map (·.1)) (hy : y ∈ right.verts.map (·.1))
    (hv : left.tng? k = some v) (hw : right.tng? l = some w) :
    ent cx' (k.append l) (x.append y) =
      (if y = l then tl (ent left k x) w else 0) + (if x = k then sg left k (tr (ent right l y) v) else 0) := by
  simpa only [entV_id, sgV_eq_sg] using
    connect_entV id ops tl tr hops.toVal left right cx' hl hr hbl hbr h k x l y v w hx hy hv hw

/-- **`connect` preserves `d ∘ d = 0`** (the tensor product of two complexes with the sign rule of `connect_edges`) -/
theorem connect_preserves_dd {E : Type} [Ring E] (ops : EdgeOps E) (tl tr : E → Tng.Tng → E)
    (hops : RingTensorOps ops tl tr) (left right cx' : Cx E) (hl : WF ops left) (hr : WF ops right)
    (hbl : Bounded left) (hbr : Bounded right)
    (hX : ∀ k k' l l' f g, left.edge? k k' = some f → right.edge? l l' = some g →
      tr g (tngOf left k') * tl f (tngOf right l) = tl f (tngOf right l') * tr g (tngOf left k))
    (hd1 : DD left) (hd2 : DD right) (h : left.connect ops right = .ok cx') : DD cx' :=
  (DDV_id cx').1 (connect_ddV id ops tl tr hops.toVal left right cx' hl hr hbl hbr hX
    ((DDV_id left).2 hd1) ((DDV_id right).2 hd2) h)

/-- the two-vertex complex of a crossing (`make_x`) is well formed, bounded, and has `d ∘ d = 0` (no two composable
edges), so **`append` preserves `d ∘ d = 0`** as the special case of `connect` -/
theorem append_preserves_dd {E : Type} [Ring E] (ops : EdgeOps E) (mkSdl : Tng.CobComp → E) (tl tr : E → Tng.Tng → E)
    (hops : RingTensorOps ops tl tr) (hX : ∀ f g v v' w w', tr g v' * tl f w = tl f w' * tr g v)
    (cx cx' : Cx E) (ct : KhRef.CT) (e : Array Nat) (hwf : WF ops cx) (hb : Bounded cx) (hdd : DD cx)
    (h : cx.appendX ops mkSdl ct e = .ok cx') : WF ops cx' ∧ Bounded cx' ∧ DD cx' := by
  obtain ⟨x, hx, hc⟩ := appendX_ok ops mkSdl cx cx' ct e h
  obtain ⟨bx, _⟩ := bounded_makeX ops mkSdl ct e x hx
  have wx := wf_makeX ops mkSdl ct e x hx
  exact ⟨wf_connect ops cx x cx' hwf wx hc, bounded_connect ops cx x cx' hb bx hc,
    connect_preserves_dd ops tl tr hops cx x cx' hwf wx hb bx (fun k k' l l' f g _ _ => hX f g _ _ _ _) hdd
      ((DDV_id x).1 (ddV_makeX id ops mkSdl ct e x hx)) hc⟩

/-- **EVERY engine script of the model preserves `d ∘ d = 0`** (together with well-formedness, bounded weights and
the base point): induction over the list of `append` / `deloop` / `eliminate` / `connect` steps; `connect` only with
complexes that have the invariant themselves (e.g. results of scripts) and a compatible base point -/
theorem script_preserves_dd {E : Type} [Ring E] (ops : EdgeOps E) (mkSdl : Tng.CobComp → E) (tl tr : E → Tng.Tng → E)
    (hE : RingEdgeOps ops) (hT : RingTensorOps ops tl tr)
    (hX : ∀ f g v v' w w', tr g v' * tl f w = tl f w' * tr g v) (base : Option Nat)
    (hdl : ∀ c : Tng.Path, ∃ cap cup : Tng.Dot → E, RingDeloopOps ops c cap cup ∧
      (if (match base with | some e => c.contains e | none => false) = true then cup .X * cap .none = 1
       else cup .X * cap .none + cup .none * cap .Y = 1))
    (steps : List (Step E)) (cx cx' : Cx E) (hg : Good ops base cx)
    (hcon : ∀ o, Step.con o ∈ steps → ∃ obase, Good ops obase o ∧ base.or obase = base)
    (h : runScript ops mkSdl steps cx = .ok cx') : Good ops base cx' :=
  Good.toV.2 (script_ddV id ops mkSdl base tl tr (valLaws_id ops tl tr hE hT hX base hdl) steps cx cx' (Good.toV.1 hg)
    (fun o ho => (hcon o ho).imp fun _ hob => ⟨Good.toV.1 hob.1, hob.2⟩) h)

/-- … in particular from `TngComplex::init`: whatever script (without `connect` of foreign complexes) is run, the
result is well formed and has `d ∘ d = 0` -/
theorem script_from_init_dd {E : Type} [Ring E] (ops : EdgeOps E) (mkSdl : Tng.CobComp → E) (tl tr : E → Tng.Tng → E)
    (hE : RingEdgeOps ops) (hT : RingTensorOps ops tl tr)
    (hX : ∀ f g v v' w w', tr g v' * tl f w = tl f w' * tr g v) (dh dq : Int) (base : Option Nat)
    (hdl : ∀ c : Tng.Path, ∃ cap cup : Tng.Dot → E, RingDeloopOps ops c cap cup ∧
      (if (match base with | some e => c.contains e | none => false) = true then cup .X * cap .none = 1
       else cup .X * cap .none + cup .none * cap .Y = 1))
    (steps : List (Step E)) (cx' : Cx E) (hcon : ∀ o, Step.con o ∉ steps)
    (h : runScript ops mkSdl steps (Cx.init dh dq base) = .ok cx') : WF ops cx' ∧ DD cx' := by
  have := script_preserves_dd ops mkSdl tl tr hE hT hX base hdl steps _ cx' (Good.toV.2 (goodV_init id ops dh dq base))
    (fun o ho => absurd ho (hcon o)) h
  exact ⟨this.wf, this.dd⟩

/-- non-vacuity: over ℤ (commutative) with `f ⊗ 1 = f`, `1 ⊗ g = g` the toy algebra satisfies `RingTensorOps` and the
interchange law, and the toy `deloop` algebra satisfies both delooping hypotheses at once; a script with an
`append`, a `connect` and an `eliminate` runs on it -/
example : RingTensorOps toyOps (fun f _ => f) (fun g _ => g) ∧
    (∀ f g : Int, ∀ v v' w w' : Tng.Tng, (fun g (_ : Tng.Tng) => g) g v' * (fun f (_ : Tng.Tng) => f) f w
      = (fun f (_ : Tng.Tng) => f) f w' * (fun g (_ : Tng.Tng) => g) g v) := by
  refine ⟨⟨fun _ _ => rfl, fun neg g v => by cases neg <;> rfl, fun x h => by simpa [toyOps] using h,
    fun _ => rfl, fun _ => rfl, fun _ _ _ => rfl, fun _ _ _ => rfl, fun _ _ _ => rfl, fun _ _ _ => rfl⟩, ?_⟩
  intro f g _ _ _ _
  exact mul_comm g f

example : (runScript toyOps (fun _ => 1)
    [.app .X #[0, 1, 2, 3], .con toyZ, .el ⟨[false, false], [.X]⟩ ⟨[false, true], [.X]⟩] (Cx.init 0 0 none)).isOk = true := by
  decide +kernel

end Yuiv.C05.Engine
