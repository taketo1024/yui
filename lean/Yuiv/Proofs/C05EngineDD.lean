import Yuiv.Proofs.C05EngineVal
import Mathlib.Tactic.NoncommRing
import Mathlib.Tactic.Abel
/-
C05 (engine) — Gaussian elimination of the MODEL preserves `d ∘ d = 0` in values (`eliminate_ddV`); the notions for edge
labels that live in a ring with the ring operations as edge operations (`ent`, `ddAt`, `DD`, `RingEdgeOps`) and the
bridge `val = id` to them (`entV_id`, `DDV_id`, `RingEdgeOps.toVal`).
-/
namespace Yuiv.C05.Engine
open Yuiv.C05.Tng

section values
variable {E A : Type} [Ring A]

theorem entV_eliminate (val : E → A) (ops : EdgeOps E) (hops : ValEdgeOps ops val) (cx cx' : Cx E) (k0 k1 : TKey)
    (hwf : WF ops cx) (h : cx.eliminate ops k0 k1 = .ok cx') :
    ∃ a ainv, cx.edge? k0 k1 = some a ∧ ops.inv a = .ok ainv ∧
      ∀ l0 l1 : TKey,
        ((isPivot k0 k1 l0 = true ∨ isPivot k0 k1 l1 = true) → entV val cx' l0 l1 = 0) ∧
        (isPivot k0 k1 l0 = false → isPivot k0 k1 l1 = false →
          entV val cx' l0 l1 = entV val cx l0 l1 - entV val cx k0 l1 * val ainv * entV val cx l0 k1) := by
  obtain ⟨a, ainv, ha, hi, hall⟩ := eliminate_rewrites_edges ops cx cx' k0 k1 hwf h
  refine ⟨a, ainv, ha, hi, ?_⟩
  intro l0 l1
  refine ⟨fun hp => entV_of_none val cx' l0 l1 ((hall l0 l1).1 hp), ?_⟩
  intro p0 p1
  obtain ⟨hsome, hnone⟩ := (hall l0 l1).2 p0 p1
  rcases hb : cx.edge? l0 k1 with _ | b
  · rw [entV_congr val cx cx' l0 l1 l0 l1 (hnone (.inl hb)), entV_of_none val cx l0 k1 hb, mul_zero, sub_zero]
  · rcases hc : cx.edge? k0 l1 with _ | c
    · rw [entV_congr val cx cx' l0 l1 l0 l1 (hnone (.inr hc)), entV_of_none val cx k0 l1 hc, zero_mul, zero_mul,
        sub_zero]
    · obtain ⟨cab, hcab, he⟩ := hsome b c hb hc
      have hv := hops.cab c ainv b cab hcab
      rw [entV_of_edge val cx l0 k1 b hb, entV_of_edge val cx k0 l1 c hc, ← hv]
      rcases hd : cx.edge? l0 l1 with _ | dd
      · simp only [hd] at he
        rw [entV_of_none val cx l0 l1 hd, zero_sub, ← hops.neg]
        exact entV_of_kept val ops hops.zero cx' l0 l1 _ he
      · simp only [hd] at he
        rw [entV_of_edge val cx l0 l1 dd hd, ← hops.sub]
        exact entV_of_kept val ops hops.zero cx' l0 l1 _ he

/-- Gaussian elimination on a square-zero matrix `d` over a finite index set, the pivot `d k0 k1` having only a LOCAL
two-sided inverse `iv`: the Schur complement on the other indices squares to zero. -/
theorem schur_local_sq_zero {ι A : Type} [DecidableEq ι] [Ring A] (S : Finset ι) (k0 k1 : ι) (h0 : k0 ∈ S) (h1 : k1 ∈ S)
    (hne : k0 ≠ k1) (d : ι → ι → A) (iv : A) (hs0 : d k0 k0 = 0) (hs1 : d k1 k1 = 0)
    (hu1 : ∀ m, d k1 m * (d k0 k1 * iv) = d k1 m) (hu2 : ∀ k, (iv * d k0 k1) * d k k0 = d k k0)
    (hdd : ∀ k m, ∑ l ∈ S, d l m * d k l = 0) (k m : ι) :
    ∑ l ∈ (S.erase k0).erase k1, (d l m - d k0 m * iv * d l k1) * (d k l - d k0 l * iv * d k k1) = 0 := by
  -- summed over ALL indices the formula gives four instances of `d ∘ d = 0`
  have hall : ∑ l ∈ S, (d l m - d k0 m * iv * d l k1) * (d k l - d k0 l * iv * d k k1) = 0 := by
    have hterm : ∀ l, (d l m - d k0 m * iv * d l k1) * (d k l - d k0 l * iv * d k k1) =
        d l m * d k l - (d l m * d k0 l) * (iv * d k k1) - (d k0 m * iv) * (d l k1 * d k l)
          + (d k0 m * iv) * (d l k1 * d k0 l) * (iv * d k k1) := by
      intro l
      noncomm_ring
    rw [Finset.sum_congr rfl (fun l _ => hterm l), Finset.sum_add_distrib, Finset.sum_sub_distrib,
      Finset.sum_sub_distrib, ← Finset.sum_mul, ← Finset.mul_sum, ← Finset.sum_mul, ← Finset.mul_sum,
      hdd k m, hdd k0 m, hdd k k1, hdd k0 k1]
    simp only [zero_mul, mul_zero, sub_zero, add_zero]
  -- and the two pivot terms vanish: no loops, and `iv` is a local inverse
  have e0 : (d k0 m - d k0 m * iv * d k0 k1) * (d k k0 - d k0 k0 * iv * d k k1) = 0 := by
    rw [hs0, zero_mul, zero_mul, sub_zero, sub_mul, mul_assoc (d k0 m) iv, mul_assoc (d k0 m), hu2 k, sub_self]
  have e1 : (d k1 m - d k0 m * iv * d k1 k1) * (d k k1 - d k0 k1 * iv * d k k1) = 0 := by
    rw [hs1, mul_zero, sub_zero, mul_sub, ← mul_assoc (d k1 m), hu1 m, sub_self]
  have h1' : k1 ∈ S.erase k0 := Finset.mem_erase.2 ⟨fun e => hne e.symm, h1⟩
  rw [← Finset.add_sum_erase S _ h0, ← Finset.add_sum_erase (S.erase k0) _ h1', e0, e1, zero_add, zero_add] at hall
  exact hall

/-- the inverse only has to be a LOCAL two-sided inverse:
`a·a⁻¹` fixes the labels out of `k1` from the right, `a⁻¹·a` fixes the labels into `k0` from the left -/
theorem eliminate_ddV (val : E → A) (ops : EdgeOps E) (hops : ValEdgeOps ops val) (cx cx' : Cx E) (k0 k1 : TKey)
    (hwf : WF ops cx)
    (hunit : ∀ a ainv, cx.edge? k0 k1 = some a → ops.inv a = .ok ainv →
      (∀ m, entV val cx k1 m * (val a * val ainv) = entV val cx k1 m) ∧
      (∀ k, (val ainv * val a) * entV val cx k k0 = entV val cx k k0))
    (hdd : DDV val cx) (h : cx.eliminate ops k0 k1 = .ok cx') : DDV val cx' := by
  obtain ⟨a, ainv, ha, hinv, hent⟩ := entV_eliminate val ops hops cx cx' k0 k1 hwf h
  obtain ⟨hu1, hu2⟩ := hunit a ainv ha hinv
  rw [← entV_of_edge val cx k0 k1 a ha] at hu1 hu2
  have hpe := mem_of_edge? ha
  obtain ⟨hk0, hk1⟩ := hwf.ends _ hpe
  have hdeg := hwf.deg _ hpe
  simp only at hk0 hk1 hdeg
  have hne : k0 ≠ k1 := by intro e; rw [e] at hdeg; omega
  intro k m
  unfold ddAtV
  have hS : (cx'.verts.map (·.1)).toFinset = ((cx.verts.map (·.1)).toFinset.erase k0).erase k1 := by
    rw [(eliminate_verts ops cx cx' k0 k1 h).1]
    ext x
    simp only [List.mem_toFinset, List.mem_map, List.mem_filter, Finset.mem_erase, isPivot, Bool.not_eq_eq_eq_not,
      Bool.not_true, Bool.or_eq_false_iff, decide_eq_false_iff_not]
    constructor
    · rintro ⟨v, ⟨hv, hp0, hp1⟩, rfl⟩; exact ⟨hp1, hp0, v, hv, rfl⟩
    · rintro ⟨hp1, hp0, v, hv, rfl⟩; exact ⟨v, ⟨hv, hp0, hp1⟩, rfl⟩
  rw [hS]
  by_cases pk : isPivot k0 k1 k = true
  · exact Finset.sum_eq_zero fun l _ => by rw [(hent k l).1 (.inl pk), mul_zero]
  by_cases pm : isPivot k0 k1 m = true
  · exact Finset.sum_eq_zero fun l _ => by rw [(hent l m).1 (.inr pm), zero_mul]
  have pk' : isPivot k0 k1 k = false := by simpa using pk
  have pm' : isPivot k0 k1 m = false := by simpa using pm
  have hpl : ∀ l ∈ ((cx.verts.map (·.1)).toFinset.erase k0).erase k1, isPivot k0 k1 l = false := by
    intro l hl
    simp only [Finset.mem_erase] at hl
    simp [isPivot, hl.1, hl.2.1]
  -- off the pivots the new entries are the Schur complement of the old ones
  rw [Finset.sum_congr rfl (fun l hl => by rw [(hent l m).2 (hpl l hl) pm', (hent k l).2 pk' (hpl l hl)])]
  exact schur_local_sq_zero _ k0 k1 (List.mem_toFinset.2 hk0) (List.mem_toFinset.2 hk1) hne (entV val cx) (val ainv)
    (entV_self val ops cx hwf k0) (entV_self val ops cx hwf k1) hu1 hu2 hdd k m

end values

variable {E : Type} [Ring E]

def ent (cx : Cx E) (k l : TKey) : E := (cx.edge? k l).getD 0

def ddAt (cx : Cx E) (k m : TKey) : E := ∑ l ∈ (cx.verts.map (·.1)).toFinset, ent cx l m * ent cx k l

def DD (cx : Cx E) : Prop := ∀ k m, ddAt cx k m = 0

/-- the edge operations used by `eliminate` are the operations of the ring `E` -/
structure RingEdgeOps (ops : EdgeOps E) : Prop where
  cab : ∀ c ainv b, ops.cab c ainv b = .ok (c * ainv * b)
  sub : ∀ d x, ops.sub d x = d - x
  neg : ∀ x, ops.neg x = -x
  zero : ∀ x, ops.isZero x = true → x = 0
  inv : ∀ a ainv, ops.inv a = .ok ainv → a * ainv = 1 ∧ ainv * a = 1

theorem entV_id (cx : Cx E) (k l : TKey) : entV id cx k l = ent cx k l := by
  unfold entV ent
  rw [Option.map_id_fun, id]

theorem DDV_id (cx : Cx E) : DDV id cx ↔ DD cx := by
  unfold DDV DD ddAtV ddAt
  simp only [entV_id]

theorem RingEdgeOps.toVal {ops : EdgeOps E} (hops : RingEdgeOps ops) : ValEdgeOps ops id where
  cab c ainv b r h := by rw [hops.cab] at h; cases h; rfl
  sub := hops.sub
  neg := hops.neg
  zero := hops.zero

/-- three levels with composable edges: `u → {k0, l0} → {k1, l1}`, `x = 2, y = 1; a = 1, b = −2, c = 3, d = −6` -/
def toyCube : Cx Int :=
  ⟨0, 0, none, 2,
   [(⟨[false, false], []⟩, []), (⟨[true, false], []⟩, []), (⟨[false, true], []⟩, []),
    (⟨[true, true], [.X]⟩, []), (⟨[true, true], [.I]⟩, [])],
   [((⟨[false, false], []⟩, ⟨[true, false], []⟩), 2), ((⟨[false, false], []⟩, ⟨[false, true], []⟩), 1),
    ((⟨[true, false], []⟩, ⟨[true, true], [.X]⟩), 1), ((⟨[false, true], []⟩, ⟨[true, true], [.X]⟩), -2),
    ((⟨[true, false], []⟩, ⟨[true, true], [.I]⟩), 3), ((⟨[false, true], []⟩, ⟨[true, true], [.I]⟩), -6)]⟩

end Yuiv.C05.Engine
