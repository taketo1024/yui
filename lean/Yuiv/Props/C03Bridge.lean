import Yuiv.Proofs.C03Bridge
import Yuiv.Props.C09Full
import Yuiv.Props.C03Uct
/-
C03Bridge — the counting universal coefficient theorem of `Props/C03Uct.lean`, applied to what the library's CODE
MODEL reports.

Two executable models are involved, both proved total and correct elsewhere:
  * `C09.snfCalc C09.intOps true (fun s => .ok s) fuel A`  — code model of `SnfCalc::process` over ℤ
    (Props/C09Full: `snf_total_correct`);
  * `C07.calculate (C07.snfC09 fuel) d1 d2 true`           — code model of `HomologyCalc::calculate` literally composed
    with that SNF (Props/C07Full: `calculate_end_to_end`).
Convention as in C07: `d1 : n×m` is the INCOMING differential of the group `ℤⁿ` (`n = d1.r`), `d2 : k×n` the outgoing
one, `d2·d1 = 0`; the model reports `(rank, tors)` of `H = ker d2 / im d1`.

What each clause of property C03 is, at model level:
  * "rank over ℚ = free rank over ℤ"  — `library_model_uct` (b): the `rank` returned by the model of `calculate` over ℤ
    equals `dim_ℚ ker(d2⊗ℚ)/im(d1⊗ℚ)` = `n − rk_ℚ d1 − rk_ℚ d2`;
  * "dim over 𝔽_p = free rank + #{p ∣ torsion here} + #{p ∣ torsion in the next degree}" — `library_model_uct` (c), (d):
    with `(rank, tors)` the model's answer for `(d1, d2)` and `tors'` the model's answer for the next pair `(d2, d3)`,
    the sum equals `dim_𝔽p ker(d2⊗𝔽_p)/im(d1⊗𝔽_p)` = `n − rk_p d1 − rk_p d2`, for EVERY prime `p`; in table form it is
    `C03.dimFp p z i j` for any table `z` holding the two reported cells at `(i,j)`, `(i+1,j)`;
  * what is connected only by testing: that the 𝔽_p / ℚ tables the library prints are the homology dimensions of
    the reduced complexes (the same `calculate` over a field: C07Euc/C09Euc prove the field models correct, the
    identification "rank reported over the field K = n − rk_K d1 − rk_K d2" is their `rank + r(d1) + r(d2) = n` clause
    with `r = Matrix.rank`, not restated here); the bigraded splitting (`collect_gen_info`, F5) and the 𝔽₂
    reduced/unreduced clause are untouched.
Limitations inherited from C07Full/C09Full: identity preprocessing instead of LLL–HNF, debug build, existential fuel.
-/
namespace Yuiv.C03Bridge
open Matrix Module Yuiv Yuiv.C03 Yuiv.C03Uct

/-- whenever the code model of the library's SNF over ℤ returns a state `s`, the diagonal `d` of its target is a
diagonal form of the input in the sense of `C03Uct` (`P·A·Q = rectDiag d` with the model's own `P, P⁻¹, Q, Q⁻¹`),
all `dₖ ≥ 0`, and `d` is a divisibility chain -/
theorem c09_result_equivDiag {m n : ℕ} (fuel : ℕ) (A : C09.Mat Int m n) (s : C09.St Int m n)
    (h : C09.snfCalc C09.intOps true (fun s => .ok s) fuel A = .ok s) :
    EquivDiag (C09.toM id A) (C09.diagL s.t) ∧ (∀ x ∈ C09.diagL s.t, 0 ≤ x) ∧
      (∀ i (hi : i + 1 < (C09.diagL s.t).length), (C09.diagL s.t)[i] ∣ (C09.diagL s.t)[i + 1]) := by
  obtain ⟨⟨hT, hP, hQ⟩, hD, hS⟩ := C09.snf_correct fuel A s h
  refine ⟨?_, shapeSpec_nonneg_chain _ hS⟩
  refine EquivDiag.of_inverses _ _ (C09.toM id s.p) (C09.toM id s.pinv) (C09.toM id s.q) (C09.toM id s.qinv)
    (by rw [diagL_length]) hP hQ ?_
  rw [hT]
  exact toM_eq_rectDiag s.t hD

/-- total form: for every integer matrix the model returns (for all sufficiently large fuel) one state, and its
diagonal is a non-negative divisibility chain which is a diagonal form of the input -/
theorem c09_total_equivDiag {m n : ℕ} (A : C09.Mat Int m n) :
    ∃ (N : ℕ) (s : C09.St Int m n),
      (∀ fuel, N ≤ fuel → C09.snfCalc C09.intOps true (fun s => .ok s) fuel A = .ok s) ∧
      EquivDiag (C09.toM id A) (C09.diagL s.t) ∧ (∀ x ∈ C09.diagL s.t, 0 ≤ x) ∧
      (∀ i (hi : i + 1 < (C09.diagL s.t).length), (C09.diagL s.t)[i] ∣ (C09.diagL s.t)[i + 1]) := by
  obtain ⟨N, s, hN, _⟩ := C09.snf_total_correct A
  exact ⟨N, s, hN, c09_result_equivDiag N A s (hN N (Nat.le_refl _))⟩

/-- the `(rank, tors)` which the code model of `HomologyCalc::calculate` (running on the code model of the library's
SNF) reports for `d1, d2` with `d2·d1 = 0` is EXACTLY `cellOf n dA dB`, where `dA`, `dB` are the Smith diagonals the SNF
model computes for `d1`, `d2` — and these are diagonal forms of `d1`, `d2`.  Moreover the torsion the model reports
for the NEXT group (it depends on `d2` only) is `torsOf dB`. -/
theorem c07_cell_is_cellOf (d1 d2 : C07.Mat) (hsh : d2.c = d1.r)
    (hdd : d2.toM d2.r d1.r * d1.toM d1.r d1.c = 0) :
    ∃ (N : ℕ) (st1 : C09.St Int d1.r d1.c) (st2 : C09.St Int d2.r d2.c) (rank : ℕ) (tors : List ℤ) (T : C07.Trans),
      (∀ fuel, N ≤ fuel → C09.snfCalc C09.intOps true (fun s => .ok s) fuel (C07.toC09 d1) = .ok st1) ∧
      (∀ fuel, N ≤ fuel → C09.snfCalc C09.intOps true (fun s => .ok s) fuel (C07.toC09 d2) = .ok st2) ∧
      (∀ fuel, N ≤ fuel → C07.calculate (C07.snfC09 fuel) d1 d2 true = .ok (rank, tors, some T)) ∧
      EquivDiag (d1.toM d1.r d1.c) (C09.diagL st1.t) ∧ EquivDiag (d2.toM d2.r d1.r) (C09.diagL st2.t) ∧
      (⟨rank, tors⟩ : Cell) = cellOf d1.r (C09.diagL st1.t) (C09.diagL st2.t) ∧
      C07.nonUnitFactors st2 = torsOf (C09.diagL st2.t) := by
  obtain ⟨N, st1, st2, rank, tors, T, P, Q, h1, h2, hcalc, _, _, hrank, _, _, htors, _⟩ :=
    C07.calculate_end_to_end d1 d2 hsh hdd
  obtain ⟨hE1, hnn1, _⟩ := c09_result_equivDiag N _ st1 (h1 N (Nat.le_refl _))
  obtain ⟨hE2, hnn2, _⟩ := c09_result_equivDiag N _ st2 (h2 N (Nat.le_refl _))
  rw [C07.toC09_toM] at hE1 hE2
  refine ⟨N, st1, st2, rank, tors, T, h1, h2, hcalc, hE1, equivDiag_cast d2 _ hsh hE2, ?_,
    nonUnitFactors_eq_torsOf st2 hnn2⟩
  rw [nzCount_eq_nz, nzCount_eq_nz] at hrank
  rw [htors, nonUnitFactors_eq_torsOf st1 hnn1]
  unfold cellOf
  congr 1
  omega

/-- two consecutive differentials: the model's ℤ-answer `(rank, tors)` for `(d1, d2)` and the torsion `tors'` read off
the model's SNF of `d2` (= what the model reports as torsion of the next group, see `library_model_uct`) satisfy, for
every prime `p`, the identity the C03 oracle evaluates, and `rank` is the rational Betti number -/
theorem library_model_uct_pair (d1 d2 : C07.Mat) (hsh : d2.c = d1.r)
    (hdd : d2.toM d2.r d1.r * d1.toM d1.r d1.c = 0) :
    ∃ (N : ℕ) (st2 : C09.St Int d2.r d2.c) (rank : ℕ) (tors : List ℤ) (T : C07.Trans),
      (∀ fuel, N ≤ fuel → C09.snfCalc C09.intOps true (fun s => .ok s) fuel (C07.toC09 d2) = .ok st2) ∧
      (∀ fuel, N ≤ fuel → C07.calculate (C07.snfC09 fuel) d1 d2 true = .ok (rank, tors, some T)) ∧
      rank = d1.r - (toRat (d1.toM d1.r d1.c)).rank - (toRat (d2.toM d2.r d1.r)).rank ∧
      rank = finrank ℚ (Homology (toRat (d1.toM d1.r d1.c)) (toRat (d2.toM d2.r d1.r))) ∧
      ∀ (p : ℕ) [Fact p.Prime],
        rank + (tors.filter (fun a => a % (p : ℤ) == 0)).length
             + ((C07.nonUnitFactors st2).filter (fun a => a % (p : ℤ) == 0)).length
          = d1.r - (redMod p (d1.toM d1.r d1.c)).rank - (redMod p (d2.toM d2.r d1.r)).rank ∧
        rank + (tors.filter (fun a => a % (p : ℤ) == 0)).length
             + ((C07.nonUnitFactors st2).filter (fun a => a % (p : ℤ) == 0)).length
          = finrank (ZMod p) (Homology (redMod p (d1.toM d1.r d1.c)) (redMod p (d2.toM d2.r d1.r))) := by
  obtain ⟨N, st1, st2, rank, tors, T, _, h2, hcalc, hE1, hE2, hcell, hnext⟩ := c07_cell_is_cellOf d1 d2 hsh hdd
  have hr : rank = (cellOf d1.r (C09.diagL st1.t) (C09.diagL st2.t)).rank := congrArg Cell.rank hcell
  have ht : tors = torsOf (C09.diagL st1.t) := congrArg Cell.tors hcell
  refine ⟨N, st2, rank, tors, T, h2, hcalc, ?_, ?_, ?_⟩
  · rw [hr]; exact (uct_rank_rat _ _ _ _ hE1 hE2).symm
  · rw [hr]; exact (uct_homology_rat _ _ hdd _ _ hE1 hE2).symm
  · intro p _
    rw [hr, ht, hnext]
    exact ⟨(uct_count_fp p _ _ hdd _ _ hE1 hE2).symm, (uct_homology_fp p _ _ hdd _ _ hE1 hE2).symm⟩

/-- **library_model_uct** — three consecutive differentials `d1, d2, d3` of an integer complex (`d2·d1 = 0`,
`d3·d2 = 0`).  There is a fuel bound from which on the code model of `HomologyCalc::calculate` (on the code model of the
library's SNF) returns the ℤ-cells `c = (rank, tors)` of `H = ker d2/im d1` and `c'` of the next group `ker d3/im d2`, and
 (a) both are returned without panic or fuel exhaustion;
 (b) `c.rank` = `dim_ℚ` of the homology of the complex tensored with ℚ  (clause "rank_ℚ = rank_ℤ");
 (c) for every prime `p`: `c.rank + #{a ∈ c.tors : p ∣ a} + #{a ∈ c'.tors : p ∣ a}` = `n − rk_p d1 − rk_p d2`
     = `dim_𝔽p` of the homology of the complex reduced mod `p`  (clause "dim_Fp formula");
 (d) in the vocabulary of `Model/C03`: for every table `z` holding `c` at `(i,j)` and `c'` at `(i+1,j)`,
     `dimFp p z i j` is that dimension and `(z.get (i,j)).rank` is the rational one. -/
theorem library_model_uct (d1 d2 d3 : C07.Mat) (h12 : d2.c = d1.r) (h23 : d3.c = d2.r)
    (hdd : d2.toM d2.r d1.r * d1.toM d1.r d1.c = 0) (hdd' : d3.toM d3.r d2.r * d2.toM d2.r d2.c = 0) :
    ∃ (N : ℕ) (c c' : Cell) (T T' : C07.Trans),
      (∀ fuel, N ≤ fuel → C07.calculate (C07.snfC09 fuel) d1 d2 true = .ok (c.rank, c.tors, some T)) ∧
      (∀ fuel, N ≤ fuel → C07.calculate (C07.snfC09 fuel) d2 d3 true = .ok (c'.rank, c'.tors, some T')) ∧
      c.rank = finrank ℚ (Homology (toRat (d1.toM d1.r d1.c)) (toRat (d2.toM d2.r d1.r))) ∧
      (∀ (p : ℕ) [Fact p.Prime],
        c.rank + (c.tors.filter (fun a => a % (p : ℤ) == 0)).length
               + (c'.tors.filter (fun a => a % (p : ℤ) == 0)).length
          = d1.r - (redMod p (d1.toM d1.r d1.c)).rank - (redMod p (d2.toM d2.r d1.r)).rank ∧
        c.rank + (c.tors.filter (fun a => a % (p : ℤ) == 0)).length
               + (c'.tors.filter (fun a => a % (p : ℤ) == 0)).length
          = finrank (ZMod p) (Homology (redMod p (d1.toM d1.r d1.c)) (redMod p (d2.toM d2.r d1.r)))) ∧
      (∀ (z : Table) (i j : ℤ), z.get (i, j) = c → z.get (i + 1, j) = c' →
        (z.get (i, j)).rank = finrank ℚ (Homology (toRat (d1.toM d1.r d1.c)) (toRat (d2.toM d2.r d1.r))) ∧
        ∀ (p : ℕ) [Fact p.Prime], dimFp (p : ℤ) z i j
          = finrank (ZMod p) (Homology (redMod p (d1.toM d1.r d1.c)) (redMod p (d2.toM d2.r d1.r)))) := by
  obtain ⟨N, st2, rank, tors, T, h2, hcalc, _, hQ, hp⟩ := library_model_uct_pair d1 d2 h12 hdd
  obtain ⟨N', st2', _, rank', tors', T', _, _, h2', _, hcalc', _, _, _, _, _, htors', _⟩ :=
    C07.calculate_end_to_end d2 d3 h23 hdd'
  -- the SNF model is a function: both calls see the same final state for `d2`
  have hst : st2' = st2 := by
    have a := h2 (max N N') (le_max_left _ _)
    have b := h2' (max N N') (le_max_right _ _)
    rw [a] at b
    injection b with b
    exact b.symm
  subst hst
  have hfp : ∀ (p : ℕ) [Fact p.Prime],
      rank + (tors.filter (fun a => a % (p : ℤ) == 0)).length
             + (tors'.filter (fun a => a % (p : ℤ) == 0)).length
          = d1.r - (redMod p (d1.toM d1.r d1.c)).rank - (redMod p (d2.toM d2.r d1.r)).rank ∧
        rank + (tors.filter (fun a => a % (p : ℤ) == 0)).length
             + (tors'.filter (fun a => a % (p : ℤ) == 0)).length
          = finrank (ZMod p) (Homology (redMod p (d1.toM d1.r d1.c)) (redMod p (d2.toM d2.r d1.r))) := by
    intro p _
    rw [htors']
    exact hp p
  refine ⟨max N N', ⟨rank, tors⟩, ⟨rank', tors'⟩, T, T',
    fun fuel hf => hcalc fuel (le_trans (le_max_left _ _) hf),
    fun fuel hf => hcalc' fuel (le_trans (le_max_right _ _) hf), hQ, hfp, ?_⟩
  intro z i j hz hz'
  refine ⟨by rw [hz]; exact hQ, ?_⟩
  intro p _
  unfold dimFp
  rw [hz, hz']
  exact (hfp p).2

/-- `ℤ³ --d1--> ℤ⁴ --d2--> ℤ¹` of `Props/C07Full.lean` (`H = ℤ ⊕ ℤ/2 ⊕ ℤ/6`): the SNF model's diagonal of `d1` is
`[2, 6, 0]`, and the hypotheses `d2.c = d1.r`, `d2·d1 = 0` of the theorems hold -/
example : (match C09.snfCalc C09.intOps true (fun s => .ok s) 50
      (C07.toC09 ⟨4, 3, #[2, 0, 0, 2, 6, 0, 0, 0, 0, 0, 0, 0]⟩) with
    | .ok s => C09.diagL s.t == [2, 6, 0]
    | _ => false) = true := by decide +kernel

example : C07.runsTo ⟨4, 3, #[2, 0, 0, 2, 6, 0, 0, 0, 0, 0, 0, 0]⟩ ⟨1, 4, #[0, 0, 0, 1]⟩ 1 [2, 6] = true :=
  C07.runsTo_free_tors

/-- … and the count on the reported cell `⟨1, [2, 6]⟩` (next group: no torsion): `dim_𝔽₂ = 3`, `dim_𝔽₃ = 2`, `dim_𝔽₅ = 1` -/
example : dimFp 2 [((0, 0), ⟨1, [2, 6]⟩), ((1, 0), ⟨0, []⟩)] 0 0 = 3 ∧
    dimFp 3 [((0, 0), ⟨1, [2, 6]⟩), ((1, 0), ⟨0, []⟩)] 0 0 = 2 ∧
    dimFp 5 [((0, 0), ⟨1, [2, 6]⟩), ((1, 0), ⟨0, []⟩)] 0 0 = 1 := by decide

end Yuiv.C03Bridge
