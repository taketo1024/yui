import Yuiv.Proofs.C06Closure
import Yuiv.Proofs.C06ClosureStrand
import Yuiv.Proofs.C06ClosureEx
import Yuiv.Proofs.C18BridgeMain
import Yuiv.Props.C06Cycle
/-
C06Closure — the per-instance hypothesis H of `Props/C06Cycle.canon_is_cycle` DISCHARGED for an infinite family:
BRAID CLOSURES.  Property theorems only.

Setting.  `C18.closure n w = .ok l` (the code model of `Link::from(&Braid)`: `n` strands, word `w` of non-zero letters
`±(g+1)` = `σ_g^{±1}`), `K := toKh l` the same diagram as a link of the cube reference `KhRef`.  Every label `e` of `K`
has a strand position `C18.posLab n w e`.  `braidState w` is the state whose bit `j` is `1` iff the `j`-th letter is
negative: the orientation preserving state for the all-downward orientation (`closure_state_is_oriPres`; it is the
`oriPresState` of the reference's OWN `crossingSigns` whenever the orientation is determined by the code, e.g. for
every knot — `closure_ref_signs`).  `parityCols n w cs` colours a circle by the parity of the position of its first
label.

What is proved (for EVERY `n`, `w`, `l` with `closure n w = .ok l`; no size bound, knots and links alike):
 * `closure_validK`                — `validK K` (the other hypothesis of `canon_is_cycle`), from `C18.closure_valid'`;
 * `closure_arcs`                  — the arcs of `braidState w`: at the crossing of `σ_g^{±1}` the entering label at
                                     position `g` is joined to the leaving label at `g`, the same at `g+1`;
 * `closure_position_on_circles`   — the position is constant on every circle of that state;
 * `closure_arc_relation_is_position`, `closure_circles_are_strands` — conversely all labels of one position lie on
                                     one circle (the strands close up; the fold of `closureStep` followed with the
                                     invariant `Col` of `Proofs/C06ClosureStrand`):
                                     the state has EXACTLY `n` circles, circle = all labels of one position
                                     `0..n−1`, and `k < n` is itself a label of the circle of position `k`;
 * `closure_crossing_two_circles`  — the four labels of the crossing of `σ_g^{±1}` have positions `g, g, g+1, g+1`,
                                     equal positions there lie on one circle: it touches exactly two circles;
 * `closure_bicoloured`            — H for the parity colouring;
 * `canon_is_cycle_closure`        — hence BOTH canonical chains of the parity colouring are cycles of the reference
                                     cube, any `h`, reduced or not, UNCONDITIONALLY;
 * `canon_is_cycle_closure_refsigns` — the same phrased with the state computed from `KhRef.crossingSigns`.

Not in this file (see `Props/C06Walk.lean`: `canon_reply_flags_closure`, `canon_reply_string_closure`): that the colours
which `C06Canon.coloredSeifertCircles` (walk model of `Link::seifert_circles` + BFS) assigns are the parity colours or
their swap, so that the reply of `Drv/C06.canonReply` on a closure is `chk=ok`.  That rests on the specification of the
walk model `componentsOf` (its paths = the classes of the arc relation), on `KhRef.circles` listing the circles by their
least label, and on the connectedness of the Seifert graph of a knot closure (every `σ_g`, `g + 1 < n`, occurs in the
word of a knot).
-/
namespace Yuiv.C06Closure
open Yuiv Yuiv.KhRef Yuiv.C06Canon Yuiv.C04Inv Yuiv.C06Cycle Yuiv.Drv.C06
open Yuiv.C18 (closure closure_bform closure_valid' posLab)
open Yuiv.C18Bridge (toKh encSign)

/-- the translated closure is a valid diagram of the reference (four slots per crossing, every label in exactly two
slots), all its crossings are unresolved, one per letter -/
theorem closure_validK (n : Nat) (w : List Int) (l : C18.Link) (h : closure n w = .ok l) :
    validK (toKh l) = true ∧ crossingNum (toKh l) = w.length ∧ (∀ c ∈ (toKh l).toList, c.ct = .X) := by
  obtain ⟨ins, outs, hB⟩ := closure_bform n w l h
  exact ⟨validK_toKh l (closure_valid' n w l h), crossingNum_toKh_closure hB, toKh_allX hB⟩

/-- `braidState w` is a vertex of the cube, and it is `Link::ori_pres_state` for the signs `+1` (positive letter),
`−1` (negative letter) -/
theorem closure_state_is_oriPres (w : List Int) :
    braidState w < 2 ^ w.length ∧ braidState w = oriPresState (w.map (fun s => if s > 0 then (1 : Int) else -1)) ∧
    ∀ j, (braidState w).testBit j = (braidBits w).getD j false :=
  ⟨braidState_lt w, braidState_eq w, fun j => testBit_bitsToNat _ j⟩

/-- if every component of the closure passes under somewhere (`Determined`, true for every knot with a crossing), the
reference's own `crossingSigns` are the letter signs and its orientation preserving state is `braidState w` -/
theorem closure_ref_signs (n : Nat) (w : List Int) (l : C18.Link) (h : closure n w = .ok l) (hD : C18.Determined l) :
    KhRef.crossingSigns (toKh l) = some ((w.map C18.braidSign).map encSign).toArray ∧
    oriPresState ((w.map C18.braidSign).map encSign) = braidState w := by
  have hv := closure_valid' n w l h
  obtain ⟨hO, hU⟩ := C18.closure_orient n w l h
  constructor
  · rw [C18Bridge.khSigns_enc l hv, C18.crossingSigns_determined' l hv _ hO hU hD, C18.closure_signs_braid n w l h]
    rfl
  · rw [braidState_eq, List.map_map]
    congr 1
    apply List.map_congr_left
    intro s _
    by_cases hs : s > 0 <;> simp [C18.braidSign, hs, encSign]

/-- the arcs of the state `braidState w`: exactly, for every letter `j` (`ins`, `outs` = the entering / leaving labels
of the normal form `C18.BForm`), the two arcs "enter at position `g` — leave at position `g`" and the same at `g+1`;
in particular every arc joins labels of equal position -/
theorem closure_arcs (n : Nat) (w : List Int) (l : C18.Link) (h : closure n w = .ok l) :
    ∃ ins outs, C18.BForm n w l ins outs ∧
      (∀ p, p ∈ statePairs (toKh l) (braidState w) ↔ ∃ j, j < w.length ∧
        (p = (if w.getD j 0 > 0 then (ins.getD (2 * j) 0, outs.getD (2 * j) 0)
              else (ins.getD (2 * j) 0, outs.getD (2 * j + 1) 0)) ∨
         p = (if w.getD j 0 > 0 then (outs.getD (2 * j + 1) 0, ins.getD (2 * j + 1) 0)
              else (ins.getD (2 * j + 1) 0, outs.getD (2 * j) 0)))) ∧
      ∀ p ∈ statePairs (toKh l) (braidState w), posLab n w p.1 = posLab n w p.2 := by
  obtain ⟨ins, outs, hB⟩ := closure_bform n w l h
  exact ⟨ins, outs, hB, statePairs_closure hB, pos_of_pair hB⟩

/-- the circles of the orientation preserving state run along the strands: the strand position is constant on every
circle (and on every class of the arc relation) -/
theorem closure_position_on_circles (n : Nat) (w : List Int) (l : C18.Link) (h : closure n w = .ok l) :
    (∀ x y, Conn (statePairs (toKh l) (braidState w)) x y → posLab n w x = posLab n w y) ∧
    ∀ i, i < (circles (toKh l) (edgeLabels (toKh l)) (braidState w)).size →
      ∀ x ∈ (circles (toKh l) (edgeLabels (toKh l)) (braidState w))[i]!,
      ∀ y ∈ (circles (toKh l) (edgeLabels (toKh l)) (braidState w))[i]!, posLab n w x = posLab n w y := by
  obtain ⟨ins, outs, hB⟩ := closure_bform n w l h
  have hv := validK_toKh l (closure_valid' n w l h)
  have spec := circles_spec (toKh l) (wf_of_validK _ hv) (braidState w)
  exact ⟨fun x y c => pos_of_conn hB c, fun i hi x hx y hy => pos_of_conn hB (spec.conn_of_mem hi hx hy)⟩

/-- CONVERSELY the strands close up: on the labels of the closure the arc relation of the orientation preserving state
IS "same strand position"; the positions are `0, …, n−1`, and `k < n` is itself a label, of position `k` -/
theorem closure_arc_relation_is_position (n : Nat) (w : List Int) (l : C18.Link) (h : closure n w = .ok l) :
    (∀ x ∈ edgeLabels (toKh l), ∀ y ∈ edgeLabels (toKh l),
      (Conn (statePairs (toKh l) (braidState w)) x y ↔ posLab n w x = posLab n w y)) ∧
    (∀ x ∈ edgeLabels (toKh l), posLab n w x < n) ∧
    (∀ k, k < n → k ∈ edgeLabels (toKh l) ∧ posLab n w k = k) :=
  conn_iff_pos n w l h

/-- the orientation preserving state of the closure of a braid with `n` strands has EXACTLY the `n` strands as circles:
`n` circles, each consisting of all labels of one strand position, and the label `k < n` lies on the circle of
position `k` -/
theorem closure_circles_are_strands (n : Nat) (w : List Int) (l : C18.Link) (h : closure n w = .ok l) :
    (circles (toKh l) (edgeLabels (toKh l)) (braidState w)).size = n ∧
    (∀ i, i < (circles (toKh l) (edgeLabels (toKh l)) (braidState w)).size →
      ∀ x ∈ (circles (toKh l) (edgeLabels (toKh l)) (braidState w))[i]!, ∀ y,
        y ∈ (circles (toKh l) (edgeLabels (toKh l)) (braidState w))[i]! ↔
          y ∈ edgeLabels (toKh l) ∧ posLab n w y = posLab n w x) ∧
    (∀ k, k < n → ∃ i, i < (circles (toKh l) (edgeLabels (toKh l)) (braidState w)).size ∧
      k ∈ (circles (toKh l) (edgeLabels (toKh l)) (braidState w))[i]!) :=
  circles_are_strands n w l h
    (circles_spec (toKh l) (wf_of_validK _ (validK_toKh l (closure_valid' n w l h))) (braidState w))

/-- the crossing of the letter `σ_g^{±1}` (every crossing of `K` is one): its labels have positions `g` or `g+1`, both
occur, and two of its labels of equal position lie on one circle — so it touches exactly two circles, those of the
positions `g` and `g+1` -/
theorem closure_crossing_two_circles (n : Nat) (w : List Int) (l : C18.Link) (h : closure n w = .ok l)
    (x : Crossing) (hx : x ∈ toKh l) :
    ∃ j, j < w.length ∧ (toKh l)[j]? = some x ∧
      (∀ e ∈ x.e.toList, posLab n w e = (w.getD j 0).natAbs - 1 ∨ posLab n w e = (w.getD j 0).natAbs - 1 + 1) ∧
      (∀ e ∈ x.e.toList, ∀ e' ∈ x.e.toList, posLab n w e = posLab n w e' →
        Conn (statePairs (toKh l) (braidState w)) e e') ∧
      (∃ e ∈ x.e.toList, ∃ e' ∈ x.e.toList,
        posLab n w e = (w.getD j 0).natAbs - 1 ∧ posLab n w e' = (w.getD j 0).natAbs - 1 + 1) := by
  obtain ⟨ins, outs, hB⟩ := closure_bform n w l h
  obtain ⟨j, hj, rfl⟩ := mem_toKh_closure hB x hx
  refine ⟨j, hj, ?_, by simpa only [Array.mem_toList_iff] using crossing_facts hB j hj⟩
  have := C18Bridge.toKh_getElem? l j
  rw [(hB.cr j hj).2, Option.map_some, Array.getElem?_toList] at this
  exact this

/-- **H for braid closures**: with the circles coloured by the parity of their strand position, every crossing of the
closure touches exactly two circles of the orientation preserving state and these have different colours -/
theorem closure_bicoloured (n : Nat) (w : List Int) (l : C18.Link) (h : closure n w = .ok l) :
    bicoloured (toKh l) (circles (toKh l) (edgeLabels (toKh l)) (braidState w))
      (parityCols n w (circles (toKh l) (edgeLabels (toKh l)) (braidState w))) = true := by
  obtain ⟨ins, outs, hB⟩ := closure_bform n w l h
  exact bicoloured_closure hB (validK_toKh l (closure_valid' n w l h))

/-- **THE CANONICAL CHAINS OF A BRAID CLOSURE ARE CYCLES — no per-instance hypothesis.**  For every braid word whose
closure the code builds (`closure n w = .ok l`), every `h`, reduced (`base = some e`, `red` arbitrary) or not: the
reference differential sends the canonical chain of the parity colouring at the orientation preserving state, and the
chain with the colours swapped, to `0` (the driver's evaluation `dOfChain … = some []`: `d` is defined on every
generator of the chain and every target generator has total coefficient `0`) -/
theorem canon_is_cycle_closure (n : Nat) (w : List Int) (l : C18.Link) (hcl : closure n w = .ok l)
    (h : Int) (base : Option Nat) (red : Bool) :
    dOfChain { mkCube (toKh l) ⟨h, 0, false⟩ with base := base } ⟨h, 0, red⟩
        (chainOf (braidState w) h (parityCols n w (circles (toKh l) (edgeLabels (toKh l)) (braidState w)))) = some [] ∧
    dOfChain { mkCube (toKh l) ⟨h, 0, false⟩ with base := base } ⟨h, 0, red⟩
        (chainOf (braidState w) h
          ((parityCols n w (circles (toKh l) (edgeLabels (toKh l)) (braidState w))).map Colour.other)) = some [] := by
  obtain ⟨hv, hn, _⟩ := closure_validK n w l hcl
  have hs : braidState w < 2 ^ crossingNum (toKh l) := by rw [hn]; exact braidState_lt w
  have hlen : (parityCols n w (circles (toKh l) (edgeLabels (toKh l)) (braidState w))).length =
      (circles (toKh l) (edgeLabels (toKh l)) (braidState w)).size := by simp [parityCols]
  exact ⟨canon_is_cycle (toKh l) hv h base red _ hs _ hlen (closure_bicoloured n w l hcl),
    canon_is_cycle_swapped (toKh l) hv h base red _ hs _ hlen (closure_bicoloured n w l hcl)⟩

/-- in coefficients: `Cube.d` is defined on every generator of the canonical chain of a braid closure and every target
generator has total coefficient `0` -/
theorem canon_is_cycle_closure_coefficients (n : Nat) (w : List Int) (l : C18.Link) (hcl : closure n w = .ok l)
    (h : Int) (base : Option Nat) (red : Bool) :
    (∀ ga ∈ chainOf (braidState w) h (parityCols n w (circles (toKh l) (edgeLabels (toKh l)) (braidState w))), ∃ ts,
      ({ mkCube (toKh l) ⟨h, 0, false⟩ with base := base } : Cube).d ⟨h, 0, red⟩ ga.1 = some ts) ∧
    ∀ y, chainSum (fun g =>
      ((({ mkCube (toKh l) ⟨h, 0, false⟩ with base := base } : Cube).d ⟨h, 0, red⟩ g).getD #[]).toList)
        (chainOf (braidState w) h (parityCols n w (circles (toKh l) (edgeLabels (toKh l)) (braidState w)))) y = 0 :=
  (dOfChain_nil_iff _ _ _).1 (canon_is_cycle_closure n w l hcl h base red).1

/-- the same with the state the library computes: if the reference's `crossingSigns` of the closure are `sg` and the
orientation is determined by the code (`Determined`: every component passes under somewhere — every knot), then
`oriPresState sg` IS `braidState w` and the canonical chains at `Link::ori_pres_state` are cycles -/
theorem canon_is_cycle_closure_refsigns (n : Nat) (w : List Int) (l : C18.Link) (hcl : closure n w = .ok l)
    (hD : C18.Determined l) (sg : Array Int) (hsg : KhRef.crossingSigns (toKh l) = some sg)
    (h : Int) (base : Option Nat) (red : Bool) :
    oriPresState sg.toList = braidState w ∧
    dOfChain { mkCube (toKh l) ⟨h, 0, false⟩ with base := base } ⟨h, 0, red⟩
      (chainOf (oriPresState sg.toList) h
        (parityCols n w (circles (toKh l) (edgeLabels (toKh l)) (oriPresState sg.toList)))) = some [] ∧
    dOfChain { mkCube (toKh l) ⟨h, 0, false⟩ with base := base } ⟨h, 0, red⟩
      (chainOf (oriPresState sg.toList) h
        ((parityCols n w (circles (toKh l) (edgeLabels (toKh l)) (oriPresState sg.toList))).map Colour.other)) =
      some [] := by
  obtain ⟨h1, h2⟩ := closure_ref_signs n w l hcl hD
  rw [h1] at hsg
  have e : oriPresState sg.toList = braidState w := by
    rw [← Option.some.inj hsg]; exact h2
  rw [e]
  exact ⟨rfl, canon_is_cycle_closure n w l hcl h base red⟩

/-- trefoil `σ₁³` (all positive: state 0), Hopf link `σ₁⁻²` (a 2-component link: H does not need a knot; state 3),
figure eight `σ₁σ₂⁻¹σ₁σ₂⁻¹` (three strands, mixed signs: state 10 = 0b1010) -/
example : closure 2 [1, 1, 1] = .ok trefoilB ∧ closure 2 [-1, -1] = .ok hopfB ∧
    closure 3 [1, -2, 1, -2] = .ok fig8B ∧
    braidState [1, 1, 1] = 0 ∧ braidState [-1, -1] = 3 ∧ braidState [1, -2, 1, -2] = 10 :=
  ⟨closure_trefoilB, closure_hopfB, closure_fig8B, by decide +kernel, by decide +kernel, braidState_fig8⟩

/-- the circles of the figure eight closure at its orientation preserving state are the three strands, coloured
a, b, a; a constant colouring violates H -/
example : circles (toKh fig8B) (edgeLabels (toKh fig8B)) 10 = #[#[0, 3], #[1, 4, 5, 8], #[2, 6]] ∧
    parityCols 3 [1, -2, 1, -2] (circles (toKh fig8B) (edgeLabels (toKh fig8B)) 10) = [.a, .b, .a] ∧
    bicoloured (toKh fig8B) (circles (toKh fig8B) (edgeLabels (toKh fig8B)) 10) [.a, .a, .a] = false := by
  refine ⟨circles_fig8B.1, circles_fig8B.2, ?_⟩
  rw [circles_fig8B.1]; decide +kernel

/-- `closure_circles_are_strands` at the figure eight: three strands, three circles (read off the theorem, not
evaluated) -/
example : (circles (toKh fig8B) (edgeLabels (toKh fig8B)) (braidState [1, -2, 1, -2])).size = 3 :=
  (closure_circles_are_strands 3 [1, -2, 1, -2] fig8B closure_fig8B).1

/-- the instance of `canon_is_cycle_closure` at the figure eight, `h = 2`: the chain is
`(X)(X−2)(X) = −2·X⊗1⊗X + X⊗X⊗X ≠ 0` at the vertex `10` (two merge edges leave it) -/
example : dOfChain { mkCube (toKh fig8B) ⟨2, 0, false⟩ with base := none } ⟨2, 0, false⟩
      (chainOf 10 2 [.a, .b, .a]) = some [] ∧
    (chainOf 10 2 [.a, .b, .a]).map (fun ga => (ga.1.s, ga.1.mask, ga.2)) = [(10, 5, -2), (10, 7, 1)] := by
  have h := (canon_is_cycle_closure 3 [1, -2, 1, -2] fig8B closure_fig8B 2 none false).1
  rw [braidState_fig8, circles_fig8B.2] at h
  exact ⟨h, by decide +kernel⟩

/-- the Hopf link closure, reduced theory based at edge `0`, `h = 3` -/
example : dOfChain { mkCube (toKh hopfB) ⟨3, 0, false⟩ with base := some 0 } ⟨3, 0, true⟩
      (chainOf 3 3 [.a, .b]) = some [] := by
  have h := (canon_is_cycle_closure 2 [-1, -1] hopfB closure_hopfB 3 (some 0) true).1
  have e : parityCols 2 [-1, -1] (circles (toKh hopfB) (edgeLabels (toKh hopfB)) (braidState [-1, -1])) =
      [.a, .b] := by rw [edgeLabels_hopfB]; decide +kernel
  rw [e, show braidState [-1, -1] = 3 by decide +kernel] at h
  exact h

/-- the trefoil closure is `Determined` (decidable criterion `DeterminedB`), so `closure_ref_signs` applies: the
reference's signs are `+1, +1, +1` -/
example : KhRef.crossingSigns (toKh trefoilB) = some #[1, 1, 1] :=
  (closure_ref_signs 2 [1, 1, 1] trefoilB closure_trefoilB
    (C18.determined_of_B (closure_valid' _ _ _ closure_trefoilB) (by decide +kernel))).1

end Yuiv.C06Closure
