import Yuiv.Proofs.C13
import Mathlib.Algebra.BigOperators.Group.Finset.Sigma
/-
C13 — entries of the trusted kernels `+ − · neg` (by their definition), the linear map `A.apply` of a
sparse matrix (the product is the composition), `&SpMat * &SpVec`, the identity.
-/
namespace Yuiv.C13
open Yuiv Res

variable {R : Type} [CommRing R]

theorem add_spec (A B : SpMat R) (hA : A.WF) (hB : B.WF) (h1 : A.nrows = B.nrows) (h2 : A.ncols = B.ncols) :
    ∃ C, A.add B = ok C ∧ C.nrows = A.nrows ∧ C.ncols = A.ncols ∧ C.WF ∧
      ∀ i j, C.entry i j = A.entry i j + B.entry i j := by
  refine ⟨cooToCsc A.nrows A.ncols (A.triplets ++ B.triplets), by simp [SpMat.add, Res.assert, h1, h2], rfl, rfl,
    cooToCsc_wf _ _ _, ?_⟩
  intro i j
  rw [entry_cooToCsc]
  by_cases h : i < A.nrows ∧ j < A.ncols
  · rw [if_pos h, entryT_append, entryT_triplets, entryT_triplets]
  · rw [if_neg h, hA.entry_oob i j h, hB.entry_oob i j (by rw [← h1, ← h2]; exact h)]; simp

set_option linter.unusedSectionVars false in
variable [DecidableEq R] in
theorem add_reject (A B : SpMat R) (h : ¬ (A.nrows = B.nrows ∧ A.ncols = B.ncols)) : A.add B = panic := by
  unfold SpMat.add
  rw [assert_false (decide_and_false h)]; rfl

theorem sumAt_map_neg (c : List (Nat × R)) (i : Nat) : sumAt (c.map (fun p => (p.1, -p.2))) i = - sumAt c i := by
  induction c with
  | nil => simp
  | cons p c ih =>
    obtain ⟨k, a⟩ := p
    rw [List.map_cons, sumAt_cons, sumAt_cons, ih]
    split
    · rw [neg_add]
    · rw [zero_add, zero_add]

theorem neg_entry (A : SpMat R) (i j : Nat) : A.neg.entry i j = - A.entry i j := by
  unfold SpMat.neg SpMat.entry
  simp only [List.getD_eq_getElem?_getD, List.getElem?_map]
  cases h : A.cols[j]? with
  | none => simp
  | some c => simp [sumAt_map_neg]

theorem neg_wf (A : SpMat R) (hA : A.WF) : A.neg.WF := by
  refine ⟨by simp [SpMat.neg, hA.len], ?_, ?_⟩
  · intro c hc p hp
    simp only [SpMat.neg, List.mem_map] at hc
    obtain ⟨c0, hc0, rfl⟩ := hc
    simp only [List.mem_map] at hp
    obtain ⟨p0, hp0, rfl⟩ := hp
    exact hA.bound c0 hc0 p0 hp0
  · intro c hc
    simp only [SpMat.neg, List.mem_map] at hc
    obtain ⟨c0, hc0, rfl⟩ := hc
    simp only [List.map_map]
    have : ((fun p : Nat × R => p.1) ∘ fun p : Nat × R => (p.1, -p.2)) = fun p => p.1 := by funext p; rfl
    rw [this]; exact hA.sorted c0 hc0

theorem sub_spec (A B : SpMat R) (hA : A.WF) (hB : B.WF) (h1 : A.nrows = B.nrows) (h2 : A.ncols = B.ncols) :
    ∃ C, A.sub B = ok C ∧ C.nrows = A.nrows ∧ C.ncols = A.ncols ∧ C.WF ∧
      ∀ i j, C.entry i j = A.entry i j - B.entry i j := by
  refine ⟨cooToCsc A.nrows A.ncols (A.triplets ++ B.neg.triplets), by simp [SpMat.sub, Res.assert, h1, h2], rfl, rfl,
    cooToCsc_wf _ _ _, ?_⟩
  intro i j
  rw [entry_cooToCsc]
  by_cases h : i < A.nrows ∧ j < A.ncols
  · rw [if_pos h, entryT_append, entryT_triplets, entryT_triplets, neg_entry]; ring
  · rw [if_neg h, hA.entry_oob i j h, hB.entry_oob i j (by rw [← h1, ← h2]; exact h)]; simp

theorem sub_reject (A B : SpMat R) (h : ¬ (A.nrows = B.nrows ∧ A.ncols = B.ncols)) : A.sub B = panic := by
  unfold SpMat.sub
  rw [assert_false (decide_and_false h)]; rfl

theorem entryT_flatMap {α : Type} (l : List α) (F : α → List (Trip R)) (i j : Nat) :
    entryT (l.flatMap F) i j = (l.map (fun t => entryT (F t) i j)).sum := by
  induction l with
  | nil => rfl
  | cons a l ih => simp [List.flatMap_cons, entryT_append, ih]

theorem entryT_scaled_col (c : List (Nat × R)) (j' : Nat) (b : R) (i j : Nat) :
    entryT (c.map (fun p => (p.1, j', p.2 * b))) i j = if j' = j then sumAt c i * b else 0 := by
  induction c with
  | nil => simp
  | cons p c ih =>
    obtain ⟨k, a⟩ := p
    simp only [List.map_cons, entryT_cons, ih, sumAt_cons]
    by_cases h1 : j' = j
    · simp only [h1, and_true, if_true, add_mul, ite_mul, zero_mul]
    · simp only [h1, and_false, if_false, add_zero]

theorem sum_by_key (ts : List (Trip R)) (g : Nat → R) (j K : Nat) (hb : ∀ t ∈ ts, t.1 < K) :
    (ts.map (fun t => if t.2.1 = j then g t.1 * t.2.2 else 0)).sum
      = ∑ k ∈ Finset.range K, g k * entryT ts k j := by
  induction ts with
  | nil => simp
  | cons t ts ih =>
    rw [List.map_cons, List.sum_cons, ih (fun t ht => hb t (by simp [ht]))]
    have ht := hb t (by simp)
    simp only [entryT_cons, mul_add, Finset.sum_add_distrib]
    congr 1
    by_cases h : t.2.1 = j
    · simp only [h, and_true, if_true, mul_ite, mul_zero, Finset.sum_ite_eq, Finset.mem_range, ht]
    · simp [h]

theorem mul_spec (A B : SpMat R) (hA : A.WF) (hB : B.WF) (h : A.ncols = B.nrows) :
    ∃ C, A.mul B = ok C ∧ C.nrows = A.nrows ∧ C.ncols = B.ncols ∧ C.WF ∧
      ∀ i j, C.entry i j = ∑ k ∈ Finset.range A.ncols, A.entry i k * B.entry k j := by
  refine ⟨cooToCsc A.nrows B.ncols (prodTrips A B), by simp [SpMat.mul, Res.assert, h], rfl, rfl,
    cooToCsc_wf _ _ _, ?_⟩
  intro i j
  rw [entry_cooToCsc]
  have key : entryT (prodTrips A B) i j = ∑ k ∈ Finset.range A.ncols, A.entry i k * B.entry k j := by
    unfold prodTrips
    rw [entryT_flatMap]
    simp only [entryT_scaled_col]
    have := sum_by_key B.triplets (fun k => A.entry i k) j A.ncols
      (fun t ht => by rw [h]; exact (hB.trip_bound ht).1)
    simp only [entryT_triplets] at this
    exact this
  by_cases hij : i < A.nrows ∧ j < B.ncols
  · rw [if_pos hij, key]
  · rw [if_neg hij]
    symm
    apply Finset.sum_eq_zero
    intro k hk
    by_cases hi : i < A.nrows
    · rw [hB.entry_oob k j (fun h => hij ⟨hi, h.2⟩)]; simp
    · rw [hA.entry_oob i k (fun h => hi h.1)]; simp

theorem mul_reject (A B : SpMat R) (h : A.ncols ≠ B.nrows) : A.mul B = panic := by
  simp [SpMat.mul, Res.assert, h]

/-- `A · x` for a coordinate function `x` (only the coordinates below `A.ncols` are read) -/
def SpMat.apply (A : SpMat R) (x : Nat → R) : Nat → R :=
  fun i => ∑ j ∈ Finset.range A.ncols, A.entry i j * x j

theorem apply_congr (A : SpMat R) (x y : Nat → R) (h : ∀ j, j < A.ncols → x j = y j) : A.apply x = A.apply y := by
  funext i
  unfold SpMat.apply
  apply Finset.sum_congr rfl
  intro j hj
  rw [h j (Finset.mem_range.mp hj)]

theorem apply_oob (A : SpMat R) (hA : A.WF) (x : Nat → R) (i : Nat) (hi : ¬ i < A.nrows) : A.apply x i = 0 := by
  unfold SpMat.apply
  apply Finset.sum_eq_zero
  intro j _
  rw [hA.entry_oob i j (fun h => hi h.1)]; simp

theorem mul_apply (A B C : SpMat R) (hA : A.WF) (hB : B.WF) (h : A.mul B = ok C) (x : Nat → R) :
    C.apply x = A.apply (B.apply x) := by
  by_cases hd : A.ncols = B.nrows
  · obtain ⟨C', hC', _, hn, _, he⟩ := mul_spec A B hA hB hd
    rw [hC'] at h; cases h
    funext i
    unfold SpMat.apply
    rw [hn]
    simp only [he, Finset.sum_mul, Finset.mul_sum]
    rw [Finset.sum_comm]
    apply Finset.sum_congr rfl; intro k _
    apply Finset.sum_congr rfl; intro j _
    ring
  · rw [mul_reject A B hd] at h; cases h

theorem mulVec_spec (A : SpMat R) (v : SpVec R) (hA : A.WF) (hv : v.WF) (h : A.ncols = v.dim) :
    ∃ w, A.mulVec v = ok w ∧ w.dim = A.nrows ∧ w.WF ∧ w.entry = A.apply v.entry := by
  obtain ⟨C, hC, h1, h2, h3, h4⟩ := mul_spec A v.toMat hA hv h
  obtain ⟨w, hw, hw1, hw2, hw3⟩ := intoSpVec_spec C h3 h2
  refine ⟨w, by simp [SpMat.mulVec, hC, hw], by rw [hw1, h1], hw2, ?_⟩
  funext i
  rw [hw3, h4]
  rfl

set_option linter.unusedSectionVars false in
variable [DecidableEq R] in
theorem mulVec_reject (A : SpMat R) (v : SpVec R) (h : A.ncols ≠ v.dim) : A.mulVec v = panic := by
  simp [SpMat.mulVec, mul_reject A v.toMat h]

theorem id_wf (n : Nat) : (SpMat.id n : SpMat R).WF := by
  refine ⟨by simp [SpMat.id], ?_, ?_⟩
  · intro c hc p hp
    simp only [SpMat.id, List.mem_map, List.mem_range] at hc
    obtain ⟨i, hi, rfl⟩ := hc
    simp only [List.mem_singleton] at hp; subst hp; exact hi
  · intro c hc
    simp only [SpMat.id, List.mem_map, List.mem_range] at hc
    obtain ⟨i, hi, rfl⟩ := hc
    simp

theorem id_entry (n i j : Nat) : (SpMat.id n : SpMat R).entry i j = if i = j ∧ j < n then 1 else 0 := by
  unfold SpMat.entry SpMat.id
  by_cases hj : j < n
  · simp only [List.getD_eq_getElem?_getD, List.getElem?_map, List.getElem?_range hj, Option.map_some,
      Option.getD_some, sumAt_cons, sumAt_nil, add_zero, hj, and_true]
    exact if_congr eq_comm rfl rfl
  · simp [List.getD_eq_getElem?_getD, hj]

theorem id_apply (n : Nat) (x : Nat → R) (i : Nat) : (SpMat.id n : SpMat R).apply x i = if i < n then x i else 0 := by
  have e : ∀ j ∈ Finset.range n, (SpMat.id n : SpMat R).entry i j * x j = if i = j then x j else 0 := fun j hj => by
    rw [id_entry, if_congr (and_iff_left (Finset.mem_range.mp hj)) rfl rfl, ite_mul, one_mul, zero_mul]
  exact (Finset.sum_congr rfl e).trans ((Finset.sum_ite_eq _ i _).trans (if_congr Finset.mem_range rfl rfl))

end Yuiv.C13
