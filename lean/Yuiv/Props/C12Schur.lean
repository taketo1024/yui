import Yuiv.Proofs.C12SchurPar
import Yuiv.Proofs.C08Gen
/-
C12 — "same value on one thread and on many" for `compute_schur` (`yui-matrix/src/sparse/schur.rs`, `multithread` branch:
`(0..n).into_par_iter().map(|j| d.col_vec(j) - c * ainvb.col_vec(j)).collect::<Vec<_>>()`).

Objects:
  `C12Par.parCollectSt g init n sched`  rayon's indexed collect (`Model/C12SchurPar.lean`): `sched` = the events
        `(worker, index)` in the order they happen — any number of workers, any assignment, any order; each worker has a
        private state (what a thread-local would be) threaded through ITS tasks by `g : σ → Nat → σ × β`; the task for
        index `j` writes slot `j` of the target vector; unwritten slot at the end = rayon's write-count panic
  `C12Par.parCollect f n sched`         the same for a pure closure `f` (state `Unit`)
  `C12Par.ValidSched n sched`           every index of `0..n` is handed to exactly one task
  `C12Par.computeSchurPar X C D sched`  the parallel branch with the closure translated from schur.rs on every run
        (`GenSchur.Schur.compute_schur_closure1`) — which IS a pure function of `j`: the Rust closure captures only shared
        references and allocates its operands and result itself; there is no thread-local or shared buffer on this path
  `GenSchur.Schur.compute_schur`        the translated sequential branch;  `C12.computeSchur` the hand model (`Props/C12`)
-/
namespace Yuiv.C12Par
open Yuiv Res Yuiv.Rust

/-- NO LEAK BETWEEN COLUMNS, with private worker state (the general shape of a thread-local scratch buffer): if some
invariant `I` of the private state holds initially, is restored by every task, and under `I` the value computed for index
`j` is `f j`, then every valid schedule yields the sequential result.  Without such an invariant the statement is false
(`stale_state_counterexample`). -/
theorem par_collect_state_does_not_leak {σ β : Type} (g : σ → Nat → σ × β) (init : σ) (f : Nat → β) (I : σ → Prop)
    (h0 : I init) (hI : ∀ s j, I s → I (g s j).1 ∧ (g s j).2 = f j)
    (n : Nat) (sched : List (Nat × Nat)) (hs : ValidSched n sched) :
    parCollectSt g init n sched = ok ((List.range n).map f) := by
  have hmem : ∀ k, k ∈ sched.map (·.2) ↔ k < n := fun k => hs.mem_iff.trans List.mem_range
  rw [parCollectSt, runEvents_eq g f I hI sched _ _ (fun _ => h0) (hs.nodup_iff.2 List.nodup_range)
    fun e he => by rw [getElem?_replicate_none, if_pos ((hmem _).1 (List.mem_map.2 ⟨e, he, rfl⟩))]]
  show readSlots (written f _ sched).toList = _
  rw [← readSlots_map_some]
  congr 1
  apply List.ext_getElem?
  intro k
  rw [Array.getElem?_toList, getElem?_written, Array.size_replicate, getElem?_replicate_none]
  by_cases hk : k < n <;> simp [hk, (hmem k).2]

/-- SCHEDULE INDEPENDENCE of the indexed collect for a pure closure: under EVERY valid schedule the collected vector is the
sequential `List.map f (List.range n)` — no panic, no dependence on which worker computes which index or in which order -/
theorem par_collect_schedule_independent {β : Type} (f : Nat → β) (n : Nat) (sched : List (Nat × Nat))
    (hs : ValidSched n sched) : parCollect f n sched = ok ((List.range n).map f) :=
  par_collect_state_does_not_leak _ () f (fun _ => True) trivial (fun _ _ _ => ⟨trivial, rfl⟩) n sched hs

/-- any two valid schedules — in particular one worker taking `0, 1, …, n-1` in order, and many workers — agree -/
theorem par_collect_one_thread_eq_many {β : Type} (f : Nat → β) (n : Nat) (sched : List (Nat × Nat))
    (hs : ValidSched n sched) :
    ValidSched n ((List.range n).map fun j => (0, j)) ∧
    parCollect f n sched = parCollect f n ((List.range n).map fun j => (0, j)) := by
  have h1 : ValidSched n ((List.range n).map fun j => (0, j)) := by
    unfold ValidSched; simp [List.map_map, Function.comp_def]
  exact ⟨h1, by rw [par_collect_schedule_independent f n sched hs, par_collect_schedule_independent f n _ h1]⟩

/-- the partition form: the indices are split into per-worker lists `parts[w]` (any split, any order inside a list) -/
theorem par_collect_partition {β : Type} (f : Nat → β) (n : Nat) (parts : List (List Nat))
    (hp : parts.flatten.Perm (List.range n)) :
    parCollect f n (schedOfParts 0 parts) = ok ((List.range n).map f) :=
  par_collect_schedule_independent f n _ (by unfold ValidSched; rw [schedOfParts_cols]; exact hp)

/-- an index that no task takes is detected: if the schedule hands out distinct indices of `0..n` but misses `j`, rayon's
write-count check panics (the model's `readSlots`) rather than returning a vector with a stale / uninitialised slot -/
theorem par_collect_lost_index_panics {β : Type} (f : Nat → β) (n : Nat) (sched : List (Nat × Nat))
    (hnd : (sched.map (·.2)).Nodup) (hlt : ∀ e ∈ sched, e.2 < n) (j : Nat) (hj : j < n) (hmiss : j ∉ sched.map (·.2)) :
    parCollect f n sched = panic := by
  unfold parCollect parCollectSt
  rw [runEvents_eq _ f (fun _ => True) (fun _ _ _ => ⟨trivial, rfl⟩) sched _ _ (fun _ => trivial) hnd
    fun e he => by rw [getElem?_replicate_none, if_pos (hlt e he)]]
  have h : (written f (Array.replicate n none) sched)[j]? = some none := by
    rw [getElem?_written, if_neg fun h => hmiss h.1, getElem?_replicate_none, if_pos hj]
  rw [← Array.getElem?_toList] at h
  exact readSlots_none _ (List.mem_of_getElem? h)

/-- `compute_schur`: the `multithread` branch under every valid schedule of the columns equals the sequential branch
(both with the closure translated from the source) -/
theorem compute_schur_par_eq_seq {α : Type} [C12.Scal α] (X C D : C12.SpMat α) (sched : List (Nat × Nat))
    (hs : ValidSched D.ncols sched) :
    computeSchurPar X C D sched = GenSchur.Schur.compute_schur X C D := by
  unfold computeSchurPar
  rw [show (SM.shape D).2 = D.ncols from rfl, par_collect_schedule_independent _ _ sched hs]
  simp [GenSchur.Schur.compute_schur, List.range_eq_range']

/-- … and hence the hand model `C12.computeSchur`, about which `Props/C12.lean` proves `S = D − C·A⁻¹·B` -/
theorem compute_schur_par_eq_model {α : Type} [C12.Scal α] (X C D : C12.SpMat α) (h : D.nrows ≤ C.nrows)
    (sched : List (Nat × Nat)) (hs : ValidSched D.ncols sched) :
    computeSchurPar X C D sched = ok (C12.computeSchur X C D) := by
  rw [compute_schur_par_eq_seq X C D sched hs, C08Gen.compute_schur_eq X C D h]

/-! ### non-vacuity, and why the state hypothesis is needed -/

/-- three workers, indices out of order -/
example : ValidSched 4 [(1, 2), (0, 0), (1, 3), (2, 1)] := by decide

example : parCollect (fun j => 10 * j) 4 [(1, 2), (0, 0), (1, 3), (2, 1)] = ok [0, 10, 20, 30] := by decide

/-- a schedule that loses index 1 panics -/
example : parCollect (fun j => 10 * j) 3 [(1, 2), (0, 0)] = panic := by decide

/-- a column function with a STALE private accumulator (`acc` is not reset between columns: the value for `j` is
`acc + j`): two valid schedules disagree, so schedule independence really needs the invariant of
`par_collect_state_does_not_leak` — a stale-buffer bug makes that hypothesis unprovable, not the theorem vacuous -/
theorem stale_state_counterexample :
    ValidSched 2 [(0, 0), (0, 1)] ∧ ValidSched 2 [(0, 1), (0, 0)] ∧
    parCollectSt (fun (acc : Nat) j => (acc + j + 1, acc + j)) 0 2 [(0, 0), (0, 1)] ≠
    parCollectSt (fun (acc : Nat) j => (acc + j + 1, acc + j)) 0 2 [(0, 1), (0, 0)] := by decide

end Yuiv.C12Par
