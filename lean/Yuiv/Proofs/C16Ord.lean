import Yuiv.Proofs.C16
import Mathlib.Order.PiLex
import Mathlib.Data.Prod.Lex
import Mathlib.Algebra.Order.Monoid.Defs
import Mathlib.Algebra.Order.Group.Defs
import Mathlib.Algebra.Order.Group.Int
import Mathlib.Algebra.Order.Group.Nat
/-
Monomial orders of C16: `cmp_lex` / `cmp_grlex` of `Var`, `Var2`, `Var3` and `MultiDeg` are comparisons of an
injective key in a linear order (lexicographic products / `Pi.Lex`), hence total orders; and they are
compatible with multiplication.  The exponent type `I` is any linearly ordered cancellative commutative monoid
(`ℕ` for `usize`, `ℤ` for `isize`).
-/

namespace Yuiv.C16

section CmpI
variable {I : Type} [LinearOrder I]

theorem cmpI_eq_compare (a b : I) : cmpI a b = compare a b :=
  (LinearOrder.compare_eq_compareOfLessAndEq a b).symm

theorem cmpI_lt {a b : I} : cmpI a b = .lt ↔ a < b := by rw [cmpI_eq_compare]; exact compare_lt_iff_lt

theorem cmpI_eq {a b : I} : cmpI a b = .eq ↔ a = b := by rw [cmpI_eq_compare]; exact compare_eq_iff_eq

theorem cmpI_gt {a b : I} : cmpI a b = .gt ↔ b < a := by rw [cmpI_eq_compare]; exact compare_gt_iff_gt

theorem cmpI_self (a : I) : cmpI a a = .eq := cmpI_eq.mpr rfl

theorem cmpI_swap (a b : I) : cmpI b a = (cmpI a b).swap := by
  rcases lt_trichotomy a b with h | h | h
  · rw [cmpI_lt.mpr h, cmpI_gt.mpr h]; rfl
  · subst h; rw [cmpI_self]; rfl
  · rw [cmpI_gt.mpr h, cmpI_lt.mpr h]; rfl

theorem ordering_ext {o o' : Ordering} (hl : o = .lt ↔ o' = .lt) (he : o = .eq ↔ o' = .eq) : o = o' := by
  cases o <;> cases o' <;> simp_all

theorem cmpI_ne_gt {a b : I} : cmpI a b ≠ .gt ↔ a ≤ b := by
  rw [Ne, cmpI_gt, not_lt]

variable {M K : Type} [LinearOrder K]

/-- `cmpI` with all instances taken from a `LinearOrder` (used for the keys) -/
def cmpK (a b : K) : Ordering := cmpI a b
theorem cmpK_lt {a b : K} : cmpK a b = .lt ↔ a < b := cmpI_lt
theorem cmpK_eq {a b : K} : cmpK a b = .eq ↔ a = b := cmpI_eq
theorem cmpK_gt {a b : K} : cmpK a b = .gt ↔ b < a := cmpI_gt

theorem ordLaws_of_key (P : M → Prop) (key : M → K) (cmp : M → M → Ordering)
    (hinj : ∀ x y, P x → P y → key x = key y → x = y)
    (hcmp : ∀ x y, P x → P y → cmp x y = cmpK (key x) (key y)) : OrdLaws P cmp := by
  constructor
  · intro x y hx hy
    rw [hcmp x y hx hy, cmpK_eq]
    exact ⟨hinj x y hx hy, fun e => by rw [e]⟩
  · intro x y hx hy
    rw [hcmp x y hx hy, hcmp y x hy hx]; exact cmpI_swap _ _
  · intro x y z hx hy hz
    rw [hcmp x y hx hy, hcmp y z hy hz, hcmp x z hx hz]
    unfold cmpK
    simp only [cmpI_ne_gt]
    exact le_trans

theorem cmpI_then_lex {J : Type} [LinearOrder J] (a c : I) (b d : J) :
    (cmpI a c).then (cmpI b d) = cmpK (toLex (a, b)) (toLex (c, d)) := by
  apply ordering_ext
  · rw [Ordering.then_eq_lt, cmpI_lt, cmpI_eq, cmpI_lt, cmpK_lt, Prod.Lex.toLex_lt_toLex]
  · rw [Ordering.then_eq_eq, cmpI_eq, cmpI_eq, cmpK_eq, toLex_inj, Prod.mk.injEq]

theorem cmpK_then_lex {J : Type} [LinearOrder J] (a c : I) (b d : J) :
    (cmpI a c).then (cmpK b d) = cmpK (toLex (a, b)) (toLex (c, d)) := cmpI_then_lex a c b d

theorem ordLaws_then_of_key {I : Type} [LinearOrder I] (P : M → Prop) (tot : M → I) (key : M → K)
    (cmp : M → M → Ordering) (hinj : ∀ x y, P x → P y → key x = key y → x = y)
    (hcmp : ∀ x y, P x → P y → cmp x y = cmpK (key x) (key y)) :
    OrdLaws P (fun x y => (cmpI (tot x) (tot y)).then (cmp x y)) :=
  ordLaws_of_key P (fun a => toLex (tot a, key a)) _
    (fun x y hx hy h => hinj x y hx hy (Prod.mk.inj (toLex_inj.mp h)).2)
    (fun x y hx hy => by rw [hcmp x y hx hy, cmpK_then_lex])

end CmpI

section Compat
variable {I : Type} [AddCommMonoid I] [LinearOrder I] [IsOrderedCancelAddMonoid I]

theorem cmpI_add_right (a b c : I) : cmpI (a + c) (b + c) = cmpI a b := by
  apply ordering_ext
  · simp only [cmpI_lt, add_lt_add_iff_right]
  · simp only [cmpI_eq, add_left_inj]

end Compat

section Vars
variable {I : Type} [AddCommMonoid I] [LinearOrder I] [IsOrderedCancelAddMonoid I]

omit [AddCommMonoid I] [LinearOrder I] [IsOrderedCancelAddMonoid I] in
theorem Var.ext' {a b : Var I} (h : a.e = b.e) : a = b := by cases a; cases b; simp_all
omit [AddCommMonoid I] [LinearOrder I] [IsOrderedCancelAddMonoid I] in
theorem Var2.ext' {a b : Var2 I} (h0 : a.e0 = b.e0) (h1 : a.e1 = b.e1) : a = b := by
  cases a; cases b; simp_all
omit [AddCommMonoid I] [LinearOrder I] [IsOrderedCancelAddMonoid I] in
theorem Var3.ext' {a b : Var3 I} (h0 : a.e0 = b.e0) (h1 : a.e1 = b.e1) (h2 : a.e2 = b.e2) : a = b := by
  cases a; cases b; simp_all

def Var2.lexKey (a : Var2 I) : Lex (I × I) := toLex (a.e0, a.e1)

omit [AddCommMonoid I] [LinearOrder I] [IsOrderedCancelAddMonoid I] in
theorem var2_lexKey_inj (x y : Var2 I) (h : x.lexKey = y.lexKey) : x = y := by
  have h := Prod.mk.inj (toLex_inj.mp h)
  exact Var2.ext' h.1 h.2

omit [AddCommMonoid I] [IsOrderedCancelAddMonoid I] in
theorem var2_cmpLex_eq (x y : Var2 I) :
    Var2.cmpLex x y = cmpK x.lexKey y.lexKey := cmpI_then_lex _ _ _ _

def Var3.lexKey (a : Var3 I) : Lex (I × Lex (I × I)) := toLex (a.e0, toLex (a.e1, a.e2))

omit [AddCommMonoid I] [LinearOrder I] [IsOrderedCancelAddMonoid I] in
theorem var3_lexKey_inj (x y : Var3 I) (h : x.lexKey = y.lexKey) : x = y := by
  have h1 := Prod.mk.inj (toLex_inj.mp h)
  have h2 := Prod.mk.inj (toLex_inj.mp h1.2)
  exact Var3.ext' h1.1 h2.1 h2.2

omit [AddCommMonoid I] [IsOrderedCancelAddMonoid I] in
theorem var3_cmpLex_eq (x y : Var3 I) :
    Var3.cmpLex x y = cmpK x.lexKey y.lexKey := by
  rw [Var3.cmpLex, Ordering.then_assoc, cmpI_then_lex, cmpK_then_lex]; rfl

set_option linter.unusedSectionVars false in
theorem var_mul_e (a c : Var I) : (a * c).e = a.e + c.e := rfl
set_option linter.unusedSectionVars false in
theorem var2_mul (a c : Var2 I) : a * c = ⟨a.e0 + c.e0, a.e1 + c.e1⟩ := rfl
set_option linter.unusedSectionVars false in
theorem var3_mul (a c : Var3 I) : a * c = ⟨a.e0 + c.e0, a.e1 + c.e1, a.e2 + c.e2⟩ := rfl

instance : CommMonoid (Var I) where
  mul := (· * ·)
  one := 1
  mul_assoc a b c := Var.ext' (add_assoc _ _ _)
  one_mul a := Var.ext' (zero_add _)
  mul_one a := Var.ext' (add_zero _)
  mul_comm a b := Var.ext' (add_comm _ _)

instance : CommMonoid (Var2 I) where
  mul := (· * ·)
  one := 1
  mul_assoc a b c := Var2.ext' (add_assoc _ _ _) (add_assoc _ _ _)
  one_mul a := Var2.ext' (zero_add _) (zero_add _)
  mul_one a := Var2.ext' (add_zero _) (add_zero _)
  mul_comm a b := Var2.ext' (add_comm _ _) (add_comm _ _)

instance : CommMonoid (Var3 I) where
  mul := (· * ·)
  one := 1
  mul_assoc a b c := Var3.ext' (add_assoc _ _ _) (add_assoc _ _ _) (add_assoc _ _ _)
  one_mul a := Var3.ext' (zero_add _) (zero_add _) (zero_add _)
  mul_one a := Var3.ext' (add_zero _) (add_zero _) (add_zero _)
  mul_comm a b := Var3.ext' (add_comm _ _) (add_comm _ _) (add_comm _ _)

end Vars
end Yuiv.C16
