import Yuiv.Proofs.C14GenF
/-
C14 — the hand-written code models `Yuiv.C14.FF.*` and `Yuiv.C14.FF2.*` (`Yuiv/Model/C14.lean`) ARE the source text of
`/repo/yui/src/types/ff.rs` and `/repo/yui/src/types/f2.rs`.

`Yuiv.GenFF.*` (file `Yuiv/Gen/FFFn.lean`) is regenerated from the two Rust sources by `tools/rs2lean_fn.py fn:ff` on
every `./check` run (`I = i32` with checked arithmetic: `Yuiv/Model/RustI32.lean`; the const generic `p` an explicit
argument).  Each theorem states, for ALL `p` and all arguments, that a generated definition equals the model's
function on the representative (`FFS.f0` / `FF2S.f0`), including the panics (`new` with `p ≤ 0`, i32 overflow of
`a ± b`, `a * b`, `-a` before the reduction, division by zero, a non-unit gcd in `inv`) and fuel exhaustion of the
extended gcd.
-/
namespace Yuiv.GenF
open Yuiv Res Yuiv.Rust Yuiv.GenFF

theorem gen_ff_new_eq (p a : Int) : mapR FFS.f0 (FF.new p a) = C14.FF.new p a := by
  unfold FF.new C14.FF.new
  by_cases h : p > 0
  · have h0 : p ≠ 0 := by omega
    simp [gen_simp, h, h0, I32.rem_euclid]
  · simp [gen_simp, h]

theorem gen_ff_rep_eq (p : Int) (s : FFS) : FF.rep p s = s.f0 := rfl
theorem gen_ff_from_eq (p a : Int) : mapR FFS.f0 (FF.From_I.from_ p a) = C14.FF.new p a := gen_ff_new_eq p a
theorem gen_ff_zero_eq (p : Int) : (FF.Zero.zero p).f0 = 0 := rfl
theorem gen_ff_one_eq (p : Int) : (FF.One.one p).f0 = 1 := rfl
theorem gen_ff_is_zero_eq (p : Int) (s : FFS) : FF.Zero.is_zero p s = C14.FF.isZero s.f0 := rfl
theorem gen_ff_is_one_eq (p : Int) (s : FFS) : FF.One.is_one p s = C14.FF.isOne s.f0 := rfl
theorem gen_ff_is_unit_eq (p : Int) (s : FFS) : FF.Ring.is_unit p s = C14.FF.isUnit s.f0 := rfl

theorem gen_ff_add_eq (p : Int) (x y : FFS) :
    mapR FFS.f0 (FF.Add_FF_p_ref.add p x y) = C14.FF.add p x.f0 y.f0 := by
  unfold FF.Add_FF_p_ref.add C14.FF.add
  simp only [add_eq, mapR_bind, gen_ff_new_eq]
theorem gen_ff_sub_eq (p : Int) (x y : FFS) :
    mapR FFS.f0 (FF.Sub_FF_p_ref.sub p x y) = C14.FF.sub p x.f0 y.f0 := by
  unfold FF.Sub_FF_p_ref.sub C14.FF.sub
  simp only [sub_eq, mapR_bind, gen_ff_new_eq]
theorem gen_ff_mul_eq (p : Int) (x y : FFS) :
    mapR FFS.f0 (FF.Mul_FF_p_ref.mul p x y) = C14.FF.mul p x.f0 y.f0 := by
  unfold FF.Mul_FF_p_ref.mul C14.FF.mul
  simp only [mul_eq, mapR_bind, gen_ff_new_eq]
theorem gen_ff_neg_eq (p : Int) (x : FFS) : mapR FFS.f0 (FF.Neg.neg p x) = C14.FF.neg p x.f0 := by
  unfold FF.Neg.neg C14.FF.neg
  simp only [neg_eq, mapR_bind, gen_ff_new_eq]
theorem gen_ff_neg_ref_eq (p : Int) (x : FFS) : mapR FFS.f0 (FF.Neg_ref.neg p x) = C14.FF.neg p x.f0 := by
  unfold FF.Neg_ref.neg C14.FF.neg
  simp only [neg_eq, mapR_bind, gen_ff_new_eq]

theorem gen_ff_inv_eq (p : Int) (x : FFS) :
    mapR (Option.map FFS.f0) (FF.Ring.inv p x) = C14.FF.inv p x.f0 := by
  unfold FF.Ring.inv C14.FF.inv
  by_cases h : x.f0 = 0
  · simp [gen_simp, h]
  · simp [gen_simp, h]
    refine bind_congr (fun t => ?_)
    obtain ⟨d, a, b⟩ := t
    by_cases hd : d = 1
    · subst hd
      simp only [decide_true, assert_true, bind_ok, beq_self_eq_true]
      rw [← gen_ff_new_eq]
      cases FF.new p a <;> simp [mapR_ok, mapR_panic, mapR_err]
    · have hd' : (d == 1) = false := by simpa using hd
      simp [hd, hd', assert_false]

theorem gen_ff_div_eq (p : Int) (x y : FFS) :
    mapR FFS.f0 (FF.Div_FF_p_ref.div p x y) = C14.FF.div p x.f0 y.f0 := by
  unfold FF.Div_FF_p_ref.div C14.FF.div
  rw [← gen_ff_inv_eq]
  by_cases h : y.f0 = 0
  · simp [gen_simp, h]
  · have h' : (y.f0 == 0) = false := by simpa using h
    cases hx : FF.Ring.inv p y with
    | ok o => cases o <;> simp [gen_simp, h, h', Opt.unwrap, gen_ff_mul_eq]
    | panic => simp [gen_simp, h, h']
    | err => simp [gen_simp, h, h']

/-- the hand model has no `%`: FF<p> is a field, the remainder is zero (after the zero-divisor assert) -/
theorem gen_ff_rem_eq (p : Int) (x y : FFS) :
    mapR FFS.f0 (FF.Rem_FF_p_ref.rem p x y) = if C14.FF.isZero y.f0 then .panic else ok 0 := by
  unfold FF.Rem_FF_p_ref.rem
  by_cases h : y.f0 = 0
  · simp [gen_simp, h]
  · have h' : (y.f0 == 0) = false := by simpa using h
    simp [gen_simp, h, h', FF.Zero.zero]

/-- the hand model has no `normalizing_unit`: `one` for zero, `inv().unwrap()` otherwise -/
theorem gen_ff_normalizing_unit_eq (p : Int) (x : FFS) :
    mapR FFS.f0 (FF.Ring.normalizing_unit p x) =
      if C14.FF.isZero x.f0 then ok 1 else (C14.FF.inv p x.f0 >>= fun o => match o with
        | some i => ok i
        | none => .panic) := by
  unfold FF.Ring.normalizing_unit
  rw [← gen_ff_inv_eq]
  by_cases h : x.f0 = 0
  · simp [gen_simp, h, FF.One.one]
  · have h' : (x.f0 == 0) = false := by simpa using h
    cases hx : FF.Ring.inv p x with
    | ok o => cases o <;> simp [gen_simp, h, h', Opt.unwrap]
    | panic => simp [gen_simp, h, h']
    | err => simp [gen_simp, h, h']

theorem gen_ff2_from_eq (a : Int) : mapR FF2S.f0 (FF2.From_I.from_ a) = ok (C14.FF2.ofInt a) := rfl
theorem gen_ff2_zero_eq : FF2.Zero.zero.f0 = false := rfl
theorem gen_ff2_one_eq : FF2.One.one.f0 = true := rfl
theorem gen_ff2_is_zero_eq (s : FF2S) : FF2.Zero.is_zero s = C14.FF2.isZero s.f0 := rfl
theorem gen_ff2_is_one_eq (s : FF2S) : FF2.One.is_one s = C14.FF2.isOne s.f0 := rfl
theorem gen_ff2_neg_eq (s : FF2S) : (FF2.Neg.neg s).f0 = C14.FF2.neg s.f0 := rfl
theorem gen_ff2_neg_ref_eq (s : FF2S) : (FF2.Neg_ref.neg s).f0 = C14.FF2.neg s.f0 := rfl
theorem gen_ff2_add_eq (x y : FF2S) : (FF2.Add_FF2_ref.add x y).f0 = C14.FF2.add x.f0 y.f0 := by
  cases hx : x.f0 <;> cases hy : y.f0 <;> simp [FF2.Add_FF2_ref.add, C14.FF2.add, hx, hy]
theorem gen_ff2_sub_eq (x y : FF2S) : (FF2.Sub_FF2_ref.sub x y).f0 = C14.FF2.sub x.f0 y.f0 := gen_ff2_add_eq x y
theorem gen_ff2_mul_eq (x y : FF2S) : (FF2.Mul_FF2_ref.mul x y).f0 = C14.FF2.mul x.f0 y.f0 := rfl
theorem gen_ff2_div_eq (x y : FF2S) : mapR FF2S.f0 (FF2.Div_FF2_ref.div x y) = C14.FF2.div x.f0 y.f0 := by
  unfold FF2.Div_FF2_ref.div C14.FF2.div
  cases hy : y.f0 <;> simp [FF2.Zero.is_zero, C14.FF2.isZero, hy, assert_true, assert_false, mapR_ok, mapR_panic]
theorem gen_ff2_rem_eq (x y : FF2S) :
    mapR FF2S.f0 (FF2.Rem_FF2_ref.rem x y) = if C14.FF2.isZero y.f0 then .panic else ok false := by
  unfold FF2.Rem_FF2_ref.rem
  cases hy : y.f0 <;>
    simp [FF2.Zero.is_zero, C14.FF2.isZero, hy, assert_true, assert_false, mapR_ok, mapR_panic, FF2.Zero.zero]
theorem gen_ff2_inv_eq (s : FF2S) : (FF2.Ring.inv s).map FF2S.f0 = C14.FF2.inv s.f0 := by
  unfold FF2.Ring.inv C14.FF2.inv
  cases hs : s.f0 <;> simp [FF2.One.is_one, C14.FF2.isOne, hs]
theorem gen_ff2_is_unit_eq (s : FF2S) : FF2.Ring.is_unit s = !C14.FF2.isZero s.f0 := rfl
theorem gen_ff2_normalizing_unit_eq (s : FF2S) : (FF2.Ring.normalizing_unit s).f0 = true := rfl

/-! ### the statements are not vacuous -/

example : mapR FFS.f0 (FF.Mul_FF_p_ref.mul 7 ⟨5⟩ ⟨4⟩) = ok 6 := by rw [gen_ff_mul_eq]; decide
example : mapR FFS.f0 (FF.Mul_FF_p_ref.mul 46349 ⟨46348⟩ ⟨46348⟩) = .panic := by rw [gen_ff_mul_eq]; decide
example : mapR FFS.f0 (FF.new 0 3) = .panic := by rw [gen_ff_new_eq]; decide
example : mapR (Option.map FFS.f0) (FF.Ring.inv 7 ⟨3⟩) = ok (some 5) := by rw [gen_ff_inv_eq]; decide

end Yuiv.GenF
