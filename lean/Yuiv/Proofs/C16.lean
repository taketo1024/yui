import Yuiv.Proofs.C16AList
import Yuiv.Proofs.ListAux
import Mathlib.Algebra.Ring.Defs
import Mathlib.Algebra.Group.Basic
import Mathlib.Tactic.Ring
import Mathlib.Tactic.Abel
import Mathlib.Data.List.Nodup
import Mathlib.Data.List.Perm.Subperm
/-
Spec definitions and helper lemmas for C16 (linear combinations and polynomials).

The central tool is `lsum g l = Σ_{(x,r) ∈ l} g x r` for a map `g : X → R → A` into a commutative monoid that is
additive in the coefficient (`Additive g`).  Every `Lc` operation is characterised by what it does to all such
"linear functionals"; coefficients (`delta y`) and evaluation (`fun x r => r * me x`) are instances.
-/

namespace Yuiv.C16

section Entries
variable {X R : Type} [DecidableEq X] [Zero R]

theorem mem_iff_coeff_of_nodup {l : List (X × R)} (hk : (keys l).Nodup) (h0 : ∀ p ∈ l, p.2 ≠ 0) (p : X × R) :
    p ∈ l ↔ p.2 ≠ 0 ∧ coeff l p.1 = p.2 := by
  refine ⟨fun hp => ⟨h0 p hp, coeff_of_mem hk hp⟩, fun ⟨hn, hc⟩ => ?_⟩
  have hm := mem_of_coeff_ne_zero (l := l) (x := p.1) (hc ▸ hn)
  rwa [hc] at hm

theorem perm_of_coeff_eq_of_nodup {a b : List (X × R)} (ha : (keys a).Nodup) (ha0 : ∀ p ∈ a, p.2 ≠ 0)
    (hb : (keys b).Nodup) (hb0 : ∀ p ∈ b, p.2 ≠ 0) (h : ∀ x, coeff a x = coeff b x) : a.Perm b := by
  rw [List.perm_ext_iff_of_nodup (List.Nodup.of_map _ ha) (List.Nodup.of_map _ hb)]
  intro p
  rw [mem_iff_coeff_of_nodup ha ha0, mem_iff_coeff_of_nodup hb hb0, h]

end Entries

section LcProofs
variable {X R A : Type} [DecidableEq X] [DecidableEq R] [CommRing R] [AddCommMonoid A]

/-- the invariant of `Lc`: keys pairwise distinct, no stored zero coefficient -/
def WF (l : List (X × R)) : Prop := (l.map Prod.fst).Nodup ∧ ∀ p ∈ l, p.2 ≠ 0

def lsum (g : X → R → A) : List (X × R) → A
  | [] => 0
  | p :: t => g p.1 p.2 + lsum g t

structure Additive (g : X → R → A) : Prop where
  zero : ∀ x, g x 0 = 0
  add : ∀ x r s, g x (r + s) = g x r + g x s

set_option linter.unusedSectionVars false in
@[simp] theorem lsum_nil (g : X → R → A) : lsum g [] = 0 := rfl
set_option linter.unusedSectionVars false in
@[simp] theorem lsum_cons (g : X → R → A) (p : X × R) (t : List (X × R)) :
    lsum g (p :: t) = g p.1 p.2 + lsum g t := rfl

omit [DecidableEq X] [DecidableEq R] [CommRing R] in
theorem lsum_append (g : X → R → A) (l m : List (X × R)) : lsum g (l ++ m) = lsum g l + lsum g m := by
  induction l with
  | nil => simp
  | cons p t ih => simp [ih, add_assoc]

omit [DecidableEq X] [DecidableEq R] [CommRing R] in
theorem lsum_congr {g g' : X → R → A} {l : List (X × R)} (h : ∀ p ∈ l, g p.1 p.2 = g' p.1 p.2) :
    lsum g l = lsum g' l := by
  induction l with
  | nil => rfl
  | cons p t ih =>
    simp only [lsum_cons]
    rw [h p (by simp), ih (fun q hq => h q (List.mem_cons_of_mem _ hq))]

omit [DecidableEq X] [DecidableEq R] [CommRing R] in
theorem lsum_add_fun (g1 g2 : X → R → A) (l : List (X × R)) :
    lsum (fun x r => g1 x r + g2 x r) l = lsum g1 l + lsum g2 l := by
  induction l with
  | nil => simp
  | cons p t ih => simp only [lsum_cons, ih]; abel

omit [DecidableEq X] [DecidableEq R] [CommRing R] in
theorem lsum_zero_fun (l : List (X × R)) : lsum (fun _ _ => (0 : A)) l = 0 := by
  induction l with
  | nil => rfl
  | cons p t ih => simp [ih]

omit [DecidableEq R] in
theorem lsum_upd {g : X → R → A} (hg : Additive g) (l : List (X × R)) (x : X) (r : R) :
    lsum g (upd l x r) = lsum g l + g x r := by
  induction l with
  | nil => exact (add_comm _ _)
  | cons p t ih =>
    rw [upd_cons]
    by_cases h : p.1 = x
    · rw [if_pos h]; simp only [lsum_cons, hg.add, h, add_right_comm]
    · simp only [if_neg h, lsum_cons, ih, add_assoc]

theorem lsum_addPair {g : X → R → A} (hg : Additive g) (l : List (X × R)) (p : X × R) :
    lsum g (addPair l p) = lsum g l + g p.1 p.2 := by
  unfold addPair
  by_cases h : p.2 = 0
  · simp [h, hg.zero]
  · simp [h, lsum_upd hg]

omit [DecidableEq X] in
theorem lsum_clean {g : X → R → A} (hg : Additive g) (l : List (X × R)) :
    lsum g (clean l) = lsum g l := by
  induction l with
  | nil => rfl
  | cons p t ih =>
    unfold clean at *
    by_cases h : p.2 = 0
    · simp [h, ih, hg.zero]
    · simp [h, ih]

theorem lsum_foldl_addPair {g : X → R → A} (hg : Additive g) (it l : List (X × R)) :
    lsum g (it.foldl addPair l) = lsum g l + lsum g it := by
  induction it generalizing l with
  | nil => simp
  | cons p t ih => simp [ih, lsum_addPair hg, add_assoc]

theorem lsum_fromIter {g : X → R → A} (hg : Additive g) (it : List (X × R)) :
    lsum g (fromIter it) = lsum g it := by
  simp [fromIter, lsum_clean hg, lsum_foldl_addPair hg]

theorem lsum_addAssign {g : X → R → A} (hg : Additive g) (a b : List (X × R)) :
    lsum g (addAssign a b) = lsum g a + lsum g b := by
  simp [addAssign, lsum_clean hg, lsum_foldl_addPair hg]

omit [DecidableEq X] [DecidableEq R] [CommRing R] in
theorem lsum_map_pair {Y : Type} [DecidableEq Y] (g : X → R → A) (fx : Y → X) (fr : R → R) (b : List (Y × R)) :
    lsum g (b.map (fun q => (fx q.1, fr q.2))) = lsum (fun y s => g (fx y) (fr s)) b := by
  induction b with
  | nil => rfl
  | cons p t ih => simp [ih]

omit [DecidableEq R] [CommRing R] in
theorem lsum_map_coeff (g : X → R → A) (f : R → R) (a : List (X × R)) :
    lsum g (a.map (fun p => (p.1, f p.2))) = lsum (fun x r => g x (f r)) a :=
  lsum_map_pair g id f a

theorem subAssign_eq (a b : List (X × R)) :
    subAssign a b = clean ((b.map (fun p => (p.1, -p.2))).foldl addPair a) := by
  simp [subAssign, List.foldl_map]

theorem lsum_subAssign {g : X → R → A} (hg : Additive g) (a b : List (X × R)) :
    lsum g (subAssign a b) = lsum g a + lsum (fun x r => g x (-r)) b := by
  rw [subAssign_eq, lsum_clean hg, lsum_foldl_addPair hg, lsum_map_coeff]

theorem lsum_neg {g : X → R → A} (hg : Additive g) (a : List (X × R)) :
    lsum g (neg a) = lsum (fun x r => g x (-r)) a := by
  simp [neg, lsum_fromIter hg, lsum_map_coeff]

theorem lsum_smul {g : X → R → A} (hg : Additive g) (a : List (X × R)) (r : R) :
    lsum g (smul a r) = lsum (fun x v => g x (v * r)) a := by
  unfold smul
  by_cases h : r = 1
  · subst h; simp
  · simp only [h, if_false, lsum_clean hg]
    exact lsum_map_coeff g (· * r) a

omit [DecidableEq R] in
theorem nodup_upd {l : List (X × R)} (h : (keys l).Nodup) (x : X) (r : R) : (keys (upd l x r)).Nodup := by
  by_cases hx : x ∈ keys l
  · rw [keys_upd_of_mem hx]; exact h
  · rw [upd_of_not_mem hx, keys, List.map_append, List.nodup_append]
    refine ⟨h, List.nodup_singleton x, fun a ha b hb e => hx ?_⟩
    have hbx : b = x := List.mem_singleton.mp hb
    rw [← hbx, ← e]; exact ha

theorem nodup_addPair {l : List (X × R)} (h : (keys l).Nodup) (p : X × R) : (keys (addPair l p)).Nodup := by
  unfold addPair; split
  · exact h
  · exact nodup_upd h _ _

theorem nodup_foldl_addPair (it : List (X × R)) {l : List (X × R)} (h : (keys l).Nodup) :
    (keys (it.foldl addPair l)).Nodup :=
  ListAux.foldl_inv (fun l => (keys l).Nodup) h (fun _ p _ hb => nodup_addPair hb p)

omit [DecidableEq X] in
theorem nodup_clean {l : List (X × R)} (h : (keys l).Nodup) : (keys (clean l)).Nodup := by
  unfold clean keys
  exact List.Nodup.sublist (List.Sublist.map _ List.filter_sublist) h

omit [DecidableEq X] in
theorem wf_clean {l : List (X × R)} (h : (keys l).Nodup) : WF (clean l) :=
  ⟨nodup_clean h, fun _ hp => (mem_clean.mp hp).2⟩

omit [DecidableEq X] [DecidableEq R] in
theorem wf_nil : WF ([] : List (X × R)) := ⟨List.nodup_nil, fun _ hp => nomatch hp⟩

theorem wf_fromIter (it : List (X × R)) : WF (fromIter it) :=
  wf_clean (nodup_foldl_addPair it (l := []) (by simp [keys]))

theorem wf_addAssign {a : List (X × R)} (ha : (keys a).Nodup) (b : List (X × R)) : WF (addAssign a b) :=
  wf_clean (nodup_foldl_addPair b ha)

theorem wf_subAssign {a : List (X × R)} (ha : (keys a).Nodup) (b : List (X × R)) : WF (subAssign a b) := by
  rw [subAssign_eq]; exact wf_clean (nodup_foldl_addPair _ ha)

omit [DecidableEq X] [DecidableEq R] [CommRing R] in
theorem keys_map_coeff (f : R → R) (a : List (X × R)) : keys (a.map (fun p => (p.1, f p.2))) = keys a := by
  simp [keys, List.map_map, Function.comp_def]

omit [DecidableEq X] in
theorem wf_smul {a : List (X × R)} (ha : WF a) (r : R) : WF (smul a r) := by
  unfold smul; split
  · exact ha
  · exact wf_clean (by rw [keys_map_coeff (fun v => v * r)]; exact ha.1)

theorem wf_neg (a : List (X × R)) : WF (neg a) := wf_fromIter _

/-- the functional "coefficient at `y`" -/
def delta (y : X) : X → R → R := fun x r => if x = y then r else 0

omit [DecidableEq R] in
theorem delta_additive (y : X) : Additive (delta (R := R) y) :=
  ⟨fun x => by simp [delta], fun x r s => by by_cases h : x = y <;> simp [delta, h]⟩

theorem coeff_eq_lsum {l : List (X × R)} (h : (keys l).Nodup) (y : X) : coeff l y = lsum (delta y) l := by
  induction l with
  | nil => rfl
  | cons p t ih =>
    rw [keys_cons, List.nodup_cons] at h
    rw [coeff_cons, lsum_cons, ← ih h.2, delta]
    by_cases e : p.1 = y
    · rw [if_pos e, if_pos e, coeff_eq_zero (e ▸ h.1), add_zero]
    · rw [if_neg e, if_neg e, zero_add]

set_option linter.unusedSectionVars false in
theorem coeff_of_not_mem {l : List (X × R)} {y : X} (h : y ∉ keys l) : coeff l y = 0 := coeff_eq_zero h

omit [DecidableEq R] in
theorem mem_keys_iff {l : List (X × R)} (h : WF l) (x : X) : x ∈ keys l ↔ coeff l x ≠ 0 := by
  constructor
  · intro hx
    obtain ⟨p, hp, rfl⟩ := List.mem_map.mp hx
    rw [coeff_of_mem h.1 hp]; exact h.2 p hp
  · intro hx
    exact mem_keys_of_mem (mem_of_coeff_ne_zero hx)

omit [DecidableEq R] in
theorem perm_of_coeff_eq {a b : List (X × R)} (ha : WF a) (hb : WF b)
    (h : ∀ x, coeff a x = coeff b x) : a.Perm b :=
  perm_of_coeff_eq_of_nodup ha.1 ha.2 hb.1 hb.2 h

theorem lsum_perm (g : X → R → A) {a b : List (X × R)} (h : a.Perm b) : lsum g a = lsum g b := by
  induction h with
  | nil => rfl
  | cons x _ ih => rw [lsum_cons, lsum_cons, ih]
  | swap x y l => simp only [lsum_cons]; exact add_left_comm _ _ _
  | trans _ _ ih1 ih2 => exact ih1.trans ih2

omit [DecidableEq X] [DecidableEq R] in
theorem lsum_mul_left (c : R) (g : X → R → R) (l : List (X × R)) : lsum (fun x r => c * g x r) l = c * lsum g l := by
  induction l with
  | nil => simp
  | cons p t ih => simp only [lsum_cons, ih]; ring

omit [DecidableEq X] [DecidableEq R] in
theorem lsum_mul_right (c : R) (g : X → R → R) (l : List (X × R)) : lsum (fun x r => g x r * c) l = lsum g l * c := by
  induction l with
  | nil => simp
  | cons p t ih => simp only [lsum_cons, ih]; ring

omit [DecidableEq X] [DecidableEq R] in
theorem lsum_neg_coeff {g : X → R → R} (hg : Additive g) (l : List (X × R)) :
    lsum (fun x r => g x (-r)) l = - lsum g l := by
  have hneg : ∀ x r, g x (-r) = - g x r := fun x r =>
    eq_neg_of_add_eq_zero_left (by rw [← hg.add, neg_add_cancel, hg.zero])
  induction l with
  | nil => exact neg_zero.symm
  | cons p t ih => simp only [lsum_cons, ih]; rw [hneg, neg_add]

theorem coeff_perm {a b : List (X × R)} (ha : (keys a).Nodup) (h : a.Perm b) (x : X) : coeff a x = coeff b x := by
  have hb : (keys b).Nodup := (List.Perm.nodup_iff (List.Perm.map _ h)).mp ha
  rw [coeff_eq_lsum ha, coeff_eq_lsum hb, lsum_perm _ h]

/-- the coefficients are among these functionals -/
theorem perm_of_additive_eq {a b : List (X × R)} (ha : WF a) (hb : WF b)
    (h : ∀ g : X → R → R, Additive g → lsum g a = lsum g b) : a.Perm b :=
  perm_of_coeff_eq ha hb fun y => by rw [coeff_eq_lsum ha.1, coeff_eq_lsum hb.1, h _ (delta_additive y)]

theorem coeff_addAssign {a b : List (X × R)} (ha : (keys a).Nodup) (hb : (keys b).Nodup) (y : X) :
    coeff (addAssign a b) y = coeff a y + coeff b y := by
  rw [coeff_eq_lsum (wf_addAssign ha b).1, lsum_addAssign (delta_additive y), coeff_eq_lsum ha, coeff_eq_lsum hb]

theorem coeff_subAssign {a b : List (X × R)} (ha : (keys a).Nodup) (hb : (keys b).Nodup) (y : X) :
    coeff (subAssign a b) y = coeff a y - coeff b y := by
  have hd := delta_additive (R := R) y
  rw [coeff_eq_lsum (wf_subAssign ha b).1, lsum_subAssign hd, coeff_eq_lsum ha, coeff_eq_lsum hb, lsum_neg_coeff hd,
    sub_eq_add_neg]

theorem coeff_neg {a : List (X × R)} (ha : (keys a).Nodup) (y : X) : coeff (neg a) y = - coeff a y := by
  have hd := delta_additive (R := R) y
  rw [coeff_eq_lsum (wf_neg a).1, lsum_neg hd, coeff_eq_lsum ha, lsum_neg_coeff hd]

omit [DecidableEq X] [DecidableEq R] [CommRing R] in
theorem lsum_comm {Y : Type} [DecidableEq Y] (h : X → R → Y → R → A) (a : List (X × R)) (b : List (Y × R)) :
    lsum (fun x r => lsum (fun y s => h x r y s) b) a = lsum (fun y s => lsum (fun x r => h x r y s) a) b := by
  induction a with
  | nil => simp [lsum_zero_fun]
  | cons p t ih => simp only [lsum_cons, ih, lsum_add_fun]

omit [DecidableEq R] in
theorem lsum_pairs (g : X → R → A) (f : X → X → X) (a b : List (X × R)) :
    lsum g (pairs f a b) = lsum (fun x r => lsum (fun y s => g (f x y) (r * s)) b) a := by
  induction a with
  | nil => rfl
  | cons p t ih =>
    unfold pairs at *
    simp only [List.flatMap_cons, lsum_append, ih, lsum_cons]
    congr 1
    exact lsum_map_pair g (fun y => f p.1 y) (fun s => p.2 * s) b

theorem lsum_combine {g : X → R → A} (hg : Additive g) (f : X → X → X) (a b : List (X × R)) :
    lsum g (combine f a b) = lsum (fun x r => lsum (fun y s => g (f x y) (r * s)) b) a := by
  rw [combine, lsum_fromIter hg, lsum_pairs]

theorem wf_combine (f : X → X → X) (a b : List (X × R)) : WF (combine f a b) := wf_fromIter _

omit [DecidableEq X] [DecidableEq R] in
theorem additive_inner {Y : Type} [DecidableEq Y] {g : X → R → A} (hg : Additive g) (f : X → Y → X) (b : List (Y × R)) :
    Additive (fun x r => lsum (fun y s => g (f x y) (r * s)) b) := by
  constructor
  · intro x; simp [hg.zero, lsum_zero_fun]
  · intro x r s
    rw [← lsum_add_fun]
    apply lsum_congr; intro p _; simp [add_mul, hg.add]

omit [DecidableEq X] [DecidableEq R] in
theorem additive_left {g : X → R → A} (hg : Additive g) (f : X → X) (c : R) :
    Additive (fun x r => g (f x) (c * r)) :=
  ⟨fun x => by simp [hg.zero], fun x r s => by simp [mul_add, hg.add]⟩

set_option linter.unusedSectionVars false in
theorem additive_right {g : X → R → A} (hg : Additive g) (f : X → X) (c : R) :
    Additive (fun x r => g (f x) (r * c)) :=
  ⟨fun x => by simp [hg.zero], fun x r s => by simp [add_mul, hg.add]⟩

set_option linter.unusedSectionVars false in
theorem additive_neg {g : X → R → A} (hg : Additive g) : Additive (fun x r => g x (-r)) :=
  ⟨fun x => by simp [hg.zero], fun x r s => by rw [neg_add, hg.add]⟩

end LcProofs

section PolyProofs
variable {M R A : Type} [DecidableEq M] [CommMonoid M] [DecidableEq R] [CommRing R] [AddCommMonoid A]

theorem lsum_mul {g : M → R → A} (hg : Additive g) (a b : List (M × R)) :
    lsum g (mul a b) = lsum (fun x r => lsum (fun y s => g (x * y) (r * s)) b) a :=
  lsum_combine hg _ a b

theorem wf_mul (a b : List (M × R)) : WF (mul a b) := wf_combine _ a b

theorem lsum_mul_comm {g : M → R → A} (hg : Additive g) (a b : List (M × R)) :
    lsum g (mul a b) = lsum g (mul b a) := by
  rw [lsum_mul hg, lsum_mul hg, lsum_comm]
  apply lsum_congr; intro p _; apply lsum_congr; intro q _
  rw [mul_comm q.1, mul_comm q.2]

theorem lsum_mul_assoc {g : M → R → A} (hg : Additive g) (a b c : List (M × R)) :
    lsum g (mul (mul a b) c) = lsum g (mul a (mul b c)) := by
  rw [lsum_mul hg, lsum_mul (additive_inner hg (fun x y => x * y) c), lsum_mul hg]
  apply lsum_congr; intro p _
  rw [lsum_mul (additive_left hg (fun y => p.1 * y) p.2)]
  apply lsum_congr; intro q _
  apply lsum_congr; intro t _
  simp only [mul_assoc]

theorem lsum_mul_add {g : M → R → A} (hg : Additive g) (a b c : List (M × R)) :
    lsum g (mul a (addAssign b c)) = lsum g (mul a b) + lsum g (mul a c) := by
  simp only [lsum_mul hg, ← lsum_add_fun]
  apply lsum_congr; intro p _
  exact lsum_addAssign (additive_left hg (fun y => p.1 * y) p.2) b c

theorem lsum_add_mul {g : M → R → A} (hg : Additive g) (a b c : List (M × R)) :
    lsum g (mul (addAssign a b) c) = lsum g (mul a c) + lsum g (mul b c) := by
  simp only [lsum_mul hg]
  exact lsum_addAssign (additive_inner hg (fun x y => x * y) c) a b

theorem lsum_fromConst {g : M → R → A} (hg : Additive g) (c : R) : lsum g (fromConst c) = g 1 c := by
  simp [fromConst, lsum_fromIter hg]

theorem lsum_mul_fromConst {g : M → R → A} (hg : Additive g) (a : List (M × R)) (c : R) :
    lsum g (mul a (fromConst c)) = lsum (fun x r => g x (r * c)) a := by
  rw [lsum_mul hg]
  apply lsum_congr; intro p _
  simp [lsum_fromConst (additive_left hg (fun y => p.1 * y) p.2)]

theorem lsum_mul_one {g : M → R → A} (hg : Additive g) (a : List (M × R)) :
    lsum g (mul a (fromConst 1)) = lsum g a := by
  rw [lsum_mul_fromConst hg]; simp only [mul_one]

omit [DecidableEq R] in
theorem isConst_cases {b : List (M × R)} (hb : WF b) (hc : isConst b = true) :
    b = [] ∨ ∃ c, c ≠ 0 ∧ b = [((1 : M), c)] := by
  have h1 : ∀ p ∈ b, p.1 = 1 := fun p hp => of_decide_eq_true (List.all_eq_true.mp hc p hp)
  match b, hb, h1 with
  | [], _, _ => exact Or.inl rfl
  | [p], hb, h1 =>
    exact Or.inr ⟨p.2, hb.2 p List.mem_cons_self, by rw [← h1 p List.mem_cons_self]⟩
  | p :: q :: t, hb, h1 =>
    -- two stored keys are distinct, but both would be `1`
    have hpq : p.1 = q.1 := (h1 p List.mem_cons_self).trans (h1 q (List.mem_cons_of_mem _ List.mem_cons_self)).symm
    exact absurd (hpq ▸ List.mem_cons_self) (List.nodup_cons.mp hb.1).1

theorem lsum_smul_const {g : M → R → A} (hg : Additive g) (a : List (M × R)) (c : R) :
    lsum g (smul a c) = lsum g (mul a (fromConst c)) := by
  rw [lsum_smul hg, lsum_mul_fromConst hg]

theorem fromConst_of_ne {c : R} (hc : c ≠ 0) : (fromConst c : List (M × R)) = [((1 : M), c)] := by
  simp [fromConst, fromIter, addPair, clean, hc, upd]

theorem fromConst_zero : (fromConst (0 : R) : List (M × R)) = [] := by
  simp [fromConst, fromIter, addPair, clean]

theorem lsum_fromConst_zero (g : M → R → A) : lsum g (fromConst (0 : R) : List (M × R)) = 0 := by
  rw [fromConst_zero]; rfl

theorem eq_fromConst_of_isConst {b : List (M × R)} (hb : WF b) (hc : isConst b = true) :
    b = fromConst (constTerm b) := by
  rcases isConst_cases hb hc with rfl | ⟨c, hc0, rfl⟩
  · simp [constTerm, coeff, fromConst_zero]
  · simp [constTerm, coeff, fromConst_of_ne hc0]

set_option linter.unusedSectionVars false in
theorem lsum_eq_zero_of_subsingleton {g : M → R → A} (hg : Additive g) (h01 : (0 : R) = 1)
    (a : List (M × R)) : lsum g a = 0 := by
  have all0 : ∀ r : R, r = 0 := fun r => by rw [← mul_one r, ← h01, mul_zero]
  induction a with
  | nil => rfl
  | cons p t ih => simp [ih, all0 p.2, hg.zero]

/-- a property of all four results of `*=` (unchanged `self`, two scalings, the general product) holds of `*=` -/
theorem mulAssign_cases {P : List (M × R) → Prop} (a b : List (M × R)) (h1 : isOne b = true → P a)
    (h2 : isConst b = true → P (smul a (constTerm b))) (h3 : isConst a = true → P (smul b (constTerm a)))
    (h4 : P (mul a b)) : P (mulAssign a b) := by
  unfold mulAssign
  by_cases c1 : isOne b = true
  · rw [if_pos c1]; exact h1 c1
  · by_cases c2 : isConst b = true
    · rw [if_neg c1, if_pos c2]; exact h2 c2
    · by_cases c3 : isConst a = true
      · rw [if_neg c1, if_neg c2, if_pos c3]; exact h3 c3
      · rw [if_neg c1, if_neg c2, if_neg c3]; exact h4

theorem lsum_mulAssign {g : M → R → A} (hg : Additive g) {a b : List (M × R)} (ha : WF a) (hb : WF b) :
    lsum g (mulAssign a b) = lsum g (mul a b) := by
  refine mulAssign_cases (P := fun r => lsum g r = lsum g (mul a b)) a b (fun h1 => ?_) (fun h2 => ?_) (fun h3 => ?_) rfl
  · rw [isOne, Bool.and_eq_true, decide_eq_true_eq] at h1
    rw [eq_fromConst_of_isConst hb h1.1, h1.2, lsum_mul_one hg]
  · rw [lsum_smul_const hg, ← eq_fromConst_of_isConst hb h2]
  · rw [lsum_smul_const hg, ← eq_fromConst_of_isConst ha h3, lsum_mul_comm hg]

theorem wf_mulAssign {a b : List (M × R)} (ha : WF a) (hb : WF b) : WF (mulAssign a b) :=
  mulAssign_cases a b (fun _ => ha) (fun _ => wf_smul ha _) (fun _ => wf_smul hb _) (wf_mul a b)

omit [DecidableEq R] in
theorem foldl_add_eq (l : List R) (acc : R) : l.foldl (· + ·) acc = acc + l.foldl (· + ·) 0 := by
  rw [← List.foldl_assoc (ha := ⟨add_assoc⟩), add_zero]

omit [DecidableEq M] [CommMonoid M] [DecidableEq R] in
theorem evalWith_eq_lsum (me : M → R) (a : List (M × R)) : evalWith me a = lsum (fun x r => r * me x) a := by
  unfold evalWith sumR
  induction a with
  | nil => rfl
  | cons p t ih => simp only [List.map_cons, List.foldl_cons, lsum_cons]; rw [foldl_add_eq, ih]; ring

omit [DecidableEq M] [CommMonoid M] [DecidableEq R] in
theorem evalFun_additive (me : M → R) : Additive (fun x (r : R) => r * me x) :=
  ⟨fun x => by simp, fun x r s => by ring⟩

theorem evalWith_mul (me : M → R) (hme : ∀ x y, me (x * y) = me x * me y) (a b : List (M × R)) :
    evalWith me (mul a b) = evalWith me a * evalWith me b := by
  simp only [evalWith_eq_lsum]
  rw [lsum_mul (evalFun_additive me), ← lsum_mul_right]
  apply lsum_congr; intro p _
  rw [← lsum_mul_left]
  apply lsum_congr; intro q _
  simp only [hme]; ring

omit [DecidableEq R] in
theorem powNat_add (x : R) (m n : Nat) : powNat x (m + n) = powNat x m * powNat x n := by
  induction n with
  | zero => simp [powNat]
  | succ k ih => rw [← Nat.add_assoc]; simp only [powNat, ih]; ring

end PolyProofs

section Semantics
variable {X R : Type} [DecidableEq X] [DecidableEq R] [CommRing R]

omit [DecidableEq X] [DecidableEq R] [CommRing R] in
theorem nterms_eq (a : List (X × R)) : nterms a = (keys a).length := by simp [nterms, keys]

end Semantics

section Lead
variable {M R : Type} [DecidableEq M] [One M] [DecidableEq R] [CommRing R]

/-- the laws of a total order given by a three-way comparison, on the monomials satisfying `P` -/
structure OrdLaws (P : M → Prop) (cmp : M → M → Ordering) : Prop where
  eq_iff : ∀ x y, P x → P y → (cmp x y = .eq ↔ x = y)
  swap : ∀ x y, P x → P y → cmp y x = (cmp x y).swap
  trans : ∀ x y z, P x → P y → P z → cmp x y ≠ .gt → cmp y z ≠ .gt → cmp x z ≠ .gt

omit [DecidableEq M] [One M] in
theorem OrdLaws.refl {P : M → Prop} {cmp : M → M → Ordering} (h : OrdLaws P cmp) {x : M} (hx : P x) :
    cmp x x = .eq := (h.eq_iff x x hx hx).mpr rfl

omit [DecidableEq M] [One M] in
theorem OrdLaws.antisymm {P : M → Prop} {cmp : M → M → Ordering} (h : OrdLaws P cmp) {x y : M} (hx : P x) (hy : P y)
    (h1 : cmp x y ≠ .gt) (h2 : cmp y x ≠ .gt) : x = y := by
  rw [h.swap x y hx hy] at h2
  cases hc : cmp x y with
  | lt => rw [hc] at h2; exact absurd rfl h2
  | eq => exact (h.eq_iff x y hx hy).mp hc
  | gt => exact absurd hc h1

/-- one step of `max_by`: the accumulator stays only if it is strictly greater (the last maximal element wins) -/
def step (cmp : M → M → Ordering) (acc q : M × R) : M × R := if cmp acc.1 q.1 = .gt then acc else q

omit [DecidableEq M] [One M] [DecidableEq R] [CommRing R] in
theorem step_eq (cmp : M → M → Ordering) (p q : M × R) : step cmp p q = p ∨ step cmp p q = q := by
  unfold step; split
  · exact Or.inl rfl
  · exact Or.inr rfl

omit [DecidableEq R] [CommRing R] [DecidableEq M] [One M] in
theorem le_step {P : M → Prop} {cmp : M → M → Ordering} (h : OrdLaws P cmp) {p q : M × R} (hp : P p.1) (hq : P q.1) :
    cmp p.1 (step cmp p q).1 ≠ .gt ∧ cmp q.1 (step cmp p q).1 ≠ .gt := by
  unfold step; split
  · rename_i hgt
    refine ⟨by rw [h.refl hp]; exact nofun, ?_⟩
    rw [h.swap _ _ hp hq, hgt]; exact nofun
  · rename_i hgt
    exact ⟨hgt, by rw [h.refl hq]; exact nofun⟩

omit [DecidableEq R] [CommRing R] [DecidableEq M] [One M] in
theorem foldl_step_spec {P : M → Prop} {cmp : M → M → Ordering} (h : OrdLaws P cmp)
    (t : List (M × R)) (p : M × R) (hP : ∀ q ∈ p :: t, P q.1) :
    let r := t.foldl (step cmp) p
    r ∈ p :: t ∧ ∀ q ∈ p :: t, cmp q.1 r.1 ≠ .gt := by
  induction t generalizing p with
  | nil =>
    refine ⟨List.mem_cons_self, fun q hq => ?_⟩
    rw [List.mem_singleton.mp hq, List.foldl_nil, h.refl (hP p List.mem_cons_self)]
    exact nofun
  | cons q t ih =>
    have hp : P p.1 := hP p List.mem_cons_self
    have hq : P q.1 := hP q (List.mem_cons_of_mem _ List.mem_cons_self)
    have hs : P (step cmp p q).1 := by rcases step_eq cmp p q with e | e <;> rw [e] <;> assumption
    have hP' : ∀ s ∈ step cmp p q :: t, P s.1 := fun s hs' => by
      rcases List.mem_cons.mp hs' with e | hm
      · rw [e]; exact hs
      · exact hP s (List.mem_cons_of_mem _ (List.mem_cons_of_mem _ hm))
    obtain ⟨hmem, hmax⟩ := ih (step cmp p q) hP'
    have hr := hP' _ hmem
    have hmid := hmax _ List.mem_cons_self
    rw [List.foldl_cons]
    constructor
    · rcases List.mem_cons.mp hmem with e | hm
      · rw [e]
        rcases step_eq cmp p q with e' | e' <;> rw [e']
        · exact List.mem_cons_self
        · exact List.mem_cons_of_mem _ List.mem_cons_self
      · exact List.mem_cons_of_mem _ (List.mem_cons_of_mem _ hm)
    · intro s hs'
      rcases List.mem_cons.mp hs' with e | hs'
      · rw [e]; exact h.trans _ _ _ hp hs hr (le_step h hp hq).1 hmid
      · rcases List.mem_cons.mp hs' with e | hm
        · rw [e]; exact h.trans _ _ _ hq hs hr (le_step h hp hq).2 hmid
        · exact hmax s (List.mem_cons_of_mem _ hm)

omit [DecidableEq R] [DecidableEq M] in
theorem leadTerm_spec {P : M → Prop} {cmp : M → M → Ordering} (h : OrdLaws P cmp)
    {a : List (M × R)} (hP : ∀ q ∈ a, P q.1) (hne : a ≠ []) :
    leadTerm cmp a ∈ a ∧ ∀ q ∈ a, cmp q.1 (leadTerm cmp a).1 ≠ .gt := by
  cases a with
  | nil => exact absurd rfl hne
  | cons p t =>
    simp only [leadTerm, maxBy, Option.getD_some]
    exact foldl_step_spec h t p hP

omit [DecidableEq R] in
theorem leadTerm_unique {P : M → Prop} {cmp : M → M → Ordering} (h : OrdLaws P cmp)
    {a : List (M × R)} (ha : WF a) (hP : ∀ q ∈ a, P q.1) {r : M × R} (hr : r ∈ a)
    (hmax : ∀ q ∈ a, cmp q.1 r.1 ≠ .gt) : leadTerm cmp a = r := by
  obtain ⟨hm, hx⟩ := leadTerm_spec h hP (List.ne_nil_of_mem hr)
  have hk : (leadTerm cmp a).1 = r.1 := h.antisymm (hP _ hm) (hP _ hr) (hmax _ hm) (hx _ hr)
  refine Prod.ext hk ?_
  rw [← coeff_of_mem ha.1 hm, hk, coeff_of_mem ha.1 hr]

end Lead

/-! ### transport along an injective map of generators (used for `MultiVar`: raw monomials vs. well-formed ones) -/
section KeyMap
variable {X Y R : Type} [DecidableEq X] [DecidableEq Y] [DecidableEq R] [CommRing R]

/-- rename the generators -/
def mapK (φ : X → Y) (l : List (X × R)) : List (Y × R) := l.map (fun p => (φ p.1, p.2))

set_option linter.unusedSectionVars false in
theorem mapK_nil (φ : X → Y) : mapK φ ([] : List (X × R)) = [] := rfl
set_option linter.unusedSectionVars false in
theorem mapK_cons (φ : X → Y) (p : X × R) (t : List (X × R)) : mapK φ (p :: t) = (φ p.1, p.2) :: mapK φ t := rfl

omit [DecidableEq R] in
theorem upd_mapK {φ : X → Y} (hφ : Function.Injective φ) (l : List (X × R)) (x : X) (r : R) :
    upd (mapK φ l) (φ x) r = mapK φ (upd l x r) := by
  induction l with
  | nil => rfl
  | cons p t ih =>
    obtain ⟨y, v⟩ := p
    simp only [mapK_cons, upd]
    by_cases h : y = x
    · subst h; simp [mapK_cons]
    · have : ¬ φ y = φ x := fun e => h (hφ e)
      simp [h, this, mapK_cons, ih]

theorem addPair_mapK {φ : X → Y} (hφ : Function.Injective φ) (l : List (X × R)) (p : X × R) :
    addPair (mapK φ l) (φ p.1, p.2) = mapK φ (addPair l p) := by
  unfold addPair
  by_cases h : p.2 = 0
  · simp [h]
  · simp [h, upd_mapK hφ]

omit [DecidableEq X] [DecidableEq Y] in
theorem clean_mapK (φ : X → Y) (l : List (X × R)) : clean (mapK φ l) = mapK φ (clean l) := by
  induction l with
  | nil => rfl
  | cons p t ih =>
    unfold clean at *
    by_cases h : p.2 = 0 <;> simp [mapK_cons, h, ih]

theorem foldl_addPair_mapK {φ : X → Y} (hφ : Function.Injective φ) (it l : List (X × R)) :
    (mapK φ it).foldl addPair (mapK φ l) = mapK φ (it.foldl addPair l) := by
  induction it generalizing l with
  | nil => rfl
  | cons p t ih => simp only [mapK_cons, List.foldl_cons]; rw [addPair_mapK hφ, ih]

theorem fromIter_mapK {φ : X → Y} (hφ : Function.Injective φ) (it : List (X × R)) :
    fromIter (mapK φ it) = mapK φ (fromIter it) := by
  unfold fromIter
  rw [← clean_mapK, ← foldl_addPair_mapK hφ]; rfl

theorem addAssign_mapK {φ : X → Y} (hφ : Function.Injective φ) (a b : List (X × R)) :
    addAssign (mapK φ a) (mapK φ b) = mapK φ (addAssign a b) := by
  unfold addAssign
  rw [← clean_mapK, ← foldl_addPair_mapK hφ]

omit [DecidableEq X] [DecidableEq Y] [DecidableEq R] [CommRing R] in
theorem mapK_map_coeff (φ : X → Y) (f : R → R) (a : List (X × R)) :
    mapK φ (a.map (fun p => (p.1, f p.2))) = (mapK φ a).map (fun p => (p.1, f p.2)) := by
  simp [mapK, List.map_map, Function.comp_def]

theorem subAssign_mapK {φ : X → Y} (hφ : Function.Injective φ) (a b : List (X × R)) :
    subAssign (mapK φ a) (mapK φ b) = mapK φ (subAssign a b) := by
  rw [subAssign_eq, subAssign_eq, ← clean_mapK, ← foldl_addPair_mapK hφ, mapK_map_coeff φ (fun v => -v)]

omit [DecidableEq X] [DecidableEq Y] in
theorem smul_mapK (φ : X → Y) (a : List (X × R)) (r : R) : smul (mapK φ a) r = mapK φ (smul a r) := by
  unfold smul
  split
  · rfl
  · rw [← clean_mapK, mapK_map_coeff φ (fun v => v * r)]

theorem neg_mapK {φ : X → Y} (hφ : Function.Injective φ) (a : List (X × R)) :
    neg (mapK φ a) = mapK φ (neg a) := by
  unfold neg
  rw [← fromIter_mapK hφ, mapK_map_coeff φ (fun v => -v)]

omit [DecidableEq R] in
theorem coeff_mapK {φ : X → Y} (hφ : Function.Injective φ) (l : List (X × R)) (x : X) :
    coeff (mapK φ l) (φ x) = coeff l x := by
  induction l with
  | nil => rfl
  | cons p t ih =>
    obtain ⟨y, v⟩ := p
    simp only [mapK_cons, coeff]
    by_cases h : y = x
    · subst h; simp
    · have : ¬ φ y = φ x := fun e => h (hφ e)
      simp [h, this, ih]

omit [DecidableEq X] [DecidableEq Y] [DecidableEq R] in
theorem pairs_mapK (φ : X → Y) (f : X → X → X) (f' : Y → Y → Y) (hf : ∀ x y, φ (f x y) = f' (φ x) (φ y))
    (a b : List (X × R)) : pairs f' (mapK φ a) (mapK φ b) = mapK φ (pairs f a b) := by
  unfold pairs mapK
  simp [List.flatMap_map, List.map_flatMap, List.map_map, Function.comp_def, hf]

theorem combine_mapK {φ : X → Y} (hφ : Function.Injective φ) (f : X → X → X) (f' : Y → Y → Y)
    (hf : ∀ x y, φ (f x y) = f' (φ x) (φ y)) (a b : List (X × R)) :
    combine f' (mapK φ a) (mapK φ b) = mapK φ (combine f a b) := by
  unfold combine
  rw [pairs_mapK φ f f' hf, fromIter_mapK hφ]

set_option linter.unusedSectionVars false in
theorem wf_mapK {φ : X → Y} (hφ : Function.Injective φ) {a : List (X × R)} (ha : WF a) : WF (mapK φ a) := by
  constructor
  · have : (mapK φ a).map Prod.fst = (a.map Prod.fst).map φ := by
      simp [mapK, List.map_map, Function.comp_def]
    rw [this]; exact List.Nodup.map hφ ha.1
  · intro p hp
    obtain ⟨q, hq, rfl⟩ := List.mem_map.mp hp
    exact ha.2 q hq

end KeyMap

section KeyMapPoly
variable {M N R : Type} [DecidableEq M] [DecidableEq N] [Mul M] [One M] [Mul N] [One N]
  [DecidableEq R] [CommRing R]

omit [One M] [One N] in
theorem mul_mapK {φ : M → N} (hφ : Function.Injective φ) (hmul : ∀ x y, φ (x * y) = φ x * φ y)
    (a b : List (M × R)) : mul (mapK φ a) (mapK φ b) = mapK φ (mul a b) :=
  combine_mapK hφ _ _ hmul a b

omit [Mul M] [Mul N] [DecidableEq R] [CommRing R] in
theorem isConst_mapK {φ : M → N} (hφ : Function.Injective φ) (h1 : φ 1 = 1) (a : List (M × R)) :
    isConst (mapK φ a) = isConst a := by
  induction a with
  | nil => rfl
  | cons p t ih =>
    unfold isConst at *
    simp only [mapK_cons, List.all_cons, ih]
    congr 1
    have : (φ p.1 = 1) ↔ (p.1 = 1) := ⟨fun e => hφ (by rw [e, h1]), fun e => by rw [e, h1]⟩
    simp [this]

omit [Mul M] [Mul N] [DecidableEq R] in
theorem constTerm_mapK {φ : M → N} (hφ : Function.Injective φ) (h1 : φ 1 = 1) (a : List (M × R)) :
    constTerm (mapK φ a) = constTerm a := by
  unfold constTerm; rw [← h1, coeff_mapK hφ]

theorem mulAssign_mapK {φ : M → N} (hφ : Function.Injective φ) (h1 : φ 1 = 1)
    (hmul : ∀ x y, φ (x * y) = φ x * φ y) (a b : List (M × R)) :
    mulAssign (mapK φ a) (mapK φ b) = mapK φ (mulAssign a b) := by
  unfold mulAssign isOne
  simp only [isConst_mapK hφ h1, constTerm_mapK hφ h1, smul_mapK, mul_mapK hφ hmul, apply_ite (mapK φ)]

end KeyMapPoly

end Yuiv.C16
