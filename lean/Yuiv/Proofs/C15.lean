import Yuiv.Model.C15
import Mathlib.Tactic.Ring
import Mathlib.Tactic.Linarith
import Mathlib.Algebra.Order.Ring.Abs
import Mathlib.Algebra.Ring.Basic
import Mathlib.Algebra.GroupWithZero.Associated
import Mathlib.Algebra.Group.Units.Basic
/-
C15 — integer `/`, `%`, `div_round`; the search of `FF::inv`; Gaussian / Eisenstein division; the generic Euclid
loops over `EucRep` and `LawfulEuc`.
-/
namespace Yuiv.C15

theorem iabs_eq_abs (a : Int) : iabs a = |a| := by
  unfold iabs; split
  · rw [abs_of_neg (by assumption)]
  · rw [abs_of_nonneg (by omega)]

theorem tmod_facts (a b : Int) (hb : b ≠ 0) :
    (0 ≤ a → 0 ≤ a.tmod b ∧ a.tmod b < iabs b) ∧ (a < 0 → a.tmod b ≤ 0 ∧ -(a.tmod b) < iabs b) := by
  have pos : ∀ x : Int, 0 ≤ x → 0 ≤ x.tmod b ∧ x.tmod b < iabs b := by
    intro x hx
    refine ⟨Int.tmod_nonneg b hx, ?_⟩
    unfold iabs; split
    · have := Int.tmod_lt_of_pos x (b := -b) (by omega)
      rwa [Int.tmod_neg] at this
    · exact Int.tmod_lt_of_pos x (by omega)
  refine ⟨pos a, fun ha => ?_⟩
  have := pos (-a) (by omega)
  rw [Int.neg_tmod] at this
  omega

theorem zdiv_rem (a b : Int) : a = zDivT a b * b + zRemT a b := by
  unfold zDivT zRemT
  have := Int.tmod_add_tdiv_mul a b
  omega

theorem zrem_lt (a b : Int) (hb : b ≠ 0) : iabs (zRemT a b) < iabs b := by
  unfold zRemT
  have h := tmod_facts a b hb
  by_cases ha : 0 ≤ a
  · have := h.1 ha; unfold iabs at *; split <;> omega
  · have := h.2 (by omega); unfold iabs at *; split <;> omega

theorem iabs_of_nonneg {x : Int} (h : 0 ≤ x) : iabs x = x := if_neg (by omega)

theorem iabs_of_nonpos {x : Int} (h : x ≤ 0) : iabs x = -x := by unfold iabs; omega

theorem nabs_eq (x : Int) : nabs x = -iabs x := by unfold nabs iabs; omega

/-- The arithmetic of `div_round`, signs of the divisor apart: `r` is a remainder with the sign of `a` and
`|r| < B`; moving it towards zero by `B` when `B ≤ 2|r|` leaves `t` with `2|t| ≤ B`, and on a tie the
quotient part `a - t` has grown in magnitude (rounding away from zero). -/
theorem round_mag (a B r t : Int) (h : (0 ≤ a → 0 ≤ r ∧ r < B) ∧ (a < 0 → r ≤ 0 ∧ -r < B))
    (ht : t = if B ≤ 2 * iabs r then (if a < 0 then r + B else r - B) else r) :
    2 * iabs t ≤ B ∧ (2 * iabs t = B → iabs a < iabs (a - t)) := by
  by_cases ha : a < 0
  · obtain ⟨h1, h2⟩ := h.2 ha
    rw [iabs_of_nonpos h1, if_pos ha] at ht
    rw [iabs_of_nonpos ha.le]
    unfold iabs; omega
  · obtain ⟨h1, h2⟩ := h.1 (by omega)
    rw [iabs_of_nonneg h1, if_neg ha] at ht
    rw [iabs_of_nonneg (by omega : 0 ≤ a)]
    unfold iabs; omega

/-- what `div_round` leaves of `a`: the truncated remainder, moved towards zero by `|b|` when `|b| ≤ 2|r|`
(the test `nr <= nb - nr` on negated magnitudes; `quo ± 1` according to the signs of `a` and `b`) -/
theorem zDivRoundT_rem (a b : Int) :
    a - zDivRoundT a b * b =
      if iabs b ≤ 2 * iabs (a.tmod b) then (if a < 0 then a.tmod b + iabs b else a.tmod b - iabs b)
      else a.tmod b := by
  have e := zdiv_rem a b
  unfold zDivRoundT
  simp only [zDivT, zRemT, nabs_eq, beq_iff_eq, decide_eq_decide] at e ⊢
  generalize a.tdiv b = q at e ⊢
  generalize a.tmod b = r at e ⊢
  have : iabs b ≤ 2 * iabs r ↔ -iabs r ≤ -iabs b - -iabs r := by omega
  simp only [← this]
  split
  · split
    · rw [add_mul, one_mul]; unfold iabs; omega
    · rw [sub_mul, one_mul]; unfold iabs; omega
  · omega

theorem zdivround_exact (a b : Int) (hb : b ≠ 0) :
    2 * iabs (a - zDivRoundT a b * b) ≤ iabs b ∧
    (2 * iabs (a - zDivRoundT a b * b) = iabs b → iabs a < iabs (zDivRoundT a b * b)) := by
  have h := round_mag a (iabs b) (a.tmod b) _ (tmod_facts a b hb) (zDivRoundT_rem a b)
  rwa [sub_sub_cancel] at h

theorem FF.inv_zero (p : Nat) : FF.inv p 0 = none := rfl

theorem FF.inv_of_witness (p b w : Nat) (hb : b ≠ 0) (hw : w < p) (h : (b * w) % p = 1 % p) :
    ∃ i, FF.inv p b = some i ∧ i < p ∧ (b * i) % p = 1 % p := by
  have hsome : ((List.range p).find? (fun x => (b * x) % p == 1 % p)).isSome = true := by
    rw [List.find?_isSome]
    exact ⟨w, List.mem_range.2 hw, by rw [beq_iff_eq, h]⟩
  obtain ⟨i, hi⟩ := Option.isSome_iff_exists.1 hsome
  refine ⟨i, ?_, List.mem_range.1 (List.mem_of_find?_eq_some hi), by simpa using List.find?_some hi⟩
  unfold FF.inv
  rw [if_neg (by simpa using hb)]; exact hi

theorem int_unit_of_mul_self_le_one (a : Int) (h : a * a ≤ 1) : a = -1 ∨ a = 0 ∨ a = 1 := by
  have : a.natAbs * a.natAbs ≤ 1 * 1 := by
    have := Int.natAbs_mul_self (a := a); omega
  have := Nat.mul_self_le_mul_self_iff.1 this
  omega

theorem gauss_norm_one {a b : Int} (h : a * a + b * b = 1) :
    (a = 1 ∧ b = 0) ∨ (a = 0 ∧ b = 1) ∨ (a = -1 ∧ b = 0) ∨ (a = 0 ∧ b = -1) := by
  have ha := int_unit_of_mul_self_le_one a (by linarith [mul_self_nonneg b])
  have hb := int_unit_of_mul_self_le_one b (by linarith [mul_self_nonneg a])
  rcases ha with rfl | rfl | rfl <;> rcases hb with rfl | rfl | rfl <;> omega

theorem eisen_norm_one {a b : Int} (h : a * a + a * b + b * b = 1) :
    (a = 1 ∧ b = 0) ∨ (a = 0 ∧ b = 1) ∨ (a = -1 ∧ b = 1) ∨
    (a = -1 ∧ b = 0) ∨ (a = 0 ∧ b = -1) ∨ (a = 1 ∧ b = -1) := by
  -- `4·N = (a + 2b)² + 3a² = (2a + b)² + 3b²`
  have ha := int_unit_of_mul_self_le_one a (by linarith [mul_self_nonneg (a + 2 * b)])
  have hb := int_unit_of_mul_self_le_one b (by linarith [mul_self_nonneg (2 * a + b)])
  rcases ha with rfl | rfl | rfl <;> rcases hb with rfl | rfl | rfl <;> omega

namespace QInt

@[ext] theorem ext' {x y : QInt} (h1 : x.a = y.a) (h2 : x.b = y.b) : x = y := by
  cases x; cases y; simp_all

theorem ne_zero_iff (y : QInt) : y ≠ zero ↔ (y.a ≠ 0 ∨ y.b ≠ 0) := by
  constructor
  · intro h; by_contra hc; rw [not_or, not_not, not_not] at hc; exact h (ext' hc.1 hc.2)
  · intro h hc; rw [hc] at h; simp [zero] at h

theorem gNorm_nonneg (x : QInt) : 0 ≤ gNorm x := by
  unfold gNorm; linarith [mul_self_nonneg x.a, mul_self_nonneg x.b]

theorem gNorm_pos (y : QInt) (hy : y ≠ zero) : 0 < gNorm y := by
  unfold gNorm
  rcases (ne_zero_iff y).1 hy with h | h
  · linarith [mul_self_pos.2 h, mul_self_nonneg y.b]
  · linarith [mul_self_pos.2 h, mul_self_nonneg y.a]

/-- `4·N(y) = (2a + b)² + 3b² = (a + 2b)² + 3a²` -/
theorem eNorm_nonneg (x : QInt) : 0 ≤ eNorm x := by
  unfold eNorm; linarith [mul_self_nonneg (2 * x.a + x.b), mul_self_nonneg x.b]

theorem eNorm_pos (y : QInt) (hy : y ≠ zero) : 0 < eNorm y := by
  unfold eNorm
  rcases (ne_zero_iff y).1 hy with h | h
  · linarith [mul_self_pos.2 h, mul_self_nonneg (y.a + 2 * y.b)]
  · linarith [mul_self_pos.2 h, mul_self_nonneg (2 * y.a + y.b)]

theorem round_abs (a b : Int) (hb : 0 < b) : 2 * |a - zDivRoundT a b * b| ≤ b := by
  have := (zdivround_exact a b (ne_of_gt hb)).1
  rw [iabs_eq_abs, iabs_eq_abs, abs_of_pos hb] at this
  exact this

theorem four_abs_mul_le {N x y : Int} (hx : 2 * |x| ≤ N) (hy : 2 * |y| ≤ N) : 4 * |x * y| ≤ N * N := by
  rw [abs_mul]
  calc 4 * (|x| * |y|) = (2 * |x|) * (2 * |y|) := by ring
    _ ≤ N * N := mul_le_mul hx hy (mul_nonneg (by decide) (abs_nonneg y))
        (le_trans (mul_nonneg (by decide) (abs_nonneg x)) hx)

/-- The Euclidean bound of coordinatewise rounding in an imaginary quadratic ring with norm form
`x² + t·xy + y²`.  With `r = a − b·[a/b]` and `N = N(b)`, the coordinates `x, y` of `r·conj b = a·conj b − N·[a/b]`
are at most `N/2` in absolute value, and `N(r)·N = N(r·conj b)` (hypothesis `key`); hence `N(r) ≤ (2 + |t|)/4 · N`. -/
theorem round_norm_bound {N R x y t : Int} (hN : 0 < N) (hx : 2 * |x| ≤ N) (hy : 2 * |y| ≤ N)
    (key : R * N = x * x + t * (x * y) + y * y) : 4 * R ≤ (2 + |t|) * N := by
  have hxx := le_trans (Int.mul_le_mul_of_nonneg_left (le_abs_self (x * x)) (by decide)) (four_abs_mul_le hx hx)
  have hyy := le_trans (Int.mul_le_mul_of_nonneg_left (le_abs_self (y * y)) (by decide)) (four_abs_mul_le hy hy)
  have hxy : 4 * (t * (x * y)) ≤ |t| * (N * N) := by
    have h1 : t * (x * y) ≤ |t| * |x * y| := (abs_mul t (x * y)) ▸ le_abs_self _
    have h2 := mul_le_mul_of_nonneg_left (four_abs_mul_le hx hy) (abs_nonneg t)
    linarith
  refine le_of_mul_le_mul_right ?_ hN
  linarith

theorem g_div_rem (x y : QInt) : x = add (gMul (gDiv x y) y) (gRem x y) := by
  ext <;> simp only [add, gRem, sub, gMul] <;> ring

theorem g_rem_bound (x y : QInt) (hy : y ≠ zero) : 2 * gNorm (gRem x y) ≤ gNorm y := by
  have hN := gNorm_pos y hy
  have h := round_norm_bound (t := 0) (R := gNorm (gRem x y)) hN
    (round_abs (gMul x (gConj y)).a (gNorm y) hN) (round_abs (gMul x (gConj y)).b (gNorm y) hN)
    (by simp only [gRem, gDiv, gDivRound, sub, gMul, gConj, gNorm]; ring)
  rw [abs_zero] at h
  omega

theorem g_rem_lt (x y : QInt) (hy : y ≠ zero) : gNorm (gRem x y) < gNorm y := by
  have := g_rem_bound x y hy
  have := gNorm_pos y hy
  have := gNorm_nonneg (gRem x y)
  omega

theorem e_div_rem (x y : QInt) : x = add (eMul (eDiv x y) y) (eRem x y) := by
  ext <;> simp only [add, eRem, sub, eMul] <;> ring

/-- `t = -1`: here `e, f` are the rounding errors of `(w.a + w.b)/N` and `w.b/N`, and `N(e − f, f) = e² − ef + f²` -/
theorem e_rem_bound (x y : QInt) (hy : y ≠ zero) : 4 * eNorm (eRem x y) ≤ 3 * eNorm y := by
  have hN := eNorm_pos y hy
  exact round_norm_bound (t := -1) hN
    (round_abs ((eMul x (eConj y)).a + (eMul x (eConj y)).b) (eNorm y) hN)
    (round_abs (eMul x (eConj y)).b (eNorm y) hN)
    (by simp only [eRem, eDiv, eDivRound, sub, eMul, eConj, eNorm]; ring)

theorem e_rem_lt (x y : QInt) (hy : y ≠ zero) : eNorm (eRem x y) < eNorm y := by
  have := e_rem_bound x y hy
  have := eNorm_pos y hy
  have := eNorm_nonneg (eRem x y)
  omega

end QInt

theorem EucOps.gcd_shape {α : Type} (E : EucOps α) (x y d : α) (h : E.gcd x y = .ok d) :
    d = E.zero ∨ ∃ z, d = E.normalized z := by
  unfold EucOps.gcd at h
  split at h
  · exact .inl (Res.ok.inj h).symm
  split at h
  · exact .inr ⟨_, (Res.ok.inj h).symm⟩
  split at h
  · exact .inr ⟨_, (Res.ok.inj h).symm⟩
  split at h
  · exact .inr ⟨_, (Res.ok.inj h).symm⟩
  · cases h

theorem EucOps.lcm_shape {α : Type} (E : EucOps α) (x y l : α) (h : E.lcm x y = .ok l) :
    ∃ z, l = E.normalized z := by
  unfold EucOps.lcm at h
  split at h
  · split at h
    · cases h
    · exact ⟨_, (Res.ok.inj h).symm⟩
  · cases h
  · cases h

/-- what the generic code of `euc_ring.rs` needs of a type implementing `EucRing`, in representation form:
the operations of `E` compute, on the valid representatives `V`, a commutative ring `R` through `ψ`
(injective on `V`); `/`, `%` are a Euclidean division w.r.t. `E.norm`; `normalizing_unit` gives a unit.
The Euclid loops are proved over this; `LawfulEuc` below is the case `V = True`, `ψ = id`. -/
structure EucRep {α R : Type} [CommRing R] (E : EucOps α) (V : α → Prop) (ψ : α → R) : Prop where
  inj : ∀ a b, V a → V b → ψ a = ψ b → a = b
  v_zero : V E.zero
  psi_zero : ψ E.zero = 0
  v_one : V E.one
  psi_one : ψ E.one = 1
  isZero_iff : ∀ a, V a → (E.isZero a = true ↔ ψ a = 0)
  isOne_imp : ∀ a, V a → E.isOne a = true → ψ a = 1
  sub : ∀ a b, V a → V b → V (E.sub a b) ∧ ψ (E.sub a b) = ψ a - ψ b
  mul : ∀ a b, V a → V b → V (E.mul a b) ∧ ψ (E.mul a b) = ψ a * ψ b
  div_rem : ∀ a b, V a → V b → ψ b ≠ 0 → V (E.div a b) ∧ V (E.rem a b) ∧
    ψ a = ψ (E.div a b) * ψ b + ψ (E.rem a b) ∧ E.norm (E.rem a b) < E.norm b
  rem_of_dvd : ∀ a b, V a → V b → ψ b ≠ 0 → ψ b ∣ ψ a → ψ (E.rem a b) = 0
  normUnit : ∀ a, V a → V (E.normUnit a) ∧ IsUnit (ψ (E.normUnit a))

namespace EucRep
variable {α R : Type} [CommRing R] {E : EucOps α} {V : α → Prop} {ψ : α → R} (L : EucRep E V ψ)
include L

/-- `into_normalized` skips the multiplication by a unit that `is_one`; on valid representatives that is the product
all the same -/
theorem normalized_eq_mul (x : α) (hx : V x) : E.normalized x = E.mul x (E.normUnit x) := by
  unfold EucOps.normalized
  simp only
  have hu := L.normUnit x hx
  have hm := L.mul x _ hx hu.1
  split
  · rename_i h
    exact L.inj _ _ hx hm.1 (by rw [hm.2, L.isOne_imp _ hu.1 h, mul_one])
  · rfl

theorem normalized_spec (x : α) (hx : V x) :
    V (E.normalized x) ∧ ψ (E.normalized x) = ψ x * ψ (E.normUnit x) := by
  rw [L.normalized_eq_mul x hx]; exact L.mul x _ hx (L.normUnit x hx).1

theorem dvd_normalized (c : R) (x : α) (hx : V x) : c ∣ ψ (E.normalized x) ↔ c ∣ ψ x := by
  rw [(L.normalized_spec x hx).2]; exact (L.normUnit x hx).2.dvd_mul_right

theorem divides_imp (x y : α) (hx : V x) (hy : V y) (h : E.divides x y = true) : ψ x ≠ 0 ∧ ψ x ∣ ψ y := by
  unfold EucOps.divides at h
  rw [Bool.and_eq_true, Bool.not_eq_true', ← Bool.not_eq_true, L.isZero_iff x hx] at h
  have := L.div_rem y x hy hx h.1
  refine ⟨h.1, ?_⟩
  have e := this.2.2.1
  rw [(L.isZero_iff _ this.2.1).1 h.2, add_zero] at e
  exact ⟨ψ (E.div y x), e.trans (mul_comm _ _)⟩

theorem gcdLoop_spec (fuel : Nat) (x y : α) (hx : V x) (hy : V y) (hf : E.norm y < fuel) :
    ∃ d, E.gcdLoop fuel x y = some d ∧ V d ∧ ∀ c, c ∣ ψ d ↔ (c ∣ ψ x ∧ c ∣ ψ y) := by
  induction fuel generalizing x y with
  | zero => omega
  | succ f ih =>
    unfold EucOps.gcdLoop
    by_cases hz : E.isZero y = true
    · simp only [hz, if_true]
      refine ⟨x, rfl, hx, fun c => ?_⟩
      rw [(L.isZero_iff y hy).1 hz]; simp
    · simp only [hz]
      have hy0 : ψ y ≠ 0 := fun h => hz ((L.isZero_iff y hy).2 h)
      obtain ⟨_, hvr, e, hn⟩ := L.div_rem x y hx hy hy0
      obtain ⟨d, hd, hvd, hc⟩ := ih y (E.rem x y) hy hvr (by omega)
      refine ⟨d, by simpa using hd, hvd, fun c => ?_⟩
      rw [hc c]
      constructor
      · rintro ⟨h1, h2⟩
        refine ⟨?_, h1⟩
        rw [e]; exact dvd_add (Dvd.dvd.mul_left h1 _) h2
      · rintro ⟨h1, h2⟩
        refine ⟨h2, ?_⟩
        have : ψ (E.rem x y) = ψ x - ψ (E.div x y) * ψ y := (sub_eq_of_eq_add' e).symm
        rw [this]; exact dvd_sub h1 (Dvd.dvd.mul_left h2 _)

theorem gcd_spec (x y : α) (hx : V x) (hy : V y) :
    ∃ d, E.gcd x y = .ok d ∧ V d ∧ (∀ c, c ∣ ψ d ↔ (c ∣ ψ x ∧ c ∣ ψ y)) := by
  unfold EucOps.gcd
  by_cases h0 : (E.isZero x && E.isZero y) = true
  · rw [if_pos h0]
    rw [Bool.and_eq_true, L.isZero_iff x hx, L.isZero_iff y hy] at h0
    refine ⟨E.zero, rfl, L.v_zero, fun c => ?_⟩
    rw [L.psi_zero, h0.1, h0.2]; simp
  rw [if_neg h0]
  by_cases h1 : E.divides x y = true
  · rw [if_pos h1]
    have ⟨_, hd⟩ := L.divides_imp x y hx hy h1
    refine ⟨_, rfl, (L.normalized_spec x hx).1, fun c => ?_⟩
    rw [L.dvd_normalized c x hx]
    exact ⟨fun h => ⟨h, dvd_trans h hd⟩, fun h => h.1⟩
  rw [if_neg h1]
  by_cases h2 : E.divides y x = true
  · rw [if_pos h2]
    have ⟨_, hd⟩ := L.divides_imp y x hy hx h2
    refine ⟨_, rfl, (L.normalized_spec y hy).1, fun c => ?_⟩
    rw [L.dvd_normalized c y hy]
    exact ⟨fun h => ⟨dvd_trans h hd, h⟩, fun h => h.2⟩
  rw [if_neg h2]
  obtain ⟨d, hd, hvd, hc⟩ := L.gcdLoop_spec (E.norm y + 1) x y hx hy (by omega)
  rw [hd]
  refine ⟨_, rfl, (L.normalized_spec d hvd).1, fun c => ?_⟩
  rw [L.dvd_normalized c d hvd]; exact hc c

theorem gcdxLoop_spec (X Y : R) (fuel : Nat) (x y s0 s1 t0 t1 : α)
    (hx : V x) (hy : V y) (hs0 : V s0) (hs1 : V s1) (ht0 : V t0) (ht1 : V t1)
    (h0 : ψ s0 * X + ψ t0 * Y = ψ x) (h1 : ψ s1 * X + ψ t1 * Y = ψ y) (hf : E.norm y < fuel) :
    ∃ d s t, E.gcdxLoop fuel x y s0 s1 t0 t1 = some (d, s, t) ∧ V d ∧ V s ∧ V t ∧
      ψ s * X + ψ t * Y = ψ d ∧ E.gcdLoop fuel x y = some d := by
  induction fuel generalizing x y s0 s1 t0 t1 with
  | zero => omega
  | succ f ih =>
    unfold EucOps.gcdxLoop EucOps.gcdLoop
    by_cases hz : E.isZero y = true
    · simp only [hz, if_true]
      exact ⟨x, s0, t0, rfl, hx, hs0, ht0, h0, rfl⟩
    · simp only [hz]
      have hy0 : ψ y ≠ 0 := fun h => hz ((L.isZero_iff y hy).2 h)
      obtain ⟨hvq, hvr, e, hn⟩ := L.div_rem x y hx hy hy0
      have hr : ψ (E.rem x y) = ψ x - ψ (E.div x y) * ψ y := (sub_eq_of_eq_add' e).symm
      have m1 := L.mul _ _ hvq hs1
      have m2 := L.mul _ _ hvq ht1
      have n1 := L.sub _ _ hs0 m1.1
      have n2 := L.sub _ _ ht0 m2.1
      obtain ⟨d, s, t, hd, hvd, hvs, hvt, hb, hg⟩ := ih y (E.rem x y) s1 (E.sub s0 (E.mul (E.div x y) s1)) t1
        (E.sub t0 (E.mul (E.div x y) t1)) hy hvr hs1 n1.1 ht1 n2.1 h1
        (by rw [n1.2, n2.2, m1.2, m2.2, hr, ← h0, ← h1]; ring) (by omega)
      exact ⟨d, s, t, by simpa using hd, hvd, hvs, hvt, hb, by simpa using hg⟩

theorem gcdx_spec (x y : α) (hx : V x) (hy : V y) :
    ∃ d s t, E.gcdx x y = .ok (d, s, t) ∧ V d ∧ V s ∧ V t ∧
      ψ s * ψ x + ψ t * ψ y = ψ d ∧ E.gcd x y = .ok d := by
  unfold EucOps.gcdx EucOps.gcd
  by_cases h0 : (E.isZero x && E.isZero y) = true
  · rw [if_pos h0, if_pos h0]
    exact ⟨_, _, _, rfl, L.v_zero, L.v_zero, L.v_zero, by rw [L.psi_zero]; simp, rfl⟩
  rw [if_neg h0, if_neg h0]
  by_cases h1 : E.divides x y = true
  · rw [if_pos h1, if_pos h1]
    have hu := L.normUnit x hx
    have hm := L.mul x _ hx hu.1
    refine ⟨_, _, _, rfl, hm.1, hu.1, L.v_zero, ?_, by rw [L.normalized_eq_mul x hx]⟩
    rw [hm.2, L.psi_zero]; ring
  rw [if_neg h1, if_neg h1]
  by_cases h2 : E.divides y x = true
  · rw [if_pos h2, if_pos h2]
    have hu := L.normUnit y hy
    have hm := L.mul y _ hy hu.1
    refine ⟨_, _, _, rfl, hm.1, L.v_zero, hu.1, ?_, by rw [L.normalized_eq_mul y hy]⟩
    rw [hm.2, L.psi_zero]; ring
  rw [if_neg h2, if_neg h2]
  obtain ⟨d, s, t, hd, hvd, hvs, hvt, hb, hg⟩ := L.gcdxLoop_spec (ψ x) (ψ y) (E.norm y + 1) x y E.one E.zero E.zero E.one
    hx hy L.v_one L.v_zero L.v_zero L.v_one
    (by rw [L.psi_one, L.psi_zero]; ring) (by rw [L.psi_one, L.psi_zero]; ring) (by omega)
  rw [hd, hg]
  simp only
  have hu := L.normUnit d hvd
  by_cases hone : E.isOne (E.normUnit d) = true
  · rw [if_pos hone]
    refine ⟨_, _, _, rfl, hvd, hvs, hvt, hb, ?_⟩
    unfold EucOps.normalized; simp only [hone, if_true]
  · rw [if_neg hone]
    have m1 := L.mul d _ hvd hu.1
    have m2 := L.mul s _ hvs hu.1
    have m3 := L.mul t _ hvt hu.1
    refine ⟨_, _, _, rfl, m1.1, m2.1, m3.1, ?_, ?_⟩
    · rw [m1.2, m2.2, m3.2, ← hb]; ring
    · unfold EucOps.normalized; simp only [hone]; rfl

theorem lcm_spec (x y : α) (hx : V x) (hy : V y) (hxy : ¬(ψ x = 0 ∧ ψ y = 0)) :
    ∃ l g, E.lcm x y = .ok l ∧ E.gcd x y = .ok g ∧ V l ∧ V g ∧ Associated (ψ l * ψ g) (ψ x * ψ y) := by
  obtain ⟨g, e, hvg, hc⟩ := L.gcd_spec x y hx hy
  have hg : ψ g ≠ 0 := by
    intro h0
    have := (hc (ψ g)).1 dvd_rfl
    rw [h0, zero_dvd_iff, zero_dvd_iff] at this
    exact hxy this
  have hgy : ψ g ∣ ψ y := ((hc (ψ g)).1 dvd_rfl).2
  unfold EucOps.lcm
  rw [e]
  have hz : E.isZero g = false := by
    rw [← Bool.not_eq_true, L.isZero_iff g hvg]; exact hg
  simp only [hz]
  obtain ⟨hvq, _, hy', _⟩ := L.div_rem y g hy hvg hg
  rw [L.rem_of_dvd y g hy hvg hg hgy, add_zero] at hy'
  have hm := L.mul x _ hx hvq
  have hn := L.normalized_spec _ hm.1
  refine ⟨_, g, rfl, rfl, hn.1, hvg, ?_⟩
  have hu := (L.normUnit _ hm.1).2
  refine Associated.symm ⟨hu.unit, ?_⟩
  rw [IsUnit.unit_spec, hn.2, hm.2, hy']; ring

theorem lcm_zero_zero (x y : α) (hx : V x) (hy : V y) (hx0 : ψ x = 0) (hy0 : ψ y = 0) : E.lcm x y = .panic := by
  obtain ⟨g, e, hvg, hc⟩ := L.gcd_spec x y hx hy
  have : ψ g = 0 := by
    have := (hc 0).2 ⟨by rw [hx0], by rw [hy0]⟩
    exact zero_dvd_iff.1 this
  unfold EucOps.lcm
  rw [e]
  simp only [(L.isZero_iff g hvg).2 this, if_true]

end EucRep

/-- what the generic code of `euc_ring.rs` assumes of a type implementing `EucRing`:
the operations are those of a commutative ring, `/` and `%` satisfy the Euclidean law w.r.t. some size
function, and `normalizing_unit` picks a unit that is compatible with passing to associates.
(`Yuiv.C09.LawfulEuc`, Proofs/C09Euc, is another record: the laws of `C09.EOps` through an interpretation, for `snf.rs`.) -/
structure LawfulEuc {α : Type} [CommRing α] (E : EucOps α) : Prop where
  zero_eq : E.zero = 0
  one_eq : E.one = 1
  isZero_iff : ∀ a, E.isZero a = true ↔ a = 0
  isOne_iff : ∀ a, E.isOne a = true ↔ a = 1
  sub_eq : ∀ a b, E.sub a b = a - b
  mul_eq : ∀ a b, E.mul a b = a * b
  div_rem : ∀ a b, b ≠ 0 → a = E.div a b * b + E.rem a b
  norm_rem : ∀ a b, b ≠ 0 → E.norm (E.rem a b) < E.norm b
  rem_of_dvd : ∀ a b, b ≠ 0 → b ∣ a → E.rem a b = 0
  normUnit_isUnit : ∀ a, IsUnit (E.normUnit a)
  normUnit_assoc : ∀ a u, a ≠ 0 → IsUnit u → E.normUnit (a * u) * u = E.normUnit a

section fields
variable {α : Type} [CommRing α]

/-- `rem_of_dvd` for a ring that is Euclidean w.r.t. a multiplicative norm: the remainder is a multiple
`b·(c − q)` of the divisor and has smaller norm, so `N (c − q) = 0`. -/
theorem rem_eq_zero_of_norm (N : α → Int) (hmul : ∀ x y, N (x * y) = N x * N y) (hnn : ∀ x, 0 ≤ N x)
    (h0 : ∀ x, N x = 0 → x = 0) {a b q r : α} (e : a = q * b + r) (hlt : N r < N b) (hd : b ∣ a) :
    r = 0 := by
  obtain ⟨c, rfl⟩ := hd
  have hr : r = b * (c - q) := by rw [mul_sub, e]; ring
  have hN := hmul b (c - q)
  rw [← hr] at hN
  apply h0
  rcases (hnn (c - q)).eq_or_lt with h | h
  · rw [hN, ← h, mul_zero]
  · have := hnn r
    have : N b * 1 ≤ N b * N (c - q) := Int.mul_le_mul_of_nonneg_left h (by omega)
    omega

theorem norm_eq_one_of_isUnit (N : α → Int) (hmul : ∀ x y, N (x * y) = N x * N y) (hnn : ∀ x, 0 ≤ N x)
    (h1 : N 1 = 1) {u : α} (h : IsUnit u) : N u = 1 := by
  obtain ⟨v, hv⟩ := h.exists_right_inv
  have := congrArg N hv
  rw [hmul, h1] at this
  exact Int.eq_one_of_mul_eq_one_right (hnn u) this

/-- `normUnit_assoc` for a normalising unit that is chosen by a fundamental domain `S` of the unit group:
`nu a` takes `a ≠ 0` into `S`, and no unit but `1` keeps an element of `S` inside `S`.  Then `nu (a·u)·u`
and `nu a` both take `a` into `S`, so they agree. -/
theorem normUnit_assoc_of_sector (S : α → Prop) (nu : α → α)
    (hunit : ∀ a, IsUnit (nu a)) (hS : ∀ a, a ≠ 0 → S (a * nu a))
    (huniq : ∀ y u, S y → IsUnit u → S (y * u) → u = 1)
    (a u : α) (ha : a ≠ 0) (hu : IsUnit u) : nu (a * u) * u = nu a := by
  obtain ⟨v, hv⟩ := hunit a
  have hau : a * u ≠ 0 := fun h => ha (hu.mul_left_eq_zero.1 h)
  have hw : IsUnit (nu (a * u) * u) := (hunit _).mul hu
  have e : a * nu a * (↑v⁻¹ * (nu (a * u) * u)) = a * u * nu (a * u) := by
    rw [← hv, mul_assoc, Units.mul_inv_cancel_left]; ring
  have key := huniq (a * nu a) _ (hS a ha) (v⁻¹.isUnit.mul hw) (e ▸ hS _ hau)
  rw [← hv]
  exact (Units.inv_mul_eq_one.1 key).symm

end fields

namespace LawfulEuc
variable {α : Type} [CommRing α] {E : EucOps α} (L : LawfulEuc E)
include L

theorem eucRep : EucRep E (fun _ => True) id where
  inj _ _ _ _ h := h
  v_zero := trivial
  psi_zero := L.zero_eq
  v_one := trivial
  psi_one := L.one_eq
  isZero_iff a _ := L.isZero_iff a
  isOne_imp a _ h := (L.isOne_iff a).1 h
  sub a b _ _ := ⟨trivial, L.sub_eq a b⟩
  mul a b _ _ := ⟨trivial, L.mul_eq a b⟩
  div_rem a b _ _ hb := ⟨trivial, trivial, L.div_rem a b hb, L.norm_rem a b hb⟩
  rem_of_dvd a b _ _ hb hd := L.rem_of_dvd a b hb hd
  normUnit a _ := ⟨trivial, L.normUnit_isUnit a⟩

theorem normalized_eq (x : α) : E.normalized x = x * E.normUnit x :=
  (L.eucRep.normalized_spec x trivial).2

theorem normalized_dvd (x c : α) : E.normalized x ∣ c ↔ x ∣ c := by
  rw [L.normalized_eq]; exact (L.normUnit_isUnit x).mul_right_dvd

theorem normalized_idem (x : α) : E.normalized (E.normalized x) = E.normalized x := by
  rw [L.normalized_eq (E.normalized x), L.normalized_eq x]
  by_cases hx : x = 0
  · subst hx; simp
  · have h := L.normUnit_assoc x (E.normUnit x) hx (L.normUnit_isUnit x)
    have hu := L.normUnit_isUnit x
    have : E.normUnit (x * E.normUnit x) = 1 := hu.mul_left_inj.1 (by rw [h, one_mul])
    rw [this, mul_one]

theorem normalized_assoc (x u : α) (hu : IsUnit u) : E.normalized (x * u) = E.normalized x := by
  rw [L.normalized_eq, L.normalized_eq]
  by_cases hx : x = 0
  · subst hx; simp
  · rw [mul_assoc, mul_comm u, L.normUnit_assoc x u hx hu]

theorem gcd_spec (x y : α) :
    ∃ d, E.gcd x y = .ok d ∧ (∀ c, c ∣ d ↔ (c ∣ x ∧ c ∣ y)) ∧ E.normalized d = d := by
  obtain ⟨d, h, -, hc⟩ := L.eucRep.gcd_spec x y trivial trivial
  refine ⟨d, h, hc, ?_⟩
  rcases E.gcd_shape x y d h with rfl | ⟨z, rfl⟩
  · rw [L.normalized_eq, L.zero_eq, zero_mul]
  · exact L.normalized_idem z

end LawfulEuc
end Yuiv.C15
