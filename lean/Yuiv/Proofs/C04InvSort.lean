import Batteries.Tactic.OpenPrivate
/-
`Array.qsort` returns a permutation of its input.  Core Lean has no lemmas about it and its worker functions are private,
hence `open private`.
-/
open private Array.qsort.sort Array.qpartition.loop in Array.qsort Array.qpartition

namespace Yuiv.C04Inv


theorem vswap_perm {α n} (v : Vector α n) (i j : Nat) (hi : i < n) (hj : j < n) :
    (v.swap i j).toArray.Perm v.toArray := by
  rcases v with ⟨a, rfl⟩
  simpa using Array.swap_perm (xs := a) hi hj

theorem loop_perm {α n} (lt : α → α → Bool) (lo hi : Nat) (hhi : hi < n) (pivot : α) (as : Vector α n) (i k : Nat)
    (ilo : lo ≤ i) (ik : i ≤ k) (w : k ≤ hi) :
    (Array.qpartition.loop lt lo hi hhi pivot as i k ilo ik w).2.toArray.Perm as.toArray := by
  fun_induction Array.qpartition.loop lt lo hi hhi pivot as i k ilo ik w with
  | case1 as i k ilo ik w h hlt ih => exact ih.trans (vswap_perm _ _ _ (by omega) (by omega))
  | case2 as i k ilo ik w h hlt ih => exact ih
  | case3 as i k ilo ik w h => exact vswap_perm _ _ _ (by omega) (by omega)

theorem ite_swap_perm {α n} (c : Prop) [Decidable c] (v : Vector α n) (i j : Nat) (hi : i < n) (hj : j < n) :
    (if c then v.swap i j hi hj else v).toArray.Perm v.toArray := by
  split
  · exact vswap_perm _ _ _ hi hj
  · exact Array.Perm.refl _

theorem qpartition_perm {α n} (as : Vector α n) (lt : α → α → Bool) (lo hi : Nat)
    (w : lo ≤ hi) (hlo : lo < n) (hhi : hi < n) :
    (Array.qpartition as lt lo hi w hlo hhi).2.toArray.Perm as.toArray := by
  unfold Array.qpartition
  dsimp only
  refine (loop_perm ..).trans ?_
  refine (ite_swap_perm ..).trans ?_
  refine (ite_swap_perm ..).trans ?_
  exact ite_swap_perm ..

theorem sort_perm {α n} (lt : α → α → Bool) (as : Vector α n) (lo hi : Nat)
    (w : lo ≤ hi) (hlo : lo < n) (hhi : hi < n) :
    (Array.qsort.sort lt as lo hi w hlo hhi).toArray.Perm as.toArray := by
  fun_induction Array.qsort.sort lt as lo hi w hlo hhi with
  | case1 as lo hi w hlo hhi h1 mid hmid as' hx h2 =>
    have := qpartition_perm as lt lo hi w hlo hhi
    rw [hx] at this; exact this
  | case2 as lo hi w hlo hhi h1 mid hmid as' hx h2 ih3 ih2 ih1 =>
    have := qpartition_perm as lt lo hi w hlo hhi
    rw [hx] at this
    exact (ih1.trans ih2).trans this
  | case3 => exact Array.Perm.refl _

theorem qsort_perm {α} (as : Array α) (lt : α → α → Bool) : (as.qsort lt).Perm as := by
  unfold Array.qsort
  split
  · exact Array.Perm.refl _
  · exact sort_perm ..

end Yuiv.C04Inv
