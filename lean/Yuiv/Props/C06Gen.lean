import Yuiv.Proofs.C06Gen
import Yuiv.Model.C19
/-
C06 — the hand-written model `Yuiv.C06.{div, divVec, ss}` (`Yuiv/Model/C06.lean`) and `Yuiv.C19.ssi` ARE the source
text of `/repo/yui-khovanov/src/misc.rs` (`div`, `div_vec`) and of the closing arithmetic of `ss_invariant`
(kh/ss.rs) / `ssi_invariants` (khi/ssi.rs).

`Yuiv.GenMisc.*` (file `Yuiv/Gen/MiscFn.lean`) is regenerated from the Rust sources by `tools/rs2lean_fn.py fn:misc` on
every `./check` run (`R := Int`; the counter `k` an `i32` with overflow check; the `while` loop on explicit fuel).
The model fixes the fuel `|a| + 1` and counts in `Nat`; the theorems hold for EVERY fuel above `|a|` and below
`2^31 - 1` (the only thing the model leaves out is the `i32` overflow of the counter, which needs `|a| ≥ 2^(2^31-2)`),
including the panic for `c = 0` and the divergence (`err`) for a unit `c`.
-/
namespace Yuiv.C06Gen
open Yuiv Res Yuiv.Rust Yuiv.GenMisc

/-- `misc::div`, for every sufficient fuel -/
theorem gen_div_eq (fuel : Nat) (a c : Int) (hf : a.natAbs < fuel) (hm : (fuel : Int) ≤ I32.MAX) :
    misc.div fuel a c = mapR (Option.map fun k : Nat => (k : Int)) (C06.div a c) := div_eq fuel a c hf hm

/-- `misc::div_vec` (the sparse vector as the list of its entries in iteration order), for every fuel that suffices for
every entry: `filter_map(div).min()` is the model's fold — same value, same first panic / divergence -/
theorem gen_div_vec_eq (fuel : Nat) (v : List (Nat × Int)) (c : Int) (hf : ∀ x ∈ v, x.2.natAbs < fuel)
    (hm : (fuel : Int) ≤ I32.MAX) :
    misc.div_vec fuel v c = mapR (Option.map fun k : Nat => (k : Int)) (C06.divVec (v.map Prod.snd) c) := by
  unfold misc.div_vec C06.divVec
  have h := fold_eq fuel c hm v none hf
  simp only [Option.map_none, comb_none] at h
  rw [h]
  rfl

/-- `ss_invariant`: `let ss = 2 * d + w - r + 1` -/
theorem gen_ss_eq (d w r : Int) : ss.ss_invariant.ss d w r = C06.ss d w r := rfl

/-- `ssi_invariants`: `let ss0 = …; let ss1 = …` -/
theorem gen_ssi_eq (d0 d1 w r : Int) :
    (ssi.ssi_invariants.ss0 d0 w r, ssi.ssi_invariants.ss1 d1 w r) = C19.ssi d0 d1 w r := rfl

example : misc.div_vec 100 [(0, 24), (3, 0), (5, -20)] 2 = ok (some 2) := by
  rw [gen_div_vec_eq 100 _ 2 (by decide) (by decide)]; decide
example : misc.div 100 24 2 = ok (some 3) := by rw [gen_div_eq 100 24 2 (by decide) (by decide)]; decide
example : misc.div 100 24 0 = .panic := by rw [gen_div_eq 100 24 0 (by decide) (by decide)]; decide
example : misc.div 100 24 (-1) = .err := by rw [gen_div_eq 100 24 (-1) (by decide) (by decide)]; decide

end Yuiv.C06Gen
