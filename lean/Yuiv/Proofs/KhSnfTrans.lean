import Yuiv.Proofs.KhSnfDefs
import Yuiv.Proofs.KhSnfRows
import Yuiv.Proofs.KhRefLoops
import Yuiv.Proofs.C04InvSort
/-
KhSnf — loop-free form of `KhRef.smithInvariants`: after the unit phase the rows are handed to `denseDiag` as the dense
matrix `denseOf rows` on the occurring columns `colsOf rows` (all other columns of the rows are zero).
-/

namespace Yuiv.KhSnf
open Yuiv.KhRef

/-- the columns occurring in the rows, sorted (the `cols'` of `smithInvariants`) -/
def colsOf (rows : Array Row) : Array Nat :=
  (rows.toList.foldl (fun cols r => r.toList.foldl (fun cols x =>
    if cols.contains x.1 then cols else cols.push x.1) cols) #[]).qsort (· < ·)
/-- the dense matrix handed to `denseDiag` -/
def denseOf (rows : Array Row) : Array (Array Int) := rows.map (fun r => (colsOf rows).map (fun c => rowGet r c))

/-- `colsOf` before sorting -/
def preCols (rows : Array Row) : Array Nat :=
  rows.toList.foldl (fun cols r => r.toList.foldl (fun cols x => if cols.contains x.1 then cols else cols.push x.1) cols) #[]

theorem colsOf_eq (rows : Array Row) : colsOf rows = (preCols rows).qsort (· < ·) := rfl

theorem cols_loop (rows : Array Row) :
    Array.foldl (fun x1 (x2 : Row) =>
        (forIn x2 x1 fun x (s : Array Nat) =>
          if x.1 ∈ s then (pure (ForInStep.yield s) : Id _) else pure (ForInStep.yield (s.push x.1))).run) #[] rows
      = preCols rows := by
  unfold preCols
  rw [← Array.foldl_toList]
  congr 1
  funext xs r
  rw [← Array.forIn_toList, Loop.forIn_eq_foldl (g := fun (s : Array Nat) x => if s.contains x.1 then s else s.push x.1)]
  · rfl
  · intro a _ b
    by_cases h : a.1 ∈ b <;> simp [h]

theorem smithInvariants_eq (rows0 : Array Row) :
    smithInvariants rows0 =
      (let ru := unitLoop ((rows0.filter (fun r => r.size > 0)).size + 1) (rows0.filter (fun r => r.size > 0)) 0
       if ru.1.size == 0 then (ru.2, #[])
       else
         let dg := chain (denseDiag (denseOf ru.1))
         (ru.2 + dg.size, dg.filter (fun x => x != 1))) := by
  unfold smithInvariants
  simp only []
  split
  · rfl
  · simp only [gt_iff_lt, Array.contains_eq_mem, Bool.not_eq_eq_eq_not, Bool.not_true, decide_eq_false_iff_not,
      ite_not, bind_pure_comp, Array.forIn_yield_eq_foldlM, id_map', Id.run_map, Array.id_run_foldlM, Prod.mk.injEq,
      Nat.add_left_cancel_iff]
    rw [cols_loop]
    exact ⟨rfl, rfl⟩

theorem colsOf_nodup (rows : Array Row) : (colsOf rows).toList.Nodup := by
  rw [colsOf_eq]
  have := (C04Inv.qsort_perm (preCols rows) (· < ·)).toList
  rw [this.nodup_iff]
  exact (KhRefLoops.collect_keys (fun x : Nat × Int => x.1) Array.toList rows.toList #[] (by simp)).1

theorem mem_colsOf (rows : Array Row) (c : Nat) :
    c ∈ (colsOf rows).toList ↔ ∃ r ∈ rows.toList, ∃ x ∈ r.toList, x.1 = c := by
  rw [colsOf_eq, Array.mem_toList_iff, (C04Inv.qsort_perm (preCols rows) (· < ·)).mem_iff]
  exact ((KhRefLoops.collect_keys (fun x : Nat × Int => x.1) Array.toList rows.toList #[] (by simp)).2 c).trans (or_iff_right (Array.not_mem_empty _))

theorem denseOf_spec (n : Nat) (rows : Array Row) (hok : ∀ r ∈ rows.toList, RowOK n r) :
    Shape (denseOf rows) rows.size (colsOf rows).size ∧
    (∀ c, c < (colsOf rows).size → (colsOf rows)[c]! < n) ∧
    (∀ c c', c < (colsOf rows).size → c' < (colsOf rows).size → (colsOf rows)[c]! = (colsOf rows)[c']! → c = c') ∧
    (∀ k c, k < rows.size → c < (colsOf rows).size → afn (denseOf rows) k c = rval rows[k]! ((colsOf rows)[c]!)) ∧
    (∀ j, (∀ c, c < (colsOf rows).size → (colsOf rows)[c]! ≠ j) → ∀ k, k < rows.size → rval rows[k]! j = 0) := by
  refine ⟨⟨by simp [denseOf], ?_⟩, ?_, ?_, ?_, ?_⟩
  · intro i hi
    have : i < (denseOf rows).size := by simpa [denseOf] using hi
    rw [getElem!_pos _ i this]
    simp [denseOf]
  · intro c hc
    have hm := get_mem hc
    rw [mem_colsOf] at hm
    obtain ⟨r, hr, x, hx, e⟩ := hm
    rw [← e]
    exact (hok r hr).2.2 x hx
  · intro c c' hc hc' e
    rw [getElem!_pos _ c hc, getElem!_pos _ c' hc'] at e
    exact (List.getElem_inj (xs := (colsOf rows).toList) (h₀ := by simpa using hc) (h₁ := by simpa using hc')
      (colsOf_nodup rows)).mp (by simpa using e)
  · intro k c hk hc
    have hk' : k < (denseOf rows).size := by simpa [denseOf] using hk
    unfold afn
    rw [getElem!_pos _ k hk']
    have e1 : (denseOf rows)[k] = (colsOf rows).map (fun c => rowGet rows[k] c) := by simp [denseOf]
    rw [e1]
    have hc' : c < ((colsOf rows).map (fun c => rowGet rows[k] c)).size := by simpa using hc
    rw [getElem!_pos _ c hc']
    simp only [Array.getElem_map]
    rw [getElem!_pos rows k hk, getElem!_pos _ c hc]
    exact rowGetSpec n _ _ (hok _ (by simp))
  · intro j hj k hk
    rw [rval_eq_lval]
    apply lval_eq_zero_of_not_mem
    intro x hx hxj
    have hm : j ∈ (colsOf rows).toList := by
      rw [mem_colsOf]
      exact ⟨_, get_mem hk, x, hx, hxj⟩
    obtain ⟨c, hc, e⟩ := mem_get hm
    exact hj c hc e

end Yuiv.KhSnf
