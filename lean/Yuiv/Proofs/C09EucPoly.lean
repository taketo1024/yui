import Yuiv.Proofs.C09EucGcdx
import Mathlib.Algebra.Polynomial.FieldDivision
/-
Polynomials in one variable over a field `F` as an instance of `LawfulEuc`.
`polyOps F : EOps (List F)` follows `yui/src/types/poly/poly.rs` (`Poly<X, R>`, `R: Field`) on coefficient lists
(constant term first; `add`/`mul` return lists without trailing zeros, but no operation or law depends on that:
the interpretation `pφ : List F → F[X]` ignores trailing zeros, and `==` is "the difference is zero"):
 * `div_rem` — `pDivRem`: the `for _ in j ..= i` loop around the closure `iter` (if `deg f < deg g` stop, else
   subtract `(lc f / lc g)·x^(deg f − deg g)·g`); `/`, `%` are its two components;
 * `normalizing_unit` — the constant `lc⁻¹` (`1` for the zero polynomial);  `is_unit`/`inv` — non-zero constants;
 * `size` = `deg + 1` (`0 ↦ 0`);  `gcdx` — the generic `EucRing::gcdx` (`genGcdx`).
The record is not part of `Model/C09.lean` / the driver.  `F` is an arbitrary field with decidable equality
(`ℚ`, `ZMod p` are special cases).
-/
namespace Yuiv.C09
open Polynomial

variable {F : Type} [Field F] [DecidableEq F]

/-- `deg + 1` of the polynomial with coefficient list `l` (constant term first; trailing zeros ignored); `0 ↦ 0` -/
def pSize : List F → Nat
  | [] => 0
  | c :: l => if pSize l = 0 then (if c = 0 then 0 else 1) else pSize l + 1

/-- `lead_coeff` (`0` for the zero polynomial) -/
def pLead : List F → F
  | [] => 0
  | c :: l => if pSize l = 0 then c else pLead l

/-- `lead_deg` (`0` for the zero polynomial) -/
def pDeg (l : List F) : Nat := pSize l - 1

/-- drop trailing zeros -/
def pTrim : List F → List F
  | [] => []
  | c :: l => if pSize l = 0 ∧ c = 0 then [] else c :: pTrim l

def addR : List F → List F → List F
  | [], b => b
  | a, [] => a
  | x :: a, y :: b => (x + y) :: addR a b

def smulR (c : F) (l : List F) : List F := l.map (c * ·)

def mulR : List F → List F → List F
  | [], _ => []
  | x :: a, b => addR (smulR x b) (0 :: mulR a b)

def pAdd (a b : List F) : List F := pTrim (addR a b)
def pMul (a b : List F) : List F := pTrim (mulR a b)
def pNeg (a : List F) : List F := a.map (- ·)
/-- `c·x^k` -/
def pMono (k : Nat) (c : F) : List F := List.replicate k 0 ++ [c]

/-- the polynomial denoted by a coefficient list -/
noncomputable def pφ : List F → F[X]
  | [] => 0
  | c :: l => C c + X * pφ l

set_option linter.unusedSectionVars false in
@[simp] theorem pφ_nil : pφ ([] : List F) = 0 := rfl
omit [DecidableEq F] in
@[simp] theorem pφ_cons (c : F) (l : List F) : pφ (c :: l) = C c + X * pφ l := rfl

omit [DecidableEq F] in
theorem pφ_addR : ∀ a b : List F, pφ (addR a b) = pφ a + pφ b
  | [], b => by simp [addR]
  | x :: a, [] => by simp [addR]
  | x :: a, y :: b => by
    simp only [addR, pφ_cons, pφ_addR a b, C_add]; ring

omit [DecidableEq F] in
theorem pφ_smulR (c : F) : ∀ l : List F, pφ (smulR c l) = C c * pφ l
  | [] => by simp [smulR]
  | x :: l => by
    have := pφ_smulR c l
    simp only [smulR, List.map_cons, pφ_cons, C_mul] at this ⊢
    rw [this]; ring

omit [DecidableEq F] in
theorem pφ_mulR : ∀ a b : List F, pφ (mulR a b) = pφ a * pφ b
  | [], b => by simp [mulR]
  | x :: a, b => by
    simp only [mulR, pφ_addR, pφ_smulR, pφ_cons, pφ_mulR a b, C_0]; ring

omit [DecidableEq F] in
theorem pφ_neg : ∀ l : List F, pφ (pNeg l) = - pφ l
  | [] => by simp [pNeg]
  | x :: l => by
    have := pφ_neg l
    simp only [pNeg, List.map_cons, pφ_cons, C_neg] at this ⊢
    rw [this]; ring

omit [DecidableEq F] in
theorem pφ_mono (c : F) : ∀ k : Nat, pφ (pMono k c) = C c * X ^ k
  | 0 => by simp [pMono]
  | k + 1 => by
    have := pφ_mono c k
    simp only [pMono, List.replicate_succ, List.cons_append, pφ_cons, C_0] at this ⊢
    rw [this]; ring

omit [DecidableEq F] in
theorem natDegree_C_add_X_mul (c : F) {p : F[X]} (hp : p ≠ 0) : (C c + X * p).natDegree = p.natDegree + 1 := by
  rw [natDegree_add_eq_right_of_natDegree_lt, natDegree_X_mul hp]
  rw [natDegree_C, natDegree_X_mul hp]; omega

omit [DecidableEq F] in
theorem leadingCoeff_C_add_X_mul (c : F) {p : F[X]} (hp : p ≠ 0) :
    (C c + X * p).leadingCoeff = p.leadingCoeff := by
  rw [leadingCoeff_add_of_degree_lt, leadingCoeff_mul, leadingCoeff_X, one_mul]
  apply degree_lt_degree
  rw [natDegree_C, natDegree_X_mul hp]; omega

omit [DecidableEq F] in
theorem C_add_X_mul_ne_zero (c : F) {p : F[X]} (hp : p ≠ 0) : C c + X * p ≠ 0 := by
  intro h
  have := natDegree_C_add_X_mul c hp
  rw [h, natDegree_zero] at this
  omega

theorem pSize_eq : ∀ l : List F, pSize l = if pφ l = 0 then 0 else (pφ l).natDegree + 1
  | [] => by simp [pSize]
  | c :: l => by
    have ih := pSize_eq l
    rw [pSize, pφ_cons]
    by_cases h0 : pφ l = 0
    · rw [if_pos h0] at ih
      rw [if_pos ih, h0, mul_zero, add_zero]
      by_cases hc : c = 0
      · simp [hc]
      · rw [if_neg hc, if_neg (by simpa using hc), natDegree_C]
    · rw [if_neg h0] at ih
      rw [if_neg (by omega), if_neg (C_add_X_mul_ne_zero c h0), natDegree_C_add_X_mul c h0, ih]

theorem pSize_eq_zero (l : List F) : pSize l = 0 ↔ pφ l = 0 := by
  rw [pSize_eq]; split <;> simp_all

theorem pSize_of_ne (l : List F) (h : pφ l ≠ 0) : pSize l = (pφ l).natDegree + 1 := by
  rw [pSize_eq, if_neg h]

theorem pLead_eq : ∀ l : List F, pLead l = (pφ l).leadingCoeff
  | [] => by simp [pLead]
  | c :: l => by
    rw [pLead, pφ_cons]
    by_cases h0 : pφ l = 0
    · rw [if_pos ((pSize_eq_zero l).2 h0), h0, mul_zero, add_zero, leadingCoeff_C]
    · rw [if_neg (fun h => h0 ((pSize_eq_zero l).1 h)), leadingCoeff_C_add_X_mul c h0, pLead_eq l]

theorem pDeg_eq (l : List F) : pDeg l = (pφ l).natDegree := by
  unfold pDeg
  by_cases h : pφ l = 0
  · rw [(pSize_eq_zero l).2 h, h, natDegree_zero]
  · rw [pSize_of_ne l h]; omega

theorem pφ_trim : ∀ l : List F, pφ (pTrim l) = pφ l
  | [] => rfl
  | c :: l => by
    rw [pTrim]
    split
    · rename_i h
      rw [pφ_cons, (pSize_eq_zero l).1 h.1, h.2]; simp
    · rw [pφ_cons, pφ_cons, pφ_trim l]

theorem pφ_add (a b : List F) : pφ (pAdd a b) = pφ a + pφ b := by rw [pAdd, pφ_trim, pφ_addR]
theorem pφ_mul (a b : List F) : pφ (pMul a b) = pφ a * pφ b := by rw [pMul, pφ_trim, pφ_mulR]

def pSub (a b : List F) : List F := pAdd a (pNeg b)

theorem pφ_sub (a b : List F) : pφ (pSub a b) = pφ a - pφ b := by
  rw [pSub, pφ_add, pφ_neg]; ring

/-- the closure `iter` of `Poly::div_rem` -/
def pDivStep (f g : List F) : List F × List F :=
  if pDeg f < pDeg g then ([], f)
  else (pMono (pDeg f - pDeg g) (pLead f / pLead g),
        pSub f (pMul (pMono (pDeg f - pDeg g) (pLead f / pLead g)) g))

/-- the `for _ in j ..= i` loop of `Poly::div_rem` -/
def pDivLoop : Nat → List F → List F → List F → List F × List F
  | 0, q, r, _ => (q, r)
  | n + 1, q, r, g => pDivLoop n (pAdd q (pDivStep r g).1) (pDivStep r g).2 g

/-- `Poly::div_rem` (long division over a field) -/
def pDivRem (f g : List F) : List F × List F := pDivLoop (pDeg f + 1 - pDeg g) [] f g

theorem pDivStep_eq (r g : List F) : pφ r = pφ (pDivStep r g).1 * pφ g + pφ (pDivStep r g).2 := by
  unfold pDivStep
  split
  · simp
  · simp only [pφ_sub, pφ_mul]; ring

theorem pDivStep_size (r g : List F) (hg : pφ g ≠ 0) :
    pSize (pDivStep r g).2 < pSize g ∨ pSize (pDivStep r g).2 < pSize r := by
  have sg := pSize_of_ne g hg
  unfold pDivStep
  split
  · rename_i h
    left
    rw [pDeg_eq, pDeg_eq] at h
    simp only
    by_cases hr : pφ r = 0
    · rw [(pSize_eq_zero r).2 hr]; omega
    · rw [pSize_of_ne r hr]; omega
  · rename_i h
    rw [pDeg_eq, pDeg_eq, not_lt] at h
    simp only
    by_cases hr : pφ r = 0
    · left
      have : pφ (pSub r (pMul (pMono (pDeg r - pDeg g) (pLead r / pLead g)) g)) = 0 := by
        rw [pφ_sub, pφ_mul, pφ_mono, pLead_eq r, hr]; simp
      rw [(pSize_eq_zero _).2 this]; omega
    · right
      have hlg : (pφ g).leadingCoeff ≠ 0 := leadingCoeff_ne_zero.2 hg
      have hlr : (pφ r).leadingCoeff ≠ 0 := leadingCoeff_ne_zero.2 hr
      have hc : (pφ r).leadingCoeff / (pφ g).leadingCoeff ≠ 0 := div_ne_zero hlr hlg
      have hq0 : C ((pφ r).leadingCoeff / (pφ g).leadingCoeff) * X ^ ((pφ r).natDegree - (pφ g).natDegree) ≠ 0 := by
        intro h0
        have := leadingCoeff_C_mul_X_pow ((pφ r).leadingCoeff / (pφ g).leadingCoeff)
          ((pφ r).natDegree - (pφ g).natDegree)
        rw [h0, leadingCoeff_zero] at this
        exact hc this.symm
      have hlt : degree (pφ (pSub r (pMul (pMono (pDeg r - pDeg g) (pLead r / pLead g)) g))) < degree (pφ r) := by
        rw [pφ_sub, pφ_mul, pφ_mono, pLead_eq, pLead_eq, pDeg_eq, pDeg_eq]
        apply degree_sub_lt_left _ hr
        · rw [leadingCoeff_mul, leadingCoeff_C_mul_X_pow, div_mul_cancel₀ _ hlg]
        · rw [degree_eq_natDegree hr, degree_eq_natDegree (mul_ne_zero hq0 hg), natDegree_mul hq0 hg,
            natDegree_C_mul_X_pow _ _ hc]
          congr 1; omega
      rw [pSize_of_ne r hr]
      by_cases h2 : pφ (pSub r (pMul (pMono (pDeg r - pDeg g) (pLead r / pLead g)) g)) = 0
      · rw [(pSize_eq_zero _).2 h2]; omega
      · rw [pSize_of_ne _ h2]
        have := natDegree_lt_natDegree h2 hlt
        omega

theorem pDivLoop_spec (g : List F) (hg : pφ g ≠ 0) : ∀ (n : Nat) (q r : List F),
    pφ q * pφ g + pφ r = pφ (pDivLoop n q r g).1 * pφ g + pφ (pDivLoop n q r g).2 ∧
    (pSize (pDivLoop n q r g).2 < pSize g ∨ pSize (pDivLoop n q r g).2 + n ≤ pSize r)
  | 0, q, r => by simp [pDivLoop]
  | n + 1, q, r => by
    rw [pDivLoop]
    obtain ⟨h1, h2⟩ := pDivLoop_spec g hg n (pAdd q (pDivStep r g).1) (pDivStep r g).2
    refine ⟨?_, ?_⟩
    · rw [← h1, pφ_add]
      have := pDivStep_eq r g
      linear_combination this
    · rcases h2 with h2 | h2
      · exact Or.inl h2
      · rcases pDivStep_size r g hg with h3 | h3
        · left; omega
        · right; omega

theorem pDivRem_spec (f g : List F) (hg : pφ g ≠ 0) :
    pφ f = pφ (pDivRem f g).1 * pφ g + pφ (pDivRem f g).2 ∧ pSize (pDivRem f g).2 < pSize g := by
  unfold pDivRem
  obtain ⟨h1, h2⟩ := pDivLoop_spec g hg (pDeg f + 1 - pDeg g) [] f
  refine ⟨by rw [← h1]; simp, ?_⟩
  have sg := pSize_of_ne g hg
  have dg : pDeg g = pSize g - 1 := rfl
  have df : pDeg f = pSize f - 1 := rfl
  generalize pDivLoop (pDeg f + 1 - pDeg g) [] f g = res at h1 h2 ⊢
  rcases h2 with h2 | h2
  · exact h2
  · rw [dg, df] at h2
    by_cases hf : pφ f = 0
    · rw [(pSize_eq_zero f).2 hf] at h2; omega
    · have := pSize_of_ne f hf
      omega

/-- polynomials over a field as coefficient lists, following `yui/src/types/poly/poly.rs` -/
def polyPre (F : Type) [Field F] [DecidableEq F] : EOps (List F) where
  zero := []
  one := [1]
  add := pAdd
  mul := pMul
  neg := pNeg
  beq a b := pSize (pSub a b) == 0
  normUnit a := if pLead a = 0 then [1] else [(pLead a)⁻¹]
  inv a := if pSize a = 1 then some [(pLead a)⁻¹] else none
  isUnit a := pSize a == 1
  quo a b := (pDivRem a b).1
  rem a b := (pDivRem a b).2
  gcdx _ _ := ([], [], [])
  size := pSize

def polyOps (F : Type) [Field F] [DecidableEq F] : EOps (List F) :=
  { polyPre F with gcdx := genGcdx (polyPre F) }

theorem poly_gcdx (x y : List F) : (polyOps F).gcdx x y = genGcdx (polyOps F) x y :=
  (genGcdx_with (polyPre F) _ x y).symm

omit [DecidableEq F] in
theorem pφ_const (c : F) : pφ [c] = C c := by simp

theorem pSize_one_iff (a : List F) : pSize a = 1 ↔ degree (pφ a) = 0 := by
  by_cases h : pφ a = 0
  · rw [(pSize_eq_zero a).2 h, h, degree_zero]; simp
  · rw [pSize_of_ne a h, degree_eq_natDegree h]
    constructor
    · intro h1; have : (pφ a).natDegree = 0 := by omega
      rw [this]; rfl
    · intro h1
      have : (pφ a).natDegree = 0 := by exact_mod_cast h1
      omega

theorem poly_normUnit (a : List F) :
    (polyOps F).normUnit a = if pLead a = 0 then [1] else [(pLead a)⁻¹] := rfl

theorem poly_norm_iff (a : List F) : pφ ((polyOps F).normUnit a) = 1 ↔ pφ a = 0 ∨ (pφ a).Monic := by
  rw [poly_normUnit, pLead_eq]
  split
  · rename_i h
    rw [pφ_const, C_1]
    exact ⟨fun _ => Or.inl (leadingCoeff_eq_zero.1 h), fun _ => rfl⟩
  · rename_i h
    rw [pφ_const, ← C_1, C_inj, inv_eq_one]
    constructor
    · intro h1; exact Or.inr h1
    · rintro (h1 | h1)
      · exact absurd (leadingCoeff_eq_zero.2 h1) h
      · exact h1

theorem lawful_poly : Lawful (polyOps F).toROps (pφ (F := F)) where
  zero := rfl
  one := by show pφ [1] = 1; simp
  add := pφ_add
  mul := pφ_mul
  neg := pφ_neg
  beq a b := by
    show (pSize (pSub a b) == 0) = true ↔ _
    rw [beq_iff_eq, pSize_eq_zero, pφ_sub, sub_eq_zero]

theorem lawfulE_poly : LawfulE (polyOps F) (pφ (F := F)) where
  toLawful := lawful_poly
  inv_mul u v h := by
    have h' : (if pSize u = 1 then some [(pLead u)⁻¹] else none) = some v := h
    split at h'
    · rename_i hs
      cases h'
      have hd := (pSize_one_iff u).1 hs
      have hu : pφ u = C (pφ u).leadingCoeff := by
        have h1 := eq_C_of_degree_eq_zero hd
        rw [h1, leadingCoeff_C]
      have hne : (pφ u).leadingCoeff ≠ 0 := by
        intro h0
        rw [leadingCoeff_eq_zero] at h0
        rw [h0, degree_zero] at hd
        exact absurd hd (by decide)
      rw [pφ_const, pLead_eq, hu, leadingCoeff_C, ← C_mul, mul_inv_cancel₀ hne, C_1]
    · cases h'

theorem lawfulEucBase_poly : LawfulEucBase (polyOps F) (pφ (F := F)) where
  toLawfulE := lawfulE_poly
  inv_normUnit a := by
    rw [poly_normUnit]
    split
    · refine ⟨[(pLead [(1 : F)])⁻¹], ?_⟩
      show (if pSize [(1 : F)] = 1 then some [(pLead [(1 : F)])⁻¹] else none) = _
      rw [if_pos (by simp [pSize])]
    · rename_i h
      refine ⟨[(pLead [(pLead a)⁻¹])⁻¹], ?_⟩
      show (if pSize [(pLead a)⁻¹] = 1 then some [(pLead [(pLead a)⁻¹])⁻¹] else none) = _
      rw [if_pos (by simp [pSize, h])]
  normUnit_congr a b h := by
    rw [poly_normUnit, poly_normUnit, pLead_eq, pLead_eq, h]
  norm_mul a := by
    rw [poly_norm_iff]
    show pφ (pMul a ((polyOps F).normUnit a)) = 0 ∨ (pφ (pMul a ((polyOps F).normUnit a))).Monic
    rw [pφ_mul, poly_normUnit, pLead_eq]
    split
    · rename_i h
      left; rw [leadingCoeff_eq_zero.1 h, zero_mul]
    · rename_i h
      right
      rw [pφ_const, Monic, leadingCoeff_mul, leadingCoeff_C, mul_inv_cancel₀ h]
  norm_unique a b ha hb h1 h2 := by
    rw [poly_norm_iff] at ha hb
    rcases ha with ha | ha
    · rw [ha] at h1 ⊢; exact (zero_dvd_iff.1 h1).symm
    · rcases hb with hb | hb
      · rw [hb] at h2 ⊢; exact zero_dvd_iff.1 h2
      · exact eq_of_monic_of_associated ha hb (associated_of_dvd_dvd h1 h2)
  isUnit_iff a := by
    show (pSize a == 1) = true ↔ _
    rw [beq_iff_eq, pSize_one_iff, isUnit_iff_degree_eq_zero]
  div_rem a b hb := (pDivRem_spec a b hb).1
  size_rem a b hb := (pDivRem_spec a b hb).2
  size_dvd a b hb h := by
    show pSize a ≤ pSize b
    have ha : pφ a ≠ 0 := by
      intro h0; rw [h0] at h; exact hb (zero_dvd_iff.1 h)
    rw [pSize_of_ne a ha, pSize_of_ne b hb]
    have := natDegree_le_of_dvd h hb
    omega

theorem lawfulEuc_poly : LawfulEuc (polyOps F) (pφ (F := F)) :=
  lawfulEuc_of_genGcdx (polyOps F) pφ lawfulEucBase_poly poly_gcdx

end Yuiv.C09
