import Yuiv.Proofs.KhSnfMat
/-
KhSnf — an abstract invariant for elimination algorithms that work on a shrinking "live" matrix.

`GInv m n A mr nc G units` : the original `m × n` matrix `A` is unimodularly equivalent (`Reach`) to a matrix `V` that
consists of
  * `units` many unit pivots `(pr t, pc t)` (entries ±1, alone in their row and in their column),
  * a copy of the live matrix (the `mr × nc` corner of `G : ℕ → ℕ → ℤ`) placed at the rows `ρ k` and the columns `κ c`
    (zero in the live rows outside the columns `κ c`),
  * zero rows elsewhere.
A live column `κ c` MAY coincide with a pivot column `pc t` (this happens after `ginv_peel`, which keeps the pivot column
among the live columns); then column `c` of `G` is zero.  This is why `ginv_colOps` needs `hqz`: the coefficient of a
zero column of `G` must vanish.  (Without it the statement is false for this invariant: `A = 1` (2 × 2), peel `(0,0)`,
live matrix `[0 1]`; the column operation with source 1 and `q 0 = 5` gives `[5 1]`, which cannot be placed beside a unit
pivot that is alone in its column.)
-/
namespace Yuiv.KhSnf
open Yuiv.C03Uct

/-- the shape of the transformed matrix `V` -/
structure GForm (m n : ℕ) (V : ℕ → ℕ → ℤ) (mr nc : ℕ) (G : ℕ → ℕ → ℤ) (units : ℕ) (ρ κ pr pc : ℕ → ℕ) : Prop where
  ρlt : ∀ k, k < mr → ρ k < m
  ρinj : ∀ k k', k < mr → k' < mr → ρ k = ρ k' → k = k'
  κlt : ∀ c, c < nc → κ c < n
  κinj : ∀ c c', c < nc → c' < nc → κ c = κ c' → c = c'
  plt : ∀ t, t < units → pr t < m ∧ pc t < n
  prinj : ∀ t t', t < units → t' < units → pr t = pr t' → t = t'
  pcinj : ∀ t t', t < units → t' < units → pc t = pc t' → t = t'
  ρpr : ∀ k t, k < mr → t < units → ρ k ≠ pr t
  live : ∀ k c, k < mr → c < nc → V (ρ k) (κ c) = G k c
  liveZ : ∀ k j, k < mr → j < n → (∀ c, c < nc → κ c ≠ j) → V (ρ k) j = 0
  pu : ∀ t, t < units → (V (pr t) (pc t) = 1 ∨ V (pr t) (pc t) = -1)
  prow : ∀ t j, t < units → j < n → j ≠ pc t → V (pr t) j = 0
  pcol : ∀ t i, t < units → i < m → i ≠ pr t → V i (pc t) = 0
  zrow : ∀ i, i < m → (∀ k, k < mr → ρ k ≠ i) → (∀ t, t < units → pr t ≠ i) → ∀ j, j < n → V i j = 0

def GInv (m n : ℕ) (A : Matrix (Fin m) (Fin n) ℤ) (mr nc : ℕ) (G : ℕ → ℕ → ℤ) (units : ℕ) : Prop :=
  ∃ (V : ℕ → ℕ → ℤ) (ρ κ pr pc : ℕ → ℕ), Reach A (box m n V) ∧ GForm m n V mr nc G units ρ κ pr pc

/-- transport of coefficients along an injective (on `[0,N)`) re-indexing `f` -/
noncomputable def lift (N : ℕ) (f : ℕ → ℕ) (q : ℕ → ℤ) (i : ℕ) : ℤ := by
  classical exact if h : ∃ k, k < N ∧ f k = i then q (Classical.choose h) else 0

theorem lift_apply {N : ℕ} {f : ℕ → ℕ} (hinj : ∀ k k', k < N → k' < N → f k = f k' → k = k') (q : ℕ → ℤ)
    {k : ℕ} (hk : k < N) : lift N f q (f k) = q k := by
  have h : ∃ k', k' < N ∧ f k' = f k := ⟨k, hk, rfl⟩
  unfold lift
  rw [dif_pos h]
  have := Classical.choose_spec h
  rw [hinj _ _ this.1 hk this.2]

theorem lift_not {N : ℕ} {f : ℕ → ℕ} (q : ℕ → ℤ) {i : ℕ} (h : ∀ k, k < N → f k ≠ i) : lift N f q i = 0 := by
  unfold lift
  rw [dif_neg]
  rintro ⟨k, hk, e⟩
  exact h k hk e

namespace GForm
variable {m n : ℕ} {V : ℕ → ℕ → ℤ} {mr nc : ℕ} {G : ℕ → ℕ → ℤ} {units : ℕ} {ρ κ pr pc : ℕ → ℕ}

theorem rowZero (h : GForm m n V mr nc G units ρ κ pr pc) {k : ℕ} (hk : k < mr) (hz : ∀ c, c < nc → G k c = 0)
    {j : ℕ} (hj : j < n) : V (ρ k) j = 0 := by
  by_cases hex : ∃ c, c < nc ∧ κ c = j
  · obtain ⟨c, hc, rfl⟩ := hex
    rw [h.live k c hk hc, hz c hc]
  · exact h.liveZ k j hk hj (fun c hc e => hex ⟨c, hc, e⟩)

theorem rowZero' (h : GForm m n V mr nc G units ρ κ pr pc) {k : ℕ} (hk : k < mr) {j : ℕ} (hj : j < n)
    (hz : ∀ c, c < nc → κ c = j → G k c = 0) : V (ρ k) j = 0 := by
  by_cases hex : ∃ c, c < nc ∧ κ c = j
  · obtain ⟨c, hc, e⟩ := hex
    rw [← e, h.live k c hk hc, hz c hc e]
  · exact h.liveZ k j hk hj (fun c hc e => hex ⟨c, hc, e⟩)

theorem κ_ne_pc (h : GForm m n V mr nc G units ρ κ pr pc) {k c t : ℕ} (hk : k < mr) (hc : c < nc) (ht : t < units)
    (hne : G k c ≠ 0) : κ c ≠ pc t := by
  intro e
  apply hne
  rw [← h.live k c hk hc, e]
  exact h.pcol t (ρ k) ht (h.ρlt k hk) (h.ρpr k t hk ht)

end GForm

theorem ginv_init (m n : ℕ) (F : ℕ → ℕ → ℤ) : GInv m n (box m n F) m n F 0 := by
  refine ⟨F, id, id, id, id, Reach.refl _, ?_⟩
  exact
    { ρlt := fun k hk => hk
      ρinj := fun k k' _ _ e => e
      κlt := fun c hc => hc
      κinj := fun c c' _ _ e => e
      plt := fun t ht => absurd ht (Nat.not_lt_zero t)
      prinj := fun t t' ht => absurd ht (Nat.not_lt_zero t)
      pcinj := fun t t' ht => absurd ht (Nat.not_lt_zero t)
      ρpr := fun k t _ ht => absurd ht (Nat.not_lt_zero t)
      live := fun k c _ _ => rfl
      liveZ := fun k j _ hj h => absurd rfl (h j hj)
      pu := fun t ht => absurd ht (Nat.not_lt_zero t)
      prow := fun t j ht => absurd ht (Nat.not_lt_zero t)
      pcol := fun t i ht => absurd ht (Nat.not_lt_zero t)
      zrow := fun i hi h _ => absurd rfl (h i hi) }

theorem ginv_congr {m n A mr nc units} {G G' : ℕ → ℕ → ℤ} (h : ∀ k c, k < mr → c < nc → G k c = G' k c)
    (hG : GInv m n A mr nc G units) : GInv m n A mr nc G' units := by
  obtain ⟨V, ρ, κ, pr, pc, hR, hF⟩ := hG
  exact ⟨V, ρ, κ, pr, pc, hR, { hF with live := fun k c hk hc => (hF.live k c hk hc).trans (h k c hk hc) }⟩

theorem ginv_rowOps {m n A mr nc units} {G : ℕ → ℕ → ℤ} (s : ℕ) (hs : s < mr) (q : ℕ → ℤ) (hq : q s = 0)
    (hG : GInv m n A mr nc G units) : GInv m n A mr nc (fun k c => G k c + q k * G s c) units := by
  obtain ⟨V, ρ, κ, pr, pc, hR, hF⟩ := hG
  have hl : ∀ k, k < mr → lift mr ρ q (ρ k) = q k := fun k hk => lift_apply hF.ρinj q hk
  have hp : ∀ t, t < units → lift mr ρ q (pr t) = 0 := fun t ht => lift_not q (fun k hk => hF.ρpr k t hk ht)
  have hsp : ∀ t, t < units → V (ρ s) (pc t) = 0 := fun t ht =>
    hF.pcol t (ρ s) ht (hF.ρlt s hs) (hF.ρpr s t hs ht)
  refine ⟨fun i c => V i c + lift mr ρ q i * V (ρ s) c, ρ, κ, pr, pc,
    hR.trans (reach_rowOps m n V (ρ s) (hF.ρlt s hs) (lift mr ρ q) (by rw [hl s hs, hq])), ?_⟩
  exact
    { ρlt := hF.ρlt, ρinj := hF.ρinj, κlt := hF.κlt, κinj := hF.κinj, plt := hF.plt, prinj := hF.prinj
      pcinj := hF.pcinj, ρpr := hF.ρpr
      live := fun k c hk hc => by
        show V (ρ k) (κ c) + lift mr ρ q (ρ k) * V (ρ s) (κ c) = _
        rw [hl k hk, hF.live k c hk hc, hF.live s c hs hc]
      liveZ := fun k j hk hj h => by
        show V (ρ k) j + lift mr ρ q (ρ k) * V (ρ s) j = 0
        rw [hF.liveZ k j hk hj h, hF.liveZ s j hs hj h]; simp
      pu := fun t ht => by
        show V (pr t) (pc t) + lift mr ρ q (pr t) * V (ρ s) (pc t) = 1 ∨
          V (pr t) (pc t) + lift mr ρ q (pr t) * V (ρ s) (pc t) = -1
        rw [hp t ht]; simpa using hF.pu t ht
      prow := fun t j ht hj h => by
        show V (pr t) j + lift mr ρ q (pr t) * V (ρ s) j = 0
        rw [hp t ht, hF.prow t j ht hj h]; simp
      pcol := fun t i ht hi h => by
        show V i (pc t) + lift mr ρ q i * V (ρ s) (pc t) = 0
        rw [hsp t ht, hF.pcol t i ht hi h]; simp
      zrow := fun i hi h1 h2 j hj => by
        show V i j + lift mr ρ q i * V (ρ s) j = 0
        rw [lift_not q h1, hF.zrow i hi h1 h2 j hj]; simp }

/-- column operations with source column `s`, which must not be a zero column of `G`; the coefficients of the zero
columns of `G` must vanish (a zero live column may sit on a pivot column of `V`) -/
theorem ginv_colOps {m n A mr nc units} {G : ℕ → ℕ → ℤ} (s : ℕ) (hs : s < nc) (q : ℕ → ℤ) (hq : q s = 0)
    (hnz : ∃ k, k < mr ∧ G k s ≠ 0) (hqz : ∀ c, c < nc → (∀ k, k < mr → G k c = 0) → q c = 0)
    (hG : GInv m n A mr nc G units) :
    GInv m n A mr nc (fun k c => G k c + q c * G k s) units := by
  obtain ⟨V, ρ, κ, pr, pc, hR, hF⟩ := hG
  obtain ⟨k0, hk0, hne0⟩ := hnz
  have hl : ∀ c, c < nc → lift nc κ q (κ c) = q c := fun c hc => lift_apply hF.κinj q hc
  have hκs : ∀ t, t < units → κ s ≠ pc t := fun t ht => hF.κ_ne_pc hk0 hs ht hne0
  have hps : ∀ t, t < units → V (pr t) (κ s) = 0 := fun t ht => hF.prow t (κ s) ht (hF.κlt s hs) (hκs t ht)
  -- the coefficient of a pivot column vanishes
  have hqp : ∀ t, t < units → lift nc κ q (pc t) = 0 := by
    intro t ht
    by_cases hex : ∃ c, c < nc ∧ κ c = pc t
    · obtain ⟨c, hc, e⟩ := hex
      rw [← e, hl c hc]
      apply hqz c hc
      intro k hk
      rw [← hF.live k c hk hc, e]
      exact hF.pcol t (ρ k) ht (hF.ρlt k hk) (hF.ρpr k t hk ht)
    · exact lift_not q (fun c hc e => hex ⟨c, hc, e⟩)
  refine ⟨fun i c => V i c + lift nc κ q c * V i (κ s), ρ, κ, pr, pc,
    hR.trans (reach_colOps m n V (κ s) (hF.κlt s hs) (lift nc κ q) (by rw [hl s hs, hq])), ?_⟩
  exact
    { ρlt := hF.ρlt, ρinj := hF.ρinj, κlt := hF.κlt, κinj := hF.κinj, plt := hF.plt, prinj := hF.prinj
      pcinj := hF.pcinj, ρpr := hF.ρpr
      live := fun k c hk hc => by
        show V (ρ k) (κ c) + lift nc κ q (κ c) * V (ρ k) (κ s) = _
        rw [hl c hc, hF.live k c hk hc, hF.live k s hk hs]
      liveZ := fun k j hk hj h => by
        show V (ρ k) j + lift nc κ q j * V (ρ k) (κ s) = 0
        rw [hF.liveZ k j hk hj h, lift_not q h]; simp
      pu := fun t ht => by
        show V (pr t) (pc t) + lift nc κ q (pc t) * V (pr t) (κ s) = 1 ∨
          V (pr t) (pc t) + lift nc κ q (pc t) * V (pr t) (κ s) = -1
        rw [hps t ht]; simpa using hF.pu t ht
      prow := fun t j ht hj h => by
        show V (pr t) j + lift nc κ q j * V (pr t) (κ s) = 0
        rw [hps t ht, hF.prow t j ht hj h]; simp
      pcol := fun t i ht hi h => by
        show V i (pc t) + lift nc κ q (pc t) * V i (κ s) = 0
        rw [hqp t ht, hF.pcol t i ht hi h]; simp
      zrow := fun i hi h1 h2 j hj => by
        show V i j + lift nc κ q j * V i (κ s) = 0
        rw [hF.zrow i hi h1 h2 j hj, hF.zrow i hi h1 h2 (κ s) (hF.κlt s hs)]; simp }

theorem ginv_colOps' {m n A mr nc units} {G : ℕ → ℕ → ℤ} (s : ℕ) (hs : s < nc) (q : ℕ → ℤ) (hq : q s = 0)
    (hnz : ∃ k, k < mr ∧ G k s ≠ 0) (hqz : ∀ c, c < nc → q c ≠ 0 → ∃ k, k < mr ∧ G k c ≠ 0)
    (hG : GInv m n A mr nc G units) :
    GInv m n A mr nc (fun k c => G k c + q c * G k s) units := by
  refine ginv_colOps s hs q hq hnz (fun c hc h0 => ?_) hG
  by_contra hne
  obtain ⟨k, hk, hkc⟩ := hqz c hc hne
  exact hkc (h0 k hk)

theorem ginv_rows {m n A mr nc units} {G : ℕ → ℕ → ℤ} (mr' : ℕ) (idx : ℕ → ℕ) (hidx : ∀ p, p < mr' → idx p < mr)
    (hinj : ∀ p p', p < mr' → p' < mr' → idx p = idx p' → p = p')
    (hz : ∀ k, k < mr → (∀ p, p < mr' → idx p ≠ k) → ∀ c, c < nc → G k c = 0)
    (hG : GInv m n A mr nc G units) : GInv m n A mr' nc (fun p c => G (idx p) c) units := by
  obtain ⟨V, ρ, κ, pr, pc, hR, hF⟩ := hG
  refine ⟨V, fun p => ρ (idx p), κ, pr, pc, hR, ?_⟩
  exact
    { ρlt := fun p hp => hF.ρlt _ (hidx p hp)
      ρinj := fun p p' hp hp' e => hinj p p' hp hp' (hF.ρinj _ _ (hidx p hp) (hidx p' hp') e)
      κlt := hF.κlt, κinj := hF.κinj, plt := hF.plt, prinj := hF.prinj, pcinj := hF.pcinj
      ρpr := fun p t hp ht => hF.ρpr _ t (hidx p hp) ht
      live := fun p c hp hc => hF.live _ c (hidx p hp) hc
      liveZ := fun p j hp hj h => hF.liveZ _ j (hidx p hp) hj h
      pu := hF.pu, prow := hF.prow, pcol := hF.pcol
      zrow := fun i hi h1 h2 j hj => by
        by_cases hex : ∃ k, k < mr ∧ ρ k = i
        · obtain ⟨k, hk, rfl⟩ := hex
          exact hF.rowZero hk (hz k hk (fun p hp e => h1 p hp (by rw [e]))) hj
        · exact hF.zrow i hi (fun k hk e => hex ⟨k, hk, e⟩) h2 j hj }

/-- the positions of a duplicate-free list of indices as an injective re-indexing -/
theorem getD_nodup {L : List ℕ} (hL : L.Nodup) :
    (∀ p, p < L.length → L.getD p 0 ∈ L) ∧
    (∀ p p', p < L.length → p' < L.length → L.getD p 0 = L.getD p' 0 → p = p') ∧
    (∀ k, (∀ p, p < L.length → L.getD p 0 ≠ k) → k ∉ L) := by
  have hg : ∀ p (hp : p < L.length), L.getD p 0 = L[p] := fun p hp => by
    rw [List.getD_eq_getElem?_getD, List.getElem?_eq_getElem hp]; rfl
  refine ⟨fun p hp => ?_, fun p p' hp hp' e => ?_, fun k hno hm => ?_⟩
  · rw [hg p hp]; exact List.getElem_mem hp
  · rw [hg p hp, hg p' hp'] at e
    exact (List.Nodup.getElem_inj_iff hL).1 e
  · obtain ⟨p, hp, rfl⟩ := List.getElem_of_mem hm
    exact hno p hp (hg p hp)

/-- keeping the rows with index in `L`; the others must be zero -/
theorem ginv_keep {m n A mr nc units} {G : ℕ → ℕ → ℤ} (L : List ℕ) (hL : L.Nodup) (hmem : ∀ k ∈ L, k < mr)
    (hz : ∀ k, k < mr → k ∉ L → ∀ c, c < nc → G k c = 0) (hG : GInv m n A mr nc G units) :
    GInv m n A L.length nc (fun p c => G (L.getD p 0) c) units := by
  obtain ⟨h1, h2, h3⟩ := getD_nodup hL
  exact ginv_rows L.length (fun p => L.getD p 0) (fun p hp => hmem _ (h1 p hp)) h2
    (fun k hk hno => hz k hk (h3 k hno)) hG

theorem ginv_cols {m n A mr nc units} {G : ℕ → ℕ → ℤ} (nc' : ℕ) (jdx : ℕ → ℕ) (hjdx : ∀ c, c < nc' → jdx c < nc)
    (hinj : ∀ c c', c < nc' → c' < nc' → jdx c = jdx c' → c = c')
    (hz : ∀ j, j < nc → (∀ c, c < nc' → jdx c ≠ j) → ∀ k, k < mr → G k j = 0)
    (hG : GInv m n A mr nc G units) : GInv m n A mr nc' (fun k c => G k (jdx c)) units := by
  obtain ⟨V, ρ, κ, pr, pc, hR, hF⟩ := hG
  refine ⟨V, ρ, fun c => κ (jdx c), pr, pc, hR, ?_⟩
  exact
    { ρlt := hF.ρlt, ρinj := hF.ρinj
      κlt := fun c hc => hF.κlt _ (hjdx c hc)
      κinj := fun c c' hc hc' e => hinj c c' hc hc' (hF.κinj _ _ (hjdx c hc) (hjdx c' hc') e)
      plt := hF.plt, prinj := hF.prinj, pcinj := hF.pcinj, ρpr := hF.ρpr
      live := fun k c hk hc => hF.live k _ hk (hjdx c hc)
      liveZ := fun k j hk hj h => by
        by_cases hex : ∃ c0, c0 < nc ∧ κ c0 = j
        · obtain ⟨c0, hc0, rfl⟩ := hex
          rw [hF.live k c0 hk hc0]
          exact hz c0 hc0 (fun c hc e => h c hc (by rw [e])) k hk
        · exact hF.liveZ k j hk hj (fun c hc e => hex ⟨c, hc, e⟩)
      pu := hF.pu, prow := hF.prow, pcol := hF.pcol, zrow := hF.zrow }

theorem glue_inj {u r : ℕ} {f g : ℕ → ℕ} (hf : ∀ t t', t < u → t' < u → f t = f t' → t = t')
    (hg : ∀ s s', s < r → s' < r → g s = g s' → s = s') (hfg : ∀ t s, t < u → s < r → f t ≠ g s)
    (t t' : ℕ) (ht : t < u + r) (ht' : t' < u + r)
    (e : (if t < u then f t else g (t - u)) = (if t' < u then f t' else g (t' - u))) : t = t' := by
  by_cases h : t < u <;> by_cases h' : t' < u <;> simp only [h, h', if_true, if_false] at e
  · exact hf t t' h h' e
  · exact absurd e (hfg t _ h (by omega))
  · exact absurd e.symm (hfg t' _ h' (by omega))
  · have := hg _ _ (by omega) (by omega) e
    omega

theorem glue_add {α : Type} (u k : ℕ) (f g : ℕ → α) : (if u + k < u then f (u + k) else g (u + k - u)) = g k := by
  rw [if_neg (Nat.not_lt.mpr (Nat.le_add_right u k)), Nat.add_sub_cancel_left]

/-- Peeling a unit pivot at `(s, j)` whose column is otherwise zero: row `s` is dropped together with the rows outside `L` (which
must be zero).  The rest of row `s` need not be zero: it is cleared first by column operations with source `j`, which change no
other row because column `j` is zero there.  This is why the code can simply drop the pivot row. -/
theorem ginv_peel {m n A mr nc units} {G : ℕ → ℕ → ℤ} (s j : ℕ) (hs : s < mr) (hj : j < nc)
    (hu : G s j = 1 ∨ G s j = -1) (hcol : ∀ k, k < mr → k ≠ s → G k j = 0)
    (L : List ℕ) (hL : L.Nodup) (hmem : ∀ k ∈ L, k < mr ∧ k ≠ s)
    (hz : ∀ k, k < mr → k ≠ s → k ∉ L → ∀ c, c < nc → G k c = 0)
    (hG : GInv m n A mr nc G units) : GInv m n A L.length nc (fun p c => G (L.getD p 0) c) (units + 1) := by
  have uu : G s j * G s j = 1 := by rcases hu with h | h <;> rw [h] <;> rfl
  have hne : G s j ≠ 0 := by rcases hu with h | h <;> rw [h] <;> decide
  obtain ⟨hLmem, hinj, hmiss⟩ := getD_nodup hL
  have hidx : ∀ p, p < L.length → L.getD p 0 < mr ∧ L.getD p 0 ≠ s := fun p hp => hmem _ (hLmem p hp)
  -- the live matrix `G'` after the column operations: row `s` is `G s j` at `j` and zero elsewhere, the other rows are those of `G`
  obtain ⟨G', hG', hG2⟩ : ∃ G' : ℕ → ℕ → ℤ,
      (∀ k c, G' k c = G k c + (if c = j then 0 else -(G s j * G s c)) * G k j) ∧ GInv m n A mr nc G' units :=
    ⟨_, fun _ _ => rfl, ginv_colOps j hj (fun c => if c = j then 0 else -(G s j * G s c)) (if_pos rfl) ⟨s, hs, hne⟩
      (fun c _ h0 => by
        show (if c = j then 0 else -(G s j * G s c)) = 0
        split
        · rfl
        · rw [h0 s hs, mul_zero, neg_zero]) hG⟩
  have hsj : G' s j = G s j := by rw [hG', if_pos rfl, zero_mul, add_zero]
  have hrow : ∀ c, c ≠ j → G' s c = 0 := fun c hcj => by
    rw [hG', if_neg hcj]
    linear_combination (-(G s c)) * uu
  have hrest : ∀ k, k < mr → k ≠ s → ∀ c, G' k c = G k c := fun k hk hks c => by
    rw [hG', hcol k hk hks, mul_zero, add_zero]
  obtain ⟨V, ρ, κ, pr, pc, hR, hF⟩ := hG2
  have hκj : ∀ t, t < units → κ j ≠ pc t := fun t ht => hF.κ_ne_pc hs hj ht (by rw [hsj]; exact hne)
  refine ⟨V, fun p => ρ (L.getD p 0), κ, fun t => if t < units then pr t else ρ s,
    fun t => if t < units then pc t else κ j, hR, ?_⟩
  exact
    { ρlt := fun p hp => hF.ρlt _ (hidx p hp).1
      ρinj := fun p p' hp hp' e => hinj p p' hp hp' (hF.ρinj _ _ (hidx p hp).1 (hidx p' hp').1 e)
      κlt := hF.κlt, κinj := hF.κinj
      plt := fun t _ => by
        by_cases h : t < units
        · simpa [h] using hF.plt t h
        · simpa [h] using And.intro (hF.ρlt s hs) (hF.κlt j hj)
      prinj := glue_inj (r := 1) (g := fun _ => ρ s) hF.prinj (fun _ _ h h' _ => by omega)
        (fun t _ ht _ => (hF.ρpr s t hs ht).symm)
      pcinj := glue_inj (r := 1) (g := fun _ => κ j) hF.pcinj (fun _ _ h h' _ => by omega)
        (fun t _ ht _ => (hκj t ht).symm)
      ρpr := fun p t hp _ => by
        by_cases h : t < units <;> simp only [h, if_true, if_false]
        · exact hF.ρpr _ t (hidx p hp).1 h
        · exact fun e => (hidx p hp).2 (hF.ρinj _ _ (hidx p hp).1 hs e)
      live := fun p c hp hc => (hF.live _ c (hidx p hp).1 hc).trans (hrest _ (hidx p hp).1 (hidx p hp).2 c)
      liveZ := fun p j' hp hj' h => hF.liveZ _ j' (hidx p hp).1 hj' h
      pu := fun t _ => by
        by_cases h : t < units <;> simp only [h, if_true, if_false]
        · exact hF.pu t h
        · rw [hF.live s j hs hj, hsj]; exact hu
      prow := fun t j' _ hj' => by
        by_cases h : t < units <;> simp only [h, if_true, if_false]
        · exact hF.prow t j' h hj'
        · intro hjj
          exact hF.rowZero' hs hj' (fun c _ e => hrow c (fun ecj => hjj (by rw [← e, ecj])))
      pcol := fun t i _ hi => by
        by_cases h : t < units <;> simp only [h, if_true, if_false]
        · exact hF.pcol t i h hi
        · intro his
          by_cases hex : ∃ k, k < mr ∧ ρ k = i
          · obtain ⟨k, hk, rfl⟩ := hex
            have hks : k ≠ s := fun e => his (by rw [e])
            rw [hF.live k j hk hj, hrest k hk hks]
            exact hcol k hk hks
          · by_cases hex' : ∃ t', t' < units ∧ pr t' = i
            · obtain ⟨t', ht', rfl⟩ := hex'
              exact hF.prow t' (κ j) ht' (hF.κlt j hj) (hκj t' ht')
            · exact hF.zrow i hi (fun k hk e => hex ⟨k, hk, e⟩) (fun t' ht' e => hex' ⟨t', ht', e⟩) (κ j)
                (hF.κlt j hj)
      zrow := fun i hi h1 h2 j' hj' => by
        have h2s : ρ s ≠ i := by simpa using h2 units (Nat.lt_succ_self units)
        have h2p : ∀ t, t < units → pr t ≠ i := fun t ht => by simpa [ht] using h2 t (Nat.lt_succ_of_lt ht)
        by_cases hex : ∃ k, k < mr ∧ ρ k = i
        · obtain ⟨k, hk, rfl⟩ := hex
          have hks : k ≠ s := fun e => h2s (by rw [e])
          refine hF.rowZero hk (fun c hc => ?_) hj'
          rw [hrest k hk hks]
          exact hz k hk hks (hmiss k (fun p hp e => h1 p hp (by rw [e]))) c hc
        · exact hF.zrow i hi (fun k hk e => hex ⟨k, hk, e⟩) h2p j' hj' }

theorem getD_units_append (units r : ℕ) (f : ℕ → ℤ) (k : ℕ) (hk : k < units + r) :
    (List.replicate units (1 : ℤ) ++ (List.range r).map f).getD k 0 = if k < units then 1 else f (k - units) := by
  rw [List.getD_eq_getElem?_getD]
  by_cases h : k < units
  · rw [List.getElem?_append_left (by simpa using h)]
    simp [h]
  · rw [List.getElem?_append_right (by simpa using h)]
    have : k - units < r := by omega
    simp [h, this]

theorem ginv_final {m n A mr nc units} {G : ℕ → ℕ → ℤ} (r : ℕ) (hr : r ≤ mr) (hr' : r ≤ nc) (e : ℕ → ℤ)
    (hne : ∀ t, t < r → e t ≠ 0) (hd : ∀ t, t < r → G t t = e t)
    (hz : ∀ k c, k < mr → c < nc → ¬ (k = c ∧ k < r) → G k c = 0)
    (hG : GInv m n A mr nc G units) :
    EquivDiag A (List.replicate units 1 ++ (List.range r).map (fun t => (Int.ofNat (e t).natAbs : ℤ))) := by
  obtain ⟨V, ρ, κ, pr, pc, hR, hF⟩ := hG
  have hκ : ∀ t' t, t' < r → t < units → κ t' ≠ pc t := fun t' t ht' ht =>
    hF.κ_ne_pc (Nat.lt_of_lt_of_le ht' hr) (Nat.lt_of_lt_of_le ht' hr') ht (by rw [hd t' ht']; exact hne t' ht')
  have hgen := equivDiag_of_genDiag m n V (units + r)
    (fun t => if t < units then pr t else ρ (t - units)) (fun t => if t < units then pc t else κ (t - units))
    (fun t => if t < units then V (pr t) (pc t) else e (t - units))
    (fun t ht => by
      by_cases h : t < units <;> simp only [h, if_true, if_false]
      · exact (hF.plt t h).1
      · exact hF.ρlt _ (by omega))
    (fun t ht => by
      by_cases h : t < units <;> simp only [h, if_true, if_false]
      · exact (hF.plt t h).2
      · exact hF.κlt _ (by omega))
    (glue_inj hF.prinj (fun k k' hk hk' => hF.ρinj k k' (Nat.lt_of_lt_of_le hk hr) (Nat.lt_of_lt_of_le hk' hr))
      (fun t k ht hk => (hF.ρpr k t (Nat.lt_of_lt_of_le hk hr) ht).symm))
    (glue_inj hF.pcinj (fun c c' hc hc' => hF.κinj c c' (Nat.lt_of_lt_of_le hc hr') (Nat.lt_of_lt_of_le hc' hr'))
      (fun t c ht hc => (hκ c t hc ht).symm))
    (fun t ht => by
      by_cases h : t < units <;> simp only [h, if_true, if_false]
      rw [hF.live _ _ (by omega) (by omega)]
      exact hd _ (by omega))
    (fun i j hi hj hno => by
      by_cases hex' : ∃ t, t < units ∧ pr t = i
      · obtain ⟨t, ht, rfl⟩ := hex'
        apply hF.prow t j ht hj
        intro ej
        exact hno ⟨t, by omega, if_pos ht, (if_pos ht).trans ej.symm⟩
      · by_cases hex : ∃ k, k < mr ∧ ρ k = i
        · obtain ⟨k, hk, rfl⟩ := hex
          apply hF.rowZero' hk hj
          intro c hc ec
          apply hz k c hk hc
          rintro ⟨rfl, hkr⟩
          exact hno ⟨units + k, by omega, glue_add .., (glue_add ..).trans ec⟩
        · exact hF.zrow i hi (fun k hk e => hex ⟨k, hk, e⟩) (fun t ht e => hex' ⟨t, ht, e⟩) j hj)
  refine equivDiag_signs (EquivDiag.of_uequiv hR hgen) (by simp) ?_
  intro k hk
  have hk' : k < units + r := by simpa using hk
  rw [getD_units_append units r _ k hk', getD_map_range, if_pos hk']
  by_cases h : k < units <;> simp only [h, if_true, if_false]
  · rcases hF.pu k h with h1 | h1 <;> rw [h1] <;> simp
  · rcases Int.natAbs_eq (e (k - units)) with h1 | h1
    · left; exact h1.symm
    · right
      have : (Int.ofNat (e (k - units)).natAbs : ℤ) = ((e (k - units)).natAbs : ℤ) := rfl
      rw [this]; omega

end Yuiv.KhSnf
