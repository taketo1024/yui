import Yuiv.Proofs.C14GenQ
/-
C14 — the hand-written code model `Yuiv.C14.QI.*` (`Yuiv/Model/C14.lean`) of `QuadInt<I, D>` IS the source text of
`/repo/yui/src/types/qint.rs`, read with `I := Int`, for EVERY value of the const generic `D`.

`Yuiv.GenQInt.*` (file `Yuiv/Gen/QIntFn.lean`) is regenerated from the Rust source by `tools/rs2lean_fn.py fn:qint` on
every `./check` run.  Each theorem states, for all `D` and all arguments, that a generated definition equals the model's
function through `toQ : QuadIntS → QI`, including the panics (`new` when `4 ∣ D`; `conj`/`norm`/`mul` when
`D.rem_euclid(4) = 0`).  Constructors that go through `new` (`zero`, `one`, `omega`, `from`) are `Res`-valued in the
generated code (they carry `new`'s assert); the model's constants are their values when `D % 4 ≠ 0`.
The division / unit-table functions, which exist for `D = -1, -3` only, are in `Yuiv/Props/C15GenQ.lean`.
-/
namespace Yuiv.GenQ
open Yuiv Res Yuiv.Rust Yuiv.GenQInt

theorem gen_new_eq (D a b : Int) : mapR toQ (QuadInt.new D a b) = C14.QI.new D a b := by
  unfold QuadInt.new C14.QI.new
  by_cases h : D.tmod 4 = 0
  · simp [gen_simp, h, bne]
  · have h' : (D.tmod 4 == 0) = false := by simpa using h
    simp [gen_simp, h, h', bne]

theorem gen_left_eq (D : Int) (s : QuadIntS) : QuadInt.left D s = (toQ s).l := rfl
theorem gen_right_eq (D : Int) (s : QuadIntS) : QuadInt.right D s = (toQ s).r := rfl
theorem gen_pair_eq (D : Int) (s : QuadIntS) : QuadInt.pair D s = ((toQ s).l, (toQ s).r) := rfl
theorem gen_pair_into_eq (D : Int) (s : QuadIntS) : QuadInt.pair_into D s = ((toQ s).l, (toQ s).r) := rfl
theorem gen_is_rational_eq (D : Int) (s : QuadIntS) : QuadInt.is_rational D s = ((toQ s).r == 0) := rfl

theorem gen_from_eq (D i : Int) : mapR toQ (QuadInt.From_I.from_ D i) = C14.QI.new D i 0 := gen_new_eq D i 0
theorem gen_zero_eq (D : Int) : mapR toQ (QuadInt.Zero.zero D) = C14.QI.new D 0 0 := gen_new_eq D 0 0
theorem gen_one_eq (D : Int) : mapR toQ (QuadInt.One.one D) = C14.QI.new D 1 0 := gen_new_eq D 1 0
theorem gen_omega_eq (D : Int) : mapR toQ (QuadInt.omega D) = C14.QI.new D 0 1 := gen_new_eq D 0 1
/-- … which are the model's constants whenever `new` does not panic -/
theorem gen_constants_eq (D : Int) (h : D.tmod 4 ≠ 0) :
    mapR toQ (QuadInt.Zero.zero D) = ok C14.QI.zero ∧ mapR toQ (QuadInt.One.one D) = ok C14.QI.one ∧
    mapR toQ (QuadInt.omega D) = ok C14.QI.omega := by
  have h' : (D.tmod 4 == 0) = false := by simpa using h
  rw [gen_zero_eq, gen_one_eq, gen_omega_eq]
  simp [C14.QI.new, h', bne, assert_true, C14.QI.zero, C14.QI.one, C14.QI.omega]

theorem gen_is_zero_eq (D : Int) (s : QuadIntS) : QuadInt.Zero.is_zero D s = (toQ s).isZero := rfl
theorem gen_is_one_eq (D : Int) (s : QuadIntS) : QuadInt.One.is_one D s = (toQ s).isOne := rfl

/-! ### additive structure (`impl_unop!`, `impl_add_op!`) -/

theorem gen_neg_eq (D : Int) (s : QuadIntS) : toQ (QuadInt.Neg.neg D s) = C14.QI.neg (toQ s) := rfl
theorem gen_neg_ref_eq (D : Int) (s : QuadIntS) : toQ (QuadInt.Neg_ref.neg D s) = C14.QI.neg (toQ s) := rfl
theorem gen_add_eq (D : Int) (x y : QuadIntS) :
    toQ (QuadInt.Add_QuadInt_I_D_ref.add D x y) = C14.QI.add (toQ x) (toQ y) := rfl
theorem gen_sub_eq (D : Int) (x y : QuadIntS) :
    toQ (QuadInt.Sub_QuadInt_I_D_ref.sub D x y) = C14.QI.sub (toQ x) (toQ y) := rfl

/-! ### conjugate, norm, product (the `D ≡ 1` and `D ≡ 2, 3 (mod 4)` formulas) -/

theorem gen_conj_eq (D : Int) (s : QuadIntS) : mapR toQ (QuadInt.conj D s) = C14.QI.conj D (toQ s) := by
  unfold QuadInt.conj C14.QI.conj
  by_cases h1 : D % 4 = 1
  · simp [gen_simp, h1]
  · by_cases h2 : D % 4 = 2 ∨ D % 4 = 3 <;> simp [gen_simp, h1, h2]

theorem gen_norm_eq (D : Int) (s : QuadIntS) : QuadInt.norm D s = C14.QI.norm D (toQ s) := by
  unfold QuadInt.norm C14.QI.norm
  by_cases h1 : D % 4 = 1
  · simp [gen_simp, h1]
  · by_cases h2 : D % 4 = 2 ∨ D % 4 = 3 <;> simp [gen_simp, h1, h2]

theorem gen_mul_eq (D : Int) (x y : QuadIntS) :
    mapR toQ (QuadInt.Mul_QuadInt_I_D_ref.mul D x y) = C14.QI.mul D (toQ x) (toQ y) := by
  unfold QuadInt.Mul_QuadInt_I_D_ref.mul C14.QI.mul
  by_cases hb : x.f1 = 0
  · simp [gen_simp, hb]
  · by_cases hd : y.f1 = 0
    · simp [gen_simp, hb, hd]
    · by_cases h1 : D % 4 = 1
      · simp [gen_simp, hb, hd, h1]
      · by_cases h2 : D % 4 = 2 ∨ D % 4 = 3 <;> simp [gen_simp, hb, hd, h1, h2]

theorem gen_is_unit_eq (D : Int) (s : QuadIntS) : QuadInt.Ring.is_unit D s = C14.QI.isUnit D (toQ s) := by
  unfold QuadInt.Ring.is_unit C14.QI.isUnit
  rw [gen_norm_eq]; rfl

theorem gen_inv_eq (D : Int) (s : QuadIntS) :
    mapR (Option.map toQ) (QuadInt.Ring.inv D s) = C14.QI.inv D (toQ s) := by
  unfold QuadInt.Ring.inv C14.QI.inv
  rw [gen_norm_eq]
  by_cases h0 : D % 4 = 0
  · -- `norm` panics
    have : C14.QI.norm D (toQ s) = .panic := by
      unfold C14.QI.norm; simp [h0]
    simp [this, mapR_panic]
  · have ht := tmod4_ne D h0
    cases hn : C14.QI.norm D (toQ s) with
    | ok n =>
      have hnew : ∀ a b, QuadInt.new D a b = ok ⟨a, b⟩ := by
        intro a b; unfold QuadInt.new; simp [rem4, ht, assert_true]
      rcases int_inv_cases n with ⟨hi, hi', _⟩ | ⟨hi, hi', _⟩
      · rw [← gen_conj_eq]
        simp only [bind_ok, hi, hi', Option.isSome_some, if_true, Opt.unwrap, QuadInt.From_I.from_, hnew]
        cases hc : QuadInt.conj D s with
        | ok c =>
          simp only [bind_ok, mapR_ok]
          rw [show C14.QI.mul D ⟨n, 0⟩ (toQ c) = mapR toQ (QuadInt.Mul_QuadInt_I_D_ref.mul D ⟨n, 0⟩ c) from
            (gen_mul_eq D ⟨n, 0⟩ c).symm]
          cases hm : QuadInt.Mul_QuadInt_I_D_ref.mul D { f0 := n, f1 := 0 } c <;> simp [mapR_ok, mapR_panic, mapR_err]
        | panic => simp [mapR_panic]
        | err => simp [mapR_err]
      · simp [hi, hi', mapR_ok]
    | panic => simp [mapR_panic]
    | err => simp [mapR_err]

/-! ### the statements are not vacuous -/

example : mapR toQ (QuadInt.Mul_QuadInt_I_D_ref.mul (-3) ⟨1, 2⟩ ⟨3, -1⟩) = ok ⟨5, 3⟩ := by rw [gen_mul_eq]; decide
example : mapR toQ (QuadInt.new 8 1 2) = .panic := by rw [gen_new_eq]; decide
example : QuadInt.norm 5 ⟨1, 2⟩ = ok (-1) := by rw [gen_norm_eq]; decide

end Yuiv.GenQ
