import Yuiv.Gen.SchurFn
/-
C08 — `Yuiv.GenSchur.*` is GENERATED from `/repo/yui-matrix/src/sparse/schur.rs` by `tools/rs2lean_fn.py fn:schur`; `C12.schur`,
`C12.computeSchur` (`Yuiv/Model/C12.lean`) are the hand-written model.  `toS` turns the model's `SchurOut` into the
generated structure.
-/
namespace Yuiv.C08Gen
open Yuiv Res Yuiv.Rust Yuiv.C12

variable {α : Type} [Scal α]

def toS (o : SchurOut α) : GenSchur.SchurS α := ⟨o.s, o.src, o.tgt⟩

def mapR {β γ} (f : β → γ) : Res β → Res γ
  | .ok a => .ok (f a)
  | .panic => .panic
  | .err => .err

theorem assert_true : Res.assert true = ok () := rfl
theorem assert_false : Res.assert false = (.panic : Res Unit) := rfl
theorem pure_eq_ok {β} (a : β) : (pure a : Res β) = ok a := rfl

theorem find_dense {β : Type} (f : Nat → β) (n i : Nat) (hi : i < n) :
    ((List.range n).map fun k => (k, f k)).find? (fun e => e.1 == i) = some (i, f i) := by
  induction n with
  | zero => omega
  | succ n ih =>
    rw [List.range_succ, List.map_append, List.find?_append]
    by_cases h : i < n
    · rw [ih h]; rfl
    · have : i = n := by omega
      subst this
      have hn : ((List.range i).map fun k => (k, f k)).find? (fun e => e.1 == i) = none := by
        rw [List.find?_eq_none]
        intro e he
        simp only [List.mem_map, List.mem_range] at he
        obtain ⟨k, hk, rfl⟩ := he
        simp; omega
      rw [hn]
      simp

/-- the translated sequential `compute_schur` is the hand model's `computeSchur`.  It stands here, apart from the other
functions of schur.rs (`Props/C08Gen`), because `Props/C12Schur` uses it too and is to depend on the text of
`compute_schur` only. -/
theorem compute_schur_eq (X C D : SpMat α) (h : D.nrows ≤ C.nrows) :
    GenSchur.Schur.compute_schur X C D = ok (computeSchur X C D) := by
  unfold GenSchur.Schur.compute_schur computeSchur SM.from_col_vecs
  simp only [Nat.sub_zero]
  have hd : ∀ j, (GenSchur.Schur.compute_schur_closure1 X C D j).dim = D.nrows := fun j => rfl
  have hall : (List.map (GenSchur.Schur.compute_schur_closure1 X C D) (List.range' 0 D.ncols)).all (fun v => v.dim == D.nrows) = true := by
    simp [hd]
  rw [if_pos hall]
  simp only [List.length_map, List.length_range', List.map_map, List.range_eq_range']
  congr 3
  apply List.map_congr_left
  intro j _
  show (SVec.sub (SM.col_vec D j) (SM.mul_vec C (SM.col_vec X j))).ents = _
  unfold SVec.sub SM.col_vec SM.mul_vec
  simp only [List.range_eq_range']
  apply List.map_congr_left
  intro i hi
  have hi' : i < C.nrows := by simp at hi; omega
  simp only [SVec.valAt, ← List.range_eq_range', find_dense _ _ _ hi']

theorem solve_shape {upper : Bool} {A Y X : SpMat α} (h : solve upper A Y = ok X) : X.nrows = A.nrows ∧ X.ncols = Y.ncols := by
  unfold solve at h
  split at h
  · cases h
  · split at h
    · cases h
    · split at h
      · cases h; exact ⟨rfl, rfl⟩
      · cases h
      · cases h

theorem solveLeft_shape {upper : Bool} {A Y W : SpMat α} (h : solveLeft upper A Y = ok W) :
    W.nrows = Y.nrows ∧ W.ncols = A.ncols := by
  unfold solveLeft at h
  split at h
  · rename_i X hX
    cases h
    have := solve_shape hX
    exact ⟨this.2, this.1⟩
  · cases h
  · cases h

theorem mapM_range {β : Type} (g : Nat → Res β) (f : Nat → β) : ∀ (c s : Nat), (∀ i, s ≤ i → i < s + c → g i = ok (f i)) →
    Iter.mapM g (List.range' s c) = ok ((List.range' s c).map f) := by
  intro c
  induction c with
  | zero => intro s _; rfl
  | succ c ih =>
    intro s h
    rw [List.range'_succ, Iter.mapM, h s (Nat.le_refl _) (by omega), ih (s + 1) (fun i h1 h2 => h i (by omega) (by omega))]
    rfl

theorem filter_shift (a j : Nat) : ∀ k, (List.range' 0 k).filter (fun i => decide (a + i = j)) =
    if a ≤ j ∧ j < a + k then [j - a] else [] := by
  intro k
  induction k with
  | zero => simp
  | succ k ih =>
    rw [List.range'_concat, List.filter_append, ih]
    have hk : (0 + 1 * k) = k := by omega
    rw [hk]
    by_cases h4 : a + k = j
    · have hf : List.filter (fun i => decide (a + i = j)) [k] = [k] := by simp [h4]
      have h1 : ¬ (a ≤ j ∧ j < a + k) := by omega
      have h2 : a ≤ j ∧ j < a + (k + 1) := by omega
      have h5 : j - a = k := by omega
      rw [hf, if_neg h1, if_pos h2, h5]; rfl
    · have hf : List.filter (fun i => decide (a + i = j)) [k] = [] := by simp [h4]
      rw [hf, List.append_nil]
      by_cases h1 : a ≤ j ∧ j < a + k
      · rw [if_pos h1, if_pos ⟨h1.1, by omega⟩]
      · rw [if_neg h1, if_neg (by omega)]

/-- `incl(n, k)` of schur.rs: `from_entries((n, k), (0..k).map(|i| (n - k + i, i, 1)))` is the model's `incl n k` -/
theorem incl_eq (hone : isZero (one : α) = false) (n k : Nat) (hk : k ≤ n) :
    SM.from_entries (n, k) ((List.range' 0 k).map fun i => (n - k + i, i, (one : α))) = ok (incl n k) := by
  unfold SM.from_entries incl
  have hall : ((List.range' 0 k).map fun i => (n - k + i, i, (one : α))).all
      (fun t => isZero t.2.2 || (decide (t.1 < n) && decide (t.2.1 < k))) = true := by
    simp [hone]; omega
  rw [if_pos hall]
  congr 3
  apply List.map_congr_left
  intro j hj
  have hj' : j < k := by simpa using hj
  simp only [List.filter_map, Function.comp_def, hone, Bool.not_false, Bool.and_true, List.map_map]
  have := filter_shift 0 j k
  simp only [Nat.zero_add, Nat.zero_le, true_and, hj', if_true, Nat.sub_zero] at this
  have e : (List.range' 0 k).filter (fun i => i == j) = [j] := by
    rw [← this]; congr 1
  rw [e]
  rfl

/-- `proj(n, k)`: `from_entries((k, n), (0..k).map(|i| (i, n - k + i, 1)))` is the model's `proj n k` -/
theorem proj_eq (hone : isZero (one : α) = false) (n k : Nat) (hk : k ≤ n) :
    SM.from_entries (k, n) ((List.range' 0 k).map fun i => (i, n - k + i, (one : α))) = ok (proj n k) := by
  unfold SM.from_entries proj
  have hall : ((List.range' 0 k).map fun i => (i, n - k + i, (one : α))).all
      (fun t => isZero t.2.2 || (decide (t.1 < k) && decide (t.2.1 < n))) = true := by
    simp [hone]; intro i hi; omega
  rw [if_pos hall]
  congr 3
  apply List.map_congr_left
  intro j hj
  have hj' : j < n := by simpa using hj
  simp only [List.filter_map, Function.comp_def, hone, Bool.not_false, Bool.and_true, List.map_map]
  have := filter_shift (n - k) j k
  have e : (List.range' 0 k).filter (fun i => n - k + i == j) = if n - k ≤ j then [j - (n - k)] else [] := by
    have e0 : (List.range' 0 k).filter (fun i => n - k + i == j) = (List.range' 0 k).filter (fun i => decide (n - k + i = j)) := by
      congr 1
    rw [e0, this]
    by_cases h2 : n - k ≤ j
    · rw [if_pos ⟨h2, by omega⟩, if_pos h2]
    · rw [if_neg (fun h => h2 h.1), if_neg h2]
  rw [e]
  split <;> rfl

omit [Scal α] in
theorem extendCols_shape {A B F : SpMat α} (h : extendCols A B = ok F) : F.nrows = A.nrows ∧ F.ncols = A.ncols + B.ncols := by
  unfold extendCols at h
  split at h
  · cases h
  · cases h; exact ⟨rfl, rfl⟩

omit [Scal α] in
theorem trnew_ok (f b : SpMat α) (h1 : f.ncols = b.nrows) (h2 : f.nrows = b.ncols) : SM.Tr.new f b = ok (f, b) := by
  unfold SM.Tr.new; rw [if_pos ⟨h1, h2⟩]

end Yuiv.C08Gen
