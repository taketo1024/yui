import Yuiv.Proofs.C13
/-
C13 — the raw CSC arrays: `disassemble` / `try_from_csc_data`, `extend_cols`, `from_col_vecs`,
`SpVec::from_sorted_entries`.
-/
namespace Yuiv.C13
open Yuiv Res

variable {R : Type}

theorem offsetsFrom_eq_cons (s : Nat) (cs : List (List (Nat × R))) :
    offsetsFrom s cs = s :: (offsetsFrom s cs).tail := by
  cases cs <;> rfl

theorem offsetsFrom_length (s : Nat) (cs : List (List (Nat × R))) : (offsetsFrom s cs).length = cs.length + 1 := by
  induction cs generalizing s with
  | nil => rfl
  | cons c cs ih => simp [offsetsFrom, ih]

theorem offsetsFrom_getLast (s : Nat) (cs : List (List (Nat × R))) :
    (offsetsFrom s cs).getLast? = some (s + cs.flatten.length) := by
  induction cs generalizing s with
  | nil => simp [offsetsFrom]
  | cons c cs ih =>
    rw [offsetsFrom, offsetsFrom_eq_cons, List.getLast?_cons_cons, ← offsetsFrom_eq_cons, ih]
    simp [Nat.add_assoc]

theorem offsetsFrom_monotone (s : Nat) (cs : List (List (Nat × R))) : monotone (offsetsFrom s cs) = true := by
  induction cs generalizing s with
  | nil => rfl
  | cons c cs ih =>
    rw [offsetsFrom, offsetsFrom_eq_cons, monotone, ← offsetsFrom_eq_cons, ih]
    simp

theorem offsetsFrom_append (s : Nat) (as bs : List (List (Nat × R))) :
    offsetsFrom s (as ++ bs) = (offsetsFrom s as).dropLast ++ offsetsFrom (s + as.flatten.length) bs := by
  induction as generalizing s with
  | nil => simp [offsetsFrom]
  | cons a as ih =>
    rw [List.cons_append, offsetsFrom, ih, offsetsFrom]
    rw [offsetsFrom_eq_cons (s + a.length) as, List.dropLast_cons_cons, ← offsetsFrom_eq_cons]
    simp [Nat.add_assoc]

theorem offsetsFrom_map_add (k s : Nat) (cs : List (List (Nat × R))) :
    (offsetsFrom s cs).map (fun i => k + i) = offsetsFrom (k + s) cs := by
  induction cs generalizing s with
  | nil => rfl
  | cons c cs ih => simp [offsetsFrom, ih, Nat.add_assoc]

theorem splitLanes_offsets (cs : List (List (Nat × R))) (pre post : List (Nat × R)) :
    splitLanes (pre ++ (cs.flatten ++ post)) (offsetsFrom pre.length cs) = cs := by
  induction cs generalizing pre with
  | nil => rfl
  | cons c cs ih =>
    rw [offsetsFrom, offsetsFrom_eq_cons, splitLanes, ← offsetsFrom_eq_cons]
    have e1 : ((pre ++ ((c :: cs).flatten ++ post)).drop pre.length).take (pre.length + c.length - pre.length) = c := by
      rw [List.drop_left' rfl]
      simp
    rw [e1]
    have e2 : pre ++ ((c :: cs).flatten ++ post) = (pre ++ c) ++ (cs.flatten ++ post) := by simp
    have := ih (pre ++ c)
    rw [List.length_append] at this
    rw [e2, this]

theorem splitLanes_disassemble (cs : List (List (Nat × R))) :
    splitLanes cs.flatten (offsetsFrom 0 cs) = cs := by
  simpa using splitLanes_offsets cs [] []

theorem splitLanes_map {α β : Type} (f : α → β) (xs : List α) (offs : List Nat) :
    splitLanes (xs.map f) offs = (splitLanes xs offs).map (List.map f) := by
  induction offs with
  | nil => rfl
  | cons a rest ih =>
    cases rest with
    | nil => rfl
    | cons b rest' =>
      simp only [splitLanes, List.map_cons] at ih ⊢
      rw [ih]
      simp [List.map_take, List.map_drop]

theorem strictInc_of_pairwise (l : List Nat) (h : l.Pairwise (· < ·)) : strictInc l = true := by
  induction l with
  | nil => rfl
  | cons a l ih =>
    cases l with
    | nil => rfl
    | cons b l' =>
      rw [strictInc]
      have h' := List.pairwise_cons.mp h
      simp [h'.1 b (by simp), ih h'.2]

theorem tryFromCsc_cols (m : Nat) (cs : List (List (Nat × R)))
    (hb : ∀ c ∈ cs, ∀ p ∈ c, p.1 < m) (hs : ∀ c ∈ cs, (c.map (·.1)).Pairwise (· < ·)) :
    tryFromCsc m cs.length (offsetsFrom 0 cs) (cs.flatten.map (·.1)) (cs.flatten.map (·.2)) = ok ⟨m, cs.length, cs⟩ := by
  unfold tryFromCsc
  rw [if_pos, ← List.unzip_fst, ← List.unzip_snd, List.zip_unzip, splitLanes_disassemble]
  refine ⟨offsetsFrom_length 0 cs, by rw [offsetsFrom_eq_cons]; rfl, ?_, offsetsFrom_monotone 0 cs,
    by rw [List.length_map, List.length_map], ?_⟩
  · rw [offsetsFrom_getLast, List.length_map, Nat.zero_add]
  · rw [splitLanes_map, splitLanes_disassemble, List.all_eq_true]
    intro l hl
    simp only [List.mem_map] at hl
    obtain ⟨c, hc, rfl⟩ := hl
    rw [Bool.and_eq_true, List.all_eq_true]
    refine ⟨?_, strictInc_of_pairwise _ (hs c hc)⟩
    intro x hx
    simp only [List.mem_map] at hx
    obtain ⟨p, hp, rfl⟩ := hx
    simpa using hb c hc p hp

theorem extendCols_wf (A B : SpMat R) (hA : A.WF) (hB : B.WF) (h : A.nrows = B.nrows) :
    (⟨A.nrows, A.ncols + B.ncols, A.cols ++ B.cols⟩ : SpMat R).WF := by
  refine ⟨by simp [hA.len, hB.len], ?_, ?_⟩
  · intro c hc p hp
    rcases List.mem_append.mp hc with hc | hc
    · exact hA.bound c hc p hp
    · show p.1 < A.nrows; rw [h]; exact hB.bound c hc p hp
  · intro c hc
    rcases List.mem_append.mp hc with hc | hc
    · exact hA.sorted c hc
    · exact hB.sorted c hc

/-- the popped last offset plus the shifted offsets of `b` are the offsets of the concatenated columns -/
theorem extendCols_spec (A B : SpMat R) (hA : A.WF) (hB : B.WF) (h : A.nrows = B.nrows) :
    A.extendCols B = ok ⟨A.nrows, A.ncols + B.ncols, A.cols ++ B.cols⟩ := by
  unfold SpMat.extendCols
  rw [assert_true (by simp [h])]
  simp only [bind_ok]
  by_cases h0 : B.ncols = 0
  · rw [if_pos h0]
    have : B.cols = [] := List.length_eq_zero_iff.mp (by rw [hB.len, h0])
    rw [this, h0]; simp
  · rw [if_neg h0]
    simp only [SpMat.disassemble, offsetsFrom_getLast, Nat.zero_add]
    have e1 : (offsetsFrom 0 A.cols).dropLast ++ (offsetsFrom 0 B.cols).map (fun i => A.cols.flatten.length + i)
        = offsetsFrom 0 (A.cols ++ B.cols) := by
      rw [offsetsFrom_append, offsetsFrom_map_add]; simp
    rw [e1, ← List.map_append, ← List.map_append, ← List.flatten_append]
    have hw := extendCols_wf A B hA hB h
    have := tryFromCsc_cols A.nrows (A.cols ++ B.cols) hw.bound hw.sorted
    rw [List.length_append, hA.len, hB.len] at this
    exact this

theorem entry_append_cols [CommRing R] (m n : Nat) (as bs : List (List (Nat × R))) (i j : Nat) :
    (⟨m, n, as ++ bs⟩ : SpMat R).entry i j
      = if j < as.length then (⟨m, as.length, as⟩ : SpMat R).entry i j
        else (⟨m, bs.length, bs⟩ : SpMat R).entry i (j - as.length) := by
  unfold SpMat.entry
  simp only [List.getD_eq_getElem?_getD]
  by_cases hj : j < as.length
  · rw [if_pos hj, List.getElem?_append_left hj]
  · rw [if_neg hj, List.getElem?_append_right (by omega)]

theorem extendCols_entry [CommRing R] (A B : SpMat R) (hA : A.WF) (i j : Nat) :
    (⟨A.nrows, A.ncols + B.ncols, A.cols ++ B.cols⟩ : SpMat R).entry i j
      = if j < A.ncols then A.entry i j else B.entry i (j - A.ncols) := by
  rw [entry_append_cols, hA.len]; rfl

theorem fromColVecs_fold (vs : List (SpVec R)) (offs rows : List Nat) (vals : List R) :
    vs.foldl (fun (acc : List Nat × List Nat × List R) v =>
        let rows := acc.2.1 ++ v.ents.map (·.1)
        (acc.1 ++ [rows.length], rows, acc.2.2 ++ v.ents.map (·.2))) (offs, rows, vals)
      = (offs ++ (offsetsFrom rows.length (vs.map (·.ents))).tail,
         rows ++ (vs.map (·.ents)).flatten.map (·.1), vals ++ (vs.map (·.ents)).flatten.map (·.2)) := by
  induction vs generalizing offs rows vals with
  | nil => simp [offsetsFrom]
  | cons v vs ih =>
    rw [List.foldl_cons, ih]
    simp only [List.map_cons, offsetsFrom, List.tail_cons, List.flatten_cons, List.map_append, List.length_append,
      List.length_map, List.append_assoc, List.singleton_append]
    rw [← offsetsFrom_eq_cons]

theorem fromColVecs_spec [CommRing R] [DecidableEq R] (m : Nat) (vs : List (SpVec R)) (hv : ∀ v ∈ vs, v.WF ∧ v.dim = m) :
    fromColVecs m vs = ok ⟨m, vs.length, vs.map (·.ents)⟩ := by
  unfold fromColVecs
  rw [assert_true (by rw [List.all_eq_true]; intro v hv'; simp [(hv v hv').2])]
  simp only [bind_ok]
  rw [fromColVecs_fold]
  simp only [List.nil_append, List.length_nil]
  have e : [0] ++ (offsetsFrom 0 (vs.map (·.ents))).tail = offsetsFrom 0 (vs.map (·.ents)) := by
    rw [offsetsFrom_eq_cons 0]; rfl
  rw [e, offsetsFrom_length]
  have := tryFromCsc_cols m (vs.map (·.ents))
    (by intro c hc p hp
        simp only [List.mem_map] at hc
        obtain ⟨v, hv', rfl⟩ := hc
        exact (hv v hv').2 ▸ (hv v hv').1.bound p hp)
    (by intro c hc
        simp only [List.mem_map] at hc
        obtain ⟨v, hv', rfl⟩ := hc
        exact (hv v hv').1.sorted)
  simpa using this

theorem fromColVecs_entry [CommRing R] (m : Nat) (vs : List (SpVec R)) (i j : Nat) (hj : j < vs.length) :
    (⟨m, vs.length, vs.map (·.ents)⟩ : SpMat R).entry i j = (vs[j]).entry i := by
  unfold SpMat.entry SpVec.entry
  simp [List.getD_eq_getElem?_getD, hj]

theorem fromSortedEntries_spec (d : Nat) (es : List (Nat × R))
    (hb : ∀ p ∈ es, p.1 < d) (hs : (es.map (·.1)).Pairwise (· < ·)) :
    SpVec.fromSortedEntries d es = ok ⟨d, es⟩ ∧ (⟨d, es⟩ : SpVec R).WF := by
  have hwf : (⟨d, es⟩ : SpVec R).WF := by
    refine ⟨rfl, ?_, ?_⟩
    · intro c hc p hp; simp only [SpVec.toMat, List.mem_singleton] at hc; subst hc; exact hb p hp
    · intro c hc; simp only [SpVec.toMat, List.mem_singleton] at hc; subst hc; exact hs
  refine ⟨?_, hwf⟩
  unfold SpVec.fromSortedEntries SpVec.fromRawData
  rw [assert_true (by rw [List.all_eq_true]; intro p hp; simpa using hb p hp)]
  simp only [bind_ok]
  have := tryFromCsc_cols d [es] (SpMat.WF.bound hwf) (SpMat.WF.sorted hwf)
  simp only [offsetsFrom, List.flatten_cons, List.flatten_nil, List.append_nil, List.length_cons, List.length_nil,
    Nat.zero_add] at this
  rw [List.length_map, this]
  rfl

end Yuiv.C13
