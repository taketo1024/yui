import Yuiv.Proofs.C14Gen
/-
C14 — the hand-written code model `Yuiv.C14.Ratio.*` (`Yuiv/Model/C14.lean`) IS the source text of
`/repo/yui/src/types/ratio.rs`, read over the unbounded integers.

`Yuiv.GenRatio.*` (file `Yuiv/Gen/RatioFn.lean`) is regenerated from the Rust source by `tools/rs2lean_fn.py fn:ratio`
on every `./check` run (type parameter `T := Int`; operators and trait methods of `T`: `Yuiv/Model/RustRing.lean`).
Each theorem states, for ALL arguments and WITHOUT any invariant hypothesis, that a generated definition equals the
corresponding function of the hand model through `toR : RatioS → Ratio` (`mapR` lifts it to results), including
panics (`new(_, 0)`, division by the zero ratio, …) and — for the `loop` of `Ord::cmp` — for every amount of fuel.
With `ratio_history`, `ratio_cmp_spec`, … of `Yuiv/Props/C14.lean`:
  source text ⇒ generated definition = hand model ⇒ canonical form / field operations / order of ℚ.
A semantic edit of a translated function (a dropped `reduce()`, a wrong gcd pair, swapped remainders in `cmp`, …)
changes the generated file and the theorem about it stops checking.
-/
namespace Yuiv.C14Gen
open Yuiv Res Yuiv.Rust Yuiv.GenRatio

theorem gen_new_raw_eq (n d : Int) : toR (Ratio.new_raw n d) = ⟨n, d⟩ := rfl
theorem gen_numer_eq (s : RatioS) : Ratio.numer s = (toR s).num := rfl
theorem gen_denom_eq (s : RatioS) : Ratio.denom s = (toR s).den := rfl

theorem gen_reduce_eq (s : RatioS) : mapR toR (Ratio.reduce s) = C14.Ratio.reduce (toR s) := by
  unfold Ratio.reduce C14.Ratio.reduce
  by_cases h0 : s.numer = 0
  · by_cases h1 : s.denom = 1 <;> simp [gen_simp, h0, h1]
  · by_cases hu : C14.intNormUnit s.denom = 1
    · by_cases h2 : s.denom = 1 ∨ C14.intIsUnit s.numer = true
      · simp [gen_simp, h0, hu, h2]
      · by_cases hg : C14.intGcd s.numer s.denom = 1 <;> simp [gen_simp, h0, hu, h2, hg]
    · by_cases h2 : s.denom * C14.intNormUnit s.denom = 1 ∨ C14.intIsUnit (s.numer * C14.intNormUnit s.denom) = true
      · simp [gen_simp, h0, hu, h2]
      · by_cases hg : C14.intGcd (s.numer * C14.intNormUnit s.denom) (s.denom * C14.intNormUnit s.denom) = 1 <;>
          simp [gen_simp, h0, hu, h2, hg]

theorem gen_new_eq (n d : Int) : mapR toR (Ratio.new n d) = C14.Ratio.new n d := by
  unfold Ratio.new C14.Ratio.new
  by_cases h : d = 0
  · simp [gen_simp, h]
  · have h' : (d == 0) = false := by simpa using h
    simp [gen_simp, h', bne, gen_reduce_eq]

theorem gen_is_int_eq (s : RatioS) : Ratio.is_int s = (toR s).isInt := rfl
theorem gen_is_zero_eq (s : RatioS) : Ratio.Zero.is_zero s = (toR s).isZero := rfl
theorem gen_is_one_eq (s : RatioS) : Ratio.One.is_one s = (toR s).isOne := rfl
theorem gen_zero_eq : toR Ratio.Zero.zero = C14.Ratio.zero := rfl
theorem gen_one_eq : toR Ratio.One.one = C14.Ratio.one := rfl
theorem gen_from_eq (a : Int) : toR (Ratio.From_T.from_ a) = C14.Ratio.fromInt a := rfl

theorem gen_add_assign_eq (s r : RatioS) :
    mapR toR (Ratio.AddAssign_Ratio_T.add_assign s r) = C14.Ratio.add (toR s) (toR r) := by
  unfold Ratio.AddAssign_Ratio_T.add_assign C14.Ratio.add C14.Ratio.addSub
  by_cases h1 : r.numer = 0
  · simp [gen_simp, h1]
  · by_cases h2 : s.numer = 0
    · simp [gen_simp, h1, h2, C14.Ratio.pm]
    · by_cases h3 : s.denom = r.denom
      · simp [gen_simp, h1, h2, h3, C14.Ratio.pm, gen_reduce_eq]
      · simp [gen_simp, h1, h2, h3, C14.Ratio.pm, gen_reduce_eq]


theorem gen_sub_assign_eq (s r : RatioS) :
    mapR toR (Ratio.SubAssign_Ratio_T.sub_assign s r) = C14.Ratio.sub (toR s) (toR r) := by
  unfold Ratio.SubAssign_Ratio_T.sub_assign C14.Ratio.sub C14.Ratio.addSub
  by_cases h1 : r.numer = 0
  · simp [gen_simp, h1]
  · by_cases h2 : s.numer = 0
    · simp [gen_simp, h1, h2, C14.Ratio.pm]
    · by_cases h3 : s.denom = r.denom <;> simp [gen_simp, h1, h2, h3, C14.Ratio.pm, gen_reduce_eq]

theorem gen_neg_eq (s : RatioS) : mapR toR (Ratio.Neg.neg s) = C14.Ratio.neg (toR s) := gen_new_eq _ _
theorem gen_neg_ref_eq (s : RatioS) : mapR toR (Ratio.Neg_ref.neg s) = C14.Ratio.neg (toR s) := gen_new_eq _ _

theorem gen_mul_assign_eq (s r : RatioS) :
    mapR toR (Ratio.MulAssign_Ratio_T.mul_assign s r) = C14.Ratio.mul (toR s) (toR r) := by
  unfold Ratio.MulAssign_Ratio_T.mul_assign C14.Ratio.mul
  by_cases h1 : s.numer = 0 ∨ r.numer = r.denom
  · simp [gen_simp, h1]
  · by_cases h2 : r.numer = 0
    · simp [gen_simp, h2]
    · by_cases h3 : r.denom = 1
      · simp [gen_simp, h2, h3]
      · by_cases h4 : s.denom = 1 <;> simp [gen_simp, h1, h2, h3, h4]

theorem gen_inv_eq (s : RatioS) :
    mapR (Option.map toR) (Ratio.Ring.inv s) = C14.Ratio.inv (toR s) := by
  unfold Ratio.Ring.inv C14.Ratio.inv
  by_cases h : s.numer = 0
  · simp [gen_simp, h]
  · cases hx : Ratio.new s.denom s.numer <;> simp [gen_simp, h, hx, ← gen_new_eq]

theorem gen_is_unit_eq (s : RatioS) : Ratio.Ring.is_unit s = (toR s).isUnit := rfl

theorem gen_div_assign_eq (s r : RatioS) :
    mapR toR (Ratio.DivAssign_Ratio_T.div_assign s r) = C14.Ratio.div (toR s) (toR r) := by
  unfold Ratio.DivAssign_Ratio_T.div_assign C14.Ratio.div
  by_cases h : r.numer = 0
  · simp [gen_simp, h]
  · rw [← gen_inv_eq r]
    have h' : (r.numer == 0) = false := by simpa using h
    cases hx : Ratio.Ring.inv r with
    | ok o => cases o <;> simp [gen_simp, h', gen_mul_assign_eq]
    | panic => simp [gen_simp, h']
    | err => simp [gen_simp, h']

/-- the hand model has no `normalizing_unit` for `Ratio`; it is `one` for zero and `inv().unwrap()` otherwise -/
theorem gen_normalizing_unit_eq (s : RatioS) :
    mapR toR (Ratio.Ring.normalizing_unit s) =
      if (toR s).isZero then ok C14.Ratio.one else (C14.Ratio.inv (toR s) >>= fun o => match o with
        | some i => ok i
        | none => .panic) := by
  unfold Ratio.Ring.normalizing_unit
  by_cases h : s.numer = 0
  · simp [gen_simp, h]
  · rw [← gen_inv_eq s]
    cases hx : Ratio.Ring.inv s with
    | ok o => cases o <;> simp [gen_simp, h]
    | panic => simp [gen_simp, h]
    | err => simp [gen_simp, h]

theorem gen_div_rem_floor_eq (a b : Int) : Ratio.Ord.cmp.div_rem_floor a b = C14.Ratio.divRemFloor a b := by
  unfold Ratio.Ord.cmp.div_rem_floor C14.Ratio.divRemFloor
  by_cases h : b = 0
  · simp [gen_simp, h, C14.tdivR, C14.tmodR]
  · simp [gen_simp, h, C14.tdivR, C14.tmodR, RInt.is_negative]
    split <;> rfl

/-- the generated `loop` is the model's `cmpLoop`, for EVERY amount of fuel (so also when it runs out) -/
theorem gen_cmp_loop_eq (fuel : Nat) (a b c d : Int) (rev : Bool) :
    Ratio.Ord.cmp_loop1 fuel a b c d rev = C14.Ratio.cmpLoop fuel a b c d rev := by
  induction fuel generalizing a b c d rev with
  | zero => rfl
  | succ n ih =>
    unfold Ratio.Ord.cmp_loop1 C14.Ratio.cmpLoop
    simp only [gen_div_rem_floor_eq]
    refine bind_congr (fun p1 => ?_)
    obtain ⟨q1, r1⟩ := p1
    refine bind_congr (fun p2 => ?_)
    obtain ⟨q2, r2⟩ := p2
    simp only [compare_eq_icmp, ih]
    have z1 : (r1 == 0) = decide (r1 = 0) := rfl
    have z2 : (r2 == 0) = decide (r2 = 0) := rfl
    rw [z1, z2]
    cases ho : C14.icmp q1 q2 <;> cases rev <;>
      by_cases h1 : r1 = 0 <;> by_cases h2 : r2 = 0 <;>
      simp [h1, h2, RInt.is_zero, C14.Ratio.fin]

theorem gen_cmp_fuel_eq (fuel : Nat) (x y : RatioS) :
    Ratio.Ord.cmp fuel x y = C14.Ratio.cmpLoop fuel x.numer x.denom y.numer y.denom false := by
  unfold Ratio.Ord.cmp
  exact gen_cmp_loop_eq _ _ _ _ _ _

/-- with the model's fuel the generated `cmp` is the model's `cmp` -/
theorem gen_cmp_eq (x y : RatioS) :
    Ratio.Ord.cmp ((toR x).den.natAbs + 1) x y = C14.Ratio.cmp (toR x) (toR y) := by
  rw [gen_cmp_fuel_eq]; rfl

theorem gen_partial_cmp_eq (fuel : Nat) (x y : RatioS) :
    Ratio.PartialOrd.partial_cmp fuel x y = mapR some (C14.Ratio.cmpLoop fuel x.numer x.denom y.numer y.denom false) := by
  unfold Ratio.PartialOrd.partial_cmp
  rw [gen_cmp_fuel_eq]
  cases C14.Ratio.cmpLoop fuel x.numer x.denom y.numer y.denom false <;> rfl

/-! ### functions without counterpart in the hand model -/

theorem gen_from_pair_eq (p : Int × Int) : mapR toR (Ratio.From_T_T.from_ p) = C14.Ratio.new p.1 p.2 := by
  unfold Ratio.From_T_T.from_
  exact gen_new_eq p.1 p.2
theorem gen_default_eq : toR Ratio.Default.default = C14.Ratio.fromInt 0 := rfl
theorem gen_abs_eq (s : RatioS) :
    mapR toR (Ratio.abs s) = if (toR s).num < 0 then C14.Ratio.neg (toR s) else ok (toR s) := by
  unfold Ratio.abs
  by_cases h : s.numer < 0 <;> simp [gen_simp, h, RInt.is_negative, gen_neg_ref_eq]
theorem gen_rem_eq (s r : RatioS) :
    mapR toR (Ratio.Rem_Ratio_T_ref.rem s r) = if (toR r).isZero then .panic else ok C14.Ratio.zero := by
  unfold Ratio.Rem_Ratio_T_ref.rem
  by_cases h : r.numer = 0
  · simp [gen_simp, h]
  · have h' : (r.numer == 0) = false := by simpa using h
    simp [gen_simp, h']

/-! ### the statements are not vacuous -/

example : mapR toR (Ratio.new 6 (-8)) = ok ⟨-3, 4⟩ := by rw [gen_new_eq]; decide
example : mapR toR (Ratio.new 1 0) = .panic := by rw [gen_new_eq]; decide
example : mapR toR (Ratio.AddAssign_Ratio_T.add_assign ⟨1, 6⟩ ⟨1, 10⟩) = ok ⟨4, 15⟩ := by
  rw [gen_add_assign_eq]; decide
example : Ratio.Ord.cmp 4 ⟨1, 3⟩ ⟨2, 5⟩ = ok .lt := by rw [gen_cmp_fuel_eq]; decide

end Yuiv.C14Gen
