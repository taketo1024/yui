import Yuiv.Gen.MiscFn
import Yuiv.Proofs.C06
/-
`Yuiv.GenMisc.*` is GENERATED from `/repo/yui-khovanov/src/misc.rs` (+ the closing `let`s of kh/ss.rs, khi/ssi.rs) by
`tools/rs2lean_fn.py fn:misc`.  The generated `div` counts in an `i32` (an `Int` with overflow check) and takes its fuel
as an argument; the hand model `C06.div` counts in `Nat` and fixes the fuel `|a| + 1`.
-/
namespace Yuiv.C06Gen
open Yuiv Res Yuiv.Rust Yuiv.GenMisc

def mapR {α β} (f : α → β) : Res α → Res β
  | .ok a => .ok (f a)
  | .panic => .panic
  | .err => .err

theorem mapR_ok {α β} (f : α → β) (a : α) : mapR f (ok a) = ok (f a) := rfl

theorem div_loop_eq (n : Nat) (c a : Int) (k : Nat) (hc : c ≠ 0) (hk : (k : Int) + n ≤ I32.MAX) :
    (misc.div_loop1 n c a (k : Int) >>= fun r => ok r.2) =
      (match C06.divLoop n a c k with
       | some k' => ok ((k' : Nat) : Int)
       | none => .err) := by
  induction n generalizing a k with
  | zero => rfl
  | succ n ih =>
    unfold misc.div_loop1 C06.divLoop
    have hr : RInt.rem a c = ok (a.tmod c) := by simp [RInt.rem, hc]
    have hd : RInt.div a c = ok (a.tdiv c) := by simp [RInt.div, hc]
    have hadd : I32.add (k : Int) 1 = ok (((k + 1 : Nat)) : Int) := by
      have h1 : I32.MIN ≤ (k : Int) + 1 := by unfold I32.MIN; omega
      have h2 : (k : Int) + 1 ≤ I32.MAX := by push_cast at hk ⊢; omega
      simp [I32.add, I32.chk, h1, h2]
    by_cases h : a.tmod c = 0
    · have := ih (a.tdiv c) (k + 1) (by push_cast at hk ⊢; omega)
      simp only [hr, bind_ok, h, RInt.is_zero, decide_true, if_true, hd, hadd, beq_self_eq_true]
      exact this
    · simp [hr, h, RInt.is_zero]

theorem val_unique (a c : Int) (i j : Nat) (hi : c ^ i ∣ a) (hi' : ¬ c ^ (i + 1) ∣ a)
    (hj : c ^ j ∣ a) (hj' : ¬ c ^ (j + 1) ∣ a) : i = j := by
  rcases Nat.lt_trichotomy i j with h | h | h
  · exact absurd (Dvd.dvd.trans (pow_dvd_pow c (by omega)) hj) hi'
  · exact h
  · exact absurd (Dvd.dvd.trans (pow_dvd_pow c (by omega)) hi) hj'

theorem divLoop_fuel (a c : Int) (hc : c ≠ 0) (ha : a ≠ 0) (f g : Nat) (hf : a.natAbs < f) (hg : a.natAbs < g) :
    C06.divLoop f a c 0 = C06.divLoop g a c 0 := by
  by_cases h1 : c.natAbs = 1
  · rw [C06.divLoop_unit f a c 0 h1, C06.divLoop_unit g a c 0 h1]
  · have h2 : 2 ≤ c.natAbs := by
      have : c.natAbs ≠ 0 := by simpa using hc
      omega
    obtain ⟨i, e1, d1, n1⟩ := C06.divLoop_spec f a c 0 ha h2 hf
    obtain ⟨j, e2, d2, n2⟩ := C06.divLoop_spec g a c 0 ha h2 hg
    rw [e1, e2, val_unique a c i j d1 n1 d2 n2]

theorem div_eq (fuel : Nat) (a c : Int) (hf : a.natAbs < fuel) (hm : (fuel : Int) ≤ I32.MAX) :
    misc.div fuel a c = mapR (Option.map fun k : Nat => (k : Int)) (C06.div a c) := by
  unfold misc.div C06.div
  by_cases ha : a = 0
  · simp [ha, RInt.is_zero, mapR]
  · have ha' : (a == 0) = false := by simpa using ha
    simp only [RInt.is_zero, ha, decide_false, ha', Bool.false_eq_true, if_false]
    by_cases hc : c = 0
    · subst hc
      obtain ⟨n, rfl⟩ : ∃ n, fuel = n + 1 := ⟨fuel - 1, by omega⟩
      simp [misc.div_loop1, RInt.rem, mapR]
    · have hc' : (c == 0) = false := by simpa using hc
      simp only [hc', Bool.false_eq_true, if_false]
      have hl := div_loop_eq fuel c a 0 hc (by simpa using hm)
      rw [divLoop_fuel a c hc ha fuel (a.natAbs + 1) hf (by omega)] at hl
      rw [Nat.cast_zero] at hl
      cases hg : misc.div_loop1 fuel c a 0 <;> cases hm' : C06.divLoop (a.natAbs + 1) a c 0 <;>
        simp [hg, hm', mapR] at hl ⊢
      exact hl

/-- minimum of an optional accumulator with the minimum of a list -/
def comb (m : Option Int) (ks : List Int) : Option Int :=
  match Iter.min ks with
  | none => m
  | some x => match m with
    | none => some x
    | some m => some (if m ≤ x then m else x)

theorem comb_none (ks : List Int) : comb none ks = Iter.min ks := by
  unfold comb; cases Iter.min ks <;> rfl

theorem comb_cons (m : Option Int) (k : Int) (ks : List Int) :
    comb m (k :: ks) = comb (match m with | none => some k | some m => some (if m ≤ k then m else k)) ks := by
  unfold comb
  simp only [Iter.min]
  cases hk : Iter.min ks <;> cases m <;> simp
  all_goals (repeat' split) <;> omega

/-- one round of `div_vec` on the hand model: the minimum so far with the `c`-valuation of `a` (`none` for `a = 0`);
a panic or fuel exhaustion stays -/
def step (c : Int) (acc : Res (Option Nat)) (a : Int) : Res (Option Nat) :=
  match acc, C06.div a c with
  | .ok m, .ok (some k) => .ok (match m with | none => some k | some m => some (min m k))
  | .ok m, .ok none => .ok m
  | .ok _, .panic => .panic
  | .ok _, .err => .err
  | e, _ => e

theorem foldl_panic (c : Int) (l : List Int) : l.foldl (step c) .panic = .panic := by
  induction l with
  | nil => rfl
  | cons x xs ih => simpa [List.foldl, step] using ih
theorem foldl_err (c : Int) (l : List Int) : l.foldl (step c) .err = .err := by
  induction l with
  | nil => rfl
  | cons x xs ih => simpa [List.foldl, step] using ih

theorem fold_eq (fuel : Nat) (c : Int) (hm : (fuel : Int) ≤ I32.MAX) :
    ∀ (l : List (Nat × Int)) (m : Option Nat), (∀ x ∈ l, x.2.natAbs < fuel) →
      (Iter.filterMapM (misc.div_vec_closure1 fuel c) l >>= fun ks => ok (comb (m.map fun k : Nat => (k : Int)) ks)) =
        mapR (Option.map fun k : Nat => (k : Int)) ((l.map Prod.snd).foldl (step c) (.ok m)) := by
  intro l
  induction l with
  | nil => intro m _; simp [Iter.filterMapM, comb, Iter.min, mapR]
  | cons x xs ih =>
    intro m hx
    obtain ⟨i, a⟩ := x
    have ha : a.natAbs < fuel := hx (i, a) (by simp)
    have hxs : ∀ y ∈ xs, y.2.natAbs < fuel := fun y hy => hx y (by simp [hy])
    have hg : misc.div_vec_closure1 fuel c (i, a) = mapR (Option.map fun k : Nat => (k : Int)) (C06.div a c) := by
      unfold misc.div_vec_closure1; exact div_eq fuel a c ha hm
    simp only [Iter.filterMapM, hg, List.map_cons, List.foldl_cons]
    cases hd : C06.div a c with
    | ok o =>
      cases o with
      | none =>
        have : step c (.ok m) a = .ok m := by simp [step, hd]
        rw [this, ← ih m hxs]
        cases Iter.filterMapM (misc.div_vec_closure1 fuel c) xs <;> simp [mapR]
      | some k =>
        have : step c (.ok m) a = .ok (match m with | none => some k | some m => some (min m k)) := by
          simp [step, hd]
        rw [this, ← ih _ hxs]
        cases hys : Iter.filterMapM (misc.div_vec_closure1 fuel c) xs with
        | ok ys =>
          simp only [mapR, Option.map_some, bind_ok, comb_cons]
          congr 2
          cases m with
          | none => rfl
          | some m' =>
            simp only [Option.map_some]
            congr 1
            split <;> omega
        | panic => simp [mapR]
        | err => simp [mapR]
    | panic =>
      have : step c (.ok m) a = .panic := by simp [step, hd]
      simp [this, foldl_panic, mapR]
    | err =>
      have : step c (.ok m) a = .err := by simp [step, hd]
      simp [this, foldl_err, mapR]

end Yuiv.C06Gen
