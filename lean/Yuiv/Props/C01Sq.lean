import Yuiv.Proofs.C01SqFaceGeom
import Yuiv.Proofs.C01SqEx
import Yuiv.Proofs.C01SqReduced
import Yuiv.Proofs.C01SqDecide
/-
C01Sq — THE REFERENCE CUBE IS A CHAIN COMPLEX: `Cube.d ∘ Cube.d = 0` for `KhRef.mkCube l p`, all Frobenius parameters
`(h, t)`.

STATEMENT (`khref_d_squared_zero`).  For every diagram `l` with
  * `validK l`  (decidable: four slots per crossing, every edge label in exactly two slots),
  * `(edgeLabels l).size ≤ 64`  (the reference's `setBit` works on 64-bit masks),
  * `cubeOK (mkCube l p)`  (decidable: every edge of the cube is one merge or one split — exactly the test `Cube.d`
    performs; it does NOT follow from `validK`: the valid but non-planar code `X[1,2,1,2]` has a 1 → 1 edge, see the
    `example` at the end),
every `(h, t)`, UNREDUCED theory, and every generator `g` of a state `< 2^n`: `d g` is defined, `d` is defined on every
generator of `d g`, and the driver's evaluation `dOfChain` of `d` on the chain `d g` (coefficients collected in a hash
map, zeros dropped) returns the zero chain.  REDUCED theory: `khref_d_squared_zero_reduced` for `t = 0` (for `t ≠ 0`
the span of the generators with base circle labelled X is not `d`-invariant: `X·X = hX + t`).

PROOF.  (1) `edge_geometry` / `edge_merge_or_split`: for a valid diagram, flipping one crossing either merges two
classes of the arc relation, or splits one, or (non-planar codes only) leaves the relation unchanged; the slots of the
crossing are the same in all states.  (2) Faces: the unsigned edge maps depend only on the circle NAMES that are
gone/born; a face is classified by how the two flips act on the circles — disjoint (`square_disjoint`), three circles
merged to one (`square_merge_merge`, associativity), one split into three (`square_split_split`, coassociativity),
merge/split sharing a circle (`square_merge_split`, the Frobenius law), split then merge (`square_genus`), same
intermediate circles (`square_same`) — `face_commutes_names` shows that every face of a valid diagram is of one of
these types (reasoning on circle names with the laws of one merge, `Proofs/C01SqFaceGeom`).  (3) `edgeSign_anticomm`
(Props/C01) turns commuting faces into cancelling pairs; the double sum over the edges is antisymmetric
(`d_squared_zero_of_faces`).

DECIDABLE CHECK.  `square_commutes_decidable`: an executable test `goodFace` on the four circle lists of a face whose
truth implies that the face commutes; `d_squared_zero_of_goodCube`: if all faces pass, `d ∘ d = 0` — no validity or
planarity assumption, so the per-instance recomputation of `d ∘ d` can be replaced by it.  For valid diagrams it is
not needed: `validK`, the label count and `cubeOK` are themselves cheap decidable checks.
-/
namespace Yuiv.C01Sq
open Yuiv Yuiv.KhRef Yuiv.C04Inv Yuiv.C06Cycle
open Yuiv.C02Mirror (Circ Pair edgeOK cubeOK)

/-- the geometry of one cube edge of a valid diagram, with slots `p, q, r, u` of the crossing that do not depend on the
state: `p—q`, `r—u` are its arcs before, `p—u`, `q—r` after the flip, and the arc relation after is the relation before
with the classes of `p`, `r` merged (M), or the other way round (S), or both relations coincide (E) -/
theorem edge_geometry (l : Link) (hv : validK l = true) (k : Nat) (hk : k < crossingNum l) :
    ∃ p q r u, ∀ t, t.testBit k = false →
      EG (edgeLabels l) (statePairs l t) (statePairs l (t ||| 1 <<< k)) p q r u := by
  obtain ⟨_, _, _, p, q, r, u, _, g⟩ := flip_geom l hv k hk
  exact ⟨p, q, r, u, g⟩

/-- an edge whose circle lists differ by a merge or a split (`edgeOK`) IS the merge of the circles of `p` and `r`
into the circle of `p`, in one of the two directions, on circle names -/
theorem edge_merge_or_split {L : Array Nat} {P P' : List (Nat × Nat)} {cs cs' : Circ} {p q r u : Nat}
    (g : EG L P P' p q r u) (h : CirclesSpec L P cs) (h' : CirclesSpec L P' cs') (hok : edgeOK cs cs' = true) :
    Mrg L P P' cs cs' p r ∨ Mrg L P' P cs' cs p r :=
  edge_cases g h h' hok

/-- the two flips act on different circles (all four type combinations) -/
theorem square_disjoint (h t : Int) (cs00 cs10 cs01 cs11 : Circ) (ea eb : Edge)
    (ha0 : IsEdge cs00 cs10 ea) (hb0 : IsEdge cs00 cs01 eb) (hb1 : IsEdge cs10 cs11 eb) (ha1 : IsEdge cs01 cs11 ea)
    (f f'' : Name → Bool) :
    pathF h t cs10 cs11 ea eb f f'' = pathF h t cs01 cs11 eb ea f f'' :=
  face_disjoint h t cs00 cs10 cs01 cs11 ea eb ha0 hb0 hb1 ha1 f f''

/-- merge/merge: three circles become one (associativity and commutativity of the product) -/
theorem square_merge_merge (h t : Int) (cs00 cs10 cs01 cs11 : Circ) (A B C P Q R : Name)
    (ha0 : MergeRel cs00 cs10 A B P) (hb0 : MergeRel cs00 cs01 B C Q)
    (hb1 : MergeRel cs10 cs11 P C R) (ha1 : MergeRel cs01 cs11 A Q R) (f f'' : Name → Bool) :
    pathF h t cs10 cs11 (.merge A B P) (.merge P C R) f f'' = pathF h t cs01 cs11 (.merge B C Q) (.merge A Q R) f f'' :=
  face_31 h t cs00 cs10 cs01 cs11 A B C P Q R ha0 hb0 hb1 ha1 f f''

/-- split/split: one circle becomes three (coassociativity) -/
theorem square_split_split (h t : Int) (cs00 cs10 cs01 cs11 : Circ) (R P C A Q B : Name)
    (ha0 : IsEdge cs00 cs10 (.split R P C)) (hb0 : IsEdge cs00 cs01 (.split R A Q))
    (hb1 : IsEdge cs10 cs11 (.split P A B)) (ha1 : IsEdge cs01 cs11 (.split Q B C)) (f f'' : Name → Bool) :
    pathF h t cs10 cs11 (.split R P C) (.split P A B) f f'' = pathF h t cs01 cs11 (.split R A Q) (.split Q B C) f f'' :=
  face_13 h t cs00 cs10 cs01 cs11 R P C A Q B ha0 hb0 hb1 ha1 f f''

/-- merge/split sharing a circle (the Frobenius law `Δ(x·y) = Σ (x'·y) ⊗ x''`) -/
theorem square_merge_split (h t : Int) (cs00 cs10 cs01 cs11 : Circ) (C1 C2 P D1 D2 F : Name)
    (ha0 : IsEdge cs00 cs10 (.merge C1 C2 P)) (hb0 : IsEdge cs00 cs01 (.split C1 D1 D2))
    (hb1 : IsEdge cs10 cs11 (.split P F D2)) (ha1 : IsEdge cs01 cs11 (.merge D1 C2 F)) (f f'' : Name → Bool) :
    pathF h t cs10 cs11 (.merge C1 C2 P) (.split P F D2) f f'' =
      pathF h t cs01 cs11 (.split C1 D1 D2) (.merge D1 C2 F) f f'' :=
  face_frob h t cs00 cs10 cs01 cs11 C1 C2 P D1 D2 F ha0 hb0 hb1 ha1 f f''

/-- split then merge, two different splittings of one circle (both paths are `m ∘ Δ`; does not occur for planar
diagrams but does for codes of diagrams on surfaces, all of whose edges are merges/splits) -/
theorem square_genus (h t : Int) (cs00 cs10 cs01 cs11 : Circ) (R P1 P2 Q1 Q2 R' : Name)
    (ha0 : IsEdge cs00 cs10 (.split R P1 P2)) (hb0 : IsEdge cs00 cs01 (.split R Q1 Q2))
    (hb1 : IsEdge cs10 cs11 (.merge P1 P2 R')) (ha1 : IsEdge cs01 cs11 (.merge Q1 Q2 R')) (f f'' : Name → Bool) :
    pathF h t cs10 cs11 (.split R P1 P2) (.merge P1 P2 R') f f'' =
      pathF h t cs01 cs11 (.split R Q1 Q2) (.merge Q1 Q2 R') f f'' :=
  face_11 h t cs00 cs10 cs01 cs11 R P1 P2 Q1 Q2 R' ha0 hb0 hb1 ha1 f f''

/-- the two intermediate states have the same circles (e.g. both flips merge the same two circles) -/
theorem square_same (h t : Int) (cs10 cs01 cs11 : Circ) (e1 e2 : Edge) (hmem : ∀ c, c ∈ cs10 ↔ c ∈ cs01)
    (f f'' : Name → Bool) :
    pathF h t cs10 cs11 e1 e2 f f'' = pathF h t cs01 cs11 e1 e2 f f'' :=
  face_same h t cs10 cs01 cs11 e1 e2 hmem f f''

/-- the mask-level path coefficient of the reference is the name-level path functional, for ANY descriptors of the
two edges -/
theorem pathSum_is_pathF {cs0 cs1 cs2 : Circ} (hP01 : Pair cs0 cs1) (hP12 : Pair cs1 cs2) (h t : Int)
    (e1 e2 : Edge) (h1 : IsEdge cs0 cs1 e1) (h2 : IsEdge cs1 cs2 e2) (m m'' : Nat) (hm'' : m'' < 2 ^ cs2.size) :
    pathSum h t cs0 cs1 cs2 m m'' = pathF h t cs1 cs2 e1 e2 (val cs0 m) (val cs2 m'') :=
  pathSum_eq_pathF hP01 hP12 h t e1 e2 h1 h2 m m'' hm''

/-- EVERY FACE with the geometry of a valid diagram (`Sq`: the four circle lists are the classes of four arc relations
related by the edge geometry `EG` of two crossings, and the four edges are merges/splits) COMMUTES -/
theorem face_commutes_names {L : Array Nat} {P00 P10 P01 P11 : List (Nat × Nat)} {cs00 cs10 cs01 cs11 : Circ}
    {a1 a2 a3 a4 b1 b2 b3 b4 : Nat} (q : Sq L P00 P10 P01 P11 cs00 cs10 cs01 cs11 a1 a2 a3 a4 b1 b2 b3 b4) :
    Face cs00 cs10 cs01 cs11 :=
  face_of_sq q

/-- all faces of the reference cube of a valid diagram commute (unsigned edge maps, all `h`, `t`, reduced or not) -/
theorem khref_faces_commute (l : Link) (hv : validK l = true) (hL : (edgeLabels l).size ≤ 64) (p : Params)
    (hok : cubeOK (mkCube l p)) : FaceComm (mkCube l p) p :=
  faceComm_mkCube l hv hL p hok

/-- ASSEMBLY, for any cube (no diagram): if every edge is a merge/split and every face commutes then `d ∘ d = 0`
(the signs of the two paths around a face are opposite) -/
theorem d_squared_zero_of_face_commutation (c : Cube) (p : Params) (hb : c.base = none) (hok : cubeOK c)
    (hF : FaceComm c p) (g : Gen) (hs : g.s < 2 ^ c.n) :
    ∃ ts, c.d p g = some ts ∧ Yuiv.Drv.C06.dOfChain c p ts.toList = some [] :=
  d_squared_zero_of_faces c p hb hok hF g hs

/-- THE REFERENCE CUBE IS A COMPLEX (unreduced theory, all `h`, `t`) -/
theorem khref_d_squared_zero (l : Link) (hv : validK l = true) (hL : (edgeLabels l).size ≤ 64) (p : Params)
    (hr : p.reduced = false) (hok : cubeOK (mkCube l p)) (g : Gen) (hs : g.s < 2 ^ crossingNum l) :
    ∃ ts, (mkCube l p).d p g = some ts ∧ Yuiv.Drv.C06.dOfChain (mkCube l p) p ts.toList = some [] :=
  d_squared_zero_of_faces (mkCube l p) p (KhRef.mkCube_base_of_unreduced l p hr) hok (faceComm_mkCube l hv hL p hok) g hs

/-- in coefficients: `d` is defined on `g` and on every generator of `d g`, and every generator `y` has total
coefficient `0` in `d (d g)` -/
theorem khref_d_squared_zero_coefficients (l : Link) (hv : validK l = true) (hL : (edgeLabels l).size ≤ 64)
    (p : Params) (hr : p.reduced = false) (hok : cubeOK (mkCube l p)) (g : Gen) (hs : g.s < 2 ^ crossingNum l) :
    ∃ ts, (mkCube l p).d p g = some ts ∧ (∀ ga ∈ ts.toList, ∃ ts', (mkCube l p).d p ga.1 = some ts') ∧
      ∀ y, chainSum (fun g' => (((mkCube l p).d p g').getD #[]).toList) ts.toList y = 0 := by
  obtain ⟨ts, h1, h2⟩ := khref_d_squared_zero l hv hL p hr hok g hs
  exact ⟨ts, h1, (dOfChain_nil_iff _ _ _).1 h2⟩

/-- REDUCED theory, `t = 0` (any `h`): with `t = 0` the generators whose base circle is labelled `X` span a subcomplex
(`X·1 = X`, `X·X = hX`, `ΔX = X⊗X`), the base-point filter of `Cube.d` is the identity on it, and `d ∘ d = 0` follows
from the unreduced statement.  For `t ≠ 0` it is false, see `Ex.reduced_t1_not_complex` below. -/
theorem khref_d_squared_zero_reduced (l : Link) (hv : validK l = true) (hL : (edgeLabels l).size ≤ 64)
    (p : Params) (hr : p.reduced = true) (ht : p.t = 0) (hok : cubeOK (mkCube l p))
    (g : Gen) (hs : g.s < 2 ^ crossingNum l) (hg : baseKeep (mkCube l p) g = true) :
    ∃ ts, (mkCube l p).d p g = some ts ∧ Yuiv.Drv.C06.dOfChain (mkCube l p) p ts.toList = some [] := by
  have _ := hr
  cases hb : (mkCube l p).base with
  | none => exact d_squared_zero_of_faces (mkCube l p) p hb hok (faceComm_mkCube l hv hL p hok) g hs
  | some e =>
    exact d_squared_zero_reduced_of (redHyp_mkCube l hv hL p e hb) p ht hok (faceComm_mkCube l hv hL p hok) g hs hg

/-- THE DECIDABLE SQUARE CHECK: `goodFace` (executable; compares the gone/born circle names of the four edges with the
six commuting patterns, up to order) implies that the face commutes, for all `h`, `t` and all labellings — for ANY four
duplicate-free circle lists of size ≤ 64, no diagram needed.  Soundness only: that every face of a valid diagram
passes is `face_commutes_names` in spirit but is not proved for this particular executable test. -/
theorem square_commutes_decidable {cs00 cs10 cs01 cs11 : Circ} (p0010 : Pair cs00 cs10) (p1011 : Pair cs10 cs11)
    (p0001 : Pair cs00 cs01) (p0111 : Pair cs01 cs11) (h : goodFace cs00 cs10 cs01 cs11 = true)
    (hh t : Int) (m m'' : Nat) :
    pathSum hh t cs00 cs10 cs11 m m'' = pathSum hh t cs00 cs01 cs11 m m'' :=
  Yuiv.C01Sq.square_commutes_decidable' p0010 p1011 p0001 p0111 h hh t m m''

/-- if all faces of a cube pass the check (and all edges are merges/splits), `d ∘ d = 0`: a verified replacement of
the per-instance recomputation of `d ∘ d` -/
theorem d_squared_zero_of_goodCube (c : Cube) (p : Params) (hb : c.base = none) (hok : cubeOK c)
    (hP : ∀ s s', s < 2 ^ c.n → s' < 2 ^ c.n → Pair c.circ[s]! c.circ[s']!) (h : goodCube c = true)
    (g : Gen) (hs : g.s < 2 ^ c.n) :
    ∃ ts, c.d p g = some ts ∧ Yuiv.Drv.C06.dOfChain c p ts.toList = some [] :=
  d_squared_zero_of_faces c p hb hok (faceComm_of_goodCube c p hP h) g hs

open Yuiv.C02Mirror.Ex Yuiv.C01Sq.Ex in
/-- trefoil, Hopf link, figure-eight knot and the kink satisfy the hypotheses -/
example : (validK trefoil = true ∧ (edgeLabels trefoil).size ≤ 64 ∧ cubeOK (mkCube trefoil p0)) ∧
    (validK hopf = true ∧ (edgeLabels hopf).size ≤ 64 ∧ cubeOK (mkCube hopf p0)) ∧
    (validK fig8 = true ∧ (edgeLabels fig8).size ≤ 64 ∧ cubeOK (mkCube fig8 p0)) ∧
    (validK kink = true ∧ cubeOK (mkCube kink p0)) :=
  ⟨⟨valid_examples.1, trefoil_labels, trefoil_ok⟩, ⟨valid_examples.2.1, hopf_labels, hopf_ok⟩,
    ⟨valid_examples.2.2.1, fig8_ok.2, fig8_ok.1⟩, ⟨valid_examples.2.2.2.1, kink_ok.1⟩⟩

open Yuiv.C02Mirror.Ex Yuiv.C01Sq.Ex in
/-- the instance at the figure-eight knot, generator `1⊗1⊗1` of the state `0` (three circles, four edges leave it) -/
example : ∃ ts, (mkCube fig8 p0).d p0 ⟨0, 0⟩ = some ts ∧
    Yuiv.Drv.C06.dOfChain (mkCube fig8 p0) p0 ts.toList = some [] :=
  khref_d_squared_zero fig8 valid_examples.2.2.1 fig8_ok.2 p0 rfl fig8_ok.1 ⟨0, 0⟩ (by decide)

open Yuiv.C02Mirror.Ex Yuiv.C01Sq.Ex in
/-- … and `d` of that generator is not zero: it has terms in all four neighbouring states -/
example : (((mkCube fig8 p0).d p0 ⟨0, 0⟩).getD #[]).size = 4 ∧
    (circles fig8 (edgeLabels fig8) 0).size = 3 := by
  rw [mkCube_fig8, edgeLabels_fig8]
  decide +kernel

open Yuiv.C02Mirror.Ex Yuiv.C01Sq.Ex in
/-- `cubeOK` is needed and does not follow from `validK`: the non-planar code `X[1,2,1,2]` is valid, but its only
edge is a 1 → 1 edge and `d` is undefined -/
example : validK virt = true ∧ ¬ cubeOK (mkCube virt p0) ∧ (mkCube virt p0).d p0 ⟨0, 0⟩ = none :=
  ⟨valid_examples.2.2.2.2, virt_not_ok.1, virt_not_ok.2⟩

open Yuiv.C02Mirror.Ex Yuiv.C01Sq.Ex in
/-- the executable check passes on all faces of the cubes of trefoil and figure-eight knot -/
example : goodCube (mkCube trefoil p0) = true ∧ goodCube (mkCube fig8 p0) = true := by
  rw [mkCube_trefoil, mkCube_fig8]
  exact ⟨goodCube_of_half _ (by decide +kernel), goodCube_of_half _ (by decide +kernel)⟩

/-- … and rejects the set-theoretically consistent but non-commuting face `A|B|C → AB|C, A|BC → A|B|C` -/
example : goodFace #[#[1], #[2], #[3]] #[#[1, 2], #[3]] #[#[1], #[2, 3]] #[#[1], #[2], #[3]] = false ∧
    goodFace #[#[1], #[2], #[3]] #[#[1, 2], #[3]] #[#[1], #[2, 3]] #[#[1, 2, 3]] = true := by
  decide +kernel

open Yuiv.C02Mirror.Ex Yuiv.C01Sq.Ex in
/-- `t = 0` is needed in the reduced theory: trefoil, `(h, t) = (0, 1)`, generator `X⊗X⊗X` of the state `0` (it lies in
the reduced complex); the generator `⟨0b110, X⊗1⟩` has coefficient `1` in `d (d g)` -/
example : baseKeep (mkCube trefoil pT1) ⟨0, 7⟩ = true ∧
    chainSum (fun g' => (((mkCube trefoil pT1).d pT1 g').getD #[]).toList)
      (((mkCube trefoil pT1).d pT1 ⟨0, 7⟩).getD #[]).toList ⟨6, 1⟩ = 1 :=
  reduced_t1_not_complex

end Yuiv.C01Sq
