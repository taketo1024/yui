import Yuiv.Proofs.C03Uct
import Mathlib.LinearAlgebra.FreeModule.PID
import Mathlib.LinearAlgebra.Matrix.Basis
import Mathlib.LinearAlgebra.Matrix.ToLin
/-
C03Uct, part 4 — every integer matrix HAS a diagonal form: `∀ A, ∃ d, EquivDiag A d`.
Derived from Mathlib's Smith normal form for submodules of free modules over a PID
(`Submodule.exists_smith_normal_form_of_le`) applied to the image of `A`, plus a splitting of the domain as
`im A ⊕ ker A` (the image is free, so `A` has a section).  With this the hypotheses `EquivDiag A dA`,
`EquivDiag B dB` of the counting theorems are satisfiable for EVERY complex.
-/
namespace Yuiv.C03Uct
open Matrix Module

section splitting
variable {R M N : Type*} [Ring R] [AddCommGroup M] [AddCommGroup N] [Module R M] [Module R N]

theorem split_bijective (f : M →ₗ[R] N) (s : LinearMap.range f →ₗ[R] M) (hs : ∀ y, f (s y) = y) :
    Function.Bijective (s.coprod (LinearMap.ker f).subtype) := by
  constructor
  · rw [← LinearMap.ker_eq_bot, LinearMap.ker_eq_bot']
    rintro ⟨y, z⟩ h
    simp only [LinearMap.coprod_apply, Submodule.subtype_apply] at h
    have h1 : f (s y + (z : M)) = 0 := by rw [h, LinearMap.map_zero]
    have hz : f (z : M) = 0 := z.2
    rw [LinearMap.map_add, hs, hz, add_zero] at h1
    have hy : y = 0 := Subtype.ext h1
    subst hy
    rw [LinearMap.map_zero, zero_add] at h
    have hz0 : z = 0 := Subtype.ext h
    rw [hz0]; rfl
  · intro x
    have hk : x - s (f.rangeRestrict x) ∈ LinearMap.ker f := by
      rw [LinearMap.mem_ker, LinearMap.map_sub, hs]; simp
    refine ⟨(f.rangeRestrict x, ⟨_, hk⟩), ?_⟩
    simp

/-- a linear map with a section on its range splits the domain as `range × ker` -/
noncomputable def splitEquiv (f : M →ₗ[R] N) (s : LinearMap.range f →ₗ[R] M) (hs : ∀ y, f (s y) = y) :
    (LinearMap.range f × LinearMap.ker f) ≃ₗ[R] M :=
  LinearEquiv.ofBijective (s.coprod (LinearMap.ker f).subtype) (split_bijective f s hs)

@[simp] theorem splitEquiv_apply (f : M →ₗ[R] N) (s : LinearMap.range f →ₗ[R] M) (hs : ∀ y, f (s y) = y)
    (y : LinearMap.range f) (z : LinearMap.ker f) : splitEquiv f s hs (y, z) = s y + (z : M) := by
  unfold splitEquiv
  rw [LinearEquiv.ofBijective_apply, LinearMap.coprod_apply, Submodule.subtype_apply]

end splitting

theorem exists_equivDiag {m n : ℕ} (A : Matrix (Fin m) (Fin n) ℤ) : ∃ d : List ℤ, EquivDiag A d := by
  classical
  obtain ⟨r, o, hro, bO, bN, a, ha⟩ :=
    (LinearMap.range A.mulVecLin).exists_smith_normal_form_of_le (Pi.basisFun ℤ (Fin m)) ⊤ le_top
  let bM : Basis (Fin o) ℤ (Fin m → ℤ) := bO.map (LinearEquiv.ofTop ⊤ rfl)
  have hbM : ∀ i, bM i = (bO i : Fin m → ℤ) := fun i => by simp [bM]
  have ho : o = m := by
    have := Fintype.card_congr (bM.indexEquiv (Pi.basisFun ℤ (Fin m)))
    rwa [Fintype.card_fin, Fintype.card_fin] at this
  subst ho
  -- preimages of the basis of the image, and the section
  have hv : ∀ i : Fin r, ∃ v, A.mulVecLin v = (bN i : Fin o → ℤ) := fun i => (bN i).2
  choose v hv using hv
  let s : LinearMap.range A.mulVecLin →ₗ[ℤ] (Fin n → ℤ) := bN.constr ℤ v
  have hs : ∀ y, A.mulVecLin (s y) = y := by
    intro y
    have h : A.mulVecLin.comp s = (LinearMap.range A.mulVecLin).subtype :=
      bN.ext (fun i => by rw [LinearMap.comp_apply, Basis.constr_basis, hv]; rfl)
    exact LinearMap.congr_fun h y
  -- basis of the kernel
  obtain ⟨k', bK⟩ := Submodule.basisOfPid (Pi.basisFun ℤ (Fin n)) (LinearMap.ker A.mulVecLin)
  let bL0 : Basis (Fin r ⊕ Fin k') ℤ (Fin n → ℤ) := (bN.prod bK).map (splitEquiv A.mulVecLin s hs)
  have hn : r + k' = n := by
    have := Fintype.card_congr (bL0.indexEquiv (Pi.basisFun ℤ (Fin n)))
    rwa [Fintype.card_sum, Fintype.card_fin, Fintype.card_fin, Fintype.card_fin] at this
  subst hn
  let bL : Basis (Fin (r + k')) ℤ (Fin (r + k') → ℤ) := bL0.reindex finSumFinEquiv
  have hL1 : ∀ j : Fin r, A.mulVecLin (bL (finSumFinEquiv (Sum.inl j))) = a j • bM (Fin.castLE hro j) := by
    intro j
    simp only [bL, bL0, Basis.reindex_apply, Equiv.symm_apply_apply, Basis.map_apply, Basis.prod_apply,
      Sum.elim_inl, Function.comp_apply, LinearMap.coe_inl, splitEquiv_apply, ZeroMemClass.coe_zero, add_zero]
    rw [hs, ha j, hbM]
  have hL2 : ∀ j : Fin k', A.mulVecLin (bL (finSumFinEquiv (Sum.inr j))) = 0 := by
    intro j
    simp only [bL, bL0, Basis.reindex_apply, Equiv.symm_apply_apply, Basis.map_apply, Basis.prod_apply,
      Sum.elim_inr, Function.comp_apply, LinearMap.coe_inr, splitEquiv_apply, LinearMap.map_zero, zero_add]
    exact (bK j).2
  refine ⟨List.ofFn a, by rw [List.length_ofFn]; exact Nat.le_min.2 ⟨hro, Nat.le_add_right _ _⟩, bM.toMatrix (Pi.basisFun ℤ (Fin o)),
    (Pi.basisFun ℤ (Fin (r + k'))).toMatrix bL, ?_, ?_, ?_⟩
  · exact Matrix.isUnit_det_of_right_inverse (Basis.toMatrix_mul_toMatrix_flip _ _)
  · exact Matrix.isUnit_det_of_right_inverse (Basis.toMatrix_mul_toMatrix_flip _ _)
  · have hA : LinearMap.toMatrix (Pi.basisFun ℤ (Fin (r + k'))) (Pi.basisFun ℤ (Fin o)) A.mulVecLin = A := by
      ext i j
      simp [LinearMap.toMatrix_apply]
    have h := basis_toMatrix_mul_linearMap_toMatrix_mul_basis_toMatrix bL
      (Pi.basisFun ℤ (Fin (r + k'))) bM (Pi.basisFun ℤ (Fin o)) A.mulVecLin
    rw [hA] at h
    rw [h]
    ext i j
    obtain ⟨x, rfl⟩ := finSumFinEquiv.surjective j
    rw [LinearMap.toMatrix_apply, rectDiag_apply]
    cases x with
    | inl j' =>
      rw [hL1 j', LinearEquiv.map_smul, Basis.repr_self, Finsupp.smul_apply, Finsupp.single_apply, smul_eq_mul]
      simp only [finSumFinEquiv_apply_left, Fin.val_castAdd]
      by_cases hij : i.val = j'.val
      · have : Fin.castLE hro j' = i := Fin.ext (by simp [hij])
        simp [this, hij, List.getD_eq_getElem?_getD]
      · have : ¬ Fin.castLE hro j' = i := fun e => hij (by rw [← e]; simp)
        simp [this, hij]
    | inr j'' =>
      rw [hL2 j'', LinearEquiv.map_zero]
      simp only [finSumFinEquiv_apply_right, Fin.val_natAdd, Finsupp.coe_zero, Pi.zero_apply]
      by_cases h : i.val = r + j''.val
      · simp [h]
      · simp [h]

end Yuiv.C03Uct
