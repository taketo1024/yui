import Yuiv.Proofs.C19Inv
import Yuiv.Props.C19
/-
C19 (extension) — the involution data of `InvLink` (`yui-link/src/inv_link.rs`), on the code model `Model/C19Inv.lean`.

(a) `InvLink::new` succeeds EXACTLY when every crossing has a crossing containing the images of its labels, the crossings
    are pairwise distinct as values (this is all the assertion `x_map.len() == n` can see: every crossing is inserted as
    a key, so the length is the number of distinct crossing values), and the base point is a label fixed by the map.
    It never checks that the map is an involution, nor crossing types / the cyclic order (`// TODO? check resolution`).
(b) if the matching relation is symmetric (e.g. the edge map is an involution of the labels and all crossings have the same
    number of distinct labels), `inv_x(x)` carries exactly the images of the labels of `x`; if moreover a crossing is
    determined by its label set, `inv_x` is the first match of the loop and is an involution on crossings (as values).
    Without the last hypothesis it is NOT one in general (overwriting of the `HashMap`): see `inv_x_not_involutive_example`.
(c) `sinv_knot_from_code`: after its three asserts the labels are exactly `1..n`, the map `e ↦ (n+1−e) % n + 1` is an
    involution of them (cited from `Props/C19.lean`), and the base point `1` is always accepted.
(d) the reference involutive cube (`Model/C19.lean`): if the per-instance check `icubeWf` holds (the driver evaluates it
    for every instance), `ICube.tau` is an involution on generators, preserves the homological and the quantum degree and
    the reduced sub-complex.
Not proved: that `icubeWf` holds for every accepted diagram (circles of `s` ↦ circles of `τ s`).  That τ commutes with `Cube.d`
is `Props/C19Comm.tau_chain_map`, under the stronger per-instance check `icubeWf'` (the driver also keeps re-checking
`D∘D = 0` of the cone on every instance, which by `cone_d_sq` is equivalent).
-/
namespace Yuiv.C19Inv
open Yuiv Yuiv.KhRef Yuiv.C19

/-- `new` succeeds iff every crossing has a match, the crossings are pairwise distinct values, the base point is a fixed label -/
theorem invlink_new_ok_iff (link : Link) (f : Nat → Nat) (base : Option Nat) :
    (∃ d, new link f base = .ok d) ↔
      (∀ x ∈ link.toList, ∃ y ∈ link.toList, Mt f x y) ∧ link.toList.Nodup ∧
      (∀ p, base = some p → p ∈ edgesOf link.toList ∧ f p = p) := by
  have hiff := (newLoop_ok_iff f (labelsOf link) link.toList (labelsOf_cover link) link.toList (fun _ h => h) []).1
  have hlab : ∀ p, p ∈ labelsOf link ↔ p ∈ edgesOf link.toList := fun p => mem_dedup p _
  constructor
  · rintro ⟨d, hd⟩
    obtain ⟨xmap, hl, hlen, _, hb⟩ := new_ok_elim link f base d hd
    obtain ⟨hk1, hk2, hk3⟩ := loop_keys link f xmap hl
    refine ⟨hiff.1 ⟨xmap, hl⟩, ?_, ?_⟩
    · apply (length_eq_iff_nodup (keys xmap) link.toList hk1 hk2 hk3).1
      rw [← hlen]; simp [keys]
    · intro p hp
      exact ⟨(hlab p).1 (hb p hp).1, (hb p hp).2⟩
  · rintro ⟨hm, hnd, hb⟩
    obtain ⟨xmap, hl⟩ := hiff.2 hm
    obtain ⟨hk1, hk2, hk3⟩ := loop_keys link f xmap hl
    have hlen : xmap.length = link.toList.length := by
      have := (length_eq_iff_nodup (keys xmap) link.toList hk1 hk2 hk3).2 hnd
      rw [← this]; simp [keys]
    exact ⟨_, new_ok_intro link f base xmap hl hlen (fun p hp => ⟨(hlab p).2 (hb p hp).1, (hb p hp).2⟩)⟩

/-- `new` either returns or panics -/
theorem invlink_new_ok_or_panic (link : Link) (f : Nat → Nat) (base : Option Nat) :
    (∃ d, new link f base = .ok d) ∨ new link f base = .panic := by
  have := new_ne_err link f base
  cases h : new link f base with
  | ok d => exact Or.inl ⟨d, rfl⟩
  | panic => exact Or.inr rfl
  | err => exact absurd h this

/-- the stored data: link and base point unchanged, `inv_e` is the given map on the labels and panics elsewhere -/
theorem invlink_new_data (link : Link) (f : Nat → Nat) (base : Option Nat) (d : InvData) (h : new link f base = .ok d) :
    d.link = link ∧ d.base = base ∧
    ∀ e, d.invE e = if e ∈ edgesOf link.toList then .ok (f e) else .panic := by
  obtain ⟨xmap, _, _, hd, _⟩ := new_ok_elim link f base d h
  subst hd
  refine ⟨rfl, rfl, ?_⟩
  intro e
  simp only [InvData.invE, emGet_build, labelsOf, mem_dedup]
  by_cases he : e ∈ edgesOf link.toList <;> simp [he]

/-- with a symmetric matching relation: `inv_x(x)` is a crossing of the link matching `x` in both directions -/
theorem inv_x_spec (link : Link) (f : Nat → Nat) (base : Option Nat) (d : InvData) (h : new link f base = .ok d)
    (hsym : ∀ x ∈ link.toList, ∀ y ∈ link.toList, Mt f x y → Mt f y x) :
    ∀ x ∈ link.toList, ∃ y ∈ link.toList, d.invX x = .ok y ∧ Mt f x y ∧ Mt f y x := by
  obtain ⟨xmap, hl, _, hd, _⟩ := new_ok_elim link f base d h
  subst hd
  obtain ⟨_, _, hk3⟩ := loop_keys link f xmap hl
  have hent := loop_entries link f xmap hsym hl
  intro x hx
  obtain ⟨y, hy⟩ := amGet_of_key xmap x (hk3 x hx)
  obtain ⟨_, h2, h3⟩ := hent (x, y) (amGet_mem xmap x y hy)
  exact ⟨y, h2, by simp [InvData.invX, hy], h3, hsym x hx y h2 h3⟩

/-- two-sided matching under an involutive edge map means: the labels of `y` are EXACTLY the images of the labels of `x` -/
theorem match_exact (f : Nat → Nat) (x y : Crossing) (hinv : ∀ e ∈ y.e.toList, f (f e) = e)
    (h1 : Mt f x y) (h2 : Mt f y x) : ∀ e, e ∈ y.e.toList ↔ ∃ e' ∈ x.e.toList, f e' = e :=
  Mt_exact f x y hinv h1 h2

/-- sufficient for symmetry: the edge map is an involution on the labels and all crossings have equally many distinct labels
(in particular: four distinct labels each — a diagram without kinks) -/
theorem match_symm_of_involutive (link : Link) (f : Nat → Nat)
    (hinv : ∀ e ∈ edgesOf link.toList, f (f e) = e)
    (hcard : ∀ x ∈ link.toList, ∀ y ∈ link.toList, x.e.toList.toFinset.card = y.e.toList.toFinset.card) :
    ∀ x ∈ link.toList, ∀ y ∈ link.toList, Mt f x y → Mt f y x := by
  intro x hx y hy hxy
  have hE : ∀ a ∈ x.e.toList, a ∈ edgesOf link.toList := fun a ha => (mem_edgesOf _ a).2 ⟨x, hx, ha⟩
  apply Mt_symm_of_card f x y _ (fun a ha => hinv a (hE a ha)) (hcard x hx y hy).symm.le hxy
  intro a ha b hb hab
  rw [← hinv a (hE a ha), ← hinv b (hE b hb), hab]

/-- sufficient for uniqueness of the match: a crossing is determined by its set of labels -/
theorem match_unique_of_distinct_label_sets (link : Link) (f : Nat → Nat)
    (hinv : ∀ e ∈ edgesOf link.toList, f (f e) = e)
    (hsym : ∀ x ∈ link.toList, ∀ y ∈ link.toList, Mt f x y → Mt f y x)
    (hdist : ∀ x ∈ link.toList, ∀ y ∈ link.toList, (∀ e, e ∈ x.e.toList ↔ e ∈ y.e.toList) → x = y) :
    ∀ x ∈ link.toList, ∀ y ∈ link.toList, ∀ y' ∈ link.toList, Mt f x y → Mt f x y' → y = y' := by
  intro x hx y hy y' hy' h1 h2
  have key : ∀ a ∈ link.toList, ∀ b ∈ link.toList, Mt f x a → Mt f x b → ∀ e, e ∈ a.e.toList → e ∈ b.e.toList := by
    intro a ha b hb ma mb e he
    have h3 := hsym x hx a ha ma e he
    have := mb (f e) h3
    rwa [hinv e ((mem_edgesOf _ e).2 ⟨a, ha, he⟩)] at this
  exact hdist y hy y' hy' (fun e => ⟨key y hy y' hy' h1 h2 e, key y' hy' y hy h2 h1 e⟩)

/-- symmetric + unique matching: `inv_x` is the loop's first match (the reference model's `invX`) and an involution -/
theorem inv_x_involutive (link : Link) (f : Nat → Nat) (base : Option Nat) (d : InvData) (h : new link f base = .ok d)
    (hsym : ∀ x ∈ link.toList, ∀ y ∈ link.toList, Mt f x y → Mt f y x)
    (hfun : ∀ x ∈ link.toList, ∀ y ∈ link.toList, ∀ y' ∈ link.toList, Mt f x y → Mt f x y' → y = y') :
    ∀ x ∈ link.toList, ∃ y ∈ link.toList, d.invX x = .ok y ∧ d.invX y = .ok x ∧ firstMatch f link.toList x = some y := by
  intro x hx
  obtain ⟨y, hy, hxy, m1, m2⟩ := inv_x_spec link f base d h hsym x hx
  obtain ⟨z, hz, hyz, m3, _⟩ := inv_x_spec link f base d h hsym y hy
  have hzx : z = x := hfun y hy z hz x hx m3 m2
  subst hzx
  refine ⟨y, hy, hxy, hyz, ?_⟩
  cases hm : firstMatch f link.toList z with
  | none => exact absurd m1 ((firstMatch_none f _ z).1 hm y hy)
  | some w =>
    obtain ⟨hw, m4⟩ := firstMatch_some f _ z w hm
    rw [hfun z hx w hw y hy m4 m1]

/-- two Hopf links exchanged by the edge map: `new` accepts, every crossing has a two-sided match, yet `inv_x` is not an
involution (the second insertion overwrites): `inv_x(x₁) = y₀` but `inv_x(y₀) = x₀`. -/
theorem inv_x_not_involutive_example :
    let l : Link := #[⟨.X, #[1, 3, 2, 4]⟩, ⟨.X, #[3, 1, 4, 2]⟩, ⟨.X, #[5, 7, 6, 8]⟩, ⟨.X, #[7, 5, 8, 6]⟩]
    let f : Nat → Nat := fun e => if e ≤ 4 then e + 4 else e - 4
    (∀ e ∈ edgesOf l.toList, f (f e) = e) ∧
    ∃ d, new l f none = .ok d ∧ d.invX l[1]! = .ok l[2]! ∧ d.invX l[2]! = .ok l[0]! := by
  intro l f
  refine ⟨by decide, ?_⟩
  have h : okAnd (new l f none) (fun d => decide (d.invX l[1]! = .ok l[2]!) && decide (d.invX l[2]! = .ok l[0]!)) = true := by
    decide +kernel
  obtain ⟨d, hd, hp⟩ := okAnd_elim _ _ h
  simp only [Bool.and_eq_true, decide_eq_true_eq] at hp
  exact ⟨d, hd, hp.1, hp.2⟩

/-- after the three asserts the labels are exactly `1..n` (`n` = number of distinct labels) -/
theorem sinv_labels (es : List Nat) (hn : es.Nodup) (hmin : listMin es = some 1) (hmax : listMax es = some es.length) :
    ∀ e, e ∈ es ↔ 1 ≤ e ∧ e ≤ es.length :=
  labels_full es hn (listMin_spec es 1 hmin).2 (listMax_spec es _ hmax)

/-- `sinv_knot_from_code` succeeds iff its three asserts hold and `new` finds a match for every crossing among pairwise
distinct crossings; the base point `1` is then always accepted -/
theorem sinv_ok_iff (code : List (Array Nat)) :
    let l := linkOfCode code
    let n := (labelsOf l).length
    (∃ d, sinvFromCode code = .ok d) ↔
      n % 2 = 0 ∧ listMin (labelsOf l) = some 1 ∧ listMax (labelsOf l) = some n ∧
      (∀ x ∈ l.toList, ∃ y ∈ l.toList, Mt (sinvEMap n) x y) ∧ l.toList.Nodup := by
  intro l n
  constructor
  · rintro ⟨d, h⟩
    obtain ⟨h1, h2, h3, hnew⟩ := (sinvFromCode_ok_iff code d).1 h
    obtain ⟨ha, hb, _⟩ := (invlink_new_ok_iff l (sinvEMap n) (some 1)).1 ⟨d, hnew⟩
    exact ⟨h1, h2, h3, ha, hb⟩
  · rintro ⟨h1, h2, h3, ha, hb⟩
    -- the base point `1` is a label (it is the minimum) and is fixed by `sinvEMap`
    obtain ⟨d, hnew⟩ := (invlink_new_ok_iff l (sinvEMap n) (some 1)).2 ⟨ha, hb, fun p hp => by
      cases hp
      exact ⟨(mem_dedup 1 _).1 (listMin_spec _ 1 h2).1, sinvEMap_one n⟩⟩
    exact ⟨d, (sinvFromCode_ok_iff code d).2 ⟨h1, h2, h3, hnew⟩⟩

/-- the edge map of an accepted code is an involution of the label set, fixing exactly `1` and `n/2 + 1`
(uses `sinvEMap_involutive`, `sinvEMap_fixed` of `Props/C19.lean`) -/
theorem sinv_emap_involutive (code : List (Array Nat)) (d : InvData) (h : sinvFromCode code = .ok d) :
    let l := linkOfCode code
    let n := (labelsOf l).length
    ∀ e ∈ edgesOf l.toList,
      sinvEMap n e ∈ edgesOf l.toList ∧ sinvEMap n (sinvEMap n e) = e ∧ (sinvEMap n e = e ↔ (e = 1 ∨ e = n / 2 + 1)) := by
  intro l n e he
  obtain ⟨h1, h2, h3, _, _⟩ : n % 2 = 0 ∧ listMin (labelsOf l) = some 1 ∧ listMax (labelsOf l) = some n ∧ _ ∧ _ :=
    (sinv_ok_iff code).1 ⟨d, h⟩
  have hlab := sinv_labels (labelsOf l) (nodup_dedup _) h2 h3
  have hmem : ∀ a, a ∈ edgesOf l.toList ↔ 1 ≤ a ∧ a ≤ n := fun a => by rw [← hlab a]; exact (mem_dedup a _).symm
  obtain ⟨he1, hen⟩ := (hmem e).1 he
  obtain ⟨i1, i2, i3⟩ := sinvEMap_involutive n e he1 hen
  refine ⟨(hmem _).2 ⟨i1, i2⟩, i3, ?_⟩
  have hn2 : n = 2 * (n / 2) := by omega
  have := sinvEMap_fixed (n / 2) e (by omega) he1 (by omega)
  rw [← hn2] at this
  exact this

/-- headline for accepted codes whose crossings have four distinct labels each and pairwise different label sets (all table
codes; checked per instance by the driver): `inv_x` is an involution on crossings, `inv_x(x)` carries exactly the images of
the labels of `x`, and it is the first match used by the reference model -/
theorem sinv_inv_x_involutive (code : List (Array Nat)) (d : InvData) (h : sinvFromCode code = .ok d)
    (h4 : ∀ x ∈ (linkOfCode code).toList, ∀ y ∈ (linkOfCode code).toList, x.e.toList.toFinset.card = y.e.toList.toFinset.card)
    (hdist : ∀ x ∈ (linkOfCode code).toList, ∀ y ∈ (linkOfCode code).toList,
      (∀ e, e ∈ x.e.toList ↔ e ∈ y.e.toList) → x = y) :
    let l := linkOfCode code
    let n := (labelsOf l).length
    ∀ x ∈ l.toList, ∃ y ∈ l.toList, d.invX x = .ok y ∧ d.invX y = .ok x ∧ firstMatch (sinvEMap n) l.toList x = some y ∧
      ∀ e, e ∈ y.e.toList ↔ ∃ e' ∈ x.e.toList, sinvEMap n e' = e := by
  intro l n x hx
  have hinv : ∀ e ∈ edgesOf l.toList, sinvEMap n (sinvEMap n e) = e :=
    fun e he => (sinv_emap_involutive code d h e he).2.1
  have hsym := match_symm_of_involutive l (sinvEMap n) hinv h4
  have hfun := match_unique_of_distinct_label_sets l (sinvEMap n) hinv hsym hdist
  have hnew : new l (sinvEMap n) (some 1) = .ok d := ((sinvFromCode_ok_iff code d).1 h).2.2.2
  obtain ⟨y, hy, a1, a2, a3⟩ := inv_x_involutive l (sinvEMap n) (some 1) d hnew hsym hfun x hx
  exact ⟨y, hy, a1, a2, a3, firstMatch_exact (sinvEMap n) l.toList x y hx hinv hsym a3⟩

/-- the same with the hypotheses in the decidable form the driver evaluates on every instance (`hyp=1` in its replies) -/
theorem inv_x_involutive_of_checks (link : Link) (f : Nat → Nat) (base : Option Nat) (d : InvData)
    (h : new link f base = .ok d) (h1 : involB f (edgesOf link.toList) = true)
    (h2 : sameCardB link.toList = true) (h3 : distinctSetsB link.toList = true) :
    ∀ x ∈ link.toList, ∃ y ∈ link.toList, d.invX x = .ok y ∧ d.invX y = .ok x ∧ firstMatch f link.toList x = some y ∧
      ∀ e, e ∈ y.e.toList ↔ ∃ e' ∈ x.e.toList, f e' = e := by
  have hinv := involB_spec f _ h1
  have hsym := match_symm_of_involutive link f hinv (sameCardB_spec _ h2)
  have hfun := match_unique_of_distinct_label_sets link f hinv hsym (distinctSetsB_spec _ h3)
  intro x hx
  obtain ⟨y, hy, a1, a2, a3⟩ := inv_x_involutive link f base d h hsym hfun x hx
  exact ⟨y, hy, a1, a2, a3, firstMatch_exact f link.toList x y hx hinv hsym a3⟩

/-- the hypotheses are satisfiable: the table's trefoil -/
example :
    let code : List (Array Nat) := [#[1,5,2,4], #[3,1,4,6], #[5,3,6,2]]
    (∃ d, sinvFromCode code = .ok d ∧ d.invX ⟨.X, #[1,5,2,4]⟩ = .ok ⟨.X, #[3,1,4,6]⟩ ∧
      d.invX ⟨.X, #[5,3,6,2]⟩ = .ok ⟨.X, #[5,3,6,2]⟩) ∧
    sameCardB (linkOfCode code).toList = true ∧ distinctSetsB (linkOfCode code).toList = true := by
  intro code
  refine ⟨?_, by decide, by decide⟩
  have h : okAnd (sinvFromCode code) (fun d => decide (d.invX ⟨.X, #[1,5,2,4]⟩ = .ok ⟨.X, #[3,1,4,6]⟩) &&
      decide (d.invX ⟨.X, #[5,3,6,2]⟩ = .ok ⟨.X, #[5,3,6,2]⟩)) = true := by decide +kernel
  obtain ⟨d, hd, hp⟩ := okAnd_elim _ _ h
  simp only [Bool.and_eq_true, decide_eq_true_eq] at hp
  exact ⟨d, hd, hp.1, hp.2⟩

/-- τ is an involution on the states of the cube and preserves the weight (homological degree) -/
theorem icube_tState_involutive (ic : ICube) (h : icubeWf ic = true) (s : Nat) (hs : s < 2 ^ ic.cube.n) :
    ic.tst[s]! < 2 ^ ic.cube.n ∧ ic.tst[ic.tst[s]!]! = s ∧ popcount (ic.tst[s]!) ic.cube.n = popcount s ic.cube.n :=
  ⟨(wf_spec ic h s hs).lt, (wf_spec ic h s hs).inv, (wf_spec ic h s hs).wt⟩

/-- `ICube.tau` is an involution on generators (state below `2^n`, labelling of the circles of that state) -/
theorem icube_tau_involutive (ic : ICube) (h : icubeWf ic = true) (g : Gen) (hs : g.s < 2 ^ ic.cube.n)
    (hm : g.mask < 2 ^ (ic.cube.circ[g.s]!).size) : ic.tau (ic.tau g) = g := by
  have ws := wf_spec ic h g.s hs
  have B2 := tauMask_bit_wf ic h _ ws.lt (tauMask (ic.tlab[g.s]!) g.mask)
  rw [ws.inv, ws.circ] at B2
  rw [tau_eq ic (ic.tau g), tau_eq ic g]
  obtain ⟨s, mask⟩ := g
  exact congrArg₂ Gen.mk ws.inv (BitsVia.back ws.bij hm (tauMask_bit_wf ic h s hs mask) B2)

/-- τ preserves the homological degree (weight of the state) -/
theorem icube_tau_hdeg (ic : ICube) (h : icubeWf ic = true) (g : Gen) (hs : g.s < 2 ^ ic.cube.n) :
    popcount (ic.tau g).s ic.cube.n = popcount g.s ic.cube.n :=
  (wf_spec ic h g.s hs).wt

/-- τ preserves the quantum degree -/
theorem icube_tau_qdeg (ic : ICube) (h : icubeWf ic = true) (q0 : Int) (g : Gen) (hs : g.s < 2 ^ ic.cube.n) :
    ic.cube.qDeg q0 (ic.tau g) = ic.cube.qDeg q0 g := by
  have ws := wf_spec ic h g.s hs
  unfold Cube.qDeg
  rw [tau_eq]
  simp only [ws.circ, ws.wt]
  rw [BitsVia.popcount_eq (wf_bijInv ic h g.s hs) ws.bij (tauMask_bit_wf ic h g.s hs g.mask)]

/-- τ preserves the reduced sub-complex: the base circle goes to the base circle and keeps its label `X` -/
theorem icube_tau_reduced (ic : ICube) (h : icubeWf ic = true) (g : Gen) (hs : g.s < 2 ^ ic.cube.n) (b : Nat)
    (hb : ic.cube.baseCircle g.s = some b) (hx : g.mask.testBit b = true) :
    ∃ b', ic.cube.baseCircle (ic.tau g).s = some b' ∧ (ic.tau g).mask.testBit b' = true := by
  have ws := wf_spec ic h g.s hs
  obtain ⟨hbr, hb'⟩ := ws.base b hb
  refine ⟨_, hb', ?_⟩
  rw [tau_eq]
  simp only
  rw [tauMask_testBit']
  exact ⟨b, by rw [ws.lab]; exact hbr, hx, rfl⟩

/-- `icubeWf` is satisfiable by a cube vertex pair on which τ permutes circles non-trivially (reduced, base circle fixed) -/
example :
    let ic : ICube := ⟨⟨1, #[#[#[1], #[2, 3]], #[#[1], #[2], #[3]]], some 1⟩, #[0, 1], #[#[0, 1], #[0, 2, 1]]⟩
    icubeWf ic = true ∧ (ic.tau ⟨1, 3⟩).s = 1 ∧ (ic.tau ⟨1, 3⟩).mask = 5 := by
  intro ic
  refine ⟨by decide +kernel, by decide +kernel, by decide +kernel⟩

/-- both outcomes of `new` occur on the trefoil: base point `4` (on the axis) is accepted, base point `2` is not -/
example :
    let l : Link := #[⟨.X, #[1,5,2,4]⟩, ⟨.X, #[3,1,4,6]⟩, ⟨.X, #[5,3,6,2]⟩]
    (new l (sinvEMap 6) (some 4)).isOk = true ∧ (new l (sinvEMap 6) (some 2)).isOk = false ∧
    (new l (sinvEMap 6) (some 9)).isOk = false := by
  intro l
  refine ⟨by decide +kernel, by decide +kernel, by decide +kernel⟩

end Yuiv.C19Inv
