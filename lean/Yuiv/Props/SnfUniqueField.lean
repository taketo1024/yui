import Yuiv.Proofs.SnfUniqueField
/-
UNIQUENESS OF THE SMITH NORMAL FORM over a FIELD (ℚ, 𝔽_p: the other coefficient rings the library's `snf` is run on).
Companion of `Props/SnfUnique.lean` (ℤ).

Vocabulary: `dgK D k` is the `k`-th diagonal entry (`0` outside the matrix); `IsDiagK D`: off-diagonal entries vanish;
`IsSmithK c D`: diagonal, `dgK D k ∣ dgK D (k+1)` for all `k`, and every non-zero diagonal entry equals `c` (the normalised
representative of the units; `c = 1` for the library's `normalizing_unit a = a⁻¹`, see `normOne_rat`, `normOne_fp`).

(F1) Mathlib matrices over any field `K`; (F2) the framework's objects: `IsSnfOfE e φ A T` is literally the conclusion of
`C09.snf_total_correct_euc` about the final target `T` for an operation record `e : EOps α` read through `φ : α → K`
(`ℚ`: `ratOps`, `φ = id`; `𝔽_p`: `fpOps p` on residues in `ℕ`, `φ a = (a : ZMod p)` — NOT injective on `ℕ`, so the `𝔽_p`
statements are about the image `(diagL T).map φ` in `ZMod p`; over `ℚ` they are about `diagL T` itself).
-/
namespace Yuiv.SnfField
open Matrix Finset

variable {K : Type} [Field K] {m n : ℕ}

/-- the rank of a rectangular diagonal matrix is the number of its non-zero diagonal entries (wherever they stand) -/
theorem field_diag_rank [DecidableEq K] (D : Matrix (Fin m) (Fin n) K) (hD : IsDiagK D) :
    D.rank = #{k ∈ range (min m n) | dgK D k ≠ 0} := rank_diagK D hD

/-- **the number of non-zero diagonal entries is an invariant.**  `D`, `D'` diagonal, `D' = U·D·V` with `U`, `V`
invertible: both have the same number of non-zero diagonal entries, namely the rank -/
theorem field_diag_count_unique [DecidableEq K] (D D' : Matrix (Fin m) (Fin n) K) (hD : IsDiagK D) (hD' : IsDiagK D')
    (U : Matrix (Fin m) (Fin m) K) (V : Matrix (Fin n) (Fin n) K) (hU : IsUnit U.det) (hV : IsUnit V.det)
    (h : D' = U * D * V) :
    #{k ∈ range (min m n) | dgK D k ≠ 0} = #{k ∈ range (min m n) | dgK D' k ≠ 0} ∧
      #{k ∈ range (min m n) | dgK D k ≠ 0} = D.rank := by
  rw [← rank_diagK D hD, ← rank_diagK D' hD', h, ← (C03Uct.UEquiv.mul D hU hV).rank_eq]
  exact ⟨rfl, rfl⟩

/-- over a field the divisibility chain `d_k ∣ d_{k+1}` says exactly that a zero is followed by a zero -/
theorem field_chain_iff_zeros_last (d : ℕ → K) : (∀ k, d k ∣ d (k + 1)) ↔ ∀ k, d k = 0 → d (k + 1) = 0 :=
  chain_iff_zeros_last d

/-- **the normalised Smith shape over a field.**  Chain + normalisation (`d_k ≠ 0 → d_k = c`) force the diagonal
`c, …, c, 0, …, 0` with exactly `rank D` entries `c` -/
theorem field_smith_shape (c : K) (D : Matrix (Fin m) (Fin n) K) (hD : IsDiagK D)
    (hc : ∀ k, dgK D k ∣ dgK D (k + 1)) (hn : ∀ k, dgK D k ≠ 0 → dgK D k = c) (k : ℕ) :
    dgK D k = if k < D.rank then c else 0 := smithK_dg c D ⟨hD, hc, hn⟩ k

/-- **Smith forms over a field normalised to the same constant `c` are equal.**  If `D`, `D'` are diagonal with
`d_k ∣ d_{k+1}` and non-zero entries equal to `c`, and `D' = U·D·V` with `U`, `V` invertible, then `D = D'` -/
theorem field_smith_unique (c : K) (D D' : Matrix (Fin m) (Fin n) K) (hD : IsSmithK c D) (hD' : IsSmithK c D')
    (U : Matrix (Fin m) (Fin m) K) (V : Matrix (Fin n) (Fin n) K) (hU : IsUnit U.det) (hV : IsUnit V.det)
    (h : D' = U * D * V) : D = D' :=
  eq_of_dgK_eq D D' hD.diag hD'.diag fun k => by
    rw [smithK_dg c D hD, smithK_dg c D' hD', h, ← (C03Uct.UEquiv.mul D hU hV).rank_eq]

/-- the case `c = 1` of the library's normalisation: non-zero entries first and all `1` -/
theorem field_smith_unique_normalised (D D' : Matrix (Fin m) (Fin n) K) (hD : IsSmithK 1 D) (hD' : IsSmithK 1 D')
    (U : Matrix (Fin m) (Fin m) K) (V : Matrix (Fin n) (Fin n) K) (hU : IsUnit U.det) (hV : IsUnit V.det)
    (h : D' = U * D * V) : D = D' :=
  field_smith_unique 1 D D' hD hD' U V hU hV h

/-- a Smith form `D = U·A·V` of `A` normalised to `c` is `diag(c^r, 0, …)` with `r = rank A` -/
theorem field_smith_diag_of_matrix (c : K) (A D : Matrix (Fin m) (Fin n) K) (hD : IsSmithK c D)
    (U : Matrix (Fin m) (Fin m) K) (V : Matrix (Fin n) (Fin n) K) (hU : IsUnit U.det) (hV : IsUnit V.det)
    (h : D = U * A * V) (k : ℕ) : dgK D k = if k < A.rank then c else 0 := by
  rw [smithK_dg c D hD, h, ← (C03Uct.UEquiv.mul A hU hV).rank_eq]

/-- two Smith forms `U·A·V = D`, `U'·A·V' = D'` of the SAME matrix (transforms with explicit right inverses, as the code
hands them out) are equal -/
theorem field_smith_of_same_matrix_unique (c : K) (A D D' : Matrix (Fin m) (Fin n) K) (hD : IsSmithK c D)
    (hD' : IsSmithK c D') (U Ui U' Ui' : Matrix (Fin m) (Fin m) K) (V Vi V' Vi' : Matrix (Fin n) (Fin n) K)
    (hU : U * Ui = 1) (hV : V * Vi = 1) (hU' : U' * Ui' = 1) (hV' : V' * Vi' = 1)
    (h : U * A * V = D) (h' : U' * A * V' = D') : D = D' :=
  eq_of_dgK_eq D D' hD.diag hD'.diag fun k => by
    rw [field_smith_diag_of_matrix c A D hD U V (Matrix.isUnit_det_of_right_inverse hU)
        (Matrix.isUnit_det_of_right_inverse hV) h.symm,
      field_smith_diag_of_matrix c A D' hD' U' V' (Matrix.isUnit_det_of_right_inverse hU')
        (Matrix.isUnit_det_of_right_inverse hV') h'.symm]

/-! ### non-vacuity: over ℚ, `A = [[2,4],[1,3]]` (rank 2) and `B = [[2,4],[1,2]]` (rank 1) -/

example : IsSmithK (1 : ℚ) !![1, 0; 0, 0] := by
  refine ⟨?_, ?_, ?_⟩
  · intro i j hij
    fin_cases i <;> fin_cases j <;> first | rfl | exact absurd rfl hij
  · intro k
    rcases k with _ | k
    · exact dvd_zero _
    · rw [dgK_out _ (k + 1 + 1) (by omega)]; exact dvd_zero _
  · intro k hk
    rcases k with _ | _ | k
    · rfl
    · exact absurd rfl hk
    · exact absurd (dgK_out _ (k + 1 + 1) (by omega)) hk

/-- `B` has the normalised Smith form `diag(1, 0)` through two different transform pairs -/
example : !![(1 : ℚ) / 2, 0; -1, 2] * !![2, 4; 1, 2] * !![1, -2; 0, 1] = !![1, 0; 0, 0] ∧
    !![(0 : ℚ), 1; 1, -2] * !![2, 4; 1, 2] * !![1, -2; 0, 1] = !![1, 0; 0, 0] ∧
    IsUnit (!![(1 : ℚ) / 2, 0; -1, 2]).det ∧ IsUnit (!![(1 : ℚ), -2; 0, 1]).det ∧
    IsUnit (!![(0 : ℚ), 1; 1, -2]).det := by
  refine ⟨?_, ?_, ?_, ?_, ?_⟩
  · rw [Matrix.mul_fin_two, Matrix.mul_fin_two]; norm_num
  · rw [Matrix.mul_fin_two, Matrix.mul_fin_two]; norm_num
  all_goals (rw [isUnit_iff_ne_zero, Matrix.det_fin_two_of]; norm_num)

end Yuiv.SnfField

namespace Yuiv.C09
open Yuiv Matrix Yuiv.SnfField

variable {α K : Type} [Field K] {e : EOps α} {φ : α → K} {m n : Nat}

/-- over a field "normalised and non-zero" pins the element: it is the constant `normOne e φ` (the normalised
associate of `1`), by the law `norm_unique` — all non-zero elements are associated -/
theorem normalised_nonzero_unique_field (L : LawfulEuc e φ) (x : K) (hx : x ≠ 0) (hn : NormalisedIn e φ x) :
    x = normOne e φ := normalised_eq_normOne L x hx hn

/-- For every lawful operation record over a field: any `T` satisfying the conclusion of
`snf_total_correct_euc` for `A` has the diagonal `c^r 0^(min m n − r)` with `r = Matrix.rank` of (the image of) `A` -/
theorem snf_diag_is_rank_field (L : LawfulEuc e φ) (A T : Mat α m n) (h : IsSnfOfE e φ A T) :
    (diagL T).map φ = List.replicate (toM φ A).rank (normOne e φ) ++
      List.replicate (min m n - (toM φ A).rank) 0 := diagL_of_isSnfOfE L A T h

/-- Any two results satisfying the conclusion of `snf_total_correct_euc` for the same `A`
have the same diagonal and the same target (as matrices over `K`) -/
theorem snf_diag_unique_field (L : LawfulEuc e φ) (A T T' : Mat α m n) (h : IsSnfOfE e φ A T)
    (h' : IsSnfOfE e φ A T') : (diagL T).map φ = (diagL T').map φ ∧ toM φ T = toM φ T' := by
  refine ⟨by rw [diagL_of_isSnfOfE L A T h, diagL_of_isSnfOfE L A T' h'], ?_⟩
  have hd : ∀ k, dgK (toM φ T) k = dgK (toM φ T') k := fun k => by
    rw [dgK_of_isSnfOfE L A T h, dgK_of_isSnfOfE L A T' h']
  obtain ⟨P, Pi, Q, Qi, w⟩ := h
  obtain ⟨P', Pi', Q', Qi', w'⟩ := h'
  exact eq_of_dgK_eq _ _ (w.isSmithK L).diag (w'.isSmithK L).diag hd

/-- **the code model's diagonal over a field is determined by the input.**  The code model of `SnfCalc::process` returns
(for all `fuel ≥ N`) one state `s` whose target is a Smith form of `A`; its diagonal is `c^r 0^…`, `r = rank A`, and EVERY
Smith form `T` of `A` — however obtained — has the same diagonal -/
theorem snf_model_diag_field (L : LawfulEuc e φ) (A : Mat α m n) :
    ∃ N s, (∀ fuel, N ≤ fuel → snfCalc e true (fun s => .ok s) fuel A = .ok s) ∧ IsSnfOfE e φ A s.t ∧
      (diagL s.t).map φ = List.replicate (toM φ A).rank (normOne e φ) ++
        List.replicate (min m n - (toM φ A).rank) 0 ∧
      ∀ T, IsSnfOfE e φ A T → (diagL T).map φ = (diagL s.t).map φ := by
  obtain ⟨N, s, hN, hs⟩ := snf_total_correct_euc L A
  have hsn : IsSnfOfE e φ A s.t := ⟨s.p, s.pinv, s.q, s.qinv, hs⟩
  exact ⟨N, s, hN, hsn, diagL_of_isSnfOfE L A s.t hsn, fun T hT => (snf_diag_unique_field L A T s.t hT hsn).1⟩

/-- whenever the code model returns (any fuel), its diagonal is `c^r 0^…` with `r = rank A` -/
theorem snf_result_diag_field (L : LawfulEuc e φ) (fuel : Nat) (A : Mat α m n) (s : St α m n)
    (h : snfCalc e true (fun s => .ok s) fuel A = .ok s) :
    (diagL s.t).map φ = List.replicate (toM φ A).rank (normOne e φ) ++
      List.replicate (min m n - (toM φ A).rank) 0 :=
  diagL_of_isSnfOfE L A s.t ⟨s.p, s.pinv, s.q, s.qinv, snf_correct_euc L fuel A s h⟩

/-- the diagonal is an invariant of the equivalence class: if (the image of) `A'` is `U·A·V` with `U`, `V` invertible
over `K` then the code model computes the same diagonal for `A` and `A'` -/
theorem snf_diag_equiv_invariant_field (L : LawfulEuc e φ) (fuel fuel' : Nat) (A A' : Mat α m n) (s s' : St α m n)
    (h : snfCalc e true (fun s => .ok s) fuel A = .ok s) (h' : snfCalc e true (fun s => .ok s) fuel' A' = .ok s')
    (U : Matrix (Fin m) (Fin m) K) (V : Matrix (Fin n) (Fin n) K) (hU : IsUnit U.det) (hV : IsUnit V.det)
    (hA : toM φ A' = U * toM φ A * V) : (diagL s.t).map φ = (diagL s'.t).map φ := by
  rw [snf_result_diag_field L fuel A s h, snf_result_diag_field L fuel' A' s' h', hA, ← (C03Uct.UEquiv.mul _ hU hV).rank_eq]

/-! ### ℚ (`ratOps`, `φ = id`: the model's entries ARE Mathlib rationals) -/

/-- over ℚ the normalised non-zero element is `1` -/
theorem rat_normOne : normOne ratOps (id : Rat → Rat) = 1 := normOne_rat

/-- two results satisfying the conclusion of `snf_total_correct_euc` over ℚ for the same `A` have the same diagonal,
which is `1^r 0^(min m n − r)` with `r = Matrix.rank A`, and are equal entry by entry -/
theorem snf_diag_unique_rat (A T T' : Mat Rat m n) (h : IsSnfOfE ratOps id A T) (h' : IsSnfOfE ratOps id A T') :
    diagL T = diagL T' ∧ (∀ i j, T.get i j = T'.get i j) ∧
      diagL T = List.replicate (toM id A).rank 1 ++ List.replicate (min m n - (toM id A).rank) 0 := by
  have h1 := snf_diag_unique_field lawfulEuc_rat A T T' h h'
  have h2 := snf_diag_is_rank_field lawfulEuc_rat A T h
  rw [List.map_id] at h1 h2
  rw [List.map_id] at h1
  rw [normOne_rat] at h2
  exact ⟨h1.1, fun i j => congrFun (congrFun h1.2 i) j, h2⟩

/-- the code model's diagonal over ℚ is `1^r 0^…`, `r = rank A`, for ALL sufficiently large fuel, and every Smith form
of `A` has this diagonal -/
theorem snf_model_diag_rat (A : Mat Rat m n) :
    ∃ N s, (∀ fuel, N ≤ fuel → snfCalc ratOps true (fun s => .ok s) fuel A = .ok s) ∧
      diagL s.t = List.replicate (toM id A).rank 1 ++ List.replicate (min m n - (toM id A).rank) 0 ∧
      ∀ T, IsSnfOfE ratOps id A T → diagL T = diagL s.t := by
  obtain ⟨N, s, hN, hsn, _, _⟩ := snf_model_diag_field lawfulEuc_rat A
  exact ⟨N, s, hN, (snf_diag_unique_rat A s.t s.t hsn hsn).2.2, fun T hT => (snf_diag_unique_rat A T s.t hT hsn).1⟩

/-- whenever the ℚ code model returns (any fuel) its diagonal is `1^r 0^…` with `r = rank A` -/
theorem snf_result_diag_rat (fuel : Nat) (A : Mat Rat m n) (s : St Rat m n)
    (h : snfCalc ratOps true (fun s => .ok s) fuel A = .ok s) :
    diagL s.t = List.replicate (toM id A).rank 1 ++ List.replicate (min m n - (toM id A).rank) 0 := by
  have := snf_result_diag_field lawfulEuc_rat fuel A s h
  rwa [List.map_id, normOne_rat] at this

/-! ### 𝔽_p (`fpOps p`: residues as natural numbers, read through `a ↦ (a : ZMod p)`) -/

/-- over 𝔽_p the normalised non-zero element is `1` -/
theorem fp_normOne (p : Nat) [Fact p.Prime] : normOne (fpOps p) (fun a : Nat => (a : ZMod p)) = 1 := normOne_fp p

/-- two results satisfying the conclusion of `snf_total_correct_euc` over 𝔽_p for the same `A` have the same diagonal in
`ZMod p`, which is `1^r 0^(min m n − r)` with `r = Matrix.rank` of `A` over `ZMod p`, and the same target over `ZMod p` -/
theorem snf_diag_unique_fp (p : Nat) [Fact p.Prime] (A T T' : Mat Nat m n)
    (h : IsSnfOfE (fpOps p) (fun a : Nat => (a : ZMod p)) A T)
    (h' : IsSnfOfE (fpOps p) (fun a : Nat => (a : ZMod p)) A T') :
    (diagL T).map (fun a : Nat => (a : ZMod p)) = (diagL T').map (fun a : Nat => (a : ZMod p)) ∧
      toM (fun a : Nat => (a : ZMod p)) T = toM (fun a : Nat => (a : ZMod p)) T' ∧
      (diagL T).map (fun a : Nat => (a : ZMod p)) =
        List.replicate (toM (fun a : Nat => (a : ZMod p)) A).rank 1 ++
          List.replicate (min m n - (toM (fun a : Nat => (a : ZMod p)) A).rank) 0 := by
  have h1 := snf_diag_unique_field (lawfulEuc_fp p) A T T' h h'
  have h2 := snf_diag_is_rank_field (lawfulEuc_fp p) A T h
  rw [normOne_fp] at h2
  exact ⟨h1.1, h1.2, h2⟩

/-- the code model's diagonal over 𝔽_p is (in `ZMod p`) `1^r 0^…`, `r = rank A`, for all sufficiently large fuel, and
every Smith form of `A` has this diagonal -/
theorem snf_model_diag_fp (p : Nat) [Fact p.Prime] (A : Mat Nat m n) :
    ∃ N s, (∀ fuel, N ≤ fuel → snfCalc (fpOps p) true (fun s => .ok s) fuel A = .ok s) ∧
      (diagL s.t).map (fun a : Nat => (a : ZMod p)) =
        List.replicate (toM (fun a : Nat => (a : ZMod p)) A).rank 1 ++
          List.replicate (min m n - (toM (fun a : Nat => (a : ZMod p)) A).rank) 0 ∧
      ∀ T, IsSnfOfE (fpOps p) (fun a : Nat => (a : ZMod p)) A T →
        (diagL T).map (fun a : Nat => (a : ZMod p)) = (diagL s.t).map (fun a : Nat => (a : ZMod p)) := by
  obtain ⟨N, s, hN, _, hd, hT⟩ := snf_model_diag_field (lawfulEuc_fp p) A
  rw [normOne_fp] at hd
  exact ⟨N, s, hN, hd, hT⟩

/-- whenever the 𝔽_p code model returns (any fuel) its diagonal is (in `ZMod p`) `1^r 0^…` with `r = rank A` -/
theorem snf_result_diag_fp (p : Nat) [Fact p.Prime] (fuel : Nat) (A : Mat Nat m n) (s : St Nat m n)
    (h : snfCalc (fpOps p) true (fun s => .ok s) fuel A = .ok s) :
    (diagL s.t).map (fun a : Nat => (a : ZMod p)) =
      List.replicate (toM (fun a : Nat => (a : ZMod p)) A).rank 1 ++
        List.replicate (min m n - (toM (fun a : Nat => (a : ZMod p)) A).rank) 0 := by
  have := snf_result_diag_field (lawfulEuc_fp p) fuel A s h
  rwa [normOne_fp] at this

/-- over ℚ the code model returns `diag(1, 0)` on the rank-1 matrix `[[2,4],[1,2]]` … -/
example : (match snfCalc ratOps true (fun s => .ok s) 50 (⟨#v[#v[2, 4], #v[1, 2]]⟩ : Mat Rat 2 2) with
    | .ok s => diagL s.t == [1, 0]
    | _ => false) = true := by decide +kernel

/-- … and `IsSnfOfE` is inhabited: the model's own result is a Smith form of its input (for every input) -/
example (A : Mat Rat 2 2) : ∃ T, IsSnfOfE ratOps id A T := by
  obtain ⟨N, s, _, hs⟩ := snf_total_correct_euc lawfulEuc_rat A
  exact ⟨s.t, s.p, s.pinv, s.q, s.qinv, hs⟩

/-- over 𝔽_5 the code model returns `diag(1, 1)` on a rank-2 matrix -/
example : (match snfCalc (fpOps 5) true (fun s => .ok s) 50 (⟨#v[#v[2, 3, 0], #v[1, 4, 2]]⟩ : Mat Nat 2 3) with
    | .ok s => diagL s.t == [1, 1]
    | _ => false) = true := by decide +kernel

end Yuiv.C09
