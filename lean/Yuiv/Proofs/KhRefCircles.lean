import Yuiv.Proofs.C04InvModel
import Yuiv.Proofs.KhRefLoops
import Mathlib.Logic.Relation
/-
`KhRef.circles` without loops (`circles_eq`: the relabelling union-find `unionAll` over the arcs of the resolved crossings,
then one circle per root, `circF`), and the two invariants of that union-find: `Inv` — a component is a class of the
relation `Conn` generated by the arcs — and `LeInv` — `comp` never points upwards (what `C06Walk.circles_sorted` needs
to read the order of the circles off the order of the labels).
-/
open Yuiv.KhRef
namespace Yuiv.C04Inv
open Relation

def arcIdx (t : CT) : List (Nat × Nat) :=
  match t with
  | .V => [(0, 3), (1, 2)]
  | .H => [(0, 1), (2, 3)]
  | _ => []

def mergeStep (comp : Array Nat) (a b : Nat) : Array Nat :=
  if comp[a]! = comp[b]! then comp
  else comp.map (fun y => if y = max comp[a]! comp[b]! then min comp[a]! comp[b]! else y)

def unionStep (l : Link) (labels : Array Nat) (ts : Array CT) (comp : Array Nat) (i : Nat) : Array Nat :=
  (arcIdx ts[i]!).foldl (fun comp x =>
    mergeStep comp (indexOf labels l[i]!.e[x.1]!) (indexOf labels l[i]!.e[x.2]!)) comp

def unionAll (l : Link) (labels : Array Nat) (ts : Array CT) : Array Nat :=
  (List.range' 0 l.size).foldl (unionStep l labels ts) (Array.range labels.size)

theorem forIn_filter_push {α γ : Type} (xs : List α) (q : α → Bool) (f : α → γ) (out : Array γ) :
    forIn (m := Id) xs out (fun x out => if q x = true then pure (ForInStep.yield (out.push (f x)))
        else pure (ForInStep.yield out))
      = pure (out ++ ((xs.filter q).map f).toArray) := by
  rw [KhRefLoops.forIn_filterPush (fun x => if q x = true then some (f x) else none) _ xs
    (fun x _ a => by cases q x <;> rfl), ← List.filterMap_eq_map', List.filterMap_filter]

/-- the output phase of `KhRef.circles`: one circle per root `r` of the component array, consisting of the labels whose
component is `r` -/
def circF (labels comp : Array Nat) : Array (Array Nat) :=
  (((List.range' 0 labels.size).filter (fun r => comp[r]! == r)).map (fun r =>
    (((List.range' 0 labels.size).filter (fun x => comp[x]! == r)).map (fun x => labels[x]!)).toArray)).toArray

theorem circles_eq (l : Link) (labels : Array Nat) (s : Nat) :
    circles l labels s = circF labels (unionAll l labels (resolvedTypes l s)) := by
  unfold circles circF
  simp only [Std.Legacy.Range.forIn_eq_forIn_range', Std.Legacy.Range.size, Nat.sub_zero, Nat.add_sub_cancel,
    Nat.div_one, Id.run_bind]
  -- the union loop, which the output loops read in two places
  generalize hc : Id.run (forIn (List.range' 0 l.size) (Array.range labels.size) _) = comp
  have : comp = unionAll l labels (resolvedTypes l s) := by
    subst hc
    unfold unionAll
    refine id_forIn_yield _ _ (fun i comp => unionStep l labels (resolvedTypes l s) comp i) _ ?_
    intro i c
    unfold unionStep
    refine congrArg (fun c => pure (ForInStep.yield c)) ?_
    refine id_forIn_yield _ _
      (fun (x : Nat × Nat) c => mergeStep c (indexOf labels l[i]!.e[x.1]!) (indexOf labels l[i]!.e[x.2]!)) _ ?_
    intro x c
    unfold mergeStep
    by_cases he : c[indexOf labels l[i]!.e[x.1]!]! = c[indexOf labels l[i]!.e[x.2]!]!
    · simp only [he, bne_self_eq_false, Bool.false_eq_true, if_false, if_true]
    · by_cases hlt : c[indexOf labels l[i]!.e[x.1]!]! < c[indexOf labels l[i]!.e[x.2]!]!
      · simp only [bne_iff_ne, ne_eq, he, not_false_eq_true, if_true, if_false, hlt, beq_iff_eq,
          Nat.max_eq_right (Nat.le_of_lt hlt), Nat.min_eq_left (Nat.le_of_lt hlt)]
      · simp only [bne_iff_ne, ne_eq, he, not_false_eq_true, if_true, if_false, hlt, beq_iff_eq,
          Nat.max_eq_left (Nat.le_of_not_lt hlt), Nat.min_eq_right (Nat.le_of_not_lt hlt)]
  rw [← this]
  clear hc this
  simp only [forIn_filter_push, pure_bind, Array.empty_append]
  rfl

def roots (comp : Array Nat) (m : Nat) : List Nat := (List.range' 0 m).filter (fun r => decide (comp[r]! = r))

theorem mem_roots (comp : Array Nat) (m r : Nat) : r ∈ roots comp m ↔ r < m ∧ comp[r]! = r := by
  simp [roots, List.mem_range']

theorem circles_size (l : Link) (labels : Array Nat) (s : Nat) :
    (circles l labels s).size = (roots (unionAll l labels (resolvedTypes l s)) labels.size).length := by
  rw [circles_eq]
  simp only [circF, List.size_toArray, List.length_map]
  rfl

/-- the label pairs joined at a crossing `c` whose resolved type is `t` -/
def arcs (c : Crossing) (t : CT) : List (Nat × Nat) := (arcIdx t).map (fun x => (c.e[x.1]!, c.e[x.2]!))

def pairsL : List Crossing → List CT → List (Nat × Nat)
  | c :: cs, t :: ts => arcs c t ++ pairsL cs ts
  | _, _ => []

def unionPairs (labels : Array Nat) (P : List (Nat × Nat)) (comp : Array Nat) : Array Nat :=
  P.foldl (fun comp uv => mergeStep comp (indexOf labels uv.1) (indexOf labels uv.2)) comp

theorem range_map_zip {α β} [Inhabited α] [Inhabited β] (xs : Array α) (ys : Array β) (h : xs.size = ys.size) :
    (List.range' 0 xs.size).map (fun i => (xs[i]!, ys[i]!)) = xs.toList.zip ys.toList := by
  apply List.ext_getElem
  · simp [h]
  · intro i h1 h2
    simp at h1 h2
    have h3 : i < ys.size := by omega
    simp [getElem!_pos, h1, h3]

theorem unionPairs_zip (labels : Array Nat) (zs : List (Crossing × CT)) (comp : Array Nat) :
    zs.foldl (fun comp p => unionPairs labels (arcs p.1 p.2) comp) comp
      = unionPairs labels (pairsL (zs.map Prod.fst) (zs.map Prod.snd)) comp := by
  induction zs generalizing comp with
  | nil => rfl
  | cons z zs ih =>
    rw [List.foldl_cons, ih]
    simp [pairsL, unionPairs, List.foldl_append]

theorem unionAll_eq (l : Link) (labels : Array Nat) (ts : Array CT) (h : l.size = ts.size) :
    unionAll l labels ts = unionPairs labels (pairsL l.toList ts.toList) (Array.range labels.size) := by
  unfold unionAll
  have e : unionStep l labels ts = fun comp i => (fun comp (p : Crossing × CT) => unionPairs labels (arcs p.1 p.2) comp) comp
      ((fun i => (l[i]!, ts[i]!)) i) := by
    funext comp i
    simp [unionStep, unionPairs, arcs, List.foldl_map]
  rw [e, ← List.foldl_map (f := fun i => (l[i]!, ts[i]!))
    (g := fun comp (p : Crossing × CT) => unionPairs labels (arcs p.1 p.2) comp), range_map_zip l ts h, unionPairs_zip]
  rw [← List.unzip_fst, ← List.unzip_snd, List.unzip_zip]
  simpa using h

def pairRel (P : List (Nat × Nat)) (x y : Nat) : Prop := (x, y) ∈ P

def Conn (P : List (Nat × Nat)) : Nat → Nat → Prop := EqvGen (pairRel P)

theorem Conn.refl {P} (x : Nat) : Conn P x x := EqvGen.refl x
theorem Conn.symm {P} {x y : Nat} (h : Conn P x y) : Conn P y x := EqvGen.symm _ _ h
theorem Conn.trans {P} {x y z : Nat} (h : Conn P x y) (h' : Conn P y z) : Conn P x z := EqvGen.trans _ _ _ h h'
theorem Conn.of_mem {P} {x y : Nat} (h : (x, y) ∈ P) : Conn P x y := EqvGen.rel _ _ h

theorem Conn.mono {P P' : List (Nat × Nat)} (h : ∀ p ∈ P, p ∈ P') {x y : Nat} (c : Conn P x y) : Conn P' x y :=
  EqvGen.mono (fun a b hab => h (a, b) hab) x y c

theorem conn_lift {P : List (Nat × Nat)} {R : Nat → Nat → Prop} (hr : ∀ x, R x x) (hs : ∀ {x y}, R x y → R y x)
    (ht : ∀ {x y z}, R x y → R y z → R x z) (h : ∀ p ∈ P, R p.1 p.2) {x y : Nat} (c : Conn P x y) : R x y := by
  induction c with
  | rel x y r => exact h (x, y) r
  | refl x => exact hr x
  | symm _ _ _ ih => exact hs ih
  | trans _ _ _ _ _ ih1 ih2 => exact ht ih1 ih2

theorem Conn.lift {P Q : List (Nat × Nat)} (g : Nat → Nat) (h : ∀ p ∈ P, Conn Q (g p.1) (g p.2)) {x y : Nat}
    (c : Conn P x y) : Conn Q (g x) (g y) :=
  conn_lift (R := fun x y => Conn Q (g x) (g y)) (fun _ => Conn.refl _) Conn.symm Conn.trans h c

theorem mergeStep_get (comp : Array Nat) (a b x : Nat) :
    (mergeStep comp a b)[x]! =
      if comp[a]! ≠ comp[b]! ∧ comp[x]! = max comp[a]! comp[b]! then min comp[a]! comp[b]! else comp[x]! := by
  unfold mergeStep
  by_cases h : comp[a]! = comp[b]!
  · simp [h]
  · simp only [h, if_false, ne_eq, not_false_eq_true, true_and]
    by_cases hx : x < comp.size
    · rw [getElem!_pos _ x (by simpa using hx), getElem!_pos comp x hx]
      simp
    · have h1 : (Array.map (fun y => if y = max comp[a]! comp[b]! then min comp[a]! comp[b]! else y) comp)[x]! = 0 := by
        rw [getElem!_neg _ x (by simpa using hx)]; rfl
      have h2 : comp[x]! = 0 := by rw [getElem!_neg _ x hx]; rfl
      rw [h1, h2]
      split
      · omega
      · rfl

theorem mergeStep_size (comp : Array Nat) (a b : Nat) : (mergeStep comp a b).size = comp.size := by
  unfold mergeStep; split <;> simp

/-- `conn`: a label is connected to the label of its component (components lie inside classes); `eq`: the two ends of
every pair of `P` have one component (so, by `eq_of_conn`, classes lie inside components) -/
structure Inv (labels comp : Array Nat) (P : List (Nat × Nat)) : Prop where
  size : comp.size = labels.size
  lt : ∀ x < labels.size, comp[x]! < labels.size
  conn : ∀ x < labels.size, Conn P labels[comp[x]!]! labels[x]!
  eq : ∀ p ∈ P, comp[indexOf labels p.1]! = comp[indexOf labels p.2]!

theorem Inv.init (labels : Array Nat) : Inv labels (Array.range labels.size) [] := by
  have g : ∀ x < labels.size, (Array.range labels.size)[x]! = x := by
    intro x hx; rw [getElem!_pos _ x (by simpa using hx)]; simp
  refine ⟨by simp, fun x hx => by rw [g x hx]; exact hx, fun x hx => by rw [g x hx]; exact Conn.refl _, by simp⟩

theorem mergeStep_ab (comp : Array Nat) (a b : Nat) : (mergeStep comp a b)[a]! = (mergeStep comp a b)[b]! := by
  rw [mergeStep_get, mergeStep_get]
  split <;> split <;> omega

theorem Inv.step {labels comp : Array Nat} {P : List (Nat × Nat)} (h : Inv labels comp P) (u v : Nat)
    (hu : u ∈ labels) (hv : v ∈ labels) :
    Inv labels (mergeStep comp (indexOf labels u) (indexOf labels v)) (P ++ [(u, v)]) := by
  obtain ⟨ha, hau⟩ := indexOf_spec labels u hu
  obtain ⟨hb, hbv⟩ := indexOf_spec labels v hv
  have mono : ∀ {x y}, Conn P x y → Conn (P ++ [(u, v)]) x y :=
    fun c => Conn.mono (fun p hp => List.mem_append_left _ hp) c
  have hab : Conn (P ++ [(u, v)]) labels[comp[indexOf labels u]!]! labels[comp[indexOf labels v]!]! := by
    have h1 := mono (h.conn _ ha)
    have h2 := mono (h.conn _ hb)
    rw [hau] at h1; rw [hbv] at h2
    exact h1.trans ((Conn.of_mem (by simp)).trans h2.symm)
  refine ⟨by rw [mergeStep_size]; exact h.size, ?_, ?_, ?_⟩
  · intro x hx
    rw [mergeStep_get]
    have := h.lt x hx; have := h.lt _ ha; have := h.lt _ hb
    split <;> omega
  · intro x hx
    rw [mergeStep_get]
    split
    · rename_i hc
      obtain ⟨hne, hxm⟩ := hc
      have hx' := mono (h.conn x hx)
      rw [hxm] at hx'
      refine Conn.trans ?_ hx'
      by_cases hlt : comp[indexOf labels u]! < comp[indexOf labels v]!
      · rw [Nat.min_eq_left (by omega), Nat.max_eq_right (by omega)]; exact hab
      · rw [Nat.min_eq_right (by omega), Nat.max_eq_left (by omega)]; exact hab.symm
    · exact mono (h.conn x hx)
  · intro p hp
    rcases List.mem_append.mp hp with hp | hp
    · rw [mergeStep_get, mergeStep_get, h.eq p hp]
    · simp only [List.mem_singleton] at hp
      subst hp
      exact mergeStep_ab comp _ _



theorem Inv.fold {labels : Array Nat} (P1 : List (Nat × Nat)) {comp : Array Nat} {P0 : List (Nat × Nat)}
    (h : Inv labels comp P0) (hP : ∀ p ∈ P1, p.1 ∈ labels ∧ p.2 ∈ labels) :
    Inv labels (unionPairs labels P1 comp) (P0 ++ P1) := by
  induction P1 generalizing comp P0 with
  | nil => simpa [unionPairs] using h
  | cons p P1 ih =>
    have h1 := h.step p.1 p.2 (hP p (by simp)).1 (hP p (by simp)).2
    have h2 := ih h1 (fun q hq => hP q (List.mem_cons_of_mem _ hq))
    simpa [unionPairs] using h2

theorem Inv.eq_of_conn {labels comp : Array Nat} {P : List (Nat × Nat)} (h : Inv labels comp P) {x y : Nat}
    (c : Conn P x y) : comp[indexOf labels x]! = comp[indexOf labels y]! :=
  conn_lift (R := fun x y => comp[indexOf labels x]! = comp[indexOf labels y]!) (fun _ => rfl) Eq.symm Eq.trans h.eq c

def WF (l : Link) : Prop := ∀ c ∈ l, c.e.size = 4

theorem arcIdx_lt {t : CT} {x : Nat × Nat} (hx : x ∈ arcIdx t) : x.1 < 4 ∧ x.2 < 4 := by
  cases t <;> simp only [arcIdx, List.mem_cons, List.not_mem_nil, or_false] at hx <;> rcases hx with rfl | rfl <;>
    decide

theorem mem_arcs {c : Crossing} {t : CT} (hc : c.e.size = 4) {p : Nat × Nat} (hp : p ∈ arcs c t) :
    p.1 ∈ c.e ∧ p.2 ∈ c.e := by
  have g : ∀ j < 4, c.e[j]! ∈ c.e := by
    intro j hj; rw [getElem!_pos c.e j (by omega)]; exact Array.getElem_mem _
  obtain ⟨x, hx, rfl⟩ := List.mem_map.1 hp
  exact ⟨g _ (arcIdx_lt hx).1, g _ (arcIdx_lt hx).2⟩

theorem pass_lt4 (t : CT) (j : Nat) (hj : j < 4) : t.pass j < 4 := by
  revert j
  cases t <;> decide

theorem pass_pass (t : CT) (j : Nat) (hj : j < 4) : t.pass (t.pass j) = j := by
  revert j
  cases t <;> decide

theorem pass_arcIdx (t : CT) (ht : t = .V ∨ t = .H) (j : Nat) (hj : j < 4) :
    (j, t.pass j) ∈ arcIdx t ∨ (t.pass j, j) ∈ arcIdx t := by
  have : j = 0 ∨ j = 1 ∨ j = 2 ∨ j = 3 := by omega
  rcases ht with rfl | rfl <;> rcases this with rfl | rfl | rfl | rfl <;> decide

theorem arcIdx_pass (t : CT) (p : Nat × Nat) (hp : p ∈ arcIdx t) :
    p.1 < 4 ∧ p.2 < 4 ∧ t.pass p.1 = p.2 ∧ t.pass p.2 = p.1 := by
  cases t <;> simp only [arcIdx, List.mem_cons, List.not_mem_nil, or_false] at hp <;>
    rcases hp with rfl | rfl <;> decide

theorem pass_arcs (c : Crossing) (t : CT) (ht : t = .V ∨ t = .H) (a b : Nat) :
    (∃ j, j < 4 ∧ (a, b) = (c.e[j]!, c.e[t.pass j]!)) ↔ (a, b) ∈ arcs c t ∨ (b, a) ∈ arcs c t := by
  unfold arcs
  simp only [List.mem_map, Prod.mk.injEq]
  constructor
  · rintro ⟨j, hj, h1, h2⟩
    rcases pass_arcIdx t ht j hj with h | h
    · exact Or.inl ⟨_, h, h1.symm, h2.symm⟩
    · exact Or.inr ⟨_, h, h2.symm, h1.symm⟩
  · rintro (⟨p, hp, h1, h2⟩ | ⟨p, hp, h1, h2⟩)
    · obtain ⟨q1, _, q3, _⟩ := arcIdx_pass t p hp
      exact ⟨p.1, q1, h1.symm, by rw [q3, h2]⟩
    · obtain ⟨_, q2, _, q4⟩ := arcIdx_pass t p hp
      exact ⟨p.2, q2, h2.symm, by rw [q4, h1]⟩

theorem mem_pairsL_iff (cs : List Crossing) (ts : List CT) (p : Nat × Nat) :
    p ∈ pairsL cs ts ↔ ∃ (j : Nat) (c : Crossing) (t : CT), cs[j]? = some c ∧ ts[j]? = some t ∧ p ∈ arcs c t := by
  induction cs generalizing ts with
  | nil => simp [pairsL]
  | cons c cs ih =>
    cases ts with
    | nil => simp [pairsL]
    | cons t ts =>
      simp only [pairsL, List.mem_append, ih]
      constructor
      · rintro (h | ⟨j, c', t', h1, h2, h3⟩)
        · exact ⟨0, c, t, rfl, rfl, h⟩
        · exact ⟨j + 1, c', t', h1, h2, h3⟩
      · rintro ⟨j, c', t', h1, h2, h3⟩
        cases j with
        | zero =>
          simp only [List.getElem?_cons_zero, Option.some.injEq] at h1 h2
          subst h1 h2
          exact Or.inl h3
        | succ j => exact Or.inr ⟨j, c', t', h1, h2, h3⟩

theorem mem_pairsL {cs : List Crossing} {ts : List CT} (hwf : ∀ c ∈ cs, c.e.size = 4) {p : Nat × Nat}
    (hp : p ∈ pairsL cs ts) : ∃ c ∈ cs, p.1 ∈ c.e ∧ p.2 ∈ c.e := by
  obtain ⟨j, c, t, hc, _, hpa⟩ := (mem_pairsL_iff cs ts p).1 hp
  have hm := List.mem_of_getElem? hc
  exact ⟨c, hm, mem_arcs (hwf c hm) hpa⟩

def statePairs (l : Link) (s : Nat) : List (Nat × Nat) := pairsL l.toList (resTypes l.toList s)

theorem resolvedTypes_getElem! (L : Link) (s : Nat) (i : Nat) (hi : i < L.size) :
    (resTypes L.toList s)[i]? = some (resolvedTypes L s)[i]! := by
  have hs := resolvedTypes_size L s
  rw [← resolvedTypes_toList, getElem!_pos _ i (by omega)]
  simp [hs, hi]

theorem toList_getElem? (l : Link) (i : Nat) (hi : i < l.size) : l.toList[i]? = some l[i]! := by
  rw [getElem!_pos l i hi]; simp [hi]

theorem mem_statePairs (L : Link) (s : Nat) (p : Nat × Nat) :
    p ∈ statePairs L s ↔ ∃ i, i < L.size ∧ p ∈ arcs L[i]! (resolvedTypes L s)[i]! := by
  unfold statePairs
  rw [mem_pairsL_iff]
  constructor
  · rintro ⟨j, c, t, h1, h2, h3⟩
    have hj : j < L.size := by simpa using (List.getElem?_eq_some_iff.1 h1).1
    rw [toList_getElem? L j hj] at h1
    rw [resolvedTypes_getElem! L s j hj] at h2
    cases h1; cases h2
    exact ⟨j, hj, h3⟩
  · rintro ⟨i, hi, h⟩
    exact ⟨i, _, _, toList_getElem? L i hi, resolvedTypes_getElem! L s i hi, h⟩

theorem mem_statePairs_unres (l : Link) (hun : ∀ c ∈ l.toList, c.ct.isResolved = false) (s : Nat) (p : Nat × Nat) :
    p ∈ statePairs l s ↔ ∃ i, i < l.size ∧ p ∈ arcs l[i]! (l[i]!.ct.resolve (s.testBit i)) := by
  rw [mem_statePairs]
  refine exists_congr fun i => and_congr_right fun hi => ?_
  have h := resolvedTypes_getElem! l s i hi
  rw [resTypes_get _ hun, toList_getElem? l i hi] at h
  rw [← Option.some.inj h]

theorem inv_unionAll (l : Link) (hwf : WF l) (s : Nat) :
    Inv (edgeLabels l) (unionAll l (edgeLabels l) (resolvedTypes l s)) (statePairs l s) := by
  rw [unionAll_eq _ _ _ (resolvedTypes_size l s).symm, resolvedTypes_toList]
  have := (Inv.init (edgeLabels l)).fold (statePairs l s) (fun p hp => by
    obtain ⟨c, hc, h1, h2⟩ := mem_pairsL (fun c hc => hwf c (by simpa using hc)) hp
    exact ⟨(mem_edgeLabels l _).mpr ⟨c, by simpa using hc, h1⟩, (mem_edgeLabels l _).mpr ⟨c, by simpa using hc, h2⟩⟩)
  simpa [statePairs] using this

def LeInv (comp : Array Nat) (n : Nat) : Prop := ∀ x, x < n → comp[x]! ≤ x

theorem LeInv.init (n : Nat) : LeInv (Array.range n) n := by
  intro x hx
  rw [getElem!_pos _ x (by simpa using hx)]
  simp

theorem LeInv.step {comp : Array Nat} {n : Nat} (h : LeInv comp n) (a b : Nat) : LeInv (mergeStep comp a b) n := by
  intro x hx
  have := h x hx
  rw [mergeStep_get]
  split
  · rename_i hc
    have := Nat.min_le_left comp[a]! comp[b]!
    have := Nat.le_max_left comp[a]! comp[b]!
    omega
  · exact this

theorem LeInv.unionPairs {n : Nat} (labels : Array Nat) (P : List (Nat × Nat)) {comp : Array Nat}
    (h : LeInv comp n) : LeInv (unionPairs labels P comp) n := by
  induction P generalizing comp with
  | nil => simpa [C04Inv.unionPairs] using h
  | cons p P ih =>
    have := ih (h.step (indexOf labels p.1) (indexOf labels p.2))
    simpa [C04Inv.unionPairs] using this

theorem leInv_unionAll (l : Link) (labels : Array Nat) (s : Nat) :
    LeInv (unionAll l labels (resolvedTypes l s)) labels.size := by
  rw [unionAll_eq _ _ _ (resolvedTypes_size l s).symm]
  exact (LeInv.init labels.size).unionPairs labels _

theorem circF_size_le (labels comp : Array Nat) : (circF labels comp).size ≤ labels.size := by
  unfold circF
  simp only [List.size_toArray, List.length_map]
  exact Nat.le_trans (List.length_filter_le _ _) (by simp)

theorem circF_nodup (labels comp : Array Nat) (hnd : labels.toList.Nodup) : (circF labels comp).toList.Nodup := by
  unfold circF
  simp only []
  rw [List.Nodup, List.pairwise_map]
  refine List.Pairwise.imp_of_mem (fun {r r'} hr hr' hne heq => hne ?_)
    ((List.nodup_range' (step := 1) (by omega)).filter _)
  simp only [List.mem_filter, List.mem_range', beq_iff_eq] at hr hr'
  obtain ⟨⟨k, hk, rfl⟩, hroot⟩ := hr
  obtain ⟨⟨k', _, rfl⟩, hroot'⟩ := hr'
  simp only [Nat.zero_add, Nat.one_mul] at *
  -- labels[k] lies in the first array, hence in the second
  have hmem : labels[k]! ∈ (((List.range' 0 labels.size).filter (fun x => comp[x]! == k)).map (fun x => labels[x]!)) := by
    refine List.mem_map.2 ⟨k, ?_, rfl⟩
    simp [List.mem_range', hk, hroot]
  have heq' := congrArg Array.toList heq
  simp only [] at heq'
  rw [heq'] at hmem
  obtain ⟨x, hx, hxe⟩ := List.mem_map.1 hmem
  simp only [List.mem_filter, List.mem_range', beq_iff_eq] at hx
  obtain ⟨⟨j, hj, rfl⟩, hcx⟩ := hx
  simp only [Nat.zero_add, Nat.one_mul] at *
  rw [getElem!_pos labels j hj, getElem!_pos labels k hk] at hxe
  have : j = k := (List.getElem_inj (xs := labels.toList) (h₀ := by simpa using hj) (h₁ := by simpa using hk) hnd).mp
    (by simpa using hxe)
  subst this
  omega

end Yuiv.C04Inv
