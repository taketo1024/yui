import Yuiv.Proofs.C04Closure
import Yuiv.Proofs.C04ReidR1
/-
C04Reid (helper, no property theorem here): Markov stabilisation (Reidemeister I in braid form).
`closure (n+1) (w ++ [s])` with `|s| = n` versus `closure n w`.
-/
open Yuiv.KhRef Yuiv.C04
namespace Yuiv.C04Inv
open Yuiv.C18 (closureStep closure hasFreeLoop CInv PD flatPD)
open Yuiv.C18Bridge (toKh)

variable {R : Type} [CommRing R]

/-- the shift of the labels `≥ n` by one (one more top label) -/
def sh1 (n z : Nat) : Nat := if n ≤ z then z + 1 else z

theorem sh1_inj (n : Nat) : Function.Injective (sh1 n) := by
  intro u v h
  unfold sh1 at h
  split at h <;> split at h <;> omega

theorem sh1_ne (n z : Nat) : sh1 n z ≠ n := by
  unfold sh1; split <;> omega

theorem sh1_ge (n z : Nat) (h : n ≤ z) : sh1 n z = z + 1 := if_pos h

theorem range_succ_sh1 (n : Nat) : List.range (n + 1) = (List.range n).map (sh1 n) ++ [n] := by
  rw [List.range_succ]
  congr 1
  apply List.ext_getElem (by simp)
  intro i h1 h2
  simp only [List.getElem_range, List.getElem_map]
  unfold sh1
  rw [if_neg (by simp at h1; omega)]

/-- collapse of the closing arc of the new strand -/
def fTop (c' n z : Nat) : Nat := if z = c' + 1 then n else z

/-- the crossing written by the last letter `s = ±n` -/
def lastX (s : Int) (a' c' n : Nat) : Nat × Nat × Nat × Nat :=
  if s > 0 then (a', c', c' + 1, n) else (n, a', c', c' + 1)

theorem markov_state (n : Nat) (w : List Int) (s : Int) (st : Nat × List Nat × PD)
    (hf : w.foldlM closureStep (n, List.range n, []) = .ok st) (hI : CInv n st) (hs : s.natAbs = n) (hn : 0 < n) :
    ∃ b0, st.2.1[n - 1]? = some b0 ∧
      (w ++ [s]).foldlM closureStep (n + 1, List.range (n + 1), []) =
        .ok (st.1 + 1 + 2, (st.2.1.map (sh1 n)).set (n - 1) (st.1 + 1) ++ [st.1 + 1 + 1],
          st.2.2.map (map4 (sh1 n)) ++ [lastX s (sh1 n b0) (st.1 + 1) n]) := by
  have hlen := hI.len
  have hle := hI.le
  obtain ⟨pd2, hpd, hsim⟩ := gsim_fold_right (sh1 n) 1 n (sh1_ge n) [n] w (n, List.range n, []) st (Nat.le_refl _) hf
  simp only [List.nil_append] at hpd
  have hsim' := hsim []
  simp only [List.nil_append, ← range_succ_sh1, ← hpd] at hsim'
  have hb0 : n - 1 < st.2.1.length := by omega
  refine ⟨st.2.1[n - 1], List.getElem?_eq_getElem hb0, ?_⟩
  refine foldlM_append_ok.2 ⟨_, hsim', ?_⟩
  simp only [List.foldlM_cons, List.foldlM_nil]
  have e1 : (st.2.1.map (sh1 n) ++ [n])[n - 1]? = some (sh1 n st.2.1[n - 1]) := by
    rw [List.getElem?_append_left (by simpa using hb0), List.getElem?_map, List.getElem?_eq_getElem hb0]; rfl
  have e2 : (st.2.1.map (sh1 n) ++ [n])[n - 1 + 1]? = some n := by
    rw [List.getElem?_append_right (by simp; omega)]
    have : n - 1 + 1 - (st.2.1.map (sh1 n)).length = 0 := by simp; omega
    rw [this]; rfl
  have h0 : s.natAbs ≠ 0 := by omega
  simp only [closureStep, hs, if_neg (by omega : ¬ n = 0), e1, e2, bind, Res.bind, pure]
  have e3 : ((st.2.1.map (sh1 n) ++ [n]).set (n - 1) (st.1 + 1)).set (n - 1 + 1) (st.1 + 1 + 1)
      = (st.2.1.map (sh1 n)).set (n - 1) (st.1 + 1) ++ [st.1 + 1 + 1] := by
    rw [List.set_append_left _ _ (by simpa using hb0), List.set_append, if_neg (by simp; omega)]
    have : n - 1 + 1 - ((st.2.1.map (sh1 n)).set (n - 1) (st.1 + 1)).length = 0 := by simp; omega
    rw [this]; rfl
  rw [e3]
  rfl

theorem rawLinkP_perm_snoc (A : PD) (u : Nat × Nat × Nat × Nat) (ps : List (Nat × Nat)) :
    (rawLinkP (A ++ [u]) ps).toList.Perm (pdX u :: (rawLinkP A ps).toList) := by
  simpa using rawLinkP_perm_mid A [u] [] ps

theorem pmap_fix (f : Nat → Nat) (ps : List (Nat × Nat)) (h : ∀ p ∈ ps, f p.1 = p.1 ∧ f p.2 = p.2) :
    ps.map (pmap f) = ps := by
  have : ∀ p ∈ ps, pmap f p = p := by
    intro p hp
    unfold pmap; rw [(h p hp).1, (h p hp).2]
  rw [List.map_congr_left this, List.map_id']

theorem markov_stateSum (x y : R) (n : Nat) (w : List Int) (s : Int) (l : C18.Link)
    (h : closure n w = .ok l) (hs : s.natAbs = n) (hn : 0 < n) :
    ∃ l', closure (n + 1) (w ++ [s]) = .ok l' ∧
      stateSum x y (toKh l') = (if s > 0 then y + x else 1 + x * y) * stateSum x y (toKh l) := by
  obtain ⟨st, hf, hfl, hsO, _⟩ := closure_stateSum x y n w l h
  have hI := C18.cinv_foldl n w _ st (C18.cinv_init n) hf
  obtain ⟨b0, hb0, hfN⟩ := markov_state n w s st hf hI hs hn
  obtain ⟨hnd, hlt, hpdlt, hlab⟩ := cinv_facts hI
  obtain ⟨c, bot, pd⟩ := st
  simp only at hb0 hfN hfl hsO hnd hlt hpdlt hlab
  have hlen : bot.length = n := hI.len
  have hnc : n ≤ c := hI.le
  have hne := C18.hasFreeLoop_false bot hfl
  have hb0m : b0 ∈ bot := List.mem_of_getElem? hb0
  have hb0c : b0 < c := hlt b0 hb0m
  have sh1_le : ∀ z, z < c → sh1 n z ≤ c := by intro z hz; unfold sh1; split <;> omega
  -- labels of the shifted old code
  have L1 : ∀ z ∈ flatPD (pd.map (map4 (sh1 n))), z ≤ c ∧ z ≠ n := by
    intro z hz
    rw [flatPD_map4] at hz
    obtain ⟨z', hz', rfl⟩ := List.mem_map.1 hz
    exact ⟨sh1_le z' (hpdlt z' hz'), sh1_ne n z'⟩
  have L2 : ∀ p ∈ ((bot.map (sh1 n)).set (n - 1) (c + 1)).zipIdx, p.1 ≤ c + 1 ∧ p.1 ≠ n ∧ p.2 < n := by
    intro p hp
    obtain ⟨_, h2, h3⟩ := List.mem_zipIdx (x := p.1) (i := p.2) (k := 0) hp
    have hmem : p.1 ∈ (bot.map (sh1 n)).set (n - 1) (c + 1) := h3 ▸ List.getElem_mem _
    refine ⟨?_, ?_, by simpa [hlen] using h2⟩
    · rcases List.mem_or_eq_of_mem_set hmem with h | h
      · obtain ⟨z', hz', e⟩ := List.mem_map.1 h
        have := sh1_le z' (hlt z' hz'); omega
      · omega
    · rcases List.mem_or_eq_of_mem_set hmem with h | h
      · obtain ⟨z', hz', e⟩ := List.mem_map.1 h
        rw [← e]; exact sh1_ne n z'
      · omega
  -- the new closure exists
  have hflN : hasFreeLoop ((bot.map (sh1 n)).set (n - 1) (c + 1) ++ [c + 1 + 1]) = false := by
    apply hasFreeLoop_of_ne
    intro i hi
    rw [List.length_append, List.length_set, List.length_map, hlen] at hi
    by_cases hin : i = n
    · subst hin
      rw [List.getElem_append_right (by simp [hlen])]
      simp only [List.getElem_singleton]
      omega
    · have hil : i < bot.length := by simp only [List.length_cons, List.length_nil] at hi; omega
      rw [List.getElem_append_left (by simpa using hil), List.getElem_set]
      split
      · omega
      · have := hne i hil
        rw [List.getElem_map]
        unfold sh1
        split <;> omega
  obtain ⟨l', hl'⟩ := closure_of_state (n + 1) _ _ hfN hflN
  refine ⟨l', hl', ?_⟩
  obtain ⟨stN, hfN', _, hsN, _⟩ := closure_stateSum x y (n + 1) _ l' hl'
  rw [hfN] at hfN'
  cases hfN'
  simp only at hsN
  rw [hsN, hsO]
  -- stage 1: collapse the closing arc of the new strand
  have hz1 : ((bot.map (sh1 n)).set (n - 1) (c + 1) ++ [c + 1 + 1]).zipIdx
      = ((bot.map (sh1 n)).set (n - 1) (c + 1)).zipIdx ++ [(c + 1 + 1, n)] := by
    rw [List.zipIdx_append]; simp [hlen]
  have hXn : n ∈ flatPD (pd.map (map4 (sh1 n)) ++ [lastX s (sh1 n b0) (c + 1) n]) := by
    rw [C18.flatPD_append]; apply List.mem_append_right
    unfold lastX flatPD; split <;> simp
  have fn : fTop (c + 1) n n = n := by unfold fTop; rw [if_neg (by omega)]
  have fc : fTop (c + 1) n (c + 1 + 1) = n := by simp [fTop]
  have hfil : (((bot.map (sh1 n)).set (n - 1) (c + 1)).zipIdx ++ [(c + 1 + 1, n)]).filter (fun p => !(p.2 == n))
      = ((bot.map (sh1 n)).set (n - 1) (c + 1)).zipIdx := by
    rw [List.filter_append, List.filter_eq_self.2 (fun p hp => by have := (L2 p hp).2.2; simp; omega)]
    simp
  have hsel : ∀ p ∈ ((bot.map (sh1 n)).set (n - 1) (c + 1)).zipIdx ++ [(c + 1 + 1, n)], (p.2 == n) = true →
      p = (c + 1 + 1, n) := by
    intro p hp hf
    rcases List.mem_append.1 hp with h | h
    · have := (L2 p h).2.2; simp at hf; omega
    · simpa using h
  rw [hz1, collapse_closing x y _ _ (fun p => p.2 == n) (fTop (c + 1) n)
    (fun p hp hf => by rw [hsel p hp hf, fc, fn])
    (fun z => by
      by_cases hz : z = c + 1 + 1
      · exact Or.inr ⟨(c + 1 + 1, n), by simp, by simp, Or.inl ⟨hz.symm, by rw [hz, fc]⟩⟩
      · left; unfold fTop; rw [if_neg hz])
    (fun p hp hf => by
      rw [hsel p hp hf, fc]
      exact ⟨n, (mem_labelSet_rawLinkP _ _ n).2 (Or.inl hXn), fn⟩), hfil]
  -- the renamed last crossing is a kink crossing
  have fle : ∀ z, z ≤ c + 1 → fTop (c + 1) n z = z := by intro z hz; unfold fTop; rw [if_neg (by omega)]
  have hpdF : (pd.map (map4 (sh1 n)) ++ [lastX s (sh1 n b0) (c + 1) n]).map (map4 (fTop (c + 1) n))
      = pd.map (map4 (sh1 n)) ++ [if s > 0 then (sh1 n b0, c + 1, n, n) else (n, sh1 n b0, c + 1, n)] := by
    rw [List.map_append, map4_fix _ _ (fun z hz => fle z (by have := (L1 z hz).1; omega))]
    congr 1
    have e1 := fle (sh1 n b0) (by have := sh1_le b0 hb0c; omega)
    have e2 := fle (c + 1) (Nat.le_refl _)
    have e3 := fle n (by omega)
    have e4 : fTop (c + 1) n (c + 1 + 1) = n := by simp [fTop]
    unfold lastX
    split <;> simp [map4, e1, e2, e3, e4]
  have hpsF : (((bot.map (sh1 n)).set (n - 1) (c + 1)).zipIdx).map (pmap (fTop (c + 1) n))
      = ((bot.map (sh1 n)).set (n - 1) (c + 1)).zipIdx :=
    pmap_fix _ _ (fun p hp => ⟨fle _ (L2 p hp).1, fle _ (by have := (L2 p hp).2.2; omega)⟩)
  rw [hpdF, hpsF]
  -- stage 2: the kink
  have hperm := rawLinkP_perm_snoc (pd.map (map4 (sh1 n)))
    (if s > 0 then (sh1 n b0, c + 1, n, n) else (n, sh1 n b0, c + 1, n)) ((bot.map (sh1 n)).set (n - 1) (c + 1)).zipIdx
  have hwf := WF_rawLinkP (pd.map (map4 (sh1 n))) ((bot.map (sh1 n)).set (n - 1) (c + 1)).zipIdx
  have hcol : ∀ z, z ≤ c → z ≠ n → collapse (sh1 n b0) (c + 1) n z = z :=
    fun z h1 h2 => collapse_other _ _ _ _ (by omega) h2
  have hren2 : renumber (collapse (sh1 n b0) (c + 1) n)
        (rawLinkP (pd.map (map4 (sh1 n))) ((bot.map (sh1 n)).set (n - 1) (c + 1)).zipIdx)
      = renumber (sh1 n) (rawLinkP pd bot.zipIdx) := by
    rw [renumber_rawLinkP, renumber_rawLinkP, map4_fix _ _ (fun z hz => hcol z (L1 z hz).1 (L1 z hz).2)]
    congr 1
    apply List.ext_getElem (by simp)
    intro k h1 h2
    have hk : k < bot.length := by simpa using h2
    simp only [List.getElem_map, List.getElem_zipIdx, List.getElem_set, pmap, Nat.zero_add]
    have ek : collapse (sh1 n b0) (c + 1) n k = k := hcol k (by omega) (by omega)
    have ek' : sh1 n k = k := by unfold sh1; rw [if_neg (by omega)]
    rw [ek, ek']
    congr 1
    split
    · rename_i hkk
      subst hkk
      rw [collapse_u]
      rw [List.getElem?_eq_getElem hk] at hb0
      rw [Option.some.inj hb0]
    · exact hcol _ (sh1_le _ (hlt _ (List.getElem_mem hk))) (sh1_ne n _)
  have he : sh1 n b0 ∈ labelSet (renumber (collapse (sh1 n b0) (c + 1) n)
      (rawLinkP (pd.map (map4 (sh1 n))) ((bot.map (sh1 n)).set (n - 1) (c + 1)).zipIdx)) := by
    rw [hren2, labelSet_renumber]
    refine ⟨b0, (mem_labelSet_rawLinkP _ _ _).2 (Or.inr ⟨(b0, n - 1), ?_, Or.inl rfl⟩), rfl⟩
    exact List.mem_zipIdx_iff_getElem?.2 hb0
  have hv : n ∉ labelSet (rawLinkP (pd.map (map4 (sh1 n))) ((bot.map (sh1 n)).set (n - 1) (c + 1)).zipIdx) := by
    rw [mem_labelSet_rawLinkP]
    rintro (h | ⟨p, hp, h | h⟩)
    · exact (L1 n h).2 rfl
    · exact (L2 p hp).2.1 h.symm
    · have := (L2 p hp).2.2; omega
  have hve : n ≠ sh1 n b0 := fun h => sh1_ne n b0 h.symm
  have hvu : n ≠ c + 1 := by omega
  have hold := stateSum_renumber x y (rawLinkP pd bot.zipIdx) (sh1_inj n).injOn (WF_rawLinkP _ _)
  by_cases hpos : s > 0
  · simp only [hpos, if_true] at hperm ⊢
    rw [kink_stateSum x y 1 hwf hperm he hv hve hvu, hren2, hold]
    rfl
  · simp only [hpos, if_false] at hperm ⊢
    rw [kink_stateSum x y 2 hwf hperm he hv hve hvu, hren2, hold]
    rfl

end Yuiv.C04Inv
