import Yuiv.Proofs.KhSnfUnitPhase
import Yuiv.Proofs.KhSnfDensePhase
import Yuiv.Proofs.KhSnfRows
import Yuiv.Proofs.KhSnfChain
import Yuiv.Proofs.KhSnfTrans
/-
KhSnf — assembly: the specification of `KhRef.smithInvariants` (helper; property theorems in `Props/KhSnf.lean`).
-/
namespace Yuiv.KhSnf
open Yuiv.KhRef Yuiv.C03Uct

theorem gcdStep_append (pre d : List Int) (ij : Nat × Nat) (hij : ij.1 < ij.2) (hj : ij.2 < d.length)
    {m n : Nat} {A : Matrix (Fin m) (Fin n) ℤ} (h : EquivDiag A (pre ++ d)) : EquivDiag A (pre ++ gcdStep d ij) := by
  unfold gcdStep
  simp only
  by_cases hg : ((Int.ofNat (Int.gcd (d.getD ij.1 0) (d.getD ij.2 0)) : Int) != 0) = true
  · rw [if_pos hg]
    have hg' : Int.gcd (d.getD ij.1 0) (d.getD ij.2 0) ≠ 0 := by
      intro e; rw [e] at hg; simp at hg
    have e : ∀ k, (pre ++ d).getD (pre.length + k) 0 = d.getD k 0 := fun k => by
      rw [List.getD_eq_getElem?_getD, List.getElem?_append_right (Nat.le_add_right ..), Nat.add_sub_cancel_left,
        ← List.getD_eq_getElem?_getD]
    have := equivDiag_gcd_pair h (pre.length + ij.1) (pre.length + ij.2) (by omega)
      (by rw [List.length_append]; omega) (by rw [e, e]; exact hg')
    rw [e, e] at this
    have s1 : ∀ (l : List Int) (k : Nat) (x : Int), (pre ++ l).set (pre.length + k) x = pre ++ l.set k x := by
      intro l k x
      rw [List.set_append_right _ _ (Nat.le_add_right ..), Nat.add_sub_cancel_left]
    rw [s1, s1] at this
    exact this
  · rw [if_neg hg]
    exact h

theorem equivDiag_chain {m n : Nat} {A : Matrix (Fin m) (Fin n) ℤ} (pre : List Int) (d : Array Int)
    (h : EquivDiag A (pre ++ d.toList)) : EquivDiag A (pre ++ (chain d).toList) := by
  rw [chain_eq_fold]
  have : ∀ (ps : List (Nat × Nat)) (l : List Int), l.length = d.size → (∀ p ∈ ps, p.1 < p.2 ∧ p.2 < d.size) →
      EquivDiag A (pre ++ l) → EquivDiag A (pre ++ ps.foldl gcdStep l) := by
    intro ps
    induction ps with
    | nil => intro l _ _ hl; exact hl
    | cons p ps ih =>
      intro l hlen hps hl
      rw [List.foldl_cons]
      have hp := hps p (by simp)
      apply ih
      · rw [Chain.gcdStep_length, hlen]
      · intro q hq; exact hps q (List.mem_cons_of_mem _ hq)
      · exact gcdStep_append pre l p hp.1 (by rw [hlen]; exact hp.2) hl
  exact this _ _ (by simp) (fun p hp => Chain.mem_chainPairs _ p hp) h

/-- The ones of a positive divisibility chain come first: an entry `x ≠ 1` divides everything after it, so no later entry is `1`.
Dropping the ones from the result of `chain` therefore needs no permutation of the diagonal. -/
theorem ones_prefix (l : List Int) (hpos : ∀ x ∈ l, 0 < x) (hdvd : l.Pairwise (fun x y => x ∣ y)) :
    l = List.replicate (l.length - (l.filter (fun x => x != 1)).length) 1 ++ l.filter (fun x => x != 1) := by
  induction l with
  | nil => rfl
  | cons x l ih =>
    have hle := List.length_filter_le (fun x => x != 1) l
    rw [List.pairwise_cons] at hdvd
    by_cases hx : x = 1
    · subst hx
      rw [List.filter_cons_of_neg (by simp), List.length_cons, Nat.succ_sub hle, List.replicate_succ, List.cons_append,
        ← ih (fun y hy => hpos y (List.mem_cons_of_mem _ hy)) hdvd.2]
    · have hall : (x :: l).filter (fun x => x != 1) = x :: l := by
        rw [List.filter_eq_self]
        intro y hy
        rcases List.mem_cons.1 hy with rfl | hy
        · simpa using hx
        · have h1 : y ≠ 1 := by
            rintro rfl
            exact hx (Int.eq_one_of_dvd_one (Int.le_of_lt (hpos x List.mem_cons_self)) (hdvd.1 1 hy))
          simpa using h1
      rw [hall, Nat.sub_self]
      rfl

/-- filtering a list is filtering its positions -/
theorem filter_eq_map_range {α : Type} [Inhabited α] (l : List α) (p : α → Bool) :
    l.filter p = ((List.range l.length).filter (fun k => p l[k]!)).map (fun k => l[k]!) := by
  have e : (List.range l.length).map (fun k => l[k]!) = l := by
    apply List.ext_getElem (by simp)
    intro i h1 h2
    simp [h2]
  conv_lhs => rw [← e, List.filter_map]
  rfl

theorem ginv_filter {m n A units} (rows0 : Array Row) (keep : Row → Bool)
    (hz : ∀ r, keep r = false → ∀ c, rval r c = 0) (G0 : GInv m n A rows0.size n (rowsFn rows0) units) :
    GInv m n A (rows0.filter keep).size n (rowsFn (rows0.filter keep)) units := by
  have hl : (rows0.filter keep).toList =
      ((List.range rows0.size).filter (fun k => keep rows0[k]!)).map (fun k => rows0[k]!) := by
    rw [Array.toList_filter, filter_eq_map_range]
    simp only [Array.length_toList, Array.getElem!_toList]
  have hs : (rows0.filter keep).size = ((List.range rows0.size).filter (fun k => keep rows0[k]!)).length := by
    rw [← Array.length_toList, hl, List.length_map]
  rw [hs]
  refine ginv_congr ?_ (ginv_keep _ (List.Nodup.filter _ List.nodup_range)
    (fun k hk => by simpa using (List.mem_filter.1 hk).1) (fun k hk hno c _ => hz _ (by simpa [hk] using hno) c) G0)
  intro p c hp _
  show rval rows0[_]! c = rval (rows0.filter keep)[p]! c
  rw [getElem!_pos _ p (hs ▸ hp), ← Array.getElem_toList]
  simp only [hl, List.getElem_map]
  rw [ListAux.getD_of_lt hp]

theorem smithInvariants_spec (n : Nat) (rows0 : Array Row) (hok : ∀ r ∈ rows0.toList, RowOK n r) :
    (smithInvariants rows0).2.size ≤ (smithInvariants rows0).1 ∧
    EquivDiag (matOf n rows0)
      (List.replicate ((smithInvariants rows0).1 - (smithInvariants rows0).2.size) 1 ++ (smithInvariants rows0).2.toList) ∧
    (∀ x ∈ (smithInvariants rows0).2.toList, 1 < x) ∧
    (smithInvariants rows0).2.toList.Pairwise (fun x y => x ∣ y) := by
  have hok00 : ∀ r ∈ (rows0.filter (fun r => decide (r.size > 0))).toList, RowOK n r := by
    intro r hr
    rw [Array.toList_filter] at hr
    exact hok r (List.mem_filter.1 hr).1
  have G00 : GInv rows0.size n (matOf n rows0) (rows0.filter (fun r => decide (r.size > 0))).size n
      (rowsFn (rows0.filter (fun r => decide (r.size > 0)))) 0 :=
    ginv_filter rows0 _
      (fun r hr => rval_eq_zero_of_size_zero r (by simpa using hr)) (ginv_init rows0.size n (rowsFn rows0))
  obtain ⟨hokU, GU⟩ := unitLoop_ginv ((rows0.filter (fun r => decide (r.size > 0))).size + 1)
    (rows0.filter (fun r => decide (r.size > 0))) 0 hok00 G00
  rw [smithInvariants_eq]
  simp only
  generalize unitLoop ((rows0.filter (fun r => decide (r.size > 0))).size + 1)
    (rows0.filter (fun r => decide (r.size > 0))) 0 = ru at hokU GU ⊢
  obtain ⟨rows, units⟩ := ru
  simp only at hokU GU ⊢
  by_cases hz : (rows.size == 0) = true
  · simp only [hz, if_true]
    have hz' : rows.size = 0 := by simpa using hz
    rw [hz'] at GU
    have := ginv_final 0 (Nat.le_refl 0) (Nat.zero_le n) (fun _ => 1) (fun _ h => absurd h (Nat.not_lt_zero _))
      (fun _ h => absurd h (Nat.not_lt_zero _)) (fun k _ hk => absurd hk (Nat.not_lt_zero _)) GU
    refine ⟨by simp, by simpa using this, by simp, by simp⟩
  · have hzf : (rows.size == 0) = false := by simpa using hz
    simp only [hzf, Bool.false_eq_true, if_false]
    obtain ⟨dS, dlt, dinj, dval, dzero⟩ := denseOf_spec n rows hokU
    have GD : GInv rows0.size n (matOf n rows0) rows.size (colsOf rows).size (afn (denseOf rows)) units := by
      have := ginv_cols (colsOf rows).size (fun c => (colsOf rows)[c]!) dlt dinj
        (by
          intro j _ hno k hk
          exact dzero j hno k hk) GU
      refine ginv_congr ?_ this
      intro k c hk hc
      exact (dval k c hk hc).symm
    obtain ⟨E1, hpos⟩ := denseDiag_equivDiag dS GD
    have E2 := equivDiag_chain (List.replicate units 1) (denseDiag (denseOf rows)) E1
    have hpos2 := chain_pos _ hpos
    have hdvd := chain_dvd' (denseDiag (denseOf rows))
    have hcs := chain_size (denseDiag (denseOf rows))
    generalize chain (denseDiag (denseOf rows)) = dg at E2 hpos2 hdvd hcs ⊢
    have hsz : (dg.filter (fun x => x != 1)).size ≤ dg.size := by
      rw [← Array.length_toList, Array.toList_filter, ← Array.length_toList]
      exact List.length_filter_le _ _
    have hpw : dg.toList.Pairwise (fun x y => x ∣ y) := by
      rw [List.pairwise_iff_getElem]
      intro i j hi hj hij
      have := hdvd i j hij (by rw [← hcs]; simpa using hj)
      rw [List.getD_eq_getElem?_getD, List.getD_eq_getElem?_getD, List.getElem?_eq_getElem hi,
        List.getElem?_eq_getElem hj] at this
      exact this
    refine ⟨by omega, ?_, ?_, ?_⟩
    · have hl1 : (dg.filter (fun x => x != 1)).size = (dg.toList.filter (fun x => x != 1)).length := by
        rw [← Array.length_toList, Array.toList_filter]
      have hl2 : dg.size = dg.toList.length := by simp
      have e : units + dg.size - (dg.filter (fun x => x != 1)).size =
          units + (dg.toList.length - (dg.toList.filter (fun x => x != 1)).length) := by
        omega
      rw [e, List.replicate_add, List.append_assoc, Array.toList_filter, ← ones_prefix dg.toList hpos2 hpw]
      exact E2
    · intro x hx
      rw [Array.toList_filter, List.mem_filter] at hx
      have h1 := hpos2 x hx.1
      have h2 : x ≠ 1 := by simpa using hx.2
      omega
    · rw [Array.toList_filter]
      exact List.Pairwise.filter _ hpw

end Yuiv.KhSnf
