import Yuiv.Proofs.C09Gen
/-
C09 — the hand-written code model of `SnfCalc` (`Yuiv/Model/C09.lean`: the mirrored primitives `sSwapRows … sRight`,
`gcdxW`, `rowNz/colNz`, `eliminateRow/Col/At`, `diagNormalizeStep`, …, about which C09Full / C09Euc prove shape,
termination and totality) IS the source text of `/repo/yui-matrix/src/dense/snf.rs`.

`Yuiv.GenSnf.*` (file `Yuiv/Gen/SnfFn.lean`) is regenerated from the Rust source by `tools/rs2lean_fn.py fn:snf` on every
`./check` run.  Each theorem states — for EVERY ring record `e : EOps α`, every sizes `m n`, every model state, both
values of the `debug_assert!` switch `dbg` and every amount of fuel — that a generated definition, run on the embedding
`ofSt` of a model state (all four transforms tracked) with in-range indices, equals the model's function, including the
panics (`debug_assert!((a*d - b*c).is_one())`, a non-invertible unit in `mul_row/mul_col`, `assert!(!x.is_zero())`,
"Detect endless loop") and fuel exhaustion.
-/
namespace Yuiv.C09Gen
open Yuiv Res Yuiv.Rust Yuiv.GenSnf Yuiv.C09

variable {α : Type} {m n : Nat}

attribute [local simp] mapR_ok mapR_panic mapR_err bind_assoc ite_bind assert_true assert_false Opt.unwrap
  get_in swap_rows_in swap_cols_in mul_row_in mul_col_in left_in right_in

theorem gen_swap_rows_eq (e : EOps α) (dbg : Bool) (s : St α m n) (i j : Fin m) :
    SnfCalc.swap_rows e dbg (ofSt s) i.1 j.1 = ok (ofSt (sSwapRows s i j)) := by
  unfold SnfCalc.swap_rows sSwapRows
  simp [ofSt]

theorem gen_swap_cols_eq (e : EOps α) (dbg : Bool) (s : St α m n) (i j : Fin n) :
    SnfCalc.swap_cols e dbg (ofSt s) i.1 j.1 = ok (ofSt (sSwapCols s i j)) := by
  unfold SnfCalc.swap_cols sSwapCols
  simp [ofSt]

theorem gen_mul_row_eq (e : EOps α) (dbg : Bool) (s : St α m n) (i : Fin m) (u : α) :
    SnfCalc.mul_row e dbg (ofSt s) i.1 u = mapR ofSt (sMulRow e s i u) := by
  unfold SnfCalc.mul_row sMulRow
  cases e.inv u <;> simp [ofSt]

theorem gen_mul_col_eq (e : EOps α) (dbg : Bool) (s : St α m n) (j : Fin n) (u : α) :
    SnfCalc.mul_col e dbg (ofSt s) j.1 u = mapR ofSt (sMulCol e s j u) := by
  unfold SnfCalc.mul_col sMulCol
  cases e.inv u <;> simp [ofSt]

theorem gen_left_elementary_eq (e : EOps α) (dbg : Bool) (s : St α m n) (a b c d : α) (i j : Fin m) :
    SnfCalc.left_elementary e dbg (ofSt s) (a, b, c, d) i.1 j.1 = mapR ofSt (sLeft e.toROps dbg s a b c d i j) := by
  unfold SnfCalc.left_elementary sLeft sLeftRaw detIsOne
  cases dbg <;> cases hd : e.isOne (e.sub (e.mul a d) (e.mul b c)) <;> simp [ofSt, hd]

theorem gen_right_elementary_eq (e : EOps α) (dbg : Bool) (s : St α m n) (a b c d : α) (i j : Fin n) :
    SnfCalc.right_elementary e dbg (ofSt s) (a, b, c, d) i.1 j.1 = mapR ofSt (sRight e.toROps dbg s a b c d i j) := by
  unfold SnfCalc.right_elementary sRight sRightRaw detIsOne
  cases dbg <;> cases hd : e.isOne (e.sub (e.mul a d) (e.mul b c)) <;> simp [ofSt, hd]

/-- the local `gcdx` wrapper -/
theorem gen_gcdx_eq (e : EOps α) (dbg : Bool) (x y : α) :
    SnfCalc.gcdx (m := m) (n := n) e dbg x y = gcdxW e x y := rfl

theorem gen_row_nz_eq (e : EOps α) (dbg : Bool) (s : St α m n) (i : Fin m) :
    SnfCalc.row_nz e dbg (ofSt s) i.1 = ok (rowNz e s.t i) := row_nz_eq' e dbg s i

theorem gen_col_nz_eq (e : EOps α) (dbg : Bool) (s : St α m n) (j : Fin n) :
    SnfCalc.col_nz e dbg (ofSt s) j.1 = ok (colNz e s.t j) := by
  unfold SnfCalc.col_nz colNz
  simp only [ofSt, Dense.column, j.2, dite_true, bind_ok, count_foldl, Nat.zero_add, List.filter_map, List.length_map]
  rfl

/-! ### `eliminate_row`, `eliminate_col`: the `for` loops with `continue` -/

theorem gen_eliminate_col_eq (e : EOps α) (dbg : Bool) (s : St α m n) (i : Fin m) (j : Fin n) :
    SnfCalc.eliminate_col e dbg (ofSt s) i.1 j.1 =
      mapR (fun r => (ofSt r.1, r.2)) (eliminateCol e dbg s i j) := by
  unfold SnfCalc.eliminate_col eliminateCol
  have key : ∀ (k : Nat) (h : k < m) (st : St α m n) (md : Bool),
      SnfCalc.eliminate_col_for1 e dbg i.1 j.1 k (ofSt st, md) =
        (mapR (fun r => (ofSt r.1, r.2)) (eliminateColStep e dbg i j (st, md) ⟨k, h⟩) >>= fun s' => ok (Ctl.next s')) := by
    intro k h st md
    unfold SnfCalc.eliminate_col_for1
    rw [eliminateColStep_eq]
    have hik : decide (i.1 = k) = decide (i = ⟨k, h⟩) := by simp [Fin.ext_iff]
    have hg := get_in st.t ⟨k, h⟩ j
    have hx := get_in st.t i j
    have hl := fun a b c d => gen_left_elementary_eq e dbg st a b c d i ⟨k, h⟩
    simp only [] at hg hx hl
    simp only [show (ofSt st).target = st.t from rfl, hik, hg, hx, hl, gen_gcdx_eq, bind_ok, mapR_eq_bind, bind_assoc,
      ite_bind]
    cases decide (i = ⟨k, h⟩) <;> simp only [Bool.false_or, Bool.true_or, Bool.false_eq_true, if_true, if_false]
  have hfr := forRange_eq_foldlM (fun r : St α m n × Bool => (ofSt r.1, r.2)) m (eliminateColStep e dbg i j)
    (SnfCalc.eliminate_col_for1 e dbg i.1 j.1) (s, false) (by
      intro k h st
      obtain ⟨st, md⟩ := st
      rw [key k h st md]
      simp only [mapR_eq_bind, bind_assoc, bind_ok])
  simp only [] at hfr
  simp only [hfr, mapR_eq_bind, bind_assoc, bind_ok]

theorem gen_eliminate_row_eq (e : EOps α) (dbg : Bool) (s : St α m n) (i : Fin m) (j : Fin n) :
    SnfCalc.eliminate_row e dbg (ofSt s) i.1 j.1 =
      mapR (fun r => (ofSt r.1, r.2)) (eliminateRow e dbg s i j) := by
  unfold SnfCalc.eliminate_row eliminateRow
  have key : ∀ (k : Nat) (h : k < n) (st : St α m n) (md : Bool),
      SnfCalc.eliminate_row_for1 e dbg i.1 j.1 k (ofSt st, md) =
        (mapR (fun r => (ofSt r.1, r.2)) (eliminateRowStep e dbg i j (st, md) ⟨k, h⟩) >>= fun s' => ok (Ctl.next s')) := by
    intro k h st md
    unfold SnfCalc.eliminate_row_for1
    rw [eliminateRowStep_eq]
    have hik : decide (j.1 = k) = decide (j = ⟨k, h⟩) := by simp [Fin.ext_iff]
    have hg := get_in st.t i ⟨k, h⟩
    have hx := get_in st.t i j
    have hl := fun a b c d => gen_right_elementary_eq e dbg st a b c d j ⟨k, h⟩
    simp only [] at hg hx hl
    simp only [show (ofSt st).target = st.t from rfl, hik, hg, hx, hl, gen_gcdx_eq, bind_ok, mapR_eq_bind, bind_assoc,
      ite_bind]
    cases decide (j = ⟨k, h⟩) <;> simp only [Bool.false_or, Bool.true_or, Bool.false_eq_true, if_true, if_false]
  have hfr := forRange_eq_foldlM (fun r : St α m n × Bool => (ofSt r.1, r.2)) n (eliminateRowStep e dbg i j)
    (SnfCalc.eliminate_row_for1 e dbg i.1 j.1) (s, false) (by
      intro k h st
      obtain ⟨st, md⟩ := st
      rw [key k h st md]
      simp only [mapR_eq_bind, bind_assoc, bind_ok])
  simp only [] at hfr
  simp only [hfr, mapR_eq_bind, bind_assoc, bind_ok]

/-! ### `eliminate_at`: the `while` loop, same fuel on both sides -/

theorem gen_eliminate_at_loop_eq (e : EOps α) (dbg : Bool) (i : Fin m) (j : Fin n) (fuel : Nat) (s : St α m n) :
    SnfCalc.eliminate_at_loop1 e dbg fuel i.1 j.1 (ofSt s) = mapR ofSt (eliminateAt e dbg i j fuel s) := by
  induction fuel generalizing s with
  | zero => rfl
  | succ f ih =>
    unfold SnfCalc.eliminate_at_loop1
    rw [eliminateAt_succ]
    simp only [gen_row_nz_eq, gen_col_nz_eq, bind_ok, gen_eliminate_col_eq, gen_eliminate_row_eq, mapR_eq_bind,
      bind_assoc, ih]
    cases decide (rowNz e s.t i > 1) <;> cases decide (colNz e s.t j > 1) <;>
      simp only [Bool.or_false, Bool.or_true, Bool.or_self, Bool.false_eq_true, if_true, if_false, bind_ok, ite_bind,
        bind_panic, bind_assoc]

/-- `eliminate_at` with its `assert!(!self.target[(i, j)].is_zero())` -/
theorem gen_eliminate_at_eq (e : EOps α) (dbg : Bool) (i : Fin m) (j : Fin n) (fuel : Nat) (s : St α m n) :
    SnfCalc.eliminate_at e dbg fuel (ofSt s) i.1 j.1 =
      if e.isZero (s.t.get i j) then .panic else mapR ofSt (eliminateAt e dbg i j fuel s) := by
  unfold SnfCalc.eliminate_at
  have hg := get_in s.t i j
  simp only [show (ofSt s).target = s.t from rfl, hg, bind_ok, gen_eliminate_at_loop_eq]
  cases e.isZero (s.t.get i j) <;> simp [assert_true, assert_false]

theorem gen_diag_normalize_step_eq (e : EOps α) (dbg : Bool) (s : St α m n) (i : Nat) (hm : i + 1 < m) (hn : i + 1 < n) :
    SnfCalc.diag_normalize_step e dbg (ofSt s) i =
      mapR (fun r => (ofSt r.1, r.2)) (diagNormalizeStep e dbg s i hm hn) := by
  unfold SnfCalc.diag_normalize_step
  rw [diagNormalizeStep_eq]
  have hx := get_in s.t ⟨i, Nat.lt_of_succ_lt hm⟩ ⟨i, Nat.lt_of_succ_lt hn⟩
  have hy := get_in s.t ⟨i + 1, hm⟩ ⟨i + 1, hn⟩
  have hl := fun a b c d => gen_left_elementary_eq e dbg s a b c d ⟨i, Nat.lt_of_succ_lt hm⟩ ⟨i + 1, hm⟩
  have hr := fun (s1 : St α m n) a b c d =>
    gen_right_elementary_eq e dbg s1 a b c d ⟨i, Nat.lt_of_succ_lt hn⟩ ⟨i + 1, hn⟩
  have h1 := gen_swap_rows_eq e dbg s ⟨i, Nat.lt_of_succ_lt hm⟩ ⟨i + 1, hm⟩
  have h2 := fun (s' : St α m n) => gen_swap_cols_eq e dbg s' ⟨i, Nat.lt_of_succ_lt hn⟩ ⟨i + 1, hn⟩
  simp only [] at hl hr h1 h2
  simp only [show (ofSt s).target = s.t from rfl, hx, hy, bind_ok, gen_gcdx_eq, hl, hr, h1, h2, mapR_eq_bind,
    bind_assoc, ite_bind]
  generalize s.t.get ⟨i, Nat.lt_of_succ_lt hm⟩ ⟨i, Nat.lt_of_succ_lt hn⟩ = x
  generalize s.t.get ⟨i + 1, hm⟩ ⟨i + 1, hn⟩ = y
  cases e.isZero x <;> cases e.isZero y <;>
    simp only [Bool.not_false, Bool.not_true, assert_true, assert_false, bind_ok, bind_panic, Bool.or_false,
      Bool.or_true, Bool.false_eq_true, if_true, if_false]

/-! ### `select_pivot`: the iterator chain `filter → map → min_by → map` is the model's "first minimal" fold -/

theorem gen_select_pivot_eq (e : EOps α) (dbg : Bool) (s : St α m n) (below : Nat) (j : Fin n) :
    SnfCalc.select_pivot e dbg (ofSt s) below j.1 = ok ((selectPivot e s.t below j).map Fin.val) :=
  select_pivot_eq' e dbg s below j

theorem gen_eliminate_step_eq (e : EOps α) (dbg : Bool) (fuel : Nat) (s : St α m n) (i : Fin m) (j : Fin n)
    (hi : i.1 < n) :
    SnfCalc.eliminate_step e dbg fuel (ofSt s) i.1 j.1 =
      mapR (fun o => match o with | none => (ofSt s, false) | some s3 => (ofSt s3, true))
        (eliminateStep e dbg fuel s i j hi) := by
  unfold SnfCalc.eliminate_step
  rw [gen_select_pivot_eq, eliminateStep_eq]
  cases hp : selectPivot e s.t i.1 j with
  | none => rfl
  | some ip =>
    simp only [Option.map_some, bind_ok, Option.isSome_some, if_true, Opt.unwrap]
    have hprep : (do
        let slf ← (if decide (ip.1 > i.1) then SnfCalc.swap_rows (m := m) (n := n) e dbg (ofSt s) i.1 ip.1 else ok (ofSt s))
        (if decide (j.1 > i.1) then SnfCalc.swap_cols (m := m) (n := n) e dbg slf i.1 j.1 else ok slf)) =
        ok (ofSt (stepPrep s i ip ⟨i.1, hi⟩ j)) := by
      unfold stepPrep
      by_cases h1 : ip.1 > i.1
      · have := gen_swap_rows_eq e dbg s i ip
        by_cases h2 : j.1 > i.1
        · have h3 := gen_swap_cols_eq e dbg (sSwapRows s i ip) ⟨i.1, hi⟩ j
          simp only [] at h3
          simp [h1, h2, this, h3]
        · simp [h1, h2, this]
      · by_cases h2 : j.1 > i.1
        · have h3 := gen_swap_cols_eq e dbg s ⟨i.1, hi⟩ j
          simp only [] at h3
          simp [h1, h2, h3]
        · simp [h1, h2]
    rw [← bind_assoc, hprep]
    generalize stepPrep s i ip ⟨i.1, hi⟩ j = s1
    have hg := get_in s1.t i ⟨i.1, hi⟩
    have hmc := gen_mul_col_eq e dbg s1 ⟨i.1, hi⟩ (e.normUnit (s1.t.get i ⟨i.1, hi⟩))
    have hat : ∀ s2 : St α m n, SnfCalc.eliminate_at e dbg fuel (ofSt s2) i.1 i.1 = _ := fun s2 =>
      gen_eliminate_at_eq e dbg i ⟨i.1, hi⟩ fuel s2
    simp only [] at hmc
    simp only [show (ofSt s1).target = s1.t from rfl, hg, bind_ok, hmc, hat, mapR_eq_bind, bind_assoc, ite_bind,
      bind_panic]

/-! ### `eliminate_all`: `for j in 0..n { if i >= m { break } … }` against the model's fold (which idles once `i ≥ m`) -/

theorem eliminateAllStep_done (e : EOps α) (dbg : Bool) (fuel : Nat) (s : St α m n) (i : Nat) (hi : m ≤ i)
    (l : List (Fin n)) : l.foldlM (eliminateAllStep e dbg fuel) (s, i) = ok (s, i) := by
  induction l with
  | nil => rfl
  | cons x xs ih =>
    have : eliminateAllStep e dbg fuel (s, i) x = ok (s, i) := by
      unfold eliminateAllStep
      have : ¬ (i < m ∧ i ≤ x.1) := by omega
      simp [this]
    simp [List.foldlM_cons, this, ih]

theorem gen_eliminate_all_loop_eq (e : EOps α) (dbg : Bool) (fuel : Nat) :
    ∀ (d k : Nat) (s : St α m n) (i : Nat), k + d = n → i ≤ k →
      Loop.forGo (SnfCalc.eliminate_all_for1 (m := m) (n := n) e dbg fuel m) d k (ofSt s, i) =
        (((List.finRange n).drop k).foldlM (eliminateAllStep e dbg fuel) (s, i) >>=
          fun si => ok ((ofSt si.1, si.2), true)) := by
  intro d
  induction d with
  | zero =>
    intro k s i hk _
    have : (List.finRange n).drop k = [] := by
      apply List.drop_eq_nil_of_le; simp; omega
    simp [Loop.forGo, this]
  | succ d ih =>
    intro k s i hk hik
    have hkn : k < n := by omega
    have hdrop : (List.finRange n).drop k = ⟨k, hkn⟩ :: (List.finRange n).drop (k + 1) := by
      rw [List.drop_eq_getElem_cons (by simpa using hkn)]
      simp
    rw [hdrop, List.foldlM_cons]
    unfold Loop.forGo SnfCalc.eliminate_all_for1
    by_cases him : i ≥ m
    · have hstep : eliminateAllStep e dbg fuel (s, i) ⟨k, hkn⟩ = ok (s, i) := by
        unfold eliminateAllStep
        have : ¬ (i < m ∧ i ≤ k) := by omega
        simp [this]
      simp [him, hstep, eliminateAllStep_done e dbg fuel s i him]
    · have him' : i < m := by omega
      have hst := gen_eliminate_step_eq e dbg fuel s ⟨i, him'⟩ ⟨k, hkn⟩ (by simp; omega)
      simp only [] at hst
      have hcond : i < m ∧ i ≤ k := ⟨him', hik⟩
      simp only [him, decide_false, Bool.false_eq_true, if_false, hst]
      rw [eliminateAllStep_eq, dif_pos hcond]
      simp only [mapR_eq_bind, bind_assoc, bind_ok]
      refine bind_congr fun o => ?_
      cases o with
      | none => exact ih (k + 1) s i (by omega) (by omega)
      | some s' => exact ih (k + 1) s' (i + 1) (by omega) (by omega)

theorem gen_eliminate_all_eq (e : EOps α) (dbg : Bool) (fuel : Nat) (s : St α m n) :
    SnfCalc.eliminate_all e dbg fuel (ofSt s) = mapR ofSt (eliminateAll e dbg fuel s) := by
  unfold SnfCalc.eliminate_all Loop.forRange
  rw [eliminateAll_eq]
  have := gen_eliminate_all_loop_eq e dbg fuel n 0 s 0 (by omega) (by omega)
  simp only [List.drop_zero] at this
  simp only [Nat.sub_zero, this, mapR_eq_bind, bind_assoc, bind_ok]

/-! ### `diag_normalize`: `r`, the `'outer` loop with its inner `for`, the final normalisation loop -/

/-- the number of leading non-zero diagonal entries, computed by `(0..n).filter(..).next().unwrap_or(n)` -/
theorem gen_first_zero_eq (e : EOps α) (dbg : Bool) (s : St α m n) :
    (Iter.filterM (SnfCalc.diag_normalize_closure1 (m := m) (n := n) e dbg (ofSt s)) (List.range' 0 (min m n - 0)) >>=
      fun r2 => ok (Opt.unwrap_or (List.head? r2) (min m n))) = ok (firstZeroDiag e s.t) := by
  have hf : Iter.filterM (SnfCalc.diag_normalize_closure1 (m := m) (n := n) e dbg (ofSt s)) (List.range' 0 (min m n - 0)) =
      ok ((List.range' 0 (min m n - 0)).filter fun i => e.isZero (dg e.toROps s.t i)) := by
    apply filterM_ok
    intro k hk
    have hk' : k < min m n := by have := List.mem_range'_1.1 hk; omega
    have h1 : k < m := Nat.lt_of_lt_of_le hk' (Nat.min_le_left m n)
    have h2 : k < n := Nat.lt_of_lt_of_le hk' (Nat.min_le_right m n)
    have := get_in s.t ⟨k, h1⟩ ⟨k, h2⟩
    simp only [] at this
    simp [SnfCalc.diag_normalize_closure1, ofSt, this, dg, h1, h2]
  rw [hf]
  simp only [bind_ok, firstZeroDiag, Nat.sub_zero, List.range_eq_range', Opt.unwrap_or, List.head?_filter]

theorem firstZeroDiag_le (e : EOps α) (T : Mat α m n) : firstZeroDiag e T ≤ min m n := by
  have key : ∀ o : Option Nat, (∀ x, o = some x → x < min m n) → o.getD (min m n) ≤ min m n := by
    intro o ho
    cases o with
    | none => simp
    | some x => simpa using Nat.le_of_lt (ho x rfl)
  unfold firstZeroDiag
  exact key _ (fun x hx => List.mem_range.1 (List.mem_of_find?_eq_some hx))

/-- one pass of the inner `for i in 0..r-1` (left by `continue 'outer` when a step reports `false`) -/
theorem gen_diag_pass_eq (e : EOps α) (dbg : Bool) (r : Nat) (hrm : r ≤ m) (hrn : r ≤ n) :
    ∀ (d cnt i : Nat) (s : St α m n), i + d + 1 = r → d ≤ cnt →
      Loop.forGo (SnfCalc.diag_normalize_for3 (m := m) (n := n) e dbg) d i (ofSt s) =
        mapR (fun p => (ofSt p.1, p.2)) (diagPass e dbg r cnt i s) := by
  intro d
  induction d with
  | zero =>
    intro cnt i s hi _
    cases cnt with
    | zero => rfl
    | succ c =>
      unfold diagPass
      have : ¬ (i + 1 < r ∧ i + 1 < m ∧ i + 1 < n) := by omega
      simp [Loop.forGo, this, mapR]
  | succ d ih =>
    intro cnt i s hi hc
    obtain ⟨c, rfl⟩ : ∃ c, cnt = c + 1 := ⟨cnt - 1, by omega⟩
    have hcond : i + 1 < r ∧ i + 1 < m ∧ i + 1 < n := by omega
    unfold Loop.forGo SnfCalc.diag_normalize_for3
    rw [diagPass_succ, dif_pos hcond]
    simp only [gen_diag_normalize_step_eq e dbg s i hcond.2.1 hcond.2.2, mapR_eq_bind, bind_assoc, bind_ok]
    refine bind_congr fun p => ?_
    cases p.2
    · rfl
    · exact ih c (i + 1) p.1 (by omega) (by omega)

theorem gen_diag_outer_eq (e : EOps α) (dbg : Bool) (r : Nat) (hr : 1 ≤ r) (hrm : r ≤ m) (hrn : r ≤ n) (fuel : Nat)
    (s : St α m n) :
    SnfCalc.diag_normalize_loop2 e dbg fuel r (ofSt s) = mapR ofSt (diagOuter e dbg r fuel s) := by
  induction fuel generalizing s with
  | zero => rfl
  | succ f ih =>
    unfold SnfCalc.diag_normalize_loop2 Loop.forRange
    rw [diagOuter_succ]
    have hsub : U64.sub r 1 = ok (r - 1) := by simp [U64.sub]; omega
    simp only [hsub, bind_ok, Nat.sub_zero, gen_diag_pass_eq e dbg r hrm hrn (r - 1) r 0 s (by omega) (by omega),
      mapR_eq_bind, bind_assoc, ih, ite_bind]

theorem gen_diag_normalize_eq (e : EOps α) (dbg : Bool) (fuel : Nat) (s : St α m n) :
    SnfCalc.diag_normalize e dbg fuel (ofSt s) = mapR ofSt (diagNormalize e dbg fuel s) := by
  unfold SnfCalc.diag_normalize
  rw [diagNormalize_eq]
  obtain ⟨r2, hr2, hfz⟩ := bind_eq_ok (gen_first_zero_eq e dbg s)
  have hfz := Res.ok.inj hfz
  have hle := firstZeroDiag_le e s.t
  have hassert : Res.assert (!dbg || isDiag e.toROps s.t) =
      if (dbg && !isDiag e.toROps s.t) = true then .panic else ok () := by
    cases dbg <;> cases isDiag e.toROps s.t <;> rfl
  simp only [show (ofSt s).target = s.t from rfl, hassert, hr2, hfz, bind_ok, ite_bind, bind_panic, mapR_eq_bind,
    decide_eq_true_eq]
  by_cases h0 : firstZeroDiag e s.t = 0
  · simp only [h0, if_true]
  · have hrm : firstZeroDiag e s.t ≤ m := Nat.le_trans hle (Nat.min_le_left m n)
    have hrn : firstZeroDiag e s.t ≤ n := Nat.le_trans hle (Nat.min_le_right m n)
    have hfor := fun s1 => forGo_eq_foldlM_range (ofSt (α := α) (m := m) (n := n)) (normalizeStep e)
      (SnfCalc.diag_normalize_for4 (m := m) (n := n) e dbg) (firstZeroDiag e s.t) 0 s1 (by
        intro k st _ hk
        have h1 : k < m := by omega
        have h2 : k < n := by omega
        have hg := get_in st.t ⟨k, h1⟩ ⟨k, h2⟩
        have hmr := gen_mul_row_eq e dbg st ⟨k, h1⟩ (e.normUnit (st.t.get ⟨k, h1⟩ ⟨k, h2⟩))
        simp only [] at hg hmr
        unfold SnfCalc.diag_normalize_for4 normalizeStep
        simp only [show (ofSt st).target = st.t from rfl, hg, bind_ok, h1, h2, and_self, dite_true, hmr, mapR_eq_bind,
          ite_bind, bind_assoc])
    unfold Loop.forRange
    simp only [h0, if_false, gen_diag_outer_eq e dbg _ (by omega) hrm hrn fuel s, Nat.sub_zero, hfor, mapR_eq_bind,
      bind_assoc, bind_ok, List.range_eq_range']

/-! ### `process` (the LLL–HNF preprocessing is the parameter `pre`, as in the model) -/

theorem gen_process_eq (e : EOps α) (dbg : Bool) (pre : St α m n → Res (St α m n))
    (pre' : SnfCalcS α m n → Res (SnfCalcS α m n)) (hpre : ∀ s, pre' (ofSt s) = mapR ofSt (pre s))
    (fuel : Nat) (A : Mat α m n) :
    SnfCalc.process e dbg pre' fuel (ofSt (St.init e.toROps A)) = mapR ofSt (snfCalc e dbg pre fuel A) := by
  unfold SnfCalc.process
  rw [snfCalc_eq]
  simp only [show (ofSt (St.init e.toROps A)).target = A from rfl, hpre, gen_eliminate_all_eq, gen_diag_normalize_eq,
    mapR_eq_bind, bind_assoc, bind_ok, ite_bind]

end Yuiv.C09Gen
