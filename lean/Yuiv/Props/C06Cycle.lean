import Yuiv.Proofs.C06CycleMain
import Yuiv.Proofs.C06CycleHyp
import Yuiv.Proofs.C06CycleEx
import Yuiv.Proofs.C18BridgeModel
/-
C06Cycle — THE LIFT of the local cycle lemma (`Props/C06Canon.canon_is_cycle_local`) to the cube reference:
`KhRef.Cube.d` applied to the canonical chain is the zero chain.  Property theorems only.

Setting (exactly the computation of the C06 driver, `Drv/C06.canonReply`): `t = 0`, any `h`; the cube is
`{ mkCube l ⟨h, 0, false⟩ with base := base }`, the differential `Cube.d` with parameters `⟨h, 0, base.isSome⟩`
(unreduced: `base = none`; reduced: the base-point filter of `Cube.d` is covered), the chain is
`chainOf s h cols = ⊗ over the circles of the state s of (X if colour a, X − h if colour b)` expanded into cube
generators, and `dOfChain` is the driver's own evaluation of `d z` (hash-map accumulation, zero entries dropped).

Hypotheses.
 * `validK l` (decidable): every crossing has four slots and every edge label occurs in exactly two slots.
   It is needed: with free ends, changing one smoothing need not merge or split circles (`X[1,2,3,4]`).
 * H = `bicoloured l (circles of s) cols` (decidable, on the reference's own circle list): every unresolved crossing
   touches exactly two circles of the state and these have different colours.  For the orientation preserving state
   and the BFS colouring of the Seifert circles this is the bipartiteness of the Seifert graph — a TOPOLOGICAL INPUT
   that is NOT proved in general (for braid closures: `Props/C06Closure.closure_bicoloured`); the driver evaluates it on every instance
   (`crossingsBicoloured`, on the walk-model Seifert circles), and `driver_hyp_gives_H` + `canon_cycles_dz` turn the
   driver's per-instance re-check `d z = 0` into a theorem under the driver's checks `hyp` and `sets`.
 * nothing else: the state `s` is arbitrary (`s < 2^n`), it need not be the orientation preserving one.

Structure: (i) `flipped_crossing_merges_arcs` / `oriented_state_edges_are_merges` — every cube edge out of `s` is a
merge of two differently coloured circles (parity argument on the 2-regular arc graph + union-find specification of
`KhRef.circles`); (ii)+(iii) `canon_edge_zero` — the edge map multiplies the two tensor factors and fixes the others,
and (X)(X − h) = 0 (`mergeColours_zero` of `Props/C06Canon`); (iv) `canon_is_cycle` — all edges together.
-/
namespace Yuiv.C06Cycle
open Yuiv Yuiv.KhRef Yuiv.C06Canon Yuiv.C04Inv Yuiv.Drv.C06

/-- the arc relation of the neighbouring state: flipping the `k`-th unresolved crossing `x` of a valid diagram from its
0- to its 1-resolution, where `a—b`, `c—d` are the arcs of `x` in `s` (`a, b, c, d` = the four slots of `x`): if the two
arcs lie on different circles of `s`, the circles of `s ||| 1 <<< k` are the circles of `s` with the circles of `a`
and of `c` merged into one, all others unchanged -/
theorem flipped_crossing_merges_arcs (l : Link) (hv : validK l = true) (s k : Nat) (hk : k < crossingNum l)
    (hb : s.testBit k = false) :
    ∃ (x : Crossing) (a b c d : Nat), x ∈ l ∧ x.ct.isResolved = false ∧ x.e.toList.Perm [a, b, c, d] ∧
      Conn (statePairs l s) a b ∧ Conn (statePairs l s) c d ∧
      (¬ Conn (statePairs l s) a c → ∀ u v, Conn (statePairs l (s ||| 1 <<< k)) u v ↔
        Conn (statePairs l s) u v ∨
          ((Conn (statePairs l s) u a ∨ Conn (statePairs l s) u c) ∧
           (Conn (statePairs l s) v a ∨ Conn (statePairs l s) v c))) := by
  obtain ⟨x, hxl, hxr, a, b, c, d, hperm, g⟩ := C01Sq.flip_geom l hv k hk
  exact ⟨x, a, b, c, d, hxl, hxr, hperm, (g s hb).a0, (g s hb).a0', (g s hb).M⟩

/-- the circle list computed by the reference is the list of classes of the arc relation, for every well-formed
diagram and every state (full content of `KhRef.circles`, not only its size) -/
theorem khref_circles_spec (l : Link) (hwf : WF l) (s : Nat) :
    CirclesSpec (edgeLabels l) (statePairs l s) (circles l (edgeLabels l) s) :=
  circles_spec l hwf s

/-- (i) under H every cube edge out of `s` is a MERGE: exactly two circles `i1 < i2` of `s` disappear, they have
different colours, exactly one circle `j0` of the neighbouring state is new, every other circle is common -/
theorem oriented_state_edges_are_merges (l : Link) (hv : validK l = true) (s k : Nat) (hk : k < crossingNum l)
    (hb : s.testBit k = false) (cols : List Colour)
    (H : bicoloured l (circles l (edgeLabels l) s) cols = true) :
    ∃ i1 i2 j0, i1 < i2 ∧ i2 < (circles l (edgeLabels l) s).size ∧
      j0 < (circles l (edgeLabels l) (s ||| 1 <<< k)).size ∧
      goneOf (circles l (edgeLabels l) s) (circles l (edgeLabels l) (s ||| 1 <<< k)) = #[i1, i2] ∧
      bornOf (circles l (edgeLabels l) s) (circles l (edgeLabels l) (s ||| 1 <<< k)) = #[j0] ∧
      cols.getD i1 .a ≠ cols.getD i2 .a :=
  edge_shape l hv s k hk hb cols H

/-- `Cube.d` (nested loops, early `return none`) equals its loop-free form, for ALL inputs -/
theorem khref_cube_d_functional (c : Cube) (p : Params) (g : Gen) :
    c.d p g = (dRaw c p g).map (fun out =>
      match c.base with
      | none => out.toArray
      | some _ => (out.filter (fun t => baseKeep c t.1)).toArray) :=
  cube_d_eq c p g

/-- the driver's re-check `dOfChain c p z = some []` means exactly: `d` is defined on every generator of `z` and every
target generator has total coefficient `0` in `d z` -/
theorem driver_dOfChain_meaning (c : Cube) (p : Params) (z : Chain) :
    dOfChain c p z = some [] ↔
      (∀ ga ∈ z, ∃ ts, c.d p ga.1 = some ts) ∧
      ∀ y, chainSum (fun g => ((c.d p g).getD #[]).toList) z y = 0 :=
  dOfChain_nil_iff c p z

/-- ONE EDGE: under H, along the cube edge `k` out of `s` (any labelling mask `m`, reduced or not) the edge map is
defined, it is the merge `prod` on the two circles `i1, i2` (`mergeTerms`), and the canonical chain of `cols` is sent
to `0`: every target generator `y` gets total coefficient `0` -/
theorem canon_edge_zero (l : Link) (hv : validK l = true) (h : Int) (base : Option Nat) (red : Bool) (s k : Nat)
    (hs : s < 2 ^ crossingNum l) (hk : k < crossingNum l) (hb : s.testBit k = false) (cols : List Colour)
    (hlen : cols.length = (circles l (edgeLabels l) s).size)
    (H : bicoloured l (circles l (edgeLabels l) s) cols = true) :
    ∃ i1 i2 j0,
      (∀ m, edgeTerms { mkCube l ⟨h, 0, false⟩ with base := base } ⟨h, 0, red⟩ ⟨s, m⟩ k =
        some (mergeTerms { mkCube l ⟨h, 0, false⟩ with base := base } h s k i1 i2 j0 m)) ∧
      ∀ y, ((chainOf s h cols).map (fun ga => ga.2 * termSum y
        ((edgeTerms { mkCube l ⟨h, 0, false⟩ with base := base } ⟨h, 0, red⟩ ga.1 k).getD []))).sum = 0 := by
  obtain ⟨i1, i2, j0, h12, h2, hg, hbn, hne⟩ :=
    cube_edge_data l hv ⟨h, 0, false⟩ base s hs cols cols hlen H (fun _ _ _ _ e => e) k hk hb
  exact ⟨i1, i2, j0, fun m => edgeTerms_merge _ h red s k i1 i2 j0 m hg hbn,
    edge_kills_chain _ h red s k i1 i2 j0 cols h12 h2 hg hbn hne⟩

/-- THE LIFT: for every valid diagram `l`, every `h` (with `t = 0`), unreduced or reduced at any base edge, every state
`s` and every colouring `cols` of its circles satisfying H, the driver's evaluation of `d` on the canonical chain
`chainOf s h cols` in the cube reference returns the zero chain -/
theorem canon_is_cycle (l : Link) (hv : validK l = true) (h : Int) (base : Option Nat) (red : Bool) (s : Nat)
    (hs : s < 2 ^ crossingNum l) (cols : List Colour)
    (hlen : cols.length = (circles l (edgeLabels l) s).size)
    (H : bicoloured l (circles l (edgeLabels l) s) cols = true) :
    dOfChain { mkCube l ⟨h, 0, false⟩ with base := base } ⟨h, 0, red⟩ (chainOf s h cols) = some [] :=
  chain_cycle_core l hv h base red s hs cols cols hlen H (fun _ _ _ _ e => e)

/-- the second canonical cycle (colours swapped) is a cycle under the same hypothesis -/
theorem canon_is_cycle_swapped (l : Link) (hv : validK l = true) (h : Int) (base : Option Nat) (red : Bool) (s : Nat)
    (hs : s < 2 ^ crossingNum l) (cols : List Colour)
    (hlen : cols.length = (circles l (edgeLabels l) s).size)
    (H : bicoloured l (circles l (edgeLabels l) s) cols = true) :
    dOfChain { mkCube l ⟨h, 0, false⟩ with base := base } ⟨h, 0, red⟩ (chainOf s h (cols.map Colour.other)) =
      some [] :=
  chain_cycle_core l hv h base red s hs cols (cols.map Colour.other) (by simpa using hlen) H
    (fun i1 i2 h1 h2 e => getD_map_other cols i1 i2 (by simpa using h1) (by simpa using h2) e)

/-- in coefficients (no hash map): `Cube.d` is defined on every generator of the canonical chain, and every target
generator has coefficient `0` in `d z` -/
theorem canon_is_cycle_coefficients (l : Link) (hv : validK l = true) (h : Int) (base : Option Nat) (red : Bool)
    (s : Nat) (hs : s < 2 ^ crossingNum l) (cols : List Colour)
    (hlen : cols.length = (circles l (edgeLabels l) s).size)
    (H : bicoloured l (circles l (edgeLabels l) s) cols = true) :
    (∀ ga ∈ chainOf s h cols, ∃ ts,
      ({ mkCube l ⟨h, 0, false⟩ with base := base } : Cube).d ⟨h, 0, red⟩ ga.1 = some ts) ∧
    ∀ y, chainSum (fun g =>
      ((({ mkCube l ⟨h, 0, false⟩ with base := base } : Cube).d ⟨h, 0, red⟩ g).getD #[]).toList)
        (chainOf s h cols) y = 0 :=
  (dOfChain_nil_iff _ _ _).1 (canon_is_cycle l hv h base red s hs cols hlen H)

/-- the hypothesis check of the driver (`crossingsBicoloured`, on the walk-model Seifert circles `cc`) gives H on the
cube's circle list, once the driver's `sets` check (sorted walk-model circles = cube circles) holds -/
theorem driver_hyp_gives_H (l : Link) (cc : List (Path × Colour)) (circ : Array (Array Nat))
    (hne : ∀ i, i < circ.size → circ[i]! ≠ #[])
    (hdisj : ∀ i j, i < circ.size → j < circ.size → ∀ x, x ∈ circ[i]! → x ∈ circ[j]! → i = j)
    (hsets : (((cc.map (fun pc => sortNat pc.1.edges)).toArray.qsort (fun x y => x.headD 0 < y.headD 0)).toList
                == circ.toList.map (·.toList)) = true)
    (hyp : crossingsBicoloured l cc = true) :
    bicoloured l circ (coloursInRefOrder cc circ.toList) = true := by
  have hQ := eq_of_beq hsets
  have hperm : (circ.toList.map (·.toList)).Perm (cc.map (fun pc => sortNat pc.1.edges)) := by
    rw [← hQ]
    simpa using Array.perm_iff_toList_perm.1
      (C04Inv.qsort_perm (cc.map (fun pc => sortNat pc.1.edges)).toArray (fun x y => x.headD 0 < y.headD 0))
  have hmP : ∀ (pc : Path × Colour) x, mP pc x = true ↔ x ∈ sortNat pc.1.edges := fun pc x => by
    rw [mem_sortNat]; exact List.contains_iff_mem
  have hmQ : ∀ (c : Array Nat) x, mQ c x = true ↔ x ∈ c.toList := fun c x => by
    rw [Array.mem_toList_iff]; exact Array.contains_iff_mem
  have hPQ : Cover mP mQ cc circ.toList :=
    cover_of_mem_map hmP hmQ fun pc hpc => hperm.mem_iff.2 (List.mem_map_of_mem hpc)
  have hQP : Cover mQ mP circ.toList cc :=
    cover_of_mem_map hmQ hmP fun d hd => hperm.mem_iff.1 (List.mem_map_of_mem hd)
  have hdQ : PDisj mQ circ.toList := by
    intro i j hi hj x hxi hxj
    rw [Array.length_toList] at hi hj
    apply hdisj i j hi hj x
    · simpa [mQ, hi] using hxi
    · simpa [mQ, hj] using hxj
  have hdP : PDisj mP cc := by
    apply pdisj_iff_pairwise.2
    have h1 := pdisj_iff_pairwise.1 hdQ
    have h2 : (circ.toList.map (·.toList)).Pairwise (fun a b => ∀ x, x ∈ a → x ∈ b → False) := by
      rw [List.pairwise_map]
      exact h1.imp fun h x hxa hxb => h x ((hmQ _ x).2 hxa) ((hmQ _ x).2 hxb)
    have h3 := (hperm.pairwise_iff (R := fun a b : List Nat => ∀ x, x ∈ a → x ∈ b → False)
      (by intro a b h x hxa hxb; exact h x hxb hxa)).1 h2
    rw [List.pairwise_map] at h3
    exact h3.imp fun h x hxa hxb => h x ((hmP _ x).1 hxa) ((hmP _ x).1 hxb)
  have hA : ∀ e, fidx mP cc e < cc.length → fidx mQ circ.toList e < circ.size :=
    fun e h => Array.length_toList ▸ fidx_transfer_lt hPQ h
  have hB : ∀ e e', fidx mP cc e < cc.length → fidx mP cc e = fidx mP cc e' →
      fidx mQ circ.toList e = fidx mQ circ.toList e' :=
    fun e e' h heq => fidx_transfer_eq hPQ hdQ h heq.symm
  have hC : ∀ e, fidx mP cc e < cc.length →
      (coloursInRefOrder cc circ.toList).getD (fidx mQ circ.toList e) .a = (cc[fidx mP cc e]!).2 :=
    fun e h => colour_eq hne hdQ hdP hQP (hA e h) h
  unfold bicoloured
  unfold crossingsBicoloured at hyp
  rw [Array.all_eq_true'] at hyp ⊢
  intro x hx
  have h := hyp x hx
  simp only [Bool.or_eq_true] at h ⊢
  rcases h with h | h
  · exact Or.inl h
  · right
    rw [show circleIdx circ = fidx mQ circ.toList from funext (circleIdx_eq circ)]
    simp only [driverIdx_eq] at h
    split at h
    · rename_i i j hd
      simp only [Bool.and_eq_true, decide_eq_true_eq, bne_iff_ne, ne_eq] at h
      exact bicol_step (colP := fun i => (cc[i]!).2)
        (colQ := fun a => (coloursInRefOrder cc circ.toList).getD a .a) hA hB hC hd h.1.1 h.1.2 h.2
    · simp at h

/-- `canonReply`'s `dz` check is implied by its `hyp` and `sets` checks: for a valid diagram with `signs` of the right
length, whatever cycles `canonCyclesAt` returns (none for links, one in the reduced, two in the unreduced theory), if
the coloured Seifert circles they were built from pass the driver's `crossingsBicoloured` test and agree (as sorted
edge sets) with the circles of the cube at the orientation preserving state, then `dOfChain` returns the zero chain
on every one of them — the expression `dzOk` of `Drv/C06.canonReply` is `true` -/
theorem canon_cycles_dz (l : Link) (hv : validK l = true) (signs : List Int) (hsl : signs.length = crossingNum l)
    (h : Int) (base : Option Nat) (zs : List Chain)
    (hz : canonCyclesAt l signs h base = .ok zs)
    (hchk : ∀ start cc, (match base with | some e => some e | none => firstEdge l) = some start →
      coloredSeifertCircles l signs start = .ok cc →
      crossingsBicoloured l cc = true ∧
      (((cc.map (fun pc => sortNat pc.1.edges)).toArray.qsort (fun x y => x.headD 0 < y.headD 0)).toList
        == ((({ mkCube l ⟨h, 0, false⟩ with base := base } : Cube).circ[oriPresState signs]!).toList.map
              (·.toList))) = true) :
    zs.all (fun z =>
      match dOfChain { mkCube l ⟨h, 0, false⟩ with base := base } ⟨h, 0, base.isSome⟩ z with
      | some [] => true
      | _ => false) = true := by
  have hs : oriPresState signs < 2 ^ crossingNum l := hsl ▸ oriPresState_lt signs
  rcases canonCyclesAt_cc l signs h base zs hz with rfl | ⟨_, start, cc, _, _, hstart, hcc, hzs⟩
  · rfl
  · obtain ⟨hyp, hsets⟩ := hchk start cc hstart hcc
    rw [KhRef.mkCube_circ l _ _ hs] at hsets
    have spec := circles_spec l (wf_of_validK l hv) (oriPresState signs)
    have hne : ∀ i, i < (circles l (edgeLabels l) (oriPresState signs)).size →
        (circles l (edgeLabels l) (oriPresState signs))[i]! ≠ #[] := by
      intro i hi e
      obtain ⟨x, hx⟩ := spec.nonempty hi
      rw [e] at hx
      simp at hx
    have hdisj : ∀ i j, i < (circles l (edgeLabels l) (oriPresState signs)).size →
        j < (circles l (edgeLabels l) (oriPresState signs)).size →
        ∀ x, x ∈ (circles l (edgeLabels l) (oriPresState signs))[i]! →
          x ∈ (circles l (edgeLabels l) (oriPresState signs))[j]! → i = j :=
      fun i j hi hj x hxi hxj => spec.sep i j hi hj x x hxi hxj (Conn.refl x)
    have H := driver_hyp_gives_H l cc _ hne hdisj hsets hyp
    have hlen : (coloursInRefOrder cc (circles l (edgeLabels l) (oriPresState signs)).toList).length =
        (circles l (edgeLabels l) (oriPresState signs)).size := by
      simp [coloursInRefOrder]
    have c1 := canon_is_cycle l hv h base base.isSome _ hs _ hlen H
    have c2 := canon_is_cycle_swapped l hv h base base.isSome _ hs _ hlen H
    rw [hzs]
    cases hb : base.isSome
    · simp only [Bool.false_eq_true, if_false, List.all_cons, List.all_nil, Bool.and_true]
      rw [hb] at c1 c2
      rw [c1, c2]
      rfl
    · simp only [if_true, List.all_cons, List.all_nil, Bool.and_true]
      rw [hb] at c1
      rw [c1]

/-- the same with the signs the driver uses (`KhRef.crossingSigns l = some sg`, one sign per unresolved crossing, so the
orientation preserving state is a vertex of the cube): this is `canonReply l h base` — its `dz` flag is `true`
whenever its `hyp` and `sets` flags are, for every valid diagram -/
theorem canon_reply_dz (l : Link) (hv : validK l = true) (sg : Array Int) (hsg : crossingSigns l = some sg)
    (h : Int) (base : Option Nat) (zs : List Chain)
    (hz : canonCyclesAt l sg.toList h base = .ok zs)
    (hchk : ∀ start cc, (match base with | some e => some e | none => firstEdge l) = some start →
      coloredSeifertCircles l sg.toList start = .ok cc →
      crossingsBicoloured l cc = true ∧
      (((cc.map (fun pc => sortNat pc.1.edges)).toArray.qsort (fun x y => x.headD 0 < y.headD 0)).toList
        == ((({ mkCube l ⟨h, 0, false⟩ with base := base } : Cube).circ[oriPresState sg.toList]!).toList.map
              (·.toList))) = true) :
    zs.all (fun z =>
      match dOfChain { mkCube l ⟨h, 0, false⟩ with base := base } ⟨h, 0, base.isSome⟩ z with
      | some [] => true
      | _ => false) = true :=
  canon_cycles_dz l hv sg.toList (by rw [Array.length_toList]; exact (C18Bridge.crossingSigns_out l sg hsg).1) h base zs hz hchk

/-! ### non-vacuity: the hypotheses hold for (mirror) trefoil and Hopf link, and the chains are not zero

`trefoilX` = `X[1,4,2,5] X[3,6,4,1] X[5,2,6,3]` has three negative crossings (`KhRef.crossingSigns`, see
`Props/C18Bridge`), its orientation preserving state is `0b111` — the top vertex, no edge leaves it; the mirror diagram
(`Xm`) has the orientation preserving state `0`, all three edges leave it.  Both have the Seifert circles
`{1,3,5}`, `{2,4,6}`.  Same for the Hopf link `X[4,1,3,2] X[2,3,1,4]` (circles `{1,3}`, `{2,4}`). -/

example : validK trefoilX = true ∧ validK trefoilM = true ∧ validK hopfX = true ∧ validK hopfM = true := by
  decide +kernel

example : circles trefoilM (edgeLabels trefoilM) 0 = #[#[1, 3, 5], #[2, 4, 6]] ∧
    bicoloured trefoilM (circles trefoilM (edgeLabels trefoilM) 0) [.a, .b] = true ∧
    bicoloured trefoilM (circles trefoilM (edgeLabels trefoilM) 0) [.a, .a] = false := by
  rw [edgeLabels_trefoilM]; decide +kernel

example : circles trefoilX (edgeLabels trefoilX) 7 = #[#[1, 3, 5], #[2, 4, 6]] ∧
    bicoloured trefoilX (circles trefoilX (edgeLabels trefoilX) 7) [.a, .b] = true := by
  rw [edgeLabels_trefoilX]; decide +kernel

example : circles hopfM (edgeLabels hopfM) 0 = #[#[1, 3], #[2, 4]] ∧
    bicoloured hopfM (circles hopfM (edgeLabels hopfM) 0) [.a, .b] = true ∧
    bicoloured hopfX (circles hopfX (edgeLabels hopfX) 3) [.b, .a] = true := by
  rw [edgeLabels_hopfM, edgeLabels_hopfX]; decide +kernel

/-- the instance of `canon_is_cycle` at the mirror trefoil, `h = 2`, state `0` (three merge edges leave it); the chain
is `−2·(X⊗1) + X⊗X ≠ 0` -/
example : dOfChain { mkCube trefoilM ⟨2, 0, false⟩ with base := none } ⟨2, 0, false⟩ (chainOf 0 2 [.a, .b]) = some [] ∧
    (chainOf 0 2 [.a, .b]).map (fun ga => (ga.1.s, ga.1.mask, ga.2)) = [(0, 1, -2), (0, 3, 1)] :=
  ⟨canon_is_cycle trefoilM (by decide +kernel) 2 none false 0 (by decide +kernel) [.a, .b]
      (by rw [edgeLabels_trefoilM]; decide +kernel) (by rw [edgeLabels_trefoilM]; decide +kernel),
    by decide +kernel⟩

/-- the instance at the mirror Hopf link, reduced theory based at edge `1` -/
example : dOfChain { mkCube hopfM ⟨3, 0, false⟩ with base := some 1 } ⟨3, 0, true⟩ (chainOf 0 3 [.b, .a]) = some [] :=
  canon_is_cycle hopfM (by decide +kernel) 3 (some 1) true 0 (by decide +kernel) [.b, .a]
    (by rw [edgeLabels_hopfM]; decide +kernel) (by rw [edgeLabels_hopfM]; decide +kernel)

/-- the parity argument at work: the two arcs of the first crossing of the mirror trefoil in the state `0` lie on the
different circles `{1,3,5}` and `{2,4,6}`, and the state `1` has the single circle `{1,…,6}` -/
example : circles trefoilM (edgeLabels trefoilM) 1 = #[#[1, 2, 3, 4, 5, 6]] ∧
    goneOf (circles trefoilM (edgeLabels trefoilM) 0) (circles trefoilM (edgeLabels trefoilM) 1) = #[0, 1] ∧
    bornOf (circles trefoilM (edgeLabels trefoilM) 0) (circles trefoilM (edgeLabels trefoilM) 1) = #[0] := by
  rw [edgeLabels_trefoilM]; decide +kernel

/-- validity is needed: the crossing with four free ends `freeX = X[1,2,3,4]` is neither merged nor split by changing
its smoothing (two circles gone, two born), and the reference's `d` is undefined there -/
example : validK freeX = false ∧
    goneOf (circles freeX (edgeLabels freeX) 0) (circles freeX (edgeLabels freeX) 1) = #[0, 1] ∧
    bornOf (circles freeX (edgeLabels freeX) 0) (circles freeX (edgeLabels freeX) 1) = #[0, 1] := by
  rw [edgeLabels_free]; decide +kernel

end Yuiv.C06Cycle
