import Yuiv.Model.C19
import Mathlib.Data.Matrix.Block
import Mathlib.LinearAlgebra.Matrix.Notation
import Mathlib.Algebra.CharP.Defs
import Mathlib.Algebra.CharP.Two
import Mathlib.Tactic.Ring
/- C19 — matrices over a ring of characteristic 2, and the two cases of the label involution `sinvEMap`. -/
namespace Yuiv.C19

theorem mat_add_self {n : Nat} {R : Type} [CommRing R] [CharP R 2] (a : Matrix (Fin n) (Fin n) R) : a + a = 0 := by
  ext i j; simp [CharTwo.add_self_eq_zero]

theorem mat_add_eq_zero {n : Nat} {R : Type} [CommRing R] [CharP R 2] (a b : Matrix (Fin n) (Fin n) R) :
    a + b = 0 ↔ a = b := by
  constructor
  · intro h
    have : a + b + b = b := by rw [h, zero_add]
    rw [add_assoc, mat_add_self, add_zero] at this
    exact this
  · rintro rfl; exact mat_add_self a

theorem sinvEMap_one (n : Nat) : sinvEMap n 1 = 1 := by
  unfold sinvEMap
  rw [Nat.add_sub_cancel, Nat.mod_self]

theorem sinvEMap_of_lt (n e : Nat) (he1 : 1 < e) (hen : e ≤ n) : sinvEMap n e = n + 2 - e := by
  unfold sinvEMap
  rw [Nat.mod_eq_of_lt (by omega)]
  omega

end Yuiv.C19
