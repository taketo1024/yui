import Yuiv.Proofs.C04Closure
/-
C04Markov (helper, no property theorem here): conjugation / cyclic rotation `w ++ [s]` versus `[s] ++ w`.
Both un-renamed codes (closing arcs as `H` crossings) are subdivisions of one and the same diagram: in `w ++ [s]` the
two outgoing edges of the last crossing are cut by the closing arcs at the positions `i`, `i+1`, in `[s] ++ w` the two
incoming edges of the first crossing are; `collapse_closing` removes them.
-/
open Yuiv.KhRef Yuiv.C04
namespace Yuiv.C04Inv
open Yuiv.C18 (closure CInv PD flatPD)
open Yuiv.C18Bridge (toKh)

variable {R : Type} [CommRing R]

theorem zipIdx_eq_map_range (l : List Nat) : l.zipIdx = (List.range l.length).map (fun k => (l.getD k 0, k)) := by
  apply List.ext_getElem (by simp)
  intro k h1 h2
  have hk : k < l.length := by simpa using h1
  simp [List.getD_eq_getElem?_getD, List.getElem?_eq_getElem hk]

/-- the relabelling of the run of `w` caused by a first letter on the strands `i`, `i+1` (width `n`) -/
def gC (i n z : Nat) : Nat := if z = i then n else if z = i + 1 then n + 1 else if n ≤ z then z + 2 else z

theorem gC_i (i n : Nat) : gC i n i = n := by simp [gC]
theorem gC_i1 (i n : Nat) : gC i n (i + 1) = n + 1 := by simp [gC]
theorem gC_ge (i n z : Nat) (hi : i + 1 < n) (hz : n ≤ z) : gC i n z = z + 2 := by
  unfold gC; rw [if_neg (by omega), if_neg (by omega), if_pos hz]
theorem gC_other (i n z : Nat) (h1 : z ≠ i) (h2 : z ≠ i + 1) (h3 : z < n) : gC i n z = z := by
  unfold gC; rw [if_neg h1, if_neg h2, if_neg (by omega)]
theorem gC_cases (i n z : Nat) (hi : i + 1 < n) :
    (z = i ∧ gC i n z = n) ∨ (z = i + 1 ∧ gC i n z = n + 1) ∨ (n ≤ z ∧ gC i n z = z + 2) ∨
      (z ≠ i ∧ z ≠ i + 1 ∧ z < n ∧ gC i n z = z) := by
  by_cases h1 : z = i
  · exact Or.inl ⟨h1, h1 ▸ gC_i i n⟩
  by_cases h2 : z = i + 1
  · exact Or.inr (Or.inl ⟨h2, h2 ▸ gC_i1 i n⟩)
  by_cases h3 : n ≤ z
  · exact Or.inr (Or.inr (Or.inl ⟨h3, gC_ge i n z hi h3⟩))
  · exact Or.inr (Or.inr (Or.inr ⟨h1, h2, by omega, gC_other i n z h1 h2 (by omega)⟩))

theorem gC_ne (i n z : Nat) (hi : i + 1 < n) : gC i n z ≠ i ∧ gC i n z ≠ i + 1 := by
  have := gC_cases i n z hi
  omega

theorem gC_inj (i n : Nat) (hi : i + 1 < n) : Function.Injective (gC i n) := by
  intro u v h
  have := gC_cases i n u hi
  have := gC_cases i n v hi
  omega

theorem gC_le (i n c z : Nat) (hi : i + 1 < n) (hnc : n ≤ c) (hz : z < c) : gC i n z ≤ c + 1 := by
  have := gC_cases i n z hi
  omega

theorem gC_eq_n (i n k : Nat) (hi : i + 1 < n) (hk : k < n) : (gC i n k = n ↔ k = i) ∧ (gC i n k = n + 1 ↔ k = i + 1) := by
  have := gC_cases i n k hi
  omega

theorem map4_stepX (f : Nat → Nat) (s : Int) (a b c : Nat) :
    map4 f (stepX s a b c) = if s > 0 then (f a, f c, f (c + 1), f b) else (f b, f a, f c, f (c + 1)) := by
  unfold stepX; split <;> rfl

/-- what is needed about the state `(c, bot, pd)` reached after `w`, and the strands `i`, `i+1` of the letter `s` -/
structure ConjFacts (n c i : Nat) (bot : List Nat) (pd : PD) (a b : Nat) : Prop where
  hlen : bot.length = n
  hi : i + 1 < n
  hnc : n ≤ c
  hlt : ∀ z ∈ bot, z < c
  hpd : ∀ z ∈ flatPD pd, z < c
  ea : bot[i]? = some a
  eb : bot[i + 1]? = some b
  htopi : i ∈ flatPD pd ∨ a = i
  htopi1 : i + 1 ∈ flatPD pd ∨ b = i + 1
  hsrca : a ∈ flatPD pd ∨ a = i
  hsrcb : b ∈ flatPD pd ∨ b = i + 1

/-- the closing arcs of the positions other than `i`, `i+1` -/
def restClose (n i : Nat) (bot : List Nat) : List (Nat × Nat) :=
  ((List.range n).filter (fun k => !(k == i || k == i + 1))).map (fun k => (gC i n (bot.getD k 0), k))

theorem mem_flatPD_map4 {f : Nat → Nat} {pd : PD} {z : Nat} (h : z ∈ flatPD pd) : f z ∈ flatPD (pd.map (map4 f)) := by
  rw [flatPD_map4]; exact List.mem_map.2 ⟨z, h, rfl⟩

theorem flatPD_stepX (s : Int) (a b c : Nat) : ∀ z, z ∈ flatPD [stepX s a b c] ↔ z = a ∨ z = b ∨ z = c ∨ z = c + 1 := by
  intro z
  unfold stepX flatPD
  split <;> simp <;> grind

/-- `[s] ++ w` : collapse the closing arcs at the positions `i`, `i+1` (into the first crossing) -/
theorem conjN (x y : R) {n c i : Nat} {bot : List Nat} {pd : PD} {a b : Nat} (s : Int)
    (F : ConjFacts n c i bot pd a b) :
    stateSum x y (rawLinkP ([stepX s i (i + 1) n] ++ pd.map (map4 (gC i n))) (bot.map (gC i n)).zipIdx)
      = stateSum x y (rawLinkP ([stepX s (gC i n a) (gC i n b) n] ++ pd.map (map4 (gC i n))) (restClose n i bot)) := by
  obtain ⟨hlen, hi, hnc, hlt, hpd, ea, eb, htopi, htopi1, hsrca, hsrcb⟩ := F
  have hmem : ∀ p, p ∈ (bot.map (gC i n)).zipIdx ↔ ∃ z, bot[p.2]? = some z ∧ p.1 = gC i n z := by
    intro p
    rw [List.mem_zipIdx_iff_getElem?, List.getElem?_map]
    cases bot[p.2]? <;> simp [eq_comm]
  let FN : Nat → Nat := fun z => if z = i then gC i n a else if z = i + 1 then gC i n b else z
  have FN_i : FN i = gC i n a := by simp [FN]
  have FN_i1 : FN (i + 1) = gC i n b := by simp [FN]
  have FN_o : ∀ z, z ≠ i → z ≠ i + 1 → FN z = z := by intro z h1 h2; simp [FN, h1, h2]
  have FN_g : ∀ z, FN (gC i n z) = gC i n z := fun z => FN_o _ (gC_ne i n z hi).1 (gC_ne i n z hi).2
  rw [collapse_closing x y _ _ (fun p => p.2 == i || p.2 == i + 1) FN]
  · apply congrArg
    apply rawLinkP_congr
    · rw [List.map_append, List.map_cons, List.map_nil, map4_fix FN (pd.map (map4 (gC i n)))]
      · congr 2
        rw [map4_stepX]
        unfold stepX
        rw [FN_i, FN_i1, FN_o n (by omega) (by omega), FN_o (n + 1) (by omega) (by omega)]
      · intro z hz
        rw [flatPD_map4] at hz
        obtain ⟨z', _, rfl⟩ := List.mem_map.1 hz
        exact FN_g z'
    · rw [zipIdx_eq_map_range, List.filter_map, List.map_map, List.length_map, hlen]
      unfold restClose
      rw [List.filter_congr (q := fun k => !(k == i || k == i + 1)) (by intro k _; rfl)]
      apply List.map_congr_left
      intro k hk
      rw [List.mem_filter, List.mem_range] at hk
      have hk1 : k ≠ i := by intro h; simp [h] at hk
      have hk2 : k ≠ i + 1 := by intro h; simp [h] at hk
      have hkl : k < bot.length := by omega
      simp only [Function.comp, pmap]
      rw [List.getD_eq_getElem?_getD, List.getElem?_map, List.getD_eq_getElem?_getD, List.getElem?_eq_getElem hkl]
      simp only [Option.map, Option.getD]
      rw [FN_g, FN_o k hk1 hk2]
  · intro p hp hf
    obtain ⟨z, hz, e⟩ := (hmem p).1 hp
    simp only [Bool.or_eq_true, beq_iff_eq] at hf
    rw [e, FN_g]
    rcases hf with h | h
    · rw [h] at hz ⊢; rw [ea] at hz; cases hz; exact FN_i.symm
    · rw [h] at hz ⊢; rw [eb] at hz; cases hz; exact FN_i1.symm
  · intro z
    by_cases h1 : z = i
    · right
      refine ⟨(gC i n a, i), (hmem _).2 ⟨a, ea, rfl⟩, by simp, Or.inr ⟨h1.symm, ?_⟩⟩
      rw [h1, FN_i]
    · by_cases h2 : z = i + 1
      · right
        refine ⟨(gC i n b, i + 1), (hmem _).2 ⟨b, eb, rfl⟩, by simp, Or.inr ⟨h2.symm, ?_⟩⟩
        rw [h2, FN_i1]
      · exact Or.inl (FN_o z h1 h2)
  · intro p hp hf
    obtain ⟨z, hz, e⟩ := (hmem p).1 hp
    simp only [Bool.or_eq_true, beq_iff_eq] at hf
    rw [e, FN_g]
    have key : ∀ u, (u ∈ flatPD pd ∨ u = i ∨ u = i + 1) → gC i n u ∈ FN '' labelSet
        (rawLinkP ([stepX s i (i + 1) n] ++ pd.map (map4 (gC i n)))
          (((bot.map (gC i n)).zipIdx).filter (fun p => !(p.2 == i || p.2 == i + 1)))) := by
      intro u hu
      refine ⟨gC i n u, (mem_labelSet_rawLinkP _ _ _).2 (Or.inl ?_), FN_g u⟩
      rw [C18.flatPD_append, List.mem_append]
      rcases hu with hu | hu | hu
      · exact Or.inr (mem_flatPD_map4 hu)
      · left; rw [hu, gC_i, flatPD_stepX]; simp
      · left; rw [hu, gC_i1, flatPD_stepX]; simp
    rcases hf with h | h
    · rw [h, ea] at hz; cases hz
      exact key _ (hsrca.elim Or.inl (fun h => Or.inr (Or.inl h)))
    · rw [h, eb] at hz; cases hz
      exact key _ (hsrcb.elim Or.inl (fun h => Or.inr (Or.inr h)))

/-- `w ++ [s]` : relabel by `gC`, then collapse the closing arcs at the positions `i`, `i+1` (into the last crossing) -/
theorem conjO (x y : R) {n c i : Nat} {bot : List Nat} {pd : PD} {a b : Nat} (s : Int)
    (F : ConjFacts n c i bot pd a b) :
    stateSum x y (rawLinkP (pd ++ [stepX s a b c]) ((bot.set i c).set (i + 1) (c + 1)).zipIdx)
      = stateSum x y (rawLinkP (pd.map (map4 (gC i n)) ++ [stepX s (gC i n a) (gC i n b) n]) (restClose n i bot)) := by
  obtain ⟨hlen, hi, hnc, hlt, hpd, ea, eb, htopi, htopi1, hsrca, hsrcb⟩ := F
  have hil : i < bot.length := by omega
  have hil1 : i + 1 < bot.length := by omega
  have ham : a ∈ bot := List.mem_of_getElem? ea
  have hbm : b ∈ bot := List.mem_of_getElem? eb
  have gc0 : gC i n c = c + 2 := gC_ge i n c hi hnc
  have gc1 : gC i n (c + 1) = c + 2 + 1 := by rw [gC_ge i n (c + 1) hi (by omega)]
  rw [← stateSum_renumber x y _ (gC_inj i n hi).injOn (WF_rawLinkP _ _), renumber_rawLinkP]
  have hpdO : (pd ++ [stepX s a b c]).map (map4 (gC i n))
      = pd.map (map4 (gC i n)) ++ [stepX s (gC i n a) (gC i n b) (c + 2)] := by
    rw [List.map_append, List.map_cons, List.map_nil, map4_stepX, gc0, gc1]; rfl
  rw [hpdO]
  let FO : Nat → Nat := fun z => if z = c + 2 then n else if z = c + 2 + 1 then n + 1 else z
  have FO_0 : FO (c + 2) = n := by simp [FO]
  have FO_1 : FO (c + 2 + 1) = n + 1 := by simp [FO]
  have FO_o : ∀ z, z ≤ c + 1 → FO z = z := by
    intro z hz; simp only [FO]; rw [if_neg (by omega), if_neg (by omega)]
  have FO_g : ∀ z, z < c → FO (gC i n z) = gC i n z := fun z hz => FO_o _ (gC_le i n c z hi hnc hz)
  have hset0 : ((bot.set i c).set (i + 1) (c + 1))[i]? = some c := by
    rw [List.getElem?_set_ne (by omega), List.getElem?_set_self hil]
  have hset1 : ((bot.set i c).set (i + 1) (c + 1))[i + 1]? = some (c + 1) := by
    rw [List.getElem?_set_self (by simpa using hil1)]
  have hsetk : ∀ k, k ≠ i → k ≠ i + 1 → ((bot.set i c).set (i + 1) (c + 1))[k]? = bot[k]? := by
    intro k h1 h2
    rw [List.getElem?_set_ne (by omega), List.getElem?_set_ne (by omega)]
  have hmem : ∀ p, p ∈ (((bot.set i c).set (i + 1) (c + 1)).zipIdx).map (pmap (gC i n)) ↔
      ∃ k u, ((bot.set i c).set (i + 1) (c + 1))[k]? = some u ∧ p = (gC i n u, gC i n k) := by
    intro p
    rw [List.mem_map]
    constructor
    · rintro ⟨p0, hp0, rfl⟩
      exact ⟨p0.2, p0.1, List.mem_zipIdx_iff_getElem?.1 hp0, rfl⟩
    · rintro ⟨k, u, hku, rfl⟩
      exact ⟨(u, k), List.mem_zipIdx_iff_getElem?.2 hku, rfl⟩
  have hsel : ∀ k u, ((bot.set i c).set (i + 1) (c + 1))[k]? = some u →
      (gC i n k = n ∨ gC i n k = n + 1) → (k = i ∧ u = c) ∨ (k = i + 1 ∧ u = c + 1) := by
    intro k u hku hg
    have hkn : k < n := by simpa [hlen] using (List.getElem?_eq_some_iff.1 hku).1
    obtain ⟨g1, g2⟩ := gC_eq_n i n k hi hkn
    rcases hg with hg | hg
    · have := g1.1 hg; subst this; rw [hset0] at hku; cases hku; exact Or.inl ⟨rfl, rfl⟩
    · have := g2.1 hg; subst this; rw [hset1] at hku; cases hku; exact Or.inr ⟨rfl, rfl⟩
  have hnmem : n ∈ flatPD (pd.map (map4 (gC i n)) ++ [stepX s (gC i n a) (gC i n b) (c + 2)]) := by
    rw [C18.flatPD_append, List.mem_append]
    rcases htopi with h | h
    · left; have := mem_flatPD_map4 (f := gC i n) h; rwa [gC_i] at this
    · right; rw [flatPD_stepX, h, gC_i]; simp
  have hn1mem : n + 1 ∈ flatPD (pd.map (map4 (gC i n)) ++ [stepX s (gC i n a) (gC i n b) (c + 2)]) := by
    rw [C18.flatPD_append, List.mem_append]
    rcases htopi1 with h | h
    · left; have := mem_flatPD_map4 (f := gC i n) h; rwa [gC_i1] at this
    · right; rw [flatPD_stepX, h, gC_i1]; simp
  rw [collapse_closing x y _ _ (fun p => p.2 == n || p.2 == n + 1) FO]
  · apply congrArg
    apply rawLinkP_congr
    · rw [List.map_append, List.map_cons, List.map_nil, map4_fix FO (pd.map (map4 (gC i n)))]
      · congr 2
        rw [map4_stepX]
        unfold stepX
        rw [FO_g a (hlt a ham), FO_g b (hlt b hbm), FO_0, FO_1]
      · intro z hz
        rw [flatPD_map4] at hz
        obtain ⟨z', hz', rfl⟩ := List.mem_map.1 hz
        exact FO_g z' (hpd z' hz')
    · rw [zipIdx_eq_map_range, List.map_map, List.filter_map, List.map_map]
      simp only [List.length_set, hlen]
      unfold restClose
      rw [List.filter_congr (q := fun k => !(k == i || k == i + 1)) (by
        intro k hk
        have hkn := List.mem_range.1 hk
        obtain ⟨g1, g2⟩ := gC_eq_n i n k hi hkn
        simp only [Function.comp, pmap]
        by_cases h1 : k = i
        · simp [h1, gC_i]
        · by_cases h2 : k = i + 1
          · simp [h2, gC_i1]
          · have e1 : gC i n k ≠ n := fun h => h1 (g1.1 h)
            have e2 : gC i n k ≠ n + 1 := fun h => h2 (g2.1 h)
            rw [beq_eq_false_iff_ne.2 e1, beq_eq_false_iff_ne.2 e2, beq_eq_false_iff_ne.2 h1,
              beq_eq_false_iff_ne.2 h2])]
      apply List.map_congr_left
      intro k hk
      rw [List.mem_filter, List.mem_range] at hk
      have hk1 : k ≠ i := by intro h; simp [h] at hk
      have hk2 : k ≠ i + 1 := by intro h; simp [h] at hk
      have hkl : k < bot.length := by omega
      simp only [Function.comp, pmap]
      rw [List.getD_eq_getElem?_getD, hsetk k hk1 hk2, List.getD_eq_getElem?_getD, List.getElem?_eq_getElem hkl]
      simp only [Option.getD]
      rw [FO_g _ (hlt _ (List.getElem_mem hkl)), gC_other i n k hk1 hk2 hk.1, FO_o k (by omega)]
  · intro p hp hf
    obtain ⟨k, u, hku, rfl⟩ := (hmem p).1 hp
    simp only [Bool.or_eq_true, beq_iff_eq] at hf
    rcases hsel k u hku hf with ⟨rfl, rfl⟩ | ⟨rfl, rfl⟩
    · simp only; rw [gc0, gC_i, FO_0, FO_o n (by omega)]
    · simp only; rw [gc1, gC_i1, FO_1, FO_o (n + 1) (by omega)]
  · intro z
    by_cases h1 : z = c + 2
    · right
      refine ⟨(c + 2, n), (hmem _).2 ⟨i, c, hset0, by rw [gc0, gC_i]⟩, by simp, Or.inl ⟨h1.symm, ?_⟩⟩
      rw [h1, FO_0]
    · by_cases h2 : z = c + 2 + 1
      · right
        refine ⟨(c + 2 + 1, n + 1), (hmem _).2 ⟨i + 1, c + 1, hset1, by rw [gc1, gC_i1]⟩, by simp, Or.inl ⟨h2.symm, ?_⟩⟩
        rw [h2, FO_1]
      · left; simp only [FO]; rw [if_neg h1, if_neg h2]
  · intro p hp hf
    obtain ⟨k, u, hku, rfl⟩ := (hmem p).1 hp
    simp only [Bool.or_eq_true, beq_iff_eq] at hf
    rcases hsel k u hku hf with ⟨rfl, rfl⟩ | ⟨rfl, rfl⟩
    · simp only; rw [gc0, FO_0]
      exact ⟨n, (mem_labelSet_rawLinkP _ _ _).2 (Or.inl hnmem), FO_o n (by omega)⟩
    · simp only; rw [gc1, FO_1]
      exact ⟨n + 1, (mem_labelSet_rawLinkP _ _ _).2 (Or.inl hn1mem), FO_o (n + 1) (by omega)⟩

theorem range_map_gC (i n : Nat) :
    ((List.range n).set i n).set (i + 1) (n + 1) = (List.range n).map (gC i n) := by
  apply List.ext_getElem (by simp)
  intro k h1 h2
  have hk : k < n := by simpa using h2
  simp only [List.getElem_set, List.getElem_map, List.getElem_range]
  by_cases k1 : i + 1 = k
  · subst k1; rw [if_pos rfl, gC_i1]
  · by_cases k2 : i = k
    · subst k2; rw [if_neg k1, if_pos rfl, gC_i]
    · rw [if_neg k1, if_neg k2, gC_other i n k (Ne.symm k2) (Ne.symm k1) hk]

theorem conjFacts_of_cinv {n c : Nat} {bot : List Nat} {pd : PD} (hI : CInv n (c, bot, pd)) {i a b : Nat}
    (hi : i + 1 < n) (ea : bot[i]? = some a) (eb : bot[i + 1]? = some b) : ConjFacts n c i bot pd a b := by
  obtain ⟨hnd, hlt, hpdlt, hlab⟩ := cinv_facts hI
  have hcb := hI.cb
  have hcnt := hI.cnt
  obtain ⟨hlen, hle, -, hown, -⟩ := hI
  simp only at hlen hle hcb hown hcnt hlt hpdlt hlab
  have hil : i < bot.length := by omega
  have hil1 : i + 1 < bot.length := by omega
  have ea' : bot[i] = a := by rw [List.getElem?_eq_getElem hil] at ea; exact Option.some.inj ea
  have eb' : bot[i + 1] = b := by rw [List.getElem?_eq_getElem hil1] at eb; exact Option.some.inj eb
  -- a top label `k` is in the code or still at the bottom of its own position
  have htop : ∀ k (hk : k < bot.length), k ∈ flatPD pd ∨ bot[k] = k := by
    intro k hk
    by_cases hin : k ∈ flatPD pd
    · exact Or.inl hin
    · right
      have c := hcnt k
      rw [List.count_eq_zero.2 hin, if_pos (by omega), if_pos (by omega)] at c
      have hkb : k ∈ bot := List.count_pos_iff.1 (by omega)
      obtain ⟨j, hj, e⟩ := List.getElem_of_mem hkb
      rcases hown j hj with h | h
      · rw [h] at e; subst e; exact h
      · omega
  have hsrc : ∀ k (hk : k < bot.length), bot[k] ∈ flatPD pd ∨ bot[k] = k := by
    intro k hk
    rcases hlab _ (List.getElem_mem hk) with h | h
    · right
      rcases hown k hk with h' | h'
      · exact h'
      · omega
    · exact Or.inl h
  refine ⟨hlen, hi, hle, hlt, hpdlt, ea, eb, ?_, ?_, ?_, ?_⟩
  · rw [← ea']; exact htop i hil
  · rw [← eb']; exact htop (i + 1) hil1
  · rw [← ea']; exact hsrc i hil
  · rw [← eb']; exact hsrc (i + 1) hil1

theorem conj_stateSum (x y : R) (n : Nat) (w : List Int) (s : Int) (l l' : C18.Link)
    (h : closure n (w ++ [s]) = .ok l) (h' : closure n ([s] ++ w) = .ok l') :
    stateSum x y (toKh l') = stateSum x y (toKh l) := by
  obtain ⟨stO, hfO, _, hsO, _⟩ := closure_stateSum x y n _ l h
  obtain ⟨stN, hfN, _, hsN, _⟩ := closure_stateSum x y n _ l' h'
  obtain ⟨st, hf, hlast⟩ := foldlM_append_ok.1 hfO
  obtain ⟨m, hq2, hlast⟩ := foldlM_cons_ok.1 hlast
  cases hlast
  obtain ⟨q, hq, hfN⟩ := foldlM_cons_ok.1 (List.singleton_append ▸ hfN)
  have hI := C18.cinv_foldl n w _ st (C18.cinv_init n) hf
  obtain ⟨c, bot, pd⟩ := st
  obtain ⟨a0, b0, hs0, hi0, hi01, ea0, eb0, rfl⟩ := step_explicit hq
  obtain ⟨a, b, _, hi, hi1, ea, eb, rfl⟩ := step_explicit hq2
  generalize hidef : s.natAbs - 1 = i at *
  have hin : i + 1 < n := by simpa using hi01
  simp only [List.getElem_range] at ea0 eb0
  subst ea0 eb0
  have F := conjFacts_of_cinv hI hin (by rw [List.getElem?_eq_getElem hi, ea]) (by rw [List.getElem?_eq_getElem hi1, eb])
  obtain ⟨pd2, hpd, hsim⟩ := gsim_fold (gC i n) 2 n (fun z hz => gC_ge i n z hin hz) w (n, List.range n, [])
    (c, bot, pd) (Nat.le_refl _) hf
  simp only [List.nil_append] at hpd
  subst hpd
  have hN := hsim ([] ++ [stepX s i (i + 1) n])
  simp only at hN
  rw [← range_map_gC i n] at hN
  rw [hN] at hfN
  cases hfN
  simp only [List.nil_append] at hsO hsN
  rw [hsN, hsO, conjN x y s F, conjO x y s F]
  exact stateSum_perm x y (WF_rawLinkP _ _) (rawLinkP_perm_pd List.perm_append_comm _)

end Yuiv.C04Inv
