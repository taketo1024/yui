import Yuiv.Proofs.Res
import Yuiv.Proofs.C11Term
/-
C11 — the global invariant of the parallel phase: every step of every worker keeps it and lowers the
termination measure, so no schedule panics and every schedule is finite (no livelock: a retry is always caused
by somebody else's commit, and commits are bounded by the rows).
-/
namespace Yuiv.C11
open Yuiv Res

/-- between `choose_candidate` and the critical section: the chosen column is still marked `Candidate`
and the traversal is complete -/
def ChosenOk (w : Worker) : Prop := ∀ j, w.chosen = some j → w.mark j = Mark.cand ∧ w.queue = []

theorem RowMarked.mono {s : Str} {w w' : Worker} (h : RowMarked s w) (hm : Mono w w') : RowMarked s w' := by
  intro j hj
  rw [hm.row] at hj
  exact hm.marked j (h j hj)

/-- worker `w` is in a good state for the shared table `S`: its snapshot is the prefix `S.take w.k` -/
structure WGood (s : Str) (S : Pivs) (w : Worker) : Prop where
  kle : w.k ≤ S.length
  inv : WInv s (S.take w.k) w
  rowm : RowMarked s w
  chosen : ChosenOk w

/-- the global invariant of the parallel phase -/
structure GInv (s : Str) (st : State) : Prop where
  pinv : PInv s st.S
  wsNodup : (st.ws.map (·.row)).Nodup
  todoNodup : st.todo.Nodup
  wsRows : ∀ w ∈ st.ws, w.row ∉ st.S.map (·.1) ∧ w.row ∉ st.todo
  todoRows : ∀ i ∈ st.todo, i ∉ st.S.map (·.1)
  workers : ∀ w ∈ st.ws, WGood s st.S w

theorem findWorker_some {ws : List Worker} {i : Nat} {w : Worker} (h : findWorker ws i = some w) :
    w ∈ ws ∧ w.row = i := by
  unfold findWorker at h
  have h1 := List.mem_of_find?_eq_some h
  have h2 := List.find?_some h
  simp at h2
  exact ⟨h1, h2⟩

theorem mem_dropWorker {ws : List Worker} {i : Nat} {w : Worker} (h : w ∈ dropWorker ws i) :
    w ∈ ws ∧ w.row ≠ i := by
  unfold dropWorker at h
  rw [List.mem_filter] at h
  refine ⟨h.1, ?_⟩
  have := h.2
  simpa using this

theorem dropWorker_nodup {ws : List Worker} (i : Nat) (h : (ws.map (·.row)).Nodup) :
    ((dropWorker ws i).map (·.row)).Nodup :=
  h.sublist (List.filter_sublist.map _)

theorem row_not_in_drop {ws : List Worker} (i : Nat) : i ∉ (dropWorker ws i).map (·.row) := by
  intro h
  obtain ⟨w, hw, e⟩ := List.mem_map.1 h
  exact (mem_dropWorker hw).2 e

theorem pinv_take {s : Str} {S : Pivs} (h : PInv s S) (k : Nat) : ((S.take k).map (·.2)).Nodup :=
  h.cols.sublist ((List.take_sublist k S).map _)

theorem commit_pinv {s : Str} {S : Pivs} {w : Worker} {js : Nat}
    (hp : PInv s S) (hw : WInv s (S.take w.k) w) (hrm : RowMarked s w)
    (hcand : w.mark js = Mark.cand) (hq : w.queue = [])
    (hnew : ∀ p ∈ S.drop w.k, w.mark p.2 = Mark.none)
    (hrow : w.row ∉ S.map (·.1)) :
    hasCol S js = false ∧ PInv s (S ++ [(w.row, js)]) := by
  have hS : S.take w.k ++ S.drop w.k = S := List.take_append_drop _ _
  have hmemS : ∀ p, p ∈ S → p ∈ S.take w.k ∨ p ∈ S.drop w.k := by
    intro p hp'; rw [← hS] at hp'; exact List.mem_append.1 hp'
  -- marked pivots belong to the snapshot, under whose rows the marked set is closed
  have hreach : ∀ p ∈ S, w.mark p.2 ≠ Mark.none → ∀ j2 ∈ colsIn s p.1, w.mark j2 = Mark.occ := by
    intro p hpS hm
    rcases hmemS p hpS with hin | hin
    · exact hw.closed (pinv_take hp _) (hw.count.pos hcand) hq p hin hm
    · exact absurd (hnew p hin) hm
  have hfree : js ∉ S.map (·.2) := by
    intro h
    obtain ⟨p, hpS, e⟩ := List.mem_map.1 h
    rcases hmemS p hpS with hin | hin
    · have := (hw.candOk js hcand).1
      rw [hasCol_false_iff] at this
      exact this (List.mem_map.2 ⟨p, hin, e⟩)
    · have := hnew p hin
      have e' : p.2 = js := e
      rw [e', hcand] at this
      simp at this
  refine ⟨hasCol_false_iff.2 hfree, hp.snoc hrow hfree (hw.candOk js hcand).2 ?_⟩
  apply commit_acyclic_core s S w.row js (fun j => w.mark j ≠ Mark.none) hp.acyc hfree hrm
  · intro p hpS hm j2 hj2
    rw [hreach p hpS hm j2 hj2]; simp
  · intro p hpS hm hjs
    have := hreach p hpS hm js hjs
    rw [hcand] at this; simp at this

/-- the shape of every step on an active worker: the worker of row `i` leaves the list … -/
theorem GInv.drop {s : Str} {st : State} (h : GInv s st) (i : Nat) : GInv s { st with ws := dropWorker st.ws i } :=
  ⟨h.pinv, dropWorker_nodup i h.wsNodup, h.todoNodup, fun w' hw' => h.wsRows w' (mem_dropWorker hw').1, h.todoRows,
    fun w' hw' => h.workers w' (mem_dropWorker hw').1⟩

/-- … or is put back in a new local state `w'` that is good for the same table -/
theorem GInv.replace {s : Str} {st : State} (h : GInv s st) {i : Nat} {w w' : Worker} (hf : findWorker st.ws i = some w)
    (hrow : w'.row = w.row) (hg : WGood s st.S w') : GInv s { st with ws := w' :: dropWorker st.ws i } := by
  obtain ⟨hw, hr⟩ := findWorker_some hf
  have hd := h.drop i
  refine ⟨h.pinv, ?_, h.todoNodup, ?_, h.todoRows, ?_⟩
  · rw [List.map_cons, List.nodup_cons, hrow, hr]
    exact ⟨row_not_in_drop i, hd.wsNodup⟩
  · intro w2 hw2
    rcases List.mem_cons.1 hw2 with e | hw2
    · rw [e, hrow]; exact h.wsRows w hw
    · exact hd.wsRows w2 hw2
  · intro w2 hw2
    rcases List.mem_cons.1 hw2 with e | hw2
    · rw [e]; exact hg
    · exact hd.workers w2 hw2

/-- a task starts on a row of `todo`, in a local state that is good for the table -/
theorem GInv.start {s : Str} {st : State} (h : GInv s st) {i : Nat} {w : Worker} (hi : i ∈ st.todo) (hr : w.row = i)
    (hg : WGood s st.S w) : GInv s { st with todo := st.todo.erase i, ws := w :: st.ws } := by
  refine ⟨h.pinv, ?_, h.todoNodup.erase i, ?_, fun i' hi' => h.todoRows i' (List.mem_of_mem_erase hi'), ?_⟩
  · rw [List.map_cons, List.nodup_cons, hr]
    refine ⟨fun hmem => ?_, h.wsNodup⟩
    obtain ⟨w', hw', e⟩ := List.mem_map.1 hmem
    exact (h.wsRows w' hw').2 (e ▸ hi)
  · intro w' hw'
    rcases List.mem_cons.1 hw' with e | hw'
    · rw [e, hr]
      exact ⟨h.todoRows i hi, fun hh => ((h.todoNodup.mem_erase_iff).1 hh).1 rfl⟩
    · exact ⟨(h.wsRows w' hw').1, fun hh => (h.wsRows w' hw').2 (List.mem_of_mem_erase hh)⟩
  · intro w' hw'
    rcases List.mem_cons.1 hw' with e | hw'
    · rw [e]; exact hg
    · exact h.workers w' hw'

/-- the shared table only grows at its end, so a snapshot taken earlier is still a prefix of it -/
theorem WGood.append {s : Str} {S : Pivs} {w : Worker} (h : WGood s S w) (N : Pivs) : WGood s (S ++ N) w :=
  ⟨by rw [List.length_append]; exact Nat.le_trans h.kle (Nat.le_add_right _ _),
   by rw [List.take_append_of_le_length h.kle]; exact h.inv, h.rowm, h.chosen⟩

/-- a pivot is committed in a row that is neither in flight nor waiting -/
theorem GInv.commit {s : Str} {st : State} (h : GInv s st) {i j : Nat} (hp : PInv s (st.S ++ [(i, j)]))
    (hws : ∀ w ∈ st.ws, w.row ≠ i) (hi : i ∉ st.todo) : GInv s { st with S := st.S ++ [(i, j)] } :=
  ⟨hp, h.wsNodup, h.todoNodup,
    fun w hw => ⟨not_mem_rows_snoc j (h.wsRows w hw).1 (hws w hw), (h.wsRows w hw).2⟩,
    fun i' hi' => not_mem_rows_snoc j (h.todoRows i' hi') (fun e => hi (e ▸ hi')),
    fun w hw => (h.workers w hw).append _⟩

/-- every step keeps the invariant and lowers the termination measure (a retry is always caused by another
worker's commit: the snapshot was strictly shorter than the table) -/
theorem step_spec (s : Str) (hwf : s.WF) (st : State) (h : GInv s st) (a : Act) :
    Good (step s st a) (fun r => GInv s r.1 ∧ measure r.1 < measure st) := by
  cases a with
  | start i k =>
    rw [step]
    by_cases hc : (st.todo.contains i && decide (k ≤ st.S.length) && (findWorker st.ws i).isNone) = true
    · simp only [hc, if_true]
      simp only [Bool.and_eq_true, decide_eq_true_eq, List.contains_iff_mem] at hc
      obtain ⟨⟨hi, hk⟩, _⟩ := hc
      apply Good.bind (.of_total (init_total s hwf (st.S.take k) i))
      rintro w ⟨hinv, hrm, hr, hwk, hch⟩
      have hwk' : w.k = k := by rw [hwk, List.length_take]; omega
      refine ⟨h.start hi hr ⟨by rw [hwk']; exact hk, by rw [hwk']; exact hinv, hrm, ?_⟩, measure_start_lt hi w⟩
      intro j hj; rw [hch] at hj; cases hj
    · simp only [hc, Bool.false_eq_true, if_false]
      trivial
  | search i choice =>
    rw [step]
    cases hf : findWorker st.ws i with
    | none => trivial
    | some w =>
      simp only
      obtain ⟨hw, hr⟩ := findWorker_some hf
      have hg := h.workers w hw
      by_cases hch : w.chosen.isSome = true
      · simp only [hch, if_true]; trivial
      · simp only [hch, Bool.false_eq_true, if_false]
        have hch' : w.chosen = none := by simpa using hch
        apply Good.bind (traverse_good s (st.S.take w.k) w hg.inv)
        rintro w1 ⟨hinv1, hm1, hend1⟩
        cases choice with
        | none => exact ⟨h.drop i, measure_drop_lt h.wsNodup hf st.S (Nat.le_succ _) (wterm_pos (.inl hch'))⟩
        | some j =>
          simp only
          by_cases hcj : w1.isCandidate j = true
          · simp only [hcj, if_true]
            have hmj : w1.mark j = Mark.cand := by simpa [Worker.isCandidate] using hcj
            refine ⟨h.replace hf hm1.row ⟨?_, ?_, ?_, ?_⟩,
              measure_replace_lt h.wsNodup hf (wterm_lt_of_chosen hm1.k hch' rfl)⟩
            · show w1.k ≤ _; rw [hm1.k]; exact hg.kle
            · show WInv s (st.S.take w1.k) _
              rw [hm1.k]
              exact ⟨⟨hinv1.count, hinv1.candOk, hinv1.q1, hinv1.q3, hinv1.qsub⟩, hinv1.q2⟩
            · exact (hg.rowm.mono hm1 : RowMarked s w1)
            · intro j' hj'
              have e : j = j' := by simpa using hj'
              subst e
              refine ⟨hmj, ?_⟩
              rcases hend1 with h0 | hq
              · exact absurd h0 (hinv1.count.pos hmj)
              · exact hq
          · simp only [hcj, Bool.false_eq_true, if_false]
            trivial
  | validate i =>
    rw [step]
    cases hf : findWorker st.ws i with
    | none => trivial
    | some w =>
      simp only
      obtain ⟨hw, hr⟩ := findWorker_some hf
      have hg := h.workers w hw
      cases hch : w.chosen with
      | none => trivial
      | some j =>
        simp only
        obtain ⟨hmj, hq0⟩ := hg.chosen j hch
        have hstrong := hg.inv.q2.resolve_left (hg.inv.count.pos hmj)
        have hS : st.S.take w.k ++ st.S.drop w.k = st.S := List.take_append_drop _ _
        apply Good.bind (.of_total (updateDiff_total s (st.S.drop w.k) (st.S.take w.k) w hg.inv.toWCore hstrong))
        rintro w' ⟨hc', hq', hm', hd'⟩
        rw [hS] at hc' hq'
        have hSB : st.S.length < bnd st := lt_bnd_of_mem hw
        by_cases hre : w'.shouldRetry = true
        · simp only [hre, if_true]
          have hlt : w.k < st.S.length := by
            rcases hd' with ⟨e, _⟩ | ⟨hN, _⟩
            · simp [Worker.shouldRetry, e, hq0] at hre
            · exact Nat.lt_of_not_le fun hle => hN (List.drop_eq_nil_iff.2 hle)
          refine ⟨h.replace hf hm'.row ⟨Nat.le_refl _, ?_, ?_, ?_⟩,
            measure_replace_lt h.wsNodup hf (wterm_lt_of_k hlt hSB (by rw [hch]; rfl))⟩
          · show WInv s (st.S.take st.S.length) _
            rw [List.take_length]
            exact ⟨⟨hc'.count, hc'.candOk, hc'.q1, hc'.q3, hc'.qsub⟩, Or.inr hq'⟩
          · exact (hg.rowm.mono hm' : RowMarked s w')
          · intro j' hj'; simp at hj'
        · simp only [hre, Bool.false_eq_true, if_false]
          have hqe : w'.queue = [] := by
            simp only [Worker.shouldRetry, Bool.not_eq_true, Bool.not_eq_false', List.isEmpty_iff] at hre
            simpa using hre
          obtain ⟨_, hnew⟩ := hd'.resolve_right fun ⟨_, hlt⟩ => by rw [hqe] at hlt; exact Nat.not_lt_zero _ hlt
          obtain ⟨hfree, hpinv'⟩ := commit_pinv h.pinv hg.inv hg.rowm hmj hq0 hnew (h.wsRows w hw).1
          rw [Pivs.set_of_free hfree]
          exact ⟨(h.drop i).commit hpinv' (fun w2 hw2 => hr ▸ (mem_dropWorker hw2).2) (h.wsRows w hw).2,
            measure_drop_lt h.wsNodup hf _ (by simp) (wterm_pos (.inr (Nat.lt_of_le_of_lt hg.kle hSB)))⟩

theorem step_good (s : Str) (hwf : s.WF) (st : State) (h : GInv s st) (a : Act) :
    Good (step s st a) (fun r => GInv s r.1) :=
  (step_spec s hwf st h a).mono (fun _ hr => hr.1)

theorem step_decreases (s : Str) (hwf : s.WF) (st : State) (h : GInv s st) (a : Act) (st' : State) (o : Outcome)
    (hs : step s st a = .ok (st', o)) : measure st' < measure st :=
  ((step_spec s hwf st h a).of_ok hs).2

/-- a run keeps the invariant and pays one unit of the measure per step -/
theorem run_spec (s : Str) (hwf : s.WF) : ∀ (acts : List Act) (st : State), GInv s st →
    Good (run s st acts) (fun r => GInv s r.1 ∧ acts.length + measure r.1 ≤ measure st) := by
  intro acts
  induction acts with
  | nil => intro st h; exact ⟨h, Nat.le_of_eq (Nat.zero_add _)⟩
  | cons a acts ih =>
    intro st h
    rw [run]
    apply Good.bind (step_spec s hwf st h a)
    rintro ⟨st1, o⟩ ⟨h1, hlt⟩
    apply Good.bind (ih st1 h1)
    rintro ⟨st2, os⟩ ⟨h2, hle⟩
    exact ⟨h2, Nat.le_trans (by rw [List.length_cons, Nat.add_right_comm]; exact Nat.succ_le_succ hle) hlt⟩

theorem run_good (s : Str) (hwf : s.WF) (acts : List Act) (st : State) (h : GInv s st) :
    Good (run s st acts) (fun r => GInv s r.1) :=
  (run_spec s hwf acts st h).mono fun _ hr => hr.1

theorem run_length_le (s : Str) (hwf : s.WF) (acts : List Act) (st st' : State) (os : List Outcome)
    (h : GInv s st) (hr : run s st acts = .ok (st', os)) : acts.length ≤ measure st :=
  Nat.le_trans (Nat.le_add_right _ _) ((run_spec s hwf acts st h).of_ok hr).2

end Yuiv.C11
