import Yuiv.Gen.LinkFn
import Yuiv.Proofs.C18Relabel
import Yuiv.Proofs.Loop
/-
C18, tie by translation (`fn:link`): conversions between the generated types of `Yuiv/Gen/LinkFn.lean` and the hand model
`Yuiv/Model/C18.lean`, the lemmas behind the equalities that `Yuiv/Props/C18Gen.lean` lists as obligations, and those of
the equalities themselves that later proofs here use or that tie a generated loop to its restated body (`g_*`, restated
there as `gen_*`).  No Mathlib.

Technique for the loops: a `for` loop with an early `return` is handled by a lemma whose left-hand side is a `do` block
with the same text as the generated one (it elaborates to the same term); a search loop is `List.findSome?`; loops that
only `continue` are a `foldlM`, through a state conversion and an invariant.  Loop bodies and local closures are restated
once (definitionally the generated lambdas, tied by `rfl`) and get a step lemma each; the `loop` with `break` of
`traverse_edges` is an induction over the steps.
-/
namespace Yuiv.C18.GenFn
open Yuiv Yuiv.Rust Yuiv.GenLink
def toT : CrossingType → CType
  | .X => .X | .Xm => .Xm | .V => .V | .H => .H
def toC (c : GenLink.Crossing) : C18.Crossing := ⟨toT c.ctype_, c.edges_.a0, c.edges_.a1, c.edges_.a2, c.edges_.a3⟩
def toL (l : GenLink.Link) : C18.Link := l.data_.map toC
def toBit : Bool → Lk.Bit
  | false => .Bit0 | true => .Bit1
def toSign : Lk.Sign → C18.Sign
  | .Pos => .pos | .Neg => .neg
def toPath (p : GenLink.Path) : C18.Path := ⟨p.edges_, p.closed_⟩
def rmap {α β} (f : α → β) : Res α → Res β
  | .ok a => .ok (f a) | .panic => .panic | .err => .err

theorem rmap_bind_congr_inv {α β α' β'} (c1 : α → α') (c2 : β → β') (P : α → Prop) (x : Res α) (k : α → Res β)
    (x' : Res α') (k' : α' → Res β') (hx : rmap c1 x = x') (hP : ∀ a, x = .ok a → P a)
    (hk : ∀ a, P a → rmap c2 (k a) = k' (c1 a)) : rmap c2 (x >>= k) = x' >>= k' := by
  subst hx
  cases x with
  | ok a => exact hk a (hP a rfl)
  | panic => rfl
  | err => rfl

theorem rmap_bind_congr {α β α' β'} (c1 : α → α') (c2 : β → β') (x : Res α) (k : α → Res β) (x' : Res α')
    (k' : α' → Res β') (hx : rmap c1 x = x') (hk : ∀ a, rmap c2 (k a) = k' (c1 a)) :
    rmap c2 (x >>= k) = x' >>= k' :=
  rmap_bind_congr_inv c1 c2 (fun _ => True) x k x' k' hx (fun _ _ => trivial) fun a _ => hk a

theorem forIn_yield {α σ} (xs : List α) (f : α → σ → Res (ForInStep σ)) (g : σ → α → Res σ)
    (h : ∀ a, a ∈ xs → ∀ s, f a s = (g s a >>= fun s' => .ok (ForInStep.yield s'))) (s : σ) :
    forIn xs s f = xs.foldlM g s :=
  Loop.forIn_eq_foldlM (fun a ha s => (h a ha s).trans (map_eq_pure_bind _ _).symm) s

theorem foldlM_rmap {α σ τ} (conv : σ → τ) (xs : List α) (g : σ → α → Res σ) (g' : τ → α → Res τ)
    (h : ∀ a, a ∈ xs → ∀ s, rmap conv (g s a) = g' (conv s) a) (s : σ) :
    rmap conv (xs.foldlM g s) = xs.foldlM g' (conv s) := by
  induction xs generalizing s with
  | nil => rfl
  | cons a xs ih =>
    rw [List.foldlM_cons, List.foldlM_cons, ← h a (List.mem_cons_self ..)]
    cases g s a with
    | ok s' => simp only [Res.bind_ok, rmap]; exact ih (fun b hb => h b (List.mem_cons_of_mem _ hb)) s'
    | panic => rfl
    | err => rfl

def stepConv {σ τ} (conv : σ → τ) : ForInStep σ → ForInStep τ
  | .yield s => .yield (conv s)
  | .done s => .done (conv s)

theorem step_sim {σ τ} {conv : σ → τ} {r : Res (ForInStep σ)} {y : Res τ}
    (h : rmap (stepConv conv) r = (y >>= fun t => .ok (ForInStep.yield t))) :
    (∃ s', r = .ok (.yield s') ∧ y = .ok (conv s')) ∨ (r = .panic ∧ y = .panic) ∨ (r = .err ∧ y = .err) := by
  rcases r with (s' | s') | _ | _ <;> rcases y with t | _ | _ <;> cases h
  · exact .inl ⟨s', rfl, rfl⟩
  · exact .inr (.inl ⟨rfl, rfl⟩)
  · exact .inr (.inr ⟨rfl, rfl⟩)

theorem forIn_sim_inv {α σ τ} (conv : σ → τ) (P : σ → Prop) (xs : List α) (f : α → σ → Res (ForInStep σ))
    (g' : τ → α → Res τ)
    (h : ∀ a, a ∈ xs → ∀ s, P s →
      rmap (stepConv conv) (f a s) = (g' (conv s) a >>= fun t => .ok (ForInStep.yield t)) ∧
      ∀ s', f a s = .ok (ForInStep.yield s') → P s') (s : σ) (hs : P s) :
    rmap conv (forIn xs s f) = xs.foldlM g' (conv s) ∧ ∀ s', forIn xs s f = .ok s' → P s' := by
  induction xs generalizing s with
  | nil => exact ⟨rfl, fun s' h => by cases h; exact hs⟩
  | cons a xs ih =>
    obtain ⟨ha, hP⟩ := h a (List.mem_cons_self ..) s hs
    rw [List.forIn_cons, List.foldlM_cons]
    rcases step_sim ha with ⟨s', hf, hg⟩ | ⟨hf, hg⟩ | ⟨hf, hg⟩ <;> rw [hf, hg]
    · exact ih (fun b hb => h b (List.mem_cons_of_mem _ hb)) s' (hP s' hf)
    · exact ⟨rfl, nofun⟩
    · exact ⟨rfl, nofun⟩

theorem forIn_sim {α σ τ} (conv : σ → τ) (xs : List α) (f : α → σ → Res (ForInStep σ)) (g' : τ → α → Res τ)
    (h : ∀ a, a ∈ xs → ∀ s, rmap (stepConv conv) (f a s) = (g' (conv s) a >>= fun t => .ok (ForInStep.yield t))) (s : σ) :
    rmap conv (forIn xs s f) = xs.foldlM g' (conv s) :=
  (forIn_sim_inv conv (fun _ => True) xs f g' (fun a ha s _ => ⟨h a ha s, fun _ _ => trivial⟩) s trivial).1

theorem forIn_search {α β} (xs : List α) (w : α → Option β)
    (b : α → Option β × Unit → Res (ForInStep (Option β × Unit)))
    (hb : ∀ x s, b x s = match w x with | some r => .ok (.done (some r, ())) | none => .ok (.yield (none, ()))) :
    forIn xs (none, ()) b = .ok (xs.findSome? w, ()) := by
  induction xs with
  | nil => rfl
  | cons x xs ih =>
    rw [List.forIn_cons, hb, List.findSome?_cons]
    cases w x with
    | some r => rfl
    | none => exact ih

theorem anyM_eq_any {α} (xs : List α) (p : α → Res Bool) (q : α → Bool) (h : ∀ a, a ∈ xs → p a = .ok (q a)) :
    Lk.anyM xs p = .ok (xs.any q) := by
  induction xs with
  | nil => rfl
  | cons a xs ih =>
    simp only [Lk.anyM, h a (List.mem_cons_self ..), List.any_cons]
    cases q a with
    | true => rfl
    | false => simpa using ih (fun b hb => h b (List.mem_cons_of_mem _ hb))

theorem listGet_eq {α} (xs : List α) (i : Nat) :
    Lk.listGet xs i = match xs[i]? with | some a => .ok a | none => .panic := by
  induction xs generalizing i with
  | nil => rfl
  | cons x xs ih => cases i with
    | zero => rfl
    | succ i => simp only [Lk.listGet, List.getElem?_cons_succ]; exact ih i

theorem idx_ok {α} (xs : List α) (i : Nat) (h : i < xs.length) : Lk.idx xs i = .ok xs[i] := by
  simp only [Lk.idx, Lk.Index.get, listGet_eq, List.getElem?_eq_getElem h]

theorem range_contains_eq (n c : Nat) : (List.range n).contains c = decide (c < n) := by
  simp [List.contains_eq_mem, List.mem_range]

theorem g_is_resolved_eq (c : GenLink.Crossing) : c.is_resolved = (toC c).isResolved := by
  cases c with | mk t e => cases t <;> rfl
theorem g_resolve_eq (c : GenLink.Crossing) (b : Bool) : rmap toC (c.resolve (toBit b)) = (toC c).resolve b := by
  cases c with | mk t e => cases t <;> cases b <;> rfl
theorem g_edge_eq (c : GenLink.Crossing) (j : Nat) :
    c.edge j = if j < 4 then .ok ((toC c).edge j) else .panic := by
  match j with
  | 0 | 1 | 2 | 3 => rfl
  | j + 4 => rfl
theorem g_pass_eq (c : GenLink.Crossing) (j : Nat) :
    c.pass j = if j < 4 then .ok ((toC c).pass j) else .panic := by
  cases c with | mk t e =>
  match j with
  | 0 | 1 | 2 | 3 => cases t <;> rfl
  | j + 4 =>
    have h : ¬ (j + 4 < 4) := by omega
    simp [GenLink.Crossing.pass, Res.assert, h]
theorem g_path_new_eq (es : List Nat) (b : Bool) :
    GenLink.Path.new es b = if es = [] then .panic else .ok ⟨es, b⟩ := by
  cases es <;> rfl
theorem g_path_arc_eq (es : List Nat) : GenLink.Path.arc es = GenLink.Path.new es false := by
  cases es <;> rfl
theorem g_path_circ_eq (es : List Nat) : GenLink.Path.circ es = GenLink.Path.new es true := by
  cases es <;> rfl
theorem idx_edges (c : GenLink.Crossing) (j : Nat) (hj : j < 4) : Lk.idx c.edges_ j = .ok ((toC c).edge j) :=
  match j, hj with
  | 0, _ | 1, _ | 2, _ | 3, _ => rfl

/-- the local function `comp` of `Crossing::arcs` -/
def arcsComp (c : GenLink.Crossing) (i j : Nat) : Res GenLink.Path := do
  let (ei, ej) := ((← Lk.idx c.edges_ i), (← Lk.idx c.edges_ j))
  if ei == ej then Path.new [ei] true else Path.new [ei, ej] false

theorem arcsComp_eq (c : GenLink.Crossing) (i j : Nat) (hi : i < 4) (hj : j < 4) :
    rmap toPath (arcsComp c i j) = .ok (arcComp (toC c) i j) := by
  rw [arcsComp, idx_edges c i hi, idx_edges c j hj]
  simp only [Res.bind_ok, arcComp]
  by_cases h : (toC c).edge i = (toC c).edge j
  · simp only [h, beq_self_eq_true, if_true]; rfl
  · simp only [h, beq_iff_eq, if_false]; rfl

theorem g_link_from_pd_code_eq (pd : List (Nat × Nat × Nat × Nat)) :
    toL (GenLink.Link.from_pd_code (pd.map fun x => ⟨x.1, x.2.1, x.2.2.1, x.2.2.2⟩)) = C18.fromPD4 pd := by
  simp [GenLink.Link.from_pd_code, GenLink.Link.new, toL, C18.fromPD4, Lk.iter, Lk.Iter.toList, List.map_map, Functor.map]
  intros; rfl

theorem g_crossing_num_eq (l : GenLink.Link) : l.crossing_num = C18.crossingNum (toL l) := by
  simp only [GenLink.Link.crossing_num, C18.crossingNum, toL, Lk.iter, Lk.Iter.toList, id]
  induction l.data_ with
  | nil => rfl
  | cons c cs ih => simp [List.filter_cons, g_is_resolved_eq] at ih ⊢; split <;> simp [ih]

theorem toL_length (l : GenLink.Link) : (toL l).length = l.data_.length := List.length_map _

theorem HE_toL (l : GenLink.Link) (p : Nat × Nat) : C18.HE (toL l) p ↔ p.1 < l.data_.length ∧ p.2 < 4 := by
  rw [C18.HE, toL_length]

theorem edgeAt_toL (l : GenLink.Link) (i j : Nat) (hi : i < l.data_.length) :
    C18.edgeAt (toL l) i j = (toC l.data_[i]).edge j := by
  rw [C18.edgeAt, toL, List.getElem?_map, List.getElem?_eq_getElem hi]; rfl

theorem ctypeAt_toL (l : GenLink.Link) (i : Nat) (hi : i < l.data_.length) :
    C18.ctypeAt (toL l) i = toT l.data_[i].ctype_ := by
  rw [C18.ctypeAt, toL, List.getElem?_map, List.getElem?_eq_getElem hi]; rfl

/-- the loop of `crossing_index` as a recursion (offset `k`) -/
def ciSpec : Nat → List GenLink.Crossing → Nat → Res Nat
  | _, [], _ => .panic
  | k, x :: xs, i => if x.is_resolved then ciSpec (k + 1) xs i else if i > 0 then ciSpec (k + 1) xs (i - 1) else .ok k

theorem ci_loop (k : Nat) (xs : List GenLink.Crossing) (i : Nat) :
    (do
      let mut i := i
      for it_166 in (Lk.enumFrom k xs) do
        let (j, x) := it_166
        if (!((x).is_resolved)) then
          if (decide (i > 0)) then
            i := (← Lk.usub i 1)
          else
            return j
      Res.panic : Res Nat) = ciSpec k xs i := by
  induction xs generalizing k i with
  | nil => rfl
  | cons x xs ih =>
    simp only [Lk.enumFrom, List.forIn_cons, ciSpec]
    by_cases hr : x.is_resolved = true
    · simp only [hr, Bool.not_true, Bool.false_eq_true, if_false, if_true, Res.pure_eq, Res.bind_ok]
      exact ih (k + 1) i
    · simp only [hr, Bool.not_false, if_true]
      by_cases hi : i > 0
      · have h1 : 1 ≤ i := hi
        simp only [hi, decide_true, if_true, Lk.usub, h1, Res.bind_ok, Res.pure_eq]
        exact ih (k + 1) (i - 1)
      · simp only [hi, decide_false, Bool.false_eq_true, if_false]
        rfl

theorem g_crossing_index_eq (l : GenLink.Link) (i : Nat) :
    l.crossing_index i = if i < l.crossing_num then ciSpec 0 l.data_ i else .panic := by
  unfold GenLink.Link.crossing_index
  simp only [Lk.enumerate, Lk.iter, Lk.Iter.toList, id]
  by_cases h : i < l.crossing_num
  · simp only [h, Res.assert, decide_true, if_true, Res.bind_ok]
    exact ci_loop 0 l.data_ i
  · simp only [h, Res.assert, decide_false, if_false]; rfl

theorem ciSpec_none (k : Nat) (xs : List GenLink.Crossing) (i : Nat)
    (h : (xs.filter (fun x => !x.is_resolved)).length ≤ i) : ciSpec k xs i = .panic := by
  induction xs generalizing k i with
  | nil => rfl
  | cons x xs ih =>
    by_cases hr : x.is_resolved = true
    · simp only [ciSpec, hr, if_true]
      apply ih; simpa [List.filter_cons, hr] using h
    · have hr' : x.is_resolved = false := by simpa using hr
      simp only [List.filter_cons, hr', Bool.not_false, if_true, List.length_cons] at h
      have hi : i > 0 := by omega
      simp only [ciSpec, hr', Bool.false_eq_true, if_false, hi, if_true]
      apply ih; omega

theorem ciSpec_shift (k : Nat) (xs : List GenLink.Crossing) (i : Nat) :
    ciSpec (k + 1) xs i = rmap (· + 1) (ciSpec k xs i) := by
  induction xs generalizing k i with
  | nil => rfl
  | cons x xs ih =>
    simp only [ciSpec]
    split
    · exact ih _ _
    · split
      · exact ih _ _
      · rfl

theorem g_crossing_index_zero_eq (l : GenLink.Link) : l.crossing_index 0 = ciSpec 0 l.data_ 0 := by
  rw [g_crossing_index_eq]
  split
  · rfl
  · symm; apply ciSpec_none
    simp only [GenLink.Link.crossing_num, Lk.iter, Lk.Iter.toList, id] at *
    omega

theorem g_crossing_at_mut_eq (l : GenLink.Link) (i : Nat) (k : GenLink.Crossing → Res GenLink.Crossing) :
    l.crossing_at_mut i k = (l.crossing_index i >>= fun j => Lk.idx l.data_ j >>= fun x => k x >>= fun x' =>
      Lk.idxSet l.data_ j x' >>= fun d => .ok ⟨d⟩) := by
  unfold GenLink.Link.crossing_at_mut
  cases h1 : l.crossing_index i <;> simp only [h1, Res.bind_ok, Res.bind_panic, Res.bind_err, Res.pure_eq]

/-- `crossing_at_mut(0).resolve(r)` on the list of crossings -/
def firstResolve (xs : List GenLink.Crossing) (r : Lk.Bit) : Res (List GenLink.Crossing) :=
  ciSpec 0 xs 0 >>= fun j => Lk.idx xs j >>= fun x => x.resolve r >>= fun x' => Lk.idxSet xs j x'

theorem firstResolve_eq (xs : List GenLink.Crossing) (b : Bool) :
    rmap (List.map toC) (firstResolve xs (toBit b)) = C18.resolveFirst (xs.map toC) b := by
  induction xs with
  | nil => rfl
  | cons x xs ih =>
    by_cases hr : x.is_resolved = true
    · have hr2 : (toC x).isResolved = true := by rw [← g_is_resolved_eq]; exact hr
      simp only [List.map_cons, C18.resolveFirst, hr2, if_true, ← ih]
      simp only [firstResolve, ciSpec, hr, if_true, ciSpec_shift]
      cases ciSpec 0 xs 0 with
      | ok j =>
        simp only [rmap, Res.bind_ok, Lk.idx, Lk.Index.get, Lk.listGet]
        cases Lk.listGet xs j with
        | ok y =>
          simp only [Res.bind_ok]
          cases y.resolve (toBit b) with
          | ok y' =>
            simp only [Res.bind_ok, Lk.idxSet, List.length_cons, Nat.add_lt_add_iff_right, List.set_cons_succ]
            by_cases hj : j < xs.length <;> simp [hj]
          | panic => rfl
          | err => rfl
        | panic => rfl
        | err => rfl
      | panic => rfl
      | err => rfl
    · have hr' : x.is_resolved = false := by simpa using hr
      have hr2 : (toC x).isResolved = false := by rw [← g_is_resolved_eq]; exact hr'
      simp only [List.map_cons, C18.resolveFirst, hr2, Bool.false_eq_true, if_false, ← g_resolve_eq]
      simp only [firstResolve, ciSpec, hr', Bool.false_eq_true, if_false, Nat.lt_irrefl, gt_iff_lt, Res.bind_ok, Lk.idx,
        Lk.Index.get, Lk.listGet]
      cases x.resolve (toBit b) <;> simp [rmap, Lk.idxSet]

theorem g_crossing_at_mut_zero_resolve_eq (l : GenLink.Link) (b : Bool) :
    rmap toL (l.crossing_at_mut 0 (fun x => x.resolve (toBit b))) = C18.resolveFirst (toL l) b := by
  rw [g_crossing_at_mut_eq, g_crossing_index_zero_eq, toL, ← firstResolve_eq]
  simp only [firstResolve]
  cases ciSpec 0 l.data_ 0 with
  | ok j =>
    simp only [Res.bind_ok]
    cases Lk.idx l.data_ j with
    | ok x =>
      simp only [Res.bind_ok]
      cases x.resolve (toBit b) with
      | ok x' => simp only [Res.bind_ok]; cases Lk.idxSet l.data_ j x' <;> rfl
      | panic => rfl
      | err => rfl
    | panic => rfl
    | err => rfl
  | panic => rfl
  | err => rfl

theorem rb_loop (l : GenLink.Link) (s : List Bool) :
    rmap toL (do
      let mut l := l
      for r in (s.map toBit) do
        l := (← (l).crossing_at_mut 0 (fun x_ => (x_).resolve r))
      return l) = s.foldlM C18.resolveFirst (toL l) := by
  induction s generalizing l with
  | nil => rfl
  | cons b s ih =>
    simp only [List.map_cons, List.forIn_cons, List.foldlM_cons]
    rw [← g_crossing_at_mut_zero_resolve_eq l b]
    cases l.crossing_at_mut 0 (fun x => x.resolve (toBit b)) with
    | ok l' => exact ih l'
    | panic => rfl
    | err => rfl

theorem pe_cond (e f ci i ei j : Nat) :
    ((e == f) && ((ci != i) || ((ci == i) && (ei != j)))) = (f == e && ((i, j) != (ci, ei))) := by
  rw [Bool.eq_iff_iff]
  simp only [Bool.and_eq_true, Bool.or_eq_true, beq_iff_eq, bne_iff_ne, ne_eq, Prod.mk.injEq]
  omega

theorem findSome_slots {β} (q : (Nat × Nat) × Nat → Bool) (v : Nat × Nat → β) (k : Nat) (xs : List GenLink.Crossing) :
    ((Lk.enumFrom k xs).findSome? fun ic => (Lk.enumerate (Lk.iter ic.2.edges)).findSome? fun jf =>
      if q ((ic.1, jf.1), jf.2) = true then some (v (ic.1, jf.1)) else none) =
    ((C18.slotsFrom (xs.map toC) k).find? q).map fun s => v s.1 := by
  induction xs generalizing k with
  | nil => rfl
  | cons x xs ih =>
    rw [Lk.enumFrom, List.findSome?_cons, ih (k + 1)]
    simp only [List.map_cons, C18.slotsFrom, List.find?_cons, Lk.enumerate, Lk.enumFrom, Lk.iter, Lk.Iter.toList,
      GenLink.Crossing.edges, Lk.Arr4.toList, toC, List.findSome?_cons, List.findSome?_nil]
    cases q ((k, 0), x.edges_.a0)
    cases q ((k, 1), x.edges_.a1)
    cases q ((k, 2), x.edges_.a2)
    cases q ((k, 3), x.edges_.a3)
    all_goals rfl

theorem pe_loop (e ci ei k : Nat) (xs : List GenLink.Crossing) :
    (do
      for it_228 in (Lk.enumFrom k xs) do
        let (i, c) := it_228
        for it_229 in (Lk.enumerate (Lk.iter ((c).edges))) do
          let (j, f) := it_229
          if ((e == f) && ((ci != i) || ((ci == i) && (ei != j)))) then
            return (some (i, j))
      return none : Res (Option (Nat × Nat))) =
    .ok (((C18.slotsFrom (xs.map toC) k).find? (fun s => s.2 == e && s.1 != (ci, ei))).map (·.1)) := by
  simp only [pe_cond]
  rw [forIn_search _ fun ic => (Lk.enumerate (Lk.iter ic.2.edges)).findSome? fun jf =>
    if (jf.2 == e && (ic.1, jf.1) != (ci, ei)) = true then some (some (ic.1, jf.1)) else none]
  · rw [findSome_slots (fun s => s.2 == e && s.1 != (ci, ei)) some]
    cases List.find? _ (C18.slotsFrom (xs.map toC) k) <;> rfl
  · intro ic s
    rw [forIn_search _ fun jf => if (jf.2 == e && (ic.1, jf.1) != (ci, ei)) = true then some (some (ic.1, jf.1)) else none]
    · rfl
    · intro jf s
      split <;> rfl

theorem g_pass_edge_eq (l : GenLink.Link) (ci ei : Nat) :
    l.pass_edge ci ei = if ci < l.data_.length ∧ ei < 4 then .ok (C18.passEdge (toL l) ci ei) else .panic := by
  unfold GenLink.Link.pass_edge
  simp only [Lk.len, Lk.iter, Lk.Iter.toList, id, range_contains_eq, Res.assert, Lk.enumerate]
  by_cases h1 : ci < l.data_.length
  · by_cases h2 : ei < 4
    · simp only [h1, h2, decide_true, if_true, Res.bind_ok, idx_ok _ ci h1, g_edge_eq, and_self, Res.pure_eq]
      rw [C18.passEdge, edgeAt_toL l ci ei h1]
      exact pe_loop ((toC l.data_[ci]).edge ei) ci ei 0 l.data_
    · simp only [h1, h2, decide_true, decide_false, if_true, if_false, Res.bind_ok, and_false]; rfl
  · simp only [h1, decide_false, if_false, false_and]; rfl

abbrev WalkSt := List (Nat × Nat) × Nat × Nat × Nat × Bool

/-- body of the `loop` of `traverse_edges` as the `do` elaborator leaves it; state = `(calls_, i, j, steps, brk1_)` -/
def teBody (l : GenLink.Link) (start : Nat × Nat) (s : WalkSt) : Res (ForInStep WalkSt) := do
  Res.assert (decide (s.2.2.2.1 < 4 * l.data_.length))
  let c ← Lk.idx l.data_ s.2.1
  let k ← c.pass s.2.2.1
  match ← l.pass_edge s.2.1 k with
  | some next =>
    if (next == start) = true then
      pure (ForInStep.done (s.1 ++ [(s.2.1, s.2.2.1)] ++ [(start.1, start.2)], s.2.1, s.2.2.1, s.2.2.2.1 + 1, true))
    else
      match next with
      | (i, j) => pure (ForInStep.yield (s.1 ++ [(s.2.1, s.2.2.1)], i, j, s.2.2.2.1 + 1, s.2.2.2.2))
  | _ => pure (ForInStep.done (s.1 ++ [(s.2.1, s.2.2.1)] ++ [(s.2.1, k)], s.2.1, s.2.2.1, s.2.2.2.1 + 1, true))

theorem traverse_edges_loop (l : GenLink.Link) (fuel : Nat) (start : Nat × Nat) :
    l.traverse_edges fuel start = (do
      Res.assert ((List.range l.data_.length).contains start.1)
      Res.assert ((List.range 4).contains start.2)
      let s ← forIn (List.range fuel) (([], start.1, start.2, 0, false) : WalkSt) fun _ s => teBody l start s
      if (!s.2.2.2.2) = true then Res.err else pure s.1) := rfl

theorem teBody_eq (l : GenLink.Link) (start : Nat × Nat) (calls : List (Nat × Nat)) (i j steps : Nat) (brk : Bool)
    (hi : i < l.data_.length) (hj : j < 4) (hs : steps < 4 * l.data_.length) :
    teBody l start (calls, i, j, steps, brk) = .ok
      (match C18.passEdge (toL l) i ((C18.ctypeAt (toL l) i).pass j) with
      | none => .done (calls ++ [(i, j)] ++ [(i, (C18.ctypeAt (toL l) i).pass j)], i, j, steps + 1, true)
      | some next =>
        if next = start then .done (calls ++ [(i, j)] ++ [start], i, j, steps + 1, true)
        else .yield (calls ++ [(i, j)], next.1, next.2, steps + 1, brk)) := by
  have hk : (C18.ctypeAt (toL l) i).pass j < 4 := C18.pass_lt' _ _ hj
  have hp : (toC l.data_[i]).pass j = (C18.ctypeAt (toL l) i).pass j := by rw [ctypeAt_toL l i hi]; rfl
  simp only [teBody, hs, Res.assert, decide_true, if_true, Res.bind_ok, idx_ok _ _ hi, g_pass_eq, hj, hp,
    g_pass_edge_eq, hi, hk, and_self]
  cases C18.passEdge (toL l) i ((C18.ctypeAt (toL l) i).pass j) with
  | none => rfl
  | some next =>
    by_cases hns : next = start
    · simp only [hns, beq_self_eq_true, if_true]; rfl
    · simp only [hns, beq_iff_eq, if_false]; rfl

theorem te_loop (l : GenLink.Link) (start : Nat × Nat) (xs : List Nat) (acc : List (Nat × Nat)) (i j steps m : Nat)
    (hi : i < l.data_.length) (hj : j < 4) (hm : steps + m = 4 * l.data_.length) (hf : m < xs.length) :
    (forIn xs ((acc.reverse, i, j, steps, false) : WalkSt) (fun _ s => teBody l start s) >>= fun s =>
      if (!s.2.2.2.2) = true then Res.err else pure s.1) =
    C18.traverseLoop (toL l) start m (i, j) acc := by
  induction xs generalizing acc i j steps m with
  | nil => cases hf
  | cons x xs ih =>
    rw [List.forIn_cons]
    cases m with
    | zero =>
      have hlt : ¬ steps < 4 * l.data_.length := by omega
      have hb : teBody l start (acc.reverse, i, j, steps, false) = .panic := by
        simp only [teBody, hlt, Res.assert, decide_false]
        rfl
      rw [hb]
      rfl
    | succ m =>
      rw [teBody_eq l start _ i j steps false hi hj (by omega), C18.traverseLoop]
      cases hpe : C18.passEdge (toL l) i ((C18.ctypeAt (toL l) i).pass j) with
      | none => simp only [List.reverse_cons]; rfl
      | some next =>
        by_cases hns : next = start
        · simp only [hns, if_true, List.reverse_cons]; rfl
        · have hHE := (HE_toL l next).1 (C18.passEdge_range _ _ _ _ hpe)
          have := ih ((i, j) :: acc) next.1 next.2 (steps + 1) m hHE.1 hHE.2 (by omega) (Nat.lt_of_succ_lt_succ hf)
          rw [List.reverse_cons] at this
          simp only [hns, if_false, Res.bind_ok]
          exact this

theorem g_traverse_edges_eq (l : GenLink.Link) (fuel : Nat) (start : Nat × Nat) (hf : 4 * l.data_.length < fuel) :
    l.traverse_edges fuel start =
      if start.1 < l.data_.length ∧ start.2 < 4 then C18.traverse (toL l) start else .panic := by
  rw [traverse_edges_loop, C18.traverse, toL_length]
  simp only [range_contains_eq, Res.assert]
  by_cases h1 : start.1 < l.data_.length
  · by_cases h2 : start.2 < 4
    · simp only [h1, h2, decide_true, if_true, Res.bind_ok, and_self]
      exact te_loop l start (List.range fuel) [] start.1 start.2 0 _ h1 h2 (Nat.zero_add _) (by rw [List.length_range]; exact hf)
    · simp only [h1, h2, decide_true, decide_false, if_true, if_false, Res.bind_ok, and_false]; rfl
  · simp only [h1, decide_false, if_false, false_and]; rfl

theorem traverse_HE (l : C18.Link) (s : Nat × Nat) (hs : C18.HE l s) (path : List (Nat × Nat))
    (h : C18.traverse l s = .ok path) : (∀ p ∈ path, C18.HE l p) ∧ 2 ≤ path.length := by
  have := C18.traverseLoop_all l (C18.HE l) s hs (fun c hc => ⟨hc.1, C18.pass_lt' _ _ hc.2⟩)
    (C18.passEdge_range l) _ s [] path hs (fun _ hp => nomatch hp) h
  simpa using this

theorem edge_toL (l : GenLink.Link) (i j : Nat) (hi : i < l.data_.length) (hj : j < 4) :
    (Lk.idx l.data_ i >>= fun c => c.edge j) = .ok (C18.edgeAt (toL l) i j) := by
  rw [idx_ok _ i hi, Res.bind_ok, g_edge_eq, if_pos hj, edgeAt_toL l i j hi]

/-- the `FnMut` closure of `components` on the state `(passed, edges)`, as the `do` elaborator leaves it -/
def compsVisit (l : GenLink.Link) (x : Nat × Nat) (s : Lk.HashSet Nat × List Nat) :
    Res (ForInStep (Lk.HashSet Nat × List Nat)) := do
  let d4 ← Lk.idx l.data_ x.fst
  let d5 ← d4.edge x.snd
  pure (ForInStep.yield (s.fst.insert d5, s.snd ++ [d5]))

theorem comps_edges_fold (l : GenLink.Link) (path : List (Nat × Nat)) (hp : ∀ p ∈ path, C18.HE (toL l) p)
    (ps : Lk.HashSet Nat) (es : List Nat) :
    forIn path (ps, es) (compsVisit l) =
      .ok (⟨(path.map fun p => C18.edgeAt (toL l) p.1 p.2).reverse ++ ps.log⟩,
           es ++ path.map fun p => C18.edgeAt (toL l) p.1 p.2) := by
  induction path generalizing ps es with
  | nil => simp
  | cons p path ih =>
    obtain ⟨hi, hj⟩ := (HE_toL l p).1 (hp p (List.mem_cons_self ..))
    rw [List.forIn_cons, compsVisit, ← bind_assoc, edge_toL l p.1 p.2 hi hj]
    simp only [Res.bind_ok, Res.pure_eq]
    rw [ih (fun q hq => hp q (List.mem_cons_of_mem _ hq))]
    simp [Lk.HashSet.insert]

def convC (st : List GenLink.Path × Lk.HashSet Nat) : List C18.Path × List Nat := (st.1.map toPath, st.2.log)

/-- body of the loop `for i0 in 0..n` of the closure `traverse` of `Link::components`, as the `do` elaborator leaves it -/
def compsBody (l : GenLink.Link) (fuel j0 i0 : Nat) (s : List GenLink.Path × Lk.HashSet Nat) :
    Res (ForInStep (List GenLink.Path × Lk.HashSet Nat)) := do
  let d1 ← Lk.idx l.data_ i0
  let d2 ← d1.edge j0
  if s.snd.contains d2 = true then pure (ForInStep.yield (s.fst, s.snd))
  else do
    let d3 ← l.traverse_edges fuel (i0, j0)
    let s1 ← forIn d3 (s.snd, ([] : List Nat)) (compsVisit l)
    if (decide (Lk.len s1.snd > 1) && s1.snd.head? == s1.snd.getLast?) = true then do
      let d6 ← GenLink.Path.circ s1.snd.dropLast
      let c ← pure d6
      pure (ForInStep.yield (s.fst ++ [c], s1.fst))
    else do
      let d7 ← GenLink.Path.arc s1.snd
      let c ← pure d7
      pure (ForInStep.yield (s.fst ++ [c], s1.fst))

theorem compsBody_eq (l : GenLink.Link) (fuel : Nat) (hf : 4 * l.data_.length < fuel) (j0 i0 : Nat) (hj0 : j0 < 4)
    (hi0 : i0 < l.data_.length) (s : List GenLink.Path × Lk.HashSet Nat) :
    rmap (stepConv convC) (compsBody l fuel j0 i0 s) =
      (C18.compsStep (toL l) j0 (convC s) i0 >>= fun t => .ok (ForInStep.yield t)) := by
  unfold compsBody C18.compsStep
  have he := edge_toL l i0 j0 hi0 hj0
  have hHE : C18.HE (toL l) (i0, j0) := (HE_toL l _).2 ⟨hi0, hj0⟩
  rw [← bind_assoc, he]
  simp only [Res.bind_ok, convC, Lk.HashSet.contains]
  by_cases hc : s.2.log.contains (C18.edgeAt (toL l) i0 j0) = true
  · simp only [hc, if_true, Res.pure_eq, rmap, stepConv, Res.bind_ok, convC]
  · simp only [hc, Bool.false_eq_true, if_false, g_traverse_edges_eq l fuel (i0, j0) hf, hi0, hj0, and_self, if_true]
    cases hT : C18.traverse (toL l) (i0, j0) with
    | ok path =>
      obtain ⟨hp, hlen⟩ := traverse_HE _ _ hHE _ hT
      simp only [Res.bind_ok]
      rw [comps_edges_fold l path hp]
      simp only [Res.bind_ok, List.nil_append, Lk.len, Lk.Iter.toList, id, C18.mkPath]
      generalize hes : List.map (fun p => C18.edgeAt (toL l) p.fst p.snd) path = es
      have hel : 2 ≤ es.length := by rw [← hes, List.length_map]; exact hlen
      have hne : es ≠ [] := by intro h; rw [h] at hel; simp at hel
      have hdl : es.dropLast ≠ [] := by
        intro h; have := congrArg List.length h; simp only [List.length_dropLast, List.length_nil] at this; omega
      by_cases hcond : es.length > 1 ∧ es.head? = es.getLast?
      · simp [hcond, g_path_circ_eq, g_path_new_eq, hdl, rmap, stepConv, convC, toPath]
      · simp [hcond, g_path_arc_eq, g_path_new_eq, hne, rmap, stepConv, convC, toPath]
    | panic => rfl
    | err => rfl

theorem components_passes (l : GenLink.Link) (fuel : Nat) :
    l.components fuel = (do
      let s ← forIn [0, 1, 2] (([] : List GenLink.Path), (Lk.HashSet.new : Lk.HashSet Nat)) fun j s => do
        let s ← forIn (List.range l.data_.length) (s.1, s.2) (compsBody l fuel j)
        pure (ForInStep.yield (s.1, s.2))
      pure s.1) := rfl

/-- the sign table inside the closure of `crossing_signs` -/
def gSign (t : CrossingType) (j : Nat) : Option Lk.Sign :=
  match (t, j) with
  | (CrossingType.Xm, 1) => some Lk.Sign.Pos
  | (CrossingType.X, 3) => some Lk.Sign.Pos
  | (CrossingType.Xm, 3) => some Lk.Sign.Neg
  | (CrossingType.X, 1) => some Lk.Sign.Neg
  | _ => none

theorem gSign_eq (t : CrossingType) (j : Nat) : (gSign t j).map toSign = C18.signAt (toT t) j := by
  cases t <;> (rcases j with _ | _ | _ | _ | j) <;> rfl

abbrev SignSt := List (Option Lk.Sign) × Lk.HashSet Nat

def convS (st : SignSt) : List (Option C18.Sign) × List Nat := (st.1.map (Option.map toSign), st.2.log)

/-- the `FnMut` closure of `crossing_signs` on the state `(signs, passed)`, as the `do` elaborator leaves it -/
def gVisit (l : GenLink.Link) (x : Nat × Nat) (s : SignSt) : Res (ForInStep SignSt) := do
  let d4 ← Lk.idx l.data_ x.fst
  let d5 ← d4.edge x.snd
  if (gSign d4.ctype x.snd).isSome = true then do
    let d6 ← Lk.idxSet s.fst x.fst (gSign d4.ctype x.snd)
    pure (ForInStep.yield (d6, s.snd.insert d5))
  else pure (ForInStep.yield (s.fst, s.snd.insert d5))

theorem gVisit_eq (l : GenLink.Link) (s : SignSt) (hs : s.1.length = l.data_.length) (x : Nat × Nat)
    (hx : C18.HE (toL l) x) :
    ∃ s', gVisit l x s = .ok (.yield s') ∧ convS s' = C18.signsVisit (toL l) (convS s) x ∧
      s'.1.length = l.data_.length := by
  obtain ⟨hi, hj⟩ := (HE_toL l x).1 hx
  have hsg := gSign_eq l.data_[x.1].ctype_ x.2
  unfold gVisit C18.signsVisit
  simp only [idx_ok _ _ hi, Res.bind_ok, g_edge_eq, hj, if_true, GenLink.Crossing.ctype, ctypeAt_toL l x.1 hi, ← hsg,
    ← edgeAt_toL l x.1 x.2 hi, Res.pure_eq]
  cases hs1 : gSign l.data_[x.1].ctype_ x.2 with
  | none => exact ⟨(s.1, s.2.insert (C18.edgeAt (toL l) x.1 x.2)), by simp, by simp [convS, Lk.HashSet.insert], hs⟩
  | some sg =>
    have hlt : x.1 < s.1.length := by omega
    refine ⟨(s.1.set x.1 (some sg), s.2.insert (C18.edgeAt (toL l) x.1 x.2)), by simp [Lk.idxSet, hlt], ?_, by simp [hs]⟩
    simp [convS, Lk.HashSet.insert, List.map_set]

theorem gVisit_fold (l : GenLink.Link) (path : List (Nat × Nat)) (hp : ∀ p ∈ path, C18.HE (toL l) p) (s : SignSt)
    (hs : s.1.length = l.data_.length) :
    ∃ s', forIn path s (gVisit l) = .ok s' ∧ convS s' = path.foldl (C18.signsVisit (toL l)) (convS s) ∧
      s'.1.length = l.data_.length := by
  induction path generalizing s with
  | nil => exact ⟨s, rfl, rfl, hs⟩
  | cons p path ih =>
    obtain ⟨s1, h1, h2, h3⟩ := gVisit_eq l s hs p (hp p (List.mem_cons_self ..))
    obtain ⟨s2, h4, h5, h6⟩ := ih (fun q hq => hp q (List.mem_cons_of_mem _ hq)) s1 h3
    exact ⟨s2, by rw [List.forIn_cons, h1]; exact h4, by rw [List.foldl_cons, ← h2]; exact h5, h6⟩

/-- body of the loop `for i0 in 0..n` of the closure `traverse` of `Link::crossing_signs`, as the `do` elaborator leaves it -/
def signsBody (l : GenLink.Link) (fuel j0 i0 : Nat) (s : SignSt) : Res (ForInStep SignSt) := do
  let d1 ← Lk.idx l.data_ i0
  let d2 ← d1.edge j0
  if s.snd.contains d2 = true then pure (ForInStep.yield (s.fst, s.snd))
  else do
    let d3 ← l.traverse_edges fuel (i0, j0)
    let s ← forIn d3 (s.fst, s.snd) (gVisit l)
    pure (ForInStep.yield (s.fst, s.snd))

theorem signsBody_eq (l : GenLink.Link) (fuel : Nat) (hf : 4 * l.data_.length < fuel) (j0 i0 : Nat) (hj0 : j0 < 4)
    (hi0 : i0 < l.data_.length) (s : SignSt) (hs : s.1.length = l.data_.length) :
    rmap (stepConv convS) (signsBody l fuel j0 i0 s) =
      (C18.signsStep (toL l) j0 (convS s) i0 >>= fun t => .ok (ForInStep.yield t)) ∧
    ∀ s', signsBody l fuel j0 i0 s = .ok (ForInStep.yield s') → s'.1.length = l.data_.length := by
  unfold signsBody C18.signsStep
  have he := edge_toL l i0 j0 hi0 hj0
  have hHE : C18.HE (toL l) (i0, j0) := (HE_toL l _).2 ⟨hi0, hj0⟩
  rw [← bind_assoc, he]
  simp only [Res.bind_ok, convS, Lk.HashSet.contains]
  by_cases hc : s.2.log.contains (C18.edgeAt (toL l) i0 j0) = true
  · simp only [hc, if_true, Res.pure_eq, Res.bind_ok]
    refine ⟨rfl, fun s' h => ?_⟩
    simp only [Res.ok.injEq, ForInStep.yield.injEq] at h
    rw [← h]; exact hs
  · simp only [hc, Bool.false_eq_true, if_false, g_traverse_edges_eq l fuel (i0, j0) hf, hi0, hj0, and_self, if_true]
    cases hT : C18.traverse (toL l) (i0, j0) with
    | ok path =>
      obtain ⟨hp, _⟩ := traverse_HE _ _ hHE _ hT
      obtain ⟨s1, h1, h2, h3⟩ := gVisit_fold l path hp s hs
      have h1' : forIn path (s.1, s.2) (gVisit l) = .ok s1 := h1
      simp only [Res.bind_ok, h1', Res.pure_eq]
      refine ⟨?_, fun s' h => ?_⟩
      · simp only [rmap, stepConv, Res.ok.injEq, ForInStep.yield.injEq]
        exact h2
      · simp only [Res.ok.injEq, ForInStep.yield.injEq] at h
        rw [← h]; exact h3
    | panic => exact ⟨rfl, fun s' h => by cases h⟩
    | err => exact ⟨rfl, fun s' h => by cases h⟩

theorem signs_final (l : GenLink.Link) (st : SignSt) :
    rmap (List.map toSign) (Res.assert ((List.filterMap id st.1).length == l.crossing_num) >>= fun _ =>
      Res.ok (List.filterMap id st.1)) =
    (if ((convS st).1.filterMap id).length = C18.crossingNum (toL l) then Res.ok ((convS st).1.filterMap id) else .panic) := by
  simp only [convS, C18.filterMap_id_map, List.length_map, ← g_crossing_num_eq, Res.assert]
  by_cases h : (List.filterMap id st.1).length = l.crossing_num
  · simp [h, rmap]
  · have : ((List.filterMap id st.1).length == l.crossing_num) = false := by simpa using h
    simp [h, this, rmap]

theorem signs_incomplete (l : GenLink.Link) (st : SignSt) (hs : st.1.length = l.data_.length) :
    (Lk.anyM (List.range l.data_.length) fun i => do
        let c ← Lk.idx l.data_ i
        if (!c.is_resolved) = true then do
            let sg ← Lk.idx st.1 i
            Res.ok sg.isNone
          else Res.ok false) = .ok (C18.signsIncomplete (toL l) (convS st).1) := by
  rw [C18.signsIncomplete, toL_length]
  apply anyM_eq_any
  intro i hi
  have hi' : i < l.data_.length := List.mem_range.1 hi
  have hi2 : i < st.1.length := hs ▸ hi'
  have hsg : ((convS st).1.getD i none).isNone = st.1[i].isNone := by
    rw [convS, List.getD_eq_getElem?_getD, List.getElem?_map, List.getElem?_eq_getElem hi2]
    cases st.1[i] <;> rfl
  rw [idx_ok _ i hi', idx_ok _ i hi2, ctypeAt_toL l i hi', hsg]
  have hr : l.data_[i].is_resolved = (toT l.data_[i].ctype_).isResolved := g_is_resolved_eq _
  simp only [Res.bind_ok, hr]
  cases (toT l.data_[i].ctype_).isResolved <;> rfl

theorem crossing_signs_passes (l : GenLink.Link) (fuel : Nat) :
    l.crossing_signs fuel = (do
      let s ← forIn (List.range l.data_.length) (List.replicate l.data_.length none, Lk.HashSet.new) (signsBody l fuel 0)
      let inc ← Lk.anyM (List.range l.data_.length) fun i => do
          let c ← Lk.idx l.data_ i
          if (!c.is_resolved) = true then do
              let sg ← Lk.idx s.1 i
              Res.ok sg.isNone
            else Res.ok false
      let fin : SignSt → Res (List Lk.Sign) := fun s =>
        Res.assert ((List.filterMap id s.1).length == l.crossing_num) >>= fun _ => Res.ok (List.filterMap id s.1)
      if inc = true then do
        let s ← forIn [1, 2] (s.1, s.2) fun j s => do
          let s ← forIn (List.range l.data_.length) (s.1, s.2) (signsBody l fuel j)
          pure (ForInStep.yield (s.1, s.2))
        fin (s.1, s.2)
      else fin (s.1, s.2)) := rfl

theorem count_map_toSign (s : List Lk.Sign) :
    (s.map toSign).count .pos = s.count .Pos ∧ (s.map toSign).count .neg = s.count .Neg := by
  induction s with
  | nil => exact ⟨rfl, rfl⟩
  | cons x xs ih => cases x <;> simp [toSign, ih.1, ih.2]

def bitB : Lk.Bit → Bool
  | .Bit0 => false
  | .Bit1 => true

theorem toBit_bitB (b : Lk.Bit) : toBit (bitB b) = b := by cases b <;> rfl

theorem resolveFirst_length (l : C18.Link) (b : Bool) (l' : C18.Link) (h : C18.resolveFirst l b = .ok l') :
    l'.length = l.length := by
  induction l generalizing l' with
  | nil => cases h
  | cons c cs ih =>
    rw [C18.resolveFirst] at h
    split at h <;> split at h <;> cases h
    · exact congrArg (· + 1) (ih _ ‹_›)
    · rfl

theorem resolvedBy_length (l : C18.Link) (s : List Bool) (l' : C18.Link) (h : C18.resolvedBy l s = .ok l') :
    l'.length = l.length := by
  rw [C18.resolvedBy] at h
  split at h
  · exact Res.foldlM_inv (fun x => x.length = l.length)
      (fun x b x' _ hx hb => (resolveFirst_length x b x' hb).trans hx) rfl h
  · cases h

def mk (t : CrossingType) (a b c d : Nat) : GenLink.Crossing := ⟨t, ⟨a, b, c, d⟩⟩

/-- sample diagrams: trefoil, figure-8, Hopf link, a kink, the unknot diagram resolved, a mirrored / partly resolved trefoil,
two disjoint components one of which only passes over, a malformed code (label 1 three times), an over-only component at
mirrored crossings, an over-only component entered twice in a row at slot 3, the empty link -/
def samples : List GenLink.Link := [
  ⟨[mk .X 1 4 2 5, mk .X 3 6 4 1, mk .X 5 2 6 3]⟩,
  ⟨[mk .X 4 2 5 1, mk .X 8 6 1 5, mk .X 6 3 7 4, mk .X 2 7 3 8]⟩,
  ⟨[mk .X 4 1 3 2, mk .X 2 3 1 4]⟩,
  ⟨[mk .X 0 1 1 0]⟩,
  ⟨[mk .H 0 1 1 0]⟩,
  ⟨[mk .Xm 1 4 2 5, mk .V 3 6 4 1, mk .X 5 2 6 3]⟩,
  ⟨[mk .X 0 2 1 3, mk .X 1 3 0 2]⟩,
  ⟨[mk .Xm 0 2 1 3, mk .H 1 3 0 2, mk .X 4 5 5 4]⟩,
  ⟨[mk .X 1 1 2 1, mk .X 2 3 3 4]⟩,
  ⟨[mk .Xm 0 2 1 3, mk .Xm 1 3 0 2]⟩,
  ⟨[mk .X 0 3 1 4, mk .X 1 5 2 4, mk .X 2 3 0 5]⟩,
  ⟨[]⟩]

def fuel0 : Nat := 40

def slotsOf (l : GenLink.Link) : List (Nat × Nat) :=
  (List.range l.data_.length).flatMap fun i => (List.range 4).map fun j => (i, j)

theorem samples_fuel : ∀ l ∈ samples, 4 * l.data_.length < fuel0 := by decide

theorem mem_slotsOf {l : GenLink.Link} {s : Nat × Nat} (h : s ∈ slotsOf l) : s.1 < l.data_.length ∧ s.2 < 4 := by
  simp only [slotsOf, List.mem_flatMap, List.mem_map, List.mem_range] at h
  obtain ⟨i, hi, j, hj, rfl⟩ := h
  exact ⟨hi, hj⟩

def states (n : Nat) : List (List Bool) :=
  match n with
  | 0 => [[]]
  | n + 1 => (states n).flatMap fun s => [false :: s, true :: s]

end Yuiv.C18.GenFn
