import Yuiv.Proofs.C18Orbit
/-
C18 — the closure of a braid word is a valid PD code (every label exactly twice).

Invariant of the loop of `Braid::closure`, as a permutation of label lists: the labels written so far, the current
bottom labels and the top labels `0..strands` together contain every label below `count` exactly twice.

First section: what a successful step of the loop, a successful `closurePD` and a successful `closure` say about
their inputs; every later analysis of the loop starts from these.
-/
namespace Yuiv.C18
open Yuiv

theorem closureStep_ok {st st' : Nat × List Nat × List (Nat × Nat × Nat × Nat)} {s : Int}
    (h : closureStep st s = .ok st') :
    ∃ a b, s.natAbs ≠ 0 ∧ st.2.1[s.natAbs - 1]? = some a ∧ st.2.1[s.natAbs - 1 + 1]? = some b ∧
      st' = (st.1 + 2, (st.2.1.set (s.natAbs - 1) st.1).set (s.natAbs - 1 + 1) (st.1 + 1),
             st.2.2 ++ [if s > 0 then (a, st.1, st.1 + 1, b) else (b, a, st.1, st.1 + 1)]) := by
  unfold closureStep at h
  by_cases h0 : s.natAbs = 0
  · rw [if_pos h0] at h; cases h
  · rw [if_neg h0] at h
    cases ha : st.2.1[s.natAbs - 1]? with
    | none => simp only [ha] at h; cases h
    | some a =>
      cases hb : st.2.1[s.natAbs - 1 + 1]? with
      | none => simp only [ha, hb] at h; cases h
      | some b =>
        simp only [ha, hb] at h
        cases h
        exact ⟨a, b, h0, rfl, rfl, rfl⟩

theorem closureStep_len {st st' : Nat × List Nat × List (Nat × Nat × Nat × Nat)} {s : Int}
    (h : closureStep st s = .ok st') :
    st'.2.2.length = st.2.2.length + 1 ∧ st'.2.1.length = st.2.1.length := by
  obtain ⟨a, b, _, _, _, rfl⟩ := closureStep_ok h
  simp

theorem foldlM_closureStep_len (w : List Int) (st st' : Nat × List Nat × List (Nat × Nat × Nat × Nat))
    (h : w.foldlM closureStep st = .ok st') :
    st'.2.2.length = st.2.2.length + w.length ∧ st'.2.1.length = st.2.1.length := by
  refine Res.foldlM_inv_prefix
    (fun u q => q.2.2.length = st.2.2.length + u.length ∧ q.2.1.length = st.2.1.length) ?_ ⟨rfl, rfl⟩ h
  intro u q s q' hq hs
  have h1 := closureStep_len hs
  rw [h1.1, h1.2, hq.1, hq.2, List.length_append]
  exact ⟨rfl, rfl⟩

theorem closurePD_inv {strands : Nat} {w : List Int} {pd : List (Nat × Nat × Nat × Nat)}
    (h : closurePD strands w = .ok pd) :
    ∃ st, w.foldlM closureStep (strands, List.range strands, []) = .ok st ∧ hasFreeLoop st.2.1 = false ∧
      pd = st.2.2.map (fun x => (connRename st.2.1 x.1, connRename st.2.1 x.2.1, connRename st.2.1 x.2.2.1,
        connRename st.2.1 x.2.2.2)) := by
  obtain ⟨st, hf, h⟩ := Res.bind_eq_ok h
  refine ⟨st, hf, ?_⟩
  cases hfl : hasFreeLoop st.2.1 with
  | true => simp only [hfl, if_true] at h; cases h
  | false =>
    simp only [hfl, Bool.false_eq_true, if_false] at h
    cases h
    exact ⟨rfl, rfl⟩

theorem closure_inv {strands : Nat} {w : List Int} {l : Link} (h : closure strands w = .ok l) :
    ∃ st, w.foldlM closureStep (strands, List.range strands, []) = .ok st ∧ hasFreeLoop st.2.1 = false ∧
      l = fromPD4 (st.2.2.map (fun x => (connRename st.2.1 x.1, connRename st.2.1 x.2.1,
        connRename st.2.1 x.2.2.1, connRename st.2.1 x.2.2.2))) := by
  obtain ⟨pd, hp, h⟩ := Res.bind_eq_ok h
  obtain ⟨st, hf, hfl, rfl⟩ := closurePD_inv hp
  cases h
  exact ⟨st, hf, hfl, rfl⟩

theorem closurePD_length {strands : Nat} {w : List Int} {pd : List (Nat × Nat × Nat × Nat)}
    (h : closurePD strands w = .ok pd) : pd.length = w.length := by
  obtain ⟨st, hf, _, rfl⟩ := closurePD_inv h
  rw [List.length_map, (foldlM_closureStep_len w _ st hf).1]
  exact Nat.zero_add _

theorem allEdges_fromPD4_length (pd : List (Nat × Nat × Nat × Nat)) :
    (allEdges (fromPD4 pd)).length = 4 * pd.length := by
  induction pd with
  | nil => rfl
  | cons x xs ih =>
    simp only [allEdges, fromPD4, List.map_cons, List.flatMap_cons, List.length_append, List.length_cons] at *
    simp only [Crossing.edges, List.length_cons, List.length_nil]
    omega

abbrev PD := List (Nat × Nat × Nat × Nat)

def flatPD (pd : PD) : List Nat := pd.flatMap (fun x => [x.1, x.2.1, x.2.2.1, x.2.2.2])

theorem flatPD_append (p q : PD) : flatPD (p ++ q) = flatPD p ++ flatPD q := by
  simp [flatPD]

theorem flatPD_map (f : Nat → Nat) (pd : PD) :
    flatPD (pd.map (fun x => (f x.1, f x.2.1, f x.2.2.1, f x.2.2.2))) = (flatPD pd).map f := by
  induction pd with
  | nil => rfl
  | cons x xs ih =>
    simp only [flatPD, List.map_cons, List.flatMap_cons, List.map_append] at *
    rw [ih]; rfl

theorem allEdges_fromPD4 (pd : PD) : allEdges (fromPD4 pd) = flatPD pd := by
  induction pd with
  | nil => rfl
  | cons x xs ih =>
    simp only [allEdges, fromPD4, flatPD, List.map_cons, List.flatMap_cons] at *
    rw [ih]; rfl

/-- overwriting two adjacent entries of a list leaves the rest `R` of it untouched -/
theorem set_set_perm {α} (x y : α) (B : List α) : ∀ (i : Nat) (hi : i + 1 < B.length),
    ∃ R, B.Perm (B[i] :: B[i + 1] :: R) ∧ ((B.set i x).set (i + 1) y).Perm (x :: y :: R) := by
  induction B with
  | nil => intro i hi; cases hi
  | cons b0 B ih =>
    intro i hi
    cases i with
    | zero =>
      cases B with
      | nil => exact absurd hi (Nat.lt_irrefl 1)
      | cons b1 B => exact ⟨B, .refl _, .refl _⟩
    | succ i =>
      obtain ⟨R, h1, h2⟩ := ih i (Nat.lt_of_succ_lt_succ hi)
      exact ⟨b0 :: R, ((h1.cons b0).trans (.swap _ _ _)).trans ((List.Perm.swap _ _ _).cons _),
        ((h2.cons b0).trans (.swap _ _ _)).trans ((List.Perm.swap _ _ _).cons _)⟩

/-- loop invariant of `Braid::closure`, state = (count, bottom row, code): the bottom labels are pairwise distinct
(`nd`), a bottom label is the top label of its own position or was written by the loop (`own`), and the labels of the
code, the bottom row and the top row `0..strands`, taken together with multiplicity, are the labels below `count`, each
twice (`perm`; the top row stands for the second occurrence of a label that the closing arcs will supply) -/
structure CInv (strands : Nat) (st : Nat × List Nat × PD) : Prop where
  len : st.2.1.length = strands
  le : strands ≤ st.1
  nd : st.2.1.Nodup
  own : ∀ k (hk : k < st.2.1.length), st.2.1[k] = k ∨ strands ≤ st.2.1[k]
  perm : (flatPD st.2.2 ++ (st.2.1 ++ List.range strands)).Perm (List.range st.1 ++ List.range st.1)

theorem cinv_init (strands : Nat) : CInv strands (strands, List.range strands, []) :=
  ⟨List.length_range, Nat.le_refl _, List.nodup_range, fun _ hk => Or.inl (List.getElem_range hk), .refl _⟩

theorem CInv.cb {strands : Nat} {st : Nat × List Nat × PD} (hI : CInv strands st) (e : Nat) : st.2.1.count e ≤ 1 :=
  List.nodup_iff_count.1 hI.nd e

/-- `perm`, label by label -/
theorem CInv.cnt {strands : Nat} {st : Nat × List Nat × PD} (hI : CInv strands st) (e : Nat) :
    (flatPD st.2.2).count e + st.2.1.count e + (if e < strands then 1 else 0) = if e < st.1 then 2 else 0 := by
  have := hI.perm.count_eq e
  simp only [List.count_append, List.count_range] at this
  by_cases h : e < st.1
  · rw [if_pos h] at this ⊢; omega
  · rw [if_neg h] at this ⊢; omega

theorem br_cinv_bottom_nodup {strands : Nat} {st : Nat × List Nat × PD} (hI : CInv strands st) : st.2.1.Nodup :=
  hI.nd

theorem cinv_lt_count {strands : Nat} {st : Nat × List Nat × PD} (hI : CInv strands st) (e : Nat)
    (he : e ∈ flatPD st.2.2 ∨ e ∈ st.2.1 ∨ e < strands) : e < st.1 := by
  have hm : e ∈ flatPD st.2.2 ++ (st.2.1 ++ List.range strands) := by
    simp only [List.mem_append, List.mem_range]; exact he
  have := hI.perm.mem_iff.1 hm
  rw [List.mem_append, or_self] at this
  exact List.mem_range.1 this

theorem br_cinv_bottom_lt {strands : Nat} {st : Nat × List Nat × PD} (hI : CInv strands st) :
    ∀ e ∈ st.2.1, e < st.1 :=
  fun e he => cinv_lt_count hI e (Or.inr (Or.inl he))

theorem cinv_mem_code {strands : Nat} {st : Nat × List Nat × PD} (hI : CInv strands st) {z : Nat} (hz : z < st.1)
    (h : z ∉ st.2.1 ∨ strands ≤ z) : z ∈ flatPD st.2.2 := by
  have c := hI.cnt z
  have hb := hI.cb z
  rw [if_pos hz] at c
  apply List.count_pos_iff.1
  rcases h with h | h
  · rw [List.count_eq_zero.2 h] at c
    split at c <;> omega
  · rw [if_neg (Nat.not_lt.2 h)] at c
    omega

theorem count_ge_of_getElem (l : List Nat) (k : Nat) (hk : k < l.length) (e : Nat) (h : l[k] = e) :
    1 ≤ l.count e := by
  have : e ∈ l := h ▸ List.getElem_mem hk
  exact List.count_pos_iff.2 this

/-- the crossing written for a letter carries the two old bottom labels and the two new ones -/
theorem flatPD_letter (s : Int) (a b c d : Nat) :
    (flatPD [if s > 0 then (a, c, d, b) else (b, a, c, d)]).Perm [a, b, c, d] := by
  split
  · exact List.Perm.cons a (List.perm_append_comm (l₁ := [c, d]) (l₂ := [b]))
  · exact .swap _ _ _

theorem cinv_step (strands : Nat) (st st' : Nat × List Nat × PD) (s : Int)
    (hI : CInv strands st) (h : closureStep st s = .ok st') : CInv strands st' := by
  obtain ⟨a, b, _, ha, hb, rfl⟩ := closureStep_ok h
  have hfresh := br_cinv_bottom_lt hI
  obtain ⟨count, bottom, pd⟩ := st
  obtain ⟨hlen, hle, hnd, hown, hperm⟩ := hI
  simp only at ha hb hlen hle hnd hown hperm hfresh ⊢
  generalize s.natAbs - 1 = i at *
  obtain ⟨hi, rfl⟩ := List.getElem?_eq_some_iff.1 ha
  obtain ⟨hi1, rfl⟩ := List.getElem?_eq_some_iff.1 hb
  obtain ⟨R, h1, h2⟩ := set_set_perm count (count + 1) bottom i hi1
  refine ⟨by simp only [List.length_set]; exact hlen, Nat.le_add_right_of_le hle, ?_, ?_, ?_⟩
  · -- the two new labels are not below `count`, the untouched bottom labels are
    have hR : ∀ e ∈ R, e < count := fun e he =>
      hfresh e (h1.mem_iff.2 (List.mem_cons_of_mem _ (List.mem_cons_of_mem _ he)))
    have hnR : R.Nodup := (List.nodup_cons.1 (List.nodup_cons.1 (h1.nodup_iff.1 hnd)).2).2
    have hc : count ∉ R := fun hm => Nat.lt_irrefl _ (hR _ hm)
    have hc1 : count + 1 ∉ R := fun hm => Nat.lt_irrefl _ (Nat.lt_trans (Nat.lt_succ_self _) (hR _ hm))
    refine h2.nodup_iff.2 (List.nodup_cons.2 ⟨fun hm => ?_, List.nodup_cons.2 ⟨hc1, hnR⟩⟩)
    rcases List.mem_cons.1 hm with h | h
    · exact absurd h (Nat.ne_of_lt (Nat.lt_succ_self _))
    · exact hc h
  · intro k hk
    simp only [List.length_set] at hk
    simp only [List.getElem_set]
    split
    · exact Or.inr (Nat.le_succ_of_le hle)
    · split
      · exact Or.inr hle
      · exact hown k hk
  · -- label by label: both sides gain `count` and `count + 1` twice; the two old bottom labels move into the code
    rw [List.perm_iff_count] at hperm ⊢
    intro e
    have c0 := hperm e
    have c1 := h1.count_eq e
    have c2 := h2.count_eq e
    have c3 := (flatPD_letter s bottom[i] bottom[i + 1] count (count + 1)).count_eq e
    simp only [flatPD_append, List.count_append, List.count_cons, List.count_nil, List.range_succ] at c0 c1 c2 c3 ⊢
    omega

theorem cinv_foldl (strands : Nat) (w : List Int) (st st' : Nat × List Nat × PD)
    (hI : CInv strands st) (h : w.foldlM closureStep st = .ok st') : CInv strands st' :=
  Res.foldlM_inv (CInv strands) (fun q s q' _ hq hs => cinv_step strands q q' s hq hs) hI h

theorem countP_or_eq (L : List Nat) (u v : Nat) (huv : u ≠ v) :
    L.countP (fun x => x == u || x == v) = L.count u + L.count v := by
  induction L with
  | nil => rfl
  | cons x xs ih =>
    rw [List.countP_cons, List.count_cons, List.count_cons, ih]
    by_cases h1 : x = u
    · subst h1
      rw [beq_self_eq_true, Bool.true_or, if_pos rfl, beq_eq_false_iff_ne.2 huv, if_neg Bool.false_ne_true]
      omega
    · by_cases h2 : x = v
      · subst h2
        rw [beq_self_eq_true, Bool.or_true, if_pos rfl, beq_eq_false_iff_ne.2 h1, if_neg Bool.false_ne_true]
        omega
      · rw [beq_eq_false_iff_ne.2 h1, beq_eq_false_iff_ne.2 h2]
        rfl

theorem count_map_eq (L : List Nat) (f : Nat → Nat) (e : Nat) :
    (L.map f).count e = L.countP (fun x => f x == e) := by
  rw [List.count_eq_countP, List.countP_map]; rfl

theorem hasFreeLoop_false (bottom : List Nat) (h : hasFreeLoop bottom = false) :
    ∀ k (hk : k < bottom.length), bottom[k] ≠ k := by
  intro k hk hkk
  unfold hasFreeLoop at h
  have : (List.range bottom.length).any (fun i => bottom.getD i 0 == i) = true := by
    rw [List.any_eq_true]
    refine ⟨k, List.mem_range.2 hk, ?_⟩
    simp [List.getD_eq_getElem?_getD, List.getElem?_eq_getElem hk, hkk]
  rw [this] at h; cases h

theorem cinv_bottom_ge {strands : Nat} {st : Nat × List Nat × PD} (hI : CInv strands st)
    (hfree : hasFreeLoop st.2.1 = false) : ∀ x ∈ st.2.1, strands ≤ x := by
  intro x hx
  obtain ⟨k, hk, rfl⟩ := List.getElem_of_mem hx
  exact (hI.own k hk).resolve_left (hasFreeLoop_false _ hfree k hk)

theorem br_connRename_mem (bottom : List Nat) (x : Nat) (hx : x ∈ bottom) :
    connRename bottom x = bottom.idxOf x ∧ bottom.idxOf x < bottom.length := by
  have : bottom.idxOf x < bottom.length := List.idxOf_lt_length_iff.2 hx
  exact ⟨if_pos this, this⟩

theorem br_connRename_nmem (bottom : List Nat) (x : Nat) (hx : x ∉ bottom) : connRename bottom x = x :=
  if_neg (fun h => hx (List.idxOf_lt_length_iff.1 h))

theorem connRename_getElem {bottom : List Nat} (hnd : bottom.Nodup) (k : Nat) (hk : k < bottom.length) :
    connRename bottom bottom[k] = k := by
  rw [(br_connRename_mem bottom _ (List.getElem_mem hk)).1]
  exact hnd.idxOf_getElem k hk

theorem connRename_of_lt {bottom : List Nat} {n : Nat} (hge : ∀ x ∈ bottom, n ≤ x) (k : Nat) (hk : k < n) :
    connRename bottom k = k :=
  br_connRename_nmem bottom k fun hm => Nat.lt_irrefl _ (Nat.lt_of_lt_of_le hk (hge k hm))

theorem closure_final (strands : Nat) (st : Nat × List Nat × PD) (hI : CInv strands st)
    (hfree : hasFreeLoop st.2.1 = false) :
    ∀ e ∈ (flatPD st.2.2).map (connRename st.2.1), ((flatPD st.2.2).map (connRename st.2.1)).count e = 2 := by
  obtain ⟨count, bottom, pd⟩ := st
  have hnodup : bottom.Nodup := hI.nd
  have hmem_ge : ∀ x ∈ bottom, strands ≤ x := cinv_bottom_ge hI hfree
  have hlen := hI.len
  have hle := hI.le
  have hcb := hI.cb
  have hcnt := hI.cnt
  simp only at hlen hle hcb hcnt ⊢
  have f_mem := br_connRename_mem bottom
  have f_nmem := br_connRename_nmem bottom
  intro e he
  rw [count_map_eq]
  by_cases hes : e < strands
  · -- a top label: preimages are `bottom[e]` and `e`
    have hek : e < bottom.length := by omega
    have hβ := hmem_ge _ (List.getElem_mem hek)
    have hβe : bottom[e] ≠ e := by omega
    have he_nmem : e ∉ bottom := fun h => by have := hmem_ge e h; omega
    have hp : ∀ x, (connRename bottom x == e) = (x == bottom[e] || x == e) := by
      intro x
      by_cases hx : x ∈ bottom
      · obtain ⟨h1, h2⟩ := f_mem x hx
        rw [h1]
        have hxe : x ≠ e := fun h => he_nmem (h ▸ hx)
        by_cases hidx : bottom.idxOf x = e
        · have : bottom[e] = x := by
            have := List.getElem_idxOf h2
            simp only [hidx] at this; exact this
          rw [beq_iff_eq.2 hidx, ← this, beq_self_eq_true, Bool.true_or]
        · have : x ≠ bottom[e] := by
            intro hxx
            apply hidx
            rw [hxx]; exact hnodup.idxOf_getElem e hek
          rw [beq_eq_false_iff_ne.2 hidx, beq_eq_false_iff_ne.2 this, beq_eq_false_iff_ne.2 hxe]; rfl
      · rw [f_nmem x hx]
        have : x ≠ bottom[e] := fun h => hx (h ▸ List.getElem_mem hek)
        rw [beq_eq_false_iff_ne.2 this, Bool.false_or]
    rw [funext hp, countP_or_eq _ _ _ hβe]
    have c1 := hcnt bottom[e]
    have c2 := hcnt e
    have b1 : 1 ≤ bottom.count bottom[e] := count_ge_of_getElem bottom e hek _ rfl
    have b1' := hcb bottom[e]
    have b2 : bottom.count e = 0 := List.count_eq_zero.2 he_nmem
    rw [b2] at c2
    rw [if_neg (by omega)] at c1
    rw [if_pos hes, if_pos (by omega)] at c2
    split at c1 <;> omega
  · -- a label ≥ strands is the image of itself only, and is not a bottom label
    obtain ⟨y, hym, hy⟩ := List.mem_map.1 he
    have hyb : y ∉ bottom := fun hyb => by
      have := f_mem y hyb
      omega
    rw [f_nmem y hyb] at hy
    have heb : e ∉ bottom := hy ▸ hyb
    have hpos : 0 < (flatPD pd).count e := hy ▸ List.count_pos_iff.2 hym
    have hp : ∀ x, (connRename bottom x == e) = (x == e) := by
      intro x
      by_cases hx : x ∈ bottom
      · obtain ⟨h1, h2⟩ := f_mem x hx
        rw [h1]
        have : x ≠ e := fun h => heb (h ▸ hx)
        have h3 : bottom.idxOf x ≠ e := by omega
        rw [beq_eq_false_iff_ne.2 h3, beq_eq_false_iff_ne.2 this]
      · rw [f_nmem x hx]
    rw [funext hp]
    have c := hcnt e
    have b2 : bottom.count e = 0 := List.count_eq_zero.2 heb
    rw [b2, if_neg hes] at c
    rw [← List.count_eq_countP]
    split at c <;> omega

theorem closure_valid' (strands : Nat) (w : List Int) (l : Link) (h : closure strands w = .ok l) : Valid l := by
  obtain ⟨st, hf, hfl, rfl⟩ := closure_inv h
  unfold Valid
  rw [allEdges_fromPD4, flatPD_map]
  exact closure_final strands st (cinv_foldl strands w _ st (cinv_init strands) hf) hfl

theorem twice_labels (n : Nat) : ∀ (L : List Nat), L.length = n → (∀ e ∈ L, L.count e = 2) →
    2 * L.eraseDups.length = L.length := by
  induction n using Nat.strongRecOn with
  | ind n ih =>
    intro L hn h
    cases L with
    | nil => rfl
    | cons a r =>
      rw [List.eraseDups_cons, List.length_cons, List.length_cons]
      show 2 * ((r.filter (fun x => x != a)).eraseDups.length + 1) = r.length + 1
      have hcount : (a :: r).count a = 2 := h a (by simp)
      have hlen : (a :: r).length = (a :: r).countP (fun x => x != a) + (a :: r).countP (fun x => ¬ (x != a)) :=
        List.length_eq_countP_add_countP _
      have h1 : (a :: r).countP (fun x => x != a) = (r.filter (fun x => x != a)).length := by
        rw [List.countP_cons]; simp [List.countP_eq_length_filter]
      have h2 : (a :: r).countP (fun x => decide ¬ ((x != a) = true)) = (a :: r).count a := by
        rw [List.count_eq_countP]
        congr 1; funext x; by_cases hx : x = a <;> simp [hx]
      have hfl : (r.filter (fun x => x != a)).length + 2 = r.length + 1 := by
        simp only [List.length_cons] at hlen; omega
      have hvalid : ∀ e ∈ r.filter (fun x => x != a), (r.filter (fun x => x != a)).count e = 2 := by
        intro e he
        rw [List.mem_filter] at he
        have hne : e ≠ a := by simpa using he.2
        rw [List.count_filter (by simpa using hne)]
        have := h e (List.mem_cons_of_mem _ he.1)
        rw [List.count_cons] at this
        simpa [Ne.symm hne] using this
      have := ih (r.filter (fun x => x != a)).length (by simp only [List.length_cons] at hn; omega) _ rfl hvalid
      omega

end Yuiv.C18
