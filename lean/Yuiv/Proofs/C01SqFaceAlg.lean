import Yuiv.Proofs.C01SqCoef
import Mathlib.Tactic.Ring
/-
THE ALGEBRA OF A FACE: the six commuting patterns, at the level of names (for `d ∘ d = 0` of the reference cube).

A face has the circle lists `cs00 → cs10 → cs11` (edge a, then b) and `cs00 → cs01 → cs11` (edge b, then a).
The two path functionals agree for all `h t : Int` and all name-indexed labellings `f f'' : Name → Bool`.

Method.  Along a path `cs0 → cs1 → cs2` the compatibility condition of the second edge says (`agreeOn_path`): `f''`
carries the summation variables on the circles born at the first edge that survive the second, and `f'' = f` on the
circles of `cs0` that neither edge removes.  The second part is the same on both sides of a face; the first part pins
summation variables (`sum_tf_pin` …), and what is left is a law of the structure constants.
-/

namespace Yuiv.C01Sq
open Yuiv Yuiv.KhRef Yuiv.C02Mirror

theorem sum_tf (F : Bool → Int) : ([true, false].map F).sum = F true + F false := by
  simp

theorem sum_tf_if (K : Prop) [Decidable K] (F G : Bool → Int) :
    ([true, false].map (fun y => F y * if K then G y else 0)).sum =
      if K then ([true, false].map (fun y => F y * G y)).sum else 0 := by
  by_cases hK : K <;> simp [hK]

theorem sum_tf_pin (K : Prop) [Decidable K] (v : Bool) (F G : Bool → Int) :
    ([true, false].map (fun y => F y * if v = y ∧ K then G y else 0)).sum = if K then F v * G v else 0 := by
  by_cases hK : K <;> cases v <;> simp [hK]

theorem sum_tf2_if (K : Prop) [Decidable K] (F G : Bool → Bool → Int) :
    ([true, false].flatMap (fun y1 => [true, false].map (fun y2 => F y1 y2 * if K then G y1 y2 else 0))).sum =
      if K then ([true, false].flatMap (fun y1 => [true, false].map (fun y2 => F y1 y2 * G y1 y2))).sum else 0 := by
  by_cases hK : K <;> simp [hK]

theorem sum_tf2_pin1 (K : Prop) [Decidable K] (v : Bool) (F G : Bool → Bool → Int) :
    ([true, false].flatMap (fun y1 => [true, false].map (fun y2 => F y1 y2 * if v = y1 ∧ K then G y1 y2 else 0))).sum =
      if K then ([true, false].map (fun y2 => F v y2 * G v y2)).sum else 0 := by
  by_cases hK : K <;> cases v <;> simp [hK]

theorem sum_tf2_pin2 (K : Prop) [Decidable K] (v : Bool) (F G : Bool → Bool → Int) :
    ([true, false].flatMap (fun y1 => [true, false].map (fun y2 => F y1 y2 * if v = y2 ∧ K then G y1 y2 else 0))).sum =
      if K then ([true, false].map (fun y1 => F y1 v * G y1 v)).sum else 0 := by
  by_cases hK : K <;> cases v <;> simp [hK]

theorem sum_tf2_pin (K : Prop) [Decidable K] (v1 v2 : Bool) (F G : Bool → Bool → Int) :
    ([true, false].flatMap (fun y1 => [true, false].map (fun y2 =>
      F y1 y2 * if (v1 = y1 ∧ v2 = y2) ∧ K then G y1 y2 else 0))).sum = if K then F v1 v2 * G v1 v2 else 0 := by
  by_cases hK : K <;> cases v1 <;> cases v2 <;> simp [hK]

/-- associativity (with commutativity): `(a·b)·c = a·(b·c)` -/
theorem prod_assoc_coef (h t : Int) (a b c r : Bool) :
    ([true, false].map (fun y => prodCoef h t a b y * prodCoef h t y c r)).sum =
    ([true, false].map (fun y => prodCoef h t b c y * prodCoef h t a y r)).sum := by
  simp only [sum_tf, prodCoef_eq]
  cases a <;> cases b <;> cases c <;> cases r <;> simp

theorem coprod_coassoc_coef (h t : Int) (x a b c : Bool) :
    ([true, false].map (fun y => coprodCoef h t x y c * coprodCoef h t y a b)).sum =
    ([true, false].map (fun y => coprodCoef h t x a y * coprodCoef h t y b c)).sum := by
  simp only [sum_tf, coprodCoef_eq]
  cases x <;> cases a <;> cases b <;> cases c <;> simp

/-- the Frobenius law `Δ(a·b) = Σ (a'·b) ⊗ a''` -/
theorem frob_coef (h t : Int) (a b u v : Bool) :
    ([true, false].map (fun y => prodCoef h t a b y * coprodCoef h t y u v)).sum =
    ([true, false].map (fun y => coprodCoef h t a y v * prodCoef h t y b u)).sum := by
  simp only [sum_tf, coprodCoef_eq, prodCoef_eq]
  cases a <;> cases b <;> cases u <;> cases v <;> simp
  ring

def Edge.gone : Edge → List Name
  | .merge g0 g1 _ => [g0, g1]
  | .split g _ _ => [g]

def Edge.born : Edge → List Name
  | .merge _ _ b => [b]
  | .split _ b0 b1 => [b0, b1]

section edge
variable {cs cs' : Circ} {e : Edge}

theorem IsEdge.mem_iff (he : IsEdge cs cs' e) (c : Name) : c ∈ cs' ↔ c ∈ e.born ∨ (c ∈ cs ∧ c ∉ e.gone) := by
  cases e with
  | merge g0 g1 b =>
    have R : MergeRel cs cs' g0 g1 b := he
    simp only [R.mem c, Edge.born, Edge.gone, List.mem_cons, List.not_mem_nil, or_false, not_or]
  | split g b0 b1 =>
    have R : MergeRel cs' cs b0 b1 g := he
    simp only [Edge.born, Edge.gone, List.mem_cons, List.not_mem_nil, or_false]
    constructor
    · intro hc
      by_cases h0 : c = b0
      · exact Or.inl (Or.inl h0)
      by_cases h1 : c = b1
      · exact Or.inl (Or.inr h1)
      exact Or.inr ⟨(R.mem c).2 (Or.inr ⟨hc, h0, h1⟩), fun e => R.nb (e ▸ hc)⟩
    · rintro ((rfl | rfl) | ⟨hc, hg⟩)
      · exact R.m0
      · exact R.m1
      · exact ((R.mem c).1 hc).resolve_left hg |>.1

theorem IsEdge.born_not_mem (he : IsEdge cs cs' e) {b : Name} (hb : b ∈ e.born) : b ∉ cs := by
  cases e with
  | merge g0 g1 b' =>
    have R : MergeRel cs cs' g0 g1 b' := he
    rw [List.mem_singleton.1 hb]; exact R.nb
  | split g b0 b1 =>
    have R : MergeRel cs' cs b0 b1 g := he
    simp only [Edge.born, List.mem_cons, List.not_mem_nil, or_false] at hb
    rcases hb with rfl | rfl
    · exact R.g0_not
    · exact R.g1_not

theorem IsEdge.gone_mem (he : IsEdge cs cs' e) {g : Name} (hg : g ∈ e.gone) : g ∈ cs := by
  cases e with
  | merge g0 g1 b =>
    have R : MergeRel cs cs' g0 g1 b := he
    simp only [Edge.gone, List.mem_cons, List.not_mem_nil, or_false] at hg
    rcases hg with rfl | rfl
    · exact R.m0
    · exact R.m1
  | split g' b0 b1 =>
    have R : MergeRel cs' cs b0 b1 g' := he
    rw [List.mem_singleton.1 hg]; exact R.b_mem

theorem IsEdge.born_mem (he : IsEdge cs cs' e) {b : Name} (hb : b ∈ e.born) : b ∈ cs' :=
  (he.mem_iff b).2 (Or.inl hb)

theorem IsEdge.gone_not_mem (he : IsEdge cs cs' e) {g : Name} (hg : g ∈ e.gone) : g ∉ cs' := fun hc =>
  ((he.mem_iff g).1 hc).elim (fun hb => he.born_not_mem hb (he.gone_mem hg)) (fun h => h.2 hg)

theorem loc_congr (h t : Int) (f g f' : Name → Bool) (hfg : ∀ c ∈ e.gone, f c = g c) :
    loc h t e f f' = loc h t e g f' := by
  cases e with
  | merge g0 g1 b => simp only [loc, hfg g0 (by simp [Edge.gone]), hfg g1 (by simp [Edge.gone])]
  | split g' b0 b1 => simp only [loc, hfg g' (by simp [Edge.gone])]

end edge

theorem ov_of_not_mem (f : Name → Bool) {b : Name} (y : Bool) {l : List Name} {c : Name} (hb : b ∈ l) (hc : c ∉ l) :
    ov f b y c = f c :=
  ov_ne f y (fun e => hc (e ▸ hb))

section path
variable {cs0 cs1 cs2 : Circ} {e1 e2 : Edge}

theorem path_common (h1 : IsEdge cs0 cs1 e1) (h2 : IsEdge cs1 cs2 e2) (c : Name) :
    (c ∈ cs1 ∧ c ∈ cs2) ∧ c ∉ e1.born ↔ c ∈ cs0 ∧ c ∉ e1.gone ∧ c ∉ e2.gone := by
  constructor
  · rintro ⟨⟨hc1, hc2⟩, hb⟩
    obtain ⟨hc0, hg1⟩ := ((h1.mem_iff c).1 hc1).resolve_left hb
    exact ⟨hc0, hg1, fun hg => h2.gone_not_mem hg hc2⟩
  · rintro ⟨hc0, hg1, hg2⟩
    have hc1 := (h1.mem_iff c).2 (Or.inr ⟨hc0, hg1⟩)
    exact ⟨⟨hc1, (h2.mem_iff c).2 (Or.inr ⟨hc1, hg2⟩)⟩, fun hb => h1.born_not_mem hb hc0⟩

theorem agreeOn_path (h1 : IsEdge cs0 cs1 e1) (h2 : IsEdge cs1 cs2 e2) (f f1 f'' : Name → Bool)
    (hf : ∀ c, c ∉ e1.born → f1 c = f c) :
    AgreeOn (fun c => c ∈ cs1 ∧ c ∈ cs2) f1 f'' ↔
      (∀ b ∈ e1.born, b ∈ cs2 → f'' b = f1 b) ∧
        AgreeOn (fun c => c ∈ cs0 ∧ c ∉ e1.gone ∧ c ∉ e2.gone) f f'' := by
  constructor
  · intro H
    refine ⟨fun b hb hb2 => H b ⟨h1.born_mem hb, hb2⟩, fun c hc => ?_⟩
    obtain ⟨hc12, hb⟩ := (path_common h1 h2 c).2 hc
    rw [H c hc12, hf c hb]
  · rintro ⟨H1, H2⟩ c hc
    by_cases hb : c ∈ e1.born
    · exact H1 c hb hc.2
    · rw [H2 c ((path_common h1 h2 c).1 ⟨hc, hb⟩), hf c hb]

theorem agreeOn_merge {g0 g1 b : Name} (h1 : IsEdge cs0 cs1 (.merge g0 g1 b)) (h2 : IsEdge cs1 cs2 e2)
    (f f'' : Name → Bool) (y : Bool) :
    AgreeOn (fun c => c ∈ cs1 ∧ c ∈ cs2) (ov f b y) f'' ↔
      (b ∈ cs2 → f'' b = y) ∧ AgreeOn (fun c => c ∈ cs0 ∧ c ∉ (Edge.merge g0 g1 b).gone ∧ c ∉ e2.gone) f f'' := by
  have h := agreeOn_path h1 h2 f (ov f b y) f'' (fun c hc => ov_of_not_mem f y List.mem_cons_self hc)
  simpa only [Edge.born, List.mem_singleton, forall_eq, ov_self] using h

theorem agreeOn_split {g b0 b1 : Name} (h1 : IsEdge cs0 cs1 (.split g b0 b1)) (h2 : IsEdge cs1 cs2 e2)
    (f f'' : Name → Bool) (y1 y2 : Bool) :
    AgreeOn (fun c => c ∈ cs1 ∧ c ∈ cs2) (ov (ov f b0 y1) b1 y2) f'' ↔
      ((b0 ∈ cs2 → f'' b0 = y1) ∧ (b1 ∈ cs2 → f'' b1 = y2)) ∧
        AgreeOn (fun c => c ∈ cs0 ∧ c ∉ (Edge.split g b0 b1).gone ∧ c ∉ e2.gone) f f'' := by
  have R : MergeRel cs1 cs0 b0 b1 g := h1
  have h := agreeOn_path h1 h2 f (ov (ov f b0 y1) b1 y2) f''
    (fun c hc => (ov_of_not_mem _ y2 (List.mem_cons_of_mem _ List.mem_cons_self) hc).trans
      (ov_of_not_mem f y1 List.mem_cons_self hc))
  simpa only [Edge.born, List.mem_cons, List.not_mem_nil, or_false, forall_eq_or_imp, forall_eq, ov_self,
    ov_ne _ _ R.ne] using h

end path

theorem pathF_of_kept (h t : Int) {cs0 cs1 cs2 : Circ} {e1 e2 : Edge} (h1 : IsEdge cs0 cs1 e1)
    (h2 : IsEdge cs1 cs2 e2) (hk : ∀ b ∈ e1.born, b ∈ cs2) (f f'' : Name → Bool)
    [Decidable (AgreeOn (fun c => c ∈ cs0 ∧ c ∉ e1.gone ∧ c ∉ e2.gone) f f'')] :
    pathF h t cs1 cs2 e1 e2 f f'' =
      if AgreeOn (fun c => c ∈ cs0 ∧ c ∉ e1.gone ∧ c ∉ e2.gone) f f'' then loc h t e1 f f'' * loc h t e2 f f''
      else 0 := by
  classical
  have hg : ∀ b ∈ e1.born, b ∉ e2.gone := fun b hb hg => h2.gone_not_mem hg (hk b hb)
  cases e1 with
  | merge g0 g1 b =>
    have hb := hk b (List.mem_singleton.2 rfl)
    have hA := fun y => agreeOn_merge h1 h2 f f'' y
    simp only [hb, forall_const] at hA
    have hl := fun y => loc_congr (e := e2) h t (ov f b y) f f''
      (fun c hc => ov_ne f y (fun e => hg b (List.mem_singleton.2 rfl) (e ▸ hc)))
    simp only [pathF, ecoef_eq, hA, hl, sum_tf_pin]
    rfl
  | split g b0 b1 =>
    have hb0 := hk b0 (by simp [Edge.born])
    have hb1 := hk b1 (by simp [Edge.born])
    have hA := fun y1 y2 => agreeOn_split h1 h2 f f'' y1 y2
    simp only [hb0, hb1, forall_const] at hA
    have hl := fun y1 y2 => loc_congr (e := e2) h t (ov (ov f b0 y1) b1 y2) f f''
      (fun c hc => by
        have n0 : c ≠ b0 := fun e => hg b0 (by simp [Edge.born]) (e ▸ hc)
        have n1 : c ≠ b1 := fun e => hg b1 (by simp [Edge.born]) (e ▸ hc)
        rw [ov_ne _ _ n1, ov_ne _ _ n0])
    simp only [pathF, ecoef_eq, hA, hl, sum_tf2_pin]
    rfl

/-- the two edges act on disjoint sets of circles (any types: merge/merge, merge/split, split/merge, split/split):
the descriptors of the parallel edges are literally the same -/
theorem face_disjoint (h t : Int) (cs00 cs10 cs01 cs11 : Circ) (ea eb : Edge)
    (ha0 : IsEdge cs00 cs10 ea) (hb0 : IsEdge cs00 cs01 eb) (hb1 : IsEdge cs10 cs11 eb) (ha1 : IsEdge cs01 cs11 ea)
    (f f'' : Name → Bool) :
    pathF h t cs10 cs11 ea eb f f'' = pathF h t cs01 cs11 eb ea f f'' := by
  classical
  rw [pathF_of_kept h t ha0 hb1 (fun b hb => ha1.born_mem hb), pathF_of_kept h t hb0 ha1 (fun b hb => hb1.born_mem hb),
    Int.mul_comm]
  exact if_congr (agreeOn_congr (fun c => and_congr_right (fun _ => and_comm)) f f'') rfl rfl

/-- three circles A, B, C become one: a merges A,B ↦ P, b merges B,C ↦ Q; then b merges P,C ↦ R resp. a merges A,Q ↦ R
(associativity + commutativity of the product) -/
theorem face_31 (h t : Int) (cs00 cs10 cs01 cs11 : Circ) (A B C P Q R : Name)
    (ha0 : MergeRel cs00 cs10 A B P) (hb0 : MergeRel cs00 cs01 B C Q)
    (hb1 : MergeRel cs10 cs11 P C R) (ha1 : MergeRel cs01 cs11 A Q R) (f f'' : Name → Bool) :
    pathF h t cs10 cs11 (.merge A B P) (.merge P C R) f f'' = pathF h t cs01 cs11 (.merge B C Q) (.merge A Q R) f f'' := by
  classical
  have hCP : C ≠ P := fun e => ha0.nb (e ▸ hb0.m1)
  have hAQ : A ≠ Q := fun e => hb0.nb (e ▸ ha0.m0)
  have hL := fun y => agreeOn_merge (e2 := .merge P C R) ha0 hb1 f f'' y
  have hR := fun y => agreeOn_merge (e2 := .merge A Q R) hb0 ha1 f f'' y
  simp only [hb1.g0_not, ha1.g1_not, false_imp_iff, true_and] at hL hR
  simp only [pathF, ecoef_eq, hL, hR, loc, ov_self, ov_ne f _ hCP, ov_ne f _ hAQ, sum_tf_if]
  refine if_congr (agreeOn_congr (fun c => ?_) f f'') (prod_assoc_coef h t _ _ _ _) rfl
  have := ha0.nb; have := hb0.nb
  simp only [Edge.gone]
  grind

/-- one circle R becomes three A, B, C: a splits R ↦ P, C, b splits R ↦ A, Q; then b splits P ↦ A, B resp. a splits
Q ↦ B, C (coassociativity) -/
theorem face_13 (h t : Int) (cs00 cs10 cs01 cs11 : Circ) (R P C A Q B : Name)
    (ha0 : IsEdge cs00 cs10 (.split R P C)) (hb0 : IsEdge cs00 cs01 (.split R A Q))
    (hb1 : IsEdge cs10 cs11 (.split P A B)) (ha1 : IsEdge cs01 cs11 (.split Q B C)) (f f'' : Name → Bool) :
    pathF h t cs10 cs11 (.split R P C) (.split P A B) f f'' = pathF h t cs01 cs11 (.split R A Q) (.split Q B C) f f'' := by
  classical
  have ra0 : MergeRel cs10 cs00 P C R := ha0
  have rb0 : MergeRel cs01 cs00 A Q R := hb0
  have rb1 : MergeRel cs11 cs10 A B P := hb1
  have ra1 : MergeRel cs11 cs01 B C Q := ha1
  have hL := fun y1 y2 => agreeOn_split ha0 hb1 f f'' y1 y2
  have hR := fun y1 y2 => agreeOn_split hb0 ha1 f f'' y1 y2
  simp only [rb1.nb, ra1.nb, ra1.m1, rb1.m0, false_imp_iff, true_and, and_true, forall_const] at hL hR
  simp only [pathF, ecoef_eq, hL, hR, loc, ov_self, ov_ne _ _ ra0.ne, sum_tf2_pin2, sum_tf2_pin1]
  refine if_congr (agreeOn_congr (fun c => ?_) f f'') (coprod_coassoc_coef h t _ _ _ _) rfl
  have := ra0.g0_not; have := rb0.g1_not
  simp only [Edge.gone]
  grind

/-- FROBENIUS face: a merges C1, C2 ↦ P; b splits C1 ↦ D1, D2; then b splits P ↦ F, D2, resp. a merges
D1, C2 ↦ F  (Δ(x·y) = Σ (x'·y) ⊗ x'') -/
theorem face_frob (h t : Int) (cs00 cs10 cs01 cs11 : Circ) (C1 C2 P D1 D2 F : Name)
    (ha0 : IsEdge cs00 cs10 (.merge C1 C2 P)) (hb0 : IsEdge cs00 cs01 (.split C1 D1 D2))
    (hb1 : IsEdge cs10 cs11 (.split P F D2)) (ha1 : IsEdge cs01 cs11 (.merge D1 C2 F)) (f f'' : Name → Bool) :
    pathF h t cs10 cs11 (.merge C1 C2 P) (.split P F D2) f f'' =
      pathF h t cs01 cs11 (.split C1 D1 D2) (.merge D1 C2 F) f f'' := by
  classical
  have ra0 : MergeRel cs00 cs10 C1 C2 P := ha0
  have rb0 : MergeRel cs01 cs00 D1 D2 C1 := hb0
  have rb1 : MergeRel cs11 cs10 F D2 P := hb1
  have ra1 : MergeRel cs01 cs11 D1 C2 F := ha1
  have hC2D2 : C2 ≠ D2 := fun e => rb0.g1_not (e ▸ ra0.m1)
  have hL := fun y => agreeOn_merge ha0 hb1 f f'' y
  have hR := fun y1 y2 => agreeOn_split hb0 ha1 f f'' y1 y2
  simp only [rb1.nb, ra1.g0_not, rb1.m1, false_imp_iff, true_and, forall_const] at hL hR
  simp only [pathF, ecoef_eq, hL, hR, loc, ov_self, ov_ne _ _ rb0.ne, ov_ne _ _ ra1.ne.symm, ov_ne _ _ hC2D2,
    sum_tf_if, sum_tf2_pin2]
  refine if_congr (agreeOn_congr (fun c => ?_) f f'') (frob_coef h t _ _ _ _) rfl
  have := ra0.nb; have := rb0.g0_not
  simp only [Edge.gone]
  grind

/-- GENUS face: one circle R is split by a into P1, P2 and by b into Q1, Q2; then b merges P1, P2 ↦ R', resp. a
merges Q1, Q2 ↦ R' (both paths are m ∘ Δ) -/
theorem face_11 (h t : Int) (cs00 cs10 cs01 cs11 : Circ) (R P1 P2 Q1 Q2 R' : Name)
    (ha0 : IsEdge cs00 cs10 (.split R P1 P2)) (hb0 : IsEdge cs00 cs01 (.split R Q1 Q2))
    (hb1 : IsEdge cs10 cs11 (.merge P1 P2 R')) (ha1 : IsEdge cs01 cs11 (.merge Q1 Q2 R')) (f f'' : Name → Bool) :
    pathF h t cs10 cs11 (.split R P1 P2) (.merge P1 P2 R') f f'' =
      pathF h t cs01 cs11 (.split R Q1 Q2) (.merge Q1 Q2 R') f f'' := by
  classical
  -- one side, generically
  have side : ∀ (cs1 : Circ) (S1 S2 : Name), IsEdge cs00 cs1 (.split R S1 S2) → IsEdge cs1 cs11 (.merge S1 S2 R') →
      pathF h t cs1 cs11 (.split R S1 S2) (.merge S1 S2 R') f f'' =
        if AgreeOn (fun c => c ∈ cs00 ∧ c ≠ R) f f'' then
          ([true, false].flatMap (fun y1 => [true, false].map (fun y2 =>
            coprodCoef h t (f R) y1 y2 * prodCoef h t y1 y2 (f'' R')))).sum
        else 0 := by
    intro cs1 S1 S2 h0 h1
    have r0 : MergeRel cs1 cs00 S1 S2 R := h0
    have r1 : MergeRel cs1 cs11 S1 S2 R' := h1
    have hA := fun y1 y2 => agreeOn_split h0 h1 f f'' y1 y2
    simp only [r1.g0_not, r1.g1_not, false_imp_iff, true_and] at hA
    simp only [pathF, ecoef_eq, hA, loc, ov_self, ov_ne _ _ r0.ne, sum_tf2_if]
    refine if_congr (agreeOn_congr (fun c => ?_) f f'') rfl rfl
    have := r0.g0_not; have := r0.g1_not
    simp only [Edge.gone]
    grind
  rw [side cs10 P1 P2 ha0 hb1, side cs01 Q1 Q2 hb0 ha1]

/-- the two intermediate states have the same circles (e.g. a and b merge the same two circles): the path
functional depends on the intermediate list only through membership -/
theorem face_same (h t : Int) (cs10 cs01 cs11 : Circ) (e1 e2 : Edge) (hmem : ∀ c, c ∈ cs10 ↔ c ∈ cs01)
    (f f'' : Name → Bool) :
    pathF h t cs10 cs11 e1 e2 f f'' = pathF h t cs01 cs11 e1 e2 f f'' := by
  classical
  have hE : ∀ g, ecoef h t cs10 cs11 e2 g f'' = ecoef h t cs01 cs11 e2 g f'' := fun g => by
    rw [ecoef_eq, ecoef_eq]
    exact if_congr (agreeOn_congr (fun c => and_congr_left (fun _ => hmem c)) g f'') rfl rfl
  cases e1 <;> simp only [pathF, hE]

end Yuiv.C01Sq
