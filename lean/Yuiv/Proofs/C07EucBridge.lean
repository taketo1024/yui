import Yuiv.Proofs.C07EucModel
import Yuiv.Proofs.C07Alg
import Yuiv.Proofs.C09
/-
C07 over a lawful operation record — bridge between the generic code (`Proofs/C07EucModel.lean`) and the algebra of
`Proofs/C07Alg.lean`.  `GMat.toM φ o A r c` is the Mathlib matrix over
`K` denoted by `A : GMat α` through the interpretation `φ : α → K`; `L : C09.Lawful o φ` says the operations
compute in `K`.  `calcTransG` returns `Trans::new(p, q)` where `p`, `q` denote `pFin`, `qFin` (`pMat`, `qMat` for the
literal ranges, rows of `p` / columns of `q` numbered as in the code).
-/
namespace Yuiv.C07
open Matrix Yuiv

variable {α K : Type} [CommRing K]

theorem idx_lt {i j r c : Nat} (hi : i < r) (hj : j < c) : i * c + j < r * c := by
  calc i * c + j < i * c + c := by omega
    _ = (i + 1) * c := by rw [Nat.add_mul, Nat.one_mul]
    _ ≤ r * c := Nat.mul_le_mul_right c hi

def GMat.toM (φ : α → K) (o : C09.ROps α) (A : GMat α) (r c : Nat) : Matrix (Fin r) (Fin c) K :=
  fun i j => φ (A.get o i.val j.val)

section shapes
variable (o : C09.ROps α)

theorem GMat.get_ofFn (r c : Nat) (f : Nat → Nat → α) (i j : Nat) :
    (GMat.ofFn r c f).get o i j = if i < r ∧ j < c then f i j else o.zero := by
  unfold GMat.get GMat.ofFn
  by_cases h : i < r ∧ j < c
  · have hlt := idx_lt h.1 h.2
    have hc : 0 < c := by omega
    simp only [h, and_self, if_true]
    rw [Array.getD_eq_getD_getElem?, Array.getElem?_ofFn]
    simp only [hlt, dite_true, Option.getD_some]
    have e1 : (i * c + j) / c = i := by
      rw [Nat.mul_comm, Nat.mul_add_div hc, Nat.div_eq_of_lt h.2, Nat.add_zero]
    have e2 : (i * c + j) % c = j := by
      rw [Nat.mul_comm, Nat.mul_add_mod, Nat.mod_eq_of_lt h.2]
    rw [e1, e2]
  · simp only [h, if_false]

@[simp] theorem GMat.ofFn_r (r c : Nat) (f : Nat → Nat → α) : (GMat.ofFn r c f).r = r := rfl
@[simp] theorem GMat.ofFn_c (r c : Nat) (f : Nat → Nat → α) : (GMat.ofFn r c f).c = c := rfl

theorem GMat.get_oob (A : GMat α) (i j : Nat) (h : ¬ (i < A.r ∧ j < A.c)) : A.get o i j = o.zero := by
  unfold GMat.get; simp [h]

theorem GMat.rows_get (A : GMat α) (lo hi i j : Nat) :
    (A.rows o lo hi).get o i j = if i < hi - lo then A.get o (lo + i) j else o.zero := by
  unfold GMat.rows
  rw [GMat.get_ofFn]
  by_cases hi' : i < hi - lo
  · by_cases hj : j < A.c
    · simp [hi', hj]
    · simp [hi', hj, GMat.get_oob o A (lo + i) j (fun h => hj h.2)]
  · simp [hi']

theorem GMat.cols_get (A : GMat α) (lo hi i j : Nat) :
    (A.cols o lo hi).get o i j = if j < hi - lo then A.get o i (lo + j) else o.zero := by
  unfold GMat.cols
  rw [GMat.get_ofFn]
  by_cases hj : j < hi - lo
  · by_cases hi' : i < A.r
    · simp [hi', hj]
    · simp [hi', hj, GMat.get_oob o A i (lo + j) (fun h => hi' h.1)]
  · simp [hj]

theorem GMat.mul_get (A B : GMat α) (i j : Nat) :
    (A.mul o B).get o i j = if i < A.r ∧ j < B.c then GMat.dot o A B i j else o.zero := by
  unfold GMat.mul; rw [GMat.get_ofFn]

theorem GMat.stack_get (A B : GMat α) (i j : Nat) :
    (A.stack o B).get o i j =
      if i < A.r + B.r ∧ j < A.c then (if i < A.r then A.get o i j else B.get o (i - A.r) j) else o.zero := by
  unfold GMat.stack; rw [GMat.get_ofFn]

theorem GMat.concat_get (A B : GMat α) (i j : Nat) :
    (A.concat o B).get o i j =
      if i < A.r ∧ j < A.c + B.c then (if j < A.c then A.get o i j else B.get o i (j - A.c)) else o.zero := by
  unfold GMat.concat; rw [GMat.get_ofFn]

@[simp] theorem GMat.rows_r (A : GMat α) (lo hi : Nat) : (A.rows o lo hi).r = hi - lo := rfl
@[simp] theorem GMat.rows_c (A : GMat α) (lo hi : Nat) : (A.rows o lo hi).c = A.c := rfl
@[simp] theorem GMat.cols_r (A : GMat α) (lo hi : Nat) : (A.cols o lo hi).r = A.r := rfl
@[simp] theorem GMat.cols_c (A : GMat α) (lo hi : Nat) : (A.cols o lo hi).c = hi - lo := rfl
@[simp] theorem GMat.mul_r (A B : GMat α) : (A.mul o B).r = A.r := rfl
@[simp] theorem GMat.mul_c (A B : GMat α) : (A.mul o B).c = B.c := rfl
@[simp] theorem GMat.stack_r (A B : GMat α) : (A.stack o B).r = A.r + B.r := rfl
@[simp] theorem GMat.stack_c (A B : GMat α) : (A.stack o B).c = A.c := rfl
@[simp] theorem GMat.concat_r (A B : GMat α) : (A.concat o B).r = A.r := rfl
@[simp] theorem GMat.concat_c (A B : GMat α) : (A.concat o B).c = A.c + B.c := rfl

end shapes

section sums
variable {o : C09.ROps α} {φ : α → K} (L : C09.Lawful o φ)
include L

theorem foldl_add_eq_sumG (f : Nat → α) (n : Nat) :
    φ ((List.range n).foldl (fun s k => o.add s (f k)) o.zero) = ∑ k ∈ Finset.range n, φ (f k) := by
  induction n with
  | zero => simp [L.zero]
  | succ n ih =>
    rw [List.range_succ, List.foldl_append, Finset.sum_range_succ, ← ih]
    simp [L.add]

theorem dot_eq_sumG (A B : GMat α) (i j : Nat) :
    φ (GMat.dot o A B i j) = ∑ k ∈ Finset.range A.c, φ (A.get o i k) * φ (B.get o k j) := by
  unfold GMat.dot
  rw [foldl_add_eq_sumG L]
  apply Finset.sum_congr rfl
  intro k _
  exact L.mul _ _

end sums

theorem subR_ok {a b : Nat} (h : b ≤ a) : subR a b = .ok (a - b) := if_pos h

theorem assert_ok {c : Bool} (h : c = true) : Res.assert c = .ok () := by subst h; rfl

theorem rowsRG_ok (o : C09.ROps α) (A : GMat α) {lo hi : Nat} (h1 : lo ≤ hi) (h2 : hi ≤ A.r) :
    rowsRG o A lo hi = .ok (A.rows o lo hi) := by
  unfold rowsRG; rw [assert_ok (decide_eq_true ⟨h1, h2⟩)]; rfl

theorem colsRG_ok (o : C09.ROps α) (A : GMat α) {lo hi : Nat} (h1 : lo ≤ hi) (h2 : hi ≤ A.c) :
    colsRG o A lo hi = .ok (A.cols o lo hi) := by
  unfold colsRG; rw [assert_ok (decide_eq_true ⟨h1, h2⟩)]; rfl

theorem mulMatG_ok (o : C09.ROps α) (A B : GMat α) (h : A.c = B.r) : GTrans.mulMat o A B = .ok (A.mul o B) := by
  unfold GTrans.mulMat; rw [assert_ok (beq_iff_eq.2 h)]; rfl

theorem stackRG_ok (o : C09.ROps α) (A B : GMat α) (h : A.c = B.c) : stackRG o A B = .ok (A.stack o B) := by
  unfold stackRG; rw [assert_ok (beq_iff_eq.2 h)]; rfl

theorem concatRG_ok (o : C09.ROps α) (A B : GMat α) (h : A.r = B.r) : concatRG o A B = .ok (A.concat o B) := by
  unfold concatRG; rw [assert_ok (beq_iff_eq.2 h)]; rfl

theorem GTrans.new_ok (f b : GMat α) (h1 : f.c = b.r) (h2 : f.r = b.c) :
    GTrans.new f b = .ok ⟨f.c, f.r, [f], [b]⟩ := by
  unfold GTrans.new GTrans.append GTrans.id
  rw [assert_ok (beq_iff_eq.2 h1), assert_ok (beq_iff_eq.2 h2), assert_ok (beq_iff_eq.2 rfl)]; rfl

/-- the matrix `p` which `HomologyCalc::trans` assembles -/
def pModelG (o : C09.ROps α) (P1 Q2i : GMat α) (n r1 r2 t : Nat) : GMat α :=
  (((Q2i.rows o r2 (n - r1)).mul o (P1.rows o r1 n))).stack o (P1.rows o (r1 - t) r1)

/-- the matrix `q` which `HomologyCalc::trans` assembles -/
def qModelG (o : C09.ROps α) (P1i Q2 : GMat α) (n r1 r2 t : Nat) : GMat α :=
  (((P1i.cols o r1 n).mul o (Q2.cols o r2 (n - r1)))).concat o (P1i.cols o (r1 - t) r1)

/-- the generic code `calcTransG` returns exactly `Trans::new(pModelG, qModelG)` (no panic) when the two SNF results
carry the transformation matrices of the right shapes and `t ≤ r1`, `r1 + r2 ≤ n` -/
theorem calcTransG_eq (e : C09.EOps α) (s1 s2 : GSnf α) (P1 P1i Q2 Q2i : GMat α) (n r1 r2 t : Nat)
    (hp : s1.p = some P1) (hpi : s1.pinv = some P1i) (hq : s2.q = some Q2) (hqi : s2.qinv = some Q2i)
    (hn : s1.result.r = n) (hr1 : s1.rank e.toROps = r1) (hr2 : s2.rank e.toROps = r2)
    (ht : ((s1.factors e.toROps).filter fun a => !e.isUnit a).length = t)
    (h12 : r1 + r2 ≤ n) (htr : t ≤ r1)
    (hP1 : P1.r = n ∧ P1.c = n) (hP1i : P1i.r = n ∧ P1i.c = n)
    (hQ2 : Q2.r = n - r1 ∧ Q2.c = n - r1) (hQ2i : Q2i.r = n - r1 ∧ Q2i.c = n - r1) :
    calcTransG e s1 s2 = .ok ⟨n, (n - r1 - r2) + t,
      [pModelG e.toROps P1 Q2i n r1 r2 t], [qModelG e.toROps P1i Q2 n r1 r2 t]⟩ := by
  have e1 : r1 ≤ n := Nat.le_trans (Nat.le_add_right r1 r2) h12
  have e2 : r2 ≤ n - r1 := Nat.le_sub_of_add_le' h12
  have e4 : r1 - (r1 - t) = t := Nat.sub_sub_self htr
  have hpr : (pModelG e.toROps P1 Q2i n r1 r2 t).r = n - r1 - r2 + t := congrArg (n - r1 - r2 + ·) e4
  have hqc : (qModelG e.toROps P1i Q2 n r1 r2 t).c = n - r1 - r2 + t := congrArg (n - r1 - r2 + ·) e4
  have hpc : (pModelG e.toROps P1 Q2i n r1 r2 t).c = n := hP1.2
  have hqr : (qModelG e.toROps P1i Q2 n r1 r2 t).r = n := hP1i.1
  have hs : stackRG e.toROps ((Q2i.rows e.toROps r2 (n - r1)).mul e.toROps (P1.rows e.toROps r1 n))
      (P1.rows e.toROps (r1 - t) r1) = .ok (pModelG e.toROps P1 Q2i n r1 r2 t) := stackRG_ok e.toROps _ _ rfl
  have hc : concatRG e.toROps ((P1i.cols e.toROps r1 n).mul e.toROps (Q2.cols e.toROps r2 (n - r1)))
      (P1i.cols e.toROps (r1 - t) r1) = .ok (qModelG e.toROps P1i Q2 n r1 r2 t) := concatRG_ok e.toROps _ _ rfl
  unfold calcTransG
  simp only [hp, hpi, hq, hqi, hn, hr1, hr2, ht, unwrap, Res.bind_ok, subR_ok e1, subR_ok e2, subR_ok htr,
    rowsRG_ok e.toROps P1 e1 hP1.1.ge, rowsRG_ok e.toROps Q2i e2 hQ2i.1.ge,
    mulMatG_ok e.toROps (Q2i.rows e.toROps r2 (n - r1)) (P1.rows e.toROps r1 n) hQ2i.2,
    rowsRG_ok e.toROps P1 (Nat.sub_le r1 t) (Nat.le_trans e1 hP1.1.ge), hs,
    colsRG_ok e.toROps P1i e1 hP1i.2.ge, colsRG_ok e.toROps Q2 e2 hQ2.2.ge,
    mulMatG_ok e.toROps (P1i.cols e.toROps r1 n) (Q2.cols e.toROps r2 (n - r1)) hQ2.1.symm,
    colsRG_ok e.toROps P1i (Nat.sub_le r1 t) (Nat.le_trans e1 hP1i.2.ge), hc,
    hpr, hpc, hqr, hqc, beq_self_eq_true, Bool.and_self, assert_ok, GTrans.new_ok _ _ (hpc.trans hqr.symm) (hpr.trans hqc.symm)]

section denote
variable {o : C09.ROps α} {φ : α → K}

omit [CommRing K] in
theorem toMG_rows (A : GMat α) {lo hi len : Nat} (hlen : hi - lo = len) (r c : Nat) (h : lo + len ≤ r) :
    (A.rows o lo hi).toM φ o len c = (A.toM φ o r c).submatrix (rangeMap lo len r h) id := by
  subst hlen
  ext i j
  simp only [GMat.toM, GMat.rows_get, i.isLt, if_true, submatrix_apply, rangeMap, id]

omit [CommRing K] in
theorem toMG_cols (A : GMat α) {lo hi len : Nat} (hlen : hi - lo = len) (r c : Nat) (h : lo + len ≤ c) :
    (A.cols o lo hi).toM φ o r len = (A.toM φ o r c).submatrix id (rangeMap lo len c h) := by
  subst hlen
  ext i j
  simp only [GMat.toM, GMat.cols_get, j.isLt, if_true, submatrix_apply, rangeMap, id]

theorem toMG_mul (L : C09.Lawful o φ) (A B : GMat α) (r k c : Nat) (hr : A.r = r) (hk : A.c = k) (hc : B.c = c) :
    (A.mul o B).toM φ o r c = A.toM φ o r k * B.toM φ o k c := by
  subst hr hk hc
  ext i j
  simp only [GMat.toM, GMat.mul_get, i.isLt, j.isLt, and_self, if_true, dot_eq_sumG L, Matrix.mul_apply]
  exact (Fin.sum_univ_eq_sum_range (fun l => φ (A.get o i.val l) * φ (B.get o l j.val)) A.c).symm

omit [CommRing K] in
theorem toMG_stack (A B : GMat α) (ra rb c : Nat) (hA : A.r = ra) (hB : B.r = rb) (hc : A.c = c) :
    (A.stack o B).toM φ o (ra + rb) c =
      (fromRows (A.toM φ o ra c) (B.toM φ o rb c)).submatrix finSumFinEquiv.symm id := by
  subst hA hB hc
  ext i j
  obtain ⟨s, rfl⟩ := finSumFinEquiv.surjective i
  rw [submatrix_apply, Equiv.symm_apply_apply]
  cases s with
  | inl a => simp [GMat.toM, GMat.stack_get, a.isLt, j.isLt, Nat.lt_add_right]
  | inr b => simp [GMat.toM, GMat.stack_get, j.isLt]

omit [CommRing K] in
theorem toMG_concat (A B : GMat α) (r ca cb : Nat) (hr : A.r = r) (hA : A.c = ca) (hB : B.c = cb) :
    (A.concat o B).toM φ o r (ca + cb) =
      (fromCols (A.toM φ o r ca) (B.toM φ o r cb)).submatrix id finSumFinEquiv.symm := by
  subst hr hA hB
  ext i j
  obtain ⟨s, rfl⟩ := finSumFinEquiv.surjective j
  rw [submatrix_apply, Equiv.symm_apply_apply]
  cases s with
  | inl a => simp [GMat.toM, GMat.concat_get, a.isLt, i.isLt, Nat.lt_add_right]
  | inr b => simp [GMat.toM, GMat.concat_get, i.isLt]

theorem toMG_id (L : C09.Lawful o φ) (n : Nat) : (GMat.id o n).toM φ o n n = 1 := by
  ext i j
  simp only [GMat.toM, GMat.id, GMat.get_ofFn, i.isLt, j.isLt, and_self, if_true, Matrix.one_apply, Fin.ext_iff]
  split
  · exact L.one
  · exact L.zero

theorem isZero_getG (L : C09.Lawful o φ) (A : GMat α) (h : A.isZero o = true) (i j : Nat) : φ (A.get o i j) = 0 := by
  unfold GMat.isZero at h
  rw [Array.all_eq_true] at h
  unfold GMat.get
  split
  · by_cases hlt : i * A.c + j < A.e.size
    · have := h _ hlt
      rw [Array.getD_eq_getD_getElem?, Array.getElem?_eq_getElem hlt]
      exact (C09.isZero_iff L _).1 this
    · rw [Array.getD_eq_getD_getElem?, Array.getElem?_eq_none (by omega)]; exact L.zero
  · exact L.zero

/-- the code's `p` denotes the algebraic `pMat` for the literal ranges (rows re-indexed `Fin (r+t) ≃ Fin r ⊕ Fin t`) -/
theorem pModelG_toM (L : C09.Lawful o φ) (P1 Q2i : GMat α) (n r1 r2 t : Nat) (h12 : r1 + r2 ≤ n) (htr : t ≤ r1)
    (hP1 : P1.r = n ∧ P1.c = n) (hQ2i : Q2i.r = n - r1 ∧ Q2i.c = n - r1) :
    (pModelG o P1 Q2i n r1 r2 t).toM φ o ((n - r1 - r2) + t) n =
      pFin n r1 r2 t h12 htr (P1.toM φ o n n) (Q2i.toM φ o (n - r1) (n - r1)) := by
  unfold pModelG pFin pSum pMat pFree pTor
  rw [toMG_stack ((Q2i.rows o r2 (n - r1)).mul o (P1.rows o r1 n)) (P1.rows o (r1 - t) r1) (n - r1 - r2) t n rfl
      (Nat.sub_sub_self htr) hP1.2,
    toMG_mul L (Q2i.rows o r2 (n - r1)) (P1.rows o r1 n) (n - r1 - r2) (n - r1) n rfl hQ2i.2 hP1.2,
    toMG_rows Q2i rfl (n - r1) (n - r1), toMG_rows P1 rfl n n, toMG_rows P1 (Nat.sub_sub_self htr) n n]

theorem qModelG_toM (L : C09.Lawful o φ) (P1i Q2 : GMat α) (n r1 r2 t : Nat) (h12 : r1 + r2 ≤ n) (htr : t ≤ r1)
    (hP1i : P1i.r = n ∧ P1i.c = n) :
    (qModelG o P1i Q2 n r1 r2 t).toM φ o n ((n - r1 - r2) + t) =
      qFin n r1 r2 t h12 htr (P1i.toM φ o n n) (Q2.toM φ o (n - r1) (n - r1)) := by
  unfold qModelG qFin qSum qMat qFree qTor
  rw [toMG_concat ((P1i.cols o r1 n).mul o (Q2.cols o r2 (n - r1))) (P1i.cols o (r1 - t) r1) n (n - r1 - r2) t
      hP1i.1 rfl (Nat.sub_sub_self htr),
    toMG_mul L (P1i.cols o r1 n) (Q2.cols o r2 (n - r1)) n (n - r1) (n - r1 - r2) hP1i.1 rfl rfl,
    toMG_cols Q2 rfl (n - r1) (n - r1), toMG_cols P1i rfl n n, toMG_cols P1i (Nat.sub_sub_self htr) n n]

end denote

end Yuiv.C07
