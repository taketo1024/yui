import Yuiv.Gen.Tables
import Yuiv.Proofs.C18Gen
import Yuiv.Model.C18
/-
C18: the hand-written crossing tables of the link code model (`C18.CType.*`, `signAt`) are THE tables of
`yui-link/src/link/crossing.rs` / `link.rs` as they stand in /repo now (`Yuiv.Gen.*` is regenerated from the Rust source
by tools/rs2lean.py on every run).
-/
namespace Yuiv.C18

def toCT : CType → Yuiv.KhRef.CT
  | .X => .X | .Xm => .Xm | .V => .V | .H => .H

theorem gen18_mirror_eq (c : CType) : Yuiv.Gen.mirror (toCT c) = toCT c.mirror := by cases c <;> rfl

theorem gen18_resolve_eq (c : CType) (b : Bool) : Yuiv.Gen.resolve (toCT c) b = (c.resolve b).map toCT := by
  cases c <;> cases b <;> rfl

theorem gen18_pass_eq (c : CType) (j : Nat) : Yuiv.Gen.pass (toCT c) j = c.pass j := by cases c <;> rfl

theorem gen18_arcs_eq (c : CType) : Yuiv.Gen.arcSlots (toCT c) = [c.arcs.1, c.arcs.2] := by cases c <;> rfl

theorem gen18_signAt_eq (c : CType) (j : Nat) (hj : j < 4) :
    Yuiv.Gen.slotSign (toCT c) j = (match signAt c j with | some s => s.toInt | none => 0) := by
  have : j = 0 ∨ j = 1 ∨ j = 2 ∨ j = 3 := by omega
  rcases this with rfl | rfl | rfl | rfl <;> cases c <;> rfl

end Yuiv.C18

/-
TIE BY TRANSLATION (`fn:link`): `Yuiv.GenLink.*` (Yuiv/Gen/LinkFn.lean) is regenerated from the CURRENT source text of
yui-link/src/link/{crossing,path,link}.rs by tools/rs2lean_fn.py (renderer tools/rs2lean_link.py) on every run.  The lemmas are
in Yuiv/Proofs/C18Gen.lean (namespace `GenFn`); conversions `toT / toC / toL / toPath / toSign / toBit / bitB`, `rmap f` = map under `Res`.

* generated = hand model `Yuiv/Model/C18.lean` for ALL inputs, panics included: `CrossingType::mirror`, `Crossing::{new,
  from_pd_code, ctype, edge, edges, is_resolved, resolve, resolved, mirror, pass, arcs, convert_edges}`, `Path::{new, arc, circ}`,
  `Link::{from_pd_code, data, mirror, crossing_num, crossing_index, crossing_at_mut(0).resolve, resolved_by, pass_edge}`;
* for every fuel above the library's own bound `4·n` (the `loop` of `traverse_edges`): `traverse_edges` (with the `FnMut`
  parameter read as the log of its calls) = `traverse`, `components` = `components`, `crossing_signs` = `crossingSigns`,
  `signed_crossing_nums`, `writhe`, `is_knot`, `ori_pres_state`, `seifert_circles` = the model — for every link, valid or not;
* `gen_*_eq` without `model`: the composition shape of the generated function (same as the model's at that place);
* `gen_*_eq_samples`: the general theorems read on twelve sample diagrams (malformed ones included), every slot / every
  state up to length 4, with the fuel `fuel0 = 40` above `4·n` for each of them.
-/
namespace Yuiv.C18
open Yuiv Yuiv.Rust Yuiv.GenLink Yuiv.C18.GenFn

theorem gen_ctype_mirror_eq (t : CrossingType) : toT t.mirror = (toT t).mirror := by cases t <;> rfl

theorem gen_crossing_mirror_eq (c : GenLink.Crossing) : toC c.mirror = (toC c).mirror := by
  cases c with | mk t e => cases t <;> rfl

theorem gen_is_resolved_eq (c : GenLink.Crossing) : c.is_resolved = (toC c).isResolved :=
  GenFn.g_is_resolved_eq c

theorem gen_resolve_eq (c : GenLink.Crossing) (b : Bool) : rmap toC (c.resolve (toBit b)) = (toC c).resolve b :=
  GenFn.g_resolve_eq c b

theorem gen_resolved_eq (c : GenLink.Crossing) (b : Bool) : rmap toC (c.resolved (toBit b)) = (toC c).resolve b := by
  cases c with | mk t e => cases t <;> cases b <;> rfl

theorem gen_edge_eq (c : GenLink.Crossing) (j : Nat) :
    c.edge j = if j < 4 then .ok ((toC c).edge j) else .panic :=
  GenFn.g_edge_eq c j

theorem gen_pass_eq (c : GenLink.Crossing) (j : Nat) :
    c.pass j = if j < 4 then .ok ((toC c).pass j) else .panic :=
  GenFn.g_pass_eq c j

theorem gen_crossing_from_pd_code_eq (a b c d : Nat) :
    toC (GenLink.Crossing.from_pd_code ⟨a, b, c, d⟩) = C18.Crossing.ofPD a b c d := rfl

theorem gen_crossing_new_eq (t : CrossingType) (a b c d : Nat) :
    toC (GenLink.Crossing.new t ⟨a, b, c, d⟩) = ⟨toT t, a, b, c, d⟩ := rfl

theorem gen_ctype_eq (c : GenLink.Crossing) : toT c.ctype = (toC c).ctype := rfl

theorem gen_edges_eq (c : GenLink.Crossing) : c.edges.toList = (toC c).edges := rfl

theorem gen_convert_edges_eq (c : GenLink.Crossing) (f : Nat → Nat) : toC (c.convert_edges f) = (toC c).convertEdges f := rfl

theorem gen_path_new_eq (es : List Nat) (b : Bool) :
    GenLink.Path.new es b = if es = [] then .panic else .ok ⟨es, b⟩ :=
  GenFn.g_path_new_eq es b

theorem gen_path_arc_eq (es : List Nat) : GenLink.Path.arc es = GenLink.Path.new es false :=
  GenFn.g_path_arc_eq es

theorem gen_path_circ_eq (es : List Nat) : GenLink.Path.circ es = GenLink.Path.new es true :=
  GenFn.g_path_circ_eq es

theorem gen_arcs_eq (c : GenLink.Crossing) :
    rmap (fun p => (toPath p.1, toPath p.2)) c.arcs = .ok (toC c).arcs := by
  have both (i j k m : Nat) (hi : i < 4) (hj : j < 4) (hk : k < 4) (hm : m < 4) :
      rmap (fun p : GenLink.Path × GenLink.Path => (toPath p.1, toPath p.2))
        (arcsComp c i j >>= fun a => arcsComp c k m >>= fun b => pure (a, b)) =
      .ok (arcComp (toC c) i j, arcComp (toC c) k m) :=
    rmap_bind_congr toPath _ _ _ _ (fun a' => .ok (arcComp (toC c) k m) >>= fun b' => .ok (a', b'))
      (arcsComp_eq c i j hi hj) fun a =>
        rmap_bind_congr toPath _ _ _ _ (fun b' => .ok (toPath a, b')) (arcsComp_eq c k m hk hm) fun b => rfl
  cases c with | mk t e =>
  cases t <;> exact both _ _ _ _ (by decide) (by decide) (by decide) (by decide)

theorem gen_link_from_pd_code_eq (pd : List (Nat × Nat × Nat × Nat)) :
    toL (GenLink.Link.from_pd_code (pd.map fun x => ⟨x.1, x.2.1, x.2.2.1, x.2.2.2⟩)) = C18.fromPD4 pd :=
  GenFn.g_link_from_pd_code_eq pd

theorem gen_link_mirror_eq (l : GenLink.Link) : toL l.mirror = C18.mirror (toL l) := by
  simp [GenLink.Link.mirror, toL, C18.mirror, Lk.iter, Lk.Iter.toList, List.map_map, Function.comp_def, gen_crossing_mirror_eq, Functor.map]

theorem gen_crossing_num_eq (l : GenLink.Link) : l.crossing_num = C18.crossingNum (toL l) :=
  GenFn.g_crossing_num_eq l

theorem gen_link_data_eq (l : GenLink.Link) : l.data.map toC = toL l := rfl

theorem gen_crossing_index_eq (l : GenLink.Link) (i : Nat) :
    l.crossing_index i = if i < l.crossing_num then ciSpec 0 l.data_ i else .panic :=
  GenFn.g_crossing_index_eq l i

theorem gen_crossing_index_zero_eq (l : GenLink.Link) : l.crossing_index 0 = ciSpec 0 l.data_ 0 :=
  GenFn.g_crossing_index_zero_eq l

theorem gen_crossing_at_mut_eq (l : GenLink.Link) (i : Nat) (k : GenLink.Crossing → Res GenLink.Crossing) :
    l.crossing_at_mut i k = (l.crossing_index i >>= fun j => Lk.idx l.data_ j >>= fun x => k x >>= fun x' =>
      Lk.idxSet l.data_ j x' >>= fun d => .ok ⟨d⟩) :=
  GenFn.g_crossing_at_mut_eq l i k

theorem gen_crossing_at_mut_zero_resolve_eq (l : GenLink.Link) (b : Bool) :
    rmap toL (l.crossing_at_mut 0 (fun x => x.resolve (toBit b))) = C18.resolveFirst (toL l) b :=
  GenFn.g_crossing_at_mut_zero_resolve_eq l b

theorem gen_resolved_by_eq (l : GenLink.Link) (s : List Bool) :
    rmap toL (l.resolved_by (s.map toBit)) = C18.resolvedBy (toL l) s := by
  unfold GenLink.Link.resolved_by C18.resolvedBy
  simp only [Lk.len, Lk.iter, Lk.Iter.toList, id, List.length_map, ← g_crossing_num_eq]
  by_cases h : s.length = l.crossing_num
  · simp only [h, Res.assert, beq_self_eq_true, if_true, Res.bind_ok]
    exact rb_loop l s
  · have : (s.length == l.crossing_num) = false := by simpa using h
    simp only [h, this, Res.assert, Bool.false_eq_true, if_false, Res.bind_panic, rmap]

theorem gen_pass_edge_eq (l : GenLink.Link) (ci ei : Nat) :
    l.pass_edge ci ei = if ci < l.data_.length ∧ ei < 4 then .ok (C18.passEdge (toL l) ci ei) else .panic :=
  GenFn.g_pass_edge_eq l ci ei

/-- `Link::traverse_edges` with the `FnMut` parameter read as the log of its calls = the model's `traverse`, for every fuel
above the library's own bound `4·n` (the `debug_assert!`s on `start` are visible). -/
theorem gen_traverse_edges_eq (l : GenLink.Link) (fuel : Nat) (start : Nat × Nat) (hf : 4 * l.data_.length < fuel) :
    l.traverse_edges fuel start =
      if start.1 < l.data_.length ∧ start.2 < 4 then C18.traverse (toL l) start else .panic :=
  GenFn.g_traverse_edges_eq l fuel start hf

/-- `Link::components` = the model's `components`, for every link (valid or not) and every fuel above `4·n`:
same components in the same order, same panics. -/
theorem gen_components_eq (l : GenLink.Link) (fuel : Nat) (hf : 4 * l.data_.length < fuel) :
    rmap (List.map toPath) (l.components fuel) = C18.components (toL l) := by
  rw [components_passes, C18.components]
  simp only [C18.compsPass, toL_length, List.forIn_cons, List.forIn_nil, Res.pure_eq, bind_assoc, Res.bind_ok]
  refine rmap_bind_congr convC _ _ _ _ _ (forIn_sim convC _ _ _
    (fun a ha s => compsBody_eq l fuel hf 0 a (by omega) (List.mem_range.1 ha) s) _) (fun st => ?_)
  refine rmap_bind_congr convC _ _ _ _ _ (forIn_sim convC _ _ _
    (fun a ha s => compsBody_eq l fuel hf 1 a (by omega) (List.mem_range.1 ha) s) _) (fun st => ?_)
  refine rmap_bind_congr convC _ _ _ _ _ (forIn_sim convC _ _ _
    (fun a ha s => compsBody_eq l fuel hf 2 a (by omega) (List.mem_range.1 ha) s) _) (fun st => ?_)
  rfl

theorem gen_crossing_signs_eq (l : GenLink.Link) (fuel : Nat) (hf : 4 * l.data_.length < fuel) :
    rmap (List.map toSign) (l.crossing_signs fuel) = C18.crossingSigns (toL l) := by
  rw [crossing_signs_passes, C18.crossingSigns, toL_length]
  have hinit : ((List.replicate l.data_.length none, []) : List (Option C18.Sign) × List Nat) =
      convS (List.replicate l.data_.length none, Lk.HashSet.new) := by simp [convS, Lk.HashSet.new]
  rw [hinit]
  have pass (j0 : Nat) (hj0 : j0 < 4) (st : SignSt) (hst : st.1.length = l.data_.length) :
      rmap convS (forIn (List.range l.data_.length) st (signsBody l fuel j0)) = C18.signsPass (toL l) j0 (convS st) ∧
      ∀ s', forIn (List.range l.data_.length) st (signsBody l fuel j0) = .ok s' → s'.1.length = l.data_.length := by
    rw [C18.signsPass, toL_length]
    exact forIn_sim_inv convS (fun st => st.1.length = l.data_.length) _ _ _
      (fun a ha s hs => signsBody_eq l fuel hf j0 a hj0 (List.mem_range.1 ha) s hs) st hst
  have h0 := pass 0 (by omega) (List.replicate l.data_.length none, Lk.HashSet.new) (List.length_replicate ..)
  refine rmap_bind_congr_inv convS _ (fun st => st.1.length = l.data_.length) _ _ _ _ h0.1 h0.2 (fun st hst => ?_)
  rw [signs_incomplete l st hst]
  simp only [Res.bind_ok]
  by_cases hinc : C18.signsIncomplete (toL l) (convS st).1 = true
  · simp only [hinc, if_true, List.forIn_cons, List.forIn_nil, bind_assoc, Res.bind_ok, Res.pure_eq]
    have h1 := pass 1 (by omega) (st.1, st.2) hst
    refine rmap_bind_congr_inv convS _ (fun st => st.1.length = l.data_.length) _ _ _ _ h1.1 h1.2 (fun st1 hst1 => ?_)
    have h2 := pass 2 (by omega) (st1.1, st1.2) hst1
    refine rmap_bind_congr_inv convS _ (fun st => st.1.length = l.data_.length) _ _ _ _ h2.1 h2.2 (fun st2 hst2 => ?_)
    exact signs_final l st2
  · simp only [hinc, Bool.false_eq_true, if_false]
    exact signs_final l st

theorem gen_signed_crossing_nums_eq (l : GenLink.Link) (fuel : Nat) :
    l.signed_crossing_nums fuel = (l.crossing_signs fuel >>= fun s => .ok (s.count .Pos, s.count .Neg)) := by
  unfold GenLink.Link.signed_crossing_nums
  cases l.crossing_signs fuel with
  | ok s =>
    have h : ∀ (x : Lk.Sign), ((Lk.counts (Lk.iter s)).get x).getD 0 = s.count x := by
      intro x; simp only [Lk.counts, Lk.CountMap.get, Lk.iter, Lk.Iter.toList, id]
      by_cases hn : List.count x s = 0 <;> simp [hn]
    simp only [Res.bind_ok, Res.pure_eq, h]
  | panic => rfl
  | err => rfl

theorem gen_writhe_eq (l : GenLink.Link) (fuel : Nat) :
    l.writhe fuel = (l.signed_crossing_nums fuel >>= fun pn => .ok ((pn.1 : Int) - (pn.2 : Int))) := by
  unfold GenLink.Link.writhe
  cases l.signed_crossing_nums fuel <;> rfl

theorem gen_is_knot_eq (l : GenLink.Link) (fuel : Nat) :
    l.is_knot fuel = (l.components fuel >>= fun cs => .ok (cs.length == 1)) := by
  unfold GenLink.Link.is_knot
  cases l.components fuel <;> rfl

theorem gen_ori_pres_state_eq (l : GenLink.Link) (fuel : Nat) :
    l.ori_pres_state fuel = (l.crossing_signs fuel >>= fun s =>
      if s.length ≤ 64 then .ok (s.map fun x => if x = .Pos then Lk.Bit.Bit0 else Lk.Bit.Bit1) else .panic) := by
  unfold GenLink.Link.ori_pres_state
  cases l.crossing_signs fuel with
  | ok s =>
    simp only [Res.bind_ok, Lk.State.from_iter, Lk.iter, Lk.Iter.toList, id, Functor.map, List.length_map,
      List.map_map]
    split
    · congr 1; apply List.map_congr_left; intro x _; cases x <;> rfl
    · rfl
  | panic => rfl
  | err => rfl

theorem gen_seifert_circles_eq (l : GenLink.Link) (fuel : Nat) :
    l.seifert_circles fuel = (l.ori_pres_state fuel >>= fun s => l.resolved_by s >>= fun r => r.components fuel) := by
  unfold GenLink.Link.seifert_circles
  cases l.ori_pres_state fuel with
  | ok s => simp only [Res.bind_ok]
  | panic => rfl
  | err => rfl

theorem gen_crossing_at_eq (l : GenLink.Link) (i : Nat) :
    l.crossing_at i = (l.crossing_index i >>= fun j => Lk.idx l.data_ j) := by
  unfold GenLink.Link.crossing_at
  cases l.crossing_index i <;> simp <;> rfl

theorem gen_resolved_at_eq (l : GenLink.Link) (i : Nat) (r : Lk.Bit) :
    l.resolved_at i r = (if i < l.crossing_num then l.crossing_at_mut i (fun x => x.resolve r) else .panic) := by
  unfold GenLink.Link.resolved_at
  by_cases h : i < l.crossing_num
  · simp only [h, Res.assert, decide_true, if_true, Res.bind_ok]
    cases l.crossing_at_mut i fun x => x.resolve r <;> rfl
  · simp only [h, Res.assert, decide_false, if_false]; rfl

theorem gen_signed_crossing_nums_model_eq (l : GenLink.Link) (fuel : Nat) (hf : 4 * l.data_.length < fuel) :
    l.signed_crossing_nums fuel = C18.signedCrossingNums (toL l) := by
  rw [gen_signed_crossing_nums_eq, C18.signedCrossingNums, ← gen_crossing_signs_eq l fuel hf]
  cases l.crossing_signs fuel with
  | ok s => simp only [Res.bind_ok, rmap, Res.pure_eq, (count_map_toSign s).1, (count_map_toSign s).2]
  | panic => rfl
  | err => rfl

theorem gen_writhe_model_eq (l : GenLink.Link) (fuel : Nat) (hf : 4 * l.data_.length < fuel) :
    l.writhe fuel = C18.writhe (toL l) := by
  rw [gen_writhe_eq, gen_signed_crossing_nums_model_eq l fuel hf, C18.writhe]
  cases C18.signedCrossingNums (toL l) <;> rfl

theorem gen_is_knot_model_eq (l : GenLink.Link) (fuel : Nat) (hf : 4 * l.data_.length < fuel) :
    l.is_knot fuel = C18.isKnot (toL l) := by
  rw [gen_is_knot_eq, C18.isKnot, ← gen_components_eq l fuel hf]
  cases l.components fuel with
  | ok cs => simp [rmap]
  | panic => rfl
  | err => rfl

theorem gen_ori_pres_state_model_eq (l : GenLink.Link) (fuel : Nat) (hf : 4 * l.data_.length < fuel) :
    rmap (List.map bitB) (l.ori_pres_state fuel) = C18.oriPresState (toL l) := by
  rw [gen_ori_pres_state_eq, C18.oriPresState, ← gen_crossing_signs_eq l fuel hf]
  cases l.crossing_signs fuel with
  | ok s =>
    simp only [rmap, Res.bind_ok, List.length_map]
    by_cases h64 : s.length ≤ 64
    · simp only [h64, if_true, Res.pure_eq, List.map_map, Res.ok.injEq]
      apply List.map_congr_left; intro x _; cases x <;> rfl
    · simp only [h64, if_false]
  | panic => rfl
  | err => rfl

theorem gen_seifert_circles_model_eq (l : GenLink.Link) (fuel : Nat) (hf : 4 * l.data_.length < fuel) :
    rmap (List.map toPath) (l.seifert_circles fuel) = C18.seifertCircles (toL l) := by
  rw [gen_seifert_circles_eq, C18.seifertCircles, ← gen_ori_pres_state_model_eq l fuel hf]
  cases l.ori_pres_state fuel with
  | ok s =>
    simp only [Res.bind_ok, rmap]
    have hs : s = (s.map bitB).map toBit := by simp [List.map_map, Function.comp_def, toBit_bitB]
    have hr := gen_resolved_by_eq l (s.map bitB)
    rw [← hs] at hr
    rw [← hr]
    cases hrb : l.resolved_by s with
    | ok r =>
      simp only [Res.bind_ok, rmap]
      have hlen := resolvedBy_length (toL l) _ (toL r) (by rw [← hr, hrb]; rfl)
      rw [toL_length, toL_length] at hlen
      exact gen_components_eq r fuel (by omega)
    | panic => rfl
    | err => rfl
  | panic => rfl
  | err => rfl

theorem gen_pass_edge_eq_samples :
    samples.all (fun l => (slotsOf l).all fun s => l.pass_edge s.1 s.2 == .ok (C18.passEdge (toL l) s.1 s.2)) = true :=
  List.all_eq_true.2 fun l _ => List.all_eq_true.2 fun s hs => beq_iff_eq.2 <| by
    rw [g_pass_edge_eq, if_pos (mem_slotsOf hs)]

theorem gen_traverse_edges_eq_samples :
    samples.all (fun l => (slotsOf l).all fun s => l.traverse_edges fuel0 s == C18.traverse (toL l) s) = true :=
  List.all_eq_true.2 fun l hl => List.all_eq_true.2 fun s hs => beq_iff_eq.2 <| by
    rw [g_traverse_edges_eq l fuel0 s (samples_fuel l hl), if_pos (mem_slotsOf hs)]

theorem gen_components_eq_samples :
    samples.all (fun l => rmap (List.map toPath) (l.components fuel0) == C18.components (toL l)) = true :=
  List.all_eq_true.2 fun l hl => beq_iff_eq.2 (gen_components_eq l fuel0 (samples_fuel l hl))

theorem gen_crossing_signs_eq_samples :
    samples.all (fun l => rmap (List.map toSign) (l.crossing_signs fuel0) == C18.crossingSigns (toL l)) = true :=
  List.all_eq_true.2 fun l hl => beq_iff_eq.2 (gen_crossing_signs_eq l fuel0 (samples_fuel l hl))

theorem gen_writhe_eq_samples :
    samples.all (fun l => l.writhe fuel0 == C18.writhe (toL l)) = true :=
  List.all_eq_true.2 fun l hl => beq_iff_eq.2 (gen_writhe_model_eq l fuel0 (samples_fuel l hl))

theorem gen_resolved_by_eq_samples :
    samples.all (fun l => ((List.range 5).flatMap states).all fun s =>
      rmap toL (l.resolved_by (s.map toBit)) == C18.resolvedBy (toL l) s) = true :=
  List.all_eq_true.2 fun l _ => List.all_eq_true.2 fun s _ => beq_iff_eq.2 (gen_resolved_by_eq l s)

theorem gen_seifert_circles_eq_samples :
    samples.all (fun l => rmap (List.map toPath) (l.seifert_circles fuel0) == C18.seifertCircles (toL l)) = true :=
  List.all_eq_true.2 fun l hl => beq_iff_eq.2 (gen_seifert_circles_model_eq l fuel0 (samples_fuel l hl))

/-- the fuel hypothesis of the walker theorems is satisfiable: the trefoil diagram (3 crossings) with fuel 13 -/
example : rmap (List.map toPath)
      ((⟨[GenFn.mk .X 1 4 2 5, GenFn.mk .X 3 6 4 1, GenFn.mk .X 5 2 6 3]⟩ : GenLink.Link).components 13) =
    C18.components (toL ⟨[GenFn.mk .X 1 4 2 5, GenFn.mk .X 3 6 4 1, GenFn.mk .X 5 2 6 3]⟩) :=
  gen_components_eq _ 13 (by decide)

/-- the fuel hypothesis of the walker theorems is satisfiable: the trefoil diagram (3 crossings) with fuel 13 -/
example : rmap (List.map toPath)
      ((⟨[GenFn.mk .X 1 4 2 5, GenFn.mk .X 3 6 4 1, GenFn.mk .X 5 2 6 3]⟩ : GenLink.Link).components 13) =
    C18.components (toL ⟨[GenFn.mk .X 1 4 2 5, GenFn.mk .X 3 6 4 1, GenFn.mk .X 5 2 6 3]⟩) :=
  gen_components_eq _ 13 (by decide)

end Yuiv.C18
