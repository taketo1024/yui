import Yuiv.Proofs.C12Group
import Yuiv.Proofs.C12Check
import Yuiv.Proofs.ListAux

/-
C12 — index bookkeeping of `dir_sum_decomp`: `offsets` are prefix sums, `perm_for_indices` puts the flattened groups
first, and the entries of a block-diagonal sum are read off by position.
-/
namespace Yuiv.C12
open Yuiv

/-- sum of the lengths of the first `k` lists -/
def offAt (L : List (List Nat)) (k : Nat) : Nat := ((L.take k).map List.length).sum

theorem offsets_append (L : List (List Nat)) (x : List Nat) :
    offsets (L ++ [x]) = offsets L ++ [(offsets L).getLastD 0 + x.length] := by
  simp [offsets, List.foldl_append]

theorem offAt_succ (L : List (List Nat)) (k : Nat) (hk : k < L.length) :
    offAt L (k + 1) = offAt L k + L[k].length := by
  unfold offAt
  rw [List.take_succ_eq_append_getElem hk]
  simp only [List.map_append, List.sum_append, List.map_cons, List.map_nil, List.sum_cons,
    List.sum_nil, Nat.add_zero]

theorem offAt_length (L : List (List Nat)) : offAt L L.length = L.flatten.length := by
  simp [offAt, List.length_flatten]

theorem offAt_append_of_le (L : List (List Nat)) (x : List Nat) (k : Nat) (hk : k ≤ L.length) :
    offAt (L ++ [x]) k = offAt L k := by
  unfold offAt
  rw [List.take_append_of_le_length hk]

theorem offsets_getElem? (L : List (List Nat)) :
    (offsets L).length = L.length + 1 ∧ ∀ k, k ≤ L.length → (offsets L)[k]? = some (offAt L k) := by
  induction L using List.reverseRecOn with
  | nil =>
    refine ⟨rfl, fun k hk => ?_⟩
    rw [Nat.le_zero.1 hk]
    rfl
  | append_singleton L x ih =>
    obtain ⟨hlen, hget⟩ := ih
    rw [offsets_append]
    refine ⟨by rw [List.length_append, List.length_append, hlen]; rfl, fun k hk => ?_⟩
    by_cases hkL : k ≤ L.length
    · rw [List.getElem?_append_left (by omega), hget k hkL, offAt_append_of_le L x k hkL]
    · have hk' : k = L.length + 1 := by
        rw [List.length_append, List.length_singleton] at hk
        omega
      subst hk'
      have hlast : (offsets L).getLastD 0 = offAt L L.length := by
        rw [List.getLastD_eq_getLast?, List.getLast?_eq_getElem?, hlen, Nat.add_sub_cancel,
          hget L.length (Nat.le_refl _), Option.getD_some]
      rw [List.getElem?_append_right (by omega), hlast, hlen, Nat.sub_self, List.getElem?_cons_zero,
        offAt_succ (L ++ [x]) L.length (by rw [List.length_append, List.length_singleton]; omega),
        offAt_append_of_le L x L.length (Nat.le_refl _), List.getElem_append_right (Nat.le_refl _)]
      simp only [Nat.sub_self, List.getElem_cons_zero]

theorem offsets_getD (L : List (List Nat)) (k : Nat) (hk : k ≤ L.length) :
    (offsets L).toArray.getD k 0 = offAt L k := by
  rw [Array.getD_eq_getD_getElem?, List.getElem?_toArray, (offsets_getElem? L).2 k hk, Option.getD_some]

theorem flatten_getElem? (L : List (List Nat)) (k t : Nat) (hk : k < L.length) (ht : t < L[k].length) :
    L.flatten[offAt L k + t]? = some (L[k][t]) := by
  induction L generalizing k with
  | nil => exact absurd hk (Nat.not_lt_zero k)
  | cons a L ih =>
    rw [List.flatten_cons]
    cases k with
    | zero =>
      have ht' : t < a.length := ht
      rw [show offAt (a :: L) 0 = 0 from rfl, Nat.zero_add, List.getElem?_append_left ht', List.getElem?_eq_getElem ht']
      rfl
    | succ k =>
      have e : offAt (a :: L) (k + 1) = a.length + offAt L k := by
        unfold offAt
        rw [List.take_succ_cons, List.map_cons, List.sum_cons]
      rw [e, Nat.add_assoc, List.getElem?_append_right (Nat.le_add_right _ _), Nat.add_sub_cancel_left,
        ih k (Nat.lt_of_succ_lt_succ hk) ht]
      rfl

theorem foldl_set_enumFrom (vs : List Nat) : ∀ (s : Nat) (a : Array Nat), vs.Nodup → (∀ i ∈ vs, i < a.size) →
    ((enumFrom s vs).foldl (fun (inv : Array Nat) e => inv.setIfInBounds e.2 e.1) a).size = a.size ∧
    (∀ k (hk : k < vs.length),
      ((enumFrom s vs).foldl (fun (inv : Array Nat) e => inv.setIfInBounds e.2 e.1) a).getD vs[k] 0 = s + k) ∧
    (∀ i, i ∉ vs →
      ((enumFrom s vs).foldl (fun (inv : Array Nat) e => inv.setIfInBounds e.2 e.1) a).getD i 0 = a.getD i 0) := by
  induction vs with
  | nil => exact fun s a _ _ => ⟨rfl, fun k hk => absurd hk (Nat.not_lt_zero k), fun _ _ => rfl⟩
  | cons v vs ih =>
    intro s a hnd hlt
    obtain ⟨hv, hnd'⟩ := List.nodup_cons.mp hnd
    have hva : v < a.size := hlt v List.mem_cons_self
    obtain ⟨h1, h2, h3⟩ := ih (s + 1) (a.setIfInBounds v s) hnd'
      (fun i hi => by rw [Array.size_setIfInBounds]; exact hlt i (List.mem_cons_of_mem _ hi))
    simp only [enumFrom, List.foldl_cons]
    refine ⟨h1.trans Array.size_setIfInBounds, fun k hk => ?_, fun i hi => ?_⟩
    · cases k with
      | zero =>
        -- later writes go to other indices
        rw [List.getElem_cons_zero, h3 v hv, Array.getD_eq_getD_getElem?, Array.getElem?_setIfInBounds, if_pos rfl,
          if_pos hva]
        rfl
      | succ k =>
        rw [List.getElem_cons_succ, h2 k (Nat.lt_of_succ_lt_succ hk), Nat.add_right_comm, Nat.add_assoc]
    · rw [h3 i fun h => hi (List.mem_cons_of_mem _ h), Array.getD_eq_getD_getElem?,
        Array.getElem?_setIfInBounds_ne fun h : v = i => hi (h ▸ List.mem_cons_self), ← Array.getD_eq_getD_getElem?]

theorem permForIndices_spec (n : Nat) (idx : List Nat) (hnd : idx.Nodup) (hlt : ∀ i ∈ idx, i < n) :
    ∃ inv, permForIndices n idx = .ok inv ∧ inv.size = n ∧
      (∀ k (hk : k < idx.length), inv.getD idx[k] 0 = k) ∧
      (∀ i, i < n → i ∉ idx → idx.length ≤ inv.getD i 0) ∧
      (∀ i, i < n → inv.getD i 0 < n) ∧
      (∀ i i', i < n → i' < n → inv.getD i 0 = inv.getD i' 0 → i = i') ∧
      permOk inv n = true := by
  have hperm := ListAux.append_filter_perm_range n idx hnd hlt
  generalize hvec : (idx ++ (List.range n).filter fun i => !idx.contains i) = vec at hperm
  have hvlen : vec.length = n := hperm.length_eq.trans List.length_range
  have hvmem : ∀ i, i ∈ vec ↔ i < n := fun i => hperm.mem_iff.trans List.mem_range
  obtain ⟨hsz, hk, _⟩ := foldl_set_enumFrom vec 0 (Array.replicate n 0) (hperm.nodup_iff.mpr List.nodup_range)
    (fun i hi => by rw [Array.size_replicate]; exact (hvmem i).1 hi)
  generalize hinv : (enumFrom 0 vec).foldl (fun (inv : Array Nat) e => inv.setIfInBounds e.2 e.1)
    (Array.replicate n 0) = inv at hsz hk
  rw [Array.size_replicate] at hsz
  simp only [Nat.zero_add] at hk
  -- `inv` sends every `i < n` to its position in `vec`, and `vec` starts with `idx`
  have hkey : ∀ i, i < n → ∃ k, ∃ hk : k < vec.length, vec[k] = i ∧ inv.getD i 0 = k := by
    intro i hi
    obtain ⟨k, hk', e⟩ := List.getElem_of_mem ((hvmem i).2 hi)
    exact ⟨k, hk', e, e ▸ hk k hk'⟩
  have hpre : ∀ k (h : k < idx.length) (h' : k < vec.length), vec[k] = idx[k] := by
    intro k h h'
    subst hvec
    exact List.getElem_append_left h
  have h3 : ∀ k (hk : k < idx.length), inv.getD idx[k] 0 = k := by
    intro k hk'
    have hkv : k < vec.length := by rw [← hvec, List.length_append]; omega
    rw [← hpre k hk' hkv]
    exact hk k hkv
  have h4 : ∀ i, i < n → i ∉ idx → idx.length ≤ inv.getD i 0 := by
    intro i hi hni
    obtain ⟨k, hk', e, e2⟩ := hkey i hi
    rw [e2]
    by_contra hc
    exact hni (e ▸ hpre k (Nat.lt_of_not_le hc) hk' ▸ List.getElem_mem _)
  have h5 : ∀ i, i < n → inv.getD i 0 < n := by
    intro i hi
    obtain ⟨k, hk', _, e2⟩ := hkey i hi
    rw [e2, ← hvlen]
    exact hk'
  have h6 : ∀ i i', i < n → i' < n → inv.getD i 0 = inv.getD i' 0 → i = i' := by
    intro i i' hi hi' he
    obtain ⟨k, hk1, e, e2⟩ := hkey i hi
    obtain ⟨k', hk1', e', e2'⟩ := hkey i' hi'
    have : k = k' := by rw [← e2, ← e2', he]
    subst this
    rw [← e, ← e']
  refine ⟨inv, ?_, hsz, h3, h4, h5, h6, ?_⟩
  · have hall : (idx.all fun i => decide (i < n)) = true :=
      List.all_eq_true.2 fun i hi => decide_eq_true (hlt i hi)
    unfold permForIndices
    simp only [hall, hvec, hinv, hvlen, Bool.not_true, Bool.false_eq_true, if_false, bne_self_eq_false]
  · unfold permOk
    simp only [Bool.and_eq_true, beq_iff_eq, List.all_eq_true, List.mem_range, decide_eq_true_eq,
      Bool.or_eq_true, bne_iff_ne, ne_eq]
    exact ⟨⟨hsz, h5⟩, fun i hi i' hi' => (Classical.em (i = i')).imp_right fun he h => he (h6 i i' hi hi' h)⟩

section layout
variable {α : Type} [Scal α]

omit [Scal α] in
theorem mem_rowIdx (A : SpMat α) (j i : Nat) : i ∈ rowIdx A j ↔ ∃ v, (i, v) ∈ col A j := by
  unfold rowIdx
  rw [List.mem_map]
  exact ⟨fun ⟨e, he, hi⟩ => ⟨e.2, hi ▸ he⟩, fun ⟨v, hv⟩ => ⟨(i, v), hv, rfl⟩⟩

omit [Scal α] in
theorem mem_rowsIn (A : SpMat α) (g : List Nat) (i : Nat) :
    i ∈ rowsIn A g ↔ i < A.nrows ∧ ∃ j ∈ g, i ∈ rowIdx A j := by
  unfold rowsIn
  simp [List.mem_filter]

omit [Scal α] in
theorem rowsIn_nodup (A : SpMat α) (g : List Nat) : (rowsIn A g).Nodup :=
  List.Nodup.filter _ List.nodup_range

omit [Scal α] in
theorem rows_lt (A : SpMat α) (cols : List (List Nat)) : ∀ i ∈ (cols.map (rowsIn A)).flatten, i < A.nrows := by
  intro i hi
  obtain ⟨r, hr, hir⟩ := List.mem_flatten.1 hi
  obtain ⟨g, _, rfl⟩ := List.mem_map.1 hr
  exact ((mem_rowsIn A g i).1 hir).1

omit [Scal α] in
theorem Grouping.flatten_lt {A : SpMat α} {cols : List (List Nat)} (hG : Grouping A cols) :
    ∀ j ∈ cols.flatten, j < A.ncols := by
  intro j hj
  obtain ⟨g, hg, hjg⟩ := List.mem_flatten.1 hj
  exact hG.lt g hg j hjg

theorem flatten_index_unique (L : List (List Nat)) (h : L.flatten.Nodup) (k k' : Nat) (g g' : List Nat)
    (hk : L[k]? = some g) (hk' : L[k']? = some g') (x : Nat) (hx : x ∈ g) (hx' : x ∈ g') : k = k' := by
  induction L generalizing k k' with
  | nil => simp at hk
  | cons a L ih =>
    rw [List.flatten_cons, List.nodup_append] at h
    obtain ⟨_, h2, h3⟩ := h
    cases k with
    | zero =>
      cases k' with
      | zero => rfl
      | succ k' =>
        simp only [List.getElem?_cons_zero, Option.some.injEq] at hk
        simp only [List.getElem?_cons_succ] at hk'
        subst hk
        exact absurd rfl (h3 x hx x (List.mem_flatten.2 ⟨g', List.mem_of_getElem? hk', hx'⟩))
    | succ k =>
      cases k' with
      | zero =>
        simp only [List.getElem?_cons_zero, Option.some.injEq] at hk'
        simp only [List.getElem?_cons_succ] at hk
        subst hk'
        exact absurd rfl (h3 x hx' x (List.mem_flatten.2 ⟨g, List.mem_of_getElem? hk, hx⟩))
      | succ k' =>
        simp only [List.getElem?_cons_succ] at hk hk'
        rw [ih h2 k k' hk hk']

omit [Scal α] in
theorem rows_nodup (A : SpMat α) (cols : List (List Nat)) (hG : Grouping A cols) :
    (cols.map (rowsIn A)).flatten.Nodup := by
  rw [List.nodup_flatten]
  constructor
  · intro r hr
    obtain ⟨g, _, rfl⟩ := List.mem_map.1 hr
    exact rowsIn_nodup A g
  · rw [List.pairwise_map]
    have hp := (List.nodup_flatten.1 hG.nodup).2
    refine List.Pairwise.imp_of_mem ?_ hp
    intro g g' hg hg' hd i hi hi'
    obtain ⟨_, j, hj, hij⟩ := (mem_rowsIn A g i).1 hi
    obtain ⟨_, j', hj', hij'⟩ := (mem_rowsIn A g' i).1 hi'
    have : j' ∈ g := hG.sep g hg j hj j' ⟨hG.lt g hg j hj, hG.lt g' hg' j' hj', i, hij, hij'⟩
    exact hd this hj'

theorem findGroup_aux (L : List (List Nat)) (s k : Nat) (g : List Nat) (i : Nat) (hk : L[k]? = some g) (hi : i ∈ g)
    (hb : ∀ k' g', k' < k → L[k']? = some g' → i ∉ g') :
    (enumFrom s L).findSome? (fun e => if e.2.contains i then some e.1 else none) = some (s + k) := by
  induction L generalizing s k with
  | nil => simp at hk
  | cons a L ih =>
    rw [enumFrom, List.findSome?_cons]
    cases k with
    | zero =>
      rw [List.getElem?_cons_zero, Option.some.injEq] at hk
      rw [hk, if_pos (List.contains_iff_mem.2 hi)]
      rfl
    | succ k =>
      rw [List.getElem?_cons_succ] at hk
      have ha : i ∉ a := hb 0 a (Nat.succ_pos k) rfl
      rw [if_neg (fun h => ha (List.contains_iff_mem.1 h)),
        ih (s + 1) k hk fun k' g' hk' hg' => hb (k' + 1) g' (Nat.succ_lt_succ hk') hg', Nat.add_right_comm, Nat.add_assoc]

theorem findGroup_eq (L : List (List Nat)) (h : L.flatten.Nodup) (k : Nat) (g : List Nat) (hk : L[k]? = some g)
    (i : Nat) (hi : i ∈ g) : findGroup L i = some k := by
  unfold findGroup
  rw [findGroup_aux L 0 k g i hk hi]
  · simp
  · intro k' g' hlt hk' hi'
    have := flatten_index_unique L h k k' g g' hk hk' i hi hi'
    omega

/-- what `perm_for_indices` delivers for the flattened groups -/
structure PermLayout (L : List (List Nat)) (n : Nat) (p : Array Nat) : Prop where
  ok : permOk p n = true
  lt : ∀ i, i < n → p.getD i 0 < n
  inj : ∀ i i', i < n → i' < n → p.getD i 0 = p.getD i' 0 → i = i'
  pos : ∀ k g t x, L[k]? = some g → g[t]? = some x → p.getD x 0 = offAt L k + t
  out : ∀ i, i < n → i ∉ L.flatten → offAt L L.length ≤ p.getD i 0

theorem permLayout (L : List (List Nat)) (n : Nat) (hnd : L.flatten.Nodup) (hlt : ∀ i ∈ L.flatten, i < n) :
    ∃ p, permForIndices n L.flatten = .ok p ∧ PermLayout L n p := by
  obtain ⟨p, h1, _, h3, h4, h5, h6, h7⟩ := permForIndices_spec n L.flatten hnd hlt
  refine ⟨p, h1, h7, h5, h6, ?_, ?_⟩
  · intro k g t x hk ht
    obtain ⟨hk', rfl⟩ := List.getElem?_eq_some_iff.1 hk
    obtain ⟨ht', rfl⟩ := List.getElem?_eq_some_iff.1 ht
    obtain ⟨hm, hm'⟩ := List.getElem?_eq_some_iff.1 (flatten_getElem? L k t hk' ht')
    rw [← hm']
    exact h3 _ hm
  · intro i hi hni
    rw [offAt_length]
    exact h4 i hi hni

/-- row and column offset of block `k` in the block-diagonal sum -/
def rOff (bl : List (SpMat α)) (k : Nat) : Nat := ((bl.take k).map (·.nrows)).sum
def cOff (bl : List (SpMat α)) (k : Nat) : Nat := ((bl.take k).map (·.ncols)).sum

omit [Scal α] in
theorem rOff_succ (b : SpMat α) (bs : List (SpMat α)) (k : Nat) : rOff (b :: bs) (k + 1) = b.nrows + rOff bs k := by
  simp [rOff]
omit [Scal α] in
theorem cOff_succ (b : SpMat α) (bs : List (SpMat α)) (k : Nat) : cOff (b :: bs) (k + 1) = b.ncols + cOff bs k := by
  simp [cOff]

theorem bdEntry_block (bl : List (SpMat α)) (k : Nat) (B : SpMat α) (hk : bl[k]? = some B) (x s : Nat)
    (hs : s < B.ncols) :
    bdEntry bl x (cOff bl k + s) =
      if rOff bl k ≤ x ∧ x < rOff bl k + B.nrows then entry B (x - rOff bl k) s else zero := by
  induction bl generalizing k x with
  | nil => simp at hk
  | cons b bs ih =>
    unfold bdEntry
    cases k with
    | zero =>
      simp only [List.getElem?_cons_zero, Option.some.injEq] at hk
      subst hk
      simp only [rOff, cOff, List.take_zero, List.map_nil, List.sum_nil, Nat.zero_add, Nat.zero_le, true_and, Nat.sub_zero]
      by_cases hx : x < b.nrows
      · rw [if_pos ⟨hx, hs⟩, if_pos hx]
      · rw [if_neg (fun h => hx h.1), if_neg (by omega), if_neg hx]
    | succ k =>
      simp only [List.getElem?_cons_succ] at hk
      rw [rOff_succ, cOff_succ, if_neg (by omega)]
      by_cases hx : b.nrows ≤ x
      · rw [if_pos ⟨hx, by omega⟩, Nat.add_assoc, Nat.add_sub_cancel_left, ih k hk _, Nat.sub_add_eq]
        exact if_congr (by omega) rfl rfl
      · rw [if_neg (fun h => hx h.1), if_neg (by omega)]

theorem bdEntry_at (bl : List (SpMat α)) (k : Nat) (B : SpMat α) (hk : bl[k]? = some B) (t s : Nat)
    (ht : t < B.nrows) (hs : s < B.ncols) : bdEntry bl (rOff bl k + t) (cOff bl k + s) = entry B t s := by
  rw [bdEntry_block bl k B hk _ s hs, if_pos ⟨Nat.le_add_right _ _, Nat.add_lt_add_left ht _⟩, Nat.add_sub_cancel_left]

theorem bdEntry_off_rows (bl : List (SpMat α)) (k : Nat) (B : SpMat α) (hk : bl[k]? = some B) (x s : Nat)
    (hs : s < B.ncols) (hx : ¬ (rOff bl k ≤ x ∧ x < rOff bl k + B.nrows)) :
    bdEntry bl x (cOff bl k + s) = zero := by
  rw [bdEntry_block bl k B hk x s hs, if_neg hx]

theorem bdEntry_beyond_cols (bl : List (SpMat α)) (x y : Nat) (hy : cOff bl bl.length ≤ y) :
    bdEntry bl x y = zero := by
  induction bl generalizing x y with
  | nil => rfl
  | cons b bs ih =>
    unfold bdEntry
    rw [List.length_cons, cOff_succ] at hy
    rw [if_neg (by omega)]
    split
    · exact ih _ _ (by omega)
    · rfl

theorem bdEntry_zero (bl : List (SpMat α)) (x y : Nat)
    (h : ∀ k B, bl[k]? = some B →
      ¬ (rOff bl k ≤ x ∧ x < rOff bl k + B.nrows ∧ cOff bl k ≤ y ∧ y < cOff bl k + B.ncols)) :
    bdEntry bl x y = zero := by
  induction bl generalizing x y with
  | nil => rfl
  | cons b bs ih =>
    unfold bdEntry
    have h0 := h 0 b rfl
    simp only [rOff, cOff, List.take_zero, List.map_nil, List.sum_nil, Nat.zero_add, Nat.zero_le, true_and] at h0
    rw [if_neg (by omega)]
    split
    · refine ih _ _ fun k B hk hcon => h (k + 1) B hk ?_
      rw [rOff_succ, cOff_succ]
      omega
    · rfl

end layout

end Yuiv.C12
