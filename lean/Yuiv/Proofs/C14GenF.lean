import Yuiv.Gen.FFFn
import Yuiv.Model.C14
import Yuiv.Proofs.C14GenSimp
import Yuiv.Proofs.Res
/-
`Yuiv.GenFF.*` is GENERATED from `/repo/yui/src/types/ff.rs` and `f2.rs` by `tools/rs2lean_fn.py fn:ff`.  The hand
model `C14.FF.*` represents an element of `FF<p>` by its representative (an `Int`), `C14.FF2.*` by a `Bool`; the
generated tuple structs `FFS`, `FF2S` are mapped to them by the field `f0`.
-/
namespace Yuiv.GenF
open Yuiv Res Yuiv.Rust Yuiv.GenFF

def mapR {α β} (f : α → β) : Res α → Res β
  | .ok a => .ok (f a)
  | .panic => .panic
  | .err => .err

theorem mapR_ok {α β} (f : α → β) (a : α) : mapR f (ok a) = ok (f a) := rfl
theorem mapR_panic {α β} (f : α → β) : mapR f (.panic : Res α) = .panic := rfl
theorem mapR_err {α β} (f : α → β) : mapR f (.err : Res α) = .err := rfl
theorem mapR_bind {α β γ} (f : β → γ) (x : Res α) (g : α → Res β) :
    mapR f (x >>= g) = x >>= fun a => mapR f (g a) := by cases x <;> rfl
theorem mapR_ite {α β} (f : α → β) (c : Prop) [Decidable c] (x y : Res α) :
    mapR f (if c then x else y) = if c then mapR f x else mapR f y := by split <;> rfl
theorem bind_assoc' {α β γ} (x : Res α) (f : α → Res β) (g : β → Res γ) :
    ((x >>= f) >>= g) = (x >>= fun a => f a >>= g) := bind_assoc x f g
theorem ite_bind {α β} (c : Prop) [Decidable c] (x y : Res α) (f : α → Res β) :
    ((if c then x else y) >>= f) = if c then x >>= f else y >>= f := apply_ite (· >>= f) c x y
theorem assert_true : Res.assert true = ok () := rfl
theorem assert_false : Res.assert false = (.panic : Res Unit) := rfl

theorem chk_eq (x : Int) : I32.chk x = C14.chk32 x := rfl
theorem add_eq (a b : Int) : I32.add a b = C14.chk32 (a + b) := rfl
theorem sub_eq (a b : Int) : I32.sub a b = C14.chk32 (a - b) := rfl
theorem mul_eq (a b : Int) : I32.mul a b = C14.chk32 (a * b) := rfl
theorem neg_eq (a : Int) : I32.neg a = C14.chk32 (-a) := rfl

theorem xgcdLoop_eq (n : Nat) (r s t : Int × Int) : I32.xgcdLoop n r s t = C14.FF.xgcdLoop n r s t := by
  induction n generalizing r s t with
  | zero => rfl
  | succ n ih => simp only [I32.xgcdLoop, C14.FF.xgcdLoop, ih]

theorem gcdx_eq (x y : Int) : I32.gcdx x y = C14.FF.gcdx x y := by
  unfold I32.gcdx C14.FF.gcdx
  simp only [xgcdLoop_eq]

attribute [gen_simp] mapR_bind mapR_ite mapR_ok mapR_panic mapR_err bind_assoc' ite_bind assert_true assert_false
  add_eq sub_eq mul_eq neg_eq gcdx_eq I32.is_zero I32.is_one FF.Zero.is_zero FF.One.is_one
  C14.FF.isZero C14.FF.isOne C14.FF.isUnit

end Yuiv.GenF
