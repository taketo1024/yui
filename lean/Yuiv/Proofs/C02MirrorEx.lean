import Yuiv.Proofs.C02MirrorCells
import Yuiv.Proofs.C04InvEx
import Yuiv.Proofs.C06WalkOrder
/-
C02Mirror — concrete data for the non-vacuity `example`s of `Props/C02Mirror.lean`: trefoil and Hopf link.
`KhRef.edgeLabels` sorts with `Array.qsort` (well-founded recursion, not kernel-reducible); its value on a diagram is
the increasing list of the labels (`C06Walk.edgeLabels_eq_of_perm`).  The circle lists of all states then follow by
`decide +kernel` (`mkCube_trefoil`, `mkCube_hopf`); the facts about the cubes are evaluated on these literal cubes.
-/
namespace Yuiv.C02Mirror.Ex
open Yuiv Yuiv.KhRef Yuiv.C04Inv Yuiv.C02Mirror

/-- `mkCube` (unreduced) with the label array as a parameter -/
def cubeWith (l : Link) (labels : Array Nat) : Cube :=
  { n := crossingNum l, circ := (Array.range (2 ^ crossingNum l)).map (fun s => circles l labels s), base := none }

theorem mkCube_eq_cubeWith (l : Link) (p : Params) (hp : p.reduced = false) :
    mkCube l p = cubeWith l (edgeLabels l) := by
  unfold mkCube cubeWith
  simp [hp]

theorem edgeLabels_trefoil : edgeLabels trefoil = #[1, 2, 3, 4, 5, 6] :=
  C06Walk.edgeLabels_eq_of_perm trefoil [1, 2, 3, 4, 5, 6] (by decide) (by decide +kernel)

theorem edgeLabels_hopf : edgeLabels hopf = #[1, 2, 3, 4] :=
  C06Walk.edgeLabels_eq_of_perm hopf [1, 2, 3, 4] (by decide) (by decide +kernel)

theorem edgeLabels_mirror_trefoil : edgeLabels (mirror trefoil) = #[1, 2, 3, 4, 5, 6] := by
  rw [edgeLabels_mirror, edgeLabels_trefoil]

instance (c : Cube) : Decidable (cubeOK c) := by unfold cubeOK; infer_instance
instance (c : Cube) (g : Gen) : Decidable (IsGen c g) := by unfold IsGen; infer_instance

/-- Frobenius parameters of Khovanov homology proper -/
def p0 : Params := ⟨0, 0, false⟩

theorem cube_eq {c : Cube} {n : Nat} {circ : Array (Array (Array Nat))} {base : Option Nat}
    (h1 : c.n = n) (h2 : c.circ = circ) (h3 : c.base = base) : c = ⟨n, circ, base⟩ := by
  cases c; cases h1; cases h2; cases h3; rfl

/-- the circles of the eight states of the trefoil -/
theorem mkCube_trefoil : mkCube trefoil p0 =
    ⟨3, #[#[#[1, 4], #[2, 5], #[3, 6]], #[#[1, 2, 4, 5], #[3, 6]], #[#[1, 3, 4, 6], #[2, 5]], #[#[1, 2, 3, 4, 5, 6]],
      #[#[1, 4], #[2, 3, 5, 6]], #[#[1, 2, 3, 4, 5, 6]], #[#[1, 2, 3, 4, 5, 6]], #[#[1, 3, 5], #[2, 4, 6]]], none⟩ := by
  rw [mkCube_eq_cubeWith _ _ rfl, edgeLabels_trefoil]
  exact cube_eq (by decide +kernel) (by decide +kernel) rfl

/-- the circles of the four states of the Hopf link -/
theorem mkCube_hopf : mkCube hopf p0 =
    ⟨2, #[#[#[1, 4], #[2, 3]], #[#[1, 2, 3, 4]], #[#[1, 2, 3, 4]], #[#[1, 3], #[2, 4]]], none⟩ := by
  rw [mkCube_eq_cubeWith _ _ rfl, edgeLabels_hopf]
  exact cube_eq (by decide +kernel) (by decide +kernel) rfl

theorem trefoil_ok : cubeOK (mkCube trefoil p0) := by
  rw [mkCube_trefoil]
  decide +kernel

theorem hopf_ok : cubeOK (mkCube hopf p0) := by
  rw [mkCube_hopf]
  decide +kernel

theorem trefoil_labels : (edgeLabels trefoil).size ≤ 64 := by rw [edgeLabels_trefoil]; decide
theorem hopf_labels : (edgeLabels hopf).size ≤ 64 := by rw [edgeLabels_hopf]; decide


/-! ### the ℤ/2 of the trefoil: bidegrees `(−3,−7) → (−2,−7)` of the left-handed trefoil (`n₋ = 3`, `q0 = −6`) -/

/-- the generators of bidegree `(−3,−7)`: state `000` (three circles), two circles labelled `X` -/
def tSrc : Fin 3 → Gen := ![⟨0, 3⟩, ⟨0, 5⟩, ⟨0, 6⟩]
/-- the generators of bidegree `(−2,−7)`: states `001`, `010`, `100` (two circles), both labelled `X` -/
def tTgt : Fin 3 → Gen := ![⟨1, 3⟩, ⟨2, 3⟩, ⟨4, 3⟩]
/-- there is no generator of bidegree `(−4,−7)` -/
def tNil : Fin 0 → Gen := ![]

theorem tSrc_gen : ∀ i, IsGen (mkCube trefoil p0) (tSrc i) := by
  rw [mkCube_trefoil]
  decide +kernel

theorem tTgt_gen : ∀ i, IsGen (mkCube trefoil p0) (tTgt i) := by
  rw [mkCube_trefoil]
  decide +kernel

theorem tSrc_deg : ∀ i, (-3 + (popcount (tSrc i).s 3 : Int) = -3) ∧ (mkCube trefoil p0).qDeg (-6) (tSrc i) = -7 := by
  rw [mkCube_trefoil]
  decide +kernel

theorem tTgt_deg : ∀ i, (-3 + (popcount (tTgt i).s 3 : Int) = -2) ∧ (mkCube trefoil p0).qDeg (-6) (tTgt i) = -7 := by
  rw [mkCube_trefoil]
  decide +kernel

def tB : Matrix (Fin 3) (Fin 3) ℤ := !![0, 1, 1; 1, 0, 1; 1, 1, 0]

theorem tB_eq : dMatrix (mkCube trefoil p0) p0 tSrc tTgt = tB := by
  have h : ∀ i j : Fin 3, dCoef (mkCube trefoil p0) p0 (tSrc i) (tTgt j) = tB j i := by
    rw [mkCube_trefoil]
    decide +kernel
  ext j i
  exact h i j

def tP : Matrix (Fin 3) (Fin 3) ℤ := !![0, 1, 0; 1, 0, 0; 1, 1, -1]
def tQ : Matrix (Fin 3) (Fin 3) ℤ := !![1, 0, -1; 0, 1, -1; 0, 0, 1]

open Yuiv.C03Uct in
/-- Smith form `diag(1, 1, 2)` of the differential `(−3,−7) → (−2,−7)` of the trefoil -/
theorem tB_snf : EquivDiag (dMatrix (mkCube trefoil p0) p0 tSrc tTgt) [1, 1, 2] := by
  rw [tB_eq]
  have hP : tP.det = 1 := by decide +kernel
  have hQ : tQ.det = 1 := by decide +kernel
  exact ⟨by decide, tP, tQ, hP ▸ isUnit_one, hQ ▸ isUnit_one, by decide +kernel⟩

open Yuiv.C03Uct in
theorem tNil_snf : EquivDiag (dMatrix (mkCube trefoil p0) p0 tNil tSrc) [] :=
  ⟨by decide, 1, 1, by simp, by simp, by ext i j; exact j.elim0⟩


/-! ### corner cases: a kink, and a valid but non-planar code -/

/-- the unknot with one kink, `X[1,2,2,1]` -/
def kink : Link := #[⟨.X, #[1, 2, 2, 1]⟩]
/-- a one-crossing code in which every label occurs twice but which is not a planar diagram, `X[1,2,1,2]` -/
def virt : Link := #[⟨.X, #[1, 2, 1, 2]⟩]

theorem edgeLabels_kink : edgeLabels kink = #[1, 2] :=
  C06Walk.edgeLabels_eq_of_perm kink [1, 2] (by decide) (by decide +kernel)

theorem edgeLabels_virt : edgeLabels virt = #[1, 2] :=
  C06Walk.edgeLabels_eq_of_perm virt [1, 2] (by decide) (by decide +kernel)

theorem kink_ok : cubeOK (mkCube kink p0) ∧ (edgeLabels kink).size ≤ 64 := by
  rw [mkCube_eq_cubeWith _ _ rfl, edgeLabels_kink]
  decide +kernel

theorem virt_not_ok : ¬ cubeOK (mkCube virt p0) ∧ (mkCube virt p0).d p0 ⟨0, 0⟩ = none := by
  rw [mkCube_eq_cubeWith _ _ rfl, edgeLabels_virt]
  decide +kernel

end Yuiv.C02Mirror.Ex
