import Yuiv.Proofs.C16Gen
/-
C16 — the hand-written code model `Yuiv/Model/C16.lean` IS the source text of `/repo/yui/src/types/lc/lc.rs` and
`/repo/yui/src/types/poly/{poly,var,var2,h_poly,mdeg,mvar}.rs`.

`Yuiv.GenPoly.*` (file `Yuiv/Gen/PolyFn.lean`) is regenerated from the seven Rust sources by
`tools/rs2lean_fn.py fn:poly` (renderer `tools/rs2lean_poly.py`) on every `./check` run; the meaning of the hash-map
and iterator primitives is `Yuiv/Model/RustMap.lean`.  Each theorem states, for ALL arguments and every coefficient
type `R` (any type with `0 1 + - * neg` and decidable equality), every generator / monomial type `X` and every
exponent type `I`, that a generated definition equals the model's function:

* `Lc<X, R>` is the generated structure `LcS X R` (`data : AMap X R`, `r_zero : R`); the model works on `data`; the
  results keep `r_zero` (`Lc::new` sets it to `0`); `coeff` / `const_term` need `r_zero = 0` (hypothesis);
* the functions that go through `add_pair` are `Res`-valued in the generated code (`get_mut(..).unwrap()`); the
  theorems show that they never panic: the result is `.ok` of the model's value;
* `PolyBase<X, R>` is `PolyBaseS X R` (`data : LcS X R`, `zero : X × R`), compared through `polyData`;
* `MultiDeg<I>` is `MultiDegS I` (`data : BMap Nat I`, the `BTreeMap` as its key-sorted entry list; `_zero_ : I`): `+=`
  needs the `BTreeMap` invariant `keysSorted` of the left operand, `Index` / `cmp_lex` / `cmp_grlex` need `_zero = 0`;
  `MultiVar` through `toMVar`;
* `Var`, `Var2`, `HPoly` through `toVar`, `toVar2`, `toH`; `HPoly::sub_assign` uses `R`'s subtraction, the model `+ (-·)`:
  the theorem assumes `a - b = a + -b`.
-/
namespace Yuiv.GenP
open Yuiv Res Yuiv.Rust Yuiv.GenPoly

section Lc
variable {X Y R S : Type} [DecidableEq X] [DecidableEq Y] [DecidableEq R] [Zero R] [One R] [Add R] [Sub R] [Neg R] [Mul R]
  [DecidableEq S] [Zero S] [One S] [Add S] [Sub S] [Neg S] [Mul S]

/-! ### `Lc<X, R>` (lc.rs) -/

theorem gen_lc_new_eq : (Lc.new : LcS X R) = ⟨[], 0⟩ := rfl
theorem gen_lc_zero_eq : (Lc.Zero.zero : LcS X R) = ⟨[], 0⟩ := rfl
theorem gen_lc_is_zero_eq (s : LcS X R) : Lc.Zero.is_zero s = C16.isZero s.data := rfl
theorem gen_lc_nterms_eq (s : LcS X R) : Lc.nterms s = C16.nterms s.data := rfl
theorem gen_lc_clean_eq (s : LcS X R) : Lc.clean s = ⟨C16.clean s.data, s.r_zero⟩ := rfl

theorem gen_lc_coeff_eq (s : LcS X R) (x : X) (h : s.r_zero = 0) : Lc.coeff s x = C16.coeff s.data x := by
  unfold Lc.coeff; rw [h]; exact getD_eq_coeff s.data x

theorem gen_lc_is_gen_eq (s : LcS X R) : Lc.is_gen s = .ok (C16.isGen s.data) := by
  obtain ⟨l, z⟩ := s
  match l with
  | [] => rfl
  | [p] => rfl
  | p :: q :: t => simp [Lc.is_gen, Lc.nterms, AMap.len, C16.isGen]

theorem gen_lc_add_pair_eq (s : LcS X R) (p : X × R) : Lc.add_pair s p = .ok ⟨C16.addPair s.data p, s.r_zero⟩ :=
  add_pair_eq s p

theorem gen_lc_add_pair_ref_eq (s : LcS X R) (p : X × R) :
    Lc.add_pair_ref s p = .ok ⟨C16.addPair s.data p, s.r_zero⟩ := gen_lc_add_pair_eq s p

theorem gen_lc_from_iter_eq (it : List (X × R)) :
    Lc.FromIterator_X_R.from_iter it = .ok ⟨C16.fromIter it, 0⟩ := by
  unfold Lc.FromIterator_X_R.from_iter
  dsimp only
  rw [forM_add_pair]
  rfl

theorem gen_lc_from_pair_eq (v : X × R) : Lc.From_X_R.from_ v = .ok ⟨C16.fromIter [v], 0⟩ := gen_lc_from_iter_eq [v]

theorem gen_lc_from_gen_eq (x : X) : (Lc.From_X.from_ x : Res (LcS X R)) = .ok ⟨C16.fromIter [(x, 1)], 0⟩ :=
  gen_lc_from_iter_eq [(x, 1)]

theorem gen_lc_add_assign_eq (a b : LcS X R) :
    Lc.AddAssign_Lc_X_R.add_assign a b = .ok ⟨C16.addAssign a.data b.data, a.r_zero⟩ := by
  unfold Lc.AddAssign_Lc_X_R.add_assign
  dsimp only
  rw [add_pair_ref_eq, forM_add_pair]
  rfl

theorem gen_lc_sub_assign_eq (a b : LcS X R) :
    Lc.SubAssign_Lc_X_R.sub_assign a b = .ok ⟨C16.subAssign a.data b.data, a.r_zero⟩ := by
  unfold Lc.SubAssign_Lc_X_R.sub_assign
  dsimp only
  rw [add_pair_ref_eq, forM_add_pair]
  rfl

theorem gen_lc_mul_assign_scalar_eq (a : LcS X R) (r : R) :
    Lc.MulAssign_R.mul_assign a r = ⟨C16.smul a.data r, a.r_zero⟩ := by
  unfold Lc.MulAssign_R.mul_assign C16.smul
  by_cases h : r = 1
  · simp [h]
  · simp only [h, decide_false, if_false, Bool.false_eq_true]; rfl

theorem gen_lc_map_eq (a : LcS X R) (f : X → R → Y × S) :
    Lc.map a f = .ok ⟨C16.fromIter (a.data.map (fun p => f p.1 p.2)), 0⟩ := gen_lc_from_iter_eq _

theorem gen_lc_into_map_eq (a : LcS X R) (f : X → R → Y × S) :
    Lc.into_map a f = .ok ⟨C16.fromIter (a.data.map (fun p => f p.1 p.2)), 0⟩ := gen_lc_from_iter_eq _

theorem gen_lc_map_coeffs_eq (a : LcS X R) (f : R → S) : Lc.map_coeffs a f = .ok ⟨C16.mapCoeffs f a.data, 0⟩ :=
  gen_lc_from_iter_eq _

theorem gen_lc_map_gens_eq (a : LcS X R) (f : X → Y) : Lc.map_gens a f = .ok ⟨C16.mapGens f a.data, 0⟩ :=
  gen_lc_from_iter_eq _

theorem gen_lc_filter_gens_eq (a : LcS X R) (f : X → Bool) :
    Lc.filter_gens a f = .ok ⟨C16.filterGens f a.data, 0⟩ := by
  unfold Lc.filter_gens C16.filterGens
  rw [gen_lc_from_iter_eq]
  have h : (fun p : X × R => if f p.1 then some (p.1, p.2) else none) = (fun p => if f p.1 = true then some p else none) := rfl
  simp only [Lc.iter, AMap.iter]
  rw [h, ListAux.filterMap_ite (fun p : X × R => f p.1) (fun p => p), List.map_id']

theorem gen_lc_neg_eq (a : LcS X R) : Lc.Neg.neg a = .ok ⟨C16.neg a.data, 0⟩ := gen_lc_from_iter_eq _
theorem gen_lc_neg_ref_eq (a : LcS X R) : Lc.Neg_ref.neg a = .ok ⟨C16.neg a.data, 0⟩ := gen_lc_from_iter_eq _

theorem gen_lc_apply_eq (a : LcS X R) (f : X → LcS X R) :
    Lc.apply a f = .ok ⟨C16.apply (fun x => (f x).data) a.data, 0⟩ := gen_lc_from_iter_eq _

theorem gen_lc_combine_eq (a b : LcS X R) (f : X → X → X) :
    Lc.combine a b f = .ok ⟨C16.combine f a.data b.data, 0⟩ := by
  unfold Lc.combine
  dsimp only
  simp only [forM_add_pair]
  rw [Poly.forM_ok (g := fun (s : LcS X R) (p : X × R) =>
        (⟨(Lc.iter b).foldl (fun acc q => C16.addPair acc (f p.1 q.1, p.2 * q.2)) s.data, s.r_zero⟩ : LcS X R))
        (fun p _ s => rfl),
      foldl_data (fun l (p : X × R) => (Lc.iter b).foldl (fun acc q => C16.addPair acc (f p.1 q.1, p.2 * q.2)) l)]
  simp only [Res.bind, Lc.iter, AMap.iter, gen_lc_zero_eq, foldl_pairs, gen_lc_clean_eq]
  rfl

theorem gen_lc_mul_eq [Mul X] (a b : LcS X R) : Lc.Mul_ref.mul a b = .ok ⟨C16.mul a.data b.data, 0⟩ :=
  gen_lc_combine_eq a b _

end Lc

section Poly
variable {X R : Type} [DecidableEq X] [Mul X] [One X] [MonoOrd X] [DecidableEq R] [Zero R] [One R] [Add R] [Sub R] [Neg R] [Mul R]

/-! ### `PolyBase<X, R>` (poly.rs) -/

theorem gen_poly_new_eq (d : LcS X R) : PolyBase.new d = ⟨d, (1, 0)⟩ := rfl
theorem gen_poly_from_lc_eq (d : LcS X R) : PolyBase.From_Lc_X_R.from_ d = ⟨d, (1, 0)⟩ := rfl
theorem gen_poly_zero_eq : (PolyBase.Zero.zero : PolyBaseS X R) = ⟨⟨[], 0⟩, (1, 0)⟩ := rfl
theorem gen_poly_is_zero_eq (p : PolyBaseS X R) : PolyBase.Zero.is_zero p = C16.isZero (polyData p) := rfl

theorem gen_poly_from_pair_eq (v : X × R) :
    PolyBase.From_X_R.from_ v = .ok ⟨⟨C16.fromIter [v], 0⟩, (1, 0)⟩ := by
  simp only [PolyBase.From_X_R.from_, gen_lc_from_pair_eq, Res.bind]; rfl

theorem gen_poly_from_iter_eq (it : List (X × R)) :
    PolyBase.FromIterator_X_R.from_iter it = .ok ⟨⟨C16.fromIter it, 0⟩, (1, 0)⟩ := by
  simp only [PolyBase.FromIterator_X_R.from_iter, gen_lc_from_iter_eq, Res.bind]; rfl

theorem gen_poly_from_const_eq (r : R) :
    (PolyBase.from_const r : Res (PolyBaseS X R)) = .ok ⟨⟨C16.fromConst r, 0⟩, (1, 0)⟩ := gen_poly_from_pair_eq _

theorem gen_poly_one_eq : (PolyBase.One.one : Res (PolyBaseS X R)) = .ok ⟨⟨C16.fromConst 1, 0⟩, (1, 0)⟩ :=
  gen_poly_from_pair_eq _

theorem gen_poly_is_const_eq (p : PolyBaseS X R) : PolyBase.is_const p = C16.isConst (polyData p) := rfl

theorem gen_poly_const_term_eq (p : PolyBaseS X R) (h : p.data.r_zero = 0) :
    PolyBase.const_term p = C16.constTerm (polyData p) := gen_lc_coeff_eq p.data 1 h

theorem gen_poly_is_one_eq (p : PolyBaseS X R) (h : p.data.r_zero = 0) :
    PolyBase.One.is_one p = C16.isOne (polyData p) := by
  simp only [PolyBase.One.is_one, C16.isOne, gen_poly_is_const_eq, gen_poly_const_term_eq p h]

/-- `lead_term`: the last `cmp_grlex`-maximal term, `self.zero` for the zero polynomial -/
theorem gen_poly_lead_term_eq (p : PolyBaseS X R) :
    PolyBase.lead_term p = (C16.maxBy MonoOrd.cmp_grlex (polyData p)).getD p.zero := by
  unfold PolyBase.lead_term
  rw [show (Lc.iter p.data) = polyData p from rfl, max_by_eq]

theorem gen_poly_lead_term_model (p : PolyBaseS X R) (h : p.zero = (1, 0)) :
    PolyBase.lead_term p = C16.leadTerm MonoOrd.cmp_grlex (polyData p) := by
  rw [gen_poly_lead_term_eq, h]; rfl

theorem gen_poly_neg_eq (p : PolyBaseS X R) :
    PolyBase.Neg.neg p = .ok ⟨⟨C16.neg (polyData p), 0⟩, (1, 0)⟩ := by
  simp only [PolyBase.Neg.neg, gen_lc_neg_eq, Res.bind]; rfl

theorem gen_poly_neg_ref_eq (p : PolyBaseS X R) :
    PolyBase.Neg_ref.neg p = .ok ⟨⟨C16.neg (polyData p), 0⟩, (1, 0)⟩ := by
  simp only [PolyBase.Neg_ref.neg, gen_lc_neg_ref_eq, Res.bind]; rfl

theorem gen_poly_add_assign_eq (a b : PolyBaseS X R) :
    PolyBase.AddAssign_PolyBase_X_R.add_assign a b
      = .ok ⟨⟨C16.addAssign (polyData a) (polyData b), a.data.r_zero⟩, a.zero⟩ := by
  simp only [PolyBase.AddAssign_PolyBase_X_R.add_assign, gen_lc_add_assign_eq, Res.bind]; rfl

theorem gen_poly_sub_assign_eq (a b : PolyBaseS X R) :
    PolyBase.SubAssign_PolyBase_X_R.sub_assign a b
      = .ok ⟨⟨C16.subAssign (polyData a) (polyData b), a.data.r_zero⟩, a.zero⟩ := by
  simp only [PolyBase.SubAssign_PolyBase_X_R.sub_assign, gen_lc_sub_assign_eq, Res.bind]; rfl

theorem gen_poly_mul_assign_scalar_eq (a : PolyBaseS X R) (r : R) :
    PolyBase.MulAssign_R.mul_assign a r = ⟨⟨C16.smul (polyData a) r, a.data.r_zero⟩, a.zero⟩ := by
  simp only [PolyBase.MulAssign_R.mul_assign, gen_lc_mul_assign_scalar_eq]; rfl

/-- `*=` between polynomials with its three fast paths (`rhs = 1`, `rhs` constant, `self` constant) -/
theorem gen_poly_mul_assign_eq (a b : PolyBaseS X R) (ha : a.data.r_zero = 0) (hb : b.data.r_zero = 0) :
    mapR polyData (PolyBase.MulAssign_PolyBase_X_R.mul_assign a b) = .ok (C16.mulAssign (polyData a) (polyData b)) := by
  unfold PolyBase.MulAssign_PolyBase_X_R.mul_assign C16.mulAssign
  simp only [gen_poly_is_one_eq b hb, gen_poly_is_const_eq, gen_poly_const_term_eq b hb, gen_poly_const_term_eq a ha,
    apply_ite (mapR polyData), apply_ite Res.ok, gen_poly_mul_assign_scalar_eq, gen_lc_mul_eq, Res.bind, mapR_ok]
  rfl

/-- the `r_zero` field is kept by `*=` -/
theorem gen_poly_mul_assign_rzero (a b : PolyBaseS X R) (ha : a.data.r_zero = 0) (hb : b.data.r_zero = 0) :
    mapR (fun p => p.data.r_zero) (PolyBase.MulAssign_PolyBase_X_R.mul_assign a b) = .ok 0 := by
  unfold PolyBase.MulAssign_PolyBase_X_R.mul_assign
  simp only [apply_ite (mapR fun p : PolyBaseS X R => p.data.r_zero), gen_poly_mul_assign_scalar_eq, gen_lc_mul_eq,
    Res.bind, mapR_ok, ha, hb, ite_self]

end Poly

section Mono
variable {I : Type} [DecidableEq I] [Zero I] [Add I] [LT I] [DecidableLT I]

/-! ### `Var<X, I>`, `Var2<X, Y, I>` (var.rs, var2.rs) -/

theorem gen_var_mul_assign_eq (a b : VarS I) : toVar (Var.MulAssign_Var_X_I.mul_assign a b) = toVar a * toVar b := rfl
theorem gen_var_one_eq : toVar (Var.One.one : VarS I) = 1 := rfl
theorem gen_var_cmp_lex_eq (a b : VarS I) : Var.MonoOrd.cmp_lex a b = C16.Var.cmpLex (toVar a) (toVar b) := rfl
theorem gen_var_cmp_grlex_eq (a b : VarS I) : Var.MonoOrd.cmp_grlex a b = C16.Var.cmpGrlex (toVar a) (toVar b) := rfl

theorem gen_var2_total_deg_eq (a : Var2S I) : Var2.total_deg a = (toVar2 a).total := rfl
theorem gen_var2_mul_assign_eq (a b : Var2S I) :
    toVar2 (Var2.MulAssign_Var2_X_Y_I.mul_assign a b) = toVar2 a * toVar2 b := rfl
theorem gen_var2_one_eq : toVar2 (Var2.One.one : Var2S I) = 1 := rfl
theorem gen_var2_from_eq (d : I × I) : toVar2 (Var2.From_I_I.from_ d) = ⟨d.1, d.2⟩ := rfl
theorem gen_var2_cmp_lex_eq (a b : Var2S I) : Var2.MonoOrd.cmp_lex a b = C16.Var2.cmpLex (toVar2 a) (toVar2 b) := rfl
theorem gen_var2_cmp_grlex_eq (a b : Var2S I) :
    Var2.MonoOrd.cmp_grlex a b = C16.Var2.cmpGrlex (toVar2 a) (toVar2 b) := rfl

end Mono

section HPoly
variable {R : Type} [DecidableEq R] [Zero R] [One R] [Add R] [Sub R] [Neg R] [Mul R]

/-! ### `HPoly<X, R>` (h_poly.rs) -/

theorem gen_hpoly_new_eq (d : Nat) (c : R) : toH (HPoly.new d c) = ⟨d, c⟩ := rfl
theorem gen_hpoly_zero_eq : toH (HPoly.Zero.zero : HPolyS R) = ⟨0, 0⟩ := rfl
theorem gen_hpoly_one_eq : toH (HPoly.One.one : HPolyS R) = ⟨0, 1⟩ := rfl
theorem gen_hpoly_is_zero_eq (a : HPolyS R) : HPoly.Zero.is_zero a = (toH a).isZero := rfl
theorem gen_hpoly_is_one_eq (a : HPolyS R) : HPoly.One.is_one a = (toH a).isOne := by
  by_cases h : a.deg = 0 <;> simp [HPoly.One.is_one, C16.HPoly.isOne, toH, h]

theorem gen_hpoly_eq_eq (a b : HPolyS R) : HPoly.PartialEq.eq a b = (toH a).eqv (toH b) := by
  unfold HPoly.PartialEq.eq C16.HPoly.eqv toH
  by_cases h1 : a.coeff = 0 <;> by_cases h2 : b.coeff = 0 <;> simp [h1, h2, Bool.beq_eq_decide_eq]

theorem gen_hpoly_neg_eq (a : HPolyS R) : toH (HPoly.Neg.neg a) = (toH a).neg := rfl
theorem gen_hpoly_neg_ref_eq (a : HPolyS R) : toH (HPoly.Neg_ref.neg a) = (toH a).neg := rfl

theorem gen_hpoly_add_assign_eq (a b : HPolyS R) :
    mapR toH (HPoly.AddAssign_HPoly_X_R.add_assign a b) = (toH a).add (toH b) := by
  unfold HPoly.AddAssign_HPoly_X_R.add_assign C16.HPoly.add
  simp only [gen_hpoly_is_zero_eq, apply_ite (mapR toH), decide_eq_true_eq]
  rfl

/-- `-=`: the code subtracts in `R`, the model adds the negative -/
theorem gen_hpoly_sub_assign_eq (hsub : ∀ x y : R, x - y = x + -y) (a b : HPolyS R) :
    mapR toH (HPoly.SubAssign_HPoly_X_R.sub_assign a b) = (toH a).sub (toH b) := by
  unfold HPoly.SubAssign_HPoly_X_R.sub_assign C16.HPoly.sub
  simp only [gen_hpoly_is_zero_eq, apply_ite (mapR toH), decide_eq_true_eq, hsub]
  rfl

theorem gen_hpoly_mul_assign_scalar_eq (a : HPolyS R) (r : R) :
    toH (HPoly.MulAssign_R.mul_assign a r) = (toH a).smul r := by
  unfold HPoly.MulAssign_R.mul_assign C16.HPoly.smul
  by_cases h : r = 1 <;> simp [h, toH]

theorem gen_hpoly_mul_assign_eq (a b : HPolyS R) :
    toH (HPoly.MulAssign_HPoly_X_R.mul_assign a b) = (toH a).mul (toH b) := by
  unfold HPoly.MulAssign_HPoly_X_R.mul_assign C16.HPoly.mul
  rw [gen_hpoly_is_one_eq]
  split <;> rfl

end HPoly

section MDeg
variable {I : Type} [DecidableEq I] [Zero I] [Add I] [LT I] [DecidableLT I]

/-! ### `MultiDeg<I>` (mdeg.rs); `BTreeMap` = key-sorted entry list (`keysSorted`, the invariant of a `BTreeMap`) -/

theorem gen_mdeg_new_reduced_eq (d : BMap Nat I) : MultiDeg.new_reduced d = ⟨d, 0⟩ := rfl
theorem gen_mdeg_empty_eq : (MultiDeg.empty : MultiDegS I) = ⟨[], 0⟩ := rfl
theorem gen_mdeg_zero_eq : (MultiDeg.Zero.zero : MultiDegS I) = ⟨[], 0⟩ := rfl
theorem gen_mdeg_is_zero_eq (s : MultiDegS I) : MultiDeg.Zero.is_zero s = s.data.isEmpty := rfl
theorem gen_mdeg_reduce_eq (s : MultiDegS I) : MultiDeg.reduce s = ⟨C16.mdReduce s.data, s._zero_⟩ := rfl

theorem gen_mdeg_index_eq (s : MultiDegS I) (i : Nat) (h : s._zero_ = 0) :
    MultiDeg.Index_usize.index s i = C16.mdGet s.data i := by
  unfold MultiDeg.Index_usize.index; rw [h]; exact bget_eq_mdGet s.data i

theorem gen_mdeg_total_eq (s : MultiDegS I) : MultiDeg.total s = C16.mdTotal s.data := by
  simp only [MultiDeg.total, C16.mdTotal, BMap.iter, List.foldl_map]

theorem gen_mdeg_min_index_eq (s : MultiDegS I) : MultiDeg.min_index s = C16.mdMinIndex s.data := by
  unfold MultiDeg.min_index MultiDeg.indices BMap.keys
  cases s.data with
  | nil => rfl
  | cons p t => simp only [List.map_cons, Poly.min, C16.mdMinIndex, List.foldl_map]
theorem gen_mdeg_max_index_eq (s : MultiDegS I) : MultiDeg.max_index s = C16.mdMaxIndex s.data := by
  unfold MultiDeg.max_index MultiDeg.indices BMap.keys
  cases s.data with
  | nil => rfl
  | cons p t => simp only [List.map_cons, Poly.max, C16.mdMaxIndex, List.foldl_map]

/-- `+=` of multidegrees (the product of `MultiVar` monomials): one `mdUpd` walk per entry of `rhs`, then `reduce`;
never panics -/
theorem gen_mdeg_add_assign_eq (a b : MultiDegS I) (hs : keysSorted a.data) :
    MultiDeg.AddAssign_MultiDeg_I.add_assign a b = .ok ⟨C16.mdAdd a.data b.data, a._zero_⟩ := by
  unfold MultiDeg.AddAssign_MultiDeg_I.add_assign
  dsimp only
  have body : ∀ (s : MultiDegS I) (x : Nat × I), keysSorted s.data →
      (if (!BMap.contains_key s.data x.1) = true then
        Res.bind (Opt.unwrap (BMap.get (BMap.insert s.data x.1 (0 : I)) x.1)) (fun d_i =>
          Res.ok ({ ({ s with data := BMap.insert s.data x.1 (0 : I) } : MultiDegS I) with
            data := BMap.set (BMap.insert s.data x.1 (0 : I)) x.1 (d_i + x.2) } : MultiDegS I))
      else
        Res.bind (Opt.unwrap (BMap.get s.data x.1)) (fun d_i =>
          Res.ok ({ s with data := BMap.set s.data x.1 (d_i + x.2) } : MultiDegS I)))
      = .ok (⟨C16.mdUpd (· + ·) s.data x.1 x.2, s._zero_⟩ : MultiDegS I) ∧
        keysSorted (C16.mdUpd (· + ·) s.data x.1 x.2) := by
    intro s x hsd
    refine ⟨?_, keysSorted_mdUpd _ _ hsd _ _⟩
    by_cases hc : BMap.contains_key s.data x.1 = true
    · obtain ⟨v, hv, hset⟩ := bset_present (· + ·) s.data hsd x.1 x.2 hc
      simp only [hc, Bool.not_true, Bool.false_eq_true, if_false, hv, Opt.unwrap, Res.bind, hset]
    · have hc' : BMap.contains_key s.data x.1 = false := by simpa using hc
      obtain ⟨hv, hset⟩ := bset_insert_absent (· + ·) s.data x.1 x.2 hc'
      simp only [hc', Bool.not_false, if_true, hv, Opt.unwrap, Res.bind, hset]
  have := Poly.forM_ok_inv (xs := BMap.iter b.data)
    (g := fun (s : MultiDegS I) (x : Nat × I) => (⟨C16.mdUpd (· + ·) s.data x.1 x.2, s._zero_⟩ : MultiDegS I))
    (fun s : MultiDegS I => keysSorted s.data) (fun x _ s hsd => body s x hsd) hs
  rw [this.1, foldl_mdata (fun l (x : Nat × I) => C16.mdUpd (· + ·) l x.1 x.2)]
  rfl

theorem gen_mdeg_cmp_lex_eq (a b : MultiDegS I) (ha : a._zero_ = 0) (hb : b._zero_ = 0) :
    MultiDeg.MonoOrd.cmp_lex a b = C16.mdCmpLex a.data b.data := by
  unfold MultiDeg.MonoOrd.cmp_lex C16.mdCmpLex
  simp only [gen_mdeg_min_index_eq, gen_mdeg_max_index_eq, gen_mdeg_index_eq a _ ha, gen_mdeg_index_eq b _ hb, Poly.range_incl]
  rfl

theorem gen_mdeg_cmp_grlex_eq (a b : MultiDegS I) (ha : a._zero_ = 0) (hb : b._zero_ = 0) :
    MultiDeg.MonoOrd.cmp_grlex a b = C16.mdCmpGrlex a.data b.data := by
  simp only [MultiDeg.MonoOrd.cmp_grlex, C16.mdCmpGrlex, gen_mdeg_total_eq, gen_mdeg_cmp_lex_eq a b ha hb]
  rfl

end MDeg

section MVar
variable {I : Type} [DecidableEq I] [Zero I] [Add I] [LT I] [DecidableLT I]

/-! ### `MultiVar<X, I>` (mvar.rs) -/

theorem gen_mvar_from_eq (d : MultiDegS I) : toMVar (MultiVar.From_MultiDeg_I.from_ d) = ⟨d.data⟩ := rfl
theorem gen_mvar_one_eq : toMVar (MultiVar.One.one : MultiVarS I) = 1 := rfl

theorem gen_mvar_mul_assign_eq (a b : MultiVarS I) (hs : keysSorted a.f0.data) :
    mapR toMVar (MultiVar.MulAssign_MultiVar_X_I.mul_assign a b) = .ok (toMVar a * toMVar b) := by
  simp only [MultiVar.MulAssign_MultiVar_X_I.mul_assign, gen_mdeg_add_assign_eq a.f0 b.f0 hs, Res.bind, mapR_ok]
  rfl

theorem gen_mvar_deg_for_eq (a : MultiVarS I) (i : Nat) (h : a.f0._zero_ = 0) :
    MultiVar.deg_for a i = C16.mdGet (toMVar a).d i := gen_mdeg_index_eq a.f0 i h

theorem gen_mvar_total_deg_eq (a : MultiVarS I) : MultiVar.total_deg a = C16.mdTotal (toMVar a).d := gen_mdeg_total_eq a.f0

theorem gen_mvar_cmp_lex_eq (a b : MultiVarS I) (ha : a.f0._zero_ = 0) (hb : b.f0._zero_ = 0) :
    MultiVar.MonoOrd.cmp_lex a b = C16.MVar.cmpLex (toMVar a) (toMVar b) := gen_mdeg_cmp_lex_eq a.f0 b.f0 ha hb

theorem gen_mvar_cmp_grlex_eq (a b : MultiVarS I) (ha : a.f0._zero_ = 0) (hb : b.f0._zero_ = 0) :
    MultiVar.MonoOrd.cmp_grlex a b = C16.MVar.cmpGrlex (toMVar a) (toMVar b) := gen_mdeg_cmp_grlex_eq a.f0 b.f0 ha hb

end MVar

/-! ### non-vacuity: the hypotheses `r_zero = 0` hold for everything the constructors return -/
example : (Lc.new : LcS Nat Int).r_zero = 0 := rfl
example : Lc.FromIterator_X_R.from_iter [((1 : Nat), (2 : Int)), (1, -2), (3, 5)] = .ok ⟨[(3, 5)], 0⟩ := by
  rw [gen_lc_from_iter_eq]; rfl
example : keysSorted [((0 : Nat), (2 : Int)), (3, -1)] := by simp [keysSorted]
example : MultiDeg.AddAssign_MultiDeg_I.add_assign ⟨[((0 : Nat), (2 : Int)), (3, -1)], 0⟩ ⟨[(1, 4), (3, 1)], 0⟩
    = .ok ⟨[(0, 2), (1, 4)], 0⟩ := by
  rw [gen_mdeg_add_assign_eq _ _ (by simp [keysSorted])]; rfl

end Yuiv.GenP
