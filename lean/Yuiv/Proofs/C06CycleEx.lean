import Yuiv.Proofs.C06WalkOrder
/-
C06Cycle — example diagrams for the non-vacuity `example`s of `Props/C06Cycle.lean`: the value of `KhRef.edgeLabels`
(`Array.qsort` is defined by well-founded recursion and does not reduce in the kernel; its value is the increasing list
of the labels, `edgeLabels_eq_of_perm`), so that everything else can be decided by kernel evaluation.
-/
namespace Yuiv.C06Cycle
open Yuiv Yuiv.KhRef Yuiv.C04Inv

def trefoilX : Link := #[⟨.X, #[1, 4, 2, 5]⟩, ⟨.X, #[3, 6, 4, 1]⟩, ⟨.X, #[5, 2, 6, 3]⟩]
def trefoilM : Link := #[⟨.Xm, #[1, 4, 2, 5]⟩, ⟨.Xm, #[3, 6, 4, 1]⟩, ⟨.Xm, #[5, 2, 6, 3]⟩]
def hopfX : Link := #[⟨.X, #[4, 1, 3, 2]⟩, ⟨.X, #[2, 3, 1, 4]⟩]
def hopfM : Link := #[⟨.Xm, #[4, 1, 3, 2]⟩, ⟨.Xm, #[2, 3, 1, 4]⟩]
def freeX : Link := #[⟨.X, #[1, 2, 3, 4]⟩]

theorem edgeLabels_trefoilM : edgeLabels trefoilM = #[1, 2, 3, 4, 5, 6] :=
  C06Walk.edgeLabels_eq_of_perm trefoilM [1, 2, 3, 4, 5, 6] (by decide) (by decide +kernel)

theorem edgeLabels_trefoilX : edgeLabels trefoilX = #[1, 2, 3, 4, 5, 6] :=
  C06Walk.edgeLabels_eq_of_perm trefoilX [1, 2, 3, 4, 5, 6] (by decide) (by decide +kernel)

theorem edgeLabels_hopfM : edgeLabels hopfM = #[1, 2, 3, 4] :=
  C06Walk.edgeLabels_eq_of_perm hopfM [1, 2, 3, 4] (by decide) (by decide +kernel)

theorem edgeLabels_hopfX : edgeLabels hopfX = #[1, 2, 3, 4] :=
  C06Walk.edgeLabels_eq_of_perm hopfX [1, 2, 3, 4] (by decide) (by decide +kernel)

theorem edgeLabels_free : edgeLabels freeX = #[1, 2, 3, 4] :=
  C06Walk.edgeLabels_eq_of_perm freeX [1, 2, 3, 4] (by decide) (by decide +kernel)

end Yuiv.C06Cycle
