import Yuiv.Model.C06Canon
import Yuiv.Proofs.C06
import Yuiv.Proofs.C01
import Mathlib.Tactic.Ring
/- For `Props/C06Canon`: `expand` has the product formula `coefSpec` as coefficients (through the recursive sum
`sumAt`); the product `coefList` splits off the factor of one position; the loop `bfs` terminates, and what every round
keeps holds of its result (`bfs_ind`): the invariant `Inv`, and `Follows` for every proper 2-colouring of the adjacency. -/
namespace Yuiv.C06Canon
open Yuiv Yuiv.KhRef

/-- recursive form of `coefAt` -/
def sumAt (m : Nat) : List (Nat × Int) → Int
  | [] => 0
  | t :: ts => (if t.1 = m then t.2 else 0) + sumAt m ts

theorem coefAt_foldl (m : Nat) (ts : List (Nat × Int)) (acc : Int) :
    (ts.filter (fun t => t.1 == m)).foldl (fun acc t => acc + t.2) acc = acc + sumAt m ts := by
  induction ts generalizing acc with
  | nil => simp [sumAt]
  | cons t ts ih =>
    by_cases ht : t.1 = m
    · simp [List.filter, ht, sumAt, ih]; ring
    · have : (t.1 == m) = false := by simpa using ht
      simp [List.filter, this, ht, sumAt, ih]

theorem coefAt_eq_sumAt (ts : List (Nat × Int)) (m : Nat) : coefAt ts m = sumAt m ts := by
  unfold coefAt; rw [coefAt_foldl]; simp

theorem sumAt_append (m : Nat) (xs ys : List (Nat × Int)) : sumAt m (xs ++ ys) = sumAt m xs + sumAt m ys := by
  induction xs with
  | nil => simp [sumAt]
  | cons t ts ih => simp [sumAt, ih]; ring

theorem factor_nonzero (h : Int) (c : Colour) : ∀ bk ∈ factor h c, bk.2 ≠ 0 ∧ bk.1 ≤ 1 := by
  intro bk hbk
  cases c with
  | a => simp [factor] at hbk; subst hbk; simp
  | b =>
    by_cases h0 : h = 0
    · simp [factor, h0] at hbk; subst hbk; simp
    · simp [factor, h0] at hbk
      rcases hbk with rfl | rfl
      · simp [h0]
      · simp

theorem sumAt_shift (m0 : Nat) (k0 : Int) (m : Nat) : ∀ L : List (Nat × Int), (∀ bk ∈ L, bk.1 ≤ 1) →
    sumAt m (L.map (fun bk => (2 * m0 + bk.1, bk.2 * k0))) = sumAt (m % 2) L * (if m0 = m / 2 then k0 else 0)
  | [], _ => by simp only [List.map_nil, sumAt, Int.zero_mul]
  | bk :: L, hL => by
    have hb := hL bk List.mem_cons_self
    simp only [List.map_cons, sumAt, sumAt_shift m0 k0 m L (fun b hb => hL b (List.mem_cons_of_mem _ hb)),
      Int.add_mul]
    congr 1
    by_cases h1 : 2 * m0 + bk.1 = m
    · rw [if_pos h1, if_pos (by omega), if_pos (by omega)]
    · rw [if_neg h1]
      by_cases h2 : bk.1 = m % 2
      · rw [if_pos h2, if_neg (by omega), Int.mul_zero]
      · rw [if_neg h2, Int.zero_mul]

theorem sumAt_factor (h : Int) (c : Colour) (b : Nat) (hb : b ≤ 1) : sumAt b (factor h c) = colourCoef h c (b == 1) := by
  have : b = 0 ∨ b = 1 := by omega
  rcases this with rfl | rfl <;> cases c <;> simp [factor, colourCoef, sumAt] <;> split <;> simp_all [sumAt]

theorem sumAt_block (h : Int) (c : Colour) (m0 : Nat) (k0 : Int) (m : Nat) :
    sumAt m ((factor h c).map (fun bk => (2 * m0 + bk.1, bk.2 * k0))) =
      colourCoef h c (m % 2 == 1) * (if m0 = m / 2 then k0 else 0) := by
  rw [sumAt_shift m0 k0 m _ (fun bk hbk => (factor_nonzero h c bk hbk).2), sumAt_factor h c _ (by omega)]

theorem sumAt_flatMap (h : Int) (c : Colour) (m : Nat) (L : List (Nat × Int)) :
    sumAt m (L.flatMap (fun mk => (factor h c).map (fun bk => (2 * mk.1 + bk.1, bk.2 * mk.2)))) =
      colourCoef h c (m % 2 == 1) * sumAt (m / 2) L := by
  induction L with
  | nil => simp [sumAt]
  | cons t ts ih =>
    rw [List.flatMap_cons, sumAt_append, ih, sumAt_block]
    simp only [sumAt]
    ring

theorem sumAt_expand (h : Int) (cs : List Colour) (m : Nat) : sumAt m (expand h cs) = coefSpec h cs m := by
  induction cs generalizing m with
  | nil =>
    by_cases hm : m = 0
    · simp [expand, sumAt, coefSpec, hm]
    · have : ¬ (0 = m) := fun e => hm e.symm
      simp [expand, sumAt, coefSpec, hm, this]
  | cons c cs ih =>
    simp only [expand, coefSpec]
    rw [sumAt_flatMap, ih]

theorem factor_sorted (h : Int) (c : Colour) : (factor h c).Pairwise (fun x y => x.1 < y.1) := by
  cases c with
  | a => simp [factor]
  | b => by_cases h0 : h = 0 <;> simp [factor, h0]

/-- the chain of a colour list at the state `s`: what `canonCyclesAt` returns for each cycle -/
def chainOf (s : Nat) (h : Int) (cs : List Colour) : Chain := (expand h cs).map (fun t => (⟨s, t.1⟩, t.2))

theorem canonCyclesAt_cc (l : Link) (signs : List Int) (h : Int) (base : Option Nat) (zs : List Chain)
    (hz : canonCyclesAt l signs h base = .ok zs) :
    zs = [] ∨ ∃ comps start cc, components l = .ok comps ∧ comps.length = 1 ∧
      (match base with | some e => some e | none => firstEdge l) = some start ∧
      coloredSeifertCircles l signs start = .ok cc ∧
      zs = if base.isSome then
          [chainOf (oriPresState signs) h
            (coloursInRefOrder cc (circles l (edgeLabels l) (oriPresState signs)).toList)]
        else
          [chainOf (oriPresState signs) h
            (coloursInRefOrder cc (circles l (edgeLabels l) (oriPresState signs)).toList),
           chainOf (oriPresState signs) h
            ((coloursInRefOrder cc (circles l (edgeLabels l) (oriPresState signs)).toList).map Colour.other)] := by
  unfold canonCyclesAt at hz
  split at hz
  · rename_i comps hc
    split at hz
    · left; cases hz; rfl
    · rename_i hne
      split at hz
      · cases hz
      · split at hz
        · right
          rename_i _ start hstart _ cc hcc
          refine ⟨comps, start, cc, hc, by simpa using hne, hstart, hcc, ?_⟩
          split at hz <;> (cases hz; simp [chainOf, *])
        · cases hz
        · cases hz
  · cases hz
  · cases hz

/-- the colour vectors in the coordinates of `Proofs/C01` (coefficient of 1, coefficient of X) -/
def colourVec (h : Int) : Colour → A
  | .a => X
  | .b => (-h, 1)

theorem colourCoef_eq (h : Int) (c : Colour) (x : Bool) :
    colourCoef h c x = if x then (colourVec h c).2 else (colourVec h c).1 := by
  cases c <;> cases x <;> rfl

theorem mergeColours_eq_mul (h : Int) (c1 c2 : Colour) (y : Bool) :
    mergeColours h c1 c2 y =
      (if y then (mul h 0 (colourVec h c1) (colourVec h c2)).2 else (mul h 0 (colourVec h c1) (colourVec h c2)).1) := by
  simp only [mergeColours, colourCoef_eq, List.foldl, KhRef.mul_eq]
  generalize colourVec h c1 = u
  generalize colourVec h c2 = v
  cases y
  · simp [prodCoef, prod]
  · simp [prodCoef, prod]
    ring

theorem coefList_length (h : Int) : ∀ (cols : List Colour) (xs : List Bool), xs.length ≠ cols.length →
    coefList h cols xs = 0 := by
  intro cols
  induction cols with
  | nil => intro xs hx; cases xs with
    | nil => simp at hx
    | cons x xs => simp [coefList]
  | cons c cs ih =>
    intro xs hx
    cases xs with
    | nil => simp [coefList]
    | cons x xs =>
      have : xs.length ≠ cs.length := by simpa using hx
      simp [coefList, ih xs this]

theorem setAt_eq_set (i : Nat) (b : Bool) (xs : List Bool) : setAt i b xs = xs.set i b := by
  induction xs generalizing i with
  | nil => simp [setAt]
  | cons x xs ih => cases i <;> simp [setAt, ih]

theorem dropAt_eq_eraseIdx (i : Nat) (xs : List Bool) : dropAt i xs = xs.eraseIdx i := by
  induction xs generalizing i with
  | nil => simp [dropAt]
  | cons x xs ih => cases i <;> simp [dropAt, ih]

theorem coefList_set (h : Int) : ∀ (cols : List Colour) (i : Nat) (xs : List Bool) (x : Bool),
    i < cols.length → xs.length = cols.length →
    coefList h cols (xs.set i x) = colourCoef h (cols.getD i .a) x * coefList h (cols.eraseIdx i) (xs.eraseIdx i)
  | c :: cs, 0, _ :: xs, x, _, _ => by
    simp only [List.set_cons_zero, coefList, List.eraseIdx_cons_zero, List.getD_cons_zero]
  | c :: cs, i + 1, x0 :: xs, x, hi, hl => by
    simp only [List.set_cons_succ, coefList, List.eraseIdx_cons_succ, List.getD_cons_succ]
    rw [coefList_set h cs i xs x (by simpa using hi) (by simpa using hl)]
    ring

/-- the hash-set iteration order: at every step some permutation of the current content -/
def PermOrder (order : Nat → List Nat → List Nat) : Prop := ∀ k xs, (order k xs).Perm xs

section bfs
variable {adj : Nat → Nat → Bool} {order : Nat → List Nat → List Nat}

theorem mem_adjs (hp : PermOrder order) (k i1 : Nat) (remain : List Nat) (x : Nat) :
    x ∈ (order k remain).filter (fun i2 => adj i1 i2) ↔ x ∈ remain ∧ adj i1 x = true := by
  simp [List.mem_filter, (hp k remain).mem_iff]

theorem remain_step (hp : PermOrder order) (k i1 : Nat) (remain : List Nat) :
    remain.filter (fun x => !((order k remain).filter (fun i2 => adj i1 i2)).contains x) =
      remain.filter (fun x => !adj i1 x) := by
  apply List.filter_congr
  intro x hx
  simp only [List.contains_eq_mem, mem_adjs hp, hx, true_and, Bool.decide_eq_true]

theorem step_length (hp : PermOrder order) (k i1 : Nat) (remain : List Nat) :
    (remain.filter (fun x => !((order k remain).filter (fun i2 => adj i1 i2)).contains x)).length +
      ((order k remain).filter (fun i2 => adj i1 i2)).length = remain.length := by
  have h := List.length_eq_countP_add_countP (fun x => adj i1 x) (l := remain)
  simp only [List.countP_eq_length_filter, Bool.not_eq_true, Bool.decide_eq_false] at h
  rw [remain_step hp, ((hp k remain).filter _).length_eq, h, Nat.add_comm]

theorem bfs_terminates (hp : PermOrder order) : ∀ (fuel : Nat) (q remain : List Nat) (col : Nat → Colour),
    2 * remain.length + q.length < fuel → ∃ r, bfs adj order fuel q remain col = some r := by
  intro fuel
  induction fuel with
  | zero => intro q remain col h; omega
  | succ f ih =>
    intro q remain col h
    cases q with
    | nil => exact ⟨_, rfl⟩
    | cons i1 q =>
      simp only [bfs]
      apply ih
      have := step_length (adj := adj) hp f i1 remain
      simp only [List.length_append, List.length_cons] at h ⊢
      omega

/-- reachability from `s` inside `{0..n}` along `adj` -/
inductive Reach (adj : Nat → Nat → Bool) (n s : Nat) : Nat → Prop
  | start : Reach adj n s s
  | step {u v : Nat} : Reach adj n s u → adj u v = true → v < n → Reach adj n s v

/-- invariant of the loop `bfs` (queue `q`, set `remain`, start `s`): a circle outside `remain`, or the start, is queued or
has no neighbour left in `remain`; what is queued or outside `remain` is reachable from `s` -/
structure Inv (adj : Nat → Nat → Bool) (n s : Nat) (q remain : List Nat) : Prop where
  closed : ∀ u, u < n → (u ∉ remain ∨ u = s) → u ∈ q ∨ ∀ v, v < n → adj u v = true → v ∉ remain
  reachQ : ∀ u ∈ q, Reach adj n s u
  reachOut : ∀ u, u < n → u ∉ remain → Reach adj n s u
  bound : ∀ u ∈ remain, u < n

/-- one round of the loop; of the iteration order only `adjs` is left, and below only its set matters -/
theorem bfs_cons (hp : PermOrder order) (f i1 : Nat) (q remain : List Nat) (col : Nat → Colour) :
    ∃ adjs, (∀ x, x ∈ adjs ↔ x ∈ remain ∧ adj i1 x = true) ∧
      bfs adj order (f + 1) (i1 :: q) remain col =
        bfs adj order f (q ++ adjs) (remain.filter (fun x => !adj i1 x)) (recolour i1 adjs col) :=
  ⟨_, mem_adjs hp f i1 remain, by rw [bfs, remain_step hp]⟩

theorem bfs_ind (hp : PermOrder order) (I : List Nat → List Nat → (Nat → Colour) → Prop)
    (hstep : ∀ i1 q remain col adjs, (∀ x, x ∈ adjs ↔ x ∈ remain ∧ adj i1 x = true) → I (i1 :: q) remain col →
      I (q ++ adjs) (remain.filter (fun x => !adj i1 x)) (recolour i1 adjs col)) :
    ∀ (fuel : Nat) (q remain : List Nat) (col colf : Nat → Colour) (remf : List Nat),
      bfs adj order fuel q remain col = some (colf, remf) → I q remain col → I [] remf colf := by
  intro fuel
  induction fuel with
  | zero => intro q remain col colf remf h; simp [bfs] at h
  | succ f ih =>
    intro q remain col colf remf h hI
    cases q with
    | nil =>
      simp only [bfs, Option.some.injEq, Prod.mk.injEq] at h
      obtain ⟨rfl, rfl⟩ := h
      exact hI
    | cons i1 q =>
      obtain ⟨adjs, hA, e⟩ := bfs_cons (adj := adj) hp f i1 q remain col
      rw [e] at h
      exact ih _ _ _ colf remf h (hstep i1 q remain col adjs hA hI)

theorem mem_filter_not_adj (i1 : Nat) (remain : List Nat) (x : Nat) :
    x ∈ remain.filter (fun x => !adj i1 x) ↔ x ∈ remain ∧ adj i1 x = false := by
  rw [List.mem_filter, Bool.not_eq_true']

theorem Inv.round {n s i1 : Nat} {q remain adjs : List Nat} (inv : Inv adj n s (i1 :: q) remain)
    (hA : ∀ x, x ∈ adjs ↔ x ∈ remain ∧ adj i1 x = true) :
    Inv adj n s (q ++ adjs) (remain.filter (fun x => !adj i1 x)) := by
  have hR := mem_filter_not_adj (adj := adj) i1 remain
  refine ⟨?_, ?_, ?_, ?_⟩
  · intro u hu hcase
    -- is `u` outside the old `remain` or the start?
    by_cases hold : u ∉ remain ∨ u = s
    · rcases inv.closed u hu hold with hq | hcl
      · rcases List.mem_cons.mp hq with rfl | hq
        · right
          intro v _ hv hc
          have := ((hR v).mp hc).2
          simp [hv] at this
        · left; exact List.mem_append_left _ hq
      · right
        intro v hvn hv hc
        exact hcl v hvn hv ((hR v).mp hc).1
    · -- `u` was in `remain`, is not the start, and has left `remain`: it is one of `adjs`
      have hin : u ∈ remain := Decidable.byContradiction fun h' => hold (Or.inl h')
      have hns : u ≠ s := fun e => hold (Or.inr e)
      rcases hcase with hout | hs
      · left
        apply List.mem_append_right
        apply (hA u).mpr
        exact ⟨hin, Bool.of_not_eq_false fun hx => hout ((hR u).mpr ⟨hin, hx⟩)⟩
      · exact absurd hs hns
  · intro u hu
    rcases List.mem_append.mp hu with hq | ha
    · exact inv.reachQ u (List.mem_cons_of_mem _ hq)
    · have := (hA u).mp ha
      exact Reach.step (inv.reachQ i1 (List.mem_cons_self ..)) this.2 (inv.bound u this.1)
  · intro u hu hout
    by_cases hin : u ∈ remain
    · have hadj : adj i1 u = true := Bool.of_not_eq_false fun hx => hout ((hR u).mpr ⟨hin, hx⟩)
      exact Reach.step (inv.reachQ i1 (List.mem_cons_self ..)) hadj hu
    · exact inv.reachOut u hu hin
  · intro u hu
    exact inv.bound u ((hR u).mp hu).1

theorem reach_iff {n s : Nat} {remf : List Nat} (inv : Inv adj n s [] remf) (hs : s < n) (u : Nat) (hu : u < n) :
    Reach adj n s u ↔ (u ∉ remf ∨ u = s) := by
  constructor
  · intro hr
    have key : ∀ w, Reach adj n s w → w < n ∧ (w ∉ remf ∨ w = s) := by
      intro w hw
      induction hw with
      | start => exact ⟨hs, Or.inr rfl⟩
      | step _ hadj hv ih =>
        obtain ⟨hun, hc⟩ := ih
        rcases inv.closed _ hun hc with hq | hcl
        · simp at hq
        · exact ⟨hv, Or.inl (hcl _ hv hadj)⟩
    exact (key u hr).2
  · rintro (hout | rfl)
    · exact inv.reachOut u hu hout
    · exact Reach.start

theorem recolour_spec (i1 : Nat) : ∀ (adjs : List Nat) (col : Nat → Colour), i1 ∉ adjs → ∀ v,
    recolour i1 adjs col v = if v ∈ adjs then (col i1).other else col v := by
  intro adjs
  induction adjs with
  | nil => intro col _ v; simp [recolour]
  | cons i2 rest ih =>
    intro col hni v
    have hne : i1 ≠ i2 := fun e => hni (e ▸ List.mem_cons_self ..)
    have hnr : i1 ∉ rest := fun hc => hni (List.mem_cons_of_mem _ hc)
    simp only [recolour]
    rw [ih _ hnr v]
    simp only [hne, if_false, List.mem_cons]
    by_cases h1 : v ∈ rest
    · simp [h1]
    · by_cases h2 : v = i2 <;> simp [h1, h2]

theorem other_ne (c : Colour) : c.other ≠ c := by cases c <;> simp [Colour.other]

/-- the loop follows a proper 2-colouring `χ`, relative to the `remain0`, `col0` it was started with: what is queued or
has left `remain` carries `χ`, what was right stays right, everything else keeps its first colour -/
structure Follows (χ : Nat → Colour) (remain0 : List Nat) (col0 : Nat → Colour) (q remain : List Nat)
    (col : Nat → Colour) : Prop where
  queue : ∀ u ∈ q, col u = χ u
  keep : ∀ u, col0 u = χ u → col u = χ u
  out : ∀ u, u ∈ remain0 → u ∉ remain → col u = χ u
  same : ∀ u, (u ∉ remain0 ∨ u ∈ remain) → col u = col0 u
  sub : ∀ u, u ∈ remain → u ∈ remain0

theorem Follows.round {χ : Nat → Colour} (hχ : ∀ u v, adj u v = true → χ v = (χ u).other)
    {remain0 : List Nat} {col0 : Nat → Colour} {i1 : Nat} {q remain adjs : List Nat} {col : Nat → Colour}
    (J : Follows χ remain0 col0 (i1 :: q) remain col) (hA : ∀ x, x ∈ adjs ↔ x ∈ remain ∧ adj i1 x = true) :
    Follows χ remain0 col0 (q ++ adjs) (remain.filter (fun x => !adj i1 x)) (recolour i1 adjs col) := by
  have hR := mem_filter_not_adj (adj := adj) i1 remain
  have hi1 : col i1 = χ i1 := J.queue i1 (List.mem_cons_self ..)
  have hself : i1 ∉ adjs := fun hc => other_ne _ (hχ i1 i1 ((hA i1).mp hc).2).symm
  have hrec := recolour_spec i1 adjs col hself
  -- after the round: everything in `adjs` is right, nothing that was right is spoiled
  have hadjs : ∀ u, u ∈ adjs → recolour i1 adjs col u = χ u := by
    intro u hu
    rw [hrec u, if_pos hu, hi1, hχ i1 u ((hA u).mp hu).2]
  have hkeep : ∀ u, col u = χ u → recolour i1 adjs col u = χ u := by
    intro u hu
    by_cases hm : u ∈ adjs
    · exact hadjs u hm
    · rw [hrec u, if_neg hm, hu]
  refine ⟨?_, fun u hu => hkeep u (J.keep u hu), ?_, ?_, fun u hu => J.sub u ((hR u).mp hu).1⟩
  · intro u hu
    rcases List.mem_append.mp hu with h1 | h1
    · exact hkeep u (J.queue u (List.mem_cons_of_mem _ h1))
    · exact hadjs u h1
  · intro u h0 hout
    by_cases hin : u ∈ remain
    · exact hadjs u ((hA u).mpr ⟨hin, Bool.of_not_eq_false fun hx => hout ((hR u).mpr ⟨hin, hx⟩)⟩)
    · exact hkeep u (J.out u h0 hin)
  · intro u hcase
    have hnotadj : u ∉ adjs := by
      intro hc
      have h1 := (hA u).mp hc
      rcases hcase with h2 | h2
      · exact h2 (J.sub u h1.1)
      · have := ((hR u).mp h2).2
        simp [h1.2] at this
    rw [hrec u, if_neg hnotadj]
    exact J.same u (hcase.imp_right fun h2 => ((hR u).mp h2).1)

end bfs

end Yuiv.C06Canon
