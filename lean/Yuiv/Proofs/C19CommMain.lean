import Yuiv.Proofs.C19CommCube
import Yuiv.Proofs.KhRefD
/-
C19Comm — all edges: the reference differential `Cube.d` (through its fold-free form `rawTerms` / `cube_d_spec` of
`Proofs/KhRefD`) commutes with `ICube.tau` on 𝔽₂-supports.
-/
namespace Yuiv.C19Comm
open Yuiv.KhRef Yuiv.C19 Yuiv.C06Cycle Yuiv.C19Inv

/-- every cube edge out of `g.s` is a merge or a split: the condition under which `Cube.d` is defined at `g` -/
def allEdges (c : Cube) (p : Params) (g : Gen) : Bool :=
  (List.range c.n).all (fun k => g.s.testBit k || (edgeTerms c p g k).isSome)

theorem dRaw_eq (c : Cube) (p : Params) (g : Gen) :
    dRaw c p g = if allEdges c p g then some (rawTerms c p g) else none :=
  dRaw_spec c p g

def dList (c : Cube) (p : Params) (g : Gen) : Option (List Term) :=
  (dRaw c p g).map (fun out => out.filter (fun t => baseKeep c t.1))

theorem cube_d_list (c : Cube) (p : Params) (g : Gen) : c.d p g = (dList c p g).map List.toArray := by
  rw [cube_d_spec, dList, dRaw_spec]
  split <;> rfl

theorem oddSupp_flatMap {α : Type} (l : List α) (f : α → List Term) :
    oddSupp (l.flatMap f) = l.flatMap (fun a => oddSupp (f a)) := by
  unfold oddSupp
  rw [List.filter_flatMap, List.map_flatMap]

theorem flatMap_ite {α β : Type} (l : List α) (q : α → Bool) (f : α → List β) :
    l.flatMap (fun a => if q a then [] else f a) = (l.filter (fun a => !q a)).flatMap f := by
  induction l with
  | nil => rfl
  | cons a l ih =>
    rw [List.flatMap_cons, ih, List.filter_cons]
    cases q a <;> simp

def edgeSupp (c : Cube) (p : Params) (g : Gen) (k : Nat) : List Gen := oddSupp ((edgeTerms c p g k).getD [])

theorem oddSupp_raw (c : Cube) (p : Params) (g : Gen) :
    oddSupp (rawTerms c p g) = ((List.range c.n).filter (fun k => !g.s.testBit k)).flatMap (edgeSupp c p g) := by
  unfold rawTerms
  rw [flatMap_ite, oddSupp_flatMap]
  rfl

theorem edgeTerms_state (c : Cube) (p : Params) (g : Gen) (k : Nat) (ts : List Term) (h : edgeTerms c p g k = some ts) :
    ∀ t ∈ ts, t.1.s = g.s ||| 1 <<< k := by
  rw [C02Mirror.edgeTerms_bridge] at h
  obtain ⟨tl, _, rfl⟩ := Option.map_eq_some_iff.1 h
  intro t ht
  obtain ⟨mt, _, rfl⟩ := List.mem_map.1 ht
  rfl

theorem rawTerms_state (c : Cube) (p : Params) (g : Gen) (hs : g.s < 2 ^ c.n) :
    ∀ t ∈ rawTerms c p g, t.1.s < 2 ^ c.n := by
  intro t ht
  obtain ⟨k, hk, _, ht⟩ := (mem_rawTerms c p g t).1 ht
  cases he : edgeTerms c p g k with
  | none => rw [he] at ht; cases ht
  | some ts =>
    rw [he] at ht
    rw [edgeTerms_state c p g k ts he t ht]
    exact KhRef.or_bit_lt hs hk

theorem baseKeep_tau (ic : ICube) (h0 : icubeWf ic = true) (y : Gen) (hy : y.s < 2 ^ ic.cube.n) :
    baseKeep ic.cube (ic.tau y) = baseKeep ic.cube y := by
  have ws := wf_spec ic h0 y.s hy
  have wt := wf_spec ic h0 _ ws.lt
  unfold baseKeep
  rw [tau_eq]
  simp only
  cases hb : ic.cube.baseCircle y.s with
  | none =>
    cases hb' : ic.cube.baseCircle (ic.tst[y.s]!) with
    | none => rfl
    | some b' =>
      have := (wt.base b' hb').2
      rw [ws.inv, hb] at this
      cases this
  | some b =>
    obtain ⟨hbr, hb'⟩ := ws.base b hb
    rw [hb']
    simp only
    rw [tauMask_bit_wf ic h0 y.s hy, (ws.bij b hbr).2]
    simp [(ws.bij b hbr).1]

theorem tau_mask_lt (ic : ICube) (h0 : icubeWf ic = true) (g : Gen) (hs : g.s < 2 ^ ic.cube.n) :
    (ic.tau g).mask < 2 ^ (ic.cube.circ[(ic.tau g).s]!).size := by
  show (ic.tau g).mask < 2 ^ (ic.cube.circ[ic.tst[g.s]!]!).size
  rw [(wf_spec ic h0 g.s hs).circ]
  exact BitsVia.lt (tauMask_bit_wf ic h0 g.s hs g.mask)

theorem or_bit_inj (t a b : Nat) (ha : t.testBit a = false) (e : t ||| 1 <<< a = t ||| 1 <<< b) : a = b := by
  have h1 : (t ||| 1 <<< a).testBit a = true := by
    simp [Nat.testBit_or, Nat.one_shiftLeft]
  rw [e, Nat.testBit_or, ha, Nat.one_shiftLeft, Nat.testBit_two_pow] at h1
  simp only [Bool.false_or, decide_eq_true_eq] at h1
  exact h1.symm

theorem rel_isSome {α β : Type} {r : α → β → Prop} {a : Option α} {b : Option β} (h : Option.Rel r a b) :
    b.isSome = a.isSome := by
  cases h <;> rfl

theorem rel_getD {α β : Type} {r : α → β → Prop} {a : Option α} {b : Option β} (h : Option.Rel r a b) (d : α) (d' : β)
    (hd : r d d') : r (a.getD d) (b.getD d') := by
  cases h <;> assumption

theorem edge_defined_comm (F : Array Nat → Array Nat) (ic : ICube) (h : icubeWf' F ic = true) (p : Params) (g : Gen)
    (hs : g.s < 2 ^ ic.cube.n) (k : Nat) (hk : k < ic.cube.n) (k' : Nat)
    (hrel : ic.tst[g.s ||| 1 <<< k]! = ic.tst[g.s]! ||| 1 <<< k') :
    (edgeTerms ic.cube p (ic.tau g) k').isSome = (edgeTerms ic.cube p g k).isSome :=
  rel_isSome (edge_comm F ic h p g hs k hk k' hrel)

theorem edgeSupp_comm (F : Array Nat → Array Nat) (ic : ICube) (h : icubeWf' F ic = true) (p : Params) (g : Gen)
    (hs : g.s < 2 ^ ic.cube.n) (k : Nat) (hk : k < ic.cube.n) (k' : Nat)
    (hrel : ic.tst[g.s ||| 1 <<< k]! = ic.tst[g.s]! ||| 1 <<< k') :
    ((edgeSupp ic.cube p g k).map ic.tau).Perm (edgeSupp ic.cube p (ic.tau g) k') :=
  rel_getD (edge_comm F ic h p g hs k hk k' hrel) [] [] (List.Perm.refl _)

theorem raw_comm (F : Array Nat → Array Nat) (ic : ICube) (h : icubeWf' F ic = true) (p : Params) (g : Gen)
    (hs : g.s < 2 ^ ic.cube.n) :
    allEdges ic.cube p (ic.tau g) = allEdges ic.cube p g ∧
    (allEdges ic.cube p g = true →
      ((oddSupp (rawTerms ic.cube p g)).map ic.tau).Perm (oddSupp (rawTerms ic.cube p (ic.tau g)))) := by
  have h0 := wf'_wf F ic h
  have ws := wf_spec ic h0 g.s hs
  have vs := wf'_spec F ic h g.s hs
  have vt := wf'_spec F ic h _ ws.lt
  have hts : (ic.tau g).s = ic.tst[g.s]! := rfl
  have hex : ∀ k, ∃ k', k < ic.cube.n → g.s.testBit k = false →
      (k' < ic.cube.n ∧ (ic.tst[g.s]!).testBit k' = false ∧ ic.tst[g.s ||| 1 <<< k]! = ic.tst[g.s]! ||| 1 <<< k') := by
    intro k
    by_cases hk : k < ic.cube.n ∧ g.s.testBit k = false
    · obtain ⟨k', h1, h2, h3⟩ := vs.edge k hk.1 hk.2
      exact ⟨k', fun _ _ => ⟨h1, h2, h3⟩⟩
    · exact ⟨0, fun h1 h2 => absurd ⟨h1, h2⟩ hk⟩
  choose κ hκ using hex
  have hsurj : ∀ k', k' < ic.cube.n → (ic.tst[g.s]!).testBit k' = false →
      ∃ k, k < ic.cube.n ∧ g.s.testBit k = false ∧ ic.tst[g.s ||| 1 <<< k]! = ic.tst[g.s]! ||| 1 <<< k' := by
    intro k' hk' hb'
    obtain ⟨k, h1, h2, h3⟩ := vt.edge k' hk' hb'
    rw [ws.inv] at h2 h3
    refine ⟨k, h1, h2, ?_⟩
    rw [← h3]
    exact (wf_spec ic h0 _ (KhRef.or_bit_lt ws.lt hk')).inv
  have hκuniq : ∀ k k', k < ic.cube.n → g.s.testBit k = false → (ic.tst[g.s]!).testBit k' = false →
      ic.tst[g.s ||| 1 <<< k]! = ic.tst[g.s]! ||| 1 <<< k' → κ k = k' := by
    intro k k' hk hb hb' e
    obtain ⟨_, h2, h3⟩ := hκ k hk hb
    exact or_bit_inj _ _ _ h2 (h3.symm.trans e)
  have hall : allEdges ic.cube p (ic.tau g) = allEdges ic.cube p g := by
    rw [Bool.eq_iff_iff]
    unfold allEdges
    simp only [List.all_eq_true, List.mem_range, Bool.or_eq_true, hts]
    constructor
    · intro H k hk
      by_cases hb : g.s.testBit k = true
      · exact Or.inl hb
      · have hb' : g.s.testBit k = false := by simpa using hb
        obtain ⟨h1, h2, h3⟩ := hκ k hk hb'
        rcases H (κ k) h1 with H' | H'
        · rw [h2] at H'; cases H'
        · exact Or.inr ((edge_defined_comm F ic h p g hs k hk (κ k) h3).symm.trans H')
    · intro H k' hk'
      by_cases hb : (ic.tst[g.s]!).testBit k' = true
      · exact Or.inl hb
      · have hb' : (ic.tst[g.s]!).testBit k' = false := by simpa using hb
        obtain ⟨k, hk, hbk, e⟩ := hsurj k' hk' hb'
        rcases H k hk with H' | H'
        · rw [hbk] at H'; cases H'
        · exact Or.inr ((edge_defined_comm F ic h p g hs k hk k' e).trans H')
  refine ⟨hall, fun hg => ?_⟩
  rw [oddSupp_raw, oddSupp_raw, List.map_flatMap, hts]
  have hperm : (((List.range ic.cube.n).filter (fun k => !g.s.testBit k)).map κ).Perm
      ((List.range ic.cube.n).filter (fun k => !(ic.tst[g.s]!).testBit k)) := by
    apply (List.perm_ext_iff_of_nodup _ (List.nodup_range.filter _)).2
    · intro a
      simp only [List.mem_map, List.mem_filter, List.mem_range, Bool.not_eq_true']
      constructor
      · rintro ⟨k, ⟨hk, hb⟩, rfl⟩
        exact ⟨(hκ k hk hb).1, (hκ k hk hb).2.1⟩
      · rintro ⟨ha, hb⟩
        obtain ⟨k, hk, hbk, e⟩ := hsurj a ha hb
        exact ⟨k, ⟨hk, hbk⟩, hκuniq k a hk hbk hb e⟩
    · apply List.Nodup.map_on _ (List.nodup_range.filter _)
      intro a ha b hb e
      simp only [List.mem_filter, List.mem_range, Bool.not_eq_true'] at ha hb
      have e1 := (hκ a ha.1 ha.2).2.2
      have e2 := (hκ b hb.1 hb.2).2.2
      rw [e] at e1
      have e3 : g.s ||| 1 <<< a = g.s ||| 1 <<< b := by
        rw [← (wf_spec ic h0 _ (KhRef.or_bit_lt hs ha.1)).inv, ← (wf_spec ic h0 _ (KhRef.or_bit_lt hs hb.1)).inv, e1, e2]
      exact or_bit_inj _ _ _ ha.2 e3
  refine List.Perm.trans ?_ (List.Perm.flatMap_right _ hperm)
  rw [List.flatMap_map]
  apply List.Perm.flatMap_left
  intro k hk
  simp only [List.mem_filter, List.mem_range, Bool.not_eq_true'] at hk
  exact edgeSupp_comm F ic h p g hs k hk.1 (κ k) (hκ k hk.1 hk.2).2.2

theorem oddSupp_filter (q : Gen → Bool) (ts : List Term) :
    oddSupp (ts.filter (fun t => q t.1)) = (oddSupp ts).filter q := by
  unfold oddSupp
  rw [List.filter_filter, List.filter_map, List.filter_filter]
  congr 1
  apply List.filter_congr
  intro t _
  simp only [Function.comp]
  exact Bool.and_comm _ _

theorem dList_comm (F : Array Nat → Array Nat) (ic : ICube) (h : icubeWf' F ic = true) (p : Params) (g : Gen)
    (hs : g.s < 2 ^ ic.cube.n) :
    Option.Rel (fun ts ts' => ((oddSupp ts).map ic.tau).Perm (oddSupp ts'))
      (dList ic.cube p g) (dList ic.cube p (ic.tau g)) := by
  obtain ⟨hall, hperm⟩ := raw_comm F ic h p g hs
  unfold dList
  rw [dRaw_eq, dRaw_eq, hall]
  by_cases hg : allEdges ic.cube p g = true
  · simp only [hg, if_true, Option.map_some]
    refine Option.Rel.some ?_
    rw [oddSupp_filter, oddSupp_filter]
    have : ((oddSupp (rawTerms ic.cube p g)).filter (baseKeep ic.cube)).map ic.tau =
        ((oddSupp (rawTerms ic.cube p g)).map ic.tau).filter (baseKeep ic.cube) := by
      rw [List.filter_map]
      congr 1
      apply List.filter_congr
      intro y hy
      simp only [Function.comp]
      apply Eq.symm
      apply baseKeep_tau ic (wf'_wf F ic h)
      unfold oddSupp at hy
      obtain ⟨t, ht, rfl⟩ := List.mem_map.1 hy
      exact rawTerms_state ic.cube p g hs t (List.mem_filter.1 ht).1
    rw [this]
    exact (hperm hg).filter _
  · simp only [hg, Bool.false_eq_true, if_false, Option.map_none]
    exact Option.Rel.none

end Yuiv.C19Comm
