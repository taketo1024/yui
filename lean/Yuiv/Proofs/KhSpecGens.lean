import Yuiv.Proofs.KhSpecDefs
import Yuiv.Proofs.KhRefLoops
import Yuiv.Proofs.KhRefD
import Yuiv.Proofs.C01SqCoef
/-
KhSpecGens — the generator lists of `khHomology`: `gensByWeight` in closed form (`gensByWeight_toList`, an instance of
`KhRefLoops.buckets_toList`), and `Cube.d` maps a generator of weight `w` to generators of weight `w + 1`.
-/
namespace Yuiv.KhSpec
open Yuiv.KhRef
open Yuiv.C06Cycle (baseKeep)

theorem mem_gensAt_s (c : Cube) (s : Nat) (g : Gen) (h : g ∈ (c.gensAt s).toList) : g.s = s :=
  ((Cube.mem_gensAt c s g).1 (Array.mem_toList_iff.1 h)).1

theorem mem_gensAt_iff (c : Cube) (s : Nat) (g : Gen) :
    g ∈ (c.gensAt s).toList ↔ (g.s = s ∧ g.mask < 2 ^ (c.circ[s]!).size) ∧ baseKeep c g = true := by
  rw [Array.mem_toList_iff, Cube.mem_gensAt, ← and_assoc]
  refine and_congr_right fun ⟨hs, _⟩ => ?_
  unfold baseKeep
  rw [hs]
  cases c.baseCircle s with
  | none => simp
  | some b => simp

theorem mem_gensAt_unreduced (c : Cube) (hb : c.base = none) (s : Nat) (g : Gen) :
    g ∈ (c.gensAt s).toList ↔ g.s = s ∧ g.mask < 2 ^ (c.circ[s]!).size := by
  rw [mem_gensAt_iff, C06Cycle.baseKeep_of_unreduced c hb]
  exact and_iff_left rfl

theorem gensByWeight_toList (c : Cube) (w : Nat) :
    ((gensByWeight c)[w]!).toList =
      ((List.range (2 ^ c.n)).filter (fun s => popcount s c.n == w)).flatMap (fun s => (c.gensAt s).toList) :=
  (KhRefLoops.buckets_toList (fun s => popcount s c.n) c.gensAt c.n (fun s => popcount_le s c.n) w (2 ^ c.n)).2

theorem gensByWeight_size (c : Cube) : (gensByWeight c).size = c.n + 1 :=
  (KhRefLoops.buckets_toList (fun s => popcount s c.n) c.gensAt c.n (fun s => popcount_le s c.n) 0 (2 ^ c.n)).1

theorem mem_gensByWeight (c : Cube) (w : Nat) (g : Gen) :
    g ∈ ((gensByWeight c)[w]!).toList ↔
      w ≤ c.n ∧ g.s < 2 ^ c.n ∧ popcount g.s c.n = w ∧ g ∈ (c.gensAt g.s).toList := by
  rw [gensByWeight_toList]
  simp only [List.mem_flatMap, List.mem_filter, List.mem_range, beq_iff_eq]
  constructor
  · rintro ⟨s, ⟨h1, h2⟩, h3⟩
    obtain rfl := mem_gensAt_s c s g h3
    exact ⟨h2 ▸ popcount_le _ _, h1, h2, h3⟩
  · rintro ⟨_, h1, h2, h3⟩
    exact ⟨g.s, ⟨h1, h2⟩, h3⟩

theorem gensByWeight_nodup (c : Cube) (w : Nat) : ((gensByWeight c)[w]!).toList.Nodup := by
  rw [gensByWeight_toList, List.nodup_flatMap]
  refine ⟨fun s _ => Cube.gensAt_nodup c s, (List.nodup_range.filter _).imp ?_⟩
  intro s s' hne a ha ha'
  exact hne ((mem_gensAt_s c s a ha).symm.trans (mem_gensAt_s c s' a ha'))

theorem inGens_iff (c : Cube) (g : Gen) :
    inGens (gensByWeight c) g = true ↔ g.s < 2 ^ c.n ∧ g ∈ (c.gensAt g.s).toList := by
  unfold inGens
  rw [Array.any_eq_true]
  constructor
  · rintro ⟨i, hi, hc⟩
    rw [Array.contains_iff_mem, ← Array.mem_toList_iff, ← getElem!_pos (gensByWeight c) i hi, mem_gensByWeight] at hc
    exact ⟨hc.2.1, hc.2.2.2⟩
  · rintro ⟨h1, h2⟩
    have hw : popcount g.s c.n < (gensByWeight c).size := by
      have := popcount_le g.s c.n
      rw [gensByWeight_size]
      omega
    refine ⟨popcount g.s c.n, hw, ?_⟩
    rw [Array.contains_iff_mem, ← Array.mem_toList_iff, ← getElem!_pos (gensByWeight c) _ hw, mem_gensByWeight]
    exact ⟨popcount_le _ _, h1, rfl, h2⟩

theorem d_targets (c : Cube) (p : Params)
    (hP : ∀ s s', s < 2 ^ c.n → s' < 2 ^ c.n → C02Mirror.Pair c.circ[s]! c.circ[s']!)
    (g : Gen) (hs : g.s < 2 ^ c.n) (ts : Array Term) (hd : c.d p g = some ts) :
    ∀ t ∈ ts.toList, ∃ k, k < c.n ∧ g.s.testBit k = false ∧ t.1.s = g.s ||| 1 <<< k ∧
      t.1.s < 2 ^ c.n ∧ t.1.mask < 2 ^ (c.circ[t.1.s]!).size := by
  intro t ht
  obtain ⟨k, tl, mt, h1, hbit, he, hmt, rfl⟩ := C06Cycle.mem_d c p g ts hd t ht
  have hs1 : g.s ||| 1 <<< k < 2 ^ c.n := KhRef.or_bit_lt hs h1
  exact ⟨k, h1, hbit, rfl, hs1, C01Sq.terms_lt (hP _ _ hs hs1) p.h p.t g.mask tl he mt hmt⟩

theorem d_targets_mem (c : Cube) (p : Params) (hb : c.base = none)
    (hP : ∀ s s', s < 2 ^ c.n → s' < 2 ^ c.n → C02Mirror.Pair c.circ[s]! c.circ[s']!)
    (w : Nat) (g : Gen) (hg : g ∈ ((gensByWeight c)[w]!).toList) (ts : Array Term) (hd : c.d p g = some ts) :
    ∀ t ∈ ts.toList, t.1 ∈ ((gensByWeight c)[w + 1]!).toList := by
  intro t ht
  obtain ⟨_, hs, hw, _⟩ := (mem_gensByWeight c w g).1 hg
  obtain ⟨k, hk, hbit, hts, hlt, hm⟩ := d_targets c p hP g hs ts hd t ht
  have hpc : popcount t.1.s c.n = w + 1 := by
    rw [hts, popcount_or_gt g.s k c.n hbit hk, hw]
  rw [mem_gensByWeight]
  refine ⟨?_, hlt, hpc, (mem_gensAt_unreduced c hb t.1.s t.1).2 ⟨rfl, hm⟩⟩
  rw [← hpc]
  exact popcount_le _ _

end Yuiv.KhSpec
