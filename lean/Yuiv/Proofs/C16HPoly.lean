import Yuiv.Proofs.C16
/-
C16 — `HPoly<X,R>` (h_poly.rs).  A value is ONE term `coeff · X^deg`; the zero polynomial is any value with
`coeff = 0` (its `deg` is arbitrary: `HPoly::zero()` stores degree 0, `x² − x²` stores degree 2) and `==` identifies
all of them.  The denotation is the coefficient function `hval a n`; `a.eqv b ↔ hval a = hval b`.
-/
namespace Yuiv.C16
open Yuiv

section HPolyAddProofs
variable {R : Type} [DecidableEq R] [CommRing R]

/-- same outcome: both panic / both out of fuel (never happens here) / both `ok` with `==` values -/
def HPoly.reqv : Res (HPoly R) → Res (HPoly R) → Prop
  | .ok x, .ok y => x.eqv y = true
  | .panic, .panic => True
  | .err, .err => True
  | _, _ => False

/-- the homogeneous part of degree `d`: zero (stored with any degree) or of degree `d` -/
def HPoly.InDeg (d : Nat) (a : HPoly R) : Prop := a.coeff = 0 ∨ a.deg = d

/-- the denoted polynomial `coeff · X^deg` as a coefficient function -/
def hval (a : HPoly R) (n : Nat) : R := if a.deg = n then a.coeff else 0

omit [DecidableEq R] in
theorem hval_zero_of_coeff {a : HPoly R} (h : a.coeff = 0) (n : Nat) : hval a n = 0 := by
  simp [hval, h]

omit [DecidableEq R] in
theorem hval_self (a : HPoly R) : hval a a.deg = a.coeff := if_pos rfl

theorem hp_eqv_iff_struct (a b : HPoly R) :
    a.eqv b = true ↔ (a.coeff = 0 ∧ b.coeff = 0) ∨ (a.deg = b.deg ∧ a.coeff = b.coeff) := by
  unfold HPoly.eqv
  by_cases h0 : a.coeff = 0 ∧ b.coeff = 0 <;> simp [h0]

theorem hpoly_eqv_iff_val (a b : HPoly R) : a.eqv b = true ↔ ∀ n, hval a n = hval b n := by
  rw [hp_eqv_iff_struct]
  constructor
  · rintro (⟨ha, hb⟩ | ⟨hd, hc⟩) n
    · rw [hval_zero_of_coeff ha, hval_zero_of_coeff hb]
    · rw [hval, hval, hd, hc]
  · intro h
    -- compare the two functions at the stored degrees
    have h1 := h a.deg
    have h2 := h b.deg
    rw [hval_self] at h1 h2
    by_cases hd : a.deg = b.deg
    · exact Or.inr ⟨hd, by rw [h1, hd, hval_self]⟩
    · rw [hval, if_neg (fun e => hd e.symm)] at h1
      rw [hval, if_neg hd] at h2
      exact Or.inl ⟨h1, h2.symm⟩

theorem hp_eqv_refl (a : HPoly R) : a.eqv a = true := (hpoly_eqv_iff_val a a).2 (fun _ => rfl)

theorem hp_coeff_zero_of_eqv {a b : HPoly R} (h : a.eqv b = true) : a.coeff = 0 ↔ b.coeff = 0 := by
  rcases (hp_eqv_iff_struct a b).1 h with h | h
  · simp [h.1, h.2]
  · rw [h.2]

theorem hp_eq_of_eqv_of_ne_zero {a b : HPoly R} (h : a.eqv b = true) (ha : a.coeff ≠ 0) : a = b := by
  rcases (hp_eqv_iff_struct a b).1 h with h | h
  · exact absurd h.1 ha
  · cases a; cases b; simp_all

theorem hp_add_eq (a b : HPoly R) :
    a.add b = if a.coeff = 0 then .ok b else if b.coeff = 0 then .ok a
      else if a.deg = b.deg then .ok ⟨a.deg, a.coeff + b.coeff⟩ else .panic := by
  simp [HPoly.add, HPoly.isZero]

theorem hp_add_left_zero {a : HPoly R} (ha : a.coeff = 0) (b : HPoly R) : a.add b = .ok b := by
  rw [hp_add_eq, if_pos ha]

theorem hp_add_right_zero {a b : HPoly R} (ha : a.coeff ≠ 0) (hb : b.coeff = 0) : a.add b = .ok a := by
  rw [hp_add_eq, if_neg ha, if_pos hb]

theorem hp_add_same_deg {a b : HPoly R} (ha : a.coeff ≠ 0) (hb : b.coeff ≠ 0) (hd : a.deg = b.deg) :
    a.add b = .ok ⟨a.deg, a.coeff + b.coeff⟩ := by
  rw [hp_add_eq, if_neg ha, if_neg hb, if_pos hd]

theorem hp_add_diff_deg {a b : HPoly R} (ha : a.coeff ≠ 0) (hb : b.coeff ≠ 0) (hd : a.deg ≠ b.deg) :
    a.add b = .panic := by
  rw [hp_add_eq, if_neg ha, if_neg hb, if_neg hd]

theorem hp_add_cases (a b : HPoly R) :
    (a.coeff = 0 ∧ a.add b = .ok b) ∨ (a.coeff ≠ 0 ∧ b.coeff = 0 ∧ a.add b = .ok a) ∨
    (a.coeff ≠ 0 ∧ b.coeff ≠ 0 ∧ a.deg = b.deg ∧ a.add b = .ok ⟨a.deg, a.coeff + b.coeff⟩) ∨
    (a.coeff ≠ 0 ∧ b.coeff ≠ 0 ∧ a.deg ≠ b.deg ∧ a.add b = .panic) := by
  by_cases ha : a.coeff = 0
  · exact Or.inl ⟨ha, hp_add_left_zero ha b⟩
  · by_cases hb : b.coeff = 0
    · exact Or.inr (Or.inl ⟨ha, hb, hp_add_right_zero ha hb⟩)
    · by_cases hd : a.deg = b.deg
      · exact Or.inr (Or.inr (Or.inl ⟨ha, hb, hd, hp_add_same_deg ha hb hd⟩))
      · exact Or.inr (Or.inr (Or.inr ⟨ha, hb, hd, hp_add_diff_deg ha hb hd⟩))

theorem hpoly_add_val {a b c : HPoly R} (h : a.add b = Res.ok c) (n : Nat) :
    hval c n = hval a n + hval b n := by
  rcases hp_add_cases a b with ⟨ha, e⟩ | ⟨_, hb, e⟩ | ⟨_, _, hd, e⟩ | ⟨_, _, _, e⟩ <;> rw [e] at h
  · cases h; rw [hval_zero_of_coeff ha, zero_add]
  · cases h; rw [hval_zero_of_coeff hb, add_zero]
  · cases h
    unfold hval
    rw [← hd]
    split
    · rfl
    · exact (add_zero 0).symm
  · cases h

theorem hpoly_add_panic_iff (a b : HPoly R) :
    a.add b = Res.panic ↔ a.coeff ≠ 0 ∧ b.coeff ≠ 0 ∧ a.deg ≠ b.deg := by
  rcases hp_add_cases a b with ⟨ha, e⟩ | ⟨_, hb, e⟩ | ⟨_, _, hd, e⟩ | ⟨ha, hb, hd, e⟩ <;> rw [e]
  · exact ⟨fun h => (nomatch h), fun h => absurd ha h.1⟩
  · exact ⟨fun h => (nomatch h), fun h => absurd hb h.2.1⟩
  · exact ⟨fun h => (nomatch h), fun h => absurd hd h.2.2⟩
  · exact ⟨fun _ => ⟨ha, hb, hd⟩, fun _ => rfl⟩

theorem hp_add_ok_iff (a b : HPoly R) :
    (∃ c, a.add b = .ok c) ↔ a.coeff = 0 ∨ b.coeff = 0 ∨ a.deg = b.deg := by
  rcases hp_add_cases a b with ⟨ha, e⟩ | ⟨_, hb, e⟩ | ⟨_, _, hd, e⟩ | ⟨ha, hb, hd, e⟩ <;> rw [e]
  · exact ⟨fun _ => Or.inl ha, fun _ => ⟨_, rfl⟩⟩
  · exact ⟨fun _ => Or.inr (Or.inl hb), fun _ => ⟨_, rfl⟩⟩
  · exact ⟨fun _ => Or.inr (Or.inr hd), fun _ => ⟨_, rfl⟩⟩
  · exact ⟨fun ⟨_, h⟩ => (nomatch h), fun h => h.elim (absurd · ha) (·.elim (absurd · hb) (absurd · hd))⟩

theorem hp_add_ne_err (a b : HPoly R) : a.add b ≠ .err := by
  rcases hp_add_cases a b with ⟨_, e⟩ | ⟨_, _, e⟩ | ⟨_, _, _, e⟩ | ⟨_, _, _, e⟩ <;> rw [e] <;> exact fun h => nomatch h

theorem hp_sub_eq (a b : HPoly R) :
    a.sub b = if a.coeff = 0 then .ok b.neg else if b.coeff = 0 then .ok a
      else if a.deg = b.deg then .ok ⟨a.deg, a.coeff + -b.coeff⟩ else .panic := by
  simp [HPoly.sub, HPoly.isZero]

omit [DecidableEq R] in
theorem hp_neg_coeff_eq_zero (a : HPoly R) : a.neg.coeff = 0 ↔ a.coeff = 0 := neg_eq_zero

/-- `a − b` is literally `a + (−b)` in the model (same branch, same stored pair) -/
theorem hp_sub_eq_add_neg (a b : HPoly R) : a.sub b = a.add b.neg := by
  rw [hp_sub_eq, hp_add_eq]
  simp only [hp_neg_coeff_eq_zero]
  rfl

omit [DecidableEq R] in
theorem hval_neg (a : HPoly R) (n : Nat) : hval a.neg n = - hval a n := by
  unfold hval HPoly.neg
  by_cases h : a.deg = n <;> simp [h]

/-- the `is_one` shortcut of `*=` is invisible: for `rhs = ⟨0, 1⟩` the product pair is `self` as stored -/
theorem hp_mul_eq (a b : HPoly R) : a.mul b = ⟨a.deg + b.deg, a.coeff * b.coeff⟩ := by
  unfold HPoly.mul HPoly.isOne
  split
  · rename_i h
    rw [Bool.and_eq_true, beq_iff_eq, decide_eq_true_eq] at h
    rw [h.1, h.2, mul_one]; rfl
  · rfl

theorem hval_mul (a b : HPoly R) (n : Nat) :
    hval (a.mul b) n = if a.deg + b.deg = n then a.coeff * b.coeff else 0 := by
  rw [hp_mul_eq]; rfl

theorem hval_mul_left (a b : HPoly R) (n : Nat) :
    hval (a.mul b) n = if a.deg ≤ n then a.coeff * hval b (n - a.deg) else 0 := by
  rw [hval_mul, hval]
  by_cases h1 : a.deg ≤ n
  · rw [if_pos h1, mul_ite, mul_zero]
    exact if_congr (by omega) rfl rfl
  · rw [if_neg h1, if_neg (by omega)]

theorem hval_mul_right (a b : HPoly R) (n : Nat) :
    hval (b.mul a) n = if a.deg ≤ n then hval b (n - a.deg) * a.coeff else 0 := by
  rw [hval_mul, Nat.add_comm, mul_comm b.coeff, ← hval_mul, hval_mul_left]
  simp only [mul_comm]

theorem hpoly_sub_val {a b c : HPoly R} (h : a.sub b = Res.ok c) (n : Nat) :
    hval c n = hval a n - hval b n := by
  rw [hp_sub_eq_add_neg] at h
  rw [hpoly_add_val h n, hval_neg, sub_eq_add_neg]

theorem hp_add_inDeg {d : Nat} {a b : HPoly R} (ha : a.InDeg d) (hb : b.InDeg d) :
    ∃ c, a.add b = .ok c ∧ c.InDeg d ∧ ∀ n, hval c n = hval a n + hval b n := by
  have key : ∃ c, a.add b = .ok c ∧ c.InDeg d := by
    rcases hp_add_cases a b with ⟨_, e⟩ | ⟨_, _, e⟩ | ⟨h1, _, _, e⟩ | ⟨h1, h2, hd, _⟩
    · exact ⟨b, e, hb⟩
    · exact ⟨a, e, ha⟩
    · exact ⟨_, e, Or.inr (ha.resolve_left h1)⟩
    · exact absurd ((ha.resolve_left h1).trans (hb.resolve_left h2).symm) hd
  obtain ⟨c, hc, hd⟩ := key
  exact ⟨c, hc, hd, hpoly_add_val hc⟩

omit [DecidableEq R] in
theorem hp_neg_inDeg {d : Nat} {a : HPoly R} (ha : a.InDeg d) : a.neg.InDeg d := by
  rcases ha with h | h
  · exact Or.inl ((hp_neg_coeff_eq_zero a).2 h)
  · exact Or.inr h

theorem hp_mul_inDeg {d e : Nat} {a b : HPoly R} (ha : a.InDeg d) (hb : b.InDeg e) : (a.mul b).InDeg (d + e) := by
  rw [hp_mul_eq]
  rcases ha with ha | ha
  · exact Or.inl (by rw [ha, zero_mul])
  · rcases hb with hb | hb
    · exact Or.inl (by rw [hb, mul_zero])
    · exact Or.inr (by rw [ha, hb])

theorem hp_common_deg_of_ok {a b : HPoly R} (h : ∃ c, a.add b = .ok c) : ∃ e, a.InDeg e ∧ b.InDeg e := by
  rcases (hp_add_ok_iff a b).1 h with h | h | h
  · exact ⟨b.deg, Or.inl h, Or.inr rfl⟩
  · exact ⟨a.deg, Or.inr rfl, Or.inl h⟩
  · exact ⟨b.deg, Or.inr h, Or.inr rfl⟩

theorem hp_reqv_refl (x : Res (HPoly R)) : HPoly.reqv x x := by
  cases x <;> simp [HPoly.reqv, hp_eqv_refl]

theorem hp_add_congr {a a' b b' : HPoly R} (ha : a.eqv a' = true) (hb : b.eqv b' = true) :
    HPoly.reqv (a.add b) (a'.add b') := by
  by_cases h1 : a.coeff = 0
  · rw [hp_add_left_zero h1, hp_add_left_zero ((hp_coeff_zero_of_eqv ha).1 h1)]
    exact hb
  · have e := hp_eq_of_eqv_of_ne_zero ha h1
    subst e
    by_cases h2 : b.coeff = 0
    · rw [hp_add_right_zero h1 h2, hp_add_right_zero h1 ((hp_coeff_zero_of_eqv hb).1 h2)]
      exact hp_eqv_refl a
    · have e := hp_eq_of_eqv_of_ne_zero hb h2
      subst e
      exact hp_reqv_refl _

theorem hp_neg_congr {a a' : HPoly R} (ha : a.eqv a' = true) : a.neg.eqv a'.neg = true := by
  rw [hpoly_eqv_iff_val] at *
  intro n; rw [hval_neg, hval_neg, ha n]

end HPolyAddProofs

end Yuiv.C16
