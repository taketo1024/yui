import Yuiv.Proofs.KhSpecCells
import Yuiv.Proofs.KhSpecBigraded
import Yuiv.Proofs.KhSpecLoopsBigraded
import Yuiv.Proofs.C18BridgeCube
import Yuiv.Proofs.C04InvCanon
/-
C04Euler (helper; property theorems in `Props/C04Euler.lean`) — the Euler–Poincaré principle for the reference computation
`KhRef.khHomology`: a telescoping sum of ranks; the same for matrices `D_i` over a field with `D_i · D_{i+1} = 0`; for every
family `G` of generators closed under `Cube.d` the ranks `homologyOf` reports (ℤ, ℚ, 𝔽_q) have the alternating sum of the sizes
`|G_i|`, which are the chain ranks of `Proofs/C18BridgeCube`; and the coefficients of `C04.chiChain` are the alternating sums
of the chain ranks.
-/
namespace Yuiv.C04Euler
open Yuiv Yuiv.KhRef Matrix Yuiv.KhSnf Yuiv.C03Uct Yuiv.KhSpec Module

def altSum (N : Nat) (f : Nat → Int) : Int := ∑ i ∈ Finset.range (N + 1), (-1) ^ i * f i

theorem altSum_succ (N : Nat) (f : Nat → Int) : altSum (N + 1) f = altSum N f + (-1) ^ (N + 1) * f (N + 1) := by
  unfold altSum
  rw [Finset.sum_range_succ]

theorem altSum_zero (f : Nat → Int) : altSum 0 f = f 0 := by
  unfold altSum
  simp

theorem altSum_congr (N : Nat) (f g : Nat → Int) (h : ∀ i, i ≤ N → f i = g i) : altSum N f = altSum N g := by
  unfold altSum
  apply Finset.sum_congr rfl
  intro i hi
  rw [h i (by have := Finset.mem_range.mp hi; omega)]

theorem altSum_sub (N : Nat) (f g : Nat → Int) : altSum N (fun i => f i - g i) = altSum N f - altSum N g := by
  unfold altSum
  rw [← Finset.sum_sub_distrib]
  apply Finset.sum_congr rfl
  intro i _
  ring

theorem altSum_mul_left (N : Nat) (a : Int) (f : Nat → Int) : altSum N (fun i => a * f i) = a * altSum N f := by
  unfold altSum
  rw [Finset.mul_sum]
  apply Finset.sum_congr rfl
  intro i _
  ring

/-- the rank of the incoming differential: `r (i − 1)`, and `0` at position `0` -/
def rIn (r : Nat → Nat) (i : Nat) : Nat := if i = 0 then 0 else r (i - 1)

theorem altSum_ranks (r : Nat → Nat) (N : Nat) :
    altSum N (fun i => (rIn r i : Int) + (r i : Int)) = (-1) ^ N * (r N : Int) := by
  induction N with
  | zero => rw [altSum_zero]; simp [rIn]
  | succ N ih =>
    rw [altSum_succ, ih]
    simp only [rIn, Nat.add_sub_cancel, if_neg (Nat.succ_ne_zero N)]
    ring

/-- `r_{i−1} + r_i ≤ n_i` makes the truncated subtractions exact -/
theorem euler_telescope (N : Nat) (n r : Nat → Nat) (hr : r N = 0) (hle : ∀ i, i ≤ N → rIn r i + r i ≤ n i) :
    altSum N (fun i => ((n i - rIn r i - r i : Nat) : Int)) = altSum N (fun i => (n i : Int)) := by
  have h1 : altSum N (fun i => ((n i - rIn r i - r i : Nat) : Int)) =
      altSum N (fun i => (n i : Int) - ((rIn r i : Int) + (r i : Int))) := by
    apply altSum_congr
    intro i hi
    have := hle i hi
    omega
  rw [h1, altSum_sub, altSum_ranks, hr]
  simp

section field
variable {K : Type*} [Field K]

/-- `D i` : rows = sources, as `KhSpec.dMat` -/
theorem euler_poincare_matrices (N : Nat) (n : Nat → Nat) (D : ∀ i, Matrix (Fin (n i)) (Fin (n (i + 1))) K)
    (hDD : ∀ i, D i * D (i + 1) = 0) (hN : n (N + 1) = 0) :
    altSum N (fun i => ((n i - rIn (fun i => (D i).rank) i - (D i).rank : Nat) : Int)) =
      altSum N (fun i => (n i : Int)) := by
  apply euler_telescope N n (fun i => (D i).rank)
  · have := (D N).rank_le_card_width
    rw [Fintype.card_fin] at this
    show (D N).rank = 0
    omega
  · intro i _
    cases i with
    | zero =>
      have := (D 0).rank_le_card_height
      rw [Fintype.card_fin] at this
      simpa [rIn] using this
    | succ k =>
      have := rank_add_rank_le_card_of_mul_eq_zero (hDD k)
      rw [Fintype.card_fin] at this
      simpa [rIn] using this

/-- the dimensions of the homology spaces of the complex, in the convention of `KhSpec.khHomology_ranks_are_homology`:
position `0` is `ker (D 0)ᵀ`, position `j + 1` is `ker (D (j+1))ᵀ / im (D j)ᵀ` (matrices acting on column vectors) -/
noncomputable def hdim (n : Nat → Nat) (D : ∀ i, Matrix (Fin (n i)) (Fin (n (i + 1))) K) : Nat → Nat
  | 0 => finrank K (Homology (0 : Matrix (Fin (n 0)) (Fin 0) K) (D 0)ᵀ)
  | j + 1 => finrank K (Homology (D j)ᵀ (D (j + 1))ᵀ)

theorem hdim_eq (n : Nat → Nat) (D : ∀ i, Matrix (Fin (n i)) (Fin (n (i + 1))) K) (hDD : ∀ i, D i * D (i + 1) = 0)
    (i : Nat) : hdim n D i = n i - rIn (fun i => (D i).rank) i - (D i).rank := by
  cases i with
  | zero =>
    show finrank K (Homology (0 : Matrix (Fin (n 0)) (Fin 0) K) (D 0)ᵀ) = _
    rw [finrank_homology _ _ (by simp), Matrix.rank_transpose, Matrix.rank_zero]
    simp [rIn]
  | succ j =>
    show finrank K (Homology (D j)ᵀ (D (j + 1))ᵀ) = _
    rw [finrank_homology _ _ (by rw [← Matrix.transpose_mul, hDD j, Matrix.transpose_zero]), Matrix.rank_transpose,
      Matrix.rank_transpose]
    simp [rIn]

theorem euler_poincare_homology (N : Nat) (n : Nat → Nat) (D : ∀ i, Matrix (Fin (n i)) (Fin (n (i + 1))) K)
    (hDD : ∀ i, D i * D (i + 1) = 0) (hN : n (N + 1) = 0) :
    altSum N (fun i => (hdim n D i : Int)) = altSum N (fun i => (n i : Int)) := by
  rw [← euler_poincare_matrices N n D hDD hN]
  apply altSum_congr
  intro i _
  rw [hdim_eq n D hDD i]

end field

/-- coefficient modes the specification covers: ℤ, ℚ, and `𝔽_q` with `2 ≤ q` -/
def CoeffOK : Coeff → Prop
  | .Fp q => 2 ≤ q
  | _ => True

/-- the rank the reference reads off a diagonal, by coefficient mode -/
def rankFn : Coeff → List ℤ → Nat
  | .Fp q => ndiv (q : ℤ)
  | _ => nz

theorem nz_le_length (d : List ℤ) : nz d ≤ d.length := List.length_filter_le _ _

theorem rankFn_le_nz (k : Coeff) (d : List ℤ) : rankFn k d ≤ nz d := by
  cases k with
  | Fp q => have := nz_eq_ndiv_add_tdiv (q : ℤ) d; show ndiv _ _ ≤ _; omega
  | Z => exact Nat.le_refl _
  | Q => exact Nat.le_refl _

theorem rankFn_nil (k : Coeff) : rankFn k [] = 0 := by
  cases k <;> rfl

section fam
variable {c : Cube} {p : Params} {G : Array (Array Gen)}

theorem rank_spec (F : Fam c p G) (k : Coeff) (hk : CoeffOK k) (i : Nat)
    (hi : i ≤ c.n) :
    ((homologyOf k G (dTab c p (gensByWeight c)))[i]!).rank =
      (G[i]!).size - rIn (fun i => rankFn k (diagAt c p G i)) i - rankFn k (diagAt c p G i) := by
  obtain ⟨g1, _, g3, _, g5⟩ := groups_spec F i hi
  have hin : ∀ f : List ℤ → Nat, f [] = 0 → f (diagIn c p G i) = rIn (fun i => f (diagAt c p G i)) i := by
    intro f hf
    unfold diagIn rIn
    split
    · exact hf
    · rfl
  cases k with
  | Z => rw [g1]; show _ - nz _ - nz _ = _; rw [hin nz rfl]; rfl
  | Q => rw [g3, hin nz rfl]; rfl
  | Fp q => rw [(g5 q hk).1, hin (ndiv (q : ℤ)) rfl]; rfl

theorem nz_pair_le (H : Ctx c p) (F : Fam c p G) (k : Nat) :
    nz (diagAt c p G k) + nz (diagAt c p G (k + 1)) ≤ (G[k + 1]!).size :=
  nz_add_nz_le _ _ (dMat_mul_T H F k) _ _ (diagAt_equivDiag_T H F k) (diagAt_equivDiag_T H F (k + 1))

theorem nz_zero_le (H : Ctx c p) (F : Fam c p G) :
    nz (diagAt c p G 0) ≤ (G[0]!).size := by
  have h1 := (diagAt_equivDiag_T H F 0).1
  have h2 := nz_le_length (diagAt c p G 0)
  omega

theorem euler_fam (H : Ctx c p) (F : Fam c p G) (k : Coeff) (hk : CoeffOK k) :
    altSum c.n (fun i => (((homologyOf k G (dTab c p (gensByWeight c)))[i]!).rank : Int)) =
      altSum c.n (fun i => ((G[i]!).size : Int)) := by
  rw [← euler_telescope c.n (fun i => (G[i]!).size) (fun i => rankFn k (diagAt c p G i))]
  · apply altSum_congr
    intro i hi
    rw [rank_spec F k hk i hi]
  · show rankFn k (diagAt c p G c.n) = 0
    rw [diagAt_nil F c.n (Nat.le_refl _), rankFn_nil]
  · intro i _
    cases i with
    | zero =>
      have h1 := nz_zero_le H F
      have h2 := rankFn_le_nz k (diagAt c p G 0)
      simp only [rIn, if_true]
      omega
    | succ j =>
      have h1 := nz_pair_le H F j
      have h2 := rankFn_le_nz k (diagAt c p G j)
      have h3 := rankFn_le_nz k (diagAt c p G (j + 1))
      simp only [rIn, Nat.add_sub_cancel, if_neg (Nat.succ_ne_zero j)]
      omega

end fam

open Yuiv.C18Bridge (chainRank chainRankH)

theorem size_filter_gbw (c : Cube) (P : Gen → Bool) (w : Nat) :
    (((gensByWeight c)[w]!).filter P).size =
      ∑ s ∈ Finset.range (2 ^ c.n), if popcount s c.n = w then ((c.gensAt s).filter P).size else 0 := by
  rw [← Array.length_toList, Array.toList_filter, gensByWeight_toList]
  generalize 2 ^ c.n = m
  induction m with
  | zero => rfl
  | succ m ih =>
    rw [List.range_succ, List.filter_append, List.flatMap_append, List.filter_append, List.length_append, ih,
      Finset.sum_range_succ]
    by_cases hw : popcount m c.n = w
    · simp only [hw, beq_self_eq_true, List.filter_cons_of_pos, List.filter_nil, List.flatMap_cons, List.flatMap_nil,
        List.append_nil, if_true, ← Array.toList_filter, Array.length_toList]
    · simp [hw]

theorem size_filter_const {α : Type} (a : Array α) (b : Bool) :
    (a.filter (fun _ => b)).size = if b = true then a.size else 0 := by
  cases b <;> simp

theorem size_filter_and_const {α : Type} (a : Array α) (b : Bool) (P : α → Bool) :
    (a.filter (fun g => b && P g)).size = if b = true then (a.filter P).size else 0 := by
  cases b <;> simp

theorem size_gbw (l : Link) (p : Params) (nNeg : Nat) (w : Nat) :
    ((gensByWeight (mkCube l p))[w]!).size = chainRankH l p nNeg (-(nNeg : Int) + (w : Int)) := by
  have h := size_filter_gbw (mkCube l p) (fun _ => true) w
  have e : ∀ a : Array Gen, (a.filter (fun _ => true)).size = a.size := fun a => by simp
  simp only [e] at h
  rw [h]
  unfold chainRankH
  apply Finset.sum_congr rfl
  intro s _
  rw [size_filter_const]
  simp

theorem chainRank_slice (l : Link) (p : Params) (nPos nNeg : Nat) (w : Nat) (j : Int) :
    chainRank l p nPos nNeg (-(nNeg : Int) + (w : Int)) j =
      ∑ s ∈ Finset.range (2 ^ (mkCube l p).n), if popcount s (mkCube l p).n = w then
        (((mkCube l p).gensAt s).filter (fun g =>
          decide ((mkCube l p).qDeg ((nPos : Int) - 2 * nNeg + (if p.reduced then 1 else 0)) g = j))).size else 0 := by
  unfold chainRank
  apply Finset.sum_congr rfl
  intro s _
  rw [size_filter_and_const]
  simp

theorem size_gensQ (l : Link) (p : Params) (nPos nNeg : Nat) (w : Nat) (j : Int) :
    ((gensQ (mkCube l p) ((nPos : Int) - 2 * nNeg + (if p.reduced then 1 else 0)) (gensByWeight (mkCube l p)) j)[w]!).size =
      chainRank l p nPos nNeg (-(nNeg : Int) + (w : Int)) j := by
  rw [gensQ_getElem, chainRank_slice]
  exact size_filter_gbw (mkCube l p) _ w

/-- the dimension in bidegree `(i, j)` read off a cell list (`j = none`: the unbigraded computation): the sum of the
reported ranks of the cells in that bidegree — `0` if there is no such cell -/
def cellRank (cells : List (Int × Option Int × Group)) (i : Int) (j : Option Int) : Nat :=
  (cells.map (fun a => if a.1 = i ∧ a.2.1 = j then a.2.2.rank else 0)).sum

/-- `(−1)^x` for an integer `x`, as `C04.chiChain` computes it -/
def sgn (x : Int) : Int := if x % 2 == 0 then 1 else -1

/-- the graded Euler characteristic `Σ (−1)^i q^j rank H^{i,j}` of a bigraded cell list, as a coefficient list -/
def chiHom (cells : List (Int × Option Int × Group)) : C04.LP :=
  cells.foldl (fun acc a => match a.2.1 with
    | some j => C04.LP.addTerm j (sgn a.1 * (a.2.2.rank : Int)) acc
    | none => acc) []

theorem sgn_succ (x : Int) : sgn (x + 1) = -sgn x := by
  unfold sgn
  rcases Int.emod_two_eq_zero_or_one x with h | h
  · rw [h, show (x + 1) % 2 = 1 by omega]
    rfl
  · rw [h, show (x + 1) % 2 = 0 by omega]
    rfl

theorem sgn_add_nat (x : Int) (i : Nat) : sgn (x + (i : Int)) = sgn x * (-1) ^ i := by
  induction i with
  | zero => simp
  | succ i ih =>
    rw [Nat.cast_succ, ← add_assoc, sgn_succ, ih, pow_succ]
    ring

theorem sgn_mul_self (x : Int) : sgn x * sgn x = 1 := by
  unfold sgn
  split <;> rfl

section sums
variable {M : Type} [AddCommMonoid M]

theorem sum_map_filterMap {α β : Type} (f : α → Option β) (g : β → M) (L : List α) :
    ((L.filterMap f).map g).sum = (L.map (fun x => match f x with | some b => g b | none => 0)).sum := by
  induction L with
  | nil => rfl
  | cons x L ih =>
    rw [List.filterMap_cons, List.map_cons, List.sum_cons]
    cases h : f x with
    | none => simp only [ih, zero_add]
    | some b => simp only [List.map_cons, List.sum_cons, ih]

theorem sum_map_flatMap {α β : Type} (F : α → List β) (g : β → M) (qs : List α) :
    ((qs.flatMap F).map g).sum = (qs.map (fun q => ((F q).map g).sum)).sum := by
  induction qs with
  | nil => rfl
  | cons q qs ih => rw [List.flatMap_cons, List.map_append, List.sum_append, ih]; rfl

theorem sum_map_single {α : Type} [DecidableEq α] (qs : List α) (hnd : qs.Nodup) (k : α) (f : α → M) :
    (qs.map (fun q => if q = k then f q else 0)).sum = if k ∈ qs then f k else 0 := by
  induction qs with
  | nil => rfl
  | cons q qs ih =>
    rw [List.nodup_cons] at hnd
    rw [List.map_cons, List.sum_cons, ih hnd.2]
    by_cases h : q = k
    · subst h
      simp [hnd.1]
    · have h' : ¬ k = q := fun e => h e.symm
      simp [h, h']

theorem sum_cellsUn (φ : Int × Option Int × Group → M) (hφ : ∀ x j g, g.rank = 0 → φ (x, j, g) = 0)
    (h0 : Int) (j : Option Int) (hs : Array Group) :
    ((cellsUn h0 j hs).map φ).sum = ∑ i ∈ Finset.range hs.size, φ (h0 + (i : Int), j, hs[i]!) := by
  unfold cellsUn
  rw [sum_map_filterMap, sum_map_range]
  apply Finset.sum_congr rfl
  intro i _
  split
  · rename_i b hb
    split at hb
    · injection hb with hb; rw [← hb]
    · exact absurd hb (by simp)
  · rename_i hb
    split at hb
    · exact absurd hb (by simp)
    · rename_i hc
      rw [hφ]
      simp only [Bool.or_eq_true, bne_iff_ne, ne_eq, not_or, not_not] at hc
      exact hc.1

end sums

theorem cellRank_cons (a : Int × Option Int × Group) (cells : List (Int × Option Int × Group)) (i : Int)
    (j : Option Int) :
    cellRank (a :: cells) i j = (if a.1 = i ∧ a.2.1 = j then a.2.2.rank else 0) + cellRank cells i j :=
  List.sum_cons

theorem cellRank_cellsUn (h0 : Int) (j : Option Int) (hs : Array Group) (i : Nat) (hi : i < hs.size) :
    cellRank (cellsUn h0 j hs) (h0 + (i : Int)) j = (hs[i]!).rank := by
  unfold cellRank
  rw [sum_cellsUn _ (by intro x j g h; simp [h])]
  simp only [add_right_inj, Nat.cast_inj, and_true]
  rw [Finset.sum_ite_eq' (Finset.range hs.size) i (fun k => (hs[k]!).rank), if_pos (Finset.mem_range.mpr hi)]

theorem cellRank_bigraded (qs : List Int) (hnd : qs.Nodup) (h0 : Int) (T : Int → Array Group) (N : Nat)
    (hT : ∀ q, (T q).size = N + 1) (hz : ∀ q, q ∉ qs → ∀ i : Nat, ((T q)[i]!).rank = 0) (i : Nat) (hi : i ≤ N) (j : Int) :
    cellRank (qs.flatMap (fun q => cellsUn h0 (some q) (T q))) (h0 + (i : Int)) (some j) = ((T j)[i]!).rank := by
  unfold cellRank
  rw [sum_map_flatMap]
  have e : ∀ q, ((cellsUn h0 (some q) (T q)).map
      (fun a => if a.1 = h0 + (i : Int) ∧ a.2.1 = some j then a.2.2.rank else 0)).sum =
      if q = j then ((T q)[i]!).rank else 0 := by
    intro q
    rw [sum_cellsUn _ (by intro x j g h; simp [h])]
    by_cases hq : q = j
    · simp only [hq, add_right_inj, Nat.cast_inj, and_true, if_true]
      rw [Finset.sum_ite_eq' (Finset.range (T j).size) i (fun k => ((T j)[k]!).rank),
        if_pos (Finset.mem_range.mpr (by rw [hT]; omega))]
    · simp [hq]
  simp only [e]
  rw [sum_map_single qs hnd j (fun q : Int => ((T q)[i]!).rank)]
  split
  · rfl
  · rename_i h
    exact (hz j h i).symm

open Yuiv.C04 Yuiv.C04Inv LaurentPolynomial in
theorem coeffAt_addTerm (e c : Int) (a : LP) (k : Int) :
    coeffAt (LP.addTerm e c a) k = coeffAt a k + (if e = k then c else 0) := by
  rw [← ev_coeff, ev_addTerm, AddMonoidAlgebra.coeff_add, Finsupp.add_apply, ev_coeff, zpow_T]
  have : ((c : ℤ) : ℤ[T;T⁻¹]) = C c := by simp
  rw [this, ← single_eq_C_mul_T, AddMonoidAlgebra.coeff_single, Finsupp.single_apply]

open Yuiv.C04 Yuiv.C04Inv in
theorem coeffAt_foldl {α : Type} (G : LP → α → LP) (δ : α → Int) (k : Int)
    (hG : ∀ acc x, coeffAt (G acc x) k = coeffAt acc k + δ x) (xs : List α) (acc : LP) :
    coeffAt (xs.foldl G acc) k = coeffAt acc k + (xs.map δ).sum := by
  induction xs generalizing acc with
  | nil => simp
  | cons x xs ih => rw [List.foldl_cons, ih, hG, List.map_cons, List.sum_cons]; ring

theorem sum_map_ite_const {α : Type} (P : α → Bool) (a : Int) (L : List α) :
    (L.map (fun g => if P g = true then a else 0)).sum = a * ((L.filter P).length : Int) := by
  induction L with
  | nil => simp
  | cons x L ih =>
    rw [List.map_cons, List.sum_cons, ih, List.filter_cons]
    cases P x <;> first | (simp; done) | (simp; ring)

open Yuiv.C04 Yuiv.C04Inv in
theorem coeffAt_chiChain (l : Link) (signs : Array Int) (k : Int) :
    coeffAt (chiChain l signs) k =
      ∑ s ∈ Finset.range (2 ^ (mkCube l ⟨0, 0, false⟩).n),
        sgn (h0Of signs + (popcount s (mkCube l ⟨0, 0, false⟩).n : Int)) *
          ((((mkCube l ⟨0, 0, false⟩).gensAt s).filter (fun g =>
            decide ((mkCube l ⟨0, 0, false⟩).qDeg (q0Of signs ⟨0, 0, false⟩) g = k))).size : Int) := by
  unfold chiChain
  dsimp only
  rw [coeffAt_foldl _ (fun s => sgn (h0Of signs + (popcount s (mkCube l ⟨0, 0, false⟩).n : Int)) *
          ((((mkCube l ⟨0, 0, false⟩).gensAt s).filter (fun g =>
            decide ((mkCube l ⟨0, 0, false⟩).qDeg (q0Of signs ⟨0, 0, false⟩) g = k))).size : Int)) k, sum_map_range]
  · show (0 : Int) + _ = _
    rw [zero_add]
  · intro acc s
    rw [← Array.foldl_toList, coeffAt_foldl _ (fun g => if decide ((mkCube l ⟨0, 0, false⟩).qDeg (q0Of signs ⟨0, 0, false⟩) g = k) = true
        then sgn (h0Of signs + (popcount s (mkCube l ⟨0, 0, false⟩).n : Int)) else 0) k]
    · rw [sum_map_ite_const, ← Array.toList_filter, Array.length_toList]
    · intro acc g
      rw [coeffAt_addTerm]
      simp only [decide_eq_true_eq]
      have e : q0Of signs ⟨0, 0, false⟩ = ((signs.filter (· > 0)).size : Int) - 2 * ((signs.filter (· < 0)).size : Int) := by
        unfold q0Of nPosOf nNegOf; simp
      rw [e]
      rfl

theorem sum_weights (n : Nat) (N : Nat) (h0 : Int) (pc : Nat → Nat) (hpc : ∀ s, pc s ≤ n) (cnt : Nat → Nat) :
    ∑ i ∈ Finset.range (n + 1), sgn (h0 + (i : Int)) *
        ((∑ s ∈ Finset.range N, if pc s = i then cnt s else 0 : Nat) : Int) =
      ∑ s ∈ Finset.range N, sgn (h0 + (pc s : Int)) * (cnt s : Int) := by
  simp only [Nat.cast_sum, Finset.mul_sum]
  rw [Finset.sum_comm]
  apply Finset.sum_congr rfl
  intro s _
  rw [Finset.sum_eq_single (pc s)]
  · simp
  · intro i _ hi
    simp [Ne.symm hi]
  · intro h
    exact absurd (Finset.mem_range.mpr (by have := hpc s; omega)) h

open Yuiv.C04 Yuiv.C04Inv in
theorem canon_chiHom (cells : List (Int × Option Int × Group)) : Canon (chiHom cells) := by
  unfold chiHom
  refine canon_foldl _ ?_ _ [] trivial
  intro acc a h
  split
  · exact canon_addTerm _ _ _ h
  · exact h

open Yuiv.C04 Yuiv.C04Inv in
theorem coeffAt_chiHom (h0 : Int) (N : Nat) (k : Int) (cells : List (Int × Option Int × Group))
    (hc : ∀ a ∈ cells, ∃ i : Nat, i ≤ N ∧ a.1 = h0 + (i : Int)) :
    coeffAt (chiHom cells) k =
      ∑ i ∈ Finset.range (N + 1), sgn (h0 + (i : Int)) * (cellRank cells (h0 + (i : Int)) (some k) : Int) := by
  unfold chiHom
  rw [coeffAt_foldl _ (fun a => if a.2.1 = some k then sgn a.1 * (a.2.2.rank : Int) else 0) k]
  · show (0 : Int) + _ = _
    rw [zero_add]
    induction cells with
    | nil => simp [cellRank]
    | cons a cells ih =>
      obtain ⟨i0, hi0, ha⟩ := hc a List.mem_cons_self
      rw [List.map_cons, List.sum_cons, ih (fun b hb => hc b (List.mem_cons_of_mem _ hb))]
      simp only [cellRank_cons, Nat.cast_add, mul_add, Finset.sum_add_distrib]
      congr 1
      rw [Finset.sum_eq_single i0, ha]
      · split <;> simp [*]
      · intro i _ hi
        rw [ha, if_neg (by omega)]
        simp
      · intro h
        exact absurd (Finset.mem_range.mpr (by omega)) h
  · intro acc a
    split
    · rename_i j hj
      rw [coeffAt_addTerm, hj]
      simp only [Option.some.injEq]
    · rename_i hj
      rw [hj]
      simp

theorem sum_sgn (N : Nat) (h0 : Int) (f : Nat → Int) :
    ∑ i ∈ Finset.range (N + 1), sgn (h0 + (i : Int)) * f i = sgn h0 * altSum N f := by
  unfold altSum
  rw [Finset.mul_sum]
  apply Finset.sum_congr rfl
  intro i _
  rw [sgn_add_nat]
  ring

section core
variable {c0 c : Cube} {p : Params}

theorem gensQ_empty (q0 : Int) (gens : Array (Array Gen)) (q : Int) (hq : q ∉ (qsOf c q0 gens).toList) (i : Nat) :
    ((gensQ c q0 gens q)[i]!).size = 0 := by
  rw [← Array.length_toList, List.length_eq_zero_iff, List.eq_nil_iff_forall_not_mem]
  intro g hg
  rw [mem_gensQ] at hg
  apply hq
  rw [mem_qsOf]
  by_cases hi : i < gens.size
  · refine ⟨gens[i]!, ?_, g, hg.1, hg.2⟩
    rw [getElem!_pos gens i hi]
    exact Array.getElem_mem_toList hi
  · rw [getElem!_neg gens i hi] at hg
    have e : (default : Array Gen) = #[] := rfl
    rw [e] at hg
    exact absurd hg.1 (by simp)

theorem ok_cells {x : Except Failure Result} {cells : List (Int × Option Int × Group)} (h : x = .ok ⟨cells.toArray⟩) :
    ∃ res, x = .ok res ∧ res.cells.toList = cells :=
  ⟨_, h, rfl⟩

variable {l : Link}

/-- `c0` = the cube itself in the unreduced theory, the unreduced cube in the reduced theory -/
theorem bigraded_core (H : Ctx c0 p) (signs : Array Int)
    (F : ∀ q, Fam c0 p (gensQ (mkCube l p) (q0Of signs p) (gensByWeight (mkCube l p)) q)) (k : Coeff) (hk : CoeffOK k)
    {cells : List (Int × Option Int × Group)}
    (hc : cells = (qsOf (mkCube l p) (q0Of signs p) (gensByWeight (mkCube l p))).toList.flatMap (fun q =>
      cellsUn (h0Of signs) (some q)
        (homologyOf k (gensQ (mkCube l p) (q0Of signs p) (gensByWeight (mkCube l p)) q)
          (dTab c0 p (gensByWeight c0))))) :
    (∀ a ∈ cells, ∃ (i : Nat) (q : Int), i ≤ c0.n ∧ a.1 = h0Of signs + (i : Int) ∧ a.2.1 = some q) ∧
    ∀ j : Int,
      (∀ i : Nat, i ≤ c0.n → cellRank cells (h0Of signs + (i : Int)) (some j) =
        ((homologyOf k (gensQ (mkCube l p) (q0Of signs p) (gensByWeight (mkCube l p)) j)
          (dTab c0 p (gensByWeight c0)))[i]!).rank) ∧
      altSum c0.n (fun i => (cellRank cells (h0Of signs + (i : Int)) (some j) : Int)) =
        altSum c0.n (fun i => (chainRank l p (nPosOf signs) (nNegOf signs) (h0Of signs + (i : Int)) j : Int)) := by
  rw [hc]
  have hT := fun q => (homologyOf_size k _ (dTab c0 p (gensByWeight c0))).trans (F q).size
  constructor
  · intro a ha
    obtain ⟨q, _, ha⟩ := List.mem_flatMap.mp ha
    obtain ⟨h1, _, i, hi, h2, _⟩ := mem_cellsUn _ _ _ a ha
    rw [hT q] at hi
    exact ⟨i, q, Nat.lt_succ_iff.mp hi, h2, h1⟩
  · have hz : ∀ q, q ∉ (qsOf (mkCube l p) (q0Of signs p) (gensByWeight (mkCube l p))).toList → ∀ i : Nat,
        ((homologyOf k (gensQ (mkCube l p) (q0Of signs p) (gensByWeight (mkCube l p)) q)
          (dTab c0 p (gensByWeight c0)))[i]!).rank = 0 := by
      intro q hq i
      by_cases hi : i ≤ c0.n
      · rw [rank_spec (F q) k hk i hi, gensQ_empty _ _ q hq i, Nat.zero_sub, Nat.zero_sub]
      · rw [getElem!_neg _ i (by rw [hT]; omega)]
        rfl
    intro j
    have h1 := fun i hi => cellRank_bigraded _ (qsOf_nodup _ _ _) (h0Of signs) _ c0.n hT hz i hi j
    refine ⟨h1, ?_⟩
    rw [altSum_congr _ _ _ (fun i hi => congrArg Nat.cast (h1 i hi)), euler_fam H (F j) k hk]
    exact altSum_congr _ _ _ (fun i _ => congrArg Nat.cast (size_gensQ l p (nPosOf signs) (nNegOf signs) i j))

theorem unbigraded_core (H : Ctx c0 p) (signs : Array Int) (F : Fam c0 p (gensByWeight (mkCube l p))) (k : Coeff)
    (hk : CoeffOK k) {cells : List (Int × Option Int × Group)}
    (hc : cells = cellsUn (h0Of signs) none
      (homologyOf k (gensByWeight (mkCube l p)) (dTab c0 p (gensByWeight c0)))) :
    (∀ a ∈ cells, ∃ i : Nat, i ≤ c0.n ∧ a.1 = h0Of signs + (i : Int) ∧ a.2.1 = none) ∧
    (∀ i : Nat, i ≤ c0.n → cellRank cells (h0Of signs + (i : Int)) none =
      ((homologyOf k (gensByWeight (mkCube l p)) (dTab c0 p (gensByWeight c0)))[i]!).rank) ∧
    altSum c0.n (fun i => (cellRank cells (h0Of signs + (i : Int)) none : Int)) =
      altSum c0.n (fun i => (chainRankH l p (nNegOf signs) (h0Of signs + (i : Int)) : Int)) := by
  rw [hc]
  have hT := (homologyOf_size k _ (dTab c0 p (gensByWeight c0))).trans F.size
  have h1 : ∀ i : Nat, i ≤ c0.n → cellRank _ (h0Of signs + (i : Int)) none = _ := fun i hi =>
    cellRank_cellsUn (h0Of signs) none _ i (by rw [hT]; omega)
  refine ⟨fun a ha => ?_, h1, ?_⟩
  · obtain ⟨h1, _, i, hi, h2, _⟩ := mem_cellsUn _ _ _ a ha
    rw [hT] at hi
    exact ⟨i, Nat.lt_succ_iff.mp hi, h2, h1⟩
  · rw [altSum_congr _ _ _ (fun i hi => congrArg Nat.cast (h1 i hi)),
      euler_fam H F k hk]
    exact altSum_congr _ _ _ (fun i _ => congrArg Nat.cast (size_gbw l p (nNegOf signs) i))

end core

end Yuiv.C04Euler
