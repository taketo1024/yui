import Yuiv.Proofs.C04InvSort
import Yuiv.Proofs.KhSpecRows
import Yuiv.Proofs.KhSnfDefs
/-
KhSpec — core `Array.qsort` SORTS when the comparison is a strict weak order, and `KhRef.normalizeRow` produces
well-formed rows.  `Frame` says that the elements of a segment stay inside it, so no permutation is needed to carry facts
through the recursion; the partition point is `< hi` when `lo < hi`, which makes the branch `mid ≥ hi` of `qsort.sort` dead.
-/
open private Array.qsort.sort Array.qpartition.loop in Array.qsort Array.qpartition

namespace Yuiv.KhSpec

/-- `as'` agrees with `as` outside `[lo, hi]`; predicates true on the segment of `as` are true on the segment of `as'` -/
structure Frame {α : Type} {n : Nat} (as as' : Vector α n) (lo hi : Nat) : Prop where
  out : ∀ j (h : j < n), (j < lo ∨ hi < j) → as'[j] = as[j]
  seg : ∀ P : α → Prop, (∀ j (h : j < n), lo ≤ j → j ≤ hi → P as[j]) → ∀ j (h : j < n), lo ≤ j → j ≤ hi → P as'[j]

theorem Frame.refl {α : Type} {n : Nat} (as : Vector α n) (lo hi : Nat) : Frame as as lo hi :=
  ⟨fun _ _ _ => rfl, fun _ h => h⟩

theorem Frame.trans {α : Type} {n : Nat} {a b c : Vector α n} {lo hi : Nat}
    (h1 : Frame a b lo hi) (h2 : Frame b c lo hi) : Frame a c lo hi :=
  ⟨fun j h hj => (h2.out j h hj).trans (h1.out j h hj), fun P hP => h2.seg P (h1.seg P hP)⟩

theorem Frame.mono {α : Type} {n : Nat} {a b : Vector α n} {lo hi lo' hi' : Nat}
    (h1 : Frame a b lo' hi') (hlo : lo ≤ lo') (hhi : hi' ≤ hi) : Frame a b lo hi := by
  refine ⟨fun j h hj => h1.out j h (by omega), fun P hP j h hj1 hj2 => ?_⟩
  by_cases hc : lo' ≤ j ∧ j ≤ hi'
  · exact h1.seg P (fun j h a b => hP j h (by omega) (by omega)) j h hc.1 hc.2
  · rw [h1.out j h (by omega)]; exact hP j h hj1 hj2

theorem Frame.swap {α : Type} {n : Nat} (as : Vector α n) (lo hi i k : Nat) (hi' : i < n) (hk : k < n)
    (h1 : lo ≤ i) (h2 : i ≤ hi) (h3 : lo ≤ k) (h4 : k ≤ hi) : Frame as (as.swap i k hi' hk) lo hi := by
  refine ⟨fun j h hj => ?_, fun P hP j h hj1 hj2 => ?_⟩
  · rw [Vector.getElem_swap_of_ne (by omega) (by omega)]
  · rw [Vector.getElem_swap]
    split
    · exact hP k hk h3 h4
    · split
      · exact hP i hi' h1 h2
      · exact hP j h hj1 hj2

theorem Frame.ite_swap {α : Type} {n : Nat} (c : Prop) [Decidable c] (as : Vector α n) (lo hi i k : Nat)
    (hi' : i < n) (hk : k < n) (h1 : lo ≤ i) (h2 : i ≤ hi) (h3 : lo ≤ k) (h4 : k ≤ hi) :
    Frame as (if c then as.swap i k hi' hk else as) lo hi := by
  split
  · exact Frame.swap as lo hi i k hi' hk h1 h2 h3 h4
  · exact Frame.refl ..

/-- `lt` is a strict weak order: asymmetric, and `a ≤ b :⇔ ¬ b < a` is transitive -/
structure StrictWeak {α : Type} (lt : α → α → Bool) : Prop where
  asymm : ∀ a b, lt a b = true → lt b a = false
  trans : ∀ a b c, lt b a = false → lt c b = false → lt c a = false

theorem StrictWeak.irrefl {α : Type} {lt : α → α → Bool} (sw : StrictWeak lt) (a : α) : lt a a = false :=
  Bool.eq_false_iff.mpr fun h => Bool.false_ne_true ((sw.asymm a a h).symm.trans h)

section
variable {α : Type} (lt : α → α → Bool)

/-- what the partition loop has established when it stops at `m` with array `as'`: keys left of `m` are below the
pivot `p`, keys right of `m` up to `hi` are not, and `p` sits at `m` -/
structure PartSpec {n : Nat} (as : Vector α n) (lo hi : Nat) (p : α) (m : Nat) (as' : Vector α n) : Prop where
  below : ∀ j (h : j < n), lo ≤ j → j < m → lt as'[j] p = true
  above : ∀ j (h : j < n), m < j → j ≤ hi → lt as'[j] p = false
  piv : ∀ hm : m < n, as'[m] = p
  frame : Frame as as' lo hi

theorem loop_spec {n : Nat} (lo hi : Nat) (hhi : hi < n) (pivot : α) (as : Vector α n) (i k : Nat)
    (ilo : lo ≤ i) (ik : i ≤ k) (w : k ≤ hi) :
    (∀ j (h : j < n), lo ≤ j → j < i → lt as[j] pivot = true) →
    (∀ j (h : j < n), i ≤ j → j < k → lt as[j] pivot = false) →
    as[hi] = pivot →
    PartSpec lt as lo hi pivot (Array.qpartition.loop lt lo hi hhi pivot as i k ilo ik w).1.val
      (Array.qpartition.loop lt lo hi hhi pivot as i k ilo ik w).2 := by
  fun_induction Array.qpartition.loop lt lo hi hhi pivot as i k ilo ik w with
  | case1 as i k ilo ik w h hlt ih =>
    intro H1 H2 H3
    have hin : i < n := by omega
    have hkn : k < n := by omega
    have := ih ?_ ?_ ?_
    · obtain ⟨a, b, c, d⟩ := this
      exact ⟨a, b, c, (Frame.swap as lo hi i k hin hkn ilo (Nat.le_trans ik w) (Nat.le_trans ilo ik) w).trans d⟩
    · intro j hj h1 h2
      rw [Vector.getElem_swap]
      split
      · exact hlt
      · split
        · omega
        · exact H1 j hj h1 (by omega)
    · intro j hj h1 h2
      rw [Vector.getElem_swap]
      split
      · omega
      · split
        · exact H2 i hin (Nat.le_refl i) (by omega)
        · exact H2 j hj (by omega) (by omega)
    · rw [Vector.getElem_swap_of_ne (by omega) (by omega)]; exact H3
  | case2 as i k ilo ik w h hlt ih =>
    intro H1 H2 H3
    apply ih H1 ?_ H3
    intro j hj h1 h2
    by_cases hjk : j = k
    · subst hjk; exact Bool.not_eq_true _ ▸ hlt
    · exact H2 j hj h1 (by omega)
  | case3 as i k ilo ik w h =>
    intro H1 H2 H3
    have hk : k = hi := by omega
    subst hk
    have hin : i < n := by omega
    refine ⟨?_, ?_, ?_, Frame.swap as lo k i k hin hhi ilo ik (Nat.le_trans ilo ik) (Nat.le_refl k)⟩
    · intro j hj h1 h2
      dsimp only at h2
      rw [Vector.getElem_swap_of_ne (by omega) (by omega)]
      exact H1 j hj h1 h2
    · intro j hj h1 h2
      dsimp only at h1
      rw [Vector.getElem_swap]
      split
      · omega
      · split
        · exact H2 i hin (Nat.le_refl i) (by omega)
        · exact H2 j hj (by omega) (by omega)
    · intro _
      dsimp only
      rw [Vector.getElem_swap_left]; exact H3

/-- the loop stops left of `hi` as soon as some key in `[i, hi)` is not below the pivot -/
theorem loop_lt {n : Nat} (lo hi : Nat) (hhi : hi < n) (pivot : α) (as : Vector α n) (i k : Nat)
    (ilo : lo ≤ i) (ik : i ≤ k) (w : k ≤ hi) :
    (∃ j, ∃ h : j < n, i ≤ j ∧ j < hi ∧ lt as[j] pivot = false) →
    (Array.qpartition.loop lt lo hi hhi pivot as i k ilo ik w).1.val < hi := by
  fun_induction Array.qpartition.loop lt lo hi hhi pivot as i k ilo ik w with
  | case1 as i k ilo ik w h hlt ih =>
    rintro ⟨j, hj, h1, h2, h3⟩
    apply ih
    have hjk : j ≠ k := by rintro rfl; exact Bool.false_ne_true (h3.symm.trans hlt)
    by_cases hji : j = i
    · subst hji
      refine ⟨k, by omega, by omega, h, ?_⟩
      rw [Vector.getElem_swap_right]; exact h3
    · refine ⟨j, hj, by omega, h2, ?_⟩
      rw [Vector.getElem_swap_of_ne hji hjk]; exact h3
  | case2 as i k ilo ik w h hlt ih =>
    intro H
    exact ih H
  | case3 as i k ilo ik w h =>
    rintro ⟨j, hj, h1, h2, h3⟩
    dsimp only
    omega

theorem part_core {n : Nat} (as as3 : Vector α n) (lo hi : Nat) (w : lo ≤ hi) (hlo : lo < n) (hhi : hi < n)
    (hF : Frame as as3 lo hi) (hmid : lt as3[(lo + hi) / 2] as3[hi] = false) :
    PartSpec lt as lo hi as3[hi]
      (Array.qpartition.loop lt lo hi hhi as3[hi] as3 lo lo (Nat.le_refl _) (Nat.le_refl _) w).1.val
      (Array.qpartition.loop lt lo hi hhi as3[hi] as3 lo lo (Nat.le_refl _) (Nat.le_refl _) w).2 ∧
    (lo < hi →
      (Array.qpartition.loop lt lo hi hhi as3[hi] as3 lo lo (Nat.le_refl _) (Nat.le_refl _) w).1.val < hi) := by
  obtain ⟨a, b, c, d⟩ := loop_spec lt lo hi hhi as3[hi] as3 lo lo (Nat.le_refl _) (Nat.le_refl _) w
    (fun j h h1 h2 => by omega) (fun j h h1 h2 => by omega) rfl
  refine ⟨⟨a, b, c, hF.trans d⟩, fun hlt => ?_⟩
  apply loop_lt
  exact ⟨(lo + hi) / 2, by omega, by omega, by omega, hmid⟩

variable {lt} (sw : StrictWeak lt)
include sw

/-- after the median-of-three swaps the key at `hi` (the pivot) is not above the key at `mid` -/
theorem med3 {n : Nat} (as : Vector α n) (mid hi : Nat) (hm : mid < n) (hhi : hi < n) :
    lt (if lt as[mid] as[hi] then as.swap mid hi else as)[mid]
      (if lt as[mid] as[hi] then as.swap mid hi else as)[hi] = false := by
  split
  · rename_i h
    rw [Vector.getElem_swap_right, Vector.getElem_swap_left]; exact sw.asymm _ _ h
  · rename_i h
    exact Bool.not_eq_true _ ▸ h

/-- what `qpartition as lo hi` returns, for some pivot `p`; `m < hi` makes the branch `mid ≥ hi` of `qsort.sort`
dead -/
theorem qpartition_spec {n : Nat} (as : Vector α n) (lo hi : Nat) (w : lo ≤ hi) (hlo : lo < n) (hhi : hi < n) :
    ∃ p, PartSpec lt as lo hi p (Array.qpartition as lt lo hi w hlo hhi).1.val
        (Array.qpartition as lt lo hi w hlo hhi).2 ∧
      (lo < hi → (Array.qpartition as lt lo hi w hlo hhi).1.val < hi) := by
  unfold Array.qpartition
  dsimp only
  refine ⟨_, part_core lt as _ lo hi w hlo hhi ?_ (med3 sw ..)⟩
  refine Frame.trans ?_ (Frame.ite_swap _ _ _ _ _ _ _ _ ?_ ?_ ?_ ?_)
  refine Frame.trans ?_ (Frame.ite_swap _ _ _ _ _ _ _ _ ?_ ?_ ?_ ?_)
  refine Frame.ite_swap _ _ _ _ _ _ _ _ ?_ ?_ ?_ ?_
  all_goals omega

theorem sort_spec {n : Nat} (as : Vector α n) (lo hi : Nat) (w : lo ≤ hi) (hlo : lo < n) (hhi : hi < n) :
    (∀ i j (hi' : i < n) (hj : j < n), lo ≤ i → i ≤ j → j ≤ hi →
      lt (Array.qsort.sort lt as lo hi w hlo hhi)[j] (Array.qsort.sort lt as lo hi w hlo hhi)[i] = false) ∧
    Frame as (Array.qsort.sort lt as lo hi w hlo hhi) lo hi := by
  fun_induction Array.qsort.sort lt as lo hi w hlo hhi with
  | case1 as lo hi w hlo hhi h1 mid hmid as' hx h2 =>
    obtain ⟨p, -, hm⟩ := qpartition_spec sw as lo hi w hlo hhi
    rw [hx] at hm
    have := hm h1
    dsimp only at this
    omega
  | case2 as lo hi w hlo hhi h1 mid hmid as' hx h2 ih3 ih2 ih1 =>
    obtain ⟨p, hp, -⟩ := qpartition_spec sw as lo hi w hlo hhi
    rw [hx] at hp
    dsimp only at hp
    clear ih3
    obtain ⟨s2, f2⟩ := ih2
    obtain ⟨s1, f1⟩ := ih1
    generalize Array.qsort.sort lt as' lo mid _ _ _ = as2 at s2 f2 s1 f1 ⊢
    generalize Array.qsort.sort lt as2 (mid + 1) hi _ _ _ = as3 at s1 f1 ⊢
    have hmn : mid < n := by omega
    refine ⟨?_, (hp.frame.trans (f2.mono (Nat.le_refl _) (by omega))).trans (f1.mono (by omega) (Nat.le_refl _))⟩
    -- everything in `[lo, mid]` of `as2` is `≤ p`, everything in `[mid+1, hi]` of `as3` is `≥ p`
    have hle2 : ∀ j (h : j < n), lo ≤ j → j ≤ mid → lt p as2[j] = false := by
      apply f2.seg (fun x => lt p x = false)
      intro j h a b
      by_cases hjm : j = mid
      · subst hjm; rw [hp.piv hmn]; exact sw.irrefl p
      · exact sw.asymm _ _ (hp.below j h a (by omega))
    have hge3 : ∀ j (h : j < n), mid + 1 ≤ j → j ≤ hi → lt as3[j] p = false := by
      apply f1.seg (fun x => lt x p = false)
      intro j h a b
      rw [f2.out j h (by omega)]
      exact hp.above j h (by omega) b
    intro i j hi' hj a b c
    by_cases hjm : j ≤ mid
    · rw [f1.out i hi' (by omega), f1.out j hj (by omega)]
      exact s2 i j hi' hj a b hjm
    · by_cases him : mid + 1 ≤ i
      · exact s1 i j hi' hj him b c
      · rw [f1.out i hi' (by omega)]
        exact sw.trans _ _ _ (hle2 i hi' a (by omega)) (hge3 j hj (by omega) c)
  | case3 as lo hi w hlo hhi h1 =>
    refine ⟨?_, Frame.refl ..⟩
    intro i j hi' hj a b c
    have : i = j := by omega
    subst this; exact sw.irrefl _

end

theorem qsort_sorted {α : Type} {lt : α → α → Bool} (sw : StrictWeak lt) (as : Array α) :
    (as.qsort lt).toList.Pairwise (fun a b => lt b a = false) := by
  unfold Array.qsort
  split
  · rename_i h
    have : as = #[] := Array.eq_empty_of_size_eq_zero h
    subst this; simp
  · rename_i h
    dsimp only
    rw [List.pairwise_iff_getElem]
    intro i j hi hj hij
    simp only [Array.length_toList, Vector.size_toArray] at hi hj
    simp only [Array.getElem_toList, Vector.getElem_toArray]
    exact (sort_spec sw as.toVector _ _ _ _ _).1 i j hi hj (by omega) (by omega) (by omega)

theorem qsort_sorted_key {α : Type} (key : α → Nat) (as : Array α) :
    ((as.qsort (fun a b => decide (key a < key b))).toList).Pairwise (fun a b => key a ≤ key b) :=
  (qsort_sorted ⟨fun a b h => by simp only [decide_eq_true_eq, decide_eq_false_iff_not] at h ⊢; omega,
    fun a b c h1 h2 => by simp only [decide_eq_false_iff_not] at h1 h2 ⊢; omega⟩ as).imp
    (fun h => Nat.le_of_not_lt (of_decide_eq_false h))

open Yuiv.KhRef Yuiv.KhSnf

theorem qsort_sorted_intKey {α : Type} (key : α → Int) (as : Array α) :
    ((as.qsort (fun a b => decide (key a < key b))).toList).Pairwise (fun a b => key a ≤ key b) :=
  (qsort_sorted ⟨fun a b h => by simp only [decide_eq_true_eq, decide_eq_false_iff_not] at h ⊢; omega,
    fun a b c h1 h2 => by simp only [decide_eq_false_iff_not] at h1 h2 ⊢; omega⟩ as).imp
    (fun h => Int.not_lt.mp (of_decide_eq_false h))

theorem rowOK_push_iff (n : Nat) (out : Row) (x : Nat × Int) :
    RowOK n (out.push x) ↔ RowOK n out ∧ (∀ y ∈ out.toList, y.1 < x.1) ∧ x.2 ≠ 0 ∧ x.1 < n := by
  unfold RowOK
  rw [Array.toList_push, List.pairwise_append]
  simp only [List.pairwise_cons, List.not_mem_nil, false_imp_iff, implies_true, List.Pairwise.nil, and_true, true_and,
    List.mem_singleton, forall_eq, List.mem_append]
  constructor
  · rintro ⟨⟨a, b⟩, c, d⟩
    exact ⟨⟨a, fun y hy => c y (Or.inl hy), fun y hy => d y (Or.inl hy)⟩, b, c x (Or.inr rfl), d x (Or.inr rfl)⟩
  · rintro ⟨⟨a, c, d⟩, b, e, f⟩
    refine ⟨⟨a, b⟩, ?_, ?_⟩
    · rintro y (hy | rfl)
      · exact c y hy
      · exact e
    · rintro y (hy | rfl)
      · exact d y hy
      · exact f

theorem rowOK_pushNZ (n : Nat) (r : Row) (x : Nat × Int) (hok : RowOK n r) (hlt : ∀ y ∈ r.toList, y.1 < x.1)
    (hx : x.1 < n) : RowOK n (pushNZ r x) ∧ ∀ y ∈ (pushNZ r x).toList, y.1 ≤ x.1 := by
  unfold pushNZ
  split
  · rename_i h
    refine ⟨(rowOK_push_iff ..).mpr ⟨hok, hlt, by simpa using h, hx⟩, ?_⟩
    intro y hy
    rw [Array.toList_push, List.mem_append, List.mem_singleton] at hy
    rcases hy with hy | rfl
    · exact Nat.le_of_lt (hlt y hy)
    · exact Nat.le_refl _
  · exact ⟨hok, fun y hy => Nat.le_of_lt (hlt y hy)⟩

theorem nstep_rowOK (n : Nat) (out : Row) (cv : Nat × Int) (hok : RowOK n out)
    (hle : ∀ x ∈ out.toList, x.1 ≤ cv.1) (hcv : cv.1 < n) :
    RowOK n (nstep out cv) ∧ ∀ x ∈ (nstep out cv).toList, x.1 ≤ cv.1 := by
  unfold nstep
  split
  · rename_i h
    simp only [Bool.and_eq_true, decide_eq_true_eq, beq_iff_eq] at h
    rw [← pop_push_last out h.1, rowOK_push_iff, h.2] at hok
    exact rowOK_pushNZ n out.pop _ hok.1 hok.2.1 hcv
  · rename_i h
    simp only [Bool.and_eq_true, decide_eq_true_eq, beq_iff_eq, not_and] at h
    refine rowOK_pushNZ n out cv hok ?_ hcv
    -- the columns are increasing and `≤ cv.1`, and the last one is not `cv.1`
    by_cases h0 : out.size > 0
    · have hp := pop_push_last out h0
      have h1 := h h0
      have hl := hle out[out.size - 1]! (by rw [getElem!_pos out (out.size - 1) (by omega)]; simp)
      rw [← hp, rowOK_push_iff] at hok
      intro y hy
      rw [← hp, Array.toList_push, List.mem_append, List.mem_singleton] at hy
      rcases hy with hy | rfl
      · have := hok.2.1 y hy; omega
      · omega
    · have : out = #[] := Array.eq_empty_of_size_eq_zero (by omega)
      subst this; simp

theorem foldl_nstep_rowOK (n : Nat) (l : List (Nat × Int)) (out : Row) (hok : RowOK n out)
    (hs : l.Pairwise (fun a b => a.1 ≤ b.1)) (hle : ∀ x ∈ out.toList, ∀ y ∈ l, x.1 ≤ y.1)
    (hn : ∀ y ∈ l, y.1 < n) : RowOK n (l.foldl nstep out) := by
  induction l generalizing out with
  | nil => exact hok
  | cons cv l ih =>
    rw [List.foldl_cons]
    rw [List.pairwise_cons] at hs
    obtain ⟨a, b⟩ := nstep_rowOK n out cv hok (fun x hx => hle x hx cv List.mem_cons_self) (hn cv List.mem_cons_self)
    apply ih _ a hs.2
    · intro x hx y hy
      exact Nat.le_trans (b x hx) (hs.1 y hy)
    · intro y hy
      exact hn y (List.mem_cons_of_mem _ hy)

theorem normalizeRow_rowOK (n : Nat) (r : Array (Nat × Int)) (h : ∀ x ∈ r.toList, x.1 < n) :
    RowOK n (normalizeRow r) := by
  rw [normalizeRow_eq]
  apply foldl_nstep_rowOK
  · exact ⟨by simp, by simp, by simp⟩
  · exact qsort_sorted_key Prod.fst r
  · simp
  · intro y hy
    exact h y ((C04Inv.qsort_perm r _).toList.mem_iff.mp hy)

end Yuiv.KhSpec
