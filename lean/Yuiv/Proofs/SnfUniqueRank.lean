import Yuiv.Proofs.SnfUnique
import Yuiv.Proofs.C03UctRank
/-
Rank of a rectangular diagonal matrix over a field (the number of its non-zero diagonal entries), and from it the rank
form of the invariants (M1), (M2) of `Props/SnfUnique`: for a Smith form `D = U·A·V` over ℤ and a ring homomorphism `f : ℤ → K` into a field
(`K = ℚ`: the rank; `K = ℤ/p`: the rank modulo `p`) the rank of `A` mapped to `K` is the number of diagonal entries of
`D` that `f` does not kill.  Last, the uniqueness theorem of `Proofs/SnfUnique` for unimodularly equivalent Smith diagonals
(`C03Uct.UEquiv`).
-/
namespace Yuiv.SnfField
open Matrix Finset

variable {K : Type} [Field K] {m n : ℕ}

/-- the `k`-th diagonal entry, `0` outside the matrix -/
def dgK (D : Matrix (Fin m) (Fin n) K) (k : ℕ) : K :=
  if h : k < m ∧ k < n then D ⟨k, h.1⟩ ⟨k, h.2⟩ else 0

def IsDiagK (D : Matrix (Fin m) (Fin n) K) : Prop := ∀ (i : Fin m) (j : Fin n), i.1 ≠ j.1 → D i j = 0

theorem dgK_out (D : Matrix (Fin m) (Fin n) K) (k : ℕ) (h : min m n ≤ k) : dgK D k = 0 := by
  unfold dgK
  rw [dif_neg (by omega)]

theorem dgK_apply (D : Matrix (Fin m) (Fin n) K) (i : Fin m) (j : Fin n) (hij : i.1 = j.1) : D i j = dgK D i.1 := by
  unfold dgK
  rw [dif_pos ⟨i.2, hij ▸ j.2⟩]
  congr 1
  exact Fin.ext hij.symm

theorem eq_of_dgK_eq (D D' : Matrix (Fin m) (Fin n) K) (hD : IsDiagK D) (hD' : IsDiagK D')
    (h : ∀ k, dgK D k = dgK D' k) : D = D' := by
  ext i j
  by_cases hij : i.1 = j.1
  · rw [dgK_apply D i j hij, dgK_apply D' i j hij, h]
  · rw [hD i j hij, hD' i j hij]

/-- the rank of a rectangular diagonal matrix (non-zero entries ANYWHERE on the diagonal) is the number of its non-zero
diagonal entries -/
theorem rank_diagK [DecidableEq K] (D : Matrix (Fin m) (Fin n) K) (hD : IsDiagK D) :
    D.rank = #{k ∈ range (min m n) | dgK D k ≠ 0} := by
  have hDe : D = C03Uct.rectDiag m n (dgK D) := by
    ext i j
    rw [C03Uct.rectDiag_apply]
    split
    · rename_i hij; exact dgK_apply D i j hij
    · rename_i hij; exact hD i j hij
  exact (congrArg Matrix.rank hDe).trans (C03Uct.rank_rectDiag m n (dgK D))

end Yuiv.SnfField

namespace Yuiv.SnfUnique
open Matrix Finset

variable {m n : ℕ} {K : Type}

theorem initial_segment (P : ℕ → Prop) (hP : ∀ k, P (k + 1) → P k) (N : ℕ) :
    ∃ r, r ≤ N ∧ ∀ k, k < N → (P k ↔ k < r) := by
  have hdown : ∀ j k, P (k + j) → P k := by
    intro j
    induction j with
    | zero => intro k h; exact h
    | succ j ih => intro k h; exact ih k (hP _ h)
  induction N with
  | zero => exact ⟨0, le_refl _, fun k hk => by omega⟩
  | succ N ih =>
    obtain ⟨r, hr, hk⟩ := ih
    by_cases hPN : P N
    · refine ⟨N + 1, le_refl _, fun k hk' => ⟨fun _ => hk', fun _ => ?_⟩⟩
      have : N = k + (N - k) := by omega
      exact hdown (N - k) k (this ▸ hPN)
    · refine ⟨r, by omega, fun k hk' => ?_⟩
      by_cases hkN : k < N
      · exact hk k hkN
      · have : k = N := by omega
        subst this
        exact ⟨fun h => absurd h hPN, fun h => by omega⟩

theorem card_filter_initial (P : ℕ → Prop) [DecidablePred P] (N r : ℕ) (hr : r ≤ N)
    (h : ∀ k, k < N → (P k ↔ k < r)) : #{k ∈ range N | P k} = r := by
  have : (range N).filter P = range r := by
    ext k
    simp only [mem_filter, mem_range]
    constructor
    · rintro ⟨hk, hp⟩; exact (h k hk).1 hp
    · intro hk; exact ⟨by omega, (h k (by omega)).2 hk⟩
  rw [this, card_range]

theorem rank_map_diag [Field K] (f : ℤ →+* K) (D : Matrix (Fin m) (Fin n) ℤ) (hD : IsDiagM D)
    [DecidablePred fun k => f (dgM D k) ≠ 0] :
    (D.map f).rank = #{k ∈ range (min m n) | f (dgM D k) ≠ 0} := by
  classical
  have hdg : ∀ k, SnfField.dgK (D.map f) k = f (dgM D k) := by
    intro k
    unfold SnfField.dgK dgM
    split
    · rfl
    · exact (map_zero f).symm
  rw [SnfField.rank_diagK (D.map f) fun i j hij => by rw [map_apply, hD i j hij, map_zero]]
  exact congrArg card (filter_congr fun k _ => by rw [hdg k])

theorem nsol_uequiv (q : ℕ) {A B : Matrix (Fin m) (Fin n) ℤ} (h : C03Uct.UEquiv A B) : nsol q A = nsol q B := by
  obtain ⟨U, V, hU, hV, rfl⟩ := h
  exact (nsol_mul q U U⁻¹ V V⁻¹ (mul_nonsing_inv U hU) (mul_nonsing_inv V hV) A).symm

/-- equivalent Smith diagonals agree up to sign; two Smith forms of the same matrix are equivalent by `symm.trans` -/
theorem smith_natAbs_eq_of_uequiv {D D' : Matrix (Fin m) (Fin n) ℤ} (hD : IsSmith D) (hD' : IsSmith D')
    (h : C03Uct.UEquiv D D') (k : ℕ) : (dgM D k).natAbs = (dgM D' k).natAbs :=
  smith_natAbs_eq_of_nsol D D' hD hD' (fun q _ => nsol_uequiv q h) k

end Yuiv.SnfUnique
