import Yuiv.Proofs.C13
/-
C13 — sparse vectors: `from_entries`, `extract`, and the column sums behind the other vector operations.
-/
namespace Yuiv.C13
open Yuiv Res

variable {R : Type} [CommRing R]

theorem vfromEntries_ok [DecidableEq R] (d : Nat) (es : List (Nat × R)) (h : ∀ p ∈ es, p.2 ≠ 0 → p.1 < d) :
    ∃ v, SpVec.fromEntries d es = ok v ∧ v.dim = d ∧ v.WF ∧ ∀ i, v.entry i = if i < d then sumAt es i else 0 := by
  have hs : InShape d 1 (es.map (fun p => (p.1, 0, p.2))) := by
    intro t ht hnz
    simp only [List.mem_map] at ht
    obtain ⟨p, hp, rfl⟩ := ht
    exact ⟨h p hp hnz, by simp⟩
  obtain ⟨h1, h2, h3, h4⟩ := fromEntries_spec _ _ _ _ (fromEntries_ok _ _ _ hs)
  obtain ⟨v, g1, g2, g3, g4⟩ := intoSpVec_spec _ h3 h2
  refine ⟨v, by unfold SpVec.fromEntries; rw [fromEntries_ok _ _ _ hs]; exact g1, by rw [g2, h1], g3, ?_⟩
  intro i
  rw [g4, h4, entryT_col, if_pos rfl]
  simp

omit [CommRing R] in
theorem mapEnts_ok (f : Nat → Res (Option Nat)) (g : Nat → Option Nat) (es : List (Nat × R))
    (h : ∀ p ∈ es, f p.1 = ok (g p.1)) :
    mapEnts f es = ok (es.filterMap (fun p => (g p.1).map (fun i' => (i', p.2)))) := by
  induction es with
  | nil => rfl
  | cons p es ih =>
    obtain ⟨i, a⟩ := p
    have h0 := h (i, a) (by simp)
    simp only at h0
    rw [mapEnts, h0, ih (fun q hq => h q (by simp [hq]))]
    cases hg : g i with
    | none => simp [hg]
    | some x => simp [hg]

theorem sumAt_filterMap (g : Nat → Option Nat) (es : List (Nat × R)) (i' : Nat) :
    sumAt (es.filterMap (fun p => (g p.1).map (fun x => (x, p.2)))) i'
      = ((es.filter (fun p => g p.1 = some i')).map (·.2)).sum := by
  induction es with
  | nil => rfl
  | cons p es ih =>
    obtain ⟨i, a⟩ := p
    rw [List.filterMap_cons, List.filter_cons]
    cases hg : g i with
    | none => simp [ih]
    | some x =>
      simp only [Option.map_some, sumAt_cons, ih]
      by_cases hx : x = i'
      · subst hx; simp
      · simp [hx]

theorem filter_sum_eq_sumAt (es : List (Nat × R)) (P : Nat × R → Prop) [DecidablePred P] (i : Nat)
    (h : ∀ p ∈ es, P p ↔ p.1 = i) : ((es.filter (fun p => decide (P p))).map (·.2)).sum = sumAt es i := by
  unfold sumAt
  congr 2
  apply List.filter_congr
  intro p hp
  rw [Bool.eq_iff_iff, beq_iff_eq, decide_eq_true_iff]
  exact h p hp

set_option linter.unusedSectionVars false in
variable [DecidableEq R] in
theorem sumAt_filterMap_of_iff (g : Nat → Option Nat) (es : List (Nat × R)) (i i' : Nat)
    (h : ∀ p ∈ es, g p.1 = some i' ↔ p.1 = i) :
    sumAt (es.filterMap (fun p => (g p.1).map (fun x => (x, p.2)))) i' = sumAt es i := by
  rw [sumAt_filterMap]
  exact filter_sum_eq_sumAt es _ i h

theorem vextract_spec [DecidableEq R] (v : SpVec R) (d : Nat) (f : Nat → Res (Option Nat)) (g : Nat → Option Nat)
    (hf : ∀ p ∈ v.ents, f p.1 = ok (g p.1)) (hg : ∀ p ∈ v.ents, ∀ x, g p.1 = some x → x < d) :
    ∃ w, v.extract d f = ok w ∧ w.dim = d ∧ w.WF ∧
      ∀ i', i' < d → w.entry i' = ((v.ents.filter (fun p => g p.1 = some i')).map (·.2)).sum := by
  unfold SpVec.extract
  rw [mapEnts_ok f g _ hf]
  simp only [bind_ok]
  obtain ⟨w, h1, h2, h3, h4⟩ := vfromEntries_ok d (v.ents.filterMap (fun p => (g p.1).map (fun i' => (i', p.2)))) (by
    intro q hq _
    rw [List.mem_filterMap] at hq
    obtain ⟨p, hp, e⟩ := hq
    cases hgp : g p.1 with
    | none => simp [hgp] at e
    | some x => simp [hgp] at e; subst e; exact hg p hp x hgp)
  refine ⟨w, h1, h2, h3, ?_⟩
  intro i' hi
  rw [h4, if_pos hi, sumAt_filterMap]

theorem sumAt_filter_lt (es : List (Nat × R)) (k i : Nat) (hi : i < k) :
    sumAt (es.filter (fun p => p.1 < k)) i = sumAt es i := by
  rw [sumAt_filter_pos (fun x => decide (x < k)), if_pos (decide_eq_true hi)]

theorem sumAt_filter_ge_shift (es : List (Nat × R)) (k i : Nat) :
    sumAt ((es.filter (fun p => !(decide (p.1 < k)))).map (fun p => (p.1 - k, p.2))) i = sumAt es (k + i) := by
  rw [sumAt_map_of_iff (fun p => (p.1 - k, p.2)) _ (k + i) i (fun _ => rfl), sumAt_filter_pos (fun x => !decide (x < k)),
    if_pos (by simp)]
  intro p hp
  have := (List.mem_filter.mp hp).2
  simp only [Bool.not_eq_true', decide_eq_false_iff_not] at this
  exact Nat.sub_eq_iff_eq_add' (Nat.le_of_not_lt this)

theorem sumAt_map_shift (es : List (Nat × R)) (n i : Nat) :
    sumAt (es.map (fun p => (n + p.1, p.2))) i = if n ≤ i then sumAt es (i - n) else 0 := by
  by_cases h : n ≤ i
  · rw [if_pos h]
    exact sumAt_map_of_iff (fun p => (n + p.1, p.2)) es _ _ (fun _ => rfl) (fun p _ => by
      rw [Nat.add_comm]; exact (eq_tsub_iff_add_eq_of_le h).symm)
  · rw [if_neg h]
    apply sumAt_eq_zero
    intro q hq e
    obtain ⟨p, _, rfl⟩ := List.mem_map.mp hq
    exact h (e ▸ Nat.le_add_right n p.1)

theorem sumAt_zipIdx (l : List R) (k i : Nat) :
    sumAt ((l.zipIdx k).map (fun x => match x with | (a, j) => (j, a))) i = if k ≤ i then l.getD (i - k) 0 else 0 := by
  induction l generalizing k with
  | nil => simp
  | cons a l ih =>
    rw [List.zipIdx_cons, List.map_cons, sumAt_cons, ih]
    by_cases h1 : k = i
    · subst h1
      rw [if_pos rfl, if_neg (Nat.not_succ_le_self _), if_pos (Nat.le_refl _), Nat.sub_self, List.getD_cons_zero,
        add_zero]
    · rw [if_neg h1, zero_add]
      by_cases h2 : k + 1 ≤ i
      · rw [if_pos h2, if_pos (Nat.le_of_succ_le h2), show i - k = (i - (k + 1)) + 1 by omega, List.getD_cons_succ]
      · rw [if_neg h2, if_neg (fun h => h2 (Nat.lt_of_le_of_ne h h1))]

/-- a column spread over a matrix by `q ↦ (f q, g q)`: if exactly index `q` lands on `(i, j)`, the entry there is
the one at `q` -/
theorem entryT_of_sumAt (c : List (Nat × R)) (f g : Nat → Nat) (i j q : Nat)
    (h : ∀ p ∈ c, f p.1 = i ∧ g p.1 = j ↔ p.1 = q) :
    entryT (c.map (fun p => (f p.1, g p.1, p.2))) i j = sumAt c q := by
  induction c with
  | nil => rfl
  | cons p c ih =>
    rw [List.map_cons, entryT_cons, ← Prod.mk.eta (p := p), sumAt_cons,
      ih (fun r hr => h r (List.mem_cons_of_mem _ hr)), if_congr (h p List.mem_cons_self) rfl rfl]

theorem entryT_zipIdx (l : List R) (n k i j : Nat) (hj : j < n) :
    entryT ((l.zipIdx k).map (fun x => match x with | (a, q) => (q / n, q % n, a))) i j
      = if k ≤ i * n + j then l.getD (i * n + j - k) 0 else 0 := by
  have key : ∀ q, (q / n = i ∧ q % n = j) ↔ q = i * n + j := by
    intro q
    constructor
    · rintro ⟨h1, h2⟩
      have := Nat.div_add_mod q n
      rw [h1, h2] at this
      rw [← this]; ring
    · intro h
      subst h
      constructor
      · rw [Nat.add_comm, Nat.add_mul_div_right _ _ (Nat.zero_lt_of_lt hj), Nat.div_eq_of_lt hj, Nat.zero_add]
      · rw [Nat.add_comm, Nat.add_mul_mod_self_right, Nat.mod_eq_of_lt hj]
  rw [← sumAt_zipIdx, ← entryT_of_sumAt _ (· / n) (· % n) i j _ (fun p _ => key p.1), List.map_map]
  rfl

theorem toDense_fold [DecidableEq R] (es : List (Nat × R)) (l0 : List R) (hb : ∀ p ∈ es, p.1 < l0.length)
    (hnd : (es.map (·.1)).Nodup) :
    ∃ l', es.foldl (fun (acc : Res (List R)) p => do
        let l ← acc
        if p.2 = 0 then ok l else if p.1 < l.length then ok (l.set p.1 p.2) else panic) (ok l0) = ok l' ∧
      l'.length = l0.length ∧ ∀ i, l'[i]? = if sumAt es i = 0 then l0[i]? else some (sumAt es i) := by
  induction es generalizing l0 with
  | nil => exact ⟨l0, rfl, rfl, fun i => by simp⟩
  | cons p es ih =>
    obtain ⟨k, a⟩ := p
    have hk : k < l0.length := hb (k, a) (by simp)
    have hnd' : k ∉ es.map (·.1) ∧ (es.map (·.1)).Nodup := List.nodup_cons.mp hnd
    have hz : sumAt es k = 0 := sumAt_eq_zero es k (fun q hq e => hnd'.1 (List.mem_map.mpr ⟨q, hq, e⟩))
    rw [List.foldl_cons]
    by_cases ha : a = 0
    · obtain ⟨l', h1, h2, h3⟩ := ih l0 (fun q hq => hb q (by simp [hq])) hnd'.2
      refine ⟨l', by dsimp only [bind_ok]; rw [if_pos ha]; exact h1, h2, ?_⟩
      intro i; rw [h3 i, sumAt_cons, ha]; simp
    · obtain ⟨l', h1, h2, h3⟩ := ih (l0.set k a)
        (fun q hq => by rw [List.length_set]; exact hb q (by simp [hq])) hnd'.2
      refine ⟨l', by dsimp only [bind_ok]; rw [if_neg ha, if_pos hk]; exact h1, by rw [h2, List.length_set], ?_⟩
      intro i
      rw [h3 i, sumAt_cons]
      by_cases e : k = i
      · subst e
        rw [hz, if_pos rfl, List.getElem?_set_self hk]
        simp [ha]
      · rw [if_neg e, List.getElem?_set_ne e]; simp

/-- the stored entries of `stack_vecs(vs)`, the first vector starting at row `n0` -/
def shiftedEnts (n0 : Nat) : List (SpVec R) → List (Nat × R)
  | [] => []
  | v :: vs => v.ents.map (fun p => (p.1 + n0, p.2)) ++ shiftedEnts (n0 + v.dim) vs

def totalDim : List (SpVec R) → Nat
  | [] => 0
  | v :: vs => v.dim + totalDim vs

omit [CommRing R] in
theorem stackVecs_fold (vs : List (SpVec R)) (n0 : Nat) (rows : List Nat) (vals : List R) :
    vs.foldl (fun (acc : Nat × List Nat × List R) v =>
        let n1 := acc.1
        (n1 + v.dim, acc.2.1 ++ v.ents.map (fun p => p.1 + n1), acc.2.2 ++ v.ents.map (·.2))) (n0, rows, vals)
      = (n0 + totalDim vs, rows ++ (shiftedEnts n0 vs).map (·.1), vals ++ (shiftedEnts n0 vs).map (·.2)) := by
  induction vs generalizing n0 rows vals with
  | nil => simp [totalDim, shiftedEnts]
  | cons v vs ih =>
    rw [List.foldl_cons, ih]
    simp [totalDim, shiftedEnts, Nat.add_assoc, List.map_map, Function.comp_def]

omit [CommRing R] in
theorem shiftedEnts_wf (vs : List (SpVec R)) (n0 : Nat) (hv : ∀ v ∈ vs, v.WF) :
    (∀ p ∈ shiftedEnts n0 vs, n0 ≤ p.1 ∧ p.1 < n0 + totalDim vs) ∧
    ((shiftedEnts n0 vs).map (·.1)).Pairwise (· < ·) := by
  induction vs generalizing n0 with
  | nil => simp [shiftedEnts]
  | cons v vs ih =>
    have hw := hv v (by simp)
    obtain ⟨ih1, ih2⟩ := ih (n0 + v.dim) (fun w hw' => hv w (by simp [hw']))
    constructor
    · intro p hp
      simp only [shiftedEnts, List.mem_append, List.mem_map] at hp
      rcases hp with ⟨q, hq, rfl⟩ | hp
      · have := hw.bound q hq; simp only [totalDim]; omega
      · have := ih1 p hp; simp only [totalDim]; omega
    · simp only [shiftedEnts, List.map_append, List.map_map]
      rw [List.pairwise_append]
      refine ⟨?_, ih2, ?_⟩
      · have hs := hw.sorted
        have : ((fun p : Nat × R => p.1) ∘ fun p : Nat × R => (p.1 + n0, p.2)) = (fun x => x + n0) ∘ (fun p => p.1) := by
          funext p; rfl
        rw [this, ← List.map_map]
        exact hs.map _ (fun a b h => Nat.add_lt_add_right h n0)
      · intro a ha b hb
        simp only [List.mem_map, Function.comp] at ha hb
        obtain ⟨q, hq, rfl⟩ := ha
        obtain ⟨r, hr, rfl⟩ := hb
        have := hw.bound q hq
        have := ih1 r hr
        omega

end Yuiv.C13
