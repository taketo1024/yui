import Lean.Meta.Tactic.Simp.RegisterCommand

/-- Normal form for comparing the definitions generated from `bitseq.rs` with the hand model: `mapR` pushed inside,
binds nested to the right, decided asserts evaluated, the abstraction maps, the two length constants and the three
`Bit` observers unfolded, the checked operators rewritten to the model's primitives, and the primitives that cannot
panic (`mask`, shifts by the literal 1, `2^n - 1`) evaluated.  `Proofs/C17Gen` fills it. -/
register_simp_attr bitseq_gen
