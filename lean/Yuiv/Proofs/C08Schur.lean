import Mathlib.Data.Matrix.Block
import Mathlib.Data.Matrix.ColumnRowPartitioned
import Mathlib.LinearAlgebra.Matrix.Notation
import Mathlib.Logic.Equiv.Basic
import Mathlib.Tactic.Abel
/-
C08 — the Schur-complement step of the chain-complex reducer.  A matrix `A : Matrix p q R` is a map from the module
with basis `q` to the module with basis `p` (columns = source, rows = target), composition is matrix multiplication.
The middle differential is `M = fromBlocks a b c d : Matrix (r ⊕ m) (r ⊕ n) R` (`C_src`, basis `r ⊕ n` ⟶ `C_tgt`,
basis `r ⊕ m`), the pivot block `a` has a two-sided inverse `ainv`.  Nothing needs commutativity of `R`.
-/
namespace Yuiv.C08
open Matrix

variable {R : Type*} [Ring R]
variable {r m n k l : Type*}

/-! ### the Schur complement and the transfer maps (as built by `yui-matrix/src/sparse/schur.rs`) -/

def schurS [Fintype r] (ainv : Matrix r r R) (b : Matrix r n R) (c : Matrix m r R)
    (d : Matrix m n R) : Matrix m n R :=
  d - c * ainv * b

/-- `F_src = [0 1] : C_src → C_src'`. -/
def Fsrc (R : Type*) [Ring R] (r n : Type*) [DecidableEq n] : Matrix n (r ⊕ n) R :=
  fromCols 0 1

/-- `B_src = [-a⁻¹b ; 1] : C_src' → C_src`. -/
def Bsrc [Fintype r] [DecidableEq n] (ainv : Matrix r r R) (b : Matrix r n R) :
    Matrix (r ⊕ n) n R :=
  fromRows (-(ainv * b)) 1

/-- `F_tgt = [-c a⁻¹  1] : C_tgt → C_tgt'`. -/
def Ftgt [Fintype r] [DecidableEq m] (ainv : Matrix r r R) (c : Matrix m r R) :
    Matrix m (r ⊕ m) R :=
  fromCols (-(c * ainv)) 1

/-- `B_tgt = [0 ; 1] : C_tgt' → C_tgt`. -/
def Btgt (R : Type*) [Ring R] (r m : Type*) [DecidableEq m] : Matrix (r ⊕ m) m R :=
  fromRows 0 1

/-- The homotopy `h = [[-a⁻¹, 0], [0, 0]] : C_tgt → C_src` (zero in every other degree). -/
def hmt (n m : Type*) (ainv : Matrix r r R) : Matrix (r ⊕ n) (r ⊕ m) R :=
  fromBlocks (-ainv) 0 0 0

/-! ### a two-sided inverse given as a pair of equations (`a` may be rectangular) -/

section cancel
variable {r' : Type*} [Fintype r] [Fintype r'] {a : Matrix r r' R} {ainv : Matrix r' r R}

theorem mul_inv_cancel_left' [DecidableEq r] (hai : a * ainv = 1) (X : Matrix r n R) : a * (ainv * X) = X := by
  rw [← Matrix.mul_assoc, hai, Matrix.one_mul]

theorem inv_mul_cancel_right' [DecidableEq r'] (hia : ainv * a = 1) (X : Matrix m r' R) : X * ainv * a = X := by
  rw [Matrix.mul_assoc, hia, Matrix.mul_one]

theorem x_eq_of_top [DecidableEq r'] [Fintype n] (hia : ainv * a = 1) {b : Matrix r n R} {x : Matrix r' k R}
    {y : Matrix n k R} (h : a * x + b * y = 0) : x = -(ainv * b * y) := by
  rw [← Matrix.one_mul x, ← hia, Matrix.mul_assoc, eq_neg_of_add_eq_zero_left h, Matrix.mul_neg, Matrix.mul_assoc]

theorem z_eq_of_left [DecidableEq r] [Fintype m] (hai : a * ainv = 1) {c : Matrix m r' R} {z : Matrix l r R}
    {w : Matrix l m R} (h : z * a + w * c = 0) : z = -(w * c * ainv) := by
  rw [← Matrix.mul_one z, ← hai, ← Matrix.mul_assoc, eq_neg_of_add_eq_zero_left h, Matrix.neg_mul]

end cancel

section split

theorem MN_zero_iff [Fintype r] [Fintype n] {a : Matrix r r R} {b : Matrix r n R} {c : Matrix m r R} {d : Matrix m n R}
    {x : Matrix r k R} {y : Matrix n k R} :
    fromBlocks a b c d * fromRows x y = 0 ↔ a * x + b * y = 0 ∧ c * x + d * y = 0 := by
  rw [fromBlocks_mul_fromRows, ← fromRows_zero, fromRows_ext_iff]

theorem LM_zero_iff [Fintype r] [Fintype m] {a : Matrix r r R} {b : Matrix r n R} {c : Matrix m r R} {d : Matrix m n R}
    {z : Matrix l r R} {w : Matrix l m R} :
    fromCols z w * fromBlocks a b c d = 0 ↔ z * a + w * c = 0 ∧ z * b + w * d = 0 := by
  rw [fromCols_mul_fromBlocks, ← fromCols_zero, fromCols_ext_iff]

end split

section blocks
variable {p q p' q' : Type*}

theorem fromRows_one_mul_fromCols_one_sub_one [Fintype q] [DecidableEq p] [DecidableEq q]
    (P : Matrix p q R) (Q : Matrix q p R) :
    fromRows P 1 * fromCols Q 1 - 1 = fromBlocks (P * Q - 1) P Q 0 := by
  rw [fromRows_mul_fromCols, ← fromBlocks_one, sub_eq_add_neg, fromBlocks_neg, fromBlocks_add, Matrix.mul_one,
    Matrix.one_mul, Matrix.one_mul]
  simp only [neg_zero, add_zero, add_neg_cancel, sub_eq_add_neg]

theorem fromBlocks_mul_corner [Fintype p'] [Fintype q'] (A : Matrix p p' R) (B : Matrix p q' R) (C : Matrix q p' R)
    (D : Matrix q q' R) (X : Matrix p' m R) :
    fromBlocks A B C D * fromBlocks X (0 : Matrix p' n R) (0 : Matrix q' m R) 0 = fromBlocks (A * X) 0 (C * X) 0 := by
  rw [fromBlocks_multiply]
  simp only [Matrix.mul_zero, add_zero]

theorem corner_mul_fromBlocks [Fintype p'] [Fintype q'] (X : Matrix m p' R) (A : Matrix p' p R) (B : Matrix p' q R)
    (C : Matrix q' p R) (D : Matrix q' q R) :
    fromBlocks X (0 : Matrix m q' R) (0 : Matrix n p' R) 0 * fromBlocks A B C D = fromBlocks (X * A) (X * B) 0 0 := by
  rw [fromBlocks_multiply]
  simp only [Matrix.zero_mul, add_zero]

end blocks

/-! ### reduction data for whole complexes

Direction convention: the complex is `… → C_{i+1} --d i--> C_i → … → C_0`, where `C_i` has basis
`ι i`, so `d i : Matrix (ι i) (ι (i+1)) R` and "`d ∘ d = 0`" reads `d i * d (i+1) = 0`.
`F i : C_i → C'_i` and `B i : C'_i → C_i`.  (The opposite, cohomological convention is obtained by
transposing everything / reading the indices backwards; no lemma below depends on the choice.) -/

section reduction
variable {ι κ : ℕ → Type*} [∀ i, Fintype (ι i)] [∀ i, Fintype (κ i)]
  [∀ i, DecidableEq (ι i)] [∀ i, DecidableEq (κ i)]

structure IsReduction (d : ∀ i, Matrix (ι i) (ι (i + 1)) R) (d' : ∀ i, Matrix (κ i) (κ (i + 1)) R)
    (F : ∀ i, Matrix (κ i) (ι i) R) (B : ∀ i, Matrix (ι i) (κ i) R) : Prop where
  F_comm : ∀ i, F i * d i = d' i * F (i + 1)
  B_comm : ∀ i, d i * B (i + 1) = B i * d' i
  FB : ∀ i, F i * B i = 1

/-- A reduction together with a chain homotopy `h i : C_i → C_{i+1}` from `B ∘ F` to the identity:
`B F - 1 = d h + h d` (the second summand is absent in degree `0`). -/
structure IsHomotopyEquiv (d : ∀ i, Matrix (ι i) (ι (i + 1)) R)
    (d' : ∀ i, Matrix (κ i) (κ (i + 1)) R)
    (F : ∀ i, Matrix (κ i) (ι i) R) (B : ∀ i, Matrix (ι i) (κ i) R)
    (h : ∀ i, Matrix (ι (i + 1)) (ι i) R) : Prop extends IsReduction d d' F B where
  htpy_zero : B 0 * F 0 - 1 = d 0 * h 0
  htpy_succ : ∀ i, B (i + 1) * F (i + 1) - 1 = d (i + 1) * h (i + 1) + h i * d i

/-- conjugation by matrices `P i` (square or not) with two-sided inverses is a homotopy equivalence with `h = 0`:
invertible base changes, permutations of the bases, renamings of the index types -/
theorem IsHomotopyEquiv.of_conj (d : ∀ i, Matrix (ι i) (ι (i + 1)) R) (P : ∀ i, Matrix (κ i) (ι i) R)
    (Pinv : ∀ i, Matrix (ι i) (κ i) R) (hPinvP : ∀ i, Pinv i * P i = 1) (hPPinv : ∀ i, P i * Pinv i = 1) :
    IsHomotopyEquiv d (fun i => P i * d i * Pinv (i + 1)) P Pinv (fun _ => 0) where
  F_comm i := by rw [Matrix.mul_assoc (P i * d i), hPinvP, Matrix.mul_one]
  B_comm i := by rw [← Matrix.mul_assoc, ← Matrix.mul_assoc, hPinvP, Matrix.one_mul]
  FB := hPPinv
  htpy_zero := by rw [hPinvP, sub_self, Matrix.mul_zero]
  htpy_succ i := by rw [hPinvP, sub_self, Matrix.mul_zero, Matrix.zero_mul, add_zero]

theorem comp_sub_one {ι κ μ : Type*} [Fintype ι] [DecidableEq ι] [Fintype κ] [DecidableEq κ] [Fintype μ]
    (B₁ : Matrix ι κ R) (B₂ : Matrix κ μ R) (F₂ : Matrix μ κ R) (F₁ : Matrix κ ι R) :
    B₁ * B₂ * (F₂ * F₁) - 1 = B₁ * (B₂ * F₂ - 1) * F₁ + (B₁ * F₁ - 1) := by
  simp only [Matrix.mul_sub, Matrix.sub_mul, Matrix.mul_one, Matrix.mul_assoc]
  abel

end reduction

/-! ### concrete witness data (over `ℤ`, `r = k = l = Fin 1`, `m = n = Fin 2`) used by the
satisfiability `example`s in `Props/C08.lean`; here `S = diag(0, 5) ≠ 0`. -/

namespace Ex
def a : Matrix (Fin 1) (Fin 1) ℤ := !![1]
def ainv : Matrix (Fin 1) (Fin 1) ℤ := !![1]
def b : Matrix (Fin 1) (Fin 2) ℤ := !![2, 0]
def c : Matrix (Fin 2) (Fin 1) ℤ := !![3; 0]
def d : Matrix (Fin 2) (Fin 2) ℤ := !![6, 0; 0, 5]
/-- incoming neighbour `N = [x ; y]` -/
def x : Matrix (Fin 1) (Fin 1) ℤ := !![-2]
def y : Matrix (Fin 2) (Fin 1) ℤ := !![1; 0]
/-- outgoing neighbour `L = [z w]` -/
def z : Matrix (Fin 1) (Fin 1) ℤ := !![-3]
def w : Matrix (Fin 1) (Fin 2) ℤ := !![1, 0]
/-- a constant two-dimensional complex with `d ∘ d = 0`, `d ≠ 0` -/
def dd : ∀ _ : ℕ, Matrix (Fin 2) (Fin 2) ℤ := fun _ => !![0, 1; 0, 0]
def σ : ∀ _ : ℕ, Equiv.Perm (Fin 2) := fun _ => Equiv.swap 0 1
end Ex

end Yuiv.C08
