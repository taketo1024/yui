import Yuiv.Proofs.C11
/-
C11 — the fuel of `traverse` always suffices (the model's `while let Some(j) = dequeue()` loop terminates
within `P.length + queue.length + 1` iterations), so a `search` step never fails for lack of fuel.
-/
namespace Yuiv.C11
open Yuiv Res

/-- pivot columns of the snapshot that have not been queued yet, plus the queue length -/
def travMeasure (P : Pivs) (w : Worker) : Nat :=
  (P.map (·.2)).countP (fun j => !w.queued.contains j) + w.queue.length

/-- without any invariant `set_occupied` may panic (the checked `ncand -= 1`) but holds no fuel and leaves the queues -/
theorem setOccupied_queues (w : Worker) (j : Nat) :
    Sat (fun w' => w'.queue = w.queue ∧ w'.queued = w.queued) True False (w.setOccupied j) := by
  unfold Worker.setOccupied
  split
  · split
    · trivial
    · exact ⟨rfl, rfl⟩
  · exact ⟨rfl, rfl⟩

theorem rowLoop_measure (P : Pivs) (js : List Nat) : ∀ (w : Worker),
    Sat (fun w' => travMeasure P w' ≤ travMeasure P w) True False (rowLoop P js w) := by
  induction js with
  | nil => intro w; exact Nat.le_refl _
  | cons j2 js ih =>
    intro w
    rw [rowLoop]
    generalize hw1 : (if (hasCol P j2 && !w.isQueued j2) = true then w.enqueue j2 else w) = w1
    have hm1 : travMeasure P w1 ≤ travMeasure P w := by
      by_cases hc : (hasCol P j2 && !w.isQueued j2) = true
      · rw [if_pos hc] at hw1; subst hw1
        simp only [Bool.and_eq_true, Bool.not_eq_true', Worker.isQueued] at hc
        have hj : j2 ∈ P.map (·.2) := hasCol_iff.1 hc.1
        have hq : j2 ∉ w.queued := by simpa using hc.2
        have : (P.map (·.2)).countP (fun v => !(j2 :: w.queued).contains v)
            < (P.map (·.2)).countP (fun v => !w.queued.contains v) :=
          countP_lt_countP (fun x _ hx => by simp at hx ⊢; exact hx.2) hj (by simpa using hq) (by simp)
        simp only [travMeasure, Worker.enqueue, List.length_append, List.length_cons, List.length_nil]
        omega
      · rw [if_neg hc] at hw1; subst hw1; exact Nat.le_refl _
    apply (setOccupied_queues w1 j2).bind
    rintro w2 ⟨hq1, hq2⟩
    have hm2 : travMeasure P w2 ≤ travMeasure P w := by simp only [travMeasure, hq1, hq2]; exact hm1
    split
    · exact hm2
    · exact (ih w2).mono (fun w' h => Nat.le_trans h hm2) id id

theorem travLoop_ne_err (s : Str) (P : Pivs) : ∀ (fuel : Nat) (w : Worker), travMeasure P w + 1 ≤ fuel →
    Sat (fun _ => True) True False (travLoop s P fuel w) := by
  intro fuel
  induction fuel with
  | zero => intro w h; omega
  | succ fuel ih =>
    intro w h
    rw [travLoop]
    cases hq : w.queue with
    | nil => trivial
    | cons j q =>
      simp only
      cases hr : rowFor P j with
      | none => trivial
      | some i2 =>
        simp only
        apply (rowLoop_measure P (colsIn s i2) { w with queue := q }).bind
        intro w1 h1
        apply ih
        have hm : travMeasure P { w with queue := q } + 1 = travMeasure P w := by
          simp only [travMeasure, hq, List.length_cons]; omega
        omega

theorem traverse_ne_err (s : Str) (P : Pivs) (w : Worker) : traverse s P w ≠ .err := by
  unfold traverse
  split
  · intro h; cases h
  · apply sat_ne_err.1 (travLoop_ne_err s P _ w _)
    have : (P.map (·.2)).countP (fun j => !w.queued.contains j) ≤ (P.map (·.2)).length := List.countP_le_length
    simp only [List.length_map] at this
    simp only [travMeasure]
    omega

end Yuiv.C11
