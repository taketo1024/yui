import Yuiv.Model.C03
import Yuiv.Proofs.C03UctRank
import Yuiv.Proofs.C03UctHom
import Mathlib.Data.ZMod.Basic
import Mathlib.Algebra.Field.ZMod
/-
C03Uct, part 3 — the counting form of the universal coefficient theorem for integer matrices.

`EquivDiag A d` : `A` is equivalent over ℤ to the rectangular diagonal matrix with diagonal `d`
(`P * A * Q = rectDiag d`, `det P`, `det Q` units).  Every Smith normal form is such data (this is what
`yui-matrix/src/dense/snf.rs` computes and property C09 proves about the code model); the divisibility chain
`d₁ ∣ d₂ ∣ …` is NOT needed for any of the counts below.

Spec vocabulary (the library's reporting convention, proved correct in C07):
  free rank of H  := n − #{dₖ(A) ≠ 0} − #{dₖ(B) ≠ 0}
  torsion of H    := the dₖ(A) with dₖ ≠ 0, |dₖ| ≠ 1            (A = incoming differential)
-/
namespace Yuiv.C03Uct
open Matrix Yuiv.C03

/-- `A` is equivalent over ℤ to `rectDiag m n d` (entries beyond the list are 0) -/
def EquivDiag {m n : ℕ} (A : Matrix (Fin m) (Fin n) ℤ) (d : List ℤ) : Prop :=
  d.length ≤ min m n ∧ ∃ (P : Matrix (Fin m) (Fin m) ℤ) (Q : Matrix (Fin n) (Fin n) ℤ),
    IsUnit P.det ∧ IsUnit Q.det ∧ P * A * Q = rectDiag m n (fun k => d.getD k 0)

theorem equivDiag_iff_uequiv {m n : ℕ} {A : Matrix (Fin m) (Fin n) ℤ} {d : List ℤ} :
    EquivDiag A d ↔ d.length ≤ min m n ∧ UEquiv A (rectDiag m n (fun k => d.getD k 0)) := Iff.rfl

/-- the form in which the code has the data: explicit two-sided transforms with their inverses -/
theorem EquivDiag.of_inverses {m n : ℕ} (A : Matrix (Fin m) (Fin n) ℤ) (d : List ℤ)
    (P Pinv : Matrix (Fin m) (Fin m) ℤ) (Q Qinv : Matrix (Fin n) (Fin n) ℤ)
    (hlen : d.length ≤ min m n) (hP : P * Pinv = 1) (hQ : Q * Qinv = 1)
    (h : P * A * Q = rectDiag m n (fun k => d.getD k 0)) : EquivDiag A d :=
  ⟨hlen, UEquiv.of_inverses hP hQ h⟩

/-- `EquivDiag` only depends on the class of `A` -/
theorem EquivDiag.of_uequiv {m n : ℕ} {A B : Matrix (Fin m) (Fin n) ℤ} {d : List ℤ} (h : UEquiv A B)
    (hB : EquivDiag B d) : EquivDiag A d :=
  ⟨hB.1, h.trans hB.2⟩

theorem EquivDiag.rectDiag (m n : ℕ) (d : List ℤ) (hlen : d.length ≤ min m n) :
    EquivDiag (Yuiv.C03Uct.rectDiag m n (fun k => d.getD k 0)) d :=
  ⟨hlen, 1, 1, by simp, by simp, by simp⟩

/-- `A ⊗ 𝔽_p` : entrywise reduction mod `p` -/
abbrev redMod (p : ℕ) {m n : ℕ} (A : Matrix (Fin m) (Fin n) ℤ) : Matrix (Fin m) (Fin n) (ZMod p) :=
  A.map (Int.castRingHom (ZMod p))
/-- `A ⊗ ℚ` -/
abbrev toRat {m n : ℕ} (A : Matrix (Fin m) (Fin n) ℤ) : Matrix (Fin m) (Fin n) ℚ :=
  A.map (Int.castRingHom ℚ)

theorem redMod_mul_eq_zero (p : ℕ) {l n k : ℕ} (A : Matrix (Fin n) (Fin l) ℤ) (B : Matrix (Fin k) (Fin n) ℤ)
    (hBA : B * A = 0) : redMod p B * redMod p A = 0 := by
  unfold redMod; rw [← Matrix.map_mul, hBA, Matrix.map_zero _ (map_zero _)]

theorem toRat_mul_eq_zero {l n k : ℕ} (A : Matrix (Fin n) (Fin l) ℤ) (B : Matrix (Fin k) (Fin n) ℤ)
    (hBA : B * A = 0) : toRat B * toRat A = 0 := by
  unfold toRat; rw [← Matrix.map_mul, hBA, Matrix.map_zero _ (map_zero _)]

theorem card_filter_getD (q : ℤ → Bool) (hq : q 0 = false) (l : List ℤ) :
    ∀ N, l.length ≤ N →
      ((Finset.range N).filter (fun k => q (l.getD k 0) = true)).card = (l.filter q).length := by
  induction l with
  | nil => intro N _; simp [hq]
  | cons x t ih =>
    intro N hN
    obtain ⟨N', rfl⟩ : ∃ N', N = N' + 1 := ⟨N - 1, by simp at hN; omega⟩
    have hN' : t.length ≤ N' := by simp at hN; omega
    rw [Finset.card_filter, Finset.sum_range_succ']
    simp only [List.getD_cons_succ, List.getD_cons_zero]
    rw [← Finset.card_filter, ih N' hN', List.filter_cons]
    cases q x <;> simp

theorem rank_map_of_equivDiag {K : Type*} [CommRing K] [IsDomain K] [DecidableEq K] (f : ℤ →+* K) {m n : ℕ}
    (A : Matrix (Fin m) (Fin n) ℤ) (d : List ℤ) (h : EquivDiag A d) :
    (A.map f).rank = (d.filter (fun x => decide (f x ≠ 0))).length := by
  obtain ⟨hlen, hD⟩ := h
  rw [(UEquiv.map f hD).rank_eq, rectDiag_map _ _ _ _ (map_zero f), rank_rectDiag,
    ← card_filter_getD (fun x => decide (f x ≠ 0)) (by simp) d _ hlen]
  congr 1
  apply Finset.filter_congr
  intro k _
  simp

/-- number of non-zero entries -/
def nz (d : List ℤ) : ℕ := (d.filter (fun x => x != 0)).length
/-- number of entries not divisible by `p` -/
def ndiv (p : ℤ) (d : List ℤ) : ℕ := (d.filter (fun x => !(x % p == 0))).length
/-- number of non-zero entries divisible by `p` -/
def tdiv (p : ℤ) (d : List ℤ) : ℕ := (d.filter (fun x => x != 0 && x % p == 0)).length

theorem rank_rat_of_equivDiag {m n : ℕ} (A : Matrix (Fin m) (Fin n) ℤ) (d : List ℤ) (h : EquivDiag A d) :
    (A.map (Int.castRingHom ℚ)).rank = nz d := by
  rw [rank_map_of_equivDiag (Int.castRingHom ℚ) A d h, nz]
  congr 1
  apply List.filter_congr
  intro x _
  by_cases hx : x = 0 <;> simp [hx]

theorem zmod_cast_ne_zero_iff (p : ℕ) (x : ℤ) : ((Int.castRingHom (ZMod p)) x ≠ 0) ↔ ¬ (x % (p : ℤ) = 0) := by
  rw [eq_intCast, Ne, ZMod.intCast_zmod_eq_zero_iff_dvd, Int.dvd_iff_emod_eq_zero]

theorem rank_zmod_of_equivDiag (p : ℕ) [Fact p.Prime] {m n : ℕ} (A : Matrix (Fin m) (Fin n) ℤ) (d : List ℤ)
    (h : EquivDiag A d) :
    (A.map (Int.castRingHom (ZMod p))).rank = ndiv p d := by
  rw [rank_map_of_equivDiag (Int.castRingHom (ZMod p)) A d h, ndiv]
  congr 1
  apply List.filter_congr
  intro x _
  rw [Bool.eq_iff_iff, decide_eq_true_eq, Bool.not_eq_true', beq_eq_false_iff_ne]
  exact zmod_cast_ne_zero_iff p x

theorem nz_eq_ndiv_add_tdiv (p : ℤ) (d : List ℤ) : nz d = ndiv p d + tdiv p d := by
  unfold nz ndiv tdiv
  rw [List.length_eq_length_filter_add (l := d.filter (fun x => x != 0)) (fun x => x % p == 0), List.filter_filter,
    List.filter_filter, Nat.add_comm]
  congr 2
  · apply List.filter_congr
    intro x _
    by_cases hx : x = 0
    · subst hx; rfl
    · simp [hx]
  · apply List.filter_congr
    intro x _
    exact Bool.and_comm _ _

/-- torsion orders read off a diagonal: non-zero non-unit entries (same filter as `diagHomologyZ`) -/
def torsOf (d : List ℤ) : List ℤ := d.filter (fun x => x != 0 ∧ x.natAbs != 1)

/-- the cell reported for `Hⁱ` of `… --A--> ℤⁿ --B--> …` from the diagonals `dA`, `dB` -/
def cellOf (n : ℕ) (dA dB : List ℤ) : Cell := ⟨n - nz dA - nz dB, torsOf dA⟩

/-- units contribute nothing: for `p ≥ 2` the torsion orders divisible by `p` are exactly the non-zero diagonal
entries divisible by `p` — this is the count `dimFp` takes on the reported cell -/
theorem tors_count (p : ℤ) (hp : 2 ≤ p) (d : List ℤ) :
    ((torsOf d).filter (fun a => a % p == 0)).length = tdiv p d := by
  unfold torsOf tdiv
  rw [List.filter_filter]
  congr 1
  apply List.filter_congr
  intro x _
  by_cases hx0 : x = 0
  · simp [hx0]
  · by_cases hm : x % p = 0
    · have hx1 : x.natAbs ≠ 1 := by
        intro h1
        have h2 : p.natAbs ∣ x.natAbs := Int.natAbs_dvd_natAbs.mpr (Int.dvd_of_emod_eq_zero hm)
        rw [h1, Nat.dvd_one] at h2
        omega
      simp [hx0, hm, hx1]
    · have hb : (x % p == 0) = false := by simpa using hm
      simp [hb]

/-- `B * A = 0` forces `#{dₖ(A) ≠ 0} + #{dₖ(B) ≠ 0} ≤ n` (rank–nullity over ℚ) -/
theorem nz_add_nz_le {l n k : ℕ} (A : Matrix (Fin n) (Fin l) ℤ) (B : Matrix (Fin k) (Fin n) ℤ)
    (hBA : B * A = 0) (dA dB : List ℤ) (hA : EquivDiag A dA) (hB : EquivDiag B dB) :
    nz dA + nz dB ≤ n := by
  have := rank_add_rank_le_card_of_mul_eq_zero (toRat_mul_eq_zero A B hBA)
  rw [rank_rat_of_equivDiag A dA hA, rank_rat_of_equivDiag B dB hB, Fintype.card_fin] at this
  omega

/-- `dim ker B / im A` over ℚ and over `𝔽_q`, read off diagonal forms of the integer matrices -/
theorem finrank_homology_of_diags {l n k : ℕ} (A : Matrix (Fin n) (Fin l) ℤ) (B : Matrix (Fin k) (Fin n) ℤ)
    (hBA : B * A = 0) (dA dB : List ℤ) (hA : EquivDiag A dA) (hB : EquivDiag B dB) :
    Module.finrank ℚ (Homology (toRat A) (toRat B)) = n - nz dA - nz dB ∧
    ∀ (q : ℕ) [Fact q.Prime], Module.finrank (ZMod q) (Homology (redMod q A) (redMod q B)) =
      n - ndiv (q : ℤ) dA - ndiv (q : ℤ) dB := by
  constructor
  · rw [finrank_homology _ _ (toRat_mul_eq_zero A B hBA), rank_rat_of_equivDiag A dA hA, rank_rat_of_equivDiag B dB hB]
  · intro q _
    rw [finrank_homology _ _ (redMod_mul_eq_zero q A B hBA), rank_zmod_of_equivDiag q A dA hA,
      rank_zmod_of_equivDiag q B dB hB]

theorem uct_arith (p : ℕ) [Fact p.Prime] {l n k : ℕ} (A : Matrix (Fin n) (Fin l) ℤ)
    (B : Matrix (Fin k) (Fin n) ℤ) (hBA : B * A = 0) (dA dB : List ℤ)
    (hA : EquivDiag A dA) (hB : EquivDiag B dB) :
    n - (A.map (Int.castRingHom (ZMod p))).rank - (B.map (Int.castRingHom (ZMod p))).rank
      = (n - nz dA - nz dB) + tdiv p dA + tdiv p dB := by
  rw [rank_zmod_of_equivDiag p A dA hA, rank_zmod_of_equivDiag p B dB hB]
  have h1 := nz_add_nz_le A B hBA dA dB hA hB
  have h2 := nz_eq_ndiv_add_tdiv p dA
  have h3 := nz_eq_ndiv_add_tdiv p dB
  omega

theorem nz_add_zeros (a : List ℤ) : nz a + (a.filter (· == 0)).length = a.length := by
  unfold nz
  rw [List.length_eq_length_filter_add (l := a) (fun x => x != 0)]
  congr 2
  apply List.filter_congr
  intro x _
  exact (Bool.not_not _).symm

/-- `diagHomologyZ a` is the pair of cells the general convention reports for
`0 --> ℤⁿ --diag(a)--> ℤⁿ --> 0` (degrees 0 → 1) -/
theorem diagHomologyZ_eq (a : List ℤ) :
    diagHomologyZ a = (cellOf a.length [] a, cellOf a.length a []) := by
  have h := nz_add_zeros a
  have e : (a.filter (· == 0)).length = a.length - nz a := by omega
  simp only [diagHomologyZ, cellOf, torsOf, e]
  simp [nz]

theorem diagDimFp_eq (p : ℤ) (a : List ℤ) : diagDimFp p a + ndiv p a = a.length := by
  unfold diagDimFp ndiv
  exact (List.length_eq_length_filter_add (l := a) (fun x => x % p == 0)).symm

end Yuiv.C03Uct
