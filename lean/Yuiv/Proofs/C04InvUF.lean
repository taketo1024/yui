import Yuiv.Model.C04
import Yuiv.Proofs.KhRefCircles
import Mathlib.Data.Set.Card
/-
How many circles: `classCount L P` is the number of classes, meeting the label set `L`, of the relation generated by the pair
list `P` (it depends only on the SET `L` and the SET of pairs), and for a well-formed link and every state
`circleCount l s = classCount (labelSet l) (statePairs l s)` (`circleCount_eq`).
-/
open Yuiv.KhRef Yuiv.C04
namespace Yuiv.C04Inv
open Relation

def connSetoid (P : List (Nat × Nat)) : Setoid Nat := EqvGen.setoid (pairRel P)

noncomputable def classCount (L : Set Nat) (P : List (Nat × Nat)) : Nat :=
  (Quotient.mk (connSetoid P) '' L).ncard

theorem classCount_congr {L L' : Set Nat} {P P' : List (Nat × Nat)} (hL : L = L') (hP : ∀ p, p ∈ P ↔ p ∈ P') :
    classCount L P = classCount L' P' := by
  have : pairRel P = pairRel P' := by
    funext x y; exact propext (hP (x, y))
  unfold classCount connSetoid
  rw [this, hL]

structure IsTransversal (L : Set Nat) (P : List (Nat × Nat)) (T : List Nat) : Prop where
  nodup : T.Nodup
  sub : ∀ t ∈ T, t ∈ L
  sep : ∀ t1 ∈ T, ∀ t2 ∈ T, Conn P t1 t2 → t1 = t2
  cover : ∀ x ∈ L, ∃ t ∈ T, Conn P x t

theorem classCount_eq_length {L : Set Nat} {P : List (Nat × Nat)} {T : List Nat} (h : IsTransversal L P T) :
    classCount L P = T.length := by
  unfold classCount
  have e : Quotient.mk (connSetoid P) '' L = Quotient.mk (connSetoid P) '' {t | t ∈ T} := by
    ext c; constructor
    · rintro ⟨x, hx, rfl⟩
      obtain ⟨t, ht, hc⟩ := h.cover x hx
      exact ⟨t, ht, (Quotient.sound hc).symm⟩
    · rintro ⟨t, ht, rfl⟩; exact ⟨t, h.sub t ht, rfl⟩
  rw [e, Set.InjOn.ncard_image]
  · have : {t | t ∈ T} = (T.toFinset : Set Nat) := by ext; simp
    rw [this, Set.ncard_coe_finset, List.toFinset_card_of_nodup h.nodup]
  · intro a ha b hb hab; exact h.sep a ha b hb (Quotient.exact hab)



theorem Inv.transversal {labels comp : Array Nat} {P : List (Nat × Nat)} (h : Inv labels comp P)
    (hnd : labels.toList.Nodup) :
    IsTransversal {x | x ∈ labels} P ((roots comp labels.size).map (fun r => labels[r]!)) := by
  have hroot := mem_roots comp labels.size
  have hidx := indexOf_getElem labels hnd
  have hmem : ∀ r < labels.size, labels[r]! ∈ labels := by
    intro r hr; rw [getElem!_pos labels r hr]; exact Array.getElem_mem hr
  refine ⟨?_, ?_, ?_, ?_⟩
  · refine List.Nodup.map_on ?_ ((List.nodup_range' (step := 1) (by omega)).filter _)
    intro x hx y hy hxy
    rw [hroot] at hx hy
    rw [← hidx x hx.1, ← hidx y hy.1, hxy]
  · intro t ht
    obtain ⟨r, hr, rfl⟩ := List.mem_map.mp ht
    exact hmem r ((hroot r).mp hr).1
  · intro t1 ht1 t2 ht2 c
    obtain ⟨r1, hr1, rfl⟩ := List.mem_map.mp ht1
    obtain ⟨r2, hr2, rfl⟩ := List.mem_map.mp ht2
    rw [hroot] at hr1 hr2
    have := h.eq_of_conn c
    rw [hidx r1 hr1.1, hidx r2 hr2.1, hr1.2, hr2.2] at this
    rw [this]
  · intro x hx
    obtain ⟨hi, hxi⟩ := indexOf_spec labels x hx
    have hc := h.conn _ hi
    have hlt := h.lt _ hi
    have hr := h.eq_of_conn hc
    rw [hidx _ hlt, hidx _ hi] at hr
    refine ⟨labels[comp[indexOf labels x]!]!, List.mem_map.mpr ⟨_, (hroot _).mpr ⟨hlt, hr⟩, rfl⟩, ?_⟩
    rw [hxi] at hc
    exact hc.symm

def labelSet (l : Link) : Set Nat := {x | ∃ c ∈ l, x ∈ c.e}

theorem circleCount_eq (l : Link) (hwf : WF l) (s : Nat) :
    circleCount l s = classCount (labelSet l) (statePairs l s) ∧
      ∃ T, IsTransversal (labelSet l) (statePairs l s) T := by
  have hL : labelSet l = {x | x ∈ edgeLabels l} := by
    ext x; simp [labelSet, mem_edgeLabels]
  have htr := (inv_unionAll l hwf s).transversal (edgeLabels_nodup l)
  rw [← hL] at htr
  refine ⟨?_, _, htr⟩
  rw [classCount_eq_length htr]
  unfold circleCount
  rw [circles_size, List.length_map]

end Yuiv.C04Inv
