import Yuiv.Proofs.KhSnfMain
import Yuiv.Proofs.C02MirrorAlg
/-
KhSnf — `KhRef.homologyOf`: its loop-free form (`rowsAt / invAt / groupAt`; the construction of the rows, including the
hash map, is kept syntactically as in the code) and what it reports: the group at position `i` is the cell `cellOf` of
`Proofs/C03Uct` built from the diagonals `diagOf` read off the Smith invariants of the incoming and outgoing differential.
-/
namespace Yuiv.KhSnf
open Yuiv.KhRef

/-- the sparse rows of the differential `gens[i] → gens[i+1]` as built by `homologyOf` (rows = generators of degree `i`,
columns = positions in `gens[i+1]`) -/
def rowsAt (gens : Array (Array Gen)) (d : Gen → Array Term) (i : Nat) : Array Row :=
  let tgt := gens[i + 1]!
  let idx : Std.HashMap Gen Nat := Id.run do
    let mut idx : Std.HashMap Gen Nat := {}
    for j in [0:tgt.size] do idx := idx.insert tgt[j]! j
    return idx
  (gens[i]!).map (fun g => normalizeRow ((d g).map (fun (y, a) => ((idx.get? y).getD 0, a))))

/-- the Smith invariants `homologyOf` computes for position `i` -/
def invAt (gens : Array (Array Gen)) (d : Gen → Array Term) (i : Nat) : Nat × Array Int :=
  if i + 1 < gens.size then smithInvariants (rowsAt gens d i) else (0, #[])

/-- the group `homologyOf` reports at position `i` -/
def groupAt (k : Coeff) (gens : Array (Array Gen)) (d : Gen → Array Term) (i : Nat) : Group :=
  let inPrev : Nat × Array Int := if i == 0 then (0, #[]) else invAt gens d (i - 1)
  ⟨(gens[i]!).size - rankOver k (invAt gens d i) - rankOver k inPrev, match k with | .Z => inPrev.2 | _ => #[]⟩

theorem push_loop {γ : Type} (l : List Nat) (f : Nat → γ) (body : Nat → Array γ → Id (ForInStep (Array γ)))
    (h : ∀ i ∈ l, ∀ out, body i out = pure (ForInStep.yield (out.push (f i)))) (out : Array γ) :
    (forIn l out body).run = out ++ (l.map f).toArray := by
  rw [KhRefLoops.forIn_filterPush (fun i => some (f i)) body l h, List.filterMap_eq_map']
  rfl

theorem range_map_getElem! {γ} [Inhabited γ] (f : Nat → γ) (n i : Nat) (hi : i < n) :
    (((List.range n).map f).toArray)[i]! = f i := by
  simp [hi]

theorem homologyOf_eq (k : Coeff) (gens : Array (Array Gen)) (d : Gen → Array Term) :
    homologyOf k gens d = ((List.range gens.size).map (groupAt k gens d)).toArray := by
  unfold homologyOf
  simp only [Std.Legacy.Range.forIn_eq_forIn_range', Std.Legacy.Range.size, Nat.sub_zero, Nat.add_sub_cancel, Nat.div_one]
  simp only [Id.run_bind, Id.run_pure]
  rw [push_loop (List.range' 0 gens.size) (invAt gens d)]
  case h =>
    intro i _ out
    unfold invAt rowsAt
    simp only [Std.Legacy.Range.forIn_eq_forIn_range', Std.Legacy.Range.size, Nat.sub_zero, Nat.add_sub_cancel, Nat.div_one]
    split
    · rfl
    · rfl
  simp only [Array.empty_append, ← List.range_eq_range']
  rw [push_loop (List.range gens.size) (groupAt k gens d)]
  · simp
  · intro i hi out
    have hi : i < gens.size := List.mem_range.mp hi
    rw [range_map_getElem! _ _ _ hi]
    unfold groupAt
    by_cases h0 : i = 0
    · subst h0; rfl
    · have : i - 1 < gens.size := by omega
      simp only [beq_iff_eq, h0, if_false, range_map_getElem! _ _ _ this]
      cases k <;> rfl

theorem homologyOf_size (k : Coeff) (gens : Array (Array Gen)) (d : Gen → Array Term) :
    (homologyOf k gens d).size = gens.size := by
  rw [homologyOf_eq]; simp

theorem homologyOf_getElem (k : Coeff) (gens : Array (Array Gen)) (d : Gen → Array Term) (i : Nat) (hi : i < gens.size) :
    (homologyOf k gens d)[i]! = groupAt k gens d i := by
  rw [homologyOf_eq, range_map_getElem! _ _ _ hi]

end Yuiv.KhSnf

namespace Yuiv.KhSnf
open Yuiv.KhRef Yuiv.C03Uct

instance (n : Nat) (r : Row) : Decidable (RowOK n r) := by unfold RowOK; infer_instance

/-- the diagonal read off a pair (rank, invariant factors ≠ 1) -/
def diagOf (inv : Nat × Array Int) : List ℤ := List.replicate (inv.1 - inv.2.size) 1 ++ inv.2.toList

/-- the pairs `smithInvariants` returns: at most `rank` factors, all `> 1` -/
def InvOK (inv : Nat × Array Int) : Prop := inv.2.size ≤ inv.1 ∧ ∀ x ∈ inv.2.toList, 1 < x

theorem nz_diagOf {inv : Nat × Array Int} (h : InvOK inv) : nz (diagOf inv) = inv.1 := by
  unfold nz diagOf
  have : (List.replicate (inv.1 - inv.2.size) (1 : ℤ) ++ inv.2.toList).filter (fun x => x != 0) =
      List.replicate (inv.1 - inv.2.size) (1 : ℤ) ++ inv.2.toList := by
    rw [List.filter_eq_self]
    intro x hx
    rcases List.mem_append.1 hx with hx | hx
    · rw [List.mem_replicate] at hx; rw [hx.2]; decide
    · have := h.2 x hx
      simp only [bne_iff_ne, ne_eq]; omega
  rw [this, List.length_append, List.length_replicate, Array.length_toList]
  have := h.1
  omega

theorem torsOf_diagOf {inv : Nat × Array Int} (h : InvOK inv) : torsOf (diagOf inv) = inv.2.toList := by
  unfold torsOf diagOf
  rw [List.filter_append]
  have e1 : (List.replicate (inv.1 - inv.2.size) (1 : ℤ)).filter (fun x => decide (x != 0 ∧ x.natAbs != 1)) = [] := by
    rw [List.filter_eq_nil_iff]
    intro x hx
    rw [List.mem_replicate] at hx
    rw [hx.2]; decide
  have e2 : inv.2.toList.filter (fun x => decide (x != 0 ∧ x.natAbs != 1)) = inv.2.toList := by
    rw [List.filter_eq_self]
    intro x hx
    have := h.2 x hx
    simp only [bne_iff_ne, ne_eq, decide_eq_true_eq]
    omega
  rw [e1, e2, List.nil_append]

theorem ndiv_diagOf {inv : Nat × Array Int} (h : InvOK inv) (p : Nat) (hp : 2 ≤ p) :
    ndiv (p : ℤ) (diagOf inv) = rankOver (.Fp p) inv := by
  show _ = inv.1 - (inv.2.filter (fun x => x % (p : Int) == 0)).size
  unfold ndiv diagOf
  rw [List.filter_append, List.length_append]
  have e1 : (List.replicate (inv.1 - inv.2.size) (1 : ℤ)).filter (fun x => !(x % (p : ℤ) == 0)) =
      List.replicate (inv.1 - inv.2.size) (1 : ℤ) := by
    rw [List.filter_eq_self]
    intro x hx
    rw [List.mem_replicate] at hx
    rw [hx.2]
    have : (1 : ℤ) % (p : ℤ) = 1 := Int.emod_eq_of_lt (by omega) (by omega)
    rw [this]; decide
  rw [e1, List.length_replicate]
  have e2 : (inv.2.toList.filter (fun x => !(x % (p : ℤ) == 0))).length +
      (inv.2.filter (fun x => x % (p : Int) == 0)).size = inv.2.size := by
    rw [← Array.length_toList (xs := inv.2.filter _), Array.toList_filter, ← Array.length_toList (xs := inv.2),
      List.length_eq_length_filter_add (fun x => x % (p : ℤ) == 0) (l := inv.2.toList)]
    exact Nat.add_comm _ _
  have := h.1
  omega

theorem invOK_zero : InvOK (0, #[]) := ⟨by simp, by simp⟩

theorem invOK_smith (n : Nat) (rows : Array Row) (hok : ∀ r ∈ rows.toList, RowOK n r) : InvOK (smithInvariants rows) :=
  ⟨(smithInvariants_spec n rows hok).1, (smithInvariants_spec n rows hok).2.2.1⟩

theorem equivDiag_smith (n : Nat) (rows : Array Row) (hok : ∀ r ∈ rows.toList, RowOK n r) :
    EquivDiag (matOf n rows) (diagOf (smithInvariants rows)) :=
  (smithInvariants_spec n rows hok).2.1

/-- all rows that `homologyOf` builds are well-formed (decidable per instance; `KhSpec.Fam.rowsOK` proves it for the
tables of `khHomology`) -/
def RowsOK (gens : Array (Array Gen)) (d : Gen → Array Term) : Prop :=
  ∀ j, j + 1 < gens.size → ∀ r ∈ (rowsAt gens d j).toList, RowOK (gens[j + 1]!).size r

theorem invAt_of_lt {gens : Array (Array Gen)} {d : Gen → Array Term} {j : Nat} (h : j + 1 < gens.size) :
    invAt gens d j = smithInvariants (rowsAt gens d j) := if_pos h

theorem invAt_of_not_lt {gens : Array (Array Gen)} {d : Gen → Array Term} {j : Nat} (h : ¬ j + 1 < gens.size) :
    invAt gens d j = (0, #[]) := if_neg h

theorem invAt_ok (gens : Array (Array Gen)) (d : Gen → Array Term) (hok : RowsOK gens d) (j : Nat) :
    InvOK (invAt gens d j) := by
  by_cases h : j + 1 < gens.size
  · rw [invAt_of_lt h]; exact invOK_smith _ _ (hok j h)
  · rw [invAt_of_not_lt h]; exact invOK_zero

/-- the Smith invariants `homologyOf` uses for the differential into position `i` (none at position `0`) -/
def invIn (gens : Array (Array Gen)) (d : Gen → Array Term) (i : Nat) : Nat × Array Int :=
  if i == 0 then (0, #[]) else invAt gens d (i - 1)

theorem invIn_succ (gens : Array (Array Gen)) (d : Gen → Array Term) (i : Nat) :
    invIn gens d (i + 1) = invAt gens d i := rfl

theorem invIn_ok (gens : Array (Array Gen)) (d : Gen → Array Term) (hok : RowsOK gens d) (i : Nat) :
    InvOK (invIn gens d i) := by
  cases i with
  | zero => exact invOK_zero
  | succ i => exact invAt_ok gens d hok i

theorem groupAt_spec (gens : Array (Array Gen)) (d : Gen → Array Term) (hok : RowsOK gens d) (i : Nat)
    (hi : i < gens.size) :
    ((homologyOf .Z gens d)[i]!).rank =
      (cellOf (gens[i]!).size (diagOf (invIn gens d i)) (diagOf (invAt gens d i))).rank ∧
    ((homologyOf .Z gens d)[i]!).tors.toList =
      (cellOf (gens[i]!).size (diagOf (invIn gens d i)) (diagOf (invAt gens d i))).tors ∧
    ((homologyOf .Q gens d)[i]!).rank =
      (gens[i]!).size - nz (diagOf (invIn gens d i)) - nz (diagOf (invAt gens d i)) ∧
    ((homologyOf .Q gens d)[i]!).tors = #[] ∧
    ∀ p, 2 ≤ p → ((homologyOf (.Fp p) gens d)[i]!).rank =
        (gens[i]!).size - ndiv (p : ℤ) (diagOf (invIn gens d i)) - ndiv (p : ℤ) (diagOf (invAt gens d i)) ∧
      ((homologyOf (.Fp p) gens d)[i]!).tors = #[] := by
  have hprevOK := invIn_ok gens d hok i
  have houtOK := invAt_ok gens d hok i
  refine ⟨?_, ?_, ?_, ?_, ?_⟩
  · rw [homologyOf_getElem .Z gens d i hi]
    show (gens[i]!).size - rankOver .Z (invAt gens d i) - rankOver .Z (invIn gens d i) = _
    unfold cellOf
    simp only [rankOver]
    rw [nz_diagOf hprevOK, nz_diagOf houtOK]
    omega
  · rw [homologyOf_getElem .Z gens d i hi]
    show (invIn gens d i).2.toList = _
    unfold cellOf
    simp only
    rw [torsOf_diagOf hprevOK]
  · rw [homologyOf_getElem .Q gens d i hi]
    show (gens[i]!).size - rankOver .Q (invAt gens d i) - rankOver .Q (invIn gens d i) = _
    simp only [rankOver]
    rw [nz_diagOf hprevOK, nz_diagOf houtOK]
    omega
  · rw [homologyOf_getElem .Q gens d i hi]
    rfl
  · intro p hp
    rw [homologyOf_getElem (.Fp p) gens d i hi]
    refine ⟨?_, rfl⟩
    show (gens[i]!).size - rankOver (.Fp p) (invAt gens d i) - rankOver (.Fp p) (invIn gens d i) = _
    rw [ndiv_diagOf hprevOK p hp, ndiv_diagOf houtOK p hp]
    omega

end Yuiv.KhSnf
