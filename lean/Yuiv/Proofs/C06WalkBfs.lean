import Yuiv.Props.C06Canon
/-
BFS 2-colouring (`Yuiv.C06Canon.colouring`) of a graph that is a PATH: the colour of a vertex is the parity of
its distance to the start vertex.  Instance of `Yuiv.C06Canon.colouring_spec` (order independence / uniqueness
of the 2-colouring on the reachable part) with the explicit parity colouring, plus reachability of every vertex.
-/
namespace Yuiv.C06Walk
open Yuiv Yuiv.C06Canon

section path
/- a graph on the vertices `u < m` that is a PATH: the vertices carry pairwise different positions `posW u`, the
positions are exactly `0..n-1`, adjacent vertices have neighbouring positions and neighbouring positions are adjacent
(both ways) -/
variable (adj : Nat → Nat → Bool) (m n i : Nat) (posW : Nat → Nat) (hi : i < m)
  (hadj : ∀ u v, adj u v = true → u < m ∧ v < m ∧ (posW u = posW v + 1 ∨ posW v = posW u + 1))
  (hnb : ∀ u v, u < m → v < m → posW u + 1 = posW v → adj u v = true ∧ adj v u = true)
  (hinj : ∀ u v, u < m → v < m → posW u = posW v → u = v)
  (hlt : ∀ u, u < m → posW u < n)
  (hsurj : ∀ k, k < n → ∃ u, u < m ∧ posW u = k)

theorem parity_proper (u v : Nat) (h : posW u = posW v + 1 ∨ posW v = posW u + 1) :
    (if (posW v + posW i) % 2 = 0 then Colour.a else Colour.b)
      = (if (posW u + posW i) % 2 = 0 then Colour.a else Colour.b).other := by
  by_cases h1 : (posW u + posW i) % 2 = 0
  · rw [if_pos h1, if_neg (by omega)]; rfl
  · rw [if_neg h1, if_pos (by omega)]; rfl

include hi hnb hinj hlt hsurj

theorem path_reach : ∀ u, u < m → Reach adj m i u := by
  -- induction on the distance of the positions: the vertex one position closer to `i` is reached first
  have key : ∀ d u, u < m → (posW u = posW i + d ∨ posW u + d = posW i) → Reach adj m i u := by
    intro d
    induction d with
    | zero =>
      intro u hu hp
      have : u = i := hinj u i hu hi (by omega)
      subst this
      exact Reach.start
    | succ d ih =>
      intro u hu hp
      have hun := hlt u hu
      have hin := hlt i hi
      rcases hp with hp | hp
      · obtain ⟨u', hu', hp'⟩ := hsurj (posW i + d) (by omega)
        exact Reach.step (ih u' hu' (Or.inl hp')) (hnb u' u hu' hu (by omega)).1 hu
      · obtain ⟨u', hu', hp'⟩ := hsurj (posW u + 1) (by omega)
        exact Reach.step (ih u' hu' (Or.inr (by omega))) (hnb u u' hu hu' (by omega)).2 hu
  intro u hu
  by_cases h : posW i ≤ posW u
  · exact key (posW u - posW i) u hu (Or.inl (by omega))
  · exact key (posW i - posW u) u hu (Or.inr (by omega))

include hadj

theorem path_colouring_ne (col : Nat → Colour) (rem : List Nat)
    (hres : colouring adj ascending m i = some (col, rem)) :
    ∀ u v, u < m → v < m → posW u + 1 = posW v → col u ≠ col v := by
  intro u v hu hv huv h
  have hp := colouring_proper_on_reached adj ascending (fun _ _ => List.Perm.refl _) m i hi
    (fun k => if (posW k + posW i) % 2 = 0 then Colour.a else Colour.b) (fun u v huv => parity_proper i posW u v (hadj u v huv).2.2)
    (if_pos (by omega)) col rem hres u v hu hv (path_reach adj m n i posW hi hnb hinj hlt hsurj u hu)
    (hnb u v hu hv huv).1
  exact other_ne _ (h ▸ hp).symm

end path

end Yuiv.C06Walk
