import Yuiv.Props.C04
import Yuiv.Proofs.C04InvRen
import Yuiv.Proofs.C04InvPerm
import Yuiv.Proofs.C04InvCanon
import Yuiv.Proofs.C04InvExWf
/-
C04-a — the Jones polynomial state sum of the executable model (`KhRef.circles` / `C04.circleCount` / `C04.jones`
/ `C04.chiChain`) is invariant under
  (i)  every renumbering `f : ℕ → ℕ` of the edge labels that is INJECTIVE ON THE LABELS OF THE DIAGRAM
       (`Set.InjOn f (labelSet l)`; in particular every injective `f`; `renumber f l` maps every label through `f`), and
  (ii) every PERMUTATION of the crossing list (`l'.toList.Perm l.toList`),
for every WELL-FORMED diagram `l` (`WF l` : every crossing has exactly 4 edge slots; nothing else is assumed — the
PD code need not be a valid planar diagram), every state, every sign array.

What exactly is proved:
  * `circleCount_classes` : for every state `s`, `circleCount l s` (size of the output of the imperative relabelling
    union-find `circles` run on `edgeLabels l` = dedup + `Array.qsort`) equals `classCount (labelSet l) (statePairs l s)`,
    the number of classes of edge labels under the equivalence relation generated by the arcs of the resolved
    crossings (`V` joins slots 0–3, 1–2; `H` joins 0–1, 2–3).  This is the abstract, order- and name-independent
    meaning of "number of circles"; (i) and (ii) follow from it.
  * (i)  `circleCount_renumber` (every state, even `s ≥ 2^n`), `jones_renumber` and `chiChain_renumber`:
    LITERAL equality of the coefficient lists.
  * (ii) `jones_stateSum_perm` : the state sums `evalJones …` agree in EVERY commutative ring for ALL `q qinv`
    (no relation between them needed); `jones_eval_perm`, `jones_eval_perm_signs`, `chiChain_eval_perm`,
    `jones_eval_renumber_perm` : the coefficient lists computed by `jones` / `chiChain` have the same value
    `LP.eval q qinv` for every commutative ring `R` and every `q * qinv = 1`.  With `R = ℤ[q,q⁻¹]` this says that the
    two Laurent polynomials are equal.
  * (ii), literal: `jones_perm`, `chiChain_perm`, `jones_renumber_perm` : LITERAL equality of the coefficient LISTS
    under crossing permutation (+ injective renumbering).  This uses that `jones` / `chiChain` always return a
    canonical list (strictly increasing exponents, no zero coefficient — `canon_jones`, `canon_chiChain`) and that a
    canonical list is determined by its value at `q = T` in Mathlib's `ℤ[T;T⁻¹]` (`canon_eq_of_eval`).
  * by-product (property C04 itself, literal form): `chiChain_eq_jones_literal : chiChain l signs = jones l signs`
    for EVERY link array and sign array (no well-formedness needed).
The sign array is an input of `jones`; only its numbers of positive and negative entries matter.  That
`crossingSigns` of a permuted / renumbered diagram is the correspondingly permuted sign array is proved in
`Props/C18Inv` (`crossingSigns_permute`) and `Props/C18` (`crossingSigns_renumber`), not here.
-/
namespace Yuiv.C04Inv
open Yuiv.KhRef Yuiv.C04

variable {R : Type} [CommRing R]

/-- the model's circle count is the number of classes of edge labels under the equivalence generated by the arcs
of the resolved crossings — for every well-formed diagram and every state -/
theorem circleCount_classes (l : Link) (hwf : WF l) (s : Nat) :
    circleCount l s = classCount (labelSet l) (statePairs l s) :=
  (circleCount_eq l hwf s).1

/-- (i) circle counts are invariant under injective renumbering of the edge labels, for every state -/
theorem circleCount_renumber_inv {f : Nat → Nat} (l : Link) (hf : Set.InjOn f (labelSet l)) (hwf : WF l) (s : Nat) :
    crossingNum (renumber f l) = crossingNum l ∧ circleCount (renumber f l) s = circleCount l s :=
  ⟨crossingNum_renumber f l, circleCount_renumber_on l hf hwf s⟩

/-- (i) the coefficient list computed by `jones` is LITERALLY unchanged by an injective renumbering -/
theorem jones_renumber_inv {f : Nat → Nat} (l : Link) (hf : Set.InjOn f (labelSet l)) (hwf : WF l)
    (signs : Array Int) : jones (renumber f l) signs = jones l signs :=
  jones_renumber_on l hf hwf signs

/-- (i) the same for the graded Euler characteristic of the cube reference's chain groups -/
theorem chiChain_renumber_inv {f : Nat → Nat} (l : Link) (hf : Set.InjOn f (labelSet l)) (hwf : WF l)
    (signs : Array Int) : chiChain (renumber f l) signs = chiChain l signs :=
  chiChain_renumber_on l hf hwf signs

/-- (ii) the Jones state sum is invariant under any permutation of the crossing list: in every commutative ring,
for all `q`, `qinv` (no relation needed) and all `nPos`, `nNeg` -/
theorem jones_stateSum_perm (q qinv : R) (nPos nNeg : Nat) {l l' : Link} (hwf : WF l)
    (hp : l'.toList.Perm l.toList) :
    evalJones q qinv (crossingNum l') nPos nNeg (circleCount l') =
      evalJones q qinv (crossingNum l) nPos nNeg (circleCount l) := by
  rw [evalJones_stateSum, evalJones_stateSum, stateSum_perm (-q) (q + qinv) hwf hp]

/-- (ii) the coefficient lists computed by `jones` for a diagram and for any reordering of its crossings (with sign
arrays having the same numbers of positive and of negative entries) have the same value at every invertible `q` of
every commutative ring -/
theorem jones_eval_perm (q qinv : R) (hq : q * qinv = 1) {l l' : Link} (hwf : WF l)
    (hp : l'.toList.Perm l.toList) (signs signs' : Array Int)
    (hpos : (signs'.filter (· > 0)).size = (signs.filter (· > 0)).size)
    (hneg : (signs'.filter (· < 0)).size = (signs.filter (· < 0)).size) :
    LP.eval q qinv (fun k => (k : R)) (jones l' signs') = LP.eval q qinv (fun k => (k : R)) (jones l signs) := by
  rw [eval_jones q qinv hq, eval_jones q qinv hq, hpos, hneg]
  exact jones_stateSum_perm q qinv _ _ hwf hp

/-- (ii) … in particular when the sign array is permuted (in any way) -/
theorem jones_eval_perm_signs (q qinv : R) (hq : q * qinv = 1) {l l' : Link} (hwf : WF l)
    (hp : l'.toList.Perm l.toList) {signs signs' : Array Int} (hs : signs'.toList.Perm signs.toList) :
    LP.eval q qinv (fun k => (k : R)) (jones l' signs') = LP.eval q qinv (fun k => (k : R)) (jones l signs) := by
  have key : ∀ p : Int → Bool, (signs'.filter p).size = (signs.filter p).size := by
    intro p
    have e : ∀ a : Array Int, (a.filter p).size = (a.toList.filter p).length := fun a => by
      rw [← Array.toList_filter, Array.length_toList]
    rw [e, e]
    exact (hs.filter p).length_eq
  exact jones_eval_perm q qinv hq hwf hp signs signs' (key _) (key _)

/-- (ii) the same for the graded Euler characteristic of the chain groups of the cube reference -/
theorem chiChain_eval_perm (q qinv : R) (hq : q * qinv = 1) {l l' : Link} (hwf : WF l)
    (hp : l'.toList.Perm l.toList) (signs signs' : Array Int)
    (hpos : (signs'.filter (· > 0)).size = (signs.filter (· > 0)).size)
    (hneg : (signs'.filter (· < 0)).size = (signs.filter (· < 0)).size) :
    LP.eval q qinv (fun k => (k : R)) (chiChain l' signs') =
      LP.eval q qinv (fun k => (k : R)) (chiChain l signs) := by
  rw [eval_chiChain_eq_eval_jones q qinv hq, eval_chiChain_eq_eval_jones q qinv hq]
  exact jones_eval_perm q qinv hq hwf hp signs signs' hpos hneg

/-- (i)+(ii) combined: renumber the labels injectively AND reorder the crossings -/
theorem jones_eval_renumber_perm (q qinv : R) (hq : q * qinv = 1) {f : Nat → Nat}
    {l l' : Link} (hf : Set.InjOn f (labelSet l)) (hwf : WF l) (hp : l'.toList.Perm (renumber f l).toList) (signs signs' : Array Int)
    (hpos : (signs'.filter (· > 0)).size = (signs.filter (· > 0)).size)
    (hneg : (signs'.filter (· < 0)).size = (signs.filter (· < 0)).size) :
    LP.eval q qinv (fun k => (k : R)) (jones l' signs') = LP.eval q qinv (fun k => (k : R)) (jones l signs) := by
  rw [jones_eval_perm q qinv hq (WF_renumber hwf) hp signs signs' hpos hneg, jones_renumber_on l hf hwf]

/-! ### literal equality of the coefficient lists (via canonicity + evaluation in ℤ[T;T⁻¹]) -/

open LaurentPolynomial in
/-- (ii) LITERAL equality of the `jones` coefficient lists under any permutation of the crossing list (sign arrays
with the same numbers of positive and of negative entries) -/
theorem jones_perm {l l' : Link} (hwf : WF l) (hp : l'.toList.Perm l.toList) (signs signs' : Array Int)
    (hpos : (signs'.filter (· > 0)).size = (signs.filter (· > 0)).size)
    (hneg : (signs'.filter (· < 0)).size = (signs.filter (· < 0)).size) :
    jones l' signs' = jones l signs :=
  canon_eq_of_eval _ _ (canon_jones _ _) (canon_jones _ _)
    (jones_eval_perm (T 1 : ℤ[T;T⁻¹]) (T (-1)) T_unit hwf hp signs signs' hpos hneg)

open LaurentPolynomial in
/-- (ii) the same for `chiChain` -/
theorem chiChain_perm {l l' : Link} (hwf : WF l) (hp : l'.toList.Perm l.toList) (signs signs' : Array Int)
    (hpos : (signs'.filter (· > 0)).size = (signs.filter (· > 0)).size)
    (hneg : (signs'.filter (· < 0)).size = (signs.filter (· < 0)).size) :
    chiChain l' signs' = chiChain l signs :=
  canon_eq_of_eval _ _ (canon_chiChain _ _) (canon_chiChain _ _)
    (chiChain_eval_perm (T 1 : ℤ[T;T⁻¹]) (T (-1)) T_unit hwf hp signs signs' hpos hneg)

/-- (i)+(ii) LITERAL equality after injective renumbering of the labels AND reordering of the crossings -/
theorem jones_renumber_perm {f : Nat → Nat} {l l' : Link} (hf : Set.InjOn f (labelSet l)) (hwf : WF l)
    (hp : l'.toList.Perm (renumber f l).toList) (signs signs' : Array Int)
    (hpos : (signs'.filter (· > 0)).size = (signs.filter (· > 0)).size)
    (hneg : (signs'.filter (· < 0)).size = (signs.filter (· < 0)).size) :
    jones l' signs' = jones l signs := by
  rw [jones_perm (WF_renumber hwf) hp signs signs' hpos hneg, jones_renumber_on l hf hwf]

open LaurentPolynomial in
/-- by-product, property C04 in literal form: the graded Euler characteristic of the chain groups of the cube
reference and the output of the `jones_polynomial` model are the SAME coefficient list, for all inputs -/
theorem chiChain_eq_jones_literal (l : Link) (signs : Array Int) : chiChain l signs = jones l signs :=
  canon_eq_of_eval _ _ (canon_chiChain _ _) (canon_jones _ _)
    (eval_chiChain_eq_eval_jones (T 1 : ℤ[T;T⁻¹]) (T (-1)) T_unit l signs)


/-! ### non-vacuity: the hypotheses hold for the trefoil and the Hopf link with non-trivial `f` / permutations -/

/-! `trefoil = #[⟨.X,#[1,4,2,5]⟩, ⟨.X,#[3,6,4,1]⟩, ⟨.X,#[5,2,6,3]⟩]`, `hopf = #[⟨.X,#[4,1,3,2]⟩, ⟨.X,#[2,3,1,4]⟩]`
(`Proofs/C04InvEx.lean`) -/

example : WF trefoil := wf_trefoil
example : WF hopf := wf_hopf
example : Function.Injective (fun x : Nat => 10 * x + 3) := by
  intro a b h; dsimp only at h; omega

/-- a relabelled trefoil has literally the same `jones` list (`#eval` of both sides:
`[(-9, -1), (-5, 1), (-3, 1), (-1, 1)]`) -/
example : jones (renumber (fun x => 10 * x + 3) trefoil) #[-1, -1, -1] = jones trefoil #[-1, -1, -1] :=
  jones_renumber_inv trefoil (Function.Injective.injOn (by intro a b h; dsimp only at h; omega))
    wf_trefoil _

/-- a renumbering that is injective on the six trefoil labels but NOT injective on ℕ (`x ↦ 3x mod 7`) -/
example : jones (renumber (fun x => (x * 3) % 7) trefoil) #[-1, -1, -1] = jones trefoil #[-1, -1, -1] :=
  jones_renumber_inv trefoil
    (by
      intro a ha b hb h
      have := trefoil_label_bounds ha
      have := trefoil_label_bounds hb
      dsimp only at h
      omega)
    wf_trefoil _

/-- the trefoil with its crossings rotated (3rd, 1st, 2nd) evaluates to the same element of every ring -/
example (q qinv : R) (hq : q * qinv = 1) :
    LP.eval q qinv (fun k => (k : R))
        (jones #[⟨.X, #[5, 2, 6, 3]⟩, ⟨.X, #[1, 4, 2, 5]⟩, ⟨.X, #[3, 6, 4, 1]⟩] #[-1, -1, -1]) =
      LP.eval q qinv (fun k => (k : R)) (jones trefoil #[-1, -1, -1]) :=
  jones_eval_perm q qinv hq
    wf_trefoil
    trefoil_rot_perm
    _ _ rfl rfl

/-- the rotated trefoil has literally the same `jones` list -/
example : jones #[⟨.X, #[5, 2, 6, 3]⟩, ⟨.X, #[1, 4, 2, 5]⟩, ⟨.X, #[3, 6, 4, 1]⟩] #[-1, -1, -1]
    = jones trefoil #[-1, -1, -1] :=
  jones_perm
    wf_trefoil
    trefoil_rot_perm
    _ _ rfl rfl

/-- the Hopf link with its two crossings exchanged and the sign array reversed -/
example (q qinv : R) (hq : q * qinv = 1) :
    LP.eval q qinv (fun k => (k : R)) (jones #[⟨.X, #[2, 3, 1, 4]⟩, ⟨.X, #[4, 1, 3, 2]⟩] #[-1, 1]) =
      LP.eval q qinv (fun k => (k : R)) (jones hopf #[1, -1]) :=
  jones_eval_perm_signs q qinv hq
    (by intro c hc; simp [hopf] at hc; rcases hc with rfl | rfl <;> rfl)
    (by show List.Perm [_, _] [_, _]; exact List.Perm.swap _ _ _)
    (by show List.Perm [_, _] [_, _]; exact List.Perm.swap _ _ _)

/-- an invertible `q` exists in a non-trivial ring: `q = 2`, `qinv = 1/2` in ℚ-like rings; here `q = −1` in ℤ -/
example : (-1 : Int) * (-1) = 1 := by decide

end Yuiv.C04Inv
