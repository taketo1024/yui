import Yuiv.Model.C14
import Yuiv.Proofs.NumInteger
import Mathlib.Tactic.Ring
import Mathlib.Tactic.Linarith
import Mathlib.RingTheory.Coprime.Lemmas
namespace Yuiv.C14
open Res

/-- canonical form of a rational: positive denominator, lowest terms (so `0` is `0/1`) -/
def Canon (r : Ratio) : Prop := 0 < r.den ∧ Int.gcd r.num r.den = 1

theorem tdivR_ok (a : Int) {b : Int} (h : b ≠ 0) : tdivR a b = ok (a.tdiv b) := by
  simp [tdivR, h]

theorem gcd_cast_pos {n d : Int} (h : n ≠ 0 ∨ d ≠ 0) : (0:Int) < (Int.gcd n d : Int) := by
  have := Int.gcd_pos_iff.2 h; omega

theorem div_gcd_spec (n d : Int) (hd : 0 < d) :
    0 < d / (Int.gcd n d : Int) ∧ Int.gcd (n / (Int.gcd n d : Int)) (d / (Int.gcd n d : Int)) = 1 ∧
      (n / (Int.gcd n d : Int)) * d = n * (d / (Int.gcd n d : Int)) := by
  have hg : (0:Int) < (Int.gcd n d : Int) := gcd_cast_pos (Or.inr (by omega))
  obtain ⟨n', hn'⟩ := Int.gcd_dvd_left n d
  obtain ⟨d', hd'⟩ := Int.gcd_dvd_right n d
  have h1 : n / (Int.gcd n d : Int) = n' := Int.ediv_eq_of_eq_mul_right (by omega) hn'
  have h2 : d / (Int.gcd n d : Int) = d' := Int.ediv_eq_of_eq_mul_right (by omega) hd' 
  refine ⟨?_, Int.gcd_ediv_gcd_ediv_gcd (by omega), ?_⟩
  · rw [h2]
    by_contra hc
    have : d' ≤ 0 := by omega
    have : (Int.gcd n d : Int) * d' ≤ 0 := Int.mul_nonpos_of_nonneg_of_nonpos (by omega) this
    omega
  · rw [h1, h2]
    generalize (Int.gcd n d : Int) = g at *
    subst hn' hd'
    ring

theorem tdivR_gcd_left (n d : Int) (h : n ≠ 0 ∨ d ≠ 0) : tdivR n (intGcd n d) = ok (n / (Int.gcd n d : Int)) := by
  have := gcd_cast_pos h
  unfold intGcd
  rw [tdivR_ok _ (by omega), Int.tdiv_eq_ediv_of_dvd (Int.gcd_dvd_left n d)]
theorem tdivR_gcd_right (n d : Int) (h : n ≠ 0 ∨ d ≠ 0) : tdivR d (intGcd n d) = ok (d / (Int.gcd n d : Int)) := by
  have := gcd_cast_pos h
  unfold intGcd
  rw [tdivR_ok _ (by omega), Int.tdiv_eq_ediv_of_dvd (Int.gcd_dvd_right n d)]

/-- the part of `reduce` after the sign normalisation -/
theorem reduce_pos (n d : Int) (hn : n ≠ 0) (hd : 0 < d) :
    ∃ c, (if ((d == 1) || intIsUnit n) = true then (ok ⟨n, d⟩ : Res Ratio)
      else
        let g := intGcd n d
        if (g != 1) = true then do
          let n' ← tdivR n g
          let d' ← tdivR d g
          ok ⟨n', d'⟩
        else ok ⟨n, d⟩) = ok c ∧ Canon c ∧ c.num * d = n * c.den := by
  have hg : (0:Int) < (Int.gcd n d : Int) := gcd_cast_pos (Or.inl hn)
  split
  · rename_i h
    refine ⟨_, rfl, ⟨hd, ?_⟩, rfl⟩
    simp only [Bool.or_eq_true, beq_iff_eq, intIsUnit] at h
    rcases h with h | h | h
    · subst h; simp
    · subst h; simp
    · have : n = -1 := by omega
      subst this; simp
  · by_cases h : (intGcd n d != 1) = true
    · simp only [h, if_true]
      rw [tdivR_gcd_left n d (Or.inl hn), tdivR_gcd_right n d (Or.inl hn)]
      simp only [Res.bind_ok]
      obtain ⟨h1, h2, h3⟩ := div_gcd_spec n d hd
      exact ⟨_, rfl, ⟨h1, h2⟩, h3⟩
    · simp only [h]
      simp only [intGcd, bne_iff_ne, ne_eq, Decidable.not_not] at h
      exact ⟨_, rfl, ⟨hd, by exact_mod_cast h⟩, rfl⟩

theorem reduce_spec (r : Ratio) (hd : r.den ≠ 0) :
    ∃ c, Ratio.reduce r = ok c ∧ Canon c ∧ c.num * r.den = r.num * c.den := by
  obtain ⟨n, d⟩ := r
  simp only at hd
  unfold Ratio.reduce
  by_cases hn : n = 0
  · subst hn
    by_cases h1 : d = 1
    · subst h1; exact ⟨⟨0, 1⟩, by simp, ⟨by decide, by decide⟩, by simp⟩
    · exact ⟨⟨0, 1⟩, by simp [h1], ⟨by decide, by decide⟩, by simp⟩
  · have hn' : (n == 0) = false := by simpa using hn
    simp only [hn', Bool.false_eq_true, if_false]
    by_cases hneg : d < 0
    · have hu : intNormUnit d = -1 := by simp [intNormUnit, hneg]
      obtain ⟨c, h1, h2, h3⟩ := reduce_pos (n * -1) (d * -1) (by omega) (by omega)
      refine ⟨c, ?_, h2, ?_⟩
      · rw [← h1, hu]; rfl
      · linarith
    · have hu : intNormUnit d = 1 := by simp [intNormUnit, hneg]
      obtain ⟨c, h1, h2, h3⟩ := reduce_pos n d hn (by omega)
      refine ⟨c, ?_, h2, h3⟩
      rw [← h1, hu]; rfl

theorem mul_core (a b c d : Int) (hb : 0 < b) (hd : 0 < d) (hab : Int.gcd a b = 1) (hcd : Int.gcd c d = 1) :
    0 < (b / (Int.gcd b c : Int)) * (d / (Int.gcd a d : Int)) ∧
    Int.gcd ((a / (Int.gcd a d : Int)) * (c / (Int.gcd b c : Int))) ((b / (Int.gcd b c : Int)) * (d / (Int.gcd a d : Int))) = 1 ∧
    ((a / (Int.gcd a d : Int)) * (c / (Int.gcd b c : Int))) * (b * d)
      = (a * c) * ((b / (Int.gcd b c : Int)) * (d / (Int.gcd a d : Int))) := by
  obtain ⟨p1, q1, e1⟩ := div_gcd_spec a d hd
  obtain ⟨p2, q2, e2⟩ := div_gcd_spec c b hb
  rw [Int.gcd_comm c b] at p2 q2 e2
  have ha' : (a / (Int.gcd a d : Int)) ∣ a := Int.ediv_dvd_of_dvd (Int.gcd_dvd_left a d)
  have hd' : (d / (Int.gcd a d : Int)) ∣ d := Int.ediv_dvd_of_dvd (Int.gcd_dvd_right a d)
  have hb' : (b / (Int.gcd b c : Int)) ∣ b := Int.ediv_dvd_of_dvd (Int.gcd_dvd_left b c)
  have hc' : (c / (Int.gcd b c : Int)) ∣ c := Int.ediv_dvd_of_dvd (Int.gcd_dvd_right b c)
  have i1 := Int.isCoprime_iff_gcd_eq_one.2 q1
  have i2 := Int.isCoprime_iff_gcd_eq_one.2 q2
  have i3 := Int.isCoprime_iff_gcd_eq_one.2 hab
  have i4 := Int.isCoprime_iff_gcd_eq_one.2 hcd
  refine ⟨Int.mul_pos p2 p1, ?_, ?_⟩
  · apply Int.isCoprime_iff_gcd_eq_one.1
    apply IsCoprime.mul_left
    · exact IsCoprime.mul_right ((i3.of_isCoprime_of_dvd_left ha').of_isCoprime_of_dvd_right hb') i1
    · exact IsCoprime.mul_right i2 ((i4.of_isCoprime_of_dvd_left hc').of_isCoprime_of_dvd_right hd')
  · calc (a / (Int.gcd a d : Int)) * (c / (Int.gcd b c : Int)) * (b * d)
        = ((a / (Int.gcd a d : Int)) * d) * ((c / (Int.gcd b c : Int)) * b) := by ring
      _ = (a * (d / (Int.gcd a d : Int))) * (c * (b / (Int.gcd b c : Int))) := by rw [e1, e2]
      _ = _ := by ring

theorem new_spec (n d : Int) (hd : d ≠ 0) :
    ∃ c, Ratio.new n d = ok c ∧ Canon c ∧ c.num * d = n * c.den := by
  obtain ⟨c, h1, h2, h3⟩ := reduce_spec ⟨n, d⟩ hd
  exact ⟨c, by simp [Ratio.new, Res.assert, hd, h1], h2, h3⟩

theorem neg_spec (r : Ratio) (h : Canon r) :
    ∃ c, Ratio.neg r = ok c ∧ Canon c ∧ c.num * r.den = -r.num * c.den :=
  new_spec (-r.num) r.den (by have := h.1; omega)

theorem inv_spec (r : Ratio) (hn : r.num ≠ 0) :
    ∃ c, Ratio.inv r = ok (some c) ∧ Canon c ∧ c.num * r.num = r.den * c.den := by
  obtain ⟨c, h1, h2, h3⟩ := new_spec r.den r.num hn
  exact ⟨c, by simp [Ratio.inv, Ratio.isZero, hn, h1], h2, h3⟩

theorem inv_zero (r : Ratio) (hn : r.num = 0) : Ratio.inv r = ok none := by
  simp [Ratio.inv, Ratio.isZero, hn]

theorem pm_mul (sb : Bool) (x y k : Int) : Ratio.pm sb (x * k) (y * k) = Ratio.pm sb x y * k := by
  cases sb <;> simp only [Ratio.pm, Bool.false_eq_true, if_false, if_true] <;> ring

theorem gcd_pm_zero (sb : Bool) (c d : Int) (h : Int.gcd c d = 1) : Int.gcd (Ratio.pm sb 0 c) d = 1 := by
  cases sb <;> simp [Ratio.pm, h]

theorem addSub_spec (sb : Bool) (s r : Ratio) (hs : Canon s) (hr : Canon r) :
    ∃ c, Ratio.addSub sb s r = ok c ∧ Canon c ∧
      c.num * (s.den * r.den) = Ratio.pm sb (s.num * r.den) (r.num * s.den) * c.den := by
  obtain ⟨a, b⟩ := s
  obtain ⟨c0, d⟩ := r
  obtain ⟨hb, hab⟩ := hs
  obtain ⟨hd, hcd⟩ := hr
  simp only at hb hab hd hcd
  unfold Ratio.addSub
  simp only [Ratio.isZero]
  by_cases hc0 : c0 = 0
  · subst hc0
    refine ⟨⟨a, b⟩, by simp, ⟨hb, hab⟩, ?_⟩
    cases sb <;> simp only [Ratio.pm, Bool.false_eq_true, if_false, if_true] <;> ring
  · have hc0' : (c0 == 0) = false := by simpa using hc0
    simp only [hc0', Bool.false_eq_true, if_false]
    by_cases ha : a = 0
    · subst ha
      refine ⟨⟨Ratio.pm sb 0 c0, d⟩, by simp, ⟨hd, gcd_pm_zero sb c0 d hcd⟩, ?_⟩
      cases sb <;> simp only [Ratio.pm, Bool.false_eq_true, if_false, if_true] <;> ring
    · have ha' : (a == 0) = false := by simpa using ha
      simp only [ha', Bool.false_eq_true, if_false]
      by_cases hbd : b = d
      · subst hbd
        obtain ⟨c, h1, h2, h3⟩ := reduce_spec ⟨Ratio.pm sb a c0, b⟩ (by simp only; omega)
        refine ⟨c, by simp [h1], h2, ?_⟩
        simp only at h3 ⊢
        rw [pm_mul, ← Int.mul_assoc, h3]; ring
      · have hbd' : (b == d) = false := by simpa using hbd
        simp only [hbd', Bool.false_eq_true, if_false]
        have hl : (Int.lcm b d : Int) ≠ 0 := by
          have := Int.lcm_ne_zero (m := b) (n := d) (by omega) (by omega); omega
        obtain ⟨x, hx⟩ := Int.dvd_lcm_left b d
        obtain ⟨y, hy⟩ := Int.dvd_lcm_right b d
        have ex : (Int.lcm b d : Int).tdiv b = x := by
          rw [Int.tdiv_eq_ediv_of_dvd (Int.dvd_lcm_left b d)]
          exact Int.ediv_eq_of_eq_mul_right (by omega) hx
        have ey : (Int.lcm b d : Int).tdiv d = y := by
          rw [Int.tdiv_eq_ediv_of_dvd (Int.dvd_lcm_right b d)]
          exact Int.ediv_eq_of_eq_mul_right (by omega) hy
        unfold intLcm
        rw [tdivR_ok _ (by omega), tdivR_ok _ (by omega), ex, ey]
        simp only [Res.bind_ok]
        obtain ⟨c, h1, h2, h3⟩ := reduce_spec ⟨Ratio.pm sb (a * x) (y * c0), (Int.lcm b d : Int)⟩ hl
        refine ⟨c, h1, h2, ?_⟩
        simp only at h3 ⊢
        apply Int.eq_of_mul_eq_mul_left hl
        generalize (Int.lcm b d : Int) = l at *
        have e1 : Ratio.pm sb (a * d) (c0 * b) * l = Ratio.pm sb (a * x) (y * c0) * (b * d) := by
          rw [← pm_mul, ← pm_mul]; congr 1
          · rw [hx]; ring
          · rw [hy]; ring
        calc l * (c.num * (b * d)) = (c.num * l) * (b * d) := by ring
          _ = Ratio.pm sb (a * x) (y * c0) * c.den * (b * d) := by rw [h3]
          _ = (Ratio.pm sb (a * x) (y * c0) * (b * d)) * c.den := by ring
          _ = _ := by rw [← e1]; ring

theorem mul_spec (s r : Ratio) (hs : Canon s) (hr : Canon r) :
    ∃ c, Ratio.mul s r = ok c ∧ Canon c ∧ c.num * (s.den * r.den) = (s.num * r.num) * c.den := by
  obtain ⟨a, b⟩ := s
  obtain ⟨c0, d⟩ := r
  obtain ⟨hb, hab⟩ := hs
  obtain ⟨hd, hcd⟩ := hr
  simp only at hb hab hd hcd
  unfold Ratio.mul
  simp only [Ratio.isZero, Ratio.isOne, Ratio.isInt]
  by_cases h1 : a = 0 ∨ c0 = d
  · have : ((a == 0) || (c0 == d)) = true := by simpa using h1
    simp only [this, if_true]
    refine ⟨_, rfl, ⟨hb, hab⟩, ?_⟩
    rcases h1 with h | h
    · subst h; simp
    · subst h
      have : c0 = 1 := by rw [Int.gcd_self] at hcd; omega
      subst this; simp only; ring
  · have h1' : ((a == 0) || (c0 == d)) = false := by simpa using h1
    simp only [h1', Bool.false_eq_true, if_false]
    have ha : a ≠ 0 := fun h => h1 (Or.inl h)
    by_cases hc0 : c0 = 0
    · subst hc0
      exact ⟨⟨0, 1⟩, by simp [Ratio.zero, Ratio.fromInt], ⟨by decide, by decide⟩, by simp⟩
    · have hc0' : (c0 == 0) = false := by simpa using hc0
      simp only [hc0', Bool.false_eq_true, if_false]
      obtain ⟨m1, m2, m3⟩ := mul_core a b c0 d hb hd hab hcd
      by_cases hd1 : d = 1
      · subst hd1
        simp only [beq_self_eq_true, if_true]
        rw [tdivR_gcd_right b c0 (Or.inl (by omega)), tdivR_gcd_left b c0 (Or.inl (by omega))]
        simp only [Res.bind_ok]
        simp only [Int.gcd_one_right, Nat.cast_one, Int.ediv_one, mul_one] at m1 m2 m3
        exact ⟨_, rfl, ⟨m1, m2⟩, by simpa using m3⟩
      · have hd1' : (d == 1) = false := by simpa using hd1
        simp only [hd1', Bool.false_eq_true, if_false]
        by_cases hb1 : b = 1
        · subst hb1
          simp only [beq_self_eq_true, if_true]
          rw [tdivR_gcd_left a d (Or.inl ha), tdivR_gcd_right a d (Or.inl ha)]
          simp only [Res.bind_ok]
          simp only [Int.gcd_one_left, Nat.cast_one, Int.ediv_one, one_mul] at m1 m2 m3
          exact ⟨_, rfl, ⟨m1, m2⟩, by simpa using m3⟩
        · have hb1' : (b == 1) = false := by simpa using hb1
          simp only [hb1', Bool.false_eq_true, if_false]
          rw [tdivR_gcd_left a d (Or.inl ha), tdivR_gcd_right b c0 (Or.inl (by omega)),
            tdivR_gcd_left b c0 (Or.inl (by omega)), tdivR_gcd_right a d (Or.inl ha)]
          simp only [Res.bind_ok]
          exact ⟨_, rfl, ⟨m1, m2⟩, m3⟩

theorem div_spec (s r : Ratio) (hs : Canon s) (hn : r.num ≠ 0) :
    ∃ c, Ratio.div s r = ok c ∧ Canon c ∧ c.num * (s.den * r.num) = (s.num * r.den) * c.den := by
  obtain ⟨i, h1, h2, h3⟩ := inv_spec r hn
  obtain ⟨c, k1, k2, k3⟩ := mul_spec s i hs h2
  refine ⟨c, by simp [Ratio.div, Res.assert, Ratio.isZero, hn, h1, k1], k2, ?_⟩
  have hi : i.den ≠ 0 := by have := h2.1; omega
  apply Int.eq_of_mul_eq_mul_left hi
  calc i.den * (c.num * (s.den * r.num)) = (c.num * (s.den * i.den)) * r.num := by ring
    _ = s.num * i.num * c.den * r.num := by rw [k3]
    _ = s.num * c.den * (i.num * r.num) := by ring
    _ = _ := by rw [h3]; ring

theorem div_zero (s r : Ratio) (hn : r.num = 0) : Ratio.div s r = panic := by
  simp [Ratio.div, Res.assert, Ratio.isZero, hn]

theorem canon_eq_iff (a b : Ratio) (ha : Canon a) (hb : Canon b) :
    a = b ↔ a.num * b.den = b.num * a.den := by
  constructor
  · rintro rfl; rfl
  · intro h
    obtain ⟨n1, d1⟩ := a
    obtain ⟨n2, d2⟩ := b
    obtain ⟨p1, g1⟩ := ha
    obtain ⟨p2, g2⟩ := hb
    simp only at *
    have c1 : IsCoprime d1 n1 := (Int.isCoprime_iff_gcd_eq_one.2 g1).symm
    have c2 : IsCoprime d2 n2 := (Int.isCoprime_iff_gcd_eq_one.2 g2).symm
    have k1 : d1 ∣ d2 := c1.dvd_of_dvd_mul_left ⟨n2, by linarith⟩
    have k2 : d2 ∣ d1 := c2.dvd_of_dvd_mul_left ⟨n1, by linarith⟩
    have : d1 = d2 := Int.dvd_antisymm p1.le p2.le k1 k2
    subst this
    have : n1 = n2 := Int.eq_of_mul_eq_mul_right (by omega) h
    subst this; rfl

theorem tmodR_ok (a : Int) {b : Int} (h : b ≠ 0) : tmodR a b = ok (a.tmod b) := by
  simp [tmodR, h]

theorem icmp_eq_compare (x y : Int) : icmp x y = compare x y := rfl
theorem icmp_lt {x y : Int} (h : x < y) : icmp x y = .lt := by simp [icmp, h]
theorem icmp_eq {x y : Int} (h : x = y) : icmp x y = .eq := by simp [icmp, h]
theorem icmp_gt {x y : Int} (h : y < x) : icmp x y = .gt := by
  unfold icmp; rw [if_neg (by omega), if_neg (by omega)]
theorem icmp_swap (x y : Int) : (icmp x y).swap = icmp y x := by
  rcases Int.lt_trichotomy x y with h | h | h
  · rw [icmp_lt h, icmp_gt h]; rfl
  · rw [icmp_eq h, icmp_eq h.symm]; rfl
  · rw [icmp_gt h, icmp_lt h]; rfl
theorem icmp_of_sub {x y x' y' : Int} (h : x - y = x' - y') : icmp x y = icmp x' y' := by
  rcases Int.lt_trichotomy x y with h1 | h1 | h1
  · rw [icmp_lt h1, icmp_lt (by omega)]
  · rw [icmp_eq h1, icmp_eq (by omega)]
  · rw [icmp_gt h1, icmp_gt (by omega)]

theorem divRemFloor_pos (a b : Int) (hb : 0 < b) : Ratio.divRemFloor a b = ok (a / b, a % b) := by
  unfold Ratio.divRemFloor
  rw [tdivR_ok _ (by omega), tmodR_ok _ (by omega)]
  simp only [Res.bind_ok]
  have e := Int.tmod_add_mul_tdiv a b
  have h1 := Int.tmod_lt_of_pos a hb
  have h2 := Int.lt_tmod_of_pos a hb
  by_cases hr : a.tmod b < 0
  · rw [if_pos hr]
    have := (Int.ediv_emod_unique hb (a := a) (q := a.tdiv b - 1) (r := a.tmod b + b)).2
      ⟨by rw [Int.mul_sub]; omega, by omega, by omega⟩
    rw [this.1, this.2]
  · rw [if_neg hr]
    have := (Int.ediv_emod_unique hb (a := a) (q := a.tdiv b) (r := a.tmod b)).2 ⟨e, by omega, by omega⟩
    rw [this.1, this.2]

theorem cross_lt (b d q1 q2 r1 r2 : Int) (hb : 0 < b) (hd : 0 < d) (h1' : r1 < b) (h2 : 0 ≤ r2)
    (hq : q1 < q2) : (b * q1 + r1) * d < (d * q2 + r2) * b := by
  have t1 : 0 < d * (b - r1) := Int.mul_pos hd (by omega)
  have t2 : 0 ≤ (d * b) * (q2 - q1 - 1) := Int.mul_nonneg (Int.mul_pos hd hb).le (by omega)
  have t3 : 0 ≤ r2 * b := Int.mul_nonneg h2 hb.le
  -- the difference of the two sides is `t1 + t2 + t3`
  linarith

theorem cmpLoop_spec : ∀ (fuel : Nat) (a b c d : Int) (rev : Bool), 0 < b → 0 < d → b.toNat < fuel →
    Ratio.cmpLoop fuel a b c d rev = ok (Ratio.fin rev (icmp (a * d) (c * b))) := by
  intro fuel
  induction fuel with
  | zero => intro a b c d rev _ _ h; omega
  | succ fuel ih =>
    intro a b c d rev hb hd hf
    unfold Ratio.cmpLoop
    rw [divRemFloor_pos a b hb, divRemFloor_pos c d hd]
    simp only [Res.bind_ok]
    have ea := Int.emod_add_mul_ediv a b
    have ec := Int.emod_add_mul_ediv c d
    have ra0 := Int.emod_nonneg a (by omega : b ≠ 0)
    have ra1 := Int.emod_lt_of_pos a hb
    have rc0 := Int.emod_nonneg c (by omega : d ≠ 0)
    have rc1 := Int.emod_lt_of_pos c hd
    generalize a / b = q1 at *
    generalize a % b = r1 at *
    generalize c / d = q2 at *
    generalize c % d = r2 at *
    have ha : a = b * q1 + r1 := by omega
    have hc : c = d * q2 + r2 := by omega
    subst ha hc
    rcases Int.lt_trichotomy q1 q2 with h | h | h
    · rw [icmp_lt h]
      simp only
      rw [icmp_lt (cross_lt b d q1 q2 r1 r2 hb hd ra1 rc0 h)]
    · subst h
      rw [icmp_eq rfl]
      simp only
      have hsub : (b * q1 + r1) * d - (d * q1 + r2) * b = r1 * d - r2 * b := by ring
      rw [icmp_of_sub hsub]
      by_cases h1 : r1 = 0 <;> by_cases h2 : r2 = 0
      · subst h1 h2; simp [icmp]
      · subst h1
        have : (r2 == 0) = false := by simpa using h2
        simp only [this, beq_self_eq_true]
        rw [icmp_lt (by have := Int.mul_pos (show 0 < r2 by omega) hb; omega)]
      · subst h2
        have : (r1 == 0) = false := by simpa using h1
        simp only [this, beq_self_eq_true]
        rw [icmp_gt (by have := Int.mul_pos (show 0 < r1 by omega) hd; omega)]
      · have e1 : (r1 == 0) = false := by simpa using h1
        have e2 : (r2 == 0) = false := by simpa using h2
        simp only [e1, e2]
        rw [ih b r1 d r2 (!rev) (by omega) (by omega) (by omega)]
        congr 1
        have : icmp (b * r2) (d * r1) = (icmp (r1 * d) (r2 * b)).swap := by
          rw [icmp_swap]; exact icmp_of_sub (by ring)
        rw [this]
        cases rev <;> simp [Ratio.fin]
    · rw [icmp_gt h]
      simp only
      rw [icmp_gt (cross_lt d b q2 q1 r2 r1 hd hb rc1 ra0 h)]

theorem chk32_ok {x : Int} (h : -2147483648 ≤ x ∧ x ≤ 2147483647) : chk32 x = ok x := by
  simp [chk32, h]

theorem ff_new_ok (p a : Int) (hp : 0 < p) : FF.new p a = ok (a % p) := by
  simp [FF.new, Res.assert, hp]

theorem ff_new_panic (p a : Int) (hp : p ≤ 0) : FF.new p a = panic := by
  have : ¬ (0 < p) := by omega
  simp [FF.new, Res.assert, this]

theorem emod_range (p a : Int) (hp : 0 < p) : 0 ≤ a % p ∧ a % p < p :=
  ⟨Int.emod_nonneg a (by omega), Int.emod_lt_of_pos a hp⟩

/-- representatives of a prime field `p < 46341` never overflow `i32` -/
theorem mul_small {p a b : Int} (hp : p ≤ 46340) (ha : 0 ≤ a ∧ a < p) (hb : 0 ≤ b ∧ b < p) :
    0 ≤ a * b ∧ a * b ≤ 2147483647 := by
  have h1 : 0 ≤ a * b := Int.mul_nonneg ha.1 hb.1
  have h2 : a * b ≤ 46339 * 46339 := Int.mul_le_mul (by omega) (by omega) hb.1 (by omega)
  omega

theorem ff_add_ok {p a b : Int} (hp0 : 0 < p) (hp : p ≤ 46340) (ha : 0 ≤ a ∧ a < p) (hb : 0 ≤ b ∧ b < p) :
    FF.add p a b = ok ((a + b) % p) := by
  unfold FF.add; rw [chk32_ok (by omega)]; exact ff_new_ok p _ hp0
theorem ff_sub_ok {p a b : Int} (hp0 : 0 < p) (hp : p ≤ 46340) (ha : 0 ≤ a ∧ a < p) (hb : 0 ≤ b ∧ b < p) :
    FF.sub p a b = ok ((a - b) % p) := by
  unfold FF.sub; rw [chk32_ok (by omega)]; exact ff_new_ok p _ hp0
theorem ff_mul_ok {p a b : Int} (hp0 : 0 < p) (hp : p ≤ 46340) (ha : 0 ≤ a ∧ a < p) (hb : 0 ≤ b ∧ b < p) :
    FF.mul p a b = ok ((a * b) % p) := by
  have := mul_small hp ha hb
  unfold FF.mul; rw [chk32_ok (by omega)]; exact ff_new_ok p _ hp0
theorem ff_neg_ok {p a : Int} (hp0 : 0 < p) (hp : p ≤ 46340) (ha : 0 ≤ a ∧ a < p) :
    FF.neg p a = ok ((-a) % p) := by
  unfold FF.neg; rw [chk32_ok (by omega)]; exact ff_new_ok p _ hp0

theorem xgcdLoop_inv (x y : Int) : ∀ (fuel : Nat) (r s t r' s' t' : Int × Int),
    x * s.1 + y * t.1 = r.1 → x * s.2 + y * t.2 = r.2 →
    FF.xgcdLoop fuel r s t = ok (r', s', t') → x * s'.2 + y * t'.2 = r'.2 := by
  intro fuel r s t r' s' t' h1 h2 h
  rw [NumInteger.c14_xgcdLoop_eq] at h
  have := ((NumInteger.xgcdLoop_conv r s t).post h).2.2.2 x y (by rw [← h1]; ring) (by rw [← h2]; ring)
  simp only at this
  rw [this]; ring

/-- `FF::inv` on a non-zero operand, as the code reads: `assert!(d.is_one())` on the gcd that `I::gcdx` returns
(Proofs/NumInteger), then `Self::new(x)` on the Bézout coefficient -/
theorem ff_inv_eq (p a : Int) (ha : a ≠ 0) :
    ∃ s t, a * s + p * t = ((Int.gcd a p : Nat) : Int) ∧
      FF.inv p a = if Int.gcd a p = 1 then (FF.new p s >>= fun i => ok (some i)) else panic := by
  obtain ⟨s, t, hg, bz⟩ := NumInteger.c14_gcdx_spec a p
  refine ⟨s, t, bz, ?_⟩
  have hz : FF.isZero a = false := by simpa [FF.isZero] using ha
  unfold FF.inv
  rw [hz, hg]
  by_cases hd : Int.gcd a p = 1 <;> simp [Res.assert, hd]

theorem ff_inv_spec (p a x : Int) (h : FF.inv p a = ok (some x)) :
    0 ≤ x ∧ x < p ∧ (a * x) % p = 1 % p := by
  have ha : a ≠ 0 := by rintro rfl; simp [FF.inv, FF.isZero] at h
  obtain ⟨s, t, bz, e⟩ := ff_inv_eq p a ha
  rw [e] at h
  split at h
  · rename_i hd
    rw [hd, Nat.cast_one] at bz
    by_cases hp : 0 < p
    · rw [ff_new_ok p s hp] at h
      obtain rfl : s % p = x := by simpa using h
      refine ⟨(emod_range p s hp).1, (emod_range p s hp).2, ?_⟩
      have : a * s = 1 + p * (-t) := by linarith
      rw [Int.mul_emod, Int.emod_emod_of_dvd _ (Int.dvd_refl p), ← Int.mul_emod, this,
        Int.add_mul_emod_self_left]
    · rw [ff_new_panic p s (by omega)] at h; cases h
  · cases h

/-- `inv` returns `Some(_)` (no panic, no `None`) -/
def invDefined (p a : Int) : Bool :=
  match FF.inv p a with
  | ok (some _) => true
  | _ => false

/-! ### QuadInt: arithmetic of ℤ[ω], ω² = e + fω, on pairs -/

/-- the product of ℤ[ω]/(ω² = e + fω) -/
def mulF (e f : Int) (x y : QI) : QI :=
  ⟨x.l * y.l + x.r * y.r * e, x.l * y.r + x.r * y.l + x.r * y.r * f⟩
/-- conjugation `ω ↦ f − ω` -/
def conjF (f : Int) (x : QI) : QI := ⟨x.l + f * x.r, -x.r⟩
/-- norm `x · conj x` -/
def normF (e f : Int) (x : QI) : Int := x.l * x.l + f * (x.l * x.r) - e * (x.r * x.r)

theorem qi_ext {x y : QI} (h1 : x.l = y.l) (h2 : x.r = y.r) : x = y := by
  cases x; cases y; simp only at h1 h2; subst h1 h2; rfl

/-- Rust's product (with both shortcut branches) for `D ≡ 1 (mod 4)`, `D = 4k + 1`: `ω² = k + ω` -/
theorem qi_mul_D1 (k : Int) (x y : QI) : QI.mul (4 * k + 1) x y = ok (mulF k 1 x y) := by
  have hm : (4 * k + 1) % 4 = 1 := by omega
  unfold QI.mul mulF
  by_cases hb : x.r = 0
  · simp [hb]
  · by_cases hd : y.r = 0
    · simp [hb, hd]
    · simp [hb, hd, hm]

theorem qi_mul_D23 (D : Int) (hD : D % 4 = 2 ∨ D % 4 = 3) (x y : QI) :
    QI.mul D x y = ok (mulF D 0 x y) := by
  unfold QI.mul mulF
  by_cases hb : x.r = 0
  · simp [hb]
  · by_cases hd : y.r = 0
    · simp [hb, hd]
    · rcases hD with h | h <;> simp [hb, hd, h]

theorem qi_norm_D1 (k : Int) (x : QI) : QI.norm (4 * k + 1) x = ok (normF k 1 x) := by
  have hm : (4 * k + 1) % 4 = 1 := by omega
  have he : (1 - (4 * k + 1)).tdiv 4 = -k := by
    rw [show 1 - (4 * k + 1) = 4 * (-k) by ring]; exact Int.mul_tdiv_cancel_left (-k) (by decide)
  unfold QI.norm normF
  simp only [hm, he, beq_self_eq_true, if_true, ok.injEq]
  ring
theorem qi_norm_D23 (D : Int) (hD : D % 4 = 2 ∨ D % 4 = 3) (x : QI) :
    QI.norm D x = ok (normF D 0 x) := by
  unfold QI.norm normF
  rcases hD with h | h <;> simp [h] <;> ring
theorem qi_conj_D1 (k : Int) (x : QI) : QI.conj (4 * k + 1) x = ok (conjF 1 x) := by
  have hm : (4 * k + 1) % 4 = 1 := by omega
  simp [QI.conj, conjF, hm]
theorem qi_conj_D23 (D : Int) (hD : D % 4 = 2 ∨ D % 4 = 3) (x : QI) :
    QI.conj D x = ok (conjF 0 x) := by
  unfold QI.conj conjF
  rcases hD with h | h <;> simp [h]

end Yuiv.C14
