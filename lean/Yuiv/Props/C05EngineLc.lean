import Yuiv.Proofs.C05EngineLc
/-
C05 (engine) — how far the REAL edge algebra `lcOps h t : EdgeOps (LcCob R)` (any commutative coefficient ring with
lawful `Coef` operations; ℤ is an instance) satisfies the ring-like hypotheses `RingEdgeOps`, `RingDeloopOps`,
`RingTensorOps` of the `d ∘ d = 0` theorems.

`LcCob R` is not a ring, so the statements are made for EVERY semantics `φ : Cob → S` (an `R`-module valued invariant of
cobordisms that respects the Rust `Eq` of `Cob`), with `lcVal φ f = Σ r • φ(cob)`:

 PROVED (all consequences of the `Lc` combinators):
  * `+`, `−`, unary `−`, scalar multiplication, `collect()` and `Lc::sum` are linear (`lc_combinators_linear`);
  * `*` (`Lc::combine` with `Mul for Cob` = stacking) is the bilinear extension of stacking, additive in either
    argument (`lc_mul_is_bilinear_extension`, `lc_mul_additive`);
  * `connected(&c)` and `cap_off(b, c, dot)` (`modify` + zeroing of `is_zero_cob` terms) are the linear extensions of
    `Cob::connect(·, c)` / `Cob::cap_off` (`lc_connected_capoff_are_linear_extensions`);
  * `part_eval` on a linear combination keeps the value as soon as `Cob::part_eval` does on single cobordisms
    (`lc_part_eval_keeps_value`);
  * hence `lcOps.sub`, `lcOps.neg` are the ring operations, `lcOps.cab` is the value of `(c·a⁻¹)·b`, `lcOps.hcompL/R`
    are `±` the linear extension of `connect(·, id)`, `lcOps.capOff` the linear extension of `cap_off`
    (`lcOps_in_terms_of_values`).

 REMAIN AS HYPOTHESES (identities about SINGLE cobordisms, none of them about linear combinations):
  (C1) `cobEq` is an equivalence and `Cob::stack`, `Cob::connect`, `Cob::cap_off` are well defined on its classes
       (this is what makes the partially applied semantics `x ↦ φ(stack y x)` respect `Eq`);
  (C2) associativity of `Cob::stack`, (C3) `Cob::id` is a two-sided unit and `Cob::inv` a two-sided inverse on whole
       cobordisms (proved for cylinder components in `Props/C05Tng.inv_two_sided`, `stack_id_cyl`);
  (C4) interchange: `stack(connect(a, c), connect(b, d)) = connect(stack(a, b), stack(c, d))`, in particular
       `D(f, 1)·D(1, g) = D(1, g)·D(f, 1)`;
  (C5) `Cob::part_eval` keeps the value `φ` (for the TQFT-type `φ`: `Props/C05.partEval_sound` per component plus
       multiplicativity of `φ` under disjoint union, the `combine(…, connected)` of `Cob::part_eval`);
  (C6) the delooping decomposition `cup_X ∘ cap + cup ∘ cap_Y = id` for a circle inside a component with further
       boundary (`Props/C05Deloop.deloop_iso` proves it for the circle alone);
  (C7) no panic on composable inputs (stackability / genus assertions — characterised in `Props/C05Tng`).
-/
namespace Yuiv.C05.Engine
open Yuiv Yuiv.C05 Yuiv.C05.Tng

section
variable {R S : Type} [CommRing R] [CoefU R] [LawfulCoef R] [AddCommGroup S] [Module R S]

/-- the `Lc` combinators are linear for every `Eq`-respecting semantics -/
theorem lc_combinators_linear (φ : Cob → S) (hφ : Respects φ) (a b : LcCob R) (r : R) (ps : List (Cob × R))
    (ls : List (LcCob R)) :
    lcVal φ (lcAdd a b) = lcVal φ a + lcVal φ b ∧
    lcVal φ (lcSub a b) = lcVal φ a - lcVal φ b ∧
    lcVal φ (lcNeg a) = - lcVal φ a ∧
    lcVal φ (lcSmul a r) = r • lcVal φ a ∧
    lcVal φ (lcCollect ps) = lcVal φ ps ∧
    lcVal φ (lcSum ls) = (ls.map (lcVal φ)).sum :=
  ⟨lcVal_add φ hφ a b, lcVal_sub φ hφ a b, lcVal_neg φ hφ a, lcVal_smul φ a r, lcVal_collect φ hφ ps,
    lcVal_sum φ hφ ls⟩

/-- `&a * &b` on linear combinations: the bilinear extension of stacking (`G x y` = `y` stacked under `x`, wherever
`Cob::stack` does not panic) -/
theorem lc_mul_is_bilinear_extension (φ : Cob → S) (hφ : Respects φ) (G : Cob → Cob → Cob) (a b c : LcCob R)
    (hG : ∀ x ∈ a, ∀ y ∈ b, Cob.stack y.1 x.1 = .ok (G x.1 y.1)) (h : lcMul a b = .ok c) :
    lcVal φ c = bilVal φ G a b :=
  lcVal_combine φ hφ (fun x y => Cob.stack y x) G a b c hG h

/-- the bilinear extension is additive in each argument — in the first one GIVEN (C1): `x ↦ Σ_b s·φ(G x y)` respects `Eq` -/
theorem lc_mul_additive (φ : Cob → S) (G : Cob → Cob → Cob) (a a' b b' : LcCob R)
    (h1 : Respects (fun x => lcVal (fun y => φ (G x y)) b))
    (h2 : ∀ x, Respects (fun y => φ (G x y))) :
    bilVal φ G (lcAdd a a') b = bilVal φ G a b + bilVal φ G a' b ∧
    bilVal φ G a (lcAdd b b') = bilVal φ G a b + bilVal φ G a b' := by
  refine ⟨lcVal_add _ h1 a a', ?_⟩
  unfold bilVal
  have : (fun x => lcVal (fun y => φ (G x y)) (lcAdd b b')) =
      fun x => lcVal (fun y => φ (G x y)) b + lcVal (fun y => φ (G x y)) b' := by
    funext x; exact lcVal_add _ (h2 x) b b'
  rw [this]
  induction a with
  | nil => simp
  | cons p a ih => simp only [lcVal_cons, ih, smul_add]; abel

/-- `connected(&c)` and `cap_off(bottom, circle, dot)` are the linear extensions of the operations on cobordisms
(`cap_off` zeroes the coefficient of a term with `is_zero_cob`, which is invisible when `φ` vanishes on those) -/
theorem lc_connected_capoff_are_linear_extensions (φ : Cob → S) (hφ : Respects φ) (G : Cob → Cob) (a r : LcCob R) :
    (∀ c, (∀ p ∈ a, Cob.connect p.1 c = .ok (G p.1)) → lcConnected a c = .ok r →
      lcVal φ r = lcVal (fun k => φ (G k)) a) ∧
    (∀ bt circ dot, (∀ p ∈ a, Cob.capOff p.1 bt circ dot = .ok (G p.1)) →
      (∀ k, Cob.isZeroCob k = true → φ k = 0) → lcCapOff bt circ dot a = .ok r →
      lcVal φ r = lcVal (fun k => φ (G k)) a) :=
  ⟨fun c hG h => lcVal_mapGens φ hφ false _ G a r hG (fun hf => by cases hf) h,
   fun bt circ dot hG hz h => lcVal_mapGens φ hφ true _ G a r hG (fun _ => hz) h⟩

/-- `part_eval` on a linear combination keeps the value, GIVEN (C5): `Cob::part_eval` keeps it on single cobordisms -/
theorem lc_part_eval_keeps_value (φ : Cob → S) (hφ : Respects φ) (h t : R) (a e : LcCob R)
    (hC5 : ∀ k e', Cob.partEval h t k = .ok e' → lcVal φ e' = φ k)
    (he : lcPartEval h t a = .ok e) : lcVal φ e = lcVal φ a := by
  have key : ∀ (a : LcCob R) (ls : List (LcCob R)),
      mapMRes (fun (p : Cob × R) =>
        match Cob.partEval h t p.1 with
        | .ok e => .ok (lcSmul e p.2)
        | .panic => .panic
        | .err => .err) a = .ok ls → (ls.map (lcVal φ)).sum = lcVal φ a := by
    intro a
    induction a with
    | nil => intro ls hm; simp [mapMRes] at hm; subst hm; rfl
    | cons p a ih =>
      intro ls hm
      obtain ⟨q, qs, hq, hqs, rfl⟩ := (mapMRes_cons_ok _ p a ls).1 hm
      rcases hp : Cob.partEval h t p.1 with e' | _ | _
      · simp only [hp, Res.ok.injEq] at hq
        rw [List.map_cons, List.sum_cons, lcVal_cons, ih qs hqs, ← hq, lcVal_smul, hC5 p.1 e' hp]
      · simp [hp] at hq
      · simp [hp] at hq
  unfold lcPartEval at he
  split at he
  · split at he
    · rename_i ls hls
      cases he
      rw [lcVal_sum φ hφ]
      exact key a ls hls
    · cases he
    · cases he
  · cases he; rfl

/-- the operations of the real edge algebra in terms of values: `sub`/`neg` are the ring operations; `cab` is the
value of the product `(c · a⁻¹) · b`; `hcompL` is the linear extension of `connect(·, id_w)`, `hcompR` the same with
the sign; `capOff` the linear extension of `Cob::cap_off` — the last three GIVEN (C5) -/
theorem lcOps_in_terms_of_values (φ : Cob → S) (hφ : Respects φ) (h t : R)
    (hC5 : ∀ k e', Cob.partEval h t k = .ok e' → lcVal φ e' = φ k) :
    (∀ d x : LcCob R, lcVal φ ((lcOps h t).sub d x) = lcVal φ d - lcVal φ x) ∧
    (∀ x : LcCob R, lcVal φ ((lcOps h t).neg x) = - lcVal φ x) ∧
    (∀ c ainv b r : LcCob R, (lcOps h t).cab c ainv b = .ok r →
      ∃ x y, lcMul c ainv = .ok x ∧ lcMul x b = .ok y ∧ lcVal φ r = lcVal φ y) ∧
    (∀ (f r : LcCob R) (w : Tng) (G : Cob → Cob), (∀ p ∈ f, Cob.connect p.1 (Cob.idFor w) = .ok (G p.1)) →
      (lcOps h t).hcompL f w = .ok r → lcVal φ r = lcVal (fun k => φ (G k)) f) ∧
    (∀ (neg : Bool) (f r : LcCob R) (v : Tng) (G : Cob → Cob), (∀ p ∈ f, Cob.connect p.1 (Cob.idFor v) = .ok (G p.1)) →
      (lcOps h t).hcompR neg f v = .ok r →
      lcVal φ r = (if neg then (-1 : R) else 1) • lcVal (fun k => φ (G k)) f) := by
  refine ⟨fun d x => lcVal_sub φ hφ d x, fun x => lcVal_neg φ hφ x, ?_, ?_, ?_⟩
  · intro c ainv b r hr
    simp only [lcOps] at hr
    rcases hx : lcMul c ainv with x | _ | _
    · simp only [hx] at hr
      rcases hy : lcMul x b with y | _ | _
      · simp only [hy] at hr
        exact ⟨x, y, rfl, hy, lc_part_eval_keeps_value φ hφ h t y r hC5 hr⟩
      · simp [hy] at hr
      · simp [hy] at hr
    · simp [hx] at hr
    · simp [hx] at hr
  · intro f r w G hG hr
    simp only [lcOps] at hr
    rcases hg : lcConnected f (Cob.idFor w) with g | _ | _
    · simp only [hg] at hr
      rw [lc_part_eval_keeps_value φ hφ h t g r hC5 hr]
      exact lcVal_mapGens φ hφ false _ G f g hG (fun hf => by cases hf) hg
    · simp [hg] at hr
    · simp [hg] at hr
  · intro neg f r v G hG hr
    simp only [lcOps] at hr
    rcases hg : lcConnected f (Cob.idFor v) with g | _ | _
    · simp only [hg] at hr
      rw [lc_part_eval_keeps_value φ hφ h t _ r hC5 hr, lcVal_smul,
        lcVal_mapGens φ hφ false _ G f g hG (fun hf => by cases hf) hg]
      cases neg <;> simp [LawfulCoef.neg_eq, LawfulCoef.one_eq]
    · simp [hg] at hr
    · simp [hg] at hr

/-- non-vacuity: the constant semantics and the "number of components" semantics respect `Eq`; a concrete sum over ℤ -/
example : Respects (fun (_ : Cob) => (1 : Int)) ∧ Respects (fun (k : Cob) => (k.length : Int)) := by
  refine ⟨fun _ _ _ => rfl, ?_⟩
  intro k k' h
  unfold cobEq at h
  simp only [Bool.and_eq_true, beq_iff_eq] at h
  simp [h.1]

example : lcVal (fun (_ : Cob) => (1 : Int)) (lcAdd [(([] : Cob), (2 : Int))] [(([] : Cob), 3)]) = 5 := by decide

end
end Yuiv.C05.Engine
