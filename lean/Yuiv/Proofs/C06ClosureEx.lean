import Yuiv.Proofs.C06Closure
import Yuiv.Proofs.C06WalkOrder
/-
C06Closure — example diagrams for the non-vacuity `example`s of `Props/C06Closure.lean`: the closures of `σ₁³` (trefoil),
`σ₁⁻²` (Hopf link, two components) and `σ₁σ₂⁻¹σ₁σ₂⁻¹` (figure eight), and the value of `KhRef.edgeLabels` on them
(`Array.qsort` does not reduce in the kernel; its value is the increasing list of the labels, `edgeLabels_eq_of_perm`).
-/
namespace Yuiv.C06Closure
open Yuiv Yuiv.KhRef Yuiv.C04Inv Yuiv.C18Bridge

def trefoilB : C18.Link := [⟨.X, 0, 2, 3, 1⟩, ⟨.X, 2, 4, 5, 3⟩, ⟨.X, 4, 0, 1, 5⟩]
def hopfB : C18.Link := [⟨.X, 1, 0, 2, 3⟩, ⟨.X, 3, 2, 0, 1⟩]
def fig8B : C18.Link := [⟨.X, 0, 3, 4, 1⟩, ⟨.X, 2, 4, 5, 6⟩, ⟨.X, 3, 0, 8, 5⟩, ⟨.X, 6, 8, 1, 2⟩]

theorem closure_trefoilB : C18.closure 2 [1, 1, 1] = .ok trefoilB := by decide +kernel
theorem closure_hopfB : C18.closure 2 [-1, -1] = .ok hopfB := by decide +kernel
theorem closure_fig8B : C18.closure 3 [1, -2, 1, -2] = .ok fig8B := by decide +kernel

theorem edgeLabels_trefoilB : edgeLabels (toKh trefoilB) = #[0, 1, 2, 3, 4, 5] :=
  C06Walk.edgeLabels_eq_of_perm _ [0, 1, 2, 3, 4, 5] (by decide) (by decide +kernel)

theorem edgeLabels_hopfB : edgeLabels (toKh hopfB) = #[0, 1, 2, 3] :=
  C06Walk.edgeLabels_eq_of_perm _ [0, 1, 2, 3] (by decide) (by decide +kernel)

theorem edgeLabels_fig8B : edgeLabels (toKh fig8B) = #[0, 1, 2, 3, 4, 5, 6, 8] :=
  C06Walk.edgeLabels_eq_of_perm _ [0, 1, 2, 3, 4, 5, 6, 8] (by decide) (by decide +kernel)

theorem braidState_fig8 : braidState [1, -2, 1, -2] = 10 := by decide +kernel

/-- the three circles of the figure eight closure at its orientation preserving state, and their colours -/
theorem circles_fig8B : circles (toKh fig8B) (edgeLabels (toKh fig8B)) 10 = #[#[0, 3], #[1, 4, 5, 8], #[2, 6]] ∧
    parityCols 3 [1, -2, 1, -2] (circles (toKh fig8B) (edgeLabels (toKh fig8B)) 10) = [.a, .b, .a] := by
  rw [edgeLabels_fig8B]; decide +kernel

end Yuiv.C06Closure
