import Yuiv.Model.C12
import Mathlib.Logic.Relation
import Mathlib.Tactic.Common

/-
C12 — union_find.rs: parents never point upwards, so `root` terminates and every root is the minimum of its class; a state
represents the equivalence closure of the united pairs (`Rep`), and that closure alone determines roots and groups.
-/
namespace Yuiv.C12
open Yuiv Relation

namespace UF

/-- the invariant the code maintains: parents never point upwards -/
def Inv (p : Array Nat) : Prop := ∀ i (h : i < p.size), p[i] ≤ i

inductive IsRoot (p : Array Nat) : Nat → Nat → Prop
  | base {i : Nat} (h : i < p.size) (hp : p[i] = i) : IsRoot p i i
  | step {i r : Nat} (h : i < p.size) (hp : p[i] ≠ i) (hr : IsRoot p p[i] r) : IsRoot p i r

theorem IsRoot.lt {p : Array Nat} {i r : Nat} (h : IsRoot p i r) : i < p.size := by
  cases h <;> assumption

theorem IsRoot.root_fix {p : Array Nat} {i r : Nat} (h : IsRoot p i r) : ∃ hr : r < p.size, p[r] = r := by
  induction h with
  | base h hp => exact ⟨h, hp⟩
  | step _ _ _ ih => exact ih

theorem IsRoot.unique {p : Array Nat} {i r r' : Nat} (h : IsRoot p i r) (h' : IsRoot p i r') : r = r' := by
  induction h with
  | base h hp =>
    cases h' with
    | base _ _ => rfl
    | step _ hp' _ => exact absurd hp hp'
  | step h hp _ ih =>
    cases h' with
    | base _ hp' => exact absurd hp' hp
    | step _ _ hr' => exact ih hr'

theorem IsRoot.le {p : Array Nat} (hI : Inv p) {i r : Nat} (h : IsRoot p i r) : r ≤ i := by
  induction h with
  | base _ _ => exact Nat.le_refl _
  | step h _ _ ih => exact Nat.le_trans ih (hI _ h)

/-- parents decrease, so fuel `> i` suffices -/
theorem rootF_ok {p : Array Nat} (hI : Inv p) (i : Nat) (hi : i < p.size) (f : Nat) (hf : i < f) :
    ∃ r, rootF f p i = .ok r ∧ IsRoot p i r := by
  induction i using Nat.strongRecOn generalizing f with
  | _ i ih =>
    cases f with
    | zero => omega
    | succ f =>
      unfold rootF
      rw [Array.getElem?_eq_getElem hi]
      by_cases hp : p[i] = i
      · simp only [hp, beq_self_eq_true, if_true]
        exact ⟨i, rfl, IsRoot.base hi hp⟩
      · have hlt : p[i] < i := Nat.lt_of_le_of_ne (hI i hi) hp
        have hne : (p[i] == i) = false := by simpa using hp
        simp only [hne, Bool.false_eq_true, if_false]
        obtain ⟨r, h1, h2⟩ := ih p[i] hlt (by omega) f (by omega)
        exact ⟨r, h1, IsRoot.step hi hp h2⟩

theorem root_ok {u : UF} (hI : Inv u.p) (i : Nat) (hi : i < u.p.size) :
    ∃ r, root u i = .ok r ∧ IsRoot u.p i r :=
  rootF_ok hI i hi _ (by omega)

theorem IsRoot.link {p : Array Nat} {a b : Nat} (ha : a < p.size) (hb : b < p.size) (hpa : p[a] = a) (hpb : p[b] = b)
    (hab : a ≠ b) {x r : Nat} (h : IsRoot p x r) :
    IsRoot (p.setIfInBounds b a) x (if r = b then a else r) := by
  have hsz : (p.setIfInBounds b a).size = p.size := by simp
  have hget : ∀ k (hk : k < p.size), (p.setIfInBounds b a)[k]'(by rw [hsz]; exact hk) = if b = k then a else p[k] := by
    intro k hk; rw [Array.getElem_setIfInBounds]
  induction h with
  | @base i h hp =>
    by_cases hib : i = b
    · subst hib
      simp only [if_true]
      refine IsRoot.step (by rw [hsz]; exact h) (by rw [hget _ h]; simpa using hab) ?_
      have : (p.setIfInBounds i a)[i]'(by rw [hsz]; exact h) = a := by rw [hget _ h]; simp
      rw [this]
      exact IsRoot.base (by rw [hsz]; exact ha) (by rw [hget _ ha]; simp [Ne.symm hab, hpa])
    · simp only [hib, if_false]
      exact IsRoot.base (by rw [hsz]; exact h) (by rw [hget _ h]; simp [Ne.symm hib, hp])
  | @step i r h hp hr ih =>
    have hib : i ≠ b := fun hh => hp (hh ▸ hpb)
    have e : (p.setIfInBounds b a)[i]'(by rw [hsz]; exact h) = p[i] := by rw [hget _ h]; simp [Ne.symm hib]
    refine IsRoot.step (by rw [hsz]; exact h) (by rw [e]; exact hp) ?_
    rw [e]; exact ih

theorem Inv.link {p : Array Nat} (hI : Inv p) {a b : Nat} (hab : a < b) : Inv (p.setIfInBounds b a) := by
  intro k hk
  have hk' : k < p.size := by simpa using hk
  rw [Array.getElem_setIfInBounds]
  split
  · omega
  · exact hI k hk'

/-- a union-find state over `0..n` satisfying `Inv` -/
structure Good (u : UF) (n : Nat) : Prop where
  size : u.p.size = n
  inv : Inv u.p

theorem new_good (n : Nat) : Good (new n) n :=
  ⟨by simp [new], fun i h => by simp [new]⟩

theorem new_isRoot (n i : Nat) (h : i < n) : IsRoot (new n).p i i :=
  IsRoot.base (by simpa [new] using h) (by simp [new])

theorem Good.root_ok {u : UF} {n : Nat} (hG : Good u n) (i : Nat) (hi : i < n) :
    ∃ r, root u i = .ok r ∧ IsRoot u.p i r :=
  UF.root_ok hG.inv i (hG.size ▸ hi)

theorem union_eq {u : UF} {i j ri rj : Nat} (h1 : root u i = .ok ri) (h2 : root u j = .ok rj) :
    union u i j = .ok (if ri = rj then u else ⟨u.p.setIfInBounds (max ri rj) (min ri rj)⟩) := by
  unfold union
  rw [h1, h2]
  rcases Nat.lt_trichotomy ri rj with h | h | h
  · simp only [if_pos h, if_neg (Nat.ne_of_lt h), Nat.max_eq_right (Nat.le_of_lt h), Nat.min_eq_left (Nat.le_of_lt h)]
  · simp only [h, Nat.lt_irrefl, if_false, beq_self_eq_true, if_true]
  · simp only [if_neg (Nat.lt_asymm h), (beq_eq_false_iff_ne).2 (Nat.ne_of_gt h), Bool.false_eq_true, if_false,
      if_neg (Nat.ne_of_gt h), Nat.max_eq_left (Nat.le_of_lt h), Nat.min_eq_right (Nat.le_of_lt h)]

theorem union_spec {u : UF} {n : Nat} (hG : Good u n) (i j : Nat) (hi : i < n) (hj : j < n) :
    ∃ u' ri rj, union u i j = .ok u' ∧ Good u' n ∧ IsRoot u.p i ri ∧ IsRoot u.p j rj ∧
      ∀ x r, IsRoot u.p x r → IsRoot u'.p x (if r = max ri rj then min ri rj else r) := by
  obtain ⟨ri, h1, hri⟩ := hG.root_ok i hi
  obtain ⟨rj, h2, hrj⟩ := hG.root_ok j hj
  refine ⟨_, ri, rj, union_eq h1 h2, ?_, hri, hrj, fun x r hr => ?_⟩
  · by_cases heq : ri = rj
    · rw [if_pos heq]; exact hG
    · rw [if_neg heq]
      exact ⟨by rw [Array.size_setIfInBounds]; exact hG.size, hG.inv.link (by omega)⟩
  · by_cases heq : ri = rj
    · rw [if_pos heq, heq, Nat.max_self, Nat.min_self]
      by_cases hr' : r = rj
      · rw [if_pos hr', ← hr']; exact hr
      · rw [if_neg hr']; exact hr
    · rw [if_neg heq]
      obtain ⟨hri_lt, hri_fix⟩ := hri.root_fix
      obtain ⟨hrj_lt, hrj_fix⟩ := hrj.root_fix
      rcases Nat.lt_or_gt_of_ne heq with h | h
      · rw [Nat.max_eq_right (Nat.le_of_lt h), Nat.min_eq_left (Nat.le_of_lt h)]
        exact hr.link hri_lt hrj_lt hri_fix hrj_fix heq
      · rw [Nat.max_eq_left (Nat.le_of_lt h), Nat.min_eq_right (Nat.le_of_lt h)]
        exact hr.link hrj_lt hri_lt hrj_fix hri_fix (Ne.symm heq)

theorem isSame_spec {u : UF} {n : Nat} (hG : Good u n) (i j : Nat) (hi : i < n) (hj : j < n) :
    ∃ ri rj, IsRoot u.p i ri ∧ IsRoot u.p j rj ∧ isSame u i j = .ok (ri == rj) := by
  obtain ⟨ri, h1, hri⟩ := hG.root_ok i hi
  obtain ⟨rj, h2, hrj⟩ := hG.root_ok j hj
  exact ⟨ri, rj, hri, hrj, by unfold isSame; rw [h1, h2]⟩

theorem eqvGen_lift {α : Type} {R S : α → α → Prop} (hS : Equivalence S) (h : ∀ a b, R a b → S a b) {x y : α}
    (hxy : EqvGen R x y) : S x y :=
  hS.eqvGen_iff.1 (EqvGen.mono h x y hxy)

theorem eqvGen_map {β γ : Type} {R : β → β → Prop} {S : γ → γ → Prop} (f : β → γ)
    (h : ∀ a b, R a b → S (f a) (f b)) {x y : β} (hxy : EqvGen R x y) : EqvGen S (f x) (f y) :=
  eqvGen_lift ((EqvGen.is_equivalence S).comap f) (fun a b hab => EqvGen.rel _ _ (h a b hab)) hxy

theorem eqvGen_congr {α : Type} {R R' : α → α → Prop} (h : ∀ a b, R a b ↔ R' a b) (x y : α) :
    EqvGen R x y ↔ EqvGen R' x y :=
  ⟨EqvGen.mono (fun a b => (h a b).1) x y, EqvGen.mono (fun a b => (h a b).2) x y⟩

theorem eqvGen_false {α : Type} (x y : α) : EqvGen (fun _ _ : α => False) x y ↔ x = y :=
  ⟨eqvGen_lift eq_equivalence (fun _ _ h => h.elim), fun h => h ▸ EqvGen.refl x⟩

/-- Adding the pair `(i, j)` to `R` merges the class of `j` into that of `i`: in the quotient by `R`, send the
class of `j` to the class of `i` and leave the others alone; related elements get equal images. -/
theorem eqvGen_insert {α : Type} (R : α → α → Prop) (i j x y : α) :
    EqvGen (fun a b => R a b ∨ (a = i ∧ b = j)) x y ↔
      EqvGen R x y ∨ (EqvGen R x i ∧ EqvGen R j y) ∨ (EqvGen R x j ∧ EqvGen R i y) := by
  classical
  constructor
  · intro h
    let f : α → Quot R := fun a => if Quot.mk R a = Quot.mk R j then Quot.mk R i else Quot.mk R a
    have key : ∀ a b, R a b ∨ (a = i ∧ b = j) → f a = f b := by
      rintro a b (hab | ⟨rfl, rfl⟩)
      · show (if _ then _ else _) = (if _ then _ else _)
        rw [Quot.sound hab]
      · show (if _ then _ else _) = (if _ then _ else _)
        rw [if_pos rfl, ite_self]
    have hf : (if Quot.mk R x = Quot.mk R j then Quot.mk R i else Quot.mk R x) =
        (if Quot.mk R y = Quot.mk R j then Quot.mk R i else Quot.mk R y) :=
      eqvGen_lift (eq_equivalence.comap f) key h
    by_cases hx : Quot.mk R x = Quot.mk R j <;> by_cases hy : Quot.mk R y = Quot.mk R j
    · exact Or.inl (Quot.eqvGen_exact (hx.trans hy.symm))
    · rw [if_pos hx, if_neg hy] at hf
      exact Or.inr (Or.inr ⟨Quot.eqvGen_exact hx, Quot.eqvGen_exact hf⟩)
    · rw [if_neg hx, if_pos hy] at hf
      exact Or.inr (Or.inl ⟨Quot.eqvGen_exact hf, Quot.eqvGen_exact hy.symm⟩)
    · rw [if_neg hx, if_neg hy] at hf
      exact Or.inl (Quot.eqvGen_exact hf)
  · have M : ∀ a b, EqvGen R a b → EqvGen (fun a b => R a b ∨ (a = i ∧ b = j)) a b :=
      EqvGen.mono fun _ _ h => Or.inl h
    have ij : EqvGen (fun a b => R a b ∨ (a = i ∧ b = j)) i j := EqvGen.rel _ _ (Or.inr ⟨rfl, rfl⟩)
    rintro (h | ⟨h1, h2⟩ | ⟨h1, h2⟩)
    · exact M _ _ h
    · exact EqvGen.trans _ _ _ (M _ _ h1) (EqvGen.trans _ _ _ ij (M _ _ h2))
    · exact EqvGen.trans _ _ _ (M _ _ h1) (EqvGen.trans _ _ _ (EqvGen.symm _ _ ij) (M _ _ h2))

/-- the state represents the equivalence closure of `R` on `0..n` -/
structure Rep (u : UF) (n : Nat) (R : Nat → Nat → Prop) : Prop where
  good : Good u n
  rel : ∀ x y, x < n → y < n → ∀ rx ry, IsRoot u.p x rx → IsRoot u.p y ry → (rx = ry ↔ EqvGen R x y)

theorem Rep.congr_eqv {u : UF} {n : Nat} {R R' : Nat → Nat → Prop} (h : Rep u n R)
    (hR : ∀ a b, EqvGen R a b ↔ EqvGen R' a b) : Rep u n R' :=
  ⟨h.good, fun x y hx hy rx ry h1 h2 => (h.rel x y hx hy rx ry h1 h2).trans (hR x y)⟩

theorem Rep.congr {u : UF} {n : Nat} {R R' : Nat → Nat → Prop} (h : Rep u n R) (hR : ∀ a b, R a b ↔ R' a b) :
    Rep u n R' :=
  h.congr_eqv (eqvGen_congr hR)

theorem new_rep (n : Nat) : Rep (new n) n (fun _ _ => False) := by
  refine ⟨new_good n, fun x y hx hy rx ry h1 h2 => ?_⟩
  rw [IsRoot.unique h1 (new_isRoot n x hx), IsRoot.unique h2 (new_isRoot n y hy), eqvGen_false]

/-- replacing the larger of two class representatives `a`, `b` by the smaller identifies exactly these two -/
theorem merge_eq_iff (a b x y : Nat) :
    (if x = max a b then min a b else x) = (if y = max a b then min a b else y) ↔
      x = y ∨ (x = a ∧ b = y) ∨ (x = b ∧ a = y) := by
  grind

theorem union_rep {u : UF} {n : Nat} {R : Nat → Nat → Prop} (h : Rep u n R) (i j : Nat) (hi : i < n) (hj : j < n) :
    ∃ u', union u i j = .ok u' ∧ Rep u' n (fun a b => R a b ∨ (a = i ∧ b = j)) := by
  obtain ⟨u', ri, rj, hu, hG', hri, hrj, hmap⟩ := union_spec h.good i j hi hj
  refine ⟨u', hu, hG', fun x y hx hy rx' ry' h1 h2 => ?_⟩
  obtain ⟨rx, _, hrx⟩ := h.good.root_ok x hx
  obtain ⟨ry, _, hry⟩ := h.good.root_ok y hy
  rw [IsRoot.unique h1 (hmap x rx hrx), IsRoot.unique h2 (hmap y ry hry), eqvGen_insert,
    ← h.rel x y hx hy rx ry hrx hry, ← h.rel x i hx hi rx ri hrx hri, ← h.rel j y hj hy rj ry hrj hry,
    ← h.rel x j hx hj rx rj hrx hrj, ← h.rel i y hi hy ri ry hri hry]
  exact merge_eq_iff ri rj rx ry

def unions : UF → List (Nat × Nat) → Res UF
  | u, [] => .ok u
  | u, e :: es => match union u e.1 e.2 with
    | .ok u' => unions u' es
    | .panic => .panic
    | .err => .err

theorem unions_rep {u : UF} {n : Nat} {R : Nat → Nat → Prop} (h : Rep u n R) (es : List (Nat × Nat))
    (hes : ∀ e ∈ es, e.1 < n ∧ e.2 < n) :
    ∃ u', unions u es = .ok u' ∧ Rep u' n (fun a b => R a b ∨ (a, b) ∈ es) := by
  induction es generalizing u R with
  | nil => exact ⟨u, rfl, h.congr (by simp)⟩
  | cons e es ih =>
    obtain ⟨u1, h1, hr1⟩ := union_rep h e.1 e.2 (hes e (by simp)).1 (hes e (by simp)).2
    obtain ⟨u2, h2, hr2⟩ := ih hr1 (fun e' h' => hes e' (by simp [h']))
    refine ⟨u2, by unfold unions; rw [h1]; exact h2, hr2.congr (fun a b => ?_)⟩
    simp only [List.mem_cons, Prod.ext_iff, or_assoc]

theorem unions_new_rep (n : Nat) (es : List (Nat × Nat)) (hes : ∀ e ∈ es, e.1 < n ∧ e.2 < n) :
    ∃ u, unions (new n) es = .ok u ∧ Rep u n (fun a b => (a, b) ∈ es) := by
  obtain ⟨u, hu, hrep⟩ := unions_rep (new_rep n) es hes
  exact ⟨u, hu, hrep.congr (by simp)⟩

/-! ### roots are class minima ⇒ independence of the union order -/

theorem Rep.root_min {u : UF} {n : Nat} {R : Nat → Nat → Prop} (h : Rep u n R) (x : Nat) (hx : x < n)
    (r : Nat) (hr : IsRoot u.p x r) :
    r < n ∧ EqvGen R x r ∧ ∀ y, y < n → EqvGen R x y → r ≤ y := by
  obtain ⟨hlt, hfix⟩ := hr.root_fix
  have hrn : r < n := by rw [← h.good.size]; exact hlt
  refine ⟨hrn, (h.rel x r hx hrn r r hr (IsRoot.base hlt hfix)).1 rfl, fun y hy hxy => ?_⟩
  obtain ⟨ry, _, hry⟩ := h.good.root_ok y hy
  rw [(h.rel x y hx hy r ry hr hry).2 hxy]
  exact hry.le h.good.inv

theorem root_determined {u u' : UF} {n : Nat} {R R' : Nat → Nat → Prop} (h : Rep u n R) (h' : Rep u' n R')
    (hRR : ∀ a b, EqvGen R a b ↔ EqvGen R' a b) (x : Nat) (hx : x < n) : root u x = root u' x := by
  obtain ⟨r, e, hr⟩ := h.good.root_ok x hx
  obtain ⟨r', e', hr'⟩ := h'.good.root_ok x hx
  obtain ⟨a1, a2, a3⟩ := h.root_min x hx r hr
  obtain ⟨b1, b2, b3⟩ := h'.root_min x hx r' hr'
  have : r = r' := Nat.le_antisymm (a3 r' b1 ((hRR _ _).2 b2)) (b3 r a1 ((hRR _ _).1 a2))
  rw [e, e', this]

theorem mapMRes_congr {β γ : Type} (f g : β → Res γ) (l : List β) (h : ∀ x ∈ l, f x = g x) :
    mapMRes f l = mapMRes g l := by
  induction l with
  | nil => rfl
  | cons x l ih =>
    unfold mapMRes
    rw [h x (by simp), ih (fun y hy => h y (by simp [hy]))]

theorem group_determined {u u' : UF} {n : Nat} {R R' : Nat → Nat → Prop} (h : Rep u n R) (h' : Rep u' n R')
    (hRR : ∀ a b, EqvGen R a b ↔ EqvGen R' a b) : group u = group u' := by
  unfold group
  rw [h.good.size, h'.good.size]
  dsimp only
  rw [mapMRes_congr (root u) (root u') _ (fun x hx => root_determined h h' hRR x (List.mem_range.1 hx))]

theorem isSame_determined {u u' : UF} {n : Nat} {R R' : Nat → Nat → Prop} (h : Rep u n R) (h' : Rep u' n R')
    (hRR : ∀ a b, EqvGen R a b ↔ EqvGen R' a b) (x y : Nat) (hx : x < n) (hy : y < n) :
    isSame u x y = isSame u' x y := by
  unfold isSame
  rw [root_determined h h' hRR x hx, root_determined h h' hRR y hy]

theorem Rep.isSame_iff {u : UF} {n : Nat} {R : Nat → Nat → Prop} (h : Rep u n R) (x y : Nat) (hx : x < n) (hy : y < n) :
    ∃ b, isSame u x y = .ok b ∧ (b = true ↔ EqvGen R x y) := by
  obtain ⟨rx, ry, h1, h2, e⟩ := isSame_spec h.good x y hx hy
  exact ⟨_, e, by rw [beq_iff_eq]; exact h.rel x y hx hy rx ry h1 h2⟩

/-- the list `group()` builds from a root function: classes keyed by root in ascending order, members ascending -/
def classesOf (n : Nat) (rt : Nat → Nat) : List (List Nat) :=
  (List.range n).filterMap fun r =>
    let g := (List.range n).filter fun i => rt i == r
    if g.isEmpty then none else some g

theorem mapMRes_ok {β γ : Type} (f : β → Res γ) (g : β → γ) (l : List β) (h : ∀ x ∈ l, f x = .ok (g x)) :
    mapMRes f l = .ok (l.map g) := by
  induction l with
  | nil => rfl
  | cons x l ih =>
    unfold mapMRes
    rw [h x (by simp), ih (fun y hy => h y (by simp [hy]))]; rfl

theorem Rep.group_eq {u : UF} {n : Nat} {R : Nat → Nat → Prop} (h : Rep u n R) :
    ∃ rt : Nat → Nat, (∀ x, x < n → root u x = .ok (rt x) ∧ IsRoot u.p x (rt x)) ∧ group u = .ok (classesOf n rt) := by
  classical
  have hex : ∀ x, ∃ r, x < n → root u x = .ok r ∧ IsRoot u.p x r := by
    intro x
    by_cases hx : x < n
    · obtain ⟨r, e, hr⟩ := h.good.root_ok x hx
      exact ⟨r, fun _ => ⟨e, hr⟩⟩
    · exact ⟨0, fun hh => absurd hh hx⟩
  choose rt hrt using hex
  refine ⟨rt, hrt, ?_⟩
  unfold group
  rw [h.good.size]
  dsimp only
  rw [mapMRes_ok (root u) rt _ (fun x hx => (hrt x (List.mem_range.1 hx)).1)]
  simp only [classesOf]
  have : ∀ r, ((List.range n).filter fun i => ((List.range n).map rt).toArray.getD i 0 == r) =
      (List.range n).filter fun i => rt i == r := by
    intro r
    apply List.filter_congr
    intro i hi
    have hi' : i < n := List.mem_range.1 hi
    simp [hi']
  simp only [this]

end UF
end Yuiv.C12
