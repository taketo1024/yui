import Yuiv.Model.Res
/-
`Res`: what a `>>=` that returned `ok` (or did not return `err`) says about its two parts; `assert!`; the outcome
predicate `Sat` with its rule for `>>=` and the one rule for `for` loops, `foldlM_sat`, with its instances `foldlM_inv`,
`foldlM_inv_prefix` (the loop keeps an invariant) and `foldlM_returns` (the loop returns).
-/
namespace Yuiv.Res

instance : LawfulMonad Res := LawfulMonad.mk' Res
  (id_map := fun x => by cases x <;> rfl)
  (pure_bind := fun _ _ => rfl)
  (bind_assoc := fun x _ _ => by cases x <;> rfl)

theorem bind_eq_ok_iff {α β : Type} {x : Res α} {f : α → Res β} {b : β} :
    (x >>= f) = ok b ↔ ∃ a, x = ok a ∧ f a = ok b := by
  cases x with
  | ok a => exact ⟨fun h => ⟨a, rfl, h⟩, fun ⟨_, ha, h⟩ => by cases ha; exact h⟩
  | panic => exact ⟨fun h => (nomatch h), fun ⟨_, ha, _⟩ => (nomatch ha)⟩
  | err => exact ⟨fun h => (nomatch h), fun ⟨_, ha, _⟩ => (nomatch ha)⟩

theorem bind_eq_ok {α β : Type} {x : Res α} {f : α → Res β} {b : β} (h : (x >>= f) = ok b) :
    ∃ a, x = ok a ∧ f a = ok b :=
  bind_eq_ok_iff.1 h

theorem bind_ne_err {α β : Type} {x : Res α} {f : α → Res β} (hx : x ≠ err) (hf : ∀ a, f a ≠ err) :
    (x >>= f) ≠ err := by
  cases x with
  | ok a => exact hf a
  | panic => nofun
  | err => exact absurd rfl hx

theorem assert_eq_ok {c : Bool} {u : Unit} : assert c = ok u ↔ c = true := by
  cases c <;> simp [assert]

/-- `assert!(c); rest`: a run of guards is one `if` on their conjunction (`← ite_and`), so an operation rejects by `if_neg` -/
theorem assert_bind {α : Type} (c : Prop) [Decidable c] (x : Unit → Res α) :
    (assert (decide c) >>= x) = if c then x () else panic := by
  by_cases h : c <;> simp [assert, h]

theorem assert_bind_eq_ok {β : Type} {c : Bool} {f : Unit → Res β} {b : β} :
    (assert c >>= f) = ok b ↔ c = true ∧ f () = ok b := by
  cases c <;> simp [assert]

/-- The outcome `r` is acceptable: a returned value satisfies `Q`, a panic is allowed iff `pn`, an error (or fuel
exhaustion) iff `er`.  `Sat Q True True` is partial correctness, `Sat Q False True` "no panic, and `Q` on return",
`Sat Q False False` total correctness; `Sat (fun _ => True) True False` says `r ≠ err`. -/
def Sat {α : Type} (Q : α → Prop) (pn er : Prop) : Res α → Prop
  | ok a => Q a
  | panic => pn
  | err => er

variable {α β σ : Type} {Q : α → Prop} {pn er : Prop}

@[simp] theorem sat_ok {a : α} : Sat Q pn er (ok a) ↔ Q a := Iff.rfl
@[simp] theorem sat_panic : Sat Q pn er (panic : Res α) ↔ pn := Iff.rfl
@[simp] theorem sat_err : Sat Q pn er (err : Res α) ↔ er := Iff.rfl

theorem Sat.bind {x : Res α} {f : α → Res β} {R : β → Prop} (hx : Sat Q pn er x)
    (hf : ∀ a, Q a → Sat R pn er (f a)) : Sat R pn er (x >>= f) := by
  cases x with
  | ok a => exact hf a hx
  | panic => exact hx
  | err => exact hx

theorem Sat.mono {x : Res α} {Q' : α → Prop} {pn' er' : Prop} (hx : Sat Q pn er x)
    (hQ : ∀ a, Q a → Q' a) (hp : pn → pn') (he : er → er') : Sat Q' pn' er' x := by
  cases x with
  | ok a => exact hQ a hx
  | panic => exact hp hx
  | err => exact he hx

theorem sat_partial {x : Res α} : Sat Q True True x ↔ ∀ a, x = ok a → Q a := by
  cases x with
  | ok a => exact ⟨fun h _ e => by cases e; exact h, fun h => h a rfl⟩
  | panic => exact ⟨fun _ _ e => (nomatch e), fun _ => trivial⟩
  | err => exact ⟨fun _ _ e => (nomatch e), fun _ => trivial⟩

theorem sat_total {x : Res α} : Sat Q False False x ↔ ∃ a, x = ok a ∧ Q a := by
  cases x with
  | ok a => exact ⟨fun h => ⟨a, rfl, h⟩, fun ⟨_, e, h⟩ => by cases e; exact h⟩
  | panic => exact ⟨False.elim, fun ⟨_, e, _⟩ => (nomatch e)⟩
  | err => exact ⟨False.elim, fun ⟨_, e, _⟩ => (nomatch e)⟩

theorem sat_ne_err {x : Res α} : Sat (fun _ => True) True False x ↔ x ≠ err := by
  cases x with
  | ok a => exact ⟨fun _ => nofun, fun _ => trivial⟩
  | panic => exact ⟨fun _ => nofun, fun _ => trivial⟩
  | err => exact ⟨False.elim, fun h => h rfl⟩

theorem Sat.of_ok {x : Res α} {a : α} (hx : Sat Q pn er x) (h : x = ok a) : Q a := by
  subst h; exact hx

/-- The loop rule.  The invariant `P` may speak of the part of the list already visited; a step is only asked about
where it stands in `l`. -/
theorem foldlM_sat {f : σ → β → Res σ} {l : List β} (P : List β → σ → Prop)
    (hstep : ∀ pre x post s, l = pre ++ x :: post → P pre s → Sat (P (pre ++ [x])) pn er (f s x))
    {s : σ} (h0 : P [] s) : Sat (P l) pn er (l.foldlM f s) := by
  suffices ∀ (post pre : List β) (s : σ), l = pre ++ post → P pre s → Sat (P l) pn er (post.foldlM f s) from
    this l [] s rfl h0
  intro post
  induction post with
  | nil => intro pre s e hp; rw [List.append_nil] at e; subst e; exact hp
  | cons x post ih =>
    intro pre s e hp
    rw [List.foldlM_cons]
    exact (hstep pre x post s e hp).bind fun y hy => ih (pre ++ [x]) y (by rw [e, List.append_assoc]; rfl) hy

/-- the plain invariant rule: what every returning step keeps holds when the loop returns -/
theorem foldlM_inv {f : σ → β → Res σ} {l : List β} (P : σ → Prop)
    (hstep : ∀ s x s', x ∈ l → P s → f s x = ok s' → P s') {s s' : σ} (hp : P s) (h : l.foldlM f s = ok s') : P s' :=
  (foldlM_sat (pn := True) (er := True) (fun _ => P)
    (fun _ x _ s e hs => sat_partial.2 fun s' hs' =>
      hstep s x s' (by rw [e]; exact List.mem_append_right _ List.mem_cons_self) hs hs') hp).of_ok h

/-- the same for an invariant that speaks of the visited prefix -/
theorem foldlM_inv_prefix {f : σ → β → Res σ} {l : List β} (P : List β → σ → Prop)
    (hstep : ∀ pre s x s', P pre s → f s x = ok s' → P (pre ++ [x]) s') {s s' : σ} (hp : P [] s)
    (h : l.foldlM f s = ok s') : P l s' :=
  (foldlM_sat (pn := True) (er := True) P
    (fun pre x _ s _ hs => sat_partial.2 fun s' e => hstep pre s x s' hs e) hp).of_ok h

/-- a `for` loop whose body returns and keeps an invariant indexed by the processed prefix returns -/
theorem foldlM_returns (f : σ → β → Res σ) (P : List β → σ → Prop)
    (hstep : ∀ pre x s, P pre s → ∃ s', f s x = .ok s' ∧ P (pre ++ [x]) s') (l : List β) (s : σ) (hp : P [] s) :
    ∃ s', l.foldlM f s = .ok s' ∧ P l s' :=
  sat_total.1 (foldlM_sat P (fun pre x _ s _ h => sat_total.2 (hstep pre x s h)) hp)

/-- a `for` loop whose steps return, on the states of an invariant, the values of a pure step -/
theorem foldlM_eq_ok_foldl {f : σ → β → Res σ} {g : σ → β → σ} (P : σ → Prop) {l : List β}
    (h : ∀ x ∈ l, ∀ s, P s → f s x = ok (g s x) ∧ P (g s x)) {s : σ} (hs : P s) :
    l.foldlM f s = ok (l.foldl g s) ∧ P (l.foldl g s) := by
  induction l generalizing s with
  | nil => exact ⟨rfl, hs⟩
  | cons x l ih =>
    obtain ⟨h1, h2⟩ := h x List.mem_cons_self s hs
    rw [List.foldlM_cons, h1]
    exact ih (fun y hy => h y (List.mem_cons_of_mem _ hy)) h2

end Yuiv.Res
