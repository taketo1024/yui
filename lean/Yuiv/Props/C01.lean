import Yuiv.Proofs.C01
import Yuiv.Proofs.KhRefBits
/-
C01 — Khovanov homology equals the cube-of-resolutions definition.

What is PROVED here (for all h, t): the tables `prod`/`coprod` that define the edge maps of the
reference cube form a commutative Frobenius algebra with counit ε(1)=0, ε(X)=1 — the algebraic facts
that make the cube a complex and a TQFT.  What ties the library to the definition is the
correspondence run: the library's tables are compared with `KhRef.khHomology` (executable definition)
on every generated diagram; that equality is explored, not proved (see props/C01.json `partial`).
-/
namespace Yuiv.KhRef

theorem mul_comm' (h t : Int) (a b : A) : mul h t a b = mul h t b a := by
  rw [mul_eq, mul_eq]
  refine Prod.ext ?_ ?_ <;> (dsimp only; ring)

theorem mul_assoc' (h t : Int) (a b c : A) : mul h t (mul h t a b) c = mul h t a (mul h t b c) := by
  simp only [mul_eq]
  refine Prod.ext ?_ ?_ <;> (dsimp only; ring)

theorem mul_one' (h t : Int) (a : A) : mul h t a one = a := by
  simp [mul_eq, one]

/-- `X² = h·X + t·1` -/
theorem X_sq (h t : Int) : mul h t X X = (t, h) := by
  simp [mul_eq, X]

theorem mul_add' (h t : Int) (a b c : A) : mul h t a (add b c) = add (mul h t a b) (mul h t a c) := by
  simp only [mul_eq, add]
  refine Prod.ext ?_ ?_ <;> (dsimp only; ring)

/-- cocommutativity: the coefficients of `1⊗X` and `X⊗1` agree -/
theorem comul_cocomm (h t : Int) (a : A) : (comul h t a).2.1 = (comul h t a).2.2.1 := by
  rw [comul_eq]

/-- counit law `(ε ⊗ id) ∘ Δ = id`: ε kills `1⊗_`, keeps `X⊗_` -/
theorem counit_comul (h t : Int) (a : A) :
    ((comul h t a).2.2.1, (comul h t a).2.2.2) = a := by
  rw [comul_eq]

/-- coassociativity `(Δ ⊗ id) ∘ Δ = (id ⊗ Δ) ∘ Δ` -/
theorem comul_coassoc (h t : Int) (a : A) : comulId h t (comul h t a) = idComul h t (comul h t a) := by
  simp only [comulId, idComul, comul_eq, one, X]
  simp
  constructor <;> ring

/-- the Frobenius relation `Δ(a·b) = (m ⊗ id)(a ⊗ Δ b)` -/
theorem frobenius (h t : Int) (a b : A) : comul h t (mul h t a b) = mulLeft h t a (comul h t b) := by
  simp only [mulLeft, comul_eq, mul_eq, one, X]
  refine Prod.ext ?_ (Prod.ext ?_ (Prod.ext ?_ ?_)) <;> (dsimp only; ring)

/-- ε(1) = 0, ε(X) = 1, and ε ∘ m is the nondegenerate pairing with Gram matrix [[0,1],[1,h]] -/
theorem counit_values (h t : Int) :
    counit one = 0 ∧ counit X = 1 ∧ counit (mul h t X X) = h := by
  simp [counit, one, X, mul_eq]

end Yuiv.KhRef

namespace Yuiv.KhRef

/-- the sign rule of the cube makes every square anticommute: for two distinct positions `i ≠ j` that are 0 in
`s`, going `i` then `j` carries the opposite sign of going `j` then `i` (this is what turns the commuting
faces of the TQFT cube into d∘d = 0). -/
theorem edgeSign_anticomm (s i j : Nat) (hij : i ≠ j) (hi : s.testBit i = false) (hj : s.testBit j = false) :
    edgeSign s i * edgeSign (s ||| (1 <<< i)) j = - (edgeSign s j * edgeSign (s ||| (1 <<< j)) i) := by
  rcases Nat.lt_or_gt_of_ne hij with h | h
  · rw [edgeSign_or_gt s i j hi h, edgeSign_or_le s j i (Nat.le_of_lt h)]; ring
  · rw [edgeSign_or_gt s j i hj h, edgeSign_or_le s i j (Nat.le_of_lt h)]; ring

end Yuiv.KhRef
