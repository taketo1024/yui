import Yuiv.Proofs.C18Part
import Yuiv.Proofs.C18Relabel
/-
C18Inv — shared spec definitions for the invariance / orientation theorems about the model `Yuiv.C18`.

An ORIENTATION of a valid code is given by the set `O` of slots at which the oriented strands ENTER a
crossing: of the two ends of a strand through a crossing exactly one is an entrance, and of the two ends of
an edge exactly one is an entrance (`Orient`).  It is consistent with the under-strand directions of the code
if every under-strand enters at slot 0 (`UnderIn`).  The sign read off such an orientation at crossing `i`
is the entry of the Rust table (`signAt`) at the slot where the over-strand enters (`sgnAt`).
-/
namespace Yuiv.C18
open Yuiv

/-- `O` (entrance slots) is an orientation of `l`: bounded-quantifier form, decidable for concrete `O` -/
def Orient (l : Link) (O : Nat × Nat → Bool) : Prop :=
  ∀ i, i < l.length → ∀ j, j < 4 →
    O (thru l (i, j)) = !O (i, j) ∧ O (partner l (i, j)) = !O (i, j)

instance (l : Link) (O : Nat × Nat → Bool) : Decidable (Orient l O) := by unfold Orient; infer_instance

def UnderIn (l : Link) (O : Nat × Nat → Bool) : Prop := ∀ i, i < l.length → O (i, 0) = true

instance (l : Link) (O : Nat × Nat → Bool) : Decidable (UnderIn l O) := by unfold UnderIn; infer_instance

def sgnAt (l : Link) (O : Nat × Nat → Bool) (i : Nat) : Option Sign :=
  signAt (ctypeAt l i) (if O (i, 1) then 1 else 3)

def signsOf (l : Link) (O : Nat × Nat → Bool) : List Sign := (List.range l.length).filterMap (sgnAt l O)

/-- `b` is reached from `a` by moves along strands through crossings (`thru`) and along edges (`partner`):
the two slots lie on the same component -/
inductive SConn (l : Link) : Nat × Nat → Nat × Nat → Prop
  | refl (a : Nat × Nat) : SConn l a a
  | thru {a b : Nat × Nat} : SConn l a b → SConn l a (thru l b)
  | partner {a b : Nat × Nat} : SConn l a b → SConn l a (partner l b)

/-- every edge lies on a component that contains an under-strand end (slot 0 of some crossing): the
orientation consistent with the code is then unique (`orient_unique`) -/
def Determined (l : Link) : Prop :=
  ∀ i, i < l.length → ∀ j, j < 4 → ∃ i', i' < l.length ∧ SConn l (i', 0) (i, j)

/-- decidable sufficient criterion for `Determined` (`determined_of_B`): each slot, or the other end of its
edge, is reached within `4n` steps by the walk started at slot 0 of some crossing -/
def DeterminedB (l : Link) : Prop :=
  ∀ i, i < l.length → ∀ j, j < 4 → ∃ i', i' < l.length ∧ ∃ k, k < 4 * l.length ∧
    (iter (step l) k (i', 0) = (i, j) ∨ iter (step l) k (i', 0) = partner l (i, j))

instance (l : Link) : Decidable (DeterminedB l) := by unfold DeterminedB; infer_instance

/-- the link with its crossing list reordered: position `k` of the new list is crossing `p[k]` of `l` -/
def permute (p : List Nat) (l : Link) : Link := p.filterMap (fun i => l[i]?)

/-- reversing the orientation of every component at once: `[a,b,c,d] ↦ [c,d,a,b]` -/
def reverseAll (l : Link) : Link := l.map (fun c => ⟨c.ctype, c.e2, c.e3, c.e0, c.e1⟩)

def writheOf (s : List Sign) : Int := (s.count .pos : Int) - (s.count .neg : Int)

def AllX (l : Link) : Prop := ∀ c ∈ l, c.isResolved = false

instance (l : Link) : Decidable (AllX l) := by unfold AllX; infer_instance

theorem Orient.thru_eq {l : Link} {O : Nat × Nat → Bool} (hO : Orient l O) (h : Nat × Nat) (hh : HE l h) :
    O (thru l h) = !O h := (hO h.1 hh.1 h.2 hh.2).1

theorem Orient.partner_eq {l : Link} {O : Nat × Nat → Bool} (hO : Orient l O) (h : Nat × Nat) (hh : HE l h) :
    O (partner l h) = !O h := (hO h.1 hh.1 h.2 hh.2).2

theorem Orient.step_eq {l : Link} {O : Nat × Nat → Bool} (hO : Orient l O) (hv : Valid l) (h : Nat × Nat)
    (hh : HE l h) : O (step l h) = O h := by
  rw [C18.step_eq l hv h hh, hO.partner_eq _ (C18.thru_spec l h hh).1, hO.thru_eq h hh, Bool.not_not]

theorem Orient.iter_eq {l : Link} {O : Nat × Nat → Bool} (hO : Orient l O) (hv : Valid l) (h : Nat × Nat)
    (hh : HE l h) : ∀ k, O (iter (step l) k h) = O h
  | 0 => rfl
  | k + 1 => by
    show O (step l (iter (step l) k h)) = O h
    rw [hO.step_eq hv _ (iter_HE l hv h hh k)]
    exact Orient.iter_eq hO hv h hh k

theorem SConn.trans {l : Link} {a b c : Nat × Nat} (h1 : SConn l a b) (h2 : SConn l b c) : SConn l a c := by
  induction h2 with
  | refl => exact h1
  | thru _ ih => exact SConn.thru ih
  | partner _ ih => exact SConn.partner ih

theorem SConn.he {l : Link} (hv : Valid l) {a b : Nat × Nat} (h : SConn l a b) (ha : C18.HE l a) : C18.HE l b := by
  induction h with
  | refl => exact ha
  | thru _ ih => exact (thru_spec l _ ih).1
  | partner _ ih => exact (partner_spec l hv _ ih).1

theorem SConn.iter_step {l : Link} (hv : Valid l) (a : Nat × Nat) (ha : C18.HE l a) :
    ∀ k, SConn l a (iter (C18.step l) k a)
  | 0 => SConn.refl a
  | k + 1 => by
    show SConn l a (C18.step l (iter (C18.step l) k a))
    rw [C18.step_eq l hv _ (iter_HE l hv a ha k)]
    exact SConn.partner (SConn.thru (SConn.iter_step hv a ha k))

theorem determined_of_B {l : Link} (hv : Valid l) (h : DeterminedB l) : Determined l := by
  intro i hi j hj
  obtain ⟨i', hi', k, _, hk⟩ := h i hi j hj
  have hs : HE l (i', 0) := ⟨hi', (by decide : 0 < 4)⟩
  refine ⟨i', hi', ?_⟩
  have h1 := SConn.iter_step hv (i', 0) hs k
  rcases hk with hk | hk
  · rw [hk] at h1; exact h1
  · rw [hk] at h1
    have h2 := SConn.partner h1
    rw [(partner_spec l hv (i, j) ⟨hi, hj⟩).2.2.2] at h2
    exact h2

theorem orient_agree {l : Link} (hv : Valid l) {O O' : Nat × Nat → Bool} (hO : Orient l O) (hO' : Orient l O')
    {a b : Nat × Nat} (h : SConn l a b) (ha : HE l a) (hab : O' a = O a) : O' b = O b := by
  induction h with
  | refl => exact hab
  | thru hc ih => rw [hO.thru_eq _ (hc.he hv ha), hO'.thru_eq _ (hc.he hv ha), ih]
  | partner hc ih => rw [hO.partner_eq _ (hc.he hv ha), hO'.partner_eq _ (hc.he hv ha), ih]

theorem orient_unique {l : Link} (hv : Valid l) (hD : Determined l) {O O' : Nat × Nat → Bool}
    (hO : Orient l O) (hU : UnderIn l O) (hO' : Orient l O') (hU' : UnderIn l O')
    (h : Nat × Nat) (hh : HE l h) : O' h = O h := by
  obtain ⟨i', hi', hc⟩ := hD h.1 hh.1 h.2 hh.2
  exact orient_agree hv hO hO' hc ⟨hi', by omega⟩ (by rw [hU i' hi', hU' i' hi'])

theorem sgnAt_congr (l : Link) (O O' : Nat × Nat → Bool) (i : Nat) (h : O' (i, 1) = O (i, 1)) :
    sgnAt l O' i = sgnAt l O i := by
  unfold sgnAt; rw [h]

theorem filterMap_congr_mem {α β} (f g : α → Option β) (xs : List α) (h : ∀ x ∈ xs, f x = g x) :
    xs.filterMap f = xs.filterMap g := by
  induction xs with
  | nil => rfl
  | cons a r ih =>
    rw [List.filterMap_cons, List.filterMap_cons, h a List.mem_cons_self,
      ih (fun x hx => h x (List.mem_cons_of_mem _ hx))]

theorem signsOf_congr (l : Link) (O O' : Nat × Nat → Bool) (h : ∀ i, i < l.length → O' (i, 1) = O (i, 1)) :
    signsOf l O' = signsOf l O :=
  filterMap_congr_mem _ _ _ (fun i hi => sgnAt_congr l O O' i (h i (List.mem_range.1 hi)))

end Yuiv.C18
