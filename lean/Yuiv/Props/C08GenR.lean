import Yuiv.Proofs.C08GenR
/-
C08 — what one `ChainReducer::reduce_at_spec` step (`/repo/yui-homology/src/utils/chain_reducer.rs`) does to the reducer's
tables, as theorems about the code GENERATED from that file (`Yuiv.GenReducer.*`, file `Yuiv/Gen/ReducerFn.lean`,
regenerated by `tools/rs2lean_fn.py fn:reducer` on every `./check` run).  The generated code and the theorems are generic
over the operations `K : ROps M V T P S` of the other files (each tied to its own model by its own `fn:` target), so they
hold for ANY matrices / vectors / transforms; the `spec*` functions (Yuiv/Proofs/C08GenR.lean) are the mathematical
reading of the step:

  `mats[i−d]` (if set)  ← rows `q(k) ∈ r..n` of it, renumbered `q(k) − r`            (`assert_eq!(a0.nrows(), n)`)
  `mats[i]`             ← the Schur complement `s` of the permuted `a` w.r.t. its leading `r × r` block
  `mats[i+d]` (if set)  ← columns `p(k) ∈ r..m` of it, renumbered                    (`assert_eq!(a2.ncols(), m)`)
  `trans[i]`   (if tracked) ← `trans[i]   ∘ perm(q) ∘ t_src`        `trans[i+d]` (if tracked) ← `trans[i+d] ∘ perm(p) ∘ t_tgt`
  `vecs[i]`    (if any)     ← coordinates `q(k) ∈ r..n` of each      `vecs[i+d]`  (if any)     ← `y − c·a⁻¹x`, `(x, y) = split_r(p·v)`
  `with_trans = trans.contains(i) || trans.contains(i+d)`;  `Rows ↦ Upper`, `Cols ↦ Lower`;  nothing else changes.

Every theorem is an unconditional equality generated = spec (panics and fuel included); the corollaries at the end read
single table entries off under the hypothesis that the three degrees are distinct.
-/
namespace Yuiv.C08GenR
open Yuiv Res Yuiv.Rust Yuiv.GenReducer

variable {I M V T P S : Type} [DecidableEq I] [Add I] [Sub I]

theorem gen_accessors_eq (K : ROps M V T P S) (st : St I M V T P S) (i : I) :
    ChainReducer.matrix K st i = HMap.get st.mats i ∧ ChainReducer.trans K st i = HMap.get st.trans i ∧
    ChainReducer.vecs K st i = HMap.get st.vecs i ∧ ChainReducer.is_set K st i = HMap.contains_key st.mats i ∧
    ChainReducer.deg_trip K st i = (i - st.d_deg, i, i + st.d_deg) := ⟨rfl, rfl, rfl, rfl, rfl⟩

theorem gen_set_matrix_eq (K : ROps M V T P S) (st : St I M V T P S) (i : I) (d : M) (wt : Bool) :
    ChainReducer.set_matrix K st i d wt =
      { st with mats := HMap.insert st.mats i d,
                trans := if wt then HMap.insert st.trans i (K.trans_id (K.ncols d)) else st.trans } := by
  unfold ChainReducer.set_matrix
  cases wt <;> rfl

theorem gen_is_done_eq (K : ROps M V T P S) (st : St I M V T P S) :
    ChainReducer.is_done K st = st.support.all fun i => match HMap.get st.mats i with
      | some d => K.is_zero d
      | none => false := by
  unfold ChainReducer.is_done
  congr 1
  funext i
  unfold ChainReducer.is_done_closure1 ChainReducer.matrix
  cases HMap.get st.mats i <;> rfl

theorem gen_pivots_eq (K : ROps M V T P S) (a : M) (pt : PivotType) (pc : PivotCondition) :
    chain_reducer.pivots K a pt pc =
      (K.find_pivots a pt pc >>= fun pivs => K.perms_by_pivots a pivs >>= fun pq => ok (pq.1, pq.2, pivs.length)) := by
  unfold chain_reducer.pivots
  refine bind_congr (fun pivs => ?_)
  refine bind_congr (fun pq => ?_)
  rfl

theorem keepRow_eq (K : ROps M V T P S) (p : P) (r m : Nat) :
    chain_reducer.reduce_mat_rows_closure1 K p r m = keepRow K p r m := by
  funext i j
  unfold chain_reducer.reduce_mat_rows_closure1 keepRow
  refine bind_congr (fun i' => ?_)
  unfold Rd.range_contains
  by_cases h : r ≤ i' ∧ i' < m
  · simp [h, U64.sub]
  · simp [h, ← Bool.decide_and]

theorem keepCol_eq (K : ROps M V T P S) (p : P) (r n : Nat) :
    chain_reducer.reduce_mat_cols_closure1 K p r n = keepCol K p r n := by
  funext i j
  unfold chain_reducer.reduce_mat_cols_closure1 keepCol
  refine bind_congr (fun j' => ?_)
  unfold Rd.range_contains
  by_cases h : r ≤ j' ∧ j' < n
  · simp [h, U64.sub]
  · simp [h, ← Bool.decide_and]

theorem gen_reduce_mat_rows_eq (K : ROps M V T P S) (a : M) (p : P) (r : Nat) :
    chain_reducer.reduce_mat_rows K a p r = specRows K a p r := by
  unfold chain_reducer.reduce_mat_rows specRows
  simp only [keepRow_eq]
  by_cases h : r ≤ K.nrows a <;> simp [U64.sub, h]

theorem gen_reduce_mat_cols_eq (K : ROps M V T P S) (a : M) (p : P) (r : Nat) :
    chain_reducer.reduce_mat_cols K a p r = specCols K a p r := by
  unfold chain_reducer.reduce_mat_cols specCols
  simp only [keepCol_eq]
  by_cases h : r ≤ K.ncols a <;> simp [U64.sub, h]

theorem gen_update_mats_eq (K : ROps M V T P S) (st : St I M V T P S) (i : I) (p q : P) (r : Nat) (s : M) :
    ChainReducer.update_mats K st i p q r s =
      (specMats K st.d_deg st.mats i p q r s >>= fun m => ok { st with mats := m }) := by
  unfold ChainReducer.update_mats specMats specMatsPrev specMatsNext
  dsimp only [ChainReducer.deg_trip, ChainReducer.matrix]
  simp only [isSome_match, gen_reduce_mat_rows_eq, gen_reduce_mat_cols_eq]
  cases h0 : HMap.get st.mats (i - st.d_deg) with
  | none =>
    simp only [bind_ok]
    cases h2 : HMap.get (HMap.insert st.mats i s) (i + st.d_deg) with
    | none => rfl
    | some a2 =>
      simp only [bind_assoc, bind_ok]
  | some a0 =>
    simp only [bind_assoc, bind_ok]
    refine bind_congr (fun _ => ?_)
    refine bind_congr (fun a0' => ?_)
    cases h2 : HMap.get (HMap.insert (HMap.insert st.mats (i - st.d_deg) a0') i s) (i + st.d_deg) with
    | none => rfl
    | some a2 =>
      simp only [bind_assoc, bind_ok]

theorem gen_update_trans_eq (K : ROps M V T P S) (st : St I M V T P S) (i : I) (p q : P) (tsrc ttgt : T) :
    ChainReducer.update_trans K st i p q tsrc ttgt =
      (specTrans K st.d_deg st.trans i p q tsrc ttgt >>= fun t => ok { st with trans := t }) := by
  unfold ChainReducer.update_trans specTrans specTransSrc specTransTgt
  dsimp only [ChainReducer.deg_trip]
  simp only [isSome_match]
  cases h0 : HMap.get st.trans i with
  | none =>
    simp only [bind_ok]
    cases h2 : HMap.get st.trans (i + st.d_deg) with
    | none => rfl
    | some t2 =>
      simp only [bind_assoc, bind_ok]
  | some t1 =>
    simp only [bind_assoc, bind_ok]
    refine bind_congr (fun _ => ?_)
    refine bind_congr (fun t1' => ?_)
    cases h2 : HMap.get (HMap.insert st.trans i t1') (i + st.d_deg) with
    | none => rfl
    | some t2 =>
      simp only [bind_assoc, bind_ok]

theorem keepIdx_eq (K : ROps M V T P S) (q : P) (r n : Nat) :
    ChainReducer.update_vecs_closure2 (I := I) K q r n = keepIdx K q r n := by
  funext i
  unfold ChainReducer.update_vecs_closure2 keepIdx
  refine bind_congr (fun i' => ?_)
  unfold Rd.range_contains
  by_cases h : r ≤ i' ∧ i' < n
  · simp [h, U64.sub]
  · simp [h, ← Bool.decide_and]

theorem vec_src_eq (K : ROps M V T P S) (i : I) (q : P) (r n : Nat) :
    ChainReducer.update_vecs_each1 K i q r n = specVecSrc K q r n := by
  funext v
  unfold ChainReducer.update_vecs_each1 specVecSrc
  simp only [keepIdx_eq]
  refine bind_congr (fun _ => ?_)
  by_cases h : r ≤ n
  · simp only [U64.sub, h, if_true, bind_ok]
    generalize K.vextract v (n - r) (keepIdx K q r n) = x
    cases x <;> rfl
  · simp [U64.sub, h]

theorem vec_tgt_eq (K : ROps M V T P S) (_a : M) (a11 c : M) (p : P) (r m : Nat) (t : TriangularType) :
    ChainReducer.update_vecs_each3 (I := I) K a11 p r t m c = specVecTgt K a11 c p r m t := by
  funext v
  unfold ChainReducer.update_vecs_each3 specVecTgt
  refine bind_congr (fun _ => ?_)
  refine bind_congr (fun _ => ?_)
  refine bind_congr (fun xy => ?_)
  refine bind_congr (fun _ => ?_)
  refine bind_congr (fun cx => ?_)
  generalize K.vsub xy.2 cx = x
  cases x <;> rfl

theorem gen_update_vecs_eq (K : ROps M V T P S) (st : St I M V T P S) (i : I) (a : M) (p q : P) (r : Nat)
    (t : TriangularType) :
    ChainReducer.update_vecs K st i a p q r t =
      (specVecs K st.d_deg st.vecs i a p q r t >>= fun v => ok { st with vecs := v }) := by
  unfold ChainReducer.update_vecs specVecs specVecsSrc specVecsTgt
  dsimp only [ChainReducer.deg_trip]
  simp only [isSome_match, vec_src_eq, vec_tgt_eq K a]
  cases h0 : HMap.get st.vecs i with
  | none =>
    simp only [bind_ok]
    cases h2 : HMap.get st.vecs (i + st.d_deg) with
    | none => rfl
    | some vs =>
      simp only [bind_assoc, bind_ok]
  | some vs =>
    simp only [bind_assoc, bind_ok]
    refine bind_congr (fun vs' => ?_)
    cases h2 : HMap.get (HMap.insert st.vecs i vs') (i + st.d_deg) with
    | none => rfl
    | some ws =>
      simp only [bind_assoc, bind_ok]

theorem gen_reduce_at_spec_eq (K : ROps M V T P S) (st : St I M V T P S) (i : I) (pt : PivotType) (pc : PivotCondition) :
    ChainReducer.reduce_at_spec K st i pt pc = specStep K st i pt pc := by
  unfold ChainReducer.reduce_at_spec specStep
  dsimp only [ChainReducer.matrix]
  cases ha : HMap.get st.mats i with
  | none => rfl
  | some a =>
    dsimp only [Opt.unwrap, bind_ok]
    cases hz : K.is_zero a
    · simp only [Bool.false_eq_true, if_false, gen_pivots_eq, bind_assoc, bind_ok]
      refine bind_congr (fun pivs => ?_)
      refine bind_congr (fun pq => ?_)
      by_cases hr : pivs.length = 0
      · simp [hr]
      · simp only [hr, decide_false, Bool.false_eq_true, if_false]
        refine bind_congr (fun a' => ?_)
        have ht : (if decide (pt = PivotType.Rows) = true then TriangularType.Upper else TriangularType.Lower) =
            (if pt = PivotType.Rows then TriangularType.Upper else TriangularType.Lower) := by
          cases pt <;> rfl
        rw [ht]
        refine bind_congr (fun sch => ?_)
        simp only [gen_update_mats_eq, gen_update_trans_eq, gen_update_vecs_eq, bind_assoc, bind_ok]
        refine bind_congr (fun mats => ?_)
        cases (HMap.contains_key st.trans i || HMap.contains_key st.trans (i + st.d_deg))
        · simp only [Bool.false_eq_true, if_false, bind_ok]
        · simp only [if_true, bind_assoc, bind_ok]
    · simp only [if_true]

theorem gen_preferred_strategy_eq (K : ROps M V T P S) (st : St I M V T P S) (i : I) :
    ChainReducer.preferred_strategy K st i = match HMap.get st.mats i with
      | none => Res.panic
      | some a => ok (PivotType.Cols, if K.has_pm_one a then PivotCondition.One else PivotCondition.AnyUnit) := by
  unfold ChainReducer.preferred_strategy
  dsimp only [ChainReducer.matrix]
  cases HMap.get st.mats i <;> rfl

theorem gen_reduce_at_eq (K : ROps M V T P S) (fuel : Nat) (st : St I M V T P S) (i : I) (deep : Bool) :
    ChainReducer.reduce_at K fuel st i deep = specAt K fuel st i deep := by
  unfold ChainReducer.reduce_at
  have key : ∀ (fuel c : Nat) (st : St I M V T P S),
      (ChainReducer.reduce_at_loop1 K fuel i deep st c >>= fun x => ok x.1) = specAt K fuel st i deep := by
    intro fuel
    induction fuel with
    | zero => intro c st; rfl
    | succ fuel ih =>
      intro c st
      rw [ChainReducer.reduce_at_loop1, specAt]
      simp only [bind_assoc, gen_reduce_at_spec_eq]
      refine bind_congr (fun strat => ?_)
      refine bind_congr (fun res => ?_)
      cases (!deep || !res.2)
      · simp only [Bool.false_eq_true, if_false]
        exact ih (c + 1) res.1
      · simp only [if_true, bind_ok]
  exact key fuel _ st

theorem gen_reduce_all_eq (K : ROps M V T P S) (fuel : Nat) (st : St I M V T P S) (deep : Bool) :
    ChainReducer.reduce_all K fuel st deep = specAll K fuel st deep := by
  unfold ChainReducer.reduce_all specAll
  have key : ∀ (xs : List I) (s : St I M V T P S),
      ChainReducer.reduce_all_loop1 K fuel xs deep s = xs.foldlM (fun s i => specAt K fuel s i deep) s := by
    intro xs
    induction xs with
    | nil => intro s; rfl
    | cons x xs ih =>
      intro s
      rw [ChainReducer.reduce_all_loop1, List.foldlM_cons, gen_reduce_at_eq]
      refine bind_congr (fun s' => ?_)
      exact ih s'
  cases ChainReducer.is_done K st
  · simp only [Bool.false_eq_true, if_false]; exact key _ _
  · rfl

/-! ### reading single entries off (the three degrees distinct) -/

/-- the new matrix at `i` is the Schur complement -/
theorem step_mats_at (K : ROps M V T P S) (d : I) (mats m : HMap I M) (i : I) (p q : P) (r : Nat) (s : M)
    (hd : i + d ≠ i) (h : specMats K d mats i p q r s = ok m) : HMap.get m i = some s := by
  obtain ⟨m0, _, h⟩ := bind_eq_ok h
  rw [(next_ok K d _ m i p r h).1 i (fun e => hd e.symm)]
  exact get_insert_same _ _ _

/-- a degree other than `i−d`, `i`, `i+d` keeps its matrix -/
theorem step_mats_other (K : ROps M V T P S) (d : I) (mats m : HMap I M) (i j : I) (p q : P) (r : Nat) (s : M)
    (h0 : j ≠ i - d) (h1 : j ≠ i) (h2 : j ≠ i + d) (h : specMats K d mats i p q r s = ok m) :
    HMap.get m j = HMap.get mats j := by
  obtain ⟨m0, hm0, h⟩ := bind_eq_ok h
  rw [(next_ok K d _ m i p r h).1 j h2, get_insert_ne _ _ _ _ h1, (prev_ok K d mats m0 i q r hm0).1 j h0]

/-- the previous matrix (if set) must have `n` rows and loses the rows of the pivot block -/
theorem step_mats_prev (K : ROps M V T P S) (d : I) (mats m : HMap I M) (i : I) (p q : P) (r : Nat) (s a0 : M)
    (hd1 : i - d ≠ i) (hd2 : i - d ≠ i + d) (hg : HMap.get mats (i - d) = some a0)
    (h : specMats K d mats i p q r s = ok m) :
    K.nrows a0 = K.perm_dim q ∧ ∃ a0', specRows K a0 q r = ok a0' ∧ HMap.get m (i - d) = some a0' := by
  obtain ⟨m0, hm0, h⟩ := bind_eq_ok h
  obtain ⟨a0', ⟨hn, hr⟩, hget⟩ := (prev_ok K d mats m0 i q r hm0).2 a0 hg
  refine ⟨hn, a0', hr, ?_⟩
  rw [(next_ok K d _ m i p r h).1 _ hd2, get_insert_ne _ _ _ _ hd1]
  exact hget

/-- the next matrix (if set) must have `m` columns and loses the columns of the pivot block -/
theorem step_mats_next (K : ROps M V T P S) (d : I) (mats m : HMap I M) (i : I) (p q : P) (r : Nat) (s a2 : M)
    (hd1 : i + d ≠ i) (hd2 : i + d ≠ i - d) (hg : HMap.get mats (i + d) = some a2)
    (h : specMats K d mats i p q r s = ok m) :
    K.ncols a2 = K.perm_dim p ∧ ∃ a2', specCols K a2 p r = ok a2' ∧ HMap.get m (i + d) = some a2' := by
  obtain ⟨m0, hm0, h⟩ := bind_eq_ok h
  have e1 : HMap.get (HMap.insert m0 i s) (i + d) = some a2 := by
    rw [get_insert_ne _ _ _ _ hd1, (prev_ok K d mats m0 i q r hm0).1 _ hd2]; exact hg
  obtain ⟨a2', ⟨hn, hc⟩, hget⟩ := (next_ok K d _ m i p r h).2 a2 e1
  exact ⟨hn, a2', hc, hget⟩

set_option linter.unusedSectionVars false in
/-- no transform is tracked at `i` or `i+d`: `trans` is untouched -/
theorem step_trans_untracked (K : ROps M V T P S) (d : I) (tr : HMap I T) (i : I) (p q : P) (tsrc ttgt : T)
    (h1 : HMap.get tr i = none) (h2 : HMap.get tr (i + d) = none) : specTrans K d tr i p q tsrc ttgt = ok tr := by
  unfold specTrans specTransSrc specTransTgt
  rw [h1]
  simp only [bind_ok, h2]

set_option linter.unusedSectionVars false in
/-- a tracked transform at `i` is composed with the column permutation and `t_src` -/
theorem step_trans_src (K : ROps M V T P S) (d : I) (tr tr' : HMap I T) (i : I) (p q : P) (tsrc ttgt t1 : T)
    (hd : i + d ≠ i) (hg : HMap.get tr i = some t1) (h : specTrans K d tr i p q tsrc ttgt = ok tr') :
    ∃ t1', (K.trans_append_perm t1 q >>= fun t => K.trans_merge t tsrc) = ok t1' ∧ HMap.get tr' i = some t1' := by
  obtain ⟨t0, ht0, h⟩ := bind_eq_ok h
  obtain ⟨t1', he, hget⟩ := (src_ok K tr t0 i q tsrc ht0).2 t1 hg
  refine ⟨t1', he, ?_⟩
  rw [(tgt_ok K d t0 tr' i p ttgt h).1 i (fun e => hd e.symm)]
  exact hget

set_option linter.unusedSectionVars false in
/-- a tracked transform at `i+d` is composed with the row permutation and `t_tgt` -/
theorem step_trans_tgt (K : ROps M V T P S) (d : I) (tr tr' : HMap I T) (i : I) (p q : P) (tsrc ttgt t2 : T)
    (hd : i + d ≠ i) (hg : HMap.get tr (i + d) = some t2) (h : specTrans K d tr i p q tsrc ttgt = ok tr') :
    ∃ t2', (K.trans_append_perm t2 p >>= fun t => K.trans_merge t ttgt) = ok t2' ∧ HMap.get tr' (i + d) = some t2' := by
  obtain ⟨t0, ht0, h⟩ := bind_eq_ok h
  have e0 : HMap.get t0 (i + d) = some t2 := by rw [(src_ok K tr t0 i q tsrc ht0).1 _ hd]; exact hg
  exact (tgt_ok K d t0 tr' i p ttgt h).2 t2 e0

set_option linter.unusedSectionVars false in
/-- degrees other than `i`, `i+d` keep their transform -/
theorem step_trans_other (K : ROps M V T P S) (d : I) (tr tr' : HMap I T) (i j : I) (p q : P) (tsrc ttgt : T)
    (h1 : j ≠ i) (h2 : j ≠ i + d) (h : specTrans K d tr i p q tsrc ttgt = ok tr') : HMap.get tr' j = HMap.get tr j := by
  obtain ⟨t0, ht0, h⟩ := bind_eq_ok h
  rw [(tgt_ok K d t0 tr' i p ttgt h).1 j h2, (src_ok K tr t0 i q tsrc ht0).1 j h1]

example : (1 : Int) + 1 ≠ 1 ∧ (1 : Int) - 1 ≠ 1 ∧ (1 : Int) - 1 ≠ 1 + 1 := by decide

end Yuiv.C08GenR
