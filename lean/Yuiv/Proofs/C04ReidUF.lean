import Yuiv.Proofs.C04InvRen
import Yuiv.Proofs.C04InvPerm
/-
Relation-level lemmas for the Reidemeister moves: a map of labels that only identifies labels already connected induces a
bijection of classes, an untouched label is a class of its own, and the state sum of a diagram whose crossing list is a
permutation of `cs ++ lm` is a sum of partial sums over the resolutions of the new crossings `cs`.
-/
open Yuiv.KhRef Yuiv.C04
namespace Yuiv.C04Inv

theorem Conn.of_mem_symm {P : List (Nat × Nat)} {x y : Nat} (h : (y, x) ∈ P) : Conn P x y := (Conn.of_mem h).symm

theorem classCount_collapse (f : Nat → Nat) {L' L : Set Nat} {Q P : List (Nat × Nat)}
    (h1 : ∀ p ∈ Q, Conn P (f p.1) (f p.2))
    (h2 : ∀ p ∈ P, Conn Q p.1 p.2)
    (h3 : ∀ a ∈ L', Conn Q a (f a))
    (h4 : f '' L' = L) : classCount L' Q = classCount L P := by
  unfold classCount
  let F : Quotient (connSetoid Q) → Quotient (connSetoid P) :=
    Quotient.map f (fun a b hab => Conn.lift f h1 hab)
  have e : Quotient.mk (connSetoid P) '' L = F '' (Quotient.mk (connSetoid Q) '' L') := by
    rw [← h4, Set.image_image, Set.image_image]
    rfl
  rw [e]
  symm
  apply Set.InjOn.ncard_image
  rintro _ ⟨a, ha, rfl⟩ _ ⟨b, hb, rfl⟩ hab
  have c : Conn P (f a) (f b) := Quotient.exact hab
  apply Quotient.sound
  exact (h3 a ha).trans ((Conn.lift id h2 c).trans (h3 b hb).symm)

theorem classCount_collapse_append (g : Nat → Nat) {L' L : Set Nat} {A B S : List (Nat × Nat)}
    (hS : ∀ p ∈ S, g p.1 = p.1 ∧ g p.2 = p.2)
    (hA : ∀ p ∈ A, Conn B (g p.1) (g p.2))
    (hB : ∀ p ∈ B, Conn A p.1 p.2)
    (h3 : ∀ v ∈ L', Conn A v (g v))
    (h4 : g '' L' = L) : classCount L' (A ++ S) = classCount L (B ++ S) := by
  have mA : ∀ {u v}, Conn A u v → Conn (A ++ S) u v := fun c => Conn.mono (fun p hp => List.mem_append_left _ hp) c
  have mB : ∀ {u v}, Conn B u v → Conn (B ++ S) u v := fun c => Conn.mono (fun p hp => List.mem_append_left _ hp) c
  refine classCount_collapse g ?_ ?_ (fun v hv => mA (h3 v hv)) h4
  · intro p hp
    rcases List.mem_append.mp hp with hp | hp
    · exact mB (hA p hp)
    · rw [(hS p hp).1, (hS p hp).2]; exact Conn.of_mem (List.mem_append_right _ hp)
  · intro p hp
    rcases List.mem_append.mp hp with hp | hp
    · exact mA (hB p hp)
    · exact Conn.of_mem (List.mem_append_right _ hp)

theorem classCount_insert_isolated {L : Set Nat} (hfin : L.Finite) {P : List (Nat × Nat)} {y : Nat} (hy : y ∉ L)
    (hP : ∀ p ∈ P, (p.1 = y ↔ p.2 = y)) : classCount (insert y L) P = classCount L P + 1 := by
  unfold classCount
  rw [Set.image_insert_eq, Set.ncard_insert_of_notMem _ (hfin.image _)]
  rintro ⟨a, ha, e⟩
  have c : Conn P a y := Quotient.exact e
  have key : a = y ↔ y = y :=
    conn_lift (R := fun u v => u = y ↔ v = y) (fun _ => Iff.rfl) Iff.symm Iff.trans hP c
  exact hy ((key.mpr rfl) ▸ ha)

theorem labelSet_finite (l : Link) : (labelSet l).Finite := by
  have : labelSet l = {x | x ∈ (edgeLabels l).toList} := by
    ext x; simp [labelSet, mem_edgeLabels]
  rw [this]; exact List.finite_toSet _

theorem labelSet_perm_append {l' lm : Link} (cs : List Crossing) (hp : l'.toList.Perm (cs ++ lm.toList)) :
    labelSet l' = {v | ∃ c ∈ cs, v ∈ c.e} ∪ labelSet lm := by
  ext v
  simp only [labelSet, Set.mem_ofPred_eq, Set.mem_union]
  constructor
  · rintro ⟨d, hd, hv⟩
    rcases List.mem_append.mp (hp.mem_iff.mp (by simpa using hd)) with h | h
    · exact Or.inl ⟨d, h, hv⟩
    · exact Or.inr ⟨d, by simpa using h, hv⟩
  · rintro (⟨d, hd, hv⟩ | ⟨d, hd, hv⟩)
    · exact ⟨d, by simpa using hp.mem_iff.mpr (List.mem_append_left _ hd), hv⟩
    · exact ⟨d, by simpa using hp.mem_iff.mpr (List.mem_append_right _ (by simpa using hd)), hv⟩

theorem WF_of_perm_append {l' lm : Link} (cs : List Crossing) (hp : l'.toList.Perm (cs ++ lm.toList))
    (hcs : ∀ c ∈ cs, c.e.size = 4) (hwf : WF lm) : WF l' := by
  intro d hd
  rcases List.mem_append.mp (hp.mem_iff.mp (by simpa using hd)) with h | h
  · exact hcs d h
  · exact hwf d (by simpa using h)

theorem statePairs_ne {lm : Link} (hwf : WF lm) {c : Nat} (hc : c ∉ labelSet lm) (s : Nat) :
    ∀ p ∈ statePairs lm s, p.1 ≠ c ∧ p.2 ≠ c := by
  intro p hp
  obtain ⟨m1, m2⟩ := statePairs_sub lm hwf s p hp
  exact ⟨fun h => hc (h ▸ m1), fun h => hc (h ▸ m2)⟩

theorem classCount_collapse_renumber (f : Nat → Nat) (M : Set Nat) (A : List (Nat × Nat)) (lm : Link) (hwf : WF lm)
    (hA : ∀ p ∈ A, f p.1 = f p.2) (h3 : ∀ z ∈ M ∪ labelSet lm, Conn A z (f z))
    (hM : ∀ z ∈ M, f z ∈ f '' labelSet lm) (s : Nat) :
    classCount (M ∪ labelSet lm) (A ++ statePairs lm s)
      = classCount (labelSet (renumber f lm)) (statePairs (renumber f lm) s) := by
  rw [statePairs_renumber f lm hwf, labelSet_renumber]
  have mA : ∀ {a b}, Conn A a b → Conn (A ++ statePairs lm s) a b :=
    fun c => Conn.mono (fun p hp => List.mem_append_left _ hp) c
  refine classCount_collapse f ?_ ?_ (fun z hz => mA (h3 z hz)) ?_
  · intro p hp
    rcases List.mem_append.mp hp with hp | hp
    · rw [hA p hp]; exact Conn.refl _
    · exact Conn.of_mem (List.mem_map.mpr ⟨p, hp, rfl⟩)
  · intro p hp
    obtain ⟨p', hp', rfl⟩ := List.mem_map.mp hp
    obtain ⟨m1, m2⟩ := statePairs_sub lm hwf s p' hp'
    exact (mA (h3 _ (Or.inr m1))).symm.trans
      ((Conn.of_mem (List.mem_append_right _ hp')).trans (mA (h3 _ (Or.inr m2))))
  · ext z; constructor
    · rintro ⟨a, ha | ha, rfl⟩
      · exact hM a ha
      · exact ⟨a, ha, rfl⟩
    · rintro ⟨a, ha, rfl⟩; exact ⟨a, Or.inr ha, rfl⟩

variable {R : Type} [CommRing R]

theorem skein_cons_unres (L : Set Nat) (x y : R) (c : Crossing) (cs : List Crossing) (w : Nat) (P : List (Nat × Nat))
    (hc : c.ct.isResolved = false) :
    skein L x y (c :: cs) w P =
      skein L x y cs w (P ++ arcs c (c.ct.resolve false)) + skein L x y cs (w + 1) (P ++ arcs c (c.ct.resolve true)) := by
  simp [skein_cons, hc]

theorem stateSum_renumber (x y : R) {f : Nat → Nat} (l : Link) (hf : Set.InjOn f (labelSet l)) (hwf : WF l) :
    stateSum x y (renumber f l) = stateSum x y l := by
  unfold stateSum
  rw [crossingNum_renumber, funext (circleCount_renumber_on l hf hwf)]

/-- the sum over the states of `lm` with extra weight `w` and extra arcs `A` -/
noncomputable def partSum (L : Set Nat) (x y : R) (lm : Link) (w : Nat) (A : List (Nat × Nat)) : R :=
  ∑ s ∈ Finset.range (2 ^ crossingNum lm), x ^ (w + popcount s (crossingNum lm)) * y ^ classCount L (A ++ statePairs lm s)

theorem partSum_eq_skein (L : Set Nat) (x y : R) (lm : Link) (w : Nat) (A : List (Nat × Nat)) :
    partSum L x y lm w A = skein L x y lm.toList w A := by
  unfold partSum statePairs
  rw [crossingNum_eq, stateSum_eq_skein]

theorem stateSum_perm_skein (x y : R) {l' : Link} {cs : List Crossing} (hwf : WF l') (hp : l'.toList.Perm cs) :
    stateSum x y l' = skein (labelSet l') x y cs 0 [] := by
  rw [stateSum_link x y l' hwf, skein_perm _ x y hp 0 []]

theorem stateSum_partSum (x y : R) (l : Link) (hwf : WF l) : stateSum x y l = partSum (labelSet l) x y l 0 [] := by
  rw [stateSum_link x y l hwf, partSum_eq_skein]

theorem partSum_shift (L L₀ : Set Nat) (x y : R) (lm l₀ : Link) (w k : Nat) (A B : List (Nat × Nat))
    (hn : crossingNum l₀ = crossingNum lm)
    (h : ∀ s, classCount L (A ++ statePairs lm s) = classCount L₀ (B ++ statePairs l₀ s) + k) :
    partSum L x y lm w A = x ^ w * y ^ k * partSum L₀ x y l₀ 0 B := by
  unfold partSum
  rw [Finset.mul_sum, hn]
  apply Finset.sum_congr rfl
  intro s _
  rw [h s]
  ring

theorem partSum_collapse (x y : R) (f : Nat → Nat) (E : Set Nat) (B : List (Nat × Nat)) (lm : Link) (hwf : WF lm)
    (hB : ∀ p ∈ B, f p.1 = f p.2) (h3 : ∀ z ∈ E ∪ labelSet lm, Conn B z (f z)) (hM : ∀ z ∈ E, f z ∈ f '' labelSet lm) :
    partSum (E ∪ labelSet lm) x y lm 0 B = stateSum x y (renumber f lm) := by
  rw [stateSum_partSum x y _ (WF_renumber hwf),
    partSum_shift _ _ x y lm _ 0 0 B [] (crossingNum_renumber _ lm) (classCount_collapse_renumber f E B lm hwf hB h3 hM)]
  simp

end Yuiv.C04Inv
