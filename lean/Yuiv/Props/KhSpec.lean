import Yuiv.Proofs.KhSpecSort
import Yuiv.Proofs.KhSpecRed
import Yuiv.Proofs.C01SqEx
/-
KhSpec — THE END-TO-END SPECIFICATION OF `KhRef.khHomology`, on top of `Props/C01Sq` (`d ∘ d = 0`), `Props/KhSnf` (Smith
invariants) and `Proofs/C03Uct` (cells, `Homology`).

SETTING.  A diagram `l` with `validK l` (decidable), at most 64 edge labels, Frobenius parameters `p` of the UNREDUCED
theory, `cubeOK (mkCube l p)` (decidable: every edge a merge or a split).  No other per-instance condition: the
well-formedness of the sparse rows (`khInstanceOk`) is a THEOREM, because `Array.qsort` is proved to sort
(`qsort_sorts`) and hence `normalizeRow` to return strictly sorted zero-free rows (`normalizeRow_wellformed`).
`signs` is any array (the reference's `crossingSigns l` in the drivers); it enters only through the shifts
`h0Of signs = −n₋`, `q0Of signs p = n₊ − 2n₋`.

STATEMENT.  With `c = mkCube l p`, `G = gensByWeight c` (generators by weight of the state), `dT = dTab c p G` (the
differential table as a function), `dMat c p G i` (the matrix of `Cube.d` from weight `i` to weight `i+1`, entries
`dCoef`), `diagAt c p G i` (`1,…,1,d₁,…,d_k` read off `smithInvariants`):
  * `khHomology l signs p k false = .ok ⟨cells⟩` — never `malformed`, never `notComplex` —, the cells being the non-zero
    groups `(−n₋ + i, none, H_i)` of `homologyOf k G dT`, `i = 0..n`;
  * `diagAt c p G i` IS a unimodular diagonal form of `dMat c p G i` (`EquivDiag`), `dMat i · dMat (i+1) = 0`;
  * over ℤ, `H_i = cellOf |G_i| (diagonal of the incoming differential) (diagonal of the outgoing one)`: rank
    `|G_i| − rk − rk`, torsion = invariant factors `> 1` of the incoming differential; over ℚ / `𝔽_q` the rank is
    `|G_i| − nz − nz` / `|G_i| − ndiv q − ndiv q`, which IS `dim ker/im` of the complex tensored with the field
    (`khHomology_ranks_are_homology`).
  * `bigraded = true`, `h = t = 0`: `Cube.d` preserves the quantum degree (`cube_d_preserves_qdeg`), and the same holds
    for every slice `G_q = gensQ c (q0Of signs p) G q`; the cells are `(−n₋ + i, some q, H_{i,q})`, `q` running
    through the quantum degrees `qDeg (n₊ − 2n₋) g` of the generators, each once (in the order of `qsOf`).
REDUCED theory, `t = 0`, unbigraded (`khHomology_spec_reduced`): the same statements for the family `gensByWeight
(mkCube l p)` of the generators with base circle labelled X inside the unreduced cube `cube0 l p`.
NOT covered here: the reduced bigraded computation and the order in which the cells are listed (both in
`Props/KhSpec2`), and the reduced theory with `t ≠ 0` (not a complex, see `Props/C01Sq`).  Nothing of `KhRef.khHomology` for the unreduced theory
remains trusted.
-/
namespace Yuiv.KhSpec
open Yuiv Yuiv.KhRef Matrix Yuiv.KhSnf Yuiv.C03Uct Yuiv.C03 Module
open Yuiv.C02Mirror (cubeOK)

/- `dMat … i * dMat … (i + 1)` makes the elaborator compare the sizes `(G[i]!).size` and `(G[i + 1]!).size`; with
`gensByWeight` unfoldable it evaluates the generator table as far as it can before giving up. -/
attribute [local irreducible] gensByWeight

/-- core Lean's `Array.qsort` sorts (for comparisons by a natural-number key) -/
theorem qsort_sorts {α : Type} (key : α → Nat) (as : Array α) :
    ((as.qsort (fun a b => decide (key a < key b))).toList).Pairwise (fun a b => key a ≤ key b) :=
  qsort_sorted_key key as

/-- `normalizeRow` returns a well-formed sparse row with the same values -/
theorem normalizeRow_wellformed (n : Nat) (r : Array (Nat × Int)) (h : ∀ x ∈ r.toList, x.1 < n) :
    RowOK n (normalizeRow r) ∧
    ∀ c, rval (normalizeRow r) c = ((r.toList.filter (fun x => x.1 == c)).map (fun x => x.2)).sum :=
  ⟨normalizeRow_rowOK n r h, rval_normalizeRow r⟩

/-- the generators listed at weight `w`: the states of weight `w` with all labellings of their circles, each once -/
theorem generators_by_weight (c : Cube) (hb : c.base = none) (w : Nat) (g : Gen) :
    (g ∈ ((gensByWeight c)[w]!).toList ↔
      w ≤ c.n ∧ g.s < 2 ^ c.n ∧ popcount g.s c.n = w ∧ g.mask < 2 ^ (c.circ[g.s]!).size) ∧
    ((gensByWeight c)[w]!).toList.Nodup ∧ (gensByWeight c).size = c.n + 1 := by
  refine ⟨?_, gensByWeight_nodup c w, gensByWeight_size c⟩
  rw [mem_gensByWeight]
  constructor
  · rintro ⟨h1, h2, h3, h4⟩
    exact ⟨h1, h2, h3, ((mem_gensAt_unreduced c hb g.s g).1 h4).2⟩
  · rintro ⟨h1, h2, h3, h4⟩
    exact ⟨h1, h2, h3, (mem_gensAt_unreduced c hb g.s g).2 ⟨rfl, h4⟩⟩

/-- `Cube.d` maps generators of weight `w` to combinations of generators of weight `w + 1` -/
theorem cube_d_raises_weight (l : Link) (hv : C06Cycle.validK l = true) (hL : (edgeLabels l).size ≤ 64) (p : Params)
    (hr : p.reduced = false) (hok : cubeOK (mkCube l p)) (w : Nat) (g : Gen)
    (hg : g ∈ ((gensByWeight (mkCube l p))[w]!).toList) :
    ∃ ts, (mkCube l p).d p g = some ts ∧ ∀ t ∈ ts.toList, t.1 ∈ ((gensByWeight (mkCube l p))[w + 1]!).toList := by
  have H := ctx_mkCube l hv hL p hr hok
  obtain ⟨ts, hd⟩ := d_defined H (gen_props H hg).2.1
  exact ⟨ts, hd, d_targets_mem _ p H.hb H.hP w g hg ts hd⟩

/-- for `h = t = 0`, `Cube.d` preserves the quantum degree -/
theorem cube_d_preserves_qdeg (l : Link) (hv : C06Cycle.validK l = true) (hL : (edgeLabels l).size ≤ 64) (p : Params)
    (hr : p.reduced = false) (hh : p.h = 0) (ht : p.t = 0) (hok : cubeOK (mkCube l p)) (w : Nat) (g : Gen)
    (hg : g ∈ ((gensByWeight (mkCube l p))[w]!).toList) (ts : Array Term) (hd : (mkCube l p).d p g = some ts)
    (q0 : Int) : ∀ t ∈ ts.toList, (mkCube l p).qDeg q0 t.1 = (mkCube l p).qDeg q0 g := by
  have H := ctx_mkCube l hv hL p hr hok
  exact qDeg_preserved _ p hh ht H.hP g (gen_props H hg).2.1 ts hd q0

/-- the per-instance condition on the sparse rows holds for every instance -/
theorem khInstanceOk_holds (l : Link) (hv : C06Cycle.validK l = true) (hL : (edgeLabels l).size ≤ 64) (p : Params)
    (hr : p.reduced = false) (hok : cubeOK (mkCube l p)) :
    RowsOK (gensByWeight (mkCube l p)) (dTab (mkCube l p) p (gensByWeight (mkCube l p))) :=
  (fam_all (ctx_mkCube l hv hL p hr hok)).rowsOK

/-- END TO END, `bigraded = false`, any `(h, t)`, any coefficients `k` -/
theorem khHomology_spec (l : Link) (hv : C06Cycle.validK l = true) (hL : (edgeLabels l).size ≤ 64) (p : Params)
    (hr : p.reduced = false) (hok : cubeOK (mkCube l p)) (signs : Array Int) :
    (∀ k, khHomology l signs p k false =
      .ok ⟨(cellsUn (h0Of signs) none
        (homologyOf k (gensByWeight (mkCube l p)) (dTab (mkCube l p) p (gensByWeight (mkCube l p))))).toArray⟩ ∧
      (homologyOf k (gensByWeight (mkCube l p)) (dTab (mkCube l p) p (gensByWeight (mkCube l p)))).size =
        crossingNum l + 1) ∧
    (∀ i, i < crossingNum l → EquivDiag (dMat (mkCube l p) p (gensByWeight (mkCube l p)) i)
      (diagAt (mkCube l p) p (gensByWeight (mkCube l p)) i)) ∧
    (∀ i, crossingNum l ≤ i → diagAt (mkCube l p) p (gensByWeight (mkCube l p)) i = []) ∧
    (∀ i, dMat (mkCube l p) p (gensByWeight (mkCube l p)) i * dMat (mkCube l p) p (gensByWeight (mkCube l p)) (i + 1) = 0) ∧
    ∀ i, i ≤ crossingNum l →
      let G := gensByWeight (mkCube l p)
      let dT := dTab (mkCube l p) p G
      let dIn := diagIn (mkCube l p) p G i
      let dOut := diagAt (mkCube l p) p G i
      ((homologyOf .Z G dT)[i]!).rank = (cellOf (G[i]!).size dIn dOut).rank ∧
      ((homologyOf .Z G dT)[i]!).tors.toList = (cellOf (G[i]!).size dIn dOut).tors ∧
      ((homologyOf .Q G dT)[i]!).rank = (G[i]!).size - nz dIn - nz dOut ∧ ((homologyOf .Q G dT)[i]!).tors = #[] ∧
      ∀ q, 2 ≤ q → ((homologyOf (.Fp q) G dT)[i]!).rank = (G[i]!).size - ndiv (q : ℤ) dIn - ndiv (q : ℤ) dOut ∧
        ((homologyOf (.Fp q) G dT)[i]!).tors = #[] := by
  have H := ctx_mkCube l hv hL p hr hok
  have F := fam_all H
  refine ⟨fun k => ⟨khHomology_ok H signs k, ?_⟩, fun i hi => diagAt_equivDiag H F i hi,
    fun i hi => diagAt_nil F i hi, fun i => dMat_mul H F i, fun i hi => groups_spec F i hi⟩
  rw [homologyOf_size, gensByWeight_size]; rfl

/-- the reported ranks over ℚ and `𝔽_q` ARE the dimensions of `ker/im`: position `j + 1` is the homology of
`ℤ^{G_j} --(dMat j)ᵀ--> ℤ^{G_{j+1}} --(dMat (j+1))ᵀ--> ℤ^{G_{j+2}}`, position `0` of `0 --> ℤ^{G_0} --(dMat 0)ᵀ--> ℤ^{G_1}`
(matrices acting on column vectors; over ℤ the group is the cell `cellOf` of `khHomology_spec`) -/
theorem khHomology_ranks_are_homology (l : Link) (hv : C06Cycle.validK l = true) (hL : (edgeLabels l).size ≤ 64)
    (p : Params) (hr : p.reduced = false) (hok : cubeOK (mkCube l p)) :
    let c := mkCube l p
    let G := gensByWeight c
    let dT := dTab c p G
    (∀ j, j < crossingNum l →
      ((homologyOf .Q G dT)[j + 1]!).rank =
        finrank ℚ (Homology (toRat (dMat c p G j)ᵀ) (toRat (dMat c p G (j + 1))ᵀ)) ∧
      ∀ (q : ℕ) [Fact q.Prime], ((homologyOf (.Fp q) G dT)[j + 1]!).rank =
        finrank (ZMod q) (Homology (redMod q (dMat c p G j)ᵀ) (redMod q (dMat c p G (j + 1))ᵀ))) ∧
    (((homologyOf .Q G dT)[0]!).rank =
        finrank ℚ (Homology (toRat (0 : Matrix (Fin (G[0]!).size) (Fin 0) ℤ)) (toRat (dMat c p G 0)ᵀ)) ∧
      ∀ (q : ℕ) [Fact q.Prime], ((homologyOf (.Fp q) G dT)[0]!).rank =
        finrank (ZMod q) (Homology (redMod q (0 : Matrix (Fin (G[0]!).size) (Fin 0) ℤ)) (redMod q (dMat c p G 0)ᵀ))) := by
  have H := ctx_mkCube l hv hL p hr hok
  have F := fam_all H
  exact ⟨fun j hj => rank_is_homology H F j hj, rank_is_homology_zero H F⟩

/-- END TO END, `bigraded = true`, `h = t = 0`: the cells are, for every quantum degree `q` of a generator (each once, in the
order of `qsOf`), the non-zero groups of the slice `G_q`; and for EVERY `q` the slice satisfies the statements of
`khHomology_spec` -/
theorem khHomology_spec_bigraded (l : Link) (hv : C06Cycle.validK l = true) (hL : (edgeLabels l).size ≤ 64)
    (p : Params) (hr : p.reduced = false) (hh : p.h = 0) (ht : p.t = 0) (hok : cubeOK (mkCube l p))
    (signs : Array Int) :
    (∀ k, khHomology l signs p k true =
      .ok ⟨((qsOf (mkCube l p) (q0Of signs p) (gensByWeight (mkCube l p))).toList.flatMap (fun q =>
        cellsUn (h0Of signs) (some q)
          (homologyOf k (gensQ (mkCube l p) (q0Of signs p) (gensByWeight (mkCube l p)) q)
            (dTab (mkCube l p) p (gensByWeight (mkCube l p)))))).toArray⟩) ∧
    (qsOf (mkCube l p) (q0Of signs p) (gensByWeight (mkCube l p))).toList.Nodup ∧
    (∀ q, q ∈ (qsOf (mkCube l p) (q0Of signs p) (gensByWeight (mkCube l p))).toList ↔
      ∃ gs ∈ (gensByWeight (mkCube l p)).toList, ∃ g ∈ gs.toList, (mkCube l p).qDeg (q0Of signs p) g = q) ∧
    ∀ q : Int,
      let c := mkCube l p
      let G := gensQ c (q0Of signs p) (gensByWeight c) q
      let dT := dTab c p (gensByWeight c)
      (∀ (i : Nat) (g : Gen), g ∈ (G[i]!).toList ↔ g ∈ ((gensByWeight c)[i]!).toList ∧ c.qDeg (q0Of signs p) g = q) ∧
      (∀ i, i < crossingNum l → EquivDiag (dMat c p G i) (diagAt c p G i)) ∧
      (∀ i, crossingNum l ≤ i → diagAt c p G i = []) ∧
      (∀ i, dMat c p G i * dMat c p G (i + 1) = 0) ∧
      (∀ i, i ≤ crossingNum l →
        ((homologyOf .Z G dT)[i]!).rank = (cellOf (G[i]!).size (diagIn c p G i) (diagAt c p G i)).rank ∧
        ((homologyOf .Z G dT)[i]!).tors.toList = (cellOf (G[i]!).size (diagIn c p G i) (diagAt c p G i)).tors ∧
        ((homologyOf .Q G dT)[i]!).rank = (G[i]!).size - nz (diagIn c p G i) - nz (diagAt c p G i) ∧
        ((homologyOf .Q G dT)[i]!).tors = #[] ∧
        ∀ q', 2 ≤ q' → ((homologyOf (.Fp q') G dT)[i]!).rank =
            (G[i]!).size - ndiv (q' : ℤ) (diagIn c p G i) - ndiv (q' : ℤ) (diagAt c p G i) ∧
          ((homologyOf (.Fp q') G dT)[i]!).tors = #[]) ∧
      (∀ j, j < crossingNum l →
        ((homologyOf .Q G dT)[j + 1]!).rank =
          finrank ℚ (Homology (toRat (dMat c p G j)ᵀ) (toRat (dMat c p G (j + 1))ᵀ)) ∧
        ∀ (q' : ℕ) [Fact q'.Prime], ((homologyOf (.Fp q') G dT)[j + 1]!).rank =
          finrank (ZMod q') (Homology (redMod q' (dMat c p G j)ᵀ) (redMod q' (dMat c p G (j + 1))ᵀ))) := by
  have H := ctx_mkCube l hv hL p hr hok
  refine ⟨fun k => khHomology_ok_bigraded H hh ht signs k, qsOf_nodup _ _ _, fun q => mem_qsOf _ _ _ q, ?_⟩
  · intro q
    have F := fam_gensQ H hh ht (q0Of signs p) q
    exact ⟨fun i g => mem_gensQ _ _ q i g, fun i hi => diagAt_equivDiag H F i hi, fun i hi => diagAt_nil F i hi,
      fun i => dMat_mul H F i, fun i hi => groups_spec F i hi, fun j hj => rank_is_homology H F j hj⟩

/-- END TO END for the reduced theory with `t = 0` (`bigraded = false`): the computation succeeds; the generators of the
reduced cube are a family `G` of the unreduced cube `cube0 l p` closed under its `Cube.d`, and `khHomology` reports the
cells of that sub-complex: diagonal forms, `d ∘ d = 0`, `cellOf`, and `dim ker/im` over ℚ and `𝔽_q` exactly as in the
unreduced case (any `p.reduced`; for `p.reduced = false` this is `khHomology_spec`) -/
theorem khHomology_spec_reduced (l : Link) (hv : C06Cycle.validK l = true) (hL : (edgeLabels l).size ≤ 64) (p : Params)
    (ht : p.t = 0) (hok : cubeOK (mkCube l p)) (signs : Array Int) :
    let c0 := cube0 l p
    let G := gensByWeight (mkCube l p)
    let dT := dTab c0 p (gensByWeight c0)
    (∀ k, khHomology l signs p k false = .ok ⟨(cellsUn (h0Of signs) none (homologyOf k G dT)).toArray⟩) ∧
    (∀ (i : Nat) (g : Gen), g ∈ (G[i]!).toList → g ∈ ((gensByWeight c0)[i]!).toList) ∧
    (∀ i, i < crossingNum l → EquivDiag (dMat c0 p G i) (diagAt c0 p G i)) ∧
    (∀ i, crossingNum l ≤ i → diagAt c0 p G i = []) ∧
    (∀ i, dMat c0 p G i * dMat c0 p G (i + 1) = 0) ∧
    (∀ i, i ≤ crossingNum l →
      ((homologyOf .Z G dT)[i]!).rank = (cellOf (G[i]!).size (diagIn c0 p G i) (diagAt c0 p G i)).rank ∧
      ((homologyOf .Z G dT)[i]!).tors.toList = (cellOf (G[i]!).size (diagIn c0 p G i) (diagAt c0 p G i)).tors ∧
      ((homologyOf .Q G dT)[i]!).rank = (G[i]!).size - nz (diagIn c0 p G i) - nz (diagAt c0 p G i) ∧
      ((homologyOf .Q G dT)[i]!).tors = #[] ∧
      ∀ q, 2 ≤ q → ((homologyOf (.Fp q) G dT)[i]!).rank =
          (G[i]!).size - ndiv (q : ℤ) (diagIn c0 p G i) - ndiv (q : ℤ) (diagAt c0 p G i) ∧
        ((homologyOf (.Fp q) G dT)[i]!).tors = #[]) ∧
    (∀ j, j < crossingNum l →
      ((homologyOf .Q G dT)[j + 1]!).rank =
        finrank ℚ (Homology (toRat (dMat c0 p G j)ᵀ) (toRat (dMat c0 p G (j + 1))ᵀ)) ∧
      ∀ (q : ℕ) [Fact q.Prime], ((homologyOf (.Fp q) G dT)[j + 1]!).rank =
        finrank (ZMod q) (Homology (redMod q (dMat c0 p G j)ᵀ) (redMod q (dMat c0 p G (j + 1))ᵀ))) := by
  have H := ctx_cube0 l hv hL p hok
  have F := fam_reduced l hv hL p ht hok
  exact ⟨fun k => khHomology_ok_reduced l hv hL p ht hok signs k, F.sub, fun i hi => diagAt_equivDiag H F i hi,
    fun i hi => diagAt_nil F i hi, fun i => dMat_mul H F i, fun i hi => groups_spec F i hi,
    fun j hj => rank_is_homology H F j hj⟩

open Yuiv.C02Mirror.Ex Yuiv.C01Sq.Ex Yuiv.C04Inv in
/-- the hypotheses hold for the trefoil and the Hopf link; their cubes have `8, 12, 6, 4` resp. `4, 4, 4` generators
in the weights `0, 1, …` -/
example : (C06Cycle.validK trefoil = true ∧ (edgeLabels trefoil).size ≤ 64 ∧ cubeOK (mkCube trefoil p0)) ∧
    (C06Cycle.validK hopf = true ∧ (edgeLabels hopf).size ≤ 64 ∧ cubeOK (mkCube hopf p0)) ∧
    (gensByWeight (mkCube trefoil p0)).map (·.size) = #[8, 12, 6, 4] ∧
    (gensByWeight (mkCube hopf p0)).map (·.size) = #[4, 4, 4] := by
  refine ⟨⟨valid_examples.1, trefoil_labels, trefoil_ok⟩, ⟨valid_examples.2.1, hopf_labels, hopf_ok⟩, ?_, ?_⟩
  · rw [mkCube_trefoil]; decide +kernel
  · rw [mkCube_hopf]; decide +kernel

open Yuiv.C02Mirror.Ex Yuiv.C01Sq.Ex Yuiv.C04Inv in
/-- the instance of `khHomology_spec` at the left-handed trefoil (signs `− − −`, so the shift is `h0 = −3`), ℤ
coefficients: the computation succeeds and returns the non-zero groups of `homologyOf`, four positions -/
example : khHomology trefoil #[-1, -1, -1] p0 .Z false =
      .ok ⟨(cellsUn (-3) none
        (homologyOf .Z (gensByWeight (mkCube trefoil p0)) (dTab (mkCube trefoil p0) p0 (gensByWeight (mkCube trefoil p0))))).toArray⟩ ∧
    (homologyOf .Z (gensByWeight (mkCube trefoil p0)) (dTab (mkCube trefoil p0) p0 (gensByWeight (mkCube trefoil p0)))).size = 4 := by
  have h := (khHomology_spec trefoil valid_examples.1 trefoil_labels p0 rfl trefoil_ok #[-1, -1, -1]).1 .Z
  have e : crossingNum trefoil + 1 = 4 := by decide
  rw [e] at h
  exact h

open Yuiv.C02Mirror.Ex Yuiv.C01Sq.Ex Yuiv.C04Inv in
/-- the bigraded instance at the Hopf link (`h = t = 0`, signs `− −`): success, cells slice by slice -/
example : ∃ res, khHomology hopf #[-1, -1] p0 (.Fp 2) true = .ok res :=
  ⟨_, (khHomology_spec_bigraded hopf valid_examples.2.1 hopf_labels p0 rfl rfl rfl hopf_ok #[-1, -1]).1 (.Fp 2)⟩

end Yuiv.KhSpec
