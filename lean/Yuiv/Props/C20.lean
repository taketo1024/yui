import Yuiv.Proofs.C20
/-
C20 — the `ykh` command reports the library's result for every option combination.

The theorems are about the decision logic of the command line as modelled in
`Yuiv/Model/C20.lean` (dispatch tables of `dispatch.rs`, `poly_vars`, `parse_pair`, the pre-checks and the
bigraded switch of `kh.rs`/`ckh.rs`, the panic guard and the exit status of `main.rs`) and about the text of a
table cell (`rmod_str`).  The finite tables are checked exhaustively (`decide`/case analysis); everything that
involves the `-c` text holds for *all* strings.

What is not a theorem here: that the table content equals the library's result — that is compared on the real
binary by the harness (cells parsed back and compared with the library called in-process).
-/
namespace Yuiv.C20
open Yuiv

/-- Every `(command, features, -t, variables)` is mapped to exactly one of: a ring whose base type is the
requested `-t` and whose variables are exactly the ones detected in `-c`; a "build with `--features`" error;
or "not supported". In particular the ring never silently differs from the request. -/
theorem dispatch_total (c : Cmd) (f : Feat) (ct : CType) (v : PolyVars) :
    dispatch c f ct v = none ∨ dispatch c f ct v = some .needQint ∨ dispatch c f ct v = some .needPoly ∨
    ∃ r, dispatch c f ct v = some (.run r) ∧ r.base = ct ∧ r.vars = v := by
  rcases hd : dispatch c f ct v with _ | (r | _ | _)
  · exact .inl rfl
  · exact .inr (.inr (.inr ⟨r, rfl, dispatch_run c f ct v r hd⟩))
  · exact .inr (.inl rfl)
  · exact .inr (.inr (.inl rfl))

/-- The two polynomial tables never both have an entry, so the order of `try_euc_poly!(..).or_else(try_noneuc_poly!(..))`
does not matter: the ring is determined by the pair, not by the cascade. -/
theorem poly_tables_disjoint (ct : CType) (v : PolyVars) :
    eucPolyTable ct v = none ∨ nonEucPolyTable ct v = none := by
  cases ct <;> cases v <;> decide

/-- With the default features (`poly` on) the supported set of `kh` is exactly: the standard types
(ℤ[i], ℤ[ω] only with `qint`) without variables, and one variable `H` or `T` over a field. -/
theorem kh_supported_iff (q : Bool) (ct : CType) (v : PolyVars) :
    (∃ r, dispatch .kh ⟨true, q⟩ ct v = some (.run r)) ↔
      (v = .none ∧ (ct = .Z ∨ isField ct = true ∨ q = true)) ∨ ((v = .H ∨ v = .T) ∧ isField ct = true) := by
  rw [← isRun_iff]
  exact of_decide_eq_true (table_sweep (fun f ct v => decide (isRun (dispatch .kh ⟨true, f.qint⟩ ct v) = true ↔
    (v = .none ∧ (ct = .Z ∨ isField ct = true ∨ f.qint = true)) ∨ ((v = .H ∨ v = .T) ∧ isField ct = true)))
    (by decide) ⟨true, q⟩ ct v)

/-- With `poly` on, `ckh` supports in addition exactly `ℤ[H]`, `ℤ[T]` and `R[H,T]` for `R ∈ {ℤ, ℚ, 𝔽₂, 𝔽₃}`. -/
theorem ckh_supported_iff (q : Bool) (ct : CType) (v : PolyVars) :
    (∃ r, dispatch .ckh ⟨true, q⟩ ct v = some (.run r)) ↔
      (v = .none ∧ (ct = .Z ∨ isField ct = true ∨ q = true)) ∨ (v ≠ .none ∧ (ct = .Z ∨ isField ct = true)) := by
  rw [← isRun_iff]
  exact of_decide_eq_true (table_sweep (fun f ct v => decide (isRun (dispatch .ckh ⟨true, f.qint⟩ ct v) = true ↔
    (v = .none ∧ (ct = .Z ∨ isField ct = true ∨ f.qint = true)) ∨ (v ≠ .none ∧ (ct = .Z ∨ isField ct = true))))
    (by decide) ⟨true, q⟩ ct v)

/-- `kh` (homology, needs a Euclidean ring) never selects a non-Euclidean ring: no `ℤ[H]`, no two-variable ring. -/
theorem kh_ring_euclidean (f : Feat) (ct : CType) (v : PolyVars) (r : Ring)
    (h : dispatch .kh f ct v = some (.run r)) : r.isEuclidean = true :=
  (runAll_iff _ _).mp
    (table_sweep (fun f ct v => runAll Ring.isEuclidean (dispatch .kh f ct v)) (by decide) f ct v) r h

example : dispatch .kh ⟨true, false⟩ .Q .H = some (.run (.polyH .Q)) := by decide

/-- whatever `kh` runs, `ckh` runs with the same ring -/
theorem ckh_extends_kh (f : Feat) (ct : CType) (v : PolyVars) (r : Ring)
    (h : dispatch .kh f ct v = some (.run r)) : dispatch .ckh f ct v = some (.run r) :=
  of_decide_eq_true ((runAll_iff _ _).mp
    (table_sweep (fun f ct v => runAll (fun r => decide (dispatch .ckh f ct v = some (.run r))) (dispatch .kh f ct v))
      (by decide) f ct v) r h)

/-- The exit-status contract of `main.rs`: an error outcome has a non-zero exit status, a message on stderr and
no table on stdout; a table outcome has exit status 0. -/
theorem error_contract (o : Outcome) :
    (∀ k, o = .error k → (mainRs o).exit ≠ 0 ∧ (mainRs o).messageOnStderr = true ∧ (mainRs o).tableOnStdout = false) ∧
    (∀ r b, o = .table r b → (mainRs o).exit = 0 ∧ (mainRs o).tableOnStdout = true) := by
  constructor
  · intro k h; subst h; cases k <;> simp [mainRs]
  · intro r b h; subst h; simp [mainRs]

/-- An unsupported combination is an error for every `-c` text, flag setting and link argument. -/
theorem unsupported_is_error (f : Feat) (c : Cmd) (ct : CType) (o : Opts) (lk : LinkClass)
    (h : dispatch c f ct (polyVars o.cval) = none) :
    runParsed f c ct o lk = .error .unsupported ∧ (mainRs (runParsed f c ct o lk)).exit ≠ 0 ∧
      (mainRs (runParsed f c ct o lk)).tableOnStdout = false := by
  simp [runParsed, h, mainRs]

example : dispatch .kh ⟨true, false⟩ .Z (polyVars "H") = none := by decide

/-- A combination that needs a cargo feature that is off is an error as well. -/
theorem missing_feature_is_error (f : Feat) (c : Cmd) (ct : CType) (o : Opts) (lk : LinkClass)
    (h : dispatch c f ct (polyVars o.cval) = some .needQint ∨ dispatch c f ct (polyVars o.cval) = some .needPoly) :
    runParsed f c ct o lk = .error .feature := by
  rcases h with h | h <;> simp [runParsed, h]

example : dispatch .ckh ⟨true, false⟩ .Gauss (polyVars "0") = some .needQint := by decide

/-- Unknown commands / `-t` values never reach the dispatch. -/
theorem usage_error (f : Feat) (cmd ctype : String) (o : Opts) (lk : LinkClass)
    (h : parseCmd cmd = none ∨ parseCType ctype = none) : run f cmd ctype o lk = .error .usage := by
  unfold run
  rcases h with h | h
  · simp [h]
  · rw [h]; cases parseCmd cmd <;> rfl

/-- Pre-check: `-r` with `t ≠ 0` is an error (`"`t` must be zero for reduced."`) for every ring the dispatch can
select, every `-c` text that denotes such a pair, and every link argument — the library is never called. -/
theorem precheck_error (f : Feat) (c : Cmd) (ct : CType) (o : Opts) (lk : LinkClass) (r : Ring) (h t : Val)
    (hd : dispatch c f ct (polyVars o.cval) = some (.run r))
    (hp : parsePair r o.cval.toList = .ok (h, t)) (hr : o.reduced = true) (ht : t.isZero = false) :
    runParsed f c ct o lk = .error .precheck := by
  cases c <;> simp [runParsed, hd, appRun, khRun, ckhRun, hp, hr, ht, guardPanic]

example : parsePair (.std .Z) "1,2".toList = .ok (⟨false, true⟩, ⟨false, false⟩) := by decide

/-- Pre-check of `-a`: `t` must be zero. -/
theorem alpha_precheck_error (f : Feat) (c : Cmd) (ct : CType) (o : Opts) (lk : LinkClass) (r : Ring) (h t : Val)
    (hd : dispatch c f ct (polyVars o.cval) = some (.run r))
    (hp : parsePair r o.cval.toList = .ok (h, t)) (ha : o.alpha = true) (ht : t.isZero = false) :
    runParsed f c ct o lk = .error .precheck := by
  cases c <;> simp [runParsed, hd, appRun, khRun, ckhRun, hp, ha, ht, guardPanic]

/-- Pre-check of `-s` (`kh` only): `h` must be non-zero and non-invertible, `t` must be zero. -/
theorem ss_precheck_error (f : Feat) (ct : CType) (o : Opts) (lk : LinkClass) (r : Ring) (h t : Val)
    (hd : dispatch .kh f ct (polyVars o.cval) = some (.run r))
    (hp : parsePair r o.cval.toList = .ok (h, t)) (hs : o.ss = true)
    (hb : h.isZero = true ∨ h.isUnit = true ∨ t.isZero = false) :
    runParsed f .kh ct o lk = .error .precheck := by
  rcases hb with hb | hb | hb <;> simp [runParsed, hd, appRun, khRun, hp, hs, hb, guardPanic]

/-- A `-c` text that is not a value (pair) of the selected ring is an error. -/
theorem parse_error (f : Feat) (c : Cmd) (ct : CType) (o : Opts) (lk : LinkClass) (r : Ring)
    (hd : dispatch c f ct (polyVars o.cval) = some (.run r))
    (hp : parsePair r o.cval.toList = .err) : runParsed f c ct o lk = .error .parse := by
  cases c <;> simp [runParsed, hd, appRun, khRun, ckhRun, hp, guardPanic]

example : parsePair (.std .Q) "x".toList = .err := by decide

/-- A panic while reading the coefficient (e.g. `1/0` over ℚ) is caught by the panic guard. -/
theorem parse_panic_is_error (f : Feat) (c : Cmd) (ct : CType) (o : Opts) (lk : LinkClass) (r : Ring)
    (hd : dispatch c f ct (polyVars o.cval) = some (.run r))
    (hp : parsePair r o.cval.toList = .panic) : runParsed f c ct o lk = .error .panic := by
  cases c <;> simp [runParsed, hd, appRun, khRun, ckhRun, hp, guardPanic]

example : parsePair (.std .Q) "1/0".toList = .panic := by decide

/-- A table comes out only if everything was in order: the dispatch selected the ring `r` (base type = `-t`,
variables = those in `-c`), the `-c` text denotes a pair `(h, t)` of that ring, the pre-checks hold, the link
argument loads and the library returns.  Malformed input and internal failures (`lk ≠ ok`) never give a table. -/
theorem table_only_if (f : Feat) (c : Cmd) (ct : CType) (o : Opts) (lk : LinkClass) (r : Ring) (b : Bool)
    (h : runParsed f c ct o lk = .table r b) :
    dispatch c f ct (polyVars o.cval) = some (.run r) ∧ r.base = ct ∧ r.vars = polyVars o.cval ∧ lk = .ok ∧
    ∃ hh tt, parsePair r o.cval.toList = .ok (hh, tt) ∧ (o.reduced = true → tt.isZero = true) ∧
      (o.alpha = true → tt.isZero = true) := by
  obtain ⟨hd, ha⟩ := runParsed_table f c ct o lk r b h
  obtain ⟨hh, tt, hp, h1, h2, h3, _⟩ := appRun_table c r o lk b ha
  exact ⟨hd, (dispatch_run _ _ _ _ r hd).1, (dispatch_run _ _ _ _ r hd).2, h3, hh, tt, hp, h1, h2⟩

example : runParsed ⟨true, false⟩ .kh .Q ⟨"H", true, true, false, false⟩ .ok = .table (.polyH .Q) true := by decide

/-- A link argument that does not load, or on which the library fails (malformed PD code → panic, caught by the
guard), is an error for every option combination — never a table. -/
theorem bad_link_is_error (f : Feat) (c : Cmd) (ct : CType) (o : Opts) (lk : LinkClass) (h : lk ≠ .ok) :
    ∃ k, runParsed f c ct o lk = .error k := by
  cases hr : runParsed f c ct o lk with
  | error k => exact ⟨k, rfl⟩
  | table r b => exact absurd (table_only_if f c ct o lk r b hr).2.2.2.1 h

example : runParsed ⟨true, false⟩ .kh .Z ⟨"0", false, false, false, false⟩ .panics = .error .panic := by decide
example : runParsed ⟨true, false⟩ .ckh .Q ⟨"H,T", false, false, false, false⟩ .invalid = .error .link := by decide

/-- The bigraded switch of `kh`: a two-dimensional table is printed iff `h = t = 0` or the `-c` text is literally
`H` or `0,T`; otherwise the one-row sequence. -/
theorem kh_bigraded_iff (f : Feat) (ct : CType) (o : Opts) (lk : LinkClass) (r : Ring) (b : Bool) (hh tt : Val)
    (h : runParsed f .kh ct o lk = .table r b) (hp : parsePair r o.cval.toList = .ok (hh, tt)) :
    b = true ↔ ((hh.isZero = true ∧ tt.isZero = true) ∨ o.cval = "H" ∨ o.cval = "0,T") := by
  obtain ⟨_, ha⟩ := runParsed_table f .kh ct o lk r b h
  obtain ⟨hh', tt', hp', _, _, _, hb⟩ := appRun_table .kh r o lk b ha
  cases hp.symm.trans hp'
  rw [hb rfl]
  simp [Bool.or_eq_true, Bool.and_eq_true, or_assoc]

/-- `poly_vars` looks only at whole `,`-separated pieces. -/
theorem polyVars_spec (c : String) :
    (polyVars c = .H ∨ polyVars c = .HT ↔ ['H'] ∈ splitOnChar ',' c.toList) ∧
    (polyVars c = .T ∨ polyVars c = .HT ↔ ['T'] ∈ splitOnChar ',' c.toList) := by
  unfold polyVars
  constructor <;>
  · cases h1 : (splitOnChar ',' c.toList).contains ['H'] <;> cases h2 : (splitOnChar ',' c.toList).contains ['T'] <;>
      simp_all

/-- A verified reader inverts `rmod_str`: for a ring symbol that does not start with `(` or `0` and texts without
`⊕` (all symbols `Z, Q, F₂, F₃, Z[i], Z[√-3], R[H], R[T], R[H, T]` and all coefficient texts are such),
`readCell` recovers the rank and the run-length encoding of the sorted torsion texts from the cell text.
The harness applies the same reading to the cells of the real tables, and the driver runs `rmodStr` against the
real `rmod_str`. -/
theorem rmodStr_readback (sym : List Char) (rank : Nat) (tors : List (List Char))
    (hs : SymOK sym) (ht : ∀ t ∈ tors, TorOK t) :
    readCell sym (rmodStr sym rank tors) = some (rank, runs tors) := by
  obtain ⟨⟨c, r, hsym, hc1, hc0⟩, hso⟩ := hs
  have hmap := mapM_readTor_torPieces sym tors
  have hno := torPieces_noOplus sym tors hso ht
  rw [rmodStr_eq]
  split
  · rename_i h
    obtain ⟨rfl, rfl⟩ := h
    rfl
  · rename_i hnz
    by_cases hr0 : rank = 0
    · -- only torsion pieces
      subst hr0
      have htn : tors ≠ [] := fun h => hnz ⟨rfl, h⟩
      unfold torPieces at hmap hno ⊢
      cases hrt : runs tors with
      | nil => exact absurd (runs_injective tors [] hrt) htn
      | cons e es =>
        rw [hrt] at hmap hno
        have hr' := torPiece_eq sym e.1 e.2
        rw [show freePiece sym 0 = [] from rfl]
        simp only [List.map_cons, List.nil_append] at hmap hno ⊢
        rw [readCell_of_pieces sym _ _ hno '(' _ hr' (by decide)]
        have : startsParen (torPiece sym e.1 e.2) = true := by rw [hr']; rfl
        rw [if_pos this, hmap]
    · -- a free piece first
      rw [freePiece_eq sym rank (by omega)]
      simp only [List.cons_append, List.nil_append]
      have hall : ∀ x ∈ (sym ++ optSuper rank) :: torPieces sym tors, '⊕' ∉ x := by
        intro x hx
        rcases List.mem_cons.mp hx with rfl | hx
        · simp [hso, optSuper_noOplus]
        · exact hno x hx
      rw [readCell_of_pieces sym _ _ hall c (r ++ optSuper rank) (by simp [hsym]) hc0]
      have : startsParen (sym ++ optSuper rank) = false := by
        rw [hsym]
        unfold startsParen
        split
        · rename_i heq; injection heq with h1 _; exact absurd h1 hc1
        · rfl
      rw [this]
      simp only [Bool.false_eq_true, if_false, readFree_freePiece sym rank (by omega), hmap]

/-- `rmod_str` is injective on (rank, sorted torsion multiset): a printed cell determines the group. -/
theorem rmodStr_injective (sym : List Char) (r1 r2 : Nat) (t1 t2 : List (List Char))
    (hs : SymOK sym) (h1 : ∀ t ∈ t1, TorOK t) (h2 : ∀ t ∈ t2, TorOK t)
    (h : rmodStr sym r1 t1 = rmodStr sym r2 t2) : r1 = r2 ∧ t1 = t2 := by
  have e1 := rmodStr_readback sym r1 t1 hs h1
  have e2 := rmodStr_readback sym r2 t2 hs h2
  rw [h, e2] at e1
  injection e1 with e1
  injection e1 with ha hb
  exact ⟨ha.symm, runs_injective _ _ hb.symm⟩

/-- a zero group is printed as `0` (which the table shows as `.`), and nothing else is -/
theorem rmodStr_zero_iff (sym : List Char) (rank : Nat) (tors : List (List Char))
    (hs : SymOK sym) (ht : ∀ t ∈ tors, TorOK t) :
    rmodStr sym rank tors = ['0'] ↔ rank = 0 ∧ tors = [] := by
  constructor
  · intro h
    have e := rmodStr_readback sym rank tors hs ht
    rw [h] at e
    simp [readCell] at e
    exact ⟨e.1.symm, runs_injective tors [] e.2⟩
  · intro ⟨h1, h2⟩; simp [rmodStr, h1, h2]

example : SymOK "Z".toList ∧ SymOK "F₂[H]".toList ∧ TorOK "H²".toList :=
  ⟨⟨⟨'Z', [], rfl, by decide, by decide⟩, by decide⟩, ⟨⟨'F', _, rfl, by decide, by decide⟩, by decide⟩, by unfold TorOK; decide⟩

end Yuiv.C20
