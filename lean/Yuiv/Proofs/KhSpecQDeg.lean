import Yuiv.Proofs.KhRefD
import Yuiv.Proofs.C01SqCoef
import Yuiv.Proofs.C02MirrorDual
import Mathlib.Data.Finset.Card
import Mathlib.Data.Finset.Range

/-
KhSpec — the differential of the reference cube PRESERVES THE QUANTUM DEGREE for `h = t = 0`: labels are counted as
`QDeg.cnt` (`popcount x r = cnt r x.testBit`), the common circles of two adjacent vertices correspond bijectively, and along
an edge `−2·#X + #circles` drops by one (`edge_qdeg`) while the weight of the state goes up by one.
-/
namespace Yuiv.KhSpec.QDeg
open Yuiv.KhRef Yuiv.C02Mirror

/-- number of `i < n` with `P i` -/
def cnt (n : Nat) (P : Nat → Bool) : Nat := ((Finset.range n).filter (fun i => P i = true)).card

theorem cnt_succ (n : Nat) (P : Nat → Bool) : cnt (n + 1) P = cnt n P + (P n).toNat := by
  unfold cnt
  rw [Finset.range_add_one, Finset.filter_insert]
  cases h : P n
  · simp
  · simp [Finset.card_insert_of_notMem]

theorem popcount_eq_cnt (x r : Nat) : popcount x r = cnt r (fun i => x.testBit i) := by
  induction r with
  | zero => rfl
  | succ r ih =>
    rw [cnt_succ, ← ih]
    unfold popcount
    rw [List.range_succ, List.filter_append, List.length_append]
    cases h : x.testBit r <;> simp [h]

theorem cnt_congr (n : Nat) (P Q : Nat → Bool) (h : ∀ i, i < n → P i = Q i) : cnt n P = cnt n Q := by
  unfold cnt
  congr 1
  apply Finset.filter_congr
  intro i hi
  rw [h i (Finset.mem_range.1 hi)]

theorem cnt_true (n : Nat) : cnt n (fun _ => true) = n := by
  unfold cnt
  simp

theorem cnt_split (n : Nat) (P R : Nat → Bool) :
    cnt n P = cnt n (fun i => R i && P i) + cnt n (fun i => !R i && P i) := by
  unfold cnt
  rw [← Finset.card_filter_add_card_filter_not (s := (Finset.range n).filter (fun i => P i = true)) (fun i => R i = true),
    Finset.filter_filter, Finset.filter_filter]
  congr 2
  · apply Finset.filter_congr; intro i _; simp [and_comm]
  · apply Finset.filter_congr; intro i _; simp [and_comm]

/-- the common circles of `cs` and `cs'` correspond bijectively (`i ↦ ix cs' cs[i]!`) -/
theorem cnt_common {cs cs' : Circ} (hP : Pair cs cs') (P Q : Nat → Bool)
    (hPQ : ∀ i, i < cs.size → cs[i]! ∈ cs' → Q (ix cs' cs[i]!) = P i) :
    cnt cs.size (fun i => cs'.contains cs[i]! && P i) = cnt cs'.size (fun j => cs.contains cs'[j]! && Q j) := by
  unfold cnt
  apply Finset.card_bij (fun i _ => ix cs' cs[i]!)
  · intro i hi
    simp only [Finset.mem_filter, Finset.mem_range, Bool.and_eq_true, Array.contains_iff_mem] at hi ⊢
    obtain ⟨hi, hc, hp⟩ := hi
    obtain ⟨h1, h2⟩ := ix_spec cs' cs[i]! hc
    refine ⟨h1, ?_, ?_⟩
    · rw [h2]; exact getElem!_mem cs i hi
    · rw [hPQ i hi hc]; exact hp
  · intro i hi j hj e
    simp only [Finset.mem_filter, Finset.mem_range, Bool.and_eq_true, Array.contains_iff_mem] at hi hj
    exact idx_inj cs hP.nd i j hi.1 hj.1 (ix_inj cs' _ _ hi.2.1 hj.2.1 e)
  · intro j hj
    simp only [Finset.mem_filter, Finset.mem_range, Bool.and_eq_true, Array.contains_iff_mem] at hj
    obtain ⟨hj, hc, hq⟩ := hj
    obtain ⟨h1, h2⟩ := ix_spec cs cs'[j]! hc
    have hmem : cs[ix cs cs'[j]!]! ∈ cs' := by rw [h2]; exact getElem!_mem cs' j hj
    have hix : ix cs' cs[ix cs cs'[j]!]! = j := by rw [h2]; exact ix_getElem cs' hP.nd' j hj
    refine ⟨ix cs cs'[j]!, ?_, hix⟩
    simp only [Finset.mem_filter, Finset.mem_range, Bool.and_eq_true, Array.contains_iff_mem]
    refine ⟨h1, hmem, ?_⟩
    rw [← hPQ _ h1 hmem, hix]; exact hq

theorem cnt_filter (n : Nat) (R P : Nat → Bool) :
    cnt n (fun i => R i && P i) = (((List.range n).filter R).map (fun g => (P g).toNat)).sum := by
  induction n with
  | zero => rfl
  | succ n ih =>
    rw [cnt_succ, ih, List.range_succ, List.filter_append, List.map_append, List.sum_append]
    cases h : R n <;> simp [h]

theorem cnt_gone (cs cs' : Circ) (P : Nat → Bool) :
    cnt cs.size (fun i => !cs'.contains cs[i]! && P i) = ((goneOf cs cs').toList.map (fun g => (P g).toNat)).sum := by
  rw [cnt_filter]
  unfold goneOf
  rw [Array.toList_filter, Array.toList_range]

/-- counting along an edge: the common circles correspond bijectively, so a count over `cs'` and the same count over `cs`
differ by the circles that disappear and those that appear (`P = Q = true`: numbers of circles; `testBit`: numbers of `X`) -/
theorem cnt_transfer {cs cs' : Circ} (hP : Pair cs cs') (P Q : Nat → Bool)
    (hPQ : ∀ i, i < cs.size → cs[i]! ∈ cs' → Q (ix cs' cs[i]!) = P i) :
    cnt cs'.size Q + ((goneOf cs cs').toList.map (fun g => (P g).toNat)).sum =
      cnt cs.size P + ((goneOf cs' cs).toList.map (fun b => (Q b).toNat)).sum := by
  have p1 := cnt_split cs.size P (fun i => cs'.contains cs[i]!)
  have p2 := cnt_split cs'.size Q (fun j => cs.contains cs'[j]!)
  rw [cnt_gone] at p1 p2
  have p3 := cnt_common hP P Q hPQ
  omega

theorem edge_count {cs cs' : Circ} (hP : Pair cs cs') (m m' : Nat) (hC : Compat cs cs' m m') :
    cs'.size + (goneOf cs cs').size = cs.size + (goneOf cs' cs).size ∧
    popcount m' cs'.size + ((goneOf cs cs').toList.map (fun g => (m.testBit g).toNat)).sum =
      popcount m cs.size + ((goneOf cs' cs).toList.map (fun b => (m'.testBit b).toNat)).sum := by
  have s := cnt_transfer hP (fun _ => true) (fun _ => true) (fun _ _ _ => rfl)
  have c := cnt_transfer hP (fun i => m.testBit i) (fun j => m'.testBit j) hC
  rw [cnt_true, cnt_true] at s
  rw [← popcount_eq_cnt, ← popcount_eq_cnt] at c
  simp only [Bool.toNat_true, List.map_const', List.sum_replicate, smul_eq_mul, Nat.mul_one, Array.length_toList] at s
  exact ⟨s, c⟩

/-- the surviving rows of the multiplication table at `h = t = 0` -/
theorem prod_rows : ∀ (x0 x1 : Bool), ∀ ya ∈ prod 0 0 x0 x1, (ya.2 != 0) = true → ya.1.toNat = x0.toNat + x1.toNat := by
  decide

/-- the surviving rows of the comultiplication table at `h = t = 0` -/
theorem coprod_rows :
    ∀ x : Bool, ∀ ya ∈ coprod 0 0 x, (ya.2.2 != 0) = true → ya.1.toNat + ya.2.1.toNat = x.toNat + 1 := by
  decide

end Yuiv.KhSpec.QDeg

namespace Yuiv.KhSpec
open Yuiv.KhRef
open Yuiv.KhSpec.QDeg

/-- one edge: every term of the edge map (h = t = 0) has `popcount m' r' = popcount m r` for a merge (`r' = r − 1`)
and `popcount m' r' = popcount m r + 1` for a split (`r' = r + 1`); uniformly: -/
theorem edge_qdeg {cs cs' : C02Mirror.Circ} (hP : C02Mirror.Pair cs cs') (m : Nat)
    (ts : List (Nat × Int)) (h : C02Mirror.edgeTerms 0 0 cs cs' m = some ts) :
    ∀ x ∈ ts, (-2 : Int) * popcount x.1 cs'.size + cs'.size + 1 = (-2 : Int) * popcount m cs.size + cs.size := by
  intro x hx
  obtain ⟨_, hC, hne, hrow⟩ := C02Mirror.mem_edgeTerms hP 0 0 m ts h x hx
  have hne' : (x.2 != 0) = true := by simpa using hne
  obtain ⟨c1, c2⟩ := edge_count hP m x.1 hC
  rcases hrow with ⟨g0, g1, b, hG, hB, hr⟩ | ⟨g, b0, b1, hG, hB, hr⟩
  · rw [hG, hB] at c1 c2
    have := prod_rows _ _ _ hr hne'
    simp only [List.size_toArray, List.length_cons, List.length_nil, List.map_cons, List.map_nil, List.sum_cons,
      List.sum_nil] at c1 c2 this
    omega
  · rw [hG, hB] at c1 c2
    have := coprod_rows _ _ hr hne'
    simp only [List.size_toArray, List.length_cons, List.length_nil, List.map_cons, List.map_nil, List.sum_cons,
      List.sum_nil] at c1 c2 this
    omega

theorem qDeg_preserved (c : Cube) (p : Params) (hh : p.h = 0) (ht : p.t = 0)
    (hP : ∀ s s', s < 2 ^ c.n → s' < 2 ^ c.n → C02Mirror.Pair c.circ[s]! c.circ[s']!)
    (g : Gen) (hs : g.s < 2 ^ c.n) (ts : Array Term) (hd : c.d p g = some ts)
    (q0 : Int) : ∀ t ∈ ts.toList, c.qDeg q0 t.1 = c.qDeg q0 g := by
  intro t htm
  obtain ⟨k, tl, mt, h1, hbit, he, hmt, rfl⟩ := C06Cycle.mem_d c p g ts hd t htm
  rw [hh, ht] at he
  have hs1 : g.s ||| 1 <<< k < 2 ^ c.n := KhRef.or_bit_lt hs h1
  have key := edge_qdeg (hP g.s (g.s ||| 1 <<< k) hs hs1) g.mask tl he mt hmt
  have hw := popcount_or_gt g.s k c.n hbit h1
  unfold Cube.qDeg
  simp only []
  rw [hw]
  omega

end Yuiv.KhSpec
