import Yuiv.Proofs.C15Poly
import Yuiv.Proofs.C15QCanon
import Mathlib.Algebra.Field.ZMod
import Mathlib.Data.Rat.Lemmas
import Mathlib.Data.ZMod.Basic
/-
C15 — `FieldModel E V φ`: `FieldRep` (Proofs/C15Poly) plus what the `EucRing`/`Ring` impls of the field types of `yui`
(`Ratio`, `FF<p>`) have in common: `%` constantly zero, loop fuel `0`/`1`, `normalizing_unit` the inverse (`1` at
zero), `is_unit = !is_zero`, `inv` `None` exactly at zero.  Over it the clauses about `/`, `%`, `normalized`, `gcd`,
`gcdx`, `lcm` hold literally in the model's own arithmetic (equalities of representatives, from those in `K` by
injectivity).  Then the two instances, each first as a `FieldRep`: `Q`/`ratOps` over `ℚ`, and `ffOps p` over `ZMod p` for
every prime `p`.
-/
namespace Yuiv.C15

/-- zero divisor: the Rust operators panic (`assert!(!rhs.is_zero())`) -/
theorem EucOps.div_zero_panics {F : Type} (E : EucOps F) (a b : F) (hb0 : E.isZero b = true) :
    E.divR a b = .panic ∧ E.remR a b = .panic := by
  unfold EucOps.divR EucOps.remR; simp [hb0]

theorem EucOps.div_ok {F : Type} (E : EucOps F) (a b : F) (hb0 : E.isZero b = false) :
    E.divR a b = .ok (E.div a b) ∧ E.remR a b = .ok (E.rem a b) := by
  unfold EucOps.divR EucOps.remR; simp [hb0]

/-- When `%` is constantly zero the Euclid loops need at most one step: any fuel `≥ 1` suffices
(the code model runs them with fuel `norm y + 1 ≥ 1`). -/
theorem EucOps.gcdLoop_total {F : Type} (E : EucOps F) (hrem : ∀ a b, E.rem a b = E.zero)
    (hz : E.isZero E.zero = true) (fuel : Nat) (hf : 1 ≤ fuel) (x y : F) :
    E.gcdLoop fuel x y = some (if E.isZero y then x else y) := by
  obtain ⟨f, rfl⟩ : ∃ f, fuel = f + 1 := ⟨fuel - 1, by omega⟩
  unfold EucOps.gcdLoop
  cases h : E.isZero y
  · simp only [Bool.false_eq_true, if_false]
    unfold EucOps.gcdLoop
    rw [hrem, hz]; rfl
  · rfl

theorem EucOps.gcdxLoop_total {F : Type} (E : EucOps F) (hrem : ∀ a b, E.rem a b = E.zero)
    (hz : E.isZero E.zero = true) (fuel : Nat) (hf : 1 ≤ fuel) (x y s0 s1 t0 t1 : F) :
    E.gcdxLoop fuel x y s0 s1 t0 t1 = some (if E.isZero y then (x, s0, t0) else (y, s1, t1)) := by
  obtain ⟨f, rfl⟩ : ∃ f, fuel = f + 1 := ⟨fuel - 1, by omega⟩
  unfold EucOps.gcdxLoop
  cases h : E.isZero y
  · simp only [Bool.false_eq_true, if_false]
    unfold EucOps.gcdxLoop
    rw [hrem, hz]; rfl
  · rfl

structure FieldModel {F K : Type} [Field K] (E : EucOps F) (V : F → Prop) (φ : F → K) : Prop where
  rep : FieldRep E V φ
  rem_eq : ∀ a b, E.rem a b = E.zero
  norm_eq : ∀ a, E.norm a = if E.isZero a then 0 else 1
  normUnit_zero : ∀ a, V a → φ a = 0 → φ (E.normUnit a) = 1
  normUnit_ne : ∀ a, V a → φ a ≠ 0 → φ (E.normUnit a) = (φ a)⁻¹
  isUnit_eq : ∀ a, E.isUnit a = !E.isZero a
  inv_zero : ∀ a, V a → φ a = 0 → E.inv a = none
  inv_ne : ∀ a, V a → φ a ≠ 0 → ∃ i, E.inv a = some i ∧ V i ∧ φ i = (φ a)⁻¹

namespace FieldModel
variable {F K : Type} [Field K] {E : EucOps F} {V : F → Prop} {φ : F → K} (M : FieldModel E V φ)
include M

theorem isZero_false (a : F) (ha : V a) : E.isZero a = false ↔ φ a ≠ 0 := by
  rw [← Bool.not_eq_true, M.rep.isZero_iff a ha]

theorem isZero_zero : E.isZero E.zero = true := (M.rep.isZero_iff _ M.rep.v_zero).2 M.rep.phi_zero

theorem isZero_one : E.isZero E.one = false :=
  (M.isZero_false _ M.rep.v_one).2 (by rw [M.rep.phi_one]; exact one_ne_zero)

theorem eq_zero (a : F) (ha : V a) (h : E.isZero a = true) : a = E.zero :=
  M.rep.inj _ _ ha M.rep.v_zero (by rw [(M.rep.isZero_iff a ha).1 h, M.rep.phi_zero])

theorem isZero_mul (a b : F) (ha : V a) (hb : V b) : E.isZero (E.mul a b) = (E.isZero a || E.isZero b) := by
  have hm := M.rep.mul a b ha hb
  rw [Bool.eq_iff_iff, Bool.or_eq_true, M.rep.isZero_iff _ hm.1, M.rep.isZero_iff a ha, M.rep.isZero_iff b hb,
    hm.2, mul_eq_zero]

theorem one_mul_eq (z : F) (hz : V z) : E.mul E.one z = z :=
  M.rep.inj _ _ (M.rep.mul E.one z M.rep.v_one hz).1 hz
    (by rw [(M.rep.mul E.one z M.rep.v_one hz).2, M.rep.phi_one, one_mul])

theorem zero_mul_eq (z : F) (hz : V z) : E.mul E.zero z = E.zero :=
  M.rep.inj _ _ (M.rep.mul E.zero z M.rep.v_zero hz).1 M.rep.v_zero
    (by rw [(M.rep.mul E.zero z M.rep.v_zero hz).2, M.rep.phi_zero, zero_mul])

theorem eucRep : EucRep E V φ where
  inj := M.rep.inj
  v_zero := M.rep.v_zero
  psi_zero := M.rep.phi_zero
  v_one := M.rep.v_one
  psi_one := M.rep.phi_one
  isZero_iff := M.rep.isZero_iff
  isOne_imp := fun a ha h => (M.rep.isOne_iff a ha).1 h
  sub := M.rep.sub
  mul := M.rep.mul
  div_rem := by
    intro a b ha hb hb0
    have hd := M.rep.div a b ha hb hb0
    refine ⟨hd.1, by rw [M.rem_eq]; exact M.rep.v_zero, ?_, ?_⟩
    · rw [M.rem_eq, M.rep.phi_zero, hd.2, add_zero, div_mul_cancel₀ _ hb0]
    · rw [M.rem_eq, M.norm_eq, M.norm_eq, M.isZero_zero, (M.isZero_false b hb).2 hb0]; simp
  rem_of_dvd := by intro a b _ _ _ _; rw [M.rem_eq, M.rep.phi_zero]
  normUnit := fun a ha => ⟨(M.rep.normUnit a ha).1, isUnit_iff_ne_zero.2 (M.rep.normUnit a ha).2⟩

theorem div_spec (a b : F) (ha : V a) (hb : V b) (hb0 : E.isZero b = false) :
    E.divR a b = .ok (E.div a b) ∧ E.remR a b = .ok E.zero ∧ E.rem a b = E.zero ∧ V (E.div a b) ∧
    E.add (E.mul (E.div a b) b) (E.rem a b) = a ∧ E.mul (E.div a b) b = a ∧ φ (E.div a b) = φ a / φ b := by
  have hb0' := (M.isZero_false b hb).1 hb0
  have hd := M.rep.div a b ha hb hb0'
  have hm := M.rep.mul _ b hd.1 hb
  have hmul : E.mul (E.div a b) b = a :=
    M.rep.inj _ _ hm.1 ha (by rw [hm.2, hd.2, div_mul_cancel₀ _ hb0'])
  refine ⟨(E.div_ok a b hb0).1, by rw [(E.div_ok a b hb0).2, M.rem_eq], M.rem_eq a b, hd.1, ?_, hmul, hd.2⟩
  rw [M.rem_eq, hmul]
  have hadd := M.rep.add a E.zero ha M.rep.v_zero
  exact M.rep.inj _ _ hadd.1 ha (by rw [hadd.2, M.rep.phi_zero, add_zero])

theorem units (a : F) (ha : V a) :
    (E.isUnit a = true ↔ E.inv a ≠ none) ∧
    (E.isZero a = true → E.inv a = none) ∧
    (E.isZero a = false → ∃ u, E.inv a = some u ∧ V u ∧ E.mul a u = E.one ∧ E.isZero u = false) ∧
    (∀ u, E.inv a = some u → V u ∧ E.mul a u = E.one) := by
  have key : E.isZero a = false → ∃ u, E.inv a = some u ∧ V u ∧ E.mul a u = E.one ∧ E.isZero u = false := by
    intro h0
    have h0' := (M.isZero_false a ha).1 h0
    obtain ⟨i, hi, hvi, he⟩ := M.inv_ne a ha h0'
    have hm := M.rep.mul a i ha hvi
    refine ⟨i, hi, hvi, M.rep.inj _ _ hm.1 M.rep.v_one ?_, (M.isZero_false i hvi).2 ?_⟩
    · rw [hm.2, he, M.rep.phi_one, mul_inv_cancel₀ h0']
    · rw [he]; exact inv_ne_zero h0'
  have hz : E.isZero a = true → E.inv a = none := fun h0 => M.inv_zero a ha ((M.rep.isZero_iff a ha).1 h0)
  refine ⟨?_, hz, key, ?_⟩
  · rw [M.isUnit_eq]
    cases h : E.isZero a
    · obtain ⟨u, hu, _⟩ := key h; simp [hu]
    · simp [hz h]
  · intro u hu
    cases h : E.isZero a
    · obtain ⟨u', hu', hv, he, _⟩ := key h
      rw [hu] at hu'; injection hu' with hu'; subst hu'; exact ⟨hv, he⟩
    · rw [hz h] at hu; cases hu

theorem normUnit_spec (a : F) (ha : V a) :
    V (E.normUnit a) ∧ E.isZero (E.normUnit a) = false ∧ E.isUnit (E.normUnit a) = true ∧
    (E.isZero a = true → E.normUnit a = E.one) ∧ (E.isZero a = false → E.mul a (E.normUnit a) = E.one) := by
  have hu := M.rep.normUnit a ha
  have hz : E.isZero (E.normUnit a) = false := (M.isZero_false _ hu.1).2 hu.2
  refine ⟨hu.1, hz, by rw [M.isUnit_eq, hz]; rfl, fun h0 => ?_, fun h0 => ?_⟩
  · refine M.rep.inj _ _ hu.1 M.rep.v_one ?_
    rw [M.normUnit_zero a ha ((M.rep.isZero_iff a ha).1 h0), M.rep.phi_one]
  · have h0' := (M.isZero_false a ha).1 h0
    have hm := M.rep.mul a _ ha hu.1
    refine M.rep.inj _ _ hm.1 M.rep.v_one ?_
    rw [hm.2, M.normUnit_ne a ha h0', M.rep.phi_one, mul_inv_cancel₀ h0']

theorem normalized_eq (a : F) (ha : V a) : E.normalized a = if E.isZero a then a else E.one := by
  obtain ⟨hv, _, _, h1, h2⟩ := M.normUnit_spec a ha
  unfold EucOps.normalized
  simp only
  cases h0 : E.isZero a
  · simp only [Bool.false_eq_true, if_false]
    split
    · rename_i hone
      have h0' := (M.isZero_false a ha).1 h0
      have e := (M.rep.isOne_iff _ hv).1 hone
      rw [M.normUnit_ne a ha h0', inv_eq_one] at e
      exact M.rep.inj _ _ ha M.rep.v_one (by rw [e, M.rep.phi_one])
    · exact h2 h0
  · simp only [if_true]
    rw [h1 h0, (M.rep.isOne_iff _ M.rep.v_one).2 M.rep.phi_one, if_pos rfl]

theorem normalized_valid (a : F) (ha : V a) : V (E.normalized a) := by
  rw [M.normalized_eq a ha]; split
  · exact ha
  · exact M.rep.v_one

theorem normalized_idem (a : F) (ha : V a) : E.normalized (E.normalized a) = E.normalized a := by
  rw [M.normalized_eq a ha]
  cases h0 : E.isZero a
  · simp only [Bool.false_eq_true, if_false]
    rw [M.normalized_eq _ M.rep.v_one, M.isZero_one]; rfl
  · simp only [if_true]; rw [M.normalized_eq a ha, h0]; rfl

theorem normalized_assoc (a u : F) (ha : V a) (hu : V u) (hu0 : E.isZero u = false) :
    E.normalized (E.mul a u) = E.normalized a := by
  have hm := M.rep.mul a u ha hu
  have hz : E.isZero (E.mul a u) = E.isZero a := by rw [M.isZero_mul a u ha hu, hu0, Bool.or_false]
  rw [M.normalized_eq _ hm.1, M.normalized_eq a ha, hz]
  cases h0 : E.isZero a
  · rfl
  · simp only [if_true]; rw [M.eq_zero _ hm.1 (hz.trans h0), M.eq_zero a ha h0]

/-! ### gcd, gcdx, lcm: over a field both take an early return, the loops are never entered -/

theorem divides_eq (x y : F) : E.divides x y = !E.isZero x := by
  unfold EucOps.divides; rw [M.rem_eq, M.isZero_zero]; simp

theorem gcd_eq (x y : F) (hx : V x) (hy : V y) :
    E.gcd x y = .ok (if E.isZero x && E.isZero y then E.zero else E.one) := by
  unfold EucOps.gcd
  rw [M.divides_eq, M.divides_eq, M.normalized_eq x hx, M.normalized_eq y hy]
  cases h1 : E.isZero x <;> cases h2 : E.isZero y <;> simp

theorem normalized_zero_one (c : Bool) :
    E.normalized (if c then E.zero else E.one) = if c then E.zero else E.one := by
  cases c
  · rw [if_neg Bool.false_ne_true, M.normalized_eq _ M.rep.v_one, M.isZero_one]; rfl
  · rw [if_pos rfl, M.normalized_eq _ M.rep.v_zero, M.isZero_zero]; rfl

theorem gcdx_spec (x y : F) (hx : V x) (hy : V y) :
    ∃ d s t, E.gcdx x y = .ok (d, s, t) ∧ V d ∧ V s ∧ V t ∧
      E.add (E.mul s x) (E.mul t y) = d ∧ E.gcd x y = .ok d ∧
      d = (if E.isZero x && E.isZero y then E.zero else E.one) ∧ E.normalized d = d := by
  obtain ⟨d, s, t, e, hd, hs, ht, hb, hg⟩ := M.eucRep.gcdx_spec x y hx hy
  have m1 := M.rep.mul s x hs hx
  have m2 := M.rep.mul t y ht hy
  have ad := M.rep.add _ _ m1.1 m2.1
  have hd' : d = (if E.isZero x && E.isZero y then E.zero else E.one) := by
    have := M.gcd_eq x y hx hy
    rw [hg] at this; injection this
  refine ⟨d, s, t, e, hd, hs, ht, M.rep.inj _ _ ad.1 hd (by rw [ad.2, m1.2, m2.2, hb]), hg, hd', ?_⟩
  rw [hd']; exact M.normalized_zero_one _

theorem gcd_divides (x y : F) (hx : V x) (hy : V y) :
    ∃ d, E.gcd x y = .ok d ∧ E.gcd y x = .ok d ∧ V d ∧
      d = (if E.isZero x && E.isZero y then E.zero else E.one) ∧ E.normalized d = d ∧
      (∃ c, V c ∧ E.mul d c = x) ∧ (∃ c, V c ∧ E.mul d c = y) ∧
      (∀ c, V c → (∃ c', V c' ∧ E.mul c c' = x) → (∃ c', V c' ∧ E.mul c c' = y) → ∃ c', V c' ∧ E.mul c c' = d) := by
  refine ⟨_, M.gcd_eq x y hx hy, ?_, ?_, rfl, M.normalized_zero_one _, ?_⟩
  · rw [M.gcd_eq y x hy hx, Bool.and_comm]
  · split
    · exact M.rep.v_zero
    · exact M.rep.v_one
  cases h : (E.isZero x && E.isZero y)
  · simp only [Bool.false_eq_true, if_false]
    refine ⟨⟨x, hx, M.one_mul_eq x hx⟩, ⟨y, hy, M.one_mul_eq y hy⟩, ?_⟩
    intro c hc ⟨c1, hc1, e1⟩ ⟨c2, hc2, e2⟩
    have hc0 : E.isZero c = false := by
      cases hcz : E.isZero c
      · rfl
      · -- a common divisor `0` would make both arguments `0`
        rw [M.eq_zero c hc hcz, M.zero_mul_eq _ hc1] at e1
        rw [M.eq_zero c hc hcz, M.zero_mul_eq _ hc2] at e2
        rw [← e1, ← e2, M.isZero_zero] at h
        cases h
    obtain ⟨u, _, hvu, he, _⟩ := (M.units c hc).2.2.1 hc0
    exact ⟨u, hvu, he⟩
  · simp only [if_true]
    rw [Bool.and_eq_true] at h
    have ex := M.eq_zero x hx h.1
    have ey := M.eq_zero y hy h.2
    refine ⟨⟨E.zero, M.rep.v_zero, ?_⟩, ⟨E.zero, M.rep.v_zero, ?_⟩, ?_⟩
    · rw [ex]; exact M.zero_mul_eq _ M.rep.v_zero
    · rw [ey]; exact M.zero_mul_eq _ M.rep.v_zero
    · intro c hc h _; rw [ex] at h; exact h

theorem lcm_spec (x y : F) (hx : V x) (hy : V y) (hxy : (E.isZero x && E.isZero y) = false) :
    ∃ l g, E.lcm x y = .ok l ∧ E.gcd x y = .ok g ∧ V l ∧ V g ∧ g = E.one ∧
      (∃ u, V u ∧ E.isZero u = false ∧ E.mul (E.mul l g) u = E.mul x y) ∧
      E.normalized l = l ∧
      l = (if E.isZero x || E.isZero y then E.zero else E.one) := by
  have hg := M.gcd_eq x y hx hy
  rw [hxy] at hg
  simp only [Bool.false_eq_true, if_false] at hg
  have hd := M.rep.div y E.one hy M.rep.v_one (by rw [M.rep.phi_one]; exact one_ne_zero)
  have hm := M.rep.mul x _ hx hd.1
  have hxy' := M.rep.mul x y hx hy
  have hphi : φ (E.mul x (E.div y E.one)) = φ x * φ y := by rw [hm.2, hd.2, M.rep.phi_one, div_one]
  have hl : E.lcm x y = .ok (E.normalized (E.mul x (E.div y E.one))) := by
    unfold EucOps.lcm; rw [hg]; simp [M.isZero_one]
  have hz : E.isZero (E.mul x (E.div y E.one)) = (E.isZero x || E.isZero y) := by
    rw [Bool.eq_iff_iff, Bool.or_eq_true, M.rep.isZero_iff _ hm.1, M.rep.isZero_iff x hx, M.rep.isZero_iff y hy,
      hphi, mul_eq_zero]
  have hval : E.normalized (E.mul x (E.div y E.one)) = (if E.isZero x || E.isZero y then E.zero else E.one) := by
    rw [M.normalized_eq _ hm.1, hz]
    cases h : (E.isZero x || E.isZero y)
    · rfl
    · simp only [if_true]; exact M.eq_zero _ hm.1 (hz.trans h)
  have hvl := M.normalized_valid _ hm.1
  refine ⟨_, _, hl, hg, hvl, M.rep.v_one, rfl, ?_, M.normalized_idem _ hm.1, hval⟩
  rw [hval]
  cases h : (E.isZero x || E.isZero y)
  · -- both non-zero: l = 1, u = x·y
    simp only [Bool.false_eq_true, if_false]
    refine ⟨E.mul x y, hxy'.1, (M.isZero_mul x y hx hy).trans h, ?_⟩
    rw [M.one_mul_eq _ M.rep.v_one, M.one_mul_eq _ hxy'.1]
  · -- an argument is zero: l = 0 = x·y, u = 1
    simp only [if_true]
    refine ⟨E.one, M.rep.v_one, M.isZero_one, ?_⟩
    rw [M.zero_mul_eq _ M.rep.v_one, M.zero_mul_eq _ M.rep.v_one]
    exact (M.eq_zero _ hxy'.1 ((M.isZero_mul x y hx hy).trans h)).symm

theorem lcm_zero_zero (x y : F) (hx : V x) (hy : V y) (hxy : (E.isZero x && E.isZero y) = true) :
    E.lcm x y = .panic := by
  rw [Bool.and_eq_true, M.rep.isZero_iff x hx, M.rep.isZero_iff y hy] at hxy
  exact M.eucRep.lcm_zero_zero x y hx hy hxy.1 hxy.2

end FieldModel

namespace Q
def toRat (x : Q) : ℚ := (x.num : ℚ) / (x.den : ℚ)

theorem toRat_make (n d : Int) : toRat (make n d) = (n : ℚ) / (d : ℚ) := by
  by_cases hn : n = 0
  · simp [hn, make, toRat]
  · obtain ⟨s, hs, _, hg, h1, h2, e⟩ := make_eq n d hn
    rw [e]
    unfold toRat
    have hgq : (((Int.gcd n d : Nat) : Int) : ℚ) ≠ 0 := Int.cast_ne_zero.2 (Int.natCast_ne_zero.2 hg.ne')
    have hsq : (s : ℚ) ≠ 0 := Int.cast_ne_zero.2 (by rcases hs with rfl | rfl <;> decide)
    rw [Int.cast_div h1 hgq, Int.cast_div h2 hgq, div_div_div_cancel_right₀ hgq, Int.cast_mul, Int.cast_mul,
      mul_div_mul_right _ _ hsq]

theorem toRat_one : toRat one = 1 := by simp [one, toRat]

theorem den_ne {x : Q} (h : WF x) : (x.den : ℚ) ≠ 0 := by
  have := h.1
  have : x.den ≠ 0 := by omega
  exact_mod_cast this

theorem den_mul_ne {a b : Q} (ha : WF a) (hb : WF b) : a.den * b.den ≠ 0 :=
  Int.mul_ne_zero (by have := ha.1; omega) (by have := hb.1; omega)

theorem toRat_eq_zero {x : Q} (h : WF x) : toRat x = 0 ↔ x.num = 0 := by
  unfold toRat
  rw [div_eq_zero_iff]
  constructor
  · rintro (h0 | h0)
    · exact_mod_cast h0
    · exact absurd h0 (den_ne h)
  · intro h0; left; exact_mod_cast h0

theorem fieldRep : FieldRep ratOps WF toRat where
  inj := by
    intro a b ha hb h
    have := Rat.div_int_inj ha.1 hb.1 ha.2 hb.2 h
    cases a; cases b; simp_all
  v_zero := wf_zero
  phi_zero := by simp [ratOps, zero, toRat]
  v_one := wf_one
  phi_one := toRat_one
  isZero_iff := by
    intro a ha
    rw [toRat_eq_zero ha]; simp [ratOps, isZero]
  isOne_iff := by
    intro a ha
    simp only [ratOps, isOne, beq_iff_eq, toRat]
    rw [div_eq_one_iff_eq (den_ne ha)]
    exact ⟨fun h => by exact_mod_cast h, fun h => by exact_mod_cast h⟩
  add := by
    intro a b ha hb
    have hd := den_mul_ne ha hb
    refine ⟨make_wf _ _ hd, (toRat_make _ _).trans ?_⟩
    unfold toRat; push_cast
    rw [div_add_div _ _ (den_ne ha) (den_ne hb), mul_comm (b.num : ℚ)]
  sub := by
    intro a b ha hb
    have hd := den_mul_ne ha hb
    refine ⟨make_wf _ _ hd, (toRat_make _ _).trans ?_⟩
    unfold toRat; push_cast
    rw [div_sub_div _ _ (den_ne ha) (den_ne hb), mul_comm (b.num : ℚ)]
  mul := by
    intro a b ha hb
    have hd := den_mul_ne ha hb
    refine ⟨make_wf _ _ hd, (toRat_make _ _).trans ?_⟩
    unfold toRat; push_cast
    rw [div_mul_div_comm]
  div := by
    intro a b ha hb hb0
    have hn : b.num ≠ 0 := fun h => hb0 ((toRat_eq_zero hb).2 h)
    have hz : isZero b = false := by simp [isZero, hn]
    have hi : WF (make b.den b.num) := make_wf _ _ hn
    have hd := den_mul_ne ha hi
    have e : ratOps.div a b = make (a.num * (make b.den b.num).num) (a.den * (make b.den b.num).den) := by
      simp [ratOps, div, inv, hz, mul]
    rw [e]
    refine ⟨make_wf _ _ hd, ?_⟩
    rw [toRat_make]
    have h2 := toRat_make b.den b.num
    unfold toRat at h2 ⊢
    push_cast
    rw [mul_div_mul_comm, h2, ← inv_div (b.num : ℚ) (b.den : ℚ)]
    exact (div_eq_mul_inv _ _).symm
  normUnit := by
    intro a ha
    show WF (normUnit a) ∧ toRat (normUnit a) ≠ 0
    by_cases hn : a.num = 0
    · rw [normUnit_of_zero hn]
      exact ⟨wf_one, by rw [toRat_one]; exact one_ne_zero⟩
    · rw [normUnit_of_ne hn]
      refine ⟨make_wf _ _ hn, ?_⟩
      rw [toRat_make]
      have hnq : (a.num : ℚ) ≠ 0 := Int.cast_ne_zero.2 hn
      exact div_ne_zero (den_ne ha) hnq


theorem inv_some_wf (x : Q) (h0 : x.num ≠ 0) : inv x = some (make x.den x.num) ∧ WF (make x.den x.num) := by
  refine ⟨by simp [inv, isZero, h0], make_wf _ _ h0⟩

theorem toRat_inv (x : Q) : toRat (make x.den x.num) = (toRat x)⁻¹ := by
  rw [toRat_make]; unfold toRat; rw [inv_div]

theorem fieldModel : FieldModel ratOps WF toRat where
  rep := fieldRep
  rem_eq := fun _ _ => rfl
  norm_eq := fun _ => rfl
  normUnit_zero := by
    intro a ha h0
    have hn := (toRat_eq_zero ha).1 h0
    show toRat (normUnit a) = _
    rw [normUnit_of_zero hn]; exact toRat_one
  normUnit_ne := by
    intro a ha h0
    have hn : a.num ≠ 0 := fun h => h0 ((toRat_eq_zero ha).2 h)
    show toRat (normUnit a) = _
    rw [normUnit_of_ne hn, toRat_inv a]
  isUnit_eq := fun _ => rfl
  inv_zero := by
    intro a ha h0
    have hn := (toRat_eq_zero ha).1 h0
    show inv a = none
    simp [inv, isZero, hn]
  inv_ne := by
    intro a ha h0
    have hn : a.num ≠ 0 := fun h => h0 ((toRat_eq_zero ha).2 h)
    exact ⟨_, (inv_some_wf a hn).1, (inv_some_wf a hn).2, toRat_inv a⟩

theorem isZero_iff (x : Q) : ratOps.isZero x = true ↔ x.num = 0 := by
  show (x.num == 0) = true ↔ _; simp

theorem isZero_false_iff (x : Q) : ratOps.isZero x = false ↔ x.num ≠ 0 := by
  show (x.num == 0) = false ↔ _; simp

theorem ite_and {α : Type} (x y : Q) (u v : α) :
    (if (ratOps.isZero x && ratOps.isZero y) = true then u else v) = if x.num = 0 ∧ y.num = 0 then u else v := by
  simp [ratOps, isZero]

end Q

/-! ## the model of `FF<p>`, `p` any prime

`ffOps p` (residues `0..p`, `inv` = the unique solution of `a·x ≡ 1 (mod p)`, what `ff.rs` obtains from the integers'
`gcdx(a, p)` reduced mod `p`; the search succeeds by `FF.inv_spec`) -/

namespace FF
variable (p : Nat) [hp : Fact p.Prime]

/-- `rem_euclid`: the representative in `0..p` of the class of `a` -/
theorem mk_spec (a : Int) : mk p a < p ∧ ((mk p a : ℕ) : ZMod p) = (a : ZMod p) := by
  have hp0 : (0 : Int) < p := by have := hp.out.pos; omega
  have h1 := Int.emod_nonneg a hp0.ne'
  have h2 := Int.emod_lt_of_pos a hp0
  change (a % p).toNat < p ∧ (((a % p).toNat : ℕ) : ZMod p) = _
  refine ⟨by omega, ?_⟩
  rw [← Int.cast_natCast, Int.toNat_of_nonneg h1, ZMod.intCast_mod]

theorem cast_eq_zero_iff (a : Nat) (ha : a < p) : (a : ZMod p) = 0 ↔ a = 0 := by
  rw [ZMod.natCast_eq_zero_iff]
  exact ⟨fun h => Nat.eq_zero_of_dvd_of_lt h ha, fun h => by rw [h]; exact dvd_zero _⟩

theorem inv_spec (b : Nat) (hb : b < p) (hb0 : (b : ZMod p) ≠ 0) :
    ∃ i, inv p b = some i ∧ i < p ∧ (b : ZMod p) * (i : ZMod p) = 1 := by
  obtain ⟨i, hi, hip, he⟩ := inv_of_witness p b ((b : ZMod p)⁻¹).val (by rintro rfl; simp at hb0) (ZMod.val_lt _) (by
    rw [← ZMod.natCast_eq_natCast_iff']
    push_cast
    rw [ZMod.natCast_val, ZMod.cast_id', id, mul_inv_cancel₀ hb0])
  refine ⟨i, hi, hip, ?_⟩
  rw [← ZMod.natCast_eq_natCast_iff'] at he
  push_cast at he
  exact he

theorem fieldRep : FieldRep (ffOps p) (fun a => a < p) (fun a => (a : ZMod p)) where
  inj := by
    intro a b ha hb h
    rw [ZMod.natCast_eq_natCast_iff', Nat.mod_eq_of_lt ha, Nat.mod_eq_of_lt hb] at h
    exact h
  v_zero := hp.out.pos
  phi_zero := by simp [ffOps]
  v_one := Nat.mod_lt _ hp.out.pos
  phi_one := by simp [ffOps]
  isZero_iff := by
    intro a ha
    simp only [ffOps, beq_iff_eq]
    exact (cast_eq_zero_iff p a ha).symm
  isOne_iff := by
    intro a ha
    simp only [ffOps, beq_iff_eq]
    refine ⟨fun h => by rw [h]; simp, fun h => ?_⟩
    have : (a : ZMod p) = ((1 : ℕ) : ZMod p) := by rw [h]; simp
    rw [ZMod.natCast_eq_natCast_iff', Nat.mod_eq_of_lt ha, Nat.mod_eq_of_lt hp.out.one_lt] at this
    exact this
  add := by
    intro a b _ _
    exact ⟨Nat.mod_lt _ hp.out.pos, by simp [ffOps, add]⟩
  sub := by
    intro a b _ _
    obtain ⟨h1, h2⟩ := mk_spec p ((a : Int) - b)
    exact ⟨h1, h2.trans (by simp)⟩
  mul := by
    intro a b _ _
    exact ⟨Nat.mod_lt _ hp.out.pos, by simp [ffOps, mul]⟩
  div := by
    intro a b ha hb hb0
    obtain ⟨i, hi, hip, he⟩ := inv_spec p b hb hb0
    have e : (ffOps p).div a b = (a * i) % p := by simp [ffOps, div, hi, mul]
    rw [e]
    refine ⟨Nat.mod_lt _ hp.out.pos, ?_⟩
    rw [ZMod.natCast_mod]; push_cast
    rw [div_eq_mul_inv, eq_comm, ← eq_inv_of_mul_eq_one_right he]
  normUnit := by
    intro a ha
    show FF.normUnit p a < p ∧ ((FF.normUnit p a : ℕ) : ZMod p) ≠ 0
    unfold FF.normUnit
    by_cases h0 : (a : ZMod p) = 0
    · obtain rfl := (cast_eq_zero_iff p a ha).1 h0
      rw [inv_zero]
      exact ⟨Nat.mod_lt _ hp.out.pos, by simp⟩
    · obtain ⟨i, hi, hip, he⟩ := inv_spec p a ha h0
      rw [hi]
      exact ⟨hip, right_ne_zero_of_mul_eq_one he⟩


theorem one_mod : 1 % p = 1 := Nat.mod_eq_of_lt hp.out.one_lt

theorem fieldModel : FieldModel (ffOps p) (fun a => a < p) (fun a => (a : ZMod p)) where
  rep := fieldRep p
  rem_eq := fun _ _ => rfl
  norm_eq := fun _ => rfl
  normUnit_zero := by
    intro a ha h0
    obtain rfl := (cast_eq_zero_iff p a ha).1 h0
    show ((FF.normUnit p 0 : ℕ) : ZMod p) = 1
    unfold FF.normUnit; rw [inv_zero]; simp
  normUnit_ne := by
    intro a ha h0
    obtain ⟨i, hi, _, he⟩ := inv_spec p a ha h0
    show ((FF.normUnit p a : ℕ) : ZMod p) = _
    unfold FF.normUnit; rw [hi]
    exact eq_inv_of_mul_eq_one_right he
  isUnit_eq := fun _ => rfl
  inv_zero := by
    intro a ha h0
    obtain rfl := (cast_eq_zero_iff p a ha).1 h0
    exact inv_zero p
  inv_ne := by
    intro a ha h0
    obtain ⟨i, hi, hip, he⟩ := inv_spec p a ha h0
    exact ⟨i, hi, hip, eq_inv_of_mul_eq_one_right he⟩

omit hp in
theorem isZero_iff (a : Nat) : (ffOps p).isZero a = true ↔ a = 0 := by
  show (a == 0) = true ↔ _; simp

omit hp in
theorem isZero_false_iff (a : Nat) : (ffOps p).isZero a = false ↔ a ≠ 0 := by
  show (a == 0) = false ↔ _; simp

omit hp in
theorem ite_and {α : Type} (x y : Nat) (u v : α) :
    (if ((ffOps p).isZero x && (ffOps p).isZero y) = true then u else v) = if x = 0 ∧ y = 0 then u else v := by
  simp [ffOps]

theorem one_eq : (ffOps p).one = 1 := one_mod p

end FF
end Yuiv.C15
