import Yuiv.Proofs.C02MirrorCube
import Yuiv.Proofs.KhRefCube
/-
`KhRef.Cube.d` without a fold.  `C06Cycle.cube_d_eq` turns the imperative code into the fold `dRaw`, which appends one list
per cube edge and gives up at the first undefined one; such a fold is all-or-nothing (`foldlM_appendAll`), so `d g` is either
undefined or the concatenation `rawTerms` of the edge terms, filtered by `baseKeep` (`cube_d_spec`).
-/
namespace Yuiv.C06Cycle
open Yuiv.KhRef

theorem foldlM_appendAll {α β : Type} (q : α → Bool) (f : α → Option (List β)) (ks : List α) (out : List β) :
    ks.foldlM (fun out k => if q k then some out else (f k).map (fun ts => out ++ ts)) out =
      if ks.all (fun k => q k || (f k).isSome) then
        some (out ++ ks.flatMap (fun k => if q k then [] else (f k).getD [])) else none := by
  induction ks generalizing out with
  | nil => simp
  | cons k ks ih =>
    rw [List.foldlM_cons, List.all_cons, List.flatMap_cons]
    cases hq : q k
    · cases hf : f k with
      | none => rfl
      | some ts =>
        simp only [Bool.false_eq_true, if_false, Option.map_some, Option.isSome_some, Bool.or_true, Bool.true_and,
          Option.getD_some]
        show (some (out ++ ts)).bind _ = _
        rw [Option.bind_some, ih, List.append_assoc]
    · simp only [if_true, Bool.true_or, Bool.true_and, List.nil_append]
      exact ih out

/-- the terms of `d g` before the base-point filter, edge by edge -/
def rawTerms (c : Cube) (p : Params) (g : Gen) : List Term :=
  (List.range c.n).flatMap (fun k => if g.s.testBit k then [] else (edgeTerms c p g k).getD [])

theorem dRaw_spec (c : Cube) (p : Params) (g : Gen) :
    dRaw c p g = if (List.range c.n).all (fun k => g.s.testBit k || (edgeTerms c p g k).isSome) then
      some (rawTerms c p g) else none := by
  rw [dRaw, foldlM_appendAll (fun k => g.s.testBit k) (edgeTerms c p g), List.nil_append]
  rfl

theorem dRaw_of_edges (c : Cube) (p : Params) (g : Gen)
    (h : ∀ k, k < c.n → g.s.testBit k = false → (edgeTerms c p g k).isSome = true) :
    dRaw c p g = some (rawTerms c p g) := by
  rw [dRaw_spec]
  refine if_pos (List.all_eq_true.2 fun k hk => ?_)
  cases hb : g.s.testBit k
  · rw [Bool.false_or]
    exact h k (List.mem_range.1 hk) hb
  · exact Bool.true_or _

theorem mem_rawTerms (c : Cube) (p : Params) (g : Gen) (x : Term) :
    x ∈ rawTerms c p g ↔ ∃ k < c.n, g.s.testBit k = false ∧ x ∈ (edgeTerms c p g k).getD [] := by
  rw [rawTerms, List.mem_flatMap]
  constructor
  · rintro ⟨k, hk, hx⟩
    cases hb : g.s.testBit k
    · rw [hb] at hx
      exact ⟨k, List.mem_range.1 hk, hb, hx⟩
    · rw [hb] at hx
      cases hx
  · rintro ⟨k, hk, hb, hx⟩
    exact ⟨k, List.mem_range.2 hk, by rw [hb]; exact hx⟩

theorem baseKeep_of_unreduced (c : Cube) (hb : c.base = none) (y : Gen) : baseKeep c y = true := by
  rw [baseKeep, Cube.baseCircle_of_base_none c hb]

theorem cube_d_spec (c : Cube) (p : Params) (g : Gen) :
    c.d p g = if (List.range c.n).all (fun k => g.s.testBit k || (edgeTerms c p g k).isSome) then
      some ((rawTerms c p g).filter (fun t => baseKeep c t.1)).toArray else none := by
  rw [cube_d_eq, dRaw_spec]
  by_cases hall : (List.range c.n).all (fun k => g.s.testBit k || (edgeTerms c p g k).isSome) = true
  · rw [if_pos hall, if_pos hall, Option.map_some]
    cases hb : c.base with
    | none => rw [List.filter_eq_self.2 fun t _ => baseKeep_of_unreduced c hb t.1]
    | some e => rfl
  · rw [if_neg hall, if_neg hall]
    rfl

theorem mem_d (c : Cube) (p : Params) (g : Gen) (ts : Array Term) (hd : c.d p g = some ts) (t : Term)
    (ht : t ∈ ts.toList) :
    ∃ k tl mt, k < c.n ∧ g.s.testBit k = false ∧
      C02Mirror.edgeTerms p.h p.t c.circ[g.s]! c.circ[g.s ||| 1 <<< k]! g.mask = some tl ∧ mt ∈ tl ∧
      t = ((⟨g.s ||| 1 <<< k, mt.1⟩ : Gen), edgeSign g.s k * mt.2) := by
  rw [cube_d_spec] at hd
  split at hd
  · cases hd
    obtain ⟨k, hk, hb, hx⟩ := (mem_rawTerms c p g t).1 (List.mem_filter.1 ht).1
    rw [C02Mirror.edgeTerms_bridge] at hx
    cases he : C02Mirror.edgeTerms p.h p.t c.circ[g.s]! c.circ[g.s ||| 1 <<< k]! g.mask with
    | none => rw [he] at hx; cases hx
    | some tl =>
      rw [he] at hx
      obtain ⟨mt, hmt, rfl⟩ := List.mem_map.1 hx
      exact ⟨k, tl, mt, hk, hb, he, hmt, rfl⟩
  · cases hd

end Yuiv.C06Cycle
