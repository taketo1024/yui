import Yuiv.Proofs.C06Canon
import Yuiv.Props.C06
import Mathlib.Tactic.LinearCombination
/-
C06 (extension) — the CONSTRUCTION of the canonical cycles (`Model/C06Canon.lean`).

Proved for all inputs:
 (a) `canon_expand_spec`, `canon_expand_canonical`, `coefSpec_bits`: the expansion of ⊗(X or X − h) into cube
     generators has, on every labelling mask, the coefficient ∏ over circles of (1 if label X; −h if label 1 and
     colour b; 0 if label 1 and colour a); the chain is strictly sorted by mask and zero-free (canonical form).
 (b) the BFS colouring of `colored_seifert_circles`: it terminates within the budget for every hash-set iteration
     order (`colouring_returns`); the set of circles taken out of `remain` is exactly the set reachable from the base
     circle (`colouring_reached_iff`), whatever the iteration order; if the adjacency admits a proper 2-colouring χ
     (Seifert graphs do) the result is χ on the reachable circles and A elsewhere (`colouring_spec`), hence it does
     not depend on the iteration order (`colouring_order_independent`), adjacent reached circles get opposite
     colours (`colouring_proper_on_reached`) and on a connected graph every circle is coloured
     (`colouring_total_of_connected`).  The quirk of the code that the start circle stays in `remain` and is
     re-coloured by its first neighbour is covered: it is re-coloured with the colour it had.
 (c) `mergeColours_zero` (from `colour_products`) and the LOCAL cycle lemma `canon_is_cycle_local`: merging two
     differently coloured circles of the canonical chain gives 0 on every target generator.
Not in this file: the lift to `KhRef.Cube.d (canon) = 0` (`Props/C06Cycle.canon_is_cycle`, under the hypothesis "every
crossing joins two differently coloured Seifert circles", which the driver re-checks on every instance and which
`Props/C06Closure` proves for braid closures) and the specification of the walk `components`/`seifert_circles`
(`Props/C06Walk`).  Bipartiteness of Seifert graphs in general is not proved.
-/
namespace Yuiv.C06Canon
open Yuiv Yuiv.KhRef Yuiv.C06

/-- the coefficient of every labelling mask in the expanded chain is the product formula -/
theorem canon_expand_spec (h : Int) (cs : List Colour) (m : Nat) :
    coefAt (expand h cs) m = coefSpec h cs m := by
  rw [coefAt_eq_sumAt, sumAt_expand]

/-- canonical form: strictly increasing masks (so no mask twice), no zero coefficient, masks below 2^#circles -/
theorem canon_expand_canonical (h : Int) (cs : List Colour) :
    (expand h cs).Pairwise (fun x y => x.1 < y.1) ∧ (∀ t ∈ expand h cs, t.2 ≠ 0 ∧ t.1 < 2 ^ cs.length) := by
  induction cs with
  | nil => simp [expand]
  | cons c cs ih =>
    obtain ⟨hs, hn⟩ := ih
    constructor
    · simp only [expand]
      rw [List.pairwise_flatMap]
      constructor
      · intro mk _
        rw [List.pairwise_map]
        exact (factor_sorted h c).imp (fun hxy => by simpa using hxy)
      · refine hs.imp ?_
        intro mk1 mk2 h12 x hx y hy
        simp only [List.mem_map] at hx hy
        obtain ⟨b1, hb1, rfl⟩ := hx
        obtain ⟨b2, hb2, rfl⟩ := hy
        have := (factor_nonzero h c b1 hb1).2
        simp only
        omega
    · intro t ht
      simp only [expand, List.mem_flatMap, List.mem_map] at ht
      obtain ⟨mk, hmk, bk, hbk, rfl⟩ := ht
      obtain ⟨h1, h2⟩ := hn mk hmk
      obtain ⟨h3, h4⟩ := factor_nonzero h c bk hbk
      refine ⟨Int.mul_ne_zero h3 h1, ?_⟩
      simp only [List.length_cons, Nat.pow_succ]
      omega

/-- the mask formula read on a list of labels (entry `i` = label of circle `i`, `true` = X) -/
theorem coefSpec_bits (h : Int) : ∀ (cs : List Colour) (xs : List Bool), xs.length = cs.length →
    coefSpec h cs (bitsToNat xs) = coefList h cs xs := by
  intro cs
  induction cs with
  | nil => intro xs hx; cases xs with
    | nil => simp [coefSpec, bitsToNat, coefList]
    | cons x xs => simp at hx
  | cons c cs ih =>
    intro xs hx
    cases xs with
    | nil => simp at hx
    | cons x xs =>
      have hl : xs.length = cs.length := by simpa using hx
      have e1 : bitsToNat (x :: xs) / 2 = bitsToNat xs := by
        cases x <;> simp [bitsToNat]
        omega
      have e2 : (bitsToNat (x :: xs) % 2 == 1) = x := by cases x <;> simp [bitsToNat]
      simp only [coefSpec, coefList, e1, e2, ih xs hl]

/-- shape of the result of the construction: no cycle (not a knot), or the expansions of one colour list `cols`
(reduced) resp. of `cols` and of the swapped colours (unreduced), all at the orientation preserving state — so
`canon_expand_spec`, `canon_expand_canonical` and `canon_is_cycle_local` speak about what `canonCyclesAt` returns -/
theorem canonCyclesAt_form (l : Link) (signs : List Int) (h : Int) (base : Option Nat) (zs : List Chain)
    (hz : canonCyclesAt l signs h base = .ok zs) :
    zs = [] ∨ ∃ cols : List Colour,
      zs = if base.isSome then [chainOf (oriPresState signs) h cols]
           else [chainOf (oriPresState signs) h cols, chainOf (oriPresState signs) h (cols.map Colour.other)] := by
  rcases canonCyclesAt_cc l signs h base zs hz with rfl | ⟨_, _, cc, _, _, _, _, hzs⟩
  · exact Or.inl rfl
  · exact Or.inr ⟨_, hzs⟩

/-- the budget of the model is enough for every iteration order -/
theorem colouring_returns (adj : Nat → Nat → Bool) (order : Nat → List Nat → List Nat) (hp : PermOrder order)
    (n i : Nat) : ∃ r, colouring adj order n i = some r := by
  unfold colouring
  apply bfs_terminates hp
  simp

/-- the circles taken out of `remain` are exactly the circles reachable from the start (for every iteration order) -/
theorem colouring_reached_iff (adj : Nat → Nat → Bool) (order : Nat → List Nat → List Nat) (hp : PermOrder order)
    (n i : Nat) (hi : i < n) (colf : Nat → Colour) (remf : List Nat)
    (hres : colouring adj order n i = some (colf, remf)) (u : Nat) (hu : u < n) :
    Reach adj n i u ↔ (u ∉ remf ∨ u = i) := by
  have inv0 : Inv adj n i [i] (List.range n) := by
    refine ⟨?_, ?_, ?_, ?_⟩
    · intro u hu hc
      rcases hc with hc | rfl
      · exact absurd (List.mem_range.mpr hu) hc
      · left; simp
    · intro u hu; simp at hu; subst hu; exact Reach.start
    · intro u hu hc; exact absurd (List.mem_range.mpr hu) hc
    · intro u hu; exact List.mem_range.mp hu
  exact reach_iff (bfs_ind hp (fun q remain _ => Inv adj n i q remain) (fun _ _ _ _ _ hA inv => inv.round hA)
    _ _ _ _ colf remf hres inv0) hi u hu

/-- bipartite adjacency: the BFS returns χ on the reachable circles and the initial colour A elsewhere -/
theorem colouring_spec (adj : Nat → Nat → Bool) (order : Nat → List Nat → List Nat) (hp : PermOrder order)
    (n i : Nat) (hi : i < n) (χ : Nat → Colour) (hχ : ∀ u v, adj u v = true → χ v = (χ u).other) (hχi : χ i = .a)
    (colf : Nat → Colour) (remf : List Nat) (hres : colouring adj order n i = some (colf, remf)) (u : Nat) :
    (u < n → Reach adj n i u → colf u = χ u) ∧ (¬ (u < n ∧ Reach adj n i u) → colf u = .a) := by
  have J : Follows χ (List.range n) (fun _ => .a) [] remf colf :=
    bfs_ind hp (Follows χ (List.range n) (fun _ => .a)) (fun _ _ _ _ _ hA J => J.round hχ hA) _ _ _ _ colf remf hres
      ⟨by intro u hu; simp at hu; subst hu; exact hχi.symm, fun _ hu => hu, fun _ h1 h2 => absurd h1 h2,
        fun _ _ => rfl, fun _ hu => hu⟩
  constructor
  · intro hu hreach
    rcases (colouring_reached_iff adj order hp n i hi colf remf hres u hu).mp hreach with hout | rfl
    · exact J.out u (List.mem_range.mpr hu) hout
    · exact J.keep u hχi.symm
  · intro hnot
    by_cases hu : u < n
    · have hr := colouring_reached_iff adj order hp n i hi colf remf hres u hu
      have hin : u ∈ remf := by
        by_cases hin : u ∈ remf
        · exact hin
        · exact absurd ⟨hu, hr.mpr (Or.inl hin)⟩ hnot
      exact J.same u (Or.inr hin)
    · exact J.same u (Or.inl (fun hc => hu (List.mem_range.mp hc)))

/-- the colouring does not depend on the hash-set iteration order -/
theorem colouring_order_independent (adj : Nat → Nat → Bool) (o1 o2 : Nat → List Nat → List Nat)
    (hp1 : PermOrder o1) (hp2 : PermOrder o2) (n i : Nat) (hi : i < n)
    (χ : Nat → Colour) (hχ : ∀ u v, adj u v = true → χ v = (χ u).other) (hχi : χ i = .a) :
    ∃ c1 r1 c2 r2, colouring adj o1 n i = some (c1, r1) ∧ colouring adj o2 n i = some (c2, r2) ∧ ∀ u, c1 u = c2 u := by
  obtain ⟨⟨c1, r1⟩, h1⟩ := colouring_returns adj o1 hp1 n i
  obtain ⟨⟨c2, r2⟩, h2⟩ := colouring_returns adj o2 hp2 n i
  refine ⟨c1, r1, c2, r2, h1, h2, fun u => ?_⟩
  have s1 := colouring_spec adj o1 hp1 n i hi χ hχ hχi c1 r1 h1 u
  have s2 := colouring_spec adj o2 hp2 n i hi χ hχ hχi c2 r2 h2 u
  by_cases hc : u < n ∧ Reach adj n i u
  · rw [s1.1 hc.1 hc.2, s2.1 hc.1 hc.2]
  · rw [s1.2 hc, s2.2 hc]

/-- soundness: a reached circle and an adjacent circle get opposite colours (all edges, not only tree edges) -/
theorem colouring_proper_on_reached (adj : Nat → Nat → Bool) (order : Nat → List Nat → List Nat) (hp : PermOrder order)
    (n i : Nat) (hi : i < n) (χ : Nat → Colour) (hχ : ∀ u v, adj u v = true → χ v = (χ u).other) (hχi : χ i = .a)
    (colf : Nat → Colour) (remf : List Nat) (hres : colouring adj order n i = some (colf, remf))
    (u v : Nat) (hu : u < n) (hv : v < n) (hr : Reach adj n i u) (huv : adj u v = true) :
    colf v = (colf u).other := by
  rw [(colouring_spec adj order hp n i hi χ hχ hχi colf remf hres v).1 hv (Reach.step hr huv hv),
    (colouring_spec adj order hp n i hi χ hχ hχi colf remf hres u).1 hu hr]
  exact hχ u v huv

/-- completeness: on a connected graph every circle is taken out of `remain` (coloured through a neighbour) and
carries χ -/
theorem colouring_total_of_connected (adj : Nat → Nat → Bool) (order : Nat → List Nat → List Nat) (hp : PermOrder order)
    (n i : Nat) (hi : i < n) (χ : Nat → Colour) (hχ : ∀ u v, adj u v = true → χ v = (χ u).other) (hχi : χ i = .a)
    (hconn : ∀ u, u < n → Reach adj n i u)
    (colf : Nat → Colour) (remf : List Nat) (hres : colouring adj order n i = some (colf, remf)) :
    (∀ u, u < n → colf u = χ u) ∧ (∀ u, u < n → u ≠ i → u ∉ remf) := by
  constructor
  · intro u hu
    exact (colouring_spec adj order hp n i hi χ hχ hχi colf remf hres u).1 hu (hconn u hu)
  · intro u hu hne
    rcases (colouring_reached_iff adj order hp n i hi colf remf hres u hu).mp (hconn u hu) with h | h
    · exact h
    · exact absurd h hne

/-- non-vacuity: the path 0 — 1 — 2 — 3 with the start in the middle; the hypotheses hold and the result is not constant -/
def pathAdj (u v : Nat) : Bool := u + 1 == v || v + 1 == u
def pathChi (u : Nat) : Colour := if u % 2 = 1 then .a else .b

example : ∀ u v, pathAdj u v = true → pathChi v = (pathChi u).other := by
  intro u v h
  simp only [pathAdj, Bool.or_eq_true, beq_iff_eq] at h
  unfold pathChi
  rcases Nat.mod_two_eq_zero_or_one u with hu | hu <;> rcases Nat.mod_two_eq_zero_or_one v with hv | hv <;>
    simp [hu, hv, Colour.other] <;> omega

example : PermOrder ascending := fun _ xs => List.Perm.refl xs
example : PermOrder (fun _ xs => xs.reverse) := fun _ xs => List.reverse_perm xs

example : (colouring pathAdj ascending 4 1).map (fun r => ([r.1 0, r.1 1, r.1 2, r.1 3], r.2)) =
    some ([.b, .a, .b, .a], []) := by decide
example : (colouring pathAdj (fun _ xs => xs.reverse) 4 1).map (fun r => ([r.1 0, r.1 1, r.1 2, r.1 3], r.2)) =
    some ([.b, .a, .b, .a], []) := by decide

/-- the product of the two colour vectors vanishes (from `colour_products`: (X)(X − h) = 0 when t = 0) -/
theorem mergeColours_zero (h : Int) (c1 c2 : Colour) (hne : c1 ≠ c2) (y : Bool) : mergeColours h c1 c2 y = 0 := by
  have hp := colour_products h
  simp only at hp
  obtain ⟨hab, _, _⟩ := hp
  have hba : mul h 0 ((-h, 1) : A) X = (0, 0) := by
    simp [mul_eq, X]
  rw [mergeColours_eq_mul]
  cases c1 <;> cases c2
  · exact absurd rfl hne
  · simp only [colourVec, hab]; cases y <;> rfl
  · simp only [colourVec, hba]; cases y <;> rfl
  · exact absurd rfl hne

/-- LOCAL cycle lemma on labellings: let `cols` be the colours of the circles of a state and `i < j` two circles of
different colour. Merging them (the edge map of the cube at a crossing joining the two circles) sends the canonical
chain ⊗ (colour vectors) to 0: for every labelling `xs` of the other circles and every label `y` of the merged
circle, Σ_{x1,x2} z(xs[i:=x1, j:=x2]) · ⟨y | x1·x2⟩ = 0. -/
theorem canon_is_cycle_local_labels (h : Int) (cols : List Colour) (i j : Nat) (xs : List Bool) (y : Bool)
    (hij : i < j) (hj : j < cols.length) (hl : xs.length = cols.length)
    (hne : cols.getD i .a ≠ cols.getD j .a) :
    mergedCoef h cols i j xs y = 0 := by
  have key : ∀ x1 x2, coefList h cols (setAt j x2 (setAt i x1 xs)) =
      colourCoef h (cols.getD i .a) x1 * colourCoef h (cols.getD j .a) x2 *
        coefList h ((cols.eraseIdx j).eraseIdx i) ((xs.eraseIdx j).eraseIdx i) := by
    intro x1 x2
    have hg : (cols.eraseIdx j).getD i .a = cols.getD i .a := by
      simp only [List.getD_eq_getElem?_getD, List.getElem?_eraseIdx_of_lt hij]
    rw [setAt_eq_set, setAt_eq_set, coefList_set h cols j _ x2 hj (by rw [List.length_set]; exact hl),
      List.eraseIdx_set_gt hij,
      coefList_set h _ i _ x1 (by rw [List.length_eraseIdx]; split <;> omega)
        (by rw [List.length_eraseIdx, List.length_eraseIdx, hl]), hg]
    ring
  have hm := mergeColours_zero h _ _ hne y
  simp only [mergeColours, List.foldl] at hm
  simp only [mergedCoef, List.foldl, key]
  linear_combination (coefList h ((cols.eraseIdx j).eraseIdx i) ((xs.eraseIdx j).eraseIdx i)) * hm

/-- LOCAL cycle lemma on the canonical chain itself: the coefficients are read off the expanded chain
`expand h cols` (what `canonCycles` returns, up to the common state) at the masks of the labellings -/
theorem canon_is_cycle_local (h : Int) (cols : List Colour) (i j : Nat) (xs : List Bool) (y : Bool)
    (hij : i < j) (hj : j < cols.length) (hl : xs.length = cols.length)
    (hne : cols.getD i .a ≠ cols.getD j .a) :
    [true, false].foldl (fun acc x1 =>
      [true, false].foldl (fun acc x2 =>
        acc + coefAt (expand h cols) (bitsToNat (setAt j x2 (setAt i x1 xs))) * prodCoef h x1 x2 y) acc) 0 = 0 := by
  have e : ∀ x1 x2, coefAt (expand h cols) (bitsToNat (setAt j x2 (setAt i x1 xs))) =
      coefList h cols (setAt j x2 (setAt i x1 xs)) := by
    intro x1 x2
    rw [canon_expand_spec, coefSpec_bits h cols _ (by rw [setAt_eq_set, setAt_eq_set, List.length_set, List.length_set]; exact hl)]
  have := canon_is_cycle_local_labels h cols i j xs y hij hj hl hne
  simp only [mergedCoef] at this
  simp only [e]
  exact this

/-- non-vacuity: three circles coloured a, b, a; merging circles 0 and 1 kills the chain, and the chain is not zero -/
example : mergedCoef 2 [.a, .b, .a] 0 1 [true, true, true] true = 0 ∧ coefList 2 [.a, .b, .a] [true, false, true] = -2 := by
  decide

end Yuiv.C06Canon
