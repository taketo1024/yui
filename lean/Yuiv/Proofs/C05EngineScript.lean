import Yuiv.Proofs.C05EngineConnect
import Yuiv.Proofs.C05EngineDeloop
/-
C05 (engine) — scripts of engine operations (`Step`, `applyStep`, `runScript`) and `WF` over one step, the quantum degree
of the keys `deloop` produces, and the toy edge algebra over ℤ of the non-vacuity examples.
-/
namespace Yuiv.C05.Engine
open Yuiv.C05.Tng

variable {E : Type}

/-- one step of an explicit script on ONE complex (the steps the driver's `eg app / dl / el / con` requests perform) -/
inductive Step (E : Type) where
  | app (ct : KhRef.CT) (e : Array Nat)
  | dl (k : TKey) (r : Nat)
  | el (k0 k1 : TKey)
  | con (other : Cx E)

def applyStep (ops : EdgeOps E) (mkSdl : CobComp → E) (cx : Cx E) : Step E → Res (Cx E)
  | .app ct e => cx.appendX ops mkSdl ct e
  | .dl k r =>
    match cx.deloop ops k r with
    | .ok (_, cx') => .ok cx'
    | .panic => .panic
    | .err => .err
  | .el k0 k1 => cx.eliminate ops k0 k1
  | .con o => cx.connect ops o

def runScript (ops : EdgeOps E) (mkSdl : CobComp → E) (steps : List (Step E)) (cx : Cx E) : Res (Cx E) :=
  foldRes (applyStep ops mkSdl) steps cx

/-- the `dl` step of a script: `deloop`, the returned keys forgotten (`applyStep … (.dl k r)` is this `match`) -/
theorem deloop_discard_ok (ops : EdgeOps E) (cx cx' : Cx E) (k : TKey) (r : Nat)
    (h : (match cx.deloop ops k r with | .ok (_, c') => Res.ok c' | .panic => .panic | .err => .err) = .ok cx') :
    ∃ upd, cx.deloop ops k r = .ok (upd, cx') := by
  rcases hd : cx.deloop ops k r with ⟨upd, c⟩ | _ | _
  · simp only [hd, Res.ok.injEq] at h
    exact ⟨upd, h ▸ rfl⟩
  · simp [hd] at h
  · simp [hd] at h

theorem wf_applyStep (ops : EdgeOps E) (mkSdl : CobComp → E) (cx cx' : Cx E) (st : Step E) (hwf : WF ops cx)
    (hcon : ∀ o, st = .con o → WF ops o) (h : applyStep ops mkSdl cx st = .ok cx') : WF ops cx' := by
  cases st with
  | app ct e => exact wf_appendX ops mkSdl cx cx' ct e hwf h
  | dl k r =>
    obtain ⟨upd, hd⟩ := deloop_discard_ok ops cx cx' k r h
    exact wf_deloop ops cx cx' k r upd hwf hd
  | el k0 k1 => exact wf_eliminate ops cx cx' k0 k1 hwf h
  | con o => exact wf_connect ops cx o cx' hwf (hcon o rfl) h

theorem foldl_add_shift (l : List Int) : ∀ a : Int, l.foldl (· + ·) a = a + l.foldl (· + ·) 0 := by
  intro a
  rw [← List.foldl_assoc (ha := ⟨Int.add_assoc⟩), Int.add_zero]

theorem qRel_push (k : TKey) (g : Deloop.AlgGen) : (k.push g).qRel = k.qRel + g.qShift := by
  unfold TKey.qRel TKey.push Deloop.AlgGen.qShift
  simp only [List.map_append, List.map_cons, List.map_nil, List.foldl_append, List.foldl_cons, List.foldl_nil,
    List.length_append, List.length_cons, List.length_nil]
  have : (⟨k.state, k.label ++ [g]⟩ : TKey).weight = k.weight := rfl
  rw [this]
  push_cast
  omega

def toyOps : EdgeOps Int where
  isZero x := x == 0
  inv a := if a == 1 || a == -1 then .ok a else .panic
  cab c ainv b := .ok (c * ainv * b)
  sub := (· - ·)
  neg := (- ·)
  capOff _ _ _ f := .ok f
  hcompL f _ := .ok f
  hcompR neg f _ := .ok (if neg then -f else f)

def kA : TKey := ⟨[false, false], []⟩
def kB : TKey := ⟨[true, false], []⟩
def kC : TKey := ⟨[false, true], []⟩
def kD : TKey := ⟨[true, true], []⟩

/-- an anticommuting square `A → B, C → D` with `A → B` invertible -/
def toySquare : Cx Int :=
  ⟨0, 0, none, 2, [(kA, []), (kB, []), (kC, []), (kD, [])],
   [((kA, kB), 1), ((kA, kC), 2), ((kB, kD), 2), ((kC, kD), -1)]⟩

def toyZ : Cx Int :=
  ⟨0, 0, none, 1, [(⟨[false], [.X]⟩, []), (⟨[false], [.I]⟩, []), (⟨[true], [.X]⟩, []), (⟨[true], [.I]⟩, [])],
   [((⟨[false], [.X]⟩, ⟨[true], [.X]⟩), -1), ((⟨[false], [.I]⟩, ⟨[true], [.X]⟩), 3),
    ((⟨[false], [.X]⟩, ⟨[true], [.I]⟩), 5), ((⟨[false], [.I]⟩, ⟨[true], [.I]⟩), 7)]⟩

end Yuiv.C05.Engine
