import Yuiv.Proofs.C09EucShape
import Mathlib.Data.DFinsupp.WellFounded
/-
The code model of `SnfCalc` for ANY lawful Euclidean operation record, part 2: `diag_normalize` (a step is
`(x, y) ↦ (gcd, lcm)`; the `'outer` loop by well-founded induction on `(size d_0, …, size d_{r-1})` in the
lexicographic order), the final multiplication by normalising units, the checker `isSnfShape`, and
`SnfCalc::process` as a whole (`snfCalc_conv`; shape, termination, no panic and totality are its corollaries).
-/
namespace Yuiv.C09.Euc
open Yuiv Yuiv.C09 Yuiv.Res

variable {α K : Type} [CommRing K] [IsDomain K] {e : EOps α} {φ : α → K} {m n : Nat}

theorem transp_val_ne (I I1 : Fin m) (J J1 : Fin n) (hI : I.1 = J.1) (hI1 : I1.1 = J1.1) (R : Fin m)
    (C : Fin n) (h : R.1 ≠ C.1) :
    (if R = I then I1 else if R = I1 then I else R).1 ≠ (if C = J then J1 else if C = J1 then J else C).1 := by
  rw [transp_val, transp_val, ← hI, ← hI1, ← Equiv.swap_apply_def, ← Equiv.swap_apply_def]
  exact (Equiv.swap I.1 I1.1).injective.ne h

section diag
variable (L : LawfulEuc e φ)
include L

/-- the two elementary operations of the third branch of `diag_normalize_step` turn the diagonal block
`diag(x, y) = diag(a·d, b·d)` into `diag(d, a·b·d)` and change nothing else -/
theorem diagStep_entries (T : Mat α m n) (hD : DiagZ φ T) (I I1 : Fin m) (J J1 : Fin n) (hI : I.1 = J.1)
    (hI1 : I1.1 = J1.1) (hne : I.1 ≠ I1.1) (s t a b d : α) (hx : φ (T.get I J) = φ a * φ d)
    (hy : φ (T.get I1 J1) = φ b * φ d) (hbez : φ s * φ a + φ t * φ b = 1) (r : Fin m) (c : Fin n) :
    φ ((rightElem e.toROps (leftElem e.toROps T e.one e.one (e.neg (e.mul t b)) (e.mul s a) I I1)
        s t (e.neg b) a J J1).get r c) =
      if r = I ∧ c = J then φ d else if r = I1 ∧ c = J1 then φ a * φ b * φ d else φ (T.get r c) := by
  have z1 : φ (T.get I J1) = 0 := hD I J1 (by omega)
  have z2 : φ (T.get I1 J) = 0 := hD I1 J (by omega)
  have hII : I ≠ I1 := fun h => hne (congrArg Fin.val h)
  have hJJ : J ≠ J1 := fun h => hne (by rw [hI, hI1]; exact congrArg Fin.val h)
  have hrJ : ∀ r, r ≠ I → φ (T.get r J) = 0 := fun r hr => hD r J (fun h => hr (Fin.ext (by omega)))
  have hrJ1 : ∀ r, r ≠ I1 → φ (T.get r J1) = 0 := fun r hr => hD r J1 (fun h => hr (Fin.ext (by omega)))
  have hIc : ∀ c, c ≠ J → φ (T.get I c) = 0 := fun c hc => hD I c (fun h => hc (Fin.ext (by omega)))
  have hI1c : ∀ c, c ≠ J1 → φ (T.get I1 c) = 0 := fun c hc => hD I1 c (fun h => hc (Fin.ext (by omega)))
  rw [rightElem_get L.lawful]
  simp only [leftElem_get L.lawful, L.phi_one, L.phi_neg, L.phi_mul]
  by_cases hc1 : c = J1 <;> by_cases hc : c = J <;> by_cases hr1 : r = I1 <;> by_cases hr : r = I
  all_goals (try (exact absurd (hc.symm.trans hc1) hJJ))
  all_goals (try (exact absurd (hr.symm.trans hr1) hII))
  all_goals
    simp only [hII, hII.symm, hJJ, hJJ.symm, hr, hr1, hc, hc1, if_true, if_false, and_true,
      and_false, and_self, hx, hy, z1, z2, hrJ, hrJ1, hIc, hI1c, ne_eq, not_false_eq_true]
  all_goals (first | done | ring1 | linear_combination φ d * hbez | linear_combination (φ a * φ b * φ d) * hbez)

/-- the wrapper `SnfCalc::gcdx` is only asked when `d_i ∤ d_{i+1}`, so the two determinant assertions hold -/
theorem diagStep_returns (dbg : Bool) (s : St α m n) (i : Nat) (hm : i + 1 < m) (hn : i + 1 < n)
    (hD : DiagZ φ s.t) (hx0 : φ (s.t.get ⟨i, Nat.lt_of_succ_lt hm⟩ ⟨i, Nat.lt_of_succ_lt hn⟩) ≠ 0)
    (hy0 : φ (s.t.get ⟨i + 1, hm⟩ ⟨i + 1, hn⟩) ≠ 0) :
    ∃ r, diagNormalizeStep e dbg s i hm hn = .ok r ∧
    DiagZ φ r.1.t ∧
    (∀ (R : Fin m) (C : Fin n), R.1 = C.1 → R.1 ≠ i → R.1 ≠ i + 1 → φ (r.1.t.get R C) = φ (s.t.get R C)) ∧
    φ (r.1.t.get ⟨i, Nat.lt_of_succ_lt hm⟩ ⟨i, Nat.lt_of_succ_lt hn⟩) ≠ 0 ∧
    φ (r.1.t.get ⟨i + 1, hm⟩ ⟨i + 1, hn⟩) ≠ 0 ∧
    (r.2 = false →
      e.size (r.1.t.get ⟨i, Nat.lt_of_succ_lt hm⟩ ⟨i, Nat.lt_of_succ_lt hn⟩) <
        e.size (s.t.get ⟨i, Nat.lt_of_succ_lt hm⟩ ⟨i, Nat.lt_of_succ_lt hn⟩)) ∧
    φ (r.1.t.get ⟨i, Nat.lt_of_succ_lt hm⟩ ⟨i, Nat.lt_of_succ_lt hn⟩) * φ (r.1.t.get ⟨i + 1, hm⟩ ⟨i + 1, hn⟩) =
      φ (s.t.get ⟨i, Nat.lt_of_succ_lt hm⟩ ⟨i, Nat.lt_of_succ_lt hn⟩) * φ (s.t.get ⟨i + 1, hm⟩ ⟨i + 1, hn⟩) := by
  unfold diagNormalizeStep
  simp only
  generalize hI : (⟨i, Nat.lt_of_succ_lt hm⟩ : Fin m) = I at hx0 ⊢
  generalize hI1 : (⟨i + 1, hm⟩ : Fin m) = I1 at hy0 ⊢
  generalize hJ : (⟨i, Nat.lt_of_succ_lt hn⟩ : Fin n) = J at hx0 ⊢
  generalize hJ1 : (⟨i + 1, hn⟩ : Fin n) = J1 at hy0 ⊢
  have vI : I.1 = i := by rw [← hI]
  have vI1 : I1.1 = i + 1 := by rw [← hI1]
  have vJ : J.1 = i := by rw [← hJ]
  have vJ1 : J1.1 = i + 1 := by rw [← hJ1]
  have nI : ∀ R : Fin m, R.1 ≠ i → R ≠ I := fun R h hh => h (hh ▸ vI)
  have nI1 : ∀ R : Fin m, R.1 ≠ i + 1 → R ≠ I1 := fun R h hh => h (hh ▸ vI1)
  have nJ : ∀ C : Fin n, C.1 ≠ i → C ≠ J := fun C h hh => h (hh ▸ vJ)
  have nJ1 : ∀ C : Fin n, C.1 ≠ i + 1 → C ≠ J1 := fun C h hh => h (hh ▸ vJ1)
  have hI1I : I1 ≠ I := nI I1 (by omega)
  have hJ1J : J1 ≠ J := nJ J1 (by omega)
  -- an entry off the diagonal, or on it away from `i, i + 1`, is neither of the two corners
  have off : ∀ (R : Fin m) (C : Fin n), R.1 ≠ C.1 → ¬ (R = I ∧ C = J) ∧ ¬ (R = I1 ∧ C = J1) := fun R C h =>
    ⟨fun hh => h (by rw [hh.1, hh.2, vI, vJ]), fun hh => h (by rw [hh.1, hh.2, vI1, vJ1])⟩
  rw [if_neg (by simp [L.isZero_iff, hx0, hy0])]
  split
  · exact ⟨_, rfl, hD, fun _ _ _ _ _ => rfl, hx0, hy0, nofun, rfl⟩
  · rename_i hxy
    have hxy' : ¬ (φ (s.t.get I J) ∣ φ (s.t.get I1 J1)) := fun hh => hxy ((L.dvd_iff _ _).2 ⟨hx0, hh⟩)
    split
    · rename_i hyx
      rw [L.dvd_iff] at hyx
      have hget : ∀ (R : Fin m) (C : Fin n), (sSwapCols (sSwapRows s I I1) J J1).t.get R C =
          s.t.get (if R = I then I1 else if R = I1 then I else R) (if C = J then J1 else if C = J1 then J else C) := by
        intro R C
        simp only [sSwapCols, sSwapRows]
        rw [swapCols_get, swapRows_get]
      refine ⟨_, rfl, ?_, ?_, ?_, ?_, fun _ => ?_, ?_⟩
      · intro R C hRC
        rw [hget]
        exact hD _ _ (transp_val_ne I I1 J J1 (by omega) (by omega) R C hRC)
      · intro R C hRC h1 h2
        rw [hget, if_neg (nI R h1), if_neg (nI1 R h2), if_neg (nJ C (hRC ▸ h1)), if_neg (nJ1 C (hRC ▸ h2))]
      · rw [hget, if_pos rfl, if_pos rfl]; exact hy0
      · rw [hget, if_neg hI1I, if_pos rfl, if_neg hJ1J, if_pos rfl]; exact hx0
      · rw [hget, if_pos rfl, if_pos rfl]
        exact L.size_lt_of_dvd_not_dvd _ _ hx0 hyx.2 hxy'
      · rw [hget, hget, if_pos rfl, if_pos rfl, if_neg hI1I, if_pos rfl, if_neg hJ1J, if_pos rfl, mul_comm]
    · obtain ⟨g1, _, g2, g3, g4, _⟩ := L.gcdxW_data (s.t.get I J) (s.t.get I1 J1) hx0 (Or.inr hxy')
      have hdet1 : detIsOne e.toROps e.one e.one
          (e.neg (e.mul (gcdxW e (s.t.get I J) (s.t.get I1 J1)).2.2
            (e.quo (s.t.get I1 J1) (gcdxW e (s.t.get I J) (s.t.get I1 J1)).1)))
          (e.mul (gcdxW e (s.t.get I J) (s.t.get I1 J1)).2.1
            (e.quo (s.t.get I J) (gcdxW e (s.t.get I J) (s.t.get I1 J1)).1)) = true := by
        rw [detIsOne_iff L.lawful, L.phi_one, L.phi_neg, L.phi_mul, L.phi_mul]
        linear_combination g4
      unfold sLeft sRight
      rw [hdet1, L.det_ok _ _ hx0 (Or.inr hxy')]
      simp only [Bool.not_true, Bool.and_false, Bool.false_eq_true, if_false]
      generalize (gcdxW e (s.t.get I J) (s.t.get I1 J1)) = g at *
      obtain ⟨d, s', t'⟩ := g
      simp only at g1 g2 g3 g4 ⊢
      generalize e.quo (s.t.get I J) d = a at *
      generalize e.quo (s.t.get I1 J1) d = b at *
      have hent := diagStep_entries L s.t hD I I1 J J1 (by omega) (by omega) (by omega) s' t' a b d g2 g3 g4
      have hent' : ∀ R C, φ ((sRightRaw e.toROps (sLeftRaw e.toROps s e.one e.one
          (e.neg (e.mul t' b)) (e.mul s' a) I I1) s' t' (e.neg b) a J J1).t.get R C) =
            if R = I ∧ C = J then φ d else if R = I1 ∧ C = J1 then φ a * φ b * φ d
            else φ (s.t.get R C) := hent
      have ha0 : φ a ≠ 0 := by intro h0; rw [h0, zero_mul] at g2; exact hx0 g2
      have hb0 : φ b ≠ 0 := by intro h0; rw [h0, zero_mul] at g3; exact hy0 g3
      refine ⟨_, rfl, ?_, ?_, ?_, ?_, fun _ => ?_, ?_⟩
      · intro R C hRC
        rw [hent', if_neg (off R C hRC).1, if_neg (off R C hRC).2]
        exact hD R C hRC
      · intro R C hRC hh1 hh2
        rw [hent', if_neg (fun hh => nI R hh1 hh.1), if_neg (fun hh => nI1 R hh2 hh.1)]
      · rw [hent', if_pos ⟨rfl, rfl⟩]; exact g1
      · rw [hent', if_neg (fun hh => hI1I hh.1), if_pos ⟨rfl, rfl⟩]
        exact mul_ne_zero (mul_ne_zero ha0 hb0) g1
      · have hpiv : φ ((sRightRaw e.toROps (sLeftRaw e.toROps s e.one e.one
            (e.neg (e.mul t' b)) (e.mul s' a) I I1) s' t' (e.neg b) a J J1).t.get I J) = φ d := by
          rw [hent', if_pos ⟨rfl, rfl⟩]
        rw [L.size_congr _ _ hpiv g1]
        refine L.size_lt_of_dvd_not_dvd _ _ hx0 ⟨φ a, by rw [g2]; ring⟩ ?_
        intro hxd
        exact hxy' (dvd_trans hxd ⟨φ b, by rw [g3]; ring⟩)
      · rw [hent', hent', if_pos ⟨rfl, rfl⟩, if_neg (fun hh => hI1I hh.1), if_pos ⟨rfl, rfl⟩, g2, g3]
        ring

theorem diagStep_ne_zero (dbg : Bool) (s : St α m n) (i : Nat) (hm : i + 1 < m) (hn : i + 1 < n)
    (r : St α m n × Bool) (h : diagNormalizeStep e dbg s i hm hn = .ok r) :
    φ (s.t.get ⟨i, Nat.lt_of_succ_lt hm⟩ ⟨i, Nat.lt_of_succ_lt hn⟩) ≠ 0 ∧ φ (s.t.get ⟨i + 1, hm⟩ ⟨i + 1, hn⟩) ≠ 0 := by
  rw [diagNormalizeStep_eq] at h
  simp only at h
  split at h
  · cases h
  · rename_i hz
    simpa only [Bool.or_eq_true, L.isZero_iff, not_or] using hz

omit L in
omit [CommRing K] [IsDomain K] in
theorem dgz_eq (T : Mat α m n) (k : Nat) (hm : k < m) (hn : k < n) :
    dgz e φ T k = φ (T.get ⟨k, hm⟩ ⟨k, hn⟩) := by
  unfold dgz; rw [dg_eq]

theorem dgz_out (T : Mat α m n) (k : Nat) (h : ¬ (k < m ∧ k < n)) : dgz e φ T k = 0 := by
  unfold dgz dg; rw [dif_neg h]; exact L.phi_zero

theorem diagStep_dg (dbg : Bool) (s : St α m n) (i : Nat) (hm : i + 1 < m) (hn : i + 1 < n)
    (r : St α m n × Bool) (h : diagNormalizeStep e dbg s i hm hn = .ok r) (hD : DiagZ φ s.t) :
    DiagZ φ r.1.t ∧ (∀ k, k ≠ i → k ≠ i + 1 → dgz e φ r.1.t k = dgz e φ s.t k) ∧
    dgz e φ s.t i ≠ 0 ∧ dgz e φ s.t (i + 1) ≠ 0 ∧ dgz e φ r.1.t i ≠ 0 ∧ dgz e φ r.1.t (i + 1) ≠ 0 ∧
    (r.2 = false → e.size (dg e.toROps r.1.t i) < e.size (dg e.toROps s.t i)) ∧
    dgz e φ r.1.t i * dgz e φ r.1.t (i + 1) = dgz e φ s.t i * dgz e φ s.t (i + 1) := by
  obtain ⟨h1, h2⟩ := diagStep_ne_zero L dbg s i hm hn r h
  obtain ⟨r', hr', h3, h4, h5, h6, h7, h8⟩ := diagStep_returns L dbg s i hm hn hD h1 h2
  cases hr'.symm.trans h
  have hm' : i < m := Nat.lt_of_succ_lt hm
  have hn' : i < n := Nat.lt_of_succ_lt hn
  simp only [dgz, dg_eq _ _ i hm' hn', dg_eq _ _ (i + 1) hm hn]
  refine ⟨h3, ?_, h1, h2, h5, h6, h7, h8⟩
  intro k hk1 hk2
  unfold dg
  split
  · rename_i hk
    exact h4 ⟨k, hk.1⟩ ⟨k, hk.2⟩ rfl hk1 hk2
  · rfl

theorem diagStep_nz (dbg : Bool) (s : St α m n) (i : Nat) (hm : i + 1 < m) (hn : i + 1 < n)
    (r : St α m n × Bool) (h : diagNormalizeStep e dbg s i hm hn = .ok r) (hD : DiagZ φ s.t) (r0 : Nat)
    (hnz : ∀ k, k < r0 → dgz e φ s.t k ≠ 0) : ∀ k, k < r0 → dgz e φ r.1.t k ≠ 0 := by
  obtain ⟨_, d2, _, _, d5, d6, _, _⟩ := diagStep_dg L dbg s i hm hn r h hD
  intro k hk
  by_cases e1 : k = i
  · rw [e1]; exact d5
  · by_cases e2 : k = i + 1
    · rw [e2]; exact d6
    · rw [d2 k e1 e2]; exact hnz k hk

theorem diagPass_returns (dbg : Bool) (r : Nat) : ∀ (cnt i : Nat) (s : St α m n), DiagZ φ s.t →
    (∀ k, k < r → dgz e φ s.t k ≠ 0) → ∃ r', diagPass e dbg r cnt i s = .ok r'
  | 0, _, _, _, _ => ⟨_, rfl⟩
  | cnt + 1, i, s, hD, hnz => by
    rw [diagPass_succ]
    split
    · rename_i hc
      have hx := hnz i (by omega)
      have hy := hnz (i + 1) hc.1
      rw [dgz_eq _ i (Nat.lt_of_succ_lt hc.2.1) (Nat.lt_of_succ_lt hc.2.2)] at hx
      rw [dgz_eq _ (i + 1) hc.2.1 hc.2.2] at hy
      obtain ⟨⟨s1, b1⟩, h1, _⟩ := diagStep_returns L dbg s i hc.2.1 hc.2.2 hD hx hy
      rw [h1, bind_ok]
      cases b1 with
      | false => exact ⟨_, rfl⟩
      | true =>
        obtain ⟨rfl, _⟩ := diagNormalizeStep_true dbg s i hc.2.1 hc.2.2 s1 h1
        exact diagPass_returns dbg r cnt (i + 1) s1 hD hnz
    · exact ⟨_, rfl⟩

/-- one pass of the `'outer` loop on a diagonal matrix with `d_0 … d_{r-1}` non-zero: it goes through (nothing changed,
the chain holds) or stops after a step at `i0` that left the other `d_k` alone, kept `d_i0·d_{i0+1}` and made `d_i0` smaller -/
theorem diagPass_outcome (dbg : Bool) (r : Nat) (s : St α m n) (hD : DiagZ φ s.t)
    (hnz : ∀ k, k < r → dgz e φ s.t k ≠ 0) :
    ∃ r1, diagPass e dbg r r 0 s = .ok r1 ∧
      ((r1 = (s, true) ∧ ∀ k (hk : k + 1 < r ∧ k + 1 < m ∧ k + 1 < n),
          e.dvd (s.t.get ⟨k, Nat.lt_of_succ_lt hk.2.1⟩ ⟨k, Nat.lt_of_succ_lt hk.2.2⟩)
            (s.t.get ⟨k + 1, hk.2.1⟩ ⟨k + 1, hk.2.2⟩) = true) ∨
       (r1.2 = false ∧ DiagZ φ r1.1.t ∧ (∀ k, k < r → dgz e φ r1.1.t k ≠ 0) ∧
         ∃ i0, i0 + 1 < r ∧ (∀ k, k ≠ i0 → k ≠ i0 + 1 → dgz e φ r1.1.t k = dgz e φ s.t k) ∧
           e.size (dg e.toROps r1.1.t i0) < e.size (dg e.toROps s.t i0) ∧
           dgz e φ r1.1.t i0 * dgz e φ r1.1.t (i0 + 1) = dgz e φ s.t i0 * dgz e φ s.t (i0 + 1))) := by
  obtain ⟨r1, h1⟩ := diagPass_returns L dbg r r 0 s hD hnz
  refine ⟨r1, h1, ?_⟩
  rcases diagPass_spec dbg r r 0 s r1 h1 with ⟨rfl, hch⟩ | ⟨i0, hm, hn, hir, hb, hstep⟩
  · exact Or.inl ⟨rfl, fun k hk => hch k (Nat.zero_le _) (by omega) hk⟩
  · obtain ⟨d1, d2, _, _, _, _, d7, d8⟩ := diagStep_dg L dbg s i0 hm hn r1 hstep hD
    exact Or.inr ⟨hb, d1, diagStep_nz L dbg s i0 hm hn r1 hstep hD r hnz, i0, hir, d2, d7 hb, d8⟩

/-- the measure of the `'outer` loop -/
def diagSizes (e : EOps α) (r : Nat) (T : Mat α m n) : Fin r → Nat := fun k => e.size (dg e.toROps T k.1)

omit L in
theorem lexWF (r : Nat) : WellFounded (Pi.Lex (ι := Fin r) (β := fun _ => Nat) (· < ·) (fun {_} a b => a < b)) :=
  Pi.Lex.wellFounded (· < ·) (fun _ => Nat.lt_wfRel.wf)

/-- every pass that does not go through strictly decreases `(size d_0, …, size d_{r-1})` lexicographically: a step
at `i` leaves `d_0 … d_{i-1}` alone and makes `d_i` smaller -/
theorem diagOuter_conv (dbg : Bool) (r : Nat) (s : St α m n) (hD : DiagZ φ s.t)
    (hnz : ∀ k, k < r → dgz e φ s.t k ≠ 0) :
    ∃ B, Conv (fun fuel => diagOuter e dbg r fuel s) B (fun s' =>
      DiagZ φ s'.t ∧ (∀ k, k < r → dgz e φ s'.t k ≠ 0) ∧ (∀ k, r ≤ k → dgz e φ s'.t k = dgz e φ s.t k) ∧
      ∀ k (hk : k + 1 < r ∧ k + 1 < m ∧ k + 1 < n),
        e.dvd (s'.t.get ⟨k, Nat.lt_of_succ_lt hk.2.1⟩ ⟨k, Nat.lt_of_succ_lt hk.2.2⟩)
          (s'.t.get ⟨k + 1, hk.2.1⟩ ⟨k + 1, hk.2.2⟩) = true) := by
  generalize hf : diagSizes e r s.t = f
  induction f using (lexWF r).induction generalizing s with
  | _ f ih =>
    obtain ⟨r1, h1, ⟨rfl, hch⟩ | ⟨hb, d1, hnz1, i0, hir, d2, d7, _⟩⟩ := diagPass_outcome L dbg r s hD hnz
    · exact ⟨1, Conv.succ rfl (fun fuel => by rw [diagOuter_succ, h1]; rfl)
        (Conv.const rfl ⟨hD, hnz, fun _ _ => rfl, hch⟩)⟩
    · have hlex : Pi.Lex (ι := Fin r) (β := fun _ => Nat) (· < ·) (fun {_} a b => a < b)
          (diagSizes e r r1.1.t) f := by
        refine ⟨⟨i0, by omega⟩, fun j hj => ?_, by rw [← hf]; exact d7⟩
        rw [← hf]
        have hj' : j.1 < i0 := hj
        exact L.size_congr _ _ (d2 j.1 (by omega) (by omega)) (hnz j.1 j.2)
      obtain ⟨B, hB⟩ := ih _ hlex r1.1 d1 hnz1 rfl
      refine ⟨B + 1, Conv.succ rfl (fun fuel => by rw [diagOuter_succ, h1, bind_ok, hb]; rfl)
        (hB.imp (Nat.le_refl _) ?_)⟩
      rintro s' ⟨f1, f2, f3, f4⟩
      exact ⟨f1, f2, fun k hk => by rw [f3 k hk, d2 k (by omega) (by omega)], f4⟩

end diag

/-- equal up to a unit, entry by entry: what the final `mul_row`s do to the target -/
def AssocEq (φ : α → K) (T T' : Mat α m n) : Prop :=
  ∀ r c, ∃ u : K, IsUnit u ∧ φ (T'.get r c) = φ (T.get r c) * u

omit [IsDomain K] in
theorem AssocEq.refl (T : Mat α m n) : AssocEq φ T T := fun _ _ => ⟨1, isUnit_one, by ring⟩

omit [IsDomain K] in
theorem AssocEq.trans {T T' T'' : Mat α m n} (h1 : AssocEq φ T T') (h2 : AssocEq φ T' T'') : AssocEq φ T T'' := by
  intro r c
  obtain ⟨u, hu, a⟩ := h1 r c
  obtain ⟨v, hv, b⟩ := h2 r c
  exact ⟨u * v, hu.mul hv, by rw [b, a]; ring⟩

section units
variable (L : LawfulEuc e φ)
include L

omit [IsDomain K] L in
theorem AssocEq.dgz {T T' : Mat α m n} (h : AssocEq φ T T') (k : Nat) :
    ∃ u : K, IsUnit u ∧ dgz e φ T' k = dgz e φ T k * u := by
  unfold Euc.dgz dg
  split
  · exact h _ _
  · exact ⟨1, isUnit_one, by ring⟩

theorem normalizeStep_returns (s : St α m n) (k : Nat) :
    ∃ s', normalizeStep e s k = .ok s' ∧
    AssocEq φ s.t s'.t ∧ (k < m ∧ k < n → φ (e.normUnit (dg e.toROps s'.t k)) = 1) ∧
      ∀ k', k' ≠ k → dg e.toROps s'.t k' = dg e.toROps s.t k' := by
  unfold normalizeStep
  split
  · rename_i hk
    simp only
    split
    · unfold sMulRow
      obtain ⟨v, hv⟩ := L.inv_normUnit (s.t.get ⟨k, hk.1⟩ ⟨k, hk.2⟩)
      rw [hv]
      refine ⟨_, rfl, ?_, fun _ => ?_, ?_⟩
      · intro r c
        rw [mulRow_get L.lawful]
        split
        · exact ⟨_, L.normUnit_isUnit _, rfl⟩
        · exact ⟨1, isUnit_one, by ring⟩
      · rw [dg_eq _ _ k hk.1 hk.2]
        simp only [mulRow, get_ofFn, if_pos]
        exact L.norm_mul _
      · intro k' hk'
        unfold dg
        split
        · simp only [mulRow, get_ofFn]
          rw [if_neg (fun hh => hk' (by rw [Fin.ext_iff] at hh; exact hh))]
        · rfl
    · rename_i hc
      simp only [Bool.not_eq_true', Bool.not_eq_false] at hc
      refine ⟨s, rfl, AssocEq.refl _, fun _ => ?_, fun _ _ => rfl⟩
      rw [dg_eq _ _ k hk.1 hk.2]
      exact (L.isOne_iff _).1 hc
  · rename_i hk
    exact ⟨s, rfl, AssocEq.refl _, fun h => absurd h hk, fun _ _ => rfl⟩

theorem normalizeFold_returns (r0 : Nat) (s : St α m n) :
    ∃ s', (List.range r0).foldlM (normalizeStep e) s = .ok s' ∧
    AssocEq φ s.t s'.t ∧ ∀ k, k < r0 → k < m ∧ k < n → φ (e.normUnit (dg e.toROps s'.t k)) = 1 := by
  have key := foldlM_returns (normalizeStep e)
    (fun pre s1 => AssocEq φ s.t s1.t ∧ ∀ k ∈ pre, k < m ∧ k < n → φ (e.normUnit (dg e.toROps s1.t k)) = 1) ?_
    (List.range r0) s ⟨AssocEq.refl _, by simp⟩
  · obtain ⟨s', hs', k1, k2⟩ := key
    exact ⟨s', hs', k1, fun k hk => k2 k (by simpa using hk)⟩
  · intro pre x s1 ⟨p1, p2⟩
    obtain ⟨s2, hs2, q1, q2, q3⟩ := normalizeStep_returns L s1 x
    refine ⟨s2, hs2, p1.trans q1, ?_⟩
    intro k hk hkr
    rw [List.mem_append, List.mem_singleton] at hk
    by_cases hkx : k = x
    · rw [hkx]; exact q2 (hkx ▸ hkr)
    · rcases hk with hk | hk
      · rw [q3 k hkx]; exact p2 k hk hkr
      · exact absurd hk hkx

theorem shapeL_of : ∀ (l : List α) (r0 : Nat),
    (∀ k (h : k < l.length), k < r0 → φ l[k] ≠ 0 ∧ φ (e.normUnit l[k]) = 1) →
    (∀ k (h : k < l.length), r0 ≤ k → φ l[k] = 0) →
    (∀ k (h : k + 1 < l.length), k + 1 < r0 → φ l[k] ∣ φ l[k + 1]) →
    shapeL e l = true
  | [], _, _, _, _ => rfl
  | a :: rest, r0, h1, h2, h3 => by
    unfold shapeL
    by_cases hr : r0 = 0
    · have ha : φ a = 0 := h2 0 (Nat.succ_pos _) (by omega)
      rw [if_pos ((L.isZero_iff a).2 ha), List.all_eq_true]
      intro x hx
      obtain ⟨k, hk, rfl⟩ := List.getElem_of_mem hx
      exact (L.isZero_iff _).2 (h2 (k + 1) (Nat.succ_lt_succ hk) (by omega))
    · have ha : φ a ≠ 0 ∧ φ (e.normUnit a) = 1 := h1 0 (Nat.succ_pos _) (by omega)
      rw [if_neg (by rw [L.isZero_iff]; exact ha.1)]
      have hrest : shapeL e rest = true :=
        shapeL_of rest (r0 - 1) (fun k hk hkr => h1 (k + 1) (Nat.succ_lt_succ hk) (by omega))
          (fun k hk hkr => h2 (k + 1) (Nat.succ_lt_succ hk) (by omega))
          (fun k hk hkr => h3 (k + 1) (Nat.succ_lt_succ hk) (by omega))
      rw [(L.isNorm_iff a).2 ha.2, hrest, Bool.true_and, Bool.and_true]
      cases rest with
      | nil => rfl
      | cons b rest' =>
        rw [Bool.or_eq_true]
        by_cases hr1 : 1 < r0
        · exact Or.inr ((L.dvd_iff _ _).2 ⟨ha.1, h3 0 (Nat.succ_lt_succ (Nat.succ_pos _)) (by omega)⟩)
        · exact Or.inl ((L.isZero_iff _).2 (h2 1 (Nat.succ_lt_succ (Nat.succ_pos _)) (by omega)))

omit L in
theorem diagL_getElem (T : Mat α m n) (k : Nat) (h : k < (diagL T).length) : (diagL T)[k] = dg e.toROps T k := by
  have hk : k < min m n := by simpa [diagL] using h
  simp only [diagL, List.getElem_ofFn]
  rw [dg_eq _ _ k (by omega) (by omega)]

omit L in
omit [CommRing K] [IsDomain K] in
theorem diagL_map_dgz (T : Mat α m n) : (diagL T).map φ = (List.range (min m n)).map (dgz e φ T) := by
  apply List.ext_getElem
  · simp [diagL]
  · intro k h1 h2
    rw [List.getElem_map, List.getElem_map, List.getElem_range, diagL_getElem (e := e)]
    rfl

theorem shapeSpec_diag (N : K → Prop) (T : Mat α m n) (h : ShapeSpec N ((diagL T).map φ)) :
    ∃ r, r ≤ min m n ∧ (∀ k, k < r → dgz e φ T k ≠ 0 ∧ N (dgz e φ T k)) ∧ (∀ k, r ≤ k → dgz e φ T k = 0) ∧
      ∀ k, k + 1 < r → dgz e φ T k ∣ dgz e φ T (k + 1) := by
  rw [diagL_map_dgz (e := e)] at h
  obtain ⟨r, h1, h2, h3⟩ := shapeSpec_map_range N _ _ (fun k hk => dgz_out L T k (by omega)) h
  refine ⟨r, ?_, h1, h2, h3⟩
  by_contra hr
  exact (h1 (min m n) (by omega)).1 (dgz_out L T _ (by omega))

omit L in
omit [IsDomain K] in
theorem DiagZ.get_eq {T : Mat α m n} (hD : DiagZ φ T) (i : Fin m) (j : Fin n) :
    φ (T.get i j) = if i.1 = j.1 then dgz e φ T i.1 else 0 := by
  split
  · rename_i hij
    rw [dgz_eq T i.1 i.2 (hij ▸ j.2)]
    congr 2
    exact Fin.ext hij.symm
  · rename_i hij
    exact hD i j hij

theorem isSnfShape_of (T : Mat α m n) (r0 : Nat) (hD : DiagZ φ T)
    (h1 : ∀ k, k < r0 → k < min m n → dgz e φ T k ≠ 0 ∧ φ (e.normUnit (dg e.toROps T k)) = 1)
    (h2 : ∀ k, r0 ≤ k → dgz e φ T k = 0) (h3 : ∀ k, k + 1 < r0 → dgz e φ T k ∣ dgz e φ T (k + 1)) :
    isSnfShape e T = true := by
  unfold isSnfShape
  rw [Bool.and_eq_true]
  constructor
  · rw [isDiag_iff L.lawful]
    exact hD
  · apply shapeL_of L _ r0
    · intro k hk hkr
      have hk' : k < min m n := by simpa [diagL] using hk
      rw [diagL_getElem (e := e)]; exact h1 k hkr hk'
    · intro k hk hkr; rw [diagL_getElem (e := e)]; exact h2 k hkr
    · intro k hk hkr; rw [diagL_getElem (e := e), diagL_getElem (e := e)]; exact h3 k hkr

omit L in
omit [IsDomain K] in
theorem firstZeroDiag_spec (L : Lawful e.toROps φ) (T : Mat α m n) :
    firstZeroDiag e T ≤ min m n ∧ (∀ k, k < firstZeroDiag e T → dgz e φ T k ≠ 0) ∧
      (firstZeroDiag e T < min m n → dgz e φ T (firstZeroDiag e T) = 0) := by
  obtain ⟨h1, h2, h3⟩ := ListAux.find_range_spec (fun i => e.isZero (dg e.toROps T i)) (min m n)
  exact ⟨h1, fun k hk => (isZero_false L _).1 (h2 k hk), fun hlt => (C09.isZero_iff L _).1 (h3 hlt)⟩

theorem diagNormalize_conv (dbg : Bool) (s : St α m n) (hD : DiagZ φ s.t) :
    ∃ B, Conv (fun fuel => diagNormalize e dbg fuel s) B (fun s' => NzFirst e φ s.t → isSnfShape e s'.t = true) := by
  obtain ⟨z1, z2, z3⟩ := firstZeroDiag_spec L.lawful s.t
  have htail : NzFirst e φ s.t → ∀ k, firstZeroDiag e s.t ≤ k → dgz e φ s.t k = 0 := by
    intro hN k hk
    by_cases hlt : firstZeroDiag e s.t < min m n
    · exact hN _ k hk (z3 hlt)
    · exact dgz_out L _ _ (by omega)
  have hdiag : (dbg && !isDiag e.toROps s.t) = false := by
    rw [(isDiag_iff L.lawful s.t).2 hD, Bool.not_true, Bool.and_false]
  by_cases hz : firstZeroDiag e s.t = 0
  · refine ⟨0, Conv.of_eq (fun fuel => by rw [diagNormalize_eq, hdiag, if_neg Bool.false_ne_true, if_pos hz])
      (Conv.const rfl fun hN => ?_)⟩
    exact isSnfShape_of L s.t 0 hD (fun k hk => absurd hk (Nat.not_lt_zero _))
      (fun k _ => htail hN k (by omega)) (fun k hk => absurd hk (Nat.not_lt_zero _))
  · obtain ⟨B, hB⟩ := diagOuter_conv L dbg _ s hD z2
    refine ⟨_, Conv.of_eq (fun fuel => by rw [diagNormalize_eq, hdiag, if_neg Bool.false_ne_true, if_neg hz])
      (hB.bind (B' := 0) ?_)⟩
    rintro s1 ⟨o1, o2, o3, hchain⟩
    obtain ⟨s', hs', n1, n2⟩ := normalizeFold_returns L (firstZeroDiag e s.t) s1
    refine Conv.const hs' fun hN => isSnfShape_of L s'.t (firstZeroDiag e s.t) ?_ ?_ ?_ ?_
    · intro r c hrc
      obtain ⟨u, _, hu⟩ := n1 r c
      rw [hu, o1 r c hrc, zero_mul]
    · intro k hk hkmn
      obtain ⟨u, hu, hu'⟩ := AssocEq.dgz (e := e) n1 k
      refine ⟨?_, n2 k hk ⟨by omega, by omega⟩⟩
      rw [hu']
      exact mul_ne_zero (o2 k hk) hu.ne_zero
    · intro k hk
      obtain ⟨u, hu, hu'⟩ := AssocEq.dgz (e := e) n1 k
      rw [hu', o3 k hk, htail hN k hk, zero_mul]
    · intro k hk
      have hk' : k + 1 < firstZeroDiag e s.t ∧ k + 1 < m ∧ k + 1 < n := ⟨hk, by omega, by omega⟩
      have hc := hchain k hk'
      rw [L.dvd_iff] at hc
      have e1 : dgz e φ s1.t k = φ (s1.t.get ⟨k, Nat.lt_of_succ_lt hk'.2.1⟩ ⟨k, Nat.lt_of_succ_lt hk'.2.2⟩) :=
        dgz_eq _ _ _ _
      have e2 : dgz e φ s1.t (k + 1) = φ (s1.t.get ⟨k + 1, hk'.2.1⟩ ⟨k + 1, hk'.2.2⟩) := dgz_eq _ _ _ _
      rw [← e1, ← e2] at hc
      obtain ⟨u, hu, hu'⟩ := AssocEq.dgz (e := e) n1 k
      obtain ⟨v, hv, hv'⟩ := AssocEq.dgz (e := e) n1 (k + 1)
      rw [hu', hv', hu.mul_right_dvd, hv.dvd_mul_right]
      exact hc.2

theorem isSnfShape_init_zero (A : Mat α m n) (hz : isZeroMat e.toROps A = true) :
    isSnfShape e (St.init e.toROps A).t = true := by
  have hz' : ∀ (i : Fin m) (j : Fin n), φ (A.get i j) = 0 := by
    intro i j
    have := congrFun (congrFun ((isZeroMat_iff L.lawful A).1 hz) i) j
    simpa using this
  refine isSnfShape_of L _ 0 (fun r c _ => hz' r c) (fun k hk => absurd hk (Nat.not_lt_zero _)) ?_
    (fun k hk => absurd hk (Nat.not_lt_zero _))
  intro k _
  unfold dgz dg
  split
  · exact hz' _ _
  · exact L.phi_zero

/-- no assertion of `snf.rs` fires: `mul_row/mul_col` are only called with a normalising unit, `eliminate_at` only
on a non-zero normalised pivot, `diag_normalize` only on a diagonal matrix and its step only on non-zero entries -/
theorem snfCalc_conv (dbg : Bool) (pre : St α m n → Res (St α m n)) (A : Mat α m n) (s1 : St α m n)
    (hpre : pre (St.init e.toROps A) = .ok s1) :
    ∃ B, Conv (fun fuel => snfCalc e dbg pre fuel A) B (fun s => isSnfShape e s.t = true) := by
  by_cases hz : isZeroMat e.toROps A = true
  · exact ⟨0, Conv.of_eq (fun fuel => by rw [snfCalc_eq, if_pos hz]) (Conv.const rfl (isSnfShape_init_zero L A hz))⟩
  · obtain ⟨B, hB⟩ := eliminateAll_conv L dbg s1
    exact (hB.bind_exists fun s2 ⟨hD, hN⟩ => (diagNormalize_conv L dbg s2 hD).imp fun _ h =>
      h.imp (Nat.le_refl _) fun _ hs => hs hN).imp fun B' h =>
      h.of_eq fun fuel => by rw [snfCalc_eq, if_neg hz, hpre, bind_ok]

/-- `SnfCalc::process` whatever the preprocessing does: total correctness, or the preprocessing panicked or erred and
`process` hands that on -/
theorem snfCalc_cases (dbg : Bool) (pre : St α m n → Res (St α m n)) (A : Mat α m n) :
    (∃ B, Conv (fun fuel => snfCalc e dbg pre fuel A) B (fun s => isSnfShape e s.t = true)) ∨
    ((pre (St.init e.toROps A) = .panic ∨ pre (St.init e.toROps A) = .err) ∧
      ∀ fuel, snfCalc e dbg pre fuel A = pre (St.init e.toROps A)) := by
  by_cases hz : isZeroMat e.toROps A = true
  · exact .inl ⟨0, Conv.of_eq (fun fuel => by rw [snfCalc_eq, if_pos hz]) (Conv.const rfl (isSnfShape_init_zero L A hz))⟩
  · cases hpre : pre (St.init e.toROps A) with
    | ok s1 => exact .inl (snfCalc_conv L dbg pre A s1 hpre)
    | panic => exact .inr ⟨.inl rfl, fun fuel => by rw [snfCalc_eq, if_neg hz, hpre]; rfl⟩
    | err => exact .inr ⟨.inr rfl, fun fuel => by rw [snfCalc_eq, if_neg hz, hpre]; rfl⟩

theorem snfCalc_shape (dbg : Bool) (pre : St α m n → Res (St α m n)) (fuel : Nat) (A : Mat α m n)
    (s : St α m n) (h : snfCalc e dbg pre fuel A = .ok s) : isSnfShape e s.t = true := by
  rcases snfCalc_cases L dbg pre A with ⟨B, hB⟩ | ⟨hp, hc⟩
  · exact hB.post h
  · rw [hc] at h
    rcases hp with hp | hp <;> rw [hp] at h <;> cases h

theorem snfCalc_exists_fuel (dbg : Bool) (pre : St α m n → Res (St α m n)) (A : Mat α m n)
    (hpre : pre (St.init e.toROps A) ≠ .err) :
    ∃ N, ∀ fuel, N ≤ fuel → snfCalc e dbg pre fuel A ≠ .err := by
  rcases snfCalc_cases L dbg pre A with ⟨B, hB⟩ | ⟨_, hc⟩
  · exact ⟨B, fun fuel hf => hB.ne_err hf⟩
  · exact ⟨0, fun fuel _ => by rw [hc]; exact hpre⟩

theorem snfCalc_ne_panic (dbg : Bool) (pre : St α m n → Res (St α m n)) (fuel : Nat) (A : Mat α m n)
    (hpre : pre (St.init e.toROps A) ≠ .panic) : snfCalc e dbg pre fuel A ≠ .panic := by
  rcases snfCalc_cases L dbg pre A with ⟨B, hB⟩ | ⟨_, hc⟩
  · exact hB.ne_panic fuel
  · rw [hc]; exact hpre

theorem snfCalc_total (dbg : Bool) (pre : St α m n → Res (St α m n)) (A : Mat α m n) (s1 : St α m n)
    (hpre : pre (St.init e.toROps A) = .ok s1) :
    ∃ N s, ∀ fuel, N ≤ fuel → snfCalc e dbg pre fuel A = .ok s := by
  obtain ⟨B, hB⟩ := snfCalc_conv L dbg pre A s1 hpre
  obtain ⟨s, _, hs⟩ := hB.total
  exact ⟨B, s, hs⟩

end units

end Yuiv.C09.Euc
