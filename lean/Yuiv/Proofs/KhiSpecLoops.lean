import Yuiv.Proofs.KhiSpecModel
import Yuiv.Proofs.C06CycleHash
import Yuiv.Proofs.KhRefLoops
import Mathlib.Data.List.Basic
/-
KhiSpec — the loops of `khiHomology` in functional form: the push loops of `homo`, the cell list, and the two loops with an
early `return` (differential table, `D∘D` check), which do not exit under the corresponding hypotheses.
-/
namespace Yuiv.KhiSpec
open Yuiv.KhRef Yuiv.C19

theorem forIn_array_noexit {α σ ρ : Type} (xs : Array α) (f : α → Option ρ × σ → Id (ForInStep (Option ρ × σ)))
    (step : σ → α → σ) (h : ∀ a ∈ xs, ∀ s, f a s = pure (ForInStep.yield (none, step s.snd a))) (init : σ) :
    forIn xs ((none : Option ρ), init) f = pure (none, xs.foldl step init) := by
  rw [← Array.forIn_toList, KhRefLoops.forIn_none_fold xs.toList step f (fun a ha s => h a (Array.mem_toList_iff.1 ha) s),
    Array.foldl_toList]

theorem forIn_range_filterPush {β : Type} (n : Nat) (g : Nat → Option β) (f : Nat → Array β → Id (ForInStep (Array β)))
    (h : ∀ i a, f i a = pure (ForInStep.yield (match g i with | some v => a.push v | none => a))) (init : Array β) :
    forIn [:n] init f = pure (init ++ ((List.range n).filterMap g).toArray) := by
  rw [Std.Legacy.Range.forIn_eq_forIn_range']
  simp only [Std.Legacy.Range.size, Nat.sub_zero, Nat.add_sub_cancel, Nat.div_one]
  rw [← List.range_eq_range']
  exact KhRefLoops.forIn_filterPush g f (List.range n) (fun i _ a => h i a) init

theorem forIn_range_push {β : Type} (n : Nat) (g : Nat → β) (f : Nat → Array β → Id (ForInStep (Array β)))
    (h : ∀ i a, f i a = pure (ForInStep.yield (a.push (g i)))) (init : Array β) :
    forIn [:n] init f = pure (init ++ ((List.range n).map g).toArray) := by
  rw [forIn_range_filterPush n (fun i => some (g i)) f h, List.filterMap_eq_map']

/-- rank of the differential out of position `i` as `homo` computes it (`0` at the last position) -/
def rkAt (dI : IGen → Array IGen) (gens : Array (Array IGen)) (i : Nat) : Nat :=
  if i + 1 < gens.size then rankF2 (rowsOf dI gens i) else 0

theorem ranksOf_eq (dI : IGen → Array IGen) (gens : Array (Array IGen)) :
    ranksOf dI gens = ((List.range gens.size).map (rkAt dI gens)).toArray := by
  unfold ranksOf
  rw [forIn_range_push gens.size (rkAt dI gens)]
  · simp only [Id.run, pure, List.append_toArray, List.nil_append]
  · intro i a
    unfold rkAt
    split <;> rfl

theorem ranksOf_get (dI : IGen → Array IGen) (gens : Array (Array IGen)) (i : Nat) (hi : i < gens.size) :
    (ranksOf dI gens)[i]! = rkAt dI gens i := by
  rw [ranksOf_eq, getElem!_pos _ _ (by simpa using hi)]
  simp

/-- the dimension `homo` reports at position `i` -/
def dimAt (dI : IGen → Array IGen) (gens : Array (Array IGen)) (i : Nat) : Nat :=
  gens[i]!.size - rkAt dI gens i - (if i = 0 then 0 else rkAt dI gens (i - 1))

theorem homoA_eq (dI : IGen → Array IGen) (gens : Array (Array IGen)) :
    homoA dI gens = ((List.range gens.size).map (dimAt dI gens)).toArray := by
  unfold homoA
  rw [forIn_range_push gens.size (fun i => gens[i]!.size - (ranksOf dI gens)[i]! -
      if (i == 0) = true then 0 else (ranksOf dI gens)[i - 1]!) _ (fun i a => rfl)]
  simp only [Id.run, pure, List.append_toArray, List.nil_append]
  congr 1
  apply List.map_congr_left
  intro i hi
  have hi' := List.mem_range.1 hi
  unfold dimAt
  rw [ranksOf_get _ _ i hi']
  by_cases h0 : i = 0
  · simp [h0]
  · rw [ranksOf_get _ _ (i - 1) (by omega)]
    simp [h0]

theorem cellsOf_append (h0 : Int) (q : Option Int) (hs : Array Nat) (cells : Array (Int × Option Int × Nat)) :
    cellsOf h0 q hs cells = cells ++ ((List.range hs.size).filterMap (fun (i : Nat) =>
      if hs[i]! ≠ 0 then some (h0 + (i : Int), q, hs[i]!) else none)).toArray := by
  unfold cellsOf
  rw [forIn_range_filterPush hs.size (fun (i : Nat) => if hs[i]! ≠ 0 then some (h0 + (i : Int), q, hs[i]!) else none)]
  · rfl
  · intro i a
    by_cases h : hs[i]! = 0
    · simp [h]
    · simp [h]

theorem cellsOf_map (h0 : Int) (q : Option Int) (n : Nat) (f : Nat → Nat) (cells : Array (Int × Option Int × Nat)) :
    cellsOf h0 q ((List.range n).map f).toArray cells = cells ++ ((List.range n).filterMap (fun (i : Nat) =>
      if f i ≠ 0 then some (h0 + (i : Int), q, f i) else none)).toArray := by
  rw [cellsOf_append]
  simp only [List.size_toArray, List.length_map, List.length_range]
  congr 2
  apply List.filterMap_congr
  intro i hi
  have hi' := List.mem_range.1 hi
  rw [getElem!_pos _ i (by simpa using hi')]
  simp only [List.getElem_toArray, List.getElem_map, List.getElem_range]

/-- the differential table after the loop -/
def dmapOf (c : Cube) (p : Params) (kgens : Array (Array Gen)) : DMap :=
  kgens.toList.foldl (fun dm gs => gs.toList.foldl (fun dm g => dm.insert g ((c.d p g).getD #[])) dm) ∅

theorem dmapK_noexit (c : Cube) (p : Params) (kgens : Array (Array Gen)) (k : DMap → Id Res)
    (hd : ∀ gs ∈ kgens, ∀ g ∈ gs, (c.d p g).isSome = true) : dmapK c p kgens k = k (dmapOf c p kgens) := by
  unfold dmapK
  dsimp only
  rw [forIn_array_noexit (ρ := Res) kgens _
    (fun dm gs => gs.foldl (fun dm g => dm.insert g ((c.d p g).getD #[])) dm) ?h]
  case h =>
    intro gs hgs s
    rw [forIn_array_noexit (ρ := Res) gs _ (fun dm g => dm.insert g ((c.d p g).getD #[])) ?h2]
    case h2 =>
      intro g hg s'
      obtain ⟨ts, hts⟩ := Option.isSome_iff_exists.1 (hd gs hgs g hg)
      simp only [hts, Option.getD_some]
    rfl
  simp only [dmapOf, Array.foldl_toList]
  rfl

theorem ddK_noexit (dI : IGen → Array IGen) (gens : Array (Array IGen)) (k : Id Res)
    (hdd : ∀ gs ∈ gens, ∀ x ∈ gs, (reduce2 ((reduce2 (dI x)).flatMap (fun y => reduce2 (dI y)))).size = 0) :
    ddK dI gens k = k := by
  unfold ddK
  rw [forIn_array_noexit (ρ := Res) gens _ (fun u _ => u) ?h]
  case h =>
    intro gs hgs s
    rw [forIn_array_noexit (ρ := Res) gs _ (fun u _ => u) ?h2]
    case h2 =>
      intro x hx s'
      simp only [hdd gs hgs x hx]
      rfl
    rfl
  rfl

end Yuiv.KhiSpec
