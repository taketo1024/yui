import Yuiv.Proofs.SnfUniqueRank
import Yuiv.Props.C09Euc
/-
Uniqueness of the Smith normal form over a FIELD.  Over a field `K` every non-zero element is a unit, so a divisibility chain `d_0 ∣ d_1 ∣ …` only says "zeros come last",
and a normalised non-zero entry is one fixed constant `c` (`c = 1` for the library's `normalizing_unit = a⁻¹`).  Hence the
Smith diagonal is `c^r 0^(k-r)` with `r = Matrix.rank`, which is invariant under `A ↦ U·A·V`.
Then the bridge to the C09 framework (`LawfulEuc e φ` with `φ : α → K`, `K` a field): `IsSnfOfE e φ A T` is the
conclusion of `C09.snf_total_correct_euc` about the final target `T`.
-/
namespace Yuiv.SnfField
open Matrix Finset

variable {K : Type} [Field K] {m n : ℕ}

theorem chain_iff_zeros_last (d : ℕ → K) : (∀ k, d k ∣ d (k + 1)) ↔ ∀ k, d k = 0 → d (k + 1) = 0 := by
  constructor
  · intro h k h0
    have := h k
    rw [h0] at this
    exact zero_dvd_iff.1 this
  · intro h k
    by_cases h0 : d k = 0
    · rw [h0, h k h0]
    · exact (IsUnit.mk0 _ h0).dvd

/-- a Smith diagonal over a field with normalised non-zero entries equal to the constant `c`
(`c = 1` for `normalizing_unit a = a⁻¹`): off-diagonal zero, `d_k ∣ d_{k+1}`, `d_k ≠ 0 → d_k = c` -/
structure IsSmithK (c : K) (D : Matrix (Fin m) (Fin n) K) : Prop where
  diag : IsDiagK D
  chain : ∀ k, dgK D k ∣ dgK D (k + 1)
  norm : ∀ k, dgK D k ≠ 0 → dgK D k = c

theorem smithK_dg (c : K) (D : Matrix (Fin m) (Fin n) K) (h : IsSmithK c D) (k : ℕ) :
    dgK D k = if k < D.rank then c else 0 := by
  classical
  obtain ⟨r, hr, hk⟩ := SnfUnique.initial_segment (fun k => dgK D k ≠ 0)
    (fun k h1 h0 => h1 ((chain_iff_zeros_last _).1 h.chain k h0)) (min m n)
  have hrank : D.rank = r := by
    rw [rank_diagK D h.diag]
    exact SnfUnique.card_filter_initial _ _ r hr hk
  rw [hrank]
  by_cases hkm : k < min m n
  · by_cases hkr : k < r
    · rw [if_pos hkr]
      exact h.norm k ((hk k hkm).2 hkr)
    · rw [if_neg hkr]
      exact not_not.1 (fun h1 => hkr ((hk k hkm).1 h1))
  · rw [dgK_out D k (by omega), if_neg (by omega)]

theorem rank_le_min (A : Matrix (Fin m) (Fin n) K) : A.rank ≤ min m n := by
  have h1 := A.rank_le_height
  have h2 := A.rank_le_width
  omega

theorem map_ite_eq_replicate (c : K) (r N : ℕ) (hr : r ≤ N) :
    (List.range N).map (fun k => if k < r then c else 0) = List.replicate r c ++ List.replicate (N - r) 0 := by
  apply List.ext_getElem
  · simp; omega
  · intro k h1 h2
    simp only [List.getElem_map, List.getElem_range]
    by_cases hk : k < r
    · rw [if_pos hk, List.getElem_append_left (by simpa using hk), List.getElem_replicate]
    · rw [if_neg hk, List.getElem_append_right (by simpa using hk), List.getElem_replicate]

end Yuiv.SnfField

namespace Yuiv.C09
open Yuiv Matrix Yuiv.SnfField

variable {α K : Type} [Field K] {e : EOps α} {φ : α → K} {m n : Nat}

/-- `T` is a Smith normal form of `A` for the operation record `e` read through `φ`, witnessed by `P, P⁻¹, Q, Q⁻¹`:
literally the conclusion of `snf_total_correct_euc` / `snf_correct_euc` about the final state `(t, p, pinv, q, qinv)` -/
def SnfWitnessE (e : EOps α) (φ : α → K) (A T : Mat α m n) (P Pi : Mat α m m) (Q Qi : Mat α n n) : Prop :=
  (toM φ P * toM φ A * toM φ Q = toM φ T ∧ toM φ P * toM φ Pi = 1 ∧ toM φ Q * toM φ Qi = 1) ∧
    (∀ (i : Fin m) (j : Fin n), i.1 ≠ j.1 → φ (T.get i j) = 0) ∧
    ShapeSpec (NormalisedIn e φ) ((diagL T).map φ)

def IsSnfOfE (e : EOps α) (φ : α → K) (A T : Mat α m n) : Prop := ∃ P Pi Q Qi, SnfWitnessE e φ A T P Pi Q Qi

/-- the normalised associate of `1`: the only non-zero normalised element of a field -/
def normOne (e : EOps α) (φ : α → K) : K := φ (e.mul e.one (e.normUnit e.one))

theorem normOne_ne_zero (L : LawfulEuc e φ) : normOne e φ ≠ 0 := by
  unfold normOne
  rw [L.phi_mul, L.phi_one, one_mul]
  exact L.normUnit_ne_zero _

theorem normalised_eq_normOne (L : LawfulEuc e φ) (x : K) (hx : x ≠ 0) (hn : NormalisedIn e φ x) :
    x = normOne e φ := by
  obtain ⟨a, rfl, hn⟩ := hn
  exact L.norm_unique a _ hn (L.norm_mul e.one) (IsUnit.mk0 _ hx).dvd (IsUnit.mk0 _ (normOne_ne_zero L)).dvd

/-- the diagonal of `toM φ T` is the diagonal sequence of the C09 framework -/
theorem dgK_toM (L : LawfulEuc e φ) (T : Mat α m n) (k : Nat) : dgK (toM φ T) k = Euc.dgz e φ T k := by
  unfold dgK Euc.dgz dg
  split
  · rfl
  · exact L.phi_zero.symm

theorem diagL_map_eq (L : LawfulEuc e φ) (T : Mat α m n) :
    (diagL T).map φ = (List.range (min m n)).map (dgK (toM φ T)) := by
  rw [Euc.diagL_map_dgz (e := e)]
  exact List.map_congr_left fun k _ => (dgK_toM L T k).symm

theorem isSmithK_of_shape (L : LawfulEuc e φ) (T : Mat α m n)
    (hd : ∀ (i : Fin m) (j : Fin n), i.1 ≠ j.1 → φ (T.get i j) = 0)
    (hs : ShapeSpec (NormalisedIn e φ) ((diagL T).map φ)) : IsSmithK (normOne e φ) (toM φ T) := by
  obtain ⟨r, _, hnon, hzero, _⟩ := Euc.shapeSpec_diag L _ T hs
  simp only [← dgK_toM L T] at hnon hzero
  refine ⟨fun i j hij => hd i j hij, (chain_iff_zeros_last _).2 ?_, ?_⟩
  · intro k h0
    apply hzero
    by_contra hlt
    exact (hnon k (by omega)).1 h0
  · intro k h0
    have hk : k < r := by
      by_contra hlt
      exact h0 (hzero k (by omega))
    exact normalised_eq_normOne L _ h0 (hnon k hk).2

theorem SnfWitnessE.isSmithK (L : LawfulEuc e φ) {A T : Mat α m n} {P Pi : Mat α m m} {Q Qi : Mat α n n}
    (h : SnfWitnessE e φ A T P Pi Q Qi) : IsSmithK (normOne e φ) (toM φ T) :=
  isSmithK_of_shape L T h.2.1 h.2.2

theorem SnfWitnessE.rank_eq {A T : Mat α m n} {P Pi : Mat α m m} {Q Qi : Mat α n n}
    (h : SnfWitnessE e φ A T P Pi Q Qi) : (toM φ T).rank = (toM φ A).rank :=
  (C03Uct.UEquiv.of_inverses h.1.2.1 h.1.2.2 h.1.1).rank_eq.symm

theorem dgK_of_isSnfOfE (L : LawfulEuc e φ) (A T : Mat α m n) (h : IsSnfOfE e φ A T) (k : Nat) :
    dgK (toM φ T) k = if k < (toM φ A).rank then normOne e φ else 0 := by
  obtain ⟨P, Pi, Q, Qi, w⟩ := h
  rw [smithK_dg _ _ (w.isSmithK L), w.rank_eq]

theorem diagL_of_isSnfOfE (L : LawfulEuc e φ) (A T : Mat α m n) (h : IsSnfOfE e φ A T) :
    (diagL T).map φ = List.replicate (toM φ A).rank (normOne e φ) ++
      List.replicate (min m n - (toM φ A).rank) 0 := by
  rw [diagL_map_eq L, ← map_ite_eq_replicate _ _ _ (rank_le_min _)]
  exact List.map_congr_left fun k _ => dgK_of_isSnfOfE L A T h k

theorem normOne_rat : normOne ratOps (id : Rat → Rat) = 1 := by
  simp [normOne, ratOps]

theorem normOne_fp (p : Nat) [Fact p.Prime] : normOne (fpOps p) (fun a : Nat => (a : ZMod p)) = 1 := by
  have L := lawfulEuc_fp p
  have h1 : ((fpOps p).one : ZMod p) = 1 := L.phi_one
  have hne : (((fpOps p).one : Nat) : ZMod p) ≠ 0 := by rw [h1]; exact one_ne_zero
  have hm := L.phi_mul (fpOps p).one ((fpOps p).normUnit (fpOps p).one)
  beta_reduce at hm
  show (((fpOps p).mul (fpOps p).one ((fpOps p).normUnit (fpOps p).one) : Nat) : ZMod p) = 1
  rw [hm, h1, one_mul, fp_normUnit,
    if_neg (by rw [beq_iff_eq]; exact fun h0 => hne ((fp_cast_eq_zero p _).2 h0)), fpInv_cast p _ hne, h1, inv_one]

end Yuiv.C09
