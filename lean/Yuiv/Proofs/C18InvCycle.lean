import Yuiv.Proofs.C18InvBraidComp
import Yuiv.Proofs.C18InvPerm
/-
C18Inv — cycles of a permutation of `0 .. n-1` given as a function `σ` (injective self-map of `[0,n)`):
orbits are periodic, "same orbit" is an equivalence, and the positions that are the least element of their
orbit (`cycleReps`) form a transversal of the orbits; `cycleCount` = their number = the number of cycles.

Last section: the classes of `CycRel P` (equivalence generated by `k ~ P[k]`) of a permutation list `P` are the orbits
of `σ = P[·]`; hence `cycleReps` is a `CycTransversal`, and the closure of a braid word has `cycleCount` (number of
cycles of the braid permutation) components.
-/
namespace Yuiv.C18
open Yuiv

structure PermOn (σ : Nat → Nat) (n : Nat) : Prop where
  lt : ∀ k, k < n → σ k < n
  inj : ∀ a b, a < n → b < n → σ a = σ b → a = b

def SameOrb (σ : Nat → Nat) (a b : Nat) : Prop := ∃ j, iter σ j a = b

/-- `k` is the least element of (the first `n` points of) its orbit -/
def orbMin (σ : Nat → Nat) (n k : Nat) : Bool := (List.range n).all (fun j => decide (k ≤ iter σ j k))

/-- one representative (the least element) of every cycle -/
def cycleReps (σ : Nat → Nat) (n : Nat) : List Nat := (List.range n).filter (orbMin σ n)

def cycleCount (σ : Nat → Nat) (n : Nat) : Nat := (cycleReps σ n).length

theorem iter_add {α} (f : α → α) (a b : Nat) (x : α) : iter f (a + b) x = iter f a (iter f b x) := by
  induction a with
  | zero => rw [Nat.zero_add]; rfl
  | succ a ih =>
    rw [Nat.add_right_comm]
    exact congrArg f ih

theorem iter_succ' {α} (f : α → α) (a : Nat) (x : α) : iter f (a + 1) x = iter f a (f x) := by
  rw [iter_add f a 1 x]; rfl

theorem PermOn.iter_lt {σ : Nat → Nat} {n : Nat} (h : PermOn σ n) (k : Nat) (hk : k < n) (j : Nat) :
    iter σ j k < n := by
  induction j with
  | zero => exact hk
  | succ j ih => exact h.lt _ ih

theorem PermOn.iter_cancel {σ : Nat → Nat} {n : Nat} (h : PermOn σ n) (a b : Nat) (ha : a < n) (hb : b < n)
    (j : Nat) (e : iter σ j a = iter σ j b) : a = b := by
  induction j with
  | zero => exact e
  | succ j ih => exact ih (h.inj _ _ (h.iter_lt a ha j) (h.iter_lt b hb j) e)

theorem exists_dup_of_not_nodup (l : List Nat) (h : ¬ l.Nodup) :
    ∃ i j, ∃ (hij : i < j) (hj : j < l.length), l[i]'(by omega) = l[j] :=
  Classical.byContradiction fun hc =>
    h (List.pairwise_iff_getElem.2 fun i j _ hj hij e => hc ⟨i, j, hij, hj, e⟩)

/-- every orbit is periodic with a period between 1 and `n`: among the first `n + 1` iterates two coincide -/
theorem PermOn.periodic {σ : Nat → Nat} {n : Nat} (h : PermOn σ n) (k : Nat) (hk : k < n) :
    ∃ m, 0 < m ∧ m ≤ n ∧ iter σ m k = k := by
  have hnd : ¬ ((List.range (n + 1)).map (fun j => iter σ j k)).Nodup := by
    intro hn
    have hle := hn.length_le_of_subset (l₂ := List.range n) (fun x hx => by
      obtain ⟨j, _, rfl⟩ := List.mem_map.1 hx
      exact List.mem_range.2 (h.iter_lt k hk j))
    rw [List.length_map, List.length_range, List.length_range] at hle
    exact Nat.not_succ_le_self n hle
  obtain ⟨i, j, hij, hj, e⟩ := exists_dup_of_not_nodup _ hnd
  rw [List.length_map, List.length_range] at hj
  rw [List.getElem_map, List.getElem_map, List.getElem_range, List.getElem_range] at e
  have e2 : iter σ i k = iter σ i (iter σ (j - i) k) := by
    rw [← iter_add, Nat.add_sub_cancel' (Nat.le_of_lt hij)]; exact e
  exact ⟨j - i, Nat.sub_pos_of_lt hij, Nat.le_trans (Nat.sub_le j i) (Nat.le_of_lt_succ hj),
    (h.iter_cancel _ _ hk (h.iter_lt k hk (j - i)) i e2).symm⟩

theorem iter_mul_period {σ : Nat → Nat} {m k : Nat} (hm : iter σ m k = k) (t : Nat) : iter σ (t * m) k = k := by
  induction t with
  | zero => rw [Nat.zero_mul]; rfl
  | succ t ih => rw [Nat.succ_mul, iter_add, hm, ih]

theorem iter_mod_period {σ : Nat → Nat} {m k : Nat} (hm : iter σ m k = k) (j : Nat) :
    iter σ j k = iter σ (j % m) k := by
  conv => lhs; rw [← Nat.mod_add_div j m, Nat.mul_comm]
  rw [iter_add, iter_mul_period hm]

theorem SameOrb.refl (σ : Nat → Nat) (a : Nat) : SameOrb σ a a := ⟨0, rfl⟩

theorem SameOrb.trans {σ : Nat → Nat} {a b c : Nat} (h1 : SameOrb σ a b) (h2 : SameOrb σ b c) : SameOrb σ a c := by
  obtain ⟨i, rfl⟩ := h1
  obtain ⟨j, rfl⟩ := h2
  exact ⟨j + i, iter_add σ j i a⟩

theorem SameOrb.symm {σ : Nat → Nat} {n : Nat} (h : PermOn σ n) {a b : Nat} (ha : a < n) (hab : SameOrb σ a b) :
    SameOrb σ b a := by
  obtain ⟨j, rfl⟩ := hab
  obtain ⟨m, hm0, _, hm⟩ := h.periodic a ha
  refine ⟨j * m - j, ?_⟩
  rw [← iter_add, Nat.sub_add_cancel (Nat.le_mul_of_pos_right j hm0)]
  exact iter_mul_period hm j

theorem SameOrb.lt {σ : Nat → Nat} {n : Nat} (h : PermOn σ n) {a b : Nat} (ha : a < n) (hab : SameOrb σ a b) : b < n := by
  obtain ⟨j, rfl⟩ := hab
  exact h.iter_lt a ha j

theorem PermOn.orbit_small {σ : Nat → Nat} {n : Nat} (h : PermOn σ n) (k : Nat) (hk : k < n) (j : Nat) :
    ∃ j', j' < n ∧ iter σ j' k = iter σ j k := by
  obtain ⟨m, hm0, hmn, hm⟩ := h.periodic k hk
  exact ⟨j % m, by have := Nat.mod_lt j hm0; omega, (iter_mod_period hm j).symm⟩

theorem orbMin_iff {σ : Nat → Nat} {n : Nat} (h : PermOn σ n) (k : Nat) (hk : k < n) :
    orbMin σ n k = true ↔ ∀ b, SameOrb σ k b → k ≤ b := by
  unfold orbMin
  simp only [List.all_eq_true, List.mem_range, decide_eq_true_eq]
  constructor
  · rintro hall b ⟨j, rfl⟩
    obtain ⟨j', hj', e⟩ := h.orbit_small k hk j
    rw [← e]; exact hall j' hj'
  · intro hall j _
    exact hall _ ⟨j, rfl⟩

theorem mem_cycleReps {σ : Nat → Nat} {n : Nat} (h : PermOn σ n) (k : Nat) :
    k ∈ cycleReps σ n ↔ k < n ∧ ∀ b, SameOrb σ k b → k ≤ b := by
  unfold cycleReps
  rw [List.mem_filter, List.mem_range]
  constructor
  · rintro ⟨hk, hm⟩; exact ⟨hk, (orbMin_iff h k hk).1 hm⟩
  · rintro ⟨hk, hm⟩; exact ⟨hk, (orbMin_iff h k hk).2 hm⟩

theorem cycleReps_transversal {σ : Nat → Nat} {n : Nat} (h : PermOn σ n) :
    (∀ r ∈ cycleReps σ n, r < n) ∧
    (∀ a ∈ cycleReps σ n, ∀ b ∈ cycleReps σ n, SameOrb σ a b → a = b) ∧
    (∀ k, k < n → ∃ r ∈ cycleReps σ n, SameOrb σ r k) ∧ (cycleReps σ n).Nodup := by
  refine ⟨fun r hr => ((mem_cycleReps h r).1 hr).1, ?_, ?_, ?_⟩
  · intro a ha b hb hab
    obtain ⟨han, hamin⟩ := (mem_cycleReps h a).1 ha
    obtain ⟨_, hbmin⟩ := (mem_cycleReps h b).1 hb
    have h1 := hamin b hab
    have h2 := hbmin a (hab.symm h han)
    omega
  · intro k hk
    -- the least element of the orbit of `k`
    obtain ⟨r, hkr, hmin⟩ := exists_least (SameOrb σ k) ⟨k, SameOrb.refl σ k⟩
    refine ⟨r, (mem_cycleReps h r).2 ⟨hkr.lt h hk, fun b hb => Nat.le_of_not_lt fun hlt => hmin b hlt (hkr.trans hb)⟩,
      hkr.symm h hk⟩
  · unfold cycleReps
    exact List.Nodup.sublist List.filter_sublist List.nodup_range

example : cycleCount (fun x => [1, 0].getD x 0) 2 = 1 ∧ cycleCount (fun x => [0, 1].getD x 0) 2 = 2 ∧
    cycleCount (fun x => [2, 0, 1, 4, 3, 5].getD x 0) 6 = 3 := by decide +kernel

def permFun (P : List Nat) : Nat → Nat := fun x => P.getD x 0

theorem permOn_of_perm {P : List Nat} {n : Nat} (hp : P.Perm (List.range n)) : PermOn (permFun P) n where
  lt := fun k hk => perm_getD_lt hp hk
  inj := by
    intro a b ha hb e
    have h1 := perm_idxOf_getD hp ha
    have h2 := perm_idxOf_getD hp hb
    unfold permFun at e
    rw [← h1, ← h2, e]

theorem sameOrb_of_cycRel {P : List Nat} {n : Nat} (hp : P.Perm (List.range n)) {a b : Nat} (ha : a < n)
    (h : CycRel P a b) : SameOrb (permFun P) a b := by
  have hlen : P.length = n := perm_length hp
  have hP := permOn_of_perm hp
  induction h with
  | refl => exact SameOrb.refl _ _
  | fwd _ _ ih => obtain ⟨j, hj⟩ := ih; exact ⟨j + 1, by show permFun P (iter (permFun P) j a) = _; rw [hj]; rfl⟩
  | @bwd b' _ hb ih =>
    -- a ~ σ b'  ⇒  σ b' ~ a  ⇒  b' ~ a  ⇒  a ~ b'
    have hb' : b' < n := by rw [← hlen]; exact hb
    have h1 : SameOrb (permFun P) (permFun P b') a := SameOrb.symm hP ha ih
    have h2 : SameOrb (permFun P) b' a := SameOrb.trans ⟨1, rfl⟩ h1
    exact SameOrb.symm hP hb' h2

theorem cycRel_of_sameOrb {P : List Nat} {n : Nat} (hp : P.Perm (List.range n)) {a b : Nat} (ha : a < n)
    (h : SameOrb (permFun P) a b) : CycRel P a b := by
  have hlen : P.length = n := perm_length hp
  have hP := permOn_of_perm hp
  obtain ⟨j, rfl⟩ := h
  induction j with
  | zero => exact CycRel.refl a
  | succ j ih =>
    exact CycRel.fwd ih (by rw [hlen]; exact hP.iter_lt a ha j)

theorem cycTransversal_cycleReps {P : List Nat} {n : Nat} (hp : P.Perm (List.range n)) :
    CycTransversal P (cycleReps (permFun P) n) := by
  have hlen : P.length = n := perm_length hp
  have hP := permOn_of_perm hp
  obtain ⟨t1, t2, t3, t4⟩ := cycleReps_transversal hP
  refine ⟨fun r hr => by rw [hlen]; exact t1 r hr, ?_, ?_⟩
  · refine List.Pairwise.imp_of_mem ?_ t4
    intro a b ha hb hne hc
    exact hne (t2 a ha b hb (sameOrb_of_cycRel hp (t1 a ha) hc))
  · intro k hk
    rw [hlen] at hk
    obtain ⟨r, hr, hs⟩ := t3 k hk
    exact ⟨r, hr, cycRel_of_sameOrb hp (t1 r hr) hs⟩

theorem closure_components_count' (strands : Nat) (w : List Int) (l : Link) (h : closure strands w = .ok l) :
    ∃ cs, components l = .ok cs ∧ cs.length = cycleCount (permFun (braidPerm strands w)) strands :=
  closure_components_eq_cycles strands w l h _
    (cycTransversal_cycleReps (braidPerm_perm_of_closure strands w l h))

/-! ### non-vacuity -/

/-- trefoil: `σ₁³`, permutation `[1,0]` (one cycle), one component -/
example : closure 2 [1, 1, 1] = .ok (fromPD [[0, 2, 3, 1], [2, 4, 5, 3], [4, 0, 1, 5]]) := by decide +kernel

example : braidPerm 2 [1, 1, 1] = [1, 0] := by decide +kernel

theorem bc_trefoil_transversal : CycTransversal (braidPerm 2 [1, 1, 1]) [0] :=
  cycTransversal_cycleReps (P := braidPerm 2 [1, 1, 1]) (n := 2) (by decide)

example : ∃ cs, components (fromPD [[0, 2, 3, 1], [2, 4, 5, 3], [4, 0, 1, 5]]) = .ok cs ∧ cs.length = 1 :=
  closure_components_eq_cycles 2 [1, 1, 1] _ (by decide +kernel) [0] bc_trefoil_transversal

/-- Hopf link: `σ₁²`, permutation `[0,1]` (two cycles), two components -/
theorem bc_hopf_transversal : CycTransversal (braidPerm 2 [1, 1]) [0, 1] :=
  cycTransversal_cycleReps (P := braidPerm 2 [1, 1]) (n := 2) (by decide)

example : closure 2 [1, 1] = .ok (fromPD [[0, 2, 3, 1], [2, 0, 1, 3]]) := by decide +kernel

example : ∃ cs, components (fromPD [[0, 2, 3, 1], [2, 0, 1, 3]]) = .ok cs ∧ cs.length = 2 :=
  closure_components_eq_cycles 2 [1, 1] _ (by decide +kernel) [0, 1] bc_hopf_transversal

/-- a word with a negative letter: `σ₁ σ₂⁻¹` on three strands, permutation `[1,2,0]` (one cycle), one component -/
theorem bc_neg_transversal : CycTransversal (braidPerm 3 [1, -2]) [0] :=
  cycTransversal_cycleReps (P := braidPerm 3 [1, -2]) (n := 3) (by decide)

example : ∃ l cs, closure 3 [1, -2] = .ok l ∧ components l = .ok cs ∧ cs.length = 1 := by
  have hc : closure 3 [1, -2] = .ok (fromPD [[0, 0, 4, 1], [2, 4, 1, 2]]) := by decide +kernel
  obtain ⟨cs, h1, h2⟩ := closure_components_eq_cycles 3 [1, -2] _ hc [0] bc_neg_transversal
  exact ⟨_, cs, hc, h1, h2⟩

end Yuiv.C18
