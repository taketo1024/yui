import Yuiv.Model.C10
import Yuiv.Proofs.Res
/-
What the literal model `Yuiv/Model/C10.lean` does when it returns, entry by entry, so that no later proof unfolds it
(`reduce` is an `add_row_to`, possibly with multiplier 0; both `iterate` functions are one shape `iterateWith`).
Core Lean only: the proofs about the model (with Mathlib) and the translator equalities (`Proofs/C10Gen.lean`, without)
both rest on this file.
-/
namespace Yuiv.C10
open Yuiv Res

theorem ent_mkMat {m n : Nat} (f : Nat → Nat → Int) {i j : Nat} (hi : i < m) (hj : j < n) :
    ent (mkMat m n f) i j = f i j := by
  simp [ent, mkMat, Array.getD, hi, hj]

/-- the transposition of `i` and `j`, applied to `r` -/
def sw (i j r : Nat) : Nat := if r = i then j else if r = j then i else r

section
variable {m n : Nat} {A : Mat} {i j a c : Nat} {u : Int}

theorem ent_mSwapRows (ha : a < m) (hc : c < n) : ent (mSwapRows m n A i j) a c = ent A (sw i j a) c := by
  rw [mSwapRows, ent_mkMat _ ha hc]; rfl

theorem ent_mSwapCols (ha : a < m) (hc : c < n) : ent (mSwapCols m n A i j) a c = ent A a (sw i j c) := by
  rw [mSwapCols, ent_mkMat _ ha hc]; rfl

theorem ent_mMulRow (ha : a < m) (hc : c < n) :
    ent (mMulRow m n A i u) a c = if a = i then ent A a c * u else ent A a c := by
  rw [mMulRow, ent_mkMat _ ha hc]

theorem ent_mMulCol (ha : a < m) (hc : c < n) :
    ent (mMulCol m n A j u) a c = if c = j then ent A a c * u else ent A a c := by
  rw [mMulCol, ent_mkMat _ ha hc]

theorem ent_mAddRowTo (ha : a < m) (hc : c < n) :
    ent (mAddRowTo m n A i j u) a c = if a = j then ent A a c + ent A i c * u else ent A a c := by
  rw [mAddRowTo, ent_mkMat _ ha hc]

theorem ent_mAddColTo (ha : a < m) (hc : c < n) :
    ent (mAddColTo m n A i j u) a c = if c = j then ent A a c + ent A a i * u else ent A a c := by
  rw [mAddColTo, ent_mkMat _ ha hc]

end

/-- `t'` is `t` with `target` and `p` mapped by `f` and `pinv` by `g`, entrywise on the index ranges (what ONE row
primitive does, not a step of the algorithm) -/
structure Tr.Step (t t' : Tr) (f g : (Nat → Nat → Int) → Nat → Nat → Int) : Prop where
  m : t'.m = t.m
  n : t'.n = t.n
  target : ∀ a < t.m, ∀ c < t.n, ent t'.target a c = f (ent t.target) a c
  p : ∀ a < t.m, ∀ c < t.m, ent t'.p a c = f (ent t.p) a c
  pinv : ∀ a < t.m, ∀ c < t.m, ent t'.pinv a c = g (ent t.pinv) a c

theorem Tr.swapRows_eq_ok {t t' : Tr} {i j : Nat} : t.swapRows i j = ok t' ↔ (i < t.m ∧ j < t.m) ∧
    t' = { t with target := mSwapRows t.m t.n t.target i j, p := mSwapRows t.m t.m t.p i j,
                  pinv := mSwapCols t.m t.m t.pinv i j } := by
  unfold Tr.swapRows
  rw [assert_bind_eq_ok, Bool.and_eq_true, decide_eq_true_eq, decide_eq_true_eq]
  exact and_congr_right' ⟨fun h => (ok.inj h).symm, fun h => by rw [h]; rfl⟩

theorem Tr.mulRow_eq_ok {t t' : Tr} {i : Nat} {u : Int} : t.mulRow i u = ok t' ↔ isUnitZ u = true ∧ i < t.m ∧
    t' = { t with target := mMulRow t.m t.n t.target i u, p := mMulRow t.m t.m t.p i u,
                  pinv := mMulCol t.m t.m t.pinv i u } := by
  unfold Tr.mulRow
  rw [assert_bind_eq_ok, assert_bind_eq_ok, decide_eq_true_eq]
  exact and_congr_right' (and_congr_right' ⟨fun h => (ok.inj h).symm, fun h => by rw [h]; rfl⟩)

theorem Tr.addRowTo_eq_ok {t t' : Tr} {i k : Nat} {r : Int} : t.addRowTo i k r = ok t' ↔ i < k ∧ k < t.m ∧
    t' = { t with target := mAddRowTo t.m t.n t.target i k r, p := mAddRowTo t.m t.m t.p i k r,
                  pinv := mAddColTo t.m t.m t.pinv k i (-r) } := by
  unfold Tr.addRowTo
  rw [assert_bind_eq_ok, assert_bind_eq_ok, decide_eq_true_eq, decide_eq_true_eq]
  exact and_congr_right' (and_congr_right' ⟨fun h => (ok.inj h).symm, fun h => by rw [h]; rfl⟩)

theorem Tr.swapRows_spec {t t' : Tr} {i j : Nat} (h : t.swapRows i j = ok t') :
    i < t.m ∧ j < t.m ∧ t.Step t' (fun T a c => T (sw i j a) c) (fun T a c => T a (sw i j c)) := by
  obtain ⟨⟨hi, hj⟩, rfl⟩ := Tr.swapRows_eq_ok.mp h
  exact ⟨hi, hj, rfl, rfl, fun a ha c hc => ent_mSwapRows ha hc, fun a ha c hc => ent_mSwapRows ha hc,
    fun a ha c hc => ent_mSwapCols ha hc⟩

theorem isUnitZ_iff {u : Int} : isUnitZ u = true ↔ u = 1 ∨ u = -1 := by
  simp only [isUnitZ, Bool.or_eq_true, beq_iff_eq]
  omega

theorem Tr.mulRow_spec {t t' : Tr} {i : Nat} {u : Int} (h : t.mulRow i u = ok t') :
    (u = 1 ∨ u = -1) ∧ i < t.m ∧ t.Step t' (fun T a c => if a = i then T a c * u else T a c)
      (fun T a c => if c = i then T a c * u else T a c) := by
  obtain ⟨hu, hi, rfl⟩ := Tr.mulRow_eq_ok.mp h
  exact ⟨isUnitZ_iff.mp hu, hi, rfl, rfl, fun a ha c hc => ent_mMulRow ha hc, fun a ha c hc => ent_mMulRow ha hc,
    fun a ha c hc => ent_mMulCol ha hc⟩

theorem Tr.addRowTo_spec {t t' : Tr} {i k : Nat} {r : Int} (h : t.addRowTo i k r = ok t') :
    i < k ∧ k < t.m ∧ t.Step t' (fun T a c => if a = k then T a c + T i c * r else T a c)
      (fun T a c => if c = i then T a c + T a k * -r else T a c) := by
  obtain ⟨hik, hk, rfl⟩ := Tr.addRowTo_eq_ok.mp h
  exact ⟨hik, hk, rfl, rfl, fun a ha c hc => ent_mAddRowTo ha hc, fun a ha c hc => ent_mAddRowTo ha hc,
    fun a ha c hc => ent_mAddColTo ha hc⟩

/-- `det[i]` (`= d_{i+1}`) -/
def Data.dv (d : Data) (i : Nat) : Int := d.det.getD i 0
/-- `if k >= 2 { d[k-2] } else { 1 }` (`= d_{k-1}`) -/
def Data.dprev (d : Data) (k : Nat) : Int := if k ≥ 2 then d.det.getD (k - 2) 0 else 1

theorem getD_set! (a : Array Int) (p i : Nat) (v : Int) (hp : p < a.size) :
    (a.set! p v).getD i 0 = if i = p then v else a.getD i 0 := by
  rw [Array.getD_eq_getD_getElem?, Array.getD_eq_getD_getElem?, Array.set!, Array.getElem?_setIfInBounds]
  by_cases h : i = p
  · subst h
    simp [hp]
  · rw [if_neg h, if_neg (fun e : p = i => h e.symm)]

theorem detAt_eq_ok {d : Data} {i : Nat} {v : Int} : detAt d i = ok v ↔ i < d.det.size ∧ v = d.dv i := by
  by_cases hi : i < d.det.size
  · rw [detAt, if_pos hi]
    exact ⟨fun h => ⟨hi, (ok.inj h).symm⟩, fun h => by rw [h.2]; rfl⟩
  · rw [detAt, if_neg hi]
    exact ⟨(fun h => by cases h), fun h => absurd h.1 hi⟩

theorem detPrev_eq_ok {d : Data} {k : Nat} {v : Int} :
    detPrev d k = ok v ↔ (2 ≤ k → k - 2 < d.det.size) ∧ v = d.dprev k := by
  unfold detPrev Data.dprev
  split
  · rename_i h2
    rw [detAt_eq_ok]
    exact ⟨fun h => ⟨fun _ => h.1, h.2⟩, fun h => ⟨h.1 h2, h.2⟩⟩
  · rename_i h2
    exact ⟨fun h => ⟨fun h' => absurd h' h2, (ok.inj h).symm⟩, fun h => by rw [h.2]; rfl⟩

theorem detAt_eq (d : Data) (i : Nat) (hi : i < d.det.size) : detAt d i = ok (d.dv i) := detAt_eq_ok.mpr ⟨hi, rfl⟩

theorem detPrev_eq (d : Data) (k : Nat) (hk : k ≤ d.det.size) : detPrev d k = ok (d.dprev k) :=
  detPrev_eq_ok.mpr ⟨fun _ => by omega, rfl⟩

/-- the Lovász test (α = 3/4) on the integer data: `3·det[k-1]² ≤ 4·(d_{k-1}·det[k] + λ_{k,k-1}²)` -/
def Data.Lov (d : Data) (k : Nat) : Prop :=
  3 * (d.dv (k - 1) * d.dv (k - 1)) ≤ 4 * (d.dprev k * d.dv k + ent d.lam k (k - 1) * ent d.lam k (k - 1))

instance (d : Data) (k : Nat) : Decidable (d.Lov k) := by unfold Data.Lov; infer_instance

theorem Data.lovaszOk_spec {d : Data} {k : Nat} {b : Bool} (h : d.lovaszOk k = ok b) :
    0 < k ∧ k < d.det.size ∧ (b = true ↔ d.Lov k) := by
  unfold Data.lovaszOk at h
  simp only [alphaZ, bind_eq_ok_iff, assert_eq_ok, decide_eq_true_eq, detAt_eq_ok, detPrev_eq_ok] at h
  obtain ⟨_, hk, d0, ⟨_, rfl⟩, d1, ⟨_, rfl⟩, d2, ⟨hk2, rfl⟩, h⟩ := h
  refine ⟨hk, hk2, ?_⟩
  rw [← ok.inj h]
  exact decide_eq_true_iff

theorem Data.lovaszOk_eq (d : Data) (k : Nat) (hk0 : 0 < k) (hk : k < d.tr.m) (hsz : d.det.size = d.tr.m) :
    ∃ b, d.lovaszOk k = ok b ∧ (b = true ↔ d.Lov k) := by
  refine ⟨decide (d.Lov k), ?_, decide_eq_true_iff⟩
  unfold Data.lovaszOk
  simp only [Res.assert, hk0, decide_true, if_true, bind_ok, alphaZ, detPrev_eq d k (by omega),
    detAt_eq d (k - 1) (by omega), detAt_eq d k (by omega), pure_eq]
  rfl

structure Data.RowAdd (d d' : Data) (i k : Nat) (r : Int) : Prop where
  tr : d.tr.Step d'.tr (fun T a c => if a = k then T a c + T i c * r else T a c)
    (fun T a c => if c = i then T a c + T a k * -r else T a c)
  det : d'.det = d.det
  step : d'.step = d.step
  lam : ∀ a < d.tr.m, ∀ b < d.tr.m, ent d'.lam a b =
    if a = k then (if b = i then ent d.lam k i + r * d.dv i
      else if b < i then ent d.lam k b + r * ent d.lam i b else ent d.lam a b)
    else ent d.lam a b

theorem Data.RowAdd.zero (d : Data) (i k : Nat) : d.RowAdd d i k 0 := by
  refine ⟨⟨rfl, rfl, fun a _ c _ => ?_, fun a _ c _ => ?_, fun a _ c _ => ?_⟩, rfl, rfl, fun a _ b _ => ?_⟩
  · simp only [Int.mul_zero, Int.add_zero, ite_self]
  · simp only [Int.mul_zero, Int.add_zero, ite_self]
  · simp only [Int.neg_zero, Int.mul_zero, Int.add_zero, ite_self]
  · by_cases ha : a = k
    · subst ha
      by_cases hb : b = i
      · subst hb; simp only [Int.zero_mul, Int.add_zero, ite_true]
      · simp only [Int.zero_mul, Int.add_zero, ite_self, if_neg hb]
    · rw [if_neg ha]

theorem Data.addRowTo_spec {d d' : Data} {i k : Nat} {r : Int} (h : d.addRowTo i k r = ok d') :
    i < k ∧ k < d.tr.m ∧ i < d.det.size ∧ d.tr.addRowTo i k r = ok d'.tr ∧ d.RowAdd d' i k r := by
  unfold Data.addRowTo at h
  simp only [bind_eq_ok_iff, detAt_eq_ok] at h
  obtain ⟨tr, h1, di, ⟨hi, rfl⟩, h⟩ := h
  obtain rfl := ok.inj h
  obtain ⟨hik, hk, S⟩ := Tr.addRowTo_spec h1
  refine ⟨hik, hk, hi, h1, S, rfl, rfl, fun a ha b hb => ?_⟩
  dsimp only
  rw [ent_mkMat _ ha hb]

theorem Data.addRowTo_isOk (d : Data) {i k : Nat} (r : Int) (hik : i < k) (hk : k < d.tr.m) (hi : i < d.det.size) :
    ∃ d', d.addRowTo i k r = ok d' := by
  unfold Data.addRowTo
  rw [Tr.addRowTo_eq_ok.mpr ⟨hik, hk, rfl⟩, bind_ok, detAt_eq_ok.mpr ⟨hi, rfl⟩]
  exact ⟨_, rfl⟩

structure Data.RowMul (d d' : Data) (i : Nat) (u : Int) : Prop where
  tr : d.tr.Step d'.tr (fun T a c => if a = i then T a c * u else T a c) (fun T a c => if c = i then T a c * u else T a c)
  det : d'.det = d.det
  step : d'.step = d.step
  lam : ∀ a < d.tr.m, ∀ b < d.tr.m, ent d'.lam a b =
    if b = i then (if a = i then ent d.lam a b * u else ent d.lam a b) * u
    else (if a = i then ent d.lam a b * u else ent d.lam a b)

theorem Data.RowMul.one (d : Data) (i : Nat) : d.RowMul d i 1 := by
  refine ⟨⟨rfl, rfl, fun a _ c _ => ?_, fun a _ c _ => ?_, fun a _ c _ => ?_⟩, rfl, rfl, fun a _ b _ => ?_⟩
  all_goals simp only [Int.mul_one, ite_self]

theorem Data.mulRow_spec {d d' : Data} {i : Nat} {u : Int} (h : d.mulRow i u = ok d') :
    (u = 1 ∨ u = -1) ∧ i < d.tr.m ∧ d.tr.mulRow i u = ok d'.tr ∧ d.RowMul d' i u := by
  unfold Data.mulRow at h
  simp only [bind_eq_ok_iff] at h
  obtain ⟨tr, h1, h⟩ := h
  obtain rfl := ok.inj h
  obtain ⟨hu, hi, S⟩ := Tr.mulRow_spec h1
  refine ⟨hu, hi, h1, S, rfl, rfl, fun a ha b hb => ?_⟩
  dsimp only
  rw [ent_mMulCol ha hb, ent_mMulRow ha hb]

theorem Data.mulRow_isOk (d : Data) {i : Nat} {u : Int} (hu : u = 1 ∨ u = -1) (hi : i < d.tr.m) :
    ∃ d', d.mulRow i u = ok d' := by
  unfold Data.mulRow
  rw [Tr.mulRow_eq_ok.mpr ⟨isUnitZ_iff.mpr hu, hi, rfl⟩]
  exact ⟨_, rfl⟩

theorem Data.mulRowIf_isOk (d : Data) {i : Nat} {u : Int} (hu : u = 1 ∨ u = -1) (hi : i < d.tr.m) :
    ∃ d', d.mulRowIf i u = ok d' := by
  unfold Data.mulRowIf
  split
  · exact Data.mulRow_isOk d hu hi
  · exact ⟨d, rfl⟩

theorem Data.mulRowIf_spec {d d' : Data} {i : Nat} {u : Int} (h : d.mulRowIf i u = ok d') :
    (u ≠ 1 ∧ d.mulRow i u = ok d') ∨ (u = 1 ∧ d' = d) := by
  unfold Data.mulRowIf at h
  split at h
  · rename_i hu
    exact Or.inl ⟨hu, h⟩
  · rename_i hu
    exact Or.inr ⟨Decidable.not_not.mp hu, (ok.inj h).symm⟩

theorem Data.mulRowIf_rowMul {d d' : Data} {i : Nat} {u : Int} (h : d.mulRowIf i u = ok d') : d.RowMul d' i u := by
  rcases Data.mulRowIf_spec h with ⟨_, h⟩ | ⟨rfl, rfl⟩
  · exact (Data.mulRow_spec h).2.2.2
  · exact Data.RowMul.one d' i

structure Data.Swapped (d d' : Data) (k : Nat) : Prop where
  tr : d.tr.Step d'.tr (fun T a c => T (sw (k - 1) k a) c) (fun T a c => T a (sw (k - 1) k c))
  step : d'.step = d.step
  size : d'.det.size = d.det.size
  dv : ∀ j, d'.dv j = if j = k - 1 then
    (d.dprev k * d.dv k + ent d.lam k (k - 1) * ent d.lam k (k - 1)).tdiv (d.dv (k - 1)) else d.dv j
  lam : ∀ a < d.tr.m, ∀ b < d.tr.m, ent d'.lam a b =
    if k < a then
      (if b = k - 1 then (ent d.lam k (k - 1) * ent d.lam a (k - 1) + ent d.lam a k * d.dprev k).tdiv (d.dv (k - 1))
       else if b = k then (ent d.lam a (k - 1) * d.dv k - ent d.lam a k * ent d.lam k (k - 1)).tdiv (d.dv (k - 1))
       else ent d.lam a b)
    else if b < k - 1 then ent d.lam (sw (k - 1) k a) b else ent d.lam a b

theorem Data.swap_spec {d d' : Data} {k : Nat} (h : d.swap k = ok d') :
    0 < k ∧ k < d.tr.m ∧ k < d.det.size ∧ d.dv (k - 1) ≠ 0 ∧ d.tr.swapRows (k - 1) k = ok d'.tr ∧ d.Swapped d' k := by
  unfold Data.swap at h
  simp only [bind_eq_ok_iff, assert_eq_ok, detAt_eq_ok, detPrev_eq_ok, decide_eq_true_eq, bne_iff_ne] at h
  obtain ⟨_, hk0, tr, h1, d0, ⟨_, rfl⟩, d1, ⟨hk1, rfl⟩, d2, ⟨hk2, rfl⟩, _, hne, h⟩ := h
  obtain rfl := ok.inj h
  obtain ⟨hk1m, hkm, S⟩ := Tr.swapRows_spec h1
  have e : ∀ a < d.tr.m, ∀ b < d.tr.m, ent (mkMat d.tr.m d.tr.m fun a b =>
      if b < k - 1 then ent d.lam (if a = k - 1 then k else if a = k then k - 1 else a) b else ent d.lam a b) a b
      = if b < k - 1 then ent d.lam (sw (k - 1) k a) b else ent d.lam a b := fun a ha b hb => ent_mkMat _ ha hb
  have e0 := e k hkm (k - 1) hk1m
  rw [if_neg (Nat.lt_irrefl _)] at e0
  refine ⟨hk0, hkm, hk2, hne, h1, S, rfl, ?_, fun j => ?_, fun a ha b hb => ?_⟩
  · dsimp only
    rw [Array.size_set!]
  · unfold Data.dv
    dsimp only
    rw [getD_set! _ _ _ _ hk1, e0]
  · dsimp only
    rw [ent_mkMat _ ha hb, e0, e a ha (k - 1) hk1m, if_neg (Nat.lt_irrefl (k - 1)), e a ha k hkm,
      if_neg (show ¬ k < k - 1 by omega), e a ha b hb]
    by_cases hka : k < a
    · have hsw : sw (k - 1) k a = a := by unfold sw; rw [if_neg (by omega), if_neg (by omega)]
      rw [if_pos hka, if_pos hka, hsw, ite_self]
    · rw [if_neg hka, if_neg hka]

theorem Data.Swapped.lam_lt {d d' : Data} {k : Nat} (hS : d.Swapped d' k) {a b : Nat} (ha : a < k - 1)
    (hb : b < d.tr.m) (hk : k < d.tr.m) : ent d'.lam a b = ent d.lam a b := by
  have hsw : sw (k - 1) k a = a := by unfold sw; rw [if_neg (by omega), if_neg (by omega)]
  rw [hS.lam a (by omega) b hb, if_neg (by omega : ¬ k < a), hsw, ite_self]

theorem Data.swap_isOk (d : Data) {k : Nat} (hk0 : 0 < k) (hk : k < d.tr.m) (hsz : k < d.det.size)
    (hne : d.dv (k - 1) ≠ 0) : ∃ d', d.swap k = ok d' := by
  have hne' : (d.dv (k - 1) != 0) = true := bne_iff_ne.mpr hne
  have e3 : d.tr.swapRows (k - 1) k = ok _ := Tr.swapRows_eq_ok.mpr ⟨⟨by omega, hk⟩, rfl⟩
  unfold Data.swap
  simp only [Res.assert, hk0, decide_true, if_true, bind_ok, detPrev_eq d k (by omega), detAt_eq d (k - 1) (by omega),
    detAt_eq d k hsz, e3, hne', pure_eq]
  exact ⟨_, rfl⟩

theorem Data.reduce_spec {d d' : Data} {i k : Nat} (h : d.reduce i k = ok d') :
    i < k ∧ k < d.tr.m ∧ i < d.det.size ∧ ∃ q, divRound (ent d.lam k i) (d.dv i) = ok q ∧
      ((q ≠ 0 ∧ d.addRowTo i k (-q) = ok d') ∨ (q = 0 ∧ d' = d)) := by
  unfold Data.reduce at h
  simp only [bind_eq_ok_iff, assert_eq_ok, detAt_eq_ok, decide_eq_true_eq] at h
  obtain ⟨_, hik, _, hk, di, ⟨hi, rfl⟩, q, hq, h⟩ := h
  refine ⟨hik, hk, hi, q, hq, ?_⟩
  split at h
  · rename_i hq0
    exact Or.inl ⟨hq0, h⟩
  · rename_i hq0
    exact Or.inr ⟨Decidable.not_not.mp hq0, (ok.inj h).symm⟩

theorem Data.reduce_rowAdd {d d' : Data} {i k : Nat} (h : d.reduce i k = ok d') :
    ∃ q, divRound (ent d.lam k i) (d.dv i) = ok q ∧ d.RowAdd d' i k (-q) := by
  obtain ⟨_, _, _, q, hq, ⟨_, h⟩ | ⟨rfl, rfl⟩⟩ := Data.reduce_spec h
  · exact ⟨q, hq, (Data.addRowTo_spec h).2.2.2.2⟩
  · exact ⟨0, hq, by rw [Int.neg_zero]; exact Data.RowAdd.zero d' i k⟩

theorem Data.reduce_eq (d : Data) {i k : Nat} (hik : i < k) (hk : k < d.tr.m) (hi : i < d.det.size) :
    d.reduce i k = divRound (ent d.lam k i) (d.dv i) >>= fun q => if q ≠ 0 then d.addRowTo i k (-q) else pure d := by
  unfold Data.reduce
  simp only [Res.assert, hik, hk, decide_true, if_true, bind_ok, detAt_eq_ok.mpr ⟨hi, rfl⟩]

theorem hnfReduce_spec {d d' : Data} {i k : Nat} (h : hnfReduce d i k = ok d') : i < k ∧ k < d.tr.m ∧
    ((∃ j d1 q, d.nzColIn i = some j ∧ d.mulRowIf i (if ent d.tr.target i j < 0 then -1 else 1) = ok d1 ∧
        divRound (ent d1.tr.target k j) (ent d1.tr.target i j) = ok q ∧
        ((q ≠ 0 ∧ d1.addRowTo i k (-q) = ok d') ∨ (q = 0 ∧ d' = d1))) ∨
      (d.nzColIn i = none ∧ d.reduce i k = ok d')) := by
  unfold hnfReduce at h
  rw [assert_bind_eq_ok, assert_bind_eq_ok, decide_eq_true_eq, decide_eq_true_eq] at h
  obtain ⟨hik, hk, h⟩ := h
  refine ⟨hik, hk, ?_⟩
  split at h
  · rename_i j hj
    simp only [bind_eq_ok_iff] at h
    obtain ⟨d1, h1, q, hq, h⟩ := h
    refine Or.inl ⟨j, d1, q, hj, h1, hq, ?_⟩
    split at h
    · rename_i hq0
      exact Or.inl ⟨hq0, h⟩
    · rename_i hq0
      exact Or.inr ⟨Decidable.not_not.mp hq0, (ok.inj h).symm⟩
  · rename_i hj
    exact Or.inr ⟨hj, h⟩

theorem hnfReduce_none (d : Data) {i k : Nat} (hik : i < k) (hk : k < d.tr.m) (hj : d.nzColIn i = none) :
    hnfReduce d i k = d.reduce i k := by
  unfold hnfReduce
  simp only [Res.assert, hik, hk, decide_true, if_true, bind_ok, hj]

theorem hnfReduce_some (d : Data) {i k j : Nat} (hik : i < k) (hk : k < d.tr.m) (hj : d.nzColIn i = some j) :
    hnfReduce d i k = d.mulRowIf i (if ent d.tr.target i j < 0 then -1 else 1) >>= fun d1 =>
      divRound (ent d1.tr.target k j) (ent d1.tr.target i j) >>= fun q =>
        if q ≠ 0 then d1.addRowTo i k (-q) else pure d1 := by
  unfold hnfReduce
  simp only [Res.assert, hik, hk, decide_true, if_true, bind_ok, hj]

theorem revLoop_preserves (f : Data → Nat → Res Data) (P : Data → Prop)
    (hf : ∀ d d' i, f d i = ok d' → P d → P d') :
    ∀ (n : Nat) (d d' : Data), revLoop f d n = ok d' → P d → P d' := by
  intro n
  induction n with
  | zero => intro d d' h hP; simp only [revLoop, pure_eq, Res.ok.injEq] at h; subst h; exact hP
  | succ i ih =>
    intro d d' h hP
    simp only [revLoop, bind_eq_ok_iff] at h
    obtain ⟨d1, h1, h2⟩ := h
    exact ih d1 d' h2 (hf d d1 i h1 hP)

/-- the common shape of `LLLCalc::iterate` and `LLLHNFCalc::iterate`: they differ in the row reduction `red` and in
the test `test` that decides between advancing and swapping -/
def iterateWith (red : Data → Nat → Nat → Res Data) (test : Data → Nat → Res Bool) (d : Data) : Res Data := do
  let d1 ← red d (d.step - 1) d.step
  if ← test d1 d.step then
    let d2 ← revLoop (fun d' i => red d' i d.step) d1 (d.step - 1)
    pure d2.next
  else
    let d2 ← d1.swap d.step
    pure d2.back

theorem lllIterate_eq (d : Data) : lllIterate d = iterateWith Data.reduce Data.lovaszOk d := rfl
theorem hnfIterate_eq (d : Data) : hnfIterate d = iterateWith hnfReduce hnfIsOk d := rfl

section
variable {red : Data → Nat → Nat → Res Data} {test : Data → Nat → Res Bool} {d d1 d2 d' : Data}

theorem iterateWith_advance (h1 : red d (d.step - 1) d.step = ok d1) (hb : test d1 d.step = ok true)
    (h2 : revLoop (fun d' i => red d' i d.step) d1 (d.step - 1) = ok d2) : iterateWith red test d = ok d2.next := by
  simp only [iterateWith, h1, bind_ok, hb, if_true, h2, pure_eq]

theorem iterateWith_swap (h1 : red d (d.step - 1) d.step = ok d1) (hb : test d1 d.step = ok false)
    (h2 : d1.swap d.step = ok d2) : iterateWith red test d = ok d2.back := by
  simp only [iterateWith, h1, bind_ok, hb, Bool.false_eq_true, if_false, h2, pure_eq]

theorem iterateWith_inv (h : iterateWith red test d = ok d') :
    ∃ d1, red d (d.step - 1) d.step = ok d1 ∧
      ((test d1 d.step = ok true ∧
          ∃ d2, revLoop (fun d' i => red d' i d.step) d1 (d.step - 1) = ok d2 ∧ d' = d2.next) ∨
       (test d1 d.step = ok false ∧ ∃ d2, d1.swap d.step = ok d2 ∧ d' = d2.back)) := by
  simp only [iterateWith, bind_eq_ok_iff] at h
  obtain ⟨d1, h1, b, hb, h⟩ := h
  refine ⟨d1, h1, ?_⟩
  cases b with
  | true =>
    simp only [if_true, bind_eq_ok_iff, pure_eq, Res.ok.injEq] at h
    obtain ⟨d2, h2, h⟩ := h
    exact Or.inl ⟨hb, d2, h2, h.symm⟩
  | false =>
    simp only [Bool.false_eq_true, if_false, bind_eq_ok_iff, pure_eq, Res.ok.injEq] at h
    obtain ⟨d2, h2, h⟩ := h
    exact Or.inr ⟨hb, d2, h2, h.symm⟩

theorem iterateWith_preserves (P : Data → Prop) (hred : ∀ d d' i k, red d i k = ok d' → P d → P d')
    (hswap : ∀ d d' k, d.swap k = ok d' → P d → P d') (hnext : ∀ d, P d → P d.next) (hback : ∀ d, P d → P d.back)
    (h : iterateWith red test d = ok d') (hP : P d) : P d' := by
  obtain ⟨d1, h1, ⟨_, d2, h2, rfl⟩ | ⟨_, d2, h2, rfl⟩⟩ := iterateWith_inv h
  · exact hnext _ (revLoop_preserves _ P (fun a a' i ha => hred a a' i _ ha) _ d1 d2 h2 (hred d d1 _ _ h1 hP))
  · exact hback _ (hswap d1 d2 _ h2 (hred d d1 _ _ h1 hP))

end

theorem loopWhile_preserves (it : Data → Res Data) (P : Data → Prop)
    (hit : ∀ d d', d.step < d.tr.m → it d = ok d' → P d → P d') :
    ∀ (fuel : Nat) (d d' : Data), loopWhile it fuel d = ok d' → P d → P d' ∧ ¬ d'.step < d'.tr.m := by
  intro fuel
  induction fuel with
  | zero =>
    intro d d' h hP
    simp only [loopWhile] at h
    split at h
    · cases h
    · rename_i hlt
      simp only [pure_eq, Res.ok.injEq] at h; subst h; exact ⟨hP, hlt⟩
  | succ f ih =>
    intro d d' h hP
    simp only [loopWhile] at h
    split at h
    · rename_i hlt
      simp only [bind_eq_ok_iff] at h
      obtain ⟨d1, h1, h2⟩ := h
      exact ih d1 d' h2 (hit d d1 hlt h1 hP)
    · rename_i hlt
      simp only [pure_eq, Res.ok.injEq] at h; subst h; exact ⟨hP, hlt⟩

theorem Data.next_tr (d : Data) : d.next.tr = d.tr := rfl
theorem Data.back_tr (d : Data) : d.back.tr = d.tr := by unfold Data.back; split <;> rfl

theorem hnfNormalizeLast_spec {d d' : Data} (h : hnfNormalizeLast d = ok d') :
    (∃ j, 0 < d.tr.m ∧ d.nzColIn (d.tr.m - 1) = some j ∧
      d.mulRowIf (d.tr.m - 1) (if ent d.tr.target (d.tr.m - 1) j < 0 then -1 else 1) = ok d') ∨
    ((d.tr.m = 0 ∨ d.nzColIn (d.tr.m - 1) = none) ∧ d' = d) := by
  unfold hnfNormalizeLast at h
  split at h
  · rename_i hm
    dsimp only at h
    split at h
    · rename_i j hj
      exact Or.inl ⟨j, hm, hj, h⟩
    · rename_i hj
      exact Or.inr ⟨Or.inr hj, (ok.inj h).symm⟩
  · exact Or.inr ⟨Or.inl (by omega), (ok.inj h).symm⟩

end Yuiv.C10
