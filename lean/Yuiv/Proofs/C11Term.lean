import Yuiv.Proofs.C11Worker
/-
C11 — the termination measure of the parallel phase and how it changes under the three shapes a step can have
(a task starts; the worker of a row leaves the list; it is put back in a new local state).  That every step has
one of these shapes with the right side conditions is shown together with the invariant (`step_spec`, `C11Par`).
-/
namespace Yuiv.C11
open Yuiv Res

/-- an upper bound on the length the shared table can still reach -/
def bnd (st : State) : Nat := st.S.length + st.ws.length + st.todo.length

/-- the term of a worker: twice the distance of its snapshot from the bound, plus one while it has not chosen -/
def wterm (B : Nat) (w : Worker) : Nat := 2 * (B - w.k) + (if w.chosen.isSome then 0 else 1)

/-- the termination measure: the workers' terms, and for every row not yet started more than any worker's term -/
def measure (st : State) : Nat :=
  (st.ws.map (wterm (bnd st))).sum + (2 * bnd st + 2) * st.todo.length

theorem filter_row_self (ws : List Worker) (i : Nat) (h : i ∉ ws.map (·.row)) : dropWorker ws i = ws := by
  unfold dropWorker
  rw [List.filter_eq_self]
  intro w hw
  have : w.row ≠ i := fun e => h (List.mem_map.2 ⟨w, hw, e⟩)
  simp [this]

theorem sum_split (f : Worker → Nat) : ∀ (ws : List Worker) (i : Nat) (w : Worker), (ws.map (·.row)).Nodup →
    findWorker ws i = some w →
    (ws.map f).sum = f w + ((dropWorker ws i).map f).sum ∧ ws.length = (dropWorker ws i).length + 1 := by
  intro ws
  induction ws with
  | nil => intro i w _ h; simp [findWorker] at h
  | cons a ws ih =>
    intro i w hnd h
    simp only [List.map_cons, List.nodup_cons] at hnd
    unfold findWorker at h
    rw [List.find?_cons] at h
    by_cases ha : a.row = i
    · simp only [ha, beq_self_eq_true] at h
      cases h
      have hni : i ∉ ws.map (·.row) := ha ▸ hnd.1
      have : dropWorker (a :: ws) i = ws := by
        have h1 : dropWorker (a :: ws) i = dropWorker ws i := by
          simp [dropWorker, ha]
        rw [h1, filter_row_self ws i hni]
      rw [this]
      simp
    · have hb : (a.row == i) = false := by simp [ha]
      simp only [hb] at h
      have h' : findWorker ws i = some w := h
      obtain ⟨h1, h2⟩ := ih i w hnd.2 h'
      have : dropWorker (a :: ws) i = a :: dropWorker ws i := by
        simp [dropWorker, ha]
      rw [this]
      simp only [List.map_cons, List.sum_cons, List.length_cons]
      omega

theorem wterm_mono {B B' : Nat} (h : B' ≤ B) (w : Worker) : wterm B' w ≤ wterm B w :=
  Nat.add_le_add_right (Nat.mul_le_mul_left 2 (Nat.sub_le_sub_right h _)) _

theorem wterm_pos {B : Nat} {w : Worker} (h : w.chosen = none ∨ w.k < B) : 0 < wterm B w := by
  unfold wterm
  rcases h with h | h
  · rw [h]; exact Nat.succ_pos _
  · exact Nat.lt_of_lt_of_le (Nat.mul_pos (by decide) (Nat.sub_pos_of_lt h)) (Nat.le_add_right _ _)

/-- choosing a candidate on the same snapshot -/
theorem wterm_lt_of_chosen {B : Nat} {w w' : Worker} (hk : w'.k = w.k) (h : w.chosen = none)
    (h' : w'.chosen.isSome = true) : wterm B w' < wterm B w := by
  unfold wterm
  rw [hk, h, h']
  exact Nat.lt_succ_self _

/-- a retry: the choice is given up for a strictly longer snapshot, still below the bound -/
theorem wterm_lt_of_k {B : Nat} {w w' : Worker} (hk : w.k < w'.k) (hB : w'.k < B) (h : w.chosen.isSome = true) :
    wterm B w' < wterm B w := by
  have hsub : B - w'.k < B - w.k := Nat.sub_lt_sub_left (Nat.lt_trans hk hB) hk
  have hc : (if w'.chosen.isSome = true then 0 else 1) ≤ 1 := by split <;> decide
  unfold wterm
  rw [h, if_pos rfl]
  exact Nat.lt_of_lt_of_le (Nat.add_lt_add_left (Nat.lt_succ_of_le hc) _) (Nat.mul_le_mul_left 2 hsub)

theorem lt_bnd_of_mem {st : State} {w : Worker} (h : w ∈ st.ws) : st.S.length < bnd st := by
  have := List.length_pos_of_mem h
  unfold bnd; omega

theorem sum_wterm_mono {B B' : Nat} (h : B' ≤ B) (ws : List Worker) :
    (ws.map (wterm B')).sum ≤ (ws.map (wterm B)).sum := by
  induction ws with
  | nil => simp
  | cons a ws ih =>
    simp only [List.map_cons, List.sum_cons]
    have := wterm_mono h a
    omega

theorem updateDiff_nil (w : Worker) : updateDiff [] w = .ok w := rfl

/-- the worker of row `i` leaves the list (and at most one pivot is committed): its term of the sum, if positive, is lost
and nothing else grows -/
theorem measure_drop_lt {st : State} {i : Nat} {w : Worker} (hnd : (st.ws.map (·.row)).Nodup)
    (hf : findWorker st.ws i = some w) (S' : Pivs) (hS : S'.length ≤ st.S.length + 1) (hpos : 0 < wterm (bnd st) w) :
    measure { st with S := S', ws := dropWorker st.ws i } < measure st := by
  obtain ⟨hsum, hlen⟩ := sum_split (wterm (bnd st)) st.ws i w hnd hf
  have hB : bnd { st with S := S', ws := dropWorker st.ws i } ≤ bnd st := by
    simp only [bnd]; omega
  have h1 := sum_wterm_mono hB (dropWorker st.ws i)
  have h2 : (2 * bnd { st with S := S', ws := dropWorker st.ws i } + 2) * st.todo.length
      ≤ (2 * bnd st + 2) * st.todo.length := Nat.mul_le_mul_right _ (by omega)
  show (List.map (wterm (bnd { st with S := S', ws := dropWorker st.ws i })) (dropWorker st.ws i)).sum +
    (2 * bnd { st with S := S', ws := dropWorker st.ws i } + 2) * st.todo.length < _
  unfold measure
  omega

/-- the worker of row `i` is put back in a state with a smaller term; the bound `bnd` is unchanged -/
theorem measure_replace_lt {st : State} {i : Nat} {w w' : Worker} (hnd : (st.ws.map (·.row)).Nodup)
    (hf : findWorker st.ws i = some w) (hlt : wterm (bnd st) w' < wterm (bnd st) w) :
    measure { st with ws := w' :: dropWorker st.ws i } < measure st := by
  obtain ⟨hsum, hlen⟩ := sum_split (wterm (bnd st)) st.ws i w hnd hf
  have hB : bnd { st with ws := w' :: dropWorker st.ws i } = bnd st := by
    simp only [bnd, List.length_cons]; omega
  unfold measure
  rw [hB]
  simp only [List.map_cons, List.sum_cons]
  omega

/-- a task starts: a row leaves `todo`, whose term `2 * bnd + 2` exceeds any worker's term -/
theorem measure_start_lt {st : State} {i : Nat} (hi : i ∈ st.todo) (w : Worker) :
    measure { st with todo := st.todo.erase i, ws := w :: st.ws } < measure st := by
  have hlen : (st.todo.erase i).length = st.todo.length - 1 := List.length_erase_of_mem hi
  have hpos : 0 < st.todo.length := List.length_pos_of_mem hi
  have hB : bnd { st with todo := st.todo.erase i, ws := w :: st.ws } = bnd st := by
    simp only [bnd, List.length_cons, hlen]; omega
  unfold measure
  rw [hB]
  simp only [List.map_cons, List.sum_cons, hlen]
  have hw : wterm (bnd st) w ≤ 2 * bnd st + 1 := by unfold wterm; split <;> omega
  generalize (st.ws.map (wterm (bnd st))).sum = X
  generalize bnd st = B at *
  have : (2 * B + 2) * (st.todo.length - 1) + (2 * B + 2) = (2 * B + 2) * st.todo.length := by
    rw [← Nat.mul_succ]; congr 1; omega
  omega

end Yuiv.C11
