import Yuiv.Model.Res
/-
C18 — code model of link diagrams (import-free: core Lean + `Yuiv.Model.Res` only).

Anchors:
  yui-link/src/link/crossing.rs   CrossingType / Crossing: `mirror`, `is_resolved`, `resolve`, `pass`, `arcs`
  yui-link/src/link/link.rs       Link: `pass_edge`, `traverse_edges`, `components`, `crossing_signs`,
                                  `signed_crossing_nums`, `writhe`, `resolved_by`, `ori_pres_state`,
                                  `seifert_circles`, `mirror`, `is_knot`
  yui-link/src/link/path.rs       Path (only `new`/`arc`/`circ`)
  yui-link/src/braid.rs           `Braid::closure`

Reusable API (names kept stable for C01/C04):
  `CType`, `Sign`, `Crossing`, `Link := List Crossing`, `fromPD`, `fromPD4`, `mirror`, `Crossing.resolve`,
  `resolvedBy`, `components`, `circleCount`, `crossingSigns`, `writhe`, `signedCrossingNums`, `closure`.

Every finite table of the Rust source is a separate small `def` by pattern matching
(`CType.mirror`, `CType.isResolved`, `CType.resolve`, `CType.pass`, `CType.arcs`, `signAt`).

Conventions.  A half-edge ("slot") is a pair `(i, j)`: crossing index `i`, position `j ∈ {0,1,2,3}` in its
edge array.  Index panics of the Rust code (`self.data[i]`, `c.edge(j)` with `assert!(j < 4)`) are not
reachable from the public entry points modelled here: `i` always comes from `0..n` or from a `pass_edge`
result and `j` from `{0,1,2}`, `pass` or a `pass_edge` result (lemmas `passEdge_range` in `Proofs/C18Orbit.lean`, `pass_lt` in
`Props/C18.lean`).  `edgeAt`/`ctypeAt` are therefore total with a dummy default.
-/
namespace Yuiv.C18
open Yuiv

/-! ### crossing types and the finite tables of `crossing.rs` -/

inductive CType where
  | X | Xm | V | H
deriving DecidableEq, Repr, Inhabited

inductive Sign where
  | pos | neg
deriving DecidableEq, Repr, Inhabited

def Sign.toInt : Sign → Int
  | .pos => 1
  | .neg => -1

def Sign.flip : Sign → Sign
  | .pos => .neg
  | .neg => .pos

/-- `CrossingType::mirror` -/
def CType.mirror : CType → CType
  | .Xm => .X
  | .X => .Xm
  | .V => .V
  | .H => .H

/-- `Crossing::is_resolved`: `matches!(self.ctype, V | H)` -/
def CType.isResolved : CType → Bool
  | .V => true
  | .H => true
  | .X => false
  | .Xm => false

/-- `Crossing::resolve` (table part): `none` = `panic!()` -/
def CType.resolve : CType → Bool → Option CType
  | .X, false => some .H
  | .Xm, true => some .H
  | .X, true => some .V
  | .Xm, false => some .V
  | .V, _ => none
  | .H, _ => none

/-- `Crossing::pass` (`index` is in `0..4` at every call site) -/
def CType.pass : CType → Nat → Nat
  | .X, j => (j + 2) % 4
  | .Xm, j => (j + 2) % 4
  | .V, j => 3 - j
  | .H, j => (5 - j) % 4

/-- `Crossing::arcs` (index pairs) -/
def CType.arcs : CType → (Nat × Nat) × (Nat × Nat)
  | .X => ((0, 2), (1, 3))
  | .Xm => ((0, 2), (1, 3))
  | .V => ((0, 3), (1, 2))
  | .H => ((0, 1), (2, 3))

/-- sign table of `Link::crossing_signs` (link.rs:90-94): the sign read off when a walk enters a
crossing of type `t` at slot `j` -/
def signAt : CType → Nat → Option Sign
  | .Xm, 1 => some .pos
  | .X, 3 => some .pos
  | .Xm, 3 => some .neg
  | .X, 1 => some .neg
  | _, _ => none

/-! ### crossings -/

structure Crossing where
  ctype : CType
  e0 : Nat
  e1 : Nat
  e2 : Nat
  e3 : Nat
deriving DecidableEq, Repr, Inhabited

namespace Crossing

/-- `Crossing::from_pd_code` -/
def ofPD (a b c d : Nat) : Crossing := ⟨.X, a, b, c, d⟩

def edges (c : Crossing) : List Nat := [c.e0, c.e1, c.e2, c.e3]

/-- `Crossing::edge` (`assert!(i < 4)`; see the header for why the model is total) -/
def edge (c : Crossing) : Nat → Nat
  | 0 => c.e0
  | 1 => c.e1
  | 2 => c.e2
  | _ => c.e3

def isResolved (c : Crossing) : Bool := c.ctype.isResolved

def pass (c : Crossing) (j : Nat) : Nat := c.ctype.pass j

/-- `Crossing::resolve` / `resolved` -/
def resolve (c : Crossing) (r : Bool) : Res Crossing :=
  match c.ctype.resolve r with
  | some t => .ok { c with ctype := t }
  | none => .panic

/-- `Crossing::mirror` -/
def mirror (c : Crossing) : Crossing := { c with ctype := c.ctype.mirror }

/-- `Crossing::convert_edges` -/
def convertEdges (c : Crossing) (f : Nat → Nat) : Crossing :=
  ⟨c.ctype, f c.e0, f c.e1, f c.e2, f c.e3⟩

end Crossing

/-! ### paths -/

structure Path where
  edges : List Nat
  closed : Bool
deriving DecidableEq, Repr, Inhabited

/-- the closure `comp` inside `Crossing::arcs` -/
def arcComp (c : Crossing) (i j : Nat) : Path :=
  let ei := c.edge i
  let ej := c.edge j
  if ei = ej then ⟨[ei], true⟩ else ⟨[ei, ej], false⟩

/-- `Crossing::arcs` -/
def Crossing.arcs (c : Crossing) : Path × Path :=
  let a := c.ctype.arcs
  (arcComp c a.1.1 a.1.2, arcComp c a.2.1 a.2.2)

/-! ### links -/

abbrev Link := List Crossing

def Crossing.ofList? : List Nat → Option Crossing
  | [a, b, c, d] => some (Crossing.ofPD a b c d)
  | _ => none

/-- `Link::from_pd_code` on 4-tuples -/
def fromPD4 (pd : List (Nat × Nat × Nat × Nat)) : Link :=
  pd.map (fun x => Crossing.ofPD x.1 x.2.1 x.2.2.1 x.2.2.2)

/-- `Link::from_pd_code`; rows that are not of length 4 (not expressible in Rust, `XCode = [Edge; 4]`) are dropped -/
def fromPD (pd : List (List Nat)) : Link := pd.filterMap Crossing.ofList?

/-- `Link::mirror` -/
def mirror (l : Link) : Link := l.map Crossing.mirror

/-- `Link::crossing_num` -/
def crossingNum (l : Link) : Nat := (l.filter (fun c => !c.isResolved)).length

/-- all edge labels in slot order -/
def allEdges (l : Link) : List Nat := l.flatMap Crossing.edges

def edgeAt (l : Link) (i j : Nat) : Nat :=
  match l[i]? with
  | some c => c.edge j
  | none => 0

def ctypeAt (l : Link) (i : Nat) : CType :=
  match l[i]? with
  | some c => c.ctype
  | none => .V

/-- the slots `((i, j), label)` in the iteration order of the two nested loops of `pass_edge` -/
def slotsFrom : List Crossing → Nat → List ((Nat × Nat) × Nat)
  | [], _ => []
  | c :: cs, i =>
    ((i, 0), c.e0) :: ((i, 1), c.e1) :: ((i, 2), c.e2) :: ((i, 3), c.e3) :: slotsFrom cs (i + 1)

def slots (l : Link) : List ((Nat × Nat) × Nat) := slotsFrom l 0

/-- `Link::pass_edge`: the first slot other than `(ci, ei)` that carries the same label -/
def passEdge (l : Link) (ci ei : Nat) : Option (Nat × Nat) :=
  let e := edgeAt l ci ei
  ((slots l).find? (fun s => s.2 == e && s.1 != (ci, ei))).map (·.1)

/-- loop of `Link::traverse_edges`; `fuel` = `max_steps - steps`; the returned list is the sequence of
arguments the callback `f` is invoked with.  `fuel = 0` is the `assert!(steps < max_steps)` failure. -/
def traverseLoop (l : Link) (start : Nat × Nat) : Nat → Nat × Nat → List (Nat × Nat) → Res (List (Nat × Nat))
  | 0, _, _ => .panic
  | fuel + 1, cur, acc =>
    let acc := cur :: acc
    let k := (ctypeAt l cur.1).pass cur.2
    match passEdge l cur.1 k with
    | none => .ok ((cur.1, k) :: acc).reverse
    | some next =>
      if next = start then .ok (start :: acc).reverse
      else traverseLoop l start fuel next acc

/-- `Link::traverse_edges(start, f)`: the list of `(i, j)` passed to `f`, or the panic after `4·n` steps -/
def traverse (l : Link) (start : Nat × Nat) : Res (List (Nat × Nat)) :=
  traverseLoop l start (4 * l.length) start []

/-- end of the inner closure of `components`: circle if first = last (and more than one entry) -/
def mkPath (edges : List Nat) : Path :=
  if edges.length > 1 ∧ edges.head? = edges.getLast? then ⟨edges.dropLast, true⟩ else ⟨edges, false⟩

/-- body of the `for i0 in 0..n` loop of `components`; state = (components so far, passed edges) -/
def compsStep (l : Link) (j0 : Nat) (st : List Path × List Nat) (i0 : Nat) : Res (List Path × List Nat) :=
  if st.2.contains (edgeAt l i0 j0) then .ok st
  else
    match traverse l (i0, j0) with
    | .ok path =>
      let edges := path.map (fun p => edgeAt l p.1 p.2)
      .ok (st.1 ++ [mkPath edges], edges.reverse ++ st.2)
    | .panic => .panic
    | .err => .err

def compsPass (l : Link) (j0 : Nat) (st : List Path × List Nat) : Res (List Path × List Nat) :=
  (List.range l.length).foldlM (compsStep l j0) st

/-- `Link::components` -/
def components (l : Link) : Res (List Path) := do
  let st ← compsPass l 0 ([], [])
  let st ← compsPass l 1 st
  let st ← compsPass l 2 st
  pure st.1

/-- `Link::is_knot` -/
def isKnot (l : Link) : Res Bool := do
  let cs ← components l
  pure (cs.length == 1)

/-- number of components provided all of them are circles (the case of a fully resolved diagram) -/
def circleCount (l : Link) : Res Nat := do
  let cs ← components l
  if cs.all (·.closed) then pure cs.length else .err

/-- callback of the walk inside `crossing_signs`; state = (signs, passed edges) -/
def signsVisit (l : Link) (st : List (Option Sign) × List Nat) (p : Nat × Nat) : List (Option Sign) × List Nat :=
  let e := edgeAt l p.1 p.2
  match signAt (ctypeAt l p.1) p.2 with
  | some s => (st.1.set p.1 (some s), e :: st.2)
  | none => (st.1, e :: st.2)

def signsStep (l : Link) (j0 : Nat) (st : List (Option Sign) × List Nat) (i0 : Nat) :
    Res (List (Option Sign) × List Nat) :=
  if st.2.contains (edgeAt l i0 j0) then .ok st
  else
    match traverse l (i0, j0) with
    | .ok path => .ok (path.foldl (signsVisit l) st)
    | .panic => .panic
    | .err => .err

def signsPass (l : Link) (j0 : Nat) (st : List (Option Sign) × List Nat) : Res (List (Option Sign) × List Nat) :=
  (List.range l.length).foldlM (signsStep l j0) st

/-- the test between the first pass and the passes `j0 = 1, 2` -/
def signsIncomplete (l : Link) (signs : List (Option Sign)) : Bool :=
  (List.range l.length).any (fun i => !(ctypeAt l i).isResolved && (signs.getD i none).isNone)

/-- `Link::crossing_signs` -/
def crossingSigns (l : Link) : Res (List Sign) := do
  let st ← signsPass l 0 (List.replicate l.length none, [])
  let st ← if signsIncomplete l st.1 then do
      let st ← signsPass l 1 st
      signsPass l 2 st
    else pure st
  let signs := st.1.filterMap id
  if signs.length = crossingNum l then pure signs else .panic

/-- `Link::signed_crossing_nums` -/
def signedCrossingNums (l : Link) : Res (Nat × Nat) := do
  let signs ← crossingSigns l
  pure (signs.count .pos, signs.count .neg)

/-- `Link::writhe` (`i32` arithmetic cannot overflow: both counts are at most `n`) -/
def writhe (l : Link) : Res Int := do
  let pn ← signedCrossingNums l
  pure ((pn.1 : Int) - (pn.2 : Int))

/-- `crossing_at_mut(0).resolve(r)`: resolve the first unresolved crossing (`panic` if there is none) -/
def resolveFirst : Link → Bool → Res Link
  | [], _ => .panic
  | c :: cs, r =>
    if c.isResolved then
      match resolveFirst cs r with
      | .ok cs' => .ok (c :: cs')
      | .panic => .panic
      | .err => .err
    else
      match c.resolve r with
      | .ok c' => .ok (c' :: cs)
      | .panic => .panic
      | .err => .err

/-- `Link::resolved_by` (the library is built with debug assertions: a state of the wrong length panics) -/
def resolvedBy (l : Link) (s : List Bool) : Res Link :=
  if s.length = crossingNum l then s.foldlM resolveFirst l else .panic

/-- `Link::ori_pres_state` (`State::from_iter` rejects more than 64 bits); `false` = `Bit0` -/
def oriPresState (l : Link) : Res (List Bool) := do
  let signs ← crossingSigns l
  if signs.length ≤ 64 then pure (signs.map (fun s => s != .pos)) else .panic

/-- `Link::seifert_circles` -/
def seifertCircles (l : Link) : Res (List Path) := do
  let s ← oriPresState l
  let r ← resolvedBy l s
  components r

/-! ### braid closure -/

/-- body of the `for s in &self.elements` loop of `Braid::closure`; state = (count, bottom_edges, pd_code) -/
def closureStep (st : Nat × List Nat × List (Nat × Nat × Nat × Nat)) (s : Int) :
    Res (Nat × List Nat × List (Nat × Nat × Nat × Nat)) :=
  if s.natAbs = 0 then .panic                      -- `s.index() - 1` underflows
  else
    let i := s.natAbs - 1
    match st.2.1[i]? with
    | none => .panic                               -- index out of bounds
    | some a =>
      match st.2.1[i + 1]? with
      | none => .panic                             -- index out of bounds
      | some b =>
        -- (c, d) = (count, count + 1)
        .ok (st.1 + 2, (st.2.1.set i st.1).set (i + 1) (st.1 + 1),
             st.2.2 ++ [if s > 0 then (a, st.1, st.1 + 1, b) else (b, a, st.1, st.1 + 1)])

/-- the renaming `*conn.get(&a).unwrap_or(&a)` with `conn = zip(bottom_edges, 0..strands)` -/
def connRename (bottom : List Nat) (a : Nat) : Nat :=
  let k := bottom.idxOf a
  if k < bottom.length then k else a

def hasFreeLoop (bottom : List Nat) : Bool :=
  (List.range bottom.length).any (fun i => bottom.getD i 0 == i)

/-- `Braid::closure` as a PD code -/
def closurePD (strands : Nat) (word : List Int) : Res (List (Nat × Nat × Nat × Nat)) := do
  let st ← word.foldlM closureStep (strands, List.range strands, [])
  let bottom := st.2.1
  if hasFreeLoop bottom then .panic
  else
    let f := connRename bottom
    pure (st.2.2.map (fun x => (f x.1, f x.2.1, f x.2.2.1, f x.2.2.2)))

/-- `Braid::closure` -/
def closure (strands : Nat) (word : List Int) : Res Link := do
  let pd ← closurePD strands word
  pure (fromPD4 pd)

/-! ### checker for component lists (proved sound in `Proofs/C18Check.lean`, evaluated by the driver on
every compared case): the components are exactly the classes of the relation that identifies the two labels
of a strand through a crossing (for a fully resolved diagram: the edge-identification relation). -/

/-- `e` and `e'` are the labels at the two ends of a strand through some crossing -/
def joined (l : Link) (e e' : Nat) : Bool :=
  l.any (fun c => (List.range 4).any (fun j => c.edge j == e && c.edge (c.ctype.pass j) == e'))

def chainOk (l : Link) : List Nat → Bool
  | [] => true
  | [_] => true
  | a :: b :: r => joined l a b && chainOk l (b :: r)

def cycleOk (l : Link) (es : List Nat) : Bool :=
  match es.head?, es.getLast? with
  | some a, some z => chainOk l es && joined l z a
  | _, _ => false

def closedUnder (l : Link) (es : List Nat) : Bool :=
  l.all (fun c => (List.range 4).all (fun j => !es.contains (c.edge j) || es.contains (c.edge (c.ctype.pass j))))

def nodupB : List Nat → Bool
  | [] => true
  | a :: r => !r.contains a && nodupB r

def checkComps (l : Link) (comps : List Path) : Bool :=
  let flat := comps.flatMap (·.edges)
  comps.all (fun p => p.closed && cycleOk l p.edges && closedUnder l p.edges)
    && nodupB flat && (allEdges l).all flat.contains && flat.all (allEdges l).contains

/-! ### convenience wrappers for other models (total versions) -/

def resGetD {α} (r : Res α) (d : α) : α :=
  match r with
  | .ok a => a
  | _ => d

def circleCountD (l : Link) : Nat := resGetD (circleCount l) 0
def crossingSignsD (l : Link) : List Sign := resGetD (crossingSigns l) []
def writheD (l : Link) : Int := resGetD (writhe l) 0
def signedCrossingNumsD (l : Link) : Nat × Nat := resGetD (signedCrossingNums l) (0, 0)
def resolvedByD (l : Link) (s : List Bool) : Link := resGetD (resolvedBy l s) l

end Yuiv.C18
