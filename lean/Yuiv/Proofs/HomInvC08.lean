import Yuiv.Props.HomInvC07
import Yuiv.Proofs.C08SchedBlocks
import Yuiv.Proofs.C08Hom
/-
Helper lemmas for `Props/HomInvC08.lean`: renumbering the bases of a three-term piece does not change its homology (any
commutative ring), the homology `Hn C.d n` of a bundled complex (`Proofs/C08SchedBlocks.lean`) is the `HMat` of numbered copies
of the two differentials around degree `n`, and — over ℤ, where `HMat` is the `HZ` of `Proofs/HomInv.lean` — complexes
with isomorphic homology in a degree get the same report from the C07 code model.
-/
namespace Yuiv.C08
open Matrix Yuiv Yuiv.HomInv Yuiv.C07

section reindex
variable {R : Type*} [CommRing R]
variable {a b a' b' X X' : Type*} [Fintype a] [DecidableEq a] [Fintype b] [DecidableEq b]
  [Fintype a'] [DecidableEq a'] [Fintype b'] [DecidableEq b']
  [AddCommGroup X] [Module R X] [AddCommGroup X'] [Module R X']

/-- renumbering the bases of the source and of the middle module (and any compatible change of the target) does not
change the homology at the middle module: the renamed identity matrices are mutually inverse chain maps -/
theorem Hmod_reindex (dIn : Matrix b a R) (ea : a' ≃ a) (eb : b' ≃ b)
    (g : (b → R) →ₗ[R] X) (g' : (b' → R) →ₗ[R] X') (φC : X →ₗ[R] X') (ψC : X' →ₗ[R] X)
    (hg : g' ∘ₗ Matrix.toLin' ((1 : Matrix b b R).submatrix eb id) = φC ∘ₗ g)
    (hg' : g ∘ₗ Matrix.toLin' ((1 : Matrix b b R).submatrix id eb) = ψC ∘ₗ g') :
    Nonempty (Hmod (Matrix.toLin' dIn) g ≃ₗ[R] Hmod (Matrix.toLin' (dIn.submatrix eb ea)) g') :=
  ⟨homologyIso (Matrix.toLin' ((1 : Matrix a a R).submatrix ea id))
    (Matrix.toLin' ((1 : Matrix b b R).submatrix eb id)) φC (toLin'_comm (reindex_comm dIn ea eb)) hg
    (Matrix.toLin' ((1 : Matrix a a R).submatrix id ea)) (Matrix.toLin' ((1 : Matrix b b R).submatrix id eb)) ψC
    (toLin'_comm (reindex_comm' dIn ea eb).symm) hg' 0 0 (toLin'_htpy_zero (reindex_inv_mul eb) _ _)
    0 0 (toLin'_htpy_zero (reindex_mul_inv eb) _ _)⟩

end reindex

section numbered
variable {R : Type} [CommRing R]

/-- `H_{i+1}(C) = ker d_i / im d_{i+1}` of a complex, computed from numbered copies `A`, `B` of the two differentials.
Stated for the additive groups and over any commutative ring: used at `R = ℤ` this needs no search for `Module ℤ` instances on the
quotients, which is slow there (`AddCommGroup.toIntModule` is tried first). -/
theorem Hn_succ_numbered (C : Cpx R) (i : ℕ) {k n m : ℕ} (e0 : Fin k ≃ C.ι i) (e1 : Fin n ≃ C.ι (i + 1))
    (e2 : Fin m ≃ C.ι (i + 2)) {A : Matrix (Fin n) (Fin m) R} {B : Matrix (Fin k) (Fin n) R}
    (hA : A = (C.d (i + 1)).submatrix e1 e2) (hB : B = (C.d i).submatrix e0 e1) :
    Nonempty (Hn C.d (i + 1) ≃+ HMat A B) := by
  subst hA hB
  obtain ⟨p⟩ := Hmod_reindex (C.d (i + 1)) e2 e1 (Matrix.toLin' (C.d i)) (Matrix.toLin' ((C.d i).submatrix e0 e1))
    (Matrix.toLin' ((1 : Matrix (C.ι i) (C.ι i) R).submatrix e0 id))
    (Matrix.toLin' ((1 : Matrix (C.ι i) (C.ι i) R).submatrix id e0))
    (toLin'_comm (reindex_comm (C.d i) e1 e0).symm) (toLin'_comm (reindex_comm' (C.d i) e1 e0))
  exact ⟨p.toAddEquiv⟩

theorem Hn_zero_numbered (C : Cpx R) {k n m : ℕ} (e0 : Fin n ≃ C.ι 0) (e1 : Fin m ≃ C.ι 1)
    {A : Matrix (Fin n) (Fin m) R} {B : Matrix (Fin k) (Fin n) R} (hA : A = (C.d 0).submatrix e0 e1) (hB : B = 0) :
    Nonempty (Hn C.d 0 ≃+ HMat A B) := by
  subst hA hB
  obtain ⟨p⟩ := Hmod_reindex (C.d 0) e1 e0 (dOut C.d 0) (Matrix.toLin' (0 : Matrix (Fin k) (Fin n) R)) 0 0
    (by rw [LinearEquiv.map_zero, LinearMap.zero_comp, LinearMap.zero_comp])
    (by rw [dOut, LinearMap.zero_comp, LinearMap.zero_comp])
  exact ⟨p.toAddEquiv⟩

end numbered

/-- the C07 matrices `d1` (into the degree) and `d2` (out of it) are numbered copies of the differentials of `C` around
degree `n`: they compose to zero and their homology is `H_n(C)` -/
structure Numbered (C : Cpx ℤ) (n : ℕ) (d1 d2 : C07.Mat) : Prop where
  sq : d2.toM d2.r d1.r * d1.toM d1.r d1.c = 0
  iso : Nonempty (Hn C.d n ≃+ HZ (d1.toM d1.r d1.c) (d2.toM d2.r d1.r))

theorem Numbered.succ {C : Cpx ℤ} {i : ℕ} {d1 d2 : C07.Mat} (e0 : Fin d2.r ≃ C.ι i) (e1 : Fin d1.r ≃ C.ι (i + 1))
    (e2 : Fin d1.c ≃ C.ι (i + 2)) (h1 : d1.toM d1.r d1.c = (C.d (i + 1)).submatrix e1 e2)
    (h2 : d2.toM d2.r d1.r = (C.d i).submatrix e0 e1) : Numbered C (i + 1) d1 d2 where
  sq := by rw [h1, h2, Matrix.submatrix_mul_equiv, C.sq, Matrix.submatrix_zero, Pi.zero_apply, Pi.zero_apply]
  iso := Hn_succ_numbered C i e0 e1 e2 h1 h2

theorem Numbered.zero {C : Cpx ℤ} {d1 d2 : C07.Mat} (e0 : Fin d1.r ≃ C.ι 0) (e1 : Fin d1.c ≃ C.ι 1)
    (h1 : d1.toM d1.r d1.c = (C.d 0).submatrix e0 e1) (h2 : d2.toM d2.r d1.r = 0) : Numbered C 0 d1 d2 where
  sq := by rw [h2, Matrix.zero_mul]
  iso := Hn_zero_numbered C e0 e1 h1 h2

theorem Numbered.same_report {C C' : Cpx ℤ} {n : ℕ} {d1 d2 d1' d2' : C07.Mat} (N : Numbered C n d1 d2)
    (N' : Numbered C' n d1' d2') (hsh : d2.c = d1.r) (hsh' : d2'.c = d1'.r)
    (E : Nonempty (Hn C.d n ≃+ Hn C'.d n)) :
    ∃ (N rank : Nat) (tors : List Int),
      (∀ fuel, N ≤ fuel → ∃ T, calculate (snfC09 fuel) d1 d2 true = .ok (rank, tors, some T)) ∧
      (∀ fuel, N ≤ fuel → ∃ T', calculate (snfC09 fuel) d1' d2' true = .ok (rank, tors, some T')) := by
  obtain ⟨E⟩ := E
  obtain ⟨p⟩ := N.iso
  obtain ⟨p'⟩ := N'.iso
  exact reported_invariants_iso_invariant d1 d2 d1' d2' hsh hsh' N.sq N'.sq ((p.symm.trans E).trans p')

end Yuiv.C08
