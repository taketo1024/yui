import Yuiv.Proofs.C05EngineGraph
/-
C05 (engine) — `TngComplex::deloop` of the MODEL and its primitives `rename_vertex_key`, `duplicate_vertex`,
`deloop_with`: what each does to the stored lists, `WF` kept, the factorisation `deloop_ok`, the vertices after the
whole `deloop` (`deloop_verts`), and the lookups `edge?` / `tng?` after each primitive.  `rename` and `duplicate` are
reindexings (`renameKey_mem_edges`, `duplicateKey_mem_edges`: the new edges are the old ones read through `swapFn`,
`backFn`); their `WF` and `edge?` come from that by `wf_of_reindex`, `edge?_of_reindex`.
-/
namespace Yuiv.C05.Engine
open Yuiv.C05.Tng

variable {E : Type}

theorem renameFn_inj_off_new (kOld kNew x y : TKey) (hx : x ≠ kNew) (hy : y ≠ kNew)
    (h : renameFn kOld kNew x = renameFn kOld kNew y) : x = y := by
  unfold renameFn at h
  by_cases h1 : x = kOld <;> by_cases h2 : y = kOld <;> simp [h1, h2] at h
  · rw [h1, h2]
  · exact absurd h.symm hy
  · exact absurd h hx
  · exact h

theorem renameFn_inj_on (kOld kNew : TKey) (S : List TKey) (hnew : kNew ∉ S) :
    ∀ x ∈ S, ∀ y ∈ S, renameFn kOld kNew x = renameFn kOld kNew y → x = y :=
  fun x hx y hy h => renameFn_inj_off_new kOld kNew x y (fun e => hnew (e ▸ hx)) (fun e => hnew (e ▸ hy)) h

theorem renameFn_weight (kOld kNew k : TKey) (hw : kNew.weight = kOld.weight) :
    (renameFn kOld kNew k).weight = k.weight := by
  unfold renameFn
  split
  · rename_i h; rw [h, hw]
  · rfl

theorem renameKey_ok (cx cx' : Cx E) (kOld kNew : TKey) (h : cx.renameKey kOld kNew = .ok cx') :
    kOld ≠ kNew ∧ kOld ∈ cx.verts.map (·.1) ∧ kNew ∉ cx.verts.map (·.1) ∧
    cx' = { cx with
      verts := cx.verts.map (fun v => (renameFn kOld kNew v.1, v.2)),
      edges := cx.edges.map (fun e => ((renameFn kOld kNew e.1.1, renameFn kOld kNew e.1.2), e.2)) } := by
  unfold Cx.renameKey at h
  split at h
  · cases h
  · rename_i h1
    split at h
    · cases h
    · rename_i h2
      split at h
      · cases h
      · rename_i h3
        cases h
        refine ⟨h1, (hasKey_iff cx kOld).1 (by simpa using h2), (hasKey_false_iff cx kNew).1 (by simpa using h3), rfl⟩

theorem renameKey_keys (cx cx' : Cx E) (kOld kNew : TKey) (h : cx.renameKey kOld kNew = .ok cx') :
    cx'.verts.map (·.1) = (cx.verts.map (·.1)).map (renameFn kOld kNew) := by
  obtain ⟨_, _, _, rfl⟩ := renameKey_ok cx cx' kOld kNew h
  simp [List.map_map, Function.comp_def]

/-- the key substitution that undoes `rename_vertex_key`: the two keys change places -/
def swapFn (kOld kNew x : TKey) : TKey := if x = kOld then kNew else if x = kNew then kOld else x

theorem rename_swap (kOld kNew x : TKey) (hx : x ≠ kOld) : renameFn kOld kNew (swapFn kOld kNew x) = x := by
  unfold renameFn swapFn
  rw [if_neg hx]
  by_cases h : x = kNew
  · rw [if_pos h, if_pos rfl, h]
  · rw [if_neg h, if_neg hx]

theorem swap_rename (kOld kNew x : TKey) (hne : kOld ≠ kNew) (hx : x ≠ kNew) :
    swapFn kOld kNew (renameFn kOld kNew x) = x := by
  unfold renameFn swapFn
  by_cases h : x = kOld
  · rw [if_pos h, if_neg (Ne.symm hne), if_pos rfl, h]
  · rw [if_neg h, if_neg h, if_neg hx]

theorem swapFn_weight (kOld kNew x : TKey) (hw : kNew.weight = kOld.weight) :
    (swapFn kOld kNew x).weight = x.weight := by
  unfold swapFn
  split
  · rename_i h; rw [h, hw]
  · split
    · rename_i h; rw [h, hw]
    · rfl

/-- a key that `swapFn` sends to an old vertex is not the old key (that one goes to the fresh key) and is a new vertex -/
theorem swapFn_mem (kOld kNew : TKey) (S : List TKey) (hnew : kNew ∉ S) (x : TKey) (hx : swapFn kOld kNew x ∈ S) :
    x ≠ kOld ∧ x ∈ S.map (renameFn kOld kNew) := by
  have hxk : x ≠ kOld := by
    rintro rfl
    rw [swapFn, if_pos rfl] at hx
    exact hnew hx
  exact ⟨hxk, List.mem_map.2 ⟨_, hx, rename_swap kOld kNew x hxk⟩⟩

theorem renameKey_nodup (ops : EdgeOps E) (cx cx' : Cx E) (kOld kNew : TKey) (hwf : WF ops cx)
    (h : cx.renameKey kOld kNew = .ok cx') : (cx'.verts.map (·.1)).Nodup ∧ (cx'.edges.map (·.1)).Nodup := by
  have hkeys := renameKey_keys cx cx' kOld kNew h
  obtain ⟨_, _, hnew, rfl⟩ := renameKey_ok cx cx' kOld kNew h
  have hinj := renameFn_inj_on kOld kNew _ hnew
  refine ⟨?_, ?_⟩
  · simp only [hkeys]
    exact List.Nodup.map_on hinj hwf.keys
  · have : (cx.edges.map (fun e => ((renameFn kOld kNew e.1.1, renameFn kOld kNew e.1.2), e.2))).map (·.1) =
        (cx.edges.map (·.1)).map (fun p => (renameFn kOld kNew p.1, renameFn kOld kNew p.2)) := by
      simp [List.map_map, Function.comp_def]
    simp only [this]
    refine List.Nodup.map_on ?_ hwf.edges
    intro p hp q hq hpq
    obtain ⟨e, he, rfl⟩ := List.mem_map.1 hp
    obtain ⟨e', he', rfl⟩ := List.mem_map.1 hq
    have h1 := hwf.ends e he
    have h2 := hwf.ends e' he'
    have a := hinj _ h1.1 _ h2.1 (congrArg Prod.fst hpq)
    have b := hinj _ h1.2 _ h2.2 (congrArg Prod.snd hpq)
    exact Prod.ext a b

/-- `rename_vertex_key(k, kN)` is a reindexing: the new edges are the old ones read through the exchange of `k` and `kN`
(the new key `kN` was not a vertex, so nothing is read at the old key `k`) -/
theorem renameKey_mem_edges (ops : EdgeOps E) (cx cx' : Cx E) (k kN : TKey) (hwf : WF ops cx)
    (h : cx.renameKey k kN = .ok cx') (a b : TKey) (f : E) :
    ((a, b), f) ∈ cx'.edges ↔ ((swapFn k kN a, swapFn k kN b), f) ∈ cx.edges := by
  obtain ⟨hne, _, hnew, rfl⟩ := renameKey_ok cx cx' k kN h
  simp only [List.mem_map]
  constructor
  · rintro ⟨e, he, heq⟩
    obtain ⟨h1, h2⟩ := hwf.ends_ne kN hnew e he
    cases heq
    rw [swap_rename k kN _ hne h1, swap_rename k kN _ hne h2]
    exact he
  · intro he
    obtain ⟨h1, h2⟩ := hwf.ends _ he
    refine ⟨_, he, ?_⟩
    simp only [rename_swap k kN a (swapFn_mem k kN _ hnew a h1).1, rename_swap k kN b (swapFn_mem k kN _ hnew b h2).1]

theorem wf_renameKey (ops : EdgeOps E) (cx cx' : Cx E) (kOld kNew : TKey) (hwf : WF ops cx)
    (hw : kNew.weight = kOld.weight) (h : cx.renameKey kOld kNew = .ok cx') : WF ops cx' := by
  obtain ⟨hk, hn⟩ := renameKey_nodup ops cx cx' kOld kNew hwf h
  obtain ⟨_, _, hnew, _⟩ := renameKey_ok cx cx' kOld kNew h
  refine wf_of_reindex ops cx cx' (swapFn kOld kNew) hwf hk hn
    (fun a b f => (renameKey_mem_edges ops cx cx' kOld kNew hwf h a b f).1) ?_ (fun x => swapFn_weight kOld kNew x hw)
  intro x hx
  rw [renameKey_keys cx cx' kOld kNew h]
  exact (swapFn_mem kOld kNew _ hnew x hx).2

theorem renameKey_edge? (ops : EdgeOps E) (cx cx1 : Cx E) (k kN : TKey) (hwf : WF ops cx)
    (h : cx.renameKey k kN = .ok cx1) (a b : TKey) :
    cx1.edge? a b = cx.edge? (swapFn k kN a) (swapFn k kN b) :=
  edge?_of_reindex ops cx cx1 (swapFn k kN) hwf (renameKey_nodup ops cx cx1 k kN hwf h).2
    (renameKey_mem_edges ops cx cx1 k kN hwf h) a b

theorem duplicateKey_ok (cx cx' : Cx E) (k kNew : TKey) (h : cx.duplicateKey k kNew = .ok cx') :
    k ≠ kNew ∧ ∃ t, cx.tng? k = some t ∧ kNew ∉ cx.verts.map (·.1) ∧
    cx' = { cx with
      verts := cx.verts ++ [(kNew, t)],
      edges := cx.edges
        ++ cx.edges.filterMap (fun e => if e.1.2 = k then some ((e.1.1, kNew), e.2) else none)
        ++ cx.edges.filterMap (fun e => if e.1.1 = k then some ((kNew, e.1.2), e.2) else none) } := by
  unfold Cx.duplicateKey at h
  by_cases h1 : k = kNew
  · rw [if_pos h1] at h; cases h
  rw [if_neg h1] at h
  rcases ht : cx.tng? k with _ | t
  · rw [ht] at h; cases h
  simp only [ht] at h
  by_cases h3 : cx.hasKey kNew = true
  · rw [if_pos h3] at h; cases h
  rw [if_neg h3] at h
  injection h with h
  exact ⟨h1, t, rfl, (hasKey_false_iff cx kNew).1 (Bool.eq_false_iff.2 h3), h.symm⟩

/-- the key substitution of `duplicate_vertex`: the copy is read as the original -/
def backFn (k kNew x : TKey) : TKey := if x = kNew then k else x

theorem duplicateKey_keys (cx cx' : Cx E) (k kNew : TKey) (h : cx.duplicateKey k kNew = .ok cx') :
    cx'.verts.map (·.1) = cx.verts.map (·.1) ++ [kNew] := by
  obtain ⟨_, t, _, _, rfl⟩ := duplicateKey_ok cx cx' k kNew h
  simp

theorem duplicateKey_nodup (ops : EdgeOps E) (cx cx' : Cx E) (k kNew : TKey) (hwf : WF ops cx)
    (h : cx.duplicateKey k kNew = .ok cx') : (cx'.verts.map (·.1)).Nodup ∧ (cx'.edges.map (·.1)).Nodup := by
  have hkeys := duplicateKey_keys cx cx' k kNew h
  obtain ⟨_, t, _, hnew, rfl⟩ := duplicateKey_ok cx cx' k kNew h
  have hins : ∀ e ∈ cx.edges.filterMap (fun e => if e.1.2 = k then some ((e.1.1, kNew), e.2) else none),
      ∃ e0 ∈ cx.edges, e0.1.2 = k ∧ ((e0.1.1, kNew), e0.2) = e := fun e => (mem_filterMap_ite _ _ _ e).1
  have houts : ∀ e ∈ cx.edges.filterMap (fun e => if e.1.1 = k then some ((kNew, e.1.2), e.2) else none),
      ∃ e0 ∈ cx.edges, e0.1.1 = k ∧ ((kNew, e0.1.2), e0.2) = e := fun e => (mem_filterMap_ite _ _ _ e).1
  have hkeyIn := hwf.ends_ne kNew hnew
  refine ⟨?_, ?_⟩
  · rw [hkeys, ← List.concat_eq_append]
    exact hwf.keys.concat hnew
  · have n1 := nodup_keys_filterMap_ite (fun p : TKey × TKey => p.2 = k) (fun p => (p.1, kNew)) cx.edges hwf.edges
      (fun a a' ha ha' e => Prod.ext (Prod.mk.inj e).1 (ha.trans ha'.symm))
    have n2 := nodup_keys_filterMap_ite (fun p : TKey × TKey => p.1 = k) (fun p => (kNew, p.2)) cx.edges hwf.edges
      (fun a a' ha ha' e => Prod.ext (ha.trans ha'.symm) (Prod.mk.inj e).2)
    simp only [List.map_append]
    rw [List.nodup_append, List.nodup_append]
    refine ⟨⟨hwf.edges, n1, ?_⟩, n2, ?_⟩
    · intro a ha b hb hab
      obtain ⟨e, he, rfl⟩ := List.mem_map.1 ha
      obtain ⟨e', he', rfl⟩ := List.mem_map.1 hb
      obtain ⟨e0, _, _, rfl⟩ := hins e' he'
      exact (hkeyIn e he).2 (congrArg Prod.snd hab)
    · intro a ha b hb hab
      obtain ⟨e', he', rfl⟩ := List.mem_map.1 hb
      obtain ⟨e0, _, _, rfl⟩ := houts e' he'
      rcases List.mem_append.1 ha with ha | ha
      · obtain ⟨e, he, rfl⟩ := List.mem_map.1 ha
        exact (hkeyIn e he).1 (congrArg Prod.fst hab)
      · obtain ⟨e, he, rfl⟩ := List.mem_map.1 ha
        obtain ⟨e1, he1, _, rfl⟩ := hins e he
        exact (hkeyIn e1 he1).1 (congrArg Prod.fst hab)

/-- `duplicate_vertex(k, kN)` is a reindexing: the new edges are the pairs that become old edges when the copy `kN` is
read as `k` (the old edges; those into `k`, retargeted; those out of `k`, re-sourced; no loop at `k` to copy twice) -/
theorem duplicateKey_mem_edges (ops : EdgeOps E) (cx cx' : Cx E) (k kN : TKey) (hwf : WF ops cx)
    (h : cx.duplicateKey k kN = .ok cx') (a b : TKey) (f : E) :
    ((a, b), f) ∈ cx'.edges ↔ ((backFn k kN a, backFn k kN b), f) ∈ cx.edges := by
  obtain ⟨_, t, _, hnew, rfl⟩ := duplicateKey_ok cx cx' k kN h
  have hfresh := hwf.ends_ne kN hnew
  simp only [List.mem_append, mem_filterMap_ite]
  unfold backFn
  constructor
  · rintro ((he | ⟨e, he, hk, heq⟩) | ⟨e, he, hk, heq⟩)
    · rw [if_neg (hfresh _ he).1, if_neg (hfresh _ he).2]
      exact he
    · cases heq
      rw [if_neg (hfresh e he).1, if_pos rfl, ← hk]
      exact he
    · cases heq
      rw [if_pos rfl, if_neg (hfresh e he).2, ← hk]
      exact he
  · intro he
    by_cases ha : a = kN
    · rw [if_pos ha] at he
      by_cases hb : b = kN
      · rw [if_pos hb] at he
        have := hwf.deg _ he
        simp only at this
        omega
      · rw [if_neg hb] at he
        exact .inr ⟨_, he, rfl, by rw [ha]⟩
    · rw [if_neg ha] at he
      by_cases hb : b = kN
      · rw [if_pos hb] at he
        exact .inl (.inr ⟨_, he, rfl, by rw [hb]⟩)
      · rw [if_neg hb] at he
        exact .inl (.inl he)

theorem wf_duplicateKey (ops : EdgeOps E) (cx cx' : Cx E) (k kNew : TKey) (hwf : WF ops cx)
    (hw : kNew.weight = k.weight) (h : cx.duplicateKey k kNew = .ok cx') : WF ops cx' := by
  obtain ⟨hk, hn⟩ := duplicateKey_nodup ops cx cx' k kNew hwf h
  refine wf_of_reindex ops cx cx' (backFn k kNew) hwf hk hn
    (fun a b f => (duplicateKey_mem_edges ops cx cx' k kNew hwf h a b f).1) ?_ ?_
  · intro x hx
    rw [duplicateKey_keys cx cx' k kNew h, List.mem_append, List.mem_singleton]
    by_cases hxk : x = kNew
    · exact .inr hxk
    · rw [backFn, if_neg hxk] at hx
      exact .inl hx
  · intro x
    unfold backFn
    split
    · rename_i hxk; rw [hxk, hw]
    · rfl

theorem duplicateKey_edge? (ops : EdgeOps E) (cx cx2 : Cx E) (k kN : TKey) (hwf : WF ops cx)
    (h : cx.duplicateKey k kN = .ok cx2) (a b : TKey) :
    cx2.edge? a b = cx.edge? (backFn k kN a) (backFn k kN b) :=
  edge?_of_reindex ops cx cx2 (backFn k kN) hwf (duplicateKey_nodup ops cx cx2 k kN hwf h).2
    (duplicateKey_mem_edges ops cx cx2 k kN hwf h) a b

theorem deloopEdge_ok (ops : EdgeOps E) (k : TKey) (circ : Path) (birth death : Dot) (e : (TKey × TKey) × E)
    (oe : Option ((TKey × TKey) × E)) (h : deloopEdge ops k circ birth death e = .ok oe) :
    (e.1.2 = k ∧ ∃ g, ops.capOff .tgt circ death e.2 = .ok g ∧
      oe = if ops.isZero g = true then none else some (e.1, g)) ∨
    (e.1.2 ≠ k ∧ e.1.1 = k ∧ ∃ g, ops.capOff .src circ birth e.2 = .ok g ∧
      oe = if ops.isZero g = true then none else some (e.1, g)) ∨
    (e.1.2 ≠ k ∧ e.1.1 ≠ k ∧ oe = some e) := by
  unfold deloopEdge at h
  by_cases hb : e.1.2 = k
  · rw [if_pos hb] at h
    rcases hg : ops.capOff .tgt circ death e.2 with g | _ | _
    · simp only [hg, Res.ok.injEq] at h
      exact .inl ⟨hb, g, rfl, h.symm⟩
    · simp [hg] at h
    · simp [hg] at h
  · rw [if_neg hb] at h
    by_cases ha : e.1.1 = k
    · rw [if_pos ha] at h
      rcases hg : ops.capOff .src circ birth e.2 with g | _ | _
      · simp only [hg, Res.ok.injEq] at h
        exact .inr (.inl ⟨hb, ha, g, rfl, h.symm⟩)
      · simp [hg] at h
      · simp [hg] at h
    · rw [if_neg ha, Res.ok.injEq] at h
      exact .inr (.inr ⟨hb, ha, h.symm⟩)

theorem deloopEdge_cases (ops : EdgeOps E) (k : TKey) (circ : Path) (birth death : Dot) (e : (TKey × TKey) × E)
    (oe : Option ((TKey × TKey) × E)) (h : deloopEdge ops k circ birth death e = .ok oe) :
    ∀ e', oe = some e' → e'.1 = e.1 ∧ (e' = e ∨ ops.isZero e'.2 = false) := by
  have kept : ∀ g e', (if ops.isZero g = true then none else some (e.1, g)) = some e' →
      e'.1 = e.1 ∧ (e' = e ∨ ops.isZero e'.2 = false) := by
    intro g e' hg
    split at hg
    · cases hg
    · rename_i hz
      cases hg
      exact ⟨rfl, .inr (by simpa using hz)⟩
  rintro e' rfl
  rcases deloopEdge_ok ops k circ birth death e _ h with ⟨_, g, _, hoe⟩ | ⟨_, _, g, _, hoe⟩ | ⟨_, _, hoe⟩
  · exact kept g e' hoe.symm
  · exact kept g e' hoe.symm
  · cases hoe
    exact ⟨rfl, .inl rfl⟩

theorem deloopWith_ok (ops : EdgeOps E) (cx cx' : Cx E) (k : TKey) (r : Nat) (birth death : Dot)
    (h : cx.deloopWith ops k r birth death = .ok cx') :
    ∃ t circ t' es, cx.tng? k = some t ∧ Tng.removeAt t r = .ok (circ, t') ∧
      mapMRes (deloopEdge ops k circ birth death) cx.edges = .ok es ∧
      cx' = { cx with
        verts := cx.verts.map (fun v => if v.1 = k then (v.1, t') else v),
        edges := es.filterMap (fun x => x) } := by
  unfold Cx.deloopWith at h
  split at h
  · cases h
  · rename_i t ht
    split at h
    · rename_i circ t' hrm
      split at h
      · rename_i es hes
        cases h
        exact ⟨t, circ, t', es, ht, hrm, hes, rfl⟩
      · cases h
      · cases h
    · cases h
    · cases h

theorem deloopWith_keys (ops : EdgeOps E) (cx cx' : Cx E) (k : TKey) (r : Nat) (birth death : Dot)
    (h : cx.deloopWith ops k r birth death = .ok cx') : cx'.verts.map (·.1) = cx.verts.map (·.1) := by
  obtain ⟨t, circ, t', es, _, _, _, rfl⟩ := deloopWith_ok ops cx cx' k r birth death h
  simp only [List.map_map]
  apply List.map_congr_left
  intro v _
  simp only [Function.comp]
  split <;> rfl

theorem wf_deloopWith (ops : EdgeOps E) (cx cx' : Cx E) (k : TKey) (r : Nat) (birth death : Dot) (hwf : WF ops cx)
    (h : cx.deloopWith ops k r birth death = .ok cx') : WF ops cx' := by
  have hkeys := deloopWith_keys ops cx cx' k r birth death h
  obtain ⟨t, circ, t', es, _, _, hes, rfl⟩ := deloopWith_ok ops cx cx' k r birth death h
  have hF := mapMRes_ok_forall₂ _ _ _ hes
  have hsub := forall₂_filterMap_keys_sublist (fun e oe => deloopEdge ops k circ birth death e = .ok oe)
    (fun e e' he => (deloopEdge_cases ops k circ birth death e _ he e' rfl).1) _ _ hF
  have hmem : ∀ e' ∈ es.filterMap (fun x => x), ∃ e ∈ cx.edges, e'.1 = e.1 ∧ (e' = e ∨ ops.isZero e'.2 = false) := by
    intro e' he'
    obtain ⟨oe, hoe, hid⟩ := List.mem_filterMap.1 he'
    subst hid
    obtain ⟨e, he, hfe⟩ := mapMRes_ok_mem _ _ _ hes _ hoe
    exact ⟨e, he, deloopEdge_cases ops k circ birth death e _ hfe e' rfl⟩
  refine ⟨?_, ?_, ?_, ?_, ?_⟩
  · simp only [hkeys]; exact hwf.keys
  · exact hwf.edges.sublist hsub
  · intro e' he'
    obtain ⟨e, he, hk, _⟩ := hmem e' he'
    simp only [hkeys, hk]
    exact hwf.ends e he
  · intro e' he'
    obtain ⟨e, he, hk, _⟩ := hmem e' he'
    rw [hk]; exact hwf.deg e he
  · intro e' he'
    obtain ⟨e, he, _, h2⟩ := hmem e' he'
    rcases h2 with rfl | h2
    · exact hwf.nonzero _ he
    · exact h2

/-- `Dot` of `Model/C05Deloop` (algebraic kernel) ↦ `Dot` of `Model/C05Tng` (structural model) -/
def dotOf : Deloop.Dot → Dot
  | .none => .none
  | .X => .X
  | .Y => .Y

theorem deloop_ok (ops : EdgeOps E) (cx cx' : Cx E) (k : TKey) (r : Nat) (upd : List TKey)
    (h : cx.deloop ops k r = .ok (upd, cx')) :
    ∃ t c, cx.tng? k = some t ∧ t[r]? = some c ∧ c.closed = true ∧
      upd = (Deloop.deloopCopies (cx.containsBase c)).map (fun cp => k.push cp.label) ∧
      ∃ c1, cx.renameKey k (k.push .X) = .ok c1 ∧
        (cx.containsBase c = true →
          c1.deloopWith ops (k.push .X) r (dotOf Deloop.copyX.birthDot) (dotOf Deloop.copyX.deathDot) = .ok cx') ∧
        (cx.containsBase c = false → ∃ c2 c3,
          c1.duplicateKey (k.push .X) (k.push .I) = .ok c2 ∧
          c2.deloopWith ops (k.push .X) r (dotOf Deloop.copyX.birthDot) (dotOf Deloop.copyX.deathDot) = .ok c3 ∧
          c3.deloopWith ops (k.push .I) r (dotOf Deloop.copyI.birthDot) (dotOf Deloop.copyI.deathDot) = .ok cx') := by
  unfold Cx.deloop at h
  rcases ht : cx.tng? k with _ | t
  · simp [ht] at h
  · simp only [ht] at h
    rcases hc : t[r]? with _ | c
    · simp [hc] at h
    · simp only [hc] at h
      by_cases hcl : c.closed = true
      · simp only [hcl, Bool.not_true, Bool.false_eq_true, if_false] at h
        refine ⟨t, c, rfl, hc, hcl, ?_⟩
        rcases h1 : cx.renameKey k (k.push .X) with c1 | _ | _
        · simp only [h1] at h
          by_cases hb : cx.containsBase c = true
          · simp only [hb, if_true] at h
            rcases h2 : c1.deloopWith ops (k.push .X) r .X .none with c2 | _ | _
            · simp only [h2, Res.ok.injEq, Prod.mk.injEq] at h
              obtain ⟨rfl, rfl⟩ := h
              exact ⟨by simp [Deloop.deloopCopies, Deloop.copyX, hb], c1, rfl, fun _ => h2, fun hf => by simp [hb] at hf⟩
            · simp [h2] at h
            · simp [h2] at h
          · have hb' : cx.containsBase c = false := by simpa using hb
            simp only [hb', Bool.false_eq_true, if_false] at h
            rcases h2 : c1.duplicateKey (k.push .X) (k.push .I) with c2 | _ | _
            · simp only [h2] at h
              rcases h3 : c2.deloopWith ops (k.push .X) r .X .none with c3 | _ | _
              · simp only [h3] at h
                rcases h4 : c3.deloopWith ops (k.push .I) r .none .Y with c4 | _ | _
                · simp only [h4, Res.ok.injEq, Prod.mk.injEq] at h
                  obtain ⟨rfl, rfl⟩ := h
                  exact ⟨by simp [Deloop.deloopCopies, Deloop.copyX, Deloop.copyI, hb'], c1, rfl,
                    fun hf => by simp [hb'] at hf, fun _ => ⟨c2, c3, h2, h3, h4⟩⟩
                · simp [h4] at h
                · simp [h4] at h
              · simp [h3] at h
              · simp [h3] at h
            · simp [h2] at h
            · simp [h2] at h
        · simp [h1] at h
        · simp [h1] at h
      · simp [hcl] at h

theorem wf_deloop (ops : EdgeOps E) (cx cx' : Cx E) (k : TKey) (r : Nat) (upd : List TKey) (hwf : WF ops cx)
    (h : cx.deloop ops k r = .ok (upd, cx')) : WF ops cx' := by
  obtain ⟨_, c, _, _, _, _, c1, h1, hb, hu⟩ := deloop_ok ops cx cx' k r upd h
  have w1 := wf_renameKey ops cx c1 _ _ hwf (weight_push k .X) h1
  by_cases hbase : cx.containsBase c = true
  · exact wf_deloopWith ops c1 _ _ _ _ _ w1 (hb hbase)
  · obtain ⟨c2, c3, h2, h3, h4⟩ := hu (Bool.eq_false_iff.2 hbase)
    have w2 := wf_duplicateKey ops c1 c2 (k.push .X) (k.push .I) w1 rfl h2
    exact wf_deloopWith ops c3 _ _ _ _ _ (wf_deloopWith ops c2 c3 _ _ _ _ w2 h3) h4

structure DeloopVerts (cx cx' : Cx E) (k : TKey) (c : Path) : Prop where
  mem : k ∈ cx.verts.map (·.1)
  freshX : k.push .X ∉ cx.verts.map (·.1)
  freshI : cx.containsBase c = false → k.push .I ∉ cx.verts.map (·.1)
  base : cx'.base = cx.base
  dim : cx'.dim = cx.dim
  keys : cx'.verts.map (·.1) = (cx.verts.map (·.1)).map (renameFn k (k.push .X)) ++
    (if cx.containsBase c = true then [] else [k.push .I])

theorem deloop_verts (ops : EdgeOps E) (cx cx' : Cx E) (k : TKey) (r : Nat) (upd : List TKey) (t : Tng) (c : Path)
    (ht : cx.tng? k = some t) (hc : t[r]? = some c) (h : cx.deloop ops k r = .ok (upd, cx')) :
    DeloopVerts cx cx' k c := by
  obtain ⟨t0, c0, ht0, hc0, _, _, c1, h1, hb, hu⟩ := deloop_ok ops cx cx' k r upd h
  rw [ht] at ht0; cases ht0
  rw [hc] at hc0; cases hc0
  have k1 := renameKey_keys cx c1 k (k.push .X) h1
  obtain ⟨_, hkS, hXS, e1⟩ := renameKey_ok cx c1 k (k.push .X) h1
  by_cases hbase : cx.containsBase c = true
  · have k2 := deloopWith_keys ops c1 cx' _ _ _ _ (hb hbase)
    obtain ⟨_, _, _, _, _, _, _, rfl⟩ := deloopWith_ok ops c1 _ _ _ _ _ (hb hbase)
    subst e1
    exact ⟨hkS, hXS, fun hf => absurd hbase (by simp [hf]), rfl, rfl, by rw [k2, k1, if_pos hbase, List.append_nil]⟩
  · obtain ⟨c2, c3, h2, h3, h4⟩ := hu (Bool.eq_false_iff.2 hbase)
    have k2 := duplicateKey_keys c1 c2 _ _ h2
    have k3 := deloopWith_keys ops c2 c3 _ _ _ _ h3
    have k4 := deloopWith_keys ops c3 cx' _ _ _ _ h4
    obtain ⟨_, _, _, hIS1, e2⟩ := duplicateKey_ok c1 c2 _ _ h2
    obtain ⟨_, _, _, _, _, _, _, e3⟩ := deloopWith_ok ops c2 c3 _ _ _ _ h3
    obtain ⟨_, _, _, _, _, _, _, rfl⟩ := deloopWith_ok ops c3 _ _ _ _ _ h4
    subst e3 e2 e1
    refine ⟨hkS, hXS, fun _ hIS => hIS1 ?_, rfl, rfl, by rw [k4, k3, k2, k1, if_neg hbase]⟩
    rw [k1]
    exact List.mem_map.2 ⟨k.push .I, hIS, by rw [renameFn, if_neg (push_ne k .I)]⟩

theorem renameKey_tng? (cx cx1 : Cx E) (k kN : TKey) (h : cx.renameKey k kN = .ok cx1) :
    cx1.tng? kN = cx.tng? k := by
  obtain ⟨_, _, hnew, rfl⟩ := renameKey_ok cx cx1 k kN h
  unfold Cx.tng?
  have key := lookup_map_key (renameFn k kN) cx.verts k (by
    intro p hp hpk
    unfold renameFn at hpk
    by_cases h1 : p = k
    · exact h1
    · simp [h1] at hpk
      exact absurd (hpk ▸ hp) hnew)
  have e : renameFn k kN k = kN := by simp [renameFn]
  rw [e] at key
  exact key

theorem duplicateKey_tng? (cx cx2 : Cx E) (k kN : TKey) (t : Tng) (ht : cx.tng? k = some t)
    (h : cx.duplicateKey k kN = .ok cx2) : cx2.tng? k = some t ∧ cx2.tng? kN = some t := by
  obtain ⟨_, t0, ht0, hnew, rfl⟩ := duplicateKey_ok cx cx2 k kN h
  rw [ht] at ht0
  cases ht0
  unfold Cx.tng? at ht ⊢
  simp only [List.lookup_append, ht]
  refine ⟨by simp, ?_⟩
  rw [lookup_none_of_not_mem cx.verts kN hnew]
  simp

theorem deloopWith_tng? (ops : EdgeOps E) (cx cx' : Cx E) (k q : TKey) (r : Nat) (birth death : Dot) (hq : q ≠ k)
    (h : cx.deloopWith ops k r birth death = .ok cx') : cx'.tng? q = cx.tng? q := by
  obtain ⟨_, _, t', _, _, _, _, rfl⟩ := deloopWith_ok ops cx cx' k r birth death h
  exact lookup_map_replace cx.verts k q t' hq

theorem pushX_ne_pushI (k : TKey) : k.push .X ≠ k.push .I := by
  intro h
  have := congrArg (fun x => x.label) h
  simp [TKey.push] at this

end Yuiv.C05.Engine
