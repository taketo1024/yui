import Yuiv.Proofs.C10
import Mathlib.LinearAlgebra.Matrix.NonsingularInverse
import Mathlib.LinearAlgebra.Matrix.Block
import Mathlib.Tactic.FieldSimp
import Mathlib.Tactic.LinearCombination
import Mathlib.Tactic.Positivity
/-
C10 — the integral Gram–Schmidt data of integral rows, as mathematics over entry functions (no model state here):
  d_0 = 1,  d_k = ∏_{j<k} |b*_j|²  (= Gram determinant of b_0 … b_{k-1}),   λ_{i,j} = d_{j+1}·μ_{i,j}  (j < i).
Integrality, which makes the divisions of `orthogonalize` and `swap` exact, comes from the adjugate of the integral Gram matrix.
-/
namespace Yuiv.C10
open Yuiv Res Finset

/-- `|b*_i|²` -/
def nrm (n : Nat) (bs : Nat → Nat → ℚ) (i : Nat) : ℚ := ∑ c ∈ range n, bs i c * bs i c

/-- `d_k = ∏_{j<k} |b*_j|²` (`d_0 = 1`) -/
def gsP (n : Nat) (bs : Nat → Nat → ℚ) (k : Nat) : ℚ := ∏ j ∈ range k, nrm n bs j

/-- `(det, lam)` are the integral Gram–Schmidt data of the rows of `B` whose Gram–Schmidt decomposition over ℚ is
`(bs, mu)` (unique by `IsGS.unique`): `det[i] = d_{i+1}`, `lam[i][j] = d_{j+1}·μ_{ij}` for `j < i`. -/
structure IsGSData (m n : Nat) (B : Nat → Nat → Int) (bs mu : Nat → Nat → ℚ)
    (det : Nat → Int) (lam : Nat → Nat → Int) : Prop where
  gs : IsGS m n B bs mu
  det_eq : ∀ i < m, (det i : ℚ) = gsP n bs (i + 1)
  lam_eq : ∀ i < m, ∀ j < i, (lam i j : ℚ) = gsP n bs (j + 1) * mu i j

theorem gsP_zero (n : Nat) (bs : Nat → Nat → ℚ) : gsP n bs 0 = 1 := by simp [gsP]

theorem gsP_succ (n : Nat) (bs : Nat → Nat → ℚ) (k : Nat) : gsP n bs (k + 1) = gsP n bs k * nrm n bs k := by
  simp [gsP, Finset.prod_range_succ]

theorem ne_zero_of_cast_pos {z : ℤ} {q : ℚ} (h : (z : ℚ) = q) (hq : 0 < q) : z ≠ 0 := by
  intro e
  rw [e, Int.cast_zero] at h
  exact absurd h (ne_of_lt hq)

theorem tdiv_cast_eq {a b : ℤ} {q : ℚ} (hb : b ≠ 0) (hq : ∃ z : ℤ, (z : ℚ) = q) (h : (a : ℚ) = (b : ℚ) * q) :
    ((a.tdiv b : ℤ) : ℚ) = q := by
  obtain ⟨z, rfl⟩ := hq
  have : a = b * z := by exact_mod_cast h
  rw [this, Int.mul_tdiv_cancel_left _ hb]

theorem IsGS.nrm_pos {m n : Nat} {B : Nat → Nat → Int} {bs mu : Nat → Nat → ℚ} (h : IsGS m n B bs mu)
    {i : Nat} (hi : i < m) : 0 < nrm n bs i := h.pos i hi

theorem IsGS.congr {m n : Nat} {B B' : Nat → Nat → Int} {bs mu : Nat → Nat → ℚ} (h : IsGS m n B bs mu)
    (hB : ∀ a < m, ∀ c < n, B' a c = B a c) : IsGS m n B' bs mu :=
  ⟨fun i hi c hc => by rw [hB i hi c hc]; exact h.decomp i hi c hc, h.orth, h.pos⟩

theorem IsGS.gsP_pos {m n : Nat} {B : Nat → Nat → Int} {bs mu : Nat → Nat → ℚ} (h : IsGS m n B bs mu) :
    ∀ k ≤ m, 0 < gsP n bs k := by
  intro k
  induction k with
  | zero => intro _; rw [gsP_zero]; exact one_pos
  | succ k ih =>
    intro hk
    rw [gsP_succ]
    exact mul_pos (ih (by omega)) (h.nrm_pos (by omega))

theorem gsP_congr (n : Nat) (bs bs' : Nat → Nat → ℚ) (k : Nat) (h : ∀ j < k, nrm n bs j = nrm n bs' j) :
    gsP n bs k = gsP n bs' k :=
  Finset.prod_congr rfl (fun j hj => h j (mem_range.mp hj))

theorem IsGSData.detPrev_eq {m n : Nat} {B : Nat → Nat → Int} {bs mu : Nat → Nat → ℚ}
    {det : Nat → Int} {lam : Nat → Nat → Int} (h : IsGSData m n B bs mu det lam) {k : Nat} (hk : 0 < k) (hkm : k < m) :
    (((if k ≥ 2 then det (k - 2) else 1 : Int)) : ℚ) = gsP n bs (k - 1) := by
  split
  · rw [h.det_eq (k - 2) (by omega)]
    congr 1
    omega
  · have : k - 1 = 0 := by omega
    rw [this, gsP_zero]
    rfl

theorem IsGSData.det_eq_mul {m n : Nat} {B : Nat → Nat → Int} {bs mu : Nat → Nat → ℚ} {det : Nat → Int}
    {lam : Nat → Nat → Int} (h : IsGSData m n B bs mu det lam) {i : Nat} (hi : i < m) :
    (det i : ℚ) = gsP n bs i * nrm n bs i := by rw [h.det_eq i hi, gsP_succ]

theorem IsGSData.det_ne_zero {m n : Nat} {B : Nat → Nat → Int} {bs mu : Nat → Nat → ℚ} {det : Nat → Int}
    {lam : Nat → Nat → Int} (h : IsGSData m n B bs mu det lam) {i : Nat} (hi : i < m) : det i ≠ 0 :=
  ne_zero_of_cast_pos (h.det_eq i hi) (h.gs.gsP_pos (i + 1) (by omega))

theorem IsGSData.lam_eq_mul {m n : Nat} {B : Nat → Nat → Int} {bs mu : Nat → Nat → ℚ} {det : Nat → Int}
    {lam : Nat → Nat → Int} (h : IsGSData m n B bs mu det lam) {i j : Nat} (hi : i < m) (hj : j < i) :
    (lam i j : ℚ) = gsP n bs j * nrm n bs j * mu i j := by rw [h.lam_eq i hi j hj, gsP_succ]

theorem sum_unitri (N l : Nat) (hl : l < N) (f g : Nat → ℚ) :
    ∑ t ∈ range N, (if t < l then f t else if t = l then 1 else 0) * g t = g l + ∑ t ∈ range l, f t * g t := by
  have hsub : range (l + 1) ⊆ range N := by
    intro x hx; rw [mem_range] at hx ⊢; omega
  rw [← Finset.sum_subset hsub]
  · rw [Finset.sum_range_succ, if_neg (lt_irrefl _), if_pos rfl, one_mul, add_comm]
    congr 1
    exact Finset.sum_congr rfl (fun t ht => by rw [if_pos (mem_range.mp ht)])
  · intro x _ hx
    rw [mem_range] at hx
    rw [if_neg (by omega), if_neg (by omega), zero_mul]

section GramInt
open Matrix

/-- the first `N` rows as Mathlib matrices: `gsBz` over ℤ, `gsBq` over ℚ, `gsS` the `b*`, `gsM` the unitriangular matrix of
the `μ`; `gsGz` below is the Gram matrix over ℤ -/
def gsBz (n N : Nat) (B : Nat → Nat → Int) : Matrix (Fin N) (Fin n) ℤ := fun l c => B l.val c.val
def gsBq (n N : Nat) (B : Nat → Nat → Int) : Matrix (Fin N) (Fin n) ℚ := fun l c => (B l.val c.val : ℚ)
def gsS (n N : Nat) (bs : Nat → Nat → ℚ) : Matrix (Fin N) (Fin n) ℚ := fun l c => bs l.val c.val
def gsM (N : Nat) (mu : Nat → Nat → ℚ) : Matrix (Fin N) (Fin N) ℚ :=
  fun l t => if t.val < l.val then mu l.val t.val else if t.val = l.val then 1 else 0

theorem gsBq_eq_map (n N : Nat) (B : Nat → Nat → Int) :
    gsBq n N B = (gsBz n N B).map (Int.castRingHom ℚ) := by
  ext l c; simp [gsBq, gsBz]

theorem gsM_det (N : Nat) (mu : Nat → Nat → ℚ) : (gsM N mu).det = 1 := by
  rw [det_of_isLowerTriangular]
  · apply Finset.prod_eq_one
    intro i _
    simp [gsM]
  · intro i j hij
    have h : i < j := hij
    have h' : i.val < j.val := h
    simp only [gsM]
    rw [if_neg (by omega), if_neg (by omega)]

section
variable {m n : Nat} {B : Nat → Nat → Int} {bs mu : Nat → Nat → ℚ}

theorem IsGS.gsBq_eq (h : IsGS m n B bs mu) {N : Nat} (hN : N ≤ m) :
    gsBq n N B = gsM N mu * gsS n N bs := by
  ext l c
  rw [Matrix.mul_apply]
  show (B l.val c.val : ℚ) = _
  rw [h.decomp l.val (lt_of_lt_of_le l.isLt hN) c.val c.isLt]
  exact ((Fin.sum_univ_eq_sum_range
    (fun t => (if t < l.val then mu l.val t else if t = l.val then 1 else 0) * bs t c.val) N).trans
    (sum_unitri N l.val l.isLt (mu l.val) (fun t => bs t c.val))).symm

theorem IsGS.gsS_gram (h : IsGS m n B bs mu) {N : Nat} (hN : N ≤ m) :
    gsS n N bs * (gsS n N bs)ᵀ = diagonal (fun l : Fin N => nrm n bs l.val) := by
  ext l t
  rw [Matrix.mul_apply]
  have e : ∑ c : Fin n, gsS n N bs l c * (gsS n N bs)ᵀ c t = ∑ c ∈ range n, bs l.val c * bs t.val c :=
    Fin.sum_univ_eq_sum_range (fun c => bs l.val c * bs t.val c) n
  rw [e]
  by_cases hlt : l = t
  · subst hlt
    rw [diagonal_apply_eq]; rfl
  · rw [diagonal_apply_ne _ hlt]
    exact h.orth_ne (lt_of_lt_of_le l.isLt hN) (lt_of_lt_of_le t.isLt hN) (fun h' => hlt (Fin.ext h'))

def gsGz (n N : Nat) (B : Nat → Nat → Int) : Matrix (Fin N) (Fin N) ℤ := gsBz n N B * (gsBz n N B)ᵀ

theorem gsBq_gram_eq_map (n N : Nat) (B : Nat → Nat → Int) :
    gsBq n N B * (gsBq n N B)ᵀ = (Int.castRingHom ℚ).mapMatrix (gsGz n N B) := by
  rw [gsGz, gsBq_eq_map, RingHom.mapMatrix_apply, Matrix.map_mul, transpose_map]

theorem IsGS.gram_det (h : IsGS m n B bs mu) {N : Nat} (hN : N ≤ m) :
    (gsBq n N B * (gsBq n N B)ᵀ).det = gsP n bs N := by
  rw [h.gsBq_eq hN, transpose_mul, ← Matrix.mul_assoc, Matrix.mul_assoc (gsM N mu), h.gsS_gram hN,
    det_mul, det_mul, det_transpose, gsM_det, det_diagonal, one_mul, mul_one]
  exact Fin.prod_univ_eq_prod_range (fun l => nrm n bs l) N

theorem IsGS.gram_det_cast (h : IsGS m n B bs mu) {N : Nat} (hN : N ≤ m) :
    ((gsGz n N B).det : ℚ) = gsP n bs N := by
  rw [← h.gram_det hN, gsBq_gram_eq_map, ← RingHom.map_det]
  rfl

theorem IsGS.int_D (h : IsGS m n B bs mu) : ∀ k ≤ m, ∃ z : ℤ, (z : ℚ) = gsP n bs k :=
  fun k hk => ⟨(gsGz n k B).det, h.gram_det_cast hk⟩

/-- `d_k·x` is integral whenever `G·x = B·w` for an integral `w` (adjugate) -/
theorem IsGS.int_coeff (h : IsGS m n B bs mu) {N : Nat} (hN : N ≤ m) (w : Fin n → ℤ) (x : Fin N → ℚ)
    (hx : (gsBq n N B * (gsBq n N B)ᵀ) *ᵥ x = gsBq n N B *ᵥ (fun c => (w c : ℚ))) :
    ∀ l : Fin N, ((((gsGz n N B).adjugate *ᵥ (gsBz n N B *ᵥ w)) l : ℤ) : ℚ) = gsP n bs N * x l := by
  intro l
  have e1 : (gsBq n N B * (gsBq n N B)ᵀ).adjugate *ᵥ ((gsBq n N B * (gsBq n N B)ᵀ) *ᵥ x)
      = gsP n bs N • x := by
    rw [mulVec_mulVec, adjugate_mul, h.gram_det hN, smul_mulVec, one_mulVec]
  rw [hx] at e1
  have e2 := congrFun e1 l
  rw [Pi.smul_apply, smul_eq_mul] at e2
  rw [← e2, gsBq_gram_eq_map, ← RingHom.map_adjugate, RingHom.mapMatrix_apply, gsBq_eq_map]
  have a1 := RingHom.map_mulVec (Int.castRingHom ℚ) (gsGz n N B).adjugate (gsBz n N B *ᵥ w) l
  have a2 : (Int.castRingHom ℚ) ∘ (gsBz n N B *ᵥ w)
      = (gsBz n N B).map (Int.castRingHom ℚ) *ᵥ (fun c => (w c : ℚ)) := by
    funext t
    exact RingHom.map_mulVec (Int.castRingHom ℚ) (gsBz n N B) w t
  rw [a2] at a1
  exact a1

theorem IsGS.int_V (h : IsGS m n B bs mu) :
    ∀ i < m, ∀ k ≤ i, ∀ c < n,
      ∃ z : ℤ, (z : ℚ) = gsP n bs k * ((B i c : ℚ) - ∑ l ∈ range k, mu i l * bs l c) := by
  intro i hi k hk c hc
  have hN : k ≤ m := by omega
  have hMu : IsUnit (gsM k mu).det := by rw [gsM_det]; exact isUnit_one
  let y : Fin k → ℚ := fun l => mu i l.val
  let x : Fin k → ℚ := y ᵥ* (gsM k mu)⁻¹
  let w : Fin n → ℤ := fun c => B i c.val
  have hS : gsS n k bs = (gsM k mu)⁻¹ * gsBq n k B := by
    rw [h.gsBq_eq hN, ← Matrix.mul_assoc, nonsing_inv_mul _ hMu, Matrix.one_mul]
  have hp : y ᵥ* gsS n k bs = x ᵥ* gsBq n k B := by
    rw [hS, ← vecMul_vecMul]
  have hSw : gsS n k bs *ᵥ (fun c => (w c : ℚ)) = gsS n k bs *ᵥ (y ᵥ* gsS n k bs) := by
    rw [← mulVec_transpose, mulVec_mulVec, h.gsS_gram hN]
    funext l
    rw [mulVec_diagonal]
    have hl : l.val < i := lt_of_lt_of_le l.isLt hk
    have e : _ = mu i l.val * nrm n bs l.val := h.inner_eq hi hl
    show ∑ c : Fin n, gsS n k bs l c * ((w c : ℤ) : ℚ) = nrm n bs l.val * mu i l.val
    rw [mul_comm, ← e]
    rw [← Fin.sum_univ_eq_sum_range (fun c => (B i c : ℚ) * bs l.val c) n]
    exact Finset.sum_congr rfl (fun c _ => mul_comm _ _)
  have hx : (gsBq n k B * (gsBq n k B)ᵀ) *ᵥ x = gsBq n k B *ᵥ (fun c => (w c : ℚ)) := by
    rw [← mulVec_mulVec, mulVec_transpose, ← hp]
    conv_lhs => rw [h.gsBq_eq hN]
    conv_rhs => rw [h.gsBq_eq hN]
    rw [← mulVec_mulVec, ← mulVec_mulVec, hSw]
  have hc' := h.int_coeff hN w x hx
  refine ⟨(gsGz n k B).det * B i c - ∑ l : Fin k, ((gsGz n k B).adjugate *ᵥ (gsBz n k B *ᵥ w)) l * B l.val c, ?_⟩
  rw [Int.cast_sub, Int.cast_mul, Int.cast_sum, h.gram_det_cast hN, mul_sub]
  congr 1
  have e3 : ∑ l ∈ range k, mu i l * bs l c = (y ᵥ* gsS n k bs) ⟨c, hc⟩ := by
    rw [← Fin.sum_univ_eq_sum_range (fun l => mu i l * bs l c) k]
    rfl
  rw [e3, hp]
  show _ = gsP n bs k * ∑ l : Fin k, x l * gsBq n k B l ⟨c, hc⟩
  rw [Finset.mul_sum]
  refine Finset.sum_congr rfl (fun l _ => ?_)
  rw [Int.cast_mul, hc' l]
  show gsP n bs k * x l * (B l.val c : ℚ) = gsP n bs k * (x l * gsBq n k B l ⟨c, hc⟩)
  rw [mul_assoc]
  rfl

theorem IsGS.int_L (h : IsGS m n B bs mu) :
    ∀ i < m, ∀ j < i, ∃ z : ℤ, (z : ℚ) = gsP n bs (j + 1) * mu i j := by
  intro i hi j hj
  have hjm : j < m := lt_trans hj hi
  have hV : ∀ c < n, ∃ z : ℤ, (z : ℚ) = gsP n bs j * bs j c := by
    intro c hc
    obtain ⟨z, hz⟩ := h.int_V j hjm j (le_refl j) c hc
    refine ⟨z, ?_⟩
    rw [hz, h.decomp j hjm c hc]
    ring
  choose! v hv using hV
  refine ⟨∑ c ∈ range n, B i c * v c, ?_⟩
  push_cast
  have e : _ = mu i j * nrm n bs j := h.inner_eq hi hj
  rw [gsP_succ, mul_assoc, mul_comm (nrm n bs j), ← e, Finset.mul_sum]
  refine Finset.sum_congr rfl (fun c hc => ?_)
  rw [hv c (mem_range.mp hc)]
  ring

end

end GramInt

/-- the Gram–Schmidt coefficients after `b_k += r·b_i` (`i < k`); the `b*` do not change -/
def addMu (mu : Nat → Nat → ℚ) (i k : Nat) (r : ℚ) : Nat → Nat → ℚ :=
  fun a j => if a = k then mu k j + r * (if j < i then mu i j else if j = i then 1 else 0) else mu a j

theorem addgs_data (m n : Nat) (B B' : Nat → Nat → Int) (bs mu : Nat → Nat → ℚ) (det : Nat → Int)
    (lam lam' : Nat → Nat → Int) (i k : Nat) (r : Int) (hik : i < k) (hk : k < m)
    (hD : IsGSData m n B bs mu det lam)
    (hB' : ∀ a < m, ∀ c < n, B' a c = if a = k then B a c + B i c * r else B a c)
    (hlam' : ∀ a < m, ∀ b < a, lam' a b =
      if a = k then (if b = i then lam k i + r * det i else if b < i then lam k b + r * lam i b else lam a b)
      else lam a b) :
    IsGSData m n B' bs (addMu mu i k r) det lam' := by
  have him : i < m := lt_trans hik hk
  refine ⟨⟨?_, hD.gs.orth, hD.gs.pos⟩, hD.det_eq, ?_⟩
  · intro a ha c hc
    rw [hB' a ha c hc]
    by_cases hak : a = k
    · subst hak
      rw [if_pos rfl]
      have e1 := hD.gs.decomp a ha c hc
      have e2 := hD.gs.decomp i him c hc
      have e3 := sum_unitri a i hik (fun t => mu i t) (fun t => bs t c)
      simp only [addMu, if_pos]
      rw [Finset.sum_congr rfl (fun j _ => show
          (mu a j + (r : ℚ) * (if j < i then mu i j else if j = i then 1 else 0)) * bs j c
            = mu a j * bs j c + (r : ℚ) * ((if j < i then mu i j else if j = i then 1 else 0) * bs j c) by ring),
        Finset.sum_add_distrib, ← Finset.mul_sum, e3]
      push_cast
      rw [e1, e2]
      ring
    · rw [if_neg hak, hD.gs.decomp a ha c hc]
      simp only [addMu, if_neg hak]
  · intro a ha j hj
    rw [hlam' a ha j hj]
    by_cases hak : a = k
    · subst hak
      simp only [addMu, if_pos]
      have e1 := hD.lam_eq a ha j hj
      by_cases hji : j = i
      · subst hji
        rw [if_pos rfl, if_neg (lt_irrefl _), if_pos rfl]
        push_cast
        rw [e1, hD.det_eq j him]
        ring
      · rw [if_neg hji]
        by_cases hlt : j < i
        · rw [if_pos hlt, if_pos hlt]
          push_cast
          rw [e1, hD.lam_eq i him j hlt]
          ring
        · rw [if_neg hlt, if_neg hlt, if_neg hji, e1]
          ring
    · rw [if_neg hak]
      simp only [addMu, if_neg hak]
      exact hD.lam_eq a ha j hj

def mulBs (bs : Nat → Nat → ℚ) (i : Nat) (u : ℚ) : Nat → Nat → ℚ :=
  fun a c => if a = i then u * bs i c else bs a c
def mulMu (mu : Nat → Nat → ℚ) (i : Nat) (u : ℚ) : Nat → Nat → ℚ :=
  fun a j => if a = i then u * mu i j else if j = i then u * mu a i else mu a j

theorem mulBs_ip (n : Nat) (bs : Nat → Nat → ℚ) (i : Nat) (u : ℚ) (a j : Nat) :
    ∑ c ∈ range n, mulBs bs i u a c * mulBs bs i u j c
      = (if a = i then u else 1) * (if j = i then u else 1) * ∑ c ∈ range n, bs a c * bs j c := by
  rw [Finset.mul_sum]
  refine Finset.sum_congr rfl (fun c _ => ?_)
  simp only [mulBs]
  by_cases h1 : a = i <;> by_cases h2 : j = i <;> simp [h1, h2] <;> ring

theorem mulgs_data (m n : Nat) (B B' : Nat → Nat → Int) (bs mu : Nat → Nat → ℚ) (det : Nat → Int)
    (lam lam' : Nat → Nat → Int) (i : Nat) (u : Int) (hu : u * u = 1)
    (hD : IsGSData m n B bs mu det lam)
    (hB' : ∀ a < m, ∀ c < n, B' a c = if a = i then B a c * u else B a c)
    (hlam' : ∀ a < m, ∀ b < a, lam' a b =
      if b = i then (if a = i then lam a b * u else lam a b) * u else (if a = i then lam a b * u else lam a b)) :
    IsGSData m n B' (mulBs bs i u) (mulMu mu i u) det lam' := by
  have huq : (u : ℚ) * (u : ℚ) = 1 := by exact_mod_cast hu
  have hn : ∀ a, nrm n (mulBs bs i u) a = nrm n bs a := by
    intro a
    unfold nrm
    rw [mulBs_ip]
    by_cases h1 : a = i
    · rw [if_pos h1, huq, one_mul]
    · rw [if_neg h1, one_mul, one_mul]
  have hP : ∀ k, gsP n (mulBs bs i u) k = gsP n bs k := fun k => gsP_congr n _ _ k (fun j _ => hn j)
  refine ⟨⟨?_, ?_, ?_⟩, ?_, ?_⟩
  · intro a ha c hc
    rw [hB' a ha c hc]
    by_cases hai : a = i
    · subst hai
      rw [if_pos rfl]
      push_cast
      rw [hD.gs.decomp a ha c hc, add_mul, Finset.sum_mul]
      simp only [mulBs, mulMu, if_pos]
      rw [mul_comm]
      congr 1
      refine Finset.sum_congr rfl (fun j hj => ?_)
      have : j ≠ a := by have := mem_range.mp hj; omega
      rw [if_neg this]
      ring
    · rw [if_neg hai, hD.gs.decomp a ha c hc]
      simp only [mulBs, mulMu, if_neg hai]
      congr 1
      refine Finset.sum_congr rfl (fun j _ => ?_)
      by_cases hji : j = i
      · rw [if_pos hji, if_pos hji, hji]
        calc mu a i * bs i c = (u * u : ℚ) * (mu a i * bs i c) := by rw [huq, one_mul]
          _ = _ := by ring
      · rw [if_neg hji, if_neg hji]
  · intro a ha j hj
    rw [mulBs_ip, hD.gs.orth a ha j hj, mul_zero]
  · intro a ha
    have := hn a
    unfold nrm at this
    rw [this]
    exact hD.gs.pos a ha
  · intro a ha
    rw [hP]
    exact hD.det_eq a ha
  · intro a ha j hj
    rw [hlam' a ha j hj, hP]
    have e := hD.lam_eq a ha j hj
    simp only [mulMu]
    by_cases hai : a = i
    · have hji : j ≠ i := by omega
      rw [if_neg hji, if_pos hai, if_pos hai]
      push_cast
      rw [e, hai]
      ring
    · rw [if_neg hai, if_neg hai]
      by_cases hji : j = i
      · rw [if_pos hji, if_pos hji]
        push_cast
        rw [e, hji]
        ring
      · rw [if_neg hji, if_neg hji]
        exact e

/-- `N' = |b*_k|² + μ²|b*_p|²` (`k = p+1`, `μ = μ_{k,p}`) -/
def swapgs_N (n : Nat) (bs mu : Nat → Nat → ℚ) (p : Nat) : ℚ :=
  nrm n bs (p + 1) + mu (p + 1) p ^ 2 * nrm n bs p

/-- `ν = μ|b*_p|²/N'` -/
def swapgs_nu (n : Nat) (bs mu : Nat → Nat → ℚ) (p : Nat) : ℚ :=
  mu (p + 1) p * nrm n bs p / swapgs_N n bs mu p

/-- `swapgs_cA`, `swapgs_cB`, `swapgs_cC`: the coordinates of the new `b*_j` w.r.t. the old `b*_p`, `b*_{p+1}`, `b*_j`
(`swapgs_bs_lin`) -/
def swapgs_cA (n : Nat) (bs mu : Nat → Nat → ℚ) (p j : Nat) : ℚ :=
  if j = p then mu (p + 1) p else if j = p + 1 then 1 - swapgs_nu n bs mu p * mu (p + 1) p else 0

def swapgs_cB (n : Nat) (bs mu : Nat → Nat → ℚ) (p j : Nat) : ℚ :=
  if j = p then 1 else if j = p + 1 then - swapgs_nu n bs mu p else 0

def swapgs_cC (p j : Nat) : ℚ := if j = p then 0 else if j = p + 1 then 0 else 1

def swapgs_bs (n : Nat) (bs mu : Nat → Nat → ℚ) (p : Nat) (j c : Nat) : ℚ :=
  if j = p then bs (p + 1) c + mu (p + 1) p * bs p c
  else if j = p + 1 then bs p c - swapgs_nu n bs mu p * (bs (p + 1) c + mu (p + 1) p * bs p c)
  else bs j c

def swapgs_mu (n : Nat) (bs mu : Nat → Nat → ℚ) (p : Nat) (a j : Nat) : ℚ :=
  if a = p then mu (p + 1) j
  else if a = p + 1 then (if j = p then swapgs_nu n bs mu p else mu p j)
  else if j = p then (mu a (p + 1) * nrm n bs (p + 1) + mu (p + 1) p * mu a p * nrm n bs p) / swapgs_N n bs mu p
  else if j = p + 1 then mu a p - mu (p + 1) p * mu a (p + 1)
  else mu a j

theorem swapgs_bs_lin (n : Nat) (bs mu : Nat → Nat → ℚ) (p j c : Nat) :
    swapgs_bs n bs mu p j c
      = swapgs_cA n bs mu p j * bs p c + swapgs_cB n bs mu p j * bs (p + 1) c + swapgs_cC p j * bs j c := by
  unfold swapgs_bs swapgs_cA swapgs_cB swapgs_cC
  split_ifs <;> ring

theorem swapgs_lin3 (n : Nat) (x y z x' y' z' : Nat → ℚ) (a1 a2 a3 b1 b2 b3 : ℚ) :
    ∑ c ∈ range n, (a1 * x c + a2 * y c + a3 * z c) * (b1 * x' c + b2 * y' c + b3 * z' c)
      = a1 * b1 * (∑ c ∈ range n, x c * x' c) + a1 * b2 * (∑ c ∈ range n, x c * y' c)
        + a1 * b3 * (∑ c ∈ range n, x c * z' c)
        + a2 * b1 * (∑ c ∈ range n, y c * x' c) + a2 * b2 * (∑ c ∈ range n, y c * y' c)
        + a2 * b3 * (∑ c ∈ range n, y c * z' c)
        + a3 * b1 * (∑ c ∈ range n, z c * x' c) + a3 * b2 * (∑ c ∈ range n, z c * y' c)
        + a3 * b3 * (∑ c ∈ range n, z c * z' c) := by
  simp only [Finset.mul_sum, ← Finset.sum_add_distrib]
  exact Finset.sum_congr rfl (fun c _ => by ring)

theorem swapgs_N_pos {m n : Nat} {B : Nat → Nat → Int} {bs mu : Nat → Nat → ℚ} (h : IsGS m n B bs mu)
    {p : Nat} (hp : p + 1 < m) : 0 < swapgs_N n bs mu p := by
  unfold swapgs_N
  have h1 := h.nrm_pos hp
  have h2 := h.nrm_pos (show p < m by omega)
  positivity

theorem swapgs_ip {m n : Nat} {B : Nat → Nat → Int} {bs mu : Nat → Nat → ℚ} (h : IsGS m n B bs mu)
    {p : Nat} (hp : p + 1 < m) {i j : Nat} (hi : i < m) (hj : j < m) :
    ∑ c ∈ range n, swapgs_bs n bs mu p i c * swapgs_bs n bs mu p j c
      = swapgs_cA n bs mu p i * swapgs_cA n bs mu p j * nrm n bs p
        + swapgs_cB n bs mu p i * swapgs_cB n bs mu p j * nrm n bs (p + 1)
        + swapgs_cC p i * swapgs_cC p j * ∑ c ∈ range n, bs i c * bs j c := by
  have hpm : p < m := by omega
  rw [Finset.sum_congr rfl (fun c _ => by rw [swapgs_bs_lin n bs mu p i c, swapgs_bs_lin n bs mu p j c])]
  rw [swapgs_lin3]
  have hpk : ∑ c ∈ range n, bs p c * bs (p + 1) c = 0 := h.orth_ne hpm hp (by omega)
  have hkp : ∑ c ∈ range n, bs (p + 1) c * bs p c = 0 := h.orth_ne hp hpm (by omega)
  -- `cC x` vanishes for `x = p, p+1`, and `b*_x ⟂ b*_p, b*_{p+1}` otherwise
  have hC : ∀ x (S : ℚ), (x ≠ p → x ≠ p + 1 → S = 0) → swapgs_cC p x * S = 0 := by
    intro x S hS
    unfold swapgs_cC
    split_ifs with e1 e2
    · exact zero_mul S
    · exact zero_mul S
    · rw [hS e1 e2, mul_zero]
  have h1 := hC j _ (fun e1 _ => h.orth_ne hpm hj (Ne.symm e1))
  have h2 := hC j _ (fun _ e2 => h.orth_ne hp hj (Ne.symm e2))
  have h3 := hC i _ (fun e1 _ => h.orth_ne hi hpm e1)
  have h4 := hC i _ (fun _ e2 => h.orth_ne hi hp e2)
  unfold nrm
  linear_combination (swapgs_cA n bs mu p i * swapgs_cB n bs mu p j) * hpk
    + (swapgs_cB n bs mu p i * swapgs_cA n bs mu p j) * hkp
    + swapgs_cA n bs mu p i * h1 + swapgs_cB n bs mu p i * h2
    + swapgs_cA n bs mu p j * h3 + swapgs_cB n bs mu p j * h4

theorem swapgs_nrm_p {m n : Nat} {B : Nat → Nat → Int} {bs mu : Nat → Nat → ℚ} (h : IsGS m n B bs mu)
    {p : Nat} (hp : p + 1 < m) : nrm n (swapgs_bs n bs mu p) p = swapgs_N n bs mu p := by
  have e := swapgs_ip h hp (show p < m by omega) (show p < m by omega)
  unfold nrm at *
  rw [e]
  simp only [swapgs_cA, swapgs_cB, swapgs_cC, swapgs_N, nrm, if_true]
  ring

theorem swapgs_nrm_k {m n : Nat} {B : Nat → Nat → Int} {bs mu : Nat → Nat → ℚ} (h : IsGS m n B bs mu)
    {p : Nat} (hp : p + 1 < m) :
    nrm n (swapgs_bs n bs mu p) (p + 1) = nrm n bs p * nrm n bs (p + 1) / swapgs_N n bs mu p := by
  have e := swapgs_ip h hp hp hp
  have hN := ne_of_gt (swapgs_N_pos h hp)
  have hne : p + 1 ≠ p := by omega
  have e2 : nrm n (swapgs_bs n bs mu p) (p + 1)
      = (1 - swapgs_nu n bs mu p * mu (p + 1) p) * (1 - swapgs_nu n bs mu p * mu (p + 1) p) * nrm n bs p
        + (- swapgs_nu n bs mu p) * (- swapgs_nu n bs mu p) * nrm n bs (p + 1) := by
    unfold nrm at *
    rw [e]
    simp only [swapgs_cA, swapgs_cB, swapgs_cC, if_neg hne, if_true]
    ring
  rw [e2]
  unfold swapgs_nu
  field_simp
  unfold swapgs_N
  ring

theorem swapgs_nrm_other {m n : Nat} {B : Nat → Nat → Int} {bs mu : Nat → Nat → ℚ} (h : IsGS m n B bs mu)
    {p : Nat} (hp : p + 1 < m) {j : Nat} (hj : j < m) (h1 : j ≠ p) (h2 : j ≠ p + 1) :
    nrm n (swapgs_bs n bs mu p) j = nrm n bs j := by
  have e := swapgs_ip (mu := mu) h hp hj hj
  unfold nrm at *
  rw [e]
  simp only [swapgs_cA, swapgs_cB, swapgs_cC, if_neg h1, if_neg h2]
  ring

theorem swapgs_orth {m n : Nat} {B : Nat → Nat → Int} {bs mu : Nat → Nat → ℚ} (h : IsGS m n B bs mu)
    {p : Nat} (hp : p + 1 < m) {i j : Nat} (hi : i < m) (hj : j < m) (hij : i ≠ j) :
    ∑ c ∈ range n, swapgs_bs n bs mu p i c * swapgs_bs n bs mu p j c = 0 := by
  rw [swapgs_ip h hp hi hj, h.orth_ne hi hj hij]
  have hN := ne_of_gt (swapgs_N_pos h hp)
  have key : mu (p + 1) p * (1 - swapgs_nu n bs mu p * mu (p + 1) p) * nrm n bs p
      + 1 * (- swapgs_nu n bs mu p) * nrm n bs (p + 1) = 0 := by
    unfold swapgs_nu
    field_simp
    unfold swapgs_N
    ring
  have hne : p + 1 ≠ p := by omega
  unfold swapgs_cA swapgs_cB swapgs_cC
  by_cases hip : i = p
  · subst hip
    by_cases hjk : j = i + 1
    · subst hjk
      simp only [if_true, if_neg hne]
      linear_combination key
    · have hji : j ≠ i := fun e => hij e.symm
      simp only [if_neg hji, if_neg hjk]
      ring
  · by_cases hik : i = p + 1
    · subst hik
      by_cases hjp : j = p
      · subst hjp
        simp only [if_true, if_neg hne]
        linear_combination key
      · have hjk : j ≠ p + 1 := fun e => hij e.symm
        simp only [if_neg hjp, if_neg hjk]
        ring
    · simp only [if_neg hip, if_neg hik]
      ring

theorem swapgs_sum_split (f : Nat → ℚ) (p t : Nat) :
    ∑ j ∈ range (p + 1 + 1 + t), f j = ∑ j ∈ range p, f j + f p + f (p + 1) + ∑ x ∈ range t, f (p + 1 + 1 + x) := by
  rw [Finset.sum_range_add, Finset.sum_range_succ, Finset.sum_range_succ]

theorem swapgs_mu_lt (n : Nat) (bs mu : Nat → Nat → ℚ) (p i : Nat) {j : Nat} (hj : j < p) :
    swapgs_mu n bs mu p i j = mu (if i = p then p + 1 else if i = p + 1 then p else i) j := by
  have h3 : j ≠ p := by omega
  have h4 : j ≠ p + 1 := by omega
  unfold swapgs_mu
  rw [if_neg h3, if_neg h3, if_neg h4]
  by_cases h1 : i = p
  · rw [if_pos h1, if_pos h1]
  · rw [if_neg h1, if_neg h1]
    by_cases h2 : i = p + 1
    · rw [if_pos h2, if_pos h2]
    · rw [if_neg h2, if_neg h2]

theorem swapgs_decomp {m n : Nat} {B : Nat → Nat → Int} {bs mu : Nat → Nat → ℚ} (h : IsGS m n B bs mu)
    {p : Nat} (hp : p + 1 < m) {i : Nat} (hi : i < m) {c : Nat} (hc : c < n) :
    ((B (if i = p then p + 1 else if i = p + 1 then p else i) c : ℤ) : ℚ)
      = swapgs_bs n bs mu p i c + ∑ j ∈ range i, swapgs_mu n bs mu p i j * swapgs_bs n bs mu p j c := by
  have hpm : p < m := by omega
  have hne : p + 1 ≠ p := by omega
  have low : ∀ k ≤ p, ∑ j ∈ range k, swapgs_mu n bs mu p i j * swapgs_bs n bs mu p j c
      = ∑ j ∈ range k, mu (if i = p then p + 1 else if i = p + 1 then p else i) j * bs j c :=
    fun k hk => Finset.sum_congr rfl (fun j hj => by
      have hjp : j < p := lt_of_lt_of_le (mem_range.mp hj) hk
      rw [swapgs_mu_lt n bs mu p i hjp, swapgs_bs, if_neg (show j ≠ p by omega), if_neg (show j ≠ p + 1 by omega)])
  rcases Nat.lt_trichotomy i p with hlt | heq | hgt
  · -- rows above `p`
    have h1 : i ≠ p := by omega
    have h2 : i ≠ p + 1 := by omega
    rw [low i (le_of_lt hlt), if_neg h1, if_neg h2, h.decomp i hi c hc]
    simp only [swapgs_bs, if_neg h1, if_neg h2]
  · subst heq
    rw [low i (le_refl i), if_pos rfl, h.decomp (i + 1) hp c hc, Finset.sum_range_succ]
    simp only [swapgs_bs, if_true]
    ring
  · rcases Nat.lt_or_ge (p + 1) i with hgt2 | hle
    · -- rows below `k`: the terms `j = p, p+1` of the sum recombine
      have h1 : i ≠ p := by omega
      have h2 : i ≠ p + 1 := by omega
      have lowp := low p (le_refl p)
      rw [if_neg h1, if_neg h2] at lowp ⊢
      rw [h.decomp i hi c hc]
      have ebs : swapgs_bs n bs mu p i c = bs i c := by
        simp only [swapgs_bs, if_neg h1, if_neg h2]
      rw [ebs]
      congr 1
      obtain ⟨t, rfl⟩ : ∃ t, i = (p + 1 + 1) + t := ⟨i - (p + 2), by omega⟩
      rw [swapgs_sum_split, swapgs_sum_split, lowp]
      have e2 : ∑ x ∈ range t, mu (p + 1 + 1 + t) (p + 1 + 1 + x) * bs (p + 1 + 1 + x) c
          = ∑ x ∈ range t, swapgs_mu n bs mu p (p + 1 + 1 + t) (p + 1 + 1 + x)
              * swapgs_bs n bs mu p (p + 1 + 1 + x) c := by
        refine Finset.sum_congr rfl (fun x _ => ?_)
        have h3 : p + 1 + 1 + x ≠ p := by omega
        have h4 : p + 1 + 1 + x ≠ p + 1 := by omega
        simp only [swapgs_bs, swapgs_mu, if_neg h1, if_neg h2, if_neg h3, if_neg h4]
      rw [e2]
      have hN := ne_of_gt (swapgs_N_pos h hp)
      have key : swapgs_mu n bs mu p (p + 1 + 1 + t) p * swapgs_bs n bs mu p p c
            + swapgs_mu n bs mu p (p + 1 + 1 + t) (p + 1) * swapgs_bs n bs mu p (p + 1) c
          = mu (p + 1 + 1 + t) p * bs p c + mu (p + 1 + 1 + t) (p + 1) * bs (p + 1) c := by
        simp only [swapgs_bs, swapgs_mu, if_neg h1, if_neg h2, if_neg hne, if_true, swapgs_nu]
        field_simp
        unfold swapgs_N
        ring
      linear_combination -key
    · obtain rfl : i = p + 1 := by omega
      rw [Finset.sum_range_succ, low p (le_refl p), if_neg hne, if_pos rfl, h.decomp p hpm c hc]
      simp only [swapgs_bs, swapgs_mu, if_true, if_neg hne]
      ring

theorem swapgs_isGS {m n : Nat} {B : Nat → Nat → Int} {bs mu : Nat → Nat → ℚ} (h : IsGS m n B bs mu)
    {p : Nat} (hp : p + 1 < m) :
    IsGS m n (fun r c => B (if r = p then p + 1 else if r = p + 1 then p else r) c)
      (swapgs_bs n bs mu p) (swapgs_mu n bs mu p) := by
  refine ⟨fun i hi c hc => swapgs_decomp h hp hi hc, ?_, ?_⟩
  · intro i hi j hj
    exact swapgs_orth h hp hi (by omega) (by omega)
  · intro i hi
    have hpm : p < m := by omega
    have hN := swapgs_N_pos (mu := mu) h hp
    show 0 < nrm n (swapgs_bs n bs mu p) i
    by_cases h1 : i = p
    · subst h1; rw [swapgs_nrm_p h hp]; exact hN
    · by_cases h2 : i = p + 1
      · subst h2; rw [swapgs_nrm_k h hp]
        exact div_pos (mul_pos (h.nrm_pos hpm) (h.nrm_pos hp)) hN
      · rw [swapgs_nrm_other h hp hi h1 h2]; exact h.nrm_pos hi

theorem swapgs_gsP_le {m n : Nat} {B : Nat → Nat → Int} {bs mu : Nat → Nat → ℚ} (h : IsGS m n B bs mu)
    {p : Nat} (hp : p + 1 < m) {j : Nat} (hj : j ≤ p) : gsP n (swapgs_bs n bs mu p) j = gsP n bs j :=
  gsP_congr n _ _ j (fun l hl => swapgs_nrm_other h hp (by omega) (by omega) (by omega))

theorem swapgs_gsP_p1 {m n : Nat} {B : Nat → Nat → Int} {bs mu : Nat → Nat → ℚ} (h : IsGS m n B bs mu)
    {p : Nat} (hp : p + 1 < m) : gsP n (swapgs_bs n bs mu p) (p + 1) = gsP n bs p * swapgs_N n bs mu p := by
  rw [gsP_succ, swapgs_gsP_le h hp (le_refl p), swapgs_nrm_p h hp]

theorem swapgs_gsP_ge {m n : Nat} {B : Nat → Nat → Int} {bs mu : Nat → Nat → ℚ} (h : IsGS m n B bs mu)
    {p : Nat} (hp : p + 1 < m) : ∀ j, p + 2 ≤ j → j ≤ m → gsP n (swapgs_bs n bs mu p) j = gsP n bs j := by
  intro j
  induction j with
  | zero => intro h1; omega
  | succ j ih =>
    intro h1 h2
    rcases Nat.lt_or_ge j (p + 2) with hlt | hge
    · have hj : j = p + 1 := by omega
      subst hj
      have hN := ne_of_gt (swapgs_N_pos (mu := mu) h hp)
      rw [gsP_succ, swapgs_gsP_p1 h hp, swapgs_nrm_k h hp, gsP_succ, gsP_succ]
      field_simp
    · rw [gsP_succ, ih hge (by omega), swapgs_nrm_other h hp (by omega) (by omega) (by omega), gsP_succ]

theorem swapgs_det_exact {m n : Nat} {B : Nat → Nat → Int} {bs mu : Nat → Nat → ℚ} {det : Nat → Int}
    {lam : Nat → Nat → Int} (hD : IsGSData m n B bs mu det lam) {p : Nat} (hp : p + 1 < m)
    (d0 : Int) (hd0 : (d0 : ℚ) = gsP n bs p) :
    (((d0 * det (p + 1) + lam (p + 1) p * lam (p + 1) p).tdiv (det p) : ℤ) : ℚ)
      = gsP n (swapgs_bs n bs mu p) (p + 1) := by
  have hpm : p < m := by omega
  refine tdiv_cast_eq (hD.det_ne_zero hpm) ((swapgs_isGS hD.gs hp).int_D (p + 1) (by omega)) ?_
  rw [swapgs_gsP_p1 hD.gs hp]
  push_cast
  rw [hD.det_eq_mul hpm, hD.det_eq_mul hp, gsP_succ, hD.lam_eq_mul hp (Nat.lt_succ_self p), hd0]
  unfold swapgs_N
  ring

theorem swapgs_lamp_exact {m n : Nat} {B : Nat → Nat → Int} {bs mu : Nat → Nat → ℚ} {det : Nat → Int}
    {lam : Nat → Nat → Int} (hD : IsGSData m n B bs mu det lam) {p : Nat} (hp : p + 1 < m)
    (d0 : Int) (hd0 : (d0 : ℚ) = gsP n bs p) {i : Nat} (hi : i < m) (hpi : p + 1 < i) :
    (((lam (p + 1) p * lam i p + lam i (p + 1) * d0).tdiv (det p) : ℤ) : ℚ)
      = gsP n (swapgs_bs n bs mu p) (p + 1) * swapgs_mu n bs mu p i p := by
  have hpm : p < m := by omega
  have hN := ne_of_gt (swapgs_N_pos (mu := mu) hD.gs hp)
  refine tdiv_cast_eq (hD.det_ne_zero hpm) ((swapgs_isGS hD.gs hp).int_L i hi p (by omega)) ?_
  rw [swapgs_gsP_p1 hD.gs hp]
  push_cast
  rw [hD.det_eq_mul hpm, hD.lam_eq_mul hp (Nat.lt_succ_self p), hD.lam_eq_mul hi (show p < i by omega),
    hD.lam_eq_mul hi hpi, gsP_succ, hd0]
  have h1 : i ≠ p := by omega
  have h2 : i ≠ p + 1 := by omega
  simp only [swapgs_mu, if_neg h1, if_neg h2, if_true]
  field_simp
  ring

theorem swapgs_lamk_exact {m n : Nat} {B : Nat → Nat → Int} {bs mu : Nat → Nat → ℚ} {det : Nat → Int}
    {lam : Nat → Nat → Int} (hD : IsGSData m n B bs mu det lam) {p : Nat} (hp : p + 1 < m)
    {i : Nat} (hi : i < m) (hpi : p + 1 < i) :
    (((lam i p * det (p + 1) - lam i (p + 1) * lam (p + 1) p).tdiv (det p) : ℤ) : ℚ)
      = gsP n (swapgs_bs n bs mu p) (p + 1 + 1) * swapgs_mu n bs mu p i (p + 1) := by
  have hpm : p < m := by omega
  refine tdiv_cast_eq (hD.det_ne_zero hpm) ((swapgs_isGS hD.gs hp).int_L i hi (p + 1) hpi) ?_
  rw [swapgs_gsP_ge hD.gs hp (p + 1 + 1) (by omega) (by omega)]
  push_cast
  rw [hD.det_eq_mul hpm, hD.det_eq_mul hp, hD.lam_eq_mul hp (Nat.lt_succ_self p),
    hD.lam_eq_mul hi (show p < i by omega), hD.lam_eq_mul hi hpi, gsP_succ, gsP_succ, gsP_succ]
  have h1 : i ≠ p := by omega
  have h2 : i ≠ p + 1 := by omega
  have hne : p + 1 ≠ p := by omega
  simp only [swapgs_mu, if_neg h1, if_neg h2, if_neg hne, if_true]
  ring

theorem swapgs_data {m n : Nat} {B : Nat → Nat → Int} {bs mu : Nat → Nat → ℚ} {det : Nat → Int}
    {lam : Nat → Nat → Int} (hD : IsGSData m n B bs mu det lam) {p : Nat} (hp : p + 1 < m)
    (d0 : Int) (hd0 : (d0 : ℚ) = gsP n bs p) (det' : Nat → Int) (lam' : Nat → Nat → Int)
    (hdet' : ∀ i < m, det' i =
      if i = p then (d0 * det (p + 1) + lam (p + 1) p * lam (p + 1) p).tdiv (det p) else det i)
    (hlam' : ∀ i < m, ∀ j < i, lam' i j =
      if p + 1 < i then
        (if j = p then (lam (p + 1) p * lam i p + lam i (p + 1) * d0).tdiv (det p)
         else if j = p + 1 then (lam i p * det (p + 1) - lam i (p + 1) * lam (p + 1) p).tdiv (det p)
         else lam i j)
      else if j < p then lam (if i = p then p + 1 else if i = p + 1 then p else i) j else lam i j) :
    IsGSData m n (fun r c => B (if r = p then p + 1 else if r = p + 1 then p else r) c)
      (swapgs_bs n bs mu p) (swapgs_mu n bs mu p) det' lam' := by
  have hpm : p < m := by omega
  have hne : p + 1 ≠ p := by omega
  refine ⟨swapgs_isGS hD.gs hp, ?_, ?_⟩
  · intro i hi
    rw [hdet' i hi]
    by_cases h1 : i = p
    · subst h1
      rw [if_pos rfl]
      exact swapgs_det_exact hD hp d0 hd0
    · rw [if_neg h1, hD.det_eq i hi]
      rcases Nat.lt_or_ge i p with hlt | hge
      · rw [swapgs_gsP_le hD.gs hp (by omega)]
      · rw [swapgs_gsP_ge hD.gs hp (i + 1) (by omega) (by omega)]
  · intro i hi j hj
    rw [hlam' i hi j hj]
    by_cases hik : p + 1 < i
    · rw [if_pos hik]
      have h1 : i ≠ p := by omega
      have h2 : i ≠ p + 1 := by omega
      by_cases hjp : j = p
      · subst hjp
        rw [if_pos rfl]
        exact swapgs_lamp_exact hD hp d0 hd0 hi hik
      · rw [if_neg hjp]
        by_cases hjk : j = p + 1
        · subst hjk
          rw [if_pos rfl]
          exact swapgs_lamk_exact hD hp hi hik
        · rw [if_neg hjk, hD.lam_eq i hi j hj]
          have emu : swapgs_mu n bs mu p i j = mu i j := by
            simp only [swapgs_mu, if_neg h1, if_neg h2, if_neg hjp, if_neg hjk]
          rw [emu]
          rcases Nat.lt_or_ge j p with hlt | hge
          · rw [swapgs_gsP_le hD.gs hp (by omega)]
          · rw [swapgs_gsP_ge hD.gs hp (j + 1) (by omega) (by omega)]
    · rw [if_neg hik]
      by_cases hjp : j < p
      · rw [if_pos hjp, swapgs_gsP_le hD.gs hp (by omega), swapgs_mu_lt n bs mu p i hjp]
        exact hD.lam_eq _ (by split_ifs <;> omega) j (by split_ifs <;> omega)
      · rw [if_neg hjp]
        have hi' : i = p + 1 := by omega
        have hj' : j = p := by omega
        subst hi' hj'
        rw [hD.lam_eq (j + 1) hp j (by omega), swapgs_gsP_p1 hD.gs hp, gsP_succ]
        have hN := ne_of_gt (swapgs_N_pos (mu := mu) hD.gs hp)
        simp only [swapgs_mu, if_neg hne, if_true, swapgs_nu]
        field_simp

theorem IsGSData.congr {m n : Nat} {B B2 : Nat → Nat → Int} {bs mu : Nat → Nat → ℚ} {det : Nat → Int}
    {lam : Nat → Nat → Int} (hD : IsGSData m n B bs mu det lam) (hB : ∀ r < m, ∀ c < n, B2 r c = B r c) :
    IsGSData m n B2 bs mu det lam := ⟨hD.gs.congr hB, hD.det_eq, hD.lam_eq⟩

theorem IsGSData.unique {m n : Nat} {B : Nat → Nat → Int} {bs mu bs' mu' : Nat → Nat → ℚ}
    {det det' : Nat → Int} {lam lam' : Nat → Nat → Int}
    (h : IsGSData m n B bs mu det lam) (h' : IsGSData m n B bs' mu' det' lam') :
    (∀ i < m, det i = det' i) ∧ (∀ i < m, ∀ j < i, lam i j = lam' i j) := by
  have hu := IsGS.unique h.gs h'.gs
  have hn : ∀ j < m, nrm n bs j = nrm n bs' j := by
    intro j hj
    unfold nrm
    exact Finset.sum_congr rfl (fun c hc => by rw [(hu j hj).1 c (mem_range.mp hc)])
  have hP : ∀ k ≤ m, gsP n bs k = gsP n bs' k :=
    fun k hk => gsP_congr n bs bs' k (fun j hj => hn j (by omega))
  constructor
  · intro i hi
    have := (h.det_eq i hi).trans ((hP (i + 1) (by omega)).trans (h'.det_eq i hi).symm)
    exact_mod_cast this
  · intro i hi j hj
    have e1 := h.lam_eq i hi j hj
    have e2 := h'.lam_eq i hi j hj
    rw [hP (j + 1) (by omega), (hu i hi).2 j hj] at e1
    exact_mod_cast e1.trans e2.symm

theorem IsGSData.mu_le_half {m n : Nat} {B : Nat → Nat → Int} {bs mu : Nat → Nat → ℚ} {det : Nat → Int}
    {lam : Nat → Nat → Int} (hD : IsGSData m n B bs mu det lam) {i j : Nat} (hi : i < m) (hj : j < i)
    (h : 2 * |lam i j| ≤ det j) : |mu i j| ≤ 1 / 2 := by
  have hP : 0 < gsP n bs (j + 1) := hD.gs.gsP_pos (j + 1) (by omega)
  have hq : 2 * |((lam i j : ℤ) : ℚ)| ≤ ((det j : ℤ) : ℚ) := by exact_mod_cast h
  rw [hD.det_eq j (by omega), hD.lam_eq i hi j hj, abs_mul, abs_of_pos hP] at hq
  have h3 : gsP n bs (j + 1) * (2 * |mu i j|) ≤ gsP n bs (j + 1) * 1 := by rw [mul_one, mul_left_comm]; exact hq
  exact (le_div_iff₀' two_pos).mpr (le_of_mul_le_mul_left h3 hP)

theorem IsGSData.lov_iff {m n : Nat} {B : Nat → Nat → Int} {bs mu : Nat → Nat → ℚ} {det : Nat → Int}
    {lam : Nat → Nat → Int} (hD : IsGSData m n B bs mu det lam) {k : Nat} (hk : 0 < k) (hkm : k < m) :
    3 * (det (k - 1) * det (k - 1))
        ≤ 4 * ((if k ≥ 2 then det (k - 2) else 1) * det k + lam k (k - 1) * lam k (k - 1)) ↔
      ((3 : ℚ) / 4 - mu k (k - 1) ^ 2) * nrm n bs (k - 1) ≤ nrm n bs k := by
  have c0 := hD.detPrev_eq hk hkm
  generalize (if k ≥ 2 then det (k - 2) else 1) = d0 at c0 ⊢
  have c1 := hD.det_eq_mul (show k - 1 < m by omega)
  have c2 : (det k : ℚ) = gsP n bs (k - 1) * nrm n bs (k - 1) * nrm n bs k := by
    rw [hD.det_eq k hkm, gsP_succ, ← c1, hD.det_eq (k - 1) (by omega), show k - 1 + 1 = k by omega]
  have cl := hD.lam_eq_mul hkm (show k - 1 < k by omega)
  have hP : 0 < gsP n bs (k - 1) := hD.gs.gsP_pos (k - 1) (by omega)
  have hN : 0 < nrm n bs (k - 1) := hD.gs.nrm_pos (by omega)
  rw [← Int.cast_le (R := ℚ)]
  push_cast
  rw [c0, c1, c2, cl]
  generalize gsP n bs (k - 1) = P at hP ⊢
  generalize nrm n bs (k - 1) = a at hN ⊢
  generalize nrm n bs k = c
  generalize mu k (k - 1) = t
  have key : 4 * (P * (P * a * c) + P * a * t * (P * a * t)) - 3 * (P * a * (P * a))
      = (4 * P ^ 2 * a) * (c - (3 / 4 - t ^ 2) * a) := by ring
  rw [← sub_nonneg, key, mul_nonneg_iff_of_pos_left (by positivity), sub_nonneg]

end Yuiv.C10
