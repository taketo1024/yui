import Yuiv.Proofs.KhSnfGInv
import Yuiv.Proofs.KhSnfDense
import Mathlib.Tactic.Ring
/-
KhSnf — the dense phase `denseDiag` (helper): every round `pivotStep` is a row swap, a column swap, a family of row
operations and a family of column operations on the live matrix, so it preserves the elimination invariant `GInv`;
finished levels stay finished; the pivot values strictly decrease along the unclean rounds of one level, so the fuel of
`levelLoop` (the absolute value of the first pivot) is never exhausted; at the end the live matrix is diagonal.
-/
namespace Yuiv.KhSnf
open Yuiv.KhRef Yuiv.C03Uct

/-- the levels `< t` of the dense matrix are finished: non-zero diagonal entry (recorded in `diag`), rest of the row and
of the column zero -/
structure Done (a : Array (Array Int)) (mr nc t : Nat) (diag : Array Int) : Prop where
  sz : diag.size = t
  le1 : t ≤ mr
  le2 : t ≤ nc
  dg : ∀ t', t' < t → afn a t' t' ≠ 0 ∧ diag[t']! = Int.ofNat (afn a t' t').natAbs
  off : ∀ k c, k < mr → c < nc → k ≠ c → (k < t ∨ c < t) → afn a k c = 0

variable {m n : Nat} {A : Matrix (Fin m) (Fin n) ℤ} {mr nc units : Nat}

theorem done_round {F G : Nat → Nat → Int} {mr nc t pi pj : Nat} {qr qc : Nat → Int}
    (ht : t < mr) (ht' : t < nc) (hpi : t ≤ pi) (hpi' : pi < mr) (hpj : t ≤ pj) (hpj' : pj < nc)
    (hqr : ∀ i, i ≤ t → qr i = 0) (hqc : ∀ j, j ≤ t → qc j = 0)
    (hform : ∀ i j, i < mr → j < nc →
      G i j = (F (sw pi t i) (sw pj t j) - qr i * F (sw pi t t) (sw pj t j)) -
        qc j * (F (sw pi t i) (sw pj t t) - qr i * F (sw pi t t) (sw pj t t)))
    (off : ∀ k c, k < mr → c < nc → k ≠ c → (k < t ∨ c < t) → F k c = 0) :
    (∀ k c, k < mr → c < nc → k ≠ c → (k < t ∨ c < t) → G k c = 0) ∧
    (∀ t', t' < t → G t' t' = F t' t') ∧ G t t = F pi pj := by
  have hswt : sw pi t t = pi := sw_self pi t
  have hswt' : sw pj t t = pj := sw_self pj t
  -- indices below `t` are not moved by the swaps
  have fix_i : ∀ t', t' < t → sw pi t t' = t' := fun t' h => sw_fix (by omega) (by omega)
  have fix_j : ∀ t', t' < t → sw pj t t' = t' := fun t' h => sw_fix (by omega) (by omega)
  refine ⟨fun k c hk hc hne h => ?_, fun t' h1 => ?_, ?_⟩
  · rw [hform k c hk hc]
    rcases h with h | h
    · rw [hqr k (by omega), fix_i k h]
      have e1 : F k (sw pj t c) = 0 := by
        refine off k _ hk (sw_lt hpj' ht' hc) (fun e => ?_) (Or.inl h)
        by_cases hc' : c < t
        · rw [fix_j c hc'] at e; exact hne e
        · have := sw_ge hpj (Nat.le_refl t) (by omega : t ≤ c); omega
      have e2 : F k (sw pj t t) = 0 := by
        rw [hswt']; exact off k pj hk hpj' (by omega) (Or.inl h)
      rw [e1, e2]; ring
    · rw [hqc c (by omega), fix_j c h]
      have e1 : F (sw pi t k) c = 0 := by
        refine off _ c (sw_lt hpi' ht hk) hc (fun e => ?_) (Or.inr h)
        by_cases hk' : k < t
        · rw [fix_i k hk'] at e; exact hne e
        · have := sw_ge hpi (Nat.le_refl t) (by omega : t ≤ k); omega
      have e2 : F (sw pi t t) c = 0 := by
        rw [hswt]; exact off pi c hpi' hc (by omega) (Or.inr h)
      rw [e1, e2]; ring
  · rw [hform t' t' (by omega) (by omega), hqr t' (by omega), hqc t' (by omega), fix_i t' h1, fix_j t' h1]
    ring
  · rw [hform t t ht ht', hqr t (Nat.le_refl t), hqc t (Nat.le_refl t), hswt, hswt']
    ring

theorem pivotStep_dstate {a : Array (Array Int)} {t pi pj : Nat} {diag : Array Int} (hS : Shape a mr nc)
    (hG : GInv m n A mr nc (afn a) units) (hD : Done a mr nc t diag) (ht : t < mr) (ht' : t < nc)
    (hpi : t ≤ pi) (hpi' : pi < mr) (hpj : t ≤ pj) (hpj' : pj < nc) (hpv : afn a pi pj ≠ 0) :
    Shape (pivotStep a t mr nc pi pj).1 mr nc ∧ GInv m n A mr nc (afn (pivotStep a t mr nc pi pj).1) units ∧
    Done (pivotStep a t mr nc pi pj).1 mr nc t diag ∧ (pivotStep a t mr nc pi pj).2.1 = afn a pi pj ∧
    ((pivotStep a t mr nc pi pj).2.2 = true →
      Done (pivotStep a t mr nc pi pj).1 mr nc (t + 1) (diag.push (Int.ofNat (afn a pi pj).natAbs))) ∧
    ((pivotStep a t mr nc pi pj).2.2 = false → ∃ i j, t ≤ i ∧ i < mr ∧ t ≤ j ∧ j < nc ∧
      afn (pivotStep a t mr nc pi pj).1 i j ≠ 0 ∧
      (afn (pivotStep a t mr nc pi pj).1 i j).natAbs < (afn a pi pj).natAbs) := by
  have hspec := pivotStep_spec hS hpi hpi' hpj hpj' hpv
  simp only at hspec
  obtain ⟨hS', hpv', qr, qc, hqr, hqc, hqcz, hform, hclean, hunclean⟩ := hspec
  generalize pivotStep a t mr nc pi pj = r at hS' hpv' hform hclean hunclean ⊢
  have hswt : sw pi t t = pi := sw_self pi t
  have hswt' : sw pj t t = pj := sw_self pj t
  -- the invariant through the four kinds of operations
  have g1 := ginv_rows mr (sw pi t) (fun p hp => sw_lt hpi' ht hp)
    (fun p p' _ _ e => by rw [← sw_sw pi t p, e, sw_sw]) (fun k hk hno => absurd (sw_sw pi t k) (hno _ (sw_lt hpi' ht hk))) hG
  have g2 := ginv_cols nc (sw pj t) (fun p hp => sw_lt hpj' ht' hp)
    (fun p p' _ _ e => by rw [← sw_sw pj t p, e, sw_sw]) (fun k hk hno => absurd (sw_sw pj t k) (hno _ (sw_lt hpj' ht' hk))) g1
  have g3 := ginv_rowOps t ht (fun k => -qr k) (by simp [hqr t (Nat.le_refl t)]) g2
  have g4 := ginv_colOps t ht' (fun c => -qc c) (by simp [hqc t (Nat.le_refl t)])
    ⟨t, ht, by
      show afn a (sw pi t t) (sw pj t t) + -qr t * afn a (sw pi t t) (sw pj t t) ≠ 0
      rw [hqr t (Nat.le_refl t), hswt, hswt']; simpa using hpv⟩
    (by
      intro c hc hz
      have h0 : afn a (sw pi t t) (sw pj t c) + -qr t * afn a (sw pi t t) (sw pj t c) = 0 := hz t ht
      rw [hqr t (Nat.le_refl t), hswt] at h0
      have : afn a pi (sw pj t c) = 0 := by simpa using h0
      rw [hqcz c this]; simp) g3
  have hG' : GInv m n A mr nc (afn r.1) units := by
    refine ginv_congr ?_ g4
    intro k c hk hc
    rw [hform k c hk hc]
    ring
  obtain ⟨old_off, old_dg, new_dg⟩ := done_round ht ht' hpi hpi' hpj hpj' hqr hqc hform hD.off
  have hD' : Done r.1 mr nc t diag :=
    ⟨hD.sz, hD.le1, hD.le2, fun t' h1 => by rw [old_dg t' h1]; exact hD.dg t' h1, old_off⟩
  refine ⟨hS', hG', hD', hpv', ?_, hunclean⟩
  intro hok
  obtain ⟨c1, c2⟩ := hclean hok
  refine ⟨by rw [Array.size_push, hD.sz], by omega, by omega, ?_, ?_⟩
  · intro t' h1
    by_cases h2 : t' < t
    · have := hD'.dg t' h2
      refine ⟨this.1, ?_⟩
      rw [getElem!_pos _ t' (by rw [Array.size_push, hD.sz]; omega), Array.getElem_push_lt (by rw [hD.sz]; exact h2),
        ← getElem!_pos diag t' (by rw [hD.sz]; exact h2)]
      exact this.2
    · have : t' = t := by omega
      subst this
      rw [new_dg]
      refine ⟨hpv, ?_⟩
      rw [getElem!_pos _ t' (by rw [Array.size_push, hD.sz]; omega)]
      have : t' = diag.size := hD.sz.symm
      subst this
      rw [Array.getElem_push_eq]
  · intro k c hk hc hne h
    by_cases h' : k < t ∨ c < t
    · exact old_off k c hk hc hne h'
    · -- one of `k`, `c` is `t`, the other one lies beyond
      rcases h with h | h
      · obtain rfl : k = t := by omega
        exact c2 c (by omega) hc
      · obtain rfl : c = t := by omega
        exact c1 k (by omega) hk

theorem levelLoop_spec {t : Nat} (ht : t < mr) (ht' : t < nc) : ∀ (fuel : Nat) (a : Array (Array Int)) (diag : Array Int)
    (v pi pj : Nat), Shape a mr nc → GInv m n A mr nc (afn a) units → Done a mr nc t diag →
    t ≤ pi → pi < mr → t ≤ pj → pj < nc → v = (afn a pi pj).natAbs → v ≠ 0 → v ≤ fuel →
    Shape (levelLoop fuel a t mr nc (v, pi, pj)).1 mr nc ∧
    GInv m n A mr nc (afn (levelLoop fuel a t mr nc (v, pi, pj)).1) units ∧
    (match (levelLoop fuel a t mr nc (v, pi, pj)).2 with
     | some d => Done (levelLoop fuel a t mr nc (v, pi, pj)).1 mr nc (t + 1) (diag.push d) ∧ 0 < d
     | none => Done (levelLoop fuel a t mr nc (v, pi, pj)).1 mr nc t diag ∧
        ∀ i j, t ≤ i → i < mr → t ≤ j → j < nc → afn (levelLoop fuel a t mr nc (v, pi, pj)).1 i j = 0) := by
  intro fuel
  induction fuel with
  | zero => intro a diag v pi pj _ _ _ _ _ _ _ _ hv hf; omega
  | succ fuel ih =>
    intro a diag v pi pj hS hG hD hpi hpi' hpj hpj' hv hv0 hf
    have hpv : afn a pi pj ≠ 0 := by
      intro e; rw [e] at hv; exact hv0 hv
    obtain ⟨s1, s2, s3, s4, s5, s6⟩ := pivotStep_dstate hS hG hD ht ht' hpi hpi' hpj hpj' hpv
    unfold levelLoop
    simp only
    by_cases hok : (pivotStep a t mr nc pi pj).2.2 = true
    · simp only [hok, if_true]
      refine ⟨s1, s2, ?_, ?_⟩
      · rw [s4]; exact s5 hok
      · rw [s4]
        have : (afn a pi pj).natAbs ≠ 0 := by rw [← hv]; exact hv0
        exact Int.natCast_pos.2 (Nat.pos_of_ne_zero this)
    · have hok' : (pivotStep a t mr nc pi pj).2.2 = false := by simpa using hok
      simp only [hok', Bool.false_eq_true, if_false]
      obtain ⟨i, j, w1, w2, w3, w4, w5, w6⟩ := s6 hok'
      cases hf' : findPivot (pivotStep a t mr nc pi pj).1 t mr nc with
      | none =>
        exact ⟨s1, s2, s3, findPivot_none hf'⟩
      | some p' =>
        obtain ⟨v', pi', pj'⟩ := p'
        obtain ⟨f1, f2, f3, f4, f5, f6, f7⟩ := findPivot_some hf'
        have hlt := f7 i j w1 w2 w3 w4 w5
        exact ih _ diag v' pi' pj' s1 s2 s3 f1 f2 f3 f4 f5 f6 (by omega)

/-- what the loops of `denseDiag` end in: the invariant, `r` finished levels with the positive diagonal `dg`, zero elsewhere -/
def DenseFinal (m n : Nat) (A : Matrix (Fin m) (Fin n) ℤ) (mr nc units : Nat) (dg : Array Int) : Prop :=
  ∃ (a : Array (Array Int)) (r : Nat), GInv m n A mr nc (afn a) units ∧ Done a mr nc r dg ∧
    (∀ k c, k < mr → c < nc → ¬ (k = c ∧ k < r) → afn a k c = 0) ∧ ∀ x ∈ dg.toList, 0 < x

theorem final_of_block {a : Array (Array Int)} {t : Nat} {diag : Array Int} (hD : Done a mr nc t diag)
    (hb : ∀ i j, t ≤ i → i < mr → t ≤ j → j < nc → afn a i j = 0) :
    ∀ k c, k < mr → c < nc → ¬ (k = c ∧ k < t) → afn a k c = 0 := by
  intro k c hk hc hn
  by_cases h : k < t ∨ c < t
  · exact hD.off k c hk hc (fun e => hn ⟨e, by omega⟩) h
  · exact hb k c (by omega) hk (by omega) hc

theorem denseLoop_spec : ∀ (fuel : Nat) (a : Array (Array Int)) (t : Nat) (diag : Array Int), Shape a mr nc →
    GInv m n A mr nc (afn a) units → Done a mr nc t diag → (∀ x ∈ diag.toList, 0 < x) → min mr nc + 1 ≤ fuel + t →
    DenseFinal m n A mr nc units (denseLoop fuel a t mr nc diag) := by
  intro fuel
  induction fuel with
  | zero =>
    intro a t diag _ _ hD _ hf
    have := hD.le1; have := hD.le2
    omega
  | succ fuel ih =>
    intro a t diag hS hG hD hpos hf
    unfold denseLoop
    by_cases hc : (decide (t < mr) && decide (t < nc)) = true
    · simp only [hc, if_true]
      simp only [Bool.and_eq_true, decide_eq_true_eq] at hc
      cases hp : findPivot a t mr nc with
      | none =>
        exact ⟨a, t, hG, hD, final_of_block hD (findPivot_none hp), hpos⟩
      | some p =>
        obtain ⟨v, pi, pj⟩ := p
        obtain ⟨f1, f2, f3, f4, f5, f6, _⟩ := findPivot_some hp
        obtain ⟨l1, l2, l3⟩ := levelLoop_spec hc.1 hc.2 v a diag v pi pj hS hG hD f1 f2 f3 f4 f5 f6 (Nat.le_refl v)
        simp only
        generalize levelLoop v a t mr nc (v, pi, pj) = res at l1 l2 l3
        obtain ⟨a', od⟩ := res
        cases od with
        | some d =>
          simp only at l1 l2 l3 ⊢
          refine ih a' (t + 1) (diag.push d) l1 l2 l3.1 ?_ (by omega)
          intro x hx
          rw [Array.toList_push, List.mem_append] at hx
          rcases hx with hx | hx
          · exact hpos x hx
          · simp at hx; subst hx; exact l3.2
        | none =>
          simp only at l1 l2 l3 ⊢
          exact ⟨a', t, l2, l3.1, final_of_block l3.1 l3.2, hpos⟩
    · simp only [hc]
      simp only [Bool.and_eq_true, decide_eq_true_eq, not_and_or, Nat.not_lt] at hc
      refine ⟨a, t, hG, hD, final_of_block hD ?_, hpos⟩
      intro i j h1 h2 h3 h4
      have := hD.le1; have := hD.le2
      rcases hc with hc | hc <;> omega

theorem done_zero (a : Array (Array Int)) : Done a mr nc 0 #[] :=
  ⟨rfl, Nat.zero_le _, Nat.zero_le _, fun _ h => absurd h (Nat.not_lt_zero _),
    fun _ _ _ _ _ h => h.elim (fun h => absurd h (Nat.not_lt_zero _)) (fun h => absurd h (Nat.not_lt_zero _))⟩

theorem denseDiag_equivDiag {a0 : Array (Array Int)} (hS : Shape a0 mr nc) (hG : GInv m n A mr nc (afn a0) units) :
    EquivDiag A (List.replicate units 1 ++ (denseDiag a0).toList) ∧ ∀ x ∈ (denseDiag a0).toList, 0 < x := by
  have key : DenseFinal m n A mr nc units (denseDiag a0) := by
    unfold denseDiag
    by_cases h0 : (a0.size == 0) = true
    · simp only [h0, if_true]
      have hmr : mr = 0 := by rw [← hS.1]; simpa using h0
      subst hmr
      exact ⟨a0, 0, hG, done_zero a0, fun k c hk => absurd hk (Nat.not_lt_zero _), by simp⟩
    · simp only [h0]
      have hmr : 0 < mr := by
        rw [← hS.1]
        have : a0.size ≠ 0 := by simpa using h0
        omega
      have e1 : a0.size = mr := hS.1
      have e2 : (a0[0]!).size = nc := hS.2 0 hmr
      rw [e1, e2]
      exact denseLoop_spec (min mr nc + 1) a0 0 #[] hS hG (done_zero a0) (by simp) (by omega)
  obtain ⟨a, r, hG', hD, hz, hpos⟩ := key
  refine ⟨?_, hpos⟩
  have hfin := ginv_final r hD.le1 hD.le2 (fun t => afn a t t) (fun t ht => (hD.dg t ht).1) (fun t _ => rfl) hz hG'
  have : (List.range r).map (fun t => (Int.ofNat (afn a t t).natAbs : ℤ)) = (denseDiag a0).toList := by
    apply List.ext_getElem
    · simp [hD.sz]
    · intro k h1 h2
      simp only [List.length_map, List.length_range] at h1
      simp only [List.getElem_map, List.getElem_range]
      have := (hD.dg k h1).2
      rw [getElem!_pos _ k (by rw [hD.sz]; exact h1)] at this
      simp only [Array.getElem_toList]
      exact this.symm
  rw [this] at hfin
  exact hfin

end Yuiv.KhSnf
