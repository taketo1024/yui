import Yuiv.Proofs.C05EngineDeloopDD
/-
C05 (engine) — (d): Gaussian elimination of the MODEL preserves `d ∘ d = 0`.

`E` is any (not necessarily commutative) ring of edge labels, `ops` any record of edge operations whose
`cab / sub / neg / isZero / inv` are the ring operations (`RingEdgeOps`).  `DD cx` says that for all keys `k, m` the
sum over ALL vertices `l` of `d(l → m) · d(k → l)` vanishes (`0` for missing edges).  Then one step
`TngComplex::eliminate(k0, k1)` of the model (graph bookkeeping included: which pairs are visited, removal of the pivots
and of their edges, dropping of zero labels) turns a well-formed complex with `d ∘ d = 0` into one with `d ∘ d = 0`.
This is `Props/C05Deloop.eliminate_step` for arbitrarily many neighbours, transported to the model.

NOT proved: that the real instance `lcOps h t` (stacking of cobordisms + `part_eval`) is such a ring-like algebra —
its composition is only partially defined (it panics on non-stackable cobordisms) and its associativity / bilinearity
would need functoriality of the structural model.
-/
namespace Yuiv.C05.Engine
open Yuiv Yuiv.C05

theorem eliminate_preserves_dd {E : Type} [Ring E] (ops : EdgeOps E) (hops : RingEdgeOps ops) (cx cx' : Cx E)
    (k0 k1 : TKey) (hwf : WF ops cx) (hdd : DD cx) (h : cx.eliminate ops k0 k1 = .ok cx') : DD cx' := by
  refine (DDV_id cx').1 (eliminate_ddV id ops hops.toVal cx cx' k0 k1 hwf ?_ ((DDV_id cx).2 hdd) h)
  intro a ainv _ hi
  obtain ⟨h1, h2⟩ := hops.inv a ainv hi
  simp only [id, h1, h2, mul_one, one_mul, implies_true, and_self]

/-- together with (c): a well-formed complex with `d ∘ d = 0` stays so under any sequence of eliminations -/
theorem eliminations_preserve_wf_and_dd {E : Type} [Ring E] (ops : EdgeOps E) (hops : RingEdgeOps ops) :
    ∀ (pivots : List (TKey × TKey)) (cx cx' : Cx E), WF ops cx → DD cx →
      foldRes (fun c p => c.eliminate ops p.1 p.2) pivots cx = .ok cx' → WF ops cx' ∧ DD cx' := by
  intro pivots cx cx' hwf hdd h
  refine foldRes_inv (fun c => WF ops c ∧ DD c) ?_ ⟨hwf, hdd⟩ h
  intro b p b' _ hb hstep
  exact ⟨wf_eliminate ops b b' p.1 p.2 hb.1 hstep, eliminate_preserves_dd ops hops b b' p.1 p.2 hb.1 hb.2 hstep⟩

/-- the toy algebra over ℤ is a `RingEdgeOps`, so the hypotheses are satisfiable … -/
example : RingEdgeOps toyOps where
  cab _ _ _ := rfl
  sub _ _ := rfl
  neg _ := rfl
  zero x h := by simpa [toyOps] using h
  inv a ainv h := by
    simp only [toyOps] at h
    split at h
    · rename_i hu
      cases h
      simp only [Bool.or_eq_true, beq_iff_eq] at hu
      rcases hu with rfl | rfl <;> decide
    · cases h

/-- … on a complex with composable edges: `u → {k0, l0} → {k1, l1}` with `a = 1, b = −2, c = 3, d = −6`,
`x = 2, y = 1` (`a·x + b·y = 0`, `c·x + d·y = 0`), pivot `a`. -/
example : (toyCube.eliminate toyOps ⟨[true, false], []⟩ ⟨[true, true], [.X]⟩).isOk = true ∧ WF toyOps toyCube := by
  refine ⟨by decide +kernel, ⟨by decide +kernel, by decide +kernel, by decide +kernel, by decide +kernel, by decide +kernel⟩⟩

/-- the step on that complex: the entry `l0 → l1` becomes `−6 − 3·1·(−2) = 0` and is dropped; `u → l0` survives -/
example : ∃ cx', toyCube.eliminate toyOps ⟨[true, false], []⟩ ⟨[true, true], [.X]⟩ = .ok cx' ∧
    cx'.edge? ⟨[false, true], []⟩ ⟨[true, true], [.I]⟩ = none ∧
    cx'.edge? ⟨[false, false], []⟩ ⟨[false, true], []⟩ = some 1 ∧ cx'.verts.length = 3 := by
  refine ⟨_, rfl, by decide +kernel, by decide +kernel, by decide +kernel⟩

/-- every entry of the complex after `deloop(k, r)`, in one formula: for keys other than the old `k`,
`d'(a → b) = L(b) · d(π a → π b) · R(a)` where `π` sends the new keys `k·X`, `k·1` to `k`, `L` is the cap glued on
edges into a new key (`cap(none)` for `k·X`, `cap(Y)` for `k·1`, `1` elsewhere) and `R` the cup glued under edges
out of it (`cup(X)`, `cup(none)`, `1`); nothing is left at `k`.  (`u = !based`: a circle through the base point has
only the `X` copy.)  This is the closed lookup formula for the composite
rename → duplicate → deloop_with → deloop_with. -/
theorem deloop_entries {E : Type} [Ring E] (ops : EdgeOps E) (cx cx' : Cx E) (k : TKey) (r : Nat) (upd : List TKey)
    (t : Tng.Tng) (c : Tng.Path) (cap cup : Tng.Dot → E) (hwf : WF ops cx) (ht : cx.tng? k = some t)
    (hc : t[r]? = some c) (hops : RingDeloopOps ops c cap cup) (h : cx.deloop ops k r = .ok (upd, cx')) (a b : TKey) :
    ent cx' a b =
      if a = k ∨ b = k then 0
      else dlL cap k (!cx.containsBase c) b * ent cx (dlPi k (!cx.containsBase c) a) (dlPi k (!cx.containsBase c) b)
            * dlR cup k (!cx.containsBase c) a := by
  simpa only [entV_id] using deloop_entV id ops cx cx' k r upd t c cap cup hwf ht hc hops.toVal h a b

/-- **`deloop` of the model preserves `d ∘ d = 0`**: edge labels in a ring, `cap_off(Tgt, c, dot)` = left
multiplication by `cap dot`, `cap_off(Src, c, dot)` = right multiplication by `cup dot` (for the circle `c` that is
delooped), and the copies decompose the identity of the delooped vertex:
`cup(X)·cap(none) + cup(none)·cap(Y) = 1` (`a = ε(a)·X + ε(aY)·1`, statement (2) of `Props/C05Deloop.deloop_iso`),
resp. `cup(X)·cap(none) = 1` for a circle through the base point (`deloop_iso_based`).  The new differential is the
old one conjugated by that decomposition, hence squares to zero. -/
theorem deloop_preserves_dd {E : Type} [Ring E] (ops : EdgeOps E) (cx cx' : Cx E) (k : TKey) (r : Nat)
    (upd : List TKey) (t : Tng.Tng) (c : Tng.Path) (cap cup : Tng.Dot → E) (hwf : WF ops cx)
    (ht : cx.tng? k = some t) (hc : t[r]? = some c) (hops : RingDeloopOps ops c cap cup)
    (hiso : if cx.containsBase c = true then cup .X * cap .none = 1
            else cup .X * cap .none + cup .none * cap .Y = 1)
    (hdd : DD cx) (h : cx.deloop ops k r = .ok (upd, cx')) : DD cx' :=
  (DDV_id cx').1 (deloop_ddV id ops cx cx' k r upd t c cap cup hwf ht hc hops.toVal
    (deloop_iso_local cx k c cap cup hiso) ((DDV_id cx).2 hdd) h)

/-- any script of `deloop` and `eliminate` steps keeps a well-formed complex with `d ∘ d = 0` such, provided the
edge operations are lawful for every circle (with the decomposition of the identity that fits its basedness) -/
theorem simplification_preserves_wf_and_dd {E : Type} [Ring E] (ops : EdgeOps E) (hops : RingEdgeOps ops)
    (base : Option Nat)
    (hdl : ∀ c : Tng.Path, ∃ cap cup : Tng.Dot → E, RingDeloopOps ops c cap cup ∧
      (if (match base with | some e => c.contains e | none => false) = true then cup .X * cap .none = 1
       else cup .X * cap .none + cup .none * cap .Y = 1)) :
    ∀ (steps : List (TKey × Nat ⊕ TKey × TKey)) (cx cx' : Cx E), cx.base = base → WF ops cx → DD cx →
      foldRes (fun c st => match st with
        | .inl (k, r) => (match c.deloop ops k r with | .ok (_, c') => .ok c' | .panic => .panic | .err => .err)
        | .inr (k0, k1) => c.eliminate ops k0 k1) steps cx = .ok cx' →
      cx'.base = base ∧ WF ops cx' ∧ DD cx' := by
  intro steps cx cx' hb hwf hdd h
  refine foldRes_inv (fun c => c.base = base ∧ WF ops c ∧ DD c) ?_ ⟨hb, hwf, hdd⟩ h
  intro b st b' _ hbI hstep
  obtain ⟨hb0, hw, hd⟩ := hbI
  rcases st with ⟨k, r⟩ | ⟨k0, k1⟩
  · obtain ⟨upd, hdl'⟩ := deloop_discard_ok ops b b' k r hstep
    obtain ⟨t, c, ht, hc, _, _⟩ := deloop_factors ops b _ k r upd hdl'
    obtain ⟨cap, cup, ho, hi⟩ := hdl c
    have hi := ite_containsBase_of_base b base c hb0 hi
    exact ⟨(deloop_verts ops b _ k r upd t c ht hc hdl').base.trans hb0, wf_deloop ops b _ k r upd hw hdl',
      deloop_preserves_dd ops b _ k r upd t c cap cup hw ht hc ho hi hd hdl'⟩
  · simp only at hstep
    exact ⟨((eliminate_verts ops b b' k0 k1 hstep).2.2.2.1).trans hb0, wf_eliminate ops b b' k0 k1 hw hstep,
      eliminate_preserves_dd ops hops b b' k0 k1 hw hd hstep⟩

/-- the hypotheses of `deloop_preserves_dd` are satisfiable (ℤ, `cap(none) = cup(X) = 1`, `cap(Y) = cup(none) = 0`)
and the model's `deloop` runs on a complex with a circle: the vertex splits into `k·X` and `k·1`, the incoming edge
`3` is kept on the `X` copy and dropped (zero) on the `1` copy -/
example : (∀ c, RingDeloopOps toyDlOps c (fun d => if d = .Y then 0 else 1) (fun d => if d = .none then 0 else 1)) ∧
    ((1 : Int) * 1 + 0 * 0 = 1) := by
  refine ⟨fun c => ⟨?_, ?_, ?_⟩, by decide⟩
  · intro d f; cases d <;> simp [toyDlOps]
  · intro d f; cases d <;> simp [toyDlOps]
  · intro x h; simpa [toyDlOps, toyOps] using h

example : ∃ cx', toyLoop.deloop toyDlOps ⟨[true], []⟩ 0 = .ok ([⟨[true], [.X]⟩, ⟨[true], [.I]⟩], cx') ∧
    cx'.edge? ⟨[false], []⟩ ⟨[true], [.X]⟩ = some 3 ∧ cx'.edge? ⟨[false], []⟩ ⟨[true], [.I]⟩ = none ∧
    cx'.verts.length = 3 ∧ WF toyDlOps toyLoop := by
  refine ⟨_, rfl, by decide +kernel, by decide +kernel, by decide +kernel, ⟨by decide +kernel, by decide +kernel, by decide +kernel, by decide +kernel, by decide +kernel⟩⟩

end Yuiv.C05.Engine
