import Mathlib.LinearAlgebra.Matrix.Rank
/-
C03Uct, part 1 — linear algebra used by the counting form of the universal coefficient theorem: the rank of a rectangular
"diagonal" matrix `rectDiag m n d` (what a Smith normal form looks like; Mathlib has the rank only of a square `Matrix.diagonal`
over a field), and unimodular equivalence `UEquiv` (`P * A * Q = B`, `det P`, `det Q` units): an equivalence relation that
transposition, re-enumeration of the bases and base change respect and that keeps the rank — used for `ℤ → ℚ` and `ℤ → ZMod p`.
-/
namespace Yuiv.C03Uct
open Matrix

def rectDiag {R : Type*} [Zero R] (m n : ℕ) (d : ℕ → R) : Matrix (Fin m) (Fin n) R :=
  Matrix.of fun i j => if i.val = j.val then d i.val else 0

@[simp] theorem rectDiag_apply {R : Type*} [Zero R] (m n : ℕ) (d : ℕ → R) (i : Fin m) (j : Fin n) :
    rectDiag m n d i j = if i.val = j.val then d i.val else 0 := rfl

theorem rectDiag_map {R S : Type*} [Zero R] [Zero S] (m n : ℕ) (d : ℕ → R) (f : R → S) (hf : f 0 = 0) :
    (rectDiag m n d).map f = rectDiag m n (fun k => f (d k)) := by
  ext i j
  simp only [map_apply, rectDiag_apply]
  split <;> simp [hf]

theorem rectDiag_square {R : Type*} [Zero R] (n : ℕ) (d : ℕ → R) :
    rectDiag n n d = Matrix.diagonal (fun i : Fin n => d i.val) := by
  ext i j
  simp only [rectDiag_apply, diagonal_apply, Fin.ext_iff]

theorem rank_rectDiag {K : Type*} [CommRing K] [IsDomain K] [DecidableEq K] (m n : ℕ) (d : ℕ → K) :
    (rectDiag m n d).rank = ((Finset.range (min m n)).filter (fun k => d k ≠ 0)).card := by
  set S := (Finset.range (min m n)).filter (fun k => d k ≠ 0) with hS
  have hSmem : ∀ k, k ∈ S ↔ (k < m ∧ k < n) ∧ d k ≠ 0 := by
    intro k; simp [hS]
  apply le_antisymm
  · -- a non-zero row has its number in `S`
    have hsub : Function.support (rectDiag m n d).row ⊆ ↑(Finset.univ.filter fun i : Fin m => i.val ∈ S) := by
      intro i hi
      simp only [Finset.coe_filter, Finset.mem_univ, true_and, Set.mem_ofPred_eq]
      by_contra hni
      apply hi
      funext j
      rw [row_apply, rectDiag_apply]
      split
      · rename_i hij
        by_contra hd
        exact hni ((hSmem _).2 ⟨⟨i.isLt, hij ▸ j.isLt⟩, hd⟩)
      · rfl
    refine (rank_le_card_of_support_subset _ _ hsub).trans ?_
    exact Finset.card_le_card_of_injOn Fin.val (by intro i hi; simpa using hi) Fin.val_injective.injOn
  · -- the rows and columns with numbers in `S` carry an invertible diagonal block
    have hsub : (rectDiag m n d).submatrix (fun k : S => (⟨k.val, ((hSmem _).1 k.2).1.1⟩ : Fin m))
        (fun k : S => (⟨k.val, ((hSmem _).1 k.2).1.2⟩ : Fin n)) = diagonal (fun k : S => d k.val) := by
      ext i j
      simp only [submatrix_apply, rectDiag_apply, diagonal_apply, Subtype.ext_iff]
    have := rank_submatrix_le (rectDiag m n d) (fun k : S => (⟨k.val, ((hSmem _).1 k.2).1.1⟩ : Fin m))
      (fun k : S => (⟨k.val, ((hSmem _).1 k.2).1.2⟩ : Fin n))
    rw [hsub, rank_of_det_ne_zero (by
      rw [det_diagonal]; exact Finset.prod_ne_zero_iff.2 (fun k _ => ((hSmem _).1 k.2).2))] at this
    rwa [Fintype.card_coe] at this

/-! ### unimodular equivalence -/

section
variable {R : Type*} [CommRing R] {m n : Type*} [Fintype m] [DecidableEq m] [Fintype n] [DecidableEq n]

/-- `B = P * A * Q` with `det P`, `det Q` units.  `KhSnf.Reach` is this relation over ℤ, and `EquivDiag A d` says that `A` is
related to `rectDiag d`. -/
def UEquiv (A B : Matrix m n R) : Prop :=
  ∃ (P : Matrix m m R) (Q : Matrix n n R), IsUnit P.det ∧ IsUnit Q.det ∧ P * A * Q = B

theorem UEquiv.refl (A : Matrix m n R) : UEquiv A A :=
  ⟨1, 1, by rw [det_one]; exact isUnit_one, by rw [det_one]; exact isUnit_one, by rw [Matrix.one_mul, Matrix.mul_one]⟩

theorem UEquiv.mul (A : Matrix m n R) {U : Matrix m m R} {V : Matrix n n R} (hU : IsUnit U.det) (hV : IsUnit V.det) :
    UEquiv A (U * A * V) := ⟨U, V, hU, hV, rfl⟩

/-- the form in which the code has the data: one-sided inverses given -/
theorem UEquiv.of_inverses {A B : Matrix m n R} {P Pi : Matrix m m R} {Q Qi : Matrix n n R}
    (hP : P * Pi = 1) (hQ : Q * Qi = 1) (h : P * A * Q = B) : UEquiv A B :=
  ⟨P, Q, isUnit_det_of_right_inverse hP, isUnit_det_of_right_inverse hQ, h⟩

theorem UEquiv.trans {A B C : Matrix m n R} (h1 : UEquiv A B) (h2 : UEquiv B C) : UEquiv A C := by
  obtain ⟨P, Q, hP, hQ, rfl⟩ := h1
  obtain ⟨P', Q', hP', hQ', rfl⟩ := h2
  refine ⟨P' * P, Q * Q', ?_, ?_, ?_⟩
  · rw [det_mul]; exact hP'.mul hP
  · rw [det_mul]; exact hQ.mul hQ'
  · simp only [Matrix.mul_assoc]

theorem UEquiv.symm {A B : Matrix m n R} (h : UEquiv A B) : UEquiv B A := by
  obtain ⟨P, Q, hP, hQ, rfl⟩ := h
  refine ⟨P⁻¹, Q⁻¹, isUnit_nonsing_inv_det P hP, isUnit_nonsing_inv_det Q hQ, ?_⟩
  rw [Matrix.mul_assoc P, ← Matrix.mul_assoc P⁻¹, nonsing_inv_mul P hP, Matrix.one_mul, Matrix.mul_assoc,
    mul_nonsing_inv Q hQ, Matrix.mul_one]

theorem UEquiv.transpose {A B : Matrix m n R} (h : UEquiv A B) : UEquiv Aᵀ Bᵀ := by
  obtain ⟨P, Q, hP, hQ, rfl⟩ := h
  exact ⟨Qᵀ, Pᵀ, isUnit_det_transpose Q hQ, isUnit_det_transpose P hP, by
    rw [transpose_mul, transpose_mul, Matrix.mul_assoc]⟩

/-- re-enumerating rows and columns: the factors are the re-enumerated identity matrices -/
theorem UEquiv.submatrix (A : Matrix m n R) (σ : m ≃ m) (τ : n ≃ n) : UEquiv A (A.submatrix σ τ) := by
  refine ⟨(1 : Matrix m m R).submatrix σ id, (1 : Matrix n n R).submatrix id τ, ?_, ?_, ?_⟩
  · apply isUnit_det_of_left_inverse (B := (1 : Matrix m m R).submatrix id σ)
    rw [submatrix_mul_equiv, Matrix.mul_one, submatrix_id_id]
  · apply isUnit_det_of_right_inverse (B := (1 : Matrix n n R).submatrix τ id)
    rw [submatrix_mul_equiv, Matrix.mul_one, submatrix_id_id]
  · change ((1 : Matrix m m R) * A * (1 : Matrix n n R)).submatrix σ τ = _
    rw [Matrix.one_mul, Matrix.mul_one]

theorem UEquiv.rank_eq {A B : Matrix m n R} (h : UEquiv A B) : A.rank = B.rank := by
  obtain ⟨P, Q, hP, hQ, rfl⟩ := h
  rw [rank_mul_eq_left_of_isUnit_det Q _ hQ, rank_mul_eq_right_of_isUnit_det P _ hP]

/-- base change along a ring homomorphism (units stay units) -/
theorem UEquiv.map {S : Type*} [CommRing S] (f : R →+* S) {A B : Matrix m n R} (h : UEquiv A B) :
    UEquiv (A.map f) (B.map f) := by
  obtain ⟨P, Q, hP, hQ, rfl⟩ := h
  refine ⟨P.map f, Q.map f, ?_, ?_, by rw [Matrix.map_mul, Matrix.map_mul]⟩
  · rw [← RingHom.mapMatrix_apply, ← RingHom.map_det]; exact hP.map f
  · rw [← RingHom.mapMatrix_apply, ← RingHom.map_det]; exact hQ.map f

end

end Yuiv.C03Uct
