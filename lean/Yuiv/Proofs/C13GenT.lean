import Yuiv.Gen.TransFn
import Yuiv.Proofs.Res
/-
Helper definitions and lemmas for `Yuiv/Props/C13GenT.lean`.

`Yuiv.GenTrans.*` is GENERATED from `/repo/yui-matrix/src/sparse/trans.rs` by `tools/rs2lean_fn.py fn:trans`; `C13.Trans.*`
(`Yuiv/Model/C13.lean`) is the hand-written model.  `ofT` embeds the model's `Trans R` into the generated structure
`TransS R` (field by field); `mapR` lifts it to results.
-/
namespace Yuiv.C13GenT
open Yuiv Res Yuiv.Rust Yuiv.C13

variable {R : Type}

section
variable [Zero R] [One R] [Add R] [Mul R] [Neg R] [DecidableEq R]
def ofT (t : Trans R) : GenTrans.TransS R := ⟨t.srcDim, t.tgtDim, t.fMats, t.bMats⟩
end

def mapR {β γ} (f : β → γ) : Res β → Res γ
  | .ok a => .ok (f a)
  | .panic => .panic
  | .err => .err

theorem mapR_ok {β γ} (f : β → γ) (a : β) : mapR f (ok a) = ok (f a) := rfl
theorem assert_true : Res.assert true = ok () := rfl
theorem assert_false : Res.assert false = (.panic : Res Unit) := rfl
theorem pure_eq_ok {β} (a : β) : (pure a : Res β) = ok a := rfl
theorem bind_mapR {β γ δ} (f : β → γ) (x : Res β) (g : γ → Res δ) : (mapR f x >>= g) = (x >>= fun a => g (f a)) := by
  cases x <;> rfl
theorem mapR_bind {α β γ} (f : β → γ) (x : Res α) (g : α → Res β) : mapR f (x >>= g) = (x >>= fun a => mapR f (g a)) := by
  cases x <;> rfl
theorem bind_ok_right {α} (x : Res α) : (x >>= fun a => ok a) = x := bind_pure x

theorem enum_eq {β : Type} (l : List β) : ∀ k, Sp.enumFrom k l = enumFrom' k l := by
  induction l with
  | nil => intro k; rfl
  | cons a l ih => intro k; simp [Sp.enumFrom, enumFrom', ih]

/-- `if v.len() == 1 { v[0] } else { fold }` is the model's `match v with | [x] => x | _ => fold` -/
theorem single_or (l : List (SpMat R)) (k : List (SpMat R) → Res (SpMat R)) :
    (if decide (l.length = 1) = true then Sp.list_get l 0 else k l) = (match l with | [f] => ok f | fs => k fs) := by
  match l with
  | [] => rfl
  | [f] => rfl
  | a :: b :: rest => simp

end Yuiv.C13GenT
