import Yuiv.Proofs.C19ConeDefs
import Yuiv.Proofs.C19CommMat
import Yuiv.Proofs.C19CommState
import Yuiv.Proofs.C01SqReduced
/-
C19Cone — `d∘d = 0 (mod 2)` of the cube of `mkICube`, in the count form used by `Props/C19Comm.icube_cone_is_complex`,
from the integer statement `Props/C01Sq.khref_d_squared_zero` (unreduced, all `h`, `t`) and its reduced form
`C01Sq.d_squared_zero_reduced_of` (`t = 0`, any base edge that is a label — `mkICube` bases the reduced theory at the
on-axis point `l.base`, not at the base edge of `mkCube`).
-/
namespace Yuiv.C19Cone
open Yuiv.KhRef Yuiv.C19 Yuiv.C06Cycle Yuiv.C19Inv Yuiv.C19Comm

theorem validKB_eq (l : Link) : validKB l = validK l := rfl

theorem edgeOKB_eq (cs cs' : Array (Array Nat)) : edgeOKB cs cs' = C02Mirror.edgeOK cs cs' := rfl

theorem cubeOKB_spec (c : Cube) (h : cubeOKB c = true) : C02Mirror.cubeOK c := by
  intro s hs k hk hb
  unfold cubeOKB at h
  have := (allBelow_spec _ _).1 ((allBelow_spec _ _).1 h s hs) k hk
  rw [hb, Bool.false_or, edgeOKB_eq] at this
  exact this

theorem parity_mul_step (g T C : Int) (a b : Nat) (hT : T % 2 = (a : Int) % 2) (hC : C % 2 = (b : Int) % 2) :
    (g * T + C) % 2 = ((if g % 2 = 0 then b else a + b : Nat) : Int) % 2 := by
  rw [Int.add_emod, Int.mul_emod, hT, hC]
  rcases Int.emod_two_eq_zero_or_one g with hg | hg
  · rw [if_pos hg, hg, Int.zero_mul, Int.zero_emod, Int.zero_add, Int.emod_emod]
  · rw [if_neg (by rw [hg]; decide), hg, Int.one_mul, Int.emod_emod, ← Int.add_emod, Nat.cast_add]

theorem parity_step (a T : Int) (c : Nat) (h : T % 2 = (c : Int) % 2) :
    (a + T) % 2 = ((if a % 2 = 0 then c else 1 + c : Nat) : Int) % 2 := by
  have := parity_mul_step a 1 T 1 c rfl h
  rwa [Int.mul_one] at this

theorem termSum_mod2 (y : Gen) (ts : List Term) : termSum y ts % 2 = (((oddSupp ts).count y : Nat) : Int) % 2 := by
  induction ts with
  | nil => rfl
  | cons t ts ih =>
    rw [HModel.termSum_cons, oddSupp_cons]
    by_cases e : (t.1 == y) = true
    · rw [if_pos e, parity_step _ _ _ ih]
      split
      · rfl
      · rw [List.count_cons, if_pos e, Nat.add_comm]
    · rw [if_neg e, Int.zero_add, ih]
      split
      · rfl
      · rw [List.count_cons, if_neg e, Nat.add_zero]

theorem chainSum_mod2 (D : Gen → List Term) (z : Yuiv.C06Canon.Chain) (y : Gen) :
    chainSum D z y % 2 = ((((oddSupp z).flatMap (fun g => oddSupp (D g))).count y : Nat) : Int) % 2 := by
  induction z with
  | nil => rfl
  | cons ga z ih =>
    rw [HModel.chainSum_cons, oddSupp_cons, parity_mul_step _ _ _ _ _ (termSum_mod2 y (D ga.1)) ih]
    split
    · rfl
    · rw [List.flatMap_cons, List.count_append]

theorem dsq_even_of_dOfChain (c : Cube) (p : Params) (g : Gen) (ts : Array Term) (hd : c.d p g = some ts)
    (hz : Yuiv.Drv.C06.dOfChain c p ts.toList = some []) (z : Gen) :
    ((dK c p g).flatMap (dK c p)).count z % 2 = 0 := by
  have h2 := ((dOfChain_nil_iff c p ts.toList).1 hz).2 z
  have := chainSum_mod2 (fun g' => ((c.d p g').getD #[]).toList) ts.toList z
  rw [h2] at this
  have e : (dK c p g).flatMap (dK c p) =
      (oddSupp ts.toList).flatMap (fun g' => oddSupp ((c.d p g').getD #[]).toList) := by
    unfold dK
    rw [hd]
    rfl
  rw [e]
  omega

theorem redOk_spec (l : InvLink) (p : Params) (h : redOk l p = true) (e : Nat) (hb : (icCube l p).base = some e) :
    p.t = 0 ∧ e ∈ edgeLabels l.link := by
  unfold redOk at h
  have hb' : (if p.reduced = true then l.base else none) = some e := hb
  cases hr : p.reduced with
  | false => rw [hr] at hb'; cases hb'
  | true =>
    rw [hr] at hb'
    simp only [if_true] at hb'
    rw [hr, hb'] at h
    simp only [Bool.not_true, Bool.false_or, Bool.and_eq_true, beq_iff_eq] at h
    exact ⟨h.1, Array.contains_iff_mem.1 h.2⟩

theorem icCube_dsq (l : InvLink) (p : Params) (hv : validK l.link = true) (hL : (edgeLabels l.link).size ≤ 64)
    (hok : C02Mirror.cubeOK (icCube l p)) (hred : redOk l p = true) (g : Gen) (hs : g.s < 2 ^ (icCube l p).n)
    (hg : baseKeep (icCube l p) g = true) :
    ∃ ts, (icCube l p).d p g = some ts ∧ Yuiv.Drv.C06.dOfChain (icCube l p) p ts.toList = some [] := by
  have hok' : C02Mirror.cubeOK (mkCube l.link p) := hok
  have hF : C01Sq.FaceComm (icCube l p) p := C01Sq.faceComm_mkCube l.link hv hL p hok'
  cases hb : (icCube l p).base with
  | none => exact C01Sq.d_squared_zero_of_faces (icCube l p) p hb hok hF g hs
  | some e =>
    obtain ⟨ht, he⟩ := redOk_spec l p hred e hb
    have hwf := C06Cycle.wf_of_validK l.link hv
    have H : C01Sq.RedHyp (icCube l p) (edgeLabels l.link) e := by
      refine ⟨hb, he, ?_, ?_⟩
      · intro s hs
        refine ⟨C04Inv.statePairs l.link s, ?_⟩
        show CirclesSpec _ _ (mkCube l.link p).circ[s]!
        rw [KhRef.mkCube_circ l.link p s hs]
        exact C06Cycle.circles_spec l.link hwf s
      · intro s s' hs hs'
        exact C02Mirror.cube_pair l.link p hL s s' hs hs'
    exact C01Sq.d_squared_zero_reduced_of H p ht hok hF g hs hg

theorem icube_dsq_even (l : InvLink) (p : Params) (ic : ICube) (hic : mkICube l p = some ic)
    (hv : validKB l.link = true) (hL : (edgeLabels l.link).size ≤ 64) (hok : C02Mirror.cubeOK ic.cube)
    (hred : redOk l p = true) (g : Gen) (hs : g.s < 2 ^ ic.cube.n) (hg : baseKeep ic.cube g = true) (z : Gen) :
    ((dK ic.cube p g).flatMap (dK ic.cube p)).count z % 2 = 0 := by
  obtain ⟨hc, _⟩ := mkICube_tst l p ic hic
  rw [hc] at hok hs hg ⊢
  obtain ⟨ts, hd, hz⟩ := icCube_dsq l p hv hL hok hred g hs hg
  exact dsq_even_of_dOfChain _ p g ts hd hz z

end Yuiv.C19Cone
