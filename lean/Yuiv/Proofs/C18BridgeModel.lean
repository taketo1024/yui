import Yuiv.Proofs.C18BridgeDefs
import Init.Internal.Order.While
/-
C18BridgeModel — the imperative reference code `KhRef.partner` / `KhRef.crossingSigns` (`Id.run do` with nested
`for` loops, mutable variables, a bounded `while go do` loop and early `return`s) equals, for ALL inputs, the
loop-free functional form `partnerF` / `signsF` of `Proofs/C18BridgeDefs.lean` (`partner_eq`, `crossingSigns_eq`).

Method: `crossingSigns` is first shown equal to a copy `Model.crossingSignsM` whose loop bodies are named functions
(definitional unfolding + one case split for the final `match`); `for` loops over ranges become `forIn` over
`List.range'` (`Std.Legacy.Range.forIn_eq_forIn_range'`) and then folds; the `while` loop is `Lean.Loop.forIn`,
unfolded one step at a time with `Lean.Loop.forIn_eq_of_monadTail` (instance `MonadTail Id`), by induction on
`fuel = 4·n − steps` (the loop ends by its own step bound, so no fuel is added).
Core Lean only; no hypotheses on the input (malformed links included).
-/
namespace Yuiv.C18Bridge
open Yuiv Yuiv.KhRef

namespace Model

theorem inner_find {α : Type} (p : Nat → Bool) (g : Nat → α) (ys : List Nat) :
    (forIn (m := Id) ys ((none : Option (Option α)), ()) fun j' _ =>
        if p j' = true then pure (ForInStep.done (some (some (g j')), ()))
        else pure (ForInStep.yield (none, ())))
      = pure ((ys.find? p).map (fun j => some (g j)), ()) := by
  induction ys with
  | nil => rfl
  | cons y ys ih =>
    rw [List.forIn_cons]
    by_cases h : p y = true
    · simp [h]
    · simp only [h, List.find?_cons]
      exact ih

theorem outer_find {β : Type} (q : Nat → Option β) (xs : List Nat)
    (body : Nat → Option β × Unit → Id (ForInStep (Option β × Unit)))
    (hbody : ∀ i' s, body i' s = match q i' with
          | some r => pure (ForInStep.done (some r, ()))
          | none => pure (ForInStep.yield (none, ()))) :
    forIn (m := Id) xs ((none : Option β), ()) body = pure (xs.findSome? q, ()) := by
  induction xs with
  | nil => rfl
  | cons y ys ih =>
    rw [List.forIn_cons, hbody]
    cases h : q y with
    | some r => simp [h]
    | none =>
      simp only [List.findSome?_cons, h]
      exact ih

end Model

theorem partner_eq (l : KhRef.Link) (i k : Nat) : KhRef.partner l i k = partnerF l i k := by
  unfold KhRef.partner partnerF allSlots
  simp only [Std.Legacy.Range.forIn_eq_forIn_range', Model.inner_find, pure_bind]
  rw [Model.outer_find (fun i' => Option.map (fun j => some (i', j))
                  (List.find? (fun j' => l[i']!.e[j']! == l[i]!.e[k]! && !(i' == i && j' == k))
                    (List.range' 0 [:4].size))) _ _ ?_]
  · simp only [pure_bind, List.find?_flatMap, List.find?_map, Std.Legacy.Range.size, List.range_eq_range']
    simp only [Nat.sub_zero, Nat.add_sub_cancel, Nat.div_one]
    generalize List.range' 0 l.size = xs
    induction xs with
    | nil => rfl
    | cons x xs ih =>
      simp only [List.findSome?_cons]
      simp only [Function.comp_def] at ih ⊢
      cases List.find? (fun j' => l[x]!.e[j']! == l[i]!.e[k]! && !(x == i && j' == k)) (List.range' 0 4) with
      | some r => rfl
      | none => exact ih
  · intro _ _; rfl

namespace Model

abbrev WS := Array Int × Array Nat × Bool × Nat × Nat × Nat × Bool
abbrev S3 := Array Int × Array Nat × Bool

def whileBody (l : Link) (i0 j0 : Nat) (_ : Unit) (s : WS) : Id (ForInStep WS) :=
  let sg := s.1
  let passed := s.2.1
  let bad := s.2.2.1
  let i := s.2.2.2.1
  let j := s.2.2.2.2.1
  let steps := s.2.2.2.2.2.1
  let go := s.2.2.2.2.2.2
  if go = true then
    if steps ≥ 4 * l.size then
      pure (ForInStep.yield (sg, passed, true, i, j, steps, false))
    else
      let steps := steps + 1
      let c := l[i]!
      let passed := passed.push c.e[j]!
      let jp := fun (sg : Array Int) =>
        let k := c.ct.pass j
        match partner l i k with
        | none => pure (ForInStep.yield (sg, passed.push (c.e[k]!), bad, i, j, steps, false))
        | some (i', j') =>
          if (i' == i0 && j' == j0) = true then pure (ForInStep.yield (sg, passed, bad, i, j, steps, false))
          else pure (ForInStep.yield (sg, passed, bad, i', j', steps, go))
      if (slotSign c.ct j != 0) = true then jp (sg.set! i (slotSign c.ct j)) else jp sg
  else pure (ForInStep.done (sg, passed, bad, i, j, steps, go))

def stepBody (l : Link) (j0 i0 : Nat) (s : S3) : Id (ForInStep S3) :=
  if (!s.2.1.contains l[i0]!.e[j0]!) = true then do
    let r ← forIn Lean.Loop.mk (s.1, s.2.1, s.2.2, i0, j0, 0, true) (whileBody l i0 j0)
    pure (ForInStep.yield (r.1, r.2.1, r.2.2.1))
  else pure (ForInStep.yield (s.1, s.2.1, s.2.2))

def passBody (l : Link) (j0 : Nat) (s : S3) : Id (ForInStep S3) :=
  if (j0 == 0 || (Array.range l.size).any fun i => !l[i]!.ct.isResolved && s.1[i]! == 0) = true then do
    let r ← forIn [:l.size] (s.1, s.2.1, s.2.2) (stepBody l j0)
    pure (ForInStep.yield (r.1, r.2.1, r.2.2))
  else pure (ForInStep.yield (s.1, s.2.1, s.2.2))

def outBody (l : Link) (sg : Array Int) (i : Nat) (s : Option (Option (Array Int)) × Array Int) :
    Id (ForInStep (Option (Option (Array Int)) × Array Int)) :=
  if (!l[i]!.ct.isResolved) = true then
    if (sg[i]! == 0) = true then pure (ForInStep.done (some none, s.2))
    else pure (ForInStep.yield (none, s.2.push sg[i]!))
  else pure (ForInStep.yield (none, s.2))

def crossingSignsM (l : Link) : Option (Array Int) := Id.run do
  let s ← forIn [0, 1, 2] ((Array.replicate l.size 0, #[], false) : S3) (passBody l)
  if s.2.2 = true then pure none
  else do
    let r ← forIn [:l.size] (none, #[]) (outBody l s.1)
    match r.1 with
    | some r => pure r
    | none => pure (some r.2)

theorem crossingSigns_eqM (l : Link) : KhRef.crossingSigns l = crossingSignsM l := by
  unfold KhRef.crossingSigns crossingSignsM
  show Id.run (forIn [0,1,2] _ _ >>= _) = Id.run (forIn [0,1,2] _ _ >>= _)
  congr 2
  funext s
  show (if _ then _ else (forIn [:l.size] _ _ >>= _)) = (if _ then _ else (forIn [:l.size] _ _ >>= _))
  congr 2
  funext r
  obtain ⟨a, b⟩ := r
  cases a <;> rfl

theorem loop_unfold (l : Link) (i0 j0 : Nat) (s : WS) :
    forIn (m := Id) Lean.Loop.mk s (whileBody l i0 j0) =
      (match whileBody l i0 j0 () s with
        | ForInStep.done v => v
        | ForInStep.yield v => forIn (m := Id) Lean.Loop.mk v (whileBody l i0 j0)) := by
  show Lean.Loop.forIn Lean.Loop.mk s (whileBody l i0 j0) = _
  rw [Lean.Loop.forIn_eq_of_monadTail]
  cases whileBody l i0 j0 () s <;> rfl

theorem loop_stop (l : Link) (i0 j0 : Nat) (sg : Array Int) (passed : Array Nat) (bad : Bool) (i j steps : Nat) :
    forIn (m := Id) Lean.Loop.mk (sg, passed, bad, i, j, steps, false) (whileBody l i0 j0)
      = (sg, passed, bad, i, j, steps, false) := by
  rw [loop_unfold]
  rfl

theorem whileBody_stop (l : Link) (i0 j0 : Nat) (sg : Array Int) (passed : Array Nat) (bad : Bool) (i j steps : Nat)
    (h : 4 * l.size ≤ steps) :
    whileBody l i0 j0 () (sg, passed, bad, i, j, steps, true)
      = ForInStep.yield (sg, passed, true, i, j, steps, false) := by
  simp only [whileBody, ge_iff_le, h, if_true]
  rfl

theorem whileBody_go (l : Link) (i0 j0 : Nat) (sg : Array Int) (passed : Array Nat) (bad : Bool) (i j steps : Nat)
    (h : steps < 4 * l.size) :
    whileBody l i0 j0 () (sg, passed, bad, i, j, steps, true)
      = (let c := l[i]!
         let passed' := passed.push (c.e[j]!)
         let sg' := if slotSign c.ct j != 0 then sg.set! i (slotSign c.ct j) else sg
         let k := c.ct.pass j
         match partnerF l i k with
         | none => ForInStep.yield (sg', passed'.push (c.e[k]!), bad, i, j, steps + 1, false)
         | some (i', j') =>
           if i' == i0 && j' == j0 then ForInStep.yield (sg', passed', bad, i, j, steps + 1, false)
           else ForInStep.yield (sg', passed', bad, i', j', steps + 1, true)) := by
  unfold whileBody
  rw [if_pos rfl, if_neg (Nat.not_le_of_lt h)]
  simp only [partner_eq]
  cases partnerF l i (l[i]!.ct.pass j) with
  | none => cases (slotSign l[i]!.ct j != 0) <;> rfl
  | some p => cases (slotSign l[i]!.ct j != 0) <;> rfl

theorem loop_go (l : Link) (i0 j0 : Nat) : ∀ (fuel : Nat) (sg : Array Int) (passed : Array Nat) (bad : Bool)
    (i j steps : Nat), fuel + steps = 4 * l.size →
    let r := forIn (m := Id) Lean.Loop.mk (sg, passed, bad, i, j, steps, true) (whileBody l i0 j0)
    let w := walkF l i0 j0 fuel i j (sg, passed)
    (r.1, r.2.1, r.2.2.1) = (w.1.1, w.1.2, (bad || w.2)) := by
  intro fuel
  induction fuel with
  | zero =>
    intro sg passed bad i j steps h
    simp only
    rw [loop_unfold, whileBody_stop _ _ _ _ _ _ _ _ _ (Nat.le_of_eq (by rw [← h, Nat.zero_add]))]
    simp only [loop_stop, walkF, Bool.or_true]
  | succ fuel ih =>
    intro sg passed bad i j steps h
    have hsteps : steps < 4 * l.size ∧ fuel + (steps + 1) = 4 * l.size := by omega
    simp only
    rw [loop_unfold, whileBody_go _ _ _ _ _ _ _ _ _ hsteps.1]
    simp only [walkF]
    cases hp : partnerF l i (l[i]!.ct.pass j) with
    | none => simp only [loop_stop, Bool.or_false]
    | some p =>
      obtain ⟨i', j'⟩ := p
      simp only
      by_cases hc : (i' == i0 && j' == j0) = true
      · simp only [hc, if_true, loop_stop, Bool.or_false]
      · simp only [hc]
        exact ih _ _ _ _ _ _ hsteps.2

def cv (s : S3) : (Array Int × Array Nat) × Bool := ((s.1, s.2.1), s.2.2)
def un (t : (Array Int × Array Nat) × Bool) : S3 := (t.1.1, t.1.2, t.2)

theorem forIn_fold (f : (Array Int × Array Nat) × Bool → Nat → (Array Int × Array Nat) × Bool)
    (body : Nat → S3 → Id (ForInStep S3))
    (hb : ∀ a s, body a s = ForInStep.yield (un (f (cv s) a))) (xs : List Nat) (s : S3) :
    forIn (m := Id) xs s body = un (xs.foldl f (cv s)) := by
  induction xs generalizing s with
  | nil => rfl
  | cons x xs ih =>
    rw [List.forIn_cons, hb]
    simp only [List.foldl_cons]
    exact ih _

theorem stepBody_eq (l : Link) (j0 i0 : Nat) (s : S3) :
    stepBody l j0 i0 s = ForInStep.yield (un (stepF l j0 (cv s) i0)) := by
  unfold stepBody stepF
  by_cases h : (!s.2.1.contains l[i0]!.e[j0]!) = true
  · simp only [h, if_true, cv]
    have := loop_go l i0 j0 (4 * l.size) s.1 s.2.1 s.2.2 i0 j0 0 (Nat.add_zero _)
    simp only at this
    show ForInStep.yield _ = _
    rw [this]
    rfl
  · simp only [h, cv]
    rfl

theorem passBody_eq (l : Link) (j0 : Nat) (s : S3) :
    passBody l j0 s = ForInStep.yield (un (passF l (cv s) j0)) := by
  unfold passBody passF needF
  by_cases h : (j0 == 0 || (Array.range l.size).any fun i => !l[i]!.ct.isResolved && s.1[i]! == 0) = true
  · have h' : (j0 == 0 || (Array.range l.size).any fun i => !l[i]!.ct.isResolved && (cv s).1.1[i]! == 0) = true := h
    simp only [h, h', if_true, Std.Legacy.Range.forIn_eq_forIn_range', Std.Legacy.Range.size]
    rw [forIn_fold (stepF l j0) _ (stepBody_eq l j0)]
    simp only [Nat.sub_zero, Nat.add_sub_cancel, Nat.div_one, List.range_eq_range']
    rfl
  · have h' : ¬ (j0 == 0 || (Array.range l.size).any fun i => !l[i]!.ct.isResolved && (cv s).1.1[i]! == 0) = true := h
    simp only [h, h']
    rfl

theorem out_eq (l : Link) (sg : Array Int) (xs : List Nat) (out : Array Int) :
    (match (forIn (m := Id) xs (none, out) (outBody l sg)).1 with
      | some r => r
      | none => some (forIn (m := Id) xs (none, out) (outBody l sg)).2)
    = xs.foldlM (fun out i =>
        if l[i]!.ct.isResolved then some out else if sg[i]! == 0 then none else some (out.push sg[i]!)) out := by
  induction xs generalizing out with
  | nil => rfl
  | cons x xs ih =>
    rw [List.forIn_cons, List.foldlM_cons]
    unfold outBody
    cases h1 : l[x]!.ct.isResolved
    · by_cases h2 : (sg[x]! == 0) = true
      · simp only [h2]
        rfl
      · simp only [h2]
        exact ih _
    · exact ih _

theorem crossingSignsM_eq (l : Link) : crossingSignsM l = signsF l := by
  unfold crossingSignsM signsF runF outF
  rw [forIn_fold (passF l) _ (passBody_eq l)]
  simp only [Std.Legacy.Range.forIn_eq_forIn_range', Std.Legacy.Range.size, Nat.sub_zero, Nat.add_sub_cancel,
    Nat.div_one, List.range_eq_range']
  have hcv : cv (Array.replicate (Array.size l) 0, #[], false) = ((Array.replicate (Array.size l) 0, #[]), false) := rfl
  rw [hcv]
  generalize List.foldl (passF l) ((Array.replicate (Array.size l) 0, #[]), false) [0, 1, 2] = t
  obtain ⟨⟨sg, passed⟩, bad⟩ := t
  cases bad
  · exact out_eq l sg _ _
  · rfl

end Model

theorem crossingSigns_eq (l : KhRef.Link) : KhRef.crossingSigns l = signsF l :=
  (Model.crossingSigns_eqM l).trans (Model.crossingSignsM_eq l)

theorem outF_fold (l : Link) (sg : Array Int) (is : List Nat) (acc out : Array Int)
    (h : is.foldlM (fun out i =>
      if l[i]!.ct.isResolved then some out else if sg[i]! == 0 then none else some (out.push sg[i]!)) acc = some out) :
    out.size = acc.size + (is.filter (fun i => !l[i]!.ct.isResolved)).length ∧
      ((∀ x ∈ acc, x ≠ 0) → ∀ x ∈ out, x ≠ 0) := by
  induction is generalizing acc with
  | nil =>
    simp only [List.foldlM_nil] at h
    cases h
    exact ⟨by simp, fun h => h⟩
  | cons i is ih =>
    rw [List.foldlM_cons] at h
    cases hr : l[i]!.ct.isResolved
    · simp only [hr, Bool.false_eq_true, if_false] at h
      by_cases hz : (sg[i]! == 0) = true
      · simp [hz] at h
      · simp only [hz, Option.bind_eq_bind] at h
        obtain ⟨h1, h2⟩ := ih _ h
        refine ⟨?_, fun hacc => h2 ?_⟩
        · rw [h1, List.filter_cons]; simp [hr]; omega
        · intro x hx
          rcases Array.mem_push.1 hx with hx | rfl
          · exact hacc x hx
          · simpa using hz
    · simp only [hr, if_true, Option.bind_eq_bind, Option.bind_some] at h
      obtain ⟨h1, h2⟩ := ih _ h
      refine ⟨?_, h2⟩
      rw [h1, List.filter_cons]; simp [hr]

theorem range_map_getElem! (l : Link) : (List.range l.size).map (fun i => l[i]!) = l.toList := by
  apply List.ext_getElem
  · simp
  · intro i h1 h2
    simp at h1 h2
    simp [getElem!_pos, h1]

theorem filter_size {α : Type} (p : α → Bool) (a : Array α) : (a.filter p).size = (a.toList.filter p).length := by
  rw [← Array.toList_filter, Array.length_toList]

theorem count_unresolved (l : Link) :
    ((List.range l.size).filter (fun i => !l[i]!.ct.isResolved)).length = crossingNum l := by
  unfold crossingNum
  rw [filter_size, ← range_map_getElem! l, List.filter_map, List.length_map]
  rfl

theorem crossingSigns_out (l : KhRef.Link) (sg : Array Int) (h : KhRef.crossingSigns l = some sg) :
    sg.size = KhRef.crossingNum l ∧ ∀ x ∈ sg, x ≠ 0 := by
  rw [crossingSigns_eq] at h
  unfold signsF at h
  simp only at h
  split at h
  · cases h
  · unfold outF at h
    obtain ⟨h1, h2⟩ := outF_fold l _ _ _ _ h
    refine ⟨?_, h2 (by simp)⟩
    rw [h1, count_unresolved]
    simp

end Yuiv.C18Bridge
