import Yuiv.Props.SnfUnique
import Yuiv.Props.C07Full
/-
C07 — the homology invariants are UNIQUELY DETERMINED by `(d1, d2)`.

`C07.calculate_end_to_end` (Props/C07Full.lean) proves that the composite code model returns `rank = n − rank d1 − rank d2`
and `tors` = the non-unit entries on the Smith diagonal which the library's SNF computes for `d1`.  With the uniqueness of
the Smith normal form over ℤ (Props/SnfUnique.lean) the torsion list does not depend on "the diagonal the code happens
to find": it is the list of non-unit entries of EVERY normalised Smith form of `d1`.
-/
namespace Yuiv.C07
open Matrix Yuiv Yuiv.SnfUnique

/-- For `d2·d1 = 0` there is a fuel bound `N` and ONE pair `(rank, tors)` such that for every
`fuel ≥ N` the code model of `HomologyCalc::calculate` on the code model of the library's SNF returns `(rank, tors, _)`, and

* `rank + rank(d1) + rank(d2) = n` with `Matrix.rank` (so `rank` is a function of `d1, d2` alone);
* for EVERY normalised Smith normal form `T` of `d1` in the framework's sense (`C09.IsSnfOf`: `P·d1·Q = T` with invertible
  `P`, `Q`, `T` diagonal with non-negative entries `t_0 ∣ t_1 ∣ …`) `tors` is the list of entries `≠ 0, 1` of its diagonal;
* the same for every Smith form `D = U·d1·V` given as Mathlib matrices with `IsUnit U.det`, `IsUnit V.det`. -/
theorem homology_invariants_unique (d1 d2 : Mat) (hsh : d2.c = d1.r)
    (hdd : d2.toM d2.r d1.r * d1.toM d1.r d1.c = 0) :
    ∃ (N rank : Nat) (tors : List Int),
      (∀ fuel, N ≤ fuel → ∃ T, calculate (snfC09 fuel) d1 d2 true = .ok (rank, tors, some T)) ∧
      rank + (d1.toM d1.r d1.c).rank + (d2.toM d2.r d1.r).rank = d1.r ∧
      (∀ T : C09.Mat Int d1.r d1.c, C09.IsSnfOf (toC09 d1) T →
        tors = (C09.diagL T).filter (fun a => a != 0 && a != 1)) ∧
      (∀ (D : Matrix (Fin d1.r) (Fin d1.c) ℤ) (U : Matrix (Fin d1.r) (Fin d1.r) ℤ) (V : Matrix (Fin d1.c) (Fin d1.c) ℤ),
        IsUnit U.det → IsUnit V.det → IsSmith D → (∀ k, 0 ≤ dgM D k) → U * d1.toM d1.r d1.c * V = D →
        tors = ((List.range (min d1.r d1.c)).map (dgM D)).filter (fun a => a != 0 && a != 1)) := by
  obtain ⟨N, st1, st2, rank, tors, T, P, Q, h1, _, hc, _, _, hr, hr1, hr2, ht, _⟩ :=
    calculate_end_to_end d1 d2 hsh hdd
  have hs1 : C09.IsSnfOf (toC09 d1) st1.t :=
    ⟨st1.p, st1.pinv, st1.q, st1.qinv, C09.snf_correct N (toC09 d1) st1 (h1 N (Nat.le_refl _))⟩
  refine ⟨N, rank, tors, fun fuel hf => ⟨T, hc fuel hf⟩, by omega, ?_, ?_⟩
  · intro T' hT'
    rw [ht, nonUnitFactors, (C09.snf_diag_unique (toC09 d1) st1.t T' hs1 hT').1]
  · intro D U V hU hV hD hn hA
    rw [ht, nonUnitFactors,
      (C09.snf_eq_any_smith_form (toC09 d1) st1.t hs1 D U V hU hV hD hn (by rw [toC09_toM]; exact hA)).2]

/-- the hypotheses are satisfiable non-trivially: `d1 = [[2,0,0],[2,6,0],[0,0,0],[0,0,0]]`, `d2 = (0,0,0,1)`, `d2·d1 = 0`
(`H = ℤ ⊕ ℤ/2 ⊕ ℤ/6`, see Props/C07Full.lean) -/
example : prodZero 0 ⟨1, 4, #[0, 0, 0, 1]⟩ ⟨4, 3, #[2, 0, 0, 2, 6, 0, 0, 0, 0, 0, 0, 0]⟩ = true := by decide +kernel

end Yuiv.C07
