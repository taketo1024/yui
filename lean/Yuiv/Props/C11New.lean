import Yuiv.Proofs.C11New
import Yuiv.Props.C11
/-
C11 — closing the gap "`Str.WF` is not proved of `MatrixStr::new`".

Objects:
  `Csc`            the CSC storage of the input `SpMat<R>` (per column the stored `(row, value)` pairs, stored zeros
                   allowed); a value is the record `Scl` of what `MatrixStr::new` observes of it
                   (`is_zero`, `is_pm_one`, `is_unit`, `c_weight`)
  `Csc.Valid`      nalgebra's CSC invariant: row indices of every column strictly increasing and `< nrows`
  `matrixStrNew`   code model of `MatrixStr::new(a, piv_type, pivot_cond)` (`Model/C11New.lean`): the triplet loop with the
                   `is_zero` skip, the index swap for `PivotType::Cols` (the code does not transpose), the pushes, the
                   weight sums and the `PivotCondition` test; an index out of range is `Res.panic`
  `a.Stored i j r` a non-zero value `r` is stored at position `(i, j)` of the matrix
Everything downstream (`initState`, `run`, `result`, `PInv`, `Triangular`) is the unchanged model of `Props/C11.lean`.
-/
namespace Yuiv.C11
open Yuiv Res

/-- `MatrixStr::new` never panics on a valid CSC matrix and returns a well-formed structure of the right shape, for
both pivot types and every pivot condition: the hypothesis `s.WF` of all theorems of `Props/C11.lean` holds of the
structure the code builds -/
theorem matrixStrNew_wf (a : Csc) (ha : a.Valid) (t : PivType) (c : Cond) :
    ∃ s, matrixStrNew a t c = ok s ∧ s.WF ∧ s.nrows = (t.shape a).1 ∧ s.ncols = (t.shape a).2 := by
  obtain ⟨s, e, hwf, _, hn, hm, _⟩ := matrixStrNew_spec a ha t c
  exact ⟨s, e, hwf, hn, hm⟩

/-- what the tables contain, in terms of the matrix (internal row `i`, internal column `j`; `t.swap` maps back to
matrix coordinates): `entries[i]` holds exactly the columns with a stored NON-ZERO value, strictly increasing;
`cands[i]` exactly those whose value satisfies the pivot condition; the weights are the sums of `c_weight` over the
non-zero entries of the row / column -/
theorem matrixStrNew_tables (a : Csc) (ha : a.Valid) (t : PivType) (c : Cond) (s : Str)
    (hs : matrixStrNew a t c = ok s) :
    (∀ i, (colsIn s i).Pairwise (· < ·)) ∧
    (∀ i j, j ∈ colsIn s i ↔ ∃ r, a.Stored (t.swap i j).1 (t.swap i j).2 r) ∧
    (∀ i j, isCand s i j = true ↔ ∃ r, a.Stored (t.swap i j).1 (t.swap i j).2 r ∧ c.isCand r = true) ∧
    (∀ i, s.rowW.getD i 0 = rowWOf (exportEntries a t c) i) ∧
    (∀ j, s.colW.getD j 0 = colWOf (exportEntries a t c) j) := by
  obtain ⟨s', e, hwf, _, _, _, h1, h2, h3, h4⟩ := matrixStrNew_spec a ha t c
  rw [hs] at e; cases e
  refine ⟨hwf.1, ?_, ?_, h3, h4⟩
  · intro i j; rw [h1, mem_entOf_iff]
  · intro i j; rw [h2, mem_cndOf_iff]

/-- the model of `MatrixStr::new` IS `Str.build` — the function the driver applies to the tuple list `(i j w c)*` of a
`trace` request — on the tuples `exportEntries` derives from the raw storage (by definition; stated so that it stays so) -/
theorem matrixStrNew_eq_build (a : Csc) (t : PivType) (c : Cond) :
    matrixStrNew a t c = Str.build (t.shape a).1 (t.shape a).2 (exportEntries a t c) := rfl

/-- the loop of `MatrixStr::new` in isolation: tuples with indices in range never make it panic -/
theorem pushAll_no_panic (m n : Nat) (es : List (Nat × Nat × Nat × Bool))
    (h : ∀ e ∈ es, e.1 < m ∧ e.2.1 < n) : ∃ s, Str.build m n es = ok s ∧ s.nrows = m ∧ s.ncols = n := by
  obtain ⟨s, e, _, hn, hm, _⟩ := pushAll_spec es (Str.empty m n) (Str.empty_sized m n) h
  exact ⟨s, e, hn, hm⟩

/-- COMPOSED MAIN THEOREM.  For every valid CSC matrix, pivot type and pivot condition: `MatrixStr::new` succeeds, the
sequential phases succeed, and then for EVERY schedule `acts` of the parallel phase (any number of workers, any
interleaving, stale snapshots): no step panics; the shared table reached has distinct rows, distinct columns, candidate
entries only and is acyclic; and `result()` with any hash-map iteration order `keys` returns a permutation of it in a
triangular order.  No hypothesis on the structure is left. -/
theorem find_pivots_acyclic_of_matrix (a : Csc) (ha : a.Valid) (t : PivType) (c : Cond) :
    ∃ s st0, matrixStrNew a t c = ok s ∧ initState s = ok st0 ∧
      ∀ acts : List Act, run s st0 acts ≠ panic ∧
        ∀ st os, run s st0 acts = ok (st, os) →
          PInv s st.S ∧
          ∀ keys : List Nat, keys.Perm (st.S.map (·.2)) →
            ∃ L, result s st.S keys = ok L ∧ L.Perm st.S ∧ PInv s L ∧ Triangular s L := by
  obtain ⟨s, e, hwf, _, _⟩ := matrixStrNew_wf a ha t c
  obtain ⟨st0, h0, _⟩ := sat_total.1 (initState_total s hwf)
  refine ⟨s, st0, e, h0, fun acts => ?_⟩
  have hp := par_invariant s hwf st0 h0 acts
  refine ⟨hp.1, fun st os hr => ?_⟩
  obtain ⟨hpinv, _⟩ := hp.2 st os hr
  refine ⟨hpinv, fun keys hk => ?_⟩
  obtain ⟨L, hL, hperm, htri⟩ := kahn_complete s hwf st.S hpinv keys hk
  exact ⟨L, hL, hperm, hpinv.perm hperm.symm, htri⟩

/-- the same at the level of the MATRIX.  Let `L` be any list the model's `result()` returns after any schedule, and
`P = L.map t.swap` the pivot positions in matrix coordinates (what `find_pivots` returns).  Then the rows of `P` are
pairwise distinct, the columns are pairwise distinct, every pivot is a stored non-zero value satisfying the pivot
condition, and for two pivots `p` before `q` in the list no non-zero value is stored at
`(row q, col p)` for `Rows` — the permuted leading block is upper triangular — resp. at `(row p, col q)` for `Cols`
— lower triangular. -/
theorem find_pivots_triangular_in_matrix (a : Csc) (ha : a.Valid) (t : PivType) (c : Cond)
    (s : Str) (hs : matrixStrNew a t c = ok s) (st0 : State) (h0 : initState s = ok st0)
    (acts : List Act) (st : State) (os : List Outcome) (hr : run s st0 acts = ok (st, os))
    (keys : List Nat) (hk : keys.Perm (st.S.map (·.2))) :
    ∃ L, result s st.S keys = ok L ∧
      (L.map (·.1)).Nodup ∧ (L.map (·.2)).Nodup ∧
      (∀ p ∈ L, ∃ r, a.Stored (t.swap p.1 p.2).1 (t.swap p.1 p.2).2 r ∧ c.isCand r = true) ∧
      L.Pairwise (fun p q => ∀ r, ¬ a.Stored (t.swap q.1 p.2).1 (t.swap q.1 p.2).2 r) := by
  obtain ⟨s', e, hwf, _, _⟩ := matrixStrNew_wf a ha t c
  rw [hs] at e; cases e
  obtain ⟨_, htab, hcnd, _, _⟩ := matrixStrNew_tables a ha t c s hs
  obtain ⟨L, hL, hpinv, htri⟩ := find_pivots_correct s hwf st0 h0 acts st os hr keys hk
  refine ⟨L, hL, hpinv.rows, hpinv.cols, fun p hp => (hcnd p.1 p.2).1 (hpinv.cand p hp), ?_⟩
  refine List.Pairwise.imp ?_ htri
  intro p q hnot r hst
  exact hnot ((htab q.1 p.2).2 ⟨r, hst⟩)

def sOne : Scl := ⟨false, true, true, 1⟩      -- the scalar `1` (or `-1`)
def sTwo : Scl := ⟨false, false, false, 2⟩    -- the integer `2`: non-zero, not a unit
def sZero : Scl := ⟨true, false, false, 0⟩    -- a stored zero

/-- the 4×3 matrix of `exStr` (rows `[0] [1,2] [0,2] [0,2]`, two rows racing for column 2) in CSC form, with one entry
replaced by a non-candidate `2` and one stored zero added -/
def exCsc : Csc :=
  ⟨4, 3, #[[(0, sOne), (1, sZero), (2, sOne), (3, sOne)], [(1, sOne)], [(1, sTwo), (2, sOne), (3, sOne)]]⟩

/-- the hypothesis `a.Valid` is satisfiable by a matrix with racing rows, a stored zero and a non-candidate entry -/
example : exCsc.Valid := by decide

/-- … and the model then really builds a structure (both orientations), with the expected tables -/
example : ∃ s, matrixStrNew exCsc .rows .one = ok s ∧ colsIn s 1 = [1, 2] ∧ isCand s 1 2 = false ∧
    isCand s 2 2 = true ∧ s.rowW.getD 1 0 = 3 := ⟨_, rfl, by decide, by decide, by decide, by decide⟩

example : ∃ s, matrixStrNew exCsc .cols .anyUnit = ok s ∧ s.nrows = 3 ∧ colsIn s 2 = [1, 2, 3] ∧
    isCand s 2 1 = false := ⟨_, rfl, by decide, by decide, by decide⟩

/-- a matrix violating the CSC invariant (row index out of range) makes the model panic, as the code would -/
example : matrixStrNew ⟨1, 1, #[[(1, sOne)]]⟩ .rows .one = panic := rfl

end Yuiv.C11
