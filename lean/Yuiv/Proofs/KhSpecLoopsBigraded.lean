import Yuiv.Proofs.KhSpecLoops
import Yuiv.Proofs.KhSpecSort
/-
KhSpec — loop-free form of `KhRef.khHomology` (bigraded computation) on its success path: the cells are, for the quantum
degrees `qsOf` of the generators in increasing order, the cells of `homologyOf` of the slice `gensQ … q`.
-/
namespace Yuiv.KhSpec
open Yuiv.KhRef Yuiv.KhRefLoops

/-- the q-degrees of the generators, without repetition, sorted (the `qs'` of `khHomology`) -/
def qsOf (c : Cube) (q0 : Int) (gens : Array (Array Gen)) : Array Int :=
  (gens.toList.foldl (fun qs gs => gs.toList.foldl (fun qs g =>
    if qs.contains (c.qDeg q0 g) then qs else qs.push (c.qDeg q0 g)) qs) #[]).qsort (· < ·)

/-- the generators of q-degree `q` -/
def gensQ (c : Cube) (q0 : Int) (gens : Array (Array Gen)) (q : Int) : Array (Array Gen) :=
  gens.map (fun gs => gs.filter (fun g => c.qDeg q0 g == q))

/-- `qsOf` before sorting -/
def preQs (c : Cube) (q0 : Int) (gens : Array (Array Gen)) : Array Int :=
  gens.toList.foldl (fun qs gs => gs.toList.foldl (fun qs g =>
    if qs.contains (c.qDeg q0 g) then qs else qs.push (c.qDeg q0 g)) qs) #[]

theorem qsOf_eq (c : Cube) (q0 : Int) (gens : Array (Array Gen)) : qsOf c q0 gens = (preQs c q0 gens).qsort (· < ·) := rfl

theorem qsLoop_eq (c : Cube) (q0 : Int) (gens : Array (Array Gen)) : qsLoop c q0 gens = preQs c q0 gens := by
  unfold qsLoop preQs
  rw [← Array.forIn_toList, Loop.forIn_eq_foldl (g := fun (qs : Array Int) (gs : Array Gen) =>
    gs.toList.foldl (fun qs g => if qs.contains (c.qDeg q0 g) then qs else qs.push (c.qDeg q0 g)) qs)]
  · rfl
  · intro gs _ qs
    unfold qsOuter
    rw [← Array.forIn_toList, Loop.forIn_eq_foldl
      (g := fun (qs : Array Int) g => if qs.contains (c.qDeg q0 g) then qs else qs.push (c.qDeg q0 g))]
    · rfl
    · intro g _ qs
      unfold qsInner
      cases qs.contains (c.qDeg q0 g) <;> rfl

theorem qsOf_nodup (c : Cube) (q0 : Int) (gens : Array (Array Gen)) : (qsOf c q0 gens).toList.Nodup := by
  rw [qsOf_eq]
  have := (C04Inv.qsort_perm (preQs c q0 gens) (· < ·)).toList
  rw [this.nodup_iff]
  exact (collect_keys (c.qDeg q0) Array.toList gens.toList #[] (by simp)).1

theorem mem_qsOf (c : Cube) (q0 : Int) (gens : Array (Array Gen)) (q : Int) :
    q ∈ (qsOf c q0 gens).toList ↔ ∃ gs ∈ gens.toList, ∃ g ∈ gs.toList, c.qDeg q0 g = q := by
  rw [qsOf_eq, Array.mem_toList_iff, (C04Inv.qsort_perm (preQs c q0 gens) (· < ·)).mem_iff]
  exact ((collect_keys (c.qDeg q0) Array.toList gens.toList #[] (by simp)).2 q).trans (or_iff_right (Array.not_mem_empty _))

theorem qsOf_sorted (c : Cube) (q0 : Int) (gens : Array (Array Gen)) :
    (qsOf c q0 gens).toList.Pairwise (· < ·) := by
  have h1 : (qsOf c q0 gens).toList.Pairwise (fun a b => a ≤ b) := by
    rw [qsOf_eq]
    exact qsort_sorted_intKey id (preQs c q0 gens)
  have h2 : (qsOf c q0 gens).toList.Pairwise (· ≠ ·) := qsOf_nodup c q0 gens
  exact (h1.and h2).imp (fun h => by omega)

theorem qchkInner_ok (c : Cube) (q0 : Int) (d : Gen → Array Term) (q : Int) (g : Gen) (st : Option ER × Unit)
    (h : ∀ t ∈ (d g).toList, c.qDeg q0 t.1 = q) :
    qchkInner c q0 d q g st = pure (ForInStep.yield (none, ())) := by
  unfold qchkInner
  have e : ((d g).any fun (x : Term) => match x with | (y, _) => c.qDeg q0 y != q) = false := by
    rw [← Array.any_toList, List.any_eq_false]
    intro t ht
    obtain ⟨y, a⟩ := t
    have := h (y, a) ht
    simpa using this
  rw [e]
  rfl

theorem qBody_ok (c : Cube) (k : Coeff) (h0 q0 : Int) (gens : Array (Array Gen)) (d : Gen → Array Term) (q : Int)
    (st : Option ER × Cells)
    (h : ∀ gs ∈ gens.toList, ∀ g ∈ gs.toList, ∀ t ∈ (d g).toList, c.qDeg q0 t.1 = c.qDeg q0 g) :
    qBody c k h0 q0 gens d q st =
      pure (ForInStep.yield (none, st.2 ++ (cellsUn h0 (some q) (homologyOf k (gensQ c q0 gens q) d)).toArray)) := by
  unfold qBody
  show (forIn (gensQ c q0 gens q) (none, ()) (exitOuter (qchkInner c q0 d q)) >>= _) = _
  rw [← Array.forIn_toList, exitOuter_fold _ (fun _ _ => ()) _ ?_]
  · show pure (ForInStep.yield (none, cellLoop h0 (some q) (homologyOf k (gensQ c q0 gens q) d) st.2)) = _
    rw [cellLoop_eq]
  · intro gs' hgs' g hg st'
    apply qchkInner_ok
    intro t ht
    unfold gensQ at hgs'
    rw [Array.toList_map, List.mem_map] at hgs'
    obtain ⟨gs, hgs, e⟩ := hgs'
    subst e
    rw [Array.toList_filter, List.mem_filter] at hg
    have hq : c.qDeg q0 g = q := by simpa using hg.2
    rw [h gs hgs g hg.1 t ht, hq]

theorem tailQ_ok (c : Cube) (k : Coeff) (h0 q0 : Int) (gens : Array (Array Gen)) (d : Gen → Array Term)
    (h : ∀ gs ∈ gens.toList, ∀ g ∈ gs.toList, ∀ t ∈ (d g).toList, c.qDeg q0 t.1 = c.qDeg q0 g) :
    tailQ c k h0 q0 gens d =
      .ok ⟨((qsOf c q0 gens).toList.flatMap (fun q =>
        cellsUn h0 (some q) (homologyOf k (gensQ c q0 gens q) d))).toArray⟩ := by
  unfold tailQ
  rw [qsLoop_eq, ← qsOf_eq, ← Array.forIn_toList, forIn_none_fold (qsOf c q0 gens).toList
    (fun cells q => cells ++ (cellsUn h0 (some q) (homologyOf k (gensQ c q0 gens q) d)).toArray) _
    (fun q _ st => qBody_ok c k h0 q0 gens d q st h), flat_fold]
  simp

theorem khHomology_bigraded (l : Link) (signs : Array Int) (p : Params) (k : Coeff)
    (hdef : ∀ gs ∈ (gensByWeight (mkCube l p)).toList, ∀ g ∈ gs.toList, ((mkCube l p).d p g).isSome = true)
    (hdd : ∀ gs ∈ (gensByWeight (mkCube l p)).toList, ∀ g ∈ gs.toList, ∀ z,
      C06Cycle.chainSum (fun y => (dTab (mkCube l p) p (gensByWeight (mkCube l p)) y).toList)
        (dTab (mkCube l p) p (gensByWeight (mkCube l p)) g).toList z = 0)
    (hq : ∀ gs ∈ (gensByWeight (mkCube l p)).toList, ∀ g ∈ gs.toList,
      ∀ t ∈ (dTab (mkCube l p) p (gensByWeight (mkCube l p)) g).toList,
        (mkCube l p).qDeg (q0Of signs p) t.1 = (mkCube l p).qDeg (q0Of signs p) g) :
    khHomology l signs p k true =
      .ok ⟨((qsOf (mkCube l p) (q0Of signs p) (gensByWeight (mkCube l p))).toList.flatMap (fun q =>
        cellsUn (h0Of signs) (some q)
          (homologyOf k (gensQ (mkCube l p) (q0Of signs p) (gensByWeight (mkCube l p)) q)
            (dTab (mkCube l p) p (gensByWeight (mkCube l p)))))).toArray⟩ := by
  rw [khHomologyM_ok l signs p k true hdef hdd, tailQ_ok _ _ _ _ _ _ hq]
  rfl

end Yuiv.KhSpec
