import Yuiv.Proofs.C03Uct
import Yuiv.Proofs.C03UctEx
import Yuiv.Proofs.C03UctExist
/-
C03Uct — the counting form of the universal coefficient theorem, at the matrix level, for ARBITRARY integer
complexes (the clauses `rank_ℚ = rank_ℤ` and the `dim_𝔽p` formula of property C03).

Setting (cohomological indexing, as in `Model/C03`):   ℤˡ --A--> ℤⁿ --B--> ℤᵏ ,  B * A = 0 ,
`A : Matrix (Fin n) (Fin l) ℤ` the incoming, `B : Matrix (Fin k) (Fin n) ℤ` the outgoing differential of
the middle group, `H = ker B / im A`.

Hypothesis form for Smith normal forms: `EquivDiag A d`  :=  `d.length ≤ min n l` and there are integer
matrices `P, Q` with unit determinants and `P * A * Q = rectDiag d` (the `n × l` matrix with `d` on the diagonal,
zero elsewhere).  That is the data `yui-matrix/src/dense/snf.rs` produces (C09 proves it of the code model);
`EquivDiag.of_inverses` accepts it with explicit inverses `P * P⁻¹ = 1`, `Q * Q⁻¹ = 1`.  The divisibility chain
`d₁ ∣ d₂ ∣ …` is not needed for the counts.  The hypothesis is satisfiable for every matrix (`snf_exists`, from
Mathlib's Smith normal form for submodules over a PID), which gives the unconditional form `uct_exists`; by
`snf_counts_unique` the counts do not depend on the diagonal form chosen.

Reporting convention of the library (correctness of which is C07):
  rank_ℤ H = n − #{dₖ(A) ≠ 0} − #{dₖ(B) ≠ 0},   torsion orders of H = `torsOf dA` = the dₖ(A) with dₖ ≠ 0, |dₖ| ≠ 1,
  torsion orders of the NEXT group (coker-side of `B`) = `torsOf dB`.

Over a field `K` the dimension of the homology of `C ⊗ K` is by `finrank_homology` equal to
`n − rank(A ⊗ K) − rank(B ⊗ K)`; the theorems are given both for that number and for `finrank K (ker/im)`.
Everything is proved from Mathlib's `Matrix.rank` (rank is invariant under multiplication by matrices with unit
determinant; rank–nullity); no theorem here depends on anything but `propext`, `Classical.choice`, `Quot.sound`.
Not covered (topological, out of scope): the 𝔽₂ reduced/unreduced clause; that the library's SNF generators are
q-homogeneous (finding F5).
-/
namespace Yuiv.C03Uct
open Matrix Module Yuiv.C03

/-- rank over ℚ = number of non-zero diagonal entries -/
theorem snf_rank_rat {m n : ℕ} (A : Matrix (Fin m) (Fin n) ℤ) (d : List ℤ) (h : EquivDiag A d) :
    (toRat A).rank = (d.filter (fun x => x != 0)).length :=
  rank_rat_of_equivDiag A d h

/-- rank over 𝔽_p of `A mod p` = number of diagonal entries NOT divisible by `p` -/
theorem snf_rank_fp (p : ℕ) [Fact p.Prime] {m n : ℕ} (A : Matrix (Fin m) (Fin n) ℤ) (d : List ℤ)
    (h : EquivDiag A d) :
    (redMod p A).rank = (d.filter (fun x => !(x % (p : ℤ) == 0))).length :=
  rank_zmod_of_equivDiag p A d h

/-- consequently the three counts the tables are built from do not depend on which diagonal form (which SNF
algorithm, which pivots, which transforms) was used -/
theorem snf_counts_unique (p : ℕ) [Fact p.Prime] {m n : ℕ} (A : Matrix (Fin m) (Fin n) ℤ) (d d' : List ℤ)
    (h : EquivDiag A d) (h' : EquivDiag A d') :
    nz d = nz d' ∧ ndiv p d = ndiv p d' ∧
      ((torsOf d).filter (fun a => a % (p : ℤ) == 0)).length
        = ((torsOf d').filter (fun a => a % (p : ℤ) == 0)).length := by
  have hp : (2 : ℤ) ≤ p := by exact_mod_cast (Fact.out : p.Prime).two_le
  have h1 : nz d = nz d' := by
    rw [← rank_rat_of_equivDiag A d h, ← rank_rat_of_equivDiag A d' h']
  have h2 : ndiv p d = ndiv p d' := by
    rw [← rank_zmod_of_equivDiag p A d h, ← rank_zmod_of_equivDiag p A d' h']
  refine ⟨h1, h2, ?_⟩
  rw [tors_count p hp, tors_count p hp]
  have := nz_eq_ndiv_add_tdiv p d
  have := nz_eq_ndiv_add_tdiv p d'
  omega

/-- `rank_ℚ H = rank_ℤ H` (matrix form): `n − rk_ℚ A − rk_ℚ B = n − #{dₖ(A) ≠ 0} − #{dₖ(B) ≠ 0}` -/
theorem uct_rank_rat {l n k : ℕ} (A : Matrix (Fin n) (Fin l) ℤ) (B : Matrix (Fin k) (Fin n) ℤ)
    (dA dB : List ℤ) (hA : EquivDiag A dA) (hB : EquivDiag B dB) :
    n - (toRat A).rank - (toRat B).rank = (cellOf n dA dB).rank := by
  rw [rank_rat_of_equivDiag A dA hA, rank_rat_of_equivDiag B dB hB]
  rfl

/-- the counting universal coefficient theorem (matrix form), for every prime `p` and every pair of integer
matrices with `B * A = 0`:
`n − rk_p A − rk_p B = rank_ℤ H + #{torsion orders of H divisible by p} + #{torsion orders of the next group
divisible by p}` -/
theorem uct_count_fp (p : ℕ) [Fact p.Prime] {l n k : ℕ} (A : Matrix (Fin n) (Fin l) ℤ)
    (B : Matrix (Fin k) (Fin n) ℤ) (hBA : B * A = 0) (dA dB : List ℤ)
    (hA : EquivDiag A dA) (hB : EquivDiag B dB) :
    n - (redMod p A).rank - (redMod p B).rank
      = (cellOf n dA dB).rank
        + ((torsOf dA).filter (fun a => a % (p : ℤ) == 0)).length
        + ((torsOf dB).filter (fun a => a % (p : ℤ) == 0)).length := by
  have hp : (2 : ℤ) ≤ p := by exact_mod_cast (Fact.out : p.Prime).two_le
  rw [tors_count p hp, tors_count p hp]
  exact uct_arith p A B hBA dA dB hA hB

/-- `dim_ℚ H(C ⊗ ℚ) = rank_ℤ H`, with the homology taken literally as `ker/im` -/
theorem uct_homology_rat {l n k : ℕ} (A : Matrix (Fin n) (Fin l) ℤ) (B : Matrix (Fin k) (Fin n) ℤ)
    (hBA : B * A = 0) (dA dB : List ℤ) (hA : EquivDiag A dA) (hB : EquivDiag B dB) :
    finrank ℚ (Homology (toRat A) (toRat B)) = (cellOf n dA dB).rank := by
  rw [finrank_homology _ _ (toRat_mul_eq_zero A B hBA)]
  exact uct_rank_rat A B dA dB hA hB

/-- `dim_𝔽p H(C ⊗ 𝔽_p)`, with the homology taken literally as `ker/im`, is given by the count -/
theorem uct_homology_fp (p : ℕ) [Fact p.Prime] {l n k : ℕ} (A : Matrix (Fin n) (Fin l) ℤ)
    (B : Matrix (Fin k) (Fin n) ℤ) (hBA : B * A = 0) (dA dB : List ℤ)
    (hA : EquivDiag A dA) (hB : EquivDiag B dB) :
    finrank (ZMod p) (Homology (redMod p A) (redMod p B))
      = (cellOf n dA dB).rank
        + ((torsOf dA).filter (fun a => a % (p : ℤ) == 0)).length
        + ((torsOf dB).filter (fun a => a % (p : ℤ) == 0)).length := by
  rw [finrank_homology _ _ (redMod_mul_eq_zero p A B hBA)]
  exact uct_count_fp p A B hBA dA dB hA hB

/-- every integer matrix has a diagonal form (from Mathlib's Smith normal form over a PID) -/
theorem snf_exists {m n : ℕ} (A : Matrix (Fin m) (Fin n) ℤ) : ∃ d : List ℤ, EquivDiag A d :=
  exists_equivDiag A

/-- unconditional counting UCT: for EVERY pair of integer matrices with `B * A = 0` there are a ℤ-cell
(free rank + torsion orders, read off diagonal forms of `A` and `B`) and a torsion list of the next group such that
the rational homology has dimension `rank` and, for every prime `p`, the mod-`p` homology has dimension
`rank + #{p ∣ torsion} + #{p ∣ next torsion}` -/
theorem uct_exists {l n k : ℕ} (A : Matrix (Fin n) (Fin l) ℤ) (B : Matrix (Fin k) (Fin n) ℤ)
    (hBA : B * A = 0) :
    ∃ (dA dB : List ℤ), EquivDiag A dA ∧ EquivDiag B dB ∧
      finrank ℚ (Homology (toRat A) (toRat B)) = (cellOf n dA dB).rank ∧
      ∀ (p : ℕ) [Fact p.Prime],
        finrank (ZMod p) (Homology (redMod p A) (redMod p B))
          = (cellOf n dA dB).rank
            + ((cellOf n dA dB).tors.filter (fun a => a % (p : ℤ) == 0)).length
            + ((torsOf dB).filter (fun a => a % (p : ℤ) == 0)).length := by
  obtain ⟨dA, hA⟩ := exists_equivDiag A
  obtain ⟨dB, hB⟩ := exists_equivDiag B
  exact ⟨dA, dB, hA, hB, uct_homology_rat A B hBA dA dB hA hB,
    fun p _ => uct_homology_fp p A B hBA dA dB hA hB⟩

/-- oracle clause "dim_Fp formula": if a ℤ-table `z` reports at `(i,j)` the cell of `H = ker B / im A` and at
`(i+1,j)` the torsion read off `B`, then `dimFp p z i j` (the formula the harness evaluates on the library's
ℤ-table) IS the dimension of the homology of the complex reduced mod `p` -/
theorem dimFp_formula (p : ℕ) [Fact p.Prime] {l n k : ℕ} (A : Matrix (Fin n) (Fin l) ℤ)
    (B : Matrix (Fin k) (Fin n) ℤ) (hBA : B * A = 0) (dA dB : List ℤ)
    (hA : EquivDiag A dA) (hB : EquivDiag B dB)
    (z : Table) (i j : ℤ) (hz : z.get (i, j) = cellOf n dA dB) (hz' : (z.get (i + 1, j)).tors = torsOf dB) :
    dimFp (p : ℤ) z i j = finrank (ZMod p) (Homology (redMod p A) (redMod p B)) ∧
    dimFp (p : ℤ) z i j = n - (redMod p A).rank - (redMod p B).rank := by
  have h := uct_count_fp p A B hBA dA dB hA hB
  have h' := uct_homology_fp p A B hBA dA dB hA hB
  unfold dimFp
  rw [hz, hz']
  exact ⟨h'.symm, h.symm⟩

/-- oracle clause "rank_ℚ = rank_ℤ": the rank the ℤ-table reports is the dimension of the rational homology -/
theorem rankQ_formula {l n k : ℕ} (A : Matrix (Fin n) (Fin l) ℤ) (B : Matrix (Fin k) (Fin n) ℤ)
    (hBA : B * A = 0) (dA dB : List ℤ) (hA : EquivDiag A dA) (hB : EquivDiag B dB)
    (z : Table) (i j : ℤ) (hz : z.get (i, j) = cellOf n dA dB) :
    (z.get (i, j)).rank = finrank ℚ (Homology (toRat A) (toRat B)) := by
  rw [hz]; exact (uct_homology_rat A B hBA dA dB hA hB).symm

/-- the diagonal complexes of `Props/C03.lean` are the special case `0 → ℤⁿ --diag(a)--> ℤⁿ → 0`:
`diagHomologyZ a` is the pair of cells of the general convention, `diagDimFp` is the corank mod `p`, and the
statement of `dimFp_diag` (for prime `p`) follows from `uct_count_fp` applied twice -/
theorem dimFp_diag_of_uct (p : ℕ) [Fact p.Prime] (a : List ℤ) :
    diagHomologyZ a = (cellOf a.length [] a, cellOf a.length a []) ∧
    diagDimFp (p : ℤ) a = a.length - (redMod p (rectDiag a.length a.length (fun k => a.getD k 0))).rank ∧
    (let hz := diagHomologyZ a
     let cnt : List Int → Nat := fun ts => (ts.filter (fun x => x % (p : ℤ) == 0)).length
     hz.1.rank + cnt hz.1.tors + cnt hz.2.tors = diagDimFp (p : ℤ) a ∧
     hz.2.rank + cnt hz.2.tors + cnt [] = diagDimFp (p : ℤ) a) := by
  set n := a.length with hn
  have hD : EquivDiag (rectDiag n n (fun k => a.getD k 0)) a := EquivDiag.rectDiag n n a (by simp [hn])
  have hL : EquivDiag (rectDiag n 0 (fun k => ([] : List ℤ).getD k 0)) [] := EquivDiag.rectDiag n 0 [] (by simp)
  have hR : EquivDiag (rectDiag 0 n (fun k => ([] : List ℤ).getD k 0)) [] := EquivDiag.rectDiag 0 n [] (by simp)
  have hdim := diagDimFp_eq (p : ℤ) a
  have hrk := rank_zmod_of_equivDiag p _ a hD
  have e1 := uct_count_fp p _ _ (by ext i j; exact j.elim0) [] a hL hD
  have e2 := uct_count_fp p _ _ (by ext i j; exact i.elim0) a [] hD hR
  rw [rank_zmod_of_equivDiag p _ _ hL, hrk] at e1
  rw [rank_zmod_of_equivDiag p _ _ hR, hrk] at e2
  refine ⟨diagHomologyZ_eq a, ?_, ?_⟩
  · rw [hrk]; omega
  · rw [diagHomologyZ_eq a]
    simp only [ndiv, List.filter_nil, List.length_nil, Nat.sub_zero] at e1 e2
    have t0 : torsOf [] = [] := rfl
    rw [t0] at e1 e2
    simp only [List.filter_nil, List.length_nil, Nat.add_zero] at e1 e2 ⊢
    constructor
    · have : (cellOf n [] a).tors = [] := rfl
      rw [this]
      simp only [List.filter_nil, List.length_nil, Nat.add_zero]
      have : (cellOf n a []).tors = torsOf a := rfl
      rw [this, ← e1]
      simp only [ndiv] at hdim; omega
    · have : (cellOf n a []).tors = torsOf a := rfl
      rw [this, ← e2]
      simp only [ndiv] at hdim; omega

section Examples
open Yuiv.C03Uct.Ex

/-- hypotheses are satisfiable: `diag(2,3)` has the diagonal forms `[2,3]` (trivially) and `[1,-6]` (its SNF, through
non-trivial unimodular `P, Q`), and the counts agree as `snf_counts_unique` says -/
example : EquivDiag exA [2, 3] ∧ EquivDiag exA [1, -6] := ⟨exA_diag, exA_snf⟩

/-- the complex `ℤ --(2,0)ᵀ--> ℤ² --(0 3)--> ℤ` : `H = ℤ/2`, next group `ℤ/3` -/
example : finrank ℚ (Homology (toRat exA1) (toRat exB1)) = 0 := by
  rw [uct_homology_rat exA1 exB1 exBA [2] [3] exA1_snf exB1_snf]; decide
example : finrank (ZMod 2) (Homology (redMod 2 exA1) (redMod 2 exB1)) = 1 := by
  rw [uct_homology_fp 2 exA1 exB1 exBA [2] [3] exA1_snf exB1_snf]; decide
example : finrank (ZMod 3) (Homology (redMod 3 exA1) (redMod 3 exB1)) = 1 := by
  rw [uct_homology_fp 3 exA1 exB1 exBA [2] [3] exA1_snf exB1_snf]; decide
example : finrank (ZMod 5) (Homology (redMod 5 exA1) (redMod 5 exB1)) = 0 := by
  rw [uct_homology_fp 5 exA1 exB1 exBA [2] [3] exA1_snf exB1_snf]; decide

/-- `ℤ² --diag(2,3)--> ℤ² --> 0` through its SNF `diag(1,-6)`: `H = ℤ/6`, one 𝔽₂- and one 𝔽₃-dimension, none
over 𝔽₅ -/
example : finrank (ZMod 2) (Homology (redMod 2 exA) (redMod 2 (0 : Matrix (Fin 0) (Fin 2) ℤ))) = 1 := by
  rw [uct_homology_fp 2 exA 0 exZero [1, -6] [] exA_snf exZero_snf]; decide
example : finrank (ZMod 3) (Homology (redMod 3 exA) (redMod 3 (0 : Matrix (Fin 0) (Fin 2) ℤ))) = 1 := by
  rw [uct_homology_fp 3 exA 0 exZero [1, -6] [] exA_snf exZero_snf]; decide
example : finrank (ZMod 5) (Homology (redMod 5 exA) (redMod 5 (0 : Matrix (Fin 0) (Fin 2) ℤ))) = 0 := by
  rw [uct_homology_fp 5 exA 0 exZero [1, -6] [] exA_snf exZero_snf]; decide

/-- `dimFp` on a concrete table for that complex -/
example : dimFp 2 [((0, 0), cellOf 2 [1, -6] [])] 0 0 = 1 ∧ dimFp 3 [((0, 0), cellOf 2 [1, -6] [])] 0 0 = 1 ∧
    dimFp 5 [((0, 0), cellOf 2 [1, -6] [])] 0 0 = 0 := by decide

end Examples

end Yuiv.C03Uct
