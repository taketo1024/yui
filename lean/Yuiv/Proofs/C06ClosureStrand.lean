import Yuiv.Proofs.C06Closure
import Yuiv.Proofs.C18InvBraidComp
/-
C06Closure — the converse of `pos_of_conn`: in the orientation preserving state of a braid closure all labels of ONE
strand position lie on ONE circle.

This needs the order of the crossings along a strand, which `C18.BForm` does not expose; so the fold of `closureStep` is
followed once more with the invariant `Col`: before the final renaming, every label created so far is joined — by the
arcs (entering label at a position, leaving label at the same position) of the crossings created so far — to the TOP
label of its position, which is the number `posLab e` itself.  The final renaming `connRename bottom` only moves bottom
labels (all `≥ n`), so it fixes the top labels and the statement survives it word for word.
-/
namespace Yuiv.C06Closure
open Yuiv Yuiv.KhRef Yuiv.C04Inv Yuiv.C06Cycle
open Yuiv.C18 (closure BForm posLab bX closureStep connRename hasFreeLoop RInv rawX PD)
open Yuiv.C18Bridge (toKh crossingKh)

/-- arcs (before the final renaming) of the orientation preserving state at the crossings of the prefix `u`:
the entering label `tops[2j]`, `tops[2j+1]` with the leaving label `n + 2j (+1)` of the same position -/
def prePairs (n : Nat) (u : List Int) (tops : List Nat) : List (Nat × Nat) :=
  (List.range u.length).flatMap (fun j =>
    if u.getD j 0 > 0 then [(tops.getD (2 * j) 0, n + 2 * j), (tops.getD (2 * j + 1) 0, n + 2 * j + 1)]
    else [(tops.getD (2 * j) 0, n + 2 * j + 1), (tops.getD (2 * j + 1) 0, n + 2 * j)])

theorem mem_prePairs (n : Nat) (u : List Int) (tops : List Nat) (p : Nat × Nat) :
    p ∈ prePairs n u tops ↔ ∃ j, j < u.length ∧
      p ∈ (if u.getD j 0 > 0 then [(tops.getD (2 * j) 0, n + 2 * j), (tops.getD (2 * j + 1) 0, n + 2 * j + 1)]
        else [(tops.getD (2 * j) 0, n + 2 * j + 1), (tops.getD (2 * j + 1) 0, n + 2 * j)]) := by
  unfold prePairs
  simp only [List.mem_flatMap, List.mem_range]

/-- every label created so far is joined, by the arcs of the crossings created so far, to the top label of its
position — which is the number `posLab e` itself -/
def Col (n : Nat) (u : List Int) (tops : List Nat) (count : Nat) : Prop :=
  ∀ e, e < count → posLab n u e < n ∧ Conn (prePairs n u tops) e (posLab n u e)

theorem posLab_of_lt {n : Nat} (w : List Int) {k : Nat} (hk : k < n) : posLab n w k = k :=
  if_pos hk

theorem col_init (n : Nat) : Col n [] [] n := fun e he => by
  rw [posLab_of_lt [] he]
  exact ⟨he, Conn.refl e⟩

theorem prePairs_mono (n : Nat) (u : List Int) (tops : List Nat) (s : Int) (t0 t1 : Nat)
    (htl : tops.length = 2 * u.length) (p : Nat × Nat) (hp : p ∈ prePairs n u tops) :
    p ∈ prePairs n (u ++ [s]) (tops ++ [t0, t1]) := by
  rw [mem_prePairs] at hp ⊢
  obtain ⟨j, hj, h⟩ := hp
  refine ⟨j, by rw [List.length_append]; omega, ?_⟩
  rw [C18.br_getD_app_left _ _ _ _ hj, C18.br_getD_app_left _ _ _ _ (by omega),
    C18.br_getD_app_left _ _ _ _ (by omega)]
  exact h

theorem prePairs_new (n : Nat) (u : List Int) (tops : List Nat) (s : Int) (t0 t1 : Nat)
    (htl : tops.length = 2 * u.length) (p : Nat × Nat)
    (hp : p ∈ (if s > 0 then [(t0, n + 2 * u.length), (t1, n + 2 * u.length + 1)]
      else [(t0, n + 2 * u.length + 1), (t1, n + 2 * u.length)])) :
    p ∈ prePairs n (u ++ [s]) (tops ++ [t0, t1]) := by
  rw [mem_prePairs]
  refine ⟨u.length, by simp, ?_⟩
  rw [← htl] at hp ⊢
  rw [C18.br_getD_app_right u _ _ _ (Nat.le_refl _), C18.br_getD_app_right tops _ tops.length _ (Nat.le_refl _),
    C18.br_getD_app_right tops _ (tops.length + 1) _ (Nat.le_add_right _ _), Nat.sub_self, Nat.sub_self,
    Nat.add_sub_cancel_left]
  exact hp

theorem col_step (n : Nat) (u : List Int) (tops : List Nat) (count : Nat) (s : Int) (a b t0 t1 : Nat)
    (hcnt : count = n + 2 * u.length) (htl : tops.length = 2 * u.length) (hg : s.natAbs - 1 + 1 < n)
    (ha : a < count) (hb : b < count) (hpa : posLab n u a = s.natAbs - 1) (hpb : posLab n u b = s.natAbs - 1 + 1)
    (ht : (s > 0 ∧ t0 = a ∧ t1 = b) ∨ (¬ s > 0 ∧ t0 = b ∧ t1 = a))
    (hC : Col n u tops count) : Col n (u ++ [s]) (tops ++ [t0, t1]) (count + 2) := by
  have hnew : ∀ p, p = (a, count) ∨ p = (b, count + 1) → p ∈ prePairs n (u ++ [s]) (tops ++ [t0, t1]) := by
    intro p hp
    apply prePairs_new n u tops s t0 t1 htl
    rcases ht with ⟨hs, rfl, rfl⟩ | ⟨hs, rfl, rfl⟩
    · rw [if_pos hs, ← hcnt]; exact List.mem_pair.2 hp
    · rw [if_neg hs, ← hcnt]; exact List.mem_pair.2 hp.symm
  have hp0 : posLab n (u ++ [s]) count = s.natAbs - 1 := by
    rw [hcnt]; exact C18.posLab_new n u s [] 0 (by decide)
  have hp1 : posLab n (u ++ [s]) (count + 1) = s.natAbs - 1 + 1 := by
    rw [hcnt]; exact C18.posLab_new n u s [] 1 (by decide)
  have hle : n + 2 * u.length ≤ count := Nat.le_of_eq hcnt.symm
  clear ht
  generalize s.natAbs - 1 = g at hg hpa hpb hp0 hp1
  have hold : ∀ e, e < count → posLab n (u ++ [s]) e = posLab n u e ∧ posLab n u e < n ∧
      Conn (prePairs n (u ++ [s]) (tops ++ [t0, t1])) e (posLab n u e) := fun e he =>
    ⟨C18.posLab_append n u [s] e (hcnt ▸ he), (hC e he).1, (hC e he).2.mono (prePairs_mono n u tops s t0 t1 htl)⟩
  intro e he
  by_cases h : e < count
  · rw [(hold e h).1]; exact (hold e h).2
  · obtain rfl | rfl : e = count ∨ e = count + 1 := by omega
    · rw [hp0]
      have := (hold a ha).2.2
      rw [hpa] at this
      exact ⟨Nat.lt_of_succ_lt hg, (Conn.of_mem (hnew _ (.inl rfl))).symm.trans this⟩
    · rw [hp1]
      have := (hold b hb).2.2
      rw [hpb] at this
      exact ⟨hg, (Conn.of_mem (hnew _ (.inr rfl))).symm.trans this⟩

theorem rcol_step (n : Nat) (u : List Int) (tops : List Nat) (st st' : Nat × List Nat × PD) (s : Int)
    (hI : RInv n u tops st) (hC : Col n u tops st.1) (h : closureStep st s = .ok st') :
    ∃ t0 t1, RInv n (u ++ [s]) (tops ++ [t0, t1]) st' ∧ Col n (u ++ [s]) (tops ++ [t0, t1]) st'.1 := by
  have hC' := C18.cinv_step n st st' s hI.cinv h
  obtain ⟨a, b, hs0, ha, hb, rfl⟩ := C18.closureStep_ok h
  obtain ⟨count, bottom, pd⟩ := st
  simp only at ha hb hC' hC ⊢
  obtain ⟨hi, ha'⟩ := List.getElem?_eq_some_iff.1 ha
  obtain ⟨hi1, hb'⟩ := List.getElem?_eq_some_iff.1 hb
  have hlen : bottom.length = n := hI.cinv.len
  have hlt := C18.br_cinv_bottom_lt hI.cinv
  have hcol : ∀ t0 t1, ((s > 0 ∧ t0 = a ∧ t1 = b) ∨ (¬ s > 0 ∧ t0 = b ∧ t1 = a)) →
      Col n (u ++ [s]) (tops ++ [t0, t1]) (count + 2) := fun t0 t1 ht =>
    col_step n u tops count s a b t0 t1 hI.cnt hI.tlen (hlen ▸ hi1) (hlt a (ha' ▸ List.getElem_mem hi))
      (hlt b (hb' ▸ List.getElem_mem hi1)) (ha' ▸ hI.posb _ hi) (hb' ▸ hI.posb _ hi1) ht hC
  by_cases hs : s > 0
  · refine ⟨a, b, ?_, hcol a b (Or.inl ⟨hs, rfl, rfl⟩)⟩
    have hx : (if s > 0 then (a, count, count + 1, b) else (b, a, count, count + 1)) = rawX s a b count := by
      unfold rawX; rw [if_pos hs, if_pos hs]
    rw [hx] at hC' ⊢
    exact C18.rinv_step_core n u tops count bottom pd s a b _ _ hI hC' hs0 hi hi1 ha' hb'
      (Or.inl ⟨hs, rfl, rfl⟩)
  · refine ⟨b, a, ?_, hcol b a (Or.inr ⟨hs, rfl, rfl⟩)⟩
    have hx : (if s > 0 then (a, count, count + 1, b) else (b, a, count, count + 1)) = rawX s b a count := by
      unfold rawX; rw [if_neg hs, if_neg hs]
    rw [hx] at hC' ⊢
    exact C18.rinv_step_core n u tops count bottom pd s b a _ _ hI hC' hs0 hi1 hi hb' ha'
      (Or.inr ⟨hs, rfl, rfl⟩)

theorem rcol_foldl (n : Nat) (v : List Int) (tops : List Nat) (st st' : Nat × List Nat × PD)
    (hI : RInv n [] tops st) (hC : Col n [] tops st.1) (h : v.foldlM closureStep st = .ok st') :
    ∃ tops', RInv n v tops' st' ∧ Col n v tops' st'.1 :=
  Res.foldlM_inv_prefix (fun u q => ∃ tops, RInv n u tops q ∧ Col n u tops q.1)
    (fun u q s q' ⟨tops, hq, hc⟩ hs => let ⟨_, _, hq'⟩ := rcol_step n u tops q q' s hq hc hs; ⟨_, hq'⟩)
    ⟨tops, hI, hC⟩ h

theorem strands_of_col (n : Nat) (w : List Int) (tops : List Nat) (count : Nat) (bottom : List Nat) (pdr : PD)
    (L : C18.Link) (hI : RInv n w tops (count, bottom, pdr)) (hC : Col n w tops count)
    (hfl : hasFreeLoop bottom = false)
    (hB : BForm n w L tops ((List.range' n (2 * w.length)).map (connRename bottom))) (e : Nat) (he : e < count) :
    posLab n w (connRename bottom e) < n ∧
      Conn (statePairs (toKh L) (braidState w)) (connRename bottom e) (posLab n w (connRename bottom e)) := by
  have hfix := C18.connRename_of_lt (C18.cinv_bottom_ge hI.cinv hfl)
  have hout := C18.getD_map_range' (connRename bottom) n (2 * w.length)
  have hin := hI.rename_top
  obtain ⟨h1, h2⟩ := hC e he
  rw [hI.posLab_rename e]
  refine ⟨h1, ?_⟩
  have := conn_lift (R := fun x y => Conn (statePairs (toKh L) (braidState w)) (connRename bottom x)
    (connRename bottom y)) (fun _ => Conn.refl _) Conn.symm Conn.trans ?_ h2
  · rwa [hfix _ h1] at this
  · rintro ⟨x, y⟩ hr
    obtain ⟨j, hj, hm⟩ := (mem_prePairs n w tops _).1 hr
    show Conn _ (connRename bottom x) (connRename bottom y)
    have o0 := hout (2 * j) (by omega)
    have o1 := hout (2 * j + 1) (by omega)
    have i0 := hin (2 * j) (by omega)
    have i1 := hin (2 * j + 1) (by omega)
    by_cases hs : w.getD j 0 > 0
    · rw [if_pos hs] at hm
      simp only [List.mem_cons, Prod.mk.injEq, List.not_mem_nil, or_false] at hm
      rcases hm with ⟨rfl, rfl⟩ | ⟨rfl, rfl⟩
      · rw [i0, ← o0]
        exact Conn.of_mem ((statePairs_closure hB _).2 ⟨j, hj, Or.inl (by rw [if_pos hs])⟩)
      · rw [i1, Nat.add_assoc, ← o1]
        exact (Conn.of_mem ((statePairs_closure hB _).2 ⟨j, hj, Or.inr (by rw [if_pos hs])⟩)).symm
    · rw [if_neg hs] at hm
      simp only [List.mem_cons, Prod.mk.injEq, List.not_mem_nil, or_false] at hm
      rcases hm with ⟨rfl, rfl⟩ | ⟨rfl, rfl⟩
      · rw [i0, Nat.add_assoc, ← o1]
        exact Conn.of_mem ((statePairs_closure hB _).2 ⟨j, hj, Or.inl (by rw [if_neg hs])⟩)
      · rw [i1, ← o0]
        exact Conn.of_mem ((statePairs_closure hB _).2 ⟨j, hj, Or.inr (by rw [if_neg hs])⟩)

theorem mem_edgeLabels_toKh (l : C18.Link) (x : Nat) : x ∈ edgeLabels (toKh l) ↔ x ∈ C18.allEdges l := by
  rw [mem_edgeLabels]
  exact C18Bridge.mem_labels_toKh l x

theorem conn_iff_pos (n : Nat) (w : List Int) (l : C18.Link) (h : closure n w = .ok l) :
    (∀ x ∈ edgeLabels (toKh l), ∀ y ∈ edgeLabels (toKh l),
      (Conn (statePairs (toKh l) (braidState w)) x y ↔ posLab n w x = posLab n w y)) ∧
    (∀ x ∈ edgeLabels (toKh l), posLab n w x < n) ∧
    (∀ k, k < n → k ∈ edgeLabels (toKh l) ∧ posLab n w k = k) := by
  obtain ⟨st, hf, hfl, hl⟩ := C18.closure_inv h
  obtain ⟨tops, hI, hC⟩ := rcol_foldl n w [] _ st (C18.rinv_init n) (col_init n) hf
  have hB := C18.bform_of_rinv n w tops st hI hfl
  rw [← hl] at hB
  obtain ⟨count, bottom, pdr⟩ := st
  have key : ∀ x ∈ edgeLabels (toKh l), posLab n w x < n ∧
      Conn (statePairs (toKh l) (braidState w)) x (posLab n w x) := by
    intro x hx
    rw [mem_edgeLabels_toKh, hl, C18.allEdges_fromPD4, C18.flatPD_map] at hx
    obtain ⟨e, he, rfl⟩ := List.mem_map.1 hx
    exact strands_of_col n w tops count bottom pdr l hI hC hfl hB e (C18.cinv_lt_count hI.cinv e (Or.inl he))
  refine ⟨fun x hx y hy => ⟨pos_of_conn hB, fun e => ?_⟩, fun x hx => (key x hx).1, fun k hk => ?_⟩
  · have := (key y hy).2
    rw [← e] at this
    exact (key x hx).2.trans this.symm
  · exact ⟨(mem_edgeLabels_toKh l k).2 ((C18.closure_label_on_strand n w l h).1 k hk), posLab_of_lt w hk⟩

theorem circles_are_strands (n : Nat) (w : List Int) (l : C18.Link) (h : closure n w = .ok l)
    {cs : Array (Array Nat)} (spec : CirclesSpec (edgeLabels (toKh l)) (statePairs (toKh l) (braidState w)) cs) :
    cs.size = n ∧
    (∀ i, i < cs.size → ∀ x ∈ cs[i]!, ∀ y, y ∈ cs[i]! ↔ y ∈ edgeLabels (toKh l) ∧ posLab n w y = posLab n w x) ∧
    (∀ k, k < n → ∃ i, i < cs.size ∧ k ∈ cs[i]!) := by
  obtain ⟨hc, hlt, hk⟩ := conn_iff_pos n w l h
  have h0 : ∀ i, i < cs.size → (cs[i]!)[0]! ∈ cs[i]! := fun i hi => spec.head_mem hi
  have hmem : ∀ i, i < cs.size → ∀ x ∈ cs[i]!, ∀ y,
      y ∈ cs[i]! ↔ y ∈ edgeLabels (toKh l) ∧ posLab n w y = posLab n w x := by
    intro i hi x hx y
    rw [spec.mem_iff hi hx y]
    constructor
    · rintro ⟨hy, c⟩
      exact ⟨hy, ((hc x (spec.mem_labels hi hx) y hy).1 c).symm⟩
    · rintro ⟨hy, e⟩
      exact ⟨hy, (hc x (spec.mem_labels hi hx) y hy).2 e.symm⟩
  have hcov : ∀ k, k < n → ∃ i, i < cs.size ∧ k ∈ cs[i]! := fun k hk' => spec.cover k (hk k hk').1
  refine ⟨?_, hmem, hcov⟩
  -- count: `i ↦ position of circle i` is a bijection onto `{0, …, n−1}`
  have hperm : ((List.range cs.size).map (fun i => posLab n w ((cs[i]!)[0]!))).Perm (List.range n) := by
    rw [List.perm_ext_iff_of_nodup _ List.nodup_range]
    · intro k
      simp only [List.mem_map, List.mem_range]
      constructor
      · rintro ⟨i, hi, rfl⟩
        exact hlt _ (spec.mem_labels hi (h0 i hi))
      · intro hk'
        obtain ⟨i, hi, hm⟩ := hcov k hk'
        refine ⟨i, hi, ?_⟩
        have := ((hmem i hi _ (h0 i hi) k).1 hm).2
        rw [← this]; exact (hk k hk').2
    · rw [List.nodup_map_iff_inj_on List.nodup_range]
      intro i hi j hj e
      simp only [List.mem_range] at hi hj
      exact spec.sep i j hi hj _ _ (h0 i hi) (h0 j hj)
        ((hc _ (spec.mem_labels hi (h0 i hi)) _ (spec.mem_labels hj (h0 j hj))).2 e)
  have := hperm.length_eq
  simpa using this

end Yuiv.C06Closure
