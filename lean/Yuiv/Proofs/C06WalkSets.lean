import Yuiv.Proofs.C06WalkSpec
import Yuiv.Proofs.C06WalkOrder
import Yuiv.Proofs.C06CycleHyp
/-
C06Walk — the driver's `sets` flag as a consequence of the two specifications: if `paths` partition the labels into the
classes of `Conn P` (walk model) and `cs` lists the same classes, each increasingly, ordered by least label (cube
reference), then sorting every path and sorting the paths by their heads gives exactly the list `cs` (`sets_of_specs`);
`sets_flag` is this for the walk model and `KhRef.circles`.
-/
namespace Yuiv.C06Walk
open Yuiv Yuiv.KhRef Yuiv.C06Canon Yuiv.C04Inv Yuiv.C06Cycle Yuiv.Drv.C06

theorem sets_of_specs (labels : Array Nat) (P : List (Nat × Nat)) (paths : List Path) (cs : Array (Array Nat))
    (hcov : ∀ e, e ∈ labels ↔ ∃ p ∈ paths, e ∈ p.edges)
    (hnd : (paths.flatMap (·.edges)).Nodup)
    (hne : ∀ p ∈ paths, p.edges ≠ [])
    (hcls : ∀ p ∈ paths, ∀ e ∈ p.edges, ∀ e', Conn P e e' ↔ e' ∈ p.edges)
    (spec : CirclesSpec labels P cs)
    (hsort : ∀ i, i < cs.size → (cs[i]!).toList.Pairwise (· < ·))
    (hord : ∀ i j, i < j → j < cs.size → (cs[i]!)[0]! < (cs[j]!)[0]!) :
    ((paths.map (fun p => sortNat p.edges)).toArray.qsort (fun x y => x.headD 0 < y.headD 0)).toList =
      cs.toList.map (·.toList) := by
  have hnd' := (List.pairwise_flatMap (R := (· ≠ ·))).1 hnd
  -- a path and a circle sharing a label are the same set, hence the same sorted list
  have hsame : ∀ p ∈ paths, ∀ i, i < cs.size → ∀ e, e ∈ p.edges → e ∈ cs[i]! →
      sortNat p.edges = (cs[i]!).toList := by
    intro p hp i hi e hep hei
    refine qsort_eq_of_perm (fun a => a) ?_ (hsort i hi)
    rw [List.toList_toArray, List.perm_ext_iff_of_nodup (hnd'.1 p hp) ((hsort i hi).imp Nat.ne_of_lt)]
    intro x
    rw [Array.mem_toList_iff, spec.mem_iff hi hei x, ← hcls p hp e hep x]
    exact ⟨fun c => ⟨(hcov x).2 ⟨p, hp, (hcls p hp e hep x).1 c⟩, c⟩, fun h => h.2⟩
  have hhead : ∀ a : Array Nat, a.toList.headD 0 = a[0]! := fun a => by
    rw [List.headD_eq_head?_getD, List.head?_eq_getElem?, Array.getElem?_toList, getElem!_def]; rfl
  -- the reference list is strictly increasing by heads
  have hB : (cs.toList.map (·.toList)).Pairwise (fun x y => x.headD 0 < y.headD 0) := by
    rw [List.pairwise_map, List.pairwise_iff_getElem]
    intro i j hi hj hij
    rw [Array.length_toList] at hi hj
    rw [hhead, hhead, Array.getElem_toList, Array.getElem_toList, ← getElem!_pos cs i hi, ← getElem!_pos cs j hj]
    exact hord i j hij hj
  have hBnd : (cs.toList.map (·.toList)).Nodup := hB.imp (fun h e => by rw [e] at h; omega)
  -- the sorted paths are pairwise different
  have hAnd : (paths.map (fun p => sortNat p.edges)).Nodup := by
    unfold List.Nodup
    rw [List.pairwise_map]
    refine hnd'.2.imp_of_mem ?_
    intro p q hp hq hd e
    obtain ⟨x, hx⟩ := List.exists_mem_of_ne_nil _ (hne p hp)
    have : x ∈ sortNat q.edges := by rw [← e]; exact mem_sortNat.2 hx
    exact hd x hx x (mem_sortNat.1 this) rfl
  have hAB : (paths.map (fun p => sortNat p.edges)).Perm (cs.toList.map (·.toList)) := by
    rw [List.perm_ext_iff_of_nodup hAnd hBnd]
    intro x
    simp only [List.mem_map]
    constructor
    · rintro ⟨p, hp, rfl⟩
      obtain ⟨e, he⟩ := List.exists_mem_of_ne_nil _ (hne p hp)
      obtain ⟨i, hi, hei⟩ := spec.cover e ((hcov e).2 ⟨p, hp, he⟩)
      refine ⟨cs[i]!, ?_, (hsame p hp i hi e he hei).symm⟩
      rw [getElem!_pos cs i hi]; exact Array.getElem_mem_toList hi
    · rintro ⟨c, hc, rfl⟩
      obtain ⟨i, hi, rfl⟩ := List.getElem_of_mem hc
      simp only [Array.length_toList] at hi
      simp only [Array.getElem_toList]
      obtain ⟨e, he⟩ := spec.nonempty hi
      obtain ⟨p, hp, hep⟩ := (hcov e).1 (spec.mem_labels hi he)
      refine ⟨p, hp, ?_⟩
      have := hsame p hp i hi e hep he
      rwa [getElem!_pos cs i hi] at this
  exact qsort_eq_of_perm (fun x : List Nat => x.headD 0) (by rw [List.toList_toArray]; exact hAB) hB

theorem sets_flag (L : Link) (hv : validK L = true) (s : Nat) (paths : List Path)
    (hp : componentsOf L (resolvedTypes L s) = .ok paths) :
    ((paths.map (fun p => sortNat p.edges)).toArray.qsort (fun x y => x.headD 0 < y.headD 0)).toList =
      (circles L (edgeLabels L) s).toList.map (·.toList) := by
  obtain ⟨paths', h1, h2, h3⟩ := stateCircles_spec L hv s
  rw [hp] at h1
  cases h1
  have hs := circles_sorted L s
  exact sets_of_specs (edgeLabels L) (statePairs L s) paths _ h2.cover h2.nodup (fun p hp => (h2.closed p hp).2) h3
    (circles_spec L (wf_of_validK L hv) s) hs.1 hs.2

end Yuiv.C06Walk
