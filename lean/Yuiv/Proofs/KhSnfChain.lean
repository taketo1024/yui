import Yuiv.Proofs.KhSnfDefs
import Yuiv.Proofs.Loop
/-
KhSnf — the arithmetic of `KhRef.chain` (a list of positive integers becomes a divisibility chain by gcd/lcm steps): the
two nested `for` loops are a fold of `gcdStep` over `chainPairs`; the invariant is `Chain.DvdBefore` ∧ `Chain.DvdRow`.
-/
namespace Yuiv.KhSnf
open Yuiv.KhRef

/-- the index pairs in the order `chain` visits them: (0,1),(0,2),…,(0,n−1),(1,2),… -/
def chainPairs (n : Nat) : List (Nat × Nat) :=
  (List.range n).flatMap (fun i => (List.range' (i+1) (n - (i+1))).map (fun j => (i, j)))

def gcdStep (d : List Int) (ij : Nat × Nat) : List Int :=
  let x := d.getD ij.1 0; let y := d.getD ij.2 0; let g : Int := Int.ofNat (Int.gcd x y)
  if g != 0 then (d.set ij.1 g).set ij.2 (x * y / g) else d

namespace Chain

/-- body of the inner loop of `chain` -/
def aStep (i : Nat) (d : Array Int) (j : Nat) : Array Int :=
  if (Int.ofNat (d[i]!.gcd d[j]!) != 0) = true then
    (d.set! i (Int.ofNat (d[i]!.gcd d[j]!))).set! j (d[i]! * d[j]! / Int.ofNat (d[i]!.gcd d[j]!))
  else d

/-- the inner loop of `chain` -/
def aInner (d : Array Int) (i : Nat) : Array Int :=
  (List.range' (i + 1) (d.size - (i + 1))).foldl (aStep i) d

theorem forIn_yield {α β} (l : List α) (b : β) (g : β → α → β) (f : α → β → Id (ForInStep β))
    (h : ∀ a b, f a b = pure (ForInStep.yield (g b a))) :
    (forIn l b f) = l.foldl g b :=
  Loop.forIn_eq_foldl (fun a _ b => h a b) b

theorem chain_eq (d : Array Int) : chain d = (List.range' 0 d.size).foldl aInner d := by
  unfold chain
  simp only [Std.Legacy.Range.forIn_eq_forIn_range', Std.Legacy.Range.size, Nat.sub_zero, Nat.add_sub_cancel, Nat.div_one]
  rw [forIn_yield (g := aInner)]
  · rfl
  · intro i d
    rw [forIn_yield (g := aStep i)]
    · rfl
    · intro j d; unfold aStep; split <;> rfl

theorem getElem!_toList (d : Array Int) (i : Nat) : d[i]! = d.toList.getD i 0 := by
  simp only [List.getD_eq_getElem?_getD, Array.getElem?_toList]
  by_cases h : i < d.size
  · simp [h]
  · simp [h]

theorem aStep_toList (i : Nat) (d : Array Int) (j : Nat) : (aStep i d j).toList = gcdStep d.toList (i, j) := by
  unfold aStep gcdStep
  simp only [getElem!_toList]
  split <;> simp

theorem gcdStep_length (d : List Int) (ij : Nat × Nat) : (gcdStep d ij).length = d.length := by
  unfold gcdStep; dsimp only; split <;> simp

theorem aStep_size (i : Nat) (d : Array Int) (j : Nat) : (aStep i d j).size = d.size := by
  rw [← Array.length_toList, aStep_toList, gcdStep_length, Array.length_toList]

theorem aStep_fold (i : Nat) (js : List Nat) (d : Array Int) :
    (js.foldl (aStep i) d).size = d.size ∧
      (js.foldl (aStep i) d).toList = (js.map (fun j => (i, j))).foldl gcdStep d.toList := by
  induction js generalizing d with
  | nil => exact ⟨rfl, rfl⟩
  | cons j js ih =>
    simp only [List.foldl_cons, List.map_cons]
    obtain ⟨h1, h2⟩ := ih (aStep i d j)
    rw [h1, h2, aStep_size, aStep_toList]
    exact ⟨rfl, rfl⟩

theorem aInner_fold (n : Nat) (is : List Nat) (d : Array Int) (hn : d.size = n) :
    (is.foldl aInner d).size = n ∧
      (is.foldl aInner d).toList =
        (is.flatMap (fun i => (List.range' (i+1) (n - (i+1))).map (fun j => (i, j)))).foldl gcdStep d.toList := by
  induction is generalizing d with
  | nil => exact ⟨hn, rfl⟩
  | cons i is ih =>
    simp only [List.foldl_cons, List.flatMap_cons, List.foldl_append]
    have h := aStep_fold i (List.range' (i + 1) (d.size - (i + 1))) d
    obtain ⟨h1, h2⟩ := ih (aInner d i) (by unfold aInner; rw [h.1, hn])
    rw [h1, h2]
    unfold aInner
    rw [h.2, hn]
    exact ⟨rfl, rfl⟩

/-- the entries after one step on the pair `i ≠ j` (also when the gcd is `0`, i.e. both entries are `0`) -/
theorem gcdStep_getD (d : List Int) (i j k : Nat) (hi : i < d.length) (hj : j < d.length) (hij : i ≠ j) :
    (gcdStep d (i, j)).getD k 0 =
      if k = j then d.getD i 0 * d.getD j 0 / Int.ofNat (Int.gcd (d.getD i 0) (d.getD j 0))
      else if k = i then Int.ofNat (Int.gcd (d.getD i 0) (d.getD j 0)) else d.getD k 0 := by
  unfold gcdStep
  dsimp only
  by_cases hg : Int.gcd (d.getD i 0) (d.getD j 0) = 0
  · have h0 := Int.gcd_eq_zero_iff.1 hg
    rw [hg]
    simp only [Int.ofNat_eq_natCast, Int.natCast_zero, bne_self_eq_false, Bool.false_eq_true, if_false, Int.ediv_zero]
    by_cases hkj : k = j
    · subst hkj; rw [if_pos rfl]; exact h0.2
    · by_cases hki : k = i
      · subst hki; rw [if_neg hkj, if_pos rfl]; exact h0.1
      · rw [if_neg hkj, if_neg hki]
  · have hg' : (Int.ofNat (Int.gcd (d.getD i 0) (d.getD j 0)) != 0) = true := by simpa using hg
    rw [if_pos hg']
    simp only [List.getD_eq_getElem?_getD, List.getElem?_set, List.length_set]
    by_cases hkj : k = j
    · subst hkj; simp [hj]
    · by_cases hki : k = i
      · subst hki; simp [hkj, hi, Ne.symm hkj]
      · simp [hkj, hki, Ne.symm hkj, Ne.symm hki]

def Pos (d : List Int) : Prop := ∀ k, k < d.length → 0 < d.getD k 0

theorem pos_iff (d : List Int) : Pos d ↔ ∀ x ∈ d, 0 < x := by
  constructor
  · intro h x hx
    obtain ⟨k, hk, rfl⟩ := List.mem_iff_getElem.1 hx
    have := h k hk
    simpa [hk] using this
  · intro h k hk
    have := h d[k] (List.getElem_mem hk)
    simpa [hk] using this

theorem gcdStep_pos (d : List Int) (i j : Nat) (hi : i < d.length) (hj : j < d.length) (hij : i ≠ j) (hp : Pos d) :
    Pos (gcdStep d (i, j)) := by
  intro k hk
  rw [gcdStep_length] at hk
  rw [gcdStep_getD d i j k hi hj hij]
  have hx := hp i hi
  have hy := hp j hj
  have hg : 0 < Int.gcd (d.getD i 0) (d.getD j 0) := Int.gcd_pos_of_ne_zero_left _ (by omega)
  split
  · apply Int.ediv_pos_of_pos_of_dvd (Int.mul_pos hx hy) (by simp)
    exact Dvd.dvd.mul_right (Int.gcd_dvd_left _ _) _
  · split
    · simpa using hg
    · exact hp k hk

theorem mem_chainPairs (n : Nat) (ij : Nat × Nat) (h : ij ∈ chainPairs n) : ij.1 < ij.2 ∧ ij.2 < n := by
  unfold chainPairs at h
  simp only [List.mem_flatMap, List.mem_range, List.mem_map, List.mem_range'_1] at h
  obtain ⟨i, hi, j, hj, rfl⟩ := h
  dsimp only
  omega

theorem fold_pos (n : Nat) (ps : List (Nat × Nat)) (hps : ∀ ij ∈ ps, ij.1 < ij.2 ∧ ij.2 < n) (d : List Int)
    (hn : d.length = n) (hp : Pos d) : Pos (ps.foldl gcdStep d) := by
  induction ps generalizing d with
  | nil => exact hp
  | cons ij ps ih =>
    rw [List.foldl_cons]
    have := hps ij List.mem_cons_self
    apply ih (fun x hx => hps x (List.mem_cons_of_mem _ hx))
    · rw [gcdStep_length, hn]
    · exact gcdStep_pos d ij.1 ij.2 (by omega) (by omega) (by omega) hp

/-- rows `< i` are finished: entry `i'` divides all later entries -/
def DvdBefore (n i : Nat) (d : List Int) : Prop :=
  ∀ i' j', i' < i → i' < j' → j' < n → d.getD i' 0 ∣ d.getD j' 0

/-- the current row `i` is finished up to `j` -/
def DvdRow (i j : Nat) (d : List Int) : Prop := ∀ j', i < j' → j' < j → d.getD i 0 ∣ d.getD j' 0

theorem gcdStep_inv (n i j : Nat) (d : List Int) (hn : d.length = n) (hij : i < j) (hj : j < n)
    (hB : DvdBefore n i d) (hR : DvdRow i j d) :
    DvdBefore n i (gcdStep d (i, j)) ∧ DvdRow i (j + 1) (gcdStep d (i, j)) := by
  have hgd := fun k => gcdStep_getD d i j k (by omega) (by omega) (by omega)
  have hgx : (Int.ofNat (Int.gcd (d.getD i 0) (d.getD j 0))) ∣ d.getD i 0 := Int.gcd_dvd_left _ _
  have hgy : (Int.ofNat (Int.gcd (d.getD i 0) (d.getD j 0))) ∣ d.getD j 0 := Int.gcd_dvd_right _ _
  have hl : d.getD i 0 * d.getD j 0 / Int.ofNat (Int.gcd (d.getD i 0) (d.getD j 0)) =
      d.getD i 0 * (d.getD j 0 / Int.ofNat (Int.gcd (d.getD i 0) (d.getD j 0))) := Int.mul_ediv_assoc _ hgy
  constructor
  · intro i' j' hi' hij' hj'
    rw [hgd i', hgd j', if_neg (by omega), if_neg (by omega)]
    split
    · rw [hl]; exact Dvd.dvd.mul_right (hB i' i hi' (by omega) (by omega)) _
    · split
      · exact Int.dvd_coe_gcd (hB i' i hi' (by omega) (by omega)) (hB i' j hi' (by omega) hj)
      · exact hB i' j' hi' hij' hj'
  · intro j' h1 h2
    rw [hgd i, hgd j', if_neg (by omega), if_pos rfl]
    split
    · rw [hl]; exact Dvd.dvd.mul_right hgx _
    · rw [if_neg (by omega)]
      exact Int.dvd_trans hgx (hR j' h1 (by omega))

theorem inner_inv (n i : Nat) : ∀ (m j0 : Nat) (d : List Int), d.length = n → i < j0 → j0 + m ≤ n →
    DvdBefore n i d → DvdRow i j0 d →
    (((List.range' j0 m).map (fun j => (i, j))).foldl gcdStep d).length = n ∧
      DvdBefore n i (((List.range' j0 m).map (fun j => (i, j))).foldl gcdStep d) ∧
      DvdRow i (j0 + m) (((List.range' j0 m).map (fun j => (i, j))).foldl gcdStep d) := by
  intro m
  induction m with
  | zero => intro j0 d hn _ _ hB hR; exact ⟨hn, hB, hR⟩
  | succ m ih =>
    intro j0 d hn hij hle hB hR
    rw [List.range'_succ, List.map_cons, List.foldl_cons]
    obtain ⟨h1, h2⟩ := gcdStep_inv n i j0 d hn hij (by omega) hB hR
    have := ih (j0 + 1) (gcdStep d (i, j0)) (by rw [gcdStep_length, hn]) (by omega) (by omega) h1 h2
    rwa [show j0 + 1 + m = j0 + (m + 1) by omega] at this

theorem outer_inv (n : Nat) : ∀ (m i0 : Nat) (d : List Int), d.length = n → i0 + m ≤ n → DvdBefore n i0 d →
    DvdBefore n (i0 + m) (((List.range' i0 m).flatMap
      (fun i => (List.range' (i+1) (n - (i+1))).map (fun j => (i, j)))).foldl gcdStep d) := by
  intro m
  induction m with
  | zero => intro i0 d _ _ hB; exact hB
  | succ m ih =>
    intro i0 d hn hle hB
    rw [List.range'_succ, List.flatMap_cons, List.foldl_append]
    obtain ⟨h1, h2, h3⟩ := inner_inv n i0 (n - (i0 + 1)) (i0 + 1) d hn (by omega) (by omega) hB
      (fun j' _ _ => by omega)
    rw [show i0 + 1 + (n - (i0 + 1)) = n by omega] at h3
    have hB' : DvdBefore n (i0 + 1) (((List.range' (i0 + 1) (n - (i0 + 1))).map (fun j => (i0, j))).foldl gcdStep d) := by
      intro i' j' hi' hij' hj'
      by_cases he : i' = i0
      · subst he; exact h3 j' hij' hj'
      · exact h2 i' j' (by omega) hij' hj'
    have := ih (i0 + 1) _ h1 (by omega) hB'
    rwa [show i0 + 1 + m = i0 + (m + 1) by omega] at this

end Chain
open Chain

theorem chain_eq_fold (d : Array Int) : (chain d).toList = (chainPairs d.size).foldl gcdStep d.toList := by
  rw [chain_eq, (aInner_fold d.size _ d rfl).2, chainPairs, List.range_eq_range']

theorem chain_size (d : Array Int) : (chain d).size = d.size := by
  rw [chain_eq, (aInner_fold d.size _ d rfl).1]

theorem chain_pos (d : Array Int) (h : ∀ x ∈ d.toList, 0 < x) : ∀ x ∈ (chain d).toList, 0 < x := by
  rw [chain_eq_fold, ← pos_iff]
  exact fold_pos d.size _ (mem_chainPairs d.size) _ (by simp) ((pos_iff _).2 h)

/-- the result is a divisibility chain (positivity is not needed: `gcd 0 0 = 0` leaves the entries unchanged) -/
theorem chain_dvd' (d : Array Int) :
    ∀ i j, i < j → j < d.size → (chain d).toList.getD i 0 ∣ (chain d).toList.getD j 0 := by
  intro i j hij hj
  rw [chain_eq_fold, chainPairs, List.range_eq_range']
  have := outer_inv d.size d.size 0 d.toList (by simp) (by omega) (fun i' j' h => by omega)
  exact this i j (by omega) hij hj

theorem chain_dvd (d : Array Int) (_h : ∀ x ∈ d.toList, 0 < x) :
    ∀ i j, i < j → j < d.size → (chain d).toList.getD i 0 ∣ (chain d).toList.getD j 0 :=
  chain_dvd' d

end Yuiv.KhSnf
