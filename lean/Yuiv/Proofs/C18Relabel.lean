import Yuiv.Proofs.C18Sweep
/-
C18 — relabelling (all links, valid or not).  The mirror image and the renumbering of the edges by an injective
map both replace every crossing `c` by `g c`, where `g` renames the labels injectively, keeps the strands through the
crossing and changes the sign table in a uniform way (`Relabel`).  For such a `g` the walks of `l.map g` are literally
those of `l`, the components are renamed, the crossing signs are mapped; same panics.
-/
namespace Yuiv.C18
open Yuiv

/-- `Link` with every edge label renamed (`Crossing::convert_edges` on every crossing) -/
def renumber (f : Nat → Nat) (l : Link) : Link := l.map (fun c => c.convertEdges f)

def Path.ren (f : Nat → Nat) (p : Path) : Path := ⟨p.edges.map f, p.closed⟩

def Inj (f : Nat → Nat) : Prop := ∀ a b, f a = f b → a = b

theorem convertEdges_edge (f : Nat → Nat) (c : Crossing) (j : Nat) : (c.convertEdges f).edge j = f (c.edge j) := by
  match j with
  | 0 => rfl
  | 1 => rfl
  | 2 => rfl
  | _ + 3 => rfl

theorem beq_inj (f : Nat → Nat) (hf : Inj f) (a b : Nat) : (f a == f b) = (a == b) := by
  by_cases h : a = b
  · subst h; simp
  · have : f a ≠ f b := fun h' => h (hf a b h')
    rw [beq_eq_false_iff_ne.2 h, beq_eq_false_iff_ne.2 this]

theorem mkPath_map (f : Nat → Nat) (hf : Inj f) (es : List Nat) : mkPath (es.map f) = (mkPath es).ren f := by
  unfold mkPath
  have h1 : (es.map f).length = es.length := List.length_map _
  have h2 : ((es.map f).head? = (es.map f).getLast?) ↔ (es.head? = es.getLast?) := by
    rw [List.head?_map, List.getLast?_map]
    cases es.head? <;> cases es.getLast? <;> simp
    exact ⟨fun h => hf _ _ h, fun h => by rw [h]⟩
  rw [h1]
  by_cases hc : es.length > 1 ∧ es.head? = es.getLast?
  · rw [if_pos hc, if_pos ⟨hc.1, h2.2 hc.2⟩]
    simp [Path.ren, List.map_dropLast]
  · rw [if_neg hc, if_neg (fun h => hc ⟨h.1, h2.1 h.2⟩)]
    rfl

theorem contains_map_inj (f : Nat → Nat) (hf : Inj f) (xs : List Nat) (a : Nat) :
    (xs.map f).contains (f a) = xs.contains a := by
  induction xs with
  | nil => rfl
  | cons x xs ih =>
    simp only [List.map_cons, List.contains_cons, ih]
    rw [beq_inj f hf]

def renSt (f : Nat → Nat) (st : List Path × List Nat) : List Path × List Nat :=
  (st.1.map (Path.ren f), st.2.map f)

def sgSt (φ : Nat → Nat) (σ : Sign → Sign) (st : List (Option Sign) × List Nat) : List (Option Sign) × List Nat :=
  (st.1.map (Option.map σ), st.2.map φ)

/-- `g` renames the labels of a crossing by the injective `φ`, keeps the strands through the crossing and whether it
is resolved, and changes the sign read off it by `σ` (mirror image: `φ = id`, `σ = flip`; renumbering: `σ = id`) -/
structure Relabel (g : Crossing → Crossing) (φ : Nat → Nat) (σ : Sign → Sign) : Prop where
  inj : Inj φ
  edge : ∀ c j, (g c).edge j = φ (c.edge j)
  pass : ∀ c j, (g c).ctype.pass j = c.ctype.pass j
  sign : ∀ c j, signAt (g c).ctype j = (signAt c.ctype j).map σ
  resolved : ∀ c, (g c).isResolved = c.isResolved

theorem resMap_eq_self {α} (f : α → α) (hf : ∀ a, f a = a) (x : Res α) : resMap f x = x := by
  cases x with
  | ok a => exact congrArg Res.ok (hf a)
  | panic => rfl
  | err => rfl

namespace Relabel
variable {g : Crossing → Crossing} {φ : Nat → Nat} {σ : Sign → Sign}

theorem pass_at (h : Relabel g φ σ) (l : Link) (i j : Nat) :
    (ctypeAt (l.map g) i).pass j = (ctypeAt l i).pass j := by
  unfold ctypeAt
  rw [List.getElem?_map]
  cases l[i]? with
  | none => rfl
  | some c => exact h.pass c j

theorem sign_at (h : Relabel g φ σ) (l : Link) (i j : Nat) :
    signAt (ctypeAt (l.map g) i) j = (signAt (ctypeAt l i) j).map σ := by
  unfold ctypeAt
  rw [List.getElem?_map]
  cases l[i]? with
  | none => rfl
  | some c => exact h.sign c j

theorem resolved_at (h : Relabel g φ σ) (l : Link) (i : Nat) :
    (ctypeAt (l.map g) i).isResolved = (ctypeAt l i).isResolved := by
  unfold ctypeAt
  rw [List.getElem?_map]
  cases l[i]? with
  | none => rfl
  | some c => exact h.resolved c

theorem edge_at (h : Relabel g φ σ) (l : Link) (i j : Nat) (hi : i < l.length) :
    edgeAt (l.map g) i j = φ (edgeAt l i j) := by
  unfold edgeAt
  rw [List.getElem?_map, List.getElem?_eq_getElem hi]
  exact h.edge _ j

theorem slotsFrom_eq (h : Relabel g φ σ) (l : List Crossing) (i : Nat) :
    slotsFrom (l.map g) i = (slotsFrom l i).map (fun s => (s.1, φ s.2)) := by
  induction l generalizing i with
  | nil => rfl
  | cons c cs ih =>
    have e0 : (g c).e0 = φ c.e0 := h.edge c 0
    have e1 : (g c).e1 = φ c.e1 := h.edge c 1
    have e2 : (g c).e2 = φ c.e2 := h.edge c 2
    have e3 : (g c).e3 = φ c.e3 := h.edge c 3
    rw [List.map_cons, slotsFrom, slotsFrom, ih, e0, e1, e2, e3]
    rfl

theorem passEdge_eq (h : Relabel g φ σ) (l : Link) (i j : Nat) (hi : i < l.length) :
    passEdge (l.map g) i j = passEdge l i j := by
  unfold passEdge slots
  simp only [h.edge_at l i j hi]
  show (List.find? _ (slotsFrom (l.map g) 0)).map _ = _
  rw [h.slotsFrom_eq, List.find?_map, Option.map_map]
  have hp : ((fun (s : (Nat × Nat) × Nat) => s.2 == φ (edgeAt l i j) && s.1 != (i, j)) ∘
        fun (s : (Nat × Nat) × Nat) => (s.1, φ s.2))
      = fun (s : (Nat × Nat) × Nat) => s.2 == edgeAt l i j && s.1 != (i, j) := by
    funext s
    show (φ s.2 == φ (edgeAt l i j) && s.1 != (i, j)) = _
    rw [beq_inj φ h.inj]
  rw [hp]
  cases List.find? (fun (s : (Nat × Nat) × Nat) => s.2 == edgeAt l i j && s.1 != (i, j)) (slotsFrom l 0) <;> rfl

theorem traverseLoop_eq (h : Relabel g φ σ) (l : Link) (start : Nat × Nat) :
    ∀ (fuel : Nat) (cur : Nat × Nat) (acc : List (Nat × Nat)), cur.1 < l.length →
      traverseLoop (l.map g) start fuel cur acc = traverseLoop l start fuel cur acc := by
  intro fuel
  induction fuel with
  | zero => intros; rfl
  | succ fuel ih =>
    intro cur acc hc
    unfold traverseLoop
    simp only [h.pass_at, h.passEdge_eq l cur.1 _ hc]
    cases hp : passEdge l cur.1 ((ctypeAt l cur.1).pass cur.2) with
    | none => rfl
    | some next =>
      simp only
      split
      · rfl
      · exact ih next (cur :: acc) (passEdge_range l _ _ next hp).1

theorem traverse_eq (h : Relabel g φ σ) (l : Link) (s : Nat × Nat) (hs : s.1 < l.length) :
    traverse (l.map g) s = traverse l s := by
  unfold traverse; rw [List.length_map]; exact h.traverseLoop_eq l s _ s [] hs

theorem sweepStep_eq (h : Relabel g φ σ) (l : Link) {α β : Type} (ψ : α → β) (passed : α → List Nat)
    (passed' : β → List Nat) (visit : α → List (Nat × Nat) → α) (visit' : β → List (Nat × Nat) → β)
    (j0 i0 : Nat) (hi : i0 < l.length) (st : α) (hp : passed' (ψ st) = (passed st).map φ)
    (hk : ∀ path, traverse l (i0, j0) = .ok path → visit' (ψ st) path = ψ (visit st path)) :
    sweepStep (l.map g) passed' visit' j0 (ψ st) i0 = resMap ψ (sweepStep l passed visit j0 st i0) := by
  unfold sweepStep
  rw [hp, h.edge_at l i0 j0 hi, h.traverse_eq l (i0, j0) hi, contains_map_inj φ h.inj]
  split
  · rfl
  · cases ht : traverse l (i0, j0) with
    | panic => rfl
    | err => rfl
    | ok path => exact congrArg Res.ok (hk path ht)

theorem compsStep_eq (h : Relabel g φ σ) (l : Link) (j0 : Nat) (st : List Path × List Nat) (i0 : Nat)
    (hi : i0 < l.length) :
    compsStep (l.map g) j0 (renSt φ st) i0 = resMap (renSt φ) (compsStep l j0 st i0) := by
  rw [compsStep_eq_sweep, compsStep_eq_sweep]
  refine h.sweepStep_eq l (renSt φ) _ _ _ _ j0 i0 hi st rfl fun path ht => ?_
  have hr := traverse_range l (i0, j0) hi path ht
  have hm : path.map (fun p => edgeAt (l.map g) p.1 p.2) = (path.map (fun p => edgeAt l p.1 p.2)).map φ := by
    rw [List.map_map]
    exact List.map_congr_left fun p hp => h.edge_at l p.1 p.2 (hr p hp)
  simp only [hm, mkPath_map φ h.inj, renSt]
  simp [Path.ren, List.map_reverse]

theorem compsPass_eq (h : Relabel g φ σ) (l : Link) (j0 : Nat) (st : List Path × List Nat) :
    compsPass (l.map g) j0 (renSt φ st) = resMap (renSt φ) (compsPass l j0 st) := by
  unfold compsPass
  rw [List.length_map]
  exact foldlM_resMap (renSt φ) _ _ _ (fun i hi st => h.compsStep_eq l j0 st i (List.mem_range.1 hi)) st

theorem components_eq (h : Relabel g φ σ) (l : Link) :
    components (l.map g) = resMap (List.map (Path.ren φ)) (components l) := by
  unfold components
  rw [show (([], []) : List Path × List Nat) = renSt φ ([], []) from rfl, h.compsPass_eq, bind_resMap, resMap_bind]
  congr 1; funext st0
  rw [h.compsPass_eq, bind_resMap, resMap_bind]
  congr 1; funext st1
  rw [h.compsPass_eq, bind_resMap, resMap_bind]
  rfl

theorem signsVisit_eq (h : Relabel g φ σ) (l : Link) (st : List (Option Sign) × List Nat) (p : Nat × Nat)
    (hp : p.1 < l.length) :
    signsVisit (l.map g) (sgSt φ σ st) p = sgSt φ σ (signsVisit l st p) := by
  unfold signsVisit
  rw [h.sign_at, h.edge_at l p.1 p.2 hp]
  cases signAt (ctypeAt l p.1) p.2 with
  | none => rfl
  | some s => simp [sgSt, List.map_set]

theorem foldl_signsVisit_eq (h : Relabel g φ σ) (l : Link) (path : List (Nat × Nat))
    (hr : ∀ p ∈ path, p.1 < l.length) (st : List (Option Sign) × List Nat) :
    path.foldl (signsVisit (l.map g)) (sgSt φ σ st) = sgSt φ σ (path.foldl (signsVisit l) st) := by
  induction path generalizing st with
  | nil => rfl
  | cons p ps ih =>
    rw [List.foldl_cons, List.foldl_cons, h.signsVisit_eq l st p (hr p List.mem_cons_self)]
    exact ih (fun q hq => hr q (List.mem_cons_of_mem _ hq)) _

theorem signsStep_eq (h : Relabel g φ σ) (l : Link) (j0 : Nat) (st : List (Option Sign) × List Nat)
    (i0 : Nat) (hi : i0 < l.length) :
    signsStep (l.map g) j0 (sgSt φ σ st) i0 = resMap (sgSt φ σ) (signsStep l j0 st i0) := by
  rw [signsStep_eq_sweep, signsStep_eq_sweep]
  exact h.sweepStep_eq l (sgSt φ σ) _ _ _ _ j0 i0 hi st rfl fun path ht =>
    h.foldl_signsVisit_eq l path (traverse_range l (i0, j0) hi path ht) st

theorem signsPass_eq (h : Relabel g φ σ) (l : Link) (j0 : Nat) (st : List (Option Sign) × List Nat) :
    signsPass (l.map g) j0 (sgSt φ σ st) = resMap (sgSt φ σ) (signsPass l j0 st) := by
  unfold signsPass
  rw [List.length_map]
  exact foldlM_resMap (sgSt φ σ) _ _ _ (fun i hi st => h.signsStep_eq l j0 st i (List.mem_range.1 hi)) st

theorem signsIncomplete_eq (h : Relabel g φ σ) (l : Link) (signs : List (Option Sign)) :
    signsIncomplete (l.map g) (signs.map (Option.map σ)) = signsIncomplete l signs := by
  unfold signsIncomplete
  rw [List.length_map]
  congr 1
  funext i
  rw [h.resolved_at, List.getD_eq_getElem?_getD, List.getD_eq_getElem?_getD, List.getElem?_map]
  cases signs[i]? with
  | none => rfl
  | some o => cases o <;> rfl

theorem crossingNum_eq (h : Relabel g φ σ) (l : Link) : crossingNum (l.map g) = crossingNum l := by
  unfold crossingNum
  rw [List.filter_map, List.length_map]
  congr 2
  funext c
  exact congrArg not (h.resolved c)

theorem crossingSigns_eq (h : Relabel g φ σ) (l : Link) :
    crossingSigns (l.map g) = resMap (List.map σ) (crossingSigns l) := by
  unfold crossingSigns
  have h0 : (List.replicate (l.map g).length (none : Option Sign), ([] : List Nat))
      = sgSt φ σ (List.replicate l.length none, []) := by
    simp [sgSt]
  rw [h0, h.signsPass_eq, h.crossingNum_eq]
  have hfin : ∀ st : List (Option Sign) × List Nat,
      (if ((sgSt φ σ st).1.filterMap id).length = crossingNum l then pure ((sgSt φ σ st).1.filterMap id) else .panic)
        = resMap (List.map σ)
            (if (st.1.filterMap id).length = crossingNum l then pure (st.1.filterMap id) else .panic) := by
    intro st
    rw [show (sgSt φ σ st).1.filterMap id = _ from filterMap_id_map σ st.1, List.length_map]
    split <;> rfl
  rw [bind_resMap, resMap_bind]
  congr 1; funext st
  rw [show signsIncomplete (l.map g) (sgSt φ σ st).1 = _ from h.signsIncomplete_eq l st.1]
  split
  · rw [h.signsPass_eq, bind_resMap, resMap_bind]
    congr 1; funext st1
    rw [h.signsPass_eq, bind_resMap, resMap_bind]
    congr 1; funext st2
    exact hfin st2
  · exact hfin st

end Relabel

theorem relabel_mirror : Relabel Crossing.mirror id Sign.flip where
  inj := fun _ _ h => h
  edge := fun c j => by rcases j with _ | _ | _ | _ <;> rfl
  pass := fun c j => pass_mirror_all c.ctype j
  sign := fun c j => signAt_mirror_all c.ctype j
  resolved := isResolved_mirror

theorem relabel_renumber (f : Nat → Nat) (hf : Inj f) : Relabel (fun c => c.convertEdges f) f id where
  inj := hf
  edge := convertEdges_edge f
  pass := fun _ _ => rfl
  sign := fun c j => (congrFun Option.map_id (signAt c.ctype j)).symm
  resolved := fun _ => rfl

theorem Path.ren_id (p : Path) : Path.ren id p = p := by
  cases p with
  | mk es c => exact congrArg (Path.mk · c) (List.map_id es)

theorem crossingSigns_mirror' (l : Link) :
    crossingSigns (mirror l) = resMap (List.map Sign.flip) (crossingSigns l) :=
  relabel_mirror.crossingSigns_eq l

theorem crossingSigns_renumber' (f : Nat → Nat) (hf : Inj f) (l : Link) :
    crossingSigns (renumber f l) = crossingSigns l :=
  ((relabel_renumber f hf).crossingSigns_eq l).trans (resMap_eq_self _ List.map_id _)

end Yuiv.C18

/-! both relabellings keep `Valid` (the users are the sign bridges to `KhRef`, whence the namespace) -/
namespace Yuiv.C18Bridge
open Yuiv
open Yuiv.C18 (Valid)

theorem allEdges_mirror (l : C18.Link) : C18.allEdges (C18.mirror l) = C18.allEdges l := by
  unfold C18.allEdges C18.mirror
  rw [List.flatMap_map]
  rfl

theorem valid_mirror (l : C18.Link) (hv : Valid l) : Valid (C18.mirror l) := by
  unfold C18.Valid; rw [allEdges_mirror]; exact hv

theorem allEdges_renumber (f : Nat → Nat) (l : C18.Link) :
    C18.allEdges (C18.renumber f l) = (C18.allEdges l).map f := by
  unfold C18.allEdges C18.renumber
  rw [List.flatMap_map, List.map_flatMap]
  rfl

theorem valid_renumber (f : Nat → Nat) (hf : C18.Inj f) (l : C18.Link) (hv : Valid l) :
    Valid (C18.renumber f l) := by
  unfold C18.Valid
  rw [allEdges_renumber]
  intro e he
  obtain ⟨x, hx, rfl⟩ := List.mem_map.1 he
  have : ((C18.allEdges l).map f).count (f x) = (C18.allEdges l).count x := by
    rw [List.count_eq_countP, List.countP_map, List.count_eq_countP]
    apply List.countP_congr
    intro y _
    simp only [Function.comp, beq_iff_eq]
    exact ⟨fun h => hf _ _ h, fun h => by rw [h]⟩
  rw [this]; exact hv x hx

end Yuiv.C18Bridge
