import Yuiv.Proofs.NumInteger
/-
num-integer 0.1.47 (external crate) — what yui's integer `EucRing` impls (`/repo/yui/src/misc/int_ext.rs`,
`impl_integer!` for i32 / i64 / i128) delegate `gcd`, `gcdx`, `lcm` to.  The hand model is
`Yuiv/Model/NumInteger.lean` (Mathlib-free, bit width `w` explicit, panics of a build with overflow checks explicit).

* N1  `gcd` (Stein's binary algorithm): for ALL representable operands and fuel `≥ 2·w` the result is
      `Int.gcd m n` (non-negative), except that the call panics exactly when that value is `2^(w-1)` (not
      representable: `gcd(MIN, 0)`, `gcd(0, MIN)`, `gcd(MIN, MIN)` — `.abs()` overflows).
* N2  `lcm` / `gcd_lcm`: `|m * (n / gcd)| = Int.lcm m n`; the call returns it when it is `< 2^(w-1)` and panics
      otherwise (checked `*`, `.abs()` of `MIN`); `lcm(0, 0) = 0`.
* N3  `extended_gcd` (over unbounded `Int`, fuel `≥ |n| + 1`): returns `(g, x, y)` with `m·x + n·y = g` and
      `g = Int.gcd m n ≥ 0` (the code negates all three when the last remainder is negative).
* N4  bridge: the primitives ASSUMED for the integer types by the C14 / C15 code models and by the translator
      prelude (`RInt.gcd/lcm`, `C14.intGcd/intLcm`, `C15.zGcd/zLcm`, `I32.gcdx`, `C14.FF.gcdx`) are the results of
      this model on every input on which the machine call does not panic.

Remaining trust: that the hand model reads the crate's source correctly (it is hand-written, not translated; checked
at result level by the differential runs' BigInt oracle), and `num-bigint`'s own `gcd`/`lcm`/`extended_gcd` for
`BigInt`, which is a different implementation and is not modelled.
-/
namespace Yuiv.NumInteger
open Yuiv Res Yuiv.Rust

/-- the `while m != n` loop on odd positive operands below `2^a`, `2^b` with fuel `≥ a + b` returns their gcd -/
theorem stein_loop_correct (w fuel a b x y : Nat) (hx : x % 2 = 1) (hy : y % 2 = 1) (hxa : x < 2 ^ a)
    (hyb : y < 2 ^ b) (hf : a + b ≤ fuel) :
    steinLoop w fuel (x : Int) (y : Int) = ok ((Nat.gcd x y : Nat) : Int) :=
  steinLoop_nat w fuel a b x y hx hy hxa hyb hf

example : steinLoop 64 12 (45 : Nat) (27 : Nat) = ok 9 := by decide

/-- N1, full strength: on ALL operands representable in the `w`-bit signed type, with fuel `≥ 2·w`, `gcd` returns the
non-negative `Int.gcd m n`, and panics exactly when that is `2^(w-1)` (the `.abs()` overflow at `min_value()`) -/
theorem stein_gcd_correct (w fuel : Nat) (m n : Int) (hw : 1 ≤ w) (hm : inRange w m) (hn : inRange w n)
    (hf : 2 * w ≤ fuel) :
    gcd w fuel m n = if Int.gcd m n = 2 ^ (w - 1) then panic else ok ((Int.gcd m n : Nat) : Int) :=
  gcd_spec w fuel m n hw hm hn hf

example : gcd 64 128 48 (-18) = ok 6 := by decide
example : gcd 8 16 (-128) 96 = ok 32 := by decide
example : inRange 64 48 ∧ inRange 64 (-18) := by decide

/-- N1 away from the special cases: neither operand is `min_value()` ⇒ the result is `ok (Int.gcd m n)` -/
theorem stein_gcd_ok (w fuel : Nat) (m n : Int) (hw : 1 ≤ w) (hm : inRange w m) (hn : inRange w n)
    (hm' : m ≠ minValue w) (hn' : n ≠ minValue w) (hf : 2 * w ≤ fuel) :
    gcd w fuel m n = ok ((Int.gcd m n : Nat) : Int) := by
  rw [gcd_spec w fuel m n hw hm hn hf, if_neg]
  intro h
  have hmb := natAbs_lt w m hm hm'
  have hnb := natAbs_lt w n hn hn'
  by_cases h0 : m = 0
  · subst h0; rw [Int.gcd_zero_left] at h; omega
  · have : Int.gcd m n ≤ m.natAbs := Nat.gcd_le_left _ (Int.natAbs_pos.2 h0)
    omega

example : (48 : Int) ≠ minValue 64 ∧ (-18 : Int) ≠ minValue 64 := by decide

/-- N1 at `min_value()`: `gcd(MIN, 0)`, `gcd(0, MIN)`, `gcd(MIN, MIN)` panic (`.abs()` of `MIN`, resp. of
`1 << (w-1)`), for every width and every fuel -/
theorem stein_gcd_min_panics (w fuel : Nat) (hw : 1 ≤ w) :
    gcd w fuel (minValue w) 0 = panic ∧ gcd w fuel 0 (minValue w) = panic ∧
      gcd w fuel (minValue w) (minValue w) = panic := by
  have hP := Nat.two_pow_pos (w - 1)
  have hne : minValue w ≠ 0 := by rw [minValue_eq]; omega
  have habs : absChk w (minValue w) = panic := by unfold absChk; rw [if_pos rfl]
  refine ⟨?_, ?_, ?_⟩
  · unfold gcd orZero; rw [if_pos (Or.inr rfl), if_neg hne, habs]
  · unfold gcd orZero; rw [if_pos (Or.inl rfl), if_pos rfl, habs]
  · unfold gcd
    rw [if_neg (by tauto), if_pos (Or.inl rfl)]
    have : shiftOf w (minValue w) (minValue w) = w - 1 := by
      unfold shiftOf
      obtain ⟨o, ho, _⟩ := natAbs_decomp w (minValue w) hne
      rw [(min_tz w (minValue w) rfl o ho).1]; omega
    rw [this, Int.shiftLeft_eq, Int.one_mul, wrap_min w hw, habs]

example : gcd 64 0 (minValue 64) (minValue 64) = panic := by decide

/-- N1 at `min_value()` with an ordinary second operand: the shift shortcut returns the true gcd -/
theorem stein_gcd_min_ok (w fuel : Nat) (n : Int) (hw : 1 ≤ w) (hn : inRange w n) (hn0 : n ≠ 0)
    (hn' : n ≠ minValue w) (hf : 2 * w ≤ fuel) :
    gcd w fuel (minValue w) n = ok ((Int.gcd (minValue w) n : Nat) : Int) ∧
      gcd w fuel n (minValue w) = ok ((Int.gcd n (minValue w) : Nat) : Int) := by
  have hP := Nat.two_pow_pos (w - 1)
  have hmin : inRange w (minValue w) := by rw [inRange_iff, minValue_eq]; omega
  have hlt : Int.gcd n (minValue w) ≠ 2 ^ (w - 1) := by
    have : Int.gcd n (minValue w) ≤ n.natAbs := Nat.gcd_le_left _ (Int.natAbs_pos.2 hn0)
    have := natAbs_lt w n hn hn'
    omega
  constructor
  · rw [gcd_spec w fuel _ n hw hmin hn hf, if_neg (by rw [Int.gcd_comm]; exact hlt)]
  · rw [gcd_spec w fuel n _ hw hn hmin hf, if_neg hlt]

example : gcd 8 0 (minValue 8) 24 = ok 8 := by decide

/-- the value the code computes, `|m * (n / gcd(m, n))|` (truncated division), is `Int.lcm m n`; for `m = n = 0`
both sides are `0` -/
theorem lcm_value_eq (m n : Int) : (m * n.tdiv ((Int.gcd m n : Nat) : Int)).natAbs = Int.lcm m n :=
  lcm_value m n

/-- N2: `gcd_lcm` on ALL representable operands, fuel `≥ 2·w`: `(Int.gcd, Int.lcm)`; panics exactly when the gcd
is `2^(w-1)` or the lcm is `≥ 2^(w-1)` (checked `*`, or `.abs()` of `MIN`) -/
theorem gcd_lcm_correct (w fuel : Nat) (m n : Int) (hw : 1 ≤ w) (hm : inRange w m) (hn : inRange w n)
    (hf : 2 * w ≤ fuel) :
    gcdLcm w fuel m n = if Int.gcd m n = 2 ^ (w - 1) ∨ 2 ^ (w - 1) ≤ Int.lcm m n then panic
      else ok (((Int.gcd m n : Nat) : Int), ((Int.lcm m n : Nat) : Int)) :=
  gcdLcm_spec w fuel m n hw hm hn hf

/-- N2: `lcm` on ALL representable operands (same panic condition) -/
theorem lcm_correct (w fuel : Nat) (m n : Int) (hw : 1 ≤ w) (hm : inRange w m) (hn : inRange w n)
    (hf : 2 * w ≤ fuel) :
    lcm w fuel m n = if Int.gcd m n = 2 ^ (w - 1) ∨ 2 ^ (w - 1) ≤ Int.lcm m n then panic
      else ok ((Int.lcm m n : Nat) : Int) :=
  lcm_spec w fuel m n hw hm hn hf

example : lcm 64 128 48 (-18) = ok 144 := by decide
example : lcm 8 16 64 3 = panic := by decide
example : gcdLcm 64 128 (-4) 6 = ok (2, 12) := by decide

/-- `lcm(0, 0) = 0` (the early return of `gcd_lcm`), any width, any fuel -/
theorem lcm_zero_zero (w fuel : Nat) : lcm w fuel 0 0 = ok 0 ∧ gcdLcm w fuel 0 0 = ok (0, 0) := ⟨rfl, rfl⟩

/-- N3: for ALL integers and fuel `≥ |n| + 1`, `extended_gcd(m, n)` returns `(g, x, y)` with the Bézout identity
`m·x + n·y = g` and `g = Int.gcd m n` (non-negative: the code returns `(r, s, t)` if the last remainder `r ≥ 0`
and `(0 - r, 0 - s, 0 - t)` otherwise) -/
theorem extended_gcd_correct (fuel : Nat) (m n : Int) (hf : n.natAbs + 1 ≤ fuel) :
    ∃ g x y, extendedGcd fuel m n = ok (g, x, y) ∧ m * x + n * y = g ∧ g = ((Int.gcd m n : Nat) : Int) :=
  extendedGcd_spec fuel m n hf

example : extendedGcd 19 48 (-18) = ok (6, -1, -3) := by decide
example : extendedGcd 49 (-18) 48 = ok (6, -3, -1) := by decide

/-- `extended_gcd_lcm`: the same triple, plus `Int.lcm m n` when it is `< 2^(w-1)` (panic otherwise) -/
theorem extended_gcd_lcm_correct (w fuel : Nat) (m n : Int) (hf : n.natAbs + 1 ≤ fuel) :
    ∃ x y, extendedGcd fuel m n = ok (((Int.gcd m n : Nat) : Int), x, y) ∧
      m * x + n * y = ((Int.gcd m n : Nat) : Int) ∧
      extendedGcdLcm w fuel m n = if Int.lcm m n < 2 ^ (w - 1)
        then ok ((((Int.gcd m n : Nat) : Int), x, y), ((Int.lcm m n : Nat) : Int)) else panic := by
  obtain ⟨g, x, y, he, hb, hg⟩ := extendedGcd_spec fuel m n hf
  subst hg
  refine ⟨x, y, he, hb, ?_⟩
  unfold extendedGcdLcm
  rw [he, Res.bind_ok]
  by_cases h0 : ((Int.gcd m n : Nat) : Int) = 0
  · rw [if_pos h0]
    obtain ⟨rfl, rfl⟩ := Int.gcd_eq_zero_iff.1 (by omega : Int.gcd m n = 0)
    exact (if_pos (Nat.two_pow_pos (w - 1))).symm
  · rw [if_neg h0, chk_abs_bind, lcm_value]

example : extendedGcdLcm 64 19 48 (-18) = ok ((6, -1, -3), 144) := by decide

/-- the gcd primitive assumed for the integer types (`RInt.gcd` of the translator prelude, `C14.intGcd`,
`C15.zGcd`) IS the result of the num-integer model on every pair of representable operands other than `MIN` -/
theorem gcd_prim_eq_stein (w fuel : Nat) (m n : Int) (hw : 1 ≤ w) (hm : inRange w m) (hn : inRange w n)
    (hm' : m ≠ minValue w) (hn' : n ≠ minValue w) (hf : 2 * w ≤ fuel) :
    gcd w fuel m n = ok (RInt.gcd m n) ∧ gcd w fuel m n = ok (C14.intGcd m n) ∧
      gcd w fuel m n = ok (C15.zGcd m n) :=
  ⟨stein_gcd_ok w fuel m n hw hm hn hm' hn' hf, stein_gcd_ok w fuel m n hw hm hn hm' hn' hf,
    stein_gcd_ok w fuel m n hw hm hn hm' hn' hf⟩

example : gcd 64 128 48 (-18) = ok (RInt.gcd 48 (-18)) := by decide

/-- the lcm primitive assumed for the integer types (`RInt.lcm`, `C14.intLcm`, `C15.zLcm`) IS the result of the
num-integer model whenever the machine call does not panic (gcd and lcm representable) -/
theorem lcm_prim_eq_model (w fuel : Nat) (m n : Int) (hw : 1 ≤ w) (hm : inRange w m) (hn : inRange w n)
    (hg : Int.gcd m n ≠ 2 ^ (w - 1)) (hl : Int.lcm m n < 2 ^ (w - 1)) (hf : 2 * w ≤ fuel) :
    lcm w fuel m n = ok (RInt.lcm m n) ∧ lcm w fuel m n = ok (C14.intLcm m n) ∧
      lcm w fuel m n = ok (C15.zLcm m n) := by
  have h : lcm w fuel m n = ok ((Int.lcm m n : Nat) : Int) := by
    rw [lcm_spec w fuel m n hw hm hn hf, if_neg (by omega)]
  exact ⟨h, h, h⟩

example : lcm 64 128 48 (-18) = ok (RInt.lcm 48 (-18)) := by decide

/-- the `I::gcdx` primitive of the `FF<p>` code models (`I32.gcdx` of the translator prelude, `C14.FF.gcdx`) IS
`extended_gcd` of the num-integer model, run with fuel `|y| + 2`, for ALL operands -/
theorem gcdx_prim_eq_model (x y : Int) :
    I32.gcdx x y = extendedGcd (y.natAbs + 2) x y ∧ C14.FF.gcdx x y = extendedGcd (y.natAbs + 2) x y :=
  ⟨i32_gcdx_eq x y, c14_gcdx_eq x y⟩

/-- hence `I::gcdx` never runs out of fuel, never panics (over unbounded `Int`), and returns the non-negative gcd
with a Bézout pair, for ALL operands -/
theorem gcdx_prim_correct (x y : Int) :
    ∃ s t, I32.gcdx x y = ok (((Int.gcd x y : Nat) : Int), s, t) ∧
      C14.FF.gcdx x y = ok (((Int.gcd x y : Nat) : Int), s, t) ∧ x * s + y * t = ((Int.gcd x y : Nat) : Int) := by
  obtain ⟨s, t, he, hb⟩ := c14_gcdx_spec x y
  exact ⟨s, t, by rw [i32_gcdx_eq, ← c14_gcdx_eq, he], he, hb⟩

example : I32.gcdx 3 7 = ok (1, -2, 1) := by decide

end Yuiv.NumInteger
