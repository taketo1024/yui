import Yuiv.Proofs.C03Uct
import Mathlib.LinearAlgebra.Matrix.Determinant.Basic
/-
C03Uct — concrete complexes used for the non-vacuity examples in `Props/C03Uct.lean`
(kept out of the Props file so that it contains property theorems only).
-/
namespace Yuiv.C03Uct.Ex
open Matrix Yuiv.C03 Yuiv.C03Uct

theorem isUnit_det_one {n : ℕ} : IsUnit (1 : Matrix (Fin n) (Fin n) ℤ).det := by
  rw [Matrix.det_one]; exact isUnit_one

def exA : Matrix (Fin 2) (Fin 2) ℤ := !![2, 0; 0, 3]
def exP : Matrix (Fin 2) (Fin 2) ℤ := !![1, 1; -3, -2]
def exQ : Matrix (Fin 2) (Fin 2) ℤ := !![-1, 3; 1, -2]

/-- `diag(2,3)` with its own diagonal … -/
theorem exA_diag : EquivDiag exA [2, 3] :=
  ⟨by decide, 1, 1, isUnit_det_one, isUnit_det_one, by decide⟩

/-- … and with its Smith normal form `diag(1,-6)` through non-trivial unimodular transforms -/
theorem exA_snf : EquivDiag exA [1, -6] :=
  ⟨by decide, exP, exQ, by rw [Matrix.det_fin_two]; decide, by rw [Matrix.det_fin_two]; decide, by decide⟩

/-- the complex `ℤ --(2,0)ᵀ--> ℤ² --(0 3)--> ℤ` : `H = ℤ/2`, next group `ℤ/3` -/
def exA1 : Matrix (Fin 2) (Fin 1) ℤ := !![2; 0]
def exB1 : Matrix (Fin 1) (Fin 2) ℤ := !![0, 3]
def exSwap : Matrix (Fin 2) (Fin 2) ℤ := !![0, 1; 1, 0]

theorem exBA : exB1 * exA1 = 0 := by decide

theorem exA1_snf : EquivDiag exA1 [2] :=
  ⟨by decide, 1, 1, isUnit_det_one, isUnit_det_one, by decide⟩

theorem exB1_snf : EquivDiag exB1 [3] :=
  ⟨by decide, 1, exSwap, isUnit_det_one, by rw [Matrix.det_fin_two]; decide, by decide⟩

instance : Fact (Nat.Prime 5) := ⟨by decide⟩

theorem exZero : (0 : Matrix (Fin 0) (Fin 2) ℤ) * exA = 0 := Matrix.zero_mul exA
theorem exZero_snf : EquivDiag (0 : Matrix (Fin 0) (Fin 2) ℤ) [] :=
  ⟨by decide, 1, 1, isUnit_det_one, isUnit_det_one, by decide⟩

end Yuiv.C03Uct.Ex
