import Yuiv.Proofs.KhiSpecLoops
import Mathlib.Data.List.Nodup
/-
KhiSpec — `reduce2` (parity reduction through a hash map) and the index map of the target generators.
-/
namespace Yuiv.KhiSpec
open Yuiv.C19

instance : LawfulBEq IGen := inferInstance
instance : LawfulHashable IGen := inferInstance

abbrev Cnt := Std.HashMap IGen Nat

def cntStep (cnt : Cnt) (x : IGen) : Cnt := cnt.insert x ((cnt.get? x).getD 0 + 1)

theorem cnt_fold (l : List IGen) (cnt0 : Cnt) (c0 : IGen → Nat)
    (h0 : ∀ y, cnt0[y]? = if c0 y = 0 then none else some (c0 y)) (y : IGen) :
    (l.foldl cntStep cnt0)[y]? = if c0 y + l.count y = 0 then none else some (c0 y + l.count y) := by
  induction l generalizing cnt0 c0 with
  | nil => rw [List.foldl_nil, List.count_nil, Nat.add_zero]; exact h0 y
  | cons x l ih =>
    rw [List.foldl_cons, ih (cntStep cnt0 x) (fun z => c0 z + if x == z then 1 else 0)]
    · rw [List.count_cons]
      have : c0 y + (if (x == y) = true then 1 else 0) + List.count y l =
          c0 y + (List.count y l + if (x == y) = true then 1 else 0) := by omega
      rw [this]
    · intro z
      unfold cntStep
      rw [Std.HashMap.getElem?_insert, Std.HashMap.get?_eq_getElem?]
      by_cases e : (x == z) = true
      · have : x = z := eq_of_beq e
        subst this
        rw [if_pos e, h0 x]
        by_cases hc : c0 x = 0
        · simp [hc]
        · simp [hc]
      · rw [if_neg e, h0 z]
        simp [e]

theorem reduce2_eq (xs : Array IGen) :
    reduce2 xs = Array.map (fun x => x.fst) (Array.filter (fun x => x.2 % 2 == 1)
      (xs.toList.foldl cntStep ∅).toArray) := by
  unfold reduce2
  rw [Array.forIn_pure_yield_eq_foldl]
  simp only [Id.run, pure, ← Array.foldl_toList]
  rfl

theorem mem_reduce2 (xs : Array IGen) (y : IGen) : y ∈ reduce2 xs ↔ xs.toList.count y % 2 = 1 := by
  rw [reduce2_eq, Array.mem_map]
  have hc := fun z => cnt_fold xs.toList ∅ (fun _ => 0) (fun _ => by simp) z
  simp only [Nat.zero_add] at hc
  constructor
  · rintro ⟨⟨z, k⟩, hm, rfl⟩
    rw [Array.mem_filter, Std.HashMap.mem_toArray_iff_getElem?_eq_some, hc z] at hm
    obtain ⟨h1, h2⟩ := hm
    by_cases h0 : List.count z xs.toList = 0
    · simp [h0] at h1
    · simp only [h0, if_false, Option.some.injEq] at h1
      subst h1
      simpa using h2
  · intro h
    refine ⟨(y, xs.toList.count y), ?_, rfl⟩
    rw [Array.mem_filter, Std.HashMap.mem_toArray_iff_getElem?_eq_some, hc y]
    have : ¬ List.count y xs.toList = 0 := by omega
    rw [if_neg this]
    exact ⟨rfl, by simpa using h⟩

theorem reduce2_nodup (xs : Array IGen) : (reduce2 xs).toList.Nodup := by
  rw [reduce2_eq, Array.toList_map, Array.toList_filter, Std.HashMap.toList_toArray]
  have hd := Std.HashMap.distinct_keys_toList (m := xs.toList.foldl cntStep ∅)
  have hd' := hd.filter (fun x : IGen × Nat => x.2 % 2 == 1)
  rw [List.Nodup, List.pairwise_map]
  exact hd'.imp (fun {a b} h e => by rw [e] at h; simp at h)

theorem idxOf_eq (tgt : Array IGen) :
    idxOf tgt = (List.range tgt.size).foldl (fun idx j => idx.insert tgt[j]! j) ∅ := by
  unfold idxOf
  rw [Std.Legacy.Range.forIn_eq_forIn_range']
  simp only [Std.Legacy.Range.size, Nat.sub_zero, Nat.add_sub_cancel, Nat.div_one]
  rw [← List.range_eq_range', List.forIn_pure_yield_eq_foldl]
  rfl

theorem idxOf_spec (tgt : Array IGen) (hnd : tgt.toList.Nodup) (y : IGen) (j : Nat) :
    (idxOf tgt)[y]? = some j ↔ j < tgt.size ∧ tgt[j]! = y := by
  rw [idxOf_eq]
  exact KhRefLoops.indexMap_getElem? tgt hnd tgt.size (Nat.le_refl _) y j

theorem orFold_testBit (f : IGen → Nat) (l : List IGen) (acc j : Nat) :
    (l.foldl (fun acc y => acc ||| 1 <<< f y) acc).testBit j = (acc.testBit j || l.any (fun y => f y == j)) := by
  induction l generalizing acc with
  | nil => simp
  | cons y l ih =>
    rw [List.foldl_cons, ih, Nat.testBit_or, Nat.one_shiftLeft, Nat.testBit_two_pow, List.any_cons, Bool.or_assoc]
    congr 2

theorem row_testBit (tgt : Array IGen) (hnd : tgt.toList.Nodup) (ys : Array IGen)
    (hcl : ∀ y ∈ reduce2 ys, y ∈ tgt) (j : Nat) :
    (Array.foldl (fun acc y => acc ||| 1 <<< ((idxOf tgt).get? y).getD 0) 0 (reduce2 ys)).testBit j = true ↔
      j < tgt.size ∧ ys.toList.count tgt[j]! % 2 = 1 := by
  rw [← Array.foldl_toList, orFold_testBit, Nat.zero_testBit, Bool.false_or, List.any_eq_true]
  constructor
  · rintro ⟨y, hy, e⟩
    have hy' : y ∈ reduce2 ys := Array.mem_toList_iff.1 hy
    obtain ⟨i, hi, rfl⟩ := Array.mem_iff_getElem.1 (hcl y hy')
    have := (idxOf_spec tgt hnd tgt[i] i).2 ⟨hi, getElem!_pos tgt i hi⟩
    rw [Std.HashMap.get?_eq_getElem?, this] at e
    simp only [Option.getD_some, beq_iff_eq] at e
    subst e
    rw [getElem!_pos tgt i hi]
    exact ⟨hi, (mem_reduce2 ys _).1 hy'⟩
  · rintro ⟨hj, hodd⟩
    refine ⟨tgt[j]!, Array.mem_toList_iff.2 ((mem_reduce2 ys _).2 hodd), ?_⟩
    rw [Std.HashMap.get?_eq_getElem?, (idxOf_spec tgt hnd _ j).2 ⟨hj, rfl⟩]
    simp

end Yuiv.KhiSpec
