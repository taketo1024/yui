import Yuiv.Proofs.C04InvUF
import Yuiv.Proofs.C04
/-
C04Inv (helper, no property theorem here): invariance of the state sum of the model under ANY permutation of the crossing
list.  The sum over states is a skein-style recursion over the crossing LIST, which depends only on the multiset of crossings
because the class count depends only on the SET of joined label pairs.  Stated for an arbitrary summand `F (weight) (class count)`
in an additive commutative monoid; `skein` is the summand `x^w · y^c` (`x` for `−q`, `y` for `q + q⁻¹`).
-/
open Yuiv.KhRef Yuiv.C04
namespace Yuiv.C04Inv

variable {R : Type} [CommRing R]

theorem popcount_succ' (s n : Nat) :
    popcount s (n + 1) = (if s.testBit 0 then 1 else 0) + popcount (s / 2) n := by
  unfold popcount
  rw [List.range_succ_eq_map, List.filter_cons, List.filter_map]
  have : ((fun i => s.testBit i) ∘ Nat.succ) = fun i => (s / 2).testBit i := by
    funext i; simp [Nat.testBit_succ]
  rw [this]
  split
  · simp; omega
  · simp

section skeinG
variable {M : Type} [AddCommMonoid M]

/-- `w` = number of 1-resolutions chosen so far, `P` = label pairs joined so far -/
noncomputable def skeinG (L : Set Nat) (F : Nat → Nat → M) : List Crossing → Nat → List (Nat × Nat) → M
  | [], w, P => F w (classCount L P)
  | c :: cs, w, P =>
    if c.ct.isResolved then skeinG L F cs w (P ++ arcs c c.ct)
    else skeinG L F cs w (P ++ arcs c (c.ct.resolve false)) + skeinG L F cs (w + 1) (P ++ arcs c (c.ct.resolve true))

theorem sum_range_doubleG (N : Nat) (g : Nat → M) :
    ∑ s ∈ Finset.range (2 * N), g s = ∑ t ∈ Finset.range N, (g (2 * t) + g (2 * t + 1)) := by
  induction N with
  | zero => simp
  | succ N ih =>
    rw [show 2 * (N + 1) = 2 * N + 1 + 1 by ring, Finset.sum_range_succ, Finset.sum_range_succ, ih,
      Finset.sum_range_succ, add_assoc]

theorem sum_range_pow_succ (n : Nat) (g : Nat → M) :
    ∑ s ∈ Finset.range (2 ^ (n + 1)), g s = ∑ t ∈ Finset.range (2 ^ n), (g (2 * t) + g (2 * t + 1)) := by
  rw [pow_succ, Nat.mul_comm, sum_range_doubleG]

theorem stateSumG_eq_skeinG (L : Set Nat) (F : Nat → Nat → M) (cs : List Crossing) (w : Nat) (P : List (Nat × Nat)) :
    ∑ s ∈ Finset.range (2 ^ nUnres cs),
        F (w + popcount s (nUnres cs)) (classCount L (P ++ pairsL cs (resTypes cs s)))
      = skeinG L F cs w P := by
  induction cs generalizing w P with
  | nil => simp [nUnres, skeinG, pairsL, popcount_zero_bits, one_nsmul]
  | cons c cs ih =>
    cases h : c.ct.isResolved with
    | true =>
      simp only [nUnres, skeinG, h, if_true, resTypes, pairsL]
      rw [← ih]
      simp only [List.append_assoc]
    | false =>
      simp only [nUnres, skeinG, h, Bool.false_eq_true, if_false]
      rw [sum_range_pow_succ, ← ih, ← ih, ← Finset.sum_add_distrib]
      refine Finset.sum_congr rfl fun t _ => ?_
      have e0 : (2 * t).testBit 0 = false := by simp [Nat.testBit_zero]
      have e1 : (2 * t + 1).testBit 0 = true := by simp [Nat.testBit_zero]
      have d0 : 2 * t / 2 = t := by omega
      have d1 : (2 * t + 1) / 2 = t := by omega
      simp only [resTypes, pairsL, h, Bool.false_eq_true, if_false, popcount_succ', e0, e1, d0, d1, if_true,
        List.append_assoc, Nat.zero_add, ← Nat.add_assoc]

theorem skeinG_congr (L : Set Nat) (F : Nat → Nat → M) (cs : List Crossing) (w : Nat) {P P' : List (Nat × Nat)}
    (h : ∀ p, p ∈ P ↔ p ∈ P') : skeinG L F cs w P = skeinG L F cs w P' := by
  induction cs generalizing w P P' with
  | nil => simp only [skeinG]; rw [classCount_congr rfl h]
  | cons c cs ih =>
    have hA : ∀ A : List (Nat × Nat), ∀ p, p ∈ P ++ A ↔ p ∈ P' ++ A := by
      intro A p; simp [List.mem_append, h p]
    simp only [skeinG]
    rw [ih w (hA _), ih w (hA _), ih (w + 1) (hA _)]

theorem skeinG_perm (L : Set Nat) (F : Nat → Nat → M) {cs cs' : List Crossing} (hp : cs.Perm cs') (w : Nat)
    (P : List (Nat × Nat)) : skeinG L F cs w P = skeinG L F cs' w P := by
  induction hp generalizing w P with
  | nil => rfl
  | cons c _ ih => simp only [skeinG, ih]
  | swap c1 c2 cs =>
    -- the two crossings contribute their arcs in either order: the same set of pairs
    have hsw : ∀ (w : Nat) (A B : List (Nat × Nat)),
        skeinG L F cs w ((P ++ A) ++ B) = skeinG L F cs w ((P ++ B) ++ A) := by
      intro w A B
      refine skeinG_congr L F cs w fun p => ?_
      rw [List.mem_append, List.mem_append, List.mem_append, List.mem_append, or_right_comm]
    simp only [skeinG]
    cases c1.ct.isResolved <;> cases c2.ct.isResolved <;>
      simp only [Bool.false_eq_true, if_true, if_false]
    · rw [hsw w, hsw (w + 1), hsw (w + 1) (arcs c2 (c2.ct.resolve true)), hsw (w + 1 + 1)]
      exact add_add_add_comm _ _ _ _
    · rw [hsw w, hsw (w + 1)]
    · rw [hsw w, hsw (w + 1)]
    · exact hsw w _ _
  | trans _ _ ih1 ih2 => rw [ih1, ih2]

end skeinG

noncomputable def skein (L : Set Nat) (x y : R) : List Crossing → Nat → List (Nat × Nat) → R :=
  skeinG L (fun w c => x ^ w * y ^ c)

theorem skein_cons (L : Set Nat) (x y : R) (c : Crossing) (cs : List Crossing) (w : Nat) (P : List (Nat × Nat)) :
    skein L x y (c :: cs) w P =
      if c.ct.isResolved then skein L x y cs w (P ++ arcs c c.ct)
      else skein L x y cs w (P ++ arcs c (c.ct.resolve false)) + skein L x y cs (w + 1) (P ++ arcs c (c.ct.resolve true)) :=
  rfl

theorem stateSum_eq_skein (L : Set Nat) (x y : R) (cs : List Crossing) (w : Nat) (P : List (Nat × Nat)) :
    ∑ s ∈ Finset.range (2 ^ nUnres cs),
        x ^ (w + popcount s (nUnres cs)) * y ^ classCount L (P ++ pairsL cs (resTypes cs s))
      = skein L x y cs w P :=
  stateSumG_eq_skeinG L (fun w c => x ^ w * y ^ c) cs w P

theorem skein_perm (L : Set Nat) (x y : R) {cs cs' : List Crossing} (hp : cs.Perm cs') (w : Nat)
    (P : List (Nat × Nat)) : skein L x y cs w P = skein L x y cs' w P :=
  skeinG_perm L (fun w c => x ^ w * y ^ c) hp w P

theorem labelSet_perm {l l' : Link} (hp : l'.toList.Perm l.toList) : labelSet l' = labelSet l := by
  ext x
  simp only [labelSet, Set.mem_ofPred_eq]
  constructor
  · rintro ⟨c, hc, hx⟩; exact ⟨c, by simpa using hp.mem_iff.mp (by simpa using hc), hx⟩
  · rintro ⟨c, hc, hx⟩; exact ⟨c, by simpa using hp.mem_iff.mpr (by simpa using hc), hx⟩

theorem WF_perm {l l' : Link} (hp : l'.toList.Perm l.toList) (h : WF l) : WF l' := by
  intro c hc
  exact h c (by simpa using hp.mem_iff.mp (by simpa using hc))

section
variable {M : Type} [AddCommMonoid M]

theorem stateSumG_link (F : Nat → Nat → M) (l : Link) (hwf : WF l) :
    ∑ s ∈ Finset.range (2 ^ crossingNum l), F (popcount s (crossingNum l)) (circleCount l s)
      = skeinG (labelSet l) F l.toList 0 [] := by
  rw [← stateSumG_eq_skeinG, crossingNum_eq]
  apply Finset.sum_congr rfl
  intro s _
  rw [(circleCount_eq l hwf s).1]
  simp [statePairs]

theorem stateSumG_perm (F : Nat → Nat → M) {l l' : Link} (hwf : WF l) (hp : l'.toList.Perm l.toList) :
    ∑ s ∈ Finset.range (2 ^ crossingNum l'), F (popcount s (crossingNum l')) (circleCount l' s)
      = ∑ s ∈ Finset.range (2 ^ crossingNum l), F (popcount s (crossingNum l)) (circleCount l s) := by
  rw [stateSumG_link F l hwf, stateSumG_link F l' (WF_perm hp hwf), labelSet_perm hp]
  exact skeinG_perm _ F hp 0 []

end

noncomputable def stateSum (x y : R) (l : Link) : R :=
  sumRange (2 ^ crossingNum l) (fun s => npow x (popcount s (crossingNum l)) * npow y (circleCount l s))

theorem evalJones_stateSum (q qinv : R) (nPos nNeg : Nat) (l : Link) :
    evalJones q qinv (crossingNum l) nPos nNeg (circleCount l) =
      npow (-1 : R) nNeg * zpow q qinv ((nPos : Int) - 2 * nNeg) * stateSum (-q) (q + qinv) l := rfl

theorem stateSum_eq_sum (x y : R) (l : Link) :
    stateSum x y l = ∑ s ∈ Finset.range (2 ^ crossingNum l), x ^ popcount s (crossingNum l) * y ^ circleCount l s := by
  unfold stateSum
  rw [sumRange_eq]
  simp only [npow_eq]

theorem stateSum_link (x y : R) (l : Link) (hwf : WF l) : stateSum x y l = skein (labelSet l) x y l.toList 0 [] := by
  rw [stateSum_eq_sum]
  exact stateSumG_link (fun w c => x ^ w * y ^ c) l hwf

theorem stateSum_perm (x y : R) {l l' : Link} (hwf : WF l) (hp : l'.toList.Perm l.toList) :
    stateSum x y l' = stateSum x y l := by
  rw [stateSum_eq_sum, stateSum_eq_sum]
  exact stateSumG_perm (fun w c => x ^ w * y ^ c) hwf hp

theorem nUnres_perm {cs cs' : List Crossing} (hp : cs.Perm cs') : nUnres cs = nUnres cs' := by
  induction hp with
  | nil => rfl
  | cons c _ ih => simp only [nUnres, ih]
  | swap c1 c2 cs => simp only [nUnres]; split <;> split <;> rfl
  | trans _ _ ih1 ih2 => rw [ih1, ih2]

theorem crossingNum_perm {l l' : Link} (hp : l'.toList.Perm l.toList) : crossingNum l' = crossingNum l := by
  rw [crossingNum_eq, crossingNum_eq, nUnres_perm hp]

end Yuiv.C04Inv
