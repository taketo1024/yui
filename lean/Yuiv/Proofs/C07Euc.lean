import Yuiv.Proofs.C07EucSnf
import Yuiv.Props.C07
/-
C07 over a lawful Euclidean operation record, part 2: the generic code of `HomologyCalc::calculate` (`calculateG`,
Proofs/C07EucModel.lean — at `intOps` it is the `Int` model, Proofs/C07EucTie.lean) on two runs of the library's SNF
(`Proofs/C07EucSnf.lean`).  The ℤ statements of `Props/C07Full.lean` are these at `(C09.intOps, id)` (`Proofs/C07Full.lean`).
-/
namespace Yuiv.C07
open Matrix Yuiv

section finspec
variable {R : Type*} [CommRing R] [NoZeroDivisors R]

/-- all generator clauses of `Props/C07.lean` for the literal ranges, both Smith forms given in full, rows of `p` numbered as
in the code: `0..r` free, `r..r+t` torsion -/
theorem fin_spec (n m k r1 r2 t : ℕ) (h12 : r1 + r2 ≤ n) (ht : t ≤ r1) (hr1m : r1 ≤ m) (hr2k : r2 ≤ k)
    (d1 : Matrix (Fin n) (Fin m) R) (d2 : Matrix (Fin k) (Fin n) R)
    (P1 P1i : Matrix (Fin n) (Fin n) R) (Q1 Q1i : Matrix (Fin m) (Fin m) R) (S1 : Matrix (Fin n) (Fin m) R)
    (P2 P2i : Matrix (Fin k) (Fin k) R) (Q2 Q2i : Matrix (Fin (n - r1)) (Fin (n - r1)) R)
    (S2 : Matrix (Fin k) (Fin (n - r1)) R) (a b : ℕ → R)
    (hdd : d2 * d1 = 0) (hP1 : P1 * P1i = 1) (hQ1 : Q1 * Q1i = 1) (hP2 : P2 * P2i = 1) (hQ2 : Q2 * Q2i = 1)
    (hS1 : S1 = P1 * d1 * Q1)
    (hdiag1 : ∀ i j, S1 i j = if i.val = j.val ∧ i.val < r1 then a i.val else 0)
    (ha : ∀ i, i < r1 → a i ≠ 0) (hunit : ∀ i, i < r1 - t → IsUnit (a i))
    (hS2 : S2 = P2 * d2' d2 P1i (rangeMap r1 (n - r1) n (by omega)) * Q2)
    (hdiag2 : ∀ i j, S2 i j = if i.val = j.val ∧ i.val < r2 then b i.val else 0)
    (hb : ∀ i, i < r2 → b i ≠ 0) :
    pFin n r1 r2 t h12 ht P1 Q2i * qFin n r1 r2 t h12 ht P1i Q2 = 1 ∧
    d2 * qFin n r1 r2 t h12 ht P1i Q2 = 0 ∧
    (∀ (x : Fin m → R) (i : Fin (n - r1 - r2 + t)),
      (i.val < n - r1 - r2 → (pFin n r1 r2 t h12 ht P1 Q2i *ᵥ (d1 *ᵥ x)) i = 0) ∧
      (n - r1 - r2 ≤ i.val →
        a (r1 - t + (i.val - (n - r1 - r2))) ∣ (pFin n r1 r2 t h12 ht P1 Q2i *ᵥ (d1 *ᵥ x)) i)) ∧
    (∀ z : Fin n → R, d2 *ᵥ z = 0 →
      (∀ i : Fin (n - r1 - r2 + t),
        (i.val < n - r1 - r2 → (pFin n r1 r2 t h12 ht P1 Q2i *ᵥ z) i = 0) ∧
        (n - r1 - r2 ≤ i.val → a (r1 - t + (i.val - (n - r1 - r2))) ∣ (pFin n r1 r2 t h12 ht P1 Q2i *ᵥ z) i)) →
      ∃ x : Fin m → R, d1 *ᵥ x = z) := by
  obtain ⟨e1, e2, _⟩ := homcalc_fin n m k r1 r2 t ht (Nat.le_trans (Nat.le_add_right r1 r2) h12) hr1m
    (Nat.le_sub_of_add_le' h12) d1 d2 P1 P1i Q1 Q1i S1 P2 P2i Q2 Q2i
    S2 a hdd hP1 (mul_eq_one_comm.mp hP1) hQ1 (mul_eq_one_comm.mp hP2) (mul_eq_one_comm.mp hQ2) hS1 hdiag1 ha hS2
    (fun i j hj => smith_col_zero hdiag2 i j hj)
  refine ⟨?_, ?_, ?_, ?_⟩
  · unfold pFin qFin pSum qSum
    rw [sub_rows_mul_sub_cols, e1, Matrix.submatrix_one_equiv]
  · unfold qFin qSum
    rw [mul_sub_cols, e2]
    rfl
  · intro x
    unfold pFin pSum
    refine (coords_iff (fun u => a (r1 - t + u)) _ _).2 ?_
    exact homcalc_boundary_coords d1 P1 Q1 Q1i S1 Q2i _ _ _ (rangeMap (r1 - t) t m (by omega))
      (fun u : Fin t => a (r1 - t + u.val)) hS1 hQ1
      (fun b j => smith_row_zero hdiag1 _ (Nat.le_add_right r1 b.val) j)
      (fun u j => smith_row hdiag1 (rangeMap (r1 - t) t n (by omega) u) _ rfl (by have := u.isLt; show r1 - t + u.val < r1; omega) j) x
  · intro z hz hc
    unfold pFin pSum at hc
    obtain ⟨hfree, htor⟩ := (coords_iff (fun u => a (r1 - t + u)) _ _).1 hc
    let eN : Fin r1 ⊕ Fin (n - r1) ≃ Fin n := finSumFinEquiv.trans (finCongr (by omega))
    let eB : Fin r2 ⊕ Fin (n - r1 - r2) ≃ Fin (n - r1) := finSumFinEquiv.trans (finCongr (by omega))
    refine homcalc_complete d1 d2 P1 P1i Q1 S1 P2 Q2 Q2i S2 eN eB (rangeMap (r1 - t) t r1 (by omega))
      (Fin.castLE hr1m) (Fin.castLE hr2k) (fun i => a i.val) (fun i => b i.val) hdd hS1 (mul_eq_one_comm.mp hP1)
      (fun i j => smith_row hdiag1 _ _ rfl i.isLt j)
      (fun i i' => smith_col hdiag1 (eN (Sum.inl i)) _ rfl i.isLt i')
      (fun i j => smith_row_zero hdiag1 _ (Nat.le_add_right r1 i.val) j)
      (fun i => ha i.val i.isLt) ?_ hS2 hQ2
      (fun i j => smith_row hdiag2 (Fin.castLE hr2k i) (eB (Sum.inl i)) rfl i.isLt j)
      (fun i => hb i.val i.isLt) z hz hfree htor
    intro i
    by_cases h : i.val < r1 - t
    · exact Or.inr (hunit i.val h)
    · exact Or.inl ⟨⟨i.val - (r1 - t), by have := i.isLt; omega⟩, Fin.ext (by simp [rangeMap]; omega)⟩

end finspec

variable {α K : Type} [CommRing K] [IsDomain K] {e : C09.EOps α} {φ : α → K}

/-- ALL clauses of property C07 for an answer `(rank, tors, P, Q)` to the complex `d1 : n×m`, `d2 : k×n` over the
operation record `e`, read through `φ : α → K` (`P` = `vectorize`, `Q` = `gen`; the first `rank` coordinates are
free, coordinate `rank + u` lives in `K/(φ tors[u])`) — except the values of `rank` and `tors` themselves, which the
theorems state separately -/
structure HomologySpecG (e : C09.EOps α) (φ : α → K) (d1 d2 : GMat α) (n m k : Nat) (rank : Nat) (tors : List α)
    (P Q : GMat α) : Prop where
  shP : P.r = rank + tors.length ∧ P.c = n
  shQ : Q.r = n ∧ Q.c = rank + tors.length
  /-- torsion orders are non-zero non-units, normalised (`normalizing_unit = 1`) -/
  tors_nonunit : ∀ x ∈ tors, φ x ≠ 0 ∧ ¬ IsUnit (φ x) ∧ φ (e.normUnit x) = 1
  /-- … in divisibility order -/
  tors_chain : tors.Pairwise (fun x y => φ x ∣ φ y)
  /-- `P·Q = I` -/
  pq : P.toM φ e.toROps (rank + tors.length) n * Q.toM φ e.toROps n (rank + tors.length) = 1
  /-- generators are cycles: `d2·Q = 0` -/
  cycles : d2.toM φ e.toROps k n * Q.toM φ e.toROps n (rank + tors.length) = 0
  /-- every boundary `d1·x` has zero free coordinates and torsion coordinates divisible by the orders -/
  bdry : ∀ (x : Fin m → K) (i : Fin (rank + tors.length)),
      (i.val < rank → (P.toM φ e.toROps (rank + tors.length) n *ᵥ (d1.toM φ e.toROps n m *ᵥ x)) i = 0) ∧
      (rank ≤ i.val → φ (tors.getD (i.val - rank) e.zero) ∣
        (P.toM φ e.toROps (rank + tors.length) n *ᵥ (d1.toM φ e.toROps n m *ᵥ x)) i)
  /-- `vectorize(gen i) = e_i` -/
  gens : ∀ i : Fin (rank + tors.length),
      P.toM φ e.toROps (rank + tors.length) n *ᵥ (Q.toM φ e.toROps n (rank + tors.length) *ᵥ Pi.single i 1) =
        Pi.single i 1
  /-- completeness: a cycle whose coordinates vanish modulo the orders is a boundary -/
  complete : ∀ z : Fin n → K, d2.toM φ e.toROps k n *ᵥ z = 0 →
      (∀ i : Fin (rank + tors.length),
        (i.val < rank → (P.toM φ e.toROps (rank + tors.length) n *ᵥ z) i = 0) ∧
        (rank ≤ i.val → φ (tors.getD (i.val - rank) e.zero) ∣ (P.toM φ e.toROps (rank + tors.length) n *ᵥ z) i)) →
      ∃ x : Fin m → K, d1.toM φ e.toROps n m *ᵥ x = z

/-- `HomologyCalc::{result, trans}` on two SNF records satisfying the SNF specification (for `d1`, resp. for a matrix
`D2` denoting `d2·P1⁻¹[:, r1..n]`): no panic, and every clause of the property holds -/
theorem calc_coreG (L : C09.LawfulEuc e φ) (d1 d2 D2 S1 P1 P1i Q1 Q1i S2 P2 P2i Q2 Q2i : GMat α) (n m k r1 r2 : Nat)
    (hdd : d2.toM φ e.toROps k n * d1.toM φ e.toROps n m = 0)
    (h1 : SnfDataG e φ d1 S1 P1 P1i Q1 Q1i n m r1) (hr1n : r1 ≤ n)
    (hD2 : D2.toM φ e.toROps k (n - r1) =
      d2' (d2.toM φ e.toROps k n) (P1i.toM φ e.toROps n n) (rangeMap r1 (n - r1) n (by omega)))
    (h2 : SnfDataG e φ D2 S2 P2 P2i Q2 Q2i k (n - r1) r2) :
    ∃ P Q : GMat α,
      calcResultG e ⟨S1, some P1, some P1i, none, none⟩ ⟨S2, none, none, some Q2, some Q2i⟩ =
        .ok (n - r1 - r2, ((List.range r1).map fun i => S1.get e.toROps i i).filter fun x => !e.isUnit x) ∧
      calcTransG e ⟨S1, some P1, some P1i, none, none⟩ ⟨S2, none, none, some Q2, some Q2i⟩ =
        .ok ⟨n, n - r1 - r2 + (((List.range r1).map fun i => S1.get e.toROps i i).filter fun x => !e.isUnit x).length,
          [P], [Q]⟩ ∧
      HomologySpecG e φ d1 d2 n m k (n - r1 - r2)
        (((List.range r1).map fun i => S1.get e.toROps i i).filter fun x => !e.isUnit x) P Q := by
  generalize hs1 : (⟨S1, some P1, some P1i, none, none⟩ : GSnf α) = s1
  generalize hs2 : (⟨S2, none, none, some Q2, some Q2i⟩ : GSnf α) = s2
  generalize htors : (((List.range r1).map fun i => S1.get e.toROps i i).filter fun x => !e.isUnit x) = tors
  have hres1 : s1.result = S1 := by rw [← hs1]
  have hres2 : s2.result = S2 := by rw [← hs2]
  have hr1 : s1.rank e.toROps = r1 :=
    snf_rank_of_diagG L s1 n m r1 (hres1 ▸ h1.shS) h1.r1r h1.r1c (hres1 ▸ h1.diag) (hres1 ▸ h1.nz)
  have hr2 : s2.rank e.toROps = r2 :=
    snf_rank_of_diagG L s2 k (n - r1) r2 (hres2 ▸ h2.shS) h2.r1r h2.r1c (hres2 ▸ h2.diag) (hres2 ▸ h2.nz)
  have hfac : s1.factors e.toROps = (List.range r1).map fun i => S1.get e.toROps i i := by
    have := snf_factors_of_diagG L s1 n m r1 (hres1 ▸ h1.shS) h1.r1r h1.r1c (hres1 ▸ h1.diag) (hres1 ▸ h1.nz)
    rw [this, hres1]
  have hfil : (s1.factors e.toROps).filter (fun a => !e.isUnit a) = tors := by rw [hfac, htors]
  obtain ⟨htl, htget, hones, hchain⟩ :=
    torsion_blockG L (fun i => S1.get e.toROps i i) r1 h1.chain tors htors.symm
  have h12 : r1 + r2 ≤ n := by have := h2.r1c; omega
  have hn : s1.result.r = n := by rw [hres1]; exact h1.shS.1
  refine ⟨pModelG e.toROps P1 Q2i n r1 r2 tors.length, qModelG e.toROps P1i Q2 n r1 r2 tors.length, ?_, ?_, ?_⟩
  · unfold calcResultG
    simp only [Res.assert, hn, hr1, hr2, ge_iff_le, h12, decide_true, ↓reduceIte, hfil, Res.pure_eq, Res.bind_ok]
  · exact calcTransG_eq e s1 s2 P1 P1i Q2 Q2i n r1 r2 tors.length (by rw [← hs1]) (by rw [← hs1]) (by rw [← hs2])
      (by rw [← hs2]) hn hr1 hr2 (by rw [hfil]) h12 htl h1.shP h1.shPi h2.shQ h2.shQi
  · have hS2 : S2.toM φ e.toROps k (n - r1) = P2.toM φ e.toROps k k *
        d2' (d2.toM φ e.toROps k n) (P1i.toM φ e.toROps n n) (rangeMap r1 (n - r1) n (by omega)) *
          Q2.toM φ e.toROps (n - r1) (n - r1) := by
      rw [← hD2]; exact h2.eqS
    obtain ⟨e1, e2, e3, e4⟩ := fin_spec n m k r1 r2 tors.length h12 htl h1.r1c h2.r1r
      (d1.toM φ e.toROps n m) (d2.toM φ e.toROps k n) (P1.toM φ e.toROps n n) (P1i.toM φ e.toROps n n) (Q1.toM φ e.toROps m m)
      (Q1i.toM φ e.toROps m m) (S1.toM φ e.toROps n m) (P2.toM φ e.toROps k k) (P2i.toM φ e.toROps k k) (Q2.toM φ e.toROps (n - r1) (n - r1))
      (Q2i.toM φ e.toROps (n - r1) (n - r1)) (S2.toM φ e.toROps k (n - r1))
      (fun i => φ (S1.get e.toROps i i)) (fun i => φ (S2.get e.toROps i i)) hdd h1.pp h1.qq h2.pp h2.qq h1.eqS
      (fun i j => h1.diag i.val j.val) h1.nz hones hS2 (fun i j => h2.diag i.val j.val) h2.nz
    have hp := pModelG_toM L.lawful P1 Q2i n r1 r2 tors.length h12 htl h1.shP h2.shQi
    have hq := qModelG_toM L.lawful P1i Q2 n r1 r2 tors.length h12 htl h1.shPi
    rw [← hp] at e1 e3 e4
    rw [← hq] at e1 e2
    -- torsion coordinate `u` is `tors[u] = S1[r1-t+u, r1-t+u]`
    have hord : ∀ i : Fin (n - r1 - r2 + tors.length), n - r1 - r2 ≤ i.val →
        tors.getD (i.val - (n - r1 - r2)) e.zero =
          S1.get e.toROps (r1 - tors.length + (i.val - (n - r1 - r2))) (r1 - tors.length + (i.val - (n - r1 - r2))) :=
      fun i hi => htget _ (by have := i.isLt; omega)
    refine ⟨?_, ?_, ?_, hchain, e1, e2, ?_, ?_, ?_⟩
    · constructor
      · simp only [pModelG, GMat.stack_r, GMat.mul_r, GMat.rows_r]; omega
      · simp only [pModelG, GMat.stack_c, GMat.mul_c, GMat.rows_c]; exact h1.shP.2
    · constructor
      · simp only [qModelG, GMat.concat_r, GMat.mul_r, GMat.cols_r]; exact h1.shPi.1
      · simp only [qModelG, GMat.concat_c, GMat.mul_c, GMat.cols_c]; omega
    · intro x hx
      rw [← htors] at hx
      obtain ⟨hx1, hx2⟩ := List.mem_filter.1 hx
      obtain ⟨i, hi, rfl⟩ := List.mem_map.1 hx1
      have hi' := List.mem_range.1 hi
      refine ⟨h1.nz i hi', ?_, h1.norm i hi'⟩
      intro hU
      rw [(L.isUnit_iff _).2 hU] at hx2
      exact absurd hx2 (by decide)
    · intro x i
      refine ⟨(e3 x i).1, fun h => ?_⟩
      rw [hord i h]
      exact (e3 x i).2 h
    · intro i
      rw [Matrix.mulVec_mulVec, e1, Matrix.one_mulVec]
    · intro z hz hc
      refine e4 z hz (fun i => ⟨(hc i).1, fun h => ?_⟩)
      rw [← hord i h]
      exact (hc i).2 h

/-- the matrix handed to the second SNF: `d2·P1⁻¹[:, r1..n]`, or `d2` itself when `r1 = 0` (then `P1⁻¹ = I`) -/
theorem D2_toMG (L : C09.LawfulEuc e φ) (d2 P1i : GMat α) (n k r1 : Nat) (hr1 : r1 ≤ n) (hd2 : d2.r = k ∧ d2.c = n)
    (hP1i : P1i.r = n ∧ P1i.c = n) (h0 : r1 = 0 → P1i.toM φ e.toROps n n = 1) :
    (if 0 < r1 then d2.mul e.toROps (P1i.cols e.toROps r1 n) else d2).r = k ∧
    (if 0 < r1 then d2.mul e.toROps (P1i.cols e.toROps r1 n) else d2).c = n - r1 ∧
    (if 0 < r1 then d2.mul e.toROps (P1i.cols e.toROps r1 n) else d2).toM φ e.toROps k (n - r1) =
      d2' (d2.toM φ e.toROps k n) (P1i.toM φ e.toROps n n) (rangeMap r1 (n - r1) n (by omega)) := by
  by_cases h : 0 < r1
  · simp only [if_pos h]
    exact ⟨hd2.1, rfl, by
      rw [toMG_mul L.lawful d2 _ k n (n - r1) hd2.1 hd2.2 rfl, toMG_cols P1i rfl n n]; rfl⟩
  · have hr : r1 = 0 := by omega
    subst hr
    simp only [Nat.lt_irrefl, if_false]
    refine ⟨hd2.1, hd2.2, ?_⟩
    rw [d2', h0 rfl]
    ext i j
    simp only [Matrix.mul_apply, submatrix_apply, Matrix.one_apply]
    rw [Finset.sum_eq_single (rangeMap 0 (n - 0) n (by omega) j)]
    · simp [GMat.toM, rangeMap]
    · intro b _ hb
      have hb' : ¬ (id b = rangeMap 0 (n - 0) n (by omega) j) := hb
      rw [if_neg hb', mul_zero]
    · intro h'; exact absurd (Finset.mem_univ _) h'

theorem processSnfG_eq (o : C09.ROps α) (snf : GSnfFn α) (d1 d2 D2 : GMat α) (s1 s2 : GSnf α) (P1i : GMat α)
    (r1 : Nat)
    (h1 : snf d1 (true, true, false, false) = .ok s1) (hr : s1.rank o = r1) (hpi : s1.pinv = some P1i)
    (hsh : d2.c = d1.r) (hP1i : P1i.r = d1.r ∧ P1i.c = d1.r) (hr1 : r1 ≤ d1.r)
    (hD2 : D2 = if 0 < r1 then d2.mul o (P1i.cols o r1 d1.r) else d2)
    (h2 : snf D2 (false, false, true, true) = .ok s2) :
    processSnfG o snf d1 d2 true = .ok (s1, s2) := by
  unfold processSnfG
  rw [h1]
  simp only [Res.bind_ok, hr]
  by_cases h : 0 < r1
  · rw [if_pos h] at hD2
    simp only [gt_iff_lt, h, ↓reduceIte, unwrap, hpi, Res.pure_eq, Res.bind_ok, colsRG_ok o P1i hr1 hP1i.2.ge,
      mulMatG_ok o d2 (P1i.cols o r1 d1.r) (hsh.trans hP1i.1.symm), ← hD2, h2]
  · rw [if_neg h] at hD2
    simp only [gt_iff_lt, h, if_false, Res.pure_eq, Res.bind_ok, ← hD2, h2]

/-- the answer of `trivial_result` (`d1 = 0`, `d2 = 0`): `H = Kⁿ`, identity coordinates -/
theorem trivial_specG (L : C09.LawfulEuc e φ) (d1 d2 : GMat α) (n m k : Nat) (h1 : d1.toM φ e.toROps n m = 0)
    (h2 : d2.toM φ e.toROps k n = 0) :
    HomologySpecG e φ d1 d2 n m k n [] (GMat.id e.toROps n) (GMat.id e.toROps n) := by
  have hid : (GMat.id e.toROps n).toM φ e.toROps (n + ([] : List α).length) n = 1 := toMG_id L.lawful n
  have hid' : (GMat.id e.toROps n).toM φ e.toROps n (n + ([] : List α).length) = 1 := toMG_id L.lawful n
  refine ⟨⟨rfl, rfl⟩, ⟨rfl, rfl⟩, fun x hx => absurd hx (by simp), List.Pairwise.nil, ?_, ?_, ?_, ?_, ?_⟩
  · rw [hid, hid']; exact Matrix.one_mul _
  · rw [h2]; exact Matrix.zero_mul _
  · intro x i
    rw [h1]
    refine ⟨fun _ => by simp, fun h => ?_⟩
    have := i.isLt
    simp only [List.length_nil, Nat.add_zero] at this
    omega
  · intro i
    rw [Matrix.mulVec_mulVec, hid, hid', Matrix.one_mul, Matrix.one_mulVec]
  · intro z hz hc
    refine ⟨0, ?_⟩
    rw [Matrix.mulVec_zero]
    funext i
    have := (hc i).1 i.isLt
    rw [hid, Matrix.one_mulVec] at this
    exact this.symm

theorem rank_sum {n r1 r2 : Nat} (h : r1 + r2 ≤ n) : n - r1 - r2 + r1 + r2 = n := by omega

theorem calculateG_end_to_end (L : C09.LawfulEuc e φ) (d1 d2 : GMat α) (hsh : d2.c = d1.r)
    (hdd : d2.toM φ e.toROps d2.r d1.r * d1.toM φ e.toROps d1.r d1.c = 0) :
    ∃ (N : Nat) (st1 : C09.St α d1.r d1.c) (st2 : C09.St α d2.r d2.c)
      (rank : Nat) (tors : List α) (T : GTrans α) (P Q : GMat α),
      (∀ fuel, N ≤ fuel → C09.snfCalc e true (fun s => .ok s) fuel (toC09G e.toROps d1) = .ok st1) ∧
      (∀ fuel, N ≤ fuel → C09.snfCalc e true (fun s => .ok s) fuel (toC09G e.toROps d2) = .ok st2) ∧
      (∀ fuel, N ≤ fuel → calculateG e (snfC09G e fuel) d1 d2 true = .ok (rank, tors, some T)) ∧
      T.forwardMat e.toROps = .ok P ∧ T.backwardMat e.toROps = .ok Q ∧
      C09.isSnfShape e st1.t = true ∧ C09.isSnfShape e st2.t = true ∧
      rank + nzCountG e st1 + nzCountG e st2 = d1.r ∧
      nzCountG e st1 = (d1.toM φ e.toROps d1.r d1.c).rank ∧
      nzCountG e st2 = (d2.toM φ e.toROps d2.r d1.r).rank ∧
      tors = nonUnitFactorsG e st1 ∧
      HomologySpecG e φ d1 d2 d1.r d1.c d2.r rank tors P Q := by
  obtain ⟨N1, st1, r1, hN1, hsnf1, hdat1, hsh1, hnz1, hrk1, htors1, h0⟩ := snfC09G_total L d1
  obtain ⟨N3, st3, r3, hN3, _, _, hsh3, hnz3, hrk3, _, _⟩ := snfC09G_total L d2
  rw [hsh] at hrk3
  have hassert : Res.assert (d1.r == d2.c) = .ok () := by rw [hsh, beq_self_eq_true]; rfl
  by_cases htriv : (d1.isZero e.toROps && d2.isZero e.toROps) = true
  · -- `trivial_result`
    obtain ⟨hz1', hz2'⟩ := Bool.and_eq_true_iff.1 htriv
    have hd1 : d1.toM φ e.toROps d1.r d1.c = 0 := by ext i j; exact isZero_getG L.lawful d1 hz1' _ _
    have hd2 : d2.toM φ e.toROps d2.r d1.r = 0 := by ext i j; exact isZero_getG L.lawful d2 hz2' _ _
    have hr1 : r1 = 0 := by rw [← hrk1, hd1, Matrix.rank_zero]
    have hr3 : r3 = 0 := by rw [← hrk3, hd2, Matrix.rank_zero]
    refine ⟨max N1 N3, st1, st3, d1.r, [], GTrans.id d1.r, GMat.id e.toROps d1.r, GMat.id e.toROps d1.r,
      fun fuel hf => hN1 fuel (le_trans (le_max_left _ _) hf), fun fuel hf => hN3 fuel (le_trans (le_max_right _ _) hf),
      ?_, rfl, rfl, hsh1, hsh3, by rw [hnz1, hnz3, hr1, hr3]; rfl, hnz1.trans hrk1.symm, hnz3.trans hrk3.symm, ?_,
      trivial_specG L d1 d2 _ _ _ hd1 hd2⟩
    · intro fuel _
      unfold calculateG
      rw [hassert, Res.bind_ok, if_pos htriv]
      rfl
    · rw [htors1, hr1]; rfl
  · -- the general branch
    obtain ⟨hD2r, hD2c, hD2m⟩ := D2_toMG L d2 (ofC09G e.toROps st1.pinv) d1.r d2.r r1 hdat1.r1r ⟨rfl, hsh⟩
      hdat1.shPi h0
    generalize hD2def : (if 0 < r1 then d2.mul e.toROps ((ofC09G e.toROps st1.pinv).cols e.toROps r1 d1.r) else d2)
      = D2 at hD2r hD2c hD2m
    obtain ⟨N2, S2, P2, P2i, Q2, Q2i, r2, hsnf2, hdat2⟩ := snfC09G_spec' L D2 d2.r (d1.r - r1) hD2r hD2c
    obtain ⟨P, Q, hres, htr, hspec⟩ := calc_coreG L d1 d2 D2 (ofC09G e.toROps st1.t) (ofC09G e.toROps st1.p)
      (ofC09G e.toROps st1.pinv) (ofC09G e.toROps st1.q) (ofC09G e.toROps st1.qinv) S2 P2 P2i Q2 Q2i d1.r d1.c d2.r
      r1 r2 hdd hdat1 hdat1.r1r hD2m hdat2
    have hr23 : r2 = r3 := by
      rw [← hdat2.rank_eq, hD2m, rank_d2'K hdat1.r1r _ ((ofC09G e.toROps st1.p).toM φ e.toROps d1.r d1.r) _ hdat1.pp
        (fun i j hj => hdat1.d2P1i_cols hdd i j hj), hrk3]
    have hr12 : r1 + r2 ≤ d1.r := (Nat.le_sub_iff_add_le' hdat1.r1r).1 hdat2.r1c
    refine ⟨max N1 (max N2 N3), st1, st3, d1.r - r1 - r2, _,
      ⟨d1.r, d1.r - r1 - r2 +
        (((List.range r1).map fun i => (ofC09G e.toROps st1.t).get e.toROps i i).filter
          fun x => !e.isUnit x).length, [P], [Q]⟩, P, Q,
      fun fuel hf => hN1 fuel (le_trans (le_max_left _ _) hf),
      fun fuel hf => hN3 fuel (le_trans (le_trans (le_max_right _ _) (le_max_right _ _)) hf), ?_, rfl, rfl, hsh1, hsh3,
      by rw [hnz1, hnz3, ← hr23]; exact rank_sum hr12, hnz1.trans hrk1.symm, hnz3.trans hrk3.symm, htors1.symm, hspec⟩
    intro fuel hf
    have hf1 : N1 ≤ fuel := le_trans (le_max_left _ _) hf
    have hf2 : N2 ≤ fuel := le_trans (le_trans (le_max_left _ _) (le_max_right _ _)) hf
    have hp := processSnfG_eq e.toROps (snfC09G e fuel) d1 d2 D2
      ⟨ofC09G e.toROps st1.t, some (ofC09G e.toROps st1.p), some (ofC09G e.toROps st1.pinv), none, none⟩
      ⟨S2, none, none, some Q2, some Q2i⟩ (ofC09G e.toROps st1.pinv) r1
      (by rw [hsnf1 fuel hf1]; rfl)
      (snf_rank_of_diagG L _ d1.r d1.c r1 hdat1.shS hdat1.r1r hdat1.r1c hdat1.diag hdat1.nz) rfl hsh hdat1.shPi
      hdat1.r1r hD2def.symm (by rw [hsnf2 fuel hf2]; rfl)
    unfold calculateG
    rw [hassert, Res.bind_ok, if_neg htriv, hp, Res.bind_ok]
    simp only [hres, htr, Res.bind_ok, if_true, Res.pure_eq]

/-- executable test of an answer `(rank, tors, P, Q)` over the operation record `e`: `P·Q = I`, `d2·Q = 0`, the free
rows of `P·d1` vanish and torsion row `u` of `P·d1` is divisible by `tors[u]` (`%` of the record).  Only used to RUN
the composite model in the examples of `Props/C07Euc.lean`. -/
def checkG (e : C09.EOps α) (d1 d2 : GMat α) (rank : Nat) (tors : List α) (P Q : GMat α) : Bool :=
  let o := e.toROps
  P.r == rank + tors.length && P.c == d1.r && Q.r == d1.r && Q.c == rank + tors.length &&
  allIJ P.r Q.c (fun i j => o.beq (GMat.dot o P Q i j) (if i = j then o.one else o.zero)) &&
  allIJ d2.r Q.c (fun i j => o.isZero (GMat.dot o d2 Q i j)) &&
  allIJ P.r d1.c (fun i j =>
    if i < rank then o.isZero (GMat.dot o P d1 i j)
    else e.dvd (tors.getD (i - rank) o.zero) (GMat.dot o P d1 i j) || o.isZero (GMat.dot o P d1 i j))

/-- `d1`, `d2`, expected `(rank, tors)`: run `calculateG` on the C09 SNF with fuel 50, compare `(rank, tors)` (with
the `==` of the record) and test the returned coordinate maps with `checkG` -/
def runsToG (e : C09.EOps α) (d1 d2 : GMat α) (rank : Nat) (tors : List α) : Bool :=
  match calculateG e (snfC09G e 50) d1 d2 true with
  | .ok (rk, ts, some t) =>
    match t.forwardMat e.toROps, t.backwardMat e.toROps with
    | .ok P, .ok Q =>
      rk == rank && ts.length == tors.length && (List.zipWith e.beq ts tors).all (fun b => b) &&
        checkG e d1 d2 rk ts P Q
    | _, _ => false
  | _ => false

end Yuiv.C07
