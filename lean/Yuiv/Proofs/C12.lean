import Yuiv.Model.C12Rings
import Yuiv.Proofs.C12Buf
import Yuiv.Proofs.Res
import Yuiv.Proofs.ListAux
import Mathlib.Tactic.Ring
import Mathlib.Algebra.BigOperators.Group.Finset.Basic
import Mathlib.Algebra.BigOperators.Ring.Finset
import Mathlib.Data.Matrix.Mul
import Mathlib.Data.Fintype.BigOperators

/-
C12 — the triangular solver of triang.rs: the outer loop keeps `A·x + b` and, on a unit-triangular matrix, returns with a
zero scratch buffer (`outer_spec`, `solveBuf_spec`); hence every column gets the result a fresh buffer gives, whatever
buffer it is handed (`solveCols_spec`, `runSched_spec`), and `solve_triangular` solves `A·X = Y`.
-/
namespace Yuiv.C12
open Yuiv

/-- the model operations `Scal R` are the ring operations of `R`; `inv` finds only inverses -/
class LawfulScal (R : Type) [CommRing R] [Scal R] : Prop where
  zero_eq : (Scal.zero : R) = 0
  one_eq : (Scal.one : R) = 1
  add_eq : ∀ a b : R, Scal.add a b = a + b
  sub_eq : ∀ a b : R, Scal.sub a b = a - b
  mul_eq : ∀ a b : R, Scal.mul a b = a * b
  neg_eq : ∀ a : R, Scal.neg a = -a
  isZero_iff : ∀ a : R, Scal.isZero a = true ↔ a = 0
  inv_mul : ∀ a b : R, Scal.inv a = some b → a * b = 1

section
variable {R : Type} [CommRing R] [Scal R] [LawfulScal R]
open LawfulScal

theorem isZero_false_iff (a : R) : isZero a = false ↔ a ≠ 0 := by
  constructor
  · intro h h0; rw [(isZero_iff a).2 h0] at h; cases h
  · intro h; cases hz : isZero a
    · rfl
    · exact absurd ((isZero_iff a).1 hz) h

theorem lsum_eq (l : List R) : lsum l = l.sum := by
  induction l with
  | nil => simp [lsum, zero_eq]
  | cons a l ih => simp [lsum, add_eq, ih]

theorem colSum_nil (k : Nat) : colSum ([] : List (Nat × R)) k = 0 := by
  simp [colSum, lsum, zero_eq]

theorem colSum_cons (e : Nat × R) (l : List (Nat × R)) (k : Nat) :
    colSum (e :: l) k = (if e.1 = k then e.2 else 0) + colSum l k := by
  unfold colSum
  by_cases h : e.1 = k
  · simp [h, lsum, add_eq]
  · have : (e.1 == k) = false := by simpa using h
    simp [this, h]

theorem colSum_append (l₁ l₂ : List (Nat × R)) (k : Nat) :
    colSum (l₁ ++ l₂) k = colSum l₁ k + colSum l₂ k := by
  induction l₁ with
  | nil => simp [colSum_nil]
  | cons e l ih => simp [colSum_cons, ih, add_assoc]

theorem colSum_flatMap {β : Type} (l : List β) (f : β → List (Nat × R)) (k : Nat) :
    colSum (l.flatMap f) k = (l.map fun x => colSum (f x) k).sum := by
  induction l with
  | nil => exact colSum_nil k
  | cons x l ih => rw [List.flatMap_cons, colSum_append, ih, List.map_cons, List.sum_cons]

omit [Scal R] [LawfulScal R] in
theorem sum_range_single (g : Nat → R) (n k : Nat) (h : ∀ j, j ≠ k → g j = 0) :
    ((List.range n).map g).sum = if k < n then g k else 0 := by
  induction n with
  | zero => rfl
  | succ n ih =>
    rw [List.range_succ, List.map_append, List.sum_append, ih, List.map_singleton, List.sum_singleton]
    by_cases h1 : k < n
    · rw [if_pos h1, if_pos (Nat.lt_succ_of_lt h1), h n (Nat.ne_of_gt h1), add_zero]
    · by_cases h2 : n = k
      · rw [if_neg h1, h2, if_pos (Nat.lt_succ_self k), zero_add]
      · rw [if_neg h1, if_neg fun h => h1 (Nat.lt_of_le_of_ne (Nat.le_of_lt_succ h) (Ne.symm h2)), h n h2, add_zero]

theorem flatMap_range_single {β : Type} (f : Nat → List β) (n k : Nat) (h : ∀ j, j ≠ k → f j = []) :
    (List.range n).flatMap f = if k < n then f k else [] := by
  induction n with
  | zero => rfl
  | succ n ih =>
    rw [List.range_succ, List.flatMap_append, ih, List.flatMap_singleton]
    by_cases h1 : k < n
    · rw [if_pos h1, if_pos (Nat.lt_succ_of_lt h1), h n (Nat.ne_of_gt h1), List.append_nil]
    · by_cases h2 : n = k
      · rw [if_neg h1, h2, if_pos (Nat.lt_succ_self k), List.nil_append]
      · rw [if_neg h1, if_neg fun h => h1 (Nat.lt_of_le_of_ne (Nat.le_of_lt_succ h) (Ne.symm h2)), h n h2,
          List.append_nil]

theorem colSum_reverse (l : List (Nat × R)) (k : Nat) : colSum l.reverse k = colSum l k := by
  induction l with
  | nil => rfl
  | cons e l ih => simp [colSum_append, colSum_cons, colSum_nil, ih, add_comm]

theorem colSum_filter_nz (l : List (Nat × R)) (k : Nat) :
    colSum (l.filter fun e => !isZero e.2) k = colSum l k := by
  induction l with
  | nil => rfl
  | cons e l ih =>
    by_cases hz : isZero e.2 = true
    · have h0 : e.2 = 0 := (isZero_iff _).1 hz
      rw [List.filter_cons_of_neg (by simp [hz]), ih, colSum_cons, h0]; simp
    · rw [List.filter_cons_of_pos (by simpa using hz), colSum_cons, colSum_cons, ih]

theorem bget_colStep (x : R) (b : Array R) (c : List (Nat × R)) (hc : ∀ e ∈ c, e.1 < b.size) (k : Nat) :
    bget (colStep x b c) k = bget b k - colSum c k * x := by
  induction c generalizing b with
  | nil => simp [colStep, colSum_nil]
  | cons e c ih =>
    have he : e.1 < b.size := hc e (by simp)
    unfold colStep
    by_cases hz : isZero e.2 = true
    · have h0 : e.2 = 0 := (isZero_iff _).1 hz
      rw [if_pos hz, ih b (fun e' h' => hc e' (List.mem_cons_of_mem _ h')), colSum_cons, h0, ite_self, zero_add]
    · rw [if_neg hz, ih _ (fun e' h' => by rw [size_bset]; exact hc e' (List.mem_cons_of_mem _ h')), bget_bset,
        colSum_cons]
      by_cases hk : e.1 = k
      · subst hk
        rw [if_pos ⟨rfl, he⟩, if_pos rfl, sub_eq, mul_eq]
        ring
      · rw [if_neg (fun h => hk h.1), if_neg hk, zero_add]

/-- one column list per column, stored rows in range -/
structure WF (A : SpMat R) : Prop where
  size : A.cols.size = A.ncols
  rows : ∀ j, ∀ e ∈ col A j, e.1 < A.nrows

omit [CommRing R] [LawfulScal R] in
theorem colVec_rows {A : SpMat R} (h : WF A) (j : Nat) : ∀ e ∈ colVec A j, e.1 < A.nrows := by
  intro e he
  exact h.rows j e (List.mem_of_mem_filter he)

theorem entry_colVec (A : SpMat R) (i j : Nat) : colSum (colVec A j) i = entry A i j := by
  unfold colVec entry; exact colSum_filter_nz _ _

/-- `(A·x)_i` for the partial solution stored in `es` -/
def axAt (A : SpMat R) (n : Nat) (es : List (Nat × R)) (i : Nat) : R :=
  ∑ j ∈ Finset.range n, entry A i j * colSum es j

theorem axAt_append (A : SpMat R) (n : Nat) (l₁ l₂ : List (Nat × R)) (i : Nat) :
    axAt A n (l₁ ++ l₂) i = axAt A n l₁ i + axAt A n l₂ i := by
  unfold axAt
  rw [← Finset.sum_add_distrib]
  exact Finset.sum_congr rfl fun j _ => by rw [colSum_append, mul_add]

theorem axAt_single (A : SpMat R) (n j : Nat) (x : R) (hj : j < n) (i : Nat) :
    axAt A n [(j, x)] i = entry A i j * x := by
  unfold axAt
  rw [Finset.sum_eq_single j]
  · rw [colSum_cons, colSum_nil, if_pos rfl, add_zero]
  · intro b _ hb
    rw [colSum_cons, colSum_nil, if_neg (Ne.symm hb), add_zero, mul_zero]
  · exact fun h => absurd (Finset.mem_range.2 hj) h

/-- Any pivot order in which no column has an entry in the row of an earlier pivot works: a processed row is never
written again, so the buffer stays zero there. -/
theorem outer_spec (A : SpMat R) (hA : WF A) (n : Nat) (hn : A.nrows = n) (todo : List (Nat × R))
    (hlt : ∀ ju ∈ todo, ju.1 < n) (done : List Nat) (b : Array R) (hb : b.size = n) (es : List (Nat × R)) :
    Res.Sat (fun r : Array R × List (Nat × R) => r.1.size = n ∧
        (∀ i, axAt A n r.2 i + bget r.1 i = axAt A n es i + bget b i) ∧
        ((done ++ todo.map (·.1)).Pairwise (fun k j => entry A k j = 0) → (∀ ju ∈ todo, entry A ju.1 ju.1 = ju.2) →
          (∀ k ∈ done, bget b k = 0) → ∀ k ∈ done ++ todo.map (·.1), bget r.1 k = 0))
      (∃ ju ∈ todo, inv ju.2 = none) False (outer A b es todo) := by
  induction todo generalizing done b es with
  | nil => exact ⟨hb, fun _ => rfl, fun _ _ hz => by rwa [List.map_nil, List.append_nil]⟩
  | cons ju rest ih =>
    have hj : ju.1 < n := hlt ju List.mem_cons_self
    have hrest : ∀ ju' ∈ rest, ju'.1 < n := fun ju' h' => hlt ju' (List.mem_cons_of_mem _ h')
    have hpn : (∃ ju' ∈ rest, inv ju'.2 = none) → ∃ ju' ∈ ju :: rest, inv ju'.2 = none :=
      fun ⟨ju', h', e⟩ => ⟨ju', List.mem_cons_of_mem _ h', e⟩
    rw [List.map_cons, List.append_cons]
    unfold outer
    rw [if_neg (by omega)]
    by_cases hzj : isZero (bget b ju.1) = true
    · rw [if_pos hzj]
      refine (ih hrest (done ++ [ju.1]) b hb es).mono (fun r ⟨hs, hinv, hzero⟩ => ⟨hs, hinv, fun hord hd hz => ?_⟩) hpn id
      refine hzero hord (fun ju' h' => hd ju' (List.mem_cons_of_mem _ h')) fun k hk => ?_
      rcases List.mem_append.1 hk with hk | hk
      · exact hz k hk
      · rw [List.mem_singleton.1 hk]; exact (isZero_iff _).1 hzj
    · rw [if_neg hzj]
      cases hi : inv ju.2 with
      | none => exact ⟨ju, List.mem_cons_self, hi⟩
      | some ui =>
        have hstep : ∀ k, bget (colStep (mul (bget b ju.1) ui) b (colVec A ju.1)) k =
            bget b k - entry A k ju.1 * (bget b ju.1 * ui) := fun k => by
          rw [bget_colStep _ _ _ (fun e he => by rw [hb, ← hn]; exact colVec_rows hA _ e he), entry_colVec, mul_eq]
        refine (ih hrest (done ++ [ju.1]) _ (by rw [size_colStep, hb]) _).mono
          (fun r ⟨hs, hinv, hzero⟩ => ⟨hs, fun i => ?_, fun hord hd hz => ?_⟩) hpn id
        · rw [hinv i, axAt_append, axAt_single A n ju.1 _ hj, hstep, mul_eq]
          ring
        · refine hzero hord (fun ju' h' => hd ju' (List.mem_cons_of_mem _ h')) fun k hk => ?_
          rw [hstep]
          rcases List.mem_append.1 hk with hk | hk
          · have h0 : entry A k ju.1 = 0 :=
              (List.pairwise_append.1 (List.pairwise_append.1 hord).1).2.2 k hk ju.1 (List.mem_singleton.2 rfl)
            rw [hz k hk, h0, zero_mul, sub_zero]
          · rw [List.mem_singleton.1 hk, hd ju List.mem_cons_self]
            calc bget b ju.1 - ju.2 * (bget b ju.1 * ui) = bget b ju.1 - bget b ju.1 * (ju.2 * ui) := by ring
              _ = 0 := by rw [inv_mul _ _ hi, mul_one, sub_self]

/-- `A` is an `n×n` triangular matrix: every stored NON-ZERO entry is on the right side (stored zeros may be
anywhere), every column stores exactly one diagonal entry `u j`, and `u j` is a unit (`inv` finds `v j`). -/
structure UnitTriang (upper : Bool) (A : SpMat R) (n : Nat) (u v : Nat → R) : Prop where
  wf : WF A
  nrows : A.nrows = n
  ncols : A.ncols = n
  tri : ∀ j < n, ∀ e ∈ col A j, isZero e.2 = false → (if upper then e.1 ≤ j else j ≤ e.1)
  diag : ∀ j < n, (col A j).filter (fun e => e.1 == j) = [(j, u j)]
  unit : ∀ j < n, inv (u j) = some (v j)

theorem colSum_eq_zero (l : List (Nat × R)) (k : Nat) (h : ∀ e ∈ l, e.1 = k → e.2 = 0) : colSum l k = 0 := by
  induction l with
  | nil => exact colSum_nil k
  | cons e l ih =>
    rw [colSum_cons, ih (fun e' h' => h e' (by simp [h']))]
    by_cases hk : e.1 = k
    · simp [hk, h e (by simp) hk]
    · simp [hk]

variable {upper : Bool} {A : SpMat R} {n : Nat} {u v : Nat → R}

theorem UnitTriang.entry_diag (hA : UnitTriang upper A n u v) (j : Nat) (hj : j < n) : entry A j j = u j := by
  unfold entry colSum
  rw [hA.diag j hj]; simp [lsum, add_eq, zero_eq]

theorem UnitTriang.entry_off (hA : UnitTriang upper A n u v) (k j : Nat) (hj : j < n)
    (hk : if upper then j < k else k < j) : entry A k j = 0 := by
  apply colSum_eq_zero
  intro e he hek
  by_contra hne
  have := hA.tri j hj e he ((isZero_false_iff _).2 hne)
  cases upper <;> simp only [Bool.false_eq_true, if_true, if_false] at this hk <;> omega

omit [CommRing R] [LawfulScal R] in
theorem UnitTriang.collectDiag_eq (hA : UnitTriang upper A n u v) : collectDiag A = (List.range n).map u := by
  unfold collectDiag
  rw [hA.ncols, List.map_eq_flatMap]
  refine List.flatMap_congr fun j hj => ?_
  rw [ListAux.filterMap_ite (fun e : Nat × R => e.1 == j) (·.2), hA.diag j (List.mem_range.1 hj)]; rfl

theorem bget_zeroBuf (n i : Nat) : bget (zeroBuf n : Array R) i = 0 := by
  unfold bget zeroBuf
  by_cases h : i < n <;> simp [Array.getD_eq_getD_getElem?, h, zero_eq]

theorem eq_zeroBuf (b : Array R) (n : Nat) (hb : b.size = n) (h : ∀ k, k < n → bget b k = 0) : b = zeroBuf n := by
  apply Array.ext
  · simp [zeroBuf, hb]
  · intro i h1 h2
    rw [← bget_eq_getElem b i h1, h i (by omega)]
    simp [zeroBuf, zero_eq]

theorem axAt_nil (A : SpMat R) (n i : Nat) : axAt A n [] i = 0 := by
  simp [axAt, colSum_nil]

theorem axAt_reverse (A : SpMat R) (n : Nat) (es : List (Nat × R)) (i : Nat) : axAt A n es.reverse i = axAt A n es i := by
  simp [axAt, colSum_reverse]

theorem mem_ite_reverse {β : Type} (c : Bool) (l : List β) (x : β) :
    x ∈ (if c = true then l.reverse else l) ↔ x ∈ l := by
  cases c
  · exact Iff.rfl
  · exact List.mem_reverse

theorem solveBuf_spec (hA : UnitTriang upper A n u v) (b : Array R) (hb : b.size = n) :
    ∃ es, solveBuf upper A (collectDiag A) b = .ok (zeroBuf n, es) ∧ (∀ e ∈ es, e.1 < n) ∧
      ∀ i, axAt A n es i = bget b i := by
  have hen : enumFrom 0 (collectDiag A) = (List.range n).map (fun j => (j, u j)) := by
    rw [hA.collectDiag_eq, List.range_eq_range', enumFrom_range']
  generalize hjs : (if upper then ((List.range n).map (fun j => (j, u j))).reverse
    else (List.range n).map (fun j => (j, u j))) = js
  have hmem : ∀ ju ∈ js, ju.1 < n ∧ ju.2 = u ju.1 := by
    intro ju h
    rw [← hjs] at h
    obtain ⟨j, hj, rfl⟩ := List.mem_map.1 ((mem_ite_reverse upper _ ju).1 h)
    exact ⟨List.mem_range.1 hj, rfl⟩
  have hkeys : (js.map fun ju : Nat × R => ju.1) = if upper then (List.range n).reverse else List.range n := by
    rw [← hjs]
    cases upper <;> simp [List.map_map, Function.comp_def]
  have hord : ([] ++ js.map fun ju : Nat × R => ju.1).Pairwise fun k j => entry A k j = 0 := by
    rw [List.nil_append, hkeys]
    cases upper
    · exact List.pairwise_lt_range.imp_of_mem fun {a c} _ hc hac => hA.entry_off a c (List.mem_range.1 hc) hac
    · exact List.pairwise_reverse.2 (List.pairwise_lt_range.imp_of_mem fun {a c} ha _ hac =>
        hA.entry_off c a (List.mem_range.1 ha) hac)
  obtain ⟨⟨b', es'⟩, ho, hs, hinv, hzero⟩ := Res.sat_total.1 ((outer_spec A hA.wf n hA.nrows js (fun ju h => (hmem ju h).1)
    [] b hb []).mono (fun _ h => h) (fun ⟨ju, h, e⟩ => by
      rw [(hmem ju h).2, hA.unit _ (hmem ju h).1] at e; cases e) id)
  replace hs : b'.size = n := hs
  have hz : ∀ k, k < n → bget b' k = 0 := fun k hk =>
    hzero hord (fun ju h => by rw [(hmem ju h).2, hA.entry_diag _ (hmem ju h).1]) nofun k (by
      rw [List.nil_append, hkeys]; cases upper <;> simp [hk])
  have hidx := outer_index A n js (fun ju h => (hmem ju h).1) b [] nofun b' es' ho
  have hb' : b' = zeroBuf n := eq_zeroBuf b' n hs hz
  have hall : b'.all isZero = true := by
    rw [Array.all_eq_true]; intro i hi
    rw [← bget_eq_getElem b' i hi, hz i (by omega)]; exact (isZero_iff _).2 rfl
  have hidx' : ∀ e ∈ (if upper then es'.reverse else es'), e.1 < n :=
    fun e he => hidx e ((mem_ite_reverse upper es' e).1 he)
  have hall2 : ((if upper then es'.reverse else es').all fun e => decide (e.1 < A.ncols)) = true := by
    rw [List.all_eq_true]; intro e he; rw [hA.ncols]; exact decide_eq_true (hidx' e he)
  refine ⟨if upper then es'.reverse else es', ?_, hidx', fun i => ?_⟩
  · unfold solveBuf
    rw [hen]
    simp only []
    rw [hjs, ho]
    subst hb'
    simp only [hall, hall2, Bool.not_true, Bool.false_eq_true, if_false]
  · have h1 := hinv i
    rw [axAt_nil, zero_add, hb', bget_zeroBuf, add_zero] at h1
    rw [← h1]
    cases upper
    · rfl
    · exact axAt_reverse A n es' i

theorem colSum_not_mem (l : List (Nat × R)) (k : Nat) (h : k ∉ l.map (·.1)) : colSum l k = 0 := by
  apply colSum_eq_zero
  intro e he hk
  exact absurd (List.mem_map.2 ⟨e, he, hk⟩) h

theorem bget_copyInto (l : List (Nat × R)) (b : Array R) (hl : ∀ e ∈ l, e.1 < b.size)
    (hnd : (l.map (·.1)).Nodup) (k : Nat) :
    bget (copyInto b l) k = if k ∈ l.map (·.1) then colSum l k else bget b k := by
  induction l generalizing b with
  | nil => simp [copyInto]
  | cons e l ih =>
    have he : e.1 < b.size := hl e (by simp)
    rw [List.map_cons, List.nodup_cons] at hnd
    unfold copyInto
    rw [ih _ (fun e' h' => by rw [size_bset]; exact hl e' (by simp [h'])) hnd.2, bget_bset, colSum_cons]
    by_cases hk : k ∈ l.map (·.1)
    · have hne : e.1 ≠ k := fun h => hnd.1 (h ▸ hk)
      simp [hk, hne]
    · by_cases hek : e.1 = k
      · subst hek; simp [hk, he, colSum_not_mem l _ hk]
      · have : ¬ (k = e.1) := fun h => hek h.symm
        simp [hk, hek, this]

/-- a right-hand side with `n` rows: `WF`, and no row stored twice in a column -/
structure WFY (Y : SpMat R) (n : Nat) : Prop where
  nrows : Y.nrows = n
  size : Y.cols.size = Y.ncols
  rows : ∀ j, ∀ e ∈ col Y j, e.1 < n
  nodup : ∀ j, ((col Y j).map (·.1)).Nodup

theorem bget_copyInto_zero {Y : SpMat R} (hY : WFY Y n) (j i : Nat) :
    bget (copyInto (zeroBuf n) (colVec Y j)) i = entry Y i j := by
  rw [bget_copyInto]
  · rw [entry_colVec]
    split
    · rfl
    · rename_i h
      rw [bget_zeroBuf, ← entry_colVec, colSum_not_mem _ _ h]
  · intro e he; simp only [zeroBuf, Array.size_replicate]; exact hY.rows j e (List.mem_of_mem_filter he)
  · exact (hY.nodup j).sublist ((List.filter_sublist).map _)

/-- the result a fresh (all-zero) buffer gives for column `j` of `Y` -/
def freshCol (upper : Bool) (A Y : SpMat R) (n j : Nat) : List (Nat × R) :=
  match solveBuf upper A (collectDiag A) (copyInto (zeroBuf n) (colVec Y j)) with
  | .ok (_, es) => es
  | _ => []

theorem freshCol_spec (hA : UnitTriang upper A n u v) {Y : SpMat R} (hY : WFY Y n) (j : Nat) :
    solveBuf upper A (collectDiag A) (copyInto (zeroBuf n) (colVec Y j)) = .ok (zeroBuf n, freshCol upper A Y n j) ∧
    (∀ e ∈ freshCol upper A Y n j, e.1 < n) ∧ ∀ i, axAt A n (freshCol upper A Y n j) i = entry Y i j := by
  obtain ⟨es, h1, h2, h3⟩ := solveBuf_spec hA (copyInto (zeroBuf n) (colVec Y j)) (by simp [size_copyInto, zeroBuf])
  have : freshCol upper A Y n j = es := by unfold freshCol; rw [h1]
  rw [this]
  exact ⟨h1, h2, fun i => by rw [h3 i, bget_copyInto_zero hY]⟩

theorem solveCols_spec (hA : UnitTriang upper A n u v) {Y : SpMat R} (hY : WFY Y n) (js : List Nat) :
    solveCols upper A (collectDiag A) Y (zeroBuf n) js = .ok (zeroBuf n, js.map (freshCol upper A Y n)) := by
  induction js with
  | nil => rfl
  | cons j js ih =>
    unfold solveCols
    rw [(freshCol_spec hA hY j).1]
    simp only [ih, List.map_cons]

theorem runSched_spec (hA : UnitTriang upper A n u v) {Y : SpMat R} (hY : WFY Y n)
    (evs : List (Nat × Nat)) (bufs : Nat → Array R) (hb : ∀ w, bufs w = zeroBuf n) :
    runSched upper A (collectDiag A) Y bufs evs = .ok (evs.map fun wj => (wj.2, freshCol upper A Y n wj.2)) := by
  induction evs generalizing bufs with
  | nil => rfl
  | cons wj evs ih =>
    unfold runSched
    rw [hb wj.1, (freshCol_spec hA hY wj.2).1]
    simp only
    rw [ih _ (fun w => by by_cases h : w = wj.1 <;> simp [h, hb])]
    rfl

/-- the `m × n` matrix of the entries of `A` -/
def toMatrix (A : SpMat R) (m n : Nat) : Matrix (Fin m) (Fin n) R := fun i j => entry A i j

omit [LawfulScal R] in
theorem toMatrix_mul_apply (A B : SpMat R) (m k n : Nat) (i : Fin m) (j : Fin n) :
    (toMatrix A m k * toMatrix B k n) i j = axAt A k (col B j) i := by
  rw [Matrix.mul_apply]
  exact Fin.sum_univ_eq_sum_range (fun l => entry A i l * entry B l j) k

omit [CommRing R] [LawfulScal R] in
theorem UnitTriang.isTriang (hA : UnitTriang upper A n u v) : isTriang upper A = true := by
  unfold C12.isTriang
  rw [hA.nrows, hA.ncols]
  simp only [bne_self_eq_false, Bool.false_eq_true, if_false, List.all_eq_true, List.mem_range]
  intro j hj e he
  by_cases hz : isZero e.2 = true
  · simp [hz]
  · have := hA.tri j hj e he (by simpa using hz)
    cases upper <;> simp_all

theorem solve_eq (hA : UnitTriang upper A n u v) {Y : SpMat R} (hY : WFY Y n) :
    solve upper A Y = .ok ⟨n, Y.ncols, ((List.range Y.ncols).map (freshCol upper A Y n)).toArray⟩ := by
  unfold solve
  rw [hA.nrows, hY.nrows, hA.isTriang, solveCols_spec hA hY]
  simp

theorem solve_correct (hA : UnitTriang upper A n u v) {Y : SpMat R} (hY : WFY Y n) :
    ∃ X, solve upper A Y = .ok X ∧ X.nrows = n ∧ X.ncols = Y.ncols ∧ (∀ j, ∀ e ∈ col X j, e.1 < n) ∧
      toMatrix A n n * toMatrix X n Y.ncols = toMatrix Y n Y.ncols := by
  refine ⟨_, solve_eq hA hY, rfl, rfl, ?_, ?_⟩
  · intro j e he
    by_cases hj : j < Y.ncols
    · rw [col_mk _ _ _ _ hj] at he
      exact (freshCol_spec hA hY j).2.1 e he
    · simp [col, hj] at he
  · ext i j
    rw [toMatrix_mul_apply, col_mk _ _ _ _ j.2]
    exact (freshCol_spec hA hY j).2.2 i

end
end Yuiv.C12
