import Yuiv.Proofs.C06CycleAlg
import Yuiv.Proofs.KhRefD
import Yuiv.Proofs.C06CycleHash
import Yuiv.Proofs.C01SqEdgeGeom
import Yuiv.Proofs.KhRefCube
/-
C06Cycle — assembly for `Props/C06Cycle.lean`: under H every cube edge out of the state is a merge of two differently
coloured circles (`edge_shape`), the merge edge map kills the canonical chain coefficient by coefficient
(`edge_sum_zero`), and `d` is the filtered concatenation of the edge maps (`cube_d_spec` of `Proofs/KhRefD.lean`).
-/
namespace Yuiv.C06Cycle
open Yuiv Yuiv.KhRef Yuiv.C06Canon Yuiv.C04Inv

theorem bicoloured_iff (l : Link) (cs : Array (Array Nat)) (cols : List Colour) :
    bicoloured l cs cols = true ↔ ∀ x ∈ l, x.ct.isResolved = false →
      (∀ e ∈ x.e, circleIdx cs e < cs.size) ∧
      (∃ e1 ∈ x.e, ∃ e2 ∈ x.e, circleIdx cs e1 ≠ circleIdx cs e2) ∧
      (∀ e1 ∈ x.e, ∀ e2 ∈ x.e, circleIdx cs e1 ≠ circleIdx cs e2 →
        cols.getD (circleIdx cs e1) .a ≠ cols.getD (circleIdx cs e2) .a) := by
  unfold bicoloured
  rw [Array.all_eq_true_iff_forall_mem]
  refine forall₂_congr fun x _ => ?_
  cases x.ct.isResolved
  · simp only [Bool.false_or, Bool.and_eq_true, List.all_eq_true, List.any_eq_true, List.mem_map,
      Array.mem_toList_iff, decide_eq_true_eq, bne_iff_ne, Bool.or_eq_true, beq_iff_eq, forall_exists_index, and_imp,
      forall_apply_eq_imp_iff₂, exists_exists_and_eq_and, and_assoc, forall_const, ne_eq, or_iff_not_imp_left]
  · simp only [Bool.true_or, Bool.true_eq_false, false_imp_iff]

theorem edge_shape (l : Link) (hv : validK l = true) (s k : Nat) (hk : k < crossingNum l)
    (hb : s.testBit k = false) (cols : List Colour)
    (H : bicoloured l (circles l (edgeLabels l) s) cols = true) :
    ∃ i1 i2 j0, i1 < i2 ∧ i2 < (circles l (edgeLabels l) s).size ∧
      j0 < (circles l (edgeLabels l) (s ||| 1 <<< k)).size ∧
      goneOf (circles l (edgeLabels l) s) (circles l (edgeLabels l) (s ||| 1 <<< k)) = #[i1, i2] ∧
      bornOf (circles l (edgeLabels l) s) (circles l (edgeLabels l) (s ||| 1 <<< k)) = #[j0] ∧
      cols.getD i1 .a ≠ cols.getD i2 .a := by
  obtain ⟨x, hxl, hxr, a, b, c, d, hperm, g⟩ := C01Sq.flip_geom l hv k hk
  have cab := (g s hb).a0
  have ccd := (g s hb).a0'
  have hmain := (g s hb).M
  have hwf := wf_of_validK l hv
  have spec := circles_spec l hwf s
  have spec' := circles_spec l hwf (s ||| 1 <<< k)
  obtain ⟨_, hex, hcol⟩ := (bicoloured_iff l _ cols).1 H x hxl hxr
  have hmem : ∀ e, e ∈ x.e ↔ e ∈ [a, b, c, d] := by
    intro e
    rw [← Array.mem_toList_iff]
    exact hperm.mem_iff
  have ma : a ∈ x.e := (hmem a).2 (by simp)
  have mc : c ∈ x.e := (hmem c).2 (by simp)
  have ha := (g s hb).lp
  have hc := (g s hb).lr
  -- labels on one arc lie on one circle
  have eab := (circleIdx_eq_iff spec ha (g s hb).lq).2 cab
  have ecd := (circleIdx_eq_iff spec hc (g s hb).lu).2 ccd
  have hne : circleIdx (circles l (edgeLabels l) s) a ≠ circleIdx (circles l (edgeLabels l) s) c := by
    -- otherwise all four slots would lie on the circle of `a`
    intro e
    obtain ⟨e1, he1, e2, he2, hne⟩ := hex
    have all : ∀ u ∈ x.e, circleIdx (circles l (edgeLabels l) s) u = circleIdx (circles l (edgeLabels l) s) a := by
      intro u hu
      rw [hmem] at hu
      simp only [List.mem_cons, List.not_mem_nil, or_false] at hu
      rcases hu with rfl | rfl | rfl | rfl
      exacts [rfl, eab.symm, e.symm, ecd.symm.trans e.symm]
    exact hne ((all e1 he1).trans (all e2 he2).symm)
  have hnac : ¬ Conn (statePairs l s) a c := fun hac => hne ((circleIdx_eq_iff spec ha hc).2 hac)
  have hcolac := hcol a ma c mc hne
  obtain ⟨i1, i2, j0, h12, h2, hj0, hg, hbn, hidx⟩ := merge_shape spec spec' a c ha hc hnac (hmain hnac)
  refine ⟨i1, i2, j0, h12, h2, hj0, hg, hbn, ?_⟩
  rcases hidx with ⟨e1, e2⟩ | ⟨e1, e2⟩
  · rw [← e1, ← e2]; exact hcolac
  · rw [← e1, ← e2]; exact fun e => hcolac e.symm

theorem carry_congr (cs cs' : Array (Array Nat)) (m m' : Nat)
    (h : ∀ i, i < cs.size → cs'.contains cs[i]! = true → m.testBit i = m'.testBit i) :
    carry cs cs' m = carry cs cs' m' := by
  unfold carry
  apply List.foldl_ext
  intro acc i hi
  by_cases hc : cs'.contains cs[i]! = true
  · rw [h i (List.mem_range.1 hi) hc]
  · rw [if_neg hc, if_neg hc]

theorem not_contains_of_gone (cs cs' : Array (Array Nat)) (i : Nat) (hi : i ∈ goneOf cs cs') :
    cs'.contains cs[i]! = false := by
  unfold goneOf at hi
  rw [Array.mem_filter] at hi
  simpa using hi.2

/-- the merge terms of the generator `⟨s, m⟩` along the edge `k` -/
def mergeTerms (c : Cube) (h : Int) (s k i1 i2 j0 m : Nat) : List Term :=
  (prod h 0 (m.testBit i1) (m.testBit i2)).filterMap (fun (ya : Bool × Int) =>
    if ya.2 != 0 then
      some ((⟨s ||| 1 <<< k, setBit (carry (c.circ[s]!) (c.circ[s ||| 1 <<< k]!) m) j0 ya.1⟩ : Gen),
        edgeSign s k * ya.2)
    else none)

theorem edgeTerms_merge (c : Cube) (h : Int) (red : Bool) (s k i1 i2 j0 m : Nat)
    (hg : goneOf (c.circ[s]!) (c.circ[s ||| 1 <<< k]!) = #[i1, i2])
    (hb : bornOf (c.circ[s]!) (c.circ[s ||| 1 <<< k]!) = #[j0]) :
    edgeTerms c ⟨h, 0, red⟩ ⟨s, m⟩ k = some (mergeTerms c h s k i1 i2 j0 m) := by
  unfold edgeTerms mergeTerms
  simp [hg, hb]

theorem edge_sum_zero (c : Cube) (h : Int) (s k i1 i2 j0 : Nat) (cols : List Colour)
    (h12 : i1 < i2) (h2 : i2 < cols.length)
    (hg : goneOf (c.circ[s]!) (c.circ[s ||| 1 <<< k]!) = #[i1, i2])
    (hne : cols.getD i1 .a ≠ cols.getD i2 .a) (y : Gen) :
    ((expand h cols).map (fun t => t.2 * termSum y (mergeTerms c h s k i1 i2 j0 t.1))).sum = 0 := by
  rw [sum_expand h cols (fun m => termSum y (mergeTerms c h s k i1 i2 j0 m))]
  simp only [mergeTerms, termSum_merge]
  -- the bit of a circle that disappears is not carried over
  have hflip : ∀ i0 ∈ goneOf (c.circ[s]!) (c.circ[s ||| 1 <<< k]!), ∀ m,
      carry (c.circ[s]!) (c.circ[s ||| 1 <<< k]!) (m ^^^ 1 <<< i0) = carry (c.circ[s]!) (c.circ[s ||| 1 <<< k]!) m := by
    intro i0 hi0 m
    apply carry_congr
    intro i _ hc
    by_cases e : i0 = i
    · subst e; rw [not_contains_of_gone _ _ i0 hi0] at hc; cases hc
    · exact tb_flip_ne m i0 i e
  apply merge_sum_zero h cols i1 i2 (by omega) (by omega) h2 hne
    (fun m b => if (⟨s ||| 1 <<< k, setBit (carry (c.circ[s]!) (c.circ[s ||| 1 <<< k]!) m) j0 b⟩ : Gen) == y
      then edgeSign s k else 0)
  · intro m b
    rw [hflip i1 (by rw [hg]; simp)]
  · intro m b
    rw [hflip i2 (by rw [hg]; simp)]

theorem edge_kills_chain (c : Cube) (h : Int) (red : Bool) (s k i1 i2 j0 : Nat) (cols : List Colour)
    (h12 : i1 < i2) (h2 : i2 < cols.length)
    (hg : goneOf (c.circ[s]!) (c.circ[s ||| 1 <<< k]!) = #[i1, i2])
    (hb : bornOf (c.circ[s]!) (c.circ[s ||| 1 <<< k]!) = #[j0])
    (hne : cols.getD i1 .a ≠ cols.getD i2 .a) (y : Gen) :
    ((chainOf s h cols).map (fun ga => ga.2 * termSum y ((edgeTerms c ⟨h, 0, red⟩ ga.1 k).getD []))).sum = 0 := by
  refine Eq.trans ?_ (edge_sum_zero c h s k i1 i2 j0 cols h12 h2 hg hne y)
  rw [chainOf, List.map_map]
  refine congrArg List.sum (List.map_congr_left fun t _ => ?_)
  rw [Function.comp_apply, edgeTerms_merge c h red s k i1 i2 j0 t.1 hg hb, Option.getD_some]

/-- `d g` as a list of terms (`cube_d_spec`) -/
def dTerms (c : Cube) (p : Params) (g : Gen) : List Term := (rawTerms c p g).filter (fun t => baseKeep c t.1)

theorem cube_d_of_edges (c : Cube) (p : Params) (g : Gen)
    (h : ∀ k, k < c.n → g.s.testBit k = false → (edgeTerms c p g k).isSome = true) :
    c.d p g = some (dTerms c p g).toArray := by
  have e := dRaw_of_edges c p g h
  rw [dRaw_spec] at e
  rw [cube_d_spec]
  split at e
  · rw [if_pos ‹_›]; rfl
  · cases e

theorem termSum_filter_keep (c : Cube) (y : Gen) (ts : List Term) :
    termSum y (ts.filter (fun t => baseKeep c t.1)) = if baseKeep c y then termSum y ts else 0 := by
  unfold termSum
  rw [List.filter_filter]
  have e : ∀ t : Term, ((t.1 == y) && baseKeep c t.1) = (baseKeep c y && (t.1 == y)) := by
    intro t
    by_cases e : t.1 = y
    · rw [e, Bool.and_comm]
    · rw [beq_false_of_ne e, Bool.false_and, Bool.and_false]
  simp only [e]
  cases baseKeep c y
  · simp only [Bool.false_and, List.filter_false, List.map_nil, List.sum_nil, Bool.false_eq_true, if_false]
  · simp only [Bool.true_and, if_true]

theorem sum_map_zero {α : Type} (xs : List α) (f : α → Int) (h : ∀ x ∈ xs, f x = 0) : (xs.map f).sum = 0 :=
  List.sum_eq_zero (List.forall_mem_map.2 h)

theorem chain_zero (c : Cube) (p : Params) (z : Chain) (y : Gen)
    (h : ∀ k, k < c.n →
      (z.map (fun ga => ga.2 * termSum y (if ga.1.s.testBit k then [] else (edgeTerms c p ga.1 k).getD []))).sum = 0) :
    chainSum (dTerms c p) z y = 0 := by
  have raw : (z.map (fun ga => ga.2 * termSum y (rawTerms c p ga.1))).sum = 0 := by
    unfold rawTerms
    have : ∀ ks : List Nat, (∀ k ∈ ks, k < c.n) →
        (z.map (fun ga => ga.2 * termSum y (ks.flatMap (fun k =>
          if ga.1.s.testBit k then [] else (edgeTerms c p ga.1 k).getD [])))).sum = 0 := by
      intro ks
      induction ks with
      | nil => intro _; exact sum_map_zero _ _ (fun ga _ => by simp [termSum_nil])
      | cons k ks ih =>
        intro hks
        simp only [List.flatMap_cons, termSum_append, Int.mul_add]
        rw [List.sum_map_add, h k (hks k (by simp)), ih (fun k' hk' => hks k' (List.mem_cons_of_mem _ hk'))]
        rfl
    exact this _ (fun k hk => List.mem_range.1 hk)
  unfold chainSum dTerms
  simp only [termSum_filter_keep]
  by_cases hk : baseKeep c y = true
  · simp only [hk, if_true]; exact raw
  · simp only [hk]
    exact sum_map_zero _ _ (fun ga _ => by simp)

theorem bitsToNat_lt (bs : List Bool) : bitsToNat bs < 2 ^ bs.length := by
  induction bs with
  | nil => simp [bitsToNat]
  | cons b bs ih =>
    simp only [bitsToNat, List.length_cons, Nat.pow_succ]
    split <;> omega

theorem oriPresState_lt (signs : List Int) : oriPresState signs < 2 ^ signs.length := by
  have := bitsToNat_lt (oriPresBits signs)
  simpa [oriPresState, oriPresBits] using this

theorem getD_map_other (cols : List Colour) (i1 i2 : Nat) (h1 : i1 < cols.length) (h2 : i2 < cols.length)
    (hne : cols.getD i1 .a ≠ cols.getD i2 .a) :
    (cols.map Colour.other).getD i1 .a ≠ (cols.map Colour.other).getD i2 .a := by
  simp only [List.getD_eq_getElem?_getD, List.getElem?_map, List.getElem?_eq_getElem h1,
    List.getElem?_eq_getElem h2, Option.map_some, Option.getD_some] at hne ⊢
  intro e
  apply hne
  cases h1 : cols[i1] <;> cases h2 : cols[i2] <;> simp_all [Colour.other]

/-- the edge data of every cube edge out of `s`, for the cube `{ mkCube l p with base }` and any colour list `cols'`
that separates whatever `cols` separates -/
theorem cube_edge_data (l : Link) (hv : validK l = true) (p : Params) (base : Option Nat) (s : Nat)
    (hs : s < 2 ^ crossingNum l) (cols cols' : List Colour)
    (hlen : cols'.length = (circles l (edgeLabels l) s).size)
    (H : bicoloured l (circles l (edgeLabels l) s) cols = true)
    (hcc : ∀ i1 i2, i1 < cols'.length → i2 < cols'.length → cols.getD i1 .a ≠ cols.getD i2 .a →
      cols'.getD i1 .a ≠ cols'.getD i2 .a)
    (k : Nat) (hk : k < crossingNum l) (hb : s.testBit k = false) :
    ∃ i1 i2 j0, i1 < i2 ∧ i2 < cols'.length ∧
      goneOf (({ mkCube l p with base := base } : Cube).circ[s]!)
        (({ mkCube l p with base := base } : Cube).circ[s ||| 1 <<< k]!) = #[i1, i2] ∧
      bornOf (({ mkCube l p with base := base } : Cube).circ[s]!)
        (({ mkCube l p with base := base } : Cube).circ[s ||| 1 <<< k]!) = #[j0] ∧
      cols'.getD i1 .a ≠ cols'.getD i2 .a := by
  have hs' : s ||| 1 <<< k < 2 ^ crossingNum l := by
    apply Nat.or_lt_two_pow hs
    rw [Nat.one_shiftLeft]
    exact Nat.pow_lt_pow_right (by omega) hk
  rw [KhRef.mkCube_circ l p s hs, KhRef.mkCube_circ l p _ hs']
  obtain ⟨i1, i2, j0, h12, h2, _, hg, hbn, hne⟩ := edge_shape l hv s k hk hb cols H
  exact ⟨i1, i2, j0, h12, by omega, hg, hbn, hcc i1 i2 (by omega) (by omega) hne⟩

theorem chain_cycle_core (l : Link) (hv : validK l = true) (h : Int) (base : Option Nat) (red : Bool) (s : Nat)
    (hs : s < 2 ^ crossingNum l) (cols cols' : List Colour)
    (hlen : cols'.length = (circles l (edgeLabels l) s).size)
    (H : bicoloured l (circles l (edgeLabels l) s) cols = true)
    (hcc : ∀ i1 i2, i1 < cols'.length → i2 < cols'.length → cols.getD i1 .a ≠ cols.getD i2 .a →
      cols'.getD i1 .a ≠ cols'.getD i2 .a) :
    Yuiv.Drv.C06.dOfChain { mkCube l ⟨h, 0, false⟩ with base := base } ⟨h, 0, red⟩ (chainOf s h cols') = some [] := by
  have key := cube_edge_data l hv ⟨h, 0, false⟩ base s hs cols cols' hlen H hcc
  generalize hc : ({ mkCube l ⟨h, 0, false⟩ with base := base } : Cube) = c at key ⊢
  have hn : c.n = crossingNum l := by rw [← hc]; rfl
  have hgs : ∀ ga ∈ chainOf s h cols', ∃ m, ga.1 = ⟨s, m⟩ := by
    intro ga hga
    unfold chainOf at hga
    obtain ⟨t, _, rfl⟩ := List.mem_map.1 hga
    exact ⟨t.1, rfl⟩
  apply dOfChain_zero c ⟨h, 0, red⟩ _ (dTerms c ⟨h, 0, red⟩)
  · intro ga hga
    obtain ⟨m, hm⟩ := hgs ga hga
    rw [hm]
    apply cube_d_of_edges
    intro k hk hb
    obtain ⟨i1, i2, j0, _, _, hg, hbn, _⟩ := key k (hn ▸ hk) hb
    rw [edgeTerms_merge c h red s k i1 i2 j0 m hg hbn]
    rfl
  · intro y
    apply chain_zero
    intro k hk
    by_cases hb : s.testBit k = true
    · apply sum_map_zero
      intro ga hga
      obtain ⟨m, hm⟩ := hgs ga hga
      rw [hm, if_pos hb, termSum_nil, Int.mul_zero]
    · have hb' : s.testBit k = false := by simpa using hb
      obtain ⟨i1, i2, j0, h12, h2, hg, hbn, hne⟩ := key k (hn ▸ hk) hb'
      refine Eq.trans ?_ (edge_kills_chain c h red s k i1 i2 j0 cols' h12 h2 hg hbn hne y)
      refine congrArg List.sum (List.map_congr_left fun ga hga => ?_)
      obtain ⟨m, hm⟩ := hgs ga hga
      rw [hm, if_neg hb]

end Yuiv.C06Cycle
