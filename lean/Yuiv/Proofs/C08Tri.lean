import Mathlib.LinearAlgebra.Matrix.Block
/-
C08 — a triangular matrix with unit diagonal has a unit determinant: the fact behind "the pivot block is invertible",
for the code model of the triangular solver (`Proofs/C08StepCorrect`) and for the pivots of `find_pivots`
(`Proofs/C08SchedBlocks`).
-/
namespace Yuiv.C08

theorem det_isUnit_of_tri {K : Type*} [CommRing K] {r : ℕ} (upper : Bool) (M : Matrix (Fin r) (Fin r) K)
    (tri : ∀ i j : Fin r, (if upper then j < i else i < j) → M i j = 0) (diag : ∀ i, IsUnit (M i i)) :
    IsUnit M.det := by
  cases upper with
  | true =>
    rw [Matrix.det_of_isUpperTriangular (M := M) fun i j hij => tri i j hij]
    exact IsUnit.prod_univ_iff.2 diag
  | false =>
    rw [Matrix.det_of_isLowerTriangular M fun i j hij => tri i j hij]
    exact IsUnit.prod_univ_iff.2 diag

end Yuiv.C08
