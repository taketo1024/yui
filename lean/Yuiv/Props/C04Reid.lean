import Yuiv.Props.C04Inv
import Yuiv.Props.C18Bridge
import Yuiv.Proofs.C04ReidBraidR2
import Yuiv.Proofs.C04ReidBigon
import Yuiv.Proofs.C04ReidMarkov
import Yuiv.Proofs.C04InvExWf
import Yuiv.Proofs.C04MarkovJInv
/-
C04-b — invariance of the MODEL's normalised Jones polynomial (`C04.jones`, `C04.evalJones`, `C04.chiChain`) under the
Reidemeister moves I and II at the level of PD codes.  Property theorems only.
The sign array is an INPUT of `jones`; only its numbers of positive / negative entries matter.

(R1) `addKink l i j u v k pos` mirrors `harness/src/links.rs::add_kink`: the slot `(i, j)` of the diagram (in the
harness: the head of the edge `e = l[i].e[j]`) receives the fresh label `u` (`x` in the Rust code); the kink crossing of
shape `k` (`0: X[e,v,v,u]`, `1: X[e,u,v,v]`, `2: X[v,e,u,v]`, `≥3: X[v,v,u,e]`, `v` = second fresh label `y`, the loop) is
inserted at position `pos` of the crossing list.  Shapes 0, 2 are NEGATIVE curls, shapes 1, 3 POSITIVE curls
(`kinkSign`: the strand returns into the crossing through slot 1 resp. slot 3; `KhRef.slotSign .X 1 = -1`, `.X 3 = 1`).
Proved for EVERY well-formed diagram `l` (each crossing has 4 slots — nothing else: the code need not be planar, the
label `e` may occur any number of times, resolved `V`/`H` crossings and `Xm` crossings are allowed in `l`), every slot
`i < l.size`, `j < 4`, all labels `u ≠ v` not occurring in `l`, every shape `k`, every position `pos ≤ l.size`:
  * `r1_stateSum`   : the raw state sum is multiplied by `1 + x·y` (negative) resp. `y + x` (positive), in every
                      commutative ring, for arbitrary `x` (for `−q`) and `y` (for `q + q⁻¹`);
  * `r1_evalJones`  : `evalJones` with `(n₊, n₋)` increased by the kink's sign is unchanged, for every `q·q⁻¹ = 1`;
  * `r1_jones`, `r1_jones_push`, `r1_chiChain` : LITERAL equality of the coefficient lists.
NOT proved: that `KhRef.crossingSigns` of the kinked diagram is the old array with `kinkSign k` inserted (needs a valid
oriented code and `(i, j)` = the HEAD of `e`; with a tail slot the code is inconsistently oriented and the reference
returns other signs).  It is evaluated on an example below.

(R1, braid form = Markov stabilisation) `r1_markov_stateSum`, `r1_markov_evalJones`, `r1_markov_jones_signs`:
`closure (n+1) (w ++ [±n])` EXISTS whenever `closure n w` does (`n ≥ 1`), and has the same Jones list — END TO END with
the reference's OWN `crossingSigns` on both sides (here the sign bookkeeping is proved, via
`C18Bridge.khref_writhe_closure`: `n₊ − n₋` = exponent sum, `n₊ + n₋` = word length).

(R2) three forms.
  * abstract bigon on explicit labels (`r2_stateSum`, `r2_evalJones`, `r2_jones`): a diagram whose crossing list is a
    permutation of `X₁ :: X₂ :: lm` with the two bigon crossings `bigonPair np a b c d a2 b2`, compared with
    `renumber (collapse2 a b c d a2 b2) lm` (the diagram with the bigon removed);
  * the concrete PD move `addBigon` (`r2_addBigon_jones`, `r2_addBigon_evalJones`): every well-formed `l`, any two
    different slots, four different fresh labels, both forms of the bigon;
  * BRAID FORM (`r2_braid_stateSum`, `r2_braid_evalJones`, `r2_braid_jones`, `r2_braid_jones_signs`):
    `closure n (w₁ ++ [s, −s] ++ w₂)` versus `closure n (w₁ ++ w₂)` for the code model `C18.closure` of
    `Braid::closure`, every `n`, `w₁`, `w₂`, `s` for which both closures exist; the last theorem uses the reference's
    OWN `crossingSigns` on both sides (via `C18Bridge.khref_writhe_closure`); `r2_braid_insert` : the new closure
    EXISTS whenever the old one does and `1 ≤ |s| < n`.
Mathematical content: state sum(new) = `x ·` state sum(old) `+ (1 + x·y + x²) ·` state sum(turn-back diagram), and
`1 + x·y + x² = 0` at `x = −q`, `y = q + q⁻¹`; the factor `x` is cancelled by the degree shift of `(n₊+1, n₋+1)`.

(R3) in braid form: `Props/C04Markov.lean`; on PD codes not done.
-/
namespace Yuiv.C04Inv
open Yuiv.KhRef Yuiv.C04

variable {R : Type} [CommRing R]

/-- (R1) state-sum level: a kink multiplies the Kauffman state sum by `1 + x·y` (shapes 0, 2) resp. `y + x`
(shapes 1, 3) — every commutative ring, all `x`, `y` -/
theorem r1_stateSum (x y : R) (l : Link) (hwf : WF l) {i j u v : Nat} (k : Nat) {pos : Nat}
    (hi : i < l.size) (hj : j < 4) (hu : u ∉ labelSet l) (hv : v ∉ labelSet l) (huv : u ≠ v) (hpos : pos ≤ l.size) :
    sumRange (2 ^ crossingNum (addKink l i j u v k pos)) (fun s =>
        npow x (popcount s (crossingNum (addKink l i j u v k pos))) * npow y (circleCount (addKink l i j u v k pos) s))
      = (if k = 0 ∨ k = 2 then 1 + x * y else y + x) *
        sumRange (2 ^ crossingNum l) (fun s => npow x (popcount s (crossingNum l)) * npow y (circleCount l s)) :=
  addKink_stateSum x y l hwf k hi hj hu hv huv hpos

/-- (R1) the normalised state sum `evalJones` is invariant: `(n₊, n₋)` grows by `(0, 1)` for the negative shapes 0, 2
and by `(1, 0)` for the positive shapes 1, 3 — every commutative ring, every `q · qinv = 1` -/
theorem r1_evalJones (q qinv : R) (hq : q * qinv = 1) (nPos nNeg : Nat) (l : Link) (hwf : WF l) {i j u v : Nat}
    (k : Nat) {pos : Nat} (hi : i < l.size) (hj : j < 4) (hu : u ∉ labelSet l) (hv : v ∉ labelSet l) (huv : u ≠ v)
    (hpos : pos ≤ l.size) :
    evalJones q qinv (crossingNum (addKink l i j u v k pos)) (nPos + kinkPos k) (nNeg + kinkNeg k)
        (circleCount (addKink l i j u v k pos))
      = evalJones q qinv (crossingNum l) nPos nNeg (circleCount l) := by
  rw [evalJones_stateSum, evalJones_stateSum, addKink_stateSum _ _ l hwf k hi hj hu hv huv hpos, ← mul_assoc,
    prefactor_kink q qinv hq]

/-- (R1) LITERAL equality of the `jones` coefficient lists: the kinked diagram with ANY sign array that has
`kinkPos k` more positive and `kinkNeg k` more negative entries than `signs` -/
theorem r1_jones (l : Link) (hwf : WF l) {i j u v : Nat} (k : Nat) {pos : Nat}
    (hi : i < l.size) (hj : j < 4) (hu : u ∉ labelSet l) (hv : v ∉ labelSet l) (huv : u ≠ v) (hpos : pos ≤ l.size)
    (signs signs' : Array Int)
    (hp : (signs'.filter (· > 0)).size = (signs.filter (· > 0)).size + kinkPos k)
    (hn : (signs'.filter (· < 0)).size = (signs.filter (· < 0)).size + kinkNeg k) :
    jones (addKink l i j u v k pos) signs' = jones l signs := by
  apply jones_eq_of_evalJones
  rw [hp, hn]
  exact r1_evalJones _ _ T_unit _ _ l hwf k hi hj hu hv huv hpos

/-- (R1) … in particular with the kink's sign `kinkSign k` (−1 for shapes 0, 2; +1 for shapes 1, 3) appended -/
theorem r1_jones_push (l : Link) (hwf : WF l) {i j u v : Nat} (k : Nat) {pos : Nat}
    (hi : i < l.size) (hj : j < 4) (hu : u ∉ labelSet l) (hv : v ∉ labelSet l) (huv : u ≠ v) (hpos : pos ≤ l.size)
    (signs : Array Int) :
    jones (addKink l i j u v k pos) (signs.push (kinkSign k)) = jones l signs := by
  refine r1_jones l hwf k hi hj hu hv huv hpos signs _ ?_ ?_ <;>
    (simp only [kinkSign, kinkPos, kinkNeg]; split <;> simp)

/-- (R1) the same for the graded Euler characteristic of the chain groups of the cube reference -/
theorem r1_chiChain (l : Link) (hwf : WF l) {i j u v : Nat} (k : Nat) {pos : Nat}
    (hi : i < l.size) (hj : j < 4) (hu : u ∉ labelSet l) (hv : v ∉ labelSet l) (huv : u ≠ v) (hpos : pos ≤ l.size)
    (signs : Array Int) :
    chiChain (addKink l i j u v k pos) (signs.push (kinkSign k)) = chiChain l signs := by
  rw [chiChain_eq_jones_literal, chiChain_eq_jones_literal]
  exact r1_jones_push l hwf k hi hj hu hv huv hpos signs

/-! ### Reidemeister II: the bigon on explicit labels

The two strands enter the bigon on the labels `a`, `b`, run through it on `c`, `d` and leave on `a2`, `b2`; the two
crossings are `X[a,c,d,b], X[d,c,a2,b2]` (form PN, as written by `σᵢ σᵢ⁻¹`) or `X[b,a,c,d], X[c,a2,b2,d]` (form NP, as
written by `σᵢ⁻¹ σᵢ`).  `lm` is the rest of the diagram; the diagram WITHOUT the bigon is `renumber (collapse2 …) lm`
(`a2`, `c ↦ a`; `b2`, `d ↦ b`).  `BigonLabels lm a b c d a2 b2` : `c`, `d` do not occur in `lm` and are different from
each other and from `a, b, a2, b2`; `a ≠ b2`, `b ≠ a2`, `a2 ≠ b2` (`a = b`, `a = a2`, `b = b2` are allowed). -/

/-- (R2) state-sum level, all `x`, `y`, every commutative ring: the bigon contributes `x ·` (identity tangle)
`+ (1 + x·y + x²) ·` (turn-back tangle) -/
theorem r2_stateSum (x y : R) {lm l' : Link} {a b c d a2 b2 : Nat} (np : Bool) (hwf : WF lm)
    (h : BigonLabels lm a b c d a2 b2)
    (ha : a ∈ labelSet (renumber (collapse2 a b c d a2 b2) lm)) (hb : b ∈ labelSet (renumber (collapse2 a b c d a2 b2) lm))
    (hp : l'.toList.Perm ((bigonPair np a b c d a2 b2).1 :: (bigonPair np a b c d a2 b2).2 :: lm.toList)) :
    stateSum x y l' = x * stateSum x y (renumber (collapse2 a b c d a2 b2) lm)
      + (1 + x * y + x ^ 2) * turnSum x y lm a b a2 b2 := by
  cases np
  · exact bigon_stateSum_PN x y hwf h ha hb hp
  · exact bigon_stateSum_NP x y hwf h ha hb hp

/-- (R2) the normalised state sum is invariant: `(n₊, n₋)` grows by `(1, 1)` -/
theorem r2_evalJones (q qinv : R) (hq : q * qinv = 1) (nPos nNeg : Nat) {lm l' : Link} {a b c d a2 b2 : Nat}
    (np : Bool) (hwf : WF lm) (h : BigonLabels lm a b c d a2 b2)
    (ha : a ∈ labelSet (renumber (collapse2 a b c d a2 b2) lm)) (hb : b ∈ labelSet (renumber (collapse2 a b c d a2 b2) lm))
    (hp : l'.toList.Perm ((bigonPair np a b c d a2 b2).1 :: (bigonPair np a b c d a2 b2).2 :: lm.toList)) :
    evalJones q qinv (crossingNum l') (nPos + 1) (nNeg + 1) (circleCount l')
      = evalJones q qinv (crossingNum (renumber (collapse2 a b c d a2 b2) lm)) nPos nNeg
          (circleCount (renumber (collapse2 a b c d a2 b2) lm)) := by
  rw [evalJones_stateSum, evalJones_stateSum, r2_stateSum (-q) (q + qinv) np hwf h ha hb hp, bigon_cancel q qinv hq,
    zero_mul, add_zero, ← mul_assoc, prefactor_bigon q qinv hq]

/-- (R2) LITERAL equality of the `jones` coefficient lists (sign arrays: one more positive and one more negative entry) -/
theorem r2_jones {lm l' : Link} {a b c d a2 b2 : Nat} (np : Bool) (hwf : WF lm) (h : BigonLabels lm a b c d a2 b2)
    (ha : a ∈ labelSet (renumber (collapse2 a b c d a2 b2) lm)) (hb : b ∈ labelSet (renumber (collapse2 a b c d a2 b2) lm))
    (hp : l'.toList.Perm ((bigonPair np a b c d a2 b2).1 :: (bigonPair np a b c d a2 b2).2 :: lm.toList))
    (signs signs' : Array Int)
    (hpos : (signs'.filter (· > 0)).size = (signs.filter (· > 0)).size + 1)
    (hneg : (signs'.filter (· < 0)).size = (signs.filter (· < 0)).size + 1) :
    jones l' signs' = jones (renumber (collapse2 a b c d a2 b2) lm) signs := by
  apply jones_eq_of_evalJones
  rw [hpos, hneg]
  exact r2_evalJones _ _ T_unit _ _ np hwf h ha hb hp

/-- (R2) the concrete move on a PD code: `addBigon l ia ja ib jb c d a2 b2 np` gives the fresh labels `a2`, `b2` to the
slots `(ia, ja)`, `(ib, jb)` (ends of the edges `a = l[ia].e[ja]`, `b = l[ib].e[jb]`) and adds the two crossings
`bigonPair np a b c d a2 b2` (inner labels `c`, `d`).  For EVERY well-formed `l`, any two different slots, any four
different labels not occurring in `l`: the `jones` list with one more positive and one more negative sign is LITERALLY
that of `l` (the position of the two new crossings in the list is immaterial by `jones_perm`) -/
theorem r2_addBigon_jones (l : Link) (hwf : WF l) {ia ja ib jb c d a2 b2 : Nat} (np : Bool)
    (hia : ia < l.size) (hja : ja < 4) (hib : ib < l.size) (hjb : jb < 4) (hne : ¬ (ia = ib ∧ ja = jb))
    (hc : c ∉ labelSet l) (hd : d ∉ labelSet l) (ha2 : a2 ∉ labelSet l) (hb2 : b2 ∉ labelSet l)
    (cd : c ≠ d) (ca2 : c ≠ a2) (cb2 : c ≠ b2) (da2 : d ≠ a2) (db2 : d ≠ b2) (a2b2 : a2 ≠ b2)
    (signs signs' : Array Int)
    (hpos : (signs'.filter (· > 0)).size = (signs.filter (· > 0)).size + 1)
    (hneg : (signs'.filter (· < 0)).size = (signs.filter (· < 0)).size + 1) :
    jones (addBigon l ia ja ib jb c d a2 b2 np) signs' = jones l signs := by
  obtain ⟨h1, h2, h3, h4, h5⟩ := addBigon_spec l hwf hia hja hib hjb hne hc hd ha2 hb2 cd ca2 cb2 da2 db2 a2b2
  have := r2_jones (l' := addBigon l ia ja ib jb c d a2 b2 np) np h1 h2 (by rw [h3]; exact h4) (by rw [h3]; exact h5)
    (by unfold addBigon; exact List.Perm.refl _) signs signs' hpos hneg
  rw [this, h3]

/-- (R2) … and the normalised state sum in every commutative ring -/
theorem r2_addBigon_evalJones (q qinv : R) (hq : q * qinv = 1) (nPos nNeg : Nat) (l : Link) (hwf : WF l)
    {ia ja ib jb c d a2 b2 : Nat} (np : Bool)
    (hia : ia < l.size) (hja : ja < 4) (hib : ib < l.size) (hjb : jb < 4) (hne : ¬ (ia = ib ∧ ja = jb))
    (hc : c ∉ labelSet l) (hd : d ∉ labelSet l) (ha2 : a2 ∉ labelSet l) (hb2 : b2 ∉ labelSet l)
    (cd : c ≠ d) (ca2 : c ≠ a2) (cb2 : c ≠ b2) (da2 : d ≠ a2) (db2 : d ≠ b2) (a2b2 : a2 ≠ b2) :
    evalJones q qinv (crossingNum (addBigon l ia ja ib jb c d a2 b2 np)) (nPos + 1) (nNeg + 1)
        (circleCount (addBigon l ia ja ib jb c d a2 b2 np))
      = evalJones q qinv (crossingNum l) nPos nNeg (circleCount l) := by
  obtain ⟨h1, h2, h3, h4, h5⟩ := addBigon_spec l hwf hia hja hib hjb hne hc hd ha2 hb2 cd ca2 cb2 da2 db2 a2b2
  have := r2_evalJones q qinv hq nPos nNeg (l' := addBigon l ia ja ib jb c d a2 b2 np) np h1 h2
    (by rw [h3]; exact h4) (by rw [h3]; exact h5) (by unfold addBigon; exact List.Perm.refl _)
  rw [this, h3]

/-! ### Reidemeister II in braid form: `closure n (w₁ ++ [s, −s] ++ w₂)` versus `closure n (w₁ ++ w₂)`

`C18.closure` is the code model of `Braid::closure`; `toKh` the translation to the reference's links.  BOTH closures
must exist (`= .ok _`): the letters are in range and no strand is a free loop (`Braid::closure` panics otherwise —
e.g. `closure 2 []`).  Every word, every insertion point, every letter `s` (either sign), every strand number. -/

open Yuiv.C18Bridge (toKh)

/-- (R2, braid form) state-sum level -/
theorem r2_braid_stateSum (x y : R) (n : Nat) (w₁ w₂ : List Int) (s : Int) (l l' : C18.Link)
    (h : C18.closure n (w₁ ++ w₂) = .ok l) (h' : C18.closure n (w₁ ++ [s, -s] ++ w₂) = .ok l') :
    ∃ T : R, stateSum x y (toKh l') = x * stateSum x y (toKh l) + (1 + x * y + x ^ 2) * T :=
  braid_r2_stateSum x y n w₁ w₂ s l l' h h'

/-- (R2, braid form) the normalised state sum is invariant -/
theorem r2_braid_evalJones (q qinv : R) (hq : q * qinv = 1) (nPos nNeg : Nat) (n : Nat) (w₁ w₂ : List Int) (s : Int)
    (l l' : C18.Link) (h : C18.closure n (w₁ ++ w₂) = .ok l) (h' : C18.closure n (w₁ ++ [s, -s] ++ w₂) = .ok l') :
    evalJones q qinv (crossingNum (toKh l')) (nPos + 1) (nNeg + 1) (circleCount (toKh l'))
      = evalJones q qinv (crossingNum (toKh l)) nPos nNeg (circleCount (toKh l)) := by
  obtain ⟨T, hT⟩ := braid_r2_stateSum (-q) (q + qinv) n w₁ w₂ s l l' h h'
  rw [evalJones_stateSum, evalJones_stateSum, hT, bigon_cancel q qinv hq, zero_mul, add_zero, ← mul_assoc,
    prefactor_bigon q qinv hq]

/-- (R2, braid form) LITERAL equality of the `jones` coefficient lists -/
theorem r2_braid_jones (n : Nat) (w₁ w₂ : List Int) (s : Int) (l l' : C18.Link)
    (h : C18.closure n (w₁ ++ w₂) = .ok l) (h' : C18.closure n (w₁ ++ [s, -s] ++ w₂) = .ok l')
    (signs signs' : Array Int)
    (hpos : (signs'.filter (· > 0)).size = (signs.filter (· > 0)).size + 1)
    (hneg : (signs'.filter (· < 0)).size = (signs.filter (· < 0)).size + 1) :
    jones (toKh l') signs' = jones (toKh l) signs := by
  apply jones_eq_of_evalJones
  rw [hpos, hneg]
  exact r2_braid_evalJones _ _ T_unit _ _ n w₁ w₂ s l l' h h'

/-- (R2, braid form) END TO END with the reference's OWN crossing signs (`KhRef.crossingSigns`): both sign
computations succeed and the two Jones coefficient lists (and the two graded Euler characteristics of the cube's chain
groups) are LITERALLY equal -/
theorem r2_braid_jones_signs (n : Nat) (w₁ w₂ : List Int) (s : Int) (l l' : C18.Link)
    (h : C18.closure n (w₁ ++ w₂) = .ok l) (h' : C18.closure n (w₁ ++ [s, -s] ++ w₂) = .ok l') :
    ∃ sg sg', KhRef.crossingSigns (toKh l) = some sg ∧ KhRef.crossingSigns (toKh l') = some sg' ∧
      jones (toKh l') sg' = jones (toKh l) sg ∧ chiChain (toKh l') sg' = chiChain (toKh l) sg :=
  jones_signs_of_evalJones 1 1 h h' (by simp [C18.expSum_eq_sum, Int.sign_neg]) (by simp; omega)
    (fun nPos nNeg => r2_braid_evalJones _ _ T_unit nPos nNeg n w₁ w₂ s l l' h h')

/-- (R2, braid form) FOR ALL VALID BRAID WORDS: if the closure of `w₁ ++ w₂` exists and `s` is a letter in range
(`1 ≤ |s| < n`), then the closure of `w₁ ++ [s, −s] ++ w₂` exists as well, both sign computations of the reference
succeed, and the Jones coefficient lists (and the Euler-characteristic lists) are LITERALLY equal -/
theorem r2_braid_insert (n : Nat) (w₁ w₂ : List Int) (s : Int) (l : C18.Link)
    (h : C18.closure n (w₁ ++ w₂) = .ok l) (hs0 : s ≠ 0) (hsn : s.natAbs < n) :
    ∃ l' sg sg', C18.closure n (w₁ ++ [s, -s] ++ w₂) = .ok l' ∧
      KhRef.crossingSigns (toKh l) = some sg ∧ KhRef.crossingSigns (toKh l') = some sg' ∧
      jones (toKh l') sg' = jones (toKh l) sg ∧ chiChain (toKh l') sg' = chiChain (toKh l) sg := by
  obtain ⟨l', h'⟩ := braid_r2_exists n w₁ w₂ s l h hs0 hsn
  obtain ⟨sg, sg', h1, h2, h3, h4⟩ := r2_braid_jones_signs n w₁ w₂ s l l' h h'
  exact ⟨l', sg, sg', h', h1, h2, h3, h4⟩

/-- (R1, braid form) state-sum level: the stabilised closure EXISTS and its state sum is that of `closure n w` times
`y + x` (letter `+n`) resp. `1 + x·y` (letter `−n`) -/
theorem r1_markov_stateSum (x y : R) (n : Nat) (w : List Int) (s : Int) (l : C18.Link)
    (h : C18.closure n w = .ok l) (hs : s.natAbs = n) (hn : 0 < n) :
    ∃ l', C18.closure (n + 1) (w ++ [s]) = .ok l' ∧
      stateSum x y (toKh l') = (if s > 0 then y + x else 1 + x * y) * stateSum x y (toKh l) :=
  markov_stateSum x y n w s l h hs hn

/-- (R1, braid form) the normalised state sum is invariant: `n₊ + 1` for the letter `+n`, `n₋ + 1` for `−n` -/
theorem r1_markov_evalJones (q qinv : R) (hq : q * qinv = 1) (nPos nNeg : Nat) (n : Nat) (w : List Int) (s : Int)
    (l : C18.Link) (h : C18.closure n w = .ok l) (hs : s.natAbs = n) (hn : 0 < n) :
    ∃ l', C18.closure (n + 1) (w ++ [s]) = .ok l' ∧
      evalJones q qinv (crossingNum (toKh l')) (nPos + if s > 0 then 1 else 0) (nNeg + if s > 0 then 0 else 1)
          (circleCount (toKh l'))
        = evalJones q qinv (crossingNum (toKh l)) nPos nNeg (circleCount (toKh l)) := by
  obtain ⟨l', h1, h2⟩ := markov_stateSum (-q) (q + qinv) n w s l h hs hn
  refine ⟨l', h1, ?_⟩
  rw [evalJones_stateSum, evalJones_stateSum, h2, ← mul_assoc]
  by_cases hpos : s > 0
  · simp only [hpos, if_true, Nat.add_zero]
    rw [prefactor_pos q qinv hq]
  · simp only [hpos, if_false, Nat.add_zero]
    rw [prefactor_neg q qinv hq]

/-- (R1, braid form) END TO END with the reference's OWN crossing signs: the stabilised closure exists, both sign
computations succeed, and the Jones lists (and the Euler-characteristic lists) are LITERALLY equal -/
theorem r1_markov_jones_signs (n : Nat) (w : List Int) (s : Int) (l : C18.Link)
    (h : C18.closure n w = .ok l) (hs : s.natAbs = n) (hn : 0 < n) :
    ∃ l' sg sg', C18.closure (n + 1) (w ++ [s]) = .ok l' ∧
      KhRef.crossingSigns (toKh l) = some sg ∧ KhRef.crossingSigns (toKh l') = some sg' ∧
      jones (toKh l') sg' = jones (toKh l) sg ∧ chiChain (toKh l') sg' = chiChain (toKh l) sg := by
  obtain ⟨l', hl', _⟩ := r1_markov_stateSum (0 : ℤ) 0 n w s l h hs hn
  have e : C18.expSum (w ++ [s]) = C18.expSum w + Int.sign s := by simp [C18.expSum_eq_sum]
  obtain ⟨sg, sg', r⟩ := jones_signs_of_evalJones (if s > 0 then 1 else 0) (if s > 0 then 0 else 1) h hl'
    (by
      rw [e]
      split
      · rw [Int.sign_eq_one_of_pos ‹_›]; simp
      · rw [Int.sign_eq_neg_one_of_neg (by omega)]; simp)
    (by simp only [List.length_append, List.length_cons, List.length_nil]; split <;> rfl)
    (fun nPos nNeg => by
      obtain ⟨l'', hl'', hv⟩ := r1_markov_evalJones _ _ T_unit nPos nNeg n w s l h hs hn
      rw [hl'] at hl''; cases hl''
      exact hv)
  exact ⟨l', sg, sg', hl', r⟩

/-! ### non-vacuity: the hypotheses are satisfiable; concrete instances

(`jones` itself is not evaluable by `decide` — `KhRef.circles` runs imperative loops and `Array.qsort`; the values in
the comments are `#eval` outputs.  NOTE: the zero-crossing diagram `#[]` is the EMPTY link in this model
(`jones #[] #[] = [(0,1)]`, i.e. 1), not the unknot; a crossing-free unknot is e.g. `#[⟨.V, #[0,0,1,1]⟩]`
(`jones = [(-1,1),(1,1)]`, i.e. q⁻¹ + q), and so are the one-crossing curls `X[0,0,1,1]` (+) and `X[0,1,1,0]` (−).) -/

/-- what `addKink` produces: the trefoil `X[1,4,2,5] X[3,6,4,1] X[5,2,6,3]` with a negative curl on the edge 1 (its
head, slot 0 of the first crossing, becomes 7; loop 8), appended at the end -/
example : addKink trefoil 0 0 7 8 0 3 =
    #[⟨.X, #[7, 4, 2, 5]⟩, ⟨.X, #[3, 6, 4, 1]⟩, ⟨.X, #[5, 2, 6, 3]⟩, ⟨.X, #[1, 8, 8, 7]⟩] := by rfl

/-- trefoil + negative curl (shape 0), signs `−−−` and `−−−−`: both sides are `[(-9,-1),(-5,1),(-3,1),(-1,1)]` -/
example : jones (addKink trefoil 0 0 7 8 0 3) #[-1, -1, -1, -1] = jones trefoil #[-1, -1, -1] :=
  r1_jones_push trefoil wf_trefoil 0 (by decide) (by decide) (trefoil_fresh (by decide)) (trefoil_fresh (by decide))
    (by decide) (by decide) #[-1, -1, -1]

/-- … and the reference's own sign computation on the kinked code returns exactly these signs -/
example : KhRef.crossingSigns (addKink trefoil 0 0 7 8 0 3) = some #[-1, -1, -1, -1] ∧
    KhRef.crossingSigns trefoil = some #[-1, -1, -1] := by
  rw [C18Bridge.crossingSigns_eq, C18Bridge.crossingSigns_eq]; decide +kernel

/-- trefoil + positive curl (shape 3) on the edge 2 (slot 1 of the third crossing), inserted in front -/
example : jones (addKink trefoil 2 1 7 8 3 0) #[1, -1, -1, -1] = jones trefoil #[-1, -1, -1] :=
  r1_jones trefoil wf_trefoil 3 (by decide) (by decide) (trefoil_fresh (by decide)) (trefoil_fresh (by decide))
    (by decide) (by decide) _ _ (by decide) (by decide)

/-- the crossing-free unknot with a curl of either sign: all three lists are `[(-1,1),(1,1)]` -/
example : jones (addKink #[⟨.V, #[0, 0, 1, 1]⟩] 0 0 2 3 0 1) #[-1] = jones #[⟨.V, #[0, 0, 1, 1]⟩] #[] ∧
    jones (addKink #[⟨.V, #[0, 0, 1, 1]⟩] 0 0 2 3 1 0) #[1] = jones #[⟨.V, #[0, 0, 1, 1]⟩] #[] := by
  have hwf : WF #[⟨.V, #[0, 0, 1, 1]⟩] := by intro c hc; simp at hc; subst hc; rfl
  exact ⟨r1_jones_push _ hwf 0 (by decide) (by decide) (by simp [labelSet]) (by simp [labelSet]) (by decide) (by decide) #[],
    r1_jones_push _ hwf 1 (by decide) (by decide) (by simp [labelSet]) (by simp [labelSet]) (by decide) (by decide) #[]⟩

/-- a bigon between the edges 1 and 6 of the trefoil (slots (0,0) and (1,1)), both forms -/
example (np : Bool) : jones (addBigon trefoil 0 0 1 1 7 8 9 10 np) #[1, -1, -1, -1, -1] = jones trefoil #[-1, -1, -1] :=
  r2_addBigon_jones trefoil wf_trefoil np (by decide) (by decide) (by decide) (by decide) (by decide)
    (trefoil_fresh (by decide)) (trefoil_fresh (by decide)) (trefoil_fresh (by decide))
    (trefoil_fresh (by decide)) (by decide) (by decide) (by decide) (by decide) (by decide) (by decide) _ _
    (by decide) (by decide)

/-- braid form: both closures exist for `σ₁σ₂` and `σ₁ σ₂σ₂⁻¹ σ₂` on 3 strands (and for the other order) -/
example : (C18.closure 3 ([1] ++ [2])).isOk = true ∧ (C18.closure 3 ([1] ++ [2, -2] ++ [2])).isOk = true ∧
    (C18.closure 3 ([1] ++ [-2, - -2] ++ [2])).isOk = true := by decide

/-- … so the theorem applies (`#eval`: both `[(-1,1),(1,1)]`, signs `++−+` and `++`) -/
example : ∃ l l' sg sg', C18.closure 3 ([1] ++ [2]) = .ok l ∧ C18.closure 3 ([1] ++ [2, -2] ++ [2]) = .ok l' ∧
    KhRef.crossingSigns (toKh l) = some sg ∧ KhRef.crossingSigns (toKh l') = some sg' ∧
    jones (toKh l') sg' = jones (toKh l) sg := by
  have ok : ∀ {r : Res C18.Link}, r.isOk = true → ∃ a, r = .ok a := by
    intro r hr; cases r <;> simp [Res.isOk] at hr ⊢
  obtain ⟨l, h⟩ := ok (r := C18.closure 3 ([1] ++ [2])) (by decide)
  obtain ⟨l', h'⟩ := ok (r := C18.closure 3 ([1] ++ [2, -2] ++ [2])) (by decide)
  obtain ⟨sg, sg', h1, h2, h3, _⟩ := r2_braid_jones_signs 3 [1] [2] 2 l l' h h'
  exact ⟨l, l', sg, sg', h, h', h1, h2, h3⟩

/-- Markov stabilisation of the trefoil braid `σ₁³` on 2 strands by `σ₂⁻¹` on 3 strands -/
example : ∃ l l' sg sg', C18.closure 2 [1, 1, 1] = .ok l ∧ C18.closure 3 ([1, 1, 1] ++ [-2]) = .ok l' ∧
    KhRef.crossingSigns (toKh l) = some sg ∧ KhRef.crossingSigns (toKh l') = some sg' ∧
    jones (toKh l') sg' = jones (toKh l) sg := by
  have ok : ∀ {r : Res C18.Link}, r.isOk = true → ∃ a, r = .ok a := by
    intro r hr; cases r <;> simp [Res.isOk] at hr ⊢
  obtain ⟨l, h⟩ := ok (r := C18.closure 2 [1, 1, 1]) (by decide)
  obtain ⟨l', sg, sg', h', h1, h2, h3, _⟩ := r1_markov_jones_signs 2 [1, 1, 1] (-2) l h (by decide) (by decide)
  exact ⟨l, l', sg, sg', h, h', h1, h2, h3⟩

/-- `Braid::closure` panics on a free strand, e.g. for the empty word — there the braid-form theorem says nothing -/
example : C18.closure 2 [] = .panic := by decide

/-- an invertible `q` in a non-trivial ring -/
example : (-1 : Int) * (-1) = 1 := by decide

end Yuiv.C04Inv
