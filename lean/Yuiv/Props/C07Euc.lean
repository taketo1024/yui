import Yuiv.Proofs.C07Euc
import Yuiv.Proofs.C07EucTie
import Yuiv.Proofs.C07Full
import Yuiv.Proofs.C09EucPoly
import Yuiv.Proofs.C09EucEis
import Yuiv.Props.C07Full
/-
C07 END-TO-END over EVERY lawful Euclidean operation record.

`Props/C07Full.lean` composes the `Int` model of `HomologyCalc::{calculate, trans}` with the C09 code model of the
library's SNF at `intOps`.  The Rust code is generic (`HomologyCalc<R: EucRing>`); `Props/C09Euc.lean` proves the C09
model total and correct for every operation record `e : EOps α` with `L : LawfulEuc e φ` (`φ : α → K`, `K` a
commutative domain).  Here:

 * `calculateG e` (Proofs/C07EucModel.lean) is the SAME code as `Model/C07Calc.lean`/`C07Trans.lean`, line by line, with
   `0, 1, +, *, == 0, is_unit` taken from the operation record; `generic_code_is_int_model` /
   `generic_composite_is_int_composite` prove that at `intOps` it computes exactly what the `Int` model (the one
   the driver `yuivd_c07` runs) computes — same values, same panics, same fuel exhaustion;
 * `calculate_end_to_end_euc`: for every lawful `e`, the LITERAL COMPOSITION `calculateG e (snfC09G e fuel) d1 d2 true`
   returns for all `fuel ≥ N` one answer satisfying ALL clauses of property C07, with no hypothesis besides
   `φ(d2)·φ(d1) = 0` and the shape condition `d2.ncols = d1.nrows`;
 * corollaries for ℤ (the statement of `Props/C07Full.lean`, read through the tie), ℚ, 𝔽_p, ℤ[i], ℤ[ω] and `F[x]`.

Not covered (as in C07Full/C09Euc): the LLL–HNF preprocessing of `snf_in_place` for integer types is the identity in
the C09 model; the fuel is existential.
-/
namespace Yuiv.C07
open Matrix Yuiv

variable {α K : Type} [CommRing K] [IsDomain K] {e : C09.EOps α} {φ : α → K}

/-- **the generic code at `intOps` is the `Int` model.**  For SNF routines that correspond under the bijection
`Mat.toG : Mat → GMat Int` (same shape, same array), `calculateG intOps` returns the image of what the model
`calculate` of `Model/C07Calc.lean` returns — same value, same panic, same fuel exhaustion -/
theorem generic_code_is_int_model (snf : SnfFn) (snfG : GSnfFn Int)
    (hsnf : ∀ A fl, snfG (Mat.toG A) fl = Res.mapR Snf.toG (snf A fl)) (d1 d2 : Mat) (wt : Bool) :
    calculateG C09.intOps snfG d1.toG d2.toG wt = Res.mapR ansToG (calculate snf d1 d2 wt) :=
  calculateG_int snf snfG hsnf d1 d2 wt

/-- **… and the generic composite is the composite of `Props/C07Full.lean`**: `calculateG intOps (snfC09G intOps fuel)`
is `calculate (snfC09 fuel)`; so are the coordinate matrices read off the returned `Trans` -/
theorem generic_composite_is_int_composite (fuel : Nat) (d1 d2 : Mat) (wt : Bool) :
    calculateG C09.intOps (snfC09G C09.intOps fuel) d1.toG d2.toG wt =
      Res.mapR ansToG (calculate (snfC09 fuel) d1 d2 wt) ∧
    (∀ t : Trans, t.toG.forwardMat C09.intOps.toROps = Res.mapR Mat.toG t.forwardMat ∧
      t.toG.backwardMat C09.intOps.toROps = Res.mapR Mat.toG t.backwardMat) :=
  ⟨calculateG_snfC09_int fuel d1 d2 wt, fun t => ⟨forwardMatG_int t, backwardMatG_int t⟩⟩

/-- **the number of non-zero diagonal entries of the library's SNF is the rank**, for every lawful operation record:
the C09 code model returns (for all `fuel ≥ N`) one final state `st`, the verified checker accepts its target, and
the number of non-zero entries on its diagonal equals `Matrix.rank` of the input read through `φ` (over `K`) -/
theorem snf_nzCount_eq_rank_euc (L : C09.LawfulEuc e φ) (A : GMat α) :
    ∃ (N : Nat) (st : C09.St α A.r A.c),
      (∀ fuel, N ≤ fuel → C09.snfCalc e true (fun s => .ok s) fuel (toC09G e.toROps A) = .ok st) ∧
      C09.isSnfShape e st.t = true ∧
      nzCountG e st = (A.toM φ e.toROps A.r A.c).rank :=
  nzCountG_eq_rank L A

/-- **C07 end-to-end, every lawful Euclidean operation record.**  Let `L : LawfulEuc e φ` (`φ : α → K`, `K` a
commutative domain).  For every pair of matrices `d1 : n×m`, `d2 : k×n` over `α` (`n = d1.r`, `m = d1.c`, `k = d2.r`)
with `φ(d2)·φ(d1) = 0` there is a fuel bound `N` such that for every `fuel ≥ N` the generic code of
`HomologyCalc::calculate(d1, d2, with_trans = true)` running on the code model of the library's SNF returns — no
panic, no fuel exhaustion — one answer `(rank, tors, T)` with `P = T.forward_mat()`, `Q = T.backward_mat()` and

* `rank + r(d1) + r(d2) = n`, where `r(·)` = number of non-zero diagonal entries of the SNF which the library
  computes for `d1` resp. `d2` (`st1`, `st2`; the verified checker `isSnfShape` accepts both), and `r(·)` =
  `Matrix.rank` over `K`;
* `tors` = the non-zero non-unit entries on the Smith diagonal of `d1` (`st1`), in order;
* `HomologySpecG`: the orders are non-zero, non-units, normalised, each divides the next; `P·Q = I`; `d2·Q = 0`;
  every boundary `d1·x` has zero free coordinates and torsion coordinate `u` divisible by `tors[u]`;
  `P·(Q·e_i) = e_i`; and completeness — every cycle whose free coordinates vanish and whose torsion coordinates are
  divisible by the orders is a boundary.  (So `z ↦ P·z` induces `ker d2 / im d1 ≅ K^rank ⊕ ⊕_u K/(tors[u])`.) -/
theorem calculate_end_to_end_euc (L : C09.LawfulEuc e φ) (d1 d2 : GMat α) (hsh : d2.c = d1.r)
    (hdd : d2.toM φ e.toROps d2.r d1.r * d1.toM φ e.toROps d1.r d1.c = 0) :
    ∃ (N : Nat) (st1 : C09.St α d1.r d1.c) (st2 : C09.St α d2.r d2.c)
      (rank : Nat) (tors : List α) (T : GTrans α) (P Q : GMat α),
      (∀ fuel, N ≤ fuel → C09.snfCalc e true (fun s => .ok s) fuel (toC09G e.toROps d1) = .ok st1) ∧
      (∀ fuel, N ≤ fuel → C09.snfCalc e true (fun s => .ok s) fuel (toC09G e.toROps d2) = .ok st2) ∧
      (∀ fuel, N ≤ fuel → calculateG e (snfC09G e fuel) d1 d2 true = .ok (rank, tors, some T)) ∧
      T.forwardMat e.toROps = .ok P ∧ T.backwardMat e.toROps = .ok Q ∧
      C09.isSnfShape e st1.t = true ∧ C09.isSnfShape e st2.t = true ∧
      rank + nzCountG e st1 + nzCountG e st2 = d1.r ∧
      nzCountG e st1 = (d1.toM φ e.toROps d1.r d1.c).rank ∧
      nzCountG e st2 = (d2.toM φ e.toROps d2.r d1.r).rank ∧
      tors = nonUnitFactorsG e st1 ∧
      HomologySpecG e φ d1 d2 d1.r d1.c d2.r rank tors P Q :=
  calculateG_end_to_end L d1 d2 hsh hdd

omit [IsDomain K] in
/-- over a FIELD (every non-zero element of `K` is a unit) there is no torsion: the answer of
`calculate_end_to_end_euc` has `tors = []`, so `H ≅ K^rank` with `rank = n − rank d1 − rank d2` -/
theorem no_torsion_over_field (hK : ∀ x : K, x ≠ 0 → IsUnit x) {d1 d2 : GMat α} {n m k rank : Nat} {tors : List α}
    {P Q : GMat α} (h : HomologySpecG e φ d1 d2 n m k rank tors P Q) : tors = [] := by
  cases tors with
  | nil => rfl
  | cons x xs =>
    obtain ⟨h1, h2, _⟩ := h.tors_nonunit x (by simp)
    exact absurd (hK _ h1) h2

/-- **C07 end-to-end over a field** (every non-zero element of `K` is a unit): `H ≅ K^rank` with
`rank + rank d1 + rank d2 = n` (`Matrix.rank` over `K`), no torsion, and all generator clauses -/
theorem calculate_end_to_end_field (L : C09.LawfulEuc e φ) (hK : ∀ x : K, x ≠ 0 → IsUnit x) (d1 d2 : GMat α)
    (hsh : d2.c = d1.r) (hdd : d2.toM φ e.toROps d2.r d1.r * d1.toM φ e.toROps d1.r d1.c = 0) :
    ∃ (N rank : Nat) (T : GTrans α) (P Q : GMat α),
      (∀ fuel, N ≤ fuel → calculateG e (snfC09G e fuel) d1 d2 true = .ok (rank, [], some T)) ∧
      T.forwardMat e.toROps = .ok P ∧ T.backwardMat e.toROps = .ok Q ∧
      rank + (d1.toM φ e.toROps d1.r d1.c).rank + (d2.toM φ e.toROps d2.r d1.r).rank = d1.r ∧
      HomologySpecG e φ d1 d2 d1.r d1.c d2.r rank [] P Q := by
  obtain ⟨N, st1, st2, rank, tors, T, P, Q, _, _, h3, h4, h5, _, _, h6, h7, h8, _, h10⟩ :=
    calculate_end_to_end_euc L d1 d2 hsh hdd
  have ht : tors = [] := no_torsion_over_field hK h10
  subst ht
  exact ⟨N, rank, T, P, Q, h3, h4, h5, by omega, h10⟩

/-- **ℤ through the generic theorem**: `calculate_end_to_end_euc` at `(intOps, id)` -/
theorem calculate_end_to_end_int (d1 d2 : GMat Int) (hsh : d2.c = d1.r)
    (hdd : d2.toM (id : Int → Int) C09.intOps.toROps d2.r d1.r * d1.toM id C09.intOps.toROps d1.r d1.c = 0) :
    ∃ (N : Nat) (st1 : C09.St Int d1.r d1.c) (st2 : C09.St Int d2.r d2.c)
      (rank : Nat) (tors : List Int) (T : GTrans Int) (P Q : GMat Int),
      (∀ fuel, N ≤ fuel → C09.snfCalc C09.intOps true (fun s => .ok s) fuel (toC09G C09.intOps.toROps d1) = .ok st1) ∧
      (∀ fuel, N ≤ fuel → C09.snfCalc C09.intOps true (fun s => .ok s) fuel (toC09G C09.intOps.toROps d2) = .ok st2) ∧
      (∀ fuel, N ≤ fuel → calculateG C09.intOps (snfC09G C09.intOps fuel) d1 d2 true = .ok (rank, tors, some T)) ∧
      T.forwardMat C09.intOps.toROps = .ok P ∧ T.backwardMat C09.intOps.toROps = .ok Q ∧
      C09.isSnfShape C09.intOps st1.t = true ∧ C09.isSnfShape C09.intOps st2.t = true ∧
      rank + nzCountG C09.intOps st1 + nzCountG C09.intOps st2 = d1.r ∧
      nzCountG C09.intOps st1 = (d1.toM id C09.intOps.toROps d1.r d1.c).rank ∧
      nzCountG C09.intOps st2 = (d2.toM id C09.intOps.toROps d2.r d1.r).rank ∧
      tors = nonUnitFactorsG C09.intOps st1 ∧
      HomologySpecG C09.intOps id d1 d2 d1.r d1.c d2.r rank tors P Q :=
  calculate_end_to_end_euc C09.int_lawfulEuc d1 d2 hsh hdd

/-- **`Props/C07Full.lean` recovered**: the ℤ end-to-end theorem `calculate_end_to_end` — about the `Int` model
`calculate (snfC09 fuel)` that the driver's definitions compose, in the vocabulary `Mat`, `nzCount`,
`nonUnitFactors`, `HomologySpec` — follows from the generic theorem at `(intOps, id)` and the tie
`generic_composite_is_int_composite` -/
theorem calculate_end_to_end_recovered (d1 d2 : Mat) (hsh : d2.c = d1.r)
    (hdd : d2.toM d2.r d1.r * d1.toM d1.r d1.c = 0) :
    ∃ (N : Nat) (st1 : C09.St Int d1.r d1.c) (st2 : C09.St Int d2.r d2.c)
      (rank : Nat) (tors : List Int) (T : Trans) (P Q : Mat),
      (∀ fuel, N ≤ fuel → C09.snfCalc C09.intOps true (fun s => .ok s) fuel (toC09 d1) = .ok st1) ∧
      (∀ fuel, N ≤ fuel → C09.snfCalc C09.intOps true (fun s => .ok s) fuel (toC09 d2) = .ok st2) ∧
      (∀ fuel, N ≤ fuel → calculate (snfC09 fuel) d1 d2 true = .ok (rank, tors, some T)) ∧
      T.forwardMat = .ok P ∧ T.backwardMat = .ok Q ∧
      rank + nzCount st1 + nzCount st2 = d1.r ∧
      nzCount st1 = (d1.toM d1.r d1.c).rank ∧ nzCount st2 = (d2.toM d2.r d1.r).rank ∧
      tors = nonUnitFactors st1 ∧
      HomologySpec d1 d2 d1.r d1.c d2.r rank tors P Q :=
  calculate_end_to_end d1 d2 hsh hdd

/-- **ℚ**: `H ≅ ℚ^rank`, `rank = n − rank d1 − rank d2`, no torsion -/
theorem calculate_end_to_end_rat (d1 d2 : GMat Rat) (hsh : d2.c = d1.r)
    (hdd : d2.toM (id : Rat → Rat) C09.ratOps.toROps d2.r d1.r * d1.toM id C09.ratOps.toROps d1.r d1.c = 0) :
    ∃ (N rank : Nat) (T : GTrans Rat) (P Q : GMat Rat),
      (∀ fuel, N ≤ fuel → calculateG C09.ratOps (snfC09G C09.ratOps fuel) d1 d2 true = .ok (rank, [], some T)) ∧
      T.forwardMat C09.ratOps.toROps = .ok P ∧ T.backwardMat C09.ratOps.toROps = .ok Q ∧
      rank + (d1.toM id C09.ratOps.toROps d1.r d1.c).rank + (d2.toM id C09.ratOps.toROps d2.r d1.r).rank = d1.r ∧
      HomologySpecG C09.ratOps id d1 d2 d1.r d1.c d2.r rank [] P Q :=
  calculate_end_to_end_field C09.rat_lawfulEuc (fun x hx => IsUnit.mk0 x hx) d1 d2 hsh hdd

/-- **𝔽_p** (`p` prime; residues as natural numbers, `φ = Nat.cast : ℕ → ZMod p`): `H ≅ 𝔽_p^rank`, no torsion -/
theorem calculate_end_to_end_fp (p : Nat) [Fact p.Prime] (d1 d2 : GMat Nat) (hsh : d2.c = d1.r)
    (hdd : d2.toM (fun a : Nat => (a : ZMod p)) (C09.fpOps p).toROps d2.r d1.r *
      d1.toM (fun a : Nat => (a : ZMod p)) (C09.fpOps p).toROps d1.r d1.c = 0) :
    ∃ (N rank : Nat) (T : GTrans Nat) (P Q : GMat Nat),
      (∀ fuel, N ≤ fuel → calculateG (C09.fpOps p) (snfC09G (C09.fpOps p) fuel) d1 d2 true = .ok (rank, [], some T)) ∧
      T.forwardMat (C09.fpOps p).toROps = .ok P ∧ T.backwardMat (C09.fpOps p).toROps = .ok Q ∧
      rank + (d1.toM (fun a : Nat => (a : ZMod p)) (C09.fpOps p).toROps d1.r d1.c).rank +
        (d2.toM (fun a : Nat => (a : ZMod p)) (C09.fpOps p).toROps d2.r d1.r).rank = d1.r ∧
      HomologySpecG (C09.fpOps p) (fun a : Nat => (a : ZMod p)) d1 d2 d1.r d1.c d2.r rank [] P Q :=
  calculate_end_to_end_field (C09.fp_lawfulEuc p) (fun x hx => IsUnit.mk0 x hx) d1 d2 hsh hdd

/-- **ℤ[i]** (`gaussOps` on pairs, `φ = gφ : ℤ × ℤ → GaussianInt`): rank, torsion (normalised to the quadrant
`re > 0, im ≥ 0` by `normalizing_unit`), and all generator clauses -/
theorem calculate_end_to_end_gauss (d1 d2 : GMat (Int × Int)) (hsh : d2.c = d1.r)
    (hdd : d2.toM C09.gφ C09.gaussOps.toROps d2.r d1.r * d1.toM C09.gφ C09.gaussOps.toROps d1.r d1.c = 0) :
    ∃ (N : Nat) (st1 : C09.St (Int × Int) d1.r d1.c) (st2 : C09.St (Int × Int) d2.r d2.c)
      (rank : Nat) (tors : List (Int × Int)) (T : GTrans (Int × Int)) (P Q : GMat (Int × Int)),
      (∀ fuel, N ≤ fuel →
        C09.snfCalc C09.gaussOps true (fun s => .ok s) fuel (toC09G C09.gaussOps.toROps d1) = .ok st1) ∧
      (∀ fuel, N ≤ fuel →
        C09.snfCalc C09.gaussOps true (fun s => .ok s) fuel (toC09G C09.gaussOps.toROps d2) = .ok st2) ∧
      (∀ fuel, N ≤ fuel →
        calculateG C09.gaussOps (snfC09G C09.gaussOps fuel) d1 d2 true = .ok (rank, tors, some T)) ∧
      T.forwardMat C09.gaussOps.toROps = .ok P ∧ T.backwardMat C09.gaussOps.toROps = .ok Q ∧
      C09.isSnfShape C09.gaussOps st1.t = true ∧ C09.isSnfShape C09.gaussOps st2.t = true ∧
      rank + nzCountG C09.gaussOps st1 + nzCountG C09.gaussOps st2 = d1.r ∧
      nzCountG C09.gaussOps st1 = (d1.toM C09.gφ C09.gaussOps.toROps d1.r d1.c).rank ∧
      nzCountG C09.gaussOps st2 = (d2.toM C09.gφ C09.gaussOps.toROps d2.r d1.r).rank ∧
      tors = nonUnitFactorsG C09.gaussOps st1 ∧
      HomologySpecG C09.gaussOps C09.gφ d1 d2 d1.r d1.c d2.r rank tors P Q :=
  calculate_end_to_end_euc C09.gauss_lawfulEuc d1 d2 hsh hdd

/-- **ℤ[ω]** (Eisenstein integers, `eisOps`, `Proofs/C09EucEis.lean`) -/
theorem calculate_end_to_end_eis (d1 d2 : GMat (Int × Int)) (hsh : d2.c = d1.r)
    (hdd : d2.toM C09.eφ C09.eisOps.toROps d2.r d1.r * d1.toM C09.eφ C09.eisOps.toROps d1.r d1.c = 0) :
    ∃ (N : Nat) (st1 : C09.St (Int × Int) d1.r d1.c) (st2 : C09.St (Int × Int) d2.r d2.c)
      (rank : Nat) (tors : List (Int × Int)) (T : GTrans (Int × Int)) (P Q : GMat (Int × Int)),
      (∀ fuel, N ≤ fuel →
        C09.snfCalc C09.eisOps true (fun s => .ok s) fuel (toC09G C09.eisOps.toROps d1) = .ok st1) ∧
      (∀ fuel, N ≤ fuel →
        C09.snfCalc C09.eisOps true (fun s => .ok s) fuel (toC09G C09.eisOps.toROps d2) = .ok st2) ∧
      (∀ fuel, N ≤ fuel →
        calculateG C09.eisOps (snfC09G C09.eisOps fuel) d1 d2 true = .ok (rank, tors, some T)) ∧
      T.forwardMat C09.eisOps.toROps = .ok P ∧ T.backwardMat C09.eisOps.toROps = .ok Q ∧
      C09.isSnfShape C09.eisOps st1.t = true ∧ C09.isSnfShape C09.eisOps st2.t = true ∧
      rank + nzCountG C09.eisOps st1 + nzCountG C09.eisOps st2 = d1.r ∧
      nzCountG C09.eisOps st1 = (d1.toM C09.eφ C09.eisOps.toROps d1.r d1.c).rank ∧
      nzCountG C09.eisOps st2 = (d2.toM C09.eφ C09.eisOps.toROps d2.r d1.r).rank ∧
      tors = nonUnitFactorsG C09.eisOps st1 ∧
      HomologySpecG C09.eisOps C09.eφ d1 d2 d1.r d1.c d2.r rank tors P Q :=
  calculate_end_to_end_euc C09.lawfulEuc_eis d1 d2 hsh hdd

/-- **`F[x]`** for every field `F` with decidable equality (coefficient lists, `polyOps F`,
`Proofs/C09EucPoly.lean`) — the ring of the Khovanov-homology computations over `𝔽_2[H]`, `ℚ[H]` -/
theorem calculate_end_to_end_poly (F : Type) [Field F] [DecidableEq F] (d1 d2 : GMat (List F)) (hsh : d2.c = d1.r)
    (hdd : d2.toM (C09.pφ (F := F)) (C09.polyOps F).toROps d2.r d1.r *
      d1.toM (C09.pφ (F := F)) (C09.polyOps F).toROps d1.r d1.c = 0) :
    ∃ (N : Nat) (st1 : C09.St (List F) d1.r d1.c) (st2 : C09.St (List F) d2.r d2.c)
      (rank : Nat) (tors : List (List F)) (T : GTrans (List F)) (P Q : GMat (List F)),
      (∀ fuel, N ≤ fuel →
        C09.snfCalc (C09.polyOps F) true (fun s => .ok s) fuel (toC09G (C09.polyOps F).toROps d1) = .ok st1) ∧
      (∀ fuel, N ≤ fuel →
        C09.snfCalc (C09.polyOps F) true (fun s => .ok s) fuel (toC09G (C09.polyOps F).toROps d2) = .ok st2) ∧
      (∀ fuel, N ≤ fuel →
        calculateG (C09.polyOps F) (snfC09G (C09.polyOps F) fuel) d1 d2 true = .ok (rank, tors, some T)) ∧
      T.forwardMat (C09.polyOps F).toROps = .ok P ∧ T.backwardMat (C09.polyOps F).toROps = .ok Q ∧
      C09.isSnfShape (C09.polyOps F) st1.t = true ∧ C09.isSnfShape (C09.polyOps F) st2.t = true ∧
      rank + nzCountG (C09.polyOps F) st1 + nzCountG (C09.polyOps F) st2 = d1.r ∧
      nzCountG (C09.polyOps F) st1 = (d1.toM (C09.pφ (F := F)) (C09.polyOps F).toROps d1.r d1.c).rank ∧
      nzCountG (C09.polyOps F) st2 = (d2.toM (C09.pφ (F := F)) (C09.polyOps F).toROps d2.r d1.r).rank ∧
      tors = nonUnitFactorsG (C09.polyOps F) st1 ∧
      HomologySpecG (C09.polyOps F) (C09.pφ (F := F)) d1 d2 d1.r d1.c d2.r rank tors P Q :=
  calculate_end_to_end_euc C09.lawfulEuc_poly d1 d2 hsh hdd

/- `runsToG e d1 d2 rank tors` (Proofs/C07Euc.lean): run `calculateG e (snfC09G e 50) d1 d2 true`, compare `(rank, tors)`
and test `P·Q = I`, `d2·Q = 0` and the boundary clause on the returned maps with the operations of `e` -/

/-- over 𝔽_5: `d1 = [[1,2],[2,4],[0,0]] : 𝔽_5² → 𝔽_5³` (rank 1), `d2 = (3,1,2) : 𝔽_5³ → 𝔽_5` (rank 1),
`d2·d1 = (5, 10) = 0`;  `H = 𝔽_5^(3-1-1) = 𝔽_5` -/
example : runsToG (C09.fpOps 5) ⟨3, 2, #[1, 2, 2, 4, 0, 0]⟩ ⟨1, 3, #[3, 1, 2]⟩ 1 [] = true := by decide +kernel

/-- … and the hypotheses of `calculate_end_to_end_fp` hold for it (`d2·d1 = 0` with the operations of `fpOps 5`) -/
example : (GMat.mul (C09.fpOps 5).toROps ⟨1, 3, #[3, 1, 2]⟩ ⟨3, 2, #[1, 2, 2, 4, 0, 0]⟩).isZero (C09.fpOps 5).toROps
    = true := by decide +kernel

/-- over ℤ[i]: `d1 = [[1+i, 2],[0, 3+i]]`, `d2 = (0, 0)`;  `H = ℤ[i]/(1+i) ⊕ ℤ[i]/(3+i)` (`(1+i) ∣ (3+i)`) -/
example : runsToG C09.gaussOps ⟨2, 2, #[(1, 1), (2, 0), (0, 0), (3, 1)]⟩ ⟨1, 2, #[(0, 0), (0, 0)]⟩ 0
    [(1, 1), (3, 1)] = true := by decide +kernel

/-- over ℤ[i] with a free part: `d1 = (2, 0)ᵀ : ℤ[i] → ℤ[i]²`, `d2 = 0 : ℤ[i]² → ℤ[i]`;  `H = ℤ[i] ⊕ ℤ[i]/(2)` -/
example : runsToG C09.gaussOps ⟨2, 1, #[(2, 0), (0, 0)]⟩ ⟨1, 2, #[(0, 0), (0, 0)]⟩ 1 [(2, 0)] = true := by
  decide +kernel

/-- over ℚ: `d1 = (1, 2)ᵀ`, `d2 = (2, -1)`; exact: `H = 0` -/
example : runsToG C09.ratOps ⟨2, 1, #[1, 2]⟩ ⟨1, 2, #[2, -1]⟩ 0 [] = true := by decide +kernel

/-- over 𝔽_2[x]: `d1 = (x, 0)ᵀ`, `d2 = 0`;  `H = 𝔽_2[x] ⊕ 𝔽_2[x]/(x)` -/
example : runsToG (C09.polyOps (ZMod 2)) ⟨2, 1, #[[0, 1], []]⟩ ⟨1, 2, #[[], []]⟩ 1 [[0, 1]] = true := by
  decide +kernel

/-- over 𝔽_3[x]: `d1 = [[x, 1],[0, x²]]` (Smith form `diag(1, x³)`), `d2 = 0`;  `H = 𝔽_3[x]/(x³)` -/
example : runsToG (C09.polyOps (ZMod 3)) ⟨2, 2, #[[0, 1], [1], [], [0, 0, 1]]⟩ ⟨1, 2, #[[], []]⟩ 0 [[0, 0, 0, 1]]
    = true := by decide +kernel

/-- the generic code at `intOps` on the complex of `Props/C07Full.lean`: `H = ℤ ⊕ ℤ/2 ⊕ ℤ/6` -/
example : runsToG C09.intOps ⟨4, 3, #[2, 0, 0, 2, 6, 0, 0, 0, 0, 0, 0, 0]⟩ ⟨1, 4, #[0, 0, 0, 1]⟩ 1 [2, 6] = true := by
  decide +kernel

end Yuiv.C07
