import Yuiv.Proofs.C15FieldModel
import Mathlib.Tactic.NormNum.Prime
/-
C15 — the Euclidean-ring clauses for the two *field* types of `yui`: `Ratio` (model `Q`/`ratOps`, canonical
fractions) and `FF<p>` for an ARBITRARY prime `p` (model `ffOps p`, residues `0..p`).  Property theorems about
the code model `Yuiv/Model/C15.lean` (the same definitions the driver runs in the differential check).

All statements are literal equalities in the model's own arithmetic (`Q.add`, `Q.mul`, `FF.add p`, `FF.mul p`, …
— the operations the harness oracle evaluates with the real `+`, `*`), for ALL valid inputs:
`Q.WF x` = positive denominator and lowest terms (what `Ratio::new` produces), resp. `a < p`.
They are obtained from the Mathlib fields `ℚ` / `ZMod p` through `FieldModel` (Proofs/C15FieldModel.lean), whose
interpretation map is injective on valid representatives.

Clauses of C15 covered here, for Q and F_p (p prime):
* `a = (a/b)·b + (a%b)` with remainder zero, `b ≠ 0`;  `b = 0`: the operators panic (`assert!(!rhs.is_zero())`
  in ratio.rs `div_assign`/`rem`, ff.rs `div`/`rem`);
* `gcd(a,b)` divides both, is divisible by every common divisor, is the normalised associate (`1`, or `0` for
  `gcd(0,0)`) and independent of the argument order;
* `gcdx` returns `(d, s, t)` with `s·a + t·b = d` and `d = gcd(a,b)`;
* `lcm·gcd` is an associate of `a·b` (a, b not both zero), lcm normalised, `lcm = 0` iff an operand is `0`;
  `lcm(0,0)` panics (division by the gcd `0`);
* F_p: unit ⇔ inverse returned, `a·inv(a) = 1`; normalising unit is a unit, normalisation idempotent and
  constant on associates (for Q these two are in Props/C15.lean: `rat_units`, `rat_normalized`);
* the fuel of the modelled Euclid loops is never exhausted (`gcd`/`gcdx` return `.ok`; any fuel `≥ 1` suffices).
Props/C15.lean has the exhaustive theorems for p = 2,3,5,7; the ones here hold for every prime.
-/
namespace Yuiv.C15
open Yuiv

/-- the model of `Ratio` computes the field ℚ on canonical fractions: ring operations, `/`, `inv`,
`normalizing_unit` = inverse, `is_unit = !is_zero`, `% = 0`, Euclidean size `0/1` (hypotheses of every
field-level theorem below) -/
theorem rat_field_model : FieldModel ratOps Q.WF Q.toRat := Q.fieldModel

/-- C15 "a = (a/b)·b + (a%b), remainder zero" for `Ratio`.
* `b = 0`: `/` and `%` panic (ratio.rs: `assert!(!rhs.is_zero())`);
* `b ≠ 0`: no panic, the quotient is canonical and is the rational quotient, `a % b = 0`,
  and `(a/b)·b + a%b = a`, `(a/b)·b = a` literally. -/
theorem rat_div_rem (a b : Q) (ha : Q.WF a) (hb : Q.WF b) :
    (b.num = 0 → ratOps.divR a b = .panic ∧ ratOps.remR a b = .panic) ∧
    (b.num ≠ 0 → ratOps.divR a b = .ok (Q.div a b) ∧ ratOps.remR a b = .ok Q.zero ∧ Q.rem a b = Q.zero ∧
      Q.WF (Q.div a b) ∧ Q.add (Q.mul (Q.div a b) b) (Q.rem a b) = a ∧ Q.mul (Q.div a b) b = a ∧
      Q.toRat (Q.div a b) = Q.toRat a / Q.toRat b) :=
  ⟨fun h => ratOps.div_zero_panics a b ((Q.isZero_iff b).2 h),
   fun h => Q.fieldModel.div_spec a b ha hb ((Q.isZero_false_iff b).2 h)⟩

example : Q.WF ⟨-7, 4⟩ ∧ Q.WF ⟨21, 10⟩ ∧ Q.div ⟨-7, 4⟩ ⟨21, 10⟩ = ⟨-5, 6⟩ ∧
    Q.add (Q.mul (Q.div ⟨-7, 4⟩ ⟨21, 10⟩) ⟨21, 10⟩) (Q.rem ⟨-7, 4⟩ ⟨21, 10⟩) = ⟨-7, 4⟩ :=
  ⟨⟨by decide, by decide⟩, ⟨by decide, by decide⟩, by decide, by decide⟩

/-- C15 "gcd(a,b) divides both … normalised associate regardless of argument order" for `Ratio`:
`gcd` returns (no panic, fuel not exhausted) the canonical `d = 1`, or `0` for `gcd(0,0)`; `d` divides `a`
and `b` (`d·c = a` with a canonical cofactor), every common divisor divides `d`, `d` is normalised, and
`gcd(b,a)` is the same. -/
theorem rat_gcd_divides (a b : Q) (ha : Q.WF a) (hb : Q.WF b) :
    ∃ d, ratOps.gcd a b = .ok d ∧ ratOps.gcd b a = .ok d ∧ Q.WF d ∧
      d = (if a.num = 0 ∧ b.num = 0 then Q.zero else Q.one) ∧ ratOps.normalized d = d ∧
      (∃ c, Q.WF c ∧ Q.mul d c = a) ∧ (∃ c, Q.WF c ∧ Q.mul d c = b) ∧
      (∀ c, Q.WF c → (∃ c', Q.WF c' ∧ Q.mul c c' = a) → (∃ c', Q.WF c' ∧ Q.mul c c' = b) →
        ∃ c', Q.WF c' ∧ Q.mul c c' = d) := by
  obtain ⟨d, h1, h2, hv, hd, hn, h3, h4, h5⟩ := Q.fieldModel.gcd_divides a b ha hb
  rw [Q.ite_and] at hd
  exact ⟨d, h1, h2, hv, hd, hn, h3, h4, h5⟩

/-- C15 "gcd is a combination s·a + t·b with the returned s and t" for `Ratio`: the generic `gcdx` returns
(no panic, fuel not exhausted) canonical `(d, s, t)` with `s·a + t·b = d` literally, `d` is what `gcd`
returns, i.e. the normalised `1` (or `0` for `a = b = 0`). -/
theorem rat_gcdx_bezout (a b : Q) (ha : Q.WF a) (hb : Q.WF b) :
    ∃ d s t, ratOps.gcdx a b = .ok (d, s, t) ∧ Q.WF d ∧ Q.WF s ∧ Q.WF t ∧
      Q.add (Q.mul s a) (Q.mul t b) = d ∧ ratOps.gcd a b = .ok d ∧
      d = (if a.num = 0 ∧ b.num = 0 then Q.zero else Q.one) ∧ ratOps.normalized d = d := by
  obtain ⟨d, s, t, e, hd, hs, ht, hbz, hg, hv, hn⟩ := Q.fieldModel.gcdx_spec a b ha hb
  rw [Q.ite_and] at hv
  exact ⟨d, s, t, e, hd, hs, ht, hbz, hg, hv, hn⟩

example : ratOps.gcdx ⟨2, 3⟩ ⟨5, 1⟩ = .ok (⟨1, 1⟩, ⟨3, 2⟩, ⟨0, 1⟩) ∧
    Q.add (Q.mul ⟨3, 2⟩ ⟨2, 3⟩) (Q.mul ⟨0, 1⟩ ⟨5, 1⟩) = ⟨1, 1⟩ ∧
    ratOps.gcdx ⟨0, 1⟩ ⟨-5, 7⟩ = .ok (⟨1, 1⟩, ⟨0, 1⟩, ⟨-7, 5⟩) := by decide

/-- C15 "lcm·gcd is an associate of a·b (a, b not both zero)" for `Ratio`: `lcm` returns a canonical `l`,
`gcd` returns `g = 1`, `(l·g)·u = a·b` for a canonical non-zero (= unit) `u`, `l` is normalised, and
`l = 0` if an operand is `0`, `l = 1` otherwise. -/
theorem rat_lcm (a b : Q) (ha : Q.WF a) (hb : Q.WF b) (hab : ¬(a.num = 0 ∧ b.num = 0)) :
    ∃ l g, ratOps.lcm a b = .ok l ∧ ratOps.gcd a b = .ok g ∧ Q.WF l ∧ Q.WF g ∧ g = Q.one ∧
      (∃ u, Q.WF u ∧ u.num ≠ 0 ∧ Q.mul (Q.mul l g) u = Q.mul a b) ∧
      ratOps.normalized l = l ∧
      l = (if a.num = 0 ∨ b.num = 0 then Q.zero else Q.one) := by
  obtain ⟨l, g, e1, e2, hl, hg, hg1, ⟨u, hu, hu0, hm⟩, hn, hv⟩ :=
    Q.fieldModel.lcm_spec a b ha hb
      (by simpa only [Bool.and_eq_false_iff, Q.isZero_false_iff, not_and_or] using hab)
  simp only [Bool.or_eq_true, Q.isZero_iff] at hv
  exact ⟨l, g, e1, e2, hl, hg, hg1, ⟨u, hu, (Q.isZero_false_iff u).1 hu0, hm⟩, hn, hv⟩

/-- `lcm(0,0)` panics for `Ratio` (euc_ring.rs `lcm`: `y / gcd(x,y)` with `gcd = 0` hits the
`assert!(!rhs.is_zero())` of `div_assign`) -/
theorem rat_lcm_zero_zero (a b : Q) (ha : Q.WF a) (hb : Q.WF b) (h : a.num = 0 ∧ b.num = 0) :
    ratOps.lcm a b = .panic :=
  Q.fieldModel.lcm_zero_zero a b ha hb (by simpa only [Bool.and_eq_true, Q.isZero_iff] using h)

example : ratOps.lcm ⟨2, 3⟩ ⟨-5, 7⟩ = .ok ⟨1, 1⟩ ∧ ratOps.lcm ⟨0, 1⟩ ⟨-5, 7⟩ = .ok ⟨0, 1⟩ ∧
    ratOps.lcm ⟨0, 1⟩ ⟨0, 1⟩ = .panic := by decide

/-- fuel: over `Ratio` the `while !y.is_zero()` loops of `gcd`/`gcdx` stop after at most one step, for ALL
operands (canonical or not): every fuel `≥ 1` gives the same result (the model runs them with
`norm y + 1 ≥ 1`; by `rat_gcd_divides`/`rat_gcdx_bezout` the early returns make them unreachable anyway). -/
theorem rat_euclid_loops_total (fuel : Nat) (hf : 1 ≤ fuel) (x y s0 s1 t0 t1 : Q) :
    ratOps.gcdLoop fuel x y = some (if y.num = 0 then x else y) ∧
    ratOps.gcdxLoop fuel x y s0 s1 t0 t1 = some (if y.num = 0 then (x, s0, t0) else (y, s1, t1)) := by
  have e1 := ratOps.gcdLoop_total (fun _ _ => rfl) rfl fuel hf x y
  have e2 := ratOps.gcdxLoop_total (fun _ _ => rfl) rfl fuel hf x y s0 s1 t0 t1
  have : ∀ {α : Type} (u v : α), (if ratOps.isZero y = true then u else v) = if y.num = 0 then u else v := by
    intro α u v; simp [ratOps, Q.isZero]
  rw [this] at e1 e2
  exact ⟨e1, e2⟩

/-- the model of `FF<p>` computes the field `ZMod p` on residues `< p`, for every prime `p` (in particular the
search in the model's `inv` always succeeds, i.e. `assert!(d.is_one())` in ff.rs cannot fail) -/
theorem ff_field_model (p : Nat) [Fact p.Prime] :
    FieldModel (ffOps p) (fun a => a < p) (fun a => (a : ZMod p)) := FF.fieldModel p

/-- C15 "a = (a/b)·b + (a%b), remainder zero" for `FF<p>`, any prime `p`, residues `a, b < p`.
* `b = 0`: `/` and `%` panic (ff.rs: `assert!(!rhs.is_zero())`);
* `b ≠ 0`: no panic, quotient `< p`, `a % b = 0`, `(a/b)·b + a%b = a` and `(a/b)·b = a` literally
  (`FF.mul p x y = x*y % p`, `FF.add p x y = (x+y) % p`). -/
theorem ff_div_rem (p : Nat) (hp : p.Prime) (a b : Nat) (ha : a < p) (hb : b < p) :
    (b = 0 → (ffOps p).divR a b = .panic ∧ (ffOps p).remR a b = .panic) ∧
    (b ≠ 0 → (ffOps p).divR a b = .ok (FF.div p a b) ∧ (ffOps p).remR a b = .ok 0 ∧
      FF.div p a b < p ∧ FF.add p (FF.mul p (FF.div p a b) b) 0 = a ∧ FF.mul p (FF.div p a b) b = a) := by
  have := Fact.mk hp
  refine ⟨fun h => (ffOps p).div_zero_panics a b ((FF.isZero_iff p b).2 h), fun h => ?_⟩
  obtain ⟨h1, h2, _, h4, h5, h6, _⟩ := (FF.fieldModel p).div_spec a b ha hb ((FF.isZero_false_iff p b).2 h)
  exact ⟨h1, h2, h4, h5, h6⟩

/-- C15 "an element reports itself a unit exactly when an inverse is returned and a·inv = 1" for `FF<p>`, any
prime `p`: `is_unit a ⇔ inv a ≠ None ⇔ a ≠ 0`; for `a ≠ 0` the inverse `u < p` is returned, is non-zero and
`a·u mod p = 1`; `inv 0 = None`. -/
theorem ff_units (p : Nat) (hp : p.Prime) (a : Nat) (ha : a < p) :
    ((ffOps p).isUnit a = true ↔ FF.inv p a ≠ none) ∧
    ((ffOps p).isUnit a = true ↔ a ≠ 0) ∧
    (a = 0 → FF.inv p a = none) ∧
    (a ≠ 0 → ∃ u, FF.inv p a = some u ∧ u < p ∧ u ≠ 0 ∧ FF.mul p a u = 1) ∧
    (∀ u, FF.inv p a = some u → u < p ∧ FF.mul p a u = 1) := by
  have := Fact.mk hp
  obtain ⟨h1, h2, h3, h4⟩ := (FF.fieldModel p).units a ha
  rw [FF.one_eq] at h3 h4
  refine ⟨h1, by simp [ffOps], fun h => h2 ((FF.isZero_iff p a).2 h), fun h => ?_, h4⟩
  obtain ⟨u, e, hu, hm, hz⟩ := h3 ((FF.isZero_false_iff p a).2 h)
  exact ⟨u, e, hu, (FF.isZero_false_iff p u).1 hz, hm⟩

/-- C15 "multiplying by the normalising unit is idempotent and constant on associates" for `FF<p>`, any prime
`p`: the normalising unit is `< p` and a unit, it is the inverse (`a·u = 1`, and `1` for `a = 0`);
`normalized a` is `1` for `a ≠ 0` and `0` for `0`; idempotent; `normalized (a·u) = normalized a` for every
unit (= non-zero) `u`. -/
theorem ff_normalisation (p : Nat) (hp : p.Prime) (a u : Nat) (ha : a < p) (hu : u < p) (hu0 : u ≠ 0) :
    FF.normUnit p a < p ∧ (ffOps p).isUnit (FF.normUnit p a) = true ∧
    (a = 0 → FF.normUnit p a = 1) ∧ (a ≠ 0 → FF.mul p a (FF.normUnit p a) = 1) ∧
    (ffOps p).normalized a = (if a = 0 then 0 else 1) ∧
    (ffOps p).normalized ((ffOps p).normalized a) = (ffOps p).normalized a ∧
    (ffOps p).normalized (FF.mul p a u) = (ffOps p).normalized a := by
  have := Fact.mk hp
  obtain ⟨h1, _, h3, h4, h5⟩ := (FF.fieldModel p).normUnit_spec a ha
  rw [FF.one_eq] at h4 h5
  refine ⟨h1, h3, fun h => h4 ((FF.isZero_iff p a).2 h), fun h => h5 ((FF.isZero_false_iff p a).2 h), ?_,
    (FF.fieldModel p).normalized_idem a ha,
    (FF.fieldModel p).normalized_assoc a u ha hu ((FF.isZero_false_iff p u).2 hu0)⟩
  rw [(FF.fieldModel p).normalized_eq a ha, FF.one_eq]
  by_cases h : a = 0 <;> simp [ffOps, h]

/-- C15 "gcd(a,b) divides both … normalised associate regardless of argument order" for `FF<p>`, any prime
`p`: `gcd` returns (no panic, fuel not exhausted) `d = 1`, or `0` for `gcd(0,0)`; `d < p`, `d` divides `a`
and `b` (`d·c mod p = a`), every common divisor divides `d`, `d` is normalised, `gcd(b,a)` is the same. -/
theorem ff_gcd_divides (p : Nat) (hp : p.Prime) (a b : Nat) (ha : a < p) (hb : b < p) :
    ∃ d, (ffOps p).gcd a b = .ok d ∧ (ffOps p).gcd b a = .ok d ∧ d < p ∧
      d = (if a = 0 ∧ b = 0 then 0 else 1) ∧ (ffOps p).normalized d = d ∧
      (∃ c, c < p ∧ FF.mul p d c = a) ∧ (∃ c, c < p ∧ FF.mul p d c = b) ∧
      (∀ c, c < p → (∃ c', c' < p ∧ FF.mul p c c' = a) → (∃ c', c' < p ∧ FF.mul p c c' = b) →
        ∃ c', c' < p ∧ FF.mul p c c' = d) := by
  have := Fact.mk hp
  obtain ⟨d, h1, h2, hv, hd, hn, h3, h4, h5⟩ := (FF.fieldModel p).gcd_divides a b ha hb
  rw [FF.ite_and, FF.one_eq] at hd
  exact ⟨d, h1, h2, hv, hd, hn, h3, h4, h5⟩

/-- C15 "gcd is a combination s·a + t·b with the returned s and t" for `FF<p>`, any prime `p`: the generic
`gcdx` returns (no panic, fuel not exhausted) `(d, s, t)`, all `< p`, with `(s·a + t·b) mod p = d`
literally, and `d` is what `gcd` returns: the normalised `1` (or `0` for `a = b = 0`). -/
theorem ff_gcdx_bezout (p : Nat) (hp : p.Prime) (a b : Nat) (ha : a < p) (hb : b < p) :
    ∃ d s t, (ffOps p).gcdx a b = .ok (d, s, t) ∧ d < p ∧ s < p ∧ t < p ∧
      FF.add p (FF.mul p s a) (FF.mul p t b) = d ∧ (s * a + t * b) % p = d ∧ (ffOps p).gcd a b = .ok d ∧
      d = (if a = 0 ∧ b = 0 then 0 else 1) ∧ (ffOps p).normalized d = d := by
  have := Fact.mk hp
  obtain ⟨d, s, t, e, hd, hs, ht, hbz, hg, hv, hn⟩ := (FF.fieldModel p).gcdx_spec a b ha hb
  rw [FF.ite_and, FF.one_eq] at hv
  refine ⟨d, s, t, e, hd, hs, ht, hbz, ?_, hg, hv, hn⟩
  have : FF.add p (FF.mul p s a) (FF.mul p t b) = (s * a + t * b) % p := by
    unfold FF.add FF.mul; exact (Nat.add_mod _ _ _).symm
  rw [← this]; exact hbz

/-- C15 "lcm·gcd is an associate of a·b (a, b not both zero)" for `FF<p>`, any prime `p`: `lcm` returns
`l < p`, `gcd` returns `g = 1`, `(l·g)·u = a·b` for a unit (= non-zero) `u < p`, `l` is normalised,
`l = 0` if an operand is `0` and `l = 1` otherwise; in particular `l = 0 ⇔ a·b mod p = 0`. -/
theorem ff_lcm (p : Nat) (hp : p.Prime) (a b : Nat) (ha : a < p) (hb : b < p) (hab : ¬(a = 0 ∧ b = 0)) :
    ∃ l g, (ffOps p).lcm a b = .ok l ∧ (ffOps p).gcd a b = .ok g ∧ l < p ∧ g = 1 ∧
      (∃ u, u < p ∧ u ≠ 0 ∧ FF.mul p (FF.mul p l g) u = FF.mul p a b) ∧
      (ffOps p).normalized l = l ∧
      l = (if a = 0 ∨ b = 0 then 0 else 1) ∧ (l = 0 ↔ a * b % p = 0) := by
  have := Fact.mk hp
  obtain ⟨l, g, e1, e2, hl, _, hg1, ⟨u, hu, hu0, hm⟩, hn, hv⟩ :=
    (FF.fieldModel p).lcm_spec a b ha hb
      (by simpa only [Bool.and_eq_false_iff, FF.isZero_false_iff, not_and_or] using hab)
  simp only [Bool.or_eq_true, FF.isZero_iff, FF.one_eq] at hv
  replace hv : l = if a = 0 ∨ b = 0 then 0 else 1 := hv
  rw [FF.one_eq] at hg1
  refine ⟨l, g, e1, e2, hl, hg1, ⟨u, hu, (FF.isZero_false_iff p u).1 hu0, hm⟩, hn, hv, ?_⟩
  have hdvd : a * b % p = 0 ↔ (a = 0 ∨ b = 0) := by
    rw [← Nat.dvd_iff_mod_eq_zero, hp.dvd_mul]
    constructor
    · rintro (h | h)
      · exact Or.inl (Nat.eq_zero_of_dvd_of_lt h ha)
      · exact Or.inr (Nat.eq_zero_of_dvd_of_lt h hb)
    · rintro (h | h) <;> simp [h]
  rw [hdvd, hv]
  by_cases h : a = 0 ∨ b = 0 <;> simp [h]

/-- `lcm(0,0)` panics for `FF<p>` (division by the gcd `0`: `assert!(!rhs.is_zero())` in ff.rs `div`) -/
theorem ff_lcm_zero_zero (p : Nat) (hp : p.Prime) : (ffOps p).lcm 0 0 = .panic := by
  have := Fact.mk hp
  exact (FF.fieldModel p).lcm_zero_zero 0 0 hp.pos hp.pos rfl

/-- fuel: over `FF<p>` (any `p`, prime or not, any operands) the `while !y.is_zero()` loops of `gcd`/`gcdx`
stop after at most one step because `%` is constantly `0`: every fuel `≥ 1` gives the same result. -/
theorem ff_euclid_loops_total (p : Nat) (fuel : Nat) (hf : 1 ≤ fuel) (x y s0 s1 t0 t1 : Nat) :
    (ffOps p).gcdLoop fuel x y = some (if y = 0 then x else y) ∧
    (ffOps p).gcdxLoop fuel x y s0 s1 t0 t1 = some (if y = 0 then (x, s0, t0) else (y, s1, t1)) := by
  have e1 := (ffOps p).gcdLoop_total (fun _ _ => rfl) rfl fuel hf x y
  have e2 := (ffOps p).gcdxLoop_total (fun _ _ => rfl) rfl fuel hf x y s0 s1 t0 t1
  have : ∀ {α : Type} (u v : α), (if (ffOps p).isZero y = true then u else v) = if y = 0 then u else v := by
    intro α u v; simp [ffOps]
  rw [this] at e1 e2
  exact ⟨e1, e2⟩

/-- the hypotheses are satisfiable beyond the exhaustively checked primes: `p = 13` and `p = 101` -/
example : Nat.Prime 13 ∧ Nat.Prime 101 ∧
    FF.inv 13 5 = some 8 ∧ FF.div 13 7 5 = 4 ∧ FF.mul 13 4 5 = 7 ∧
    (ffOps 13).gcdx 6 11 = .ok (1, 11, 0) ∧ (11 * 6 + 0 * 11) % 13 = 1 ∧
    (ffOps 13).gcdx 0 11 = .ok (1, 0, 6) ∧ (ffOps 13).lcm 6 11 = .ok 1 ∧ (ffOps 13).lcm 0 11 = .ok 0 ∧
    FF.inv 101 37 = some 71 ∧ (ffOps 101).gcdx 37 5 = .ok (1, 71, 0) := by
  refine ⟨by norm_num, by norm_num, ?_⟩
  decide +kernel

end Yuiv.C15
