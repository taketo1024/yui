import Yuiv.Proofs.C08Schur
import Yuiv.Proofs.C08Tri
import Yuiv.Proofs.C11New
/-
C08 — the matrix-level pieces from which `Proofs/C08Sched.lean` composes the schedule-quantified statements; no
homology here.  One reduction step at degree `k` of a WHOLE ℕ-indexed complex is written in block form: every chain
module is split as `ρ i ⊕ κ i` (`ρ i` = the pivot part that is removed, empty unless `i = k` or `i = k+1`), every
differential is `M i = [[a i, b i],[c i, dd i]]`, and the maps are given by formulas uniform in `i` (`stepS`, `stepF`,
`stepB`, `stepH`): at `i = k`, `k+1` they are `schurS / Ftgt / Bsrc / hmt` of `Proofs/C08Schur.lean`, elsewhere the
`ρ`-blocks are empty, so no cast between `ρ i ⊕ κ i` and `κ i` is ever needed.  Then: renaming of bases, `TriPivots`
(what `find_pivots` returns, at the matrix level), `Represents` (the CSC storage of C11 describes a matrix over `R`),
and complexes as bundled objects (`Cpx`).
-/
namespace Yuiv.C08
open Matrix

section empty
variable {R : Type*} {l m n : Type*}

theorem mul_eq_zero_of_isEmpty_mid [Ring R] [Fintype m] [IsEmpty m] (A : Matrix l m R) (B : Matrix m n R) : A * B = 0 := by
  ext i j; simp [Matrix.mul_apply]

end empty

section step
variable {R : Type*} [Ring R] {ρ κ : ℕ → Type*}
  [∀ i, Fintype (ρ i)] [∀ i, DecidableEq (ρ i)] [∀ i, Fintype (κ i)] [∀ i, DecidableEq (κ i)]

def stepM (a : ∀ i, Matrix (ρ i) (ρ (i + 1)) R) (b : ∀ i, Matrix (ρ i) (κ (i + 1)) R)
    (c : ∀ i, Matrix (κ i) (ρ (i + 1)) R) (dd : ∀ i, Matrix (κ i) (κ (i + 1)) R) (i : ℕ) :
    Matrix (ρ i ⊕ κ i) (ρ (i + 1) ⊕ κ (i + 1)) R :=
  fromBlocks (a i) (b i) (c i) (dd i)

def stepS (ainv : ∀ i, Matrix (ρ (i + 1)) (ρ i) R) (b : ∀ i, Matrix (ρ i) (κ (i + 1)) R)
    (c : ∀ i, Matrix (κ i) (ρ (i + 1)) R) (dd : ∀ i, Matrix (κ i) (κ (i + 1)) R) (i : ℕ) :
    Matrix (κ i) (κ (i + 1)) R :=
  dd i - c i * ainv i * b i

def stepF (ainv : ∀ i, Matrix (ρ (i + 1)) (ρ i) R) (c : ∀ i, Matrix (κ i) (ρ (i + 1)) R) (i : ℕ) :
    Matrix (κ i) (ρ i ⊕ κ i) R :=
  fromCols (-(c i * ainv i)) 1

def stepB (ainv : ∀ i, Matrix (ρ (i + 1)) (ρ i) R) (b : ∀ i, Matrix (ρ i) (κ (i + 1)) R) :
    ∀ i, Matrix (ρ i ⊕ κ i) (κ i) R
  | 0 => fromRows 0 1
  | i + 1 => fromRows (-(ainv i * b i)) 1

def stepH (ainv : ∀ i, Matrix (ρ (i + 1)) (ρ i) R) (i : ℕ) :
    Matrix (ρ (i + 1) ⊕ κ (i + 1)) (ρ i ⊕ κ i) R :=
  fromBlocks (-(ainv i)) 0 0 0

/-- the five block identities from which the homotopy equivalence follows by block algebra alone -/
structure StepIds (a : ∀ i, Matrix (ρ i) (ρ (i + 1)) R) (ainv : ∀ i, Matrix (ρ (i + 1)) (ρ i) R)
    (b : ∀ i, Matrix (ρ i) (κ (i + 1)) R) (c : ∀ i, Matrix (κ i) (ρ (i + 1)) R)
    (dd : ∀ i, Matrix (κ i) (κ (i + 1)) R) : Prop where
  u1 : ∀ i, c i - c i * ainv i * a i = -(stepS ainv b c dd i * (c (i + 1) * ainv (i + 1)))
  u2 : ∀ j, b (j + 1) - a (j + 1) * (ainv (j + 1) * b (j + 1)) = -(ainv j * b j * stepS ainv b c dd (j + 1))
  u3 : a 0 * ainv 0 = 1
  u4 : ∀ j, c (j + 1) * ainv (j + 1) * (ainv j * b j) = 0
  u5 : ∀ i, ainv i * b i * (c (i + 1) * ainv (i + 1)) - 1 = -(a (i + 1) * ainv (i + 1)) - ainv i * a i

theorem StepIds.isHomotopyEquiv {a : ∀ i, Matrix (ρ i) (ρ (i + 1)) R} {ainv : ∀ i, Matrix (ρ (i + 1)) (ρ i) R}
    {b : ∀ i, Matrix (ρ i) (κ (i + 1)) R} {c : ∀ i, Matrix (κ i) (ρ (i + 1)) R}
    {dd : ∀ i, Matrix (κ i) (κ (i + 1)) R} (u : StepIds a ainv b c dd) :
    IsHomotopyEquiv (stepM a b c dd) (stepS ainv b c dd) (stepF ainv c) (stepB ainv b) (stepH ainv) where
  F_comm i := by
    have h1 := u.u1 i
    simp only [stepF, stepM, fromCols_mul_fromBlocks, mul_fromCols, fromCols_ext_iff, Matrix.one_mul,
      Matrix.mul_one, Matrix.neg_mul, Matrix.mul_neg]
    refine ⟨?_, ?_⟩
    · rw [← h1]; abel
    · simp only [stepS]; abel
  B_comm i := by
    cases i with
    | zero =>
      have h3 := u.u3
      simp only [stepB, stepM, fromBlocks_mul_fromRows, fromRows_mul, fromRows_ext_iff, Matrix.one_mul,
        Matrix.mul_one, Matrix.mul_neg, Matrix.zero_mul]
      refine ⟨?_, ?_⟩
      · rw [← Matrix.mul_assoc, h3, Matrix.one_mul]; abel
      · simp only [stepS, Matrix.mul_assoc]; abel
    | succ j =>
      have h2 := u.u2 j
      simp only [stepB, stepM, fromBlocks_mul_fromRows, fromRows_mul, fromRows_ext_iff, Matrix.one_mul,
        Matrix.mul_one, Matrix.mul_neg, Matrix.neg_mul]
      refine ⟨?_, ?_⟩
      · rw [← h2]; abel
      · simp only [stepS, Matrix.mul_assoc]; abel
  FB i := by
    cases i with
    | zero => simp only [stepF, stepB, fromCols_mul_fromRows, Matrix.mul_zero, mul_one, zero_add]
    | succ j =>
      have h4 := u.u4 j
      simp only [stepF, stepB, fromCols_mul_fromRows, Matrix.one_mul, Matrix.neg_mul, Matrix.mul_neg, neg_neg, h4,
        zero_add]
  htpy_zero := by
    simp only [stepF, stepB, stepM, stepH]
    rw [fromRows_one_mul_fromCols_one_sub_one, fromBlocks_mul_corner, fromBlocks_inj]
    refine ⟨?_, rfl, ?_, rfl⟩
    · rw [Matrix.zero_mul, zero_sub, Matrix.mul_neg, u.u3]
    · rw [Matrix.mul_neg]
  htpy_succ i := by
    simp only [stepF, stepB, stepM, stepH]
    rw [fromRows_one_mul_fromCols_one_sub_one, fromBlocks_mul_corner, corner_mul_fromBlocks, fromBlocks_add,
      fromBlocks_inj]
    refine ⟨?_, ?_, ?_, ?_⟩
    · rw [Matrix.neg_mul, Matrix.mul_neg, neg_neg, u.u5 i, Matrix.mul_neg, Matrix.neg_mul, sub_eq_add_neg]
    · rw [zero_add, Matrix.neg_mul]
    · rw [add_zero, Matrix.mul_neg]
    · rw [add_zero]

omit [∀ i, DecidableEq (κ i)] in
theorem stepIds_of_step {a : ∀ i, Matrix (ρ i) (ρ (i + 1)) R} {ainv : ∀ i, Matrix (ρ (i + 1)) (ρ i) R}
    {b : ∀ i, Matrix (ρ i) (κ (i + 1)) R} {c : ∀ i, Matrix (κ i) (ρ (i + 1)) R}
    {dd : ∀ i, Matrix (κ i) (κ (i + 1)) R} (k : ℕ)
    (hE : ∀ i, i ≠ k → i ≠ k + 1 → IsEmpty (ρ i))
    (hia : ainv k * a k = 1) (hai : a k * ainv k = 1)
    (hM : ∀ i, stepM a b c dd i * stepM a b c dd (i + 1) = 0) : StepIds a ainv b c dd := by
  -- the two off-diagonal blocks of `M i * M (i + 1) = 0`
  have blocks : ∀ i, a i * b (i + 1) + b i * dd (i + 1) = 0 ∧ c i * a (i + 1) + dd i * c (i + 1) = 0 := by
    intro i
    have := hM i
    simp only [stepM] at this
    rw [fromBlocks_multiply, ← fromBlocks_zero, fromBlocks_inj] at this
    exact ⟨this.2.1, this.2.2.1⟩
  refine ⟨?_, ?_, ?_, ?_, ?_⟩
  · -- u1
    intro i
    by_cases h1 : i = k
    · subst h1
      have : IsEmpty (ρ (i + 1 + 1)) := hE _ (by omega) (by omega)
      rw [mul_eq_zero_of_isEmpty_mid (c (i + 1)) (ainv (i + 1)), Matrix.mul_zero, neg_zero, Matrix.mul_assoc, hia,
        Matrix.mul_one, sub_self]
    · by_cases h2 : i + 1 = k
      · subst h2
        have : IsEmpty (ρ i) := hE _ (by omega) (by omega)
        simp only [stepS]
        rw [mul_eq_zero_of_isEmpty_mid (c i * ainv i) (a i), mul_eq_zero_of_isEmpty_mid (c i * ainv i) (b i),
          sub_zero, sub_zero, ← Matrix.mul_assoc]
        exact z_eq_of_left hai (blocks i).2
      · have : IsEmpty (ρ (i + 1)) := hE _ (by omega) (by omega)
        exact Subsingleton.elim _ _
  · -- u2
    intro j
    by_cases h1 : j + 1 = k
    · subst h1
      have : IsEmpty (ρ j) := hE _ (by omega) (by omega)
      rw [mul_eq_zero_of_isEmpty_mid (ainv j) (b j), Matrix.zero_mul, neg_zero, ← Matrix.mul_assoc, hai,
        Matrix.one_mul, sub_self]
    · by_cases h2 : j = k
      · subst h2
        have : IsEmpty (ρ (j + 1 + 1)) := hE _ (by omega) (by omega)
        simp only [stepS]
        rw [mul_eq_zero_of_isEmpty_mid (c (j + 1)) (ainv (j + 1)), Matrix.zero_mul, sub_zero,
          mul_eq_zero_of_isEmpty_mid (a (j + 1)) (ainv (j + 1) * b (j + 1)), sub_zero]
        exact x_eq_of_top hia (blocks j).1
      · have : IsEmpty (ρ (j + 1)) := hE _ (by omega) (by omega)
        exact Subsingleton.elim _ _
  · -- u3
    by_cases h1 : 0 = k
    · subst h1; exact hai
    · have : IsEmpty (ρ 0) := hE _ h1 (by omega)
      exact Subsingleton.elim _ _
  · -- u4
    intro j
    by_cases h1 : j = k
    · subst h1
      have : IsEmpty (ρ (j + 1 + 1)) := hE _ (by omega) (by omega)
      rw [mul_eq_zero_of_isEmpty_mid (c (j + 1)) (ainv (j + 1)), Matrix.zero_mul]
    · by_cases h2 : j = k + 1
      · subst h2
        have : IsEmpty (ρ (k + 1 + 1 + 1)) := hE _ (by omega) (by omega)
        rw [mul_eq_zero_of_isEmpty_mid (c (k + 1 + 1)) (ainv (k + 1 + 1)), Matrix.zero_mul]
      · have : IsEmpty (ρ j) := hE _ h1 h2
        rw [mul_eq_zero_of_isEmpty_mid (ainv j) (b j), Matrix.mul_zero]
  · -- u5
    intro i
    by_cases h1 : i = k
    · subst h1
      have : IsEmpty (ρ (i + 1 + 1)) := hE _ (by omega) (by omega)
      rw [mul_eq_zero_of_isEmpty_mid (c (i + 1)) (ainv (i + 1)), Matrix.mul_zero,
        mul_eq_zero_of_isEmpty_mid (a (i + 1)) (ainv (i + 1)), hia]
      abel
    · by_cases h2 : i + 1 = k
      · subst h2
        have : IsEmpty (ρ i) := hE _ (by omega) (by omega)
        rw [mul_eq_zero_of_isEmpty_mid (ainv i) (b i), Matrix.zero_mul,
          mul_eq_zero_of_isEmpty_mid (ainv i) (a i), hai]
        abel
      · have : IsEmpty (ρ (i + 1)) := hE _ (by omega) (by omega)
        exact Subsingleton.elim _ _

end step

theorem stepS_of_isEmpty_left {ρ κ : ℕ → Type*} {R : Type*} [Ring R] [∀ i, Fintype (ρ i)]
    (ainv : ∀ i, Matrix (ρ (i + 1)) (ρ i) R) (b : ∀ i, Matrix (ρ i) (κ (i + 1)) R)
    (c : ∀ i, Matrix (κ i) (ρ (i + 1)) R) (dd : ∀ i, Matrix (κ i) (κ (i + 1)) R) (i : ℕ) [IsEmpty (ρ i)] :
    stepS ainv b c dd i = dd i := by
  rw [stepS, mul_eq_zero_of_isEmpty_mid (c i * ainv i) (b i), sub_zero]

theorem stepS_of_isEmpty_right {ρ κ : ℕ → Type*} {R : Type*} [Ring R] [∀ i, Fintype (ρ i)]
    (ainv : ∀ i, Matrix (ρ (i + 1)) (ρ i) R) (b : ∀ i, Matrix (ρ i) (κ (i + 1)) R)
    (c : ∀ i, Matrix (κ i) (ρ (i + 1)) R) (dd : ∀ i, Matrix (κ i) (κ (i + 1)) R) (i : ℕ) [IsEmpty (ρ (i + 1))] :
    stepS ainv b c dd i = dd i := by
  rw [stepS, mul_eq_zero_of_isEmpty_mid (c i) (ainv i), Matrix.zero_mul, sub_zero]

/-- a family with a prescribed member (used to extend the inverse of the pivot block to a family indexed by all degrees;
the other members never matter: they are matrices with an empty index type) -/
theorem exists_family {T : ℕ → Type*} [∀ i, Zero (T i)] (k : ℕ) (X : T k) : ∃ f : ∀ i, T i, f k = X :=
  ⟨fun i => if h : i = k then cast (by rw [h]) X else 0, by simp⟩

section reindex
variable {R : Type*} [Ring R] {ι κ : ℕ → Type*}
  [∀ i, Fintype (ι i)] [∀ i, DecidableEq (ι i)] [∀ i, Fintype (κ i)] [∀ i, DecidableEq (κ i)]

theorem one_submatrix_mul {l m n : Type*} [Fintype m] [DecidableEq m] (e : l → m) (M : Matrix m n R) :
    (1 : Matrix m m R).submatrix e id * M = M.submatrix e id := by
  have := Matrix.submatrix_mul_equiv (1 : Matrix m m R) M e (Equiv.refl m) id
  simpa using this

theorem mul_one_submatrix {l m n : Type*} [Fintype m] [DecidableEq m] (e : l → m) (M : Matrix n m R) :
    M * (1 : Matrix m m R).submatrix id e = M.submatrix id e := by
  have := Matrix.submatrix_mul_equiv M (1 : Matrix m m R) id (Equiv.refl m) e
  simpa using this

section identity
variable {a b a' b' : Type*} [Fintype a] [DecidableEq a] [Fintype b] [DecidableEq b] [Fintype a'] [Fintype b']

omit [Fintype b'] in
/-- renaming rows and columns is conjugation by the renamed identity matrices `F = 1.submatrix e id` -/
theorem reindex_comm (M : Matrix b a R) (ea : a' ≃ a) (eb : b' ≃ b) :
    (1 : Matrix b b R).submatrix eb id * M = M.submatrix eb ea * (1 : Matrix a a R).submatrix ea id := by
  rw [one_submatrix_mul, Matrix.submatrix_mul_equiv, Matrix.mul_one]

omit [Fintype a'] in
theorem reindex_comm' (M : Matrix b a R) (ea : a' ≃ a) (eb : b' ≃ b) :
    M * (1 : Matrix a a R).submatrix id ea = (1 : Matrix b b R).submatrix id eb * M.submatrix eb ea := by
  rw [mul_one_submatrix, Matrix.submatrix_mul_equiv, Matrix.one_mul]

theorem reindex_inv_mul (e : b' ≃ b) :
    (1 : Matrix b b R).submatrix id e * (1 : Matrix b b R).submatrix e id = 1 := by
  rw [Matrix.submatrix_mul_equiv, Matrix.mul_one, Matrix.submatrix_id_id]

omit [Fintype b'] in
theorem reindex_mul_inv [DecidableEq b'] (e : b' ≃ b) :
    (1 : Matrix b b R).submatrix e id * (1 : Matrix b b R).submatrix id e = 1 := by
  rw [one_submatrix_mul, Matrix.submatrix_submatrix, Function.comp_id, Function.id_comp, Matrix.submatrix_one_equiv]

end identity

/-- renaming the basis of every chain module by a bijection `e i : κ i ≃ ι i` (in the reducer: the permutations returned
by `perms_by_pivots`, also a change of index TYPE) is a homotopy equivalence with `h = 0` -/
theorem IsHomotopyEquiv.of_reindex (d : ∀ i, Matrix (ι i) (ι (i + 1)) R) (e : ∀ i, κ i ≃ ι i) :
    IsHomotopyEquiv d (fun i => (d i).submatrix (e i) (e (i + 1)))
      (fun i => (1 : Matrix (ι i) (ι i) R).submatrix (e i) id)
      (fun i => (1 : Matrix (ι i) (ι i) R).submatrix id (e i)) (fun _ => 0) := by
  have h := IsHomotopyEquiv.of_conj d (fun i => (1 : Matrix (ι i) (ι i) R).submatrix (e i) id)
    (fun i => (1 : Matrix (ι i) (ι i) R).submatrix id (e i)) (fun i => reindex_inv_mul (e i))
    (fun i => reindex_mul_inv (e i))
  simp only [one_submatrix_mul, mul_one_submatrix, Matrix.submatrix_submatrix, Function.comp_id, Function.id_comp] at h
  exact h

end reindex

section pivots
variable {R : Type*} [CommRing R] {m n : ℕ}

def entry (A : Matrix (Fin m) (Fin n) R) (i j : ℕ) : R :=
  if h : i < m ∧ j < n then A ⟨i, h.1⟩ ⟨j, h.2⟩ else 0

theorem entry_of_lt (A : Matrix (Fin m) (Fin n) R) {i j : ℕ} (hi : i < m) (hj : j < n) :
    entry A i j = A ⟨i, hi⟩ ⟨j, hj⟩ := by
  simp [entry, hi, hj]

/-- `P` (matrix coordinates `(row, col)`, in the order returned by `find_pivots`) is a valid pivot list of `A`:
in range, rows pairwise distinct, columns pairwise distinct, every pivot entry a unit, and for `p` before `q` the entry
`(row q, col p)` vanishes (`upper = true`, `PivotType::Rows`) resp. the entry `(row p, col q)` (`upper = false`, `Cols`) -/
structure TriPivots (A : Matrix (Fin m) (Fin n) R) (upper : Bool) (P : List (ℕ × ℕ)) : Prop where
  bound : ∀ p ∈ P, p.1 < m ∧ p.2 < n
  rows : (P.map (·.1)).Nodup
  cols : (P.map (·.2)).Nodup
  unit : ∀ p ∈ P, IsUnit (entry A p.1 p.2)
  tri : P.Pairwise (fun p q => if upper then entry A q.1 p.2 = 0 else entry A p.1 q.2 = 0)

/-- row of the `x`-th pivot: where `perm_for_indices(m, pivs.map(|(i,_)| i))` sends position `x` -/
def pivRow (P : List (ℕ × ℕ)) (hb : ∀ p ∈ P, p.1 < m ∧ p.2 < n) (x : Fin P.length) : Fin m :=
  ⟨(P[x.1]).1, (hb _ (List.getElem_mem x.2)).1⟩

def pivCol (P : List (ℕ × ℕ)) (hb : ∀ p ∈ P, p.1 < m ∧ p.2 < n) (x : Fin P.length) : Fin n :=
  ⟨(P[x.1]).2, (hb _ (List.getElem_mem x.2)).2⟩

/-- the leading `r × r` block of the matrix permuted by `perms_by_pivots` -/
def pivBlock (A : Matrix (Fin m) (Fin n) R) (P : List (ℕ × ℕ)) (hb : ∀ p ∈ P, p.1 < m ∧ p.2 < n) :
    Matrix (Fin P.length) (Fin P.length) R :=
  A.submatrix (pivRow P hb) (pivCol P hb)

theorem pivBlock_apply (A : Matrix (Fin m) (Fin n) R) (P : List (ℕ × ℕ)) (hb : ∀ p ∈ P, p.1 < m ∧ p.2 < n)
    (x y : Fin P.length) : pivBlock A P hb x y = entry A (P[x.1]'x.2).1 (P[y.1]'y.2).2 := by
  rw [entry_of_lt A (hb _ (List.getElem_mem x.2)).1 (hb _ (List.getElem_mem y.2)).2]
  rfl

omit [CommRing R] in
theorem eq_of_getElem_map_eq {α β : Type*} {P : List α} {f : α → β} (h : (P.map f).Nodup) {x y : Fin P.length}
    (hxy : f (P[x.1]'x.2) = f (P[y.1]'y.2)) : x = y := by
  have hx : x.1 < (P.map f).length := by rw [List.length_map]; exact x.2
  have hy : y.1 < (P.map f).length := by rw [List.length_map]; exact y.2
  have h2 : (P.map f)[x.1] = (P.map f)[y.1] := by rw [List.getElem_map, List.getElem_map]; exact hxy
  exact Fin.ext ((List.Nodup.getElem_inj_iff h).1 h2)

theorem pivRow_injective {P : List (ℕ × ℕ)} (hb : ∀ p ∈ P, p.1 < m ∧ p.2 < n) (h : (P.map (·.1)).Nodup) :
    Function.Injective (pivRow P hb) :=
  fun _ _ hxy => eq_of_getElem_map_eq h (congrArg Fin.val hxy)

theorem pivCol_injective {P : List (ℕ × ℕ)} (hb : ∀ p ∈ P, p.1 < m ∧ p.2 < n) (h : (P.map (·.2)).Nodup) :
    Function.Injective (pivCol P hb) :=
  fun _ _ hxy => eq_of_getElem_map_eq h (congrArg Fin.val hxy)

variable {A : Matrix (Fin m) (Fin n) R} {upper : Bool} {P : List (ℕ × ℕ)}

theorem TriPivots.diag_unit (h : TriPivots A upper P) (x : Fin P.length) : IsUnit (pivBlock A P h.bound x x) := by
  rw [pivBlock_apply]; exact h.unit _ (List.getElem_mem x.2)

theorem TriPivots.tri_zero (h : TriPivots A upper P) (x y : Fin P.length) (hxy : if upper then y < x else x < y) :
    pivBlock A P h.bound x y = 0 := by
  rw [pivBlock_apply]
  cases upper with
  | true => simpa using (List.pairwise_iff_getElem.1 h.tri) y.1 x.1 y.2 x.2 (by simpa using hxy)
  | false => simpa using (List.pairwise_iff_getElem.1 h.tri) x.1 y.1 x.2 y.2 (by simpa using hxy)

theorem TriPivots.det_isUnit (h : TriPivots A upper P) : IsUnit (pivBlock A P h.bound).det :=
  det_isUnit_of_tri upper _ h.tri_zero h.diag_unit

end pivots

section bridge
open Yuiv.C11
variable {R : Type} [CommRing R]

/-- the CSC storage `a` of `Model/C11New.lean` — whose values are the four observations `MatrixStr::new` makes of a ring
element — describes the matrix `A` truthfully: where no non-zero value is stored the entry is `0`; `is_pm_one()` is
only true of `±1`; `is_unit()` is only true of units -/
structure Represents (a : Csc) (A : Matrix (Fin a.nrows) (Fin a.ncols) R) : Prop where
  zero : ∀ (i : Fin a.nrows) (j : Fin a.ncols), (∀ r, ¬ a.Stored i.1 j.1 r) → A i j = 0
  pmOne : ∀ (i : Fin a.nrows) (j : Fin a.ncols) (r : Scl), a.Stored i.1 j.1 r → r.pmOne = true →
    A i j = 1 ∨ A i j = -1
  unit : ∀ (i : Fin a.nrows) (j : Fin a.ncols) (r : Scl), a.Stored i.1 j.1 r → r.unit = true → IsUnit (A i j)

/-- the pivots in matrix coordinates `(row, col)`: what `find_pivots` returns (`result()` maps back through `t`) -/
def matPivots (t : PivType) (L : List (ℕ × ℕ)) : List (ℕ × ℕ) := L.map fun p => t.swap p.1 p.2

/-- `PivotType::Rows ↦ TriangularType::Upper`, `Cols ↦ Lower` (`reduce_at_spec`) -/
def isUpper : PivType → Bool
  | .rows => true
  | .cols => false

theorem entry_zero_of_not_stored {a : Csc} {A : Matrix (Fin a.nrows) (Fin a.ncols) R} (hA : Represents a A)
    (i j : ℕ) (h : ∀ r, ¬ a.Stored i j r) : entry A i j = 0 := by
  unfold entry
  split
  · exact hA.zero _ _ h
  · rfl

theorem cand_unit {a : Csc} (ha : a.Valid) {A : Matrix (Fin a.nrows) (Fin a.ncols) R} (hA : Represents a A)
    (c : Cond) (i j : ℕ) (r : Scl) (hs : a.Stored i j r) (hc : c.isCand r = true) :
    (i < a.nrows ∧ j < a.ncols) ∧ IsUnit (entry A i j) := by
  have hj : j < a.ncols := hs.1
  have hi : i < a.nrows := (ha j hj).2 _ hs.2.1
  refine ⟨⟨hi, hj⟩, ?_⟩
  rw [entry_of_lt A hi hj]
  cases c with
  | one =>
    rcases hA.pmOne ⟨i, hi⟩ ⟨j, hj⟩ r hs hc with h | h
    · rw [h]; exact isUnit_one
    · rw [h]; exact isUnit_one.neg
  | weight w2 =>
    simp only [Cond.isCand, Bool.and_eq_true] at hc
    exact hA.unit ⟨i, hi⟩ ⟨j, hj⟩ r hs hc.1
  | anyUnit => exact hA.unit ⟨i, hi⟩ ⟨j, hj⟩ r hs hc

/-- (S1, first half) a list `L` of pivots in INTERNAL coordinates with the four properties that
`C11.find_pivots_triangular_in_matrix` concludes for ANY schedule of the search is, in matrix coordinates, a `TriPivots`
list of the matrix -/
theorem triPivots_of_find_pivots {a : Csc} (ha : a.Valid) {A : Matrix (Fin a.nrows) (Fin a.ncols) R}
    (hA : Represents a A) (t : PivType) (c : Cond) (L : List (ℕ × ℕ))
    (hr : (L.map (·.1)).Nodup) (hc : (L.map (·.2)).Nodup)
    (hcand : ∀ p ∈ L, ∃ r, a.Stored (t.swap p.1 p.2).1 (t.swap p.1 p.2).2 r ∧ c.isCand r = true)
    (htri : L.Pairwise (fun p q => ∀ r, ¬ a.Stored (t.swap q.1 p.2).1 (t.swap q.1 p.2).2 r)) :
    TriPivots A (isUpper t) (matPivots t L) := by
  -- every pivot is a stored candidate, hence in range and a unit
  have hcu : ∀ p ∈ matPivots t L, (p.1 < a.nrows ∧ p.2 < a.ncols) ∧ IsUnit (entry A p.1 p.2) := by
    intro p hp
    obtain ⟨q, hq, rfl⟩ := List.mem_map.1 hp
    obtain ⟨r, hs, hcd⟩ := hcand q hq
    exact cand_unit ha hA c _ _ r hs hcd
  refine ⟨fun p hp => (hcu p hp).1, ?_, ?_, fun p hp => (hcu p hp).2, ?_⟩
  · cases t
    · rw [show (matPivots .rows L).map (·.1) = L.map (·.1) by simp [matPivots, PivType.swap]]; exact hr
    · rw [show (matPivots .cols L).map (·.1) = L.map (·.2) by simp [matPivots, PivType.swap]]; exact hc
  · cases t
    · rw [show (matPivots .rows L).map (·.2) = L.map (·.2) by simp [matPivots, PivType.swap]]; exact hc
    · rw [show (matPivots .cols L).map (·.2) = L.map (·.1) by simp [matPivots, PivType.swap]]; exact hr
  · rw [matPivots, List.pairwise_map]
    refine List.Pairwise.imp ?_ htri
    intro p q hpq
    cases t <;> exact entry_zero_of_not_stored hA _ _ hpq

end bridge

/-- a chain complex of finite free modules `… → C_{i+1} --d i--> C_i → … → C_0` (convention of `IsReduction`) -/
structure Cpx (R : Type) [CommRing R] where
  ι : ℕ → Type
  [fin : ∀ i, Fintype (ι i)]
  [dec : ∀ i, DecidableEq (ι i)]
  d : ∀ i, Matrix (ι i) (ι (i + 1)) R
  sq : ∀ i, d i * d (i + 1) = 0

attribute [instance] Cpx.fin Cpx.dec

end Yuiv.C08
