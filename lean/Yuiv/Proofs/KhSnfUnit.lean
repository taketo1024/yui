import Yuiv.Proofs.KhSnfDefs
import Yuiv.Proofs.KhSnfChain
import Yuiv.Proofs.KhSnfRows
import Yuiv.Proofs.ListAux
/-
KhSnf — one round `KhRef.unitStep` of the unit-pivot elimination of `KhRef.smithInvariants`: its two `for` loops as folds
(`bestStep`: pivot search, `elimStep`: elimination), and what a successful round does to well-formed rows
(`unitStep_spec`; `rowAxpy` is called with factors `≠ 0` only).
-/
namespace Yuiv.KhSnf
open Yuiv.KhRef

namespace UnitStep   -- helper definitions and lemmas (own namespace: no clashes with the sibling `KhSnf*` files)

/-- body of the pivot-search loop of `unitStep` -/
def bestStep (rows : Array Row) (best : Option (Nat × Nat × Nat × Int)) (i : Nat) : Option (Nat × Nat × Nat × Int) :=
  if (match best with
      | some (len, _, _, _) => decide (Array.size rows[i]! < len)
      | none => true) = true then
    match Array.find? (fun x => x.2 == 1 || x.2 == -1) rows[i]! with
    | some (c, v) => some (Array.size rows[i]!, i, c, v)
    | none => best
  else best

/-- the new row `k` of `unitStep` with pivot `(i, j)`, pivot value `u` -/
def newRow (rows : Array Row) (i j : Nat) (u : Int) (k : Nat) : Row :=
  if (rowGet rows[k]! j == 0) = true then rows[k]! else rowAxpy rows[k]! (-(rowGet rows[k]! j * u)) rows[i]!

/-- body of the elimination loop of `unitStep` -/
def elimStep (rows : Array Row) (i j : Nat) (u : Int) (next : Array Row) (k : Nat) : Array Row :=
  if (k != i) = true then
    if (newRow rows i j u k).size > 0 then next.push (newRow rows i j u k) else next
  else next

theorem unitStep_eq (rows : Array Row) : unitStep rows =
    match (List.range' 0 rows.size).foldl (bestStep rows) none with
    | none => none
    | some (_, i, j, u) => some ((List.range' 0 rows.size).foldl (elimStep rows i j u) #[]) := by
  unfold unitStep
  simp only [Std.Legacy.Range.forIn_eq_forIn_range', Std.Legacy.Range.size, Nat.sub_zero, Nat.add_sub_cancel, Nat.div_one]
  rw [Chain.forIn_yield (g := bestStep rows)]
  · simp only [bind_pure_comp, Id.run_bind]
    split
    · rename_i h
      have h' : List.foldl (bestStep rows) none (List.range' 0 rows.size) = none := h
      rw [h']; rfl
    · rename_i len i j u h
      have h' : List.foldl (bestStep rows) none (List.range' 0 rows.size) = some (len, i, j, u) := h
      rw [h']
      rw [Chain.forIn_yield (g := elimStep rows i j u)]
      · rfl
      · intro a b; unfold elimStep newRow
        by_cases h1 : (a != i) = true
        · simp only [h1, if_true]
          split <;> split <;> rfl
        · simp only [h1]; rfl
  · intro a b; unfold bestStep
    rcases b with _ | ⟨len, i', j', u'⟩
    · cases hf : Array.find? (fun x => x.2 == 1 || x.2 == -1) rows[a]! <;> rfl
    · by_cases hd : Array.size rows[a]! < len
      · cases hf : Array.find? (fun x => x.2 == 1 || x.2 == -1) rows[a]! <;> simp [hd]
      · simp [hd]

theorem bestStep_cases (rows : Array Row) (b : Option (Nat × Nat × Nat × Int)) (a : Nat) :
    bestStep rows b a = b ∨ ∃ c v, Array.find? (fun x => x.2 == 1 || x.2 == -1) rows[a]! = some (c, v) ∧
      bestStep rows b a = some (Array.size rows[a]!, a, c, v) := by
  unfold bestStep
  by_cases h1 : (match b with
      | some (len, _, _, _) => decide (Array.size rows[a]! < len)
      | none => true) = true
  · rw [if_pos h1]
    cases hf : Array.find? (fun x => x.2 == 1 || x.2 == -1) rows[a]! with
    | none => left; rfl
    | some cv => right; exact ⟨cv.1, cv.2, rfl, rfl⟩
  · rw [if_neg h1]; left; rfl

theorem bestStep_fold (rows : Array Row) (l : List Nat) (hl : ∀ x ∈ l, x < rows.size)
    (b : Option (Nat × Nat × Nat × Int))
    (hb : ∀ len i j u, b = some (len, i, j, u) →
      i < rows.size ∧ Array.find? (fun x => x.2 == 1 || x.2 == -1) rows[i]! = some (j, u)) :
    ∀ len i j u, l.foldl (bestStep rows) b = some (len, i, j, u) →
      i < rows.size ∧ Array.find? (fun x => x.2 == 1 || x.2 == -1) rows[i]! = some (j, u) := by
  induction l generalizing b with
  | nil => exact hb
  | cons a l ih =>
    rw [List.foldl_cons]
    apply ih (fun x hx => hl x (List.mem_cons_of_mem _ hx))
    intro len i j u h
    rcases bestStep_cases rows b a with h1 | ⟨c, v, hf, h1⟩
    · rw [h1] at h; exact hb _ _ _ _ h
    · rw [h1] at h
      injection h with h; injection h with h1 h; injection h with h2 h; injection h with h3 h4
      subst h2 h3 h4
      exact ⟨hl _ List.mem_cons_self, hf⟩

theorem elimStep_fold (rows : Array Row) (i j : Nat) (u : Int) (l : List Nat) (acc : Array Row) :
    (l.foldl (elimStep rows i j u) acc).toList = acc.toList ++
      (l.filter (fun k => k != i && decide (0 < (newRow rows i j u k).size))).map (newRow rows i j u) := by
  induction l generalizing acc with
  | nil => simp
  | cons a l ih =>
    rw [List.foldl_cons, ih]
    unfold elimStep
    by_cases h1 : (a != i) = true
    · by_cases h2 : 0 < (newRow rows i j u a).size
      · simp [h1, h2]
      · simp [h1, h2]
    · simp [h1]

/-- the row indices kept by `unitStep` with pivot `(i, j)`, value `u` -/
def keptIdx (rows : Array Row) (i j : Nat) (u : Int) : List Nat :=
  (List.range rows.size).filter (fun k => k != i && decide (0 < (newRow rows i j u k).size))

theorem unitStep_struct (rows next : Array Row) (h : unitStep rows = some next) :
    ∃ (i j : Nat) (u : Int), i < rows.size ∧ Array.find? (fun x => x.2 == 1 || x.2 == -1) rows[i]! = some (j, u) ∧
      next.toList = (keptIdx rows i j u).map (newRow rows i j u) := by
  rw [unitStep_eq] at h
  split at h
  · exact absurd h (by simp)
  · rename_i len i j u hb
    have := bestStep_fold rows (List.range' 0 rows.size) (by simp) none (by simp) len i j u hb
    refine ⟨i, j, u, this.1, this.2, ?_⟩
    injection h with h
    rw [← h, elimStep_fold, keptIdx, List.range_eq_range']
    simp

theorem rval_zero_iff {n : Nat} {r : Row} (h : RowOK n r) : (∀ c, rval r c = 0) ↔ r.size = 0 := by
  constructor
  · intro hz
    by_contra hne
    obtain ⟨c, _, hc⟩ := exists_rval_ne_zero h (Nat.pos_of_ne_zero hne)
    exact hc (hz c)
  · exact rval_eq_zero_of_size_zero r

theorem getElem!_ok {n : Nat} {rows : Array Row} (hok : ∀ r ∈ rows.toList, RowOK n r) (k : Nat) (hk : k < rows.size) :
    RowOK n rows[k]! :=
  hok _ (get_mem hk)

theorem newRow_spec (n : Nat) (rows : Array Row) (hok : ∀ r ∈ rows.toList, RowOK n r) (i j : Nat) (u : Int) (hi : i < rows.size)
    (hu : u = 1 ∨ u = -1) (k : Nat) (hk : k < rows.size) :
    RowOK n (newRow rows i j u k) ∧
      ∀ c, rval (newRow rows i j u k) c = rval rows[k]! c - rval rows[k]! j * u * rval rows[i]! c := by
  have hkk := getElem!_ok hok k hk
  have hii := getElem!_ok hok i hi
  unfold newRow
  rw [rowGetSpec n _ j hkk]
  by_cases h0 : rval rows[k]! j = 0
  · rw [if_pos (by simpa using h0)]
    refine ⟨hkk, fun c => ?_⟩
    rw [h0]; simp
  · rw [if_neg (by simpa using h0)]
    have hne : -(rval rows[k]! j * u) ≠ 0 := by
      rcases hu with rfl | rfl <;> simpa using h0
    obtain ⟨h1, h2⟩ := rowAxpySpec_ne hne hkk hii
    refine ⟨h1, fun c => ?_⟩
    rw [h2]; ring

end UnitStep
open UnitStep

/-- one successful round `unitStep rows = some next` on well-formed rows: there is a pivot `(i, j)` with value `u = ±1`; `next`
consists of the rows `rows[k] − rows[k][j]·u·rows[i]` for the indices `k ∈ idx` (increasing, `≠ i`), all well-formed and
non-empty; for the other `k ≠ i` that combination is zero -/
theorem unitStep_spec (n : Nat) (rows next : Array Row) (hok : ∀ r ∈ rows.toList, RowOK n r) (h : unitStep rows = some next) :
    ∃ (i j : Nat) (u : Int) (idx : List Nat), i < rows.size ∧ j < n ∧ (u = 1 ∨ u = -1) ∧ rval rows[i]! j = u ∧
      (∀ r ∈ next.toList, RowOK n r ∧ 0 < r.size) ∧
      idx.Pairwise (· < ·) ∧ (∀ k ∈ idx, k < rows.size ∧ k ≠ i) ∧ next.size = idx.length ∧
      (∀ p, p < idx.length → ∀ c, rval next[p]! c = rval rows[idx.getD p 0]! c - rval rows[idx.getD p 0]! j * u * rval rows[i]! c) ∧
      (∀ k, k < rows.size → k ≠ i → k ∉ idx → ∀ c, rval rows[k]! c - rval rows[k]! j * u * rval rows[i]! c = 0) := by
  obtain ⟨i, j, u, hi, hf, hn⟩ := unitStep_struct rows next h
  have hii := getElem!_ok hok i hi
  have hmem : (j, u) ∈ rows[i]!.toList := by
    have := Array.mem_of_find?_eq_some hf
    simpa using this
  have hu : u = 1 ∨ u = -1 := by
    have := Array.find?_some hf
    simpa using this
  have hsize : next.size = (keptIdx rows i j u).length := by
    rw [← Array.length_toList, hn, List.length_map]
  have hidx : ∀ k, k ∈ keptIdx rows i j u ↔ k < rows.size ∧ k ≠ i ∧ 0 < (newRow rows i j u k).size := by
    intro k; simp [keptIdx]
  have hnr := newRow_spec n rows hok i j u hi hu
  refine ⟨i, j, u, keptIdx rows i j u, hi, hii.2.2 _ hmem, hu, rval_of_mem hii hmem, ?_, ?_, ?_, hsize, ?_, ?_⟩
  · intro r hr
    rw [hn, List.mem_map] at hr
    obtain ⟨k, hk, rfl⟩ := hr
    rw [hidx] at hk
    exact ⟨(hnr k hk.1).1, hk.2.2⟩
  · exact List.Pairwise.filter _ List.pairwise_lt_range
  · intro k hk; rw [hidx] at hk; exact ⟨hk.1, hk.2.1⟩
  · intro p hp c
    have hp' : p < next.size := by omega
    have e1 : next[p]! = newRow rows i j u ((keptIdx rows i j u).getD p 0) := by
      rw [getElem!_pos next p hp', ← Array.getElem_toList]
      simp only [hn, List.getElem_map]
      rw [ListAux.getD_of_lt hp]
    rw [e1]
    have hk : (keptIdx rows i j u).getD p 0 ∈ keptIdx rows i j u := by
      rw [ListAux.getD_of_lt hp]; exact List.getElem_mem hp
    exact (hnr _ ((hidx _).1 hk).1).2 c
  · intro k hk hki hkn c
    rw [hidx] at hkn
    have hz : (newRow rows i j u k).size = 0 := by
      by_contra hne; exact hkn ⟨hk, hki, Nat.pos_of_ne_zero hne⟩
    rw [← (hnr k hk).2 c]
    exact rval_eq_zero_of_size_zero _ hz c

end Yuiv.KhSnf
