import Yuiv.Model.C05Tng
import Yuiv.Model.C05Deloop
import Mathlib.Tactic.Ring
/-
C05 (engine structure) — helper lemmas about the code model `Yuiv/Model/C05Tng.lean` of the structural
operations on tangles and cobordisms.
-/
namespace Yuiv.C05.Tng

theorem genusFrom_ok (x1 x2 : Int) (b a g : Nat) (h : genusFrom x1 x2 b a = .ok g) :
    2 - 2 * (g : Int) - (b : Int) = x1 + x2 - (a : Int) := by
  unfold genusFrom at h
  simp only at h
  split at h
  · cases h
  · split at h
    · cases h
    · rename_i h1 h2
      have hg : g = ((2 - (x1 + x2 + (b : Int)) + (a : Int)) / 2).toNat := by
        injection h with h; exact h.symm
      simp at h2
      omega

theorem genusFrom_of_eq (x1 x2 : Int) (b a g : Nat) (h : 2 - 2 * (g : Int) - (b : Int) = x1 + x2 - (a : Int)) :
    genusFrom x1 x2 b a = .ok g := by
  unfold genusFrom
  have h0 : (2 - (x1 + x2 + (b : Int)) + (a : Int)) = 2 * (g : Int) := by omega
  simp only [h0]
  have h1 : ¬ (2 * (g : Int) < 0) := by omega
  have h2 : (2 * (g : Int)) % 2 = 0 := by omega
  have h3 : (2 * (g : Int) / 2).toNat = g := by omega
  simp [h1, h2]

theorem connect_spec (c d r : CobComp) (h : c.connect d = .ok r) :
    ∃ x1 x2 b, c.eulerNum = .ok x1 ∧ d.eulerNum = .ok x2 ∧ r.nbdr = .ok b
      ∧ Tng.connect c.src d.src = .ok r.src ∧ Tng.connect c.tgt d.tgt = .ok r.tgt
      ∧ genusFrom x1 x2 b (sharedEndpts c d) = .ok r.genus
      ∧ r.dots = (c.dots.1 + d.dots.1, c.dots.2 + d.dots.2) ∧ 0 < sharedEndpts c d := by
  unfold CobComp.connect at h
  split at h
  · cases h
  · split at h
    · rename_i x1 x2 hx1 hx2
      simp only at h
      split at h
      · cases h
      · rename_i ha
        split at h
        · rename_i src hsrc
          split at h
          · rename_i tgt htgt
            split at h
            · rename_i b hb
              split at h
              · rename_i g hg
                injection h with h
                subst h
                refine ⟨x1, x2, b, hx1, hx2, hb, hsrc, htgt, hg, rfl, ?_⟩
                simp at ha
                omega
              · cases h
              · cases h
            · cases h
            · cases h
          · cases h
          · cases h
        · cases h
        · cases h
    · cases h
    · cases h
    · cases h

theorem eulerNum_ok (c : CobComp) (x : Int) (h : c.eulerNum = .ok x) :
    ∃ b, c.nbdr = .ok b ∧ x = C05.eulerNum b c.genus := by
  unfold CobComp.eulerNum at h
  split at h
  · rename_i b hb
    injection h with h
    exact ⟨b, hb, h.symm⟩
  · cases h
  · cases h

theorem deg_of_nbdr (c : CobComp) (b : Nat) (h : c.nbdr = .ok b) :
    c.deg = .ok (C05.deg b c.endpts.length c.genus c.dots.1 c.dots.2)
    ∧ c.eulerNum = .ok (C05.eulerNum b c.genus) := by
  simp [CobComp.deg, CobComp.eulerNum, h]

theorem filter_eraseIdx_neg {α} (P : α → Bool) : ∀ (l : List α) (i : Nat) (p : α),
    l[i]? = some p → P p = false → (l.eraseIdx i).filter P = l.filter P
  | [], i, p, h, _ => by cases h
  | a :: l, 0, p, h, hp => by
    cases h
    rw [List.eraseIdx_cons_zero, List.filter_cons, hp]
    rfl
  | a :: l, i + 1, p, h, hp => by
    rw [List.eraseIdx_cons_succ, List.filter_cons, List.filter_cons, filter_eraseIdx_neg P l i p h hp]

theorem filter_eraseIdx_pos {α} (P : α → Bool) : ∀ (l : List α) (i : Nat) (p : α),
    l[i]? = some p → P p = true → ((l.eraseIdx i).filter P).length + 1 = (l.filter P).length
  | [], i, p, h, _ => by cases h
  | a :: l, 0, p, h, hp => by
    cases h
    rw [List.eraseIdx_cons_zero, List.filter_cons, hp]
    rfl
  | a :: l, i + 1, p, h, hp => by
    have := filter_eraseIdx_pos P l i p h hp
    rw [List.eraseIdx_cons_succ, List.filter_cons, List.filter_cons]
    split
    · rw [List.length_cons, List.length_cons, this]
    · exact this

theorem flatMap_eraseIdx_nil {α β} (f : α → List β) : ∀ (l : List α) (i : Nat) (p : α),
    l[i]? = some p → f p = [] → (l.eraseIdx i).flatMap f = l.flatMap f
  | [], i, p, h, _ => by cases h
  | a :: l, 0, p, h, hp => by
    cases h
    rw [List.eraseIdx_cons_zero, List.flatMap_cons, hp, List.nil_append]
  | a :: l, i + 1, p, h, hp => by
    rw [List.eraseIdx_cons_succ, List.flatMap_cons, List.flatMap_cons, flatMap_eraseIdx_nil f l i p h hp]

theorem ends_of_closed (p : Path) (h : p.closed = true) : p.ends = none := by
  simp [Path.ends, h]

theorem eraseIdx_circle (t : Tng) (i : Nat) (p : Path) (h : t[i]? = some p) (hp : p.closed = true) :
    arcsOf (t.eraseIdx i) = arcsOf t ∧ circsOf (t.eraseIdx i) + 1 = circsOf t
    ∧ Tng.endpts (t.eraseIdx i) = Tng.endpts t := by
  refine ⟨?_, ?_, ?_⟩
  · exact filter_eraseIdx_neg _ t i p h (by simp [Path.isArc, hp])
  · exact filter_eraseIdx_pos _ t i p h hp
  · unfold Tng.endpts endsMulti
    rw [flatMap_eraseIdx_nil _ t i p h (by simp [ends_of_closed p hp])]

theorem nbdrOf_ok (src tgt : Tng) (b : Nat) (h : nbdrOf src tgt = .ok b) :
    ∃ n, (arcsOf src).length = (arcsOf tgt).length
      ∧ sideCircs ((arcsOf src).length + 1) (arcsOf src) (arcsOf tgt) = .ok n
      ∧ b = circsOf src + circsOf tgt + n := by
  unfold nbdrOf at h
  simp only at h
  split at h
  · cases h
  · rename_i hl
    split at h
    · rename_i n hn
      injection h with h
      exact ⟨n, by simpa using hl, hn, h.symm⟩
    · cases h
    · cases h

theorem nbdrOf_of (src tgt : Tng) (n : Nat) (hl : (arcsOf src).length = (arcsOf tgt).length)
    (hn : sideCircs ((arcsOf src).length + 1) (arcsOf src) (arcsOf tgt) = .ok n) :
    nbdrOf src tgt = .ok (circsOf src + circsOf tgt + n) := by
  have hne : ((arcsOf src).length != (arcsOf tgt).length) = false := by simp [hl]
  simp only [nbdrOf, hne, Bool.false_eq_true, if_false, hn]

theorem capOff_spec (c c' : CobComp) (bt : Bottom) (i : Nat) (b : Nat)
    (h : c.capOff bt i = .ok c') (hb : c.nbdr = .ok b) :
    ∃ b', c'.nbdr = .ok b' ∧ b = b' + 1 ∧ c'.endpts.length = c.endpts.length
      ∧ c'.genus = c.genus ∧ c'.dots = c.dots := by
  unfold CobComp.capOff at h
  split at h
  · cases h
  · rename_i p hp
    split at h
    · rename_i hc
      injection h with h
      subst h
      obtain ⟨n, hl, hn, rfl⟩ := nbdrOf_ok _ _ _ hb
      obtain ⟨h1, h2, h3⟩ := eraseIdx_circle (c.bottom bt) i p hp hc
      cases bt <;> simp only [CobComp.bottom] at h1 h2 h3
      · exact ⟨circsOf (c.src.eraseIdx i) + circsOf c.tgt + n, nbdrOf_of _ _ n (h1 ▸ hl) (h1 ▸ hn), by omega,
          congrArg List.length h3, rfl, rfl⟩
      · exact ⟨circsOf c.src + circsOf (c.tgt.eraseIdx i) + n, nbdrOf_of _ _ n (h1 ▸ hl) (h1 ▸ hn), by omega,
          rfl, rfl, rfl⟩
    · cases h

/-- the model's `Dot` is the `Dot` of `Model/C05Deloop` -/
def Dot.toDeloop : Dot → Deloop.Dot
  | .none => .none
  | .X => .X
  | .Y => .Y

theorem addDot_dots (c : CobComp) (d : Dot) :
    (c.addDot d).dots = Deloop.addDot d.toDeloop c.dots ∧ (c.addDot d).src = c.src ∧ (c.addDot d).tgt = c.tgt
    ∧ (c.addDot d).genus = c.genus := by
  cases d <;> simp [CobComp.addDot, Deloop.addDot, Dot.toDeloop]

theorem ends_some (p : Path) (a b : Nat) :
    p.ends = some (a, b) ↔ p.closed = false ∧ p.edges.head? = some a ∧ p.edges.getLast? = some b := by
  unfold Path.ends
  cases hc : p.closed <;> simp
  cases h1 : p.edges.head? <;> cases h2 : p.edges.getLast? <;> simp

theorem isConnectable_iff (p q : Path) (e0 e1 f0 f1 : Nat) (hp : p.ends = some (e0, e1)) (hq : q.ends = some (f0, f1)) :
    isConnectable p q = true ↔ (e0 = f0 ∨ e0 = f1 ∨ e1 = f0 ∨ e1 = f1) := by
  simp [isConnectable, hp, hq, or_assoc]

theorem cons_tail_of_head (l : List Nat) (a : Nat) (h : l.head? = some a) : l = a :: l.tail := by
  cases l with
  | nil => simp at h
  | cons x t => simp at h; simp [h]

theorem dropLast_snoc_of_last (l : List Nat) (b : Nat) (h : l.getLast? = some b) : l = l.dropLast ++ [b] := by
  have hne : l ≠ [] := by intro h0; simp [h0] at h
  have := List.dropLast_concat_getLast hne
  rw [List.getLast?_eq_some_getLast hne] at h
  injection h with h
  rw [h] at this
  exact this.symm

theorem one_lt_length (l : List Nat) (a b : Nat) (h1 : l.head? = some a) (h2 : l.getLast? = some b) (hab : a ≠ b) :
    1 < l.length := by
  match l, h1, h2 with
  | [x], h1, h2 => simp at h1 h2; omega
  | _ :: _ :: _, _, _ => simp

theorem head?_dropLast_of_ne (l : List Nat) (a b : Nat) (h1 : l.head? = some a) (h2 : l.getLast? = some b) (hab : a ≠ b) :
    l.dropLast.head? = some a := by
  rw [List.head?_dropLast, if_pos (one_lt_length l a b h1 h2 hab), h1]

theorem append_tail_eq (l r : List Nat) (a : Nat) (hl : l.getLast? = some a) (hr : r.head? = some a) :
    l ++ r.tail = l.dropLast ++ r := by
  conv_lhs => rw [dropLast_snoc_of_last l a hl]
  conv_rhs => rw [cons_tail_of_head r a hr]
  simp

/-- what is glued on after the shared end keeps the last element of the second list (also when nothing is left of it) -/
theorem getLast?_append_tail (l r : List Nat) (a b : Nat) (hl : l.getLast? = some a) (hr : r.head? = some a)
    (hb : r.getLast? = some b) : (l ++ r.tail).getLast? = some b := by
  rw [append_tail_eq l r a hl hr, List.getLast?_append, hb, Option.some_or]

section glue
variable (pe qe : List Nat) (e0 e1 f0 f1 : Nat)

theorem glue_tail (h : e1 = f0) : glue pe qe e0 e1 f0 f1 = .ok (pe ++ qe.tail) := by
  subst h
  simp [glue]

theorem glue_last (h1 : e1 ≠ f0) (h : e1 = f1) : glue pe qe e0 e1 f0 f1 = .ok (pe ++ qe.dropLast.reverse) := by
  subst h
  simp [glue, h1]

theorem glue_head (h1 : e1 ≠ f0) (h2 : e1 ≠ f1) (h : e0 = f0) :
    glue pe qe e0 e1 f0 f1 = .ok (qe.tail.reverse ++ pe) := by
  subst h
  simp [glue, h1, h2]

theorem glue_first (h1 : e1 ≠ f0) (h2 : e1 ≠ f1) (h3 : e0 ≠ f0) (h : e0 = f1) :
    glue pe qe e0 e1 f0 f1 = .ok (qe.dropLast ++ pe) := by
  subst h
  simp [glue, h1, h2, h3]

/-- the first and last element of the list `glue` returns, by the branch taken -/
def glueEnds : Nat × Nat :=
  if e1 = f0 then (e0, f1) else if e1 = f1 then (e0, f0) else if e0 = f0 then (f1, e1) else (f0, e1)

/-- the second arc may be degenerate (`f0 = f1`, e.g. a single edge): then only the branches `e1 = f0` and `e0 = f0` can
be taken and nothing but the shared end is left of it -/
theorem glue_spec (hp0 : pe.head? = some e0) (hp1 : pe.getLast? = some e1)
    (hq0 : qe.head? = some f0) (hq1 : qe.getLast? = some f1)
    (h : e0 = f0 ∨ e0 = f1 ∨ e1 = f0 ∨ e1 = f1) :
    ∃ L, glue pe qe e0 e1 f0 f1 = .ok L ∧ L.head? = some (glueEnds e0 e1 f0 f1).1
      ∧ L.getLast? = some (glueEnds e0 e1 f0 f1).2 ∧ L.length + 1 = pe.length + qe.length := by
  have hq2 : 1 ≤ qe.length := List.length_pos_iff.2 (by rintro rfl; cases hq0)
  unfold glueEnds
  by_cases c1 : e1 = f0
  · rw [if_pos c1]
    refine ⟨_, glue_tail pe qe e0 e1 f0 f1 c1, ?_, getLast?_append_tail pe qe e1 f1 hp1 (c1 ▸ hq0) hq1, ?_⟩
    · rw [List.head?_append, hp0, Option.some_or]
    · rw [List.length_append, List.length_tail, Nat.add_assoc, Nat.sub_add_cancel hq2]
  rw [if_neg c1]
  by_cases c2 : e1 = f1
  · rw [if_pos c2]
    have hf : f0 ≠ f1 := fun e => c1 (c2.trans e.symm)
    refine ⟨_, glue_last pe qe e0 e1 f0 f1 c1 c2, ?_, ?_, ?_⟩
    · rw [List.head?_append, hp0, Option.some_or]
    · rw [List.getLast?_append, List.getLast?_reverse, head?_dropLast_of_ne qe f0 f1 hq0 hq1 hf, Option.some_or]
    · rw [List.length_append, List.length_reverse, List.length_dropLast, Nat.add_assoc, Nat.sub_add_cancel hq2]
  rw [if_neg c2]
  by_cases c3 : e0 = f0
  · rw [if_pos c3]
    refine ⟨_, glue_head pe qe e0 e1 f0 f1 c1 c2 c3, ?_, ?_, ?_⟩
    · have := getLast?_append_tail pe.reverse qe e0 f1 (by rw [List.getLast?_reverse, hp0]) (c3 ▸ hq0) hq1
      rwa [← List.head?_reverse, List.reverse_append, List.reverse_reverse] at this
    · rw [List.getLast?_append, hp1, Option.some_or]
    · rw [List.length_append, List.length_reverse, List.length_tail, Nat.add_right_comm, Nat.sub_add_cancel hq2,
        Nat.add_comm]
  rw [if_neg c3]
  have c4 : e0 = f1 := by omega
  have hf : f0 ≠ f1 := fun e => c3 (c4.trans e.symm)
  refine ⟨_, glue_first pe qe e0 e1 f0 f1 c1 c2 c3 c4, ?_, ?_, ?_⟩
  · rw [List.head?_append, head?_dropLast_of_ne qe f0 f1 hq0 hq1 hf, Option.some_or]
  · rw [List.getLast?_append, hp1, Option.some_or]
  · rw [List.length_append, List.length_dropLast, Nat.add_right_comm, Nat.sub_add_cancel hq2, Nat.add_comm]

theorem glueEnds_eq_iff (he : e0 ≠ e1) :
    (glueEnds e0 e1 f0 f1).1 = (glueEnds e0 e1 f0 f1).2 ↔ (e0 = f0 ∧ e1 = f1) ∨ (e0 = f1 ∧ e1 = f0) := by
  unfold glueEnds
  grind

theorem glueEnds_symmDiff (he : e0 ≠ e1) (hf : f0 ≠ f1) (h : e0 = f0 ∨ e0 = f1 ∨ e1 = f0 ∨ e1 = f1)
    (hnb : ¬ ((e0 = f0 ∧ e1 = f1) ∨ (e0 = f1 ∧ e1 = f0))) (e : Nat) :
    (e = (glueEnds e0 e1 f0 f1).1 ∨ e = (glueEnds e0 e1 f0 f1).2) ↔
      (((e = e0 ∨ e = e1) ∧ ¬ (e = f0 ∨ e = f1)) ∨ (¬ (e = e0 ∨ e = e1) ∧ (e = f0 ∨ e = f1))) := by
  unfold glueEnds
  grind

theorem glue_comm (hp0 : pe.head? = some e0) (hp1 : pe.getLast? = some e1)
    (hq0 : qe.head? = some f0) (hq1 : qe.getLast? = some f1) (he : e0 ≠ e1) (hf : f0 ≠ f1)
    (h : e0 = f0 ∨ e0 = f1 ∨ e1 = f0 ∨ e1 = f1) (hnb : ¬ ((e0 = f0 ∧ e1 = f1) ∨ (e0 = f1 ∧ e1 = f0))) :
    ∃ L L', glue pe qe e0 e1 f0 f1 = .ok L ∧ glue qe pe f0 f1 e0 e1 = .ok L' ∧ (L' = L ∨ L' = L.reverse) := by
  rcases h with rfl | rfl | rfl | rfl
  · have n : e1 ≠ f1 := fun a => hnb (.inl ⟨rfl, a⟩)
    refine ⟨_, _, glue_head pe qe e0 e1 e0 f1 he.symm n rfl, glue_head qe pe e0 f1 e0 e1 hf.symm n.symm rfl, Or.inr ?_⟩
    rw [List.reverse_append, List.reverse_reverse, ← List.dropLast_reverse]
    exact (append_tail_eq pe.reverse qe e0 (by rw [List.getLast?_reverse, hp0]) hq0).symm
  · have n : e1 ≠ f0 := fun a => hnb (.inr ⟨rfl, a⟩)
    exact ⟨_, _, glue_first pe qe e0 e1 f0 e0 n he.symm hf.symm rfl, glue_tail qe pe f0 e0 e0 e1 rfl,
      Or.inl (append_tail_eq qe pe e0 hq1 hp0)⟩
  · have n : e0 ≠ f1 := fun a => hnb (.inr ⟨a, rfl⟩)
    exact ⟨_, _, glue_tail pe qe e0 e1 e1 f1 rfl, glue_first qe pe e1 f1 e0 e1 n.symm hf.symm he.symm rfl,
      Or.inl (append_tail_eq pe qe e1 hp1 hq0).symm⟩
  · have n : e0 ≠ f0 := fun a => hnb (.inl ⟨a, rfl⟩)
    refine ⟨_, _, glue_last pe qe e0 e1 f0 e1 hf.symm rfl, glue_last qe pe f0 e1 e0 e1 he.symm rfl, Or.inr ?_⟩
    rw [List.reverse_append, List.reverse_reverse, ← List.tail_reverse]
    exact append_tail_eq qe pe.reverse e1 hq1 (by rw [List.head?_reverse, hp1])

end glue

theorem path_connect_spec (p q : Path) (e0 e1 f0 f1 : Nat) (hp : p.ends = some (e0, e1)) (hq : q.ends = some (f0, f1))
    (hc : isConnectable p q = true) :
    ∃ L, glue p.edges q.edges e0 e1 f0 f1 = .ok L ∧ L.head? = some (glueEnds e0 e1 f0 f1).1
      ∧ L.getLast? = some (glueEnds e0 e1 f0 f1).2 ∧ L.length + 1 = p.edges.length + q.edges.length
      ∧ p.connect q = .ok (if (glueEnds e0 e1 f0 f1).1 = (glueEnds e0 e1 f0 f1).2 then ⟨L.dropLast, true⟩ else ⟨L, false⟩) := by
  obtain ⟨_, hp0, hp1⟩ := (ends_some p e0 e1).1 hp
  obtain ⟨_, hq0, hq1⟩ := (ends_some q f0 f1).1 hq
  obtain ⟨L, hL, hx, hy, hlen⟩ := glue_spec p.edges q.edges e0 e1 f0 f1 hp0 hp1 hq0 hq1
    ((isConnectable_iff p q e0 e1 f0 f1 hp hq).1 hc)
  refine ⟨L, hL, hx, hy, hlen, ?_⟩
  unfold Path.connect
  simp only [hc, Bool.not_true, Bool.false_eq_true, if_false, hp, hq, hL]
  unfold closeUp
  simp only [hx, hy, beq_iff_eq]
  split_ifs <;> rfl

theorem isConnectable_symm (p q : Path) : isConnectable p q = isConnectable q p := by
  unfold isConnectable
  cases p.ends <;> cases q.ends <;> simp only []
  grind

theorem path_connect_comm_edges (p q : Path) (e0 e1 f0 f1 : Nat) (hp : p.ends = some (e0, e1)) (hq : q.ends = some (f0, f1))
    (he : e0 ≠ e1) (hf : f0 ≠ f1) (hc : isConnectable p q = true)
    (hnb : ¬ ((e0 = f0 ∧ e1 = f1) ∨ (e0 = f1 ∧ e1 = f0))) :
    ∃ L L', p.connect q = .ok ⟨L, false⟩ ∧ q.connect p = .ok ⟨L', false⟩ ∧ (L' = L ∨ L' = L.reverse) := by
  have hc' : isConnectable q p = true := isConnectable_symm p q ▸ hc
  have hd := (isConnectable_iff p q e0 e1 f0 f1 hp hq).1 hc
  obtain ⟨L, hL, -, -, -, hr⟩ := path_connect_spec p q e0 e1 f0 f1 hp hq hc
  obtain ⟨L', hL', -, -, -, hr'⟩ := path_connect_spec q p f0 f1 e0 e1 hq hp hc'
  have hnb' : ¬ ((f0 = e0 ∧ f1 = e1) ∨ (f0 = e1 ∧ f1 = e0)) := by
    rintro (⟨a, b⟩ | ⟨a, b⟩)
    exacts [hnb (.inl ⟨a.symm, b.symm⟩), hnb (.inr ⟨b.symm, a.symm⟩)]
  rw [if_neg (mt (glueEnds_eq_iff e0 e1 f0 f1 he).1 hnb)] at hr
  rw [if_neg (mt (glueEnds_eq_iff f0 f1 e0 e1 hf).1 hnb')] at hr'
  obtain ⟨_, hp0, hp1⟩ := (ends_some p e0 e1).1 hp
  obtain ⟨_, hq0, hq1⟩ := (ends_some q f0 f1).1 hq
  obtain ⟨M, M', hM, hM', hMM⟩ := glue_comm p.edges q.edges e0 e1 f0 f1 hp0 hp1 hq0 hq1 he hf hd hnb
  rw [hM] at hL
  rw [hM'] at hL'
  injection hL with hL
  injection hL' with hL'
  subst hL hL'
  exact ⟨M, M', hr, hr', hMM⟩

theorem zip_self_all (l : List Nat) : (List.zip l l).all (fun ef => ef.1 == ef.2) = true := by
  induction l with
  | nil => rfl
  | cons a t ih => simp [ih]

theorem unoriEq_arc_self (l : List Nat) : unoriEq ⟨l, false⟩ ⟨l, false⟩ = true := by
  simp [unoriEq]

theorem unoriEq_arc_reverse (l : List Nat) : unoriEq ⟨l, false⟩ ⟨l.reverse, false⟩ = true := by
  unfold unoriEq
  simp only [bne_self_eq_false, List.length_reverse, sumL, List.sum_reverse, Bool.or_self, Bool.false_eq_true,
    if_false, List.reverse_reverse]
  split
  · rfl
  · exact zip_self_all l

/-- the degree of a glued component: Euler numbers add up to the `a` glued arcs (`genusFrom_ok`), half end points
likewise, dots add -/
theorem deg_of_glue (χ0 χ1 : Int) (b E g x y a h0 h1 d0 d1 : Nat)
    (hg : 2 - 2 * (g : Int) - (b : Int) = χ0 + χ1 - (a : Int)) (hE : E / 2 + a = h0 + h1) (hd : x + y = d0 + d1) :
    C05.deg b E g x y = (χ0 - (h0 : Int) - 2 * (d0 : Int)) + (χ1 - (h1 : Int) - 2 * (d1 : Int)) := by
  unfold C05.deg C05.eulerNum
  omega

theorem stackComps_spec (bot top : List CobComp) (r : CobComp) (h : stackComps bot top = .ok r) :
    ∃ x0 x1 b, sumRes CobComp.eulerNum bot = .ok x0 ∧ sumRes CobComp.eulerNum top = .ok x1
      ∧ foldConnect (bot.map (·.src)) [] = .ok r.src ∧ foldConnect (top.map (·.tgt)) [] = .ok r.tgt
      ∧ r.nbdr = .ok b ∧ genusFrom x0 x1 b (tgtArcs bot) = .ok r.genus ∧ r.dots = sumDots (bot ++ top)
      ∧ bot ≠ [] ∧ top ≠ [] := by
  unfold stackComps at h
  split at h
  · cases h
  · rename_i hne
    split at h
    · rename_i x0 x1 hx0 hx1
      simp only at h
      split at h
      · rename_i src tgt hsrc htgt
        split at h
        · rename_i c hc
          split at h
          · rename_i b hb
            split at h
            · rename_i g hg
              injection h with h
              subst h
              unfold CobComp.new at hc
              split at hc
              · injection hc with hc
                subst hc
                refine ⟨x0, x1, b, hx0, hx1, hsrc, htgt, hb, hg, rfl, ?_, ?_⟩
                · intro h0; simp [h0] at hne
                · intro h0; simp [h0] at hne
              · cases hc
            · cases h
            · cases h
          · cases h
          · cases h
        · cases h
        · cases h
      · cases h
      · cases h
      · cases h
    · cases h
    · cases h
    · cases h

def halfEnds (l : List CobComp) : Nat := (l.map (fun c => c.endpts.length / 2)).sum
def totalDots (l : List CobComp) : Nat := (l.map CobComp.ndots).sum

theorem sumRes_cons_ok {α} (f : α → Res Int) (a : α) (l : List α) (X : Int) (h : sumRes f (a :: l) = .ok X) :
    ∃ x y, f a = .ok x ∧ sumRes f l = .ok y ∧ X = x + y := by
  unfold sumRes at h
  split at h
  · rename_i x y hx hy
    injection h with h
    exact ⟨x, y, hx, hy, h.symm⟩
  · cases h
  · cases h
  · cases h

theorem sumRes_cons_of {α} (f : α → Res Int) (a : α) (l : List α) (x y : Int) (hx : f a = .ok x)
    (hy : sumRes f l = .ok y) : sumRes f (a :: l) = .ok (x + y) := by
  simp [sumRes, hx, hy]

theorem sumRes_deg : ∀ (l : List CobComp) (X : Int), sumRes CobComp.eulerNum l = .ok X →
    sumRes CobComp.deg l = .ok (X - (halfEnds l : Int) - 2 * (totalDots l : Int))
  | [], X, h => by
    simp [sumRes] at h
    subst h
    simp [sumRes, halfEnds, totalDots]
  | a :: l, X, h => by
    obtain ⟨x, y, hx, hy, rfl⟩ := sumRes_cons_ok _ a l X h
    obtain ⟨b, hb, rfl⟩ := eulerNum_ok a x hx
    rw [sumRes_cons_of _ a l _ _ (deg_of_nbdr a b hb).1 (sumRes_deg l y hy)]
    congr 1
    simp only [C05.deg, halfEnds, totalDots, List.map_cons, List.sum_cons, CobComp.ndots]
    push_cast
    ring

theorem sumDots_foldl (l : List CobComp) : ∀ acc : Nat × Nat,
    (l.foldl (fun r c => (r.1 + c.dots.1, r.2 + c.dots.2)) acc).1
      + (l.foldl (fun r c => (r.1 + c.dots.1, r.2 + c.dots.2)) acc).2 = acc.1 + acc.2 + totalDots l := by
  induction l with
  | nil => intro acc; simp [totalDots]
  | cons a t ih =>
    intro acc
    simp only [List.foldl_cons]
    rw [ih]
    simp [totalDots, CobComp.ndots]
    omega

theorem sumDots_total (l : List CobComp) : (sumDots l).1 + (sumDots l).2 = totalDots l := by
  have := sumDots_foldl l (0, 0)
  simpa [sumDots] using this

theorem totalDots_append (a b : List CobComp) : totalDots (a ++ b) = totalDots a + totalDots b := by
  simp [totalDots]

theorem setEq_self (l : List Nat) : setEq l l = true := by
  simp [setEq]

theorem nbdrOf_arc (s t : Path) (hs : s.closed = false) (ht : t.closed = false) (h : isConnectable t s = true) :
    nbdrOf [s] [t] = .ok 1 := by
  simp [nbdrOf, arcsOf, circsOf, Path.isArc, hs, ht, sideCircs, walk, h]

theorem nbdrOf_circ (s t : Path) (hs : s.closed = true) (ht : t.closed = true) :
    nbdrOf [s] [t] = .ok 2 := by
  simp [nbdrOf, arcsOf, circsOf, Path.isArc, hs, ht, sideCircs]

theorem foldConnect_single (s : Path) : foldConnect [[s]] [] = .ok [s] := by
  cases hs : s.closed <;>
    simp [foldConnect, Tng.connect, connectLoop, Tng.appendArc, sortComps, sortBy, insertBy, hs]

/-- stacking two cylinders: `([s] → [t])` then `([t] → [u])` gives `([s] → [u])`, genus and dots add; `n` is the
number of boundary circles of each of the three cylinders, `a` the number of arcs glued -/
theorem stackComps_cyl (s t u : Path) (g g' : Nat) (d d' : Nat × Nat) (n a : Nat)
    (h1 : nbdrOf [s] [t] = .ok n) (h2 : nbdrOf [t] [u] = .ok n) (h3 : nbdrOf [s] [u] = .ok n)
    (ha : (arcsOf [t]).length = a) (hna : n + a = 2)
    (hE : setEq (Tng.endpts [s]) (Tng.endpts [u]) = true) :
    stackComps [⟨[s], [t], g, d⟩] [⟨[t], [u], g', d'⟩] = .ok ⟨[s], [u], g + g', (d.1 + d'.1, d.2 + d'.2)⟩ := by
  have hgen : genusFrom (C05.eulerNum n g) (C05.eulerNum n g') n a = .ok (g + g') := by
    apply genusFrom_of_eq
    unfold C05.eulerNum
    push_cast
    omega
  simp [stackComps, sumRes, CobComp.eulerNum, CobComp.nbdr, h1, h2, h3, foldConnect_single, CobComp.new, hE,
    tgtArcs, ha, sumDots, hgen]

theorem stackComps_cyl_arc (s t u : Path) (g g' : Nat) (d d' : Nat × Nat)
    (hs : s.closed = false) (ht : t.closed = false) (hu : u.closed = false)
    (hst : isConnectable t s = true) (htu : isConnectable u t = true) (hsu : isConnectable u s = true)
    (hE : setEq (Tng.endpts [s]) (Tng.endpts [u]) = true) :
    stackComps [⟨[s], [t], g, d⟩] [⟨[t], [u], g', d'⟩] = .ok ⟨[s], [u], g + g', (d.1 + d'.1, d.2 + d'.2)⟩ :=
  stackComps_cyl s t u g g' d d' 1 1 (nbdrOf_arc s t hs ht hst) (nbdrOf_arc t u ht hu htu) (nbdrOf_arc s u hs hu hsu)
    (by simp [arcsOf, Path.isArc, ht]) rfl hE

theorem stackComps_cyl_circ (s t u : Path) (g g' : Nat) (d d' : Nat × Nat)
    (hs : s.closed = true) (ht : t.closed = true) (hu : u.closed = true) :
    stackComps [⟨[s], [t], g, d⟩] [⟨[t], [u], g', d'⟩] = .ok ⟨[s], [u], g + g', (d.1 + d'.1, d.2 + d'.2)⟩ :=
  stackComps_cyl s t u g g' d d' 2 0 (nbdrOf_circ s t hs ht) (nbdrOf_circ t u ht hu) (nbdrOf_circ s u hs hu)
    (by simp [arcsOf, Path.isArc, ht]) rfl
    (by simp [Tng.endpts, endsMulti, ends_of_closed, hs, hu, dedup, setEq])

theorem isConnectable_self (p q : Path) (h : isConnectable p q = true) :
    isConnectable p p = true ∧ isConnectable q q = true := by
  unfold isConnectable at h ⊢
  cases hp : p.ends with
  | none => simp [hp] at h
  | some a =>
    cases hq : q.ends with
    | none => simp [hp, hq] at h
    | some b => obtain ⟨a0, a1⟩ := a; obtain ⟨b0, b1⟩ := b; simp

theorem sumRes_cons_congr {α} (f : α → Res Int) (a : α) (l l' : List α) (h : sumRes f l = sumRes f l') :
    sumRes f (a :: l) = sumRes f (a :: l') := by
  simp only [sumRes, h]

theorem sumRes_swap {α} (f : α → Res Int) (a b : α) (l : List α) :
    sumRes f (a :: b :: l) = sumRes f (b :: a :: l) := by
  simp only [sumRes]
  cases f a <;> cases f b <;> cases sumRes f l <;> simp [Int.add_left_comm]

theorem sumRes_insertBy {α} (f : α → Res Int) (lt : α → α → Bool) (a : α) : ∀ l : List α,
    sumRes f (insertBy lt a l) = sumRes f (a :: l)
  | [] => rfl
  | b :: l => by
    unfold insertBy
    split
    · rw [sumRes_cons_congr f b _ _ (sumRes_insertBy f lt a l), sumRes_swap]
    · rfl

theorem sumRes_sortBy {α} (f : α → Res Int) (lt : α → α → Bool) : ∀ l : List α,
    sumRes f (sortBy lt l) = sumRes f l
  | [] => rfl
  | a :: l => by
    show sumRes f (insertBy lt a (sortBy lt l)) = _
    rw [sumRes_insertBy, sumRes_cons_congr f a _ _ (sumRes_sortBy f lt l)]

theorem sumRes_get {α} (f : α → Res Int) : ∀ (l : List α) (i : Nat) (a : α) (D : Int),
    sumRes f l = .ok D → l[i]? = some a → ∃ x, f a = .ok x
  | [], i, a, D, _, h => by cases h
  | b :: l, 0, a, D, hD, h => by
    cases h
    obtain ⟨x, _, hx, _, _⟩ := sumRes_cons_ok f b l D hD
    exact ⟨x, hx⟩
  | b :: l, i + 1, a, D, hD, h => by
    obtain ⟨_, y, _, hy, _⟩ := sumRes_cons_ok f b l D hD
    exact sumRes_get f l i a y hy h

theorem sumRes_set {α} (f : α → Res Int) : ∀ (l : List α) (i : Nat) (a a' : α) (D x x' : Int),
    sumRes f l = .ok D → l[i]? = some a → f a = .ok x → f a' = .ok x' →
    sumRes f (l.set i a') = .ok (D - x + x')
  | [], i, a, a', D, x, x', _, h, _, _ => by cases h
  | b :: l, 0, a, a', D, x, x', hD, h, hx, hx' => by
    cases h
    obtain ⟨x0, y, hx0, hy, rfl⟩ := sumRes_cons_ok f b l D hD
    rw [hx] at hx0; injection hx0 with hx0; subst hx0
    rw [List.set_cons_zero, sumRes_cons_of f a' l x' y hx' hy]
    congr 1; omega
  | b :: l, i + 1, a, a', D, x, x', hD, h, hx, hx' => by
    obtain ⟨x0, y, hx0, hy, rfl⟩ := sumRes_cons_ok f b l D hD
    rw [List.set_cons_succ, sumRes_cons_of f b _ x0 _ hx0 (sumRes_set f l i a a' y x x' hy h hx hx')]
    congr 1; omega

theorem sumRes_erase {α} (f : α → Res Int) : ∀ (l : List α) (i : Nat) (a : α) (D x : Int),
    sumRes f l = .ok D → l[i]? = some a → f a = .ok x → sumRes f (l.eraseIdx i) = .ok (D - x)
  | [], i, a, D, x, _, h, _ => by cases h
  | b :: l, 0, a, D, x, hD, h, hx => by
    cases h
    obtain ⟨x0, y, hx0, hy, rfl⟩ := sumRes_cons_ok f b l D hD
    rw [hx] at hx0; injection hx0 with hx0; subst hx0
    rw [List.eraseIdx_cons_zero, hy]
    congr 1; omega
  | b :: l, i + 1, a, D, x, hD, h, hx => by
    obtain ⟨x0, y, hx0, hy, rfl⟩ := sumRes_cons_ok f b l D hD
    rw [List.eraseIdx_cons_succ, sumRes_cons_of f b _ x0 _ hx0 (sumRes_erase f l i a y x hy h hx)]
    congr 1; omega

theorem unit_deg (c : CobComp) (h : c.isUnitCob = true) : c.deg = .ok 0 := by
  unfold CobComp.isUnitCob C05.isUnitCob at h
  simp only [Bool.and_eq_true, Bool.or_eq_true, beq_iff_eq] at h
  obtain ⟨⟨hc, hg⟩, hd⟩ := h
  unfold CobComp.isClosed at hc
  simp only [Bool.and_eq_true, List.isEmpty_iff] at hc
  obtain ⟨hs, ht⟩ := hc
  have hn : c.nbdr = .ok 0 := by
    simp [CobComp.nbdr, nbdrOf, hs, ht, arcsOf, circsOf, sideCircs]
  rw [(deg_of_nbdr c 0 hn).1]
  congr 1
  have hE : c.endpts.length = 0 := by simp [CobComp.endpts, hs, Tng.endpts, endsMulti, dedup]
  simp only [C05.deg, C05.eulerNum, hE, hg]
  rcases hd with ⟨h1, h2⟩ | ⟨h1, h2⟩ <;> simp [h1, h2]

theorem findComp_some (k : Cob) (bt : Bottom) (c : Path) (i p : Nat) (comp : CobComp)
    (h : Cob.findComp k bt c = some (i, comp, p)) : k[i]? = some comp := by
  unfold Cob.findComp at h
  split at h
  · cases h
  · rename_i j hj
    split at h
    · cases h
    · rename_i comp' hc
      split at h
      · cases h
      · injection h with h
        injection h with h1 h2
        injection h2 with h2 h3
        subst h1; subst h2
        exact hc

end Yuiv.C05.Tng
