import Yuiv.Proofs.C06CycleDefs
import Yuiv.Proofs.C02MirrorEdge
namespace Yuiv.C19Comm
open Yuiv.KhRef Yuiv.C06Cycle

def ArrInj (cs : Array (Array Nat)) : Prop := ∀ i j, i < cs.size → j < cs.size → cs[i]! = cs[j]! → i = j

theorem ArrInj.nodup {cs : Array (Array Nat)} (h : ArrInj cs) : cs.toList.Nodup := by
  rw [List.nodup_iff_injective_getElem]
  intro a b e
  apply Fin.ext
  have ha : a.1 < cs.size := by simp
  have hb : b.1 < cs.size := by simp
  apply h a.1 b.1 ha hb
  rw [getElem!_pos cs a.1 ha, getElem!_pos cs b.1 hb]
  simpa using e

theorem carry_testBit (cs cs' : Array (Array Nat)) (x j : Nat) (hinj : ArrInj cs) (hinj' : ArrInj cs')
    (h64 : cs'.size ≤ 64) :
    (carry cs cs' x).testBit j = true ↔ j < cs'.size ∧ ∃ i, i < cs.size ∧ cs[i]! = cs'[j]! ∧ x.testBit i = true := by
  rw [C02Mirror.carry_bridge, (C02Mirror.carry_spec cs cs' x hinj.nodup h64).2 j]
  constructor
  · rintro ⟨i, hi, hc, rfl, hx⟩
    obtain ⟨h1, h2⟩ := C02Mirror.ix_spec cs' cs[i]! hc
    exact ⟨h1, i, hi, h2.symm, hx⟩
  · rintro ⟨hj, i, hi, e, hx⟩
    refine ⟨i, hi, e ▸ KhRef.getElem!_mem cs' j hj, ?_, hx⟩
    rw [e, C02Mirror.ix_getElem cs' hinj'.nodup j hj]

theorem carry_lt (cs cs' : Array (Array Nat)) (x : Nat) (hinj : ArrInj cs) (h64 : cs'.size ≤ 64) :
    carry cs cs' x < 2 ^ 64 := by
  rw [C02Mirror.carry_bridge]
  exact (C02Mirror.carry_spec cs cs' x hinj.nodup h64).1

end Yuiv.C19Comm
