import Yuiv.Proofs.C04Euler
import Yuiv.Proofs.KhSpecRed
import Yuiv.Proofs.C01SqEx
import Yuiv.Props.C04Inv
/-
C04Euler — THE EULER–POINCARÉ STEP of property C04: the (graded) Euler characteristic of the HOMOLOGY that the reference
`KhRef.khHomology` reports equals the (graded) Euler characteristic of the cube's CHAIN GROUPS, hence the model's
unnormalised Jones polynomial (`C04.chiChain = C04.jones`).  Property theorems only; proofs in `Proofs/C04Euler.lean` on top
of `Props/KhSpec`, `Props/KhSpec2` (what `khHomology` returns), `Proofs/C03Uct` (diagonal forms, `dim ker/im`),
`Proofs/C18BridgeCube` (`chainRank`, `chainRankH`) and `Props/C04`, `Props/C04Inv` (`chiChain = jones`).

(E1) ABSTRACT.  `altSum N f = Σ_{i ≤ N} (−1)^i f i`; `rIn r i = r (i − 1)` (`0` at `i = 0`).
   * `euler_poincare_arith`   : `r N = 0`, `r_{i−1} + r_i ≤ n_i`  ⟹  `Σ (−1)^i (n_i − r_{i−1} − r_i) = Σ (−1)^i n_i`
                                (the shape `|G_i| − nz dIn − nz dOut` of the cells in `KhSpec.khHomology_spec`);
   * `euler_poincare_rank`    : for matrices `D_i` over a field (rows = sources, as `KhSpec.dMat`) with `D_i · D_{i+1} = 0`
                                and `n_{N+1} = 0`, with `r_i = rank D_i` (the inequalities are rank–nullity);
   * `euler_poincare_finrank` : the same with `finrank (ker / im)` in the convention of
                                `KhSpec.khHomology_ranks_are_homology`.
(E2) THE REFERENCE.  Hypotheses exactly those of `KhSpec.khHomology_spec…`: `validK l`, at most 64 edge labels,
   `cubeOK (mkCube l p)`; `signs` is ANY array (it enters through `h0Of signs = −n₋`, `q0Of signs p = n₊ − 2n₋ (+1)`).
   Coefficients `k` with `CoeffOK k`: ℤ (the reported rank = rank of the free part, torsion does not contribute), ℚ, and
   `𝔽_q` for every `q ≥ 2`.  `cellRank cells i j` = the rank of the cell `(i, j)` of the returned list, `0` if absent.
   * `khHomology_euler_bigraded` (`h = t = 0`, unreduced): success; every cell is `(h0 + i, some q, _)` with `i ≤ n`; for
     every `j` and `i ≤ n` the rank read off at `(h0 + i, j)` is the rank of `homologyOf` of the slice `j`; and
     `Σ_i (−1)^i rank H^{h0+i, j} = Σ_i (−1)^i chainRank (h0 + i) j`.
   * `khHomology_cellRank_is_dim` : over ℚ and `𝔽_q` (`q` prime) that rank IS `finrank (ker / im)` of the slice.
   * `chiChain_coeff_chainRank`   : the coefficient of `q^j` in `C04.chiChain` is `(−1)^{n₋} Σ_i (−1)^i chainRank (h0+i) j`.
   * `khHomology_chi_eq_jones`    : `chiHom cells` — the coefficient list `Σ (−1)^i q^j rank H^{i,j}` built from the returned
     cells — is LITERALLY `C04.jones l signs` (and `C04.chiChain l signs`).
   * `jones_coeff_eq_euler`       : coefficientwise form of the same.
   * `khHomology_euler_unbigraded` (any `h, t`, unreduced), `khHomology_euler_reduced` (`t = 0`),
     `khHomology_euler_reduced_bigraded` (`h = t = 0`): total / slicewise Euler characteristic of the reported homology =
     that of the chain groups `chainRankH` / `chainRank` of `mkCube l p`.
NOT proved here (the differential run's job): that the LIBRARY's `KhComplexBigraded::homology()` equals the reference's
cells, and that the library's `jones_polynomial` equals the model `C04.jones` — both are compared on every harness case.
-/
namespace Yuiv.C04Euler
open Yuiv Yuiv.KhRef Matrix Yuiv.KhSnf Yuiv.C03Uct Yuiv.C03 Yuiv.KhSpec Module
open Yuiv.C02Mirror (cubeOK)
open Yuiv.C18Bridge (chainRank chainRankH)

/-- EULER–POINCARÉ, arithmetic form (the shape of the cells in `KhSpec`): if the last outgoing rank vanishes and
`r_{i−1} + r_i ≤ n_i`, then `Σ_{i ≤ N} (−1)^i (n_i − r_{i−1} − r_i) = Σ_{i ≤ N} (−1)^i n_i` -/
theorem euler_poincare_arith (N : Nat) (n r : Nat → Nat) (hr : r N = 0) (hle : ∀ i, i ≤ N → rIn r i + r i ≤ n i) :
    altSum N (fun i => ((n i - rIn r i - r i : Nat) : Int)) = altSum N (fun i => (n i : Int)) :=
  euler_telescope N n r hr hle

/-- the trefoil over ℚ: `|G_i| = 8, 12, 6, 4`, ranks of the differentials `7, 4, 2`; both sides are `−2` -/
example : altSum 3 (fun i => (([8, 12, 6, 4].getD i 0 - rIn (fun i => [7, 4, 2, 0].getD i 0) i - [7, 4, 2, 0].getD i 0 : Nat) : Int)) = -2 ∧
    altSum 3 (fun i => (([8, 12, 6, 4].getD i 0 : Nat) : Int)) = -2 ∧
    ∀ i, i ≤ 3 → rIn (fun i => [7, 4, 2, 0].getD i 0) i + [7, 4, 2, 0].getD i 0 ≤ [8, 12, 6, 4].getD i 0 := by
  refine ⟨by decide, by decide, ?_⟩
  intro i hi
  interval_cases i <;> decide

/-- EULER–POINCARÉ for a finite complex of matrices over a field `K^{n 0} → K^{n 1} → … → K^{n N} → 0`, `D i` the matrix of
the differential out of position `i` (rows = sources), `D i * D (i + 1) = 0` -/
theorem euler_poincare_rank {K : Type*} [Field K] (N : Nat) (n : Nat → Nat)
    (D : ∀ i, Matrix (Fin (n i)) (Fin (n (i + 1))) K) (hDD : ∀ i, D i * D (i + 1) = 0) (hN : n (N + 1) = 0) :
    altSum N (fun i => ((n i - rIn (fun i => (D i).rank) i - (D i).rank : Nat) : Int)) =
      altSum N (fun i => (n i : Int)) :=
  euler_poincare_matrices N n D hDD hN

/-- EULER–POINCARÉ: `Σ (−1)^i dim H_i = Σ (−1)^i dim C_i`, with `H_0 = ker (D 0)ᵀ`,
`H_{j+1} = ker (D (j+1))ᵀ / im (D j)ᵀ` (`hdim`; matrices acting on column vectors — the convention of
`KhSpec.khHomology_ranks_are_homology`) -/
theorem euler_poincare_finrank {K : Type*} [Field K] (N : Nat) (n : Nat → Nat)
    (D : ∀ i, Matrix (Fin (n i)) (Fin (n (i + 1))) K) (hDD : ∀ i, D i * D (i + 1) = 0) (hN : n (N + 1) = 0) :
    altSum N (fun i => (hdim n D i : Int)) = altSum N (fun i => (n i : Int)) ∧
    hdim n D 0 = finrank K (Homology (0 : Matrix (Fin (n 0)) (Fin 0) K) (D 0)ᵀ) ∧
    ∀ j, hdim n D (j + 1) = finrank K (Homology (D j)ᵀ (D (j + 1))ᵀ) :=
  ⟨euler_poincare_homology N n D hDD hN, rfl, fun _ => rfl⟩

/-- a two-step complex `ℚ² → ℚ² → 0` with `D 0 = [[1, 0], [0, 0]]` : `(2 − 0 − 1) − (2 − 1 − 0) = 2 − 2` -/
example : ∃ (n : Nat → Nat) (D : ∀ i, Matrix (Fin (n i)) (Fin (n (i + 1))) ℚ),
    (∀ i, D i * D (i + 1) = 0) ∧ n 2 = 0 ∧ n 0 = 2 ∧ D 0 ≠ 0 := by
  refine ⟨fun i => if i < 2 then 2 else 0, fun i => if h : i = 0 then Matrix.of (fun a b => if a.val = 0 ∧ b.val = 0 then 1 else 0) else 0, ?_, rfl, rfl, ?_⟩
  · intro i
    beta_reduce
    rw [dif_neg (Nat.succ_ne_zero i)]
    exact Matrix.mul_zero _
  · intro h
    have := congrFun (congrFun h ⟨0, by decide⟩) ⟨0, by decide⟩
    simp at this

/-- the coefficient of `q^j` in the graded Euler characteristic `C04.chiChain` of the chain groups is the alternating sum of
the chain ranks `chainRank` (the ranks of the cube's chain groups in bidegree `(−n₋ + i, j)`, `Proofs/C18BridgeCube`) — for
ALL inputs -/
theorem chiChain_coeff_chainRank (l : Link) (signs : Array Int) (j : Int) :
    C04Inv.coeffAt (C04.chiChain l signs) j =
      sgn (h0Of signs) * altSum (crossingNum l) (fun i =>
        (chainRank l ⟨0, 0, false⟩ (nPosOf signs) (nNegOf signs) (h0Of signs + (i : Int)) j : Int)) := by
  rw [coeffAt_chiChain, ← sum_sgn]
  unfold h0Of
  simp only [chainRank_slice]
  exact (sum_weights (crossingNum l) (2 ^ crossingNum l) (-(nNegOf signs : Int))
    (fun s => popcount s (crossingNum l)) (fun s => popcount_le s _) _).symm

/-- BIGRADED, `h = t = 0`, unreduced, coefficients ℤ / ℚ / `𝔽_q`: the computation succeeds; every returned cell is
`(h0 + i, some q, _)` with `i ≤ n`; the rank read off the cells at `(h0 + i, j)` (`0` if there is no cell) is the rank at
position `i` of `homologyOf` of the slice `j`; and for EVERY quantum degree `j`
`Σ_i (−1)^i rank H^{h0+i, j} = Σ_i (−1)^i rank C^{h0+i, j}` -/
theorem khHomology_euler_bigraded (l : Link) (hv : C06Cycle.validK l = true) (hL : (edgeLabels l).size ≤ 64)
    (p : Params) (hr : p.reduced = false) (hh : p.h = 0) (ht : p.t = 0) (hok : cubeOK (mkCube l p))
    (signs : Array Int) (k : Coeff) (hk : CoeffOK k) :
    ∃ res, khHomology l signs p k true = .ok res ∧
      (∀ a ∈ res.cells.toList, ∃ (i : Nat) (q : Int), i ≤ crossingNum l ∧ a.1 = h0Of signs + (i : Int) ∧ a.2.1 = some q) ∧
      ∀ j : Int,
        (∀ i : Nat, i ≤ crossingNum l → cellRank res.cells.toList (h0Of signs + (i : Int)) (some j) =
          ((homologyOf k (gensQ (mkCube l p) (q0Of signs p) (gensByWeight (mkCube l p)) j)
            (dTab (mkCube l p) p (gensByWeight (mkCube l p))))[i]!).rank) ∧
        altSum (crossingNum l) (fun i => (cellRank res.cells.toList (h0Of signs + (i : Int)) (some j) : Int)) =
          altSum (crossingNum l) (fun i =>
            (chainRank l p (nPosOf signs) (nNegOf signs) (h0Of signs + (i : Int)) j : Int)) := by
  have H := ctx_mkCube l hv hL p hr hok
  obtain ⟨res, hres, hc⟩ := ok_cells (khHomology_ok_bigraded H hh ht signs k)
  exact ⟨res, hres, bigraded_core H signs (fun q => fam_gensQ H hh ht _ q) k hk hc⟩

/-- … and over ℚ and `𝔽_q` (`q` prime) the rank read off the cells IS the dimension of `ker / im` of the slice of the complex
tensored with the field: position `i + 1` is the homology of `K^{G_i} --(dMat i)ᵀ--> K^{G_{i+1}} --(dMat (i+1))ᵀ--> K^{G_{i+2}}`
(`G` the generators of quantum degree `j`) -/
theorem khHomology_cellRank_is_dim (l : Link) (hv : C06Cycle.validK l = true) (hL : (edgeLabels l).size ≤ 64)
    (p : Params) (hr : p.reduced = false) (hh : p.h = 0) (ht : p.t = 0) (hok : cubeOK (mkCube l p))
    (signs : Array Int) (j : Int) (i : Nat) (hi : i < crossingNum l) :
    let c := mkCube l p
    let G := gensQ c (q0Of signs p) (gensByWeight c) j
    (∃ res, khHomology l signs p .Q true = .ok res ∧
      cellRank res.cells.toList (h0Of signs + ((i + 1 : Nat) : Int)) (some j) =
        finrank ℚ (Homology (toRat (dMat c p G i)ᵀ) (toRat (dMat c p G (i + 1))ᵀ))) ∧
    ∀ (q : ℕ) [Fact q.Prime], ∃ res, khHomology l signs p (.Fp q) true = .ok res ∧
      cellRank res.cells.toList (h0Of signs + ((i + 1 : Nat) : Int)) (some j) =
        finrank (ZMod q) (Homology (redMod q (dMat c p G i)ᵀ) (redMod q (dMat c p G (i + 1))ᵀ)) := by
  intro c G
  have H := ctx_mkCube l hv hL p hr hok
  have F := fam_gensQ H hh ht (q0Of signs p) j
  have hd := rank_is_homology H F i hi
  constructor
  · obtain ⟨res, hres, _, hj⟩ := khHomology_euler_bigraded l hv hL p hr hh ht hok signs .Q trivial
    exact ⟨res, hres, ((hj j).1 (i + 1) hi).trans hd.1⟩
  · intro q hq
    obtain ⟨res, hres, _, hj⟩ := khHomology_euler_bigraded l hv hL p hr hh ht hok signs (.Fp q) hq.out.two_le
    exact ⟨res, hres, ((hj j).1 (i + 1) hi).trans (hd.2 q)⟩

open Yuiv.C04 Yuiv.C04Inv in
/-- PROPERTY C04 FOR THE REFERENCE: the graded Euler characteristic `Σ_{i,j} (−1)^i q^j rank H^{i,j}` of the homology that
`khHomology` reports for Khovanov homology proper (`h = t = 0`, unreduced; coefficients ℤ — free ranks —, ℚ or `𝔽_q`),
assembled from the returned cells as a coefficient list (`chiHom`), is LITERALLY the model's unnormalised Jones
polynomial `C04.jones l signs` (= `C04.chiChain l signs`) — for every valid diagram and every sign array -/
theorem khHomology_chi_eq_jones (l : Link) (hv : C06Cycle.validK l = true) (hL : (edgeLabels l).size ≤ 64)
    (hok : cubeOK (mkCube l ⟨0, 0, false⟩)) (signs : Array Int) (k : Coeff) (hk : CoeffOK k) :
    ∃ res, khHomology l signs ⟨0, 0, false⟩ k true = .ok res ∧
      chiHom res.cells.toList = jones l signs ∧ chiHom res.cells.toList = chiChain l signs := by
  obtain ⟨res, hres, hm, hj⟩ := khHomology_euler_bigraded l hv hL ⟨0, 0, false⟩ rfl rfl rfl hok signs k hk
  have e : chiHom res.cells.toList = chiChain l signs := by
    apply canon_ext _ _ (canon_chiHom _) (canon_chiChain _ _)
    intro j
    rw [coeffAt_chiHom (h0Of signs) (crossingNum l) j _ (fun a ha => (hm a ha).imp fun i ⟨_, h1, h2, _⟩ => ⟨h1, h2⟩),
      sum_sgn, (hj j).2, chiChain_coeff_chainRank]
  exact ⟨res, hres, e.trans (chiChain_eq_jones_literal l signs), e⟩

open Yuiv.C04 Yuiv.C04Inv in
/-- coefficientwise: for every quantum degree `j`, the coefficient of `q^j` in the model's unnormalised Jones polynomial is
`Σ_i (−1)^{h0 + i} rank H^{h0+i, j}`, the ranks read off the cells that `khHomology` returns (absent cells count `0`) -/
theorem jones_coeff_eq_euler (l : Link) (hv : C06Cycle.validK l = true) (hL : (edgeLabels l).size ≤ 64)
    (hok : cubeOK (mkCube l ⟨0, 0, false⟩)) (signs : Array Int) (k : Coeff) (hk : CoeffOK k) :
    ∃ res, khHomology l signs ⟨0, 0, false⟩ k true = .ok res ∧
      ∀ j : Int, coeffAt (jones l signs) j =
        ∑ i ∈ Finset.range (crossingNum l + 1),
          sgn (h0Of signs + (i : Int)) * (cellRank res.cells.toList (h0Of signs + (i : Int)) (some j) : Int) := by
  obtain ⟨res, h1, _, h3⟩ := khHomology_euler_bigraded l hv hL ⟨0, 0, false⟩ rfl rfl rfl hok signs k hk
  refine ⟨res, h1, fun j => ?_⟩
  rw [← chiChain_eq_jones_literal, chiChain_coeff_chainRank, sum_sgn, (h3 j).2]

/-- UNBIGRADED, any `(h, t)`, unreduced: the total Euler characteristic of the reported homology equals that of the chain
groups, `Σ_i (−1)^i rank H^{h0+i} = Σ_i (−1)^i rank C^{h0+i}` (`chainRankH` = number of generators of the cube in
homological degree `h0 + i`) -/
theorem khHomology_euler_unbigraded (l : Link) (hv : C06Cycle.validK l = true) (hL : (edgeLabels l).size ≤ 64)
    (p : Params) (hr : p.reduced = false) (hok : cubeOK (mkCube l p)) (signs : Array Int) (k : Coeff) (hk : CoeffOK k) :
    ∃ res, khHomology l signs p k false = .ok res ∧
      (∀ a ∈ res.cells.toList, ∃ i : Nat, i ≤ crossingNum l ∧ a.1 = h0Of signs + (i : Int) ∧ a.2.1 = none) ∧
      (∀ i : Nat, i ≤ crossingNum l → cellRank res.cells.toList (h0Of signs + (i : Int)) none =
        ((homologyOf k (gensByWeight (mkCube l p)) (dTab (mkCube l p) p (gensByWeight (mkCube l p))))[i]!).rank) ∧
      altSum (crossingNum l) (fun i => (cellRank res.cells.toList (h0Of signs + (i : Int)) none : Int)) =
        altSum (crossingNum l) (fun i => (chainRankH l p (nNegOf signs) (h0Of signs + (i : Int)) : Int)) := by
  have H := ctx_mkCube l hv hL p hr hok
  obtain ⟨res, hres, hc⟩ := ok_cells (khHomology_ok H signs k)
  exact ⟨res, hres, unbigraded_core H signs (fam_all H) k hk hc⟩

/-- REDUCED theory, `t = 0`, unbigraded (any `p.reduced`): the same, the chain groups being those of the reduced cube
`mkCube l p` -/
theorem khHomology_euler_reduced (l : Link) (hv : C06Cycle.validK l = true) (hL : (edgeLabels l).size ≤ 64)
    (p : Params) (ht : p.t = 0) (hok : cubeOK (mkCube l p)) (signs : Array Int) (k : Coeff) (hk : CoeffOK k) :
    ∃ res, khHomology l signs p k false = .ok res ∧
      altSum (crossingNum l) (fun i => (cellRank res.cells.toList (h0Of signs + (i : Int)) none : Int)) =
        altSum (crossingNum l) (fun i => (chainRankH l p (nNegOf signs) (h0Of signs + (i : Int)) : Int)) := by
  obtain ⟨res, hres, hc⟩ := ok_cells (khHomology_ok_reduced l hv hL p ht hok signs k)
  exact ⟨res, hres, (unbigraded_core (ctx_cube0 l hv hL p hok) signs (fam_reduced l hv hL p ht hok) k hk hc).2.2⟩

/-- REDUCED theory, `h = t = 0`, bigraded (any `p.reduced`): for every quantum degree `j`,
`Σ_i (−1)^i rank H^{h0+i, j} = Σ_i (−1)^i chainRank (h0 + i) j` for the reduced cube (`q0 = n₊ − 2n₋ + 1`) -/
theorem khHomology_euler_reduced_bigraded (l : Link) (hv : C06Cycle.validK l = true) (hL : (edgeLabels l).size ≤ 64)
    (p : Params) (hh : p.h = 0) (ht : p.t = 0) (hok : cubeOK (mkCube l p)) (signs : Array Int) (k : Coeff)
    (hk : CoeffOK k) :
    ∃ res, khHomology l signs p k true = .ok res ∧
      ∀ j : Int,
        altSum (crossingNum l) (fun i => (cellRank res.cells.toList (h0Of signs + (i : Int)) (some j) : Int)) =
          altSum (crossingNum l) (fun i =>
            (chainRank l p (nPosOf signs) (nNegOf signs) (h0Of signs + (i : Int)) j : Int)) := by
  obtain ⟨res, hres, hc⟩ := ok_cells (khHomology_ok_reduced_bigraded l hv hL p hh ht hok signs k)
  exact ⟨res, hres, fun j => ((bigraded_core (ctx_cube0 l hv hL p hok) signs
    (fun q => fam_reduced_gensQ l hv hL p hh ht hok _ q) k hk hc).2 j).2⟩

open Yuiv.C02Mirror.Ex Yuiv.C01Sq.Ex Yuiv.C04Inv in
/-- the left-handed trefoil (signs `− − −`): the hypotheses hold, the computation succeeds over ℤ, ℚ and `𝔽_2`, and the graded
Euler characteristic of the returned cells is literally the `jones` list, which the kernel evaluates to
`−q⁻⁹ + q⁻⁵ + q⁻³ + q⁻¹`.  (`khHomology` itself — hash maps — is not evaluated by the kernel; `#eval` of `chiHom` of its
cells gives the same list.  The concrete ranks of this instance are in the example after `euler_poincare_arith`.) -/
example : ∀ k, k = Coeff.Z ∨ k = Coeff.Q ∨ k = Coeff.Fp 2 →
    ∃ res, khHomology trefoil #[-1, -1, -1] ⟨0, 0, false⟩ k true = .ok res ∧
      chiHom res.cells.toList = [(-9, -1), (-5, 1), (-3, 1), (-1, 1)] := by
  intro k hk
  have hk' : CoeffOK k := by
    rcases hk with rfl | rfl | rfl
    · trivial
    · trivial
    · exact Nat.le_refl 2
  obtain ⟨res, h1, h2, _⟩ := khHomology_chi_eq_jones trefoil valid_examples.1 trefoil_labels trefoil_ok #[-1, -1, -1] k hk'
  have e : C04.jones trefoil #[-1, -1, -1] = [(-9, -1), (-5, 1), (-3, 1), (-1, 1)] := by
    unfold C04.jones C04.circleCount
    rw [edgeLabels_trefoil]
    decide +kernel
  exact ⟨res, h1, h2.trans e⟩

/-- `CoeffOK` : ℤ, ℚ, `𝔽_2`, `𝔽_3` are covered -/
example : CoeffOK .Z ∧ CoeffOK .Q ∧ CoeffOK (.Fp 2) ∧ CoeffOK (.Fp 3) := ⟨trivial, trivial, Nat.le_refl 2, Nat.le_succ 2⟩

/-- `cellRank` and `chiHom` on a small cell list: ranks read off, absent cells count `0`, torsion does not contribute -/
example : cellRank [(-3, some (-9), ⟨1, #[]⟩), (-2, some (-7), ⟨0, #[2]⟩), (-2, some (-5), ⟨1, #[]⟩)] (-2) (some (-5)) = 1 ∧
    cellRank [(-3, some (-9), ⟨1, #[]⟩), (-2, some (-7), ⟨0, #[2]⟩), (-2, some (-5), ⟨1, #[]⟩)] (-1) (some (-5)) = 0 ∧
    chiHom [(-3, some (-9), ⟨1, #[]⟩), (-2, some (-7), ⟨0, #[2]⟩), (-2, some (-5), ⟨1, #[]⟩), (0, some (-3), ⟨1, #[]⟩),
      (0, some (-1), ⟨1, #[]⟩)] = [(-9, -1), (-5, 1), (-3, 1), (-1, 1)] := by
  decide

end Yuiv.C04Euler
