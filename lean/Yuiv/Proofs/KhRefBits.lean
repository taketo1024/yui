import Yuiv.Model.KhRef
/-
The primitive operations `Model/KhRef.lean` is written in: bits of a state or a labelling (`popcount`, `edgeSign`,
`s ||| 1 <<< k` = the state with crossing `k` resolved the other way, `setBit` on 64-bit masks), `a[i]!` on arrays of
known small size, and `foldl min` (by which `mkCube` picks the base edge).  Core Lean only.
-/
namespace Yuiv.KhRef

theorem popcount_le (s n : Nat) : popcount s n ≤ n := by
  unfold popcount
  have := List.length_filter_le (fun i => s.testBit i) (List.range n)
  simpa using this

theorem popcount_succ (x k : Nat) :
    popcount x (k + 1) = popcount x k + (if x.testBit k then 1 else 0) := by
  unfold popcount
  rw [List.range_succ, List.filter_append, List.length_append]
  cases h : x.testBit k <;> simp [h]

theorem popcount_mod (s k : Nat) : popcount (s % 2 ^ k) k = popcount s k := by
  unfold popcount
  refine congrArg List.length (List.filter_congr fun i hi => ?_)
  rw [Nat.testBit_mod_two_pow]
  simp [List.mem_range.mp hi]

theorem testBit_or_bit (s i k : Nat) :
    (s ||| (1 <<< i)).testBit k = (s.testBit k || decide (i = k)) := by
  rw [Nat.testBit_or, Nat.one_shiftLeft, Nat.testBit_two_pow]

theorem testBit_or_bit_ne (s i k : Nat) (h : i ≠ k) : (s ||| (1 <<< i)).testBit k = s.testBit k := by
  rw [testBit_or_bit, decide_eq_false h, Bool.or_false]

theorem popcount_or_le (s i k : Nat) (hk : k ≤ i) :
    popcount (s ||| (1 <<< i)) k = popcount s k := by
  unfold popcount
  refine congrArg List.length (List.filter_congr fun x hx => ?_)
  have : x < k := List.mem_range.mp hx
  exact testBit_or_bit_ne s i x (by omega)

theorem popcount_or_gt (s i j : Nat) (hi : s.testBit i = false) (hj : i < j) :
    popcount (s ||| (1 <<< i)) j = popcount s j + 1 := by
  induction j with
  | zero => omega
  | succ j ih =>
    rw [popcount_succ, popcount_succ, testBit_or_bit]
    by_cases h : i = j
    · subst h
      rw [popcount_or_le s i i (Nat.le_refl _), hi]
      simp
    · have hlt : i < j := by omega
      rw [ih hlt]
      simp [h]
      omega

theorem edgeSign_eq (s k : Nat) : edgeSign s k = if popcount s k % 2 = 0 then 1 else -1 := by
  unfold edgeSign
  rw [popcount_mod]
  simp

theorem edgeSign_or_le (s i k : Nat) (hk : k ≤ i) :
    edgeSign (s ||| (1 <<< i)) k = edgeSign s k := by
  rw [edgeSign_eq, edgeSign_eq, popcount_or_le s i k hk]

theorem edgeSign_or_gt (s i j : Nat) (hi : s.testBit i = false) (hj : i < j) :
    edgeSign (s ||| (1 <<< i)) j = - edgeSign s j := by
  rw [edgeSign_eq, edgeSign_eq, popcount_or_gt s i j hi hj, Nat.add_mod]
  rcases Nat.mod_two_eq_zero_or_one (popcount s j) with h | h <;> rw [h] <;> rfl

theorem or_bit_lt {s n k : Nat} (hs : s < 2 ^ n) (hk : k < n) : s ||| 1 <<< k < 2 ^ n := by
  rw [Nat.one_shiftLeft]
  exact Nat.or_lt_two_pow hs (Nat.pow_lt_pow_right (by omega) hk)

theorem testBit_of_lt {x r j : Nat} (hx : x < 2 ^ r) (hj : r ≤ j) : x.testBit j = false :=
  Nat.testBit_lt_two_pow (Nat.lt_of_lt_of_le hx (Nat.pow_le_pow_right (by omega) hj))

theorem or_or_comm (s a b : Nat) : (s ||| 1 <<< b) ||| 1 <<< a = (s ||| 1 <<< a) ||| 1 <<< b := by
  rw [Nat.or_assoc, Nat.or_comm (1 <<< b), ← Nat.or_assoc]

theorem testBit_setBit (x i j : Nat) (b : Bool) (hx : x < 2 ^ 64) (hi : i < 64) :
    (setBit x i b).testBit j = if j = i then b else x.testBit j := by
  unfold setBit
  cases b
  · simp only [Bool.false_eq_true, if_false, Nat.testBit_and, Nat.testBit_xor, Nat.testBit_two_pow_sub_one,
      Nat.one_shiftLeft, Nat.testBit_two_pow]
    by_cases hj : j = i
    · subst hj; simp [hi]
    · have : ¬ i = j := fun e => hj e.symm
      by_cases h64 : j < 64
      · simp [hj, this, h64]
      · have : x.testBit j = false := testBit_of_lt hx (by omega)
        simp [hj, this]
  · simp only [if_true, Nat.testBit_or, Nat.one_shiftLeft, Nat.testBit_two_pow]
    by_cases hj : j = i
    · subst hj; simp
    · have : ¬ i = j := fun e => hj e.symm
      simp [hj, this]

theorem setBit_lt (x i : Nat) (b : Bool) (hx : x < 2 ^ 64) (hi : i < 64) : setBit x i b < 2 ^ 64 := by
  unfold setBit
  cases b
  · exact Nat.lt_of_le_of_lt Nat.and_le_left hx
  · simp only [if_true, Nat.one_shiftLeft]
    exact Nat.or_lt_two_pow hx (Nat.pow_lt_pow_right (by omega) hi)

theorem getElem!_mem {α : Type} [Inhabited α] (a : Array α) (i : Nat) (hi : i < a.size) : a[i]! ∈ a := by
  rw [getElem!_pos a i hi]; exact Array.getElem_mem hi

theorem contains_iff_idx {α : Type} [Inhabited α] [BEq α] [LawfulBEq α] (cs : Array α) (c : α) :
    cs.contains c = true ↔ ∃ j, j < cs.size ∧ cs[j]! = c := by
  rw [Array.contains_iff_mem, Array.mem_iff_getElem]
  constructor
  · rintro ⟨j, hj, e⟩; exact ⟨j, hj, by rw [getElem!_pos cs j hj]; exact e⟩
  · rintro ⟨j, hj, e⟩; exact ⟨j, hj, by rw [getElem!_pos cs j hj] at e; exact e⟩

theorem eq_of_size_one {α : Type} [Inhabited α] (a : Array α) (h : a.size = 1) : a = #[a[0]!] := by
  obtain ⟨l⟩ := a
  match l, h with
  | [x], _ => rfl

theorem eq_of_size_two {α : Type} [Inhabited α] (a : Array α) (h : a.size = 2) : a = #[a[0]!, a[1]!] := by
  obtain ⟨l⟩ := a
  match l, h with
  | [x, y], _ => rfl

theorem toList_of_size_one {α : Type} [Inhabited α] (a : Array α) (h : a.size = 1) : a.toList = [a[0]!] :=
  congrArg Array.toList (eq_of_size_one a h)

theorem toList_of_size_two {α : Type} [Inhabited α] (a : Array α) (h : a.size = 2) : a.toList = [a[0]!, a[1]!] :=
  congrArg Array.toList (eq_of_size_two a h)

theorem toList_of_size_four {α : Type} [Inhabited α] (a : Array α) (h : a.size = 4) :
    a.toList = [a[0]!, a[1]!, a[2]!, a[3]!] := by
  obtain ⟨l⟩ := a
  match l, h with
  | [x0, x1, x2, x3], _ => rfl

theorem foldl_min_mem (xs : List Nat) (a : Nat) : xs.foldl min a = a ∨ xs.foldl min a ∈ xs := by
  induction xs generalizing a with
  | nil => left; rfl
  | cons x xs ih =>
    rw [List.foldl_cons]
    rcases ih (min a x) with h | h
    · rw [h]
      rcases Nat.le_total a x with h1 | h1
      · left; exact Nat.min_eq_left h1
      · right; rw [Nat.min_eq_right h1]; exact List.mem_cons_self
    · right; exact List.mem_cons_of_mem _ h

end Yuiv.KhRef
