import Yuiv.Proofs.C06CycleConn
/-
Geometry of ONE cube edge of a valid diagram, with slots that depend on the crossing only.

`EG L P P' p q r u`: `P`, `P'` are the arc pair lists of a state `t` (crossing `k` 0-resolved) and of `t ||| 1 <<< k`;
`p, q, r, u` are the four slots of the crossing; `p—q`, `r—u` are its arcs in `t`, `p—u`, `q—r` in the neighbour.
  * M: if `p`, `r` lie on different circles of `t`, the neighbour's relation is that of `t` with the two classes merged;
  * S: if `p`, `r` lie on different circles of the neighbour, the relation of `t` is the neighbour's with the two merged;
  * E: if they lie on one circle in both, the two relations coincide (a 1 → 1 edge; only for non-planar codes).
`flip_geom`: for a valid diagram the slots can be chosen once for every crossing, the same for all states.
-/
namespace Yuiv.C01Sq
open Yuiv Yuiv.KhRef Yuiv.C04Inv Yuiv.C06Cycle

structure EG (L : Array Nat) (P P' : List (Nat × Nat)) (p q r u : Nat) : Prop where
  lp : p ∈ L
  lq : q ∈ L
  lr : r ∈ L
  lu : u ∈ L
  a0 : Conn P p q
  a0' : Conn P r u
  a1 : Conn P' p u
  a1' : Conn P' q r
  M : ¬ Conn P p r → ∀ x y, Conn P' x y ↔ Conn P x y ∨ ((Conn P x p ∨ Conn P x r) ∧ (Conn P y p ∨ Conn P y r))
  S : ¬ Conn P' p r → ∀ x y, Conn P x y ↔ Conn P' x y ∨ ((Conn P' x p ∨ Conn P' x r) ∧ (Conn P' y p ∨ Conn P' y r))
  E : Conn P p r → Conn P' p r → ∀ x y, Conn P x y ↔ Conn P' x y

theorem EG.swap {L : Array Nat} {P P' : List (Nat × Nat)} {p q r u : Nat} (h : EG L P P' p q r u) :
    EG L P P' r u p q := by
  have s : ∀ {Q : List (Nat × Nat)} {x y : Nat}, Conn Q x y → Conn Q y x := fun hc => hc.symm
  exact ⟨h.lr, h.lu, h.lp, h.lq, h.a0', h.a0, s h.a1', s h.a1,
    fun hn x y => (h.M (fun c => hn (s c)) x y).trans (or_congr Iff.rfl (and_congr or_comm or_comm)),
    fun hn x y => (h.S (fun c => hn (s c)) x y).trans (or_congr Iff.rfl (and_congr or_comm or_comm)),
    fun h1 h2 => h.E (s h1) (s h2)⟩

/-- the `k`-th unresolved crossing with its position in the list, independently of the state -/
def kth : List Crossing → Nat → Option (Nat × Crossing)
  | [], _ => none
  | c :: cs, k =>
    if c.ct.isResolved then (kth cs k).map (fun jc => (jc.1 + 1, jc.2))
    else match k with
      | 0 => some (0, c)
      | k + 1 => (kth cs k).map (fun jc => (jc.1 + 1, jc.2))

theorem kth_cons_resolved (c : Crossing) (cs : List Crossing) (k : Nat) (hc : c.ct.isResolved = true) :
    kth (c :: cs) k = (kth cs k).map (fun jc => (jc.1 + 1, jc.2)) := by
  cases k <;> simp only [kth, hc, if_true]

theorem kth_cons_zero (c : Crossing) (cs : List Crossing) (hc : c.ct.isResolved = false) :
    kth (c :: cs) 0 = some (0, c) := by
  simp only [kth, hc, Bool.false_eq_true, if_false]

theorem kth_cons_succ (c : Crossing) (cs : List Crossing) (k : Nat) (hc : c.ct.isResolved = false) :
    kth (c :: cs) (k + 1) = (kth cs k).map (fun jc => (jc.1 + 1, jc.2)) := by
  simp only [kth, hc, Bool.false_eq_true, if_false]

theorem kth_some (cs : List Crossing) (k : Nat) (hk : k < nUnres cs) : ∃ jc, kth cs k = some jc := by
  induction cs generalizing k with
  | nil => cases hk
  | cons c cs ih =>
    by_cases hc : c.ct.isResolved = true
    · rw [nUnres, if_pos hc] at hk
      obtain ⟨jc, h⟩ := ih k hk
      exact ⟨(jc.1 + 1, jc.2), by simp [kth, hc, h]⟩
    · have hc' : c.ct.isResolved = false := by simpa using hc
      rw [nUnres, if_neg hc] at hk
      cases k with
      | zero => exact ⟨(0, c), by simp [kth, hc']⟩
      | succ k =>
        obtain ⟨jc, h⟩ := ih k (by omega)
        exact ⟨(jc.1 + 1, jc.2), by simp [kth, hc', h]⟩

theorem resTypes_flip (cs : List Crossing) (s k : Nat) (j : Nat) (c : Crossing) (hkth : kth cs k = some (j, c))
    (hb : s.testBit k = false) :
    cs[j]? = some c ∧ c.ct.isResolved = false ∧ (resTypes cs s)[j]? = some (c.ct.resolve false) ∧
      resTypes cs (s ||| 1 <<< k) = (resTypes cs s).set j (c.ct.resolve true) := by
  induction cs generalizing s k j with
  | nil => cases hkth
  | cons c0 cs ih =>
    by_cases hc : c0.ct.isResolved = true
    · rw [kth_cons_resolved _ _ _ hc, Option.map_eq_some_iff] at hkth
      obtain ⟨⟨j0, c1⟩, h0, h1⟩ := hkth
      cases h1
      obtain ⟨h1, h2, h3, h4⟩ := ih s k j0 h0 hb
      rw [resTypes_cons_resolved hc, resTypes_cons_resolved hc, h4]
      exact ⟨h1, h2, h3, rfl⟩
    · have hc' : c0.ct.isResolved = false := by simpa using hc
      rw [resTypes_cons_unresolved hc', resTypes_cons_unresolved hc']
      cases k with
      | zero =>
        rw [kth_cons_zero _ _ hc'] at hkth
        cases hkth
        have e : (s ||| 1 <<< 0) / 2 = s / 2 := by rw [Nat.or_div_two]; simp
        have e1 : (s ||| 1 <<< 0).testBit 0 = true := by simp
        rw [e, e1, hb]
        exact ⟨rfl, hc', rfl, rfl⟩
      | succ k =>
        rw [kth_cons_succ _ _ _ hc', Option.map_eq_some_iff] at hkth
        obtain ⟨⟨j0, c1⟩, h0, h1⟩ := hkth
        cases h1
        obtain ⟨h1, h2, h3, h4⟩ := ih (s / 2) k j0 h0 (by rw [← Nat.testBit_succ]; exact hb)
        rw [or_shift_succ, or_shift_succ_bit0, h4]
        exact ⟨h1, h2, h3, rfl⟩

theorem conn_flip_sub (cs : List Crossing) (ts ts' : List CT) (j : Nat) (x : Crossing) (t1 : CT) (a b c d : Nat)
    (hx : cs[j]? = some x) (h1 : ts'[j]? = some t1)
    (hsame : ∀ j', j' ≠ j → ts'[j']? = ts[j']?)
    (hs1 : ∀ p ∈ arcs x t1, p = (a, d) ∨ p = (d, a) ∨ p = (b, c) ∨ p = (c, b))
    (hab : Conn (pairsL cs ts) a b) (hcd : Conn (pairsL cs ts) c d) (hac : Conn (pairsL cs ts) a c) :
    ∀ u v, Conn (pairsL cs ts') u v → Conn (pairsL cs ts) u v := by
  intro u v
  refine Conn.lift id fun p hr => ?_
  rw [mem_pairsL_iff] at hr
  obtain ⟨j', c', t', e1, e2, e3⟩ := hr
  by_cases hj : j' = j
  · subst hj
    rw [hx] at e1; rw [h1] at e2
    cases e1; cases e2
    rcases hs1 _ e3 with e | e | e | e <;> rw [e]
    · exact hac.trans hcd
    · exact (hac.trans hcd).symm
    · exact hab.symm.trans hac
    · exact (hab.symm.trans hac).symm
  · exact Conn.of_mem ((mem_pairsL_iff _ _ _).2 ⟨j', c', t', e1, by rw [← hsame j' hj]; exact e2, e3⟩)

/-- two arcs `a—b`, `c—d`, the second in either orientation, in the form `conn_flip_core` asks for -/
theorem arcs_facts {A : List (Nat × Nat)} {a b c d : Nat} (h : A = [(a, b), (c, d)] ∨ A = [(a, b), (d, c)]) :
    (∀ p ∈ A, p = (a, b) ∨ p = (b, a) ∨ p = (c, d) ∨ p = (d, c)) ∧ ((a, b) ∈ A ∨ (b, a) ∈ A) ∧
      ((c, d) ∈ A ∨ (d, c) ∈ A) := by
  rcases h with rfl | rfl <;> simp

theorem flip_geom (l : Link) (hv : validK l = true) (k : Nat) (hk : k < crossingNum l) :
    ∃ x ∈ l, x.ct.isResolved = false ∧ ∃ p q r u, x.e.toList.Perm [p, q, r, u] ∧ ∀ t, t.testBit k = false →
      EG (edgeLabels l) (statePairs l t) (statePairs l (t ||| 1 <<< k)) p q r u := by
  obtain ⟨hwf, hcnt⟩ := validK_spec l hv
  rw [crossingNum_eq] at hk
  obtain ⟨⟨j, x⟩, hkth⟩ := kth_some l.toList k hk
  have hx0 : l.toList[j]? = some x := by
    have hb0 : (0 : Nat).testBit k = false := by simp
    exact (resTypes_flip l.toList 0 k j x hkth hb0).1
  have hxl : x ∈ l := by
    have := List.mem_of_getElem? hx0
    simpa using this
  have h4 := hwf x hxl
  have hwf' : ∀ c ∈ l.toList, c.e.size = 4 := fun c hc => hwf c (by simpa using hc)
  have e4 := KhRef.toList_of_size_four x.e h4
  have hlab : ∀ i, i < 4 → x.e[i]! ∈ edgeLabels l := by
    intro i hi
    refine (mem_edgeLabels l _).2 ⟨x, hxl, ?_⟩
    rw [getElem!_pos x.e i (by omega)]
    exact Array.getElem_mem _
  -- the generic statement: `a—b`, `c—d` are the arcs of `x` before the flip, `a—d`, `b—c` after it
  have main : ∀ (t0 t1 : CT) (a b c d : Nat), x.ct.resolve false = t0 → x.ct.resolve true = t1 →
      a ∈ edgeLabels l → b ∈ edgeLabels l → c ∈ edgeLabels l → d ∈ edgeLabels l →
      x.e.toList.Perm [a, b, c, d] →
      (arcs x t0 = [(a, b), (c, d)] ∨ arcs x t0 = [(a, b), (d, c)]) →
      (arcs x t1 = [(a, d), (b, c)] ∨ arcs x t1 = [(a, d), (c, b)]) →
      ∀ t, t.testBit k = false → EG (edgeLabels l) (statePairs l t) (statePairs l (t ||| 1 <<< k)) a b c d := by
    intro t0 t1 a b c d ht0 ht1 la lb lc ld hperm ha0 ha1 t hb
    obtain ⟨hs0, hab, hcd⟩ := arcs_facts ha0
    obtain ⟨hs0', _, _⟩ := arcs_facts ha0.symm
    obtain ⟨hs1, had, _⟩ := arcs_facts ha1
    obtain ⟨hs1', _, hcb⟩ := arcs_facts ha1.symm
    obtain ⟨hx, _, h0, hset⟩ := resTypes_flip l.toList t k j x hkth hb
    rw [ht0] at h0; rw [ht1] at hset
    have h1 : (resTypes l.toList (t ||| 1 <<< k))[j]? = some t1 := by
      rw [hset, List.getElem?_set_self (List.getElem?_eq_some_iff.1 h0).1]
    have hsame : ∀ j', j' ≠ j → (resTypes l.toList (t ||| 1 <<< k))[j']? = (resTypes l.toList t)[j']? :=
      fun j' hj' => by rw [hset, List.getElem?_set_ne (Ne.symm hj')]
    have hlen : l.toList.length = (resTypes l.toList t).length := (resTypes_length _ _).symm
    have hlen' : l.toList.length = (resTypes l.toList (t ||| 1 <<< k)).length := (resTypes_length _ _).symm
    have hres := resTypes_resolved l.toList t
    have hres' := resTypes_resolved l.toList (t ||| 1 <<< k)
    have fwd := conn_flip_core l.toList _ _ j x t0 t1 a b c d hwf' hcnt hres hlen hx h0 h1 hsame hperm hs0 hs1
      hab hcd had
    have bwd := conn_flip_core l.toList _ _ j x t1 t0 a d c b hwf' hcnt hres' hlen' hx h1 h0
      (fun j' hj' => (hsame j' hj').symm) (hperm.trans (perm4 a b c d)) hs1' hs0' had hcb hab
    unfold statePairs
    obtain ⟨f1, f2, f3⟩ := fwd
    obtain ⟨b1, b2, b3⟩ := bwd
    refine ⟨la, lb, lc, ld, f1, f2, b1, b2.symm, f3, b3, ?_⟩
    intro hac hac' u v
    constructor
    · exact conn_flip_sub l.toList _ _ j x t0 a d c b hx h0 (fun j' hj' => (hsame j' hj').symm) hs0' b1 b2 hac' u v
    · exact conn_flip_sub l.toList _ _ j x t1 a b c d hx h1 hsame hs1 f1 f2 hac u v
  have hxr : x.ct.isResolved = false := (resTypes_flip l.toList 0 k j x hkth (by simp)).2.1
  refine ⟨x, hxl, hxr, ?_⟩
  cases hct : x.ct with
  | V => rw [hct] at hxr; cases hxr
  | H => rw [hct] at hxr; cases hxr
  | X =>
    exact ⟨x.e[0]!, x.e[1]!, x.e[2]!, x.e[3]!, by rw [e4], main .H .V _ _ _ _ (by rw [hct]; rfl) (by rw [hct]; rfl)
      (hlab 0 (by omega)) (hlab 1 (by omega)) (hlab 2 (by omega)) (hlab 3 (by omega)) (by rw [e4])
      (Or.inl (arcs_H x)) (Or.inl (arcs_V x))⟩
  | Xm =>
    exact ⟨x.e[0]!, x.e[3]!, x.e[2]!, x.e[1]!, by rw [e4]; exact perm4 _ _ _ _,
      main .V .H _ _ _ _ (by rw [hct]; rfl) (by rw [hct]; rfl)
      (hlab 0 (by omega)) (hlab 3 (by omega)) (hlab 2 (by omega)) (hlab 1 (by omega))
      (by rw [e4]; exact perm4 _ _ _ _) (Or.inr (arcs_V x)) (Or.inr (arcs_H x))⟩

end Yuiv.C01Sq
