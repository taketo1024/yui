import Yuiv.Model.C17
import Yuiv.Proofs.Res
/-
The list a bit sequence denotes (`WF`, `toList`, `ofList`, `Refines`) and the facts about the code model
`Model/C17.lean` that the property theorems of `Props/C17.lean` are put together from.
-/
namespace Yuiv.C17
open Yuiv Res

/-- representation invariant of `BitSeq` -/
def WF (b : BS) : Prop := b.len ≤ 64 ∧ b.val < 2 ^ b.len

/-- the list of booleans a bit sequence denotes (bit `i` of `val` is element `i`) -/
def toList (b : BS) : List Bool := (List.range b.len).map (fun i => b.val.testBit i)

/-- the bit sequence denoting a list (inverse of `toList` on well-formed values) -/
def ofList : List Bool → BS
  | [] => ⟨0, 0⟩
  | x :: xs => let t := ofList xs; ⟨(if x then 1 else 0) + 2 * t.val, t.len + 1⟩

def Refines (r : Res BS) (l : List Bool) : Prop := ∃ b, r = ok b ∧ WF b ∧ toList b = l

theorem toList_len (b : BS) : (toList b).length = b.len := by simp [toList]

theorem getElem?_toList (b : BS) (j : Nat) :
    (toList b)[j]? = if j < b.len then some (b.val.testBit j) else none := by
  by_cases hj : j < b.len <;> simp [toList, hj]

theorem testBit_of_lt {v n : Nat} (h : v < 2 ^ n) (j : Nat) (hj : n ≤ j) : v.testBit j = false := by
  apply Nat.testBit_lt_two_pow
  exact Nat.lt_of_lt_of_le h (Nat.pow_le_pow_right (by decide) hj)

theorem WF.testBit {b : BS} (h : WF b) (j : Nat) (hj : b.len ≤ j) : b.val.testBit j = false :=
  testBit_of_lt h.2 j hj

theorem WF.lt_of_testBit {b : BS} (h : WF b) {j : Nat} (hj : b.val.testBit j = true) : j < b.len :=
  Nat.lt_of_not_le fun g => by rw [h.testBit j g] at hj; cases hj

/-- the pointwise view, with no side condition: beyond the end the list has no element and a well-formed value no bit -/
theorem WF.getD_toList {b : BS} (h : WF b) (j : Nat) : (toList b)[j]?.getD false = b.val.testBit j := by
  rw [getElem?_toList]
  split
  · rfl
  · rename_i hj; exact (h.testBit j (Nat.le_of_not_lt hj)).symm

theorem refines_ok {b : BS} {l : List Bool} (hw : WF b) (h : toList b = l) : Refines (ok b) l :=
  ⟨b, rfl, hw, h⟩

theorem wf_of_ok {r : Res BS} {g : Prop} {l : List Bool} (hs : g → Refines r l) (hr : ¬ g → r = panic) {c : BS}
    (h : r = ok c) : WF c := by
  by_cases hg : g
  · obtain ⟨d, hd, hw, _⟩ := hs hg
    rw [hd] at h; cases h; exact hw
  · rw [hr hg] at h; cases h

/-- how the mutators are proved: the new value is described bit by bit, the new list element by element; the list
side is then rewritten by the library's `List.getElem?_set`, `_eraseIdx`, `_insertIdx`, `_take`, `_append`, which hold for
every index, and `WF.getD_toList` turns it back into bits -/
theorem refines_of_bits {v n : Nat} {l : List Bool} (hn : n ≤ 64) (hl : l.length = n)
    (h : ∀ j, v.testBit j = l[j]?.getD false) : Refines (ok ⟨v, n⟩) l := by
  refine refines_ok ⟨hn, Nat.lt_pow_two_of_testBit v fun j (hj : n ≤ j) => ?_⟩ (List.ext_getElem? fun j => ?_)
  · rw [h j, List.getElem?_eq_none (hl ▸ hj)]; rfl
  · rw [getElem?_toList, h j]
    by_cases hj : j < n
    · simp [hj, hl ▸ hj]
    · simp [hj, hl]

theorem shl_eq (x n : Nat) (h : n < 64) : shl x n = ok ((x <<< n) % 2 ^ 64) := by simp [shl, h]
theorem shl_one (n : Nat) (h : n < 64) : shl 1 n = ok (2 ^ n) := by
  have : 2 ^ n < 2 ^ 64 := Nat.pow_lt_pow_right (by decide) h
  simp [shl, h, Nat.one_shiftLeft, Nat.mod_eq_of_lt this]

theorem shl_panic (x n : Nat) (h : 64 ≤ n) : shl x n = panic := by
  simp [shl]; omega

theorem shr_eq (x n : Nat) (h : n < 64) : shr x n = ok (x >>> n) := by simp [shr, h]

theorem mask_of_le (len : Nat) (h : len ≤ 64) : mask len = ok (2 ^ len - 1) := by
  unfold mask
  by_cases h64 : len = 64
  · subst h64; simp [maxLen, u64Max]
  · have hlt : len < 64 := Nat.lt_of_le_of_ne h h64
    have : 1 ≤ 2 ^ len := Nat.one_le_two_pow
    simp [maxLen, shl_one len hlt, usub, this]; omega

theorem mask_of_ge (len : Nat) (h : 64 ≤ len) : mask len = ok (2 ^ 64 - 1) := by
  simp [mask, maxLen, h, u64Max]

theorem two_pow_sub_one_lt {n : Nat} (h : n ≤ 64) : 2 ^ n - 1 < 2 ^ 64 := by
  have : 2 ^ n ≤ 2 ^ 64 := Nat.pow_le_pow_right (by decide) h
  have : 1 ≤ 2 ^ n := Nat.one_le_two_pow
  omega

theorem testBit_not64 (x : Nat) (hx : x < 2 ^ 64) (j : Nat) :
    (not64 x).testBit j = (decide (j < 64) && !x.testBit j) := by
  have : not64 x = 2 ^ 64 - (x + 1) := by simp [not64, u64Max]
  rw [this, Nat.testBit_two_pow_sub_succ hx]

theorem testBit_ite (x : Bool) (k : Nat) :
    (if x then 1 else 0 : Nat).testBit k = (x && decide (k = 0)) := by
  cases x
  · simp
  · cases k <;> simp [Nat.testBit_succ]

theorem new_ok (val len : Nat) (hl : len ≤ 64) (hv : val < 2 ^ len) : new val len = ok ⟨val, len⟩ := by
  have : val ≤ 2 ^ len - 1 := by omega
  simp [new, mask_of_le len hl, Res.assert, maxLen, hl, this]

theorem new_panic (val len : Nat) (h : 64 < len ∨ 2 ^ len ≤ val) : new val len = panic := by
  by_cases hl : len ≤ 64
  · have h2 : 2 ^ len ≤ val := by omega
    have : 1 ≤ 2 ^ len := Nat.one_le_two_pow
    have : ¬ val ≤ 2 ^ len - 1 := by omega
    simp [new, mask_of_le len hl, Res.assert, maxLen, hl, this]
  · simp [new, Res.assert, maxLen, hl]

theorem revBits_lt (n v : Nat) : revBits n v < 2 ^ n := by
  fun_induction revBits n v with
  | case1 => simp
  | case2 n v ih =>
    have : v % 2 < 2 := Nat.mod_lt _ (by decide)
    have : v % 2 * 2 ^ n ≤ 1 * 2 ^ n := Nat.mul_le_mul_right _ (by omega)
    rw [Nat.pow_succ]; omega

theorem testBit_revBits (n v j : Nat) :
    (revBits n v).testBit j = (decide (j < n) && v.testBit (n - 1 - j)) := by
  fun_induction revBits n v with
  | case1 => simp
  | case2 n v ih =>
    rw [Nat.mul_comm, Nat.testBit_two_pow_mul_add _ (revBits_lt n (v / 2))]
    by_cases hj : j < n
    · have e : n - j = (n - 1 - j) + 1 := by omega
      simp [hj, ih, Nat.lt_succ_of_lt hj]
      rw [e, Nat.testBit_succ]
    · by_cases hjn : j = n
      · subst hjn
        simp [Nat.testBit_zero]
      · have : (v % 2).testBit (j - n) = false := by
          apply testBit_of_lt (n := 1) (Nat.mod_lt _ (by decide)); omega
        simp [hj, this, show ¬ j < n + 1 by omega]

/-- the recursive view: the lowest bit, then the bits of the half -/
theorem bits_succ (v n : Nat) : (List.range (n + 1)).map (fun i => v.testBit i) =
    (v % 2 == 1) :: (List.range n).map (fun i => (v / 2).testBit i) := by
  rw [List.range_succ_eq_map, List.map_cons, List.map_map, Nat.testBit_zero]
  congr 2
  funext i; exact Nat.testBit_succ v i

def popc (v : Nat) : Nat := if h : v = 0 then 0 else v % 2 + popc (v / 2)
decreasing_by omega

theorem popc_eq (v : Nat) : popc v = v % 2 + popc (v / 2) := by
  by_cases h : v = 0
  · subst h; unfold popc; simp
  · rw [popc]; simp [h]

theorem popc_zero : popc 0 = 0 := by unfold popc; simp

theorem popc_and_pred (v : Nat) (h : 0 < v) : popc (v &&& (v - 1)) + 1 = popc v := by
  induction v using Nat.div2Induction with
  | _ v ih =>
    rw [popc_eq (v &&& (v - 1)), popc_eq v, Nat.and_div_two,
      ← Nat.pow_one 2, Nat.and_mod_two_pow, Nat.pow_one]
    rcases Nat.mod_two_eq_zero_or_one v with h0 | h1
    · obtain ⟨e1, e2, e3⟩ : (v - 1) / 2 = v / 2 - 1 ∧ (v - 1) % 2 = 1 ∧ 0 < v / 2 := by omega
      rw [h0, e1, e2, show (0 &&& 1 : Nat) = 0 from rfl, Nat.zero_add, Nat.zero_add]
      exact ih h e3
    · obtain ⟨e1, e2⟩ : (v - 1) / 2 = v / 2 ∧ (v - 1) % 2 = 0 := by omega
      rw [h1, e1, e2, Nat.and_self, show (1 &&& 0 : Nat) = 0 from rfl, Nat.zero_add, Nat.add_comm]

theorem weightLoop_eq (fuel v c : Nat) (h : popc v ≤ fuel) : weightLoop fuel v c = c + popc v := by
  fun_induction weightLoop fuel v c with
  | case1 v c => omega
  | case2 fuel v c hv ih =>
    have := popc_and_pred v hv
    rw [ih (by omega)]; omega
  | case3 fuel v c hv =>
    have : v = 0 := Nat.eq_zero_of_not_pos hv
    subst this; simp [popc_zero]

theorem popc_eq_count (n v : Nat) (h : v < 2 ^ n) :
    popc v = ((List.range n).map (fun i => v.testBit i)).count true := by
  induction n generalizing v with
  | zero =>
    have : v = 0 := by simpa using h
    subst this; simp [popc_zero]
  | succ n ih =>
    rw [popc_eq, ih (v / 2) (by rw [Nat.pow_succ] at h; omega), bits_succ, List.count_cons]
    rcases Nat.mod_two_eq_zero_or_one v with h0 | h1
    · simp [h0]
    · simp [h1]; omega

theorem popc_le (n v : Nat) (h : v < 2 ^ n) : popc v ≤ n := by
  rw [popc_eq_count n v h]
  exact Nat.le_trans List.count_le_length (by simp)

theorem iterLoop_eq (n v : Nat) : iterLoop n v = (List.range n).map (fun i => v.testBit i) := by
  fun_induction iterLoop n v with
  | case1 => simp
  | case2 n v ih => rw [ih, bits_succ, Nat.and_one_is_mod, Nat.shiftRight_succ, Nat.shiftRight_zero]

theorem ofList_len (l : List Bool) : (ofList l).len = l.length := by
  induction l with
  | nil => rfl
  | cons x xs ih => simp [ofList, ih]

theorem ofList_lt (l : List Bool) : (ofList l).val < 2 ^ l.length := by
  induction l with
  | nil => simp [ofList]
  | cons x xs ih =>
    simp only [ofList, List.length_cons, Nat.pow_succ]
    cases x <;> simp <;> omega

theorem toList_ofList' (l : List Bool) : toList (ofList l) = l := by
  induction l with
  | nil => simp [ofList, toList]
  | cons x xs ih =>
    have e : ((if x then 1 else 0) + 2 * (ofList xs).val) / 2 = (ofList xs).val := by cases x <;> simp <;> omega
    rw [ofList, toList, bits_succ, e]
    exact congr (congrArg _ (by cases x <;> simp <;> omega)) ih

theorem toList_mk_ofList (l : List Bool) : toList ⟨(ofList l).val, l.length⟩ = l := by
  have := toList_ofList' l
  rw [← ofList_len l]
  exact this

theorem fromIterLoop_false (xs : List Bool) (v l : Nat) :
    fromIterLoop (false :: xs) v l = fromIterLoop xs v (l + 1) := rfl
theorem fromIterLoop_true (xs : List Bool) (v l : Nat) :
    fromIterLoop (true :: xs) v l = (shl 1 l >>= fun s => fromIterLoop xs (v ||| s) (l + 1)) := by
  rw [fromIterLoop]
  cases shl 1 l <;> rfl

theorem fromStrLoop_cons (c : Char) (cs : List Char) (v l : Nat) :
    fromStrLoop (c :: cs) v l = if c = '0' then fromStrLoop cs v (l + 1)
      else if c = '1' then shl 1 l >>= fun s => fromStrLoop cs (v ||| s) (l + 1) else ok (v, l, false) := rfl

theorem fromIterLoop_eq (l : List Bool) (v n : Nat) (hn : n + l.length ≤ 64) (hv : v < 2 ^ n) :
    fromIterLoop l v n = ok (v + 2 ^ n * (ofList l).val, n + l.length) := by
  induction l generalizing v n with
  | nil => rfl
  | cons x xs ih =>
    have hp : 2 ^ (n + 1) = 2 ^ n * 2 := Nat.pow_succ _ _
    have hl : n + 1 + xs.length = n + (x :: xs).length := Nat.add_right_comm n 1 xs.length
    have hn' : n + 1 + xs.length ≤ 64 := hl ▸ hn
    cases x
    · rw [fromIterLoop_false, ih v (n + 1) hn' (by omega), hl]
      show _ = ok (v + 2 ^ n * (0 + 2 * (ofList xs).val), _)
      rw [hp, Nat.mul_assoc, Nat.zero_add]
    · rw [fromIterLoop_true, shl_one n (by omega)]
      show fromIterLoop xs (v ||| 2 ^ n) (n + 1) = ok (v + 2 ^ n * (1 + 2 * (ofList xs).val), _)
      rw [Nat.or_two_pow_eq_add_of_lt hv, ih (v + 2 ^ n) (n + 1) hn' (by omega), hl, hp, Nat.mul_add, Nat.mul_assoc, Nat.mul_one,
        Nat.add_assoc]

theorem fromIter_eq (l : List Bool) (h : l.length ≤ 64) :
    fromIter l = ok ⟨(ofList l).val, l.length⟩ := by
  unfold fromIter
  rw [fromIterLoop_eq l 0 0 (by rw [Nat.zero_add]; exact h) (by simp)]
  simp [new_ok _ _ h (ofList_lt l)]

theorem fromIterLoop_cases (l : List Bool) (v n : Nat) :
    fromIterLoop l v n = panic ∨ ∃ v', fromIterLoop l v n = ok (v', n + l.length) := by
  induction l generalizing v n with
  | nil => exact .inr ⟨v, rfl⟩
  | cons x xs ih =>
    have key : ∀ w, fromIterLoop xs w (n + 1) = panic ∨
        ∃ v', fromIterLoop xs w (n + 1) = ok (v', n + (x :: xs).length) := by
      intro w
      rw [List.length_cons, ← Nat.add_assoc, Nat.add_right_comm]
      exact ih w (n + 1)
    cases x
    · rw [fromIterLoop_false]; exact key v
    · rw [fromIterLoop_true]
      by_cases hn : n < 64
      · rw [shl_one n hn]; exact key _
      · rw [shl_panic 1 n (Nat.le_of_not_lt hn)]; exact .inl rfl

theorem fromStrLoop_map (l : List Bool) (v n : Nat) :
    fromStrLoop (l.map (fun x => if x then '1' else '0')) v n
      = (fromIterLoop l v n >>= fun p => ok (p.1, p.2, true)) := by
  induction l generalizing v n with
  | nil => rfl
  | cons x xs ih =>
    rw [List.map_cons, fromStrLoop_cons]
    cases x
    · rw [if_pos (show (if false = true then '1' else '0') = '0' from rfl), fromIterLoop_false, ih]
    · rw [if_neg (show ¬ (if true = true then '1' else '0') = '0' by decide),
        if_pos (show (if true = true then '1' else '0') = '1' from rfl), fromIterLoop_true]
      cases shl 1 n with
      | ok s => exact ih (v ||| s) (n + 1)
      | panic => rfl
      | err => rfl

theorem fromStr_eq (l : List Bool) (h : l.length ≤ 64) :
    fromStr (l.map (fun x => if x then '1' else '0')) = ok ⟨(ofList l).val, l.length⟩ := by
  unfold fromStr
  rw [fromStrLoop_map, fromIterLoop_eq l 0 0 (by rw [Nat.zero_add]; exact h) (by simp)]
  simp [new_ok _ _ h (ofList_lt l)]

theorem fromStrLoop_cases (s : List Char) (v n : Nat) :
    fromStrLoop s v n = panic ∨ ∃ v' n' good, fromStrLoop s v n = ok (v', n', good) ∧
      (good = true → n' = n + s.length ∧ ∀ c ∈ s, c = '0' ∨ c = '1') := by
  induction s generalizing v n with
  | nil => right; exact ⟨v, n, true, rfl, by simp⟩
  | cons c cs ih =>
    have key : ∀ w, (c = '0' ∨ c = '1') → (fromStrLoop cs w (n + 1) = panic ∨
        ∃ v' n' good, fromStrLoop cs w (n + 1) = ok (v', n', good) ∧
        (good = true → n' = n + (c :: cs).length ∧ ∀ c' ∈ c :: cs, c' = '0' ∨ c' = '1')) := by
      intro w hc
      rcases ih w (n + 1) with h | ⟨v', n', good, h, hg⟩
      · left; exact h
      · right; refine ⟨v', n', good, h, fun g => ?_⟩
        obtain ⟨h1, h2⟩ := hg g
        refine ⟨by simp; omega, ?_⟩
        intro c' hc'
        rcases List.mem_cons.1 hc' with rfl | hm
        · exact hc
        · exact h2 _ hm
    rw [fromStrLoop_cons]
    by_cases hc0 : c = '0'
    · rw [if_pos hc0]; exact key v (Or.inl hc0)
    · rw [if_neg hc0]
      by_cases hc1 : c = '1'
      · rw [if_pos hc1]
        by_cases hn : n < 64
        · rw [shl_one n hn]; exact key (v ||| 2 ^ n) (Or.inr hc1)
        · rw [shl_panic 1 n (Nat.le_of_not_lt hn)]; exact .inl rfl
      · rw [if_neg hc1]; exact .inr ⟨v, n, false, rfl, fun h => nomatch h⟩

/-- the value of `append` when there is something to append; `push` is the case of a one-bit `c` -/
theorem refines_append (a c : BS) (ha : WF a) (hc : WF c) (hl : a.len + c.len ≤ 64) :
    Refines (ok ⟨a.val ||| (c.val <<< a.len) % 2 ^ 64, a.len + c.len⟩) (toList a ++ toList c) := by
  refine refines_of_bits hl (by simp [toList_len]) fun j => ?_
  rw [List.getElem?_append, toList_len, apply_ite (Option.getD · false), ha.getD_toList, hc.getD_toList,
    Nat.testBit_or, Nat.testBit_mod_two_pow, Nat.testBit_shiftLeft]
  by_cases hj : j < a.len
  · simp [hj]; omega
  · simp [hj, ha.testBit j (Nat.le_of_not_lt hj), Nat.le_of_not_lt hj]
    intro ht; have := hc.lt_of_testBit ht; omega

theorem sub_eq (b : BS) (h : WF b) (l : Nat) (hl : l ≤ b.len) :
    sub b l = ok ⟨b.val % 2 ^ l, l⟩ ∧ Refines (ok ⟨b.val % 2 ^ l, l⟩) ((toList b).take l) := by
  have hl64 : l ≤ 64 := Nat.le_trans hl h.1
  constructor
  · unfold sub
    simp only [Res.assert, hl, decide_true, if_true, bind_ok, mask_of_le l hl64,
      Nat.and_two_pow_sub_one_eq_mod]
    exact new_ok _ _ hl64 (Nat.mod_lt _ (Nat.two_pow_pos l))
  · refine refines_of_bits hl64 (by simp [toList_len, hl]) fun j => ?_
    rw [List.getElem?_take, apply_ite (Option.getD · false), h.getD_toList, Nat.testBit_mod_two_pow]
    by_cases hj : j < l <;> simp [hj]

theorem newRev_refines (val len : Nat) (hl : len ≤ 64) :
    Refines (newRev val len) ((List.range len).map (fun i => val.testBit (len - 1 - i))) := by
  unfold newRev
  simp only [Res.assert, maxLen, hl, decide_true, if_true, bind_ok]
  by_cases h0 : len = 0
  · subst h0
    simp only [if_true, new_ok 0 0 (by decide) (by decide)]
    exact refines_ok ⟨by decide, by decide⟩ (by simp [toList])
  · have hk : 64 - len < 64 := Nat.sub_lt (by decide) (Nat.pos_of_ne_zero h0)
    simp only [h0, if_false, usub, hl, if_true, bind_ok, shr_eq _ _ hk]
    have hr : Refines (ok ⟨revBits 64 val >>> (64 - len), len⟩)
        ((List.range len).map (fun i => val.testBit (len - 1 - i))) := by
      refine refines_of_bits hl (by simp) fun j => ?_
      rw [Nat.testBit_shiftRight, testBit_revBits]
      by_cases hj : j < len
      · simp [hj, show 64 - len + j < 64 by omega, show 64 - 1 - (64 - len + j) = len - 1 - j by omega]
      · simp [hj, show ¬ 64 - len + j < 64 by omega]
    obtain ⟨b, hb, hw, ht⟩ := hr
    cases hb
    rw [new_ok _ _ hl hw.2]
    exact refines_ok hw ht

end Yuiv.C17
