import Yuiv.Proofs.C15Gen
/-
C15 — the hand-written model of the integer side of the Euclidean-domain code (`Yuiv/Model/C15.lean`: `zDivRound`,
`zIsUnit`, `zInv`, `zNormUnit` and the generic `EucOps.{divides, gcd, gcdx, lcm}` at `intOps`) IS the source text of
`/repo/yui/src/misc/int_ext.rs` and of the default methods of `trait EucRing` in `/repo/yui/src/abst/euc_ring.rs`, read
with `Self := Int`.

`Yuiv.GenIntExt.*` (file `Yuiv/Gen/IntExtFn.lean`) is regenerated from the two Rust sources by
`tools/rs2lean_fn.py fn:intext` on every `./check` run.  Each theorem states, for ALL arguments, that a generated
definition equals the model's function, including panics (zero divisor, `lcm(0, 0)`) and fuel exhaustion (`err`).
The generated `while` loops take their fuel as an argument and spend one unit on the final `!y.is_zero()` test, the
model's loops do not: `fuel = norm y + 2` on the generated side corresponds to the model's `norm y + 1`.
The theorems `gen_int_*` also show that the integer impls of `impl_integer!` (for i32, i64, i128, BigInt) are the
functions `RInt.is_unit / inv / normalizing_unit` that `Yuiv/Model/RustRing.lean` ASSUMES for the type parameter of
`Ratio<T>` (C14Gen) — that part of the prelude is thereby derived from source text, not trusted.
-/
namespace Yuiv.C15Gen
open Yuiv Res Yuiv.Rust Yuiv.GenIntExt

/-! ### `impl_integer!` (int_ext.rs), all four instances -/

theorem gen_int_is_unit_eq (a : Int) :
    i32.Ring.is_unit a = C15.zIsUnit a ∧ i64.Ring.is_unit a = C15.zIsUnit a ∧ i128.Ring.is_unit a = C15.zIsUnit a ∧
    BigInt.Ring.is_unit a = C15.zIsUnit a ∧ RInt.is_unit a = C15.zIsUnit a := ⟨rfl, rfl, rfl, rfl, rfl⟩

theorem gen_int_inv_eq (a : Int) :
    i32.Ring.inv a = C15.zInv a ∧ i64.Ring.inv a = C15.zInv a ∧ i128.Ring.inv a = C15.zInv a ∧
    BigInt.Ring.inv a = C15.zInv a ∧ RInt.inv a = C15.zInv a := ⟨rfl, rfl, rfl, rfl, rfl⟩

theorem gen_int_normalizing_unit_eq (a : Int) :
    i32.Ring.normalizing_unit a = C15.zNormUnit a ∧ i64.Ring.normalizing_unit a = C15.zNormUnit a ∧
    i128.Ring.normalizing_unit a = C15.zNormUnit a ∧ BigInt.Ring.normalizing_unit a = C15.zNormUnit a ∧
    RInt.normalizing_unit a = C15.zNormUnit a := ⟨rfl, rfl, rfl, rfl, rfl⟩

/-! ### `DivRound for T: Integer` (int_ext.rs) -/

theorem gen_div_round_eq (a b : Int) : DivRound.div_round a b = C15.zDivRound a b := by
  unfold DivRound.div_round C15.zDivRound C15.zDivRoundT
  by_cases h : b = 0
  · simp [h, div_zero]
  · simp only [h, div_ne a b h, rem_ne a b h, bind_ok, if_false]
    simp [C15.nabs, RInt.is_positive, RInt.is_negative]

/-! ### default methods of `trait EucRing` (euc_ring.rs) at `Self := Int` -/

theorem gen_divides_eq (x y : Int) : EucRing.divides x y = ok (C15.intOps.divides x y) := by
  unfold EucRing.divides C15.EucOps.divides
  by_cases h : x = 0
  · simp [h, RInt.is_zero, C15.intOps]
  · have h' : (x == 0) = false := by simpa using h
    simp [h, h', RInt.is_zero, C15.intOps, rem_ne y x h]
    rfl

theorem gen_gcd_eq (x y : Int) : EucRing.gcd (C15.intOps.norm y + 2) x y = C15.intOps.gcd x y := by
  unfold EucRing.gcd C15.EucOps.gcd
  simp only [gen_divides_eq, bind_ok, gcd_loop_eq, normalized_eq]
  by_cases h0 : x = 0 ∧ y = 0
  · simp [h0, RInt.is_zero, C15.intOps]
  · have h0' : ¬ (C15.intOps.isZero x = true ∧ C15.intOps.isZero y = true) := by simpa [C15.intOps] using h0
    have h0'' : ¬ (x = 0 ∧ y = 0) := h0
    simp only [RInt.is_zero, Bool.and_eq_true, decide_eq_true_eq, h0'', h0', if_false]
    cases C15.intOps.divides x y
    · cases C15.intOps.divides y x
      · cases hl : C15.intOps.gcdLoop (C15.intOps.norm y + 1) x y <;> simp [ofOpt]
      · simp
    · simp

theorem gen_gcdx_eq (x y : Int) : EucRing.gcdx (C15.intOps.norm y + 2) x y = C15.intOps.gcdx x y := by
  unfold EucRing.gcdx C15.EucOps.gcdx
  simp only [gen_divides_eq, bind_ok]
  by_cases h0 : x = 0 ∧ y = 0
  · simp [h0, RInt.is_zero, C15.intOps]
  · have h0' : ¬ (C15.intOps.isZero x = true ∧ C15.intOps.isZero y = true) := by simpa [C15.intOps] using h0
    have h0'' : ¬ (x = 0 ∧ y = 0) := h0
    simp only [RInt.is_zero, Bool.and_eq_true, decide_eq_true_eq, h0'', h0', if_false]
    cases C15.intOps.divides x y
    · cases C15.intOps.divides y x
      · have hl := gcdx_loop_eq (C15.intOps.norm y + 1) x y 1 0 0 1
        have e1 : C15.intOps.one = 1 := rfl
        have e0 : C15.intOps.zero = 0 := rfl
        rw [e1, e0]
        cases hg : EucRing.gcdx_loop1 (C15.intOps.norm y + 1 + 1) x y 1 0 0 1 with
        | ok r =>
          obtain ⟨a, b, c, d, e, f⟩ := r
          rw [hg] at hl
          cases hm : C15.intOps.gcdxLoop (C15.intOps.norm y + 1) x y 1 0 0 1 with
          | none => rw [hm] at hl; simp [ofOpt] at hl
          | some t =>
            obtain ⟨d', s', t'⟩ := t
            rw [hm] at hl
            simp [ofOpt] at hl
            obtain ⟨rfl, rfl, rfl⟩ := hl
            simp [C15.intOps, RInt.normalizing_unit, RInt.is_one, RInt.is_negative, C15.zNormUnit] <;>
              (split <;> rfl)
        | panic =>
          rw [hg] at hl
          cases hm : C15.intOps.gcdxLoop (C15.intOps.norm y + 1) x y 1 0 0 1 <;> rw [hm] at hl <;> simp [ofOpt] at hl
        | err =>
          rw [hg] at hl
          cases hm : C15.intOps.gcdxLoop (C15.intOps.norm y + 1) x y 1 0 0 1 with
          | none =>
            simp
          | some t => rw [hm] at hl; simp [ofOpt] at hl
      · simp [C15.intOps, RInt.normalizing_unit, RInt.is_negative, C15.zNormUnit]
    · simp [C15.intOps, RInt.normalizing_unit, RInt.is_negative, C15.zNormUnit]

theorem gen_lcm_eq (x y : Int) : EucRing.lcm (C15.intOps.norm y + 2) x y = C15.intOps.lcm x y := by
  unfold EucRing.lcm C15.EucOps.lcm
  rw [gen_gcd_eq]
  cases hg : C15.intOps.gcd x y with
  | ok g =>
    by_cases h : g = 0
    · simp [h, div_zero, C15.intOps]
    · have h' : (g == 0) = false := by simpa using h
      simp [h', div_ne y g h, normalized_eq, C15.intOps]
  | panic => rfl
  | err => rfl

/-! ### the statements are not vacuous -/

example : DivRound.div_round 13 5 = ok 3 := by rw [gen_div_round_eq]; decide
example : DivRound.div_round (-5) 2 = ok (-3) := by rw [gen_div_round_eq]; decide
example : DivRound.div_round 1 0 = .panic := by rw [gen_div_round_eq]; decide
example : EucRing.gcd (C15.intOps.norm 46 + 2) 240 46 = ok 2 := by rw [gen_gcd_eq]; decide
example : EucRing.lcm (C15.intOps.norm 0 + 2) 0 0 = .panic := by rw [gen_lcm_eq]; decide

end Yuiv.C15Gen
