import Yuiv.Proofs.C02MirrorEdge
import Yuiv.Proofs.KhRefCircles
import Yuiv.Props.C02
namespace Yuiv.C02Mirror
open Yuiv Yuiv.KhRef Yuiv.C04Inv

/-! ### the mirror image: same edges, same labels, complementary states -/

theorem mirror_size (l : Link) : (mirror l).size = l.size := by simp [mirror]

theorem mirror_toList (l : Link) : (mirror l).toList = l.toList.map (fun c => ⟨c.ct.mirror, c.e⟩) := by
  simp [mirror]

theorem mirror_e (l : Link) (i : Nat) : (mirror l)[i]!.e = l[i]!.e := by
  by_cases hi : i < l.size
  · rw [getElem!_pos (mirror l) i (by rw [mirror_size]; exact hi), getElem!_pos l i hi]
    simp [mirror]
  · rw [getElem!_neg (mirror l) i (by rw [mirror_size]; exact hi), getElem!_neg l i hi]

theorem isResolved_mirror (c : CT) : c.mirror.isResolved = c.isResolved := by cases c <;> rfl

theorem mirror_resolved (c : CT) (h : c.isResolved = true) : c.mirror = c := by cases c <;> first | rfl | cases h

theorem unionAll_mirror (l : Link) (labels : Array Nat) (ts : Array CT) :
    unionAll (mirror l) labels ts = unionAll l labels ts := by
  unfold unionAll unionStep
  simp only [mirror_size, mirror_e]

theorem edgeLabels_mirror (l : Link) : edgeLabels (mirror l) = edgeLabels l := by
  have : preLabels (mirror l) = preLabels l := by
    unfold preLabels
    rw [mirror_toList, List.foldl_map]
  rw [edgeLabels_eq, edgeLabels_eq, this]

theorem nUnres_mirror (cs : List Crossing) :
    nUnres (cs.map (fun c => (⟨c.ct.mirror, c.e⟩ : Crossing))) = nUnres cs := by
  induction cs with
  | nil => rfl
  | cons c cs ih => simp only [List.map_cons, nUnres, isResolved_mirror, ih]

theorem crossingNum_mirror (l : Link) : crossingNum (mirror l) = crossingNum l := by
  rw [crossingNum_eq, crossingNum_eq, mirror_toList, nUnres_mirror]

/-- the complementary state on `n` crossings -/
def compl (n s : Nat) : Nat := 2 ^ n - 1 - s

theorem compl_lt (n s : Nat) : compl n s < 2 ^ n := flipMask_lt n s

theorem testBit_compl (n s i : Nat) (hs : s < 2 ^ n) : (compl n s).testBit i = (decide (i < n) && !s.testBit i) :=
  testBit_flipMask n s i hs

theorem compl_compl (n s : Nat) (hs : s < 2 ^ n) : compl n (compl n s) = s := flipMask_flipMask n s hs

theorem compl_succ (n s : Nat) (hs : s < 2 ^ (n + 1)) :
    (compl (n + 1) s).testBit 0 = !s.testBit 0 ∧ compl (n + 1) s / 2 = compl n (s / 2) ∧ s / 2 < 2 ^ n := by
  have hs2 : s / 2 < 2 ^ n := Nat.div_lt_of_lt_mul (by rwa [Nat.pow_succ, Nat.mul_comm] at hs)
  refine ⟨?_, Nat.eq_of_testBit_eq fun i => ?_, hs2⟩
  · rw [testBit_compl _ _ _ hs]
    simp
  · rw [Nat.testBit_div_two, testBit_compl _ _ _ hs, testBit_compl _ _ _ hs2, Nat.testBit_div_two]
    simp

theorem resTypes_mirror (cs : List Crossing) (s : Nat) (hs : s < 2 ^ nUnres cs) :
    resTypes (cs.map (fun c => (⟨c.ct.mirror, c.e⟩ : Crossing))) (compl (nUnres cs) s) = resTypes cs s := by
  induction cs generalizing s with
  | nil => rfl
  | cons c cs ih =>
    rw [List.map_cons]
    unfold resTypes
    simp only [isResolved_mirror]
    by_cases h : c.ct.isResolved = true
    · have hn : nUnres (c :: cs) = nUnres cs := by simp [nUnres, h]
      rw [hn] at hs ⊢
      simp only [h, if_true]
      rw [ih s hs, mirror_resolved _ h]
    · have hn : nUnres (c :: cs) = nUnres cs + 1 := by simp [nUnres, h]
      rw [hn] at hs ⊢
      obtain ⟨h1, h2, h3⟩ := compl_succ _ s hs
      have h' : c.ct.isResolved = false := by simpa using h
      simp only [h', Bool.false_eq_true, if_false]
      rw [h1, h2, ih _ h3, resolve_mirror]

theorem resolvedTypes_mirror (l : Link) (s : Nat) (hs : s < 2 ^ crossingNum l) :
    resolvedTypes (mirror l) (compl (crossingNum l) s) = resolvedTypes l s := by
  apply Array.toList_inj.mp
  rw [resolvedTypes_toList, resolvedTypes_toList, mirror_toList, crossingNum_eq]
  exact resTypes_mirror _ s (by rw [← crossingNum_eq]; exact hs)

theorem circles_mirror (l : Link) (labels : Array Nat) (s : Nat) (hs : s < 2 ^ crossingNum l) :
    circles (mirror l) labels (compl (crossingNum l) s) = circles l labels s := by
  rw [circles_eq, circles_eq, unionAll_mirror, resolvedTypes_mirror l s hs]

end Yuiv.C02Mirror
