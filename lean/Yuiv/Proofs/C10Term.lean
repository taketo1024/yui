import Yuiv.Proofs.C10GS
import Yuiv.Proofs.ResSpec
/-
C10 — termination and total correctness of the LLL main loop (`LLLCalc::process`) of the literal model.

The classical argument, carried out on the INTEGER fields `det` / `lambda` (the bookkeeping invariant `Data.Book` is only
needed for `det[i] > 0`, hence no division by zero, and for translating the final integer inequalities into `IsLLLReduced`):
the potential `pot d = ∏_{i<m} det[i]` is unchanged by `reduce` and shrinks by more than the factor 3/4 at every `swap(k)`
done because `lovasz_ok(k)` failed (new `det[k-1] = (d_{k-1}·d_{k+1} + λ_{k,k-1}²) / d_k < 3/4 · d_k`).
-/
namespace Yuiv.C10
open Yuiv Res Finset

theorem Data.reduce_isOk (d : Data) {i k : Nat} (hik : i < k) (hk : k < d.tr.m) (hi : i < d.det.size)
    (hne : d.dv i ≠ 0) : ∃ d', d.reduce i k = ok d' := by
  obtain ⟨q, hq⟩ := divRound_total' (ent d.lam k i) (d.dv i) hne
  rw [Data.reduce_eq d hik hk hi, hq, bind_ok]
  split
  · exact Data.addRowTo_isOk d (-q) hik hk hi
  · exact ⟨d, rfl⟩

theorem Data.reduce_ok (d : Data) (hB : d.Book) (i k : Nat) (hik : i < k) (hk : k < d.tr.m) :
    ∃ d', d.reduce i k = ok d' ∧ d'.Book ∧ d'.det = d.det ∧ d'.step = d.step ∧ d'.tr.m = d.tr.m ∧
      d'.tr.n = d.tr.n ∧
      (∀ a < d.tr.m, ∀ b < d.tr.m, (a ≠ k ∨ i < b) → ent d'.lam a b = ent d.lam a b) ∧
      2 * |ent d'.lam k i| ≤ d.dv i := by
  have hi : i < d.tr.m := by omega
  have hpos := Data.BookOf.dv_pos hB hi
  obtain ⟨d', h⟩ := Data.reduce_isOk d hik hk (by rw [hB.1]; exact hi) (ne_of_gt hpos)
  obtain ⟨q, hq, hS⟩ := Data.reduce_rowAdd h
  refine ⟨d', h, hS.book hik hk hB, hS.det, hS.step, hS.tr.m, hS.tr.n, fun a ha b hb hab => ?_, ?_⟩
  · rw [hS.lam a ha b hb]
    by_cases hak : a = k
    · rw [if_pos hak, if_neg (by omega), if_neg (by omega)]
    · rw [if_neg hak]
  · exact Data.reduce_lam_le h hpos

theorem revLoop_reduce_ok (k : Nat) : ∀ (cnt : Nat) (d : Data), d.Book → cnt ≤ k → k < d.tr.m →
    ∃ d', revLoop (fun d i => d.reduce i k) d cnt = ok d' ∧ d'.Book ∧ d'.det = d.det ∧ d'.step = d.step ∧
      d'.tr.m = d.tr.m ∧ d'.tr.n = d.tr.n ∧
      (∀ a < d.tr.m, ∀ b < d.tr.m, (a ≠ k ∨ cnt ≤ b) → ent d'.lam a b = ent d.lam a b) ∧
      (∀ b < cnt, 2 * |ent d'.lam k b| ≤ d.dv b) := by
  intro cnt
  induction cnt with
  | zero =>
    intro d hB _ _
    exact ⟨d, rfl, hB, rfl, rfl, rfl, rfl, fun _ _ _ _ _ => rfl, fun b hb => absurd hb (Nat.not_lt_zero b)⟩
  | succ cnt ih =>
    intro d hB hc hk
    obtain ⟨d1, h1, hB1, e1, s1, m1, n1, l1, r1⟩ := Data.reduce_ok d hB cnt k (by omega) hk
    obtain ⟨d2, h2, hB2, e2, s2, m2, n2, l2, r2⟩ := ih d1 hB1 (by omega) (by omega)
    refine ⟨d2, ?_, hB2, e2.trans e1, s2.trans s1, m2.trans m1, n2.trans n1, ?_, ?_⟩
    · show (d.reduce cnt k >>= fun d' => revLoop (fun d i => d.reduce i k) d' cnt) = ok d2
      rw [h1]; exact h2
    · intro a ha b hb hab
      rw [l2 a (m1 ▸ ha) b (m1 ▸ hb) (hab.imp_right Nat.le_of_succ_le), l1 a ha b hb hab]
    · intro b hb
      have dv1 : ∀ j, d1.dv j = d.dv j := fun j => by unfold Data.dv; rw [e1]
      rcases Nat.lt_or_ge b cnt with hlt | hge
      · rw [← dv1]; exact r2 b hlt
      · have hbc : b = cnt := by omega
        subst hbc
        rw [l2 k (m1 ▸ hk) b (m1 ▸ lt_of_lt_of_le hb (le_trans hc (le_of_lt hk))) (Or.inr (le_refl _))]
        exact r1

/-- `∏_{i<m} det[i]` — the product of the Gram determinants `d_1 … d_m` (the classical LLL potential times the
constant `d_m`) -/
def Data.pot (d : Data) : Nat := ∏ i ∈ range d.tr.m, (d.dv i).toNat

/-- `swapBound p` = the least `s` with `(3/4)^s·p < 1` (rounding down at every step), about `log_{4/3} p`: an upper
bound for the number of times a positive integer `≤ p` can be replaced by one that is `< 3/4` of it -/
def swapBound : Nat → Nat
  | 0 => 0
  | p + 1 => 1 + swapBound (3 * (p + 1) / 4)
decreasing_by omega

theorem swapBound_mono : ∀ (q p : Nat), p ≤ q → swapBound p ≤ swapBound q := by
  intro q
  induction q using Nat.strong_induction_on with
  | _ q ih =>
    intro p hpq
    cases p with
    | zero => rw [swapBound]; exact Nat.zero_le _
    | succ p =>
      obtain ⟨q', rfl⟩ : ∃ q', q = q' + 1 := ⟨q - 1, by omega⟩
      rw [swapBound, swapBound]
      have := ih (3 * (q' + 1) / 4) (by omega) (3 * (p + 1) / 4) (by omega)
      omega

theorem swapBound_lt {p' p : Nat} (h : 4 * p' < 3 * p) : swapBound p' + 1 ≤ swapBound p := by
  obtain ⟨p0, rfl⟩ : ∃ p0, p = p0 + 1 := ⟨p - 1, by omega⟩
  rw [swapBound]
  have := swapBound_mono (3 * (p0 + 1) / 4) p' (by omega)
  omega

theorem swapBound_le_succ (x : Nat) : swapBound x ≤ 1 + swapBound (3 * x / 4) := by
  cases x with
  | zero => simp [swapBound]
  | succ p => rw [swapBound]

theorem swapBound_le_log : ∀ p : Nat, swapBound p ≤ 3 * Nat.log 2 p + 2 := by
  intro p
  induction p using Nat.strong_induction_on with
  | _ p ih =>
    rcases Nat.lt_or_ge p 2 with hlt | hge
    · have h1 := swapBound_le_succ p
      have h2 := swapBound_mono 0 (3 * p / 4) (by omega)
      have h3 : swapBound 0 = 0 := by rw [swapBound]
      omega
    · have h1 := swapBound_le_succ p
      have h2 := swapBound_le_succ (3 * p / 4)
      have h3 := swapBound_le_succ (3 * (3 * p / 4) / 4)
      have h4 := swapBound_mono (p / 2) (3 * (3 * (3 * p / 4) / 4) / 4) (by omega)
      have h5 := ih (p / 2) (by omega)
      have h6 : Nat.log 2 p = Nat.log 2 (p / 2) + 1 := Nat.log_of_one_lt_of_le (by omega) hge
      omega

/-- the termination measure of the main loop: the lexicographic pair `(pot, m − step)` packed into one number, using
that `pot` shrinks by the factor `3/4` whenever it changes: `2·swapBound(pot) + (m − step)` -/
def lllMeasure (d : Data) : Nat := 2 * swapBound d.pot + (d.tr.m - d.step)

theorem Data.Book.pot_pos {d : Data} (hB : d.Book) : 0 < d.pot := by
  unfold Data.pot
  apply Finset.prod_pos
  intro i hi
  have := Data.BookOf.dv_pos hB (mem_range.mp hi)
  omega

theorem Data.pot_congr (d d' : Data) (hm : d'.tr.m = d.tr.m) (hdet : d'.det = d.det) : d'.pot = d.pot := by
  unfold Data.pot Data.dv
  rw [hm, hdet]

theorem tdiv_lt_three_quarters {X D : Int} (hD : 0 < D) (hX : 0 ≤ X) (h : 4 * X < 3 * (D * D)) :
    4 * X.tdiv D < 3 * D := by
  rw [Int.tdiv_eq_ediv_of_nonneg hX]
  have a1 := Int.ediv_mul_le X (ne_of_gt hD)
  by_contra hcon
  have a3 := mul_le_mul_of_nonneg_right (not_lt.mp hcon) (le_of_lt hD)
  linarith

theorem swap_pot_lt (d1 d2 : Data) (k : Nat) (hk0 : 0 < k) (hk : k < d1.tr.m)
    (hpos : ∀ i < d1.tr.m, 0 < d1.dv i) (r2 : d1.swap k = ok d2) (hL : ¬ d1.Lov k) : 4 * d2.pot < 3 * d1.pot := by
  have hpos1 := hpos (k - 1) (by omega)
  obtain ⟨_, _, _, _, _, S⟩ := Data.swap_spec r2
  have hdp : 0 < d1.dprev k := by
    unfold Data.dprev
    split
    · exact hpos (k - 2) (by omega)
    · exact one_pos
  have hX0 : 0 ≤ d1.dprev k * d1.dv k + ent d1.lam k (k - 1) * ent d1.lam k (k - 1) :=
    add_nonneg (le_of_lt (mul_pos hdp (hpos k hk))) (mul_self_nonneg _)
  have hlt : 4 * d2.dv (k - 1) < 3 * d1.dv (k - 1) := by
    rw [S.dv, if_pos rfl]
    exact tdiv_lt_three_quarters hpos1 hX0 (not_le.mp hL)
  have hmem : k - 1 ∈ range d1.tr.m := mem_range.mpr (by omega)
  have hrest : ∏ x ∈ (range d1.tr.m).erase (k - 1), (d2.dv x).toNat
      = ∏ x ∈ (range d1.tr.m).erase (k - 1), (d1.dv x).toNat :=
    Finset.prod_congr rfl (fun i hi => by rw [S.dv, if_neg (Finset.ne_of_mem_erase hi)])
  have hRpos : 0 < ∏ x ∈ (range d1.tr.m).erase (k - 1), (d1.dv x).toNat := by
    apply Finset.prod_pos
    intro i hi
    have := hpos i (mem_range.mp (Finset.mem_of_mem_erase hi))
    omega
  unfold Data.pot
  rw [S.tr.m, ← Finset.mul_prod_erase _ _ hmem, ← Finset.mul_prod_erase _ _ hmem, hrest, ← mul_assoc, ← mul_assoc]
  exact Nat.mul_lt_mul_of_pos_right (by omega) hRpos

def Data.RowRed (d : Data) (i : Nat) : Prop :=
  (∀ j < i, 2 * |ent d.lam i j| ≤ d.dv j) ∧ (0 < i → d.Lov i)

/-- the loop invariant on the integer data: rows `< step` are size-reduced and Lovász-ordered (α = 3/4) -/
structure Data.Red (d : Data) : Prop where
  size : ∀ i < d.step, ∀ j < i, 2 * |ent d.lam i j| ≤ d.dv j
  lov : ∀ k, 0 < k → k < d.step →
    3 * (d.dv (k - 1) * d.dv (k - 1)) ≤ 4 * (d.dprev k * d.dv k + ent d.lam k (k - 1) * ent d.lam k (k - 1))

theorem Data.red_iff (d : Data) : d.Red ↔ ∀ i < d.step, d.RowRed i :=
  ⟨fun h i hi => ⟨h.size i hi, fun h0 => h.lov i h0 hi⟩,
    fun h => ⟨fun i hi => (h i hi).1, fun k h0 hk => (h k hk).2 h0⟩⟩

theorem Data.Lov.congr {d d' : Data} {k : Nat} (h : d.Lov k) (hdet : ∀ j ≤ k, d'.dv j = d.dv j)
    (hlam : ent d'.lam k (k - 1) = ent d.lam k (k - 1)) : d'.Lov k := by
  have hp : d'.dprev k = d.dprev k := by
    unfold Data.dprev
    split
    · exact hdet (k - 2) (by omega)
    · rfl
  unfold Data.Lov
  rw [hdet (k - 1) (by omega), hdet k (le_refl k), hp, hlam]
  exact h

theorem Data.RowRed.congr {d d' : Data} {i : Nat} (h : d.RowRed i) (hdet : ∀ j ≤ i, d'.dv j = d.dv j)
    (hlam : ∀ j < i, ent d'.lam i j = ent d.lam i j) : d'.RowRed i :=
  ⟨fun j hj => by rw [hlam j hj, hdet j (by omega)]; exact h.1 j hj,
    fun h0 => (h.2 h0).congr hdet (hlam (i - 1) (by omega))⟩

theorem Data.back_step (d : Data) : d.back.step = if d.step > 1 then d.step - 1 else d.step := by
  unfold Data.back; split <;> rfl

theorem Data.back_det (d : Data) : d.back.det = d.det := by unfold Data.back; split <;> rfl
theorem Data.back_lam (d : Data) : d.back.lam = d.lam := by unfold Data.back; split <;> rfl

theorem Data.Red.init (d : Data) (h : d.step = 1) : d.Red := by
  constructor
  · intro i hi j hj; omega
  · intro k hk0 hk; omega

theorem lllIterate_spec (d : Data) (hB : d.Book) (h1 : 1 ≤ d.step) (h2 : d.step < d.tr.m) :
    ∃ d', lllIterate d = ok d' ∧ d'.Book ∧ d'.tr.m = d.tr.m ∧ d'.tr.n = d.tr.n ∧
      ((d'.pot = d.pot ∧ d'.step = d.step + 1) ∨
       (4 * d'.pot < 3 * d.pot ∧ d'.step = max (d.step - 1) 1)) ∧
      (d.Red → d'.Red) := by
  obtain ⟨d1, r1, hB1, e1, s1, m1, n1, l1, z1⟩ := Data.reduce_ok d hB (d.step - 1) d.step (by omega) h2
  have hk1 : d.step < d1.tr.m := by omega
  have dv1 : ∀ j, d1.dv j = d.dv j := fun j => by unfold Data.dv; rw [e1]
  obtain ⟨b, rb, hb⟩ := Data.lovaszOk_eq d1 d.step h1 hk1 hB1.1
  rw [lllIterate_eq]
  by_cases hL : d1.Lov d.step
  · -- Lovász test passed: size-reduce the rest of row `k`, `next`
    obtain rfl : b = true := hb.mpr hL
    obtain ⟨d2, r2, hB2, e2, s2, m2, n2, l2, z2⟩ := revLoop_reduce_ok d.step (d.step - 1) d1 hB1 (by omega) hk1
    have dv2 : ∀ j, d2.dv j = d.dv j := fun j => by unfold Data.dv; rw [e2, e1]
    have hs2 : d2.next.step = d.step + 1 := by show d2.step + 1 = _; rw [s2, s1]
    have hlast : ent d2.lam d.step (d.step - 1) = ent d1.lam d.step (d.step - 1) :=
      l2 _ (by omega) _ (by omega) (Or.inr (le_refl _))
    have hnew : d2.RowRed d.step := by
      refine ⟨fun j hj => ?_, fun _ => hL.congr (fun j _ => (dv2 j).trans (dv1 j).symm) hlast⟩
      rw [dv2]
      rcases Nat.lt_or_ge j (d.step - 1) with hj1 | hj1
      · rw [← dv1]; exact z2 j hj1
      · obtain rfl : j = d.step - 1 := by omega
        rw [hlast]; exact z1
    refine ⟨d2.next, iterateWith_advance r1 rb r2, hB2, m2.trans m1, n2.trans n1,
      Or.inl ⟨Data.pot_congr d d2 (m2.trans m1) (e2.trans e1), hs2⟩, fun hR => ?_⟩
    rw [Data.red_iff] at hR ⊢
    intro i hi
    rw [hs2] at hi
    clear hs2
    rcases Nat.lt_or_ge i d.step with hlt | hge
    · refine (hR i hlt).congr (fun j _ => dv2 j) (fun j hj => ?_)
      have him : i < d.tr.m := lt_trans hlt h2
      have hjm : j < d.tr.m := lt_trans hj him
      show ent d2.lam i j = _
      rw [l2 i (m1 ▸ him) j (m1 ▸ hjm) (Or.inl (ne_of_lt hlt)), l1 i him j hjm (Or.inl (ne_of_lt hlt))]
    · obtain rfl : i = d.step := by omega
      exact hnew
  · -- Lovász test failed: swap rows `k-1`, `k`, `back`
    obtain rfl : b = false := by
      cases b
      · rfl
      · exact absurd (hb.mp rfl) hL
    obtain ⟨d2, r2⟩ := Data.swap_isOk d1 h1 hk1 (by rw [hB1.1]; exact hk1) (ne_of_gt (Data.BookOf.dv_pos hB1 (by omega)))
    obtain ⟨_, _, _, _, _, S⟩ := Data.swap_spec r2
    have hs2 : d2.back.step = max (d.step - 1) 1 := by
      rw [Data.back_step, S.step, s1]
      split <;> omega
    have hRed : d.Red → d2.back.Red := fun hR => by
      by_cases hk : d.step > 1
      · rw [Data.red_iff] at hR ⊢
        intro i hi
        rw [hs2] at hi
        clear hs2
        have hi' : i < d.step - 1 := by omega
        have his : i < d.step := lt_of_lt_of_le hi' (Nat.sub_le _ _)
        refine (hR i his).congr (fun j hj => ?_) (fun j hj => ?_)
        · show d2.back.det.getD j 0 = _
          rw [Data.back_det]
          show d2.dv j = _
          rw [S.dv, if_neg (ne_of_lt (lt_of_le_of_lt hj hi')), dv1]
        · rw [Data.back_lam, S.lam_lt hi' (lt_trans hj (lt_trans his hk1)) hk1,
            l1 i (lt_trans his h2) j (lt_trans hj (lt_trans his h2)) (Or.inl (ne_of_lt his))]
      · exact Data.Red.init _ (by rw [hs2]; omega)
    have hpot : 4 * d2.back.pot < 3 * d.pot := by
      rw [Data.pot_congr d2 d2.back (by rw [Data.back_tr]) (Data.back_det d2), ← Data.pot_congr d d1 m1 e1]
      exact swap_pot_lt d1 d2 d.step h1 hk1 (fun i hi => Data.BookOf.dv_pos hB1 hi) r2 hL
    refine ⟨d2.back, iterateWith_swap r1 rb r2, Data.back_book d2 (Data.swap_book d1 d2 _ r2 hB1), ?_, ?_,
      Or.inr ⟨hpot, hs2⟩, hRed⟩
    · rw [Data.back_tr]; exact S.tr.m.trans m1
    · rw [Data.back_tr]; exact S.tr.n.trans n1

theorem lllMeasure_lt {d d' : Data} (hm : d'.tr.m = d.tr.m) (h2 : d.step < d.tr.m)
    (h : (d'.pot = d.pot ∧ d'.step = d.step + 1) ∨
         (4 * d'.pot < 3 * d.pot ∧ d'.step = max (d.step - 1) 1)) :
    lllMeasure d' < lllMeasure d := by
  unfold lllMeasure
  rw [hm]
  rcases h with ⟨e1, e2⟩ | ⟨e1, e2⟩
  · rw [e1, e2]; omega
  · have := swapBound_lt e1
    omega

/-- what the loop needs of one iteration: `lllIterate_spec` with the bounds on `step` and the decrease of the measure, both
read off its two cases (here, where the context is small) -/
theorem lllIterate_step (d : Data) (hB : d.Book) (h1 : 1 ≤ d.step) (h2 : d.step < d.tr.m) :
    ∃ d', lllIterate d = ok d' ∧ d'.Book ∧ d'.tr.m = d.tr.m ∧ d'.tr.n = d.tr.n ∧ 1 ≤ d'.step ∧ d'.step ≤ d'.tr.m ∧
      ((d'.pot = d.pot ∧ d'.step = d.step + 1) ∨
       (4 * d'.pot < 3 * d.pot ∧ d'.pot < d.pot ∧ d'.step = max (d.step - 1) 1)) ∧
      lllMeasure d' < lllMeasure d ∧ (d.Red → d'.Red) := by
  obtain ⟨d', r, hB', m', n', hmeas, hR⟩ := lllIterate_spec d hB h1 h2
  refine ⟨d', r, hB', m', n', ?_, ?_, hmeas.imp id (fun ⟨e1, e2⟩ => ⟨e1, by omega, e2⟩), lllMeasure_lt m' h2 hmeas, hR⟩
  · rcases hmeas with ⟨_, e⟩ | ⟨_, e⟩ <;> omega
  · rw [m']
    rcases hmeas with ⟨_, e⟩ | ⟨_, e⟩ <;> omega

section
variable {it : Data → Res Data} {I Q : Data → Prop} {d : Data}

theorem loopWhile_conv_exit (h : ¬ d.step < d.tr.m) (hq : Q d) : Conv (fun fuel => loopWhile it fuel d) 0 Q :=
  ⟨0, d, Nat.le_refl 0, hq, fun fuel => by
    cases fuel <;> simp only [loopWhile, if_neg h, pure_eq, Nat.not_lt_zero, if_false]⟩

theorem loopWhile_conv_step {d1 : Data} {B : Nat} (h : d.step < d.tr.m) (h1 : it d = ok d1)
    (hc : Conv (fun fuel => loopWhile it fuel d1) B Q) : Conv (fun fuel => loopWhile it fuel d) (B + 1) Q :=
  Conv.succ (by simp only [loopWhile, if_pos h]) (fun fuel => by simp only [loopWhile, if_pos h, h1, bind_ok]) hc

theorem loopWhile_conv (μ : Data → Nat)
    (hit : ∀ d, I d → d.step < d.tr.m → ∃ d', it d = ok d' ∧ I d' ∧ μ d' < μ d) (d : Data) (hI : I d) :
    Conv (fun fuel => loopWhile it fuel d) (μ d) (fun d' => I d' ∧ ¬ d'.step < d'.tr.m) := by
  induction h : μ d using Nat.strong_induction_on generalizing d with
  | _ x ih =>
    by_cases hlt : d.step < d.tr.m
    · obtain ⟨d1, r1, hI1, hdec⟩ := hit d hI hlt
      exact (loopWhile_conv_step hlt r1 (ih (μ d1) (h ▸ hdec) d1 hI1 rfl)).imp (by omega) (fun _ => id)
    · exact (loopWhile_conv_exit hlt ⟨hI, hlt⟩).imp (Nat.zero_le _) (fun _ => id)

theorem loopWhile_conv_wf {α : Type} [Preorder α] [WellFoundedLT α] (μ : Data → α)
    (hit : ∀ d, I d → d.step < d.tr.m → ∃ d', it d = ok d' ∧ I d' ∧ μ d' < μ d) (d : Data) (hI : I d) :
    ∃ B, Conv (fun fuel => loopWhile it fuel d) B (fun d' => I d' ∧ ¬ d'.step < d'.tr.m) := by
  generalize hx : μ d = x
  induction x using WellFoundedLT.induction generalizing d with
  | _ x ih =>
    by_cases hlt : d.step < d.tr.m
    · obtain ⟨d1, r1, hI1, hdec⟩ := hit d hI hlt
      obtain ⟨B, hc⟩ := ih _ (hx ▸ hdec) d1 hI1 rfl
      exact ⟨B + 1, loopWhile_conv_step hlt r1 hc⟩
    · exact ⟨0, loopWhile_conv_exit hlt ⟨hI, hlt⟩⟩

end

theorem loopWhile_lll_conv (d : Data) (hB : d.Book) (h1 : 1 ≤ d.step) (h2 : d.step ≤ d.tr.m) :
    Conv (fun fuel => loopWhile lllIterate fuel d) (lllMeasure d)
      (fun d' => d'.Book ∧ d'.step = d'.tr.m ∧ d'.tr.m = d.tr.m ∧ d'.tr.n = d.tr.n ∧ (d.Red → d'.Red)) := by
  refine (loopWhile_conv
    (I := fun x => x.Book ∧ 1 ≤ x.step ∧ x.step ≤ x.tr.m ∧ x.tr.m = d.tr.m ∧ x.tr.n = d.tr.n ∧ (d.Red → x.Red))
    lllMeasure (fun x ⟨hBx, x1, _, mx, nx, hRx⟩ hlt => ?_) d ⟨hB, h1, h2, rfl, rfl, id⟩).imp (Nat.le_refl _)
    (fun d' ⟨⟨hB', _, s2, m', n', hR⟩, hex⟩ => ⟨hB', by omega, m', n', hR⟩)
  obtain ⟨x', r, hB', m', n', s1, s2, _, hdec, hR'⟩ := lllIterate_step x hBx x1 hlt
  exact ⟨x', r, ⟨hB', s1, s2, m'.trans mx, n'.trans nx, fun h => hR' (hRx h)⟩, hdec⟩

theorem loopWhile_le (it : Data → Res Data) : ∀ (fuel fuel' : Nat) (d : Data), fuel ≤ fuel' →
    Le False (fuel < fuel') (loopWhile it fuel d) (loopWhile it fuel' d)
  | 0, 0, _, _ => .rfl
  | 0, fuel' + 1, d, _ => by
    unfold loopWhile
    split
    · exact .err (Nat.succ_pos _)
    · exact .rfl
  | fuel + 1, 0, _, h => absurd h (Nat.not_succ_le_zero _)
  | fuel + 1, fuel' + 1, d, h => by
    unfold loopWhile
    exact .ite (.bind .rfl fun d' => (loopWhile_le it fuel fuel' d' (by omega)).imp id (by omega)) .rfl

/-- the explicit fuel bound: the measure of the state after `setup()`, i.e.
`2·swapBound(∏_{i<m} d_{i+1}) + (m−1)` with `d_k` the Gram determinant of the first `k` rows of `A`
(`swapBound p ≈ log_{4/3} p`, so the bound is polynomial in the size of the input) -/
def lllBound (m n : Nat) (A : Mat) : Nat :=
  match (Data.new m n A).setup with
  | ok d => lllMeasure d
  | _ => 0

theorem lll_conv (m n : Nat) (A : Mat) (hm : 0 < m) (hI : RowsIndep m n (ent A)) :
    Conv (fun fuel => lll fuel m n A) (lllBound m n A)
      (fun d => d.Book ∧ d.Red ∧ d.step = m ∧ d.tr.m = m ∧ d.tr.n = n) := by
  obtain ⟨d0, h0, t0, s0, hB0⟩ := Data.setup_book (Data.new m n A) hm hI.init
  have hs : d0.step = 1 := s0
  have hm0 : d0.tr.m = m := by rw [t0]; rfl
  have hn0 : d0.tr.n = n := by rw [t0]; rfl
  have hb : lllBound m n A = lllMeasure d0 := by unfold lllBound; rw [h0]
  rw [hb]
  refine Conv.of_eq (fun fuel => by unfold lll; rw [h0]) ?_
  exact (loopWhile_lll_conv d0 hB0 (by omega) (by omega)).imp (le_refl _)
    (fun d ⟨hB, s, m1, n1, hR⟩ => ⟨hB, hR (Data.Red.init d0 hs), by rw [s, m1, hm0], m1.trans hm0, n1.trans hn0⟩)

theorem Data.Red.reduced {d : Data} (hB : d.Book) (hR : d.Red) (hs : d.step = d.tr.m) :
    IsLLLReduced d.tr.m d.tr.n (ent d.tr.target) (3 / 4) := by
  obtain ⟨hsz, bs, mu, hD⟩ := hB
  exact ⟨bs, mu, hD.gs, fun i hi j hj => hD.mu_le_half hi hj (hR.size i (by omega) j hj),
    fun k hk0 hk => (hD.lov_iff hk0 hk).mp (hR.lov k hk0 (by omega))⟩

theorem lllBound_eq (m n : Nat) (A : Mat) (hm : 0 < m) (hI : RowsIndep m n (ent A)) :
    lllBound m n A = 2 * swapBound (∏ k ∈ range m, ((gsGz n (k + 1) (ent A)).det).toNat) + (m - 1) := by
  obtain ⟨d0, h0, t0, s0, hB0⟩ := Data.setup_book (Data.new m n A) hm hI.init
  have hs : d0.step = 1 := s0
  have hm0 : d0.tr.m = m := by rw [t0]; rfl
  have hn0 : d0.tr.n = n := by rw [t0]; rfl
  unfold lllBound
  rw [h0]
  show 2 * swapBound d0.pot + (d0.tr.m - d0.step) = _
  rw [hs, hm0]
  have hpot : d0.pot = ∏ k ∈ range m, ((gsGz n (k + 1) (ent A)).det).toNat := ?_
  · rw [hpot]
  unfold Data.pot
  rw [hm0]
  refine Finset.prod_congr rfl (fun k hk => ?_)
  have hk' := mem_range.mp hk
  obtain ⟨_, bs, mu, hD⟩ := hB0
  rw [hm0, hn0] at hD
  have e1 := hD.det_eq k hk'
  have e2 := hD.gs.gram_det_cast (N := k + 1) (by omega)
  have e3 : gsGz n (k + 1) (ent d0.tr.target) = gsGz n (k + 1) (ent A) := by
    unfold gsGz gsBz
    have : (fun (l : Fin (k + 1)) (c : Fin n) => ent d0.tr.target l.val c.val)
        = fun (l : Fin (k + 1)) (c : Fin n) => ent A l.val c.val := by
      funext l c
      rw [t0]
      show ent (mkMat m n (ent A)) l.val c.val = _
      rw [ent_mkMat _ (by omega) c.isLt]
    rw [this]
  rw [e3] at e2
  have : d0.dv k = (gsGz n (k + 1) (ent A)).det := by
    have := e1.trans e2.symm
    exact_mod_cast this
  rw [this]

end Yuiv.C10
