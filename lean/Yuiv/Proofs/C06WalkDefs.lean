import Yuiv.Model.C06Canon
import Yuiv.Model.C18
import Yuiv.Proofs.KhRefCircles
/-
C06Walk — definitions for the SPECIFICATION OF THE WALK MODEL `C06Canon.componentsOf` (`Link::components`,
`Link::seifert_circles` at the level of the cube reference's links).

  * `toC18 L ts`     : the link of the C18 code model with the labels of `L` and the crossing types `ts` (the walk model
                       takes the types separately: `components` = own types, `seifert_circles` = `resolvedTypes`);
  * `convPath`       : C18's `Path` ↦ C06Canon's `Path`;
  * `passPairs L ts` : the pairs (label at slot `j`, label at slot `ts[i].pass j`) — two ends of a strand through a
                       crossing; for resolved types these are the arcs of the state;
  * `WalkSpec L P paths` : what the walk returns, in terms of the equivalence `C04Inv.Conn P`.
-/
namespace Yuiv.C06Walk
open Yuiv Yuiv.KhRef Yuiv.C06Canon

/-- inverse of `C18Bridge.ctKh` -/
def ctC18 : CT → C18.CType
  | .X => .X
  | .Xm => .Xm
  | .V => .V
  | .H => .H

/-- the C18 link with the labels of `L` and the types `ts` -/
def toC18 (L : Link) (ts : Array CT) : C18.Link :=
  (List.range L.size).map (fun i => ⟨ctC18 ts[i]!, L[i]!.e[0]!, L[i]!.e[1]!, L[i]!.e[2]!, L[i]!.e[3]!⟩)

def convPath (p : C18.Path) : Path := ⟨p.edges, p.closed⟩

/-- the two ends of every strand through a crossing: slot `j` and slot `ts[i].pass j` -/
def passPairs (L : Link) (ts : Array CT) : List (Nat × Nat) :=
  (List.range L.size).flatMap (fun i => (List.range 4).map (fun j => (L[i]!.e[j]!, L[i]!.e[ts[i]!.pass j]!)))

/-- consecutive entries (cyclically) of `es` are related by `R` -/
def CyclicChain (R : Nat → Nat → Prop) (es : List Nat) : Prop :=
  ∀ k, k < es.length → R (es.getD k 0) (es.getD ((k + 1) % es.length) 0)

/-- the walk's result: closed non-empty paths, every label of the diagram on exactly one path exactly once, every path
is one class of `Conn P`, and runs cyclically along the pairs of `P` -/
structure WalkSpec (L : Link) (P : List (Nat × Nat)) (paths : List Path) : Prop where
  cover : ∀ e, e ∈ edgeLabels L ↔ ∃ p ∈ paths, e ∈ p.edges
  nodup : (paths.flatMap (·.edges)).Nodup
  closed : ∀ p ∈ paths, p.closed = true ∧ p.edges ≠ []
  cls : ∀ p ∈ paths, ∀ e ∈ p.edges, ∀ e', C04Inv.Conn P e e' ↔ e' ∈ p.edges
  cyc : ∀ p ∈ paths, CyclicChain (fun a b => (a, b) ∈ P) p.edges

end Yuiv.C06Walk
