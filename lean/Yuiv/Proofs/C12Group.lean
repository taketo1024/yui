import Yuiv.Proofs.C12UF
import Mathlib.Tactic.Common
import Mathlib.Data.List.Nodup

/-
C12 — `group_cols` (decomp.rs): the union loop represents the closure of "intersecting columns" whatever the order of its
bodies, and the result is the partition of the non-empty columns into the classes of "share a stored row index".
-/
namespace Yuiv.C12
open Yuiv Relation UF

variable {α : Type} [Scal α]

theorem UF.Rep.add_related {u : UF} {n : Nat} {R : Nat → Nat → Prop} (h : Rep u n R) (i j : Nat)
    (hij : EqvGen R i j) : Rep u n (fun a b => R a b ∨ (a = i ∧ b = j)) := by
  refine h.congr_eqv fun x y => ⟨EqvGen.mono (fun _ _ => Or.inl) x y, eqvGen_lift (EqvGen.is_equivalence R) ?_⟩
  rintro a b (hab | ⟨rfl, rfl⟩)
  · exact EqvGen.rel _ _ hab
  · exact hij

omit [Scal α] in
/-- `union` is skipped only when the pair is already related, so the relation gains every intersecting pair -/
theorem unionLoop_cons (A : SpMat α) (cols : Array Nat) {u : UF} {n : Nat} {R : Nat → Nat → Prop} (h : Rep u n R)
    (e : Nat × Nat) (hi : e.1 < n) (hj : e.2 < n) :
    ∃ u1, (∀ rest, unionLoop A cols u (e :: rest) = unionLoop A cols u1 rest) ∧
      Rep u1 n (fun a b => R a b ∨ (a = e.1 ∧ b = e.2 ∧
        intersects (rowIdx A (cols.getD a 0)) (rowIdx A (cols.getD b 0)) = true)) := by
  obtain ⟨same, hsame, hiff⟩ := h.isSame_iff e.1 e.2 hi hj
  by_cases hint : intersects (rowIdx A (cols.getD e.1 0)) (rowIdx A (cols.getD e.2 0)) = true
  · have hadd : ∃ u1, (∀ rest, unionLoop A cols u (e :: rest) = unionLoop A cols u1 rest) ∧
        Rep u1 n (fun a b => R a b ∨ (a = e.1 ∧ b = e.2)) := by
      cases same with
      | true => exact ⟨u, fun rest => by rw [unionLoop, hsame]; rfl, h.add_related e.1 e.2 (hiff.1 rfl)⟩
      | false =>
        obtain ⟨u1, h1, hr1⟩ := union_rep h e.1 e.2 hi hj
        exact ⟨u1, fun rest => by rw [unionLoop, hsame, hint, h1]; rfl, hr1⟩
    obtain ⟨u1, h1, hr1⟩ := hadd
    refine ⟨u1, h1, hr1.congr fun a b => or_congr_right ⟨?_, fun hab => ⟨hab.1, hab.2.1⟩⟩⟩
    rintro ⟨rfl, rfl⟩
    exact ⟨rfl, rfl, hint⟩
  · refine ⟨u, fun rest => by simp only [unionLoop, hsame, Bool.eq_false_iff.2 hint, Bool.and_false, Bool.false_eq_true, if_false],
      h.congr fun a b => ⟨Or.inl, ?_⟩⟩
    rintro (hab | ⟨rfl, rfl, hab⟩)
    · exact hab
    · exact absurd hab hint

omit [Scal α] in
theorem unionLoop_rep (A : SpMat α) (cols : Array Nat) {u : UF} {n : Nat} {R : Nat → Nat → Prop} (h : Rep u n R)
    (pairs : List (Nat × Nat)) (hp : ∀ e ∈ pairs, e.1 < n ∧ e.2 < n) :
    ∃ u', unionLoop A cols u pairs = .ok u' ∧
      Rep u' n (fun a b => R a b ∨ ((a, b) ∈ pairs ∧
        intersects (rowIdx A (cols.getD a 0)) (rowIdx A (cols.getD b 0)) = true)) := by
  induction pairs generalizing u R with
  | nil => exact ⟨u, rfl, h.congr (by simp)⟩
  | cons e es ih =>
    obtain ⟨u1, h1, hr1⟩ := unionLoop_cons A cols h e (hp e (by simp)).1 (hp e (by simp)).2
    obtain ⟨u2, h2, hr2⟩ := ih hr1 (fun e' h' => hp e' (by simp [h']))
    refine ⟨u2, by rw [h1, h2], hr2.congr (fun a b => ?_)⟩
    simp only [List.mem_cons, Prod.ext_iff, or_and_right, or_assoc, and_assoc]

theorem mem_allPairs (l x y : Nat) (hxy : x < y) (hy : y < l) : (x, y) ∈ allPairs l := by
  unfold allPairs
  refine List.mem_flatMap.2 ⟨x, List.mem_range.2 (by omega), List.mem_map.2 ⟨y - (x + 1), List.mem_range.2 (by omega), ?_⟩⟩
  simp only [Prod.mk.injEq, true_and]; omega

theorem lt_of_mem_allPairs (l : Nat) (e : Nat × Nat) (he : e ∈ allPairs l) : e.1 < l ∧ e.2 < l := by
  unfold allPairs at he
  obtain ⟨i, hi, hd⟩ := List.mem_flatMap.1 he
  obtain ⟨d, hd', rfl⟩ := List.mem_map.1 hd
  have := List.mem_range.1 hi
  have := List.mem_range.1 hd'
  constructor <;> simp only <;> omega

/-- the columns `group_cols` works on: those with a stored entry, ascending -/
abbrev nzCols (A : SpMat α) : List Nat := (List.range A.ncols).filter fun j => !(col A j).isEmpty

omit [Scal α] in
theorem groupCols_closure (A : SpMat α) :
    ∃ u, unionLoop A (nzCols A).toArray (UF.new (nzCols A).length) (allPairs (nzCols A).length) = .ok u ∧
      Rep u (nzCols A).length (fun a b => (a, b) ∈ allPairs (nzCols A).length ∧
        intersects (rowIdx A ((nzCols A).toArray.getD a 0)) (rowIdx A ((nzCols A).toArray.getD b 0)) = true) := by
  obtain ⟨u, h1, hr⟩ := unionLoop_rep A (nzCols A).toArray (new_rep (nzCols A).length)
    (allPairs (nzCols A).length) (lt_of_mem_allPairs _)
  exact ⟨u, h1, hr.congr (by simp)⟩

theorem intersects_iff (l1 l2 : List Nat) (h1 : l1.Pairwise (· < ·)) (h2 : l2.Pairwise (· < ·)) :
    intersects l1 l2 = true ↔ ∃ x, x ∈ l1 ∧ x ∈ l2 := by
  fun_induction intersects l1 l2 with
  | case1 l => simp
  | case2 a as => simp
  | case3 a as b bs hab ih =>
    rw [ih (List.Pairwise.of_cons h1) h2]
    have hb : ∀ {x}, x ∈ bs → b < x := fun hx => List.rel_of_pairwise_cons h2 hx
    constructor
    · rintro ⟨x, hx1, hx2⟩; exact ⟨x, List.mem_cons_of_mem _ hx1, hx2⟩
    · rintro ⟨x, hx1, hx2⟩
      rcases List.mem_cons.1 hx1 with rfl | hx1
      · rcases List.mem_cons.1 hx2 with rfl | hx2
        · omega
        · have := hb hx2; omega
      · exact ⟨x, hx1, hx2⟩
  | case4 a as b bs hab heq =>
    have : a = b := by simpa using heq
    subst this
    simp
  | case5 a as b bs hab hne ih =>
    have hne' : a ≠ b := by simpa using hne
    rw [ih h1 (List.Pairwise.of_cons h2)]
    have ha : ∀ {x}, x ∈ as → a < x := fun hx => List.rel_of_pairwise_cons h1 hx
    constructor
    · rintro ⟨x, hx1, hx2⟩; exact ⟨x, hx1, List.mem_cons_of_mem _ hx2⟩
    · rintro ⟨x, hx1, hx2⟩
      rcases List.mem_cons.1 hx2 with rfl | hx2
      · rcases List.mem_cons.1 hx1 with rfl | hx1
        · omega
        · have := ha hx1; omega
      · exact ⟨x, hx1, hx2⟩

section grouping
variable {α : Type} [Scal α]

/-- CSC storage invariant of the input: stored row indices in range and strictly increasing per column -/
structure WFC (A : SpMat α) : Prop where
  rows : ∀ j, ∀ e ∈ col A j, e.1 < A.nrows
  sorted : ∀ j, (rowIdx A j).Pairwise (· < ·)

def Share (A : SpMat α) (a b : Nat) : Prop :=
  a < A.ncols ∧ b < A.ncols ∧ ∃ i, i ∈ rowIdx A a ∧ i ∈ rowIdx A b

/-- what `group_cols` delivers -/
structure Grouping (A : SpMat α) (cols : List (List Nat)) : Prop where
  nodup : cols.flatten.Nodup
  lt : ∀ g ∈ cols, ∀ j ∈ g, j < A.ncols
  ne : ∀ g ∈ cols, g ≠ []
  colne : ∀ g ∈ cols, ∀ j ∈ g, col A j ≠ []
  cover : ∀ j, j < A.ncols → col A j ≠ [] → ∃ g ∈ cols, j ∈ g
  sep : ∀ g ∈ cols, ∀ j ∈ g, ∀ j', Share A j j' → j' ∈ g
  conn : ∀ g ∈ cols, ∀ j ∈ g, ∀ j' ∈ g, EqvGen (Share A) j j'

theorem classesOf_mem (n : Nat) (rt : Nat → Nat) (g : List Nat) (hg : g ∈ classesOf n rt) :
    g ≠ [] ∧ ∃ r, g = (List.range n).filter fun i => rt i == r := by
  unfold classesOf at hg
  obtain ⟨r, _, hr⟩ := List.mem_filterMap.1 hg
  simp only at hr
  split at hr
  · cases hr
  · rename_i hne
    cases hr
    exact ⟨by intro h; rw [h] at hne; exact hne rfl, r, rfl⟩

theorem classesOf_cover (n : Nat) (rt : Nat → Nat) (x : Nat) (hx : x < n) (hr : rt x < n) :
    ((List.range n).filter fun i => rt i == rt x) ∈ classesOf n rt := by
  unfold classesOf
  refine List.mem_filterMap.2 ⟨rt x, List.mem_range.2 hr, ?_⟩
  simp only
  rw [if_neg]
  intro h
  have : x ∈ (List.range n).filter fun i => rt i == rt x :=
    List.mem_filter.2 ⟨List.mem_range.2 hx, by simp⟩
  rw [List.isEmpty_iff.1 h] at this
  cases this

theorem classesOf_nodup (n : Nat) (rt : Nat → Nat) : (classesOf n rt).flatten.Nodup := by
  rw [List.nodup_flatten]
  constructor
  · intro g hg
    obtain ⟨_, r, rfl⟩ := classesOf_mem n rt g hg
    exact List.Nodup.filter _ List.nodup_range
  · unfold classesOf
    rw [List.pairwise_filterMap]
    refine List.Pairwise.imp ?_ (List.nodup_range (n := n))
    intro a b hab g hg g' hg'
    simp only at hg hg'
    split at hg
    · cases hg
    · split at hg'
      · cases hg'
      · cases hg; cases hg'
        intro x hx hx'
        have h1 := (List.mem_filter.1 hx).2
        have h2 := (List.mem_filter.1 hx').2
        simp only [beq_iff_eq] at h1 h2
        exact hab (h1.symm.trans h2)

set_option linter.unusedSectionVars false in
theorem nz_getD (A : SpMat α) (x : Nat)
    (hx : x < ((List.range A.ncols).filter fun j => !(col A j).isEmpty).length) :
    ((List.range A.ncols).filter fun j => !(col A j).isEmpty).toArray.getD x 0 =
      ((List.range A.ncols).filter fun j => !(col A j).isEmpty)[x] := by
  simp [hx]

omit [Scal α] in
theorem mem_nzCols (A : SpMat α) (j : Nat) : j ∈ nzCols A ↔ j < A.ncols ∧ col A j ≠ [] := by
  simp [List.mem_filter]

omit [Scal α] in
theorem groupCols_eq (A : SpMat α) :
    ∃ rt : Nat → Nat, (∀ x, x < (nzCols A).length → rt x < (nzCols A).length) ∧
      (∀ x y, x < (nzCols A).length → y < (nzCols A).length →
        (rt x = rt y ↔ EqvGen (fun a b => (a, b) ∈ allPairs (nzCols A).length ∧
          intersects (rowIdx A ((nzCols A).toArray.getD a 0)) (rowIdx A ((nzCols A).toArray.getD b 0)) = true) x y)) ∧
      groupCols A = .ok ((classesOf (nzCols A).length rt).map fun g => g.map fun i => (nzCols A).toArray.getD i 0) := by
  obtain ⟨u, hu, hrep⟩ := groupCols_closure A
  obtain ⟨rt, hrt, hgrp⟩ := hrep.group_eq
  refine ⟨rt, fun x hx => (hrep.root_min x hx _ (hrt x hx).2).1,
    fun x y hx hy => hrep.rel x y hx hy _ _ (hrt x hx).2 (hrt y hy).2, ?_⟩
  unfold groupCols groupColsWith
  by_cases h0 : (nzCols A).length = 0
  · simp only [h0, beq_self_eq_true, if_true, classesOf, List.range_zero, List.filterMap_nil, List.map_nil]
  · simp only [beq_iff_eq, h0, if_false, hu, hgrp]

omit [Scal α] in
theorem classes_grouping (A : SpMat α) (hA : WFC A) (nz : List Nat) (hnd : nz.Nodup)
    (hmem : ∀ j, j ∈ nz ↔ j < A.ncols ∧ col A j ≠ []) (rt : Nat → Nat)
    (hrtlt : ∀ x, x < nz.length → rt x < nz.length)
    (hrel : ∀ x y, x < nz.length → y < nz.length →
      (rt x = rt y ↔ EqvGen (fun a b => (a, b) ∈ allPairs nz.length ∧
        intersects (rowIdx A (nz.toArray.getD a 0)) (rowIdx A (nz.toArray.getD b 0)) = true) x y)) :
    Grouping A ((classesOf nz.length rt).map fun g => g.map fun i => nz.toArray.getD i 0) := by
  have hget : ∀ x (hx : x < nz.length), nz.toArray.getD x 0 = nz[x] := fun x hx => by
    rw [Array.getD_eq_getD_getElem?, List.getElem?_toArray, List.getElem?_eq_getElem hx, Option.getD_some]
  have hf : ∀ x, x < nz.length → nz.toArray.getD x 0 ∈ nz := fun x hx => hget x hx ▸ List.getElem_mem hx
  have hfinj : ∀ x y, x < nz.length → y < nz.length → nz.toArray.getD x 0 = nz.toArray.getD y 0 → x = y := by
    intro x y hx hy hxy
    rw [hget x hx, hget y hy] at hxy
    exact (List.Nodup.getElem_inj_iff hnd).1 hxy
  have hfsurj : ∀ j, j ∈ nz → ∃ x, x < nz.length ∧ nz.toArray.getD x 0 = j := by
    intro j hj
    obtain ⟨x, hx, rfl⟩ := List.mem_iff_getElem.1 hj
    exact ⟨x, hx, hget x hx⟩
  have hshare : ∀ x y, x < nz.length → y < nz.length →
      (∃ i, i ∈ rowIdx A (nz.toArray.getD x 0) ∧ i ∈ rowIdx A (nz.toArray.getD y 0)) → rt x = rt y := by
    intro x y hx hy hi
    have h1 : intersects (rowIdx A (nz.toArray.getD x 0)) (rowIdx A (nz.toArray.getD y 0)) = true :=
      (intersects_iff _ _ (hA.sorted _) (hA.sorted _)).2 hi
    have h2 : intersects (rowIdx A (nz.toArray.getD y 0)) (rowIdx A (nz.toArray.getD x 0)) = true := by
      obtain ⟨i, a, b⟩ := hi
      exact (intersects_iff _ _ (hA.sorted _) (hA.sorted _)).2 ⟨i, b, a⟩
    rcases Nat.lt_trichotomy x y with hlt | heq | hgt
    · exact (hrel x y hx hy).2 (EqvGen.rel _ _ ⟨mem_allPairs _ _ _ hlt hy, h1⟩)
    · rw [heq]
    · exact (hrel x y hx hy).2 (EqvGen.symm _ _ (EqvGen.rel _ _ ⟨mem_allPairs _ _ _ hgt hx, h2⟩))
  have hcls : ∀ g, g ∈ (classesOf nz.length rt).map (fun lst => lst.map fun i => nz.toArray.getD i 0) →
      ∃ r, g ≠ [] ∧ ∀ j, j ∈ g ↔ ∃ x, x < nz.length ∧ rt x = r ∧ nz.toArray.getD x 0 = j := by
    intro g hg
    obtain ⟨g0, hg0, rfl⟩ := List.mem_map.1 hg
    obtain ⟨hne, r, rfl⟩ := classesOf_mem _ _ _ hg0
    refine ⟨r, fun h => hne (List.map_eq_nil_iff.1 h), fun j => ?_⟩
    simp only [List.mem_map, List.mem_filter, List.mem_range, beq_iff_eq, and_assoc]
  refine ⟨?_, ?_, ?_, ?_, ?_, ?_, ?_⟩
  · rw [← List.map_flatten]
    refine List.Nodup.map_on ?_ (classesOf_nodup _ _)
    intro x hx y hy hxy
    obtain ⟨g, hg, hxg⟩ := List.mem_flatten.1 hx
    obtain ⟨g', hg', hyg⟩ := List.mem_flatten.1 hy
    obtain ⟨_, r, rfl⟩ := classesOf_mem _ _ _ hg
    obtain ⟨_, r', rfl⟩ := classesOf_mem _ _ _ hg'
    exact hfinj x y (List.mem_range.1 (List.mem_filter.1 hxg).1) (List.mem_range.1 (List.mem_filter.1 hyg).1) hxy
  · intro g hg j hj
    obtain ⟨r, _, hm⟩ := hcls g hg
    obtain ⟨x, hx, _, rfl⟩ := (hm j).1 hj
    exact ((hmem _).1 (hf x hx)).1
  · intro g hg
    obtain ⟨r, hne, _⟩ := hcls g hg
    exact hne
  · intro g hg j hj
    obtain ⟨r, _, hm⟩ := hcls g hg
    obtain ⟨x, hx, _, rfl⟩ := (hm j).1 hj
    exact ((hmem _).1 (hf x hx)).2
  · intro j hj hc
    obtain ⟨x, hx, rfl⟩ := hfsurj j ((hmem j).2 ⟨hj, hc⟩)
    refine ⟨_, List.mem_map.2 ⟨_, classesOf_cover _ rt x hx (hrtlt x hx), rfl⟩, ?_⟩
    exact List.mem_map.2 ⟨x, List.mem_filter.2 ⟨List.mem_range.2 hx, beq_self_eq_true _⟩, rfl⟩
  · intro g hg j hj j' hsh
    obtain ⟨r, _, hm⟩ := hcls g hg
    obtain ⟨x, hx, hrx, rfl⟩ := (hm j).1 hj
    obtain ⟨_, hj', i, hi1, hi2⟩ := hsh
    have hc' : col A j' ≠ [] := by
      intro h0
      unfold rowIdx at hi2
      rw [h0] at hi2
      cases hi2
    obtain ⟨y, hy, rfl⟩ := hfsurj j' ((hmem j').2 ⟨hj', hc'⟩)
    exact (hm _).2 ⟨y, hy, by rw [← hshare x y hx hy ⟨i, hi1, hi2⟩]; exact hrx, rfl⟩
  · intro g hg j hj j' hj'
    obtain ⟨r, _, hm⟩ := hcls g hg
    obtain ⟨x, hx, hrx, rfl⟩ := (hm j).1 hj
    obtain ⟨y, hy, hry, rfl⟩ := (hm j').1 hj'
    have hxy := (hrel x y hx hy).1 (hrx.trans hry.symm)
    refine eqvGen_map (fun i => nz.toArray.getD i 0) ?_ hxy
    intro a b ⟨hab, hint⟩
    obtain ⟨ha, hb⟩ := lt_of_mem_allPairs _ _ hab
    exact ⟨((hmem _).1 (hf a ha)).1, ((hmem _).1 (hf b hb)).1,
      (intersects_iff _ _ (hA.sorted _) (hA.sorted _)).1 hint⟩

omit [Scal α] in
theorem groupCols_grouping (A : SpMat α) (hA : WFC A) : ∃ cols, groupCols A = .ok cols ∧ Grouping A cols := by
  obtain ⟨rt, hrtlt, hrel, h⟩ := groupCols_eq A
  exact ⟨_, h, classes_grouping A hA (nzCols A) (List.Nodup.filter _ List.nodup_range) (mem_nzCols A) rt hrtlt hrel⟩

end grouping

end Yuiv.C12
