import Yuiv.Model.C07
import Mathlib.Data.Matrix.Mul
import Mathlib.Data.ZMod.Basic
/-
Spec definitions and helper lemmas for the C07 checker (`Yuiv.C07.check`, Model/C07.lean):
the executable tests mean matrix equations over `ZMod p` (`ZMod 0 = ℤ`).
-/
namespace Yuiv.C07
open Matrix

/-- the Mathlib matrix of shape `r × c` with the entries of `A` (`0` outside the shape of `A`) -/
def Mat.toM (A : Mat) (r c : Nat) : Matrix (Fin r) (Fin c) ℤ := fun i j => A.get i.val j.val

theorem allIJ_iff (r c : Nat) (f : Nat → Nat → Bool) :
    allIJ r c f = true ↔ ∀ i, i < r → ∀ j, j < c → f i j = true := by
  simp [allIJ, List.all_eq_true, List.mem_range]

theorem zeroMod_iff (p : Nat) (x : Int) : zeroMod p x = true ↔ (p : Int) ∣ x := by
  simp [zeroMod, Int.dvd_iff_emod_eq_zero]

theorem foldl_add_eq_sum (f : Nat → Int) (n : Nat) :
    (List.range n).foldl (fun s k => s + f k) 0 = ∑ k ∈ Finset.range n, f k := by
  induction n with
  | zero => simp
  | succ n ih => rw [List.range_succ, List.foldl_append, ih, Finset.sum_range_succ]; simp

theorem dot_eq_sum (A B : Mat) (i j : Nat) :
    Mat.dot A B i j = ∑ k ∈ Finset.range A.c, A.get i k * B.get k j := by
  unfold Mat.dot; exact foldl_add_eq_sum _ _

theorem toM_mul_apply (A B : Mat) (r c : Nat) (i : Fin r) (j : Fin c) :
    (A.toM r A.c * B.toM A.c c) i j = Mat.dot A B i.val j.val := by
  rw [dot_eq_sum, Matrix.mul_apply, ← Fin.sum_univ_eq_sum_range (fun k => A.get i.val k * B.get k j.val)]
  rfl

/-- a test `q` of every entry of a product, run by `allIJ` on `Mat.dot`, holds iff its meaning `Q` holds of every entry of the
Mathlib product: each clause of the checker is then ONE pointwise `Bool ↔ Prop` statement -/
theorem allIJ_dot_iff (A B : Mat) (c : Nat) (q : Nat → Nat → Int → Bool)
    (Q : Fin A.r → Fin c → ℤ → Prop) (hq : ∀ (i : Fin A.r) (j : Fin c) x, q i.val j.val x = true ↔ Q i j x) :
    allIJ A.r c (fun i j => q i j (Mat.dot A B i j)) = true ↔
      ∀ i j, Q i j ((A.toM A.r A.c * B.toM A.c c) i j) := by
  simp only [allIJ_iff, toM_mul_apply, ← hq]
  exact ⟨fun h i j => h i i.isLt j j.isLt, fun h i hi j hj => h ⟨i, hi⟩ ⟨j, hj⟩⟩

theorem zeroMod_iff_cast (p : Nat) (x : Int) : zeroMod p x = true ↔ (x : ZMod p) = 0 := by
  rw [zeroMod_iff, ZMod.intCast_zmod_eq_zero_iff_dvd]

def modP (p : Nat) {r c : Nat} (X : Matrix (Fin r) (Fin c) ℤ) : Matrix (Fin r) (Fin c) (ZMod p) :=
  X.map (Int.cast : ℤ → ZMod p)

theorem prodZero_iff (p : Nat) (A B : Mat) :
    prodZero p A B = true ↔ modP p (A.toM A.r A.c * B.toM A.c B.c) = 0 := by
  unfold prodZero
  rw [allIJ_dot_iff A B B.c (fun _ _ x => zeroMod p x) (fun _ _ x => (x : ZMod p) = 0) (fun _ _ x => zeroMod_iff_cast p x),
    ← Matrix.ext_iff]
  rfl

theorem prodId_iff (p : Nat) (A B : Mat) (hsq : A.r = B.c) :
    prodId p A B = true ↔ modP p (A.toM A.r A.c * B.toM A.c A.r) = 1 := by
  unfold prodId
  rw [← hsq, allIJ_dot_iff A B A.r (fun i j x => zeroMod p (x - if i = j then 1 else 0))
    (fun i j x => (x : ZMod p) = (1 : Matrix (Fin A.r) (Fin A.r) (ZMod p)) i j) (fun i j x => by
      rw [zeroMod_iff_cast, Int.cast_sub, sub_eq_zero, Matrix.one_apply]
      by_cases h : i = j
      · simp [h]
      · simp [h, Fin.val_ne_of_ne h]), ← Matrix.ext_iff]
  rfl

theorem bdryOk_iff (p rank : Nat) (tors : Array Int) (P d1 : Mat) :
    bdryOk p rank tors P d1 = true ↔
      ∀ (i : Fin P.r) (j : Fin d1.c),
        (i.val < rank → ((P.toM P.r P.c * d1.toM P.c d1.c) i j : ZMod p) = 0) ∧
        (rank ≤ i.val → tors.getD (i.val - rank) 0 ∣ (P.toM P.r P.c * d1.toM P.c d1.c) i j) := by
  unfold bdryOk
  refine allIJ_dot_iff P d1 d1.c (fun i _ x => if i < rank then zeroMod p x else x % tors.getD (i - rank) 0 == 0)
    (fun i _ x => (i.val < rank → (x : ZMod p) = 0) ∧ (rank ≤ i.val → tors.getD (i.val - rank) 0 ∣ x)) (fun i j x => ?_)
  by_cases hi : i.val < rank
  · simp only [hi, if_true, zeroMod_iff_cast]
    exact ⟨fun h => ⟨fun _ => h, fun h' => absurd hi (Nat.not_lt.mpr h')⟩, fun h => h.1 trivial⟩
  · simp only [hi, if_false, beq_iff_eq, ← Int.dvd_iff_emod_eq_zero]
    exact ⟨fun h => ⟨False.elim, fun _ => h⟩, fun h => h.2 (Nat.le_of_not_lt hi)⟩

/-- what the verdict `ok` means (shapes as in `shapesOk`) -/
structure Certified (a : Answer) : Prop where
  shape_d2 : a.d2.c = a.d1.r
  shape_P : a.P.r = a.rank + a.tors.size ∧ a.P.c = a.d1.r
  shape_Q : a.Q.r = a.d1.r ∧ a.Q.c = a.rank + a.tors.size
  field_no_tors : a.p = 0 ∨ a.tors.size = 0
  /-- precondition `d2·d1 = 0` -/
  dd : modP a.p (a.d2.toM a.d2.r a.d2.c * a.d1.toM a.d2.c a.d1.c) = 0
  /-- torsion orders are non-zero non-units -/
  tors_nonunit : ∀ k, k < a.tors.size → 1 < (a.tors.getD k 0).natAbs
  /-- coordinates of the generators are the standard basis -/
  pq : modP a.p (a.P.toM a.P.r a.P.c * a.Q.toM a.P.c a.P.r) = 1
  /-- generators are cycles -/
  cycles : modP a.p (a.d2.toM a.d2.r a.d2.c * a.Q.toM a.d2.c a.Q.c) = 0
  /-- boundaries: free coordinates vanish, torsion coordinate `k` is divisible by `tors[k]` -/
  bdry : ∀ (i : Fin a.P.r) (j : Fin a.d1.c),
      (i.val < a.rank → ((a.P.toM a.P.r a.P.c * a.d1.toM a.P.c a.d1.c) i j : ZMod a.p) = 0) ∧
      (a.rank ≤ i.val → a.tors.getD (i.val - a.rank) 0 ∣ (a.P.toM a.P.r a.P.c * a.d1.toM a.P.c a.d1.c) i j)

theorem check_ok_iff_parts (a : Answer) :
    check a = .ok ↔ shapesOk a = true ∧ prodZero a.p a.d2 a.d1 = true ∧ torsOk a = true ∧
      prodId a.p a.P a.Q = true ∧ prodZero a.p a.d2 a.Q = true ∧ bdryOk a.p a.rank a.tors a.P a.d1 = true := by
  -- the tests are tried in this order; the first that fails decides the verdict
  unfold check
  cases shapesOk a
  · simp
  cases prodZero a.p a.d2 a.d1
  · simp
  cases torsOk a
  · simp
  cases prodId a.p a.P a.Q
  · simp
  cases prodZero a.p a.d2 a.Q
  · simp
  cases bdryOk a.p a.rank a.tors a.P a.d1 <;> simp

theorem shapesOk_spec (a : Answer) (h : shapesOk a = true) :
    a.d2.c = a.d1.r ∧ (a.P.r = a.rank + a.tors.size ∧ a.P.c = a.d1.r) ∧
    (a.Q.r = a.d1.r ∧ a.Q.c = a.rank + a.tors.size) ∧ (a.p = 0 ∨ a.tors.size = 0) := by
  simp only [shapesOk, Answer.n, Answer.dim, Bool.and_eq_true, Bool.or_eq_true, beq_iff_eq] at h
  obtain ⟨⟨⟨⟨⟨⟨⟨⟨⟨_, _⟩, _⟩, _⟩, h1⟩, h2⟩, h3⟩, h4⟩, h5⟩, h6⟩ := h
  exact ⟨h1, ⟨h2, h3⟩, ⟨h4, h5⟩, h6⟩

theorem torsOk_spec (a : Answer) (h : torsOk a = true) :
    ∀ k, k < a.tors.size → 1 < (a.tors.getD k 0).natAbs := by
  intro k hk
  simp only [torsOk, Array.all_eq_true, decide_eq_true_eq] at h
  have := h k hk
  simpa [Array.getD, hk] using this

end Yuiv.C07
