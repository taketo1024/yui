import Yuiv.Proofs.SnfUnique
import Mathlib.LinearAlgebra.Pi
import Mathlib.LinearAlgebra.Matrix.ToLin
import Mathlib.LinearAlgebra.Quotient.Basic
import Mathlib.LinearAlgebra.Isomorphisms
import Mathlib.Algebra.Module.Equiv.Basic
/-
Rank and invariant factors are ISOMORPHISM INVARIANTS of a finitely generated ℤ-module — definitions and lemmas (the
property theorems are in `Props/HomInv*.lean`).  Mathlib has the structure theorem but not its uniqueness part; the proof
here is again by COUNTING, re-using the arithmetic core `chain_unique` of `Proofs/SnfUnique.lean`: `#Hom_ℤ(M, ℤ/q)` is an
isomorphism invariant; for `M = ∏ ZMod (c i)` it is `∏ cz (c i) q`, `cz c q = #{y ∈ ℤ/q | c·y = 0} = gcd(c, q)` (a free
summand is `ZMod 0 = ℤ` with `cz 0 q = q`); and these numbers, for all `q ≥ 1`, determine a divisibility chain (zeros = free
part at the END; the shorter of two chains is padded with ones in front, `cz 1 q = 1`).  The homology `ker d_out / im d_in` of
integer matrices with an answer `(P, Q, c)` in the shape which C07's `HomologySpec` asserts is `≃ₗ[ℤ] ∏ ZMod (c i)` (`HZ_present`).
-/
namespace Yuiv.HomInv
open Yuiv.SnfUnique Finset Matrix

/-- `#Hom_ℤ(M, ℤ/q)` (0 if infinite — it is finite for finitely generated `M` and `q ≥ 1`) -/
noncomputable def homCount (M : Type*) [AddCommGroup M] (q : ℕ) : ℕ := Nat.card (M →ₗ[ℤ] ZMod q)

theorem homCount_congr {M M' : Type*} [AddCommGroup M] [AddCommGroup M'] (e : M ≃+ M') (q : ℕ) :
    homCount M q = homCount M' q :=
  Nat.card_congr
    { toFun := fun f => (f.toAddMonoidHom.comp e.symm.toAddMonoidHom).toIntLinearMap
      invFun := fun g => (g.toAddMonoidHom.comp e.toAddMonoidHom).toIntLinearMap
      left_inv := fun f => by ext x; simp
      right_inv := fun g => by ext x; simp }

theorem homCount_prod (A B : Type*) [AddCommGroup A] [AddCommGroup B] (q : ℕ) :
    homCount (A × B) q = homCount A q * homCount B q := by
  unfold homCount
  rw [← Nat.card_prod]
  exact Nat.card_congr (LinearMap.coprodEquiv (R := ℤ) (M := A) (M₂ := B) (M₃ := ZMod q) ℤ).symm.toEquiv

/-- `#Hom(ℤ/t, ℤ/q) = #{y ∈ ℤ/q | t·y = 0}`; for `t = 0` this is `#Hom(ℤ, ℤ/q) = q` -/
theorem homCount_zmod (t q : ℕ) : homCount (ZMod t) q = cz (t : ℤ) q := by
  unfold homCount cz
  apply Nat.card_congr
  refine (addMonoidHomLequivInt (A := ZMod t) (B := ZMod q) ℤ).symm.toEquiv.trans ((ZMod.lift t).symm.trans ?_)
  refine Equiv.subtypeEquiv (zmultiplesHom (ZMod q)).symm ?_
  intro f
  have h1 : f (t : ℤ) = (t : ℤ) • f 1 := by
    rw [← map_zsmul]; simp
  rw [h1, zsmul_eq_mul]
  rfl

theorem homCount_pi {n : ℕ} (A : Fin n → Type*) [∀ i, AddCommGroup (A i)] (q : ℕ) :
    homCount (∀ i, A i) q = ∏ i, homCount (A i) q := by
  unfold homCount
  rw [← Nat.card_pi]
  exact Nat.card_congr (LinearMap.lsum ℤ A ℤ).symm.toEquiv

theorem homCount_pi_zmod {n : ℕ} (c : Fin n → ℕ) (q : ℕ) :
    homCount (∀ i, ZMod (c i)) q = ∏ i, cz (c i : ℤ) q := by
  rw [homCount_pi]
  exact Finset.prod_congr rfl fun i _ => homCount_zmod (c i) q

theorem cz_zero (q : ℕ) [NeZero q] : cz 0 q = q := (cz_eq_iff 0 q).2 (dvd_zero _)

theorem homCount_free_tors (r s : ℕ) (t : Fin s → ℕ) (q : ℕ) [NeZero q] :
    homCount ((Fin r → ℤ) × (∀ u : Fin s, ZMod (t u))) q = q ^ r * ∏ u, cz (t u : ℤ) q := by
  rw [homCount_prod, homCount_pi_zmod]
  congr 1
  have := homCount_pi_zmod (fun _ : Fin r => 0) q
  simp only [Nat.cast_zero, cz_zero, Finset.prod_const, Finset.card_univ, Fintype.card_fin] at this
  exact this

theorem cz_one (q : ℕ) [NeZero q] : cz 1 q = 1 := by
  rw [cz_eq_gcd]; simp

def pad (k : ℕ) (a : ℕ → ℤ) : ℕ → ℤ := fun i => if i < k then 1 else a (i - k)

theorem pad_chain (k : ℕ) (a : ℕ → ℤ) (h : ∀ i, a i ∣ a (i + 1)) (i : ℕ) : pad k a i ∣ pad k a (i + 1) := by
  unfold pad
  by_cases h1 : i + 1 < k
  · rw [if_pos (by omega), if_pos h1]
  · by_cases h2 : i < k
    · rw [if_pos h2]; exact one_dvd _
    · rw [if_neg h2, if_neg h1, show i + 1 - k = (i - k) + 1 by omega]
      exact h _

theorem prod_pad (k n : ℕ) (a : ℕ → ℤ) (q : ℕ) [NeZero q] :
    ∏ i ∈ range (k + n), cz (pad k a i) q = ∏ i ∈ range n, cz (a i) q := by
  rw [Finset.prod_range_add]
  have h1 : ∏ i ∈ range k, cz (pad k a i) q = 1 := by
    apply Finset.prod_eq_one
    intro i hi
    have : i < k := Finset.mem_range.1 hi
    unfold pad
    rw [if_pos this, cz_one]
  rw [h1, one_mul]
  apply Finset.prod_congr rfl
  intro i _
  unfold pad
  rw [if_neg (by omega), show k + i - k = i by omega]

theorem chain_unique_shift (n n' : ℕ) (hle : n ≤ n') (a b : ℕ → ℤ) (ha : ∀ i, a i ∣ a (i + 1))
    (hb : ∀ i, b i ∣ b (i + 1))
    (hprod : ∀ q : ℕ, 0 < q → ∏ i ∈ range n, cz (a i) q = ∏ i ∈ range n', cz (b i) q) :
    (∀ i, i < n' - n → (b i).natAbs = 1) ∧ ∀ i, i < n → (a i).natAbs = (b (n' - n + i)).natAbs := by
  have key := chain_unique n' (pad (n' - n) a) b (pad_chain _ a ha) hb (by
    intro q hq
    have : NeZero q := ⟨by omega⟩
    rw [← hprod q hq, ← prod_pad (n' - n) n a q, show n' - n + n = n' by omega])
  constructor
  · intro i hi
    have := key i (by omega)
    unfold pad at this
    rw [if_pos hi] at this
    rw [← this]; rfl
  · intro i hi
    have := key (n' - n + i) (by omega)
    unfold pad at this
    rw [if_neg (by omega), show n' - n + i - (n' - n) = i by omega] at this
    exact this

theorem chain_unique_nonunit (n n' : ℕ) (a b : ℕ → ℤ) (ha : ∀ i, a i ∣ a (i + 1)) (hb : ∀ i, b i ∣ b (i + 1))
    (hna : ∀ i, i < n → (a i).natAbs ≠ 1) (hnb : ∀ i, i < n' → (b i).natAbs ≠ 1)
    (hprod : ∀ q : ℕ, 0 < q → ∏ i ∈ range n, cz (a i) q = ∏ i ∈ range n', cz (b i) q) :
    n = n' ∧ ∀ i, i < n → (a i).natAbs = (b i).natAbs := by
  rcases Nat.lt_trichotomy n n' with h | h | h
  · exact absurd ((chain_unique_shift n n' (by omega) a b ha hb hprod).1 0 (by omega)) (hnb 0 (by omega))
  · subst h
    refine ⟨rfl, fun i hi => ?_⟩
    have := (chain_unique_shift n n (le_refl _) a b ha hb hprod).2 i hi
    rwa [Nat.sub_self, Nat.zero_add] at this
  · exact absurd ((chain_unique_shift n' n (by omega) b a hb ha (fun q hq => (hprod q hq).symm)).1 0 (by omega))
      (hna 0 (by omega))

/-- `t 0, …, t (s-1)` followed by zeros: torsion orders, then the free part -/
def tz (s : ℕ) (t : ℕ → ℤ) : ℕ → ℤ := fun i => if i < s then t i else 0

theorem tz_chain (s : ℕ) (t : ℕ → ℤ) (hc : ∀ u, u + 1 < s → t u ∣ t (u + 1)) (i : ℕ) : tz s t i ∣ tz s t (i + 1) := by
  unfold tz
  by_cases h : i + 1 < s
  · rw [if_pos (by omega), if_pos h]; exact hc i h
  · rw [if_neg h]; exact dvd_zero _

theorem prod_tz (r s : ℕ) (t : ℕ → ℤ) (q : ℕ) [NeZero q] :
    ∏ i ∈ range (s + r), cz (tz s t i) q = q ^ r * ∏ u ∈ range s, cz (t u) q := by
  rw [Finset.prod_range_add, mul_comm]
  congr 1
  · rw [Finset.prod_congr rfl (g := fun _ => q) (fun i _ => by unfold tz; rw [if_neg (by omega), cz_zero]),
      Finset.prod_const, Finset.card_range]
  · apply Finset.prod_congr rfl
    intro i hi
    unfold tz
    rw [if_pos (Finset.mem_range.1 hi)]

theorem rank_tors_unique_core (r s r' s' : ℕ) (t t' : ℕ → ℤ)
    (ht : ∀ u, u < s → 1 < (t u).natAbs) (ht' : ∀ u, u < s' → 1 < (t' u).natAbs)
    (hc : ∀ u, u + 1 < s → t u ∣ t (u + 1)) (hc' : ∀ u, u + 1 < s' → t' u ∣ t' (u + 1))
    (hprod : ∀ q : ℕ, 0 < q → q ^ r * ∏ u ∈ range s, cz (t u) q = q ^ r' * ∏ u ∈ range s', cz (t' u) q) :
    r = r' ∧ s = s' ∧ ∀ u, u < s → (t u).natAbs = (t' u).natAbs := by
  have hnu : ∀ (s : ℕ) (t : ℕ → ℤ), (∀ u, u < s → 1 < (t u).natAbs) → ∀ i, (tz s t i).natAbs ≠ 1 := by
    intro s t ht i
    unfold tz
    by_cases h : i < s
    · rw [if_pos h]; have := ht i h; omega
    · rw [if_neg h]; simp
  obtain ⟨hlen, heq⟩ := chain_unique_nonunit (s + r) (s' + r') (tz s t) (tz s' t') (tz_chain s t hc)
    (tz_chain s' t' hc') (fun i _ => hnu s t ht i) (fun i _ => hnu s' t' ht' i) (by
      intro q hq
      have : NeZero q := ⟨by omega⟩
      rw [prod_tz, prod_tz, hprod q hq])
  have hs : s = s' := by
    rcases Nat.lt_trichotomy s s' with h | h | h
    · have := heq s (by omega)
      unfold tz at this
      rw [if_neg (by omega), if_pos h, Int.natAbs_zero] at this
      have := ht' s h
      omega
    · exact h
    · have := heq s' (by omega)
      unfold tz at this
      rw [if_pos h, if_neg (by omega), Int.natAbs_zero] at this
      have := ht s' h
      omega
  refine ⟨by omega, hs, fun u hu => ?_⟩
  have := heq u (by omega)
  unfold tz at this
  rwa [if_pos hu, if_pos (by omega)] at this

/-- `ker d_out / im d_in` for integer matrices (`A : Matrix p q ℤ` maps `q → ℤ` to `p → ℤ`); definitionally the `HMat` of
`Proofs/C08Hom.lean` at `R = ℤ` -/
abbrev HZ {a b c : Type*} [Fintype a] [DecidableEq a] [Fintype b] [DecidableEq b] [Fintype c] [DecidableEq c]
    (dIn : Matrix b a ℤ) (dOut : Matrix c b ℤ) : Type _ :=
  LinearMap.ker (Matrix.toLin' dOut) ⧸
    (LinearMap.range (Matrix.toLin' dIn)).comap (LinearMap.ker (Matrix.toLin' dOut)).subtype

/-- reduction of the `i`-th coordinate modulo `c i` -/
noncomputable def redPi {N : ℕ} (c : Fin N → ℕ) : (Fin N → ℤ) →ₗ[ℤ] (∀ i, ZMod (c i)) :=
  LinearMap.pi fun i => (Int.castAddHom (ZMod (c i))).toIntLinearMap ∘ₗ LinearMap.proj i

theorem redPi_apply {N : ℕ} (c : Fin N → ℕ) (w : Fin N → ℤ) (i : Fin N) : redPi c w i = (w i : ZMod (c i)) := rfl

theorem HZ_present {n m k N : ℕ} (d1 : Matrix (Fin n) (Fin m) ℤ) (d2 : Matrix (Fin k) (Fin n) ℤ) (c : Fin N → ℕ)
    (P : Matrix (Fin N) (Fin n) ℤ) (Q : Matrix (Fin n) (Fin N) ℤ) (pq : P * Q = 1) (cyc : d2 * Q = 0)
    (hb : ∀ (x : Fin m → ℤ) (i : Fin N), (c i : ℤ) ∣ (P *ᵥ (d1 *ᵥ x)) i)
    (hc : ∀ z : Fin n → ℤ, d2 *ᵥ z = 0 → (∀ i : Fin N, (c i : ℤ) ∣ (P *ᵥ z) i) → ∃ x : Fin m → ℤ, d1 *ᵥ x = z) :
    Nonempty (HZ d1 d2 ≃ₗ[ℤ] (∀ i : Fin N, ZMod (c i))) := by
  let φ : LinearMap.ker (Matrix.toLin' d2) →ₗ[ℤ] (∀ i, ZMod (c i)) :=
    redPi c ∘ₗ Matrix.toLin' P ∘ₗ (LinearMap.ker (Matrix.toLin' d2)).subtype
  have hφ : ∀ z, φ z = redPi c (P *ᵥ z.1) := fun z => rfl
  have hsurj : Function.Surjective φ := by
    intro y
    choose w hw using fun i => ZMod.intCast_surjective (y i)
    have hz : Q *ᵥ w ∈ LinearMap.ker (Matrix.toLin' d2) := by
      rw [LinearMap.mem_ker, Matrix.toLin'_apply, Matrix.mulVec_mulVec, cyc, Matrix.zero_mulVec]
    refine ⟨⟨Q *ᵥ w, hz⟩, ?_⟩
    rw [hφ]
    simp only
    rw [Matrix.mulVec_mulVec, pq, Matrix.one_mulVec]
    funext i
    rw [redPi_apply, hw]
  have hker : (LinearMap.range (Matrix.toLin' d1)).comap (LinearMap.ker (Matrix.toLin' d2)).subtype
      = LinearMap.ker φ := by
    ext z
    show (∃ x, Matrix.toLin' d1 x = z.1) ↔ redPi c (P *ᵥ z.1) = 0
    constructor
    · rintro ⟨x, hx⟩
      funext i
      rw [redPi_apply, Pi.zero_apply, ZMod.intCast_zmod_eq_zero_iff_dvd]
      have := hb x i
      rw [Matrix.toLin'_apply] at hx
      rw [hx] at this
      exact this
    · intro h
      have hz : d2 *ᵥ z.1 = 0 := by
        have := z.2
        rwa [LinearMap.mem_ker, Matrix.toLin'_apply] at this
      obtain ⟨x, hx⟩ := hc z.1 hz (fun i => by
        have := congrFun h i
        rwa [redPi_apply, Pi.zero_apply, ZMod.intCast_zmod_eq_zero_iff_dvd] at this)
      exact ⟨x, by rw [Matrix.toLin'_apply]; exact hx⟩
  exact ⟨(Submodule.quotEquivOfEq _ _ hker).trans (φ.quotKerEquivOfSurjective hsurj)⟩

/-- the order of the `i`-th homology coordinate: `0` (free) for `i < rank`, `tors[i − rank]` after that -/
def coordOrder (rank : Nat) (tors : List Int) (i : Nat) : Nat :=
  if i < rank then 0 else (tors.getD (i - rank) 0).natAbs

theorem coordOrder_dvd (rank : Nat) (tors : List Int) (i : Nat) (y : ℤ) :
    ((coordOrder rank tors i : ℕ) : ℤ) ∣ y ↔ (i < rank → y = 0) ∧ (rank ≤ i → tors.getD (i - rank) 0 ∣ y) := by
  unfold coordOrder
  by_cases h : i < rank
  · rw [if_pos h, Nat.cast_zero, zero_dvd_iff]
    exact ⟨fun hy => ⟨fun _ => hy, fun h' => by omega⟩, fun hy => hy.1 h⟩
  · rw [if_neg h, Int.natAbs_dvd]
    exact ⟨fun hy => ⟨fun h' => absurd h' h, fun _ => hy⟩, fun hy => hy.2 (by omega)⟩

end Yuiv.HomInv
