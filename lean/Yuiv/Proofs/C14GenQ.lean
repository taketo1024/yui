import Yuiv.Gen.QIntFn
import Yuiv.Model.C14
import Yuiv.Model.C15
import Yuiv.Proofs.C14GenSimp
import Yuiv.Proofs.Res
/-
`Yuiv.GenQInt.*` is GENERATED from `/repo/yui/src/types/qint.rs` by `tools/rs2lean_fn.py fn:qint` (`I := Int`, the const
generic `D` an explicit argument).  The generated tuple struct `QuadIntS` (fields `f0`, `f1`) is mapped to the model
structs `C14.QI` (fields `l`, `r`) by `toQ` and `C15.QInt` (fields `a`, `b`) by `toQ'`.
-/
namespace Yuiv.GenQ
open Yuiv Res Yuiv.Rust Yuiv.GenQInt

def toQ (s : QuadIntS) : C14.QI := ⟨s.f0, s.f1⟩
def toQ' (s : QuadIntS) : C15.QInt := ⟨s.f0, s.f1⟩
def mapR {α β} (f : α → β) : Res α → Res β
  | .ok a => .ok (f a)
  | .panic => .panic
  | .err => .err

theorem mapR_ok {α β} (f : α → β) (a : α) : mapR f (ok a) = ok (f a) := rfl
theorem mapR_panic {α β} (f : α → β) : mapR f (.panic : Res α) = .panic := rfl
theorem mapR_err {α β} (f : α → β) : mapR f (.err : Res α) = .err := rfl
theorem mapR_eq_ok {α β} {f : α → β} {r : Res α} {b : β} (h : mapR f r = ok b) : ∃ a, r = ok a ∧ f a = b := by
  cases r with
  | ok a => exact ⟨a, rfl, Res.ok.inj h⟩
  | panic => cases h
  | err => cases h
theorem mapR_bind {α β γ} (f : β → γ) (x : Res α) (g : α → Res β) :
    mapR f (x >>= g) = x >>= fun a => mapR f (g a) := by cases x <;> rfl
theorem mapR_ite {α β} (f : α → β) (c : Prop) [Decidable c] (x y : Res α) :
    mapR f (if c then x else y) = if c then mapR f x else mapR f y := by split <;> rfl
theorem bind_assoc' {α β γ} (x : Res α) (f : α → Res β) (g : β → Res γ) :
    ((x >>= f) >>= g) = (x >>= fun a => f a >>= g) := bind_assoc x f g
theorem ite_bind {α β} (c : Prop) [Decidable c] (x y : Res α) (f : α → Res β) :
    ((if c then x else y) >>= f) = if c then x >>= f else y >>= f := apply_ite (· >>= f) c x y
theorem bind_congr' {α β} (x : Res α) {f g : α → Res β} (h : ∀ a, f a = g a) : (x >>= f) = (x >>= g) :=
  bind_congr h
theorem assert_true : Res.assert true = ok () := rfl
theorem assert_false : Res.assert false = (.panic : Res Unit) := rfl

theorem rem4 (D : Int) : RInt.rem D 4 = ok (D.tmod 4) := by simp [RInt.rem]
theorem div4 (x : Int) : RInt.div x 4 = ok (x.tdiv 4) := by simp [RInt.div]
theorem rem_euclid4 (D : Int) : RInt.rem_euclid D 4 = ok (D % 4) := by simp [RInt.rem_euclid]
theorem unwrap_from (x : Int) : Opt.unwrap (RInt.from_i32 x) = ok x := rfl

/-- `D % 4 ∈ {1, 2, 3}` (the cases in which `conj`/`norm`/`mul` do not panic) excludes `D.tmod 4 = 0` (the assert of `new`) -/
theorem tmod4_ne (D : Int) (h : D % 4 ≠ 0) : D.tmod 4 ≠ 0 := by
  intro h0
  have : (4 : Int) ∣ D := Int.dvd_of_tmod_eq_zero h0
  exact h (Int.emod_eq_zero_of_dvd this)
theorem tmod4_eq (D : Int) (h : D % 4 = 0) : D.tmod 4 = 0 := by
  have : (4 : Int) ∣ D := Int.dvd_of_emod_eq_zero h
  exact Int.tmod_eq_zero_of_dvd this

/-- `Ring::inv` of the integer types — prelude, C14 model and C15 model are the same
`if is_unit then some n else none` -/
theorem int_inv_cases (n : Int) :
    (RInt.inv n = some n ∧ C14.intInv n = some n ∧ C15.zInv n = some n) ∨
    (RInt.inv n = none ∧ C14.intInv n = none ∧ C15.zInv n = none) := by
  have e1 : C14.intInv n = RInt.inv n := rfl
  have e2 : C15.zInv n = RInt.inv n := rfl
  rw [e1, e2]
  unfold RInt.inv
  split
  · exact .inl ⟨rfl, rfl, rfl⟩
  · exact .inr ⟨rfl, rfl, rfl⟩

attribute [gen_simp] mapR_bind mapR_ite mapR_ok mapR_panic mapR_err bind_assoc' ite_bind assert_true assert_false
  toQ toQ' rem4 div4 rem_euclid4 unwrap_from QuadInt.pair QuadInt.pair_into RInt.is_zero RInt.is_one
  RInt.is_positive RInt.is_negative C14.QI.isZero C14.QI.isOne

end Yuiv.GenQ
