import Yuiv.Proofs.C09EucGcdx
import Yuiv.Proofs.C15
import Mathlib.NumberTheory.Zsqrtd.GaussianInt
import Mathlib.Tactic.Linarith
/-
The Gaussian integers as an instance of `LawfulEuc`.
`gaussOps : EOps (ℤ × ℤ)` follows `yui/src/types/qint.rs` (`QuadInt<I, -1>`) and `yui/src/misc/int_ext.rs`:
 * `divRound` — `DivRound for Integer`: nearest integer, ties away from zero, from truncated `/ %`;
 * `/` = `div_round`: `z·conj(w)` divided componentwise by `N(w)`; `%` = `z - w·(z / w)`;
 * `normalizing_unit`: the unit that rotates `z` into the quadrant `re > 0, im ≥ 0`;
 * `is_unit` / `inv`: through the norm;  `gcdx`: the generic `EucRing::gcdx` (`genGcdx`);  `size` = norm.
(The record is NOT part of `Model/C09.lean` / the driver; it lives here so that the abstraction is exercised on a
ring with non-trivial units, where the unit branch of the wrapper `SnfCalc::gcdx` really needs the pivot to be
normalised.)  `φ (a, b) = a + b·i : GaussianInt` (Mathlib).
-/
namespace Yuiv.C09

def divRound (a b : Int) : Int :=
  let quo := a.tdiv b
  let rem := a.tmod b
  let nr := if 0 < rem then -rem else rem
  let nb := if 0 < b then -b else b
  if nr ≤ nb - nr then (if (decide (a < 0)) == (decide (b < 0)) then quo + 1 else quo - 1) else quo

/-- `divRound` is the `div_round` of the C15 model, where its exactness is proved -/
theorem divRound_eq (a b : Int) : divRound a b = C15.zDivRoundT a b := rfl

theorem divRound_spec (a b : Int) (hb : 0 < b) : 2 * |a - divRound a b * b| ≤ b :=
  divRound_eq a b ▸ C15.QInt.round_abs a b hb

def gAdd (z w : Int × Int) : Int × Int := (z.1 + w.1, z.2 + w.2)
def gMul (z w : Int × Int) : Int × Int := (z.1 * w.1 - z.2 * w.2, z.1 * w.2 + z.2 * w.1)
def gNeg (z : Int × Int) : Int × Int := (-z.1, -z.2)
def gNorm (z : Int × Int) : Int := z.1 * z.1 + z.2 * z.2
def gConj (z : Int × Int) : Int × Int := (z.1, -z.2)
def gNormUnit (z : Int × Int) : Int × Int :=
  if 0 < z.1 ∧ 0 ≤ z.2 then (1, 0)
  else if z.1 ≤ 0 ∧ 0 < z.2 then (0, -1)
  else if z.1 < 0 ∧ z.2 ≤ 0 then (-1, 0)
  else if 0 ≤ z.1 ∧ z.2 < 0 then (0, 1)
  else (1, 0)
def gQuo (z w : Int × Int) : Int × Int :=
  (divRound (gMul z (gConj w)).1 (gNorm w), divRound (gMul z (gConj w)).2 (gNorm w))

def gaussPre : EOps (Int × Int) where
  zero := (0, 0)
  one := (1, 0)
  add := gAdd
  mul := gMul
  neg := gNeg
  beq a b := a.1 == b.1 && a.2 == b.2
  normUnit := gNormUnit
  inv z := if gNorm z == 1 || gNorm z == -1 then some (gMul (gNorm z, 0) (gConj z)) else none
  isUnit z := gNorm z == 1 || gNorm z == -1
  quo := gQuo
  rem z w := gAdd z (gNeg (gMul w (gQuo z w)))
  gcdx _ _ := ((0, 0), (0, 0), (0, 0))
  size z := (gNorm z).natAbs

def gaussOps : EOps (Int × Int) := { gaussPre with gcdx := genGcdx gaussPre }

theorem gauss_gcdx (x y : Int × Int) : gaussOps.gcdx x y = genGcdx gaussOps x y :=
  (genGcdx_with gaussPre _ x y).symm

def gφ (z : Int × Int) : GaussianInt := ⟨z.1, z.2⟩

theorem gφ_inj {a b : Int × Int} (h : gφ a = gφ b) : a = b := by
  have := Zsqrtd.ext_iff.1 h
  exact Prod.ext this.1 this.2

theorem gφ_norm (z : Int × Int) : (gφ z).norm = gNorm z := by
  simp only [Zsqrtd.norm_def, gφ, gNorm]; ring

theorem gNorm_nonneg (z : Int × Int) : 0 ≤ gNorm z := by
  unfold gNorm; linarith [mul_self_nonneg z.1, mul_self_nonneg z.2]

theorem gφ_eq_zero (z : Int × Int) : gφ z = 0 ↔ gNorm z = 0 := by
  rw [← gφ_norm, GaussianInt.norm_eq_zero]

@[simp] theorem gauss_add (a b : Int × Int) : gaussOps.toROps.add a b = gAdd a b := rfl
@[simp] theorem gauss_mul (a b : Int × Int) : gaussOps.toROps.mul a b = gMul a b := rfl
@[simp] theorem gauss_neg (a : Int × Int) : gaussOps.toROps.neg a = gNeg a := rfl
@[simp] theorem gauss_zero : gaussOps.toROps.zero = (0, 0) := rfl
@[simp] theorem gauss_one : gaussOps.toROps.one = (1, 0) := rfl
@[simp] theorem gauss_normUnit (a : Int × Int) : gaussOps.normUnit a = gNormUnit a := rfl
@[simp] theorem gauss_quo (a b : Int × Int) : gaussOps.quo a b = gQuo a b := rfl
@[simp] theorem gauss_rem (a b : Int × Int) : gaussOps.rem a b = gAdd a (gNeg (gMul b (gQuo a b))) := rfl
@[simp] theorem gauss_size (a : Int × Int) : gaussOps.size a = (gNorm a).natAbs := rfl

theorem gφ_add (a b : Int × Int) : gφ (gAdd a b) = gφ a + gφ b := by
  ext <;> simp [gφ, gAdd]
theorem gφ_mul (a b : Int × Int) : gφ (gMul a b) = gφ a * gφ b := by
  ext <;> simp [gφ, gMul]
  ring
theorem gφ_neg (a : Int × Int) : gφ (gNeg a) = - gφ a := by
  ext <;> simp [gφ, gNeg]

theorem lawful_gauss : Lawful gaussOps.toROps gφ where
  zero := rfl
  one := rfl
  add := gφ_add
  mul := gφ_mul
  neg := gφ_neg
  beq a b := by
    show (a.1 == b.1 && a.2 == b.2) = true ↔ _
    rw [Bool.and_eq_true, beq_iff_eq, beq_iff_eq]
    constructor
    · rintro ⟨h1, h2⟩; ext <;> assumption
    · intro h; have := gφ_inj h; subst this; exact ⟨rfl, rfl⟩

theorem lawfulE_gauss : LawfulE gaussOps gφ where
  toLawful := lawful_gauss
  inv_mul u v h := by
    have h' : (if (gNorm u == 1 || gNorm u == -1) = true then some (gMul (gNorm u, 0) (gConj u)) else none) = some v := h
    split at h'
    · rename_i hc
      cases h'
      have hN : gNorm u * gNorm u = 1 := by
        simp only [Bool.or_eq_true, beq_iff_eq] at hc
        rcases hc with hc | hc <;> rw [hc] <;> rfl
      rw [← gφ_mul]
      have : gMul u (gMul (gNorm u, 0) (gConj u)) = (1, 0) := by
        unfold gNorm at hN
        simp only [gMul, gConj, gNorm]
        ext
        · simp only; linear_combination hN
        · simp only; ring
      rw [this]; rfl
    · cases h'

theorem gNormUnit_spec (z : Int × Int) :
    gNorm (gNormUnit z) = 1 ∧
    ((0 < (gMul z (gNormUnit z)).1 ∧ 0 ≤ (gMul z (gNormUnit z)).2) ∨
      ((gMul z (gNormUnit z)).1 = 0 ∧ (gMul z (gNormUnit z)).2 = 0)) ∧
    (gNormUnit z = (1, 0) → (0 < z.1 ∧ 0 ≤ z.2) ∨ (z.1 = 0 ∧ z.2 = 0)) := by
  obtain ⟨u, hu⟩ : ∃ u, gNormUnit z = u := ⟨_, rfl⟩
  rw [hu]
  unfold gNormUnit at hu
  by_cases h1 : 0 < z.1 ∧ 0 ≤ z.2
  · rw [if_pos h1] at hu; subst hu
    exact ⟨by decide, by simp only [gMul]; omega, fun _ => Or.inl h1⟩
  rw [if_neg h1] at hu
  by_cases h2 : z.1 ≤ 0 ∧ 0 < z.2
  · rw [if_pos h2] at hu; subst hu
    exact ⟨by decide, by simp only [gMul]; omega, fun h => absurd h (by decide)⟩
  rw [if_neg h2] at hu
  by_cases h3 : z.1 < 0 ∧ z.2 ≤ 0
  · rw [if_pos h3] at hu; subst hu
    exact ⟨by decide, by simp only [gMul]; omega, fun h => absurd h (by decide)⟩
  rw [if_neg h3] at hu
  by_cases h4 : 0 ≤ z.1 ∧ z.2 < 0
  · rw [if_pos h4] at hu; subst hu
    exact ⟨by decide, by simp only [gMul]; omega, fun h => absurd h (by decide)⟩
  rw [if_neg h4] at hu; subst hu
  have hz : z.1 = 0 ∧ z.2 = 0 := by omega
  exact ⟨by decide, by simp only [gMul]; omega, fun _ => Or.inr hz⟩

theorem gNormUnit_eq_one (z : Int × Int) : gφ (gNormUnit z) = 1 ↔ (0 < z.1 ∧ 0 ≤ z.2) ∨ (z.1 = 0 ∧ z.2 = 0) := by
  have h1 : (1 : GaussianInt) = gφ (1, 0) := rfl
  rw [h1]
  constructor
  · intro h
    exact (gNormUnit_spec z).2.2 (gφ_inj h)
  · intro h
    unfold gNormUnit
    rcases h with h | h
    · rw [if_pos h]
    · rw [if_neg (by omega), if_neg (by omega), if_neg (by omega), if_neg (by omega)]

/-- multiplying a point of the quadrant `re > 0, im ≥ 0` (or zero) by a unit `p + qi` (one of `±1, ±i`) leaves the
quadrant, unless the unit is `1` -/
theorem gauss_quadrant_unique (a1 a2 b1 b2 p q : Int) (ha : (0 < a1 ∧ 0 ≤ a2) ∨ (a1 = 0 ∧ a2 = 0))
    (hb : (0 < b1 ∧ 0 ≤ b2) ∨ (b1 = 0 ∧ b2 = 0)) (hre : b1 = a1 * p - a2 * q) (him : b2 = a1 * q + a2 * p)
    (hu : p * p + q * q = 1) : a1 = b1 ∧ a2 = b2 := by
  rcases C15.gauss_norm_one hu with ⟨rfl, rfl⟩ | ⟨rfl, rfl⟩ | ⟨rfl, rfl⟩ | ⟨rfl, rfl⟩ <;> omega

theorem gNorm_pos_of_ne (b : Int × Int) (hb : gφ b ≠ 0) : 0 < gNorm b := by
  have h1 := gNorm_nonneg b
  have h2 : gNorm b ≠ 0 := fun h => hb ((gφ_eq_zero b).2 h)
  omega

/-- `N(a − b·q)·N(b) = N(a·conj b − N(b)·q)` -/
theorem gNorm_rem_mul (a b : Int × Int) (q1 q2 : Int) :
    gNorm (gAdd a (gNeg (gMul b (q1, q2)))) * gNorm b =
      ((gMul a (gConj b)).1 - q1 * gNorm b) * ((gMul a (gConj b)).1 - q1 * gNorm b) +
        0 * (((gMul a (gConj b)).1 - q1 * gNorm b) * ((gMul a (gConj b)).2 - q2 * gNorm b)) +
        ((gMul a (gConj b)).2 - q2 * gNorm b) * ((gMul a (gConj b)).2 - q2 * gNorm b) := by
  simp only [gMul, gConj, gNorm, gAdd, gNeg]
  ring

/-- the Euclidean property of rounding division in ℤ[i]: `N(a - b·[a/b]) ≤ N(b)/2` -/
theorem gauss_rem_norm (a b : Int × Int) (hN : 0 < gNorm b) :
    2 * gNorm (gAdd a (gNeg (gMul b (gQuo a b)))) ≤ gNorm b := by
  have h : 4 * gNorm (gAdd a (gNeg (gMul b (gQuo a b)))) ≤ (2 + |0|) * gNorm b :=
    C15.QInt.round_norm_bound hN (divRound_spec (gMul a (gConj b)).1 (gNorm b) hN)
      (divRound_spec (gMul a (gConj b)).2 (gNorm b) hN) (gNorm_rem_mul a b _ _)
  rw [abs_zero] at h
  omega

theorem lawfulEucBase_gauss : LawfulEucBase gaussOps gφ where
  toLawfulE := lawfulE_gauss
  inv_normUnit a := ⟨_, if_pos (by rw [gauss_normUnit, (gNormUnit_spec a).1]; rfl)⟩
  normUnit_congr a b h := by rw [gφ_inj h]
  norm_mul a := by
    rw [gauss_normUnit, gauss_normUnit, gauss_mul, gNormUnit_eq_one]
    exact (gNormUnit_spec a).2.1
  norm_unique a b ha hb h1 h2 := by
    rw [gauss_normUnit, gNormUnit_eq_one] at ha hb
    obtain ⟨u, hu⟩ := dvd_dvd_iff_associated.1 ⟨h1, h2⟩
    have hn := (Zsqrtd.norm_eq_one_iff' (by decide) (u : GaussianInt)).2 u.isUnit
    rw [Zsqrtd.norm_def] at hn
    have hre := (Zsqrtd.ext_iff.1 hu).1
    have him := (Zsqrtd.ext_iff.1 hu).2
    simp only [gφ, Zsqrtd.re_mul, Zsqrtd.im_mul] at hre him
    generalize (u : GaussianInt).re = p at *
    generalize (u : GaussianInt).im = q at *
    obtain ⟨e1, e2⟩ := gauss_quadrant_unique a.1 a.2 b.1 b.2 p q ha hb (by linarith) (by linarith) (by linarith)
    rw [Prod.ext e1 e2]
  isUnit_iff a := by
    show (gNorm a == 1 || gNorm a == -1) = true ↔ _
    rw [← Zsqrtd.norm_eq_one_iff' (by decide), gφ_norm, Bool.or_eq_true, beq_iff_eq, beq_iff_eq]
    have := gNorm_nonneg a
    omega
  div_rem a b _ := by
    rw [gauss_quo, gauss_rem, gφ_add, gφ_neg, gφ_mul]; ring
  size_rem a b hb := by
    rw [gauss_rem, gauss_size, gauss_size]
    have hN := gNorm_pos_of_ne b hb
    have h1 := gauss_rem_norm a b hN
    have h2 := gNorm_nonneg (gAdd a (gNeg (gMul b (gQuo a b))))
    omega
  size_dvd a b hb h := by
    rw [gauss_size, gauss_size]
    obtain ⟨c, hc⟩ := h
    have hc0 : c ≠ 0 := by
      rintro rfl; rw [mul_zero] at hc; exact hb hc
    have h1 : gNorm b = gNorm a * c.norm := by
      rw [← gφ_norm, ← gφ_norm, hc, Zsqrtd.norm_mul]
    have h2 : 0 < c.norm := GaussianInt.norm_pos.2 hc0
    have h3 := gNorm_nonneg a
    have h4 : gNorm a ≤ gNorm b := h1 ▸ le_mul_of_one_le_right h3 h2
    omega

theorem lawfulEuc_gauss : LawfulEuc gaussOps gφ :=
  lawfulEuc_of_genGcdx gaussOps gφ lawfulEucBase_gauss gauss_gcdx

end Yuiv.C09
