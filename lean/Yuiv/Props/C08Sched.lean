import Yuiv.Proofs.C08Sched
import Yuiv.Props.C08Hom
import Yuiv.Props.C11New
/-
C08 — "same homology for EVERY thread schedule": composition of
  * `Props/C11New`  (`find_pivots_triangular_in_matrix`: every schedule of the parallel pivot search on every valid CSC
                    matrix returns distinct rows / columns, unit pivots, triangular order),
  * `Props/C08`     (Schur-step identities, homotopy, closure under composition),
  * `Props/C08Hom`  (homotopy equivalence ⇒ isomorphic homology in every degree).
Definitions (`Yuiv/Proofs/C08SchedBlocks.lean`: the first three and `Cpx`; `Yuiv/Proofs/C08Sched.lean`: the rest):
  `TriPivots A upper P`  matrix-level pivot list (in range, distinct rows, distinct columns, unit entries, triangular)
  `pivBlock A P`         leading block after `perms_by_pivots` (pivots first, in list order)
  `Represents a A`       the CSC storage `a` of C11 (observations `is_zero/is_pm_one/is_unit`) describes `A` truthfully
  `Cpx R`, `HEquiv`      bundled complex `… → C_{i+1} --d i--> C_i → …` with `d i * d (i+1) = 0`; reduction + homotopy
  `StepShape C k`        splitting `e i : ρ i ⊕ κ i ≃ ι i` of every chain module, `ρ i` empty unless `i ∈ {k, k+1}`;
                         blocks `S.a/b/c/dd i` of the permuted `d i`; `S.reduced ainv _ _` the complex on `κ` with
                         `d' k = dd k − c k · a k⁻¹ · b k` and `d' i = dd i` for `i ≠ k`
  `ReducerStep C C'`     one `reduce_at_spec` with SOME schedule (`acts`, `keys`) of the pivot search
What is quantified: the interleaving `acts` of the pivot workers, the hash-map order `keys`, the valid schedule `sched`
of rayon's indexed collect in `compute_schur`.  What is not: that the real `rayon` / `RwLock` behave like these models.
-/
namespace Yuiv.C08
open Matrix Yuiv.C11 Yuiv.Res

variable {R : Type} [CommRing R]

/-! ## (S1) bridge: pivots of any schedule ⇒ unit-triangular, invertible leading block -/

/-- for every valid CSC matrix `a` describing `A`, every pivot type and condition and EVERY schedule (`acts`, `keys`) of
the search, `result()` succeeds and the returned pivots, mapped to matrix coordinates, are a `TriPivots` list of `A`:
in range, pairwise distinct rows and columns, unit entries, and for `p` before `q` the entry `(row q, col p)`
(`Rows` / upper) resp. `(row p, col q)` (`Cols` / lower) is `0` -/
theorem pivots_triangular_every_schedule (a : Csc) (ha : a.Valid) (A : Matrix (Fin a.nrows) (Fin a.ncols) R)
    (hA : Represents a A) (t : PivType) (c : Cond)
    (s : Str) (hs : matrixStrNew a t c = ok s) (st0 : State) (h0 : initState s = ok st0)
    (acts : List Act) (st : State) (os : List Outcome) (hr : run s st0 acts = ok (st, os))
    (keys : List ℕ) (hk : keys.Perm (st.S.map (·.2))) :
    ∃ L, result s st.S keys = ok L ∧ TriPivots A (isUpper t) (matPivots t L) := by
  obtain ⟨L, hL, h1, h2, h3, h4⟩ := find_pivots_triangular_in_matrix a ha t c s hs st0 h0 acts st os hr keys hk
  exact ⟨L, hL, triPivots_of_find_pivots ha hA t c L h1 h2 h3 h4⟩

/-- the leading block `U = pivBlock A P` of the matrix permuted by `perms_by_pivots` (entry `(x, y)` = the matrix at
(row of pivot `x`, column of pivot `y`)) is triangular — upper for `Rows`, lower for `Cols` — with unit diagonal; its
determinant is a unit and `U⁻¹` is a two-sided inverse: the hypothesis `ainv * a = 1`, `a * ainv = 1` of every
`schur_step_*` / `schur_homotopy_*` theorem of `Props/C08.lean`, and (over ℤ, ℚ, 𝔽_p) of the unit-triangular
precondition under which `Props/C08StepCorrect` proves the solver panic-free -/
theorem pivot_block_unit_triangular (m n : ℕ) (A : Matrix (Fin m) (Fin n) R) (upper : Bool) (P : List (ℕ × ℕ))
    (h : TriPivots A upper P) :
    (∀ x y : Fin P.length, (if upper then y < x else x < y) → pivBlock A P h.bound x y = 0) ∧
    (∀ x, IsUnit (pivBlock A P h.bound x x)) ∧
    IsUnit (pivBlock A P h.bound).det ∧
    (pivBlock A P h.bound)⁻¹ * pivBlock A P h.bound = 1 ∧ pivBlock A P h.bound * (pivBlock A P h.bound)⁻¹ = 1 := by
  exact ⟨h.tri_zero, h.diag_unit, h.det_isUnit, Matrix.nonsing_inv_mul _ h.det_isUnit,
    Matrix.mul_nonsing_inv _ h.det_isUnit⟩

/-- the pivot rows (columns) enumerate without repetition, so "pivots first, the rest after" is a bijection: the
hypothesis on `S.e k`, `S.e (k+1)` in the theorems below is satisfiable for every pivot list -/
theorem pivot_positions_injective (m n : ℕ) (A : Matrix (Fin m) (Fin n) R) (upper : Bool) (P : List (ℕ × ℕ))
    (h : TriPivots A upper P) :
    Function.Injective (pivRow P h.bound) ∧ Function.Injective (pivCol P h.bound) :=
  ⟨pivRow_injective h.bound h.rows, pivCol_injective h.bound h.cols⟩

/-- a reduction step at degree `k` of a whole complex whose pivot block `a k` has a two-sided inverse is a homotopy
equivalence: chain maps `F`, `B` in EVERY degree with `F B = 1` and `B F − 1 = d h + h d` (the maps are the permutation
followed by `[−c a⁻¹, 1]`, `[−a⁻¹ b; 1]`, `[[−a⁻¹,0],[0,0]]`, uniformly in the degree), and the reduced complex is a
complex -/
theorem schur_step_whole_complex (C : Cpx R) (k : ℕ) (S : StepShape C k)
    (ainv : ∀ i, Matrix (S.ρ (i + 1)) (S.ρ i) R) (hia : ainv k * S.a k = 1) (hai : S.a k * ainv k = 1) :
    (∃ F B h, IsHomotopyEquiv C.d (S.reduced ainv hia hai).d F B h) ∧
    (∀ i, (S.reduced ainv hia hai).d i * (S.reduced ainv hia hai).d (i + 1) = 0) ∧
    (S.reduced ainv hia hai).d k = S.dd k - S.c k * ainv k * S.b k ∧
    (∀ i, i ≠ k → (S.reduced ainv hia hai).d i = S.dd i) ∧
    ∀ n, Nonempty (Hn C.d n ≃ₗ[R] Hn (S.reduced ainv hia hai).d n) :=
  ⟨S.isHomotopyEquiv ainv hia hai, (S.reduced ainv hia hai).sq, rfl, S.reduced_d_of_ne ainv hia hai,
    (S.hEquiv ainv hia hai).homology⟩

/-! ## (S2) one reducer step, every schedule -/

/-- **every schedule of the pivot search gives a step that preserves homology.**  `C` any complex, `a` a valid CSC
storage describing `d k` (numbering `eT`, `eS`), any pivot type and condition, EVERY interleaving `acts` and hash-map
order `keys`: `result()` returns a list `L` (no panic) which is a `TriPivots` list, and for every splitting `S` of the
chain modules that removes exactly the pivot rows of `C_k` and pivot columns of `C_{k+1}` in list order (what
`perms_by_pivots` + `Schur::from_partial_triangular(…, r)` do; order of the remaining basis vectors arbitrary) the pivot
block has a two-sided inverse `ainv k`, the Schur-complement complex `S.reduced` is a reduction of `C` with a chain
homotopy, and `H_n(C) ≃ H_n(reduced)` for every `n`.  The pivots — hence the reduced matrices — depend on the schedule;
the homology does not. -/
theorem reduce_step_every_schedule (C : Cpx R) (k : ℕ) (a : Csc) (ha : a.Valid) (t : PivType) (c : Cond)
    (eT : Fin a.nrows ≃ C.ι k) (eS : Fin a.ncols ≃ C.ι (k + 1)) (hA : Represents a ((C.d k).submatrix eT eS))
    (s : Str) (hs : matrixStrNew a t c = ok s) (st0 : State) (h0 : initState s = ok st0)
    (acts : List Act) (st : State) (os : List Outcome) (hr : run s st0 acts = ok (st, os))
    (keys : List ℕ) (hk : keys.Perm (st.S.map (·.2))) :
    ∃ L, result s st.S keys = ok L ∧
      ∃ hP : TriPivots ((C.d k).submatrix eT eS) (isUpper t) (matPivots t L),
        ∀ (S : StepShape C k) (er : Fin (matPivots t L).length ≃ S.ρ k)
          (es : Fin (matPivots t L).length ≃ S.ρ (k + 1)),
          (∀ x, S.e k (Sum.inl (er x)) = eT (pivRow _ hP.bound x)) →
          (∀ x, S.e (k + 1) (Sum.inl (es x)) = eS (pivCol _ hP.bound x)) →
          ∃ (ainv : ∀ i, Matrix (S.ρ (i + 1)) (S.ρ i) R) (hia : ainv k * S.a k = 1) (hai : S.a k * ainv k = 1),
            ReducerStep C (S.reduced ainv hia hai) ∧ HEquiv C (S.reduced ainv hia hai) ∧
            ∀ n, Nonempty (Hn C.d n ≃ₗ[R] Hn (S.reduced ainv hia hai).d n) := by
  obtain ⟨L, hL, hP⟩ := pivots_triangular_every_schedule a ha _ hA t c s hs st0 h0 acts st os hr keys hk
  refine ⟨L, hL, hP, fun S er es hrow hcol => ?_⟩
  obtain ⟨_, X, hXa, haX⟩ := S.exists_inv_of_pivots eT eS hP er es hrow hcol
  obtain ⟨ainv, hk'⟩ := exists_family (T := fun i => Matrix (S.ρ (i + 1)) (S.ρ i) R) k X
  have hia : ainv k * S.a k = 1 := by rw [hk']; exact hXa
  have hai : S.a k * ainv k = 1 := by rw [hk']; exact haX
  exact ⟨ainv, hia, hai,
    ⟨k, a, ha, t, c, eT, eS, hA, s, hs, st0, h0, acts, st, os, hr, keys, hk, L, hL, hP, S, er, es, hrow, hcol, ainv,
      hia, hai, rfl⟩,
    S.hEquiv ainv hia hai, (S.hEquiv ainv hia hai).homology⟩

/-- two schedules of the same step: whatever pivots they find, the two reduced complexes have isomorphic homology in
every degree (both are isomorphic to `H_n(C)`) -/
theorem two_schedules_same_homology {C C₁ C₂ : Cpx R} (h₁ : ReducerStep C C₁) (h₂ : ReducerStep C C₂) (n : ℕ) :
    Nonempty (Hn C₁.d n ≃ₗ[R] Hn C₂.d n) :=
  h₁.hEquiv.homology_of_common_source h₂.hEquiv n

/-! ## (S3) the reducer's loop: any number of steps, any schedule at every step -/

/-- any finite sequence of reducer steps (each at any degree, with any pivot type / condition and any schedule) is a
reduction with a chain homotopy, hence preserves the homology in every degree -/
theorem reduce_loop_every_schedule {C C' : Cpx R} (h : Relation.ReflTransGen ReducerStep C C') :
    HEquiv C C' ∧ ∀ n, Nonempty (Hn C.d n ≃ₗ[R] Hn C'.d n) :=
  ⟨reflTransGen_hEquiv h, (reflTransGen_hEquiv h).homology⟩

/-- … and two complete runs from the same complex (different schedules, different numbers of steps, different reduced
matrices) end in complexes with isomorphic homology -/
theorem two_runs_same_homology {C C₁ C₂ : Cpx R} (h₁ : Relation.ReflTransGen ReducerStep C C₁)
    (h₂ : Relation.ReflTransGen ReducerStep C C₂) (n : ℕ) : Nonempty (Hn C₁.d n ≃ₗ[R] Hn C₂.d n) :=
  (reflTransGen_hEquiv h₁).homology_of_common_source (reflTransGen_hEquiv h₂) n

/-! ## the hypotheses are satisfiable: one matrix, two schedules, two different pivot sets -/

/-- the integer matrix stored in `C11.exCsc` (4×3; a stored zero at `(1,0)`, the non-unit `2` at `(1,2)`; rows 2 and 3
race for column 2 in the parallel phase) -/
def exA : Matrix (Fin exCsc.nrows) (Fin exCsc.ncols) ℤ := !![1, 0, 0; 0, 1, 2; 1, 0, 1; 1, 0, 1]

/-- `Represents` holds of a matrix with a stored zero and a non-unit entry -/
theorem exA_represents : Represents exCsc exA := by
  -- the only stored values observed as `±1` or as units are the entries `1`
  have one : ∀ (i : Fin exCsc.nrows) (j : Fin exCsc.ncols) (r : Scl), exCsc.Stored i.1 j.1 r →
      r.pmOne = true ∨ r.unit = true → exA i j = 1 := by
    intro i j r hs hr
    obtain ⟨_, hm, _⟩ := hs
    fin_cases i <;> fin_cases j <;> simp [exCsc, Csc.col, sOne, sTwo, sZero] at hm <;>
      first
        | rfl
        | (subst hm; simp at hr)
  refine ⟨?_, fun i j r hs hr => Or.inl (one i j r hs (Or.inl hr)), fun i j r hs hr => ?_⟩
  · intro i j h
    fin_cases i <;> fin_cases j <;>
      first
        | rfl
        | exact absurd ⟨by decide, by decide, rfl⟩ (h sOne)
        | exact absurd ⟨by decide, by decide, rfl⟩ (h sTwo)
  · rw [one i j r hs (Or.inr hr)]
    exact isUnit_one

/-- every hypothesis of `pivots_triangular_every_schedule` is satisfiable (here: the empty schedule after the sequential
phases, obtained from `C11.find_pivots_acyclic_of_matrix`; `#eval` of the model gives for the schedules
`[start 2 2, search 2 (some 2), validate 2]`, keys `[0,1,2]` and `[start 3 2, search 3 (some 2), validate 3]`, keys
`[2,1,0]` the DIFFERENT pivot lists `[(1,1),(2,2),(0,0)]` and `[(1,1),(3,2),(0,0)]` of the next example — the kernel
cannot evaluate the well-founded loops of `initState`, so these two runs are not restated as `example`s) -/
example : ∃ L, TriPivots exA true (matPivots .rows L) := by
  obtain ⟨s, st0, hs, h0, _⟩ := find_pivots_acyclic_of_matrix exCsc (by decide) .rows .one
  obtain ⟨L, _, hL⟩ := pivots_triangular_every_schedule exCsc (by decide) exA exA_represents .rows .one s hs st0 h0
    [] st0 [] rfl (st0.S.map (·.2)) (List.Perm.refl _)
  exact ⟨L, hL⟩

/-- two different pivot sets (row 2 resp. row 3 wins the race for column 2), both `TriPivots` lists of `exA` -/
example : TriPivots exA true [(1, 1), (2, 2), (0, 0)] ∧ TriPivots exA true [(1, 1), (3, 2), (0, 0)] :=
  ⟨⟨by decide, by decide, by decide, by intro p hp; rw [Int.isUnit_iff]; revert p; decide, by decide⟩,
   ⟨by decide, by decide, by decide, by intro p hp; rw [Int.isUnit_iff]; revert p; decide, by decide⟩⟩

/-- … and the leading block of the second one is upper unit-triangular with the non-unit `2` above the diagonal
(pivot order `(1,1), (3,2), (0,0)`), invertible by `pivot_block_unit_triangular` -/
example (h : TriPivots exA true [(1, 1), (3, 2), (0, 0)]) :
    pivBlock exA _ h.bound ⟨0, by decide⟩ ⟨1, by decide⟩ = 2 ∧ IsUnit (pivBlock exA _ h.bound).det :=
  ⟨rfl, (pivot_block_unit_triangular _ _ exA true _ h).2.2.1⟩

end Yuiv.C08
