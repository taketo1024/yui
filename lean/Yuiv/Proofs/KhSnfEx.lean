import Yuiv.Proofs.KhSnfHomSpec
import Batteries.Tactic.OpenPrivate
/-
KhSnf — concrete data for the non-vacuity `example`s of `Props/KhSnf.lean`.  `smithInvariants` is total, but it
calls `Array.qsort` (well-founded recursion) and `rowGet` (a `while` loop), which do not reduce in the kernel; the value on
the example is obtained through `smithInvariants_eq`, `rowGetSpec` and by unfolding `qsort`.
-/
open private Array.qsort.sort Array.qpartition.loop in Array.qsort Array.qpartition
namespace Yuiv.KhSnf
open Yuiv Yuiv.KhRef Matrix Yuiv.C03Uct

/-- `diag(2, 6)` as sparse rows: cokernel `ℤ/2 ⊕ ℤ/6` -/
def exRows : Array Row := #[#[(0, 2)], #[(1, 6)]]

theorem exRows_ok : ∀ r ∈ exRows.toList, RowOK 2 r := by decide

theorem exRows_smith : smithInvariants exRows = (2, #[2, 6]) := by
  rw [smithInvariants_eq]
  have h1 : unitLoop ((exRows.filter (fun r => decide (r.size > 0))).size + 1)
      (exRows.filter (fun r => decide (r.size > 0))) 0 = (exRows, 0) := by
    decide +kernel
  rw [h1]
  have hc : colsOf exRows = #[0, 1] := by
    unfold colsOf
    have : (exRows.toList.foldl (fun cols r => r.toList.foldl (fun cols x =>
        if cols.contains x.1 then cols else cols.push x.1) cols) #[]) =
        #[0, 1] := by decide +kernel
    rw [this]
    simp [Array.qsort, Array.qsort.sort, Array.qpartition, Array.qpartition.loop, Vector.swap]
  have hd : denseOf exRows = #[#[2, 0], #[0, 6]] := by
    unfold denseOf
    rw [hc]
    simp only [exRows, List.map_toArray, List.map]
    rw [rowGetSpec 2 _ _ (by decide), rowGetSpec 2 _ _ (by decide), rowGetSpec 2 _ _ (by decide),
      rowGetSpec 2 _ _ (by decide)]
    decide +kernel
  simp only [hd]
  decide +kernel

end Yuiv.KhSnf
