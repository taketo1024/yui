import Yuiv.Proofs.C18Part
import Yuiv.Proofs.C18Resolve
/-
C18 — the universal partition statement for the model of `Link::components`.

For EVERY valid PD code `l` (`Valid l`: every label that occurs, occurs in exactly two slots; crossings of any
type `X`, `Xm`, `V`, `H`, so resolved and partially resolved diagrams are included):

* `components l` returns (the `4·n` step bound of `traverse_edges` is never hit),
* every edge label lies in exactly one component and is listed there exactly once,
* every component is a closed path, consecutive labels (and last/first) are the two ends of a strand through
  a crossing, and the component is exactly the class of each of its labels under the equivalence `Conn l`
  generated by that relation (`joined`),
* the result is accepted by the verified checker `checkComps`,
* the number of components (= `circleCount`) is the number of `Conn`-classes.

Property theorems only.  The partner/thru involutions and `no_flip` (a walk never meets the other end of one of its
own edges) are in `Proofs/C18Orbit.lean`, the schedule of the walks in `Proofs/C18Sweep.lean`, the loop invariant `Inv`
of `components` in `Proofs/C18Part.lean`.
-/
namespace Yuiv.C18
open Yuiv

theorem components_ok (l : Link) (hv : Valid l) : ∃ cs, components l = .ok cs :=
  let ⟨cs, h, _⟩ := components_check' l hv
  ⟨cs, h⟩

theorem components_check (l : Link) (hv : Valid l) :
    ∃ cs, components l = .ok cs ∧ checkComps l cs = true :=
  components_check' l hv

/-- one walk of `traverse_edges` on a valid code: it returns, reports the start slot a second time at the
end, and apart from that the labels it reads are pairwise distinct (a walk never meets the other end of one
of its own edges), form a `joined`-cycle, and are closed under `joined` -/
theorem traverse_labels (l : Link) (hv : Valid l) (s : Nat × Nat) (hs : HE l s) :
    ∃ path es, traverse l s = .ok path ∧
      path.map (fun p => edgeAt l p.1 p.2) = es ++ [edgeAt l s.1 s.2] ∧
      es.head? = some (edgeAt l s.1 s.2) ∧ es.Nodup ∧ cycleOk l es = true ∧ closedUnder l es = true ∧
      (∀ e ∈ es, e ∈ allEdges l) := by
  obtain ⟨v, h1, hw⟩ := traverse_valid l hv s hs
  obtain ⟨h3, h4, h5, h6, h7⟩ := hw.labels hv hs
  exact ⟨v.reverse ++ [s], v.reverse.map (lab l), h1, by rw [List.map_append]; rfl, h3, h4, h5, h6, h7⟩

/-- every edge label of a valid code lies in exactly one component (position `k` of the list) and is listed
exactly once — in that component and in the whole list; labels that do not occur are in no component -/
theorem components_cover (l : Link) (hv : Valid l) (cs : List Path) (hc : components l = .ok cs) (e : Nat) :
    (e ∈ allEdges l →
      (cs.flatMap (·.edges)).count e = 1 ∧
      ∃ k, ∃ hk : k < cs.length, cs[k].edges.count e = 1 ∧
        ∀ k' (hk' : k' < cs.length), e ∈ cs[k'].edges → k' = k) ∧
    (e ∉ allEdges l → ∀ p ∈ cs, e ∉ p.edges) := by
  obtain ⟨h1, h2, _⟩ := checkComps_sound' l cs (checkComps_of_components l hv hc)
  constructor
  · intro he
    obtain ⟨p, hp, hep⟩ := (h1 e).1 he
    obtain ⟨k, hk, rfl⟩ := List.getElem_of_mem hp
    refine ⟨h2.count.trans (if_pos (List.mem_flatMap.2 ⟨_, hp, hep⟩)), k, hk, ?_, ?_⟩
    · exact (h2.sublist (edges_sublist_flat hp)).count.trans (if_pos hep)
    · intro k' hk' hek'
      exact nodup_flat_unique cs h2 k' k hk' hk e hek' hep
  · intro he p hp hep
    exact he ((h1 e).2 ⟨p, hp, hep⟩)

/-- every component of a valid code is a closed path without repeated labels; consecutive labels, and the
last and the first, are the two ends of a strand through a crossing (`cycleOk`); it contains with a label
everything `joined` to it, and it is exactly the `Conn`-class of each of its labels -/
theorem components_closed (l : Link) (hv : Valid l) (cs : List Path) (hc : components l = .ok cs) :
    ∀ p ∈ cs, p.closed = true ∧ p.edges ≠ [] ∧ p.edges.Nodup ∧ cycleOk l p.edges = true ∧
      (∀ e ∈ p.edges, ∀ e', joined l e e' = true → e' ∈ p.edges) ∧
      (∀ e ∈ p.edges, ∀ e', Conn l e e' ↔ e' ∈ p.edges) := by
  have hchk := checkComps_of_components l hv hc
  obtain ⟨_, h2, h3⟩ := checkComps_sound' l cs hchk
  intro p hp
  obtain ⟨a, b, c⟩ := h3 p hp
  obtain ⟨_, hcy, hcl⟩ := ((checkComps_iff l cs).1 hchk).1 p hp
  exact ⟨a, b, h2.sublist (edges_sublist_flat hp), hcy,
    fun e he e' hj => closed_joined l p.edges hcl e e' he hj, c⟩

/-- the partition statement in the form of `checkComps_sound`, for the model's own output on every
valid code -/
theorem components_partition (l : Link) (hv : Valid l) :
    ∃ cs, components l = .ok cs ∧
      (∀ e, e ∈ allEdges l ↔ ∃ p ∈ cs, e ∈ p.edges) ∧
      (cs.flatMap (·.edges)).Nodup ∧
      (∀ p ∈ cs, p.closed = true ∧ p.edges ≠ [] ∧ ∀ e ∈ p.edges, ∀ e', Conn l e e' ↔ e' ∈ p.edges) :=
  let ⟨cs, h, hchk⟩ := components_check' l hv
  ⟨cs, h, checkComps_sound' l cs hchk⟩

/-- `Conn` is symmetric (it is reflexive and transitive by definition): an equivalence relation -/
theorem conn_symm (l : Link) (a b : Nat) (h : Conn l a b) : Conn l b a := h.symm

/-- the number of classes is well defined: all transversals (`Transversal l reps`: labels of `l`, pairwise
not connected, every label connected to one of them) have the same length -/
theorem transversal_length_unique (l : Link) (A B : List Nat) (hA : Transversal l A) (hB : Transversal l B) :
    A.length = B.length :=
  transversal_length l A B hA hB

/-- number of components = number of classes of the strand-through-crossing relation, for every valid code:
`circleCount` returns (all components are circles) the length of a transversal of the `Conn`-classes -/
theorem circleCount_eq_classes (l : Link) (hv : Valid l) :
    ∃ reps, circleCount l = .ok reps.length ∧ Transversal l reps := by
  obtain ⟨cs, hc, hchk⟩ := components_check' l hv
  refine ⟨cs.map (fun p => p.edges.headD 0), ?_, check_transversal l cs hchk⟩
  rw [List.length_map]
  exact circleCount_of_check l cs hc hchk

/-- in particular for every resolution state `s` of a valid diagram: `resolved_by` returns a (fully
resolved, valid) diagram `r`, for which `joined` is the edge-identification relation of the smoothing, and
the number of circles is the number of its classes -/
theorem circleCount_resolved (l : Link) (hv : Valid l) (s : List Bool) (hs : s.length = crossingNum l) :
    ∃ r reps, resolvedBy l s = .ok r ∧ crossingNum r = 0 ∧ Valid r ∧
      circleCount r = .ok reps.length ∧ Transversal r reps := by
  obtain ⟨h1, h2⟩ := foldlM_resolveFirst s l hs
  have hr : resolvedBy l s = .ok (smoothAll l s) := by
    unfold resolvedBy; rw [if_pos hs]; exact h1
  have hv' : Valid (smoothAll l s) := valid_smoothAll hv s
  obtain ⟨reps, h3, h4⟩ := circleCount_eq_classes (smoothAll l s) hv'
  exact ⟨_, reps, hr, h2, hv', h3, h4⟩

example : Valid (fromPD [[4,2,5,1],[8,6,1,5],[6,3,7,4],[2,7,3,8]]) := by decide +kernel
example : Valid [⟨.H,1,4,2,5⟩, ⟨.V,3,6,4,1⟩, ⟨.Xm,5,2,6,3⟩] := by decide +kernel
example : components [⟨.H,1,4,2,5⟩, ⟨.V,3,6,4,1⟩, ⟨.H,5,2,6,3⟩] = .ok [⟨[1,4,6,3], true⟩, ⟨[5,2], true⟩] := by
  decide +kernel
example : components [⟨.H,1,4,2,5⟩, ⟨.V,3,6,4,1⟩, ⟨.Xm,5,2,6,3⟩] = .ok [⟨[1,4,6,5,2,3], true⟩] := by decide +kernel
example : components (fromPD [[4,1,3,2],[2,3,1,4]]) = .ok [⟨[4,3], true⟩, ⟨[2,1], true⟩] := by decide +kernel
example : Transversal (fromPD [[4,1,3,2],[2,3,1,4]]) [4, 2] :=
  check_transversal _ [⟨[4,3], true⟩, ⟨[2,1], true⟩] (by decide +kernel)
/-- validity is needed: a label occurring three times makes `components` panic -/
example : ¬ Valid (fromPD [[1,2,1,1]]) ∧ components (fromPD [[1,2,1,1]]) = .panic := by decide +kernel

end Yuiv.C18
