import Yuiv.Model.C04
import Yuiv.Proofs.KhRefCube
import Mathlib.Tactic.Ring
import Mathlib.Algebra.BigOperators.Intervals
import Mathlib.Algebra.BigOperators.Ring.Finset
import Mathlib.Algebra.Group.Units.Basic
import Mathlib.Algebra.Ring.Parity

/-
Helper lemmas for C04 (no property theorem here): bridges `npow`/`zpow`/`sumRange` to Mathlib's
`^`, unit `zpow` and `Finset.sum`; `popcount` splitting/complement lemmas; soundness of the `LP`
coefficient-list arithmetic w.r.t. evaluation (`ev`).
-/
namespace Yuiv.C04
open Yuiv.KhRef

variable {R : Type} [CommRing R]

theorem npow_eq (x : R) (n : Nat) : npow x n = x ^ n := by
  induction n with
  | zero => simp [npow]
  | succ n ih => simp [npow, ih, pow_succ]

def mkU (q qinv : R) (hq : q * qinv = 1) : Rˣ := ⟨q, qinv, hq, by rw [mul_comm]; exact hq⟩

theorem zpow_eq_units (u : Rˣ) (k : Int) : zpow (u : R) ((u⁻¹ : Rˣ) : R) k = ((u ^ k : Rˣ) : R) := by
  cases k with
  | ofNat n => simp [zpow, npow_eq]
  | negSucc n =>
    simp only [zpow, npow_eq, zpow_negSucc]
    rw [← inv_pow]; simp

theorem exists_unit (q qinv : R) (hq : q * qinv = 1) : ∃ u : Rˣ, q = (u : R) ∧ qinv = ((u⁻¹ : Rˣ) : R) :=
  ⟨mkU q qinv hq, rfl, rfl⟩

theorem zpow_add' (q qinv : R) (hq : q * qinv = 1) (a b : Int) :
    zpow q qinv (a + b) = zpow q qinv a * zpow q qinv b := by
  obtain ⟨u, rfl, rfl⟩ := exists_unit q qinv hq
  simp [zpow_eq_units, zpow_add]

theorem zpow_zero' (q qinv : R) : zpow q qinv 0 = 1 := by
  show npow q 0 = 1
  rfl

theorem zpow_natCast' (q qinv : R) (n : Nat) : zpow q qinv (n : Int) = q ^ n := by
  show npow q n = _
  exact npow_eq q n

theorem zpow_one' (q qinv : R) : zpow q qinv 1 = q := by
  have := zpow_natCast' q qinv 1
  simpa using this

theorem zpow_neg_one' (q qinv : R) : zpow q qinv (-1) = qinv := by
  show npow qinv 1 = _
  simp [npow_eq]

theorem zpow_swap (q qinv : R) (hq : q * qinv = 1) (k : Int) :
    zpow qinv q k = zpow q qinv (-k) := by
  obtain ⟨u, rfl, rfl⟩ := exists_unit q qinv hq
  have h := zpow_eq_units (u⁻¹) k
  rw [inv_inv] at h
  rw [h, zpow_eq_units]
  simp

theorem sumRange_eq (n : Nat) (f : Nat → R) : sumRange n f = ∑ i ∈ Finset.range n, f i := by
  unfold sumRange
  induction n with
  | zero => simp
  | succ n ih => rw [List.range_succ, List.foldl_append, ih, Finset.sum_range_succ]; simp


theorem popcount_lt (m r : Nat) (h : m < 2 ^ r) : popcount m (r + 1) = popcount m r := by
  unfold popcount
  rw [List.range_succ, List.filter_append, List.length_append]
  simp [Nat.testBit_lt_two_pow h]

theorem popcount_add (m r : Nat) (h : m < 2 ^ r) : popcount (2 ^ r + m) (r + 1) = popcount m r + 1 := by
  unfold popcount
  rw [List.range_succ, List.filter_append, List.length_append]
  have h1 : (List.range r).filter (fun i => (2 ^ r + m).testBit i) = (List.range r).filter (fun i => m.testBit i) := by
    apply List.filter_congr
    intro i hi
    exact Nat.testBit_two_pow_add_gt (List.mem_range.mp hi) m
  rw [h1]
  simp [Nat.testBit_two_pow_add_eq, Nat.testBit_lt_two_pow h]

theorem popcount_compl (s n : Nat) (h : s < 2 ^ n) : popcount (2 ^ n - 1 - s) n + popcount s n = n := by
  unfold popcount
  have h1 : (List.range n).filter (fun i => (2 ^ n - 1 - s).testBit i) = (List.range n).filter (fun i => !s.testBit i) := by
    apply List.filter_congr
    intro i hi
    have : 2 ^ n - 1 - s = 2 ^ n - (s + 1) := by omega
    rw [this, Nat.testBit_two_pow_sub_succ h]
    simp [List.mem_range.mp hi]
  rw [h1, Nat.add_comm]
  simpa using (List.length_eq_length_filter_add (l := List.range n) (fun i => s.testBit i)).symm

theorem popcount_zero_bits (m : Nat) : popcount m 0 = 0 := by simp [popcount]


abbrev ev (q qinv : R) (a : LP) : R := LP.eval q qinv (fun k => (k : R)) a

theorem foldl_acc (q qinv : R) (a : LP) (z : R) :
    a.foldl (fun acc (t : Int × Int) => acc + (t.2 : R) * zpow q qinv t.1) z
      = z + a.foldl (fun acc (t : Int × Int) => acc + (t.2 : R) * zpow q qinv t.1) 0 := by
  induction a generalizing z with
  | nil => simp
  | cons t a ih =>
    simp only [List.foldl_cons]
    rw [ih, ih (0 + _)]
    ring

theorem ev_nil (q qinv : R) : ev q qinv [] = 0 := rfl

theorem ev_cons (q qinv : R) (t : Int × Int) (a : LP) :
    ev q qinv (t :: a) = (t.2 : R) * zpow q qinv t.1 + ev q qinv a := by
  show List.foldl _ _ _ = _ + List.foldl _ _ _
  rw [List.foldl_cons, foldl_acc]
  ring

theorem ev_addTerm (q qinv : R) (e c : Int) (a : LP) :
    ev q qinv (LP.addTerm e c a) = ev q qinv a + (c : R) * zpow q qinv e := by
  induction a with
  | nil =>
    unfold LP.addTerm
    by_cases hc : c = 0
    · simp [hc, ev_nil]
    · simp [hc, ev_cons, ev_nil]
  | cons t a ih =>
    obtain ⟨e', c'⟩ := t
    unfold LP.addTerm
    by_cases h1 : e < e'
    · by_cases hc : c = 0
      · simp [h1, hc]
      · simp only [h1, if_true, hc, beq_iff_eq, if_false, ev_cons]; ring
    · by_cases h2 : e = e'
      · subst h2
        by_cases h3 : c + c' = 0
        · have : (c : R) = -(c' : R) := by
            have := congrArg (Int.cast (R := R)) h3
            push_cast at this
            exact eq_neg_of_add_eq_zero_left this
          simp only [h1, if_false, beq_self_eq_true, if_true, h3, ev_cons, this]; ring
        · simp only [h1, if_false, beq_self_eq_true, if_true, h3, beq_iff_eq, ev_cons]; push_cast; ring
      · simp only [h1, if_false, beq_iff_eq, h2, ev_cons, ih]; ring

theorem ev_add (q qinv : R) (a b : LP) :
    ev q qinv (LP.add a b) = ev q qinv a + ev q qinv b := by
  unfold LP.add
  induction b generalizing a with
  | nil => simp [ev_nil]
  | cons t b ih => rw [List.foldl_cons, ih, ev_addTerm, ev_cons]; ring

theorem ev_scaleShift (q qinv : R) (hq : q * qinv = 1) (k e : Int) (a : LP) :
    ev q qinv (LP.scaleShift k e a) = (k : R) * zpow q qinv e * ev q qinv a := by
  unfold LP.scaleShift
  simp only [beq_iff_eq]
  induction a with
  | nil => simp [ev_nil]
  | cons t a ih =>
    rw [List.filterMap_cons]
    by_cases h : k * t.2 = 0
    · have : (k : R) * (t.2 : R) = 0 := by
        have := congrArg (Int.cast (R := R)) h
        push_cast at this; exact this
      simp only [h, if_true, ih, ev_cons]
      have h' : (k : R) * zpow q qinv e * ((t.2 : R) * zpow q qinv t.1 + ev q qinv a)
          = (k : R) * zpow q qinv e * ev q qinv a + ((k : R) * (t.2 : R)) * (zpow q qinv e * zpow q qinv t.1) := by ring
      rw [h', this]; ring
    · simp only [h, if_false, ev_cons, ih, zpow_add' q qinv hq]
      push_cast; ring

theorem ev_mul_aux (q qinv : R) (hq : q * qinv = 1) (a b acc : LP) :
    ev q qinv (a.foldl (fun acc t => LP.add acc (LP.scaleShift t.2 t.1 b)) acc)
      = ev q qinv acc + ev q qinv a * ev q qinv b := by
  induction a generalizing acc with
  | nil => simp [ev_nil]
  | cons t a ih => rw [List.foldl_cons, ih, ev_add, ev_scaleShift q qinv hq, ev_cons]; ring

theorem ev_mul (q qinv : R) (hq : q * qinv = 1) (a b : LP) :
    ev q qinv (LP.mul a b) = ev q qinv a * ev q qinv b := by
  unfold LP.mul
  rw [ev_mul_aux q qinv hq, ev_nil, zero_add]

theorem ev_one (q qinv : R) : ev q qinv LP.one = 1 := by
  unfold LP.one
  rw [ev_cons, ev_nil]
  simp [zpow_zero']

theorem ev_pow (q qinv : R) (hq : q * qinv = 1) (a : LP) (n : Nat) :
    ev q qinv (LP.pow a n) = (ev q qinv a) ^ n := by
  induction n with
  | zero => simp [LP.pow, ev_one]
  | succ n ih => simp [LP.pow, ev_mul q qinv hq, ih, pow_succ]

theorem ev_mono (q qinv : R) (e c : Int) : ev q qinv (LP.mono e c) = (c : R) * zpow q qinv e := by
  unfold LP.mono
  by_cases hc : c = 0
  · simp [hc, ev_nil]
  · simp [hc, ev_cons, ev_nil]

theorem ev_foldl_add (q qinv : R) (F : Nat → LP) (l : List Nat) (acc : LP) :
    ev q qinv (l.foldl (fun acc s => LP.add acc (F s)) acc)
      = l.foldl (fun acc s => acc + ev q qinv (F s)) (ev q qinv acc) := by
  induction l generalizing acc with
  | nil => rfl
  | cons s l ih => rw [List.foldl_cons, List.foldl_cons, ih, ev_add]

theorem cast_sign (k : Nat) : (((if (k : Int) % 2 == 0 then 1 else -1 : Int)) : R) = (-1) ^ k := by
  rcases Nat.even_or_odd k with h | h
  · have : (k : Int) % 2 = 0 := by obtain ⟨m, rfl⟩ := h; omega
    simp [this, h.neg_one_pow]
  · have : (k : Int) % 2 = 1 := by obtain ⟨m, rfl⟩ := h; omega
    simp [this, h.neg_one_pow]


theorem mkCube_n (l : Link) : (mkCube l ⟨0, 0, false⟩).n = crossingNum l := rfl
theorem mkCube_base (l : Link) : (mkCube l ⟨0, 0, false⟩).base = none := rfl

theorem mkCube_gensAt (l : Link) (s : Nat) (hs : s < 2 ^ crossingNum l) :
    (mkCube l ⟨0, 0, false⟩).gensAt s = (Array.range (2 ^ circleCount l s)).map (fun m => Gen.mk s m) := by
  unfold Cube.gensAt Cube.baseCircle
  simp only [mkCube_base, KhRef.mkCube_circ l ⟨0, 0, false⟩ s hs]
  rfl

theorem mkCube_qDeg (l : Link) (q0 : Int) (s m : Nat) (hs : s < 2 ^ crossingNum l) :
    (mkCube l ⟨0, 0, false⟩).qDeg q0 ⟨s, m⟩ =
      q0 + (-2 : Int) * popcount m (circleCount l s) + circleCount l s + popcount s (crossingNum l) := by
  unfold Cube.qDeg
  simp only [KhRef.mkCube_circ l ⟨0, 0, false⟩ s hs, mkCube_n]
  rfl

theorem ev_foldl_addTerm {α : Type} (q qinv : R) (E C : α → Int) (xs : List α) (acc : LP) :
    ev q qinv (xs.foldl (fun acc x => LP.addTerm (E x) (C x) acc) acc)
      = xs.foldl (fun a x => a + (C x : R) * zpow q qinv (E x)) (ev q qinv acc) := by
  induction xs generalizing acc with
  | nil => rfl
  | cons x xs ih => rw [List.foldl_cons, List.foldl_cons, ih, ev_addTerm]

theorem foldl_add_acc (f : Nat → R) (xs : List Nat) (z : R) :
    xs.foldl (fun a x => a + f x) z = z + xs.foldl (fun a x => a + f x) 0 := by
  induction xs generalizing z with
  | nil => simp
  | cons x xs ih => rw [List.foldl_cons, List.foldl_cons, ih, ih (0 + f x)]; ring

theorem ev_foldl_step (q qinv : R) (G : LP → Nat → LP) (g : Nat → R) (xs : List Nat)
    (h : ∀ s ∈ xs, ∀ acc, ev q qinv (G acc s) = ev q qinv acc + g s) (acc : LP) :
    ev q qinv (xs.foldl G acc) = xs.foldl (fun a s => a + g s) (ev q qinv acc) := by
  induction xs generalizing acc with
  | nil => rfl
  | cons x xs ih =>
    rw [List.foldl_cons, List.foldl_cons, ih (fun s hs => h s (List.mem_cons_of_mem _ hs)),
      h x List.mem_cons_self]

theorem cast_sign_neg (a b : Nat) :
    (((if (-(a : Int) + (b : Int)) % 2 == 0 then 1 else -1 : Int)) : R) = (-1) ^ (a + b) := by
  have h : (-(a : Int) + (b : Int)) % 2 = ((a + b : Nat) : Int) % 2 := by omega
  rw [h]
  exact cast_sign (a + b)

end Yuiv.C04
