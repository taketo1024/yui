import Yuiv.Proofs.C06CycleDefs
import Yuiv.Drv.C06
import Mathlib.Logic.Basic
/-
C06Cycle — the hypothesis check of the driver implies the predicate `bicoloured`.

The C06 driver (`Drv/C06.canonReply`) evaluates `crossingsBicoloured l cc` on the walk-model Seifert circles `cc`
(paths with colours) and `setsOk` (the sorted walk-model circles are the circles of the cube at the orientation
preserving state).  Both checks together give `bicoloured l circ (coloursInRefOrder cc circ)`, the hypothesis H of the
lifted cycle lemma, stated on the circles of the cube (`Props/C06Cycle.driver_hyp_gives_H`).  The paths and the cube
circles are two pairwise disjoint families with the same member sets, so "index of the first member containing `e`"
can be carried from one family to the other (`fidx_transfer_*`); `bicol_step` is the argument for one crossing.
-/
namespace Yuiv.C06Cycle
open Yuiv Yuiv.C06Canon

theorem eraseDups_pair {xs : List Nat} {i j : Nat} (h : xs.eraseDups = [i, j]) :
    i ≠ j ∧ (∀ x ∈ xs, x = i ∨ x = j) ∧ i ∈ xs ∧ j ∈ xs := by
  have hm : ∀ x, x ∈ xs ↔ x = i ∨ x = j := by
    intro x; rw [← List.mem_eraseDups, h]; simp
  refine ⟨?_, fun x hx => (hm x).1 hx, (hm i).2 (Or.inl rfl), (hm j).2 (Or.inr rfl)⟩
  cases xs with
  | nil => simp at h
  | cons a as =>
    rw [List.eraseDups_cons] at h
    simp only [List.cons.injEq] at h
    obtain ⟨rfl, h2⟩ := h
    have hj : j ∈ (as.filter fun b => !b == a).eraseDups := by rw [h2]; simp
    rw [List.mem_eraseDups, List.mem_filter] at hj
    intro hij; subst hij; simp at hj

theorem eraseDups_eq_pair {i j : Nat} {xs : List Nat} (hij : i ≠ j) (hall : ∀ x ∈ i :: xs, x = i ∨ x = j)
    (hj : j ∈ xs) : (i :: xs).eraseDups = [i, j] := by
  have hmem : ∀ x, x ∈ xs.filter (fun b => !b == i) ↔ x = j := by
    intro x
    rw [List.mem_filter]
    constructor
    · rintro ⟨hx, hne⟩
      exact (hall x (List.mem_cons_of_mem _ hx)).resolve_left (by simpa using hne)
    · rintro rfl
      exact ⟨hj, by simpa using Ne.symm hij⟩
  rw [List.eraseDups_cons]
  cases hys : xs.filter (fun b => !b == i) with
  | nil => exact absurd ((hmem j).2 rfl) (by rw [hys]; exact List.not_mem_nil)
  | cons y ys =>
    rw [hys] at hmem
    have hy : y = j := (hmem y).1 (List.mem_cons_self)
    have : ys.filter (fun b => !b == y) = [] := by
      rw [List.filter_eq_nil_iff]
      intro b hb
      have := (hmem b).1 (List.mem_cons_of_mem _ hb)
      simp [this, hy]
    rw [List.eraseDups_cons, this, hy]
    rfl

section generic
variable {α β : Type}

/-- position of the first entry of `L` containing `e` (w.r.t. the membership test `m`), `L.length` if none -/
def fidx (m : α → Nat → Bool) (L : List α) (e : Nat) : Nat := L.findIdx (fun c => m c e)

/-- entries at different positions have no common member -/
def PDisj (m : α → Nat → Bool) (L : List α) : Prop :=
  ∀ i j (hi : i < L.length) (hj : j < L.length) (x : Nat), m L[i] x = true → m L[j] x = true → i = j

/-- every entry of `L` has the same members as some entry of `L'` -/
def Cover (m : α → Nat → Bool) (m' : β → Nat → Bool) (L : List α) (L' : List β) : Prop :=
  ∀ c ∈ L, ∃ d ∈ L', ∀ x, m c x = true ↔ m' d x = true

theorem fidx_lt_iff {m : α → Nat → Bool} {L : List α} {e : Nat} :
    fidx m L e < L.length ↔ ∃ c ∈ L, m c e = true := by
  unfold fidx; rw [List.findIdx_lt_length]

theorem fidx_spec {m : α → Nat → Bool} {L : List α} {e : Nat} (h : fidx m L e < L.length) :
    m L[fidx m L e] e = true :=
  List.findIdx_getElem (p := fun c => m c e) (w := h)

theorem fidx_spec' {m : α → Nat → Bool} {L : List α} {e k : Nat} (hk : k < L.length) (h : fidx m L e = k) :
    m L[k] e = true := by
  subst h; exact fidx_spec hk

theorem fidx_eq_of_mem {m : α → Nat → Bool} {L : List α} (hd : PDisj m L) {k e : Nat} (hk : k < L.length)
    (hm : m L[k] e = true) : fidx m L e = k := by
  have hlt : fidx m L e < L.length := fidx_lt_iff.2 ⟨L[k], List.getElem_mem hk, hm⟩
  exact hd _ _ hlt hk e (fidx_spec hlt) hm

theorem fidx_transfer_lt {m : α → Nat → Bool} {m' : β → Nat → Bool} {L : List α} {L' : List β}
    (hc : Cover m m' L L') {e : Nat} (h : fidx m L e < L.length) : fidx m' L' e < L'.length := by
  obtain ⟨c, hcL, hce⟩ := fidx_lt_iff.1 h
  obtain ⟨d, hdL, hcd⟩ := hc c hcL
  exact fidx_lt_iff.2 ⟨d, hdL, (hcd e).1 hce⟩

theorem fidx_transfer_eq {m : α → Nat → Bool} {m' : β → Nat → Bool} {L : List α} {L' : List β}
    (hc : Cover m m' L L') (hd : PDisj m' L') {e e' : Nat} (h : fidx m L e < L.length)
    (h' : fidx m L e' = fidx m L e) : fidx m' L' e = fidx m' L' e' := by
  have s1 := fidx_spec h
  have s2 := fidx_spec' h h'
  obtain ⟨d, hdL, hcd⟩ := hc L[fidx m L e] (List.getElem_mem h)
  obtain ⟨k, hk, rfl⟩ := List.getElem_of_mem hdL
  rw [fidx_eq_of_mem hd hk ((hcd e).1 s1), fidx_eq_of_mem hd hk ((hcd e').1 s2)]

theorem cover_of_mem_map {m : α → Nat → Bool} {m' : β → Nat → Bool} {f : α → List Nat} {g : β → List Nat}
    (hf : ∀ a x, m a x = true ↔ x ∈ f a) (hg : ∀ b x, m' b x = true ↔ x ∈ g b) {L : List α} {L' : List β}
    (h : ∀ a ∈ L, f a ∈ L'.map g) : Cover m m' L L' := by
  intro a ha
  obtain ⟨b, hb, e⟩ := List.mem_map.1 (h a ha)
  exact ⟨b, hb, fun x => by rw [hf, hg, e]⟩

theorem pdisj_iff_pairwise {m : α → Nat → Bool} {L : List α} :
    PDisj m L ↔ L.Pairwise (fun a b => ∀ x, m a x = true → m b x = true → False) := by
  rw [List.pairwise_iff_getElem]
  constructor
  · intro h i j hi hj hlt x hxi hxj
    exact Nat.ne_of_lt hlt (h i j hi hj x hxi hxj)
  · intro h i j hi hj x hxi hxj
    rcases Nat.lt_trichotomy i j with hlt | heq | hgt
    · exact (h i j hi hj hlt x hxi hxj).elim
    · exact heq
    · exact (h j i hj hi hgt x hxj hxi).elim

end generic

theorem bicol_step {ι κ : Nat → Nat} {n N : Nat} {colP colQ : Nat → Colour}
    (hA : ∀ e, ι e < n → κ e < N)
    (hB : ∀ e e', ι e < n → ι e = ι e' → κ e = κ e')
    (hC : ∀ e, ι e < n → colQ (κ e) = colP (ι e))
    {es : List Nat} {i j : Nat} (hd : (es.map ι).eraseDups = [i, j]) (hi : i < n) (hj : j < n)
    (hcol : colP i ≠ colP j) :
    ((es.map κ).all (fun a => a < N) &&
     (es.map κ).any (fun a => (es.map κ).any (fun b => a != b)) &&
     (es.map κ).all (fun a => (es.map κ).all (fun b => a == b || colQ a != colQ b))) = true := by
  obtain ⟨_, hall, hi', hj'⟩ := eraseDups_pair hd
  have hlt : ∀ e ∈ es, ι e < n := by
    intro e he
    rcases hall (ι e) (List.mem_map_of_mem he) with h | h <;> omega
  obtain ⟨e1, he1, rfl⟩ := List.mem_map.1 hi'
  obtain ⟨e2, he2, rfl⟩ := List.mem_map.1 hj'
  simp only [Bool.and_eq_true, List.all_eq_true, List.any_eq_true, List.mem_map, decide_eq_true_eq,
    forall_exists_index, and_imp, forall_apply_eq_imp_iff₂, Bool.or_eq_true, beq_iff_eq, bne_iff_ne, ne_eq,
    exists_exists_and_eq_and]
  refine ⟨⟨fun e he => hA e (hlt e he), e1, he1, e2, he2, ?_⟩, ?_⟩
  · intro hk
    apply hcol
    rw [← hC e1 hi, ← hC e2 hj, hk]
  · intro e he e' he'
    by_cases hk : κ e = κ e'
    · exact Or.inl hk
    · right
      have hne : ι e ≠ ι e' := fun h => hk (hB e e' (hlt e he) h)
      rw [hC e (hlt e he), hC e' (hlt e' he')]
      rcases hall (ι e) (List.mem_map_of_mem he) with h | h <;>
        rcases hall (ι e') (List.mem_map_of_mem he') with h' | h' <;>
        rw [h, h'] at hne ⊢
      · exact absurd rfl hne
      · exact hcol
      · exact fun h => hcol h.symm
      · exact absurd rfl hne

/-- membership test of a coloured path -/
def mP : Path × Colour → Nat → Bool := fun pc e => pc.1.edges.contains e

/-- membership test of a cube circle -/
def mQ : Array Nat → Nat → Bool := fun c e => c.contains e

theorem driverIdx_eq (cc : List (Path × Colour)) (e : Nat) :
    (cc.findIdx? (fun pc => pc.1.edges.contains e)).getD cc.length = fidx mP cc e := by
  unfold fidx mP; rw [List.findIdx_eq_getD_findIdx?]

theorem circleIdx_eq (circ : Array (Array Nat)) (e : Nat) : circleIdx circ e = fidx mQ circ.toList e := by
  unfold circleIdx fidx mQ
  rcases circ with ⟨L⟩
  simp [List.findIdx_eq_getD_findIdx?]

theorem mem_sortNat {x : Nat} {xs : List Nat} : x ∈ Drv.C06.sortNat xs ↔ x ∈ xs := by
  unfold Drv.C06.sortNat
  have h := (Array.perm_iff_toList_perm.1 (C04Inv.qsort_perm xs.toArray (· < ·))).mem_iff (a := x)
  simpa using h

theorem colour_at (cc : List (Path × Colour)) (circ : Array (Array Nat)) {k : Nat} (hk : k < circ.size) :
    (coloursInRefOrder cc circ.toList).getD k .a =
      ((cc.find? (fun pc => mP pc ((circ[k]!)[0]!))).map (·.2)).getD .a := by
  unfold coloursInRefOrder mP
  simp only [List.getD_eq_getElem?_getD, List.getElem?_map, Array.getElem?_toList, hk, getElem?_pos,
    Option.map_some, Option.getD_some, getElem!_pos]
  cases List.find? (fun pc : Path × Colour => pc.1.edges.contains (circ[k][0]!)) cc <;> rfl

theorem colour_eq {cc : List (Path × Colour)} {circ : Array (Array Nat)}
    (hne : ∀ i, i < circ.size → circ[i]! ≠ #[])
    (hdQ : PDisj mQ circ.toList) (hdP : PDisj mP cc) (hQP : Cover mQ mP circ.toList cc) {e : Nat}
    (hk : fidx mQ circ.toList e < circ.size) (hi : fidx mP cc e < cc.length) :
    (coloursInRefOrder cc circ.toList).getD (fidx mQ circ.toList e) .a = (cc[fidx mP cc e]!).2 := by
  rw [colour_at cc circ hk]
  generalize hkk : fidx mQ circ.toList e = k at hk
  have hkl : k < circ.toList.length := by simpa using hk
  have hn := hne k hk
  rw [getElem!_pos circ k hk] at hn ⊢
  have hpos : 0 < circ[k].size := Array.size_pos_iff.2 hn
  rw [getElem!_pos circ[k] 0 hpos]
  have hr : mQ circ.toList[k] circ[k][0] = true := by
    simp [mQ]
  have hκr : fidx mQ circ.toList circ[k][0] = fidx mQ circ.toList e := by
    rw [hkk]; exact fidx_eq_of_mem hdQ hkl hr
  have hιr : fidx mP cc e = fidx mP cc circ[k][0] :=
    fidx_transfer_eq hQP hdP (by rw [hkk]; exact hkl) hκr
  have hf : cc.find? (fun pc => mP pc circ[k][0]) = some cc[fidx mP cc e] := by
    rw [List.find?_eq_getElem?_findIdx]
    show cc[fidx mP cc circ[k][0]]? = _
    rw [← hιr, getElem?_pos cc _ hi]
  rw [hf, getElem!_pos cc _ hi]
  rfl

end Yuiv.C06Cycle
