import Yuiv.Proofs.C08Schur
import Mathlib.LinearAlgebra.Matrix.ToLin
import Mathlib.LinearAlgebra.Quotient.Basic
/-
C08 — a chain homotopy equivalence induces an isomorphism on homology, at the matrix level of `Props/C08.lean`.
Homology of `A --f--> B --g--> C` is `Hmod f g = ker g ⧸ (im f ∩ ker g)`, a quotient of `LinearMap.ker g`: the usual
`ker g / im f` whenever `g ∘ f = 0`, a hypothesis the definition does not need.  Matrices act on column vectors
(`toLin'`, the convention of `Proofs/C08Schur.lean`).  For a complex `… → C_{i+1} --d i--> C_i → … → C_0`,
`Hn d n = Hmod (toLin' (d n)) (dOut d n)` with `dOut d 0 = 0`, so `Hn d 0 = C_0 / im d_0`.
-/
namespace Yuiv.C08
open Matrix

section modules
variable {R : Type*} [Ring R]
variable {A B C A' B' C' : Type*}
  [AddCommGroup A] [Module R A] [AddCommGroup B] [Module R B] [AddCommGroup C] [Module R C]
  [AddCommGroup A'] [Module R A'] [AddCommGroup B'] [Module R B'] [AddCommGroup C'] [Module R C']

def bdry (f : A →ₗ[R] B) (g : B →ₗ[R] C) : Submodule R (LinearMap.ker g) :=
  (LinearMap.range f).comap (LinearMap.ker g).subtype

theorem mem_bdry {f : A →ₗ[R] B} {g : B →ₗ[R] C} (z : LinearMap.ker g) :
    z ∈ bdry f g ↔ ∃ a, f a = z.1 := Iff.rfl

abbrev Hmod (f : A →ₗ[R] B) (g : B →ₗ[R] C) : Type _ := LinearMap.ker g ⧸ bdry f g

def cycMap {g : B →ₗ[R] C} {g' : B' →ₗ[R] C'} (φ : B →ₗ[R] B') (φC : C →ₗ[R] C')
    (hg : g' ∘ₗ φ = φC ∘ₗ g) : LinearMap.ker g →ₗ[R] LinearMap.ker g' :=
  φ.restrict (p := LinearMap.ker g) (q := LinearMap.ker g') (fun x hx => by
    have h := LinearMap.congr_fun hg x
    simp only [LinearMap.comp_apply] at h
    rw [LinearMap.mem_ker] at hx ⊢
    rw [h, hx, LinearMap.map_zero])

@[simp] theorem cycMap_coe {g : B →ₗ[R] C} {g' : B' →ₗ[R] C'} (φ : B →ₗ[R] B') (φC : C →ₗ[R] C')
    (hg : g' ∘ₗ φ = φC ∘ₗ g) (z : LinearMap.ker g) : (cycMap φ φC hg z : B') = φ z.1 := rfl

theorem cycMap_bdry {f : A →ₗ[R] B} {g : B →ₗ[R] C} {f' : A' →ₗ[R] B'} {g' : B' →ₗ[R] C'}
    (φA : A →ₗ[R] A') (φ : B →ₗ[R] B') (φC : C →ₗ[R] C')
    (hf : φ ∘ₗ f = f' ∘ₗ φA) (hg : g' ∘ₗ φ = φC ∘ₗ g) :
    bdry f g ≤ (bdry f' g').comap (cycMap φ φC hg) := by
  intro z hz
  obtain ⟨a, ha⟩ := (mem_bdry z).mp hz
  rw [Submodule.mem_comap, mem_bdry, cycMap_coe, ← ha]
  exact ⟨φA a, (LinearMap.congr_fun hf a).symm⟩

def Hmap {f : A →ₗ[R] B} {g : B →ₗ[R] C} {f' : A' →ₗ[R] B'} {g' : B' →ₗ[R] C'}
    (φA : A →ₗ[R] A') (φ : B →ₗ[R] B') (φC : C →ₗ[R] C')
    (hf : φ ∘ₗ f = f' ∘ₗ φA) (hg : g' ∘ₗ φ = φC ∘ₗ g) : Hmod f g →ₗ[R] Hmod f' g' :=
  (bdry f g).mapQ (bdry f' g') (cycMap φ φC hg) (cycMap_bdry φA φ φC hf hg)

theorem Hmap_mk {f : A →ₗ[R] B} {g : B →ₗ[R] C} {f' : A' →ₗ[R] B'} {g' : B' →ₗ[R] C'}
    (φA : A →ₗ[R] A') (φ : B →ₗ[R] B') (φC : C →ₗ[R] C')
    (hf : φ ∘ₗ f = f' ∘ₗ φA) (hg : g' ∘ₗ φ = φC ∘ₗ g) (z : LinearMap.ker g) :
    Hmap φA φ φC hf hg (Submodule.Quotient.mk z) = Submodule.Quotient.mk (cycMap φ φC hg z) := rfl

/-- if `ψ φ − 1 = f s + t g` then `ψ_* φ_* = 1` on homology: for a cycle `z`, `ψ φ z − z = f (s z)` is a boundary -/
theorem Hmap_comp_eq_id {f : A →ₗ[R] B} {g : B →ₗ[R] C} {f' : A' →ₗ[R] B'} {g' : B' →ₗ[R] C'}
    (φA : A →ₗ[R] A') (φ : B →ₗ[R] B') (φC : C →ₗ[R] C')
    (hf : φ ∘ₗ f = f' ∘ₗ φA) (hg : g' ∘ₗ φ = φC ∘ₗ g)
    (ψA : A' →ₗ[R] A) (ψ : B' →ₗ[R] B) (ψC : C' →ₗ[R] C)
    (hf' : ψ ∘ₗ f' = f ∘ₗ ψA) (hg' : g ∘ₗ ψ = ψC ∘ₗ g')
    (s : B →ₗ[R] A) (t : C →ₗ[R] B) (hh : ψ ∘ₗ φ - LinearMap.id = f ∘ₗ s + t ∘ₗ g) :
    Hmap ψA ψ ψC hf' hg' ∘ₗ Hmap φA φ φC hf hg = LinearMap.id := by
  refine Submodule.linearMap_qext _ (LinearMap.ext fun z => ?_)
  show Hmap ψA ψ ψC hf' hg' (Hmap φA φ φC hf hg (Submodule.Quotient.mk z)) = Submodule.Quotient.mk z
  rw [Hmap_mk, Hmap_mk, Submodule.Quotient.eq]
  refine (mem_bdry _).mpr ⟨s z.1, ?_⟩
  have h := LinearMap.congr_fun hh z.1
  simp only [LinearMap.sub_apply, LinearMap.comp_apply, LinearMap.id_apply, LinearMap.add_apply] at h
  have hz : g z.1 = 0 := z.2
  rw [hz, LinearMap.map_zero, add_zero] at h
  show f (s z.1) = ψ (φ z.1) - z.1
  exact h.symm

def homologyIso {f : A →ₗ[R] B} {g : B →ₗ[R] C} {f' : A' →ₗ[R] B'} {g' : B' →ₗ[R] C'}
    (φA : A →ₗ[R] A') (φ : B →ₗ[R] B') (φC : C →ₗ[R] C')
    (hf : φ ∘ₗ f = f' ∘ₗ φA) (hg : g' ∘ₗ φ = φC ∘ₗ g)
    (ψA : A' →ₗ[R] A) (ψ : B' →ₗ[R] B) (ψC : C' →ₗ[R] C)
    (hf' : ψ ∘ₗ f' = f ∘ₗ ψA) (hg' : g ∘ₗ ψ = ψC ∘ₗ g')
    (s : B →ₗ[R] A) (t : C →ₗ[R] B) (hh : ψ ∘ₗ φ - LinearMap.id = f ∘ₗ s + t ∘ₗ g)
    (s' : B' →ₗ[R] A') (t' : C' →ₗ[R] B') (hh' : φ ∘ₗ ψ - LinearMap.id = f' ∘ₗ s' + t' ∘ₗ g') :
    Hmod f g ≃ₗ[R] Hmod f' g' :=
  LinearEquiv.ofLinearMap (Hmap φA φ φC hf hg) (Hmap ψA ψ ψC hf' hg')
    (Hmap_comp_eq_id ψA ψ ψC hf' hg' φA φ φC hf hg s' t' hh')
    (Hmap_comp_eq_id φA φ φC hf hg ψA ψ ψC hf' hg' s t hh)

end modules

section matrices
variable {R : Type*} [CommRing R]

abbrev HMat {a b c : Type*} [Fintype a] [DecidableEq a] [Fintype b] [DecidableEq b]
    (dIn : Matrix b a R) (dOut : Matrix c b R) : Type _ :=
  Hmod (Matrix.toLin' dIn) (Matrix.toLin' dOut)

theorem toLin'_comm {p q p' q' : Type*} [Fintype q] [DecidableEq q] [Fintype p] [DecidableEq p]
    [Fintype q'] [DecidableEq q'] [Fintype p'] [DecidableEq p']
    {X : Matrix p' p R} {M : Matrix p q R} {M' : Matrix p' q' R} {Y : Matrix q' q R}
    (h : X * M = M' * Y) : Matrix.toLin' X ∘ₗ Matrix.toLin' M = Matrix.toLin' M' ∘ₗ Matrix.toLin' Y := by
  rw [← Matrix.toLin'_mul, ← Matrix.toLin'_mul, h]

theorem toLin'_htpy {a b c : Type*} [Fintype a] [DecidableEq a] [Fintype b] [DecidableEq b]
    [Fintype c] [DecidableEq c] {b' : Type*} [Fintype b'] [DecidableEq b']
    {Bk : Matrix b b' R} {Fw : Matrix b' b R} {dIn : Matrix b a R} {dOut : Matrix c b R}
    {s : Matrix a b R} {t : Matrix b c R} (h : Bk * Fw - 1 = dIn * s + t * dOut) :
    Matrix.toLin' Bk ∘ₗ Matrix.toLin' Fw - LinearMap.id
      = Matrix.toLin' dIn ∘ₗ Matrix.toLin' s + Matrix.toLin' t ∘ₗ Matrix.toLin' dOut := by
  rw [sub_eq_iff_eq_add] at h ⊢
  rw [← Matrix.toLin'_mul, ← Matrix.toLin'_mul, ← Matrix.toLin'_mul, ← Matrix.toLin'_one, ← LinearEquiv.map_add,
    ← LinearEquiv.map_add, h]

theorem toLin'_htpy_zero {b b' A C : Type*} [Fintype b] [DecidableEq b] [Fintype b'] [DecidableEq b']
    [AddCommGroup A] [Module R A] [AddCommGroup C] [Module R C]
    {Bk : Matrix b b' R} {Fw : Matrix b' b R} (h : Bk * Fw = 1) (f : A →ₗ[R] (b → R)) (g : (b → R) →ₗ[R] C) :
    Matrix.toLin' Bk ∘ₗ Matrix.toLin' Fw - LinearMap.id = f ∘ₗ 0 + 0 ∘ₗ g := by
  rw [← Matrix.toLin'_mul, h, Matrix.toLin'_one, sub_self, LinearMap.comp_zero, LinearMap.zero_comp, add_zero]

def homologyIsoMat {a b c a' b' c' : Type*}
    [Fintype a] [DecidableEq a] [Fintype b] [DecidableEq b] [Fintype c] [DecidableEq c]
    [Fintype a'] [DecidableEq a'] [Fintype b'] [DecidableEq b'] [Fintype c'] [DecidableEq c']
    {dIn : Matrix b a R} {dOut : Matrix c b R} {dIn' : Matrix b' a' R} {dOut' : Matrix c' b' R}
    (Fa : Matrix a' a R) (Fb : Matrix b' b R) (Fc : Matrix c' c R)
    (Ba : Matrix a a' R) (Bb : Matrix b b' R) (Bc : Matrix c c' R)
    (hFin : Fb * dIn = dIn' * Fa) (hFout : dOut' * Fb = Fc * dOut)
    (hBin : Bb * dIn' = dIn * Ba) (hBout : dOut * Bb = Bc * dOut')
    (s : Matrix a b R) (t : Matrix b c R) (hh : Bb * Fb - 1 = dIn * s + t * dOut)
    (s' : Matrix a' b' R) (t' : Matrix b' c' R) (hh' : Fb * Bb - 1 = dIn' * s' + t' * dOut') :
    HMat dIn dOut ≃ₗ[R] HMat dIn' dOut' :=
  homologyIso (Matrix.toLin' Fa) (Matrix.toLin' Fb) (Matrix.toLin' Fc) (toLin'_comm hFin) (toLin'_comm hFout)
    (Matrix.toLin' Ba) (Matrix.toLin' Bb) (Matrix.toLin' Bc) (toLin'_comm hBin) (toLin'_comm hBout)
    (Matrix.toLin' s) (Matrix.toLin' t) (toLin'_htpy hh) (Matrix.toLin' s') (Matrix.toLin' t') (toLin'_htpy hh')

end matrices

section complexes
variable {R : Type*} [CommRing R] {ι κ : ℕ → Type*}
  [∀ i, Fintype (ι i)] [∀ i, DecidableEq (ι i)] [∀ i, Fintype (κ i)] [∀ i, DecidableEq (κ i)]

def dOut (d : ∀ i, Matrix (ι i) (ι (i + 1)) R) : ∀ n, (ι n → R) →ₗ[R] (ι (n - 1) → R)
  | 0 => 0
  | i + 1 => Matrix.toLin' (d i)

/-- the companion of `dOut` for a degree `+1` map: `h (n-1) : C_{n-1} → C_n`, and `0` for `n = 0` -/
def hOut (h : ∀ i, Matrix (ι (i + 1)) (ι i) R) : ∀ n, (ι (n - 1) → R) →ₗ[R] (ι n → R)
  | 0 => 0
  | i + 1 => Matrix.toLin' (h i)

abbrev Hn (d : ∀ i, Matrix (ι i) (ι (i + 1)) R) (n : ℕ) : Type _ := Hmod (Matrix.toLin' (d n)) (dOut d n)

theorem dOut_F_comm {d : ∀ i, Matrix (ι i) (ι (i + 1)) R} {d' : ∀ i, Matrix (κ i) (κ (i + 1)) R}
    {F : ∀ i, Matrix (κ i) (ι i) R} (hF : ∀ i, F i * d i = d' i * F (i + 1)) :
    ∀ n, dOut d' n ∘ₗ Matrix.toLin' (F n) = Matrix.toLin' (F (n - 1)) ∘ₗ dOut d n
  | 0 => by simp [dOut]
  | i + 1 => (toLin'_comm (hF i)).symm

theorem dOut_B_comm {d : ∀ i, Matrix (ι i) (ι (i + 1)) R} {d' : ∀ i, Matrix (κ i) (κ (i + 1)) R}
    {B : ∀ i, Matrix (ι i) (κ i) R} (hB : ∀ i, d i * B (i + 1) = B i * d' i) :
    ∀ n, dOut d n ∘ₗ Matrix.toLin' (B n) = Matrix.toLin' (B (n - 1)) ∘ₗ dOut d' n
  | 0 => by simp [dOut]
  | i + 1 => toLin'_comm (hB i)

theorem dOut_htpy {d : ∀ i, Matrix (ι i) (ι (i + 1)) R} {F : ∀ i, Matrix (κ i) (ι i) R}
    {B : ∀ i, Matrix (ι i) (κ i) R} {h : ∀ i, Matrix (ι (i + 1)) (ι i) R}
    (h0 : B 0 * F 0 - 1 = d 0 * h 0)
    (hs : ∀ i, B (i + 1) * F (i + 1) - 1 = d (i + 1) * h (i + 1) + h i * d i) :
    ∀ n, Matrix.toLin' (B n) ∘ₗ Matrix.toLin' (F n) - LinearMap.id
      = Matrix.toLin' (d n) ∘ₗ Matrix.toLin' (h n) + hOut h n ∘ₗ dOut d n
  | 0 => by
    rw [dOut, LinearMap.comp_zero, add_zero]
    rw [sub_eq_iff_eq_add] at h0 ⊢
    rw [← Matrix.toLin'_mul, ← Matrix.toLin'_mul, ← Matrix.toLin'_one, ← LinearEquiv.map_add, h0]
  | i + 1 => toLin'_htpy (hs i)

def HnMap {d : ∀ i, Matrix (ι i) (ι (i + 1)) R} {d' : ∀ i, Matrix (κ i) (κ (i + 1)) R}
    (F : ∀ i, Matrix (κ i) (ι i) R) (hF : ∀ i, F i * d i = d' i * F (i + 1)) (n : ℕ) :
    Hn d n →ₗ[R] Hn d' n :=
  Hmap (Matrix.toLin' (F (n + 1))) (Matrix.toLin' (F n)) (Matrix.toLin' (F (n - 1)))
    (toLin'_comm (hF n)) (dOut_F_comm hF n)

/-- the map induced on `H_n` by a chain map `B` written in the `d B = B d'` form of `IsReduction.B_comm` -/
def HnMapB {d : ∀ i, Matrix (ι i) (ι (i + 1)) R} {d' : ∀ i, Matrix (κ i) (κ (i + 1)) R}
    (B : ∀ i, Matrix (ι i) (κ i) R) (hB : ∀ i, d i * B (i + 1) = B i * d' i) (n : ℕ) :
    Hn d' n →ₗ[R] Hn d n :=
  Hmap (Matrix.toLin' (B (n + 1))) (Matrix.toLin' (B n)) (Matrix.toLin' (B (n - 1)))
    (toLin'_comm (hB n)).symm (dOut_B_comm hB n)

def homologyIsoN {d : ∀ i, Matrix (ι i) (ι (i + 1)) R} {d' : ∀ i, Matrix (κ i) (κ (i + 1)) R}
    (F : ∀ i, Matrix (κ i) (ι i) R) (B : ∀ i, Matrix (ι i) (κ i) R)
    (hF : ∀ i, F i * d i = d' i * F (i + 1)) (hB : ∀ i, d i * B (i + 1) = B i * d' i)
    (h : ∀ i, Matrix (ι (i + 1)) (ι i) R) (h0 : B 0 * F 0 - 1 = d 0 * h 0)
    (hs : ∀ i, B (i + 1) * F (i + 1) - 1 = d (i + 1) * h (i + 1) + h i * d i)
    (h' : ∀ i, Matrix (κ (i + 1)) (κ i) R) (h0' : F 0 * B 0 - 1 = d' 0 * h' 0)
    (hs' : ∀ i, F (i + 1) * B (i + 1) - 1 = d' (i + 1) * h' (i + 1) + h' i * d' i) (n : ℕ) :
    Hn d n ≃ₗ[R] Hn d' n :=
  homologyIso (Matrix.toLin' (F (n + 1))) (Matrix.toLin' (F n)) (Matrix.toLin' (F (n - 1)))
    (toLin'_comm (hF n)) (dOut_F_comm hF n)
    (Matrix.toLin' (B (n + 1))) (Matrix.toLin' (B n)) (Matrix.toLin' (B (n - 1)))
    (toLin'_comm (hB n)).symm (dOut_B_comm hB n)
    (Matrix.toLin' (h n)) (hOut h n) (dOut_htpy h0 hs n)
    (Matrix.toLin' (h' n)) (hOut h' n) (dOut_htpy h0' hs' n)

theorem homologyIsoN_apply {d : ∀ i, Matrix (ι i) (ι (i + 1)) R} {d' : ∀ i, Matrix (κ i) (κ (i + 1)) R}
    (F : ∀ i, Matrix (κ i) (ι i) R) (B : ∀ i, Matrix (ι i) (κ i) R)
    (hF : ∀ i, F i * d i = d' i * F (i + 1)) (hB : ∀ i, d i * B (i + 1) = B i * d' i)
    (h : ∀ i, Matrix (ι (i + 1)) (ι i) R) (h0 : B 0 * F 0 - 1 = d 0 * h 0)
    (hs : ∀ i, B (i + 1) * F (i + 1) - 1 = d (i + 1) * h (i + 1) + h i * d i)
    (h' : ∀ i, Matrix (κ (i + 1)) (κ i) R) (h0' : F 0 * B 0 - 1 = d' 0 * h' 0)
    (hs' : ∀ i, F (i + 1) * B (i + 1) - 1 = d' (i + 1) * h' (i + 1) + h' i * d' i) (n : ℕ) :
    (∀ x, homologyIsoN F B hF hB h h0 hs h' h0' hs' n x = HnMap F hF n x) ∧
    (∀ y, (homologyIsoN F B hF hB h h0 hs h' h0' hs' n).symm y = HnMapB B hB n y) :=
  ⟨fun _ => rfl, fun _ => rfl⟩

/-- the data of `IsHomotopyEquiv` (`F B = 1`, so `h' = 0`) -/
def IsHomotopyEquiv.homologyIso {d : ∀ i, Matrix (ι i) (ι (i + 1)) R} {d' : ∀ i, Matrix (κ i) (κ (i + 1)) R}
    {F : ∀ i, Matrix (κ i) (ι i) R} {B : ∀ i, Matrix (ι i) (κ i) R} {h : ∀ i, Matrix (ι (i + 1)) (ι i) R}
    (e : IsHomotopyEquiv d d' F B h) (n : ℕ) : Hn d n ≃ₗ[R] Hn d' n :=
  homologyIsoN F B e.F_comm e.B_comm h e.htpy_zero e.htpy_succ (fun _ => 0)
    (by rw [e.FB, sub_self, Matrix.mul_zero])
    (fun i => by rw [e.FB, sub_self, Matrix.mul_zero, Matrix.zero_mul, add_zero]) n

end complexes

end Yuiv.C08
