import Yuiv.Proofs.C15
import Mathlib.Data.Int.GCD
/-
C15 — the model `Q` of `Ratio`: the canonical form `WF`, which `make` produces, and the shape of the inverse of a
canonical fraction.  Normalisation, gcd and the field laws are in Proofs/C15FieldModel.
-/
namespace Yuiv.C15

namespace Q

/-- canonical form: positive denominator, lowest terms (what `Ratio::new` produces) -/
def WF (x : Q) : Prop := 0 < x.den ∧ Int.gcd x.num x.den = 1

theorem wf_zero : WF zero := ⟨by decide, by decide⟩
theorem wf_one : WF one := ⟨by decide, by decide⟩

/-- `Ratio::new` on a non-zero numerator: multiply by the sign `s` of the denominator, divide by the gcd
(the divisions are exact, so truncating and flooring division agree) -/
theorem make_eq (n d : Int) (hn : n ≠ 0) :
    ∃ s : Int, (s = 1 ∨ s = -1) ∧ (d ≠ 0 → 0 < d * s) ∧ 0 < Int.gcd n d ∧
      ((Int.gcd n d : Nat) : Int) ∣ n * s ∧ ((Int.gcd n d : Nat) : Int) ∣ d * s ∧
      make n d = ⟨n * s / ((Int.gcd n d : Nat) : Int), d * s / ((Int.gcd n d : Nat) : Int)⟩ := by
  have h1 : ∀ s, ((Int.gcd n d : Nat) : Int) ∣ n * s := Dvd.dvd.mul_right (Int.gcd_dvd_left n d)
  have h2 : ∀ s, ((Int.gcd n d : Nat) : Int) ∣ d * s := Dvd.dvd.mul_right (Int.gcd_dvd_right n d)
  have e : ∀ s, make n d = ⟨(n * s).tdiv ((Int.gcd n d : Nat) : Int), (d * s).tdiv ((Int.gcd n d : Nat) : Int)⟩ →
      make n d = ⟨n * s / ((Int.gcd n d : Nat) : Int), d * s / ((Int.gcd n d : Nat) : Int)⟩ := by
    intro s h; rw [h, Int.tdiv_eq_ediv_of_dvd (h1 s), Int.tdiv_eq_ediv_of_dvd (h2 s)]
  by_cases hd : d < 0
  · exact ⟨-1, Or.inr rfl, fun _ => by omega, Int.gcd_pos_of_ne_zero_left d hn, h1 _, h2 _,
      e _ (by simp [make, hn, hd])⟩
  · exact ⟨1, Or.inl rfl, fun _ => by omega, Int.gcd_pos_of_ne_zero_left d hn, h1 _, h2 _,
      e _ (by simp [make, hn, hd])⟩

theorem make_wf (n d : Int) (hd : d ≠ 0) : WF (make n d) := by
  by_cases hn : n = 0
  · subst hn; exact wf_zero
  · obtain ⟨s, hs, hpos, hg, h1, h2, e⟩ := make_eq n d hn
    rw [e]
    have hgs : Int.gcd (n * s) (d * s) = Int.gcd n d := by
      rw [Int.gcd_mul_right]; rcases hs with rfl | rfl <;> simp
    constructor
    · exact Int.ediv_pos_of_pos_of_dvd (hpos hd) (by omega) h2
    · rw [← hgs]
      exact Int.gcd_div_gcd_div_gcd (by rw [hgs]; exact hg)

theorem make_pos_self (a : Int) (ha : 0 < a) : make a a = one := by
  unfold make
  have h0 : (a == 0) = false := by simp; omega
  have hneg : ¬ a < 0 := by omega
  have hg : ((Int.gcd a a : Nat) : Int) = a := by
    rw [Int.gcd_self]; omega
  simp only [h0, hneg, if_false, mul_one, hg, Bool.false_eq_true]
  rw [Int.tdiv_self (by omega)]; rfl

theorem make_num_eq_zero (n d : Int) (h : (make n d).num = 0) : n = 0 := by
  by_contra hn
  obtain ⟨s, hs, _, hg, h1, _, e⟩ := make_eq n d hn
  rw [e] at h
  have := Int.eq_mul_of_ediv_eq_right h1 h
  rcases hs with rfl | rfl <;> omega

theorem wf_num_zero (x : Q) (h : WF x) (h0 : x.num = 0) : x = zero := by
  obtain ⟨n, d⟩ := x
  simp only at h0; subst h0
  have := h.2; simp only [Int.gcd_zero_left] at this
  have hd := h.1; simp only at hd
  have : d = 1 := by omega
  subst this; rfl

theorem inv_eq (x : Q) (h : WF x) (h0 : x.num ≠ 0) :
    ∃ s : Int, (s = 1 ∨ s = -1) ∧ 0 < x.num * s ∧ inv x = some ⟨x.den * s, x.num * s⟩ := by
  unfold inv isZero make
  have hd : x.den ≠ 0 := by have := h.1; omega
  have hg : ((Int.gcd x.den x.num : Nat) : Int) = 1 := by rw [Int.gcd_comm, h.2]; rfl
  simp only [beq_iff_eq, h0, hd, if_false, hg, Int.tdiv_one]
  by_cases hn : x.num < 0
  · exact ⟨-1, Or.inr rfl, by omega, by simp [hn]⟩
  · exact ⟨1, Or.inl rfl, by omega, by simp [hn]⟩

theorem normUnit_of_zero {a : Q} (h : a.num = 0) : normUnit a = one := by simp [normUnit, inv, isZero, h]

theorem normUnit_of_ne {a : Q} (h : a.num ≠ 0) : normUnit a = make a.den a.num := by
  simp [normUnit, inv, isZero, h]

end Q
end Yuiv.C15
