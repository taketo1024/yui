import Yuiv.Proofs.C06CycleD
/-
The imperative `KhRef.Cube.d` (nested `for` loops over the cube edges, the common
circles and the table rows, with an early `return none`) equals, for ALL inputs of the unreduced theory
(`c.base = none`), the loop-free functional form `dF`:

    dF c p g = foldlM over k < c.n:  bit k of g.s clear ⇒ append  sign(g.s,k) • edgeTerms h t circ[s] circ[s|2^k] mask

`edgeTerms h t cs cs' mask` is the unsigned edge map between two circle lists (merge: `prod`, split: `coprod`,
`none` if the lists do not differ by one merge/split); it depends on the two circle lists only.
The equation is read off the loop-free form `C06Cycle.cube_d_eq` (all cubes): `C06Cycle.edgeTerms` is the signed
`edgeTerms` (`edgeTerms_bridge`), and the fold over `Array` accumulators is that over `List`s.
-/
namespace Yuiv.C02Mirror
open Yuiv Yuiv.KhRef

def carry (cs cs' : Array (Array Nat)) (mask : Nat) : Nat :=
  (List.range' 0 cs.size).foldl (fun m0 i =>
    if cs'.contains cs[i]! then setBit m0 ((cs'.findIdx? (· == cs[i]!)).getD 0) (mask.testBit i) else m0) 0

def goneOf (cs cs' : Array (Array Nat)) : Array Nat :=
  (Array.range cs.size).filter (fun i => !cs'.contains cs[i]!)

/-- the (unsigned) edge map `cs → cs'` on a labelling `mask` of `cs`: target labellings with coefficients;
`none` if the two circle lists do not differ by one merge or one split -/
def edgeTerms (h t : Int) (cs cs' : Array (Array Nat)) (mask : Nat) : Option (List (Nat × Int)) :=
  let gone := goneOf cs cs'
  let born := goneOf cs' cs
  let m0 := carry cs cs' mask
  if gone.size == 2 && born.size == 1 then
    some ((prod h t (mask.testBit gone[0]!) (mask.testBit gone[1]!)).filterMap
      (fun (ya : Bool × Int) => if ya.2 != 0 then some (setBit m0 born[0]! ya.1, ya.2) else none))
  else if gone.size == 1 && born.size == 2 then
    some ((coprod h t (mask.testBit gone[0]!)).filterMap
      (fun (ya : Bool × Bool × Int) => if ya.2.2 != 0 then some (setBit (setBit m0 born[0]! ya.1) born[1]! ya.2.1, ya.2.2) else none))
  else none

def dStep (c : Cube) (p : Params) (g : Gen) (out : Array Term) (k : Nat) : Option (Array Term) :=
  if !g.s.testBit k then
    match edgeTerms p.h p.t c.circ[g.s]! c.circ[g.s ||| 1 <<< k]! g.mask with
    | none => none
    | some ts => some (out ++ (ts.map (fun mt => ((⟨g.s ||| 1 <<< k, mt.1⟩ : Gen), edgeSign g.s k * mt.2))).toArray)
  else some out

def dF (c : Cube) (p : Params) (g : Gen) : Option (Array Term) :=
  (List.range' 0 c.n).foldlM (dStep c p g) #[]

theorem carry_bridge (cs cs' : Array (Array Nat)) (m : Nat) : C06Cycle.carry cs cs' m = carry cs cs' m := by
  unfold C06Cycle.carry carry
  rw [List.range_eq_range']

theorem edgeTerms_bridge (c : Cube) (p : Params) (g : Gen) (k : Nat) :
    C06Cycle.edgeTerms c p g k =
      (edgeTerms p.h p.t c.circ[g.s]! c.circ[g.s ||| 1 <<< k]! g.mask).map
        (fun ts => ts.map (fun mt => ((⟨g.s ||| 1 <<< k, mt.1⟩ : Gen), edgeSign g.s k * mt.2))) := by
  have eg : C06Cycle.goneOf c.circ[g.s]! c.circ[g.s ||| 1 <<< k]! = goneOf c.circ[g.s]! c.circ[g.s ||| 1 <<< k]! := rfl
  have eb : C06Cycle.bornOf c.circ[g.s]! c.circ[g.s ||| 1 <<< k]! = goneOf c.circ[g.s ||| 1 <<< k]! c.circ[g.s]! := rfl
  unfold C06Cycle.edgeTerms edgeTerms
  simp only
  rw [eg, eb, carry_bridge]
  generalize goneOf c.circ[g.s]! c.circ[g.s ||| 1 <<< k]! = gone
  generalize goneOf c.circ[g.s ||| 1 <<< k]! c.circ[g.s]! = born
  generalize carry c.circ[g.s]! c.circ[g.s ||| 1 <<< k]! g.mask = m0
  generalize g.s ||| 1 <<< k = s'
  generalize edgeSign g.s k = sign
  by_cases h1 : (gone.size == 2 && born.size == 1) = true
  · rw [if_pos h1, if_pos h1, Option.map_some, List.map_filterMap]
    exact congrArg (fun f => some (List.filterMap f _)) (funext fun x => by split <;> rfl)
  · rw [if_neg h1, if_neg h1]
    by_cases h2 : (gone.size == 1 && born.size == 2) = true
    · rw [if_pos h2, if_pos h2, Option.map_some, List.map_filterMap]
      exact congrArg (fun f => some (List.filterMap f _)) (funext fun x => by split <;> rfl)
    · rw [if_neg h2, if_neg h2]
      rfl

theorem dStep_eq (c : Cube) (p : Params) (g : Gen) (out : Array Term) (k : Nat) :
    dStep c p g out k = C06Cycle.DModel.stepA c p g out k := by
  unfold dStep C06Cycle.DModel.stepA
  rw [edgeTerms_bridge]
  cases g.s.testBit k
  · cases edgeTerms p.h p.t c.circ[g.s]! c.circ[g.s ||| 1 <<< k]! g.mask <;> rfl
  · rfl

theorem d_eq (c : Cube) (p : Params) (g : Gen) (hb : c.base = none) : c.d p g = dF c p g := by
  have hF : dStep c p g = C06Cycle.DModel.stepA c p g := funext fun out => funext fun k => dStep_eq c p g out k
  rw [C06Cycle.cube_d_eq, hb]
  unfold dF C06Cycle.dRaw
  rw [hF, ← List.range_eq_range']
  exact (C06Cycle.DModel.foldlM_toArray c p g (List.range c.n) []).symm

end Yuiv.C02Mirror
