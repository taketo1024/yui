import Yuiv.Proofs.C18
/-
C18 — the slots of a PD code.  On a valid code `partner` = `pass_edge` (other end of the edge) is a
fixed-point-free involution of the slots, and so is `thru` = `pass` (other end of the strand through the crossing); the
walk of `traverse_edges` enumerates the orbit of its start slot under `step = partner ∘ thru` exactly once and returns
to the start within `4·n` steps (no panic).  `partner ∘ step = step⁻¹ ∘ partner`, so a `step`-orbit never contains
the partner of one of its members (`no_flip`: descent on the distance along the orbit), and the labels read along one
walk are pairwise distinct.
-/
namespace Yuiv.C18
open Yuiv

/-- valid PD code: every label that occurs, occurs in exactly two slots -/
def Valid (l : Link) : Prop := ∀ e ∈ allEdges l, (allEdges l).count e = 2

instance (l : Link) : Decidable (Valid l) := by unfold Valid; infer_instance

/-- `h = (i, j)` is a slot (half-edge) of `l`: position `j` of crossing `i` -/
def HE (l : Link) (h : Nat × Nat) : Prop := h.1 < l.length ∧ h.2 < 4

/-- the label carried by a slot -/
def lab (l : Link) (h : Nat × Nat) : Nat := edgeAt l h.1 h.2

/-- the other end of the strand through the crossing (`pass`) -/
def thru (l : Link) (h : Nat × Nat) : Nat × Nat := (h.1, (ctypeAt l h.1).pass h.2)

/-- the other end of the edge (`pass_edge`) -/
def partner (l : Link) (h : Nat × Nat) : Nat × Nat := (passEdge l h.1 h.2).getD h

/-- the half-edge map, as one round of the loop of `traverse_edges` computes it; `partner ∘ thru` on a valid code
(`step_eq`) -/
def step (l : Link) (h : Nat × Nat) : Nat × Nat :=
  (passEdge l h.1 ((ctypeAt l h.1).pass h.2)).getD h

def iter {α} (f : α → α) : Nat → α → α
  | 0, x => x
  | n + 1, x => f (iter f n x)

/-- `v` (most recent first) is a walk from `s`: each entry is the `f`-image of the one after it, the last is `s` -/
def RChain {α} (f : α → α) (s : α) : List α → Prop
  | [] => False
  | [x] => x = s
  | x :: y :: r => x = f y ∧ RChain f s (y :: r)

theorem slotsFrom_snd (l : List Crossing) (i : Nat) :
    (slotsFrom l i).map (·.2) = l.flatMap Crossing.edges := by
  induction l generalizing i with
  | nil => rfl
  | cons c cs ih => simp [slotsFrom, ih, Crossing.edges]

theorem slots_snd (l : Link) : (slots l).map (·.2) = allEdges l := slotsFrom_snd l 0

theorem lt_four : ∀ {j : Nat}, j < 4 → j = 0 ∨ j = 1 ∨ j = 2 ∨ j = 3 := by decide

/-- the slots in the order of the two nested loops of `pass_edge`, each with its label; `pre` are the crossings
before the offset -/
theorem slotsFrom_closed (l pre : List Crossing) :
    slotsFrom l pre.length =
      ((List.range' pre.length l.length).flatMap (fun i => (List.range 4).map (fun j => (i, j)))).map
        (fun p => (p, edgeAt (pre ++ l) p.1 p.2)) := by
  induction l generalizing pre with
  | nil => rfl
  | cons c cs ih =>
    have e : pre ++ c :: cs = (pre ++ [c]) ++ cs := by rw [List.append_assoc]; rfl
    have hl : (pre ++ [c]).length = pre.length + 1 := by simp
    have ih' := ih (pre ++ [c])
    rw [hl] at ih'
    rw [slotsFrom, ih', List.length_cons, List.range'_succ, List.flatMap_cons, List.map_append, e]
    have hk : ∀ j, edgeAt (pre ++ [c] ++ cs) pre.length j = c.edge j := by
      intro j
      unfold edgeAt
      rw [← e, List.getElem?_append_right (Nat.le_refl _)]
      simp
    show _ = [((pre.length, 0), _), ((pre.length, 1), _), ((pre.length, 2), _), ((pre.length, 3), _)] ++ _
    simp only [hk]
    rfl

theorem slots_closed (l : Link) :
    slots l = ((List.range l.length).flatMap (fun i => (List.range 4).map (fun j => (i, j)))).map
      (fun p => (p, edgeAt l p.1 p.2)) := by
  have := slotsFrom_closed l []
  rwa [List.length_nil, List.nil_append, ← List.range_eq_range'] at this

theorem mem_slots (l : Link) (h : Nat × Nat) (e : Nat) :
    (h, e) ∈ slots l ↔ (HE l h ∧ e = edgeAt l h.1 h.2) := by
  rw [slots_closed]
  simp only [List.mem_map, List.mem_flatMap, List.mem_range, Prod.mk.injEq, HE]
  constructor
  · rintro ⟨p, ⟨i, hi, j, hj, rfl⟩, rfl, rfl⟩
    exact ⟨⟨hi, hj⟩, rfl⟩
  · rintro ⟨⟨h1, h2⟩, rfl⟩
    exact ⟨h, ⟨h.1, h1, h.2, h2, rfl⟩, rfl, rfl⟩

theorem slots_keys_nodup (l : Link) : ((slots l).map (·.1)).Nodup := by
  rw [slots_closed, List.map_map]
  show (List.map id _).Nodup
  rw [List.map_id]
  unfold List.Nodup
  rw [List.pairwise_flatMap]
  refine ⟨fun i _ => ?_, ?_⟩
  · rw [List.pairwise_map]
    exact List.nodup_range.imp fun h e => h (Prod.mk.inj e).2
  · refine List.nodup_range.imp fun {i i'} h p hp q hq e => ?_
    obtain ⟨_, _, rfl⟩ := List.mem_map.1 hp
    obtain ⟨_, _, rfl⟩ := List.mem_map.1 hq
    exact h (Prod.mk.inj e).1

theorem slotsFrom_length (l : List Crossing) (i : Nat) : (slotsFrom l i).length = 4 * l.length := by
  induction l generalizing i with
  | nil => rfl
  | cons c cs ih => simp only [slotsFrom, List.length_cons, ih]; omega

theorem mem_slots_keys (l : Link) (h : Nat × Nat) : h ∈ (slots l).map (·.1) ↔ HE l h := by
  rw [List.mem_map]
  constructor
  · rintro ⟨⟨h', e⟩, hm, rfl⟩
    exact ((mem_slots l h' e).1 hm).1
  · intro hh
    exact ⟨(h, edgeAt l h.1 h.2), (mem_slots l h _).2 ⟨hh, rfl⟩, rfl⟩

theorem mem_allEdges (l : Link) (e : Nat) : e ∈ allEdges l ↔ ∃ h, HE l h ∧ lab l h = e := by
  rw [← slots_snd, List.mem_map]
  constructor
  · rintro ⟨⟨h, e'⟩, hm, rfl⟩
    obtain ⟨hh, he⟩ := (mem_slots l h e').1 hm
    exact ⟨h, hh, he.symm⟩
  · rintro ⟨h, hh, rfl⟩
    exact ⟨(h, lab l h), (mem_slots l h _).2 ⟨hh, rfl⟩, rfl⟩

theorem passEdge_range (l : Link) (i j : Nat) (h : Nat × Nat) (hp : passEdge l i j = some h) : HE l h := by
  unfold passEdge at hp
  cases hf : List.find? (fun s => s.2 == edgeAt l i j && s.1 != (i, j)) (slots l) with
  | none => simp only [hf] at hp; cases hp
  | some x =>
    simp only [hf, Option.map_some, Option.some.injEq] at hp
    have hm := List.mem_of_find?_eq_some hf
    obtain ⟨h', e⟩ := x
    simp only at hp
    subst hp
    exact ((mem_slots l h' e).1 hm).1

theorem traverseLoop_all (l : Link) (P : Nat × Nat → Prop) (start : Nat × Nat) (hs : P start)
    (hpass : ∀ c, P c → P (c.1, (ctypeAt l c.1).pass c.2))
    (hedge : ∀ i j h, passEdge l i j = some h → P h) :
    ∀ (fuel : Nat) (cur : Nat × Nat) (acc : List (Nat × Nat)) (path : List (Nat × Nat)),
      P cur → (∀ p ∈ acc, P p) → traverseLoop l start fuel cur acc = .ok path →
      (∀ p ∈ path, P p) ∧ acc.length + 2 ≤ path.length := by
  intro fuel
  induction fuel with
  | zero => intro cur acc path _ _ h; cases h
  | succ fuel ih =>
    intro cur acc path hc hacc h
    have hcons : ∀ p ∈ cur :: acc, P p := fun p hp => (List.mem_cons.1 hp).elim (· ▸ hc) (hacc p)
    -- both exits report one more slot `x` in front of `cur :: acc`
    have hexit (x : Nat × Nat) (hx : P x) (h : Res.ok (x :: cur :: acc).reverse = Res.ok path) :
        (∀ p ∈ path, P p) ∧ acc.length + 2 ≤ path.length := by
      cases h
      refine ⟨fun p hp => ?_, by simp⟩
      exact (List.mem_cons.1 (List.mem_reverse.1 hp)).elim (· ▸ hx) (hcons p)
    unfold traverseLoop at h
    cases hp : passEdge l cur.1 ((ctypeAt l cur.1).pass cur.2) with
    | none => simp only [hp] at h; exact hexit _ (hpass cur hc) h
    | some next =>
      simp only [hp] at h
      split at h
      · exact hexit _ hs h
      · have := ih next (cur :: acc) path (hedge _ _ next hp) hcons h
        exact ⟨this.1, Nat.le_of_succ_le this.2⟩

theorem traverse_range (l : Link) (s : Nat × Nat) (hs : s.1 < l.length) (path : List (Nat × Nat))
    (h : traverse l s = .ok path) : ∀ p ∈ path, p.1 < l.length :=
  (traverseLoop_all l (fun p => p.1 < l.length) s hs (fun _ hc => hc)
    (fun i j q hq => (passEdge_range l i j q hq).1) _ s [] path hs (fun _ hp => nomatch hp) h).1

theorem length_two {α} (l : List α) (h : l.length = 2) : ∃ a b, l = [a, b] := by
  match l, h with
  | [a, b], _ => exact ⟨a, b, rfl⟩

theorem find_partner {α} [BEq α] [LawfulBEq α] (S : List (α × Nat)) (hk : (S.map (·.1)).Nodup) (e : Nat)
    (hc : (S.filter (fun s => s.2 == e)).length = 2) (h : α) (hm : (h, e) ∈ S) :
    ∃ h', h' ≠ h ∧ (h', e) ∈ S ∧
      S.find? (fun s => s.2 == e && s.1 != h) = some (h', e) ∧
      S.find? (fun s => s.2 == e && s.1 != h') = some (h, e) ∧
      ∀ k, (k, e) ∈ S → k = h ∨ k = h' := by
  obtain ⟨⟨a, ea⟩, ⟨b, eb⟩, hF⟩ := length_two _ hc
  have hmem : ∀ x, x ∈ S ∧ (x.2 == e) = true ↔ x = (a, ea) ∨ x = (b, eb) := by
    intro x
    have h : x ∈ S.filter (fun s => s.2 == e) ↔ x ∈ S ∧ (x.2 == e) = true := List.mem_filter
    rw [hF, List.mem_cons, List.mem_singleton] at h
    exact h.symm
  obtain ⟨ha, hea⟩ := (hmem _).2 (Or.inl rfl)
  obtain ⟨hb, heb⟩ := (hmem _).2 (Or.inr rfl)
  have hea : ea = e := eq_of_beq hea
  have heb : eb = e := eq_of_beq heb
  subst ea eb
  have hab : a ≠ b := by
    have hs : ((S.filter (fun s => s.2 == e)).map (·.1)).Nodup := hk.sublist (List.filter_sublist.map _)
    rw [hF] at hs
    exact (List.pairwise_cons.1 hs).1 b List.mem_cons_self
  have hkey : ∀ k, (k, e) ∈ S → k = a ∨ k = b := by
    intro k hk
    rcases (hmem _).1 ⟨hk, beq_self_eq_true e⟩ with h1 | h1
    · exact Or.inl (Prod.mk.inj h1).1
    · exact Or.inr (Prod.mk.inj h1).1
  have hfind : ∀ q : α × Nat → Bool,
      S.find? (fun s => s.2 == e && q s) = [(a, e), (b, e)].find? q := by
    intro q
    rw [← hF, List.find?_filter]
    congr 1
    funext s
    cases (s.2 == e) <;> cases q s <;> rfl
  have fa : [(a, e), (b, e)].find? (fun s => s.1 != a) = some (b, e) := by
    rw [List.find?_cons_of_neg (by simp), List.find?_cons_of_pos (by simpa using Ne.symm hab)]
  have fb : [(a, e), (b, e)].find? (fun s => s.1 != b) = some (a, e) := by
    rw [List.find?_cons_of_pos (by simpa using hab)]
  rcases hkey h hm with rfl | rfl
  · exact ⟨b, Ne.symm hab, hb, (hfind _).trans fa, (hfind _).trans fb, hkey⟩
  · exact ⟨a, hab, ha, (hfind _).trans fb, (hfind _).trans fa, fun k hk => (hkey k hk).symm⟩

theorem count_slots (l : Link) (e : Nat) :
    ((slots l).filter (fun s => s.2 == e)).length = (allEdges l).count e := by
  rw [← slots_snd, List.count_eq_countP, List.countP_map, List.countP_eq_length_filter]
  rfl

theorem passEdge_unique (l : Link) (hv : Valid l) (h : Nat × Nat) (hh : HE l h) :
    ∃ h', passEdge l h.1 h.2 = some h' ∧ HE l h' ∧ h' ≠ h ∧
      edgeAt l h'.1 h'.2 = edgeAt l h.1 h.2 ∧ passEdge l h'.1 h'.2 = some h ∧
      ∀ k, HE l k → edgeAt l k.1 k.2 = edgeAt l h.1 h.2 → k = h ∨ k = h' := by
  have hm : (h, edgeAt l h.1 h.2) ∈ slots l := (mem_slots l h _).2 ⟨hh, rfl⟩
  have hin : edgeAt l h.1 h.2 ∈ allEdges l := (mem_allEdges l _).2 ⟨h, hh, rfl⟩
  have hc : ((slots l).filter (fun s => s.2 == edgeAt l h.1 h.2)).length = 2 := by
    rw [count_slots]; exact hv _ hin
  obtain ⟨h', hne, hm', hf1, hf2, hu⟩ := find_partner (slots l) (slots_keys_nodup l) _ hc h hm
  have hh' := (mem_slots l h' _).1 hm'
  refine ⟨h', ?_, hh'.1, hne, hh'.2.symm, ?_, fun k hk he => hu k ((mem_slots l k _).2 ⟨hk, he.symm⟩)⟩
  · show ((slots l).find? (fun s => s.2 == edgeAt l h.1 h.2 && s.1 != h)).map _ = _
    rw [hf1]; rfl
  · show ((slots l).find? (fun s => s.2 == edgeAt l h'.1 h'.2 && s.1 != h')).map _ = _
    rw [← hh'.2, hf2]; rfl

theorem passEdge_valid' (l : Link) (hv : Valid l) (h : Nat × Nat) (hh : HE l h) :
    ∃ h', passEdge l h.1 h.2 = some h' ∧ HE l h' ∧ h' ≠ h ∧
      edgeAt l h'.1 h'.2 = edgeAt l h.1 h.2 ∧ passEdge l h'.1 h'.2 = some h :=
  let ⟨h', h1, h2, h3, h4, h5, _⟩ := passEdge_unique l hv h hh
  ⟨h', h1, h2, h3, h4, h5⟩

theorem ctypeAt_pass_lt (l : Link) (h : Nat × Nat) (hh : HE l h) : HE l (h.1, (ctypeAt l h.1).pass h.2) :=
  ⟨hh.1, pass_lt' _ _ hh.2⟩

theorem step_spec (l : Link) (hv : Valid l) (h : Nat × Nat) (hh : HE l h) :
    passEdge l h.1 ((ctypeAt l h.1).pass h.2) = some (step l h) ∧ HE l (step l h) ∧
    passEdge l (step l h).1 (step l h).2 = some (h.1, (ctypeAt l h.1).pass h.2) := by
  obtain ⟨h', h1, h2, _, _, h5⟩ := passEdge_valid' l hv _ (ctypeAt_pass_lt l h hh)
  have : step l h = h' := by unfold step; rw [h1]; rfl
  rw [this]
  exact ⟨h1, h2, h5⟩

theorem step_inj (l : Link) (hv : Valid l) (a b : Nat × Nat) (ha : HE l a) (hb : HE l b)
    (h : step l a = step l b) : a = b := by
  have h1 := (step_spec l hv a ha).2.2
  have h2 := (step_spec l hv b hb).2.2
  rw [h] at h1
  rw [h1] at h2
  simp only [Option.some.injEq, Prod.mk.injEq] at h2
  obtain ⟨h3, h4⟩ := h2
  obtain ⟨a1, a2⟩ := a
  obtain ⟨b1, b2⟩ := b
  simp only at h3 h4
  subst h3
  have e1 := pass_pass' (ctypeAt l a1) a2 ha.2
  have e2 := pass_pass' (ctypeAt l a1) b2 hb.2
  have : a2 = b2 := by rw [← e1, h4, e2]
  rw [this]

theorem RChain.ne_nil {α} {f : α → α} {s : α} {v : List α} (h : RChain f s v) : v ≠ [] := by
  intro hv; subst hv; exact h

theorem RChain.mem_cases {α} {f : α → α} {s : α} {v : List α} (h : RChain f s v) :
    ∀ x ∈ v, x = s ∨ ∃ y ∈ v.tail, x = f y := by
  induction v with
  | nil => exact h.elim
  | cons a r ih =>
    intro x hx
    cases r with
    | nil => exact Or.inl ((List.mem_singleton.1 hx).trans h)
    | cons b r' =>
      rcases List.mem_cons.1 hx with rfl | hx'
      · exact Or.inr ⟨b, List.mem_cons_self, h.1⟩
      · rcases ih h.2 x hx' with h1 | ⟨y, hy, h1⟩
        · exact Or.inl h1
        · exact Or.inr ⟨y, List.mem_cons_of_mem _ hy, h1⟩

theorem RChain.all_mem {α} {f : α → α} {s : α} (P : α → Prop) (hs : P s) (hf : ∀ x, P x → P (f x)) :
    ∀ {v : List α}, RChain f s v → ∀ x ∈ v, P x := by
  intro v
  induction v with
  | nil => intro h; exact h.elim
  | cons a r ih =>
    intro h x hx
    cases r with
    | nil => rw [List.mem_singleton.1 hx, show a = s from h]; exact hs
    | cons b r' =>
      rcases List.mem_cons.1 hx with rfl | hx'
      · rw [h.1]; exact hf _ (ih h.2 b List.mem_cons_self)
      · exact ih h.2 x hx'

theorem RChain.getLast {α} {f : α → α} {s : α} : ∀ {v : List α}, RChain f s v → v.getLast? = some s := by
  intro v
  induction v with
  | nil => intro h; exact h.elim
  | cons x r ih =>
    intro h
    cases r with
    | nil => rw [show x = s from h]; rfl
    | cons y r' => rw [List.getLast?_cons_cons]; exact ih h.2

theorem RChain.start_mem {α} {f : α → α} {s : α} {v : List α} (h : RChain f s v) : s ∈ v :=
  List.mem_of_getLast? h.getLast

theorem RChain.succ_mem {α} {f : α → α} {s : α} : ∀ {v : List α}, RChain f s v →
    ∀ y ∈ v, y = v.headD s ∨ f y ∈ v := by
  intro v
  induction v with
  | nil => intro h; exact h.elim
  | cons x r ih =>
    intro h y hy
    rcases List.mem_cons.1 hy with rfl | hy'
    · exact Or.inl rfl
    · cases r with
      | nil => cases hy'
      | cons z r' =>
        rcases ih h.2 y hy' with h1 | h1
        · rw [show y = z from h1, ← h.1]; exact Or.inr List.mem_cons_self
        · exact Or.inr (List.mem_cons_of_mem _ h1)

theorem RChain.closed {α} {f : α → α} {s : α} {v : List α} (h : RChain f s v) (hret : f (v.headD s) = s) :
    (∀ x ∈ v, f x ∈ v) ∧ ∀ x ∈ v, ∃ y ∈ v, f y = x := by
  constructor
  · intro x hx
    rcases h.succ_mem x hx with e | e
    · rw [e, hret]; exact h.start_mem
    · exact e
  · intro x hx
    rcases h.mem_cases x hx with e | ⟨y, hy, e⟩
    · exact ⟨v.headD s, List.mem_of_mem_head? (by cases v <;> first | exact h.elim | rfl), by rw [hret, e]⟩
    · exact ⟨y, List.mem_of_mem_tail hy, e.symm⟩

theorem RChain.he {l : Link} (hv : Valid l) {s : Nat × Nat} (hs : HE l s) {v : List (Nat × Nat)}
    (h : RChain (step l) s v) : ∀ x ∈ v, HE l x :=
  RChain.all_mem (HE l) hs (fun x hx => (step_spec l hv x hx).2.1) h

theorem RChain.length_le {l : Link} (hv : Valid l) {s : Nat × Nat} (hs : HE l s) {v : List (Nat × Nat)}
    (h : RChain (step l) s v) (hn : v.Nodup) : v.length ≤ 4 * l.length := by
  have hle := hn.length_le_of_subset (fun x hx => (mem_slots_keys l x).2 (h.he hv hs x hx))
  rwa [List.length_map, slots, slotsFrom_length] at hle

theorem traverseLoop_valid (l : Link) (hv : Valid l) (s : Nat × Nat) (hs : HE l s) :
    ∀ (fuel : Nat) (cur : Nat × Nat) (acc : List (Nat × Nat)),
      RChain (step l) s (cur :: acc) → (cur :: acc).Nodup → fuel + acc.length = 4 * l.length →
      ∃ v, traverseLoop l s fuel cur acc = .ok (v.reverse ++ [s]) ∧ RChain (step l) s v ∧ v.Nodup ∧
        step l (v.headD s) = s ∧ v.length ≤ 4 * l.length ∧ (∃ p, v = p ++ cur :: acc) := by
  intro fuel
  induction fuel with
  | zero =>
    intro cur acc hc hn hf
    have := hc.length_le hv hs hn
    rw [List.length_cons] at this
    omega
  | succ fuel ih =>
    intro cur acc hc hn hf
    have hall := hc.he hv hs
    have hcur : HE l cur := hall cur List.mem_cons_self
    unfold traverseLoop
    simp only [(step_spec l hv cur hcur).1]
    by_cases hret : step l cur = s
    · rw [if_pos hret]
      exact ⟨cur :: acc, by rw [List.reverse_cons], hc, hn, hret,
        hc.length_le hv hs hn, [], rfl⟩
    · rw [if_neg hret]
      -- the next slot is new: otherwise it is the image of an earlier entry as well, and `step` is injective
      have hnew : step l cur ∉ cur :: acc := by
        intro hmem
        rcases hc.mem_cases _ hmem with h1 | ⟨y, hy, h1⟩
        · exact hret h1
        · have hcy : cur = y := step_inj l hv cur y hcur (hall y (List.mem_cons_of_mem _ hy)) h1
          exact (List.nodup_cons.1 hn).1 (hcy ▸ hy)
      obtain ⟨v, h1, h2, h3, h4, h5, p, h6⟩ := ih (step l cur) (cur :: acc)
        ⟨rfl, hc⟩ (List.nodup_cons.2 ⟨hnew, hn⟩) (by rw [List.length_cons]; omega)
      exact ⟨v, h1, h2, h3, h4, h5, p ++ [step l cur], by rw [h6, List.append_assoc]; rfl⟩

/-- `v` (most recent first) is the complete walk of `traverse_edges` from `s`: it returns to `s`, and no
slot is met twice -/
structure Walk (l : Link) (s : Nat × Nat) (v : List (Nat × Nat)) : Prop where
  chain : RChain (step l) s v
  nodup : v.Nodup
  ret : step l (v.headD s) = s
  he : ∀ h ∈ v, HE l h

theorem traverse_valid (l : Link) (hv : Valid l) (s : Nat × Nat) (hs : HE l s) :
    ∃ v, traverse l s = .ok (v.reverse ++ [s]) ∧ Walk l s v := by
  obtain ⟨v, h1, h2, h3, h4, _⟩ :=
    traverseLoop_valid l hv s hs (4 * l.length) s [] rfl (List.pairwise_singleton _ s) rfl
  exact ⟨v, h1, h2, h3, h4, h2.he hv hs⟩

theorem edgeAt_eq (l : Link) (i j : Nat) (hi : i < l.length) : edgeAt l i j = l[i].edge j := by
  unfold edgeAt; rw [List.getElem?_eq_getElem hi]

theorem ctypeAt_eq (l : Link) (i : Nat) (hi : i < l.length) : ctypeAt l i = l[i].ctype := by
  unfold ctypeAt; rw [List.getElem?_eq_getElem hi]

theorem lab_eq (l : Link) (i j : Nat) (hi : i < l.length) : lab l (i, j) = l[i].edge j := edgeAt_eq l i j hi

theorem lab_thru_eq (l : Link) (i j : Nat) (hi : i < l.length) :
    lab l (thru l (i, j)) = l[i].edge (l[i].ctype.pass j) := by
  unfold lab thru
  simp only
  rw [edgeAt_eq l _ _ hi, ctypeAt_eq l _ hi]

/-- `joined` in terms of slots: the labels at the two ends of a strand through a crossing -/
theorem joined_slot (l : Link) (e e' : Nat) :
    joined l e e' = true ↔ ∃ h, HE l h ∧ lab l h = e ∧ lab l (thru l h) = e' := by
  rw [joined_iff]
  constructor
  · rintro ⟨c, hc, j, hj, h1, h2⟩
    obtain ⟨i, hi, rfl⟩ := List.getElem_of_mem hc
    exact ⟨(i, j), ⟨hi, hj⟩, (lab_eq l i j hi).trans h1, (lab_thru_eq l i j hi).trans h2⟩
  · rintro ⟨⟨i, j⟩, ⟨hi, hj⟩, h1, h2⟩
    exact ⟨l[i], List.getElem_mem hi, j, hj, (lab_eq l i j hi).symm.trans h1, (lab_thru_eq l i j hi).symm.trans h2⟩

theorem partner_spec (l : Link) (hv : Valid l) (h : Nat × Nat) (hh : HE l h) :
    HE l (partner l h) ∧ partner l h ≠ h ∧ lab l (partner l h) = lab l h ∧ partner l (partner l h) = h := by
  obtain ⟨h', h1, h2, h3, h4, h5⟩ := passEdge_valid' l hv h hh
  have e1 : partner l h = h' := by unfold partner; rw [h1]; rfl
  have e2 : partner l h' = h := by unfold partner; rw [h5]; rfl
  rw [e1]
  exact ⟨h2, h3, h4, e2⟩

theorem same_label (l : Link) (hv : Valid l) (h h' : Nat × Nat) (hh : HE l h) (hh' : HE l h')
    (he : lab l h' = lab l h) : h' = h ∨ h' = partner l h := by
  obtain ⟨p, h1, _, _, _, _, hu⟩ := passEdge_unique l hv h hh
  have e1 : partner l h = p := by unfold partner; rw [h1]; rfl
  rw [e1]
  exact hu h' hh' he

theorem thru_spec (l : Link) (h : Nat × Nat) (hh : HE l h) :
    HE l (thru l h) ∧ thru l h ≠ h ∧ thru l (thru l h) = h := by
  obtain ⟨a, b⟩ := h
  refine ⟨ctypeAt_pass_lt l _ hh, ?_, ?_⟩
  · intro hc
    unfold thru at hc
    simp only [Prod.mk.injEq, true_and] at hc
    exact pass_ne' _ _ hh.2 hc
  · unfold thru
    simp only [Prod.mk.injEq, true_and]
    exact pass_pass' _ _ hh.2

theorem step_eq (l : Link) (hv : Valid l) (h : Nat × Nat) (hh : HE l h) :
    step l h = partner l (thru l h) := by
  have h1 := (step_spec l hv h hh).1
  unfold partner thru
  simp only
  rw [h1]; rfl

theorem step_HE (l : Link) (hv : Valid l) (h : Nat × Nat) (hh : HE l h) : HE l (step l h) :=
  (step_spec l hv h hh).2.1

theorem lab_step (l : Link) (hv : Valid l) (h : Nat × Nat) (hh : HE l h) :
    lab l (step l h) = lab l (thru l h) := by
  rw [step_eq l hv h hh]
  exact (partner_spec l hv _ (thru_spec l h hh).1).2.2.1

theorem thru_partner_step (l : Link) (hv : Valid l) (h : Nat × Nat) (hh : HE l h) :
    partner l (step l h) = thru l h := by
  rw [step_eq l hv h hh]
  exact (partner_spec l hv _ (thru_spec l h hh).1).2.2.2

theorem step_thru (l : Link) (hv : Valid l) (h : Nat × Nat) (hh : HE l h) :
    step l (thru l h) = partner l h := by
  rw [step_eq l hv _ (thru_spec l h hh).1, (thru_spec l h hh).2.2]

theorem exists_least (p : Nat → Prop) (h : ∃ n, p n) : ∃ n, p n ∧ ∀ m, m < n → ¬ p m := by
  obtain ⟨n, hn⟩ := h
  induction n using Nat.strongRecOn with
  | ind n ih =>
    by_cases hc : ∃ m, m < n ∧ p m
    · obtain ⟨m, hm, hpm⟩ := hc
      exact ih m hm hpm
    · exact ⟨n, hn, fun m hm hpm => hc ⟨m, hm, hpm⟩⟩

theorem iter_HE (l : Link) (hv : Valid l) (s : Nat × Nat) (hs : HE l s) (a : Nat) : HE l (iter (step l) a s) := by
  induction a with
  | zero => exact hs
  | succ a ih => exact step_HE l hv _ ih

theorem partner_partner (l : Link) (hv : Valid l) (h : Nat × Nat) (hh : HE l h) : partner l (partner l h) = h :=
  (partner_spec l hv h hh).2.2.2

theorem thru_thru (l : Link) (h : Nat × Nat) (hh : HE l h) : thru l (thru l h) = h := (thru_spec l h hh).2.2

theorem eq_thru_of_partner_eq_step (l : Link) (hv : Valid l) (x y : Nat × Nat) (hx : HE l x) (hy : HE l y)
    (h : partner l x = step l y) : x = thru l y := by
  rw [step_eq l hv y hy] at h
  have h2 := congrArg (partner l) h
  rwa [partner_partner l hv x hx, partner_partner l hv _ (thru_spec l y hy).1] at h2

/-- a `step`-orbit never contains the partner of one of its members: if `partner w_a = w_{a+d+2}` then
`partner w_{a+1} = w_{a+d+1}`, so the distance along the orbit descends to 0 or 1, where `partner`, `thru`
have no fixed points -/
theorem no_flip (l : Link) (hv : Valid l) (s : Nat × Nat) (hs : HE l s) (d : Nat) :
    (∀ a, partner l (iter (step l) a s) ≠ iter (step l) (a + d) s) ∧
    ∀ a, partner l (iter (step l) a s) ≠ iter (step l) (a + (d + 1)) s := by
  induction d with
  | zero =>
    refine ⟨fun a => (partner_spec l hv _ (iter_HE l hv s hs a)).2.1, fun a hc => ?_⟩
    have hx := iter_HE l hv s hs a
    exact (thru_spec l _ hx).2.1 (eq_thru_of_partner_eq_step l hv _ _ hx hx hc).symm
  | succ d ih =>
    refine ⟨ih.2, fun a hc => ?_⟩
    have hx := iter_HE l hv s hs a
    have hy := iter_HE l hv s hs (a + (d + 1))
    have h3 : thru l (iter (step l) a s) = iter (step l) (a + (d + 1)) s := by
      rw [eq_thru_of_partner_eq_step l hv _ _ hx hy hc, thru_thru l _ hy]
    apply ih.1 (a + 1)
    rw [Nat.add_right_comm, Nat.add_assoc, ← h3]
    exact thru_partner_step l hv _ hx

theorem RChain.mem_iter {α} {f : α → α} {s : α} {v : List α} (h : RChain f s v) :
    ∀ x ∈ v, ∃ m, x = iter f m s :=
  RChain.all_mem (fun x => ∃ m, x = iter f m s) ⟨0, rfl⟩ (fun x ⟨m, hm⟩ => ⟨m + 1, by rw [hm]; rfl⟩) h

theorem orbit_no_partner (l : Link) (hv : Valid l) (s : Nat × Nat) (hs : HE l s) (v : List (Nat × Nat))
    (hc : RChain (step l) s v) (x y : Nat × Nat) (hx : x ∈ v) (hy : y ∈ v) : y ≠ partner l x := by
  obtain ⟨a, rfl⟩ := hc.mem_iter x hx
  obtain ⟨b, rfl⟩ := hc.mem_iter y hy
  intro h
  rcases Nat.le_total a b with hab | hab
  · obtain ⟨d, rfl⟩ := Nat.exists_eq_add_of_le hab
    exact (no_flip l hv s hs d).1 a h.symm
  · obtain ⟨d, rfl⟩ := Nat.exists_eq_add_of_le hab
    have h2 := congrArg (partner l) h
    rw [partner_partner l hv _ (iter_HE l hv s hs _)] at h2
    exact (no_flip l hv s hs d).1 b h2

theorem orbit_labels_nodup (l : Link) (hv : Valid l) (s : Nat × Nat) (hs : HE l s) (v : List (Nat × Nat))
    (hc : RChain (step l) s v) (hn : v.Nodup) (hall : ∀ h ∈ v, HE l h) : (v.map (lab l)).Nodup := by
  unfold List.Nodup
  rw [List.pairwise_map]
  refine List.Pairwise.imp_of_mem ?_ hn
  intro x y hx hy hne heq
  rcases same_label l hv x y (hall x hx) (hall y hy) heq.symm with h | h
  · exact hne h.symm
  · exact orbit_no_partner l hv s hs v hc x y hx hy h

end Yuiv.C18
