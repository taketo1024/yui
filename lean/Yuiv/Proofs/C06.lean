import Yuiv.Model.C06
import Mathlib.Tactic.Ring
namespace Yuiv.C06

theorem divLoop_spec : ∀ (fuel : Nat) (a c : Int) (k : Nat), a ≠ 0 → 2 ≤ c.natAbs →
    a.natAbs < fuel → ∃ j, divLoop fuel a c k = some (k + j) ∧ c ^ j ∣ a ∧ ¬ c ^ (j + 1) ∣ a := by
  intro fuel
  induction fuel with
  | zero => intro a c k _ _ hf; omega
  | succ f ih =>
    intro a c k ha hc hf
    have hc0 : c ≠ 0 := by intro h; subst h; simp at hc
    unfold divLoop
    by_cases h : a.tmod c = 0
    · have hdvd : c ∣ a := Int.dvd_of_tmod_eq_zero h
      have hq : a.tdiv c * c = a := Int.tdiv_mul_cancel hdvd
      have hq0 : a.tdiv c ≠ 0 := by intro h0; rw [h0] at hq; simp at hq; exact ha hq.symm
      have habs : (a.tdiv c).natAbs * c.natAbs = a.natAbs := by rw [← Int.natAbs_mul, hq]
      have hqpos : 0 < (a.tdiv c).natAbs := Int.natAbs_pos.mpr hq0
      have hmul : (a.tdiv c).natAbs * 2 ≤ (a.tdiv c).natAbs * c.natAbs := Nat.mul_le_mul_left _ hc
      have hlt : (a.tdiv c).natAbs < a.natAbs := by omega
      obtain ⟨j, hj1, hj2, hj3⟩ := ih (a.tdiv c) c (k + 1) hq0 hc (by omega)
      refine ⟨j + 1, ?_, ?_, ?_⟩
      · simp [h, hj1]; omega
      · rw [← hq, pow_succ]; exact Int.mul_dvd_mul_right c hj2
      · intro hd
        apply hj3
        rw [← hq, pow_succ (n := j + 1)] at hd
        exact Int.dvd_of_mul_dvd_mul_right hc0 hd
    · refine ⟨0, ?_, ?_, ?_⟩
      · simp [h]
      · simp
      · intro hd; apply h; simp at hd; exact Int.tmod_eq_zero_of_dvd hd

theorem divLoop_unit : ∀ (fuel : Nat) (a c : Int) (k : Nat), c.natAbs = 1 → divLoop fuel a c k = none := by
  intro fuel
  induction fuel with
  | zero => intro a c k _; rfl
  | succ f ih =>
    intro a c k hc
    have hdvd : c ∣ a := Int.natAbs_dvd_natAbs.mp (by rw [hc]; exact Nat.one_dvd _)
    have h : a.tmod c = 0 := Int.tmod_eq_zero_of_dvd hdvd
    unfold divLoop
    simp [h, ih _ c _ hc]

end Yuiv.C06
