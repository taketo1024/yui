import Yuiv.Proofs.C12
import Mathlib.Logic.Equiv.Defs
import Mathlib.Data.Fintype.EquivFin

/-
C12 — the two executable checkers of the decomposition: `permOk` gives a permutation; the sweeps of `connectedBlk` mark
exactly what is connected to vertex 0, and all of it.
-/
namespace Yuiv.C12
open Yuiv

theorem permOk_equiv (p : Array Nat) (n : Nat) (h : permOk p n = true) :
    ∃ σ : Equiv.Perm (Fin n), ∀ i, (σ i : Nat) = p.getD i 0 := by
  unfold permOk at h
  simp only [Bool.and_eq_true, List.all_eq_true, List.mem_range, decide_eq_true_eq, Bool.or_eq_true,
    beq_iff_eq, bne_iff_ne] at h
  obtain ⟨⟨_, hlt⟩, hinj⟩ := h
  let f : Fin n → Fin n := fun i => ⟨p.getD i 0, hlt i i.2⟩
  have finj : Function.Injective f := by
    intro a b hab
    have : p.getD a 0 = p.getD b 0 := by simpa [f] using congrArg Fin.val hab
    rcases hinj a a.2 b b.2 with h1 | h1
    · exact Fin.ext h1
    · exact absurd this h1
  exact ⟨Equiv.ofBijective f (Finite.injective_iff_bijective.1 finj), fun i => rfl⟩

section
variable {α : Type} [Scal α]

/-- `S` (a set of vertices: row `i` ↦ `i`, column `j` ↦ `h + j`) splits the block: both sides non-empty and no
stored non-zero entry joins a vertex of `S` with a vertex outside -/
def Splits (B : SpMat α) (S : Nat → Prop) : Prop :=
  (∃ v, v < B.nrows + B.ncols ∧ S v) ∧ (∃ v, v < B.nrows + B.ncols ∧ ¬ S v) ∧
  ∀ j, j < B.ncols → ∀ e ∈ col B j, isZero e.2 = false → (S e.1 ↔ S (B.nrows + j))

/-- what `connectedBlk` decides: every set of vertices that contains vertex 0 and is closed under the stored non-zero
entries (an entry joins its row with its column) is everything -/
def Connected (B : SpMat α) : Prop :=
  ∀ P : Nat → Prop, P 0 →
    (∀ j, j < B.ncols → ∀ e ∈ col B j, isZero e.2 = false → (P e.1 ↔ P (B.nrows + j))) →
    ∀ v, v < B.nrows + B.ncols → P v

/-- the side of a splitting that contains vertex 0 would be everything -/
theorem Connected.not_splits {B : SpMat α} (h : Connected B) (S : Nat → Prop) : ¬ Splits B S := by
  rintro ⟨⟨v1, hv1, hS1⟩, ⟨v2, hv2, hS2⟩, hedge⟩
  by_cases h0 : S 0
  · exact hS2 (h S h0 hedge v2 hv2)
  · exact (h (fun v => ¬ S v) h0 (fun j hj e he hz => not_congr (hedge j hj e he hz)) v1 hv1) hS1

theorem mem_nzEdges {B : SpMat α} {e : Nat × Nat} (h : e ∈ nzEdges B) :
    e.2 < B.ncols ∧ ∃ a, (e.1, a) ∈ col B e.2 ∧ isZero a = false := by
  unfold nzEdges at h
  obtain ⟨j, hj, he⟩ := List.mem_flatMap.1 h
  obtain ⟨x, hx, hxe⟩ := List.mem_filterMap.1 he
  by_cases hz : isZero x.2 = true
  · simp [hz] at hxe
  · simp only [hz, Bool.false_eq_true, if_false, Option.some.injEq] at hxe
    subst hxe
    exact ⟨List.mem_range.1 hj, x.2, hx, by simpa using hz⟩

theorem getD_set_true (s : Array Bool) (i v : Nat) :
    (s.setIfInBounds i true).getD v false = true ↔ s.getD v false = true ∨ (v = i ∧ i < s.size) := by
  rw [Array.getD_eq_getD_getElem?, Array.getD_eq_getD_getElem?, Array.getElem?_setIfInBounds]
  by_cases hv : i = v
  · subst hv
    by_cases hi : i < s.size
    · simp only [if_true, hi, Option.getD_some, true_and, or_true]
    · simp only [if_true, hi, if_false, Array.getElem?_eq_none (Nat.le_of_not_lt hi), Option.getD_none,
        Bool.false_eq_true, and_false, or_false]
  · rw [if_neg hv]
    exact ⟨Or.inl, fun h => h.elim id fun h' => absurd h'.1.symm hv⟩

def sweepStep (h : Nat) (s : Array Bool) (e : Nat × Nat) : Array Bool :=
  if s.getD e.1 false || s.getD (h + e.2) false then
    (s.setIfInBounds e.1 true).setIfInBounds (h + e.2) true else s

theorem sweep_eq_foldl (h : Nat) (es : List (Nat × Nat)) (s : Array Bool) :
    sweep h es s = es.foldl (sweepStep h) s := rfl

theorem sweepStep_size (h : Nat) (s : Array Bool) (e : Nat × Nat) : (sweepStep h s e).size = s.size := by
  unfold sweepStep; split <;> simp

theorem sweepStep_iff (h : Nat) (s : Array Bool) (e : Nat × Nat) (v : Nat) :
    (sweepStep h s e).getD v false = true ↔ s.getD v false = true ∨
      ((s.getD e.1 false = true ∨ s.getD (h + e.2) false = true) ∧
        ((v = e.1 ∧ e.1 < s.size) ∨ (v = h + e.2 ∧ h + e.2 < s.size))) := by
  unfold sweepStep
  split
  · rename_i hc
    rw [getD_set_true, getD_set_true, Array.size_setIfInBounds, or_assoc, and_iff_right (Bool.or_eq_true_iff.1 hc)]
  · rename_i hc
    exact (or_iff_left fun hm => hc (Bool.or_eq_true_iff.2 hm.1)).symm

theorem sweep_inv (h : Nat) (es : List (Nat × Nat)) (P : Nat → Prop)
    (hP : ∀ e ∈ es, (P e.1 ↔ P (h + e.2))) (s : Array Bool)
    (hs : ∀ v, s.getD v false = true → P v) : ∀ v, (sweep h es s).getD v false = true → P v := by
  rw [sweep_eq_foldl]
  induction es generalizing s with
  | nil => exact hs
  | cons e es ih =>
    rw [List.foldl_cons]
    apply ih (fun e' h' => hP e' (by simp [h']))
    have he := hP e (by simp)
    intro v hv
    rcases (sweepStep_iff h s e v).1 hv with hv | ⟨hm, ⟨rfl, _⟩ | ⟨rfl, _⟩⟩
    · exact hs v hv
    · exact hm.elim (hs _) fun h1 => he.2 (hs _ h1)
    · exact hm.elim (fun h1 => he.1 (hs _ h1)) (hs _)

theorem sweeps_inv (h : Nat) (es : List (Nat × Nat)) (P : Nat → Prop)
    (hP : ∀ e ∈ es, (P e.1 ↔ P (h + e.2))) (k : Nat) (s : Array Bool)
    (hs : ∀ v, s.getD v false = true → P v) : ∀ v, (sweeps h es k s).getD v false = true → P v := by
  induction k generalizing s with
  | zero => exact hs
  | succ k ih => exact ih _ (sweep_inv h es P hP s hs)

theorem connectedBlk_sound (B : SpMat α) (hc : connectedBlk B = true) : Connected B := by
  unfold connectedBlk at hc
  simp only [List.all_eq_true, List.mem_range] at hc
  intro P h0 hPe v hv
  apply sweeps_inv B.nrows (nzEdges B) P _ _ _ _ v (hc v hv)
  · intro e he
    obtain ⟨h1, a, h2, h3⟩ := mem_nzEdges he
    exact hPe e.2 h1 (e.1, a) h2 h3
  · intro w hw
    rcases (getD_set_true _ _ _).1 hw with hw | ⟨rfl, _⟩
    · simp [Array.getD_eq_getD_getElem?] at hw
      by_cases hlt : w < B.nrows + B.ncols <;> simp [hlt] at hw
    · exact h0

end
/-! ### completeness of the connectivity check (`pb_*`): every sweep that is not yet closed marks a new vertex, so the
`nrows + ncols` sweeps of `connectedBlk` suffice -/

theorem pb_set_same (s : Array Bool) (i : Nat) (hi : i < s.size) :
    (s.setIfInBounds i true).getD i false = true :=
  (getD_set_true s i i).2 (Or.inr ⟨rfl, hi⟩)

theorem pb_sweep_size (h : Nat) (es : List (Nat × Nat)) (s : Array Bool) : (sweep h es s).size = s.size := by
  rw [sweep_eq_foldl]
  induction es generalizing s with
  | nil => rfl
  | cons e es ih => rw [List.foldl_cons, ih, sweepStep_size]

theorem pb_sweep_mono (h : Nat) (es : List (Nat × Nat)) (s : Array Bool) (v : Nat)
    (hv : s.getD v false = true) : (sweep h es s).getD v false = true := by
  rw [sweep_eq_foldl]
  induction es generalizing s with
  | nil => exact hv
  | cons e es ih => rw [List.foldl_cons]; exact ih _ ((sweepStep_iff h s e v).2 (Or.inl hv))

theorem pb_sweeps_size (h : Nat) (es : List (Nat × Nat)) (k : Nat) (s : Array Bool) :
    (sweeps h es k s).size = s.size := by
  induction k generalizing s with
  | zero => rfl
  | succ k ih => rw [sweeps, ih, pb_sweep_size]

theorem pb_sweeps_mono (h : Nat) (es : List (Nat × Nat)) (k : Nat) (s : Array Bool) (v : Nat)
    (hv : s.getD v false = true) : (sweeps h es k s).getD v false = true := by
  induction k generalizing s with
  | zero => exact hv
  | succ k ih => rw [sweeps]; exact ih _ (pb_sweep_mono h es s v hv)

theorem pb_sweep_edge (h : Nat) (es : List (Nat × Nat)) (s : Array Bool) (e : Nat × Nat) (he : e ∈ es)
    (h1 : e.1 < s.size) (h2 : h + e.2 < s.size)
    (hm : s.getD e.1 false = true ∨ s.getD (h + e.2) false = true) :
    (sweep h es s).getD e.1 false = true ∧ (sweep h es s).getD (h + e.2) false = true := by
  rw [sweep_eq_foldl]
  induction es generalizing s with
  | nil => cases he
  | cons e' es ih =>
    rw [List.foldl_cons]
    rcases List.mem_cons.1 he with rfl | he'
    · rw [← sweep_eq_foldl]
      exact ⟨pb_sweep_mono _ _ _ _ ((sweepStep_iff h s e _).2 (Or.inr ⟨hm, Or.inl ⟨rfl, h1⟩⟩)),
        pb_sweep_mono _ _ _ _ ((sweepStep_iff h s e _).2 (Or.inr ⟨hm, Or.inr ⟨rfl, h2⟩⟩))⟩
    · apply ih _ he'
      · rw [sweepStep_size]; exact h1
      · rw [sweepStep_size]; exact h2
      · exact hm.imp (fun hv => (sweepStep_iff h s e' _).2 (Or.inl hv)) fun hv => (sweepStep_iff h s e' _).2 (Or.inl hv)

def pb_cnt (n : Nat) (s : Array Bool) : Nat :=
  ((Finset.range n).filter (fun v => s.getD v false = true)).card

theorem pb_cnt_full (n : Nat) (s : Array Bool) (hc : n ≤ pb_cnt n s) (v : Nat) (hv : v < n) :
    s.getD v false = true := by
  have h2 := Finset.eq_of_subset_of_card_le
    (Finset.filter_subset (fun v => s.getD v false = true) (Finset.range n)) (by rw [Finset.card_range]; exact hc)
  have h3 : v ∈ (Finset.range n).filter (fun v => s.getD v false = true) := by
    rw [h2]; exact Finset.mem_range.2 hv
  exact (Finset.mem_filter.1 h3).2

theorem pb_cnt_lt (n : Nat) (s s' : Array Bool) (hmono : ∀ v, s.getD v false = true → s'.getD v false = true)
    (v : Nat) (hv : v < n) (hv' : s'.getD v false = true) (hnv : ¬ s.getD v false = true) :
    pb_cnt n s < pb_cnt n s' := by
  unfold pb_cnt
  apply Finset.card_lt_card
  rw [Finset.ssubset_iff_of_subset]
  · exact ⟨v, Finset.mem_filter.2 ⟨by simpa using hv, hv'⟩, fun hh => hnv (Finset.mem_filter.1 hh).2⟩
  · intro w hw
    obtain ⟨a, b⟩ := Finset.mem_filter.1 hw
    exact Finset.mem_filter.2 ⟨a, hmono w b⟩

theorem pb_mem_nzEdges {α : Type} [Scal α] (B : SpMat α) (j : Nat) (hj : j < B.ncols) (e : Nat × α)
    (he : e ∈ col B j) (hz : isZero e.2 = false) : (e.1, j) ∈ nzEdges B := by
  unfold nzEdges
  refine List.mem_flatMap.2 ⟨j, List.mem_range.2 hj, List.mem_filterMap.2 ⟨e, he, ?_⟩⟩
  simp [hz]

theorem pb_main {α : Type} [Scal α] (B : SpMat α)
    (hrows : ∀ j, j < B.ncols → ∀ e ∈ col B j, e.1 < B.nrows)
    (H : Connected B) (k : Nat) (s : Array Bool) (hs : s.size = B.nrows + B.ncols) (h0 : s.getD 0 false = true)
    (hk : B.nrows + B.ncols ≤ pb_cnt (B.nrows + B.ncols) s + k) :
    ∀ v, v < B.nrows + B.ncols → (sweeps B.nrows (nzEdges B) k s).getD v false = true := by
  induction k generalizing s with
  | zero => exact fun v hv => pb_cnt_full _ s (by simpa using hk) v hv
  | succ k ih =>
    intro v hv
    rw [sweeps]
    by_cases hcl : ∀ e ∈ nzEdges B, (s.getD e.1 false = true ↔ s.getD (B.nrows + e.2) false = true)
    · have := H (fun v => s.getD v false = true) h0
        (fun j hj e he hz => hcl (e.1, j) (pb_mem_nzEdges B j hj e he hz)) v hv
      exact pb_sweeps_mono _ _ _ _ _ (pb_sweep_mono _ _ _ _ this)
    · push Not at hcl
      obtain ⟨e, he, hne⟩ := hcl
      obtain ⟨h1, a, h2, _⟩ := mem_nzEdges he
      have hb1 : e.1 < s.size := by rw [hs]; have := hrows e.2 h1 _ h2; simp at this; omega
      have hb2 : B.nrows + e.2 < s.size := by rw [hs]; omega
      have hlt : pb_cnt (B.nrows + B.ncols) s <
          pb_cnt (B.nrows + B.ncols) (sweep B.nrows (nzEdges B) s) := by
        rcases hne with ⟨hm, hnm⟩ | ⟨hnm, hm⟩
        · exact pb_cnt_lt _ _ _ (pb_sweep_mono _ _ _) (B.nrows + e.2) (by omega)
            (pb_sweep_edge _ _ _ e he hb1 hb2 (Or.inl hm)).2 hnm
        · exact pb_cnt_lt _ _ _ (pb_sweep_mono _ _ _) e.1 (by omega)
            (pb_sweep_edge _ _ _ e he hb1 hb2 (Or.inr hm)).1 hnm
      exact ih _ (by rw [pb_sweep_size, hs]) (pb_sweep_mono _ _ _ _ h0) (by omega) v hv

theorem connectedBlk_complete {α : Type} [Scal α] (B : SpMat α)
    (hrows : ∀ j, j < B.ncols → ∀ e ∈ col B j, e.1 < B.nrows) (hn : 0 < B.nrows + B.ncols) (H : Connected B) :
    connectedBlk B = true := by
  unfold connectedBlk
  simp only [List.all_eq_true, List.mem_range]
  have h0 : ((Array.replicate (B.nrows + B.ncols) false).setIfInBounds 0 true).getD 0 false = true :=
    pb_set_same _ _ (by simpa using hn)
  apply pb_main B hrows H _ _ (by simp) h0
  have : 0 < pb_cnt (B.nrows + B.ncols) ((Array.replicate (B.nrows + B.ncols) false).setIfInBounds 0 true) := by
    unfold pb_cnt
    exact Finset.card_pos.2 ⟨0, Finset.mem_filter.2 ⟨by simpa using hn, h0⟩⟩
  omega

theorem connectedBlk_iff {α : Type} [Scal α] (B : SpMat α)
    (hrows : ∀ j, j < B.ncols → ∀ e ∈ col B j, e.1 < B.nrows) (hn : 0 < B.nrows + B.ncols) :
    connectedBlk B = true ↔ Connected B :=
  ⟨connectedBlk_sound B, connectedBlk_complete B hrows hn⟩

end Yuiv.C12
