import Yuiv.Proofs.C18BridgeMain
import Yuiv.Proofs.C18BridgeCirc
import Yuiv.Proofs.C18BridgeCube
/-
C18Bridge — the reference `Yuiv.KhRef` (its OWN `crossingSigns`, `circles`, `mirror`, cube; used by the
C01–C06/C19 specifications) agrees with the code model `Yuiv.C18` on every valid link, so the C18 / C18Inv / C04Inv
theorems transfer to the reference.  Property theorems only.

`toKh : C18.Link → KhRef.Link` is the obvious translation (`⟨t, a, b, c, d⟩ ↦ ⟨t, #[a,b,c,d]⟩`);
`encSigns` encodes `Res (List Sign)` as `Option (Array Int)` (`pos ↦ 1`, `neg ↦ −1`, `panic ↦ none`);
`Valid l` is C18's validity (every label occurs in exactly two slots).

DOMAIN OF AGREEMENT.  `KhRef.crossingSigns (toKh l) = encSigns (C18.crossingSigns l)` for EVERY valid `l` (any
crossing types, including partially resolved diagrams and components that never pass under).  For invalid codes
the two differ: on a free end the code model (like the Rust code) also reads a sign at the EXIT slot of the last
crossing, the reference does not (`example` in section 1).  The reference's imperative code (nested `for`, a
`while` loop with step bound, early `return`) is proved equal, for ALL inputs, to the loop-free `signsF`
(`crossingSigns_functional`), which makes it evaluable by `decide`.
-/
namespace Yuiv.C18Bridge
open Yuiv Yuiv.KhRef
open Yuiv.C18 (Valid Orient UnderIn Determined sgnAt)

/-! ### 1. crossing signs  (belongs to props C18; used by C01/C02/C04/C06 through the degree shifts) -/

/-- the reference's imperative `partner` / `crossingSigns` equal their loop-free functional forms, for ALL inputs -/
theorem crossingSigns_functional (l : Link) :
    KhRef.crossingSigns l = signsF l ∧ ∀ i k, KhRef.partner l i k = partnerF l i k :=
  ⟨crossingSigns_eq l, fun i k => partner_eq l i k⟩

/-- THE BRIDGE (1): on every valid link the reference's `crossingSigns` returns exactly (the encoding of) what the
code model's `crossing_signs` returns; neither fails -/
theorem khref_signs_bridge (l : C18.Link) (hv : Valid l) :
    KhRef.crossingSigns (toKh l) = encSigns (C18.crossingSigns l) ∧
    ∃ s, C18.crossingSigns l = .ok s ∧ KhRef.crossingSigns (toKh l) = some (s.map encSign).toArray ∧
      nPosK (s.map encSign).toArray = s.count .pos ∧ nNegK (s.map encSign).toArray = s.count .neg := by
  obtain ⟨s, h1, h2⟩ := khSigns_eq l hv
  exact ⟨khSigns_enc l hv, s, h1, h2, nPos_enc s, nNeg_enc s⟩

/-- validity is needed: a crossing with four free ends (`X[1,2,3,4]`) — the code model reads `+` at the exit slot 3
after `−` at slot 1, the reference keeps `−` -/
example : KhRef.crossingSigns (toKh (C18.fromPD [[1,2,3,4]])) = some #[-1] ∧
    encSigns (C18.crossingSigns (C18.fromPD [[1,2,3,4]])) = some #[1] ∧ ¬ Valid (C18.fromPD [[1,2,3,4]]) := by
  rw [crossingSigns_eq]; decide +kernel

/-- the reference's signs are those of an orientation consistent with the under-strands (transfer of the
orientation theorem) -/
theorem khref_signs_orient (l : C18.Link) (hv : Valid l) (O : Nat × Nat → Bool) (hO : Orient l O) (hU : UnderIn l O) :
    ∃ O', Orient l O' ∧ UnderIn l O' ∧
      KhRef.crossingSigns (toKh l) = some ((C18.signsOf l O').map encSign).toArray := by
  obtain ⟨O', h1, h2, h3⟩ := C18.crossingSigns_orient' l hv O hO hU
  refine ⟨O', h1, h2, ?_⟩
  rw [khSigns_enc l hv, h3]; rfl

/-- crossing reordering: the reference's signs of the reordered link are the correspondingly permuted signs
(`permuteK p L`: position `k` of the new array is crossing `p[k]`), hence `n₊`, `n₋` — the degree-shift data of
`khHomology` and `jones` — are invariant -/
theorem khref_signs_permute (l : C18.Link) (hv : Valid l) (O : Nat × Nat → Bool) (hO : Orient l O)
    (hU : UnderIn l O) (hD : Determined l) (p : List Nat) (hp : p.Perm (List.range l.length)) :
    ∃ sg sg', KhRef.crossingSigns (toKh l) = some sg ∧ KhRef.crossingSigns (permuteK p (toKh l)) = some sg' ∧
      sg = (((List.range l.length).filterMap (sgnAt l O)).map encSign).toArray ∧
      sg' = ((p.filterMap (sgnAt l O)).map encSign).toArray ∧
      nPosK sg' = nPosK sg ∧ nNegK sg' = nNegK sg := by
  have h1 := C18.crossingSigns_determined' l hv O hO hU hD
  have hv' := C18.valid_permute hp hv
  have h2 := C18.crossingSigns_determined' (C18.permute p l) hv' _ (C18.orient_permute hp hv hO)
    (C18.underIn_permute hp hU) (C18.determined_permute hp hv hD)
  rw [C18.signsOf_permute hp O] at h2
  have hperm : (p.filterMap (sgnAt l O)).Perm ((List.range l.length).filterMap (sgnAt l O)) :=
    List.Perm.filterMap _ hp
  refine ⟨_, _, ?_, ?_, rfl, rfl, ?_, ?_⟩
  · rw [khSigns_enc l hv, h1]; rfl
  · rw [← toKh_permute, khSigns_enc _ hv', h2]; rfl
  · rw [nPos_enc, nPos_enc, hperm.count_eq]
  · rw [nNeg_enc, nNeg_enc, hperm.count_eq]

/-- mirror image (`KhRef.mirror`): every sign of the reference is negated, `n₊` and `n₋` are exchanged — for every
valid link, no orientation hypothesis -/
theorem khref_signs_mirror_neg (l : C18.Link) (hv : Valid l) :
    ∃ sg, KhRef.crossingSigns (toKh l) = some sg ∧
      KhRef.crossingSigns (KhRef.mirror (toKh l)) = some (sg.map (fun x => -x)) ∧
      nPosK (sg.map (fun x => -x)) = nNegK sg ∧ nNegK (sg.map (fun x => -x)) = nPosK sg := by
  obtain ⟨s, h1, h2⟩ := khSigns_eq l hv
  have hm : C18.crossingSigns (C18.mirror l) = .ok (s.map C18.Sign.flip) := by
    rw [C18.crossingSigns_mirror', h1]; rfl
  have e : ((s.map C18.Sign.flip).map encSign).toArray = (s.map encSign).toArray.map (fun x => -x) := by
    simp only [List.map_toArray, List.map_map]
    congr 2
    funext x; exact encSign_flip x
  refine ⟨_, h2, ?_, ?_, ?_⟩
  · rw [← toKh_mirror, khSigns_enc _ (valid_mirror l hv), hm]
    show some _ = some _
    rw [e]
  · rw [← e, nPos_enc, nNeg_enc, (C18.count_flip s).1]
  · rw [← e, nNeg_enc, nPos_enc, (C18.count_flip s).2]

/-- injective renumbering of the edge labels leaves the reference's signs unchanged -/
theorem khref_signs_renumber (l : C18.Link) (hv : Valid l) (f : Nat → Nat) (hf : C18.Inj f) :
    KhRef.crossingSigns (renumberK f (toKh l)) = KhRef.crossingSigns (toKh l) := by
  rw [← toKh_renumber, khSigns_enc _ (valid_renumber f hf l hv), khSigns_enc l hv, C18.crossingSigns_renumber' f hf]

/-- braid closures: the reference's signs of the (translated) closure of a word have `n₊ − n₋` = exponent sum and
`n₊ + n₋` = number of letters -/
theorem khref_writhe_closure (strands : Nat) (w : List Int) (l : C18.Link) (h : C18.closure strands w = .ok l) :
    ∃ sg, KhRef.crossingSigns (toKh l) = some sg ∧
      (nPosK sg : Int) - (nNegK sg : Int) = C18.expSum w ∧ nPosK sg + nNegK sg = w.length := by
  have hv := C18.closure_valid' strands w l h
  obtain ⟨s, h1, h2⟩ := khSigns_eq l hv
  obtain ⟨p, n, h3, h4, h5⟩ := C18.closure_signedCrossingNums' strands w l h
  have : (p, n) = (s.count .pos, s.count .neg) := by
    have := (C18.writhe_of_signs l s h1).1
    rw [h3] at this
    exact Res.ok.inj this
  cases this
  exact ⟨_, h2, by rw [nPos_enc, nNeg_enc]; exact h4, by rw [nPos_enc, nNeg_enc]; exact h5⟩

/-! ### 2. circles  (belongs to props C04 / C01: the ranks of the cube's chain groups) -/

/-- THE BRIDGE (2): for every valid link and every state `s`, the reference's circle count (`C04.circleCount`, the size
of `KhRef.circles`) equals the code model's circle count of the diagram resolved by the bits of `s`, and both equal
the number of classes of edge labels under the arc relation of the resolved crossings -/
theorem khref_circles_bridge (l : C18.Link) (hv : Valid l) (s : Nat) :
    ∃ r, C18.resolvedBy l (stateBits (C18.crossingNum l) s) = .ok r ∧
      C18.circleCount r = .ok (C04.circleCount (toKh l) s) ∧
      C04.circleCount (toKh l) s = C04Inv.classCount (C04Inv.labelSet (toKh l)) (C04Inv.statePairs (toKh l) s) ∧
      KhRef.crossingNum (toKh l) = C18.crossingNum l ∧ C04Inv.WF (toKh l) := by
  obtain ⟨r, h1, h2, h3⟩ := circleCount_bridge l hv s
  exact ⟨r, h1, h2, h3, crossingNum_toKh l, wf_toKh l⟩

/-- the same for the circle list stored at vertex `s` of the reference cube (any Frobenius parameters, reduced or not) -/
theorem khref_cube_circles_bridge (l : C18.Link) (hv : Valid l) (p : Params) (s : Nat)
    (hs : s < 2 ^ C18.crossingNum l) :
    ∃ r, C18.resolvedBy l (stateBits (C18.crossingNum l) s) = .ok r ∧
      C18.circleCount r = .ok ((mkCube (toKh l) p).circ[s]!).size :=
  cube_circ_bridge l hv p s hs

/-! ### 3. the chain groups of the reference cube  (belongs to props C01 / C04)

`chainRank L p nPos nNeg i j` = number of generators of `mkCube L p` (over all vertices) of h-degree
`−nNeg + popcount s = i` and q-degree `Cube.qDeg q0 g = j` with `q0 = nPos − 2·nNeg (+1 if reduced)` — exactly the
grouping of `KhRef.khHomology`; `chainRankH` ignores `q`.  `weightCircle L` = multiset of (state weight, circle count)
over the vertices.  ALL parameters `p` (any `h`, `t`; unreduced AND reduced theory — in the reduced theory the base
edge, the least label of the first crossing, changes under reordering/renumbering, but it always lies on exactly one
circle and the count of labellings does not depend on which one). -/

/-- the multiset of (state weight, circle count) pairs of the cube is invariant under ANY permutation of the
crossing list and under renumbering injective on the labels — every well-formed diagram -/
theorem khref_weightCircle_inv {l l' : Link} (hwf : C04Inv.WF l) :
    (l'.toList.Perm l.toList → weightCircle l' = weightCircle l) ∧
    (∀ f : Nat → Nat, Set.InjOn f (C04Inv.labelSet l) → weightCircle (C04Inv.renumber f l) = weightCircle l) :=
  ⟨fun hp => weightCircle_multiset_perm hwf hp, fun _ hf => weightCircle_multiset_renumber l hf hwf⟩

/-- the ranks of the chain groups of the reference cube, in every bidegree (and in every homological degree), are
invariant under ANY permutation of the crossing list (the degree-shift data `nPos`, `nNeg` being given) -/
theorem khref_chain_ranks_perm {l l' : Link} (hwf : C04Inv.WF l) (hperm : l'.toList.Perm l.toList)
    (p : Params) (nPos nNeg : Nat) (i j : Int) :
    chainRank l' p nPos nNeg i j = chainRank l p nPos nNeg i j ∧ chainRankH l' p nNeg i = chainRankH l p nNeg i :=
  ⟨chainRank_perm_all hwf hperm p nPos nNeg i j, chainRankH_perm_all hwf hperm p nNeg i⟩

/-- … and under every renumbering of the edge labels that is injective on the labels of the diagram -/
theorem khref_chain_ranks_renumber {f : Nat → Nat} (l : Link) (hf : Set.InjOn f (C04Inv.labelSet l))
    (hwf : C04Inv.WF l) (p : Params) (nPos nNeg : Nat) (i j : Int) :
    chainRank (C04Inv.renumber f l) p nPos nNeg i j = chainRank l p nPos nNeg i j ∧
    chainRankH (C04Inv.renumber f l) p nNeg i = chainRankH l p nNeg i :=
  ⟨chainRank_renumber_all l hf hwf p nPos nNeg i j, chainRankH_renumber_all l hf hwf p nNeg i⟩

/-- END TO END, with the reference's OWN signs: for a valid link with an orientation consistent with its
under-strands and every component passing under somewhere, the chain groups of the reference cube — graded with the
degree shifts computed from `KhRef.crossingSigns` — have the same rank in every bidegree after ANY reordering of the
crossings -/
theorem khref_chain_ranks_perm_signs (l : C18.Link) (hv : Valid l) (O : Nat × Nat → Bool) (hO : Orient l O)
    (hU : UnderIn l O) (hD : Determined l) (perm : List Nat) (hperm : perm.Perm (List.range l.length))
    (p : Params) :
    ∃ sg sg', KhRef.crossingSigns (toKh l) = some sg ∧ KhRef.crossingSigns (permuteK perm (toKh l)) = some sg' ∧
      ∀ i j, chainRank (permuteK perm (toKh l)) p (nPosK sg') (nNegK sg') i j =
        chainRank (toKh l) p (nPosK sg) (nNegK sg) i j := by
  obtain ⟨sg, sg', h1, h2, _, _, h5, h6⟩ := khref_signs_permute l hv O hO hU hD perm hperm
  refine ⟨sg, sg', h1, h2, ?_⟩
  intro i j
  rw [h5, h6]
  have hpl : (permuteK perm (toKh l)).toList.Perm (toKh l).toList := by
    rw [← toKh_permute]
    unfold toKh
    exact (C18.permute_perm hperm).map _
  exact chainRank_perm_all (wf_toKh l) hpl p _ _ i j

/-- END TO END for renumbering: signs unchanged, chain ranks unchanged (`renumberK` = `C04Inv.renumber`) -/
theorem khref_chain_ranks_renumber_signs (l : C18.Link) (hv : Valid l) (f : Nat → Nat) (hf : C18.Inj f)
    (p : Params) (nPos nNeg : Nat) (i j : Int) :
    KhRef.crossingSigns (renumberK f (toKh l)) = KhRef.crossingSigns (toKh l) ∧
    chainRank (renumberK f (toKh l)) p nPos nNeg i j = chainRank (toKh l) p nPos nNeg i j :=
  ⟨khref_signs_renumber l hv f hf,
    chainRank_renumber_all (toKh l) (fun a _ b _ h => hf a b h) (wf_toKh l) p nPos nNeg i j⟩

example : Valid (C18.fromPD [[1,4,2,5],[3,6,4,1],[5,2,6,3]]) ∧
    KhRef.crossingSigns (toKh (C18.fromPD [[1,4,2,5],[3,6,4,1],[5,2,6,3]])) = some #[-1, -1, -1] ∧
    KhRef.crossingSigns (permuteK [2, 0, 1] (toKh (C18.fromPD [[1,4,2,5],[3,6,4,1],[5,2,6,3]]))) = some #[-1, -1, -1] ∧
    KhRef.crossingSigns (KhRef.mirror (toKh (C18.fromPD [[4,1,3,2],[2,3,1,4]]))) = some #[1, 1] := by
  rw [crossingSigns_eq, crossingSigns_eq, crossingSigns_eq]; decide +kernel

end Yuiv.C18Bridge
