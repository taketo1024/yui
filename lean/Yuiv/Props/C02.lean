import Yuiv.Model.KhRef
/-
C02 — link invariance and mirror duality.

Proved here (finite tables, by exhaustive `decide`): the crossing-level facts the diagram moves of the property
rest on — mirroring a crossing and flipping the resolution bit gives the same smoothing; `mirror` is an
involution and negates the sign table; `pass` is an involution on the four slots for every crossing type;
the smoothing arcs pair slot `j` with a slot different from `pass j` … ; reversing all orientations
(`[a,b,c,d] ↦ [c,d,a,b]`, i.e. slots rotated by two) preserves both smoothings.
NOT proved: Reidemeister invariance of Khovanov homology; it is explored by the harness (moved diagram vs. original
vs. Lean cube reference).  The chain-level mirror duality of the reference cube is in `Props/C02Mirror.lean`.
-/
namespace Yuiv.KhRef

theorem resolve_mirror (c : CT) (b : Bool) : (c.mirror).resolve (!b) = c.resolve b := by
  cases c <;> cases b <;> rfl

theorem mirror_mirror (c : CT) : c.mirror.mirror = c := by cases c <;> rfl

theorem slotSign_mirror (c : CT) (j : Nat) (hj : j < 4) : slotSign c.mirror j = - slotSign c j := by
  revert j
  cases c <;> decide

theorem pass_involutive (c : CT) (j : Nat) (hj : j < 4) : c.pass (c.pass j) = j ∧ c.pass j < 4 := by
  revert j
  cases c <;> decide

/-- the strand through a crossing joins the two slots of one arc: `arcSlots` pairs `j` with `pass j` -/
theorem arcSlots_pass (c : CT) (j : Nat) (hj : j < 4) :
    (j, c.pass j) ∈ c.arcSlots ∨ (c.pass j, j) ∈ c.arcSlots := by
  revert j
  cases c <;> decide

/-- rotating the four slots by two (global orientation reversal) maps each smoothing arc to a smoothing arc -/
theorem arcSlots_rotate (c : CT) (a b : Nat) (h : (a, b) ∈ c.arcSlots) :
    ((a + 2) % 4, (b + 2) % 4) ∈ c.arcSlots ∨ ((b + 2) % 4, (a + 2) % 4) ∈ c.arcSlots := by
  cases c <;> simp [CT.arcSlots] at h <;> rcases h with ⟨rfl, rfl⟩ | ⟨rfl, rfl⟩ <;> decide

/-- a crossing sign does not change when both strands are reversed: entering through the opposite slot of the
same strand in the rotated code carries the same sign -/
theorem slotSign_rotate (c : CT) (j : Nat) (hj : j < 4) : slotSign c ((c.pass j + 2) % 4) = slotSign c j := by
  revert j
  cases c <;> decide

end Yuiv.KhRef
