import Yuiv.Proofs.C06WalkBfs
import Yuiv.Proofs.C06WalkKnot
import Yuiv.Props.C06Closure
/-
C06Walk — the reply of the C06 driver, for `Props/C06Walk`: what `coloredSeifertCircles` returns when it returns
(`coloredSeifertCircles_ok`), the flags of `canonReply` as functions of the cycles (`replyFlags`, `replyDz`,
`canonReply_eq`: the reply is a function of the flags), and what a knot closure provides (`knot_closure_facts`: the word
uses every generator and the reference's signs give the state `braidState w`).
-/
namespace Yuiv.C06Walk
open Yuiv Yuiv.KhRef Yuiv.C06Canon Yuiv.C06Cycle Yuiv.Drv.C06 Yuiv.C06Closure
open Yuiv.C18 (closure posLab)
open Yuiv.C18Bridge (toKh encSign)

theorem range_map_getElem! {α β : Type} [Inhabited α] (xs : List α) (f : α → β) :
    (List.range xs.length).map (fun k => f xs[k]!) = xs.map f := by
  apply List.ext_getElem
  · simp
  · intro k h1 h2
    simp only [List.getElem_map, List.getElem_range]
    rw [getElem!_pos xs k (by simpa using h1)]

theorem coloredSeifertCircles_ok (l : Link) (signs : List Int) (base : Nat) (cc : List (Path × Colour))
    (h : coloredSeifertCircles l signs base = .ok cc) :
    ∃ (paths : List Path) (i : Nat) (col : Nat → Colour) (rem : List Nat),
      seifertCircles l signs = .ok paths ∧ paths.findIdx? (fun c => c.edges.contains base) = some i ∧
      colouring (fun i1 i2 => isAdj l (paths[i1]!).edges (paths[i2]!).edges) ascending paths.length i =
        some (col, rem) ∧
      cc = (List.range paths.length).map (fun k => (paths[k]!, col k)) := by
  unfold coloredSeifertCircles at h
  split at h
  · split at h
    · cases h
    · split at h
      · rename_i paths hs
        split at h
        · cases h
        · rename_i i hi
          dsimp only at h
          split at h
          · rename_i col rem hc
            cases h
            exact ⟨paths, i, col, rem, hs, hi, hc, rfl⟩
          · cases h
      · cases h
      · cases h
  · cases h
  · cases h

/-- the pair `(hypOk, setsOk)` of `Drv/C06.canonReply`, verbatim -/
def replyFlags (l : Link) (signs : List Int) (h : Int) (base : Option Nat) (zs : List Chain) : Bool × Bool :=
  let s := oriPresState signs
  let cube : Cube := { (mkCube l ⟨h, 0, false⟩) with base := base }
  let circ := (cube.circ[s]!).toList
  let start := match base with | some e => some e | none => firstEdge l
  match start with
  | none => (zs.isEmpty, zs.isEmpty)
  | some e =>
    if zs.isEmpty then (true, true) else
    match coloredSeifertCircles l signs e with
    | .ok cc =>
      let a := (cc.map (fun pc => sortNat pc.1.edges)).toArray.qsort (fun x y => x.headD 0 < y.headD 0)
      (crossingsBicoloured l cc, a.toList == circ.map (·.toList))
    | _ => (false, false)

/-- the flag `dzOk` of `canonReply`, verbatim -/
def replyDz (l : Link) (h : Int) (base : Option Nat) (zs : List Chain) : Bool :=
  zs.all (fun z => match dOfChain { (mkCube l ⟨h, 0, false⟩) with base := base } ⟨h, 0, base.isSome⟩ z with
    | some [] => true | _ => false)

theorem knot_closure_facts (n : Nat) (w : List Int) (l : C18.Link) (hcl : closure n w = .ok l)
    (comps : List Path) (hc : components (toKh l) = .ok comps) (h1 : comps.length = 1)
    (sg : Array Int) (hsg : KhRef.crossingSigns (toKh l) = some sg) :
    (∀ g, g + 1 < n → ∃ j, j < w.length ∧ (w.getD j 0).natAbs - 1 = g) ∧
    oriPresState sg.toList = braidState w := by
  refine ⟨every_generator_of_knot n w l hcl comps hc h1, ?_⟩
  have hD := determined_of_knot l (C18.closure_valid' n w l hcl) comps hc h1
  obtain ⟨e1, e2⟩ := closure_ref_signs n w l hcl hD
  rw [e1] at hsg
  rw [← Option.some.inj hsg]
  exact e2

theorem canonReply_panic (l : Link) (h : Int) (base : Option Nat) (sg : Array Int)
    (hsg : crossingSigns l = some sg) (hz : canonCyclesAt l sg.toList h base = .panic) :
    canonReply l h base = "panic" := by
  simp only [canonReply, hsg, hz]

/-- the reply on `.ok zs`, as a function of the flags `replyDz`, `replyFlags` (which repeat the text of `canonReply`; their
`match`es are compiled to other matchers, equal by unfolding) -/
theorem canonReply_eq (l : Link) (h : Int) (base : Option Nat) (sg : Array Int) (zs : List Chain)
    (hsg : crossingSigns l = some sg) (hz : canonCyclesAt l sg.toList h base = .ok zs) :
    canonReply l h base =
      (fun (dz : Bool) (f : Bool × Bool) =>
        let bits := bitsStr (oriPresBits sg.toList)
        let circ := ((({ (mkCube l ⟨h, 0, false⟩) with base := base } : Cube).circ[oriPresState sg.toList]!).toList)
        let chk := if dz && f.1 && f.2 then "ok" else s!"fail(dz={dz},hyp={f.1},sets={f.2})"
        let zstr := if zs.isEmpty then "none" else String.intercalate ";" (zs.map (chainStr bits))
        s!"s={bits} circ={natsStr "," (circ.map (fun cs => cs[0]!))} z={zstr} chk={chk}")
        (replyDz l h base zs) (replyFlags l sg.toList h base zs) := by
  simp only [canonReply, hsg, hz]
  rfl

theorem canonReply_ok (l : Link) (h : Int) (base : Option Nat) (sg : Array Int) (zs : List Chain)
    (hsg : crossingSigns l = some sg) (hz : canonCyclesAt l sg.toList h base = .ok zs)
    (k1 : replyDz l h base zs = true) (k2 : replyFlags l sg.toList h base zs = (true, true)) :
    ∃ pre, canonReply l h base = pre ++ " chk=ok" := by
  have key : ∀ P : String, P ++ toString " chk=" ++ toString "ok" = P ++ " chk=ok" := fun P => by
    show P ++ " chk=" ++ "ok" = _
    rw [String.append_assoc]
    rfl
  rw [canonReply_eq l h base sg zs hsg hz, k1, k2]
  exact ⟨_, key _⟩

end Yuiv.C06Walk
