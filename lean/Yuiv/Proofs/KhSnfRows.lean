import Yuiv.Proofs.KhSnfDefs
/-
KhSnfRows — the two sparse-row primitives of the reference: binary search `rowGet` and the sorted merge `rowAxpy`
(= `mergeL` on lists).  `rowAxpy` is well-formed only for `k ≠ 0`: for `k = 0` the branches that push `(cb, k * vb)`
without a zero test create zero entries (`Props/KhSnf.rowAxpy_zero_defect`); the only caller uses `k = -(a*u)`, `a ≠ 0`,
`u = ±1`.  The `while` loops (`Lean.Loop.forIn`) are unfolded one iteration at a time (`loop_unfold`).
-/
namespace Yuiv.KhSnf
open Yuiv.KhRef

/-- `rval` on lists -/
def lval (l : List (Nat × Int)) (c : Nat) : Int := ((l.filter (fun x => x.1 == c)).map (fun x => x.2)).sum

theorem rval_eq_lval (r : Row) (c : Nat) : rval r c = lval r.toList c := rfl

@[simp] theorem lval_nil (c : Nat) : lval [] c = 0 := rfl

theorem lval_cons (x : Nat × Int) (l : List (Nat × Int)) (c : Nat) :
    lval (x :: l) c = (if x.1 = c then x.2 else 0) + lval l c := by
  unfold lval
  by_cases h : x.1 = c <;> simp [h]

theorem lval_eq_zero_of_not_mem (l : List (Nat × Int)) (c : Nat) (h : ∀ x ∈ l, x.1 ≠ c) : lval l c = 0 := by
  induction l with
  | nil => rfl
  | cons x l ih =>
    rw [lval_cons, ih (fun y hy => h y (List.mem_cons_of_mem _ hy)), if_neg (h x List.mem_cons_self)]
    rfl

theorem lval_of_mem {l : List (Nat × Int)} (hp : l.Pairwise (fun x y => x.1 < y.1)) {x : Nat × Int}
    (hx : x ∈ l) : lval l x.1 = x.2 := by
  induction l with
  | nil => cases hx
  | cons y l ih =>
    rw [List.pairwise_cons] at hp
    rw [lval_cons]
    rcases List.mem_cons.1 hx with rfl | hx
    · rw [if_pos rfl, lval_eq_zero_of_not_mem]
      · simp
      · intro z hz
        have := hp.1 z hz
        omega
    · have := hp.1 x hx
      rw [if_neg (by omega), ih hp.2 hx]
      simp

theorem rval_empty (c : Nat) : rval #[] c = 0 := rfl

theorem rval_eq_zero_of_size_zero (r : Row) (h : r.size = 0) (c : Nat) : rval r c = 0 := by
  have : r = #[] := Array.eq_empty_of_size_eq_zero h
  subst this
  rfl

theorem rval_of_mem {n : Nat} {r : Row} (h : RowOK n r) {x : Nat × Int} (hx : x ∈ r.toList) :
    rval r x.1 = x.2 := lval_of_mem h.1 hx

theorem rval_ne_zero_iff {n : Nat} {r : Row} (h : RowOK n r) (c : Nat) :
    rval r c ≠ 0 ↔ ∃ x ∈ r.toList, x.1 = c := by
  constructor
  · intro hne
    by_contra hno
    apply hne
    apply lval_eq_zero_of_not_mem
    intro x hx hc
    exact hno ⟨x, hx, hc⟩
  · rintro ⟨x, hx, rfl⟩
    rw [rval_of_mem h hx]
    exact h.2.1 x hx

theorem rval_eq_zero_of_ge {n : Nat} {r : Row} (h : RowOK n r) {c : Nat} (hc : n ≤ c) : rval r c = 0 := by
  apply lval_eq_zero_of_not_mem
  intro x hx he
  have := h.2.2 x hx
  omega

theorem exists_rval_ne_zero {n : Nat} {r : Row} (h : RowOK n r) (hs : 0 < r.size) :
    ∃ c, c < n ∧ rval r c ≠ 0 := by
  have hx : r[0] ∈ r.toList := by simp
  exact ⟨r[0].1, h.2.2 _ hx, by rw [rval_of_mem h hx]; exact h.2.1 _ hx⟩

theorem loop_unfold {β : Type} (f : Unit → β → Id (ForInStep β)) (s : β) :
    forIn (m := Id) Lean.Loop.mk s f =
      (match f () s with
        | ForInStep.done v => v
        | ForInStep.yield v => forIn (m := Id) Lean.Loop.mk v f) := by
  show Lean.Loop.forIn Lean.Loop.mk s f = _
  rw [Lean.Loop.forIn_eq_of_monadTail]
  cases f () s <;> rfl

theorem loop_done {β : Type} (f : Unit → β → Id (ForInStep β)) (s v : β) (h : f () s = ForInStep.done v) :
    forIn (m := Id) Lean.Loop.mk s f = v := by
  rw [loop_unfold, h]

theorem loop_yield {β : Type} (f : Unit → β → Id (ForInStep β)) (s v : β) (h : f () s = ForInStep.yield v) :
    forIn (m := Id) Lean.Loop.mk s f = forIn (m := Id) Lean.Loop.mk v f := by
  rw [loop_unfold, h]

/-- state of the loop of `rowGet`: value found, `lo`, `hi` -/
abbrev GS := Option Int × Nat × Nat

/-- the body of the `while` loop of `rowGet` -/
def getBody (r : Row) (j : Nat) (_ : Unit) : GS → Id (ForInStep GS)
  | (_, lo, hi) =>
    if lo < hi then
      if r[(lo + hi) / 2]!.1 == j then ForInStep.done (some r[(lo + hi) / 2]!.2, lo, hi)
      else if r[(lo + hi) / 2]!.1 < j then ForInStep.yield (none, (lo + hi) / 2 + 1, hi)
      else ForInStep.yield (none, lo, (lo + hi) / 2)
    else ForInStep.done (none, lo, hi)

def getFin (s : GS) : Int := match s.1 with | some v => v | none => 0

theorem rowGet_eq (r : Row) (j : Nat) :
    rowGet r j = getFin (forIn (m := Id) Lean.Loop.mk ((none, 0, r.size) : GS) (getBody r j)) := by
  unfold rowGet
  show Id.run (forIn (m := Id) Lean.Loop.mk _ _ >>= _)
     = Id.run (forIn (m := Id) Lean.Loop.mk _ (getBody r j) >>= fun s => pure (getFin s))
  congr 2
  funext s
  obtain ⟨a, b⟩ := s
  cases a <;> rfl

theorem sorted_get {r : Row} (hp : r.toList.Pairwise (fun x y => x.1 < y.1)) {p q : Nat} (hpq : p < q)
    (hq : q < r.size) : r[p]!.1 < r[q]!.1 := by
  have h := (List.pairwise_iff_getElem.1 hp) p q (by simpa using (by omega : p < r.size)) (by simpa using hq) hpq
  simpa [getElem!_pos, hq, (by omega : p < r.size)] using h

theorem mem_get {α : Type} [Inhabited α] {r : Array α} {x : α} (hx : x ∈ r.toList) : ∃ p, p < r.size ∧ r[p]! = x := by
  obtain ⟨p, hp, he⟩ := List.getElem_of_mem hx
  have hp' : p < r.size := by simpa using hp
  exact ⟨p, hp', by simpa [getElem!_pos, hp'] using he⟩

theorem get_mem {α : Type} [Inhabited α] {r : Array α} {p : Nat} (hp : p < r.size) : r[p]! ∈ r.toList := by
  simp [getElem!_pos, hp]

/-- outside the window `[lo, hi)` the columns are on the wrong side of `j`: the row has no entry in column `j` -/
theorem rval_eq_zero_of_window {r : Row} {j lo hi : Nat} (h : hi ≤ lo)
    (hlo : ∀ p, p < lo → p < r.size → r[p]!.1 < j) (hhi : ∀ p, hi ≤ p → p < r.size → j < r[p]!.1) :
    rval r j = 0 := by
  apply lval_eq_zero_of_not_mem
  intro x hx he
  obtain ⟨p, hps, rfl⟩ := mem_get hx
  by_cases h : p < lo
  · have := hlo p h hps; omega
  · have := hhi p (by omega) hps; omega

theorem get_loop (r : Row) (j : Nat) (hp : r.toList.Pairwise (fun x y => x.1 < y.1)) :
    ∀ (m lo hi : Nat), hi - lo ≤ m → hi ≤ r.size →
      (∀ p, p < lo → p < r.size → r[p]!.1 < j) → (∀ p, hi ≤ p → p < r.size → j < r[p]!.1) →
      getFin (forIn (m := Id) Lean.Loop.mk ((none, lo, hi) : GS) (getBody r j)) = rval r j := by
  intro m
  induction m with
  | zero =>
    intro lo hi hm hhi hlo hhi'
    have hlt : ¬ lo < hi := by omega
    rw [loop_done (getBody r j) (none, lo, hi) _ (if_neg hlt)]
    exact (rval_eq_zero_of_window (by omega) hlo hhi').symm
  | succ m ih =>
    intro lo hi hm hhi hlo hhi'
    by_cases hlt : lo < hi
    · have hmid : (lo + hi) / 2 < r.size := by omega
      by_cases h1 : (r[(lo + hi) / 2]!.1 == j) = true
      · rw [loop_done (getBody r j) (none, lo, hi) _ ((if_pos hlt).trans (if_pos h1))]
        show r[(lo + hi) / 2]!.2 = _
        rw [← eq_of_beq h1]
        exact (lval_of_mem hp (get_mem hmid)).symm
      · have h1' : r[(lo + hi) / 2]!.1 ≠ j := fun e => h1 (beq_iff_eq.mpr e)
        by_cases h2 : r[(lo + hi) / 2]!.1 < j
        · rw [loop_yield (getBody r j) (none, lo, hi) _ ((if_pos hlt).trans ((if_neg h1).trans (if_pos h2)))]
          apply ih _ _ (by omega) hhi _ hhi'
          intro p hpl hps
          by_cases hpe : p = (lo + hi) / 2
          · rw [hpe]; exact h2
          · have := sorted_get hp (by omega : p < (lo + hi) / 2) hmid
            omega
        · rw [loop_yield (getBody r j) (none, lo, hi) _ ((if_pos hlt).trans ((if_neg h1).trans (if_neg h2)))]
          apply ih _ _ (by omega) (by omega) hlo
          intro p hpl hps
          by_cases hpe : p = (lo + hi) / 2
          · rw [hpe]; omega
          · have := sorted_get hp (by omega : (lo + hi) / 2 < p) hps
            omega
    · rw [loop_done (getBody r j) (none, lo, hi) _ (if_neg hlt)]
      exact (rval_eq_zero_of_window (by omega) hlo hhi').symm

theorem rowGetSpec : RowGetSpec := by
  intro n r j h
  rw [rowGet_eq]
  exact get_loop r j h.1 r.size 0 r.size (by omega) (by omega) (by intro p hp; omega) (by intro p hp hp'; omega)

/-- state of the loop of `rowAxpy`: output, `i`, `j` -/
abbrev AS := Row × Nat × Nat

/-- the body of the `while` loop of `rowAxpy` -/
def axpyBody (a : Row) (k : Int) (b : Row) (_ : Unit) : AS → Id (ForInStep AS)
  | (out, i, j) =>
    if (decide (i < a.size) || decide (j < b.size)) = true then
      if j ≥ b.size then ForInStep.yield (out.push a[i]!, i + 1, j)
      else if i ≥ a.size then ForInStep.yield (out.push (b[j]!.1, k * b[j]!.2), i, j + 1)
      else if a[i]!.1 < b[j]!.1 then ForInStep.yield (out.push (a[i]!.1, a[i]!.2), i + 1, j)
      else if b[j]!.1 < a[i]!.1 then ForInStep.yield (out.push (b[j]!.1, k * b[j]!.2), i, j + 1)
      else if (a[i]!.2 + k * b[j]!.2 != 0) = true then
        ForInStep.yield (out.push (a[i]!.1, a[i]!.2 + k * b[j]!.2), i + 1, j + 1)
      else ForInStep.yield (out, i + 1, j + 1)
    else ForInStep.done (out, i, j)

theorem rowAxpy_eq (a : Row) (k : Int) (b : Row) :
    rowAxpy a k b
      = (forIn (m := Id) Lean.Loop.mk ((Array.mkEmpty (a.size + b.size), 0, 0) : AS) (axpyBody a k b)).1 := by
  unfold rowAxpy
  rfl

/-- the sorted merge `xs + k * ys` on lists of entries, branch by branch as in `rowAxpy` -/
def mergeL (k : Int) : List (Nat × Int) → List (Nat × Int) → List (Nat × Int)
  | [], [] => []
  | x :: xs, [] => x :: mergeL k xs []
  | [], y :: ys => (y.1, k * y.2) :: mergeL k [] ys
  | x :: xs, y :: ys =>
    if x.1 < y.1 then x :: mergeL k xs (y :: ys)
    else if y.1 < x.1 then (y.1, k * y.2) :: mergeL k (x :: xs) ys
    else if (x.2 + k * y.2 != 0) = true then (x.1, x.2 + k * y.2) :: mergeL k xs ys
    else mergeL k xs ys
termination_by xs ys => xs.length + ys.length
decreasing_by
  all_goals simp only [List.length_cons, List.length_nil]
  all_goals omega

theorem drop_get {r : Row} {p : Nat} (hp : p < r.size) : r.toList.drop p = r[p]! :: r.toList.drop (p + 1) := by
  rw [List.drop_eq_getElem_cons (by simpa using hp)]
  simp [getElem!_pos, hp]

theorem drop_ge {r : Row} {p : Nat} (hp : r.size ≤ p) : r.toList.drop p = [] := by
  apply List.drop_eq_nil_of_le
  simpa using hp

theorem axpy_loop (a : Row) (k : Int) (b : Row) :
    ∀ (m : Nat) (out : Row) (i j : Nat), i ≤ a.size → j ≤ b.size → a.size + b.size ≤ m + i + j →
      (forIn (m := Id) Lean.Loop.mk ((out, i, j) : AS) (axpyBody a k b)).1.toList
        = out.toList ++ mergeL k (a.toList.drop i) (b.toList.drop j) := by
  intro m
  induction m with
  | zero =>
    intro out i j hia hjb hm
    have hc : ¬ (decide (i < a.size) || decide (j < b.size)) = true := by simp; omega
    rw [loop_done (axpyBody a k b) (out, i, j) _ (if_neg hc), drop_ge (by omega : a.size ≤ i),
      drop_ge (by omega : b.size ≤ j), mergeL, List.append_nil]
  | succ m ih =>
    intro out i j hia hjb hm
    by_cases hc : (decide (i < a.size) || decide (j < b.size)) = true
    · have hij : i < a.size ∨ j < b.size := by simpa using hc
      -- in every branch: one iteration, the induction hypothesis, one equation of `mergeL`
      by_cases hj : b.size ≤ j
      · have hi : i < a.size := by omega
        have hb : axpyBody a k b () (out, i, j) = ForInStep.yield (out.push a[i]!, i + 1, j) :=
          (if_pos hc).trans (if_pos hj)
        rw [loop_yield _ _ _ hb, ih _ _ _ (by omega) (by omega) (by omega), drop_get hi, drop_ge hj, mergeL, Array.toList_push,
          List.append_assoc, List.singleton_append]
      · have hj' : j < b.size := by omega
        by_cases hi : a.size ≤ i
        · have hb : axpyBody a k b () (out, i, j) = ForInStep.yield (out.push (b[j]!.1, k * b[j]!.2), i, j + 1) :=
            (if_pos hc).trans ((if_neg hj).trans (if_pos hi))
          rw [loop_yield _ _ _ hb, ih _ _ _ (by omega) (by omega) (by omega), drop_get hj', drop_ge hi, mergeL, Array.toList_push,
            List.append_assoc, List.singleton_append]
        · have hi' : i < a.size := by omega
          rw [drop_get hi', drop_get hj', mergeL]
          by_cases h1 : a[i]!.1 < b[j]!.1
          · have hb : axpyBody a k b () (out, i, j) = ForInStep.yield (out.push (a[i]!.1, a[i]!.2), i + 1, j) :=
              (if_pos hc).trans ((if_neg hj).trans ((if_neg hi).trans (if_pos h1)))
            rw [loop_yield _ _ _ hb, ih _ _ _ (by omega) (by omega) (by omega), drop_get hj', if_pos h1, Array.toList_push,
              List.append_assoc, List.singleton_append]
          · rw [if_neg h1]
            by_cases h2 : b[j]!.1 < a[i]!.1
            · have hb : axpyBody a k b () (out, i, j) =
                  ForInStep.yield (out.push (b[j]!.1, k * b[j]!.2), i, j + 1) :=
                (if_pos hc).trans ((if_neg hj).trans ((if_neg hi).trans ((if_neg h1).trans (if_pos h2))))
              rw [loop_yield _ _ _ hb, ih _ _ _ (by omega) (by omega) (by omega), drop_get hi', if_pos h2, Array.toList_push,
                List.append_assoc, List.singleton_append]
            · rw [if_neg h2]
              by_cases h3 : (a[i]!.2 + k * b[j]!.2 != 0) = true
              · have hb : axpyBody a k b () (out, i, j) =
                    ForInStep.yield (out.push (a[i]!.1, a[i]!.2 + k * b[j]!.2), i + 1, j + 1) :=
                  (if_pos hc).trans ((if_neg hj).trans ((if_neg hi).trans ((if_neg h1).trans
                    ((if_neg h2).trans (if_pos h3)))))
                rw [loop_yield _ _ _ hb, ih _ _ _ (by omega) (by omega) (by omega), if_pos h3, Array.toList_push, List.append_assoc,
                  List.singleton_append]
              · have hb : axpyBody a k b () (out, i, j) = ForInStep.yield (out, i + 1, j + 1) :=
                  (if_pos hc).trans ((if_neg hj).trans ((if_neg hi).trans ((if_neg h1).trans
                    ((if_neg h2).trans (if_neg h3)))))
                rw [loop_yield _ _ _ hb, ih _ _ _ (by omega) (by omega) (by omega), if_neg h3]
    · have hij : a.size ≤ i ∧ b.size ≤ j := by simpa using hc
      rw [loop_done (axpyBody a k b) (out, i, j) _ (if_neg hc), drop_ge hij.1, drop_ge hij.2, mergeL,
        List.append_nil]

theorem rowAxpy_toList (a : Row) (k : Int) (b : Row) :
    (rowAxpy a k b).toList = mergeL k a.toList b.toList := by
  rw [rowAxpy_eq, axpy_loop a k b (a.size + b.size) _ 0 0 (Nat.zero_le _) (Nat.zero_le _) (Nat.le_refl _)]
  simp

theorem lval_cons_smul (k : Int) (y : Nat × Int) (l : List (Nat × Int)) (c : Nat) :
    lval ((y.1, k * y.2) :: l) c = k * (if y.1 = c then y.2 else 0) + lval l c := by
  rw [lval_cons]
  show (if y.1 = c then k * y.2 else 0) + _ = _
  split
  · rfl
  · rw [Int.mul_zero]

theorem lval_mergeL (k : Int) (xs ys : List (Nat × Int)) (c : Nat) :
    lval (mergeL k xs ys) c = lval xs c + k * lval ys c := by
  fun_induction mergeL k xs ys with
  | case1 => rw [lval_nil, Int.mul_zero, Int.add_zero]
  | case2 x xs ih => rw [lval_cons, ih, lval_cons]; ring
  | case3 y ys ih => rw [lval_cons_smul, ih, lval_cons]; ring
  | case4 x xs y ys h1 ih => rw [lval_cons, ih, lval_cons x xs]; ring
  | case5 x xs y ys h1 h2 ih => rw [lval_cons_smul, ih, lval_cons y ys]; ring
  | case6 x xs y ys h1 h2 h3 ih =>
    have he : y.1 = x.1 := by omega
    rw [lval_cons, ih, lval_cons x, lval_cons y, he]
    split <;> ring
  | case7 x xs y ys h1 h2 h3 ih =>
    -- the entry is dropped because `x.2 + k * y.2 = 0`
    have he : y.1 = x.1 := by omega
    have h0 : x.2 + k * y.2 = 0 := by simpa using h3
    rw [ih, lval_cons x, lval_cons y, he]
    split
    · rw [Int.mul_add]; omega
    · ring

/-- what an entry of the merge can be: an entry of `xs`, a scaled entry of `ys`, or the non-zero sum of two entries with
the same column -/
theorem forall_mergeL (k : Int) (xs ys : List (Nat × Int)) {Q : Nat × Int → Prop} (hx : ∀ x ∈ xs, Q x)
    (hy : ∀ y ∈ ys, Q (y.1, k * y.2))
    (hxy : ∀ x ∈ xs, ∀ y ∈ ys, x.1 = y.1 → x.2 + k * y.2 ≠ 0 → Q (x.1, x.2 + k * y.2)) :
    ∀ z ∈ mergeL k xs ys, Q z := by
  fun_induction mergeL k xs ys with
  | case1 => exact fun _ hz => nomatch hz
  | case2 x xs ih =>
    rw [List.forall_mem_cons] at hx ⊢
    exact ⟨hx.1, ih hx.2 hy (fun _ _ _ hw => nomatch hw)⟩
  | case3 y ys ih =>
    rw [List.forall_mem_cons] at hy ⊢
    exact ⟨hy.1, ih hx hy.2 (fun _ hw => nomatch hw)⟩
  | case4 x xs y ys h1 ih =>
    rw [List.forall_mem_cons] at hx ⊢
    exact ⟨hx.1, ih hx.2 hy (fun w hw => hxy w (List.mem_cons_of_mem _ hw))⟩
  | case5 x xs y ys h1 h2 ih =>
    rw [List.forall_mem_cons] at hy ⊢
    exact ⟨hy.1, ih hx hy.2 (fun w hw v hv => hxy w hw v (List.mem_cons_of_mem _ hv))⟩
  | case6 x xs y ys h1 h2 h3 ih =>
    rw [List.forall_mem_cons]
    refine ⟨hxy x List.mem_cons_self y List.mem_cons_self (by omega) (by simpa using h3), ?_⟩
    exact ih (fun w hw => hx w (List.mem_cons_of_mem _ hw)) (fun w hw => hy w (List.mem_cons_of_mem _ hw))
      (fun w hw v hv => hxy w (List.mem_cons_of_mem _ hw) v (List.mem_cons_of_mem _ hv))
  | case7 x xs y ys h1 h2 h3 ih =>
    exact ih (fun w hw => hx w (List.mem_cons_of_mem _ hw)) (fun w hw => hy w (List.mem_cons_of_mem _ hw))
      (fun w hw v hv => hxy w (List.mem_cons_of_mem _ hw) v (List.mem_cons_of_mem _ hv))

/-- a property of the columns of both lists is one of the columns of the merge -/
theorem key_mergeL (k : Int) (xs ys : List (Nat × Int)) {P : Nat → Prop} (hx : ∀ x ∈ xs, P x.1) (hy : ∀ y ∈ ys, P y.1) :
    ∀ z ∈ mergeL k xs ys, P z.1 :=
  forall_mergeL k xs ys hx hy (fun x h _ _ _ _ => hx x h)

theorem nz_mergeL (k : Int) (hk : k ≠ 0) (xs ys : List (Nat × Int)) (hx : ∀ x ∈ xs, x.2 ≠ 0)
    (hy : ∀ y ∈ ys, y.2 ≠ 0) : ∀ z ∈ mergeL k xs ys, z.2 ≠ 0 :=
  forall_mergeL k xs ys hx (fun y h => Int.mul_ne_zero hk (hy y h)) (fun _ _ _ _ _ h => h)

theorem sorted_mergeL (k : Int) (xs ys : List (Nat × Int)) (hx : xs.Pairwise (fun x y => x.1 < y.1))
    (hy : ys.Pairwise (fun x y => x.1 < y.1)) : (mergeL k xs ys).Pairwise (fun x y => x.1 < y.1) := by
  -- the head of the merge is below the rest: it is below the rest of both lists (`key_mergeL`)
  fun_induction mergeL k xs ys with
  | case1 => exact List.Pairwise.nil
  | case2 x xs ih =>
    rw [List.pairwise_cons] at hx ⊢
    exact ⟨key_mergeL k xs [] hx.1 (fun _ hw => nomatch hw), ih hx.2 hy⟩
  | case3 y ys ih =>
    rw [List.pairwise_cons] at hy ⊢
    exact ⟨key_mergeL k [] ys (fun _ hw => nomatch hw) hy.1, ih hx hy.2⟩
  | case4 x xs y ys h1 ih =>
    have hx' := List.pairwise_cons.1 hx
    rw [List.pairwise_cons]
    refine ⟨key_mergeL k xs (y :: ys) hx'.1 ?_, ih hx'.2 hy⟩
    rw [List.forall_mem_cons]
    exact ⟨h1, fun w hw => Nat.lt_trans h1 ((List.pairwise_cons.1 hy).1 w hw)⟩
  | case5 x xs y ys h1 h2 ih =>
    have hy' := List.pairwise_cons.1 hy
    rw [List.pairwise_cons]
    refine ⟨key_mergeL k (x :: xs) ys ?_ hy'.1, ih hx hy'.2⟩
    rw [List.forall_mem_cons]
    exact ⟨h2, fun w hw => Nat.lt_trans h2 ((List.pairwise_cons.1 hx).1 w hw)⟩
  | case6 x xs y ys h1 h2 h3 ih =>
    have hx' := List.pairwise_cons.1 hx
    have hy' := List.pairwise_cons.1 hy
    rw [List.pairwise_cons]
    have he : y.1 = x.1 := by omega
    exact ⟨key_mergeL k xs ys hx'.1 (he ▸ hy'.1), ih hx'.2 hy'.2⟩
  | case7 x xs y ys h1 h2 h3 ih =>
    exact ih (List.pairwise_cons.1 hx).2 (List.pairwise_cons.1 hy).2

theorem rval_rowAxpy (a : Row) (k : Int) (b : Row) (c : Nat) :
    rval (rowAxpy a k b) c = rval a c + k * rval b c := by
  rw [rval_eq_lval, rowAxpy_toList, lval_mergeL]
  rfl

/-- `RowAxpySpec` restricted to `k ≠ 0` (the unrestricted `RowAxpySpec` is false, see `Props/KhSnf.rowAxpy_zero_defect`) -/
theorem rowAxpySpec_ne {n : Nat} {a b : Row} {k : Int} (hk : k ≠ 0) (ha : RowOK n a) (hb : RowOK n b) :
    RowOK n (rowAxpy a k b) ∧ ∀ c, rval (rowAxpy a k b) c = rval a c + k * rval b c := by
  refine ⟨⟨?_, ?_, ?_⟩, rval_rowAxpy a k b⟩
  · rw [rowAxpy_toList]
    exact sorted_mergeL k _ _ ha.1 hb.1
  · rw [rowAxpy_toList]
    exact nz_mergeL k hk _ _ ha.2.1 hb.2.1
  · rw [rowAxpy_toList]
    exact key_mergeL (P := (· < n)) k _ _ ha.2.2 hb.2.2

/-- for `k = 0` everything of `RowAxpySpec` except "no zero value" still holds -/
theorem rowAxpy_sorted_lt {n : Nat} {a b : Row} (k : Int) (ha : RowOK n a) (hb : RowOK n b) :
    (rowAxpy a k b).toList.Pairwise (fun x y => x.1 < y.1) ∧ ∀ x ∈ (rowAxpy a k b).toList, x.1 < n := by
  rw [rowAxpy_toList]
  exact ⟨sorted_mergeL k _ _ ha.1 hb.1, key_mergeL (P := (· < n)) k _ _ ha.2.2 hb.2.2⟩

end Yuiv.KhSnf
