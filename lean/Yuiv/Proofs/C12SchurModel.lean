import Yuiv.Proofs.C12Left
import Mathlib.Data.Matrix.ColumnRowPartitioned
import Mathlib.LinearAlgebra.Matrix.NonsingularInverse

/-
C12 — the code model of `Schur::from_partial_triangular` on an input whose leading block is unit triangular: the blocks
of `divide4` and the assembled transfer maps read as (block) matrices over `R`; `schur_run` is the run of the whole function.
-/
namespace Yuiv.C12
open Yuiv Matrix

section
variable {R : Type} [CommRing R]
variable {r p q : Type} [Fintype r] [Fintype p] [Fintype q] [DecidableEq r] [DecidableEq p] [DecidableEq q]

set_option linter.unusedSectionVars false in
/-- what a left solution `W·A = C` (`solve_triangular_left`) says about `A⁻¹`, over any commutative ring and any finite
index types -/
theorem left_sol_eq_inv (A : Matrix r r R) (C W : Matrix p r R) (hA : IsUnit A.det) (hW : W * A = C) :
    W = C * A⁻¹ := by
  rw [← hW, Matrix.mul_assoc, Matrix.mul_nonsing_inv A hA, Matrix.mul_one]

end

section
variable {R : Type} [CommRing R] [Scal R] [LawfulScal R]
open LawfulScal
variable {upper : Bool} {M : SpMat R} {r : Nat} {u v : Nat → R}

theorem colSum_filter_idx (l : List (Nat × R)) (P : Nat → Bool) (i : Nat) :
    colSum (l.filter fun e => P e.1) i = if P i = true then colSum l i else 0 := by
  induction l with
  | nil => rw [List.filter_nil, colSum_nil, ite_self]
  | cons e l ih =>
    by_cases he : e.1 = i
    · subst he
      by_cases hP : P e.1 = true
      · rw [List.filter_cons_of_pos (p := fun x : Nat × R => P x.1) hP, colSum_cons, colSum_cons, ih, if_pos hP, if_pos hP]
      · rw [List.filter_cons_of_neg (p := fun x : Nat × R => P x.1) hP, ih, if_neg hP, if_neg hP]
    · by_cases hP : P e.1 = true
      · rw [List.filter_cons_of_pos (p := fun x : Nat × R => P x.1) hP, colSum_cons, colSum_cons, ih, if_neg he, zero_add, zero_add]
      · rw [List.filter_cons_of_neg (p := fun x : Nat × R => P x.1) hP, ih, colSum_cons, if_neg he, zero_add]

theorem colSum_map_idx (l : List (Nat × R)) (f : Nat → Nat) (i : Nat) (hf : ∀ e ∈ l, f e.1 = f i → e.1 = i) :
    colSum (l.map fun e => (f e.1, e.2)) (f i) = colSum l i := by
  induction l with
  | nil => rfl
  | cons e l ih =>
    rw [List.map_cons, colSum_cons, colSum_cons, ih fun e' h' => hf e' (List.mem_cons_of_mem _ h')]
    exact congrArg (· + _) (if_congr ⟨hf e List.mem_cons_self, fun h => by rw [h]⟩ rfl rfl)

theorem colSum_shift (l : List (Nat × R)) (k i : Nat) :
    colSum ((l.filter fun e => decide (k ≤ e.1)).map fun e => (e.1 - k, e.2)) i = colSum l (k + i) := by
  have h := colSum_map_idx (l.filter fun e => decide (k ≤ e.1)) (· - k) (k + i) fun e he hh => by
    have := of_decide_eq_true (List.mem_filter.1 he).2
    omega
  rw [Nat.add_sub_cancel_left] at h
  rw [h, colSum_filter_idx l (fun x => decide (k ≤ x)), if_pos (decide_eq_true (Nat.le_add_right k i))]

def topCol (M : SpMat R) (k j : Nat) : List (Nat × R) :=
  ((col M j).filter fun e => !isZero e.2).filter fun e => decide (e.1 < k)
def botCol (M : SpMat R) (k j : Nat) : List (Nat × R) :=
  (((col M j).filter fun e => !isZero e.2).filter fun e => decide (k ≤ e.1)).map fun e => (e.1 - k, e.2)

omit [CommRing R] [LawfulScal R] in
theorem divide4_eq (M : SpMat R) (k l : Nat) :
    divide4 M k l =
      (⟨k, l, ((List.range l).map (topCol M k)).toArray⟩,
       ⟨k, M.ncols - l, ((List.range (M.ncols - l)).map fun j => topCol M k (l + j)).toArray⟩,
       ⟨M.nrows - k, l, ((List.range l).map (botCol M k)).toArray⟩,
       ⟨M.nrows - k, M.ncols - l, ((List.range (M.ncols - l)).map fun j => botCol M k (l + j)).toArray⟩) := rfl

theorem colSum_topCol (M : SpMat R) (k j i : Nat) : colSum (topCol M k j) i = if i < k then entry M i j else 0 := by
  unfold topCol
  rw [colSum_filter_idx _ (fun x => decide (x < k)), colSum_filter_nz]
  simp only [decide_eq_true_eq]; rfl

theorem colSum_botCol (M : SpMat R) (k j i : Nat) : colSum (botCol M k j) i = entry M (k + i) j := by
  unfold botCol; rw [colSum_shift, colSum_filter_nz]; rfl

/-- `M` is a CSC matrix whose leading `r×r` block is unit triangular -/
structure SchurInput (upper : Bool) (M : SpMat R) (r : Nat) (u v : Nat → R) : Prop where
  hr1 : r ≤ M.nrows
  hr2 : r ≤ M.ncols
  rows : ∀ j, ∀ e ∈ col M j, e.1 < M.nrows
  nodup : ∀ j, ((col M j).map (·.1)).Nodup
  tri : ∀ j < r, ∀ e ∈ col M j, e.1 < r → isZero e.2 = false → (if upper then e.1 ≤ j else j ≤ e.1)
  diag : ∀ j < r, (col M j).filter (fun e => e.1 == j) = [(j, u j)]
  unit : ∀ j < r, inv (u j) = some (v j)

omit [CommRing R] [LawfulScal R] in
theorem mem_topCol {M : SpMat R} {k j : Nat} {e : Nat × R} (h : e ∈ topCol M k j) :
    e ∈ col M j ∧ isZero e.2 = false ∧ e.1 < k := by
  unfold topCol at h
  obtain ⟨h1, h2⟩ := List.mem_filter.1 h
  obtain ⟨h3, h4⟩ := List.mem_filter.1 h1
  exact ⟨h3, by simpa using h4, by simpa using h2⟩

omit [CommRing R] [LawfulScal R] in
theorem mem_botCol {M : SpMat R} {k j : Nat} {e : Nat × R} (h : e ∈ botCol M k j) :
    ∃ e' ∈ col M j, k ≤ e'.1 ∧ e = (e'.1 - k, e'.2) := by
  unfold botCol at h
  obtain ⟨e', he', rfl⟩ := List.mem_map.1 h
  obtain ⟨h1, h2⟩ := List.mem_filter.1 he'
  obtain ⟨h3, _⟩ := List.mem_filter.1 h1
  exact ⟨e', h3, by simpa using h2, rfl⟩

omit [CommRing R] [LawfulScal R] in
theorem nodup_topCol (M : SpMat R) (k j : Nat) (h : ((col M j).map (·.1)).Nodup) : ((topCol M k j).map (·.1)).Nodup :=
  h.sublist (((List.filter_sublist).trans (List.filter_sublist)).map _)

omit [CommRing R] [LawfulScal R] in
theorem nodup_botCol (M : SpMat R) (k j : Nat) (h : ((col M j).map (·.1)).Nodup) : ((botCol M k j).map (·.1)).Nodup := by
  unfold botCol
  rw [List.map_map]
  have hnd : ((((col M j).filter fun e => !isZero e.2).filter fun e => decide (k ≤ e.1)).map (·.1)).Nodup :=
    h.sublist (((List.filter_sublist).trans (List.filter_sublist)).map _)
  -- the shift by `k` is injective on the kept rows, all of which are `≥ k`
  refine List.Nodup.map_on (fun a ha b hb hab => ?_) hnd.of_map
  have h1 : k ≤ a.1 := of_decide_eq_true (List.mem_filter.1 ha).2
  have h2 : k ≤ b.1 := of_decide_eq_true (List.mem_filter.1 hb).2
  exact List.inj_on_of_nodup_map hnd ha hb (by simp only [Function.comp] at hab; omega)

theorem SchurInput.unit_ne_zero [Nontrivial R] (h : SchurInput upper M r u v) (j : Nat) (hj : j < r) : isZero (u j) = false := by
  rw [isZero_false_iff]
  intro h0
  have := inv_mul _ _ (h.unit j hj)
  rw [h0, zero_mul] at this
  exact zero_ne_one this

theorem SchurInput.blockA [Nontrivial R] (h : SchurInput upper M r u v) :
    UnitTriang upper (divide4 M r r).1 r u v := by
  rw [divide4_eq]
  refine ⟨⟨by simp, fun j e he => (mem_topCol (mem_col_mk' he).2).2.2⟩, rfl, rfl, fun j hj e he hz => ?_,
    fun j hj => ?_, h.unit⟩
  · rw [col_mk', if_pos hj] at he
    obtain ⟨h1, _, h3⟩ := mem_topCol he
    exact h.tri j hj e h1 h3 hz
  · rw [col_mk', if_pos hj]
    unfold topCol
    rw [List.filter_filter, List.filter_filter]
    have : ((col M j).filter fun e => ((e.1 == j) && decide (e.1 < r)) && !isZero e.2) =
        (((col M j).filter fun e => e.1 == j).filter fun e => decide (e.1 < r) && !isZero e.2) := by
      rw [List.filter_filter]; congr 1; funext e; cases (e.1 == j) <;> cases (decide (e.1 < r)) <;> cases (isZero e.2) <;> rfl
    rw [this, h.diag j (by omega)]
    simp [hj, h.unit_ne_zero j hj]

omit [CommRing R] [LawfulScal R] in
theorem SchurInput.blockB (h : SchurInput upper M r u v) : WFY (divide4 M r r).2.1 r := by
  rw [divide4_eq]
  refine ⟨rfl, by simp, fun j e he => (mem_topCol (mem_col_mk' he).2).2.2, fun j => ?_⟩
  · rw [col_mk']
    split
    · exact nodup_topCol M r _ (h.nodup _)
    · simp

omit [CommRing R] [LawfulScal R] in
theorem SchurInput.blockC (h : SchurInput upper M r u v) : WFYL (divide4 M r r).2.2.1 r := by
  rw [divide4_eq]
  refine ⟨rfl, fun j e he => ?_, fun j => ?_⟩
  · obtain ⟨e', h1, h2, rfl⟩ := mem_botCol (mem_col_mk' he).2
    have := h.rows j e' h1
    show e'.1 - r < M.nrows - r
    omega
  · rw [col_mk']
    split
    · exact nodup_botCol M r _ (h.nodup _)
    · simp

def blkA (M : SpMat R) (r : Nat) : Matrix (Fin r) (Fin r) R := fun i j => entry M i j
def blkB (M : SpMat R) (r q : Nat) : Matrix (Fin r) (Fin q) R := fun i j => entry M i (r + j)
def blkC (M : SpMat R) (r p : Nat) : Matrix (Fin p) (Fin r) R := fun i j => entry M (r + i) j
def blkD (M : SpMat R) (r p q : Nat) : Matrix (Fin p) (Fin q) R := fun i j => entry M (r + i) (r + j)

theorem toMatrix_blockA (M : SpMat R) (r : Nat) : toMatrix (divide4 M r r).1 r r = blkA M r := by
  ext i j
  simp only [toMatrix, blkA, entry, divide4_eq]
  rw [col_mk', if_pos j.2, colSum_topCol, if_pos i.2]; rfl

theorem toMatrix_blockB (M : SpMat R) (r : Nat) :
    toMatrix (divide4 M r r).2.1 r (M.ncols - r) = blkB M r (M.ncols - r) := by
  ext i j
  simp only [toMatrix, blkB, entry, divide4_eq]
  rw [col_mk', if_pos j.2, colSum_topCol, if_pos i.2]; rfl

theorem toMatrix_blockC (M : SpMat R) (r : Nat) :
    toMatrix (divide4 M r r).2.2.1 (M.nrows - r) r = blkC M r (M.nrows - r) := by
  ext i j
  simp only [toMatrix, blkC, entry, divide4_eq]
  rw [col_mk', if_pos j.2, colSum_botCol]; rfl

theorem toMatrix_blockD (M : SpMat R) (r : Nat) :
    toMatrix (divide4 M r r).2.2.2 (M.nrows - r) (M.ncols - r) = blkD M r (M.nrows - r) (M.ncols - r) := by
  ext i j
  simp only [toMatrix, blkD, entry, divide4_eq]
  rw [col_mk', if_pos j.2, colSum_botCol]; rfl

theorem colSum_single (a : Nat) (x : R) (k : Nat) : colSum [(a, x)] k = if a = k then x else 0 := by
  rw [colSum_cons, colSum_nil]; simp

theorem colSum_range_map (f : Nat → R) (m k : Nat) :
    colSum ((List.range m).map fun i => (i, f i)) k = if k < m then f k else 0 := by
  rw [List.map_eq_flatMap, colSum_flatMap, sum_range_single _ m k fun j hj => by rw [colSum_single, if_neg hj],
    colSum_single, if_pos rfl]

theorem mulVecAt_eq (C : SpMat R) (vX : List (Nat × R)) (r i : Nat) (h : ∀ e ∈ vX, e.1 < r) :
    mulVecAt C vX i = ∑ l ∈ Finset.range r, entry C i l * colSum vX l := by
  show _ = axAt C r vX i
  unfold mulVecAt
  rw [lsum_eq]
  induction vX with
  | nil => exact (Finset.sum_eq_zero fun l _ => by rw [colSum_nil, mul_zero]).symm
  | cons e vX ih =>
    rw [List.map_cons, List.sum_cons, ih fun e' h' => h e' (List.mem_cons_of_mem _ h'), mul_eq,
      ← axAt_single C r e.1 e.2 (h e List.mem_cons_self) i, ← axAt_append]
    rfl

theorem toMatrix_computeSchur (X C D : SpMat R) (r : Nat) (hX : ∀ j, ∀ e ∈ col X j, e.1 < r) :
    toMatrix (computeSchur X C D) D.nrows D.ncols =
      toMatrix D D.nrows D.ncols - toMatrix C D.nrows r * toMatrix X r D.ncols := by
  ext i j
  rw [Matrix.sub_apply, toMatrix_mul_apply]
  show colSum (col (computeSchur X C D) j) i = _
  unfold computeSchur
  rw [col_mk', if_pos j.2, colSum_range_map, if_pos i.2, sub_eq, entry_colVec,
    mulVecAt_eq C (colVec X j) r i (fun e he => hX j e (List.mem_of_mem_filter he))]
  exact congrArg _ (Finset.sum_congr rfl fun l _ => by rw [entry_colVec]; rfl)

/-- what `a.extend_cols(b)` returns when the row numbers agree -/
def extended (A B : SpMat R) : SpMat R :=
  ⟨A.nrows, A.ncols + B.ncols, ((List.range A.ncols).map (col A) ++ (List.range B.ncols).map (col B)).toArray⟩

omit [CommRing R] [Scal R] [LawfulScal R] in
theorem extendCols_ok (A B : SpMat R) (h : A.nrows = B.nrows) : extendCols A B = .ok (extended A B) := by
  unfold extendCols
  rw [if_neg (by rw [h]; exact fun hh => absurd rfl (bne_iff_ne.1 hh))]
  rfl

/-- `X` is what `solve_triangular` returns for `A·X = B`, `W` what `solve_triangular_left` returns for `W·A = C` -/
theorem schur_run [Nontrivial R] (h : SchurInput upper M r u v) :
    ∃ X W : SpMat R, X.nrows = r ∧ X.ncols = M.ncols - r ∧ (∀ j, ∀ e ∈ col X j, e.1 < r) ∧ W.ncols = r ∧
      IsUnit (blkA M r).det ∧
      blkA M r * toMatrix X r (M.ncols - r) = blkB M r (M.ncols - r) ∧
      toMatrix W (M.nrows - r) r * blkA M r = blkC M r (M.nrows - r) ∧
      toMatrix (computeSchur X (divide4 M r r).2.2.1 (divide4 M r r).2.2.2) (M.nrows - r) (M.ncols - r) =
        blkD M r (M.nrows - r) (M.ncols - r) - blkC M r (M.nrows - r) * toMatrix X r (M.ncols - r) ∧
      ∀ wt, schur upper M r wt = .ok ⟨computeSchur X (divide4 M r r).2.2.1 (divide4 M r r).2.2.2,
        if wt then some (proj M.ncols (M.ncols - r), stack (negMat X) (idMat (M.ncols - r))) else none,
        if wt then some (extended (negMat W) (idMat (M.nrows - r)), incl M.nrows (M.nrows - r)) else none⟩ := by
  have hA := h.blockA
  obtain ⟨X, hX1, hX2, hX3, hX4, hX5⟩ := solve_correct hA h.blockB
  obtain ⟨Z, _, _, _, hZ⟩ := invTriangular_correct hA
  obtain ⟨W, hW1, hW2, hW3, hW4⟩ := solveLeft_correct hA h.blockC
  have hS := toMatrix_computeSchur X (divide4 M r r).2.2.1 (divide4 M r r).2.2.2 r hX4
  rw [toMatrix_blockA] at hZ
  refine ⟨X, W, hX2, hX3, hX4, hW3, Matrix.isUnit_det_of_right_inverse hZ, ?_, ?_, ?_, fun wt => ?_⟩
  · rw [← toMatrix_blockA, ← toMatrix_blockB]; exact hX5
  · rw [← toMatrix_blockA, ← toMatrix_blockC]; exact hW4
  · rw [← toMatrix_blockC, ← toMatrix_blockD]; exact hS
  · unfold schur
    rw [if_neg (Nat.not_lt.2 h.hr1), if_neg (Nat.not_lt.2 h.hr2)]
    cases wt with
    | false => simp only [hX1]; rfl
    | true => simp only [hX1, hW1, extendCols_ok (negMat W) (idMat (M.nrows - r) : SpMat R) hW2]; rfl

def sIdx (r : Nat) {k : Nat} : Fin r ⊕ Fin k → Nat := Sum.elim (fun x => x.val) (fun x => r + x.val)

def colsSplit (F : SpMat R) (a r k : Nat) : Matrix (Fin a) (Fin r ⊕ Fin k) R := fun i j => entry F i (sIdx r j)
def rowsSplit (B : SpMat R) (r k b : Nat) : Matrix (Fin r ⊕ Fin k) (Fin b) R := fun i j => entry B (sIdx r i) j
def bothSplit (M : SpMat R) (r p q : Nat) : Matrix (Fin r ⊕ Fin p) (Fin r ⊕ Fin q) R :=
  fun i j => entry M (sIdx r i) (sIdx r j)

theorem colSum_map_neg (l : List (Nat × R)) (k : Nat) :
    colSum (l.map fun e => (e.1, neg e.2)) k = - colSum l k := by
  induction l with
  | nil => rw [List.map_nil, colSum_nil, neg_zero]
  | cons e l ih =>
    rw [List.map_cons, colSum_cons, colSum_cons, ih, neg_add, neg_eq]
    by_cases h : e.1 = k
    · rw [if_pos h, if_pos h]
    · rw [if_neg h, if_neg h, neg_zero]

omit [CommRing R] [LawfulScal R] in
theorem col_negMat (A : SpMat R) (j : Nat) : col (negMat A) j = (col A j).map fun e => (e.1, neg e.2) := by
  unfold col negMat
  by_cases hj : j < A.cols.size <;> simp [hj]

theorem entry_negMat (A : SpMat R) (i j : Nat) : entry (negMat A) i j = - entry A i j := by
  unfold entry
  rw [col_negMat, colSum_map_neg]

theorem colSum_map_shift (l : List (Nat × R)) (k i : Nat) :
    colSum (l.map fun e => (k + e.1, e.2)) (k + i) = colSum l i :=
  colSum_map_idx l (k + ·) i fun _ _ h => Nat.add_left_cancel h

theorem colSum_map_shift_lt (l : List (Nat × R)) (k i : Nat) (hi : i < k) :
    colSum (l.map fun e => (k + e.1, e.2)) i = 0 := by
  apply colSum_eq_zero
  intro e he hh
  obtain ⟨e', _, rfl⟩ := List.mem_map.1 he
  simp at hh; omega

theorem entry_proj (n k i j : Nat) (hj : j < n) :
    entry (proj n k : SpMat R) i j = if n - k ≤ j ∧ j - (n - k) = i then 1 else 0 := by
  unfold entry proj
  rw [col_mk', if_pos hj]
  by_cases h : n - k ≤ j
  · rw [if_pos h, colSum_single, one_eq]
    exact if_congr (by simp only [h, true_and]) rfl rfl
  · rw [if_neg h, colSum_nil, if_neg (fun hh => h hh.1)]

theorem entry_incl (n k i j : Nat) (hj : j < k) :
    entry (incl n k : SpMat R) i j = if n - k + j = i then 1 else 0 := by
  unfold entry incl
  rw [col_mk', if_pos hj, colSum_single, one_eq]

/-- `F_src = proj(n, n-r) = [0, 1]` -/
theorem colsSplit_proj (n r : Nat) (hr : r ≤ n) :
    colsSplit (proj n (n - r) : SpMat R) (n - r) r (n - r) = fromCols 0 1 := by
  ext i (j | j)
  · simp only [colsSplit, sIdx, Sum.elim_inl, fromCols_apply_inl, Matrix.zero_apply]
    rw [entry_proj _ _ _ _ (by omega), Nat.sub_sub_self hr, if_neg (by omega)]
  · simp only [colsSplit, sIdx, Sum.elim_inr, fromCols_apply_inr]
    rw [entry_proj _ _ _ _ (by omega), Nat.sub_sub_self hr, Matrix.one_apply]
    exact if_congr (by rw [Fin.ext_iff]; omega) rfl rfl

/-- `B_tgt = incl(m, m-r) = [0; 1]` -/
theorem rowsSplit_incl (m r : Nat) (hr : r ≤ m) :
    rowsSplit (incl m (m - r) : SpMat R) r (m - r) (m - r) = fromRows 0 1 := by
  ext (i | i) j
  · simp only [rowsSplit, sIdx, Sum.elim_inl, fromRows_apply_inl, Matrix.zero_apply]
    rw [entry_incl _ _ _ _ j.2, Nat.sub_sub_self hr, if_neg (by omega)]
  · simp only [rowsSplit, sIdx, Sum.elim_inr, fromRows_apply_inr]
    rw [entry_incl _ _ _ _ j.2, Nat.sub_sub_self hr, Matrix.one_apply]
    exact if_congr (by rw [Fin.ext_iff]; omega) rfl rfl

theorem entry_stack_top (A B : SpMat R) (i j : Nat) (hi : i < A.nrows) (hj : j < A.ncols) :
    entry (stack A B) i j = entry A i j := by
  unfold entry stack
  rw [col_mk', if_pos hj, colSum_append, colSum_map_shift_lt _ _ _ hi, add_zero]
  exact entry_colVec A i j

theorem entry_stack_bot (A B : SpMat R) (i j : Nat) (hj : j < A.ncols) (hA : ∀ e ∈ col A j, e.1 < A.nrows) :
    entry (stack A B) (A.nrows + i) j = entry B i j := by
  unfold entry stack
  have h0 : colSum (colVec A j) (A.nrows + i) = 0 :=
    colSum_eq_zero _ _ fun e he hh => absurd (hA e (List.mem_of_mem_filter he)) (by omega)
  rw [col_mk', if_pos hj, colSum_append, colSum_map_shift, h0, zero_add]
  exact entry_colVec B i j

/-- `B_src = (-X).stack(id) = [-X; 1]` -/
theorem rowsSplit_stack (X : SpMat R) (r q : Nat) (hX1 : X.nrows = r) (hX2 : X.ncols = q)
    (hX : ∀ j, ∀ e ∈ col X j, e.1 < r) :
    rowsSplit (stack (negMat X) (idMat q : SpMat R)) r q q = fromRows (- toMatrix X r q) 1 := by
  have hr : (negMat X).nrows = r := hX1
  ext (i | i) j
  · simp only [rowsSplit, sIdx, Sum.elim_inl, fromRows_apply_inl, Matrix.neg_apply, toMatrix]
    rw [entry_stack_top _ _ _ _ (hr ▸ i.2) (hX2 ▸ j.2), entry_negMat]
  · simp only [rowsSplit, sIdx, Sum.elim_inr, fromRows_apply_inr]
    rw [← hr, entry_stack_bot _ _ _ _ (hX2 ▸ j.2), ← toMatrix_idMat (R := R) q]
    · rfl
    · intro e he
      rw [col_negMat] at he
      obtain ⟨e', h1, rfl⟩ := List.mem_map.1 he
      exact hr ▸ hX j e' h1

omit [CommRing R] [Scal R] [LawfulScal R] in
theorem getD_append_map (f g : Nat → List (Nat × R)) (a b j : Nat) :
    (((List.range a).map f ++ (List.range b).map g).toArray.getD j []) =
      if j < a then f j else if j < a + b then g (j - a) else [] := by
  have hl : ((List.range a).map f).length = a := by rw [List.length_map, List.length_range]
  rw [Array.getD_eq_getD_getElem?, List.getElem?_toArray]
  by_cases h1 : j < a
  · rw [List.getElem?_append_left (hl.symm ▸ h1), List.getElem?_map, List.getElem?_range h1, if_pos h1]
    rfl
  · rw [List.getElem?_append_right (hl.symm ▸ Nat.le_of_not_lt h1), hl, List.getElem?_map, if_neg h1]
    by_cases h2 : j < a + b
    · rw [List.getElem?_range (by omega), if_pos h2]
      rfl
    · rw [List.getElem?_eq_none (by rw [List.length_range]; omega), if_neg h2]
      rfl

omit [CommRing R] [Scal R] [LawfulScal R] in
theorem col_extended (A B : SpMat R) (j : Nat) :
    col (extended A B) j =
      if j < A.ncols then col A j else if j < A.ncols + B.ncols then col B (j - A.ncols) else [] :=
  getD_append_map (col A) (col B) A.ncols B.ncols j

/-- `F_tgt = (-W).extend_cols(id) = [-W, 1]` -/
theorem colsSplit_extend (W : SpMat R) (p r : Nat) (hW2 : W.ncols = r) :
    colsSplit (extended (negMat W) (idMat p : SpMat R)) p r p = fromCols (- toMatrix W p r) 1 := by
  have hn : (negMat W).ncols = r := hW2
  have hi : (idMat p : SpMat R).ncols = p := rfl
  ext i (j | j)
  · simp only [colsSplit, sIdx, Sum.elim_inl, fromCols_apply_inl, Matrix.neg_apply, toMatrix]
    rw [← entry_negMat]
    unfold entry
    rw [col_extended, hn, if_pos j.2]
  · simp only [colsSplit, sIdx, Sum.elim_inr, fromCols_apply_inr]
    rw [← toMatrix_idMat (R := R) p]
    unfold toMatrix entry
    rw [col_extended, hn, hi, if_neg (Nat.not_lt.2 (Nat.le_add_right r j)),
      if_pos (Nat.add_lt_add_left j.2 r), Nat.add_sub_cancel_left]

end
end Yuiv.C12
