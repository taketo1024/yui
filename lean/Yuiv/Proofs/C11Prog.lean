import Yuiv.Proofs.Res
import Yuiv.Proofs.C11Fuel
import Yuiv.Proofs.C11Tri
/-
C11 — progress: in every state satisfying the invariant that still has work (a row to start or a task in
flight) some step is enabled and succeeds.  With `step_decreases` this means every maximal schedule ends,
after finitely many steps, in a state with no row left and no task in flight.
-/
namespace Yuiv.C11
open Yuiv Res

theorem ok_of_ne {α} {x : Res α} (h1 : x ≠ .err) (h2 : x ≠ .panic) : ∃ a, x = .ok a := by
  cases x with
  | ok a => exact ⟨a, rfl⟩
  | err => exact absurd rfl h1
  | panic => exact absurd rfl h2

theorem findWorker_head (w : Worker) (ws : List Worker) : findWorker (w :: ws) w.row = some w := by
  simp [findWorker]

theorem progress (s : Str) (hwf : s.WF) (st : State) (h : GInv s st) (hwork : st.todo ≠ [] ∨ st.ws ≠ []) :
    ∃ a st' o, step s st a = .ok (st', o) := by
  have key : ∀ a, step s st a ≠ .err → ∃ a st' o, step s st a = .ok (st', o) := by
    intro a hne
    obtain ⟨⟨st', o⟩, hok⟩ := ok_of_ne hne (step_good s hwf st h a).ne_panic
    exact ⟨a, st', o, hok⟩
  cases hws : st.ws with
  | cons w ws =>
    have hfw : findWorker st.ws w.row = some w := by rw [hws]; exact findWorker_head w ws
    cases hch : w.chosen with
    | none =>
      apply key (.search w.row none)
      rw [step, hfw]
      simp only [hch, Option.isSome_none, Bool.false_eq_true, if_false]
      exact bind_ne_err (traverse_ne_err _ _ _) (fun w' h' => by cases h')
    | some j =>
      apply key (.validate w.row)
      rw [step, hfw]
      simp only [hch]
      have hg := h.workers w (hws ▸ List.mem_cons_self)
      apply bind_ne_err (total_ne_err (updateDiff_total s _ _ w hg.inv.toWCore
        (hg.inv.q2.resolve_left (hg.inv.count.pos (hg.chosen j hch).1))))
      intro w'
      split
      · intro h'; cases h'
      · exact bind_ne_err (set_ne_err _ _ _) (fun S' h' => by cases h')
  | nil =>
    have htodo : st.todo ≠ [] := by
      rcases hwork with h1 | h1
      · exact h1
      · exact absurd hws h1
    cases htd : st.todo with
    | nil => exact absurd htd htodo
    | cons i is =>
      apply key (.start i st.S.length)
      rw [step]
      have hc : (st.todo.contains i && decide (st.S.length ≤ st.S.length) && (findWorker st.ws i).isNone) = true := by
        simp [htd, hws, findWorker]
      simp only [hc, if_true]
      exact bind_ne_err (total_ne_err (init_total s hwf _ i)) (fun w' h' => by cases h')

end Yuiv.C11
