import Yuiv.Proofs.C18InvDefs
import Yuiv.Proofs.C18Closure
/-
C18Inv — braid closures, part 1: the closure of a braid word carries the BRAID ORIENTATION (all strands
oriented downwards), and for this orientation the sign of crossing `i` is the sign of the letter `w[i]`.

The loop invariant `RInv` of `Braid::closure` (on top of `CInv`) records the crossing written for each letter,
`(a, c, c+1, b)` / `(b, a, c, c+1)` with `c = strands + 2i`, and the strand position `posLab` of every label; `BForm`
is the resulting normal form of the closure after the final renaming, in which a label determines its slot among the
entrance slots and among the exit slots.
-/
namespace Yuiv.C18
open Yuiv

def Obraid (w : List Int) : Nat × Nat → Bool :=
  fun h => h.2 == 0 || (decide (w.getD h.1 0 > 0) && h.2 == 3) || (decide (w.getD h.1 0 < 0) && h.2 == 1)

def posLab (strands : Nat) (w : List Int) (e : Nat) : Nat :=
  if e < strands then e else (w.getD ((e - strands) / 2) 0).natAbs - 1 + (e - strands) % 2

def rawX (s : Int) (t0 t1 c : Nat) : Nat × Nat × Nat × Nat :=
  if s > 0 then (t0, c, c + 1, t1) else (t0, t1, c, c + 1)

theorem posLab_append (strands : Nat) (u v : List Int) (e : Nat) (he : e < strands + 2 * u.length) :
    posLab strands (u ++ v) e = posLab strands u e := by
  unfold posLab
  by_cases h : e < strands
  · rw [if_pos h, if_pos h]
  · rw [if_neg h, if_neg h, br_getD_app_left _ _ _ _ (by omega)]

theorem posLab_out (strands : Nat) (w : List Int) (i d : Nat) (hd : d < 2) :
    posLab strands w (strands + 2 * i + d) = (w.getD i 0).natAbs - 1 + d := by
  unfold posLab
  rw [if_neg (by omega), Nat.add_assoc, Nat.add_sub_cancel_left, Nat.mul_add_div (by decide), Nat.mul_add_mod,
    Nat.div_eq_of_lt hd, Nat.mod_eq_of_lt hd, Nat.add_zero]

theorem posLab_new (strands : Nat) (u : List Int) (s : Int) (v : List Int) (d : Nat) (hd : d < 2) :
    posLab strands (u ++ s :: v) (strands + 2 * u.length + d) = s.natAbs - 1 + d := by
  rw [posLab_out _ _ _ _ hd, br_getD_app_right _ _ _ _ (Nat.le_refl _), Nat.sub_self]
  rfl

structure RInv (strands : Nat) (u : List Int) (tops : List Nat) (st : Nat × List Nat × PD) : Prop where
  cinv : CInv strands st
  cnt : st.1 = strands + 2 * u.length
  tlen : tops.length = 2 * u.length
  tnd : tops.Nodup
  tfresh : ∀ t ∈ tops, t ∉ st.2.1 ∧ t < st.1
  plen : st.2.2.length = u.length
  shape : ∀ i, i < u.length → u.getD i 0 ≠ 0 ∧
     st.2.2.getD i (0,0,0,0) = rawX (u.getD i 0) (tops.getD (2*i) 0) (tops.getD (2*i+1) 0) (strands + 2*i) ∧
     posLab strands u (tops.getD (2*i) 0) = (u.getD i 0).natAbs - 1 + (if u.getD i 0 > 0 then 0 else 1) ∧
     posLab strands u (tops.getD (2*i+1) 0) = (u.getD i 0).natAbs - 1 + (if u.getD i 0 > 0 then 1 else 0)
  posb : ∀ k (hk : k < st.2.1.length), posLab strands u st.2.1[k] = k

theorem rinv_init (strands : Nat) : RInv strands [] [] (strands, List.range strands, []) where
  cinv := cinv_init strands
  cnt := rfl
  tlen := rfl
  tnd := List.nodup_nil
  tfresh := by intro t ht; cases ht
  plen := rfl
  shape := by intro i hi; cases hi
  posb := by
    intro k hk
    simp only [List.length_range] at hk
    simp only [List.getElem_range]
    unfold posLab; rw [if_pos hk]

theorem br_mem_set2 (bottom : List Nat) (g c d e : Nat) (h : e ∈ (bottom.set g c).set (g + 1) d) :
    e = d ∨ e = c ∨ e ∈ bottom := by
  rcases List.mem_or_eq_of_mem_set h with h | h
  · rcases List.mem_or_eq_of_mem_set h with h | h
    · exact Or.inr (Or.inr h)
    · exact Or.inr (Or.inl h)
  · exact Or.inl h

theorem br_not_mem_set2 (bottom : List Nat) (hn : bottom.Nodup) (g c d k : Nat) (hk : k < bottom.length)
    (hkg : k = g ∨ k = g + 1) (hc : bottom[k] ≠ c) (hd : bottom[k] ≠ d) :
    bottom[k] ∉ (bottom.set g c).set (g + 1) d := by
  intro hm
  obtain ⟨m, hm1, hm2⟩ := List.getElem_of_mem hm
  simp only [List.length_set] at hm1
  by_cases h1 : m = g + 1
  · subst h1; rw [List.getElem_set_self] at hm2; exact hd hm2.symm
  · rw [List.getElem_set_ne (by omega)] at hm2
    by_cases h0 : m = g
    · subst h0; rw [List.getElem_set_self] at hm2; exact hc hm2.symm
    · rw [List.getElem_set_ne (by omega)] at hm2
      have := (List.getElem_inj hn).1 hm2
      omega

/-- what the loop knows about the letter `s` when it consumes the bottom labels at positions `k0`, `k1` (kept folded
in `rinv_step_core`, so that `omega` does not split on it) -/
def LetterAt (s : Int) (k0 k1 : Nat) : Prop :=
  s ≠ 0 ∧ k0 = s.natAbs - 1 + (if s > 0 then 0 else 1) ∧ k1 = s.natAbs - 1 + (if s > 0 then 1 else 0)

theorem rinv_step_core (strands : Nat) (u : List Int) (tops : List Nat) (count : Nat) (bottom : List Nat)
    (pd : PD) (s : Int) (t0 t1 : Nat) (k0 k1 : Nat)
    (hI : RInv strands u tops (count, bottom, pd))
    (hI' : CInv strands (count + 2, (bottom.set (s.natAbs - 1) count).set (s.natAbs - 1 + 1) (count + 1),
      pd ++ [rawX s t0 t1 count]))
    (hs : s.natAbs ≠ 0) (hk0 : k0 < bottom.length) (hk1 : k1 < bottom.length)
    (ht0 : bottom[k0] = t0) (ht1 : bottom[k1] = t1)
    (hk : (s > 0 ∧ k0 = s.natAbs - 1 ∧ k1 = s.natAbs - 1 + 1) ∨ (¬ s > 0 ∧ k0 = s.natAbs - 1 + 1 ∧ k1 = s.natAbs - 1)) :
    RInv strands (u ++ [s]) (tops ++ [t0, t1])
      (count + 2, (bottom.set (s.natAbs - 1) count).set (s.natAbs - 1 + 1) (count + 1),
        pd ++ [rawX s t0 t1 count]) := by
  obtain ⟨hC, hcnt, htl, htn, htf, hpl, hsh, hpb⟩ := hI
  simp only at hcnt htf hpl hsh hpb
  have hL : LetterAt s k0 k1 := by
    refine ⟨Int.natAbs_ne_zero.1 hs, ?_⟩
    rcases hk with ⟨h, rfl, rfl⟩ | ⟨h, rfl, rfl⟩
    · rw [if_pos h, if_pos h]; exact ⟨rfl, rfl⟩
    · rw [if_neg h, if_neg h]; exact ⟨rfl, rfl⟩
  have hk' : (k0 = s.natAbs - 1 ∧ k1 = s.natAbs - 1 + 1) ∨ (k0 = s.natAbs - 1 + 1 ∧ k1 = s.natAbs - 1) := by
    rcases hk with ⟨_, h⟩ | ⟨_, h⟩
    · exact Or.inl h
    · exact Or.inr h
  have hnew := posLab_new strands u s []
  clear hk hs
  -- `omega` is called often below and reads every arithmetic hypothesis: from here on it sees the position of the
  -- letter as a variable `g`, and what else is known about the letter is folded into `hL`
  generalize s.natAbs - 1 = g at *
  have hbn : bottom.Nodup := br_cinv_bottom_nodup hC
  have hblt : ∀ e ∈ bottom, e < count := br_cinv_bottom_lt hC
  have h0lt : t0 < count := ht0 ▸ hblt _ (List.getElem_mem hk0)
  have h1lt : t1 < count := ht1 ▸ hblt _ (List.getElem_mem hk1)
  have hk01 : k0 ≠ k1 := by omega
  have h01 : t0 ≠ t1 := by
    intro h; rw [← ht0, ← ht1] at h; exact hk01 ((List.getElem_inj hbn).1 h)
  have hfresh : ∀ k (hk : k < bottom.length), k = g ∨ k = g + 1 →
      bottom[k] ∉ (bottom.set g count).set (g + 1) (count + 1) := fun k hk hkg =>
    have hlt := hblt _ (List.getElem_mem hk)
    br_not_mem_set2 bottom hbn _ _ _ k hk hkg (Nat.ne_of_lt hlt) (Nat.ne_of_lt (Nat.lt_succ_of_lt hlt))
  have hn0 : t0 ∉ (bottom.set g count).set (g + 1) (count + 1) :=
    ht0 ▸ hfresh k0 hk0 (hk'.elim (fun h => Or.inl h.1) (fun h => Or.inr h.1))
  have hn1 : t1 ∉ (bottom.set g count).set (g + 1) (count + 1) :=
    ht1 ▸ hfresh k1 hk1 (hk'.elim (fun h => Or.inr h.2) (fun h => Or.inl h.2))
  clear hk'
  have hul : (u ++ [s]).length = u.length + 1 := by simp
  refine ⟨hI', ?_, ?_, ?_, ?_, ?_, ?_, ?_⟩
  · rw [hul, hcnt]; rfl
  · rw [hul, List.length_append, htl]; rfl
  · rw [List.nodup_append]
    refine ⟨htn, by simp [h01], ?_⟩
    intro x hx y hy hxy
    subst hxy
    have hxb := (htf x hx).1
    simp only [List.mem_cons, List.not_mem_nil, or_false] at hy
    rcases hy with rfl | rfl
    · exact hxb (ht0 ▸ List.getElem_mem hk0)
    · exact hxb (ht1 ▸ List.getElem_mem hk1)
  · have hold : ∀ t, t < count → t < count + 2 ∧ t ≠ count ∧ t ≠ count + 1 := fun t h => by omega
    intro t ht
    simp only
    rcases List.mem_append.1 ht with ht | ht
    · obtain ⟨h1, h2⟩ := htf t ht
      refine ⟨?_, (hold t h2).1⟩
      intro hm
      rcases br_mem_set2 _ _ _ _ _ hm with h | h | h
      · exact (hold t h2).2.2 h
      · exact (hold t h2).2.1 h
      · exact h1 h
    · simp only [List.mem_cons, List.not_mem_nil, or_false] at ht
      rcases ht with rfl | rfl
      · exact ⟨hn0, (hold _ h0lt).1⟩
      · exact ⟨hn1, (hold _ h1lt).1⟩
  · simp only [List.length_append, List.length_cons, List.length_nil, hpl]
  · intro i hi
    rw [hul] at hi
    by_cases hiu : i < u.length
    · obtain ⟨a1, a2, a3, a4⟩ := hsh i hiu
      have hi1 : 2 * i + 1 < tops.length := by omega
      have hi0 : 2 * i < tops.length := Nat.lt_of_succ_lt hi1
      have m0 : tops.getD (2 * i) 0 ∈ tops := by
        rw [ListAux.getD_of_lt hi0]; exact List.getElem_mem _
      have m1 : tops.getD (2 * i + 1) 0 ∈ tops := by
        rw [ListAux.getD_of_lt hi1]; exact List.getElem_mem _
      rw [br_getD_app_left u _ _ _ hiu, br_getD_app_left pd _ _ _ (hpl.symm ▸ hiu),
        br_getD_app_left tops _ _ _ hi0, br_getD_app_left tops _ _ _ hi1,
        posLab_append _ _ _ _ (hcnt ▸ (htf _ m0).2), posLab_append _ _ _ _ (hcnt ▸ (htf _ m1).2)]
      exact ⟨a1, a2, a3, a4⟩
    · have hie : i = u.length := by omega
      subst hie
      have e1 : (u ++ [s]).getD u.length 0 = s := by
        rw [br_getD_app_right _ _ _ _ (Nat.le_refl _), Nat.sub_self]; rfl
      have e2 : (pd ++ [rawX s t0 t1 count]).getD u.length (0, 0, 0, 0) = rawX s t0 t1 count := by
        rw [br_getD_app_right _ _ _ _ (Nat.le_of_eq hpl), hpl, Nat.sub_self]; rfl
      have e3 : (tops ++ [t0, t1]).getD (2 * u.length) 0 = t0 := by
        rw [br_getD_app_right _ _ _ _ (Nat.le_of_eq htl), htl, Nat.sub_self]; rfl
      have e4 : (tops ++ [t0, t1]).getD (2 * u.length + 1) 0 = t1 := by
        rw [br_getD_app_right _ _ _ _ (htl ▸ Nat.le_succ _), htl, Nat.add_sub_cancel_left]; rfl
      rw [e1, e2, e3, e4, posLab_append _ _ _ _ (hcnt ▸ h0lt), posLab_append _ _ _ _ (hcnt ▸ h1lt), hcnt]
      refine ⟨hL.1, rfl, ?_, ?_⟩
      · rw [← ht0, hpb k0 hk0]; exact hL.2.1
      · rw [← ht1, hpb k1 hk1]; exact hL.2.2
  · intro k hk'
    simp only [List.length_set] at hk'
    simp only
    by_cases h1 : k = g + 1
    · subst h1
      rw [List.getElem_set_self, hcnt]
      exact hnew 1 (by decide)
    · rw [List.getElem_set_ne (Ne.symm h1)]
      by_cases h0 : k = g
      · subst h0
        rw [List.getElem_set_self, hcnt]
        exact hnew 0 (by decide)
      · rw [List.getElem_set_ne (Ne.symm h0), posLab_append _ _ _ _ (hcnt ▸ hblt _ (List.getElem_mem hk'))]
        exact hpb k hk'

theorem rinv_step (strands : Nat) (u : List Int) (tops : List Nat) (st st' : Nat × List Nat × PD) (s : Int)
    (hI : RInv strands u tops st) (h : closureStep st s = .ok st') :
    ∃ t0 t1, RInv strands (u ++ [s]) (tops ++ [t0, t1]) st' := by
  have hC' := cinv_step strands st st' s hI.cinv h
  obtain ⟨a, b, hs0, ha, hb, rfl⟩ := closureStep_ok h
  obtain ⟨count, bottom, pd⟩ := st
  simp only at ha hb hC' ⊢
  obtain ⟨hi, ha'⟩ := List.getElem?_eq_some_iff.1 ha
  obtain ⟨hi1, hb'⟩ := List.getElem?_eq_some_iff.1 hb
  by_cases hs : s > 0
  · refine ⟨a, b, ?_⟩
    have hx : (if s > 0 then (a, count, count + 1, b) else (b, a, count, count + 1)) = rawX s a b count := by
      unfold rawX; rw [if_pos hs, if_pos hs]
    rw [hx] at hC' ⊢
    exact rinv_step_core strands u tops count bottom pd s a b _ _ hI hC' hs0 hi hi1 ha' hb'
      (Or.inl ⟨hs, rfl, rfl⟩)
  · refine ⟨b, a, ?_⟩
    have hx : (if s > 0 then (a, count, count + 1, b) else (b, a, count, count + 1)) = rawX s b a count := by
      unfold rawX; rw [if_neg hs, if_neg hs]
    rw [hx] at hC' ⊢
    exact rinv_step_core strands u tops count bottom pd s b a _ _ hI hC' hs0 hi1 hi hb' ha'
      (Or.inr ⟨hs, rfl, rfl⟩)

theorem rinv_foldl (strands : Nat) (v : List Int) (tops : List Nat)
    (st st' : Nat × List Nat × PD) (hI : RInv strands [] tops st) (h : v.foldlM closureStep st = .ok st') :
    ∃ tops', RInv strands v tops' st' :=
  Res.foldlM_inv_prefix (fun u q => ∃ tops, RInv strands u tops q)
    (fun u q s q' ⟨tops, hq⟩ hs => let ⟨_, _, hq'⟩ := rinv_step strands u tops q q' s hq hs; ⟨_, hq'⟩)
    ⟨tops, hI⟩ h

theorem br_connRename_inj (bottom : List Nat) (m : Nat) (hlen : bottom.length ≤ m) (x y : Nat) (hx : m ≤ x) (hy : m ≤ y)
    (h : connRename bottom x = connRename bottom y) : x = y := by
  by_cases hxb : x ∈ bottom
  · obtain ⟨h1, h2⟩ := br_connRename_mem bottom x hxb
    by_cases hyb : y ∈ bottom
    · obtain ⟨h3, h4⟩ := br_connRename_mem bottom y hyb
      rw [h1, h3] at h
      have e1 := List.getElem_idxOf h2
      have e2 := List.getElem_idxOf h4
      simp only [h] at e1
      exact e1.symm.trans e2
    · rw [h1, br_connRename_nmem bottom y hyb] at h; omega
  · rw [br_connRename_nmem bottom x hxb] at h
    by_cases hyb : y ∈ bottom
    · obtain ⟨h3, h4⟩ := br_connRename_mem bottom y hyb
      rw [h3] at h; omega
    · rw [br_connRename_nmem bottom y hyb] at h; exact h

/-- the crossing of the closure for the letter `s` with entrance labels `i0, i1` and exit labels `o0, o1` -/
def bX (s : Int) (i0 i1 o0 o1 : Nat) : Crossing :=
  if s > 0 then ⟨.X, i0, o0, o1, i1⟩ else ⟨.X, i0, i1, o0, o1⟩

/-- normal form of the closure of `w`: crossing `i` comes from the letter `w[i]`; its entrance labels are entries
`2i, 2i+1` of the duplicate-free list `ins`, its exit labels entries `2i, 2i+1` of the duplicate-free list `outs`;
`posLab` (strand position of a label) is `g, g+1` at the exits and `g, g+1` (in the order given by the sign) at
the entrances -/
structure BForm (strands : Nat) (w : List Int) (l : Link) (ins outs : List Nat) : Prop where
  len : l.length = w.length
  ilen : ins.length = 2 * w.length
  olen : outs.length = 2 * w.length
  ind : ins.Nodup
  ond : outs.Nodup
  cr : ∀ i, i < w.length → w.getD i 0 ≠ 0 ∧
    l[i]? = some (bX (w.getD i 0) (ins.getD (2 * i) 0) (ins.getD (2 * i + 1) 0)
      (outs.getD (2 * i) 0) (outs.getD (2 * i + 1) 0))
  pos : ∀ i, i < w.length →
    posLab strands w (ins.getD (2 * i) 0) = (w.getD i 0).natAbs - 1 + (if w.getD i 0 > 0 then 0 else 1) ∧
    posLab strands w (ins.getD (2 * i + 1) 0) = (w.getD i 0).natAbs - 1 + (if w.getD i 0 > 0 then 1 else 0) ∧
    posLab strands w (outs.getD (2 * i) 0) = (w.getD i 0).natAbs - 1 ∧
    posLab strands w (outs.getD (2 * i + 1) 0) = (w.getD i 0).natAbs - 1 + 1

namespace RInv

theorem posLab_rename {strands : Nat} {w : List Int} {tops : List Nat} {st : Nat × List Nat × PD}
    (hI : RInv strands w tops st) (x : Nat) :
    posLab strands w (connRename st.2.1 x) = posLab strands w x := by
  by_cases hx : x ∈ st.2.1
  · obtain ⟨h1, h2⟩ := br_connRename_mem st.2.1 x hx
    have := hI.posb _ h2
    rw [List.getElem_idxOf h2] at this
    rw [h1, this]
    exact if_pos (hI.cinv.len ▸ h2)
  · rw [br_connRename_nmem st.2.1 x hx]

theorem rename_top {strands : Nat} {w : List Int} {tops : List Nat} {st : Nat × List Nat × PD}
    (hI : RInv strands w tops st) (k : Nat) (hk : k < 2 * w.length) :
    connRename st.2.1 (tops.getD k 0) = tops.getD k 0 :=
  br_connRename_nmem _ _ (hI.tfresh _ (by
    rw [ListAux.getD_of_lt (hI.tlen ▸ hk)]; exact List.getElem_mem _)).1

end RInv

theorem getD_map_range' (f : Nat → Nat) (a m k : Nat) (hk : k < m) :
    ((List.range' a m).map f).getD k 0 = f (a + k) := by
  simp only [List.getD_eq_getElem?_getD, List.getElem?_map, List.getElem?_range' hk, Nat.one_mul,
    Option.map_some, Option.getD_some]

theorem bform_of_rinv (strands : Nat) (w : List Int) (tops : List Nat) (st : Nat × List Nat × PD)
    (hI : RInv strands w tops st) (hfree : hasFreeLoop st.2.1 = false) :
    BForm strands w
      (fromPD4 (st.2.2.map (fun x => (connRename st.2.1 x.1, connRename st.2.1 x.2.1,
        connRename st.2.1 x.2.2.1, connRename st.2.1 x.2.2.2))))
      tops ((List.range' strands (2 * w.length)).map (connRename st.2.1)) := by
  have hge := cinv_bottom_ge hI.cinv hfree
  have hpos := hI.posLab_rename
  have hin := hI.rename_top
  obtain ⟨count, bottom, pd⟩ := st
  obtain ⟨hC, hcnt, htl, htn, htf, hpl, hsh, hpb⟩ := hI
  simp only at hcnt htf hpl hsh hpb hge hpos hin ⊢
  have hlen : bottom.length = strands := hC.len
  have hout := getD_map_range' (connRename bottom) strands (2 * w.length)
  refine ⟨?_, htl, by simp, htn, ?_, ?_, ?_⟩
  · simp only [fromPD4, List.length_map, hpl]
  · unfold List.Nodup
    rw [List.pairwise_map]
    refine List.Pairwise.imp_of_mem ?_ (List.nodup_range' (step := 1))
    intro x y hx hy hne hxy
    rw [List.mem_range'_1] at hx hy
    exact hne (br_connRename_inj bottom strands (by omega) x y hx.1 hy.1 hxy)
  · intro i hi
    obtain ⟨a1, a2, _, _⟩ := hsh i hi
    refine ⟨a1, ?_⟩
    have hi1 : 2 * i + 1 < 2 * w.length := by omega
    have hi0 : 2 * i < 2 * w.length := Nat.lt_of_succ_lt hi1
    have f0 := hin _ hi0
    have f1 := hin _ hi1
    have hp : pd[i]? = some (pd.getD i (0, 0, 0, 0)) := by
      rw [ListAux.getD_of_lt (hpl.symm ▸ hi)]; exact List.getElem?_eq_getElem (hpl.symm ▸ hi)
    simp only [fromPD4, List.getElem?_map, hp, a2, Option.map_some]
    rw [hout _ hi0, hout _ hi1]
    unfold rawX bX Crossing.ofPD
    by_cases hs : w.getD i 0 > 0
    · simp only [if_pos hs, f0, f1, Nat.add_assoc]
    · simp only [if_neg hs, f0, f1, Nat.add_assoc]
  · intro i hi
    obtain ⟨_, _, a3, a4⟩ := hsh i hi
    have hi1 : 2 * i + 1 < 2 * w.length := by omega
    refine ⟨a3, a4, ?_, ?_⟩
    · rw [hout _ (Nat.lt_of_succ_lt hi1), hpos]
      exact posLab_out strands w i 0 (by decide)
    · rw [hout _ hi1, hpos]
      exact posLab_out strands w i 1 (by decide)

theorem closure_bform (strands : Nat) (w : List Int) (l : Link) (h : closure strands w = .ok l) :
    ∃ ins outs, BForm strands w l ins outs := by
  obtain ⟨st, hf, hfl, rfl⟩ := closure_inv h
  obtain ⟨tops, hI⟩ := rinv_foldl strands w [] _ st (rinv_init strands) hf
  exact ⟨_, _, bform_of_rinv strands w tops st hI hfl⟩

/-- the entrance table of one crossing: `p` = "the letter is positive", `q` = "the letter is negative" -/
def ob2 (p q : Bool) (j : Nat) : Bool := j == 0 || (p && j == 3) || (q && j == 1)

def inBit (j : Nat) : Nat := if j = 0 then 0 else 1
def outBit (p : Bool) (j : Nat) : Nat := if p then j - 1 else j - 2

theorem Obraid_eq (w : List Int) (i j : Nat) :
    Obraid w (i, j) = ob2 (decide (w.getD i 0 > 0)) (decide (w.getD i 0 < 0)) j := rfl

theorem br_decide_neg_of_ne (s : Int) (hs : s ≠ 0) : decide (s < 0) = !decide (s > 0) := by
  by_cases h : s > 0
  · have h' : ¬ s < 0 := by omega
    simp [h, h']
  · have h' : s < 0 := by omega
    simp [h, h']

theorem ob2_thru : ∀ p : Bool, ∀ j, j < 4 → ob2 p (!p) ((j + 2) % 4) = !ob2 p (!p) j := by decide

/-- position (0 or 1) of the label of slot `j` among the two entrance labels, resp. the two exit labels, of its
crossing -/
def slotIx (p : Bool) (j : Nat) : Nat := if ob2 p (!p) j then inBit j else outBit p j

theorem slotIx_lt : ∀ p : Bool, ∀ j, j < 4 → slotIx p j < 2 := by decide

theorem slotIx_inj : ∀ p : Bool, ∀ j, j < 4 → ∀ j', j' < 4 → ob2 p (!p) j = ob2 p (!p) j' →
    slotIx p j = slotIx p j' → j = j' := by decide

theorem BForm.at {strands : Nat} {w : List Int} {l : Link} {ins outs : List Nat}
    (hB : BForm strands w l ins outs) (i : Nat) (hi : i < w.length) :
    ctypeAt l i = .X ∧
    edgeAt l i 0 = ins.getD (2 * i) 0 ∧
    edgeAt l i 1 = (if w.getD i 0 > 0 then outs.getD (2 * i) 0 else ins.getD (2 * i + 1) 0) ∧
    edgeAt l i 2 = (if w.getD i 0 > 0 then outs.getD (2 * i + 1) 0 else outs.getD (2 * i) 0) ∧
    edgeAt l i 3 = (if w.getD i 0 > 0 then ins.getD (2 * i + 1) 0 else outs.getD (2 * i + 1) 0) := by
  obtain ⟨_, hc⟩ := hB.cr i hi
  unfold ctypeAt edgeAt
  rw [hc]
  unfold bX
  by_cases hs : w.getD i 0 > 0
  · simp only [if_pos hs]
    exact ⟨trivial, rfl, rfl, rfl, rfl⟩
  · simp only [if_neg hs]
    exact ⟨trivial, rfl, rfl, rfl, rfl⟩

theorem BForm.lab_slot {strands : Nat} {w : List Int} {l : Link} {ins outs : List Nat}
    (hB : BForm strands w l ins outs) (i j : Nat) (hi : i < w.length) (hj : j < 4) :
    Obraid w (i, j) = ob2 (decide (w.getD i 0 > 0)) (!decide (w.getD i 0 > 0)) j ∧
    lab l (i, j) = (if Obraid w (i, j) then ins else outs).getD
      (2 * i + slotIx (decide (w.getD i 0 > 0)) j) 0 := by
  obtain ⟨_, h0, h1, h2, h3⟩ := hB.at i hi
  have hO : Obraid w (i, j) = ob2 (decide (w.getD i 0 > 0)) (!decide (w.getD i 0 > 0)) j := by
    rw [Obraid_eq, br_decide_neg_of_ne _ (hB.cr i hi).1]
  refine ⟨hO, ?_⟩
  rw [hO]
  unfold lab
  have hj' : j = 0 ∨ j = 1 ∨ j = 2 ∨ j = 3 := by omega
  by_cases hs : w.getD i 0 > 0
  · simp only [hs, if_true] at h1 h2 h3 ⊢
    rcases hj' with rfl | rfl | rfl | rfl
    · exact h0
    · exact h1
    · exact h2
    · exact h3
  · simp only [hs, if_false] at h1 h2 h3 ⊢
    rcases hj' with rfl | rfl | rfl | rfl
    · exact h0
    · exact h1
    · exact h2
    · exact h3

/-- among the entrance slots, and among the exit slots, a label determines its slot: the two labels are entries of
the same duplicate-free list, at the indices `2i + slotIx`, `2i' + slotIx` -/
theorem BForm.lab_inj {strands : Nat} {w : List Int} {l : Link} {ins outs : List Nat}
    (hB : BForm strands w l ins outs) (h h' : Nat × Nat) (hh : HE l h) (hh' : HE l h')
    (hO : Obraid w h = Obraid w h') (hl : lab l h = lab l h') : h = h' := by
  obtain ⟨i, j⟩ := h
  obtain ⟨i', j'⟩ := h'
  have hi : i < w.length := hB.len ▸ hh.1
  have hi' : i' < w.length := hB.len ▸ hh'.1
  obtain ⟨o1, l1⟩ := hB.lab_slot i j hi hh.2
  obtain ⟨o2, l2⟩ := hB.lab_slot i' j' hi' hh'.2
  rw [l1, l2, ← hO] at hl
  have b1 := slotIx_lt (decide (w.getD i 0 > 0)) j hh.2
  have b2 := slotIx_lt (decide (w.getD i' 0 > 0)) j' hh'.2
  have key : 2 * i + slotIx (decide (w.getD i 0 > 0)) j = 2 * i' + slotIx (decide (w.getD i' 0 > 0)) j' := by
    have c1 : 2 * i + slotIx (decide (w.getD i 0 > 0)) j < 2 * w.length := by omega
    have c2 : 2 * i' + slotIx (decide (w.getD i' 0 > 0)) j' < 2 * w.length := by omega
    split at hl
    · exact (List.getD_inj (hB.ilen ▸ c1) (hB.ilen ▸ c2) hB.ind).1 hl
    · exact (List.getD_inj (hB.olen ▸ c1) (hB.olen ▸ c2) hB.ond).1 hl
  obtain rfl : i = i' := by omega
  rw [o1, o2] at hO
  rw [slotIx_inj _ j hh.2 j' hh'.2 hO (by omega)]

theorem br_thru_X (l : Link) (i j : Nat) (h : ctypeAt l i = .X) : thru l (i, j) = (i, (j + 2) % 4) := by
  unfold thru; simp only [h]; rfl

theorem closure_orient (strands : Nat) (w : List Int) (l : Link) (h : closure strands w = .ok l) :
    Orient l (Obraid w) ∧ UnderIn l (Obraid w) := by
  obtain ⟨ins, outs, hB⟩ := closure_bform strands w l h
  have hv := closure_valid' strands w l h
  refine ⟨?_, fun i _ => rfl⟩
  intro i hi j hj
  have hi' : i < w.length := hB.len ▸ hi
  constructor
  · rw [br_thru_X l i j (hB.at i hi').1, Obraid_eq, Obraid_eq, br_decide_neg_of_ne _ (hB.cr i hi').1]
    exact ob2_thru _ j hj
  · obtain ⟨p1, p2, p3, _⟩ := partner_spec l hv (i, j) ⟨hi, hj⟩
    cases hb : Obraid w (partner l (i, j)) <;> cases hb' : Obraid w (i, j) <;> try rfl
    · exact absurd (hB.lab_inj _ _ p1 ⟨hi, hj⟩ (hb.trans hb'.symm) p3) p2
    · exact absurd (hB.lab_inj _ _ p1 ⟨hi, hj⟩ (hb.trans hb'.symm) p3) p2

/-- strand position of a slot of the closure: with `g = |w[i]| - 1`, slots `0,1,2,3` of a positive crossing sit at
positions `g, g, g+1, g+1`, those of a negative crossing at `g+1, g, g, g+1` -/
def slotPos (strands : Nat) (w : List Int) (l : Link) (h : Nat × Nat) : Nat := posLab strands w (lab l h)

theorem BForm.pos_slot {strands : Nat} {w : List Int} {l : Link} {ins outs : List Nat}
    (hB : BForm strands w l ins outs) (i : Nat) (hi : i < w.length) :
    slotPos strands w l (i, 0) = (w.getD i 0).natAbs - 1 + (if w.getD i 0 > 0 then 0 else 1) ∧
    slotPos strands w l (i, 1) = (w.getD i 0).natAbs - 1 ∧
    slotPos strands w l (i, 2) = (w.getD i 0).natAbs - 1 + (if w.getD i 0 > 0 then 1 else 0) ∧
    slotPos strands w l (i, 3) = (w.getD i 0).natAbs - 1 + 1 := by
  obtain ⟨_, h0, h1, h2, h3⟩ := hB.at i hi
  obtain ⟨p0, p1, p2, p3⟩ := hB.pos i hi
  unfold slotPos lab
  simp only
  rw [h0, h1, h2, h3]
  by_cases hs : w.getD i 0 > 0
  · simp only [if_pos hs] at p0 p1 ⊢
    exact ⟨p0, p2, p3, p1⟩
  · simp only [if_neg hs] at p0 p1 ⊢
    exact ⟨p0, p1, p2, p3⟩

theorem slotPos_partner (strands : Nat) (w : List Int) (l : Link) (hv : Valid l) (h : Nat × Nat) (hh : HE l h) :
    slotPos strands w l (partner l h) = slotPos strands w l h := by
  unfold slotPos
  rw [(partner_spec l hv h hh).2.2.1]

/-- sign of a braid letter (letters are non-zero) -/
def braidSign (s : Int) : Sign := if s > 0 then .pos else .neg

def expSum : List Int → Int
  | [] => 0
  | s :: r => Int.sign s + expSum r

theorem expSum_eq_sum (w : List Int) : expSum w = (w.map Int.sign).sum := by
  induction w with
  | nil => rfl
  | cons s r ih => simp only [expSum, List.map_cons, List.sum_cons, ih]

theorem expSum_eq_counts (w : List Int) :
    expSum w = (w.countP (fun s => decide (s > 0)) : Int) - (w.countP (fun s => decide (s < 0)) : Int) := by
  induction w with
  | nil => rfl
  | cons s r ih =>
    simp only [expSum, List.countP_cons, ih, decide_eq_true_eq]
    rcases Int.lt_trichotomy s 0 with h | h | h
    · rw [Int.sign_eq_neg_one_of_neg h, if_neg (by omega), if_pos h]; omega
    · subst h; simp
    · rw [Int.sign_eq_one_of_pos h, if_pos h, if_neg (by omega)]; omega

theorem writheOf_braid (w : List Int) (hnz : ∀ s ∈ w, s ≠ 0) : writheOf (w.map braidSign) = expSum w := by
  induction w with
  | nil => rfl
  | cons s r ih =>
    have ih' := ih (fun x hx => hnz x (List.mem_cons_of_mem _ hx))
    have hs := hnz s List.mem_cons_self
    unfold writheOf at ih' ⊢
    simp only [List.map_cons, List.count_cons, expSum, ← ih']
    unfold braidSign
    by_cases h : s > 0
    · rw [if_pos h, Int.sign_eq_one_of_pos h]; simp; omega
    · rw [if_neg h, Int.sign_eq_neg_one_of_neg (by omega)]; simp; omega

theorem br_filterMap_range_eq {β} (w : List Int) (F : Int → β) (G : Nat → Option β)
    (hG : ∀ i, i < w.length → G i = some (F (w.getD i 0))) : (List.range w.length).filterMap G = w.map F := by
  have h1 : (List.range w.length).filterMap G = (List.range w.length).map (fun i => F (w.getD i 0)) := by
    rw [← List.filterMap_eq_map]
    apply filterMap_congr_mem
    intro i hi
    exact hG i (List.mem_range.1 hi)
  rw [h1]
  apply List.ext_getElem
  · simp
  · intro i h1 h2
    simp only [List.length_map, List.length_range] at h1
    simp only [List.getElem_map, List.getElem_range, ListAux.getD_of_lt h1]

theorem BForm.sgnAt {strands : Nat} {w : List Int} {l : Link} {ins outs : List Nat}
    (hB : BForm strands w l ins outs) (i : Nat) (hi : i < w.length) :
    sgnAt l (Obraid w) i = some (braidSign (w.getD i 0)) := by
  unfold C18.sgnAt
  rw [(hB.at i hi).1, Obraid_eq, br_decide_neg_of_ne _ (hB.cr i hi).1]
  unfold braidSign
  by_cases hs : w.getD i 0 > 0
  · simp only [hs, decide_true, if_true]; rfl
  · simp only [hs, decide_false, if_false]; rfl

theorem closure_signs_braid (strands : Nat) (w : List Int) (l : Link) (h : closure strands w = .ok l) :
    signsOf l (Obraid w) = w.map braidSign := by
  obtain ⟨ins, outs, hB⟩ := closure_bform strands w l h
  unfold signsOf
  rw [hB.len]
  exact br_filterMap_range_eq w braidSign _ (fun i hi => hB.sgnAt i hi)

theorem closure_letters_ne (strands : Nat) (w : List Int) (l : Link) (h : closure strands w = .ok l) :
    ∀ s ∈ w, s ≠ 0 := by
  obtain ⟨ins, outs, hB⟩ := closure_bform strands w l h
  intro s hs
  obtain ⟨i, hi, rfl⟩ := List.getElem_of_mem hs
  have := (hB.cr i hi).1
  rwa [ListAux.getD_of_lt hi] at this

theorem closure_writhe_braid (strands : Nat) (w : List Int) (l : Link) (h : closure strands w = .ok l) :
    writheOf (signsOf l (Obraid w)) = expSum w := by
  rw [closure_signs_braid strands w l h]
  exact writheOf_braid w (closure_letters_ne strands w l h)
/-! ### non-vacuity: the trefoil as the closure of `σ₁³`, and a closure with a component that never passes under -/

example : closure 2 [1, 1, 1] = .ok (fromPD [[0, 2, 3, 1], [2, 4, 5, 3], [4, 0, 1, 5]]) := by decide +kernel
example : Orient (fromPD [[0, 2, 3, 1], [2, 4, 5, 3], [4, 0, 1, 5]]) (Obraid [1, 1, 1]) := by decide +kernel
example : UnderIn (fromPD [[0, 2, 3, 1], [2, 4, 5, 3], [4, 0, 1, 5]]) (Obraid [1, 1, 1]) := by decide +kernel
example : signsOf (fromPD [[0, 2, 3, 1], [2, 4, 5, 3], [4, 0, 1, 5]]) (Obraid [1, 1, 1]) = [.pos, .pos, .pos] := by
  decide +kernel
example : expSum [1, 1, 1] = 3 := by decide +kernel
example : ∃ ins outs, BForm 2 [1, 1, 1] (fromPD [[0, 2, 3, 1], [2, 4, 5, 3], [4, 0, 1, 5]]) ins outs :=
  closure_bform 2 [1, 1, 1] _ (by decide +kernel)

example : closure 2 [1, -1] = .ok (fromPD [[0, 2, 3, 1], [3, 2, 0, 1]]) := by decide +kernel
example : Orient (fromPD [[0, 2, 3, 1], [3, 2, 0, 1]]) (Obraid [1, -1]) ∧
    UnderIn (fromPD [[0, 2, 3, 1], [3, 2, 0, 1]]) (Obraid [1, -1]) := by decide +kernel
example : signsOf (fromPD [[0, 2, 3, 1], [3, 2, 0, 1]]) (Obraid [1, -1]) = [.pos, .neg] := by decide +kernel
example : crossingSigns (fromPD [[0, 2, 3, 1], [3, 2, 0, 1]]) = .ok [.neg, .pos] := by decide +kernel

end Yuiv.C18
