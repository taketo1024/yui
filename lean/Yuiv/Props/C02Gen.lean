import Yuiv.Gen.Tables
/-
C02 (and C01, C04, C18): the crossing tables of the reference model (`KhRef.CT.*`, `slotSign`) are THE tables of
`yui-link/src/link/crossing.rs` / `link.rs` as they stand in /repo now (`Yuiv.Gen.*` is regenerated from the Rust source
by tools/rs2lean.py on every run).
-/
namespace Yuiv.KhRef

theorem gen_mirror_eq (c : CT) : Yuiv.Gen.mirror c = c.mirror := by cases c <;> rfl

/-- on unresolved crossings the generated table agrees; on resolved ones the Rust panics (the model is never asked) -/
theorem gen_resolve_eq (c : CT) (b : Bool) :
    (c.isResolved = false → Yuiv.Gen.resolve c b = some (c.resolve b)) ∧
    (c.isResolved = true → Yuiv.Gen.resolve c b = none) := by
  cases c <;> cases b <;> simp [Yuiv.Gen.resolve, CT.resolve, CT.isResolved]

theorem gen_pass_eq (c : CT) (j : Nat) : Yuiv.Gen.pass c j = c.pass j := by cases c <;> rfl

theorem gen_arcSlots_eq (c : CT) : Yuiv.Gen.arcSlots c = c.arcSlots := by cases c <;> rfl

theorem gen_slotSign_eq (c : CT) (j : Nat) (hj : j < 4) : Yuiv.Gen.slotSign c j = slotSign c j := by
  revert j
  cases c <;> decide

end Yuiv.KhRef
