import Yuiv.Model.RustMap
import Yuiv.Proofs.Res
/-
`Poly.forM` is `List.foldlM`; the laws of the association list `AMap` that hold for every key and value type.
-/
namespace Yuiv.Rust
open Yuiv Res

namespace Poly

theorem forM_eq_foldlM {β σ : Type} (xs : List β) (s : σ) (f : σ → β → Res σ) : forM xs s f = xs.foldlM f s := by
  induction xs generalizing s with
  | nil => rfl
  | cons x xs ih => exact bind_congr fun s' => ih s'

/-- a `for` loop whose body returns, on the states of an invariant, the values of a pure step -/
theorem forM_ok_inv {β σ : Type} {f : σ → β → Res σ} {g : σ → β → σ} (P : σ → Prop) {xs : List β}
    (h : ∀ x ∈ xs, ∀ s, P s → f s x = ok (g s x) ∧ P (g s x)) {s : σ} (hs : P s) :
    forM xs s f = ok (xs.foldl g s) ∧ P (xs.foldl g s) := by
  rw [forM_eq_foldlM]
  exact foldlM_eq_ok_foldl P h hs

theorem forM_ok {β σ : Type} {f : σ → β → Res σ} {g : σ → β → σ} {xs : List β}
    (h : ∀ x ∈ xs, ∀ s, f s x = ok (g s x)) (s : σ) : forM xs s f = ok (xs.foldl g s) :=
  (forM_ok_inv (fun _ => True) (fun x hx s _ => ⟨h x hx s, trivial⟩) trivial).1

end Poly

namespace AMap
variable {K V : Type} [DecidableEq K]

theorem get_append (m l : AMap K V) (x : K) : get (m ++ l) x = (get m x).or (get l x) := by
  induction m with
  | nil => cases h : get l x <;> simp [get, h]
  | cons p m ih =>
    obtain ⟨y, v⟩ := p
    by_cases hy : y = x
    · simp [get, hy]
    · simp only [List.cons_append, get, hy, if_false, ih]

theorem contains_key_iff {m : AMap K V} {k : K} : contains_key m k = true ↔ k ∈ keys m := by
  induction m with
  | nil => simp [contains_key, get, keys]
  | cons p m ih =>
    obtain ⟨y, v⟩ := p
    by_cases hy : y = k
    · simp [contains_key, get, keys, hy]
    · have : contains_key ((y, v) :: m) k = contains_key m k := by simp [contains_key, get, hy]
      rw [this, ih]
      simp only [keys, List.map_cons, List.mem_cons]
      exact ⟨Or.inr, fun h => h.resolve_left fun e => hy e.symm⟩

theorem get_eq_none_iff {m : AMap K V} {k : K} : get m k = none ↔ k ∉ keys m := by
  rw [← contains_key_iff, contains_key, Option.isSome_iff_ne_none, Decidable.not_not]

theorem keys_set (m : AMap K V) (k : K) (w : V) : keys (set m k w) = keys m := by
  induction m with
  | nil => rfl
  | cons p m ih =>
    obtain ⟨y, v⟩ := p
    by_cases hy : y = k
    · simp [set, keys, hy]
    · simp only [set, hy, if_false, keys, List.map_cons] at ih ⊢
      exact congrArg _ ih

theorem set_set (m : AMap K V) (k : K) (v w : V) : set (set m k v) k w = set m k w := by
  induction m with
  | nil => rfl
  | cons p m ih =>
    obtain ⟨y, u⟩ := p
    by_cases hy : y = k
    · simp [set, hy]
    · simp only [set, hy, if_false, ih]

theorem get_append_absent {m : AMap K V} {k : K} {d : V} (h : k ∉ keys m) : get (m ++ [(k, d)]) k = some d := by
  rw [get_append, get_eq_none_iff.2 h]
  simp [get]

theorem set_append_absent {m : AMap K V} {k : K} {d w : V} (h : k ∉ keys m) :
    set (m ++ [(k, d)]) k w = m ++ [(k, w)] := by
  induction m with
  | nil => simp [set]
  | cons p m ih =>
    obtain ⟨y, v⟩ := p
    simp only [keys, List.map_cons, List.mem_cons, not_or] at h
    have hy : ¬ y = k := fun e => h.1 e.symm
    simp only [List.cons_append, set, hy, if_false]
    rw [ih h.2]

/-- inserting bindings with fresh, pairwise distinct keys appends them -/
theorem foldl_insert_fresh (l : List (K × V)) (acc : AMap K V)
    (h1 : ∀ kv ∈ l, get acc kv.1 = none) (h2 : (l.map (·.1)).Pairwise (· ≠ ·)) :
    l.foldl (fun m kv => insert m kv.1 kv.2) acc = acc ++ l := by
  induction l generalizing acc with
  | nil => simp
  | cons kv l ih =>
    obtain ⟨k, v⟩ := kv
    simp only [List.map_cons, List.pairwise_cons] at h2
    have hk : get acc k = none := h1 (k, v) List.mem_cons_self
    rw [List.foldl_cons, insert, contains_key, hk]
    simp only [Option.isSome_none, Bool.false_eq_true, if_false]
    rw [ih _ _ h2.2]
    · simp
    · intro kv' hkv'
      have hne : ¬ k = kv'.1 := h2.1 kv'.1 (List.mem_map_of_mem hkv')
      rw [get_append, h1 kv' (List.mem_cons_of_mem _ hkv')]
      simp [get, hne]

end AMap

end Yuiv.Rust
