import Yuiv.Proofs.C01SqFaceAlg
import Yuiv.Proofs.C01SqMerge
/-
EVERY FACE OF THE CUBE OF A VALID DIAGRAM COMMUTES.

`Sq`: the data of a face — the circle lists of the four states with their specifications, the geometry `EG` of the
four edges (crossing `a` with slots `a1..a4` on `00 → 10` and `01 → 11`, crossing `b` with slots `b1..b4` on `00 → 01`
and `10 → 11`) and the fact that the four edges are merges or splits.  `Face`: there are descriptors of the four edges
such that the two path functionals agree.  `face_of_sq : Sq … → Face …` by the classification

    a, b merge at 00 (`face_mm*`): the merged pairs are equal (`face_same`), share one circle (`face_31`), are disjoint;
    a, b split at 00 (`face_ss*`): different circles (disjoint), the same circle and then b merges the pieces
                       (`face_11`) or b splits one piece (`face_13`);
    a merges, b splits (`face_ms*`): b's circle is not one of a's (disjoint) or it is (`face_frob`);  a splits,
                       b merges: symmetric.

All relation reasoning is done on circle names (`N cs e = N cs e'` iff `e`, `e'` lie on one circle), with the laws of
ONE merge (`Mrg.leN` … `Mrg.ne_of_untouched`: what a merge does to the names of the circles it touches and of those it
does not); a split is a merge read backwards.
-/
namespace Yuiv.C01Sq
open Yuiv Yuiv.KhRef Yuiv.C04Inv Yuiv.C06Cycle
open Yuiv.C02Mirror (Circ edgeOK)

variable {L : Array Nat}

section laws
variable {Pf Pc : List (Nat × Nat)} {csf csc : Circ} {p r : Nat}

theorem Mrg.N_pr (m : Mrg L Pf Pc csf csc p r) (hc : CirclesSpec L Pc csc) (hp : p ∈ L) (hr : r ∈ L) :
    N csc p = N csc r :=
  (N_eq_iff hc hp hr).2 m.co.pr

theorem Mrg.N_ne (m : Mrg L Pf Pc csf csc p r) (hf : CirclesSpec L Pf csf) (hp : p ∈ L) (hr : r ∈ L) :
    N csf p ≠ N csf r :=
  fun e => m.ne ((N_eq_iff hf hp hr).1 e)

theorem Mrg.swap (m : Mrg L Pf Pc csf csc p r) (hc : CirclesSpec L Pc csc) (hp : p ∈ L) (hr : r ∈ L) :
    Mrg L Pf Pc csf csc r p := by
  refine ⟨fun c => m.ne c.symm, fun x y => (m.co x y).trans (or_congr Iff.rfl (and_congr or_comm or_comm)), ?_⟩
  · have e : N csc r = N csc p := (N_eq_iff hc hr hp).2 m.co.pr.symm
    rw [e]
    exact m.rel.swap

theorem Mrg.offN (m : Mrg L Pf Pc csf csc p r) (hf : CirclesSpec L Pf csf) (hc : CirclesSpec L Pc csc)
    (hp : p ∈ L) {x : Nat} (hx : x ∈ L) (h : N csc x ≠ N csc p) : N csc x = N csf x := by
  obtain ⟨h1, h2⟩ := m.co.off_coarse (fun c => h ((N_eq_iff hc hx hp).2 c))
  exact persist hf hc m.co hx h1 h2

variable (m : Mrg L Pf Pc csf csc p r) (hf : CirclesSpec L Pf csf) (hc : CirclesSpec L Pc csc) (hp : p ∈ L) (hr : r ∈ L)
include m hf hc hp hr

theorem Mrg.iffN {x y : Nat} (hx : x ∈ L) (hy : y ∈ L) :
    N csc x = N csc y ↔ N csf x = N csf y ∨
      ((N csf x = N csf p ∨ N csf x = N csf r) ∧ (N csf y = N csf p ∨ N csf y = N csf r)) := by
  rw [N_eq_iff hc hx hy, N_eq_iff hf hx hy, N_eq_iff hf hx hp, N_eq_iff hf hx hr, N_eq_iff hf hy hp,
    N_eq_iff hf hy hr]
  exact m.co x y

theorem Mrg.leN {x y : Nat} (hx : x ∈ L) (hy : y ∈ L) (h : N csf x = N csf y) : N csc x = N csc y :=
  (m.iffN hf hc hp hr hx hy).2 (Or.inl h)

theorem Mrg.touchedN {x : Nat} (hx : x ∈ L) (h : N csf x = N csf p ∨ N csf x = N csf r) : N csc x = N csc p :=
  (m.iffN hf hc hp hr hx hp).2 (Or.inr ⟨h, Or.inl rfl⟩)

theorem Mrg.casesN {x : Nat} (hx : x ∈ L) (h : N csc x = N csc p) : N csf x = N csf p ∨ N csf x = N csf r := by
  rw [N_eq_iff hf hx hp, N_eq_iff hf hx hr]
  exact m.co.cases ((N_eq_iff hc hx hp).1 h)

theorem Mrg.persistN {x : Nat} (hx : x ∈ L) (h1 : N csf x ≠ N csf p) (h2 : N csf x ≠ N csf r) : N csc x = N csf x :=
  persist hf hc m.co hx (fun c => h1 ((N_eq_iff hf hx hp).2 c)) (fun c => h2 ((N_eq_iff hf hx hr).2 c))

theorem Mrg.ne_of_untouched {x y : Nat} (hx : x ∈ L) (hy : y ∈ L) (hxy : N csf x ≠ N csf y)
    (h1 : N csf x ≠ N csf p) (h2 : N csf x ≠ N csf r) : N csc x ≠ N csc y := by
  intro e
  rcases (m.iffN hf hc hp hr hx hy).1 e with e1 | ⟨e1 | e1, _⟩
  · exact hxy e1
  · exact h1 e1
  · exact h2 e1

end laws

theorem pair_of_cases {α : Type} {x y p r : α} (hx : x = p ∨ x = r) (hy : y = p ∨ y = r) (hne : x ≠ y) :
    (x = p ∧ y = r) ∨ (x = r ∧ y = p) := by
  rcases hx with hx | hx <;> rcases hy with hy | hy
  · exact absurd (hx.trans hy.symm) hne
  · exact Or.inl ⟨hx, hy⟩
  · exact Or.inr ⟨hx, hy⟩
  · exact absurd (hx.trans hy.symm) hne

/-- a commuting face: descriptors of the four edges with equal path functionals -/
def Face (cs00 cs10 cs01 cs11 : Circ) : Prop :=
  ∃ ea0 eb1 eb0 ea1, IsEdge cs00 cs10 ea0 ∧ IsEdge cs10 cs11 eb1 ∧ IsEdge cs00 cs01 eb0 ∧ IsEdge cs01 cs11 ea1 ∧
    ∀ (h t : Int) (f f'' : Name → Bool),
      pathF h t cs10 cs11 ea0 eb1 f f'' = pathF h t cs01 cs11 eb0 ea1 f f''

theorem Face.symm {cs00 cs10 cs01 cs11 : Circ} (h : Face cs00 cs10 cs01 cs11) : Face cs00 cs01 cs10 cs11 := by
  obtain ⟨ea0, eb1, eb0, ea1, h1, h2, h3, h4, h5⟩ := h
  exact ⟨eb0, ea1, ea0, eb1, h3, h4, h1, h2, fun h t f f'' => (h5 h t f f'').symm⟩

section patterns
variable {cs00 cs10 cs01 cs11 : Circ}

theorem Face.disjoint (ea eb : Edge) (ha0 : IsEdge cs00 cs10 ea) (hb0 : IsEdge cs00 cs01 eb)
    (hb1 : IsEdge cs10 cs11 eb) (ha1 : IsEdge cs01 cs11 ea) : Face cs00 cs10 cs01 cs11 :=
  ⟨ea, eb, eb, ea, ha0, hb1, hb0, ha1,
    fun h t f f'' => face_disjoint h t cs00 cs10 cs01 cs11 ea eb ha0 hb0 hb1 ha1 f f''⟩

theorem Face.same (e1 e2 : Edge) (ha0 : IsEdge cs00 cs10 e1) (hb1 : IsEdge cs10 cs11 e2) (hb0 : IsEdge cs00 cs01 e1)
    (ha1 : IsEdge cs01 cs11 e2) (hmem : ∀ c, c ∈ cs10 ↔ c ∈ cs01) : Face cs00 cs10 cs01 cs11 :=
  ⟨e1, e2, e1, e2, ha0, hb1, hb0, ha1, fun h t f f'' => face_same h t cs10 cs01 cs11 e1 e2 hmem f f''⟩

theorem Face.of_31 {A B C P Q R : Name} (ha0 : MergeRel cs00 cs10 A B P) (hb0 : MergeRel cs00 cs01 B C Q)
    (hb1 : MergeRel cs10 cs11 P C R) (ha1 : MergeRel cs01 cs11 A Q R) : Face cs00 cs10 cs01 cs11 :=
  ⟨.merge A B P, .merge P C R, .merge B C Q, .merge A Q R, ha0, hb1, hb0, ha1,
    fun h t f f'' => face_31 h t cs00 cs10 cs01 cs11 A B C P Q R ha0 hb0 hb1 ha1 f f''⟩

theorem Face.of_13 {R P C A Q B : Name} (ha0 : MergeRel cs10 cs00 P C R) (hb0 : MergeRel cs01 cs00 A Q R)
    (hb1 : MergeRel cs11 cs10 A B P) (ha1 : MergeRel cs11 cs01 B C Q) : Face cs00 cs10 cs01 cs11 :=
  ⟨.split R P C, .split P A B, .split R A Q, .split Q B C, ha0, hb1, hb0, ha1,
    fun h t f f'' => face_13 h t cs00 cs10 cs01 cs11 R P C A Q B ha0 hb0 hb1 ha1 f f''⟩

theorem Face.frob {C1 C2 P D1 D2 F : Name} (ha0 : MergeRel cs00 cs10 C1 C2 P) (hb0 : MergeRel cs01 cs00 D1 D2 C1)
    (hb1 : MergeRel cs11 cs10 F D2 P) (ha1 : MergeRel cs01 cs11 D1 C2 F) : Face cs00 cs10 cs01 cs11 :=
  ⟨.merge C1 C2 P, .split P F D2, .split C1 D1 D2, .merge D1 C2 F, ha0, hb1, hb0, ha1,
    fun h t f f'' => face_frob h t cs00 cs10 cs01 cs11 C1 C2 P D1 D2 F ha0 hb0 hb1 ha1 f f''⟩

theorem Face.of_11 {R P1 P2 Q1 Q2 R' : Name} (ha0 : MergeRel cs10 cs00 P1 P2 R) (hb0 : MergeRel cs01 cs00 Q1 Q2 R)
    (hb1 : MergeRel cs10 cs11 P1 P2 R') (ha1 : MergeRel cs01 cs11 Q1 Q2 R') : Face cs00 cs10 cs01 cs11 :=
  ⟨.split R P1 P2, .merge P1 P2 R', .split R Q1 Q2, .merge Q1 Q2 R', ha0, hb1, hb0, ha1,
    fun h t f f'' => face_11 h t cs00 cs10 cs01 cs11 R P1 P2 Q1 Q2 R' ha0 hb0 hb1 ha1 f f''⟩

end patterns

structure Sq (L : Array Nat) (P00 P10 P01 P11 : List (Nat × Nat)) (cs00 cs10 cs01 cs11 : Circ)
    (a1 a2 a3 a4 b1 b2 b3 b4 : Nat) : Prop where
  s00 : CirclesSpec L P00 cs00
  s10 : CirclesSpec L P10 cs10
  s01 : CirclesSpec L P01 cs01
  s11 : CirclesSpec L P11 cs11
  ga0 : EG L P00 P10 a1 a2 a3 a4
  ga1 : EG L P01 P11 a1 a2 a3 a4
  gb0 : EG L P00 P01 b1 b2 b3 b4
  gb1 : EG L P10 P11 b1 b2 b3 b4
  oa0 : edgeOK cs00 cs10 = true
  oa1 : edgeOK cs01 cs11 = true
  ob0 : edgeOK cs00 cs01 = true
  ob1 : edgeOK cs10 cs11 = true

section sq
variable {P00 P10 P01 P11 : List (Nat × Nat)} {cs00 cs10 cs01 cs11 : Circ} {a1 a2 a3 a4 b1 b2 b3 b4 : Nat}

theorem Sq.swapA (q : Sq L P00 P10 P01 P11 cs00 cs10 cs01 cs11 a1 a2 a3 a4 b1 b2 b3 b4) :
    Sq L P00 P10 P01 P11 cs00 cs10 cs01 cs11 a3 a4 a1 a2 b1 b2 b3 b4 :=
  ⟨q.s00, q.s10, q.s01, q.s11, q.ga0.swap, q.ga1.swap, q.gb0, q.gb1, q.oa0, q.oa1, q.ob0, q.ob1⟩

theorem Sq.swapB (q : Sq L P00 P10 P01 P11 cs00 cs10 cs01 cs11 a1 a2 a3 a4 b1 b2 b3 b4) :
    Sq L P00 P10 P01 P11 cs00 cs10 cs01 cs11 a1 a2 a3 a4 b3 b4 b1 b2 :=
  ⟨q.s00, q.s10, q.s01, q.s11, q.ga0, q.ga1, q.gb0.swap, q.gb1.swap, q.oa0, q.oa1, q.ob0, q.ob1⟩

theorem Sq.flip (q : Sq L P00 P10 P01 P11 cs00 cs10 cs01 cs11 a1 a2 a3 a4 b1 b2 b3 b4) :
    Sq L P00 P01 P10 P11 cs00 cs01 cs10 cs11 b1 b2 b3 b4 a1 a2 a3 a4 :=
  ⟨q.s00, q.s01, q.s10, q.s11, q.gb0, q.gb1, q.ga0, q.ga1, q.ob0, q.ob1, q.oa0, q.oa1⟩

theorem Sq.labels (q : Sq L P00 P10 P01 P11 cs00 cs10 cs01 cs11 a1 a2 a3 a4 b1 b2 b3 b4) :
    a1 ∈ L ∧ a3 ∈ L ∧ b1 ∈ L ∧ b3 ∈ L :=
  ⟨q.ga0.lp, q.ga0.lr, q.gb0.lp, q.gb0.lr⟩

theorem face_mm_disj (q : Sq L P00 P10 P01 P11 cs00 cs10 cs01 cs11 a1 a2 a3 a4 b1 b2 b3 b4)
    (ma0 : Mrg L P00 P10 cs00 cs10 a1 a3) (mb0 : Mrg L P00 P01 cs00 cs01 b1 b3)
    (n11 : N cs00 a1 ≠ N cs00 b1) (n13 : N cs00 a1 ≠ N cs00 b3) (n31 : N cs00 a3 ≠ N cs00 b1)
    (n33 : N cs00 a3 ≠ N cs00 b3) : Face cs00 cs10 cs01 cs11 := by
  obtain ⟨la1, la3, lb1, lb3⟩ := q.labels
  -- neither merge touches the circles of the other: the parallel edges are merges again, of the same circles
  have A := fun {x y} (hx : x ∈ L) (hy : y ∈ L) => ma0.ne_of_untouched q.s00 q.s10 la1 la3 hx hy
  have B := fun {x y} (hx : x ∈ L) (hy : y ∈ L) => mb0.ne_of_untouched q.s00 q.s01 lb1 lb3 hx hy
  have nb : N cs10 b1 ≠ N cs10 b3 := A lb1 lb3 (mb0.N_ne q.s00 lb1 lb3) n11.symm n31.symm
  have na : N cs01 a1 ≠ N cs01 a3 := B la1 la3 (ma0.N_ne q.s00 la1 la3) n11 n13
  have mb1 := (edge_cases q.gb1 q.s10 q.s11 q.ob1).resolve_right fun m => nb (m.N_pr q.s10 lb1 lb3)
  have ma1 := (edge_cases q.ga1 q.s01 q.s11 q.oa1).resolve_right fun m => na (m.N_pr q.s01 la1 la3)
  have e1 : N cs10 b1 = N cs00 b1 := ma0.persistN q.s00 q.s10 la1 la3 lb1 n11.symm n31.symm
  have e2 : N cs10 b3 = N cs00 b3 := ma0.persistN q.s00 q.s10 la1 la3 lb3 n13.symm n33.symm
  have e4 : N cs01 a1 = N cs00 a1 := mb0.persistN q.s00 q.s01 lb1 lb3 la1 n11 n13
  have e5 : N cs01 a3 = N cs00 a3 := mb0.persistN q.s00 q.s01 lb1 lb3 la3 n31 n33
  have e3 : N cs11 b1 = N cs01 b1 := ma1.persistN q.s01 q.s11 la1 la3 lb1
    (B la1 lb1 n11 n11 n13).symm (B la3 lb1 n31 n31 n33).symm
  have e6 : N cs11 a1 = N cs10 a1 := mb1.persistN q.s10 q.s11 lb1 lb3 la1
    (A lb1 la1 n11.symm n11.symm n31.symm).symm (A lb3 la1 n13.symm n13.symm n33.symm).symm
  have hb1 := mb1.rel
  have ha1 := ma1.rel
  rw [e1, e2, e3] at hb1
  rw [e4, e5, e6] at ha1
  exact Face.disjoint (.merge (N cs00 a1) (N cs00 a3) (N cs10 a1))
    (.merge (N cs00 b1) (N cs00 b3) (N cs01 b1)) ma0.rel mb0.rel hb1 ha1

theorem face_mm_31 (q : Sq L P00 P10 P01 P11 cs00 cs10 cs01 cs11 a1 a2 a3 a4 b1 b2 b3 b4)
    (ma0 : Mrg L P00 P10 cs00 cs10 a1 a3) (mb0 : Mrg L P00 P01 cs00 cs01 b1 b3)
    (c31 : N cs00 a3 = N cs00 b1) (n13 : N cs00 a1 ≠ N cs00 b3) : Face cs00 cs10 cs01 cs11 := by
  obtain ⟨la1, la3, lb1, lb3⟩ := q.labels
  have nA := ma0.N_ne q.s00 la1 la3
  have nB := mb0.N_ne q.s00 lb1 lb3
  -- three circles `a1 | a3 = b1 | b3`: `b3` is not touched by `a`, `a1` is not touched by `b`
  have h3 : N cs00 b3 ≠ N cs00 a3 := fun e => nB (c31.symm.trans e.symm)
  have h1 : N cs00 a1 ≠ N cs00 b1 := fun e => nA (e.trans c31.symm)
  have nb : N cs10 b1 ≠ N cs10 b3 :=
    (ma0.ne_of_untouched q.s00 q.s10 la1 la3 lb3 lb1 nB.symm n13.symm h3).symm
  have na : N cs01 a1 ≠ N cs01 a3 := mb0.ne_of_untouched q.s00 q.s01 lb1 lb3 la1 la3 nA h1 n13
  have mb1 := (edge_cases q.gb1 q.s10 q.s11 q.ob1).resolve_right fun m => nb (m.N_pr q.s10 lb1 lb3)
  have ma1 := (edge_cases q.ga1 q.s01 q.s11 q.oa1).resolve_right fun m => na (m.N_pr q.s01 la1 la3)
  have e1 : N cs10 b1 = N cs10 a1 := ma0.touchedN q.s00 q.s10 la1 la3 lb1 (Or.inr c31.symm)
  have e2 : N cs10 b3 = N cs00 b3 := ma0.persistN q.s00 q.s10 la1 la3 lb3 n13.symm h3
  have e3 : N cs01 a1 = N cs00 a1 := mb0.persistN q.s00 q.s01 lb1 lb3 la1 h1 n13
  have e4 : N cs01 a3 = N cs01 b1 := mb0.touchedN q.s00 q.s01 lb1 lb3 la3 (Or.inl c31)
  have e5 : N cs11 a1 = N cs11 b1 := (ma1.touchedN q.s01 q.s11 la1 la3 lb1 (Or.inr e4.symm)).symm
  have hb0 := mb0.rel
  have hb1 := mb1.rel
  have ha1 := ma1.rel
  rw [← c31] at hb0
  rw [e1, e2] at hb1
  rw [e3, e4, e5] at ha1
  exact Face.of_31 ma0.rel hb0 hb1 ha1

theorem face_mm_same (q : Sq L P00 P10 P01 P11 cs00 cs10 cs01 cs11 a1 a2 a3 a4 b1 b2 b3 b4)
    (ma0 : Mrg L P00 P10 cs00 cs10 a1 a3) (mb0 : Mrg L P00 P01 cs00 cs01 b1 b3)
    (c11 : N cs00 a1 = N cs00 b1) (c33 : N cs00 a3 = N cs00 b3) : Face cs00 cs10 cs01 cs11 := by
  obtain ⟨la1, la3, lb1, lb3⟩ := q.labels
  -- both crossings merge the same two circles: after one merge the other crossing sits on one circle and splits it
  have eP : N cs10 b1 = N cs10 a1 := ma0.touchedN q.s00 q.s10 la1 la3 lb1 (Or.inl c11.symm)
  have eb : N cs10 b1 = N cs10 b3 := eP.trans (ma0.touchedN q.s00 q.s10 la1 la3 lb3 (Or.inr c33.symm)).symm
  have ea : N cs01 a1 = N cs01 a3 := (mb0.touchedN q.s00 q.s01 lb1 lb3 la1 (Or.inl c11)).trans
    (mb0.touchedN q.s00 q.s01 lb1 lb3 la3 (Or.inr c33)).symm
  have mb1' := (edge_cases q.gb1 q.s10 q.s11 q.ob1).resolve_left fun m => m.N_ne q.s10 lb1 lb3 eb
  have ma1' := (edge_cases q.ga1 q.s01 q.s11 q.oa1).resolve_left fun m => m.N_ne q.s01 la1 la3 ea
  -- the two intermediate relations coincide
  have same : ∀ x y, x ∈ L → y ∈ L → (N cs10 x = N cs10 y ↔ N cs01 x = N cs01 y) := by
    intro x y hx hy
    have i1 := ma0.iffN q.s00 q.s10 la1 la3 hx hy
    rw [c11, c33] at i1
    exact i1.trans (mb0.iffN q.s00 q.s01 lb1 lb3 hx hy).symm
  have cross : ∀ x, x ∈ L → N cs01 x = N cs10 x := by
    intro x hx
    apply N_cross q.s01 q.s10 hx hx
    intro y hy
    rw [← N_eq_iff q.s01 hx hy, ← N_eq_iff q.s10 hx hy]
    exact (same x y hx hy).symm
  have hmem : ∀ c, c ∈ cs10 ↔ c ∈ cs01 := by
    intro c
    constructor
    · intro hc
      obtain ⟨e, he, rfl⟩ := exists_N q.s10 hc
      rw [← cross e he]; exact N_mem q.s01 he
    · intro hc
      obtain ⟨e, he, rfl⟩ := exists_N q.s01 hc
      rw [cross e he]; exact N_mem q.s10 he
  -- the pieces of `b`'s splitting of the merged circle contain `a1` and `a3`, one each
  have hpair := pair_of_cases (mb1'.casesN q.s11 q.s10 lb1 lb3 la1 eP.symm)
    (mb1'.casesN q.s11 q.s10 lb1 lb3 la3 ((ma0.N_pr q.s10 la1 la3).symm.trans eP.symm))
    (ma1'.N_ne q.s11 la1 la3)
  have hb0 := mb0.rel
  have ha1 := ma1'.rel
  rw [← c11, ← c33, (cross b1 lb1).trans eP] at hb0
  rw [(cross a1 la1).trans eP.symm] at ha1
  have ha1' : MergeRel cs11 cs01 (N cs11 b1) (N cs11 b3) (N cs10 b1) := ha1.of_pair hpair
  exact Face.same (.merge (N cs00 a1) (N cs00 a3) (N cs10 a1)) (.split (N cs10 b1) (N cs11 b1) (N cs11 b3))
    ma0.rel mb1'.rel hb0 ha1' hmem

theorem face_mm (q : Sq L P00 P10 P01 P11 cs00 cs10 cs01 cs11 a1 a2 a3 a4 b1 b2 b3 b4)
    (ma0 : Mrg L P00 P10 cs00 cs10 a1 a3) (mb0 : Mrg L P00 P01 cs00 cs01 b1 b3) : Face cs00 cs10 cs01 cs11 := by
  obtain ⟨la1, la3, lb1, lb3⟩ := q.labels
  have ma0' := ma0.swap q.s10 la1 la3
  have mb0' := mb0.swap q.s01 lb1 lb3
  by_cases c31 : N cs00 a3 = N cs00 b1
  · by_cases c13 : N cs00 a1 = N cs00 b3
    · exact face_mm_same q.swapB ma0 mb0' c13 c31
    · exact face_mm_31 q ma0 mb0 c31 c13
  · by_cases c11 : N cs00 a1 = N cs00 b1
    · by_cases c33 : N cs00 a3 = N cs00 b3
      · exact face_mm_same q ma0 mb0 c11 c33
      · exact face_mm_31 q.swapA ma0' mb0 c11 c33
    · by_cases c13 : N cs00 a1 = N cs00 b3
      · exact face_mm_31 q.swapA.swapB ma0' mb0' c13 c31
      · by_cases c33 : N cs00 a3 = N cs00 b3
        · exact face_mm_31 q.swapB ma0 mb0' c33 c11
        · exact face_mm_disj q ma0 mb0 c11 c13 c31 c33

theorem face_ss_disj (q : Sq L P00 P10 P01 P11 cs00 cs10 cs01 cs11 a1 a2 a3 a4 b1 b2 b3 b4)
    (ma0 : Mrg L P10 P00 cs10 cs00 a1 a3) (mb0 : Mrg L P01 P00 cs01 cs00 b1 b3)
    (hne : N cs00 a1 ≠ N cs00 b1) : Face cs00 cs10 cs01 cs11 := by
  obtain ⟨la1, la3, lb1, lb3⟩ := q.labels
  have ca := ma0.N_pr q.s00 la1 la3
  have cb := mb0.N_pr q.s00 lb1 lb3
  have A := fun {x y} (hx : x ∈ L) (hy : y ∈ L) => ma0.leN q.s10 q.s00 la1 la3 hx hy
  have B := fun {x y} (hx : x ∈ L) (hy : y ∈ L) => mb0.leN q.s01 q.s00 lb1 lb3 hx hy
  -- the two crossings split different circles of `00`: neither splitting touches the circle of the other
  have e1 : N cs10 b1 = N cs00 b1 := (ma0.offN q.s10 q.s00 la1 lb1 hne.symm).symm
  have e1' : N cs10 b3 = N cs00 b3 := (ma0.offN q.s10 q.s00 la1 lb3 fun e => hne (cb.trans e).symm).symm
  have e4 : N cs01 a1 = N cs00 a1 := (mb0.offN q.s01 q.s00 lb1 la1 hne).symm
  have e4' : N cs01 a3 = N cs00 a3 := (mb0.offN q.s01 q.s00 lb1 la3 fun e => hne (ca.trans e)).symm
  have eb : N cs10 b1 = N cs10 b3 := e1.trans (cb.trans e1'.symm)
  have ea : N cs01 a1 = N cs01 a3 := e4.trans (ca.trans e4'.symm)
  have mb1' := (edge_cases q.gb1 q.s10 q.s11 q.ob1).resolve_left fun m => m.N_ne q.s10 lb1 lb3 eb
  have ma1' := (edge_cases q.ga1 q.s01 q.s11 q.oa1).resolve_left fun m => m.N_ne q.s01 la1 la3 ea
  have e2 : N cs11 b1 = N cs01 b1 := (ma1'.offN q.s11 q.s01 la1 lb1 fun e => hne (B lb1 la1 e).symm).symm
  have e3 : N cs11 b3 = N cs01 b3 :=
    (ma1'.offN q.s11 q.s01 la1 lb3 fun e => hne (cb.trans (B lb3 la1 e)).symm).symm
  have e5 : N cs11 a1 = N cs10 a1 := (mb1'.offN q.s11 q.s10 lb1 la1 fun e => hne (A la1 lb1 e)).symm
  have e6 : N cs11 a3 = N cs10 a3 := (mb1'.offN q.s11 q.s10 lb1 la3 fun e => hne (ca.trans (A la3 lb1 e))).symm
  have hb1 := mb1'.rel
  have ha1 := ma1'.rel
  rw [e1, e2, e3] at hb1
  rw [e4, e5, e6] at ha1
  exact Face.disjoint (.split (N cs00 a1) (N cs10 a1) (N cs10 a3))
    (.split (N cs00 b1) (N cs01 b1) (N cs01 b3)) ma0.rel mb0.rel hb1 ha1

theorem face_ss_11 (q : Sq L P00 P10 P01 P11 cs00 cs10 cs01 cs11 a1 a2 a3 a4 b1 b2 b3 b4)
    (ma0 : Mrg L P10 P00 cs10 cs00 a1 a3) (mb0 : Mrg L P01 P00 cs01 cs00 b1 b3)
    (hs : N cs00 a1 = N cs00 b1) (hnb : N cs10 b1 ≠ N cs10 b3) : Face cs00 cs10 cs01 cs11 := by
  obtain ⟨la1, la3, lb1, lb3⟩ := q.labels
  have ca := ma0.N_pr q.s00 la1 la3
  have cb := mb0.N_pr q.s00 lb1 lb3
  -- all four slots lie on the circle of `00` that both crossings split; `b1`, `b3` lie on different pieces of `a`'s splitting
  have hp1 := pair_of_cases (ma0.casesN q.s10 q.s00 la1 la3 lb1 hs.symm)
    (ma0.casesN q.s10 q.s00 la1 la3 lb3 (cb.symm.trans hs.symm)) hnb
  have mb1 := (edge_cases q.gb1 q.s10 q.s11 q.ob1).resolve_right fun m => hnb (m.N_pr q.s10 lb1 lb3)
  -- so `b` merges the two pieces again, and `a1`, `a3` end on one circle
  have t1 : N cs10 a1 = N cs10 b1 ∨ N cs10 a1 = N cs10 b3 := by
    rcases hp1 with ⟨e, _⟩ | ⟨_, e⟩
    · exact Or.inl e.symm
    · exact Or.inr e.symm
  have t3 : N cs10 a3 = N cs10 b1 ∨ N cs10 a3 = N cs10 b3 := by
    rcases hp1 with ⟨_, e⟩ | ⟨e, _⟩
    · exact Or.inr e.symm
    · exact Or.inl e.symm
  have e5 : N cs11 a1 = N cs11 b1 := mb1.touchedN q.s10 q.s11 lb1 lb3 la1 t1
  have ea : N cs11 a1 = N cs11 a3 := e5.trans (mb1.touchedN q.s10 q.s11 lb1 lb3 la3 t3).symm
  have ma1 := (edge_cases q.ga1 q.s01 q.s11 q.oa1).resolve_right fun m => m.N_ne q.s11 la1 la3 ea
  have hp2 := pair_of_cases (mb0.casesN q.s01 q.s00 lb1 lb3 la1 hs)
    (mb0.casesN q.s01 q.s00 lb1 lb3 la3 (ca.symm.trans hs)) (ma1.N_ne q.s01 la1 la3)
  have hb0 := mb0.rel
  have hb1 := mb1.rel
  have ha1 := ma1.rel
  rw [← hs] at hb0
  rw [e5] at ha1
  exact Face.of_11 ma0.rel hb0 (hb1.of_pair hp1) (ha1.of_pair hp2)

theorem face_ss_13 (q : Sq L P00 P10 P01 P11 cs00 cs10 cs01 cs11 a1 a2 a3 a4 b1 b2 b3 b4)
    (ma0 : Mrg L P10 P00 cs10 cs00 a1 a3) (mb0 : Mrg L P01 P00 cs01 cs00 b1 b3)
    (hs : N cs00 a1 = N cs00 b1) (hb : N cs10 b1 = N cs10 b3) (h1 : N cs10 b1 = N cs10 a1)
    (h2 : N cs01 a1 = N cs01 b3) : Face cs00 cs10 cs01 cs11 := by
  obtain ⟨la1, la3, lb1, lb3⟩ := q.labels
  have nA := ma0.N_ne q.s10 la1 la3
  have mb1' := (edge_cases q.gb1 q.s10 q.s11 q.ob1).resolve_left fun m => m.N_ne q.s10 lb1 lb3 hb
  -- `b` splits the piece of `a1`; the piece of `a3` is not touched
  have na : N cs11 a1 ≠ N cs11 a3 := fun e => nA (mb1'.leN q.s11 q.s10 lb1 lb3 la1 la3 e)
  have ma1' := (edge_cases q.ga1 q.s01 q.s11 q.oa1).resolve_left fun m => na (m.N_pr q.s11 la1 la3)
  have e1 : N cs11 b1 = N cs01 b1 :=
    (ma1'.offN q.s11 q.s01 la1 lb1 fun e => mb0.N_ne q.s01 lb1 lb3 (e.trans h2)).symm
  have e2 : N cs11 a3 = N cs10 a3 := (mb1'.offN q.s11 q.s10 lb1 la3 fun e => nA (h1.symm.trans e.symm)).symm
  have e3 : N cs11 a1 = N cs11 b3 :=
    ((ma1'.casesN q.s11 q.s01 la1 la3 lb3 h2.symm).resolve_right fun e =>
      nA ((h1.symm.trans hb).trans (mb1'.leN q.s11 q.s10 lb1 lb3 lb3 la3 e))).symm
  have hb0 := mb0.rel
  have hb1 := mb1'.rel
  have ha1 := ma1'.rel
  rw [← hs] at hb0
  rw [e1, h1] at hb1
  rw [e3, e2, h2] at ha1
  exact Face.of_13 ma0.rel hb0 hb1 ha1

theorem face_ss (q : Sq L P00 P10 P01 P11 cs00 cs10 cs01 cs11 a1 a2 a3 a4 b1 b2 b3 b4)
    (ma0 : Mrg L P10 P00 cs10 cs00 a1 a3) (mb0 : Mrg L P01 P00 cs01 cs00 b1 b3) : Face cs00 cs10 cs01 cs11 := by
  obtain ⟨la1, la3, lb1, lb3⟩ := q.labels
  have ca := ma0.N_pr q.s00 la1 la3
  have cb := mb0.N_pr q.s00 lb1 lb3
  have ma0' := ma0.swap q.s00 la1 la3
  have mb0' := mb0.swap q.s00 lb1 lb3
  by_cases hs : N cs00 a1 = N cs00 b1
  · by_cases hb : N cs10 b1 = N cs10 b3
    · -- b splits one of the two pieces: which one, and in which piece of b's splitting do a's slots lie?
      have hA := ma0.casesN q.s10 q.s00 la1 la3 lb1 hs.symm
      have hB := (mb0.casesN q.s01 q.s00 lb1 lb3 la1 hs).symm
      have hB' := (mb0.casesN q.s01 q.s00 lb1 lb3 la3 (ca.symm.trans hs)).symm
      rcases hA with hA | hA
      · rcases hB with hB | hB
        · exact face_ss_13 q ma0 mb0 hs hb hA hB
        · exact face_ss_13 q.swapB ma0 mb0' (hs.trans cb) hb.symm (hb.symm.trans hA) hB
      · rcases hB' with hB' | hB'
        · exact face_ss_13 q.swapA ma0' mb0 (ca.symm.trans hs) hb hA hB'
        · exact face_ss_13 q.swapA.swapB ma0' mb0' (ca.symm.trans (hs.trans cb)) hb.symm (hb.symm.trans hA) hB'
    · exact face_ss_11 q ma0 mb0 hs hb
  · exact face_ss_disj q ma0 mb0 hs

theorem face_ms_disj (q : Sq L P00 P10 P01 P11 cs00 cs10 cs01 cs11 a1 a2 a3 a4 b1 b2 b3 b4)
    (ma0 : Mrg L P00 P10 cs00 cs10 a1 a3) (mb0 : Mrg L P01 P00 cs01 cs00 b1 b3)
    (n1 : N cs00 b1 ≠ N cs00 a1) (n3 : N cs00 b1 ≠ N cs00 a3) : Face cs00 cs10 cs01 cs11 := by
  obtain ⟨la1, la3, lb1, lb3⟩ := q.labels
  have cb := mb0.N_pr q.s00 lb1 lb3
  have B := fun {x y} (hx : x ∈ L) (hy : y ∈ L) => mb0.leN q.s01 q.s00 lb1 lb3 hx hy
  -- the circle `b` splits is not one of those `a` merges
  have eb : N cs10 b1 = N cs10 b3 := ma0.leN q.s00 q.s10 la1 la3 lb1 lb3 cb
  have na : N cs01 a1 ≠ N cs01 a3 := fun e => ma0.N_ne q.s00 la1 la3 (B la1 la3 e)
  have mb1' := (edge_cases q.gb1 q.s10 q.s11 q.ob1).resolve_left fun m => m.N_ne q.s10 lb1 lb3 eb
  have ma1 := (edge_cases q.ga1 q.s01 q.s11 q.oa1).resolve_right fun m => na (m.N_pr q.s01 la1 la3)
  have e1 : N cs10 b1 = N cs00 b1 := ma0.persistN q.s00 q.s10 la1 la3 lb1 n1 n3
  have e2 : N cs11 b1 = N cs01 b1 := ma1.persistN q.s01 q.s11 la1 la3 lb1
    (fun e => n1 (B lb1 la1 e)) (fun e => n3 (B lb1 la3 e))
  have e3 : N cs11 b3 = N cs01 b3 := ma1.persistN q.s01 q.s11 la1 la3 lb3
    (fun e => n1 (cb.trans (B lb3 la1 e))) (fun e => n3 (cb.trans (B lb3 la3 e)))
  have e4 : N cs01 a1 = N cs00 a1 := (mb0.offN q.s01 q.s00 lb1 la1 n1.symm).symm
  have e5 : N cs01 a3 = N cs00 a3 := (mb0.offN q.s01 q.s00 lb1 la3 n3.symm).symm
  have e6 : N cs11 a1 = N cs10 a1 := (mb1'.offN q.s11 q.s10 lb1 la1
    (ma0.ne_of_untouched q.s00 q.s10 la1 la3 lb1 la1 n1 n1 n3).symm).symm
  have hb1 := mb1'.rel
  have ha1 := ma1.rel
  rw [e1, e2, e3] at hb1
  rw [e4, e5, e6] at ha1
  exact Face.disjoint (.merge (N cs00 a1) (N cs00 a3) (N cs10 a1))
    (.split (N cs00 b1) (N cs01 b1) (N cs01 b3)) ma0.rel mb0.rel hb1 ha1

theorem face_ms_frob (q : Sq L P00 P10 P01 P11 cs00 cs10 cs01 cs11 a1 a2 a3 a4 b1 b2 b3 b4)
    (ma0 : Mrg L P00 P10 cs00 cs10 a1 a3) (mb0 : Mrg L P01 P00 cs01 cs00 b1 b3)
    (c : N cs00 b1 = N cs00 a1) (d : N cs01 a1 = N cs01 b1) : Face cs00 cs10 cs01 cs11 := by
  obtain ⟨la1, la3, lb1, lb3⟩ := q.labels
  have A := fun {x y} (hx : x ∈ L) (hy : y ∈ L) => ma0.leN q.s00 q.s10 la1 la3 hx hy
  have B := fun {x y} (hx : x ∈ L) (hy : y ∈ L) => mb0.leN q.s01 q.s00 lb1 lb3 hx hy
  have nA := ma0.N_ne q.s00 la1 la3
  have cb := mb0.N_pr q.s00 lb1 lb3
  -- `a3` lies on neither piece of `b`'s circle
  have h1 : N cs01 a3 ≠ N cs01 b1 := fun e => nA ((B la3 lb1 e).trans c).symm
  have h3 : N cs01 a3 ≠ N cs01 b3 := fun e => nA ((B la3 lb3 e).trans (cb.symm.trans c)).symm
  have eb : N cs10 b1 = N cs10 b3 := A lb1 lb3 cb
  have na : N cs01 a1 ≠ N cs01 a3 := fun e => nA (B la1 la3 e)
  have mb1' := (edge_cases q.gb1 q.s10 q.s11 q.ob1).resolve_left fun m => m.N_ne q.s10 lb1 lb3 eb
  have ma1 := (edge_cases q.ga1 q.s01 q.s11 q.oa1).resolve_right fun m => na (m.N_pr q.s01 la1 la3)
  have e1 : N cs11 b1 = N cs11 a1 := (ma1.leN q.s01 q.s11 la1 la3 la1 lb1 d).symm
  have e2 : N cs11 b3 = N cs01 b3 := ma1.persistN q.s01 q.s11 la1 la3 lb3
    (fun e => mb0.N_ne q.s01 lb1 lb3 (d.symm.trans e.symm)) h3.symm
  have e3 : N cs10 b1 = N cs10 a1 := A lb1 la1 c
  have e4 : N cs01 a3 = N cs00 a3 := (mb0.persistN q.s01 q.s00 lb1 lb3 la3 h1 h3).symm
  have hb0 := mb0.rel
  have hb1 := mb1'.rel
  have ha1 := ma1.rel
  rw [c] at hb0
  rw [e1, e2, e3] at hb1
  rw [d, e4] at ha1
  exact Face.frob ma0.rel hb0 hb1 ha1

theorem face_ms (q : Sq L P00 P10 P01 P11 cs00 cs10 cs01 cs11 a1 a2 a3 a4 b1 b2 b3 b4)
    (ma0 : Mrg L P00 P10 cs00 cs10 a1 a3) (mb0 : Mrg L P01 P00 cs01 cs00 b1 b3) : Face cs00 cs10 cs01 cs11 := by
  obtain ⟨la1, la3, lb1, lb3⟩ := q.labels
  have cb := mb0.N_pr q.s00 lb1 lb3
  have ma0' := ma0.swap q.s10 la1 la3
  have mb0' := mb0.swap q.s00 lb1 lb3
  by_cases c1 : N cs00 b1 = N cs00 a1
  · rcases mb0.casesN q.s01 q.s00 lb1 lb3 la1 c1.symm with hd | hd
    · exact face_ms_frob q ma0 mb0 c1 hd
    · exact face_ms_frob q.swapB ma0 mb0' (cb.symm.trans c1) hd
  · by_cases c3 : N cs00 b1 = N cs00 a3
    · rcases mb0.casesN q.s01 q.s00 lb1 lb3 la3 c3.symm with hd | hd
      · exact face_ms_frob q.swapA ma0' mb0 c3 hd
      · exact face_ms_frob q.swapA.swapB ma0' mb0' (cb.symm.trans c3) hd
    · exact face_ms_disj q ma0 mb0 c1 c3

theorem face_of_sq (q : Sq L P00 P10 P01 P11 cs00 cs10 cs01 cs11 a1 a2 a3 a4 b1 b2 b3 b4) :
    Face cs00 cs10 cs01 cs11 := by
  rcases edge_cases q.ga0 q.s00 q.s10 q.oa0 with ma0 | ma0 <;>
    rcases edge_cases q.gb0 q.s00 q.s01 q.ob0 with mb0 | mb0
  · exact face_mm q ma0 mb0
  · exact face_ms q ma0 mb0
  · exact (face_ms q.flip mb0 ma0).symm
  · exact face_ss q ma0 mb0

end sq

open Yuiv.C02Mirror (cubeOK)

theorem pathSum_comm_of_face {cs00 cs10 cs01 cs11 : Circ} (hF : Face cs00 cs10 cs01 cs11)
    (p0010 : C02Mirror.Pair cs00 cs10) (p1011 : C02Mirror.Pair cs10 cs11) (p0001 : C02Mirror.Pair cs00 cs01)
    (p0111 : C02Mirror.Pair cs01 cs11) (h t : Int) (m m'' : Nat) :
    pathSum h t cs00 cs10 cs11 m m'' = pathSum h t cs00 cs01 cs11 m m'' := by
  obtain ⟨ea0, eb1, eb0, ea1, h1, h2, h3, h4, h5⟩ := hF
  by_cases hm : m'' < 2 ^ cs11.size
  · rw [pathSum_eq_pathF p0010 p1011 h t ea0 eb1 h1 h2 m m'' hm, pathSum_eq_pathF p0001 p0111 h t eb0 ea1 h3 h4 m m'' hm]
    exact h5 h t _ _
  · rw [pathSum_big p1011 h t m m'' (by omega), pathSum_big p0111 h t m m'' (by omega)]

theorem faceComm_mkCube (l : Link) (hv : validK l = true) (hL : (edgeLabels l).size ≤ 64) (p : Params)
    (hok : cubeOK (mkCube l p)) : FaceComm (mkCube l p) p := by
  intro s a b hs ha hb hab hba hbb m m''
  have hn : (mkCube l p).n = crossingNum l := rfl
  rw [hn] at hs ha hb
  have hwf := wf_of_validK l hv
  have hs10 := KhRef.or_bit_lt hs ha
  have hs01 := KhRef.or_bit_lt hs hb
  have hs11 := KhRef.or_bit_lt hs10 hb
  have bit10 : (s ||| 1 <<< a).testBit b = false := by rw [testBit_or_bit_ne s a b hab]; exact hbb
  have bit01 : (s ||| 1 <<< b).testBit a = false := by rw [testBit_or_bit_ne s b a (fun e => hab e.symm)]; exact hba
  obtain ⟨_, _, _, a1, a2, a3, a4, _, hga⟩ := flip_geom l hv a ha
  obtain ⟨_, _, _, b1, b2, b3, b4, _, hgb⟩ := flip_geom l hv b hb
  have ga1 := hga _ bit01
  rw [or_or_comm s a b] at ga1
  have spec : ∀ t, t < 2 ^ crossingNum l →
      CirclesSpec (edgeLabels l) (statePairs l t) (mkCube l p).circ[t]! := by
    intro t ht
    rw [KhRef.mkCube_circ l p t ht]
    exact circles_spec l hwf t
  have q : Sq (edgeLabels l) (statePairs l s) (statePairs l (s ||| 1 <<< a)) (statePairs l (s ||| 1 <<< b))
      (statePairs l ((s ||| 1 <<< a) ||| 1 <<< b)) (mkCube l p).circ[s]! (mkCube l p).circ[s ||| 1 <<< a]!
      (mkCube l p).circ[s ||| 1 <<< b]! (mkCube l p).circ[(s ||| 1 <<< a) ||| 1 <<< b]! a1 a2 a3 a4 b1 b2 b3 b4 :=
    ⟨spec _ hs, spec _ hs10, spec _ hs01, spec _ hs11, hga s hba, ga1, hgb s hbb, hgb _ bit10,
      hok s hs a ha hba, by have := hok _ hs01 a ha bit01; rwa [or_or_comm s a b] at this, hok s hs b hb hbb,
      hok _ hs10 b hb bit10⟩
  exact pathSum_comm_of_face (face_of_sq q) (C02Mirror.cube_pair l p hL _ _ hs hs10)
    (C02Mirror.cube_pair l p hL _ _ hs10 hs11) (C02Mirror.cube_pair l p hL _ _ hs hs01)
    (C02Mirror.cube_pair l p hL _ _ hs01 hs11) p.h p.t m m''

end Yuiv.C01Sq
