import Yuiv.Proofs.C13
import Yuiv.Proofs.C13Kernel
import Yuiv.Proofs.C13Dense
import Yuiv.Proofs.C13Perm
import Yuiv.Proofs.C13Vec
import Yuiv.Proofs.C13Rest
/-
C13 — the remaining small routines of the code model `Yuiv/Model/C13.lean`.  As in `Props/C13`: `R` is an arbitrary commutative ring with decidable equality,
`A.entry i j` / `v.entry i` is what `into_dense` reads (the sum of the stored values at that position, so
explicitly stored zeros are allowed), `A.WF` / `v.WF` is well-formed CSC data (every `SpMat` / `SpVec` value has it).

* dense `Mat::{diag, is_zero, is_id, is_diag}` (`dense/mat.rs:57-90`): `iter()` visits every position of the
  `DMatrix`, so the predicates mean exactly the mathematical statement; `is_id` demands a square shape (`mat.rs:70`),
  `is_diag` and `is_zero` do not; `diag` panics iff more entries than `min(m, n)` are given (`mat[(i, i)] = a`).
* sparse `SpMat::is_zero` (`sp_mat.rs:48-51`) and `SpVec::is_zero` (`sp_vec.rs:41-44`) test the *stored values*
  only; because a well-formed column stores every row at most once this is equivalent to "every entry is zero",
  whether or not zeros are stored explicitly.
* `SpVec` `+ − neg` (`sp_vec.rs:219-250`, nalgebra's kernels on the one-column matrix, then `SpVec::new`) and
  `SpVec::unit` (`sp_vec.rs:46-56`, `try_from_csc_data(..).unwrap()` panics iff `i ≥ n`).
* `util::perm_for_indices` (`util.rs:1-22`): the call returns iff the indices are pairwise distinct and below `n`;
  an out-of-range index trips `assert!(i < n)`, a repeated in-range index makes `vec` longer than `n`, the last
  position written into `inv` is then `≥ n` and `PermOwned::new` panics in `assert!(perm_is_valid(..))`.
  The accepted permutation puts the listed indices first (in order) and the others after them in increasing order.
* the ad-hoc closures which the driver / harness hand to `extract` (`x0` swap, `x1` fold modulo a shape, `x2` even
  rows; `vx1`, `vx2` for vectors).
-/
namespace Yuiv.C13
open Yuiv Res

variable {R : Type} [CommRing R] [DecidableEq R]

set_option linter.unusedSectionVars false in
/-- `Mat::diag((m, n), es)` with at most `min(m, n)` entries: an `m × n` matrix with `es[i]` at `(i, i)`
(zero on the rest of the diagonal) and zero off the diagonal -/
theorem dense_diag_entries (m n : Nat) (es : List R) (hm : es.length ≤ m) (hn : es.length ≤ n) :
    ∃ A, DMat.diag m n es = ok A ∧ A.nrows = m ∧ A.ncols = n ∧
      ∀ i j, i < m → j < n → A.get i j = if i = j then es.getD i 0 else 0 := by
  refine ⟨DMat.ofFn m n (fun i j => if i = j then es.getD i 0 else 0), ?_, rfl, rfl, ?_⟩
  · unfold DMat.diag; rw [if_pos ⟨hm, hn⟩]
  · intro i j hi hj; rw [get_ofFn _ _ _ _ _ hi hj]

/-- `Mat::diag` returns iff there are at most `min(m, n)` entries; otherwise `mat[(i, i)] = a` panics -/
theorem dense_diag_defined (m n : Nat) (es : List R) :
    ((∃ A, DMat.diag m n es = ok A) ↔ es.length ≤ m ∧ es.length ≤ n) ∧
      (¬ (es.length ≤ m ∧ es.length ≤ n) → DMat.diag m n es = panic) := by
  refine ⟨⟨?_, ?_⟩, ddiag_panic m n es⟩
  · rintro ⟨A, hA⟩
    by_contra hc
    rw [ddiag_panic m n es hc] at hA; cases hA
  · rintro ⟨hm, hn⟩
    obtain ⟨A, hA, _⟩ := dense_diag_entries m n es hm hn
    exact ⟨A, hA⟩

/-- what `diag` returns passes `is_diag` -/
theorem dense_diag_is_diag (m n : Nat) (es : List R) (A : DMat R) (h : DMat.diag m n es = ok A) :
    A.isDiag = true := by
  by_cases hc : es.length ≤ m ∧ es.length ≤ n
  · obtain ⟨B, hB, h1, h2, h3⟩ := dense_diag_entries m n es hc.1 hc.2
    rw [h] at hB; cases hB
    rw [disDiag_iff]
    intro i j hi hj hij
    rw [h3 i j (h1 ▸ hi) (h2 ▸ hj), if_neg hij]
  · rw [ddiag_panic m n es hc] at h; cases h

/-- `Mat::is_zero` ⇔ every entry is zero -/
theorem dense_is_zero_iff (A : DMat R) :
    A.isZero = true ↔ ∀ i j, i < A.nrows → j < A.ncols → A.get i j = 0 := by
  unfold DMat.isZero
  simp only [List.all_eq_true, List.mem_range, decide_eq_true_eq]
  exact ⟨fun h i j hi hj => h i hi j hj, fun h i hi j hj => h i j hi hj⟩

/-- `Mat::is_id` ⇔ the matrix is square and its entries are those of the identity matrix -/
theorem dense_is_id_iff (A : DMat R) :
    A.isId = true ↔ A.nrows = A.ncols ∧
      ∀ i j, i < A.nrows → j < A.ncols → A.get i j = if i = j then 1 else 0 := by
  unfold DMat.isId
  simp only [Bool.and_eq_true, List.all_eq_true, List.mem_range, Bool.or_eq_true, decide_eq_true_eq]
  constructor
  · rintro ⟨hsq, h⟩
    refine ⟨hsq, ?_⟩
    intro i j hi hj
    rcases h i hi j hj with ⟨e, e1⟩ | ⟨e, e0⟩
    · rw [if_pos e]; exact e1
    · rw [if_neg (by simpa using e)]; exact e0
  · rintro ⟨hsq, h⟩
    refine ⟨hsq, ?_⟩
    intro i hi j hj
    have := h i j hi hj
    by_cases e : i = j
    · rw [if_pos e] at this; exact Or.inl ⟨e, this⟩
    · rw [if_neg e] at this; exact Or.inr ⟨by simpa using e, this⟩

/-- `Mat::is_diag` ⇔ every off-diagonal entry is zero (any shape: no squareness is required by the code) -/
theorem dense_is_diag_iff (A : DMat R) :
    A.isDiag = true ↔ ∀ i j, i < A.nrows → j < A.ncols → i ≠ j → A.get i j = 0 := disDiag_iff A

/-- `SpMat::is_zero` ⇔ every entry is zero, for well-formed CSC data with or without stored zeros -/
theorem sparse_is_zero_iff (A : SpMat R) (hA : A.WF) : A.isZero = true ↔ ∀ i j, A.entry i j = 0 := by
  constructor
  · intro h i j; exact isZero_entries A h i j
  · intro h
    unfold SpMat.isZero
    rw [List.all_eq_true]
    intro c hc
    rw [col_all_zero_iff c (hA.sorted c hc)]
    intro i
    obtain ⟨j, hj, e⟩ := List.getElem_of_mem hc
    have := h i j
    unfold SpMat.entry at this
    rw [List.getD_eq_getElem?_getD, List.getElem?_eq_getElem hj, Option.getD_some, e] at this
    exact this

/-- the direction that needs no well-formedness: `is_zero` never accepts a matrix with a non-zero entry -/
theorem sparse_is_zero_sound (A : SpMat R) (h : A.isZero = true) (i j : Nat) : A.entry i j = 0 :=
  isZero_entries A h i j

/-- `SpVec::is_zero` ⇔ every entry is zero -/
theorem spvec_is_zero_iff (v : SpVec R) (hv : v.WF) : v.isZero = true ↔ ∀ i, v.entry i = 0 := by
  unfold SpVec.isZero SpVec.entry
  exact col_all_zero_iff v.ents hv.sorted

set_option linter.unusedSectionVars false in
/-- `&v + &w` for equal dimensions: entrywise sum -/
theorem spvec_add_entries (v w : SpVec R) (hv : v.WF) (hw : w.WF) (hd : v.dim = w.dim) :
    ∃ u, v.add w = ok u ∧ u.dim = v.dim ∧ u.WF ∧ ∀ i, u.entry i = v.entry i + w.entry i := by
  obtain ⟨C, h1, h2, h3, h4, h5⟩ := add_spec v.toMat w.toMat hv hw hd rfl
  obtain ⟨u, k1, k2, k3, k4⟩ := intoSpVec_spec C h4 h3
  refine ⟨u, ?_, by rw [k2, h2]; rfl, k3, ?_⟩
  · unfold SpVec.add; rw [h1]; exact k1
  · intro i; rw [k4, h5]; rfl

/-- `&v + &w` panics (nalgebra's shape assertion) iff the dimensions differ -/
theorem spvec_add_rejects (v w : SpVec R) (hd : v.dim ≠ w.dim) : v.add w = panic := by
  unfold SpVec.add
  rw [add_reject v.toMat w.toMat (fun h => hd h.1)]; rfl

set_option linter.unusedSectionVars false in
/-- `&v - &w` for equal dimensions: entrywise difference -/
theorem spvec_sub_entries (v w : SpVec R) (hv : v.WF) (hw : w.WF) (hd : v.dim = w.dim) :
    ∃ u, v.sub w = ok u ∧ u.dim = v.dim ∧ u.WF ∧ ∀ i, u.entry i = v.entry i - w.entry i := by
  obtain ⟨C, h1, h2, h3, h4, h5⟩ := sub_spec v.toMat w.toMat hv hw hd rfl
  obtain ⟨u, k1, k2, k3, k4⟩ := intoSpVec_spec C h4 h3
  refine ⟨u, ?_, by rw [k2, h2]; rfl, k3, ?_⟩
  · unfold SpVec.sub; rw [h1]; exact k1
  · intro i; rw [k4, h5]; rfl

set_option linter.unusedSectionVars false in
theorem spvec_sub_rejects (v w : SpVec R) (hd : v.dim ≠ w.dim) : v.sub w = panic := by
  unfold SpVec.sub
  rw [sub_reject v.toMat w.toMat (fun h => hd h.1)]; rfl

set_option linter.unusedSectionVars false in
/-- `-v`: same dimension, entrywise negation (total) -/
theorem spvec_neg_entries (v : SpVec R) (hv : v.WF) :
    v.neg.dim = v.dim ∧ v.neg.WF ∧ ∀ i, v.neg.entry i = - v.entry i := by
  refine ⟨rfl, ?_, ?_⟩
  · unfold SpVec.WF; rw [vneg_toMat]; exact neg_wf _ hv
  · intro i
    have := neg_entry v.toMat i 0
    rw [← vneg_toMat] at this
    exact this

set_option linter.unusedSectionVars false in
/-- `SpVec::unit(n, i)` for `i < n`: the `i`-th standard basis vector of dimension `n` -/
theorem spvec_unit_entries (n i : Nat) (hi : i < n) :
    ∃ v : SpVec R, SpVec.unit n i = ok v ∧ v.dim = n ∧ v.WF ∧ ∀ k, v.entry k = if k = i then 1 else 0 :=
  ⟨_, vunit_ok n i hi, rfl, vunit_wf n i hi, vunit_entry n i⟩

set_option linter.unusedSectionVars false in
/-- `SpVec::unit(n, i)` panics (`try_from_csc_data(..).unwrap()`) iff `i ≥ n` -/
theorem spvec_unit_rejects (n i : Nat) (hi : ¬ i < n) : (SpVec.unit n i : Res (SpVec R)) = panic := by
  unfold SpVec.unit tryFromCsc
  rw [if_neg (fun h => hi (by simpa [splitLanes, strictInc] using h.2.2.2.2.2))]
  rfl

/-- a repeated index (all indices in range): `vec` gets longer than `n`, the slot of its last element receives a
position `≥ n`, and `PermOwned::new` panics -/
theorem perm_for_indices_repeated_rejects (n : Nat) (indices : List Nat) (hb : ∀ i ∈ indices, i < n)
    (hnd : ¬ indices.Nodup) : permForIndices n indices = panic := by
  unfold permForIndices
  rw [assert_true (by rw [List.all_eq_true]; intro i hi; simpa using hb i hi)]
  simp only [bind_ok]
  have hlen := vec_length_gt n indices hnd
  generalize hvec : indices ++ (List.range n).filter (fun i => !indices.contains i) = vec at hlen
  have hvb : ∀ j ∈ vec, j < (List.replicate n 0).length := by
    intro j hj
    rw [List.length_replicate]
    rw [← hvec, List.mem_append] at hj
    rcases hj with hj | hj
    · exact hb j hj
    · exact List.mem_range.mp (List.mem_filter.mp hj).1
  obtain ⟨inv, h1, h2, h3, _⟩ := fillInv_spec vec (List.replicate n 0) 0 hvb
  rw [h1]
  simp only [bind_ok]
  rw [List.length_replicate] at h2
  -- the last element of `vec` has no later occurrence, so its slot holds `vec.length - 1 ≥ n`
  have hlast := h3 (vec.length - 1) (by omega) (by rw [List.drop_of_length_le (by omega)]; exact List.not_mem_nil)
  apply Perm.new_panic
  intro ⟨hall, _⟩
  have := hall _ (List.mem_of_getElem? hlast)
  omega

/-- `perm_for_indices(n, indices)` returns iff the indices are pairwise distinct and below `n`; in every other
case it panics (never an `err`) -/
theorem perm_for_indices_defined_iff (n : Nat) (indices : List Nat) :
    ((∃ p, permForIndices n indices = ok p) ↔ indices.Nodup ∧ ∀ i ∈ indices, i < n) ∧
      (¬ (indices.Nodup ∧ ∀ i ∈ indices, i < n) → permForIndices n indices = panic) := by
  have hpanic : ¬ (indices.Nodup ∧ ∀ i ∈ indices, i < n) → permForIndices n indices = panic := by
    intro hc
    by_cases hb : ∀ i ∈ indices, i < n
    · exact perm_for_indices_repeated_rejects n indices hb (fun hnd => hc ⟨hnd, hb⟩)
    · apply permForIndices_reject
      by_contra hne
      exact hb (fun i hi => by by_contra hlt; exact hne ⟨i, hi, hlt⟩)
  refine ⟨⟨?_, ?_⟩, hpanic⟩
  · rintro ⟨p, hp⟩
    by_contra hc
    rw [hpanic hc] at hp; cases hp
  · rintro ⟨hnd, hb⟩
    obtain ⟨p, hp, _⟩ := permForIndices_spec n indices hnd hb
    exact ⟨p, hp⟩

/-- the accepted permutation: a valid permutation of `0..n`; the `k`-th listed index goes to position `k`, an
unlisted index `i` goes to `|indices| + #{unlisted indices below i}` — the others follow in increasing order -/
theorem perm_for_indices_positions (n : Nat) (indices : List Nat) (hnd : indices.Nodup) (hb : ∀ i ∈ indices, i < n) :
    ∃ p, permForIndices n indices = ok p ∧ p.Valid ∧ p.dim = n ∧
      (∀ k (h : k < indices.length), p.fn indices[k] = k) ∧
      ∀ i, i < n → i ∉ indices →
        p.fn i = indices.length + ((List.range i).filter (fun k => !indices.contains k)).length := by
  obtain ⟨p, h1, h2, h3, h4, h5⟩ := permForIndices_listed n indices hnd hb
  refine ⟨p, h1, h2, h3, h5, ?_⟩
  · intro i hi hni
    obtain ⟨tail, ht⟩ := filter_range_split n i (fun k => !indices.contains k) hi (by simpa using hni)
    generalize hvec : indices ++ (List.range n).filter (fun i => !indices.contains i) = vec at h4
    generalize hpre : (List.range i).filter (fun k => !indices.contains k) = pre at ht
    have hget : vec[indices.length + pre.length]? = some i := by
      rw [← hvec, ht, List.getElem?_append_right (by omega), Nat.add_sub_cancel_left,
        List.getElem?_append_right (by omega), Nat.sub_self]
      rfl
    obtain ⟨hlt, e⟩ := List.getElem?_eq_some_iff.mp hget
    have := h4 _ hlt
    rw [e] at this
    exact this

/-- consequence: on the unlisted indices the permutation is strictly increasing and lands behind all listed ones -/
theorem perm_for_indices_unlisted_increasing (n : Nat) (indices : List Nat) (hnd : indices.Nodup)
    (hb : ∀ i ∈ indices, i < n) (p : Perm) (hp : permForIndices n indices = ok p) :
    (∀ i, i < n → i ∉ indices → indices.length ≤ p.fn i) ∧
      ∀ i j, i < j → j < n → i ∉ indices → j ∉ indices → p.fn i < p.fn j := by
  obtain ⟨p', hp', _, _, _, h5⟩ := perm_for_indices_positions n indices hnd hb
  rw [hp] at hp'; cases hp'
  refine ⟨fun i hi hni => by rw [h5 i hi hni]; exact Nat.le_add_right _ _, ?_⟩
  intro i j hij hj hni hnj
  rw [h5 i (Nat.lt_trans hij hj) hni, h5 j hj hnj]
  exact Nat.add_lt_add_left (filter_range_length_lt i j (fun k => !indices.contains k) hij (by simpa using hni)) _

/-- `extract((n, m), |i, j| Some((j, i)))` is the transpose -/
theorem extract_swap_is_transpose (A : SpMat R) (hA : A.WF) :
    ∃ B, A.extract A.ncols A.nrows (fun i j => ok (some (j, i))) = ok B ∧ B.nrows = A.ncols ∧
      B.ncols = A.nrows ∧ B.WF ∧ ∀ i j, B.entry i j = A.entry j i := by
  obtain ⟨B, h1, h2, h3, h4, h5⟩ := extract_spec A A.ncols A.nrows (fun i j => ok (some (j, i)))
    (fun i j => some (j, i)) (fun t ht => rfl)
    (fun t ht x hx => by cases hx; have := hA.trip_bound ht; exact ⟨this.2, this.1⟩)
  refine ⟨B, h1, h2, h3, h4, ?_⟩
  intro i j
  by_cases hij : i < A.ncols ∧ j < A.nrows
  · rw [h5 i j hij.1 hij.2, ← entryT_triplets]
    apply filter_sum_eq_entryT
    intro t ht
    rw [Option.some.injEq, Prod.mk.injEq]
    exact And.comm
  · rw [h4.entry_oob i j (by rw [h2, h3]; exact hij), hA.entry_oob j i (fun h => hij ⟨h.2, h.1⟩)]

/-- `extract(((m+1)/2, n), |i, j| if i % 2 == 0 { Some((i/2, j)) } else { None })` keeps the even rows -/
theorem extract_even_rows_entries (A : SpMat R) (hA : A.WF) :
    ∃ B, A.extract ((A.nrows + 1) / 2) A.ncols (fun i j => ok (if i % 2 = 0 then some (i / 2, j) else none)) = ok B ∧
      B.nrows = (A.nrows + 1) / 2 ∧ B.ncols = A.ncols ∧ B.WF ∧ ∀ i j, B.entry i j = A.entry (2 * i) j := by
  obtain ⟨B, h1, h2, h3, h4, h5⟩ := extract_spec A ((A.nrows + 1) / 2) A.ncols
    (fun i j => ok (if i % 2 = 0 then some (i / 2, j) else none))
    (fun i j => if i % 2 = 0 then some (i / 2, j) else none) (fun t ht => rfl)
    (fun t ht x hx => by
      split at hx
      · cases hx; exact ⟨half_lt (hA.trip_bound ht).1, (hA.trip_bound ht).2⟩
      · cases hx)
  refine ⟨B, h1, h2, h3, h4, ?_⟩
  intro i j
  by_cases hij : i < (A.nrows + 1) / 2 ∧ j < A.ncols
  · rw [h5 i j hij.1 hij.2, ← entryT_triplets]
    apply filter_sum_eq_entryT
    intro t _
    rw [← evenReloc_iff]
    split
    · simp only [Option.some.injEq, Prod.mk.injEq]
    · simp only [reduceCtorEq, false_and]
  · rw [h4.entry_oob i j (by rw [h2, h3]; exact hij), hA.entry_oob (2 * i) j (by omega)]

/-- folding closure `(i, j) ↦ (i % m', j % n')` with positive `m'`, `n'`: entry `(i', j')` is the sum of all entries
of `A` at positions congruent to `(i', j')` (several stored values land on one position and are summed) -/
theorem extract_fold_entries (A : SpMat R) (hA : A.WF) (m' n' : Nat) (hm : 0 < m') (hn : 0 < n') :
    ∃ B, A.extract m' n' (fun i j => if m' = 0 ∨ n' = 0 then panic else ok (some (i % m', j % n'))) = ok B ∧
      B.nrows = m' ∧ B.ncols = n' ∧ B.WF ∧ ∀ i' j', i' < m' → j' < n' →
        B.entry i' j' = ∑ i ∈ Finset.range A.nrows, ∑ j ∈ Finset.range A.ncols,
          if i % m' = i' ∧ j % n' = j' then A.entry i j else 0 := by
  obtain ⟨B, h1, h2, h3, h4, h5⟩ := extract_fold_spec A m' n' hm hn
  refine ⟨B, h1, h2, h3, h4, ?_⟩
  intro i' j' hi hj
  rw [h5 i' j' hi hj, filter_sum_eq_double A.triplets A.nrows A.ncols (fun i j => i % m' = i' ∧ j % n' = j')
    (fun t ht => hA.trip_bound ht)]
  simp only [entryT_triplets]

/-- a closure that panics (remainder by zero) is called once per stored triplet: with an empty target dimension
`extract` panics iff something is stored; on an empty pattern the closure never runs -/
theorem extract_fold_rejects (A : SpMat R) (m' n' : Nat) (h0 : m' = 0 ∨ n' = 0) :
    (A.triplets ≠ [] →
      A.extract m' n' (fun i j => if m' = 0 ∨ n' = 0 then panic else ok (some (i % m', j % n'))) = panic) ∧
    (A.triplets = [] →
      A.extract m' n' (fun i j => if m' = 0 ∨ n' = 0 then panic else ok (some (i % m', j % n')))
        = ok (cooToCsc m' n' [])) :=
  ⟨extract_fold_panic A m' n' h0, extract_fold_empty A m' n'⟩

/-- `SpVec::extract((d+1)/2, |i| if i % 2 == 0 { Some(i/2) } else { None })` keeps the even indices -/
theorem spvec_extract_even_entries (v : SpVec R) (hv : v.WF) :
    ∃ w, v.extract ((v.dim + 1) / 2) (fun i => ok (if i % 2 = 0 then some (i / 2) else none)) = ok w ∧
      w.dim = (v.dim + 1) / 2 ∧ w.WF ∧ ∀ i, w.entry i = v.entry (2 * i) := by
  obtain ⟨w, h1, h2, h3, h4⟩ := vextract_spec v ((v.dim + 1) / 2)
    (fun i => ok (if i % 2 = 0 then some (i / 2) else none)) (fun i => if i % 2 = 0 then some (i / 2) else none)
    (fun p hp => rfl)
    (fun p hp x hx => by
      split at hx
      · cases hx; exact half_lt (hv.bound p hp)
      · cases hx)
  refine ⟨w, h1, h2, h3, ?_⟩
  intro i
  by_cases hi : i < (v.dim + 1) / 2
  · rw [h4 i hi]
    exact filter_sum_eq_sumAt _ _ _ (fun p _ => evenReloc_iff p.1 i)
  · rw [h3.entry_oob i (by rw [h2]; exact hi), hv.entry_oob (2 * i) (by omega)]

/-- folding closure `i ↦ i % d'` with positive `d'` -/
theorem spvec_extract_fold_entries (v : SpVec R) (hv : v.WF) (d' : Nat) (hd : 0 < d') :
    ∃ w, v.extract d' (fun i => if d' = 0 then panic else ok (some (i % d'))) = ok w ∧
      w.dim = d' ∧ w.WF ∧ ∀ i', i' < d' →
        w.entry i' = ∑ i ∈ Finset.range v.dim, if i % d' = i' then v.entry i else 0 := by
  obtain ⟨w, h1, h2, h3, h4⟩ := vextract_fold_spec v d' hd
  refine ⟨w, h1, h2, h3, ?_⟩
  intro i' hi
  rw [h4 i' hi, vfilter_sum_eq_sum v.ents v.dim (fun i => i % d' = i') hv.bound]
  rfl

/-- with `d' = 0` the closure panics on the first stored entry -/
theorem spvec_extract_fold_rejects (v : SpVec R) (d' : Nat) (h0 : d' = 0) (hne : v.ents ≠ []) :
    v.extract d' (fun i => if d' = 0 then panic else ok (some (i % d'))) = panic := by
  subst h0; exact vextract_fold_panic v hne

/-! ### the hypotheses are satisfiable, and the statements bite: small concrete values -/

/-- a vector with an explicitly stored zero at index 1: `[3, 0*, 0, -2]` -/
def exV : SpVec Int := ⟨4, [(0, 3), (1, 0), (3, -2)]⟩
/-- `[-3, 0, 5, 2*]` -/
def exW : SpVec Int := ⟨4, [(0, -3), (2, 5), (3, 2)]⟩
/-- a 2 × 3 matrix holding nothing but stored zeros -/
def exZ : SpMat Int := ⟨2, 3, [[(0, 0), (1, 0)], [], [(1, 0)]]⟩
/-- ill-formed data (row 0 stored twice): all entries are zero but a stored value is not -/
def exBad : SpMat Int := ⟨1, 1, [[(0, 1), (0, -1)]]⟩

example : exV.WF ∧ exW.WF ∧ exV.dim = exW.dim := ⟨⟨rfl, by decide, by decide⟩, ⟨rfl, by decide, by decide⟩, rfl⟩
example : exZ.WF ∧ exZ.isZero = true := ⟨⟨rfl, by decide, by decide⟩, by decide⟩
example : exBad.isZero = false ∧ exBad.entry 0 0 = 0 := by decide
example : exV.isZero = false ∧ (⟨3, [(1, 0)]⟩ : SpVec Int).isZero = true := by decide
example : ∃ u, exV.add exW = ok u ∧ u.entry 0 = 0 ∧ u.entry 2 = 5 ∧ u.entry 3 = 0 ∧ u.isZero = false :=
  ⟨_, rfl, by decide, by decide, by decide, by decide⟩

example : ∃ u, exV.sub exW = ok u ∧ u.entry 0 = 6 ∧ u.entry 3 = -4 := ⟨_, rfl, by decide, by decide⟩
example : exV.neg.entry 3 = 2 ∧ exV.neg.entry 1 = 0 := by decide
example : exV.add (⟨3, []⟩ : SpVec Int) = panic ∧ exV.sub (⟨5, []⟩ : SpVec Int) = panic := ⟨rfl, rfl⟩
example : (SpVec.unit 3 2 : Res (SpVec Int)) = ok ⟨3, [(2, 1)]⟩ ∧ (SpVec.unit 3 3 : Res (SpVec Int)) = panic ∧
    (SpVec.unit 0 0 : Res (SpVec Int)) = panic := ⟨rfl, rfl, rfl⟩

example : ∃ A, DMat.diag 2 3 [(5 : Int), 7] = ok A ∧ A.get 1 1 = 7 ∧ A.get 0 1 = 0 ∧ A.isDiag = true ∧
    A.isId = false ∧ A.isZero = false := ⟨_, rfl, by decide, by decide, by decide, by decide, by decide⟩

example : DMat.diag 2 3 [(1 : Int), 1, 1] = panic ∧ DMat.diag 3 2 [(1 : Int), 1, 1] = panic := ⟨rfl, rfl⟩
example : ∃ A, DMat.diag 2 2 [(1 : Int), 1] = ok A ∧ A.isId = true := ⟨_, rfl, by decide⟩
example : ∃ A, DMat.diag 2 3 [(1 : Int), 1] = ok A ∧ A.isId = false ∧ A.isDiag = true := ⟨_, rfl, by decide, by decide⟩
example : ∃ A, DMat.diag 0 3 ([] : List Int) = ok A ∧ A.isZero = true ∧ A.isDiag = true ∧ A.isId = false :=
  ⟨_, rfl, by decide, by decide, by decide⟩

example : ([1, 3, 1].Nodup = False) ∧ ∀ i ∈ [1, 3, 1], i < 4 := by decide
example : permForIndices 4 [1, 3, 1] = panic ∧ permForIndices 4 [1, 4] = panic ∧ permForIndices 0 [0] = panic := by
  decide

example : permForIndices 5 [3, 1] = ok ⟨5, some [2, 1, 3, 0, 4]⟩ := by decide
example : (3 ∉ [3, 1] → False) ∧ 2 ∉ [3, 1] ∧ 4 ∉ [3, 1] ∧ (2 : Nat) < 4 := by decide

example : ∃ B, (⟨2, 3, [[(0, 1)], [(0, 0)], [(1, -1)]]⟩ : SpMat Int).extract 3 2 (fun i j => ok (some (j, i))) = ok B ∧
    B.entry 2 1 = -1 ∧ B.entry 0 0 = 1 := ⟨_, rfl, by decide, by decide⟩

example : ∃ B, (⟨3, 2, [[(0, 1), (1, 2), (2, 3)], [(2, 4)]]⟩ : SpMat Int).extract 2 1
      (fun i j => if 2 = 0 ∨ 1 = 0 then panic else ok (some (i % 2, j % 1))) = ok B ∧
    B.entry 0 0 = 8 ∧ B.entry 1 0 = 2 := ⟨_, rfl, by decide, by decide⟩

example : (⟨3, 2, [[(0, 1)], []]⟩ : SpMat Int).extract 0 1
      (fun i j => if 0 = 0 ∨ 1 = 0 then panic else ok (some (i % 0, j % 1))) = panic := rfl

example : ∃ w, exV.extract 2 (fun i => ok (if i % 2 = 0 then some (i / 2) else none)) = ok w ∧
    w.entry 0 = 3 ∧ w.entry 1 = 0 := ⟨_, rfl, by decide, by decide⟩

example : ∃ w, exV.extract 3 (fun i => if 3 = 0 then panic else ok (some (i % 3))) = ok w ∧ w.entry 0 = 1 :=
  ⟨_, rfl, by decide⟩

end Yuiv.C13
