import Yuiv.Proofs.C05
/-
C05 — every Khovanov complex returned is a graded chain complex, over any ring.

What is proved here is the algebraic kernel every matrix entry of the returned differential is produced by:
`CobComp::part_eval` / `CobComp::eval` (model `partEval` / `evalClosed`, compared line by line with the Rust
code by the correspondence run) are sound in the Frobenius algebra `A = R[X]/(X² − hX − t)` for EVERY
commutative ring `R` whose `Coef` operations are the ring operations (`LawfulCoef`; `Int` is an instance) and
every `h, t`, and they are homogeneous for `deg h = −2`, `deg t = −4`, one dot `= −2`, one handle `= −2`.
`matMulZero_sound` is a Lean-verified CHECKER that the driver applies to the integer matrices exported from
the real `KhComplex` (`d_{i+1}·d_i = 0`).
NOT proved (explored by the correspondence run only): that delooping + Gaussian elimination + planar
composition keep `d² = 0` / the gradings for every diagram, and that specialisation commutes with homology.
-/
namespace Yuiv.C05
open Yuiv

/-- open component: the output combination `Σ rₖ · X^{xₖ} Y^{yₖ}` equals `X^x · Y^y · (X+Y)^g` in `A`
(neck cutting replaces a handle by `X + Y`), and every output term is the same component with genus 0
and at most one dot (never the empty cobordism). -/
theorem partEval_sound {R : Type} [CommRing R] [Coef R] [LawfulCoef R] (h t : R) (g x y : Nat) :
    sem (muA h t) (partEval h t false g x y) = Xd h t ^ x * Yd h t ^ y * (Xd h t + Yd h t) ^ g
    ∧ ∀ p ∈ partEval h t false g x y, ∃ x' y', p.1 = Key.comp x' y' ∧ x' + y' ≤ 1 := by
  refine ⟨partEval_open_sem h t g x y, fun p hp => ?_⟩
  have := partEval_open_keys h t g x y p hp
  cases hk : p.1 with
  | empty => rw [hk] at this; exact this.elim
  | comp x' y' => rw [hk] at this; exact ⟨x', y', rfl, this⟩

/-- the instance that is run against `i64` / `BigInt` -/
theorem partEval_sound_int (h t : Int) (g x y : Nat) :
    sem (muA h t) (partEval h t false g x y) = Xd h t ^ x * Yd h t ^ y * (Xd h t + Yd h t) ^ g :=
  (partEval_sound h t g x y).1

/-- closed component: the result is `0` or a single multiple of the empty cobordism, and that scalar is
`ε(X^x · Y^y · (X+Y)^g)`. -/
theorem partEval_sound_closed {R : Type} [CommRing R] [Coef R] [LawfulCoef R] (h t : R) (g x y : Nat) :
    (partEval h t true g x y = [] ∨ ∃ r, partEval h t true g x y = [(Key.empty, r)])
    ∧ sem (S := R) muC (partEval h t true g x y) = counit (Xd h t ^ x * Yd h t ^ y * (Xd h t + Yd h t) ^ g) :=
  ⟨partEval_closed_scalar h t g x y, partEval_closed_sem h t g x y⟩

/-- the relations used: `X² = hX + t`, `XY = t`, `Y² = −hY + t`, `Y = X − h` -/
theorem relations {R : Type} [CommRing R] (h t : R) :
    Xd h t * Xd h t = Cc h t h * Xd h t + Cc h t t ∧ Xd h t * Yd h t = Cc h t t
    ∧ Yd h t * Yd h t = Cc h t (-h) * Yd h t + Cc h t t ∧ Yd h t = Xd h t - Cc h t h :=
  ⟨XX h t, XY h t, YY h t, Yd_eq h t⟩

/-- `CobComp::eval` never trips its assertions on a closed component and returns
`ε(X^x Y^y (X+Y)^g)` where `ε(1) = 0`, `ε(X) = 1`. -/
theorem evalClosed_spec {R : Type} [CommRing R] [Coef R] [LawfulCoef R] (h t : R) (g x y : Nat) :
    evalClosed h t true g x y = .ok (counit (Xd h t ^ x * Yd h t ^ y * (Xd h t + Yd h t) ^ g)) := by
  have hs := partEval_closed_sem h t g x y
  unfold evalClosed counit
  rcases partEval_closed_scalar h t g x y with h0 | ⟨r, h1⟩
  · rw [h0] at hs ⊢
    simp only [sem_nil] at hs
    simp [← hs, LawfulCoef.zero_eq]
  · rw [h1] at hs ⊢
    simp [muC] at hs
    simp [← hs]

theorem counit_spec {R : Type} [CommRing R] (h t : R) :
    counit (1 : A h t) = 0 ∧ counit (Xd h t) = 1 ∧ counit (Yd h t) = 1 :=
  ⟨rfl, rfl, rfl⟩

/-- `assert!(self.is_closed())` -/
theorem evalClosed_open_panics {R : Type} [Coef R] (h t : R) (g x y : Nat) :
    evalClosed h t false g x y = .panic := rfl

/-- `is_zero_cob` (closed, even genus, equally many X- and Y-dots) only answers `true` on components whose
value is 0 — the code drops such terms without evaluating them. -/
theorem is_zero_cob_sound {R : Type} [CommRing R] [Coef R] [LawfulCoef R] (h t : R) (closed : Bool) (g x y : Nat)
    (hz : isZeroCob closed g x y = true) : evalClosed h t closed g x y = .ok 0 := by
  simp only [isZeroCob, Bool.and_eq_true, beq_iff_eq] at hz
  obtain ⟨⟨hc, hg⟩, hxy⟩ := hz
  subst hc; subst hxy
  obtain ⟨k, rfl⟩ : ∃ k, g = 2 * k := ⟨g / 2, by omega⟩
  rw [evalClosed_spec, zero_cob_value]

example : isZeroCob true 2 3 3 = true := by decide

/-- `is_unit_cob` (a sphere with exactly one dot) only answers `true` on components of value 1 — the code
removes such components from a cobordism. -/
theorem is_unit_cob_sound {R : Type} [CommRing R] [Coef R] [LawfulCoef R] (h t : R) (closed : Bool) (g x y : Nat)
    (hu : isUnitCob closed g x y = true) : evalClosed h t closed g x y = .ok 1 := by
  simp only [isUnitCob, Bool.and_eq_true, Bool.or_eq_true, beq_iff_eq] at hu
  obtain ⟨⟨hc, hg⟩, hxy⟩ := hu
  subst hc; subst hg
  rw [evalClosed_spec]
  rcases hxy with ⟨rfl, rfl⟩ | ⟨rfl, rfl⟩ <;> simp [counit, Xd, Yd]

example : isUnitCob true 0 0 1 = true := by decide

/-- one more dot or one more handle lowers the degree by 2 (`deg = χ − #endpts/2 − 2·#dots`, `χ = 2 − 2g − #∂`) -/
theorem deg_step (nbdr endpts g x y : Nat) :
    deg nbdr endpts g (x + 1) y = deg nbdr endpts g x y - 2 ∧ deg nbdr endpts g x (y + 1) = deg nbdr endpts g x y - 2
    ∧ deg nbdr endpts (g + 1) x y = deg nbdr endpts g x y - 2 := by
  simp only [deg, eulerNum]; push_cast; refine ⟨?_, ?_, ?_⟩ <;> ring

/-- With polynomial parameters `h = H`, `t = T` (`deg H = −2`, `deg T = −4`): for every component (any
boundary data `nbdr`, `endpts`; a closed component has none), all `g, x, y`, every output term `(k, p)` of
`part_eval` and every monomial `H^a T^b` of its coefficient `p`:
`deg(term k) + deg(H^a T^b) = deg(input component)`. -/
theorem partEval_homogeneous (closed : Bool) (nbdr endpts g x y : Nat)
    (hc : closed = true → nbdr = 0 ∧ endpts = 0) :
    ∀ p ∈ partEval HT.H HT.T closed g x y, ∀ q ∈ p.2,
      Key.deg nbdr endpts p.1 + monoDeg q.1 = deg nbdr endpts g x y := by
  intro p hp q hq
  rw [monoDeg_eq]
  refine deg_of_dots _ _ _ _ _ _ p.1 (fun hk => ?_) (partEval_HT_homog closed g x y p hp q hq)
  cases closed with
  | false =>
    have := partEval_open_keys HT.H HT.T g x y p hp
    rw [hk] at this
    exact this.elim
  | true => exact hc rfl

/-- the hypothesis is satisfiable with a non-trivial output: a closed genus-3 surface evaluates to `2H² + 8T` -/
example : partEval HT.H HT.T true 3 0 0 = [(Key.empty, [((2, 0), 2), ((0, 1), 8)])] := by
  simp [partEval]; decide

/-- if the checker accepts two integer matrices of fitting shapes, every entry of the product is zero
(`mulEntry A B i j = Σ_{k < rows B} A[i][k] · B[k][j]`).  The driver applies it to `d_{i+1}`, `d_i`
exported from the real `KhComplex::d_matrix`. -/
theorem matMulZero_sound (A B : List (List Int)) (n : Nat) (hz : matMulZero A B n = true)
    (hs : shapeOk A B n = true) : ∀ i < A.length, ∀ j < n, mulEntry A B i j = 0 :=
  fun i hi j hj => matMulZero_entry A B n hz hs i j hi hj

example : matMulZero [[1, 1]] [[1, -2], [-1, 2]] 2 = true ∧ shapeOk [[1, 1]] [[1, -2], [-1, 2]] 2 = true := by decide +kernel

end Yuiv.C05
