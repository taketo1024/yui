import Yuiv.Proofs.C12DecompLayout

/-
C12 — the code model `dirSumDecomp` (decomp.rs `dir_sum_decomp`) on a CSC matrix with sorted columns never panics;
its output passes `checkDecomp`, and `connectedBlk` when no zero is stored (`dirSumDecomp_cases` gives the two
branches, `Setup` the situation of the second).
-/
namespace Yuiv.C12
open Yuiv Relation UF

section decompby
variable {α : Type} [Scal α]

/-- the stored entries as triplets `(row, column, value)`, in the order `decomp_by` walks them -/
def trips (A : SpMat α) : List (Nat × Nat × α) :=
  (List.range A.ncols).flatMap fun j => (col A j).map fun e => (e.1, j, e.2)

/-- the closure of `decomp_by` that places a triplet `(block, row in block, column in block, value)`, its panics totalised
with `getD 0`; it is what the model computes under `Setup` (`Setup.placeF_eq`) -/
def placeF (rows : List (List Nat)) (ro co p q : Array Nat) (t : Nat × Nat × α) : Nat × Nat × Nat × α :=
  ((findGroup rows t.1).getD 0, p.getD t.1 0 - ro.getD ((findGroup rows t.1).getD 0) 0,
    q.getD t.2.1 0 - co.getD ((findGroup rows t.1).getD 0) 0, t.2.2)

/-- block `k` as `decomp_by` assembles it from the placed triplets `pl` and the offset arrays -/
def blockOf (pl : List (Nat × Nat × Nat × α)) (ro co : Array Nat) (k : Nat) : SpMat α :=
  ⟨ro.getD (k + 1) 0 - ro.getD k 0, co.getD (k + 1) 0 - co.getD k 0,
    ((List.range (co.getD (k + 1) 0 - co.getD k 0)).map fun j' =>
      (List.range (ro.getD (k + 1) 0 - ro.getD k 0)).filterMap fun i' =>
        if (pl.filter fun t => t.1 == k && t.2.1 == i' && t.2.2.1 == j' && !isZero t.2.2.2).isEmpty then none
        else some (i', lsum ((pl.filter fun t => t.1 == k && t.2.1 == i' && t.2.2.1 == j' && !isZero t.2.2.2).map
          fun t => t.2.2.2))).toArray⟩

theorem decompBy_eq (A : SpMat α) (rows cols : List (List Nat)) (p q : Array Nat) (hlen : rows.length = cols.length)
    (H : ∀ x ∈ trips A, ∃ k t s, findGroup rows x.1 = some k ∧
      p.getD x.1 0 = (offsets rows).toArray.getD k 0 + t ∧ q.getD x.2.1 0 = (offsets cols).toArray.getD k 0 + s ∧
      t < (offsets rows).toArray.getD (k + 1) 0 - (offsets rows).toArray.getD k 0 ∧
      s < (offsets cols).toArray.getD (k + 1) 0 - (offsets cols).toArray.getD k 0) :
    decompBy A rows cols p q = .ok ((List.range rows.length).map
      (blockOf ((trips A).map (placeF rows (offsets rows).toArray (offsets cols).toArray p q))
        (offsets rows).toArray (offsets cols).toArray)) := by
  unfold decompBy
  rw [if_neg (by rw [hlen]; exact fun h => absurd rfl (bne_iff_ne.1 h))]
  simp only
  rw [mapMRes_ok (g := placeF rows (offsets rows).toArray (offsets cols).toArray p q)]
  · rfl
  · intro x hx
    obtain ⟨k, t, s, h1, h2, h3, h4, h5⟩ := H x hx
    simp only [h1, placeF, Option.getD_some, h2, h3, Nat.add_sub_cancel_left]
    rw [if_neg (by simp only [Bool.or_eq_true, decide_eq_true_eq, not_or, Nat.not_lt]
                   exact ⟨Nat.le_add_right _ _, Nat.le_add_right _ _⟩)]
    by_cases hz : isZero x.2.2 = true
    · rw [if_pos hz]
    · rw [if_neg hz, if_neg (by simp only [Bool.or_eq_true, decide_eq_true_eq, not_or, Nat.not_le]; exact ⟨h4, h5⟩)]

end decompby

section blocks
variable {α : Type} [Scal α]

/-- the placed non-zero triplets of block `k` at `(i', j')` -/
def selK (k i' j' : Nat) (t : Nat × Nat × Nat × α) : Bool :=
  t.1 == k && t.2.1 == i' && t.2.2.1 == j' && !isZero t.2.2.2

theorem blockOf_col (pl : List (Nat × Nat × Nat × α)) (ro co : Array Nat) (k s : Nat)
    (hs : s < co.getD (k + 1) 0 - co.getD k 0) :
    col (blockOf pl ro co k) s = (List.range (ro.getD (k + 1) 0 - ro.getD k 0)).filterMap fun i' =>
      if (pl.filter (selK k i' s)).isEmpty then none
      else some (i', lsum ((pl.filter (selK k i' s)).map fun t => t.2.2.2)) := by
  exact col_mk _ _ _ s hs

theorem blockOf_rows (pl : List (Nat × Nat × Nat × α)) (ro co : Array Nat) (k s : Nat)
    (hs : s < co.getD (k + 1) 0 - co.getD k 0) (e : Nat × α) (he : e ∈ col (blockOf pl ro co k) s) :
    e.1 < ro.getD (k + 1) 0 - ro.getD k 0 := by
  rw [blockOf_col pl ro co k s hs] at he
  obtain ⟨i', hi', h⟩ := List.mem_filterMap.1 he
  split at h
  · cases h
  · cases h; exact List.mem_range.1 hi'

theorem blockOf_mem (pl : List (Nat × Nat × Nat × α)) (ro co : Array Nat) (k t s : Nat)
    (ht : t < ro.getD (k + 1) 0 - ro.getD k 0) (hs : s < co.getD (k + 1) 0 - co.getD k 0)
    (hne : pl.filter (selK k t s) ≠ []) :
    (t, lsum ((pl.filter (selK k t s)).map fun x => x.2.2.2)) ∈ col (blockOf pl ro co k) s := by
  rw [blockOf_col pl ro co k s hs]
  refine List.mem_filterMap.2 ⟨t, List.mem_range.2 ht, ?_⟩
  rw [if_neg (by rwa [List.isEmpty_iff])]

end blocks

section blocksR
variable {R : Type} [CommRing R] [Scal R] [LawfulScal R]
open LawfulScal

theorem colSum_filterMap_range (G : Nat → Option (Nat × R)) (hG : ∀ i e, G i = some e → e.1 = i) (h t : Nat) :
    colSum ((List.range h).filterMap G) t = if t < h then ((G t).map (·.2)).getD 0 else 0 := by
  have hone : ∀ i, colSum (G i).toList t = if i = t then ((G i).map (·.2)).getD 0 else 0 := by
    intro i
    cases hg : G i with
    | none => rw [Option.toList_none, colSum_nil, Option.map_none, Option.getD_none, ite_self]
    | some e => rw [Option.toList_some, colSum_cons, colSum_nil, add_zero, hG i e hg]; rfl
  rw [List.filterMap_eq_flatMap_toList, colSum_flatMap, sum_range_single _ h t fun j hj => by rw [hone, if_neg hj], hone,
    if_pos rfl]

theorem entry_blockOf (pl : List (Nat × Nat × Nat × R)) (ro co : Array Nat) (k t s : Nat)
    (ht : t < ro.getD (k + 1) 0 - ro.getD k 0) (hs : s < co.getD (k + 1) 0 - co.getD k 0) :
    entry (blockOf pl ro co k) t s = ((pl.filter (selK k t s)).map fun x => x.2.2.2).sum := by
  unfold entry
  rw [blockOf_col pl ro co k s hs, colSum_filterMap_range _ _ _ t, if_pos ht]
  · split
    · rename_i h0
      rw [List.isEmpty_iff.1 h0]; simp
    · simp [lsum_eq]
  · intro i e h
    split at h
    · cases h
    · cases h; rfl

theorem sum_filter_nz {β : Type} (l : List β) (C : β → Bool) (val : β → R) :
    ((l.filter fun x => C x && !isZero (val x)).map val).sum = ((l.filter C).map val).sum := by
  induction l with
  | nil => rfl
  | cons x l ih =>
    by_cases hc : C x = true
    · by_cases hz : isZero (val x) = true
      · rw [List.filter_cons_of_neg (by simp [hz]), List.filter_cons_of_pos hc, ih, List.map_cons, List.sum_cons,
          (isZero_iff _).1 hz, zero_add]
      · rw [List.filter_cons_of_pos (by simpa [hc] using hz), List.filter_cons_of_pos hc, List.map_cons, List.map_cons,
          List.sum_cons, List.sum_cons, ih]
    · rw [List.filter_cons_of_neg (by simp [hc]), List.filter_cons_of_neg hc, ih]

omit [CommRing R] [Scal R] [LawfulScal R] in
theorem trips_filter (A : SpMat R) (i j : Nat) (hj : j < A.ncols) :
    (trips A).filter (fun x => x.1 == i && x.2.1 == j) =
      ((col A j).filter fun e => e.1 == i).map fun e => (e.1, j, e.2) := by
  unfold trips
  rw [List.filter_flatMap, flatMap_range_single _ A.ncols j, if_pos hj, List.filter_map]
  · refine congrArg _ (List.filter_congr fun e _ => ?_)
    simp only [Function.comp, beq_self_eq_true, Bool.and_true]
  · intro j' hj'
    rw [List.filter_map, List.map_eq_nil_iff, List.filter_eq_nil_iff]
    intro e _
    simp only [Function.comp, (beq_eq_false_iff_ne).2 hj', Bool.and_false, Bool.false_eq_true, not_false_eq_true]

theorem trips_sum (A : SpMat R) (i j : Nat) (hj : j < A.ncols) :
    (((trips A).filter fun x => x.1 == i && x.2.1 == j).map (·.2.2)).sum = entry A i j := by
  rw [trips_filter A i j hj, List.map_map, entry, colSum, lsum_eq]
  rfl

end blocksR

section setup
variable {R : Type} [Scal R]

/-- the situation of the second branch of `dir_sum_decomp` -/
structure Setup (A : SpMat R) (cols : List (List Nat)) (p q : Array Nat) : Prop where
  wf : WFC A
  grp : Grouping A cols
  pl : PermLayout (cols.map (rowsIn A)) A.nrows p
  ql : PermLayout cols A.ncols q

/-- the offset arrays, placed triplets and blocks of the second branch, as functions of the grouping `cols` -/
def roA (A : SpMat R) (cols : List (List Nat)) : Array Nat := (offsets (cols.map (rowsIn A))).toArray
def coA (cols : List (List Nat)) : Array Nat := (offsets cols).toArray
def plOf (A : SpMat R) (cols : List (List Nat)) (p q : Array Nat) : List (Nat × Nat × Nat × R) :=
  (trips A).map (placeF (cols.map (rowsIn A)) (roA A cols) (coA cols) p q)
def blocksOf (A : SpMat R) (cols : List (List Nat)) (p q : Array Nat) : List (SpMat R) :=
  (List.range (cols.map (rowsIn A)).length).map (blockOf (plOf A cols p q) (roA A cols) (coA cols))

/-- row `i` is the `t`-th row and column `j` the `s`-th column of group `k` -/
def Pos (A : SpMat R) (cols : List (List Nat)) (k t s i j : Nat) : Prop :=
  ∃ g, cols[k]? = some g ∧ g[s]? = some j ∧ (rowsIn A g)[t]? = some i

variable {A : SpMat R} {cols : List (List Nat)} {p q : Array Nat}

omit [Scal R] in
theorem grp_offsets (g : List Nat) (k : Nat) (hk : cols[k]? = some g) :
    (roA A cols).getD k 0 = offAt (cols.map (rowsIn A)) k ∧
    (roA A cols).getD (k + 1) 0 = offAt (cols.map (rowsIn A)) k + (rowsIn A g).length ∧
    (coA cols).getD k 0 = offAt cols k ∧ (coA cols).getD (k + 1) 0 = offAt cols k + g.length := by
  obtain ⟨hk', rfl⟩ := List.getElem?_eq_some_iff.1 hk
  have hk2 : k < (cols.map (rowsIn A)).length := by rw [List.length_map]; exact hk'
  unfold roA coA
  rw [offsets_getD _ k (Nat.le_of_lt hk2), offsets_getD _ (k + 1) hk2, offsets_getD _ k (Nat.le_of_lt hk'),
    offsets_getD _ (k + 1) hk', offAt_succ _ k hk2, offAt_succ _ k hk', List.getElem_map]
  exact ⟨rfl, rfl, rfl, rfl⟩

omit [Scal R] in
theorem Setup.pos_facts (S : Setup A cols p q) {k t s i j : Nat} (h : Pos A cols k t s i j) :
    findGroup (cols.map (rowsIn A)) i = some k ∧
    p.getD i 0 = (roA A cols).getD k 0 + t ∧ q.getD j 0 = (coA cols).getD k 0 + s ∧
    t < (roA A cols).getD (k + 1) 0 - (roA A cols).getD k 0 ∧
    s < (coA cols).getD (k + 1) 0 - (coA cols).getD k 0 ∧ i < A.nrows ∧ j < A.ncols := by
  obtain ⟨g, hk, hs, ht⟩ := h
  obtain ⟨o1, o2, o3, o4⟩ := grp_offsets (A := A) g k hk
  have hrk : (cols.map (rowsIn A))[k]? = some (rowsIn A g) := by rw [List.getElem?_map, hk]; rfl
  have hi : i ∈ rowsIn A g := List.mem_of_getElem? ht
  have hj : j ∈ g := List.mem_of_getElem? hs
  have hg : g ∈ cols := List.mem_of_getElem? hk
  refine ⟨findGroup_eq _ (rows_nodup A cols S.grp) k _ hrk i hi, ?_, ?_, ?_, ?_, ((mem_rowsIn A g i).1 hi).1,
    S.grp.lt g hg j hj⟩
  · rw [o1]; exact S.pl.pos k _ t i hrk ht
  · rw [o3]; exact S.ql.pos k g s j hk hs
  · rw [o2, o1, Nat.add_sub_cancel_left]; exact (List.getElem?_eq_some_iff.1 ht).1
  · rw [o4, o3, Nat.add_sub_cancel_left]; exact (List.getElem?_eq_some_iff.1 hs).1

omit [Scal R] in
theorem Setup.stored_pos (S : Setup A cols p q) (j : Nat) (hj : j < A.ncols) (e : Nat × R) (he : e ∈ col A j) :
    ∃ k t s, Pos A cols k t s e.1 j := by
  obtain ⟨g, hg, hjg⟩ := S.grp.cover j hj (by intro h; rw [h] at he; cases he)
  obtain ⟨k, hk⟩ := List.getElem?_of_mem hg
  obtain ⟨s, hs⟩ := List.getElem?_of_mem hjg
  have hi : e.1 ∈ rowsIn A g :=
    (mem_rowsIn A g e.1).2 ⟨S.wf.rows j e he, j, hjg, (mem_rowIdx A j e.1).2 ⟨e.2, he⟩⟩
  obtain ⟨t, ht⟩ := List.getElem?_of_mem hi
  exact ⟨k, t, s, g, hk, hs, ht⟩

omit [Scal R] in
theorem mem_trips (A : SpMat R) (x : Nat × Nat × R) :
    x ∈ trips A ↔ x.2.1 < A.ncols ∧ (x.1, x.2.2) ∈ col A x.2.1 := by
  unfold trips
  simp only [List.mem_flatMap, List.mem_range, List.mem_map]
  constructor
  · rintro ⟨j, hj, e, he, rfl⟩; exact ⟨hj, he⟩
  · rintro ⟨hj, he⟩; exact ⟨x.2.1, hj, (x.1, x.2.2), he, rfl⟩

theorem Setup.decompBy_ok (S : Setup A cols p q) :
    decompBy A (cols.map (rowsIn A)) cols p q = .ok (blocksOf A cols p q) := by
  rw [decompBy_eq A _ cols p q (List.length_map _)]
  · rfl
  · intro x hx
    obtain ⟨hj, he⟩ := (mem_trips A x).1 hx
    obtain ⟨k, t, s, hpos⟩ := S.stored_pos _ hj _ he
    obtain ⟨f1, f2, f3, f4, f5, _, _⟩ := S.pos_facts (i := x.1) hpos
    exact ⟨k, t, s, f1, f2, f3, f4, f5⟩

end setup

section setup2
variable {R : Type} [CommRing R] [Scal R] [LawfulScal R]
open LawfulScal
variable {A : SpMat R} {cols : List (List Nat)} {p q : Array Nat}

omit [CommRing R] [Scal R] [LawfulScal R] in
theorem Setup.placeF_eq (S : Setup A cols p q) (x : Nat × Nat × R) (hx : x ∈ trips A) :
    ∃ k t s, Pos A cols k t s x.1 x.2.1 ∧
      placeF (cols.map (rowsIn A)) (roA A cols) (coA cols) p q x = (k, t, s, x.2.2) := by
  obtain ⟨hj, he⟩ := (mem_trips A x).1 hx
  obtain ⟨k, t, s, hpos⟩ := S.stored_pos _ hj _ he
  have hpos' : Pos A cols k t s x.1 x.2.1 := hpos
  obtain ⟨f1, f2, f3, f4, f5, _, _⟩ := S.pos_facts hpos'
  refine ⟨k, t, s, hpos', ?_⟩
  unfold placeF
  rw [f1, Option.getD_some, f2, f3, Nat.add_sub_cancel_left, Nat.add_sub_cancel_left]

omit [CommRing R] [Scal R] [LawfulScal R] in
theorem Setup.pos_unique (S : Setup A cols p q) {k t s k' t' s' i j : Nat}
    (h : Pos A cols k t s i j) (h' : Pos A cols k' t' s' i j) : k = k' ∧ t = t' ∧ s = s' := by
  obtain ⟨f1, f2, f3, _⟩ := S.pos_facts h
  obtain ⟨g1, g2, g3, _⟩ := S.pos_facts h'
  have : k = k' := by rw [f1] at g1; exact Option.some.inj g1
  subst this
  exact ⟨rfl, Nat.add_left_cancel (f2.symm.trans g2), Nat.add_left_cancel (f3.symm.trans g3)⟩

omit [CommRing R] [Scal R] [LawfulScal R] in
theorem Setup.pos_inj (S : Setup A cols p q) {k t s i j i' j' : Nat}
    (h : Pos A cols k t s i j) (h' : Pos A cols k t s i' j') : i = i' ∧ j = j' := by
  obtain ⟨_, f2, f3, _, _, f6, f7⟩ := S.pos_facts h
  obtain ⟨_, g2, g3, _, _, g6, g7⟩ := S.pos_facts h'
  exact ⟨S.pl.inj i i' f6 g6 (f2.trans g2.symm), S.ql.inj j j' f7 g7 (f3.trans g3.symm)⟩

theorem Setup.entry_block (S : Setup A cols p q) {k t s i j : Nat} (h : Pos A cols k t s i j) :
    entry (blockOf (plOf A cols p q) (roA A cols) (coA cols) k) t s = entry A i j := by
  obtain ⟨_, _, _, f4, f5, _, hj⟩ := S.pos_facts h
  rw [entry_blockOf _ _ _ k t s f4 f5]
  unfold plOf
  rw [List.filter_map, List.map_map]
  have hv : ((fun x : Nat × Nat × Nat × R => x.2.2.2) ∘ placeF (cols.map (rowsIn A)) (roA A cols) (coA cols) p q) =
      fun x => x.2.2 := rfl
  rw [hv, ← trips_sum A i j hj,
    ← sum_filter_nz (β := Nat × Nat × R) (trips A) (fun x => x.1 == i && x.2.1 == j) (fun x => x.2.2)]
  congr 2
  apply List.filter_congr
  intro x hx
  obtain ⟨k', t', s', hp', e⟩ := S.placeF_eq x hx
  simp only [Function.comp, e, selK]
  congr 1
  rw [Bool.eq_iff_iff]
  simp only [Bool.and_eq_true, beq_iff_eq]
  constructor
  · rintro ⟨⟨rfl, rfl⟩, rfl⟩; exact S.pos_inj hp' h
  · rintro ⟨h1, h2⟩
    rw [h1, h2] at hp'
    obtain ⟨a, b, c⟩ := S.pos_unique hp' h; exact ⟨⟨a, b⟩, c⟩

omit [CommRing R] [LawfulScal R] in
theorem blocksOf_getElem? (k : Nat) (g : List Nat) (hk : cols[k]? = some g) :
    (blocksOf A cols p q)[k]? = some (blockOf (plOf A cols p q) (roA A cols) (coA cols) k) := by
  have hk' := (List.getElem?_eq_some_iff.1 hk).1
  unfold blocksOf
  simp [hk']

omit [CommRing R] [LawfulScal R] in
theorem blocksOf_getElem?_inv (k : Nat) (B : SpMat R) (h : (blocksOf A cols p q)[k]? = some B) :
    ∃ g, cols[k]? = some g ∧ B = blockOf (plOf A cols p q) (roA A cols) (coA cols) k := by
  have hk := (List.getElem?_eq_some_iff.1 h).1
  have hk' : k < cols.length := by simpa [blocksOf] using hk
  refine ⟨cols[k], by simp [hk'], ?_⟩
  rw [blocksOf_getElem? k cols[k] (by simp [hk'])] at h
  exact (Option.some.inj h).symm

omit [CommRing R] [LawfulScal R] in
theorem blockOf_shape (k : Nat) (g : List Nat) (hk : cols[k]? = some g) :
    (blockOf (plOf A cols p q) (roA A cols) (coA cols) k).nrows = (rowsIn A g).length ∧
    (blockOf (plOf A cols p q) (roA A cols) (coA cols) k).ncols = g.length := by
  obtain ⟨o1, o2, o3, o4⟩ := grp_offsets (A := A) g k hk
  unfold blockOf
  simp only [o1, o2, o3, o4, Nat.add_sub_cancel_left, and_self]

omit [CommRing R] [LawfulScal R] in
theorem blocksOf_map (f : SpMat R → Nat) (f' : List Nat → Nat)
    (h : ∀ k g, cols[k]? = some g → f (blockOf (plOf A cols p q) (roA A cols) (coA cols) k) = f' g) :
    (blocksOf A cols p q).map f = cols.map f' := by
  apply List.ext_getElem?
  intro k
  by_cases hk : k < cols.length
  · rw [List.getElem?_map, blocksOf_getElem? k cols[k] (List.getElem?_eq_getElem hk), List.getElem?_map,
      List.getElem?_eq_getElem hk]
    exact congrArg some (h k _ (List.getElem?_eq_getElem hk))
  · simp [blocksOf, hk]

omit [CommRing R] [LawfulScal R] in
theorem blocksOf_nrows : (blocksOf A cols p q).map (·.nrows) = (cols.map (rowsIn A)).map List.length := by
  rw [List.map_map]
  exact blocksOf_map _ _ fun k g hk => (blockOf_shape k g hk).1

omit [CommRing R] [LawfulScal R] in
theorem blocksOf_ncols : (blocksOf A cols p q).map (·.ncols) = cols.map List.length :=
  blocksOf_map _ _ fun k g hk => (blockOf_shape k g hk).2

omit [CommRing R] [LawfulScal R] in
theorem rOff_blocksOf (k : Nat) : rOff (blocksOf A cols p q) k = offAt (cols.map (rowsIn A)) k := by
  unfold rOff offAt
  rw [List.map_take, List.map_take, blocksOf_nrows]

omit [CommRing R] [LawfulScal R] in
theorem cOff_blocksOf (k : Nat) : cOff (blocksOf A cols p q) k = offAt cols k := by
  unfold cOff offAt
  rw [List.map_take, List.map_take, blocksOf_ncols]

end setup2

section check
variable {R : Type} [CommRing R] [Scal R] [LawfulScal R]
open LawfulScal
variable {A : SpMat R} {cols : List (List Nat)} {p q : Array Nat}

theorem nodup_length_le (l : List Nat) (n : Nat) (hnd : l.Nodup) (hlt : ∀ i ∈ l, i < n) : l.length ≤ n := by
  simpa using hnd.length_le_of_subset (l₂ := List.range n) fun i hi => List.mem_range.2 (hlt i hi)

theorem Setup.entry_eq (S : Setup A cols p q) (i j : Nat) (hi : i < A.nrows) (hj : j < A.ncols) :
    entry A i j = bdEntry (blocksOf A cols p q) (p.getD i 0) (q.getD j 0) := by
  by_cases hc : ∃ g ∈ cols, j ∈ g
  · obtain ⟨g, hg, hjg⟩ := hc
    obtain ⟨k, hk⟩ := List.getElem?_of_mem hg
    obtain ⟨s, hs⟩ := List.getElem?_of_mem hjg
    have blk := blocksOf_getElem? (A := A) (p := p) (q := q) k g hk
    obtain ⟨sh1, sh2⟩ := blockOf_shape (A := A) (p := p) (q := q) k g hk
    have hrk : (cols.map (rowsIn A))[k]? = some (rowsIn A g) := by rw [List.getElem?_map, hk]; rfl
    have hsl : s < g.length := (List.getElem?_eq_some_iff.1 hs).1
    rw [S.ql.pos k g s j hk hs, ← cOff_blocksOf (A := A) (p := p) (q := q)]
    by_cases hr : i ∈ rowsIn A g
    · obtain ⟨t, ht⟩ := List.getElem?_of_mem hr
      rw [S.pl.pos k _ t i hrk ht, ← rOff_blocksOf (p := p) (q := q),
        bdEntry_at _ k _ blk t s (sh1 ▸ (List.getElem?_eq_some_iff.1 ht).1) (sh2 ▸ hsl)]
      exact (S.entry_block ⟨g, hk, hs, ht⟩).symm
    · have h0 : entry A i j = 0 :=
        colSum_not_mem _ _ fun hmem => hr ((mem_rowsIn A g i).2 ⟨hi, j, hjg, hmem⟩)
      rw [h0, bdEntry_off_rows _ k _ blk _ s (sh2 ▸ hsl), zero_eq]
      -- a row position inside block `k` belongs to a row of the group
      rw [rOff_blocksOf, sh1]
      rintro ⟨h1, h2⟩
      have ht : p.getD i 0 - offAt (cols.map (rowsIn A)) k < (rowsIn A g).length := by omega
      have hmem := List.getElem_mem ht
      have hpos := S.pl.pos k (rowsIn A g) _ _ hrk (List.getElem?_eq_getElem ht)
      rw [S.pl.inj _ i ((mem_rowsIn A g _).1 hmem).1 hi (by omega)] at hmem
      exact hr hmem
  · have hcol : col A j = [] := by
      by_contra hne
      obtain ⟨g, hg, hjg⟩ := S.grp.cover j hj hne
      exact hc ⟨g, hg, hjg⟩
    have h0 : entry A i j = 0 := by
      unfold entry; rw [hcol]; exact colSum_nil i
    rw [h0, bdEntry_beyond_cols, zero_eq]
    rw [cOff_blocksOf, show (blocksOf A cols p q).length = cols.length by simp [blocksOf]]
    exact S.ql.out j hj fun hmem => hc (List.mem_flatten.1 hmem)

theorem Setup.checkDecomp_ok (S : Setup A cols p q) : checkDecomp A p q (blocksOf A cols p q) = true := by
  unfold checkDecomp
  simp only [Bool.and_eq_true, List.all_eq_true, List.mem_range, decide_eq_true_eq]
  refine ⟨⟨⟨⟨S.pl.ok, S.ql.ok⟩, ?_⟩, ?_⟩, ?_⟩
  · rw [← List.sum_eq_foldl, blocksOf_nrows, ← List.length_flatten]
    exact nodup_length_le _ _ (rows_nodup A cols S.grp) (rows_lt A cols)
  · rw [← List.sum_eq_foldl, blocksOf_ncols, ← List.length_flatten]
    exact nodup_length_le _ _ S.grp.nodup S.grp.flatten_lt
  · intro i hi j hj
    rw [← S.entry_eq i j hi hj, isZero_iff, sub_eq, sub_self]

end check

section layouts
variable {R : Type} [Scal R]

omit [Scal R] in
theorem setup_exists (A : SpMat R) (hA : WFC A) (cols : List (List Nat)) (hG : Grouping A cols) :
    ∃ p q, permForIndices A.nrows (cols.map (rowsIn A)).flatten = .ok p ∧
      permForIndices A.ncols cols.flatten = .ok q ∧ Setup A cols p q := by
  obtain ⟨p, hp, hpl⟩ := permLayout (cols.map (rowsIn A)) A.nrows (rows_nodup A cols hG) (rows_lt A cols)
  obtain ⟨q, hq, hql⟩ := permLayout cols A.ncols hG.nodup hG.flatten_lt
  exact ⟨p, q, hp, hq, hA, hG, hpl, hql⟩

end layouts

section trivialCase
variable {R : Type} [CommRing R] [Scal R] [LawfulScal R]
open LawfulScal

theorem permOk_range (n : Nat) : permOk (Array.range n) n = true := by
  unfold permOk
  simp only [Bool.and_eq_true, List.all_eq_true, List.mem_range, decide_eq_true_eq, Bool.or_eq_true,
    beq_iff_eq, bne_iff_ne, Array.size_range]
  have hg : ∀ i, i < n → (Array.range n).getD i 0 = i := by
    intro i hi; simp [hi]
  refine ⟨⟨trivial, fun i hi => by rw [hg i hi]; exact hi⟩, fun i hi i' hi' => ?_⟩
  rw [hg i hi, hg i' hi']
  omega

theorem checkDecomp_trivial (A : SpMat R) :
    checkDecomp A (Array.range A.nrows) (Array.range A.ncols) [A] = true := by
  unfold checkDecomp
  simp only [Bool.and_eq_true, List.all_eq_true, List.mem_range, decide_eq_true_eq]
  refine ⟨⟨⟨⟨permOk_range _, permOk_range _⟩, by simp⟩, by simp⟩, ?_⟩
  intro i hi j hj
  have h1 : (Array.range A.nrows).getD i 0 = i := by simp [hi]
  have h2 : (Array.range A.ncols).getD j 0 = j := by simp [hj]
  rw [h1, h2]
  unfold bdEntry
  rw [if_pos ⟨hi, hj⟩, isZero_iff, sub_eq, sub_self]

end trivialCase

section conn
variable {R : Type} [CommRing R] [Scal R] [LawfulScal R]
open LawfulScal

def NoZero (A : SpMat R) : Prop := ∀ j, ∀ e ∈ col A j, isZero e.2 = false

theorem colSum_unique (l : List (Nat × R)) (h : (l.map (·.1)).Pairwise (· < ·)) (e : Nat × R) (he : e ∈ l) :
    colSum l e.1 = e.2 := by
  induction l with
  | nil => cases he
  | cons x l ih =>
    rw [List.map_cons, List.pairwise_cons] at h
    rw [colSum_cons]
    rcases List.mem_cons.1 he with rfl | he'
    · rw [if_pos rfl, colSum_not_mem, add_zero]
      intro hm
      exact absurd (h.1 _ hm) (Nat.lt_irrefl _)
    · have : x.1 < e.1 := h.1 _ (List.mem_map.2 ⟨e, he', rfl⟩)
      rw [if_neg (by omega), zero_add, ih h.2 he']

theorem entry_unique (A : SpMat R) (hA : WFC A) (j : Nat) (e : Nat × R) (he : e ∈ col A j) : entry A e.1 j = e.2 :=
  colSum_unique _ (hA.sorted j) e he

omit [CommRing R] [Scal R] [LawfulScal R] in
theorem share_symm (A : SpMat R) {a b : Nat} (h : Share A a b) : Share A b a := by
  obtain ⟨h1, h2, i, h3, h4⟩ := h
  exact ⟨h2, h1, i, h4, h3⟩

omit [CommRing R] [LawfulScal R] in
/-- stated over arbitrary vertex maps `rowv`, `colv` so that it serves a block of the second branch and the whole
matrix of the first -/
theorem conn_core (A : SpMat R) (cols : List (List Nat)) (hG : Grouping A cols) (g : List Nat) (hg : g ∈ cols)
    (B : SpMat R) (rowv colv : Nat → Nat)
    (hBrows : ∀ s, s < B.ncols → ∀ e ∈ col B s, e.1 < B.nrows)
    (hsr : ∀ v, v < B.nrows → ∃ i ∈ rowsIn A g, rowv i = v)
    (hsc : ∀ v, v < B.ncols → ∃ j ∈ g, colv j = v)
    (hedge : ∀ j ∈ g, ∀ e ∈ col A j, colv j < B.ncols ∧ ∃ a, (rowv e.1, a) ∈ col B (colv j) ∧ isZero a = false) :
    connectedBlk B = true := by
  obtain ⟨j0, hj0⟩ := List.exists_mem_of_ne_nil g (hG.ne g hg)
  obtain ⟨e0, he0⟩ := List.exists_mem_of_ne_nil _ (hG.colne g hg j0 hj0)
  obtain ⟨hc0, a0, ha0, _⟩ := hedge j0 hj0 e0 he0
  have hr0 : 0 < B.nrows := by have := hBrows _ hc0 _ ha0; simp only at this; omega
  apply connectedBlk_complete B hBrows (by omega)
  intro P hP0 hPe
  -- a stored entry links its row vertex with its column vertex
  have hlink : ∀ j ∈ g, ∀ i, i ∈ rowIdx A j → (P (rowv i) ↔ P (B.nrows + colv j)) := by
    intro j hj i hi
    obtain ⟨v, hv⟩ := (mem_rowIdx A j i).1 hi
    obtain ⟨hc, a, ha, hz⟩ := hedge j hj (i, v) hv
    exact hPe _ hc _ ha hz
  -- all columns of the group are on the same side
  have hT : ∀ a b, EqvGen (Share A) a b →
      ((a ∈ g ↔ b ∈ g) ∧ (a ∈ g → (P (B.nrows + colv a) ↔ P (B.nrows + colv b)))) := by
    intro a b hab
    induction hab with
    | rel a b h =>
      have hab : a ∈ g → b ∈ g := fun ha => hG.sep g hg a ha b h
      have hba : b ∈ g → a ∈ g := fun hb => hG.sep g hg b hb a (share_symm A h)
      refine ⟨⟨hab, hba⟩, fun ha => ?_⟩
      obtain ⟨_, _, i, hi1, hi2⟩ := h
      exact (hlink a ha i hi1).symm.trans (hlink b (hab ha) i hi2)
    | refl a => exact ⟨Iff.rfl, fun _ => Iff.rfl⟩
    | symm a b _ ih => exact ⟨ih.1.symm, fun hb => (ih.2 (ih.1.2 hb)).symm⟩
    | trans a b c _ _ ih1 ih2 => exact ⟨ih1.1.trans ih2.1, fun ha => (ih1.2 ha).trans (ih2.2 (ih1.1.1 ha))⟩
  -- vertex 0 is a row vertex
  obtain ⟨i0, hi0, hv0⟩ := hsr 0 hr0
  obtain ⟨_, j1, hj1, hij1⟩ := (mem_rowsIn A g i0).1 hi0
  have hQ1 : P (B.nrows + colv j1) := (hlink j1 hj1 i0 hij1).1 (by rw [hv0]; exact hP0)
  have hQ : ∀ j ∈ g, P (B.nrows + colv j) := fun j hj => ((hT j1 j (hG.conn g hg j1 hj1 j hj)).2 hj1).1 hQ1
  intro v hv
  by_cases hvr : v < B.nrows
  · obtain ⟨i, hi, rfl⟩ := hsr v hvr
    obtain ⟨_, j, hj, hij⟩ := (mem_rowsIn A g i).1 hi
    exact (hlink j hj i hij).2 (hQ j hj)
  · obtain ⟨j, hj, hcj⟩ := hsc (v - B.nrows) (by omega)
    have : v = B.nrows + colv j := by omega
    rw [this]
    exact hQ j hj

end conn

section conn2
variable {R : Type} [CommRing R] [Scal R] [LawfulScal R]
open LawfulScal
variable {A : SpMat R} {cols : List (List Nat)} {p q : Array Nat}

theorem Setup.block_stored (S : Setup A cols p q) (hnz : NoZero A) {k t s j : Nat} {e : Nat × R}
    (he : e ∈ col A j) (hpos : Pos A cols k t s e.1 j) :
    ∃ a, (t, a) ∈ col (blockOf (plOf A cols p q) (roA A cols) (coA cols) k) s ∧ isZero a = false := by
  obtain ⟨_, _, _, f4, f5, _, hjn⟩ := S.pos_facts hpos
  refine ⟨_, blockOf_mem _ _ _ k t s f4 f5 ?_, ?_⟩
  · have hx : (e.1, j, e.2) ∈ trips A := (mem_trips A _).2 ⟨hjn, he⟩
    obtain ⟨k', t', s', hp', epl⟩ := S.placeF_eq _ hx
    obtain ⟨rfl, rfl, rfl⟩ := S.pos_unique hp' hpos
    refine List.ne_nil_of_mem (a := (k', t', s', e.2)) (List.mem_filter.2 ⟨List.mem_map.2 ⟨_, hx, epl⟩, ?_⟩)
    simp only [selK, beq_self_eq_true, hnz j e he, Bool.not_false, Bool.and_self]
  · rw [lsum_eq, ← entry_blockOf _ _ _ k t s f4 f5, S.entry_block hpos, entry_unique A S.wf j e he]
    exact hnz j e he

theorem Setup.block_connected (S : Setup A cols p q) (hnz : NoZero A) (k : Nat) (g : List Nat)
    (hk : cols[k]? = some g) :
    connectedBlk (blockOf (plOf A cols p q) (roA A cols) (coA cols) k) = true := by
  obtain ⟨o1, _, o3, _⟩ := grp_offsets (A := A) g k hk
  obtain ⟨sh1, sh2⟩ := blockOf_shape (A := A) (p := p) (q := q) k g hk
  have hrk : (cols.map (rowsIn A))[k]? = some (rowsIn A g) := by rw [List.getElem?_map, hk]; rfl
  have hg : g ∈ cols := List.mem_of_getElem? hk
  -- vertices of the block: positions of the rows and columns of the group
  apply conn_core A cols S.grp g hg _ (fun i => p.getD i 0 - (roA A cols).getD k 0)
    (fun j => q.getD j 0 - (coA cols).getD k 0)
  · intro s hs e he
    exact blockOf_rows _ _ _ k s hs e he
  · intro v hv
    rw [sh1] at hv
    refine ⟨(rowsIn A g)[v], List.getElem_mem hv, ?_⟩
    simp only [S.pl.pos k _ v _ hrk (List.getElem?_eq_getElem hv), o1, Nat.add_sub_cancel_left]
  · intro v hv
    rw [sh2] at hv
    refine ⟨g[v], List.getElem_mem hv, ?_⟩
    simp only [S.ql.pos k _ v _ hk (List.getElem?_eq_getElem hv), o3, Nat.add_sub_cancel_left]
  · intro j hj e he
    obtain ⟨s, hs⟩ := List.getElem?_of_mem hj
    have hi : e.1 ∈ rowsIn A g :=
      (mem_rowsIn A g e.1).2 ⟨S.wf.rows j e he, j, hj, (mem_rowIdx A j e.1).2 ⟨e.2, he⟩⟩
    obtain ⟨t, ht⟩ := List.getElem?_of_mem hi
    have hpos : Pos A cols k t s e.1 j := ⟨g, hk, hs, ht⟩
    obtain ⟨_, f2, f3, _, f5, _, _⟩ := S.pos_facts hpos
    simp only [f2, f3, Nat.add_sub_cancel_left]
    exact ⟨f5, S.block_stored hnz he hpos⟩

omit [CommRing R] [LawfulScal R] in
theorem whole_connected (hA : WFC A) (hnz : NoZero A) (g : List Nat) (hG : Grouping A [g])
    (h1 : (rowsIn A g).length = A.nrows) (h2 : g.length = A.ncols) : connectedBlk A = true := by
  have hgnd : g.Nodup := by simpa using hG.nodup
  apply conn_core A [g] hG g (by simp) A id id
  · intro s _ e he
    exact hA.rows s e he
  · intro v hv
    refine ⟨v, ?_, rfl⟩
    unfold rowsIn at h1 ⊢
    have := (List.length_filter_eq_length_iff (l := List.range A.nrows)).1 (by rw [h1]; simp)
    exact List.mem_filter.2 ⟨List.mem_range.2 hv, this v (List.mem_range.2 hv)⟩
  · intro v hv
    refine ⟨v, ?_, rfl⟩
    have hsub : g ⊆ List.range A.ncols := fun j hj => List.mem_range.2 (hG.lt g (by simp) j hj)
    have hperm := (List.subperm_of_subset hgnd hsub).perm_of_length_le (by simp [h2])
    exact hperm.mem_iff.2 (List.mem_range.2 hv)
  · intro j hj e he
    exact ⟨hG.lt g (by simp) j hj, e.2, he, hnz j e he⟩

end conn2

section branches
variable {R : Type} [Scal R]

/-- the two branches of `dir_sum_decomp`: one group covering everything (the input is returned unchanged), or
the permutations and blocks built from the grouping -/
theorem dirSumDecomp_cases (A : SpMat R) (hA : WFC A) :
    ∃ cols, Grouping A cols ∧
      ((∃ g, cols = [g] ∧ (rowsIn A g).length = A.nrows ∧ g.length = A.ncols ∧
          dirSumDecomp A = .ok ⟨Array.range A.nrows, Array.range A.ncols, [A]⟩) ∨
        ∃ p q, Setup A cols p q ∧ dirSumDecomp A = .ok ⟨p, q, blocksOf A cols p q⟩) := by
  obtain ⟨cols, hgc, hG⟩ := groupCols_grouping A hA
  refine ⟨cols, hG, ?_⟩
  unfold dirSumDecomp
  rw [hgc]
  simp only
  split
  · rename_i h
    simp only [Bool.and_eq_true, beq_iff_eq, List.length_map] at h
    obtain ⟨⟨⟨_, hc1⟩, hr⟩, hc⟩ := h
    obtain ⟨g, rfl⟩ := List.length_eq_one_iff.1 hc1
    exact Or.inl ⟨g, rfl, hr, hc, rfl⟩
  · obtain ⟨p, q, hp, hq, S⟩ := setup_exists A hA cols hG
    rw [hp, hq]
    simp only
    rw [S.decompBy_ok]
    exact Or.inr ⟨p, q, S, rfl⟩

end branches

end Yuiv.C12
