import Yuiv.Proofs.C17
/-
C17 — bit sequences behave as sequences of at most 64 bits.

A bit sequence denotes `toList b : List Bool`; every operation of the code model refines the
corresponding list operation for every length `0..64` inclusive, and is rejected (`panic`/`err`)
outside its guard — never a corrupted value.
-/
namespace Yuiv.C17
open Yuiv Res

theorem toList_length (b : BS) : (toList b).length = b.len := toList_len b

/-- equality of values ⇔ equality of denoted lists (so `==` is list equality) -/
theorem toList_inj (a b : BS) (ha : WF a) (hb : WF b) : toList a = toList b ↔ a = b := by
  refine ⟨fun e => ?_, fun e => by rw [e]⟩
  have hl : a.len = b.len := by simpa [toList_len] using congrArg List.length e
  have hv : a.val = b.val := Nat.eq_of_testBit_eq fun j => by
    rw [← ha.getD_toList, ← hb.getD_toList, e]
  cases a; cases b; simp_all

theorem ofList_wf (l : List Bool) (h : l.length ≤ 64) : WF (ofList l) := by
  unfold WF; rw [ofList_len]; exact ⟨h, ofList_lt l⟩

theorem toList_ofList (l : List Bool) : toList (ofList l) = l := toList_ofList' l

theorem new_spec (val len : Nat) (hl : len ≤ 64) (hv : val < 2 ^ len) :
    new val len = ok ⟨val, len⟩ ∧ WF ⟨val, len⟩ := ⟨new_ok val len hl hv, hl, hv⟩

theorem new_reject (val len : Nat) (h : 64 < len ∨ 2 ^ len ≤ val) : new val len = panic :=
  new_panic val len h

theorem newRev_spec (val len : Nat) (hv : val < 2 ^ 64) (hl : len ≤ 64) :
    Refines (newRev val len) ((List.range len).map (fun i => val.testBit (len - 1 - i))) := by
  -- `hv` (the argument is a `u64`) is not needed: the model's `revBits 64` ignores higher bits
  have _ := hv
  exact newRev_refines val len hl

theorem newRev_reject (val len : Nat) (h : 64 < len) : newRev val len = panic := by
  simp [newRev, Res.assert, maxLen, Nat.not_le.2 h]

theorem zeros_spec (len : Nat) (hl : len ≤ 64) : Refines (zeros len) (List.replicate len false) := by
  unfold zeros; rw [new_ok 0 len hl (Nat.two_pow_pos len)]
  refine refines_of_bits hl (by simp) fun j => ?_
  rw [List.getElem?_replicate]; split <;> simp

theorem empty_spec : Refines empty [] := zeros_spec 0 (Nat.zero_le 64)

theorem zeros_reject (len : Nat) (h : 64 < len) : zeros len = panic := new_panic 0 len (Or.inl h)

theorem ones_spec (len : Nat) (hl : len ≤ 64) : Refines (ones len) (List.replicate len true) := by
  unfold ones; rw [mask_of_le len hl, bind_ok, new_ok _ len hl (Nat.sub_lt (Nat.two_pow_pos len) (by decide))]
  refine refines_of_bits hl (by simp) fun j => ?_
  rw [List.getElem?_replicate, Nat.testBit_two_pow_sub_one]; split <;> simp [*]

theorem ones_reject (len : Nat) (h : 64 < len) : ones len = panic := by
  unfold ones; rw [mask_of_ge len (Nat.le_of_lt h), bind_ok]; exact new_panic _ len (Or.inl h)

theorem weight_spec (b : BS) (h : WF b) : weight b = (toList b).count true := by
  unfold weight
  rw [weightLoop_eq _ _ _ (Nat.le_trans (popc_le b.len b.val h.2) h.1), popc_eq_count b.len b.val h.2,
    Nat.zero_add, toList]

theorem iter_spec (b : BS) : iter b = toList b := iterLoop_eq b.len b.val

theorem index_spec (b : BS) (h : WF b) (i : Nat) (hi : i < b.len) :
    index b i = ok ((toList b).getD i false) := by
  have hi64 : i < 64 := Nat.lt_of_lt_of_le hi h.1
  unfold index
  simp only [Res.assert, hi, decide_true, if_true, bind_ok, shr_eq _ _ hi64]
  congr 1
  rw [List.getD_eq_getElem?_getD, h.getD_toList, Nat.and_one_is_mod, ← Nat.add_zero i, ← Nat.testBit_shiftRight, Nat.add_zero, Nat.testBit_zero]
  rcases Nat.mod_two_eq_zero_or_one (b.val >>> i) with h0 | h1 <;> simp [*]

theorem index_reject (b : BS) (i : Nat) (hi : b.len ≤ i) : index b i = panic := by
  simp [index, Res.assert, Nat.not_lt.2 hi]

theorem toStr_spec (b : BS) : toStr b = (toList b).map (fun x => if x then '1' else '0') := by
  unfold toStr; rw [iter_spec]

theorem set_spec (b : BS) (h : WF b) (i : Nat) (x : Bool) (hi : i < b.len) :
    Refines (set b i x) ((toList b).set i x) := by
  have h64 : i < 64 := Nat.lt_of_lt_of_le hi h.1
  have hs : (2 : Nat) ^ i < 2 ^ 64 := Nat.pow_lt_pow_right (by decide) h64
  unfold set
  simp only [Res.assert, hi, decide_true, if_true, bind_ok, shl_one i h64]
  cases x <;> simp only [Bool.false_eq_true, if_false, if_true] <;>
    refine refines_of_bits h.1 (by simp [toList_len]) fun j => ?_ <;>
    rw [List.getElem?_set, toList_len, if_pos hi, apply_ite (Option.getD · false), h.getD_toList]
  · rw [Nat.testBit_and, testBit_not64 _ hs, Nat.testBit_two_pow]
    by_cases e : i = j
    · simp [e]
    · simp [e]; intro hj; have := h.lt_of_testBit hj; have := h.1; omega
  · rw [Nat.testBit_or, Nat.testBit_two_pow]
    by_cases e : i = j <;> simp [e]

theorem set_reject (b : BS) (i : Nat) (x : Bool) (hi : b.len ≤ i) : set b i x = panic := by
  simp [set, Res.assert, Nat.not_lt.2 hi]

theorem push_spec (b : BS) (h : WF b) (x : Bool) (hl : b.len < 64) :
    Refines (push b x) (toList b ++ [x]) := by
  unfold push
  simp only [Res.assert, maxLen, hl, decide_true, if_true, bind_ok, shl_eq 1 _ hl]
  cases x
  · simpa [toList] using refines_append b ⟨0, 1⟩ h ⟨by decide, by decide⟩ hl
  · simpa [toList] using refines_append b ⟨1, 1⟩ h ⟨by decide, by decide⟩ hl

theorem push_reject (b : BS) (x : Bool) (hl : 64 ≤ b.len) : push b x = panic := by
  simp [push, Res.assert, maxLen, Nat.not_lt.2 hl]

theorem append_spec (a b : BS) (ha : WF a) (hb : WF b) (hl : a.len + b.len ≤ 64) :
    Refines (append a b) (toList a ++ toList b) := by
  unfold append
  simp only [Res.assert, maxLen, hl, decide_true, if_true, bind_ok]
  by_cases hb0 : b.len > 0
  · have hal : a.len < 64 := Nat.lt_of_lt_of_le (Nat.lt_add_of_pos_right hb0) hl
    simp only [hb0, if_true, shl_eq _ _ hal, bind_ok]
    exact refines_append a b ha hb hl
  · have hb0' : b.len = 0 := Nat.eq_zero_of_not_pos hb0
    have hbl : toList b = [] := by simp [toList, hb0']
    simp only [hbl, List.append_nil, hb0', Nat.add_zero]
    exact refines_ok ha rfl

theorem append_reject (a b : BS) (hl : 64 < a.len + b.len) : append a b = panic := by
  simp [append, Res.assert, maxLen, Nat.not_le.2 hl]

theorem remove_spec (b : BS) (h : WF b) (i : Nat) (hi : i < b.len) :
    Refines (remove b i) ((toList b).eraseIdx i) := by
  have hl := h.1
  have hi1 : i + 1 ≤ 64 := Nat.le_trans hi hl
  have hpos : 1 ≤ b.len := Nat.lt_of_le_of_lt (Nat.zero_le i) hi
  unfold remove
  simp only [Res.assert, hi, decide_true, if_true, bind_ok, mask_of_le (i + 1) hi1,
    mask_of_le i (Nat.le_of_succ_le hi1), shr_eq _ 1 (by decide), usub, hpos]
  refine refines_of_bits (Nat.le_trans (Nat.sub_le _ _) hl)
    (by simp [toList_len, List.length_eraseIdx, hi]) fun j => ?_
  rw [List.getElem?_eraseIdx, apply_ite (Option.getD · false), h.getD_toList, h.getD_toList,
    Nat.testBit_or, Nat.testBit_shiftRight, Nat.testBit_and, Nat.testBit_and,
    testBit_not64 _ (two_pow_sub_one_lt hi1), Nat.testBit_two_pow_sub_one,
    Nat.testBit_two_pow_sub_one]
  by_cases hji : j < i
  · simp [hji]; omega
  · simp [hji, Nat.add_comm 1 j]; intro hj; have := h.lt_of_testBit hj; omega

theorem remove_reject (b : BS) (i : Nat) (hi : b.len ≤ i) : remove b i = panic := by
  simp [remove, Res.assert, Nat.not_lt.2 hi]

theorem insert_spec (b : BS) (h : WF b) (i : Nat) (x : Bool) (hi : i ≤ b.len) (hl : b.len < 64) :
    Refines (insert b i x) ((toList b).insertIdx i x) := by
  have hi64 : i < 64 := Nat.lt_of_le_of_lt hi hl
  unfold insert
  simp only [Res.assert, hi, hl, maxLen, decide_true, if_true, bind_ok, shl_one i hi64, usub,
    show 1 ≤ 2 ^ i from Nat.one_le_two_pow, shl_eq _ _ hi64, shl_eq _ 1 (by decide)]
  refine refines_of_bits hl (by simp [toList_len, List.length_insertIdx, hi]) fun j => ?_
  rw [List.getElem?_insertIdx, Nat.testBit_or, Nat.testBit_or, Nat.testBit_mod_two_pow, Nat.testBit_mod_two_pow,
    Nat.testBit_shiftLeft, Nat.testBit_shiftLeft, Nat.testBit_and, Nat.testBit_and,
    testBit_not64 _ (two_pow_sub_one_lt (Nat.le_of_lt hi64)), Nat.testBit_two_pow_sub_one, testBit_ite]
  by_cases hji : j < i
  · simp [hji, h.getD_toList, show j < 64 by omega]; omega
  · by_cases hje : j = i
    · subst hje; simp [toList_len, hi, hi64]; omega
    · simp [hji, hje, h.getD_toList, show 1 ≤ j by omega, show ¬ j - 1 < i by omega, show ¬ j - i = 0 by omega]
      cases ht : b.val.testBit (j - 1)
      · simp
      · have := h.lt_of_testBit ht; simp; omega

theorem insert_reject (b : BS) (i : Nat) (x : Bool) (h : b.len < i ∨ 64 ≤ b.len) :
    insert b i x = panic := by
  rcases h with h | h
  · simp [insert, Res.assert, Nat.not_le.2 h]
  · by_cases hi : i ≤ b.len <;> simp [insert, Res.assert, maxLen, Nat.not_lt.2 h, hi]

theorem sub_spec (b : BS) (h : WF b) (l : Nat) (hl : l ≤ b.len) :
    Refines (sub b l) ((toList b).take l) := by
  rw [(sub_eq b h l hl).1]; exact (sub_eq b h l hl).2

theorem sub_reject (b : BS) (l : Nat) (hl : b.len < l) : sub b l = panic := by
  simp [sub, Res.assert, Nat.not_le.2 hl]

theorem isSub_spec (a b : BS) (ha : WF a) (hb : WF b) :
    isSub a b = ok ((toList a).isPrefixOf (toList b)) := by
  unfold isSub
  by_cases hl : a.len ≤ b.len
  · obtain ⟨_, _, he, hw, ht⟩ := sub_eq b hb a.len hl
    cases he
    simp only [hl, if_true, mask_of_le a.len ha.1, bind_ok, Nat.and_two_pow_sub_one_eq_mod]
    congr 1
    rw [Bool.eq_iff_iff, List.isPrefixOf_iff_prefix, List.prefix_iff_eq_take, toList_len, ← ht,
      toList_inj a _ ha hw, beq_iff_eq]
    constructor
    · intro e; cases a; simp_all
    · intro e; rw [e]
  · simp only [hl, if_false]
    congr 1
    symm
    rw [Bool.eq_false_iff]
    intro hp
    have := (List.isPrefixOf_iff_prefix.1 hp).length_le
    simp [toList_len] at this
    omega

theorem fromIter_spec (l : List Bool) (h : l.length ≤ 64) : Refines (fromIter l) l := by
  rw [fromIter_eq l h]; exact refines_ok ⟨h, ofList_lt l⟩ (toList_mk_ofList l)

theorem fromIter_reject (l : List Bool) (h : 64 < l.length) : fromIter l = panic := by
  unfold fromIter
  rcases fromIterLoop_cases l 0 0 with h1 | ⟨v', h1⟩
  · rw [h1]; rfl
  · rw [h1]; simp [new_panic v' l.length (Or.inl h)]

/-- a string of at most 64 characters `0`/`1` parses to the list it spells -/
theorem fromStr_spec (l : List Bool) (h : l.length ≤ 64) :
    Refines (fromStr (l.map (fun x => if x then '1' else '0'))) l := by
  rw [fromStr_eq l h]; exact refines_ok ⟨h, ofList_lt l⟩ (toList_mk_ofList l)

/-- anything else is rejected: never `ok` -/
theorem fromStr_reject (s : List Char)
    (h : 64 < s.length ∨ ∃ c ∈ s, c ≠ '0' ∧ c ≠ '1') : ¬ (fromStr s).isOk := by
  unfold fromStr
  rcases fromStrLoop_cases s 0 0 with h1 | ⟨v', n', good, h1, hg⟩
  · rw [h1]; simp [isOk]
  · rw [h1]
    cases good
    · simp only [bind_ok]
      cases new v' n' <;> simp [isOk]
    · obtain ⟨hn, hc⟩ := hg rfl
      rcases h with h | ⟨c, hm, h0, h1'⟩
      · simp [new_panic v' n' (Or.inl (by omega)), isOk]
      · rcases hc c hm with e | e
        · exact absurd e h0
        · exact absurd e h1'

/-- `generate len` yields `2^len` items; item `k` is the sequence with value `k` — so the items are
pairwise distinct, well-formed, of length `len`, hence all `2^len` lists of that length. -/
theorem generate_spec (len k : Nat) (hl : len ≤ 64) (hk : k < 2 ^ len) :
    generateCount len = ok (2 ^ len) ∧ generateNth len k = ok ⟨k, len⟩ ∧ WF ⟨k, len⟩ := by
  have hp : 1 ≤ 2 ^ len := Nat.one_le_two_pow
  refine ⟨?_, ?_, hl, hk⟩
  · simp [generateCount, Res.assert, maxLen, hl, mask_of_le len hl]; omega
  · have : k ≤ 2 ^ len - 1 := Nat.le_sub_one_of_lt hk
    simp [generateNth, Res.assert, maxLen, hl, mask_of_le len hl, this, new_ok k len hl hk]

theorem generate_complete (len : Nat) (l : List Bool) (hlen : l.length = len) :
    ∃ k, k < 2 ^ len ∧ toList ⟨k, len⟩ = l := by
  subst hlen; exact ⟨(ofList l).val, ofList_lt l, toList_mk_ofList l⟩

theorem cmp_eq_iff (a b : BS) : cmp a b = .eq ↔ a = b := by
  constructor
  · intro h
    simp only [cmp, Ordering.then_eq_eq, Nat.compare_eq_eq] at h
    cases a; cases b; simp_all
  · intro h; subst h; simp [cmp]

theorem cmp_swap (a b : BS) : cmp b a = (cmp a b).swap := by
  simp [cmp, Ordering.swap_then, Nat.compare_swap]

theorem cmp_trans (a b c : BS) (h1 : cmp a b = .lt) (h2 : cmp b c = .lt) : cmp a c = .lt := by
  simp only [cmp, Ordering.then_eq_lt, Nat.compare_eq_lt, Nat.compare_eq_eq] at h1 h2 ⊢
  omega

/-- by length, then weight, then value -/
theorem cmp_lt_iff (a b : BS) : cmp a b = .lt ↔
    a.len < b.len ∨ (a.len = b.len ∧ (weight a < weight b ∨ (weight a = weight b ∧ a.val < b.val))) := by
  simp [cmp, Ordering.then_eq_lt, Nat.compare_eq_lt]

inductive Op where
  | push (x : Bool) | append (b : BS) | remove (i : Nat) | insert (i : Nat) (x : Bool)
  | set (i : Nat) (x : Bool) | sub (l : Nat)

def step (b : BS) : Op → Res BS
  | .push x => push b x
  | .append c => append b c
  | .remove i => remove b i
  | .insert i x => insert b i x
  | .set i x => set b i x
  | .sub l => sub b l

def OpWF : Op → Prop
  | .append c => WF c
  | _ => True

/-- any successful history of operations from a well-formed value ends in a well-formed value
(with `*_spec`/`*_reject`: ends in the value the list history gives, or is rejected) -/
theorem history_wf (ops : List Op) (hops : ∀ o ∈ ops, OpWF o) (b : BS) (h : WF b) (b' : BS)
    (hrun : ops.foldlM step b = ok b') : WF b' := by
  refine Res.foldlM_inv WF (fun b o c ho hb hs => ?_) h hrun
  have ho := hops o ho
  cases o with
  | push x => exact wf_of_ok (push_spec b hb x) (fun g => push_reject b x (Nat.le_of_not_lt g)) hs
  | append d => exact wf_of_ok (append_spec b d hb ho) (fun g => append_reject b d (Nat.lt_of_not_le g)) hs
  | remove i => exact wf_of_ok (remove_spec b hb i) (fun g => remove_reject b i (Nat.le_of_not_lt g)) hs
  | insert i x =>
    exact wf_of_ok (g := i ≤ b.len ∧ b.len < 64) (fun g => insert_spec b hb i x g.1 g.2)
      (fun g => insert_reject b i x (by omega)) hs
  | set i x => exact wf_of_ok (set_spec b hb i x) (fun g => set_reject b i x (Nat.le_of_not_lt g)) hs
  | sub l => exact wf_of_ok (sub_spec b hb l) (fun g => sub_reject b l (Nat.lt_of_not_le g)) hs

/-! ### non-vacuity: the boundary length 64 satisfies the hypotheses -/

example : WF ⟨2 ^ 64 - 1, 64⟩ := by unfold WF; decide
example : WF ⟨0, 0⟩ := by unfold WF; decide

end Yuiv.C17
