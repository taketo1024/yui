import Yuiv.Props.C05Engine
import Mathlib.Algebra.BigOperators.Group.Finset.Basic
import Mathlib.Algebra.BigOperators.Ring.Finset
/-
C05 (engine) — `d ∘ d = 0` of the engine model for edge labels of an ARBITRARY type `E` (no ring structure,
partial operations) seen through a VALUE map `val : E → A` into a ring `A`: an edge operation is lawful when the value
of its result is the ring expression in the values of its arguments.  The identity elements are LOCAL (`a·a⁻¹` only
has to act as an identity on the labels that leave the target of `a`, the delooping decomposition only between the
labels into and out of the delooped vertex), as in a ring with one idempotent per object.  This is the form that the
real edge algebra `lcOps h t` can satisfy (`Proofs/C05CobLc.lean`).  Labels forming a ring themselves are the case
`val = id` (`*.toVal`).
-/
namespace Yuiv.C05.Engine
open Yuiv.C05.Tng

variable {E A : Type} [Ring A]

def entV (val : E → A) (cx : Cx E) (k l : TKey) : A := ((cx.edge? k l).map val).getD 0

def ddAtV (val : E → A) (cx : Cx E) (k m : TKey) : A :=
  ∑ l ∈ (cx.verts.map (·.1)).toFinset, entV val cx l m * entV val cx k l

def DDV (val : E → A) (cx : Cx E) : Prop := ∀ k m, ddAtV val cx k m = 0

theorem entV_of_edge (val : E → A) (cx : Cx E) (k l : TKey) (f : E) (h : cx.edge? k l = some f) :
    entV val cx k l = val f := by unfold entV; rw [h]; rfl

theorem entV_of_none (val : E → A) (cx : Cx E) (k l : TKey) (h : cx.edge? k l = none) :
    entV val cx k l = 0 := by unfold entV; rw [h]; rfl

/-- a label that is dropped as zero has value zero, so the entry is the value of the computed label either way -/
theorem entV_of_kept (val : E → A) (ops : EdgeOps E) (hz : ∀ x, ops.isZero x = true → val x = 0) (cx : Cx E)
    (k l : TKey) (g : E) (h : cx.edge? k l = if ops.isZero g = true then none else some g) :
    entV val cx k l = val g := by
  by_cases hg : ops.isZero g = true
  · rw [if_pos hg] at h
    rw [entV_of_none val cx k l h, hz g hg]
  · rw [if_neg hg] at h
    exact entV_of_edge val cx k l g h

theorem entV_congr (val : E → A) (cx cx' : Cx E) (a b a' b' : TKey) (h : cx'.edge? a' b' = cx.edge? a b) :
    entV val cx' a' b' = entV val cx a b := by
  unfold entV
  rw [h]

theorem entV_zero_of_not_key (val : E → A) (ops : EdgeOps E) (cx : Cx E) (hwf : WF ops cx) (a b : TKey)
    (h : a ∉ cx.verts.map (·.1) ∨ b ∉ cx.verts.map (·.1)) : entV val cx a b = 0 :=
  entV_of_none val cx a b (edge?_none_of_not_key ops cx hwf a b h)

theorem entV_self (val : E → A) (ops : EdgeOps E) (cx : Cx E) (hwf : WF ops cx) (x : TKey) : entV val cx x x = 0 :=
  entV_of_none val cx x x (edge?_self ops cx hwf x)

theorem entV_of_mem (val : E → A) (ops : EdgeOps E) (cx : Cx E) (hwf : WF ops cx) (a : (TKey × TKey) × E)
    (ha : a ∈ cx.edges) : entV val cx a.1.1 a.1.2 = val a.2 := by
  apply entV_of_edge
  unfold Cx.edge?
  exact lookup_of_mem_nodup cx.edges hwf.edges (a.1.1, a.1.2) a.2 ha

structure ValEdgeOps (ops : EdgeOps E) (val : E → A) : Prop where
  cab : ∀ c ainv b r, ops.cab c ainv b = .ok r → val r = val c * val ainv * val b
  sub : ∀ d x, val (ops.sub d x) = val d - val x
  neg : ∀ x, val (ops.neg x) = - val x
  zero : ∀ x, ops.isZero x = true → val x = 0

structure ValDeloopOps (ops : EdgeOps E) (val : E → A) (c : Path) (cap cup : Dot → A) : Prop where
  tgt : ∀ d f g, ops.capOff .tgt c d f = .ok g → val g = cap d * val f
  src : ∀ d f g, ops.capOff .src c d f = .ok g → val g = val f * cup d
  zero : ∀ x, ops.isZero x = true → val x = 0

/-- horizontal composition with an identity in values: `val (D(f, 1)) = tl (val f) w`, `val (±D(1, g)) = ±tr (val g) v`,
with `tl`, `tr` additive and multiplicative on `A` -/
structure ValTensorOps (ops : EdgeOps E) (val : E → A) (tl tr : A → Tng → A) : Prop where
  hL : ∀ f w g, ops.hcompL f w = .ok g → val g = tl (val f) w
  hR : ∀ neg f v g, ops.hcompR neg f v = .ok g → val g = if neg = true then -(tr (val f) v) else tr (val f) v
  zero : ∀ x, ops.isZero x = true → val x = 0
  tl_zero : ∀ w, tl 0 w = 0
  tr_zero : ∀ v, tr 0 v = 0
  tl_add : ∀ f g w, tl (f + g) w = tl f w + tl g w
  tr_add : ∀ f g v, tr (f + g) v = tr f v + tr g v
  tl_mul : ∀ f g w, tl (f * g) w = tl f w * tl g w
  tr_mul : ∀ f g v, tr (f * g) v = tr f v * tr g v

def sgV (left : Cx E) (k : TKey) (z : A) : A := if signNeg left k = true then -z else z

structure GoodV (val : E → A) (ops : EdgeOps E) (base : Option Nat) (cx : Cx E) : Prop where
  base : cx.base = base
  wf : WF ops cx
  bd : Bounded cx
  dd : DDV val cx

/-- the hypotheses on the edge algebra, all in terms of the values of labels -/
structure ValLaws (val : E → A) (ops : EdgeOps E) (base : Option Nat) (tl tr : A → Tng → A) : Prop where
  edge : ValEdgeOps ops val
  tensor : ValTensorOps ops val tl tr
  /-- interchange: `(1 ⊗ g)(f ⊗ 1) = (f ⊗ 1)(1 ⊗ g)` -/
  inter : ∀ (f g : E) (v v' w w' : Tng), tr (val g) v' * tl (val f) w = tl (val f) w' * tr (val g) v
  /-- the inverse used by `eliminate` is a local two-sided inverse -/
  unit : ∀ (cx : Cx E) k0 k1 a ainv, WF ops cx → cx.edge? k0 k1 = some a → ops.inv a = .ok ainv →
    (∀ m, entV val cx k1 m * (val a * val ainv) = entV val cx k1 m) ∧
    (∀ k, (val ainv * val a) * entV val cx k k0 = entV val cx k k0)
  /-- `cap_off` multiplies by a cap / cup, and the copies decompose the identity of the delooped vertex locally -/
  deloop : ∀ (cx : Cx E) k t (c : Path), WF ops cx → cx.base = base → cx.tng? k = some t → c ∈ t →
    ∃ cap cup : Dot → A, ValDeloopOps ops val c cap cup ∧
      (if cx.containsBase c = true then
        ∀ x y, entV val cx k y * (cup .X * cap .none) * entV val cx x k = entV val cx k y * entV val cx x k
       else ∀ x y, entV val cx k y * (cup .X * cap .none + cup .none * cap .Y) * entV val cx x k
        = entV val cx k y * entV val cx x k)

end Yuiv.C05.Engine
