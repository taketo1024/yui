import Yuiv.Proofs.C18InvDefs
/-
C18Inv — reordering the crossing list (`permute p l`).

The first section is generic: a SLOT ISOMORPHISM `σ : slots l' → slots l` (inverse `τ`) that preserves labels
and commutes with `thru` automatically commutes with `partner` (on valid codes the partner is the unique other
slot with the same label), transports `SConn`, `Determined` and (possibly twisted by a sign `ε` that is
constant on components) orientations.  It is instantiated here for `permute` and in `C18InvRev` for
`reverseAll` / `revComp`.
-/
namespace Yuiv.C18
open Yuiv

theorem valid_of_perm {l l' : Link} (hp : (allEdges l').Perm (allEdges l)) (hv : Valid l) : Valid l' := by
  intro e he
  rw [hp.count_eq]
  exact hv e (hp.mem_iff.1 he)

theorem Orient.congr {l : Link} {O O' : Nat × Nat → Bool} (hv : Valid l) (h : ∀ s, HE l s → O' s = O s)
    (hO : Orient l O) : Orient l O' := by
  intro i hi j hj
  have hh : HE l (i, j) := ⟨hi, hj⟩
  rw [h _ hh, h _ (thru_spec l _ hh).1, h _ (partner_spec l hv _ hh).1]
  exact hO i hi j hj

/-- `σ` maps the slots of `l'` bijectively (inverse `τ`) to the slots of `l`, preserving labels and the
strands through the crossings -/
structure SlotIso (l' l : Link) (σ τ : Nat × Nat → Nat × Nat) : Prop where
  he : ∀ h, HE l' h → HE l (σ h)
  he_inv : ∀ h, HE l h → HE l' (τ h)
  left : ∀ h, HE l' h → τ (σ h) = h
  right : ∀ h, HE l h → σ (τ h) = h
  lab_eq : ∀ h, HE l' h → lab l (σ h) = lab l' h
  thru_eq : ∀ h, HE l' h → σ (C18.thru l' h) = C18.thru l (σ h)

namespace SlotIso
variable {l' l : Link} {σ τ : Nat × Nat → Nat × Nat}

theorem symm (s : SlotIso l' l σ τ) : SlotIso l l' τ σ where
  he := s.he_inv
  he_inv := s.he
  left := s.right
  right := s.left
  lab_eq := by
    intro h hh
    have := s.lab_eq (τ h) (s.he_inv h hh)
    rw [s.right h hh] at this
    exact this.symm
  thru_eq := by
    intro h hh
    have h1 := s.thru_eq (τ h) (s.he_inv h hh)
    rw [s.right h hh] at h1
    rw [← h1, s.left _ (thru_spec l' _ (s.he_inv h hh)).1]

theorem inj (s : SlotIso l' l σ τ) {a b : Nat × Nat} (ha : HE l' a) (hb : HE l' b) (h : σ a = σ b) : a = b := by
  rw [← s.left a ha, ← s.left b hb, h]

theorem partner_eq (s : SlotIso l' l σ τ) (hv : Valid l) (hv' : Valid l') (h : Nat × Nat) (hh : HE l' h) :
    σ (C18.partner l' h) = C18.partner l (σ h) := by
  obtain ⟨p1, p2, p3, _⟩ := partner_spec l' hv' h hh
  have e : lab l (σ (C18.partner l' h)) = lab l (σ h) := by
    rw [s.lab_eq _ p1, s.lab_eq _ hh, p3]
  rcases same_label l hv (σ h) (σ (C18.partner l' h)) (s.he _ hh) (s.he _ p1) e with h1 | h1
  · exact absurd (s.inj p1 hh h1) p2
  · exact h1

theorem sconn (s : SlotIso l' l σ τ) (hv : Valid l) (hv' : Valid l') {a b : Nat × Nat}
    (hc : SConn l' a b) (ha : HE l' a) : SConn l (σ a) (σ b) := by
  induction hc with
  | refl => exact SConn.refl _
  | thru hc ih => rw [s.thru_eq _ (hc.he hv' ha)]; exact SConn.thru ih
  | partner hc ih => rw [s.partner_eq hv hv' _ (hc.he hv' ha)]; exact SConn.partner ih

theorem determined (s : SlotIso l' l σ τ) (hv : Valid l) (hv' : Valid l')
    (h0 : ∀ i, i < l.length → ∃ i', i' < l'.length ∧ SConn l' (i', 0) (τ (i, 0)))
    (hD : Determined l) : Determined l' := by
  intro i hi j hj
  have hh : HE l' (i, j) := ⟨hi, hj⟩
  have hs := s.he _ hh
  obtain ⟨i0, hi0, hc⟩ := hD (σ (i, j)).1 hs.1 (σ (i, j)).2 hs.2
  have h1 := s.symm.sconn hv' hv hc ⟨hi0, by omega⟩
  rw [show ((σ (i, j)).1, (σ (i, j)).2) = σ (i, j) from rfl, s.left _ hh] at h1
  obtain ⟨i', hi', hc'⟩ := h0 i0 hi0
  exact ⟨i', hi', hc'.trans h1⟩

/-- orientations are transported; `ε` (constant on components) marks the components that are reversed -/
theorem orient (s : SlotIso l' l σ τ) (hv : Valid l) (hv' : Valid l') (ε : Nat × Nat → Bool)
    (h1 : ∀ h, HE l' h → ε (C18.thru l' h) = ε h) (h2 : ∀ h, HE l' h → ε (C18.partner l' h) = ε h)
    {O : Nat × Nat → Bool} (hO : Orient l O) :
    Orient l' (fun h => if ε h then !O (σ h) else O (σ h)) := by
  intro i hi j hj
  have hh : HE l' (i, j) := ⟨hi, hj⟩
  constructor
  · show (if ε (C18.thru l' (i, j)) then !O (σ (C18.thru l' (i, j))) else O (σ (C18.thru l' (i, j)))) =
      !(if ε (i, j) then !O (σ (i, j)) else O (σ (i, j)))
    rw [h1 _ hh, s.thru_eq _ hh, hO.thru_eq _ (s.he _ hh)]
    cases ε (i, j) <;> rfl
  · show (if ε (C18.partner l' (i, j)) then !O (σ (C18.partner l' (i, j))) else O (σ (C18.partner l' (i, j)))) =
      !(if ε (i, j) then !O (σ (i, j)) else O (σ (i, j)))
    rw [h2 _ hh, s.partner_eq hv hv' _ hh, hO.partner_eq _ (s.he _ hh)]
    cases ε (i, j) <;> rfl

theorem orient' (s : SlotIso l' l σ τ) (hv : Valid l) (hv' : Valid l')
    {O : Nat × Nat → Bool} (hO : Orient l O) : Orient l' (fun h => O (σ h)) :=
  s.orient hv hv' (fun _ => false) (fun _ _ => rfl) (fun _ _ => rfl) hO

end SlotIso

theorem perm_lt {p : List Nat} {n : Nat} (hp : p.Perm (List.range n)) {i : Nat} (hi : i ∈ p) : i < n :=
  List.mem_range.1 (hp.mem_iff.1 hi)

theorem perm_length {p : List Nat} {n : Nat} (hp : p.Perm (List.range n)) : p.length = n := by
  rw [hp.length_eq, List.length_range]

theorem perm_getD_lt {p : List Nat} {n : Nat} (hp : p.Perm (List.range n)) {k : Nat} (hk : k < n) :
    p.getD k 0 < n := by
  have hk' : k < p.length := by rw [perm_length hp]; exact hk
  rw [ListAux.getD_of_lt hk']
  exact perm_lt hp (List.getElem_mem hk')

theorem perm_getD_idxOf {p : List Nat} {n : Nat} (hp : p.Perm (List.range n)) {i : Nat} (hi : i < n) :
    p.idxOf i < n ∧ p.getD (p.idxOf i) 0 = i := by
  have hm := hp.mem_iff.2 (List.mem_range.2 hi)
  have hlt : p.idxOf i < p.length := List.idxOf_lt_length_iff.2 hm
  refine ⟨by rw [← perm_length hp]; exact hlt, ?_⟩
  rw [ListAux.getD_of_lt hlt]
  exact List.getElem_idxOf hlt

theorem perm_idxOf_getD {p : List Nat} {n : Nat} (hp : p.Perm (List.range n)) {k : Nat} (hk : k < n) :
    p.idxOf (p.getD k 0) = k := by
  have hk' : k < p.length := by rw [perm_length hp]; exact hk
  rw [ListAux.getD_of_lt hk']
  exact (hp.nodup_iff.2 List.nodup_range).idxOf_getElem k hk'

theorem perm_eq_map_getD {p : List Nat} {n : Nat} (hp : p.Perm (List.range n)) :
    p = (List.range n).map (fun k => p.getD k 0) := by
  apply List.ext_getElem
  · rw [List.length_map, List.length_range, perm_length hp]
  · intro k h1 h2
    rw [List.getElem_map, List.getElem_range, ListAux.getD_of_lt h1]

theorem permute_eq_map (p : List Nat) (l : Link) (hp : ∀ i ∈ p, i < l.length) :
    permute p l = p.map (fun i => l[i]?.getD default) := by
  unfold permute
  induction p with
  | nil => rfl
  | cons a r ih =>
    have ha : a < l.length := hp a List.mem_cons_self
    rw [List.filterMap_cons, List.getElem?_eq_getElem ha, List.map_cons, List.getElem?_eq_getElem ha,
      ih (fun i hi => hp i (List.mem_cons_of_mem _ hi))]
    rfl

theorem link_eq_map_range (l : Link) : l = (List.range l.length).map (fun i => l[i]?.getD default) := by
  apply List.ext_getElem
  · rw [List.length_map, List.length_range]
  · intro k h1 h2
    rw [List.getElem_map, List.getElem_range, List.getElem?_eq_getElem h1]; rfl

section Perm
variable {p : List Nat} {l : Link}

theorem permute_perm (hp : p.Perm (List.range l.length)) : (permute p l).Perm l := by
  rw [permute_eq_map p l (fun i hi => perm_lt hp hi)]
  conv => rhs; rw [link_eq_map_range l]
  exact hp.map _

theorem permute_length (hp : p.Perm (List.range l.length)) : (permute p l).length = l.length :=
  (permute_perm hp).length_eq

theorem permute_getElem? (hp : p.Perm (List.range l.length)) {k : Nat} (hk : k < l.length) :
    (permute p l)[k]? = l[p.getD k 0]? := by
  have hk' : k < p.length := by rw [perm_length hp]; exact hk
  rw [permute_eq_map p l (fun i hi => perm_lt hp hi), List.getElem?_map, List.getElem?_eq_getElem hk',
    ListAux.getD_of_lt hk', Option.map_some, List.getElem?_eq_getElem (perm_lt hp (List.getElem_mem hk'))]
  rfl

theorem edgeAt_permute (hp : p.Perm (List.range l.length)) {k : Nat} (hk : k < l.length) (j : Nat) :
    edgeAt (permute p l) k j = edgeAt l (p.getD k 0) j := by
  unfold edgeAt; rw [permute_getElem? hp hk]

theorem ctypeAt_permute (hp : p.Perm (List.range l.length)) {k : Nat} (hk : k < l.length) :
    ctypeAt (permute p l) k = ctypeAt l (p.getD k 0) := by
  unfold ctypeAt; rw [permute_getElem? hp hk]

/-- slot of `permute p l` ↦ slot of `l` -/
def pslot (p : List Nat) (h : Nat × Nat) : Nat × Nat := (p.getD h.1 0, h.2)

/-- slot of `l` ↦ slot of `permute p l` -/
def pslotInv (p : List Nat) (h : Nat × Nat) : Nat × Nat := (p.idxOf h.1, h.2)

theorem allEdges_permute (hp : p.Perm (List.range l.length)) : (allEdges (permute p l)).Perm (allEdges l) :=
  (permute_perm hp).flatMap_right _

theorem valid_permute (hp : p.Perm (List.range l.length)) (hv : Valid l) : Valid (permute p l) :=
  valid_of_perm (allEdges_permute hp) hv

theorem crossingNum_permute (hp : p.Perm (List.range l.length)) : crossingNum (permute p l) = crossingNum l := by
  unfold crossingNum
  exact ((permute_perm hp).filter _).length_eq

theorem slotIso_permute (hp : p.Perm (List.range l.length)) :
    SlotIso (permute p l) l (pslot p) (pslotInv p) where
  he := by
    intro h hh
    rw [HE, permute_length hp] at hh
    exact ⟨perm_getD_lt hp hh.1, hh.2⟩
  he_inv := by
    intro h hh
    rw [HE, permute_length hp]
    exact ⟨(perm_getD_idxOf hp hh.1).1, hh.2⟩
  left := by
    intro h hh
    rw [HE, permute_length hp] at hh
    show (p.idxOf (p.getD h.1 0), h.2) = h
    rw [perm_idxOf_getD hp hh.1]
  right := by
    intro h hh
    show (p.getD (p.idxOf h.1) 0, h.2) = h
    rw [(perm_getD_idxOf hp hh.1).2]
  lab_eq := by
    intro h hh
    rw [HE, permute_length hp] at hh
    exact (edgeAt_permute hp hh.1 h.2).symm
  thru_eq := by
    intro h hh
    rw [HE, permute_length hp] at hh
    show (p.getD h.1 0, (ctypeAt (permute p l) h.1).pass h.2) = (p.getD h.1 0, (ctypeAt l (p.getD h.1 0)).pass h.2)
    rw [ctypeAt_permute hp hh.1]

theorem thru_permute (hp : p.Perm (List.range l.length)) (h : Nat × Nat) (hh : HE (permute p l) h) :
    pslot p (thru (permute p l) h) = thru l (pslot p h) := (slotIso_permute hp).thru_eq h hh

theorem partner_permute (hp : p.Perm (List.range l.length)) (hv : Valid l) (h : Nat × Nat)
    (hh : HE (permute p l) h) : pslot p (partner (permute p l) h) = partner l (pslot p h) :=
  (slotIso_permute hp).partner_eq hv (valid_permute hp hv) h hh

theorem orient_permute (hp : p.Perm (List.range l.length)) (hv : Valid l) {O : Nat × Nat → Bool}
    (hO : Orient l O) : Orient (permute p l) (fun h => O (pslot p h)) :=
  (slotIso_permute hp).orient' hv (valid_permute hp hv) hO

theorem underIn_permute (hp : p.Perm (List.range l.length)) {O : Nat × Nat → Bool}
    (hU : UnderIn l O) : UnderIn (permute p l) (fun h => O (pslot p h)) := by
  intro i hi
  rw [permute_length hp] at hi
  exact hU _ (perm_getD_lt hp hi)

theorem determined_permute (hp : p.Perm (List.range l.length)) (hv : Valid l) (hD : Determined l) :
    Determined (permute p l) := by
  refine (slotIso_permute hp).determined hv (valid_permute hp hv) ?_ hD
  intro i hi
  refine ⟨p.idxOf i, ?_, SConn.refl _⟩
  rw [permute_length hp]
  exact (perm_getD_idxOf hp hi).1

theorem sgnAt_permute (hp : p.Perm (List.range l.length)) (O : Nat × Nat → Bool) {k : Nat} (hk : k < l.length) :
    sgnAt (permute p l) (fun h => O (pslot p h)) k = sgnAt l O (p.getD k 0) := by
  unfold sgnAt
  rw [ctypeAt_permute hp hk]
  rfl

theorem signsOf_permute (hp : p.Perm (List.range l.length)) (O : Nat × Nat → Bool) :
    signsOf (permute p l) (fun h => O (pslot p h)) = p.filterMap (sgnAt l O) := by
  unfold signsOf
  rw [permute_length hp]
  conv => rhs; rw [perm_eq_map_getD hp, List.filterMap_map]
  exact filterMap_congr_mem _ _ _ (fun k hk => sgnAt_permute hp O (List.mem_range.1 hk))

theorem count_filterMap_perm {α} (f : α → Option Sign) {p q : List α} (hp : p.Perm q) (s : Sign) :
    (p.filterMap f).count s = (q.filterMap f).count s :=
  (hp.filterMap f).count_eq s

theorem writheOf_perm {s t : List Sign} (h : s.Perm t) : writheOf s = writheOf t := by
  unfold writheOf; rw [h.count_eq, h.count_eq]

theorem signsOf_permute_perm (hp : p.Perm (List.range l.length)) (O : Nat × Nat → Bool) :
    (signsOf (permute p l) (fun h => O (pslot p h))).Perm (signsOf l O) := by
  rw [signsOf_permute hp]
  exact hp.filterMap _

theorem permute_transport (hp : p.Perm (List.range l.length)) (hv : Valid l) {O : Nat × Nat → Bool}
    (hO : Orient l O) (hU : UnderIn l O) :
    Valid (permute p l) ∧ Orient (permute p l) (fun h => O (pslot p h)) ∧
      UnderIn (permute p l) (fun h => O (pslot p h)) ∧
      signsOf (permute p l) (fun h => O (pslot p h)) = p.filterMap (sgnAt l O) ∧
      (∀ s, (signsOf (permute p l) (fun h => O (pslot p h))).count s = (signsOf l O).count s) ∧
      writheOf (signsOf (permute p l) (fun h => O (pslot p h))) = writheOf (signsOf l O) ∧
      crossingNum (permute p l) = crossingNum l :=
  ⟨valid_permute hp hv, orient_permute hp hv hO, underIn_permute hp hU, signsOf_permute hp O,
    (signsOf_permute_perm hp O).count_eq, writheOf_perm (signsOf_permute_perm hp O), crossingNum_permute hp⟩

end Perm

/-! ### non-vacuity: the hypotheses hold for the trefoil with `p = [2,0,1]` and the Hopf link with `p = [1,0]` -/

/-- entrance slots of the standard orientation of a PD code: slots 0 and 1 (true for the two examples) -/
def exOri : Nat × Nat → Bool := fun h => h.2 == 0 || h.2 == 1

/-- the trefoil and the Hopf link, oriented by `exOri`, satisfy the hypotheses of the sign theorems -/
theorem trefoil_hyps : Valid (fromPD [[1,4,2,5],[3,6,4,1],[5,2,6,3]]) ∧ Orient (fromPD [[1,4,2,5],[3,6,4,1],[5,2,6,3]]) exOri ∧
    UnderIn (fromPD [[1,4,2,5],[3,6,4,1],[5,2,6,3]]) exOri ∧ DeterminedB (fromPD [[1,4,2,5],[3,6,4,1],[5,2,6,3]]) := by
  decide +kernel

theorem hopf_hyps : Valid (fromPD [[4,1,3,2],[2,3,1,4]]) ∧ Orient (fromPD [[4,1,3,2],[2,3,1,4]]) exOri ∧
    UnderIn (fromPD [[4,1,3,2],[2,3,1,4]]) exOri ∧ DeterminedB (fromPD [[4,1,3,2],[2,3,1,4]]) := by
  decide +kernel

example : permute [2, 0, 1] (fromPD [[1,4,2,5],[3,6,4,1],[5,2,6,3]]) = fromPD [[5,2,6,3],[1,4,2,5],[3,6,4,1]] := by
  decide +kernel

example : [2, 0, 1].Perm (List.range (fromPD [[1,4,2,5],[3,6,4,1],[5,2,6,3]]).length) ∧
    Valid (fromPD [[1,4,2,5],[3,6,4,1],[5,2,6,3]]) ∧ Orient (fromPD [[1,4,2,5],[3,6,4,1],[5,2,6,3]]) exOri ∧
    UnderIn (fromPD [[1,4,2,5],[3,6,4,1],[5,2,6,3]]) exOri ∧ DeterminedB (fromPD [[1,4,2,5],[3,6,4,1],[5,2,6,3]]) :=
  ⟨by decide, trefoil_hyps⟩

example : permute [1, 0] (fromPD [[4,1,3,2],[2,3,1,4]]) = fromPD [[2,3,1,4],[4,1,3,2]] := by decide +kernel

example : [1, 0].Perm (List.range (fromPD [[4,1,3,2],[2,3,1,4]]).length) ∧
    Valid (fromPD [[4,1,3,2],[2,3,1,4]]) ∧ Orient (fromPD [[4,1,3,2],[2,3,1,4]]) exOri ∧
    UnderIn (fromPD [[4,1,3,2],[2,3,1,4]]) exOri ∧ DeterminedB (fromPD [[4,1,3,2],[2,3,1,4]]) :=
  ⟨by decide, hopf_hyps⟩

example : ∀ i, i < 3 → ∀ j, j < 4 → (fun h => exOri (pslot [2, 0, 1] h)) (i, j) = exOri (i, j) := by decide +kernel

end Yuiv.C18
