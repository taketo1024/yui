import Yuiv.Proofs.C12Decomp
import Yuiv.Props.C12
/-
C12 — `dir_sum_decomp` (decomp.rs): the code model `dirSumDecomp` of `Yuiv/Model/C12.lean` ALWAYS produces an
output that the verified checkers `checkDecomp` / `connectedBlk` accept.

Input well-formedness `WFC A` = the CSC storage invariant of nalgebra-sparse, and nothing else:
  * `rows`   : every stored row index of every column is `< A.nrows`;
  * `sorted` : the stored row indices of every column are strictly increasing (so no row is stored twice).
(Columns beyond `A.cols.size` read as empty; no relation between `A.cols.size` and `A.ncols` is needed.)
Stored values may be zero except where `NoZero A` (no explicit zero stored) is assumed.
Scalars: any commutative ring with lawful model operations (`LawfulScal R`; instances proved for `Int`, `Rat`,
`Fin 5`, `GI` in `Proofs/C12Rings.lean`); the no-panic theorem needs no law at all.
-/
namespace Yuiv.C12
open Yuiv Relation

section anyScalar
variable {α : Type} [Scal α]

set_option linter.unusedSectionVars false in
/-- **`group_cols` partitions the non-empty columns into the classes of "share a stored row index".**
No panic; the groups are disjoint, non-empty, consist of non-empty columns `< ncols`, cover every non-empty
column; a column sharing a row with a member of a group is in that group (`sep`), and any two members of a
group are linked by a chain of columns sharing rows (`conn`). -/
theorem groupCols_partition (A : SpMat α) (hA : WFC A) :
    ∃ cols, groupCols A = .ok cols ∧ cols.flatten.Nodup ∧
      (∀ g ∈ cols, g ≠ [] ∧ ∀ j ∈ g, j < A.ncols ∧ col A j ≠ []) ∧
      (∀ j, j < A.ncols → col A j ≠ [] → ∃ g ∈ cols, j ∈ g) ∧
      (∀ g ∈ cols, ∀ j ∈ g, ∀ j', Share A j j' → j' ∈ g) ∧
      (∀ g ∈ cols, ∀ j ∈ g, ∀ j' ∈ g, EqvGen (Share A) j j') := by
  obtain ⟨cols, h, hG⟩ := groupCols_grouping A hA
  exact ⟨cols, h, hG.nodup, fun g hg => ⟨hG.ne g hg, fun j hj => ⟨hG.lt g hg j hj, hG.colne g hg j hj⟩⟩,
    hG.cover, hG.sep, hG.conn⟩

/-- On every CSC-well-formed input the model of `dir_sum_decomp` does not panic (no
`perm_for_indices` assert, no `usize` underflow, no out-of-block entry, no row without a group) and does not
run out of fuel (`UnionFind::root` terminates) — for ANY scalar type, lawful or not. -/
theorem dirSumDecomp_ok (A : SpMat α) (hA : WFC A) : ∃ o, dirSumDecomp A = .ok o := by
  obtain ⟨cols, _, ⟨g, _, _, _, h⟩ | ⟨p, q, _, h⟩⟩ := dirSumDecomp_cases A hA
  · exact ⟨_, h⟩
  · exact ⟨_, h⟩

end anyScalar

section ring
variable {R : Type} [CommRing R] [Scal R] [LawfulScal R]

/-- both checks on the same output `o` (the two theorems below take it apart) -/
theorem dirSumDecomp_full (A : SpMat R) (hA : WFC A) :
    ∃ o, dirSumDecomp A = .ok o ∧ checkDecomp A o.p o.q o.blocks = true ∧
      (NoZero A → ∀ B ∈ o.blocks, connectedBlk B = true) := by
  obtain ⟨cols, hG, ⟨g, rfl, hr, hc, h⟩ | ⟨p, q, S, h⟩⟩ := dirSumDecomp_cases A hA
  · refine ⟨_, h, checkDecomp_trivial A, fun hnz B hB => ?_⟩
    rw [List.mem_singleton.1 hB]
    exact whole_connected hA hnz g hG hr hc
  · refine ⟨_, h, S.checkDecomp_ok, fun hnz B hB => ?_⟩
    obtain ⟨k, hk⟩ := List.getElem?_of_mem hB
    obtain ⟨g, hkg, rfl⟩ := blocksOf_getElem?_inv k B hk
    exact S.block_connected hnz k g hkg

/-- The decomposition checker accepts the model's own output, for every
CSC-well-formed input (stored zeros allowed).  Hence (by `decomp_checker_sound`, unfolded here) `p` and `q`
are permutations of the rows / columns, the blocks fit, and the permuted matrix is entrywise the
block-diagonal sum of the returned blocks — zero outside the blocks, i.e. plus zero rows / columns. -/
theorem dirSumDecomp_block_diagonal (A : SpMat R) (hA : WFC A) :
    ∃ o, dirSumDecomp A = .ok o ∧ checkDecomp A o.p o.q o.blocks = true ∧
      ∃ (σ : Equiv.Perm (Fin A.nrows)) (τ : Equiv.Perm (Fin A.ncols)),
        (∀ i, (σ i : Nat) = o.p.getD i 0) ∧ (∀ j, (τ j : Nat) = o.q.getD j 0) ∧
        (o.blocks.map (·.nrows)).sum ≤ A.nrows ∧ (o.blocks.map (·.ncols)).sum ≤ A.ncols ∧
        ∀ (i : Fin A.nrows) (j : Fin A.ncols), entry A i j = bdEntry o.blocks (σ i) (τ j) := by
  obtain ⟨o, h1, h2, _⟩ := dirSumDecomp_full A hA
  exact ⟨o, h1, h2, decomp_checker_sound A o.p o.q o.blocks h2⟩

/-- When the input stores no explicit zero, every returned block passes the
connectivity check, hence (by `block_connected_checker_sound`, unfolded here) no block is a direct sum of two
smaller blocks and no block has a zero row or column: there is no set `S` of its rows/columns, non-empty with
non-empty complement, that no stored non-zero entry leaves. -/
theorem dirSumDecomp_blocks_connected (A : SpMat R) (hA : WFC A) (hnz : NoZero A) :
    ∃ o, dirSumDecomp A = .ok o ∧
      ∀ B ∈ o.blocks, connectedBlk B = true ∧ ∀ S : Nat → Prop, ¬ Splits B S := by
  obtain ⟨o, h1, _, h2⟩ := dirSumDecomp_full A hA
  exact ⟨o, h1, fun B hB => ⟨h2 hnz B hB, block_connected_checker_sound B (h2 hnz B hB)⟩⟩

/-- the connectivity check is also COMPLETE (used above): a block in which every edge-closed set containing
vertex 0 is everything is accepted by `connectedBlk` -/
theorem block_connected_checker_complete {α : Type} [Scal α] (B : SpMat α)
    (hrows : ∀ j, j < B.ncols → ∀ e ∈ col B j, e.1 < B.nrows) (hn : 0 < B.nrows + B.ncols)
    (H : ∀ P : Nat → Prop, P 0 →
      (∀ j, j < B.ncols → ∀ e ∈ col B j, isZero e.2 = false → (P e.1 ↔ P (B.nrows + j))) →
      ∀ v, v < B.nrows + B.ncols → P v) :
    connectedBlk B = true := connectedBlk_complete B hrows hn H

end ring

/-- the hypotheses are satisfiable by a non-trivial value: a 3×4 integer matrix with two blocks
(columns {0,2} sharing row 0, column {1}), an empty column and no stored zero -/
example : ∃ A : SpMat Int, WFC A ∧ NoZero A ∧ A.ncols = 4 ∧ col A 0 ≠ [] :=
  ⟨⟨3, 4, #[[(0, 2), (2, 5)], [(1, 7)], [(0, 1)], []]⟩,
    ⟨forall_col _ (fun _ c => ∀ e ∈ c, e.1 < 3) (fun _ _ h => nomatch h) (by decide),
      forall_col _ (fun _ c => (c.map (·.1)).Pairwise (· < ·)) (fun _ => List.Pairwise.nil) (by decide)⟩,
    forall_col _ (fun _ c => ∀ e ∈ c, isZero e.2 = false) (fun _ _ h => nomatch h) (by decide), rfl, by decide⟩

/-- the model on that value: two blocks, accepted by both checkers (evaluated by the kernel) -/
example : (match dirSumDecomp (α := Int) ⟨3, 4, #[[(0, 2), (2, 5)], [(1, 7)], [(0, 1)], []]⟩ with
    | .ok o => o.blocks.length == 2 &&
        checkDecomp (α := Int) ⟨3, 4, #[[(0, 2), (2, 5)], [(1, 7)], [(0, 1)], []]⟩ o.p o.q o.blocks &&
        o.blocks.all connectedBlk
    | _ => false) = true := by decide +kernel

end Yuiv.C12
