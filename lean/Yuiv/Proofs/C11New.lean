import Yuiv.Model.C11New
import Yuiv.Proofs.C11
/-
C11 — `MatrixStr::new` (model `matrixStrNew`, `Model/C11New.lean`) builds a well-formed structure from every CSC matrix
whose columns have strictly increasing, in-range row indices.  Core Lean only.  The point is the order: the triplet
list of a valid CSC matrix, filtered to one internal row, has strictly increasing internal columns — for `Rows` one
entry per column block, blocks in increasing column order; for `Cols` one column block.
-/
namespace Yuiv.C11
open Yuiv Res

/-- the CSC storage invariant (nalgebra-sparse `CscMatrix`): in every column the stored row indices are strictly
increasing and in range.  (`cols.size = ncols` is not needed: missing columns read as empty, surplus ones are ignored.) -/
def Csc.Valid (a : Csc) : Prop :=
  ∀ j, j < a.ncols → ((a.col j).map (·.1)).Pairwise (· < ·) ∧ ∀ e ∈ a.col j, e.1 < a.nrows

instance (a : Csc) : Decidable a.Valid := by unfold Csc.Valid; exact inferInstance

/-- the array sizes `vec![..; m]` / `vec![..; n]` -/
structure Str.Sized (s : Str) : Prop where
  ent : s.ent.size = s.nrows
  cnd : s.cnd.size = s.nrows
  rowW : s.rowW.size = s.nrows
  colW : s.colW.size = s.ncols

abbrev Tup := Nat × Nat × Nat × Bool

/-- columns pushed to `entries[i]`, in order -/
def entOf (es : List Tup) (i : Nat) : List Nat := (es.filter fun e => e.1 == i).map (·.2.1)
/-- columns inserted into `cands[i]`, in order -/
def cndOf (es : List Tup) (i : Nat) : List Nat := (es.filter fun e => e.1 == i && e.2.2.2).map (·.2.1)
/-- weight added to `row_wght[i]` -/
def rowWOf (es : List Tup) (i : Nat) : Nat := ((es.filter fun e => e.1 == i).map (·.2.2.1)).sum
/-- weight added to `col_wght[j]` -/
def colWOf (es : List Tup) (j : Nat) : Nat := ((es.filter fun e => e.2.1 == j).map (·.2.2.1)).sum

theorem mem_entOf {es : List Tup} {i j : Nat} : j ∈ entOf es i ↔ ∃ w b, (i, j, w, b) ∈ es := by
  simp only [entOf, List.mem_map, List.mem_filter, beq_iff_eq]
  constructor
  · rintro ⟨⟨i', j', w, b⟩, ⟨he, rfl⟩, rfl⟩; exact ⟨w, b, he⟩
  · rintro ⟨w, b, he⟩; exact ⟨_, ⟨he, rfl⟩, rfl⟩

theorem mem_cndOf {es : List Tup} {i j : Nat} : j ∈ cndOf es i ↔ ∃ w, (i, j, w, true) ∈ es := by
  simp only [cndOf, List.mem_map, List.mem_filter, Bool.and_eq_true, beq_iff_eq]
  constructor
  · rintro ⟨⟨i', j', w, b⟩, ⟨he, rfl, rfl⟩, rfl⟩; exact ⟨w, he⟩
  · rintro ⟨w, he⟩; exact ⟨_, ⟨he, rfl, rfl⟩, rfl⟩

theorem cndOf_subset (es : List Tup) (k j : Nat) (h : j ∈ cndOf es k) : j ∈ entOf es k :=
  let ⟨w, he⟩ := mem_cndOf.1 h
  mem_entOf.2 ⟨w, true, he⟩

theorem getD_modify {α} (xs : Array α) (i k : Nat) (f : α → α) (d : α) :
    (xs.modify i f).getD k d = if i = k ∧ k < xs.size then f (xs.getD k d) else xs.getD k d := by
  simp only [Array.getD_eq_getD_getElem?, Array.getElem?_modify]
  by_cases h : i = k
  · subst h
    by_cases hk : i < xs.size
    · simp [hk]
    · simp [hk]
  · simp [h]

theorem getD_replicate {α} (n i : Nat) (d : α) : (Array.replicate n d).getD i d = d := by
  simp only [Array.getD_eq_getD_getElem?, Array.getElem?_replicate]; split <;> rfl

theorem Str.empty_sized (m n : Nat) : (Str.empty m n).Sized := by
  constructor <;> simp [Str.empty]

theorem push_spec (s : Str) (hs : s.Sized) (i j w : Nat) (c : Bool) (hi : i < s.nrows) (hj : j < s.ncols) :
    ∃ s', s.push i j w c = ok s' ∧ s'.Sized ∧ s'.nrows = s.nrows ∧ s'.ncols = s.ncols ∧
      (∀ k, s'.ent.getD k [] = s.ent.getD k [] ++ entOf [(i, j, w, c)] k) ∧
      (∀ k, s'.cnd.getD k [] = s.cnd.getD k [] ++ cndOf [(i, j, w, c)] k) ∧
      (∀ k, s'.rowW.getD k 0 = s.rowW.getD k 0 + rowWOf [(i, j, w, c)] k) ∧
      (∀ k, s'.colW.getD k 0 = s.colW.getD k 0 + colWOf [(i, j, w, c)] k) := by
  refine ⟨{ s with
      ent := s.ent.modify i (· ++ [j])
      rowW := s.rowW.modify i (· + w)
      colW := s.colW.modify j (· + w)
      cnd := if c then s.cnd.modify i (· ++ [j]) else s.cnd }, by simp [Str.push, hi, hj], ?_, rfl, rfl, ?_, ?_, ?_, ?_⟩
  · constructor
    · simp [hs.ent]
    · cases c <;> simp [hs.cnd]
    · simp [hs.rowW]
    · simp [hs.colW]
  · intro k
    simp only [getD_modify, hs.ent, entOf, List.filter_cons, List.filter_nil]
    by_cases h : i = k
    · subst h; simp [hi]
    · simp [h]
  · intro k
    cases c
    · simp [cndOf]
    · simp only [getD_modify, hs.cnd, cndOf, List.filter_cons, List.filter_nil, if_true]
      by_cases h : i = k
      · subst h; simp [hi]
      · simp [h]
  · intro k
    simp only [getD_modify, hs.rowW, rowWOf, List.filter_cons, List.filter_nil]
    by_cases h : i = k
    · subst h; simp [hi]
    · simp [h]
  · intro k
    simp only [getD_modify, hs.colW, colWOf, List.filter_cons, List.filter_nil]
    by_cases h : j = k
    · subst h; simp [hj]
    · simp [h]

theorem entOf_cons (e : Tup) (es : List Tup) (k : Nat) : entOf (e :: es) k = entOf [e] k ++ entOf es k := by
  simp only [entOf, List.filter_cons, List.filter_nil]; split <;> simp
theorem cndOf_cons (e : Tup) (es : List Tup) (k : Nat) : cndOf (e :: es) k = cndOf [e] k ++ cndOf es k := by
  simp only [cndOf, List.filter_cons, List.filter_nil]; split <;> simp
theorem rowWOf_cons (e : Tup) (es : List Tup) (k : Nat) : rowWOf (e :: es) k = rowWOf [e] k + rowWOf es k := by
  simp only [rowWOf, List.filter_cons, List.filter_nil]; split <;> simp
theorem colWOf_cons (e : Tup) (es : List Tup) (k : Nat) : colWOf (e :: es) k = colWOf [e] k + colWOf es k := by
  simp only [colWOf, List.filter_cons, List.filter_nil]; split <;> simp

theorem pushAll_spec (es : List Tup) : ∀ (s : Str), s.Sized → (∀ e ∈ es, e.1 < s.nrows ∧ e.2.1 < s.ncols) →
    ∃ s', s.pushAll es = ok s' ∧ s'.Sized ∧ s'.nrows = s.nrows ∧ s'.ncols = s.ncols ∧
      (∀ k, s'.ent.getD k [] = s.ent.getD k [] ++ entOf es k) ∧
      (∀ k, s'.cnd.getD k [] = s.cnd.getD k [] ++ cndOf es k) ∧
      (∀ k, s'.rowW.getD k 0 = s.rowW.getD k 0 + rowWOf es k) ∧
      (∀ k, s'.colW.getD k 0 = s.colW.getD k 0 + colWOf es k) := by
  induction es with
  | nil => intro s hs _; exact ⟨s, rfl, hs, rfl, rfl, by simp [entOf], by simp [cndOf], by simp [rowWOf], by simp [colWOf]⟩
  | cons e es ih =>
    intro s hs hr
    obtain ⟨i, j, w, c⟩ := e
    have hij := hr (i, j, w, c) (List.mem_cons_self ..)
    obtain ⟨s1, e1, hs1, hn1, hm1, a1, b1, c1, d1⟩ := push_spec s hs i j w c hij.1 hij.2
    obtain ⟨s2, e2, hs2, hn2, hm2, a2, b2, c2, d2⟩ := ih s1 hs1 (by
      intro e he; rw [hn1, hm1]; exact hr e (List.mem_cons_of_mem _ he))
    refine ⟨s2, ?_, hs2, hn2.trans hn1, hm2.trans hm1, ?_, ?_, ?_, ?_⟩
    · show (do let s ← s.push i j w c; s.pushAll es) = ok s2
      rw [e1]; exact e2
    · intro k; rw [a2, a1, entOf_cons (i, j, w, c) es k, List.append_assoc]
    · intro k; rw [b2, b1, cndOf_cons (i, j, w, c) es k, List.append_assoc]
    · intro k; rw [c2, c1, rowWOf_cons (i, j, w, c) es k, Nat.add_assoc]
    · intro k; rw [d2, d1, colWOf_cons (i, j, w, c) es k, Nat.add_assoc]

theorem swap_rows (i j : Nat) : PivType.rows.swap i j = (i, j) := rfl
theorem swap_cols (i j : Nat) : PivType.cols.swap i j = (j, i) := rfl

/-- a stored non-zero value `r` at position `(i, j)` of the matrix (external orientation) -/
def Csc.Stored (a : Csc) (i j : Nat) (r : Scl) : Prop := j < a.ncols ∧ (i, r) ∈ a.col j ∧ r.zero = false

theorem mem_exportEntries_iff (a : Csc) (t : PivType) (c : Cond) (i j w : Nat) (b : Bool) :
    (i, j, w, b) ∈ exportEntries a t c ↔
      ∃ r, a.Stored (t.swap i j).1 (t.swap i j).2 r ∧ w = r.wt ∧ b = c.isCand r := by
  simp only [exportEntries, Csc.iter, List.mem_map, List.mem_filter, List.mem_flatMap, List.mem_range,
    Csc.Stored, exportEntry]
  constructor
  · rintro ⟨⟨i', j', r⟩, ⟨⟨j'', hj, e, he, h⟩, hz⟩, h'⟩
    cases h
    cases t <;> cases h' <;> exact ⟨e.2, ⟨hj, he, by simpa using hz⟩, rfl, rfl⟩
  · rintro ⟨r, ⟨hj, he, hz⟩, rfl, rfl⟩
    cases t
    · exact ⟨(i, j, r), ⟨⟨j, hj, (i, r), he, rfl⟩, by simp [hz]⟩, rfl⟩
    · exact ⟨(j, i, r), ⟨⟨i, hj, (j, r), he, rfl⟩, by simp [hz]⟩, rfl⟩

theorem mem_entOf_iff (a : Csc) (t : PivType) (c : Cond) (i j : Nat) :
    j ∈ entOf (exportEntries a t c) i ↔ ∃ r, a.Stored (t.swap i j).1 (t.swap i j).2 r := by
  simp only [mem_entOf, mem_exportEntries_iff]
  exact ⟨fun ⟨_, _, r, h, _⟩ => ⟨r, h⟩, fun ⟨r, h⟩ => ⟨_, _, r, h, rfl, rfl⟩⟩

theorem mem_cndOf_iff (a : Csc) (t : PivType) (c : Cond) (i j : Nat) :
    j ∈ cndOf (exportEntries a t c) i ↔ ∃ r, a.Stored (t.swap i j).1 (t.swap i j).2 r ∧ c.isCand r = true := by
  simp only [mem_cndOf, mem_exportEntries_iff]
  exact ⟨fun ⟨_, r, h, _, hc⟩ => ⟨r, h, hc.symm⟩, fun ⟨r, h, hc⟩ => ⟨_, r, h, rfl, hc.symm⟩⟩

theorem exportEntries_inrange (a : Csc) (ha : a.Valid) (t : PivType) (c : Cond) :
    ∀ e ∈ exportEntries a t c, e.1 < (t.shape a).1 ∧ e.2.1 < (t.shape a).2 := by
  rintro ⟨i, j, w, b⟩ hx
  obtain ⟨r, ⟨hj, he, _⟩, _⟩ := (mem_exportEntries_iff a t c i j w b).1 hx
  have hr := (ha _ hj).2 _ he
  cases t
  · exact ⟨hr, hj⟩
  · exact ⟨hj, hr⟩

/-- the block of loop iterations coming from column `j` -/
def colBlock (a : Csc) (t : PivType) (c : Cond) (j : Nat) : List Tup :=
  (((a.col j).map fun e => (e.1, j, e.2)).filter fun e => !e.2.2.zero).map (exportEntry t c)

theorem exportEntries_eq (a : Csc) (t : PivType) (c : Cond) :
    exportEntries a t c = (List.range a.ncols).flatMap (colBlock a t c) := by
  simp only [exportEntries, Csc.iter, List.filter_flatMap, List.map_flatMap]; rfl

theorem mem_colBlock {a : Csc} {t : PivType} {c : Cond} {j : Nat} {x : Tup} (h : x ∈ colBlock a t c j) :
    ∃ e ∈ a.col j, e.2.zero = false ∧ x = exportEntry t c (e.1, j, e.2) := by
  simp only [colBlock, List.mem_map, List.mem_filter] at h
  obtain ⟨y, ⟨⟨e, he, rfl⟩, hz⟩, rfl⟩ := h
  exact ⟨e, he, by simpa using hz, rfl⟩

theorem entOf_flatMap (l : List Nat) (g : Nat → List Tup) (k : Nat) :
    entOf (l.flatMap g) k = l.flatMap fun j => entOf (g j) k := by
  simp only [entOf, List.filter_flatMap, List.map_flatMap]

theorem entOf_colBlock_pairwise (a : Csc) (t : PivType) (c : Cond) (j k : Nat)
    (h : ((a.col j).map (·.1)).Pairwise (· < ·)) : (entOf (colBlock a t c j) k).Pairwise (· < ·) := by
  have h' : (a.col j).Pairwise (fun e e' => e.1 < e'.1) := List.pairwise_map.1 h
  simp only [entOf, colBlock, List.filter_map, List.map_map, List.pairwise_map]
  refine List.Pairwise.imp_of_mem ?_ ((h'.filter _).filter _)
  intro e e' he he' hlt
  simp only [List.mem_filter, Function.comp_apply] at he he'
  cases t
  · -- Rows: both entries lie in internal row `k` = their own row index, impossible for two of them
    have h1 := he.2; have h2 := he'.2
    simp [exportEntry, swap_rows] at h1 h2
    omega
  · simpa [exportEntry, swap_cols] using hlt

theorem entOf_exportEntries_pairwise (a : Csc) (ha : a.Valid) (t : PivType) (c : Cond) (k : Nat) :
    (entOf (exportEntries a t c) k).Pairwise (· < ·) := by
  rw [exportEntries_eq, entOf_flatMap, List.pairwise_flatMap]
  refine ⟨fun j hj => entOf_colBlock_pairwise a t c j k (ha j (List.mem_range.1 hj)).1, ?_⟩
  refine List.Pairwise.imp ?_ (List.pairwise_lt_range (n := a.ncols))
  intro j j' hlt x hx y hy
  simp only [entOf, List.mem_map, List.mem_filter] at hx hy
  obtain ⟨u, ⟨hu, huk⟩, rfl⟩ := hx
  obtain ⟨v, ⟨hv, hvk⟩, rfl⟩ := hy
  obtain ⟨e, _, _, rfl⟩ := mem_colBlock hu
  obtain ⟨e', _, _, rfl⟩ := mem_colBlock hv
  cases t
  · simpa [exportEntry, swap_rows] using hlt
  · -- Cols: both blocks would have to be the block of column `k`
    simp [exportEntry, swap_cols] at huk hvk
    omega

theorem matrixStrNew_spec (a : Csc) (ha : a.Valid) (t : PivType) (c : Cond) :
    ∃ s, matrixStrNew a t c = ok s ∧ s.WF ∧ s.Sized ∧ s.nrows = (t.shape a).1 ∧ s.ncols = (t.shape a).2 ∧
      (∀ i, colsIn s i = entOf (exportEntries a t c) i) ∧
      (∀ i j, isCand s i j = true ↔ j ∈ cndOf (exportEntries a t c) i) ∧
      (∀ i, s.rowW.getD i 0 = rowWOf (exportEntries a t c) i) ∧
      (∀ j, s.colW.getD j 0 = colWOf (exportEntries a t c) j) := by
  obtain ⟨s, e, hs, hn, hm, h1, h2, h3, h4⟩ :=
    pushAll_spec (exportEntries a t c) (Str.empty (t.shape a).1 (t.shape a).2) (Str.empty_sized _ _)
      (exportEntries_inrange a ha t c)
  have g1 : ∀ i, colsIn s i = entOf (exportEntries a t c) i := by
    intro i; rw [colsIn, h1]; simp only [Str.empty, getD_replicate, List.nil_append]
  have g2 : ∀ i j, isCand s i j = true ↔ j ∈ cndOf (exportEntries a t c) i := by
    intro i j
    have : s.cnd.getD i [] = cndOf (exportEntries a t c) i := by
      rw [h2]; simp only [Str.empty, getD_replicate, List.nil_append]
    rw [isCand, this]; simp
  refine ⟨s, e, ⟨?_, ?_⟩, hs, hn, hm, g1, g2, ?_, ?_⟩
  · intro i; rw [g1]; exact entOf_exportEntries_pairwise a ha t c i
  · intro i j h; rw [g1]; exact cndOf_subset _ _ _ ((g2 i j).1 h)
  · intro i; rw [h3]; simp only [Str.empty, getD_replicate, Nat.zero_add]
  · intro j; rw [h4]; simp only [Str.empty, getD_replicate, Nat.zero_add]

end Yuiv.C11
