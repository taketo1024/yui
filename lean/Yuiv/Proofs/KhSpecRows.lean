import Yuiv.Proofs.KhSpecDefs
import Yuiv.Proofs.KhRefLoops
import Yuiv.Proofs.C04InvSort
/-
KhSpec — the sparse rows that `KhRef.homologyOf` builds (`KhSnf.rowsAt`), entry by entry: `normalizeRow` preserves the
value at every column (only `qsort_perm` is used, not sortedness), and the hash map of `rowsAt` sends a target to its
position when the target list is duplicate-free (`rowsAt_entry`).
-/
namespace Yuiv.KhSpec
open Yuiv.KhRef Yuiv.KhSnf

/-- `push` that drops an entry with value zero -/
def pushNZ (r : Row) (x : Nat × Int) : Row := if x.2 != 0 then r.push x else r

/-- one round of the loop of `normalizeRow`: the entry joins the last one if it has its column; zeros are dropped -/
def nstep (out : Row) (cv : Nat × Int) : Row :=
  if out.size > 0 && out[out.size - 1]!.1 == cv.1 then pushNZ out.pop (cv.1, out[out.size - 1]!.2 + cv.2)
  else pushNZ out cv

theorem normalizeRow_eq (r : Array (Nat × Int)) :
    normalizeRow r = (r.qsort (fun a b => a.1 < b.1)).toList.foldl nstep #[] := by
  unfold normalizeRow
  simp only [← Array.forIn_toList]
  show Id.run (forIn _ _ _ >>= fun s => pure s) = _
  rw [bind_pure]
  show Id.run (forIn _ _ _) = _
  rw [Loop.forIn_eq_foldl (g := nstep)]
  · rfl
  · intro x _ s
    unfold nstep pushNZ
    split <;> split <;> rfl

theorem rval_push (out : Row) (x : Nat × Int) (c : Nat) :
    rval (out.push x) c = rval out c + (if x.1 == c then x.2 else 0) := by
  unfold rval
  rw [Array.toList_push, List.filter_append, List.map_append, List.sum_append]
  by_cases h : x.1 == c <;> simp [h]

theorem pop_push_last (out : Row) (h : out.size > 0) : out.pop.push out[out.size - 1]! = out :=
  (Array.eq_push_pop_back!_of_size_ne_zero (Nat.ne_of_gt h)).symm

theorem rval_pushNZ (r : Row) (x : Nat × Int) (c : Nat) :
    rval (pushNZ r x) c = rval r c + (if x.1 == c then x.2 else 0) := by
  unfold pushNZ
  split
  · exact rval_push r x c
  · rename_i h
    simp only [bne_iff_ne, ne_eq, not_not] at h
    rw [h]
    split <;> omega

theorem rval_nstep (out : Row) (cv : Nat × Int) (c : Nat) :
    rval (nstep out cv) c = rval out c + (if cv.1 == c then cv.2 else 0) := by
  unfold nstep
  split
  · rename_i h
    simp only [Bool.and_eq_true, decide_eq_true_eq, beq_iff_eq] at h
    -- the last entry is taken off and comes back with `cv.2` added
    rw [rval_pushNZ]
    conv_rhs => rw [← pop_push_last out h.1, rval_push, h.2]
    dsimp only
    split <;> omega
  · exact rval_pushNZ out cv c

theorem rval_foldl_nstep (l : List (Nat × Int)) (out : Row) (c : Nat) :
    rval (l.foldl nstep out) c = rval out c + ((l.filter (fun x => x.1 == c)).map (fun x => x.2)).sum := by
  induction l generalizing out with
  | nil => simp
  | cons x l ih =>
    rw [List.foldl_cons, ih, rval_nstep, List.filter_cons]
    by_cases hc : x.1 == c <;> simp [hc] ; omega

theorem rval_normalizeRow (r : Array (Nat × Int)) (c : Nat) :
    rval (normalizeRow r) c = ((r.toList.filter (fun x => x.1 == c)).map (fun x => x.2)).sum := by
  rw [normalizeRow_eq, rval_foldl_nstep]
  have hp : (r.qsort (fun a b => a.1 < b.1)).toList.Perm r.toList := (C04Inv.qsort_perm r _).toList
  rw [rval_empty, Int.zero_add]
  exact ((hp.filter _).map _).sum_eq

/-- the index map of `rowsAt` after the first `k` rounds -/
def idxK (tgt : Array Gen) (k : Nat) : Std.HashMap Gen Nat :=
  (List.range k).foldl (fun m j => m.insert tgt[j]! j) ∅

theorem idx_loop (tgt : Array Gen) :
    (forIn (m := Id) (List.range' 0 tgt.size) (∅ : Std.HashMap Gen Nat)
      (fun j s => pure (ForInStep.yield (s.insert tgt[j]! j))) >>= fun s => pure s).run = idxK tgt tgt.size := by
  rw [bind_pure]
  show Id.run (forIn _ _ _) = _
  rw [Loop.forIn_eq_foldl (g := fun (s : Std.HashMap Gen Nat) j => s.insert tgt[j]! j) (fun _ _ _ => rfl),
    ← List.range_eq_range']
  rfl

theorem rowsAt_eq (gens : Array (Array Gen)) (d : Gen → Array Term) (i : Nat) :
    rowsAt gens d i = (gens[i]!).map (fun g => normalizeRow ((d g).map
      (fun t => (((idxK (gens[i + 1]!) (gens[i + 1]!).size).get? t.1).getD 0, t.2)))) := by
  unfold rowsAt
  simp only [Std.Legacy.Range.forIn_eq_forIn_range', Std.Legacy.Range.size, Nat.sub_zero, Nat.add_sub_cancel, Nat.div_one]
  have h := idx_loop (gens[i + 1]!)
  simp only [h]

theorem rowsAt_size (gens : Array (Array Gen)) (d : Gen → Array Term) (i : Nat) :
    (rowsAt gens d i).size = (gens[i]!).size := by
  rw [rowsAt_eq, Array.size_map]

theorem rowsAt_congr (gens : Array (Array Gen)) (d d' : Gen → Array Term) (i : Nat)
    (h : ∀ g ∈ (gens[i]!).toList, d g = d' g) : rowsAt gens d i = rowsAt gens d' i := by
  rw [rowsAt_eq, rowsAt_eq]
  apply Array.map_congr_left
  intro g hg
  rw [h g (Array.mem_toList_iff.mpr hg)]

theorem invAt_congr (gens : Array (Array Gen)) (d d' : Gen → Array Term) (i : Nat)
    (h : ∀ g ∈ (gens[i]!).toList, d g = d' g) : invAt gens d i = invAt gens d' i := by
  unfold invAt
  rw [rowsAt_congr gens d d' i h]

theorem homologyOf_congr (k : Coeff) (gens : Array (Array Gen)) (d d' : Gen → Array Term)
    (h : ∀ i : Nat, ∀ g ∈ (gens[i]!).toList, d g = d' g) : homologyOf k gens d = homologyOf k gens d' := by
  -- `groupAt` reads the table only through `invAt`
  have e : invAt gens d = invAt gens d' := funext fun i => invAt_congr gens d d' i (h i)
  have e' : groupAt k gens d = groupAt k gens d' := by
    funext i
    unfold groupAt
    rw [e]
  rw [homologyOf_eq, homologyOf_eq, e']

theorem getElem!_inj {tgt : Array Gen} (hnd : tgt.toList.Nodup) {a b : Nat} (ha : a < tgt.size) (hb : b < tgt.size)
    (h : tgt[a]! = tgt[b]!) : a = b := by
  rw [getElem!_pos tgt a ha, getElem!_pos tgt b hb, ← Array.getElem_toList, ← Array.getElem_toList] at h
  exact (List.Nodup.getElem_inj_iff hnd).mp h

theorem idxK_get (tgt : Array Gen) (hnd : tgt.toList.Nodup) (k : Nat) (hk : k ≤ tgt.size) (j : Nat) (hj : j < k) :
    (idxK tgt k).get? tgt[j]! = some j :=
  (KhRefLoops.indexMap_getElem? tgt hnd k hk tgt[j]! j).2 ⟨hj, rfl⟩

theorem idx_lt (tgt : Array Gen) (hnd : tgt.toList.Nodup) (y : Gen) (hy : y ∈ tgt.toList) :
    ((idxK tgt tgt.size).get? y).getD 0 < tgt.size := by
  obtain ⟨j, hj, rfl⟩ := List.mem_iff_getElem.mp hy
  have hj' : j < tgt.size := by simpa using hj
  rw [Array.getElem_toList, ← getElem!_pos tgt j hj', idxK_get tgt hnd _ (Nat.le_refl _) j hj', Option.getD_some]
  exact hj'

/-- the test `coefT` uses to recognise a target -/
theorem gen_beq_iff (x y : Gen) : (x.s == y.s && x.mask == y.mask) = true ↔ x = y := by
  rw [Bool.and_eq_true, beq_iff_eq, beq_iff_eq]
  constructor
  · rintro ⟨h1, h2⟩
    cases x; cases y; cases h1; cases h2; rfl
  · rintro rfl
    exact ⟨rfl, rfl⟩

theorem col_eq (tgt : Array Gen) (hnd : tgt.toList.Nodup) (y : Gen) (hy : y ∈ tgt.toList) (b : Nat) (hb : b < tgt.size) :
    (((idxK tgt tgt.size).get? y).getD 0 == b) = (y.s == tgt[b]!.s && y.mask == tgt[b]!.mask) := by
  obtain ⟨j, hj, rfl⟩ := List.mem_iff_getElem.mp hy
  have hj' : j < tgt.size := by simpa using hj
  rw [Array.getElem_toList, ← getElem!_pos tgt j hj', idxK_get tgt hnd _ (Nat.le_refl _) j hj', Option.getD_some]
  rw [Bool.eq_iff_iff, gen_beq_iff, beq_iff_eq]
  exact ⟨fun h => h ▸ rfl, getElem!_inj hnd hj' hb⟩

theorem filter_col_eq (tgt : Array Gen) (hnd : tgt.toList.Nodup) (ts : List Term) (hts : ∀ t ∈ ts, t.1 ∈ tgt.toList)
    (b : Nat) (hb : b < tgt.size) :
    ts.filter (fun t => ((idxK tgt tgt.size).get? t.1).getD 0 == b) =
      ts.filter (fun t => t.1.s == tgt[b]!.s && t.1.mask == tgt[b]!.mask) :=
  List.filter_congr fun t ht => col_eq tgt hnd t.1 (hts t ht) b hb

theorem rval_normalizeRow_map (ts : Array Term) (col : Gen → Nat) (b : Nat) :
    rval (normalizeRow (ts.map (fun t => (col t.1, t.2)))) b =
      ((ts.toList.filter (fun t => col t.1 == b)).map (fun t => t.2)).sum := by
  rw [rval_normalizeRow, Array.toList_map, List.filter_map, List.map_map]
  rfl

theorem rowsAt_entry (gens : Array (Array Gen)) (d : Gen → Array Term) (i : Nat)
    (hnd : ((gens[i + 1]!).toList).Nodup)
    (htgt : ∀ g ∈ (gens[i]!).toList, ∀ t ∈ (d g).toList, t.1 ∈ (gens[i + 1]!).toList)
    (a b : Nat) (ha : a < (gens[i]!).size) (hb : b < (gens[i + 1]!).size) :
    rval (rowsAt gens d i)[a]! b = C02Mirror.coefT (d (gens[i]!)[a]!) (gens[i + 1]!)[b]! := by
  have hg : (gens[i]!)[a]! ∈ (gens[i]!).toList := get_mem ha
  rw [rowsAt_eq, getElem!_pos _ a (by rw [Array.size_map]; exact ha), Array.getElem_map,
    ← getElem!_pos (gens[i]!) a ha,
    rval_normalizeRow_map _ (fun y => ((idxK (gens[i + 1]!) (gens[i + 1]!).size).get? y).getD 0)]
  rw [filter_col_eq _ hnd _ (htgt _ hg) b hb]
  rfl

theorem coefT_sum_single (l : List Gen) (hnd : l.Nodup) (y : Gen) (hy : y ∈ l) (a : Int) (F : Gen → Int) :
    (l.map (fun g => (if (y.s == g.s && y.mask == g.mask) then a else 0) * F g)).sum = a * F y := by
  induction l with
  | nil => cases hy
  | cons x l ih =>
    rw [List.nodup_cons] at hnd
    rw [List.map_cons, List.sum_cons]
    by_cases hxy : y = x
    · subst hxy
      have : (l.map (fun g => (if (y.s == g.s && y.mask == g.mask) then a else 0) * F g)).sum = 0 := by
        apply List.sum_eq_zero
        intro v hv
        obtain ⟨g, hg, rfl⟩ := List.mem_map.mp hv
        rw [if_neg (fun h => hnd.1 ((gen_beq_iff y g).mp h ▸ hg)), Int.zero_mul]
      rw [this, if_pos ((gen_beq_iff y y).mpr rfl), Int.add_zero]
    · rw [ih hnd.2 ((List.mem_cons.mp hy).resolve_left hxy), if_neg (fun h => hxy ((gen_beq_iff y x).mp h)),
        Int.zero_mul, Int.zero_add]

theorem sum_by_target_list (ts : List Term) (l : List Gen) (hnd : l.Nodup)
    (hmem : ∀ t ∈ ts, t.1 ∈ l) (F : Gen → Int) :
    (ts.map (fun t => t.2 * F t.1)).sum =
      (l.map (fun g => C02Mirror.coefT ts.toArray g * F g)).sum := by
  induction ts with
  | nil => simp [C02Mirror.coefT]
  | cons t ts ih =>
    rw [List.map_cons, List.sum_cons, ih (fun t ht => hmem t (List.mem_cons_of_mem _ ht)),
      ← coefT_sum_single l hnd t.1 (hmem t List.mem_cons_self) t.2 F, ← List.sum_map_add]
    congr 1
    apply List.map_congr_left
    intro g _
    unfold C02Mirror.coefT
    simp only [List.filter_cons]
    split <;> simp [Int.add_mul]

theorem sum_map_range {M : Type} [AddCommMonoid M] (n : Nat) (f : Nat → M) :
    ((List.range n).map f).sum = ∑ i ∈ Finset.range n, f i := by
  induction n with
  | zero => rfl
  | succ n ih => rw [List.range_succ, List.map_append, List.sum_append, ih, Finset.sum_range_succ]; simp

theorem sum_by_target (ts : Array Term) (tgt : Array Gen) (hnd : tgt.toList.Nodup)
    (hmem : ∀ t ∈ ts.toList, t.1 ∈ tgt.toList) (F : Gen → Int) :
    (ts.toList.map (fun t => t.2 * F t.1)).sum =
      ((List.range tgt.size).map (fun b => C02Mirror.coefT ts tgt[b]! * F tgt[b]!)).sum := by
  rw [sum_by_target_list ts.toList tgt.toList hnd hmem F]
  congr 1
  apply List.ext_getElem
  · simp
  · intro n h1 h2
    simp only [List.length_map, List.length_range] at h2
    simp [getElem!_pos tgt n h2]

end Yuiv.KhSpec
