import Yuiv.Proofs.C10Term
import Yuiv.Proofs.C10TermHnfShape
import Yuiv.Proofs.C10TermHnfReturns
import Yuiv.Proofs.C10TermHnfMeasure
import Yuiv.Proofs.C10TermChecker
import Yuiv.Props.C10
/-
C10 — TERMINATION and TOTAL CORRECTNESS of the LLL main loop (`LLLCalc::process`) on linearly independent rows, and
of the Hermite variant (`LLLHNFCalc::process` + `result`) on arbitrary matrices (`yui-matrix/src/dense/lll.rs`).

All theorems are about the literal model `Yuiv/Model/C10.lean` (`lll fuel m n A`: `setup()` followed by the fuel loop
`while step < m { iterate }`;
`lllHnf fuel m n A`: the fuel loop from `LLLData::new`, normalisation of the last row, row reversal).

Notions (`Proofs/C10Term.lean`, `Proofs/C10GS.lean`):
  `RowsIndep m n B`   the rows have a Gram–Schmidt decomposition with non-zero `b*_i` (⇔ linearly independent);
  `Data.Book d`       `det`/`lambda` are the integral Gram–Schmidt data of the current rows (`gs_bookkeeping`);
  `Data.pot d`        `∏_{i<m} det[i]` = product of the Gram determinants `d_1 … d_m` (positive integers);
  `swapBound p`       least `s` with `(3/4)^s·p < 1` (floor at each step), `≤ 3·log₂ p + 2`;
  `lllMeasure d`      `2·swapBound(pot d) + (m − step)`;
  `lllBound m n A`    `lllMeasure` of the state after `setup()` = `2·swapBound(∏_k GramDet_k(A)) + (m − 1)`;
  `Data.Red d`        loop invariant on the INTEGER data: for the rows `i < step`: `2·|λ_ij| ≤ det[j]` (`j < i`) and
                      `3·det[k-1]² ≤ 4·(det[k-2]·det[k] + λ_{k,k-1}²)` (`0 < k < step`);
  `IsLLLReduced m n B α`  the spec of the verified checker `isLLLReduced` (`isLLLReduced_iff`): w.r.t. THE
                      Gram–Schmidt decomposition over ℚ, `|μ_ij| ≤ 1/2` and `|b*_k|² ≥ (α − μ_{k,k-1}²)|b*_{k-1}|²`.
Hermite mode (`Proofs/C10TermHnf*.lean`):
  `Data.BookP d`      `det`/`lambda` are the integral Gram–Schmidt data of the rows of the TRANSFORM `p`;
  `HState m n d`      shape invariant of the rows `< step` of `target` (before the final reversal): zero rows first, then
                      strictly decreasing leading columns; `|target[k][L_i]| < |pivot_i|` for `i < k`; positive pivots
                      for the rows `< step − 1`;
  `hnfM d`            `(C1, C2, C3, C4, pot)` ∈ ℕ⁵ lexicographic, see `hnfIterate_measure`.

What one iteration of LLL does (`lllIterate`, read off the code): at `k = step` it size-reduces `λ_{k,k-1}` only; if
the Lovász test passes it size-reduces `λ_{k,k-2}, …, λ_{k,0}` in this (descending) order — `reduce(i,k)` changes
`λ_{k,j}` for `j ≤ i` only, so the earlier reductions survive — and advances; otherwise it swaps rows `k-1`, `k` and
goes back by one, but never below `step = 1` (`Data.back`).  The code does guarantee full size-reduction.

Necessary hypotheses: `0 < m` — on a matrix without rows `setup()` panics (`d[0]` on an empty vector), see
`lll_no_rows_panics`; independence — e.g. `lll 100 2 2 [[1,0],[2,0]]` panics (division by `det[0] = 0` after the first
swap).  The Hermite variant needs no hypothesis at all.
-/
namespace Yuiv.C10
open Yuiv Res Finset

/-- ONE ITERATION at `1 ≤ step < m` under the bookkeeping invariant: `iterate` returns (no panic: no zero divisor, no
index error), keeps the bookkeeping invariant and `1 ≤ step ≤ m`, and EITHER the Lovász test passed, `pot` is
unchanged and `step` advances, OR it failed, the swap makes `pot` smaller by more than the factor `3/4` and `step` goes
back by one but not below 1.  Hence the lexicographic pair `(pot, m − step)`, and with it `lllMeasure`, decreases. -/
theorem lllIterate_measure (d : Data) (hB : d.Book) (h1 : 1 ≤ d.step) (h2 : d.step < d.tr.m) :
    ∃ d', lllIterate d = ok d' ∧ d'.Book ∧ d'.tr.m = d.tr.m ∧ d'.tr.n = d.tr.n ∧ 1 ≤ d'.step ∧ d'.step ≤ d'.tr.m ∧
      ((d'.pot = d.pot ∧ d'.step = d.step + 1) ∨
       (4 * d'.pot < 3 * d.pot ∧ d'.pot < d.pot ∧ d'.step = max (d.step - 1) 1)) ∧
      lllMeasure d' < lllMeasure d := by
  obtain ⟨d', r, hB', m', n', s1, s2, hcase, hdec, _⟩ := lllIterate_step d hB h1 h2
  exact ⟨d', r, hB', m', n', s1, s2, hcase, hdec⟩

/-- … and keeps the loop invariant "the rows below `step` are size-reduced and Lovász-ordered" -/
theorem lllIterate_invariant (d d' : Data) (hB : d.Book) (h1 : 1 ≤ d.step) (h2 : d.step < d.tr.m)
    (h : lllIterate d = ok d') (hR : d.Red) : d'.Red := by
  obtain ⟨d1, r, _, _, _, _, _, _, _, hR1⟩ := lllIterate_step d hB h1 h2
  rw [r] at h
  injection h with h
  subst h
  exact hR1 hR

/-- the main loop returns from EVERY state satisfying the bookkeeping invariant once `fuel ≥ lllMeasure d`: no fuel
exhaustion, no panic; it ends with `step = m` -/
theorem lll_loop_terminates (d : Data) (hB : d.Book) (h1 : 1 ≤ d.step) (h2 : d.step ≤ d.tr.m) (fuel : Nat)
    (hf : lllMeasure d ≤ fuel) :
    ∃ d', loopWhile lllIterate fuel d = ok d' ∧ d'.Book ∧ d'.step = d'.tr.m ∧ (d.Red → d'.Red) := by
  obtain ⟨d', ⟨hB', s, _, _, hR⟩, r⟩ := (loopWhile_lll_conv d hB h1 h2).total
  exact ⟨d', r fuel hf, hB', s, hR⟩

/-- fuel monotonicity of the fuel loop (any body): a run that did not run out of fuel is reproduced by any larger fuel -/
theorem loop_fuel_mono (it : Data → Res Data) (fuel fuel' : Nat) (d : Data) (h : loopWhile it fuel d ≠ err)
    (hle : fuel ≤ fuel') : loopWhile it fuel' d = loopWhile it fuel d :=
  (loopWhile_le it fuel fuel' d hle).eq_of_ne_err id h

/-- fuel monotonicity of `lll`: more fuel ⇒ same result (value or panic) -/
theorem lll_fuel_mono (m n : Nat) (A : Mat) (fuel fuel' : Nat) (h : lll fuel m n A ≠ err) (hle : fuel ≤ fuel') :
    lll fuel' m n A = lll fuel m n A :=
  (Le.bind .rfl fun d => loopWhile_le lllIterate fuel fuel' d hle).eq_of_ne_err id h

/-- the explicit bound only depends on the Gram determinants `det(⟨b_i, b_j⟩)_{i,j<k}`, `k = 1 … m`, of the input -/
theorem lll_bound_explicit (m n : Nat) (A : Mat) (hm : 0 < m) (hI : RowsIndep m n (ent A)) :
    lllBound m n A
      = 2 * swapBound (∏ k ∈ range m,
          ((Matrix.of fun (i j : Fin (k + 1)) => ∑ c : Fin n, ent A i.val c.val * ent A j.val c.val).det).toNat)
        + (m - 1) := by
  rw [lllBound_eq m n A hm hI]
  rfl

/-- the bound is logarithmic in the Gram determinants (so polynomial in the bit size of the input):
`lllBound ≤ 6·⌊log₂ ∏_k GramDet_k(A)⌋ + m + 3` -/
theorem lll_bound_log (m n : Nat) (A : Mat) (hm : 0 < m) (hI : RowsIndep m n (ent A)) :
    lllBound m n A ≤ 6 * Nat.log 2 (∏ k ∈ range m,
          ((Matrix.of fun (i j : Fin (k + 1)) => ∑ c : Fin n, ent A i.val c.val * ent A j.val c.val).det).toNat)
        + m + 3 := by
  rw [lll_bound_explicit m n A hm hI]
  have := swapBound_le_log (∏ k ∈ range m,
    ((Matrix.of fun (i j : Fin (k + 1)) => ∑ c : Fin n, ent A i.val c.val * ent A j.val c.val).det).toNat)
  omega

/-- TERMINATION of `lll` on independent rows: with `fuel ≥ lllBound m n A` the model returns — never fuel exhaustion,
never a panic -/
theorem lll_terminates (m n : Nat) (A : Mat) (hm : 0 < m) (hI : RowsIndep m n (ent A)) (fuel : Nat)
    (hf : lllBound m n A ≤ fuel) : ∃ d, lll fuel m n A = ok d ∧ d.step = m := by
  obtain ⟨d, ⟨_, _, s, _⟩, h⟩ := (lll_conv m n A hm hI).total
  exact ⟨d, h fuel hf, s⟩

/-- … and the value does not depend on the fuel -/
theorem lll_result_unique (m n : Nat) (A : Mat) (hm : 0 < m) (hI : RowsIndep m n (ent A)) (f1 f2 : Nat)
    (h1 : lllBound m n A ≤ f1) (h2 : lllBound m n A ≤ f2) : lll f1 m n A = lll f2 m n A := by
  obtain ⟨d, _, h⟩ := (lll_conv m n A hm hI).total
  rw [h f1 h1, h f2 h2]

/-- without rows the routine panics (`d[0]` in `orthogonalize`), whatever the fuel: `0 < m` cannot be dropped -/
theorem lll_no_rows_panics (fuel n : Nat) (A : Mat) : lll fuel 0 n A = panic := rfl

/-- the integer loop invariant at loop exit is the rational statement of reducedness -/
theorem red_at_exit_is_reduced (d : Data) (hB : d.Book) (hR : d.Red) (hs : d.step = d.tr.m) :
    IsLLLReduced d.tr.m d.tr.n (ent d.tr.target) (3 / 4) := hR.reduced hB hs

/-- WHATEVER `lll` returns on independent rows, with any fuel, is LLL-reduced: size-reduced (`|μ_ij| ≤ 1/2` for all
`j < i`) and Lovász with `α = 3/4` for all `k` — the spec of the verified checker `isLLLReduced … 3 4` -/
theorem lll_result_reduced (fuel m n : Nat) (A : Mat) (d : Data) (hI : RowsIndep m n (ent A))
    (h : lll fuel m n A = ok d) : IsLLLReduced m n (ent d.tr.target) (3 / 4) := by
  have hm : 0 < m := by
    rcases Nat.eq_zero_or_pos m with h0 | h0
    · subst h0; rw [lll_no_rows_panics] at h; cases h
    · exact h0
  obtain ⟨hB, hR, s, hm', hn'⟩ := (lll_conv m n A hm hI).post h
  have := hR.reduced hB (s.trans hm'.symm)
  rw [hm', hn'] at this
  exact this

/-- the checker `isLLLReduced` is COMPLETE (the untrusted `gramSchmidt` of the model does compute the Gram–Schmidt
decomposition of independent rows), so together with `isLLLReduced_sound` it DECIDES its spec -/
theorem isLLLReduced_iff (m n : Nat) (B : Mat) (p q : Int) :
    isLLLReduced m n B p q = true ↔ IsLLLReduced m n (ent B) ((p : ℚ) / (q : ℚ)) :=
  ⟨isLLLReduced_sound m n B p q, isLLLReduced_complete m n B p q⟩

/-- … hence the verified checker, as the driver applies it (`isLLLReduced m n B 3 4`), ACCEPTS whatever `lll`
returns on independent rows -/
theorem lll_result_accepted (fuel m n : Nat) (A : Mat) (d : Data) (hI : RowsIndep m n (ent A))
    (h : lll fuel m n A = ok d) : isLLLReduced m n d.tr.target 3 4 = true := by
  apply isLLLReduced_complete
  have := lll_result_reduced fuel m n A d hI h
  have e : (((3 : Int) : ℚ) / ((4 : Int) : ℚ)) = 3 / 4 := by norm_num
  rw [e]
  exact this

/-- TOTAL CORRECTNESS of `lll` (model) on `m ≥ 1` independent rows: for every `fuel ≥ lllBound m n A` the routine
returns `(B, P)` with `B = P·A`, `P` unimodular (inverse tracked), and `B` LLL-reduced (`α = 3/4`): both the spec
and the executable checker -/
theorem lll_total_correct (m n : Nat) (A : Mat) (hm : 0 < m) (hI : RowsIndep m n (ent A)) :
    ∃ N, ∀ fuel ≥ N, ∃ d, lll fuel m n A = ok d ∧
      toMatrix m m d.tr.p * toMatrix m n A = toMatrix m n d.tr.target ∧
      toMatrix m m d.tr.p * toMatrix m m d.tr.pinv = 1 ∧ IsUnit (toMatrix m m d.tr.p).det ∧
      IsLLLReduced m n (ent d.tr.target) (3 / 4) ∧ isLLLReduced m n d.tr.target 3 4 = true := by
  refine ⟨lllBound m n A, fun fuel hf => ?_⟩
  obtain ⟨d, r, _⟩ := lll_terminates m n A hm hI fuel hf
  obtain ⟨t1, t2, t3⟩ := lll_model_transform fuel m n A d r
  exact ⟨d, r, t1, t2, t3, lll_result_reduced fuel m n A d hI r, lll_result_accepted fuel m n A d hI r⟩

/-- one iteration of `LLLHNFCalc::iterate` that returns keeps the shape invariant `HState` (rows `< step`, orientation
before the final row reversal: zero rows first, then strictly decreasing leading columns; entries below a pivot — above
it after the reversal — of smaller absolute value; pivots of the rows `< step-1` positive).  No hypothesis on the rows. -/
theorem hnfIterate_invariant (m n : Nat) (d d' : Data) (h : hnfIterate d = ok d') (hlt : d.step < d.tr.m)
    (hS : HState m n d) : HState m n d' := hnfIterate_inv m n d d' h hlt hS

/-- PARTIAL CORRECTNESS of `lll_hnf` (model), for EVERY input (dependent rows, zero rows, any shape) and every fuel: if
the routine returns, then the returned `H` is in Hermite normal form (verified checker `isHnf`: zero rows last,
strictly increasing leading columns, positive pivots, zeros below and entries of smaller absolute value above each
pivot), `H = P·A`, `P·P⁻¹ = I` and `P` is unimodular.  (Termination: `lllHnf_terminates`.) -/
theorem lllHnf_partial (fuel m n : Nat) (A : Mat) (t : Tr) (h : lllHnf fuel m n A = ok t) :
    isHnf m n t.target = true ∧
    toMatrix m m t.p * toMatrix m n A = toMatrix m n t.target ∧
    toMatrix m m t.p * toMatrix m m t.pinv = 1 ∧ IsUnit (toMatrix m m t.p).det := by
  obtain ⟨t1, t2, t3⟩ := lllHnf_model_transform fuel m n A t h
  exact ⟨(lllHnf_isHnf fuel m n A t h).2.2, t1, t2, t3⟩

/-- Hermite mode bookkeeping (`Data.BookP`): `det`/`lambda` are the integral Gram–Schmidt data of the rows of the
TRANSFORM `P` (Havas–Majewski–Matthews), from the initial state `(A, I, I)`, `det = [1,…,1]`, `lambda = 0` on; in
particular `det[i] > 0` throughout, whatever the rank of `A` (`det` never vanishes in this mode). -/
theorem hnf_bookkeeping (fuel m n : Nat) (A : Mat) (d : Data)
    (h : loopWhile hnfIterate fuel (Data.new m n A) = ok d) :
    d.BookP ∧ ∀ i < d.tr.m, 0 < d.det.getD i 0 := by
  obtain ⟨_, hc⟩ := loopWhile_hnf_conv m n _ (Data.new_bookP m n A) (HState.new m n A)
  have hB : d.BookP := (hc.post h).1.1
  exact ⟨hB, fun i hi => Data.BookOf.dv_pos hB hi⟩

/-- one iteration of the Hermite loop at `1 ≤ step < m` under `BookP` returns: no zero divisor in `reduce`/`swap`, no
index error, no failed unit assertion; and it keeps `BookP` -/
theorem hnfIterate_never_panics (d : Data) (hB : d.BookP) (h1 : 1 ≤ d.step) (h2 : d.step < d.tr.m) :
    ∃ d', hnfIterate d = ok d' ∧ d'.BookP ∧ d'.tr.m = d.tr.m ∧ 1 ≤ d'.step := hnfIterate_ok d hB h1 h2

/-- `lll_hnf` (model) NEVER PANICS, for any input and any fuel: the only failure mode left is fuel exhaustion -/
theorem lllHnf_never_panics (fuel m n : Nat) (A : Mat) : lllHnf fuel m n A ≠ panic := by
  obtain ⟨_, hc⟩ := lllHnf_conv m n A
  exact hc.ne_panic fuel

/-- fuel monotonicity of `lll_hnf` -/
theorem lllHnf_fuel_mono (m n : Nat) (A : Mat) (fuel fuel' : Nat) (h : lllHnf fuel m n A ≠ err) (hle : fuel ≤ fuel') :
    lllHnf fuel' m n A = lllHnf fuel m n A :=
  (Le.bind (loopWhile_le hnfIterate fuel fuel' _ hle) fun _ => .rfl).eq_of_ne_err id h

/-- for every input and EVERY fuel, `lll_hnf` either returns a Hermite normal form with a unimodular transform or
runs out of fuel -/
theorem lllHnf_hnf_or_out_of_fuel (fuel m n : Nat) (A : Mat) :
    (∃ t, lllHnf fuel m n A = ok t ∧ isHnf m n t.target = true ∧
      toMatrix m m t.p * toMatrix m n A = toMatrix m n t.target ∧ IsUnit (toMatrix m m t.p).det) ∨
    lllHnf fuel m n A = err := by
  cases h : lllHnf fuel m n A with
  | ok t =>
    obtain ⟨h1, h2, _, h4⟩ := lllHnf_partial fuel m n A t h
    exact Or.inl ⟨t, rfl, h1, h2, h4⟩
  | panic => exact absurd h (lllHnf_never_panics fuel m n A)
  | err => exact Or.inr rfl

/-- ONE ITERATION of `LLLHNFCalc::iterate` (at `step < m`, under the two invariants) strictly decreases the lexicographic
measure `(C1, C2, C3, C4, pot, m − step)` ∈ ℕ⁶ (`hnfM`, see `Proofs/C10TermHnfMeasure.lean`):
`C1 = Σ_i (n − L_i)`, `C2 = Σ_i V_i`, `C3 = Σ_i i·L_i`, `C4 = Σ_i (m − i)·V_i` with `L_i` the leading column and `V_i` the
absolute value of the pivot of row `i` of `target`, `pot = ∏ det[i]` (Gram determinants of the rows of `P`):
`reduce` moves a leading column to the right or shrinks a pivot or changes none of them; a swap is done because
`L_{k-1} < L_k` (`C3` ↓), or `L_{k-1} = L_k` and the Euclidean step made `V_k < V_{k-1}` (`C4` ↓), or both rows are zero
and the Lovász test on `P` failed (`pot` ↓); otherwise `step` advances. -/
theorem hnfIterate_measure (m n : Nat) (d : Data) (hB : d.BookP) (hS : HState m n d) (hlt : d.step < d.tr.m) :
    ∃ d', hnfIterate d = ok d' ∧ d'.BookP ∧ HState m n d' ∧
      (toLex (hnfM d', m - d'.step) : HM ×ₗ ℕ) < toLex (hnfM d, m - d.step) := by
  obtain ⟨d', r, hB', _, _⟩ := hnfIterate_ok d hB hS.step_pos hlt
  exact ⟨d', r, hB', hnfIterate_inv m n d d' r hlt hS, hnfIterate_decreases m n d d' r hB hS hlt⟩

/-- TERMINATION of `lll_hnf` (model) for EVERY input matrix (any shape, any rank, zero rows): there is a fuel `N`
from which on the routine returns, always the same value.  (By well-founded induction on the measure above; NO explicit
bound `N(A)` is given — `pot` may grow at the swaps of the first two kinds.) -/
theorem lllHnf_terminates (m n : Nat) (A : Mat) : ∃ N t, ∀ fuel ≥ N, lllHnf fuel m n A = ok t := by
  obtain ⟨N, hc⟩ := lllHnf_conv m n A
  obtain ⟨t, _, h⟩ := hc.total
  exact ⟨N, t, h⟩

/-- TOTAL CORRECTNESS of `lll_hnf` (model) for every input: for all sufficiently large fuel it returns `(H, P, P⁻¹)`
with `H` in Hermite normal form (verified checker `isHnf`), `H = P·A`, `P·P⁻¹ = I`, `P` unimodular -/
theorem lllHnf_total_correct (m n : Nat) (A : Mat) :
    ∃ N t, (∀ fuel ≥ N, lllHnf fuel m n A = ok t) ∧ isHnf m n t.target = true ∧
      toMatrix m m t.p * toMatrix m n A = toMatrix m n t.target ∧
      toMatrix m m t.p * toMatrix m m t.pinv = 1 ∧ IsUnit (toMatrix m m t.p).det := by
  obtain ⟨N, t, h⟩ := lllHnf_terminates m n A
  exact ⟨N, t, h, lllHnf_partial N m n A t (h N (le_refl N))⟩

/-- … in terms of the spec of the checker -/
theorem lllHnf_partial_spec (fuel m n : Nat) (A : Mat) (t : Tr) (h : lllHnf fuel m n A = ok t) :
    IsHnf m n (ent t.target) (leadCol n t.target) :=
  isHnf_sound m n t.target (lllHnf_partial fuel m n A t h).1

/-- `lll_hnf` returns on the test matrix of the repository (`tests::hnf`, rank 3, 4 rows; 18 iterations) … -/
example : (lllHnf 18 4 3 #[#[8, 44, 43], #[4, 10, 43], #[56, -550, -328], #[76, 10, 42]]).bind (fun t => ok t.target)
    = ok #[#[4, -2, 2], #[0, 6, -2], #[0, 0, 5], #[0, 0, 0]] := by decide +kernel
example : (lllHnf 17 4 3 #[#[8, 44, 43], #[4, 10, 43], #[56, -550, -328], #[76, 10, 42]]).bind (fun _ => ok ())
    = err := by decide +kernel

/-- … and on a matrix with dependent and zero rows -/
example : (lllHnf 6 3 3 #[#[1, 2, 3], #[2, 4, 6], #[0, 0, 0]]).bind (fun t => ok t.target)
    = ok #[#[1, 2, 3], #[0, 0, 0], #[0, 0, 0]] := by decide +kernel

/-- the initial state of Hermite mode satisfies the hypotheses of `hnfIterate_measure` / `hnfIterate_never_panics` -/
example : (Data.new 4 3 #[#[8, 44, 43], #[4, 10, 43], #[56, -550, -328], #[76, 10, 42]]).BookP ∧
    HState 4 3 (Data.new 4 3 #[#[8, 44, 43], #[4, 10, 43], #[56, -550, -328], #[76, 10, 42]]) ∧
    (Data.new 4 3 #[#[8, 44, 43], #[4, 10, 43], #[56, -550, -328], #[76, 10, 42]]).step <
      (Data.new 4 3 #[#[8, 44, 43], #[4, 10, 43], #[56, -550, -328], #[76, 10, 42]]).tr.m :=
  ⟨Data.new_bookP _ _ _, HState.new _ _ _, by decide⟩

/-- `lll` needs independent rows: on `[[1,0],[2,0]]` the model (like the code: division by zero) panics -/
example : (lll 100 2 2 #[#[1, 0], #[2, 0]]).bind (fun _ => ok ()) = panic := by decide +kernel

/-- the test matrix of the repository (`tests::lll`): independent, NOT reduced -/
example : RowsIndep 3 3 (ent #[#[1, -1, 3], #[1, 0, 5], #[1, 2, 6]]) :=
  rowsIndep_lll_test
example : isLLLReduced 3 3 #[#[1, -1, 3], #[1, 0, 5], #[1, 2, 6]] 3 4 = false := by decide +kernel

/-- its bound (`det = [11, 30, 9]`, `pot = 2970`, `swapBound 2970 = 26`); the run takes 8 iterations, 3 of them swaps -/
example : lllBound 3 3 #[#[1, -1, 3], #[1, 0, 5], #[1, 2, 6]] = 54 := by decide +kernel

/-- … and with that fuel the model returns the expected reduced basis, accepted by the verified checker -/
example : (lll 54 3 3 #[#[1, -1, 3], #[1, 0, 5], #[1, 2, 6]]).bind (fun d => ok d.tr.target)
    = ok #[#[0, 1, -1], #[1, 0, -1], #[1, 1, 1]] := by decide +kernel
example : isLLLReduced 3 3 #[#[0, 1, -1], #[1, 0, -1], #[1, 1, 1]] 3 4 = true := by decide +kernel

/-- a state in the middle of that run (after `setup`) satisfies the hypotheses of `lllIterate_measure` -/
example : ∃ d, (Data.new 3 3 #[#[1, -1, 3], #[1, 0, 5], #[1, 2, 6]]).setup = ok d ∧ d.Book ∧ 1 ≤ d.step ∧
    d.step < d.tr.m := by
  obtain ⟨d, h, ht, hs, hB⟩ := Data.setup_book (Data.new 3 3 #[#[1, -1, 3], #[1, 0, 5], #[1, 2, 6]]) (by decide)
    (RowsIndep.init rowsIndep_lll_test)
  refine ⟨d, h, hB, ?_, ?_⟩
  · rw [hs]; decide
  · rw [hs, ht]; decide

end Yuiv.C10
