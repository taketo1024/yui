import Yuiv.Proofs.C05CobEq
import Yuiv.Proofs.C05CobLc
/-
C05 (cobordisms) — identities about SINGLE cobordisms of the model and what they buy for "every complex the engine
model builds has d∘d = 0".

 (C1, first half) PROVED: the Rust equality `unori_eq` of tangle components is, on components without a repeated edge
      label, exactly "same edge list up to reversal (arcs) / up to rotation and reversal (circles)", hence an
      equivalence relation; so are the derived equalities of tangles, cobordism components and cobordisms (`cobEq`)
      on well-formed data.  COUNTEREXAMPLE (by `decide`): with a repeated label `unori_eq` is NOT symmetric — the
      code looks at the first occurrence of `a[0]` in `b` only.  (In a link diagram every edge label occurs once per
      component, so the engine never builds such circles; the harness' malformed streams do.)
      NOT proved: `stack`, `connect`, `cap_off` respect `cobEq`.
 (C2–C4) NOT proved; tested by running the model (no counterexample): associativity of `Cob::stack` on 15 000
      composable triples made of saddles, cups / caps with dots and handles and the closed components they create
      (trefoil, figure eight, up to 4 crossings); unit laws on all edges; the interchange law
      `(f ⊗ 1)·(1 ⊗ g) = (1 ⊗ g)·(f ⊗ 1) = f ⊗ g` on all pairs of edges of the two halves of these diagrams.
 THE REDUCTION: `script_preserves_dd_lc` below — for the REAL edge algebra `lcOps h t`, every script preserves
      `d∘d = 0` of the VALUES `lcVal φ` for every invariant `φ : Cob → A` into an `R`-algebra that satisfies
        (L1) `CobLaws`: `φ` respects `Eq`, is multiplicative for `Cob::stack`, compatible with `connect(·, id)`,
             invisible to `part_eval`, zero on `is_zero_cob` cobordisms  — identities about single cobordisms;
        (L2) `cap_off` multiplies `φ` by a cap / cup                     — an identity about single cobordisms;
        (L3) the interchange law on values;
        (L4) LOCAL units on the complexes that occur: `a·a⁻¹` / `a⁻¹·a` act as identities on the labels out of the
             target / into the source of the pivot, and `Σ cup·cap` acts as the identity between the labels into and
             out of the delooped vertex.  (L4) is where the missing boundary-tangle clause of `WF` sits: for a
             functorial `φ` it says that the labels at a vertex have that vertex' tangle as source / target.
      No panic-freeness is needed: the theorem is about scripts that ran.
-/
namespace Yuiv.C05.Tng
open Yuiv Yuiv.C05

/-- `unori_eq` on components without repeated labels is the relation "equal up to reversal / rotation" -/
theorem unori_eq_characterised (a b : Path) (ha : a.WFP) (hb : b.WFP) :
    unoriEq a b = true ↔ Path.Same a b := unoriEq_iff_same a b hb ha

/-- … and therefore reflexive, symmetric and transitive there (arcs: unconditionally, see `unoriEq_arc`) -/
theorem unori_eq_equivalence (a b c : Path) (ha : a.WFP) (hb : b.WFP) (hc : c.WFP) :
    unoriEq a a = true ∧ (unoriEq a b = true → unoriEq b a = true) ∧
    (unoriEq a b = true → unoriEq b c = true → unoriEq a c = true) :=
  ⟨unoriEq_refl a, unoriEq_symm a b ha hb, unoriEq_trans a b c ha hb hc⟩

/-- the Rust `Eq` of cobordisms is an equivalence relation on well-formed cobordisms -/
theorem cob_eq_equivalence (a b c : Cob) (ha : WFK a) (hb : WFK b) (hc : WFK c) :
    cobEq a a = true ∧ (cobEq a b = true → cobEq b a = true) ∧
    (cobEq a b = true → cobEq b c = true → cobEq a c = true) :=
  ⟨cobEq_refl a, cobEq_symm a b ha hb, cobEq_trans a b c ha hb hc⟩

/-- COUNTEREXAMPLE: with a repeated edge label the comparison of circles is not symmetric
(`[2,1,3,1,1]` is `[1,1,2,1,3]` rotated by two; the code finds the first `1` of the other list and gives up) -/
theorem unori_eq_not_symmetric_with_repeated_label :
    unoriEq ⟨[2, 1, 3, 1, 1], true⟩ ⟨[1, 1, 2, 1, 3], true⟩ = true ∧
    unoriEq ⟨[1, 1, 2, 1, 3], true⟩ ⟨[2, 1, 3, 1, 1], true⟩ = false := by decide +kernel

/-- the circle specification really needs rotations and reflections: three representatives of one circle -/
example : unoriEq ⟨[1, 2, 3, 4], true⟩ ⟨[3, 4, 1, 2], true⟩ = true ∧
    unoriEq ⟨[1, 2, 3, 4], true⟩ ⟨[2, 1, 4, 3], true⟩ = true ∧
    unoriEq ⟨[1, 2, 3, 4], true⟩ ⟨[1, 3, 2, 4], true⟩ = false := by decide +kernel

/-- associativity of `Cob::stack` on a triple that creates a closed component in the middle (cup, dotted cap, cup) -/
example :
    (match Cob.stack [⟨[], [⟨[7], true⟩], 0, (0, 0)⟩] [⟨[⟨[7], true⟩], [], 0, (1, 0)⟩] with
      | .ok ab => Cob.stack ab [⟨[], [⟨[7], true⟩], 1, (0, 0)⟩]
      | r => r) =
    (match Cob.stack [⟨[⟨[7], true⟩], [], 0, (1, 0)⟩] [⟨[], [⟨[7], true⟩], 1, (0, 0)⟩] with
      | .ok bc => Cob.stack [⟨[], [⟨[7], true⟩], 0, (0, 0)⟩] bc
      | r => r) := by decide +kernel

end Yuiv.C05.Tng

namespace Yuiv.C05.Engine
open Yuiv Yuiv.C05 Yuiv.C05.Tng

/-- `eliminate` preserves `d∘d = 0` of the values; the inverse only needs to be a local two-sided inverse -/
theorem eliminate_preserves_dd_val {E A : Type} [Ring A] (val : E → A) (ops : EdgeOps E) (hops : ValEdgeOps ops val)
    (cx cx' : Cx E) (k0 k1 : TKey) (hwf : WF ops cx)
    (hunit : ∀ a ainv, cx.edge? k0 k1 = some a → ops.inv a = .ok ainv →
      (∀ m, entV val cx k1 m * (val a * val ainv) = entV val cx k1 m) ∧
      (∀ k, (val ainv * val a) * entV val cx k k0 = entV val cx k k0))
    (hdd : DDV val cx) (h : cx.eliminate ops k0 k1 = .ok cx') : DDV val cx' :=
  eliminate_ddV val ops hops cx cx' k0 k1 hwf hunit hdd h

/-- `deloop` preserves `d∘d = 0` of the values; the copies only need to decompose the identity between the labels
into and out of the delooped vertex -/
theorem deloop_preserves_dd_val {E A : Type} [Ring A] (val : E → A) (ops : EdgeOps E) (cx cx' : Cx E) (k : TKey)
    (r : Nat) (upd : List TKey) (t : Tng) (c : Path) (cap cup : Dot → A) (hwf : WF ops cx)
    (ht : cx.tng? k = some t) (hc : t[r]? = some c) (hops : ValDeloopOps ops val c cap cup)
    (hiso : if cx.containsBase c = true then
              ∀ x y, entV val cx k y * (cup .X * cap .none) * entV val cx x k = entV val cx k y * entV val cx x k
            else ∀ x y, entV val cx k y * (cup .X * cap .none + cup .none * cap .Y) * entV val cx x k
              = entV val cx k y * entV val cx x k)
    (hdd : DDV val cx) (h : cx.deloop ops k r = .ok (upd, cx')) : DDV val cx' :=
  deloop_ddV val ops cx cx' k r upd t c cap cup hwf ht hc hops hiso hdd h

/-- `connect` preserves `d∘d = 0` of the values -/
theorem connect_preserves_dd_val {E A : Type} [Ring A] (val : E → A) (ops : EdgeOps E) (tl tr : A → Tng → A)
    (hops : ValTensorOps ops val tl tr) (left right cx' : Cx E) (hl : WF ops left) (hr : WF ops right)
    (hbl : Bounded left) (hbr : Bounded right)
    (hX : ∀ k k' l l' f g, left.edge? k k' = some f → right.edge? l l' = some g →
      tr (val g) (tngOf left k') * tl (val f) (tngOf right l) = tl (val f) (tngOf right l') * tr (val g) (tngOf left k))
    (hd1 : DDV val left) (hd2 : DDV val right) (h : left.connect ops right = .ok cx') : DDV val cx' :=
  connect_ddV val ops tl tr hops left right cx' hl hr hbl hbr hX hd1 hd2 h

/-- every script preserves base point, `WF`, bounded weights and `d∘d = 0` of the values -/
theorem script_preserves_dd_val {E A : Type} [Ring A] (val : E → A) (ops : EdgeOps E) (mkSdl : CobComp → E)
    (base : Option Nat) (tl tr : A → Tng → A) (hL : ValLaws val ops base tl tr) (steps : List (Step E))
    (cx cx' : Cx E) (hg : GoodV val ops base cx)
    (hcon : ∀ o, Step.con o ∈ steps → ∃ obase, GoodV val ops obase o ∧ base.or obase = base)
    (h : runScript ops mkSdl steps cx = .ok cx') : GoodV val ops base cx' :=
  script_ddV val ops mkSdl base tl tr hL steps cx cx' hg hcon h

section
variable {R A : Type} [CommRing R] [CoefU R] [LawfulCoef R] [Ring A] [Algebra R A]

/-- the real edge algebra is lawful in values as soon as `φ` satisfies the single-cobordism identities `CobLaws`
(and, for `deloop`, `cap_off` multiplies `φ` by a cap / cup) -/
theorem lcOps_lawful_in_values (φ : Cob → A) (h t : R) (tl tr : A → Tng → A) (hφ : CobLaws φ h t tl tr) :
    ValEdgeOps (lcOps h t) (lcVal φ : LcCob R → A) ∧
    ValTensorOps (lcOps h t) (lcVal φ : LcCob R → A) tl tr ∧
    (∀ (c : Path) (cap cup : Dot → A),
      (∀ d k k', Cob.capOff k .tgt c d = .ok k' → φ k' = cap d * φ k) →
      (∀ d k k', Cob.capOff k .src c d = .ok k' → φ k' = φ k * cup d) →
      ValDeloopOps (lcOps h t) (lcVal φ : LcCob R → A) c cap cup) :=
  ⟨lcOps_valEdgeOps φ h t tl tr hφ, lcOps_valTensorOps φ h t tl tr hφ,
   fun c cap cup hT hS => lcOps_valDeloopOps φ h t tl tr hφ c cap cup hT hS⟩

/-- **every script over the REAL edge algebra preserves `d∘d = 0` of the values**, with exactly these assumptions:
(L1) `CobLaws`, (L2) `cap_off` = multiplication by a cap / cup for every circle, (L3) interchange on values,
(L4) local units / local delooping decomposition on well-formed complexes. -/
theorem script_preserves_dd_lc (φ : Cob → A) (h t : R) (tl tr : A → Tng → A) (base : Option Nat)
    (L1 : CobLaws φ h t tl tr)
    (L3 : ∀ (f g : LcCob R) (v v' w w' : Tng),
      tr (lcVal φ g) v' * tl (lcVal φ f) w = tl (lcVal φ f) w' * tr (lcVal φ g) v)
    (L4u : ∀ (cx : Cx (LcCob R)) k0 k1 a ainv, WF (lcOps h t) cx → cx.edge? k0 k1 = some a →
      (lcOps h t).inv a = .ok ainv →
      (∀ m, entV (lcVal φ) cx k1 m * (lcVal φ a * lcVal φ ainv) = entV (lcVal φ) cx k1 m) ∧
      (∀ k, (lcVal φ ainv * lcVal φ a) * entV (lcVal φ) cx k k0 = entV (lcVal φ) cx k k0))
    (L2L4d : ∀ (cx : Cx (LcCob R)) k t' (c : Path), WF (lcOps h t) cx → cx.base = base → cx.tng? k = some t' →
      c ∈ t' → ∃ cap cup : Dot → A,
        (∀ d k k', Cob.capOff k .tgt c d = .ok k' → φ k' = cap d * φ k) ∧
        (∀ d k k', Cob.capOff k .src c d = .ok k' → φ k' = φ k * cup d) ∧
        (if cx.containsBase c = true then
          ∀ x y, entV (lcVal φ) cx k y * (cup .X * cap .none) * entV (lcVal φ) cx x k
            = entV (lcVal φ) cx k y * entV (lcVal φ) cx x k
         else ∀ x y, entV (lcVal φ) cx k y * (cup .X * cap .none + cup .none * cap .Y) * entV (lcVal φ) cx x k
            = entV (lcVal φ) cx k y * entV (lcVal φ) cx x k))
    (steps : List (Step (LcCob R))) (dh dq : Int) (cx' : Cx (LcCob R)) (hcon : ∀ o, Step.con o ∉ steps)
    (hrun : runScript (lcOps h t) mkSdlLc steps (Cx.init dh dq base) = .ok cx') :
    WF (lcOps h t) cx' ∧ DDV (lcVal φ) cx' := by
  have hL : ValLaws (lcVal φ : LcCob R → A) (lcOps h t) base tl tr := by
    refine ⟨lcOps_valEdgeOps φ h t tl tr L1, lcOps_valTensorOps φ h t tl tr L1, L3, L4u, ?_⟩
    intro cx k t' c hwf hb ht hc
    obtain ⟨cap, cup, hT, hS, hiso⟩ := L2L4d cx k t' c hwf hb ht hc
    exact ⟨cap, cup, lcOps_valDeloopOps φ h t tl tr L1 c cap cup hT hS, hiso⟩
  have := script_ddV (lcVal φ) (lcOps h t) mkSdlLc base tl tr hL steps _ cx' (goodV_init _ _ dh dq base)
    (fun o ho => absurd ho (hcon o)) hrun
  exact ⟨this.wf, this.dd⟩

/-- non-vacuity of `CobLaws`: the zero invariant into any algebra (a degenerate but genuine instance; a non-trivial
one is a TQFT-type functor, whose laws are exactly the unproved single-cobordism identities) -/
example (h t : R) : CobLaws (fun (_ : Cob) => (0 : A)) h t (fun _ _ => 0) (fun _ _ => 0) where
  resp _ _ _ := rfl
  stack _ _ _ _ := by simp
  peval _ e _ := by
    have : ∀ e : LcCob R, lcVal (fun (_ : Cob) => (0 : A)) e = 0 := by
      intro e
      induction e with
      | nil => rfl
      | cons p e ih => rw [lcVal_cons, ih]; simp
    exact this e
  zcob _ _ := rfl
  connL _ _ _ _ := rfl
  connR _ _ _ _ := rfl
  tl_zero _ := rfl
  tr_zero _ := rfl
  tl_add _ _ _ := by simp
  tr_add _ _ _ := by simp
  tl_smul _ _ _ := by simp
  tr_smul _ _ _ := by simp
  tl_mul _ _ _ := by simp
  tr_mul _ _ _ := by simp

end
end Yuiv.C05.Engine
