import Yuiv.Proofs.C10GS
/-
C10 — `gs_bookkeeping`: in LLL mode (`setup()` called, rows independent) the fields `det` / `lambda` of `LLLData`
are, after every primitive, the integral Gram–Schmidt data of the CURRENT rows of `target`.

Specification (`IsGSData m n B bs mu det lam`, `Data.Book d`): with `(bs, mu)` THE Gram–Schmidt decomposition over ℚ of
the rows `b_0 … b_{m-1}` (`IsGS`, unique by `gs_unique`), `d_0 = 1`, `d_k = ∏_{j<k} |b*_j|²` (`gsP n bs k`; equal to the
Gram determinant of `b_0 … b_{k-1}` by `gs_det_is_gram_det`), the model's indexing is
        det[i] = d_{i+1},        lambda[i][j] = d_{j+1}·μ_{ij} = det[j]·μ_{ij}   (j < i)
exactly as in `orthogonalize` / the comments of `LLLData` in `yui-matrix/src/dense/lll.rs`.
`RowsIndep m n B` := a Gram–Schmidt decomposition with non-zero `b*_i` exists (⇔ the rows are linearly independent).

All theorems are about the literal model `Yuiv/Model/C10.lean` (exact `tdiv` divisions, `Res.panic` on a zero divisor):
every division performed by `orthogonalize` and `swap` is proved EXACT (integrality of Gram determinants, via the
adjugate of the integral Gram matrix).
-/
namespace Yuiv.C10
open Yuiv Res Finset

/-- the integral Gram–Schmidt data are uniquely determined by the rows (so `Data.Book` pins `det`, `lambda[i][j]`,
`j < i`, down completely) -/
theorem gs_data_unique (m n : Nat) (B : Nat → Nat → Int) (bs mu bs' mu' : Nat → Nat → ℚ)
    (det det' : Nat → Int) (lam lam' : Nat → Nat → Int)
    (h : IsGSData m n B bs mu det lam) (h' : IsGSData m n B bs' mu' det' lam') :
    (∀ i < m, det i = det' i) ∧ (∀ i < m, ∀ j < i, lam i j = lam' i j) := IsGSData.unique h h'

/-- `d_k = ∏_{j<k} |b*_j|²` is the determinant of the (integral) Gram matrix of `b_0 … b_{k-1}` -/
theorem gs_det_is_gram_det (m n : Nat) (B : Nat → Nat → Int) (bs mu : Nat → Nat → ℚ) (h : IsGS m n B bs mu)
    (k : Nat) (hk : k ≤ m) :
    (((Matrix.of fun (i j : Fin k) => ∑ c : Fin n, B i.val c.val * B j.val c.val).det : ℤ) : ℚ) = gsP n bs k :=
  h.gram_det_cast hk

/-- integrality (what makes the divisions of `orthogonalize` / `swap` exact): `d_k`, `λ_ij = d_{j+1}μ_ij` and
`d_k·(b_i − Σ_{l<k} μ_il b*_l)` (in particular `d_i·b*_i`) are integral -/
theorem gs_data_integral (m n : Nat) (B : Nat → Nat → Int) (bs mu : Nat → Nat → ℚ) (h : IsGS m n B bs mu) :
    (∀ k ≤ m, ∃ z : ℤ, (z : ℚ) = gsP n bs k) ∧
    (∀ i < m, ∀ j < i, ∃ z : ℤ, (z : ℚ) = gsP n bs (j + 1) * mu i j) ∧
    (∀ i < m, ∀ k ≤ i, ∀ c < n,
      ∃ z : ℤ, (z : ℚ) = gsP n bs k * ((B i c : ℚ) - ∑ l ∈ range k, mu i l * bs l c)) :=
  ⟨h.int_D, h.int_L, h.int_V⟩

/-- on independent rows the model of `orthogonalize` does not panic (no zero divisor, `m > 0`) and returns exactly the
integral Gram–Schmidt data of the rows: all its `tdiv`s are exact -/
theorem orthogonalize_spec (m n : Nat) (b : Mat) (bs mu : Nat → Nat → ℚ) (hm : 0 < m)
    (h : IsGS m n (ent b) bs mu) :
    ∃ (l : Mat) (dd : Array Int), orthogonalize m n b = ok (l, dd) ∧ dd.size = m ∧
      IsGSData m n (ent b) bs mu (fun i => dd.getD i 0) (ent l) := orthogonalize_spec' m n b bs mu hm h

/-- `setup()` on independent rows returns and establishes the invariant (only `det`/`lambda` change) -/
theorem setup_bookkeeping (d : Data) (hm : 0 < d.tr.m) (hI : RowsIndep d.tr.m d.tr.n (ent d.tr.target)) :
    ∃ d', d.setup = ok d' ∧ d'.tr = d.tr ∧ d'.step = d.step ∧ d'.Book := Data.setup_book d hm hI

/-- `add_row_to(i, k, r)` (`i < k`), formulas: only `λ_{k,·}` changes, `λ_{k,j} += r·λ_{i,j}` (`j < i`),
`λ_{k,i} += r·d_{i+1}`; the `b*` and `det` are unchanged, `μ'_{k,j} = μ_{k,j} + r·μ_{i,j}` (`μ_{i,i} = 1`) -/
theorem add_row_to_formulas (m n : Nat) (B B' : Nat → Nat → Int) (bs mu : Nat → Nat → ℚ) (det : Nat → Int)
    (lam lam' : Nat → Nat → Int) (i k : Nat) (r : Int) (hik : i < k) (hk : k < m)
    (hD : IsGSData m n B bs mu det lam)
    (hB' : ∀ a < m, ∀ c < n, B' a c = if a = k then B a c + B i c * r else B a c)
    (hlam' : ∀ a < m, ∀ b < a, lam' a b =
      if a = k then (if b = i then lam k i + r * det i else if b < i then lam k b + r * lam i b else lam a b)
      else lam a b) :
    IsGSData m n B' bs (addMu mu i k r) det lam' :=
  addgs_data m n B B' bs mu det lam lam' i k r hik hk hD hB' hlam'

/-- `LLLData::add_row_to` keeps the invariant (and does not touch `det`) -/
theorem add_row_to_bookkeeping (d d' : Data) (i k : Nat) (r : Int) (h : d.addRowTo i k r = ok d') (hB : d.Book) :
    d'.Book ∧ i < k ∧ k < d.tr.m ∧ d'.det = d.det := by
  obtain ⟨hik, hk, _, _, hS⟩ := Data.addRowTo_spec h
  exact ⟨hS.book hik hk hB, hik, hk, hS.det⟩

/-- `mul_row(i, u)` for a unit `u` (`u² = 1` over ℤ), formulas: row `i` and column `i` of `λ` are multiplied by `u`;
`b*_i ↦ u·b*_i`, `det` unchanged -/
theorem mul_row_formulas (m n : Nat) (B B' : Nat → Nat → Int) (bs mu : Nat → Nat → ℚ) (det : Nat → Int)
    (lam lam' : Nat → Nat → Int) (i : Nat) (u : Int) (hu : u * u = 1)
    (hD : IsGSData m n B bs mu det lam)
    (hB' : ∀ a < m, ∀ c < n, B' a c = if a = i then B a c * u else B a c)
    (hlam' : ∀ a < m, ∀ b < a, lam' a b =
      if b = i then (if a = i then lam a b * u else lam a b) * u else (if a = i then lam a b * u else lam a b)) :
    IsGSData m n B' (mulBs bs i u) (mulMu mu i u) det lam' :=
  mulgs_data m n B B' bs mu det lam lam' i u hu hD hB' hlam'

/-- `LLLData::mul_row` keeps the invariant -/
theorem mul_row_bookkeeping (d d' : Data) (i : Nat) (u : Int) (h : d.mulRow i u = ok d') (hB : d.Book) :
    d'.Book := Data.mulRow_book d d' i u h hB

/-- the classical integral LLL swap formulas (`k = p+1`, rows `p` and `p+1` exchanged; `d0 = d_p`, `det[p] = d_{p+1}`,
`det[p+1] = d_{p+2}`), with the truncating divisions of the code — all three are exact:
  new `det[p] = (d0·det[p+1] + λ_{k,p}²) / det[p]`;
  for `i > k`: new `λ_{i,p} = (λ_{k,p}·λ_{i,p} + λ_{i,k}·d0) / det[p]`, new `λ_{i,k} = (λ_{i,p}·det[k] − λ_{i,k}·λ_{k,p}) / det[p]`;
  rows `p`, `k` of `λ` exchanged on the columns `< p`; `λ_{k,p}` and everything else unchanged.
They map the integral Gram–Schmidt data of the old rows to those of the swapped rows (whose Gram–Schmidt
decomposition is `swapgs_bs`, `swapgs_mu`). -/
theorem swap_formulas (m n : Nat) (B : Nat → Nat → Int) (bs mu : Nat → Nat → ℚ) (det : Nat → Int)
    (lam : Nat → Nat → Int) (hD : IsGSData m n B bs mu det lam) (p : Nat) (hp : p + 1 < m)
    (d0 : Int) (hd0 : (d0 : ℚ) = gsP n bs p) (det' : Nat → Int) (lam' : Nat → Nat → Int)
    (hdet' : ∀ i < m, det' i =
      if i = p then (d0 * det (p + 1) + lam (p + 1) p * lam (p + 1) p).tdiv (det p) else det i)
    (hlam' : ∀ i < m, ∀ j < i, lam' i j =
      if p + 1 < i then
        (if j = p then (lam (p + 1) p * lam i p + lam i (p + 1) * d0).tdiv (det p)
         else if j = p + 1 then (lam i p * det (p + 1) - lam i (p + 1) * lam (p + 1) p).tdiv (det p)
         else lam i j)
      else if j < p then lam (if i = p then p + 1 else if i = p + 1 then p else i) j else lam i j) :
    IsGSData m n (fun r c => B (if r = p then p + 1 else if r = p + 1 then p else r) c)
      (swapgs_bs n bs mu p) (swapgs_mu n bs mu p) det' lam' :=
  swapgs_data hD hp d0 hd0 det' lam' hdet' hlam'

/-- `LLLData::swap(k)` keeps the invariant: its `det`/`lambda` are the data of the rows with `k-1`, `k` exchanged -/
theorem swap_bookkeeping (d d' : Data) (k : Nat) (h : d.swap k = ok d') (hB : d.Book) : d'.Book :=
  Data.swap_book d d' k h hB

/-- `LLLData::reduce(i, k)` keeps the invariant and size-reduces: `|μ_{k,i}| ≤ 1/2` for the new rows -/
theorem reduce_bookkeeping (d d' : Data) (i k : Nat) (h : d.reduce i k = ok d') (hB : d.Book) :
    d'.Book ∧
    ∃ bs mu : Nat → Nat → ℚ,
      IsGSData d'.tr.m d'.tr.n (ent d'.tr.target) bs mu (fun i => d'.det.getD i 0) (ent d'.lam) ∧
      |mu k i| ≤ 1 / 2 := by
  obtain ⟨hik, hk, _⟩ := Data.reduce_spec h
  obtain ⟨q, _, hS⟩ := Data.reduce_rowAdd h
  obtain ⟨hsz, bs, mu, hD⟩ := hS.book hik hk hB
  refine ⟨⟨hsz, bs, mu, hD⟩, bs, mu, hD, hD.mu_le_half (by rw [hS.tr.m]; exact hk) hik ?_⟩
  have := Data.reduce_lam_le h (Data.BookOf.dv_pos hB (by omega))
  rw [Data.dv, ← hS.det] at this
  exact this

/-- under the invariant `lovasz_ok(k)` decides the Lovász condition (α = 3/4) of the current rows -/
theorem lovasz_ok_spec (d : Data) (k : Nat) (b : Bool) (h : d.lovaszOk k = ok b) (hsz : d.det.size = d.tr.m)
    (bs mu : Nat → Nat → ℚ)
    (hD : IsGSData d.tr.m d.tr.n (ent d.tr.target) bs mu (fun i => d.det.getD i 0) (ent d.lam)) :
    0 < k ∧ k < d.tr.m ∧
      (b = true ↔ ((3 : ℚ) / 4 - mu k (k - 1) ^ 2) * nrm d.tr.n bs (k - 1) ≤ nrm d.tr.n bs k) := by
  obtain ⟨hk, hk2, hb⟩ := Data.lovaszOk_spec h
  rw [hsz] at hk2
  exact ⟨hk, hk2, hb.trans (hD.lov_iff hk hk2)⟩

/-- one iteration of `LLLCalc` keeps the invariant -/
theorem lll_iterate_bookkeeping (d d' : Data) (h : lllIterate d = ok d') (hB : d.Book) : d'.Book :=
  iterateWith_preserves Data.Book Data.reduce_book Data.swap_book Data.next_book Data.back_book h hB

/-- ANY sequence of the state-changing methods of `LLLData` (`reduce`, `add_row_to`, `swap`, `mul_row`, `next`,
`back`) that returns keeps the invariant -/
theorem gs_bookkeeping_run (ops : List DOp) (d d' : Data) (h : d.runOps ops = ok d') (hB : d.Book) : d'.Book := by
  induction ops generalizing d with
  | nil => simp only [Data.runOps, pure_eq, Res.ok.injEq] at h; subst h; exact hB
  | cons op ops ih =>
    simp only [Data.runOps] at h
    rw [bind_eq_ok_iff] at h
    obtain ⟨d1, h1, h2⟩ := h
    exact ih d1 h2 (Data.applyOp_book d d1 op h1 hB)

/-- … in particular from `setup()` on independent rows -/
theorem gs_bookkeeping_from_setup (m n : Nat) (A : Mat) (hI : RowsIndep m n (ent A)) (ops : List DOp)
    (d0 d : Data) (h0 : (Data.new m n A).setup = ok d0) (h : d0.runOps ops = ok d) : d.Book :=
  gs_bookkeeping_run ops d0 d h (Data.setup_book' _ d0 h0 hI.init)

/-- `gs_bookkeeping` for the LLL routine: whatever `lll` (model, any fuel) returns on independent rows carries the
integral Gram–Schmidt data of its final rows (and so does every intermediate state: `lll_iterate_bookkeeping`) -/
theorem gs_bookkeeping (fuel m n : Nat) (A : Mat) (d : Data) (hI : RowsIndep m n (ent A))
    (h : lll fuel m n A = ok d) : d.Book := by
  unfold lll at h
  simp only [bind_eq_ok_iff] at h
  obtain ⟨d0, h0, h⟩ := h
  exact (loopWhile_preserves lllIterate Data.Book (fun a a' _ => lll_iterate_bookkeeping a a') fuel d0 d h
    (Data.setup_book' _ d0 h0 hI.init)).1

/-- an independent (here: LLL-reduced, certified by the verified checker) 3×3 input -/
example : RowsIndep 3 3 (ent #[#[0, 1, -1], #[1, 0, -1], #[1, 1, 1]]) := by
  have h := reducedWith_sound 3 3 #[#[0, 1, -1], #[1, 0, -1], #[1, 1, 1]] 3 4
    (gramSchmidt 3 3 #[#[0, 1, -1], #[1, 0, -1], #[1, 1, 1]]).1
    (gramSchmidt 3 3 #[#[0, 1, -1], #[1, 0, -1], #[1, 1, 1]]).2 (by decide +kernel)
  exact ⟨_, _, h.1⟩

/-- … on which `setup` followed by a `swap`, a `reduce` and an `add_row_to` returns -/
example : ((Data.new 3 3 #[#[0, 1, -1], #[1, 0, -1], #[1, 1, 1]]).setup >>= fun d =>
    d.runOps [.swap 2, .reduce 1 2, .add 0 2 3, .swap 1, .mul 1 (-1), .reduce 0 1]).isOk = true := by decide +kernel

example : (lll 100 3 3 #[#[1, -1, 3], #[1, 0, 5], #[1, 2, 6]]).isOk = true := by decide +kernel

end Yuiv.C10
