import Yuiv.Proofs.C01SqFaceGeom
import Yuiv.Proofs.C01SqAssembly
import Yuiv.Proofs.C06CycleHash

/-
`d ∘ d = 0` of the reference cube in the REDUCED theory for `t = 0`.

In the reduced theory `Cube.d` computes the terms of the unreduced differential (`C06Cycle.dRaw`, which reads only
`c.n`, `c.circ`) and keeps a term `(y, a)` iff the circle of the state `y.s` through the base edge `e` is labelled `X`
(`C06Cycle.baseKeep`).  For `t = 0` the span of these generators is a SUBCOMPLEX of the unreduced complex
(`X·1 = X`, `X·X = hX`, `ΔX = X⊗X`; the rows with coefficient `t = 0` are dropped by the test `a != 0` of `Cube.d`).
One edge (`edge_keep`): if the circle through `e` is common to both states its label is carried over; if it is born,
the circle through `e` of the source state is gone, and the non-zero rows of `prod h 0`, `coprod h 0` out of `X` end
in `X`.  So on such generators the reduced `Cube.d` is the `Cube.d` of `{ c with base := none }` (`d_reduced_eq`).
-/
namespace Yuiv.C01Sq
open Yuiv Yuiv.KhRef Yuiv.C04Inv
open Yuiv.C06Cycle (CirclesSpec circleIdx circleIdx_of_mem circleIdx_spec baseKeep dRaw cube_d_eq validK)
open Yuiv.C02Mirror (Circ ix Pair cubeOK)

theorem prod_keep (h : Int) (x0 x1 : Bool) (hx : x0 = true ∨ x1 = true) (ya : Bool × Int)
    (hm : ya ∈ prod h 0 x0 x1) (ha : ya.2 ≠ 0) : ya.1 = true := by
  cases x0 <;> cases x1 <;>
    simp only [prod, List.mem_cons, List.not_mem_nil, or_false] at hm
  · simp at hx
  · subst hm; rfl
  · subst hm; rfl
  · rcases hm with rfl | rfl
    · rfl
    · exact absurd rfl ha

theorem coprod_keep (h : Int) (yya : Bool × Bool × Int) (hm : yya ∈ coprod h 0 true) (ha : yya.2.2 ≠ 0) :
    yya.1 = true ∧ yya.2.1 = true := by
  simp only [coprod, List.mem_cons, List.not_mem_nil, or_false] at hm
  rcases hm with rfl | rfl
  · exact ⟨rfl, rfl⟩
  · exact absurd rfl ha

section circ
variable {labels : Array Nat} {P P' : List (Nat × Nat)} {cs cs' : Circ} {e : Nat}

theorem findIdx_circle (h : CirclesSpec labels P cs) (he : e ∈ labels) :
    cs.findIdx? (fun c => c.contains e) = some (circleIdx cs e) := by
  have := (circleIdx_spec h he).1
  unfold circleIdx at this ⊢
  cases hf : cs.findIdx? (fun c => c.contains e) with
  | none => rw [hf] at this; simp at this
  | some k => rfl

theorem common_idx (h : CirclesSpec labels P cs) (h' : CirclesSpec labels P' cs') (he : e ∈ labels)
    (i' : Nat) (hi' : i' < cs.size) (hc : cs[i']! ∈ cs') (hix : ix cs' cs[i']! = circleIdx cs' e) :
    i' = circleIdx cs e := by
  have h2 := (C02Mirror.ix_spec cs' cs[i']! hc).2
  rw [hix] at h2
  have hej := (circleIdx_spec h' he).2
  rw [h2] at hej
  exact (circleIdx_of_mem h hi' hej).symm

theorem gone_of_born (h : CirclesSpec labels P cs) (h' : CirclesSpec labels P' cs') (he : e ∈ labels)
    (hb : circleIdx cs' e ∈ C02Mirror.goneOf cs' cs) : circleIdx cs e ∈ C02Mirror.goneOf cs cs' := by
  obtain ⟨hi, hei⟩ := circleIdx_spec h he
  refine (C02Mirror.mem_goneOf cs cs' _).2 ⟨hi, fun hc => ?_⟩
  obtain ⟨k1, k2⟩ := C02Mirror.ix_spec cs' _ hc
  rw [← k2] at hei
  have := circleIdx_of_mem h' k1 hei
  have hn := ((C02Mirror.mem_goneOf cs' cs _).1 hb).2
  rw [this, k2] at hn
  exact hn (getElem!_mem cs _ hi)

theorem edge_keep (hP : Pair cs cs') (h : CirclesSpec labels P cs) (h' : CirclesSpec labels P' cs')
    (he : e ∈ labels) (hh : Int) (m : Nat) (hm : m.testBit (circleIdx cs e) = true) (ts : List (Nat × Int))
    (hts : C02Mirror.edgeTerms hh 0 cs cs' m = some ts) :
    ∀ x ∈ ts, x.1.testBit (circleIdx cs' e) = true := by
  intro x hx
  obtain ⟨_, hC, hne, hrow⟩ := C02Mirror.mem_edgeTerms hP hh 0 m ts hts x hx
  rcases C02Mirror.pos_cases hP _ (circleIdx_spec h' he).1 with ⟨i', hi', hc, hix⟩ | hb
  · rw [← hix, hC i' hi' hc, common_idx h h' he i' hi' hc hix]
    exact hm
  · have hgone := gone_of_born h h' he hb
    rcases hrow with ⟨g0, g1, b, hG, hB, hr⟩ | ⟨g, b0, b1, hG, hB, hr⟩
    · rw [hG] at hgone
      rw [hB] at hb
      have hor : circleIdx cs e = g0 ∨ circleIdx cs e = g1 := by simpa using hgone
      have hjb : circleIdx cs' e = b := by simpa using hb
      rw [hjb]
      refine prod_keep hh _ _ ?_ _ hr hne
      rcases hor with e1 | e1
      · left; rw [← e1]; exact hm
      · right; rw [← e1]; exact hm
    · rw [hG] at hgone
      rw [hB] at hb
      have e1 : circleIdx cs e = g := by simpa using hgone
      have hjb : circleIdx cs' e = b0 ∨ circleIdx cs' e = b1 := by simpa using hb
      rw [← e1, hm] at hr
      obtain ⟨y1, y2⟩ := coprod_keep hh _ hr hne
      rcases hjb with e2 | e2 <;> rw [e2]
      · exact y1
      · exact y2

end circ

/-- what the proof uses of a cube of the reduced theory -/
structure RedHyp (c : Cube) (labels : Array Nat) (e : Nat) : Prop where
  base : c.base = some e
  mem : e ∈ labels
  spec : ∀ s, s < 2 ^ c.n → ∃ P, CirclesSpec labels P c.circ[s]!
  pair : ∀ s s', s < 2 ^ c.n → s' < 2 ^ c.n → Pair c.circ[s]! c.circ[s']!

section cube
variable {c : Cube} {labels : Array Nat} {e : Nat}

theorem baseKeep_eq (H : RedHyp c labels e) (y : Gen) (hs : y.s < 2 ^ c.n) :
    baseKeep c y = y.mask.testBit (circleIdx c.circ[y.s]! e) := by
  obtain ⟨P, hP⟩ := H.spec y.s hs
  unfold baseKeep Cube.baseCircle
  simp only [H.base, findIdx_circle hP H.mem]

theorem dRaw_keep (H : RedHyp c labels e) (p : Params) (ht : p.t = 0) (g : Gen) (hs : g.s < 2 ^ c.n)
    (hg : baseKeep c g = true) (out : List Term) (hd : dRaw c p g = some out) :
    ∀ x ∈ out, x.1.s < 2 ^ c.n ∧ baseKeep c x.1 = true := by
  intro x hx
  rw [C06Cycle.dRaw_spec] at hd
  split at hd
  · cases hd
    obtain ⟨k, hk', _, hxt⟩ := (C06Cycle.mem_rawTerms c p g x).1 hx
    rw [C02Mirror.edgeTerms_bridge] at hxt
    cases hm : C02Mirror.edgeTerms p.h p.t c.circ[g.s]! c.circ[g.s ||| 1 <<< k]! g.mask with
    | none => rw [hm] at hxt; cases hxt
    | some tl =>
      rw [hm] at hxt
      obtain ⟨mt, hmt, rfl⟩ := List.mem_map.1 hxt
      have hs' := KhRef.or_bit_lt hs hk'
      refine ⟨hs', ?_⟩
      rw [baseKeep_eq H _ hs']
      rw [baseKeep_eq H g hs] at hg
      obtain ⟨P, hP⟩ := H.spec g.s hs
      obtain ⟨P', hP'⟩ := H.spec _ hs'
      rw [ht] at hm
      exact edge_keep (H.pair _ _ hs hs') hP hP' H.mem p.h g.mask hg tl hm mt hmt
  · cases hd

theorem d_reduced_eq (H : RedHyp c labels e) (p : Params) (ht : p.t = 0) (g : Gen) (hs : g.s < 2 ^ c.n)
    (hg : baseKeep c g = true) : c.d p g = ({ c with base := none } : Cube).d p g := by
  rw [C06Cycle.d_of_base_none { c with base := none } rfl, cube_d_eq c p g]
  show _ = (dRaw c p g).map List.toArray
  cases hd : dRaw c p g with
  | none => rfl
  | some out =>
    simp only [Option.map_some, H.base]
    exact congrArg (fun l => some (List.toArray l))
      (List.filter_eq_self.2 (fun x hx => (dRaw_keep H p ht g hs hg out hd x hx).2))

theorem d_squared_zero_reduced_of (H : RedHyp c labels e) (p : Params) (ht : p.t = 0) (hok : cubeOK c)
    (hF : FaceComm c p) (g : Gen) (hs : g.s < 2 ^ c.n) (hg : baseKeep c g = true) :
    ∃ ts, c.d p g = some ts ∧ Yuiv.Drv.C06.dOfChain c p ts.toList = some [] := by
  have hok0 : cubeOK ({ c with base := none } : Cube) := hok
  have hF0 : FaceComm ({ c with base := none } : Cube) p := hF
  obtain ⟨ts, hd0, hz0⟩ := d_squared_zero_of_faces { c with base := none } p rfl hok0 hF0 g hs
  have hd : c.d p g = some ts := by rw [d_reduced_eq H p ht g hs hg]; exact hd0
  refine ⟨ts, hd, ?_⟩
  rw [C06Cycle.d_of_base_none _ rfl] at hd0
  change (dRaw c p g).map List.toArray = some ts at hd0
  cases hr : dRaw c p g with
  | none => rw [hr] at hd0; cases hd0
  | some out =>
    rw [hr, Option.map_some] at hd0
    injection hd0 with hd0
    subst hd0
    have hkeep := dRaw_keep H p ht g hs hg out hr
    rw [C06Cycle.dOfChain_nil_iff] at hz0 ⊢
    obtain ⟨h1, h2⟩ := hz0
    have heq : ∀ ga ∈ out.toArray.toList, c.d p ga.1 = ({ c with base := none } : Cube).d p ga.1 :=
      fun ga hm => d_reduced_eq H p ht ga.1 (hkeep ga (by simpa using hm)).1 (hkeep ga (by simpa using hm)).2
    refine ⟨fun ga hm => by rw [heq ga hm]; exact h1 ga hm, fun y => ?_⟩
    rw [← h2 y]
    apply C06Cycle.chainSum_congr
    intro ga hm
    simp only [heq ga hm]

end cube

theorem redHyp_mkCube (l : Link) (hv : validK l = true) (hL : (edgeLabels l).size ≤ 64) (p : Params) (e : Nat)
    (hb : (mkCube l p).base = some e) : RedHyp (mkCube l p) (edgeLabels l) e := by
  have hwf := C06Cycle.wf_of_validK l hv
  refine ⟨hb, ?_, ?_, ?_⟩
  · change (if p.reduced = true then
        (if h : 0 < l.size then some ((l[0]).e.foldl min (l[0]).e[0]!) else none) else none) = some e at hb
    split at hb
    · split at hb
      · rename_i h0
        injection hb with hb
        subst hb
        have hmem : l[0] ∈ l := Array.getElem_mem h0
        have h4 : (l[0]).e.size = 4 := hwf _ hmem
        rw [mem_edgeLabels]
        refine ⟨l[0], hmem, ?_⟩
        rw [← Array.foldl_toList]
        rcases foldl_min_mem (l[0]).e.toList (l[0]).e[0]! with h | h
        · rw [h, getElem!_pos _ 0 (by omega)]
          exact Array.getElem_mem _
        · exact Array.mem_toList_iff.1 h
      · cases hb
    · cases hb
  · intro s hs
    refine ⟨statePairs l s, ?_⟩
    rw [KhRef.mkCube_circ l p s hs]
    exact C06Cycle.circles_spec l hwf s
  · intro s s' hs hs'
    exact C02Mirror.cube_pair l p hL s s' hs hs'

end Yuiv.C01Sq
