import Yuiv.Proofs.C02MirrorEx
import Yuiv.Props.C18Bridge
import Yuiv.Props.C03Uct
/-
C02Mirror — the MIRROR RULE of property C02 (free part `(i,j) ↦ (−i,−j)`, torsion `(i,j) ↦ (1−i,−j)`) for the
reference cube `Yuiv.KhRef` at `h = 0` (in particular `h = t = 0`), UNREDUCED theory.

(1) CHAIN-LEVEL DUALITY.  For EVERY diagram `l : KhRef.Link` (no well-formedness needed for the cube part):
  * vertex `s̄ = 2ⁿ−1−s` of the cube of `mirror l` carries the same circle list as vertex `s` of the cube of `l`
    (`mirror_state_circles`);
  * the dual generator `dualGen (s, m) = (s̄, m̄)` (labels `1 ↔ X` swapped on every circle) has homological degree
    `−i` and quantum degree `−j`, the crossing signs being negated (`mirror_degrees`, with the reference's own
    `crossingSigns` on every valid link; `n₊ + n₋ = n` is proved of `KhRef.crossingSigns` for ALL links);
  * `prod_coprod_adjoint`: at `h = 0` the tables `prod`/`coprod` are adjoint under `⟨1, X⟩ = 1`;
  * `mirror_edge_map_transpose`: every single edge map is transposed (merge ↔ split), for any two circle lists
    without repeated circles and of size ≤ 64;
  * `mirror_d_transpose`, `mirror_d_matrix`: the matrix of `Cube.d` of the mirror cube in the dual bases is
        D_src · (matrix of `Cube.d` of the cube)ᵀ · D_tgt ,      D = diag(σ),  σ(s) = (−1)^{Σ positions of the 1-bits of s}
    — the edge signs `(−1)^{#1s before k}` of the reversed cube differ from the transposed ones by `(−1)^k`, which is
    the coboundary of `σ`; so the two differentials are conjugate by diagonal `±1` matrices (NOT equal).
  Hypotheses: `p.h = 0`, `p.reduced = false`, `(edgeLabels l).size ≤ 64` (the reference's `setBit` clears bits through
  a 64-bit mask, see `setBit_high_bits_lost`; a diagram with ≤ 64 edge labels has ≤ 64 circles in every state), and
  `cubeOK (mkCube l p)`: every edge of the cube is one merge or one split — this is exactly what `Cube.d` checks (else
  it returns `none` = `Failure.malformed`); it holds for planar diagrams, fails for some abstract PD codes (virtual
  crossings), is decidable per instance, and transfers to the mirror (`mirror_cube_ok`).
(2) FROM DUALITY TO THE TABLE.  `snf_transpose`: `EquivDiag A d → EquivDiag Aᵀ d`; `dual_cell_rule`: the cell of the
  dual complex; `mirror_rule_cells`: diagonal forms `dA`, `dB` of the differentials into / out of bidegree `(i,j)` of `l`
  are diagonal forms of the differentials out of / into the dual bidegree of `mirror l`, hence the cell of the mirror
  there has the free rank of the cell `(i,j)` of `l` and the torsion orders `torsOf dB` of the cell `(i+1,j)` of `l`;
  `mirror_rule_cells_unique`: whatever other diagonal forms are used for the mirror, the free rank and the number of
  torsion orders divisible by any prime are the same.  PER-INSTANCE DATA: the diagonal forms (they exist for every
  matrix: `C03Uct.snf_exists`) and `cubeOK`.
NOT covered: the reduced theory (`dualGen` swaps the label of the base circle, so it exchanges the sub- and the quotient
complex); the enumeration order of the generators (immaterial: `equivDiag_reindex`).  That `KhRef.khHomology`'s own
Smith-invariant code returns a diagonal form is `Props/KhSnf.smithInvariants_correct`, not used here.
-/
namespace Yuiv.C02Mirror
open Yuiv Yuiv.KhRef Yuiv.C04Inv Matrix Yuiv.C03 Yuiv.C03Uct
open Yuiv.C18Bridge (toKh nPosK nNegK)

/-- TABLE ADJOINTNESS at `h = 0` (any `t`): the coefficient of `y` in `x₁·x₂` is the coefficient of `x̄₁ ⊗ x̄₂` in `Δ ȳ`
(`¯` = swap `1 ↔ X`), i.e. `m` and `Δ` are adjoint under the pairing `⟨1, X⟩ = ⟨X, 1⟩ = 1`, `⟨1,1⟩ = ⟨X,X⟩ = 0` -/
theorem prod_coprod_adjoint (t : Int) (x1 x2 y : Bool) :
    prodCoef 0 t x1 x2 y = coprodCoef 0 t (!y) (!x1) (!x2) :=
  prod_coprod_adjoint' t x1 x2 y

/-- … and only then: for `h ≠ 0` the tables are not adjoint (`X·X ∋ h·X` but `Δ1 ∋ −h·1⊗1`) -/
theorem prod_coprod_adjoint_needs_h0 (h t : Int) (hh : h ≠ 0) :
    prodCoef h t true true true ≠ coprodCoef h t false false false := by
  rw [prodCoef_eq, coprodCoef_eq]
  simp only [Bool.and_self, if_true, Bool.false_eq_true, if_false, Bool.or_self]
  omega

/-- transposing the unimodular factors: a diagonal form of `A` is a diagonal form of `Aᵀ` -/
theorem snf_transpose {m n : ℕ} (A : Matrix (Fin m) (Fin n) ℤ) (d : List ℤ) (h : EquivDiag A d) : EquivDiag Aᵀ d :=
  equivDiag_transpose A d h

/-- diagonal forms do not depend on the enumeration of the generators, nor on unimodular changes of the bases -/
theorem snf_reindex_unimodular {m n : ℕ} (A : Matrix (Fin m) (Fin n) ℤ) (d : List ℤ) (h : EquivDiag A d) :
    (∀ (σ : Fin m ≃ Fin m) (τ : Fin n ≃ Fin n), EquivDiag (A.submatrix σ τ) d) ∧
    (∀ (U : Matrix (Fin m) (Fin m) ℤ) (V : Matrix (Fin n) (Fin n) ℤ), IsUnit U.det → IsUnit V.det →
      EquivDiag (U * A * V) d) :=
  ⟨fun σ τ => equivDiag_reindex A d σ τ h, fun U V hU hV => equivDiag_mul_unimodular A d U V hU hV h⟩

/-- THE CELL RULE OF THE DUAL COMPLEX.  For `ℤˡ --A--> ℤⁿ --B--> ℤᵏ` with diagonal forms `dA`, `dB`, the dual complex
`ℤᵏ --Bᵀ--> ℤⁿ --Aᵀ--> ℤˡ` (still a complex) has the diagonal forms `dB`, `dA`; its middle cell has the SAME free rank
as the middle cell of the original and the torsion orders `torsOf dB` — those of the NEXT cell of the original
(whatever the differential `dC` after `B` is) -/
theorem dual_cell_rule {l n k : ℕ} (A : Matrix (Fin n) (Fin l) ℤ) (B : Matrix (Fin k) (Fin n) ℤ)
    (hBA : B * A = 0) (dA dB : List ℤ) (hA : EquivDiag A dA) (hB : EquivDiag B dB) :
    Aᵀ * Bᵀ = 0 ∧ EquivDiag Bᵀ dB ∧ EquivDiag Aᵀ dA ∧
    (cellOf n dB dA).rank = (cellOf n dA dB).rank ∧
    (cellOf n dB dA).tors = torsOf dB ∧ ∀ dC : List ℤ, (cellOf k dB dC).tors = (cellOf n dB dA).tors := by
  refine ⟨?_, equivDiag_transpose B dB hB, equivDiag_transpose A dA hA, cellOf_rank_symm n dA dB, rfl, fun _ => rfl⟩
  rw [← Matrix.transpose_mul, hBA, Matrix.transpose_zero]

/-- STATE CORRESPONDENCE (every diagram): the mirror has the same number of crossings and the same edge labels, and
the complementary state `s̄ = 2ⁿ − 1 − s` of the mirror has the same circles — as computed by `KhRef.circles` and as
stored in the cube — as the state `s` (because `resolve (mirror c) (¬b) = resolve c b`) -/
theorem mirror_state_circles (l : Link) (p : Params) (s : Nat) (hs : s < 2 ^ crossingNum l) :
    crossingNum (mirror l) = crossingNum l ∧ edgeLabels (mirror l) = edgeLabels l ∧
    resolvedTypes (mirror l) (compl (crossingNum l) s) = resolvedTypes l s ∧
    circles (mirror l) (edgeLabels (mirror l)) (compl (crossingNum l) s) = circles l (edgeLabels l) s ∧
    (mkCube (mirror l) p).circ[compl (crossingNum l) s]! = (mkCube l p).circ[s]! ∧
    compl (crossingNum l) (compl (crossingNum l) s) = s :=
  ⟨crossingNum_mirror l, edgeLabels_mirror l, resolvedTypes_mirror l s hs,
    by rw [edgeLabels_mirror]; exact circles_mirror l _ s hs, cube_mirror_circ l p s hs, compl_compl _ s hs⟩

/-- the circle lists of the cube have no repeated circle and at most as many circles as the diagram has labels
(the hypotheses of the edge-wise transpose) -/
theorem cube_circles_nodup (l : Link) (p : Params) (s : Nat) (hs : s < 2 ^ crossingNum l) :
    ((mkCube l p).circ[s]!).toList.Nodup ∧ ((mkCube l p).circ[s]!).size ≤ (edgeLabels l).size := by
  rw [mkCube_circ _ _ _ hs, circles_eq]
  exact ⟨circF_nodup _ _ (edgeLabels_nodup l), circF_size_le _ _⟩

/-- the dual generators are the generators of the mirror cube, and dualising twice is the identity -/
theorem mirror_generators (l : Link) (p : Params) (g : Gen) (hg : IsGen (mkCube l p) g) :
    IsGen (mkCube (mirror l) p) (dualGen (mkCube l p) g) ∧
    dualGen (mkCube (mirror l) p) (dualGen (mkCube l p) g) = g :=
  ⟨isGen_dual l p g hg, dualGen_dualGen l p g hg⟩

/-- DEGREES, general form: if the degree shifts of the mirror are those of `l` with `n₊ ↔ n₋` and `n₊ + n₋ = n`, the dual
generator has homological degree `−i` and quantum degree `−j` (formulas of `KhRef.khHomology`: `i = −n₋ + |s|`,
`j = Cube.qDeg (n₊ − 2n₋) g`) -/
theorem mirror_degrees_shifts (l : Link) (p : Params) (hr : p.reduced = false) (g : Gen) (hg : IsGen (mkCube l p) g)
    (nPos nNeg : Nat) (hn : nPos + nNeg = crossingNum l) :
    (-(nPos : Int) + (popcount (dualGen (mkCube l p) g).s (mkCube (mirror l) p).n : Int)
        = -(-(nNeg : Int) + (popcount g.s (mkCube l p).n : Int))) ∧
    (mkCube (mirror l) p).qDeg ((nNeg : Int) - 2 * nPos + (if p.reduced then 1 else 0)) (dualGen (mkCube l p) g)
      = -((mkCube l p).qDeg ((nPos : Int) - 2 * nNeg + (if p.reduced then 1 else 0)) g) := by
  constructor
  · have : (mkCube (mirror l) p).n = crossingNum l := crossingNum_mirror l
    rw [this]
    exact hDeg_dual _ _ _ _ hg.1 hn
  · apply qDeg_dual l p g hg
    simp only [hr, Bool.false_eq_true, if_false]
    omega

/-- DEGREES with the reference's OWN crossing signs: for every valid link (C18's validity: every label occurs in exactly
two slots) `KhRef.crossingSigns` succeeds on the link and on its mirror, the signs of the mirror are the negated ones,
`n₊ + n₋ = n`, and the dual of a generator of bidegree `(i, j)` is a generator of the mirror of bidegree `(−i, −j)` -/
theorem mirror_degrees (l0 : C18.Link) (hv : C18.Valid l0) (p : Params) (hr : p.reduced = false) :
    ∃ sg sg', KhRef.crossingSigns (toKh l0) = some sg ∧ KhRef.crossingSigns (mirror (toKh l0)) = some sg' ∧
      nPosK sg' = nNegK sg ∧ nNegK sg' = nPosK sg ∧ nPosK sg + nNegK sg = crossingNum (toKh l0) ∧
      ∀ g, IsGen (mkCube (toKh l0) p) g →
        (-(nNegK sg' : Int) + (popcount (dualGen (mkCube (toKh l0) p) g).s (mkCube (mirror (toKh l0)) p).n : Int)
          = -(-(nNegK sg : Int) + (popcount g.s (mkCube (toKh l0) p).n : Int))) ∧
        (mkCube (mirror (toKh l0)) p).qDeg ((nPosK sg' : Int) - 2 * nNegK sg' + (if p.reduced then 1 else 0))
            (dualGen (mkCube (toKh l0) p) g)
          = -((mkCube (toKh l0) p).qDeg ((nPosK sg : Int) - 2 * nNegK sg + (if p.reduced then 1 else 0)) g) := by
  obtain ⟨sg, h1, h2, h3, h4⟩ := Yuiv.C18Bridge.khref_signs_mirror_neg l0 hv
  have hn := signs_count _ sg h1
  refine ⟨sg, _, h1, h2, h3, h4, hn, fun g hg => ?_⟩
  rw [h3, h4]
  exact mirror_degrees_shifts (toKh l0) p hr g hg _ _ hn

/-- `n₊ + n₋ = n` for ANY diagram on which the reference's `crossingSigns` succeeds -/
theorem khref_signs_count (l : Link) (sg : Array Int) (h : KhRef.crossingSigns l = some sg) :
    nPosK sg + nNegK sg = crossingNum l :=
  signs_count l sg h

/-- EDGE-WISE TRANSPOSE (`h = 0`, any `t`).  For two circle lists `cs`, `cs'` without repeated circles and with at most
64 circles each, and labellings `m` of `cs`, `m'` of `cs'`: either the lists do not differ by one merge / one split and
both edge maps are undefined, or both are defined and the coefficient of `m'` in the edge map `cs → cs'` applied to `m`
equals the coefficient of `m̄` in the edge map `cs' → cs` applied to `m̄'` (a merge read backwards is a split) -/
theorem mirror_edge_map_transpose (cs cs' : Circ) (hnd : cs.toList.Nodup) (hnd' : cs'.toList.Nodup)
    (h64 : cs.size ≤ 64) (h64' : cs'.size ≤ 64) (t : Int) (m m' : Nat) (hm : m < 2 ^ cs.size) (hm' : m' < 2 ^ cs'.size) :
    (edgeOK cs cs' = false ∧ edgeTerms 0 t cs cs' m = none ∧ edgeTerms 0 t cs' cs (flipMask cs'.size m') = none) ∨
    ∃ ts ts', edgeTerms 0 t cs cs' m = some ts ∧ edgeTerms 0 t cs' cs (flipMask cs'.size m') = some ts' ∧
      coefOf ts m' = coefOf ts' (flipMask cs.size m) :=
  edge_transpose ⟨hnd, hnd', h64, h64'⟩ t m m' hm hm'

/-- `Cube.d` IS the sum of the signed edge maps: in the unreduced theory the imperative `Cube.d` equals the loop-free
`dF` for ALL inputs, and on a cube all of whose edges are merges/splits it is defined on every generator with
coefficients `Σ_k kTerm` (`kTerm` = `edgeSign s k` · coefficient of the edge map of edge `k`, if `s ∪ {k} = s'`) -/
theorem cube_d_functional (c : Cube) (p : Params) (g : Gen) (hb : c.base = none) :
    c.d p g = dF c p g ∧
    (g.s < 2 ^ c.n → cubeOK c →
      (∃ ts, c.d p g = some ts) ∧ ∀ g', dCoef c p g g' = ((List.range' 0 c.n).map (kTerm c p g g')).sum) :=
  ⟨d_eq c p g hb, fun hs hok => d_coef c p g hb hs hok⟩

/-- "every edge is a merge or a split" transfers to the mirror cube, and then both differentials are defined on all
generators -/
theorem mirror_cube_ok (l : Link) (p : Params) (hr : p.reduced = false) (hok : cubeOK (mkCube l p)) :
    cubeOK (mkCube (mirror l) p) ∧
    (∀ g, IsGen (mkCube l p) g → ∃ ts, (mkCube l p).d p g = some ts) ∧
    (∀ g, IsGen (mkCube (mirror l) p) g → ∃ ts, (mkCube (mirror l) p).d p g = some ts) :=
  ⟨cubeOK_mirror l p hok,
    fun g hg => (d_coef _ p g (mkCube_base_of_unreduced l p hr) hg.1 hok).1,
    fun g hg => (d_coef _ p g (mkCube_base_of_unreduced _ p hr) hg.1 (cubeOK_mirror l p hok)).1⟩

/-- CHAIN-LEVEL DUALITY, coefficient form: for all generators `g`, `g'` of the cube of `l` (adjacent or not), the
coefficient of `ḡ` in `d_mirror(ḡ')` is `σ(s)·σ(s')` times the coefficient of `g'` in `d(g)` -/
theorem mirror_d_transpose (l : Link) (p : Params) (hh : p.h = 0) (hr : p.reduced = false)
    (hL : (edgeLabels l).size ≤ 64) (hok : cubeOK (mkCube l p)) (g g' : Gen)
    (hg : IsGen (mkCube l p) g) (hg' : IsGen (mkCube l p) g') :
    dCoef (mkCube (mirror l) p) p (dualGen (mkCube l p) g') (dualGen (mkCube l p) g)
      = sigma (crossingNum l) g.s * sigma (crossingNum l) g'.s * dCoef (mkCube l p) p g g' :=
  dCoef_dual l p hh hr hL hok g g' hg hg'

/-- CHAIN-LEVEL DUALITY, matrix form: for any families `src`, `tgt` of generators of the cube of `l` (e.g. all
generators of bidegrees `(i,j)` and `(i+1,j)`), the matrix of the differential of the mirror cube from the duals of `tgt`
to the duals of `src` is the transpose of the matrix of the differential of `l` from `src` to `tgt`, conjugated by the
diagonal `±1` matrices of the signs `σ` -/
theorem mirror_d_matrix (l : Link) (p : Params) (hh : p.h = 0) (hr : p.reduced = false)
    (hL : (edgeLabels l).size ≤ 64) (hok : cubeOK (mkCube l p)) {a b : ℕ} (src : Fin a → Gen) (tgt : Fin b → Gen)
    (hsrc : ∀ i, IsGen (mkCube l p) (src i)) (htgt : ∀ j, IsGen (mkCube l p) (tgt j)) :
    dMatrix (mkCube (mirror l) p) p (fun j => dualGen (mkCube l p) (tgt j)) (fun i => dualGen (mkCube l p) (src i))
      = Matrix.diagonal (fun i => sigma (crossingNum l) (src i).s) * (dMatrix (mkCube l p) p src tgt)ᵀ
          * Matrix.diagonal (fun j => sigma (crossingNum l) (tgt j).s) ∧
    (∀ i, sigma (crossingNum l) (src i).s = 1 ∨ sigma (crossingNum l) (src i).s = -1) :=
  ⟨dMatrix_dual l p hh hr hL hok src tgt hsrc htgt, fun _ => sigma_unit _ _⟩

/-- THE MIRROR RULE ON CELLS.  Let `G0`, `G1`, `G2` enumerate generators of the cube of `l` (intended: ALL generators of
bidegrees `(i−1,j)`, `(i,j)`, `(i+1,j)`; by `mirror_degrees` / `mirror_generators` their duals then are all generators
of the mirror of bidegrees `(1−i,−j)`, `(−i,−j)`, `(−i−1,−j)`), `A = d : G0 → G1`, `B = d : G1 → G2` with diagonal forms
`dA`, `dB` (per-instance data; they always exist).  Then `dB`, `dA` are diagonal forms of the differentials of the mirror
INTO and OUT OF the duals of `G1`, so the cell of the mirror at `(−i,−j)` built from them is
    ⟨ free rank of the cell `(i,j)` of `l` ,  torsion orders of the cell `(i+1,j)` of `l` ⟩
— free part `(i,j) ↦ (−i,−j)`, torsion part `(i+1,j) ↦ (−i,−j) = (1−(i+1), −j)` -/
theorem mirror_rule_cells (l : Link) (p : Params) (hh : p.h = 0) (hr : p.reduced = false)
    (hL : (edgeLabels l).size ≤ 64) (hok : cubeOK (mkCube l p)) {a n b : ℕ}
    (G0 : Fin a → Gen) (G1 : Fin n → Gen) (G2 : Fin b → Gen)
    (h0 : ∀ i, IsGen (mkCube l p) (G0 i)) (h1 : ∀ i, IsGen (mkCube l p) (G1 i)) (h2 : ∀ i, IsGen (mkCube l p) (G2 i))
    (dA dB : List ℤ) (hA : EquivDiag (dMatrix (mkCube l p) p G0 G1) dA)
    (hB : EquivDiag (dMatrix (mkCube l p) p G1 G2) dB) :
    EquivDiag (dMatrix (mkCube (mirror l) p) p (fun i => dualGen (mkCube l p) (G2 i))
      (fun i => dualGen (mkCube l p) (G1 i))) dB ∧
    EquivDiag (dMatrix (mkCube (mirror l) p) p (fun i => dualGen (mkCube l p) (G1 i))
      (fun i => dualGen (mkCube l p) (G0 i))) dA ∧
    (cellOf n dB dA).rank = (cellOf n dA dB).rank ∧
    ∀ dC : List ℤ, (cellOf n dB dA).tors = (cellOf b dB dC).tors :=
  ⟨equivDiag_mirror l p hh hr hL hok G1 G2 h1 h2 dB hB, equivDiag_mirror l p hh hr hL hok G0 G1 h0 h1 dA hA,
    cellOf_rank_symm n dA dB, fun _ => rfl⟩

/-- … and the counts do not depend on the diagonal forms chosen for the mirror: for ANY diagonal forms `dA'`, `dB'` of the
two differentials of the mirror, the free rank of the mirror cell is the free rank of the cell `(i,j)` of `l`, and for
every prime `q` the number of its torsion orders divisible by `q` is that of the cell `(i+1,j)` of `l` -/
theorem mirror_rule_cells_unique (l : Link) (p : Params) (hh : p.h = 0) (hr : p.reduced = false)
    (hL : (edgeLabels l).size ≤ 64) (hok : cubeOK (mkCube l p)) {a n b : ℕ}
    (G0 : Fin a → Gen) (G1 : Fin n → Gen) (G2 : Fin b → Gen)
    (h0 : ∀ i, IsGen (mkCube l p) (G0 i)) (h1 : ∀ i, IsGen (mkCube l p) (G1 i)) (h2 : ∀ i, IsGen (mkCube l p) (G2 i))
    (dA dB dA' dB' : List ℤ) (hA : EquivDiag (dMatrix (mkCube l p) p G0 G1) dA)
    (hB : EquivDiag (dMatrix (mkCube l p) p G1 G2) dB)
    (hA' : EquivDiag (dMatrix (mkCube (mirror l) p) p (fun i => dualGen (mkCube l p) (G2 i))
      (fun i => dualGen (mkCube l p) (G1 i))) dA')
    (hB' : EquivDiag (dMatrix (mkCube (mirror l) p) p (fun i => dualGen (mkCube l p) (G1 i))
      (fun i => dualGen (mkCube l p) (G0 i))) dB') :
    (cellOf n dA' dB').rank = (cellOf n dA dB).rank ∧
    ∀ (q : ℕ) [Fact q.Prime], ∀ dC : List ℤ,
      ((cellOf n dA' dB').tors.filter (fun x => x % (q : ℤ) == 0)).length
        = ((cellOf b dB dC).tors.filter (fun x => x % (q : ℤ) == 0)).length := by
  obtain ⟨m1, m2, _, _⟩ := mirror_rule_cells l p hh hr hL hok G0 G1 G2 h0 h1 h2 dA dB hA hB
  have : Fact (Nat.Prime 2) := ⟨Nat.prime_two⟩
  have u1 := Yuiv.C03Uct.snf_counts_unique 2 _ dA' dB hA' m1
  have u2 := Yuiv.C03Uct.snf_counts_unique 2 _ dB' dA hB' m2
  refine ⟨?_, fun q _ _ => ?_⟩
  · show n - nz dA' - nz dB' = n - nz dA - nz dB
    rw [u1.1, u2.1]; omega
  · exact (Yuiv.C03Uct.snf_counts_unique q _ dA' dB hA' m1).2.2

/-! ### a limit of the reference (documents the hypothesis `≤ 64`) -/

/-- `KhRef.setBit x i false` clears bit `i` through a 64-bit mask, so it also drops every bit of `x` above 63: labellings
of more than 64 circles are not handled by the reference cube (never reached in practice: 2⁶⁴ generators) -/
theorem setBit_high_bits_lost : setBit (2 ^ 70 + 8) 3 false = 0 ∧ setBit (2 ^ 70 + 8) 3 true = 2 ^ 70 + 8 := by
  decide


/-! ### non-vacuity: trefoil `[[1,4,2,5],[3,6,4,1],[5,2,6,3]]` and Hopf link `[[4,1,3,2],[2,3,1,4]]` -/

section Examples
open Yuiv.C02Mirror.Ex

/-- the two diagrams are the translations of the PD codes, valid, with all signs negative -/
example : toKh (C18.fromPD [[1,4,2,5],[3,6,4,1],[5,2,6,3]]) = trefoil ∧ toKh (C18.fromPD [[4,1,3,2],[2,3,1,4]]) = hopf ∧
    C18.Valid (C18.fromPD [[1,4,2,5],[3,6,4,1],[5,2,6,3]]) ∧ C18.Valid (C18.fromPD [[4,1,3,2],[2,3,1,4]]) :=
  ⟨rfl, rfl, by decide, by decide⟩

/-- the hypotheses of the duality theorems hold: every edge of the two cubes is a merge or a split, ≤ 64 labels -/
example : cubeOK (mkCube trefoil p0) ∧ (edgeLabels trefoil).size ≤ 64 ∧ cubeOK (mkCube hopf p0) ∧
    (edgeLabels hopf).size ≤ 64 ∧ p0.h = 0 ∧ p0.reduced = false :=
  ⟨trefoil_ok, trefoil_labels, hopf_ok, hopf_labels, rfl, rfl⟩

/-- … and therefore for the mirror images (by the theorem, not by evaluation) -/
example : cubeOK (mkCube (mirror trefoil) p0) ∧ cubeOK (mkCube (mirror hopf) p0) :=
  ⟨(mirror_cube_ok trefoil p0 rfl trefoil_ok).1, (mirror_cube_ok hopf p0 rfl hopf_ok).1⟩

/-- state correspondence evaluated: state `101` of the trefoil (one circle) ↔ state `010` of its mirror -/
example : compl 3 5 = 2 ∧ (mkCube (mirror trefoil) p0).circ[2]! = (mkCube trefoil p0).circ[5]! :=
  ⟨by decide, (mirror_state_circles trefoil p0 5 (by decide)).2.2.2.2.1⟩

/-- a non-trivial instance of `mirror_d_transpose`, both sides evaluated: in the trefoil `d(X⊗X⊗1) ∋ +1·(X⊗X)` along
edge 1 of state `000`; in the mirror the dual coefficient is `−1 = σ(000)·σ(010)·(+1)` -/
example : dCoef (mkCube trefoil p0) p0 ⟨0, 3⟩ ⟨2, 3⟩ = 1 ∧
    ((dualGen (mkCube trefoil p0) ⟨0, 3⟩).s = 7 ∧ (dualGen (mkCube trefoil p0) ⟨0, 3⟩).mask = 4) ∧
    ((dualGen (mkCube trefoil p0) ⟨2, 3⟩).s = 5 ∧ (dualGen (mkCube trefoil p0) ⟨2, 3⟩).mask = 0) ∧
    dCoef (mkCube (mirror trefoil) p0) p0 ⟨5, 0⟩ ⟨7, 4⟩ = -1 ∧ sigma 3 0 * sigma 3 2 = -1 := by
  rw [mkCube_trefoil, mkCube_eq_cubeWith _ _ rfl, edgeLabels_mirror_trefoil]
  decide +kernel

/-- the same instance through the theorem -/
example : dCoef (mkCube (mirror trefoil) p0) p0 (dualGen (mkCube trefoil p0) ⟨2, 3⟩) (dualGen (mkCube trefoil p0) ⟨0, 3⟩)
    = sigma 3 0 * sigma 3 2 * dCoef (mkCube trefoil p0) p0 ⟨0, 3⟩ ⟨2, 3⟩ :=
  mirror_d_transpose trefoil p0 rfl rfl trefoil_labels trefoil_ok ⟨0, 3⟩ ⟨2, 3⟩ (tSrc_gen 0) (tTgt_gen 1)

/-- Hopf link: a split edge `11 → …` does not exist, but `00 → 01` is a merge; its dual is a split of the mirror -/
example : dCoef (mkCube hopf p0) p0 ⟨0, 1⟩ ⟨1, 1⟩ = 1 ∧
    dCoef (mkCube (mirror hopf) p0) p0 (dualGen (mkCube hopf p0) ⟨1, 1⟩) (dualGen (mkCube hopf p0) ⟨0, 1⟩)
      = sigma 2 0 * sigma 2 1 * 1 := by
  constructor
  · rw [mkCube_hopf]
    decide +kernel
  · have h : dCoef (mkCube hopf p0) p0 ⟨0, 1⟩ ⟨1, 1⟩ = 1 := by
      rw [mkCube_hopf]
      decide +kernel
    rw [← h]
    refine mirror_d_transpose hopf p0 rfl rfl hopf_labels hopf_ok ⟨0, 1⟩ ⟨1, 1⟩ ?_ ?_ <;>
      (rw [mkCube_hopf]; decide +kernel)

/-- THE ℤ/2 OF THE TREFOIL MOVES AS THE RULE SAYS.  Left-handed trefoil (`n₋ = 3`): `tSrc` / `tTgt` are the generators of
bidegrees `(−3,−7)` / `(−2,−7)`, the differential between them has Smith form `diag(1,1,2)` — torsion `ℤ/2` in the cell
`(−2,−7)` of `l`.  `mirror_rule_cells` (with `G0 = ∅`, `G1 = tSrc`, `G2 = tTgt`) gives for the mirror, at the duals of
`tSrc` (bidegree `(3,7)`), the cell `⟨0, [2]⟩`: torsion `(−2,−7) ↦ (3,7) = (1−(−2), 7)`, and free rank `0` as in `(−3,−7)` -/
example :
    EquivDiag (dMatrix (mkCube (mirror trefoil) p0) p0 (fun i => dualGen (mkCube trefoil p0) (tTgt i))
      (fun i => dualGen (mkCube trefoil p0) (tSrc i))) [1, 1, 2] ∧
    cellOf 3 [1, 1, 2] [] = ⟨0, [2]⟩ ∧ (cellOf 3 [] [1, 1, 2]).rank = 0 ∧ (cellOf 3 [1, 1, 2] []).tors = [2] :=
  ⟨(mirror_rule_cells trefoil p0 rfl rfl trefoil_labels trefoil_ok tNil tSrc tTgt (fun i => i.elim0) tSrc_gen tTgt_gen
      [] [1, 1, 2] tNil_snf tB_snf).1, by decide, by decide, by decide⟩

/-- the bidegrees used above, evaluated (`h0 = −3`, `q0 = −6` for the left-handed trefoil; `h0' = 0`, `q0' = 3` for its
mirror): `tSrc` in `(−3,−7)`, `tTgt` in `(−2,−7)`, dual of `tSrc 0` in `(3, 7)` -/
example : (∀ i, (-3 + (popcount (tSrc i).s 3 : Int) = -3) ∧ (mkCube trefoil p0).qDeg (-6) (tSrc i) = -7) ∧
    (∀ i, (-3 + (popcount (tTgt i).s 3 : Int) = -2) ∧ (mkCube trefoil p0).qDeg (-6) (tTgt i) = -7) ∧
    (mkCube (mirror trefoil) p0).qDeg 3 (dualGen (mkCube trefoil p0) (tSrc 0)) = 7 := by
  refine ⟨tSrc_deg, tTgt_deg, ?_⟩
  have := (mirror_degrees_shifts trefoil p0 rfl (tSrc 0) (tSrc_gen 0) 0 3 (by decide)).2
  have h := (tSrc_deg 0).2
  simp only [p0, Bool.false_eq_true, if_false] at this h ⊢
  norm_num at this
  rw [this, h]
  rfl

/-- corner cases.  A kink (`X[1,2,2,1]`, unknot) satisfies the hypotheses, so the duality covers it; the code `X[1,2,1,2]`
is valid in the sense of C18 (every label twice) but not planar: both smoothings have ONE circle, `cubeOK` fails and
the reference's `Cube.d` itself returns `none` (`Failure.malformed`) — `cubeOK` cannot be derived from validity -/
example : (cubeOK (mkCube kink p0) ∧ (edgeLabels kink).size ≤ 64) ∧
    (¬ cubeOK (mkCube virt p0) ∧ (mkCube virt p0).d p0 ⟨0, 0⟩ = none) ∧ C18.Valid (C18.fromPD [[1,2,1,2]]) ∧
    toKh (C18.fromPD [[1,2,1,2]]) = virt :=
  ⟨kink_ok, virt_not_ok, by decide, rfl⟩

end Examples

end Yuiv.C02Mirror
