import Mathlib.Data.Matrix.ColumnRowPartitioned
/-
C07 — algebraic core of `HomologyCalc::trans` (yui-homology/src/utils/homology_calc.rs).

        d1             d2
   C1 ------> C2 ------------> C3          index types:  C1 = `M`, C2 = `N`, C3 = `K`

`s1 = snf(d1)` gives `P1`, `P1⁻¹` (flags `[with_trans, true, false, false]`), `S1 = P1·d1·Q1`;
`d2' = d2 · P1⁻¹[:, r1..n]`;  `s2 = snf(d2')` gives `Q2`, `Q2⁻¹`, `S2 = P2·d2'·Q2`.

Row/column *ranges* of the code are modelled by arbitrary index maps, so that one statement covers every
way of cutting out the blocks (in particular the `Fin` ranges of the code: `pSum`, `qSum`, `pFin`, `qFin` at the end of this
file; the theorems about `p`, `q` stand in `Props/C07.lean`):

    iB : B → N      rows  r1..n            of P1 / columns of P1⁻¹      ("C21'", complement of the image part)
    iT : T → N      rows  r1-t..r1                                      (torsion part)
    iF : F → B      rows  r2..n-r1         of Q2⁻¹ / columns of Q2      ("C22'", free part)

The matrices built by the code:

    p = [ Q2⁻¹[r2.., :] · P1[r1.., :] ;  P1[r1-t..r1, :] ]            (stack)
    q = [ P1⁻¹[:, r1..] · Q2[:, r2..] |  P1⁻¹[:, r1-t..r1] ]          (concat)
-/
namespace Yuiv.C07
open Matrix

section rows
variable {R : Type*} [CommRing R] {M N A B : Type*} [Fintype N] [DecidableEq N] [Fintype A] [Fintype B]

theorem mulVec_of_row_single (S : Matrix M N R) (r : M) (c : N) (β : R)
    (h : ∀ j, S r j = if j = c then β else 0) (w : N → R) : (S *ᵥ w) r = β * w c := by
  simp only [Matrix.mulVec, dotProduct, h, ite_mul, zero_mul, Finset.sum_ite_eq', Finset.mem_univ, if_true]

omit [DecidableEq N] in
theorem mulVec_of_row_zero (S : Matrix M N R) (r : M) (h : ∀ j, S r j = 0) (w : N → R) : (S *ᵥ w) r = 0 := by
  simp only [Matrix.mulVec, dotProduct, h, zero_mul, Finset.sum_const_zero]

omit [DecidableEq N] in
theorem mulVec_of_cols_zero (X : Matrix M N R) (e : A ⊕ B ≃ N) (hX : ∀ k a, X k (e (Sum.inl a)) = 0)
    (y : N → R) : X *ᵥ y = X.submatrix id (fun b => e (Sum.inr b)) *ᵥ fun b => y (e (Sum.inr b)) := by
  ext k
  simp only [Matrix.mulVec, dotProduct, Matrix.submatrix_apply, id]
  rw [← Equiv.sum_comp e, Fintype.sum_sum_type]
  simp only [hX, zero_mul, Finset.sum_const_zero, zero_add]

theorem mul_of_col_single {K C : Type*} (X : Matrix K N R) (S : Matrix N C R) (c : C) (r : N) (α : R)
    (h : ∀ i, S i c = if i = r then α else 0) (k : K) : (X * S) k c = X k r * α := by
  simp only [Matrix.mul_apply, h, mul_ite, mul_zero, Finset.sum_ite_eq', Finset.mem_univ, if_true]

end rows

section solve
variable {R : Type*} [CommRing R] {M N A B : Type*} [Fintype M] [DecidableEq M] [Fintype A]
  [DecidableEq N]

theorem smith_solve (S : Matrix N M R) (e : A ⊕ B ≃ N) (cA : A → M) (α : A → R)
    (hrowA : ∀ a j, S (e (Sum.inl a)) j = if j = cA a then α a else 0)
    (hcolA : ∀ a i, S i (cA a) = if i = e (Sum.inl a) then α a else 0)
    (hrowB : ∀ b j, S (e (Sum.inr b)) j = 0) (hα : ∀ a, α a ≠ 0)
    (y : N → R) (hyB : ∀ b, y (e (Sum.inr b)) = 0) (hdiv : ∀ a, α a ∣ y (e (Sum.inl a))) :
    ∃ x : M → R, S *ᵥ x = y := by
  choose c hc using hdiv
  have hcA : Function.Injective cA := by
    intro a a' h
    have h1 := hrowA a (cA a')
    rw [if_pos h.symm, hcolA a'] at h1
    by_contra hne
    rw [if_neg (fun he => hne (Sum.inl_injective (e.injective he)))] at h1
    exact hα a h1.symm
  refine ⟨fun j => ∑ a, if j = cA a then c a else 0, ?_⟩
  ext i
  obtain ⟨s, rfl⟩ := e.surjective i
  cases s with
  | inl a =>
    rw [mulVec_of_row_single S _ (cA a) (α a) (hrowA a), hc a, Finset.sum_eq_single a]
    · rw [if_pos rfl]
    · intro b _ hb
      rw [if_neg (fun h => hb (hcA h).symm)]
    · intro h; exact absurd (Finset.mem_univ _) h
  | inr b => rw [mulVec_of_row_zero S _ (hrowB b), hyB b]

end solve

section assemble
variable {R : Type*} [CommRing R]
variable {M N K B F T : Type*}
variable [Fintype M] [Fintype N] [Fintype K] [Fintype B] [Fintype F] [Fintype T]
variable [DecidableEq M] [DecidableEq N] [DecidableEq K] [DecidableEq B] [DecidableEq F] [DecidableEq T]

/-- `d2' = d2 * p1_inv.submat_cols(r1..n)` -/
def d2' (d2 : Matrix K N R) (P1i : Matrix N N R) (iB : B → N) : Matrix K B R :=
  d2 * P1i.submatrix id iB

/-- `p_free = p22 * p11`, `p22 = qinv2.submat_rows(r2..n-r1)`, `p11 = p1.submat_rows(r1..n)` -/
def pFree (P1 : Matrix N N R) (Q2i : Matrix B B R) (iB : B → N) (iF : F → B) : Matrix F N R :=
  Q2i.submatrix iF id * P1.submatrix iB id

/-- `p_tor = p1.submat_rows(r1-t..r1)` -/
def pTor (P1 : Matrix N N R) (iT : T → N) : Matrix T N R := P1.submatrix iT id

/-- `p = p_free.stack(&p_tor)` -/
def pMat (P1 : Matrix N N R) (Q2i : Matrix B B R) (iB : B → N) (iT : T → N) (iF : F → B) :
    Matrix (F ⊕ T) N R :=
  fromRows (pFree P1 Q2i iB iF) (pTor P1 iT)

/-- `q_free = q12 * q22`, `q12 = pinv1.submat_cols(r1..n)`, `q22 = q2.submat_cols(r2..n-r1)` -/
def qFree (P1i : Matrix N N R) (Q2 : Matrix B B R) (iB : B → N) (iF : F → B) : Matrix N F R :=
  P1i.submatrix id iB * Q2.submatrix id iF

/-- `q_tor = pinv1.submat_cols(r1-t..r1)` -/
def qTor (P1i : Matrix N N R) (iT : T → N) : Matrix N T R := P1i.submatrix id iT

/-- `q = q_free.concat(&q_tor)` -/
def qMat (P1i : Matrix N N R) (Q2 : Matrix B B R) (iB : B → N) (iT : T → N) (iF : F → B) :
    Matrix N (F ⊕ T) R :=
  fromCols (qFree P1i Q2 iB iF) (qTor P1i iT)

theorem sub_rows_mul_sub_cols {A C L : Type*} [Fintype L] (X : Matrix A L R) (Y : Matrix L C R)
    {A' C' : Type*} (f : A' → A) (g : C' → C) :
    X.submatrix f id * Y.submatrix id g = (X * Y).submatrix f g := rfl

theorem mul_sub_cols {A C L C' : Type*} [Fintype L] (X : Matrix A L R) (Y : Matrix L C R) (g : C' → C) :
    X * Y.submatrix id g = (X * Y).submatrix id g := rfl

theorem sub_rows_mul {A C L A' : Type*} [Fintype L] (X : Matrix A L R) (Y : Matrix L C R) (f : A' → A) :
    X.submatrix f id * Y = (X * Y).submatrix f id := rfl

theorem sub_rows_mulVec {A L A' : Type*} [Fintype L] (X : Matrix A L R) (f : A' → A) (v : L → R) (i : A') :
    (X.submatrix f id *ᵥ v) i = (X *ᵥ v) (f i) := rfl

omit [Fintype N] in
theorem one_submatrix_disjoint {A C : Type*} (f : A → N) (g : C → N) (h : ∀ a c, f a ≠ g c) :
    (1 : Matrix N N R).submatrix f g = 0 := by
  ext i j; simp [h i j]

omit [Fintype K] [Fintype T] [DecidableEq M] [DecidableEq K] [DecidableEq T] in
/-- the torsion generators are cycles: columns `iT t` of `d2·P1⁻¹` vanish, because `d2·P1⁻¹·S1 = d2·d1·Q1 = 0`
and column `cT t` of `S1` is `a t ≠ 0` at row `iT t` and zero elsewhere -/
theorem d2_mul_qTor [NoZeroDivisors R] (d1 : Matrix N M R) (d2 : Matrix K N R) (P1 P1i : Matrix N N R)
    (Q1 : Matrix M M R) (S1 : Matrix N M R) (iT : T → N) (cT : T → M) (a : T → R)
    (hdd : d2 * d1 = 0) (hS1 : S1 = P1 * d1 * Q1) (h1 : P1i * P1 = 1)
    (hcol : ∀ t i, S1 i (cT t) = if i = iT t then a t else 0) (ha : ∀ t, a t ≠ 0) :
    d2 * qTor P1i iT = 0 := by
  have hX : (d2 * P1i) * S1 = 0 := by
    rw [hS1, Matrix.mul_assoc d2, ← Matrix.mul_assoc P1i, ← Matrix.mul_assoc P1i, h1, Matrix.one_mul,
      ← Matrix.mul_assoc d2, hdd, Matrix.zero_mul]
  ext k t
  have := congrFun (congrFun hX k) (cT t)
  rw [mul_of_col_single (d2 * P1i) S1 (cT t) (iT t) (a t) (hcol t)] at this
  exact (mul_eq_zero.mp this).resolve_right (ha t)

end assemble

/-- the elements rejected by `unit` form a suffix of a chain for a relation along which `unit` propagates downwards:
the code's torsion list (`factors().filter(!is_unit)`, length `t`) is `a[r1-t..r1]`, and everything before it passes `unit` -/
theorem torsion_block_split {β : Type*} (unit : β → Bool) (rel : β → β → Prop)
    (hunit : ∀ x y, rel x y → unit y = true → unit x = true) (l : List β) (hchain : l.Pairwise rel) :
    l.filter (fun x => !unit x) = l.drop (l.length - (l.filter (fun x => !unit x)).length) ∧
    ∀ x ∈ l.take (l.length - (l.filter (fun x => !unit x)).length), unit x = true := by
  induction l with
  | nil => simp
  | cons x xs ih =>
    rw [List.pairwise_cons] at hchain
    by_cases hx : unit x = true
    · have hle : (xs.filter (fun x => !unit x)).length ≤ xs.length := List.length_filter_le _ _
      simp only [List.filter_cons, hx, Bool.not_true, Bool.false_eq_true, if_false, List.length_cons]
      rw [show xs.length + 1 - (xs.filter (fun x => !unit x)).length
            = (xs.length - (xs.filter (fun x => !unit x)).length) + 1 by omega, List.drop_succ_cons,
        List.take_succ_cons]
      refine ⟨(ih hchain.2).1, fun y hy => ?_⟩
      rcases List.mem_cons.mp hy with rfl | hy
      · exact hx
      · exact (ih hchain.2).2 y hy
    · have hall : ∀ y ∈ x :: xs, (!unit y) = true := by
        intro y hy
        rcases List.mem_cons.mp hy with rfl | hy
        · simpa using hx
        · have := hchain.1 y hy
          cases h : unit y
          · rfl
          · exact absurd (hunit _ _ this h) hx
      rw [List.filter_eq_self.mpr hall]; simp

/-- rows/columns `lo .. lo+len` of an index set of size `n`: the `Range<usize>` of `submat_rows` / `submat_cols` -/
def rangeMap (lo len n : Nat) (h : lo + len ≤ n) : Fin len → Fin n := fun i => ⟨lo + i.val, by omega⟩

theorem rangeMap_injective (lo len n : Nat) (h : lo + len ≤ n) : Function.Injective (rangeMap lo len n h) := by
  intro i j hij
  simp only [rangeMap, Fin.mk.injEq] at hij
  exact Fin.ext (by omega)

section smith
variable {R : Type*} [Zero R] {n m : ℕ} {S : Matrix (Fin n) (Fin m) R} {r : ℕ} {a : ℕ → R}

theorem smith_row (h : ∀ i j, S i j = if i.val = j.val ∧ i.val < r then a i.val else 0)
    (i : Fin n) (c : Fin m) (hc : c.val = i.val) (hi : i.val < r) (j : Fin m) :
    S i j = if j = c then a i.val else 0 := by
  rw [h]
  by_cases hj : j = c
  · rw [if_pos hj, if_pos ⟨by rw [hj, hc], hi⟩]
  · rw [if_neg hj, if_neg]
    rintro ⟨e, _⟩
    exact hj (Fin.ext (by omega))

theorem smith_col (h : ∀ i j, S i j = if i.val = j.val ∧ i.val < r then a i.val else 0)
    (i : Fin n) (c : Fin m) (hc : c.val = i.val) (hi : i.val < r) (i' : Fin n) :
    S i' c = if i' = i then a i.val else 0 := by
  rw [h]
  by_cases hj : i' = i
  · rw [if_pos hj, if_pos ⟨by rw [hj, hc], by rw [hj]; exact hi⟩, hj]
  · rw [if_neg hj, if_neg]
    rintro ⟨e, _⟩
    exact hj (Fin.ext (by omega))

theorem smith_row_zero (h : ∀ i j, S i j = if i.val = j.val ∧ i.val < r then a i.val else 0)
    (i : Fin n) (hi : r ≤ i.val) (j : Fin m) : S i j = 0 := by
  rw [h, if_neg]
  omega

theorem smith_col_zero (h : ∀ i j, S i j = if i.val = j.val ∧ i.val < r then a i.val else 0)
    (i : Fin n) (j : Fin m) (hj : r ≤ j.val) : S i j = 0 := by
  rw [h, if_neg]
  omega

end smith

section lit
variable {R : Type*} [CommRing R]

/-- the `p` of the code: `pMat` for the literal ranges `r1..n`, `r1-t..r1`, `r2..n-r1` -/
def pSum (n r1 r2 t : ℕ) (h12 : r1 + r2 ≤ n) (ht : t ≤ r1) (P1 : Matrix (Fin n) (Fin n) R)
    (Q2i : Matrix (Fin (n - r1)) (Fin (n - r1)) R) : Matrix (Fin (n - r1 - r2) ⊕ Fin t) (Fin n) R :=
  pMat P1 Q2i (rangeMap r1 (n - r1) n (by omega)) (rangeMap (r1 - t) t n (by omega))
    (rangeMap r2 (n - r1 - r2) (n - r1) (by omega))

def qSum (n r1 r2 t : ℕ) (h12 : r1 + r2 ≤ n) (ht : t ≤ r1) (P1i : Matrix (Fin n) (Fin n) R)
    (Q2 : Matrix (Fin (n - r1)) (Fin (n - r1)) R) : Matrix (Fin n) (Fin (n - r1 - r2) ⊕ Fin t) R :=
  qMat P1i Q2 (rangeMap r1 (n - r1) n (by omega)) (rangeMap (r1 - t) t n (by omega))
    (rangeMap r2 (n - r1 - r2) (n - r1) (by omega))

/-- … with the rows numbered as in the code: `0..r` free, `r..r+t` torsion -/
def pFin (n r1 r2 t : ℕ) (h12 : r1 + r2 ≤ n) (ht : t ≤ r1) (P1 : Matrix (Fin n) (Fin n) R)
    (Q2i : Matrix (Fin (n - r1)) (Fin (n - r1)) R) : Matrix (Fin (n - r1 - r2 + t)) (Fin n) R :=
  (pSum n r1 r2 t h12 ht P1 Q2i).submatrix finSumFinEquiv.symm id

def qFin (n r1 r2 t : ℕ) (h12 : r1 + r2 ≤ n) (ht : t ≤ r1) (P1i : Matrix (Fin n) (Fin n) R)
    (Q2 : Matrix (Fin (n - r1)) (Fin (n - r1)) R) : Matrix (Fin n) (Fin (n - r1 - r2 + t)) R :=
  (qSum n r1 r2 t h12 ht P1i Q2).submatrix id finSumFinEquiv.symm

end lit

section fin
variable {R : Type*} [CommRing R]

theorem coords_iff {r t N : ℕ} (c : ℕ → R) (X : Matrix (Fin r ⊕ Fin t) (Fin N) R) (v : Fin N → R) :
    (∀ i : Fin (r + t), (i.val < r → (X.submatrix finSumFinEquiv.symm id *ᵥ v) i = 0) ∧
      (r ≤ i.val → c (i.val - r) ∣ (X.submatrix finSumFinEquiv.symm id *ᵥ v) i)) ↔
    (∀ f, (X *ᵥ v) (Sum.inl f) = 0) ∧ (∀ u : Fin t, c u.val ∣ (X *ᵥ v) (Sum.inr u)) := by
  simp only [sub_rows_mulVec]
  generalize X *ᵥ v = w
  constructor
  · intro h
    refine ⟨fun f => ?_, fun u => ?_⟩
    · have := (h (finSumFinEquiv (Sum.inl f))).1 f.isLt
      rwa [Equiv.symm_apply_apply] at this
    · have := (h (finSumFinEquiv (Sum.inr u))).2 (Nat.le_add_right r u.val)
      rwa [Equiv.symm_apply_apply, finSumFinEquiv_apply_right, Fin.val_natAdd, Nat.add_sub_cancel_left] at this
  · rintro ⟨h1, h2⟩ i
    obtain ⟨s, rfl⟩ := finSumFinEquiv.surjective i
    rw [Equiv.symm_apply_apply]
    cases s with
    | inl f => exact ⟨fun _ => h1 f, fun h => absurd f.isLt (by simp at h; omega)⟩
    | inr u =>
      refine ⟨fun h => absurd h (by simp), fun _ => ?_⟩
      rw [finSumFinEquiv_apply_right, Fin.val_natAdd, Nat.add_sub_cancel_left]
      exact h2 u

end fin

end Yuiv.C07
