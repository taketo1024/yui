import Yuiv.Proofs.KhSpecFam
import Yuiv.Proofs.KhSpecLoopsBigraded
import Yuiv.Proofs.KhSpecQDeg
/-
KhSpec — the `q`-slices of the bigraded computation (helper): for `h = t = 0` the generators of a fixed quantum degree
form a family closed under `d`, so everything proved for the whole cube holds slice by slice.
-/
namespace Yuiv.KhSpec
open Yuiv.KhRef

variable {c : Cube} {p : Params}

theorem gensQ_getElem (q0 : Int) (gens : Array (Array Gen)) (q : Int) (i : Nat) :
    (gensQ c q0 gens q)[i]! = (gens[i]!).filter (fun g => c.qDeg q0 g == q) := by
  unfold gensQ
  by_cases hi : i < gens.size
  · rw [getElem!_pos _ i (by simpa using hi), Array.getElem_map, getElem!_pos gens i hi]
  · rw [getElem!_neg _ i (by simpa using hi), getElem!_neg gens i hi]
    rfl

theorem mem_gensQ (q0 : Int) (gens : Array (Array Gen)) (q : Int) (i : Nat) (g : Gen) :
    g ∈ ((gensQ c q0 gens q)[i]!).toList ↔ g ∈ (gens[i]!).toList ∧ c.qDeg q0 g = q := by
  rw [gensQ_getElem, Array.toList_filter, List.mem_filter]
  simp

/-- the `q`-slices of a family are families, when the table preserves the quantum degree (measured in any cube `c'`) on
the family -/
theorem Fam.slice {G : Array (Array Gen)} (F : Fam c p G) (c' : Cube) (q0 q : Int)
    (hq : ∀ (i : Nat) (g : Gen), g ∈ (G[i]!).toList →
      ∀ t ∈ (dTab c p (gensByWeight c) g).toList, c'.qDeg q0 t.1 = c'.qDeg q0 g) :
    Fam c p (gensQ c' q0 G q) := by
  refine ⟨by unfold gensQ; rw [Array.size_map, F.size], ?_, ?_, ?_⟩
  · intro i
    rw [gensQ_getElem, Array.toList_filter]
    exact (F.nd i).filter _
  · intro i g hg
    exact F.sub i g ((mem_gensQ q0 _ q i g).1 hg).1
  · intro i g hg t htm
    obtain ⟨hg1, hg2⟩ := (mem_gensQ q0 _ q i g).1 hg
    refine (mem_gensQ q0 _ q (i + 1) t.1).2 ⟨F.tgt i g hg1 t htm, ?_⟩
    rw [← hg2]
    exact hq i g hg1 t htm

theorem dTab_qDeg (H : Ctx c p) (hh : p.h = 0) (ht : p.t = 0) {w : Nat} {g : Gen}
    (hg : g ∈ ((gensByWeight c)[w]!).toList) (q0 : Int) :
    ∀ t ∈ (dTab c p (gensByWeight c) g).toList, c.qDeg q0 t.1 = c.qDeg q0 g := by
  have hs := (gen_props H hg).2.1
  obtain ⟨ts, hd⟩ := d_defined H hs
  rw [dTab_of_mem hg, hd]
  exact qDeg_preserved c p hh ht H.hP g hs ts hd q0

theorem fam_gensQ (H : Ctx c p) (hh : p.h = 0) (ht : p.t = 0) (q0 q : Int) :
    Fam c p (gensQ c q0 (gensByWeight c) q) :=
  (fam_all H).slice c q0 q fun _ _ hg => dTab_qDeg H hh ht hg q0

theorem khHomology_ok_bigraded {l : Link} {p : Params} (H : Ctx (mkCube l p) p) (hh : p.h = 0) (ht : p.t = 0)
    (signs : Array Int) (k : Coeff) :
    khHomology l signs p k true =
      .ok ⟨((qsOf (mkCube l p) (q0Of signs p) (gensByWeight (mkCube l p))).toList.flatMap (fun q =>
        cellsUn (h0Of signs) (some q)
          (homologyOf k (gensQ (mkCube l p) (q0Of signs p) (gensByWeight (mkCube l p)) q)
            (dTab (mkCube l p) p (gensByWeight (mkCube l p)))))).toArray⟩ := by
  apply khHomology_bigraded
  · exact forall_gens fun w g hg => d_isSome H hg
  · exact forall_gens fun w g hg z => dTab_dd H hg z
  · exact forall_gens fun w g hg => dTab_qDeg H hh ht hg _

end Yuiv.KhSpec
