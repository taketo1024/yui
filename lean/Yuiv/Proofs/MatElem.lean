import Mathlib.Data.Matrix.Mul
import Mathlib.LinearAlgebra.Matrix.NonsingularInverse
/-
The elementary matrix "identity with a 2 × 2 block `[[a, b], [c, d]]` on the rows and columns `i`, `j`" over a
commutative ring: its action on rows (left multiplication), on columns (right multiplication by the transpose), and when
two of them are inverse to each other.
-/
namespace Yuiv.MatElem
open Matrix
variable {R : Type} [CommRing R]

/-- rows `i`, `j` are `a·eᵢ + b·eⱼ` and `c·eᵢ + d·eⱼ`, the others those of `1`.  For `i = j` the row is `c·eᵢ + d·eᵢ`; the two
product lemmas `LM_mul_LMT`, `LMT_mul_LM` (and `LM_col`) ask for `i ≠ j`. -/
def LM {m : Nat} (a b c d : R) (i j : Fin m) : Matrix (Fin m) (Fin m) R := fun r k =>
  if r = j then (if k = i then c else 0) + (if k = j then d else 0)
  else if r = i then (if k = i then a else 0) + (if k = j then b else 0)
  else if r = k then 1 else 0

theorem LM_mul {m n : Nat} (a b c d : R) (i j : Fin m) (X : Matrix (Fin m) (Fin n) R) (r : Fin m) (col : Fin n) :
    (LM a b c d i j * X) r col =
      if r = j then c * X i col + d * X j col else if r = i then a * X i col + b * X j col else X r col := by
  rw [Matrix.mul_apply]
  unfold LM
  by_cases hrj : r = j
  · simp only [if_pos hrj, add_mul, ite_mul, zero_mul, Finset.sum_add_distrib, Finset.sum_ite_eq', Finset.mem_univ,
      if_true]
  · by_cases hri : r = i
    · simp only [if_neg hrj, if_pos hri, add_mul, ite_mul, zero_mul, Finset.sum_add_distrib, Finset.sum_ite_eq',
        Finset.mem_univ, if_true]
    · simp only [if_neg hrj, if_neg hri, ite_mul, one_mul, zero_mul, Finset.sum_ite_eq, Finset.mem_univ, if_true]

theorem mul_LMT {m n : Nat} (a b c d : R) (i j : Fin m) (X : Matrix (Fin n) (Fin m) R) (r : Fin n) (col : Fin m) :
    (X * (LM a b c d i j)ᵀ) r col =
      if col = j then X r i * c + X r j * d else if col = i then X r i * a + X r j * b else X r col := by
  have h : X * (LM a b c d i j)ᵀ = (LM a b c d i j * Xᵀ)ᵀ := by
    rw [Matrix.transpose_mul, Matrix.transpose_transpose]
  rw [h, Matrix.transpose_apply, LM_mul]
  simp only [Matrix.transpose_apply, mul_comm]

theorem LM_col {m : Nat} (a b c d : R) {i j : Fin m} (hij : i ≠ j) (r : Fin m) :
    LM a b c d i j r i = (if r = j then c else if r = i then a else 0) ∧
    LM a b c d i j r j = (if r = j then d else if r = i then b else 0) := by
  unfold LM
  have hji : j ≠ i := fun h => hij h.symm
  by_cases hrj : r = j
  · simp only [hrj, if_true, if_neg hij, if_neg hji, add_zero, zero_add, and_self]
  · by_cases hri : r = i
    · simp only [hri, if_true, if_neg hij, if_neg hji, add_zero, zero_add, and_self]
    · simp only [if_neg hrj, if_neg hri, and_self]

theorem LM_mul_LMT {m : Nat} {a b c d a' b' c' d' : R} {i j : Fin m} (hij : i ≠ j)
    (h1 : a * a' + b * b' = 1) (h2 : a * c' + b * d' = 0) (h3 : c * a' + d * b' = 0) (h4 : c * c' + d * d' = 1) :
    LM a b c d i j * (LM a' b' c' d' i j)ᵀ = 1 := by
  ext r col
  rw [LM_mul, Matrix.transpose_apply, Matrix.transpose_apply, Matrix.transpose_apply,
    (LM_col a' b' c' d' hij col).1, (LM_col a' b' c' d' hij col).2, Matrix.one_apply]
  -- rows `j`, `i`, other × columns `j`, `i`, other: the four 2×2 identities, and `0 = 0`, `1 = 1` elsewhere
  by_cases hrj : r = j
  · rw [if_pos hrj]
    by_cases hcj : col = j
    · rw [if_pos hcj, if_pos hcj, if_pos (hrj.trans hcj.symm)]; exact h4
    · rw [if_neg hcj, if_neg hcj, if_neg (fun h : r = col => hcj (h.symm.trans hrj))]
      by_cases hci : col = i
      · rw [if_pos hci, if_pos hci]; exact h3
      · rw [if_neg hci, if_neg hci, mul_zero, mul_zero, add_zero]
  · rw [if_neg hrj]
    by_cases hri : r = i
    · rw [if_pos hri]
      by_cases hcj : col = j
      · rw [if_pos hcj, if_pos hcj, if_neg (fun h : r = col => hrj (h.trans hcj))]; exact h2
      · rw [if_neg hcj, if_neg hcj]
        by_cases hci : col = i
        · rw [if_pos hci, if_pos hci, if_pos (hri.trans hci.symm)]; exact h1
        · rw [if_neg hci, if_neg hci, if_neg (fun h : r = col => hci (h.symm.trans hri)), mul_zero, mul_zero,
            add_zero]
    · rw [if_neg hri]
      unfold LM
      by_cases hcj : col = j
      · rw [if_pos hcj, if_neg hri, if_neg hrj, add_zero, if_neg (fun h : r = col => hrj (h.trans hcj))]
      · rw [if_neg hcj]
        by_cases hci : col = i
        · rw [if_pos hci, if_neg hri, if_neg hrj, add_zero, if_neg (fun h : r = col => hri (h.trans hci))]
        · rw [if_neg hci]
          by_cases h : col = r
          · rw [if_pos h, if_pos h.symm]
          · rw [if_neg h, if_neg (fun h' : r = col => h h'.symm)]

theorem LMT_mul_LM {m : Nat} {a b c d a' b' c' d' : R} {i j : Fin m} (hij : i ≠ j)
    (h1 : a' * a + b' * b = 1) (h2 : a' * c + b' * d = 0) (h3 : c' * a + d' * b = 0) (h4 : c' * c + d' * d = 1) :
    (LM a b c d i j)ᵀ * LM a' b' c' d' i j = 1 := by
  have := LM_mul_LMT (i := i) (j := j) hij h1 h2 h3 h4
  exact mul_eq_one_comm.mp this

theorem diag_unit_mul {m : Nat} (i : Fin m) (u v : R) (h : u * v = 1) :
    Matrix.diagonal (fun k => if k = i then u else 1) * Matrix.diagonal (fun k => if k = i then v else 1)
      = (1 : Matrix (Fin m) (Fin m) R) := by
  rw [Matrix.diagonal_mul_diagonal, ← Matrix.diagonal_one]
  congr 1; funext k; split_ifs <;> simp [h]

end Yuiv.MatElem
