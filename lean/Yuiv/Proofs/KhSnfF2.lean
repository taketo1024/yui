import Yuiv.Model.C19
import Yuiv.Proofs.KhSnfRows
import Std.Data.HashMap.Lemmas
import Mathlib.LinearAlgebra.Matrix.Rank
import Mathlib.Data.ZMod.Basic
import Mathlib.Algebra.Field.ZMod
/-
KhSnfF2 — `Yuiv.C19.rankF2` (rows as bitsets, elimination by leading bit with a `HashMap` leading bit ↦ pivot row)
computes the matrix rank over `ZMod 2`.  The inner `while` loop terminates because `r ^^^ p < r` when `p` and `r` have the
same leading bit; the outer invariant `F2Inv` keeps `span (pivots) = span (processed rows)` and `rank = piv.size`; pivots
with pairwise distinct leading bits are linearly independent.
-/
namespace Yuiv.KhSnf

abbrev PivMap := Std.HashMap Nat Nat
/-- state of the inner loop of `rankF2`: pivots, rank, current row, go on -/
abbrev F2S := PivMap × Nat × Nat × Bool

/-- body of the inner `while` loop of `rankF2` -/
def f2Body (_ : Unit) (s : F2S) : Id (ForInStep F2S) :=
  if s.2.2.2 = true then
    if (s.2.2.1 == 0) = true then ForInStep.yield (s.1, s.2.1, s.2.2.1, false)
    else
      match s.1.get? s.2.2.1.log2 with
      | some p => ForInStep.yield (s.1, s.2.1, s.2.2.1 ^^^ p, s.2.2.2)
      | none => ForInStep.yield (s.1.insert s.2.2.1.log2 s.2.2.1, s.2.1 + 1, s.2.2.1, false)
  else ForInStep.done s

/-- one row of `rankF2`: run the inner loop, keep `(piv, rank)` -/
def f2Step (s : PivMap × Nat) (r0 : Nat) : PivMap × Nat :=
  let t := forIn (m := Id) Lean.Loop.mk ((s.1, s.2, r0, true) : F2S) f2Body
  (t.1, t.2.1)

theorem rankF2_eq_foldl (rows : Array Nat) :
    C19.rankF2 rows = (rows.toList.foldl f2Step (∅, 0)).2 := by
  unfold C19.rankF2
  show (forIn (m := Id) rows ((∅ : PivMap), 0) (fun r0 s => pure (ForInStep.yield (f2Step s r0))) >>= fun s => pure s.2).run = _
  rw [Array.forIn_pure_yield_eq_foldl]
  simp [← Array.foldl_toList]

/-- every stored pivot is non-zero and stored under its leading bit -/
def PivInv (piv : PivMap) : Prop := ∀ b p, piv[b]? = some p → p ≠ 0 ∧ p.log2 = b

theorem xor_lt_of_log2_eq {r p : Nat} (hr : r ≠ 0) (hp : p ≠ 0) (h : p.log2 = r.log2) :
    r ^^^ p < r := by
  have h1 : r ^^^ p < 2 ^ r.log2 := by
    apply Nat.lt_pow_two_of_testBit
    intro i hi
    rw [Nat.testBit_xor]
    rcases Nat.eq_or_lt_of_le hi with rfl | hlt
    · rw [Nat.testBit_log2 hr, ← h, Nat.testBit_log2 hp]; rfl
    · have h2 : r < 2 ^ i := Nat.lt_of_lt_of_le Nat.lt_log2_self (Nat.pow_le_pow_right (by omega) hlt)
      have h3 : p < 2 ^ i :=
        Nat.lt_of_lt_of_le Nat.lt_log2_self (Nat.pow_le_pow_right (by omega) (by omega))
      rw [Nat.testBit_lt_two_pow h2, Nat.testBit_lt_two_pow h3]; rfl
  exact Nat.lt_of_lt_of_le h1 (Nat.log2_self_le hr)

theorem f2Step_zero (piv : PivMap) (rank : Nat) : f2Step (piv, rank) 0 = (piv, rank) := by
  unfold f2Step
  have hb1 : f2Body () ((piv, rank, 0, true) : F2S) = ForInStep.yield (piv, rank, 0, false) := by
    simp [f2Body]
  have hb2 : f2Body () ((piv, rank, 0, false) : F2S) = ForInStep.done (piv, rank, 0, false) := by
    simp [f2Body]
  simp only []
  rw [loop_unfold, hb1]
  simp only []
  rw [loop_unfold, hb2]

theorem f2Step_none (piv : PivMap) (rank : Nat) {r : Nat} (hr : r ≠ 0) (hg : piv[r.log2]? = none) :
    f2Step (piv, rank) r = (piv.insert r.log2 r, rank + 1) := by
  unfold f2Step
  have hb1 : f2Body () ((piv, rank, r, true) : F2S)
      = ForInStep.yield (piv.insert r.log2 r, rank + 1, r, false) := by
    simp [f2Body, hr, hg]
  have hb2 : f2Body () ((piv.insert r.log2 r, rank + 1, r, false) : F2S)
      = ForInStep.done (piv.insert r.log2 r, rank + 1, r, false) := by
    simp [f2Body]
  simp only []
  rw [loop_unfold, hb1]
  simp only []
  rw [loop_unfold, hb2]

theorem f2Step_some (piv : PivMap) (rank : Nat) {r p : Nat} (hr : r ≠ 0) (hg : piv[r.log2]? = some p) :
    f2Step (piv, rank) r = f2Step (piv, rank) (r ^^^ p) := by
  unfold f2Step
  have hb1 : f2Body () ((piv, rank, r, true) : F2S)
      = ForInStep.yield (piv, rank, r ^^^ p, true) := by
    simp [f2Body, hr, hg]
  simp only []
  rw [loop_unfold, hb1]

/-- the inner loop under the pivot invariant: the row is XOR-ed with a list `ps` of stored pivots;
if the result `r'` is zero nothing changes, otherwise `r'` is stored under its (fresh) leading bit -/
theorem f2_inner (piv : PivMap) (hinv : PivInv piv) (rank : Nat) :
    ∀ r : Nat, ∃ (r' : Nat) (ps : List Nat),
      (∀ p ∈ ps, ∃ b : Nat, piv[b]? = some p) ∧ r' = ps.foldl (· ^^^ ·) r ∧
      ((r' = 0 ∧ f2Step (piv, rank) r = (piv, rank)) ∨
       (r' ≠ 0 ∧ piv[r'.log2]? = none ∧
          f2Step (piv, rank) r = (piv.insert r'.log2 r', rank + 1))) := by
  intro r
  induction r using Nat.strongRecOn with
  | _ r ih =>
    by_cases hr : r = 0
    · subst hr
      exact ⟨0, [], by simp, rfl, Or.inl ⟨rfl, f2Step_zero piv rank⟩⟩
    · cases hg : piv[r.log2]? with
      | none => exact ⟨r, [], by simp, rfl, Or.inr ⟨hr, hg, f2Step_none piv rank hr hg⟩⟩
      | some p =>
        obtain ⟨hp0, hpl⟩ := hinv _ _ hg
        obtain ⟨r', ps, hps, hr'eq, hres⟩ := ih (r ^^^ p) (xor_lt_of_log2_eq hr hp0 hpl)
        refine ⟨r', p :: ps, ?_, ?_, ?_⟩
        · intro q hq
          rcases List.mem_cons.1 hq with rfl | hq
          · exact ⟨_, hg⟩
          · exact hps q hq
        · simpa using hr'eq
        · rw [f2Step_some piv rank hr hg]; exact hres

/-- the 0/1 vector of the low `n` bits of `x` -/
def bitVec (n : Nat) (x : Nat) : Fin n → ZMod 2 := fun j => if x.testBit j then 1 else 0

/-- the 0/1 matrix over `ZMod 2` of an array of bit rows with `n` columns -/
def bitMat (n : Nat) (rows : Array Nat) : Matrix (Fin rows.size) (Fin n) (ZMod 2) :=
  fun i j => if (rows[i]).testBit j then 1 else 0

theorem bitVec_zero (n : Nat) : bitVec n 0 = 0 := by
  funext j; simp [bitVec]

theorem bitVec_xor (n x y : Nat) : bitVec n (x ^^^ y) = bitVec n x + bitVec n y := by
  funext j
  simp only [bitVec, Nat.testBit_xor, Pi.add_apply]
  cases x.testBit j <;> cases y.testBit j <;> decide

theorem bitVec_foldl_xor (n : Nat) (ps : List Nat) (r : Nat) :
    bitVec n (ps.foldl (· ^^^ ·) r) = bitVec n r + (ps.map (bitVec n)).sum := by
  induction ps generalizing r with
  | nil => simp
  | cons p ps ih => simp [ih, bitVec_xor, add_assoc]

theorem foldl_xor_lt (n : Nat) (ps : List Nat) (r : Nat) (hr : r < 2 ^ n) (hps : ∀ p ∈ ps, p < 2 ^ n) :
    ps.foldl (· ^^^ ·) r < 2 ^ n := by
  induction ps generalizing r with
  | nil => simpa using hr
  | cons p ps ih =>
    simp only [List.foldl_cons]
    exact ih _ (Nat.xor_lt_two_pow hr (hps p (by simp))) (fun q hq => hps q (by simp [hq]))

/-- the vectors of the stored pivots -/
def pivSet (n : Nat) (piv : PivMap) : Set (Fin n → ZMod 2) :=
  {v | ∃ (b p : Nat), piv[b]? = some p ∧ v = bitVec n p}

def rowSet (n : Nat) (L : List Nat) : Set (Fin n → ZMod 2) := {v | ∃ x ∈ L, v = bitVec n x}

theorem rowSet_append_singleton (n : Nat) (L : List Nat) (r : Nat) :
    rowSet n (L ++ [r]) = insert (bitVec n r) (rowSet n L) := by
  ext v
  simp only [rowSet, List.mem_append, List.mem_singleton, Set.mem_ofPred_eq, Set.mem_insert_iff]
  constructor
  · rintro ⟨x, hx | rfl, rfl⟩
    · exact Or.inr ⟨x, hx, rfl⟩
    · exact Or.inl rfl
  · rintro (rfl | ⟨x, hx, rfl⟩)
    · exact ⟨r, Or.inr rfl, rfl⟩
    · exact ⟨x, Or.inl hx, rfl⟩

/-- the entries of `piv.insert b r`: `(b, r)`, and the entries of `piv` under the other keys -/
theorem getElem?_insert_some {piv : PivMap} {b r c p : Nat} :
    (piv.insert b r)[c]? = some p ↔ (c = b ∧ p = r) ∨ (c ≠ b ∧ piv[c]? = some p) := by
  rw [Std.HashMap.getElem?_insert]
  by_cases h : b = c
  · rw [if_pos (beq_iff_eq.mpr h), Option.some.injEq]
    exact ⟨fun e => Or.inl ⟨h.symm, e.symm⟩, fun e => e.elim (fun e => e.2.symm) (fun e => absurd h.symm e.1)⟩
  · rw [if_neg (fun e => h (beq_iff_eq.mp e))]
    exact ⟨fun e => Or.inr ⟨fun e' => h e'.symm, e⟩, fun e => e.elim (fun e => absurd e.1.symm h) (fun e => e.2)⟩

theorem pivSet_insert (n : Nat) (piv : PivMap) (b r : Nat) (hb : piv[b]? = none) :
    pivSet n (piv.insert b r) = insert (bitVec n r) (pivSet n piv) := by
  ext v
  simp only [pivSet, Set.mem_ofPred_eq, Set.mem_insert_iff, getElem?_insert_some]
  constructor
  · rintro ⟨c, p, ⟨rfl, rfl⟩ | ⟨_, hcp⟩, rfl⟩
    · exact Or.inl rfl
    · exact Or.inr ⟨c, p, hcp, rfl⟩
  · rintro (rfl | ⟨c, p, hcp, rfl⟩)
    · exact ⟨b, r, Or.inl ⟨rfl, rfl⟩, rfl⟩
    · refine ⟨c, p, Or.inr ⟨?_, hcp⟩, rfl⟩
      rintro rfl
      exact nomatch hcp.symm.trans hb

theorem span_insert_add {M : Type} [AddCommGroup M] [Module (ZMod 2) M] (S : Set M) (v w : M)
    (hw : w ∈ Submodule.span (ZMod 2) S) :
    Submodule.span (ZMod 2) (insert (v + w) S) = Submodule.span (ZMod 2) (insert v S) := by
  -- each of `v`, `v + w` lies in the span of the other one together with `S`
  have h1 : v ∈ Submodule.span (ZMod 2) (insert (v + w) S) := by
    have := sub_mem (Submodule.subset_span (Set.mem_insert (v + w) S)) (Submodule.span_mono (Set.subset_insert _ _) hw)
    rwa [add_sub_cancel_right] at this
  have h2 : v + w ∈ Submodule.span (ZMod 2) (insert v S) :=
    add_mem (Submodule.subset_span (Set.mem_insert v S)) (Submodule.span_mono (Set.subset_insert _ _) hw)
  rw [← Submodule.span_insert_eq_span h1, Set.insert_comm, Submodule.span_insert_eq_span h2]

theorem span_insert_congr {M : Type} [AddCommGroup M] [Module (ZMod 2) M] (S T : Set M) (v : M)
    (h : Submodule.span (ZMod 2) S = Submodule.span (ZMod 2) T) :
    Submodule.span (ZMod 2) (insert v S) = Submodule.span (ZMod 2) (insert v T) := by
  rw [Submodule.span_insert, Submodule.span_insert, h]

/-- the invariant of the outer loop of `rankF2` after the rows `L` -/
structure F2Inv (n : Nat) (L : List Nat) (s : PivMap × Nat) : Prop where
  inv : PivInv s.1
  bound : ∀ (b p : Nat), s.1[b]? = some p → p < 2 ^ n
  count : s.2 = s.1.size
  span : Submodule.span (ZMod 2) (pivSet n s.1) = Submodule.span (ZMod 2) (rowSet n L)

theorem f2Inv_init (n : Nat) : F2Inv n [] ((∅ : PivMap), 0) where
  inv := by intro b p h; simp at h
  bound := by intro b p h; simp at h
  count := by simp
  span := by
    have h1 : pivSet n (∅ : PivMap) = ∅ := by
      ext v; simp [pivSet]
    have h2 : rowSet n [] = ∅ := by
      ext v; simp [rowSet]
    rw [h1, h2]

theorem f2Inv_step (n : Nat) (L : List Nat) (s : PivMap × Nat) (r : Nat) (h : F2Inv n L s)
    (hr : r < 2 ^ n) : F2Inv n (L ++ [r]) (f2Step s r) := by
  obtain ⟨piv, rank⟩ := s
  obtain ⟨hinv, hbound, hcount, hspan⟩ := h
  simp only at hinv hbound hcount hspan
  obtain ⟨r', ps, hps, hr', hres⟩ := f2_inner piv hinv rank r
  have hvec : bitVec n r' = bitVec n r + (ps.map (bitVec n)).sum := by
    rw [hr']; exact bitVec_foldl_xor n ps r
  have hlt : r' < 2 ^ n := by
    rw [hr']
    apply foldl_xor_lt n ps r hr
    intro p hp
    obtain ⟨b, hb⟩ := hps p hp
    exact hbound b p hb
  have hw : (ps.map (bitVec n)).sum ∈ Submodule.span (ZMod 2) (pivSet n piv) := by
    apply list_sum_mem
    intro v hv
    obtain ⟨p, hp, rfl⟩ := List.mem_map.1 hv
    obtain ⟨b, hb⟩ := hps p hp
    exact Submodule.subset_span ⟨b, p, hb, rfl⟩
  rcases hres with ⟨h0, hst⟩ | ⟨h0, hnone, hst⟩
  · rw [hst]
    refine ⟨hinv, hbound, hcount, ?_⟩
    show Submodule.span (ZMod 2) (pivSet n piv) = _
    rw [rowSet_append_singleton, hspan, Submodule.span_insert_eq_span]
    rw [h0, bitVec_zero] at hvec
    have : bitVec n r = -(ps.map (bitVec n)).sum := eq_neg_of_add_eq_zero_left hvec.symm
    rw [this, ← hspan]
    exact neg_mem hw
  · rw [hst]
    refine ⟨?_, ?_, ?_, ?_⟩
    · intro b p hbp
      rcases getElem?_insert_some.1 hbp with ⟨rfl, rfl⟩ | ⟨_, hbp⟩
      · exact ⟨h0, rfl⟩
      · exact hinv b p hbp
    · intro b p hbp
      rcases getElem?_insert_some.1 hbp with ⟨rfl, rfl⟩ | ⟨_, hbp⟩
      · exact hlt
      · exact hbound b p hbp
    · show rank + 1 = (piv.insert r'.log2 r').size
      have hnm : ¬ r'.log2 ∈ piv := by
        intro hm
        rw [Std.HashMap.mem_iff_isSome_getElem?, hnone] at hm
        cases hm
      rw [Std.HashMap.size_insert, if_neg hnm, hcount]
    · show Submodule.span (ZMod 2) (pivSet n (piv.insert r'.log2 r')) = _
      rw [pivSet_insert n piv _ _ hnone, rowSet_append_singleton, hvec, span_insert_add _ _ _ hw]
      exact span_insert_congr _ _ _ hspan

theorem f2Inv_foldl (n : Nat) (rest : List Nat) (hrest : ∀ r ∈ rest, r < 2 ^ n) :
    ∀ (L : List Nat) (s : PivMap × Nat), F2Inv n L s → F2Inv n (L ++ rest) (rest.foldl f2Step s) := by
  induction rest with
  | nil => intro L s h; simpa using h
  | cons r rest ih =>
    intro L s h
    have := ih (fun x hx => hrest x (by simp [hx])) (L ++ [r]) (f2Step s r)
      (f2Inv_step n L s r h (hrest r (by simp)))
    simpa using this

def pivKeys (piv : PivMap) : Finset Nat := piv.keys.toFinset

theorem mem_pivKeys (piv : PivMap) (b : Nat) : b ∈ pivKeys piv ↔ b ∈ piv := by
  simp [pivKeys, Std.HashMap.mem_keys]

theorem card_pivKeys (piv : PivMap) : (pivKeys piv).card = piv.size := by
  rw [pivKeys, List.toFinset_card_of_nodup Std.HashMap.nodup_keys, Std.HashMap.length_keys]

/-- the vector stored under the leading bit `b` (`0` if none) -/
def pivVec (n : Nat) (piv : PivMap) (b : Nat) : Fin n → ZMod 2 := bitVec n (piv[b]?.getD 0)

theorem exists_of_mem_pivKeys {piv : PivMap} {b : Nat} (hb : b ∈ pivKeys piv) :
    ∃ p, piv[b]? = some p := by
  rw [mem_pivKeys, Std.HashMap.mem_iff_isSome_getElem?] at hb
  exact Option.isSome_iff_exists.1 hb

theorem range_pivVec (n : Nat) (piv : PivMap) :
    Set.range (fun b : pivKeys piv => pivVec n piv b) = pivSet n piv := by
  ext v
  simp only [Set.mem_range, pivSet, Set.mem_ofPred_eq]
  constructor
  · rintro ⟨⟨b, hb⟩, rfl⟩
    obtain ⟨p, hp⟩ := exists_of_mem_pivKeys hb
    exact ⟨b, p, hp, by simp [pivVec, hp]⟩
  · rintro ⟨b, p, hp, rfl⟩
    have hb : b ∈ pivKeys piv := by
      rw [mem_pivKeys, Std.HashMap.mem_iff_isSome_getElem?, hp]; rfl
    exact ⟨⟨b, hb⟩, by simp [pivVec, hp]⟩

/-- vectors with pairwise distinct leading bits are linearly independent -/
theorem linearIndependent_pivVec (n : Nat) (piv : PivMap) (hinv : PivInv piv)
    (hbound : ∀ (b p : Nat), piv[b]? = some p → p < 2 ^ n) :
    LinearIndependent (ZMod 2) (fun b : pivKeys piv => pivVec n piv b) := by
  rw [Fintype.linearIndependent_iff]
  intro g hg
  by_contra hne
  push Not at hne
  have hT : (Finset.univ.filter (fun i : pivKeys piv => g i ≠ 0)).Nonempty := by
    obtain ⟨i, hi⟩ := hne
    exact ⟨i, Finset.mem_filter.mpr ⟨Finset.mem_univ _, hi⟩⟩
  obtain ⟨i0, hi0, hmax⟩ := Finset.exists_max_image _ (fun i : pivKeys piv => (i : Nat)) hT
  simp only [Finset.mem_filter, Finset.mem_univ, true_and] at hi0 hmax
  obtain ⟨p0, hp0⟩ := exists_of_mem_pivKeys i0.2
  obtain ⟨hp0ne, hp0log⟩ := hinv _ _ hp0
  have hlt : (i0 : Nat) < n := by
    rw [← hp0log]; exact (Nat.log2_lt hp0ne).2 (hbound _ _ hp0)
  have hsum := congr_fun hg ⟨i0, hlt⟩
  rw [Finset.sum_apply, Finset.sum_eq_single i0] at hsum
  · apply hi0
    have h1 : pivVec n piv i0 ⟨i0, hlt⟩ = 1 := by
      simp only [pivVec, hp0, Option.getD_some, bitVec]
      rw [← hp0log, Nat.testBit_log2 hp0ne]; rfl
    simpa [h1] using hsum
  · intro i _ hi
    by_cases hgi : g i = 0
    · simp [hgi]
    · have hle := hmax i hgi
      have hlt' : (i : Nat) < i0 := by
        rcases Nat.lt_or_ge (i : Nat) i0 with h | h
        · exact h
        · exact absurd (Subtype.ext (Nat.le_antisymm hle h)) hi
      obtain ⟨p, hp⟩ := exists_of_mem_pivKeys i.2
      obtain ⟨hpne, hplog⟩ := hinv _ _ hp
      have hp2 : p < 2 ^ (i0 : Nat) :=
        Nat.lt_of_lt_of_le Nat.lt_log2_self (Nat.pow_le_pow_right (by omega) (by omega))
      have h0 : pivVec n piv i ⟨i0, hlt⟩ = 0 := by
        simp only [pivVec, hp, Option.getD_some, bitVec]
        rw [Nat.testBit_lt_two_pow hp2]; rfl
      simp [h0]
  · intro h; exact absurd (Finset.mem_univ _) h

theorem finrank_span_pivSet (n : Nat) (piv : PivMap) (hinv : PivInv piv)
    (hbound : ∀ (b p : Nat), piv[b]? = some p → p < 2 ^ n) :
    Module.finrank (ZMod 2) (Submodule.span (ZMod 2) (pivSet n piv)) = piv.size := by
  rw [← range_pivVec, finrank_span_eq_card (linearIndependent_pivVec n piv hinv hbound),
    Fintype.card_coe, card_pivKeys]

theorem range_bitMat_row (n : Nat) (rows : Array Nat) :
    Set.range (bitMat n rows).row = rowSet n rows.toList := by
  ext v
  simp only [Set.mem_range, rowSet, Set.mem_ofPred_eq]
  constructor
  · rintro ⟨i, rfl⟩
    exact ⟨rows[i], by simp, rfl⟩
  · rintro ⟨x, hx, rfl⟩
    obtain ⟨i, hi, rfl⟩ := List.getElem_of_mem hx
    exact ⟨⟨i, by simpa using hi⟩, rfl⟩

theorem rankF2_spec (n : Nat) (rows : Array Nat) (h : ∀ r ∈ rows.toList, r < 2 ^ n) :
    Yuiv.C19.rankF2 rows = (bitMat n rows).rank := by
  have hI := f2Inv_foldl n rows.toList h [] _ (f2Inv_init n)
  have hr := Matrix.rank_eq_finrank_span_row (bitMat n rows)
  rw [rankF2_eq_foldl, hI.count, hr, range_bitMat_row,
    ← finrank_span_pivSet n _ hI.inv hI.bound, hI.span, List.nil_append]

theorem rankF2_ex_356 : Yuiv.C19.rankF2 #[3, 5, 6] = 2 := by
  have l3 : Nat.log2 3 = 1 := by decide
  have l5 : Nat.log2 5 = 2 := by decide
  have l6 : Nat.log2 6 = 2 := by decide
  have s1 : f2Step ((∅ : PivMap), 0) 3 = ((∅ : PivMap).insert 1 3, 1) := by
    have := f2Step_none (∅ : PivMap) 0 (r := 3) (by decide) (by simp)
    rwa [l3] at this
  have s2 : f2Step ((∅ : PivMap).insert 1 3, 1) 5 = (((∅ : PivMap).insert 1 3).insert 2 5, 2) := by
    have := f2Step_none ((∅ : PivMap).insert 1 3) 1 (r := 5) (by decide)
      (by simp [l5])
    rwa [l5] at this
  have s3 : f2Step (((∅ : PivMap).insert 1 3).insert 2 5, 2) 6
      = (((∅ : PivMap).insert 1 3).insert 2 5, 2) := by
    rw [f2Step_some (p := 5) _ _ (by decide) (by simp [l6]),
      f2Step_some (r := 6 ^^^ 5) (p := 3) _ _ (by decide)
        (by simp [l3, Std.HashMap.getElem_insert])]
    exact f2Step_zero _ _
  rw [rankF2_eq_foldl]
  show (f2Step (f2Step (f2Step ((∅ : PivMap), 0) 3) 5) 6).2 = 2
  rw [s1, s2, s3]

theorem rankF2_ex_124 : Yuiv.C19.rankF2 #[1, 2, 4] = 3 := by
  have l1 : Nat.log2 1 = 0 := by decide
  have l2 : Nat.log2 2 = 1 := by decide
  have l4 : Nat.log2 4 = 2 := by decide
  have s1 : f2Step ((∅ : PivMap), 0) 1 = ((∅ : PivMap).insert 0 1, 1) := by
    have := f2Step_none (∅ : PivMap) 0 (r := 1) (by decide) (by simp)
    rwa [l1] at this
  have s2 : f2Step ((∅ : PivMap).insert 0 1, 1) 2 = (((∅ : PivMap).insert 0 1).insert 1 2, 2) := by
    have := f2Step_none ((∅ : PivMap).insert 0 1) 1 (r := 2) (by decide)
      (by simp [l2])
    rwa [l2] at this
  have s3 : f2Step (((∅ : PivMap).insert 0 1).insert 1 2, 2) 4
      = ((((∅ : PivMap).insert 0 1).insert 1 2).insert 2 4, 3) := by
    have := f2Step_none (((∅ : PivMap).insert 0 1).insert 1 2) 2 (r := 4) (by decide)
      (by simp [l4])
    rwa [l4] at this
  rw [rankF2_eq_foldl]
  show (f2Step (f2Step (f2Step ((∅ : PivMap), 0) 1) 2) 4).2 = 3
  rw [s1, s2, s3]

/-- the hypothesis of `rankF2_spec` is satisfiable by a non-trivial value, and the conclusion is then
a statement about a non-zero matrix: `rank (bitMat 3 #[3, 5, 6]) = 2` -/
example : (bitMat 3 #[3, 5, 6]).rank = 2 := by
  rw [← rankF2_spec 3 #[3, 5, 6] (by decide)]
  exact rankF2_ex_356
end Yuiv.KhSnf
