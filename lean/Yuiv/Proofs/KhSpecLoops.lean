import Yuiv.Proofs.KhSpecDefs
import Yuiv.Proofs.KhRefLoops
/-
KhSpec — loop-free form of `KhRef.khHomology` (unbigraded computation) on its success path, and the `malformed` failure
path.  `khHomology` is restated (`khHomology_eqM`) as `khHomologyM` whose loop bodies are named functions (both sides
unfold to the same term once the auxiliary matchers are unfolded to `casesOn`: tactic `delta_matchers`, then `rfl`); an
early `return r` of a `for` loop is the state `(some r, …)` + `ForInStep.done`.  The hash map of the differential is
characterised by `get?` (`dmapOf_get?`), hence the table is the function `dTab` and the result does not depend on the hash
map; the `d∘d` accumulator is `C06Cycle.chainSum`.
-/
namespace Yuiv.KhSpec
open Yuiv.KhRef Yuiv.KhRefLoops

abbrev ER := Except Failure Result
abbrev DMap := Std.HashMap Gen (Array Term)
abbrev Cells := Array (Int × Option Int × Group)

/-- the first loop: the generators by weight -/
def gensLoop (c : Cube) : Array (Array Gen) :=
  (forIn (m := Id) [:2 ^ c.n] (Array.replicate (c.n + 1) #[]) fun s (gens : Array (Array Gen)) =>
    pure (ForInStep.yield (gens.set! (popcount s c.n) (gens[popcount s c.n]! ++ c.gensAt s)))).run

def dmapInner (c : Cube) (p : Params) (g : Gen) (st : Option ER × DMap) : Id (ForInStep (Option ER × DMap)) :=
  match c.d p g with
  | none => pure (ForInStep.done (some (Except.error Failure.malformed), st.2))
  | some ts => pure (ForInStep.yield (none, st.2.insert g ts))

/-- the second loop: the table of the differential (and the `malformed` exit) -/
def dmapLoop (c : Cube) (p : Params) (gens : Array (Array Gen)) : Option ER × DMap :=
  (forIn (m := Id) gens (none, (∅ : DMap)) (exitOuter (dmapInner c p))).run

/-- the accumulator of `d (d g)` -/
def accOf (d : Gen → Array Term) (g : Gen) : Std.HashMap Gen Int :=
  (forIn (m := Id) (d g) (∅ : Std.HashMap Gen Int) fun (x : Term) (acc : Std.HashMap Gen Int) =>
    match x with
    | (y, a) => do
      let s ← forIn (d y) acc fun (x : Term) (acc : Std.HashMap Gen Int) =>
        match x with
        | (z, b) => pure (ForInStep.yield (acc.insert z ((acc.get? z).getD 0 + a * b)))
      pure (ForInStep.yield s)).run

def ddInner (d : Gen → Array Term) (g : Gen) (_ : Option ER × Unit) : Id (ForInStep (Option ER × Unit)) :=
  if ((accOf d g).toList.any fun (x : Gen × Int) => match x with | (_, v) => v != 0) = true then
    pure (ForInStep.done (some (Except.error Failure.notComplex), ()))
  else pure (ForInStep.yield (none, ()))

/-- the third loop: the `d∘d = 0` re-check -/
def ddLoop (gens : Array (Array Gen)) (d : Gen → Array Term) : Option ER × Unit :=
  (forIn (m := Id) gens (none, ()) (exitOuter (ddInner d))).run

def cellBody (h0 : Int) (j : Option Int) (hs : Array Group) (i : Nat) (cells : Cells) : Id (ForInStep Cells) :=
  if ((hs[i]!).rank != 0 || (hs[i]!).tors.size != 0) = true then
    pure (ForInStep.yield (cells.push (h0 + (i : Int), j, hs[i]!)))
  else pure (ForInStep.yield cells)

/-- the push loop of the cells -/
def cellLoop (h0 : Int) (j : Option Int) (hs : Array Group) (cells : Cells) : Cells :=
  (forIn (m := Id) [:hs.size] cells (cellBody h0 j hs)).run

def qsInner (c : Cube) (q0 : Int) (g : Gen) (qs : Array Int) : Id (ForInStep (Array Int)) :=
  if (!qs.contains (c.qDeg q0 g)) = true then pure (ForInStep.yield (qs.push (c.qDeg q0 g)))
  else pure (ForInStep.yield qs)

def qsOuter (c : Cube) (q0 : Int) (gs : Array Gen) (qs : Array Int) : Id (ForInStep (Array Int)) := do
  let s ← forIn gs qs (qsInner c q0)
  pure (ForInStep.yield s)

/-- the collect loop of the q-degrees -/
def qsLoop (c : Cube) (q0 : Int) (gens : Array (Array Gen)) : Array Int :=
  (forIn (m := Id) gens (#[] : Array Int) (qsOuter c q0)).run

def qchkInner (c : Cube) (q0 : Int) (d : Gen → Array Term) (q : Int) (g : Gen) (_ : Option ER × Unit) :
    Id (ForInStep (Option ER × Unit)) :=
  if ((d g).any fun (x : Term) => match x with | (y, _) => c.qDeg q0 y != q) = true then
    pure (ForInStep.done (some (Except.error Failure.notComplex), ()))
  else pure (ForInStep.yield (none, ()))

def qBody (c : Cube) (k : Coeff) (h0 q0 : Int) (gens : Array (Array Gen)) (d : Gen → Array Term) (q : Int)
    (st : Option ER × Cells) : Id (ForInStep (Option ER × Cells)) := do
  let gq := gens.map (fun gs => gs.filter (fun g => c.qDeg q0 g == q))
  let s ← forIn gq (none, ()) (exitOuter (qchkInner c q0 d q))
  match s.1 with
  | some r => pure (ForInStep.done (some r, st.2))
  | none => pure (ForInStep.yield (none, cellLoop h0 (some q) (homologyOf k gq d) st.2))

/-- the bigraded tail -/
def tailQ (c : Cube) (k : Coeff) (h0 q0 : Int) (gens : Array (Array Gen)) (d : Gen → Array Term) : ER :=
  let s := (forIn (m := Id) ((qsLoop c q0 gens).qsort (· < ·)) (none, (#[] : Cells)) (qBody c k h0 q0 gens d)).run
  match s.1 with
  | some r => r
  | none => Except.ok ⟨s.2⟩

def khHomologyM (l : Link) (signs : Array Int) (p : Params) (k : Coeff) (bigraded : Bool) : ER :=
  let c := mkCube l p
  let gens := gensLoop c
  let s := dmapLoop c p gens
  match s.1 with
  | some r => r
  | none =>
    let d : Gen → Array Term := fun g => (s.2.get? g).getD #[]
    match (ddLoop gens d).1 with
    | some r => r
    | none =>
      if (!bigraded) = true then Except.ok ⟨cellLoop (h0Of signs) none (homologyOf k gens d) #[]⟩
      else tailQ c k (h0Of signs) (q0Of signs p) gens d

open Lean Meta Elab Tactic in
/-- unfold all matcher applications of the goal into `casesOn` (two stuck `match`es compiled into different auxiliary
matchers are not unified by `rfl` although they unfold to the same term) -/
elab "delta_matchers" : tactic => do
  let g ← getMainGoal
  let t ← instantiateMVars (← g.getType)
  let env ← getEnv
  let t' ← Meta.deltaExpand t (fun n => (Lean.Meta.getMatcherInfoCore? env n).isSome)
  let g' ← g.replaceTargetDefEq t'
  replaceMainGoal [g']

theorem khHomology_eqM (l : Link) (signs : Array Int) (p : Params) (k : Coeff) (bigraded : Bool) :
    khHomology l signs p k bigraded = khHomologyM l signs p k bigraded := by
  unfold khHomology khHomologyM tailQ qBody qchkInner qsLoop qsOuter qsInner cellLoop cellBody ddLoop ddInner accOf
    dmapLoop dmapInner gensLoop exitOuter
  delta_matchers
  rfl

theorem gensLoop_eq (c : Cube) : gensLoop c = gensByWeight c := by
  unfold gensLoop gensByWeight
  simp only [Std.Legacy.Range.forIn_eq_forIn_range', Std.Legacy.Range.size, Nat.sub_zero, Nat.add_sub_cancel,
    Nat.div_one]
  rw [C04Inv.id_forIn_yield (g := fun s (gens : Array (Array Gen)) =>
    gens.set! (popcount s c.n) (gens[popcount s c.n]! ++ c.gensAt s))]
  · rw [List.range_eq_range']
  · intro a b; rfl

/-- the table as a fold (no hash-map operation other than `insert`) -/
def dmapOf (c : Cube) (p : Params) (gens : Array (Array Gen)) : DMap :=
  gens.toList.foldl (fun m gs => gs.toList.foldl (fun m g => m.insert g ((c.d p g).getD #[])) m) ∅

theorem dmapInner_some (c : Cube) (p : Params) (g : Gen) (st : Option ER × DMap) (h : (c.d p g).isSome = true) :
    dmapInner c p g st = pure (ForInStep.yield (none, st.2.insert g ((c.d p g).getD #[]))) := by
  unfold dmapInner
  cases hd : c.d p g with
  | none => rw [hd] at h; cases h
  | some ts => rfl

theorem dmapInner_none (c : Cube) (p : Params) (g : Gen) (st : Option ER × DMap) (h : c.d p g = none) :
    dmapInner c p g st = pure (ForInStep.done (some (Except.error Failure.malformed), st.2)) := by
  unfold dmapInner
  rw [h]

theorem dmapInner_dich (c : Cube) (p : Params) (g : Gen) (st : Option ER × DMap) :
    (∃ s', dmapInner c p g st = pure (ForInStep.yield (none, s'))) ∨
      (∃ s', dmapInner c p g st = pure (ForInStep.done (some (Except.error Failure.malformed), s'))) := by
  cases hd : c.d p g with
  | none => exact Or.inr ⟨_, dmapInner_none c p g st hd⟩
  | some ts => exact Or.inl ⟨_, dmapInner_some c p g st (by rw [hd]; rfl)⟩

theorem dmapLoop_ok (c : Cube) (p : Params) (gens : Array (Array Gen))
    (h : ∀ gs ∈ gens.toList, ∀ g ∈ gs.toList, (c.d p g).isSome = true) :
    dmapLoop c p gens = (none, dmapOf c p gens) := by
  unfold dmapLoop dmapOf
  rw [← Array.forIn_toList, exitOuter_fold _ (fun m g => m.insert g ((c.d p g).getD #[])) _
    (fun gs hgs g hg st => dmapInner_some c p g st (h gs hgs g hg))]
  rfl

theorem dmapLoop_bad (c : Cube) (p : Params) (gens : Array (Array Gen))
    (h : ∃ gs ∈ gens.toList, ∃ g ∈ gs.toList, c.d p g = none) :
    (dmapLoop c p gens).1 = some (Except.error Failure.malformed) := by
  unfold dmapLoop
  obtain ⟨gs, hgs, g, hg, hd⟩ := h
  rw [← Array.forIn_toList]
  obtain ⟨s', e⟩ := exitOuter_exit (dmapInner c p) (Except.error Failure.malformed) gens.toList
    (fun gs _ g _ st => dmapInner_dich c p g st) ⟨gs, hgs, g, hg, fun st => ⟨_, dmapInner_none c p g st hd⟩⟩ (∅ : DMap)
  rw [e]; rfl

theorem dmapOf_get? (c : Cube) (p : Params) (gens : Array (Array Gen)) (g : Gen) :
    (dmapOf c p gens).get? g = if inGens gens g then some ((c.d p g).getD #[]) else none := by
  unfold dmapOf inGens
  rw [fold2_insert_get? (fun g => (c.d p g).getD #[])]
  have e : (gens.toList.any fun gs => gs.contains g) = gens.any fun gs => gs.contains g := by simp
  rw [e]
  simp

theorem dmapOf_dTab (c : Cube) (p : Params) (gens : Array (Array Gen)) :
    (fun g => ((dmapOf c p gens).get? g).getD #[]) = dTab c p gens := by
  funext g
  rw [dmapOf_get?]
  unfold dTab
  split <;> rfl

theorem accOf_eq (d : Gen → Array Term) (g : Gen) :
    accOf d g = (d g).toList.foldl (fun acc (x : Term) => (d x.1).toList.foldl (C06Cycle.HModel.ins x.2) acc) ∅ := by
  unfold accOf
  rw [← Array.forIn_toList, C04Inv.id_forIn_yield (g := fun (x : Term) (acc : Std.HashMap Gen Int) =>
    (d x.1).toList.foldl (C06Cycle.HModel.ins x.2) acc)]
  intro x acc
  obtain ⟨y, a⟩ := x
  show (forIn (d y) acc _ >>= _) = _
  rw [← Array.forIn_toList]
  have := C04Inv.id_forIn_yield (d y).toList acc (fun (x : Term) (acc : Std.HashMap Gen Int) => C06Cycle.HModel.ins a acc x)
    (fun (x : Term) (acc : Std.HashMap Gen Int) =>
      match x with
      | (z, b) => pure (ForInStep.yield (acc.insert z ((acc.get? z).getD 0 + a * b))))
    (by
      intro x acc
      obtain ⟨z, b⟩ := x
      show pure (ForInStep.yield (acc.insert z ((acc.get? z).getD 0 + a * b))) =
        pure (ForInStep.yield (acc.insert z (acc.getD z 0 + a * b)))
      rw [Std.HashMap.get?_eq_getElem?, Std.HashMap.getD_eq_getD_getElem?])
  change forIn (m := Id) (d y).toList acc _ = _ at this
  rw [this]
  rfl

theorem acc_fold (D : Gen → List Term) (ts : List Term) (acc : Std.HashMap Gen Int) (z : Gen) :
    (ts.foldl (fun acc (x : Term) => (D x.1).foldl (C06Cycle.HModel.ins x.2) acc) acc).getD z 0 =
      acc.getD z 0 + C06Cycle.chainSum D ts z := by
  induction ts generalizing acc with
  | nil => simp [C06Cycle.chainSum]
  | cons t ts ih =>
    rw [List.foldl_cons, ih, C06Cycle.HModel.ins_fold, C06Cycle.HModel.chainSum_cons, Int.add_assoc]

theorem accOf_getD (d : Gen → Array Term) (g z : Gen) :
    (accOf d g).getD z 0 = C06Cycle.chainSum (fun y => (d y).toList) (d g).toList z := by
  rw [accOf_eq, acc_fold (fun y => (d y).toList), Std.HashMap.getD_empty, Int.zero_add]

theorem any_ne_zero_false (acc : Std.HashMap Gen Int) (h : ∀ y, acc.getD y 0 = 0) :
    (acc.toList.any fun (x : Gen × Int) => match x with | (_, v) => v != 0) = false := by
  rw [List.any_eq_false]
  intro kv hm
  obtain ⟨k, v⟩ := kv
  have hk := Std.HashMap.mem_toList_iff_getElem?_eq_some.mp hm
  have := h k
  rw [Std.HashMap.getD_eq_getD_getElem?, hk] at this
  simpa using this

theorem ddInner_ok (d : Gen → Array Term) (g : Gen) (st : Option ER × Unit)
    (h : ∀ z, C06Cycle.chainSum (fun y => (d y).toList) (d g).toList z = 0) :
    ddInner d g st = pure (ForInStep.yield (none, ())) := by
  unfold ddInner
  rw [any_ne_zero_false _ (fun z => by rw [accOf_getD]; exact h z)]
  rfl

theorem ddLoop_ok (gens : Array (Array Gen)) (d : Gen → Array Term)
    (h : ∀ gs ∈ gens.toList, ∀ g ∈ gs.toList, ∀ z,
      C06Cycle.chainSum (fun y => (d y).toList) (d g).toList z = 0) :
    ddLoop gens d = (none, ()) := by
  unfold ddLoop
  rw [← Array.forIn_toList, exitOuter_fold _ (fun _ _ => ()) _
    (fun gs hgs g hg st => ddInner_ok d g st (h gs hgs g hg))]
  rfl

theorem cell_loop (h0 : Int) (j : Option Int) (hs : Array Group) (xs : List Nat) (cells : Cells) :
    forIn (m := Id) xs cells (cellBody h0 j hs) = pure (cells ++ (xs.filterMap (fun (i : Nat) =>
      if (hs[i]!).rank != 0 || (hs[i]!).tors.size != 0 then some (h0 + (i : Int), j, hs[i]!) else none)).toArray) := by
  refine forIn_filterPush _ _ xs (fun i _ a => ?_) cells
  unfold cellBody
  split <;> rfl

theorem cellLoop_eq (h0 : Int) (j : Option Int) (hs : Array Group) (cells : Cells) :
    cellLoop h0 j hs cells = cells ++ (cellsUn h0 j hs).toArray := by
  unfold cellLoop cellsUn
  simp only [Std.Legacy.Range.forIn_eq_forIn_range', Std.Legacy.Range.size, Nat.sub_zero, Nat.add_sub_cancel,
    Nat.div_one]
  rw [cell_loop, List.range_eq_range']
  rfl

theorem mem_cellsUn (h0 : Int) (j : Option Int) (hs : Array Group) (a : Int × Option Int × Group)
    (ha : a ∈ cellsUn h0 j hs) : a.2.1 = j ∧ (a.2.2.rank ≠ 0 ∨ a.2.2.tors.size ≠ 0) ∧
      ∃ i : Nat, i < hs.size ∧ a.1 = h0 + (i : Int) ∧ a.2.2 = hs[i]! := by
  unfold cellsUn at ha
  rw [List.mem_filterMap] at ha
  obtain ⟨i, hi, h⟩ := ha
  split at h
  · rename_i hc
    simp only [Option.some.injEq] at h
    subst h
    exact ⟨rfl, by simpa using hc, i, by simpa using hi, rfl, rfl⟩
  · simp at h

/-- the common part of both gradings: on the success path the table is `dTab` and the re-check passes -/
theorem khHomologyM_ok (l : Link) (signs : Array Int) (p : Params) (k : Coeff) (bigraded : Bool)
    (hdef : ∀ gs ∈ (gensByWeight (mkCube l p)).toList, ∀ g ∈ gs.toList, ((mkCube l p).d p g).isSome = true)
    (hdd : ∀ gs ∈ (gensByWeight (mkCube l p)).toList, ∀ g ∈ gs.toList, ∀ z,
      C06Cycle.chainSum (fun y => (dTab (mkCube l p) p (gensByWeight (mkCube l p)) y).toList)
        (dTab (mkCube l p) p (gensByWeight (mkCube l p)) g).toList z = 0) :
    khHomology l signs p k bigraded =
      if (!bigraded) = true then
        Except.ok ⟨cellLoop (h0Of signs) none
          (homologyOf k (gensByWeight (mkCube l p)) (dTab (mkCube l p) p (gensByWeight (mkCube l p)))) #[]⟩
      else tailQ (mkCube l p) k (h0Of signs) (q0Of signs p) (gensByWeight (mkCube l p))
        (dTab (mkCube l p) p (gensByWeight (mkCube l p))) := by
  rw [khHomology_eqM]
  unfold khHomologyM
  simp only [gensLoop_eq, dmapLoop_ok _ _ _ hdef, dmapOf_dTab, ddLoop_ok _ _ hdd]

/-- the table of `khHomology` really is `dTab`: on the generators the stored value, `#[]` elsewhere; in particular the
result does not depend on the hash map -/
theorem khHomology_unbigraded (l : Link) (signs : Array Int) (p : Params) (k : Coeff)
    (hdef : ∀ gs ∈ (gensByWeight (mkCube l p)).toList, ∀ g ∈ gs.toList, ((mkCube l p).d p g).isSome = true)
    (hdd : ∀ gs ∈ (gensByWeight (mkCube l p)).toList, ∀ g ∈ gs.toList, ∀ z,
      C06Cycle.chainSum (fun y => (dTab (mkCube l p) p (gensByWeight (mkCube l p)) y).toList)
        (dTab (mkCube l p) p (gensByWeight (mkCube l p)) g).toList z = 0) :
    khHomology l signs p k false =
      .ok ⟨(cellsUn (h0Of signs) none
        (homologyOf k (gensByWeight (mkCube l p)) (dTab (mkCube l p) p (gensByWeight (mkCube l p))))).toArray⟩ := by
  rw [khHomologyM_ok l signs p k false hdef hdd, cellLoop_eq]
  simp

theorem khHomology_malformed (l : Link) (signs : Array Int) (p : Params) (k : Coeff) (b : Bool)
    (h : ∃ gs ∈ (gensByWeight (mkCube l p)).toList, ∃ g ∈ gs.toList, (mkCube l p).d p g = none) :
    khHomology l signs p k b = .error .malformed := by
  rw [khHomology_eqM]
  unfold khHomologyM
  simp only [gensLoop_eq, dmapLoop_bad _ _ _ h]

end Yuiv.KhSpec
