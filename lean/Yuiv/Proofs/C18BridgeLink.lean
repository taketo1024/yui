import Yuiv.Proofs.C18BridgeDefs
import Yuiv.Proofs.C18Orbit
/-
C18Bridge — what `toKh` does to the notions every user of the translation needs: size, entries, crossing types, slot
labels, the label set.  Core Lean only, so that the simulation files (`C18BridgeSim`) and the files above the reference
layer (`C18BridgeCirc`, `C04Closure`, `C06Closure`) can all import it.
-/
namespace Yuiv.C18Bridge
open Yuiv Yuiv.KhRef

theorem size_toKh (l : C18.Link) : (toKh l).size = l.length := by simp [toKh]

theorem getElem_toKh (l : C18.Link) (i : Nat) (hi : i < l.length) : (toKh l)[i]! = crossingKh l[i] := by
  unfold toKh
  rw [getElem!_pos _ _ (by simpa using hi)]
  simp

theorem toKh_getElem? (l : C18.Link) (j : Nat) : (toKh l).toList[j]? = (l[j]?).map crossingKh := by
  simp [toKh]

theorem mem_toKh {l : C18.Link} {x : Crossing} : x ∈ toKh l ↔ ∃ c ∈ l, crossingKh c = x := by
  simp only [toKh, List.mem_toArray, List.mem_map]

theorem e_size_toKh {l : C18.Link} {x : Crossing} (hx : x ∈ toKh l) : x.e.size = 4 := by
  obtain ⟨c, _, rfl⟩ := mem_toKh.1 hx
  rfl

theorem pass_ctKh (t : C18.CType) (j : Nat) : (ctKh t).pass j = t.pass j := by cases t <;> rfl
theorem isResolved_ctKh (t : C18.CType) : (ctKh t).isResolved = t.isResolved := by cases t <;> rfl

theorem isResolved_crossingKh (c : C18.Crossing) : (crossingKh c).ct.isResolved = c.isResolved :=
  isResolved_ctKh c.ctype

theorem resolved_ctKh (c : C18.Crossing) (h : c.isResolved = true) : ctKh c.ctype = .V ∨ ctKh c.ctype = .H := by
  obtain ⟨t, e0, e1, e2, e3⟩ := c
  cases t <;> first | exact Or.inl rfl | exact Or.inr rfl | cases h

theorem edge_crossingKh (c : C18.Crossing) (j : Nat) (hj : j < 4) : (crossingKh c).e[j]! = c.edge j := by
  match j, hj with
  | 0, _ => rfl
  | 1, _ => rfl
  | 2, _ => rfl
  | 3, _ => rfl

theorem ct_toKh (l : C18.Link) (i : Nat) (hi : i < l.length) : (toKh l)[i]!.ct = ctKh (C18.ctypeAt l i) := by
  rw [getElem_toKh l i hi, C18.ctypeAt_eq l i hi]; rfl

theorem edge_toKh (l : C18.Link) (i j : Nat) (hi : i < l.length) (hj : j < 4) :
    (toKh l)[i]!.e[j]! = C18.edgeAt l i j := by
  rw [getElem_toKh l i hi, C18.edgeAt_eq l i j hi, edge_crossingKh _ j hj]

theorem crossingNum_toKh (l : C18.Link) : KhRef.crossingNum (toKh l) = C18.crossingNum l := by
  unfold KhRef.crossingNum C18.crossingNum toKh
  simp only [List.filter_toArray', List.size_toArray, List.filter_map, List.length_map]
  congr 2
  funext c
  exact congrArg (!·) (isResolved_crossingKh c)

theorem mem_edges_iff (c : C18.Crossing) (x : Nat) : x ∈ (crossingKh c).e ↔ x ∈ c.edges := by
  simp [crossingKh, C18.Crossing.edges]

theorem mem_labels_toKh (l : C18.Link) (x : Nat) : (∃ c ∈ toKh l, x ∈ c.e) ↔ x ∈ C18.allEdges l := by
  unfold C18.allEdges
  rw [List.mem_flatMap]
  constructor
  · rintro ⟨_, hk, hx⟩
    obtain ⟨c, hc, rfl⟩ := mem_toKh.1 hk
    exact ⟨c, hc, (mem_edges_iff c x).1 hx⟩
  · rintro ⟨c, hc, hx⟩
    exact ⟨_, mem_toKh.2 ⟨c, hc, rfl⟩, (mem_edges_iff c x).2 hx⟩

end Yuiv.C18Bridge
