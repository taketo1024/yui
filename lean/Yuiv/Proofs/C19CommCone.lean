import Yuiv.Proofs.C19CommMain
import Yuiv.Proofs.C06CycleHash
import Yuiv.Proofs.C01SqCoef
/-
C19Comm — the cone of `1 + τ` in the list representation of the driver (`Model/C19.khiHomology`: `dI`, targets with odd
coefficient, repeated targets cancel in pairs) and `D∘D = 0 (mod 2)` from `d∘d = 0 (mod 2)` and the chain-map property;
the generators of the complex (`allGens`): duplicate-free, closed under `d` and under `τ`.
-/
namespace Yuiv.C19Comm
open Yuiv.KhRef Yuiv.C19 Yuiv.C06Cycle Yuiv.C19Inv

/-- the differential of the reference complex over 𝔽₂ as `khiHomology` uses it: the targets of the terms with odd
coefficient (`[]` where `Cube.d` is undefined — `khiHomology` reports `malformed` then) -/
def dK (c : Cube) (p : Params) (g : Gen) : List Gen := oddSupp ((c.d p g).getD #[]).toList

/-- the cone differential of `khiHomology` (`dI` there): `D(Bx) = B dx + Qx + Qτx`, `D(Qx) = Q dx` -/
def dI (ic : ICube) (p : Params) : IGen → List IGen
  | (false, g) => (dK ic.cube p g).map (fun y => (false, y)) ++ [(true, g), (true, ic.tau g)]
  | (true, g) => (dK ic.cube p g).map (fun y => (true, y))

theorem dK_eq (c : Cube) (p : Params) (g : Gen) : dK c p g = oddSupp ((dList c p g).getD []) := by
  unfold dK
  rw [cube_d_list]
  cases dList c p g <;> rfl

/-- τ is a chain map over 𝔽₂ (list form, up to the order of the terms) -/
theorem dK_comm (F : Array Nat → Array Nat) (ic : ICube) (h : icubeWf' F ic = true) (p : Params) (g : Gen)
    (hs : g.s < 2 ^ ic.cube.n) : ((dK ic.cube p g).map ic.tau).Perm (dK ic.cube p (ic.tau g)) := by
  rw [dK_eq, dK_eq]
  exact rel_getD (dList_comm F ic h p g hs) [] [] (List.Perm.refl _)

theorem dK_target (F : Array Nat → Array Nat) (ic : ICube) (hwf : icubeWf' F ic = true) (p : Params) (g : Gen)
    (hs : g.s < 2 ^ ic.cube.n) (y : Gen) (hy : y ∈ dK ic.cube p g) :
    y.s < 2 ^ ic.cube.n ∧ popcount y.s ic.cube.n = popcount g.s ic.cube.n + 1 ∧
    y.mask < 2 ^ (ic.cube.circ[y.s]!).size ∧ baseKeep ic.cube y = true := by
  unfold dK oddSupp at hy
  obtain ⟨t, ht, rfl⟩ := List.mem_map.1 hy
  have ht' := (List.mem_filter.1 ht).1
  cases hd : ic.cube.d p g with
  | none => rw [hd] at ht'; simp at ht'
  | some ts =>
    rw [hd] at ht'
    obtain ⟨k, tl, mt, hk, hbit, he, hmt, rfl⟩ := C06Cycle.mem_d ic.cube p g ts hd t ht'
    have hs' := KhRef.or_bit_lt hs hk
    have v := wf'_spec F ic hwf g.s hs
    have v' := wf'_spec F ic hwf _ hs'
    refine ⟨hs', popcount_or_gt _ _ _ hbit hk,
      C01Sq.terms_lt ⟨v.inj.nodup, v'.inj.nodup, v.le64, v'.le64⟩ p.h p.t g.mask tl he mt hmt, ?_⟩
    rw [cube_d_spec] at hd
    split at hd
    · cases hd
      have h2 : _ ∈ (rawTerms ic.cube p g).filter (fun t => baseKeep ic.cube t.1) := ht'
      exact (List.mem_filter.1 h2).2
    · cases hd

theorem count_map_pair (b b' : Bool) (z : Gen) (l : List Gen) :
    (l.map (fun y => (b', y))).count (b, z) = if b = b' then l.count z else 0 := by
  by_cases hb : b = b'
  · subst hb
    rw [if_pos rfl]
    exact List.count_map_of_injective l _ (fun _ _ e => (Prod.mk.inj e).2) z
  · rw [if_neg hb, List.count_eq_zero]
    intro h
    obtain ⟨y, _, e⟩ := List.mem_map.1 h
    exact hb (Prod.mk.inj e).1.symm

theorem count_B_part (ic : ICube) (p : Params) (b : Bool) (z : Gen) (l : List Gen) :
    ((l.map (fun y => ((false, y) : IGen))).flatMap (dI ic p)).count (b, z) =
      if b = false then (l.flatMap (dK ic.cube p)).count z else l.count z + (l.map ic.tau).count z := by
  induction l with
  | nil => simp
  | cons a l ih =>
    have hd : dI ic p (false, a) =
        (dK ic.cube p a).map (fun y => ((false, y) : IGen)) ++ [a, ic.tau a].map (fun y => ((true, y) : IGen)) := rfl
    rw [List.map_cons, List.flatMap_cons, List.count_append, ih, hd, List.count_append, count_map_pair, count_map_pair,
      List.flatMap_cons, List.count_append, List.map_cons, List.count_cons, List.count_singleton, List.count_cons,
      List.count_cons]
    cases b
    · simp
    · simp only [Bool.true_eq_false, if_false, if_true]
      omega

theorem count_Q_part (ic : ICube) (p : Params) (b : Bool) (z : Gen) (l : List Gen) :
    ((l.map (fun y => ((true, y) : IGen))).flatMap (dI ic p)).count (b, z) =
      if b = true then (l.flatMap (dK ic.cube p)).count z else 0 := by
  induction l with
  | nil => simp
  | cons a l ih =>
    rw [List.map_cons, List.flatMap_cons, List.count_append, ih]
    simp only [dI, count_map_pair, List.flatMap_cons, List.count_append]
    cases b <;> simp

theorem cone_sq_even (ic : ICube) (p : Params) (g : Gen)
    (hd : ∀ z, ((dK ic.cube p g).flatMap (dK ic.cube p)).count z % 2 = 0)
    (hτ : ((dK ic.cube p g).map ic.tau).Perm (dK ic.cube p (ic.tau g))) (b : Bool) (z : IGen) :
    (((dI ic p (b, g)).flatMap (dI ic p)).count z) % 2 = 0 := by
  obtain ⟨bz, z⟩ := z
  cases b
  · simp only [dI, List.flatMap_append, List.count_append, count_B_part, List.flatMap_cons, List.flatMap_nil,
      List.append_nil, count_map_pair]
    cases bz
    · simp only [if_true, Bool.false_eq_true, if_false]
      have := hd z
      omega
    · simp only [Bool.true_eq_false, if_false, if_true]
      rw [hτ.count_eq z]
      omega
  · simp only [dI, count_Q_part]
    cases bz
    · simp
    · simp only [if_true]
      exact hd z

/-- all generators of the cube `c` (in the reduced theory: those with the base circle labelled `X`) -/
def allGens (c : Cube) : List Gen := (List.range (2 ^ c.n)).flatMap (fun s => (c.gensAt s).toList)

theorem mem_gensAt (c : Cube) (s : Nat) (g : Gen) :
    g ∈ c.gensAt s ↔ g.s = s ∧ g.mask < 2 ^ (c.circ[s]!).size ∧ baseKeep c g = true := by
  rw [Cube.mem_gensAt]
  refine and_congr_right fun hs => and_congr_right fun _ => ?_
  unfold baseKeep
  rw [hs]
  cases c.baseCircle s with
  | none => simp
  | some b => simp

theorem mem_allGens (c : Cube) (g : Gen) :
    g ∈ allGens c ↔ g.s < 2 ^ c.n ∧ g.mask < 2 ^ (c.circ[g.s]!).size ∧ baseKeep c g = true := by
  unfold allGens
  rw [List.mem_flatMap]
  constructor
  · rintro ⟨s, hs, hg⟩
    obtain ⟨h1, h2, h3⟩ := (mem_gensAt c s g).1 (Array.mem_toList_iff.1 hg)
    subst h1
    exact ⟨List.mem_range.1 hs, h2, h3⟩
  · rintro ⟨h1, h2, h3⟩
    exact ⟨g.s, List.mem_range.2 h1, Array.mem_toList_iff.2 ((mem_gensAt c g.s g).2 ⟨rfl, h2, h3⟩)⟩

theorem allGens_nodup (c : Cube) : (allGens c).Nodup := by
  unfold allGens
  rw [List.nodup_flatMap]
  refine ⟨fun s _ => c.gensAt_nodup s, ?_⟩
  apply List.Pairwise.imp _ List.nodup_range
  intro s s' hne
  show List.Disjoint _ _
  intro g h1 h2
  have e1 := ((mem_gensAt c s g).1 (Array.mem_toList_iff.1 h1)).1
  have e2 := ((mem_gensAt c s' g).1 (Array.mem_toList_iff.1 h2)).1
  exact hne (e1.symm.trans e2)

theorem allGens_d_closed (F : Array Nat → Array Nat) (ic : ICube) (h : icubeWf' F ic = true) (p : Params) :
    ∀ g ∈ allGens ic.cube, ∀ y ∈ dK ic.cube p g, y ∈ allGens ic.cube := by
  intro g hg y hy
  obtain ⟨a1, _, a3, a4⟩ := dK_target F ic h p g ((mem_allGens _ g).1 hg).1 y hy
  exact (mem_allGens _ y).2 ⟨a1, a3, a4⟩

theorem allGens_tau_closed (ic : ICube) (h : icubeWf ic = true) : ∀ g ∈ allGens ic.cube, ic.tau g ∈ allGens ic.cube := by
  intro g hg
  obtain ⟨h1, _, h3⟩ := (mem_allGens _ g).1 hg
  exact (mem_allGens _ _).2
    ⟨(wf_spec ic h g.s h1).lt, tau_mask_lt ic h g h1, by rw [baseKeep_tau ic h g h1]; exact h3⟩

end Yuiv.C19Comm
