import Yuiv.Proofs.C13
import Yuiv.Proofs.C13Kernel
import Yuiv.Proofs.C13Trans
import Yuiv.Proofs.C13Dense
import Yuiv.Proofs.C13Block
import Yuiv.Proofs.C13Raw
import Yuiv.Proofs.C13Perm
import Yuiv.Proofs.C13Vec
/-
C13 — sparse and dense matrix containers implement ordinary matrix algebra.

Statements about the code model `Yuiv/Model/C13.lean`, for an arbitrary commutative ring `R` with decidable
equality (`Int` is one; the driver also runs the model over models of `Ratio<i64>` and `FF<3>`):

* `A.entry i j` is what `into_dense` reads (sum of the stored values at `(i, j)`; stored zeros allowed);
  `A.WF` says the CSC data is well formed (every `SpMat` value is; each constructor theorem re-establishes it).
* yui's own index-remapping code is proved entry by entry; nalgebra's kernels (`COO→CSC`, `+ − · neg transpose`,
  dense↔sparse) are *defined* by their mathematical meaning in the model and only compared with the real
  code in the differential run — the `*_kernel` theorems just record that the definitions mean what they should
  (they are needed for the `Trans` laws).
* `A.apply x` is the linear map `x ↦ A·x` on coordinate functions; `fwdSem [f₀,…,fₙ] = fₙ ∘ ⋯ ∘ f₀`,
  `bwdSem [b₀,…,bₙ] = b₀ ∘ ⋯ ∘ bₙ`.
-/
namespace Yuiv.C13
open Yuiv Res

-- every statement is made for a commutative ring with decidable equality; about half need only part of that
set_option linter.unusedSectionVars false

variable {R : Type} [CommRing R] [DecidableEq R]

/-- `from_entries`: shape, well-formed data, entry = sum of the given triplets at that position
(zero values skipped, duplicates summed — possibly to a stored zero) -/
theorem from_entries_entries (m n : Nat) (es : List (Trip R)) (A : SpMat R) (h : fromEntries m n es = ok A) :
    A.nrows = m ∧ A.ncols = n ∧ A.WF ∧ ∀ i j, A.entry i j = if i < m ∧ j < n then entryT es i j else 0 :=
  fromEntries_spec m n es A h

/-- `from_entries` succeeds iff every non-zero entry is inside the shape -/
theorem from_entries_defined (m n : Nat) (es : List (Trip R)) :
    (∃ A, fromEntries m n es = ok A) ↔ ∀ t ∈ es, t.2.2 ≠ 0 → t.1 < m ∧ t.2.1 < n := by
  constructor
  · rintro ⟨A, hA⟩
    by_contra hc
    rw [fromEntries_panic m n es hc] at hA; cases hA
  · intro h; exact ⟨_, fromEntries_ok m n es h⟩

theorem from_entries_reject (m n : Nat) (es : List (Trip R))
    (h : ∃ t ∈ es, t.2.2 ≠ 0 ∧ ¬ (t.1 < m ∧ t.2.1 < n)) : fromEntries m n es = panic := by
  apply fromEntries_panic
  intro hs
  obtain ⟨t, ht, hnz, hb⟩ := h
  exact hb (hs t ht hnz)

/-- the stored triplets of a matrix sum up to its entries (what `iter()` hands to every `extract` client) -/
theorem triplets_entries (A : SpMat R) (i j : Nat) : entryT A.triplets i j = A.entry i j := entryT_triplets A i j

/-- `extract(shape, f)` for a total relocation `g`: the new entry at `(i', j')` is the sum of the stored values
that `g` sends there -/
theorem extract_entries (A : SpMat R) (m n : Nat) (f : Nat → Nat → Res (Option (Nat × Nat)))
    (g : Nat → Nat → Option (Nat × Nat))
    (hf : ∀ t ∈ A.triplets, f t.1 t.2.1 = ok (g t.1 t.2.1))
    (hg : ∀ t ∈ A.triplets, ∀ x, g t.1 t.2.1 = some x → x.1 < m ∧ x.2 < n) :
    ∃ B, A.extract m n f = ok B ∧ B.nrows = m ∧ B.ncols = n ∧ B.WF ∧
      ∀ i' j', i' < m → j' < n →
        B.entry i' j' = ((A.triplets.filter (fun t => g t.1 t.2.1 = some (i', j'))).map (·.2.2)).sum :=
  extract_spec A m n f g hf hg

/-- `permute(p, q)`: `entry (permute p q A) (p i) (q j) = entry A i j` -/
theorem permute_entries (A : SpMat R) (hA : A.WF) (p q : Perm) (hp : p.Valid) (hq : q.Valid)
    (hpd : p.dim = A.nrows) (hqd : q.dim = A.ncols) :
    ∃ B, A.permute p q = ok B ∧ B.nrows = A.nrows ∧ B.ncols = A.ncols ∧ B.WF ∧
      ∀ i j, i < A.nrows → j < A.ncols → B.entry (p.fn i) (q.fn j) = A.entry i j := by
  unfold SpMat.permute
  have hpl : ∀ i, i < A.nrows → p.fn i < A.nrows := fun i hi => hpd ▸ p.fn_lt hp i (hpd.symm ▸ hi)
  have hql : ∀ j, j < A.ncols → q.fn j < A.ncols := fun j hj => hqd ▸ q.fn_lt hq j (hqd.symm ▸ hj)
  obtain ⟨B, hB, h1, h2, h3, h4⟩ := extract_spec A A.nrows A.ncols
    (fun i j => do let i' ← p.at i; let j' ← q.at j; ok (some (i', j')))
    (fun i j => some (p.fn i, q.fn j))
    (fun t ht => by
      rw [p.at_ok hp t.1 (hpd.symm ▸ (hA.trip_bound ht).1), q.at_ok hq t.2.1 (hqd.symm ▸ (hA.trip_bound ht).2)]
      rfl)
    (fun t ht x hx => by
      cases hx
      exact ⟨hpl _ (hA.trip_bound ht).1, hql _ (hA.trip_bound ht).2⟩)
  refine ⟨B, hB, h1, h2, h3, fun i j hi hj => ?_⟩
  rw [h4 _ _ (hpl i hi) (hql j hj), ← entryT_triplets]
  apply filter_sum_eq_entryT
  intro t ht
  have hb := hA.trip_bound ht
  rw [Option.some.injEq, Prod.mk.injEq]
  exact ⟨fun e => ⟨p.fn_inj hp _ _ (hpd.symm ▸ hb.1) (hpd.symm ▸ hi) e.1, q.fn_inj hq _ _ (hqd.symm ▸ hb.2) (hqd.symm ▸ hj) e.2⟩,
    fun e => by rw [e.1, e.2]; exact ⟨rfl, rfl⟩⟩

theorem permute_rows_entries (A : SpMat R) (hA : A.WF) (p : Perm) (hp : p.Valid) (hpd : p.dim = A.nrows) :
    ∃ B, A.permuteRows p = ok B ∧ B.nrows = A.nrows ∧ B.ncols = A.ncols ∧ B.WF ∧
      ∀ i j, i < A.nrows → j < A.ncols → B.entry (p.fn i) j = A.entry i j :=
  permute_entries A hA p (Perm.identity A.ncols) hp (Perm.identity_valid _) hpd rfl

theorem permute_cols_entries (A : SpMat R) (hA : A.WF) (q : Perm) (hq : q.Valid) (hqd : q.dim = A.ncols) :
    ∃ B, A.permuteCols q = ok B ∧ B.nrows = A.nrows ∧ B.ncols = A.ncols ∧ B.WF ∧
      ∀ i j, i < A.nrows → j < A.ncols → B.entry i (q.fn j) = A.entry i j :=
  permute_entries A hA (Perm.identity A.nrows) q (Perm.identity_valid _) hq rfl hqd

/-- the values accepted by `PermOwned::new` are exactly the permutations of `0..n`; they act injectively -/
theorem perm_new_defined (l : List Nat) :
    (∃ p, Perm.new l = ok p) ↔ (∀ x ∈ l, x < l.length) ∧ l.Nodup := by
  constructor
  · rintro ⟨p, hp⟩
    by_contra hc
    rw [Perm.new_panic l hc] at hp; cases hp
  · rintro ⟨h1, h2⟩; exact ⟨_, (Perm.new_ok l h1 h2).1⟩

theorem perm_injective (p : Perm) (hv : p.Valid) (i j : Nat) (hi : i < p.dim) (hj : j < p.dim)
    (h : p.fn i = p.fn j) : i = j := p.fn_inj hv i j hi hj h

set_option linter.unusedVariables false in
/-- `submat(i0..i1, j0..j1)` -/
theorem submat_entries (A : SpMat R) (hA : A.WF) (i0 i1 j0 j1 : Nat)
    (hi : i0 ≤ i1 ∧ i1 ≤ A.nrows) (hj : j0 ≤ j1 ∧ j1 ≤ A.ncols) :
    ∃ B, A.submat i0 i1 j0 j1 = ok B ∧ B.nrows = i1 - i0 ∧ B.ncols = j1 - j0 ∧ B.WF ∧
      ∀ i j, i < i1 - i0 → j < j1 - j0 → B.entry i j = A.entry (i0 + i) (j0 + j) :=
  submat_spec A i0 i1 j0 j1 hi hj

theorem submat_rejects (A : SpMat R) (i0 i1 j0 j1 : Nat)
    (h : ¬ ((i0 ≤ i1 ∧ i1 ≤ A.nrows) ∧ (j0 ≤ j1 ∧ j1 ≤ A.ncols))) : A.submat i0 i1 j0 j1 = panic := by
  unfold SpMat.submat
  simp only [← Bool.decide_and, assert_bind, ← ite_and]
  rw [if_neg h]

set_option linter.unusedVariables false in
theorem submat_rows_entries (A : SpMat R) (hA : A.WF) (i0 i1 : Nat) (hi : i0 ≤ i1 ∧ i1 ≤ A.nrows) :
    ∃ B, A.submatRows i0 i1 = ok B ∧ B.nrows = i1 - i0 ∧ B.ncols = A.ncols ∧ B.WF ∧
      ∀ i j, i < i1 - i0 → j < A.ncols → B.entry i j = A.entry (i0 + i) j := by
  obtain ⟨B, h1, h2, h3, h4, h5⟩ := submat_spec A i0 i1 0 A.ncols hi ⟨Nat.zero_le _, Nat.le_refl _⟩
  exact ⟨B, h1, h2, h3, h4, fun i j hi' hj' => by rw [h5 i j hi' hj', Nat.zero_add]⟩

set_option linter.unusedVariables false in
theorem submat_cols_entries (A : SpMat R) (hA : A.WF) (j0 j1 : Nat) (hj : j0 ≤ j1 ∧ j1 ≤ A.ncols) :
    ∃ B, A.submatCols j0 j1 = ok B ∧ B.nrows = A.nrows ∧ B.ncols = j1 - j0 ∧ B.WF ∧
      ∀ i j, i < A.nrows → j < j1 - j0 → B.entry i j = A.entry i (j0 + j) := by
  obtain ⟨B, h1, h2, h3, h4, h5⟩ := submat_spec A 0 A.nrows j0 j1 ⟨Nat.zero_le _, Nat.le_refl _⟩ hj
  exact ⟨B, h1, h2, h3, h4, fun i j hi' hj' => by rw [h5 i j hi' hj', Nat.zero_add]⟩

theorem divide4_entries (A : SpMat R) (hA : A.WF) (k l : Nat) (hk : k ≤ A.nrows) (hl : l ≤ A.ncols) :
    ∃ a b c d, A.divide4 k l = ok (a, b, c, d) ∧
      (a.nrows = k ∧ a.ncols = l ∧ a.WF) ∧ (b.nrows = k ∧ b.ncols = A.ncols - l ∧ b.WF) ∧
      (c.nrows = A.nrows - k ∧ c.ncols = l ∧ c.WF) ∧ (d.nrows = A.nrows - k ∧ d.ncols = A.ncols - l ∧ d.WF) ∧
      (∀ i j, i < k → j < l → a.entry i j = A.entry i j) ∧
      (∀ i j, i < k → j < A.ncols - l → b.entry i j = A.entry i (l + j)) ∧
      (∀ i j, i < A.nrows - k → j < l → c.entry i j = A.entry (k + i) j) ∧
      (∀ i j, i < A.nrows - k → j < A.ncols - l → d.entry i j = A.entry (k + i) (l + j)) := by
  obtain ⟨a, b, c, d, h, ha, hb, hc, hd, ea, eb, ec, ed⟩ := divide4_spec A hA k l hk hl
  exact ⟨a, b, c, d, h, ha, hb, hc, hd, fun i j hi hj => by rw [ea, if_pos ⟨hi, hj⟩],
    fun i j hi _ => by rw [eb, if_pos hi], fun i j _ hj => by rw [ec, if_pos hj], fun i j _ _ => ed i j⟩

theorem divide4_rejects (A : SpMat R) (k l : Nat) (h : ¬ (k ≤ A.nrows ∧ l ≤ A.ncols)) : A.divide4 k l = panic := by
  unfold SpMat.divide4
  simp only [assert_bind, ← ite_and]
  rw [if_neg h]

theorem combine_blocks_entries (a b c d : SpMat R) (ha : a.WF) (hb : b.WF) (hc : c.WF) (hd : d.WF)
    (h1 : a.nrows = b.nrows) (h2 : c.nrows = d.nrows) (h3 : a.ncols = c.ncols) (h4 : b.ncols = d.ncols) :
    ∃ C, combineBlocks a b c d = ok C ∧ C.nrows = a.nrows + c.nrows ∧ C.ncols = a.ncols + b.ncols ∧ C.WF ∧
      ∀ i j, i < a.nrows + c.nrows → j < a.ncols + b.ncols →
        C.entry i j = if i < a.nrows then (if j < a.ncols then a.entry i j else b.entry i (j - a.ncols))
                      else (if j < a.ncols then c.entry (i - a.nrows) j else d.entry (i - a.nrows) (j - a.ncols)) := by
  obtain ⟨C, h, hr, hc, hw, e⟩ := combineBlocks_spec a b c d ha hb hc hd h1 h2 h3 h4
  exact ⟨C, h, hr, hc, hw, fun i j _ _ => e i j⟩

theorem combine_blocks_rejects (a b c d : SpMat R)
    (h : ¬ (a.nrows = b.nrows ∧ c.nrows = d.nrows ∧ a.ncols = c.ncols ∧ b.ncols = d.ncols)) :
    combineBlocks a b c d = panic := by
  unfold combineBlocks
  simp only [assert_bind, ← ite_and]
  rw [if_neg h]

/-- recombining the four parts gives back every entry of `A` -/
theorem combine_after_divide4 (A : SpMat R) (hA : A.WF) (k l : Nat) (hk : k ≤ A.nrows) (hl : l ≤ A.ncols) :
    ∃ a b c d C, A.divide4 k l = ok (a, b, c, d) ∧ combineBlocks a b c d = ok C ∧
      C.nrows = A.nrows ∧ C.ncols = A.ncols ∧ ∀ i j, C.entry i j = A.entry i j := by
  obtain ⟨a, b, c, d, h0, ⟨a1, a2, a3⟩, ⟨b1, b2, b3⟩, ⟨c1, c2, c3⟩, ⟨d1, d2, d3⟩, ea, eb, ec, ed⟩ :=
    divide4_spec A hA k l hk hl
  obtain ⟨C, g1, g2, g3, g4, g5⟩ := combineBlocks_spec a b c d a3 b3 c3 d3 (a1.trans b1.symm) (c1.trans d1.symm)
    (a2.trans c2.symm) (b2.trans d2.symm)
  refine ⟨a, b, c, d, C, h0, g1, ?_, ?_, ?_⟩
  · rw [g2, a1, c1, Nat.add_sub_cancel' hk]
  · rw [g3, a2, b2, Nat.add_sub_cancel' hl]
  · intro i j
    rw [g5, a1, a2, ea, eb, ec, ed]
    by_cases hi : i < k <;> by_cases hj : j < l
    · rw [if_pos hi, if_pos hj, if_pos ⟨hi, hj⟩]
    · rw [if_pos hi, if_neg hj, if_pos hi, Nat.add_sub_cancel' (Nat.le_of_not_lt hj)]
    · rw [if_neg hi, if_pos hj, if_pos hj, Nat.add_sub_cancel' (Nat.le_of_not_lt hi)]
    · rw [if_neg hi, if_neg hj, Nat.add_sub_cancel' (Nat.le_of_not_lt hi), Nat.add_sub_cancel' (Nat.le_of_not_lt hj)]

/-- splitting a block matrix at the block boundary gives back every entry of the four blocks -/
theorem divide4_after_combine (a b c d : SpMat R) (ha : a.WF) (hb : b.WF) (hc : c.WF) (hd : d.WF)
    (h1 : a.nrows = b.nrows) (h2 : c.nrows = d.nrows) (h3 : a.ncols = c.ncols) (h4 : b.ncols = d.ncols) :
    ∃ C a' b' c' d', combineBlocks a b c d = ok C ∧ C.divide4 a.nrows a.ncols = ok (a', b', c', d') ∧
      (∀ i j, a'.entry i j = a.entry i j) ∧ (∀ i j, b'.entry i j = b.entry i j) ∧
      (∀ i j, c'.entry i j = c.entry i j) ∧ (∀ i j, d'.entry i j = d.entry i j) := by
  obtain ⟨C, g1, g2, g3, g4, g5⟩ := combineBlocks_spec a b c d ha hb hc hd h1 h2 h3 h4
  obtain ⟨a', b', c', d', h0, _, _, _, _, ea, eb, ec, ed⟩ :=
    divide4_spec C g4 a.nrows a.ncols (g2 ▸ Nat.le_add_right _ _) (g3 ▸ Nat.le_add_right _ _)
  have hr : ∀ i, ¬ a.nrows + i < a.nrows := fun i => Nat.not_lt.mpr (Nat.le_add_right _ _)
  have hc' : ∀ j, ¬ a.ncols + j < a.ncols := fun j => Nat.not_lt.mpr (Nat.le_add_right _ _)
  refine ⟨C, a', b', c', d', g1, h0, ?_, ?_, ?_, ?_⟩
  · intro i j
    rw [ea]
    split
    · rename_i hij
      rw [g5, if_pos hij.1, if_pos hij.2]
    · rename_i hij
      exact (ha.entry_oob i j hij).symm
  · intro i j
    rw [eb]
    split
    · rename_i hi
      rw [g5, if_pos hi, if_neg (hc' j), Nat.add_sub_cancel_left]
    · rename_i hi
      exact (hb.entry_oob i j (fun h => hi (h1 ▸ h.1))).symm
  · intro i j
    rw [ec]
    split
    · rename_i hj
      rw [g5, if_neg (hr i), if_pos hj, Nat.add_sub_cancel_left]
    · rename_i hj
      exact (hc.entry_oob i j (fun h => hj (h3 ▸ h.2))).symm
  · intro i j
    rw [ed, g5, if_neg (hr i), if_neg (hc' j), Nat.add_sub_cancel_left, Nat.add_sub_cancel_left]

/-- `concat`: `[A B]` -/
theorem concat_entries (A B : SpMat R) (hA : A.WF) (hB : B.WF) (h : A.nrows = B.nrows) :
    ∃ C, A.concat B = ok C ∧ C.nrows = A.nrows ∧ C.ncols = A.ncols + B.ncols ∧ C.WF ∧
      ∀ i j, i < A.nrows → j < A.ncols + B.ncols →
        C.entry i j = if j < A.ncols then A.entry i j else B.entry i (j - A.ncols) := by
  obtain ⟨C, h1, h2, h3, h4, h5⟩ := combineBlocks_spec A B (SpMat.zero 0 A.ncols) (SpMat.zero 0 B.ncols)
    hA hB (zero_wf _ _) (zero_wf _ _) h rfl rfl rfl
  exact ⟨C, h1, h2, h3, h4, fun i j hi _ => by rw [h5 i j, if_pos hi]⟩

theorem concat_rejects (A B : SpMat R) (h : A.nrows ≠ B.nrows) : A.concat B = panic :=
  combine_blocks_rejects _ _ _ _ (fun e => h e.1)

/-- `stack`: `[A; B]` -/
theorem stack_entries (A B : SpMat R) (hA : A.WF) (hB : B.WF) (h : A.ncols = B.ncols) :
    ∃ C, A.stack B = ok C ∧ C.nrows = A.nrows + B.nrows ∧ C.ncols = A.ncols ∧ C.WF ∧
      ∀ i j, i < A.nrows + B.nrows → j < A.ncols →
        C.entry i j = if i < A.nrows then A.entry i j else B.entry (i - A.nrows) j := by
  obtain ⟨C, h1, h2, h3, h4, h5⟩ := combineBlocks_spec A (SpMat.zero A.nrows 0) B (SpMat.zero B.nrows 0)
    hA (zero_wf _ _) hB (zero_wf _ _) rfl rfl h rfl
  exact ⟨C, h1, h2, h3, h4, fun i j _ hj => by rw [h5 i j, if_pos hj, if_pos hj]⟩

theorem stack_rejects (A B : SpMat R) (h : A.ncols ≠ B.ncols) : A.stack B = panic :=
  combine_blocks_rejects _ _ _ _ (fun e => h e.2.2.1)

/-- `disassemble` followed by `try_from_csc_data` is the identity on well-formed data -/
theorem csc_roundtrip (A : SpMat R) (hA : A.WF) :
    tryFromCsc A.nrows A.ncols A.disassemble.1 A.disassemble.2.1 A.disassemble.2.2 = ok A := by
  have := tryFromCsc_cols A.nrows A.cols hA.bound hA.sorted
  rw [hA.len] at this
  exact this

/-- `extend_cols` offset arithmetic: popping the last offset of `self` and appending `offset + c_k` yields the
offsets of the concatenated columns; result = columns of `self` followed by the columns of `b` -/
theorem extend_cols_columns (A B : SpMat R) (hA : A.WF) (hB : B.WF) (h : A.nrows = B.nrows) :
    A.extendCols B = ok ⟨A.nrows, A.ncols + B.ncols, A.cols ++ B.cols⟩ ∧
    (⟨A.nrows, A.ncols + B.ncols, A.cols ++ B.cols⟩ : SpMat R).WF ∧
    ∀ i j, (⟨A.nrows, A.ncols + B.ncols, A.cols ++ B.cols⟩ : SpMat R).entry i j
      = if j < A.ncols then A.entry i j else B.entry i (j - A.ncols) :=
  ⟨extendCols_spec A B hA hB h, extendCols_wf A B hA hB h, extendCols_entry A B hA⟩

theorem extend_cols_rejects (A B : SpMat R) (h : A.nrows ≠ B.nrows) : A.extendCols B = panic := by
  unfold SpMat.extendCols
  rw [assert_false (by simp [h])]; rfl

theorem from_col_vecs_columns (m : Nat) (vs : List (SpVec R)) (hv : ∀ v ∈ vs, v.WF ∧ v.dim = m) :
    fromColVecs m vs = ok ⟨m, vs.length, vs.map (·.ents)⟩ ∧
    ∀ i j (hj : j < vs.length), (⟨m, vs.length, vs.map (·.ents)⟩ : SpMat R).entry i j = (vs[j]).entry i :=
  ⟨fromColVecs_spec m vs hv, fun i j hj => fromColVecs_entry m vs i j hj⟩

theorem from_col_vecs_rejects (m : Nat) (vs : List (SpVec R)) (h : ∃ v ∈ vs, v.dim ≠ m) : fromColVecs m vs = panic := by
  unfold fromColVecs
  rw [assert_false (by
    rw [List.all_eq_false]
    obtain ⟨v, hv, hd⟩ := h
    exact ⟨v, hv, by simpa using fun e => hd e.symm⟩)]
  rfl

theorem from_sorted_entries_ok (d : Nat) (es : List (Nat × R))
    (hb : ∀ p ∈ es, p.1 < d) (hs : (es.map (·.1)).Pairwise (· < ·)) :
    SpVec.fromSortedEntries d es = ok ⟨d, es⟩ ∧ (⟨d, es⟩ : SpVec R).WF := fromSortedEntries_spec d es hb hs

/-- unsorted, repeated or out-of-range indices are rejected (never a corrupt vector) -/
theorem from_sorted_entries_rejects (d : Nat) (es : List (Nat × R))
    (h : ¬ ((∀ p ∈ es, p.1 < d) ∧ strictInc (es.map (·.1)) = true)) : SpVec.fromSortedEntries d es = panic := by
  unfold SpVec.fromSortedEntries SpVec.fromRawData
  by_cases hb : ∀ p ∈ es, p.1 < d
  · rw [assert_true (by rw [List.all_eq_true]; intro p hp; simpa using hb p hp)]
    simp only [bind_ok]
    have hs : ¬ strictInc (es.map (·.1)) = true := fun e => h ⟨hb, e⟩
    unfold tryFromCsc
    rw [if_neg]
    · rfl
    · rintro ⟨_, _, _, _, _, h6⟩
      apply hs
      simp only [splitLanes, List.drop_zero, Nat.sub_zero, List.all_cons, List.all_nil, Bool.and_true,
        Bool.and_eq_true] at h6
      rw [List.take_of_length_le (by simp)] at h6
      exact h6.2
  · rw [assert_false (by
      rw [List.all_eq_false]
      simp only [not_forall] at hb
      obtain ⟨p, hp, hlt⟩ := hb
      exact ⟨p, hp, by simpa using hlt⟩)]
    rfl

theorem add_kernel (A B : SpMat R) (hA : A.WF) (hB : B.WF) (h1 : A.nrows = B.nrows) (h2 : A.ncols = B.ncols) :
    ∃ C, A.add B = ok C ∧ C.nrows = A.nrows ∧ C.ncols = A.ncols ∧ C.WF ∧
      ∀ i j, C.entry i j = A.entry i j + B.entry i j := add_spec A B hA hB h1 h2

theorem sub_kernel (A B : SpMat R) (hA : A.WF) (hB : B.WF) (h1 : A.nrows = B.nrows) (h2 : A.ncols = B.ncols) :
    ∃ C, A.sub B = ok C ∧ C.nrows = A.nrows ∧ C.ncols = A.ncols ∧ C.WF ∧
      ∀ i j, C.entry i j = A.entry i j - B.entry i j := sub_spec A B hA hB h1 h2

theorem neg_kernel (A : SpMat R) (hA : A.WF) : A.neg.WF ∧ ∀ i j, A.neg.entry i j = - A.entry i j :=
  ⟨neg_wf A hA, neg_entry A⟩

theorem transpose_kernel (A : SpMat R) (hA : A.WF) :
    A.transpose.nrows = A.ncols ∧ A.transpose.ncols = A.nrows ∧ A.transpose.WF ∧
      ∀ i j, A.transpose.entry i j = A.entry j i := by
  refine ⟨rfl, rfl, cooToCsc_wf _ _ _, ?_⟩
  intro i j
  unfold SpMat.transpose
  rw [entry_cooToCsc]
  by_cases h : i < A.ncols ∧ j < A.nrows
  · rw [if_pos h, entryT_map_swap, entryT_triplets]
  · rw [if_neg h, hA.entry_oob j i (fun e => h ⟨e.2, e.1⟩)]

theorem mul_kernel (A B : SpMat R) (hA : A.WF) (hB : B.WF) (h : A.ncols = B.nrows) :
    ∃ C, A.mul B = ok C ∧ C.nrows = A.nrows ∧ C.ncols = B.ncols ∧ C.WF ∧
      ∀ i j, C.entry i j = ∑ k ∈ Finset.range A.ncols, A.entry i k * B.entry k j := mul_spec A B hA hB h

/-- the product's linear map is the composition (associativity comes for free from here on) -/
theorem mul_is_composition (A B C : SpMat R) (hA : A.WF) (hB : B.WF) (h : A.mul B = ok C) (x : Nat → R) :
    C.apply x = A.apply (B.apply x) := mul_apply A B C hA hB h x

/-- `&SpMat * &SpVec` -/
theorem mul_vec_entries (A : SpMat R) (v : SpVec R) (hA : A.WF) (hv : v.WF) (h : A.ncols = v.dim) :
    ∃ w, A.mulVec v = ok w ∧ w.dim = A.nrows ∧ w.WF ∧ w.entry = A.apply v.entry := mulVec_spec A v hA hv h

/-- `from_row_perm(p)`: the matrix with a `1` at `(p(j), j)` — `row_perm(p) * a == a.permute_rows(p)` -/
theorem from_row_perm_entries (p : Perm) (hp : p.Valid) :
    ∃ F : SpMat R, fromRowPerm p = ok F ∧ F.WF ∧ F.nrows = p.dim ∧ F.ncols = p.dim ∧
      ∀ i j, F.entry i j = if j < p.dim ∧ p.fn j = i then 1 else 0 := by
  simp only [fromRowPerm, permImages_ok p hp _ (fun i hi => List.mem_range.mp hi), bind_ok]
  obtain ⟨F, h0, h1, h2, h3, h4⟩ := sel_spec (R := R) p.dim p.dim ((List.range p.dim).map p.fn) (by simp) (permList_lt p hp)
  exact ⟨F, h0, h1, h2, h3, fun i j => by rw [h4, if_congr (getElem?_map_range _ _ _ _) rfl rfl]⟩

/-- `from_col_perm(p)`: the matrix with a `1` at `(i, p(i))` — `a * col_perm(p) == a.permute_cols(p)` -/
theorem from_col_perm_entries (p : Perm) (hp : p.Valid) :
    ∃ F : SpMat R, fromColPerm p = ok F ∧ F.WF ∧ F.nrows = p.dim ∧ F.ncols = p.dim ∧
      ∀ i j, F.entry i j = if i < p.dim ∧ p.fn i = j then 1 else 0 := by
  simp only [fromColPerm, permImages_ok p hp _ (fun i hi => List.mem_range.mp hi), bind_ok]
  obtain ⟨F, h0, h1, h2, h3, h4⟩ := selT_spec (R := R) p.dim p.dim ((List.range p.dim).map p.fn) (by simp) (permList_lt p hp)
  exact ⟨F, h0, h1, h2, h3, fun i j => by rw [h4, if_congr (getElem?_map_range _ _ _ _) rfl rfl]⟩

/-- `forward v = forward_mat * v`, both equal `fₙ ∘ ⋯ ∘ f₀` on the coordinates of `v`, for every transform
satisfying the invariant (which every history establishes, see `trans_history_laws`) -/
theorem trans_forward_eq_forward_mat (t : Trans R) (ht : t.Inv) (v : SpVec R) (hv : v.WF) (hd : v.dim = t.srcDim) :
    ∃ w M w', t.forward v = ok w ∧ t.forwardMat = ok M ∧ M.mulVec v = ok w' ∧
      w.dim = t.tgtDim ∧ M.nrows = t.tgtDim ∧ M.ncols = t.srcDim ∧
      (∀ i, w.entry i = fwdSem t.fMats v.entry i) ∧ (∀ i, w'.entry i = w.entry i) := by
  obtain ⟨w, h1, h2, h3, h4⟩ := forward_spec t ht v hv hd
  obtain ⟨M, g1, g2, g3, g4, g5, _⟩ := forwardMat_spec t ht
  obtain ⟨w', k1, k2, k3, k4⟩ := mulVec_spec M v g2 hv (by rw [g4, hd])
  refine ⟨w, M, w', h1, g1, k1, h3, g3, g4, fun i => by rw [h4], ?_⟩
  intro i
  rw [k4, h4]
  by_cases hi : i < t.tgtDim
  · exact g5 v.entry i hi
  · rw [apply_oob M g2 _ i (g3 ▸ hi), ← h4, h2.entry_oob i (h3 ▸ hi)]

theorem trans_backward_eq_backward_mat (t : Trans R) (ht : t.Inv) (v : SpVec R) (hv : v.WF) (hd : v.dim = t.tgtDim) :
    ∃ w M w', t.backward v = ok w ∧ t.backwardMat = ok M ∧ M.mulVec v = ok w' ∧
      w.dim = t.srcDim ∧ M.nrows = t.srcDim ∧ M.ncols = t.tgtDim ∧
      (∀ i, w.entry i = bwdSem t.bMats v.entry i) ∧ (∀ i, w'.entry i = w.entry i) := by
  obtain ⟨w, h1, h2, h3, h4⟩ := backward_spec t ht v hv hd
  obtain ⟨M, g1, g2, g3, g4, g5, _⟩ := backwardMat_spec t ht
  obtain ⟨w', k1, k2, k3, k4⟩ := mulVec_spec M v g2 hv (by rw [g4, hd])
  refine ⟨w, M, w', h1, g1, k1, h3, g3, g4, fun i => by rw [h4], ?_⟩
  intro i
  rw [k4, h4]
  by_cases hi : i < t.srcDim
  · exact g5 v.entry i hi
  · rw [apply_oob M g2 _ i (g3 ▸ hi), ← h4, h2.entry_oob i (h3 ▸ hi)]

/-- `forward_mat = fₙ ⋯ f₀` as a linear map (`tgt × src`, well formed) -/
theorem trans_forward_mat_is_product (t : Trans R) (ht : t.Inv) :
    ∃ M, t.forwardMat = ok M ∧ M.WF ∧ M.nrows = t.tgtDim ∧ M.ncols = t.srcDim ∧
      ∀ x i, i < t.tgtDim → M.apply x i = fwdSem t.fMats x i := by
  obtain ⟨M, h1, h2, h3, h4, h5, _⟩ := forwardMat_spec t ht
  exact ⟨M, h1, h2, h3, h4, h5⟩

/-- `backward_mat = b₀ ⋯ bₙ` as a linear map (`src × tgt`, well formed) -/
theorem trans_backward_mat_is_product (t : Trans R) (ht : t.Inv) :
    ∃ M, t.backwardMat = ok M ∧ M.WF ∧ M.nrows = t.srcDim ∧ M.ncols = t.tgtDim ∧
      ∀ y i, i < t.srcDim → M.apply y i = bwdSem t.bMats y i := by
  obtain ⟨M, h1, h2, h3, h4, h5, _⟩ := backwardMat_spec t ht
  exact ⟨M, h1, h2, h3, h4, h5⟩

/-- `reduce` changes neither map, nor the dimensions, nor `is_id` -/
theorem trans_reduce_preserves (t : Trans R) (ht : t.Inv) :
    ∃ t', t.reduce = ok t' ∧ t'.Inv ∧ t'.srcDim = t.srcDim ∧ t'.tgtDim = t.tgtDim ∧
      (∀ x, fwdSem t'.fMats x = fwdSem t.fMats x) ∧ (∀ y, bwdSem t'.bMats y = bwdSem t.bMats y) ∧
      t'.fMats.length ≤ 1 ∧ t'.bMats.length ≤ 1 ∧ (t'.fMats = [] ↔ t.fMats = []) := by
  have step1 : ∃ t1, t.reduceF = ok t1 ∧
      t1.Inv ∧ t1.srcDim = t.srcDim ∧ t1.tgtDim = t.tgtDim ∧ t1.bMats = t.bMats ∧
      (∀ x, fwdSem t1.fMats x = fwdSem t.fMats x) ∧ t1.fMats.length ≤ 1 ∧ (t1.fMats = [] ↔ t.fMats = []) := by
    by_cases hl : t.fMats.length > 1
    · obtain ⟨M, h1, h2, h3, h4, _, h6⟩ := forwardMat_spec t ht
      have hne : t.fMats ≠ [] := List.ne_nil_of_length_pos (Nat.lt_of_succ_lt hl)
      exact ⟨{ t with fMats := [M] }, by unfold Trans.reduceF; rw [if_pos hl, h1]; rfl, ⟨⟨h2, h4, h3⟩, ht.b⟩, rfl, rfl, rfl,
        h6 hne, by simp, Iff.intro (fun e => nomatch e) (fun e => absurd e hne)⟩
    · exact ⟨t, by unfold Trans.reduceF; rw [if_neg hl], ht, rfl, rfl, rfl, fun _ => rfl, Nat.le_of_not_lt hl, Iff.rfl⟩
  obtain ⟨t1, e1, i1, s1, g1, b1, f1, l1, n1⟩ := step1
  unfold Trans.reduce
  rw [e1]
  simp only [bind_ok]
  unfold Trans.reduceB
  by_cases hl : t1.bMats.length > 1
  · obtain ⟨M, h1, h2, h3, h4, _, h6⟩ := backwardMat_spec t1 i1
    exact ⟨{ t1 with bMats := [M] }, by rw [if_pos hl, h1]; rfl, ⟨i1.f, ⟨h2, h3, h4⟩⟩, s1, g1, f1,
      fun y => b1 ▸ h6 (List.ne_nil_of_length_pos (Nat.lt_of_succ_lt hl)) y, l1, by simp, n1⟩
  · exact ⟨t1, by rw [if_neg hl], i1, s1, g1, f1, fun y => by rw [b1], l1, Nat.le_of_not_lt hl, n1⟩

/-- dimension bookkeeping of `append` / `merge` / `append_perm` / `sub`, and what they reject -/
theorem trans_append_dims (t : Trans R) (ht : t.Inv) (f b : SpMat R) (hf : f.WF) (hb : b.WF)
    (h1 : f.ncols = b.nrows) (h2 : f.nrows = b.ncols) (h3 : f.ncols = t.tgtDim) :
    t.append f b = ok { t with tgtDim := f.nrows, fMats := t.fMats ++ [f], bMats := t.bMats ++ [b] } ∧
    ({ t with tgtDim := f.nrows, fMats := t.fMats ++ [f], bMats := t.bMats ++ [b] } : Trans R).Inv :=
  append_spec t ht f b hf hb h1 h2 h3

theorem trans_append_rejects (t : Trans R) (f b : SpMat R)
    (h : ¬ (f.ncols = b.nrows ∧ f.nrows = b.ncols ∧ f.ncols = t.tgtDim)) : t.append f b = panic := by
  rw [append_eq, if_neg h]

theorem trans_merge_dims (t o : Trans R) (ht : t.Inv) (ho : o.Inv) (h : t.tgtDim = o.srcDim) :
    t.merge o = ok { t with tgtDim := o.tgtDim, fMats := t.fMats ++ o.fMats, bMats := t.bMats ++ o.bMats } ∧
    ({ t with tgtDim := o.tgtDim, fMats := t.fMats ++ o.fMats, bMats := t.bMats ++ o.bMats } : Trans R).Inv := by
  refine ⟨by simp [Trans.merge, Res.assert, h], ?_, ?_⟩
  · exact ChainF_append _ _ _ _ _ ht.f (by rw [h]; exact ho.f)
  · exact ChainB_append _ _ _ _ _ ht.b (by rw [h]; exact ho.b)

theorem trans_merge_rejects (t o : Trans R) (h : t.tgtDim ≠ o.srcDim) : t.merge o = panic := by
  simp [Trans.merge, Res.assert, h]

theorem trans_forward_rejects (t : Trans R) (v : SpVec R) (hd : v.dim ≠ t.srcDim) : t.forward v = panic := by
  simp [Trans.forward, Res.assert, hd]

theorem trans_backward_rejects (t : Trans R) (v : SpVec R) (hd : v.dim ≠ t.tgtDim) : t.backward v = panic := by
  simp [Trans.backward, Res.assert, hd]

/-- `sub(indices)` appends the selection of the listed coordinates (and the inclusion back) -/
theorem trans_sub_factors (t : Trans R) (ht : t.Inv) (indices : List Nat) (h : ∀ j ∈ indices, j < t.tgtDim) :
    ∃ F B : SpMat R,
      t.sub indices = ok { t with tgtDim := F.nrows, fMats := t.fMats ++ [F], bMats := t.bMats ++ [B] } ∧
      F.nrows = indices.length ∧
      (∀ i j, F.entry i j = if indices[i]? = some j then 1 else 0) ∧
      (∀ i j, B.entry i j = if indices[j]? = some i then 1 else 0) ∧
      ({ t with tgtDim := F.nrows, fMats := t.fMats ++ [F], bMats := t.bMats ++ [B] } : Trans R).Inv := by
  obtain ⟨F, hF, f1, f2, f3, fe⟩ := selT_spec (R := R) indices.length t.tgtDim indices (Nat.le_refl _) h
  obtain ⟨B, hB, b1, b2, b3, be⟩ := sel_spec (R := R) indices.length t.tgtDim indices (Nat.le_refl _) h
  obtain ⟨h1, h2⟩ := append_spec t ht F B f1 b1 (f3.trans b2.symm) (f2.trans b3.symm) f3
  refine ⟨F, B, ?_, f2, fe, be, h2⟩
  unfold Trans.sub
  simp only []
  rw [hF, hB]
  exact h1

theorem trans_append_perm_factors (t : Trans R) (ht : t.Inv) (p : Perm) (hp : p.Valid) (hd : p.dim = t.tgtDim) :
    ∃ F B : SpMat R, fromRowPerm p = ok F ∧ fromColPerm p = ok B ∧
      t.appendPerm p = ok { t with tgtDim := F.nrows, fMats := t.fMats ++ [F], bMats := t.bMats ++ [B] } ∧
      F.nrows = t.tgtDim ∧
      ({ t with tgtDim := F.nrows, fMats := t.fMats ++ [F], bMats := t.bMats ++ [B] } : Trans R).Inv := by
  obtain ⟨F, hF, f1, f2, f3, _⟩ := from_row_perm_entries (R := R) p hp
  obtain ⟨B, hB, b1, b2, b3, _⟩ := from_col_perm_entries (R := R) p hp
  obtain ⟨h1, h2⟩ := append_spec t ht F B f1 b1 (f3.trans b2.symm) (f2.trans b3.symm) (f3.trans hd)
  exact ⟨F, B, hF, hB, by simp [Trans.appendPerm, Res.assert, hd, hF, hB, h1], f2.trans hd, h2⟩

/-- **the `Trans` laws for ANY history** of `id / new / append / append_perm / merge / sub / reduce` that runs
without panic: the invariant holds and the maps behind `forward`/`forward_mat` and `backward`/`backward_mat`
are the compositions `fₙ ∘ ⋯ ∘ f₀` / `b₀ ∘ ⋯ ∘ bₙ` of ALL factors the history appended, no matter where
`reduce` was called in between. -/
theorem trans_history_laws (h : Hist R) (hg : h.Good) (t : Trans R) (hr : h.run = ok t) :
    t.Inv ∧ (∀ x, fwdSem t.fMats x = fwdSem h.fFactors x) ∧ (∀ y, bwdSem t.bMats y = bwdSem h.bFactors y) := by
  induction h generalizing t with
  | id n => simp only [Hist.run] at hr; cases hr; exact ⟨id_inv n, fun _ => rfl, fun _ => rfl⟩
  | new f b =>
    simp only [Hist.run, Trans.new] at hr
    obtain ⟨e, hi⟩ := append_of_ok _ (id_inv _) f b hg.1 hg.2 t hr
    subst e
    exact ⟨hi, fun _ => rfl, fun _ => rfl⟩
  | append h f b ih =>
    simp only [Hist.run] at hr
    obtain ⟨t0, h0, h1⟩ := bind_eq_ok hr
    obtain ⟨i0, f0, b0⟩ := ih hg.1 t0 h0
    obtain ⟨e, hi⟩ := append_of_ok t0 i0 f b hg.2.1 hg.2.2 t h1
    subst e
    refine ⟨hi, ?_, ?_⟩
    · intro x; simp only [Hist.fFactors, fwdSem_append, f0]
    · intro y; simp only [Hist.bFactors, bwdSem_append, b0]
  | appendPerm h p ih =>
    simp only [Hist.run] at hr
    obtain ⟨t0, h0, h1⟩ := bind_eq_ok hr
    obtain ⟨i0, f0, b0⟩ := ih hg t0 h0
    unfold Trans.appendPerm at h1
    obtain ⟨_, _, h2⟩ := bind_eq_ok h1
    obtain ⟨F, hF, h3⟩ := bind_eq_ok h2
    obtain ⟨B, hB, h4⟩ := bind_eq_ok h3
    obtain ⟨e, hi⟩ := append_of_ok t0 i0 F B (fromRowPerm_wf_of_ok p F hF) (fromColPerm_wf_of_ok p B hB) t h4
    subst e
    refine ⟨hi, ?_, ?_⟩
    · intro x; simp only [Hist.fFactors, fwdSem_append, f0, hF, resToList]
    · intro y; simp only [Hist.bFactors, bwdSem_append, b0, hB, resToList]
  | merge h o ih1 ih2 =>
    simp only [Hist.run] at hr
    obtain ⟨t0, h0, h1⟩ := bind_eq_ok hr
    obtain ⟨u, hu, h2⟩ := bind_eq_ok h1
    obtain ⟨i0, f0, b0⟩ := ih1 hg.1 t0 h0
    obtain ⟨iu, fu, bu⟩ := ih2 hg.2 u hu
    by_cases hd : t0.tgtDim = u.srcDim
    · obtain ⟨e, hi⟩ := trans_merge_dims t0 u i0 iu hd
      rw [e] at h2; cases h2
      refine ⟨hi, ?_, ?_⟩
      · intro x; simp only [Hist.fFactors, fwdSem_append, f0, fu]
      · intro y; simp only [Hist.bFactors, bwdSem_append, b0, bu]
    · rw [trans_merge_rejects t0 u hd] at h2; cases h2
  | sub h idx ih =>
    simp only [Hist.run] at hr
    obtain ⟨t0, h0, h1⟩ := bind_eq_ok hr
    obtain ⟨i0, f0, b0⟩ := ih hg t0 h0
    unfold Trans.sub at h1
    simp only [] at h1
    obtain ⟨F, hF, h3⟩ := bind_eq_ok h1
    obtain ⟨B, hB, h4⟩ := bind_eq_ok h3
    obtain ⟨e, hi⟩ := append_of_ok t0 i0 F B (fromEntries_wf_of_ok _ _ _ F hF) (fromEntries_wf_of_ok _ _ _ B hB) t h4
    subst e
    refine ⟨hi, ?_, ?_⟩
    · intro x; simp only [Hist.fFactors, fwdSem_append, f0, h0, hF, resToList]
    · intro y; simp only [Hist.bFactors, bwdSem_append, b0, h0, hB, resToList]
  | reduce h ih =>
    simp only [Hist.run] at hr
    obtain ⟨t0, h0, h1⟩ := bind_eq_ok hr
    obtain ⟨i0, f0, b0⟩ := ih hg t0 h0
    obtain ⟨t', e, hi, _, _, f1, b1, _⟩ := trans_reduce_preserves t0 i0
    rw [e] at h1; cases h1
    exact ⟨hi, fun x => by rw [f1, f0]; rfl, fun y => by rw [b1, b0]; rfl⟩

theorem dense_swap_rows (A : DMat R) (i j : Nat) (hi : i < A.nrows) (hj : j < A.nrows) :
    ∃ B, A.swapRows i j = ok B ∧ B.nrows = A.nrows ∧ B.ncols = A.ncols ∧
      ∀ r c, r < A.nrows → c < A.ncols →
        B.get r c = if r = i then A.get j c else if r = j then A.get i c else A.get r c := by
  unfold DMat.swapRows
  exact assert_ofFn (by simp [hi, hj]) _ _ _

theorem dense_swap_rows_rejects (A : DMat R) (i j : Nat) (h : ¬ (i < A.nrows ∧ j < A.nrows)) :
    A.swapRows i j = panic := by
  unfold DMat.swapRows
  rw [assert_false (decide_and_false h)]; rfl

theorem dense_swap_cols (A : DMat R) (i j : Nat) (hi : i < A.ncols) (hj : j < A.ncols) :
    ∃ B, A.swapCols i j = ok B ∧ B.nrows = A.nrows ∧ B.ncols = A.ncols ∧
      ∀ r c, r < A.nrows → c < A.ncols →
        B.get r c = if c = i then A.get r j else if c = j then A.get r i else A.get r c := by
  unfold DMat.swapCols
  exact assert_ofFn (by simp [hi, hj]) _ _ _

theorem dense_swap_cols_rejects (A : DMat R) (i j : Nat) (h : ¬ (i < A.ncols ∧ j < A.ncols)) :
    A.swapCols i j = panic := by
  unfold DMat.swapCols
  rw [assert_false (decide_and_false h)]; rfl

theorem dense_mul_row (A : DMat R) (i : Nat) (a : R) (hi : i < A.nrows) :
    ∃ B, A.mulRow i a = ok B ∧ B.nrows = A.nrows ∧ B.ncols = A.ncols ∧
      ∀ r c, r < A.nrows → c < A.ncols → B.get r c = if r = i then A.get i c * a else A.get r c :=
  setRow_spec A i _ hi

theorem dense_mul_row_rejects (A : DMat R) (i : Nat) (a : R) (hi : ¬ i < A.nrows) : A.mulRow i a = panic := by
  simp [DMat.mulRow, DMat.setRow, Res.assert, hi]

theorem dense_mul_col (A : DMat R) (j : Nat) (a : R) (hj : j < A.ncols) :
    ∃ B, A.mulCol j a = ok B ∧ B.nrows = A.nrows ∧ B.ncols = A.ncols ∧
      ∀ r c, r < A.nrows → c < A.ncols → B.get r c = if c = j then A.get r j * a else A.get r c :=
  setCol_spec A j _ hj

theorem dense_mul_col_rejects (A : DMat R) (j : Nat) (a : R) (hj : ¬ j < A.ncols) : A.mulCol j a = panic := by
  simp [DMat.mulCol, DMat.setCol, Res.assert, hj]

theorem dense_add_row_to (A : DMat R) (i j : Nat) (a : R) (hi : i < A.nrows) (hj : j < A.nrows) :
    ∃ B, A.addRowTo i j a = ok B ∧ B.nrows = A.nrows ∧ B.ncols = A.ncols ∧
      ∀ r c, r < A.nrows → c < A.ncols → B.get r c = if r = j then A.get j c + A.get i c * a else A.get r c := by
  obtain ⟨B, h1, h2, h3, h4⟩ := setRow_spec A j (fun c => A.get j c + A.get i c * a) hj
  exact ⟨B, by simp [DMat.addRowTo, Res.assert, hi, h1], h2, h3, h4⟩

theorem dense_add_row_to_rejects (A : DMat R) (i j : Nat) (a : R) (h : ¬ (i < A.nrows ∧ j < A.nrows)) :
    A.addRowTo i j a = panic := by
  unfold DMat.addRowTo DMat.setRow
  simp only [assert_bind, ← ite_and]
  rw [if_neg h]

theorem dense_add_col_to (A : DMat R) (i j : Nat) (a : R) (hi : i < A.ncols) (hj : j < A.ncols) :
    ∃ B, A.addColTo i j a = ok B ∧ B.nrows = A.nrows ∧ B.ncols = A.ncols ∧
      ∀ r c, r < A.nrows → c < A.ncols → B.get r c = if c = j then A.get r j + A.get r i * a else A.get r c := by
  obtain ⟨B, h1, h2, h3, h4⟩ := setCol_spec A j (fun r => A.get r j + A.get r i * a) hj
  exact ⟨B, by simp [DMat.addColTo, Res.assert, hi, h1], h2, h3, h4⟩

theorem dense_add_col_to_rejects (A : DMat R) (i j : Nat) (a : R) (h : ¬ (i < A.ncols ∧ j < A.ncols)) :
    A.addColTo i j a = panic := by
  unfold DMat.addColTo DMat.setCol
  simp only [assert_bind, ← ite_and]
  rw [if_neg h]

/-- `left_elementary([a,b,c,d], i, j)`, `i ≠ j`: rows `(i, j)` are multiplied by `[a b; c d]` from the left -/
theorem dense_left_elementary (A : DMat R) (a b c d : R) (i j : Nat) (hi : i < A.nrows) (hj : j < A.nrows) (hij : i ≠ j) :
    ∃ B, A.leftElementary a b c d i j = ok B ∧ B.nrows = A.nrows ∧ B.ncols = A.ncols ∧
      ∀ r k, r < A.nrows → k < A.ncols →
        B.get r k = if r = i then A.get i k * a + A.get j k * b
                    else if r = j then A.get i k * c + A.get j k * d else A.get r k := by
  obtain ⟨A1, h1, h2, h3, h4⟩ := setRow_spec A i (fun k => A.get i k * a + A.get j k * b) hi
  obtain ⟨B, g1, g2, g3, g4⟩ := setRow_spec A1 j (fun k => A.get i k * c + A.get j k * d) (h2.symm ▸ hj)
  refine ⟨B, by simp [DMat.leftElementary, Res.assert, hi, hj, h1, g1], g2.trans h2, g3.trans h3, ?_⟩
  intro r k hr hk
  rw [g4 r k (h2.symm ▸ hr) (h3.symm ▸ hk)]
  by_cases e1 : r = j
  · rw [if_pos e1, if_neg (fun e => hij (e.symm.trans e1)), if_pos e1]
  · rw [if_neg e1, if_neg e1, h4 r k hr hk]

theorem dense_left_elementary_rejects (A : DMat R) (a b c d : R) (i j : Nat) (h : ¬ (i < A.nrows ∧ j < A.nrows)) :
    A.leftElementary a b c d i j = panic := by
  unfold DMat.leftElementary
  simp only [assert_bind, ← ite_and]
  rw [if_neg h]

/-- `right_elementary([a,b,c,d], i, j)`, `i ≠ j`: columns `(i, j)` are multiplied by `[a c; b d]` from the right -/
theorem dense_right_elementary (A : DMat R) (a b c d : R) (i j : Nat) (hi : i < A.ncols) (hj : j < A.ncols) (hij : i ≠ j) :
    ∃ B, A.rightElementary a b c d i j = ok B ∧ B.nrows = A.nrows ∧ B.ncols = A.ncols ∧
      ∀ r k, r < A.nrows → k < A.ncols →
        B.get r k = if k = i then A.get r i * a + A.get r j * b
                    else if k = j then A.get r i * c + A.get r j * d else A.get r k := by
  obtain ⟨A1, h1, h2, h3, h4⟩ := setCol_spec A i (fun r => A.get r i * a + A.get r j * b) hi
  obtain ⟨B, g1, g2, g3, g4⟩ := setCol_spec A1 j (fun r => A.get r i * c + A.get r j * d) (h3.symm ▸ hj)
  refine ⟨B, by simp [DMat.rightElementary, Res.assert, hi, hj, h1, g1], g2.trans h2, g3.trans h3, ?_⟩
  intro r k hr hk
  rw [g4 r k (h2.symm ▸ hr) (h3.symm ▸ hk)]
  by_cases e1 : k = j
  · rw [if_pos e1, if_neg (fun e => hij (e.symm.trans e1)), if_pos e1]
  · rw [if_neg e1, if_neg e1, h4 r k hr hk]

theorem dense_right_elementary_rejects (A : DMat R) (a b c d : R) (i j : Nat) (h : ¬ (i < A.ncols ∧ j < A.ncols)) :
    A.rightElementary a b c d i j = panic := by
  unfold DMat.rightElementary
  simp only [assert_bind, ← ite_and]
  rw [if_neg h]

theorem dense_submat (A : DMat R) (i0 i1 j0 j1 : Nat) (hi : i0 ≤ i1 ∧ i1 ≤ A.nrows) (hj : j0 ≤ j1 ∧ j1 ≤ A.ncols) :
    ∃ B, A.submat i0 i1 j0 j1 = ok B ∧ B.nrows = i1 - i0 ∧ B.ncols = j1 - j0 ∧
      ∀ i j, i < i1 - i0 → j < j1 - j0 → B.get i j = A.get (i0 + i) (j0 + j) := by
  unfold DMat.submat
  rw [assert_true (by simp [hi.1, hi.2]), assert_true (by simp [hj.1, hj.2])]
  refine ⟨_, rfl, rfl, rfl, ?_⟩
  intro i j h1 h2; rw [get_ofFn _ _ _ _ _ h1 h2]

theorem dense_submat_rejects (A : DMat R) (i0 i1 j0 j1 : Nat)
    (h : ¬ ((i0 ≤ i1 ∧ i1 ≤ A.nrows) ∧ (j0 ≤ j1 ∧ j1 ≤ A.ncols))) : A.submat i0 i1 j0 j1 = panic := by
  unfold DMat.submat
  simp only [← Bool.decide_and, assert_bind, ← ite_and]
  rw [if_neg h]

theorem dense_mul_kernel (A B : DMat R) (h : A.ncols = B.nrows) :
    ∃ C, A.mul B = ok C ∧ C.nrows = A.nrows ∧ C.ncols = B.ncols ∧
      ∀ i j, i < A.nrows → j < B.ncols → C.get i j = ∑ k ∈ Finset.range A.ncols, A.get i k * B.get k j := by
  unfold DMat.mul
  rw [assert_true (by simp [h])]
  refine ⟨_, rfl, rfl, rfl, ?_⟩
  intro i j hi hj; rw [get_ofFn _ _ _ _ _ hi hj, list_range_sum]

theorem to_dense_entries (A : SpMat R) (i j : Nat) (hi : i < A.nrows) (hj : j < A.ncols) :
    A.toDense.get i j = A.entry i j := by
  unfold SpMat.toDense; rw [get_ofFn _ _ _ _ _ hi hj]

theorem to_sparse_entries (A : DMat R) :
    A.toSparse.nrows = A.nrows ∧ A.toSparse.ncols = A.ncols ∧ A.toSparse.WF ∧
      ∀ i j, i < A.nrows → j < A.ncols → A.toSparse.entry i j = A.get i j := by
  refine ⟨rfl, rfl, wf_of_rangeCols A.nrows A.ncols (fun j i => A.get i j ≠ 0) (fun j i => A.get i j), ?_⟩
  intro i j hi hj
  unfold SpMat.entry DMat.toSparse
  simp only [List.getD_eq_getElem?_getD, List.getElem?_map, List.getElem?_range hj, Option.map_some, Option.getD_some]
  unfold sumAt
  rw [filter_map_key _ _ ((List.nodup_range).filter _)]
  by_cases h0 : A.get i j = 0
  · simp [h0]
  · simp [h0, hi]

/-- for distinct indices below `n`: a valid permutation of `0..n`; with `vec = indices ++ (the other indices,
ascending)` it sends `vec[pos]` to `pos` — the listed indices first, in order, then the rest in order -/
theorem perm_for_indices_places (n : Nat) (indices : List Nat) (hnd : indices.Nodup) (hb : ∀ i ∈ indices, i < n) :
    ∃ p, permForIndices n indices = ok p ∧ p.Valid ∧ p.dim = n ∧
      ∀ pos (h : pos < (indices ++ (List.range n).filter (fun i => !indices.contains i)).length),
        p.fn ((indices ++ (List.range n).filter (fun i => !indices.contains i))[pos]) = pos :=
  permForIndices_spec n indices hnd hb

/-- the `k`-th listed index is placed at position `k` -/
theorem perm_for_indices_listed_first (n : Nat) (indices : List Nat) (hnd : indices.Nodup) (hb : ∀ i ∈ indices, i < n) :
    ∃ p, permForIndices n indices = ok p ∧ p.Valid ∧ p.dim = n ∧
      ∀ k (h : k < indices.length), p.fn indices[k] = k := by
  obtain ⟨p, h1, h2, h3, _, h5⟩ := permForIndices_listed n indices hnd hb
  exact ⟨p, h1, h2, h3, h5⟩

theorem perm_for_indices_rejects (n : Nat) (indices : List Nat) (h : ∃ i ∈ indices, ¬ i < n) :
    permForIndices n indices = panic := permForIndices_reject n indices h

theorem spvec_from_entries (d : Nat) (es : List (Nat × R)) (h : ∀ p ∈ es, p.2 ≠ 0 → p.1 < d) :
    ∃ v, SpVec.fromEntries d es = ok v ∧ v.dim = d ∧ v.WF ∧ ∀ i, v.entry i = if i < d then sumAt es i else 0 :=
  vfromEntries_ok d es h

theorem spvec_from_entries_rejects (d : Nat) (es : List (Nat × R)) (h : ∃ p ∈ es, p.2 ≠ 0 ∧ ¬ p.1 < d) :
    SpVec.fromEntries d es = panic := by
  unfold SpVec.fromEntries
  rw [fromEntries_panic]
  · rfl
  · intro hs
    obtain ⟨p, hp, hnz, hlt⟩ := h
    exact hlt (hs (p.1, 0, p.2) (List.mem_map.mpr ⟨p, hp, rfl⟩) hnz).1

/-- `SpVec::permute(p)`: `entry (permute p v) (p i) = entry v i` -/
theorem spvec_permute_entries (v : SpVec R) (hv : v.WF) (p : Perm) (hp : p.Valid) (hd : p.dim = v.dim) :
    ∃ w, v.permute p = ok w ∧ w.dim = v.dim ∧ w.WF ∧ ∀ i, i < v.dim → w.entry (p.fn i) = v.entry i := by
  unfold SpVec.permute
  obtain ⟨w, h1, h2, h3, h4⟩ := vextract_spec v v.dim (fun i => do let i' ← p.at i; ok (some i'))
    (fun i => some (p.fn i))
    (by intro q hq; simp [p.at_ok hp q.1 (by rw [hd]; exact hv.bound q hq)])
    (by intro q hq x hx
        simp only [Option.some.injEq] at hx; subst hx
        rw [← hd]; exact p.fn_lt hp _ (by rw [hd]; exact hv.bound q hq))
  refine ⟨w, h1, h2, h3, ?_⟩
  intro i hi
  rw [h4 _ (by rw [← hd]; exact p.fn_lt hp _ (hd ▸ hi))]
  apply filter_sum_eq_sumAt
  intro q hq
  have hb := hv.bound q hq
  rw [Option.some.injEq]
  exact ⟨fun e => p.fn_inj hp _ _ (hd ▸ hb) (hd ▸ hi) e, fun e => by rw [e]⟩

set_option linter.unusedVariables false in
/-- `SpVec::subvec(a..b)` -/
theorem spvec_subvec_entries (v : SpVec R) (hv : v.WF) (a b : Nat) (hab : a ≤ b) :
    ∃ w, v.subvec a b = ok w ∧ w.dim = b - a ∧ w.WF ∧ ∀ i, i < b - a → w.entry i = v.entry (a + i) := by
  unfold SpVec.subvec
  rw [assert_true (by simp [hab])]
  simp only [bind_ok]
  obtain ⟨w, h1, h2, h3, h4⟩ := vextract_spec v (b - a) (fun i => ok (winReloc a b i)) (winReloc a b)
    (fun _ _ => rfl) (fun q _ x hx => winReloc_lt _ _ _ _ hx)
  refine ⟨w, h1, h2, h3, fun i hi => ?_⟩
  rw [h4 i hi]
  exact filter_sum_eq_sumAt _ _ _ (fun q _ => winReloc_iff _ _ _ _ hi)

theorem spvec_subvec_rejects (v : SpVec R) (a b : Nat) (hab : ¬ a ≤ b) : v.subvec a b = panic := by
  unfold SpVec.subvec
  rw [assert_false (by simp [hab])]; rfl

/-- `SpVec::split(k)` -/
theorem spvec_split_entries (v : SpVec R) (hv : v.WF) (k : Nat) (hk : k ≤ v.dim) :
    ∃ x y, v.split k = ok (x, y) ∧ x.dim = k ∧ y.dim = v.dim - k ∧ x.WF ∧ y.WF ∧
      (∀ i, i < k → x.entry i = v.entry i) ∧ (∀ i, i < v.dim - k → y.entry i = v.entry (k + i)) := by
  unfold SpVec.split
  rw [assert_true (by simp [hk])]
  simp only [bind_ok]
  obtain ⟨x, x1, x2, x3, x4⟩ := vfromEntries_ok k (v.ents.filter (fun p => p.1 < k)) (by
    intro p hp _
    simpa using (List.mem_filter.mp hp).2)
  obtain ⟨y, y1, y2, y3, y4⟩ := vfromEntries_ok (v.dim - k)
    ((v.ents.filter (fun p => !(decide (p.1 < k)))).map (fun p => (p.1 - k, p.2))) (by
    intro q hq _
    simp only [List.mem_map, List.mem_filter] at hq
    obtain ⟨p, ⟨hp, hlt⟩, rfl⟩ := hq
    have := hv.bound p hp
    simp only [Bool.not_eq_true', decide_eq_false_iff_not] at hlt
    simp only; omega)
  rw [x1, y1]
  refine ⟨x, y, rfl, x2, y2, x3, y3, ?_, ?_⟩
  · intro i hi
    rw [x4, if_pos hi, sumAt_filter_lt _ _ _ hi]; rfl
  · intro i hi
    rw [y4, if_pos hi, sumAt_filter_ge_shift]; rfl

theorem spvec_split_rejects (v : SpVec R) (k : Nat) (hk : ¬ k ≤ v.dim) : v.split k = panic := by
  unfold SpVec.split
  rw [assert_false (by simp [hk])]; rfl

/-- `SpVec::stack` -/
theorem spvec_stack_entries (v w : SpVec R) (hv : v.WF) (hw : w.WF) :
    ∃ u, v.stack w = ok u ∧ u.dim = v.dim + w.dim ∧ u.WF ∧
      ∀ i, i < v.dim + w.dim → u.entry i = if i < v.dim then v.entry i else w.entry (i - v.dim) := by
  unfold SpVec.stack
  obtain ⟨u, h1, h2, h3, h4⟩ := vfromEntries_ok (v.dim + w.dim)
    (v.ents.filter (fun p => p.2 ≠ 0) ++ (w.ents.filter (fun p => p.2 ≠ 0)).map (fun p => (v.dim + p.1, p.2))) (by
    intro q hq _
    rcases List.mem_append.mp hq with hq | hq
    · exact Nat.lt_add_right _ (hv.bound q (List.mem_of_mem_filter hq))
    · obtain ⟨p, hp, rfl⟩ := List.mem_map.mp hq
      exact Nat.add_lt_add_left (hw.bound p (List.mem_of_mem_filter hp)) _)
  refine ⟨u, h1, h2, h3, ?_⟩
  intro i hi
  rw [h4, if_pos hi, sumAt_append, sumAt_filter_ne_zero, sumAt_map_shift, sumAt_filter_ne_zero]
  by_cases h : i < v.dim
  · rw [if_pos h, if_neg (Nat.not_le.mpr h), add_zero]; rfl
  · rw [if_neg h, if_pos (Nat.le_of_not_lt h), show sumAt v.ents i = 0 from hv.entry_oob i h, zero_add]; rfl

/-- `SpVec::from(Vec<R>)`: the entries are the given values -/
theorem spvec_from_dense (l : List R) :
    ∃ v, SpVec.ofDense l = ok v ∧ v.dim = l.length ∧ v.WF ∧ ∀ i, v.entry i = l.getD i 0 := by
  unfold SpVec.ofDense
  obtain ⟨v, h1, h2, h3, h4⟩ := vfromEntries_ok l.length (l.zipIdx.map (fun x => match x with | (a, i) => (i, a))) (by
    intro q hq _
    simp only [List.mem_map] at hq
    obtain ⟨x, hx, rfl⟩ := hq
    obtain ⟨a, j⟩ := x
    have := List.mem_zipIdx hx
    simp only; omega)
  refine ⟨v, h1, h2, h3, ?_⟩
  intro i
  rw [h4, sumAt_zipIdx]
  by_cases hi : i < l.length
  · simp [hi]
  · simp [hi]

/-- `to_dense` / `into_vec` -/
theorem spvec_to_dense (v : SpVec R) (hv : v.WF) :
    ∃ l, v.toDense = ok l ∧ l.length = v.dim ∧ ∀ i, i < v.dim → l.getD i 0 = v.entry i := by
  have hs := hv.sorted
  obtain ⟨l, h1, h2, h3⟩ := toDense_fold v.ents (List.replicate v.dim 0)
    (by intro p hp; rw [List.length_replicate]; exact hv.bound p hp)
    (hs.imp (fun h => Nat.ne_of_lt h))
  rw [List.length_replicate] at h2
  refine ⟨l, h1, h2, ?_⟩
  intro i hi
  rw [List.getD_eq_getElem?_getD, h3 i]
  unfold SpVec.entry
  by_cases hz : sumAt v.ents i = 0
  · rw [if_pos hz, hz]; simp [hi]
  · rw [if_neg hz]; rfl

/-- `stack_vecs`: the raw data stays valid after shifting the row indices by the running dimension -/
theorem spvec_stack_vecs (vs : List (SpVec R)) (hv : ∀ v ∈ vs, v.WF) :
    SpVec.stackVecs vs = ok ⟨totalDim vs, shiftedEnts 0 vs⟩ ∧ (⟨totalDim vs, shiftedEnts 0 vs⟩ : SpVec R).WF := by
  obtain ⟨hb, hs⟩ := shiftedEnts_wf vs 0 hv
  have hb' : ∀ p ∈ shiftedEnts 0 vs, p.1 < totalDim vs := fun p hp => Nat.zero_add (totalDim vs) ▸ (hb p hp).2
  obtain ⟨h1, h2⟩ := fromSortedEntries_spec (totalDim vs) (shiftedEnts 0 vs) hb' hs
  refine ⟨?_, h2⟩
  unfold SpVec.stackVecs
  rw [stackVecs_fold]
  simp only [Nat.zero_add, List.nil_append]
  unfold SpVec.fromSortedEntries at h1
  rw [assert_true (by rw [List.all_eq_true]; intro p hp; simpa using hb' p hp)] at h1
  exact h1

/-- entries of the stacked vector, vector by vector -/
theorem spvec_stack_vecs_entries (v : SpVec R) (vs : List (SpVec R)) (hv : v.WF) (hvs : ∀ w ∈ vs, w.WF) (n0 i : Nat) :
    sumAt (shiftedEnts n0 (v :: vs)) i
      = if i < n0 + v.dim then (if n0 ≤ i then v.entry (i - n0) else 0) else sumAt (shiftedEnts (n0 + v.dim) vs) i := by
  have h1 : sumAt (v.ents.map (fun p => (p.1 + n0, p.2))) i = if n0 ≤ i then v.entry (i - n0) else 0 := by
    have := sumAt_map_shift v.ents n0 i
    simp only [Nat.add_comm n0] at this
    exact this
  rw [shiftedEnts, sumAt_append, h1]
  by_cases hi : i < n0 + v.dim
  · rw [if_pos hi]
    have : sumAt (shiftedEnts (n0 + v.dim) vs) i = 0 := by
      apply sumAt_eq_zero
      intro p hp e
      exact Nat.not_lt.mpr ((shiftedEnts_wf vs (n0 + v.dim) hvs).1 p hp).1 (e ▸ hi)
    rw [this]; simp
  · rw [if_neg hi, if_pos (by omega), hv.entry_oob (i - n0) (by omega)]; simp

/-- `from_dense_data` (row-major) -/
theorem from_dense_data_entries (m n : Nat) (data : List R) (hl : data.length = m * n) :
    ∃ A, fromDenseData m n data = ok A ∧ A.nrows = m ∧ A.ncols = n ∧ A.WF ∧
      ∀ i j, i < m → j < n → A.entry i j = data.getD (i * n + j) 0 := by
  unfold fromDenseData
  have hs : InShape m n (data.zipIdx.map (fun x => match x with | (a, k) => (k / n, k % n, a))) := by
    intro t ht _
    simp only [List.mem_map] at ht
    obtain ⟨x, hx, rfl⟩ := ht
    obtain ⟨a, q⟩ := x
    have hq := List.mem_zipIdx hx
    simp only [Nat.zero_add] at hq
    have hq' : q < m * n := by omega
    have hn : 0 < n := by
      rcases Nat.eq_zero_or_pos n with h | h
      · subst h; simp at hq'
      · exact h
    simp only
    exact ⟨by rw [Nat.div_lt_iff_lt_mul hn]; exact hq', Nat.mod_lt _ hn⟩
  obtain ⟨h1, h2, h3, h4⟩ := fromEntries_spec _ _ _ _ (fromEntries_ok _ _ _ hs)
  refine ⟨_, fromEntries_ok _ _ _ hs, h1, h2, h3, ?_⟩
  intro i j hi hj
  rw [h4, if_pos ⟨hi, hj⟩, entryT_zipIdx _ _ _ _ _ hj]
  simp

/-- `col_vec(j)` -/
theorem col_vec_entries (A : SpMat R) (hA : A.WF) (j : Nat) (hj : j < A.ncols) :
    ∃ v, A.colVec j = ok v ∧ v.dim = A.nrows ∧ v.WF ∧ ∀ i, v.entry i = A.entry i j := by
  unfold SpMat.colVec
  rw [if_pos hj]
  have hmem : A.cols.getD j [] ∈ A.cols := by
    rw [List.getD_eq_getElem?_getD, List.getElem?_eq_getElem (by rw [hA.len]; exact hj)]
    exact List.getElem_mem _
  obtain ⟨v, h1, h2, h3, h4⟩ := vfromEntries_ok A.nrows (A.cols.getD j []) (fun p hp _ => hA.bound _ hmem p hp)
  refine ⟨v, h1, h2, h3, ?_⟩
  intro i
  rw [h4]
  by_cases hi : i < A.nrows
  · rw [if_pos hi]; rfl
  · rw [if_neg hi, hA.entry_oob i j (fun e => hi e.1)]

theorem col_vec_rejects (A : SpMat R) (j : Nat) (hj : ¬ j < A.ncols) : A.colVec j = panic := by
  unfold SpMat.colVec; rw [if_neg hj]

/-! ### the hypotheses are satisfiable: a matrix with a stored zero, permutations, a history with `reduce` -/

/-- `[[1, 0*, 0], [0, 0, -1]]` with an explicitly stored zero at `(0, 1)` -/
def exA : SpMat Int := ⟨2, 3, [[(0, 1)], [(0, 0)], [(1, -1)]]⟩
def exP : Perm := ⟨2, some [1, 0]⟩
def exQ : Perm := ⟨3, some [2, 0, 1]⟩

example : exA.WF := ⟨rfl, by decide, by decide⟩
example : exP.Valid ∧ exQ.Valid ∧ exP.dim = exA.nrows ∧ exQ.dim = exA.ncols := by
  refine ⟨?_, ?_, rfl, rfl⟩ <;> (intro l h; cases h; decide)

example : fromEntries 2 3 [(0, 0, (1 : Int)), (0, 1, 2), (0, 1, -2), (1, 2, -1), (1, 1, 0)] = ok exA := by rfl
example : ∃ B, exA.permute exP exQ = ok B ∧ B.entry 1 2 = 1 ∧ B.entry 0 1 = -1 := ⟨_, rfl, by decide, by decide⟩
example : (0 ≤ 1 ∧ 1 ≤ exA.nrows) ∧ (1 ≤ 3 ∧ 3 ≤ exA.ncols) := by decide
example : [2, 0].Nodup ∧ ∀ i ∈ [2, 0], i < 4 := by decide
example : permForIndices 4 [2, 0] = ok ⟨4, some [1, 2, 0, 3]⟩ := by decide

/-- `sub [2,0]` after a reduced two-factor transform, merged with a permutation -/
def exH : Hist Int :=
  .merge (.reduce (.sub (.append (.id 3) (SpMat.id 3) (SpMat.id 3)) [2, 0])) (.appendPerm (.id 2) exP)

example : exH.Good := ⟨⟨trivial, id_wf 3, id_wf 3⟩, trivial⟩
example : ∃ t, exH.run = ok t ∧ t.srcDim = 3 ∧ t.tgtDim = 2 ∧ t.fMats.length = 2 := ⟨_, rfl, rfl, rfl, rfl⟩

end Yuiv.C13
