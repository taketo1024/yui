import Yuiv.Gen.Dispatch
/-
C20: the dispatch tables of the CLI model (`C20.eucPolyTable`, `C20.nonEucPolyTable`, the direct arms of `tryStd`)
are THE tables of `bin-ykh/src/app/utils/dispatch.rs` as they stand in /repo now (`Yuiv.Gen20.*` is regenerated from the
Rust source by tools/rs2lean.py on every run).
-/
namespace Yuiv.C20

theorem gen_eucPolyTable_eq (ct : CType) (v : PolyVars) : Yuiv.Gen20.eucPolyTable ct v = eucPolyTable ct v := by
  cases ct <;> cases v <;> rfl

theorem gen_nonEucPolyTable_eq (ct : CType) (v : PolyVars) : Yuiv.Gen20.nonEucPolyTable ct v = nonEucPolyTable ct v := by
  cases ct <;> cases v <;> rfl

/-- the base types that `try_std!` runs directly are exactly those the model runs over themselves -/
theorem gen_stdDirect_eq (f : Feat) (ct : CType) :
    (ct ∈ Yuiv.Gen20.stdDirect ↔ tryStd f ct = some (.run (.std ct)) ∧ ct ≠ .Gauss ∧ ct ≠ .Eisen) := by
  cases ct <;> simp [Yuiv.Gen20.stdDirect, tryStd, tryQint] <;> (cases f; simp)

end Yuiv.C20
