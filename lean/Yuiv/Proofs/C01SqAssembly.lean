import Yuiv.Proofs.C01SqDefs
import Yuiv.Proofs.C06CycleHash
import Yuiv.Props.C01
import Mathlib.Tactic.Ring
/-
ASSEMBLY of `d ∘ d = 0` of the reference cube (unreduced theory) from the commutation of its faces: the
coefficient of `y` in `d (d g)` is the double sum over `k1, k2 < n` of the path contributions `sqTerm` (sign · sign ·
`pathSum`, `chainSum_d_d`); the sign rule `edgeSign_anticomm` and `FaceComm` make the summand antisymmetric
(`sqTerm_antisymm`), and an antisymmetric double sum vanishes.
-/
namespace Yuiv.C01Sq
open Yuiv Yuiv.KhRef
open Yuiv.C02Mirror (edgeTerms coefT dCoef kTerm cubeOK)
open Yuiv.C06Cycle (termSum chainSum)
open Yuiv.C06Cycle.HModel (dList)

theorem sum_map_neg {α : Type} (l : List α) (f : α → Int) :
    (l.map (fun a => - f a)).sum = - (l.map f).sum := by
  rw [List.sum_neg, List.map_map]
  rfl

theorem sum_map_swap {α β : Type} (l1 : List α) (l2 : List β) (f : α → β → Int) :
    (l1.map (fun a => (l2.map (fun b => f a b)).sum)).sum = (l2.map (fun b => (l1.map (fun a => f a b)).sum)).sum := by
  induction l1 with
  | nil => simp only [List.map_nil, List.sum_nil]; exact List.sum_map_zero.symm
  | cons a l1 ih => simp only [List.map_cons, List.sum_cons, ih, List.sum_map_add]

theorem sum_antisymm {α : Type} (l : List α) (f : α → α → Int) (h : ∀ a ∈ l, ∀ b ∈ l, f a b = - f b a) :
    (l.map (fun a => (l.map (fun b => f a b)).sum)).sum = 0 := by
  have h1 : (l.map (fun a => (l.map (fun b => f a b)).sum)).sum
      = (l.map (fun a => - (l.map (fun b => f b a)).sum)).sum := by
    refine congrArg List.sum (List.map_congr_left fun a ha => ?_)
    rw [← sum_map_neg]
    refine congrArg List.sum (List.map_congr_left fun b hb => ?_)
    exact h a ha b hb
  rw [sum_map_neg, ← sum_map_swap l l f] at h1
  omega

/-- the terms contributed to `d g` by the cube edge that flips bit `k` -/
def edgeList (c : Cube) (p : Params) (g : Gen) (k : Nat) : List Term :=
  if g.s.testBit k = false then
    ((edgeTerms p.h p.t c.circ[g.s]! c.circ[g.s ||| 1 <<< k]! g.mask).getD []).map
      (fun mt => ((⟨g.s ||| 1 <<< k, mt.1⟩ : Gen), edgeSign g.s k * mt.2))
  else []

theorem edgeList_eq (c : Cube) (p : Params) (g : Gen) (k : Nat) :
    edgeList c p g k = if g.s.testBit k then [] else (C06Cycle.edgeTerms c p g k).getD [] := by
  unfold edgeList
  rw [C02Mirror.edgeTerms_bridge]
  cases g.s.testBit k
  · cases edgeTerms p.h p.t c.circ[g.s]! c.circ[g.s ||| 1 <<< k]! g.mask <;> rfl
  · rfl

theorem d_toList (c : Cube) (p : Params) (hb : c.base = none) (hok : cubeOK c) (g : Gen) (hs : g.s < 2 ^ c.n) :
    ∃ ts, c.d p g = some ts ∧ ts.toList = (List.range' 0 c.n).flatMap (edgeList c p g) := by
  refine ⟨_, by rw [C06Cycle.cube_d_spec, if_pos (C02Mirror.allEdges_of_cubeOK c hok p g hs)], ?_⟩
  show (C06Cycle.rawTerms c p g).filter _ = _
  rw [List.filter_eq_self.2 fun t _ => C06Cycle.baseKeep_of_unreduced c hb t.1, C06Cycle.rawTerms,
    List.range_eq_range']
  exact congrArg (fun f => List.flatMap f _) (funext fun k => (edgeList_eq c p g k).symm)

theorem mem_edgeList_s (c : Cube) (p : Params) (g : Gen) (k : Nat) (ga : Term) (h : ga ∈ edgeList c p g k) :
    ga.1.s = g.s ||| 1 <<< k := by
  unfold edgeList at h
  split at h
  · obtain ⟨mt, _, rfl⟩ := List.mem_map.1 h
    rfl
  · cases h

theorem termSum_toList (ts : Array Term) (y : Gen) : termSum y ts.toList = coefT ts y := by
  unfold termSum coefT
  have e : (fun t : Term => t.1 == y) = (fun x : Term => x.1.s == y.s && x.1.mask == y.mask) := by
    funext x
    obtain ⟨⟨s1, m1⟩, a⟩ := x
    obtain ⟨s2, m2⟩ := y
    rfl
  rw [e]

theorem termSum_dList (c : Cube) (p : Params) (g' y : Gen) : termSum y (dList c p g') = dCoef c p g' y := by
  unfold dList dCoef
  cases c.d p g' with
  | none => rfl
  | some ts => exact termSum_toList ts y

theorem chainSum_nil (D : Gen → List Term) (y : Gen) : chainSum D [] y = 0 := rfl

theorem chainSum_append (D : Gen → List Term) (z1 z2 : List (Gen × Int)) (y : Gen) :
    chainSum D (z1 ++ z2) y = chainSum D z1 y + chainSum D z2 y := by
  unfold chainSum
  rw [List.map_append, List.sum_append]

theorem chainSum_flatMap {α : Type} (D : Gen → List Term) (is : List α) (F : α → List (Gen × Int)) (y : Gen) :
    chainSum D (is.flatMap F) y = (is.map (fun k => chainSum D (F k) y)).sum := by
  induction is with
  | nil => rfl
  | cons k is ih => rw [List.flatMap_cons, chainSum_append, ih, List.map_cons, List.sum_cons]

/-- contribution of the path "flip bit `k1`, then flip bit `k2`" to the coefficient of `y` in `d (d g)` -/
def sqTerm (c : Cube) (p : Params) (g y : Gen) (k1 k2 : Nat) : Int :=
  if g.s.testBit k1 = false ∧ (g.s ||| 1 <<< k1).testBit k2 = false ∧ (g.s ||| 1 <<< k1) ||| 1 <<< k2 = y.s then
    edgeSign g.s k1 * edgeSign (g.s ||| 1 <<< k1) k2 *
      pathSum p.h p.t c.circ[g.s]! c.circ[g.s ||| 1 <<< k1]! c.circ[(g.s ||| 1 <<< k1) ||| 1 <<< k2]! g.mask y.mask
  else 0

theorem chainSum_edgeList (c : Cube) (p : Params) (hb : c.base = none) (hok : cubeOK c) (g y : Gen)
    (hs : g.s < 2 ^ c.n) (k1 : Nat) (h1 : k1 < c.n) :
    chainSum (dList c p) (edgeList c p g k1) y = ((List.range' 0 c.n).map (fun k2 => sqTerm c p g y k1 k2)).sum := by
  obtain ⟨ys, ym⟩ := y
  unfold edgeList
  by_cases hbit : g.s.testBit k1 = false
  · rw [if_pos hbit]
    obtain ⟨tl, htl⟩ : ∃ tl, (edgeTerms p.h p.t c.circ[g.s]! c.circ[g.s ||| 1 <<< k1]! g.mask).getD [] = tl := ⟨_, rfl⟩
    rw [htl]
    have hs1 : g.s ||| 1 <<< k1 < 2 ^ c.n := KhRef.or_bit_lt hs h1
    have hterm : ∀ m', termSum ⟨ys, ym⟩ (dList c p ⟨g.s ||| 1 <<< k1, m'⟩)
        = ((List.range' 0 c.n).map (kTerm c p ⟨g.s ||| 1 <<< k1, m'⟩ ⟨ys, ym⟩)).sum := by
      intro m'
      rw [termSum_dList]
      exact (C02Mirror.d_coef c p ⟨_, m'⟩ hb hs1 hok).2 _
    unfold chainSum
    rw [List.map_map]
    have e : (tl.map ((fun ga : Gen × Int => ga.2 * termSum ⟨ys, ym⟩ (dList c p ga.1)) ∘
          (fun mt : Nat × Int => ((⟨g.s ||| 1 <<< k1, mt.1⟩ : Gen), edgeSign g.s k1 * mt.2)))).sum
        = (tl.map (fun mt => ((List.range' 0 c.n).map (fun k2 =>
            edgeSign g.s k1 * mt.2 * kTerm c p ⟨g.s ||| 1 <<< k1, mt.1⟩ ⟨ys, ym⟩ k2)).sum)).sum := by
      refine congrArg List.sum (List.map_congr_left fun mt _ => ?_)
      simp only [Function.comp]
      rw [hterm, ← List.sum_map_mul_left]
    rw [e, sum_map_swap]
    refine congrArg List.sum (List.map_congr_left fun k2 _ => ?_)
    unfold sqTerm pathSum
    rw [htl]
    by_cases hc : (g.s ||| 1 <<< k1).testBit k2 = false ∧ (g.s ||| 1 <<< k1) ||| 1 <<< k2 = ys
    · rw [if_pos ⟨hbit, hc.1, hc.2⟩, ← List.sum_map_mul_left]
      refine congrArg List.sum (List.map_congr_left fun mt _ => ?_)
      rw [C02Mirror.kTerm_pos _ _ _ _ _ _ _ hc]
      ring
    · rw [if_neg (fun h => hc ⟨h.2.1, h.2.2⟩)]
      rw [← List.sum_map_zero (l := tl)]
      refine congrArg List.sum (List.map_congr_left fun mt _ => ?_)
      rw [C02Mirror.kTerm_neg _ _ _ _ _ _ _ hc, Int.mul_zero]
  · rw [if_neg hbit, chainSum_nil, ← List.sum_map_zero (l := List.range' 0 c.n)]
    refine congrArg List.sum (List.map_congr_left fun k2 _ => ?_)
    unfold sqTerm
    rw [if_neg (fun h => hbit h.1)]

theorem chainSum_d_d (c : Cube) (p : Params) (hb : c.base = none) (hok : cubeOK c) (g : Gen) (hs : g.s < 2 ^ c.n)
    (ts : Array Term) (hd : c.d p g = some ts) (y : Gen) :
    chainSum (dList c p) ts.toList y
      = ((List.range' 0 c.n).map (fun k1 => ((List.range' 0 c.n).map (fun k2 => sqTerm c p g y k1 k2)).sum)).sum := by
  obtain ⟨ts', hd', hl⟩ := d_toList c p hb hok g hs
  rw [hd] at hd'
  cases hd'
  rw [hl, chainSum_flatMap]
  refine congrArg List.sum (List.map_congr_left fun k1 hk1 => ?_)
  have h1 : k1 < c.n := by
    simp only [List.mem_range'] at hk1
    omega
  exact chainSum_edgeList c p hb hok g y hs k1 h1

theorem sqTerm_antisymm (c : Cube) (p : Params) (hF : FaceComm c p) (g y : Gen) (hs : g.s < 2 ^ c.n) (k1 k2 : Nat)
    (h1 : k1 < c.n) (h2 : k2 < c.n) : sqTerm c p g y k1 k2 = - sqTerm c p g y k2 k1 := by
  unfold sqTerm
  by_cases hk : k1 = k2
  · subst hk
    have hn : ¬ (g.s.testBit k1 = false ∧ (g.s ||| 1 <<< k1).testBit k1 = false ∧
        (g.s ||| 1 <<< k1) ||| 1 <<< k1 = y.s) := by
      rintro ⟨_, h, _⟩
      rw [testBit_or_bit] at h
      simp at h
    rw [if_neg hn]
    rfl
  · rw [testBit_or_bit_ne g.s k1 k2 hk, testBit_or_bit_ne g.s k2 k1 (Ne.symm hk), or_or_comm g.s k1 k2]
    by_cases hc : g.s.testBit k1 = false ∧ g.s.testBit k2 = false ∧ (g.s ||| 1 <<< k1) ||| 1 <<< k2 = y.s
    · rw [if_pos hc, if_pos ⟨hc.2.1, hc.1, hc.2.2⟩, edgeSign_anticomm g.s k1 k2 hk hc.1 hc.2.1,
        hF g.s k1 k2 hs h1 h2 hk hc.1 hc.2.1]
      ring
    · rw [if_neg hc, if_neg (fun h => hc ⟨h.2.1, h.1, h.2.2⟩)]
      rfl

theorem d_squared_zero_of_faces (c : Cube) (p : Params) (hb : c.base = none) (hok : C02Mirror.cubeOK c)
    (hF : FaceComm c p) (g : Gen) (hs : g.s < 2 ^ c.n) :
    ∃ ts, c.d p g = some ts ∧ Yuiv.Drv.C06.dOfChain c p ts.toList = some [] := by
  obtain ⟨ts, hd, hl⟩ := d_toList c p hb hok g hs
  refine ⟨ts, hd, (C06Cycle.dOfChain_nil_iff c p ts.toList).2 ⟨?_, fun y => ?_⟩⟩
  · intro ga hm
    rw [hl] at hm
    obtain ⟨k, hk, hmk⟩ := List.mem_flatMap.1 hm
    have h1 : k < c.n := by
      simp only [List.mem_range'] at hk
      omega
    have hs1 : ga.1.s < 2 ^ c.n := by
      rw [mem_edgeList_s c p g k ga hmk]
      exact KhRef.or_bit_lt hs h1
    exact (C02Mirror.d_coef c p ga.1 hb hs1 hok).1
  · have := chainSum_d_d c p hb hok g hs ts hd y
    refine Eq.trans this ?_
    apply sum_antisymm
    intro k1 hk1 k2 hk2
    simp only [List.mem_range'] at hk1 hk2
    exact sqTerm_antisymm c p hF g y hs k1 k2 (by omega) (by omega)

end Yuiv.C01Sq
