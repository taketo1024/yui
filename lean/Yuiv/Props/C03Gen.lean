import Yuiv.Proofs.C03Gen
/-
C03 — the hand-written code model `C03.collect` (`Yuiv/Model/C03.lean`) IS the source text of
`/repo/yui-khovanov/src/misc.rs:collect_gen_info`, the function behind `KhHomology::into_bigraded` and
`KhIHomology::into_bigraded`.

`Yuiv.GenGenInfo.misc.collect_gen_info` (file `Yuiv/Gen/GenInfoFn.lean`) is regenerated from the Rust source by
`tools/rs2lean_fn.py fn:geninfo` on every `./check` run (`HashMap` = the association list of `Yuiv/Model/RustMap.lean`,
`Grid1<Summand<X,R>>` / `Summand` / generators as in `Yuiv/Model/RustGenInfo.lean`).  The theorems state, for EVERY grid of
summands over ℤ: the generated function never panics (the `tors()[k - r]` index and the `usize` subtraction stay in
range, the entry just created is found), its table — projected to (rank, torsion), the third component being the list
of generator indices that `into_bigraded` passes to `Trans::sub` — is exactly the model's table, entry order included,
and its keys are distinct.
-/
namespace Yuiv.GenGI
open Yuiv Res Yuiv.Rust Yuiv.GenGenInfo

/-- `KhChainExt::q_deg` as read by the translator is the model's `qDeg` -/
theorem gen_q_deg_eq (c : GI.Chain) : GI.Chain.q_deg c = C03.qDeg c := rfl

/-- the body of the inner loop, for an index below `rank + tors.len()`, is the pure step `stepP` -/
theorem gen_inner_step_eq (i : Int) (h : GI.Summand Int) (t : GTable) (k : Nat) (hk : k < h.rank + h.tors.length) :
    (let z := GI.Summand.gen h k
     let q := GI.Chain.q_deg z
     let k2_ := (i, q)
     let table := AMap.or_insert t k2_ ((0, [], []) : Val)
     Res.bind (Opt.unwrap (AMap.get table k2_)) (fun e =>
      if decide (k < GI.Summand.rank h) then
        let e := (e.1 + 1, e.2.1, e.2.2)
        let table := AMap.set table k2_ e
        let e := (e.1, e.2.1, e.2.2 ++ [k])
        let table := AMap.set table k2_ e
        Res.ok table
      else
        Res.bind (Poly.usub k (GI.Summand.rank h)) (fun r3_ =>
        Res.bind (Poly.index (GI.Summand.tors h) r3_) (fun r4_ =>
        let e := (e.1, e.2.1 ++ [r4_], e.2.2)
        let table := AMap.set table k2_ e
        let e := (e.1, e.2.1, e.2.2 ++ [k])
        let table := AMap.set table k2_ e
        Res.ok table)))) = .ok (stepP i h t k) := by
  dsimp only
  unfold stepP valFn
  generalize hq : (i, GI.Chain.q_deg (GI.Summand.gen h k)) = key
  have hq' : (i, GI.Chain.q_deg (h.gens k)) = key := hq
  rw [hq']
  have hex : ∃ v, AMap.get (AMap.or_insert t key ((0, [], []) : Val)) key = some v := by
    by_cases hc : AMap.contains_key t key = true
    · have : AMap.or_insert t key ((0, [], []) : Val) = t := by simp [AMap.or_insert, hc]
      rw [this]
      simp only [AMap.contains_key, Option.isSome_iff_exists] at hc
      exact hc
    · have hc' : AMap.contains_key t key = false := by simpa using hc
      have hk' : key ∉ keys t := fun hm => hc (AMap.contains_key_iff.mpr hm)
      have : AMap.or_insert t key ((0, [], []) : Val) = t ++ [(key, (0, [], []))] := by simp [AMap.or_insert, hc']
      rw [this, AMap.get_append_absent hk']
      exact ⟨_, rfl⟩
  obtain ⟨v, hv⟩ := hex
  simp only [hv, Opt.unwrap, Res.bind, Option.getD_some]
  by_cases hr : k < h.rank
  · simp only [hr, decide_true, if_true, AMap.set_set]
  · have hle : h.rank ≤ k := Nat.le_of_not_lt hr
    have hlt : k - h.rank < h.tors.length := by omega
    simp only [hr, decide_false, Bool.false_eq_true, if_false, Poly.usub, hle, if_true,
      Poly.index, List.getElem?_eq_getElem hlt, Opt.unwrap, AMap.set_set, List.getD_eq_getElem?_getD,
      Option.getD_some]

/-- MAIN: `collect_gen_info` never panics and returns the model's table -/
theorem gen_collect_gen_info_eq (grid : List (Int × GI.Summand Int)) :
    mapR toTable (misc.collect_gen_info grid) = .ok (C03.collect (toModel grid)) ∧
    mapR (fun t => decide (keys t).Nodup) (misc.collect_gen_info grid) = .ok true := by
  unfold misc.collect_gen_info
  dsimp only
  -- the inner loop of one summand
  have inner : ∀ (ih : Int × GI.Summand Int) (t : GTable),
      Poly.forM (Poly.range 0 (GI.Summand.rank ih.2 + List.length (GI.Summand.tors ih.2))) t (fun table k =>
        Res.bind (Opt.unwrap (AMap.get (AMap.or_insert table (ih.1, GI.Chain.q_deg (GI.Summand.gen ih.2 k)) ((0, [], []) : Val))
            (ih.1, GI.Chain.q_deg (GI.Summand.gen ih.2 k)))) (fun e =>
          if decide (k < GI.Summand.rank ih.2) then
            Res.ok (AMap.set (AMap.set (AMap.or_insert table (ih.1, GI.Chain.q_deg (GI.Summand.gen ih.2 k)) ((0, [], []) : Val))
              (ih.1, GI.Chain.q_deg (GI.Summand.gen ih.2 k)) (e.1 + 1, e.2.1, e.2.2))
              (ih.1, GI.Chain.q_deg (GI.Summand.gen ih.2 k)) (e.1 + 1, e.2.1, e.2.2 ++ [k]))
          else
            Res.bind (Poly.usub k (GI.Summand.rank ih.2)) (fun r3_ =>
            Res.bind (Poly.index (GI.Summand.tors ih.2) r3_) (fun r4_ =>
            Res.ok (AMap.set (AMap.set (AMap.or_insert table (ih.1, GI.Chain.q_deg (GI.Summand.gen ih.2 k)) ((0, [], []) : Val))
              (ih.1, GI.Chain.q_deg (GI.Summand.gen ih.2 k)) (e.1, e.2.1 ++ [r4_], e.2.2))
              (ih.1, GI.Chain.q_deg (GI.Summand.gen ih.2 k)) (e.1, e.2.1 ++ [r4_], e.2.2 ++ [k]))))))
      = .ok ((List.range' 0 (ih.2.rank + ih.2.tors.length)).foldl (stepP ih.1 ih.2) t) := by
    intro ih t
    have hr : Poly.range 0 (GI.Summand.rank ih.2 + List.length (GI.Summand.tors ih.2))
        = List.range' 0 (ih.2.rank + ih.2.tors.length) := by simp [Poly.range]
    rw [hr]
    apply Poly.forM_ok
    intro k hk s
    have hk' : k < ih.2.rank + ih.2.tors.length := by
      have := List.mem_range'.mp hk
      obtain ⟨j, hj, rfl⟩ := this
      omega
    have := gen_inner_step_eq ih.1 ih.2 s k hk'
    dsimp only at this
    exact this
  rw [Poly.forM_ok (g := fun (t : GTable) (ih : Int × GI.Summand Int) =>
        (List.range' 0 (ih.2.rank + ih.2.tors.length)).foldl (stepP ih.1 ih.2) t) (fun ih _ t => inner ih t)]
  -- the pure folds against the model
  have step : ∀ (i : Int) (h : GI.Summand Int) (t : GTable) (k : Nat), (keys t).Nodup →
      (keys (stepP i h t k)).Nodup ∧
      toTable (stepP i h t k) = (toTable t).bump (i, C03.qDeg (genInfo h k).qs) (cellFn (genInfo h k)) := by
    intro i h t k hn
    exact bump_step t (i, GI.Chain.q_deg (h.gens k)) (valFn h k) (cellFn (genInfo h k)) (cell_valFn h k) hn
  have one : ∀ (ih : Int × GI.Summand Int) (t : GTable), (keys t).Nodup →
      (keys ((List.range' 0 (ih.2.rank + ih.2.tors.length)).foldl (stepP ih.1 ih.2) t)).Nodup ∧
      toTable ((List.range' 0 (ih.2.rank + ih.2.tors.length)).foldl (stepP ih.1 ih.2) t)
        = C03.collectAt ih.1 (gensOf ih.2) (toTable t) := by
    intro ih t hn
    have := foldl_sim (fun t : GTable => (keys t).Nodup) toTable (stepP ih.1 ih.2)
      (fun (tb : C03.Table) k => tb.bump (ih.1, C03.qDeg (genInfo ih.2 k).qs) (cellFn (genInfo ih.2 k)))
      (fun s x hs => step ih.1 ih.2 s x hs) (List.range' 0 (ih.2.rank + ih.2.tors.length)) t hn
    refine ⟨this.1, ?_⟩
    rw [this.2]
    simp only [C03.collectAt, gensOf, List.foldl_map]
    rfl
  have all := foldl_sim (fun t : GTable => (keys t).Nodup) toTable
    (fun (t : GTable) (ih : Int × GI.Summand Int) =>
      (List.range' 0 (ih.2.rank + ih.2.tors.length)).foldl (stepP ih.1 ih.2) t)
    (fun (tb : C03.Table) (ih : Int × GI.Summand Int) => C03.collectAt ih.1 (gensOf ih.2) tb)
    (fun s x hs => one x s hs) grid (AMap.new : GTable) (by simp [keys, AMap.new])
  refine ⟨?_, ?_⟩
  · simp only [mapR, all.2, C03.collect, toModel, List.foldl_map]
    rfl
  · simp only [mapR, all.1, decide_true]

/-- corollary: no panic, for every grid -/
theorem gen_collect_gen_info_no_panic (grid : List (Int × GI.Summand Int)) :
    ∃ t, misc.collect_gen_info grid = .ok t ∧ toTable t = C03.collect (toModel grid) ∧ (keys t).Nodup := by
  have h := gen_collect_gen_info_eq grid
  cases hc : misc.collect_gen_info grid with
  | ok t =>
    rw [hc] at h
    simp only [mapR, Res.ok.injEq, decide_eq_true_eq] at h
    exact ⟨t, rfl, h.1, h.2⟩
  | panic => rw [hc] at h; simp [mapR] at h
  | err => rw [hc] at h; simp [mapR] at h

/-! non-vacuity: the F5 shape (one free generator, two torsion generators sharing a cell) -/
example : misc.collect_gen_info [((0 : Int), (⟨1, [2, 3], fun k => if k = 0 then [1, 3] else [3]⟩ : GI.Summand Int))]
    = .ok [((0, 1), (1, [], [0])), ((0, 3), (0, [2, 3], [1, 2]))] := by decide

end Yuiv.GenGI
