import Yuiv.Proofs.C06CycleConn
import Yuiv.Proofs.C06CycleCirc
/-
C06Cycle — a circle is determined, as an array, by the class of its labels (`circle_ext`), so a circle of one state is a
circle of another iff its class is the same set in both (`contains_iff_class`), and `goneOf` lists the circles whose
class changes (`goneOf_eq`; `bornOf cs cs'` is `goneOf cs' cs`).  `merge_shape`: if the arc relation of the neighbouring
state is the relation of `s` with the classes of `a` and `c` merged, the circle lists `cs` (state `s`) and `cs'`
(neighbour) differ by exactly two circles gone (those of `a` and `c`) and one circle born.
-/
namespace Yuiv.C06Cycle
open Yuiv Yuiv.C04Inv

variable {labels : Array Nat} {P P' : List (Nat × Nat)} {cs cs' : Array (Array Nat)}

theorem circle_ext (h : CirclesSpec labels P cs) (h' : CirclesSpec labels P' cs') {i j : Nat}
    (hi : i < cs.size) (hj : j < cs'.size) (hm : ∀ y, y ∈ cs[i]! ↔ y ∈ cs'[j]!) : cs[i]! = cs'[j]! := by
  obtain ⟨x, _, p, hp, _⟩ := h.rep i hi
  obtain ⟨x', _, p', hp', _⟩ := h'.rep j hj
  apply Array.toList_inj.1
  rw [hp, hp']
  apply List.filter_congr
  intro y hy
  have h1 : y ∈ cs[i]! ↔ p y = true := by
    rw [← Array.mem_toList_iff, hp, List.mem_filter]; simp [hy]
  have h2 : y ∈ cs'[j]! ↔ p' y = true := by
    rw [← Array.mem_toList_iff, hp', List.mem_filter]; simp [hy]
  exact Bool.eq_iff_iff.2 ((h1.symm.trans (hm y)).trans h2)

theorem circleIdx_of_mem (h : CirclesSpec labels P cs) {i x : Nat} (hi : i < cs.size) (hx : x ∈ cs[i]!) :
    circleIdx cs x = i := by
  unfold circleIdx
  have hex : ∃ c ∈ cs, c.contains x = true := by
    refine ⟨cs[i]!, ?_, by simpa using hx⟩
    rw [getElem!_pos cs i hi]; exact Array.getElem_mem hi
  cases hf : cs.findIdx? (fun c => c.contains x) with
  | none =>
    rw [Array.findIdx?_eq_none_iff] at hf
    obtain ⟨c, hc, hcx⟩ := hex
    have := hf c hc
    rw [hcx] at this
    cases this
  | some k =>
    rw [Array.findIdx?_eq_some_iff_getElem] at hf
    obtain ⟨hk, hp, _⟩ := hf
    simp only [Option.getD_some]
    have hxk : x ∈ cs[k]! := by
      rw [getElem!_pos cs k hk]; simpa using hp
    exact h.sep k i hk hi x x hxk hx (Conn.refl x)

theorem circleIdx_spec (h : CirclesSpec labels P cs) {e : Nat} (he : e ∈ labels) :
    circleIdx cs e < cs.size ∧ e ∈ cs[circleIdx cs e]! := by
  obtain ⟨i, hi, hx⟩ := h.cover e he
  rw [circleIdx_of_mem h hi hx]
  exact ⟨hi, hx⟩

theorem circleIdx_eq_iff (h : CirclesSpec labels P cs) {e e' : Nat} (he : e ∈ labels) (he' : e' ∈ labels) :
    circleIdx cs e = circleIdx cs e' ↔ Conn P e e' := by
  obtain ⟨h1, h2⟩ := circleIdx_spec h he
  obtain ⟨h1', h2'⟩ := circleIdx_spec h he'
  constructor
  · intro e0
    rw [← e0] at h2'
    exact h.conn_of_mem h1 h2 h2'
  · intro c
    exact (circleIdx_of_mem h h1 (h.mem_of_conn h1 h2 he' c)).symm

theorem range_filter_eq (n : Nat) (q : Nat → Bool) (L : List Nat) (hs : L.Pairwise (· < ·)) (hL : ∀ i ∈ L, i < n)
    (hq : ∀ i, i < n → (q i = true ↔ i ∈ L)) : (Array.range n).filter q = L.toArray := by
  apply Array.toList_inj.1
  rw [Array.toList_filter, Array.toList_range]
  apply List.Perm.eq_of_pairwise (le := (· < ·))
  · intro a b _ _ h1 h2; omega
  · exact List.Pairwise.filter _ List.pairwise_lt_range
  · exact hs
  · rw [List.perm_ext_iff_of_nodup (List.Nodup.filter _ List.nodup_range) (hs.imp Nat.ne_of_lt)]
    intro i
    rw [List.mem_filter, List.mem_range]
    exact ⟨fun ⟨hi, hqi⟩ => (hq i hi).1 hqi, fun hi => ⟨hL i hi, (hq i (hL i hi)).2 hi⟩⟩

/-- a circle of `cs` is a circle of `cs'` as well iff the class of its labels is the same set under both relations -/
theorem contains_iff_class (h : CirclesSpec labels P cs) (h' : CirclesSpec labels P' cs') {i x : Nat}
    (hi : i < cs.size) (hx : x ∈ cs[i]!) :
    cs'.contains cs[i]! = true ↔ ∀ y, y ∈ labels → (Conn P x y ↔ Conn P' x y) := by
  rw [KhRef.contains_iff_idx]
  constructor
  · rintro ⟨j, hj, e⟩ y hy
    have m := h.mem_iff hi hx y
    rw [← e] at hx m
    rw [h'.mem_iff hj hx y] at m
    exact ⟨fun c => (m.2 ⟨hy, c⟩).2, fun c => (m.1 ⟨hy, c⟩).2⟩
  · intro hcl
    obtain ⟨j, hj, hxj⟩ := h'.cover x (h.mem_labels hi hx)
    refine ⟨j, hj, (circle_ext h h' hi hj fun y => ?_).symm⟩
    rw [h.mem_iff hi hx, h'.mem_iff hj hxj]
    exact and_congr_right (hcl y)

/-- the circles that disappear are those whose class changes -/
theorem goneOf_eq (h : CirclesSpec labels P cs) (h' : CirclesSpec labels P' cs') (L : List Nat)
    (hs : L.Pairwise (· < ·)) (hL : ∀ i ∈ L, i < cs.size)
    (hq : ∀ i, i < cs.size → ∀ x, x ∈ cs[i]! → ((∀ y, y ∈ labels → (Conn P x y ↔ Conn P' x y)) ↔ i ∉ L)) :
    goneOf cs cs' = L.toArray := by
  refine range_filter_eq _ _ L hs hL fun i hi => ?_
  obtain ⟨x, hx⟩ := h.nonempty hi
  rw [Bool.not_eq_true', ← Bool.not_eq_true, contains_iff_class h h' hi hx, hq i hi x hx, not_not]

theorem merge_shape (h : CirclesSpec labels P cs) (h' : CirclesSpec labels P' cs') (a c : Nat)
    (ha : a ∈ labels) (hc : c ∈ labels) (hnac : ¬ Conn P a c)
    (hconn : ∀ u v, Conn P' u v ↔ Conn P u v ∨ ((Conn P u a ∨ Conn P u c) ∧ (Conn P v a ∨ Conn P v c))) :
    ∃ i1 i2 j0, i1 < i2 ∧ i2 < cs.size ∧ j0 < cs'.size ∧
      goneOf cs cs' = #[i1, i2] ∧ bornOf cs cs' = #[j0] ∧
      ((circleIdx cs a = i1 ∧ circleIdx cs c = i2) ∨ (circleIdx cs c = i1 ∧ circleIdx cs a = i2)) := by
  obtain ⟨ia, hia, haa⟩ := h.cover a ha
  obtain ⟨ic, hic, hcc⟩ := h.cover c hc
  obtain ⟨j0, hj0, haj⟩ := h'.cover a ha
  have hne : ia ≠ ic := by
    intro e; subst e
    exact hnac (h.conn_of_mem hia haa hcc)
  -- the class of `x` changes iff `x` lies on the circle of `a` or of `c`
  have chg : ∀ x, (∀ y, y ∈ labels → (Conn P x y ↔ Conn P' x y)) ↔ ¬ (Conn P x a ∨ Conn P x c) := by
    intro x
    constructor
    · rintro hcl (hA | hA)
      · exact hnac (hA.symm.trans ((hcl c hc).2 ((hconn x c).2 (Or.inr ⟨Or.inl hA, Or.inr (Conn.refl c)⟩))))
      · exact hnac (((hcl a ha).2 ((hconn x a).2 (Or.inr ⟨Or.inr hA, Or.inl (Conn.refl a)⟩))).symm.trans hA)
    · intro hA y _
      rw [hconn x y]
      exact ⟨Or.inl, fun hh => hh.elim id fun hh => absurd hh.1 hA⟩
  have gone : ∀ i, i < cs.size → ∀ x, x ∈ cs[i]! →
      ((∀ y, y ∈ labels → (Conn P x y ↔ Conn P' x y)) ↔ i ∉ [ia, ic]) := by
    intro i hi x hx
    rw [chg, List.mem_pair]
    refine not_congr ⟨?_, ?_⟩
    · rintro (hA | hA)
      · exact Or.inl (h.sep i ia hi hia x a hx haa hA)
      · exact Or.inr (h.sep i ic hi hic x c hx hcc hA)
    · rintro (rfl | rfl)
      · exact Or.inl (h.conn_of_mem hi hx haa)
      · exact Or.inr (h.conn_of_mem hi hx hcc)
  have born : ∀ j, j < cs'.size → ∀ x, x ∈ cs'[j]! →
      ((∀ y, y ∈ labels → (Conn P' x y ↔ Conn P x y)) ↔ j ∉ [j0]) := by
    intro j hj x hx
    rw [forall₂_congr fun y _ => Iff.comm, chg, List.mem_singleton]
    refine not_congr ⟨fun hA => ?_, ?_⟩
    · exact h'.sep j j0 hj hj0 x a hx haj ((hconn x a).2 (Or.inr ⟨hA, Or.inl (Conn.refl a)⟩))
    · rintro rfl
      rcases (hconn x a).1 (h'.conn_of_mem hj hx haj) with hA | ⟨hA, _⟩
      · exact Or.inl hA
      · exact hA
  have eia := circleIdx_of_mem h hia haa
  have eic := circleIdx_of_mem h hic hcc
  have born' : bornOf cs cs' = #[j0] :=
    goneOf_eq h' h [j0] (List.pairwise_singleton _ _) (fun j hj => List.mem_singleton.1 hj ▸ hj0) born
  rcases Nat.lt_or_gt_of_ne hne with hlt | hlt
  · exact ⟨ia, ic, j0, hlt, hic, hj0, goneOf_eq h h' [ia, ic] (List.pairwise_pair.2 hlt) (forall_mem_pair hia hic) gone,
      born', Or.inl ⟨eia, eic⟩⟩
  · refine ⟨ic, ia, j0, hlt, hia, hj0, goneOf_eq h h' [ic, ia] (List.pairwise_pair.2 hlt) (forall_mem_pair hic hia) ?_,
      born', Or.inr ⟨eic, eia⟩⟩
    intro i hi x hx
    rw [gone i hi x hx, List.mem_pair, List.mem_pair, Or.comm]

end Yuiv.C06Cycle
