import Yuiv.Proofs.KhiSpecLoops
import Yuiv.Proofs.KhiSpecDefs
import Yuiv.Proofs.C19ConeEx
import Mathlib.Data.ZMod.Basic
import Mathlib.Algebra.BigOperators.Group.Finset.Basic
/-
KhiSpec — from the model's arrays and hash maps to the list-level cone differential `C19Comm.dI`: the differential table
returns `Cube.d` on the enumerated generators, `dIA` is `dI`, and the meaning of `khiGensOk`.
-/
namespace Yuiv.KhiSpec
open Yuiv.KhRef Yuiv.C19 Yuiv.C06Cycle Yuiv.C19Inv Yuiv.C19Comm

theorem dmapOf_get (c : Cube) (p : Params) (kgens : Array (Array Gen)) (g : Gen) (hg : ∃ gs ∈ kgens, g ∈ gs) :
    ((dmapOf c p kgens).get? g).getD #[] = (c.d p g).getD #[] := by
  unfold dmapOf
  rw [KhRefLoops.fold2_insert_get? (fun g => (c.d p g).getD #[]), if_pos]
  · rfl
  · obtain ⟨gs, h1, h2⟩ := hg
    exact List.any_eq_true.2 ⟨gs, Array.mem_toList_iff.2 h1, Array.contains_iff_mem.2 h2⟩

theorem dIA_toList (ic : ICube) (p : Params) (x : IGen) : (dIfull ic p x).toList = dI ic p x := by
  obtain ⟨b, g⟩ := x
  unfold dIfull dIA dI dK oddSupp
  cases b
  · simp only [Array.toList_append, Array.toList_map, Array.toList_filter, List.map_map]
    rfl
  · simp only [Array.toList_map, Array.toList_filter, List.map_map]
    rfl

theorem dIA_congr (ic : ICube) (dK1 dK2 : Gen → Array Term) (x : IGen) (h : dK1 x.2 = dK2 x.2) :
    dIA ic dK1 x = dIA ic dK2 x := by
  obtain ⟨b, g⟩ := x
  simp only at h
  cases b <;> simp only [dIA, h]

theorem baseKeepB_eq (c : Cube) (g : Gen) : baseKeepB c g = baseKeep c g := rfl

theorem nodupB_iff (gs : Array IGen) : nodupB gs = true ↔ gs.toList.Nodup := by
  unfold nodupB
  rw [List.Nodup, List.pairwise_iff_getElem, allBelow_spec]
  constructor
  · intro h i j hi hj hij
    have hj' : j < gs.size := by simpa using hj
    have := (allBelow_spec _ _).1 (h j hj') i hij
    rw [getElem!_pos gs j hj', getElem!_pos gs i (by omega)] at this
    simp only [Array.getElem_toList]
    exact fun e => (bne_iff_ne.1 this) e.symm
  · intro h j hj
    rw [allBelow_spec]
    intro i hij
    rw [getElem!_pos gs j hj, getElem!_pos gs i (by omega)]
    have := h i j (by simpa using (by omega : i < gs.size)) (by simpa using hj) hij
    simp only [Array.getElem_toList] at this
    exact bne_iff_ne.2 (fun e => this e.symm)

structure GensOk (ic : ICube) (p : Params) : Prop where
  valid : ∀ gs ∈ kgensOf ic.cube, ∀ g ∈ gs,
    g.s < 2 ^ ic.cube.n ∧ g.mask < 2 ^ (ic.cube.circ[g.s]!).size ∧ baseKeep ic.cube g = true
  nodup : ∀ i : Nat, (Array.toList ((coneGens ic.cube (kgensOf ic.cube))[i]!)).Nodup
  closed : ∀ i : Nat, i < (coneGens ic.cube (kgensOf ic.cube)).size → ∀ x ∈ (coneGens ic.cube (kgensOf ic.cube))[i]!,
    ∀ y ∈ dI ic p x, y ∈ (coneGens ic.cube (kgensOf ic.cube))[i + 1]!

theorem khiGensOk_iff (ic : ICube) (p : Params) : khiGensOk ic p = true ↔ GensOk ic p := by
  unfold khiGensOk
  simp only [Bool.and_eq_true, Array.all_eq_true_iff_forall_mem, decide_eq_true_eq, nodupB_iff, allBelow_spec,
    Array.contains_iff_mem]
  constructor
  · rintro ⟨⟨h1, h2⟩, h3⟩
    refine ⟨fun gs hgs g hg => ?_, fun i => ?_, fun i hi x hx y hy => ?_⟩
    · obtain ⟨⟨a, b⟩, c⟩ := h1 gs hgs g hg
      exact ⟨a, b, c⟩
    · by_cases hi : i < (coneGens ic.cube (kgensOf ic.cube)).size
      · rw [getElem!_pos _ i hi]
        exact h2 _ (Array.getElem_mem hi)
      · rw [getElem!_neg _ i hi]
        exact List.nodup_nil
    · exact h3 i hi x hx y (by rw [← Array.mem_toList_iff, dIA_toList]; exact hy)
  · intro G
    refine ⟨⟨fun gs hgs g hg => ?_, fun gs hgs => ?_⟩, fun i hi x hx y hy => ?_⟩
    · obtain ⟨a, b, c⟩ := G.valid gs hgs g hg
      exact ⟨⟨a, b⟩, c⟩
    · obtain ⟨i, hi, rfl⟩ := Array.mem_iff_getElem.1 hgs
      have := G.nodup i
      rwa [getElem!_pos _ i hi] at this
    · exact G.closed i hi x hx y (by rw [← dIA_toList]; exact Array.mem_toList_iff.2 hy)

theorem coneGens_size (c : Cube) (kg : Array (Array Gen)) : (coneGens c kg).size = c.n + 2 := by
  unfold coneGens
  rw [Array.size_map, Array.size_range]

theorem coneGens_mem (c : Cube) (kg : Array (Array Gen)) (i : Nat) (x : IGen) (hx : x ∈ (coneGens c kg)[i]!) :
    ∃ gs ∈ kg, x.2 ∈ gs := by
  by_cases hi : i < (coneGens c kg).size
  · have key : ∀ j : Nat, ∀ g : Gen, g ∈ kg[j]! → ∃ gs ∈ kg, g ∈ gs := by
      intro j g hg
      by_cases hj : j < kg.size
      · rw [getElem!_pos kg j hj] at hg
        exact ⟨_, Array.getElem_mem hj, hg⟩
      · rw [getElem!_neg kg j hj] at hg
        exact absurd hg (Array.not_mem_empty g)
    rw [getElem!_pos _ i hi] at hx
    simp only [coneGens, Array.getElem_map, Array.getElem_range, Array.mem_append] at hx
    rcases hx with hx | hx
    · split at hx
      · obtain ⟨g, hg, rfl⟩ := Array.mem_map.1 hx
        exact key _ g hg
      · simp at hx
    · split at hx
      · obtain ⟨g, hg, rfl⟩ := Array.mem_map.1 hx
        exact key _ g hg
      · simp at hx
  · rw [getElem!_neg _ i hi] at hx
    exact absurd hx (Array.not_mem_empty x)

end Yuiv.KhiSpec
