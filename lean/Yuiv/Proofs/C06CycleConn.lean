import Yuiv.Proofs.C06CycleDefs
import Mathlib.Algebra.BigOperators.Group.List.Lemmas
import Yuiv.Proofs.KhRefBits
/-
C06Cycle — the arc relation `Conn` after one crossing changes its smoothing: when its two arcs `a—b`, `c—d` lie on two
DIFFERENT circles before the change, these two circles are merged and every other circle is left alone
(`conn_flip_core`).  The graph-theoretic input is the parity lemma `parity_aux`: in a diagram all of whose labels occur
exactly twice, a set of labels that is closed under the arcs of all crossings but one contains an even number of the
four slots of that crossing — so cutting the arc `a—b` open leaves `a` and `b` connected through the rest of the circle.
-/
namespace Yuiv.C06Cycle
open Yuiv Yuiv.KhRef Yuiv.C04Inv
open Relation

theorem eqvGen_eq_of_le {r q : Nat → Nat → Prop} (hq : ∀ x y, q x y → r x y)
    (hr : ∀ x y, r x y → EqvGen q x y) (x y : Nat) : EqvGen r x y ↔ EqvGen q x y :=
  ⟨fun h => (EqvGen.is_equivalence q).eqvGen_iff.1 (EqvGen.mono hr x y h), EqvGen.mono hq x y⟩

theorem eqvGen_merge {r q : Nat → Nat → Prop} (a c : Nat) (hq : ∀ x y, q x y → r x y)
    (hr : ∀ x y, r x y → EqvGen q x y ∨
      ((EqvGen q x a ∨ EqvGen q x c) ∧ (EqvGen q y a ∨ EqvGen q y c)))
    (hac : EqvGen r a c) (x y : Nat) :
    EqvGen r x y ↔ EqvGen q x y ∨ ((EqvGen q x a ∨ EqvGen q x c) ∧ (EqvGen q y a ∨ EqvGen q y c)) := by
  have sym : ∀ {u v}, EqvGen q u v → EqvGen q v u := fun h => EqvGen.symm _ _ h
  have tr : ∀ {u v w}, EqvGen q u v → EqvGen q v w → EqvGen q u w := fun h h' => EqvGen.trans _ _ _ h h'
  have hA : ∀ {u v}, EqvGen q u v → (EqvGen q v a ∨ EqvGen q v c) → (EqvGen q u a ∨ EqvGen q u c) := by
    intro u v huv hv
    rcases hv with h | h
    · exact Or.inl (tr huv h)
    · exact Or.inr (tr huv h)
  constructor
  · intro h
    induction h with
    | rel x y h => exact hr x y h
    | refl x => exact Or.inl (EqvGen.refl x)
    | symm x y _ ih =>
      rcases ih with h | ⟨h1, h2⟩
      · exact Or.inl (sym h)
      · exact Or.inr ⟨h2, h1⟩
    | trans x y z _ _ ih1 ih2 =>
      rcases ih1 with h | ⟨h1, h2⟩ <;> rcases ih2 with h' | ⟨h3, h4⟩
      · exact Or.inl (tr h h')
      · exact Or.inr ⟨hA h h3, h4⟩
      · exact Or.inr ⟨h1, hA (sym h') h2⟩
      · exact Or.inr ⟨h1, h4⟩
  · have up : ∀ {u v}, EqvGen q u v → EqvGen r u v := fun h => EqvGen.mono hq _ _ h
    have tr' : ∀ {u v w}, EqvGen r u v → EqvGen r v w → EqvGen r u w := fun h h' => EqvGen.trans _ _ _ h h'
    have hca : EqvGen r c a := EqvGen.symm _ _ hac
    rintro (h | ⟨h1, h2⟩)
    · exact up h
    · have toA : ∀ {u}, (EqvGen q u a ∨ EqvGen q u c) → EqvGen r u a := by
        intro u hu
        rcases hu with h | h
        · exact up h
        · exact tr' (up h) hca
      exact tr' (toA h1) (EqvGen.symm _ _ (toA h2))

theorem or_shift_succ (s k : Nat) : (s ||| 1 <<< (k + 1)) / 2 = s / 2 ||| 1 <<< k := by
  rw [Nat.or_div_two, Nat.shiftLeft_eq, Nat.shiftLeft_eq, Nat.pow_succ, Nat.one_mul, Nat.one_mul,
    Nat.mul_div_cancel _ (by omega)]

theorem or_shift_succ_bit0 (s k : Nat) : (s ||| 1 <<< (k + 1)).testBit 0 = s.testBit 0 := by
  simp

theorem countP_even_of_count_two (xs : List Nat) (h : ∀ x ∈ xs, xs.count x = 2) (p : Nat → Bool) :
    xs.countP p % 2 = 0 := by
  have h2 : ∀ y ∈ xs.dedup.filter (fun x => p x), xs.count y = 2 :=
    fun y hy => h y (List.mem_dedup.1 (List.mem_filter.1 hy).1)
  rw [← List.sum_map_count_dedup_filter_eq_countP p xs, List.map_congr_left h2, List.map_const', List.sum_replicate_nat,
    Nat.mul_mod_left]

theorem crossing_even (S : Nat → Bool) (c : Crossing) (t : CT) (h4 : c.e.size = 4) (ht : t.isResolved = true)
    (hcl : ∀ p ∈ arcs c t, S p.1 = S p.2) : c.e.toList.countP S % 2 = 0 := by
  rw [KhRef.toList_of_size_four c.e h4]
  cases t
  · cases ht
  · cases ht
  · have h1 := hcl (c.e[0]!, c.e[3]!) (.head _)
    have h2 := hcl (c.e[1]!, c.e[2]!) (.tail _ (.head _))
    simp only at h1 h2
    simp only [List.countP_cons, List.countP_nil, h1, h2]
    cases S c.e[3]! <;> cases S c.e[2]! <;> rfl
  · have h1 := hcl (c.e[0]!, c.e[1]!) (.head _)
    have h2 := hcl (c.e[2]!, c.e[3]!) (.tail _ (.head _))
    simp only at h1 h2
    simp only [List.countP_cons, List.countP_nil, h1, h2]
    cases S c.e[1]! <;> cases S c.e[3]! <;> rfl

theorem parity_aux (S : Nat → Bool) : ∀ (cs : List Crossing) (ts : List CT) (j0 : Nat),
    (∀ (j : Nat) (c : Crossing) (t : CT), cs[j]? = some c → ts[j]? = some t → c.e.size = 4 ∧ t.isResolved = true) →
    cs.length = ts.length →
    (∀ (j : Nat) (c : Crossing) (t : CT), j ≠ j0 → cs[j]? = some c → ts[j]? = some t → ∀ p ∈ arcs c t, S p.1 = S p.2) →
    (cs.flatMap (fun c => c.e.toList)).countP S % 2 =
      (match cs[j0]? with | some c => c.e.toList.countP S % 2 | none => 0) := by
  intro cs
  induction cs with
  | nil => intro ts j0 _ _ _; simp
  | cons c cs ih =>
    intro ts j0 hwf hlen hcl
    cases ts with
    | nil => simp at hlen
    | cons t ts =>
      have hlen' : cs.length = ts.length := by simpa using hlen
      have hwf' : ∀ (j : Nat) (c : Crossing) (t : CT), cs[j]? = some c → ts[j]? = some t → c.e.size = 4 ∧ t.isResolved = true :=
        fun j c' t' h1 h2 => hwf (j + 1) c' t' h1 h2
      rw [List.flatMap_cons, List.countP_append]
      cases j0 with
      | zero =>
        have := ih ts cs.length hwf' hlen' (fun j c' t' _ h1 h2 =>
          hcl (j + 1) c' t' (Nat.succ_ne_zero j) h1 h2)
        have e0 : cs[cs.length]? = none := List.getElem?_eq_none (Nat.le_refl _)
        rw [e0] at this
        dsimp only at this
        simp only [List.getElem?_cons_zero]
        show (_ + _) % 2 = List.countP S c.e.toList % 2
        omega
      | succ j0 =>
        have := ih ts j0 hwf' hlen' (fun j c' t' hj h1 h2 =>
          hcl (j + 1) c' t' (fun e => hj (Nat.succ.inj e)) h1 h2)
        have h0 := crossing_even S c t (hwf 0 c t rfl rfl).1 (hwf 0 c t rfl rfl).2
          (hcl 0 c t (Nat.succ_ne_zero j0).symm rfl rfl)
        simp only [List.getElem?_cons_succ]
        omega

theorem validK_iff (l : Link) :
    validK l = true ↔ WF l ∧ ∀ x ∈ slotLabels l, (slotLabels l).count x = 2 := by
  unfold validK WF
  rw [Bool.and_eq_true, Array.all_eq_true_iff_forall_mem, List.all_eq_true]
  simp only [beq_iff_eq]

theorem validK_spec (l : Link) (hv : validK l = true) :
    (∀ c ∈ l, c.e.size = 4) ∧ ∀ x ∈ slotLabels l, (slotLabels l).count x = 2 :=
  (validK_iff l).1 hv

theorem wf_of_validK (l : Link) (hv : validK l = true) : WF l := (validK_spec l hv).1

theorem pairRel_pairsL_iff {cs : List Crossing} {ts : List CT} {j : Nat} {x : Crossing} {t : CT}
    (hx : cs[j]? = some x) (ht : ts[j]? = some t) (u v : Nat) :
    pairRel (pairsL cs ts) u v ↔
      (∃ j' c' t', j' ≠ j ∧ cs[j']? = some c' ∧ ts[j']? = some t' ∧ (u, v) ∈ arcs c' t') ∨ (u, v) ∈ arcs x t := by
  unfold pairRel
  rw [mem_pairsL_iff]
  constructor
  · rintro ⟨j', c', t', e1, e2, e3⟩
    by_cases hj : j' = j
    · subst hj
      rw [hx] at e1; rw [ht] at e2
      cases e1; cases e2
      exact Or.inr e3
    · exact Or.inl ⟨j', c', t', hj, e1, e2, e3⟩
  · rintro (⟨j', c', t', _, e1, e2, e3⟩ | h)
    · exact ⟨j', c', t', e1, e2, e3⟩
    · exact ⟨j, x, t, hx, ht, h⟩

/-- the two ends of an arc of a crossing are related, whichever way round the arc is listed -/
theorem conn_of_arc {cs : List Crossing} {ts : List CT} {j : Nat} {x : Crossing} {t : CT}
    (hx : cs[j]? = some x) (ht : ts[j]? = some t) {u v : Nat} (h : (u, v) ∈ arcs x t ∨ (v, u) ∈ arcs x t) :
    Conn (pairsL cs ts) u v := by
  rcases h with h | h
  · exact Conn.of_mem ((mem_pairsL_iff _ _ _).2 ⟨j, x, t, hx, ht, h⟩)
  · exact (Conn.of_mem ((mem_pairsL_iff _ _ _).2 ⟨j, x, t, hx, ht, h⟩)).symm

section
open Classical

/-- abstract core: `x` is the crossing at position `j`; `t0`, `t1` its types in the two states; `a—b`, `c—d` its arcs
in the first state, `a—d`, `b—c` in the second -/
theorem conn_flip_core (cs : List Crossing) (ts ts' : List CT) (j : Nat) (x : Crossing) (t0 t1 : CT)
    (a b c d : Nat)
    (hwf : ∀ c ∈ cs, c.e.size = 4)
    (hcnt : ∀ u ∈ cs.flatMap (fun c => c.e.toList), (cs.flatMap (fun c => c.e.toList)).count u = 2)
    (hres : ∀ t ∈ ts, t.isResolved = true) (hlen : cs.length = ts.length)
    (hx : cs[j]? = some x) (h0 : ts[j]? = some t0) (h1 : ts'[j]? = some t1)
    (hsame : ∀ j', j' ≠ j → ts'[j']? = ts[j']?)
    (hperm : x.e.toList.Perm [a, b, c, d])
    (hs0 : ∀ p ∈ arcs x t0, p = (a, b) ∨ p = (b, a) ∨ p = (c, d) ∨ p = (d, c))
    (hs1 : ∀ p ∈ arcs x t1, p = (a, d) ∨ p = (d, a) ∨ p = (b, c) ∨ p = (c, b))
    (hab : (a, b) ∈ arcs x t0 ∨ (b, a) ∈ arcs x t0) (hcd : (c, d) ∈ arcs x t0 ∨ (d, c) ∈ arcs x t0)
    (had : (a, d) ∈ arcs x t1 ∨ (d, a) ∈ arcs x t1) :
    Conn (pairsL cs ts) a b ∧ Conn (pairsL cs ts) c d ∧
    (¬ Conn (pairsL cs ts) a c → ∀ u v, Conn (pairsL cs ts') u v ↔
      Conn (pairsL cs ts) u v ∨
        ((Conn (pairsL cs ts) u a ∨ Conn (pairsL cs ts) u c) ∧ (Conn (pairsL cs ts) v a ∨ Conn (pairsL cs ts) v c))) := by
  -- the arcs of the other crossings
  let Q : Nat → Nat → Prop := fun u v =>
    ∃ (j' : Nat) (c' : Crossing) (t' : CT), j' ≠ j ∧ cs[j']? = some c' ∧ ts[j']? = some t' ∧ (u, v) ∈ arcs c' t'
  have hP : ∀ u v, pairRel (pairsL cs ts) u v ↔ Q u v ∨ (u, v) ∈ arcs x t0 := pairRel_pairsL_iff hx h0
  have hP' : ∀ u v, pairRel (pairsL cs ts') u v ↔ Q u v ∨ (u, v) ∈ arcs x t1 := by
    intro u v
    rw [pairRel_pairsL_iff hx h1]
    refine or_congr_left (exists_congr fun j' => exists_congr fun c' => exists_congr fun t' => ?_)
    exact and_congr_right fun hj => by rw [hsame j' hj]
  have sym : ∀ {r : Nat → Nat → Prop} {u v}, EqvGen r u v → EqvGen r v u := fun h => EqvGen.symm _ _ h
  have tr : ∀ {r : Nat → Nat → Prop} {u v w}, EqvGen r u v → EqvGen r v w → EqvGen r u w :=
    fun h h' => EqvGen.trans _ _ _ h h'
  have up : ∀ {u v}, EqvGen Q u v → Conn (pairsL cs ts) u v :=
    fun h => EqvGen.mono (fun u v huv => (hP u v).2 (Or.inl huv)) _ _ h
  have cab : Conn (pairsL cs ts) a b := conn_of_arc hx h0 hab
  have ccd : Conn (pairsL cs ts) c d := conn_of_arc hx h0 hcd
  refine ⟨cab, ccd, ?_⟩
  intro hnac
  -- parity: a set closed under Q contains an even number of the slots a, b, c, d
  have par : ∀ S : Nat → Bool, (∀ u v, Q u v → S u = S v) → [a, b, c, d].countP S % 2 = 0 := by
    intro S hS
    have h := parity_aux S cs ts j
      (fun j' c' t' e1 e2 => ⟨hwf c' (List.mem_of_getElem? e1), hres t' (List.mem_of_getElem? e2)⟩) hlen
      (fun j' c' t' hj e1 e2 p hp => hS p.1 p.2 ⟨j', c', t', hj, e1, e2, hp⟩)
    rw [hx] at h
    simp only at h
    rw [countP_even_of_count_two _ hcnt S, hperm.countP_eq] at h
    exact h.symm
  have closed : ∀ w u v, Q u v → decide (EqvGen Q w u) = decide (EqvGen Q w v) := by
    intro w u v huv
    have e : EqvGen Q w u ↔ EqvGen Q w v :=
      ⟨fun h => tr h (EqvGen.rel _ _ huv), fun h => tr h (sym (EqvGen.rel _ _ huv))⟩
    simp only [e]
  -- cut `x` out: the class of `p` among the other crossings misses `r` and `s`, so by parity it contains `q`
  have cut : ∀ p q r s, [p, q, r, s].Perm [a, b, c, d] → ¬ EqvGen Q p r → ¬ EqvGen Q p s → EqvGen Q p q := by
    intro p q r s hp hr hs
    have h := par (fun u => decide (EqvGen Q p u)) (closed p)
    by_contra hq
    rw [← hp.countP_eq] at h
    simp only [List.countP_cons, List.countP_nil, decide_eq_true (EqvGen.refl p), decide_eq_false hq,
      decide_eq_false hr, decide_eq_false hs] at h
    exact absurd h (by decide)
  have qab : EqvGen Q a b :=
    cut a b c d (List.Perm.refl _) (fun h => hnac (up h)) (fun h => hnac (tr (up h) (sym ccd)))
  have qcd : EqvGen Q c d :=
    cut c d a b (List.perm_append_comm (l₁ := [c, d])) (fun h => hnac (sym (up h)))
      (fun h => hnac (sym (tr (up h) (sym cab))))
  -- the relation of `s` is the one generated by the other crossings
  have eP : ∀ u v, Conn (pairsL cs ts) u v ↔ EqvGen Q u v := by
    intro u v
    apply eqvGen_eq_of_le
    · intro u v h; exact (hP u v).2 (Or.inl h)
    · intro u v h
      rcases (hP u v).1 h with h | h
      · exact EqvGen.rel _ _ h
      · rcases hs0 _ h with e | e | e | e <;> cases e
        · exact qab
        · exact sym qab
        · exact qcd
        · exact sym qcd
  intro u v
  rw [eP u v, eP u a, eP u c, eP v a, eP v c]
  apply eqvGen_merge a c
  · intro u v h; exact (hP' u v).2 (Or.inl h)
  · intro u v h
    rcases (hP' u v).1 h with h | h
    · exact Or.inl (EqvGen.rel _ _ h)
    · right
      rcases hs1 _ h with e | e | e | e <;> cases e
      · exact ⟨Or.inl (EqvGen.refl _), Or.inr (sym qcd)⟩
      · exact ⟨Or.inr (sym qcd), Or.inl (EqvGen.refl _)⟩
      · exact ⟨Or.inl (sym qab), Or.inr (EqvGen.refl _)⟩
      · exact ⟨Or.inr (EqvGen.refl _), Or.inl (sym qab)⟩
  · exact tr (conn_of_arc hx h1 had) (EqvGen.mono (fun u v huv => (hP' u v).2 (Or.inl huv)) _ _ (sym qcd))

end

theorem arcs_H (x : Crossing) : arcs x .H = [(x.e[0]!, x.e[1]!), (x.e[2]!, x.e[3]!)] := rfl
theorem arcs_V (x : Crossing) : arcs x .V = [(x.e[0]!, x.e[3]!), (x.e[1]!, x.e[2]!)] := rfl

theorem forall_mem_pair {α : Type} {P : α → Prop} {q r : α} (hq : P q) (hr : P r) : ∀ p ∈ [q, r], P p :=
  fun _ hp => (List.mem_pair.1 hp).elim (· ▸ hq) (· ▸ hr)

theorem perm4 (p q r t : Nat) : [p, q, r, t].Perm [p, t, r, q] :=
  List.Perm.cons p (((List.Perm.swap r q [t]).trans (List.Perm.cons r (List.Perm.swap t q []))).trans
    (List.Perm.swap t r [q]))

end Yuiv.C06Cycle
