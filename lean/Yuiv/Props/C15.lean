import Yuiv.Proofs.C15Quad
import Yuiv.Proofs.C15FieldModel
/-
C15 — Euclidean-domain operations: property theorems (about the code model `Yuiv/Model/C15.lean`).

* integers: `a = (a/b)·b + a%b`, `|a%b| < |b|`; `div_round` exact for operands of any size, ties away from zero;
* Z[i], Z[ω]: division identity and `N(a % b) < N(b)` (indeed `2N(r) ≤ N(b)` resp. `4N(r) ≤ 3N(b)`);
* the generic `EucRing::{gcd, gcdx, lcm}` + `Ring::normalized` of `euc_ring.rs`/`ring.rs`, for every type whose
  operations satisfy `LawfulEuc` (a commutative ring with Euclidean `/`, `%` and a normalising unit that is
  compatible with associates): termination, `gcd ∣ a`, `gcd ∣ b`, greatest, Bezout with the returned `s, t`,
  normalised on all paths (early returns included), independent of the argument order, `lcm·gcd ~ a·b`;
* `LawfulEuc` holds for the models of Z, Z[i] (4 units, quadrant table) and Z[ω] (6 units, sextant table);
* units: `is_unit a ↔ inv a ≠ none`, `inv a = some u → a·u = 1` for Z, Z[i], Z[ω], F_p (p = 2,3,5,7);
* F_p (p = 2,3,5,7): all of the above by exhaustive evaluation of the model.
* Q (canonical fractions): units, inverse, normalisation, gcd.
Division identity, Bezout, lcm for Q and everything for F_p with an arbitrary prime p: Props/C15Fields.lean;
F[x] and homogeneous polynomials: Props/C15Poly.lean (see props/C15.json for what remains).
-/
namespace Yuiv.C15
open Yuiv

/-- `a = (a/b)·b + a%b` (Rust's truncating `/`, `%`) -/
theorem int_div_rem (a b : Int) : a = zDivT a b * b + zRemT a b := zdiv_rem a b

/-- the remainder is strictly smaller than the divisor in absolute value -/
theorem int_rem_lt (a b : Int) (hb : b ≠ 0) : |zRemT a b| < |b| := by
  have := zrem_lt a b hb
  rwa [iabs_eq_abs, iabs_eq_abs] at this

/-- `div_round` is exact for operands of any size: `2·|a − q·b| ≤ |b|` -/
theorem int_divRound_exact (a b : Int) (hb : b ≠ 0) : 2 * |a - zDivRoundT a b * b| ≤ |b| := by
  have := (zdivround_exact a b hb).1
  rwa [iabs_eq_abs, iabs_eq_abs] at this

/-- ties are rounded away from zero -/
theorem int_divRound_tie_away (a b : Int) (hb : b ≠ 0)
    (h : 2 * |a - zDivRoundT a b * b| = |b|) : |a| < |zDivRoundT a b * b| := by
  have := (zdivround_exact a b hb).2
  rw [iabs_eq_abs, iabs_eq_abs, iabs_eq_abs, iabs_eq_abs] at this
  exact this h

example : zDivRoundT 5 2 = 3 ∧ zDivRoundT (-5) 2 = -3 ∧ zDivRoundT 27021597764222979 3 = 9007199254740993 := by decide

/-- the Rust-level operators panic exactly on a zero divisor -/
theorem int_ops_panic_iff (a b : Int) :
    (zDiv a b = .panic ↔ b = 0) ∧ (zRem a b = .panic ↔ b = 0) ∧ (zDivRound a b = .panic ↔ b = 0) := by
  unfold zDiv zRem zDivRound
  refine ⟨?_, ?_, ?_⟩ <;> (split <;> simp_all)

/-- Z: `is_unit a ↔ inv a ≠ none`, `inv a = some u → a·u = 1`, and `is_unit` is invertibility in ℤ -/
theorem int_units (a : Int) :
    (zIsUnit a = true ↔ zInv a ≠ none) ∧ (∀ u, zInv a = some u → a * u = 1) ∧ (zIsUnit a = true ↔ IsUnit a) :=
  int_units' a

/-- the model of the integer operations satisfies the assumptions of the generic theorems
(so `normalized` is idempotent / constant on associates, the normalising unit `±1` is a unit, …) -/
theorem int_lawful : LawfulEuc (α := Int) intOps where
  zero_eq := rfl
  one_eq := rfl
  isZero_iff a := by simp [intOps]
  isOne_iff a := by simp [intOps]
  sub_eq _ _ := rfl
  mul_eq _ _ := rfl
  div_rem a b _ := zdiv_rem a b
  norm_rem a b hb := by
    have := zrem_lt a b hb
    unfold iabs at this
    show (zRemT a b).natAbs < b.natAbs
    omega
  rem_of_dvd a b _ hd := by
    simp only [intOps, zRemT]
    exact Int.tmod_eq_zero_of_dvd hd
  normUnit_isUnit a := by
    simp only [intOps, zNormUnit]
    split <;> simp
  normUnit_assoc a u ha hu := by
    show zNormUnit (a * u) * u = zNormUnit a
    simp only [zNormUnit, Bool.not_eq_true', decide_eq_false_iff_not]
    rcases Int.isUnit_iff.1 hu with rfl | rfl <;> omega

/-- `a = (a/b)·b + a%b` in Z[i] -/
theorem gauss_div_rem (x y : QInt) : x = QInt.add (QInt.gMul (QInt.gDiv x y) y) (QInt.gRem x y) := QInt.g_div_rem x y

/-- `2·N(a % b) ≤ N(b)` -/
theorem gauss_rem_bound (x y : QInt) (hy : y ≠ QInt.zero) : 2 * QInt.gNorm (QInt.gRem x y) ≤ QInt.gNorm y :=
  QInt.g_rem_bound x y hy

/-- the remainder has strictly smaller norm -/
theorem gauss_rem_lt (x y : QInt) (hy : y ≠ QInt.zero) : QInt.gNorm (QInt.gRem x y) < QInt.gNorm y :=
  QInt.g_rem_lt x y hy

/-- `is_unit a ↔ inv a ≠ none`, `inv a = some u → a·u = 1` -/
theorem gauss_units (x : QInt) :
    (QInt.gIsUnit x = true ↔ QInt.gInv x ≠ none) ∧ (∀ u, QInt.gInv x = some u → QInt.gMul x u = QInt.one) :=
  QInt.units_of_norm QInt.gMul QInt.gConj QInt.gNorm (fun x v hv => by
    simp only [QInt.gNorm] at hv
    apply QInt.ext' <;> simp only [QInt.gMul, QInt.gConj, QInt.one] <;> linarith) x

/-- `is_unit` is invertibility in the ring Z[i]; there are exactly four units -/
theorem gauss_isUnit_iff (x : GInt) : QInt.gIsUnit x = true ↔ IsUnit x :=
  (zIsUnit_iff_eq_one (QInt.gNorm_nonneg x)).trans ⟨GInt.isUnit_of_norm_one x, GInt.norm_one_of_isUnit x⟩

/-- Z[i] with `gaussOps` is a lawful Euclidean structure: ring operations, Euclidean division, the quadrant
table gives a unit, and `normalizing_unit (a·u)·u = normalizing_unit a` for each of the four units -/
theorem gauss_lawful : LawfulEuc (α := GInt) gaussOps := GInt.lawful

theorem eisen_div_rem (x y : QInt) : x = QInt.add (QInt.eMul (QInt.eDiv x y) y) (QInt.eRem x y) := QInt.e_div_rem x y

/-- `4·N(a % b) ≤ 3·N(b)` -/
theorem eisen_rem_bound (x y : QInt) (hy : y ≠ QInt.zero) : 4 * QInt.eNorm (QInt.eRem x y) ≤ 3 * QInt.eNorm y :=
  QInt.e_rem_bound x y hy

theorem eisen_rem_lt (x y : QInt) (hy : y ≠ QInt.zero) : QInt.eNorm (QInt.eRem x y) < QInt.eNorm y :=
  QInt.e_rem_lt x y hy

theorem eisen_units (x : QInt) :
    (QInt.eIsUnit x = true ↔ QInt.eInv x ≠ none) ∧ (∀ u, QInt.eInv x = some u → QInt.eMul x u = QInt.one) :=
  QInt.units_of_norm QInt.eMul QInt.eConj QInt.eNorm (fun x v hv => by
    simp only [QInt.eNorm] at hv
    apply QInt.ext' <;> simp only [QInt.eMul, QInt.eConj, QInt.one] <;> linarith) x

theorem eisen_isUnit_iff (x : EInt) : QInt.eIsUnit x = true ↔ IsUnit x :=
  (zIsUnit_iff_eq_one (QInt.eNorm_nonneg x)).trans ⟨EInt.isUnit_of_norm_one x, EInt.norm_one_of_isUnit x⟩

/-- Z[ω] with `eisenOps` is a lawful Euclidean structure (six units, sextant table) -/
theorem eisen_lawful : LawfulEuc (α := EInt) eisenOps := EInt.lawful

/-! ### the generic code of `euc_ring.rs` / `ring.rs` over any lawful structure -/

section generic
variable {α : Type} [CommRing α] {E : EucOps α} (L : LawfulEuc E)
include L

/-- `gcd` terminates (the fuel `norm y + 1` is never exhausted) and never panics; its result divides both
arguments, is divisible by every common divisor, and is normalised — on all paths incl. the early returns -/
theorem gcd_total (x y : α) :
    ∃ d, E.gcd x y = .ok d ∧ d ∣ x ∧ d ∣ y ∧ (∀ c, c ∣ x → c ∣ y → c ∣ d) ∧ E.normalized d = d := by
  obtain ⟨d, h, hc, hn⟩ := L.gcd_spec x y
  exact ⟨d, h, ((hc d).1 dvd_rfl).1, ((hc d).1 dvd_rfl).2, fun c h1 h2 => (hc c).2 ⟨h1, h2⟩, hn⟩

/-- `gcdx` returns `(d, s, t)` with `s·x + t·y = d` and `d` is what `gcd` returns -/
theorem gcdx_bezout (x y : α) :
    ∃ d s t, E.gcdx x y = .ok (d, s, t) ∧ s * x + t * y = d ∧ E.gcd x y = .ok d := by
  obtain ⟨d, s, t, h, -, -, -, hb, hg⟩ := L.eucRep.gcdx_spec x y trivial trivial
  exact ⟨d, s, t, h, hb, hg⟩

/-- the gcd does not depend on the order of the arguments -/
theorem gcd_symm [IsDomain α] (x y d d' : α) (h : E.gcd x y = .ok d) (h' : E.gcd y x = .ok d') : d = d' := by
  obtain ⟨d0, e, hc, hn⟩ := L.gcd_spec x y
  obtain ⟨d1, e', hc', hn'⟩ := L.gcd_spec y x
  rw [h] at e; rw [h'] at e'
  injection e with e; injection e' with e'
  subst e; subst e'
  have h1 : d ∣ d' := (hc' d).2 ⟨((hc d).1 dvd_rfl).2, ((hc d).1 dvd_rfl).1⟩
  have h2 : d' ∣ d := (hc d').2 ⟨((hc' d').1 dvd_rfl).2, ((hc' d').1 dvd_rfl).1⟩
  obtain ⟨u, hu⟩ := associated_of_dvd_dvd h1 h2
  rw [← hn, ← hn', ← hu, L.normalized_assoc d u u.isUnit]

/-- `lcm·gcd` is an associate of `x·y` and the lcm is normalised (`x`, `y` not both zero) -/
theorem lcm_gcd_assoc (x y : α) (hxy : ¬(x = 0 ∧ y = 0)) :
    ∃ l g, E.lcm x y = .ok l ∧ E.gcd x y = .ok g ∧ Associated (l * g) (x * y) ∧ E.normalized l = l := by
  obtain ⟨l, g, hl, hg, -, -, ha⟩ := L.eucRep.lcm_spec x y trivial trivial hxy
  obtain ⟨z, rfl⟩ := E.lcm_shape x y l hl
  exact ⟨_, g, hl, hg, ha, L.normalized_idem z⟩

/-- `lcm(0,0)` panics (division by the gcd `0`) -/
theorem lcm_zero_zero_panics : E.lcm 0 0 = .panic := L.eucRep.lcm_zero_zero 0 0 trivial trivial rfl rfl

/-- multiplying by the normalising unit is idempotent -/
theorem normalized_idempotent (x : α) : E.normalized (E.normalized x) = E.normalized x := L.normalized_idem x

/-- … and constant on associates -/
theorem normalized_const_on_associates (x u : α) (hu : IsUnit u) : E.normalized (x * u) = E.normalized x :=
  L.normalized_assoc x u hu

/-- `normalized x` is `x` times a unit -/
theorem normalized_is_associate (x : α) : E.normalized x = x * E.normUnit x ∧ IsUnit (E.normUnit x) :=
  ⟨L.normalized_eq x, L.normUnit_isUnit x⟩

/-- `divides` is sound -/
theorem divides_sound (x y : α) (h : E.divides x y = true) : x ≠ 0 ∧ x ∣ y :=
  L.eucRep.divides_imp x y trivial trivial h

end generic

/-- the hypotheses of the generic theorems are satisfiable: e.g. in Z[i], `gcd(-2, 4)` — the witness of the
un-normalised early return (F4) — is `2` -/
example : gaussOps.gcd ⟨-2, 0⟩ ⟨4, 0⟩ = .ok ⟨2, 0⟩ ∧ gaussOps.gcdx ⟨11, 3⟩ ⟨1, 8⟩ = .ok (⟨2, 1⟩, ⟨1, 2⟩, ⟨-3, 0⟩) := by
  decide +kernel

/-! ### Q (canonical fractions `num/den`, `den > 0`, lowest terms — the form `Ratio::new` produces) -/

/-- the constructor and the product produce canonical fractions -/
theorem rat_canonical (n d : Int) (hd : d ≠ 0) (x u : Q) (hx : Q.WF x) (hu : Q.WF u) :
    Q.WF (Q.make n d) ∧ Q.WF (Q.mul x u) :=
  ⟨Q.make_wf n d hd, Q.make_wf _ _ (Int.mul_ne_zero (ne_of_gt hx.1) (ne_of_gt hu.1))⟩

/-- `is_unit a ↔ inv a ≠ none`, `inv a = some u → a·u = 1` -/
theorem rat_units (x : Q) (hx : Q.WF x) :
    (Q.isUnit x = true ↔ Q.inv x ≠ none) ∧ (∀ u, Q.inv x = some u → Q.mul x u = Q.one) :=
  ⟨by unfold Q.isUnit Q.inv; cases h : Q.isZero x <;> simp, fun u hu => ((Q.fieldModel.units x hx).2.2.2 u hu).2⟩

/-- normalisation maps every non-zero element to `1`; hence idempotent and constant on associates -/
theorem rat_normalized (x u : Q) (hx : Q.WF x) (hu : Q.WF u) (hu0 : u.num ≠ 0) :
    ratOps.normalized x = (if x.num = 0 then x else Q.one) ∧
    ratOps.normalized (ratOps.normalized x) = ratOps.normalized x ∧
    ratOps.normalized (ratOps.mul x u) = ratOps.normalized x :=
  ⟨by rw [Q.fieldModel.normalized_eq x hx]
      show (if (x.num == 0) = true then x else Q.one) = _
      simp only [beq_iff_eq],
   Q.fieldModel.normalized_idem x hx,
   Q.fieldModel.normalized_assoc x u hx hu ((Q.isZero_false_iff u).2 hu0)⟩

/-- over a field the generic `gcd` takes an early return; the result is the normalised `1` (after fix F4),
`0` only for `gcd(0,0)` -/
theorem rat_gcd (x y : Q) (hx : Q.WF x) (hy : Q.WF y) :
    ratOps.gcd x y = .ok (if x.num = 0 ∧ y.num = 0 then Q.zero else Q.one) := by
  rw [Q.fieldModel.gcd_eq x y hx hy, Q.ite_and]; rfl

example : Q.WF (Q.make 4 (-6)) ∧ Q.make 4 (-6) = ⟨-2, 3⟩ ∧ ratOps.gcd ⟨2, 3⟩ ⟨5, 1⟩ = .ok ⟨1, 1⟩ := by
  refine ⟨Q.make_wf 4 (-6) (by decide), by decide, by decide⟩

/-! ### F_p, p = 2, 3, 5, 7 (exhaustive) -/

/-- F_p, p ∈ {2,3,5,7}: exhaustive -/
theorem ff_units_and_normalisation : ∀ p ∈ [2, 3, 5, 7], ∀ a < p,
    (((ffOps p).isUnit a = true ↔ (ffOps p).inv a ≠ none) ∧
     (∀ u, (ffOps p).inv a = some u → (ffOps p).mul a u = (ffOps p).one ∧ u < p) ∧
     (ffOps p).isUnit ((ffOps p).normUnit a) = true ∧
     (∀ u < p, u ≠ 0 → a ≠ 0 → (ffOps p).normalized ((ffOps p).mul a u) = (ffOps p).normalized a) ∧
     (ffOps p).normalized ((ffOps p).normalized a) = (ffOps p).normalized a) := by
  decide +kernel

/-- F_p, p ∈ {2,3,5,7}: gcd / gcdx / lcm / division on all pairs -/
theorem ff_euclid : ∀ p ∈ [2, 3, 5, 7], ∀ a < p, ∀ b < p,
    ((ffOps p).gcd a b = .ok (if a = 0 ∧ b = 0 then 0 else 1 % p)) ∧
    ((match (ffOps p).gcdx a b with
      | .ok (d, s, t) => decide ((s * a + t * b) % p = d ∧ (ffOps p).gcd a b = .ok d)
      | _ => false) = true) ∧
    (¬(a = 0 ∧ b = 0) → (match (ffOps p).lcm a b with
      | .ok l => decide (l = 0 ↔ a * b % p = 0)
      | _ => false) = true) ∧
    (b ≠ 0 → (ffOps p).add ((ffOps p).mul ((ffOps p).div a b) b) ((ffOps p).rem a b) = a) := by
  decide +kernel

end Yuiv.C15
