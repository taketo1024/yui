import Yuiv.Proofs.C13
/-
C13 — dense matrices (`Mat`): reading a matrix built by `ofFn`, the row/column primitives every
other operation is made of, `+ − neg` (nalgebra, by definition).
-/
namespace Yuiv.C13
open Yuiv Res

variable {R : Type} [CommRing R]

theorem get_ofFn (m n : Nat) (f : Nat → Nat → R) (i j : Nat) (hi : i < m) (hj : j < n) :
    (DMat.ofFn m n f).get i j = f i j := by
  unfold DMat.get DMat.ofFn
  have hlt : i * n + j < m * n := by
    calc i * n + j < i * n + n := by omega
      _ = (i + 1) * n := by ring
      _ ≤ m * n := Nat.mul_le_mul_right n hi
  have hn : 0 < n := by omega
  have h1 : (i * n + j) / n = i := by
    rw [Nat.add_comm, Nat.add_mul_div_right _ _ hn, Nat.div_eq_of_lt hj, Nat.zero_add]
  have h2 : (i * n + j) % n = j := by
    rw [Nat.add_comm, Nat.add_mul_mod_self_right, Nat.mod_eq_of_lt hj]
  simp [Array.getD, hlt, h1, h2]

set_option linter.unusedSectionVars false in
variable [DecidableEq R] in
@[simp] theorem ofFn_nrows (m n : Nat) (f : Nat → Nat → R) : (DMat.ofFn m n f).nrows = m := rfl
set_option linter.unusedSectionVars false in
variable [DecidableEq R] in
@[simp] theorem ofFn_ncols (m n : Nat) (f : Nat → Nat → R) : (DMat.ofFn m n f).ncols = n := rfl

/-- the shape of every dense primitive: one assertion, then a matrix given entry by entry -/
theorem assert_ofFn {c : Bool} (hc : c = true) (m n : Nat) (f : Nat → Nat → R) :
    ∃ B, (do Res.assert c; ok (DMat.ofFn m n f)) = ok B ∧ B.nrows = m ∧ B.ncols = n ∧
      ∀ i j, i < m → j < n → B.get i j = f i j := by
  rw [assert_true hc]
  exact ⟨_, rfl, rfl, rfl, fun i j hi hj => get_ofFn m n f i j hi hj⟩

theorem setRow_spec (A : DMat R) (i : Nat) (s : Nat → R) (hi : i < A.nrows) :
    ∃ B, A.setRow i s = ok B ∧ B.nrows = A.nrows ∧ B.ncols = A.ncols ∧
      ∀ r c, r < A.nrows → c < A.ncols → B.get r c = if r = i then s c else A.get r c := by
  unfold DMat.setRow
  exact assert_ofFn (by simp [hi]) _ _ _

theorem setCol_spec (A : DMat R) (j : Nat) (s : Nat → R) (hj : j < A.ncols) :
    ∃ B, A.setCol j s = ok B ∧ B.nrows = A.nrows ∧ B.ncols = A.ncols ∧
      ∀ r c, r < A.nrows → c < A.ncols → B.get r c = if c = j then s r else A.get r c := by
  unfold DMat.setCol
  exact assert_ofFn (by simp [hj]) _ _ _

set_option linter.unusedSectionVars false in
variable [DecidableEq R] in
theorem dadd_spec (A B : DMat R) (h1 : A.nrows = B.nrows) (h2 : A.ncols = B.ncols) :
    ∃ C, A.add B = ok C ∧ C.nrows = A.nrows ∧ C.ncols = A.ncols ∧
      ∀ i j, i < A.nrows → j < A.ncols → C.get i j = A.get i j + B.get i j := by
  unfold DMat.add
  exact assert_ofFn (by simp [h1, h2]) _ _ _

set_option linter.unusedSectionVars false in
variable [DecidableEq R] in
theorem dsub_spec (A B : DMat R) (h1 : A.nrows = B.nrows) (h2 : A.ncols = B.ncols) :
    ∃ C, A.sub B = ok C ∧ C.nrows = A.nrows ∧ C.ncols = A.ncols ∧
      ∀ i j, i < A.nrows → j < A.ncols → C.get i j = A.get i j - B.get i j := by
  unfold DMat.sub
  exact assert_ofFn (by simp [h1, h2]) _ _ _

set_option linter.unusedSectionVars false in
variable [DecidableEq R] in
theorem dneg_spec (A : DMat R) (i j : Nat) (hi : i < A.nrows) (hj : j < A.ncols) : A.neg.get i j = - A.get i j := by
  unfold DMat.neg; rw [get_ofFn _ _ _ _ _ hi hj]

theorem list_range_sum (n : Nat) (f : Nat → R) : ((List.range n).map f).sum = ∑ k ∈ Finset.range n, f k := by
  induction n with
  | zero => simp
  | succ n ih => rw [List.range_succ, List.map_append, List.sum_append, ih, Finset.sum_range_succ]; simp

end Yuiv.C13
