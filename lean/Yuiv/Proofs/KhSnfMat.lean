import Yuiv.Proofs.KhSnfDefs
import Yuiv.Proofs.MatElem
import Yuiv.Proofs.ListAux
import Mathlib.LinearAlgebra.Matrix.NonsingularInverse
import Mathlib.Tactic.LinearCombination
/-
KhSnfMat — matrices over ℤ up to unimodular equivalence (`Reach A B` : `B = P·A·Q` with unimodular `P`, `Q`;
`EquivDiag A d` : `A` reaches the rectangular diagonal matrix with diagonal `d`): the elementary moves the reference's
elimination is made of, each as a `Reach` or as a change of the diagonal that keeps `EquivDiag`.
-/
namespace Yuiv.KhSnf
open Matrix Yuiv.C03Uct
open Yuiv.MatElem (LM LM_mul mul_LMT LM_mul_LMT)

theorem reach_iff_uequiv {m n} {A B : Matrix (Fin m) (Fin n) ℤ} : Reach A B ↔ UEquiv A B := Iff.rfl

theorem Reach.refl {m n} (A : Matrix (Fin m) (Fin n) ℤ) : Reach A A := UEquiv.refl A

theorem Reach.trans {m n} {A B C : Matrix (Fin m) (Fin n) ℤ} (h1 : Reach A B) (h2 : Reach B C) :
    Reach A C := UEquiv.trans h1 h2

theorem box_congr {m n : ℕ} {F G : ℕ → ℕ → ℤ} (h : ∀ i j, i < m → j < n → F i j = G i j) :
    box m n F = box m n G := by
  ext i j
  exact h _ _ i.2 j.2

theorem equivDiag_iff_reach {m n} {A : Matrix (Fin m) (Fin n) ℤ} {d : List ℤ} :
    EquivDiag A d ↔ d.length ≤ min m n ∧ Reach A (rectDiag m n (fun k => d.getD k 0)) := Iff.rfl

/-- the matrix with the single non-zero column `s`, carrying `q` -/
private def colMat (m : ℕ) (s : ℕ) (q : ℕ → ℤ) : Matrix (Fin m) (Fin m) ℤ :=
  fun i k => if k.val = s then q i.val else 0

private theorem colMat_mul {m n : ℕ} (s : ℕ) (hs : s < m) (q : ℕ → ℤ) (A : Matrix (Fin m) (Fin n) ℤ)
    (i : Fin m) (c : Fin n) : (colMat m s q * A) i c = q i.val * A ⟨s, hs⟩ c := by
  rw [Matrix.mul_apply, Finset.sum_eq_single ⟨s, hs⟩]
  · simp [colMat]
  · intro b _ hb
    have : b.val ≠ s := fun h => hb (Fin.ext h)
    simp [colMat, this]
  · exact fun h => absurd (Finset.mem_univ _) h

private theorem colMat_sq {m : ℕ} (s : ℕ) (hs : s < m) (q q' : ℕ → ℤ) (hq : q' s = 0) :
    colMat m s q * colMat m s q' = 0 := by
  ext i k
  rw [colMat_mul s hs]
  simp [colMat, hq]

private theorem isUnit_det_one_add_colMat {m : ℕ} (s : ℕ) (hs : s < m) (q : ℕ → ℤ) (hq : q s = 0) :
    IsUnit (1 + colMat m s q).det := by
  apply Matrix.isUnit_det_of_right_inverse (B := 1 - colMat m s q)
  rw [Matrix.add_mul, Matrix.mul_sub, Matrix.mul_sub, colMat_sq s hs q q hq]
  simp

theorem reach_rowOps (m n : ℕ) (F : ℕ → ℕ → ℤ) (s : ℕ) (hs : s < m) (q : ℕ → ℤ) (hq : q s = 0) :
    Reach (box m n F) (box m n (fun i c => F i c + q i * F s c)) := by
  refine ⟨1 + colMat m s q, 1, isUnit_det_one_add_colMat s hs q hq, by simp, ?_⟩
  ext i c
  rw [Matrix.mul_one, Matrix.add_mul, Matrix.one_mul, Matrix.add_apply, colMat_mul s hs]
  rfl

theorem reach_colOps (m n : ℕ) (F : ℕ → ℕ → ℤ) (s : ℕ) (hs : s < n) (q : ℕ → ℤ) (hq : q s = 0) :
    Reach (box m n F) (box m n (fun i c => F i c + q c * F i s)) := by
  refine ⟨1, (1 + colMat n s q)ᵀ, by simp, ?_, ?_⟩
  · rw [det_transpose]; exact isUnit_det_one_add_colMat s hs q hq
  · apply Matrix.transpose_injective
    rw [Matrix.one_mul, Matrix.transpose_mul, Matrix.transpose_transpose]
    ext c i
    rw [Matrix.add_mul, Matrix.one_mul, Matrix.add_apply, colMat_mul s hs]
    rfl

private theorem exists_perm_extend (m r : ℕ) (p : ℕ → ℕ) (hp : ∀ t, t < r → p t < m)
    (inj : ∀ t t', t < r → t' < r → p t = p t' → t = t') :
    r ≤ m ∧ ∃ σ : Equiv.Perm (Fin m), (∀ (t : ℕ) (_ : t < r) (htm : t < m), (σ ⟨t, htm⟩).val = p t) ∧
      ∀ (t : ℕ) (_ : t < r) (i : Fin m), p t = (σ i).val → t = i.val := by
  have hrm : r ≤ m := by
    have := Fintype.card_le_of_injective (fun t : Fin r => (⟨p t.val, hp _ t.2⟩ : Fin m))
      (fun a b hab => Fin.ext (inj _ _ a.2 b.2 (Fin.mk.inj_iff.mp hab)))
    rwa [Fintype.card_fin, Fintype.card_fin] at this
  refine ⟨hrm, ?_⟩
  let f : Fin m → Fin m := fun x => if h : x.val < r then ⟨p x.val, hp _ h⟩ else x
  obtain ⟨g, hg⟩ := Finset.exists_equiv_extend_of_card_eq (α := Fin m) (β := Fin m)
    (t := Finset.univ) (s := Finset.univ.filter (fun x => x.val < r)) (f := f)
    Finset.card_univ.symm (Finset.subset_univ _) (by
      intro a ha b hb hab
      have ha' : a.val < r := (Finset.mem_filter.mp (Finset.mem_coe.mp ha)).2
      have hb' : b.val < r := (Finset.mem_filter.mp (Finset.mem_coe.mp hb)).2
      simp only [f, dif_pos ha', dif_pos hb'] at hab
      exact Fin.ext (inj _ _ ha' hb' (Fin.mk.inj_iff.mp hab)))
  have hσ : ∀ (t : ℕ) (_ : t < r) (htm : t < m),
      ((g.trans (Equiv.subtypeUnivEquiv (fun x => Finset.mem_univ x))) ⟨t, htm⟩).val = p t := by
    intro t ht htm
    have := hg ⟨t, htm⟩ (Finset.mem_filter.mpr ⟨Finset.mem_univ _, ht⟩)
    simp only [Equiv.trans_apply, Equiv.subtypeUnivEquiv_apply, this, f, dif_pos ht]
  refine ⟨_, hσ, fun t ht i h => ?_⟩
  exact congrArg Fin.val (Equiv.injective _ (Fin.ext ((hσ t ht (lt_of_lt_of_le ht hrm)).trans h)))

private theorem getD_ge (l : List ℤ) (k : ℕ) (h : l.length ≤ k) : l.getD k 0 = 0 := by simp [h]

theorem getD_map_range (r : ℕ) (e : ℕ → ℤ) (k : ℕ) :
    ((List.range r).map e).getD k 0 = if k < r then e k else 0 := by
  split
  · rename_i h
    rw [ListAux.getD_of_lt (by simpa using h)]
    simp
  · rename_i h
    rw [getD_ge _ _ (by simpa using h)]

/-- a GENERALISED DIAGONAL matrix: its non-zero entries are `e t` at the positions `(pr t, pc t)`, `t < r`, no two
in one row or column -/
theorem equivDiag_of_genDiag (m n : ℕ) (F : ℕ → ℕ → ℤ) (r : ℕ) (pr pc : ℕ → ℕ) (e : ℕ → ℤ)
    (hpr : ∀ t, t < r → pr t < m) (hpc : ∀ t, t < r → pc t < n)
    (injr : ∀ t t', t < r → t' < r → pr t = pr t' → t = t')
    (injc : ∀ t t', t < r → t' < r → pc t = pc t' → t = t')
    (hval : ∀ t, t < r → F (pr t) (pc t) = e t)
    (hzero : ∀ i j, i < m → j < n → (¬ ∃ t, t < r ∧ pr t = i ∧ pc t = j) → F i j = 0) :
    EquivDiag (box m n F) ((List.range r).map e) := by
  obtain ⟨hrm, σ, hσ, hσi⟩ := exists_perm_extend m r pr hpr injr
  obtain ⟨hrn, τ, hτ, hτj⟩ := exists_perm_extend n r pc hpc injc
  refine EquivDiag.of_uequiv (UEquiv.submatrix _ σ τ) ?_
  have key : (box m n F).submatrix σ τ
      = rectDiag m n (fun k => ((List.range r).map e).getD k 0) := by
    ext i j
    simp only [submatrix_apply, box, rectDiag_apply, getD_map_range]
    by_cases hij : i.val = j.val
    · rw [if_pos hij]
      by_cases hir : i.val < r
      · have h1 : (σ i).val = pr i.val := hσ i.val hir i.2
        have h2 : (τ j).val = pc i.val := by
          have := hτ j.val (hij ▸ hir) j.2
          rw [hij]; exact this
        rw [if_pos hir, h1, h2, hval _ hir]
      · rw [if_neg hir]
        refine hzero _ _ (σ i).2 (τ j).2 ?_
        rintro ⟨t, ht, h1, h2⟩
        exact hir (hσi t ht i h1 ▸ ht)
    · rw [if_neg hij]
      refine hzero _ _ (σ i).2 (τ j).2 ?_
      rintro ⟨t, ht, h1, h2⟩
      exact hij ((hσi t ht i h1).symm.trans (hτj t ht j h2))
  rw [key]
  exact EquivDiag.rectDiag m n _ (by simp; omega)

theorem equivDiag_signs {m n} {A : Matrix (Fin m) (Fin n) ℤ} {d d' : List ℤ} (h : EquivDiag A d)
    (hl : d'.length = d.length)
    (hs : ∀ k, k < d.length → d'.getD k 0 = d.getD k 0 ∨ d'.getD k 0 = - d.getD k 0) :
    EquivDiag A d' := by
  obtain ⟨hlen, P, Q, hP, hQ, hD⟩ := h
  let s : Fin m → ℤ := fun k => if d'.getD k.val 0 = d.getD k.val 0 then 1 else -1
  have hss : ∀ k, s k * s k = 1 := by
    intro k; simp only [s]; split <;> simp
  have hsd : ∀ k : Fin m, d'.getD k.val 0 = s k * d.getD k.val 0 := by
    intro k
    simp only [s]
    split
    · rename_i h; rw [h, one_mul]
    · rename_i h
      by_cases hk : k.val < d.length
      · rcases hs _ hk with h' | h'
        · exact absurd h' h
        · rw [h']; ring
      · exact absurd (by rw [getD_ge _ _ (by omega), getD_ge _ _ (by omega)]) h
  refine ⟨hl ▸ hlen, diagonal s * P, Q, ?_, hQ, ?_⟩
  · rw [det_mul]
    refine IsUnit.mul ?_ hP
    apply Matrix.isUnit_det_of_right_inverse (B := diagonal s)
    rw [diagonal_mul_diagonal]
    simp only [hss, diagonal_one]
  · rw [Matrix.mul_assoc, Matrix.mul_assoc, ← Matrix.mul_assoc P, hD]
    ext i j
    rw [diagonal_mul]
    simp only [rectDiag_apply]
    split
    · exact (hsd i).symm
    · simp

private theorem gcd_core (m n i j : ℕ) (hij : i < j) (hjm : j < m) (hjn : j < n) (δ : ℕ → ℤ)
    (u v x' y' g : ℤ) (hx : δ i = x' * g) (hy : δ j = y' * g) (hb : u * x' + v * y' = 1) :
    LM u v (-y') x' (⟨i, by omega⟩ : Fin m) ⟨j, hjm⟩ * rectDiag m n δ *
        (LM 1 1 (-(v * y')) (u * x') (⟨i, by omega⟩ : Fin n) ⟨j, hjn⟩)ᵀ =
      rectDiag m n (fun k => if k = j then x' * y' * g else if k = i then g else δ k) := by
  have hne : i ≠ j := by omega
  ext k l
  rw [mul_LMT]
  simp only [LM_mul, rectDiag_apply, Fin.ext_iff]
  by_cases hki : k.val = i
  · by_cases hli : l.val = i
    · simp [hki, hli, hne, hne.symm, hx, hy]
      linear_combination g * hb
    · by_cases hlj : l.val = j
      · simp [hki, hlj, hne, hne.symm, hx, hy]
        ring
      · simp [hki, hli, hlj, hne, Ne.symm hli, Ne.symm hlj]
  · by_cases hkj : k.val = j
    · by_cases hli : l.val = i
      · simp [hkj, hli, hne, hne.symm, hx, hy]
        ring
      · by_cases hlj : l.val = j
        · simp [hkj, hlj, hne, hne.symm, hx, hy]
          linear_combination (x' * y' * g) * hb
        · simp [hkj, hli, hlj, Ne.symm hli, Ne.symm hlj]
    · by_cases hli : l.val = i
      · simp [hki, hkj, hli, hne]
      · by_cases hlj : l.val = j
        · simp [hki, hkj, hlj]
        · simp [hki, hkj, hli, hlj]

private theorem gcd_arith (x y : ℤ) (hg : Int.gcd x y ≠ 0) : ∃ u v x' y' : ℤ,
    x = x' * (Int.gcd x y : ℤ) ∧ y = y' * (Int.gcd x y : ℤ) ∧ u * x' + v * y' = 1 ∧
    x * y / (Int.gcd x y : ℤ) = x' * y' * (Int.gcd x y : ℤ) := by
  have hbez := Int.gcd_eq_gcd_ab x y
  have hgx : (Int.gcd x y : ℤ) ∣ x := Int.gcd_dvd_left ..
  have hgy : (Int.gcd x y : ℤ) ∣ y := Int.gcd_dvd_right ..
  have hg0 : (Int.gcd x y : ℤ) ≠ 0 := by exact_mod_cast hg
  generalize (Int.gcd x y : ℤ) = g at *
  have hx : x = x / g * g := (Int.ediv_mul_cancel hgx).symm
  have hy : y = y / g * g := (Int.ediv_mul_cancel hgy).symm
  refine ⟨Int.gcdA x y, Int.gcdB x y, x / g, y / g, hx, hy, ?_, ?_⟩
  · apply mul_right_cancel₀ hg0
    linear_combination (-Int.gcdA x y) * hx + (-Int.gcdB x y) * hy - hbez
  · apply Int.ediv_eq_of_eq_mul_left hg0
    linear_combination y * hx + (x / g * g) * hy

private theorem getD_set_set (d : List ℤ) (i j : ℕ) (hij : i < j) (hj : j < d.length) (a b : ℤ) (k : ℕ) :
    ((d.set i a).set j b).getD k 0 = if k = j then b else if k = i then a else d.getD k 0 := by
  have hi : i < d.length := by omega
  by_cases hkj : k = j
  · subst hkj
    simp [hj]
  · rw [if_neg hkj]
    by_cases hki : k = i
    · subst hki
      simp [hi, Ne.symm hkj]
    · simp [Ne.symm hkj, Ne.symm hki, hki]

/-- the gcd/lcm step on two diagonal entries (Bézout): `diag(x, y) ~ diag(gcd x y, x*y / gcd x y)` -/
theorem equivDiag_gcd_pair {m n} {A : Matrix (Fin m) (Fin n) ℤ} {d : List ℤ} (h : EquivDiag A d)
    (i j : ℕ) (hij : i < j) (hj : j < d.length)
    (hg : Int.gcd (d.getD i 0) (d.getD j 0) ≠ 0) :
    EquivDiag A ((d.set i (Int.gcd (d.getD i 0) (d.getD j 0) : ℤ)).set j
      (d.getD i 0 * d.getD j 0 / (Int.gcd (d.getD i 0) (d.getD j 0) : ℤ))) := by
  obtain ⟨hlen, hreach⟩ := h
  refine EquivDiag.of_uequiv hreach ?_
  obtain ⟨u, v, x', y', hx, hy, hb, hz⟩ := gcd_arith _ _ hg
  have hne : i ≠ j := by omega
  have hjm : j < m := by omega
  have hjn : j < n := by omega
  have him : i < m := Nat.lt_trans hij hjm
  have hin : i < n := Nat.lt_trans hij hjn
  have core := gcd_core m n i j hij hjm hjn (fun k => d.getD k 0) u v x' y' _ hx hy hb
  have hF : ∀ {N : ℕ} (hi : i < N) (hj : j < N), (⟨i, hi⟩ : Fin N) ≠ ⟨j, hj⟩ := fun _ _ h => hne (Fin.mk.inj_iff.mp h)
  refine ⟨by rw [List.length_set, List.length_set]; exact hlen, LM u v (-y') x' (⟨i, him⟩ : Fin m) ⟨j, hjm⟩,
    (LM 1 1 (-(v * y')) (u * x') (⟨i, hin⟩ : Fin n) ⟨j, hjn⟩)ᵀ, ?_, ?_, ?_⟩
  · exact Matrix.isUnit_det_of_right_inverse (B := (LM x' y' (-v) u (⟨i, him⟩ : Fin m) ⟨j, hjm⟩)ᵀ)
      (LM_mul_LMT (hF him hjm) (by linear_combination hb) (by ring) (by ring) (by linear_combination hb))
  · rw [det_transpose]
    exact Matrix.isUnit_det_of_right_inverse (B := (LM (u * x') (v * y') (-1) 1 (⟨i, hin⟩ : Fin n) ⟨j, hjn⟩)ᵀ)
      (LM_mul_LMT (hF hin hjn) (by linear_combination hb) (by ring) (by ring) (by linear_combination hb))
  · rw [core]
    congr 1
    ext k
    rw [getD_set_set d i j hij hj, hz]

end Yuiv.KhSnf
