import Yuiv.Model.C13
import Yuiv.Proofs.Res
import Mathlib.Algebra.BigOperators.Ring.Finset
import Mathlib.Tactic.Ring
/-
C13 — entries of triplet lists, the COO→CSC kernel,
`from_entries`, `extract` and its clients.
-/
namespace Yuiv.C13
open Yuiv Res

variable {R : Type} [CommRing R]

theorem assert_true {c : Bool} (h : c = true) : Res.assert c = ok () := assert_eq_ok.2 h
theorem assert_false {c : Bool} (h : c = false) : Res.assert c = panic := by simp [Res.assert, h]

theorem decide_and_false {p q : Prop} [Decidable p] [Decidable q] (h : ¬ (p ∧ q)) : (decide p && decide q) = false := by
  rw [← Bool.decide_and, decide_eq_false h]

@[simp] theorem sumAt_nil (i : Nat) : sumAt ([] : List (Nat × R)) i = 0 := rfl

theorem sumAt_cons (k : Nat) (a : R) (c : List (Nat × R)) (i : Nat) :
    sumAt ((k, a) :: c) i = (if k = i then a else 0) + sumAt c i := by
  unfold sumAt
  by_cases h : k = i <;> simp [h]

theorem sumAt_append (c d : List (Nat × R)) (i : Nat) : sumAt (c ++ d) i = sumAt c i + sumAt d i := by
  unfold sumAt; simp [List.filter_append]

set_option linter.unusedSectionVars false in
variable [DecidableEq R] in
@[simp] theorem entryT_nil (i j : Nat) : entryT ([] : List (Trip R)) i j = 0 := rfl

theorem entryT_cons (t : Trip R) (ts : List (Trip R)) (i j : Nat) :
    entryT (t :: ts) i j = (if t.1 = i ∧ t.2.1 = j then t.2.2 else 0) + entryT ts i j := by
  unfold entryT
  rw [List.filter_cons]
  by_cases h : t.1 = i ∧ t.2.1 = j
  · rw [if_pos h, if_pos (by rw [Bool.and_eq_true, beq_iff_eq, beq_iff_eq]; exact h), List.map_cons, List.sum_cons]
  · rw [if_neg h, if_neg (by rw [Bool.and_eq_true, beq_iff_eq, beq_iff_eq]; exact h), zero_add]

theorem entryT_append (ts us : List (Trip R)) (i j : Nat) :
    entryT (ts ++ us) i j = entryT ts i j + entryT us i j := by
  unfold entryT; simp [List.filter_append]

theorem entryT_col (c : List (Nat × R)) (j0 i j : Nat) :
    entryT (c.map (fun p => (p.1, j0, p.2))) i j = if j0 = j then sumAt c i else 0 := by
  induction c with
  | nil => simp
  | cons p c ih =>
    obtain ⟨k, a⟩ := p
    rw [List.map_cons, entryT_cons, ih, sumAt_cons]
    dsimp only
    by_cases h1 : j0 = j
    · rw [if_pos h1, if_pos h1, if_congr (and_iff_left h1) rfl rfl]
    · rw [if_neg h1, if_neg h1, if_neg (fun e => h1 e.2), add_zero]

/-- a column is a triplet list with one column: the lemmas about `sumAt` below are those about `entryT` -/
theorem sumAt_eq_entryT (c : List (Nat × R)) (i : Nat) : sumAt c i = entryT (c.map (fun p => (p.1, 0, p.2))) i 0 := by
  rw [entryT_col, if_pos rfl]

theorem entryT_filter_ne_zero [DecidableEq R] (ts : List (Trip R)) (i j : Nat) :
    entryT (ts.filter (fun t => t.2.2 ≠ 0)) i j = entryT ts i j := by
  induction ts with
  | nil => rfl
  | cons t ts ih =>
    rw [List.filter_cons]
    by_cases h : t.2.2 = 0
    · rw [if_neg (by simp [h]), entryT_cons, ih, h]; simp
    · rw [if_pos (by simp [h]), entryT_cons, entryT_cons, ih]

theorem sumAt_filter_ne_zero [DecidableEq R] (c : List (Nat × R)) (i : Nat) :
    sumAt (c.filter (fun p => p.2 ≠ 0)) i = sumAt c i := by
  rw [sumAt_eq_entryT, sumAt_eq_entryT c, ← entryT_filter_ne_zero (c.map _), List.filter_map]
  rfl

theorem entryT_eq_zero (ts : List (Trip R)) (i j : Nat) (h : ∀ t ∈ ts, ¬ (t.1 = i ∧ t.2.1 = j)) :
    entryT ts i j = 0 := by
  induction ts with
  | nil => rfl
  | cons t ts ih =>
    rw [entryT_cons, if_neg (h t (by simp)), ih (fun t ht => h t (by simp [ht]))]; simp

theorem sumAt_eq_zero (c : List (Nat × R)) (i : Nat) (h : ∀ p ∈ c, p.1 ≠ i) : sumAt c i = 0 := by
  rw [sumAt_eq_entryT]
  apply entryT_eq_zero
  intro t ht e
  obtain ⟨p, hp, rfl⟩ := List.mem_map.mp ht
  exact h p hp e.1

theorem entryT_map_of_iff (g : Trip R → Trip R) (ts : List (Trip R)) (i j i' j' : Nat)
    (hv : ∀ t, (g t).2.2 = t.2.2)
    (h : ∀ t ∈ ts, (g t).1 = i' ∧ (g t).2.1 = j' ↔ t.1 = i ∧ t.2.1 = j) :
    entryT (ts.map g) i' j' = entryT ts i j := by
  induction ts with
  | nil => rfl
  | cons t ts ih =>
    rw [List.map_cons, entryT_cons, entryT_cons, ih (fun u hu => h u (List.mem_cons_of_mem _ hu)), hv,
      if_congr (h t List.mem_cons_self) rfl rfl]

theorem sumAt_map_of_iff (g : Nat × R → Nat × R) (c : List (Nat × R)) (i i' : Nat)
    (hv : ∀ p, (g p).2 = p.2) (h : ∀ p ∈ c, (g p).1 = i' ↔ p.1 = i) :
    sumAt (c.map g) i' = sumAt c i := by
  induction c with
  | nil => rfl
  | cons p c ih =>
    rw [List.map_cons, ← Prod.mk.eta (p := g p), ← Prod.mk.eta (p := p), sumAt_cons, sumAt_cons,
      ih (fun q hq => h q (List.mem_cons_of_mem _ hq)), hv, if_congr (h p List.mem_cons_self) rfl rfl]

theorem entryT_map_swap (ts : List (Trip R)) (i j : Nat) :
    entryT (ts.map (fun t => (t.2.1, t.1, t.2.2))) i j = entryT ts j i :=
  entryT_map_of_iff _ ts j i i j (fun _ => rfl) (fun _ _ => And.comm)

theorem entryT_filter_pos (Q : Nat → Nat → Bool) (ts : List (Trip R)) (i j : Nat) :
    entryT (ts.filter (fun t => Q t.1 t.2.1)) i j = if Q i j then entryT ts i j else 0 := by
  induction ts with
  | nil => simp
  | cons t ts ih =>
    rw [List.filter_cons, entryT_cons]
    by_cases hc : t.1 = i ∧ t.2.1 = j
    · rw [if_pos hc, hc.1, hc.2]
      by_cases hq : Q i j = true
      · rw [if_pos hq, if_pos hq, entryT_cons, if_pos hc, ih, if_pos hq]
      · rw [if_neg hq, if_neg hq, ih, if_neg hq]
    · rw [if_neg hc, zero_add]
      split
      · rw [entryT_cons, if_neg hc, zero_add, ih]
      · exact ih

theorem sumAt_filter_pos (Q : Nat → Bool) (c : List (Nat × R)) (i : Nat) :
    sumAt (c.filter (fun p => Q p.1)) i = if Q i then sumAt c i else 0 := by
  rw [sumAt_eq_entryT, sumAt_eq_entryT, ← entryT_filter_pos (fun i _ => Q i), List.filter_map]
  rfl

theorem filter_sum_eq_entryT (ts : List (Trip R)) (P : Trip R → Prop) [DecidablePred P] (i j : Nat)
    (h : ∀ t ∈ ts, P t ↔ t.1 = i ∧ t.2.1 = j) :
    ((ts.filter (fun t => decide (P t))).map (·.2.2)).sum = entryT ts i j := by
  unfold entryT
  congr 2
  apply List.filter_congr
  intro t ht
  rw [Bool.eq_iff_iff, Bool.and_eq_true, beq_iff_eq, beq_iff_eq, decide_eq_true_iff]
  exact h t ht

theorem entryT_tripsFrom (cs : List (List (Nat × R))) (j0 i j : Nat) :
    entryT (tripsFrom j0 cs) i j = if j0 ≤ j then sumAt (cs.getD (j - j0) []) i else 0 := by
  induction cs generalizing j0 with
  | nil => simp [tripsFrom]
  | cons c cs ih =>
    rw [tripsFrom, entryT_append, ih, entryT_col]
    by_cases h1 : j0 = j
    · subst h1
      rw [if_pos rfl, if_neg (Nat.not_succ_le_self _), if_pos (Nat.le_refl _), Nat.sub_self, List.getD_cons_zero,
        add_zero]
    · by_cases h2 : j0 + 1 ≤ j
      · rw [if_neg h1, if_pos h2, if_pos (Nat.le_of_succ_le h2), zero_add, show j - j0 = (j - (j0 + 1)) + 1 by omega,
          List.getD_cons_succ]
      · rw [if_neg h1, if_neg h2, if_neg (fun h => h2 (Nat.lt_of_le_of_ne h h1)), add_zero]

theorem entryT_triplets (A : SpMat R) (i j : Nat) : entryT A.triplets i j = A.entry i j := by
  unfold SpMat.triplets SpMat.entry; rw [entryT_tripsFrom]; simp

structure SpMat.WF (A : SpMat R) : Prop where
  len : A.cols.length = A.ncols
  bound : ∀ c ∈ A.cols, ∀ p ∈ c, p.1 < A.nrows
  sorted : ∀ c ∈ A.cols, (c.map (·.1)).Pairwise (· < ·)

omit [CommRing R] in
theorem mem_tripsFrom (cs : List (List (Nat × R))) (j0 : Nat) (t : Trip R) :
    t ∈ tripsFrom j0 cs ↔ ∃ k, ∃ h : k < cs.length, t.2.1 = j0 + k ∧ (t.1, t.2.2) ∈ cs[k] := by
  induction cs generalizing j0 with
  | nil => exact ⟨fun h => (nomatch h), fun ⟨_, hk, _⟩ => (nomatch hk)⟩
  | cons c cs ih =>
    rw [tripsFrom, List.mem_append, ih]
    constructor
    · rintro (h | ⟨k, hk, h1, h2⟩)
      · obtain ⟨p, hp, rfl⟩ := List.mem_map.mp h
        exact ⟨0, Nat.zero_lt_succ _, rfl, hp⟩
      · exact ⟨k + 1, Nat.succ_lt_succ hk, by omega, h2⟩
    · rintro ⟨k, hk, h1, h2⟩
      cases k with
      | zero => exact .inl (List.mem_map.mpr ⟨(t.1, t.2.2), h2, by rw [← Nat.add_zero j0, ← h1]⟩)
      | succ k => exact .inr ⟨k, Nat.lt_of_succ_lt_succ hk, by omega, h2⟩

omit [CommRing R] in
theorem SpMat.WF.trip_bound {A : SpMat R} (h : A.WF) {t : Trip R} (ht : t ∈ A.triplets) :
    t.1 < A.nrows ∧ t.2.1 < A.ncols := by
  unfold SpMat.triplets at ht
  rw [mem_tripsFrom] at ht
  obtain ⟨k, hk, h1, h2⟩ := ht
  exact ⟨h.bound _ (List.getElem_mem hk) _ h2, by rw [h1, ← h.len]; omega⟩

theorem SpMat.WF.entry_oob {A : SpMat R} (h : A.WF) (i j : Nat) (hij : ¬ (i < A.nrows ∧ j < A.ncols)) :
    A.entry i j = 0 := by
  rw [← entryT_triplets]
  apply entryT_eq_zero
  intro t ht ⟨h1, h2⟩
  exact hij (h1 ▸ h2 ▸ h.trip_bound ht)

theorem sumAt_colEntries (es : List (Trip R)) (i j : Nat) : sumAt (colEntries es j) i = entryT es i j := by
  induction es with
  | nil => rfl
  | cons t es ih =>
    obtain ⟨a, b, v⟩ := t
    by_cases h : b = j
    · simp [colEntries, h, sumAt_cons, entryT_cons] at ih ⊢
      rw [ih]
    · simp [colEntries, h, entryT_cons] at ih ⊢
      rw [ih]

theorem filter_map_key {α : Type} (l : List Nat) (g : Nat → α) (hl : l.Nodup) (i : Nat) :
    (l.map (fun k => (k, g k))).filter (fun p => p.1 == i) = if i ∈ l then [(i, g i)] else [] := by
  induction l with
  | nil => simp
  | cons a l ih =>
    have hn := List.nodup_cons.mp hl
    rw [List.map_cons, List.filter_cons, ih hn.2]
    by_cases h : a = i
    · subst h; simp [hn.1]
    · have h' : i ≠ a := fun e => h e.symm
      simp [h, h']

theorem sumAt_compressCol (m : Nat) (c : List (Nat × R)) (i : Nat) :
    sumAt (compressCol m c) i = if i < m then sumAt c i else 0 := by
  unfold compressCol
  have hnd : ((List.range m).filter (fun i => c.any (fun p => p.1 == i))).Nodup :=
    (List.nodup_range).filter _
  unfold sumAt
  rw [filter_map_key _ _ hnd]
  by_cases h1 : i < m
  · by_cases h2 : c.any (fun p => p.1 == i) = true
    · simp [h1, h2]
    · have : c.filter (fun p => p.1 == i) = [] := by
        rw [List.filter_eq_nil_iff]; intro p hp hpi
        exact h2 (List.any_eq_true.mpr ⟨p, hp, hpi⟩)
      simp [h1, h2, this]
  · simp [h1]

theorem entry_cooToCsc (m n : Nat) (es : List (Trip R)) (i j : Nat) :
    (cooToCsc m n es).entry i j = if i < m ∧ j < n then entryT es i j else 0 := by
  unfold SpMat.entry cooToCsc
  by_cases hj : j < n
  · simp only [List.getD_eq_getElem?_getD, List.getElem?_map]
    rw [List.getElem?_range hj]
    simp [sumAt_compressCol, sumAt_colEntries, hj]
  · simp [List.getD_eq_getElem?_getD, hj]

omit [CommRing R] in
theorem wf_of_rangeCols (m n : Nat) (q : Nat → Nat → Bool) (g : Nat → Nat → R) :
    (⟨m, n, (List.range n).map (fun j => ((List.range m).filter (q j)).map (fun i => (i, g j i)))⟩ : SpMat R).WF := by
  refine ⟨by simp, ?_, ?_⟩
  · intro c hc p hp
    obtain ⟨j, _, rfl⟩ := List.mem_map.mp hc
    obtain ⟨i, hi, rfl⟩ := List.mem_map.mp hp
    exact List.mem_range.mp (List.mem_of_mem_filter hi)
  · intro c hc
    obtain ⟨j, _, rfl⟩ := List.mem_map.mp hc
    rw [List.map_map, show ((fun p : Nat × R => p.1) ∘ fun i => (i, g j i)) = id from rfl, List.map_id]
    exact (List.pairwise_lt_range).filter _

theorem cooToCsc_wf (m n : Nat) (es : List (Trip R)) : (cooToCsc m n es).WF :=
  wf_of_rangeCols m n (fun j i => (colEntries es j).any (fun p => p.1 == i)) (fun j i => sumAt (colEntries es j) i)

variable [DecidableEq R]

/-- the precondition of `from_entries`: every non-zero entry is inside the shape -/
def InShape (m n : Nat) (es : List (Trip R)) : Prop := ∀ t ∈ es, t.2.2 ≠ 0 → t.1 < m ∧ t.2.1 < n

omit [DecidableEq R] in
theorem cooFrom_ok (m n : Nat) (es : List (Trip R)) (h : ∀ t ∈ es, t.1 < m ∧ t.2.1 < n) :
    cooFrom m n es = ok (cooToCsc m n es) := by
  unfold cooFrom
  rw [if_pos]
  rw [List.all_eq_true]
  intro t ht
  simp [(h t ht).1, (h t ht).2]

theorem fromEntries_ok (m n : Nat) (es : List (Trip R)) (h : InShape m n es) :
    fromEntries m n es = ok (cooToCsc m n (es.filter (fun t => t.2.2 ≠ 0))) :=
  cooFrom_ok m n _ (fun t ht => h t (List.mem_of_mem_filter ht) (by simpa using (List.mem_filter.mp ht).2))

theorem fromEntries_panic (m n : Nat) (es : List (Trip R)) (h : ¬ InShape m n es) :
    fromEntries m n es = panic := by
  unfold fromEntries cooFrom
  rw [if_neg]
  intro hall
  apply h
  intro t ht hnz
  rw [List.all_eq_true] at hall
  have := hall t (List.mem_filter.mpr ⟨ht, by simpa using hnz⟩)
  simpa using this

theorem fromEntries_spec (m n : Nat) (es : List (Trip R)) (A : SpMat R) (h : fromEntries m n es = ok A) :
    A.nrows = m ∧ A.ncols = n ∧ A.WF ∧ ∀ i j, A.entry i j = if i < m ∧ j < n then entryT es i j else 0 := by
  by_cases hs : InShape m n es
  · rw [fromEntries_ok m n es hs] at h
    cases h
    refine ⟨rfl, rfl, cooToCsc_wf _ _ _, ?_⟩
    intro i j
    rw [entry_cooToCsc, entryT_filter_ne_zero]
  · rw [fromEntries_panic m n es hs] at h; cases h

omit [DecidableEq R] in
theorem entry_cooToCsc_inShape (m n : Nat) (es : List (Trip R)) (h : ∀ t ∈ es, t.1 < m ∧ t.2.1 < n) (i j : Nat) :
    (cooToCsc m n es).entry i j = entryT es i j := by
  rw [entry_cooToCsc]
  split
  · rfl
  · rename_i hij
    exact (entryT_eq_zero es i j (fun t ht e => hij (e.1 ▸ e.2 ▸ h t ht))).symm

theorem fromEntries_inShape (m n : Nat) (es : List (Trip R)) (h : ∀ t ∈ es, t.1 < m ∧ t.2.1 < n) :
    ∃ A, fromEntries m n es = ok A ∧ A.nrows = m ∧ A.ncols = n ∧ A.WF ∧ ∀ i j, A.entry i j = entryT es i j :=
  ⟨_, fromEntries_ok m n es (fun t ht _ => h t ht), rfl, rfl, cooToCsc_wf _ _ _, fun i j => by
    rw [entry_cooToCsc_inShape _ _ _ (fun t ht => h t (List.mem_of_mem_filter ht)), entryT_filter_ne_zero]⟩

/-- the map `i ↦ p.at(i)` of a permutation value -/
def Perm.fn (p : Perm) (i : Nat) : Nat :=
  match p.map with
  | none => i
  | some l => l.getD i i

/-- a value that `PermOwned::new` / `identity` can produce -/
def Perm.Valid (p : Perm) : Prop :=
  ∀ l, p.map = some l → l.length = p.dim ∧ l.Nodup ∧ ∀ x ∈ l, x < p.dim

theorem Perm.at_ok (p : Perm) (hv : p.Valid) (i : Nat) (hi : i < p.dim) : p.at i = ok (p.fn i) := by
  unfold Perm.at Perm.fn
  rw [if_pos hi]
  cases hm : p.map with
  | none => rfl
  | some l =>
    have hl := (hv l hm).1
    have : i < l.length := hl ▸ hi
    simp [List.getElem?_eq_getElem this, List.getD_eq_getElem?_getD]

theorem Perm.at_panic (p : Perm) (i : Nat) (hi : ¬ i < p.dim) : p.at i = panic := by
  unfold Perm.at; rw [if_neg hi]

theorem Perm.fn_lt (p : Perm) (hv : p.Valid) (i : Nat) (hi : i < p.dim) : p.fn i < p.dim := by
  unfold Perm.fn
  cases hm : p.map with
  | none => exact hi
  | some l =>
    obtain ⟨hl, _, hb⟩ := hv l hm
    have : i < l.length := hl ▸ hi
    simp only [List.getD_eq_getElem?_getD, List.getElem?_eq_getElem this, Option.getD_some]
    exact hb _ (List.getElem_mem this)

theorem Perm.fn_inj (p : Perm) (hv : p.Valid) (i j : Nat) (hi : i < p.dim) (hj : j < p.dim)
    (h : p.fn i = p.fn j) : i = j := by
  unfold Perm.fn at h
  cases hm : p.map with
  | none => simpa [hm] using h
  | some l =>
    obtain ⟨hl, hnd, _⟩ := hv l hm
    have h1 : i < l.length := hl ▸ hi
    have h2 : j < l.length := hl ▸ hj
    simp only [hm, List.getD_eq_getElem?_getD, List.getElem?_eq_getElem h1, List.getElem?_eq_getElem h2,
      Option.getD_some] at h
    exact (List.Nodup.getElem_inj_iff hnd).mp h

theorem Perm.identity_valid (n : Nat) : (Perm.identity n).Valid := by
  intro l h; simp [Perm.identity] at h

@[simp] theorem Perm.identity_fn (n i : Nat) : (Perm.identity n).fn i = i := rfl
@[simp] theorem Perm.identity_dim (n : Nat) : (Perm.identity n).dim = n := rfl

theorem permIsValidGo_iff (n : Nat) (seen l : List Nat) :
    permIsValidGo n seen l = true ↔ (∀ x ∈ l, x < n ∧ x ∉ seen) ∧ l.Nodup := by
  induction l generalizing seen with
  | nil => simp [permIsValidGo]
  | cons a l ih =>
    rw [permIsValidGo]
    by_cases h : a ≥ n ∨ a ∈ seen
    · have : (decide (a ≥ n) || seen.contains a) = true := by
        rcases h with h | h <;> simp [h]
      rw [if_pos this]
      constructor
      · intro hf; cases hf
      · rintro ⟨h1, _⟩
        have := h1 a (by simp)
        rcases h with h | h
        · omega
        · exact absurd h this.2
    · have h' : ¬ a ≥ n ∧ a ∉ seen := not_or.mp h
      have : ¬ ((decide (a ≥ n) || seen.contains a) = true) := by simp [h'.1, h'.2]
      rw [if_neg this, ih]
      simp only [List.mem_cons, List.nodup_cons]
      constructor
      · rintro ⟨h1, h2⟩
        refine ⟨?_, ?_, h2⟩
        · rintro x (rfl | hx)
          · exact ⟨by omega, h'.2⟩
          · exact ⟨(h1 x hx).1, fun hs => (h1 x hx).2 (Or.inr hs)⟩
        · intro ha; exact (h1 a ha).2 (Or.inl rfl)
      · rintro ⟨h1, h2, h3⟩
        refine ⟨?_, h3⟩
        intro x hx
        refine ⟨(h1 x (Or.inr hx)).1, ?_⟩
        rintro (rfl | hs)
        · exact h2 hx
        · exact (h1 x (Or.inr hx)).2 hs

theorem permIsValid_iff (l : List Nat) : permIsValid l = true ↔ (∀ x ∈ l, x < l.length) ∧ l.Nodup := by
  unfold permIsValid; rw [permIsValidGo_iff]; simp

theorem Perm.new_ok (l : List Nat) (h1 : ∀ x ∈ l, x < l.length) (h2 : l.Nodup) :
    Perm.new l = ok ⟨l.length, some l⟩ ∧ (⟨l.length, some l⟩ : Perm).Valid := by
  refine ⟨by unfold Perm.new; rw [if_pos ((permIsValid_iff l).mpr ⟨h1, h2⟩)], ?_⟩
  intro l' hl'; cases hl'; exact ⟨rfl, h2, h1⟩

theorem Perm.new_panic (l : List Nat) (h : ¬ ((∀ x ∈ l, x < l.length) ∧ l.Nodup)) : Perm.new l = panic := by
  unfold Perm.new; rw [if_neg (fun hv => h ((permIsValid_iff l).mp hv))]

omit [CommRing R] [DecidableEq R] in
theorem mapTrips_ok (f : Nat → Nat → Res (Option (Nat × Nat))) (g : Nat → Nat → Option (Nat × Nat))
    (ts : List (Trip R)) (h : ∀ t ∈ ts, f t.1 t.2.1 = ok (g t.1 t.2.1)) :
    mapTrips f ts = ok (ts.filterMap (fun t => (g t.1 t.2.1).map (fun x => (x.1, x.2, t.2.2)))) := by
  induction ts with
  | nil => rfl
  | cons t ts ih =>
    obtain ⟨i, j, a⟩ := t
    have h0 := h (i, j, a) (by simp)
    simp only at h0
    rw [mapTrips, h0, ih (fun t ht => h t (by simp [ht]))]
    cases hg : g i j with
    | none => simp [hg]
    | some x => obtain ⟨x1, x2⟩ := x; simp [hg]

omit [CommRing R] [DecidableEq R] in
theorem mapTrips_panic (f : Nat → Nat → Res (Option (Nat × Nat))) (ts : List (Trip R))
    (hne : ∀ t ∈ ts, f t.1 t.2.1 ≠ err) (h : ∃ t ∈ ts, f t.1 t.2.1 = panic) : mapTrips f ts = panic := by
  induction ts with
  | nil => obtain ⟨t, ht, _⟩ := h; cases ht
  | cons t ts ih =>
    obtain ⟨i, j, a⟩ := t
    rw [mapTrips]
    cases hf : f i j with
    | panic => rfl
    | err => exact absurd hf (hne (i, j, a) (by simp))
    | ok r =>
      have : mapTrips f ts = panic := by
        apply ih (fun t ht => hne t (by simp [ht]))
        obtain ⟨t, ht, hp⟩ := h
        rcases List.mem_cons.mp ht with rfl | ht'
        · simp only at hp; rw [hf] at hp; cases hp
        · exact ⟨t, ht', hp⟩
      simp [this]

omit [DecidableEq R] in
theorem entryT_filterMap (g : Nat → Nat → Option (Nat × Nat)) (ts : List (Trip R)) (i' j' : Nat) :
    entryT (ts.filterMap (fun t => (g t.1 t.2.1).map (fun x => (x.1, x.2, t.2.2)))) i' j'
      = ((ts.filter (fun t => g t.1 t.2.1 = some (i', j'))).map (·.2.2)).sum := by
  induction ts with
  | nil => rfl
  | cons t ts ih =>
    obtain ⟨i, j, a⟩ := t
    rw [List.filterMap_cons, List.filter_cons]
    cases hg : g i j with
    | none => simp [ih]
    | some x =>
      obtain ⟨x1, x2⟩ := x
      simp only [Option.map_some, entryT_cons, ih]
      by_cases hx : x1 = i' ∧ x2 = j'
      · obtain ⟨rfl, rfl⟩ := hx; simp
      · have : ¬ ((x1, x2) = (i', j')) := by simpa [Prod.ext_iff] using hx
        simp [hx, this]

set_option linter.unusedSectionVars false in
theorem entryT_filterMap_of_iff (g : Nat → Nat → Option (Nat × Nat)) (ts : List (Trip R)) (i j i' j' : Nat)
    (h : ∀ t ∈ ts, g t.1 t.2.1 = some (i', j') ↔ t.1 = i ∧ t.2.1 = j) :
    entryT (ts.filterMap (fun t => (g t.1 t.2.1).map (fun x => (x.1, x.2, t.2.2)))) i' j' = entryT ts i j := by
  rw [entryT_filterMap]
  exact filter_sum_eq_entryT ts _ i j h

omit [CommRing R] [DecidableEq R] in
theorem mem_filterMap_trips (g : Nat → Nat → Option (Nat × Nat)) (ts : List (Trip R)) (u : Trip R)
    (hu : u ∈ ts.filterMap (fun t => (g t.1 t.2.1).map (fun x => (x.1, x.2, t.2.2)))) :
    ∃ t ∈ ts, g t.1 t.2.1 = some (u.1, u.2.1) ∧ u.2.2 = t.2.2 := by
  rw [List.mem_filterMap] at hu
  obtain ⟨t, ht, h⟩ := hu
  refine ⟨t, ht, ?_⟩
  cases hg : g t.1 t.2.1 with
  | none => simp [hg] at h
  | some x => simp [hg] at h; subst h; simp

theorem extract_spec (A : SpMat R) (m n : Nat) (f : Nat → Nat → Res (Option (Nat × Nat)))
    (g : Nat → Nat → Option (Nat × Nat))
    (hf : ∀ t ∈ A.triplets, f t.1 t.2.1 = ok (g t.1 t.2.1))
    (hg : ∀ t ∈ A.triplets, ∀ x, g t.1 t.2.1 = some x → x.1 < m ∧ x.2 < n) :
    ∃ B, A.extract m n f = ok B ∧ B.nrows = m ∧ B.ncols = n ∧ B.WF ∧
      ∀ i' j', i' < m → j' < n →
        B.entry i' j' = ((A.triplets.filter (fun t => g t.1 t.2.1 = some (i', j'))).map (·.2.2)).sum := by
  unfold SpMat.extract
  rw [mapTrips_ok f g _ hf]
  simp only [bind_ok]
  have hs : InShape m n (A.triplets.filterMap (fun t => (g t.1 t.2.1).map (fun x => (x.1, x.2, t.2.2)))) := by
    intro u hu _
    obtain ⟨t, ht, h1, _⟩ := mem_filterMap_trips g _ u hu
    exact hg t ht _ h1
  rw [fromEntries_ok _ _ _ hs]
  obtain ⟨h1, h2, h3, h4⟩ := fromEntries_spec m n _ _ (fromEntries_ok _ _ _ hs)
  refine ⟨_, rfl, h1, h2, h3, ?_⟩
  intro i' j' hi hj
  rw [h4, if_pos ⟨hi, hj⟩, entryT_filterMap]

def winReloc (a0 a1 x : Nat) : Option Nat := if a0 ≤ x && x < a1 then some (x - a0) else none

theorem winReloc_lt (a0 a1 x i : Nat) (h : winReloc a0 a1 x = some i) : i < a1 - a0 := by
  unfold winReloc at h
  split at h
  · rename_i hc
    simp only [Bool.and_eq_true, decide_eq_true_eq] at hc
    cases h
    exact Nat.sub_lt_sub_right hc.1 hc.2
  · cases h

theorem winReloc_iff (a0 a1 x i : Nat) (hi : i < a1 - a0) : winReloc a0 a1 x = some i ↔ x = a0 + i := by
  unfold winReloc
  split
  · rename_i hc
    simp only [Bool.and_eq_true, decide_eq_true_eq] at hc
    rw [Option.some.injEq]
    exact Nat.sub_eq_iff_eq_add' hc.1
  · rename_i hc
    simp only [Bool.and_eq_true, decide_eq_true_eq] at hc
    simp only [reduceCtorEq, false_iff]
    exact fun e => hc ⟨e ▸ Nat.le_add_right _ _, e ▸ Nat.add_lt_of_lt_sub' hi⟩

def submatReloc (i0 i1 j0 j1 a b : Nat) : Option (Nat × Nat) :=
  if (i0 ≤ a && a < i1) && (j0 ≤ b && b < j1) then some (a - i0, b - j0) else none

theorem submatReloc_eq (i0 i1 j0 j1 a b : Nat) (x : Nat × Nat) :
    submatReloc i0 i1 j0 j1 a b = some x ↔ winReloc i0 i1 a = some x.1 ∧ winReloc j0 j1 b = some x.2 := by
  unfold submatReloc winReloc
  cases (decide (i0 ≤ a) && decide (a < i1)) <;> cases (decide (j0 ≤ b) && decide (b < j1)) <;>
    simp [Prod.ext_iff]

theorem submatReloc_bound (i0 i1 j0 j1 a b : Nat) (x : Nat × Nat) (h : submatReloc i0 i1 j0 j1 a b = some x) :
    x.1 < i1 - i0 ∧ x.2 < j1 - j0 :=
  ⟨winReloc_lt _ _ _ _ ((submatReloc_eq _ _ _ _ _ _ x).mp h).1, winReloc_lt _ _ _ _ ((submatReloc_eq _ _ _ _ _ _ x).mp h).2⟩

theorem submatReloc_iff (i0 i1 j0 j1 a b i j : Nat) (hi : i < i1 - i0) (hj : j < j1 - j0) :
    submatReloc i0 i1 j0 j1 a b = some (i, j) ↔ a = i0 + i ∧ b = j0 + j :=
  (submatReloc_eq _ _ _ _ _ _ (i, j)).trans (and_congr (winReloc_iff _ _ _ _ hi) (winReloc_iff _ _ _ _ hj))

theorem submat_spec (A : SpMat R) (i0 i1 j0 j1 : Nat)
    (hi : i0 ≤ i1 ∧ i1 ≤ A.nrows) (hj : j0 ≤ j1 ∧ j1 ≤ A.ncols) :
    ∃ B, A.submat i0 i1 j0 j1 = ok B ∧ B.nrows = i1 - i0 ∧ B.ncols = j1 - j0 ∧ B.WF ∧
      ∀ i j, i < i1 - i0 → j < j1 - j0 → B.entry i j = A.entry (i0 + i) (j0 + j) := by
  unfold SpMat.submat
  rw [assert_true (by simp [hi]), assert_true (by simp [hj])]
  simp only [bind_ok]
  obtain ⟨B, hB, h1, h2, h3, h4⟩ := extract_spec A (i1 - i0) (j1 - j0)
    (fun i j => ok (submatReloc i0 i1 j0 j1 i j)) (submatReloc i0 i1 j0 j1) (fun t _ => rfl)
    (fun t _ x hx => submatReloc_bound _ _ _ _ _ _ x hx)
  refine ⟨B, hB, h1, h2, h3, fun i j hi' hj' => ?_⟩
  rw [h4 i j hi' hj', ← entryT_triplets]
  exact filter_sum_eq_entryT _ _ _ _ (fun t _ => submatReloc_iff _ _ _ _ _ _ i j hi' hj')

def SpVec.WF (v : SpVec R) : Prop := v.toMat.WF

omit [CommRing R] [DecidableEq R] in
theorem SpVec.WF.bound {v : SpVec R} (h : v.WF) : ∀ p ∈ v.ents, p.1 < v.dim :=
  SpMat.WF.bound h v.ents (List.mem_singleton.mpr rfl)

omit [CommRing R] [DecidableEq R] in
theorem SpVec.WF.sorted {v : SpVec R} (h : v.WF) : (v.ents.map (·.1)).Pairwise (· < ·) :=
  SpMat.WF.sorted h v.ents (List.mem_singleton.mpr rfl)

omit [DecidableEq R] in
theorem SpVec.WF.entry_oob {v : SpVec R} (h : v.WF) (i : Nat) (hi : ¬ i < v.dim) : v.entry i = 0 := by
  apply sumAt_eq_zero
  intro p hp e
  exact hi (e ▸ h.bound p hp)

set_option linter.unusedSectionVars false in
theorem SpVec.toMat_entry (v : SpVec R) (i : Nat) : v.toMat.entry i 0 = v.entry i := rfl

omit [DecidableEq R] in
theorem intoSpVec_spec (A : SpMat R) (hA : A.WF) (h : A.ncols = 1) :
    ∃ v, A.intoSpVec = ok v ∧ v.dim = A.nrows ∧ v.WF ∧ ∀ i, v.entry i = A.entry i 0 := by
  refine ⟨⟨A.nrows, A.cols.getD 0 []⟩, by rw [SpMat.intoSpVec, if_pos h], rfl, ?_, fun i => rfl⟩
  obtain ⟨c, hc⟩ := List.length_eq_one_iff.mp (hA.len.trans h)
  have hmem : A.cols.getD 0 [] ∈ A.cols := by rw [hc]; exact List.mem_singleton.mpr rfl
  exact ⟨rfl, fun c' hc' => List.mem_singleton.mp hc' ▸ hA.bound _ hmem,
    fun c' hc' => List.mem_singleton.mp hc' ▸ hA.sorted _ hmem⟩

end Yuiv.C13
