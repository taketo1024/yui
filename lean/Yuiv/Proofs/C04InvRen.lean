import Yuiv.Proofs.C04InvUF
import Yuiv.Proofs.C04
/-
C04Inv (helper, no property theorem here): invariance of the model's circle counts — hence of the executable
`jones` / `chiChain` coefficient lists, LITERALLY — under an injective renumbering `f : ℕ → ℕ` of the edge labels.
-/
open Yuiv.KhRef Yuiv.C04
namespace Yuiv.C04Inv

def renumber (f : Nat → Nat) (l : Link) : Link := l.map (fun c => ⟨c.ct, c.e.map f⟩)

def pmap (f : Nat → Nat) (p : Nat × Nat) : Nat × Nat := (f p.1, f p.2)

theorem crossingNum_renumber (f : Nat → Nat) (l : Link) : crossingNum (renumber f l) = crossingNum l := by
  unfold crossingNum renumber
  rw [Array.filter_map]
  simp [Function.comp_def]

theorem WF_renumber {f : Nat → Nat} {l : Link} (h : WF l) : WF (renumber f l) := by
  intro c hc
  unfold renumber at hc
  obtain ⟨c0, hc0, rfl⟩ := Array.mem_map.mp hc
  simpa using h c0 hc0

theorem labelSet_renumber (f : Nat → Nat) (l : Link) : labelSet (renumber f l) = f '' labelSet l := by
  ext x
  simp only [labelSet, renumber, Set.mem_ofPred_eq, Set.mem_image, Array.mem_map]
  constructor
  · rintro ⟨c, ⟨c0, hc0, rfl⟩, hx⟩
    obtain ⟨y, hy, rfl⟩ := Array.mem_map.mp hx
    exact ⟨y, ⟨c0, hc0, hy⟩, rfl⟩
  · rintro ⟨y, ⟨c0, hc0, hy⟩, rfl⟩
    exact ⟨_, ⟨c0, hc0, rfl⟩, Array.mem_map.mpr ⟨y, hy, rfl⟩⟩

theorem resTypes_map (g : Crossing → Crossing) (hg : ∀ c, (g c).ct = c.ct) (cs : List Crossing) (s : Nat) :
    resTypes (cs.map g) s = resTypes cs s := by
  induction cs generalizing s with
  | nil => rfl
  | cons c cs ih => simp [resTypes, hg, ih]

theorem arcs_map (f : Nat → Nat) (c : Crossing) (hc : c.e.size = 4) (t : CT) :
    arcs ⟨c.ct, c.e.map f⟩ t = (arcs c t).map (pmap f) := by
  have g : ∀ j < 4, (c.e.map f)[j]! = f c.e[j]! := by
    intro j hj
    rw [getElem!_pos _ j (by simpa using (by omega : j < c.e.size)), getElem!_pos c.e j (by omega)]
    simp
  unfold arcs
  rw [List.map_map]
  apply List.map_congr_left
  intro x hx
  simp only [Function.comp, pmap, g _ (arcIdx_lt hx).1, g _ (arcIdx_lt hx).2]

theorem pairsL_map (f : Nat → Nat) (cs : List Crossing) (hwf : ∀ c ∈ cs, c.e.size = 4) (ts : List CT) :
    pairsL (cs.map (fun c => ⟨c.ct, c.e.map f⟩)) ts = (pairsL cs ts).map (pmap f) := by
  induction cs generalizing ts with
  | nil => simp [pairsL]
  | cons c cs ih =>
    cases ts with
    | nil => simp [pairsL]
    | cons t ts =>
      simp only [List.map_cons, pairsL, List.map_append]
      rw [arcs_map f c (hwf c (by simp)), ih (fun c hc => hwf c (List.mem_cons_of_mem _ hc))]

theorem statePairs_renumber (f : Nat → Nat) (l : Link) (hwf : WF l) (s : Nat) :
    statePairs (renumber f l) s = (statePairs l s).map (pmap f) := by
  unfold statePairs renumber
  rw [Array.toList_map, resTypes_map (fun c => ⟨c.ct, c.e.map f⟩) (fun _ => rfl), pairsL_map f _ (fun c hc => hwf c (by simpa using hc))]

theorem Conn.map (f : Nat → Nat) {P : List (Nat × Nat)} {x y : Nat} (c : Conn P x y) :
    Conn (P.map (pmap f)) (f x) (f y) :=
  Conn.lift f (fun p hp => Conn.of_mem (List.mem_map.mpr ⟨p, hp, rfl⟩)) c

theorem Conn.of_map {f : Nat → Nat} {L : Set Nat} (hf : Set.InjOn f L) {P : List (Nat × Nat)}
    (hP : ∀ p ∈ P, p.1 ∈ L ∧ p.2 ∈ L) {a b : Nat}
    (c : Conn (P.map (pmap f)) a b) : a = b ∨ ∃ x ∈ L, ∃ y ∈ L, a = f x ∧ b = f y ∧ Conn P x y := by
  induction c with
  | rel a b r =>
    obtain ⟨p, hp, e⟩ := List.mem_map.mp r
    simp only [pmap, Prod.mk.injEq] at e
    exact Or.inr ⟨p.1, (hP p hp).1, p.2, (hP p hp).2, e.1.symm, e.2.symm, Conn.of_mem hp⟩
  | refl a => exact Or.inl rfl
  | symm a b _ ih =>
    rcases ih with h | ⟨x, hx, y, hy, h1, h2, h3⟩
    · exact Or.inl h.symm
    · exact Or.inr ⟨y, hy, x, hx, h2, h1, h3.symm⟩
  | trans a b c _ _ ih1 ih2 =>
    rcases ih1 with h | ⟨x, hx, y, hy, h1, h2, h3⟩
    · subst h; exact ih2
    · rcases ih2 with h | ⟨y', hy', z, hz, h1', h2', h3'⟩
      · subst h; exact Or.inr ⟨x, hx, y, hy, h1, h2, h3⟩
      · have : y = y' := hf hy hy' (h2.symm.trans h1')
        subst this
        exact Or.inr ⟨x, hx, z, hz, h1, h2', h3.trans h3'⟩

theorem Conn.map_iff {f : Nat → Nat} {L : Set Nat} (hf : Set.InjOn f L) {P : List (Nat × Nat)}
    (hP : ∀ p ∈ P, p.1 ∈ L ∧ p.2 ∈ L) {x y : Nat} (hx : x ∈ L) (hy : y ∈ L) :
    Conn (P.map (pmap f)) (f x) (f y) ↔ Conn P x y := by
  constructor
  · intro c
    rcases c.of_map hf hP with h | ⟨x', hx', y', hy', h1, h2, h3⟩
    · rw [hf hx hy h]; exact Conn.refl _
    · rw [hf hx hx' h1, hf hy hy' h2]; exact h3
  · exact Conn.map f

theorem IsTransversal.map {f : Nat → Nat} {L : Set Nat} (hf : Set.InjOn f L) {P : List (Nat × Nat)}
    (hP : ∀ p ∈ P, p.1 ∈ L ∧ p.2 ∈ L) {T : List Nat} (h : IsTransversal L P T) :
    IsTransversal (f '' L) (P.map (pmap f)) (T.map f) := by
  refine ⟨List.Nodup.map_on (fun x hx y hy e => hf (h.sub x hx) (h.sub y hy) e) h.nodup, ?_, ?_, ?_⟩
  · intro t ht
    obtain ⟨t0, ht0, rfl⟩ := List.mem_map.mp ht
    exact ⟨t0, h.sub t0 ht0, rfl⟩
  · intro t1 ht1 t2 ht2 c
    obtain ⟨a, ha, rfl⟩ := List.mem_map.mp ht1
    obtain ⟨b, hb, rfl⟩ := List.mem_map.mp ht2
    rw [h.sep a ha b hb ((Conn.map_iff hf hP (h.sub a ha) (h.sub b hb)).mp c)]
  · rintro _ ⟨x, hx, rfl⟩
    obtain ⟨t, ht, c⟩ := h.cover x hx
    exact ⟨f t, List.mem_map.mpr ⟨t, ht, rfl⟩, c.map f⟩

theorem statePairs_sub (l : Link) (hwf : WF l) (s : Nat) :
    ∀ p ∈ statePairs l s, p.1 ∈ labelSet l ∧ p.2 ∈ labelSet l := by
  intro p hp
  obtain ⟨c, hc, h1, h2⟩ := mem_pairsL (fun c hc => hwf c (by simpa using hc)) hp
  exact ⟨⟨c, by simpa using hc, h1⟩, ⟨c, by simpa using hc, h2⟩⟩

theorem circleCount_renumber_on {f : Nat → Nat} (l : Link) (hf : Set.InjOn f (labelSet l)) (hwf : WF l) (s : Nat) :
    circleCount (renumber f l) s = circleCount l s := by
  obtain ⟨h1, T, hT⟩ := circleCount_eq l hwf s
  obtain ⟨h2, _⟩ := circleCount_eq (renumber f l) (WF_renumber hwf) s
  rw [h1, h2, classCount_eq_length hT, labelSet_renumber, statePairs_renumber f l hwf,
    classCount_eq_length (hT.map hf (statePairs_sub l hwf s)), List.length_map]

theorem circleCount_renumber {f : Nat → Nat} (hf : Function.Injective f) (l : Link) (hwf : WF l) (s : Nat) :
    circleCount (renumber f l) s = circleCount l s :=
  circleCount_renumber_on l hf.injOn hwf s

theorem jones_renumber_on {f : Nat → Nat} (l : Link) (hf : Set.InjOn f (labelSet l)) (hwf : WF l)
    (signs : Array Int) : jones (renumber f l) signs = jones l signs := by
  have h : circleCount (renumber f l) = circleCount l := funext (circleCount_renumber_on l hf hwf)
  unfold jones
  rw [crossingNum_renumber, h]

theorem jones_renumber {f : Nat → Nat} (hf : Function.Injective f) (l : Link) (hwf : WF l) (signs : Array Int) :
    jones (renumber f l) signs = jones l signs :=
  jones_renumber_on l hf.injOn hwf signs

theorem chiChain_renumber_on {f : Nat → Nat} (l : Link) (hf : Set.InjOn f (labelSet l)) (hwf : WF l)
    (signs : Array Int) : chiChain (renumber f l) signs = chiChain l signs := by
  unfold chiChain
  dsimp only
  rw [mkCube_n, mkCube_n, crossingNum_renumber]
  apply List.foldl_ext
  intro acc s hs
  have hs' := List.mem_range.mp hs
  rw [mkCube_gensAt _ s (by rwa [crossingNum_renumber]), mkCube_gensAt l s hs', circleCount_renumber_on l hf hwf,
    ← Array.foldl_toList, ← Array.foldl_toList]
  apply List.foldl_ext
  intro acc g hg
  simp only [Array.toList_map, Array.toList_range, List.mem_map, List.mem_range] at hg
  obtain ⟨m, _, rfl⟩ := hg
  rw [mkCube_qDeg _ _ s m (by rwa [crossingNum_renumber]), mkCube_qDeg l _ s m hs', circleCount_renumber_on l hf hwf,
    crossingNum_renumber]

theorem chiChain_renumber {f : Nat → Nat} (hf : Function.Injective f) (l : Link) (hwf : WF l) (signs : Array Int) :
    chiChain (renumber f l) signs = chiChain l signs :=
  chiChain_renumber_on l hf.injOn hwf signs

end Yuiv.C04Inv
