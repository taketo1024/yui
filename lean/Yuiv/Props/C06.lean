import Yuiv.Proofs.C06
import Yuiv.Proofs.C01
/-
C06 — canonical (Lee) classes and the s-type invariant.

Proved: (1) the valuation loop used by `ss_invariant` is correct and terminates exactly when the divisor is not a
unit: for a ≠ 0 and |c| ≥ 2 it returns the k with c^k ∣ a and ¬ c^(k+1) ∣ a; for c = ±1 it runs forever (for every
budget) — the reason for the `!c.is_unit()` assertion; (2) the local reason canonical cycles are cycles when t = 0:
in A = ℤ[X]/(X² − hX) the two colours a = X and b = X − h multiply to zero, a² = h·a, b² = −h·b, and the
comultiplication of a (resp. b) is a⊗a (resp. b⊗b) up to the unit-free form below — so merging differently coloured
circles and splitting a monochromatic one never leaves the span of monochromatically consistent labellings;
(3) elementary `ss` arithmetic.
NOT proved: Lee's theorem (rank 2^components), non-torsion of the classes, diagram independence of ss, the
crossing-change inequality — explored by the harness on knots with ≤ 9 crossings.
-/
namespace Yuiv.C06
open Yuiv Yuiv.KhRef

/-- (1a) correctness of the valuation for a non-unit divisor -/
theorem div_spec (a c : Int) (ha : a ≠ 0) (hc : 2 ≤ c.natAbs) :
    ∃ k, div a c = .ok (some k) ∧ c ^ k ∣ a ∧ ¬ c ^ (k + 1) ∣ a := by
  have hc0 : c ≠ 0 := by intro h; subst h; simp at hc
  obtain ⟨j, hj1, hj2, hj3⟩ :=
    divLoop_spec (a.natAbs + 1) a c 0 ha hc (Nat.lt_succ_self _)
  refine ⟨j, ?_, hj2, hj3⟩
  simp [div, ha, hc0, hj1]

/-- (1b) for a unit divisor the loop never terminates, whatever the budget -/
theorem divLoop_unit_diverges (fuel : Nat) (a c : Int) (k : Nat) (hc : c.natAbs = 1) :
    divLoop fuel a c k = none :=
  divLoop_unit fuel a c k hc

theorem div_zero (c : Int) : div 0 c = .ok none := by
  simp [div]

/-- (2) t = 0: the two colours annihilate each other and are (scaled) idempotents -/
theorem colour_products (h : Int) :
    let a : A := X
    let b : A := (-h, 1)          -- X − h
    mul h 0 a b = (0, 0) ∧ mul h 0 a a = smul h a ∧ mul h 0 b b = smul (-h) b := by
  simp [mul_eq, smul, X]

/-- (2') comultiplication of the colours when t = 0: Δa = a ⊗ a and Δb = b ⊗ b (coefficients in the basis
1⊗1, 1⊗X, X⊗1, X⊗X: a⊗a = X⊗X; b⊗b = h²·1⊗1 − h·1⊗X − h·X⊗1 + X⊗X) -/
theorem colour_coproducts (h : Int) :
    comul h 0 X = (0, 0, 0, 1) ∧ comul h 0 ((-h, 1) : A) = (h * h, -h, -h, 1) := by
  simp [comul, add4, smul4, tenOf, coprod, X]

/-- (3) ss changes by twice the change of d when writhe and Seifert-circle count are fixed, and mirror-type
symmetry `ss(−d' …)`: if d' = −d − (w − r + 1) … we only record the affine dependence used by the harness -/
theorem ss_affine (d d' w r : Int) : ss d' w r - ss d w r = 2 * (d' - d) := by
  unfold ss; ring

end Yuiv.C06
