import Yuiv.Proofs.Res
/-
Two ways of specifying a computation without unfolding it at every use: `Le` compares two runs of one program under
different resources, `Conv` is total correctness of a fuel-indexed computation.
-/
namespace Yuiv.Res
variable {α β γ σ : Type}

/-- `x` is the run with more assertions compiled in and less fuel: `y` agrees with it unless `x` panicked (allowed
when `p`) or ran out of fuel (allowed when `q`) -/
def Le (p q : Prop) (x y : Res β) : Prop := (p ∧ x = .panic) ∨ (q ∧ x = .err) ∨ x = y

namespace Le
variable {p q : Prop}

theorem rfl {x : Res β} : Le p q x x := .inr (.inr (Eq.refl x))

theorem panic (hp : p) {y : Res β} : Le p q .panic y := .inl ⟨hp, Eq.refl _⟩

theorem err (hq : q) {y : Res β} : Le p q .err y := .inr (.inl ⟨hq, Eq.refl _⟩)

theorem imp {p' q' : Prop} {x y : Res β} (h : Le p q x y) (hp : p → p') (hq : q → q') : Le p' q' x y :=
  Or.imp (And.imp_left hp) (Or.imp (And.imp_left hq) id) h

theorem bind {x y : Res β} {f g : β → Res γ} (hx : Le p q x y) (hf : ∀ v, Le p q (f v) (g v)) :
    Le p q (x >>= f) (y >>= g) := by
  rcases hx with ⟨hp, rfl⟩ | ⟨hq, rfl⟩ | rfl
  · exact panic hp
  · exact err hq
  · cases x with
    | ok v => exact hf v
    | panic => exact rfl
    | err => exact rfl

theorem ite {c : Prop} [Decidable c] {x y x' y' : Res β} (hx : Le p q x x') (hy : Le p q y y') :
    Le p q (if c then x else y) (if c then x' else y') := by
  split
  · exact hx
  · exact hy

theorem dite {c : Prop} [Decidable c] {x x' : c → Res β} {y y' : ¬ c → Res β} (hx : ∀ h, Le p q (x h) (x' h))
    (hy : ∀ h, Le p q (y h) (y' h)) : Le p q (if h : c then x h else y h) (if h : c then x' h else y' h) := by
  split
  · exact hx _
  · exact hy _

theorem foldlM {f g : σ → α → Res σ} (h : ∀ s a, Le p q (f s a) (g s a)) :
    ∀ {l : List α} {s : σ}, Le p q (l.foldlM f s) (l.foldlM g s)
  | [], _ => rfl
  | a :: l, s => by
    rw [List.foldlM_cons, List.foldlM_cons]
    exact bind (h s a) fun _ => foldlM h

theorem eq_of_ok {x y : Res β} {v : β} (h : Le p q x y) (hx : x = .ok v) : y = .ok v := by
  subst hx
  rcases h with ⟨_, h⟩ | ⟨_, h⟩ | h
  · cases h
  · cases h
  · exact h.symm

theorem eq_of_ne_err {x y : Res β} (h : Le p q x y) (hp : ¬ p) (hx : x ≠ .err) : y = x := by
  rcases h with ⟨h, _⟩ | ⟨_, h⟩ | h
  · exact absurd h hp
  · exact absurd h hx
  · exact h.symm

end Le

/-- below a threshold `N ≤ B` the computation reports exhaustion, from `N` on it returns one and the same value, which
satisfies `Q` (so the threshold of `x >>= f` is the maximum of the two thresholds) -/
def Conv (f : Nat → Res β) (B : Nat) (Q : β → Prop) : Prop :=
  ∃ N v, N ≤ B ∧ Q v ∧ ∀ fuel, f fuel = if fuel < N then .err else .ok v

namespace Conv
variable {f : Nat → Res β} {B : Nat} {Q : β → Prop}

theorem ne_panic (h : Conv f B Q) (fuel : Nat) : f fuel ≠ .panic := by
  obtain ⟨N, v, _, _, hf⟩ := h
  rw [hf]; split <;> nofun

theorem post (h : Conv f B Q) {fuel : Nat} {v : β} (hv : f fuel = .ok v) : Q v := by
  obtain ⟨N, w, _, hq, hf⟩ := h
  rw [hf] at hv
  split at hv
  · cases hv
  · cases hv; exact hq

theorem ne_err (h : Conv f B Q) {fuel : Nat} (hB : B ≤ fuel) : f fuel ≠ .err := by
  obtain ⟨N, v, hN, _, hf⟩ := h
  rw [hf, if_neg (by omega)]; nofun

theorem mono (h : Conv f B Q) {fuel fuel' : Nat} (hne : f fuel ≠ .err) (hle : fuel ≤ fuel') :
    f fuel' = f fuel := by
  obtain ⟨N, v, _, _, hf⟩ := h
  rw [hf] at hne
  rw [hf, hf]
  split at hne
  · exact absurd (Eq.refl _) hne
  · rw [if_neg (by omega), if_neg (by omega)]

theorem total (h : Conv f B Q) : ∃ v, Q v ∧ ∀ fuel, B ≤ fuel → f fuel = .ok v := by
  obtain ⟨N, v, hN, hq, hf⟩ := h
  exact ⟨v, hq, fun fuel hB => by rw [hf, if_neg (by omega)]⟩

theorem imp {Q' : β → Prop} {B' : Nat} (h : Conv f B Q) (hB : B ≤ B') (hQ : ∀ v, Q v → Q' v) : Conv f B' Q' := by
  obtain ⟨N, v, hN, hq, hf⟩ := h
  exact ⟨N, v, by omega, hQ v hq, hf⟩

theorem const {x : Res β} {v : β} (hx : x = .ok v) (hq : Q v) : Conv (fun _ => x) 0 Q :=
  ⟨0, v, Nat.le_refl _, hq, fun _ => hx⟩

theorem bind {g : Nat → β → Res γ} {B' : Nat} {Q' : γ → Prop} (h : Conv f B Q)
    (hg : ∀ v, Q v → Conv (fun fuel => g fuel v) B' Q') : Conv (fun fuel => f fuel >>= g fuel) (max B B') Q' := by
  obtain ⟨N, v, hN, hq, hf⟩ := h
  obtain ⟨N', w, hN', hq', hg⟩ := hg v hq
  refine ⟨max N N', w, by omega, hq', fun fuel => ?_⟩
  show f fuel >>= g fuel = _
  have hg : g fuel v = if fuel < N' then .err else .ok w := hg fuel
  rw [hf]
  by_cases h1 : fuel < N
  · rw [if_pos h1, if_pos (by omega)]; rfl
  · rw [if_neg h1, Res.bind_ok, hg]
    by_cases h2 : fuel < N'
    · rw [if_pos h2, if_pos (by omega)]
    · rw [if_neg h2, if_neg (by omega)]

theorem succ {F G : Nat → Res β} (h0 : F 0 = .err) (hs : ∀ fuel, F (fuel + 1) = G fuel) (h : Conv G B Q) :
    Conv F (B + 1) Q := by
  obtain ⟨N, v, hN, hq, hf⟩ := h
  refine ⟨N + 1, v, by omega, hq, fun fuel => ?_⟩
  cases fuel with
  | zero => rw [h0, if_pos (by omega)]
  | succ fuel =>
    rw [hs, hf]
    by_cases h1 : fuel < N
    · rw [if_pos h1, if_pos (by omega)]
    · rw [if_neg h1, if_neg (by omega)]

theorem of_eq {f' : Nat → Res β} (hf : ∀ fuel, f fuel = f' fuel) (h : Conv f' B Q) : Conv f B Q := by
  obtain ⟨N, v, hN, hq, h⟩ := h
  exact ⟨N, v, hN, hq, fun fuel => (hf fuel).trans (h fuel)⟩

theorem exists_eq (h : Conv f B Q) : ∃ v, Q v ∧ Conv f B (· = v) := by
  obtain ⟨N, v, hN, hq, h⟩ := h
  exact ⟨v, hq, N, v, hN, Eq.refl v, h⟩

theorem map {Q' : γ → Prop} (k : β → γ) (h : Conv f B Q) (hk : ∀ v, Q v → Q' (k v)) :
    Conv (fun fuel => f fuel >>= fun v => .ok (k v)) B Q' :=
  (h.bind (g := fun _ v => .ok (k v)) fun v hv => const (Eq.refl _) (hk v hv)).imp (by omega) fun _ => id

theorem bind_exists {g : Nat → β → Res γ} {Q' : γ → Prop} (h : Conv f B Q)
    (hg : ∀ v, Q v → ∃ B', Conv (fun fuel => g fuel v) B' Q') : ∃ B', Conv (fun fuel => f fuel >>= g fuel) B' Q' := by
  obtain ⟨v, hq, hv⟩ := h.exists_eq
  obtain ⟨B', h'⟩ := hg v hq
  exact ⟨_, hv.bind fun w hw => hw ▸ h'⟩

theorem foldlM {f : Nat → σ → α → Res σ} {l : List α} (P : List α → σ → Prop)
    (hstep : ∀ pre x post s, l = pre ++ x :: post → P pre s →
      ∃ B, Conv (fun fuel => f fuel s x) B (P (pre ++ [x])))
    {s : σ} (h0 : P [] s) : ∃ B, Conv (fun fuel => l.foldlM (f fuel) s) B (P l) := by
  suffices ∀ (post pre : List α) (s : σ), l = pre ++ post → P pre s →
      ∃ B, Conv (fun fuel => post.foldlM (f fuel) s) B (P l) from this l [] s (Eq.refl _) h0
  intro post
  induction post with
  | nil =>
    intro pre s e hp
    rw [List.append_nil] at e
    subst e
    exact ⟨0, const (Eq.refl _) hp⟩
  | cons x post ih =>
    intro pre s e hp
    obtain ⟨B, hB⟩ := hstep pre x post s e hp
    exact (hB.bind_exists fun y hy => ih (pre ++ [x]) y (by rw [e, List.append_assoc]; rfl) hy).imp fun B' h =>
      h.of_eq fun fuel => List.foldlM_cons

end Conv

end Yuiv.Res
