import Yuiv.Proofs.C04ReidR1
import Yuiv.Proofs.C04ReidR2
/-
C04Reid (helper, no property theorem here): the concrete Reidemeister II move on a PD code.
`addBigon l ia ja ib jb c d a2 b2 np` : the slots `(ia, ja)` and `(ib, jb)` of the diagram (ends of the edges
`a = l[ia].e[ja]`, `b = l[ib].e[jb]`) receive the fresh labels `a2`, `b2`, and the two crossings of the bigon
(`bigonPair`, fresh inner labels `c`, `d`) are added in front of the crossing list.
-/
open Yuiv.KhRef Yuiv.C04
namespace Yuiv.C04Inv

/-- the two crossings of a bigon: `np = false`: `X[a,c,d,b], X[d,c,a2,b2]`; `np = true`: `X[b,a,c,d], X[c,a2,b2,d]` -/
def bigonPair (np : Bool) (a b c d a2 b2 : Nat) : Crossing × Crossing :=
  if np then (⟨.X, #[b, a, c, d]⟩, ⟨.X, #[c, a2, b2, d]⟩) else (⟨.X, #[a, c, d, b]⟩, ⟨.X, #[d, c, a2, b2]⟩)

def addBigon (l : Link) (ia ja ib jb c d a2 b2 : Nat) (np : Bool) : Link :=
  ((bigonPair np l[ia]!.e[ja]! l[ib]!.e[jb]! c d a2 b2).1 :: (bigonPair np l[ia]!.e[ja]! l[ib]!.e[jb]! c d a2 b2).2 ::
    (splitSlot (splitSlot l ia ja a2) ib jb b2).toList).toArray

theorem set_get_ne {α} [Inhabited α] (xs : Array α) (i j : Nat) (a : α) (h : i ≠ j) :
    (xs.setIfInBounds i a)[j]! = xs[j]! := by
  by_cases hj : j < xs.size
  · rw [getElem!_pos _ j (by simpa using hj), getElem!_pos _ j hj, Array.getElem_setIfInBounds hj, if_neg h]
  · rw [getElem!_neg _ j (by simpa using hj), getElem!_neg _ j hj]

theorem set_get_self {α} [Inhabited α] (xs : Array α) (i : Nat) (a : α) (h : i < xs.size) :
    (xs.setIfInBounds i a)[i]! = a := by
  rw [getElem!_pos _ i (by simpa using h), Array.getElem_setIfInBounds h, if_pos rfl]

theorem splitSlot_get_other (l : Link) (ia ja ib jb u : Nat) (hne : ¬ (ia = ib ∧ ja = jb)) :
    (splitSlot l ia ja u)[ib]!.e[jb]! = l[ib]!.e[jb]! := by
  unfold splitSlot
  by_cases h : ia = ib
  · subst h
    have hne' : ja ≠ jb := fun h => hne ⟨rfl, h⟩
    by_cases hi : ia < l.size
    · rw [set_get_self _ _ _ hi, set_get_ne _ _ _ _ hne']
    · rw [Array.setIfInBounds_eq_of_size_le (by omega)]
  · rw [set_get_ne _ _ _ _ h]

theorem slot_mem_labelSet {l : Link} (hwf : WF l) {i j : Nat} (hi : i < l.size) (hj : j < 4) :
    l[i]!.e[j]! ∈ labelSet l := by
  have h4 : l[i].e.size = 4 := hwf _ (Array.getElem_mem hi)
  rw [getElem!_pos l i hi, getElem!_pos l[i].e j (by omega)]
  exact ⟨l[i], Array.getElem_mem hi, Array.getElem_mem _⟩

theorem addBigon_spec (l : Link) (hwf : WF l) {ia ja ib jb c d a2 b2 : Nat}
    (hia : ia < l.size) (hja : ja < 4) (hib : ib < l.size) (hjb : jb < 4) (hne : ¬ (ia = ib ∧ ja = jb))
    (hc : c ∉ labelSet l) (hd : d ∉ labelSet l) (ha2 : a2 ∉ labelSet l) (hb2 : b2 ∉ labelSet l)
    (cd : c ≠ d) (ca2 : c ≠ a2) (cb2 : c ≠ b2) (da2 : d ≠ a2) (db2 : d ≠ b2) (a2b2 : a2 ≠ b2) :
    WF (splitSlot (splitSlot l ia ja a2) ib jb b2) ∧
    BigonLabels (splitSlot (splitSlot l ia ja a2) ib jb b2) l[ia]!.e[ja]! l[ib]!.e[jb]! c d a2 b2 ∧
    renumber (collapse2 l[ia]!.e[ja]! l[ib]!.e[jb]! c d a2 b2) (splitSlot (splitSlot l ia ja a2) ib jb b2) = l ∧
    l[ia]!.e[ja]! ∈ labelSet l ∧ l[ib]!.e[jb]! ∈ labelSet l := by
  have ham := slot_mem_labelSet hwf hia hja
  have hbm := slot_mem_labelSet hwf hib hjb
  generalize hadef : l[ia]!.e[ja]! = a at *
  generalize hbdef : l[ib]!.e[jb]! = b at *
  have hib1 : ib < (splitSlot l ia ja a2).size := by simpa [splitSlot] using hib
  have hwf1 := WF_splitSlot hwf hia ja a2
  have hwf2 := WF_splitSlot hwf1 hib1 jb b2
  have hlab : ∀ z ∈ labelSet (splitSlot (splitSlot l ia ja a2) ib jb b2), z ∈ labelSet l ∨ z = a2 ∨ z = b2 := by
    intro z hz
    rcases labelSet_splitSlot hib1 jb b2 hz with h | h
    · rcases labelSet_splitSlot hia ja a2 h with h | h
      · exact Or.inl h
      · exact Or.inr (Or.inl h)
    · exact Or.inr (Or.inr h)
  have ne_of : ∀ {u v : Nat}, u ∈ labelSet l → v ∉ labelSet l → v ≠ u := fun hu hv h => hv (h ▸ hu)
  have hBL : BigonLabels (splitSlot (splitSlot l ia ja a2) ib jb b2) a b c d a2 b2 :=
    { hc := fun h => by rcases hlab c h with h | h | h; exacts [hc h, ca2 h, cb2 h]
      hd := fun h => by rcases hlab d h with h | h | h; exacts [hd h, da2 h, db2 h]
      ca := ne_of ham hc, cb := ne_of hbm hc, ca2 := ca2, cb2 := cb2
      da := ne_of ham hd, db := ne_of hbm hd, da2 := da2, db2 := db2
      cd := cd, ab2 := (ne_of ham hb2).symm, ba2 := (ne_of hbm ha2).symm, a2b2 := a2b2 }
  obtain ⟨va, vb, vc, vd, va2, vb2⟩ := collapse2_vals hBL
  refine ⟨hwf2, hBL, ?_, ham, hbm⟩
  rw [renumber_splitSlot_gen _ _ ib jb b2 (by rw [splitSlot_get_other l ia ja ib jb a2 hne, hbdef, vb2, vb]),
    renumber_splitSlot_gen _ _ ia ja a2 (by
      rw [hadef, va2, va])]
  apply renumber_fix
  intro z hz
  unfold collapse2
  rw [if_neg (by rintro (h | h); exact hc (h ▸ hz); exact ha2 (h ▸ hz)),
    if_neg (by rintro (h | h); exact hd (h ▸ hz); exact hb2 (h ▸ hz))]

end Yuiv.C04Inv
