import Yuiv.Proofs.C12
import Mathlib.Tactic.Linarith
import Mathlib.Algebra.Ring.MinimalAxioms
import Mathlib.Algebra.Field.Rat
import Mathlib.Data.ZMod.Defs
import Mathlib.Algebra.Ring.Int.Defs

namespace Yuiv.C12
open Yuiv

instance : LawfulScal Int where
  zero_eq := rfl
  one_eq := rfl
  add_eq _ _ := rfl
  sub_eq _ _ := rfl
  mul_eq _ _ := rfl
  neg_eq _ := rfl
  isZero_iff a := by simp [Scal.isZero]
  inv_mul a b h := by
    simp only [Scal.inv] at h
    split at h
    · rename_i hu
      cases h
      rcases (by simpa using hu : a = 1 ∨ a = -1) with rfl | rfl <;> rfl
    · cases h

instance : LawfulScal Rat where
  zero_eq := rfl
  one_eq := rfl
  add_eq _ _ := rfl
  sub_eq _ _ := rfl
  mul_eq _ _ := rfl
  neg_eq _ := rfl
  isZero_iff a := by simp [Scal.isZero, Rat.num_eq_zero]
  inv_mul a b h := by
    simp only [Scal.inv] at h
    split at h
    · cases h
    · rename_i hz
      cases h
      have : a ≠ 0 := by simpa [Rat.num_eq_zero] using hz
      exact mul_inv_cancel₀ this

open Fin.CommRing in
instance : LawfulScal (Fin 5) where
  zero_eq := rfl
  one_eq := rfl
  add_eq _ _ := rfl
  sub_eq _ _ := rfl
  mul_eq _ _ := rfl
  neg_eq _ := rfl
  isZero_iff a := by revert a; decide
  inv_mul := by decide

namespace GI
theorem ext' {x y : GI} (h1 : x.re = y.re) (h2 : x.im = y.im) : x = y := by
  cases x; cases y; simp_all

instance : Add GI := ⟨GI.add⟩
instance : Mul GI := ⟨GI.mul⟩
instance : Neg GI := ⟨GI.neg⟩
instance : Zero GI := ⟨⟨0, 0⟩⟩
instance : One GI := ⟨⟨1, 0⟩⟩

@[simp] theorem add_re (x y : GI) : (x + y).re = x.re + y.re := rfl
@[simp] theorem add_im (x y : GI) : (x + y).im = x.im + y.im := rfl
@[simp] theorem mul_re (x y : GI) : (x * y).re = x.re * y.re - x.im * y.im := rfl
@[simp] theorem mul_im (x y : GI) : (x * y).im = x.re * y.im + x.im * y.re := rfl
@[simp] theorem neg_re (x : GI) : (-x).re = -x.re := rfl
@[simp] theorem neg_im (x : GI) : (-x).im = -x.im := rfl
@[simp] theorem zero_re : (0 : GI).re = 0 := rfl
@[simp] theorem zero_im : (0 : GI).im = 0 := rfl
@[simp] theorem one_re : (1 : GI).re = 1 := rfl
@[simp] theorem one_im : (1 : GI).im = 0 := rfl

instance : CommRing GI :=
  CommRing.ofMinimalAxioms
    (fun _ _ _ => ext' (Int.add_assoc _ _ _) (Int.add_assoc _ _ _))
    (fun _ => ext' (Int.zero_add _) (Int.zero_add _))
    (fun _ => ext' (Int.add_left_neg _) (Int.add_left_neg _))
    (fun a b c => ext' (by simp only [mul_re, mul_im]; ring) (by simp only [mul_re, mul_im]; ring))
    (fun a b => ext' (by simp only [mul_re, mul_im]; ring) (by simp only [mul_re, mul_im]; ring))
    (fun a => ext' (by simp only [mul_re, one_re, one_im]; ring) (by simp only [mul_im, one_re, one_im]; ring))
    (fun a b c => ext' (by simp only [mul_re, add_re, add_im]; ring) (by simp only [mul_im, add_re, add_im]; ring))

theorem sub_re (x y : GI) : (x - y).re = x.re - y.re := by
  rw [sub_eq_add_neg, add_re, neg_re, Int.sub_eq_add_neg]
theorem sub_im (x y : GI) : (x - y).im = x.im - y.im := by
  rw [sub_eq_add_neg, add_im, neg_im, Int.sub_eq_add_neg]
end GI

instance : LawfulScal GI where
  zero_eq := rfl
  one_eq := rfl
  add_eq _ _ := rfl
  sub_eq a b := GI.ext' (by rw [GI.sub_re]; rfl) (by rw [GI.sub_im]; rfl)
  mul_eq _ _ := rfl
  neg_eq _ := rfl
  isZero_iff a := by
    constructor
    · intro h
      have : a.re = 0 ∧ a.im = 0 := by simpa [Scal.isZero] using h
      exact GI.ext' this.1 this.2
    · rintro rfl; rfl
  inv_mul a b h := by
    simp only [Scal.inv, GI.inv] at h
    split at h
    · rename_i hu
      cases h
      have hn : GI.norm a = 1 ∨ GI.norm a = -1 := by simpa using hu
      have hpos : 0 ≤ GI.norm a := Int.add_nonneg (mul_self_nonneg a.re) (mul_self_nonneg a.im)
      have h1 : GI.norm a = 1 := by omega
      have h1' : a.re * a.re + a.im * a.im = 1 := h1
      apply GI.ext'
      · show a.re * (GI.mul ⟨GI.norm a, 0⟩ (GI.conj a)).re - a.im * (GI.mul ⟨GI.norm a, 0⟩ (GI.conj a)).im = 1
        simp only [GI.mul, GI.conj, h1]; linarith
      · show a.re * (GI.mul ⟨GI.norm a, 0⟩ (GI.conj a)).im + a.im * (GI.mul ⟨GI.norm a, 0⟩ (GI.conj a)).re = 0
        simp only [GI.mul, GI.conj, h1]; ring
    · cases h

end Yuiv.C12
