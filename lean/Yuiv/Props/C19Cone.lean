import Yuiv.Proofs.C19ConeSq
import Yuiv.Proofs.C19ConeEx
import Yuiv.Props.C19Comm
/-
C19 (extension) — THE REFERENCE CONE OF `1 + τ` IS A CHAIN COMPLEX, with `d∘d = 0` proved, not assumed.

`Props/C19Comm.icube_cone_is_complex` needs `d∘d = 0 (mod 2)` of the cube at `g` in the count form
`∀ z, count z ((dK g).flatMap dK) % 2 = 0`.  Here it is discharged from `Props/C01Sq.khref_d_squared_zero` (integer
coefficients, the driver's `dOfChain … = some []`): a zero integer coefficient of `d (d g)` is an even number of pairs of
odd-coefficient terms (`khref_dsq_mod2`).

Setting: `mkICube l p = some ic`.  Its cube is the cube of the link with the base point of the involutive link
(`Props/C19Comm.mkicube_tst_is_tstate`), so in the REDUCED theory it is based at `l.base` (on the axis), not at the base
edge of `mkCube` — the reduced statement therefore goes through `C01Sq.d_squared_zero_reduced_of` for an arbitrary base
edge that is a label.  As found in `Props/C01Sq`: the reduced reference is a complex only for `t = 0` (`X·X = hX + t`); for
`t = 1` neither the cube nor the cone is (`example` at the end; `khiHomology` answers `notComplex`, the harness requests
the reduced theory with `t = 0` only).

`khi_instance_ok_sound`: ONE decidable check `khiInstanceOk l p` (`Proofs/C19ConeDefs.lean`, Mathlib-free) ⇒ `mkICube` succeeds,
and on every generator τ is an involution, preserves the homological and the quantum degree and the reduced sub-complex, is a
chain map, maps edges along `k` to edges along `π k`, and the cone is a complex.
Per-instance (decidable, evaluated not proved): `validK`, at most 64 labels, `cubeOK`, `icubeWf'`, `piInvolB`.
-/
namespace Yuiv.C19Cone
open Yuiv Yuiv.KhRef Yuiv.C19 Yuiv.C06Cycle Yuiv.C19Inv Yuiv.C19Comm Matrix

/-- reduction mod 2 of the integer statement: if `d g` is defined and the driver's evaluation of `d` on the chain `d g`
is the zero chain, every generator occurs an even number of times in `(dK g).flatMap dK` (`dK` = targets of the terms with
odd coefficient) -/
theorem khref_dsq_mod2 (c : Cube) (p : Params) (g : Gen) (ts : Array Term) (hd : c.d p g = some ts)
    (hz : Yuiv.Drv.C06.dOfChain c p ts.toList = some []) (z : Gen) :
    ((dK c p g).flatMap (dK c p)).count z % 2 = 0 :=
  dsq_even_of_dOfChain c p g ts hd hz z

/-- `d∘d = 0 (mod 2)` on the cube of `mkICube`: unreduced for all `h`, `t`; reduced (`redOk`: `t = 0` and the base point is an
edge label, or there is no base point) on the generators whose base circle is labelled `X` (`baseKeep`, vacuous when
unreduced) -/
theorem icube_d_squared_even (l : InvLink) (p : Params) (ic : ICube) (hic : mkICube l p = some ic)
    (hv : validK l.link = true) (hL : (edgeLabels l.link).size ≤ 64) (hok : C02Mirror.cubeOK ic.cube)
    (hred : redOk l p = true) (g : Gen) (hs : g.s < 2 ^ ic.cube.n) (hg : baseKeep ic.cube g = true) (z : Gen) :
    ((dK ic.cube p g).flatMap (dK ic.cube p)).count z % 2 = 0 :=
  icube_dsq_even l p ic hic hv hL hok hred g hs hg z

/-- UNREDUCED theory, all `(h, t)`: for a valid diagram with at most 64 labels whose cube has only merge/split edges, under
the τ-check `icubeWf'`, the cone of `1 + τ` satisfies `D∘D = 0 (mod 2)` at `Bg` and `Qg` for every generator `g` -/
theorem icube_cone_is_complex_valid (l : InvLink) (p : Params) (hr : p.reduced = false) (ic : ICube)
    (hic : mkICube l p = some ic) (hv : validK l.link = true) (hL : (edgeLabels l.link).size ≤ 64)
    (hok : C02Mirror.cubeOK (mkCube l.link p)) (F : Array Nat → Array Nat) (hwf : icubeWf' F ic = true)
    (g : Gen) (hs : g.s < 2 ^ ic.cube.n) (b : Bool) (z : IGen) :
    ((dI ic p (b, g)).flatMap (dI ic p)).count z % 2 = 0 := by
  obtain ⟨hc, _⟩ := mkICube_tst l p ic hic
  have hb : ic.cube.base = none := by rw [hc]; simp [icCube, hr]
  have hok' : C02Mirror.cubeOK ic.cube := by rw [hc]; exact hok
  have hred : redOk l p = true := by simp [redOk, hr]
  exact icube_cone_is_complex F ic hwf p g hs
    (icube_d_squared_even l p ic hic hv hL hok' hred g hs (baseKeep_of_unreduced _ hb g)) b z

/-- REDUCED theory, `t = 0` (any `h`), based at the on-axis point `l.base = some e`, `e` an edge label: the same for the
generators of the reduced complex (base circle labelled `X`) -/
theorem icube_cone_is_complex_valid_reduced (l : InvLink) (p : Params) (ht : p.t = 0) (e : Nat) (hbase : l.base = some e)
    (he : e ∈ edgeLabels l.link) (ic : ICube)
    (hic : mkICube l p = some ic) (hv : validK l.link = true) (hL : (edgeLabels l.link).size ≤ 64)
    (hok : C02Mirror.cubeOK (mkCube l.link p)) (F : Array Nat → Array Nat) (hwf : icubeWf' F ic = true)
    (g : Gen) (hs : g.s < 2 ^ ic.cube.n) (hg : baseKeep ic.cube g = true) (b : Bool) (z : IGen) :
    ((dI ic p (b, g)).flatMap (dI ic p)).count z % 2 = 0 := by
  obtain ⟨hc, _⟩ := mkICube_tst l p ic hic
  have hok' : C02Mirror.cubeOK ic.cube := by rw [hc]; exact hok
  have hred : redOk l p = true := by
    unfold redOk
    rw [hbase]
    simp [ht, he]
  exact icube_cone_is_complex F ic hwf p g hs (icube_d_squared_even l p ic hic hv hL hok' hred g hs hg) b z

/-- THE MATRIX FORM through `cone_d_sq`: for a duplicate-free list of generators of the (reduced) complex closed under `d`
and `τ`, over any commutative ring of characteristic 2: `τ·d = d·τ` and `[[d, 0], [1 + τ, d]]² = 0` — `d·d = 0` is not
assumed -/
theorem icube_cone_matrix_valid {R : Type} [CommRing R] [CharP R 2] (l : InvLink) (p : Params) (ic : ICube)
    (hic : mkICube l p = some ic) (hv : validK l.link = true) (hL : (edgeLabels l.link).size ≤ 64)
    (hok : C02Mirror.cubeOK ic.cube) (hred : redOk l p = true) (F : Array Nat → Array Nat)
    (hwf : icubeWf' F ic = true) (gens : List Gen) (hnd : gens.Nodup)
    (hN : ∀ g ∈ gens, g.s < 2 ^ ic.cube.n ∧ baseKeep ic.cube g = true)
    (hcl : ∀ g ∈ gens, ∀ y ∈ dK ic.cube p g, y ∈ gens) (htau : ∀ g ∈ gens, ic.tau g ∈ gens) :
    tauMat R ic gens * dMat R ic.cube p gens = dMat R ic.cube p gens * tauMat R ic gens ∧
    (fromBlocks (dMat R ic.cube p gens) 0 (1 + tauMat R ic gens) (dMat R ic.cube p gens)) *
      (fromBlocks (dMat R ic.cube p gens) 0 (1 + tauMat R ic gens) (dMat R ic.cube p gens)) = 0 :=
  icube_cone_matrix_sq_zero F ic hwf p gens hnd (fun g hg => (hN g hg).1) hcl htau
    (fun g hg z => icube_d_squared_even l p ic hic hv hL hok hred g (hN g hg).1 (hN g hg).2 z)

/-- what `khiInstanceOk` consists of -/
theorem khi_instance_ok_meaning (l : InvLink) (p : Params) (h : khiInstanceOk l p = true) :
    validK l.link = true ∧ (edgeLabels l.link).size ≤ 64 ∧ piInvolB l = true ∧ redOk l p = true ∧
    ∃ ic, mkICube l p = some ic ∧ C02Mirror.cubeOK ic.cube ∧ icubeWf' (circImg l.invE) ic = true := by
  unfold khiInstanceOk at h
  simp only [Bool.and_eq_true, decide_eq_true_eq] at h
  obtain ⟨⟨⟨⟨h1, h2⟩, h3⟩, h4⟩, h5⟩ := h
  refine ⟨h1, h2, h3, h4, ?_⟩
  cases hm : mkICube l p with
  | none => rw [hm] at h5; cases h5
  | some ic =>
    rw [hm] at h5
    simp only [Bool.and_eq_true] at h5
    exact ⟨ic, rfl, cubeOKB_spec _ h5.1, h5.2⟩

/-- `khiInstanceOk l p` ⇒ THE REFERENCE INVOLUTIVE COMPLEX IS WHAT C19 SAYS: `mkICube` succeeds, and for every generator
`g` of the (reduced) complex — state below `2^n`, a labelling of the circles of that state, base circle labelled `X` —
 (1) `τ g` is again such a generator and `τ (τ g) = g`;
 (2) τ preserves the homological degree (weight of the state) and the quantum degree (any shift `q0`);
 (3) τ maps the cube edge along `k` to the cube edge along `π k` (`π` = `piOf l`, an involution of the positions);
 (4) τ is a chain map over 𝔽₂: the targets of `d (τ g)` are the τ-images of the targets of `d g`;
 (5) `d∘d = 0 (mod 2)` at `g`, and the cone of `1 + τ` is a complex: `D∘D = 0 (mod 2)` at `Bg` and `Qg`. -/
theorem khi_instance_ok_sound (l : InvLink) (p : Params) (h : khiInstanceOk l p = true) :
    ∃ ic, mkICube l p = some ic ∧ icubeWf ic = true ∧ ic.cube.n = crossingNum l.link ∧
    ∀ g : Gen, g.s < 2 ^ ic.cube.n → g.mask < 2 ^ (ic.cube.circ[g.s]!).size → baseKeep ic.cube g = true →
      ((ic.tau g).s < 2 ^ ic.cube.n ∧ (ic.tau g).mask < 2 ^ (ic.cube.circ[(ic.tau g).s]!).size ∧
        baseKeep ic.cube (ic.tau g) = true ∧ ic.tau (ic.tau g) = g) ∧
      (popcount (ic.tau g).s ic.cube.n = popcount g.s ic.cube.n ∧
        ∀ q0, ic.cube.qDeg q0 (ic.tau g) = ic.cube.qDeg q0 g) ∧
      (∀ k < ic.cube.n, g.s.testBit k = false →
        (piOf l k).getD 0 < ic.cube.n ∧ (ic.tau g).s.testBit ((piOf l k).getD 0) = false ∧
        ic.tst[g.s ||| 1 <<< k]! = (ic.tau g).s ||| 1 <<< ((piOf l k).getD 0)) ∧
      ((dK ic.cube p g).map ic.tau).Perm (dK ic.cube p (ic.tau g)) ∧
      (∀ z, ((dK ic.cube p g).flatMap (dK ic.cube p)).count z % 2 = 0) ∧
      (∀ b z, ((dI ic p (b, g)).flatMap (dI ic p)).count z % 2 = 0) := by
  obtain ⟨hv, hL, hpi, hred, ic, hic, hok, hwf'⟩ := khi_instance_ok_meaning l p h
  have hwf := wf'_wf _ ic hwf'
  obtain ⟨_, hn, hn', _⟩ := mkicube_tst_is_tstate l p ic hic
  refine ⟨ic, hic, hwf, hn.trans hn', ?_⟩
  intro g hs hm hg
  have ws := wf_spec ic hwf g.s hs
  have hdd := fun z => icube_d_squared_even l p ic hic hv hL hok hred g hs hg z
  have hst := mkicube_states_of_pi_involution l p ic hic hpi g.s hs
  refine ⟨⟨ws.lt, tau_mask_lt ic hwf g hs, ?_, icube_tau_involutive ic hwf g hs hm⟩,
    ⟨icube_tau_hdeg ic hwf g hs, fun q0 => icube_tau_qdeg ic hwf q0 g hs⟩, ?_,
    dK_comm _ ic hwf' p g hs, hdd, fun b z => icube_cone_is_complex _ ic hwf' p g hs hdd b z⟩
  · rw [baseKeep_tau ic hwf g hs]; exact hg
  · intro k hk hb
    obtain ⟨h1, h2, h3⟩ := hst.2.2.2 k hk hb
    exact ⟨h2, h1, h3⟩

/-- the check holds on the trefoil in the unreduced theory for all `(h, t)` and in the reduced theory for `t = 0`, and
rejects the reduced theory with `t = 1` -/
example (h t : Int) : khiInstanceOk tref ⟨h, t, false⟩ = true ∧ khiInstanceOk tref ⟨h, 0, true⟩ = true ∧
    khiInstanceOk tref ⟨0, 1, true⟩ = false :=
  ⟨tref_ok_unreduced h t, tref_ok_reduced h, tref_not_ok_reduced_t1⟩

/-- `khi_instance_ok_sound` on the trefoil, unreduced, all `(h, t)`: the cone is a complex at the generator `X⊗1` of the
state `000` (whose `d` has three terms for `h = t = 0`), and τ is a chain map there -/
example (h t : Int) (b : Bool) (z : IGen) :
    ((dI (trefIC false) ⟨h, t, false⟩ (b, ⟨0, 1⟩)).flatMap (dI (trefIC false) ⟨h, t, false⟩)).count z % 2 = 0 ∧
    ((dK (trefIC false).cube ⟨h, t, false⟩ ⟨0, 1⟩).map (trefIC false).tau).Perm
      (dK (trefIC false).cube ⟨h, t, false⟩ ((trefIC false).tau ⟨0, 1⟩)) ∧
    (dK (trefIC false).cube ⟨0, 0, false⟩ ⟨0, 1⟩).length = 3 := by
  obtain ⟨ic, hic, _, _, H⟩ := khi_instance_ok_sound tref ⟨h, t, false⟩ (tref_ok_unreduced h t)
  rw [tref_icube] at hic
  cases hic
  obtain ⟨_, _, _, hperm, _, hcone⟩ := H ⟨0, 1⟩ (by decide) (by decide +kernel) (by decide +kernel)
  exact ⟨hcone b z, hperm, by decide +kernel⟩

/-- the same in the reduced theory (`t = 0`, based at the on-axis point `1`), at the generator `X⊗1` of the state `101`
(base circle `{1,3,4,6}` labelled `X`) -/
example (h : Int) (b : Bool) (z : IGen) :
    ((dI (trefIC true) ⟨h, 0, true⟩ (b, ⟨5, 1⟩)).flatMap (dI (trefIC true) ⟨h, 0, true⟩)).count z % 2 = 0 := by
  obtain ⟨ic, hic, _, _, H⟩ := khi_instance_ok_sound tref ⟨h, 0, true⟩ (tref_ok_reduced h)
  rw [tref_icube] at hic
  cases hic
  exact (H ⟨5, 1⟩ (by decide) (by decide +kernel) (by decide +kernel)).2.2.2.2.2 b z

/-- `t = 0` IS NEEDED in the reduced theory: trefoil, `(h, t) = (0, 1)`, based at `1`: the generator `⟨001, X⟩` lies in the
reduced complex, and `Q⟨111, X⊗1⊗1⟩` occurs exactly once in `D (D (Q⟨001, X⟩))` — the cone is no complex (and the cube is
none: this is `d (d g)`), which `khiHomology` reports as `notComplex` -/
example :
    baseKeep (trefIC true).cube ⟨1, 1⟩ = true ∧
    ((dI (trefIC true) ⟨0, 1, true⟩ (true, ⟨1, 1⟩)).flatMap (dI (trefIC true) ⟨0, 1, true⟩)).count (true, ⟨7, 1⟩) = 1 ∧
    ((dK (trefIC true).cube ⟨0, 1, true⟩ ⟨1, 1⟩).flatMap (dK (trefIC true).cube ⟨0, 1, true⟩)).count ⟨7, 1⟩ = 1 := by
  refine ⟨by decide +kernel, by decide +kernel, by decide +kernel⟩

/-- the matrix form on all 15 generators of the reduced trefoil complex (`h = 1`, `t = 0`) -/
example {R : Type} [CommRing R] [CharP R 2] :
    let ic := trefIC true
    let p : Params := ⟨1, 0, true⟩
    let gens := allGens ic.cube
    gens.length = 15 ∧
    (fromBlocks (dMat R ic.cube p gens) 0 (1 + tauMat R ic gens) (dMat R ic.cube p gens)) *
      (fromBlocks (dMat R ic.cube p gens) 0 (1 + tauMat R ic gens) (dMat R ic.cube p gens)) = 0 := by
  intro ic p gens
  obtain ⟨hv, hL, _, hred, ic', hic, hok, hwf⟩ := khi_instance_ok_meaning tref p (tref_ok_reduced 1)
  rw [tref_icube] at hic
  cases hic
  exact ⟨by decide +kernel, (icube_cone_matrix_valid tref p ic (tref_icube 1 0 true) hv hL hok hred _ hwf gens
    (allGens_nodup _) (fun g hg => ⟨((mem_allGens _ g).1 hg).1, ((mem_allGens _ g).1 hg).2.2⟩)
    (allGens_d_closed _ ic hwf p) (allGens_tau_closed ic (wf'_wf _ ic hwf))).2⟩

end Yuiv.C19Cone
