import Yuiv.Proofs.C13
/-
C13 — `divide4`, `combine_blocks`, `concat`, `stack`.
-/
namespace Yuiv.C13
open Yuiv Res

variable {R : Type} [CommRing R]

/-- one block of `divide4`: the triplets at the positions selected by `Q`, moved down by `(di, dj)` into an
`m × n` COO matrix -/
theorem block_spec (ts : List (Trip R)) (Q : Nat → Nat → Bool) (g : Trip R → Trip R) (di dj m n : Nat)
    (hg : ∀ t, g t = (t.1 - di, t.2.1 - dj, t.2.2))
    (hQ : ∀ t ∈ ts, Q t.1 t.2.1 = true → (di ≤ t.1 ∧ t.1 - di < m) ∧ (dj ≤ t.2.1 ∧ t.2.1 - dj < n)) :
    cooFrom m n ((ts.filter (fun t => Q t.1 t.2.1)).map g)
        = ok (cooToCsc m n ((ts.filter (fun t => Q t.1 t.2.1)).map g)) ∧
      ∀ i j, (cooToCsc m n ((ts.filter (fun t => Q t.1 t.2.1)).map g)).entry i j
        = if Q (di + i) (dj + j) then entryT ts (di + i) (dj + j) else 0 := by
  have hin : ∀ u ∈ (ts.filter (fun t => Q t.1 t.2.1)).map g, u.1 < m ∧ u.2.1 < n := by
    intro u hu
    obtain ⟨t, ht, rfl⟩ := List.mem_map.mp hu
    have := hQ t (List.mem_of_mem_filter ht) (List.mem_filter.mp ht).2
    rw [hg]
    exact ⟨this.1.2, this.2.2⟩
  refine ⟨cooFrom_ok m n _ hin, fun i j => ?_⟩
  rw [entry_cooToCsc_inShape m n _ hin, ← entryT_filter_pos]
  apply entryT_map_of_iff g _ _ _ _ _ (fun t => by rw [hg])
  intro t ht
  have := hQ t (List.mem_of_mem_filter ht) (List.mem_filter.mp ht).2
  rw [hg]
  exact and_congr (Nat.sub_eq_iff_eq_add' this.1.1) (Nat.sub_eq_iff_eq_add' this.2.1)

/-- each block is cut off only along the split lines; on the far side `A` itself vanishes outside its shape -/
theorem divide4_spec [DecidableEq R] (A : SpMat R) (hA : A.WF) (k l : Nat) (hk : k ≤ A.nrows) (hl : l ≤ A.ncols) :
    ∃ a b c d, A.divide4 k l = ok (a, b, c, d) ∧
      (a.nrows = k ∧ a.ncols = l ∧ a.WF) ∧ (b.nrows = k ∧ b.ncols = A.ncols - l ∧ b.WF) ∧
      (c.nrows = A.nrows - k ∧ c.ncols = l ∧ c.WF) ∧ (d.nrows = A.nrows - k ∧ d.ncols = A.ncols - l ∧ d.WF) ∧
      (∀ i j, a.entry i j = if i < k ∧ j < l then A.entry i j else 0) ∧
      (∀ i j, b.entry i j = if i < k then A.entry i (l + j) else 0) ∧
      (∀ i j, c.entry i j = if j < l then A.entry (k + i) j else 0) ∧
      (∀ i j, d.entry i j = A.entry (k + i) (l + j)) := by
  unfold SpMat.divide4
  simp only []
  rw [assert_true (decide_eq_true hk), assert_true (decide_eq_true hl)]
  simp only [bind_ok]
  generalize hts : A.triplets.filter (fun t => t.2.2 ≠ 0) = ts
  have hb : ∀ t ∈ ts, t.1 < A.nrows ∧ t.2.1 < A.ncols := by
    intro t ht; rw [← hts] at ht; exact hA.trip_bound (List.mem_of_mem_filter ht)
  have hent : ∀ i j, entryT ts i j = A.entry i j := by
    intro i j; rw [← hts, entryT_filter_ne_zero, entryT_triplets]
  have hlt : ∀ x y : Nat, decide (y + x < y) = false := fun x y =>
    decide_eq_false (Nat.not_lt.mpr (Nat.le_add_right y x))
  -- along one axis a block keeps the indices below the cut as they are, or those from the cut on, moved down
  have lo : ∀ {x c : Nat}, x < c → 0 ≤ x ∧ x - 0 < c := fun h => ⟨Nat.zero_le _, h⟩
  have up : ∀ {x c e : Nat}, ¬ x < c → x < e → c ≤ x ∧ x - c < e - c := fun h1 h2 =>
    ⟨Nat.le_of_not_lt h1, Nat.sub_lt_sub_right (Nat.le_of_not_lt h1) h2⟩
  obtain ⟨oka, ea⟩ := block_spec ts (fun i j => decide (i < k) && decide (j < l)) id 0 0 k l (fun _ => rfl) (by
    intro t _ hq
    simp only [Bool.and_eq_true, decide_eq_true_eq] at hq
    exact ⟨lo hq.1, lo hq.2⟩)
  obtain ⟨okb, eb⟩ := block_spec ts (fun i j => decide (i < k) && !decide (j < l)) (fun t => (t.1, t.2.1 - l, t.2.2))
      0 l k (A.ncols - l) (fun _ => rfl) (by
    intro t ht hq
    simp only [Bool.and_eq_true, decide_eq_true_eq, Bool.not_eq_true', decide_eq_false_iff_not] at hq
    exact ⟨lo hq.1, up hq.2 (hb t ht).2⟩)
  obtain ⟨okc, ec⟩ := block_spec ts (fun i j => !decide (i < k) && decide (j < l)) (fun t => (t.1 - k, t.2.1, t.2.2))
      k 0 (A.nrows - k) l (fun _ => rfl) (by
    intro t ht hq
    simp only [Bool.and_eq_true, decide_eq_true_eq, Bool.not_eq_true', decide_eq_false_iff_not] at hq
    exact ⟨up hq.1 (hb t ht).1, lo hq.2⟩)
  obtain ⟨okd, ed⟩ := block_spec ts (fun i j => !decide (i < k) && !decide (j < l))
      (fun t => (t.1 - k, t.2.1 - l, t.2.2)) k l (A.nrows - k) (A.ncols - l) (fun _ => rfl) (by
    intro t ht hq
    simp only [Bool.and_eq_true, Bool.not_eq_true', decide_eq_false_iff_not] at hq
    exact ⟨up hq.1 (hb t ht).1, up hq.2 (hb t ht).2⟩)
  rw [List.map_id] at oka ea
  rw [oka, okb, okc, okd]
  refine ⟨_, _, _, _, rfl, ⟨rfl, rfl, cooToCsc_wf _ _ _⟩, ⟨rfl, rfl, cooToCsc_wf _ _ _⟩,
    ⟨rfl, rfl, cooToCsc_wf _ _ _⟩, ⟨rfl, rfl, cooToCsc_wf _ _ _⟩, ?_, ?_, ?_, ?_⟩
  · intro i j
    rw [ea]
    simp only [Nat.zero_add, hent, Bool.and_eq_true, decide_eq_true_eq]
  · intro i j
    rw [eb]
    simp only [Nat.zero_add, hent, hlt, Bool.not_false, Bool.and_true, decide_eq_true_eq]
  · intro i j
    rw [ec]
    simp only [Nat.zero_add, hent, hlt, Bool.not_false, Bool.true_and, decide_eq_true_eq]
  · intro i j
    rw [ed]
    simp only [hent, hlt, Bool.not_false, Bool.and_true, if_true]

theorem entryT_shiftTrips (di dj : Nat) (ts : List (Trip R)) (i j : Nat) :
    entryT (shiftTrips di dj ts) i j = if di ≤ i ∧ dj ≤ j then entryT ts (i - di) (j - dj) else 0 := by
  unfold shiftTrips
  by_cases h : di ≤ i ∧ dj ≤ j
  · rw [if_pos h]
    exact entryT_map_of_iff _ ts _ _ _ _ (fun _ => rfl) (fun t _ =>
      and_congr (eq_tsub_iff_add_eq_of_le h.1).symm (eq_tsub_iff_add_eq_of_le h.2).symm)
  · rw [if_neg h]
    apply entryT_eq_zero
    intro u hu e
    obtain ⟨t, _, rfl⟩ := List.mem_map.mp hu
    exact h ⟨e.1 ▸ Nat.le_add_left _ _, e.2 ▸ Nat.le_add_left _ _⟩

omit [CommRing R] in
theorem shiftTrips_inShape (A : SpMat R) (hA : A.WF) (di dj m n : Nat) (hm : A.nrows + di ≤ m) (hn : A.ncols + dj ≤ n) :
    ∀ u ∈ shiftTrips di dj A.triplets, u.1 < m ∧ u.2.1 < n := by
  intro u hu
  obtain ⟨t, ht, rfl⟩ := List.mem_map.mp hu
  have := hA.trip_bound ht
  exact ⟨Nat.lt_of_lt_of_le (Nat.add_lt_add_right this.1 di) hm, Nat.lt_of_lt_of_le (Nat.add_lt_add_right this.2 dj) hn⟩

/-- `[a b; c d]` at every position: outside the shape both sides vanish -/
theorem combineBlocks_spec [DecidableEq R] (a b c d : SpMat R) (ha : a.WF) (hb : b.WF) (hc : c.WF) (hd : d.WF)
    (h1 : a.nrows = b.nrows) (h2 : c.nrows = d.nrows) (h3 : a.ncols = c.ncols) (h4 : b.ncols = d.ncols) :
    ∃ C, combineBlocks a b c d = ok C ∧ C.nrows = a.nrows + c.nrows ∧ C.ncols = a.ncols + b.ncols ∧ C.WF ∧
      ∀ i j, C.entry i j = if i < a.nrows then (if j < a.ncols then a.entry i j else b.entry i (j - a.ncols))
                      else (if j < a.ncols then c.entry (i - a.nrows) j else d.entry (i - a.nrows) (j - a.ncols)) := by
  unfold combineBlocks
  rw [assert_true (decide_eq_true h1), assert_true (decide_eq_true h2), assert_true (decide_eq_true h3), assert_true (decide_eq_true h4)]
  simp only [bind_ok]
  have hs : ∀ t ∈ shiftTrips 0 0 a.triplets ++ shiftTrips 0 a.ncols b.triplets ++ shiftTrips a.nrows 0 c.triplets
        ++ shiftTrips a.nrows a.ncols d.triplets, t.1 < a.nrows + c.nrows ∧ t.2.1 < a.ncols + b.ncols := by
    intro t ht
    rcases List.mem_append.mp ht with ht | ht
    rcases List.mem_append.mp ht with ht | ht
    rcases List.mem_append.mp ht with ht | ht
    · exact shiftTrips_inShape a ha 0 0 _ _ (Nat.le_add_right _ _) (Nat.le_add_right _ _) t ht
    · exact shiftTrips_inShape b hb 0 a.ncols _ _ (h1 ▸ Nat.le_add_right _ _) (Nat.le_of_eq (Nat.add_comm _ _)) t ht
    · exact shiftTrips_inShape c hc a.nrows 0 _ _ (Nat.le_of_eq (Nat.add_comm _ _)) (h3 ▸ Nat.le_add_right _ _) t ht
    · exact shiftTrips_inShape d hd a.nrows a.ncols _ _ (h2 ▸ Nat.le_of_eq (Nat.add_comm _ _))
        (h4 ▸ Nat.le_of_eq (Nat.add_comm _ _)) t ht
  obtain ⟨C, hok, hr, hc', hw, he⟩ := fromEntries_inShape _ _ _ hs
  refine ⟨C, hok, hr, hc', hw, fun i j => ?_⟩
  rw [he]
  simp only [entryT_append, entryT_shiftTrips, entryT_triplets, Nat.zero_le, true_and, and_true, if_true, Nat.sub_zero]
  by_cases hi : i < a.nrows <;> by_cases hj : j < a.ncols
  · rw [if_pos hi, if_pos hj, if_neg (Nat.not_le.mpr hj), if_neg (Nat.not_le.mpr hi),
      if_neg (fun h => Nat.not_le.mpr hi h.1), add_zero, add_zero, add_zero]
  · rw [if_pos hi, if_neg hj, if_pos (Nat.le_of_not_lt hj), if_neg (Nat.not_le.mpr hi),
      if_neg (fun h => Nat.not_le.mpr hi h.1), ha.entry_oob i j (fun h => hj h.2), zero_add, add_zero, add_zero]
  · rw [if_neg hi, if_pos hj, if_neg (Nat.not_le.mpr hj), if_pos (Nat.le_of_not_lt hi),
      if_neg (fun h => Nat.not_le.mpr hj h.2), ha.entry_oob i j (fun h => hi h.1), zero_add, zero_add, add_zero]
  · rw [if_neg hi, if_neg hj, if_pos (Nat.le_of_not_lt hj), if_pos (Nat.le_of_not_lt hi),
      if_pos ⟨Nat.le_of_not_lt hi, Nat.le_of_not_lt hj⟩, ha.entry_oob i j (fun h => hi h.1),
      hb.entry_oob i _ (fun h => hi (h1 ▸ h.1)), hc.entry_oob _ j (fun h => hj (h3 ▸ h.2)), zero_add, zero_add, zero_add]

omit [CommRing R] in
theorem zero_wf (m n : Nat) : (SpMat.zero m n : SpMat R).WF := by
  refine ⟨by simp [SpMat.zero], ?_, ?_⟩
  · intro c hc p hp
    simp only [SpMat.zero, List.mem_replicate] at hc
    rw [hc.2] at hp; cases hp
  · intro c hc
    simp only [SpMat.zero, List.mem_replicate] at hc
    rw [hc.2]; simp

set_option linter.unusedSectionVars false in
variable [DecidableEq R] in
theorem zero_entry (m n i j : Nat) : (SpMat.zero m n : SpMat R).entry i j = 0 := by
  unfold SpMat.entry SpMat.zero
  rw [List.getD_eq_getElem?_getD]
  cases h : (List.replicate n ([] : List (Nat × R)))[j]? with
  | none => rfl
  | some c =>
    have := List.mem_of_getElem? h
    rw [List.mem_replicate] at this
    rw [this.2]; rfl

end Yuiv.C13
