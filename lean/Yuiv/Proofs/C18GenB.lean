import Yuiv.Gen.BraidFn
import Yuiv.Proofs.C18Gen
import Yuiv.Proofs.C18Closure
import Yuiv.Proofs.RustMap
/-
C18 — tie by translation, part 2 (`fn:braid`): lemmas for `Yuiv/Props/C18GenB.lean`, where the generated functions of
yui-link/src/braid.rs (`Yuiv.GenBraid.*`, Yuiv/Gen/BraidFn.lean) are shown equal to the hand model `C18.closure`
(Yuiv/Model/C18.lean), panics included.

The `for` loop of `Braid::closure` is `closureStep` through the state conversion `convB` (`forIn_sim`); the assertion is
`hasFreeLoop`; `conn` (a `HashMap` collected from `zip(bottom_edges, 0..strands)`, later bindings overwriting) is `connRename`
because the bottom labels are pairwise distinct (`CInv.cb`, Proofs/C18Closure).
-/
namespace Yuiv.C18.GenFn
open Yuiv Yuiv.Rust Yuiv.GenLink Yuiv.GenBraid

def to4 (x : Lk.Arr4 Nat) : Nat × Nat × Nat × Nat := (x.a0, x.a1, x.a2, x.a3)
def of4 (x : Nat × Nat × Nat × Nat) : Lk.Arr4 Nat := ⟨x.1, x.2.1, x.2.2.1, x.2.2.2⟩
def word (b : Braid) : List Int := b.elements_.map (·.v0_)

abbrev BSt := Nat × List Nat × List (Lk.Arr4 Nat)
def convB (s : BSt) : Nat × List Nat × List (Nat × Nat × Nat × Nat) := (s.1, s.2.1, s.2.2.map to4)

theorem g_gen_index_eq (g : Generator) : g.index = g.v0_.natAbs := by
  simp only [Generator.index, Lk.iabs]; split <;> omega

theorem g_gen_sign_eq (g : Generator) : g.sign.is_positive = decide (g.v0_ > 0) := by
  simp only [Generator.sign, Lk.isign, Lk.Sign.is_positive]; split <;> simp [*]

theorem g_gen_inv_eq (g : Generator) : g.inv.v0_ = -g.v0_ := rfl

/-- body of the loop of `Braid::closure` as the `do` elaborator leaves it -/
def closureBody (s : Generator) (st : BSt) : Res (ForInStep BSt) := do
  let i ← Lk.usub s.index 1
  let a ← Lk.idx st.2.1 i
  let b ← Lk.idx st.2.1 (i + 1)
  if s.sign.is_positive = true then do
    let b1 ← Lk.idxSet st.2.1 i st.1
    let b2 ← Lk.idxSet b1 (i + 1) (st.1 + 1)
    pure (ForInStep.yield (st.1 + 2, b2, st.2.2 ++ [⟨a, st.1, st.1 + 1, b⟩]))
  else do
    let b1 ← Lk.idxSet st.2.1 i st.1
    let b2 ← Lk.idxSet b1 (i + 1) (st.1 + 1)
    pure (ForInStep.yield (st.1 + 2, b2, st.2.2 ++ [⟨b, a, st.1, st.1 + 1⟩]))

theorem closureBody_eq (s : Generator) (st : BSt) :
    rmap (stepConv convB) (closureBody s st) = (closureStep (convB st) s.v0_ >>= fun t => .ok (ForInStep.yield t)) := by
  obtain ⟨count, bottom, pd⟩ := st
  unfold closureBody closureStep
  simp only [g_gen_index_eq, g_gen_sign_eq, Lk.usub, convB, Lk.idx, Lk.Index.get, listGet_eq, Lk.idxSet]
  by_cases h0 : s.v0_.natAbs = 0
  · rw [if_pos h0, if_neg (by omega)]; rfl
  · rw [if_neg h0, if_pos (by omega)]
    simp only [Res.bind_ok]
    cases ha : bottom[s.v0_.natAbs - 1]? with
    | none => rfl
    | some a =>
      cases hb : bottom[s.v0_.natAbs - 1 + 1]? with
      | none => rfl
      | some b =>
        have hlt1 : s.v0_.natAbs - 1 + 1 < bottom.length := (List.getElem?_eq_some_iff.1 hb).1
        have hlt0 : s.v0_.natAbs - 1 < bottom.length := by omega
        simp only [Res.bind_ok, hlt0, hlt1, List.length_set, if_true, Res.pure_eq]
        by_cases hp : s.v0_ > 0
        · simp only [hp, decide_true, if_true, rmap, stepConv, convB, List.map_append]; rfl
        · simp only [hp, decide_false, Bool.false_eq_true, if_false, rmap, stepConv, convB, List.map_append]; rfl

theorem enumFrom_all (l : List Nat) (k : Nat) :
    (Lk.enumFrom k l).all (fun x => match x with | (i, j) => i != j) =
      (List.range l.length).all (fun i => k + i != l.getD i 0) := by
  induction l generalizing k with
  | nil => rfl
  | cons a l ih =>
    rw [Lk.enumFrom, List.all_cons, ih, List.length_cons, List.range_succ_eq_map, List.all_cons, List.all_map]
    congr 1
    apply List.all_congr rfl
    intro i
    simp only [Function.comp, List.getD_cons_succ]
    rw [show k + 1 + i = k + (i + 1) by omega]

theorem assert_free (bottom : List Nat) :
    ((Lk.enumerate (Lk.iter bottom)).all fun x => match x with | (i, j) => i != j) = !hasFreeLoop bottom := by
  show (Lk.enumFrom 0 bottom).all _ = _
  rw [enumFrom_all, hasFreeLoop, List.all_eq_not_any_not]
  congr 2
  funext i
  simp only [Nat.zero_add, Bool.not_not, bne, Bool.not_not]
  rw [Bool.eq_iff_iff]; simp only [beq_iff_eq]; exact eq_comm

theorem amap_get_zip (b : List Nat) (k : Nat) (a : Nat) :
    AMap.get (b.zip (List.range' k b.length)) a = if b.idxOf a < b.length then some (k + b.idxOf a) else none := by
  induction b generalizing k with
  | nil => simp [AMap.get]
  | cons x b ih =>
    simp only [List.length_cons, List.range'_succ, List.zip_cons_cons, AMap.get, List.idxOf_cons]
    by_cases hx : x = a
    · simp [hx]
    · have : (x == a) = false := by simp [hx]
      simp only [hx, if_false, this, cond_false, ih, Nat.add_lt_add_iff_right]
      split <;> simp; omega

theorem conn_get (bottom : List Nat) (hnd : bottom.Nodup) (a : Nat) :
    (AMap.get (Lk.HashMap.from_iter ((Lk.iter bottom).zip (List.range bottom.length))) a).getD a = connRename bottom a := by
  have hz : ((bottom.zip (List.range bottom.length)).map (·.1)) = bottom := by
    rw [List.map_fst_zip]; simp
  show (AMap.get ((bottom.zip (List.range bottom.length)).foldl (fun m kv => AMap.insert m kv.1 kv.2) AMap.new) a).getD a = _
  rw [AMap.foldl_insert_fresh]
  · rw [AMap.new, List.nil_append, List.range_eq_range', amap_get_zip, connRename]
    split <;> simp
  · intros; rfl
  · rw [hz]; exact hnd

end Yuiv.C18.GenFn
