import Yuiv.Proofs.KhiSpecCheck
import Yuiv.Proofs.KhSnfF2
import Yuiv.Proofs.C03UctHom
/-
KhiSpec — the matrices over `ZMod 2` of the cone differential on a degree-wise family `G` of cone generators (`Fam`:
duplicate-free, closed under `dI`, over enumerated cube generators, the cone a complex on it): the bit rows built by `homo` are
these matrices and `rankF2` of the rows is their rank, so the reported dimension is that of `ker / im`.  The families in use are
the full enumeration `coneGens` and the slices of constant quantum degree (`Proofs/KhiSpecQ`).
-/
namespace Yuiv.KhiSpec
open Yuiv.KhRef Yuiv.C19 Yuiv.C19Comm Matrix

theorem natCast_zmod2 (n : Nat) : ((n : Nat) : ZMod 2) = if n % 2 = 1 then 1 else 0 := by
  rw [← ZMod.natCast_mod]
  rcases Nat.mod_two_eq_zero_or_one n with h | h <;> rw [h] <;> simp

structure Fam (ic : ICube) (p : Params) (G : Array (Array IGen)) : Prop where
  nodup : ∀ i : Nat, (Array.toList G[i]!).Nodup
  closed : ∀ i : Nat, i < G.size → ∀ x ∈ G[i]!, ∀ y ∈ dI ic p x, y ∈ G[i + 1]!
  base : ∀ (i : Nat) (x : IGen), x ∈ G[i]! → ∃ gs ∈ kgensOf ic.cube, x.2 ∈ gs
  cone : ∀ (i : Nat) (x : IGen), x ∈ G[i]! → ∀ z, ((dI ic p x).flatMap (dI ic p)).count z % 2 = 0

/-- the matrix of the cone differential out of position `i` of the family -/
def DmG (ic : ICube) (p : Params) (G : Array (Array IGen)) (i : Nat) :
    Matrix (Fin (G[i]!).size) (Fin (G[i + 1]!).size) (ZMod 2) :=
  fun a b => (((dI ic p (G[i]!)[a]).count (G[i + 1]!)[b] : Nat) : ZMod 2)

/-- the dimension of the homology of the family at position `i` -/
noncomputable def famDim (ic : ICube) (p : Params) (G : Array (Array IGen)) (i : Nat) : Nat :=
  (G[i]!).size - (DmG ic p G i).rank - (if i = 0 then 0 else (DmG ic p G (i - 1)).rank)

/-! ### what `homo` computes: needs the enumeration part of a family only, not that the cone is a complex -/

section
variable (ic : ICube) (p : Params) (G : Array (Array IGen)) (hnd : ∀ i : Nat, (Array.toList G[i]!).Nodup)
  (hcl : ∀ i : Nat, i < G.size → ∀ x ∈ G[i]!, ∀ y ∈ dI ic p x, y ∈ G[i + 1]!)
  (hbase : ∀ (i : Nat) (x : IGen), x ∈ G[i]! → ∃ gs ∈ kgensOf ic.cube, x.2 ∈ gs)
include hcl hbase

theorem row_closedG (i : Nat) (hi : i < G.size) (x : IGen) (hx : x ∈ G[i]!) :
    (dIm ic p x).toList = dI ic p x ∧ ∀ y ∈ reduce2 (dIm ic p x), y ∈ G[i + 1]! := by
  have e1 : (dIm ic p x).toList = dI ic p x := by rw [dIm_eqG ic p x (hbase i x hx), dIA_toList]
  refine ⟨e1, ?_⟩
  intro y hy
  rw [mem_reduce2, e1] at hy
  apply hcl i hi x hx y
  apply List.count_pos_iff.1
  omega

include hnd

theorem rankF2_rowsG (i : Nat) (hi : i < G.size) :
    rankF2 (rowsOf (dIm ic p) G i) = (DmG ic p G i).rank := by
  have hsz : (rowsOf (dIm ic p) G i).size = (G[i]!).size := by
    simp [rowsOf]
  have hbit : ∀ (a : Nat) (ha : a < (G[i]!).size) (j : Nat),
      ((rowsOf (dIm ic p) G i)[a]'(by omega)).testBit j = true ↔
        j < (G[i + 1]!).size ∧ (dI ic p (G[i]!)[a]).count (G[i + 1]!)[j]! % 2 = 1 := by
    intro a ha j
    have hx : (G[i]!)[a] ∈ G[i]! := Array.getElem_mem ha
    obtain ⟨e1, hcl'⟩ := row_closedG ic p G hcl hbase i hi _ hx
    have := row_testBit (G[i + 1]!) (hnd (i + 1)) (dIm ic p (G[i]!)[a]) hcl' j
    rw [e1] at this
    rw [← this]
    simp only [rowsOf, Array.getElem_map]
  rw [KhSnf.rankF2_spec (G[i + 1]!).size]
  · have : KhSnf.bitMat (G[i + 1]!).size (rowsOf (dIm ic p) G i) =
        (DmG ic p G i).submatrix (finCongr hsz) (Equiv.refl _) := by
      funext a b
      simp only [KhSnf.bitMat, Matrix.submatrix_apply, DmG, Equiv.refl_apply, finCongr_apply]
      rw [natCast_zmod2]
      have := hbit a.1 (by have := a.2; omega) b.1
      rw [getElem!_pos _ b.1 b.2] at this
      exact if_congr (this.trans ⟨fun h => h.2, fun h => ⟨b.2, h⟩⟩) rfl rfl
    rw [this, Matrix.rank_submatrix]
  · intro r hr
    obtain ⟨a, ha, rfl⟩ := List.mem_iff_getElem.1 hr
    have ha' : a < (G[i]!).size := by simpa [hsz] using ha
    apply Nat.lt_pow_two_of_testBit
    intro j hj
    cases hb : ((rowsOf (dIm ic p) G i).toList[a]).testBit j with
    | false => rfl
    | true =>
      rw [Array.getElem_toList] at hb
      have := ((hbit a ha' j).1 hb).1
      omega

theorem rkAtG_eq (i : Nat) (hi : i < G.size) :
    rkAt (dIm ic p) G i = (DmG ic p G i).rank := by
  unfold rkAt
  split
  · exact rankF2_rowsG ic p G hnd hcl hbase i hi
  · rename_i h
    have hz : (G[i + 1]!).size = 0 := by
      rw [getElem!_neg G (i + 1) h]
      rfl
    have := Matrix.rank_le_card_width (DmG ic p G i)
    rw [Fintype.card_fin] at this
    omega

theorem dimAtG_eq (i : Nat) (hi : i < G.size) : dimAt (dIm ic p) G i = famDim ic p G i := by
  unfold dimAt famDim
  rw [rkAtG_eq ic p G hnd hcl hbase i hi]
  by_cases h0 : i = 0
  · simp [h0]
  · rw [rkAtG_eq ic p G hnd hcl hbase (i - 1) (by omega)]

theorem homoA_fam :
    homoA (dIm ic p) G = ((List.range G.size).map (famDim ic p G)).toArray := by
  rw [homoA_eq]
  congr 1
  exact List.map_congr_left (fun i hi => dimAtG_eq ic p G hnd hcl hbase i (List.mem_range.1 hi))

end

theorem getElem_injective (tgt : Array IGen) (hnd : tgt.toList.Nodup) :
    Function.Injective (fun k : Fin tgt.size => tgt[k.1]'k.2) := by
  intro a b e
  apply Fin.ext
  exact (List.Nodup.getElem_inj_iff hnd (hi := by simp) (hj := by simp)).1
    (by simpa using e)

theorem DmG_mul (ic : ICube) (p : Params) (G : Array (Array IGen)) (F : Fam ic p G)
    (i : Nat) (hi : i < G.size) : DmG ic p G i * DmG ic p G (i + 1) = 0 := by
  funext a c
  rw [Matrix.mul_apply, Matrix.zero_apply]
  unfold DmG
  simp only [Fin.getElem_fin]
  have hx := Array.getElem_mem (xs := G[i]!) a.2
  -- entry `(a, c)` of the product counts `G[i+2][c]` in `dI (dI G[i][a])`, which is even
  -- (the bound proofs are written out: found by the index tactic each costs as much as the rest of the proof)
  rw [sum_count_fin (R := ZMod 2) _ (getElem_injective (G[i + 1]!) (F.nodup (i + 1))) _
    (fun y hy => by
      obtain ⟨k, hk, e⟩ := Array.mem_iff_getElem.1 (F.closed i hi _ hx y hy)
      exact ⟨⟨k, hk⟩, e⟩)
    (fun y => (((dI ic p y).count ((G[i + 1 + 1]!)[c.1]'(c.2)) : Nat) : ZMod 2)),
    sum_count_flatMap, natCast_zmod2, if_neg]
  rw [F.cone i _ hx]
  decide

theorem famDim_succ (ic : ICube) (p : Params) (G : Array (Array IGen)) (j : Nat) :
    famDim ic p G (j + 1) = (G[j + 1]!).size - (DmG ic p G j).rank - (DmG ic p G (j + 1)).rank := by
  unfold famDim
  rw [if_neg (Nat.succ_ne_zero j)]
  exact Nat.sub_right_comm _ _ _

theorem homology_dimG (ic : ICube) (p : Params) (G : Array (Array IGen)) (F : Fam ic p G)
    (j : Nat) (hj : j < G.size) :
    Module.finrank (ZMod 2) (C03Uct.Homology (DmG ic p G j)ᵀ (DmG ic p G (j + 1))ᵀ) = famDim ic p G (j + 1) := by
  have : Fact (Nat.Prime 2) := ⟨Nat.prime_two⟩
  have h0 : (DmG ic p G (j + 1))ᵀ * (DmG ic p G j)ᵀ = 0 := by
    rw [← Matrix.transpose_mul, DmG_mul ic p G F j hj, Matrix.transpose_zero]
  rw [C03Uct.finrank_homology _ _ h0, Matrix.rank_transpose, Matrix.rank_transpose, famDim_succ]

/-- the cone generators of degree `i` (`#[]` outside `0..n+1`) -/
def cgens (ic : ICube) (i : Nat) : Array IGen := (coneGens ic.cube (kgensOf ic.cube))[i]!

/-- THE MATRIX OF THE CONE DIFFERENTIAL out of degree `i` over `𝔽₂`: rows = generators of degree `i`, columns = generators
of degree `i + 1`, entry = multiplicity (mod 2) of the column generator in `dI` of the row generator -/
def Dm (ic : ICube) (p : Params) (i : Nat) : Matrix (Fin (cgens ic i).size) (Fin (cgens ic (i + 1)).size) (ZMod 2) :=
  fun a b => (((dI ic p (cgens ic i)[a]).count (cgens ic (i + 1))[b] : Nat) : ZMod 2)

/-- the dimension of the homology of the cone at position `i` (degree `h0 + i`) -/
noncomputable def coneDim (ic : ICube) (p : Params) (i : Nat) : Nat :=
  (cgens ic i).size - (Dm ic p i).rank - (if i = 0 then 0 else (Dm ic p (i - 1)).rank)

theorem Dm_eq (ic : ICube) (p : Params) (i : Nat) : Dm ic p i = DmG ic p (coneGens ic.cube (kgensOf ic.cube)) i := rfl

theorem fam_coneGens (ic : ICube) (p : Params) (G : GensOk ic p)
    (hcone : ∀ (i : Nat) (x : IGen), x ∈ cgens ic i → ∀ z, ((dI ic p x).flatMap (dI ic p)).count z % 2 = 0) :
    Fam ic p (coneGens ic.cube (kgensOf ic.cube)) :=
  ⟨G.nodup, G.closed, fun i x hx => coneGens_mem _ _ i x hx, hcone⟩

theorem Dm_mul (ic : ICube) (p : Params) (G : GensOk ic p)
    (hcone : ∀ (i : Nat) (x : IGen), x ∈ cgens ic i → ∀ z, ((dI ic p x).flatMap (dI ic p)).count z % 2 = 0)
    (i : Nat) (hi : i < (coneGens ic.cube (kgensOf ic.cube)).size) : Dm ic p i * Dm ic p (i + 1) = 0 :=
  DmG_mul ic p _ (fam_coneGens ic p G hcone) i hi

theorem homology_dim (ic : ICube) (p : Params) (G : GensOk ic p)
    (hcone : ∀ (i : Nat) (x : IGen), x ∈ cgens ic i → ∀ z, ((dI ic p x).flatMap (dI ic p)).count z % 2 = 0)
    (j : Nat) (hj : j < (coneGens ic.cube (kgensOf ic.cube)).size) :
    Module.finrank (ZMod 2) (C03Uct.Homology (Dm ic p j)ᵀ (Dm ic p (j + 1))ᵀ) = coneDim ic p (j + 1) :=
  homology_dimG ic p _ (fam_coneGens ic p G hcone) j hj

end Yuiv.KhiSpec
