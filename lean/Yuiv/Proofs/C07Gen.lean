import Yuiv.Gen.HomCalcFn
import Yuiv.Proofs.Res
/-
`Yuiv.GenHomCalc.*` is GENERATED from `/repo/yui-homology/src/utils/homology_calc.rs` by `tools/rs2lean_fn.py fn:homcalc`;
`Yuiv.C07.*` (`Yuiv/Model/C07Calc.lean`) is the hand-written model.  Both run on the same types (`C07.Mat`, `C07.Snf`,
`C07.Trans`, the SNF routine as a parameter), so no abstraction map is needed.
-/
namespace Yuiv.C07Gen
open Yuiv Res Yuiv.Rust Yuiv.GenHomCalc Yuiv.C07

theorem assert_true : Res.assert true = ok () := rfl
theorem assert_false : Res.assert false = (.panic : Res Unit) := rfl
theorem pure_eq_ok {β} (a : β) : (pure a : Res β) = ok a := rfl
theorem bind_congr_eq {α β} (x : Res α) {f g : α → Res β} (h : ∀ a, x = ok a → f a = g a) : (x >>= f) = (x >>= g) := by
  cases x with
  | ok a => exact h a rfl
  | panic => rfl
  | err => rfl

/-- `assert_eq!` on `usize` values / pairs: `decide (a = b)` is the model's `==` -/
theorem nat_beq (a b : Nat) : decide (a = b) = (a == b) := by
  by_cases h : a = b <;> simp [h]
theorem pair_beq (a b c d : Nat) : decide ((a, b) = (c, d)) = (a == c && b == d) := by
  by_cases h1 : a = c <;> by_cases h2 : b = d <;> simp [h1, h2]

/-- `Option::unwrap` of the prelude is the model's -/
theorem unwrap_eq {α : Type} (o : Option α) : Opt.unwrap o = C07.unwrap o := by cases o <;> rfl

/-- checked `usize` subtraction of the prelude is the model's -/
theorem sub_eq (a b : Nat) : U64.sub a b = subR a b := rfl

/-- `Ring::is_unit` of the integers (`is_one(a) || is_one(-a)`) is the model's `|a| = 1` -/
theorem is_unit_eq (a : Int) : RInt.is_unit a = isUnitZ a := by
  unfold RInt.is_unit RInt.is_one isUnitZ
  by_cases h1 : a = 1
  · subst h1; rfl
  · by_cases h2 : a = -1
    · subst h2; rfl
    · have : a.natAbs ≠ 1 := by omega
      have h3 : ¬ -a = 1 := by omega
      simp [h1, h3, this]

/-- the `filter_map` of `result` is the model's `filter` -/
theorem tors_eq (l : List Int) :
    List.filterMap HomologyCalc.result_closure1 l = l.filter fun a => !isUnitZ a := by
  induction l with
  | nil => rfl
  | cons a l ih =>
    simp only [List.filterMap_cons, List.filter_cons, HomologyCalc.result_closure1, is_unit_eq, ih]
    cases isUnitZ a <;> rfl

/-- the `filter(..).count()` of `trans` is the length of the model's `filter` -/
theorem tcount_eq (l : List Int) :
    List.filter HomologyCalc.trans_closure1 l = l.filter fun a => !isUnitZ a := by
  congr 1
  funext a
  simp [HomologyCalc.trans_closure1, is_unit_eq]

end Yuiv.C07Gen
