import Yuiv.Proofs.C06WalkClosure
import Yuiv.Proofs.C18InvDefs
/-
C06WalkKnot — diagrams with a single component.  A valid diagram with a single component is `C18.Determined`
(`determined_of_knot`): label-level connectivity (`C18.Conn`, the relation of the verified component checker) lifts to
slot-level connectivity (`C18.SConn`) on a valid code.  A braid closure that is a knot uses every generator
(`every_generator_of_knot`): if `σ_g` did not occur, no strand would ever pass from the positions `≤ g` to the
positions `> g`.
-/
namespace Yuiv.C06Walk
open Yuiv Yuiv.KhRef Yuiv.C06Canon

theorem sconn_of_conn (l : C18.Link) (hv : C18.Valid l) {x y : Nat} (h : C18.Conn l x y) :
    ∀ a b, C18.HE l a → C18.HE l b → C18.lab l a = x → C18.lab l b = y → C18.SConn l a b := by
  induction h with
  | refl =>
    intro a b ha hb hax hby
    rcases C18.same_label l hv a b ha hb (hby.trans hax.symm) with h | h
    · rw [h]; exact C18.SConn.refl a
    · rw [h]; exact C18.SConn.partner (C18.SConn.refl a)
  | @tail b' c' _ hj ih =>
    intro a b ha hb hax hby
    obtain ⟨h, hsb, hlab, hlt⟩ := (C18.joined_slot l b' c').1 hj
    have s1 := ih a h ha hsb hax hlab
    have ht := (C18.thru_spec l h hsb).1
    rcases C18.same_label l hv (C18.thru l h) b ht hb (hby.trans hlt.symm) with e | e
    · rw [e]; exact C18.SConn.thru s1
    · rw [e]; exact C18.SConn.partner (C18.SConn.thru s1)

theorem determined_of_single_component (l : C18.Link) (hv : C18.Valid l) (cs : List C18.Path)
    (hc : C18.components l = .ok cs) (h1 : cs.length = 1) : C18.Determined l := by
  obtain ⟨cs', hc', hchk⟩ := C18.components_check' l hv
  rw [hc] at hc'
  cases hc'
  obtain ⟨hcov, _, hcls⟩ := C18.checkComps_sound' l cs hchk
  obtain ⟨p, rfl⟩ := List.length_eq_one_iff.1 h1
  intro i hi j hj
  refine ⟨i, hi, ?_⟩
  have hm : ∀ j, j < 4 → C18.lab l (i, j) ∈ p.edges := by
    intro j hj
    have hin : C18.lab l (i, j) ∈ C18.allEdges l := (C18.mem_allEdges l _).2 ⟨(i, j), ⟨hi, hj⟩, rfl⟩
    obtain ⟨q, hq, he⟩ := (hcov _).1 hin
    rw [List.mem_singleton] at hq
    subst hq; exact he
  have hconn := ((hcls p List.mem_cons_self).2.2 _ (hm 0 (by omega)) _).2 (hm j hj)
  exact sconn_of_conn l hv hconn (i, 0) (i, j) ⟨hi, by omega⟩ ⟨hi, hj⟩ rfl rfl

theorem determined_of_knot (l : C18.Link) (hv : C18.Valid l) (comps : List Path)
    (hc : C06Canon.components (C18Bridge.toKh l) = .ok comps) (h1 : comps.length = 1) : C18.Determined l := by
  unfold C06Canon.components at hc
  rw [componentsOf_agree (agree_toKh l)] at hc
  cases e : C18.components l with
  | panic => rw [e] at hc; cases hc
  | err => rw [e] at hc; cases hc
  | ok cs =>
    rw [e] at hc
    have : cs.map convPath = comps := by injection hc
    refine determined_of_single_component l hv cs e ?_
    rw [← this, List.length_map] at h1
    exact h1

section
open Yuiv.C04Inv Yuiv.C06Cycle Yuiv.C06Closure
open Yuiv.C18 (closure closure_bform posLab)
open Yuiv.C18Bridge (toKh)

theorem every_generator_of_knot (n : Nat) (w : List Int) (l : C18.Link) (hcl : closure n w = .ok l)
    (comps : List Path) (hc : components (toKh l) = .ok comps) (h1 : comps.length = 1) :
    ∀ g, g + 1 < n → ∃ j, j < w.length ∧ (w.getD j 0).natAbs - 1 = g := by
  intro g hg
  by_contra hno
  have hno' : ∀ j, j < w.length → (w.getD j 0).natAbs - 1 ≠ g := fun j hj e => hno ⟨j, hj, e⟩
  obtain ⟨ins, outs, hB⟩ := closure_bform n w l hcl
  have hv := validK_toKh l (C18.closure_valid' n w l hcl)
  obtain ⟨paths, hp, W⟩ := components_spec (toKh l) hv
  rw [hc] at hp
  cases hp
  -- the side of `g` is invariant along strands
  have hpair : ∀ p ∈ passPairs (toKh l) ((toKh l).map (fun c : Crossing => c.ct)), (posLab n w p.1 ≤ g ↔ posLab n w p.2 ≤ g) := by
    intro p hp
    obtain ⟨i, j, hi, hj, rfl⟩ := (mem_passPairs _ _ p).1 hp
    have hx : (toKh l)[i]! ∈ toKh l := getElem!_mem _ i hi
    have hsz := wf_of_validK _ hv _ hx
    have hj2 := pass_lt4 (((toKh l).map (fun c : Crossing => c.ct))[i]!) j hj
    generalize (((toKh l).map (fun c : Crossing => c.ct))[i]!).pass j = j2 at hj2 ⊢
    generalize (toKh l)[i]! = x at hx hsz
    obtain ⟨j', hj', hxe⟩ := mem_toKh_closure hB x hx
    -- both labels are at the two positions of a generator other than `g`
    obtain ⟨f1, _, _⟩ := crossing_facts hB j' hj'
    rw [← hxe] at f1
    have m1 := f1 _ (getElem!_mem x.e j (by omega))
    have m2 := f1 _ (getElem!_mem x.e j2 (by omega))
    have := hno' j' hj'
    generalize (w.getD j' 0).natAbs - 1 = g' at m1 m2 this
    simp only
    omega
  have hconn : ∀ x y, Conn (passPairs (toKh l) ((toKh l).map (fun c : Crossing => c.ct))) x y →
      (posLab n w x ≤ g ↔ posLab n w y ≤ g) := fun x y c =>
    conn_lift (R := fun x y => posLab n w x ≤ g ↔ posLab n w y ≤ g) (fun _ => Iff.rfl) Iff.symm Iff.trans hpair c
  obtain ⟨_, _, hk⟩ := conn_iff_pos n w l hcl
  obtain ⟨hg1, hg2⟩ := hk g (Nat.lt_of_succ_lt hg)
  obtain ⟨hg3, hg4⟩ := hk (g + 1) hg
  obtain ⟨p, hp, hgp⟩ := (W.cover g).1 hg1
  obtain ⟨q, hq, hgq⟩ := (W.cover (g + 1)).1 hg3
  have hpq : q = p := by
    match comps, h1, hp, hq with
    | [r], _, hp, hq =>
      simp only [List.mem_singleton] at hp hq
      rw [hp, hq]
  subst hpq
  have := hconn g (g + 1) ((W.cls q hq g hgp (g + 1)).2 hgq)
  rw [hg2, hg4] at this
  omega

end

end Yuiv.C06Walk
