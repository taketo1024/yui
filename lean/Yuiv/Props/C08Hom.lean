import Yuiv.Proofs.C08Hom
import Yuiv.Props.C08
/-
C08 — a chain homotopy equivalence induces an isomorphism on homology; hence chain reduction preserves homology.

At the matrix level of `Props/C08.lean`: that a chain homotopy equivalence induces an isomorphism on homology is proved
here, not trusted.

Definitions (`Proofs/C08Hom.lean`):
  `Hmod f g`     homology at `B` of `A --f--> B --g--> C` (modules over a ring): the Mathlib quotient
                 `LinearMap.ker g ⧸ bdry f g`, `bdry f g = (LinearMap.range f).comap (ker g).subtype` = the boundaries
                 that are cycles (all of `im f` when `g ∘ f = 0`: `boundaries_le_cycles`);
  `Hmap φA φ φC` the induced map `[z] ↦ [φ z]` of a chain map (`Hmap_class`);
  `HMat dIn dOut = Hmod (toLin' dIn) (toLin' dOut)` for matrices (`A : Matrix p q R` maps `q → R` to `p → R`);
  `Hn d n`       for a complex `… → C_{i+1} --d i--> C_i → … → C_0`, `d i : Matrix (ι i) (ι (i+1)) R`,
                 `d i * d (i+1) = 0` (the convention of `IsReduction`):  `Hn d n = Hmod (toLin' (d n)) (dOut d n)`,
                 `dOut d (i+1) = toLin' (d i)`, `dOut d 0 = 0`; i.e. `H_{i+1} = ker d_i / im d_{i+1}`, `H_0 = C_0 / im d_0`;
  `HnMap F`, `HnMapB B`  the maps induced on `Hn` by chain maps in the `F d = d' F` resp. `d B = B d'` form.
-/
namespace Yuiv.C08
open Matrix

section modules
variable {R : Type*} [Ring R]
variable {A B C A' B' C' : Type*}
  [AddCommGroup A] [Module R A] [AddCommGroup B] [Module R B] [AddCommGroup C] [Module R C]
  [AddCommGroup A'] [Module R A'] [AddCommGroup B'] [Module R B'] [AddCommGroup C'] [Module R C']

/-- when `g ∘ f = 0` every boundary is a cycle, so `Hmod f g` is `ker g / im f` -/
theorem boundaries_le_cycles (f : A →ₗ[R] B) (g : B →ₗ[R] C) (h : g ∘ₗ f = 0) :
    LinearMap.range f ≤ LinearMap.ker g := by
  rintro _ ⟨a, rfl⟩
  exact LinearMap.mem_ker.mpr (LinearMap.congr_fun h a)

/-- the class of a cycle `z` vanishes in `Hmod f g` iff `z` is a boundary -/
theorem class_eq_zero_iff (f : A →ₗ[R] B) (g : B →ₗ[R] C) (z : LinearMap.ker g) :
    (Submodule.Quotient.mk z : Hmod f g) = 0 ↔ ∃ a, f a = z.1 := by
  rw [Submodule.Quotient.mk_eq_zero, mem_bdry]

/-- the induced map sends the class of a cycle `z` to the class of the cycle `φ z` -/
theorem Hmap_class {f : A →ₗ[R] B} {g : B →ₗ[R] C} {f' : A' →ₗ[R] B'} {g' : B' →ₗ[R] C'}
    (φA : A →ₗ[R] A') (φ : B →ₗ[R] B') (φC : C →ₗ[R] C')
    (hf : φ ∘ₗ f = f' ∘ₗ φA) (hg : g' ∘ₗ φ = φC ∘ₗ g) (z : LinearMap.ker g) :
    ∃ hz : φ z.1 ∈ LinearMap.ker g',
      Hmap φA φ φC hf hg (Submodule.Quotient.mk z) = Submodule.Quotient.mk ⟨φ z.1, hz⟩ :=
  ⟨(cycMap φ φC hg z).2, rfl⟩

/-- `ψ φ − 1 = f s + t g` (a chain homotopy to the identity) ⟹ `ψ_* ∘ φ_* = 1` on homology -/
theorem homotopic_to_id_induces_id {f : A →ₗ[R] B} {g : B →ₗ[R] C} {f' : A' →ₗ[R] B'} {g' : B' →ₗ[R] C'}
    (φA : A →ₗ[R] A') (φ : B →ₗ[R] B') (φC : C →ₗ[R] C')
    (hf : φ ∘ₗ f = f' ∘ₗ φA) (hg : g' ∘ₗ φ = φC ∘ₗ g)
    (ψA : A' →ₗ[R] A) (ψ : B' →ₗ[R] B) (ψC : C' →ₗ[R] C)
    (hf' : ψ ∘ₗ f' = f ∘ₗ ψA) (hg' : g ∘ₗ ψ = ψC ∘ₗ g')
    (s : B →ₗ[R] A) (t : C →ₗ[R] B) (hh : ψ ∘ₗ φ - LinearMap.id = f ∘ₗ s + t ∘ₗ g) :
    Hmap ψA ψ ψC hf' hg' ∘ₗ Hmap φA φ φC hf hg = LinearMap.id :=
  Hmap_comp_eq_id φA φ φC hf hg ψA ψ ψC hf' hg' s t hh

/-- **a chain homotopy equivalence induces an isomorphism on homology** (three-term form, modules over any ring):
chain maps `φ`, `ψ` with `ψ φ − 1 = f s + t g` and `φ ψ − 1 = f' s' + t' g'` induce mutually inverse `R`-linear
maps `φ_*`, `ψ_*`, i.e. a linear equivalence `Hmod f g ≃ₗ[R] Hmod f' g'`. -/
theorem homology_iso_of_homotopy_equiv {f : A →ₗ[R] B} {g : B →ₗ[R] C} {f' : A' →ₗ[R] B'} {g' : B' →ₗ[R] C'}
    (φA : A →ₗ[R] A') (φ : B →ₗ[R] B') (φC : C →ₗ[R] C')
    (hf : φ ∘ₗ f = f' ∘ₗ φA) (hg : g' ∘ₗ φ = φC ∘ₗ g)
    (ψA : A' →ₗ[R] A) (ψ : B' →ₗ[R] B) (ψC : C' →ₗ[R] C)
    (hf' : ψ ∘ₗ f' = f ∘ₗ ψA) (hg' : g ∘ₗ ψ = ψC ∘ₗ g')
    (s : B →ₗ[R] A) (t : C →ₗ[R] B) (hh : ψ ∘ₗ φ - LinearMap.id = f ∘ₗ s + t ∘ₗ g)
    (s' : B' →ₗ[R] A') (t' : C' →ₗ[R] B') (hh' : φ ∘ₗ ψ - LinearMap.id = f' ∘ₗ s' + t' ∘ₗ g') :
    ∃ e : Hmod f g ≃ₗ[R] Hmod f' g',
      (e : Hmod f g →ₗ[R] Hmod f' g') = Hmap φA φ φC hf hg ∧
      (e.symm : Hmod f' g' →ₗ[R] Hmod f g) = Hmap ψA ψ ψC hf' hg' :=
  ⟨homologyIso φA φ φC hf hg ψA ψ ψC hf' hg' s t hh s' t' hh', rfl, rfl⟩

end modules

section matrices
variable {R : Type*} [CommRing R]

/-- the matrix form: `(a → R) --dIn--> (b → R) --dOut--> (c → R)` and its primed copy, transfer matrices `F`, `B` in
the three degrees, homotopies `B F − 1 = dIn s + t dOut`, `F B − 1 = dIn' s' + t' dOut'` -/
theorem homology_iso_of_homotopy_equiv_matrix {a b c a' b' c' : Type*}
    [Fintype a] [DecidableEq a] [Fintype b] [DecidableEq b] [Fintype c] [DecidableEq c]
    [Fintype a'] [DecidableEq a'] [Fintype b'] [DecidableEq b'] [Fintype c'] [DecidableEq c']
    {dIn : Matrix b a R} {dOut : Matrix c b R} {dIn' : Matrix b' a' R} {dOut' : Matrix c' b' R}
    (Fa : Matrix a' a R) (Fb : Matrix b' b R) (Fc : Matrix c' c R)
    (Ba : Matrix a a' R) (Bb : Matrix b b' R) (Bc : Matrix c c' R)
    (hFin : Fb * dIn = dIn' * Fa) (hFout : dOut' * Fb = Fc * dOut)
    (hBin : Bb * dIn' = dIn * Ba) (hBout : dOut * Bb = Bc * dOut')
    (s : Matrix a b R) (t : Matrix b c R) (hh : Bb * Fb - 1 = dIn * s + t * dOut)
    (s' : Matrix a' b' R) (t' : Matrix b' c' R) (hh' : Fb * Bb - 1 = dIn' * s' + t' * dOut') :
    ∃ e : HMat dIn dOut ≃ₗ[R] HMat dIn' dOut',
      (e : HMat dIn dOut →ₗ[R] HMat dIn' dOut')
        = Hmap (toLin' Fa) (toLin' Fb) (toLin' Fc) (toLin'_comm hFin) (toLin'_comm hFout) ∧
      (e.symm : HMat dIn' dOut' →ₗ[R] HMat dIn dOut)
        = Hmap (toLin' Ba) (toLin' Bb) (toLin' Bc) (toLin'_comm hBin) (toLin'_comm hBout) :=
  ⟨homologyIsoMat Fa Fb Fc Ba Bb Bc hFin hFout hBin hBout s t hh s' t' hh', rfl, rfl⟩

end matrices

section complexes
variable {R : Type*} [CommRing R] {ι κ μ : ℕ → Type*}
  [∀ i, Fintype (ι i)] [∀ i, DecidableEq (ι i)] [∀ i, Fintype (κ i)] [∀ i, DecidableEq (κ i)]
  [∀ i, Fintype (μ i)] [∀ i, DecidableEq (μ i)]

/-- `Hn d (i+1)` is `ker d_i / im d_{i+1}` and `Hn d 0` is `C_0 / im d_0`: the cycles -/
theorem Hn_cycles (d : ∀ i, Matrix (ι i) (ι (i + 1)) R) :
    LinearMap.ker (dOut d 0) = ⊤ ∧ ∀ i, LinearMap.ker (dOut d (i + 1)) = LinearMap.ker (toLin' (d i)) :=
  ⟨LinearMap.ker_zero, fun _ => rfl⟩

/-- … and, for a complex, all of `im d_n` consists of cycles -/
theorem Hn_boundaries (d : ∀ i, Matrix (ι i) (ι (i + 1)) R) (hd : ∀ i, d i * d (i + 1) = 0) (n : ℕ) :
    LinearMap.range (toLin' (d n)) ≤ LinearMap.ker (dOut d n) := by
  apply boundaries_le_cycles
  cases n with
  | zero => exact LinearMap.zero_comp _
  | succ i =>
    show toLin' (d i) ∘ₗ toLin' (d (i + 1)) = 0
    rw [← Matrix.toLin'_mul, hd, LinearEquiv.map_zero]

/-- chain maps `F : C → C'`, `B : C' → C` with homotopies `B F − 1 = d h + h d` and `F B − 1 = d' h' + h' d'`
(two-sided homotopy equivalence) induce mutually inverse linear equivalences `F_*`, `B_*` on every `H_n` -/
theorem homotopy_equiv_preserves_homology
    {d : ∀ i, Matrix (ι i) (ι (i + 1)) R} {d' : ∀ i, Matrix (κ i) (κ (i + 1)) R}
    (F : ∀ i, Matrix (κ i) (ι i) R) (B : ∀ i, Matrix (ι i) (κ i) R)
    (hF : ∀ i, F i * d i = d' i * F (i + 1)) (hB : ∀ i, d i * B (i + 1) = B i * d' i)
    (h : ∀ i, Matrix (ι (i + 1)) (ι i) R) (h0 : B 0 * F 0 - 1 = d 0 * h 0)
    (hs : ∀ i, B (i + 1) * F (i + 1) - 1 = d (i + 1) * h (i + 1) + h i * d i)
    (h' : ∀ i, Matrix (κ (i + 1)) (κ i) R) (h0' : F 0 * B 0 - 1 = d' 0 * h' 0)
    (hs' : ∀ i, F (i + 1) * B (i + 1) - 1 = d' (i + 1) * h' (i + 1) + h' i * d' i) (n : ℕ) :
    ∃ e : Hn d n ≃ₗ[R] Hn d' n,
      (e : Hn d n →ₗ[R] Hn d' n) = HnMap F hF n ∧ (e.symm : Hn d' n →ₗ[R] Hn d n) = HnMapB B hB n :=
  ⟨homologyIsoN F B hF hB h h0 hs h' h0' hs' n, rfl, rfl⟩

/-- **`reduction_preserves_homology`**: for every `IsHomotopyEquiv d d' F B h` — the statement proved for one Schur step
(`schur_step_*`, `schur_homotopy_*`) and closed under identity, composition and conjugation by invertible / permutation
matrices (`IsHomotopyEquiv.refl/.comp/.of_iso/.of_perm`), hence valid for any sequence of reduction steps — the transfer
maps induce mutually inverse `R`-linear isomorphisms `H_n(C) ≃ H_n(C')` in every degree `n`. -/
theorem reduction_preserves_homology
    {d : ∀ i, Matrix (ι i) (ι (i + 1)) R} {d' : ∀ i, Matrix (κ i) (κ (i + 1)) R}
    {F : ∀ i, Matrix (κ i) (ι i) R} {B : ∀ i, Matrix (ι i) (κ i) R} {h : ∀ i, Matrix (ι (i + 1)) (ι i) R}
    (e : IsHomotopyEquiv d d' F B h) (n : ℕ) :
    ∃ E : Hn d n ≃ₗ[R] Hn d' n,
      (E : Hn d n →ₗ[R] Hn d' n) = HnMap F e.F_comm n ∧
      (E.symm : Hn d' n →ₗ[R] Hn d n) = HnMapB B e.B_comm n :=
  ⟨e.homologyIso n, rfl, rfl⟩

/-- in particular the homology modules are isomorphic -/
theorem reduction_homology_nonempty_equiv
    {d : ∀ i, Matrix (ι i) (ι (i + 1)) R} {d' : ∀ i, Matrix (κ i) (κ (i + 1)) R}
    {F : ∀ i, Matrix (κ i) (ι i) R} {B : ∀ i, Matrix (ι i) (κ i) R} {h : ∀ i, Matrix (ι (i + 1)) (ι i) R}
    (e : IsHomotopyEquiv d d' F B h) : ∀ n, Nonempty (Hn d n ≃ₗ[R] Hn d' n) :=
  fun n => ⟨e.homologyIso n⟩

/-- two reductions in a row (`IsHomotopyEquiv.comp`): `H_n(C) ≃ H_n(C'')`, induced by `F₂ F₁` and `B₁ B₂` -/
theorem reduction_preserves_homology_comp
    {d : ∀ i, Matrix (ι i) (ι (i + 1)) R} {d' : ∀ i, Matrix (κ i) (κ (i + 1)) R}
    {d'' : ∀ i, Matrix (μ i) (μ (i + 1)) R}
    {F₁ : ∀ i, Matrix (κ i) (ι i) R} {B₁ : ∀ i, Matrix (ι i) (κ i) R}
    {F₂ : ∀ i, Matrix (μ i) (κ i) R} {B₂ : ∀ i, Matrix (κ i) (μ i) R}
    {h₁ : ∀ i, Matrix (ι (i + 1)) (ι i) R} {h₂ : ∀ i, Matrix (κ (i + 1)) (κ i) R}
    (e₁ : IsHomotopyEquiv d d' F₁ B₁ h₁) (e₂ : IsHomotopyEquiv d' d'' F₂ B₂ h₂) (n : ℕ) :
    ∃ E : Hn d n ≃ₗ[R] Hn d'' n,
      (E : Hn d n →ₗ[R] Hn d'' n) = HnMap (fun i => F₂ i * F₁ i) (e₁.comp e₂).F_comm n ∧
      (E.symm : Hn d'' n →ₗ[R] Hn d n) = HnMapB (fun i => B₁ i * B₂ i) (e₁.comp e₂).B_comm n :=
  reduction_preserves_homology (e₁.comp e₂) n

/-- a bare `IsReduction` (no homotopy: `F B = 1` only) makes `H_n(C')` a RETRACT of `H_n(C)`: `F_* ∘ B_* = 1`, so `B_*`
is injective and `F_*` surjective.  (Without the homotopy nothing more is true: `C' = 0` is a reduction of any `C`.) -/
theorem reduction_homology_retract
    {d : ∀ i, Matrix (ι i) (ι (i + 1)) R} {d' : ∀ i, Matrix (κ i) (κ (i + 1)) R}
    {F : ∀ i, Matrix (κ i) (ι i) R} {B : ∀ i, Matrix (ι i) (κ i) R}
    (r : IsReduction d d' F B) (n : ℕ) :
    HnMap F r.F_comm n ∘ₗ HnMapB B r.B_comm n = LinearMap.id ∧
    Function.Injective (HnMapB B r.B_comm n) ∧ Function.Surjective (HnMap F r.F_comm n) := by
  have hid : HnMap F r.F_comm n ∘ₗ HnMapB B r.B_comm n = LinearMap.id :=
    Hmap_comp_eq_id _ _ _ _ _ _ _ _ _ _ (0 : _ →ₗ[R] _) (0 : _ →ₗ[R] _) (toLin'_htpy_zero (r.FB n) _ _)
  have hfun : ∀ y, HnMap F r.F_comm n (HnMapB B r.B_comm n y) = y := fun y => LinearMap.congr_fun hid y
  exact ⟨hid, Function.LeftInverse.injective hfun, Function.RightInverse.surjective hfun⟩

end complexes

/-! one Schur step, directly from `schur_step_*` / `schur_homotopy_*`

`N = [x; y]` enters `C_src` (basis `r ⊕ n`), `M = [a b; c d] : C_src → C_tgt` (basis `r ⊕ m`), `L = [z w]` leaves `C_tgt`;
after the step: `y`, `S = d − c a⁻¹ b`, `w`. -/

section schur
variable {R : Type*} [CommRing R] {r m n k l : Type*}
  [Fintype r] [DecidableEq r] [Fintype m] [DecidableEq m] [Fintype n] [DecidableEq n]
  [Fintype k] [DecidableEq k] [Fintype l] [DecidableEq l]

/-- homology at `C_src`: `ker M / im N ≃ ker S / im y`, induced by `F_src`, `B_src` -/
theorem schur_step_homology_src (a ainv : Matrix r r R) (b : Matrix r n R) (c : Matrix m r R) (d : Matrix m n R)
    (x : Matrix r k R) (y : Matrix n k R) (hia : ainv * a = 1) (hai : a * ainv = 1)
    (hMN : fromBlocks a b c d * fromRows x y = 0) :
    Nonempty (HMat (fromRows x y) (fromBlocks a b c d) ≃ₗ[R] HMat y (schurS ainv b c d)) :=
  ⟨homologyIsoMat (1 : Matrix k k R) (Fsrc R r n) (Ftgt ainv c) (1 : Matrix k k R) (Bsrc ainv b) (Btgt R r m)
    (by rw [schur_step_in_F, Matrix.mul_one])
    (schur_step_F_comm a ainv b c d hia).symm
    (by rw [Matrix.mul_one]; exact (schur_step_in_B a ainv b c d x y hia hMN).symm)
    (schur_step_B_comm a ainv b c d hai)
    0 (hmt n m ainv) (by rw [schur_homotopy_src a ainv b c d hia, Matrix.mul_zero, zero_add])
    0 0 (by rw [schur_step_FB_src, sub_self, Matrix.mul_zero, Matrix.zero_mul, add_zero])⟩

/-- homology at `C_tgt`: `ker L / im M ≃ ker w / im S`, induced by `F_tgt`, `B_tgt` -/
theorem schur_step_homology_tgt (a ainv : Matrix r r R) (b : Matrix r n R) (c : Matrix m r R) (d : Matrix m n R)
    (z : Matrix l r R) (w : Matrix l m R) (hia : ainv * a = 1) (hai : a * ainv = 1)
    (hLM : fromCols z w * fromBlocks a b c d = 0) :
    Nonempty (HMat (fromBlocks a b c d) (fromCols z w) ≃ₗ[R] HMat (schurS ainv b c d) w) :=
  ⟨homologyIsoMat (Fsrc R r n) (Ftgt ainv c) (1 : Matrix l l R) (Bsrc ainv b) (Btgt R r m) (1 : Matrix l l R)
    (schur_step_F_comm a ainv b c d hia)
    (by rw [Matrix.one_mul]; exact (schur_step_out_F a ainv b c d z w hai hLM).symm)
    (schur_step_B_comm a ainv b c d hai).symm
    (by rw [schur_step_out_B, Matrix.one_mul])
    (hmt n m ainv) 0 (by rw [schur_homotopy_tgt a ainv b c d hai, Matrix.zero_mul, add_zero])
    0 0 (by rw [schur_step_FB_tgt, sub_self, Matrix.mul_zero, Matrix.zero_mul, add_zero])⟩

end schur

/-! ## the hypotheses are satisfiable by non-trivial values -/

section examples
/- Over `ℤ` the instance `Module ℤ (Hn d n)` is found through `AddCommGroup.toIntModule`; on the way the unifier launches a
nested query `AddCommGroup ↥(ker g)` that cannot succeed and therefore tries every instance producing a group structure
on a subobject.  These three (the analysis ones are in scope only because `permMatrix` is) make up most of that search
and can never apply to a kernel; without them the same instances are found. -/
attribute [-instance] Submodule.normedAddCommGroup Submodule.seminormedAddCommGroup SubfieldClass.toSubringClass

/-- a 2-term complex `ℤ² --diag(1,2)--> ℤ²` (`H_0 = ℤ/2`) and its reduction `ℤ --2--> ℤ`: the data of one Schur step with
`a = [1]`, `b = c = 0`, as hypotheses of `homology_iso_of_homotopy_equiv_matrix` (`c = c' = Fin 0`: nothing below) -/
example : Nonempty (HMat (!![1, 0; 0, 2] : Matrix (Fin 2) (Fin 2) ℤ) (0 : Matrix (Fin 0) (Fin 2) ℤ)
    ≃ₗ[ℤ] HMat (!![2] : Matrix (Fin 1) (Fin 1) ℤ) (0 : Matrix (Fin 0) (Fin 1) ℤ)) := by
  obtain ⟨e, _⟩ := homology_iso_of_homotopy_equiv_matrix
    (dIn := (!![1, 0; 0, 2] : Matrix (Fin 2) (Fin 2) ℤ)) (dOut := (0 : Matrix (Fin 0) (Fin 2) ℤ))
    (dIn' := (!![2] : Matrix (Fin 1) (Fin 1) ℤ)) (dOut' := (0 : Matrix (Fin 0) (Fin 1) ℤ))
    (!![0, 1] : Matrix (Fin 1) (Fin 2) ℤ) (!![0, 1] : Matrix (Fin 1) (Fin 2) ℤ) (0 : Matrix (Fin 0) (Fin 0) ℤ)
    (!![0; 1] : Matrix (Fin 2) (Fin 1) ℤ) (!![0; 1] : Matrix (Fin 2) (Fin 1) ℤ) (0 : Matrix (Fin 0) (Fin 0) ℤ)
    (by decide) (by decide) (by decide) (by decide)
    (!![-1, 0; 0, 0] : Matrix (Fin 2) (Fin 2) ℤ) (0 : Matrix (Fin 2) (Fin 0) ℤ) (by decide)
    (0 : Matrix (Fin 1) (Fin 1) ℤ) (0 : Matrix (Fin 1) (Fin 0) ℤ) (by decide)
  exact ⟨e⟩

/-- … and this homology is not zero: the class of the generator of `ℤ` in `coker (2) = ℤ/2` does not vanish -/
example : (Submodule.Quotient.mk ⟨![1], by simp⟩ :
    HMat (!![2] : Matrix (Fin 1) (Fin 1) ℤ) (0 : Matrix (Fin 0) (Fin 1) ℤ)) ≠ 0 := by
  intro h
  obtain ⟨v, hv⟩ := (class_eq_zero_iff _ _ _).mp h
  have h0 := congrFun hv 0
  simp [Matrix.toLin'_apply, Matrix.mulVec, dotProduct] at h0
  omega

/-- the non-identity homotopy equivalence of the non-zero complex `Ex.dd` from `Props/C08.lean` (hypothesis of
`reduction_preserves_homology`) -/
example (n : ℕ) : Nonempty (Hn Ex.dd n
    ≃ₗ[ℤ] Hn (fun i => (Ex.σ i).permMatrix ℤ * Ex.dd i * (Ex.σ (i + 1))⁻¹.permMatrix ℤ) n) :=
  reduction_homology_nonempty_equiv (IsHomotopyEquiv.of_perm Ex.dd Ex.σ) n

/-- the Schur-step witness `Ex.a … Ex.w` of `Props/C08.lean` (`S = diag(0, 5) ≠ 0`) satisfies the hypotheses of
`schur_step_homology_src` / `_tgt` -/
example : Nonempty (HMat (fromRows Ex.x Ex.y) (fromBlocks Ex.a Ex.b Ex.c Ex.d)
    ≃ₗ[ℤ] HMat Ex.y (schurS Ex.ainv Ex.b Ex.c Ex.d)) :=
  schur_step_homology_src Ex.a Ex.ainv Ex.b Ex.c Ex.d Ex.x Ex.y (by decide) (by decide) (by decide)
example : Nonempty (HMat (fromBlocks Ex.a Ex.b Ex.c Ex.d) (fromCols Ex.z Ex.w)
    ≃ₗ[ℤ] HMat (schurS Ex.ainv Ex.b Ex.c Ex.d) Ex.w) :=
  schur_step_homology_tgt Ex.a Ex.ainv Ex.b Ex.c Ex.d Ex.z Ex.w (by decide) (by decide) (by decide)

end examples

end Yuiv.C08
