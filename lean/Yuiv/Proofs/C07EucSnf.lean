import Yuiv.Proofs.C07EucBridge
import Yuiv.Props.C09Euc
import Yuiv.Proofs.C03UctRank
import Yuiv.Proofs.ListAux
/-
C07 over a lawful Euclidean operation record, part 1: ONE run of the library's SNF (`C09.snfCalc e`, Model/C09.lean) seen from
`HomologyCalc` through the adapter `snfC09G e fuel`; `Proofs/C07Euc.lean` composes two such runs.
-/
namespace Yuiv.C07
open Matrix Yuiv

variable {α K : Type} [CommRing K] [IsDomain K] {e : C09.EOps α} {φ : α → K}

@[simp] theorem ofC09G_r (o : C09.ROps α) {m n : Nat} (B : C09.Mat α m n) : (ofC09G o B).r = m := rfl
@[simp] theorem ofC09G_c (o : C09.ROps α) {m n : Nat} (B : C09.Mat α m n) : (ofC09G o B).c = n := rfl

theorem ofC09G_get (o : C09.ROps α) {m n : Nat} (B : C09.Mat α m n) (i j : Nat) :
    (ofC09G o B).get o i j = if h : i < m ∧ j < n then B.get ⟨i, h.1⟩ ⟨j, h.2⟩ else o.zero := by
  unfold ofC09G
  rw [GMat.get_ofFn]
  by_cases h : i < m ∧ j < n
  · simp [h]
  · simp [h]

omit [CommRing K] [IsDomain K] in
theorem ofC09G_toM (o : C09.ROps α) (φ : α → K) {m n : Nat} (B : C09.Mat α m n) :
    (ofC09G o B).toM φ o m n = C09.toM φ B := by
  ext i j
  simp only [GMat.toM, ofC09G_get, C09.toM_apply]
  rw [dif_pos ⟨i.isLt, j.isLt⟩]

omit [CommRing K] [IsDomain K] in
theorem toC09G_toM (o : C09.ROps α) (φ : α → K) (A : GMat α) :
    C09.toM φ (toC09G o A) = A.toM φ o A.r A.c := by
  ext i j
  simp [toC09G, GMat.toM]

theorem ofC09G_diag (o : C09.ROps α) {m n : Nat} (B : C09.Mat α m n) (k : Nat) :
    (ofC09G o B).get o k k = C09.dg o B k := by
  rw [ofC09G_get]
  unfold C09.dg
  rfl

/-- what C07 needs from an SNF `(S, P, P⁻¹, Q, Q⁻¹)` of an `r × c` matrix `A`, through `φ`; `r1` = number of non-zero
diagonal entries (the rank), `S = diag(S₀₀, …, S_{r1-1,r1-1}, 0, …)`, the non-zero entries normalised
(`normalizing_unit = 1`), each dividing the next -/
structure SnfDataG (e : C09.EOps α) (φ : α → K) (A S P Pi Q Qi : GMat α) (r c r1 : Nat) : Prop where
  shS : S.r = r ∧ S.c = c
  shP : P.r = r ∧ P.c = r
  shPi : Pi.r = r ∧ Pi.c = r
  shQ : Q.r = c ∧ Q.c = c
  shQi : Qi.r = c ∧ Qi.c = c
  eqS : S.toM φ e.toROps r c = P.toM φ e.toROps r r * A.toM φ e.toROps r c * Q.toM φ e.toROps c c
  pp : P.toM φ e.toROps r r * Pi.toM φ e.toROps r r = 1
  qq : Q.toM φ e.toROps c c * Qi.toM φ e.toROps c c = 1
  r1r : r1 ≤ r
  r1c : r1 ≤ c
  diag : ∀ i j, φ (S.get e.toROps i j) = if i = j ∧ i < r1 then φ (S.get e.toROps i i) else 0
  nz : ∀ i, i < r1 → φ (S.get e.toROps i i) ≠ 0
  norm : ∀ i, i < r1 → φ (e.normUnit (S.get e.toROps i i)) = 1
  chain : ∀ i, i + 1 < r1 → φ (S.get e.toROps i i) ∣ φ (S.get e.toROps (i + 1) (i + 1))

/-- `C09.snf_total_correct_euc` through the adapter, in the vocabulary of C07 -/
theorem snfC09G_spec (L : C09.LawfulEuc e φ) (A : GMat α) :
    ∃ (N : Nat) (st : C09.St α A.r A.c) (r1 : Nat),
      (∀ fuel, N ≤ fuel → C09.snfCalc e true (fun s => .ok s) fuel (toC09G e.toROps A) = .ok st) ∧
      (∀ fuel, N ≤ fuel → ∀ fl, snfC09G e fuel A fl = .ok (ofStG e.toROps st fl)) ∧
      SnfDataG e φ A (ofC09G e.toROps st.t) (ofC09G e.toROps st.p) (ofC09G e.toROps st.pinv) (ofC09G e.toROps st.q) (ofC09G e.toROps st.qinv)
        A.r A.c r1 ∧
      C09.diagL st.t = (List.range (min A.r A.c)).map fun k => (ofC09G e.toROps st.t).get e.toROps k k := by
  obtain ⟨N, st, hN, ⟨hT, hP, hQ⟩, hD, hS⟩ := C09.snf_total_correct_euc L (toC09G e.toROps A)
  obtain ⟨r1, hr1, hnz, hz, hch⟩ := C09.Euc.shapeSpec_diag L _ st.t hS
  -- the diagonal of the C07 matrix is C09's diagonal sequence
  have hdg : ∀ k, φ ((ofC09G e.toROps st.t).get e.toROps k k) = C09.Euc.dgz e φ st.t k := fun k => by
    rw [ofC09G_diag]; rfl
  refine ⟨N, st, r1, hN, ?_, ?_, ?_⟩
  · intro fuel hf fl
    unfold snfC09G
    rw [hN fuel hf]
  · refine ⟨⟨rfl, rfl⟩, ⟨rfl, rfl⟩, ⟨rfl, rfl⟩, ⟨rfl, rfl⟩, ⟨rfl, rfl⟩, ?_, ?_, ?_, by omega, by omega, ?_,
      fun i hi => by rw [hdg]; exact (hnz i hi).1, ?_, fun i hi => by rw [hdg, hdg]; exact hch i hi⟩
    · rw [ofC09G_toM, ofC09G_toM, ofC09G_toM, ← toC09G_toM, hT]
    · rw [ofC09G_toM, ofC09G_toM, hP]
    · rw [ofC09G_toM, ofC09G_toM, hQ]
    · intro i j
      by_cases hij : i = j
      · subst hij
        by_cases hi : i < r1
        · rw [if_pos ⟨rfl, hi⟩]
        · rw [if_neg (fun h => hi h.2), hdg, hz i (by omega)]
      · rw [if_neg (fun h => hij h.1), ofC09G_get]
        split
        · rename_i h; exact hD ⟨i, h.1⟩ ⟨j, h.2⟩ hij
        · exact L.phi_zero
    · intro i hi
      obtain ⟨a, ha, hn⟩ := (hnz i hi).2
      rw [← hn]
      exact L.normUnit_congr _ _ ((hdg i).trans ha.symm)
  · apply List.ext_getElem
    · simp [C09.diagL]
    · intro k h1 h2
      rw [C09.Euc.diagL_getElem (e := e) _ _ h1, List.getElem_map, List.getElem_range, ofC09G_diag]

theorem snf_rank_of_diagG (L : C09.LawfulEuc e φ) (s : GSnf α) (r c r1 : Nat) (shS : s.result.r = r ∧ s.result.c = c)
    (r1r : r1 ≤ r) (r1c : r1 ≤ c)
    (diag : ∀ i j, φ (s.result.get e.toROps i j) = if i = j ∧ i < r1 then φ (s.result.get e.toROps i i) else 0)
    (nz : ∀ i, i < r1 → φ (s.result.get e.toROps i i) ≠ 0) : s.rank e.toROps = r1 := by
  unfold GSnf.rank
  rw [shS.1, shS.2]
  simp only
  by_cases h : r1 < min r c
  · have : (List.range (min r c)).find? (fun i => e.isZero (s.result.get e.toROps i i)) = some r1 := by
      rw [List.find?_range_eq_some]
      refine ⟨?_, List.mem_range.2 h, ?_⟩
      · have := diag r1 r1
        simp only [Nat.lt_irrefl, and_false, if_false] at this
        exact (L.isZero_iff _).2 this
      · intro j hj
        have := nz j hj
        simp only [Bool.not_eq_eq_eq_not, Bool.not_true]
        exact (L.isZero_false _).2 this
    rw [this]; rfl
  · have : (List.range (min r c)).find? (fun i => e.isZero (s.result.get e.toROps i i)) = none := by
      rw [List.find?_range_eq_none]
      intro i hi
      have := nz i (by omega)
      simp only [Bool.not_eq_eq_eq_not, Bool.not_true]
      exact (L.isZero_false _).2 this
    rw [this]
    simp only [Option.getD_none]
    omega

theorem filter_range_prefix (q : Nat → Bool) (r1 : Nat) (h1 : ∀ k, k < r1 → q k = true)
    (h2 : ∀ k, r1 ≤ k → q k = false) : ∀ n, r1 ≤ n → (List.range n).filter q = List.range r1 := by
  intro n hn
  obtain ⟨d, rfl⟩ := Nat.exists_eq_add_of_le hn
  induction d with
  | zero =>
    rw [Nat.add_zero, List.filter_eq_self]
    intro k hk; exact h1 k (List.mem_range.1 hk)
  | succ d ih =>
    rw [← Nat.add_assoc, List.range_succ, List.filter_append, ih (by omega)]
    simp [h2 (r1 + d) (by omega)]

theorem snf_factors_of_diagG (L : C09.LawfulEuc e φ) (s : GSnf α) (r c r1 : Nat)
    (shS : s.result.r = r ∧ s.result.c = c) (r1r : r1 ≤ r) (r1c : r1 ≤ c)
    (diag : ∀ i j, φ (s.result.get e.toROps i j) = if i = j ∧ i < r1 then φ (s.result.get e.toROps i i) else 0)
    (nz : ∀ i, i < r1 → φ (s.result.get e.toROps i i) ≠ 0) :
    s.factors e.toROps = (List.range r1).map fun i => s.result.get e.toROps i i := by
  unfold GSnf.factors
  rw [shS.1, shS.2]
  exact (ListAux.filterMap_ite (fun i => !e.isZero (s.result.get e.toROps i i)) _ _).trans
    (congrArg _ (filter_range_prefix _ r1
      (fun i hi => by rw [(L.isZero_false _).2 (nz i hi)]; rfl)
      (fun i hi => by rw [(L.isZero_iff _).2 (by rw [diag i i, if_neg (fun h => Nat.not_lt.2 hi h.2)])]; rfl)
      (min r c) (Nat.le_min.2 ⟨r1r, r1c⟩)))

omit [IsDomain K] in
theorem chain_dvdG (a : Nat → K) (r1 : Nat) (chain : ∀ i, i + 1 < r1 → a i ∣ a (i + 1)) :
    ∀ j i, i ≤ j → j < r1 → a i ∣ a j
  | 0, i, hi, _ => by
    have : i = 0 := by omega
    subst this; exact dvd_refl _
  | j + 1, i, hi, hj => by
    by_cases h : i = j + 1
    · subst h; exact dvd_refl _
    · exact (chain_dvdG a r1 chain j i (by omega) (by omega)).trans (chain j hj)

omit [IsDomain K] in
theorem torsion_blockG (L : C09.LawfulEuc e φ) (a : Nat → α) (r1 : Nat)
    (chain : ∀ i, i + 1 < r1 → φ (a i) ∣ φ (a (i + 1))) (tors : List α)
    (htors : tors = ((List.range r1).map a).filter fun x => !e.isUnit x) :
    tors.length ≤ r1 ∧ (∀ u, u < tors.length → tors.getD u e.zero = a (r1 - tors.length + u)) ∧
      (∀ i, i < r1 - tors.length → IsUnit (φ (a i))) ∧
      tors.Pairwise (fun x y => φ x ∣ φ y) := by
  have hlen : ((List.range r1).map a).length = r1 := by rw [List.length_map, List.length_range]
  have hpair : ((List.range r1).map a).Pairwise (fun x y => φ x ∣ φ y) := by
    rw [List.pairwise_iff_getElem]
    intro i j hi hj hij
    rw [List.getElem_map, List.getElem_map, List.getElem_range, List.getElem_range]
    exact chain_dvdG (fun i => φ (a i)) r1 chain j i (Nat.le_of_lt hij) (by rwa [hlen] at hj)
  have hu : ∀ x y : α, φ x ∣ φ y → e.isUnit y = true → e.isUnit x = true := by
    intro x y hxy hy
    rw [L.isUnit_iff] at hy ⊢
    exact isUnit_of_dvd_unit hxy hy
  obtain ⟨hdrop, htake⟩ := torsion_block_split e.isUnit _ hu _ hpair
  rw [← htors, hlen] at hdrop htake
  have htl : tors.length ≤ r1 := by rw [htors]; exact (List.length_filter_le _ _).trans hlen.le
  refine ⟨htl, ?_, ?_, by rw [htors]; exact hpair.filter _⟩
  · intro u hu'
    have hlt : r1 - tors.length + u < r1 := by omega
    refine (congrArg (·.getD u e.zero) hdrop).trans ?_
    rw [List.getD_eq_getElem?_getD, List.getElem?_drop, List.getElem?_map, List.getElem?_range hlt]
    rfl
  · intro i hi
    refine (L.isUnit_iff _).1 (htake (a i) ?_)
    rw [List.mem_take_iff_getElem]
    exact ⟨i, by rw [hlen]; omega, by rw [List.getElem_map, List.getElem_range]⟩

/-- number of non-zero entries on the diagonal of the final target of the C09 model -/
def nzCountG (e : C09.EOps α) {m n : Nat} (st : C09.St α m n) : Nat :=
  ((C09.diagL st.t).filter (fun a => !e.isZero a)).length

/-- the non-zero non-unit entries on that diagonal, in order -/
def nonUnitFactorsG (e : C09.EOps α) {m n : Nat} (st : C09.St α m n) : List α :=
  (C09.diagL st.t).filter (fun a => !e.isZero a && !e.isUnit a)

theorem diagL_nzG (L : C09.LawfulEuc e φ) (a : Nat → α) (r1 len : Nat) (h1 : r1 ≤ len)
    (nz : ∀ k, k < r1 → φ (a k) ≠ 0) (hz : ∀ k, r1 ≤ k → φ (a k) = 0) :
    ((List.range len).map a).filter (fun x => !e.isZero x) = (List.range r1).map a := by
  rw [List.filter_map]
  congr 1
  apply filter_range_prefix _ r1 _ _ len h1
  · intro k hk
    simp only [Function.comp, Bool.not_eq_eq_eq_not, Bool.not_true]
    exact (L.isZero_false _).2 (nz k hk)
  · intro k hk
    simp only [Function.comp, Bool.not_eq_eq_eq_not, Bool.not_false]
    exact (L.isZero_iff _).2 (hz k hk)

theorem diagL_filterG (L : C09.LawfulEuc e φ) (a : Nat → α) (r1 len : Nat) (h1 : r1 ≤ len)
    (nz : ∀ k, k < r1 → φ (a k) ≠ 0) (hz : ∀ k, r1 ≤ k → φ (a k) = 0) :
    ((List.range len).map a).filter (fun x => !e.isZero x && !e.isUnit x) =
      ((List.range r1).map a).filter (fun x => !e.isUnit x) := by
  rw [← diagL_nzG L a r1 len h1 nz hz, List.filter_filter]
  apply List.filter_congr
  intro x _
  exact Bool.and_comm _ _

theorem rank_diag_formK {r c r1 : Nat} (S : Matrix (Fin r) (Fin c) K)
    (a : Nat → K) (h1 : r1 ≤ r) (h2 : r1 ≤ c)
    (hdiag : ∀ i j, S i j = if i.val = j.val ∧ i.val < r1 then a i.val else 0) (ha : ∀ i, i < r1 → a i ≠ 0) :
    S.rank = r1 := by
  classical
  have hS : S = C03Uct.rectDiag r c (fun i => if i < r1 then a i else 0) := by
    ext i j
    rw [hdiag, C03Uct.rectDiag_apply]
    by_cases h : i.val = j.val <;> simp [h]
  rw [hS, C03Uct.rank_rectDiag]
  refine (congrArg Finset.card ?_).trans (Finset.card_range r1)
  ext k
  simp only [Finset.mem_filter, Finset.mem_range, ne_eq, ite_eq_right_iff, Classical.not_imp]
  exact ⟨fun h => h.2.1, fun h => ⟨by omega, h, ha k h⟩⟩

theorem rank_le_of_cols_zero {M N A B : Type*} [Fintype M] [Fintype N] [Fintype B] [DecidableEq N]
    (X : Matrix M N K) (e : A ⊕ B ≃ N) (hX : ∀ k a, X k (e (Sum.inl a)) = 0) :
    X.rank ≤ (X.submatrix id (fun b => e (Sum.inr b))).rank := by
  have hE : X = X.submatrix id (fun b => e (Sum.inr b)) * Matrix.of fun b j => if e (Sum.inr b) = j then (1 : K) else 0 := by
    ext k j
    obtain ⟨s, rfl⟩ := e.surjective j
    rw [Matrix.mul_apply]
    cases s with
    | inl a =>
      rw [hX k a]
      exact (Finset.sum_eq_zero fun b _ => by
        rw [Matrix.of_apply, if_neg (fun h => Sum.inr_ne_inl (e.injective h)), mul_zero]).symm
    | inr b0 =>
      rw [Finset.sum_eq_single b0]
      · rw [Matrix.of_apply, if_pos rfl, mul_one]; rfl
      · intro b _ hb
        rw [Matrix.of_apply, if_neg (fun h => hb (Sum.inr_injective (e.injective h))), mul_zero]
      · intro h; exact absurd (Finset.mem_univ _) h
  conv_lhs => rw [hE]
  exact rank_mul_le_left _ _

theorem rank_d2'K {n k r1 : Nat} (h : r1 ≤ n) (d2 : Matrix (Fin k) (Fin n) K) (P1 P1i : Matrix (Fin n) (Fin n) K)
    (hP : P1 * P1i = 1) (hcol : ∀ i (j : Fin n), j.val < r1 → (d2 * P1i) i j = 0) :
    (d2' d2 P1i (rangeMap r1 (n - r1) n (by omega))).rank = d2.rank := by
  have e1 : d2' d2 P1i (rangeMap r1 (n - r1) n (by omega)) =
      (d2 * P1i).submatrix id (rangeMap r1 (n - r1) n (by omega)) := rfl
  have hX : (d2 * P1i).rank = d2.rank :=
    rank_mul_eq_left_of_isUnit_det P1i d2 (Matrix.isUnit_det_of_left_inverse hP)
  rw [e1, ← hX]
  refine le_antisymm (rank_submatrix_le (d2 * P1i) _ _) ?_
  let eN : Fin r1 ⊕ Fin (n - r1) ≃ Fin n := finSumFinEquiv.trans (finCongr (by omega))
  have hiB : (fun b => eN (Sum.inr b)) = rangeMap r1 (n - r1) n (by omega) := by
    funext b; apply Fin.ext; simp [eN, rangeMap]
  have := rank_le_of_cols_zero (d2 * P1i) eN (fun i a => hcol i _ (by simp [eN]))
  rwa [hiB] at this

theorem SnfDataG.rank_eq {A S P Pi Q Qi : GMat α} {r c r1 : Nat} (h : SnfDataG e φ A S P Pi Q Qi r c r1) :
    (A.toM φ e.toROps r c).rank = r1 := by
  rw [(C03Uct.UEquiv.of_inverses h.pp h.qq h.eqS.symm).rank_eq]
  exact rank_diag_formK (S.toM φ e.toROps r c) (fun i => φ (S.get e.toROps i i)) h.r1r h.r1c (fun i j => h.diag i.val j.val)
    h.nz

theorem SnfDataG.d2P1i_cols {d1 d2 S1 P1 P1i Q1 Q1i : GMat α} {n m k r1 : Nat}
    (h : SnfDataG e φ d1 S1 P1 P1i Q1 Q1i n m r1)
    (hdd : d2.toM φ e.toROps k n * d1.toM φ e.toROps n m = 0) (i : Fin k) (j : Fin n) (hj : j.val < r1) :
    (d2.toM φ e.toROps k n * P1i.toM φ e.toROps n n) i j = 0 := by
  exact congrFun (congrFun (d2_mul_qTor (d1.toM φ e.toROps n m) (d2.toM φ e.toROps k n) (P1.toM φ e.toROps n n)
    (P1i.toM φ e.toROps n n) (Q1.toM φ e.toROps m m) (S1.toM φ e.toROps n m)
    (Fin.castLE h.r1r) (Fin.castLE h.r1c) (fun a : Fin r1 => φ (S1.get e.toROps a.val a.val)) hdd h.eqS
    (mul_eq_one_comm.mp h.pp)
    (fun a i' => smith_col (S := S1.toM φ e.toROps n m) (a := fun i => φ (S1.get e.toROps i i)) (fun i j => h.diag i.val j.val)
      (Fin.castLE h.r1r a) (Fin.castLE h.r1c a) rfl a.isLt i')
    (fun a => h.nz a.val a.isLt)) i) ⟨j.val, hj⟩

/-- `SnfResult` with the transformation matrices selected by the flags -/
def mkSnfG (S P Pi Q Qi : GMat α) (fl : SnfFlags) : GSnf α :=
  ⟨S, if fl.1 then some P else none, if fl.2.1 then some Pi else none,
    if fl.2.2.1 then some Q else none, if fl.2.2.2 then some Qi else none⟩

/-- `snfC09G_spec` for a matrix whose shape is known only propositionally (no dependent types in the statement) -/
theorem snfC09G_spec' (L : C09.LawfulEuc e φ) (A : GMat α) (r c : Nat) (hr : A.r = r) (hc : A.c = c) :
    ∃ (N : Nat) (S P Pi Q Qi : GMat α) (r1 : Nat),
      (∀ fuel, N ≤ fuel → ∀ fl, snfC09G e fuel A fl = .ok (mkSnfG S P Pi Q Qi fl)) ∧
      SnfDataG e φ A S P Pi Q Qi r c r1 := by
  subst hr hc
  obtain ⟨N, st, r1, _, h2, h3, _⟩ := snfC09G_spec L A
  exact ⟨N, _, _, _, _, _, r1, h2, h3⟩

/-- everything the composite needs from one run of the library's SNF on `A`.  The last clause serves the branch `r1 = 0` of
`process_snf`, which skips the multiplication by `P1⁻¹[:, r1..n]`: then `A = 0`, the model returns its initial state and `P⁻¹ = I` -/
theorem snfC09G_total (L : C09.LawfulEuc e φ) (A : GMat α) :
    ∃ (N : Nat) (st : C09.St α A.r A.c) (r1 : Nat),
      (∀ fuel, N ≤ fuel → C09.snfCalc e true (fun s => .ok s) fuel (toC09G e.toROps A) = .ok st) ∧
      (∀ fuel, N ≤ fuel → ∀ fl, snfC09G e fuel A fl = .ok (ofStG e.toROps st fl)) ∧
      SnfDataG e φ A (ofC09G e.toROps st.t) (ofC09G e.toROps st.p) (ofC09G e.toROps st.pinv) (ofC09G e.toROps st.q)
        (ofC09G e.toROps st.qinv) A.r A.c r1 ∧
      C09.isSnfShape e st.t = true ∧ nzCountG e st = r1 ∧ (A.toM φ e.toROps A.r A.c).rank = r1 ∧
      nonUnitFactorsG e st =
        ((List.range r1).map fun i => (ofC09G e.toROps st.t).get e.toROps i i).filter (fun x => !e.isUnit x) ∧
      (r1 = 0 → (ofC09G e.toROps st.pinv).toM φ e.toROps A.r A.r = 1) := by
  obtain ⟨N, st, r1, hN, hsnf, hdat, hdl⟩ := snfC09G_spec L A
  have hlen : r1 ≤ min A.r A.c := Nat.le_min.2 ⟨hdat.r1r, hdat.r1c⟩
  have hz : ∀ k, r1 ≤ k → φ ((ofC09G e.toROps st.t).get e.toROps k k) = 0 := fun k hk => by
    rw [hdat.diag k k, if_neg (fun h => Nat.not_lt.2 hk h.2)]
  refine ⟨N, st, r1, hN, hsnf, hdat, C09.snf_shape_euc L true _ N _ st (hN N (Nat.le_refl _)), ?_, hdat.rank_eq,
    ?_, ?_⟩
  · unfold nzCountG
    rw [hdl, diagL_nzG L _ r1 _ hlen hdat.nz hz, List.length_map, List.length_range]
  · unfold nonUnitFactorsG
    rw [hdl]
    exact diagL_filterG L _ r1 _ hlen hdat.nz hz
  · intro hr
    have hS : (ofC09G e.toROps st.t).toM φ e.toROps A.r A.c = 0 := by
      ext i j
      show φ ((ofC09G e.toROps st.t).get e.toROps i.val j.val) = 0
      rw [hdat.diag, if_neg (fun h => by omega)]
    have hA : A.toM φ e.toROps A.r A.c = 0 := by
      have ts : C09.TransformSpec (A.toM φ e.toROps A.r A.c) ((ofC09G e.toROps st.t).toM φ e.toROps A.r A.c)
          ((ofC09G e.toROps st.p).toM φ e.toROps A.r A.r) ((ofC09G e.toROps st.pinv).toM φ e.toROps A.r A.r)
          ((ofC09G e.toROps st.q).toM φ e.toROps A.c A.c) ((ofC09G e.toROps st.qinv).toM φ e.toROps A.c A.c) :=
        And.intro hdat.eqS.symm (And.intro hdat.pp hdat.qq)
      rw [ts.two_sided.2.2, hS]; simp
    have hzm : C09.isZeroMat e.toROps (toC09G e.toROps A) = true := by
      rw [C09.isZeroMat_iff L.lawful, toC09G_toM]; exact hA
    have hinit : C09.snfCalc e true (fun s => .ok s) N (toC09G e.toROps A) =
        .ok (C09.St.init e.toROps (toC09G e.toROps A)) := by
      unfold C09.snfCalc; rw [if_pos hzm]
    rw [hN N (le_refl _)] at hinit
    injection hinit with hinit
    rw [ofC09G_toM, hinit]
    exact C09.toM_idMat L.lawful _

theorem nzCountG_eq_rank (L : C09.LawfulEuc e φ) (A : GMat α) :
    ∃ (N : Nat) (st : C09.St α A.r A.c),
      (∀ fuel, N ≤ fuel → C09.snfCalc e true (fun s => .ok s) fuel (toC09G e.toROps A) = .ok st) ∧
      C09.isSnfShape e st.t = true ∧
      nzCountG e st = (A.toM φ e.toROps A.r A.c).rank := by
  obtain ⟨N, st, r1, hN, _, _, hshape, hnz, hrk, _⟩ := snfC09G_total L A
  exact ⟨N, st, hN, hshape, hnz.trans hrk.symm⟩

end Yuiv.C07
