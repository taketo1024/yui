import Yuiv.Proofs.C18Sweep
import Yuiv.Proofs.C18Check
/-
C18 — on a valid PD code (every label in exactly two slots; any crossing types) `components`
returns, and its result is accepted by the verified checker `checkComps`, i.e. the components partition the
edge set into the classes of the strand-through-crossing relation.

Outline.  The labels read along one walk are pairwise distinct (`Proofs/C18Orbit`); consecutive labels are `joined`;
the label set of a walk is closed under `joined`.  The loop of `components` keeps: all components found so far are
closed cycles closed under `joined`, they are pairwise disjoint without repetition, and `passed` is their union.
-/
namespace Yuiv.C18
open Yuiv

theorem joined_step (l : Link) (hv : Valid l) (h : Nat × Nat) (hh : HE l h) :
    joined l (lab l h) (lab l (step l h)) = true :=
  (joined_slot l _ _).2 ⟨h, hh, rfl, (lab_step l hv h hh).symm⟩

theorem chainOk_snoc (l : Link) (A : List Nat) (b : Nat) :
    chainOk l (A ++ [b]) = (chainOk l A && (match A.getLast? with | none => true | some a => joined l a b)) := by
  induction A with
  | nil => rfl
  | cons a r ih =>
    cases r with
    | nil => simp [chainOk]
    | cons a' r' =>
      simp only [List.cons_append] at ih
      simp only [List.cons_append, chainOk, ih, List.getLast?_cons_cons, Bool.and_assoc]

theorem chain_of_rchain (l : Link) (hv : Valid l) (s : Nat × Nat) (v : List (Nat × Nat))
    (h : RChain (step l) s v) (hall : ∀ h ∈ v, HE l h) : chainOk l (v.reverse.map (lab l)) = true := by
  induction v with
  | nil => exact h.elim
  | cons x r ih =>
    cases r with
    | nil => rfl
    | cons y r' =>
      have e2 : ((y :: r').reverse.map (lab l)).getLast? = some (lab l y) := by
        rw [List.map_reverse, List.getLast?_reverse]; rfl
      rw [List.reverse_cons, List.map_append, List.map_singleton, chainOk_snoc,
        ih h.2 (fun z hz => hall z (List.mem_cons_of_mem _ hz)), e2, h.1]
      exact joined_step l hv y (hall y (List.mem_cons_of_mem _ List.mem_cons_self))

theorem cycle_of_rchain (l : Link) (hv : Valid l) (s : Nat × Nat) (v : List (Nat × Nat))
    (hc : RChain (step l) s v) (hall : ∀ h ∈ v, HE l h) (hret : step l (v.headD s) = s) :
    cycleOk l (v.reverse.map (lab l)) = true := by
  cases v with
  | nil => exact hc.elim
  | cons x r =>
    unfold cycleOk
    have e1 : ((x :: r).reverse.map (lab l)).head? = some (lab l s) := by
      rw [List.head?_map, List.head?_reverse, hc.getLast]; rfl
    have e2 : ((x :: r).reverse.map (lab l)).getLast? = some (lab l x) := by
      rw [List.map_reverse, List.getLast?_reverse]; rfl
    rw [e1, e2]
    simp only [Bool.and_eq_true]
    refine ⟨chain_of_rchain l hv s _ hc hall, ?_⟩
    simp only [List.headD_cons] at hret
    have := joined_step l hv x (hall x List.mem_cons_self)
    rw [hret] at this; exact this

theorem closedUnder_iff (l : Link) (es : List Nat) :
    closedUnder l es = true ↔ ∀ c ∈ l, ∀ j, j < 4 → c.edge j ∈ es → c.edge (c.ctype.pass j) ∈ es := by
  unfold closedUnder
  simp only [List.all_eq_true, List.mem_range, Bool.or_eq_true, Bool.not_eq_true', List.contains_eq_mem,
    decide_eq_false_iff_not, decide_eq_true_eq]
  constructor
  · intro h c hc j hj hm
    rcases h c hc j hj with h1 | h1
    · exact absurd hm h1
    · exact h1
  · intro h c hc j hj
    by_cases hm : c.edge j ∈ es
    · exact Or.inr (h c hc j hj hm)
    · exact Or.inl hm

theorem closedUnder_slot (l : Link) (es : List Nat) :
    closedUnder l es = true ↔ ∀ h, HE l h → lab l h ∈ es → lab l (thru l h) ∈ es := by
  rw [closedUnder_iff]
  constructor
  · rintro H ⟨i, j⟩ ⟨hi, hj⟩ hm
    rw [lab_thru_eq l i j hi]
    rw [lab_eq l i j hi] at hm
    exact H l[i] (List.getElem_mem hi) j hj hm
  · intro H c hc j hj hm
    obtain ⟨i, hi, rfl⟩ := List.getElem_of_mem hc
    rw [← lab_thru_eq l i j hi]
    rw [← lab_eq l i j hi] at hm
    exact H (i, j) ⟨hi, hj⟩ hm

theorem mkPath_closed (es : List Nat) (a : Nat) (hh : es.head? = some a) :
    mkPath (es ++ [a]) = ⟨es, true⟩ := by
  have hne : es ≠ [] := by intro h; rw [h] at hh; cases hh
  unfold mkPath
  rw [if_pos]
  · rw [List.dropLast_concat]
  · constructor
    · cases es with
      | nil => exact absurd rfl hne
      | cons b r => simp
    · rw [List.head?_append, hh]; simp

theorem Walk.labels {l : Link} (hv : Valid l) {s : Nat × Nat} (hs : HE l s) {v : List (Nat × Nat)}
    (hw : Walk l s v) :
    (v.reverse.map (lab l)).head? = some (lab l s) ∧ (v.reverse.map (lab l)).Nodup ∧
      cycleOk l (v.reverse.map (lab l)) = true ∧ closedUnder l (v.reverse.map (lab l)) = true ∧
      ∀ e ∈ v.reverse.map (lab l), e ∈ allEdges l := by
  obtain ⟨ps, hG, hps⟩ := hw.swept hv hs
  obtain ⟨h2, h3, h4, hall⟩ := hw
  refine ⟨?_, ?_, cycle_of_rchain l hv s v h2 hall h4, ?_, ?_⟩
  · rw [List.head?_map, List.head?_reverse, h2.getLast]; rfl
  · rw [List.map_reverse]
    unfold List.Nodup
    rw [List.pairwise_reverse]
    exact List.Pairwise.imp (fun h => Ne.symm h) (orbit_labels_nodup l hv s hs v h2 h3 hall)
  · rw [closedUnder_slot]
    intro h hh hm
    rw [← hps] at hm ⊢
    exact hG.label_thru hv h hh hm
  · intro e he
    obtain ⟨h, hhv, rfl⟩ := (hG.labels e).1 ((hps e).2 he)
    exact (mem_allEdges l _).2 ⟨h, hall h hhv, rfl⟩

/-- loop invariant of `components`; state = (components so far, passed labels) -/
structure Inv (l : Link) (st : List Path × List Nat) : Prop where
  comp : ∀ p ∈ st.1, p.closed = true ∧ cycleOk l p.edges = true ∧ closedUnder l p.edges = true
  nodup : (st.1.flatMap (·.edges)).Nodup
  passed : ∀ e, e ∈ st.2 ↔ e ∈ st.1.flatMap (·.edges)
  sub : ∀ e ∈ st.2, e ∈ allEdges l

theorem inv_init (l : Link) : Inv l ([], []) where
  comp := by intro p hp; cases hp
  nodup := List.nodup_nil
  passed := fun _ => Iff.rfl
  sub := by intro e he; cases he

theorem inv_visit (l : Link) (hv : Valid l) (st : List Path × List Nat) (s : Nat × Nat) (v : List (Nat × Nat))
    (hI : Inv l st) (hs : HE l s) (hnot : lab l s ∉ st.2) (hw : Walk l s v) :
    Inv l (st.1 ++ [mkPath ((v.reverse ++ [s]).map (lab l))], ((v.reverse ++ [s]).map (lab l)).reverse ++ st.2) := by
  obtain ⟨h3, h4, h5, h6, h7⟩ := hw.labels hv hs
  have hmap : (v.reverse ++ [s]).map (lab l) = v.reverse.map (lab l) ++ [lab l s] := by rw [List.map_append]; rfl
  rw [hmap]
  generalize v.reverse.map (lab l) = es at h3 h4 h5 h6 h7 ⊢
  rw [mkPath_closed es _ h3]
  have hx : lab l s ∈ es := List.mem_of_mem_head? h3
  have hflat : (st.1 ++ [(⟨es, true⟩ : Path)]).flatMap (·.edges) = st.1.flatMap (·.edges) ++ es := by
    rw [List.flatMap_append, List.flatMap_singleton]
  have hpass : ∀ e, e ∈ (es ++ [lab l s]).reverse ++ st.2 ↔ e ∈ es ∨ e ∈ st.2 := by
    intro e
    simp only [List.mem_append, List.mem_reverse, List.mem_cons, List.not_mem_nil, or_false]
    exact ⟨fun h => h.elim (fun h => h.elim Or.inl fun h => Or.inl (h ▸ hx)) Or.inr,
      fun h => h.elim (fun h => Or.inl (Or.inl h)) Or.inr⟩
  refine ⟨?_, ?_, ?_, ?_⟩
  · intro p hp
    rcases List.mem_append.1 hp with hp | hp
    · exact hI.comp p hp
    · rw [List.mem_singleton.1 hp]; exact ⟨rfl, h5, h6⟩
  · show ((st.1 ++ [(⟨es, true⟩ : Path)]).flatMap (·.edges)).Nodup
    rw [hflat, List.nodup_append]
    refine ⟨hI.nodup, h4, ?_⟩
    intro a ha b hb hab
    subst hab
    -- a label of the new cycle in an old component `p` would connect the start label to `p`, which is closed
    obtain ⟨p, hp, hap⟩ := List.mem_flatMap.1 ha
    have hconn := (cycle_conn l es h5).2 a hb _ hx
    have hin := closed_conn l p.edges (hI.comp p hp).2.2 a _ hap hconn
    exact hnot ((hI.passed _).2 (List.mem_flatMap.2 ⟨p, hp, hin⟩))
  · intro e
    show e ∈ (es ++ [lab l s]).reverse ++ st.2 ↔ e ∈ (st.1 ++ [(⟨es, true⟩ : Path)]).flatMap (·.edges)
    rw [hpass, hflat, List.mem_append, hI.passed]
    exact Or.comm
  · intro e he
    exact ((hpass e).1 he).elim (h7 e) (hI.sub e)

theorem compsPass_inv (l : Link) (hv : Valid l) (j0 : Nat) (hj : j0 < 4) (st : List Path × List Nat)
    (V : List (Nat × Nat)) (hI : Inv l st) (hG : Swept l st.2 V) :
    ∃ st' V', compsPass l j0 st = .ok st' ∧ Inv l st' ∧ Swept l st'.2 V' ∧ (∀ e ∈ st.2, e ∈ st'.2) ∧
      ∀ i, i < l.length → lab l (i, j0) ∈ st'.2 := by
  obtain ⟨st', V', h1, h2, h3, h4, h5, _⟩ :=
    sweepPass_inv l hv (·.2)
      (fun st path => (st.1 ++ [mkPath (path.map (lab l))], (path.map (lab l)).reverse ++ st.2))
      (fun _ _ => rfl) j0 (fun st _ => Inv l st)
      (fun st _ s v hI _ hs hnot hw _ _ => inv_visit l hv st s v hI hs hnot hw) hj st V hI hG
  refine ⟨st', V', h1, h2, h3, fun e he => ?_, h5⟩
  obtain ⟨h, hh, rfl⟩ := (hG.labels e).1 he
  exact (h3.labels _).2 ⟨h, h4 h hh, rfl⟩

theorem components_inv (l : Link) (hv : Valid l) :
    ∃ cs passed V, components l = .ok cs ∧ Inv l (cs, passed) ∧ Swept l passed V ∧
      ∀ i, i < l.length → ∀ j, j < 3 → lab l (i, j) ∈ passed := by
  obtain ⟨st0, V0, e0, hI0, hG0, _, c0⟩ := compsPass_inv l hv 0 (by decide) _ [] (inv_init l) (swept_init l)
  obtain ⟨st1, V1, e1, hI1, hG1, m1, c1⟩ := compsPass_inv l hv 1 (by decide) st0 V0 hI0 hG0
  obtain ⟨st2, V2, e2, hI2, hG2, m2, c2⟩ := compsPass_inv l hv 2 (by decide) st1 V1 hI1 hG1
  refine ⟨st2.1, st2.2, V2, ?_, hI2, hG2, ?_⟩
  · unfold components
    rw [e0, Res.bind_ok, e1, Res.bind_ok, e2, Res.bind_ok]; rfl
  · intro i hi j hj
    have : j = 0 ∨ j = 1 ∨ j = 2 := by omega
    rcases this with rfl | rfl | rfl
    · exact m2 _ (m1 _ (c0 i hi))
    · exact m2 _ (c1 i hi)
    · exact c2 i hi

theorem pass3 : ∀ t : CType, t.pass 3 < 3 ∧ t.pass (t.pass 3) = 3 := by decide +kernel

theorem components_check' (l : Link) (hv : Valid l) :
    ∃ cs, components l = .ok cs ∧ checkComps l cs = true := by
  obtain ⟨cs, passed, V, hc, hI, hG, hcov⟩ := components_inv l hv
  refine ⟨cs, hc, (checkComps_iff l cs).2
    ⟨hI.comp, hI.nodup, fun e => ⟨fun he => ?_, fun he => hI.sub e ((hI.passed e).2 he)⟩⟩⟩
  obtain ⟨⟨i, j⟩, ⟨hi, hj⟩, rfl⟩ := (mem_allEdges l e).1 he
  apply (hI.passed _).1
  by_cases hj3 : j < 3
  · exact hcov i hi j hj3
  · -- slot 3 is the other end of the strand through a slot 0, 1 or 2, and the passed labels are closed under `thru`
    have hj' : j = 3 := by omega
    subst hj'
    obtain ⟨k3, kk⟩ := pass3 (ctypeAt l i)
    have := hG.label_thru hv (i, (ctypeAt l i).pass 3) ⟨hi, by omega⟩ (hcov i hi _ k3)
    unfold thru at this
    rwa [kk] at this

theorem checkComps_of_components (l : Link) (hv : Valid l) {cs : List Path} (hc : components l = .ok cs) :
    checkComps l cs = true := by
  obtain ⟨cs', hc', hchk⟩ := components_check' l hv
  cases hc.symm.trans hc'
  exact hchk

theorem edges_sublist_flat {cs : List Path} {p : Path} (hp : p ∈ cs) : p.edges.Sublist (cs.flatMap (·.edges)) := by
  rw [List.flatMap_def]
  exact List.sublist_flatten_of_mem (List.mem_map.2 ⟨_, hp, rfl⟩)

theorem nodup_flat_pairwise (cs : List Path) (hn : (cs.flatMap (·.edges)).Nodup) :
    cs.Pairwise (fun p q => ∀ e ∈ p.edges, e ∉ q.edges) :=
  (List.pairwise_flatMap.1 hn).2.imp (fun h e he heq => h e he e heq rfl)

theorem nodup_flat_unique (cs : List Path) (hn : (cs.flatMap (·.edges)).Nodup)
    (a b : Nat) (ha : a < cs.length) (hb : b < cs.length) (e : Nat)
    (hea : e ∈ cs[a].edges) (heb : e ∈ cs[b].edges) : a = b := by
  have hp := List.pairwise_iff_getElem.1 (nodup_flat_pairwise cs hn)
  rcases Nat.lt_trichotomy a b with h | h | h
  · exact absurd heb (hp a b ha hb h e hea)
  · exact h
  · exact absurd hea (hp b a hb ha h e heb)

/-- `reps` contains exactly one label of every class of `Conn l` on the labels of `l`;
its length is the number of classes (`transversal_length`) -/
def Transversal (l : Link) (reps : List Nat) : Prop :=
  (∀ r ∈ reps, r ∈ allEdges l) ∧ reps.Pairwise (fun a b => ¬ Conn l a b) ∧
    ∀ e ∈ allEdges l, ∃ r ∈ reps, Conn l r e

theorem length_le_of_inj_rel (R : Nat → Nat → Prop) (A B : List Nat)
    (hA : ∀ a ∈ A, ∃ b ∈ B, R a b) (hp : A.Pairwise (fun a a' => ∀ b, R a b → ¬ R a' b)) : A.length ≤ B.length := by
  induction A generalizing B with
  | nil => exact Nat.zero_le _
  | cons a A ih =>
    obtain ⟨b, hb, hab⟩ := hA a List.mem_cons_self
    rw [List.pairwise_cons] at hp
    have h := ih (B.erase b)
      (by
        intro a' ha'
        obtain ⟨b', hb', hab'⟩ := hA a' (List.mem_cons_of_mem _ ha')
        have hne : b' ≠ b := by
          intro h; subst h; exact hp.1 a' ha' _ hab hab'
        exact ⟨b', (List.mem_erase_of_ne hne).2 hb', hab'⟩)
      hp.2
    rw [List.length_erase_of_mem hb] at h
    have : 0 < B.length := List.length_pos_of_mem hb
    rw [List.length_cons]
    omega

theorem transversal_le (l : Link) (A B : List Nat) (hA : Transversal l A) (hB : Transversal l B) :
    A.length ≤ B.length := by
  apply length_le_of_inj_rel (fun a b => Conn l b a)
  · intro a ha
    exact hB.2.2 a (hA.1 a ha)
  · refine List.Pairwise.imp ?_ hA.2.1
    intro a a' hn b h1 h2
    exact hn (h1.symm.trans h2)

theorem transversal_length (l : Link) (A B : List Nat) (hA : Transversal l A) (hB : Transversal l B) :
    A.length = B.length :=
  Nat.le_antisymm (transversal_le l A B hA hB) (transversal_le l B A hB hA)

theorem headD_mem (xs : List Nat) (h : xs ≠ []) : xs.headD 0 ∈ xs := by
  cases xs with
  | nil => exact absurd rfl h
  | cons a r => exact List.mem_cons_self

theorem check_transversal (l : Link) (cs : List Path) (h : checkComps l cs = true) :
    Transversal l (cs.map (fun p => p.edges.headD 0)) := by
  obtain ⟨h1, h2, h3⟩ := checkComps_sound' l cs h
  refine ⟨?_, ?_, ?_⟩
  · intro r hr
    obtain ⟨p, hp, rfl⟩ := List.mem_map.1 hr
    exact (h1 _).2 ⟨p, hp, headD_mem _ (h3 p hp).2.1⟩
  · rw [List.pairwise_map]
    refine List.Pairwise.imp_of_mem ?_ (nodup_flat_pairwise cs h2)
    intro p q hp hq hd hc
    have hpm := headD_mem _ (h3 p hp).2.1
    have hqm := headD_mem _ (h3 q hq).2.1
    exact hd _ (((h3 p hp).2.2 _ hpm _).1 hc) hqm
  · intro e he
    obtain ⟨p, hp, hep⟩ := (h1 e).1 he
    exact ⟨_, List.mem_map.2 ⟨p, hp, rfl⟩, ((h3 p hp).2.2 _ (headD_mem _ (h3 p hp).2.1) e).2 hep⟩

theorem circleCount_of_check (l : Link) (cs : List Path) (hc : components l = .ok cs)
    (h : checkComps l cs = true) : circleCount l = .ok cs.length := by
  obtain ⟨_, _, h3⟩ := checkComps_sound' l cs h
  unfold circleCount
  rw [hc, Res.bind_ok]
  have : cs.all (·.closed) = true := by
    rw [List.all_eq_true]; intro p hp; exact (h3 p hp).1
  rw [this]; rfl

end Yuiv.C18
