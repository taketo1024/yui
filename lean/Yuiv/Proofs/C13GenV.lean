import Yuiv.Gen.SpVecFn
import Yuiv.Proofs.C13Gen
import Yuiv.Proofs.Res
/-
Helper lemmas for `Yuiv/Props/C13GenV.lean`.

`Yuiv.GenSpVec.*` is GENERATED from `/repo/yui-matrix/src/sparse/sp_vec.rs` by `tools/rs2lean_fn.py fn:spvec`;
`C13.SpVec.*` (`Yuiv/Model/C13.lean`) is the hand-written model.  Same representation on both sides.
-/
namespace Yuiv.C13GenV
open Yuiv Res Yuiv.Rust Yuiv.C13

variable {R : Type}

theorem assert_true : Res.assert true = ok () := rfl
theorem assert_false : Res.assert false = (.panic : Res Unit) := rfl
theorem pure_eq_ok {β} (a : β) : (pure a : Res β) = ok a := rfl
theorem bind_assoc' {β γ δ} (x : Res β) (f : β → Res γ) (g : γ → Res δ) :
    ((x >>= f) >>= g) = (x >>= fun a => f a >>= g) := bind_assoc x f g

section
variable [Zero R] [DecidableEq R]
/-- one entry of `to_dense`: a non-zero value is written at its index, which must be in range -/
def tdStep (acc : Res (List R)) (p : Nat × R) : Res (List R) := do
  let l ← acc
  if p.2 = 0 then ok l else if p.1 < l.length then ok (l.set p.1 p.2) else Res.panic

theorem td_panic : ∀ xs : List (Nat × R), xs.foldl tdStep (Res.panic : Res (List R)) = Res.panic := by
  intro xs; induction xs with
  | nil => rfl
  | cons p xs ih => simpa [List.foldl_cons, tdStep] using ih
end

variable [Zero R] [One R] [Add R] [Mul R] [Neg R] [DecidableEq R]

set_option linter.unusedSectionVars false in
theorem vec_roundtrip (v : SpVec R) : Sp.vec_of_inner (Sp.vec_inner v) = v := by cases v; rfl

theorem sorted_step (d : Nat) (acc : List Nat × List R) (p : Nat × R) :
    GenSpVec.SpVec.from_sorted_entries_closure1 d acc p =
      if decide (p.1 < d) = true then ok (acc.1 ++ [p.1], acc.2 ++ [p.2]) else Res.panic := by
  obtain ⟨i, a⟩ := p
  unfold GenSpVec.SpVec.from_sorted_entries_closure1
  dsimp only
  cases decide (i < d) <;> rfl

theorem sorted_fold (d : Nat) : ∀ (es : List (Nat × R)) (acc : List Nat × List R),
    List.foldlM (GenSpVec.SpVec.from_sorted_entries_closure1 (R := R) d) acc es =
      if es.all (fun p => decide (p.1 < d)) = true then ok (acc.1 ++ es.map (·.1), acc.2 ++ es.map (·.2)) else Res.panic := by
  intro es
  induction es with
  | nil => intro acc; simp [List.foldlM]
  | cons p es ih =>
    intro acc
    rw [List.foldlM_cons, List.all_cons, sorted_step]
    cases decide (p.1 < d)
    · simp only [Bool.false_eq_true, if_false, Bool.false_and]; rfl
    · simp only [if_true, bind_ok, Bool.true_and]
      rw [ih]
      simp only [List.map_cons, List.append_assoc, List.cons_append, List.nil_append]

theorem extract_map (f : Nat → Res (Option Nat)) : ∀ es : List (Nat × R),
    Iter.filterMapM (GenSpVec.SpVec.extract_closure1 (R := R) f) es = mapEnts f es := by
  intro es
  induction es with
  | nil => rfl
  | cons p es ih =>
    obtain ⟨i, a⟩ := p
    rw [Iter.filterMapM, mapEnts, ih]
    have hs : GenSpVec.SpVec.extract_closure1 f (i, a) = (f i >>= fun r => ok (r.map fun i' => (i', a))) := by
      unfold GenSpVec.SpVec.extract_closure1
      refine bind_congr (fun r => ?_)
      cases r <;> rfl
    rw [hs]
    cases f i with
    | ok r =>
      simp only [bind_ok]
      refine bind_congr (fun rest => ?_)
      cases r <;> rfl
    | panic => rfl
    | err => rfl

theorem split_loop (k : Nat) : ∀ (xs e1 e2 : List (Nat × R)),
    GenSpVec.SpVec.split_loop1 xs k e1 e2 =
      ok (e1 ++ xs.filter (fun p => p.1 < k), e2 ++ (xs.filter (fun p => !(p.1 < k))).map (fun p => (p.1 - k, p.2))) := by
  intro xs
  induction xs with
  | nil => intro e1 e2; simp [GenSpVec.SpVec.split_loop1]
  | cons p xs ih =>
    intro e1 e2
    rw [GenSpVec.SpVec.split_loop1]
    by_cases h : p.1 < k
    · simp only [h, decide_true, if_true, bind_ok]
      rw [ih]
      simp [h]
    · have hk : k ≤ p.1 := Nat.le_of_not_lt h
      simp only [h, decide_false, Bool.false_eq_true, if_false, U64.sub, hk, if_true, bind_ok]
      rw [ih]
      simp [h]

theorem to_dense_loop : ∀ (xs : List (Nat × R)) (l : List R),
    GenSpVec.SpVec.to_dense_loop1 (xs.filter (fun p => p.2 ≠ 0)) l = xs.foldl tdStep (ok l) := by
  intro xs
  induction xs with
  | nil => intro l; rfl
  | cons p xs ih =>
    intro l
    have e : tdStep (ok l) p = if p.2 = 0 then ok l else if p.1 < l.length then ok (l.set p.1 p.2) else Res.panic := rfl
    rw [List.foldl_cons, e]
    by_cases h : p.2 = 0
    · rw [if_pos h, List.filter_cons_of_neg (by simp [h]), ih]
    · rw [if_neg h, List.filter_cons_of_pos (by simp [h]), GenSpVec.SpVec.to_dense_loop1]
      by_cases hl : p.1 < l.length
      · rw [if_pos hl, ← ih]
        simp only [Sp.list_set, hl, if_true, bind_ok]
      · rw [if_neg hl, td_panic]
        simp only [Sp.list_set, hl, if_false]
        rfl

theorem enum_zip {β : Type} (l : List β) : ∀ k, Sp.enumFrom k l = (l.zipIdx k).map (fun x => (x.2, x.1)) := by
  induction l with
  | nil => intro k; rfl
  | cons a l ih => intro k; simp [Sp.enumFrom, List.zipIdx_cons, ih]

end Yuiv.C13GenV
