import Yuiv.Gen.ReducerFn
import Yuiv.Proofs.Res
/-
C08 — `Yuiv.GenReducer.*` is GENERATED from `/repo/yui-homology/src/utils/chain_reducer.rs` by `tools/rs2lean_fn.py fn:reducer`,
generic over the operations `K : ROps M V T P S` of the files it calls.  There is no hand-written model of the reducer
loop; the `spec*` functions below say, in mathematical form, what one `reduce_at_spec` step does to the three tables
`mats`, `trans`, `vecs` of the reducer state.
-/
namespace Yuiv.C08GenR
open Yuiv Res Yuiv.Rust Yuiv.GenReducer

variable {I M V T P S : Type} [DecidableEq I] [Add I] [Sub I]

abbrev St (I M V T P S : Type) := ChainReducerS I M V T P S

theorem assert_true : Res.assert true = ok () := rfl
theorem assert_false : Res.assert false = (.panic : Res Unit) := rfl
theorem pure_eq_ok {β} (a : β) : (pure a : Res β) = ok a := rfl

/-- `if o.is_some() { let x = o.unwrap(); f x } else { e }` is a `match` -/
theorem isSome_match {α β : Type} (o : Option α) (f : α → Res β) (e : Res β) :
    (if Option.isSome o = true then (Opt.unwrap o >>= f) else e) = (match o with | some x => f x | none => e) := by
  cases o <;> rfl

omit [Add I] [Sub I] in
theorem get_insert_same {X : Type} (m : HMap I X) (i : I) (x : X) : HMap.get (HMap.insert m i x) i = some x := by
  simp [HMap.get, HMap.insert]

omit [Add I] [Sub I] in
theorem get_insert_ne {X : Type} (m : HMap I X) (i j : I) (x : X) (h : j ≠ i) :
    HMap.get (HMap.insert m i x) j = HMap.get m j := by
  unfold HMap.get HMap.insert
  rw [List.find?_cons_of_neg (by simpa using fun e : i = j => h e.symm)]
  congr 1
  induction m with
  | nil => rfl
  | cons e m ih =>
    by_cases he : e.1 = i
    · have hf : (e :: m).filter (fun e => decide (e.1 ≠ i)) = m.filter (fun e => decide (e.1 ≠ i)) :=
        List.filter_cons_of_neg (by simp [he])
      have hej : ¬ e.1 = j := by rw [he]; exact fun x => h x.symm
      rw [hf, ih, List.find?_cons_of_neg (by simpa using hej)]
    · have hf : (e :: m).filter (fun e => decide (e.1 ≠ i)) = e :: m.filter (fun e => decide (e.1 ≠ i)) :=
        List.filter_cons_of_pos (by simp [he])
      rw [hf]
      by_cases hj : e.1 = j
      · rw [List.find?_cons_of_pos (by simpa using hj), List.find?_cons_of_pos (by simpa using hj)]
      · rw [List.find?_cons_of_neg (by simpa using hj), List.find?_cons_of_neg (by simpa using hj), ih]

/-- row `i` survives as row `p(i) − r` when `r ≤ p(i) < m` (the rows of the eliminated block are dropped) -/
def keepRow (K : ROps M V T P S) (p : P) (r m : Nat) (i j : Nat) : Res (Option (Nat × Nat)) := do
  let i' ← K.perm_at p i
  ok (if r ≤ i' ∧ i' < m then some (i' - r, j) else none)

def keepCol (K : ROps M V T P S) (p : P) (r n : Nat) (i j : Nat) : Res (Option (Nat × Nat)) := do
  let j' ← K.perm_at p j
  ok (if r ≤ j' ∧ j' < n then some (i, j' - r) else none)

def keepIdx (K : ROps M V T P S) (q : P) (r n : Nat) (i : Nat) : Res (Option Nat) := do
  let i' ← K.perm_at q i
  ok (if r ≤ i' ∧ i' < n then some (i' - r) else none)

/-- `reduce_mat_rows(a, p, r)` -/
def specRows (K : ROps M V T P S) (a : M) (p : P) (r : Nat) : Res M :=
  if r ≤ K.nrows a then K.extract a (K.nrows a - r, K.ncols a) (keepRow K p r (K.nrows a)) else Res.panic

/-- `reduce_mat_cols(a, p, r)` -/
def specCols (K : ROps M V T P S) (a : M) (p : P) (r : Nat) : Res M :=
  if r ≤ K.ncols a then K.extract a (K.nrows a, K.ncols a - r) (keepCol K p r (K.ncols a)) else Res.panic

/-- first half of `update_mats`: the matrix of degree `i − d`, if set, loses the rows of the pivot block -/
def specMatsPrev (K : ROps M V T P S) (d : I) (mats : HMap I M) (i : I) (q : P) (r : Nat) : Res (HMap I M) :=
  match HMap.get mats (i - d) with
  | some a0 => do
    Res.assert (decide (K.nrows a0 = K.perm_dim q))
    let a0' ← specRows K a0 q r
    ok (HMap.insert mats (i - d) a0')
  | none => ok mats

/-- last part of `update_mats`: the matrix of degree `i + d`, if set, loses the columns of the pivot block -/
def specMatsNext (K : ROps M V T P S) (d : I) (m1 : HMap I M) (i : I) (p : P) (r : Nat) : Res (HMap I M) :=
  match HMap.get m1 (i + d) with
  | some a2 => do
    Res.assert (decide (K.ncols a2 = K.perm_dim p))
    let a2' ← specCols K a2 p r
    ok (HMap.insert m1 (i + d) a2')
  | none => ok m1

/-- `update_mats`: the table of matrices after the step at `i` with Schur complement `s` -/
def specMats (K : ROps M V T P S) (d : I) (mats : HMap I M) (i : I) (p q : P) (r : Nat) (s : M) : Res (HMap I M) :=
  specMatsPrev K d mats i q r >>= fun m0 => specMatsNext K d (HMap.insert m0 i s) i p r

def specTransSrc (K : ROps M V T P S) (tr : HMap I T) (i : I) (q : P) (tsrc : T) : Res (HMap I T) :=
  match HMap.get tr i with
  | some t1 => do
    let t1 ← K.trans_append_perm t1 q
    let t1 ← K.trans_merge t1 tsrc
    ok (HMap.insert tr i t1)
  | none => ok tr

def specTransTgt (K : ROps M V T P S) (d : I) (t0 : HMap I T) (i : I) (p : P) (ttgt : T) : Res (HMap I T) :=
  match HMap.get t0 (i + d) with
  | some t2 => do
    let t2 ← K.trans_append_perm t2 p
    let t2 ← K.trans_merge t2 ttgt
    ok (HMap.insert t0 (i + d) t2)
  | none => ok t0

/-- `update_trans`: `trans[i] ← trans[i] ∘ q ∘ t_src`, `trans[i+d] ← trans[i+d] ∘ p ∘ t_tgt` (each only when tracked) -/
def specTrans (K : ROps M V T P S) (d : I) (tr : HMap I T) (i : I) (p q : P) (tsrc ttgt : T) : Res (HMap I T) :=
  specTransSrc K tr i q tsrc >>= fun t0 => specTransTgt K d t0 i p ttgt

/-- a tracked vector of degree `i`: `assert_eq!(v.dim(), n)`, keep the coordinates `q(k) ∈ r..n` as `q(k) − r` -/
def specVecSrc (K : ROps M V T P S) (q : P) (r n : Nat) (v : V) : Res V := do
  Res.assert (decide (K.vdim v = n))
  if r ≤ n then K.vextract v (n - r) (keepIdx K q r n) else Res.panic

/-- a tracked vector of degree `i + d`: `(x, y) = split_r(p·v)`, `v ← y − c · a⁻¹ x` -/
def specVecTgt (K : ROps M V T P S) (a11 c : M) (p : P) (r m : Nat) (t : TriangularType) (v : V) : Res V := do
  Res.assert (decide (K.vdim v = m))
  let pv ← K.vpermute v p
  let (x, y) ← K.vsplit pv r
  let ainvx ← K.solve_triangular_vec t a11 x
  let cx ← K.mul_vec c ainvx
  K.vsub y cx

def specVecsSrc (K : ROps M V T P S) (vecs : HMap I (List V)) (i : I) (a : M) (q : P) (r : Nat) : Res (HMap I (List V)) :=
  match HMap.get vecs i with
  | some vs => do
    let vs' ← Iter.mapM (specVecSrc K q r (K.ncols a)) vs
    ok (HMap.insert vecs i vs')
  | none => ok vecs

def specVecsTgt (K : ROps M V T P S) (d : I) (v0 : HMap I (List V)) (i : I) (a : M) (p : P) (r : Nat) (t : TriangularType) :
    Res (HMap I (List V)) :=
  match HMap.get v0 (i + d) with
  | some vs => do
    let blocks ← K.divide4 a (r, r)
    let vs' ← Iter.mapM (specVecTgt K blocks.1 blocks.2.2.1 p r (K.nrows a) t) vs
    ok (HMap.insert v0 (i + d) vs')
  | none => ok v0

/-- `update_vecs` (`a` is the permuted matrix) -/
def specVecs (K : ROps M V T P S) (d : I) (vecs : HMap I (List V)) (i : I) (a : M) (p q : P) (r : Nat) (t : TriangularType) :
    Res (HMap I (List V)) :=
  specVecsSrc K vecs i a q r >>= fun v0 => specVecsTgt K d v0 i a p r t

/-- one `reduce_at_spec(i, piv_type, piv_cond)` step -/
def specStep (K : ROps M V T P S) (st : St I M V T P S) (i : I) (pt : PivotType) (pc : PivotCondition) :
    Res (St I M V T P S × Bool) :=
  match HMap.get st.mats i with
  | none => Res.panic
  | some a =>
    if K.is_zero a then ok (st, false) else do
      let pivs ← K.find_pivots a pt pc
      let (p, q) ← K.perms_by_pivots a pivs
      let r := pivs.length
      if r = 0 then ok (st, false) else do
        let a' ← K.permute a p q
        let t := if pt = PivotType.Rows then TriangularType.Upper else TriangularType.Lower
        let wt := HMap.contains_key st.trans i || HMap.contains_key st.trans (i + st.d_deg)
        let sch ← K.schur_new t a' r wt
        let (s, tsrc, ttgt) := K.schur_disassemble sch
        let mats ← specMats K st.d_deg st.mats i p q r s
        let trans ← if wt then do
            let tsrc ← Opt.unwrap tsrc
            let ttgt ← Opt.unwrap ttgt
            specTrans K st.d_deg st.trans i p q tsrc ttgt
          else ok st.trans
        let vecs ← specVecs K st.d_deg st.vecs i a' p q r t
        ok ({ st with mats := mats, trans := trans, vecs := vecs }, true)

/-- `reduce_at(i, deep)`: repeat the step (with the preferred strategy) while `deep` and the step made progress -/
def specAt (K : ROps M V T P S) : Nat → St I M V T P S → I → Bool → Res (St I M V T P S)
  | 0, _, _, _ => Res.err
  | fuel + 1, st, i, deep => do
    let strat ← ChainReducer.preferred_strategy K st i
    let res ← specStep K st i strat.1 strat.2
    if !deep || !res.2 then ok res.1 else specAt K fuel res.1 i deep

/-- `reduce_all(deep)`: nothing when done, else `reduce_at` along the support -/
def specAll (K : ROps M V T P S) (fuel : Nat) (st : St I M V T P S) (deep : Bool) : Res (St I M V T P S) :=
  if ChainReducer.is_done K st then ok st else
    st.support.foldlM (fun s i => specAt K fuel s i deep) st

omit [Add I] [Sub I] in
/-- a table update of the form "if the entry at `k` is set, run `body` on it, else leave the table alone", where an `.ok`
run of `body x` inserts some `x'` with `Q x x'` at `k`: every other key keeps its entry, and a set entry `x` at `k` becomes
such an `x'` -/
theorem update_ok {X : Type} {tbl tbl' : HMap I X} {k : I} {body : X → Res (HMap I X)} {Q : X → X → Prop}
    (h : (match HMap.get tbl k with
      | some x => body x
      | none => ok tbl) = ok tbl')
    (hbody : ∀ x, body x = ok tbl' → ∃ x', Q x x' ∧ tbl' = HMap.insert tbl k x') :
    (∀ j, j ≠ k → HMap.get tbl' j = HMap.get tbl j) ∧
    ∀ x, HMap.get tbl k = some x → ∃ x', Q x x' ∧ HMap.get tbl' k = some x' := by
  cases g0 : HMap.get tbl k with
  | none =>
    rw [g0] at h
    cases h
    exact ⟨fun _ _ => rfl, nofun⟩
  | some x =>
    rw [g0] at h
    obtain ⟨x', hq, rfl⟩ := hbody x h
    refine ⟨fun j hj => get_insert_ne _ _ _ _ hj, fun b hb => ?_⟩
    cases hb
    exact ⟨x', hq, get_insert_same _ _ _⟩

omit [Add I] in
theorem prev_ok (K : ROps M V T P S) (d : I) (mats m0 : HMap I M) (i : I) (q : P) (r : Nat)
    (h : specMatsPrev K d mats i q r = ok m0) :
    (∀ j, j ≠ i - d → HMap.get m0 j = HMap.get mats j) ∧
    (∀ a0, HMap.get mats (i - d) = some a0 →
      ∃ a0', (K.nrows a0 = K.perm_dim q ∧ specRows K a0 q r = ok a0') ∧ HMap.get m0 (i - d) = some a0') :=
  update_ok h fun a0 h => by
    obtain ⟨_, hassert, h⟩ := bind_eq_ok h
    obtain ⟨a0', hrows, h⟩ := bind_eq_ok h
    cases h
    exact ⟨a0', ⟨of_decide_eq_true (assert_eq_ok.1 hassert), hrows⟩, rfl⟩

omit [Sub I] in
theorem next_ok (K : ROps M V T P S) (d : I) (m1 m : HMap I M) (i : I) (p : P) (r : Nat)
    (h : specMatsNext K d m1 i p r = ok m) :
    (∀ j, j ≠ i + d → HMap.get m j = HMap.get m1 j) ∧
    (∀ a2, HMap.get m1 (i + d) = some a2 →
      ∃ a2', (K.ncols a2 = K.perm_dim p ∧ specCols K a2 p r = ok a2') ∧ HMap.get m (i + d) = some a2') :=
  update_ok h fun a2 h => by
    obtain ⟨_, hassert, h⟩ := bind_eq_ok h
    obtain ⟨a2', hcols, h⟩ := bind_eq_ok h
    cases h
    exact ⟨a2', ⟨of_decide_eq_true (assert_eq_ok.1 hassert), hcols⟩, rfl⟩

omit [Add I] [Sub I] in
theorem src_ok (K : ROps M V T P S) (tr t0 : HMap I T) (i : I) (q : P) (tsrc : T) (h : specTransSrc K tr i q tsrc = ok t0) :
    (∀ j, j ≠ i → HMap.get t0 j = HMap.get tr j) ∧
    (∀ t1, HMap.get tr i = some t1 →
      ∃ t1', (K.trans_append_perm t1 q >>= fun t => K.trans_merge t tsrc) = ok t1' ∧ HMap.get t0 i = some t1') :=
  update_ok h fun t1 h => by
    obtain ⟨ta, ha, h⟩ := bind_eq_ok h
    obtain ⟨tb, hb, h⟩ := bind_eq_ok h
    cases h
    exact ⟨tb, by rw [ha]; exact hb, rfl⟩

omit [Sub I] in
theorem tgt_ok (K : ROps M V T P S) (d : I) (t0 tr' : HMap I T) (i : I) (p : P) (ttgt : T)
    (h : specTransTgt K d t0 i p ttgt = ok tr') :
    (∀ j, j ≠ i + d → HMap.get tr' j = HMap.get t0 j) ∧
    (∀ t2, HMap.get t0 (i + d) = some t2 →
      ∃ t2', (K.trans_append_perm t2 p >>= fun t => K.trans_merge t ttgt) = ok t2' ∧ HMap.get tr' (i + d) = some t2') :=
  update_ok h fun t2 h => by
    obtain ⟨ta, ha, h⟩ := bind_eq_ok h
    obtain ⟨tb, hb, h⟩ := bind_eq_ok h
    cases h
    exact ⟨tb, by rw [ha]; exact hb, rfl⟩

end Yuiv.C08GenR
