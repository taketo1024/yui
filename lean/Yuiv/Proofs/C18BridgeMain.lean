import Yuiv.Proofs.C18BridgeModel
import Yuiv.Proofs.C18BridgeSim
import Yuiv.Proofs.C18InvOri
import Yuiv.Proofs.C18InvPerm
import Yuiv.Proofs.C18InvBraid2
/-
C18Bridge — `KhRef.crossingSigns` on translated links = encoding of `C18.crossingSigns`, and the transfer of the
C18 / C18Inv sign theorems to the reference.
-/
namespace Yuiv.C18Bridge
open Yuiv Yuiv.KhRef
open Yuiv.C18 (Valid)

/-- THE BRIDGE: for every valid link the reference's `crossingSigns` of the translated link is the encoding of
the code model's `crossing_signs` (both return) -/
theorem khSigns_eq (l : C18.Link) (hv : Valid l) :
    ∃ s, C18.crossingSigns l = .ok s ∧ KhRef.crossingSigns (toKh l) = some (s.map encSign).toArray := by
  obtain ⟨s, h1, h2⟩ := signsF_toKh l hv
  exact ⟨s, h1, by rw [crossingSigns_eq, h2]⟩

theorem khSigns_enc (l : C18.Link) (hv : Valid l) :
    KhRef.crossingSigns (toKh l) = encSigns (C18.crossingSigns l) := by
  obtain ⟨s, h1, h2⟩ := khSigns_eq l hv
  rw [h2, h1]; rfl

theorem toKh_permute (p : List Nat) (l : C18.Link) : toKh (C18.permute p l) = permuteK p (toKh l) := by
  unfold toKh C18.permute permuteK
  rw [List.map_filterMap]
  refine congrArg (fun g => (p.filterMap g).toArray) (funext fun i => ?_)
  simp only [List.getElem?_toArray, List.getElem?_map]

theorem ctKh_mirror (t : C18.CType) : ctKh t.mirror = (ctKh t).mirror := by cases t <;> rfl

theorem toKh_mirror (l : C18.Link) : toKh (C18.mirror l) = KhRef.mirror (toKh l) := by
  unfold toKh C18.mirror KhRef.mirror
  rw [List.map_map, List.map_toArray, List.map_map]
  congr 2
  funext c
  simp only [Function.comp, crossingKh, C18.Crossing.mirror, ctKh_mirror]

theorem toKh_renumber (f : Nat → Nat) (l : C18.Link) : toKh (C18.renumber f l) = renumberK f (toKh l) := by
  unfold toKh C18.renumber renumberK
  rw [List.map_map, List.map_toArray, List.map_map]
  congr 2
  funext c
  simp [Function.comp, crossingKh, C18.Crossing.convertEdges]

/-- number of positive / negative entries, as `khHomology` and `jones` count them -/
def nPosK (sg : Array Int) : Nat := (sg.filter (· > 0)).size
def nNegK (sg : Array Int) : Nat := (sg.filter (· < 0)).size

theorem filter_enc_size (p : Int → Bool) (a : C18.Sign) (h : ∀ b, p (encSign b) = (b == a)) (s : List C18.Sign) :
    ((s.map encSign).toArray.filter p).size = s.count a := by
  rw [← Array.length_toList, Array.toList_filter, List.filter_map, List.length_map, List.count_eq_countP,
    List.countP_eq_length_filter]
  exact congrArg (fun q => (s.filter q).length) (funext h)

theorem nPos_enc (s : List C18.Sign) : nPosK (s.map encSign).toArray = s.count .pos :=
  filter_enc_size _ .pos (fun b => by cases b <;> rfl) s

theorem nNeg_enc (s : List C18.Sign) : nNegK (s.map encSign).toArray = s.count .neg :=
  filter_enc_size _ .neg (fun b => by cases b <;> rfl) s

theorem encSign_flip (s : C18.Sign) : encSign s.flip = -encSign s := by cases s <;> rfl

end Yuiv.C18Bridge
