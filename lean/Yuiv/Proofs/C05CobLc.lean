import Yuiv.Proofs.C05EngineScriptDD
import Yuiv.Props.C05EngineLc
import Mathlib.Algebra.Algebra.Defs
import Mathlib.Algebra.Algebra.Basic
/-
C05 (cobordisms) — the REAL edge algebra `lcOps h t` satisfies the value laws `ValEdgeOps`, `ValTensorOps`,
`ValDeloopOps` for `val = lcVal φ` as soon as the invariant `φ : Cob → A` (into an `R`-algebra) satisfies identities
about SINGLE cobordisms: functoriality for stacking, `connect` with an identity, `cap_off`, `part_eval`.
-/
namespace Yuiv.C05.Engine
open Yuiv.C05.Tng

section
variable {R A : Type} [CommRing R] [CoefU R] [LawfulCoef R] [Ring A] [Algebra R A]

/-- the identities about single cobordisms that make `lcVal φ` a lawful value map -/
structure CobLaws (φ : Cob → A) (h t : R) (tl tr : A → Tng → A) : Prop where
  /-- (C1) `φ` does not see the difference between `Eq`-equal cobordisms -/
  resp : Respects φ
  /-- (C2 + functoriality) stacking is multiplication: first `y`, then `x` -/
  stack : ∀ x y k, Cob.stack y x = .ok k → φ k = φ x * φ y
  /-- (C5) `part_eval` keeps the value -/
  peval : ∀ k e, Cob.partEval h t k = .ok e → lcVal φ e = φ k
  /-- closed zero components are invisible -/
  zcob : ∀ k, Cob.isZeroCob k = true → φ k = 0
  /-- (C4, one-sided) `connect` with an identity is `tl` / `tr` -/
  connL : ∀ k w k', Cob.connect k (Cob.idFor w) = .ok k' → φ k' = tl (φ k) w
  connR : ∀ k v k', Cob.connect k (Cob.idFor v) = .ok k' → φ k' = tr (φ k) v
  tl_zero : ∀ w, tl 0 w = 0
  tr_zero : ∀ v, tr 0 v = 0
  tl_add : ∀ f g w, tl (f + g) w = tl f w + tl g w
  tr_add : ∀ f g v, tr (f + g) v = tr f v + tr g v
  tl_smul : ∀ (r : R) f w, tl (r • f) w = r • tl f w
  tr_smul : ∀ (r : R) f v, tr (r • f) v = r • tr f v
  tl_mul : ∀ f g w, tl (f * g) w = tl f w * tl g w
  tr_mul : ∀ f g v, tr (f * g) v = tr f v * tr g v

omit [CoefU R] [LawfulCoef R] in
theorem lcVal_mul_row (φ : Cob → A) (x : A) (r : R) (b : LcCob R) :
    r • x * lcVal φ b = r • lcVal (fun y => x * φ y) b := by
  induction b with
  | nil => simp
  | cons q b ihb =>
    rw [lcVal_cons, lcVal_cons, mul_add, smul_add, ← ihb]
    congr 1
    rw [smul_mul_smul_comm, mul_smul, smul_comm]

omit [CoefU R] [LawfulCoef R] in
theorem lcVal_mul (φ : Cob → A) (a b : LcCob R) :
    lcVal φ a * lcVal φ b = lcVal (fun x => lcVal (fun y => φ x * φ y) b) a := by
  induction a with
  | nil => simp
  | cons p a ih => rw [lcVal_cons, lcVal_cons, add_mul, ih, lcVal_mul_row]

omit [CoefU R] [LawfulCoef R] in
theorem lcVal_congr (φ ψ : Cob → A) (a : LcCob R) (h : ∀ p ∈ a, φ p.1 = ψ p.1) : lcVal φ a = lcVal ψ a := by
  induction a with
  | nil => rfl
  | cons p a ih =>
    rw [lcVal_cons, lcVal_cons, h p List.mem_cons_self, ih (fun q hq => h q (List.mem_cons_of_mem _ hq))]

omit [CommRing R] [LawfulCoef R] in
theorem lcCombine_ok_each (F : Cob → Cob → Res Cob) (a b c : LcCob R) (h : lcCombine F a b = .ok c) :
    ∀ x ∈ a, ∀ y ∈ b, ∃ k, F x.1 y.1 = .ok k := by
  unfold lcCombine at h
  simp only at h
  split at h
  · rename_i ps hps
    intro x hx y hy
    have hmem : (x, y) ∈ a.flatMap (fun x => b.map (fun y => (x, y))) := by
      simp only [List.mem_flatMap, List.mem_map]
      exact ⟨x, hx, y, hy, rfl⟩
    obtain ⟨q, _, hq⟩ := mapMRes_ok_of_mem _ _ _ hps _ hmem
    rcases hF : F x.1 y.1 with k | _ | _
    · exact ⟨k, rfl⟩
    · simp [hF] at hq
    · simp [hF] at hq
  · cases h
  · cases h

omit [CommRing R] [LawfulCoef R] in
theorem lcMapGens_ok_each (z : Bool) (f : Cob → Res Cob) (a c : LcCob R) (h : lcMapGens z f a = .ok c) :
    ∀ p ∈ a, ∃ k, f p.1 = .ok k := by
  unfold lcMapGens at h
  split at h
  · rename_i ps hps
    intro p hp
    obtain ⟨q, _, hq⟩ := mapMRes_ok_of_mem _ _ _ hps _ hp
    rcases hF : f p.1 with k | _ | _
    · exact ⟨k, rfl⟩
    · simp [hF] at hq
    · simp [hF] at hq
  · cases h
  · cases h

def orEmpty (r : Res Cob) : Cob := match r with | .ok k => k | _ => []

theorem lcVal_lcMul (φ : Cob → A) (h : R) (t : R) (tl tr : A → Tng → A) (hφ : CobLaws φ h t tl tr) (a b c : LcCob R)
    (hm : lcMul a b = .ok c) : lcVal φ c = lcVal φ a * lcVal φ b := by
  have hall := lcCombine_ok_each (fun x y => Cob.stack y x) a b c hm
  have hG : ∀ x ∈ a, ∀ y ∈ b, Cob.stack y.1 x.1 = .ok (orEmpty (Cob.stack y.1 x.1)) := by
    intro x hx y hy
    obtain ⟨k, hk⟩ := hall x hx y hy
    rw [hk]; rfl
  rw [lcVal_combine φ hφ.resp (fun x y => Cob.stack y x) (fun x y => orEmpty (Cob.stack y x)) a b c hG hm,
    lcVal_mul]
  unfold bilVal
  apply lcVal_congr
  intro p hp
  apply lcVal_congr
  intro q hq
  obtain ⟨k, hk⟩ := hall p hp q hq
  simp only [hk, orEmpty]
  exact hφ.stack _ _ _ hk

omit [LawfulCoef R] in
theorem lcOps_isZero_val (φ : Cob → A) (h t : R) (x : LcCob R) (hx : (lcOps h t).isZero x = true) : lcVal φ x = 0 := by
  simp only [lcOps] at hx
  rw [List.isEmpty_iff.1 hx]
  rfl

theorem lcOps_valEdgeOps (φ : Cob → A) (h t : R) (tl tr : A → Tng → A) (hφ : CobLaws φ h t tl tr) :
    ValEdgeOps (lcOps h t) (lcVal φ : LcCob R → A) := by
  refine ⟨?_, fun d x => lcVal_sub φ hφ.resp d x, fun x => lcVal_neg φ hφ.resp x, lcOps_isZero_val φ h t⟩
  intro c ainv b r hr
  obtain ⟨x, y, hx, hy, hv⟩ :=
    (lcOps_in_terms_of_values φ hφ.resp h t hφ.peval).2.2.1 c ainv b r hr
  rw [hv, lcVal_lcMul φ h t tl tr hφ x b y hy, lcVal_lcMul φ h t tl tr hφ c ainv x hx]

omit [CoefU R] [LawfulCoef R] in
theorem lcVal_linear_map (φ : Cob → A) (T : A → A) (hz : T 0 = 0) (ha : ∀ x y, T (x + y) = T x + T y)
    (hs : ∀ (r : R) x, T (r • x) = r • T x) (a : LcCob R) : lcVal (fun k => T (φ k)) a = T (lcVal φ a) := by
  induction a with
  | nil => simp [hz]
  | cons p a ih => rw [lcVal_cons, lcVal_cons, ha, hs, ih]

/-- a map on the generators that acts on `φ` through an `R`-linear `T` acts on values through `T`
(`connected`, `cap_off`: `T` = `tl · w`, `tr · v`, multiplication by a cap or a cup) -/
theorem lcVal_mapGens_linear (φ : Cob → A) (hφ : Respects φ) (z : Bool) (F : Cob → Res Cob) (T : A → A)
    (hz : T 0 = 0) (ha : ∀ x y, T (x + y) = T x + T y) (hs : ∀ (r : R) x, T (r • x) = r • T x)
    (hF : ∀ k k', F k = .ok k' → φ k' = T (φ k))
    (hzc : z = true → ∀ k, Cob.isZeroCob k = true → φ k = 0)
    (f e : LcCob R) (h : lcMapGens z F f = .ok e) : lcVal φ e = T (lcVal φ f) := by
  have hall := lcMapGens_ok_each z F f e h
  have hG : ∀ p ∈ f, F p.1 = .ok (orEmpty (F p.1)) := by
    intro p hp
    obtain ⟨k, hk⟩ := hall p hp
    rw [hk]
    rfl
  rw [lcVal_mapGens φ hφ z F (fun k => orEmpty (F k)) f e hG hzc h, ← lcVal_linear_map φ T hz ha hs f]
  apply lcVal_congr
  intro p hp
  obtain ⟨k, hk⟩ := hall p hp
  simp only [hk, orEmpty]
  exact hF _ _ hk

theorem lcOps_valTensorOps (φ : Cob → A) (h t : R) (tl tr : A → Tng → A) (hφ : CobLaws φ h t tl tr) :
    ValTensorOps (lcOps h t) (lcVal φ : LcCob R → A) tl tr := by
  refine ⟨?_, ?_, lcOps_isZero_val φ h t, hφ.tl_zero, hφ.tr_zero, hφ.tl_add, hφ.tr_add, hφ.tl_mul, hφ.tr_mul⟩
  · intro f w g hg
    simp only [lcOps] at hg
    rcases hc : lcConnected f (Cob.idFor w) with c | _ | _ <;> simp only [hc] at hg <;> try cases hg
    rw [lc_part_eval_keeps_value φ hφ.resp h t c g hφ.peval hg]
    exact lcVal_mapGens_linear φ hφ.resp false _ (fun x => tl x w) (hφ.tl_zero w) (fun x y => hφ.tl_add x y w)
      (fun r x => hφ.tl_smul r x w) (fun k k' hk => hφ.connL k w k' hk) (fun hf => by cases hf) f c hc
  · intro neg f v g hg
    simp only [lcOps] at hg
    rcases hc : lcConnected f (Cob.idFor v) with c | _ | _ <;> simp only [hc] at hg <;> try cases hg
    rw [lc_part_eval_keeps_value φ hφ.resp h t _ g hφ.peval hg, lcVal_smul,
      lcVal_mapGens_linear φ hφ.resp false _ (fun x => tr x v) (hφ.tr_zero v) (fun x y => hφ.tr_add x y v)
        (fun r x => hφ.tr_smul r x v) (fun k k' hk => hφ.connR k v k' hk) (fun hf => by cases hf) f c hc]
    cases neg <;> simp [LawfulCoef.neg_eq, LawfulCoef.one_eq]

theorem lcOps_valDeloopOps (φ : Cob → A) (h t : R) (tl tr : A → Tng → A) (hφ : CobLaws φ h t tl tr) (c : Path)
    (cap cup : Dot → A)
    (hT : ∀ d k k', Cob.capOff k .tgt c d = .ok k' → φ k' = cap d * φ k)
    (hS : ∀ d k k', Cob.capOff k .src c d = .ok k' → φ k' = φ k * cup d) :
    ValDeloopOps (lcOps h t) (lcVal φ : LcCob R → A) c cap cup := by
  refine ⟨?_, ?_, lcOps_isZero_val φ h t⟩
  · intro d f g hg
    simp only [lcOps] at hg
    rcases hc : lcCapOff .tgt c d f with e | _ | _ <;> simp only [hc] at hg <;> try cases hg
    rw [lc_part_eval_keeps_value φ hφ.resp h t e g hφ.peval hg]
    exact lcVal_mapGens_linear φ hφ.resp true _ (fun x => cap d * x) (mul_zero _) (fun x y => mul_add _ x y)
      (fun r x => mul_smul_comm r (cap d) x) (hT d) (fun _ => hφ.zcob) f e hc
  · intro d f g hg
    simp only [lcOps] at hg
    rcases hc : lcCapOff .src c d f with e | _ | _ <;> simp only [hc] at hg <;> try cases hg
    rw [lc_part_eval_keeps_value φ hφ.resp h t e g hφ.peval hg]
    exact lcVal_mapGens_linear φ hφ.resp true _ (fun x => x * cup d) (zero_mul _) (fun x y => add_mul x y _)
      (fun r x => smul_mul_assoc r x (cup d)) (hS d) (fun _ => hφ.zcob) f e hc

end
end Yuiv.C05.Engine
