import Yuiv.Proofs.KhSnfEx
import Yuiv.Proofs.KhSnfF2
/-
KhSnf — THE INTEGER LINEAR ALGEBRA OF THE REFERENCE IS VERIFIED: `KhRef.smithInvariants` (a total definition:
`unitLoop` + `denseDiag` = `denseLoop`/`levelLoop`/`pivotStep`/`findPivot`, all by structural recursion on fuel)
returns a Smith normal form of the matrix represented by its sparse rows, and `KhRef.homologyOf` reports the cells
`cellOf` of `Proofs/C03Uct`.

VOCABULARY.  `rval r c` = value of the sparse row `r` at column `c`; `RowOK n r` (decidable) = strictly increasing
columns `< n`, no zero value; `matOf n rows : Matrix (Fin rows.size) (Fin n) ℤ`; `EquivDiag A d` (C03Uct) =
`P·A·Q = rectDiag d` with unimodular `P`, `Q`; `diagOf (r, d)` = `r − |d|` ones followed by `d`.

MAIN STATEMENT (`smithInvariants_correct`): for well-formed rows, `smithInvariants rows = (r, d)` satisfies
`|d| ≤ r`, `EquivDiag (matOf n rows) (1,…,1, d₁,…,d_k)` with `r − k` ones, every `dᵢ > 1` (POSITIVE, not only `≠ 1`:
the dense phase records absolute values and `chain` takes gcds/lcms of positive numbers), and `d₁ ∣ d₂ ∣ … ∣ d_k`.
So `snf_counts_unique`, `uct_count_fp`, `mirror_rule_cells`, … apply to what the reference actually computes.

METHOD.  An invariant `GInv` ("the original matrix is unimodularly equivalent to: `units` unit pivots alone in their
rows/columns, plus a copy of the live matrix, plus zeros") with an API of elementary moves (row operations, column
operations, re-indexing/dropping zero rows and columns, peeling a unit pivot, final diagonal); the unit-pivot phase and
every round of the dense phase are compositions of such moves; the fuel of `levelLoop` (absolute value of the first
pivot of the level) is never exhausted because every unclean round leaves a non-zero remainder of smaller absolute
value than its pivot.  Soundness of the unit phase does not depend on its fuel.

WHAT IS ASSUMED HERE (per instance, decidable): the rows handed to `smithInvariants` are `RowOK`.  `homologyOf` builds
them with `normalizeRow`, which sorts with `Array.qsort`; `homologyOf_spec` carries the hypothesis `RowsOK`, which
is a theorem for the tables of `khHomology` (`KhSpec.Fam.rowsOK` in `Proofs/KhSpecCells`, from `normalizeRow_rowOK`;
stated for the whole cube as `Props/KhSpec.khInstanceOk_holds`).
FINDING (reference only, harmless): `rowAxpy a 0 b` can create zero entries (`rowAxpy_zero_defect`); it is only ever
called with a non-zero factor.
-/
namespace Yuiv.KhSnf
open Yuiv Yuiv.KhRef Matrix Yuiv.C03Uct Yuiv.C03

/-- `rowGet` (binary search, a `while` loop with early return) returns the value of a well-formed row -/
theorem rowGet_spec (n : Nat) (r : Row) (j : Nat) (h : RowOK n r) : rowGet r j = rval r j := rowGetSpec n r j h

/-- `rowAxpy a k b = a + k·b` (sorted merge, a `while` loop), well-formed for `k ≠ 0` -/
theorem rowAxpy_spec (n : Nat) (a b : Row) (k : Int) (hk : k ≠ 0) (ha : RowOK n a) (hb : RowOK n b) :
    RowOK n (rowAxpy a k b) ∧ ∀ c, rval (rowAxpy a k b) c = rval a c + k * rval b c :=
  rowAxpySpec_ne hk ha hb

/-- the values are right for every `k` and all rows -/
theorem rowAxpy_value (a : Row) (k : Int) (b : Row) (c : Nat) : rval (rowAxpy a k b) c = rval a c + k * rval b c :=
  rval_rowAxpy a k b c

/-- … but for `k = 0` the result may contain explicit zeros (`rowAxpy #[] 0 #[(0,1)] = #[(0,0)]`): the two branches
that copy `k·b` do not test for zero.  The reference calls it with `k = −(a·u)`, `a ≠ 0`, `u = ±1` only. -/
theorem rowAxpy_zero_defect : ¬ RowAxpySpec := by
  intro h
  have hb : RowOK 1 #[((0 : Nat), (1 : Int))] := by simp [RowOK]
  have ha : RowOK 1 #[] := by simp [RowOK]
  have h1 := (h 1 #[] #[((0 : Nat), (1 : Int))] 0 ha hb).1.2.1
  rw [rowAxpy_toList] at h1
  exact h1 (0, 0) (by simp [mergeL]) rfl

/-- the unit-pivot phase preserves the elimination invariant, whatever the fuel -/
theorem unit_phase_invariant {m n : Nat} {A : Matrix (Fin m) (Fin n) ℤ} (fuel : Nat) (rows : Array Row) (units : Nat)
    (hok : ∀ r ∈ rows.toList, RowOK n r) (hG : GInv m n A rows.size n (rowsFn rows) units) :
    (∀ r ∈ (unitLoop fuel rows units).1.toList, RowOK n r) ∧
    GInv m n A (unitLoop fuel rows units).1.size n (rowsFn (unitLoop fuel rows units).1) (unitLoop fuel rows units).2 :=
  unitLoop_ginv fuel rows units hok hG

/-- every round removes a row, so `unitLoop` with fuel `rows.size` reaches a matrix without unit entries -/
theorem unit_step_decreases (rows next : Array Row) (h : unitStep rows = some next) : next.size < rows.size := by
  obtain ⟨i, j, u, hi, _, hn⟩ := UnitStep.unitStep_struct rows next h
  have h1 : next.size = (UnitStep.keptIdx rows i j u).length := by
    rw [← Array.length_toList, hn, List.length_map]
  have h2 : (UnitStep.keptIdx rows i j u).length < (List.range rows.size).length := by
    unfold UnitStep.keptIdx
    rw [List.length_filter_lt_length_iff_exists]
    exact ⟨i, by simpa using hi, by simp⟩
  rw [h1]; simpa using h2

/-- the dense phase: the diagonal of `denseDiag` (all entries positive) completes the unit pivots to a diagonal form;
in particular the fuel of its loops is sufficient -/
theorem dense_phase_correct {m n : Nat} {A : Matrix (Fin m) (Fin n) ℤ} {mr nc units : Nat} {a0 : Array (Array Int)}
    (hS : Shape a0 mr nc) (hG : GInv m n A mr nc (afn a0) units) :
    EquivDiag A (List.replicate units 1 ++ (denseDiag a0).toList) ∧ ∀ x ∈ (denseDiag a0).toList, 0 < x :=
  denseDiag_equivDiag hS hG

/-- `chain` keeps the diagonal form (gcd/lcm steps are unimodular) and produces a divisibility chain -/
theorem chain_correct {m n : Nat} {A : Matrix (Fin m) (Fin n) ℤ} (pre : List Int) (d : Array Int)
    (h : EquivDiag A (pre ++ d.toList)) :
    EquivDiag A (pre ++ (chain d).toList) ∧ (chain d).size = d.size ∧
    ∀ i j, i < j → j < d.size → (chain d).toList.getD i 0 ∣ (chain d).toList.getD j 0 :=
  ⟨equivDiag_chain pre d h, chain_size d, chain_dvd' d⟩

/-- `smithInvariants` RETURNS A SMITH NORMAL FORM -/
theorem smithInvariants_correct (n : Nat) (rows : Array Row) (hok : ∀ r ∈ rows.toList, RowOK n r) :
    (smithInvariants rows).2.size ≤ (smithInvariants rows).1 ∧
    EquivDiag (matOf n rows)
      (List.replicate ((smithInvariants rows).1 - (smithInvariants rows).2.size) 1 ++ (smithInvariants rows).2.toList) ∧
    (∀ x ∈ (smithInvariants rows).2.toList, 1 < x) ∧
    (smithInvariants rows).2.toList.Pairwise (fun x y => x ∣ y) :=
  smithInvariants_spec n rows hok

/-- the first component is the rank over ℚ -/
theorem smithInvariants_rank_rat (n : Nat) (rows : Array Row) (hok : ∀ r ∈ rows.toList, RowOK n r) :
    ((matOf n rows).map (Int.castRingHom ℚ)).rank = (smithInvariants rows).1 := by
  rw [rank_rat_of_equivDiag _ _ (equivDiag_smith n rows hok)]
  exact nz_diagOf (invOK_smith n rows hok)

/-- `rankOver (Fp p)` of the result is the rank of the matrix reduced mod `p` -/
theorem smithInvariants_rank_fp (p : ℕ) [hp : Fact p.Prime] (n : Nat) (rows : Array Row)
    (hok : ∀ r ∈ rows.toList, RowOK n r) :
    ((matOf n rows).map (Int.castRingHom (ZMod p))).rank = rankOver (.Fp p) (smithInvariants rows) := by
  rw [rank_zmod_of_equivDiag p _ _ (equivDiag_smith n rows hok)]
  exact ndiv_diagOf (invOK_smith n rows hok) p hp.out.two_le

/-- `homologyOf` is, position by position, `groupAt` (loop-free form) -/
theorem homologyOf_functional (k : Coeff) (gens : Array (Array Gen)) (d : Gen → Array Term) :
    homologyOf k gens d = ((List.range gens.size).map (groupAt k gens d)).toArray :=
  homologyOf_eq k gens d

/-- WHAT `homologyOf` REPORTS: there are diagonal forms `dIn`, `dOut` of the matrices of the incoming and the outgoing
differential (as built by `homologyOf`: rows = generators of the source degree; the transposed statement for the incoming
one is included; `[]` at the ends of the complex) such that the group at position `i` is `cellOf n dIn dOut` over ℤ
(rank `n − rk − rk`, torsion = the invariant factors `> 1` of the incoming differential), has rank `n − nz dIn − nz dOut`
over ℚ and `n − ndiv p dIn − ndiv p dOut` over `𝔽_p` — the quantities of `uct_rank_rat`, `uct_count_fp`,
`dimFp_formula`, `rankQ_formula` (which need `B·A = 0` in addition) -/
theorem homologyOf_spec (gens : Array (Array Gen)) (d : Gen → Array Term) (hok : RowsOK gens d) (i : Nat)
    (hi : i < gens.size) :
    ∃ dIn dOut : List ℤ,
      (if i + 1 < gens.size then EquivDiag (matOf (gens[i + 1]!).size (rowsAt gens d i)) dOut else dOut = []) ∧
      (if 0 < i then EquivDiag (matOf (gens[i]!).size (rowsAt gens d (i - 1))) dIn ∧
          EquivDiag (matOf (gens[i]!).size (rowsAt gens d (i - 1)))ᵀ dIn else dIn = []) ∧
      ((homologyOf .Z gens d)[i]!).rank = (cellOf (gens[i]!).size dIn dOut).rank ∧
      ((homologyOf .Z gens d)[i]!).tors.toList = (cellOf (gens[i]!).size dIn dOut).tors ∧
      ((homologyOf .Q gens d)[i]!).rank = (gens[i]!).size - nz dIn - nz dOut ∧
      ((homologyOf .Q gens d)[i]!).tors = #[] ∧
      ∀ p, 2 ≤ p → ((homologyOf (.Fp p) gens d)[i]!).rank = (gens[i]!).size - ndiv (p : ℤ) dIn - ndiv (p : ℤ) dOut ∧
        ((homologyOf (.Fp p) gens d)[i]!).tors = #[] := by
  refine ⟨diagOf (invIn gens d i), diagOf (invAt gens d i), ?_, ?_, groupAt_spec gens d hok i hi⟩
  · split
    · rename_i h
      rw [invAt_of_lt h]
      exact equivDiag_smith _ _ (hok i h)
    · rename_i h
      rw [invAt_of_not_lt h]; rfl
  · cases i with
    | zero => rfl
    | succ i =>
      rw [if_pos (Nat.succ_pos i), invIn_succ, Nat.add_sub_cancel, invAt_of_lt hi]
      have := equivDiag_smith _ _ (hok i hi)
      exact ⟨this, Yuiv.C02Mirror.equivDiag_transpose _ _ this⟩

/-- the bitset elimination of the involutive reference (`C19.rankF2`: a hash map of pivots by leading bit, a `while`
loop per row) computes the rank over `𝔽₂` of the 0/1 matrix of its rows -/
theorem rankF2_correct (n : Nat) (rows : Array Nat) (h : ∀ r ∈ rows.toList, r < 2 ^ n) :
    Yuiv.C19.rankF2 rows = (bitMat n rows).rank :=
  rankF2_spec n rows h

/-- `diag(2, 6)`: rank 2, invariant factors 2, 6 — and the theorem gives `EquivDiag … [2, 6]` -/
example : (∀ r ∈ exRows.toList, RowOK 2 r) ∧ smithInvariants exRows = (2, #[2, 6]) ∧
    EquivDiag (matOf 2 exRows) [2, 6] := by
  refine ⟨exRows_ok, exRows_smith, ?_⟩
  have := (smithInvariants_correct 2 exRows exRows_ok).2.1
  rw [exRows_smith] at this
  exact this

/-- the dense phase and `chain` on concrete matrices (kernel evaluation of the total definitions) -/
example : chain (denseDiag #[#[2, 0], #[0, 6]]) = #[2, 6] ∧ chain (denseDiag #[#[4, 6], #[6, 6]]) = #[2, 6] ∧
    denseDiag #[#[2, 4, 4], #[-6, 6, 12], #[10, 4, 16]] = #[2, 4, 78] ∧
    chain #[4, 6] = #[2, 12] := by
  decide +kernel

/-- `rankF2` on `{011, 101, 110}` (rank 2) and on the unit vectors (rank 3) -/
example : Yuiv.C19.rankF2 #[3, 5, 6] = 2 ∧ Yuiv.C19.rankF2 #[1, 2, 4] = 3 ∧ (bitMat 3 #[3, 5, 6]).rank = 2 :=
  ⟨rankF2_ex_356, rankF2_ex_124, by rw [← rankF2_spec 3 #[3, 5, 6] (by decide)]; exact rankF2_ex_356⟩

end Yuiv.KhSnf
