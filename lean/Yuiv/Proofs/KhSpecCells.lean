import Yuiv.Proofs.KhSpecFam
import Yuiv.Proofs.KhSpecSort
import Yuiv.Proofs.C02MirrorAlg
/-
KhSpec — what `homologyOf` reports for a family `G` closed under `d` (`Fam`): the diagonals `diagAt` / `diagIn` read off the
Smith invariants are diagonal forms of `dMat`, the group at position `i` is the cell `cellOf` of these diagonals, and over
ℚ and `𝔽_q` its rank is `dim ker/im` of `ℤ^{G[j]} --(dMat j)ᵀ--> ℤ^{G[j+1]} --(dMat (j+1))ᵀ--> ℤ^{G[j+2]}` (`Proofs/C03Uct`).
-/
namespace Yuiv.KhSpec
open Yuiv.KhRef Matrix Yuiv.KhSnf Yuiv.C03Uct
open Yuiv.C02Mirror (cubeOK Pair dCoef coefT)

/-- the diagonal of the differential out of weight `i` of the family `G` as computed by the reference (`[]` for `i ≥ n`) -/
def diagAt (c : Cube) (p : Params) (G : Array (Array Gen)) (i : Nat) : List ℤ :=
  diagOf (invAt G (dTab c p (gensByWeight c)) i)

/-- the diagonal of the differential into weight `i` -/
def diagIn (c : Cube) (p : Params) (G : Array (Array Gen)) (i : Nat) : List ℤ :=
  if i = 0 then [] else diagAt c p G (i - 1)

section
variable {c : Cube} {p : Params} {G : Array (Array Gen)}

/-- the sparse rows that `homologyOf` builds for a family are well-formed (`normalizeRow` sorts) -/
theorem Fam.rowsOK (F : Fam c p G) : RowsOK G (dTab c p (gensByWeight c)) := by
  intro j _ r hr
  rw [rowsAt_eq] at hr
  simp only [Array.toList_map, List.mem_map] at hr
  obtain ⟨g, hg, rfl⟩ := hr
  apply normalizeRow_rowOK
  intro x hx
  simp only [Array.toList_map, List.mem_map] at hx
  obtain ⟨t, ht, rfl⟩ := hx
  dsimp only
  exact idx_lt _ (F.nd (j + 1)) t.1 (F.tgt j g hg t ht)

theorem diagAt_nil (F : Fam c p G) (i : Nat) (hi : c.n ≤ i) : diagAt c p G i = [] := by
  unfold diagAt
  rw [invAt_of_not_lt (by rw [F.size]; omega)]
  rfl

theorem diagAt_equivDiag (H : Ctx c p) (F : Fam c p G) (i : Nat)
    (hi : i < c.n) : EquivDiag (dMat c p G i) (diagAt c p G i) := by
  apply equivDiag_dMat H F
  have hlt : i + 1 < G.size := by rw [F.size]; omega
  unfold diagAt
  rw [invAt_of_lt hlt]
  exact equivDiag_smith _ _ (F.rowsOK i hlt)

theorem diagIn_eq (i : Nat) : diagIn c p G i = diagOf (invIn G (dTab c p (gensByWeight c)) i) := by
  unfold diagIn diagAt invIn
  by_cases h : i = 0
  · subst h
    rfl
  · rw [if_neg h, if_neg (by simpa using h)]

theorem groups_spec (F : Fam c p G) (i : Nat) (hi : i ≤ c.n) :
    ((homologyOf .Z G (dTab c p (gensByWeight c)))[i]!).rank =
        (cellOf (G[i]!).size (diagIn c p G i) (diagAt c p G i)).rank ∧
    ((homologyOf .Z G (dTab c p (gensByWeight c)))[i]!).tors.toList =
        (cellOf (G[i]!).size (diagIn c p G i) (diagAt c p G i)).tors ∧
    ((homologyOf .Q G (dTab c p (gensByWeight c)))[i]!).rank =
        (G[i]!).size - nz (diagIn c p G i) - nz (diagAt c p G i) ∧
    ((homologyOf .Q G (dTab c p (gensByWeight c)))[i]!).tors = #[] ∧
    ∀ q, 2 ≤ q →
      ((homologyOf (.Fp q) G (dTab c p (gensByWeight c)))[i]!).rank =
        (G[i]!).size - ndiv (q : ℤ) (diagIn c p G i) - ndiv (q : ℤ) (diagAt c p G i) ∧
      ((homologyOf (.Fp q) G (dTab c p (gensByWeight c)))[i]!).tors = #[] := by
  rw [diagIn_eq]
  exact groupAt_spec G _ F.rowsOK i (by rw [F.size]; omega)

end

section
open Module

theorem equivDiag_nil_of_rows {m n : Nat} (hm : m = 0) (A : Matrix (Fin m) (Fin n) ℤ) : EquivDiag A [] := by
  subst hm
  exact ⟨by simp, 1, 1, by simp, by simp, by ext i; exact i.elim0⟩

theorem equivDiag_nil_of_cols {m n : Nat} (hn : n = 0) (A : Matrix (Fin m) (Fin n) ℤ) : EquivDiag A [] := by
  subst hn
  exact ⟨by simp, 1, 1, by simp, by simp, by ext i j; exact j.elim0⟩

variable {c : Cube} {p : Params} {G : Array (Array Gen)}

theorem diagAt_equivDiag_T (H : Ctx c p) (F : Fam c p G) (i : Nat) :
    EquivDiag (dMat c p G i)ᵀ (diagAt c p G i) := by
  by_cases hi : i < c.n
  · exact Yuiv.C02Mirror.equivDiag_transpose _ _ (diagAt_equivDiag H F i hi)
  · rw [diagAt_nil F i (by omega)]
    apply equivDiag_nil_of_rows
    have : ¬ (i + 1 < G.size) := by rw [F.size]; omega
    rw [getElem!_neg G (i + 1) this]
    rfl

theorem dMat_mul_T (H : Ctx c p) (F : Fam c p G) (j : Nat) : (dMat c p G (j + 1))ᵀ * (dMat c p G j)ᵀ = 0 := by
  rw [← Matrix.transpose_mul, dMat_mul H F j, Matrix.transpose_zero]

/-- INTERIOR POSITIONS: over ℚ and over `𝔽_q` the reported rank is the dimension of `ker/im` of the complex tensored
with the field -/
theorem rank_is_homology (H : Ctx c p) (F : Fam c p G) (j : Nat)
    (hj : j < c.n) :
    ((homologyOf .Q G (dTab c p (gensByWeight c)))[j + 1]!).rank =
      finrank ℚ (Homology (toRat (dMat c p G j)ᵀ) (toRat (dMat c p G (j + 1))ᵀ)) ∧
    ∀ (q : ℕ) [Fact q.Prime], ((homologyOf (.Fp q) G (dTab c p (gensByWeight c)))[j + 1]!).rank =
      finrank (ZMod q) (Homology (redMod q (dMat c p G j)ᵀ) (redMod q (dMat c p G (j + 1))ᵀ)) := by
  obtain ⟨_, _, g3, _, g5⟩ := groups_spec F (j + 1) (by omega)
  have hin : diagIn c p G (j + 1) = diagAt c p G j := if_neg (Nat.succ_ne_zero j)
  rw [hin] at g3 g5
  have h := finrank_homology_of_diags _ _ (dMat_mul_T H F j) _ _ (diagAt_equivDiag_T H F j)
    (diagAt_equivDiag_T H F (j + 1))
  exact ⟨g3.trans h.1.symm, fun q hq => (g5 q hq.out.two_le).1.trans (h.2 q).symm⟩

/-- POSITION 0: the homology of `0 --> ℤ^{G[0]} --> ℤ^{G[1]}` -/
theorem rank_is_homology_zero (H : Ctx c p) (F : Fam c p G) :
    ((homologyOf .Q G (dTab c p (gensByWeight c)))[0]!).rank =
      finrank ℚ (Homology (toRat (0 : Matrix (Fin (G[0]!).size) (Fin 0) ℤ)) (toRat (dMat c p G 0)ᵀ)) ∧
    ∀ (q : ℕ) [Fact q.Prime], ((homologyOf (.Fp q) G (dTab c p (gensByWeight c)))[0]!).rank =
      finrank (ZMod q) (Homology (redMod q (0 : Matrix (Fin (G[0]!).size) (Fin 0) ℤ)) (redMod q (dMat c p G 0)ᵀ)) := by
  obtain ⟨_, _, g3, _, g5⟩ := groups_spec F 0 (by omega)
  have hin : diagIn c p G 0 = [] := if_pos rfl
  rw [hin] at g3 g5
  have h := finrank_homology_of_diags (0 : Matrix (Fin (G[0]!).size) (Fin 0) ℤ) _ (by simp) _ _
    (equivDiag_nil_of_cols rfl _) (diagAt_equivDiag_T H F 0)
  exact ⟨g3.trans h.1.symm, fun q hq => (g5 q hq.out.two_le).1.trans (h.2 q).symm⟩

end

end Yuiv.KhSpec
