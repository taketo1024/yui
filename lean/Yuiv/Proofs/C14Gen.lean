import Yuiv.Gen.RatioFn
import Yuiv.Model.C14
import Yuiv.Proofs.C14GenSimp
import Yuiv.Proofs.Res
/-
`Yuiv.GenRatio.*` is GENERATED from the source text of `/repo/yui/src/types/ratio.rs` by `tools/rs2lean_fn.py fn:ratio`
(type parameter `T := Int`, operators and trait methods of `Yuiv/Model/RustRing.lean`); `Yuiv.C14.Ratio.*` is the
hand-written code model the C14 theorems (`ratio_history`, `ratio_cmp_spec`, …) are about.  The generated struct
`RatioS` (fields `numer`, `denom`) is mapped to the model's `Ratio` (fields `num`, `den`) by `toR`.
-/
namespace Yuiv.C14Gen
open Yuiv Res Yuiv.Rust Yuiv.GenRatio

def toR (s : RatioS) : C14.Ratio := ⟨s.numer, s.denom⟩
def mapR {α β} (f : α → β) : Res α → Res β
  | .ok a => .ok (f a)
  | .panic => .panic
  | .err => .err

theorem mapR_ok {α β} (f : α → β) (a : α) : mapR f (ok a) = ok (f a) := rfl
theorem mapR_panic {α β} (f : α → β) : mapR f (.panic : Res α) = .panic := rfl
theorem mapR_err {α β} (f : α → β) : mapR f (.err : Res α) = .err := rfl
theorem mapR_bind {α β γ} (f : β → γ) (x : Res α) (g : α → Res β) :
    mapR f (x >>= g) = x >>= fun a => mapR f (g a) := by cases x <;> rfl
theorem mapR_ite {α β} (f : α → β) (c : Prop) [Decidable c] (x y : Res α) :
    mapR f (if c then x else y) = if c then mapR f x else mapR f y := by split <;> rfl
theorem bind_assoc' {α β γ} (x : Res α) (f : α → Res β) (g : β → Res γ) :
    ((x >>= f) >>= g) = (x >>= fun a => f a >>= g) := bind_assoc x f g
theorem ite_bind {α β} (c : Prop) [Decidable c] (x y : Res α) (f : α → Res β) :
    ((if c then x else y) >>= f) = if c then x >>= f else y >>= f := apply_ite (· >>= f) c x y
theorem assert_true : Res.assert true = ok () := rfl
theorem assert_false : Res.assert false = (.panic : Res Unit) := rfl

theorem is_zero_eq (a : Int) : RInt.is_zero a = (a == 0) := rfl
theorem is_one_eq (a : Int) : RInt.is_one a = (a == 1) := rfl
theorem is_unit_eq (a : Int) : RInt.is_unit a = C14.intIsUnit a := rfl
theorem nu_eq (a : Int) : RInt.normalizing_unit a = C14.intNormUnit a := rfl
theorem gcd_eq (a b : Int) : RInt.gcd a b = C14.intGcd a b := rfl
theorem lcm_eq (a b : Int) : RInt.lcm a b = C14.intLcm a b := rfl
theorem div_eq (a b : Int) : RInt.div a b = C14.tdivR a b := rfl
theorem rem_eq (a b : Int) : RInt.rem a b = C14.tmodR a b := rfl
theorem compare_eq_icmp (x y : Int) : compare x y = C14.icmp x y := by
  unfold C14.icmp
  rcases Int.lt_trichotomy x y with h | h | h
  · simp [h, Int.compare_eq_lt.2 h]
  · subst h; simp
  · have h1 : ¬ x < y := by omega
    have h2 : ¬ x = y := by omega
    simp [h1, h2, Int.compare_eq_gt.2 h]

theorem unwrap_some {α : Type} (a : α) : Opt.unwrap (some a) = ok a := rfl
theorem unwrap_none {α : Type} : Opt.unwrap (none : Option α) = .panic := rfl

attribute [gen_simp] mapR_bind mapR_ite mapR_ok mapR_panic mapR_err bind_assoc' ite_bind assert_true assert_false toR
  is_zero_eq is_one_eq is_unit_eq nu_eq gcd_eq lcm_eq div_eq rem_eq unwrap_some unwrap_none
  Ratio.new_raw Ratio.is_int Ratio.Zero.is_zero Ratio.One.is_one Ratio.Zero.zero Ratio.One.one Ratio.From_T.from_
  C14.Ratio.isZero C14.Ratio.isOne C14.Ratio.isInt C14.Ratio.zero C14.Ratio.one C14.Ratio.fromInt C14.Ratio.isUnit

end Yuiv.C14Gen
