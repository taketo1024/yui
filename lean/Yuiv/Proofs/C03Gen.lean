import Yuiv.Model.C03
import Yuiv.Gen.GenInfoFn
import Yuiv.Proofs.RustMap
/-
Helper lemmas for `Yuiv/Props/C03Gen.lean`: the association-list primitives of `Yuiv/Model/RustMap.lean` against
`C03.Table.bump`, under the invariant that the keys of the generated table are distinct.  No Mathlib.
-/
namespace Yuiv.GenGI
open Yuiv Res Yuiv.Rust Yuiv.GenGenInfo

abbrev Key := Int × Int
abbrev Val := Nat × List Int × List Nat
abbrev GTable := AMap Key Val

def mapR {α β : Type} (f : α → β) : Res α → Res β
  | .ok a => .ok (f a)
  | .panic => .panic
  | .err => .err

/-- (rank, torsion) of a generated entry; the third component (generator indices) is not part of the model -/
def cell (v : Val) : C03.Cell := ⟨v.1, v.2.1⟩
def toTable (t : GTable) : C03.Table := t.map (fun e => (e.1, cell e.2))
def keys (t : GTable) : List Key := t.map (fun e => e.1)

/-- generator `k` of a summand as the model sees it -/
def genInfo (h : GI.Summand Int) (k : Nat) : C03.GenInfo :=
  ⟨if k < h.rank then none else some (h.tors.getD (k - h.rank) 0), h.gens k⟩
/-- the reported generators of a summand: `rank` free ones followed by the torsion ones -/
def gensOf (h : GI.Summand Int) : List C03.GenInfo :=
  (List.range' 0 (h.rank + h.tors.length)).map (genInfo h)
/-- the homology grid as the model takes it: every summand replaced by its reported generators -/
def toModel (grid : List (Int × GI.Summand Int)) : List (Int × List C03.GenInfo) :=
  grid.map (fun ih => (ih.1, gensOf ih.2))

/-- what one generator does to its cell: a free one raises the rank, a torsion one appends its order -/
def cellFn (g : C03.GenInfo) : C03.Cell → C03.Cell := fun c =>
  match g.order with
  | none => ⟨c.rank + 1, c.tors⟩
  | some a => ⟨c.rank, c.tors ++ [a]⟩

/-- the pure form of one pass of the inner loop body -/
def valFn (h : GI.Summand Int) (k : Nat) (e : Val) : Val :=
  if k < h.rank then (e.1 + 1, e.2.1, e.2.2 ++ [k])
  else (e.1, e.2.1 ++ [h.tors.getD (k - h.rank) 0], e.2.2 ++ [k])

/-- one pass of the inner loop on the table: the entry of generator `k`'s bidegree, created if absent, is updated by `valFn` -/
def stepP (i : Int) (h : GI.Summand Int) (t : GTable) (k : Nat) : GTable :=
  let key := (i, GI.Chain.q_deg (h.gens k))
  let t1 := AMap.or_insert t key (0, [], [])
  AMap.set t1 key (valFn h k ((AMap.get t1 key).getD (0, [], [])))

theorem cell_valFn (h : GI.Summand Int) (k : Nat) (e : Val) : cell (valFn h k e) = cellFn (genInfo h k) (cell e) := by
  unfold valFn cellFn genInfo cell
  by_cases hk : k < h.rank <;> simp [hk]

theorem foldl_sim {σ τ β : Type} (P : σ → Prop) (T : σ → τ) (g : σ → β → σ) (g' : τ → β → τ)
    (h : ∀ s x, P s → P (g s x) ∧ T (g s x) = g' (T s) x) (xs : List β) (s : σ) (hs : P s) :
    P (xs.foldl g s) ∧ T (xs.foldl g s) = xs.foldl g' (T s) := by
  induction xs generalizing s with
  | nil => exact ⟨hs, rfl⟩
  | cons x xs ih =>
    obtain ⟨h1, h2⟩ := h s x hs
    simp only [List.foldl_cons]
    rw [← h2]
    exact ih _ h1

theorem any_key (t : GTable) (k : Key) : (toTable t).any (fun e => e.1 == k) = AMap.contains_key t k := by
  induction t with
  | nil => rfl
  | cons p t ih =>
    obtain ⟨y, v⟩ := p
    by_cases hy : y = k
    · simp [toTable, AMap.contains_key, AMap.get, hy]
    · have : AMap.contains_key ((y, v) :: t) k = AMap.contains_key t k := by
        simp [AMap.contains_key, AMap.get, hy]
      rw [this, ← ih]
      simp [toTable, hy]

theorem map_absent (l : C03.Table) (k : Key) (f : C03.Cell → C03.Cell) (h : ∀ e, e ∈ l → e.1 ≠ k) :
    l.map (fun e => if e.1 == k then (e.1, f e.2) else e) = l := by
  induction l with
  | nil => rfl
  | cons p l ih =>
    have hp : p.1 ≠ k := h p (List.mem_cons_self)
    have hb : (p.1 == k) = false := by simpa using hp
    simp only [List.map_cons, hb, Bool.false_eq_true, if_false]
    rw [ih (fun e he => h e (List.mem_cons_of_mem _ he))]

theorem set_present (t : GTable) (k : Key) (g : Val → Val) (f : C03.Cell → C03.Cell) (hfg : ∀ v, cell (g v) = f (cell v))
    (hn : (keys t).Nodup) (hc : k ∈ keys t) (d : Val) :
    toTable (AMap.set t k (g ((AMap.get t k).getD d)))
      = (toTable t).map (fun e => if e.1 == k then (e.1, f e.2) else e) := by
  induction t with
  | nil => simp [keys] at hc
  | cons p t ih =>
    obtain ⟨y, v⟩ := p
    simp only [keys, List.map_cons, List.nodup_cons] at hn
    by_cases hy : y = k
    · subst hy
      have habs : ∀ e, e ∈ toTable t → e.1 ≠ y := by
        intro e he hey
        simp only [toTable, List.mem_map] at he
        obtain ⟨a, ha, rfl⟩ := he
        exact hn.1 (List.mem_map.mpr ⟨a, ha, hey⟩)
      simp only [AMap.set, AMap.get, if_true, Option.getD_some, toTable, List.map_cons, beq_self_eq_true, hfg]
      rw [show List.map (fun e => (e.1, cell e.2)) t = toTable t from rfl, map_absent _ _ _ habs]
    · have hc' : k ∈ keys t := by
        simp only [keys, List.map_cons, List.mem_cons] at hc
        cases hc with
        | inl h => exact absurd h.symm hy
        | inr h => exact h
      have := ih hn.2 hc'
      simp only [AMap.set, AMap.get, hy, if_false, toTable, List.map_cons, beq_iff_eq] at this ⊢
      rw [this]

theorem bump_step (t : GTable) (k : Key) (g : Val → Val) (f : C03.Cell → C03.Cell)
    (hfg : ∀ v, cell (g v) = f (cell v)) (hn : (keys t).Nodup) :
    let t1 := AMap.or_insert t k (0, [], [])
    (keys (AMap.set t1 k (g ((AMap.get t1 k).getD (0, [], []))))).Nodup ∧
    toTable (AMap.set t1 k (g ((AMap.get t1 k).getD (0, [], [])))) = (toTable t).bump k f := by
  intro t1
  by_cases hc : AMap.contains_key t k = true
  · have hk : k ∈ keys t := AMap.contains_key_iff.mp hc
    have e1 : t1 = t := by simp [t1, AMap.or_insert, hc]
    rw [e1]
    refine ⟨(congrArg List.Nodup (AMap.keys_set t k _)).mpr hn, ?_⟩
    rw [set_present t k g f hfg hn hk]
    simp [C03.Table.bump, any_key, hc]
  · have hc' : AMap.contains_key t k = false := by simpa using hc
    have hk : k ∉ keys t := fun h => hc (AMap.contains_key_iff.mpr h)
    have e1 : t1 = t ++ [(k, (0, [], []))] := by simp [t1, AMap.or_insert, hc']
    rw [e1, AMap.get_append_absent hk, AMap.set_append_absent hk]
    refine ⟨?_, ?_⟩
    · simp only [keys, List.map_append, List.map_cons, List.map_nil]
      rw [List.nodup_append]
      refine ⟨hn, by simp, ?_⟩
      intro a ha b hb
      simp only [List.mem_singleton] at hb
      subst hb
      intro hab; subst hab; exact hk ha
    · have ha : (toTable t).any (fun e => e.1 == k) = false := by rw [any_key]; exact hc'
      unfold C03.Table.bump
      rw [ha]
      simp only [Bool.false_eq_true, if_false, toTable, List.map_append, List.map_cons,
        List.map_nil, Option.getD_some, hfg]
      rfl

end Yuiv.GenGI
