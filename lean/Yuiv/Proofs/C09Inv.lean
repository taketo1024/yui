import Yuiv.Proofs.C09
import Yuiv.Proofs.C09Le
import Yuiv.Proofs.MatElem
import Yuiv.Proofs.ListAux
import Mathlib.Tactic.LinearCombination
/-
C09 — the transform invariant `target = P·A·Q ∧ P·P⁻¹ = 1 ∧ Q·Q⁻¹ = 1`:
every dense primitive is a multiplication by an explicit elementary matrix, every mirrored primitive of
`SnfCalc` preserves the invariant, and so does every control path of `refSnf` and of `snfCalc` in the debug build
(`dbg = true`: the `debug_assert!`s on the determinant are compiled in, nothing is assumed about `gcdx`).
-/
namespace Yuiv.C09
open Yuiv Matrix
open Yuiv.MatElem (LM LM_mul mul_LMT LM_col LM_mul_LMT LMT_mul_LM diag_unit_mul)
variable {α : Type} {R : Type} [CommRing R]

section prim
variable {o : ROps α} {φ : α → R} (L : Lawful o φ)
include L

theorem leftElem_get {m n : Nat} (T : Mat α m n) (a b c d : α) (i j r : Fin m) (col : Fin n) :
    φ ((leftElem o T a b c d i j).get r col) =
      if r = j then φ (T.get i col) * φ c + φ (T.get j col) * φ d
      else if r = i then φ (T.get i col) * φ a + φ (T.get j col) * φ b else φ (T.get r col) := by
  simp only [leftElem, get_ofFn]
  split_ifs <;> simp [L.add, L.mul]

theorem rightElem_get {m n : Nat} (T : Mat α m n) (a b c d : α) (i j : Fin n) (r : Fin m) (col : Fin n) :
    φ ((rightElem o T a b c d i j).get r col) =
      if col = j then φ (T.get r i) * φ c + φ (T.get r j) * φ d
      else if col = i then φ (T.get r i) * φ a + φ (T.get r j) * φ b else φ (T.get r col) := by
  simp only [rightElem, get_ofFn]
  split_ifs <;> simp [L.add, L.mul]

theorem mulCol_get {m n : Nat} (T : Mat α m n) (j c : Fin n) (r : Fin m) (u : α) :
    φ ((mulCol o T j u).get r c) = if c = j then φ (T.get r c) * φ u else φ (T.get r c) := by
  simp only [mulCol, get_ofFn]
  split_ifs <;> simp [L.mul]

theorem mulRow_get {m n : Nat} (T : Mat α m n) (i r : Fin m) (c : Fin n) (u : α) :
    φ ((mulRow o T i u).get r c) = if r = i then φ (T.get r c) * φ u else φ (T.get r c) := by
  simp only [mulRow, get_ofFn]
  split_ifs <;> simp [L.mul]

theorem toM_leftElem {m n : Nat} (A : Mat α m n) (a b c d : α) (i j : Fin m) :
    toM φ (leftElem o A a b c d i j) = LM (φ a) (φ b) (φ c) (φ d) i j * toM φ A := by
  ext r col
  rw [LM_mul, toM_apply, leftElem_get L]
  simp only [toM_apply, mul_comm]

theorem toM_rightElem {m n : Nat} (A : Mat α m n) (a b c d : α) (i j : Fin n) :
    toM φ (rightElem o A a b c d i j) = toM φ A * (LM (φ a) (φ b) (φ c) (φ d) i j)ᵀ := by
  ext r col
  rw [mul_LMT, toM_apply, rightElem_get L]
  simp only [toM_apply]

omit L in
theorem toM_swapRows {m n : Nat} (A : Mat α m n) (i j : Fin m) :
    toM φ (swapRows A i j) = LM (0 : R) 1 1 0 i j * toM φ A := by
  ext r col
  rw [LM_mul]
  simp only [toM_apply, swapRows, get_ofFn]
  by_cases hri : r = i <;> by_cases hrj : r = j <;> simp_all

omit L in
theorem toM_swapCols {m n : Nat} (A : Mat α m n) (i j : Fin n) :
    toM φ (swapCols A i j) = toM φ A * (LM (0 : R) 1 1 0 i j)ᵀ := by
  ext r col
  rw [mul_LMT]
  simp only [toM_apply, swapCols, get_ofFn]
  by_cases hri : col = i <;> by_cases hrj : col = j <;> simp_all

theorem toM_mulRow {m n : Nat} (A : Mat α m n) (i : Fin m) (u : α) :
    toM φ (mulRow o A i u) = Matrix.diagonal (fun k => if k = i then φ u else 1) * toM φ A := by
  ext r col
  rw [Matrix.diagonal_mul, toM_apply, mulRow_get L]
  split_ifs <;> simp [mul_comm]

theorem toM_mulCol {m n : Nat} (A : Mat α m n) (j : Fin n) (u : α) :
    toM φ (mulCol o A j u) = toM φ A * Matrix.diagonal (fun k => if k = j then φ u else 1) := by
  ext r col
  rw [Matrix.mul_diagonal, toM_apply, mulCol_get L]
  split_ifs <;> simp

end prim

/-- the state `s` is a transform of `A`: `s.p · A · s.q = s.t`, `s.p · s.pinv = 1`, `s.q · s.qinv = 1` -/
def Inv {m n : Nat} (φ : α → R) (A : Mat α m n) (s : St α m n) : Prop :=
  TransformSpec (toM φ A) (toM φ s.t) (toM φ s.p) (toM φ s.pinv) (toM φ s.q) (toM φ s.qinv)

theorem Inv.left {m n : Nat} {φ : α → R} {A : Mat α m n} {s s' : St α m n}
    (E F : Matrix (Fin m) (Fin m) R) (hEF : E * F = 1)
    (ht : toM φ s'.t = E * toM φ s.t) (hp : toM φ s'.p = E * toM φ s.p)
    (hpi : toM φ s'.pinv = toM φ s.pinv * F) (hq : s'.q = s.q) (hqi : s'.qinv = s.qinv)
    (h : Inv φ A s) : Inv φ A s' := by
  obtain ⟨h1, h2, h3⟩ := h
  refine ⟨?_, ?_, ?_⟩
  · rw [ht, hp, hq, ← h1]; simp only [Matrix.mul_assoc]
  · rw [hp, hpi]
    calc E * toM φ s.p * (toM φ s.pinv * F) = E * (toM φ s.p * toM φ s.pinv) * F := by
          simp only [Matrix.mul_assoc]
      _ = 1 := by rw [h2, Matrix.mul_one, hEF]
  · rw [hq, hqi]; exact h3

theorem Inv.right {m n : Nat} {φ : α → R} {A : Mat α m n} {s s' : St α m n}
    (G H : Matrix (Fin n) (Fin n) R) (hGH : G * H = 1)
    (ht : toM φ s'.t = toM φ s.t * G) (hq : toM φ s'.q = toM φ s.q * G)
    (hqi : toM φ s'.qinv = H * toM φ s.qinv) (hp : s'.p = s.p) (hpi : s'.pinv = s.pinv)
    (h : Inv φ A s) : Inv φ A s' := by
  obtain ⟨h1, h2, h3⟩ := h
  refine ⟨?_, ?_, ?_⟩
  · rw [ht, hq, hp, ← h1]; simp only [Matrix.mul_assoc]
  · rw [hp, hpi]; exact h2
  · rw [hq, hqi]
    calc toM φ s.q * G * (H * toM φ s.qinv) = toM φ s.q * (G * H) * toM φ s.qinv := by
          simp only [Matrix.mul_assoc]
      _ = 1 := by rw [hGH, Matrix.mul_one, h3]

section prims2
variable {e : EOps α} {φ : α → R} (L : Lawful e.toROps φ) {m n : Nat} {A : Mat α m n}
include L

theorem inv_init : Inv φ A (St.init e.toROps A) := by
  refine ⟨?_, ?_, ?_⟩ <;> simp [St.init, toM_idMat L]

omit L in
theorem inv_sSwapRows (s : St α m n) (i j : Fin m) (hij : i ≠ j) (h : Inv φ A s) : Inv φ A (sSwapRows s i j) :=
  Inv.left (LM 0 1 1 0 i j) (LM 0 1 1 0 i j)ᵀ (LM_mul_LMT hij (by simp) (by simp) (by simp) (by simp))
    (toM_swapRows _ i j) (toM_swapRows _ i j) (toM_swapCols _ i j) rfl rfl h

omit L in
theorem inv_sSwapCols (s : St α m n) (i j : Fin n) (hij : i ≠ j) (h : Inv φ A s) : Inv φ A (sSwapCols s i j) :=
  Inv.right (LM 0 1 1 0 i j)ᵀ (LM 0 1 1 0 i j) (LMT_mul_LM hij (by simp) (by simp) (by simp) (by simp))
    (toM_swapCols _ i j) (toM_swapCols _ i j) (toM_swapRows _ i j) rfl rfl h

theorem inv_sLeftRaw (s : St α m n) (a b c d : α) (i j : Fin m) (hij : i ≠ j)
    (hdet : φ a * φ d - φ b * φ c = 1) (h : Inv φ A s) : Inv φ A (sLeftRaw e.toROps s a b c d i j) := by
  refine Inv.left (LM (φ a) (φ b) (φ c) (φ d) i j) (LM (φ d) (- φ c) (- φ b) (φ a) i j)ᵀ
    (LM_mul_LMT hij ?_ ?_ ?_ ?_) (toM_leftElem L _ _ _ _ _ i j) (toM_leftElem L _ _ _ _ _ i j) ?_ rfl rfl h
  · linear_combination hdet
  · ring
  · ring
  · linear_combination hdet
  · have := toM_rightElem L s.pinv d (e.neg c) (e.neg b) a i j
    simpa [L.neg, sLeftRaw] using this

theorem inv_sRightRaw (s : St α m n) (a b c d : α) (i j : Fin n) (hij : i ≠ j)
    (hdet : φ a * φ d - φ b * φ c = 1) (h : Inv φ A s) : Inv φ A (sRightRaw e.toROps s a b c d i j) := by
  refine Inv.right (LM (φ a) (φ b) (φ c) (φ d) i j)ᵀ (LM (φ d) (- φ c) (- φ b) (φ a) i j)
    (LMT_mul_LM hij ?_ ?_ ?_ ?_) (toM_rightElem L _ _ _ _ _ i j) (toM_rightElem L _ _ _ _ _ i j) ?_ rfl rfl h
  · linear_combination hdet
  · ring
  · ring
  · linear_combination hdet
  · have := toM_leftElem L s.qinv d (e.neg c) (e.neg b) a i j
    simpa [L.neg, sRightRaw] using this

theorem detIsOne_iff (a b c d : α) : detIsOne e.toROps a b c d = true ↔ φ a * φ d - φ b * φ c = 1 := by
  rw [detIsOne, isOne_iff L, sub_eq L, L.mul, L.mul]

theorem inv_sLeft_dbg (s s' : St α m n) (a b c d : α) (i j : Fin m) (hij : i ≠ j)
    (hs : sLeft e.toROps true s a b c d i j = .ok s') (h : Inv φ A s) : Inv φ A s' := by
  unfold sLeft at hs
  split at hs
  · cases hs
  · rename_i hc
    cases hs
    simp only [Bool.true_and, Bool.not_eq_true', Bool.not_eq_false] at hc
    exact inv_sLeftRaw L s a b c d i j hij ((detIsOne_iff L a b c d).1 hc) h

theorem inv_sRight_dbg (s s' : St α m n) (a b c d : α) (i j : Fin n) (hij : i ≠ j)
    (hs : sRight e.toROps true s a b c d i j = .ok s') (h : Inv φ A s) : Inv φ A s' := by
  unfold sRight at hs
  split at hs
  · cases hs
  · rename_i hc
    cases hs
    simp only [Bool.true_and, Bool.not_eq_true', Bool.not_eq_false] at hc
    exact inv_sRightRaw L s a b c d i j hij ((detIsOne_iff L a b c d).1 hc) h

end prims2

/-- lawfulness of the Euclidean-ring operations as far as the transform invariant needs it:
`inv` returns an inverse -/
structure LawfulE (e : EOps α) (φ : α → R) : Prop extends Lawful e.toROps φ where
  inv_mul : ∀ u v, e.inv u = some v → φ u * φ v = 1

section flow
variable {e : EOps α} {φ : α → R} (L : LawfulE e φ) {m n : Nat} {A : Mat α m n}
include L

theorem inv_sMulRow (s s' : St α m n) (i : Fin m) (u : α) (hs : sMulRow e s i u = .ok s') (h : Inv φ A s) :
    Inv φ A s' := by
  unfold sMulRow at hs
  split at hs
  · cases hs
  · rename_i ui hui
    cases hs
    exact Inv.left _ _ (diag_unit_mul i (φ u) (φ ui) (L.inv_mul u ui hui))
      (toM_mulRow L.toLawful _ i u) (toM_mulRow L.toLawful _ i u) (toM_mulCol L.toLawful _ i ui) rfl rfl h

theorem inv_sMulCol (s s' : St α m n) (j : Fin n) (u : α) (hs : sMulCol e s j u = .ok s') (h : Inv φ A s) :
    Inv φ A s' := by
  unfold sMulCol at hs
  split at hs
  · cases hs
  · rename_i ui hui
    cases hs
    exact Inv.right _ _ (diag_unit_mul j (φ u) (φ ui) (L.inv_mul u ui hui))
      (toM_mulCol L.toLawful _ j u) (toM_mulCol L.toLawful _ j u) (toM_mulRow L.toLawful _ j ui) rfl rfl h

theorem inv_refReduceCol (s : St α m n) (ti : Fin m) (tj : Fin n) (h : Inv φ A s) :
    Inv φ A (refReduceCol e s ti tj) := by
  unfold refReduceCol
  refine ListAux.foldl_inv (Inv φ A) h ?_
  intro s r _ hs
  split
  · rename_i hc
    simp only [Bool.and_eq_true, ne_eq, decide_eq_true_eq] at hc
    refine inv_sLeftRaw L.toLawful s _ _ _ _ ti r (fun h => hc.1 h.symm) ?_ hs
    simp [L.one, L.zero]
  · exact hs

theorem inv_refReduceRow (s : St α m n) (ti : Fin m) (tj : Fin n) (h : Inv φ A s) :
    Inv φ A (refReduceRow e s ti tj) := by
  unfold refReduceRow
  refine ListAux.foldl_inv (Inv φ A) h ?_
  intro s c _ hs
  split
  · rename_i hc
    simp only [Bool.and_eq_true, ne_eq, decide_eq_true_eq] at hc
    refine inv_sRightRaw L.toLawful s _ _ _ _ tj c (fun h => hc.1 h.symm) ?_ hs
    simp [L.one, L.zero]
  · exact hs

theorem inv_refPrep (s : St α m n) (ti : Fin m) (tj : Fin n) (i : Fin m) (j : Fin n) (h : Inv φ A s) :
    Inv φ A (refPrep e s ti tj i j) := by
  unfold refPrep
  refine inv_refReduceRow L _ ti tj (inv_refReduceCol L _ ti tj ?_)
  have h1 : Inv φ A (if i = ti then s else sSwapRows s ti i) := by
    split
    · exact h
    · rename_i hne; exact inv_sSwapRows s ti i (fun h' => hne h'.symm) h
  split
  · exact h1
  · rename_i hne; exact inv_sSwapCols _ tj j (fun h' => hne h'.symm) h1

theorem inv_refLoop : ∀ (fuel t : Nat) (s s' : St α m n), refLoop e fuel t s = .ok s' → Inv φ A s → Inv φ A s' := by
  intro fuel
  induction fuel with
  | zero => intro t s s' hs; simp [refLoop] at hs
  | succ fuel ih =>
    intro t s s' hs h
    rw [refLoop] at hs
    split at hs
    · rename_i hlt
      split at hs
      · cases hs; exact h
      · rename_i i j _
        have h1 := inv_refPrep L s ⟨t, hlt.1⟩ ⟨t, hlt.2⟩ i j h
        generalize refPrep e s ⟨t, hlt.1⟩ ⟨t, hlt.2⟩ i j = s1 at hs h1
        simp only at hs
        split at hs
        · split at hs
          · rename_i i' _
            split at hs
            · cases hs
            · rename_i hne
              refine ih t _ s' hs (inv_sLeftRaw L.toLawful s1 _ _ _ _ _ i' (fun h' => hne h'.symm) ?_ h1)
              simp [L.one, L.zero]
          · split at hs
            · exact ih _ _ s' hs h1
            · split at hs
              · rename_i s2 hs2
                exact ih _ _ s' hs (inv_sMulRow L s1 s2 _ _ hs2 h1)
              · rename_i hr
                exact absurd hs (hr s')
        · exact ih _ _ s' hs h1
    · cases hs; exact h

theorem inv_eliminateCol (s : St α m n) (i : Fin m) (j : Fin n) (r : St α m n × Bool)
    (hs : eliminateCol e true s i j = .ok r) (h : Inv φ A s) : Inv φ A r.1 := by
  refine Res.foldlM_inv (f := eliminateColStep e true i j) (s := (s, false))
    (fun sm : St α m n × Bool => Inv φ A sm.1) (fun sm i1 sm' _ hsm hf => ?_) h hs
  rw [eliminateColStep_eq] at hf
  split at hf
  · cases hf; exact hsm
  · rename_i hc
    simp only [Bool.or_eq_true, decide_eq_true_eq, not_or] at hc
    obtain ⟨s', h1, hf⟩ := Res.bind_eq_ok hf
    cases hf
    exact inv_sLeft_dbg L.toLawful sm.1 s' _ _ _ _ i i1 hc.1 h1 hsm

theorem inv_eliminateRow (s : St α m n) (i : Fin m) (j : Fin n) (r : St α m n × Bool)
    (hs : eliminateRow e true s i j = .ok r) (h : Inv φ A s) : Inv φ A r.1 := by
  refine Res.foldlM_inv (f := eliminateRowStep e true i j) (s := (s, false))
    (fun sm : St α m n × Bool => Inv φ A sm.1) (fun sm j1 sm' _ hsm hf => ?_) h hs
  rw [eliminateRowStep_eq] at hf
  split at hf
  · cases hf; exact hsm
  · rename_i hc
    simp only [Bool.or_eq_true, decide_eq_true_eq, not_or] at hc
    obtain ⟨s', h1, hf⟩ := Res.bind_eq_ok hf
    cases hf
    exact inv_sRight_dbg L.toLawful sm.1 s' _ _ _ _ j j1 hc.1 h1 hsm

theorem inv_eliminateAt (i : Fin m) (j : Fin n) : ∀ (fuel : Nat) (s s' : St α m n),
    eliminateAt e true i j fuel s = .ok s' → Inv φ A s → Inv φ A s' := by
  intro fuel
  induction fuel with
  | zero => intro s s' hs; cases hs
  | succ fuel ih =>
    intro s s' hs h
    rw [eliminateAt_succ] at hs
    split at hs
    · obtain ⟨r1, h1, hs⟩ := Res.bind_eq_ok hs
      obtain ⟨r2, h2, hs⟩ := Res.bind_eq_ok hs
      split at hs
      · cases hs
      · exact ih r2.1 s' hs (inv_eliminateRow L r1.1 i j _ h2 (inv_eliminateCol L s i j _ h1 h))
    · cases hs; exact h

omit L in
theorem inv_stepPrep (s : St α m n) (i ip : Fin m) (ic j : Fin n) (h : Inv φ A s) :
    Inv φ A (stepPrep s i ip ic j) := by
  unfold stepPrep
  have h1 : Inv φ A (if ip.1 > i.1 then sSwapRows s i ip else s) := by
    split
    · rename_i hgt; exact inv_sSwapRows s i ip (fun h' => by rw [h'] at hgt; exact Nat.lt_irrefl _ hgt) h
    · exact h
  simp only
  split
  · rename_i hgt; exact inv_sSwapCols _ ic j (fun h' => by rw [h'] at hgt; exact Nat.lt_irrefl _ hgt) h1
  · exact h1

theorem inv_eliminateStep (fuel : Nat) (s : St α m n) (i : Fin m) (j : Fin n) (hi : i.1 < n) (s' : St α m n)
    (hs : eliminateStep e true fuel s i j hi = .ok (some s')) (h : Inv φ A s) : Inv φ A s' := by
  rw [eliminateStep_eq] at hs
  split at hs
  · cases hs
  · rename_i ip _
    have h1 := inv_stepPrep (φ := φ) (A := A) s i ip ⟨i.1, hi⟩ j h
    obtain ⟨s2, h2, hs⟩ := Res.bind_eq_ok hs
    have h2' : Inv φ A s2 := by
      split at h2
      · exact inv_sMulCol L _ s2 _ _ h2 h1
      · cases h2; exact h1
    split at hs
    · cases hs
    · obtain ⟨s3, h3, hs⟩ := Res.bind_eq_ok hs
      cases hs
      exact inv_eliminateAt L i ⟨i.1, hi⟩ fuel s2 _ h3 h2'

theorem inv_eliminateAll (fuel : Nat) (s s' : St α m n) (hs : eliminateAll e true fuel s = .ok s')
    (h : Inv φ A s) : Inv φ A s' := by
  rw [eliminateAll_eq] at hs
  obtain ⟨si, h1, hs⟩ := Res.bind_eq_ok hs
  cases hs
  refine Res.foldlM_inv (f := eliminateAllStep e true fuel) (s := (s, 0))
    (fun si : St α m n × Nat => Inv φ A si.1) (fun si j si' _ hsi hf => ?_) h h1
  rw [eliminateAllStep_eq] at hf
  split at hf
  · obtain ⟨o, h2, hf⟩ := Res.bind_eq_ok hf
    cases o with
    | none => cases hf; exact hsi
    | some s2 => cases hf; exact inv_eliminateStep L fuel si.1 _ j _ s2 h2 hsi
  · cases hf; exact hsi

theorem inv_diagNormalizeStep (s : St α m n) (i : Nat) (hm : i + 1 < m) (hn : i + 1 < n) (r : St α m n × Bool)
    (hs : diagNormalizeStep e true s i hm hn = .ok r) (h : Inv φ A s) : Inv φ A r.1 := by
  rw [diagNormalizeStep_eq] at hs
  simp only at hs
  have hne_m : (⟨i, Nat.lt_of_succ_lt hm⟩ : Fin m) ≠ ⟨i + 1, hm⟩ := by
    intro h'; have := congrArg Fin.val h'; simp at this
  have hne_n : (⟨i, Nat.lt_of_succ_lt hn⟩ : Fin n) ≠ ⟨i + 1, hn⟩ := by
    intro h'; have := congrArg Fin.val h'; simp at this
  split at hs
  · cases hs
  · split at hs
    · cases hs; exact h
    · split at hs
      · cases hs
        exact inv_sSwapCols _ _ _ hne_n (inv_sSwapRows s _ _ hne_m h)
      · obtain ⟨s1, h1, hs⟩ := Res.bind_eq_ok hs
        obtain ⟨s2, h2, hs⟩ := Res.bind_eq_ok hs
        cases hs
        exact inv_sRight_dbg L.toLawful s1 s2 _ _ _ _ _ _ hne_n h2
          (inv_sLeft_dbg L.toLawful s s1 _ _ _ _ _ _ hne_m h1 h)

theorem inv_diagPass (r : Nat) : ∀ (cnt i : Nat) (s : St α m n) (r' : St α m n × Bool),
    diagPass e true r cnt i s = .ok r' → Inv φ A s → Inv φ A r'.1 := by
  intro cnt
  induction cnt with
  | zero => intro i s r' hs h; cases hs; exact h
  | succ cnt ih =>
    intro i s r' hs h
    rw [diagPass_succ] at hs
    split at hs
    · obtain ⟨r1, h1, hs⟩ := Res.bind_eq_ok hs
      have h1' := inv_diagNormalizeStep L s i _ _ r1 h1 h
      split at hs
      · exact ih (i + 1) r1.1 r' hs h1'
      · cases hs; exact h1'
    · cases hs; exact h

theorem inv_diagOuter (r : Nat) : ∀ (fuel : Nat) (s s' : St α m n),
    diagOuter e true r fuel s = .ok s' → Inv φ A s → Inv φ A s' := by
  intro fuel
  induction fuel with
  | zero => intro s s' hs; cases hs
  | succ fuel ih =>
    intro s s' hs h
    rw [diagOuter_succ] at hs
    obtain ⟨r1, h1, hs⟩ := Res.bind_eq_ok hs
    have h1' := inv_diagPass L r r 0 s r1 h1 h
    split at hs
    · cases hs; exact h1'
    · exact ih r1.1 s' hs h1'

theorem inv_normalizeStep (s s' : St α m n) (i : Nat) (hs : normalizeStep e s i = .ok s') (h : Inv φ A s) :
    Inv φ A s' := by
  unfold normalizeStep at hs
  split at hs
  · simp only at hs
    split at hs
    · exact inv_sMulRow L s s' _ _ hs h
    · cases hs; exact h
  · cases hs; exact h

theorem inv_diagNormalize (fuel : Nat) (s s' : St α m n) (hs : diagNormalize e true fuel s = .ok s')
    (h : Inv φ A s) : Inv φ A s' := by
  rw [diagNormalize_eq] at hs
  split at hs
  · cases hs
  · split at hs
    · cases hs; exact h
    · obtain ⟨s1, h1, hs⟩ := Res.bind_eq_ok hs
      exact Res.foldlM_inv (Inv φ A) (fun s i s' _ hs hf => inv_normalizeStep L s s' i hf hs)
        (inv_diagOuter L _ fuel s s1 h1 h) hs

theorem inv_snfCalc (pre : St α m n → Res (St α m n))
    (hpre : ∀ s s', pre s = .ok s' → Inv φ A s → Inv φ A s') (fuel : Nat) (s : St α m n)
    (hs : snfCalc e true pre fuel A = .ok s) : Inv φ A s := by
  rw [snfCalc_eq] at hs
  split at hs
  · cases hs; exact inv_init L.toLawful
  · obtain ⟨s1, h1, hs⟩ := Res.bind_eq_ok hs
    obtain ⟨s2, h2, hs⟩ := Res.bind_eq_ok hs
    exact inv_diagNormalize L fuel s2 s hs (inv_eliminateAll L fuel s1 s2 h2 (hpre _ s1 h1 (inv_init L.toLawful)))

end flow

theorem lawfulE_int : LawfulE intOps (id : Int → Int) where
  toLawful := lawful_int
  inv_mul u v h := by
    simp only [intOps] at h
    split at h
    · rename_i hc
      cases h
      simp only [Bool.or_eq_true, beq_iff_eq] at hc
      rcases hc with rfl | rfl <;> rfl
    · cases h

theorem lawfulE_rat : LawfulE ratOps (id : Rat → Rat) where
  toLawful := lawful_rat
  inv_mul u v h := by
    simp only [ratOps] at h
    split at h
    · cases h
    · rename_i hc
      cases h
      simp only [beq_iff_eq] at hc
      exact mul_inv_cancel₀ hc

theorem lawfulE_fp (p : Nat) [NeZero p] : LawfulE (fpOps p) (fun a : Nat => (a : ZMod p)) where
  toLawful := lawful_fp p
  inv_mul u v h := by
    simp only [fpOps] at h
    split at h
    · cases h
    · split at h
      · rename_i hc
        cases h
        simp only [beq_iff_eq] at hc
        have : ((u * fpInv p (u % p) % p : Nat) : ZMod p) = ((1 : Nat) : ZMod p) := by rw [hc]
        simpa using this
      · cases h

end Yuiv.C09
