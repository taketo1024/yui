import Yuiv.Proofs.C16AList
import Yuiv.Proofs.ListAux
import Yuiv.Proofs.RustMap
import Yuiv.Gen.PolyFn
/-
Helper lemmas for `Yuiv/Props/C16Gen.lean`: the association-list primitives of `Yuiv/Model/RustMap.lean` against the
walking functions of the hand model `Yuiv/Model/C16.lean`, and the fold form of `Poly.forM`.  No Mathlib.
-/
namespace Yuiv.GenP
open Yuiv Res Yuiv.Rust Yuiv.GenPoly

def mapR {α β : Type} (f : α → β) : Res α → Res β
  | .ok a => .ok (f a)
  | .panic => .panic
  | .err => .err

@[simp] theorem mapR_ok {α β : Type} (f : α → β) (a : α) : mapR f (.ok a) = .ok (f a) := rfl

def polyData {X R : Type} (p : PolyBaseS X R) : List (X × R) := p.data.data
def toVar {I : Type} (v : VarS I) : C16.Var I := ⟨v.f0⟩
def toVar2 {I : Type} (v : Var2S I) : C16.Var2 I := ⟨v.f0, v.f1⟩
def toMVar {I : Type} (v : MultiVarS I) : C16.MVar I := ⟨v.f0.data⟩
def toH {R : Type} (h : HPolyS R) : C16.HPoly R := ⟨h.deg, h.coeff⟩

section
variable {X R : Type} [DecidableEq X] [DecidableEq R] [Zero R] [One R] [Add R] [Sub R] [Neg R] [Mul R]

set_option linter.unusedSectionVars false in
theorem get_eq_lookup (l : List (X × R)) (x : X) : AMap.get l x = C16.lookup? l x := by
  induction l with
  | nil => rfl
  | cons p t ih => obtain ⟨y, v⟩ := p; simp only [AMap.get, C16.lookup?, ih]

theorem getD_eq_coeff (l : List (X × R)) (x : X) : (AMap.get l x).getD 0 = C16.coeff l x := by
  rw [get_eq_lookup, C16.coeff_eq_lookup?]

theorem upd_absent (l : List (X × R)) (x : X) (r : R) (h : AMap.contains_key l x = false) :
    l ++ [(x, r)] = C16.upd l x r := by
  refine (C16.upd_of_not_mem (fun hm => ?_) r).symm
  rw [← C16.lookup?_isSome, ← get_eq_lookup] at hm
  exact Bool.false_ne_true (h.symm.trans hm)

omit [DecidableEq R] [Zero R] [One R] [Sub R] [Neg R] [Mul R] in
theorem upd_present (l : List (X × R)) (x : X) (r : R) (h : AMap.contains_key l x = true) :
    ∃ v, AMap.get l x = some v ∧ AMap.set l x (v + r) = C16.upd l x r := by
  induction l with
  | nil => simp [AMap.contains_key, AMap.get] at h
  | cons p t ih =>
    obtain ⟨y, v⟩ := p
    by_cases hy : y = x
    · exact ⟨v, by simp [AMap.get, hy], by simp [AMap.set, C16.upd, hy]⟩
    · have h' : AMap.contains_key t x = true := by
        simpa [AMap.contains_key, AMap.get, hy] using h
      obtain ⟨w, hw, hs⟩ := ih h'
      exact ⟨w, by simp [AMap.get, hy, hw], by simp [AMap.set, C16.upd, hy, hs]⟩

omit [DecidableEq X] [DecidableEq R] [Zero R] [One R] [Add R] [Sub R] [Neg R] [Mul R] in
theorem foldl_data {β : Type} (g : List (X × R) → β → List (X × R)) (xs : List β) (s : LcS X R) :
    xs.foldl (fun (s : LcS X R) x => (⟨g s.data x, s.r_zero⟩ : LcS X R)) s = ⟨xs.foldl g s.data, s.r_zero⟩ := by
  induction xs generalizing s with
  | nil => rfl
  | cons x xs ih => simp only [List.foldl_cons, ih]

theorem add_pair_eq (s : LcS X R) (p : X × R) : Lc.add_pair s p = .ok ⟨C16.addPair s.data p, s.r_zero⟩ := by
  unfold Lc.add_pair C16.addPair
  by_cases h0 : p.2 = 0
  · simp [h0]
  · simp only [h0, decide_false, if_false, Bool.false_eq_true]
    by_cases hc : AMap.contains_key s.data p.1 = true
    · obtain ⟨v, hv, hs⟩ := upd_present s.data p.1 p.2 hc
      simp only [hc, if_true, hv, Opt.unwrap, Res.bind, hs]
    · have hc' : AMap.contains_key s.data p.1 = false := by simpa using hc
      simp only [hc', Bool.false_eq_true, if_false, AMap.insert, upd_absent s.data p.1 p.2 hc']

theorem add_pair_ref_eq : (Lc.add_pair_ref : LcS X R → X × R → Res (LcS X R)) = Lc.add_pair := rfl

theorem forM_add_pair {β : Type} (f : β → X × R) (xs : List β) (s : LcS X R) :
    Poly.forM xs s (fun s e => Res.bind (Lc.add_pair s (f e)) (fun r => Res.ok r))
      = .ok ⟨xs.foldl (fun l e => C16.addPair l (f e)) s.data, s.r_zero⟩ := by
  rw [Poly.forM_ok (g := fun (s : LcS X R) e => (⟨C16.addPair s.data (f e), s.r_zero⟩ : LcS X R))
        (fun e _ s => by rw [add_pair_eq]; rfl), foldl_data (fun l e => C16.addPair l (f e))]

omit [One R] [Sub R] [Neg R] in
theorem foldl_pairs (f : X → X → X) (a b acc : List (X × R)) :
    a.foldl (fun acc p => b.foldl (fun acc q => C16.addPair acc (f p.1 q.1, p.2 * q.2)) acc) acc
      = (C16.pairs f a b).foldl C16.addPair acc := by
  unfold C16.pairs
  induction a generalizing acc with
  | nil => rfl
  | cons p t ih => simp only [List.foldl_cons, List.flatMap_cons, List.foldl_append, List.foldl_map, ih]

omit [DecidableEq R] [Zero R] [One R] [Add R] [Sub R] [Neg R] [Mul R] in
theorem max_by_eq {M : Type} (cmp : M → M → Ordering) (l : List (M × R)) :
    Poly.max_by (fun t1 t2 => cmp t1.1 t2.1) l = C16.maxBy cmp l := by
  cases l <;> rfl

end
section MDeg
variable {I : Type} [DecidableEq I] [Zero I] [Add I] [LT I] [DecidableLT I]

/-- the entry list of a `BTreeMap`: strictly increasing keys -/
def keysSorted (l : List (Nat × I)) : Prop := (l.map (fun e => e.1)).Pairwise (· < ·)

omit [DecidableEq I] [Zero I] [Add I] [LT I] [DecidableLT I] in
theorem bget_eq_lookup (l : List (Nat × I)) (i : Nat) : BMap.get l i = C16.lookup? l i := by
  induction l with
  | nil => rfl
  | cons p t ih => obtain ⟨y, v⟩ := p; simp only [BMap.get, C16.lookup?, ih]

omit [DecidableEq I] [Add I] [LT I] [DecidableLT I] in
theorem bget_eq_mdGet (l : List (Nat × I)) (i : Nat) : (BMap.get l i).getD 0 = C16.mdGet l i := by
  rw [bget_eq_lookup, C16.mdGet_eq_coeff, C16.coeff_eq_lookup?]

omit [DecidableEq I] [Zero I] [Add I] [LT I] [DecidableLT I] in
theorem bcontains_mem (l : List (Nat × I)) (i : Nat) (h : BMap.contains_key l i = true) : i ∈ l.map (fun e => e.1) := by
  rw [BMap.contains_key, bget_eq_lookup] at h
  exact C16.lookup?_isSome.mp h

omit [DecidableEq I] [Add I] [LT I] [DecidableLT I] in
/-- `*get_mut(i).unwrap() op= d` on a present key is the walk `mdUpd` of the model -/
theorem bset_present (op : I → I → I) (l : List (Nat × I)) (hs : keysSorted l) (i : Nat) (d : I)
    (hc : BMap.contains_key l i = true) :
    ∃ v, BMap.get l i = some v ∧ BMap.set l i (op v d) = C16.mdUpd op l i d := by
  induction l with
  | nil => exact nomatch hc
  | cons p t ih =>
    have ⟨hp, ht⟩ := C16.mdSorted_cons.mp hs
    by_cases hj : p.1 = i
    · subst hj
      exact ⟨p.2, if_pos rfl, by rw [C16.mdUpd_cons_self]; exact if_pos rfl⟩
    · have hc' : BMap.contains_key t i = true := by rwa [BMap.contains_key, BMap.get, if_neg hj] at hc
      obtain ⟨v, hv, hset⟩ := ih ht hc'
      -- a key stored behind the head is above it
      have hlt : p.1 < i := hp i (bcontains_mem t i hc')
      refine ⟨v, (if_neg hj).trans hv, ?_⟩
      rw [C16.mdUpd_cons_gt op hlt, ← hset]
      exact if_neg hj

omit [DecidableEq I] [Zero I] [Add I] [LT I] [DecidableLT I] in
theorem binsert_cons (p : Nat × I) (t : List (Nat × I)) (i : Nat) (v : I) :
    BMap.insert (p :: t) i v =
      if i < p.1 then (i, v) :: p :: t else if i = p.1 then (p.1, v) :: t else p :: BMap.insert t i v := rfl

omit [DecidableEq I] [Add I] [LT I] [DecidableLT I] in
/-- `insert(i, 0)` of an absent key followed by `*get_mut(i).unwrap() op= d` is the walk `mdUpd` of the model -/
theorem bset_insert_absent (op : I → I → I) (l : List (Nat × I)) (i : Nat) (d : I)
    (hc : BMap.contains_key l i = false) :
    BMap.get (BMap.insert l i 0) i = some 0 ∧
      BMap.set (BMap.insert l i 0) i (op 0 d) = C16.mdUpd op l i d := by
  induction l with
  | nil => exact ⟨if_pos rfl, if_pos rfl⟩
  | cons p t ih =>
    have hj : ¬ p.1 = i := fun e => by rw [BMap.contains_key, BMap.get, if_pos e] at hc; exact nomatch hc
    have hc' : BMap.contains_key t i = false := by rwa [BMap.contains_key, BMap.get, if_neg hj] at hc
    rcases Nat.lt_trichotomy i p.1 with h | h | h
    · rw [binsert_cons, if_pos h, C16.mdUpd_cons_lt op h]
      exact ⟨if_pos rfl, if_pos rfl⟩
    · exact absurd h.symm hj
    · rw [binsert_cons, if_neg (Nat.lt_asymm h), if_neg (Nat.ne_of_gt h), C16.mdUpd_cons_gt op h]
      exact ⟨(if_neg hj).trans (ih hc').1, (if_neg hj).trans (congrArg (p :: ·) (ih hc').2)⟩

omit [DecidableEq I] [Add I] [LT I] [DecidableLT I] in
theorem keysSorted_mdUpd (op : I → I → I) (l : List (Nat × I)) (hs : keysSorted l) (i : Nat) (d : I) :
    keysSorted (C16.mdUpd op l i d) := C16.mdSorted_mdUpd op hs i d

omit [DecidableEq I] [Zero I] [Add I] [LT I] [DecidableLT I] in
theorem foldl_mdata {β : Type} (g : List (Nat × I) → β → List (Nat × I)) (xs : List β) (s : MultiDegS I) :
    xs.foldl (fun (s : MultiDegS I) x => (⟨g s.data x, s._zero_⟩ : MultiDegS I)) s = ⟨xs.foldl g s.data, s._zero_⟩ := by
  induction xs generalizing s with
  | nil => rfl
  | cons x xs ih => simp only [List.foldl_cons, ih]

end MDeg

end Yuiv.GenP
