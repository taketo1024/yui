import Yuiv.Proofs.C10GS
/-
C10 — COMPLETENESS of the verified checker `isLLLReduced`: the (untrusted) `gramSchmidt` of the model does compute THE
Gram–Schmidt decomposition of independent rows, hence the checker accepts every basis that satisfies its spec
`IsLLLReduced`.  Together with `isLLLReduced_sound`: the checker DECIDES the spec.  At the end `gsOk`, an executable check
for `RowsIndep`.
-/
namespace Yuiv.C10
open Yuiv Res Finset

theorem entQ_push_lt (A : QMat) (row : Array Rat) (r c : Nat) (h : r < A.size) :
    entQ (A.push row) r c = entQ A r c := by
  unfold entQ
  have : (A.push row).getD r #[] = A.getD r #[] := by
    rw [Array.getD_eq_getD_getElem?, Array.getD_eq_getD_getElem?, Array.getElem?_push_lt h]
    simp [h]
  rw [this]

theorem entQ_push_eq (A : QMat) (row : Array Rat) (c : Nat) {r : Nat} (hr : A.size = r) :
    entQ (A.push row) r c = row.getD c 0 := by
  unfold entQ
  have : (A.push row).getD r #[] = row := by
    rw [Array.getD_eq_getD_getElem?, ← hr]
    simp
  rw [this]

theorem getD_ofFn_rat (k : Nat) (f : Fin k → Rat) (c : Nat) (h : c < k) :
    (Array.ofFn f).getD c 0 = f ⟨c, h⟩ := by
  rw [Array.getD_eq_getD_getElem?]
  simp [h]

def gsStep (n : Nat) (B : Mat) (acc : QMat × QMat) (i : Nat) : QMat × QMat :=
  match acc with
  | (bs, mu) =>
    let mui : Array Rat := Array.ofFn (n := i) fun j =>
      (sumLtQ n fun c => (ent B i c : Rat) * entQ bs j c) / (sumLtQ n fun c => entQ bs j c * entQ bs j c)
    let bsi : Array Rat := Array.ofFn (n := n) fun c =>
      (ent B i c : Rat) - sumLtQ i fun j => mui.getD j 0 * entQ bs j c
    (bs.push bsi, mu.push mui)

theorem gramSchmidt_eq (m n : Nat) (B : Mat) : gramSchmidt m n B = (List.range m).foldl (gsStep n B) (#[], #[]) := rfl

theorem gramSchmidt_spec (m n : Nat) (B : Mat) (bs' mu' : Nat → Nat → ℚ) (h : IsGS m n (ent B) bs' mu') :
    (∀ i < m, ∀ c < n, entQ (gramSchmidt m n B).1 i c = bs' i c) ∧
    (∀ i < m, ∀ j < i, entQ (gramSchmidt m n B).2 i j = mu' i j) := by
  rw [gramSchmidt_eq]
  have key : ∀ k ≤ m, ((List.range k).foldl (gsStep n B) (#[], #[])).1.size = k ∧
      ((List.range k).foldl (gsStep n B) (#[], #[])).2.size = k ∧
      (∀ r < k, ∀ c < n, entQ ((List.range k).foldl (gsStep n B) (#[], #[])).1 r c = bs' r c) ∧
      (∀ r < k, ∀ j < r, entQ ((List.range k).foldl (gsStep n B) (#[], #[])).2 r j = mu' r j) := by
    intro k
    induction k with
    | zero =>
      intro _
      exact ⟨rfl, rfl, fun r hr => absurd hr (Nat.not_lt_zero r), fun r hr => absurd hr (Nat.not_lt_zero r)⟩
    | succ i ih =>
      intro hi
      obtain ⟨s1, s2, e1, e2⟩ := ih (by omega)
      rw [List.range_succ, List.foldl_append]
      generalize (List.range i).foldl (gsStep n B) (#[], #[]) = acc at s1 s2 e1 e2
      obtain ⟨bs, mu⟩ := acc
      simp only at s1 s2 e1 e2
      have him : i < m := by omega
      have hmu : ∀ j (hj : j < i),
          (sumLtQ n fun c => (ent B i c : Rat) * entQ bs j c) / (sumLtQ n fun c => entQ bs j c * entQ bs j c)
            = mu' i j := by
        intro j hj
        rw [sumLtQ_eq, sumLtQ_eq]
        have a1 : ∑ c ∈ range n, (ent B i c : ℚ) * entQ bs j c = ∑ c ∈ range n, (ent B i c : ℚ) * bs' j c :=
          Finset.sum_congr rfl (fun c hc => by rw [e1 j hj c (mem_range.mp hc)])
        have a2 : ∑ c ∈ range n, entQ bs j c * entQ bs j c = ∑ c ∈ range n, bs' j c * bs' j c :=
          Finset.sum_congr rfl (fun c hc => by rw [e1 j hj c (mem_range.mp hc)])
        rw [a1, a2, h.inner_eq him hj]
        exact mul_div_cancel_right₀ _ (ne_of_gt (h.pos j (by omega)))
      show ((bs.push _).size = i + 1) ∧ ((mu.push _).size = i + 1) ∧ _ ∧ _
      refine ⟨by rw [Array.size_push, s1], by rw [Array.size_push, s2], ?_, ?_⟩
      · intro r hr c hc
        show entQ (bs.push _) r c = _
        rcases Nat.lt_or_ge r i with hlt | hge
        · rw [entQ_push_lt _ _ _ _ (by omega)]; exact e1 r hlt c hc
        · have hri : r = i := by omega
          subst hri
          rw [entQ_push_eq bs _ c s1, getD_ofFn_rat n _ c hc, sumLtQ_eq, h.decomp r him c hc, add_sub_assoc]
          refine add_eq_left.mpr (sub_eq_zero.mpr (Finset.sum_congr rfl (fun j hj => ?_)))
          have hj' := mem_range.mp hj
          rw [getD_ofFn_rat r _ j hj', hmu j hj', e1 j hj' c hc]
      · intro r hr j hj
        show entQ (mu.push _) r j = _
        rcases Nat.lt_or_ge r i with hlt | hge
        · rw [entQ_push_lt _ _ _ _ (by omega)]; exact e2 r hlt j hj
        · have hri : r = i := by omega
          subst hri
          rw [entQ_push_eq mu _ j s2, getD_ofFn_rat r _ j hj]
          exact hmu j hj
  obtain ⟨_, _, e1, e2⟩ := key m (le_refl m)
  exact ⟨e1, e2⟩

theorem reducedWith_complete (m n : Nat) (B : Mat) (p q : Int) (bs mu : QMat)
    (hGS : IsGS m n (ent B) (entQ bs) (entQ mu))
    (hsz : ∀ i < m, ∀ j < i, |entQ mu i j| ≤ 1 / 2)
    (hlov : ∀ k, 0 < k → k < m →
      ((p : ℚ) / (q : ℚ) - entQ mu k (k - 1) ^ 2) * (∑ c ∈ range n, entQ bs (k - 1) c * entQ bs (k - 1) c)
        ≤ ∑ c ∈ range n, entQ bs k c * entQ bs k c) :
    reducedWith m n B p q bs mu = true := by
  simp only [reducedWith, allLt_iff, Bool.and_eq_true, Bool.or_eq_true, decide_eq_true_eq, beq_iff_eq,
    sumLtQ_eq]
  refine ⟨⟨⟨⟨hGS.decomp, hGS.orth⟩, hGS.pos⟩, fun i hi j hj => abs_le.mp (hsz i hi j hj)⟩, ?_⟩
  intro k hk
  rcases Nat.eq_zero_or_pos k with h0 | h0
  · exact Or.inl h0
  · refine Or.inr ?_
    have := hlov k h0 hk
    rw [pow_two] at this
    exact this

theorem isLLLReduced_complete (m n : Nat) (B : Mat) (p q : Int) (h : IsLLLReduced m n (ent B) ((p : ℚ) / (q : ℚ))) :
    isLLLReduced m n B p q = true := by
  obtain ⟨bs', mu', hGS, hsz, hlov⟩ := h
  obtain ⟨e1, e2⟩ := gramSchmidt_spec m n B bs' mu' hGS
  unfold isLLLReduced
  simp only
  have hn : ∀ i < m, ∑ c ∈ range n, entQ (gramSchmidt m n B).1 i c * entQ (gramSchmidt m n B).1 i c
      = ∑ c ∈ range n, bs' i c * bs' i c :=
    fun i hi => Finset.sum_congr rfl (fun c hc => by rw [e1 i hi c (mem_range.mp hc)])
  apply reducedWith_complete
  · refine ⟨?_, ?_, ?_⟩
    · intro i hi c hc
      rw [e1 i hi c hc, hGS.decomp i hi c hc]
      congr 1
      refine Finset.sum_congr rfl (fun j hj => ?_)
      have hj' := mem_range.mp hj
      rw [e2 i hi j hj', e1 j (by omega) c hc]
    · intro i hi j hj
      rw [← hGS.orth i hi j hj]
      refine Finset.sum_congr rfl (fun c hc => ?_)
      rw [e1 i hi c (mem_range.mp hc), e1 j (by omega) c (mem_range.mp hc)]
    · intro i hi
      rw [hn i hi]
      exact hGS.pos i hi
  · intro i hi j hj
    rw [e2 i hi j hj]
    exact hsz i hi j hj
  · intro k hk0 hk
    rw [hn k hk, hn (k - 1) (by omega), e2 k hk (k - 1) (by omega)]
    exact hlov k hk0 hk

/-- executable check of the defining equations of a Gram–Schmidt decomposition (the first three clauses of
`reducedWith`) -/
def gsOk (m n : Nat) (B : Mat) (bs mu : QMat) : Bool :=
  let nrm : Nat → Rat := fun i => sumLtQ n fun c => entQ bs i c * entQ bs i c
  (allLt m fun i => allLt n fun c =>
      (ent B i c : Rat) == entQ bs i c + sumLtQ i fun j => entQ mu i j * entQ bs j c)
  && (allLt m fun i => allLt i fun j => (sumLtQ n fun c => entQ bs i c * entQ bs j c) == 0)
  && (allLt m fun i => decide (0 < nrm i))

theorem gsOk_sound (m n : Nat) (B : Mat) (bs mu : QMat) (h : gsOk m n B bs mu = true) :
    IsGS m n (ent B) (entQ bs) (entQ mu) := by
  simp only [gsOk, allLt_iff, Bool.and_eq_true, decide_eq_true_eq, beq_iff_eq, sumLtQ_eq] at h
  obtain ⟨⟨h1, h2⟩, h3⟩ := h
  exact ⟨h1, h2, h3⟩

theorem rowsIndep_of_gsOk (m n : Nat) (B : Mat)
    (h : gsOk m n B (gramSchmidt m n B).1 (gramSchmidt m n B).2 = true) : RowsIndep m n (ent B) :=
  ⟨_, _, gsOk_sound m n B _ _ h⟩

/-- the test matrix of the repository (`tests::lll`) has independent rows -/
theorem rowsIndep_lll_test : RowsIndep 3 3 (ent #[#[1, -1, 3], #[1, 0, 5], #[1, 2, 6]]) :=
  rowsIndep_of_gsOk 3 3 _ (by decide +kernel)

end Yuiv.C10
