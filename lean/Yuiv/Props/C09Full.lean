import Yuiv.Proofs.C09Int
/-
C09 — Smith normal form, clauses (S) shape and (T) termination/totality, for the code model of `SnfCalc`
(`Model/C09.lean`) over ℤ (`intOps`: `+ * -`, `==`, `normalizing_unit = sign`, `/ %` truncated,
`gcdx` = `num_integer::extended_gcd` normalised):
  For ANY preprocessing `pre` (nothing is assumed about LLL–HNF), any fuel, debug or release build.

The theorems are the instance `intOps` of the theorems for lawful Euclidean operation records
(`Proofs/C09Euc*.lean`), sharpened where ℤ allows it (`Proofs/C09Int.lean`): any non-zero pivot, and an explicit
fuel bound for `diag_normalize`.
-/
namespace Yuiv.C09
open Yuiv Matrix

variable {m n : Nat}

/-- `intGcdx x y = (g, s, t)`: Bézout `g = s·x + t·y`, `g ≥ 0`, `g ∣ x`, `g ∣ y` (so `g = gcd(x, y)`) -/
theorem int_gcdx_bezout (x y : Int) :
    (intGcdx x y).1 = (intGcdx x y).2.1 * x + (intGcdx x y).2.2 * y ∧ 0 ≤ (intGcdx x y).1 ∧
      (intGcdx x y).1 ∣ x ∧ (intGcdx x y).1 ∣ y := intGcdx_spec x y

/-- the local wrapper `SnfCalc::gcdx` on a non-zero pivot `x`: `d > 0` divides both, Bézout holds for the
coefficients it hands out, and either the second coefficient is `0` (pivot divides `y`: the opposite line is not
re-filled) or `d < |x|` (the pivot strictly shrinks) -/
theorem int_gcdx_wrapper (x y : Int) (hx : x ≠ 0) :
    0 < (gcdxW intOps x y).1 ∧ (gcdxW intOps x y).1 ∣ x ∧ (gcdxW intOps x y).1 ∣ y ∧
      (gcdxW intOps x y).2.1 * x + (gcdxW intOps x y).2.2 * y = (gcdxW intOps x y).1 ∧
      ((gcdxW intOps x y).2.2 = 0 ∨ (gcdxW intOps x y).1 < |x|) := gcdxW_int_spec x y hx

/-- `eliminate_at(i, j)` on a non-zero pivot, whenever it returns: the pivot is non-zero, divides the old pivot,
and is the only non-zero entry of its row and of its column -/
theorem eliminateAt_isolates_pivot (dbg : Bool) (i : Fin m) (j : Fin n) (fuel : Nat) (s s' : St Int m n)
    (h : eliminateAt intOps dbg i j fuel s = .ok s') (hp : s.t.get i j ≠ 0) :
    s'.t.get i j ≠ 0 ∧ s'.t.get i j ∣ s.t.get i j ∧
      (∀ c, c ≠ j → s'.t.get i c = 0) ∧ (∀ r, r ≠ i → s'.t.get r j = 0) :=
  let ⟨_, h2, _, h4, h5, h6⟩ :=
    (Euc.eliminateAt_conv lawfulEuc_int pivotInv_int (Euc.frameOK_true i j) dbg _ s rfl trivial hp trivial).post h
  ⟨h2, h4, h5, h6⟩

/-- the loop invariant of `eliminate_all` is kept by `eliminate_at(i, i)`: with the pivots `< i` isolated and
non-zero and the columns `i < c ≤ j` zero, clearing pivot `i` does not re-fill any of them -/
theorem eliminateAt_keeps_processed_pivots (dbg : Bool) (i : Fin m) (hi : i.1 < n) (j fuel : Nat)
    (s s' : St Int m n) (h : eliminateAt intOps dbg i ⟨i.1, hi⟩ fuel s = .ok s') (hp : s.t.get i ⟨i.1, hi⟩ ≠ 0)
    (hinv : EAinv i.1 (i.1 + 1) (j + 1) s.t) : EAinv i.1 (i.1 + 1) (j + 1) s'.t :=
  (EAinv_iff _ _ _ _).2 ((Euc.eliminateAt_conv lawfulEuc_int pivotInv_int (Euc.frameOK_EAinv lawfulEuc_int i ⟨i.1, hi⟩ rfl j)
    dbg _ s rfl ((EAinv_iff _ _ _ _).1 hinv) hp trivial).post h).1

/-- `eliminate_all`, from ANY start state, whenever it returns: the target is diagonal and its non-zero diagonal
entries come first -/
theorem eliminateAll_diagonal (dbg : Bool) (fuel : Nat) (s s' : St Int m n)
    (h : eliminateAll intOps dbg fuel s = .ok s') :
    (∀ (r : Fin m) (c : Fin n), r.1 ≠ c.1 → s'.t.get r c = 0) ∧
      (∀ k l, k ≤ l → dg intOps.toROps s'.t k = 0 → dg intOps.toROps s'.t l = 0) :=
  (Euc.eliminateAll_conv lawfulEuc_int dbg s).elim fun _ hB => hB.post h

/-- one step of `diag_normalize` on a diagonal matrix, whenever it returns: the matrix stays diagonal, only
`d_i, d_{i+1}` change, both stay non-zero, and when the step answers `false` (the pass restarts)
`|d_i|` strictly decreases while `|d_i · d_{i+1}|` is unchanged — `(x, y) ↦ (gcd, lcm)` up to sign -/
theorem diagNormalizeStep_gcd_lcm (dbg : Bool) (s : St Int m n) (i : Nat) (hm : i + 1 < m) (hn : i + 1 < n)
    (r : St Int m n × Bool) (h : diagNormalizeStep intOps dbg s i hm hn = .ok r)
    (hD : ∀ (r : Fin m) (c : Fin n), r.1 ≠ c.1 → s.t.get r c = 0) :
    (∀ (R : Fin m) (C : Fin n), R.1 ≠ C.1 → r.1.t.get R C = 0) ∧
    (∀ k, k ≠ i → k ≠ i + 1 → dgz r.1.t k = dgz s.t k) ∧
    dgz s.t i ≠ 0 ∧ dgz s.t (i + 1) ≠ 0 ∧ dgz r.1.t i ≠ 0 ∧ dgz r.1.t (i + 1) ≠ 0 ∧
    (r.2 = false → |dgz r.1.t i| < |dgz s.t i| ∧
      |dgz r.1.t i| * |dgz r.1.t (i + 1)| = |dgz s.t i| * |dgz s.t (i + 1)|) :=
  diagStep_dg_int dbg s i hm hn r h hD

/-- `diag_normalize` on a diagonal matrix whose non-zero diagonal entries come first, whenever it returns:
the checker accepts the result (diagonality and normalisation are kept, the chain is established) -/
theorem diagNormalize_shape (dbg : Bool) (fuel : Nat) (s s' : St Int m n)
    (h : diagNormalize intOps dbg fuel s = .ok s')
    (hD : ∀ (r : Fin m) (c : Fin n), r.1 ≠ c.1 → s.t.get r c = 0)
    (hN : ∀ k l, k ≤ l → dg intOps.toROps s.t k = 0 → dg intOps.toROps s.t l = 0) :
    isSnfShape intOps s'.t = true :=
  (Euc.diagNormalize_conv lawfulEuc_int dbg s hD).elim fun _ hB => hB.post h hN

/-- for every matrix, every preprocessing `pre`, every fuel, debug or release build: whenever
the code model of `SnfCalc::process` returns, the verified checker accepts its target -/
theorem snf_shape (dbg : Bool) (pre : St Int m n → Res (St Int m n)) (fuel : Nat) (A : Mat Int m n)
    (s : St Int m n) (h : snfCalc intOps dbg pre fuel A = .ok s) : isSnfShape intOps s.t = true :=
  Euc.snfCalc_shape lawfulEuc_int dbg pre fuel A s h

/-- `snf_shape`, the mathematical statement: the result is diagonal and its diagonal consists of `r` positive
entries, each dividing the next, followed by zeros -/
theorem snf_shape_spec (dbg : Bool) (pre : St Int m n → Res (St Int m n)) (fuel : Nat) (A : Mat Int m n)
    (s : St Int m n) (h : snfCalc intOps dbg pre fuel A = .ok s) :
    (∀ (i : Fin m) (j : Fin n), i.1 ≠ j.1 → s.t.get i j = 0) ∧
      ShapeSpec (fun x : Int => 0 ≤ x) (diagL s.t) :=
  isSnfShape_int s.t (Euc.snfCalc_shape lawfulEuc_int dbg pre fuel A s h)

/-- shape and transform together (debug build, identity preprocessing): `D = P·A·Q` with `P·P⁻¹ = Q·Q⁻¹ = I` and
`D` in Smith normal form -/
theorem snf_correct (fuel : Nat) (A : Mat Int m n) (s : St Int m n)
    (h : snfCalc intOps true (fun s => .ok s) fuel A = .ok s) :
    (toM id s.p * toM id A * toM id s.q = toM id s.t ∧ toM id s.p * toM id s.pinv = 1 ∧
      toM id s.q * toM id s.qinv = 1) ∧
    (∀ (i : Fin m) (j : Fin n), i.1 ≠ j.1 → s.t.get i j = 0) ∧ ShapeSpec (fun x : Int => 0 ≤ x) (diagL s.t) :=
  ⟨inv_snfCalc lawfulE_int _ (fun s s' h hi => by cases h; exact hi) fuel s h,
    snf_shape_spec true _ fuel A s h⟩

/-- the hypothesis of `snf_shape` is satisfiable non-trivially -/
example : (match snfCalc intOps true (fun s => .ok s) 50 (⟨#v[#v[4, 6, 0], #v[6, 10, 2]]⟩ : Mat Int 2 3) with
    | .ok s => diagL s.t == [2, 2]
    | _ => false) = true := by decide +kernel

/-- the `while` loop of `eliminate_at(i, j)` on a non-zero pivot never runs out of
fuel when `fuel ≥ |pivot| + 2`: an iteration (`eliminate_col`; `eliminate_row`) either leaves the pivot isolated,
so that the next test exits, or strictly decreases `|pivot|` -/
theorem eliminateAt_terminates (dbg : Bool) (i : Fin m) (j : Fin n) (fuel : Nat) (s : St Int m n)
    (hp : s.t.get i j ≠ 0) (hf : (s.t.get i j).natAbs + 2 ≤ fuel) : eliminateAt intOps dbg i j fuel s ≠ .err :=
  (Euc.eliminateAt_conv lawfulEuc_int pivotInv_int (Euc.frameOK_true i j) dbg _ s rfl trivial hp trivial).ne_err hf

/-- `eliminate_all` is a `for` loop over the columns (no fuel of its own; the row
counter only increases); the fuel is handed to `eliminate_at`, whose pivot `eliminate_step` has asserted to be
non-zero.  Hence for every start state there is a bound (the largest `|pivot| + 2` met) from which on it never
reports exhaustion -/
theorem eliminateAll_terminates (dbg : Bool) (s : St Int m n) :
    ∃ N, ∀ fuel, N ≤ fuel → eliminateAll intOps dbg fuel s ≠ .err :=
  (Euc.eliminateAll_conv lawfulEuc_int dbg s).imp fun _ hB _ hf => hB.ne_err hf

/-- on a diagonal matrix, `diag_normalize` never runs out of fuel when
`fuel ≥ Σ_{k<r} Π_{l<k} |d_l| + 1`, `r` the number of leading non-zero diagonal entries: every pass of the
`'outer` loop that does not go through strictly decreases that sum -/
theorem diagNormalize_terminates (dbg : Bool) (fuel : Nat) (s : St Int m n)
    (hD : ∀ (r : Fin m) (c : Fin n), r.1 ≠ c.1 → s.t.get r c = 0)
    (hf : diagMeasure (firstZeroDiag intOps s.t) s.t + 1 ≤ fuel) : diagNormalize intOps dbg fuel s ≠ .err :=
  diagNormalize_fuel_ok dbg fuel s hD hf

/-- the measure is what the comment says: `Σ_{j<k} Π_{l<j} f l`, e.g. for `d = (6, 4, 10)`: `1 + 6 + 24` -/
example : sumPref (fun l => [6, 4, 10].getD l 0) 3 = 31 := by decide

/-- fuel is monotone: a result other than fuel exhaustion is not changed by more fuel (any ring operations) -/
theorem snf_fuel_mono {α : Type} (e : EOps α) (dbg : Bool) (pre : St α m n → Res (St α m n)) (fuel : Nat)
    (A : Mat α m n) (h : snfCalc e dbg pre fuel A ≠ .err) (fuel' : Nat) (hle : fuel ≤ fuel') :
    snfCalc e dbg pre fuel' A = snfCalc e dbg pre fuel A :=
  (snfCalc_le (fun h => h) hle pre A).eq_of_ne_err (fun h => h rfl) h

/-- for every matrix and every preprocessing that does not itself report an error there
is a fuel bound from which on the code model of `SnfCalc::process` never reports fuel exhaustion -/
theorem snf_terminates (dbg : Bool) (pre : St Int m n → Res (St Int m n)) (A : Mat Int m n)
    (hpre : pre (St.init intOps.toROps A) ≠ .err) :
    ∃ N, ∀ fuel, N ≤ fuel → snfCalc intOps dbg pre fuel A ≠ .err :=
  Euc.snfCalc_exists_fuel lawfulEuc_int dbg pre A hpre

/-- `eliminate_at` on a non-zero pivot never panics: the `debug_assert!((a*d - b*c).is_one())` of
`left/right_elementary` hold (Bézout), and `assert!(modified)` cannot fire while the loop condition is true -/
theorem eliminateAt_never_panics (dbg : Bool) (i : Fin m) (j : Fin n) (fuel : Nat) (s : St Int m n)
    (hp : s.t.get i j ≠ 0) : eliminateAt intOps dbg i j fuel s ≠ .panic :=
  (Euc.eliminateAt_conv lawfulEuc_int pivotInv_int (Euc.frameOK_true i j) dbg _ s rfl trivial hp trivial).ne_panic fuel

/-- over ℤ the code model of `SnfCalc::process` never panics unless the preprocessing does: `mul_row/mul_col` are
only called with `±1`, `eliminate_at` only on a non-zero pivot, `diag_normalize` only on a diagonal matrix (its
`debug_assert!(is_diag)`) and `diag_normalize_step` only on non-zero entries -/
theorem snf_never_panics (dbg : Bool) (pre : St Int m n → Res (St Int m n)) (fuel : Nat) (A : Mat Int m n)
    (hpre : pre (St.init intOps.toROps A) ≠ .panic) : snfCalc intOps dbg pre fuel A ≠ .panic :=
  Euc.snfCalc_ne_panic lawfulEuc_int dbg pre fuel A hpre

/-- if the preprocessing returns, there are a fuel bound `N` and a state `s` such that the code
model returns exactly `s` for every `fuel ≥ N` -/
theorem snf_total (dbg : Bool) (pre : St Int m n → Res (St Int m n)) (A : Mat Int m n) (s1 : St Int m n)
    (hpre : pre (St.init intOps.toROps A) = .ok s1) :
    ∃ N s, ∀ fuel, N ≤ fuel → snfCalc intOps dbg pre fuel A = .ok s :=
  Euc.snfCalc_total lawfulEuc_int dbg pre A s1 hpre

/-- everything together for the model the driver runs (identity preprocessing, debug build): with enough fuel it
returns a state with `D = P·A·Q`, `P·P⁻¹ = Q·Q⁻¹ = I`, and `D` in Smith normal form -/
theorem snf_total_correct (A : Mat Int m n) :
    ∃ N s, (∀ fuel, N ≤ fuel → snfCalc intOps true (fun s => .ok s) fuel A = .ok s) ∧
      (toM id s.p * toM id A * toM id s.q = toM id s.t ∧ toM id s.p * toM id s.pinv = 1 ∧
        toM id s.q * toM id s.qinv = 1) ∧
      (∀ (i : Fin m) (j : Fin n), i.1 ≠ j.1 → s.t.get i j = 0) ∧
      ShapeSpec (fun x : Int => 0 ≤ x) (diagL s.t) := by
  obtain ⟨N, s, h⟩ := Euc.snfCalc_total lawfulEuc_int true (fun s => .ok s) A _ rfl
  exact ⟨N, s, h, snf_correct N A s (h N (Nat.le_refl _))⟩

end Yuiv.C09
