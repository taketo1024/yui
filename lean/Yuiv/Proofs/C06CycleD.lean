import Yuiv.Proofs.C06CycleDefs
import Yuiv.Proofs.KhRefLoops
/-
C06CycleD — the imperative reference differential `KhRef.Cube.d` (`Id.run do`: outer `for k in [0:c.n]` with the
mutable `out : Array Term`, inner `for` building `m0`, the `prod` / `coprod` loops, early `return none`, final filter
of the reduced theory) equals, for ALL inputs, its loop-free form `dRaw` of `Proofs/C06CycleDefs.lean` (`cube_d_eq`).
Method: `Cube.d` is first shown equal to a copy `DModel.dM` whose loop bodies are named functions (definitional
unfolding); the inner loops become folds, the outer loop with its early exit a `List.foldlM` in `Option`.
-/
namespace Yuiv.C06Cycle
open Yuiv Yuiv.KhRef

namespace DModel

/-- state of the outer loop as the `do` notation encodes it: (early result, accumulator `out`) -/
abbrev St := Option (Option (Array Term)) × Array Term

def carryBody (cs cs' : Array (Array Nat)) (mask : Nat) (i : Nat) (m0 : Nat) : Id (ForInStep Nat) :=
  if cs'.contains cs[i]! = true then
    pure (ForInStep.yield (setBit m0 ((cs'.findIdx? (· == cs[i]!)).getD 0) (mask.testBit i)))
  else pure (ForInStep.yield m0)

def prodBody (s' m0 b0 : Nat) (sign : Int) (x : Bool × Int) (out : Array Term) : Id (ForInStep (Array Term)) :=
  if (x.2 != 0) = true then pure (ForInStep.yield (out.push (⟨s', setBit m0 b0 x.1⟩, sign * x.2)))
  else pure (ForInStep.yield out)

def coprodBody (s' m0 b0 b1 : Nat) (sign : Int) (x : Bool × Bool × Int) (out : Array Term) :
    Id (ForInStep (Array Term)) :=
  if (x.2.2 != 0) = true then
    pure (ForInStep.yield (out.push (⟨s', setBit (setBit m0 b0 x.1) b1 x.2.1⟩, sign * x.2.2)))
  else pure (ForInStep.yield out)

def dBody (c : Cube) (p : Params) (g : Gen) (k : Nat) (st : St) : Id (ForInStep St) :=
  let cs := c.circ[g.s]!
  if (!g.s.testBit k) = true then
    let s' := g.s ||| 1 <<< k
    let cs' := c.circ[s']!
    let sign := edgeSign g.s k
    let gone := goneOf cs cs'
    let born := bornOf cs cs'
    do
      let m0 ← forIn [:cs.size] 0 (carryBody cs cs' g.mask)
      if (gone.size == 2 && born.size == 1) = true then do
        let out ← forIn (prod p.h p.t (g.mask.testBit gone[0]!) (g.mask.testBit gone[1]!)) st.2
          (prodBody s' m0 born[0]! sign)
        pure (ForInStep.yield (none, out))
      else if (gone.size == 1 && born.size == 2) = true then do
        let out ← forIn (coprod p.h p.t (g.mask.testBit gone[0]!)) st.2
          (coprodBody s' m0 born[0]! born[1]! sign)
        pure (ForInStep.yield (none, out))
      else pure (ForInStep.done (some none, st.2))
  else pure (ForInStep.yield (none, st.2))

/-- `Cube.d` with its loop bodies named -/
def dM (c : Cube) (p : Params) (g : Gen) : Option (Array Term) := Id.run do
  let r ← forIn [:c.n] ((none, #[]) : St) (dBody c p g)
  match r.1 with
  | some r => pure r
  | none =>
    match c.base with
    | none => pure (some r.2)
    | some _ => pure (some (r.2.filter (fun t => baseKeep c t.1)))

theorem d_eqM (c : Cube) (p : Params) (g : Gen) : c.d p g = dM c p g := by
  unfold Cube.d dM
  show Id.run (forIn [:c.n] _ _ >>= _) = Id.run (forIn [:c.n] _ _ >>= _)
  congr 2
  funext r
  obtain ⟨a, b⟩ := r
  cases a
  · show (match c.base with | none => _ | some _ => _) = (match c.base with | none => _ | some _ => _)
    cases c.base <;> rfl
  · rfl

theorem forIn_yield {α β : Type} (g : α → β → β) (f : α → β → Id (ForInStep β))
    (h : ∀ a b, f a b = pure (ForInStep.yield (g a b))) (l : List α) (b : β) :
    forIn (m := Id) l b f = pure (l.foldl (fun b a => g a b) b) :=
  Loop.forIn_eq_foldl (fun a _ b => h a b) b

theorem carry_loop (cs cs' : Array (Array Nat)) (mask : Nat) :
    forIn (m := Id) [:cs.size] 0 (carryBody cs cs' mask) = pure (carry cs cs' mask) := by
  rw [Std.Legacy.Range.forIn_eq_forIn_range',
    forIn_yield (fun i m0 => if cs'.contains cs[i]! then
      setBit m0 ((cs'.findIdx? (· == cs[i]!)).getD 0) (mask.testBit i) else m0)]
  · simp only [Std.Legacy.Range.size, Nat.sub_zero, Nat.add_sub_cancel, Nat.div_one, carry,
      List.range_eq_range']
  · intro i m0
    unfold carryBody
    split <;> rfl

theorem push_loop {α : Type} (f : α → Option Term) (body : α → Array Term → Id (ForInStep (Array Term)))
    (hb : ∀ x s, body x s = match f x with
      | some t => pure (ForInStep.yield (s.push t))
      | none => pure (ForInStep.yield s)) (xs : List α) (out : Array Term) :
    forIn (m := Id) xs out body = pure (out ++ (xs.filterMap f).toArray) :=
  KhRefLoops.forIn_filterPush f body xs (fun x _ s => by rw [hb]; cases f x <;> rfl) out

/-- one step of the outer loop on `Array` accumulators -/
def stepA (c : Cube) (p : Params) (g : Gen) (out : Array Term) (k : Nat) : Option (Array Term) :=
  if g.s.testBit k then some out else (edgeTerms c p g k).map (fun ts => out ++ ts.toArray)

theorem dBody_eq (c : Cube) (p : Params) (g : Gen) (k : Nat) (st : St) :
    dBody c p g k st = match stepA c p g st.2 k with
      | some o => pure (ForInStep.yield (none, o))
      | none => pure (ForInStep.done (some none, st.2)) := by
  unfold dBody stepA edgeTerms
  cases hk : g.s.testBit k
  · simp only [Bool.not_false, if_true, carry_loop, pure_bind]
    generalize goneOf c.circ[g.s]! c.circ[g.s ||| 1 <<< k]! = gone
    generalize bornOf c.circ[g.s]! c.circ[g.s ||| 1 <<< k]! = born
    generalize carry c.circ[g.s]! c.circ[g.s ||| 1 <<< k]! g.mask = m0
    generalize edgeSign g.s k = sign
    generalize g.s ||| 1 <<< k = s'
    by_cases h1 : (gone.size == 2 && born.size == 1) = true
    · simp only [h1, if_true, Bool.false_eq_true, if_false, Option.map_some]
      rw [push_loop (fun ya : Bool × Int => if (ya.2 != 0) = true then
        some ((⟨s', setBit m0 born[0]! ya.1⟩ : Gen), sign * ya.2) else none)]
      · rfl
      · intro x o
        unfold prodBody
        split <;> rfl
    · by_cases h2 : (gone.size == 1 && born.size == 2) = true
      · simp only [h1, h2, if_true, Bool.false_eq_true, if_false, Option.map_some]
        rw [push_loop (fun yya : Bool × Bool × Int => if (yya.2.2 != 0) = true then
          some ((⟨s', setBit (setBit m0 born[0]! yya.1) born[1]! yya.2.1⟩ : Gen), sign * yya.2.2) else none)]
        · rfl
        · intro x o
          unfold coprodBody
          split <;> rfl
      · simp only [h1, h2, Bool.false_eq_true, if_false, Option.map_none]
  · rfl

theorem outer_loop (F : Array Term → Nat → Option (Array Term)) (body : Nat → St → Id (ForInStep St))
    (hb : ∀ k st, body k st = match F st.2 k with
      | some o => pure (ForInStep.yield (none, o))
      | none => pure (ForInStep.done (some none, st.2))) (xs : List Nat) (out : Array Term) :
    match xs.foldlM F out with
    | some o => forIn (m := Id) xs (none, out) body = pure (none, o)
    | none => ∃ o, forIn (m := Id) xs (none, out) body = pure (some none, o) := by
  induction xs generalizing out with
  | nil => rfl
  | cons x xs ih =>
    rw [List.forIn_cons, hb, List.foldlM_cons]
    cases h : F out x with
    | none => exact ⟨out, rfl⟩
    | some o => exact ih o

theorem foldlM_toArray (c : Cube) (p : Params) (g : Gen) (xs : List Nat) (out : List Term) :
    xs.foldlM (stepA c p g) out.toArray = (xs.foldlM (fun out k =>
      if g.s.testBit k then some out else (edgeTerms c p g k).map (fun ts => out ++ ts)) out).map List.toArray := by
  induction xs generalizing out with
  | nil => rfl
  | cons x xs ih =>
    rw [List.foldlM_cons, List.foldlM_cons]
    unfold stepA
    cases g.s.testBit x
    · cases edgeTerms c p g x with
      | none => rfl
      | some ts =>
        simp only [Bool.false_eq_true, if_false, Option.map_some, List.append_toArray]
        exact ih _
    · exact ih _

theorem _root_.Yuiv.C06Cycle.cube_d_eq (c : Cube) (p : Params) (g : Gen) :
    c.d p g = (dRaw c p g).map (fun out =>
      match c.base with
      | none => out.toArray
      | some _ => (out.filter (fun t => baseKeep c t.1)).toArray) := by
  refine (d_eqM c p g).trans ?_
  unfold dM dRaw
  rw [Std.Legacy.Range.forIn_eq_forIn_range']
  have h := outer_loop (stepA c p g) (dBody c p g) (dBody_eq c p g) (List.range' 0 [:c.n].size 1) #[]
  have e : List.range' 0 [:c.n].size 1 = List.range c.n := by
    simp only [Std.Legacy.Range.size, Nat.sub_zero, Nat.add_sub_cancel, Nat.div_one, List.range_eq_range']
  rw [e] at h ⊢
  have h2 := foldlM_toArray c p g (List.range c.n) []
  rw [h2] at h
  cases hd : List.foldlM (fun out k =>
      if g.s.testBit k then some out else (edgeTerms c p g k).map (fun ts => out ++ ts)) [] (List.range c.n) with
  | none =>
    rw [hd] at h
    obtain ⟨o, ho⟩ := h
    rw [ho]
    rfl
  | some o =>
    rw [hd] at h
    simp only [Option.map_some] at h
    rw [h]
    simp only [Option.map_some]
    cases c.base with
    | none => rfl
    | some b =>
      simp only [Id.run, pure_bind, List.size_toArray, List.filter_toArray']
      rfl

end DModel

theorem d_of_base_none (c : Cube) (hb : c.base = none) (p : Params) (g : Gen) :
    c.d p g = (dRaw c p g).map List.toArray := by
  rw [cube_d_eq]
  simp only [hb]

end Yuiv.C06Cycle
