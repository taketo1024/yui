import Yuiv.Proofs.C18Orbit
/-
C18 — `resolved_by` with a state of the right length returns a crossingless diagram on the same edges,
and the `k`-th unresolved crossing is smoothed according to the `k`-th bit.
-/
namespace Yuiv.C18
open Yuiv

def smooth (c : Crossing) (b : Bool) : Crossing :=
  match c.ctype.resolve b with
  | some t => { c with ctype := t }
  | none => c

/-- spec of `resolved_by`: walk along the crossings, consuming one bit per unresolved crossing -/
def smoothAll : Link → List Bool → Link
  | [], _ => []
  | c :: cs, [] => c :: cs
  | c :: cs, b :: bs => if c.isResolved then c :: smoothAll cs (b :: bs) else smooth c b :: smoothAll cs bs

/-- spec of `resolve_first` : smooth the first unresolved crossing -/
def smoothFirst : Link → Bool → Link
  | [], _ => []
  | c :: cs, b => if c.isResolved then c :: smoothFirst cs b else smooth c b :: cs

theorem crossingNum_cons (c : Crossing) (cs : Link) :
    crossingNum (c :: cs) = (if c.isResolved then 0 else 1) + crossingNum cs := by
  unfold crossingNum
  rw [List.filter_cons]
  cases c.isResolved <;> simp <;> omega

theorem resolve_unresolved (c : Crossing) (b : Bool) (h : c.isResolved = false) :
    c.resolve b = .ok (smooth c b) ∧ (smooth c b).isResolved = true ∧ (smooth c b).edges = c.edges := by
  obtain ⟨t, e0, e1, e2, e3⟩ := c
  cases t <;> cases b <;> first | exact ⟨rfl, rfl, rfl⟩ | cases h

theorem resolveFirst_spec (l : Link) (b : Bool) (h : 0 < crossingNum l) :
    resolveFirst l b = .ok (smoothFirst l b) ∧ crossingNum (smoothFirst l b) + 1 = crossingNum l := by
  induction l with
  | nil => simp [crossingNum] at h
  | cons c cs ih =>
    rw [crossingNum_cons] at h ⊢
    unfold resolveFirst smoothFirst
    cases hc : c.isResolved with
    | true =>
      rw [hc] at h
      simp only [if_true, Nat.zero_add] at h ⊢
      obtain ⟨h1, h2⟩ := ih h
      rw [h1]
      refine ⟨rfl, ?_⟩
      rw [crossingNum_cons, hc]; simpa using h2
    | false =>
      obtain ⟨h1, h2, _⟩ := resolve_unresolved c b hc
      simp only [Bool.false_eq_true, if_false]
      rw [h1]
      refine ⟨rfl, ?_⟩
      rw [crossingNum_cons, h2]; simp; omega

theorem smoothAll_nil (l : Link) : smoothAll l [] = l := by
  cases l <;> rfl

theorem smoothAll_first (l : Link) (b : Bool) (bs : List Bool) :
    smoothAll (smoothFirst l b) bs = smoothAll l (b :: bs) := by
  induction l with
  | nil => rfl
  | cons c cs ih =>
    unfold smoothFirst
    cases hc : c.isResolved with
    | true =>
      simp only [if_true]
      cases bs with
      | nil => simp only [smoothAll, hc, if_true]; rw [← ih, smoothAll_nil]
      | cons b' bs' => simp only [smoothAll, hc, if_true, ih]
    | false =>
      simp only [Bool.false_eq_true, if_false]
      have h2 := (resolve_unresolved c b hc).2.1
      cases bs with
      | nil => simp only [smoothAll, hc, Bool.false_eq_true, if_false, smoothAll_nil]
      | cons b' bs' => simp only [smoothAll, h2, hc, if_true, Bool.false_eq_true, if_false]

theorem foldlM_resolveFirst (s : List Bool) (l : Link) (h : s.length = crossingNum l) :
    s.foldlM resolveFirst l = .ok (smoothAll l s) ∧ crossingNum (smoothAll l s) = 0 := by
  induction s generalizing l with
  | nil =>
    rw [smoothAll_nil]
    exact ⟨rfl, by simpa using h.symm⟩
  | cons b bs ih =>
    simp only [List.length_cons] at h
    obtain ⟨h1, h2⟩ := resolveFirst_spec l b (by omega)
    simp only [List.foldlM_cons, h1]
    have := ih (smoothFirst l b) (by omega)
    rw [smoothAll_first] at this
    exact this

theorem smoothAll_edges (l : Link) (s : List Bool) :
    (smoothAll l s).map Crossing.edges = l.map Crossing.edges := by
  induction l generalizing s with
  | nil => cases s <;> rfl
  | cons c cs ih =>
    cases s with
    | nil => rfl
    | cons b bs =>
      unfold smoothAll
      cases hc : c.isResolved with
      | true => simp only [if_true, List.map_cons, ih]
      | false =>
        simp only [Bool.false_eq_true, if_false, List.map_cons, ih]
        rw [(resolve_unresolved c b hc).2.2]

theorem allEdges_smoothAll (l : Link) (s : List Bool) : allEdges (smoothAll l s) = allEdges l := by
  unfold allEdges
  rw [List.flatMap_def, List.flatMap_def, smoothAll_edges]

theorem valid_smoothAll {l : Link} (hv : Valid l) (s : List Bool) : Valid (smoothAll l s) := by
  unfold Valid; rw [allEdges_smoothAll]; exact hv

end Yuiv.C18
