import Yuiv.Model.C16
/-
The association lists of the C16 model read as finite maps.  An `Lc` is looked up with `lookup?` / `coeff` and
changed with `upd`; a `MultiDeg` is the same list with `Nat` keys kept in increasing order (`mdGet` IS `coeff`),
changed with `mdUpd`.

Core Lean only: the comparison with the generated code (`Proofs/C16Gen`) uses this file without Mathlib.
-/

namespace Yuiv.C16

section AList
variable {X R : Type}

def keys (l : List (X × R)) : List X := l.map Prod.fst

theorem keys_cons (p : X × R) (t : List (X × R)) : keys (p :: t) = p.1 :: keys t := rfl

theorem mem_keys_of_mem {l : List (X × R)} {p : X × R} (h : p ∈ l) : p.1 ∈ keys l :=
  List.mem_map.mpr ⟨p, h, rfl⟩

variable [DecidableEq X]

theorem lookup?_cons (p : X × R) (t : List (X × R)) (x : X) :
    lookup? (p :: t) x = if p.1 = x then some p.2 else lookup? t x := rfl

theorem lookup?_isSome {l : List (X × R)} {x : X} : (lookup? l x).isSome = true ↔ x ∈ keys l := by
  induction l with
  | nil => exact ⟨fun h => (nomatch h), fun h => (nomatch h)⟩
  | cons p t ih =>
    rw [lookup?_cons, keys_cons, List.mem_cons]
    by_cases e : p.1 = x
    · rw [if_pos e]; exact ⟨fun _ => Or.inl e.symm, fun _ => rfl⟩
    · rw [if_neg e, ih]; exact ⟨Or.inr, fun h => h.resolve_left (fun e' => e e'.symm)⟩

theorem lookup?_eq_none {l : List (X × R)} {x : X} (h : x ∉ keys l) : lookup? l x = none :=
  Option.not_isSome_iff_eq_none.mp (fun hs => h (lookup?_isSome.mp hs))

theorem mem_of_lookup? {l : List (X × R)} {x : X} {v : R} (h : lookup? l x = some v) : (x, v) ∈ l := by
  induction l with
  | nil => cases h
  | cons p t ih =>
    rw [lookup?_cons] at h
    by_cases e : p.1 = x
    · rw [if_pos e, Option.some.injEq] at h
      rw [← e, ← h]
      exact List.mem_cons_self
    · rw [if_neg e] at h
      exact List.mem_cons_of_mem _ (ih h)

theorem lookup?_of_mem {l : List (X × R)} (hk : (keys l).Nodup) {p : X × R} (hp : p ∈ l) :
    lookup? l p.1 = some p.2 := by
  induction l with
  | nil => cases hp
  | cons q t ih =>
    rw [keys_cons, List.nodup_cons] at hk
    rw [lookup?_cons]
    rcases List.mem_cons.mp hp with e | hm
    · rw [e, if_pos rfl]
    · rw [if_neg (fun e : q.1 = p.1 => hk.1 (e ▸ mem_keys_of_mem hm)), ih hk.2 hm]

section
variable [Add R]

theorem upd_cons (p : X × R) (t : List (X × R)) (x : X) (r : R) :
    upd (p :: t) x r = if p.1 = x then (p.1, p.2 + r) :: t else p :: upd t x r := rfl

/-- an absent key is appended (`insert`) … -/
theorem upd_of_not_mem {l : List (X × R)} {x : X} (h : x ∉ keys l) (r : R) : upd l x r = l ++ [(x, r)] := by
  induction l with
  | nil => rfl
  | cons p t ih =>
    rw [keys_cons, List.mem_cons, not_or] at h
    rw [upd_cons, if_neg (fun e => h.1 e.symm), ih h.2, List.cons_append]

/-- … a present one keeps its place (`*get_mut(x) += r`) -/
theorem keys_upd_of_mem {l : List (X × R)} {x : X} (h : x ∈ keys l) (r : R) : keys (upd l x r) = keys l := by
  induction l with
  | nil => cases h
  | cons p t ih =>
    rw [upd_cons]
    by_cases e : p.1 = x
    · rw [if_pos e]; rfl
    · rw [if_neg e, keys_cons, keys_cons, ih ((List.mem_cons.mp h).resolve_left (fun e' => e e'.symm))]

end

variable [Zero R]

theorem coeff_cons (p : X × R) (t : List (X × R)) (x : X) :
    coeff (p :: t) x = if p.1 = x then p.2 else coeff t x := rfl

theorem coeff_eq_lookup? (l : List (X × R)) (x : X) : coeff l x = (lookup? l x).getD 0 := by
  induction l with
  | nil => rfl
  | cons p t ih =>
    rw [coeff_cons, lookup?_cons, ih]
    split <;> rfl

theorem coeff_eq_zero {l : List (X × R)} {x : X} (h : x ∉ keys l) : coeff l x = 0 := by
  rw [coeff_eq_lookup?, lookup?_eq_none h]; rfl

theorem coeff_of_mem {l : List (X × R)} (hk : (keys l).Nodup) {p : X × R} (hp : p ∈ l) : coeff l p.1 = p.2 := by
  rw [coeff_eq_lookup?, lookup?_of_mem hk hp]; rfl

theorem mem_of_coeff_ne_zero {l : List (X × R)} {x : X} (h : coeff l x ≠ 0) : (x, coeff l x) ∈ l := by
  rw [coeff_eq_lookup?] at h ⊢
  cases hl : lookup? l x with
  | none => rw [hl] at h; exact absurd rfl h
  | some v => exact mem_of_lookup? hl

variable [DecidableEq R]

omit [DecidableEq X] in
theorem clean_cons_of_zero {p : X × R} (h : p.2 = 0) (t : List (X × R)) : clean (p :: t) = clean t :=
  List.filter_cons_of_neg (by rw [decide_eq_true h]; exact Bool.false_ne_true)

omit [DecidableEq X] in
theorem clean_cons_of_ne {p : X × R} (h : p.2 ≠ 0) (t : List (X × R)) : clean (p :: t) = p :: clean t :=
  List.filter_cons_of_pos (by rw [decide_eq_false h]; rfl)

omit [DecidableEq X] in
theorem mem_clean {l : List (X × R)} {p : X × R} : p ∈ clean l ↔ p ∈ l ∧ p.2 ≠ 0 := by
  rw [clean, List.mem_filter, Bool.not_eq_true', decide_eq_false_iff_not]

theorem coeff_clean {l : List (X × R)} (hk : (keys l).Nodup) (x : X) : coeff (clean l) x = coeff l x := by
  induction l with
  | nil => rfl
  | cons p t ih =>
    rw [keys_cons, List.nodup_cons] at hk
    by_cases h : p.2 = 0
    · rw [clean_cons_of_zero h, ih hk.2, coeff_cons]
      by_cases e : p.1 = x
      · rw [if_pos e, h, coeff_eq_zero (e ▸ hk.1)]
      · rw [if_neg e]
    · rw [clean_cons_of_ne h, coeff_cons, coeff_cons, ih hk.2]

end AList

section MDeg
variable {I : Type}

def mdKeys (l : List (Nat × I)) : List Nat := l.map Prod.fst

/-- the entry list of a `BTreeMap`: strictly increasing keys -/
def MDSorted (l : List (Nat × I)) : Prop := (mdKeys l).Pairwise (· < ·)

theorem mdSorted_cons {p : Nat × I} {t : List (Nat × I)} :
    MDSorted (p :: t) ↔ (∀ k ∈ mdKeys t, p.1 < k) ∧ MDSorted t := List.pairwise_cons

theorem mdSorted_nodup {l : List (Nat × I)} (h : MDSorted l) : (mdKeys l).Nodup :=
  List.Pairwise.imp (fun h => Nat.ne_of_lt h) h

variable [Zero I]

theorem mdGet_eq_coeff (l : List (Nat × I)) (i : Nat) : mdGet l i = coeff l i := by
  induction l with
  | nil => rfl
  | cons p t ih => exact congrArg (fun z => if p.1 = i then p.2 else z) ih

theorem mdGet_cons (p : Nat × I) (t : List (Nat × I)) (j : Nat) :
    mdGet (p :: t) j = if p.1 = j then p.2 else mdGet t j := rfl

theorem mdUpd_cons_lt (op : I → I → I) {p : Nat × I} {i : Nat} (h : i < p.1) (t : List (Nat × I)) (d : I) :
    mdUpd op (p :: t) i d = (i, op 0 d) :: p :: t := if_pos h

theorem mdUpd_cons_self (op : I → I → I) (p : Nat × I) (t : List (Nat × I)) (d : I) :
    mdUpd op (p :: t) p.1 d = (p.1, op p.2 d) :: t :=
  (if_neg (Nat.lt_irrefl _)).trans (if_pos rfl)

theorem mdUpd_cons_gt (op : I → I → I) {p : Nat × I} {i : Nat} (h : p.1 < i) (t : List (Nat × I)) (d : I) :
    mdUpd op (p :: t) i d = p :: mdUpd op t i d :=
  (if_neg (Nat.lt_asymm h)).trans (if_neg (Nat.ne_of_gt h))

theorem mem_keys_mdUpd (op : I → I → I) (l : List (Nat × I)) (i : Nat) (d : I) (x : Nat) :
    x ∈ mdKeys (mdUpd op l i d) ↔ x = i ∨ x ∈ mdKeys l := by
  induction l with
  | nil => exact List.mem_singleton.trans (or_iff_left List.not_mem_nil).symm
  | cons p t ih =>
    rcases Nat.lt_trichotomy i p.1 with h | h | h
    · rw [mdUpd_cons_lt op h]; exact List.mem_cons
    · subst h
      rw [mdUpd_cons_self]
      exact ⟨Or.inr, fun h => h.elim (fun e => e ▸ List.mem_cons_self) id⟩
    · rw [mdUpd_cons_gt op h]
      show x ∈ p.1 :: mdKeys (mdUpd op t i d) ↔ x = i ∨ x ∈ p.1 :: mdKeys t
      rw [List.mem_cons, List.mem_cons, ih, or_left_comm]

theorem mdSorted_mdUpd (op : I → I → I) {l : List (Nat × I)} (h : MDSorted l) (i : Nat) (d : I) :
    MDSorted (mdUpd op l i d) := by
  induction l with
  | nil => exact List.pairwise_singleton _ _
  | cons p t ih =>
    have ⟨hp, ht⟩ := mdSorted_cons.mp h
    rcases Nat.lt_trichotomy i p.1 with hi | hi | hi
    · rw [mdUpd_cons_lt op hi]
      refine mdSorted_cons.mpr ⟨fun k hk => ?_, h⟩
      rcases List.mem_cons.mp hk with e | hk
      · exact e ▸ hi
      · exact Nat.lt_trans hi (hp k hk)
    · subst hi
      rw [mdUpd_cons_self]
      exact mdSorted_cons.mpr ⟨hp, ht⟩
    · rw [mdUpd_cons_gt op hi]
      refine mdSorted_cons.mpr ⟨fun k hk => ?_, ih ht⟩
      rcases (mem_keys_mdUpd op t i d k).mp hk with e | hk
      · exact e ▸ hi
      · exact hp k hk

theorem mdGet_mdUpd (op : I → I → I) {l : List (Nat × I)} (h : MDSorted l) (i : Nat) (d : I) (j : Nat) :
    mdGet (mdUpd op l i d) j = if i = j then op (mdGet l i) d else mdGet l j := by
  induction l with
  | nil => rfl
  | cons p t ih =>
    have ⟨hp, ht⟩ := mdSorted_cons.mp h
    rcases Nat.lt_trichotomy i p.1 with hi | hi | hi
    · -- `i` is below every key, so it was absent
      have h0 : mdGet (p :: t) i = 0 := by
        rw [mdGet_eq_coeff]
        refine coeff_eq_zero (fun hm => ?_)
        rcases List.mem_cons.mp hm with e | hm
        · exact Nat.lt_irrefl _ (e ▸ hi)
        · exact Nat.lt_irrefl _ (Nat.lt_trans hi (hp i hm))
      rw [mdUpd_cons_lt op hi, h0]; rfl
    · subst hi
      rw [mdUpd_cons_self]
      simp only [mdGet_cons, if_true]
      split <;> rfl
    · rw [mdUpd_cons_gt op hi]
      have hne : ¬ p.1 = i := Nat.ne_of_lt hi
      simp only [mdGet_cons, ih ht, if_neg hne]
      by_cases hj : p.1 = j
      · rw [if_pos hj, if_pos hj, if_neg (fun e => hne (hj.trans e.symm))]
      · rw [if_neg hj, if_neg hj]

end MDeg

end Yuiv.C16
