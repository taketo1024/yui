import Yuiv.Proofs.C18InvDefs
import Yuiv.Proofs.C18Resolve
import Yuiv.Proofs.C18Sweep
/-
C18Inv — the orientation theorem for the model of `Link::crossing_signs`.

For every valid code that admits an orientation consistent with its under-strands, `crossingSigns` returns,
and what it returns are the signs (Rust table at the slot where the over-strand enters) of an orientation
consistent with the under-strands.

Proof.  The loop is the schedule of `Proofs/C18Sweep.lean`: the set `V` of visited slots is a union of complete
`step`-orbits that never contains both ends of an edge (`Swept`), and the state is the fold of the callback `signsVisit`
over the visited slots (`Visited`).  The sign array is then read off by a lemma about that fold (`signs_of_visited`):
entry `i` is the table entry at the visited over-strand slot of crossing `i` (`sgnV`).  `J` collects what the later
steps read.
-/
namespace Yuiv.C18
open Yuiv

def sgnV (l : Link) (V : List (Nat × Nat)) (i : Nat) : Option Sign :=
  if (i, 1) ∈ V then signAt (ctypeAt l i) 1 else if (i, 3) ∈ V then signAt (ctypeAt l i) 3 else none

/-- loop invariant of `crossing_signs`, state `st` = (sign array, passed labels), `V` = the slots visited so far: `V` is
swept (`Swept`, the fields `he` … `nopart`; `J.swept`), and the sign array is what `V` determines (`sgnV`) -/
structure J (l : Link) (st : List (Option Sign) × List Nat) (V : List (Nat × Nat)) : Prop where
  len : st.1.length = l.length
  he : ∀ h ∈ V, HE l h
  fwd : ∀ h ∈ V, step l h ∈ V
  bwd : ∀ h ∈ V, ∃ y ∈ V, step l y = h
  passed : ∀ e, e ∈ st.2 ↔ ∃ h ∈ V, lab l h = e
  nopart : ∀ h ∈ V, partner l h ∉ V
  sg : ∀ i, i < l.length → st.1.getD i none = sgnV l V i

theorem signAt_some_slot : ∀ t : CType, ∀ j, j < 4 → ∀ s, signAt t j = some s →
    t.isResolved = false ∧ (j = 1 ∨ j = 3) ∧ t.pass 1 = 3 ∧ t.pass 3 = 1 := by decide +kernel

theorem signAt_resolved : ∀ t : CType, t.isResolved = true → ∀ j, j < 4 → signAt t j = none := by decide +kernel

theorem signAt_unresolved : ∀ t : CType, t.isResolved = false →
    (signAt t 1).isSome = true ∧ (signAt t 3).isSome = true ∧ t.pass 1 = 3 ∧ t.pass 3 = 1 := by decide +kernel

theorem thru_over (l : Link) (i : Nat) (hr : (ctypeAt l i).isResolved = false) :
    thru l (i, 1) = (i, 3) ∧ thru l (i, 3) = (i, 1) := by
  obtain ⟨_, _, p13, p31⟩ := signAt_unresolved _ hr
  exact ⟨congrArg (Prod.mk i) p13, congrArg (Prod.mk i) p31⟩

theorem sgnV_of_mem (l : Link) (W : List (Nat × Nat)) (nothru : ∀ h ∈ W, thru l h ∉ W) (p : Nat × Nat)
    (hp : p ∈ W) (hj : p.2 < 4) (s : Sign) (hsg : signAt (ctypeAt l p.1) p.2 = some s) :
    sgnV l W p.1 = some s := by
  obtain ⟨hr, hj, _, _⟩ := signAt_some_slot _ _ hj s hsg
  have hpm : (p.1, p.2) ∈ W := hp
  unfold sgnV
  rcases hj with hj | hj
  · rw [hj] at hpm hsg
    rw [if_pos hpm]; exact hsg
  · rw [hj] at hpm hsg
    have hn : (p.1, 1) ∉ W := (thru_over l p.1 hr).2 ▸ nothru _ hpm
    rw [if_neg hn, if_pos hpm]; exact hsg

namespace J

theorem swept {l : Link} {st V} (hJ : J l st V) : Swept l st.2 V :=
  ⟨hJ.he, hJ.fwd, hJ.bwd, hJ.passed, hJ.nopart⟩

end J

theorem getD_set_opt (xs : List (Option Sign)) (k i : Nat) (v : Option Sign) :
    (xs.set k v).getD i none = if k = i ∧ k < xs.length then v else xs.getD i none := by
  rw [List.getD_eq_getElem?_getD, List.getD_eq_getElem?_getD, List.getElem?_set]
  by_cases hki : k = i
  · subst hki
    rw [if_pos rfl]
    by_cases hk : k < xs.length
    · rw [if_pos hk, if_pos ⟨rfl, hk⟩]; rfl
    · rw [if_neg hk, if_neg (fun h => hk h.2), List.getElem?_eq_none (Nat.le_of_not_lt hk)]
  · rw [if_neg hki, if_neg (fun h => hki h.1)]

theorem foldVisit (l : Link) (g : Nat → Option Sign) : ∀ (ps : List (Nat × Nat)) (st : List (Option Sign) × List Nat),
    (∀ p ∈ ps, ∀ s, signAt (ctypeAt l p.1) p.2 = some s → g p.1 = some s) →
    (ps.foldl (signsVisit l) st).1.length = st.1.length ∧
    (∀ i, (ps.foldl (signsVisit l) st).1.getD i none = st.1.getD i none ∨
      (ps.foldl (signsVisit l) st).1.getD i none = g i) ∧
    (∀ p ∈ ps, p.1 < st.1.length → (signAt (ctypeAt l p.1) p.2).isSome = true →
      (ps.foldl (signsVisit l) st).1.getD p.1 none = g p.1) := by
  intro ps
  induction ps with
  | nil => exact fun st _ => ⟨rfl, fun _ => Or.inl rfl, fun p hp => nomatch hp⟩
  | cons p ps ih =>
    intro st hg
    obtain ⟨i1, i3, i4⟩ := ih (signsVisit l st p) (fun q hq => hg q (List.mem_cons_of_mem _ hq))
    -- one visit: only entry `p.1` can change, to `g p.1`
    have hstep : (signsVisit l st p).1.length = st.1.length ∧
        (∀ i, (signsVisit l st p).1.getD i none = st.1.getD i none ∨ (signsVisit l st p).1.getD i none = g i) ∧
        (p.1 < st.1.length → (signAt (ctypeAt l p.1) p.2).isSome = true →
          (signsVisit l st p).1.getD p.1 none = g p.1) := by
      unfold signsVisit
      cases hs : signAt (ctypeAt l p.1) p.2 with
      | none => exact ⟨rfl, fun _ => Or.inl rfl, fun _ h => nomatch h⟩
      | some s =>
        have hgp := (hg p List.mem_cons_self s hs).symm
        refine ⟨List.length_set, fun i => ?_, fun hpl _ => ?_⟩
        · show (st.1.set p.1 (some s)).getD i none = _ ∨ _
          rw [getD_set_opt]
          by_cases hc : p.1 = i ∧ p.1 < st.1.length
          · rw [if_pos hc, ← hc.1]; exact Or.inr hgp
          · rw [if_neg hc]; exact Or.inl rfl
        · show (st.1.set p.1 (some s)).getD p.1 none = _
          rw [getD_set_opt, if_pos ⟨rfl, hpl⟩]; exact hgp
    obtain ⟨hlen, hget, hwr⟩ := hstep
    rw [List.foldl_cons]
    refine ⟨i1.trans hlen, ?_, ?_⟩
    · intro i
      rcases i3 i with h | h
      · rcases hget i with h' | h'
        · exact Or.inl (h.trans h')
        · exact Or.inr (h.trans h')
      · exact Or.inr h
    · intro q hq hql hsome
      rcases List.mem_cons.1 hq with rfl | hq'
      · rcases i3 q.1 with h | h
        · exact h.trans (hwr hql hsome)
        · exact h
      · exact i4 q hq' (hlen ▸ hql) hsome

theorem mem_append_walk {V v : List (Nat × Nat)} {x : Nat × Nat} : x ∈ V ++ v ↔ x ∈ V ∨ x ∈ v :=
  List.mem_append

theorem signs_of_visited (l : Link) (n : Nat) (ps : List Nat) (W : List (Nat × Nat)) (hW : ∀ p ∈ W, p.2 < 4)
    (nothru : ∀ h ∈ W, thru l h ∉ W) (i : Nat) (hi : i < n) :
    (W.foldl (signsVisit l) (List.replicate n none, ps)).1.getD i none = sgnV l W i := by
  obtain ⟨_, f3, f4⟩ := foldVisit l (sgnV l W) W (List.replicate n none, ps)
    (fun p hp s hsg => sgnV_of_mem l W nothru p hp (hW p hp) s hsg)
  by_cases hex : ∃ p ∈ W, p.1 = i ∧ (signAt (ctypeAt l p.1) p.2).isSome = true
  · obtain ⟨p, hp, rfl, hsome⟩ := hex
    exact f4 p hp (by rw [List.length_replicate]; exact hi) hsome
  · rcases f3 i with e | e
    · -- entry `i` is untouched: no sign-carrying slot of crossing `i` was visited
      have key : ∀ j, (i, j) ∈ W → signAt (ctypeAt l i) j = none := by
        intro j hm
        cases hsj : signAt (ctypeAt l i) j with
        | none => rfl
        | some s => exact absurd ⟨(i, j), hm, rfl, by rw [hsj]; rfl⟩ hex
      rw [e, List.getD_eq_getElem?_getD, List.getElem?_replicate, if_pos hi]
      unfold sgnV
      split
      · rename_i h1; exact (key 1 h1).symm
      · split
        · rename_i h3; exact (key 3 h3).symm
        · rfl
    · exact e

theorem sgnV_congr (l : Link) {W V : List (Nat × Nat)} (h : ∀ x, x ∈ W ↔ x ∈ V) (i : Nat) :
    sgnV l W i = sgnV l V i := by
  unfold sgnV
  simp only [h]

/-- what the loop of `crossing_signs` carries: the state is the fold of the callback over the visited slots -/
def Visited (l : Link) (st : List (Option Sign) × List Nat) (V : List (Nat × Nat)) : Prop :=
  ∃ W : List (Nat × Nat), st = W.foldl (signsVisit l) (List.replicate l.length none, []) ∧ ∀ x, x ∈ W ↔ x ∈ V

theorem visited_init (l : Link) : Visited l (List.replicate l.length none, []) [] := ⟨[], rfl, fun _ => Iff.rfl⟩

namespace J

theorem of_swept {l : Link} (hv : Valid l) {st V} (hG : Swept l st.2 V) (hW : Visited l st V) : J l st V := by
  obtain ⟨W, rfl, hm⟩ := hW
  have hW4 : ∀ p ∈ W, p.2 < 4 := fun p hp => (hG.he p ((hm p).1 hp)).2
  have hnt : ∀ h ∈ W, thru l h ∉ W := fun h hh ht => hG.nothru hv h ((hm h).1 hh) ((hm _).1 ht)
  refine ⟨?_, hG.he, hG.fwd, hG.bwd, hG.labels, hG.nopart, fun i hi => ?_⟩
  · exact (foldVisit l (sgnV l W) W _ (fun p hp s hs => sgnV_of_mem l W hnt p hp (hW4 p hp) s hs)).1.trans
      List.length_replicate
  · rw [signs_of_visited l l.length [] W hW4 hnt i hi, sgnV_congr l hm]

end J

theorem foldVisit_passed (l : Link) (st : List (Option Sign) × List Nat) (path : List (Nat × Nat)) :
    (path.foldl (signsVisit l) st).2 = (path.map (lab l)).reverse ++ st.2 := by
  induction path generalizing st with
  | nil => rfl
  | cons p ps ih =>
    have hp : (signsVisit l st p).2 = lab l p :: st.2 := by
      unfold signsVisit
      split <;> rfl
    rw [List.foldl_cons, ih, hp, List.map_cons, List.reverse_cons, List.append_assoc]
    rfl

/-- one pass of `crossing_signs`, from a state that is swept and visited: so is the new state (the last three
clauses: every slot `(i, j0)` has its label passed; where the new visited slots come from; in which order the walks
are started) -/
theorem signsPass_J (l : Link) (hv : Valid l) (j0 : Nat) (hj : j0 < 4) (st : List (Option Sign) × List Nat)
    (V : List (Nat × Nat)) (hG : Swept l st.2 V) (hW : Visited l st V) :
    ∃ st' V', signsPass l j0 st = .ok st' ∧ J l st' V' ∧ Visited l st' V' ∧ (∀ h ∈ V, h ∈ V') ∧
      (∀ i, i < l.length → lab l (i, j0) ∈ st'.2) ∧
      (∀ h ∈ V', h ∈ V ∨ ∃ i, i < l.length ∧ ∃ k, h = iter (step l) k (i, j0)) ∧
      (∀ i0, i0 < l.length →
        (i0, j0) ∈ V' ∨ partner l (i0, j0) ∈ V ∨
          ∃ i, i < i0 ∧ ∃ k, partner l (i0, j0) = iter (step l) k (i, j0)) := by
  obtain ⟨st', V', e, q, G', r⟩ := sweepPass_inv l hv (·.2) _ (foldVisit_passed l) j0 (Visited l)
    (fun st V s v ⟨W, hst, hm⟩ _ _ _ hw _ _ => ⟨W ++ (v.reverse ++ [s]), by subst hst; simp only [List.foldl_append], fun x => by
      simp only [List.mem_append, List.mem_reverse, List.mem_singleton, hm]
      exact ⟨fun h => h.elim Or.inl (fun h => Or.inr (h.elim id (fun h => h ▸ hw.chain.start_mem))),
        fun h => h.elim Or.inl (fun h => Or.inr (Or.inl h))⟩⟩)
    hj st V hW hG
  exact ⟨st', V', e, J.of_swept hv G' q, q, r⟩

/-- the orientation read off the final state: visited slots on the walked components, the given orientation
on the others -/
def oriOf (l : Link) (passed : List Nat) (V : List (Nat × Nat)) (O : Nat × Nat → Bool) : Nat × Nat → Bool :=
  fun h => if lab l h ∈ passed then decide (h ∈ V) else O h

theorem oriOf_orient (l : Link) (hv : Valid l) (O : Nat × Nat → Bool) (hO : Orient l O)
    (st : List (Option Sign) × List Nat) (V : List (Nat × Nat)) (hJ : J l st V) :
    Orient l (oriOf l st.2 V O) := by
  intro i hi j hj
  have hh : HE l (i, j) := ⟨hi, hj⟩
  have hlp : lab l (partner l (i, j)) = lab l (i, j) := (partner_spec l hv _ hh).2.2.1
  constructor
  ·
    unfold oriOf
    by_cases hp : lab l (i, j) ∈ st.2
    · have hp' := hJ.swept.label_thru hv _ hh hp
      rw [if_pos hp, if_pos hp']
      rcases hJ.swept.of_label hv _ hh hp with a | a
      · have := hJ.swept.nothru hv _ a
        simp [a, this]
      · have b := hJ.swept.thru_of_partner hv _ hh a
        have c : (i, j) ∉ V := by
          intro hc
          exact hJ.nopart _ hc a
        simp [b, c]
    · have hp' : lab l (thru l (i, j)) ∉ st.2 := by
        intro hc
        have := hJ.swept.label_thru hv _ (thru_spec l _ hh).1 hc
        rw [(thru_spec l _ hh).2.2] at this
        exact hp this
      rw [if_neg hp, if_neg hp']
      exact hO.thru_eq _ hh
  · unfold oriOf
    rw [hlp]
    by_cases hp : lab l (i, j) ∈ st.2
    · rw [if_pos hp, if_pos hp]
      rcases hJ.swept.of_label hv _ hh hp with a | a
      · have := hJ.nopart _ a
        simp [a, this]
      · have c : (i, j) ∉ V := by
          intro hc
          exact hJ.nopart _ hc a
        simp [a, c]
    · rw [if_neg hp, if_neg hp]
      exact hO.partner_eq _ hh

theorem filterMap_getD (xs : List (Option Sign)) (g : Nat → Option Sign) :
    ∀ (k : Nat), (∀ i, i < xs.length → xs.getD i none = g (k + i)) →
      xs.filterMap id = (List.range' k xs.length).filterMap g := by
  induction xs with
  | nil => intro k _; rfl
  | cons a r ih =>
    intro k h
    have h0 := h 0 (by simp)
    simp only [List.getD_cons_zero, Nat.add_zero] at h0
    have hr := ih (k + 1) (by
      intro i hi
      have := h (i + 1) (by simpa using hi)
      simp only [List.getD_cons_succ] at this
      rw [this]; congr 1; omega)
    rw [List.length_cons, List.range'_succ, List.filterMap_cons, List.filterMap_cons, ← hr, ← h0]
    rfl

theorem length_signs (l : Link) (g : Nat → Option Sign) : ∀ (k : Nat),
    (∀ i (hi : i < l.length), (g (k + i)).isSome = !(l[i]).isResolved) →
    ((List.range' k l.length).filterMap g).length = crossingNum l := by
  induction l with
  | nil => intro k _; rfl
  | cons c cs ih =>
    intro k h
    have h0 : (g k).isSome = !c.isResolved := h 0 (Nat.zero_lt_succ _)
    have hr := ih (k + 1) (fun i hi => by
      have := h (i + 1) (Nat.succ_lt_succ hi)
      rw [Nat.add_right_comm]; exact this)
    rw [List.length_cons, List.range'_succ, List.filterMap_cons, crossingNum_cons]
    cases hg : g k with
    | none =>
      have hc : c.isResolved = true := by
        cases hc : c.isResolved
        · rw [hg, hc] at h0; cases h0
        · rfl
      rw [hc, if_pos rfl, hr, Nat.zero_add]
    | some s =>
      have hc : c.isResolved = false := by
        cases hc : c.isResolved
        · rfl
        · rw [hg, hc] at h0; cases h0
      rw [hc, if_neg Bool.false_ne_true, List.length_cons, hr, Nat.add_comm]

namespace J
section covered
variable {l : Link} {st : List (Option Sign) × List Nat} {V : List (Nat × Nat)} (hJ : J l st V)
  (h1 : ∀ i, i < l.length → (ctypeAt l i).isResolved = false → (i, 1) ∈ V ∨ (i, 3) ∈ V)
include hJ

theorem filterMap_eq : st.1.filterMap id = (List.range l.length).filterMap (fun i => st.1.getD i none) := by
  rw [filterMap_getD st.1 (fun i => st.1.getD i none) 0 (by intro i _; rw [Nat.zero_add]), hJ.len,
    List.range_eq_range']

include h1

theorem sg_isSome (i : Nat) (hi : i < l.length) : (st.1.getD i none).isSome = !(ctypeAt l i).isResolved := by
  rw [hJ.sg i hi]
  unfold sgnV
  cases hr : (ctypeAt l i).isResolved with
  | true =>
    rw [signAt_resolved _ hr 1 (by decide), signAt_resolved _ hr 3 (by decide), ite_self, ite_self]
    rfl
  | false =>
    obtain ⟨a, b, _⟩ := signAt_unresolved _ hr
    by_cases m1 : (i, 1) ∈ V
    · rw [if_pos m1]; exact a
    · rw [if_neg m1, if_pos ((h1 i hi hr).resolve_left m1)]; exact b

theorem signs_length : (st.1.filterMap id).length = crossingNum l := by
  rw [hJ.filterMap_eq, List.range_eq_range']
  apply length_signs
  intro i hi
  rw [Nat.zero_add, hJ.sg_isSome h1 i hi, ctypeAt_eq l i hi]
  rfl

end covered
end J

theorem finish (l : Link) (hv : Valid l) (O : Nat × Nat → Bool) (hO : Orient l O)
    (st : List (Option Sign) × List Nat) (V : List (Nat × Nat)) (hJ : J l st V)
    (h0 : ∀ i, i < l.length → (i, 0) ∈ V)
    (h1 : ∀ i, i < l.length → (ctypeAt l i).isResolved = false → (i, 1) ∈ V ∨ (i, 3) ∈ V) :
    Orient l (oriOf l st.2 V O) ∧ UnderIn l (oriOf l st.2 V O) ∧
      st.1.filterMap id = signsOf l (oriOf l st.2 V O) ∧
      (st.1.filterMap id).length = crossingNum l := by
  have hor := oriOf_orient l hv O hO st V hJ
  have hsig : st.1.filterMap id = signsOf l (oriOf l st.2 V O) := by
    unfold signsOf
    rw [List.range_eq_range', ← hJ.len]
    apply filterMap_getD
    intro i hi
    rw [hJ.len] at hi
    rw [Nat.zero_add, hJ.sg i hi]
    unfold sgnV sgnAt oriOf
    cases hr : (ctypeAt l i).isResolved with
    | true =>
      have hb : ∀ b : Bool, signAt (ctypeAt l i) (if b = true then 1 else 3) = none := by
        intro b
        cases b
        · exact signAt_resolved _ hr 3 (by decide)
        · exact signAt_resolved _ hr 1 (by decide)
      rw [signAt_resolved _ hr 1 (by decide), signAt_resolved _ hr 3 (by decide)]
      simp only [ite_self]
      split <;> exact (hb _).symm
    | false =>
      obtain ⟨hth, hth'⟩ := thru_over l i hr
      rcases h1 i hi hr with a | a
      · have hp : lab l (i, 1) ∈ st.2 := (hJ.passed _).2 ⟨_, a, rfl⟩
        simp only [a, if_true, hp, decide_true]
      · have hn : (i, 1) ∉ V := by
          intro hc
          have := hJ.swept.nothru hv _ hc
          rw [hth] at this
          exact this a
        have hp : lab l (i, 1) ∈ st.2 :=
          hth' ▸ hJ.swept.label_thru hv _ (hJ.he _ a) ((hJ.passed _).2 ⟨_, a, rfl⟩)
        simp only [hn, if_false, a, if_true, hp, decide_false, Bool.false_eq_true]
  refine ⟨hor, ?_, hsig, ?_⟩
  · intro i hi
    unfold oriOf
    have a := h0 i hi
    have hp : lab l (i, 0) ∈ st.2 := (hJ.passed _).2 ⟨_, a, rfl⟩
    simp only [hp, if_true, a, decide_true]
  · exact hJ.signs_length h1

theorem signsIncomplete_false (l : Link) (signs : List (Option Sign)) (h : signsIncomplete l signs = false) :
    ∀ i, i < l.length → (ctypeAt l i).isResolved = false → signs.getD i none ≠ none := by
  intro i hi hr hn
  unfold signsIncomplete at h
  have := List.any_eq_false.1 h i (List.mem_range.2 hi)
  rw [hr, hn] at this
  simp at this

theorem sgnV_ne_none {l : Link} {V : List (Nat × Nat)} {i : Nat} (h : sgnV l V i ≠ none) :
    (i, 1) ∈ V ∨ (i, 3) ∈ V := by
  unfold sgnV at h
  by_cases a : (i, 1) ∈ V
  · exact Or.inl a
  · by_cases b : (i, 3) ∈ V
    · exact Or.inr b
    · rw [if_neg a, if_neg b] at h
      exact absurd rfl h

/-- THE RUN of `crossing_signs` on a valid code.  Pass 0 (state `st0`, visited slots `V0`: the orbits of the slots
`(i, 0)`) and, unless it has signed every crossing, passes 1 and 2 end in a state `st` with visited slots `V` in which an
over-strand slot of every unresolved crossing is visited; the result is the list of the signs in `st`. -/
theorem crossingSigns_run (l : Link) (hv : Valid l) :
    ∃ st0 V0 st V, signsPass l 0 (List.replicate l.length none, []) = .ok st0 ∧ J l st0 V0 ∧
      (∀ i, i < l.length → lab l (i, 0) ∈ st0.2) ∧
      (∀ h ∈ V0, ∃ i, i < l.length ∧ ∃ k, h = iter (step l) k (i, 0)) ∧
      J l st V ∧ (∀ h ∈ V0, h ∈ V) ∧
      (∀ i, i < l.length → (ctypeAt l i).isResolved = false → (i, 1) ∈ V ∨ (i, 3) ∈ V) ∧
      crossingSigns l = .ok (st.1.filterMap id) ∧
      ((signsIncomplete l st0.1 = false ∧ st = st0 ∧ V = V0) ∨
        (signsIncomplete l st0.1 = true ∧ ∃ st1 V1, signsPass l 1 st0 = .ok st1 ∧ signsPass l 2 st1 = .ok st ∧
          J l st1 V1 ∧ (∀ h ∈ V1, h ∈ V) ∧
          ∀ i0, i0 < l.length → (i0, 1) ∈ V1 ∨ partner l (i0, 1) ∈ V0 ∨
            ∃ i, i < i0 ∧ ∃ k, partner l (i0, 1) = iter (step l) k (i, 1))) := by
  obtain ⟨st0, V0, e0, J0, W0, _, c0, o0, _⟩ :=
    signsPass_J l hv 0 (by decide) _ [] (swept_init l) (visited_init l)
  have o0' : ∀ h ∈ V0, ∃ i, i < l.length ∧ ∃ k, h = iter (step l) k (i, 0) :=
    fun h hh => (o0 h hh).resolve_left List.not_mem_nil
  cases hinc : signsIncomplete l st0.1 with
  | false =>
    have h1 : ∀ i, i < l.length → (ctypeAt l i).isResolved = false → (i, 1) ∈ V0 ∨ (i, 3) ∈ V0 :=
      fun i hi hr => sgnV_ne_none (J0.sg i hi ▸ signsIncomplete_false l st0.1 hinc i hi hr)
    refine ⟨st0, V0, st0, V0, e0, J0, c0, o0', J0, fun _ h => h, h1, ?_, Or.inl ⟨hinc, rfl, rfl⟩⟩
    unfold crossingSigns
    rw [e0, Res.bind_ok, hinc]
    simp only [Bool.false_eq_true, if_false, Res.pure_eq, Res.bind_ok]
    rw [if_pos (J0.signs_length h1)]
  | true =>
    obtain ⟨st1, V1, e1, J1, W1, m1, c1, _, g1⟩ := signsPass_J l hv 1 (by decide) st0 V0 J0.swept W0
    obtain ⟨st2, V2, e2, J2, _, m2, _⟩ := signsPass_J l hv 2 (by decide) st1 V1 J1.swept W1
    -- pass 1 has passed the label of every slot `(i, 1)`: that slot or the other end of its strand is visited
    have h1 : ∀ i, i < l.length → (ctypeAt l i).isResolved = false → (i, 1) ∈ V2 ∨ (i, 3) ∈ V2 := by
      intro i hi hr
      have hh : HE l (i, 1) := ⟨hi, (by decide : 1 < 4)⟩
      rcases J1.swept.of_label hv _ hh (c1 i hi) with a | a
      · exact Or.inl (m2 _ a)
      · exact Or.inr (m2 _ ((thru_over l i hr).1 ▸ J1.swept.thru_of_partner hv _ hh a))
    refine ⟨st0, V0, st2, V2, e0, J0, c0, o0', J2, fun h hh => m2 _ (m1 _ hh), h1, ?_,
      Or.inr ⟨hinc, st1, V1, e1, e2, J1, m2, g1⟩⟩
    unfold crossingSigns
    rw [e0, Res.bind_ok, hinc]
    simp only [if_true, e1, Res.bind_ok, e2, Res.pure_eq]
    rw [if_pos (J2.signs_length h1)]

/-- THE ORIENTATION THEOREM, with the rule by which the direction of a component that never passes under is
chosen: it is walked from slot 1 of the first crossing (in crossing order) whose over-strand lies on it. -/
theorem crossingSigns_orient_first (l : Link) (hv : Valid l) (O : Nat × Nat → Bool) (hO : Orient l O)
    (hU : UnderIn l O) :
    ∃ O', Orient l O' ∧ UnderIn l O' ∧ crossingSigns l = .ok (signsOf l O') ∧
      (∀ i0, i0 < l.length → (ctypeAt l i0).isResolved = false →
        (∀ i, i < l.length → ¬ SConn l (i, 0) (i0, 1)) → (∀ i, i < i0 → ¬ SConn l (i, 1) (i0, 1)) →
        O' (i0, 1) = true) := by
  obtain ⟨st0, V0, st, V, _, J0, c0, o0, hJ, m, h1, hres, hcase⟩ := crossingSigns_run l hv
  -- after pass 0 every visited slot is an entrance of `O`, hence every slot 0 is visited
  have hV0 : ∀ h ∈ V0, O h = true ∧ ∃ i, i < l.length ∧ SConn l (i, 0) h := by
    intro h hh
    obtain ⟨i, hi, k, rfl⟩ := o0 h hh
    have hs : HE l (i, 0) := ⟨hi, (by decide : 0 < 4)⟩
    exact ⟨(hO.iter_eq hv (i, 0) hs k).trans (hU i hi), i, hi, SConn.iter_step hv (i, 0) hs k⟩
  have hV0c := fun h hh => (hV0 h hh).2
  have hz : ∀ i, i < l.length → (i, 0) ∈ V := by
    intro i hi
    have hh : HE l (i, 0) := ⟨hi, (by decide : 0 < 4)⟩
    rcases J0.swept.of_label hv _ hh (c0 i hi) with a | a
    · exact m _ a
    · have := (hV0 _ a).1
      rw [hO.partner_eq _ hh, hU i hi] at this
      cases this
  obtain ⟨f1, f2, f3, _⟩ := finish l hv O hO st V hJ hz h1
  refine ⟨_, f1, f2, by rw [hres, f3], ?_⟩
  intro i0 hi0 hr hno hfirst
  rcases hcase with ⟨_, rfl, rfl⟩ | ⟨_, st1, V1, _, _, _, m2, g1⟩
  · -- every over-strand lies on a component with an under-strand: the premise is contradictory
    exfalso
    rcases h1 i0 hi0 hr with a | a
    · obtain ⟨i, hi, hc⟩ := hV0c _ a
      exact hno i hi hc
    · obtain ⟨i, hi, hc⟩ := hV0c _ a
      exact hno i hi ((thru_over l i0 hr).2 ▸ SConn.thru hc)
  · have hh : HE l (i0, 1) := ⟨hi0, (by decide : 1 < 4)⟩
    have hpp : partner l (partner l (i0, 1)) = (i0, 1) := (partner_spec l hv _ hh).2.2.2
    rcases g1 i0 hi0 with a | a | ⟨i, hi, k, a⟩
    · have a2 := m2 _ a
      have hp : lab l (i0, 1) ∈ st.2 := (hJ.passed _).2 ⟨_, a2, rfl⟩
      unfold oriOf
      simp only [hp, if_true, a2, decide_true]
    · exfalso
      obtain ⟨i, hi, hc⟩ := hV0c _ a
      have := SConn.partner hc
      rw [hpp] at this
      exact hno i hi this
    · exfalso
      have hc := SConn.iter_step hv (i, 1) ⟨by omega, (by decide : 1 < 4)⟩ k
      rw [← a] at hc
      have := SConn.partner hc
      rw [hpp] at this
      exact hfirst i hi this

/-- THE ORIENTATION THEOREM.  On a valid code that admits an orientation consistent with its under-strands,
`crossing_signs` returns the signs of an orientation consistent with the under-strands. -/
theorem crossingSigns_orient' (l : Link) (hv : Valid l) (O : Nat × Nat → Bool) (hO : Orient l O)
    (hU : UnderIn l O) :
    ∃ O', Orient l O' ∧ UnderIn l O' ∧ crossingSigns l = .ok (signsOf l O') := by
  obtain ⟨O', h1, h2, h3, _⟩ := crossingSigns_orient_first l hv O hO hU
  exact ⟨O', h1, h2, h3⟩

theorem crossingSigns_determined' (l : Link) (hv : Valid l) (O : Nat × Nat → Bool) (hO : Orient l O)
    (hU : UnderIn l O) (hD : Determined l) : crossingSigns l = .ok (signsOf l O) := by
  obtain ⟨O', hO', hU', h⟩ := crossingSigns_orient' l hv O hO hU
  rw [h]
  congr 1
  apply signsOf_congr
  intro i hi
  exact orient_unique hv hD hO hU hO' hU' (i, 1) ⟨hi, (by decide : 1 < 4)⟩

theorem orient_agree_under {l : Link} (hv : Valid l) {O O' : Nat × Nat → Bool} (hO : Orient l O) (hU : UnderIn l O)
    (hO' : Orient l O') (hU' : UnderIn l O') (i : Nat) (hi : i < l.length) (h : Nat × Nat)
    (hc : SConn l (i, 0) h) : O' h = O h :=
  orient_agree hv hO hO' hc ⟨hi, by omega⟩ (by rw [hU i hi, hU' i hi])

theorem writhe_of_signs (l : Link) (s : List Sign) (h : crossingSigns l = .ok s) :
    signedCrossingNums l = .ok (s.count .pos, s.count .neg) ∧ writhe l = .ok (writheOf s) := by
  constructor
  · simp only [signedCrossingNums, h, Res.bind_ok, Res.pure_eq]
  · simp only [writhe, signedCrossingNums, h, Res.bind_ok, Res.pure_eq, writheOf]

end Yuiv.C18
