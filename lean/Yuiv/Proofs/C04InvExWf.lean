import Yuiv.Proofs.C04InvEx
/- what the non-vacuity `example`s of C04Inv, C04Reid and C18Bridge need of `trefoil` and `hopf` (`Proofs/C04InvEx.lean`):
well-formed, labels `1 … 6`, the rotated crossing list -/
namespace Yuiv.C04Inv
open Yuiv.KhRef

theorem wf_trefoil : WF trefoil := by
  unfold WF
  decide

theorem wf_hopf : WF hopf := by
  unfold WF
  decide

theorem trefoil_label_bounds {a : Nat} (ha : a ∈ labelSet trefoil) : 1 ≤ a ∧ a ≤ 6 := by
  obtain ⟨c, hc, hac⟩ := ha
  exact (by decide : ∀ c ∈ trefoil, ∀ a ∈ c.e, 1 ≤ a ∧ a ≤ 6) c hc a hac

/-- a label above `6` is fresh for the trefoil -/
theorem trefoil_fresh {a : Nat} (ha : 6 < a) : a ∉ labelSet trefoil :=
  fun h => Nat.not_le_of_gt ha (trefoil_label_bounds h).2

/-- the trefoil with its crossings rotated (3rd, 1st, 2nd) -/
theorem trefoil_rot_perm :
    (#[⟨.X, #[5, 2, 6, 3]⟩, ⟨.X, #[1, 4, 2, 5]⟩, ⟨.X, #[3, 6, 4, 1]⟩] : Link).toList.Perm trefoil.toList :=
  (List.Perm.swap _ _ _).trans (List.Perm.cons _ (List.Perm.swap _ _ _))

end Yuiv.C04Inv
