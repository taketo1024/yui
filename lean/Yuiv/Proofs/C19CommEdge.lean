import Yuiv.Proofs.C19CommBits
import Yuiv.Proofs.C19Inv
/-
C19Comm — ONE EDGE of the cube, abstractly: two vertices with circle lists `cs` (source) and `cs'` (target), their images
`ds`, `ds'` under the involution, and the circle correspondences `m : cs → ds`, `m' : cs' → ds'` (mutually inverse
bijections with `mi`, `mi'`) that respect EQUALITY OF CIRCLES across the edge (`Sit.corr`).  Then the edge map (merge /
split / undefined) of `ds → ds'` applied to the τ-image of a labelling is the τ-image of the edge map of `cs → cs'`,
as a list of terms up to a permutation (the order of the two born circles of a split may be exchanged).
-/
namespace Yuiv.C19Comm
open Yuiv.KhRef Yuiv.C06Cycle Yuiv.C19Inv

structure Sit (cs cs' ds ds' : Array (Array Nat)) (m m' mi mi' : Array Nat) : Prop where
  szd : ds.size = cs.size
  szd' : ds'.size = cs'.size
  szm : m.size = cs.size
  szm' : m'.size = cs'.size
  bij : ∀ i < cs.size, m[i]! < cs.size ∧ mi[m[i]!]! = i
  bijI : ∀ i < cs.size, mi[i]! < cs.size ∧ m[mi[i]!]! = i
  bij' : ∀ j < cs'.size, m'[j]! < cs'.size ∧ mi'[m'[j]!]! = j
  bijI' : ∀ j < cs'.size, mi'[j]! < cs'.size ∧ m'[mi'[j]!]! = j
  inj : ArrInj cs
  inj' : ArrInj cs'
  injd : ArrInj ds
  injd' : ArrInj ds'
  le64 : cs'.size ≤ 64
  corr : ∀ i < cs.size, ∀ j < cs'.size, (cs[i]! = cs'[j]! ↔ ds[m[i]!]! = ds'[m'[j]!]!)

variable {cs cs' ds ds' : Array (Array Nat)} {m m' mi mi' : Array Nat}

theorem mem_goneOf (cs cs' : Array (Array Nat)) (i : Nat) :
    i ∈ (goneOf cs cs').toList ↔ i < cs.size ∧ ¬ ∃ j, j < cs'.size ∧ cs'[j]! = cs[i]! := by
  unfold goneOf
  rw [Array.toList_filter, Array.toList_range, List.mem_filter, List.mem_range, ← contains_iff_idx]
  simp

theorem mem_bornOf (cs cs' : Array (Array Nat)) (j : Nat) :
    j ∈ (bornOf cs cs').toList ↔ j < cs'.size ∧ ¬ ∃ i, i < cs.size ∧ cs[i]! = cs'[j]! :=
  mem_goneOf cs' cs j

theorem nodup_goneOf (cs cs' : Array (Array Nat)) : (goneOf cs cs').toList.Nodup := by
  unfold goneOf
  rw [Array.toList_filter, Array.toList_range]
  exact List.nodup_range.filter _

theorem nodup_bornOf (cs cs' : Array (Array Nat)) : (bornOf cs cs').toList.Nodup :=
  nodup_goneOf cs' cs

/-- stated over the fields of `Sit` it needs, which are symmetric in the two ends of the edge: the circles that are born are
those that disappear along the reversed edge (`bornOf cs cs' = goneOf cs' cs`), so `born_perm` is the same lemma -/
theorem goneOf_perm (szd : ds.size = cs.size) (szd' : ds'.size = cs'.size)
    (bij : ∀ i < cs.size, m[i]! < cs.size ∧ mi[m[i]!]! = i) (bijI : ∀ i < cs.size, mi[i]! < cs.size ∧ m[mi[i]!]! = i)
    (bij' : ∀ j < cs'.size, m'[j]! < cs'.size ∧ mi'[m'[j]!]! = j)
    (bijI' : ∀ j < cs'.size, mi'[j]! < cs'.size ∧ m'[mi'[j]!]! = j)
    (corr : ∀ i < cs.size, ∀ j < cs'.size, (cs[i]! = cs'[j]! ↔ ds[m[i]!]! = ds'[m'[j]!]!)) :
    (goneOf ds ds').toList.Perm ((goneOf cs cs').toList.map (fun i => m[i]!)) := by
  apply (List.perm_ext_iff_of_nodup (nodup_goneOf _ _) _).2
  · intro a
    rw [mem_goneOf, List.mem_map, szd, szd']
    constructor
    · rintro ⟨ha, hn⟩
      refine ⟨mi[a]!, (mem_goneOf _ _ _).2 ⟨(bijI a ha).1, ?_⟩, (bijI a ha).2⟩
      rintro ⟨j, hj, e⟩
      apply hn
      refine ⟨m'[j]!, (bij' j hj).1, ?_⟩
      have := (corr _ (bijI a ha).1 j hj).1 e.symm
      rw [(bijI a ha).2] at this
      exact this.symm
    · rintro ⟨i, hi, rfl⟩
      obtain ⟨hi1, hi2⟩ := (mem_goneOf _ _ _).1 hi
      refine ⟨(bij i hi1).1, ?_⟩
      rintro ⟨j', hj', e⟩
      apply hi2
      refine ⟨mi'[j']!, (bijI' j' hj').1, ?_⟩
      apply Eq.symm
      apply (corr i hi1 _ (bijI' j' hj').1).2
      rw [(bijI' j' hj').2]
      exact e.symm
  · apply List.Nodup.map_on _ (nodup_goneOf _ _)
    intro a ha b hb e
    have ha1 := ((mem_goneOf _ _ _).1 ha).1
    have hb1 := ((mem_goneOf _ _ _).1 hb).1
    rw [← (bij a ha1).2, ← (bij b hb1).2, e]

theorem gone_perm (S : Sit cs cs' ds ds' m m' mi mi') :
    (goneOf ds ds').toList.Perm ((goneOf cs cs').toList.map (fun i => m[i]!)) :=
  goneOf_perm S.szd S.szd' S.bij S.bijI S.bij' S.bijI' S.corr

theorem born_perm (S : Sit cs cs' ds ds' m m' mi mi') :
    (bornOf ds ds').toList.Perm ((bornOf cs cs').toList.map (fun j => m'[j]!)) :=
  goneOf_perm S.szd' S.szd S.bij' S.bijI' S.bij S.bijI
    (fun j hj i hi => by rw [eq_comm, S.corr i hi j hj, eq_comm])

theorem tauMask_bit (S : Sit cs cs' ds ds' m m' mi mi') (x j : Nat) :
    (tauMask m x).testBit j = (decide (j < cs.size) && x.testBit (mi[j]!)) :=
  tauMask_bit_of_inverse m mi cs.size x j S.szm S.bijI S.bij

theorem tauMask_bit' (S : Sit cs cs' ds ds' m m' mi mi') (x j : Nat) :
    (tauMask m' x).testBit j = (decide (j < cs'.size) && x.testBit (mi'[j]!)) :=
  tauMask_bit_of_inverse m' mi' cs'.size x j S.szm' S.bijI' S.bij'

theorem tauMask'_lt (S : Sit cs cs' ds ds' m m' mi mi') (x : Nat) : tauMask m' x < 2 ^ 64 :=
  Nat.lt_of_lt_of_le (BitsVia.lt (tauMask_bit' S x)) (Nat.pow_le_pow_right (by omega) S.le64)

theorem tauMask_setBit (S : Sit cs cs' ds ds' m m' mi mi') (M j : Nat) (y : Bool) (hM : M < 2 ^ 64)
    (hj : j < cs'.size) : tauMask m' (setBit M j y) = setBit (tauMask m' M) (m'[j]!) y := by
  have h64 := S.le64
  apply Nat.eq_of_testBit_eq
  intro a
  rw [tauMask_bit' S, KhRef.testBit_setBit _ _ _ _ (tauMask'_lt S M) (by have := (S.bij' j hj).1; omega),
    KhRef.testBit_setBit _ _ _ _ hM (by omega), tauMask_bit' S]
  by_cases ha : a < cs'.size
  · simp only [ha, decide_true, Bool.true_and]
    by_cases e : a = m'[j]!
    · subst e
      simp [(S.bij' j hj).2]
    · have : ¬ mi'[a]! = j := by
        intro e'
        apply e
        rw [← e', (S.bijI' a ha).2]
      simp [e, this]
  · have : ¬ a = m'[j]! := by
      intro e
      have := (S.bij' j hj).1
      omega
    simp [ha, this]

theorem tauMask_carry (S : Sit cs cs' ds ds' m m' mi mi') (x : Nat) :
    tauMask m' (carry cs cs' x) = carry ds ds' (tauMask m x) := by
  apply Nat.eq_of_testBit_eq
  intro a
  rw [Bool.eq_iff_iff, carry_testBit ds ds' _ a S.injd S.injd' (by rw [S.szd']; exact S.le64), tauMask_bit' S,
    S.szd, S.szd']
  simp only [Bool.and_eq_true, decide_eq_true_eq]
  rw [carry_testBit cs cs' x _ S.inj S.inj' S.le64]
  constructor
  · rintro ⟨ha, _, i, hi, e, hx⟩
    refine ⟨ha, m[i]!, (S.bij i hi).1, ?_, ?_⟩
    · have := (S.corr i hi _ (S.bijI' a ha).1).1 e
      rw [(S.bijI' a ha).2] at this
      exact this
    · rw [tauMask_bit S, (S.bij i hi).2]
      simp [(S.bij i hi).1, hx]
  · rintro ⟨ha, i', hi', e, hx⟩
    rw [tauMask_bit S] at hx
    simp only [Bool.and_eq_true, decide_eq_true_eq] at hx
    refine ⟨ha, (S.bijI' a ha).1, mi[i']!, (S.bijI i' hi').1, ?_, hx.2⟩
    apply (S.corr _ (S.bijI i' hi').1 _ (S.bijI' a ha).1).2
    rw [(S.bijI i' hi').2, (S.bijI' a ha).2]
    exact e

/-- the mask-level edge map `C02Mirror.edgeTerms` in the vocabulary of `Proofs/C06CycleDefs` (`goneOf`, `bornOf`, `carry`) -/
theorem edgeTerms_unfold (h t : Int) (cs cs' : Array (Array Nat)) (x : Nat) :
    C02Mirror.edgeTerms h t cs cs' x =
      if (goneOf cs cs').size == 2 && (bornOf cs cs').size == 1 then
        some ((prod h t (x.testBit (goneOf cs cs')[0]!) (x.testBit (goneOf cs cs')[1]!)).filterMap (fun (ya : Bool × Int) =>
          if ya.2 != 0 then some (setBit (carry cs cs' x) (bornOf cs cs')[0]! ya.1, ya.2) else none))
      else if (goneOf cs cs').size == 1 && (bornOf cs cs').size == 2 then
        some ((coprod h t (x.testBit (goneOf cs cs')[0]!)).filterMap (fun (yya : Bool × Bool × Int) =>
          if yya.2.2 != 0 then
            some (setBit (setBit (carry cs cs' x) (bornOf cs cs')[0]! yya.1) (bornOf cs cs')[1]! yya.2.1, yya.2.2) else none))
      else none := by
  rw [C02Mirror.carry_bridge]
  rfl

theorem prod_comm (h t : Int) (a b : Bool) : prod h t a b = prod h t b a := by
  cases a <;> cases b <;> rfl

theorem setBit_comm (M p q : Nat) (u v : Bool) (hM : M < 2 ^ 64) (hp : p < 64) (hq : q < 64) (hne : p ≠ q) :
    setBit (setBit M p u) q v = setBit (setBit M q v) p u := by
  apply Nat.eq_of_testBit_eq
  intro a
  rw [KhRef.testBit_setBit _ _ _ _ (KhRef.setBit_lt _ _ _ hM hp) hq, KhRef.testBit_setBit _ _ _ _ hM hp,
    KhRef.testBit_setBit _ _ _ _ (KhRef.setBit_lt _ _ _ hM hq) hp, KhRef.testBit_setBit _ _ _ _ hM hq]
  by_cases h1 : a = q
  · subst h1
    have : ¬ a = p := fun e => hne e.symm
    simp [this]
  · simp [h1]

theorem coprod_swap_perm {α : Type} (h t : Int) (b : Bool) (G : Bool → Bool → α) :
    ((coprod h t b).filterMap (fun (yya : Bool × Bool × Int) =>
      if yya.2.2 != 0 then some (G yya.2.1 yya.1, yya.2.2) else none)).Perm
    ((coprod h t b).filterMap (fun (yya : Bool × Bool × Int) =>
      if yya.2.2 != 0 then some (G yya.1 yya.2.1, yya.2.2) else none)) := by
  cases b
  · simp only [coprod, List.filterMap_cons]
    have : ((1 : Int) != 0) = true := by decide
    simp only [this, if_true]
    exact List.Perm.swap _ _ _
  · exact List.Perm.refl _

theorem edgeCore_tau (S : Sit cs cs' ds ds' m m' mi mi') (p : Params) (x : Nat) :
    Option.Rel (fun ts ts' => (ts.map (fun mt => (tauMask m' mt.1, mt.2))).Perm ts')
      (C02Mirror.edgeTerms p.h p.t cs cs' x) (C02Mirror.edgeTerms p.h p.t ds ds' (tauMask m x)) := by
  have hg := gone_perm S
  have hb := born_perm S
  have hgl : (goneOf ds ds').size = (goneOf cs cs').size := by
    have := hg.length_eq; simpa using this
  have hbl : (bornOf ds ds').size = (bornOf cs cs').size := by
    have := hb.length_eq; simpa using this
  have hc64 := carry_lt cs cs' x S.inj S.le64
  have h64 := S.le64
  have xbit : ∀ i, i < cs.size → (tauMask m x).testBit (m[i]!) = x.testBit i := by
    intro i hi
    rw [tauMask_bit S, (S.bij i hi).2]
    simp [(S.bij i hi).1]
  rw [edgeTerms_unfold, edgeTerms_unfold]
  simp only [hgl, hbl]
  by_cases h1 : ((goneOf cs cs').size == 2 && (bornOf cs cs').size == 1) = true
  · simp only [h1, if_true]
    simp only [Bool.and_eq_true, beq_iff_eq] at h1
    obtain ⟨hg2, hb1⟩ := h1
    refine Option.Rel.some ?_
    rw [KhRef.toList_of_size_two _ hg2, KhRef.toList_of_size_two _ (hgl.trans hg2)] at hg
    rw [KhRef.toList_of_size_one _ hb1, KhRef.toList_of_size_one _ (hbl.trans hb1)] at hb
    have hb0 : (bornOf ds ds')[0]! = m'[(bornOf cs cs')[0]!]! := by
      have := List.perm_singleton.1 hb; simpa using this
    have hj0 : (bornOf cs cs')[0]! < cs'.size :=
      ((mem_bornOf cs cs' _).1 (by rw [KhRef.toList_of_size_one _ hb1]; simp)).1
    have hi0 : (goneOf cs cs')[0]! < cs.size :=
      ((mem_goneOf cs cs' _).1 (by rw [KhRef.toList_of_size_two _ hg2]; simp)).1
    have hi1 : (goneOf cs cs')[1]! < cs.size :=
      ((mem_goneOf cs cs' _).1 (by rw [KhRef.toList_of_size_two _ hg2]; simp)).1
    have hprod : prod p.h p.t ((tauMask m x).testBit (goneOf ds ds')[0]!) ((tauMask m x).testBit (goneOf ds ds')[1]!) =
        prod p.h p.t (x.testBit (goneOf cs cs')[0]!) (x.testBit (goneOf cs cs')[1]!) := by
      rcases List.perm_pair.1 hg with e | e
      · simp only [List.cons.injEq, and_true] at e
        rw [e.1, e.2, xbit _ hi0, xbit _ hi1]
      · simp only [List.cons.injEq, and_true] at e
        rw [e.1, e.2, xbit _ hi0, xbit _ hi1, prod_comm]
    rw [hprod, List.map_filterMap]
    apply List.Perm.of_eq
    apply List.filterMap_congr
    intro ya _
    by_cases hy : (ya.2 != 0) = true
    · simp only [hy, if_true, Option.map_some, hb0]
      rw [tauMask_setBit S _ _ _ hc64 hj0, tauMask_carry S]
    · simp [hy]
  · simp only [h1, Bool.false_eq_true, if_false]
    by_cases h2 : ((goneOf cs cs').size == 1 && (bornOf cs cs').size == 2) = true
    · simp only [h2, if_true]
      simp only [Bool.and_eq_true, beq_iff_eq] at h2
      obtain ⟨hg1, hb2⟩ := h2
      refine Option.Rel.some ?_
      rw [KhRef.toList_of_size_one _ hg1, KhRef.toList_of_size_one _ (hgl.trans hg1)] at hg
      rw [KhRef.toList_of_size_two _ hb2, KhRef.toList_of_size_two _ (hbl.trans hb2)] at hb
      have hg0 : (goneOf ds ds')[0]! = m[(goneOf cs cs')[0]!]! := by
        have := List.perm_singleton.1 hg; simpa using this
      have hi0 : (goneOf cs cs')[0]! < cs.size :=
        ((mem_goneOf cs cs' _).1 (by rw [KhRef.toList_of_size_one _ hg1]; simp)).1
      have hj0 : (bornOf cs cs')[0]! < cs'.size :=
        ((mem_bornOf cs cs' _).1 (by rw [KhRef.toList_of_size_two _ hb2]; simp)).1
      have hj1 : (bornOf cs cs')[1]! < cs'.size :=
        ((mem_bornOf cs cs' _).1 (by rw [KhRef.toList_of_size_two _ hb2]; simp)).1
      have hne : (bornOf cs cs')[0]! ≠ (bornOf cs cs')[1]! := by
        have := nodup_bornOf cs cs'
        rw [KhRef.toList_of_size_two _ hb2] at this
        simpa using this
      rw [hg0, xbit _ hi0]
      have hT : ∀ y1 y2, tauMask m' (setBit (setBit (carry cs cs' x) (bornOf cs cs')[0]! y1) (bornOf cs cs')[1]! y2) =
          setBit (setBit (carry ds ds' (tauMask m x)) (m'[(bornOf cs cs')[0]!]!) y1) (m'[(bornOf cs cs')[1]!]!) y2 := by
        intro y1 y2
        rw [tauMask_setBit S _ _ _ (KhRef.setBit_lt _ _ _ hc64 (by omega)) hj1, tauMask_setBit S _ _ _ hc64 hj0,
          tauMask_carry S]
      rcases List.perm_pair.1 hb with e | e
      · simp only [List.cons.injEq, and_true] at e
        rw [e.1, e.2, List.map_filterMap]
        apply List.Perm.of_eq
        apply List.filterMap_congr
        intro yya _
        by_cases hy : (yya.2.2 != 0) = true
        · simp only [hy, if_true, Option.map_some]
          rw [hT]
        · simp [hy]
      · simp only [List.cons.injEq, and_true] at e
        rw [e.1, e.2, List.map_filterMap]
        have hmne : m'[(bornOf cs cs')[1]!]! ≠ m'[(bornOf cs cs')[0]!]! := by
          intro e'
          apply hne
          rw [← (S.bij' _ hj0).2, ← (S.bij' _ hj1).2, e']
        have hm0 := (S.bij' _ hj0).1
        have hm1 := (S.bij' _ hj1).1
        have hcd64 : carry ds ds' (tauMask m x) < 2 ^ 64 := by rw [← tauMask_carry S]; exact tauMask'_lt S _
        refine List.Perm.trans (List.Perm.of_eq ?_) (coprod_swap_perm p.h p.t _ (fun u v =>
          setBit (setBit (carry ds ds' (tauMask m x)) (m'[(bornOf cs cs')[1]!]!) u) (m'[(bornOf cs cs')[0]!]!) v))
        apply List.filterMap_congr
        intro yya _
        by_cases hy : (yya.2.2 != 0) = true
        · simp only [hy, if_true, Option.map_some]
          rw [hT, setBit_comm _ _ _ _ _ hcd64 (by omega) (by omega) hmne.symm]
        · simp [hy]
    · simp only [h2, Bool.false_eq_true, if_false]
      exact Option.Rel.none

end Yuiv.C19Comm
